import DFV.Model.Field
/-!
C11 model (core Lean only).

(a) k-mesh geometry over `Rat`: `scipy.fft.fftfreq` / `rfftfreq`, `Mesh.fftn`, `Mesh.ifftn`
    (discretisedfield/mesh.py), following the control flow of the Python.
(b) The transforms of `Field.fftn / ifftn / rfftn / irfftn` (discretisedfield/field.py) over an
    arbitrary type `R` carrying `0 1 + *`: `scipy.fft.fftn` & co. are modelled by their
    documented contract (the n-dimensional DFT as a nested sum with a root-of-unity parameter
    per axis), `fftshift / ifftshift` as index rotations, `_fftn` (labels, mapping, constructor
    checks) as code.  The hypotheses on the roots (ω^n = 1, orthogonality, …) are NOT part of
    the model; they are explicit hypotheses of the theorems (`DFV/Lemmas/C11Root.lean`).
    The driver instantiates `R` with formal rational combinations of root-of-unity monomials
    (`Poly`, end of this file).
-/
namespace DFV.C11
open DFV

/-! ## (a) frequencies and k-mesh geometry -/

/-- entry `j` of `fftfreq(n, d)`: `[0, 1, …, N-1, -(n//2), …, -1] * (1/(n·d))`, `N = (n-1)//2 + 1` -/
def fftfreqAt (n : Nat) (d : Rat) (j : Nat) : Rat :=
  if j < (n - 1) / 2 + 1 then (j : Rat) * (1 / ((n : Rat) * d))
  else ((j : Rat) - (n : Rat)) * (1 / ((n : Rat) * d))

/-- `scipy.fft.fftfreq(n, d)` -/
def fftfreq (n : Nat) (d : Rat) : List Rat := tab n (fftfreqAt n d)

/-- `scipy.fft.rfftfreq(n, d)`: `[0, 1, …, n//2] * (1/(n·d))` -/
def rfftfreq (n : Nat) (d : Rat) : List Rat := tab (n / 2 + 1) fun j => (j : Rat) * (1 / ((n : Rat) * d))

/-- `np.fft.fftshift` of a 1-d list: `roll` by `n // 2` -/
def fftshiftL (xs : List Rat) : List Rat :=
  tab xs.length fun j => xs.getD ((j + (xs.length - xs.length / 2)) % xs.length) 0

/-- `abs(freqs[1] - freqs[0]) / 2` -/
def dfreq (fr : List Rat) : Rat := absR (fr.getD 1 0 - fr.getD 0 0) / 2

/-- the frequency list `Mesh.fftn` uses for axis `i` (axes with more than one cell) -/
def kFreqs (m : Mesh) (rfft : Bool) (i : Nat) : List Rat :=
  if rfft && (i == m.ndim - 1) then rfftfreq (m.nAt i) (m.cellAt i) else fftfreq (m.nAt i) (m.cellAt i)

def kP1 (m : Mesh) (rfft : Bool) (i : Nat) : Rat :=
  if m.nAt i = 1 then -(1 / 2) / m.cellAt i
  else listMin (kFreqs m rfft i) - dfreq (kFreqs m rfft i)

def kP2 (m : Mesh) (rfft : Bool) (i : Nat) : Rat :=
  if m.nAt i = 1 then (1 / 2) / m.cellAt i
  else listMax (kFreqs m rfft i) + dfreq (kFreqs m rfft i)

def kN (m : Mesh) (rfft : Bool) (i : Nat) : Nat :=
  if m.nAt i = 1 then 1 else (kFreqs m rfft i).length

def kDim (d : String) : String := "k_" ++ d
def kUnit (u : String) : String := "(" ++ u ++ ")$^{-1}$"

/-- `Mesh.fftn(rfft)`: per axis frequency list with half-spacing margins, single-cell axes
centred at 0, reciprocal names and units, `Region(...)`, `Mesh(region, n)` (no bc, no
subregions). -/
def meshFftn (m : Mesh) (rfft : Bool) : M Mesh :=
  match Region.mk? (tab m.ndim (kP1 m rfft)) (tab m.ndim (kP2 m rfft))
      (some (m.region.dims.map kDim)) (some (m.region.units.map kUnit)) m.region.tol with
  | .error e => .error e
  | .ok r => Mesh.mkN? r (tab m.ndim (kN m rfft))

/-- `s[len(p):] if s.startswith(p) else s` -/
def stripPre (p s : String) : String :=
  if p.toList.isPrefixOf s.toList then String.ofList (s.toList.drop p.toList.length) else s

/-- `u[1:-8] if u.startswith("(") and u.endswith(")$^{-1}$") else u` -/
def stripUnit (u : String) : String :=
  if "(".toList.isPrefixOf u.toList && ")$^{-1}$".toList.isSuffixOf u.toList
  then String.ofList ((u.toList.drop 1).take (u.toList.length - 1 - 8)) else u

/-- the `shape` argument handling of `Mesh.ifftn`: length, leading entries, last entry
`s // 2 + 1 = n_last`; default = `n` with the last entry `(n_last - 1)·2` for the real
transform unless `n_last = 1`. -/
def ifftShape (m : Mesh) (rfft : Bool) : Option (List Nat) → M (List Nat)
  | some s =>
    if s.length ≠ m.ndim then .error .value
    else if !allLt (m.ndim - 1) (fun a => s.getD a 0 == m.nAt a) then .error .value
    else if s.getD (m.ndim - 1) 0 / 2 + 1 ≠ m.nAt (m.ndim - 1) then .error .value
    else .ok s
  | none =>
    .ok (if rfft && (m.nAt (m.ndim - 1) != 1) then setAt m.n (m.ndim - 1) ((m.nAt (m.ndim - 1) - 1) * 2)
         else m.n)

def rP1 (m : Mesh) (s : List Nat) (i : Nat) : Rat :=
  if s.getD i 0 = 1 then 0
  else listMin (fftfreq (s.getD i 0) (m.cellAt i)) - dfreq (fftfreq (s.getD i 0) (m.cellAt i))

def rP2 (m : Mesh) (s : List Nat) (i : Nat) : Rat :=
  if s.getD i 0 = 1 then 1 / m.cellAt i
  else listMax (fftfreq (s.getD i 0) (m.cellAt i)) + dfreq (fftfreq (s.getD i 0) (m.cellAt i))

def rN (s : List Nat) (i : Nat) : Nat :=
  if s.getD i 0 = 1 then 1 else (fftfreq (s.getD i 0) 1).length

/-- in-place translation by `-center` -/
def recentre (m : Mesh) : Mesh :=
  { m with region := { m.region with
      pmin := tab m.ndim fun a => m.region.lo a + -((m.region.lo a + m.region.hi a) / 2),
      pmax := tab m.ndim fun a => m.region.hi a + -((m.region.lo a + m.region.hi a) / 2) } }

/-- `Mesh.ifftn(rfft, shape)` -/
def meshIfftn (m : Mesh) (rfft : Bool) (shape : Option (List Nat)) : M Mesh :=
  match ifftShape m rfft shape with
  | .error e => .error e
  | .ok s =>
    if s.any (· = 0) then .error .value   -- fftfreq(0, ·) raises
    else
      match Region.mk? (tab m.ndim (rP1 m s)) (tab m.ndim (rP2 m s))
          (some (m.region.dims.map (stripPre "k_"))) (some (m.region.units.map stripUnit)) m.region.tol with
      | .error e => .error e
      | .ok r =>
        match Mesh.mkN? r (tab m.ndim (rN s)) with
        | .error e => .error e
        | .ok k => .ok (recentre k)

/-! ## (b) the transforms -/

section ring
variable {R : Type} [Zero R] [One R] [Add R] [Mul R]

/-- `f 0 + f 1 + … + f (n-1)` -/
def sumN : Nat → (Nat → R) → R
  | 0, _ => 0
  | n + 1, f => sumN n f + f n

/-- `x^k` -/
def powN (x : R) : Nat → R
  | 0 => 1
  | k + 1 => powN x k * x

/-- per-axis parameters: `w` stands for `exp(-2πi/n)`, `wi` for its inverse, `ninv` for `1/n` -/
structure Root (R : Type) where
  w : R
  wi : R
  ninv : R

/-- the twiddle factor `w^(m·r)`, exponent reduced mod `n` -/
def tw (w : R) (n m r : Nat) : R := powN w ((m * r) % n)

/-- contract of `scipy.fft.fftn` over all axes: `A[m] = Σ_r a[r] · Π_a w_a^(m_a·r_a)`,
as nested sums, first axis outermost -/
def dftN : List (Root R) → List Nat → (List Nat → R) → List Nat → R
  | _, [], f, _ => f []
  | ρs, n :: ns, f, m =>
    sumN n fun r => dftN ρs.tail ns (fun rs => f (r :: rs)) m.tail * tw (ρs.headD ⟨1, 1, 1⟩).w n (m.headD 0) r

/-- contract of `scipy.fft.ifftn`: `a[j] = Π(1/n_a) Σ_k A[k] · Π_a w_a^(-j_a·k_a)`; the axes
are inverted one after the other, first axis first -/
def idftN : List (Root R) → List Nat → (List Nat → R) → List Nat → R
  | _, [], F, _ => F []
  | ρs, n :: ns, F, j =>
    idftN ρs.tail ns
      (fun ms => (ρs.headD ⟨1, 1, 1⟩).ninv *
        sumN n fun k => F (k :: ms) * tw (ρs.headD ⟨1, 1, 1⟩).wi n (j.headD 0) k) j.tail

/-- `fftshift` over all axes as a map on indices: entry `j` of the shifted array is entry
`fshift shape j` of the unshifted one (`roll` by `n // 2`) -/
def fshift : List Nat → List Nat → List Nat
  | n :: ns, j :: js => ((j + (n - n / 2)) % n) :: fshift ns js
  | _, _ => []

/-- `ifftshift` over all axes (`roll` by `-(n // 2)`) -/
def ishift : List Nat → List Nat → List Nat
  | n :: ns, j :: js => ((j + n / 2) % n) :: ishift ns js
  | _, _ => []

/-- `fftshift(…, axes=axes[:-1])`: every axis but the last (pointwise) -/
def fshiftR (ns m : List Nat) : List Nat :=
  tab m.length fun a =>
    if a + 1 = m.length then m.getD a 0
    else (m.getD a 0 + (ns.getD a 0 - ns.getD a 0 / 2)) % ns.getD a 0

/-- `ifftshift(…, axes=axes[:-1])` -/
def ishiftR (ns m : List Nat) : List Nat :=
  tab m.length fun a =>
    if a + 1 = m.length then m.getD a 0 else (m.getD a 0 + ns.getD a 0 / 2) % ns.getD a 0

/-- shape of the half spectrum: last entry `n // 2 + 1` -/
def halfShape (ns : List Nat) : List Nat :=
  tab ns.length fun a => if a + 1 = ns.length then ns.getD a 0 / 2 + 1 else ns.getD a 0

/-- index negation mod shape: `(-m) mod n` per axis -/
def negIdx : List Nat → List Nat → List Nat
  | n :: ns, j :: js => ((n - j % n) % n) :: negIdx ns js
  | _, _ => []

/-- the full spectrum a half spectrum `G` stands for (Hermitian extension along the last
axis): `F[k', k] = G[k', k]` for `k ≤ n // 2`, else `conj G[-k', n - k]` -/
def hermExt (conj : R → R) (shape : List Nat) (G : List Nat → R) (k : List Nat) : R :=
  if k.getLastD 0 ≤ shape.getLastD 0 / 2 then G k else conj (G (negIdx shape k))

/-- the cell of the opposite frequency in the coordinates of the half-spectrum ARRAY (leading
axes shifted, last axis not): un-shift, negate mod the output counts `s`, shift back -/
def mirrorR (s m : List Nat) : List Nat := ishiftR s (negIdx s (fshiftR s m))

/-- What pocketfft's `irfftn` (c2r) makes of a half spectrum that is NOT Hermitian-consistent:
after the leading axes are inverted it ignores the imaginary part of the entries with last
index 0 and (even output count) `n/2` — equivalently, the two last-axis planes that are their
own mirror image are replaced by their Hermitian part `(A[m] + conj A[mirror m]) / 2`; every
other entry is used as it is.  `half` stands for `1/2`.  (Numpy's convention, tied to the
library by the correspondence check on arbitrary half spectra.) -/
def symPlanes (conj : R → R) (half : R) (s : List Nat) (A : List Nat → R) (m : List Nat) : R :=
  if m.getLastD 0 = 0 ∨ 2 * m.getLastD 0 = s.getLastD 0 then half * (A m + conj (A (mirrorR s m))) else A m

/-- field with values in `R` (state of a `discretisedfield.Field` with complex data; after a
transform every cell is valid, so validity is not carried) -/
structure CF (R : Type) where
  mesh : Mesh
  nvdim : Nat
  data : NDA (List R)
  vdims : Option (List String)
  vmap : List (String × String)
  unit : Option String

def dictGet (m : List (String × String)) (k : String) : Option String := Fld.lookup m k

/-- `d[k] = v` on an insertion-ordered dict -/
def dictSet : List (String × String) → String → String → List (String × String)
  | [], k, v => [(k, v)]
  | (k', v') :: rest, k, v => if k' == k then (k, v) :: rest else (k', v') :: dictSet rest k v

/-- the mapping loop of `_fftn` -/
def renameMap (vmap : List (String × String)) (fk : String → String) (fv : String → String) :
    List String → List (String × String) → List (String × String)
  | [], acc => acc
  | v :: vs, acc =>
    match dictGet vmap v with
    | some d => renameMap vmap fk fv vs (dictSet acc (fk v) (fv d))
    | none => renameMap vmap fk fv vs acc

/-- Field attribute names the generators avoid are not modelled (`hasattr(self, c)`). -/
def vdimsSetter (nvdim : Nat) : Option (List String) → M (Option (List String))
  | none => .ok (Fld.defaultVdims nvdim)
  | some vs =>
    if vs.length = 0 then .ok none
    else if vs.length ≠ nvdim then .error .value
    else if hasDup vs then .error .value
    else .ok (some vs)

/-- the `vdim_mapping` setter -/
def vmapSetter (nvdim : Nat) (dims : List String) (vdims : Option (List String)) :
    Option (List (String × String)) → M (List (String × String))
  | none =>
    if nvdim = 1 then .ok []
    else if nvdim = dims.length then .ok (List.zip (vdims.getD []) dims)
    else .ok []
  | some mp =>
    if mp.length = 1 && nvdim = 1 && vdims.isNone then .ok []
    else if mp.length > 0 && !((mp.map (·.1)).isPerm (vdims.getD [])) then .error .value
    else .ok mp

/-- `Field(mesh, nvdim, value=array, vdims, unit, vdim_mapping)` for an array value: shape
check, vdims setter, mapping setter -/
def mkCF (mesh : Mesh) (nvdim : Nat) (data : NDA (List R)) (vdims : Option (List String))
    (vmap : Option (List (String × String))) (unit : Option String) : M (CF R) :=
  if nvdim < 1 then .error .value
  else if data.shape ≠ mesh.n then .error .value
  else
    match vdimsSetter nvdim vdims with
    | .error e => .error e
    | .ok vd =>
      match vmapSetter nvdim mesh.region.dims vd vmap with
      | .error e => .error e
      | .ok mp => .ok { mesh := mesh, nvdim := nvdim, data := data, vdims := vd, vmap := mp, unit := unit }

/-- `Field._fftn(mesh, array, ifftn)` -/
def finish (f : CF R) (mesh : Mesh) (data : NDA (List R)) (inverse : Bool) : M (CF R) :=
  match f.vdims with
  | none => mkCF mesh f.nvdim data none none f.unit
  | some vs =>
    if inverse then
      mkCF mesh f.nvdim data (some (vs.map (stripPre "ft_")))
        (some (renameMap f.vmap (stripPre "ft_") (stripPre "k_") vs [])) f.unit
    else
      mkCF mesh f.nvdim data (some (vs.map ("ft_" ++ ·)))
        (some (renameMap f.vmap ("ft_" ++ ·) ("k_" ++ ·) vs [])) f.unit

/-- component `c` of an array of component lists, as a scalar index function -/
def compA (a : NDA (List R)) (c : Nat) (i : List Nat) : R := (a.get i).getD c 0

/-- `fftshift(fftn(array, axes), axes)` for an array of shape `(*n, nvdim)` -/
def fftnArr (ρs : List (Root R)) (nvdim : Nat) (a : NDA (List R)) : NDA (List R) :=
  ⟨a.shape, fun m => tab nvdim fun c => dftN ρs a.shape (compA a c) (fshift a.shape m)⟩

/-- `ifftn(ifftshift(array, axes), axes)` -/
def ifftnArr (ρs : List (Root R)) (nvdim : Nat) (a : NDA (List R)) : NDA (List R) :=
  ⟨a.shape, fun j => tab nvdim fun c => idftN ρs a.shape (fun m => compA a c (ishift a.shape m)) j⟩

/-- `fftshift(rfftn(array, axes), axes[:-1])`; the contract of `rfftn` is the DFT restricted
to the half shape -/
def rfftnArr (ρs : List (Root R)) (nvdim : Nat) (a : NDA (List R)) : NDA (List R) :=
  ⟨halfShape a.shape, fun m => tab nvdim fun c => dftN ρs a.shape (compA a c) (fshiftR a.shape m)⟩

/-- `irfftn(ifftshift(array, axes[:-1]), axes, s)`.  Contract of `irfftn` with output shape
`s`: the inverse DFT of the Hermitian extension of the half spectrum. -/
def irfftnArr (conj : R → R) (ρs : List (Root R)) (nvdim : Nat) (s : List Nat) (a : NDA (List R)) :
    NDA (List R) :=
  ⟨s, fun j => tab nvdim fun c =>
    idftN ρs s (hermExt conj s fun m => compA a c (ishiftR a.shape m)) j⟩

/-- the half-spectrum array with its self-mirror planes replaced by their Hermitian part -/
def symArr (conj : R → R) (half : R) (nvdim : Nat) (s : List Nat) (a : NDA (List R)) : NDA (List R) :=
  ⟨a.shape, fun m => tab nvdim fun c => symPlanes conj half s (compA a c) m⟩

/-- `irfftn(ifftshift(array, axes[:-1]), axes, s)` on ANY half spectrum, as pocketfft computes
it: the inverse DFT of the Hermitian extension of the half spectrum whose self-mirror planes
were replaced by their Hermitian part (`symPlanes`).  On Hermitian-consistent half spectra this
is `irfftnArr` (`Lemmas/C11Arr.lean`). -/
def irfftnArrNP (conj : R → R) (half : R) (ρs : List (Root R)) (nvdim : Nat) (s : List Nat)
    (a : NDA (List R)) : NDA (List R) :=
  irfftnArr conj ρs nvdim s (symArr conj half nvdim s a)

/-- `Field.fftn` on `mesh.fftn()` -/
def fftn (ρs : List (Root R)) (f : CF R) : M (CF R) :=
  match meshFftn f.mesh false with
  | .error e => .error e
  | .ok k => finish f k (fftnArr ρs f.nvdim f.data) false

/-- `Field.ifftn` on `mesh.ifftn()` -/
def ifftn (ρs : List (Root R)) (f : CF R) : M (CF R) :=
  match meshIfftn f.mesh false none with
  | .error e => .error e
  | .ok k => finish f k (ifftnArr ρs f.nvdim f.data) true

/-- `Field.rfftn` on `mesh.fftn(rfft=True)` -/
def rfftn (ρs : List (Root R)) (f : CF R) : M (CF R) :=
  match meshFftn f.mesh true with
  | .error e => .error e
  | .ok k => finish f k (rfftnArr ρs f.nvdim f.data) false

/-- `Field.irfftn(shape)` on `mesh.ifftn(rfft=True, shape)` -/
def irfftn (conj : R → R) (ρs : List (Root R)) (f : CF R) (shape : Option (List Nat)) : M (CF R) :=
  match meshIfftn f.mesh true shape with
  | .error e => .error e
  | .ok k => finish f k (irfftnArr conj ρs f.nvdim k.n f.data) true

/-- `Field.irfftn(shape)` on an arbitrary (not necessarily Hermitian-consistent) half spectrum:
what the library computes (`irfftnArrNP`) -/
def irfftnNP (conj : R → R) (half : R) (ρs : List (Root R)) (f : CF R) (shape : Option (List Nat)) : M (CF R) :=
  match meshIfftn f.mesh true shape with
  | .error e => .error e
  | .ok k => finish f k (irfftnArrNP conj half ρs f.nvdim k.n f.data) true

end ring

/-! ## the driver's instance of `R`: formal combinations of root-of-unity monomials

A term `(e, re, im)` stands for `(re + i·im) · Π_a ζ_a^(e_a)`; the harness substitutes
`ζ_a ↦ exp(-2πi/n_a)` (exponents reduced mod `n_a`).  Sums are concatenations, products
add exponent vectors: no hypothesis on the `ζ_a` is used to *compute* a transform. -/

structure Poly where
  terms : List (List Nat × Rat × Rat)

def addExp : List Nat → List Nat → List Nat
  | [], ys => ys
  | xs, [] => xs
  | x :: xs, y :: ys => (x + y) :: addExp xs ys

instance : Zero Poly := ⟨⟨[]⟩⟩
instance : One Poly := ⟨⟨[([], 1, 0)]⟩⟩
instance : Add Poly := ⟨fun a b => ⟨a.terms ++ b.terms⟩⟩
instance : Mul Poly := ⟨fun a b => ⟨a.terms.flatMap fun t1 => b.terms.map fun t2 =>
  (addExp t1.1 t2.1, t1.2.1 * t2.2.1 - t1.2.2 * t2.2.2, t1.2.1 * t2.2.2 + t1.2.2 * t2.2.1)⟩⟩

namespace Poly

def const (re im : Rat) : Poly := ⟨[([], re, im)]⟩

/-- the constant `1/2` (parameter `half` of `irfftnNP`) -/
def half : Poly := const (1 / 2) 0

/-- the monomial `ζ_a^k` among `d` axes -/
def mono (a k : Nat) : Poly := ⟨[(List.replicate a 0 ++ [k], 1, 0)]⟩

/-- complex conjugation: `ζ_a ↦ ζ_a⁻¹ = ζ_a^(n_a - 1)`, `i ↦ -i` -/
def conj (ns : List Nat) (p : Poly) : Poly :=
  ⟨p.terms.map fun t => (tab ns.length (fun a => (ns.getD a 1 - t.1.getD a 0 % ns.getD a 1) % ns.getD a 1), t.2.1, -t.2.2)⟩

/-- the formal root of axis `a` with `n` samples -/
def root (a n : Nat) : Root Poly := ⟨mono a 1, mono a (n - 1), const (1 / (n : Rat)) 0⟩

def roots (ns : List Nat) : List (Root Poly) := tab ns.length fun a => root a (ns.getD a 1)

/-! ### output form: like monomials collected, exponents reduced mod the counts

This is what the driver prints and the harness evaluates: entry `k` of `dense ns p` is the
coefficient of the monomial whose exponent vector has flat index `k` (C order) in the box
`ns`.  `Lemmas/C11Poly.lean` proves that `Σ_k dense[k] · ζ^(unflat k)` is the value of `p`
whenever `ζ_a^(n_a) = 1`. -/

/-- exponent vector on `ns.length` axes, reduced mod the counts -/
def redExp (ns : List Nat) (e : List Nat) : List Nat := tab ns.length fun a => e.getD a 0 % ns.getD a 1

/-- sum of the coefficients of the terms `(flat index, re, im)` whose flat index is `k` -/
def coefAt (k : Nat) : List (Nat × Rat × Rat) → Rat × Rat
  | [] => (0, 0)
  | t :: ts => if t.1 = k then (t.2.1 + (coefAt k ts).1, t.2.2 + (coefAt k ts).2) else coefAt k ts

def denseOf (N : Nat) (ts : List (Nat × Rat × Rat)) : List (Rat × Rat) := tab N fun k => coefAt k ts

/-- dense table of Gaussian-rational coefficients, one per monomial of the box `ns` -/
def dense (ns : List Nat) (p : Poly) : List (Rat × Rat) :=
  denseOf (natProd ns) (p.terms.map fun t => (flatC ns (redExp ns t.1), t.2.1, t.2.2))

end Poly

end DFV.C11
