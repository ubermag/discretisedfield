import DFV.Model.Field
import DFV.Model.Transform
/-!
C17 model: `Field.to_xarray` / `Field.from_xarray` (discretisedfield/field.py) together with
the constructor chain the importer runs (`Region.__init__`, `Mesh(region=…, cell=…)`, the
`tolerance_factor` setter, `Field.__init__` with `_as_array` (twice: `update_field_values`
and the `array` setter), the `vdims` and `vdim_mapping` setters).

The `xarray.DataArray` is a plain structure: one `Axis` per dimension (name, size, the
dimension coordinate with its optional `units` attribute — a dimension without coordinate
is indexed `0 … size-1` by xarray), the optional `vdims` label coordinate, the data as an
n-dimensional array, the attributes and a dtype tag.  Field values are never computed with
on this code path, only moved, so everything is parametric in the value type `α`: the
theorems hold verbatim for float32/float64/int/complex/bool data, NaNs included.
Geometry is computed in `Rat` where Python computes in binary64.  Core Lean only.

The linear-time forms the driver runs are in `Model/C17Fast.lean` (proved equal to the definitions
here).  Also here: `mkCellNow?` (the `Mesh(region, cell)` constructor with the final `n >= 1` test that
/repo has now), `FieldAttrs` (the attribute names of `Field`, a parameter: the `hasattr` test of
the `vdims` setter), and `MeshOp` / `XFld.run` / `exportAfter` (in-place `field.mesh.translate`
and `field.mesh.scale` calls before the export, through the shared `T.stepM`).
-/
namespace DFV.C17
open DFV

/-- the default `tolerance_factor=1e-12`, as the binary64 number it is -/
def defaultTol : Rat := 4951760157141521/4951760157141521099596496896

/-! ## Field state -/

/-- state of a `discretisedfield.Field`; `data` has shape `(*mesh.n, nvdim)`, `dtype` is the
name of `array.dtype` -/
structure XFld (α : Type) where
  mesh : Mesh
  nvdim : Nat
  data : NDA α
  valid : NDA Bool
  vdims : Option (List String)
  vmap : List (String × String)
  unit : Option String
  dtype : String

/-! ## The DataArray -/

/-- dimension coordinate: values and the optional attribute `units` -/
structure Coord where
  vals : List Rat
  units : Option String
  deriving DecidableEq, Repr, Inhabited

/-- one dimension of a DataArray -/
structure Axis where
  name : String
  size : Nat
  coord : Option Coord
  deriving DecidableEq, Repr, Inhabited

namespace Axis

/-- `xa[name].values`: the coordinate, or `0 … size-1` if none was assigned -/
def values (a : Axis) : List Rat :=
  match a.coord with
  | some c => c.vals
  | none => tab a.size fun j => (j : Rat)

/-- `xa[name].attrs.get("units")` -/
def units (a : Axis) : Option String :=
  match a.coord with
  | some c => c.units
  | none => none

end Axis

/-- the attribute `nvdim`: a Python `int`, or any other number (float, numpy integer, …),
which fails `isinstance(…, int)` -/
inductive NvAttr where
  | int (k : Int)
  | other (q : Rat)
  deriving DecidableEq, Repr, Inhabited

/-- `xa.attrs` (each key present or absent; `units` is only ever written) -/
structure Attrs where
  units : Option String
  cell : Option (List Rat)
  pmin : Option (List Rat)
  pmax : Option (List Rat)
  nvdim : Option NvAttr
  tol : Option Rat
  deriving DecidableEq, Repr, Inhabited

structure XA (α : Type) where
  name : String
  axes : List Axis
  vdimsCoord : Option (List String)
  data : NDA α
  attrs : Attrs
  dtype : String

/-- `xa.dims` -/
def XA.dims {α} (xa : XA α) : List String := xa.axes.map Axis.name

/-! ## Export: `Field.to_xarray(name, unit)` -/

/-- a Python argument that should be a string -/
inductive PyArg where
  | none
  | str (s : String)
  | other
  deriving DecidableEq, Repr, Inhabited

/-- `unit or self.unit` -/
def exportUnit (u : PyArg) (fu : Option String) : Option String :=
  match u with
  | .str s => if s = "" then fu else some s
  | _ => fu

/-- geometric axis `a`: `getattr(self.mesh.cells, axis)` with `attrs["units"]` from the region -/
def exportAxis (m : Mesh) (a : Nat) : Axis :=
  { name := m.region.dims.getD a "", size := m.nAt a,
    coord := some { vals := m.cells.getD a [], units := some (m.region.units.getD a "") } }

/-- dimensions: `axes + ("vdims",)` for vector fields (the label coordinate is separate) -/
def exportAxes {α} (f : XFld α) : List Axis :=
  tab f.mesh.region.dims.length (exportAxis f.mesh) ++
    (if 1 < f.nvdim then [{ name := "vdims", size := f.nvdim, coord := none }] else [])

/-- `self.array`, or `np.squeeze(self.array, axis=-1)` for scalar fields -/
def exportData {α} (f : XFld α) : NDA α :=
  if 1 < f.nvdim then f.data else ⟨f.data.shape.dropLast, fun i => f.data.get (i ++ [0])⟩

def exportAttrs {α} (f : XFld α) (u : PyArg) : Attrs :=
  { units := exportUnit u f.unit, cell := some f.mesh.cell, pmin := some f.mesh.region.pmin,
    pmax := some f.mesh.region.pmax, nvdim := some (.int f.nvdim), tol := some f.mesh.region.tol }

/-- the DataArray `to_xarray` assembles (`xr.DataArray(field_array, dims=…, coords=…, name=…,
attrs=…)`, then the per-axis `units`) -/
def exported {α} (f : XFld α) (nm : String) (unit : PyArg) : XA α :=
  { name := nm, axes := exportAxes f, vdimsCoord := if 1 < f.nvdim then f.vdims else none,
    data := exportData f, attrs := exportAttrs f unit, dtype := f.dtype }

/-- `Field.to_xarray`: both arguments are type-checked first -/
def toXarray {α} (f : XFld α) (name : PyArg := .str "field") (unit : PyArg := .none) : M (XA α) :=
  match name with
  | .str nm => if unit = .other then .error .type else .ok (exported f nm unit)
  | _ => .error .type

/-! ## Import: `Field.from_xarray(xa)` -/

/-- the `nvdim` checks: present, `>= 1`, a Python int, and a `vdims` dimension for vectors -/
def checkNvdim (nv : Option NvAttr) (dims : List String) : M Nat :=
  match nv with
  | none => .error .key
  | some (.other q) => if q < 1 then .error .value else .error .type
  | some (.int k) =>
    if k < 1 then .error .value
    else if 1 < k ∧ ¬ dims.contains "vdims" then .error .value
    else .ok k.toNat

/-- `dims_list`, with the axes they name -/
def geo {α} (xa : XA α) : List Axis := xa.axes.filter fun a => a.name ≠ "vdims"

def sumR : List Rat → Rat
  | [] => 0
  | x :: xs => x + sumR xs

/-- `np.diff(v)` -/
def diffs (v : List Rat) : List Rat := tab (v.length - 1) fun j => v.getD (j + 1) 0 - v.getD j 0

/-- `np.diff(v).mean()` (for at least two values) -/
def meanDiff (v : List Rat) : Rat := sumR (diffs v) / ((v.length - 1 : Nat) : Rat)

/-- `v.size > 1 and not np.allclose(np.diff(v), np.diff(v).mean(), atol=0)` negated: the
coordinate passes the spacing test — purely relative, numpy's default `rtol=1e-5`, no absolute
term: `|d - mean| ≤ 1e-5·|mean|` for every spacing `d` -/
def evenB (v : List Rat) : Bool :=
  decide (v.length ≤ 1) ||
    allLt (v.length - 1) fun j => Region.isclose ((diffs v).getD j 0) (meanDiff v) (1/100000) 0

/-- the loop over `dims_list` raising `ValueError` at the first unevenly spaced coordinate -/
def checkSpacing {α} (xa : XA α) : M Unit :=
  if (geo xa).all fun a => evenB a.values then .ok () else .error .value

/-- `cell`: the attribute, else the mean spacing per axis.  Without the attribute, a length
1 among `xa.values.shape[:-1]` is a `KeyError`; an axis with fewer than two coordinates that
this test misses (the last geometric axis of a scalar field) gives `NaN`, which
`Mesh.__init__` rejects ("values of cell must be positive"). -/
def cellOf {α} (xa : XA α) : M (List Rat) :=
  match xa.attrs.cell with
  | some c => .ok c
  | none =>
    if xa.data.shape.dropLast.any (· == 1) then .error .key
    else if (geo xa).any (fun a => decide (a.values.length ≤ 1)) then .error .value
    else .ok ((geo xa).map fun a => meanDiff a.values)

/-- `xa.attrs["pmin"]`, else `[xa[i].values[0] - c / 2 for i, c in zip(dims_list, cell)]` -/
def p1Of {α} (xa : XA α) (cell : List Rat) : M (List Rat) :=
  match xa.attrs.pmin with
  | some p => .ok p
  | none =>
    if (List.zip (geo xa) cell).any (fun p => p.1.values.isEmpty) then .error .index
    else .ok (List.zipWith (fun a c => a.values.getD 0 0 - c / 2) (geo xa) cell)

/-- `xa.attrs["pmax"]`, else `[xa[i].values[-1] + c / 2 …]` -/
def p2Of {α} (xa : XA α) (cell : List Rat) : M (List Rat) :=
  match xa.attrs.pmax with
  | some p => .ok p
  | none =>
    if (List.zip (geo xa) cell).any (fun p => p.1.values.isEmpty) then .error .index
    else .ok (List.zipWith (fun a c => a.values.getD (a.values.length - 1) 0 + c / 2) (geo xa) cell)

/-- units are taken from the coordinates only if every geometric coordinate has them -/
def unitsOf {α} (xa : XA α) : Option (List String) :=
  if (geo xa).any (fun a => a.units.isNone) then none
  else some ((geo xa).map fun a => a.units.getD "")

/-- `mesh.region.tolerance_factor = xa.attrs["tolerance_factor"]` if present -/
def setTol (m : Mesh) (t : Option Rat) : Mesh :=
  match t with
  | some t => { m with region := { m.region with tol := t } }
  | none => m

/-- `Mesh(region=…, cell=…)` as it is now in /repo: the shared constructor model
(`Mesh.mkCell?`: length, positivity, cell inside the region, 0.1 % divisibility, rounding)
followed by the constructor's last test `np.less(self._n, 1).any()` → `ValueError` (a cell
size that rounds to zero cells; reachable only ≳ 1e12 cells from the origin, where the
tolerant containment test lets a cell larger than the region through).  The shared
`Mesh.mkCell?` has that test itself by now, so this is `Mesh.mkCell? r cell ""`
(`Lemmas/C17Ctor.mkCellNow_eq`). -/
def mkCellNow? (r : Region) (cell : List Rat) : M Mesh :=
  (Mesh.mkCell? r cell "").bind fun m =>
  if m.n.any (fun k => decide (k < 1)) then .error .value else .ok m

/-- region and mesh: `Region(p1, p2, dims=dims_list[, units])`, `Mesh(region, cell=cell)`,
then the tolerance factor -/
def meshOf {α} (xa : XA α) (cell : List Rat) : M Mesh :=
  (p1Of xa cell).bind fun p1 =>
  (p2Of xa cell).bind fun p2 =>
  (Region.mk? p1 p2 (some ((geo xa).map Axis.name)) (unitsOf xa) defaultTol).bind fun r =>
  (mkCellNow? r cell).bind fun m =>
  .ok (setTol m xa.attrs.tol)

/-- numpy broadcasting rule for shape `src` into `tgt` (trailing axes aligned) -/
def bcastOk (src tgt : List Nat) : Bool :=
  decide (src.length ≤ tgt.length) &&
  allLt src.length fun a =>
    src.getD a 0 == 1 || src.getD a 0 == tgt.getD (a + (tgt.length - src.length)) 0

/-- the source index broadcasting reads for target index `i` -/
def bcastIx (src tgt : List Nat) (i : List Nat) : List Nat :=
  tab src.length fun a => if src.getD a 0 = 1 then 0 else i.getD (a + (tgt.length - src.length)) 0

/-- `Field._as_array(val, mesh, nvdim, dtype=val.dtype)` for an array: a mesh-shaped array is
a scalar field (`np.expand_dims`); otherwise the last axis must be `nvdim` and the array is
broadcast by `np.full((*n, nvdim), val)` -/
def asArray {α} (val : NDA α) (n : List Nat) (k : Nat) : M (NDA α) :=
  if k = 1 ∧ val.shape = n then .ok ⟨n ++ [1], fun i => val.get i.dropLast⟩
  else if val.shape.getLast? ≠ some k then .error .value
  else if !bcastOk val.shape (n ++ [k]) then .error .value
  else .ok ⟨n ++ [k], fun i => val.get (bcastIx val.shape (n ++ [k]) i)⟩

/-- `np.expand_dims(xa.values, axis=-1) if nvdim == 1 else xa.values` -/
def valOf {α} (xa : XA α) (k : Nat) : NDA α :=
  if k = 1 then ⟨xa.data.shape ++ [1], fun i => xa.data.get i.dropLast⟩ else xa.data

/-- `hasattr(self, c)` as the `vdims` setter asks it on the object under construction (`_vdims`
is still `None`, so the dynamic component access of `__getattr__` finds nothing): is `c` the
name of a method, property or slot of `Field`?  The set of these names is a parameter of the
model — every theorem holds for whatever attributes the class has; the correspondence run
instantiates it with the answers of the real class. -/
class FieldAttrs where
  has : String → Bool

/-- `vdims` setter on a fresh field: `None` → defaults (unchecked), empty → `None`, else length,
uniqueness, and no label may be the name of an attribute of `Field` -/
def vdimsSet [FieldAttrs] (k : Nat) : Option (List String) → M (Option (List String))
  | none => .ok (Fld.defaultVdims k)
  | some [] => .ok none
  | some (x :: l) =>
    if (x :: l).length ≠ k then .error .value
    else if hasDup (x :: l) then .error .value
    else if (x :: l).any FieldAttrs.has then .error .value
    else .ok (some (x :: l))

/-- `vdim_mapping` setter with `None` -/
def defaultVmap (k : Nat) (dims : List String) (vdims : Option (List String)) : List (String × String) :=
  if k = 1 then []
  else if k = dims.length then
    match vdims with
    | some l => List.zip l dims
    | none => []
  else []

/-- `cls(mesh=mesh, nvdim=nvdim, value=val, vdims=vdims, dtype=xa.values.dtype)`: value
through `_as_array` twice, all cells valid, no unit, default mapping (since repo fix d1932c87 the
`vdim_mapping` setter no longer fails for an unlabelled field with as many components as axes) -/
def fieldOf [FieldAttrs] {α} (xa : XA α) (m : Mesh) (k : Nat) : M (XFld α) :=
  (asArray (valOf xa k) m.n k).bind fun d1 =>
  (asArray d1 m.n k).bind fun d =>
  (vdimsSet k xa.vdimsCoord).bind fun vd =>
  .ok { mesh := m, nvdim := k, data := d, valid := NDA.const m.n true, vdims := vd,
             vmap := defaultVmap k m.region.dims vd, unit := none, dtype := xa.dtype }

/-- `Field.from_xarray` on a DataArray -/
def fromXA [FieldAttrs] {α} (xa : XA α) : M (XFld α) :=
  (checkNvdim xa.attrs.nvdim xa.dims).bind fun k =>
  (checkSpacing xa).bind fun _ =>
  (cellOf xa).bind fun cell =>
  (meshOf xa cell).bind fun m =>
  fieldOf xa m k

/-- the geometry steps alone (spec layer; `Lemmas/C17Import.fromXA_eq`: the importer is the
component-count checks, then these steps, then `fieldOf`) -/
def geometryOf {α} (xa : XA α) : M Mesh :=
  (checkSpacing xa).bind fun _ => (cellOf xa).bind fun cell => meshOf xa cell

/-- what can be passed to `from_xarray` -/
inductive PyObj (α : Type) where
  | dataArray (xa : XA α)
  | other

/-- `Field.from_xarray` -/
def fromXarray [FieldAttrs] {α} : PyObj α → M (XFld α)
  | .other => .error .type
  | .dataArray xa => fromXA xa

/-! ## Attribute removal (what the property calls "lacks the geometric attributes") -/

/-- delete any subset of `cell` / `pmin` / `pmax` -/
def eraseGeom {α} (c p q : Bool) (xa : XA α) : XA α :=
  { xa with attrs := { xa.attrs with
      cell := if c then none else xa.attrs.cell,
      pmin := if p then none else xa.attrs.pmin,
      pmax := if q then none else xa.attrs.pmax } }

/-- multiply every assigned dimension coordinate by `s` (a change of length unit) -/
def scaleCoords {α} (s : Rat) (xa : XA α) : XA α :=
  { xa with axes := xa.axes.map fun ax =>
      { ax with coord := ax.coord.map fun c => { c with vals := c.vals.map (s * ·) } } }

/-- delete `tolerance_factor` -/
def eraseTol {α} (xa : XA α) : XA α := { xa with attrs := { xa.attrs with tol := none } }

/-- delete the `units` attribute of the coordinates of the dimensions selected by `sel` -/
def eraseUnits {α} (sel : String → Bool) (xa : XA α) : XA α :=
  { xa with axes := xa.axes.map fun ax =>
      if sel ax.name then { ax with coord := ax.coord.map fun c => { c with units := none } } else ax }

/-! ## In-place changes of the mesh a field holds (history before the export) -/

/-- the in-place calls on `field.mesh` that keep the cell counts: `field.mesh.translate(v,
inplace=True)` and `field.mesh.scale(factor, reference_point, inplace=True)` (shared model
`T.stepM`: region and subregions are moved, everything is checked before the first assignment) -/
inductive MeshOp where
  | translate (v : List Rat)
  | scale (f : T.Factor) (ref : Option (List Rat))

def MeshOp.toOp : MeshOp → T.Op
  | .translate v => .translate v true
  | .scale f ref => .scale f ref true

/-- one in-place call on the field's mesh; the field object holds the same mesh object, so it
sees the change; a rejected call changes nothing -/
def XFld.meshStep {α} (f : XFld α) (op : MeshOp) : XFld α :=
  match T.stepM f.mesh op.toOp with
  | .ok (m', _) => { f with mesh := m' }
  | .error _ => f

/-- a history of in-place calls -/
def XFld.run {α} (f : XFld α) : List MeshOp → XFld α
  | [] => f
  | op :: ops => (f.meshStep op).run ops

/-- `to_xarray` after a history of in-place changes of the mesh -/
def exportAfter {α} (f : XFld α) (ops : List MeshOp) (name : PyArg := .str "field") (unit : PyArg := .none) : M (XA α) :=
  toXarray (f.run ops) name unit

/-! ## Well-formed fields (what the constructors guarantee) -/

/-- what `Region.__init__`, `Mesh.__init__` and `Field.__init__` guarantee, plus: no spatial
dimension is called `vdims` (the name the exporter reserves for the component axis).  Labels:
as many as components, distinct, none the name of an attribute of `Field` (the setter refuses
those; the default labels `x, y, z, v0, …` are not attributes of `Field` — checked on the real
class by the correspondence run) -/
structure XFld.WF [FieldAttrs] {α} (f : XFld α) : Prop where
  mesh : f.mesh.Inv
  nvdim : 1 ≤ f.nvdim
  shape : f.data.shape = f.mesh.n ++ [f.nvdim]
  novd : ¬ "vdims" ∈ f.mesh.region.dims
  labels : ∀ l, f.vdims = some l → l.length = f.nvdim ∧ hasDup l = false ∧ l.any FieldAttrs.has = false

/-- the label states the exporter can represent: vector fields with labels, scalar fields
without (the label coordinate is written only for `nvdim > 1`) -/
def LabelsStd {α} (f : XFld α) : Prop := (1 < f.nvdim → f.vdims ≠ none) ∧ (f.nvdim = 1 → f.vdims = none)

/-- decidable form, evaluated by the driver on the states of real fields -/
def XFld.wfB [FieldAttrs] {α} (f : XFld α) : Bool :=
  f.mesh.invB && decide (1 ≤ f.nvdim) && decide (f.data.shape = f.mesh.n ++ [f.nvdim]) &&
  !f.mesh.region.dims.contains "vdims" &&
  (match f.vdims with
   | none => true
   | some l => decide (l.length = f.nvdim) && !hasDup l && !l.any FieldAttrs.has)

end DFV.C17
