import DFV.Model.Field
/-!
C04 model: `operators._1d_diff`, `_split_diff_combine`, and `Field.diff` (per line, per
component, wrap padding by one cell for periodic directions).  Core Lean only.
-/
namespace DFV.C04
open DFV

/-- first derivative at position `i` of a run of length `L` (values `f 0 … f (L-1)`),
`np.gradient(…, edge_order=1)` for `L = 2`, `edge_order=2` for `L ≥ 3`, zeros for `L < 2` -/
def d1At (h : Rat) (L : Nat) (f : Nat → Rat) (i : Nat) : Rat :=
  if L < 2 then 0
  else if L = 2 then (f 1 - f 0) / h
  else if i = 0 then (-3 * f 0 + 4 * f 1 - f 2) / (2 * h)
  else if i = L - 1 then (3 * f (L - 1) - 4 * f (L - 2) + f (L - 3)) / (2 * h)
  else (f (i + 1) - f (i - 1)) / (2 * h)

/-- second derivative: `[1,-2,1]` in the interior, FinDiff one-sided stencils at the ends
(4-point for `L ≥ 4`, 3-point for `L = 3`), zeros for `L < 3` -/
def d2At (h : Rat) (L : Nat) (f : Nat → Rat) (i : Nat) : Rat :=
  if L < 3 then 0
  else if L = 3 then (f 0 - 2 * f 1 + f 2) / (h * h)
  else if i = 0 then (2 * f 0 - 5 * f 1 + 4 * f 2 - f 3) / (h * h)
  else if i = L - 1 then (2 * f (L - 1) - 5 * f (L - 2) + 4 * f (L - 3) - f (L - 4)) / (h * h)
  else (f (i + 1) - 2 * f i + f (i - 1)) / (h * h)

def dAt (order : Nat) (h : Rat) (L : Nat) (f : Nat → Rat) (i : Nat) : Rat :=
  if order = 1 then d1At h L f i else d2At h L f i

/-- `_1d_diff(order, array, dx)` -/
def diffRun (order : Nat) (h : Rat) (xs : List Rat) : List Rat :=
  tab xs.length (dAt order h xs.length fun k => xs.getD k 0)

/-- code-shaped `_split_diff_combine`: walk the line collecting the current run (reversed
in `run`); at an invalid cell, or at the end, flush the differentiated run, an invalid
cell contributes 0. -/
def sdcGo (d : List Rat → List Rat) : List (Rat × Bool) → List Rat → List Rat
  | [], run => d run.reverse
  | (x, true) :: rest, run => sdcGo d rest (x :: run)
  | (_, false) :: rest, run => d run.reverse ++ 0 :: sdcGo d rest []

def sdc (d : List Rat → List Rat) (cells : List (Rat × Bool)) : List Rat := sdcGo d cells []

/-- derivative of one open line of (value, valid) cells -/
def diffLine (order : Nat) (h : Rat) (cells : List (Rat × Bool)) : List Rat :=
  sdc (diffRun order h) cells

/-- `np.pad(mode="wrap")` by one cell on both sides, of values and validity alike -/
def wrap1 {α} (xs : List α) : List α :=
  match xs.getLast?, xs.head? with
  | some l, some f => l :: xs ++ [f]
  | _, _ => xs

/-- periodic line: wrap-pad by one cell, differentiate, crop -/
def diffRing (order : Nat) (h : Rat) (cells : List (Rat × Bool)) : List Rat :=
  ((diffLine order h (wrap1 cells)).drop 1).take cells.length

/-- line derivative as `Field.diff` applies it -/
def diffLine' (periodic : Bool) (restrict : Bool) (order : Nat) (h : Rat) (cells : List (Rat × Bool)) :
    List Rat :=
  if periodic then diffRing order h (if restrict then cells else cells.map fun c => (c.1, true))
  else diffLine order h (if restrict then cells else cells.map fun c => (c.1, true))

/-- is the axis named `d` a periodic direction under `bc`, as `Field.diff` decides it (repo fix of
D123): `bc` is not one of the two words and one of its characters is the axis name.  (Before the
fix the test was the bare substring test `d in bc`: an open axis called `n`, `e`, `u`, … counted
as periodic on a `"neumann"` mesh, a multi-character name that is a substring of `bc` too.) -/
def periodicBc (bc d : String) : Bool :=
  !(bc == "neumann" || bc == "dirichlet") && bc.toList.any fun ch => String.singleton ch == d

/-- `Field.diff(direction, order, restrict2valid)`; `ax` = index of the direction,
`periodic` = direction named in `mesh.bc`.  Errors: order ∉ {1,2}. -/
def diff (f : Fld) (ax : Nat) (order : Nat) (restrict : Bool) : M Fld :=
  if order ≠ 1 ∧ order ≠ 2 then .error .notImpl
  else if f.mesh.ndim ≤ ax then .error .value
  else
    .ok { f with
      data := ⟨f.data.shape, fun i =>
        tab f.nvdim fun c =>
          (diffLine' (periodicBc f.mesh.bc (f.mesh.region.dims.getD ax ""))
              restrict order (f.mesh.cellAt ax)
              (tab (f.mesh.nAt ax) fun j => ((f.data.line ax i j).getD c 0, f.valid.line ax i j))).getD
            (i.getD ax 0) 0⟩ }

/-- value at ring position `j` (position folded by `% L`) -/
def ringVal (xs : List Rat) (j : Nat) : Rat := xs.getD (j % xs.length) 0

/-- cyclic shift of a list by `s` -/
def roll (xs : List Rat) (s : Nat) : List Rat := tab xs.length fun j => ringVal xs (j + s)

/-- the cells of the grid line through `i` along `ax`, component `c` -/
def lineCells (f : Fld) (ax : Nat) (i : List Nat) (c : Nat) : List (Rat × Bool) :=
  tab (f.mesh.nAt ax) fun j => ((f.data.line ax i j).getD c 0, f.valid.line ax i j)

/-! ## spec layer: the index-level description of "each maximal run is differentiated on its own" -/

/-- sign a reversal gives the stencil of order `o` -/
def revSign (o : Nat) : Rat := if o = 1 then -1 else 1

/-- number of consecutive valid cells immediately before position `i` -/
def runBefore (v : Nat → Bool) : Nat → Nat
  | 0 => 0
  | i + 1 => if v i then runBefore v i + 1 else 0

/-- number of consecutive valid cells from position `i` on (at most `fuel` of them) -/
def runFromAux (v : Nat → Bool) (i : Nat) : Nat → Nat
  | 0 => 0
  | fuel + 1 => if v i then runFromAux v (i + 1) fuel + 1 else 0

/-- number of consecutive valid cells from position `i` on, in a line of length `L` -/
def runFrom (v : Nat → Bool) (L i : Nat) : Nat := runFromAux v i (L - i)

/-- SPEC of the derivative of an open line with values `x`, validity `v`, length `L` at position
`i`: an invalid cell gives 0; a valid cell gives the run stencil of its own maximal run of valid
cells (which starts `runBefore v i` cells before `i` and has `runBefore v i + runFrom v L i`
cells) at its position inside that run — nothing outside the run is read -/
def diffSpec (order : Nat) (h : Rat) (L : Nat) (x : Nat → Rat) (v : Nat → Bool) (i : Nat) : Rat :=
  if v i then
    dAt order h (runBefore v i + runFrom v L i) (fun k => x (i - runBefore v i + k)) (runBefore v i)
  else 0

/-- is axis `ax` a periodic direction (`periodicBc`: `mesh.bc` is not one of the two words and one of its characters is the
axis name), as `Field.diff` decides it -/
def periodicAx (f : Fld) (ax : Nat) : Bool := periodicBc f.mesh.bc (f.mesh.region.dims.getD ax "")

/-- values and validity of a line of cells as total functions (outside the line: `0`, invalid) -/
def valOf (cells : List (Rat × Bool)) (j : Nat) : Rat := (cells.getD j (0, false)).1
def okOf (cells : List (Rat × Bool)) (j : Nat) : Bool := (cells.getD j (0, false)).2


end DFV.C04
