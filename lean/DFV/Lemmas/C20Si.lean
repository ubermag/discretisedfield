import DFV.Model.C20
import DFV.Lemmas.RatFloor
import DFV.Lemmas.ListOps
import DFV.Lemmas.C01
/-!
The SI prefix table, the multiplier search `si_multiplier`, `max` over optional multipliers, and the
multiplier a plot uses (`_setup_multiplier`): which inputs have one, and what it is.
-/
namespace DFV.C20
open DFV

/-! ## powers of 1000 -/

theorem p1000_eq_zpow (k : Int) : p1000 k = (1000 : Rat) ^ k := by
  unfold p1000
  split
  · rename_i h
    conv_rhs => rw [← Int.toNat_of_nonneg h]
    rw [zpow_natCast]
  · have : k = -((-k).toNat : Int) := by omega
    conv_rhs => rw [this]
    rw [zpow_neg, zpow_natCast, one_div]

theorem p1000_pos (k : Int) : 0 < p1000 k := by
  rw [p1000_eq_zpow]; exact zpow_pos (by norm_num) k

theorem p1000_zero : p1000 0 = 1 := by rw [p1000_eq_zpow, zpow_zero]

theorem p1000_succ (k : Int) : p1000 (k + 1) = 1000 * p1000 k := by
  rw [p1000_eq_zpow, p1000_eq_zpow, zpow_add_one₀ (by norm_num), mul_comm]

theorem p1000_le (j k : Int) (h : j ≤ k) : p1000 j ≤ p1000 k := by
  rw [p1000_eq_zpow, p1000_eq_zpow]; exact zpow_le_zpow_right₀ (by norm_num) h

theorem p1000_lt' (j k : Int) (h : j < k) : p1000 j < p1000 k := by
  rw [p1000_eq_zpow, p1000_eq_zpow]; exact zpow_lt_zpow_right₀ (by norm_num) h

theorem p1000_mul_le (j k : Int) (h : j < k) : 1000 * p1000 j ≤ p1000 k := by
  rw [← p1000_succ]; exact p1000_le _ _ h

/-! ## decades -/

theorem decade_iff (a m : Rat) (hm : 0 < m) : (1 ≤ a / m ∧ a / m < 1000) ↔ (m ≤ a ∧ a < 1000 * m) := by
  rw [le_div_iff₀ hm, div_lt_iff₀ hm, one_mul]

/-- two powers of 1000 that both hold the longest of the same family of lengths (some length
reaches one unit, every length stays below 1000 units) are equal -/
theorem longest_decade_unique (n : Nat) (e : Nat → Rat) (k k' : Int)
    (h1 : ∃ a, a < n ∧ p1000 k ≤ e a) (h2 : ∀ a, a < n → e a < 1000 * p1000 k)
    (h1' : ∃ a, a < n ∧ p1000 k' ≤ e a) (h2' : ∀ a, a < n → e a < 1000 * p1000 k') : k = k' := by
  obtain ⟨a, ha, hka⟩ := h1
  obtain ⟨b, hb, hkb⟩ := h1'
  rcases lt_trichotomy k k' with h | h | h
  · exact absurd (lt_of_lt_of_le (h2 b hb) ((p1000_mul_le k k' h).trans hkb)) (lt_irrefl _)
  · exact h
  · exact absurd (lt_of_lt_of_le (h2' a ha) ((p1000_mul_le k' k h).trans hka)) (lt_irrefl _)

theorem decade_unique (a : Rat) (j k : Int)
    (hj : 1 ≤ a / p1000 j ∧ a / p1000 j < 1000) (hk : 1 ≤ a / p1000 k ∧ a / p1000 k < 1000) :
    j = k := by
  rw [decade_iff a _ (p1000_pos j)] at hj
  rw [decade_iff a _ (p1000_pos k)] at hk
  exact longest_decade_unique 1 (fun _ => a) j k ⟨0, Nat.one_pos, hj.1⟩ (fun _ _ => hj.2)
    ⟨0, Nat.one_pos, hk.1⟩ (fun _ _ => hk.2)

theorem decade_exists (a : Rat) (d : Nat) (h1 : p1000 (-8) ≤ a) (h2 : a < p1000 (-8 + d)) :
    ∃ k : Int, -8 ≤ k ∧ k < -8 + d ∧ p1000 k ≤ a ∧ a < p1000 (k + 1) := by
  induction d with
  | zero => exact absurd (lt_of_lt_of_le h2 (by simpa using h1)) (lt_irrefl _)
  | succ d ih =>
    have e : -8 + ((d + 1 : Nat) : Int) = -8 + (d : Int) + 1 := by push_cast; ring
    by_cases h : a < p1000 (-8 + d)
    · obtain ⟨k, hk1, hk2, hk3⟩ := ih h
      exact ⟨k, hk1, by omega, hk3⟩
    · exact ⟨-8 + d, by omega, by omega, not_lt.mp h, e ▸ h2⟩

/-! ## the table -/

theorem find?_map_some {α β} (l : List α) (p : α → Bool) (g : α → β) (b : β)
    (h : (l.find? p).map g = some b) : ∃ q ∈ l, p q = true ∧ g q = b := by
  obtain ⟨q, hq, hb⟩ := Option.map_eq_some_iff.mp h
  exact ⟨q, List.mem_of_find?_eq_some hq, List.find?_some hq, hb⟩

theorem inDecade_iff (v m : Rat) :
    inDecade v m = true ↔ 1 ≤ absR v / m ∧ absR v / m < 1000 := by
  simp only [inDecade, Bool.and_eq_true, decide_eq_true_eq]

theorem mem_siTable (p : String) (m : Rat) :
    (p, m) ∈ siTable ↔ ∃ k, (p, k) ∈ siExps ∧ m = p1000 k := by
  unfold siTable
  constructor
  · intro h
    obtain ⟨⟨q, k⟩, hq, he⟩ := List.mem_map.mp h
    obtain ⟨rfl, rfl⟩ := Prod.mk.inj he
    exact ⟨k, hq, rfl⟩
  · rintro ⟨k, hk, rfl⟩
    exact List.mem_map.mpr ⟨(p, k), hk, rfl⟩

theorem siExps_exponents : siExps.map Prod.snd = (List.range 17).map fun i : Nat => (i : Int) - 8 := by
  decide

theorem siExps_exp_iff (k : Int) : (∃ p, (p, k) ∈ siExps) ↔ -8 ≤ k ∧ k ≤ 8 := by
  have : (∃ p, (p, k) ∈ siExps) ↔ k ∈ siExps.map Prod.snd := by
    rw [List.mem_map]
    exact ⟨fun ⟨p, h⟩ => ⟨(p, k), h, rfl⟩, fun ⟨⟨p, _⟩, h, e⟩ => ⟨p, e ▸ h⟩⟩
  rw [this, siExps_exponents, List.mem_map]
  constructor
  · rintro ⟨i, hi, rfl⟩
    have := List.mem_range.mp hi
    omega
  · rintro ⟨h1, h2⟩
    exact ⟨(k + 8).toNat, List.mem_range.mpr (by omega), by omega⟩

theorem siExps_sorted : siExps.Pairwise fun a b => a.2 < b.2 ∧ a.1 ≠ b.1 := by decide +kernel

theorem rsiPrefix_table : ∀ p ∈ siExps, rsiPrefix? (p1000 p.2) = some p.1 := by decide +kernel

theorem rsiPrefix_some (m : Rat) (p : String) (h : rsiPrefix? m = some p) : (p, m) ∈ siTable := by
  obtain ⟨⟨p', m'⟩, hq, hm, rfl⟩ := find?_map_some _ _ _ _ h
  rwa [← show m' = m by simpa using hm]

/-- a multiplier with a prefix is a power of 1000, hence positive -/
theorem rsiPrefix_pos (m : Rat) (p : String) (h : rsiPrefix? m = some p) : 0 < m := by
  obtain ⟨k, _, rfl⟩ := (mem_siTable p m).mp (rsiPrefix_some m p h)
  exact p1000_pos k

/-! ## `si_multiplier` -/

theorem siMultiplier_sound (v m : Rat) (hv : v ≠ 0) (h : siMultiplier v = some m) :
    ∃ p k, (p, k) ∈ siExps ∧ m = p1000 k ∧ 1 ≤ absR v / m ∧ absR v / m < 1000 := by
  unfold siMultiplier at h
  rw [if_neg hv] at h
  obtain ⟨⟨p, m'⟩, hq, hd, rfl⟩ := find?_map_some _ _ _ _ h
  obtain ⟨k, hk, hmk⟩ := (mem_siTable p m').mp (List.mem_reverse.mp hq)
  exact ⟨p, k, hk, hmk, (inDecade_iff v m').mp hd⟩

theorem siMultiplier_complete (v : Rat) (hv : v ≠ 0) (p : String) (k : Int) (hk : (p, k) ∈ siExps)
    (hd : 1 ≤ absR v / p1000 k ∧ absR v / p1000 k < 1000) : siMultiplier v = some (p1000 k) := by
  cases hs : siMultiplier v with
  | none =>
    unfold siMultiplier at hs
    rw [if_neg hv, Option.map_eq_none_iff] at hs
    have := List.find?_eq_none.mp hs (p, p1000 k)
      (List.mem_reverse.mpr ((mem_siTable p (p1000 k)).mpr ⟨k, hk, rfl⟩))
    exact absurd ((inDecade_iff v (p1000 k)).mpr hd) this
  | some m =>
    obtain ⟨_, k', _, rfl, hd'⟩ := siMultiplier_sound v m hv hs
    rw [decade_unique (absR v) k' k hd' hd]

/-- `si_multiplier` finds a multiplier for every magnitude in `[1e-24, 1e27)` -/
theorem siMultiplier_total (v : Rat) (hv : v ≠ 0) (h1 : p1000 (-8) ≤ absR v) (h2 : absR v < p1000 9) :
    ∃ p k, (p, k) ∈ siExps ∧ siMultiplier v = some (p1000 k) := by
  obtain ⟨k, hk1, hk2, hk3, hk4⟩ := decade_exists (absR v) 17 h1 h2
  obtain ⟨p, hp⟩ := (siExps_exp_iff k).mpr ⟨hk1, by omega⟩
  rw [p1000_succ] at hk4
  exact ⟨p, k, hp, siMultiplier_complete v hv p k hp ((decade_iff _ _ (p1000_pos k)).mpr ⟨hk3, hk4⟩)⟩

theorem siMultiplier_some_range (v m : Rat) (hv : v ≠ 0) (h : siMultiplier v = some m) :
    p1000 (-8) ≤ absR v ∧ absR v < p1000 9 := by
  obtain ⟨p, k, hk, rfl, hd⟩ := siMultiplier_sound v m hv h
  obtain ⟨k1, k2⟩ := (siExps_exp_iff k).mp ⟨p, hk⟩
  obtain ⟨h1, h2⟩ := (decade_iff _ _ (p1000_pos k)).mp hd
  exact ⟨(p1000_le (-8) k k1).trans h1, lt_of_lt_of_le h2 (p1000_mul_le k 9 (by omega))⟩

theorem siMultiplier_none_of (v : Rat) (hv : v ≠ 0) (h : absR v < p1000 (-8) ∨ p1000 9 ≤ absR v) :
    siMultiplier v = none := by
  cases hs : siMultiplier v with
  | none => rfl
  | some m =>
    obtain ⟨a, b⟩ := siMultiplier_some_range v m hv hs
    rcases h with h | h
    · exact absurd (lt_of_lt_of_le h a) (lt_irrefl _)
    · exact absurd (lt_of_lt_of_le b h) (lt_irrefl _)

/-! ## `max` of optional multipliers -/

theorem maxOpt_ok (l : List (Option Rat)) (m : Rat) (h : maxOpt l = .ok m) :
    some m ∈ l ∧ ∀ x ∈ l, ∃ a, x = some a ∧ a ≤ m := by
  induction l generalizing m with
  | nil => cases h
  | cons x xs ih =>
    cases x with
    | none => cases h
    | some a =>
      cases xs with
      | nil =>
        injection h with h
        subst h
        exact ⟨List.mem_cons_self, fun x hx => ⟨a, List.mem_singleton.mp hx, le_refl _⟩⟩
      | cons y ys =>
        simp only [maxOpt] at h
        split at h
        · cases h
        · rename_i b hb
          injection h with h
          obtain ⟨hmem, hall⟩ := ih b hb
          subst h
          constructor
          · rcases le_total a b with hab | hab
            · rw [max_eq_right hab]; exact List.mem_cons_of_mem _ hmem
            · rw [max_eq_left hab]; exact List.mem_cons_self
          · intro x hx
            rcases List.mem_cons.mp hx with rfl | hx
            · exact ⟨a, rfl, le_max_left _ _⟩
            · obtain ⟨c, hc, hcb⟩ := hall x hx
              exact ⟨c, hc, le_trans hcb (le_max_right _ _)⟩

theorem maxOpt_total (l : List (Option Rat)) (hne : l ≠ []) (h : ∀ x ∈ l, ∃ a, x = some a) :
    ∃ m, maxOpt l = .ok m := by
  induction l with
  | nil => exact absurd rfl hne
  | cons x xs ih =>
    obtain ⟨a, rfl⟩ := h x List.mem_cons_self
    cases xs with
    | nil => exact ⟨a, rfl⟩
    | cons y ys =>
      obtain ⟨b, hb⟩ := ih (List.cons_ne_nil _ _) (fun z hz => h z (List.mem_cons_of_mem _ hz))
      exact ⟨max a b, by simp only [maxOpt, hb]⟩

/-! ## the default multiplier `si_max_multiplier(region.edges)` -/

theorem mem_edges (r : Region) (e : Rat) : e ∈ r.edges ↔ ∃ a, a < r.ndim ∧ r.edge a = e :=
  mem_tab r.ndim r.edge e

theorem absR_edge (r : Region) (hinv : r.Inv) (a : Nat) (ha : a < r.ndim) : absR (r.edge a) = r.edge a :=
  absR_of_nonneg (hinv.edge_pos ha).le

theorem setupMultiplier_none_inv (f : Fld) (m : Rat) (h : setupMultiplier f none = .ok m) :
    (∃ a, a < f.mesh.region.ndim ∧ siMultiplier (f.mesh.region.edge a) = some m) ∧
    ∀ b, b < f.mesh.region.ndim → ∃ m', siMultiplier (f.mesh.region.edge b) = some m' ∧ m' ≤ m := by
  obtain ⟨hmem, hall⟩ := maxOpt_ok _ m h
  obtain ⟨e, he, hsm⟩ := List.mem_map.mp hmem
  obtain ⟨a, ha, rfl⟩ := (mem_edges _ e).mp he
  refine ⟨⟨a, ha, hsm⟩, fun b hb => ?_⟩
  obtain ⟨m', hm', hle⟩ := hall _ (List.mem_map.mpr ⟨_, (mem_edges _ _).mpr ⟨b, hb, rfl⟩, rfl⟩)
  exact ⟨m', hm', hle⟩

theorem setupMultiplier_none_range (f : Fld) (hinv : f.mesh.Inv) (m : Rat)
    (h : setupMultiplier f none = .ok m) (b : Nat) (hb : b < f.mesh.region.ndim) :
    p1000 (-8) ≤ f.mesh.region.edge b ∧ f.mesh.region.edge b < p1000 9 := by
  obtain ⟨m', hm', _⟩ := (setupMultiplier_none_inv f m h).2 b hb
  have := siMultiplier_some_range _ m' (ne_of_gt (hinv.1.edge_pos hb)) hm'
  rwa [absR_edge _ hinv.1 b hb] at this

theorem setupMultiplier_none_ok (f : Fld) (hinv : f.mesh.Inv)
    (hr : ∀ a, a < f.mesh.region.ndim →
      p1000 (-8) ≤ f.mesh.region.edge a ∧ f.mesh.region.edge a < p1000 9) :
    ∃ m pre, setupMultiplier f none = .ok m ∧ rsiPrefix? m = some pre := by
  have hex : ∃ m, maxOpt (f.mesh.region.edges.map siMultiplier) = .ok m := by
    apply maxOpt_total
    · intro hnil
      have := congrArg List.length hnil
      rw [List.length_map, Region.edges, tab_length] at this
      exact absurd this (Nat.ne_of_gt hinv.1.1)
    · intro x hx
      obtain ⟨e, he, rfl⟩ := List.mem_map.mp hx
      obtain ⟨a, ha, rfl⟩ := (mem_edges _ e).mp he
      obtain ⟨_, k, _, hs⟩ := siMultiplier_total (f.mesh.region.edge a) (ne_of_gt (hinv.1.edge_pos ha))
        (by rw [absR_edge _ hinv.1 a ha]; exact (hr a ha).1) (by rw [absR_edge _ hinv.1 a ha]; exact (hr a ha).2)
      exact ⟨_, hs⟩
  obtain ⟨m, hm⟩ := hex
  obtain ⟨⟨a, ha, hsm⟩, _⟩ := setupMultiplier_none_inv f m hm
  obtain ⟨p, k, hk, rfl, _⟩ := siMultiplier_sound _ m (ne_of_gt (hinv.1.edge_pos ha)) hsm
  exact ⟨_, p, hm, rsiPrefix_table (p, k) hk⟩

/-- a multiplier the plot functions accept: an entry of the SI table, or (default) a region
whose edges all lie in `[1e-24, 1e27)`: the hypothesis of `setupMultiplier_none_ok` and the conclusion
of `setupMultiplier_none_range` -/
def MultOk (f : Fld) : Option Rat → Prop
  | some m => ∃ p, (p, m) ∈ siTable
  | none => ∀ a, a < f.mesh.region.ndim →
      p1000 (-8) ≤ f.mesh.region.edge a ∧ f.mesh.region.edge a < p1000 9

theorem setupMultiplier_ok (f : Fld) (hinv : f.mesh.Inv) (mult : Option Rat) (h : MultOk f mult) :
    ∃ m pre, setupMultiplier f mult = .ok m ∧ rsiPrefix? m = some pre := by
  cases mult with
  | none => exact setupMultiplier_none_ok f hinv h
  | some m =>
    obtain ⟨p, hp⟩ := h
    obtain ⟨k, hk, rfl⟩ := (mem_siTable p m).mp hp
    exact ⟨_, p, rfl, rsiPrefix_table (p, k) hk⟩

theorem multOk_iff (f : Fld) (hinv : f.mesh.Inv) (mult : Option Rat) :
    MultOk f mult ↔ ∃ m pre, setupMultiplier f mult = .ok m ∧ rsiPrefix? m = some pre := by
  refine ⟨setupMultiplier_ok f hinv mult, ?_⟩
  rintro ⟨m, pre, hm, hp⟩
  cases mult with
  | none => exact fun a ha => setupMultiplier_none_range f hinv m hm a ha
  | some m0 =>
    injection hm with hm
    subst hm
    exact ⟨pre, rsiPrefix_some _ pre hp⟩

end DFV.C20
