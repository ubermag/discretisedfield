import DFV.Lemmas.C07Pad
import Mathlib.Tactic.NormNum
/-! Concrete objects for the non-vacuity examples of `Props/C07.lean`: a 4 × 2 mesh over `[0,4] × [0,2]` (cell 1 × 1),
with (`m1`, `f1`) and without (`m0`, `f0`) a subregion, and a field of distinct tokens on it; a 1-d mesh and field
(`m2`, `f2`), a 3-d one (`m3`, `f3`), and a field whose labels were cleared after construction (`fstale`). -/
namespace DFV.C07.Ex
open DFV DFV.C07

def reg (p1 p2 : List Rat) : Region :=
  { pmin := p1, pmax := p2, dims := ["x", "y"], units := ["m", "m"], tol := 1/1000000000000 }

def m0 : Mesh := { region := reg [0, 0] [4, 2], n := [4, 2], bc := "", subs := [] }

/-- subregion: cells 1..2 along x, cell 0 along y -/
def s0 : Region := reg [1, 0] [3, 1]

def m1 : Mesh := { m0 with subs := [("a", s0)] }

def tok (i : List Nat) : List Rat := [((i.getD 0 0 * 10 + i.getD 1 0 : Nat) : Rat)]
def msk (i : List Nat) : Bool := i.getD 0 0 % 2 == 0

def f0 : Fld := { mesh := m0, nvdim := 1, data := ⟨[4, 2], tok⟩, valid := ⟨[4, 2], msk⟩,
                  vdims := none, vmap := [], unit := none }
def f1 : Fld := { f0 with mesh := m1 }

theorem lt_two (a : Nat) (h : a < 2) : a = 0 ∨ a = 1 := by omega

theorem m0_inv : m0.Inv := C01.mesh_inv_of_invB _ (by decide +kernel)

theorem m1_inv : m1.Inv := m0_inv

theorem f0_wf : FldWF f0 := ⟨m0_inv, rfl, rfl⟩
theorem f1_wf : FldWF f1 := ⟨m1_inv, rfl, rfl⟩

def k1 (a : Nat) : Nat := if a = 0 then 1 else 0
def k2 (a : Nat) : Nat := if a = 0 then 3 else 1

theorem s0_aligned : SubAligned m1 s0 k1 k2 :=
  ⟨rfl, rfl, fun a ha => by
    rcases lt_two a ha with rfl | rfl <;>
      norm_num [k1, k2, m1, m0, s0, reg, Region.lo, Region.hi, Mesh.nAt, Mesh.cellAt, Region.edge]⟩

/-- an arbitrary (not aligned) box inside the region -/
def box : Region := reg [1/2, 1/4] [5/2, 1]

theorem box_in : BoxIn m0 box :=
  ⟨rfl, fun a ha => by
    rcases lt_two a ha with rfl | rfl <;> norm_num [m0, box, reg, Region.lo, Region.hi]⟩

def pw0 : List PadW := [⟨"x", 1, 2⟩, ⟨"y", 0, 1⟩]

theorem pw0_ok : ∀ w, w ∈ pw0 → (∃ a, f0.mesh.region.dim2index w.dim = .ok a) ∧ 0 ≤ w.lo ∧ 0 ≤ w.hi := by
  intro w hw
  simp only [pw0, List.mem_cons, List.mem_nil_iff, or_false] at hw
  rcases hw with rfl | rfl
  · exact ⟨⟨0, by decide⟩, by decide, by decide⟩
  · exact ⟨⟨1, by decide⟩, by decide, by decide⟩

theorem f0_bcOk : Mesh.bcOk f0.mesh.region.dims f0.mesh.bc.toLower = true := by
  exact C01.bcOk_empty_lower _

theorem m1_subs_aligned : ∀ p, p ∈ m1.subs → ∃ k1 k2, SubAligned m1 p.2 k1 k2 := by
  intro p hp
  have : p = ("a", s0) := by simpa [m1] using hp
  subst this
  exact ⟨k1, k2, s0_aligned⟩

/-- a 1-d field: 4 cells of size 1 over `[0, 4]` -/
def reg1 (p1 p2 : List Rat) : Region :=
  { pmin := p1, pmax := p2, dims := ["x"], units := ["m"], tol := 1/1000000000000 }
def m2 : Mesh := { region := reg1 [0] [4], n := [4], bc := "", subs := [] }
def f2 : Fld := { mesh := m2, nvdim := 1, data := ⟨[4], tok⟩, valid := ⟨[4], msk⟩,
                  vdims := none, vmap := [], unit := none }

theorem m2_inv : m2.Inv := C01.mesh_inv_of_invB _ (by decide +kernel)

/-- a 3-d field: 2 × 2 × 2 cells of size 1 over `[0, 2]³` -/
def reg3 (p1 p2 : List Rat) : Region :=
  { pmin := p1, pmax := p2, dims := ["x", "y", "z"], units := ["m", "m", "m"], tol := 1/1000000000000 }
def m3 : Mesh := { region := reg3 [0, 0, 0] [2, 2, 2], n := [2, 2, 2], bc := "", subs := [] }
def tok3 (i : List Nat) : List Rat := [((i.getD 0 0 * 100 + i.getD 1 0 * 10 + i.getD 2 0 : Nat) : Rat)]
def f3 : Fld := { mesh := m3, nvdim := 1, data := ⟨[2, 2, 2], tok3⟩, valid := ⟨[2, 2, 2], msk⟩,
                  vdims := none, vmap := [], unit := none }

theorem m3_inv : m3.Inv := C01.mesh_inv_of_invB _ (by decide +kernel)

theorem f3_wf : FldWF f3 := ⟨m3_inv, rfl, rfl⟩

/-- the state `field.vdims = []` leaves behind on a labelled 3-component field: no labels, the
mapping still keyed by the old labels -/
def fstale : Fld := { f0 with nvdim := 3, vmap := [("a", "x"), ("b", "y"), ("c", "z")] }

theorem f0_face (k : Rat) : f0.mesh.region.lo 0 + k * f0.mesh.cellAt 0 = k := by
  norm_num [f0, m0, reg, Region.lo, Mesh.cellAt, Mesh.nAt, Region.edge, Region.hi]

theorem ex_idx (x : Rat) (k : Nat) (hk : k < 4) (h1 : (k : Rat) ≤ x) (h2 : x < (k : Rat) + 1) :
    f0.mesh.indexAx 0 x = k :=
  indexAx_eq_of_bounds f0.mesh 0 x k (by show k < 4; exact hk) (f0_wf.1.cellAt_pos (by decide))
    (by rw [f0_face]; exact h1) (by rw [f0_face]; exact h2)

end DFV.C07.Ex
