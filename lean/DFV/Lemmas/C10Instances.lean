import DFV.Lemmas.C10Examples
/-! the (decidable) invariants of the example states of `C10Examples.lean`, evaluated once -/
namespace DFV.C10

theorem exField_inv : exField.Inv := by unfold TFld.Inv; decide +kernel

theorem exFloat_inv : exFloat.Inv := by unfold TFld.Inv; decide +kernel

theorem exNoLabels_inv : exNoLabels.Inv := by unfold TFld.Inv; decide +kernel

theorem exBigInt_inv : exBigInt.Inv := by unfold TFld.Inv; decide +kernel

theorem exTolField_invW : exTolField.InvW := by unfold TFld.InvW; decide +kernel

theorem exTolField_unreadable : exTolField.mesh.rereadableB = false := by decide +kernel

theorem exTolFieldLoose_inv : exTolFieldLoose.Inv := by unfold TFld.Inv; decide +kernel

end DFV.C10
