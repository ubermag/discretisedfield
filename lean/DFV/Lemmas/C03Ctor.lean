import DFV.Lemmas.C01Ctor
import DFV.Lemmas.NDA
import DFV.Lemmas.C03Bcast
import DFV.Lemmas.C03Dispatch

/-! C03: `Field.__init__` (`mkField`) and its setters: the constructor as one equivalence (`mkField_ok_iff`: a positive
count, four conversions, the record they fill) and what is read off it; the side condition `LiftOk` on programs (no
mesh-shaped array directly under `<<` / `angle`: the constructor reads it per cell); the two setters and the label / mapping
state a constructor leaves (`MetaStable`); `dict.update`.  Last `Good M f` (a field as the algebra meets it), its metadata
`Ty` / `tyOf`, and `Accepts M x t` - the call `x` returns a `Good` field on `M` with metadata `t` - in which every
acceptance lemma of the family is stated, with the constructor lemma `mkField_accepts`. -/

namespace DFV.C03
open DFV

/-- the mask handed to the constructor, read at cell `i` (`True` when none is passed) -/
def validAt (valid : Option (NDA Bool)) (i : List Nat) : Bool :=
  match valid with
  | some v => v.get i
  | none => true

/-- a mask of the mesh's shape, in the form the constructor lemmas ask for -/
theorem mask_some {n : List Nat} {v : NDA Bool} (h : v.shape = n) : ∀ w, some v = some w → w.shape = n :=
  fun _ hw => Option.some.inj hw ▸ h

theorem mask_and {n : List Nat} {a b : NDA Bool} (h : a.shape = n) :
    ∀ w, some (NDA.zipWith (fun x y => x && y) a b) = some w → w.shape = n :=
  mask_some h

/-- well-formed field state: array shape `n ++ [nvdim]`, mask shape `n`, at least one component -/
def CFwf (f : CF) : Prop :=
  f.data.shape = f.mesh.n ++ [f.nvdim] ∧ f.valid.shape = f.mesh.n ∧ 0 < f.nvdim

theorem CFwf.shape {f : CF} (h : CFwf f) : f.data.shape = f.mesh.n ++ [f.nvdim] := h.1
theorem CFwf.mask {f : CF} (h : CFwf f) : f.valid.shape = f.mesh.n := h.2.1
theorem CFwf.pos {f : CF} (h : CFwf f) : 0 < f.nvdim := h.2.2

theorem npFull_ok {α} (T : List Nat) (v a : NDA α) (h : npFull T v = .ok a) :
    bshape v.shape T = some T ∧ a.shape = T ∧ ∀ idx, a.get idx = v.get (bproj v.shape idx) := by
  unfold npFull at h
  split at h
  · rename_i hb
    injection h with h
    subst h
    exact ⟨hb, rfl, fun _ => rfl⟩
  · cases h

/-- `asArray` on an array-like outside the mesh-shaped-scalar shortcut: the value is
broadcast to `n ++ [nvdim]` -/
theorem asArray_arr_ok (mesh : Mesh) (nv : Nat) (v a : NDA GQ) (own : Bool)
    (h1 : ¬ (nv = 1 ∧ v.shape = mesh.n))
    (h : asArray mesh nv (.arr v) = .ok (a, own)) :
    own = false ∧ a.shape = mesh.n ++ [nv] ∧ lastAx v.shape = nv ∧ v.shape ≠ [] ∧
      bshape v.shape (mesh.n ++ [nv]) = some (mesh.n ++ [nv]) ∧
      ∀ idx, a.get idx = v.get (bproj v.shape idx) := by
  unfold asArray at h
  simp only [h1, if_false] at h
  split at h
  · cases h
  · rename_i h2
    split at h
    · cases h
    · rename_i hl
      cases hf : npFull (mesh.n ++ [nv]) v with
      | error e => simp [hf] at h
      | ok a' =>
        simp [hf] at h
        obtain ⟨ha, ho⟩ := h
        subst ha
        obtain ⟨hb, hs, hg⟩ := npFull_ok _ _ _ hf
        exact ⟨ho, hs, by simpa using hl, h2, hb, hg⟩

theorem validSet_same (mesh : Mesh) (v vl : NDA Bool) (hs : v.shape = mesh.n)
    (h : validSet mesh (some v) = .ok vl) : vl = v := by
  unfold validSet at h
  simp [hs] at h
  exact h.symm

theorem validSet_none (mesh : Mesh) (vl : NDA Bool) (h : validSet mesh none = .ok vl) :
    vl = NDA.const mesh.n true := by
  unfold validSet at h
  injection h with h
  exact h.symm

/-- **the constructor**: a positive count, the four conversions, and the record they fill -/
theorem mkField_ok_iff {mesh : Mesh} {nv : Nat} {val : Value} {kind : Kind} {vd : Option (List String)}
    {valid : Option (NDA Bool)} {vm : Option VMap} {unit : Option String} {g : CF} :
    mkField mesh nv val kind vd valid vm unit = .ok g ↔ 0 < nv ∧
      ∃ arr own vl vd' vm', asArray mesh nv val = .ok (arr, own) ∧ validSet mesh valid = .ok vl ∧
        vdimsSet nv vd = .ok vd' ∧ vmapSet nv mesh.region.ndim vd' mesh.region.dims vm = .ok vm' ∧
        g = ⟨mesh, nv, arr.force GQ.zero, vl.force false, vd', vm', unit, if own then kind else kind.ctor⟩ := by
  unfold mkField
  by_cases hnv : nv < 1
  · rw [if_pos hnv]; exact ⟨nofun, fun h => absurd h.1 (Nat.not_lt.mpr (Nat.le_of_lt_succ hnv))⟩
  rw [if_neg hnv]
  refine Iff.trans ?_ ⟨fun h => ⟨Nat.not_lt.mp hnv, h⟩, fun h => h.2⟩
  cases ha : asArray mesh nv val with
  | error e => exact ⟨nofun, fun ⟨_, _, _, _, _, h, _⟩ => nomatch h⟩
  | ok p =>
    obtain ⟨arr, own⟩ := p
    dsimp only
    cases hv : validSet mesh valid with
    | error e => exact ⟨nofun, fun ⟨_, _, _, _, _, _, h, _⟩ => nomatch h⟩
    | ok vl =>
      dsimp only
      cases hd : vdimsSet nv vd with
      | error e => exact ⟨nofun, fun ⟨_, _, _, _, _, _, _, h, _⟩ => nomatch h⟩
      | ok vd' =>
        dsimp only
        cases hm : vmapSet nv mesh.region.ndim vd' mesh.region.dims vm with
        | error e =>
          exact ⟨nofun, fun ⟨_, _, _, _, _, _, _, h, h', _⟩ => by cases Except.ok.inj h; rw [hm] at h'; cases h'⟩
        | ok vm' =>
          exact ⟨fun h => ⟨arr, own, vl, vd', vm', rfl, rfl, rfl, hm, (Except.ok.inj h).symm⟩,
            fun ⟨_, _, _, _, _, h1, h2, h3, h4, hg⟩ => by
              cases Except.ok.inj h1; cases Except.ok.inj h2; cases Except.ok.inj h3
              rw [hm] at h4; cases Except.ok.inj h4; rw [hg]⟩

/-- everything a successful constructor call fixes -/
theorem mkField_ok (mesh : Mesh) (nv : Nat) (val : Value) (kind : Kind) (vd : Option (List String))
    (valid : Option (NDA Bool)) (vm : Option VMap) (unit : Option String) (g : CF)
    (h : mkField mesh nv val kind vd valid vm unit = .ok g) :
    g.mesh = mesh ∧ g.nvdim = nv ∧ 0 < nv ∧ g.unit = unit ∧
    ∃ arr own vl, asArray mesh nv val = .ok (arr, own) ∧ validSet mesh valid = .ok vl ∧
      g.data = arr.force GQ.zero ∧ g.valid = vl.force false ∧
      vdimsSet nv vd = .ok g.vdims ∧
      vmapSet nv mesh.region.ndim g.vdims mesh.region.dims vm = .ok g.vmap ∧
      g.kind = (if own then kind else kind.ctor) := by
  obtain ⟨hnv, arr, own, vl, vd', vm', ha, hv, hd, hm, rfl⟩ := mkField_ok_iff.mp h
  exact ⟨rfl, rfl, hnv, rfl, arr, own, vl, ha, hv, rfl, rfl, hd, hm, rfl⟩

theorem mkField_mesh {mesh : Mesh} {nv : Nat} {val : Value} {kind : Kind} {vd valid vm unit} {g : CF}
    (h : mkField mesh nv val kind vd valid vm unit = .ok g) : g.mesh = mesh ∧ g.nvdim = nv ∧ 0 < nv :=
  let ⟨hm, hn, hp, _⟩ := mkField_ok _ _ _ _ _ _ _ _ _ h
  ⟨hm, hn, hp⟩

theorem mkField_unit {mesh : Mesh} {nv : Nat} {val : Value} {kind : Kind} {vd valid vm unit} {g : CF}
    (h : mkField mesh nv val kind vd valid vm unit = .ok g) : g.unit = unit :=
  (mkField_ok _ _ _ _ _ _ _ _ _ h).2.2.2.1

theorem mkField_meta {mesh : Mesh} {nv : Nat} {val : Value} {kind : Kind} {vd valid vm unit} {g : CF}
    (h : mkField mesh nv val kind vd valid vm unit = .ok g) :
    vdimsSet nv vd = .ok g.vdims ∧ vmapSet nv mesh.region.ndim g.vdims mesh.region.dims vm = .ok g.vmap :=
  let ⟨_, _, _, _, _, _, _, _, _, _, _, hvd, hvm, _⟩ := mkField_ok _ _ _ _ _ _ _ _ _ h
  ⟨hvd, hvm⟩

/-- the mask a constructor call stores is a copy of the one it is handed, when that has the mesh's shape -/
theorem mkField_valid {mesh : Mesh} {nv : Nat} {val : Value} {k : Kind} {vd vm u} {V : NDA Bool} {g : CF}
    (h : mkField mesh nv val k vd (some V) vm u = .ok g) (hV : V.shape = mesh.n) :
    g.valid = V.force false ∧ g.mesh = mesh := by
  obtain ⟨hm, _, _, _, _, _, vl, _, hv, _, hvl, _⟩ := mkField_ok _ _ _ _ _ _ _ _ _ h
  exact ⟨by rw [hvl, validSet_same _ _ _ hV hv], hm⟩

/-- the constructor applied to an array-like `res` outside the mesh-shaped-scalar
shortcut: well-formed field on `mesh`, data = `res` read through broadcasting, validity =
the mask handed over (or all `True`); when `res` has a higher rank than the mesh, it is exactly one higher -/
theorem mkField_arr (mesh : Mesh) (nv : Nat) (res : NDA GQ) (kind : Kind) (vd : Option (List String))
    (valid : Option (NDA Bool)) (vm : Option VMap) (unit : Option String) (g : CF)
    (hne : ¬ (nv = 1 ∧ res.shape = mesh.n))
    (hvs : ∀ v, valid = some v → v.shape = mesh.n)
    (h : mkField mesh nv (.arr res) kind vd valid vm unit = .ok g) :
    g.mesh = mesh ∧ g.nvdim = nv ∧ CFwf g ∧ g.unit = unit ∧ g.kind = kind.ctor ∧
    lastAx res.shape = nv ∧ res.shape ≠ [] ∧
    bshape res.shape (mesh.n ++ [nv]) = some (mesh.n ++ [nv]) ∧
    (∀ idx, inRange (mesh.n ++ [nv]) idx = true → g.data.get idx = res.get (bproj res.shape idx)) ∧
    (∀ i, inRange mesh.n i = true → g.valid.get i = validAt valid i) ∧
    (mesh.n.length < res.shape.length → res.shape.length = mesh.n.length + 1) := by
  obtain ⟨hm, hn, hpos, hu, arr, own, vl, ha, hv, hd, hvl, _, _, hk⟩ := mkField_ok _ _ _ _ _ _ _ _ _ h
  obtain ⟨ho, hs, hl, hnil, hb, hg⟩ := asArray_arr_ok _ _ _ _ _ hne ha
  -- the stored mask is the one handed over, or all `True`; either way it has the mesh's shape
  have hvl' : vl.shape = mesh.n ∧ ∀ i, vl.get i = validAt valid i := by
    cases valid with
    | none => rw [validSet_none _ _ hv]; exact ⟨rfl, fun _ => rfl⟩
    | some v => rw [validSet_same _ _ _ (hvs v rfl) hv]; exact ⟨hvs v rfl, fun _ => rfl⟩
  have hvshape := hvl'.1
  refine ⟨hm, hn, ?_, hu, ?_, hl, hnil, hb, ?_, ?_, fun hr => ?_⟩
  · refine ⟨?_, ?_, ?_⟩
    · rw [hd, hm, hn]; exact hs
    · rw [hvl, hm]; exact hvshape
    · rw [hn]; exact hpos
  · rw [hk, ho]; rfl
  · intro idx hidx
    rw [hd, NDA.force_get _ _ _ (by rw [hs]; exact hidx), hg]
  · intro i hi
    rw [hvl, NDA.force_get _ _ _ (by rw [hvshape]; exact hi)]
    exact hvl'.2 i
  · have := bshape_length _ _ _ hb
    simp at this
    omega

theorem not_meshShaped {mesh : Mesh} {nv : Nat} {res : NDA GQ} (hr : mesh.n.length < res.shape.length) :
    ¬ (nv = 1 ∧ res.shape = mesh.n) := fun h => by rw [h.2] at hr; exact Nat.lt_irrefl _ hr

/-- array-like operands that stand directly under `<<` / `angle` must not be mesh-shaped
(a mesh-shaped array is taken as per-cell scalar values by the constructor) -/
def OpdLiftOk (n : List Nat) : Opd → Prop
  | .num _ _ _ => True
  | .arr a _ _ => a.shape ≠ n

/-- side condition on programs: an array-like standing directly under `<<` or `.angle()`
is not mesh-shaped (the constructor would read it as per-cell scalar values, not as a
constant vector) -/
def operandOk (n : List Nat) : Expr → Prop
  | .opd od => OpdLiftOk n od
  | _ => True

/-- every `<<` / `angle` node of the tree satisfies `operandOk` -/
def LiftOk (n : List Nat) : Expr → Prop
  | .leaf _ => True
  | .opd _ => True
  | .un _ e => LiftOk n e
  | .bin b l r => LiftOk n l ∧ LiftOk n r ∧ ((b = .shl ∨ b = .angle) → operandOk n l ∧ operandOk n r)

theorem LiftOk.bin {n : List Nat} {b : BinOp} {l r : Expr} (hl : LiftOk n l) (hr : LiftOk n r)
    (hb : b ≠ .shl ∧ b ≠ .angle) : LiftOk n (.bin b l r) :=
  ⟨hl, hr, fun h => h.elim (fun h => absurd h hb.1) (fun h => absurd h hb.2)⟩

theorem vmapSet_some_mesh (nv nd nd' : Nat) (vd : Option (List String)) (dims dims' : List String) (m : VMap) :
    vmapSet nv nd vd dims (some m) = vmapSet nv nd' vd dims' (some m) := by
  simp only [vmapSet]

theorem meshEq_self (m : Mesh) : meshEq m m = true := by
  simp [meshEq]

/-- what the `vdim_mapping` setter stores for the argument `None` -/
def vmapDefault (nv ndim : Nat) (vd : Option (List String)) (dims : List String) : VMap :=
  if nv = 1 then []
  else if nv = ndim then
    match vd with
    | none => []
    | some l => List.zip l (dims.map some)
  else []

theorem vmapSet_none_eq (nv ndim : Nat) (vd : Option (List String)) (dims : List String) :
    vmapSet nv ndim vd dims none = .ok (vmapDefault nv ndim vd dims) := by
  simp only [vmapSet, vmapDefault]
  by_cases h1 : nv = 1
  · simp only [h1, if_true]
  · simp only [h1, if_false]
    by_cases h2 : nv = ndim
    · simp only [h2, if_true]
      cases vd <;> rfl
    · simp only [h2, if_false]

theorem vmapDefault_cases (nv nd : Nat) (vd : Option (List String)) (dims : List String) :
    vmapDefault nv nd vd dims = [] ∨
      ∃ l, vd = some l ∧ nv = nd ∧ vmapDefault nv nd vd dims = List.zip l (dims.map some) := by
  unfold vmapDefault
  by_cases h1 : nv = 1
  · exact Or.inl (if_pos h1)
  · rw [if_neg h1]
    by_cases h2 : nv = nd
    · rw [if_pos h2]
      cases vd with
      | none => exact Or.inl rfl
      | some l => exact Or.inr ⟨l, rfl, h2, rfl⟩
    · exact Or.inl (if_neg h2)

theorem vmapSet_none_length (nv nd : Nat) (vd : Option (List String)) (dims : List String) (m : VMap)
    (hl : ∀ l, vd = some l → l.length = nv) (h : vmapSet nv nd vd dims none = .ok m) : m.length ≤ nv := by
  cases Except.ok.inj ((vmapSet_none_eq nv nd vd dims).symm.trans h)
  rcases vmapDefault_cases nv nd vd dims with h0 | ⟨l, hvd, _, h0⟩
  · rw [h0]; exact Nat.zero_le _
  · rw [h0, List.length_zip, ← hl l hvd]; exact Nat.min_le_left _ _

/-- labels and mapping survive one constructor round trip (true of every field a
constructor call returned, see `mkField_stable`) -/
def MetaStable (f : CF) : Prop :=
  vdimsSet f.nvdim f.vdims = .ok f.vdims ∧
  vmapSet f.nvdim f.mesh.region.ndim f.vdims f.mesh.region.dims (some f.vmap) = .ok f.vmap

/-- the label setter on an explicit list: the empty list removes the labels; any other list is stored as it is and
must have one label per component, all distinct -/
theorem vdimsSet_some_ok_iff {k : Nat} {l : List String} {vd' : Option (List String)} :
    vdimsSet k (some l) = .ok vd' ↔
      (l = [] ∧ vd' = none) ∨ (l ≠ [] ∧ vd' = some l ∧ l.length = k ∧ hasDup l = false) := by
  cases l with
  | nil =>
    exact ⟨fun h => Or.inl ⟨rfl, (Except.ok.inj h).symm⟩, fun h => h.elim (fun h => by rw [h.2]; rfl) (fun h => absurd rfl h.1)⟩
  | cons x xs =>
    rw [vdimsSet]
    refine Iff.trans ?_ ⟨fun h => Or.inr ⟨List.cons_ne_nil x xs, h⟩, fun h => h.elim (fun h => nomatch h.1) (fun h => h.2)⟩
    by_cases hl : (x :: xs).length = k
    · rw [if_neg (fun h => h hl)]
      by_cases hd : hasDup (x :: xs) = true
      · rw [if_pos hd]
        exact ⟨nofun, fun h => absurd hd (by rw [h.2.2]; exact Bool.false_ne_true)⟩
      · rw [if_neg hd]
        exact ⟨fun h => ⟨(Except.ok.inj h).symm, hl, Bool.eq_false_iff.mpr hd⟩, fun h => by rw [h.1]⟩
    · rw [if_pos hl]
      exact ⟨nofun, fun h => absurd h.2.1 hl⟩

theorem vdimsSet_default (k : Nat) (hk : 0 < k) :
    vdimsSet k (Fld.defaultVdims k) = .ok (Fld.defaultVdims k) := by
  cases hd : Fld.defaultVdims k with
  | none => simp only [vdimsSet]; rw [hd]
  | some l =>
    obtain ⟨hlen, hdup⟩ := Fld.defaultVdims_ok k l hd
    exact vdimsSet_some_ok_iff.mpr
      (Or.inr ⟨fun e => by rw [e] at hlen; exact absurd hlen.symm (Nat.ne_of_gt hk), rfl, hlen, hdup⟩)

theorem vdimsSet_result (k : Nat) (hk : 0 < k) (vd vd' : Option (List String)) (h : vdimsSet k vd = .ok vd') :
    ∀ l, vd' = some l → l ≠ [] ∧ l.length = k ∧ hasDup l = false := by
  intro l hl
  subst hl
  cases vd with
  | none =>
    simp only [vdimsSet] at h
    obtain ⟨hlen, hdup⟩ := Fld.defaultVdims_ok k l (Except.ok.inj h)
    exact ⟨fun e => by rw [e] at hlen; exact absurd hlen.symm (Nat.ne_of_gt hk), hlen, hdup⟩
  | some l0 =>
    rcases vdimsSet_some_ok_iff.mp h with ⟨_, h2⟩ | ⟨hne, h2, hlen, hdup⟩
    · cases h2
    · injection h2 with h2; subst h2; exact ⟨hne, hlen, hdup⟩

/-- the label setter is idempotent on what it stored, except that "no labels" stored for
an explicitly empty list are replaced by the default labels next time -/
theorem vdimsSet_idem (k : Nat) (hk : 0 < k) (vd vd' : Option (List String)) (hne : vd ≠ some [])
    (h : vdimsSet k vd = .ok vd') : vdimsSet k vd' = .ok vd' := by
  cases vd with
  | none =>
    simp only [vdimsSet] at h
    injection h with h
    subst h
    exact vdimsSet_default k hk
  | some l0 =>
    rcases vdimsSet_some_ok_iff.mp h with ⟨h1, _⟩ | ⟨hne', h2, hlen, hdup⟩
    · subst h1; exact absurd rfl hne
    · subst h2; exact vdimsSet_some_ok_iff.mpr (Or.inr ⟨hne', rfl, hlen, hdup⟩)

theorem sameKeys_self (l : List String) : sameKeys l l = true := by
  simp only [sameKeys, decide_true, Bool.true_and, Bool.and_eq_true, List.all_eq_true]
  exact ⟨fun x hx => List.contains_iff_mem.mpr hx, fun x hx => List.contains_iff_mem.mpr hx⟩

theorem zip_keys (l : List String) (ds : List (Option String)) (h : l.length = ds.length) :
    (List.zip l ds).map (·.1) = l := by
  induction l generalizing ds with
  | nil => simp
  | cons x xs ih =>
    cases ds with
    | nil => simp at h
    | cons d ds => simp only [List.zip_cons_cons, List.map_cons, ih ds (by simpa using h)]

abbrev keys (m : VMap) : List String := m.map (·.1)

/-- the `vdim_mapping` setter on an explicit dict: a one-entry dict for an unlabelled scalar field is dropped; otherwise the
dict is stored as it is, and must be empty or have exactly the labels as its keys -/
theorem vmapSet_some_ok_iff {nv nd : Nat} {vd : Option (List String)} {dims : List String} {m m' : VMap} :
    vmapSet nv nd vd dims (some m) = .ok m' ↔
      (m.length = 1 ∧ nv = 1 ∧ vd = none ∧ m' = []) ∨
      (¬ (m.length = 1 ∧ nv = 1 ∧ vd = none) ∧ m' = m ∧ (m = [] ∨ ∃ l, vd = some l ∧ sameKeys (keys m) l = true)) := by
  simp only [vmapSet]
  by_cases h1 : m.length = 1 ∧ nv = 1 ∧ vd = none
  · rw [if_pos h1]
    exact ⟨fun h => Or.inl ⟨h1.1, h1.2.1, h1.2.2, (Except.ok.inj h).symm⟩,
      fun h => h.elim (fun h => by rw [h.2.2.2]) (fun h => absurd h1 h.1)⟩
  · rw [if_neg h1]
    refine Iff.trans ?_ ⟨fun h => Or.inr ⟨h1, h⟩, fun h => h.elim (fun h => absurd ⟨h.1, h.2.1, h.2.2.1⟩ h1) (fun h => h.2)⟩
    by_cases h0 : 0 < m.length
    · rw [if_pos h0]
      have hne : m ≠ [] := fun h => by rw [h] at h0; exact Nat.lt_irrefl 0 h0
      cases vd with
      | none => exact ⟨nofun, fun h => h.2.elim (fun h => absurd h hne) (fun ⟨_, h, _⟩ => nomatch h)⟩
      | some l =>
        dsimp only
        by_cases hk : sameKeys (m.map (·.1)) l = true
        · rw [if_pos hk]
          exact ⟨fun h => ⟨(Except.ok.inj h).symm, Or.inr ⟨l, rfl, hk⟩⟩, fun h => by rw [h.1]⟩
        · rw [if_neg hk]
          exact ⟨nofun, fun h => h.2.elim (fun h => absurd h hne) (fun ⟨_, h, hk'⟩ => absurd (Option.some.inj h ▸ hk') hk)⟩
    · rw [if_neg h0]
      have : m = [] := List.eq_nil_of_length_eq_zero (Nat.eq_zero_of_not_pos h0)
      exact ⟨fun h => ⟨(Except.ok.inj h).symm, Or.inl this⟩, fun h => by rw [h.1]⟩

theorem vmapSet_some_nil (nv nd : Nat) (vd : Option (List String)) (dims : List String) :
    vmapSet nv nd vd dims (some []) = .ok [] := by
  simp [vmapSet]

theorem vmapSet_idem (nv nd : Nat) (vd : Option (List String)) (dims : List String) (vm : Option VMap) (m : VMap)
    (hd : dims.length = nd) (hl : ∀ l, vd = some l → l.length = nv)
    (h : vmapSet nv nd vd dims vm = .ok m) : vmapSet nv nd vd dims (some m) = .ok m := by
  cases vm with
  | none =>
    -- the default mapping is empty or has exactly the labels as its keys
    cases Except.ok.inj ((vmapSet_none_eq nv nd vd dims).symm.trans h)
    rcases vmapDefault_cases nv nd vd dims with h0 | ⟨l, rfl, h2, h0⟩
    · rw [h0]; exact vmapSet_some_nil _ _ _ _
    · have hlen : l.length = (dims.map some).length := by rw [List.length_map, hd, hl l rfl, h2]
      rw [h0]
      exact vmapSet_some_ok_iff.mpr (Or.inr ⟨fun h => (nomatch h.2.2), rfl,
        Or.inr ⟨l, rfl, by rw [keys, zip_keys l _ hlen]; exact sameKeys_self l⟩⟩)
  | some m0 =>
    -- an explicit mapping is stored as it is, or replaced by the empty one
    rcases vmapSet_some_ok_iff.mp h with ⟨_, _, _, rfl⟩ | ⟨_, rfl, _⟩
    · exact vmapSet_some_nil _ _ _ _
    · exact h

theorem vmapSet_some_stable (nv nd nd' : Nat) (vd : Option (List String)) (dims dims' : List String) (m : VMap)
    (h : vmapSet nv nd vd dims (some m) = .ok m) : vmapSet nv nd' vd dims' (some m) = .ok m := by
  rw [← h]; simp only [vmapSet]

theorem asArray_exact (mesh : Mesh) (nv : Nat) (res : NDA GQ) (hs : res.shape = mesh.n ++ [nv]) :
    asArray mesh nv (.arr res) = .ok (⟨mesh.n ++ [nv], fun idx => res.get (bproj res.shape idx)⟩, false) := by
  have h1 : ¬ (nv = 1 ∧ res.shape = mesh.n) := by
    rintro ⟨_, h⟩
    rw [hs] at h
    have := congrArg List.length h
    simp at this
  have h2 : ¬ res.shape = [] := by rw [hs]; simp
  have h3 : ¬ lastAx res.shape ≠ nv := by rw [hs, lastAx_concat]; simp
  simp only [asArray]
  rw [if_neg h1, if_neg h2, if_neg h3]
  simp only [npFull, hs, bshape_self, if_true]

theorem validSet_accepts (mesh : Mesh) (valid : Option (NDA Bool)) (hv : ∀ v, valid = some v → v.shape = mesh.n) :
    ∃ vl, validSet mesh valid = .ok vl ∧ vl.shape = mesh.n := by
  cases valid with
  | none => exact ⟨_, rfl, rfl⟩
  | some v => exact ⟨v, by simp [validSet, hv v rfl], hv v rfl⟩

/-- the field a constructor returned is `MetaStable` (for a mesh whose region names all
its axes, and labels that were not the explicitly empty list) -/
theorem mkField_stable (mesh : Mesh) (nv : Nat) (val : Value) (kind : Kind) (vd : Option (List String))
    (valid : Option (NDA Bool)) (vm : Option VMap) (unit : Option String) (g : CF)
    (hdims : mesh.region.dims.length = mesh.region.ndim) (hne : vd ≠ some [])
    (h : mkField mesh nv val kind vd valid vm unit = .ok g) : MetaStable g := by
  obtain ⟨hm, hn, hpos⟩ := mkField_mesh h
  obtain ⟨hvd, hvm⟩ := mkField_meta h
  refine ⟨?_, ?_⟩
  · rw [hn]; exact vdimsSet_idem nv hpos vd _ hne hvd
  · rw [hn, hm]
    exact vmapSet_idem nv _ _ _ vm _ hdims (fun l hl => (vdimsSet_result nv hpos vd _ hvd l hl).2.1) hvm

theorem MetaStable.labels {f : CF} (hs : MetaStable f) (hp : 0 < f.nvdim) :
    ∀ l, f.vdims = some l → l ≠ [] ∧ l.length = f.nvdim ∧ hasDup l = false :=
  vdimsSet_result f.nvdim hp f.vdims f.vdims hs.1

theorem MetaStable.fix {f : CF} (hs : MetaStable f) (hp : 0 < f.nvdim) : fixVdims f.vdims f.nvdim = f.vdims := by
  unfold fixVdims
  cases hv : f.vdims with
  | none => rfl
  | some l =>
    simp only
    rw [if_neg (by simp [(hs.labels hp l hv).2.1])]

/-- labels of another count than the one asked for are dropped by `_apply_operator` -/
theorem MetaStable.fix_ne {f : CF} (hs : MetaStable f) (hp : 0 < f.nvdim) {m : Nat} (hm : m ≠ f.nvdim) :
    fixVdims f.vdims m = none := by
  unfold fixVdims
  cases hv : f.vdims with
  | none => rfl
  | some l =>
    simp only
    rw [if_pos (by rw [(hs.labels hp l hv).2.1]; exact fun hc => hm hc.symm)]

/-- ... and the setter refuses them for any other count -/
theorem MetaStable.labels_refused {f : CF} (hs : MetaStable f) (hp : 0 < f.nvdim) {l : List String} (hl : f.vdims = some l)
    {m : Nat} (hm : m ≠ f.nvdim) {vd' : Option (List String)} : vdimsSet m (some l) ≠ .ok vd' := by
  intro h
  obtain ⟨hne, hlen, _⟩ := hs.labels hp l hl
  rcases vdimsSet_some_ok_iff.mp h with ⟨h0, _⟩ | ⟨_, _, h3, _⟩
  · exact hne h0
  · exact hm (by rw [← h3, hlen])

theorem MetaStable.ne_nil {f : CF} (hs : MetaStable f) : f.vdims ≠ some [] := by
  intro h
  have := hs.1
  rw [h] at this
  simp only [vdimsSet] at this
  injection this with this
  cases this

theorem vdimsSet_one_none : vdimsSet 1 none = .ok none := rfl

theorem vmapSet_one_none (nd : Nat) (vd : Option (List String)) (dims : List String) :
    vmapSet 1 nd vd dims none = .ok [] := by
  simp [vmapSet]

/-- an unlabelled scalar field keeps no mapping: an explicit dict of at most one entry is stored as `{}` -/
theorem vmapSet_one_unlabelled (nd : Nat) (dims : List String) (m : VMap) (hm : m.length ≤ 1) :
    vmapSet 1 nd none dims (some m) = .ok [] := by
  by_cases h1 : m.length = 1
  · exact vmapSet_some_ok_iff.mpr (Or.inl ⟨h1, rfl, rfl, rfl⟩)
  · obtain rfl : m = [] := List.eq_nil_of_length_eq_zero (by omega)
    exact vmapSet_some_nil _ _ _ _

theorem keys_dictSet (m : VMap) (k : String) (v : Option String) :
    keys (dictSet m k v) = if k ∈ keys m then keys m else keys m ++ [k] := by
  unfold dictSet
  by_cases h : k ∈ keys m
  · have hany : m.any (fun p => p.1 == k) = true := by
      simp only [keys, List.mem_map] at h
      obtain ⟨p, hp, hk⟩ := h
      exact List.any_eq_true.mpr ⟨p, hp, by simp [hk]⟩
    rw [if_pos hany, if_pos h]
    simp only [keys, List.map_map]
    apply List.map_congr_left
    intro p _
    simp only [Function.comp]
    split
    · rename_i hpk; exact (by simpa using hpk : p.1 = k).symm
    · rfl
  · have hany : ¬ m.any (fun p => p.1 == k) = true := by
      intro ha
      obtain ⟨p, hp, hk⟩ := List.any_eq_true.mp ha
      exact h (List.mem_map.mpr ⟨p, hp, by simpa using hk⟩)
    rw [if_neg hany, if_neg h]
    simp [keys]

theorem dictSet_length (m : VMap) (k : String) (v : Option String) :
    (dictSet m k v).length = if k ∈ keys m then m.length else m.length + 1 := by
  have := congrArg List.length (keys_dictSet m k v)
  simp only [keys, List.length_map] at this
  rw [this]
  split <;> simp

theorem dictSet_new (m : VMap) (k : String) (v : Option String) (h : k ∉ keys m) : dictSet m k v = m ++ [(k, v)] := by
  unfold dictSet
  have hany : ¬ m.any (fun p => p.1 == k) = true := by
    intro ha
    obtain ⟨p, hp, hk⟩ := List.any_eq_true.mp ha
    exact h (List.mem_map.mpr ⟨p, hp, by simpa using hk⟩)
  rw [if_neg hany]

theorem dictUpdate_cons (m : VMap) (p : String × Option String) (u : VMap) :
    dictUpdate m (p :: u) = dictUpdate (dictSet m p.1 p.2) u := rfl

theorem dictUpdate_nil (m : VMap) : dictUpdate m [] = m := rfl

theorem dictUpdate_length_le (u : VMap) : ∀ m : VMap, (dictUpdate m u).length ≤ m.length + u.length := by
  induction u with
  | nil => intro m; simp [dictUpdate_nil]
  | cons p u ih =>
    intro m
    rw [dictUpdate_cons]
    have h1 := ih (dictSet m p.1 p.2)
    have h2 := dictSet_length m p.1 p.2
    simp only [List.length_cons]
    split at h2 <;> omega

/-- the merged dict has as many entries as both together only if no key repeats; then it is
the concatenation -/
theorem dictUpdate_full (u : VMap) : ∀ m : VMap, (dictUpdate m u).length = m.length + u.length →
    dictUpdate m u = m ++ u ∧ (keys u).Nodup ∧ ∀ x ∈ keys u, x ∉ keys m := by
  induction u with
  | nil => intro m _; simp [dictUpdate_nil]
  | cons p u ih =>
    intro m h
    rw [dictUpdate_cons] at h ⊢
    have h1 := dictUpdate_length_le u (dictSet m p.1 p.2)
    have h2 := dictSet_length m p.1 p.2
    simp only [List.length_cons] at h
    have hk : p.1 ∉ keys m := by
      intro hin
      rw [if_pos hin] at h2
      omega
    rw [dictSet_new m p.1 p.2 hk] at h ⊢
    obtain ⟨e, hnd, hdis⟩ := ih (m ++ [(p.1, p.2)]) (by simp only [List.length_append, List.length_cons, List.length_nil] at h ⊢; omega)
    refine ⟨by rw [e]; simp, ?_, ?_⟩
    · simp only [keys, List.map_cons, List.nodup_cons]
      refine ⟨?_, hnd⟩
      intro hin
      have := hdis p.1 hin
      simp [keys] at this
    · intro x hx
      simp only [keys, List.map_cons, List.mem_cons] at hx
      rcases hx with rfl | hx
      · exact hk
      · have := hdis x hx
        simp only [keys, List.map_append, List.map_cons, List.map_nil, List.mem_append, List.mem_singleton, not_or] at this
        exact this.1

theorem MetaStable.vmap_cases {f : CF} (hs : MetaStable f) :
    f.vmap = [] ∨ ∃ l, f.vdims = some l ∧ sameKeys (keys f.vmap) l = true := by
  rcases vmapSet_some_ok_iff.mp hs.2 with ⟨_, _, _, h⟩ | ⟨_, _, h⟩
  · exact Or.inl h
  · exact h

theorem sameKeys_iff (ks vs : List String) :
    sameKeys ks vs = true ↔ ks.length = vs.length ∧ (∀ x ∈ ks, x ∈ vs) ∧ (∀ x ∈ vs, x ∈ ks) := by
  simp only [sameKeys, Bool.and_eq_true, decide_eq_true_eq, List.all_eq_true, List.contains_iff_mem, and_assoc]

theorem MetaStable.vmap_length {f : CF} (hs : MetaStable f) (hp : 0 < f.nvdim) : f.vmap.length ≤ f.nvdim := by
  rcases hs.vmap_cases with h | ⟨l, hl, hk⟩
  · rw [h]; simp
  · have := ((sameKeys_iff _ _).mp hk).1
    simp only [keys, List.length_map] at this
    rw [this, (hs.labels hp l hl).2.1]

theorem MetaStable.full {f : CF} (hs : MetaStable f) (hp : 0 < f.nvdim) (h : f.vmap.length = f.nvdim) :
    ∃ l, f.vdims = some l ∧ sameKeys (keys f.vmap) l = true ∧ hasDup l = false := by
  rcases hs.vmap_cases with h0 | ⟨l, hl, hk⟩
  · rw [h0] at h; exact absurd h.symm (Nat.ne_of_gt hp)
  · exact ⟨l, hl, hk, (hs.labels hp l hl).2.2⟩

theorem none_ne_nil : (none : Option (List String)) ≠ some [] := nofun

/-- labels of the result of `<<`: the concatenation, or the default labels -/
def shlLabels (va vb : Option (List String)) (nv : Nat) : Option (List String) :=
  match shlVdims va vb with
  | none => Fld.defaultVdims nv
  | some l => some l

theorem shlLabels_unique (a b : List String) (nv : Nat) (hd : hasDup (a ++ b) = false) :
    shlLabels (some a) (some b) nv = some (a ++ b) := by
  unfold shlLabels shlVdims; simp [hd]

theorem dictUpdate_disjoint (u : VMap) : ∀ m : VMap, (keys u).Nodup → (∀ x ∈ keys u, x ∉ keys m) →
    dictUpdate m u = m ++ u := by
  induction u with
  | nil => intro m _ _; simp [dictUpdate_nil]
  | cons p u ih =>
    intro m hnd hdis
    rw [dictUpdate_cons, dictSet_new m p.1 p.2 (hdis p.1 (by simp [keys]))]
    simp only [keys, List.map_cons, List.nodup_cons] at hnd
    rw [ih (m ++ [(p.1, p.2)]) hnd.2 ?_]
    · simp
    · intro x hx
      simp only [keys, List.map_append, List.map_cons, List.map_nil, List.mem_append, List.mem_singleton, not_or]
      refine ⟨hdis x (by simp only [keys, List.map_cons, List.mem_cons]; exact Or.inr hx), ?_⟩
      rintro rfl
      exact hnd.1 hx

theorem MetaStable.unlabelled {f : CF} (hs : MetaStable f) (hp : 0 < f.nvdim) (h : f.vdims = none) :
    f.nvdim = 1 ∧ f.vmap = [] := by
  refine ⟨?_, ?_⟩
  · have h1 := hs.1
    rw [h] at h1
    simp only [vdimsSet] at h1
    exact (Fld.defaultVdims_eq_none_iff _).mp (Except.ok.inj h1)
  · rcases hs.vmap_cases with hm | ⟨l, hl, _⟩
    · exact hm
    · rw [h] at hl; cases hl

/-- `_as_array` on an array-like that is not mesh-shaped, has the requested last axis and
broadcasts to `n ++ [nv]` -/
theorem asArray_bcast (mesh : Mesh) (nv : Nat) (a : NDA GQ) (hne : a.shape ≠ mesh.n) (h0 : a.shape ≠ [])
    (hl : lastAx a.shape = nv) (hb : bshape a.shape (mesh.n ++ [nv]) = some (mesh.n ++ [nv])) :
    asArray mesh nv (.arr a) = .ok (⟨mesh.n ++ [nv], fun idx => a.get (bproj a.shape idx)⟩, false) := by
  simp only [asArray]
  rw [if_neg (fun hc => hne hc.2), if_neg h0, if_neg (by simpa using hl)]
  simp only [npFull, hb, if_true]

theorem fixVdims_ne_nil (vd : Option (List String)) (m : Nat) (h : vd ≠ some []) : fixVdims vd m ≠ some [] := by
  unfold fixVdims
  cases vd with
  | none => simp
  | some l =>
    simp only
    split
    · simp
    · exact h

/-- the mapping setter accepts `self`'s mapping for a result with `m` components exactly when
`m` is `self`'s count or the mapping is empty -/
theorem vmap_for_count (f : CF) (hst : MetaStable f) (hp : 0 < f.nvdim) (m nd : Nat)
    (dims : List String) (hne : m ≠ f.nvdim) (h1 : f.nvdim = 1) :
    (∃ vm, vmapSet m nd (Fld.defaultVdims m) dims (some f.vmap) = .ok vm) ↔ f.vmap = [] := by
  constructor
  · rintro ⟨vm, h⟩
    rcases vmapSet_some_ok_iff.mp h with ⟨_, hm1, _⟩ | ⟨_, _, h0 | ⟨l, hl, hk⟩⟩
    · exact absurd (hm1.trans h1.symm) hne
    · exact h0
    · rcases hst.vmap_cases with h0 | ⟨l', hl', hk'⟩
      · exact h0
      · -- the keys would be `f`'s one label and the `m` default labels at once
        have e := ((sameKeys_iff _ _).mp hk').1
        rw [((sameKeys_iff _ _).mp hk).1, (Fld.defaultVdims_ok m l hl).1, (hst.labels hp l' hl').2.1] at e
        exact absurd e hne
  · intro h0
    exact ⟨[], by rw [h0]; exact vmapSet_some_nil _ _ _ _⟩

/-! ## `Good`, the metadata `Ty`, `Accepts`, and the one constructor lemma

`mkField_accepts` is the general statement; `mkField_accepts_named` derives its two idempotence hypotheses on a mesh that
names its axes, `mkField_from_stable` is the instance "labels and mapping of a `MetaStable` source"; in C03Accepts
`mkField_scalar_accepts` (no labels, no mapping, one component), `mkField_cross_accepts` (the source's labels, default
mapping, three components), `mkField_plain_accepts` (no labels, empty mapping), `mkField_bcast_accepts` and
`mkField_num_accepts` (a `value=` that is broadcast) are its other instances. -/

/-- a field as the algebra meets it: array and mask of the mesh's shape, labels and mapping
in the state a constructor leaves, living on the mesh `M` -/
def Good (M : Mesh) (f : CF) : Prop := CFwf f ∧ MetaStable f ∧ f.mesh = M

theorem Good.wf {M : Mesh} {f : CF} (h : Good M f) : CFwf f := h.1
theorem Good.stable {M : Mesh} {f : CF} (h : Good M f) : MetaStable f := h.2.1
theorem Good.mesh {M : Mesh} {f : CF} (h : Good M f) : f.mesh = M := h.2.2

theorem fields_wf {env : Env} {M : Mesh} (hgood : ∀ f ∈ env.fields, Good M f) :
    ∀ f ∈ env.fields, CFwf f ∧ f.mesh.n = M.n :=
  fun f hf => ⟨(hgood f hf).1, by rw [(hgood f hf).2.2]⟩

/-- the mesh names all its axes and is close to itself (non-negative tolerances) -/
def MeshOk (M : Mesh) : Prop := M.region.dims.length = M.region.ndim ∧ meshAllclose M M = .ok true

/-- what can be said statically about the result of an expression -/
structure Ty where
  nv : Nat
  vdims : Option (List String)
  vmap : VMap
  unit : Option String
  kind : Kind
  deriving DecidableEq

def tyOf (f : CF) : Ty := ⟨f.nvdim, f.vdims, f.vmap, f.unit, f.kind⟩

/-- result of an operation that rebuilds the field without unit, with dtype kind `k` -/
def Ty.res (t : Ty) (k : Kind) : Ty := { t with unit := none, kind := k }

/-- dtype kind of the result of a binary operation between two fields -/
def kindFF (tl tr : Ty) : Kind := (tl.kind.join tr.kind).ctor

theorem tyOf_eq {g : CF} {t : Ty} (h1 : g.nvdim = t.nv) (h2 : g.vdims = t.vdims) (h3 : g.vmap = t.vmap)
    (h4 : g.unit = t.unit) (h5 : g.kind = t.kind) : tyOf g = t := by
  cases t
  simp only [tyOf] at *
  subst h1 h2 h3 h4 h5
  rfl

/-- the call returns a `Good` field on `M` that carries the component count, labels, mapping, unit and dtype kind `t` -/
def Accepts (M : Mesh) (x : Except Err CF) (t : Ty) : Prop := ∃ g, x = .ok g ∧ Good M g ∧ tyOf g = t

theorem Accepts.of_conj {M : Mesh} {x : Except Err CF} {a b c d e}
    (h : ∃ g, x = .ok g ∧ Good M g ∧ g.nvdim = a ∧ g.vdims = b ∧ g.vmap = c ∧ g.unit = d ∧ g.kind = e) :
    Accepts M x ⟨a, b, c, d, e⟩ :=
  let ⟨g, hx, hg, h1, h2, h3, h4, h5⟩ := h
  ⟨g, hx, hg, tyOf_eq h1 h2 h3 h4 h5⟩

theorem Accepts.conj {M : Mesh} {x : Except Err CF} {a b c d e} (h : Accepts M x ⟨a, b, c, d, e⟩) :
    ∃ g, x = .ok g ∧ Good M g ∧ g.nvdim = a ∧ g.vdims = b ∧ g.vmap = c ∧ g.unit = d ∧ g.kind = e :=
  let ⟨g, hx, hg, ht⟩ := h
  ⟨g, hx, hg, congrArg Ty.nv ht, congrArg Ty.vdims ht, congrArg Ty.vmap ht, congrArg Ty.unit ht, congrArg Ty.kind ht⟩

theorem Accepts.cast {M : Mesh} {x : Except Err CF} {t t' : Ty} (h : Accepts M x t) (e : t = t') : Accepts M x t' :=
  e ▸ h

theorem Accepts.imp {M : Mesh} {x y : Except Err CF} {t : Ty} (h : Accepts M y t) (hxy : ∀ g, y = .ok g → x = .ok g) :
    Accepts M x t :=
  let ⟨g, hy, hg, ht⟩ := h
  ⟨g, hxy g hy, hg, ht⟩

/-- an accepted unary operation as the value of a unary node -/
theorem Accepts.un {env : Env} {M : Mesh} {u : UnOp} {e : Expr} {f : CF} {t : Ty} (h : Accepts M (applyUn env u f) t)
    (he : evalF env e = .ok (.fld f)) : ∃ g, evalF env (.un u e) = .ok (.fld g) ∧ Good M g ∧ tyOf g = t :=
  let ⟨g, hx, hg, ht⟩ := h
  ⟨g, by simp only [evalF, he, hx], hg, ht⟩

/-- an accepted method call as the result of a binary step that reaches that method -/
theorem Accepts.step {env : Env} {M : Mesh} {b : BinOp} {vl vr : Val} {x : Except Err CF} {t : Ty}
    (h : Accepts M x t) (hb : applyBin env b vl vr = liftFld x) :
    ∃ g, applyBin env b vl vr = .ok (.fld g) ∧ Good M g ∧ tyOf g = t :=
  let ⟨g, hx, hg, ht⟩ := h
  ⟨g, by rw [hb, hx]; rfl, hg, ht⟩

/-- an accepted method call as the value of a binary node over two evaluated subtrees -/
theorem Accepts.bin {env : Env} {M : Mesh} {b : BinOp} {l r : Expr} {vl vr : Val} {x : Except Err CF} {t : Ty}
    (h : Accepts M x t) (hl : evalF env l = .ok vl) (hr : evalF env r = .ok vr)
    (hb : applyBin env b vl vr = liftFld x) : ∃ g, evalF env (.bin b l r) = .ok (.fld g) ∧ Good M g ∧ tyOf g = t := by
  rw [evalF_bin env b l r _ _ hl hr]
  exact h.step hb

/-- **the constructor accepts** whatever `_as_array` turns into an array of the field's shape, with labels and a
mapping its setters accept and keep: the result is `Good` and stores exactly what the setters return -/
theorem mkField_accepts (mesh : Mesh) (nv : Nat) (val : Value) (kind : Kind) (vd : Option (List String))
    (valid : Option (NDA Bool)) (vm : Option VMap) (unit : Option String) (hnv : 0 < nv) {arr : NDA GQ}
    (ha : asArray mesh nv val = .ok (arr, false)) (has : arr.shape = mesh.n ++ [nv])
    (hv : ∀ v, valid = some v → v.shape = mesh.n) {vd' : Option (List String)} {vm' : VMap}
    (hvd : vdimsSet nv vd = .ok vd') (hvm : vmapSet nv mesh.region.ndim vd' mesh.region.dims vm = .ok vm')
    (hvd' : vdimsSet nv vd' = .ok vd')
    (hvm' : vmapSet nv mesh.region.ndim vd' mesh.region.dims (some vm') = .ok vm') :
    Accepts mesh (mkField mesh nv val kind vd valid vm unit) ⟨nv, vd', vm', unit, kind.ctor⟩ := by
  obtain ⟨vl, hvl, hvls⟩ := validSet_accepts mesh valid hv
  exact ⟨_, mkField_ok_iff.mpr ⟨hnv, arr, false, vl, vd', vm', ha, hvl, hvd, hvm, rfl⟩,
    ⟨⟨has, hvls, hnv⟩, ⟨hvd', hvm'⟩, rfl⟩, rfl⟩

/-- on a mesh whose region names all its axes the setters keep what they returned (labels argument not the explicitly
empty list) -/
theorem mkField_accepts_named (mesh : Mesh) (hdims : mesh.region.dims.length = mesh.region.ndim) (nv : Nat) (val : Value)
    (kind : Kind) (vd : Option (List String)) (valid : Option (NDA Bool)) (vm : Option VMap) (unit : Option String)
    (hnv : 0 < nv) {arr : NDA GQ} (ha : asArray mesh nv val = .ok (arr, false)) (has : arr.shape = mesh.n ++ [nv])
    (hv : ∀ v, valid = some v → v.shape = mesh.n) (hne : vd ≠ some []) {vd' : Option (List String)} {vm' : VMap}
    (hvd : vdimsSet nv vd = .ok vd') (hvm : vmapSet nv mesh.region.ndim vd' mesh.region.dims vm = .ok vm') :
    Accepts mesh (mkField mesh nv val kind vd valid vm unit) ⟨nv, vd', vm', unit, kind.ctor⟩ :=
  mkField_accepts mesh nv val kind vd valid vm unit hnv ha has hv hvd hvm (vdimsSet_idem nv hnv vd _ hne hvd)
    (vmapSet_idem nv _ _ _ vm _ hdims (fun l hl => (vdimsSet_result nv hnv vd _ hvd l hl).2.1) hvm)

/-- rebuild on `mesh` from a `MetaStable` source with the source's labels and mapping: accepted, the
result is `Good` and carries the source's count, labels and mapping -/
theorem mkField_from_stable (src : CF) (hst : MetaStable src) (hp : 0 < src.nvdim) (mesh : Mesh) (res : NDA GQ)
    (kind : Kind) (valid : Option (NDA Bool)) (unit : Option String)
    (hs : res.shape = mesh.n ++ [src.nvdim]) (hv : ∀ v, valid = some v → v.shape = mesh.n) :
    Accepts mesh (mkField mesh src.nvdim (.arr res) kind src.vdims valid (some src.vmap) unit)
      ⟨src.nvdim, src.vdims, src.vmap, unit, kind.ctor⟩ :=
  have hvm := vmapSet_some_stable _ _ mesh.region.ndim _ _ mesh.region.dims _ hst.2
  mkField_accepts mesh src.nvdim (.arr res) kind src.vdims valid (some src.vmap) unit hp (asArray_exact mesh _ res hs) rfl hv
    hst.1 hvm hst.1 hvm

end DFV.C03
