import DFV.Lemmas.C01Tol
/-! `np.remainder` on rationals (range, decomposition, multiples) and the remainder test shared by the divisibility
check of `Mesh(region, cell)` and `Mesh.is_aligned` (`notDivisible_false_iff`: passed iff within `t` of a whole
multiple; `C14.remTest` in `Lemmas/C14Rem.lean` is the same test under the name `is_aligned` uses); uniqueness of the
whole number, and `Mesh.mkCell?` as the conjunction of its tests. -/
/- `np.remainder` belongs to `Model/Basic.lean`; these lemmas keep the names `C14.…` under which C06, C07, C09 and C14 call them. -/
namespace DFV.C14
open DFV DFV.Mesh

theorem remainder_nonneg (a c : Rat) (hc : 0 < c) : 0 ≤ Mesh.remainder a c := by
  unfold Mesh.remainder
  have h := rat_floor_le (a / c)
  have : ((a / c).floor : Rat) * c ≤ a := by
    have := mul_le_mul_of_nonneg_right h hc.le
    rwa [div_mul_cancel₀ a hc.ne'] at this
  linarith

theorem remainder_lt (a c : Rat) (hc : 0 < c) : Mesh.remainder a c < c := by
  unfold Mesh.remainder
  have h := rat_lt_floor_add_one (a / c)
  have : a < (((a / c).floor : Rat) + 1) * c := by
    have := mul_lt_mul_of_pos_right h hc
    rwa [div_mul_cancel₀ a hc.ne'] at this
  linarith

theorem remainder_eq (a c : Rat) : a = ((a / c).floor : Rat) * c + Mesh.remainder a c := by
  unfold Mesh.remainder; ring

theorem remainder_of_multiple (z : Int) (c : Rat) (hc : 0 < c) : Mesh.remainder ((z : Rat) * c) c = 0 := by
  unfold Mesh.remainder
  have : ((z : Rat) * c / c) = (z : Rat) := by field_simp
  rw [this]
  have hf : ((z : Rat)).floor = z := rat_floor_eq _ z (le_refl _) (by linarith)
  rw [hf]; ring

theorem int_mul_add_abs_ge {c : Rat} (hc : 0 < c) {k : Int} (hk : k ≠ 0) (ε : Rat) : c - |ε| ≤ |(k : Rat) * c + ε| := by
  have h1 : (1 : Rat) ≤ |(k : Rat)| := by exact_mod_cast Int.one_le_abs hk
  have h2 : c ≤ |(k : Rat) * c| := by
    rw [abs_mul, abs_of_pos hc]; exact le_mul_of_one_le_left hc.le h1
  have h3 := abs_sub ((k : Rat) * c + ε) ε
  rw [add_sub_cancel_right] at h3
  linarith

end DFV.C14

namespace DFV.C01
open DFV DFV.Mesh

/-- the divisibility test of `Mesh(region, cell)` passes exactly when the edge is within `t` of a whole
multiple of the cell (every tolerance `t`; `Mesh.is_aligned` applies the same test to corner offsets) -/
theorem notDivisible_false_iff (x c t : Rat) (hc : 0 < c) :
    notDivisible x c t = false ↔ ∃ z : Int, |x - (z : Rat) * c| ≤ t := by
  have h0 := C14.remainder_nonneg x c hc
  have h1 := C14.remainder_lt x c hc
  unfold notDivisible
  rw [Bool.and_eq_false_iff, decide_eq_false_iff_not, decide_eq_false_iff_not, not_lt, not_lt]
  constructor
  · -- the nearest multiple is the one below (remainder small) or the one above (remainder near `c`)
    rintro (h | h)
    · exact ⟨(x / c).floor, show |remainder x c| ≤ t by rwa [abs_of_nonneg h0]⟩
    · refine ⟨(x / c).floor + 1, ?_⟩
      have e : x - (((x / c).floor + 1 : Int) : Rat) * c = -(c - remainder x c) := by push_cast; unfold remainder; ring
      rw [e, abs_neg, abs_of_nonneg (sub_nonneg.mpr h1.le)]
      exact sub_le_comm.mp h
  · rintro ⟨z, hz⟩
    have e : x - (z : Rat) * c = (((x / c).floor - z : Int) : Rat) * c + remainder x c := by
      push_cast; unfold remainder; ring
    rw [e] at hz
    by_cases hk : (x / c).floor - z = 0
    · rw [hk, Int.cast_zero, zero_mul, zero_add] at hz
      exact Or.inl ((le_abs_self _).trans hz)
    · have := C14.int_mul_add_abs_ge hc hk (remainder x c)
      rw [abs_of_nonneg h0] at this
      exact Or.inr (sub_le_comm.mp (this.trans hz))

theorem notDivisible_of_multiple (z : Int) (c t : Rat) (hc : 0 < c) (ht : 0 ≤ t) :
    notDivisible ((z : Rat) * c) c t = false :=
  (notDivisible_false_iff _ c t hc).mpr ⟨z, by rw [sub_self, abs_zero]; exact ht⟩

theorem multiple_unique (e c t : Rat) (hc : 0 < c) (htc : t < c / 2) (j k : Int)
    (hj : |e - (j : Rat) * c| ≤ t) (hk : |e - (k : Rat) * c| ≤ t) : j = k := by
  rw [abs_le] at hj hk
  have h3 : (j : Rat) - k < 1 := lt_of_mul_lt_mul_right (by linarith : ((j : Rat) - k) * c < 1 * c) hc.le
  have h4 : (k : Rat) - j < 1 := lt_of_mul_lt_mul_right (by linarith : ((k : Rat) - j) * c < 1 * c) hc.le
  have h3' : j - k < 1 := by exact_mod_cast h3
  have h4' : k - j < 1 := by exact_mod_cast h4
  omega

theorem round_of_multiple (e c t : Rat) (hc : 0 < c) (htc : t < c / 2) (k : Int)
    (hk : |e - (k : Rat) * c| ≤ t) : roundHalfEven (e / c) = k := by
  apply roundHalfEven_of_near
  have : e / c - (k : Rat) = (e - (k : Rat) * c) / c := by rw [div_sub' hc.ne', mul_comm]
  rw [this, abs_div, abs_of_pos hc, div_lt_iff₀ hc]
  linarith

theorem round_near (e c t : Rat) (hc : 0 < c) (htc : t < c / 2) (h : notDivisible e c t = false) :
    |e - (roundHalfEven (e / c) : Rat) * c| ≤ t := by
  obtain ⟨z, hz⟩ := (notDivisible_false_iff e c t hc).mp h
  rwa [round_of_multiple e c t hc htc z hz]

/-- `Mesh(region, cell=…)` succeeds exactly when its six tests pass; the counts are `round(edge/cell)` -/
theorem mkCell_ok_iff' (r : Region) (cell : List Rat) (bc : String) (m : Mesh) :
    Mesh.mkCell? r cell bc = .ok m ↔
      cell.length = r.ndim ∧ (∀ c ∈ cell, 0 < c) ∧
      r.containsPt (tab r.ndim fun a => r.lo a + cell.getD a 0) = true ∧
      (∀ a, a < r.ndim → notDivisible (r.edge a) (cell.getD a 0) (listMin cell / 1000) = false) ∧
      (∀ a, a < r.ndim → 1 ≤ (roundHalfEven (r.edge a / cell.getD a 0)).toNat) ∧
      bcOk r.dims bc.toLower = true ∧
      m = { region := r, n := tab r.ndim fun a => (roundHalfEven (r.edge a / cell.getD a 0)).toNat,
            bc := bc.toLower, subs := [] } := by
  unfold Mesh.mkCell?
  simp only [guard_ok_iff, not_not, Bool.not_eq_false, Bool.not_eq_eq_eq_not, Bool.not_true, allLt_iff,
    List.any_eq_true, not_exists, not_and, decide_eq_true_eq, not_le, Except.ok.injEq, eq_comm (a := m)]

/-- the 0.1 % tolerance `min(cell)/1000` is non-negative and less than half of every cell -/
theorem cellTol_bounds (cell : List Rat) (hpos : ∀ c ∈ cell, 0 < c) (a : Nat) (ha : a < cell.length) :
    0 < cell.getD a 0 ∧ 0 ≤ listMin cell / 1000 ∧ listMin cell / 1000 < cell.getD a 0 / 2 := by
  have hmem := getD_mem cell a 0 ha
  have h1 := hpos _ hmem
  have h2 := listMin_nonneg cell hpos
  have h3 := listMin_le_mem cell _ hmem
  exact ⟨h1, by linarith, by linarith⟩

/-- acceptance from the inputs: a cell that is positive, passes the containment test and is
within `min(cell)/1000` of dividing every edge a whole number `k ≥ 1` of times is accepted, with `n = k`. -/
theorem mkCell_of_near (r : Region) (cell : List Rat) (k : Nat → Nat) (bc : String)
    (hlen : cell.length = r.ndim) (hpos : ∀ c ∈ cell, 0 < c)
    (hfit : r.containsPt (tab r.ndim fun a => r.lo a + cell.getD a 0) = true)
    (hk : ∀ a, a < r.ndim → 1 ≤ k a ∧ |r.edge a - (k a : Rat) * cell.getD a 0| ≤ listMin cell / 1000)
    (hbc : bcOk r.dims bc.toLower = true) :
    Mesh.mkCell? r cell bc = .ok { region := r, n := tab r.ndim k, bc := bc.toLower, subs := [] } := by
  have hround : ∀ a, a < r.ndim → roundHalfEven (r.edge a / cell.getD a 0) = (k a : Int) := by
    intro a ha
    obtain ⟨hc, _, htc⟩ := cellTol_bounds cell hpos a (hlen ▸ ha)
    exact round_of_multiple _ _ _ hc htc (k a : Int) (by exact_mod_cast (hk a ha).2)
  rw [mkCell_ok_iff']
  refine ⟨hlen, hpos, hfit, fun a ha => ?_, fun a ha => ?_, hbc, ?_⟩
  · obtain ⟨hc, _, _⟩ := cellTol_bounds cell hpos a (hlen ▸ ha)
    exact (notDivisible_false_iff _ _ _ hc).mpr ⟨(k a : Int), by exact_mod_cast (hk a ha).2⟩
  · rw [hround a ha]; exact (hk a ha).1
  · congr 1
    exact tab_congr _ _ _ fun a ha => by rw [hround a ha]; rfl

theorem mkCell_of_exact (r : Region) (cell : List Rat) (k : Nat → Nat) (bc : String)
    (hlen : cell.length = r.ndim) (hpos : ∀ c ∈ cell, 0 < c)
    (hk : ∀ a, a < r.ndim → 0 < k a ∧ r.edge a = (k a : Rat) * cell.getD a 0)
    (hbc : bcOk r.dims bc.toLower = true) :
    Mesh.mkCell? r cell bc = .ok { region := r, n := tab r.ndim k, bc := bc.toLower, subs := [] } := by
  refine mkCell_of_near r cell k bc hlen hpos
    (containsPt_of_exact _ _ ⟨tab_length _ _, fun a ha => ?_⟩) (fun a ha => ⟨(hk a ha).1, ?_⟩) hbc
  · obtain ⟨hk0, hke⟩ := hk a ha
    have hc := (cellTol_bounds cell hpos a (hlen ▸ ha)).1
    have hk1 := mul_le_mul_of_nonneg_right (by exact_mod_cast hk0 : (1 : Rat) ≤ (k a : Rat)) hc.le
    unfold Region.edge at hke
    rw [getD_tab _ _ _ _ ha]
    constructor <;> linarith
  · rw [(hk a ha).2, sub_self, abs_zero]
    exact (cellTol_bounds cell hpos a (hlen ▸ ha)).2.1

theorem mkCell_near (r : Region) (hr : r.Inv) (cell : List Rat) (bc : String) (m : Mesh)
    (h : Mesh.mkCell? r cell bc = .ok m) (a : Nat) (ha : a < r.ndim) :
    1 ≤ m.nAt a ∧ |r.edge a - (m.nAt a : Rat) * cell.getD a 0| ≤ listMin cell / 1000 := by
  obtain ⟨hlen, hpos, _, hdiv, hcnt, _, rfl⟩ := (mkCell_ok_iff' r cell bc m).mp h
  obtain ⟨hc, _, htc⟩ := cellTol_bounds cell hpos a (hlen ▸ ha)
  have he : 0 < r.edge a := hr.edge_pos ha
  have hnat : ((roundHalfEven (r.edge a / cell.getD a 0)).toNat : Int) = roundHalfEven (r.edge a / cell.getD a 0) :=
    Int.toNat_of_nonneg (roundHalfEven_nonneg _ (div_pos he hc).le)
  unfold Mesh.nAt
  rw [getD_tab _ _ _ _ ha]
  refine ⟨hcnt a ha, ?_⟩
  have := round_near _ _ _ hc htc (hdiv a ha)
  rw [← hnat] at this
  exact_mod_cast this

theorem mkCell_inv (r : Region) (hr : r.Inv) (cell : List Rat) (bc : String) (m : Mesh)
    (h : Mesh.mkCell? r cell bc = .ok m) : m.Inv := by
  have hnear := mkCell_near r hr cell bc m h
  obtain ⟨_, _, _, _, _, _, rfl⟩ := (mkCell_ok_iff' r cell bc m).mp h
  exact ⟨hr, tab_length _ _, fun a ha => (hnear a ha).1⟩

/-- `mkCell_ok_iff'` read in terms of the inputs (the statement of `by_cell_ok_iff` of `Props/C01.lean`) -/
theorem mkCell_ok_iff_near (r : Region) (hr : r.Inv) (ht : 0 ≤ r.tol) (cell : List Rat) (bc : String) (m : Mesh) :
    Mesh.mkCell? r cell bc = .ok m ↔
      (cell.length = r.ndim ∧ (∀ c ∈ cell, 0 < c) ∧
       (∀ a, a < r.ndim → cell.getD a 0 - r.edge a ≤ band r (r.lo a + cell.getD a 0)) ∧
       bcOk r.dims bc.toLower = true) ∧
      m.region = r ∧ m.bc = bc.toLower ∧ m.subs = [] ∧ m.n.length = r.ndim ∧
      ∀ a, a < r.ndim → 1 ≤ m.nAt a ∧ |r.edge a - (m.nAt a : Rat) * cell.getD a 0| ≤ listMin cell / 1000 := by
  constructor
  · intro h
    obtain ⟨hlen, hpos, hcont, _, _, hbc, hm⟩ := (mkCell_ok_iff' r cell bc m).mp h
    have htol := (containsPt_iff r hr ht _).mp hcont
    refine ⟨⟨hlen, hpos, fun a ha => ?_, hbc⟩, by rw [hm], by rw [hm], by rw [hm],
      by rw [hm]; exact tab_length _ _, mkCell_near r hr cell bc m h⟩
    have := (htol.2 a ha).2
    rw [getD_tab _ _ _ _ ha] at this
    unfold Region.edge; linarith
  · rintro ⟨⟨hlen, hpos, hfit, hbc⟩, h1, h2, h3, h4, h5⟩
    have hcont : r.containsPt (tab r.ndim fun a => r.lo a + cell.getD a 0) = true := by
      rw [containsPt_iff r hr ht]
      refine ⟨tab_length _ _, fun a ha => ?_⟩
      rw [getD_tab _ _ _ _ ha]
      have hb := band_nonneg r hr ht (r.lo a + cell.getD a 0)
      have := (cellTol_bounds cell hpos a (hlen ▸ ha)).1
      have := hfit a ha
      unfold Region.edge at this
      constructor <;> linarith
    rw [mkCell_of_near r cell m.nAt bc hlen hpos hcont h5 hbc]
    congr 1
    have hn : m.n = tab r.ndim m.nAt := eq_tab_of_getD m.n r.ndim m.nAt 0 h4 (fun _ _ => rfl)
    cases m
    simp only at h1 h2 h3 hn
    subst h1 h2 h3
    rw [← hn]

end DFV.C01
