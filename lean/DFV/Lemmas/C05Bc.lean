import DFV.Lemmas.C05
import DFV.Lemmas.C13Bc
/-! how `bc` and the periodicity flags turn with the mesh (C05): `Mesh.rotate90` exchanges the two axis names in `bc` when both are
single lower-case characters (`rotBc1`, `swapCond`, `swapChar`).  `rotBc1` is the letter swap `T.rotBc · 1` of the step library
(`rotBc1_eq`), whose string-level facts (`Lemmas/C13Bc.lean`) give: the exchange is an involution and hands the `Mesh` constructor a string it
accepts unchanged (`rotBc1_invol`, `rotBc1_wf`).  Here: the periodicity of the axes turns along (`periodic_turn`), the exchange does not
depend on the order of the two names and leaves a `bc` that names neither axis alone. -/
namespace DFV.C05
open DFV DFV.C04

theorem dims_ne_of_ne (f : Fld) (hd : DimsOk f) (a b : Nat) (ha : a < f.mesh.ndim) (hb : b < f.mesh.ndim) (hab : a ≠ b) :
    f.mesh.region.dims.getD a "" ≠ f.mesh.region.dims.getD b "" := by
  intro he
  have h1 := hd.indexOf ha
  have h2 := hd.indexOf hb
  rw [he, h2] at h1
  injection h1 with h1
  exact hab h1.symm

/-! ### the model's exchange is the step library's -/

theorem swapChar_eq (da db : String) : swapChar da db = T.bcSwap da db := rfl

theorem rotBc_eq (bc da db : String) (k : Int) : T.rotBc bc da db k = rotBcK bc da db k := by
  unfold T.rotBc rotBcK rotBc1 swapChar
  cases T.isOdd k
  · simp
  · simp only [Bool.true_and, if_true]
    rfl

theorem rotBc1_eq (bc da db : String) : rotBc1 bc da db = T.rotBc bc da db 1 := (rotBc_eq bc da db 1).symm

/-! ### `bc` and the periodicity flags under a turn -/

/-- `periodic` in list form: some character of `bc` is the whole axis name -/
def perL (bc d : String) : Bool := bc.toList.any fun ch => decide ([ch] = d.toList)

/-- `bc` is one of the two words that name a non-periodic boundary condition -/
def isWord (bc : String) : Bool := bc == "neumann" || bc == "dirichlet"

theorem isWord_eq_false_iff (bc : String) : isWord bc = false ↔ bc ≠ "neumann" ∧ bc ≠ "dirichlet" := by
  unfold isWord
  simp only [Bool.or_eq_false_iff, beq_eq_false_iff_ne, ne_eq]

/-- periodic = `bc` is no word and one of its characters is the whole axis name (repo fix 61bf94db): `C04.periodicBc` in the terms of this file -/
theorem periodic_eq_perL (f : Fld) (ax : Nat) :
    periodic f ax = (!(isWord f.mesh.bc) && perL f.mesh.bc (f.mesh.region.dims.getD ax "")) := by
  unfold periodic C04.periodicBc perL isWord
  congr 2
  funext ch
  rw [Bool.eq_iff_iff]
  simp only [beq_iff_eq, decide_eq_true_eq]
  rw [← String.toList_inj, String.toList_singleton]

/-- the exchange of two characters is an involution, so an exchanged character of `bc` is the name `d` iff the character is the
exchanged name: the turned `bc` names `d` iff `bc` names what `d` is exchanged with -/
theorem perL_turn (bc da db d : String) (ca cb : Char) (ha : da.toList = [ca]) (hb : db.toList = [cb]) (hne : ca ≠ cb) :
    perL (String.ofList (bc.toList.map (swapChar da db))) d
      = perL bc (if d = da then db else if d = db then da else d) := by
  have inv := T.bcSwap_invol da db ca cb ha hb
  have sp := T.bcSwap_spec da db ca cb ha hb
  have key : ∀ ch x, T.bcSwap da db ch = x ↔ ch = T.bcSwap da db x :=
    fun ch x => ⟨fun h => by rw [← h, inv], fun h => by rw [h, inv]⟩
  unfold perL
  rw [String.toList_ofList, List.any_map]
  congr 1
  funext ch
  simp only [Function.comp]
  rw [Bool.eq_iff_iff, decide_eq_true_iff, decide_eq_true_iff, swapChar_eq]
  by_cases h1 : d = da
  · rw [if_pos h1, h1, ha, hb, List.cons.injEq, List.cons.injEq, and_iff_left rfl, and_iff_left rfl, key, sp, if_pos rfl]
  · rw [if_neg h1]
    by_cases h2 : d = db
    · rw [if_pos h2, h2, ha, hb, List.cons.injEq, List.cons.injEq, and_iff_left rfl, and_iff_left rfl, key, sp,
        if_neg (Ne.symm hne), if_pos rfl]
    · rw [if_neg h2]
      by_cases hx : ∃ x, d.toList = [x]
      · obtain ⟨x, hx⟩ := hx
        have n1 : x ≠ ca := fun e => h1 (by rw [← String.toList_inj, hx, ha, e])
        have n2 : x ≠ cb := fun e => h2 (by rw [← String.toList_inj, hx, hb, e])
        rw [hx, List.cons.injEq, List.cons.injEq, and_iff_left rfl, and_iff_left rfl, key, sp, if_neg n1, if_neg n2]
      · exact ⟨fun h => (hx ⟨_, h.symm⟩).elim, fun h => (hx ⟨_, h.symm⟩).elim⟩

theorem perL_empty (d : String) : perL "" d = false := by
  unfold perL
  have : ("" : String).toList = [] := by decide
  rw [this]; rfl

/-- the condition under which `Mesh.rotate90` exchanges the two axis names in `bc` (odd `k`) -/
def swapCond (bc da db : String) : Bool :=
  !(bc == "neumann" || bc == "dirichlet" || bc == "") && da.toList.length == 1 && db.toList.length == 1
    && da == da.toLower && db == db.toLower

theorem rotBc1_swap (bc da db : String) (h : swapCond bc da db = true) :
    rotBc1 bc da db = String.ofList (bc.toList.map (swapChar da db)) := by
  unfold rotBc1; unfold swapCond at h; rw [if_pos h]

theorem rotBc1_noswap (bc da db : String) (h : ¬ swapCond bc da db = true) : rotBc1 bc da db = bc := by
  unfold rotBc1; unfold swapCond at h; rw [if_neg h]

theorem swapCond_parts {bc da db : String} (h : swapCond bc da db = true) :
    bc ≠ "neumann" ∧ bc ≠ "dirichlet" ∧ bc ≠ "" ∧ da.toList.length = 1 ∧ db.toList.length = 1 ∧
    da.toLower = da ∧ db.toLower = db := by
  unfold swapCond at h
  simp only [Bool.and_eq_true, Bool.not_eq_true', Bool.or_eq_false_iff, beq_eq_false_iff_ne, beq_iff_eq, ne_eq] at h
  obtain ⟨⟨⟨⟨⟨⟨w1, w2⟩, w3⟩, s1⟩, s2⟩, l1⟩, l2⟩ := h
  exact ⟨w1, w2, w3, s1, s2, l1.symm, l2.symm⟩

theorem swapCond_of {bc da db : String} (w1 : bc ≠ "neumann") (w2 : bc ≠ "dirichlet") (w3 : bc ≠ "")
    (s1 : da.toList.length = 1) (s2 : db.toList.length = 1) (l1 : da.toLower = da) (l2 : db.toLower = db) :
    swapCond bc da db = true := by
  unfold swapCond
  simp only [Bool.and_eq_true, Bool.not_eq_true', Bool.or_eq_false_iff, beq_eq_false_iff_ne, beq_iff_eq, ne_eq]
  exact ⟨⟨⟨⟨⟨⟨w1, w2⟩, w3⟩, s1⟩, s2⟩, l1.symm⟩, l2.symm⟩

theorem swapCond_chars {bc da db : String} (h : swapCond bc da db = true) : ∃ ca cb, da.toList = [ca] ∧ db.toList = [cb] := by
  obtain ⟨_, _, _, s1, s2, _, _⟩ := swapCond_parts h
  obtain ⟨ca, hca⟩ := T.single_of_length da (by rw [← String.length_toList]; exact s1)
  obtain ⟨cb, hcb⟩ := T.single_of_length db (by rw [← String.length_toList]; exact s2)
  exact ⟨ca, cb, hca, hcb⟩

theorem char_ne_of_ne {da db : String} {ca cb : Char} (hne : da ≠ db) (hca : da.toList = [ca]) (hcb : db.toList = [cb]) : ca ≠ cb :=
  fun e => hne (by rw [← String.toList_inj, hca, hcb, e])

/-- what the `bc` setter's check gives the letter swap: `bc` is a word or empty, or its characters are pairwise different -/
theorem plain_or_distinct {dims : List String} {bc : String} (hok : Mesh.bcOk dims bc = true) :
    T.PlainBc bc ∨ T.Distinct bc.toList :=
  ((T.bcOk_iff dims bc).mp hok).imp id And.right

theorem swapped_not_word (dims : List String) (bc da db : String) (hok : Mesh.bcOk dims bc = true)
    (h : swapCond bc da db = true) : isWord (String.ofList (bc.toList.map (swapChar da db))) = false := by
  obtain ⟨w1, w2, w3, _⟩ := swapCond_parts h
  have hp : ¬ T.PlainBc bc := fun hp => hp.elim w3 fun hp => hp.elim w1 w2
  rw [← rotBc1_swap _ _ _ h, rotBc1_eq, isWord_eq_false_iff]
  have hn := mt (T.rotBc_plain_iff bc da db 1 (plain_or_distinct hok)).mp hp
  exact ⟨fun e => hn (Or.inr (Or.inl e)), fun e => hn (Or.inr (Or.inr e))⟩

theorem isWord_false_of {bc : String} (w1 : bc ≠ "neumann") (w2 : bc ≠ "dirichlet") : isWord bc = false :=
  (isWord_eq_false_iff bc).mpr ⟨w1, w2⟩

/-- on a word or an empty `bc` no axis is periodic (repo fix 61bf94db) -/
theorem periodic_false_of_word (f : Fld) (x : Nat)
    (h : f.mesh.bc = "neumann" ∨ f.mesh.bc = "dirichlet" ∨ f.mesh.bc = "") : periodic f x = false := by
  rw [periodic_eq_perL]
  rcases h with h | h | h
  · rw [h]; simp [isWord]
  · rw [h]; simp [isWord]
  · rw [h, perL_empty]; simp

/-- periodicity after the turn: the two axes of the plane exchange it, every other axis keeps it
(`hok`: the `bc` of `f` is one the mesh accepts — needed to know that the
exchanged `bc` is none of the words `neumann` / `dirichlet`) -/
theorem periodic_turn (f R : Fld) (a b : Nat) (hd : DimsOk f) (hok : Mesh.bcOk f.mesh.region.dims f.mesh.bc = true)
    (ha : a < f.mesh.ndim) (hb : b < f.mesh.ndim)
    (hab : a ≠ b) (ht : BcTurns f a b) (hdims : R.mesh.region.dims = f.mesh.region.dims)
    (hbc : R.mesh.bc = rotBc1 f.mesh.bc (f.mesh.region.dims.getD a "") (f.mesh.region.dims.getD b "")) :
    periodic R a = periodic f b ∧ periodic R b = periodic f a ∧
    ∀ e, e < f.mesh.ndim → e ≠ a → e ≠ b → periodic R e = periodic f e := by
  have hne := dims_ne_of_ne f hd a b ha hb hab
  by_cases hsw : swapCond f.mesh.bc (f.mesh.region.dims.getD a "") (f.mesh.region.dims.getD b "") = true
  · obtain ⟨w1, w2, _⟩ := swapCond_parts hsw
    have hw := swapped_not_word _ _ _ _ hok hsw
    have hw0 := isWord_false_of w1 w2
    simp only [periodic_eq_perL, hdims, hbc, rotBc1_swap _ _ _ hsw, hw, hw0, Bool.not_false, Bool.true_and]
    obtain ⟨ca, cb, hca, hcb⟩ := swapCond_chars hsw
    have hcne := char_ne_of_ne hne hca hcb
    refine ⟨?_, ?_, ?_⟩
    · rw [perL_turn _ _ _ _ ca cb hca hcb hcne, if_pos rfl]
    · rw [perL_turn _ _ _ _ ca cb hca hcb hcne, if_neg (Ne.symm hne), if_pos rfl]
    · intro e he hea heb
      rw [perL_turn _ _ _ _ ca cb hca hcb hcne]
      have n1 := dims_ne_of_ne f hd e a he ha hea
      have n2 := dims_ne_of_ne f hd e b he hb heb
      rw [if_neg n1, if_neg n2]
  · have hR : ∀ x, periodic R x = periodic f x := by
      intro x; unfold periodic; rw [hdims, hbc, rotBc1_noswap _ _ _ hsw]
    refine ⟨?_, ?_, fun e _ _ _ => hR e⟩
    -- `bc` is not exchanged: both remaining goals say that `a` and `b` are periodic alike, one read from left to right, one from right to left
    all_goals
      rw [hR]
      rcases ht with ⟨s1, s2, l1, l2⟩ | hp
      · -- no exchange although both names are single lower-case characters: bc is a word or empty, nothing is periodic
        have hword : f.mesh.bc = "neumann" ∨ f.mesh.bc = "dirichlet" ∨ f.mesh.bc = "" := by
          by_contra hc
          simp only [not_or] at hc
          exact hsw (swapCond_of hc.1 hc.2.1 hc.2.2 s1 s2 l1 l2)
        rw [periodic_false_of_word f _ hword, periodic_false_of_word f _ hword]
      · first | exact hp | exact hp.symm

theorem rotBc1_invol (dims : List String) (bc da db : String) (hok : Mesh.bcOk dims bc = true) :
    rotBc1 (rotBc1 bc da db) da db = bc := by
  rw [rotBc1_eq, rotBc1_eq, T.rotBc_compose bc da db 1 1 (plain_or_distinct hok)]
  exact T.rotBc_even bc da db (1 + 1) rfl

theorem rotBc1_not_word (dims : List String) (bc da db : String) (hok : Mesh.bcOk dims bc = true)
    (w1 : bc ≠ "neumann") (w2 : bc ≠ "dirichlet") :
    rotBc1 bc da db ≠ "neumann" ∧ rotBc1 bc da db ≠ "dirichlet" := by
  by_cases hsw : swapCond bc da db = true
  · rw [rotBc1_swap _ _ _ hsw]; exact (isWord_eq_false_iff _).mp (swapped_not_word dims bc da db hok hsw)
  · rw [rotBc1_noswap _ _ _ hsw]; exact ⟨w1, w2⟩

theorem rotBc1_symm (bc da db : String) (hne : da ≠ db) : rotBc1 bc da db = rotBc1 bc db da := by
  unfold rotBc1
  by_cases h1 : da.toList.length = 1
  · by_cases h2 : db.toList.length = 1
    · obtain ⟨ca, hca⟩ := T.single_of_length da (by rw [← String.length_toList]; exact h1)
      obtain ⟨cb, hcb⟩ := T.single_of_length db (by rw [← String.length_toList]; exact h2)
      have hc := char_ne_of_ne hne hca hcb
      have hsw : ∀ c, swapChar da db c = swapChar db da c := by
        intro c
        rw [swapChar_eq, swapChar_eq, T.bcSwap_spec da db ca cb hca hcb, T.bcSwap_spec db da cb ca hcb hca]
        by_cases e1 : c = ca
        · subst e1; simp [hc]
        · by_cases e2 : c = cb
          · subst e2; simp [e1]
          · simp [e1, e2]
      have : (bc.toList.map (swapChar da db)) = (bc.toList.map (swapChar db da)) := List.map_congr_left (fun c _ => hsw c)
      simp only [h1, h2, this, beq_self_eq_true, Bool.and_true]
      have hcomm : (!(bc == "neumann" || bc == "dirichlet" || bc == "") && da == da.toLower && db == db.toLower)
          = (!(bc == "neumann" || bc == "dirichlet" || bc == "") && db == db.toLower && da == da.toLower) := by
        rw [Bool.and_assoc, Bool.and_comm (da == da.toLower), ← Bool.and_assoc]
      rw [hcomm]
    · simp [h1, h2]
  · simp [h1]

theorem rotBcK_wf {f : Fld} {a b : Nat} (wf : MeshWf f) (tw : TurnWf f a b) (k : Int) :
    (rotBcK f.mesh.bc (f.mesh.region.dims.getD a "") (f.mesh.region.dims.getD b "") k).toLower
      = rotBcK f.mesh.bc (f.mesh.region.dims.getD a "") (f.mesh.region.dims.getD b "") k ∧
    Mesh.bcOk f.mesh.region.dims (rotBcK f.mesh.bc (f.mesh.region.dims.getD a "") (f.mesh.region.dims.getD b "") k) = true := by
  unfold rotBcK
  split
  · exact ⟨tw.bc_lower, tw.bc_ok⟩
  · exact ⟨wf.bc_lower, wf.bc_ok⟩

theorem turnWf_symm {f : Fld} {a b : Nat} (wf : MeshWf f) (ha : a < f.mesh.ndim) (hb : b < f.mesh.ndim) (hab : a ≠ b)
    (tw : TurnWf f a b) : TurnWf f b a := by
  have hne := dims_ne_of_ne f wf.dims a b ha hb hab
  refine ⟨?_, by rw [← rotBc1_symm _ _ _ hne]; exact tw.bc_lower, by rw [← rotBc1_symm _ _ _ hne]; exact tw.bc_ok⟩
  rcases tw.turns with ⟨s1, s2, w1, w2⟩ | hp
  · exact Or.inl ⟨s2, s1, w2, w1⟩
  · exact Or.inr hp.symm

theorem rotBc1_of_open (bc da db : String) (ha : perL bc da = false) (hb : perL bc db = false) : rotBc1 bc da db = bc := by
  by_cases hc : swapCond bc da db = true
  · obtain ⟨ca, cb, hca, hcb⟩ := swapCond_chars hc
    have hm : bc.toList.map (swapChar da db) = bc.toList := by
      conv => rhs; rw [← List.map_id bc.toList]
      apply List.map_congr_left
      intro c hcm
      rw [swapChar_eq, T.bcSwap_spec da db ca cb hca hcb]
      unfold perL at ha hb
      rw [List.any_eq_false] at ha hb
      have h1 := ha c hcm
      have h2 := hb c hcm
      rw [hca] at h1; rw [hcb] at h2
      have n1 : c ≠ ca := by intro e; subst e; simp at h1
      have n2 : c ≠ cb := by intro e; subst e; simp at h2
      simp [n1, n2]
    rw [rotBc1_swap _ _ _ hc, hm, String.ofList_toList]
  · exact rotBc1_noswap _ _ _ hc

theorem rotBc1_of_open_plane (f : Fld) (a b : Nat) (pa : periodic f a = false) (pb : periodic f b = false) :
    rotBc1 f.mesh.bc (f.mesh.region.dims.getD a "") (f.mesh.region.dims.getD b "") = f.mesh.bc := by
  rw [periodic_eq_perL] at pa pb
  by_cases hw : isWord f.mesh.bc = true
  · apply rotBc1_noswap
    intro hc
    obtain ⟨w1, w2, _⟩ := swapCond_parts hc
    rw [isWord_false_of w1 w2] at hw; cases hw
  · have hw' : isWord f.mesh.bc = false := by simpa using hw
    rw [hw'] at pa pb
    exact rotBc1_of_open _ _ _ (by simpa using pa) (by simpa using pb)

/-! ### the turned `bc` of a well-formed mesh is well formed (repo fix be43fa9b: only lower-case names are exchanged) -/

theorem rotBc1_wf (f : Fld) (a b : Nat) (wf : MeshWf f) (ha : a < f.mesh.ndim) (hb : b < f.mesh.ndim) :
    (rotBc1 f.mesh.bc (f.mesh.region.dims.getD a "") (f.mesh.region.dims.getD b "")).toLower
      = rotBc1 f.mesh.bc (f.mesh.region.dims.getD a "") (f.mesh.region.dims.getD b "") ∧
    Mesh.bcOk f.mesh.region.dims (rotBc1 f.mesh.bc (f.mesh.region.dims.getD a "") (f.mesh.region.dims.getD b "")) = true := by
  rw [rotBc1_eq]
  exact ⟨T.rotBc_toLower _ _ _ _ wf.bc_lower, T.rotBc_bcOk _ _ _ _ _ wf.bc_ok (getD_mem _ a "" (by rw [wf.dims.1]; exact ha))
    (getD_mem _ b "" (by rw [wf.dims.1]; exact hb))⟩

end DFV.C05
