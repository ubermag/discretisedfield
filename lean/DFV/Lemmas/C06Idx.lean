import DFV.Lemmas.ListOps
import DFV.Lemmas.C06Sum
/-! Index-list lemmas for C06: `insertAt` / `removeAt` / `setAt`, in-range multi-indices,
summing out one axis of a nested sum. -/
namespace DFV.C06
open DFV

@[simp] theorem insertAt_zero {α} (i : List α) (k : α) : insertAt i 0 k = k :: i := by
  simp [insertAt]

@[simp] theorem insertAt_cons_succ {α} (x : α) (xs : List α) (ax : Nat) (k : α) :
    insertAt (x :: xs) (ax + 1) k = x :: insertAt xs ax k := by
  simp [insertAt]

theorem insertAt_length {α} (i : List α) (ax : Nat) (k : α) : (insertAt i ax k).length = i.length + 1 :=
  length_take_cons_drop i ax k

theorem getD_insertAt_self (i : List Nat) (ax k : Nat) (h : ax ≤ i.length) :
    (insertAt i ax k).getD ax 0 = k :=
  getD_take_cons_drop_self i ax k 0 h

theorem removeAt_insertAt {α} (i : List α) (ax : Nat) (k : α) (h : ax ≤ i.length) :
    removeAt (insertAt i ax k) ax = i :=
  removeAt_take_cons_drop i ax k h

theorem insertAt_removeAt (i : List Nat) (ax j : Nat) (h : ax < i.length) :
    insertAt (removeAt i ax) ax j = setAt i ax j := by
  induction i generalizing ax with
  | nil => simp at h
  | cons x xs ih =>
    cases ax with
    | zero => simp [removeAt, setAt]
    | succ ax => simp only [removeAt, insertAt_cons_succ, setAt]; rw [ih ax (by simpa using h)]

theorem setAt_insertAt_self (i : List Nat) (ax j l : Nat) (h : ax ≤ i.length) :
    setAt (insertAt i ax j) ax l = insertAt i ax l := by
  rw [← insertAt_removeAt (insertAt i ax j) ax l (by rw [insertAt_length]; omega), removeAt_insertAt i ax j h]

theorem lt_length_of_getD_pos (l : List Nat) (a : Nat) (h : 0 < l.getD a 0) : a < l.length := by
  by_contra hc
  have : l.getD a 0 = 0 := by
    simp [List.getD_eq_getElem?_getD, List.getElem?_eq_none (Nat.le_of_not_lt hc)]
  omega

/-! ## in-range multi-indices -/

theorem inRange_insertAt (shape i : List Nat) (ax j : Nat) (hax : ax < shape.length)
    (hi : inRange (removeAt shape ax) i = true) (hj : j < shape.getD ax 0) :
    inRange shape (insertAt i ax j) = true := by
  induction shape generalizing ax i with
  | nil => simp at hax
  | cons n ns ih =>
    cases ax with
    | zero =>
      simp only [removeAt] at hi
      simp only [insertAt_zero, inRange_cons]
      exact ⟨by simpa using hj, hi⟩
    | succ ax =>
      cases i with
      | nil => simp [removeAt, inRange] at hi
      | cons x xs =>
        simp only [removeAt, inRange_cons] at hi
        simp only [insertAt_cons_succ, inRange_cons]
        exact ⟨hi.1, ih xs ax (by simpa using hax) hi.2 (by simpa using hj)⟩

theorem inRange_removeAt (shape i : List Nat) (ax : Nat) (h : inRange shape i = true) :
    inRange (removeAt shape ax) (removeAt i ax) = true := by
  induction shape generalizing ax i with
  | nil => cases i <;> simp_all [inRange, removeAt]
  | cons n ns ih =>
    cases i with
    | nil => simp [inRange] at h
    | cons x xs =>
      rw [inRange_cons] at h
      cases ax with
      | zero => simpa [removeAt] using h.2
      | succ ax => simp only [removeAt, inRange_cons]; exact ⟨h.1, ih xs ax h.2⟩

theorem inRange_setAt (shape i : List Nat) (ax j : Nat) (h : inRange shape i = true)
    (hj : j < shape.getD ax 0) : inRange shape (setAt i ax j) = true := by
  induction shape generalizing ax i with
  | nil => simp at hj
  | cons n ns ih =>
    cases i with
    | nil => simp [inRange] at h
    | cons x xs =>
      rw [inRange_cons] at h
      cases ax with
      | zero => simp only [setAt, inRange_cons]; exact ⟨by simpa using hj, h.2⟩
      | succ ax => simp only [setAt, inRange_cons]; exact ⟨h.1, ih xs ax h.2 (by simpa using hj)⟩

theorem inRange_setAt_lt (shape i : List Nat) (ax l : Nat) (h : inRange shape i = true) (hl : l < i.getD ax 0) :
    inRange shape (setAt i ax l) = true := by
  have hax : ax < shape.length := inRange_length _ _ h ▸ lt_length_of_getD_pos i ax (by omega)
  exact inRange_setAt _ _ _ _ h (lt_trans hl (inRange_getD _ _ h ax hax))

theorem eq_nil_of_inRange_nil (i : List Nat) (h : inRange [] i = true) : i = [] := by
  cases i with
  | nil => rfl
  | cons x xs => simp [inRange] at h

/-! ## summing out one axis -/

theorem nestSum_removeAt (shape : List Nat) (ax : Nat) (hax : ax < shape.length) (g : List Nat → Rat) :
    nestSum (removeAt shape ax) (fun i => sumTo (shape.getD ax 0) fun j => g (insertAt i ax j))
      = nestSum shape g := by
  induction shape generalizing ax g with
  | nil => simp at hax
  | cons n ns ih =>
    cases ax with
    | zero =>
      simp only [removeAt, List.getD_cons_zero, insertAt_zero, nestSum]
      exact nestSum_sumTo ns n (fun j t => g (j :: t))
    | succ ax =>
      simp only [removeAt, List.getD_cons_succ, nestSum, insertAt_cons_succ]
      apply sumTo_congr
      intro x _
      exact ih ax (by simpa using hax) (fun t => g (x :: t))

/-! ## materialised arrays -/

theorem force_shape {α} (a : NDA α) (d : α) : (a.force d).shape = a.shape := rfl

end DFV.C06
