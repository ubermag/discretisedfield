import DFV.Model.C08
import DFV.Lemmas.Tab
import DFV.Lemmas.Index
import DFV.Lemmas.NDA
import DFV.Lemmas.C01
/-! Reads of extended and updated lists; in-range indices pointwise;
materialised arrays: `own` keeps the shape and every in-range entry, and is determined by them. -/
namespace DFV.C08
open DFV

/-! ## reading lists that were extended or updated -/

/-- the next two are about core's `List.set`, with which the store and the object table are updated (`getD_setAt_ne`,
`getD_setAt_eq` of `Lemmas/ListOps` say the same of `setAt`) -/
theorem getD_set_ne {α} (l : List α) (i j : Nat) (x d : α) (h : j ≠ i) : (l.set i x).getD j d = l.getD j d := by
  simp only [List.getD_eq_getElem?_getD, List.getElem?_set_ne (Ne.symm h)]

theorem getD_set_eq {α} (l : List α) (i : Nat) (x d : α) (h : i < l.length) : (l.set i x).getD i d = x := by
  simp [List.getD_eq_getElem?_getD, h]

theorem getD_snoc {α} (l : List α) (x d : α) (i : Nat) (hi : i < (l ++ [x]).length) :
    (i < l.length ∧ (l ++ [x]).getD i d = l.getD i d) ∨ (i = l.length ∧ (l ++ [x]).getD i d = x) := by
  rw [List.length_append, List.length_singleton] at hi
  by_cases c : i < l.length
  · exact Or.inl ⟨c, getD_append_left _ _ _ _ c⟩
  · obtain rfl : i = l.length := Nat.le_antisymm (Nat.le_of_lt_succ hi) (Nat.le_of_not_lt c)
    exact Or.inr ⟨rfl, getD_concat_length _ _ _⟩

/-! ## in-range, pointwise -/

theorem inRange_tab_inv (L : Nat) (f : Nat → Nat) (j : List Nat) (h : inRange (tab L f) j = true) :
    j.length = L ∧ ∀ a, a < L → j.getD a 0 < f a := by
  rw [inRange_iff, tab_length] at h
  exact ⟨h.1, fun a ha => getD_tab L f a 0 ha ▸ h.2 a ha⟩

/-! ## materialised arrays -/

-- unfolding by hand: the unifier is slow to see through `own` on its own
@[simp] theorem own_shape (m : Mask) : (own m).shape = m.shape := by
  unfold own NDA.force NDA.ofList NDA.ofArray; rfl

theorem own_get (m : Mask) (j : List Nat) (h : inRange m.shape j = true) : (own m).get j = m.get j :=
  NDA.force_get m false j h

theorem own_congr {a b : Mask} (hs : a.shape = b.shape) (h : ∀ i, inRange a.shape i = true → a.get i = b.get i) :
    own a = own b :=
  NDA.force_congr false hs h

theorem own_own (a : Mask) : own (own a) = own a :=
  own_congr (own_shape a) fun i hi => own_get a i (own_shape a ▸ hi)

end DFV.C08
