import DFV.Lemmas.C11Index
/-!
C11: the finite sums of the transform model over a commutative ring — `sumN` over `0 … n-1` and
`sumBox` over all cells of a box — and their invariance under the index maps of `C11Index`; the
product `prodN` over `0 … n-1`, in which every quantity that has one factor per axis is written.
-/
namespace DFV.C11
open DFV

variable {R : Type} [CommRing R]

/-! ### sums over `0 … n-1` -/

theorem sumN_congr (n : Nat) (f g : Nat → R) (h : ∀ i, i < n → f i = g i) : sumN n f = sumN n g := by
  induction n with
  | zero => rfl
  | succ n ih =>
    simp only [sumN]
    rw [ih (fun i hi => h i (by omega)), h n (by omega)]

theorem sumN_zero (n : Nat) : sumN n (fun _ => (0 : R)) = 0 := by
  induction n with
  | zero => rfl
  | succ n ih => simp [sumN, ih]

theorem sumN_add (n : Nat) (f g : Nat → R) : sumN n (fun i => f i + g i) = sumN n f + sumN n g := by
  induction n with
  | zero => simp [sumN]
  | succ n ih => simp only [sumN, ih]; ring

theorem sumN_mul_left (n : Nat) (c : R) (f : Nat → R) : sumN n (fun i => c * f i) = c * sumN n f := by
  induction n with
  | zero => simp [sumN]
  | succ n ih => simp only [sumN, ih]; ring

theorem sumN_mul_right (n : Nat) (c : R) (f : Nat → R) : sumN n (fun i => f i * c) = sumN n f * c := by
  induction n with
  | zero => simp [sumN]
  | succ n ih => simp only [sumN, ih]; ring

theorem sumN_comm (n m : Nat) (f : Nat → Nat → R) :
    sumN n (fun i => sumN m (fun j => f i j)) = sumN m (fun j => sumN n (fun i => f i j)) := by
  induction n with
  | zero => simp [sumN, sumN_zero]
  | succ n ih => simp only [sumN, ih, sumN_add]

theorem sumN_const (n : Nat) (c : R) : sumN n (fun _ => c) = (n : R) * c := by
  induction n with
  | zero => simp [sumN]
  | succ n ih => simp only [sumN, ih]; push_cast; ring

theorem sumN_single (n : Nat) (f : Nat → R) (j : Nat) (hj : j < n) (h : ∀ i, i < n → i ≠ j → f i = 0) :
    sumN n f = f j := by
  induction n with
  | zero => omega
  | succ n ih =>
    simp only [sumN]
    by_cases hjn : j = n
    · subst hjn
      rw [sumN_congr j f (fun _ => 0) (fun i hi => h i (by omega) (by omega)), sumN_zero]; ring
    · rw [ih (by omega) (fun i hi hne => h i (by omega) hne), h n (by omega) (fun e => hjn e.symm)]; ring

theorem sumN_split (a b : Nat) (f : Nat → R) : sumN (a + b) f = sumN a f + sumN b (fun i => f (a + i)) := by
  induction b with
  | zero => simp [sumN]
  | succ b ih =>
    have : a + (b + 1) = (a + b) + 1 := by omega
    rw [this]
    simp only [sumN, ih]; ring

theorem sumN_rotate (n s : Nat) (hs : s ≤ n) (g : Nat → R) : sumN n (fun k => g ((k + s) % n)) = sumN n g := by
  have hL : ∀ F : Nat → R, sumN n F = sumN (n - s) F + sumN s (fun i => F (n - s + i)) := by
    intro F
    have h := sumN_split (n - s) s F
    rwa [Nat.sub_add_cancel hs] at h
  have hR : sumN n g = sumN s g + sumN (n - s) (fun i => g (s + i)) := by
    have h := sumN_split s (n - s) g
    rwa [Nat.add_sub_cancel' hs] at h
  rw [hL, hR]
  have e1 : sumN (n - s) (fun k => g ((k + s) % n)) = sumN (n - s) (fun i => g (s + i)) := by
    apply sumN_congr
    intro k hk
    rw [Nat.mod_eq_of_lt (by omega), Nat.add_comm]
  have e2 : sumN s (fun i => g ((n - s + i + s) % n)) = sumN s g := by
    apply sumN_congr
    intro i hi
    have : n - s + i + s = i + n := by omega
    rw [this, Nat.add_mod_right, Nat.mod_eq_of_lt (by omega)]
  rw [e1, e2]; ring

theorem sumN_mul_sumN (n m : Nat) (f g : Nat → R) :
    sumN n f * sumN m g = sumN n (fun i => sumN m (fun j => f i * g j)) := by
  rw [← sumN_mul_right]
  apply sumN_congr
  intro i _
  rw [sumN_mul_left]

theorem sumN_succ_front (n : Nat) (f : Nat → R) : sumN (n + 1) f = f 0 + sumN n (fun i => f (i + 1)) := by
  induction n with
  | zero => simp [sumN]
  | succ n ih => rw [sumN, ih]; simp only [sumN]; ring

theorem sumN_reverse (n : Nat) (f : Nat → R) : sumN n (fun k => f (n - 1 - k)) = sumN n f := by
  induction n generalizing f with
  | zero => rfl
  | succ n ih =>
    rw [sumN_succ_front n f, ← ih (fun i => f (i + 1)), sumN, Nat.add_sub_cancel, Nat.sub_self,
      sumN_congr n (fun k => f (n - k)) (fun k => f (n - 1 - k + 1)) (fun k hk => by congr 1; omega)]
    ring

theorem sumN_neg (n : Nat) (g : Nat → R) : sumN n (fun k => g ((n - k % n) % n)) = sumN n g := by
  by_cases hn : n = 0
  · subst hn; rfl
  · rw [← sumN_rotate n 1 (by omega) g, ← sumN_reverse n (fun x => g ((x + 1) % n))]
    apply sumN_congr
    intro k hk
    rw [Nat.mod_eq_of_lt hk]
    congr 2; omega

theorem sumN_restrict (n h : Nat) (hh : h ≤ n) (f : Nat → R) (h0 : ∀ i, h ≤ i → i < n → f i = 0) :
    sumN n f = sumN h f := by
  have : n = h + (n - h) := by omega
  rw [this, sumN_split]
  have : sumN (n - h) (fun i => f (h + i)) = 0 := by
    rw [sumN_congr (n - h) _ (fun _ => 0) (fun i hi => h0 (h + i) (by omega) (by omega)), sumN_zero]
  rw [this, add_zero]

/-! ### products over `0 … n-1` -/

/-- `f 0 * f 1 * … * f (n-1)` -/
def prodN : Nat → (Nat → R) → R
  | 0, _ => 1
  | n + 1, f => prodN n f * f n

theorem prodN_congr (n : Nat) (f g : Nat → R) (h : ∀ i, i < n → f i = g i) : prodN n f = prodN n g := by
  induction n with
  | zero => rfl
  | succ n ih =>
    simp only [prodN]
    rw [ih (fun i hi => h i (by omega)), h n (by omega)]

theorem prodN_one (n : Nat) : prodN n (fun _ => (1 : R)) = 1 := by
  induction n with
  | zero => rfl
  | succ n ih => simp [prodN, ih]

theorem prodN_mul (n : Nat) (f g : Nat → R) : prodN n (fun i => f i * g i) = prodN n f * prodN n g := by
  induction n with
  | zero => simp [prodN]
  | succ n ih => simp only [prodN, ih]; ring

theorem prodN_single (n : Nat) (f : Nat → R) (j : Nat) (hj : j < n) (h : ∀ i, i < n → i ≠ j → f i = 1) :
    prodN n f = f j := by
  induction n with
  | zero => omega
  | succ n ih =>
    simp only [prodN]
    by_cases hjn : j = n
    · subst hjn
      rw [prodN_congr j f (fun _ => 1) (fun i hi => h i (by omega) (by omega)), prodN_one]; ring
    · rw [ih (by omega) (fun i hi hne => h i (by omega) hne), h n (by omega) (fun e => hjn e.symm)]; ring

theorem prodN_succ_front (n : Nat) (f : Nat → R) : prodN (n + 1) f = f 0 * prodN n (fun i => f (i + 1)) := by
  induction n with
  | zero => simp [prodN]
  | succ n ih => rw [prodN, ih]; simp only [prodN]; ring

/-! ### sums over a box -/

/-- sum over all cells of a box, first axis outermost -/
def sumBox : List Nat → (List Nat → R) → R
  | [], f => f []
  | n :: ns, f => sumN n fun r => sumBox ns fun rs => f (r :: rs)

theorem sumBox_congr (ns : List Nat) (f g : List Nat → R) (h : ∀ i, inRange ns i = true → f i = g i) :
    sumBox ns f = sumBox ns g := by
  induction ns generalizing f g with
  | nil => simp only [sumBox]; exact h [] (by simp [inRange])
  | cons n ns ih =>
    simp only [sumBox]
    apply sumN_congr
    intro r hr
    apply ih
    intro rs hrs
    exact h (r :: rs) (by rw [inRange_cons]; exact ⟨hr, hrs⟩)

theorem sumBox_mul_right (ns : List Nat) (f : List Nat → R) (c : R) :
    sumBox ns (fun i => f i * c) = sumBox ns f * c := by
  induction ns generalizing f with
  | nil => simp [sumBox]
  | cons n ns ih =>
    simp only [sumBox]
    rw [← sumN_mul_right]
    apply sumN_congr
    intro r _
    exact ih (fun rs => f (r :: rs))

theorem sumBox_add (ns : List Nat) (f g : List Nat → R) :
    sumBox ns (fun i => f i + g i) = sumBox ns f + sumBox ns g := by
  induction ns generalizing f g with
  | nil => simp [sumBox]
  | cons n ns ih =>
    simp only [sumBox]
    rw [← sumN_add]
    apply sumN_congr
    intro r _
    exact ih (fun rs => f (r :: rs)) (fun rs => g (r :: rs))

theorem sumBox_mul_left (ns : List Nat) (f : List Nat → R) (c : R) :
    sumBox ns (fun i => c * f i) = c * sumBox ns f := by
  rw [mul_comm, ← sumBox_mul_right]
  apply sumBox_congr
  intro i _; ring

theorem sumBox_zero (ns : List Nat) : sumBox ns (fun _ => (0 : R)) = 0 := by
  induction ns with
  | nil => rfl
  | cons n ns ih => simp only [sumBox, ih, sumN_zero]

theorem sumBox_sumN (ns : List Nat) (n : Nat) (h : Nat → List Nat → R) :
    sumBox ns (fun ms => sumN n (fun k => h k ms)) = sumN n (fun k => sumBox ns (h k)) := by
  induction ns generalizing h with
  | nil => rfl
  | cons n' ns ih =>
    simp only [sumBox]
    rw [sumN_congr n' _ _ (fun r _ => ih (fun k rs => h k (r :: rs)))]
    exact sumN_comm n' n _

theorem sumBox_single (ns : List Nat) (f : List Nat → R) (j : List Nat) (hj : inRange ns j = true)
    (h : ∀ i, inRange ns i = true → i ≠ j → f i = 0) : sumBox ns f = f j := by
  induction ns generalizing f j with
  | nil =>
    cases j with
    | nil => rfl
    | cons x xs => simp [inRange] at hj
  | cons n ns ih =>
    cases j with
    | nil => simp [inRange] at hj
    | cons j0 js =>
      rw [inRange_cons] at hj
      simp only [sumBox]
      rw [sumN_single n _ j0 hj.1]
      · apply ih _ js hj.2
        intro i hi hne
        exact h (j0 :: i) (by rw [inRange_cons]; exact ⟨hj.1, hi⟩) (by simpa using hne)
      · intro r hr hne
        rw [sumBox_congr ns _ (fun _ => 0), sumBox_zero]
        intro i hi
        exact h (r :: i) (by rw [inRange_cons]; exact ⟨hr, hi⟩) (by simp [hne])

/-! ### box sums under the index maps -/

/-- a sum over the box does not change under an index map that permutes every axis -/
theorem sumBox_imap (φ : Nat → Nat → Nat → Nat)
    (hφ : ∀ a n (g : Nat → R), sumN n (fun j => g (φ a n j)) = sumN n g)
    (ns : List Nat) (g : List Nat → R) : sumBox ns (fun m => g (imap φ ns m)) = sumBox ns g := by
  induction ns generalizing φ g with
  | nil => rfl
  | cons n ns ih =>
    simp only [sumBox, imap_cons]
    rw [sumN_congr n _ _ fun r _ => ih (fun a => φ (a + 1)) (fun a => hφ (a + 1)) fun x => g (φ 0 n r :: x)]
    exact hφ 0 n fun r' => sumBox ns fun rs => g (r' :: rs)

theorem sumBox_axiswise (φ : Nat → Nat → Nat) (hφ : ∀ n (g : Nat → R), sumN n (fun j => g (φ n j)) = sumN n g)
    (ns : List Nat) (g : List Nat → R) : sumBox ns (fun m => g (axiswise φ ns m)) = sumBox ns g := by
  rw [← sumBox_imap (fun _ => φ) (fun _ => hφ) ns g]
  exact sumBox_congr ns _ _ fun m hm => by rw [axiswise_eq_imap φ ns m (inRange_length _ _ hm)]

theorem sumBox_ishift (ns : List Nat) (g : List Nat → R) : sumBox ns (fun m => g (ishift ns m)) = sumBox ns g := by
  rw [ishift_eq]; exact sumBox_axiswise _ (fun n g => sumN_rotate n (n / 2) (Nat.div_le_self n 2) g) ns g

theorem sumBox_fshift (ns : List Nat) (g : List Nat → R) : sumBox ns (fun m => g (fshift ns m)) = sumBox ns g := by
  rw [fshift_eq]; exact sumBox_axiswise _ (fun n g => sumN_rotate n (n - n / 2) (Nat.sub_le n _) g) ns g

theorem sumBox_negIdx (ns : List Nat) (g : List Nat → R) : sumBox ns (fun k => g (negIdx ns k)) = sumBox ns g := by
  rw [negIdx_eq]; exact sumBox_axiswise _ sumN_neg ns g

theorem sumBox_leadwise (φ : Nat → Nat → Nat) (hφ : ∀ n (g : Nat → R), sumN n (fun j => g (φ n j)) = sumN n g)
    (ns : List Nat) (g : List Nat → R) : sumBox ns (fun m => g (leadwise φ ns m)) = sumBox ns g := by
  rw [← sumBox_imap (fun a n j => if a + 1 = ns.length then j else φ n j)
    (fun a n g => by split; rfl; exact hφ n g) ns g]
  exact sumBox_congr ns _ _ fun m hm => by rw [leadwise, inRange_length _ _ hm]

theorem sumBox_fshiftR (ns : List Nat) (g : List Nat → R) :
    sumBox ns (fun m => g (fshiftR ns m)) = sumBox ns g := by
  rw [fshiftR_eq]; exact sumBox_leadwise _ (fun n g => sumN_rotate n (n - n / 2) (Nat.sub_le n _) g) ns g

theorem sumBox_ishiftR (ns : List Nat) (g : List Nat → R) :
    sumBox ns (fun m => g (ishiftR ns m)) = sumBox ns g := by
  rw [ishiftR_eq]; exact sumBox_leadwise _ (fun n g => sumN_rotate n (n / 2) (Nat.div_le_self n 2) g) ns g

theorem sumBox_mirrorR (s : List Nat) (g : List Nat → R) : sumBox s (fun m => g (mirrorR s m)) = sumBox s g := by
  unfold mirrorR
  rw [sumBox_fshiftR s (fun k => g (ishiftR s (negIdx s k))), sumBox_negIdx s (fun k => g (ishiftR s k)),
    sumBox_ishiftR]

theorem sumBox_half (s : List Nat) (hpos : 0 < s.getLastD 0) (f : List Nat → R)
    (h0 : ∀ m, inRange s m = true → ¬ m.getLastD 0 ≤ s.getLastD 0 / 2 → f m = 0) :
    sumBox s f = sumBox (halfShape s) f := by
  induction s generalizing f with
  | nil => simp at hpos
  | cons n ns ih =>
    by_cases hns : ns = []
    · subst hns
      have hh : halfShape [n] = [n / 2 + 1] := by simp [halfShape, tab]
      have hn : 0 < n := by simpa using hpos
      rw [hh]
      simp only [sumBox]
      exact sumN_restrict n (n / 2 + 1) (by omega) (fun r => f [r]) (fun i hi hin => by
        apply h0 [i] (by simp [inRange, hin])
        simp; omega)
    · rw [halfShape_cons n ns hns]
      simp only [sumBox]
      apply sumN_congr
      intro r hr
      apply ih (by rw [getLastD_cons_ne n ns hns] at hpos; exact hpos)
      intro m hm hl
      apply h0 (r :: m) (by rw [inRange_cons]; exact ⟨hr, hm⟩)
      have hmne : m ≠ [] := ne_nil_of_inRange hm hns
      rw [getLastD_cons_ne r m hmne, getLastD_cons_ne n ns hns]
      exact hl

end DFV.C11
