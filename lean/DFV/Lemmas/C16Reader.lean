import Mathlib.Data.List.Induction
import DFV.Lemmas.C01Ctor
import DFV.Lemmas.Transform
import DFV.Lemmas.MeshInv
import DFV.Lemmas.C14Setter
import DFV.Lemmas.NDA
import DFV.Model.C16

/-! `_from_vtk` on ANY grid with cell data.  The name loop keeps the LAST array called `field`, the LAST called
`valid` and the other names except `norm`; `fromParts` is the reader as a function of these parts (`fromCells_eq`),
and `fromParts_eq_ok` says exactly when it succeeds and which field it returns.  Every stage (reshape, mesh from
bounds, side-car loader, constructor) has its own equivalence; the legacy writers' reordering of the arrays is
invisible to the reader, the text writer is a value-wise rounding. -/

namespace DFV.C16
open DFV DFV.Mesh

/-! ## reshape and transpose of the reader -/

theorem unflat4_ok_iff (n : List Nat) (nv : Nat) (vals : List Rat) (arr : NDA Rat) :
    unflat4 n nv vals = .ok arr ↔
      vals.length = natProd n * nv ∧ arr = (NDA.ofList (n.reverse ++ [nv]) vals 0).transpose [2, 1, 0, 3] := by
  unfold unflat4
  rw [guard_ok_iff, not_not, Except.ok.injEq]
  exact and_congr_right' eq_comm

theorem unflat3_ok_iff (n : List Nat) (vals : List Rat) (arr : NDA Rat) :
    unflat3 n vals = .ok arr ↔ vals.length = natProd n ∧ arr = (NDA.ofList n.reverse vals 0).transpose [2, 1, 0] := by
  unfold unflat3
  rw [guard_ok_iff, not_not, Except.ok.injEq]
  exact and_congr_right' eq_comm

/-! ## the mesh from bounds and counts -/

theorem mk?_bounds (p1 p2 : List Rat) (n : List Nat) (h1 : p1.length = 3) (h2 : p2.length = 3)
    (hne : ∀ a, a < 3 → p1.getD a 0 ≠ p2.getD a 0) :
    Region.mk? p1 p2 none none = .ok (boundsMesh p1 p2 n).region := by
  refine (T.mk?_ok_iff ..).mpr ⟨by omega, by omega, _, rfl, _, rfl, fun a ha => hne a (by omega), ?_⟩
  unfold T.normalised
  rw [h1]
  rfl

theorem counts_ne_zero (nx ny nz : Nat) (hx : 0 < nx) (hy : 0 < ny) (hz : 0 < nz) : ∀ k ∈ [nx, ny, nz], k ≠ 0 := by
  intro k hk
  simp only [List.mem_cons, List.mem_nil_iff, or_false] at hk
  rcases hk with rfl | rfl | rfl <;> omega

theorem meshOf_eq_ok (p1 p2 : List Rat) (n : List Nat) (m : Mesh) :
    meshOf p1 p2 n = .ok m ↔ ∃ r, Region.mk? p1 p2 none none = .ok r ∧ Mesh.mkN? r n = .ok m := by
  unfold meshOf
  cases Region.mk? p1 p2 none none with
  | error e => exact ⟨nofun, fun ⟨_, h, _⟩ => nomatch h⟩
  | ok r => exact ⟨fun h => ⟨r, rfl, h⟩, fun ⟨_, h1, h2⟩ => by cases h1; exact h2⟩

/-- **`Mesh(p1, p2, n)` on three-axis bounds** is accepted exactly when no edge is empty and there are
three positive counts, and then it is `boundsMesh p1 p2 n` (corners normalised, default names) -/
theorem meshOf_ok_iff (p1 p2 : List Rat) (n : List Nat) (m : Mesh) (h1 : p1.length = 3) (h2 : p2.length = 3) :
    meshOf p1 p2 n = .ok m ↔
      ((∀ a, a < 3 → p1.getD a 0 ≠ p2.getD a 0) ∧ n.length = 3 ∧ ∀ k ∈ n, k ≠ 0) ∧ m = boundsMesh p1 p2 n := by
  have hnd : (boundsMesh p1 p2 n).region.ndim = 3 := tab_length _ _
  have hbc : bcOk (boundsMesh p1 p2 n).region.dims "".toLower = true := C01.bcOk_empty_lower _
  have hm : ({ region := (boundsMesh p1 p2 n).region, n := n, bc := "".toLower, subs := [] } : Mesh) = boundsMesh p1 p2 n := by
    rw [C01.toLower_empty]; rfl
  rw [meshOf_eq_ok]
  constructor
  · rintro ⟨r, hr, h⟩
    obtain ⟨_, _, hne, _⟩ := C01.region_mk_spec _ _ _ _ _ _ hr
    rw [h1] at hne
    obtain rfl := Except.ok.inj (hr.symm.trans (mk?_bounds p1 p2 n h1 h2 hne))
    obtain ⟨hl, hpos, _, e⟩ := (C01.mkN_ok_iff' _ n "" m).mp h
    rw [hnd] at hl hpos
    refine ⟨⟨hne, hl, fun k hk => ?_⟩, e.trans hm⟩
    obtain ⟨a, ha, rfl⟩ := exists_getD_of_mem n k 0 hk
    have := hpos a (by omega)
    omega
  · rintro ⟨⟨hne, hl, hn⟩, rfl⟩
    exact ⟨_, mk?_bounds p1 p2 n h1 h2 hne, (C01.mkN_ok_iff' _ n "" _).mpr ⟨by rw [hnd]; exact hl,
      fun a ha => Nat.pos_of_ne_zero (hn _ (getD_mem n a 0 (by rw [hnd] at ha; omega))), hbc, hm.symm⟩⟩

/-- the mesh `_from_vtk` builds from ordered corners before it loads the side-car: default names, units and
tolerance, no boundary condition, no subregions -/
def rebuiltMesh (pmin pmax : List Rat) (n : List Nat) : Mesh :=
  { region := plainRegion pmin pmax, n := n, bc := "", subs := [] }

/-- the conditions of `meshOf_ok_iff` on the bounds and counts of a grid, in terms of its dimensions and
coordinate arrays -/
theorem Grid.geom_iff (g : Grid) :
    ((∀ a, a < 3 → g.p1.getD a 0 ≠ g.p2.getD a 0) ∧ g.n.length = 3 ∧ ∀ k ∈ g.n, k ≠ 0) ↔
      (g.dims.length = 3 ∧ (∀ k ∈ g.dims, 2 ≤ k) ∧
        ∀ ax, ax < 3 → (g.ax ax).getD 0 0 ≠ (g.ax ax).getD ((g.ax ax).length - 1) 0) := by
  have e1 : ∀ a, a < 3 → g.p1.getD a 0 = (g.ax a).getD 0 0 := fun a ha => getD_tab _ _ _ _ ha
  have e2 : ∀ a, a < 3 → g.p2.getD a 0 = (g.ax a).getD ((g.ax a).length - 1) 0 := fun a ha => getD_tab _ _ _ _ ha
  have e3 : g.n.length = g.dims.length := List.length_map _
  have e4 : (∀ k ∈ g.n, k ≠ 0) ↔ ∀ k ∈ g.dims, 2 ≤ k := by
    unfold Grid.n
    rw [List.forall_mem_map]
    exact forall₂_congr fun k _ => by omega
  rw [e3, e4, forall₂_congr fun a ha => by rw [e1 a ha, e2 a ha]]
  exact ⟨fun ⟨a, b, c⟩ => ⟨b, c, a⟩, fun ⟨b, c, a⟩ => ⟨a, b, c⟩⟩

theorem boundsMesh_ordered (p1 p2 : List Rat) (n : List Nat) (h1 : p1.length = 3) (h2 : p2.length = 3)
    (hlt : ∀ a, a < 3 → p1.getD a 0 < p2.getD a 0) : boundsMesh p1 p2 n = rebuiltMesh p1 p2 n := by
  have e1 : (tab 3 fun a => min (p1.getD a 0) (p2.getD a 0)) = p1 :=
    (eq_tab_of_getD p1 3 _ 0 h1 fun a ha => (min_eq_left (le_of_lt (hlt a ha))).symm).symm
  have e2 : (tab 3 fun a => max (p1.getD a 0) (p2.getD a 0)) = p2 :=
    (eq_tab_of_getD p2 3 _ 0 h2 fun a ha => (max_eq_right (le_of_lt (hlt a ha))).symm).symm
  unfold boundsMesh
  rw [e1, e2]
  rfl

theorem meshOf_plain (p1 p2 : List Rat) (n : List Nat) (h1 : p1.length = 3) (h2 : p2.length = 3) (h3 : n.length = 3)
    (hlt : ∀ a, a < 3 → p1.getD a 0 < p2.getD a 0) (hn : ∀ k ∈ n, k ≠ 0) :
    meshOf p1 p2 n = .ok (rebuiltMesh p1 p2 n) :=
  (meshOf_ok_iff p1 p2 n _ h1 h2).mpr
    ⟨⟨fun a ha => ne_of_lt (hlt a ha), h3, hn⟩, (boundsMesh_ordered p1 p2 n h1 h2 hlt).symm⟩

/-- the mesh `Mesh(p1, p2, n)` builds satisfies the mesh invariant (the constructors establish it) -/
theorem meshOf_inv (p1 p2 : List Rat) (n : List Nat) (m : Mesh) (h : meshOf p1 p2 n = .ok m) : m.Inv := by
  obtain ⟨r, hr, h⟩ := (meshOf_eq_ok ..).mp h
  exact (C01.mkN_inv r (C01.region_mk_spec _ _ _ _ _ _ hr).2.2.2.1 n "" m h).1

/-! ## the side-car loader -/

/-- `mapE` with a function that can only return its argument: it succeeds iff every entry is accepted, and
returns the list -/
theorem mapE_id_iff {α : Type} (f : α → M α) (P : α → Prop) (hf : ∀ x y, f x = .ok y ↔ P x ∧ y = x) (l ys : List α) :
    mapE f l = .ok ys ↔ (∀ x ∈ l, P x) ∧ ys = l := by
  induction l generalizing ys with
  | nil => exact ⟨fun h => ⟨nofun, (Except.ok.inj h).symm⟩, by rintro ⟨_, rfl⟩; rfl⟩
  | cons x xs ih =>
    simp only [mapE, List.forall_mem_cons]
    cases hx : f x with
    | error e =>
      have hP : ¬ P x := fun h => by rw [(hf x x).mpr ⟨h, rfl⟩] at hx; cases hx
      exact ⟨nofun, fun h => absurd h.1.1 hP⟩
    | ok y =>
      obtain ⟨hP, rfl⟩ := (hf x y).mp hx
      cases hm : mapE f xs with
      | error e =>
        have hno : ¬ ∀ z ∈ xs, P z := fun h => by rw [(ih xs).mpr ⟨h, rfl⟩] at hm; cases hm
        exact ⟨nofun, fun h => absurd h.1.2 hno⟩
      | ok ys' =>
        obtain ⟨hall, rfl⟩ := (ih ys').mp hm
        exact ⟨fun h => ⟨⟨hP, hall⟩, (Except.ok.inj h).symm⟩, by rintro ⟨_, rfl⟩; rfl⟩

/-- `Region(**val)` returns a stored, well-formed region unchanged -/
theorem regionKw_inv (s : Region) (hs : s.Inv) : regionKw s = .ok s := by
  obtain ⟨h0, h1, h2, h3, h4, h5⟩ := hs
  unfold regionKw
  rw [if_neg (by omega)]
  have hall : allLt s.pmin.length (fun a => decide (s.pmin.getD a 0 < s.pmax.getD a 0)) = true := by
    rw [allLt_iff]; intro a ha
    have := h5 a ha
    simp only [decide_eq_true_eq]
    exact this
  simp only [hall, Bool.not_true, Bool.false_eq_true, if_false]
  exact T.mk?_ok_of_lt s.pmin s.pmax (some s.dims) (some s.units) s.dims s.units s.tol h1.symm (by omega)
    (T.dimsOk_some _ _ h2 h4) (T.unitsOk_some _ _ h3) h5

theorem regionKw_eq_ok (s r : Region) : regionKw s = .ok r ↔ s.Inv ∧ r = s := by
  constructor
  · intro h
    have hs : s.Inv := by
      unfold regionKw at h
      obtain ⟨hl, h⟩ := (guard_ok_iff _ _ _ _).mp h
      obtain ⟨hall, h⟩ := (guard_ok_iff _ _ _ _).mp h
      obtain ⟨_, h0, hd, hdup, hu, _, _⟩ := T.mk?_ok_inv _ _ _ _ _ _ h
      have hlt := (allLt_iff _ _).mp (by simpa using hall)
      exact ⟨by omega, by omega, hd, hu, hdup, fun a ha => by simpa [Region.lo, Region.hi] using hlt a ha⟩
    exact ⟨hs, (Except.ok.inj ((regionKw_inv s hs).symm.trans h)).symm⟩
  · rintro ⟨hs, rfl⟩
    exact regionKw_inv r hs

/-- the setter re-stamps the axis names (`dims`), units and tolerance; the keys, their order and the
corners stay -/
theorem restamp_corners (r : Region) (l : List (String × Region)) (save : Bool) :
    (if save then l.map (C14.restamp r) else []).map (fun p => (p.1, p.2.pmin, p.2.pmax)) =
      (if save then l else []).map (fun p => (p.1, p.2.pmin, p.2.pmax)) := by
  cases save
  · rfl
  · exact List.map_map

theorem loadEntry_ok_iff (p q : String × Region) : ((regionKw p.2).map fun r => (p.1, r)) = .ok q ↔ p.2.Inv ∧ q = p := by
  cases hr : regionKw p.2 with
  | error e =>
    have : ¬ p.2.Inv := fun h => by rw [regionKw_inv p.2 h] at hr; cases hr
    exact ⟨nofun, fun h => absurd h.1 this⟩
  | ok r =>
    obtain ⟨hs, rfl⟩ := (regionKw_eq_ok _ _).mp hr
    exact ⟨fun h => ⟨hs, (Except.ok.inj h).symm⟩, by rintro ⟨_, rfl⟩; rfl⟩

/-- on entries that are well-formed regions the loader is the subregion setter -/
theorem loadSubs_some_eq (m : Mesh) (l : List (String × Region)) (hinv : ∀ p ∈ l, p.2.Inv) :
    loadSubs m (some l) = T.setSubs m l := by
  unfold loadSubs
  simp only
  rw [(mapE_id_iff _ _ loadEntry_ok_iff l l).mpr ⟨hinv, rfl⟩]

/-- **the side-car loader, exactly**: every entry must be a well-formed region that passes the subregion setter's
test; the mesh then holds the entries re-stamped with its axis names, units and tolerance.  Nothing is assumed
about the entries, and nothing but the subregions changes -/
theorem loadSubs_some_ok_iff (m m1 : Mesh) (l : List (String × Region)) :
    loadSubs m (some l) = .ok m1 ↔
      (∀ p ∈ l, p.2.Inv ∧ T.candOk m p.2 = true) ∧ m1 = { m with subs := l.map (C14.restamp m.region) } := by
  by_cases hinv : ∀ p ∈ l, p.2.Inv
  · rw [loadSubs_some_eq m l hinv, T.setSubs_ok_iff]
    exact ⟨fun ⟨h, e⟩ => ⟨fun p hp => ⟨hinv p hp, h p hp⟩, e⟩, fun ⟨h, e⟩ => ⟨fun p hp => (h p hp).2, e⟩⟩
  · refine ⟨fun h => ?_, fun h => absurd (fun p hp => (h.1 p hp).1) hinv⟩
    unfold loadSubs at h
    simp only at h
    cases hm : mapE (fun (p : String × Region) => (regionKw p.2).map fun r => (p.1, r)) l with
    | error e => rw [hm] at h; cases h
    | ok subs => exact absurd ((mapE_id_iff _ _ loadEntry_ok_iff l subs).mp hm).1 hinv

theorem loadSubs_geom (m m1 : Mesh) (sc : Option (List (String × Region))) (h : loadSubs m sc = .ok m1) :
    m1.region = m.region ∧ m1.n = m.n ∧ m1.bc = m.bc := by
  cases sc with
  | none => cases h; exact ⟨rfl, rfl, rfl⟩
  | some l => obtain ⟨_, rfl⟩ := (loadSubs_some_ok_iff ..).mp h; exact ⟨rfl, rfl, rfl⟩

/-! ## the constructor on the array path -/

theorem mkField_ok_iff (m : Mesh) (dim : Nat) (data : NDA (List Rat)) (valid : NDA Bool) (vin : Option (List String))
    (f' : Fld) :
    mkField m dim data valid vin = .ok f' ↔
      1 ≤ dim ∧ ∃ vd, vdimsSet dim vin = .ok vd ∧
        f' = { mesh := m, nvdim := dim, data := data, valid := valid, vdims := vd,
               vmap := defaultVmap dim m.region.dims vd, unit := none } := by
  unfold mkField
  rw [guard_ok_iff, Nat.not_lt]
  cases vdimsSet dim vin <;> simp [eq_comm]

theorem vdimsSet_ok_iff (dim : Nat) (labels : List String) :
    (∃ vd, vdimsSet dim (if labels.length ≠ dim then none else some labels) = .ok vd) ↔
      (labels.length = dim → hasDup labels = false) := by
  by_cases hl : labels.length = dim
  · rw [if_neg (not_not.mpr hl)]
    cases labels with
    | nil => simp [vdimsSet, hasDup]
    | cons x l =>
      simp only [vdimsSet, if_neg (not_not.mpr hl)]
      cases hd : hasDup (x :: l) with
      | false => simp
      | true =>
        simp only [if_true]
        constructor
        · rintro ⟨_, h⟩; cases h
        · intro h; cases h hl
  · rw [if_pos hl]
    simp only [vdimsSet]
    exact ⟨fun _ h => absurd h hl, fun _ => ⟨_, rfl⟩⟩

/-! ## the loop over array names -/

/-- what the name loop does with one array, field by field of its state -/
def scanStep (a : VArr) (i : Nat) (s : Scan) : Scan :=
  { fieldIdx := if a.name = "field" then some i else s.fieldIdx,
    validIdx := if a.name = "valid" then some i else s.validIdx,
    vdims := if isLabel a then s.vdims ++ [a.name] else s.vdims }

/-- the only case analysis on the name: the loop's `if` chain is `scanStep` -/
theorem scan_cons (a : VArr) (as : List VArr) (i : Nat) (s : Scan) :
    scan (a :: as) i s = scan as (i + 1) (scanStep a i s) := by
  have hne : ("field" : String) ≠ "valid" := by decide
  cases s
  simp only [scan]
  split
  · rename_i h1
    refine congrArg (scan as (i + 1)) ?_
    simp [scanStep, isLabel, h1, hne]
  · rename_i h1
    split
    · rename_i h2
      refine congrArg (scan as (i + 1)) ?_
      simp [scanStep, isLabel, h2]
    · rename_i h2
      split
      · rename_i h3
        refine congrArg (scan as (i + 1)) ?_
        simp [scanStep, isLabel, h1, h2, h3]
      · rename_i h3
        refine congrArg (scan as (i + 1)) ?_
        simp [scanStep, isLabel, not_not.mp h3]

theorem scan_append (l1 l2 : List VArr) (i : Nat) (s : Scan) :
    scan (l1 ++ l2) i s = scan l2 (i + l1.length) (scan l1 i s) := by
  induction l1 generalizing i s with
  | nil => rfl
  | cons a as ih => rw [List.cons_append, scan_cons, scan_cons, ih, List.length_cons, Nat.add_assoc, Nat.add_comm 1]

theorem scan_vdims (l : List VArr) (i : Nat) (s : Scan) :
    (scan l i s).vdims = s.vdims ++ (l.filter isLabel).map fun a => a.name := by
  induction l generalizing i s with
  | nil => simp [scan]
  | cons a as ih =>
    rw [scan_cons, ih]
    by_cases h : isLabel a = true
    · simp [scanStep, List.filter, h]
    · simp [scanStep, List.filter, h]

/-- `lastNamed` from the right, the direction in which the name loop keeps the last index (from the left:
`lastNamed_cons` in `C16Labels`) -/
theorem lastNamed_snoc (nm : String) (l : List VArr) (a : VArr) :
    lastNamed nm (l ++ [a]) = if a.name = nm then some a else lastNamed nm l := by
  unfold lastNamed
  rw [List.filter_append]
  by_cases h : a.name = nm
  · simp [h]
  · simp [h]

/-- what the index the name loop keeps for the name `nm` (projection `p` of its state) points at:
the LAST array called `nm` -/
theorem scan_idx_spec (p : Scan → Option Nat) (nm : String)
    (hp : ∀ a i s, p (scan [a] i s) = if a.name = nm then some i else p s)
    (l : List VArr) (s0 : Scan) (hs : p s0 = none) :
    lastNamed nm l = (p (scan l 0 s0)).map (fun i => l.getD i default) ∧
    ∀ fi, p (scan l 0 s0) = some fi → fi < l.length ∧ (l.getD fi default).name = nm ∧
      ∀ q, fi < q → q < l.length → (l.getD q default).name ≠ nm := by
  -- the LAST array of a name is tracked, so peel from the right (`List.reverseRecOn`: the file's one Mathlib import)
  induction l using List.reverseRecOn with
  | nil => simp [scan, hs, lastNamed]
  | append_singleton l a ih =>
    rw [scan_append, hp, lastNamed_snoc]
    by_cases ha : a.name = nm
    · simp only [ha, if_true, Nat.zero_add, Option.map_some, Option.some.injEq, forall_eq']
      rw [getD_concat_length]
      exact ⟨rfl, by simp, ha, fun q h1 h2 => by simp at h2; omega⟩
    · simp only [ha, if_false]
      obtain ⟨ih1, ih2⟩ := ih
      refine ⟨?_, fun fi hfi => ?_⟩
      · rw [ih1]
        cases hfi : p (scan l 0 s0) with
        | none => rfl
        | some fi => exact congrArg some (getD_append_left _ _ _ _ (ih2 fi hfi).1).symm
      · obtain ⟨h1, h3, h4⟩ := ih2 fi hfi
        rw [getD_append_left _ _ _ _ h1]
        refine ⟨by simp only [List.length_append, List.length_singleton]; omega, h3, fun q hq hql => ?_⟩
        by_cases hq' : q < l.length
        · rw [getD_append_left _ _ _ _ hq']; exact h4 q hq hq'
        · have : q = l.length := by simp at hql; omega
          rw [this, getD_concat_length]; exact ha

theorem scan_field_spec (l : List VArr) :
    lastNamed "field" l = (scan l 0 ⟨none, none, []⟩).fieldIdx.map (fun i => l.getD i default) ∧
    ∀ fi, (scan l 0 ⟨none, none, []⟩).fieldIdx = some fi → fi < l.length ∧ (l.getD fi default).name = "field" ∧
      ∀ q, fi < q → q < l.length → (l.getD q default).name ≠ "field" :=
  scan_idx_spec Scan.fieldIdx "field" (fun a i s => by rw [scan_cons]; rfl) l _ rfl

theorem scan_valid_eq (l : List VArr) :
    lastNamed "valid" l = (scan l 0 ⟨none, none, []⟩).validIdx.map (fun i => l.getD i default) :=
  (scan_idx_spec Scan.validIdx "valid" (fun a i s => by rw [scan_cons]; rfl) l _ rfl).1

/-! ## the reader as a function of the extracted parts -/

/-- the validity the reader builds from the `valid` array (if any) -/
def validOfArr (n : List Nat) : Option VArr → M (NDA Bool)
  | none => .ok (NDA.const n true)
  | some a =>
    match unflat3 n a.vals with
    | .error e => .error e
    | .ok v => .ok (toBool v n)

/-- `_from_vtk` in terms of what its name loop extracts: cell counts, bounds, the `field` array,
the `valid` array, the label names -/
def fromParts (n : List Nat) (p1 p2 : List Rat) (fa va : Option VArr) (labels : List String)
    (sidecar : Option (List (String × Region))) : M Fld :=
  match fa with
  | none => .error .runtime
  | some a =>
    match unflat4 n a.ncomp a.vals with
    | .error e => .error e
    | .ok value =>
      match validOfArr n va with
      | .error e => .error e
      | .ok valid =>
        match meshOf p1 p2 n with
        | .error e => .error e
        | .ok m0 =>
          match loadSubs m0 sidecar with
          | .error e => .error e
          | .ok m =>
            mkField m a.ncomp (cellsOf value n a.ncomp) valid
              (if labels.length ≠ a.ncomp then none else some labels)

/-- **the reader depends on the grid only through these parts** -/
theorem fromCells_eq (g : Grid) (sc : Option (List (String × Region))) :
    fromCells g sc = fromParts g.n g.p1 g.p2 (lastNamed "field" g.cell) (lastNamed "valid" g.cell) (labelNames g.cell) sc := by
  have hl : (scan g.cell 0 ⟨none, none, []⟩).vdims = labelNames g.cell := by
    rw [scan_vdims]; rfl
  unfold fromCells fromParts
  rw [hl, (scan_field_spec g.cell).1, scan_valid_eq]
  cases (scan g.cell 0 ⟨none, none, []⟩).fieldIdx with
  | none => rfl
  | some fi => cases (scan g.cell 0 ⟨none, none, []⟩).validIdx <;> rfl

/-- `fromParts` is a chain of steps each of which may fail (the model's nested `match` is not `>>=` by `rfl`
while the scrutinees are variables, so the stages are opened one by one) -/
theorem fromParts_do (n : List Nat) (p1 p2 : List Rat) (a : VArr) (va : Option VArr) (labels : List String)
    (sc : Option (List (String × Region))) :
    fromParts n p1 p2 (some a) va labels sc =
      (do let value ← unflat4 n a.ncomp a.vals
          let valid ← validOfArr n va
          let m0 ← meshOf p1 p2 n
          let m ← loadSubs m0 sc
          mkField m a.ncomp (cellsOf value n a.ncomp) valid (if labels.length ≠ a.ncomp then none else some labels)) := by
  simp only [fromParts, bind, Except.bind]
  cases unflat4 n a.ncomp a.vals with
  | error e => rfl
  | ok value =>
    dsimp only
    cases validOfArr n va with
    | error e => rfl
    | ok valid =>
      dsimp only
      cases meshOf p1 p2 n with
      | error e => rfl
      | ok m0 => dsimp only; cases loadSubs m0 sc <;> rfl

/-- the mask the reader builds: all `True` without a `valid` array, otherwise "entry ≠ 0" -/
def maskOf (n : List Nat) : Option VArr → NDA Bool
  | none => NDA.const n true
  | some a => toBool ((NDA.ofList n.reverse a.vals 0).transpose [2, 1, 0]) n

theorem validOfArr_ok_iff (n : List Nat) (va : Option VArr) (v : NDA Bool) :
    validOfArr n va = .ok v ↔ (∀ a, va = some a → a.vals.length = natProd n) ∧ v = maskOf n va := by
  cases va with
  | none => simp [validOfArr, maskOf, eq_comm]
  | some a =>
    simp only [validOfArr, Option.some.injEq, forall_eq']
    cases h : unflat3 n a.vals with
    | error e => exact ⟨nofun, fun ⟨hl, _⟩ => by rw [(unflat3_ok_iff ..).mpr ⟨hl, rfl⟩] at h; cases h⟩
    | ok arr =>
      obtain ⟨hl, rfl⟩ := (unflat3_ok_iff ..).mp h
      exact ⟨fun e => ⟨hl, (Except.ok.inj e).symm⟩, by rintro ⟨_, rfl⟩; rfl⟩

/-- the field the reader assembles from the `field` array, the `valid` array, the mesh and the labels -/
def readFld (n : List Nat) (a : VArr) (va : Option VArr) (m : Mesh) (vd : Option (List String)) : Fld :=
  { mesh := m, nvdim := a.ncomp,
    data := cellsOf ((NDA.ofList (n.reverse ++ [a.ncomp]) a.vals 0).transpose [2, 1, 0, 3]) n a.ncomp,
    valid := maskOf n va, vdims := vd, vmap := defaultVmap a.ncomp m.region.dims vd, unit := none }

/-- **the reader, exactly**: it returns `f'` iff there is a `field` array with one tuple per cell and at least one
component, the `valid` array (if any) has one entry per cell, bounds and counts make a mesh, the side-car loads on it,
the `vdims` setter accepts the label names, and `f'` is the field assembled from these -/
theorem fromParts_eq_ok (n : List Nat) (p1 p2 : List Rat) (fa va : Option VArr) (labels : List String)
    (sc : Option (List (String × Region))) (f' : Fld) :
    fromParts n p1 p2 fa va labels sc = .ok f' ↔
      ∃ a m0 m vd, fa = some a ∧ a.vals.length = natProd n * a.ncomp ∧ (∀ v, va = some v → v.vals.length = natProd n) ∧
        meshOf p1 p2 n = .ok m0 ∧ loadSubs m0 sc = .ok m ∧ 1 ≤ a.ncomp ∧
        vdimsSet a.ncomp (if labels.length ≠ a.ncomp then none else some labels) = .ok vd ∧ f' = readFld n a va m vd := by
  cases fa with
  | none => simp [fromParts]
  | some a =>
    rw [fromParts_do]
    simp only [bind_ok_iff, unflat4_ok_iff, validOfArr_ok_iff, mkField_ok_iff, Option.some.injEq]
    constructor
    · rintro ⟨_, ⟨h1, rfl⟩, _, ⟨h2, rfl⟩, m0, h3, m, h4, h5, vd, h6, rfl⟩
      exact ⟨a, m0, m, vd, rfl, h1, h2, h3, h4, h5, h6, rfl⟩
    · rintro ⟨_, m0, m, vd, rfl, h1, h2, h3, h4, h5, h6, rfl⟩
      exact ⟨_, ⟨h1, rfl⟩, _, ⟨h2, rfl⟩, m0, h3, m, h4, h5, vd, h6, rfl⟩

theorem fromParts_ok_iff (n : List Nat) (p1 p2 : List Rat) (fa va : Option VArr) (labels : List String)
    (sc : Option (List (String × Region))) :
    (∃ f', fromParts n p1 p2 fa va labels sc = .ok f') ↔
      ∃ a, fa = some a ∧ a.vals.length = natProd n * a.ncomp ∧ (∀ v, va = some v → v.vals.length = natProd n) ∧
        (∃ m0 m, meshOf p1 p2 n = .ok m0 ∧ loadSubs m0 sc = .ok m) ∧ 1 ≤ a.ncomp ∧
        (labels.length = a.ncomp → hasDup labels = false) := by
  simp only [fromParts_eq_ok, ← vdimsSet_ok_iff]
  exact ⟨fun ⟨_, a, m0, m, vd, h1, h2, h3, h4, h5, h6, h7, _⟩ => ⟨a, h1, h2, h3, ⟨m0, m, h4, h5⟩, h6, vd, h7⟩,
    fun ⟨a, h1, h2, h3, ⟨m0, m, h4, h5⟩, h6, vd, h7⟩ => ⟨_, a, m0, m, vd, h1, h2, h3, h4, h5, h6, h7, rfl⟩⟩

/-- the flag the reader derives from entry `t` of the `valid` array, `True` without one -/
def flagOf : Option VArr → Nat → Bool
  | none, _ => true
  | some v, t => decide (v.vals.getD t 0 ≠ 0)

/-- stated as a lemma: closing this step by `show` makes the unifier unfold the array before the projection -/
theorem flagOf_some (v : VArr) (t : Nat) : flagOf (some v) t = decide (v.vals.getD t 0 ≠ 0) := rfl

theorem readFlag_eq_flagOf (g : Grid) (vi : Option Nat) (t : Nat) :
    readFlag g vi t = flagOf (vi.map fun i => g.cell.getD i default) t := by
  cases vi <;> rfl

/-- cell `(i, j, k)` of the assembled field holds tuple `i + nx·(j + ny·k)` of the `field` array (for all `i j k`) -/
theorem readFld_data (nx ny nz : Nat) (a : VArr) (va : Option VArr) (m : Mesh) (vd : Option (List String)) (i j k : Nat) :
    (readFld [nx, ny, nz] a va m vd).data.get [i, j, k] = a.tuple (flatF [nx, ny, nz] [i, j, k]) := by
  refine tab_congr _ _ _ fun c _ => ?_
  exact NDA.ofList_transpose_get4 nx ny nz a.ncomp a.vals 0 i j k c

theorem readFld_valid (nx ny nz : Nat) (a : VArr) (va : Option VArr) (m : Mesh) (vd : Option (List String)) (i j k : Nat) :
    (readFld [nx, ny, nz] a va m vd).valid.get [i, j, k] = flagOf va (flatF [nx, ny, nz] [i, j, k]) := by
  cases va with
  | none => rfl
  | some v =>
    exact congrArg (fun x : Rat => decide (x ≠ 0)) (NDA.ofList_transpose_get3 nx ny nz v.vals 0 i j k)

/-- the reader in terms of array indices: the form in which `reader_spec` (Props) states it -/
theorem fromCells_spec (g : Grid) (sc : Option (List (String × Region))) (f' : Fld) (nx ny nz : Nat)
    (hn : g.n = [nx, ny, nz]) (h : fromCells g sc = .ok f') :
    ∃ fi, fi < g.cell.length ∧ (g.cell.getD fi default).name = "field" ∧
      (∀ q, fi < q → q < g.cell.length → (g.cell.getD q default).name ≠ "field") ∧
      f'.mesh.n = [nx, ny, nz] ∧ 0 < nx ∧ 0 < ny ∧ 0 < nz ∧
      f'.mesh.region.pmin = (tab 3 fun a => min (g.p1.getD a 0) (g.p2.getD a 0)) ∧
      f'.mesh.region.pmax = (tab 3 fun a => max (g.p1.getD a 0) (g.p2.getD a 0)) ∧
      f'.nvdim = (g.cell.getD fi default).ncomp ∧ 1 ≤ f'.nvdim ∧
      (∀ i j k, f'.data.get [i, j, k] = (g.cell.getD fi default).tuple (flatF [nx, ny, nz] [i, j, k])) ∧
      (∀ i j k, f'.valid.get [i, j, k] =
        readFlag g (scan g.cell 0 ⟨none, none, []⟩).validIdx (flatF [nx, ny, nz] [i, j, k])) ∧
      vdimsSet f'.nvdim (if (labelNames g.cell).length ≠ f'.nvdim then none else some (labelNames g.cell)) = .ok f'.vdims := by
  obtain ⟨hF, hB⟩ := scan_field_spec g.cell
  rw [fromCells_eq, hn, fromParts_eq_ok] at h
  obtain ⟨a, m0, m, vd, ha, _, _, hm0, hm, h1, hvd, rfl⟩ := h
  rw [hF] at ha
  cases hfi : (scan g.cell 0 ⟨none, none, []⟩).fieldIdx with
  | none => rw [hfi] at ha; cases ha
  | some fi =>
    rw [hfi] at ha
    obtain rfl := Option.some.inj ha
    obtain ⟨f1, f3, f4⟩ := hB fi hfi
    obtain ⟨⟨_, _, g4⟩, rfl⟩ := (meshOf_ok_iff _ _ _ _ (tab_length _ _) (tab_length _ _)).mp hm0
    obtain ⟨l1, l2, _⟩ := loadSubs_geom _ _ _ hm
    exact ⟨fi, f1, f3, f4, l2, Nat.pos_of_ne_zero (g4 nx (by simp)), Nat.pos_of_ne_zero (g4 ny (by simp)),
      Nat.pos_of_ne_zero (g4 nz (by simp)), congrArg Region.pmin l1, congrArg Region.pmax l1, rfl, h1, readFld_data _ _ _ _ _ _ _,
      fun i j k => by rw [readFld_valid, scan_valid_eq, readFlag_eq_flagOf], hvd⟩

theorem fromCells_subs_length (g : Grid) (l : List (String × Region)) (f' : Fld) (h : fromCells g (some l) = .ok f') :
    f'.mesh.subs.length = l.length := by
  rw [fromCells_eq, fromParts_eq_ok] at h
  obtain ⟨_, _, m, _, _, _, _, _, hm, _, _, rfl⟩ := h
  obtain ⟨_, rfl⟩ := (loadSubs_some_ok_iff ..).mp hm
  exact List.length_map _

/-! ## the legacy writer's order of the arrays -/

theorem activeAttr_cases (f : Fld) :
    (activeAttr f = (none, some "field") ∧ f.nvdim = 3) ∨ (activeAttr f = (some "field", none) ∧ f.nvdim = 1) ∨
    (activeAttr f = (none, none) ∧ f.nvdim ≠ 3 ∧ f.nvdim ≠ 1) := by
  unfold activeAttr
  by_cases h3 : f.nvdim = 3
  · left; simp [h3]
  · by_cases h1 : f.nvdim = 1
    · right; left; simp [h1]
    · right; right; simp [h3, h1]

/-- with the active attributes `to_vtk` sets, the legacy file holds the array(s) called `field`
first when the field has one or three components, and keeps the order otherwise -/
theorem legacyOrder_active (f : Fld) (cell : List VArr) :
    legacyOrder (activeAttr f) cell =
      if f.nvdim = 3 ∨ f.nvdim = 1 then (cell.filter fun a => a.name == "field") ++ cell.filter fun a => !(a.name == "field")
      else cell := by
  rcases activeAttr_cases f with ⟨e, h⟩ | ⟨e, h⟩ | ⟨e, h3, h1⟩
  · rw [e, if_pos (Or.inl h)]
    simp [legacyOrder]
  · rw [e, if_pos (Or.inr h)]
    simp [legacyOrder]
  · rw [e, if_neg (by omega)]
    simp [legacyOrder]

/-- a stable partition by `q` is invisible to a filter `p` that lies on one side of it -/
theorem filter_partition {α} (p q : α → Bool) (l : List α)
    (h : (∀ a, p a = true → q a = true) ∨ (∀ a, p a = true → q a = false)) :
    (l.filter q ++ l.filter fun a => !q a).filter p = l.filter p := by
  rw [List.filter_append, List.filter_filter, List.filter_filter]
  rcases h with h | h
  · rw [List.filter_eq_nil_iff (p := fun a => p a && !q a) |>.mpr fun a _ => by cases hp : p a <;> simp [h a, hp],
      List.append_nil]
    exact List.filter_congr fun a _ => by cases hp : p a <;> simp [h a, hp]
  · rw [List.filter_eq_nil_iff (p := fun a => p a && q a) |>.mpr fun a _ => by cases hp : p a <;> simp [h a, hp],
      List.nil_append]
    exact List.filter_congr fun a _ => by cases hp : p a <;> simp [h a, hp]

/-- selecting by name is invisible to the legacy order (the stable partition `field` first / rest lies on one side of
the filter by `filter_partition`) -/
theorem lastNamed_legacyOrder (f : Fld) (nm : String) (cell : List VArr) :
    lastNamed nm (legacyOrder (activeAttr f) cell) = lastNamed nm cell := by
  rw [legacyOrder_active]
  split
  · unfold lastNamed
    rw [filter_partition]
    by_cases h : nm = "field"
    · exact Or.inl fun a ha => by rw [← h]; exact ha
    · exact Or.inr fun a ha => by simpa using fun e : a.name = "field" => h ((beq_iff_eq.mp ha).symm.trans e)
  · rfl

theorem labelNames_legacyOrder (f : Fld) (cell : List VArr) :
    labelNames (legacyOrder (activeAttr f) cell) = labelNames cell := by
  rw [legacyOrder_active]
  split
  · unfold labelNames
    rw [filter_partition]
    exact Or.inr fun a ha => by unfold isLabel at ha; by_cases h : a.name = "field" <;> simp_all
  · rfl

theorem legacyOrder_length (f : Fld) (cell : List VArr) : (legacyOrder (activeAttr f) cell).length = cell.length := by
  rw [legacyOrder_active]
  split
  · rw [List.length_append]
    have := List.length_eq_length_filter_add (l := cell) fun a => a.name == "field"
    omega
  · rfl

theorem legacyOrder_isEmpty (f : Fld) (cell : List VArr) : (legacyOrder (activeAttr f) cell).isEmpty = cell.isEmpty := by
  rw [Bool.eq_iff_iff, List.isEmpty_iff, List.isEmpty_iff, ← List.length_eq_zero_iff, ← List.length_eq_zero_iff,
    legacyOrder_length]

theorem fromCells_legacyOrder (f : Fld) (g : Grid) (sc : Option (List (String × Region))) :
    fromCells { g with cell := legacyOrder (activeAttr f) g.cell } sc = fromCells g sc := by
  rw [fromCells_eq, fromCells_eq]
  simp only [lastNamed_legacyOrder, labelNames_legacyOrder]
  rfl

/-! ## the text writer's rounding -/

/-- what the text writer does to one array -/
def roundArr (r : Rat → Rat) (a : VArr) : VArr := if a.int then a else { a with vals := a.vals.map r }

theorem roundArr_name (r : Rat → Rat) (a : VArr) : (roundArr r a).name = a.name := by
  unfold roundArr; split <;> rfl

theorem roundArr_length (r : Rat → Rat) (a : VArr) : (roundArr r a).vals.length = a.vals.length := by
  unfold roundArr; split <;> simp

theorem roundArr_ncomp (r : Rat → Rat) (a : VArr) : (roundArr r a).ncomp = a.ncomp := by
  unfold roundArr; split <;> rfl

theorem roundArr_int (r : Rat → Rat) (a : VArr) (h : a.int = true) : roundArr r a = a := by
  unfold roundArr; rw [if_pos h]

theorem roundArr_tuple (r : Rat → Rat) (a : VArr) (h : a.int = false) (t : Nat) (ht : (t + 1) * a.ncomp ≤ a.vals.length) :
    (roundArr r a).tuple t = (a.tuple t).map r := by
  unfold roundArr VArr.tuple
  rw [if_neg (by simp [h])]
  simp only [tab, List.map_map]
  apply List.map_congr_left
  intro c hc
  have hc' := List.mem_range.mp hc
  exact getD_map_lt _ _ _ _ 0 (by rw [Nat.add_mul] at ht; omega)

theorem mapGrid_cell (r : Rat → Rat) (g : Grid) : (mapGrid r g).cell = g.cell.map (roundArr r) := rfl

theorem filter_map_roundArr (r : Rat → Rat) (p : String → Bool) (l : List VArr) :
    (l.map (roundArr r)).filter (fun a => p a.name) = (l.filter fun a => p a.name).map (roundArr r) := by
  rw [List.filter_map]
  congr 1
  apply List.filter_congr
  intro a _
  simp [Function.comp, roundArr_name]

theorem lastNamed_map_roundArr (r : Rat → Rat) (nm : String) (l : List VArr) :
    lastNamed nm (l.map (roundArr r)) = (lastNamed nm l).map (roundArr r) := by
  unfold lastNamed
  rw [filter_map_roundArr r (fun s => s == nm), List.getLast?_map]

theorem labelNames_map_roundArr (r : Rat → Rat) (l : List VArr) : labelNames (l.map (roundArr r)) = labelNames l := by
  unfold labelNames
  have : isLabel = fun a : VArr => (fun s : String => s != "field" && s != "valid" && s != "norm") a.name := rfl
  rw [this, filter_map_roundArr r (fun s : String => s != "field" && s != "valid" && s != "norm") l, List.map_map]
  congr 1
  funext a
  simp [Function.comp, roundArr_name]

theorem mapGrid_fixed (r : Rat → Rat) (g : Grid)
    (hc : ∀ X ∈ g.coords, ∀ x ∈ X, r x = x)
    (ha : ∀ a ∈ g.cell, a.int = false → ∀ x ∈ a.vals, r x = x) : mapGrid r g = g := by
  unfold mapGrid
  cases g with
  | mk dims coords cell =>
    simp only [Grid.mk.injEq, true_and]
    refine ⟨(map_eq_self_iff _ _).mpr fun X hX => (map_eq_self_iff _ _).mpr (hc X hX), (map_eq_self_iff _ _).mpr fun a hA => ?_⟩
    by_cases hi : a.int = true
    · rw [if_pos hi]
    · rw [if_neg hi, (map_eq_self_iff _ _).mpr (ha a hA (by simpa using hi))]

theorem mapGrid_id (g : Grid) : mapGrid id g = g :=
  mapGrid_fixed id g (fun _ _ _ _ => rfl) (fun _ _ _ _ _ => rfl)

/-! ## files -/

theorem repOf_cases (s : String) :
    (s = "xml" ∧ repOf s = .ok .xml) ∨ ((s = "bin" ∨ s = "bin8") ∧ repOf s = .ok .bin) ∨
    (s = "txt" ∧ repOf s = .ok .txt) ∨
    (s ≠ "xml" ∧ s ≠ "bin" ∧ s ≠ "bin8" ∧ s ≠ "txt" ∧ repOf s = .error .value) := by
  unfold repOf
  by_cases h1 : s = "xml"
  · left; simp [h1]
  · by_cases h2 : s = "txt"
    · right; right; left; subst h2; simp
    · by_cases h3 : s = "bin"
      · right; left; subst h3; simp
      · by_cases h4 : s = "bin8"
        · right; left; subst h4; simp
        · right; right; right
          simp [h1, h2, h3, h4]

theorem repOf_exact (s : String) (h : s = "xml" ∨ s = "bin" ∨ s = "bin8") : ∃ r, repOf s = .ok r ∧ r ≠ .txt := by
  rcases h with rfl | rfl | rfl
  · exact ⟨.xml, by decide, by decide⟩
  · exact ⟨.bin, by decide, by decide⟩
  · exact ⟨.bin, by decide, by decide⟩

/-- **`to_file`, exactly**: the writer is selected, the field converted, and the file holds the grid as a VTK reader
returns it, with the side-car when it was asked for and the mesh has subregions -/
theorem toFile_ok_iff (f : Fld) (rep : String) (save : Bool) (rnd : Rat → Rat) (v : VFile) :
    toFile f rep save rnd = .ok v ↔
      ∃ r g, repOf rep = .ok r ∧ toVtk f = .ok g ∧
        v = ⟨r, writtenGrid r (activeAttr f) rnd g, if save && !f.mesh.subs.isEmpty then some f.mesh.subs else none⟩ := by
  unfold toFile
  cases repOf rep with
  | error e => exact ⟨nofun, fun ⟨_, _, h, _⟩ => nomatch h⟩
  | ok r =>
    cases toVtk f with
    | error e => exact ⟨nofun, fun ⟨_, _, _, h, _⟩ => nomatch h⟩
    | ok g =>
      exact ⟨fun h => ⟨r, g, rfl, rfl, (Except.ok.inj h).symm⟩, fun ⟨_, _, h1, h2, h3⟩ => by cases h1; cases h2; rw [h3]⟩

/-- the reader on the grid a VTK reader returns for the written file: for the legacy forms the
reordering of the arrays makes no difference -/
theorem fromCells_writtenGrid (f : Fld) (r : Rep) (rnd : Rat → Rat) (g : Grid) (sc : Option (List (String × Region))) :
    fromCells (writtenGrid r (activeAttr f) rnd g) sc = fromCells (if r = .txt then mapGrid rnd g else g) sc := by
  cases r with
  | xml => rfl
  | bin => exact fromCells_legacyOrder f g sc
  | txt =>
    simp only [writtenGrid, if_true]
    rw [fromCells_eq, fromCells_eq]
    simp only [mapGrid_cell, lastNamed_map_roundArr, labelNames_map_roundArr, lastNamed_legacyOrder, labelNames_legacyOrder]
    rfl

theorem writtenGrid_isEmpty (f : Fld) (r : Rep) (rnd : Rat → Rat) (g : Grid) :
    (writtenGrid r (activeAttr f) rnd g).cell.isEmpty = g.cell.isEmpty := by
  cases r with
  | xml => rfl
  | bin => exact legacyOrder_isEmpty f g.cell
  | txt =>
    simp only [writtenGrid, mapGrid_cell]
    rw [List.isEmpty_map]
    exact legacyOrder_isEmpty f g.cell

theorem readVtk_cells (g : Grid) (lines : List LLine) (sc : Option (List (String × Region))) (h : g.cell.isEmpty = false) :
    readVtk g lines sc = fromCells g sc := by
  unfold readVtk
  rw [h]
  rfl

theorem readVtk_writtenGrid (f : Fld) (r : Rep) (rnd : Rat → Rat) (g : Grid) (lines : List LLine)
    (sc : Option (List (String × Region))) :
    readVtk (writtenGrid r (activeAttr f) rnd g) lines sc = readVtk (if r = .txt then mapGrid rnd g else g) lines sc := by
  have e : (if r = Rep.txt then mapGrid rnd g else g).cell.isEmpty = g.cell.isEmpty := by
    split
    · rw [mapGrid_cell, List.isEmpty_map]
    · rfl
  unfold readVtk
  rw [writtenGrid_isEmpty, fromCells_writtenGrid, e]

end DFV.C16
