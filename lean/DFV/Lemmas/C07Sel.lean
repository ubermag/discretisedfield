import DFV.Lemmas.C07Ctor
import DFV.Lemmas.Index
/-! `Mesh.sel` / `Field.sel`.  `_sel_convert_input` on a well-formed mesh is accepted exactly inside the closed edge of a
known axis and returns the cell containing the coordinate.  A result axis is a block of whole cells of a source axis
(`AxisBlock`, `MeshBlock`); the meshes `Mesh.sel` builds are `planeOf` (a coordinate) and `blockOf` (a range) in closed form,
up to the subregions they keep; the centres of the result's cells are looked up in the source cell by cell. -/
namespace DFV.C07
open DFV DFV.Mesh

theorem index2point_natsToInts (m : Mesh) (k : Nat → Nat) (hk : ∀ a, a < m.ndim → k a < m.nAt a) :
    m.index2point (natsToInts (tab m.ndim k)) = .ok (tab m.ndim fun a => m.centreAx a ((k a : Nat) : Int)) := by
  rw [index2point_eq m _ (by rw [length_natsToInts, tab_length]) fun a ha => by
    rw [getD_natsToInts, getD_tab _ _ _ _ ha]; have := hk a ha; omega]
  exact congrArg _ (tab_congr _ _ _ fun a ha => by rw [getD_natsToInts, getD_tab _ _ _ _ ha])

theorem cellOf_eq (m : Mesh) (hm : m.Inv) (a : Nat) (ha : a < m.ndim) (p : List Rat)
    (hl : p.length = m.ndim)
    (hp : ∀ b, b < m.ndim → m.region.lo b ≤ p.getD b 0 ∧ p.getD b 0 ≤ m.region.hi b) :
    cellOf m a p = .ok (m.centreAx a ((m.indexAx a (p.getD a 0) : Nat) : Int), m.indexAx a (p.getD a 0)) := by
  unfold cellOf
  rw [point2index_eq m p hl hp]
  simp only
  rw [index2point_natsToInts m _ fun b hb => C01.indexAx_lt m b (hm.nAt_pos hb) _]
  simp only
  rw [getD_tab _ _ _ _ ha, getD_tab _ _ _ _ ha]

theorem testPoint_length (m : Mesh) (a : Nat) (x : Rat) : (testPoint m a x).length = m.ndim := by
  unfold testPoint; rw [length_setAt]; rfl

theorem testPoint_getD_eq (m : Mesh) (a : Nat) (x : Rat) (ha : a < m.ndim) :
    (testPoint m a x).getD a 0 = x := by
  unfold testPoint; exact getD_setAt_eq _ _ _ _ ha

theorem testPoint_getD_ne (m : Mesh) (a b : Nat) (x : Rat) (h : b ≠ a) :
    (testPoint m a x).getD b 0 = m.region.lo b := by
  unfold testPoint; rw [getD_setAt_ne _ _ _ _ _ h]; rfl

theorem selOne_eq (m : Mesh) (hm : m.Inv) (a : Nat) (ha : a < m.ndim) (x : Rat)
    (h1 : m.region.lo a ≤ x) (h2 : x ≤ m.region.hi a) :
    selOne m a x = .ok (m.centreAx a ((m.indexAx a x : Nat) : Int), m.indexAx a x) := by
  unfold selOne
  have hneg : ¬ (x < m.region.lo a ∨ m.region.hi a < x) := by
    intro h; rcases h with h | h <;> linarith
  rw [if_neg hneg]
  have := cellOf_eq m hm a ha (testPoint m a x) (testPoint_length m a x) (by
    intro b hb
    by_cases hba : b = a
    · subst hba; rw [testPoint_getD_eq m b x hb]; exact ⟨h1, h2⟩
    · rw [testPoint_getD_ne m a b x hba]; exact ⟨le_refl _, (hm.lo_lt_hi hb).le⟩)
  rw [testPoint_getD_eq m a x ha] at this
  exact this

theorem selOne_err (m : Mesh) (a : Nat) (x : Rat) (h : x < m.region.lo a ∨ m.region.hi a < x) :
    selOne m a x = .error .value := by
  unfold selOne; rw [if_pos h]

theorem selOne_ok_iff (m : Mesh) (hm : m.Inv) (a : Nat) (ha : a < m.ndim) (x : Rat) (ck : Rat × Nat) :
    selOne m a x = .ok ck ↔ m.region.lo a ≤ x ∧ x ≤ m.region.hi a ∧
      ck = (m.centreAx a ((m.indexAx a x : Nat) : Int), m.indexAx a x) := by
  by_cases hout : x < m.region.lo a ∨ m.region.hi a < x
  · rw [selOne_err m a x hout]
    exact ⟨fun h => (nomatch h), fun ⟨h1, h2, _⟩ => by rcases hout with h | h <;> linarith⟩
  · rw [not_or, not_lt, not_lt] at hout
    rw [selOne_eq m hm a ha x hout.1 hout.2, Except.ok.injEq, eq_comm]
    exact ⟨fun h => ⟨hout.1, hout.2, h⟩, fun h => h.2.2⟩

theorem cellOf_center (m : Mesh) (hm : m.Inv) (a : Nat) (ha : a < m.ndim) :
    cellOf m a m.region.center = .ok (m.centreAx a ((m.indexAx a ((m.region.lo a + m.region.hi a) / 2) : Nat) : Int),
      m.indexAx a ((m.region.lo a + m.region.hi a) / 2)) := by
  rw [cellOf_eq m hm a ha m.region.center (tab_length _ _) (fun b hb => by
    rw [C01.center_getD m.region b hb]
    have := hm.lo_lt_hi hb
    constructor <;> linarith), C01.center_getD m.region a ha]

/-! ## `_sel_convert_input` on a well-formed mesh, by kind of selection value -/

theorem selConvert_point_ok_iff (m : Mesh) (hm : m.Inv) (dim : String) (x : Rat) (a : Nat) (s : SelIdx) :
    selConvert m dim (.point x) = .ok (a, s) ↔
      m.region.dim2index dim = .ok a ∧ m.region.lo a ≤ x ∧ x ≤ m.region.hi a ∧
      s = .plane (m.centreAx a ((m.indexAx a x : Nat) : Int)) (m.indexAx a x) := by
  rw [selConvert_point_iff]
  constructor
  · rintro ⟨a', ck, hd, hck, e⟩
    cases e
    obtain ⟨h1, h2, rfl⟩ := (selOne_ok_iff m hm a (hm.dim2index_lt hd) x ck).mp hck
    exact ⟨hd, h1, h2, rfl⟩
  · rintro ⟨hd, h1, h2, rfl⟩
    exact ⟨a, _, hd, (selOne_ok_iff m hm a (hm.dim2index_lt hd) x _).mpr ⟨h1, h2, rfl⟩, rfl⟩

theorem selConvert_range_ok_iff (m : Mesh) (hm : m.Inv) (dim : String) (x y : Rat) (a : Nat) (s : SelIdx) :
    selConvert m dim (.range x y) = .ok (a, s) ↔
      m.region.dim2index dim = .ok a ∧ m.region.lo a ≤ min x y ∧ max x y ≤ m.region.hi a ∧
      s = .range (m.centreAx a ((m.indexAx a (min x y) : Nat) : Int))
            (m.centreAx a ((m.indexAx a (max x y) : Nat) : Int))
            (m.indexAx a (min x y)) (m.indexAx a (max x y)) := by
  rw [selConvert_range_iff]
  constructor
  · rintro ⟨a', ck1, ck2, hd, h1, h2, e⟩
    cases e
    have ha := hm.dim2index_lt hd
    obtain ⟨i1, _, rfl⟩ := (selOne_ok_iff m hm a ha _ ck1).mp h1
    obtain ⟨_, j2, rfl⟩ := (selOne_ok_iff m hm a ha _ ck2).mp h2
    exact ⟨hd, i1, j2, rfl⟩
  · rintro ⟨hd, h1, h2, rfl⟩
    have ha := hm.dim2index_lt hd
    exact ⟨a, _, _, hd, (selOne_ok_iff m hm a ha _ _).mpr ⟨h1, min_le_max.trans h2, rfl⟩,
      (selOne_ok_iff m hm a ha _ _).mpr ⟨h1.trans min_le_max, h2, rfl⟩, rfl⟩

/-- without a coordinate: the cell containing the middle of the edge, on every axis there is -/
theorem selConvert_centre_ok_iff (m : Mesh) (hm : m.Inv) (dim : String) (a : Nat) (s : SelIdx) :
    selConvert m dim .centre = .ok (a, s) ↔
      m.region.dim2index dim = .ok a ∧
      s = .plane (m.centreAx a ((m.indexAx a ((m.region.lo a + m.region.hi a) / 2) : Nat) : Int))
            (m.indexAx a ((m.region.lo a + m.region.hi a) / 2)) := by
  rw [selConvert_centre_iff]
  constructor
  · rintro ⟨a', ck, hd, hck, e⟩
    cases e
    rw [cellOf_center m hm a (hm.dim2index_lt hd)] at hck
    cases hck
    exact ⟨hd, rfl⟩
  · rintro ⟨hd, rfl⟩
    exact ⟨a, _, hd, cellOf_center m hm a (hm.dim2index_lt hd), rfl⟩

/-! ## blocks of whole cells -/

/-- result axis `b` of `g` consists of the `cnt` cells `off, …, off+cnt-1` of source axis `s` of `m` -/
structure AxisBlock (g m : Mesh) (b s off cnt : Nat) : Prop where
  lo : g.region.lo b = m.region.lo s + (off : Rat) * m.cellAt s
  n : g.nAt b = cnt
  cell : g.cellAt b = m.cellAt s
  fits : off + cnt ≤ m.nAt s

theorem axisBlock_of (g m : Mesh) (b s off cnt : Nat) (hcnt : 0 < cnt)
    (hlo : g.region.lo b = m.region.lo s + (off : Rat) * m.cellAt s)
    (hhi : g.region.hi b = m.region.lo s + ((off : Rat) + (cnt : Rat)) * m.cellAt s)
    (hn : g.nAt b = cnt) (fits : off + cnt ≤ m.nAt s) : AxisBlock g m b s off cnt := by
  refine ⟨hlo, hn, ?_, fits⟩
  have : g.cellAt b = (g.region.hi b - g.region.lo b) / (g.nAt b : Rat) := rfl
  rw [this, hn, hhi, hlo]
  field_simp
  ring

theorem axisBlock_whole (g m : Mesh) (b s : Nat) (hn : 0 < m.nAt s)
    (hlo : g.region.lo b = m.region.lo s) (hhi : g.region.hi b = m.region.hi s)
    (hcnt : g.nAt b = m.nAt s) : AxisBlock g m b s 0 (m.nAt s) :=
  axisBlock_of g m b s 0 (m.nAt s) hn (by rw [hlo]; simp) (by rw [hhi, C01.hi_eq m s hn]; simp) hcnt (by omega)

theorem block_centre {g m : Mesh} {b s off cnt : Nat} (h : AxisBlock g m b s off cnt) (j : Nat) :
    g.centreAx b ((j : Nat) : Int) = m.centreAx s (((off + j : Nat)) : Int) := by
  rw [C01.centreAx_natCast, C01.centreAx_natCast, h.lo, h.cell]; push_cast; ring

theorem block_index {g m : Mesh} {b s off cnt : Nat} (h : AxisBlock g m b s off cnt)
    (hc : 0 < m.cellAt s) (j : Nat) (hj : j < cnt) :
    m.indexAx s (g.centreAx b ((j : Nat) : Int)) = off + j ∧
    m.region.lo s ≤ g.centreAx b ((j : Nat) : Int) ∧ g.centreAx b ((j : Nat) : Int) ≤ m.region.hi s := by
  have hlt : off + j < m.nAt s := by have := h.fits; omega
  rw [block_centre h j]
  exact ⟨C01.indexAx_centreAx m s (off + j) hlt hc, centre_bounds m s (off + j) hlt hc⟩

theorem block_hi {g m : Mesh} {b s off cnt : Nat} (h : AxisBlock g m b s off cnt) (hcnt : 0 < cnt) :
    g.region.hi b = m.region.lo s + ((off : Rat) + (cnt : Rat)) * m.cellAt s := by
  rw [C01.hi_eq g b (by rw [h.n]; exact hcnt), h.lo, h.cell, h.n]; ring

theorem inv_of_blocks (m g : Mesh) (hm : m.Inv) (hnd : g.ndim = m.ndim) (hnl : g.n.length = m.ndim)
    (hd : g.region.dims = m.region.dims) (hu : g.region.units = m.region.units)
    (hpm : g.region.pmax.length = m.ndim) (off cnt : Nat → Nat) (hcnt : ∀ b, b < m.ndim → 0 < cnt b)
    (hblk : ∀ b, b < m.ndim → AxisBlock g m b b (off b) (cnt b)) : g.Inv := by
  have hpos : ∀ b, b < g.ndim → 0 < g.nAt b ∧ g.region.lo b < g.region.hi b := by
    intro b hb
    have blk := hblk b (by omega)
    have hc := hm.cellAt_pos (show b < m.ndim by omega)
    have hcn := hcnt b (by omega)
    refine ⟨by rw [blk.n]; exact hcn, ?_⟩
    rw [block_hi blk hcn, blk.lo, C01.face_lt hc]
    exact lt_add_of_pos_right _ (by exact_mod_cast hcn)
  refine ⟨⟨?_, ?_, ?_, ?_, ?_, fun b hb => (hpos b hb).2⟩, ?_, fun b hb => (hpos b hb).1⟩
  · show 0 < g.ndim; rw [hnd]; exact hm.ndim_pos
  · show g.region.pmax.length = g.ndim; omega
  · rw [hd, hm.dims_length]; exact hnd.symm
  · rw [hu, hm.units_length]; exact hnd.symm
  · rw [hd]; exact hm.1.dims_nodup
  · show g.n.length = g.ndim; omega

/-! ## the block of whole cells as a mesh -/

theorem nAt_def (m : Mesh) (a : Nat) : m.nAt a = m.n.getD a 0 := rfl

/-- a block reads only region and counts of the mesh it describes -/
theorem AxisBlock.of_geom {g g' m : Mesh} {b s off cnt : Nat} (h : AxisBlock g' m b s off cnt)
    (hr : g.region = g'.region) (hn : g.n = g'.n) : AxisBlock g m b s off cnt := by
  cases g; cases g'; cases hr; cases hn; exact ⟨h.lo, h.n, h.cell, h.fits⟩

/-- the mesh of the cells `off b, …, off b + cnt b - 1` of every axis `b` of `m`, without boundary condition and
subregions -/
def blockOf (m : Mesh) (off cnt : Nat → Nat) : Mesh :=
  { region := { m.region with
      pmin := tab m.ndim fun b => m.region.lo b + (off b : Rat) * m.cellAt b,
      pmax := tab m.ndim fun b => m.region.lo b + ((off b : Rat) + (cnt b : Rat)) * m.cellAt b },
    n := tab m.ndim cnt, bc := "", subs := [] }

theorem blockOf_axis (m : Mesh) (off cnt : Nat → Nat) (b : Nat) (hb : b < m.ndim) (hc : 0 < cnt b)
    (hfit : off b + cnt b ≤ m.nAt b) : AxisBlock (blockOf m off cnt) m b b (off b) (cnt b) :=
  axisBlock_of _ m b b _ _ hc (getD_tab _ _ _ _ hb) (getD_tab _ _ _ _ hb) (getD_tab _ _ _ _ hb) hfit

/-- the constructor path of `mesh[region]` and `Mesh.sel` on the corners of a block: the region is built as it
stands and the mesh on it is `blockOf` -/
theorem blockOf_build (m : Mesh) (hm : m.Inv) (off cnt : Nat → Nat)
    (h : ∀ b, b < m.ndim → 0 < cnt b ∧ off b + cnt b ≤ m.nAt b) :
    Region.mk? (blockOf m off cnt).region.pmin (blockOf m off cnt).region.pmax (some m.region.dims)
      (some m.region.units) m.region.tol = .ok (blockOf m off cnt).region ∧
    Mesh.mkCell? (blockOf m off cnt).region m.cell "" = .ok (blockOf m off cnt) := by
  have hnd : (blockOf m off cnt).region.pmin.length = m.ndim := tab_length _ _
  have hax := fun b hb => blockOf_axis m off cnt b hb (h b hb).1 (h b hb).2
  have hlt : ∀ b, b < m.ndim → (blockOf m off cnt).region.lo b < (blockOf m off cnt).region.hi b := fun b hb => by
    rw [block_hi (hax b hb) (h b hb).1, (hax b hb).lo, C01.face_lt (hm.cellAt_pos hb)]
    exact lt_add_of_pos_right _ (by exact_mod_cast (h b hb).1)
  refine ⟨regionMk_ok _ _ _ _ _ (hnd.trans (tab_length _ _).symm) (by rw [hnd]; exact hm.ndim_pos)
    (by rw [hnd]; exact hm.dims_length) hm.1.dims_nodup (by rw [hnd]; exact hm.units_length)
    (fun b hb => hlt b (by rwa [hnd] at hb)), ?_⟩
  exact mkCell_ok_nobc (blockOf m off cnt).region (blockOf m off cnt).n _ ((C01.cell_length m).trans hnd.symm)
    ((tab_length _ _).trans hnd.symm) fun b hb => by
      have hb' : b < m.ndim := by rwa [show (blockOf m off cnt).region.ndim = m.ndim from hnd] at hb
      rw [C01.cell_getD m b hb']
      exact ⟨by rw [show (blockOf m off cnt).n.getD b 0 = _ from (hax b hb').n]; exact (h b hb').1, hlt b hb',
        (hax b hb').cell.symm⟩

/-- every axis `b` of `g` consists of the `cnt b` cells `off b, …, off b + cnt b - 1` of the same
axis of `m`, under the names, units and tolerance of `m` -/
structure MeshBlock (g m : Mesh) (off cnt : Nat → Nat) : Prop where
  ndim : g.ndim = m.ndim
  nlen : g.n.length = m.ndim
  pmax : g.region.pmax.length = m.ndim
  dims : g.region.dims = m.region.dims
  units : g.region.units = m.region.units
  tol : g.region.tol = m.region.tol
  pos : ∀ b, b < m.ndim → 0 < cnt b
  axis : ∀ b, b < m.ndim → AxisBlock g m b b (off b) (cnt b)

namespace MeshBlock
variable {g m : Mesh} {off cnt : Nat → Nat}

theorem of_blockOf (hfit : ∀ b, b < m.ndim → 0 < cnt b ∧ off b + cnt b ≤ m.nAt b)
    (hr : g.region = (blockOf m off cnt).region) (hn : g.n = (blockOf m off cnt).n) : MeshBlock g m off cnt :=
  ⟨(congrArg Region.ndim hr).trans (tab_length _ _), (congrArg List.length hn).trans (tab_length _ _),
    (congrArg (·.pmax.length) hr).trans (tab_length _ _), by rw [hr]; rfl, by rw [hr]; rfl, by rw [hr]; rfl,
    fun b hb => (hfit b hb).1, fun b hb => (blockOf_axis m off cnt b hb (hfit b hb).1 (hfit b hb).2).of_geom hr hn⟩

theorem inv (h : MeshBlock g m off cnt) (hm : m.Inv) : g.Inv :=
  inv_of_blocks m g hm h.ndim h.nlen h.dims h.units h.pmax off cnt h.pos h.axis

end MeshBlock

/-! ## range selection: the mesh is a block, up to subregions -/

/-- offset, per axis, of the cells `k₁ … k₂` of axis `a` and all cells of the other axes -/
def rangeOff (a k1 : Nat) (b : Nat) : Nat := if b = a then k1 else 0
/-- … and their count per axis -/
def rangeCnt (m : Mesh) (a k1 k2 : Nat) (b : Nat) : Nat := if b = a then k2 - k1 + 1 else m.nAt b

theorem rangeOff_self (a k1 : Nat) : rangeOff a k1 a = k1 := if_pos rfl
theorem rangeOff_of_ne {a b : Nat} (h : b ≠ a) (k1 : Nat) : rangeOff a k1 b = 0 := if_neg h
theorem rangeCnt_self (m : Mesh) (a k1 k2 : Nat) : rangeCnt m a k1 k2 a = k2 - k1 + 1 := if_pos rfl
theorem rangeCnt_of_ne (m : Mesh) {a b : Nat} (h : b ≠ a) (k1 k2 : Nat) : rangeCnt m a k1 k2 b = m.nAt b :=
  if_neg h

/-- the source index of `rangeOff`, as `Field.sel` writes it: `j` shifted by `k` along axis `a` -/
theorem tab_rangeOff (j : List Nat) (n a k : Nat) (hj : j.length = n) (ha : a < n) :
    (tab n fun b => rangeOff a k b + j.getD b 0) = setAt j a (j.getD a 0 + k) := by
  symm
  apply eq_tab_of_getD _ _ _ 0 (by rw [length_setAt, hj])
  intro b hb
  by_cases hba : b = a
  · subst hba; rw [getD_setAt_eq _ _ _ _ (by omega), rangeOff_self, Nat.add_comm]
  · rw [getD_setAt_ne _ _ _ _ _ hba, rangeOff_of_ne hba, Nat.zero_add]

theorem tab_rangeCnt (m : Mesh) (hm : m.Inv) (a k1 k2 : Nat) :
    (tab m.ndim fun b => rangeCnt m a k1 k2 b) = setAt m.n a (k2 - k1 + 1) := by
  refine (eq_tab_of_getD _ _ _ 0 (by rw [length_setAt, hm.n_length]) fun b hb => ?_).symm
  by_cases hba : b = a
  · subst hba; rw [getD_setAt_eq _ _ _ _ (by rw [hm.n_length]; exact hb), rangeCnt_self]
  · rw [getD_setAt_ne _ _ _ _ _ hba, rangeCnt_of_ne _ hba]; rfl

theorem rangeCnt_fits (m : Mesh) (hm : m.Inv) (a k1 k2 : Nat) (hk : k1 ≤ k2) (hk2 : k2 < m.nAt a) (b : Nat)
    (hb : b < m.ndim) : 0 < rangeCnt m a k1 k2 b ∧ rangeOff a k1 b + rangeCnt m a k1 k2 b ≤ m.nAt b := by
  unfold rangeOff rangeCnt
  split
  · subst_vars; omega
  · have := hm.nAt_pos hb; omega

/-- `Mesh.sel` on the cells `k₁ … k₂` of axis `a`: the loop over the subregions, then the subregion setter on the
block of these cells -/
theorem selRangeMesh_iff (m : Mesh) (hm : m.Inv) (a : Nat) (ha : a < m.ndim) (k1 k2 : Nat)
    (hk : k1 ≤ k2) (hk2 : k2 < m.nAt a) (g : Mesh) :
    selRangeMesh m a (m.centreAx a (k1 : Int)) (m.centreAx a (k2 : Int)) = .ok g ↔
      ∃ subs, rangeSubs a (m.region.lo a + (k1 : Rat) * m.cellAt a) (m.region.lo a + ((k2 : Rat) + 1) * m.cellAt a)
          (m.cellAt a / 2) m.subs = .ok subs ∧
        setSubs? (blockOf m (rangeOff a k1) (rangeCnt m a k1 k2)) subs = .ok g := by
  have hfit := rangeCnt_fits m hm a k1 k2 hk hk2
  unfold selRangeMesh
  rw [centre_sub_half, centre_add_half]
  cases rangeSubs a (m.region.lo a + (k1 : Rat) * m.cellAt a) (m.region.lo a + ((k2 : Rat) + 1) * m.cellAt a)
      (m.cellAt a / 2) m.subs with
  | error e => exact ⟨fun h => (nomatch h), fun ⟨_, h, _⟩ => (nomatch h)⟩
  | ok subs =>
    simp only
    -- the corners handed to `Region(...)`: the faces of the block
    rw [show setAt m.region.pmin a (m.region.lo a + (k1 : Rat) * m.cellAt a)
        = (blockOf m (rangeOff a k1) (rangeCnt m a k1 k2)).region.pmin from
        eq_tab_of_getD _ _ _ 0 (length_setAt _ _ _) fun b hb => by
          by_cases hba : b = a
          · subst hba; rw [getD_setAt_eq _ _ _ _ hb, rangeOff_self]
          · rw [getD_setAt_ne _ _ _ _ _ hba, rangeOff_of_ne hba, Nat.cast_zero, zero_mul, add_zero]; rfl,
      show setAt m.region.pmax a (m.region.lo a + ((k2 : Rat) + 1) * m.cellAt a)
        = (blockOf m (rangeOff a k1) (rangeCnt m a k1 k2)).region.pmax from
        eq_tab_of_getD _ _ _ 0 ((length_setAt _ _ _).trans hm.pmax_length) fun b hb => by
          by_cases hba : b = a
          · subst hba
            rw [getD_setAt_eq _ _ _ _ (by rw [hm.pmax_length]; exact hb), rangeOff_self, rangeCnt_self,
              Nat.cast_add_one, Nat.cast_sub hk]; ring
          · rw [getD_setAt_ne _ _ _ _ _ hba, rangeOff_of_ne hba, rangeCnt_of_ne _ hba, Nat.cast_zero, zero_add,
              ← C01.hi_eq m b (hm.nAt_pos hb)]; rfl,
      (blockOf_build m hm _ _ hfit).1]
    simp only
    unfold mkMesh?
    rw [(blockOf_build m hm _ _ hfit).2]
    exact ⟨fun h => ⟨subs, rfl, h⟩, fun ⟨_, e, h⟩ => by cases e; exact h⟩

theorem dim2index_ndim {m : Mesh} (hm : m.Inv) {d : String} {a : Nat} (h : m.region.dim2index d = .ok a) :
    a < m.ndim :=
  hm.dim2index_lt h

/-! ## plane selection: the mesh is `planeOf` -/

/-- mesh with axis `a` removed (what a plane selection returns when there are no subregions) -/
def planeOf (m : Mesh) (a : Nat) : Mesh :=
  { region := { pmin := removeAt m.region.pmin a, pmax := removeAt m.region.pmax a,
                dims := removeAt m.region.dims a, units := removeAt m.region.units a, tol := m.region.tol },
    n := removeAt m.n a, bc := "", subs := [] }

theorem planeOf_inv (m : Mesh) (hm : m.Inv) (a : Nat) (ha : a < m.ndim) (h2 : 2 ≤ m.ndim) :
    (planeOf m a).Inv ∧ (planeOf m a).ndim = m.ndim - 1 ∧
    ∀ b, b < m.ndim - 1 →
      (planeOf m a).region.lo b = m.region.lo (skip a b) ∧ (planeOf m a).region.hi b = m.region.hi (skip a b) ∧
      (planeOf m a).nAt b = m.nAt (skip a b) ∧ (planeOf m a).cellAt b = m.cellAt (skip a b) := by
  have hnd : (planeOf m a).ndim = m.ndim - 1 := by
    show (removeAt m.region.pmin a).length = _
    exact length_removeAt _ _ ha
  have hax : ∀ b, b < m.ndim - 1 →
      (planeOf m a).region.lo b = m.region.lo (skip a b) ∧ (planeOf m a).region.hi b = m.region.hi (skip a b) ∧
      (planeOf m a).nAt b = m.nAt (skip a b) ∧ (planeOf m a).cellAt b = m.cellAt (skip a b) := by
    intro b hb
    have e1 : (planeOf m a).region.lo b = m.region.lo (skip a b) := getD_removeAt _ _ _ _
    have e2 : (planeOf m a).region.hi b = m.region.hi (skip a b) := getD_removeAt _ _ _ _
    have e3 : (planeOf m a).nAt b = m.nAt (skip a b) := getD_removeAt _ _ _ _
    refine ⟨e1, e2, e3, ?_⟩
    unfold cellAt Region.edge
    rw [e1, e2, e3]
  refine ⟨⟨⟨?_, ?_, ?_, ?_, ?_, ?_⟩, ?_, ?_⟩, hnd, hax⟩
  · show 0 < (planeOf m a).ndim; omega
  · show (removeAt m.region.pmax a).length = (planeOf m a).ndim
    rw [length_removeAt _ _ (by rw [hm.pmax_length]; exact ha), hm.pmax_length, hnd]
  · show (removeAt m.region.dims a).length = (planeOf m a).ndim
    rw [length_removeAt _ _ (by rw [hm.dims_length]; exact ha), hm.dims_length, hnd]
  · show (removeAt m.region.units a).length = (planeOf m a).ndim
    rw [length_removeAt _ _ (by rw [hm.units_length]; exact ha), hm.units_length, hnd]
  · exact hasDup_removeAt _ _ hm.1.dims_nodup
  · intro b hb
    have hb' : b < m.ndim - 1 := by
      have : b < (planeOf m a).ndim := hb
      omega
    obtain ⟨e1, e2, _, _⟩ := hax b hb'
    rw [e1, e2]; exact hm.lo_lt_hi (skip_lt a b m.ndim ha hb')
  · show (removeAt m.n a).length = (planeOf m a).ndim
    rw [length_removeAt _ _ (by rw [hm.n_length]; exact ha), hm.n_length, hnd]
  · intro b hb
    have hb' : b < m.ndim - 1 := by omega
    rw [(hax b hb').2.2.1]; exact hm.nAt_pos (skip_lt a b m.ndim ha hb')

/-- what the geometric notions (`ndim`, `nAt`, `cellAt`, `centreAx`, `indexAx`, `point2index`, `Inv`) read of a
mesh: region and cell counts -/
theorem inv_geom {g g' : Mesh} (hr : g.region = g'.region) (hn : g.n = g'.n) (h : g'.Inv) : g.Inv := by
  cases g; cases g'; cases hr; cases hn; exact h

theorem indexAx_geom {g g' : Mesh} (hr : g.region = g'.region) (hn : g.n = g'.n) (b : Nat) (z : Rat) :
    g.indexAx b z = g'.indexAx b z := by
  cases g; cases g'; cases hr; cases hn; rfl

theorem planeOf_geom {g g' : Mesh} (hr : g.region = g'.region) (hn : g.n = g'.n) (a : Nat) :
    planeOf g a = planeOf g' a := by
  cases g; cases g'; cases hr; cases hn; rfl

theorem planeOf_comm (m : Mesh) {a b : Nat} (hab : a < b) :
    planeOf (planeOf m a) (b - 1) = planeOf (planeOf m b) a := by
  simp only [planeOf, removeAt_comm _ hab]

theorem indexAx_planeOf (m : Mesh) (a b : Nat) (z : Rat) : (planeOf m a).indexAx b z = m.indexAx (skip a b) z := by
  show (clipInt (((z - (removeAt m.region.pmin a).getD b 0) /
    (((removeAt m.region.pmax a).getD b 0 - (removeAt m.region.pmin a).getD b 0) / ((removeAt m.n a).getD b 0 : Rat))).floor) 0
    (((removeAt m.n a).getD b 0 : Int) - 1)).toNat = _
  rw [getD_removeAt, getD_removeAt, getD_removeAt]; rfl

/-- two layers taken out of an array in either order -/
theorem take_take_get {α : Type} (x : NDA α) {a b : Nat} (k l : Nat) (hab : a < b) (j : List Nat)
    (hj : b ≤ j.length + 1) : ((x.take a k).take (b - 1) l).get j = ((x.take b l).take a k).get j := by
  show x.get (insertAt (insertAt j (b - 1) l) a k) = x.get (insertAt (insertAt j a k) b l)
  rw [insertAt_comm j a (b - 1) k l (by omega) (by omega), Nat.sub_add_cancel (by omega)]

/-- the constructor path of a plane selection: the region without axis `a` is built as it stands and the mesh on it
is `planeOf` -/
theorem planeOf_build (m : Mesh) (hm : m.Inv) (a : Nat) (ha : a < m.ndim) (h2 : 2 ≤ m.ndim) :
    Region.mk? (removeAt m.region.pmin a) (removeAt m.region.pmax a) (some (removeAt m.region.dims a))
      (some (removeAt m.region.units a)) m.region.tol = .ok (planeOf m a).region ∧
    Mesh.mkCell? (planeOf m a).region (removeAt m.cell a) "" = .ok (planeOf m a) := by
  obtain ⟨pinv, pnd, pax⟩ := planeOf_inv m hm a ha h2
  have hl : (planeOf m a).region.pmin.length = m.ndim - 1 := pnd
  refine ⟨regionMk_ok _ _ _ _ _ (pinv.pmax_length).symm pinv.ndim_pos pinv.dims_length
    pinv.1.dims_nodup pinv.units_length (fun b hb => pinv.lo_lt_hi hb), ?_⟩
  exact mkCell_ok_nobc (planeOf m a).region (planeOf m a).n _
    ((length_removeAt _ _ (by rw [C01.cell_length]; exact ha)).trans (by rw [C01.cell_length]; exact hl.symm))
    pinv.n_length fun b hb => by
      have hb' : b < m.ndim - 1 := hl ▸ hb
      rw [getD_removeAt, C01.cell_getD m _ (skip_lt a b m.ndim ha hb')]
      exact ⟨pinv.nAt_pos hb, pinv.lo_lt_hi hb, (pax b hb').2.2.2.symm⟩

/-- `Mesh.sel` at a coordinate: needs a second axis; then the loop over the subregions and the subregion setter on
`planeOf` -/
theorem selPlaneMesh_iff (m : Mesh) (hm : m.Inv) (a : Nat) (ha : a < m.ndim) (c : Rat) (g : Mesh) :
    selPlaneMesh m a c = .ok g ↔
      2 ≤ m.ndim ∧ ∃ subs, planeSubs a c m.subs = .ok subs ∧ setSubs? (planeOf m a) subs = .ok g := by
  unfold selPlaneMesh
  cases planeSubs a c m.subs with
  | error e => exact ⟨fun h => (nomatch h), fun ⟨_, _, h, _⟩ => (nomatch h)⟩
  | ok subs =>
    simp only
    by_cases h2 : 2 ≤ m.ndim
    · rw [(planeOf_build m hm a ha h2).1]
      simp only
      unfold mkMesh?
      rw [(planeOf_build m hm a ha h2).2]
      exact ⟨fun h => ⟨h2, subs, rfl, h⟩, fun ⟨_, _, e, h⟩ => by cases e; exact h⟩
    · -- a 1-d mesh: `Region(...)` refuses the empty corner lists
      refine ⟨fun h => ?_, fun h => absurd h.1 h2⟩
      have hl : (removeAt m.region.pmin a).length = 0 := by
        rw [length_removeAt _ _ ha]; show m.ndim - 1 = 0; omega
      cases hr : Region.mk? (removeAt m.region.pmin a) (removeAt m.region.pmax a) (some (removeAt m.region.dims a))
          (some (removeAt m.region.units a)) m.region.tol with
      | error e => rw [hr] at h; cases h
      | ok r => exact absurd hl (T.mk?_ok_inv _ _ _ _ _ _ hr).2.1

/-- projection of `selPlaneMesh_iff` for a mesh without subregions -/
theorem selPlaneMesh_ok (m : Mesh) (hm : m.Inv) (hs : m.subs = []) (a : Nat) (ha : a < m.ndim)
    (h2 : 2 ≤ m.ndim) (c : Rat) : selPlaneMesh m a c = .ok (planeOf m a) :=
  (selPlaneMesh_iff m hm a ha c _).mpr ⟨h2, [], by rw [hs]; rfl, setSubs_nil _ rfl⟩

theorem selPlaneMesh_eq (m : Mesh) (hm : m.Inv) (a : Nat) (ha : a < m.ndim) (c : Rat) (g : Mesh)
    (h : selPlaneMesh m a c = .ok g) :
    2 ≤ m.ndim ∧ g.region = (planeOf m a).region ∧ g.n = (planeOf m a).n := by
  obtain ⟨h2, _, _, hs⟩ := (selPlaneMesh_iff m hm a ha c g).mp h
  obtain ⟨g1, g2, _, _⟩ := setSubs_inv _ _ _ hs
  exact ⟨h2, g1, g2⟩

/-! ## `Mesh.sel` / `Field.sel` by kind of selection -/

/-- `Field.sel` at a coordinate: the mesh is `planeOf` (up to subregions), the arrays are the layer of the
coordinate -/
theorem selFld_plane (f : Fld) (hf : f.mesh.Inv) (dim : String) (x : Rat) (g : Fld)
    (h : selFld f dim (.point x) = .ok (.field g)) :
    ∃ a, f.mesh.region.dim2index dim = .ok a ∧ f.mesh.region.lo a ≤ x ∧ x ≤ f.mesh.region.hi a ∧
      2 ≤ f.mesh.ndim ∧ g.mesh.region = (planeOf f.mesh a).region ∧ g.mesh.n = (planeOf f.mesh a).n ∧
      g.data = f.data.take a (f.mesh.indexAx a x) ∧ g.valid = f.valid.take a (f.mesh.indexAx a x) := by
  obtain ⟨a, s, m, hc, hm, hg⟩ := (selFld_field_iff f dim _ g).mp h
  obtain ⟨hd, h1, h2, rfl⟩ := (selConvert_point_ok_iff f.mesh hf dim x a s).mp hc
  obtain ⟨_, _, _, rfl⟩ := (mkFld_ok_iff _ _ _ _ _).mp hg
  obtain ⟨p1, p2, p3⟩ := selPlaneMesh_eq f.mesh hf a (hf.dim2index_lt hd) _ m hm
  exact ⟨a, hd, h1, h2, p1, p2, p3, rfl, rfl⟩

/-- `Mesh.sel` with a range: the mesh of the cells from the one containing the lower bound to the one
containing the upper bound -/
theorem selMesh_range (m : Mesh) (hm : m.Inv) (dim : String) (x y : Rat) (g : Mesh)
    (h : selMesh m dim (.range x y) = .ok g) :
    ∃ a, m.region.dim2index dim = .ok a ∧ m.region.lo a ≤ min x y ∧ max x y ≤ m.region.hi a ∧
      selRangeMesh m a (m.centreAx a ((m.indexAx a (min x y) : Nat) : Int))
        (m.centreAx a ((m.indexAx a (max x y) : Nat) : Int)) = .ok g := by
  obtain ⟨a, s, hc, hg⟩ := (selMesh_ok_iff m dim _ g).mp h
  obtain ⟨hd, h1, h2, rfl⟩ := (selConvert_range_ok_iff m hm dim x y a s).mp hc
  exact ⟨a, hd, h1, h2, hg⟩

/-- `Field.sel` with a range: the arrays are the slice `k₁ : k₂ + 1` -/
theorem selFld_range (f : Fld) (hf : f.mesh.Inv) (dim : String) (x y : Rat) (g : Fld)
    (h : selFld f dim (.range x y) = .ok (.field g)) :
    selMesh f.mesh dim (.range x y) = .ok g.mesh ∧
    ∃ a, f.mesh.region.dim2index dim = .ok a ∧
      g.data = f.data.slice a (f.mesh.indexAx a (min x y)) (f.mesh.indexAx a (max x y) + 1) ∧
      g.valid = f.valid.slice a (f.mesh.indexAx a (min x y)) (f.mesh.indexAx a (max x y) + 1) := by
  obtain ⟨a, s, m, hc, hm, hg⟩ := (selFld_field_iff f dim _ g).mp h
  obtain ⟨hd, _, _, rfl⟩ := (selConvert_range_ok_iff f.mesh hf dim x y a s).mp hc
  obtain ⟨_, _, _, rfl⟩ := (mkFld_ok_iff _ _ _ _ _).mp hg
  exact ⟨(selMesh_ok_iff _ _ _ _).mpr ⟨a, _, hc, hm⟩, a, hd, rfl, rfl⟩

theorem eq_or_skip (a b' : Nat) : b' = a ∨ ∃ b, skip a b = b' := by
  rcases Nat.lt_trichotomy b' a with h | h | h
  · exact Or.inr ⟨b', by unfold skip; rw [if_pos h]⟩
  · exact Or.inl h
  · exact Or.inr ⟨b' - 1, by unfold skip; rw [if_neg (by omega)]; omega⟩

/-- Plane selection: if `g` is `m` with axis `a` removed, then the
point obtained by inserting the coordinate `x` (of cell `k`) at axis `a` into the centre of
`g`'s cell `j` lies in `m`'s cell `insertAt j a k`. -/
theorem plane_point2index (m g : Mesh) (hm : m.Inv) (a : Nat) (ha : a < m.ndim) (x : Rat)
    (hx1 : m.region.lo a ≤ x) (hx2 : x ≤ m.region.hi a)
    (hnd : g.ndim = m.ndim - 1) (hnl : g.n.length = m.ndim - 1)
    (hax : ∀ b, b < m.ndim - 1 → g.region.lo b = m.region.lo (skip a b) ∧
      g.region.hi b = m.region.hi (skip a b) ∧ g.nAt b = m.nAt (skip a b))
    (j : List Nat) (hj : inRange g.n j = true) :
    m.point2index (insertAt (g.centre j) a x) = .ok (insertAt j a (m.indexAx a x)) := by
  have hjl : j.length = m.ndim - 1 := by rw [inRange_length _ _ hj, hnl]
  have hcl : (g.centre j).length = m.ndim - 1 := by rw [C01.centre_length, hnd]
  -- every coordinate of the inserted point: the inserted one, or a kept axis `skip a b`
  have hcoord : ∀ b', b' < m.ndim →
      m.region.lo b' ≤ (insertAt (g.centre j) a x).getD b' 0 ∧
      (insertAt (g.centre j) a x).getD b' 0 ≤ m.region.hi b' ∧
      m.indexAx b' ((insertAt (g.centre j) a x).getD b' 0) = (insertAt j a (m.indexAx a x)).getD b' 0 := by
    intro b' hb'
    rcases eq_or_skip a b' with rfl | ⟨b, rfl⟩
    · rw [getD_insertAt_eq _ _ _ _ (by omega), getD_insertAt_eq _ _ _ _ (by omega)]
      exact ⟨hx1, hx2, rfl⟩
    · have hb : b < m.ndim - 1 := by unfold skip at hb'; split at hb' <;> omega
      obtain ⟨q1, q2, q3⟩ := hax b hb
      have hjb : j.getD b 0 < m.nAt (skip a b) := by
        rw [← q3]; exact inRange_getD _ _ hj b (by rw [hnl]; exact hb)
      rw [getD_insertAt_skip _ _ _ _ _ (by omega), getD_insertAt_skip _ _ _ _ _ (by omega),
        C01.centre_getD g b j (by omega)]
      have := block_index (axisBlock_whole g m b (skip a b) (hm.nAt_pos hb') q1 q2 q3)
        (hm.cellAt_pos hb') (j.getD b 0) hjb
      exact ⟨this.2.1, this.2.2, by rw [this.1, Nat.zero_add]⟩
  rw [point2index_eq m _ (by rw [length_insertAt, hcl]; omega)
    (fun b hb => ⟨(hcoord b hb).1, (hcoord b hb).2.1⟩)]
  exact congrArg _ (eq_tab_of_getD _ _ _ 0 (by rw [length_insertAt, hjl]; omega)
    fun b hb => ((hcoord b hb).2.2).symm).symm

/-- Same-dimension results (range selection, extraction by region or name): if every axis of `g`
is a block of whole cells of the same axis of `m`, the centre of `g`'s cell `j` lies in `m`'s
cell `j + off`. -/
theorem block_point2index (m g : Mesh) (hm : m.Inv) (hnd : g.ndim = m.ndim) (hnl : g.n.length = m.ndim)
    (off cnt : Nat → Nat) (hblk : ∀ b, b < m.ndim → AxisBlock g m b b (off b) (cnt b))
    (j : List Nat) (hj : inRange g.n j = true) :
    m.point2index (g.centre j) = .ok (tab m.ndim fun b => off b + j.getD b 0) := by
  have hfacts : ∀ b, b < m.ndim →
      m.indexAx b ((g.centre j).getD b 0) = off b + j.getD b 0 ∧
      m.region.lo b ≤ (g.centre j).getD b 0 ∧ (g.centre j).getD b 0 ≤ m.region.hi b := by
    intro b hb
    rw [C01.centre_getD g b j (by omega)]
    have hjb : j.getD b 0 < cnt b := by
      have := inRange_getD _ _ hj b (by rw [hnl]; exact hb)
      rw [← (hblk b hb).n]; exact this
    exact block_index (hblk b hb) (hm.cellAt_pos hb) (j.getD b 0) hjb
  rw [point2index_eq m _ (by rw [C01.centre_length, hnd]) (fun b hb => (hfacts b hb).2)]
  congr 1
  exact tab_congr _ _ _ (fun b hb => (hfacts b hb).1)

theorem selFld_ok (f : Fld) (dim : String) (arg : SelArg) (a : Nat) (s : SelIdx) (gm : Mesh)
    (hconv : selConvert f.mesh dim arg = .ok (a, s)) (hmesh : selMesh f.mesh dim arg = .ok gm)
    (hd : (selData f.data a s).shape = gm.n) (hv : (selData f.valid a s).shape = gm.n)
    (hmeta : metaOk f = true) : ∃ g, selFld f dim arg = .ok (.field g) := by
  obtain ⟨g, hg⟩ := mkFld_ok gm f _ _ hd hv hmeta
  obtain ⟨a', s', hc', hm'⟩ := (selMesh_ok_iff _ _ _ _).mp hmesh
  cases hconv.symm.trans hc'
  exact ⟨g, (selFld_field_iff f dim arg g).mpr ⟨a, s, gm, hconv, hm', hg⟩⟩

end DFV.C07
