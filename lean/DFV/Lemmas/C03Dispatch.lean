import DFV.Model.C03

/-! C03: which method a Python operator or ufunc call reaches (`applyBin`, `applyUn`, `evalF` are matches over 16 operators,
14 unary operations and 4 kinds of tree; each is reduced once to equations over operator classes: `rfl` closes the operators
of the class, `cases` on the class hypothesis the others), and per method one equivalence `*_ok_iff`: the call returns `g`
exactly when the operand check passes, the NumPy function returns some `res` and the constructor turns `res` into `g` (for
the methods that call methods: the list of calls).  Acceptance reads it from right to left, inversion from left to right, a
refusal is the contrapositive of one conjunct; `reflectedOp_ok`, `shlOp_ok`, `angleVec_ok`, `angleOp_ok` are the `→` halves
family C08 uses.  The step inside the proofs: the model writes `match x with | .error e => .error e | .ok a => k a`;
`cases x` leaves an absurd equivalence (`nofun`, and `nomatch` on `x = .ok _`) and `k a = .ok g ↔ …` with witness `a`. -/

namespace DFV.C03
open DFV

/-- a field result as a value: the last step of `applyBin` and of `evalF` on a unary node -/
def liftFld (x : M CF) : M Val :=
  match x with
  | .error e => .error e
  | .ok g => .ok (.fld g)

theorem liftFld_ok {x : M CF} {v : Val} : liftFld x = .ok v ↔ ∃ g, x = .ok g ∧ v = .fld g := by
  cases x with
  | error e => exact ⟨fun h => (nomatch h), fun ⟨_, h, _⟩ => (nomatch h)⟩
  | ok g' =>
    exact ⟨fun h => ⟨g', rfl, (Except.ok.inj h).symm⟩, fun ⟨g, h, hv⟩ => by rw [hv, ← Except.ok.inj h]; rfl⟩

theorem liftFld_fld {x : M CF} {g : CF} : liftFld x = .ok (.fld g) ↔ x = .ok g := by
  rw [liftFld_ok]
  exact ⟨fun ⟨g', h, hv⟩ => by rw [h, Val.fld.inj hv], fun h => ⟨g, h, rfl⟩⟩

theorem liftFld_error {x : M CF} (h : ∃ e, x = .error e) : ∃ e, liftFld x = .error e := by
  obtain ⟨e, rfl⟩ := h
  exact ⟨e, rfl⟩

/-- the four arithmetic operators `+ - * /` -/
def isArith : BinOp → Bool
  | .add | .sub | .mul | .div => true
  | _ => false

/-- binary ufunc calls other than `np.power` -/
def isUArith : BinOp → Bool
  | .uadd | .usub | .umul | .udiv | .umax | .umin => true
  | _ => false

/-- the operators that go through `_apply_operator`: `+ - * / **` -/
def isOperator (b : BinOp) : Prop := isArith b = true ∨ b = .pow

/-- unary operations that are NumPy ufunc calls (the others rebuild the field directly) -/
def isUfuncUn : UnOp → Bool
  | .unegative | .upositive | .uabsolute | .usquare | .uconjugate | .usign => true
  | _ => false

/-- dtype kind of the array a unary operation hands to the constructor -/
def unRk : UnOp → Kind → Kind
  | .abs | .real | .imag | .absP | .uabsolute => Kind.realOf
  | .phase => fun _ => .float
  | _ => id

/-- the unary operations that hand `self.unit` on to the constructor (the others drop it) -/
def unKeepsUnit : UnOp → Bool
  | .pos | .abs | .real | .imag | .conj => true
  | _ => false

theorem isPow_arith {b : BinOp} (hb : isArith b = true) : isPow b = false := by
  cases b <;> first | rfl | cases hb

theorem isPow_uarith {b : BinOp} (hb : isUArith b = true) : isPow b = false := by
  cases b <;> first | rfl | cases hb

theorem isUfuncBin_uarith {b : BinOp} (hb : isUArith b = true) : isUfuncBin b = true := by
  cases b <;> first | rfl | cases hb

theorem applyUn_ufunc (env : Env) {u : UnOp} (hu : isUfuncUn u = true) (f : CF) :
    applyUn env u f = ufunc1 (unFn env u) (unRk u) f := by
  cases u <;> first | rfl | cases hu

theorem applyUn_rebuild (env : Env) {u : UnOp} (hu : isUfuncUn u = false) (hp : u ≠ .pos) (f : CF) :
    applyUn env u f = mapField (unFn env u) (unRk u) (unKeepsUnit u) f := by
  cases u <;> first | rfl | exact absurd rfl hp | cases hu

theorem applyBin_ufunc (env : Env) {b : BinOp} (hb : isUfuncBin b = true) (l r : Val) :
    applyBin env b l r = liftFld (ufunc2 (binFn b) (isPow b) l r) := by
  cases b <;> first | rfl | cases hb

/-- a field on the left of a Python operator: the forward method -/
theorem applyBin_forward (env : Env) {b : BinOp} (hb : isUfuncBin b = false) (f : CF) (v : Val) :
    applyBin env b (.fld f) v = liftFld (forwardOp env b f v) := by
  cases b <;> first | rfl | cases hb

theorem isOperator_not_ufunc {b : BinOp} (hb : isOperator b) : isUfuncBin b = false := by
  rcases hb with hb | rfl
  · cases b <;> first | rfl | cases hb
  · rfl

/-- a non-field on the left of a Python operator: `__array_ufunc__` for NumPy objects (which knows
`+ - * / **` only), the reflected method for plain Python ones -/
theorem applyBin_raw_fld (env : Env) {b : BinOp} (hb : isUfuncBin b = false) (o : Opd) (f : CF) :
    applyBin env b (.raw o) (.fld f) =
      if isNp o = true then
        (if isArith b = true ∨ b = .pow then liftFld (ufunc2 (binFn b) (isPow b) (.raw o) (.fld f)) else .error .notImpl)
      else liftFld (reflectedOp b o f) := by
  cases b <;> first | rfl | cases hb

theorem applyBin_np_left (env : Env) {b : BinOp} (hb : isOperator b) {o : Opd} (hnp : isNp o = true) (f : CF) :
    applyBin env b (.raw o) (.fld f) = liftFld (ufunc2 (binFn b) (isPow b) (.raw o) (.fld f)) := by
  rw [applyBin_raw_fld env (isOperator_not_ufunc hb), if_pos hnp]
  exact if_pos hb

theorem applyBin_np_left_other (env : Env) {b : BinOp} (hu : isUfuncBin b = false) (hb : ¬ isOperator b) {o : Opd}
    (hnp : isNp o = true) (f : CF) : applyBin env b (.raw o) (.fld f) = .error .notImpl := by
  rw [applyBin_raw_fld env hu, if_pos hnp]
  exact if_neg hb

theorem applyBin_reflected (env : Env) {b : BinOp} (hb : isUfuncBin b = false) {o : Opd} (hnp : isNp o = false)
    (f : CF) : applyBin env b (.raw o) (.fld f) = liftFld (reflectedOp b o f) := by
  rw [applyBin_raw_fld env hb, if_neg (by rw [hnp]; exact Bool.false_ne_true)]

theorem applyBin_forward_error (env : Env) {b : BinOp} (hb : isUfuncBin b = false) {f : CF} {v : Val} {e : Err}
    (h : forwardOp env b f v = .error e) : applyBin env b (.fld f) v = .error e := by
  rw [applyBin_forward env hb, h]; rfl

theorem applyBin_reflected_error (env : Env) {b : BinOp} (hb : isUfuncBin b = false) {o : Opd} (hnp : isNp o = false)
    {f : CF} {e : Err} (h : reflectedOp b o f = .error e) : applyBin env b (.raw o) (.fld f) = .error e := by
  rw [applyBin_reflected env hb hnp, h]; rfl

theorem applyBin_raw_raw (env : Env) {b : BinOp} (hb : isUfuncBin b = false) (o o' : Opd) :
    applyBin env b (.raw o) (.raw o') = .error .type := by
  cases b <;> first | rfl | cases hb

theorem forwardOp_operator (env : Env) {b : BinOp} (hb : isOperator b) (f : CF) (v : Val) :
    forwardOp env b f v = applyOperator (binFn b) (isPow b) f v := by
  rcases hb with hb | rfl
  · cases b <;> first | rfl | cases hb
  · rfl

theorem applyBin_operator (env : Env) {b : BinOp} (hb : isOperator b) (f : CF) (v : Val) :
    applyBin env b (.fld f) v = liftFld (applyOperator (binFn b) (isPow b) f v) := by
  rw [applyBin_forward env (isOperator_not_ufunc hb), forwardOp_operator env hb]

/-- **the four ways a binary step produces a value, which is always a field**: an explicit ufunc call; the forward
method of a field on the left; `__array_ufunc__` for a NumPy object on the left of `+ - * / **`; the reflected
method for a plain Python object on the left -/
theorem applyBin_ok {env : Env} {b : BinOp} {l r v : Val} (h : applyBin env b l r = .ok v) : ∃ g, v = .fld g ∧
    ((isUfuncBin b = true ∧ ufunc2 (binFn b) (isPow b) l r = .ok g) ∨
    (isUfuncBin b = false ∧ ∃ f, l = .fld f ∧ forwardOp env b f r = .ok g) ∨
    (isOperator b ∧ ∃ o f, l = .raw o ∧ r = .fld f ∧ isNp o = true ∧ ufunc2 (binFn b) (isPow b) l r = .ok g) ∨
    (isUfuncBin b = false ∧ ∃ o f, l = .raw o ∧ r = .fld f ∧ isNp o = false ∧ reflectedOp b o f = .ok g)) := by
  cases hu : isUfuncBin b with
  | true =>
    obtain ⟨g, hg, rfl⟩ := liftFld_ok.mp ((applyBin_ufunc env hu l r).symm.trans h)
    exact ⟨g, rfl, Or.inl ⟨rfl, hg⟩⟩
  | false =>
    cases l with
    | fld f =>
      obtain ⟨g, hg, rfl⟩ := liftFld_ok.mp ((applyBin_forward env hu f r).symm.trans h)
      exact ⟨g, rfl, Or.inr (Or.inl ⟨rfl, f, rfl, hg⟩)⟩
    | raw o =>
      cases r with
      | raw o' => rw [applyBin_raw_raw env hu] at h; cases h
      | fld f =>
        cases hnp : isNp o with
        | false =>
          obtain ⟨g, hg, rfl⟩ := liftFld_ok.mp ((applyBin_reflected env hu hnp f).symm.trans h)
          exact ⟨g, rfl, Or.inr (Or.inr (Or.inr ⟨rfl, o, f, rfl, rfl, hnp, hg⟩))⟩
        | true =>
          by_cases hb : isOperator b
          · obtain ⟨g, hg, rfl⟩ := liftFld_ok.mp ((applyBin_np_left env hb hnp f).symm.trans h)
            exact ⟨g, rfl, Or.inr (Or.inr (Or.inl ⟨hb, o, f, rfl, rfl, hnp, hg⟩))⟩
          · rw [applyBin_np_left_other env hu hb hnp] at h; cases h

/-- `applyBin_ok` for a result known to be the field `g` -/
theorem applyBin_ok_cases {env : Env} {b : BinOp} {l r : Val} {g : CF} (h : applyBin env b l r = .ok (.fld g)) :
    (isUfuncBin b = true ∧ ufunc2 (binFn b) (isPow b) l r = .ok g) ∨
    (isUfuncBin b = false ∧ ∃ f, l = .fld f ∧ forwardOp env b f r = .ok g) ∨
    (isOperator b ∧ ∃ o f, l = .raw o ∧ r = .fld f ∧ isNp o = true ∧ ufunc2 (binFn b) (isPow b) l r = .ok g) ∨
    (isUfuncBin b = false ∧ ∃ o f, l = .raw o ∧ r = .fld f ∧ isNp o = false ∧ reflectedOp b o f = .ok g) := by
  obtain ⟨g', hv, hc⟩ := applyBin_ok h
  cases Val.fld.inj hv
  exact hc

theorem applyBin_fld (env : Env) (b : BinOp) (l r : Val) (v : Val) (h : applyBin env b l r = .ok v) :
    ∃ g, v = .fld g :=
  let ⟨g, hv, _⟩ := applyBin_ok h
  ⟨g, hv⟩

theorem evalF_opd (env : Env) (od : Opd) : evalF env (.opd od) = .ok (.raw od) := rfl

theorem evalF_leaf_ok {env : Env} {k : Nat} {v : Val} (h : evalF env (.leaf k) = .ok v) :
    ∃ f, env.fields[k]? = some f ∧ v = .fld f := by
  simp only [evalF] at h
  cases hk : env.fields[k]? with
  | none => rw [hk] at h; cases h
  | some f => rw [hk] at h; exact ⟨f, rfl, (Except.ok.inj h).symm⟩

theorem evalF_un_ok {env : Env} {u : UnOp} {e : Expr} {v : Val} (h : evalF env (.un u e) = .ok v) :
    ∃ f g, evalF env e = .ok (.fld f) ∧ applyUn env u f = .ok g ∧ v = .fld g := by
  simp only [evalF] at h
  cases he : evalF env e with
  | error er => rw [he] at h; cases h
  | ok ve =>
    cases ve with
    | raw o => rw [he] at h; cases h
    | fld f =>
      rw [he] at h
      obtain ⟨g, hg, hv⟩ := liftFld_ok.mp h
      exact ⟨f, g, rfl, hg, hv⟩

theorem evalF_bin_ok {env : Env} {b : BinOp} {l r : Expr} {v : Val} (h : evalF env (.bin b l r) = .ok v) :
    ∃ vl vr, evalF env l = .ok vl ∧ evalF env r = .ok vr ∧ applyBin env b vl vr = .ok v := by
  simp only [evalF] at h
  cases hl : evalF env l with
  | error er => rw [hl] at h; cases h
  | ok vl =>
    cases hr : evalF env r with
    | error er => rw [hl, hr] at h; cases h
    | ok vr => rw [hl, hr] at h; exact ⟨vl, vr, rfl, rfl, h⟩

theorem evalF_bin (env : Env) (b : BinOp) (l r : Expr) (vl vr : Val) (hl : evalF env l = .ok vl)
    (hr : evalF env r = .ok vr) : evalF env (.bin b l r) = applyBin env b vl vr := by
  simp only [evalF, hl, hr]

theorem evalF_raw (env : Env) (e : Expr) (od : Opd) (h : evalF env e = .ok (.raw od)) : e = .opd od := by
  cases e with
  | leaf k => obtain ⟨_, _, hv⟩ := evalF_leaf_ok h; cases hv
  | opd o => rw [Val.raw.inj (Except.ok.inj h)]
  | un u e => obtain ⟨_, _, _, _, hv⟩ := evalF_un_ok h; cases hv
  | bin b l r =>
    obtain ⟨vl, vr, _, _, hb⟩ := evalF_bin_ok h
    obtain ⟨_, hv⟩ := applyBin_fld _ _ _ _ _ hb
    cases hv

theorem firstFld_some (l r : Val) (self : CF) (h : firstFld l r = some self) :
    l = .fld self ∨ r = .fld self := by
  cases l with
  | fld f => exact Or.inl (by rw [Option.some.inj h])
  | raw od =>
    cases r with
    | fld o => exact Or.inr (by rw [Option.some.inj h])
    | raw od2 => cases h

def rawArr : Opd → NDA GQ
  | .num z _ _ => scalarArr z
  | .arr a _ _ => a

def rawKind : Opd → Kind
  | .num _ k _ => k
  | .arr _ k _ => k

/-- the array an operand contributes to the NumPy call -/
def Val.arr : Val → NDA GQ
  | .fld o => o.data
  | .raw od => rawArr od

def Val.kind : Val → Kind
  | .fld o => o.kind
  | .raw od => rawKind od

/-- the operand whose labels and mapping `self ∘ other` carries -/
def metaSrc (f o : CF) : CF := if f.nvdim = 1 ∧ 1 < o.nvdim then o else f

theorem metaSrc_apply {α} (φ : CF → α) (f o : CF) :
    φ (metaSrc f o) = if f.nvdim = 1 ∧ 1 < o.nvdim then φ o else φ f :=
  apply_ite φ _ _ _

theorem metaSrc_ind {P : CF → Prop} (f o : CF) (ho : P o) (hf : P f) : P (metaSrc f o) := by
  unfold metaSrc; split <;> assumption

def opSrc (f : CF) : Val → CF
  | .fld o => metaSrc f o
  | .raw _ => f

theorem ufuncInput_ok {v : Val} {a : NDA GQ} {k : Kind} (h : ufuncInput v = .ok (a, k)) : a = v.arr ∧ k = v.kind := by
  cases v with
  | fld f => cases Except.ok.inj h; exact ⟨rfl, rfl⟩
  | raw od =>
    cases od with
    | num z k' np => cases Except.ok.inj h; exact ⟨rfl, rfl⟩
    | arr a' k' np =>
      simp only [ufuncInput] at h
      split at h
      · cases Except.ok.inj h; exact ⟨rfl, rfl⟩
      · cases h

/-- `Mesh.allclose` compares the cell counts exactly -/
theorem meshAllclose_n (a b : Mesh) (h : meshAllclose a b = .ok true) : a.n = b.n := by
  unfold meshAllclose at h
  split at h
  · cases h
  · injection h with h
    simp only [Bool.and_eq_true, decide_eq_true_eq] at h
    exact h.2

/-- `Mesh.__eq__` compares the cell counts -/
theorem meshEq_n {a b : Mesh} (h : meshEq a b = true) : a.n = b.n := by
  unfold meshEq at h
  simp only [Bool.and_eq_true, decide_eq_true_eq] at h
  exact h.2

/-- `_check_same_mesh_and_field_dim`: the meshes are `allclose`, and the component counts agree or (when scalars
are ignored) one of them is 1 -/
theorem checkSame_ok_iff {f o : CF} {ign : Bool} :
    checkSame f o ign = .ok () ↔ meshAllclose f.mesh o.mesh = .ok true ∧
      ((ign = true ∧ (f.nvdim = 1 ∨ o.nvdim = 1)) ∨ f.nvdim = o.nvdim) := by
  unfold checkSame
  cases meshAllclose f.mesh o.mesh with
  | error e => exact ⟨nofun, fun h => nomatch h.1⟩
  | ok t =>
    cases t with
    | false => exact ⟨nofun, fun h => nomatch h.1⟩
    | true =>
      by_cases hc : ign = true ∧ (f.nvdim = 1 ∨ o.nvdim = 1)
      · simp [hc]
      · by_cases hn : f.nvdim = o.nvdim <;> simp [hc, hn]

theorem checkSame_n (f o : CF) (b : Bool) (h : checkSame f o b = .ok ()) : f.mesh.n = o.mesh.n :=
  meshAllclose_n _ _ (checkSame_ok_iff.mp h).1

/-! ## what a successful method call consists of

Every method is an operand check, one NumPy function on the two arrays and one constructor call on `self`'s mesh with
the mask `ufuncValid self (.fld self) other`; each `*_ok_iff` says so for any operand `v : Val`. -/

/-- what `_apply_operator` checks on the other operand before it calls NumPy -/
def opGuard (f : CF) : Val → Prop
  | .fld o => checkSame f o true = .ok ()
  | .raw (.num _ _ _) => True
  | .raw (.arr a _ _) => a.shape ≠ [] ∧ (f.data.shape = a.shape ∨ f.nvdim = a.shape.headD 0 ∨ f.nvdim = 1)

/-- `_apply_operator` on any operand: the operand check, NumPy's integer-power rule, one NumPy call on the two
arrays, one constructor call -/
theorem applyOperator_ok_iff {fn : GQ → GQ → GQ} {pw : Bool} {f g : CF} {v : Val} :
    applyOperator fn pw f v = .ok g ↔
      opGuard f v ∧ negIntPow pw f.kind v.kind v.arr = false ∧ ∃ res, npBin fn f.data v.arr = .ok res ∧
        mkField f.mesh (lastAx res.shape) (.arr res) (f.kind.join v.kind)
          (fixVdims (opSrc f v).vdims (lastAx res.shape)) (some (ufuncValid f (.fld f) v)) (some (opSrc f v).vmap) none
          = .ok g := by
  have key : ∀ (a : NDA GQ) (k : Kind) (vd : Option (List String)) (V : NDA Bool) (vm : VMap),
      ((if negIntPow pw f.kind k a = true then (.error .value : M CF) else
        match npBin fn f.data a with
        | .error e => .error e
        | .ok res => mkField f.mesh (lastAx res.shape) (.arr res) (f.kind.join k) (fixVdims vd (lastAx res.shape))
            (some V) (some vm) none) = .ok g) ↔
      (negIntPow pw f.kind k a = false ∧ ∃ res, npBin fn f.data a = .ok res ∧
        mkField f.mesh (lastAx res.shape) (.arr res) (f.kind.join k) (fixVdims vd (lastAx res.shape))
            (some V) (some vm) none = .ok g) := by
    intro a k vd V vm
    cases negIntPow pw f.kind k a with
    | true => exact ⟨nofun, fun h => nomatch h.1⟩
    | false =>
      cases npBin fn f.data a with
      | error e => exact ⟨nofun, fun ⟨_, _, h, _⟩ => nomatch h⟩
      | ok res => exact ⟨fun h => ⟨rfl, res, rfl, h⟩, fun ⟨_, _, h, hg⟩ => Except.ok.inj h ▸ hg⟩
  cases v with
  | fld o =>
    have e : opSrc f (.fld o) = if f.nvdim = 1 ∧ 1 < o.nvdim then o else f := rfl
    simp only [applyOperator, opGuard, e, apply_ite CF.vdims, apply_ite CF.vmap]
    cases checkSame f o true with
    | error e => exact ⟨nofun, fun h => nomatch h.1⟩
    | ok u => exact (key o.data o.kind _ _ _).trans ⟨fun h => ⟨rfl, h⟩, fun h => h.2⟩
  | raw od =>
    cases od with
    | num z k np => exact (key _ k _ _ _).trans ⟨fun h => ⟨trivial, h⟩, fun h => h.2⟩
    | arr a k np =>
      simp only [applyOperator, opGuard]
      by_cases h0 : a.shape = []
      · rw [if_pos h0]; exact ⟨nofun, fun h => absurd h0 h.1.1⟩
      · rw [if_neg h0]
        by_cases h1 : f.data.shape = a.shape ∨ f.nvdim = a.shape.headD 0 ∨ f.nvdim = 1
        · rw [if_neg fun h => h h1]
          exact (key a k _ _ _).trans ⟨fun h => ⟨⟨h0, h1⟩, h⟩, fun h => h.2⟩
        · rw [if_pos h1]; exact ⟨nofun, fun h => absurd h.1.2 h1⟩

/-- what `dot`, `cross` (and `angle`) check on the other operand -/
def strictGuard (f : CF) : Val → Prop
  | .fld o => checkSame f o false = .ok ()
  | .raw (.num _ _ _) => False
  | .raw (.arr _ _ _) => True

theorem dotOp_ok_iff {f g : CF} {v : Val} :
    dotOp f v = .ok g ↔ strictGuard f v ∧ ∃ res, einsumDot f.data v.arr = .ok res ∧
      mkField f.mesh 1 (.arr ⟨res.shape ++ [1], fun idx => res.get idx.dropLast⟩) (f.kind.join v.kind) none
        (some (ufuncValid f (.fld f) v)) none none = .ok g := by
  have key : ∀ (a : NDA GQ) (k : Kind) (V : NDA Bool),
      ((match einsumDot f.data a with
        | .error e => (.error e : M CF)
        | .ok res => mkField f.mesh 1 (.arr ⟨res.shape ++ [1], fun idx => res.get idx.dropLast⟩) (f.kind.join k) none
            (some V) none none) = .ok g) ↔
      ∃ res, einsumDot f.data a = .ok res ∧
        mkField f.mesh 1 (.arr ⟨res.shape ++ [1], fun idx => res.get idx.dropLast⟩) (f.kind.join k) none
            (some V) none none = .ok g := by
    intro a k V
    cases einsumDot f.data a with
    | error e => exact ⟨nofun, fun ⟨_, h, _⟩ => nomatch h⟩
    | ok res => exact ⟨fun h => ⟨res, rfl, h⟩, fun ⟨_, h, hg⟩ => Except.ok.inj h ▸ hg⟩
  cases v with
  | fld o =>
    simp only [dotOp, strictGuard]
    cases checkSame f o false with
    | error e => exact ⟨nofun, fun h => nomatch h.1⟩
    | ok u => exact (key o.data o.kind _).trans ⟨fun h => ⟨rfl, h⟩, fun h => h.2⟩
  | raw od =>
    cases od with
    | num z k np => exact ⟨nofun, fun h => h.1.elim⟩
    | arr a k np => exact (key a k _).trans ⟨fun h => ⟨trivial, h⟩, fun h => h.2⟩


theorem crossOp_ok_iff {f g : CF} {v : Val} :
    crossOp f v = .ok g ↔ strictGuard f v ∧ (∀ o, v = .fld o → f.nvdim = 3 ∧ o.nvdim = 3) ∧
      ∃ res, npCross f.data v.arr = .ok res ∧
        mkField f.mesh 3 (.arr res) (f.kind.join v.kind) f.vdims (some (ufuncValid f (.fld f) v)) none none = .ok g := by
  have key : ∀ (a : NDA GQ) (k : Kind) (V : NDA Bool),
      ((match npCross f.data a with
        | .error e => (.error e : M CF)
        | .ok res => mkField f.mesh 3 (.arr res) (f.kind.join k) f.vdims (some V) none none) = .ok g) ↔
      ∃ res, npCross f.data a = .ok res ∧ mkField f.mesh 3 (.arr res) (f.kind.join k) f.vdims (some V) none none = .ok g := by
    intro a k V
    cases npCross f.data a with
    | error e => exact ⟨nofun, fun ⟨_, h, _⟩ => nomatch h⟩
    | ok res => exact ⟨fun h => ⟨res, rfl, h⟩, fun ⟨_, h, hg⟩ => Except.ok.inj h ▸ hg⟩
  cases v with
  | fld o =>
    simp only [crossOp, strictGuard]
    cases checkSame f o false with
    | error e => exact ⟨nofun, fun h => nomatch h.1⟩
    | ok u =>
      by_cases h3 : f.nvdim = 3 ∧ o.nvdim = 3
      · rw [if_neg fun h => h.elim (fun h => h h3.1) (fun h => h h3.2)]
        exact (key o.data o.kind _).trans ⟨fun h => ⟨rfl, fun _ ho => by cases ho; exact h3, h⟩, fun h => h.2.2⟩
      · rw [if_pos (Decidable.not_and_iff_not_or_not.mp h3)]
        exact ⟨nofun, fun h => absurd (h.2.1 o rfl) h3⟩
  | raw od =>
    cases od with
    | num z k np => exact ⟨nofun, fun h => h.1.elim⟩
    | arr a k np => exact (key a k _).trans ⟨fun h => ⟨trivial, fun _ ho => Val.noConfusion ho, h⟩, fun h => h.2.2⟩


theorem ufuncWrap_ok_iff {self : CF} {res : NDA GQ} {k : Kind} {valid : NDA Bool} {g : CF} :
    ufuncWrap self res k valid = .ok g ↔ res.shape.dropLast = self.mesh.n ∧
      mkField self.mesh (lastAx res.shape) (.arr res) k self.vdims (some valid) (some self.vmap) none = .ok g := by
  unfold ufuncWrap
  by_cases hd : res.shape.dropLast = self.mesh.n
  · rw [if_neg fun h => h hd]
    cases mkField self.mesh (lastAx res.shape) (.arr res) k self.vdims (some valid) (some self.vmap) none with
    | error e => exact ⟨nofun, fun h => nomatch h.2⟩
    | ok g' => exact ⟨fun h => ⟨hd, h⟩, fun h => h.2⟩
  · rw [if_pos hd]; exact ⟨nofun, fun h => absurd h.1 hd⟩

/-- what `__array_ufunc__` asks of one input: not a plain list / tuple, and a field on a mesh `allclose` to `self`'s -/
def UfuncIn (self : CF) (v : Val) : Prop := ufuncInput v = .ok (v.arr, v.kind) ∧ ufuncMeshOk self v = .ok ()


/-- the first field input of a binary `__array_ufunc__` call, with the checks of both inputs against it -/
def UfuncPre (l r : Val) (self : CF) : Prop := firstFld l r = some self ∧ UfuncIn self l ∧ UfuncIn self r

/-- the opening all binary forms of `__array_ufunc__` share, in front of any continuation `k` -/
theorem ufuncFront_ok_iff {β : Type} (l r : Val) (k : CF → NDA GQ → Kind → NDA GQ → Kind → M β) (y : β) :
    ((match firstFld l r with
      | none => .error .type
      | some self =>
        match ufuncInput l with
        | .error e => .error e
        | .ok (a, ka) =>
          match ufuncInput r with
          | .error e => .error e
          | .ok (b, kb) =>
            match ufuncMeshOk self l with
            | .error e => .error e
            | .ok _ =>
              match ufuncMeshOk self r with
              | .error e => .error e
              | .ok _ => k self a ka b kb) : M β) = .ok y ↔
      ∃ self, UfuncPre l r self ∧ k self l.arr l.kind r.arr r.kind = .ok y := by
  unfold UfuncPre UfuncIn
  cases firstFld l r with
  | none => exact ⟨nofun, fun ⟨_, h, _⟩ => nomatch h.1⟩
  | some self =>
    suffices key : _ ↔ ((ufuncInput l = .ok (l.arr, l.kind) ∧ ufuncMeshOk self l = .ok ()) ∧
        ufuncInput r = .ok (r.arr, r.kind) ∧ ufuncMeshOk self r = .ok ()) ∧ k self l.arr l.kind r.arr r.kind = .ok y from
      key.trans ⟨fun h => ⟨self, ⟨rfl, h.1⟩, h.2⟩, fun ⟨_, h, h'⟩ => by cases Option.some.inj h.1; exact ⟨h.2, h'⟩⟩
    cases ha : ufuncInput l with
    | error e => exact ⟨nofun, fun h => nomatch h.1.1.1⟩
    | ok p =>
      obtain ⟨a, ka⟩ := p
      obtain ⟨rfl, rfl⟩ := ufuncInput_ok ha
      cases hb : ufuncInput r with
      | error e => exact ⟨nofun, fun h => nomatch h.1.2.1⟩
      | ok q =>
        obtain ⟨b, kb⟩ := q
        obtain ⟨rfl, rfl⟩ := ufuncInput_ok hb
        dsimp only
        cases ufuncMeshOk self l with
        | error e => exact ⟨nofun, fun h => nomatch h.1.1.2⟩
        | ok u =>
          cases ufuncMeshOk self r with
          | error e => exact ⟨nofun, fun h => nomatch h.1.2.2⟩
          | ok u' => exact ⟨fun h => ⟨⟨⟨rfl, rfl⟩, rfl, rfl⟩, h⟩, fun h => h.2⟩

theorem ufunc2_ok_iff {fn : GQ → GQ → GQ} {pw : Bool} {l r : Val} {g : CF} :
    ufunc2 fn pw l r = .ok g ↔ ∃ self, UfuncPre l r self ∧
      negIntPow pw l.kind r.kind r.arr = false ∧ ∃ res, npBin fn l.arr r.arr = .ok res ∧
        ufuncWrap self res (l.kind.join r.kind) (ufuncValid self l r) = .ok g := by
  refine (ufuncFront_ok_iff l r (fun self a ka b kb =>
    if negIntPow pw ka kb b then .error .value
    else match npBin fn a b with
      | .error e => .error e
      | .ok res => ufuncWrap self res (ka.join kb) (ufuncValid self l r)) g).trans (exists_congr fun self => and_congr_right fun _ => ?_)
  cases negIntPow pw l.kind r.kind r.arr with
  | true => exact ⟨nofun, fun h => nomatch h.1⟩
  | false =>
    cases npBin fn l.arr r.arr with
    | error e => exact ⟨nofun, fun ⟨_, _, h, _⟩ => nomatch h⟩
    | ok res => exact ⟨fun h => ⟨rfl, res, rfl, h⟩, fun ⟨_, _, h, hg⟩ => Except.ok.inj h ▸ hg⟩

theorem ufuncMeshOk_fld {self o : CF} : ufuncMeshOk self (.fld o) = .ok () ↔ meshAllclose self.mesh o.mesh = .ok true := by
  simp only [ufuncMeshOk]
  cases meshAllclose self.mesh o.mesh with
  | error e => exact ⟨nofun, nofun⟩
  | ok t =>
    cases t with
    | false => exact ⟨nofun, nofun⟩
    | true => exact ⟨fun _ => rfl, fun _ => rfl⟩

theorem ufuncIn_fld {self o : CF} : UfuncIn self (.fld o) ↔ meshAllclose self.mesh o.mesh = .ok true :=
  ⟨fun h => ufuncMeshOk_fld.mp h.2, fun h => ⟨rfl, ufuncMeshOk_fld.mpr h⟩⟩


/-- **what a forward operator calls** -/
theorem forwardOp_ok_cases {env : Env} {b : BinOp} {f g : CF} {v : Val} (h : forwardOp env b f v = .ok g) :
    (isOperator b ∧ applyOperator (binFn b) (isPow b) f v = .ok g) ∨ (b = .dot ∧ dotOp f v = .ok g) ∨
    (b = .cross ∧ crossOp f v = .ok g) ∨ (b = .shl ∧ shlOp f v = .ok g) ∨
    (b = .angle ∧ angleOp env.sq env.acos f v = .ok g) := by
  cases b
  case add | sub | mul | div => exact Or.inl ⟨Or.inl rfl, h⟩
  case pow => exact Or.inl ⟨Or.inr rfl, h⟩
  case dot => exact Or.inr (Or.inl ⟨rfl, h⟩)
  case cross => exact Or.inr (Or.inr (Or.inl ⟨rfl, h⟩))
  case shl => exact Or.inr (Or.inr (Or.inr (Or.inl ⟨rfl, h⟩)))
  case angle => exact Or.inr (Or.inr (Or.inr (Or.inr ⟨rfl, h⟩)))
  all_goals cases h

/-- a unary operation that rebuilds the field is one constructor call -/
theorem mapField_ok_iff {fn : GQ → GQ} {rk : Kind → Kind} {ku : Bool} {f g : CF} :
    mapField fn rk ku f = .ok g ↔
      mkField f.mesh f.nvdim (.arr (f.data.map fn)) (rk f.kind) f.vdims (some f.valid) (some f.vmap)
        (if ku then f.unit else none) = .ok g := Iff.rfl

/-- the elementwise function a reflected arithmetic method hands to `_apply_operator` (`-` has none: it negates first) -/
def reflFn : BinOp → Option (GQ → GQ → GQ)
  | .add => some GQ.add
  | .mul => some GQ.mul
  | .div => some fun x y => GQ.div y x
  | _ => none

/-- **what a reflected method calls**: `self ∘' other`, `-self + other`, `self.dot(other)`, `-self.cross(other)`,
`Field(other) << self` -/
theorem reflectedOp_ok_iff {b : BinOp} {od : Opd} {f g : CF} : reflectedOp b od f = .ok g ↔

    (∃ fn, reflFn b = some fn ∧ applyOperator fn false f (.raw od) = .ok g) ∨
    (b = .sub ∧ ∃ g0, mapField GQ.neg id false f = .ok g0 ∧ applyOperator GQ.add false g0 (.raw od) = .ok g) ∨
    (b = .dot ∧ dotOp f (.raw od) = .ok g) ∨
    (b = .cross ∧ ∃ g0, crossOp f (.raw od) = .ok g0 ∧ mapField GQ.neg id false g0 = .ok g) ∨
    (b = .shl ∧ ∃ o, liftOpd f.mesh od = .ok o ∧ shlFF o f = .ok g) := by
  constructor
  · intro h
    cases b
    case add | mul | div => exact Or.inl ⟨_, rfl, h⟩
    case dot => exact Or.inr (Or.inr (Or.inl ⟨rfl, h⟩))
    case sub =>
      cases h0 : mapField GQ.neg id false f with
      | error e => simp only [reflectedOp, h0] at h; cases h
      | ok g0 => simp only [reflectedOp, h0] at h; exact Or.inr (Or.inl ⟨rfl, g0, rfl, h⟩)
    case cross =>
      cases h0 : crossOp f (.raw od) with
      | error e => simp only [reflectedOp, h0] at h; cases h
      | ok g0 => simp only [reflectedOp, h0] at h; exact Or.inr (Or.inr (Or.inr (Or.inl ⟨rfl, g0, rfl, h⟩)))
    case shl =>
      cases h0 : liftOpd f.mesh od with
      | error e => simp only [reflectedOp, h0] at h; cases h
      | ok o => simp only [reflectedOp, h0] at h; exact Or.inr (Or.inr (Or.inr (Or.inr ⟨rfl, o, rfl, h⟩)))
    all_goals cases h
  · rintro (⟨fn, hfn, h⟩ | ⟨rfl, g0, h0, h⟩ | ⟨rfl, h⟩ | ⟨rfl, g0, h0, h⟩ | ⟨rfl, o, h0, h⟩)
    · cases b <;> cases hfn <;> exact h
    · simp only [reflectedOp, h0]; exact h
    · exact h
    · simp only [reflectedOp, h0]; exact h
    · simp only [reflectedOp, h0]; exact h

theorem reflectedOp_ok {b : BinOp} {od : Opd} {f g : CF} (h : reflectedOp b od f = .ok g) :

    (∃ fn, reflFn b = some fn ∧ applyOperator fn false f (.raw od) = .ok g) ∨
    (b = .sub ∧ ∃ g0, mapField GQ.neg id false f = .ok g0 ∧ applyOperator GQ.add false g0 (.raw od) = .ok g) ∨
    (b = .dot ∧ dotOp f (.raw od) = .ok g) ∨
    (b = .cross ∧ ∃ g0, crossOp f (.raw od) = .ok g0 ∧ mapField GQ.neg id false g0 = .ok g) ∨
    (b = .shl ∧ ∃ o, liftOpd f.mesh od = .ok o ∧ shlFF o f = .ok g) :=
  reflectedOp_ok_iff.mp h

/-- a unary ufunc call: the mesh check of `self` against itself, then the wrapper -/
theorem ufunc1_ok_iff {fn : GQ → GQ} {rk : Kind → Kind} {f g : CF} :
    ufunc1 fn rk f = .ok g ↔ meshAllclose f.mesh f.mesh = .ok true ∧
      ufuncWrap f (f.data.map fn) (rk f.kind) f.valid = .ok g := by
  unfold ufunc1
  rw [← ufuncMeshOk_fld]
  cases ufuncMeshOk f (.fld f) with
  | error e => exact ⟨nofun, fun h => nomatch h.1⟩
  | ok u => exact ⟨fun h => ⟨rfl, h⟩, fun h => h.2⟩

/-- the `value=` argument a non-field operand becomes -/
def rawVal : Opd → Value
  | .num z _ _ => .num z
  | .arr a _ _ => .arr a

/-- component count of the lifted operand -/
def liftNv : Opd → Nat
  | .num _ _ _ => 1
  | .arr a _ _ => lenOf a

/-- `Field(mesh, nvdim=1 | len(other), value=other)`: refused for a 0-d array, else the constructor call -/
theorem liftOpd_ok_iff {mesh : Mesh} {od : Opd} {g : CF} :
    liftOpd mesh od = .ok g ↔ (∀ a k np, od = .arr a k np → a.shape ≠ []) ∧
      mkField mesh (liftNv od) (rawVal od) (rawKind od) none none none none = .ok g := by
  cases od with
  | num z k np => exact ⟨fun h => ⟨fun _ _ _ e => Opd.noConfusion e, h⟩, fun h => h.2⟩
  | arr a k np =>
    simp only [liftOpd]
    by_cases h0 : a.shape = []
    · rw [if_pos h0]; exact ⟨nofun, fun h => absurd h0 (h.1 a k np rfl)⟩
    · rw [if_neg h0]; exact ⟨fun h => ⟨fun _ _ _ e => by cases e; exact h0, h⟩, fun h => h.2⟩

/-- the second operand of `angle` as a field; the mask is the one every binary method uses -/
theorem angleVec_ok_iff {f vec : CF} {v : Val} {valid : NDA Bool} : angleVec f v = .ok (vec, valid) ↔

    valid = ufuncValid f (.fld f) v ∧
      ((∃ o, v = .fld o ∧ vec = o ∧ checkSame f o false = .ok ()) ∨
       (∃ od, v = .raw od ∧ (∀ z k np, od = .num z k np → f.nvdim = 1) ∧
          mkField f.mesh f.nvdim (rawVal od) (rawKind od)
            none none none none = .ok vec)) := by
  constructor
  · intro h
    cases v with
    | fld o =>
      simp only [angleVec] at h
      cases hcs : checkSame f o false with
      | error e => rw [hcs] at h; cases h
      | ok u =>
        rw [hcs] at h
        obtain ⟨rfl, rfl⟩ := Prod.mk.inj (Except.ok.inj h)
        exact ⟨rfl, Or.inl ⟨_, rfl, rfl, hcs⟩⟩
    | raw od =>
      cases od with
      | num z k np =>
        simp only [angleVec] at h
        by_cases h1 : f.nvdim = 1
        · rw [if_pos h1] at h
          cases hmk : mkField f.mesh f.nvdim (.num z) k none none none none with
          | error e => rw [hmk] at h; cases h
          | ok o =>
            rw [hmk] at h; cases Except.ok.inj h
            exact ⟨rfl, Or.inr ⟨_, rfl, fun _ _ _ _ => h1, hmk⟩⟩
        · rw [if_neg h1] at h; cases h
      | arr a k np =>
        simp only [angleVec] at h
        cases hmk : mkField f.mesh f.nvdim (.arr a) k none none none none with
        | error e => rw [hmk] at h; cases h
        | ok o =>
          rw [hmk] at h; cases Except.ok.inj h
          exact ⟨rfl, Or.inr ⟨_, rfl, nofun, hmk⟩⟩
  · rintro ⟨rfl, ⟨o, rfl, rfl, hcs⟩ | ⟨od, rfl, h1, hmk⟩⟩
    · simp only [angleVec, hcs]; rfl
    · cases od with
      | num z k np =>
        simp only [angleVec]
        rw [if_pos (h1 z k np rfl), show mkField f.mesh f.nvdim (.num z) k none none none none = .ok vec from hmk]
        rfl
      | arr a k np =>
        simp only [angleVec]
        rw [show mkField f.mesh f.nvdim (.arr a) k none none none none = .ok vec from hmk]
        rfl

theorem angleVec_ok {f vec : CF} {v : Val} {valid : NDA Bool} (h : angleVec f v = .ok (vec, valid)) :

    valid = ufuncValid f (.fld f) v ∧
      ((∃ o, v = .fld o ∧ vec = o ∧ checkSame f o false = .ok ()) ∨
       (∃ od, v = .raw od ∧ (∀ z k np, od = .num z k np → f.nvdim = 1) ∧
          mkField f.mesh f.nvdim (rawVal od) (rawKind od)
            none none none none = .ok vec)) :=
  angleVec_ok_iff.mp h

/-- `f.label`: the constructor call behind a component -/
theorem getComp_ok_iff {f g : CF} {l : String} :
    getComp f l = .ok g ↔ ∃ vd c, f.vdims = some vd ∧ indexOf? vd l = some c ∧
      mkField f.mesh 1 (.arr ⟨f.data.shape.dropLast ++ [1], fun idx => f.data.get (idx.dropLast ++ [c])⟩)
        f.kind none (some f.valid)
        (some (match f.vmap.find? (fun p => p.1 == l) with
               | some p => [(l, p.2)]
               | none => []))
        f.unit = .ok g := by
  unfold getComp
  cases hv : f.vdims with
  | none => exact ⟨nofun, fun ⟨_, _, h, _⟩ => nomatch h⟩
  | some vd =>
    dsimp only
    cases hi : indexOf? vd l with
    | none => exact ⟨nofun, fun ⟨_, _, h, h', _⟩ => by cases Option.some.inj h; rw [hi] at h'; cases h'⟩
    | some c =>
      exact ⟨fun h => ⟨vd, c, rfl, hi, h⟩,
        fun ⟨_, _, h, h', hg⟩ => by cases Option.some.inj h; rw [hi] at h'; cases Option.some.inj h'; exact hg⟩

/-- labels that `<<` hands to the constructor -/
def shlVdims (va vb : Option (List String)) : Option (List String) :=
  match va, vb with
  | some a, some b => if hasDup (a ++ b) then none else some (a ++ b)
  | _, _ => none

theorem shlVdims_ne_nil {va vb : Option (List String)} (h : va ≠ some []) : shlVdims va vb ≠ some [] := by
  unfold shlVdims
  split
  · rename_i a b
    split
    · nofun
    · intro hab
      exact h (by rw [(List.append_eq_nil_iff.mp (Option.some.inj hab)).1])
  · nofun

theorem shlFF_ok_iff {f o g : CF} :
    shlFF f o = .ok g ↔ meshEq f.mesh o.mesh = true ∧
      ∃ res, npStack ((List.range f.nvdim).map (takeLast f.data) ++ (List.range o.nvdim).map (takeLast o.data)) = .ok res ∧
      mkField f.mesh (f.nvdim + o.nvdim) (.arr res) (f.kind.join o.kind) (shlVdims f.vdims o.vdims)
        (some (ufuncValid f (.fld f) (.fld o)))
        (if (dictUpdate f.vmap o.vmap).length ≠ f.nvdim + o.nvdim then none else some (dictUpdate f.vmap o.vmap))
        none = .ok g := by
  unfold shlFF
  cases meshEq f.mesh o.mesh with
  | false => exact ⟨nofun, fun h => nomatch h.1⟩
  | true =>
    rw [if_neg (by simp)]
    cases npStack ((List.range f.nvdim).map (takeLast f.data) ++ (List.range o.nvdim).map (takeLast o.data)) with
    | error e => exact ⟨nofun, fun ⟨_, _, h, _⟩ => nomatch h⟩
    | ok res => exact ⟨fun h => ⟨rfl, res, rfl, h⟩, fun ⟨_, _, h, hg⟩ => Except.ok.inj h ▸ hg⟩

/-- `<<` with any right operand is `<<` with a field: the operand itself, or the field built from it -/
theorem shlOp_ok_iff {f g : CF} {v : Val} : shlOp f v = .ok g ↔
    ∃ o, (v = .fld o ∨ ∃ od, v = .raw od ∧ liftOpd f.mesh od = .ok o) ∧ shlFF f o = .ok g := by
  cases v with
  | fld o =>
    exact ⟨fun h => ⟨o, Or.inl rfl, h⟩, fun ⟨_, ho, h⟩ => ho.elim (fun e => Val.fld.inj e ▸ h) fun ⟨_, e, _⟩ => nomatch e⟩
  | raw od =>
    simp only [shlOp]
    cases hl : liftOpd f.mesh od with
    | error e => exact ⟨nofun, fun ⟨_, ho, _⟩ => ho.elim nofun fun ⟨_, e, h⟩ => by cases Val.raw.inj e; rw [hl] at h; cases h⟩
    | ok o =>
      exact ⟨fun h => ⟨o, Or.inr ⟨od, rfl, hl⟩, h⟩,
        fun ⟨_, ho, h⟩ => ho.elim nofun fun ⟨_, e, h'⟩ => by cases Val.raw.inj e; rw [hl] at h'; cases Except.ok.inj h'; exact h⟩

theorem shlOp_ok {f g : CF} {v : Val} (h : shlOp f v = .ok g) :
    ∃ o, (v = .fld o ∨ ∃ od, v = .raw od ∧ liftOpd f.mesh od = .ok o) ∧ shlFF f o = .ok g :=
  shlOp_ok_iff.mp h

/-- the chain behind `angle`: `arccos((self.dot(v) / (self.norm * v.norm)).array)` -/
theorem angleOp_ok_iff {sq acos : Rat → Rat} {f g : CF} {v : Val} : angleOp sq acos f v = .ok g ↔

    ∃ vec valid d n1 n2 p q, angleVec f v = .ok (vec, valid) ∧ dotOp f (.fld vec) = .ok d ∧
      normOp sq f = .ok n1 ∧ normOp sq vec = .ok n2 ∧ applyOperator GQ.mul false n1 (.fld n2) = .ok p ∧
      applyOperator GQ.div false d (.fld p) = .ok q ∧
      mkField f.mesh 1 (.arr (q.data.map fun z => ⟨acos z.re, 0⟩)) .float none (some valid) none (some "rad") = .ok g := by
  constructor
  · intro h
    unfold angleOp at h
    split at h
    · cases h
    · rename_i vec valid hav
      split at h
      · cases h
      · rename_i d hd
        split at h
        · cases h
        · rename_i n1 hn1
          split at h
          · cases h
          · rename_i n2 hn2
            split at h
            · cases h
            · rename_i p hp
              split at h
              · cases h
              · rename_i q hq
                exact ⟨vec, valid, d, n1, n2, p, q, hav, hd, hn1, hn2, hp, hq, h⟩
  · rintro ⟨vec, valid, d, n1, n2, p, q, hav, hd, hn1, hn2, hp, hq, hg⟩
    simp only [angleOp, hav, hd, hn1, hn2, hp, hq]
    exact hg

theorem angleOp_ok {sq acos : Rat → Rat} {f g : CF} {v : Val} (h : angleOp sq acos f v = .ok g) :

    ∃ vec valid d n1 n2 p q, angleVec f v = .ok (vec, valid) ∧ dotOp f (.fld vec) = .ok d ∧
      normOp sq f = .ok n1 ∧ normOp sq vec = .ok n2 ∧ applyOperator GQ.mul false n1 (.fld n2) = .ok p ∧
      applyOperator GQ.div false d (.fld p) = .ok q ∧
      mkField f.mesh 1 (.arr (q.data.map fun z => ⟨acos z.re, 0⟩)) .float none (some valid) none (some "rad") = .ok g :=
  angleOp_ok_iff.mp h

/-- `acc << f.l₁ << f.l₂ << …`, one label at a time -/
theorem stackFrom_nil (f acc : CF) : stackFrom f acc [] = .ok acc := rfl

theorem stackFrom_cons_ok_iff {f acc g : CF} {l : String} {ls : List String} :
    stackFrom f acc (l :: ls) = .ok g ↔
      ∃ comp acc', getComp f l = .ok comp ∧ shlFF acc comp = .ok acc' ∧ stackFrom f acc' ls = .ok g := by
  simp only [stackFrom]
  cases hc : getComp f l with
  | error e => exact ⟨nofun, fun ⟨_, _, h, _⟩ => nomatch h⟩
  | ok comp =>
    dsimp only
    cases hs : shlFF acc comp with
    | error e => exact ⟨nofun, fun ⟨_, _, h, h', _⟩ => by cases Except.ok.inj h; rw [hs] at h'; cases h'⟩
    | ok acc' =>
      exact ⟨fun h => ⟨comp, acc', rfl, hs, h⟩,
        fun ⟨_, _, h, h', hg⟩ => by cases Except.ok.inj h; rw [hs] at h'; cases Except.ok.inj h'; exact hg⟩

/-- the stack of all components: the first label's component, then the others stacked onto it -/
theorem stackComps_ok_iff {f g : CF} :
    stackComps f = .ok g ↔ ∃ l ls c, f.vdims = some (l :: ls) ∧ getComp f l = .ok c ∧ stackFrom f c ls = .ok g := by
  unfold stackComps
  cases hv : f.vdims with
  | none => exact ⟨nofun, fun ⟨_, _, _, h, _⟩ => nomatch h⟩
  | some vd =>
    cases vd with
    | nil => exact ⟨nofun, fun ⟨_, _, _, h, _⟩ => nomatch h⟩
    | cons l ls =>
      dsimp only
      cases hc : getComp f l with
      | error e => exact ⟨nofun, fun ⟨_, _, _, h, h', _⟩ => by cases Option.some.inj h; rw [hc] at h'; cases h'⟩
      | ok c =>
        exact ⟨fun h => ⟨l, ls, c, rfl, hc, h⟩,
          fun ⟨_, _, _, h, h', hg⟩ => by cases Option.some.inj h; rw [hc] at h'; cases Except.ok.inj h'; exact hg⟩

end DFV.C03
