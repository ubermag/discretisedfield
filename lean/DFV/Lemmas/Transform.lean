import Mathlib.Tactic.Ring
import DFV.Model.Transform
import DFV.Lemmas.C01Base
/-! Lemmas about `Model/Transform.lean`.  `k` enters the model only through `cosq k`, `sinq k`, `isOdd k` and `k % 4`, and a quarter
turn is read in two ways: as the exact matrix, with the one law `quarter_add'` (compositions are `ring` after it), and as a signed
permutation of the axes (`rotSrc`, `rotSign`, `rotOff`: `rotCoord_affine`, `rotN_getD`, `rotVec_signed`), uniform in `k`.
`Region.__init__` and `Field.rotate90` are each inverted once, as an equivalence (`mk?_ok_iff`, `rotate90F_ok_iff`); the region
steps themselves are characterised in `Lemmas/C13StepR.lean`.  A primed name (`quarter_add'`, `rotVec_compose'`, …) marks a lemma
whose statement is a theorem of `Props/C12.lean` under the unprimed name. -/
namespace DFV.T
open DFV

/-! ## the exact quarter turns: residue, parity, cosine and sine of `k` -/

theorem cosq_mod4 (k : Int) : cosq (k % 4) = cosq k := by
  unfold cosq; rw [Int.emod_emod_of_dvd k (by decide)]
theorem sinq_mod4 (k : Int) : sinq (k % 4) = sinq k := by
  unfold sinq; rw [Int.emod_emod_of_dvd k (by decide)]
theorem isOdd_mod4 (k : Int) : isOdd (k % 4) = isOdd k := by
  unfold isOdd; rw [Int.emod_emod_of_dvd k (by decide)]

/-- the four quarter turns: residue of `k`, parity, cosine and sine -/
theorem turn_cases (k : Int) :
    (k % 4 = 0 ∧ isOdd k = false ∧ cosq k = 1 ∧ sinq k = 0) ∨ (k % 4 = 1 ∧ isOdd k = true ∧ cosq k = 0 ∧ sinq k = 1) ∨
    (k % 4 = 2 ∧ isOdd k = false ∧ cosq k = -1 ∧ sinq k = 0) ∨ (k % 4 = 3 ∧ isOdd k = true ∧ cosq k = 0 ∧ sinq k = -1) := by
  have h : k % 4 = 0 ∨ k % 4 = 1 ∨ k % 4 = 2 ∨ k % 4 = 3 := by omega
  unfold isOdd cosq sinq
  rw [← Int.emod_emod_of_dvd k (by decide : (2 : Int) ∣ 4)]
  rcases h with h | h | h | h <;> rw [h] <;> decide

/-- the matrix rows of `turn_cases` alone (no theorem of `Props/C12.lean` has the unprimed name) -/
theorem quarter_cases' (k : Int) :
    (cosq k = 1 ∧ sinq k = 0) ∨ (cosq k = 0 ∧ sinq k = 1) ∨ (cosq k = -1 ∧ sinq k = 0) ∨ (cosq k = 0 ∧ sinq k = -1) := by
  rcases turn_cases k with ⟨_, _, r⟩ | ⟨_, _, r⟩ | ⟨_, _, r⟩ | ⟨_, _, r⟩
  · exact Or.inl r
  · exact Or.inr (Or.inl r)
  · exact Or.inr (Or.inr (Or.inl r))
  · exact Or.inr (Or.inr (Or.inr r))

theorem turn_zero (k : Int) (hk : k % 4 = 0) : isOdd k = false ∧ cosq k = 1 ∧ sinq k = 0 := by
  rcases turn_cases k with ⟨_, r⟩ | ⟨h, _⟩ | ⟨h, _⟩ | ⟨h, _⟩
  · exact r
  all_goals omega

theorem turn_back (k : Int) : (k + -k) % 4 = 0 := by rw [Int.add_right_neg]; rfl

theorem turn_parity (k : Int) : (isOdd k = false ∧ sinq k = 0) ∨ (isOdd k = true ∧ cosq k = 0) := by
  rcases turn_cases k with ⟨_, ho, _, hs⟩ | ⟨_, ho, hc, _⟩ | ⟨_, ho, _, hs⟩ | ⟨_, ho, hc, _⟩
  · exact Or.inl ⟨ho, hs⟩
  · exact Or.inr ⟨ho, hc⟩
  · exact Or.inl ⟨ho, hs⟩
  · exact Or.inr ⟨ho, hc⟩

/-- angle addition: both sides depend on `k mod 4`, `l mod 4` only, and the sixteen pairs of
residues are checked by evaluation -/
theorem quarter_add' (k l : Int) :
    cosq (k + l) = cosq k * cosq l - sinq k * sinq l ∧ sinq (k + l) = sinq k * cosq l + cosq k * sinq l := by
  have table : ∀ a ∈ [0, 1, 2, 3], ∀ b ∈ [0, 1, 2, 3],
      cosq (a + b) = cosq a * cosq b - sinq a * sinq b ∧ sinq (a + b) = sinq a * cosq b + cosq a * sinq b := by
    decide +kernel
  have res : ∀ n : Int, n % 4 ∈ [0, 1, 2, 3] := fun n => by
    rcases turn_cases n with ⟨h, _⟩ | ⟨h, _⟩ | ⟨h, _⟩ | ⟨h, _⟩ <;> rw [h] <;> decide
  have := table _ (res k) _ (res l)
  rwa [← cosq_mod4 (_ + _), ← sinq_mod4 (_ + _), ← Int.add_emod, cosq_mod4, sinq_mod4, cosq_mod4, sinq_mod4,
    cosq_mod4, sinq_mod4] at this

/-- the plane turned by `k` and then by `l` is the plane turned by `k + l` -/
theorem turn_turn (k l : Int) (x y : Rat) :
    cosq l * (cosq k * x - sinq k * y) - sinq l * (sinq k * x + cosq k * y) = cosq (k + l) * x - sinq (k + l) * y ∧
    sinq l * (cosq k * x - sinq k * y) + cosq l * (sinq k * x + cosq k * y) = sinq (k + l) * x + cosq (k + l) * y := by
  obtain ⟨hc, hs⟩ := quarter_add' k l
  rw [hc, hs]
  constructor <;> ring

theorem isOdd_add (k l : Int) : isOdd (k + l) = xor (isOdd k) (isOdd l) := by
  unfold isOdd
  rw [Int.add_emod]
  rcases Int.emod_two_eq k with hk | hk <;> rcases Int.emod_two_eq l with hl | hl <;> rw [hk, hl] <;> decide

theorem ite_isOdd_add {α} (x y : α) (k l : Int) :
    (if isOdd l then (if isOdd k then x else y) else (if isOdd k then y else x)) = if isOdd (k + l) then y else x := by
  rw [isOdd_add]; cases isOdd k <;> cases isOdd l <;> rfl

/-! ## points, counts and units under turns

`k` enters the model only through `cosq k`, `sinq k`, `isOdd k` and `k % 4`, and each of them sees `k mod 4` only:
that is all the `_mod4` lemmas (here and, for the steps, in `C12Obj`) say. -/

theorem rotCoord_mod4 (p ref : List Rat) (i1 i2 : Nat) (k : Int) : rotCoord p ref i1 i2 (k % 4) = rotCoord p ref i1 i2 k := by
  funext a; unfold rotCoord; rw [cosq_mod4, sinq_mod4]

theorem rotUnits_mod4 (u : List String) (i1 i2 : Nat) (k : Int) : rotUnits u i1 i2 (k % 4) = rotUnits u i1 i2 k := by
  unfold rotUnits; rw [isOdd_mod4]

theorem rotN_mod4 (n : List Nat) (i1 i2 : Nat) (k : Int) : rotN n i1 i2 (k % 4) = rotN n i1 i2 k := by
  unfold rotN; rw [isOdd_mod4]

theorem rotBc_mod4 (bc a1 a2 : String) (k : Int) : rotBc bc a1 a2 (k % 4) = rotBc bc a1 a2 k := by
  unfold rotBc; rw [isOdd_mod4]

theorem rotCoord_compose (p ref : List Rat) (i1 i2 : Nat) (k l : Int) (h12 : i1 ≠ i2)
    (h1 : i1 < p.length) (h2 : i2 < p.length) (a : Nat) (ha : a < p.length) :
    rotCoord (tab p.length (rotCoord p ref i1 i2 k)) ref i1 i2 l a = rotCoord p ref i1 i2 (k + l) a := by
  -- the once-turned point is read at `i1`, `i2`, `a` (`getD_tab`); on the two in-plane axes the claim is `turn_turn`,
  -- every other axis is untouched
  unfold rotCoord
  rw [getD_tab _ _ _ _ h1, getD_tab _ _ _ _ h2, getD_tab _ _ _ _ ha, if_pos rfl, if_neg h12.symm, if_pos rfl,
    add_sub_cancel_left, add_sub_cancel_left, (turn_turn k l _ _).1, (turn_turn k l _ _).2]
  split
  · rfl
  · split <;> rfl

theorem rotCoord_zero (p ref : List Rat) (i1 i2 : Nat) (k : Int) (hk : k % 4 = 0) (a : Nat) :
    rotCoord p ref i1 i2 k a = p.getD a 0 := by
  obtain ⟨_, hc, hs⟩ := turn_zero k hk
  unfold rotCoord
  rw [hc, hs]
  split
  · rename_i h; subst h; ring
  · split
    · rename_i h; subst h; ring
    · rfl

theorem rotSwap_compose {α} [Inhabited α] (u : List α) (i1 i2 : Nat) (k l : Int) (h12 : i1 ≠ i2) (h1 : i1 < u.length) (h2 : i2 < u.length) :
    (if isOdd l then swapAt (if isOdd k then swapAt u i1 i2 else u) i1 i2 else (if isOdd k then swapAt u i1 i2 else u))
      = if isOdd (k + l) then swapAt u i1 i2 else u := by
  rw [isOdd_add]
  cases isOdd k <;> cases isOdd l
  · rfl
  · rfl
  · rfl
  · exact swapAt_swapAt u i1 i2 h12 h1 h2

theorem rotN_compose (n : List Nat) (i1 i2 : Nat) (k l : Int) (h12 : i1 ≠ i2) (h1 : i1 < n.length) (h2 : i2 < n.length) :
    rotN (rotN n i1 i2 k) i1 i2 l = rotN n i1 i2 (k + l) := by
  unfold rotN; exact rotSwap_compose n i1 i2 k l h12 h1 h2

theorem rotUnits_compose (u : List String) (i1 i2 : Nat) (k l : Int) (h12 : i1 ≠ i2) (h1 : i1 < u.length) (h2 : i2 < u.length) :
    rotUnits (rotUnits u i1 i2 k) i1 i2 l = rotUnits u i1 i2 (k + l) := by
  unfold rotUnits; exact rotSwap_compose u i1 i2 k l h12 h1 h2

theorem rotN_length (n : List Nat) (i1 i2 : Nat) (k : Int) : (rotN n i1 i2 k).length = n.length := by
  unfold rotN; split
  · exact length_swapAt _ _ _
  · rfl

theorem rotUnits_length (u : List String) (i1 i2 : Nat) (k : Int) : (rotUnits u i1 i2 k).length = u.length := by
  unfold rotUnits; split
  · exact length_swapAt _ _ _
  · rfl

theorem rotN_of_even (n : List Nat) (i1 i2 : Nat) (k : Int) (h : isOdd k = false) : rotN n i1 i2 k = n := by
  unfold rotN; rw [h]; rfl

theorem rotN_of_odd (n : List Nat) (i1 i2 : Nat) (k : Int) (h : isOdd k = true) : rotN n i1 i2 k = swapAt n i1 i2 := by
  unfold rotN; rw [h]; rfl

theorem rotUnits_of_even (u : List String) (i1 i2 : Nat) (k : Int) (h : isOdd k = false) : rotUnits u i1 i2 k = u := by
  unfold rotUnits; rw [h]; rfl

theorem rotUnits_of_odd (u : List String) (i1 i2 : Nat) (k : Int) (h : isOdd k = true) : rotUnits u i1 i2 k = swapAt u i1 i2 := by
  unfold rotUnits; rw [h]; rfl

theorem mem_rotN (n : List Nat) (i1 i2 : Nat) (k : Int) (h1 : i1 < n.length) (h2 : i2 < n.length) (x : Nat)
    (hx : x ∈ rotN n i1 i2 k) : x ∈ n := by
  unfold rotN swapAt at hx
  split at hx
  · rcases mem_setAt _ _ _ _ hx with rfl | hx
    · exact getD_mem _ _ _ h1
    · rcases mem_setAt _ _ _ _ hx with rfl | hx
      · exact getD_mem _ _ _ h2
      · exact hx
  · exact hx

theorem rotCoord_fixed (p : List Rat) (i1 i2 : Nat) (k : Int) (a : Nat) : rotCoord p p i1 i2 k a = p.getD a 0 := by
  unfold rotCoord
  split
  · next e => rw [e, sub_self, sub_self, mul_zero, mul_zero, sub_zero, add_zero]
  · split
    · next e => rw [e, sub_self, sub_self, mul_zero, mul_zero, add_zero, add_zero]
    · rfl

/-- the turn is affine: the midpoint of two points goes to the midpoint of their images -/
theorem rotCoord_mid (p q m R : List Rat) (i1 i2 : Nat) (k : Int) (a : Nat)
    (h1 : m.getD i1 0 = (p.getD i1 0 + q.getD i1 0) / 2) (h2 : m.getD i2 0 = (p.getD i2 0 + q.getD i2 0) / 2)
    (ha : m.getD a 0 = (p.getD a 0 + q.getD a 0) / 2) :
    rotCoord m R i1 i2 k a = (rotCoord p R i1 i2 k a + rotCoord q R i1 i2 k a) / 2 := by
  unfold rotCoord
  rw [h1, h2, ha]
  split
  · ring
  · split <;> ring

/-- whatever the sign of `s`: both sides are the smaller of the same two numbers (`max_affine`: the larger) -/
theorem min_affine (A s X Y : Rat) : min (A + s * min X Y) (A + s * max X Y) = min (A + s * X) (A + s * Y) := by
  rcases le_total X Y with h | h
  · rw [min_eq_left h, max_eq_right h]
  · rw [min_eq_right h, max_eq_left h, min_comm]

theorem max_affine (A s X Y : Rat) : max (A + s * min X Y) (A + s * max X Y) = max (A + s * X) (A + s * Y) := by
  rcases le_total X Y with h | h
  · rw [min_eq_left h, max_eq_right h]
  · rw [min_eq_right h, max_eq_left h, max_comm]

/-! ## the quarter turn as an axis-wise affine map -/

/-- the axis whose coordinate ends up on axis `a` -/
def rotSrc (i1 i2 : Nat) (k : Int) (a : Nat) : Nat :=
  if isOdd k then (if a = i1 then i2 else if a = i2 then i1 else a) else a
/-- the sign with which it arrives -/
def rotSign (i1 i2 : Nat) (k : Int) (a : Nat) : Rat :=
  if a = i1 then cosq k - sinq k else if a = i2 then cosq k + sinq k else 1
/-- the constant term, from the reference point -/
def rotOff (ref : List Rat) (i1 i2 : Nat) (k : Int) (a : Nat) : Rat :=
  if a = i1 then ref.getD i1 0 - cosq k * ref.getD i1 0 + sinq k * ref.getD i2 0
  else if a = i2 then ref.getD i2 0 - sinq k * ref.getD i1 0 - cosq k * ref.getD i2 0 else 0

/-- Each coordinate of a quarter-turned point is `offset + sign · (one coordinate of the source)`:
the rotation permutes the two axes for odd `k` and reflects according to the exact matrix. -/
theorem rotCoord_affine (p ref : List Rat) (i1 i2 : Nat) (k : Int) (a : Nat) :
    rotCoord p ref i1 i2 k a = rotOff ref i1 i2 k a + rotSign i1 i2 k a * p.getD (rotSrc i1 i2 k a) 0 := by
  unfold rotCoord rotOff rotSign rotSrc
  by_cases e1 : a = i1
  · subst e1
    rcases turn_cases k with ⟨_, ho, hc, hs⟩ | ⟨_, ho, hc, hs⟩ | ⟨_, ho, hc, hs⟩ | ⟨_, ho, hc, hs⟩ <;>
      (simp only [hc, hs, ho, if_true, Bool.false_eq_true, if_false]; ring)
  · by_cases e2 : a = i2
    · subst e2
      rcases turn_cases k with ⟨_, ho, hc, hs⟩ | ⟨_, ho, hc, hs⟩ | ⟨_, ho, hc, hs⟩ | ⟨_, ho, hc, hs⟩ <;>
        (simp only [hc, hs, ho, if_neg e1, if_true, Bool.false_eq_true, if_false]; ring)
    · simp only [if_neg e1, if_neg e2, ite_self, zero_add, one_mul]

theorem rotSign_pm (i1 i2 : Nat) (k : Int) (a : Nat) : rotSign i1 i2 k a = 1 ∨ rotSign i1 i2 k a = -1 := by
  unfold rotSign
  rcases quarter_cases' k with ⟨hc, hs⟩ | ⟨hc, hs⟩ | ⟨hc, hs⟩ | ⟨hc, hs⟩ <;> rw [hc, hs] <;>
    (split
     · norm_num
     · split <;> norm_num)

theorem rotSign_ne_zero (i1 i2 : Nat) (k : Int) (a : Nat) : rotSign i1 i2 k a ≠ 0 := by
  rcases rotSign_pm i1 i2 k a with h | h <;> rw [h] <;> norm_num

theorem rotSrc_other (i1 i2 : Nat) (k : Int) (a : Nat) (e1 : a ≠ i1) (e2 : a ≠ i2) : rotSrc i1 i2 k a = a := by
  unfold rotSrc; rw [if_neg e1, if_neg e2, ite_self]

theorem rotSrc_of_even (i1 i2 : Nat) (k : Int) (a : Nat) (h : isOdd k = false) : rotSrc i1 i2 k a = a := by
  unfold rotSrc; rw [h]; rfl

theorem rotSrc_odd_left (i1 i2 : Nat) (k : Int) (h : isOdd k = true) : rotSrc i1 i2 k i1 = i2 := by
  unfold rotSrc; rw [h, if_pos rfl, if_pos rfl]

theorem rotSrc_odd_right (i1 i2 : Nat) (k : Int) (h : isOdd k = true) : rotSrc i1 i2 k i2 = i1 := by
  unfold rotSrc; rw [h, if_pos rfl]
  split
  · next e => exact e
  · rw [if_pos rfl]

theorem rotSrc_lt (i1 i2 : Nat) (k : Int) (a n : Nat) (h1 : i1 < n) (h2 : i2 < n) (ha : a < n) : rotSrc i1 i2 k a < n := by
  unfold rotSrc
  split
  · split
    · exact h2
    · split
      · exact h1
      · exact ha
  · exact ha

/-- the counts follow the same permutation of axes -/
theorem rotN_getD (n : List Nat) (i1 i2 : Nat) (k : Int) (h12 : i1 ≠ i2) (h1 : i1 < n.length) (h2 : i2 < n.length) (a : Nat) :
    (rotN n i1 i2 k).getD a 0 = n.getD (rotSrc i1 i2 k a) 0 := by
  unfold rotN rotSrc
  -- `getD_swapAt_left/_right` return the type's `default`, which for `Nat` is `0`
  have dflt : (default : Nat) = 0 := rfl
  split
  · by_cases e1 : a = i1
    · subst e1; simp only [if_true]; rw [getD_swapAt_left _ _ _ _ h12 h1, dflt]
    · by_cases e2 : a = i2
      · subst e2; rw [if_neg e1, if_pos rfl, getD_swapAt_right _ _ _ _ h2, dflt]
      · rw [if_neg e1, if_neg e2, getD_swapAt_other _ _ _ _ _ e1 e2]
  · rfl

theorem rotSrc_rotSrc (p q : Nat) (k : Int) (a : Nat) : rotSrc p q k (rotSrc p q k a) = a := by
  unfold rotSrc
  cases isOdd k with
  | false => rfl
  | true =>
    by_cases e1 : a = p
    · subst e1; by_cases e : q = a <;> simp [e]
    · by_cases e2 : a = q
      · subst e2; simp
      · simp [e1, e2]

/-- rotated corners differ on every axis (the rotated region is not degenerate): they are the two ends of one edge of
the region, carried along with a sign -/
theorem rotCoord_ne (r : Region) (hr : r.Inv) (ref : List Rat) (i1 i2 : Nat) (k : Int)
    (h1 : i1 < r.ndim) (h2 : i2 < r.ndim) (a : Nat) (ha : a < r.ndim) :
    rotCoord r.pmin ref i1 i2 k a ≠ rotCoord r.pmax ref i1 i2 k a := by
  rw [rotCoord_affine, rotCoord_affine]
  exact fun h => absurd (mul_left_cancel₀ (rotSign_ne_zero i1 i2 k a) (add_left_cancel h))
    (ne_of_lt (hr.lo_lt_hi (rotSrc_lt i1 i2 k a _ h1 h2 ha)))

/-! ## scaling (the affine form of the two candidates, `scaleLo_eq`, `scaleHi_eq`, is in `Lemmas/C13StepR.lean`) -/

theorem scaleHi_sub_scaleLo (r : Region) (f : Factor) (R : List Rat) (a : Nat) :
    scaleHi r f R a - scaleLo r f R a = r.edge a * f.at a := by
  unfold scaleHi; ring

/-! ## `Region.__init__` -/

theorem allLt_false_iff (n : Nat) (p : Nat → Bool) : allLt n p = false ↔ ∃ a, a < n ∧ p a = false := by
  constructor
  · intro h
    by_contra hc
    have : ∀ a, a < n → p a = true := by
      intro a ha
      by_contra hp
      exact hc ⟨a, ha, by simpa using hp⟩
    rw [(allLt_iff n p).mpr this] at h
    cases h
  · rintro ⟨a, ha, hp⟩
    exact allLt_false_of n p a ha hp

/-- what the constructor returns when it accepts -/
def normalised (p1 p2 : List Rat) (d u : List String) (tol : Rat) : Region :=
  { pmin := tab p1.length fun a => min (p1.getD a 0) (p2.getD a 0),
    pmax := tab p1.length fun a => max (p1.getD a 0) (p2.getD a 0),
    dims := d, units := u, tol := tol }

theorem dimsOk_some (n : Nat) (d : List String) (hd : d.length = n) (hdup : hasDup d = false) :
    Region.dimsOk n (some d) = .ok d := by
  simp [Region.dimsOk, hd, hdup]

theorem dimsOk_some_inv (n : Nat) (d d' : List String) (h : Region.dimsOk n (some d) = .ok d') :
    d.length = n ∧ hasDup d = false ∧ d' = d := by
  simp only [Region.dimsOk] at h
  split at h
  · cases h
  · rename_i hd
    split at h
    · cases h
    · rename_i hdup
      injection h with h
      exact ⟨not_not.mp hd, by simpa using hdup, h.symm⟩

theorem unitsOk_some (n : Nat) (u : List String) (hu : u.length = n) : Region.unitsOk n (some u) = .ok u := by
  simp [Region.unitsOk, hu]

theorem unitsOk_some_inv (n : Nat) (u u' : List String) (h : Region.unitsOk n (some u) = .ok u') :
    u.length = n ∧ u' = u := by
  simp only [Region.unitsOk] at h
  split at h
  · cases h
  · rename_i hu
    injection h with h
    exact ⟨not_not.mp hu, h.symm⟩

/-- `Region.__init__` as an equivalence: when it accepts, and what it returns -/
theorem mk?_ok_iff (p1 p2 : List Rat) (dims units : Option (List String)) (tol : Rat) (r : Region) :
    Region.mk? p1 p2 dims units tol = .ok r ↔ p1.length = p2.length ∧ p1.length ≠ 0 ∧
      ∃ d, Region.dimsOk p1.length dims = .ok d ∧ ∃ u, Region.unitsOk p1.length units = .ok u ∧
        (∀ a, a < p1.length → p1.getD a 0 ≠ p2.getD a 0) ∧ r = normalised p1 p2 d u tol := by
  unfold Region.mk?
  rw [guard_ok_iff, guard_ok_iff, not_not]
  refine and_congr_right fun _ => and_congr_right fun _ => ?_
  cases Region.dimsOk p1.length dims with
  | error e => simp
  | ok d =>
    cases Region.unitsOk p1.length units with
    | error e => simp
    | ok u =>
      simp only [guard_ok_iff, Except.ok.injEq, exists_eq_left', Bool.not_eq_true', Bool.not_eq_false, allLt_iff,
        decide_eq_true_eq]
      exact and_congr_right fun _ => eq_comm

theorem mk?_ok_of (p1 p2 : List Rat) (d u : List String) (tol : Rat)
    (hl : p1.length = p2.length) (h0 : p1.length ≠ 0) (hd : d.length = p1.length)
    (hdup : hasDup d = false) (hu : u.length = p1.length)
    (hne : ∀ a, a < p1.length → p1.getD a 0 ≠ p2.getD a 0) :
    Region.mk? p1 p2 (some d) (some u) tol = .ok (normalised p1 p2 d u tol) :=
  (mk?_ok_iff _ _ _ _ _ _).mpr ⟨hl, h0, d, dimsOk_some _ _ hd hdup, u, unitsOk_some _ _ hu, hne, rfl⟩

theorem mk?_ok_inv (p1 p2 : List Rat) (d u : List String) (tol : Rat) (r : Region)
    (h : Region.mk? p1 p2 (some d) (some u) tol = .ok r) :
    p1.length = p2.length ∧ p1.length ≠ 0 ∧ d.length = p1.length ∧ hasDup d = false ∧ u.length = p1.length ∧
    (∀ a, a < p1.length → p1.getD a 0 ≠ p2.getD a 0) ∧ r = normalised p1 p2 d u tol := by
  obtain ⟨hl, h0, d', hd', u', hu', hne, e⟩ := (mk?_ok_iff _ _ _ _ _ _).mp h
  obtain ⟨hd, hdup, rfl⟩ := dimsOk_some_inv _ _ _ hd'
  obtain ⟨hu, rfl⟩ := unitsOk_some_inv _ _ _ hu'
  exact ⟨hl, h0, hd, hdup, hu, hne, e⟩

theorem normalised_tab (n : Nat) (lo' hi' : Nat → Rat) (d u : List String) (tol : Rat) :
    normalised (tab n lo') (tab n hi') d u tol
      = { pmin := tab n fun a => min (lo' a) (hi' a), pmax := tab n fun a => max (lo' a) (hi' a), dims := d, units := u, tol := tol } := by
  unfold normalised
  rw [tab_length]
  congr 1 <;> exact tab_congr _ _ _ fun a ha => by rw [getD_tab _ _ _ _ ha, getD_tab _ _ _ _ ha]

theorem tab_min_max_of_lt (p q : List Rat) (hl : q.length = p.length) (h : ∀ a, a < p.length → p.getD a 0 < q.getD a 0) :
    tab p.length (fun a => min (p.getD a 0) (q.getD a 0)) = p ∧ tab p.length (fun a => max (p.getD a 0) (q.getD a 0)) = q :=
  ⟨(eq_tab_of_getD p _ _ 0 rfl fun a ha => (min_eq_left (h a ha).le).symm).symm,
   (eq_tab_of_getD q _ _ 0 hl fun a ha => (max_eq_right (h a ha).le).symm).symm⟩

theorem normalised_of_lt (p1 p2 : List Rat) (d u : List String) (tol : Rat) (hl : p1.length = p2.length)
    (hlt : ∀ a, a < p1.length → p1.getD a 0 < p2.getD a 0) :
    normalised p1 p2 d u tol = { pmin := p1, pmax := p2, dims := d, units := u, tol := tol } := by
  obtain ⟨e1, e2⟩ := tab_min_max_of_lt p1 p2 hl.symm hlt
  unfold normalised
  rw [e1, e2]

theorem mk?_ok_of_lt (p1 p2 : List Rat) (dims units : Option (List String)) (d u : List String) (tol : Rat)
    (hl : p1.length = p2.length) (h0 : p1.length ≠ 0) (hd : Region.dimsOk p1.length dims = .ok d)
    (hu : Region.unitsOk p1.length units = .ok u) (hlt : ∀ a, a < p1.length → p1.getD a 0 < p2.getD a 0) :
    Region.mk? p1 p2 dims units tol = .ok { pmin := p1, pmax := p2, dims := d, units := u, tol := tol } :=
  (mk?_ok_iff _ _ _ _ _ _).mpr ⟨hl, h0, d, hd, u, hu, fun a ha => (hlt a ha).ne, (normalised_of_lt _ _ _ _ _ hl hlt).symm⟩

/-! ## `target`: the state both forms of a region step end in -/

/-- new corners ordered per axis, new units; names and tolerance kept -/
def target (r : Region) (lo' hi' : Nat → Rat) (units : List String) : Region :=
  { r with pmin := tab r.ndim fun a => min (lo' a) (hi' a),
           pmax := tab r.ndim fun a => max (lo' a) (hi' a), units := units }

theorem target_ndim (r : Region) (lo' hi' : Nat → Rat) (units : List String) :
    (target r lo' hi' units).ndim = r.ndim := by simp [target, Region.ndim]

theorem target_lo (r : Region) (lo' hi' : Nat → Rat) (units : List String) (a : Nat) (ha : a < r.ndim) :
    (target r lo' hi' units).lo a = min (lo' a) (hi' a) := by
  simp only [Region.lo, target]; rw [getD_tab _ _ _ _ ha]

theorem target_hi (r : Region) (lo' hi' : Nat → Rat) (units : List String) (a : Nat) (ha : a < r.ndim) :
    (target r lo' hi' units).hi a = max (lo' a) (hi' a) := by
  simp only [Region.hi, target]; rw [getD_tab _ _ _ _ ha]

theorem target_of_le (r : Region) (lo' hi' : Nat → Rat) (units : List String) (h : ∀ a, a < r.ndim → lo' a ≤ hi' a) :
    target r lo' hi' units = { r with pmin := tab r.ndim lo', pmax := tab r.ndim hi', units := units } := by
  unfold target
  congr 1 <;> apply tab_congr <;> intro a ha
  · exact min_eq_left (h a ha)
  · exact max_eq_right (h a ha)

theorem target_congr (r : Region) (lo1 hi1 lo2 hi2 : Nat → Rat) (u : List String)
    (hl : ∀ a, a < r.ndim → lo1 a = lo2 a) (hh : ∀ a, a < r.ndim → hi1 a = hi2 a) :
    target r lo1 hi1 u = target r lo2 hi2 u := by
  unfold target
  congr 1
  · apply tab_congr; intro a ha; rw [hl a ha, hh a ha]
  · apply tab_congr; intro a ha; rw [hl a ha, hh a ha]

theorem target_inv (r : Region) (hr : r.Inv) (lo' hi' : Nat → Rat) (units : List String)
    (hu : units.length = r.ndim) (hne : ∀ a, a < r.ndim → lo' a ≠ hi' a) : (target r lo' hi' units).Inv := by
  obtain ⟨h0, h1, h2, h3, h4, h5⟩ := hr
  refine ⟨by simpa [target, Region.ndim] using h0, by simp [target], by simpa [target, Region.ndim] using h2,
    by simpa [target, Region.ndim] using hu, h4, ?_⟩
  intro a ha
  have ha' : a < r.ndim := by simpa [target, Region.ndim] using ha
  rw [target_lo _ _ _ _ _ ha', target_hi _ _ _ _ _ ha']
  rcases lt_or_gt_of_ne (hne a ha') with h | h
  · rw [min_eq_left h.le, max_eq_right h.le]; exact h
  · rw [min_eq_right h.le, max_eq_left h.le]; exact h

theorem target_self (r : Region) (hr : r.Inv) : target r r.lo r.hi r.units = r := by
  obtain ⟨e1, e2⟩ := tab_min_max_of_lt r.pmin r.pmax hr.pmax_length fun a ha => hr.lo_lt_hi ha
  unfold target Region.lo Region.hi Region.ndim
  rw [e1, e2]

theorem target_rot_center (r : Region) (i1 i2 : Nat) (k : Int) (u : List String) (l1 : i1 < r.ndim) (l2 : i2 < r.ndim) :
    (target r (rotCoord r.pmin r.center i1 i2 k) (rotCoord r.pmax r.center i1 i2 k) u).center = r.center := by
  have hc : ∀ a, a < r.ndim → r.center.getD a 0 = (r.lo a + r.hi a) / 2 := fun a ha => getD_tab _ _ _ _ ha
  have hl : r.center.length = r.ndim := tab_length _ _
  generalize r.center = C at hc hl ⊢
  refine (eq_tab_of_getD C _ _ 0 (hl.trans (target_ndim _ _ _ _).symm) fun a ha => ?_).symm
  rw [target_ndim] at ha
  rw [target_lo _ _ _ _ _ ha, target_hi _ _ _ _ _ ha, min_add_max,
    ← rotCoord_mid r.pmin r.pmax C C i1 i2 k a (hc i1 l1) (hc i2 l2) (hc a ha), rotCoord_fixed]

/-! ## the axis lookup; meshes with equal fields -/

theorem dim2index_congr (r s : Region) (h : s.dims = r.dims) (a : String) : s.dim2index a = r.dim2index a := by
  unfold Region.dim2index; rw [h]

theorem dim2index_lt (r : Region) (d : String) (i : Nat) (h : r.dim2index d = .ok i) : i < r.dims.length :=
  (dim2index_ok r d i h).1

theorem mesh_ext (a b : Mesh) (h1 : a.region = b.region) (h2 : a.n = b.n) (h3 : a.bc = b.bc) (h4 : a.subs = b.subs) : a = b := by
  cases a; cases b; simp only at h1 h2 h3 h4; subst h1; subst h2; subst h3; subst h4; rfl

/-! ## the components of a value under turns -/

theorem rotVec_length (v : List Rat) (c1 c2 : Nat) (k : Int) : (rotVec v c1 c2 k).length = v.length := by
  unfold rotVec; rw [tab_length]

theorem rotVec_getD (v : List Rat) (c1 c2 : Nat) (k : Int) (c : Nat) (hc : c < v.length) :
    (rotVec v c1 c2 k).getD c 0 =
      if c = c1 then cosq k * v.getD c1 0 - sinq k * v.getD c2 0
      else if c = c2 then sinq k * v.getD c1 0 + cosq k * v.getD c2 0 else v.getD c 0 := by
  unfold rotVec; rw [getD_tab _ _ _ _ hc]

/-- the components of a value turn like the coordinates of a point about the origin -/
theorem rotVec_eq_rotCoord (v : List Rat) (c1 c2 : Nat) (k : Int) : rotVec v c1 c2 k = tab v.length (rotCoord v [] c1 c2 k) := by
  unfold rotVec rotCoord
  refine tab_congr _ _ _ fun c _ => ?_
  simp only [List.getD_nil]
  split
  · ring
  · split
    · ring
    · rfl

/-- every component of the turned value is one component of the value, with a sign: the signed permutation of the
point map (`rotCoord_affine`), without offset -/
theorem rotVec_signed (v : List Rat) (c1 c2 : Nat) (k : Int) (c : Nat) (hc : c < v.length) :
    (rotVec v c1 c2 k).getD c 0 = rotSign c1 c2 k c * v.getD (rotSrc c1 c2 k c) 0 := by
  rw [rotVec_eq_rotCoord, getD_tab _ _ _ _ hc, rotCoord_affine]
  unfold rotOff
  simp only [List.getD_nil]
  split
  · ring
  · split <;> ring

theorem rotVec_mod4 (v : List Rat) (c1 c2 : Nat) (k : Int) : rotVec v c1 c2 (k % 4) = rotVec v c1 c2 k := by
  unfold rotVec; rw [cosq_mod4, sinq_mod4]

theorem rotVec_zero (v : List Rat) (c1 c2 : Nat) (k : Int) (hk : k % 4 = 0) : rotVec v c1 c2 k = v := by
  rw [rotVec_eq_rotCoord]
  exact (eq_tab_of_getD _ _ _ 0 rfl fun c _ => (rotCoord_zero v [] c1 c2 k hk c).symm).symm

theorem rotVec_compose' (v : List Rat) (c1 c2 : Nat) (k l : Int) (h12 : c1 ≠ c2)
    (h1 : c1 < v.length) (h2 : c2 < v.length) :
    rotVec (rotVec v c1 c2 k) c1 c2 l = rotVec v c1 c2 (k + l) := by
  rw [rotVec_eq_rotCoord, rotVec_eq_rotCoord, rotVec_eq_rotCoord, tab_length]
  exact tab_congr _ _ _ fun a ha => rotCoord_compose v [] c1 c2 k l h12 h1 h2 a ha

/-! ## `Field.rotate90` -/

theorem FldInv.mesh_inv {f : Fld} (h : FldInv f) : f.mesh.Inv := h.1
theorem FldInv.data_shape {f : Fld} (h : FldInv f) : f.data.shape = f.mesh.n := h.2.1
theorem FldInv.valid_shape {f : Fld} (h : FldInv f) : f.valid.shape = f.mesh.n := h.2.2

/-- what a quarter turn does to one cell value: the two mapped components of a vector value are
turned (`Field.rotate90` refuses a vector field without them), a scalar value is kept -/
def turnVal (f : Fld) (a1 a2 : String) (k : Int) (v : List Rat) : List Rat :=
  match (f.rDim a1).bind f.vdimIndex, (f.rDim a2).bind f.vdimIndex with
  | some c1, some c2 => if f.nvdim > 1 then rotVec v c1 c2 k else v
  | _, _ => v

theorem turnVal_scalar (f : Fld) (a1 a2 : String) (k : Int) (v : List Rat) (h : f.nvdim ≤ 1) : turnVal f a1 a2 k v = v := by
  unfold turnVal
  split
  · exact if_neg (by omega)
  · rfl

theorem turnVal_vector (f : Fld) (a1 a2 : String) (k : Int) (v : List Rat) (c1 c2 : Nat) (h : f.nvdim > 1)
    (h1 : (f.rDim a1).bind f.vdimIndex = some c1) (h2 : (f.rDim a2).bind f.vdimIndex = some c2) :
    turnVal f a1 a2 k v = rotVec v c1 c2 k := by
  unfold turnVal
  rw [h1, h2]
  exact if_pos h

theorem mapped_congr (f g : Fld) (hd : g.vdims = f.vdims) (hm : g.vmap = f.vmap) (a : String) :
    (g.rDim a).bind g.vdimIndex = (f.rDim a).bind f.vdimIndex := by
  unfold Fld.rDim Fld.vdimIndex; rw [hd, hm]

theorem turnVal_congr (f g : Fld) (hn : g.nvdim = f.nvdim) (hd : g.vdims = f.vdims) (hm : g.vmap = f.vmap) :
    turnVal g = turnVal f := by
  funext a1 a2 k v
  unfold turnVal
  rw [hn, mapped_congr f g hd hm, mapped_congr f g hd hm]

theorem turnVal_eq (f : Fld) (a1 a2 : String) :
    (∀ k v, turnVal f a1 a2 k v = v) ∨
    ∃ c1 c2, (f.rDim a1).bind f.vdimIndex = some c1 ∧ (f.rDim a2).bind f.vdimIndex = some c2 ∧
      ∀ k v, turnVal f a1 a2 k v = rotVec v c1 c2 k := by
  by_cases hgt : f.nvdim > 1
  · cases h1 : (f.rDim a1).bind f.vdimIndex with
    | none => exact Or.inl fun k v => by simp only [turnVal, h1]
    | some c1 =>
      cases h2 : (f.rDim a2).bind f.vdimIndex with
      | none => exact Or.inl fun k v => by simp only [turnVal, h1, h2]
      | some c2 => exact Or.inr ⟨c1, c2, rfl, rfl, fun k v => turnVal_vector f a1 a2 k v c1 c2 hgt h1 h2⟩
  · exact Or.inl fun k v => turnVal_scalar f a1 a2 k v (by omega)

theorem turnVal_length (f : Fld) (a1 a2 : String) (k : Int) (v : List Rat) : (turnVal f a1 a2 k v).length = v.length := by
  rcases turnVal_eq f a1 a2 with h | ⟨c1, c2, _, _, h⟩ <;> rw [h]
  exact rotVec_length v c1 c2 k

/-- the field `Field.rotate90` returns: the turned mesh, both arrays moved by the same `np.rot90`, every value
turned by `turnVal` -/
def turnedFld (f : Fld) (m' : Mesh) (a1 a2 : String) (k : Int) (i1 i2 : Nat) : Fld :=
  { f with mesh := m', data := (rot90 f.data i1 i2 k).map (turnVal f a1 a2 k), valid := rot90 f.valid i1 i2 k }

/-- **`Field.rotate90`: when it accepts and what it returns.**  The copying mesh turn is accepted, both axes are
found, a vector field has both mapped components; the result is then `turnedFld`, in either form. -/
theorem rotate90F_ok_iff (f : Fld) (a1 a2 : String) (k : Int) (ref : Option (List Rat)) (b : Bool) (x g : Fld) :
    rotate90F f a1 a2 k ref b = .ok (x, g) ↔
      ∃ y m' i1 i2, stepM f.mesh (.rotate90 a1 a2 k ref false) = .ok (y, m') ∧
        f.mesh.region.dim2index a1 = .ok i1 ∧ f.mesh.region.dim2index a2 = .ok i2 ∧
        (f.nvdim > 1 → ∃ c1 c2, (f.rDim a1).bind f.vdimIndex = some c1 ∧ (f.rDim a2).bind f.vdimIndex = some c2) ∧
        g = turnedFld f m' a1 a2 k i1 i2 ∧ x = if b then g else f := by
  unfold rotate90F
  -- both forms return the same field `G`; the receiver is it (`G'`, written out again in the code) or the field as it was
  have key : ∀ G G' : Fld, G' = G →
      (((.ok (if b then G' else f, G) : M (Fld × Fld)) = .ok (x, g)) ↔ (g = G ∧ x = if b then g else f)) := by
    rintro G _ rfl
    constructor
    · intro h; injection h with h; injection h with hx hg; subst hg; exact ⟨rfl, hx.symm⟩
    · rintro ⟨rfl, rfl⟩; rfl
  cases hm : stepM f.mesh (.rotate90 a1 a2 k ref false) with
  | error e => simp
  | ok ym =>
    cases h1 : f.mesh.region.dim2index a1 with
    | error e => simp
    | ok i1 =>
      cases h2 : f.mesh.region.dim2index a2 with
      | error e => simp
      | ok i2 =>
        obtain ⟨y, m'⟩ := ym
        simp only [Except.ok.injEq, Prod.mk.injEq, exists_and_left, ↓existsAndEq, true_and]
        by_cases hv : f.nvdim > 1
        · rw [if_pos hv]
          cases hc1 : (f.rDim a1).bind f.vdimIndex with
          | none => simp [hv]
          | some c1 =>
            cases hc2 : (f.rDim a2).bind f.vdimIndex with
            | none => simp [hv]
            | some c2 =>
              unfold turnedFld
              rw [funext fun v => turnVal_vector f a1 a2 k v c1 c2 hv hc1 hc2]
              exact (key _ _ rfl).trans (and_iff_right fun _ => ⟨c1, rfl, c2, rfl⟩).symm
        · rw [if_neg hv]
          unfold turnedFld
          rw [funext fun v => turnVal_scalar f a1 a2 k v (by omega)]
          exact (key _ _ rfl).trans (and_iff_right fun h => absurd h hv).symm

theorem rotate90F_mapped (f : Fld) (a1 a2 : String) (k : Int) (ref : Option (List Rat)) (b : Bool) (x g : Fld)
    (h : rotate90F f a1 a2 k ref b = .ok (x, g)) (hv : f.nvdim > 1) :
    ∃ c1 c2, (f.rDim a1).bind f.vdimIndex = some c1 ∧ (f.rDim a2).bind f.vdimIndex = some c2 := by
  obtain ⟨_, _, _, _, _, _, _, hmap, _⟩ := (rotate90F_ok_iff f a1 a2 k ref b x g).mp h
  exact hmap hv

/-- what an accepted field rotation returned, attribute by attribute and with the scalar / vector cases apart -/
theorem rotate90F_inv (f : Fld) (a1 a2 : String) (k : Int) (ref : Option (List Rat)) (b : Bool) (x g : Fld)
    (h : rotate90F f a1 a2 k ref b = .ok (x, g)) :
    ∃ y m' i1 i2, stepM f.mesh (.rotate90 a1 a2 k ref false) = .ok (y, m') ∧
      f.mesh.region.dim2index a1 = .ok i1 ∧ f.mesh.region.dim2index a2 = .ok i2 ∧
      g.mesh = m' ∧ g.nvdim = f.nvdim ∧ g.vdims = f.vdims ∧ g.vmap = f.vmap ∧ g.unit = f.unit ∧
      g.valid = rot90 f.valid i1 i2 k ∧
      ((f.nvdim ≤ 1 ∧ g.data = rot90 f.data i1 i2 k) ∨
       (f.nvdim > 1 ∧ ∃ c1 c2, (f.rDim a1).bind f.vdimIndex = some c1 ∧ (f.rDim a2).bind f.vdimIndex = some c2 ∧
          g.data = (rot90 f.data i1 i2 k).map fun v => rotVec v c1 c2 k)) ∧
      x = if b then g else f := by
  obtain ⟨y, m', i1, i2, hm, d1, d2, hmap, rfl, ex⟩ := (rotate90F_ok_iff f a1 a2 k ref b x g).mp h
  refine ⟨y, m', i1, i2, hm, d1, d2, rfl, rfl, rfl, rfl, rfl, rfl, ?_, ex⟩
  by_cases hv : f.nvdim > 1
  · obtain ⟨c1, c2, h1, h2⟩ := hmap hv
    exact Or.inr ⟨hv, c1, c2, h1, h2, by
      show NDA.map (turnVal f a1 a2 k) _ = _
      rw [funext fun v => turnVal_vector f a1 a2 k v c1 c2 hv h1 h2]⟩
  · exact Or.inl ⟨by omega, by
      show NDA.map (turnVal f a1 a2 k) _ = _
      rw [funext fun v => turnVal_scalar f a1 a2 k v (by omega)]; rfl⟩

end DFV.T
