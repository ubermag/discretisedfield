import DFV.Lemmas.C08Prog
/-! Around the setter and the nearest-cell map: the tolerance of `'norm'` is positive; the nearest-cell lookup is
geometry-free and, on uniform axes, the cell that contains the point (closed form); values zipped with validity keep the
values' shape; padding keeps the original cells; the field-level setter; the constructor route (a Boolean array handed
to the setter is stored as a copy); a Boolean field as validity. -/
namespace DFV.C08
open DFV

theorem atol_pos : (0 : Rat) < atol := by unfold atol; norm_num

/-! ## nearest-cell lookup does not depend on where the region lies or how long it is -/

theorem nearestUpTo_affine (cs : Nat → Rat) (x lo E : Rat) (hE : 0 < E) (m : Nat) :
    nearestUpTo (fun k => lo + E * cs k) (lo + E * x) m = nearestUpTo cs x m := by
  rw [← nearestUpTo_link, ← nearestUpTo_link]
  exact C07.nearestUpTo_affine cs x lo E hE m

/-- centre of cell `k` of `n` cells on the edge `[lo, lo + E]` -/
theorem centre_affine (lo E : Rat) (n k : Nat) :
    lo + ((k : Rat) + 1 / 2) * (E / (n : Rat)) = lo + E * centre01 n k := by
  unfold centre01; ring

theorem nearest_affine (lo E : Rat) (hE : 0 < E) (n n' j : Nat) :
    nearestUpTo (fun k => lo + ((k : Rat) + 1 / 2) * (E / (n : Rat))) (lo + ((j : Rat) + 1 / 2) * (E / (n' : Rat))) (n - 1)
      = nearest n n' j := by
  simp only [centre_affine]
  exact nearestUpTo_affine (centre01 n) (centre01 n' j) lo E hE (n - 1)

/-! ## the nearest cell in closed form -/

/-- on a uniform axis the nearest centre is the centre of the cell that contains the point (a
point on a border goes to the upper cell): for `q ≤ x·n < q + 1` the search up to `m` returns
`min m q` -/
theorem nearestUpTo_closed (n : Nat) (hn : 0 < n) (x : Rat) (q : Nat) (hq1 : (q : Rat) ≤ x * n)
    (hq2 : x * n < (q : Rat) + 1) (m : Nat) : nearestUpTo (centre01 n) x m = min m q := by
  have hnq : (n : Rat) ≠ 0 := Nat.cast_ne_zero.mpr (Nat.pos_iff_ne_zero.mp hn)
  have hc : centre01 n = fun k : Nat => 0 + 1 / (n : Rat) * ((k : Rat) + 1 / 2) := by
    funext k; unfold centre01; ring
  have hx : x = 0 + 1 / (n : Rat) * (x * n) := by field_simp; ring
  rw [hc, hx, nearestUpTo_affine _ _ 0 _ (one_div_pos.mpr (Nat.cast_pos.mpr hn))]
  rw [← nearestUpTo_link]
  exact C07.nearestUpTo_grid (x * n) q hq1 hq2 m

theorem nearest_eq_fast (n n' j : Nat) (hn : 0 < n) (hn' : 0 < n') : nearest n n' j = nearestFast n n' j := by
  have hB : 0 < 2 * n' := Nat.mul_pos Nat.two_pos hn'
  have hBq : (0 : Rat) < ((2 * n' : Nat) : Rat) := Nat.cast_pos.mpr hB
  have hx : centre01 n' j * n = (((2 * j + 1) * n : Nat) : Rat) / ((2 * n' : Nat) : Rat) := by
    unfold centre01; push_cast; field_simp
  -- `centre01 n' j · n = (2j+1)·n / (2n')`, so the cell that contains the point is the integer quotient `q`;
  -- the two goals are `q ≤ x·n` and `x·n < q + 1`
  refine nearestUpTo_closed n hn _ _ ?_ ?_ (n - 1)
  · rw [hx, le_div_iff₀ hBq]
    exact_mod_cast Nat.div_mul_le_self _ _
  · rw [hx, div_lt_iff₀ hBq]
    have := Nat.lt_mul_div_succ ((2 * j + 1) * n) hB
    rw [Nat.mul_comm (2 * n')] at this
    exact_mod_cast this

/-! ## one map for values and validity -/

theorem zip_shape {τ} (data : NDA τ) (valid : Mask) : (NDA.zipWith Prod.mk data valid).shape = data.shape := rfl

/-! ## padding keeps the original cells -/

theorem pad_src_inside (mode : PadMode) (w : List (Nat × Nat)) (s j : List Nat)
    (hin : ∀ b, b < s.length → (w.getD b (0, 0)).1 ≤ j.getD b 0 ∧ j.getD b 0 < (w.getD b (0, 0)).1 + s.getD b 0) :
    (MapOp.pad mode w).src s j = some (tab s.length fun b => j.getD b 0 - (w.getD b (0, 0)).1) := by
  simp only [MapOp.src]
  have hall : allLt s.length (fun b => (padSrc mode (s.getD b 0) (w.getD b (0, 0)).1 (j.getD b 0)).isSome) = true := by
    rw [allLt_iff]
    intro b hb
    rw [padSrc_inside mode _ _ _ (hin b hb).1 (hin b hb).2]; rfl
  rw [if_pos hall]
  congr 1
  apply tab_congr
  intro b hb
  rw [padSrc_inside mode _ _ _ (hin b hb).1 (hin b hb).2]; rfl

/-- the index `j ++ [0]` of the `(*n, 1)`-shaped array the setter builds -/
theorem inRange_snoc_one (n j : List Nat) (h : inRange n j = true) : inRange (n ++ [1]) (j ++ [0]) = true := by
  rw [inRange_snoc, h]; rfl

/-! ## the setter at field level -/

theorem setValid_ok {f g : Fld} {s : VSpec} :
    setValid f s = .ok g ↔ ∃ m, setMask f.mesh.n (toMSpec f s) = .ok m ∧ g = { f with valid := m } := by
  unfold setValid
  cases setMask f.mesh.n (toMSpec f s) <;>
    simp only [reduceCtorEq, false_and, exists_false, Except.ok.injEq, exists_eq_left', eq_comm (b := g)]

/-! ## the constructor route: handing a Boolean array to the setter stores a copy of it -/

theorem setMask_asArr (m : Mask) : setMask m.shape (.arr (asArr m)) = .ok (own m) := by
  rw [setMask_arr_same (n := m.shape) (a := asArr m) rfl]
  have : (⟨m.shape, fun j => decide ((asArr m).get j ≠ 0)⟩ : Mask) = m := by
    have hf : (fun j => decide ((asArr m).get j ≠ 0)) = m.get := by
      funext j
      show decide ((if m.get j then (1 : Rat) else 0) ≠ 0) = m.get j
      cases m.get j <;> simp
    rw [hf]
  rw [this]

/-! ## a field as validity (the route `resample` takes) -/

theorem lookupIdx_inRange (s : List Nat) (cs xs : Nat → Nat → Rat) (j : List Nat)
    (hpos : ∀ b, b < s.length → 0 < s.getD b 0) : inRange s (lookupIdx s cs xs j) = true := by
  unfold lookupIdx
  apply inRange_tab _ _
  intro b hb
  have := nearestUpTo_le (cs b) (xs b (j.getD b 0)) (s.getD b 0 - 1)
  have := hpos b hb
  omega

/-- centres of both meshes on the same edges: the lookup is the nearest-cell map of `resample` -/
theorem lookupIdx_same_region (s n' : List Nat) (lo E : Nat → Rat) (hE : ∀ b, 0 < E b) (j : List Nat) :
    lookupIdx s (fun b k => lo b + ((k : Rat) + 1 / 2) * (E b / (s.getD b 0 : Rat)))
      (fun b k => lo b + ((k : Rat) + 1 / 2) * (E b / (n'.getD b 0 : Rat))) j
      = tab s.length fun b => nearest (s.getD b 0) (n'.getD b 0) (j.getD b 0) :=
  tab_congr _ _ _ fun b _ => nearest_affine (lo b) (E b) (hE b) _ _ _

end DFV.C08
