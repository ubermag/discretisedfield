import DFV.Lemmas.C01Iter
import DFV.Lemmas.C16Reader

/-! The legacy point-data reader: the scan over `*_COORDINATES` headers, the data marker, the
data loop `fill` on ANY data section (when it succeeds, what every cell holds afterwards), and the
whole reader on a file of the old layout (`legacyRead_body`: geometry from the first line of each
coordinate block, then `fill` on the lines after the marker). -/

namespace DFV.C16
open DFV DFV.Mesh

/-! ## the scan over coordinate headers -/

theorem coordEntries_cons_quiet (x : LLine) (t : List LLine) (h : ∀ c, x ≠ .coords c) :
    coordEntries (x :: t) = coordEntries t := by
  cases x with
  | coords c => exact absurd rfl (h c)
  | nums xs => simp [coordEntries]
  | vectors => simp [coordEntries]
  | scalars => simp [coordEntries]
  | alpha => simp [coordEntries]
  | junk => simp [coordEntries]

theorem coordEntries_skip (l rest : List LLine) (h : ∀ x ∈ l, ∀ c, x ≠ .coords c) :
    coordEntries (l ++ rest) = coordEntries rest := by
  induction l with
  | nil => rfl
  | cons x t ih =>
    rw [List.cons_append, coordEntries_cons_quiet x _ (h x (by simp)), ih fun y hy => h y (by simp [hy])]

theorem coordEntries_none (l : List LLine) (h : ∀ x ∈ l, ∀ c, x ≠ .coords c) : coordEntries l = .ok [] := by
  have := coordEntries_skip l [] h
  simpa [coordEntries] using this

theorem coordEntries_block (c : Nat) (xs : List Rat) (cont rest : List LLine) (es : List (Nat × List Rat))
    (hq : ∀ x ∈ cont, ∀ k, x ≠ .coords k)
    (h : coordEntries rest = .ok es) : coordEntries (.coords c :: .nums xs :: cont ++ rest) = .ok ((c, xs) :: es) := by
  simp only [List.cons_append, coordEntries]
  rw [coordEntries_skip cont rest hq, h]

theorem coordEntries_coords_nums (c : Nat) (xs : List Rat) (t : List LLine) :
    coordEntries (.coords c :: .nums xs :: t) =
      match coordEntries t with
      | .error e => .error e
      | .ok es => .ok ((c, xs) :: es) := by
  simp only [coordEntries]
  cases coordEntries t <;> rfl

theorem coordEntries_coords_bad (c : Nat) (t : List LLine) (h : ∀ xs, t[0]? ≠ some (.nums xs)) :
    coordEntries (.coords c :: t) = .error .value := by
  cases t with
  | nil => rfl
  | cons y t' =>
    cases y with
    | nums xs => exact absurd rfl (h xs)
    | _ => rfl

/-! ## the data marker -/

theorem afterMarker_skip (vec : Bool) (l rest : List LLine)
    (h : ∀ x ∈ l, ((vec && x == .vectors) || (!vec && x == .scalars)) = false) :
    afterMarker vec (l ++ rest) = afterMarker vec rest := by
  induction l with
  | nil => rfl
  | cons x t ih =>
    simp only [List.cons_append, afterMarker]
    rw [h x (by simp)]
    simp only [Bool.false_eq_true, if_false]
    exact ih fun y hy => h y (by simp [hy])

theorem afterMarker_none (vec : Bool) (l : List LLine)
    (h : ∀ x ∈ l, ((vec && x == .vectors) || (!vec && x == .scalars)) = false) : afterMarker vec l = none := by
  have := afterMarker_skip vec l [] h
  simpa [afterMarker] using this

/-! ## the data loop -/

/-- what one line must satisfy for the loop not to raise -/
def LineOk (dim : Nat) (l : LLine) : Prop := l ≠ .junk ∧ ∀ xs, l = .nums xs → xs.length = dim ∨ xs.length = 1

/-- `DataOk dim cnt body` (the first `cnt` lines of `body`, all if fewer, are `LineOk`) peels like `fill` -/
theorem dataOk_cons (dim cnt : Nat) (l : LLine) (ls : List LLine) :
    DataOk dim (cnt + 1) (l :: ls) ↔ LineOk dim l ∧ DataOk dim cnt ls :=
  ⟨fun h => ⟨h 0 (Nat.succ_pos _) (Nat.succ_pos _),
      fun q hq hql => h (q + 1) (Nat.succ_lt_succ hq) (Nat.succ_lt_succ hql)⟩,
    fun ⟨h0, h1⟩ q hq hql => match q with
      | 0 => h0
      | q + 1 => h1 q (Nat.lt_of_succ_lt_succ hq) (Nat.lt_of_succ_lt_succ hql)⟩

/-- the array after the data loop has looked at line `l` for cell `i` -/
def lineSet (dim : Nat) (a : NDA (List Rat)) (i : List Nat) (l : LLine) : NDA (List Rat) :=
  match lineValue dim l with
  | some v => setCell a i v
  | none => a

/-- **one step of the data loop**: an acceptable line stores its value (if it carries one) and the loop goes on,
any other line raises -/
theorem fill_cons (dim : Nat) (i : List Nat) (is : List (List Nat)) (l : LLine) (ls : List LLine) (a : NDA (List Rat)) :
    (LineOk dim l → fill dim (i :: is) (l :: ls) a = fill dim is ls (lineSet dim a i l)) ∧
    (¬ LineOk dim l → ∀ r, fill dim (i :: is) (l :: ls) a ≠ .ok r) := by
  cases l with
  | nums xs =>
    simp only [fill, lineSet, lineValue, LineOk]
    by_cases h1 : xs.length = dim
    · rw [if_pos h1, if_pos h1]
      exact ⟨fun _ => rfl, fun h => absurd ⟨nofun, fun _ e => Or.inl (LLine.nums.inj e ▸ h1)⟩ h⟩
    · rw [if_neg h1, if_neg h1]
      by_cases h2 : xs.length = 1
      · rw [if_pos h2]
        exact ⟨fun _ => rfl, fun h => absurd ⟨nofun, fun _ e => Or.inr (LLine.nums.inj e ▸ h2)⟩ h⟩
      · rw [if_neg h2]
        exact ⟨fun h => (h.2 xs rfl).elim (absurd · h1) (absurd · h2), fun _ _ => nofun⟩
  | junk => exact ⟨fun h => absurd rfl h.1, fun _ _ => nofun⟩
  | coords c => exact ⟨fun _ => rfl, fun h => absurd ⟨nofun, nofun⟩ h⟩
  | vectors => exact ⟨fun _ => rfl, fun h => absurd ⟨nofun, nofun⟩ h⟩
  | scalars => exact ⟨fun _ => rfl, fun h => absurd ⟨nofun, nofun⟩ h⟩
  | alpha => exact ⟨fun _ => rfl, fun h => absurd ⟨nofun, nofun⟩ h⟩

theorem lineSet_get (dim : Nat) (a : NDA (List Rat)) (i j : List Nat) (l : LLine) :
    (lineSet dim a i l).get j = if j = i then (lineValue dim l).getD (a.get i) else a.get j := by
  unfold lineSet
  cases lineValue dim l with
  | none => by_cases h : j = i <;> simp [h]
  | some v => rfl

theorem lineSet_shape (dim : Nat) (a : NDA (List Rat)) (i : List Nat) (l : LLine) : (lineSet dim a i l).shape = a.shape := by
  unfold lineSet
  cases lineValue dim l <;> rfl

/-- **the data loop succeeds exactly when** each of the lines it looks at (as many as there are
cells, or all of them if the section is shorter) is acceptable -/
theorem fill_ok_iff (dim : Nat) (idxs : List (List Nat)) (body : List LLine) (a : NDA (List Rat)) :
    (∃ res, fill dim idxs body a = .ok res) ↔ DataOk dim idxs.length body := by
  induction idxs generalizing body a with
  | nil => exact ⟨fun _ q hq => absurd hq (Nat.not_lt_zero q), fun _ => ⟨a, by simp [fill]⟩⟩
  | cons i is ih =>
    cases body with
    | nil => exact ⟨fun _ q _ hq => absurd hq (Nat.not_lt_zero q), fun _ => ⟨a, by simp [fill]⟩⟩
    | cons l ls =>
      rw [List.length_cons, dataOk_cons]
      by_cases hl : LineOk dim l
      · rw [(fill_cons dim i is l ls a).1 hl, ih]
        exact ⟨fun h => ⟨hl, h⟩, fun h => h.2⟩
      · exact ⟨fun ⟨r, h⟩ => absurd h ((fill_cons dim i is l ls a).2 hl r), fun h => absurd h.1 hl⟩

theorem cellAfter_zero_cons (dim : Nat) (l : LLine) (ls : List LLine) (old : List Rat) :
    cellAfter dim (l :: ls) 0 old = (lineValue dim l).getD old := by
  simp [cellAfter]

theorem cellAfter_succ_cons (dim : Nat) (l : LLine) (ls : List LLine) (t : Nat) (old : List Rat) :
    cellAfter dim (l :: ls) (t + 1) old = cellAfter dim ls t old := by
  simp [cellAfter]

/-- **what the data loop leaves in every cell** -/
theorem fill_spec (dim : Nat) (idxs : List (List Nat)) (body : List LLine) (a res : NDA (List Rat))
    (hnd : idxs.Nodup) (h : fill dim idxs body a = .ok res) :
    res.shape = a.shape ∧
    (∀ t, t < idxs.length → res.get (idxs.getD t []) = cellAfter dim body t (a.get (idxs.getD t []))) ∧
    (∀ j, j ∉ idxs → res.get j = a.get j) := by
  induction idxs generalizing body a with
  | nil => cases h; exact ⟨rfl, fun t ht => by simp at ht, fun _ _ => rfl⟩
  | cons i is ih =>
    obtain ⟨hi, hnd'⟩ := List.nodup_cons.mp hnd
    cases body with
    | nil => cases h; exact ⟨rfl, fun t _ => by simp [cellAfter], fun _ _ => rfl⟩
    | cons l ls =>
      by_cases hl : LineOk dim l
      · rw [(fill_cons dim i is l ls a).1 hl] at h
        obtain ⟨r1, r2, r3⟩ := ih ls _ hnd' h
        refine ⟨r1.trans (lineSet_shape ..), fun t ht => ?_, fun j hj => ?_⟩
        · cases t with
          | zero => rw [List.getD_cons_zero, cellAfter_zero_cons, r3 i hi, lineSet_get, if_pos rfl]
          | succ t =>
            have ht' : t < is.length := by simpa using ht
            have hne : is.getD t [] ≠ i := fun e => hi (e ▸ getD_mem is t [] ht')
            rw [List.getD_cons_succ, cellAfter_succ_cons, r2 t ht', lineSet_get, if_neg hne]
        · rw [r3 j fun e => hj (List.mem_cons_of_mem _ e), lineSet_get, if_neg fun (e : j = i) => hj (e ▸ List.mem_cons_self)]
      · exact absurd h ((fill_cons dim i is l ls a).2 hl res)

theorem dataOk_rows (dim cnt : Nat) (rows : List (List Rat)) (post : List LLine) (hlen : cnt ≤ rows.length)
    (hrow : ∀ r ∈ rows, r.length = dim) : DataOk dim cnt (rows.map .nums ++ post) := by
  intro q hq _
  have hq' : q < (rows.map LLine.nums).length := by rw [List.length_map]; omega
  rw [getD_append_left _ _ _ _ hq', getD_map_lt _ _ _ _ [] (by omega)]
  exact ⟨nofun, fun xs (e : LLine.nums _ = LLine.nums xs) => Or.inl (LLine.nums.inj e ▸ hrow _ (getD_mem rows q [] (by omega)))⟩

theorem cellAfter_rows (dim : Nat) (rows : List (List Rat)) (post : List LLine) (t : Nat) (old : List Rat) (ht : t < rows.length)
    (hrow : ∀ r ∈ rows, r.length = dim) : cellAfter dim (rows.map .nums ++ post) t old = rows.getD t [] := by
  have ht' : t < (rows.map LLine.nums).length := by rw [List.length_map]; exact ht
  unfold cellAfter
  rw [if_pos (by rw [List.length_append]; omega), getD_append_left _ _ _ _ ht', getD_map_lt _ _ _ _ [] ht]
  simp only [lineValue]
  rw [if_pos (hrow _ (getD_mem rows t [] ht))]
  rfl

/-! ## geometry from the coordinate blocks -/

/-- corners, counts and mesh the reader derives from three coordinate blocks whose first line
starts with `o a` and, on an axis with more than one point, goes on with `o a + c a` -/
theorem leg_mesh (N : Nat → Nat) (o c : Nat → Rat) (first : Nat → List Rat)
    (hN : ∀ a, a < 3 → 1 ≤ N a) (hc : ∀ a, a < 3 → 0 < c a)
    (hfirst : ∀ a, a < 3 → 1 ≤ (first a).length ∧ (first a).getD 0 0 = o a ∧
      (1 < N a → 1 < (first a).length ∧ (first a).getD 1 0 = o a + c a) ∧ (N a = 1 → (first a).length = 1)) :
    meshOf (legP1 [(N 0, first 0), (N 1, first 1), (N 2, first 2)]) (legP2 [(N 0, first 0), (N 1, first 1), (N 2, first 2)])
        (legN [(N 0, first 0), (N 1, first 1), (N 2, first 2)]) =
      .ok (rebuiltMesh (tab 3 (fun a => o a - legCe N c a * (1/2)))
        (tab 3 (fun a => o a - legCe N c a * (1/2) + (N a : Rat) * legCe N c a)) [N 0, N 1, N 2]) := by
  -- the cell the reader derives on axis `a`
  have hcell : ∀ a, a < 3 →
      (if 1 < (first a).length then (first a).getD 1 0 - (first a).getD 0 0 else nm1) = legCe N c a := by
    intro a ha
    obtain ⟨_, h2, h3, h4⟩ := hfirst a ha
    unfold legCe
    by_cases hNa : 1 < N a
    · obtain ⟨h5, h6⟩ := h3 hNa
      rw [if_pos h5, if_pos hNa, h6, h2]; ring
    · have := h4 (by have := hN a ha; omega)
      rw [if_neg (by omega), if_neg hNa]
  have hcepos : ∀ a, a < 3 → 0 < legCe N c a := by
    intro a ha
    unfold legCe
    split
    · exact hc a ha
    · unfold nm1; norm_num
  have hes : [(N 0, first 0), (N 1, first 1), (N 2, first 2)] = tab 3 fun a => (N a, first a) := rfl
  have hp1 : legP1 [(N 0, first 0), (N 1, first 1), (N 2, first 2)] = tab 3 (fun a => o a - legCe N c a * (1/2)) := by
    unfold legP1 legOrigin legCell
    rw [hes, tab_map, tab_map, tab_length]
    exact tab_congr _ _ _ fun a ha => by
      rw [getD_tab _ _ _ _ ha, getD_tab _ _ _ _ ha]
      dsimp only
      rw [hcell a ha, (hfirst a ha).2.1]
  have hp2 : legP2 [(N 0, first 0), (N 1, first 1), (N 2, first 2)] =
      tab 3 (fun a => o a - legCe N c a * (1/2) + (N a : Rat) * legCe N c a) := by
    unfold legP2
    rw [hp1]
    unfold legN legCell
    rw [hes, tab_map, tab_map, tab_length]
    exact tab_congr _ _ _ fun a ha => by
      rw [getD_tab _ _ _ _ ha, getD_tab _ _ _ _ ha, getD_tab _ _ _ _ ha]
      dsimp only
      rw [hcell a ha]
  rw [hp1, hp2]
  refine meshOf_plain _ _ _ (tab_length _ _) (tab_length _ _) rfl (fun a ha => ?_) (fun k hk => ?_)
  · rw [getD_tab _ _ _ _ ha, getD_tab _ _ _ _ ha]
    have h1 : (0 : Rat) < (N a : Rat) := by exact_mod_cast hN a ha
    have := mul_pos h1 (hcepos a ha)
    linarith
  · exact counts_ne_zero _ _ _ (hN 0 (by omega)) (hN 1 (by omega)) (hN 2 (by omega)) k hk

/-- cell `j` of axis `a` of a mesh with corners `o − ce/2`, `o − ce/2 + N·ce` is centred on `o + j·ce` -/
theorem legacy_centre (m : Mesh) (a : Nat) (N : Nat) (o ce : Rat) (hN : 1 ≤ N) (hn : m.nAt a = N)
    (hlo : m.region.lo a = o - ce * (1/2)) (hhi : m.region.hi a = o - ce * (1/2) + (N : Rat) * ce) (j : Nat) :
    m.centreAx a (j : Int) = o + (j : Rat) * ce := by
  have hN0 : (N : Rat) ≠ 0 := by exact_mod_cast (by omega : N ≠ 0)
  have hcell : m.cellAt a = ce := by
    have := C01.cellAt_cover m a (by omega : 0 < m.nAt a)
    rw [hn, hhi, hlo, add_sub_cancel_left] at this
    exact mul_left_cancel₀ hN0 this
  rw [C01.centreAx_natCast, hcell, hlo]
  ring

/-! ## the whole reader on a file of the old layout -/

/-- a file with one line per point after the marker is the general layout with body `rows ++ post` -/
theorem legacyFileSplit_eq_body (pre mid post : List LLine) (N : Nat → Nat) (first : Nat → List Rat) (cont : Nat → List LLine)
    (vec : Bool) (rows : List (List Rat)) :
    legacyFileSplit pre mid post N first cont vec rows = legacyFileBody pre mid N first cont vec (rows.map .nums ++ post) := rfl

theorem mkField_legacy (m : Mesh) (vec : Bool) (data : NDA (List Rat)) (valid : NDA Bool) :
    mkField m (if vec then 3 else 1) data valid none =
      .ok { mesh := m, nvdim := if vec then 3 else 1, data := data, valid := valid,
            vdims := if vec then some ["x", "y", "z"] else none,
            vmap := defaultVmap (if vec then 3 else 1) m.region.dims (if vec then some ["x", "y", "z"] else none),
            unit := none } := by
  cases vec with
  | true => rfl
  | false => rfl

/-- the field before the data loop runs: mesh with the side-car's subregions, zeros, all valid -/
def legacyBlank (m1 : Mesh) (vec : Bool) (N : Nat → Nat) (d : NDA (List Rat)) : Fld :=
  { mesh := m1, nvdim := if vec then 3 else 1, data := d, valid := NDA.const [N 0, N 1, N 2] true,
    vdims := if vec then some ["x", "y", "z"] else none,
    vmap := defaultVmap (if vec then 3 else 1) m1.region.dims (if vec then some ["x", "y", "z"] else none),
    unit := none }

/-- a line before the data marker that none of the reader's scans for `VECTORS` / the marker stops at -/
def Calm (vec : Bool) (x : LLine) : Prop := x ≠ .vectors ∧ (vec = false → x ≠ .scalars)

theorem afterMarker_calm (vec : Bool) (l rest : List LLine) (h : ∀ x ∈ l, Calm vec x) :
    afterMarker vec (l ++ rest) = afterMarker vec rest :=
  afterMarker_skip vec l rest fun x hx => by
    obtain ⟨h1, h2⟩ := h x hx
    cases vec
    · simpa using h2 rfl
    · simpa using h1

/-- the three scans of the reader over a file of the old layout: the coordinate blocks, the test for
a `VECTORS` line, the lines after the data marker -/
theorem legacyFileBody_scans (pre mid body : List LLine) (N : Nat → Nat) (first : Nat → List Rat) (cont : Nat → List LLine)
    (vec : Bool) (hpre : Quiet pre) (hmid : Quiet mid) (hcont : ∀ a, a < 3 → Quiet (cont a))
    (hbody : ∀ x ∈ body, ∀ k, x ≠ .coords k)
    (hsc : vec = false → (∀ x ∈ pre ++ (cont 0 ++ (cont 1 ++ (cont 2 ++ mid))), x ≠ .scalars) ∧ ∀ x ∈ body, x ≠ .vectors) :
    coordEntries (legacyFileBody pre mid N first cont vec body) = .ok [(N 0, first 0), (N 1, first 1), (N 2, first 2)] ∧
    (legacyFileBody pre mid N first cont vec body).contains .vectors = vec ∧
    afterMarker vec (legacyFileBody pre mid N first cont vec body) = some ((if vec then [] else [LLine.alpha]) ++ body) := by
  -- the file is `head ++ tail`, `tail` starting at the marker
  set tail : List LLine := (if vec then [LLine.vectors] else [.scalars, .alpha]) ++ body with htail
  set head : List LLine := pre ++ ((.coords (N 0) :: .nums (first 0) :: cont 0) ++
    ((.coords (N 1) :: .nums (first 1) :: cont 1) ++ ((.coords (N 2) :: .nums (first 2) :: cont 2) ++ mid))) with hhead
  have hsplit : legacyFileBody pre mid N first cont vec body = head ++ tail := by
    rw [hhead, htail]; simp [legacyFileBody]
  -- every line of `head` is calm: the quiet parts by hypothesis, the coordinate lines by their shape
  have hq : ∀ l : List LLine, Quiet l → (∀ x ∈ l, x ∈ pre ++ (cont 0 ++ (cont 1 ++ (cont 2 ++ mid)))) → ∀ x ∈ l, Calm vec x :=
    fun l hl hsub x hx => ⟨(hl x hx).2, fun hv => (hsc hv).1 x (hsub x hx)⟩
  have hcalm : ∀ x ∈ head, Calm vec x := by
    simp only [hhead, List.forall_mem_append, List.forall_mem_cons]
    exact ⟨hq pre hpre fun x hx => by simp [hx],
      ⟨⟨nofun, fun _ => nofun⟩, ⟨nofun, fun _ => nofun⟩, hq _ (hcont 0 (by omega)) fun x hx => by simp [hx]⟩,
      ⟨⟨nofun, fun _ => nofun⟩, ⟨nofun, fun _ => nofun⟩, hq _ (hcont 1 (by omega)) fun x hx => by simp [hx]⟩,
      ⟨⟨nofun, fun _ => nofun⟩, ⟨nofun, fun _ => nofun⟩, hq _ (hcont 2 (by omega)) fun x hx => by simp [hx]⟩,
      hq mid hmid fun x hx => by simp [hx]⟩
  refine ⟨?_, ?_, ?_⟩
  · have htailc : ∀ x ∈ mid ++ tail, ∀ k, x ≠ .coords k := by
      simp only [htail, List.forall_mem_append]
      exact ⟨fun x hx => (hmid x hx).1, by cases vec <;> simp, hbody⟩
    show coordEntries (pre ++ ((.coords (N 0) :: .nums (first 0) :: cont 0) ++ ((.coords (N 1) :: .nums (first 1) :: cont 1) ++
        ((.coords (N 2) :: .nums (first 2) :: cont 2) ++ (mid ++ tail))))) = _
    rw [coordEntries_skip pre _ (fun x hx => (hpre x hx).1)]
    apply coordEntries_block _ _ _ _ _ (fun x hx => (hcont 0 (by omega) x hx).1)
    apply coordEntries_block _ _ _ _ _ (fun x hx => (hcont 1 (by omega) x hx).1)
    apply coordEntries_block _ _ _ _ _ (fun x hx => (hcont 2 (by omega) x hx).1)
    exact coordEntries_none _ htailc
  · -- `VECTORS` is not in `head`; it is in `tail` exactly for a vector file
    have hnot : LLine.vectors ∉ head := fun h => (hcalm _ h).1 rfl
    rw [hsplit, Bool.eq_iff_iff, List.contains_iff_mem, List.mem_append, or_iff_right hnot, htail]
    cases vec with
    | true => simp
    | false => simpa using fun h => (hsc rfl).2 _ h rfl
  · rw [hsplit, afterMarker_calm vec head tail hcalm, htail]
    cases vec <;> simp [afterMarker]

/-- `legacyRead` as a chain of stages each of which may fail -/
theorem legacyRead_do (lines : List LLine) (sc : Option (List (String × Region))) :
    legacyRead lines sc =
      (coordEntries lines >>= fun es =>
        if es.any (fun e => e.2.length = 0) then .error .index else
        meshOf (legP1 es) (legP2 es) (legN es) >>= fun m0 =>
        loadSubs m0 sc >>= fun m =>
        mkField m (if lines.contains .vectors then 3 else 1)
          (NDA.const m.n (List.replicate (if lines.contains .vectors then 3 else 1) 0)) (NDA.const m.n true) none >>= fun f0 =>
        match afterMarker (lines.contains .vectors) lines with
        | none => .error .runtime
        | some rest =>
          fill f0.nvdim (indicesCode m.n) (rest.drop (if lines.contains .vectors then 0 else 1)) f0.data >>= fun d =>
          .ok { f0 with data := d }) := by
  simp only [legacyRead, bind, Except.bind]
  cases coordEntries lines with
  | error e => rfl
  | ok es =>
    dsimp only
    split
    · rfl
    · cases meshOf (legP1 es) (legP2 es) (legN es) with
      | error e => rfl
      | ok m0 =>
        dsimp only
        cases loadSubs m0 sc with
        | error e => rfl
        | ok m =>
          dsimp only
          cases mkField m (if lines.contains .vectors then 3 else 1)
              (NDA.const m.n (List.replicate (if lines.contains .vectors then 3 else 1) 0)) (NDA.const m.n true) none with
          | error e => rfl
          | ok f0 =>
            dsimp only
            cases afterMarker (lines.contains .vectors) lines with
            | none => rfl
            | some rest =>
              dsimp only
              cases fill f0.nvdim (indicesCode m.n) (rest.drop (if lines.contains .vectors then 0 else 1)) f0.data <;> rfl

/-- **the legacy reader, exactly**: it returns `f` iff every stage succeeds — the coordinate blocks are read, none is
empty, corners and counts make a mesh, the side-car loads, the blank field is built, the data marker is found, the
data loop accepts the lines after it — and `f` is the blank field with the filled array -/
theorem legacyRead_eq_ok (lines : List LLine) (sc : Option (List (String × Region))) (f : Fld) :
    legacyRead lines sc = .ok f ↔
      ∃ es, coordEntries lines = .ok es ∧ ¬ (es.any fun e => e.2.length = 0) = true ∧
        ∃ m0, meshOf (legP1 es) (legP2 es) (legN es) = .ok m0 ∧ ∃ m, loadSubs m0 sc = .ok m ∧
        ∃ f0, mkField m (if lines.contains .vectors then 3 else 1)
          (NDA.const m.n (List.replicate (if lines.contains .vectors then 3 else 1) 0)) (NDA.const m.n true) none = .ok f0 ∧
        ∃ rest, afterMarker (lines.contains .vectors) lines = some rest ∧
        ∃ d, fill f0.nvdim (indicesCode m.n) (rest.drop (if lines.contains .vectors then 0 else 1)) f0.data = .ok d ∧
          f = { f0 with data := d } := by
  have hmark : ∀ (o : Option (List LLine)) (k : List LLine → M Fld),
      (match o with | none => Except.error Err.runtime | some rest => k rest) = .ok f ↔ ∃ rest, o = some rest ∧ k rest = .ok f := by
    intro o k; cases o <;> simp
  rw [legacyRead_do]
  simp only [bind_ok_iff, guard_ok_iff, hmark, Except.ok.injEq, eq_comm (a := f)]

/-- on a file of the old layout the reader is: geometry from the coordinate blocks, then the data
loop over the lines after the marker -/
theorem legacyRead_body (pre mid body : List LLine) (N : Nat → Nat) (o c : Nat → Rat) (first : Nat → List Rat)
    (cont : Nat → List LLine) (vec : Bool)
    (sidecar : Option (List (String × Region))) (m1 : Mesh)
    (hpre : Quiet pre) (hmid : Quiet mid) (hcont : ∀ a, a < 3 → Quiet (cont a))
    (hbody : ∀ x ∈ body, ∀ k, x ≠ .coords k)
    (hsc : vec = false → (∀ x ∈ pre ++ (cont 0 ++ (cont 1 ++ (cont 2 ++ mid))), x ≠ .scalars) ∧ ∀ x ∈ body, x ≠ .vectors)
    (hN : ∀ a, a < 3 → 1 ≤ N a) (hc : ∀ a, a < 3 → 0 < c a)
    (hfirst : ∀ a, a < 3 → 1 ≤ (first a).length ∧ (first a).getD 0 0 = o a ∧
      (1 < N a → 1 < (first a).length ∧ (first a).getD 1 0 = o a + c a) ∧ (N a = 1 → (first a).length = 1))
    (hsub : loadSubs (rebuiltMesh (tab 3 (fun a => o a - legCe N c a * (1/2)))
      (tab 3 (fun a => o a - legCe N c a * (1/2) + (N a : Rat) * legCe N c a)) [N 0, N 1, N 2]) sidecar = .ok m1) (f' : Fld) :
    legacyRead (legacyFileBody pre mid N first cont vec body) sidecar = .ok f' ↔
      ∃ d, fill (if vec then 3 else 1) (indicesF [N 0, N 1, N 2]) body
          (NDA.const [N 0, N 1, N 2] (List.replicate (if vec then 3 else 1) 0)) = .ok d ∧ f' = legacyBlank m1 vec N d := by
  obtain ⟨hce, hvec, hmark⟩ := legacyFileBody_scans pre mid body N first cont vec hpre hmid hcont hbody hsc
  obtain ⟨_, hm1n, _⟩ := loadSubs_geom _ _ _ hsub
  have hany : ¬ ([(N 0, first 0), (N 1, first 1), (N 2, first 2)].any fun e => decide (e.2.length = 0)) = true := by
    have := (hfirst 0 (by omega)).1; have := (hfirst 1 (by omega)).1; have := (hfirst 2 (by omega)).1
    simp only [List.any_cons, List.any_nil, Bool.or_false, Bool.or_eq_true, decide_eq_true_eq]
    omega
  have hdrop : (((if vec then [] else [LLine.alpha]) ++ body).drop (if vec then 0 else 1)) = body := by
    cases vec <;> rfl
  -- every stage before the data loop is determined by the layout
  simp only [legacyRead_eq_ok, hce, Except.ok.injEq, exists_eq_left', hany, Bool.false_eq_true, not_false_eq_true, true_and,
    leg_mesh N o c first hN hc hfirst, hsub, hvec, mkField_legacy m1 vec, hmark, Option.some.injEq, hdrop, hm1n,
    indicesCode_eq_indicesF]
  rfl

end DFV.C16
