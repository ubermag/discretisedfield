import DFV.Model.C13
/-! What region, mesh and field transformations have in common: a step `Op → M (α × α)` returning the
receiver's state and the returned object, its two forms (`Op.withInplace`), and histories that skip
rejected steps.  `Forms` is the statement "in place == copying" for one step; `Follows` says that a
function follows histories of a step function; `Spec` specifies a step function by its rejection class and
the object it returns, from which in place == copying, the rejected calls, what holds along every history
and that the flags of a history do not matter follow for regions, meshes and fields alike. -/
namespace DFV.T
open DFV

theorem Op.withInplace_inplace (op : Op) : op.withInplace op.inplace = op := by cases op <;> rfl
theorem withInplace_of_inplace (op : Op) (h : op.inplace = true) : op.withInplace true = op :=
  h ▸ op.withInplace_inplace
theorem withInplace_twice (op : Op) (b b' : Bool) : (op.withInplace b).withInplace b' = op.withInplace b' := by cases op <;> rfl
theorem inplace_withInplace (op : Op) (b : Bool) : (op.withInplace b).inplace = b := by cases op <;> rfl

section
variable {α : Type} {step : Op → M (α × α)} {a : α} {P Q : α → Prop} {op : Op}

/-- The two forms of the step `op` agree on `a`: both are accepted and end in one state `T`, with `P T` —
the in-place form returns the receiver itself, the copying form leaves the receiver as it was —, or
both are rejected. -/
def Forms (step : Op → M (α × α)) (a : α) (P : α → Prop) (op : Op) : Prop :=
  (∃ T, P T ∧ step (op.withInplace true) = .ok (T, T) ∧ step (op.withInplace false) = .ok (a, T)) ∨
  ((∃ e, step (op.withInplace true) = .error e) ∧ ∃ e, step (op.withInplace false) = .error e)

theorem Forms.mono (h : Forms step a P op) (hPQ : ∀ T, P T → Q T) : Forms step a Q op :=
  h.imp (fun ⟨T, hT, h12⟩ => ⟨T, hPQ T hT, h12⟩) id

/-- the general form of `inplace_eq_copy` and its mesh and field versions (`Props/C13.lean`) -/
theorem Forms.eq_copy (h : Forms step a P op) :
    (∀ recv ret, step (op.withInplace true) = .ok (recv, ret) → recv = ret ∧ step (op.withInplace false) = .ok (a, ret)) ∧
    (∀ recv ret, step (op.withInplace false) = .ok (recv, ret) → recv = a ∧ step (op.withInplace true) = .ok (ret, ret)) ∧
    ((∃ e, step (op.withInplace true) = .error e) ↔ ∃ e, step (op.withInplace false) = .error e) := by
  rcases h with ⟨T, _, h1, h2⟩ | ⟨⟨e1, h1⟩, ⟨e2, h2⟩⟩
  · refine ⟨fun recv ret h => ?_, fun recv ret h => ?_, ⟨fun ⟨e, he⟩ => ?_, fun ⟨e, he⟩ => ?_⟩⟩
    · rw [h1] at h; injection h with h; injection h with ha hb
      subst ha hb; exact ⟨rfl, h2⟩
    · rw [h2] at h; injection h with h; injection h with ha hb
      subst ha hb; exact ⟨rfl, h1⟩
    · rw [h1] at he; cases he
    · rw [h2] at he; cases he
  · refine ⟨fun recv ret h => ?_, fun recv ret h => ?_, ⟨fun _ => ⟨e2, h2⟩, fun _ => ⟨e1, h1⟩⟩⟩
    · rw [h1] at h; cases h
    · rw [h2] at h; cases h

end

/-- `run` follows the histories of `step`: the current object is the returned one, a rejected step is
skipped -/
structure Follows {α : Type} (step : α → Op → M (α × α)) (run : α → List Op → α) : Prop where
  nil : ∀ a, run a [] = a
  ok : ∀ {a op x y} (ops : List Op), step a op = .ok (x, y) → run a (op :: ops) = run y ops
  err : ∀ {a op e} (ops : List Op), step a op = .error e → run a (op :: ops) = run a ops

theorem runR_follows : Follows stepR runR := ⟨fun _ => rfl, fun _ h => by simp only [runR, h], fun _ h => by simp only [runR, h]⟩
theorem runM_follows : Follows stepM runM := ⟨fun _ => rfl, fun _ h => by simp only [runM, h], fun _ h => by simp only [runM, h]⟩
theorem runF_follows : Follows stepF runF := ⟨fun _ => rfl, fun _ h => by simp only [runF, h], fun _ h => by simp only [runF, h]⟩

section
variable {α : Type} {step : α → Op → M (α × α)} {run : α → List Op → α}

/-- the induction behind every `reachable_*` and `history_*` theorem -/
theorem Follows.induct (hrun : Follows step run) {P : α → Prop} (ops : List Op)
    (hstep : ∀ a, P a → ∀ op ∈ ops, ∀ x y, step a op = .ok (x, y) → P y) (a : α) (ha : P a) : P (run a ops) := by
  induction ops generalizing a with
  | nil => rw [hrun.nil]; exact ha
  | cons op ops ih =>
    have hstep' : ∀ a, P a → ∀ o ∈ ops, ∀ x y, step a o = .ok (x, y) → P y :=
      fun a ha o ho => hstep a ha o (List.mem_cons_of_mem _ ho)
    cases h : step a op with
    | error e => rw [hrun.err ops h]; exact ih hstep' a ha
    | ok p => rw [hrun.ok (x := p.1) (y := p.2) ops h]; exact ih hstep' p.2 (hstep a ha op List.mem_cons_self p.1 p.2 h)

end

/-! ## a step function specified -/

/-- A step function is specified by a rejection class `Mal` and a result function `ap`, neither of which
looks at the flag: on an object satisfying `I` a step is accepted exactly outside `Mal`, returns `ap a op`,
and the receiver is that result (in place) or the object as it was (copying). -/
structure Spec {α : Type} (step : α → Op → M (α × α)) (I : α → Prop) (Mal : α → Op → Prop) (ap : α → Op → α) : Prop where
  mal_flag : ∀ a op b, Mal a (op.withInplace b) ↔ Mal a op
  ap_flag : ∀ a op b, ap a (op.withInplace b) = ap a op
  rejects : ∀ a op, Mal a op → ∃ e, step a op = .error e
  ok_iff : ∀ a, I a → ∀ op recv ret, step a op = .ok (recv, ret) ↔ ¬ Mal a op ∧ ret = ap a op ∧ recv = if op.inplace then ret else a
  keeps : ∀ a, I a → ∀ op, ¬ Mal a op → I (ap a op)

section
variable {α : Type} {step : α → Op → M (α × α)} {I : α → Prop} {Mal : α → Op → Prop} {ap : α → Op → α}

theorem Spec.accepts (S : Spec step I Mal ap) {a : α} (ha : I a) {op : Op} (h : ¬ Mal a op) :
    step a op = .ok (if op.inplace then ap a op else a, ap a op) :=
  (S.ok_iff a ha op _ _).mpr ⟨h, rfl, rfl⟩

theorem Spec.error_iff (S : Spec step I Mal ap) {a : α} (ha : I a) (op : Op) : (∃ e, step a op = .error e) ↔ Mal a op := by
  refine ⟨fun ⟨e, he⟩ => ?_, S.rejects a op⟩
  by_cases hn : Mal a op
  · exact hn
  · rw [S.accepts ha hn] at he; cases he

/-- the general form of `step_forms` and its mesh and field versions (`Props/C13.lean`) -/
theorem Spec.forms (S : Spec step I Mal ap) {a : α} (ha : I a) (op : Op) :
    Forms (step a) a (fun T => I T ∧ T = ap a op ∧ ¬ Mal a op) op := by
  by_cases h : Mal a op
  · exact Or.inr ⟨S.rejects a _ ((S.mal_flag a op true).mpr h), S.rejects a _ ((S.mal_flag a op false).mpr h)⟩
  · refine Or.inl ⟨ap a op, ⟨S.keeps a ha op h, rfl, h⟩, ?_, ?_⟩
    · have := S.accepts ha (mt (S.mal_flag a op true).mp h)
      rwa [inplace_withInplace, S.ap_flag, if_pos rfl] at this
    · have := S.accepts ha (mt (S.mal_flag a op false).mp h)
      rwa [inplace_withInplace, S.ap_flag, if_neg Bool.false_ne_true] at this

theorem Spec.inv (S : Spec step I Mal ap) {a : α} (ha : I a) {op : Op} {recv ret : α} (h : step a op = .ok (recv, ret)) :
    I recv ∧ I ret := by
  obtain ⟨hm, rfl, rfl⟩ := (S.ok_iff a ha op recv ret).mp h
  exact ⟨by split <;> first | exact S.keeps a ha op hm | exact ha, S.keeps a ha op hm⟩

theorem Spec.reachable (S : Spec step I Mal ap) {run : α → List Op → α} (hrun : Follows step run) {a : α} (ha : I a) (ops : List Op) :
    I (run a ops) :=
  hrun.induct ops (fun _ hb _ _ _ _ h => (S.inv hb h).2) a ha

/-- the general form of `history_forms_agree` and its mesh and field versions -/
theorem Spec.forms_agree (S : Spec step I Mal ap) {run : α → List Op → α} (hrun : Follows step run) {a : α} (ha : I a)
    (ops : List Op) (flags : List Bool) (hl : flags.length = ops.length) :
    run a (List.zipWith Op.withInplace ops flags) = run a ops := by
  induction ops generalizing a flags with
  | nil => rw [List.zipWith_nil_left]
  | cons op ops ih =>
    cases flags with
    | nil => cases hl
    | cons b bs =>
      rw [List.zipWith_cons_cons]
      have hl' : bs.length = ops.length := Nat.succ.inj hl
      by_cases h : Mal a op
      · obtain ⟨e, he⟩ := S.rejects a op h
        obtain ⟨e', he'⟩ := S.rejects a _ ((S.mal_flag a op b).mpr h)
        rw [hrun.err _ he', hrun.err _ he]; exact ih ha bs hl'
      · rw [hrun.ok _ (S.accepts ha (mt (S.mal_flag a op b).mp h)), hrun.ok _ (S.accepts ha h), S.ap_flag]
        exact ih (S.keeps a ha op h) bs hl'
end

end DFV.T
