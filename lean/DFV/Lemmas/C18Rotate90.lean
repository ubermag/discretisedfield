import DFV.Lemmas.C18Lattice
import DFV.Lemmas.Rot
import DFV.Lemmas.C12Obj
/-! FieldRotator's quarter turns against C12's model of `Field.rotate90` (`T.rotate90F`): same
region corners, same cell counts, same cell values — for one call and for any sequence of calls. -/
namespace DFV.C18
open DFV DFV.Mesh

theorem rotN_eq_tab (n : List Nat) (hn : n.length = 3) (p q : Nat) (k : Int) (hp : p < 3) (hq : q < 3) (hpq : p ≠ q) :
    T.rotN n p q k = tab 3 fun i => n.getD (pinv (T.rotSrc p q k) i) 0 := by
  apply eq_tab_of_getD _ _ _ 0 ((T.rotN_length n p q k).trans hn)
  intro i hi
  rw [pinv_rotSrc p q k hp hq hpq i hi]
  exact T.rotN_getD n p q k hpq (hn ▸ hp) (hn ▸ hq) i

/-- in the plane of a quarter turn the source indices of the signed permutation are C12's turned
pair, for all four residues of `k` at once -/
theorem latSrc_pair (n : Nat → Nat) (p q : Nat) (k : Int) (hpq : p ≠ q) (idx : List Nat) :
    (latSrc n (T.rotSrc p q k) (sgq p q k) idx p, latSrc n (T.rotSrc p q k) (sgq p q k) idx q)
      = T.srcPair (n p) (n q) k (idx.getD p 0) (idx.getD q 0) := by
  unfold latSrc T.rotSrc sgq sgB
  rw [if_pos rfl, if_pos rfl, if_neg (Ne.symm hpq), if_pos rfl, if_neg (Ne.symm hpq), if_pos rfl]
  rcases T.srcPair_cases (n p) (n q) k (idx.getD p 0) (idx.getD q 0) with
    ⟨_, ho, hc, hs, e⟩ | ⟨_, ho, hc, hs, e⟩ | ⟨_, ho, hc, hs, e⟩ | ⟨_, ho, hc, hs, e⟩ <;> rw [e, ho, hc, hs] <;> norm_num

/-- the source cell of a quarter turn is the one `np.rot90` reads (`srcIdx`) -/
theorem latSrc_eq_srcIdx (n : List Nat) (hn : n.length = 3) (p q : Nat) (k : Int) (hp : p < 3) (hq : q < 3) (hpq : p ≠ q)
    (idx : List Nat) (hidx : idx.length = 3) :
    [latSrc (fun a => n.getD a 0) (T.rotSrc p q k) (sgq p q k) idx 0, latSrc (fun a => n.getD a 0) (T.rotSrc p q k) (sgq p q k) idx 1,
     latSrc (fun a => n.getD a 0) (T.rotSrc p q k) (sgq p q k) idx 2] = T.srcIdx n p q k idx := by
  rw [list3_eq (T.srcIdx n p q k idx) 0 ((T.srcIdx_length n idx p q k).trans hidx)]
  obtain ⟨sp, sq, so⟩ := T.srcIdx_pair n idx p q k hpq (hidx ▸ hp) (hidx ▸ hq) (hn.trans hidx.symm)
  have hpair := latSrc_pair (fun a => n.getD a 0) p q k hpq idx
  have key : ∀ a, a < 3 → latSrc (fun a => n.getD a 0) (T.rotSrc p q k) (sgq p q k) idx a = (T.srcIdx n p q k idx).getD a 0 := by
    intro a ha
    by_cases h1 : a = p
    · rw [h1, sp]; exact congrArg Prod.fst hpair
    · by_cases h2 : a = q
      · rw [h2, sq]; exact congrArg Prod.snd hpair
      · -- the third axis is not touched
        rw [so a h1 h2]
        unfold latSrc sgq sgB
        rw [T.rotSrc_other p q k a h1 h2, if_neg h1, if_neg h2, if_pos rfl]
  rw [key 0 (by decide), key 1 (by decide), key 2 (by decide)]

/-- **the quarter turn of a cell value is C12's `rotVec`** on the two components that belong to
the axes of the rotated plane — every plane, every `k`, every component permutation -/
theorem rotVal_Rq (p q : Nat) (k : Int) (hp : p < 3) (hq : q < 3) (hpq : p ≠ q) {ord : List Nat} (h : PermOrd ord)
    (v : List Rat) (hv : v.length = 3) :
    rotVal 3 (Rq p q k) ord v = T.rotVec v (ord.getD p 0) (ord.getD q 0) k := by
  have hr : T.rotVec v (ord.getD p 0) (ord.getD q 0) k = tab 3 fun c =>
      if c = ord.getD p 0 then T.cosq k * v.getD (ord.getD p 0) 0 - T.sinq k * v.getD (ord.getD q 0) 0
      else if c = ord.getD q 0 then T.sinq k * v.getD (ord.getD p 0) 0 + T.cosq k * v.getD (ord.getD q 0) 0
      else v.getD c 0 := by
    unfold T.rotVec; rw [hv]
  rw [hr]
  apply eq_tab_of_getD _ _ _ 0 (rotVal_length3 _ _ _)
  intro c hc
  obtain ⟨a, ha, rfl⟩ := h.surj c hc
  rw [rotVal_spatial _ h v a ha]
  rw [Rq_apply_get p q k hp hq hpq _ a ha, spatial_get _ _ p hp, spatial_get _ _ q hq, spatial_get _ _ a ha]
  by_cases e1 : a = p
  · rw [if_pos e1, if_pos (by rw [e1])]
  · rw [if_neg e1, if_neg (fun e => e1 (h.perm.inj a p ha hp e))]
    by_cases e2 : a = q
    · rw [if_pos e2, if_pos (by rw [e2])]
    · rw [if_neg e2, if_neg (fun e => e2 (h.perm.inj a q ha hq e))]

/-! ## the quarter turn about the third axis -/

/-- quarter turn about the third axis: `(x, y, z) ↦ (−y, x, z)` -/
def Rz : M3 := ⟨⟨0, -1, 0⟩, ⟨1, 0, 0⟩, ⟨0, 0, 1⟩⟩

theorem Rz_eq : Rz = Rq 0 1 1 := by decide +kernel

theorem Rz_isLat : IsLat Rz (fun j => if j = 0 then 1 else if j = 1 then 0 else j) (fun j => if j = 1 then -1 else 1) := by
  refine ⟨fun j hj => by split <;> [omega; (split <;> omega)],
    fun a b ha hb e => by rcases a_cases a ha with rfl | rfl | rfl <;> rcases a_cases b hb with rfl | rfl | rfl <;> simp at e ⊢,
    fun j _ => by split <;> simp, ?_⟩
  intro a b ha hb
  rcases a_cases a ha with rfl | rfl | rfl <;> rcases a_cases b hb with rfl | rfl | rfl <;> decide +kernel

/-- the quarter-turn case of `lat_region`, stated for `Rz`: the first two edge lengths swap about
the same centre, the third axis keeps its faces -/
theorem quarter_region (f : Fld) (hm : Mesh3 f.mesh) (reg : Region) (h : newRegion f Rz = .ok reg) :
    reg.lo 0 = centreAt f.mesh 0 - f.mesh.region.edge 1 / 2 ∧ reg.hi 0 = centreAt f.mesh 0 + f.mesh.region.edge 1 / 2 ∧
    reg.lo 1 = centreAt f.mesh 1 - f.mesh.region.edge 0 / 2 ∧ reg.hi 1 = centreAt f.mesh 1 + f.mesh.region.edge 0 / 2 ∧
    reg.lo 2 = f.mesh.region.lo 2 ∧ reg.hi 2 = f.mesh.region.hi 2 := by
  obtain ⟨_, rfl⟩ := (newRegion_ok_iff f Rz reg).mp h
  obtain ⟨l0, h0⟩ := lat_region f hm Rz_isLat 0 (by decide)
  obtain ⟨l1, h1⟩ := lat_region f hm Rz_isLat 1 (by decide)
  obtain ⟨l2, h2⟩ := lat_region f hm Rz_isLat 2 (by decide)
  -- the inverse permutation sends `0, 1, 2` to `1, 0, 2` (by evaluation)
  have e2 : pinv (fun j => if j = 0 then 1 else if j = 1 then 0 else j) 2 = 2 := rfl
  rw [e2] at l2 h2
  exact ⟨l0, h0, l1, h1, l2.trans (lo_eq_centre f.mesh 2).symm, h2.trans (hi_eq_centre f.mesh 2).symm⟩

/-- with the two counts swapped, the centre of target cell `(i, j, k)` is rotated back onto the
centre of source cell `(j, n₁ − 1 − i, k)`: `lat_backPos` for `Rz` (`hc` is not needed) -/
theorem quarter_backPos (f : Fld) (hm : Mesh3 f.mesh) (hc : f.mesh.cellAt 0 = f.mesh.cellAt 1)
    (reg : Region) (h : newRegion f Rz = .ok reg) (nm : Mesh) (hr : nm.region = reg)
    (hn : nm.n = [f.mesh.nAt 1, f.mesh.nAt 0, f.mesh.nAt 2]) (i j k : Nat) (hi : i < f.mesh.nAt 1) :
    backPos f Rz nm [i, j, k]
      = ⟨centreRel f.mesh 0 j, centreRel f.mesh 1 (f.mesh.nAt 1 - 1 - i), centreRel f.mesh 2 k⟩ := by
  obtain ⟨_, rfl⟩ := (newRegion_ok_iff f Rz reg).mp h
  have hN : ∀ a, a < 3 → nm.nAt a = f.mesh.nAt (pinv (fun j => if j = 0 then 1 else if j = 1 then 0 else j) a) := by
    unfold Mesh.nAt; rw [hn]
    exact forall_lt3 rfl rfl rfl
  apply V3.ext_get
  intro a ha
  have hx : (if a = 1 then (-1 : Rat) else 1) = -1 → [i, j, k].getD (if a = 0 then 1 else if a = 1 then 0 else a) 0 < f.mesh.nAt a := by
    rcases a_cases a ha with rfl | rfl | rfl
    · intro e; norm_num at e
    · exact fun _ => hi
    · intro e; norm_num at e
  rw [lat_backPos f hm Rz_isLat nm hr hN [i, j, k] a ha hx]
  rcases a_cases a ha with rfl | rfl | rfl <;> norm_num [latSrc, V3.get]

/-- `np.rot90(a, 1, axes=(0, 1))[i, j, k] = a[j, n₁ − 1 − i, k]` for the model's `rot90`
(`T.rot90_get` at `p q k = 0 1 1`, the source index evaluated) -/
theorem rot90_get {α} (a : NDA α) (n0 n1 n2 : Nat) (hs : a.shape = [n0, n1, n2]) (i j k : Nat) :
    (T.rot90 a 0 1 1).get [i, j, k] = a.get [j, n1 - 1 - i, k] := by
  rw [T.rot90_get, hs]
  rfl

theorem rotVal_Rz (ord : List Nat) (v : List Rat) (hv : v.length = 3)
    (h0 : ord.getD 0 0 < 3) (h1 : ord.getD 1 0 < 3) (h2 : ord.getD 2 0 < 3)
    (d01 : ord.getD 0 0 ≠ ord.getD 1 0) (d02 : ord.getD 0 0 ≠ ord.getD 2 0) (d12 : ord.getD 1 0 ≠ ord.getD 2 0) :
    rotVal 3 Rz ord v = T.rotVec v (ord.getD 0 0) (ord.getD 1 0) 1 := by
  rw [Rz_eq]
  exact rotVal_Rq 0 1 1 (by decide) (by omega) (by omega) ⟨h0, h1, h2, d01, d02, d12⟩ v hv

/-! ## the region -/

/-- C12's corner map is the matrix action: `rotCoord P ref = ref + Rq (P − ref)` -/
theorem rotCoord_eq_apply (P ref : List Rat) (p q : Nat) (k : Int) (hp : p < 3) (hq : q < 3) (hpq : p ≠ q)
    (a : Nat) (ha : a < 3) :
    T.rotCoord P ref p q k a = ref.getD a 0 + ((Rq p q k).apply ((V3.ofList P).sub (V3.ofList ref))).get a := by
  unfold T.rotCoord
  rw [Rq_apply_get p q k hp hq hpq _ a ha, V3.get_sub, V3.get_sub, V3.get_sub, V3.get_ofList _ _ hp, V3.get_ofList _ _ hq,
      V3.get_ofList _ _ ha, V3.get_ofList _ _ hp, V3.get_ofList _ _ hq, V3.get_ofList _ _ ha]
  by_cases e1 : a = p
  · rw [if_pos e1, if_pos e1, e1]
  · rw [if_neg e1, if_neg e1]
    by_cases e2 : a = q
    · rw [if_pos e2, if_pos e2, e2]
    · rw [if_neg e2, if_neg e2]; ring

/-- the two images `c ± s·e/2` of the faces, whatever the sign `s`, are `c − e/2` and `c + e/2` -/
theorem min_pm (c e s : Rat) (he : 0 < e) (hs : s = 1 ∨ s = -1) :
    min (c + s * (-(e / 2))) (c + s * (e / 2)) = c - e / 2 ∧ max (c + s * (-(e / 2))) (c + s * (e / 2)) = c + e / 2 := by
  -- sum and difference of the two ends, from the library's `interval_pm` with `L = −e/2`, `H = e/2`
  obtain ⟨hsum, hdiff⟩ := T.interval_pm c s (-(e / 2)) (e / 2) hs (by linarith)
  exact ⟨by linear_combination (1 / 2 : Rat) * hsum - (1 / 2) * hdiff, by linear_combination (1 / 2 : Rat) * hsum + (1 / 2) * hdiff⟩

/-- **the bounding box of a quarter-turned region is C12's rotated region** (the corners
`Region.rotate90` computes about the centre), for every plane and every `k` -/
theorem quarter_region_c12 (f : Fld) (hm : Mesh3 f.mesh) (hnd : f.mesh.region.ndim = 3) (p q : Nat) (k : Int)
    (hp : p < 3) (hq : q < 3) (hpq : p ≠ q) (reg : Region) (h : newRegion f (Rq p q k) = .ok reg) (a : Nat) (ha : a < 3) :
    reg.lo a = min (T.rotCoord f.mesh.region.pmin f.mesh.region.center p q k a) (T.rotCoord f.mesh.region.pmax f.mesh.region.center p q k a) ∧
    reg.hi a = max (T.rotCoord f.mesh.region.pmin f.mesh.region.center p q k a) (T.rotCoord f.mesh.region.pmax f.mesh.region.center p q k a) := by
  have hL := Rq_isLat p q k hp hq hpq
  obtain ⟨_, rfl⟩ := (newRegion_ok_iff f _ reg).mp h
  obtain ⟨l0, l1⟩ := lat_region f hm hL a ha
  have hj := pinv_lt (T.rotSrc p q k) a
  have hc : ∀ j, j < 3 → f.mesh.region.center.getD j 0 = centreAt f.mesh j := fun j hj =>
    C01.center_getD _ j (hnd ▸ hj)
  rw [rotCoord_eq_apply _ _ p q k hp hq hpq a ha, rotCoord_eq_apply _ _ p q k hp hq hpq a ha,
      hL.apply_get _ a ha, hL.apply_get _ a ha, V3.get_sub, V3.get_sub, V3.get_ofList _ _ hj, V3.get_ofList _ _ hj,
      V3.get_ofList _ _ hj, hc _ hj, hc a ha, l0, l1]
  have e1 : f.mesh.region.pmin.getD (pinv (T.rotSrc p q k) a) 0 - centreAt f.mesh (pinv (T.rotSrc p q k) a)
      = -(f.mesh.region.edge (pinv (T.rotSrc p q k) a) / 2) := by
    show f.mesh.region.lo _ - _ = _
    rw [lo_eq_centre]; ring
  have e2 : f.mesh.region.pmax.getD (pinv (T.rotSrc p q k) a) 0 - centreAt f.mesh (pinv (T.rotSrc p q k) a)
      = f.mesh.region.edge (pinv (T.rotSrc p q k) a) / 2 := by
    show f.mesh.region.hi _ - _ = _
    rw [hi_eq_centre]; ring
  rw [e1, e2]
  obtain ⟨m1, m2⟩ := min_pm (centreAt f.mesh a) (f.mesh.region.edge (pinv (T.rotSrc p q k) a)) (sgq p q k (pinv (T.rotSrc p q k) a))
    (edge_pos _ _ (hm _ hj)) (hL.sign _ hj)
  exact ⟨m1.symm, m2.symm⟩

/-- the component position C12 reads for the axis named `dims[a]` is the one FieldRotator's
`ordered_idx` holds at position `a`: both read the last label mapped onto the axis -/
theorem ord_is_c12_component (f : Fld) (ord : List Nat) (ho : ordFor f = .ok ord) (h1 : f.nvdim ≠ 1)
    (a : Nat) (ha : a < 3) (d : String)
    (hd : f.mesh.region.dim2index d = .ok a) : (f.rDim d).bind f.vdimIndex = some (ord.getD a 0) := by
  have := ordFor_getD f ord ho h1 a ha
  unfold ordAt at this
  rwa [(indexOf?_some _ _ _ ((dim2index_eq_ok_iff _ _ _).mp hd)).2, rDimLast_eq_rDim f] at this

theorem mesh3_of_inv (m : Mesh) (hm : m.Inv) (hnd : m.region.ndim = 3) : Mesh3 m := fun a ha =>
  have ha' : a < m.region.ndim := hnd ▸ ha
  ⟨hm.lo_lt_hi ha', hm.nAt_pos ha'⟩

theorem dims3_distinct (r : Region) (hr : r.Inv) (hnd : r.ndim = 3) (a b : Nat) (ha : a < 3) (hb : b < 3) (hab : a ≠ b) :
    r.dims.getD a "" ≠ r.dims.getD b "" := fun e =>
  have hl : r.dims.length = 3 := hr.dims_length.trans hnd
  hab (getD_inj_of_nodup r.dims ((hasDup_false_iff_nodup r.dims).mp hr.dims_nodup) "" (hl ▸ ha) (hl ▸ hb) e)

/-! ## one call -/

/-- what the rotator lemmas need of a field (with its component order `ord`) -/
structure RotH (f : Fld) (ord : List Nat) : Prop where
  wf : WF f
  finv : T.FldInv f
  nd : f.mesh.region.ndim = 3
  len : ∀ idx, (f.data.get idx).length = f.nvdim
  ord : ordFor f = .ok ord
  key : ∀ x ∈ f.vmap, ∀ y ∈ f.vmap, x.1 = y.1 → x = y

theorem RotH.perm {f : Fld} {ord : List Nat} (h : RotH f ord) (h3 : f.nvdim = 3) : PermOrd ord :=
  ordFor_perm f ord h.ord h3 (h.wf.2.resolve_left (by omega)).2 (dims3_distinct _ h.finv.1.1 h.nd) h.key

/-- the rotator's quarter turn of one cell value is C12's `turnVal`: a scalar is left alone, of a
vector the two components mapped to the plane are turned by `rotVec` -/
theorem rotVal_Rq_turnVal {f : Fld} {ord : List Nat} (h : RotH f ord) (a1 a2 : String) (p q : Nat) (k : Int)
    (hp : p < 3) (hq : q < 3) (hpq : p ≠ q) (d1 : f.mesh.region.dim2index a1 = .ok p) (d2 : f.mesh.region.dim2index a2 = .ok q)
    (v : List Rat) (hv : v.length = f.nvdim) :
    rotVal f.nvdim (Rq p q k) ord v = T.turnVal f a1 a2 k v := by
  rcases h.wf.2 with h1 | ⟨h3, _⟩
  · rw [T.turnVal_scalar f a1 a2 k v h1.le, rotVal_scalar h1]
  · have e1 := ord_is_c12_component f ord h.ord (by omega) p hp a1 d1
    have e2 := ord_is_c12_component f ord h.ord (by omega) q hq a2 d2
    rw [T.turnVal_vector f a1 a2 k v _ _ (by omega) e1 e2, h3, rotVal_Rq p q k hp hq hpq (h.perm h3) v (hv.trans h3)]

/-- the general form of `quarter_matches_rotate90F` and `rot_quarter_matches_rotate90`: the hypotheses bundled as `RotH`,
without the value-injectivity of the mapping, which is not needed (`rDimLast_eq_rDim`) -/
theorem RotH.quarter_turn {f : Fld} {ord : List Nat} (h : RotH f ord) (a1 a2 : String) (k : Int) (x g' : Fld)
    (h' : T.rotate90F f a1 a2 k none false = .ok (x, g')) :
    ∃ p q g, p < 3 ∧ q < 3 ∧ p ≠ q ∧ f.mesh.region.dim2index a1 = .ok p ∧ f.mesh.region.dim2index a2 = .ok q ∧
      rotateOnce f (Rq p q k) (some g'.mesh.n) = .ok g ∧ rotateOnce f (Rq p q k) none = .ok g ∧
      (∀ a, a < 3 → g.mesh.region.lo a = g'.mesh.region.lo a ∧ g.mesh.region.hi a = g'.mesh.region.hi a) ∧
      g.mesh.n = g'.mesh.n ∧
      ∀ i0 i1 i2, i0 < g'.mesh.nAt 0 → i1 < g'.mesh.nAt 1 → i2 < g'.mesh.nAt 2 →
        g.data.get [i0, i1, i2] = g'.data.get [i0, i1, i2] := by
  obtain ⟨p, q, ht, hgn, _, _, hcor⟩ := T.rotate90F_centre f h.finv a1 a2 k x g' h'
  have hn3 : f.mesh.n.length = 3 := h.finv.1.n_length.trans h.nd
  have hp : p < 3 := hn3 ▸ ht.lt1
  have hq : q < 3 := hn3 ▸ ht.lt2
  have hR := Rq_isRot p q k hp hq ht.ne
  have hL := Rq_isLat p q k hp hq ht.ne
  have hnt : T.rotN f.mesh.n p q k = tab 3 fun i => f.mesh.nAt (pinv (T.rotSrc p q k) i) := rotN_eq_tab f.mesh.n hn3 p q k hp hq ht.ne
  -- the rotator accepts the turned counts, and they are the automatic ones
  have hpos : g'.mesh.n.length = 3 ∧ ∀ k' ∈ g'.mesh.n, k' ≠ 0 := by
    refine ⟨by rw [hgn, hnt]; exact tab_length _ _, (forall_mem_ne_zero_iff _).mpr fun a ha => ?_⟩
    exact ht.inv.1.nAt_pos (ht.inv.1.n_length ▸ ha)
  have hro := rotateOnce_accepts f h.wf.1 hR ord h.ord (some g'.mesh.n) (fun n e => Option.some.inj e ▸ hpos)
  have hro' := rotateOnce_accepts f h.wf.1 hR ord h.ord none nofun
  rw [show boxMesh f (Rq p q k) none = boxMesh f (Rq p q k) (some g'.mesh.n) by
    unfold boxMesh; rw [Option.getD_none, lat_autoN f h.wf.1 hL, ← hnt, ← hgn]; rfl] at hro'
  obtain ⟨_, c2, ord', ho', c3⟩ := lat_copies f h.wf h.len hL (some g'.mesh.n) (Or.inr (by rw [hgn, hnt])) _ hro
  obtain rfl : ord = ord' := Except.ok.inj (h.ord.symm.trans ho')
  refine ⟨p, q, _, hp, hq, ht.ne, ht.ax1, ht.ax2, hro, hro', fun a ha => ?_, rfl, fun i0 i1 i2 h0 h1 h2 => ?_⟩
  · rw [(hcor a (h.nd ▸ ha)).1, (hcor a (h.nd ▸ ha)).2]
    exact quarter_region_c12 f h.wf.1 h.nd p q k hp hq ht.ne _ (newRegion_accepts f h.wf.1 hR) a ha
  · have hidx : ∀ i, i < 3 → [i0, i1, i2].getD i 0 < f.mesh.nAt (pinv (T.rotSrc p q k) i) := by
      have e : ∀ i, i < 3 → g'.mesh.nAt i = f.mesh.nAt (pinv (T.rotSrc p q k) i) := fun i hi => by
        unfold Mesh.nAt; rw [hgn, hnt, getD_tab _ _ _ _ hi]; rfl
      exact getD3_lt i0 i1 i2 _ (e 0 (by decide) ▸ h0) (e 1 (by decide) ▸ h1) (e 2 (by decide) ▸ h2)
    -- the source cell is the one `np.rot90` reads (`Mesh.nAt a` is `n.getD a 0` by definition)
    have hsrc : [latSrc f.mesh.nAt (T.rotSrc p q k) (sgq p q k) [i0, i1, i2] 0, latSrc f.mesh.nAt (T.rotSrc p q k) (sgq p q k) [i0, i1, i2] 1,
        latSrc f.mesh.nAt (T.rotSrc p q k) (sgq p q k) [i0, i1, i2] 2] = T.srcIdx f.mesh.n p q k [i0, i1, i2] :=
      latSrc_eq_srcIdx f.mesh.n hn3 p q k hp hq ht.ne [i0, i1, i2] rfl
    rw [c3 _ hidx, hsrc, ht.data]
    simp only [NDA.map]
    rw [T.rot90_get, h.finv.2.1]
    exact rotVal_Rq_turnVal h a1 a2 p q k hp hq ht.ne ht.ax1 ht.ax2 _ (h.len _)

/-- **FieldRotator's quarter turn is C12's `Field.rotate90`.** Whenever C12's model of
`Field.rotate90(ax1, ax2, k)` (about the centre, copying form) accepts a field that FieldRotator
can rotate (complete one-to-one mapping), `rotate` with the quarter-turn matrix `Rq p q k` —
with the turned cell counts or with the automatic ones — is accepted and yields the same region
corners, the same cell counts and the same value in every cell, for every plane, every integer
`k` and any cell sizes. (`hval` is not needed: the rotator and C12 read the same reverse
mapping, `rDimLast_eq_rDim`.) -/
theorem quarter_matches_rotate90F (f : Fld) (hf : WF f) (hF : T.FldInv f) (hnd : f.mesh.region.ndim = 3)
    (hlen : ∀ idx, (f.data.get idx).length = f.nvdim) (ord : List Nat) (ho : ordFor f = .ok ord)
    (hkey : ∀ x ∈ f.vmap, ∀ y ∈ f.vmap, x.1 = y.1 → x = y) (hval : ∀ x ∈ f.vmap, ∀ y ∈ f.vmap, x.2 = y.2 → x = y)
    (a1 a2 : String) (k : Int) (x g' : Fld) (h' : T.rotate90F f a1 a2 k none false = .ok (x, g')) :
    ∃ p q g, p < 3 ∧ q < 3 ∧ p ≠ q ∧ f.mesh.region.dim2index a1 = .ok p ∧ f.mesh.region.dim2index a2 = .ok q ∧
      rotateOnce f (Rq p q k) (some g'.mesh.n) = .ok g ∧ rotateOnce f (Rq p q k) none = .ok g ∧
      (∀ a, a < 3 → g.mesh.region.lo a = g'.mesh.region.lo a ∧ g.mesh.region.hi a = g'.mesh.region.hi a) ∧
      g.mesh.n = g'.mesh.n ∧
      ∀ i0 i1 i2, i0 < g'.mesh.nAt 0 → i1 < g'.mesh.nAt 1 → i2 < g'.mesh.nAt 2 →
        g.data.get [i0, i1, i2] = g'.data.get [i0, i1, i2] :=
  RotH.quarter_turn ⟨hf, hF, hnd, hlen, ho, hkey⟩ a1 a2 k x g' h'

/-! ## sequences of calls -/

/-- an accepted `Field.rotate90` keeps everything the rotator needs -/
theorem RotH.step {f : Fld} {ord : List Nat} (h : RotH f ord) (a1 a2 : String) (k : Int) (x g : Fld)
    (hg : T.rotate90F f a1 a2 k none false = .ok (x, g)) : RotH g ord := by
  obtain ⟨p, q, ht, _, hdims, hnd, _⟩ := T.rotate90F_centre f h.finv a1 a2 k x g hg
  have hnd' : g.mesh.region.ndim = 3 := hnd.trans h.nd
  refine ⟨⟨mesh3_of_inv g.mesh ht.inv.1 hnd', by rw [ht.nvdim, ht.vdims]; exact h.wf.2⟩, ht.inv, hnd', fun idx => ?_, ?_,
    by rw [ht.vmap]; exact h.key⟩
  · -- a turned cell value has the length of the source value
    rw [ht.nvdim, ht.data]
    simp only [NDA.map]
    rw [T.rot90_get]
    rcases T.turnVal_eq f a1 a2 with e | ⟨c1, c2, _, _, e⟩ <;> rw [e]
    · exact h.len _
    · rw [T.rotVec_length]; exact h.len _
  · rw [ordFor_congr g f ht.nvdim ht.vdims ht.vmap hdims]; exact h.ord

/-- `g` is `f` turned by the lattice rotation `P = (π, s)` about the centre: permuted counts,
permuted edges about the same centre, every cell the rotated value of one source cell -/
structure Tracks (f : Fld) (ord : List Nat) (P : M3) (π : Nat → Nat) (s : Nat → Rat) (g : Fld) : Prop where
  lat : IsLat P π s
  rot : P.IsRot
  n : ∀ i, i < 3 → g.mesh.nAt i = f.mesh.nAt (pinv π i)
  lo : ∀ i, i < 3 → g.mesh.region.lo i = centreAt f.mesh i - f.mesh.region.edge (pinv π i) / 2
  hi : ∀ i, i < 3 → g.mesh.region.hi i = centreAt f.mesh i + f.mesh.region.edge (pinv π i) / 2
  val : ∀ i0 i1 i2, i0 < f.mesh.nAt (pinv π 0) → i1 < f.mesh.nAt (pinv π 1) → i2 < f.mesh.nAt (pinv π 2) →
      g.data.get [i0, i1, i2] = rotVal f.nvdim P ord
        (f.data.get [latSrc f.mesh.nAt π s [i0, i1, i2] 0, latSrc f.mesh.nAt π s [i0, i1, i2] 1,
                     latSrc f.mesh.nAt π s [i0, i1, i2] 2])

theorem Tracks.refl {f : Fld} {ord : List Nat} (h : RotH f ord) : Tracks f ord M3.one (fun j => j) (fun _ => 1) f := by
  refine ⟨one_isLat, M3.isRot_one, fun i hi => by rw [pinv_id i hi], ?_, ?_, ?_⟩
  · intro i hi; rw [pinv_id i hi]; exact lo_eq_centre f.mesh i
  · intro i hi; rw [pinv_id i hi]; exact hi_eq_centre f.mesh i
  · intro i0 i1 i2 _ _ _
    rw [latSrc_id]
    rcases h.wf.2 with h1 | ⟨h3, _⟩
    · rw [rotVal_scalar h1]
    · rw [h3]
      exact (rotVal_one (h.perm h3) _ (by rw [h.len, h3])).symm

/-- what the rotator returns for a lattice rotation tracks it: `lat_copies` as a `Tracks` -/
theorem Tracks.of_rotateOnce {f : Fld} {ord : List Nat} (h : RotH f ord) {P : M3} {π : Nat → Nat} {s : Nat → Rat}
    (hL : IsLat P π s) (hP : P.IsRot) (g : Fld) (hg : rotateOnce f P none = .ok g) : Tracks f ord P π s g := by
  obtain ⟨c1, c2, ord', ho', c3⟩ := lat_copies f h.wf h.len hL none (Or.inl rfl) g hg
  obtain rfl : ord = ord' := Except.ok.inj (h.ord.symm.trans ho')
  refine ⟨hL, hP, fun i hi => ?_, fun i hi => (c2 i hi).1, fun i hi => (c2 i hi).2,
    fun i0 i1 i2 h0 h1 h2 => c3 _ (getD3_lt i0 i1 i2 (fun i => f.mesh.nAt (pinv π i)) h0 h1 h2)⟩
  unfold Mesh.nAt; rw [c1, getD_tab _ _ _ _ hi]; rfl

theorem Tracks.congr {f g : Fld} {ord : List Nat} {P : M3} {π : Nat → Nat} {s : Nat → Rat} (ht : Tracks f ord P π s g) (g' : Fld)
    (hn : g.mesh.n = g'.mesh.n)
    (hreg : ∀ a, a < 3 → g.mesh.region.lo a = g'.mesh.region.lo a ∧ g.mesh.region.hi a = g'.mesh.region.hi a)
    (hval : ∀ i0 i1 i2, i0 < g'.mesh.nAt 0 → i1 < g'.mesh.nAt 1 → i2 < g'.mesh.nAt 2 →
      g.data.get [i0, i1, i2] = g'.data.get [i0, i1, i2]) : Tracks f ord P π s g' := by
  have hnAt : ∀ i, i < 3 → g'.mesh.nAt i = f.mesh.nAt (pinv π i) := fun i hi => by
    rw [← ht.n i hi]; unfold Mesh.nAt; rw [hn]
  refine ⟨ht.lat, ht.rot, hnAt, fun i hi => (hreg i hi).1 ▸ ht.lo i hi, fun i hi => (hreg i hi).2 ▸ ht.hi i hi,
    fun i0 i1 i2 h0 h1 h2 => ?_⟩
  rw [← hval i0 i1 i2 (hnAt 0 (by decide) ▸ h0) (hnAt 1 (by decide) ▸ h1) (hnAt 2 (by decide) ▸ h2), ht.val i0 i1 i2 h0 h1 h2]

/-- **lattice moves compose**: if `g'` is `f` turned by `P` and `g''` is `g'` turned by `A`, then `g''` is `f` turned by
`A · P` — composed permutation, multiplied signs -/
theorem Tracks.trans {f g' g'' : Fld} {ord : List Nat} {P A : M3} {π πA : Nat → Nat} {s sA : Nat → Rat}
    (hf : RotH f ord) (hv : g'.nvdim = f.nvdim) (h1 : Tracks f ord P π s g') (h2 : Tracks g' ord A πA sA g'') :
    Tracks f ord (A.mul P) (fun j => πA (π j)) (fun j => s j * sA (π j)) g'' := by
  have hA := h2.lat
  -- counts, centre and edges of `g'` are what it tracks from `f`
  have hnAt : ∀ i, i < 3 → g''.mesh.nAt i = f.mesh.nAt (pinv (fun j => πA (π j)) i) := fun i hi => by
    rw [h2.n i hi, h1.n _ (pinv_lt _ _), pinv_comp hA h1.lat i hi]
  have hcen : ∀ i, i < 3 → centreAt g'.mesh i = centreAt f.mesh i := by
    intro i hi
    show (g'.mesh.region.lo i + g'.mesh.region.hi i) / 2 = _
    rw [h1.lo i hi, h1.hi i hi]; ring
  have hedge : ∀ i, i < 3 → g'.mesh.region.edge i = f.mesh.region.edge (pinv π i) := by
    intro i hi
    show g'.mesh.region.hi i - g'.mesh.region.lo i = _
    rw [h1.lo i hi, h1.hi i hi]; ring
  refine ⟨hA.mul h1.lat, h2.rot.mul h1.rot, hnAt, ?_, ?_, ?_⟩
  · intro i hi
    rw [h2.lo i hi, hcen i hi, hedge _ (pinv_lt _ _), pinv_comp hA h1.lat i hi]
  · intro i hi
    rw [h2.hi i hi, hcen i hi, hedge _ (pinv_lt _ _), pinv_comp hA h1.lat i hi]
  · -- values: the source cell in `g'` of a cell of `g''`, then its source cell in `f`, is the source
    -- cell under the composed permutation (`latSrc_comp`); the two rotations multiply (`rotVal_mul`)
    intro i0 i1 i2 h0 h1' h2'
    have hidxC : ∀ i, i < 3 → [i0, i1, i2].getD i 0 < f.mesh.nAt (pinv (fun j => πA (π j)) i) :=
      getD3_lt i0 i1 i2 (fun i => f.mesh.nAt (pinv (fun j => πA (π j)) i)) h0 h1' h2'
    have hidxA : ∀ i, i < 3 → [i0, i1, i2].getD i 0 < g'.mesh.nAt (pinv πA i) := by
      intro i hi
      rw [h1.n _ (pinv_lt _ _), ← pinv_comp hA h1.lat i hi]
      exact hidxC i hi
    rw [h2.val i0 i1 i2 (hidxA 0 (by decide)) (hidxA 1 (by decide)) (hidxA 2 (by decide)), hv]
    -- the source cell in `g'` is a valid cell: use what `g'` tracks
    have hsrcA : ∀ j, j < 3 → latSrc g'.mesh.nAt πA sA [i0, i1, i2] j < f.mesh.nAt (pinv π j) := by
      intro j hj
      rw [← h1.n j hj]
      apply latSrc_lt
      have := hidxA _ (hA.lt j hj)
      rwa [hA.perm.pinv_pi j hj] at this
    rw [h1.val _ _ _ (hsrcA 0 (by decide)) (hsrcA 1 (by decide)) (hsrcA 2 (by decide))]
    have hsame : ∀ j, j < 3 → latSrc g'.mesh.nAt πA sA [i0, i1, i2] j
        = latSrc (fun i => f.mesh.nAt (pinv π i)) πA sA [i0, i1, i2] j := by
      intro j hj
      unfold latSrc
      rw [h1.n j hj]
    rw [hsame 0 (by decide), hsame 1 (by decide), hsame 2 (by decide),
      latSrc_comp hA h1.lat f.mesh.nAt [i0, i1, i2] hidxC 0 (by decide),
      latSrc_comp hA h1.lat f.mesh.nAt [i0, i1, i2] hidxC 1 (by decide),
      latSrc_comp hA h1.lat f.mesh.nAt [i0, i1, i2] hidxC 2 (by decide)]
    rcases hf.wf.2 with h1s | ⟨h3, _⟩
    · rw [rotVal_scalar h1s, rotVal_scalar h1s, rotVal_scalar h1s]
    · rw [h3]
      exact (rotVal_mul _ _ (hf.perm h3) _).symm

/-- **one more `Field.rotate90`**: if `g'` is `f` turned by the lattice rotation `P` and C12's model
turns `g'` by `l` quarter turns in the plane of its axes `b1, b2`, the result is `f` turned by
`Rq p' q' l · P`: C12's turn agrees with the rotator's quarter turn of `g'` (`RotH.quarter_turn`), which tracks
`g'` (`Tracks.of_rotateOnce`), and lattice moves compose -/
theorem Tracks.step {f g' : Fld} {ord : List Nat} {P : M3} {π : Nat → Nat} {s : Nat → Rat}
    (hf : RotH f ord) (hg : RotH g' ord) (hv : g'.nvdim = f.nvdim) (ht : Tracks f ord P π s g')
    (b1 b2 : String) (l : Int) (x g'' : Fld) (h : T.rotate90F g' b1 b2 l none false = .ok (x, g'')) :
    ∃ p q, p < 3 ∧ q < 3 ∧ p ≠ q ∧ g'.mesh.region.dim2index b1 = .ok p ∧ g'.mesh.region.dim2index b2 = .ok q ∧
      Tracks f ord ((Rq p q l).mul P) (fun j => T.rotSrc p q l (π j)) (fun j => s j * sgq p q l (π j)) g'' := by
  obtain ⟨p, q, g2, hp, hq, hpq, d1, d2, _, hro, hreg2, hn2, hval2⟩ :=
    hg.quarter_turn b1 b2 l x g'' h
  have h2 := (Tracks.of_rotateOnce hg (Rq_isLat p q l hp hq hpq) (Rq_isRot p q l hp hq hpq) g2 hro).congr g'' hn2 hreg2 hval2
  exact ⟨p, q, hp, hq, hpq, d1, d2, ht.trans hf hv h2⟩

theorem axIdx_of_dim2index (f g : Fld) (hd : g.mesh.region.dims = f.mesh.region.dims) (a : String) (p : Nat)
    (h : g.mesh.region.dim2index a = .ok p) : axIdx f a = p := by
  have hf : f.mesh.region.dim2index a = .ok p := by unfold Region.dim2index at *; rw [← hd]; exact h
  unfold axIdx; rw [hf]

/-- **any sequence of `Field.rotate90` calls tracks the ordered product** (induction over the
sequence; `g'` is any field already known to be `f` turned by `P`) -/
theorem turns_tracks (f : Fld) (ord : List Nat) (hf : RotH f ord) (seq : List (String × String × Int)) :
    ∀ (g' : Fld) (P : M3) (π : Nat → Nat) (s : Nat → Rat), RotH g' ord → g'.nvdim = f.nvdim →
      g'.mesh.region.dims = f.mesh.region.dims → Tracks f ord P π s g' → ∀ g'', turns g' seq = some g'' →
      ∃ π' s', Tracks f ord ((prodL (turnsM f seq)).mul P) π' s' g'' ∧ RotH g'' ord := by
  induction seq with
  | nil =>
    intro g' P π s hg _ _ ht g'' h
    simp only [turns, Option.some.injEq] at h
    subst h
    exact ⟨π, s, by simp only [turnsM, List.map_nil, prodL]; rw [M3.one_mul]; exact ht, hg⟩
  | cons t rest ih =>
    obtain ⟨a1, a2, k⟩ := t
    intro g' P π s hg hv hd ht g'' h
    simp only [turns] at h
    cases hstep : T.rotate90F g' a1 a2 k none false with
    | error e => rw [hstep] at h; cases h
    | ok r =>
      obtain ⟨x, g1⟩ := r
      rw [hstep] at h
      simp only at h
      obtain ⟨p, q, _, _, _, d1, d2, ht1⟩ := ht.step hf hg hv a1 a2 k x g1 hstep
      obtain ⟨_, _, ht', _, hd1, _⟩ := T.rotate90F_centre g' hg.finv a1 a2 k x g1 hstep
      have hv1 := ht'.nvdim
      have e1 := axIdx_of_dim2index f g' hd a1 p d1
      have e2 := axIdx_of_dim2index f g' hd a2 q d2
      obtain ⟨π', s', ht2, hg2⟩ := ih g1 _ _ _ (hg.step a1 a2 k x g1 hstep) (by rw [hv1, hv]) (by rw [hd1, hd]) ht1 g'' h
      refine ⟨π', s', ?_, hg2⟩
      have : turnsM f ((a1, a2, k) :: rest) = Rq p q k :: turnsM f rest := by
        simp only [turnsM, List.map_cons, e1, e2]
      rw [this, prodL_cons_mul]
      exact ht2

/-- **a sequence of `Field.rotate90` calls IS one FieldRotator rotation.** -/
theorem turns_match_rotator (f : Fld) (ord : List Nat) (hf : RotH f ord) (seq : List (String × String × Int)) (g' : Fld)
    (h : turns f seq = some g') :
    (prodL (turnsM f seq)).IsRot ∧ LatM (prodL (turnsM f seq)) ∧
    ∃ g, rotateOnce f (prodL (turnsM f seq)) none = .ok g ∧
      (∀ a, a < 3 → g.mesh.region.lo a = g'.mesh.region.lo a ∧ g.mesh.region.hi a = g'.mesh.region.hi a) ∧
      g.mesh.n = g'.mesh.n ∧
      ∀ i0 i1 i2, i0 < g'.mesh.nAt 0 → i1 < g'.mesh.nAt 1 → i2 < g'.mesh.nAt 2 →
        g.data.get [i0, i1, i2] = g'.data.get [i0, i1, i2] := by
  obtain ⟨π, s, ht, hg⟩ := turns_tracks f ord hf seq f M3.one _ _ hf rfl rfl (Tracks.refl hf) g' h
  rw [M3.mul_one] at ht
  have hacc := rotateOnce_accepts f hf.wf.1 ht.rot ord hf.ord none (fun n e => by cases e)
  refine ⟨ht.rot, ⟨π, s, ht.lat⟩, _, hacc, ?_⟩
  obtain ⟨c1, c2, ord', ho', c3⟩ := lat_copies f hf.wf hf.len ht.lat none (Or.inl rfl) _ hacc
  obtain rfl : ord = ord' := Except.ok.inj (hf.ord.symm.trans ho')
  have hl3 : g'.mesh.n.length = 3 := hg.finv.1.n_length.trans hg.nd
  refine ⟨?_, ?_, ?_⟩
  · intro a ha
    rw [(c2 a ha).1, (c2 a ha).2, ht.lo a ha, ht.hi a ha]
    exact ⟨rfl, rfl⟩
  · rw [c1]
    symm
    apply eq_tab_of_getD _ _ _ 0 hl3
    intro i hi
    exact ht.n i hi
  · intro i0 i1 i2 h0 h1 h2
    rw [ht.n 0 (by decide)] at h0
    rw [ht.n 1 (by decide)] at h1
    rw [ht.n 2 (by decide)] at h2
    have hidx : ∀ i, i < 3 → [i0, i1, i2].getD i 0 < f.mesh.nAt (pinv π i) :=
      getD3_lt i0 i1 i2 (fun i => f.mesh.nAt (pinv π i)) h0 h1 h2
    rw [c3 _ hidx, ht.val i0 i1 i2 h0 h1 h2]

end DFV.C18
