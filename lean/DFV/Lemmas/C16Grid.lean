import Mathlib.Algebra.Order.BigOperators.Group.List -- sums of non-negative numbers, for `sumSq`
import DFV.Lemmas.C01Tol
import DFV.Lemmas.NDA
import DFV.Model.C16

/-! `to_vtk`: the grid it builds for a field as the constructor leaves it (`gridOf`).  Its coordinate arrays are
the mesh vertices, so interval search in them is `Mesh.indexAx` and the lookup is `point2index`
(`locate_vertices_iff`); its cell data are assembled under `AddArray`'s replace-by-name rule, each array a table
over the cells in VTK's order (first index fastest).  A `…c` in a name: stated for `WFc` (any distinct labels)
instead of `WF`. -/

namespace DFV.C16
open DFV DFV.Mesh

/-! ## rank 3 -/

theorem unflatF3 (nx ny nz t : Nat) : unflatF [nx, ny, nz] t = [t % nx, t / nx % ny, t / nx / ny % nz] := by
  simp [unflatF]

theorem unflatF3_form (nx ny nz t : Nat) : ∃ i j k, unflatF [nx, ny, nz] t = [i, j, k] :=
  ⟨_, _, _, unflatF3 nx ny nz t⟩

theorem unflatF3_inRange (nx ny nz t : Nat) (hx : 0 < nx) (hy : 0 < ny) (hz : 0 < nz) :
    inRange [nx, ny, nz] (unflatF [nx, ny, nz] t) = true := by
  apply unflatF_inRange
  intro n hn
  simp only [List.mem_cons, List.mem_nil_iff, or_false] at hn
  rcases hn with rfl | rfl | rfl <;> assumption

theorem inRange3 (nx ny nz i j k : Nat) (hi : i < nx) (hj : j < ny) (hk : k < nz) :
    inRange [nx, ny, nz] [i, j, k] = true := by
  simp [inRange, hi, hj, hk]

theorem inRange3_cases (nx ny nz : Nat) (idx : List Nat) (hi : inRange [nx, ny, nz] idx = true) :
    ∃ i j k, idx = [i, j, k] ∧ i < nx ∧ j < ny ∧ k < nz := by
  have hl := inRange_length _ _ hi
  match idx, hl with
  | [i, j, k], _ =>
    simp only [inRange, Bool.and_eq_true, decide_eq_true_eq, Bool.and_true] at hi
    exact ⟨i, j, k, rfl, hi.1, hi.2.1, hi.2.2⟩

/-- VTK's structured cell id is the first-index-fastest flat index -/
theorem cellId_eq_flatF (nx ny nz i j k : Nat) :
    cellId [nx + 1, ny + 1, nz + 1] i j k = flatF [nx, ny, nz] [i, j, k] := by
  simp [cellId, flatF]

/-! ## arrays -/

/-- `NDA.toList_length` under the family's name -/
theorem toList_length {α} (a : NDA α) : a.toList.length = natProd a.shape := a.toList_length

/-- `NDA.toList_getD` under the family's name -/
theorem toList_getD {α} (a : NDA α) (p : Nat) (d : α) (h : p < natProd a.shape) :
    a.toList.getD p d = a.get (unflatC a.shape p) := a.toList_getD p d h

/-- `a.transpose((2,1,0)).reshape(-1)` lists the entries first index fastest -/
theorem flat3_eq {α} (a : NDA α) (nx ny nz : Nat) (hs : a.shape = [nx, ny, nz]) :
    flat3 a = tab (natProd [nx, ny, nz]) fun t => a.get (unflatF [nx, ny, nz] t) :=
  a.transpose_toList3 nx ny nz hs

/-- `a.transpose((2,1,0,3)).reshape(-1)`: cells first index fastest, components innermost -/
theorem flat4_eq {α} (a : NDA α) (nx ny nz nv : Nat) (hs : a.shape = [nx, ny, nz, nv]) :
    flat4 a = tab (natProd [nx, ny, nz] * nv) fun q => a.get (unflatF [nx, ny, nz] (q / nv) ++ [q % nv]) :=
  a.transpose_toList4 nx ny nz nv hs

theorem flat4_getD {α} (a : NDA α) (nx ny nz nv : Nat) (hs : a.shape = [nx, ny, nz, nv]) (idx : List Nat)
    (hi : inRange [nx, ny, nz] idx = true) (c : Nat) (hc : c < nv) (d : α) :
    (flat4 a).getD (flatF [nx, ny, nz] idx * nv + c) d = a.get (idx ++ [c]) :=
  a.transpose_toList4_getD nx ny nz nv hs idx hi c hc d

/-- `DFV.list3_eq` under the family's name -/
theorem list3_eq {α} (l : List α) (d : α) (h : l.length = 3) : l = [l.getD 0 d, l.getD 1 d, l.getD 2 d] :=
  DFV.list3_eq l d h

/-! ## the mesh: axes, vertices, interval search -/

theorem mesh_axes (m : Mesh) (nx ny nz : Nat) (hinv : m.Inv) (hn : m.n = [nx, ny, nz]) :
    m.ndim = 3 ∧ m.region.pmin.length = 3 ∧ m.region.pmax.length = 3 ∧
    (∀ a, a < 3 → 0 < m.nAt a ∧ m.region.lo a < m.region.hi a) ∧
    m.nAt 0 = nx ∧ m.nAt 1 = ny ∧ m.nAt 2 = nz := by
  obtain ⟨hr, hl, hpos⟩ := hinv
  have hnd : m.ndim = 3 := by rw [hn] at hl; exact hl.symm
  have hnd' : m.region.pmin.length = 3 := hnd
  refine ⟨hnd, hnd', by rw [hr.2.1]; exact hnd', ?_, by simp [nAt, hn], by simp [nAt, hn], by simp [nAt, hn]⟩
  intro a ha
  exact ⟨hpos a (by omega), hr.2.2.2.2.2 a (by omega)⟩

theorem counts_pos (m : Mesh) (nx ny nz : Nat) (hinv : m.Inv) (hn : m.n = [nx, ny, nz]) : 0 < nx ∧ 0 < ny ∧ 0 < nz := by
  obtain ⟨_, _, _, hax, h0, h1, h2⟩ := mesh_axes m nx ny nz hinv hn
  exact ⟨h0 ▸ (hax 0 (by omega)).1, h1 ▸ (hax 1 (by omega)).1, h2 ▸ (hax 2 (by omega)).1⟩

theorem corners_fixed (m : Mesh) (nx ny nz : Nat) (hinv : m.Inv) (hn : m.n = [nx, ny, nz]) (r : Rat → Rat)
    (hfix : ∀ a, a < 3 → r (m.region.lo a) = m.region.lo a ∧ r (m.region.hi a) = m.region.hi a) :
    (tab 3 fun a => r (m.region.lo a)) = m.region.pmin ∧ (tab 3 fun a => r (m.region.hi a)) = m.region.pmax := by
  obtain ⟨_, hl1, hl2, _⟩ := mesh_axes m nx ny nz hinv hn
  exact ⟨(eq_tab_of_getD _ 3 _ 0 hl1 fun a ha => (hfix a ha).1.symm).symm,
    (eq_tab_of_getD _ 3 _ 0 hl2 fun a ha => (hfix a ha).2.symm).symm⟩

/-- no monotonicity of `X` is assumed -/
theorem findInterval_sound (X : List Rat) (x : Rat) (i : Nat) (h : findInterval X x = some i) :
    i + 1 < X.length ∧ X.getD i 0 ≤ x ∧ x ≤ X.getD (i + 1) 0 ∧
    (x < X.getD (i + 1) 0 ∨ i + 2 = X.length) := by
  unfold findInterval at h
  rw [List.find?_range_eq_some] at h
  obtain ⟨hp, hm, _⟩ := h
  have hi : i < X.length - 1 := List.mem_range.mp hm
  simp only [Bool.and_eq_true, Bool.or_eq_true, decide_eq_true_eq] at hp
  obtain ⟨h1, h2⟩ := hp
  refine ⟨by omega, h1, ?_, ?_⟩
  · rcases h2 with h2 | ⟨_, h2⟩
    · exact le_of_lt h2
    · exact le_of_eq h2
  · rcases h2 with h2 | ⟨h2, _⟩
    · exact Or.inl h2
    · exact Or.inr h2

/-- **interval search in a lattice** `lo + j·c`, `j = 0 … n`: interval `i` is returned iff it holds `x`, the last
one also at its upper end -/
theorem findInterval_lattice_iff (X : List Rat) (lo c : Rat) (n : Nat) (hc : 0 < c) (hlen : X.length = n + 1)
    (hX : ∀ j, j ≤ n → X.getD j 0 = lo + (j : Rat) * c) (x : Rat) (i : Nat) :
    findInterval X x = some i ↔
      i < n ∧ lo + (i : Rat) * c ≤ x ∧ (x < lo + ((i : Rat) + 1) * c ∨ (i + 1 = n ∧ x = lo + (n : Rat) * c)) := by
  unfold findInterval
  rw [List.find?_range_eq_some, hlen, Nat.add_sub_cancel, List.mem_range]
  simp only [Bool.and_eq_true, Bool.or_eq_true, decide_eq_true_eq, Bool.not_eq_true', Bool.and_eq_false_iff,
    Bool.or_eq_false_iff, decide_eq_false_iff_not]
  constructor
  · rintro ⟨⟨h1, h2⟩, hi, -⟩
    rw [hX i (by omega)] at h1
    rw [hX (i + 1) (by omega)] at h2
    push_cast at h2
    exact ⟨hi, h1, h2.imp id fun ⟨e, h⟩ => ⟨by omega, by rw [h]; congr 2; exact_mod_cast (by omega : i + 1 = n)⟩⟩
  · rintro ⟨hi, h1, h2⟩
    refine ⟨⟨by rw [hX i (by omega)]; exact h1, ?_⟩, hi, fun j hj => Or.inr ⟨?_, Or.inl (by omega)⟩⟩
    · rw [hX (i + 1) (by omega)]
      push_cast
      exact h2.imp id fun ⟨e, h⟩ => ⟨by omega, by rw [h]; congr 2; exact_mod_cast e.symm⟩
    · -- an earlier interval ends at or before `lo + i·c ≤ x`
      rw [hX (j + 1) (by omega), not_lt]
      exact le_trans ((C01.face_le hc _ _).mpr (by exact_mod_cast (by omega : j + 1 ≤ i))) h1

theorem findInterval_vertices_eq (m : Mesh) (a : Nat) (ha : a < m.ndim) (hn : 0 < m.nAt a)
    (hr : m.region.lo a < m.region.hi a) (x : Rat) :
    findInterval ((m.vertices).getD a []) x =
      if m.region.lo a ≤ x ∧ x ≤ m.region.hi a then some (m.indexAx a x) else none := by
  have hc := C01.cellAt_pos m a hn hr
  have hcov := C01.hi_eq m a hn
  have key := findInterval_lattice_iff _ (m.region.lo a) (m.cellAt a) (m.nAt a) hc (C01.vertices_length m a ha)
    (fun j hj => C01.vertices_getD m a ha hn j hj) x
  split
  · rename_i h
    -- the cell of `x`: its lower face is at or below `x`; `x` is below its upper face, or the cell is the last one
    -- and `x` is the end of the edge
    have hk := C01.indexAx_lt m a hn x
    obtain ⟨h1, h2⟩ := (C01.indexAx_eq_iff m a hc hk x).mp rfl
    refine (key _).mpr ⟨hk, h1.elim (fun e => by rw [e]; simpa using h.1) id, ?_⟩
    rcases lt_or_ge x (m.region.lo a + ((m.indexAx a x : Rat) + 1) * m.cellAt a) with hlt | hge
    · exact Or.inl hlt
    · have e := h2.resolve_right (not_lt.mpr hge)
      exact Or.inr ⟨e, le_antisymm (hcov ▸ h.2) (by rw [← e]; push_cast; exact hge)⟩
  · rename_i hout
    refine Option.eq_none_iff_forall_ne_some.mpr fun i hfi => hout ?_
    -- a found interval `[lo + i·c, lo + (i+1)·c]`, `i < n`, lies inside the edge
    obtain ⟨hi, h1, h2⟩ := (key i).mp hfi
    refine ⟨le_trans ?_ h1, ?_⟩
    · have := (C01.face_le (L := m.region.lo a) hc 0 i).mpr (by exact_mod_cast Nat.zero_le i)
      simpa using this
    · rw [hcov]
      rcases h2 with h2 | ⟨_, h2⟩
      · exact le_trans h2.le ((C01.face_le hc _ _).mpr (by exact_mod_cast (by omega : i + 1 ≤ m.nAt a)))
      · exact h2.le

theorem interval_unique (lo c x : Rat) (hc : 0 < c) (i j : Nat)
    (h1 : lo + (i : Rat) * c < x) (h2 : x < lo + ((i : Rat) + 1) * c)
    (h3 : lo + (j : Rat) * c ≤ x) (h4 : x ≤ lo + ((j : Rat) + 1) * c) : j = i := by
  have a : (i : Rat) < (j : Rat) + 1 := (C01.face_lt hc _ _).mp (lt_of_lt_of_le h1 h4)
  have b : (j : Rat) < (i : Rat) + 1 := (C01.face_lt hc _ _).mp (lt_of_le_of_lt h3 h2)
  have a' : i < j + 1 := by exact_mod_cast a
  have b' : j < i + 1 := by exact_mod_cast b
  omega

theorem locate_none (g : Grid) (p : List Rat) (a : Nat) (ha : a < 3) (h : findInterval (g.ax a) (p.getD a 0) = none) :
    locate g p = none := by
  unfold locate
  have : a = 0 ∨ a = 1 ∨ a = 2 := by omega
  rcases this with rfl | rfl | rfl
  · rw [h]
  · rw [h]; cases findInterval (g.ax 0) (p.getD 0 0) <;> rfl
  · rw [h]; cases findInterval (g.ax 0) (p.getD 0 0) <;> cases findInterval (g.ax 1) (p.getD 1 0) <;> rfl

theorem locate_some (g : Grid) (p : List Rat) (id : Nat) (h : locate g p = some id) :
    ∃ i j k, findInterval (g.ax 0) (p.getD 0 0) = some i ∧ findInterval (g.ax 1) (p.getD 1 0) = some j ∧
      findInterval (g.ax 2) (p.getD 2 0) = some k ∧ id = cellId g.dims i j k := by
  unfold locate at h
  split at h
  · rename_i i j k hi hj hk
    exact ⟨i, j, k, hi, hj, hk, (Option.some.inj h).symm⟩
  · cases h

/-- **the lookup in a grid whose coordinate arrays are the mesh vertices is `point2index`**, as a partial function:
a cell is found exactly on the closed region, and it is the cell with the structured id of the mesh cell.  The
lookup theorems of `Props/C16` (inside, outside, box of the located cell) are read off this. -/
theorem locate_vertices_iff (m : Mesh) (nx ny nz : Nat) (hinv : m.Inv) (hn : m.n = [nx, ny, nz]) (cell : List VArr)
    (p : List Rat) (id : Nat) :
    locate { dims := [nx + 1, ny + 1, nz + 1], coords := tab 3 fun a => m.vertices.getD a [], cell := cell } p = some id ↔
      (∀ a, a < 3 → m.region.lo a ≤ p.getD a 0 ∧ p.getD a 0 ≤ m.region.hi a) ∧
        id = flatF [nx, ny, nz] (tab 3 fun a => m.indexAx a (p.getD a 0)) := by
  obtain ⟨hnd, _, _, hax, _⟩ := mesh_axes m nx ny nz hinv hn
  have key := fun a (ha : a < 3) => findInterval_vertices_eq m a (by omega) (hax a ha).1 (hax a ha).2 (p.getD a 0)
  have hax3 : ∀ a, a < 3 → (Grid.mk [nx + 1, ny + 1, nz + 1] (tab 3 fun a => m.vertices.getD a []) cell).ax a =
      m.vertices.getD a [] := fun a ha => getD_tab _ _ _ _ ha
  by_cases h : ∀ a, a < 3 → m.region.lo a ≤ p.getD a 0 ∧ p.getD a 0 ≤ m.region.hi a
  · unfold locate
    rw [hax3 0 (by omega), hax3 1 (by omega), hax3 2 (by omega), key 0 (by omega), key 1 (by omega), key 2 (by omega),
      if_pos (h 0 (by omega)), if_pos (h 1 (by omega)), if_pos (h 2 (by omega))]
    rw [Option.some.injEq, cellId_eq_flatF]
    exact ⟨fun e => ⟨h, e.symm⟩, fun e => e.2.symm⟩
  · have h' := h
    rw [Classical.not_forall] at h
    obtain ⟨a, h⟩ := h
    rw [Classical.not_imp] at h
    rw [locate_none _ p a h.1 (by rw [hax3 a h.1, key a h.1, if_neg h.2])]
    exact ⟨nofun, fun hh => absurd hh.1 h'⟩

theorem indexAx_inRange (m : Mesh) (nx ny nz : Nat) (hinv : m.Inv) (hn : m.n = [nx, ny, nz]) (p : List Rat)
    (hp : ∀ a, a < 3 → m.region.lo a ≤ p.getD a 0 ∧ p.getD a 0 ≤ m.region.hi a) :
    inRange [nx, ny, nz] (tab 3 fun a => m.indexAx a (p.getD a 0)) = true := by
  obtain ⟨_, _, _, hax, hn0, hn1, hn2⟩ := mesh_axes m nx ny nz hinv hn
  have lt := fun a (ha : a < 3) => (C01.indexAx_box m a _ (hax a ha).1 (hax a ha).2 (hp a ha).1 (hp a ha).2).1
  exact inRange3 _ _ _ _ _ _ (hn0 ▸ lt 0 (by omega)) (hn1 ▸ lt 1 (by omega)) (hn2 ▸ lt 2 (by omega))

theorem lookup_point (m : Mesh) (nx ny nz : Nat) (hinv : m.Inv) (hn : m.n = [nx, ny, nz]) (cell : List VArr)
    (p : List Rat) (hp : m.region.containsExact p) (idx : List Nat) (hpi : m.point2index p = .ok idx) :
    locate { dims := [nx + 1, ny + 1, nz + 1], coords := tab 3 fun a => m.vertices.getD a [], cell := cell } p =
      some (flatF [nx, ny, nz] idx) := by
  obtain ⟨hnd, _⟩ := mesh_axes m nx ny nz hinv hn
  have hidx := ((C01.point2index_ok_iff_containsPt m p idx).mp hpi).2.2
  rw [hnd] at hidx
  exact (locate_vertices_iff m nx ny nz hinv hn cell p _).mpr
    ⟨fun a ha => hp.2 a (by rw [show m.region.ndim = 3 from hnd]; exact ha), congrArg _ hidx⟩

/-! ## the cell data `to_vtk` assembles -/

theorem addArray_fresh (l : List VArr) (a : VArr) (h : ∀ b ∈ l, b.name ≠ a.name) : addArray l a = l ++ [a] := by
  induction l with
  | nil => rfl
  | cons b bs ih =>
    simp only [addArray]
    rw [if_neg (h b (by simp)), ih fun c hc => h c (by simp [hc])]
    rfl

/-- the `AddArray` loop over distinct labels that are not yet present appends one array per label -/
theorem fold_addArray (mk : String → VArr) (hmk : ∀ l, (mk l).name = l) (ws : List String) (acc : List VArr)
    (hd : hasDup ws = false) (hacc : ∀ b ∈ acc, ¬ b.name ∈ ws) :
    ws.foldl (fun acc lbl => addArray acc (mk lbl)) acc = acc ++ ws.map mk := by
  induction ws generalizing acc with
  | nil => simp
  | cons w ws ih =>
    obtain ⟨hw, hd'⟩ := (hasDup_cons w ws).mp hd
    simp only [List.foldl_cons, List.map_cons]
    rw [addArray_fresh acc (mk w) (by
      intro b hb hn
      rw [hmk] at hn
      exact hacc b hb (by simp [hn]))]
    rw [ih (acc ++ [mk w]) hd' (by
      intro b hb
      rcases List.mem_append.mp hb with hb | hb
      · intro hm; exact hacc b hb (by simp [hm])
      · simp only [List.mem_singleton] at hb
        rw [hb, hmk]; exact hw)]
    simp

theorem compVArr_name (f : Fld) (vs : List String) (l : String) : (compVArr f vs l).name = l := rfl

theorem LabelsOk.ne_fixed {vs : List String} (h : LabelsOk vs) {l : String} (hl : l ∈ vs) :
    l ≠ "norm" ∧ l ≠ "field" ∧ l ≠ "valid" :=
  ⟨fun e => h.2.1 (e ▸ hl), fun e => h.2.2.1 (e ▸ hl), fun e => h.2.2.2 (e ▸ hl)⟩

/-- the cell data of a well-formed field: `norm`, one scalar per label, `field`, `valid`: every
`AddArray` meets a fresh name (`LabelsOk.ne_fixed`), so it appends (`addArray_fresh`, `fold_addArray`) -/
theorem cellData_eq (f : Fld) (nx ny nz : Nat) (h : WF f nx ny nz) :
    cellData f = normVArr f :: (comps f ++ [fieldVArr f, validVArr f]) := by
  unfold cellData comps
  by_cases hnv : 1 < f.nvdim
  · obtain ⟨vs, hvs, _, hok⟩ := h.labels hnv
    simp only [hnv, if_true, hvs, Option.getD_some]
    unfold compArrays
    -- the three side conditions: the name to be added is not among the arrays already there
    have hcomps : ∀ b ∈ addArray [] (normVArr f), ¬ b.name ∈ vs := fun b hb => by
      rw [List.mem_singleton.mp hb]; exact hok.2.1
    have hfield : ∀ b ∈ addArray [] (normVArr f) ++ vs.map (compVArr f vs), b.name ≠ (fieldVArr f).name := fun b hb => by
      rcases List.mem_append.mp hb with hb | hb
      · rw [List.mem_singleton.mp hb]; exact (by decide : "norm" ≠ "field")
      · obtain ⟨l, hl, rfl⟩ := List.mem_map.mp hb
        exact (hok.ne_fixed hl).2.1
    have hvalid : ∀ b ∈ addArray [] (normVArr f) ++ vs.map (compVArr f vs) ++ [fieldVArr f], b.name ≠ (validVArr f).name :=
      fun b hb => by
      rcases List.mem_append.mp hb with hb | hb
      · rcases List.mem_append.mp hb with hb | hb
        · rw [List.mem_singleton.mp hb]; exact (by decide : "norm" ≠ "valid")
        · obtain ⟨l, hl, rfl⟩ := List.mem_map.mp hb
          exact (hok.ne_fixed hl).2.2
      · rw [List.mem_singleton.mp hb]; exact (by decide : "field" ≠ "valid")
    rw [fold_addArray (compVArr f vs) (compVArr_name f vs) vs _ hok.1 hcomps, addArray_fresh _ _ hfield,
      addArray_fresh _ _ hvalid]
    simp [addArray]
  · simp only [hnv, if_false]
    rfl

theorem comps_names (f : Fld) (nx ny nz : Nat) (h : WF f nx ny nz) (b : VArr) (hb : b ∈ comps f) :
    b.name ≠ "norm" ∧ b.name ≠ "field" ∧ b.name ≠ "valid" := by
  unfold comps at hb
  by_cases hnv : 1 < f.nvdim
  · obtain ⟨vs, hvs, _, hok⟩ := h.labels hnv
    simp only [hnv, if_true, hvs, Option.getD_some] at hb
    obtain ⟨l, hl, rfl⟩ := List.mem_map.mp hb
    exact hok.ne_fixed hl
  · simp [hnv] at hb

theorem comps_names_list (f : Fld) : (comps f).map (fun a => a.name) = if 1 < f.nvdim then f.vdims.getD [] else [] := by
  unfold comps
  split
  · rw [List.map_map]
    have : ((fun a : VArr => a.name) ∘ compVArr f (f.vdims.getD [])) = id := by funext l; rfl
    rw [this]; simp
  · rfl

/-- **`to_vtk`, exactly**: three-dimensional fields that are labelled when they have more than one component are
converted, to `n + 1` points per axis, the mesh vertices and the assembled cell data -/
theorem toVtk_ok_iff (f : Fld) (g : Grid) :
    toVtk f = .ok g ↔ f.mesh.region.ndim = 3 ∧ ¬ (1 < f.nvdim ∧ f.vdims = none) ∧
      g = { dims := f.mesh.n.map (· + 1), coords := tab 3 fun a => f.mesh.vertices.getD a [], cell := cellData f } := by
  unfold toVtk
  rw [guard_ok_iff, guard_ok_iff, not_not, Except.ok.injEq, eq_comm (a := g)]

/-- the grid `to_vtk` builds for a field on an `nx × ny × nz` mesh -/
def gridOf (f : Fld) (nx ny nz : Nat) : Grid :=
  { dims := [nx + 1, ny + 1, nz + 1], coords := tab 3 fun a => f.mesh.vertices.getD a [], cell := cellData f }

/-- `WF` is `WFc` plus: no label is `norm`, `field` or `valid` -/
theorem wf_wfc (f : Fld) (nx ny nz : Nat) (h : WF f nx ny nz) : WFc f nx ny nz :=
  ⟨h.mesh, h.n, h.dshape, h.vshape, h.nv, fun h1 => by
    obtain ⟨vs, a, b, c, _⟩ := h.labels h1
    exact ⟨vs, a, b, c⟩⟩

theorem toVtk_okc (f : Fld) (nx ny nz : Nat) (h : WFc f nx ny nz) : toVtk f = .ok (gridOf f nx ny nz) := by
  obtain ⟨hnd, _⟩ := mesh_axes f.mesh nx ny nz h.mesh h.n
  refine (toVtk_ok_iff f _).mpr ⟨hnd, fun ⟨h1, h2⟩ => ?_, by rw [h.n]; rfl⟩
  obtain ⟨vs, hvs, _⟩ := h.labels h1
  rw [h2] at hvs; cases hvs

theorem toVtk_gridc (f : Fld) (nx ny nz : Nat) (h : WFc f nx ny nz) (g : Grid) (hg : toVtk f = .ok g) :
    g = gridOf f nx ny nz :=
  (Except.ok.inj ((toVtk_okc f nx ny nz h).symm.trans hg)).symm

/-- `toVtk_okc` with the cell data spelt out (`cellData_eq`) -/
theorem toVtk_ok (f : Fld) (nx ny nz : Nat) (h : WF f nx ny nz) :
    toVtk f = .ok { dims := [nx + 1, ny + 1, nz + 1],
                    coords := tab 3 fun a => f.mesh.vertices.getD a [],
                    cell := normVArr f :: (comps f ++ [fieldVArr f, validVArr f]) } := by
  rw [toVtk_okc f nx ny nz (wf_wfc f nx ny nz h), gridOf, cellData_eq f nx ny nz h]

theorem toVtk_grid (f : Fld) (nx ny nz : Nat) (h : WF f nx ny nz) (g : Grid) (hg : toVtk f = .ok g) :
    g = { dims := [nx + 1, ny + 1, nz + 1], coords := tab 3 fun a => f.mesh.vertices.getD a [],
          cell := normVArr f :: (comps f ++ [fieldVArr f, validVArr f]) } :=
  (Except.ok.inj ((toVtk_ok f nx ny nz h).symm.trans hg)).symm

theorem arr_norm (f : Fld) (nx ny nz : Nat) (h : WF f nx ny nz) (g : Grid) (hg : toVtk f = .ok g) :
    g.arr "norm" = some (normVArr f) := by
  obtain rfl := toVtk_grid f nx ny nz h g hg
  simp [Grid.arr, normVArr]

/-! ## the arrays as tables over the cells -/

theorem array4_shape (f : Fld) (nx ny nz : Nat) (hs : f.data.shape = [nx, ny, nz]) :
    (array4 f).shape = [nx, ny, nz, f.nvdim] := by
  simp [array4, hs]

theorem array4_get (f : Fld) (nx ny nz : Nat) (hs : f.data.shape = [nx, ny, nz]) (i j k c : Nat) :
    (array4 f).get [i, j, k, c] = (f.data.get [i, j, k]).getD c 0 := by
  simp [array4, hs]

theorem fieldVArr_flat (f : Fld) : (fieldVArr f).vals = flat4 (array4 f) := by rw [fieldVArr]

/-- a `(*n, 1)` array flattened: one entry per cell, x fastest -/
theorem flat4_scalar (a : NDA Rat) (nx ny nz : Nat) (hs : a.shape = [nx, ny, nz, 1]) :
    flat4 a = tab (natProd [nx, ny, nz]) fun t => a.get (unflatF [nx, ny, nz] t ++ [0]) := by
  rw [flat4_eq a nx ny nz 1 hs, Nat.mul_one]
  exact tab_congr _ _ _ fun q _ => by rw [Nat.div_one, Nat.mod_one]

theorem fieldVArr_vals (f : Fld) (nx ny nz : Nat) (hs : f.data.shape = [nx, ny, nz]) :
    (fieldVArr f).vals = tab (natProd [nx, ny, nz] * f.nvdim) fun q =>
      (f.data.get (unflatF [nx, ny, nz] (q / f.nvdim))).getD (q % f.nvdim) 0 := by
  rw [fieldVArr_flat, flat4_eq (array4 f) nx ny nz f.nvdim (array4_shape f nx ny nz hs)]
  refine tab_congr _ _ _ fun q _ => ?_
  obtain ⟨i, j, k, e⟩ := unflatF3_form nx ny nz (q / f.nvdim)
  rw [e]
  exact array4_get f nx ny nz hs i j k _

theorem normVArr_vals (f : Fld) (nx ny nz : Nat) (hs : f.data.shape = [nx, ny, nz]) :
    (normVArr f).vals = tab (natProd [nx, ny, nz]) fun t => sumSq (f.data.get (unflatF [nx, ny, nz] t)) f.nvdim := by
  show flat4 (normSqArr f) = _
  rw [flat4_scalar _ nx ny nz (by rw [normSqArr, hs]; rfl)]
  refine tab_congr _ _ _ fun t _ => ?_
  obtain ⟨i, j, k, e⟩ := unflatF3_form nx ny nz t
  rw [e]
  simp only [normSqArr, hs]
  rfl

theorem validVArr_vals (f : Fld) (nx ny nz : Nat) (hs : f.valid.shape = [nx, ny, nz]) :
    (validVArr f).vals = tab (natProd [nx, ny, nz]) fun t => if f.valid.get (unflatF [nx, ny, nz] t) then 1 else 0 := by
  exact flat3_eq (validInt f) nx ny nz hs

theorem compVArr_vals (f : Fld) (nx ny nz : Nat) (hs : f.data.shape = [nx, ny, nz]) (vs : List String) (l : String) :
    (compVArr f vs l).vals = tab (natProd [nx, ny, nz]) fun t =>
      (f.data.get (unflatF [nx, ny, nz] t)).getD ((indexOf? vs l).getD 0) 0 := by
  show flat4 (compArr f ((indexOf? vs l).getD 0)) = _
  rw [flat4_scalar _ nx ny nz (by rw [compArr, hs]; rfl)]
  refine tab_congr _ _ _ fun t _ => ?_
  obtain ⟨i, j, k, e⟩ := unflatF3_form nx ny nz t
  rw [e]
  simp only [compArr, hs]
  exact array4_get f nx ny nz hs i j k _

theorem fieldVArr_length (f : Fld) (nx ny nz : Nat) (hs : f.data.shape = [nx, ny, nz]) :
    (fieldVArr f).vals.length = natProd [nx, ny, nz] * f.nvdim := by
  rw [fieldVArr_vals f nx ny nz hs, tab_length]

theorem validVArr_length (f : Fld) (nx ny nz : Nat) (hs : f.valid.shape = [nx, ny, nz]) :
    (validVArr f).vals.length = natProd [nx, ny, nz] := by
  rw [validVArr_vals f nx ny nz hs, tab_length]

theorem cellData_sizes (f : Fld) (nx ny nz : Nat) (h : WF f nx ny nz) (a : VArr)
    (ha : a ∈ normVArr f :: (comps f ++ [fieldVArr f, validVArr f])) :
    a.vals.length = natProd [nx, ny, nz] * a.ncomp := by
  simp only [List.mem_cons, List.mem_append, List.mem_nil_iff, or_false] at ha
  rcases ha with rfl | ha | rfl | rfl
  · rw [normVArr_vals f nx ny nz h.dshape, tab_length]; exact (Nat.mul_one _).symm
  · unfold comps at ha
    split at ha
    · obtain ⟨l, _, rfl⟩ := List.mem_map.mp ha
      rw [compVArr_vals f nx ny nz h.dshape, tab_length]; exact (Nat.mul_one _).symm
    · cases ha
  · exact fieldVArr_length f nx ny nz h.dshape
  · rw [validVArr_length f nx ny nz h.vshape]; exact (Nat.mul_one _).symm

/-! ## tuples at the structured id of a cell -/

theorem validVArr_getD (f : Fld) (nx ny nz : Nat) (hs : f.valid.shape = [nx, ny, nz]) (idx : List Nat)
    (hi : inRange [nx, ny, nz] idx = true) :
    (validVArr f).vals.getD (flatF [nx, ny, nz] idx) 0 = if f.valid.get idx then 1 else 0 := by
  rw [validVArr_vals f nx ny nz hs, getD_tab _ _ _ _ (flatF_lt _ _ hi), unflatF_flatF _ _ hi]

theorem tuple_scalar (a : VArr) (ns idx : List Nat) (g : List Nat → Rat) (hc : a.ncomp = 1)
    (hv : a.vals = tab (natProd ns) fun t => g (unflatF ns t)) (hi : inRange ns idx = true) :
    a.tuple (flatF ns idx) = [g idx] := by
  unfold VArr.tuple
  rw [hc, hv]
  show [(tab _ _).getD (flatF ns idx * 1 + 0) 0] = _
  rw [Nat.mul_one, Nat.add_zero, getD_tab _ _ _ _ (flatF_lt _ _ hi), unflatF_flatF _ _ hi]

theorem field_tuple (f : Fld) (nx ny nz : Nat) (hs : f.data.shape = [nx, ny, nz]) (idx : List Nat)
    (hi : inRange [nx, ny, nz] idx = true) :
    (fieldVArr f).tuple (flatF [nx, ny, nz] idx) = tab f.nvdim fun c => (f.data.get idx).getD c 0 := by
  obtain ⟨i, j, k, rfl, _, _, _⟩ := inRange3_cases nx ny nz idx hi
  unfold VArr.tuple
  rw [fieldVArr_flat, show (fieldVArr f).ncomp = f.nvdim by rw [fieldVArr]]
  refine tab_congr _ _ _ fun c hc => ?_
  rw [flat4_getD (array4 f) nx ny nz f.nvdim (array4_shape f nx ny nz hs) _ hi c hc]
  exact array4_get f nx ny nz hs i j k c

theorem norm_tuple (f : Fld) (nx ny nz : Nat) (hs : f.data.shape = [nx, ny, nz]) (idx : List Nat)
    (hi : inRange [nx, ny, nz] idx = true) :
    (normVArr f).tuple (flatF [nx, ny, nz] idx) = [sumSq (f.data.get idx) f.nvdim] :=
  tuple_scalar _ _ idx (fun i => sumSq (f.data.get i) f.nvdim) (by rw [normVArr]) (normVArr_vals f nx ny nz hs) hi

theorem comp_tuple (f : Fld) (nx ny nz : Nat) (hs : f.data.shape = [nx, ny, nz]) (vs : List String) (l : String)
    (idx : List Nat) (hi : inRange [nx, ny, nz] idx = true) :
    (compVArr f vs l).tuple (flatF [nx, ny, nz] idx) = [(f.data.get idx).getD ((indexOf? vs l).getD 0) 0] :=
  tuple_scalar _ _ idx (fun i => (f.data.get i).getD ((indexOf? vs l).getD 0) 0) (by rw [compVArr])
    (compVArr_vals f nx ny nz hs vs l) hi

theorem valid_tuple (f : Fld) (nx ny nz : Nat) (hs : f.valid.shape = [nx, ny, nz]) (idx : List Nat)
    (hi : inRange [nx, ny, nz] idx = true) :
    (validVArr f).tuple (flatF [nx, ny, nz] idx) = [if f.valid.get idx then 1 else 0] :=
  tuple_scalar _ _ idx (fun i => if f.valid.get i then 1 else 0) (by rw [validVArr]) (validVArr_vals f nx ny nz hs) hi

/-! ## the squared norm -/

/-- the squared norm as a `List.sum` (the model folds from 0): the form in which Mathlib's lemmas on sums of
non-negative numbers apply -/
theorem sumSq_eq_sum (v : List Rat) (nv : Nat) : sumSq v nv = (tab nv fun c => v.getD c 0 * v.getD c 0).sum :=
  List.sum_eq_foldl.symm

theorem sumSq_terms_nonneg (v : List Rat) (nv : Nat) : ∀ y ∈ tab nv fun c => v.getD c 0 * v.getD c 0, (0 : Rat) ≤ y := by
  intro y hy
  obtain ⟨c, _, rfl⟩ := (mem_tab _ _ _).mp hy
  exact mul_self_nonneg _

theorem sumSq_nonneg (v : List Rat) (nv : Nat) : 0 ≤ sumSq v nv := by
  rw [sumSq_eq_sum]
  exact List.sum_nonneg (sumSq_terms_nonneg v nv)

theorem sumSq_eq_zero (v : List Rat) (nv : Nat) : sumSq v nv = 0 ↔ ∀ c, c < nv → v.getD c 0 = 0 := by
  rw [sumSq_eq_sum]
  constructor
  · intro h c hc
    have := List.single_le_sum (sumSq_terms_nonneg v nv) _ ((mem_tab _ _ _).mpr ⟨c, hc, rfl⟩)
    exact mul_self_eq_zero.mp (le_antisymm (this.trans h.le) (mul_self_nonneg _))
  · intro h
    refine List.sum_eq_zero fun y hy => ?_
    obtain ⟨c, hc, rfl⟩ := (mem_tab _ _ _).mp hy
    rw [h c hc, mul_zero]

theorem sumSq_one (v : List Rat) : sumSq v 1 = v.getD 0 0 * v.getD 0 0 := by
  simp [sumSq, tab]

theorem sumSq_congr (v w : List Rat) (nv : Nat) (h : ∀ c, c < nv → v.getD c 0 = w.getD c 0) : sumSq v nv = sumSq w nv := by
  unfold sumSq
  congr 1
  apply tab_congr
  intro c hc
  rw [h c hc]

theorem root_sumSq_one (v : List Rat) (r : Rat) (hr : 0 ≤ r) (h : r * r = sumSq v 1) : r = |v.getD 0 0| :=
  (mul_self_inj_of_nonneg hr (abs_nonneg _)).mp (by rw [h, sumSq_one, abs_mul_abs_self])

/-! ## equal cells, equal grids -/

theorem varr_ext (a b : VArr) (h1 : a.name = b.name) (h2 : a.ncomp = b.ncomp) (h3 : a.int = b.int) (h4 : a.vals = b.vals) :
    a = b := by
  cases a; cases b; simp_all

/-- two well-formed fields on meshes with the same corners and counts, with the same labels and
cell-wise the same first `nvdim` entries and flags, are converted to the same grid -/
theorem toVtk_congr (f f' : Fld) (nx ny nz : Nat) (h : WF f nx ny nz) (h' : WF f' nx ny nz)
    (hp1 : f'.mesh.region.pmin = f.mesh.region.pmin) (hp2 : f'.mesh.region.pmax = f.mesh.region.pmax)
    (hnv : f'.nvdim = f.nvdim) (hvd : 1 < f.nvdim → f'.vdims = f.vdims)
    (hdata : ∀ idx, inRange [nx, ny, nz] idx = true → ∀ c, c < f.nvdim →
      (f'.data.get idx).getD c 0 = (f.data.get idx).getD c 0)
    (hvalid : ∀ idx, inRange [nx, ny, nz] idx = true → f'.valid.get idx = f.valid.get idx) :
    toVtk f' = toVtk f := by
  obtain ⟨hx, hy, hz⟩ := counts_pos f.mesh nx ny nz h.mesh h.n
  have hir := fun t => unflatF3_inRange nx ny nz t hx hy hz
  have hverts : f'.mesh.vertices = f.mesh.vertices := C01.vertices_congr _ _ hp1 hp2 (by rw [h'.n, h.n])
  -- every array is a table over the cells (`…_vals`), so equal cells give equal arrays
  have hnorm : normVArr f' = normVArr f := by
    refine varr_ext _ _ (by rw [normVArr, normVArr]) (by rw [normVArr, normVArr]) (by rw [normVArr, normVArr]) ?_
    rw [normVArr_vals f' nx ny nz h'.dshape, normVArr_vals f nx ny nz h.dshape, hnv]
    exact tab_congr _ _ _ fun t _ => sumSq_congr _ _ _ (hdata _ (hir t))
  have hfield : fieldVArr f' = fieldVArr f := by
    refine varr_ext _ _ (by rw [fieldVArr, fieldVArr]) (by rw [fieldVArr, fieldVArr]; exact hnv) (by rw [fieldVArr, fieldVArr]) ?_
    rw [fieldVArr_vals f' nx ny nz h'.dshape, fieldVArr_vals f nx ny nz h.dshape, hnv]
    exact tab_congr _ _ _ fun q _ => hdata _ (hir _) _ (Nat.mod_lt _ h.nv)
  have hval : validVArr f' = validVArr f := by
    refine varr_ext _ _ (by rw [validVArr, validVArr]) (by rw [validVArr, validVArr]) (by rw [validVArr, validVArr]) ?_
    rw [validVArr_vals f' nx ny nz h'.vshape, validVArr_vals f nx ny nz h.vshape]
    exact tab_congr _ _ _ fun t _ => by rw [hvalid _ (hir t)]
  have hcomps : comps f' = comps f := by
    unfold comps
    rw [hnv]
    split
    · rename_i h1
      obtain ⟨vs, hvs, hlen, hd, _⟩ := h.labels h1
      rw [hvd h1, hvs, Option.getD_some]
      refine List.map_congr_left fun l hl => ?_
      obtain ⟨c, hidx⟩ := exists_indexOf?_of_mem vs l hl
      have hc := (indexOf?_some vs l c hidx).1
      refine varr_ext _ _ (by rw [compVArr, compVArr]) (by rw [compVArr, compVArr]) (by rw [compVArr, compVArr]) ?_
      rw [compVArr_vals f' nx ny nz h'.dshape, compVArr_vals f nx ny nz h.dshape, hidx]
      exact tab_congr _ _ _ fun t _ => hdata _ (hir t) c (by omega)
    · rfl
  rw [toVtk_ok f nx ny nz h, toVtk_ok f' nx ny nz h', hverts, hnorm, hfield, hval, hcomps]

end DFV.C16
