import DFV.Lemmas.C15Hist
/-!
Acceptance as an equivalence: a norm / value / validity specification is accepted **iff** it is
well-shaped (`…Accepted`), statement by statement and over whole histories (mesh and component count
never change, so the conditions are read off the initial field); `…WF` suffices.  The constructors as
compositions: `mk?` is a history of three statements, `mkFull?` is `mk?` followed by the label and
mapping setters, and `mk?_arrays` is what both getters end with.
-/
namespace DFV.C15
open DFV

/-- shapes `_as_array(·, nvdim=1)` accepts for an array-like: the mesh's shape, or last axis 1
and broadcastable to `(*mesh.n, 1)` -/
def shapeAccepted (m : Mesh) (s : List Nat) : Prop :=
  s = m.n ∨ (s.getLast? = some 1 ∧ bcastOk s (m.n ++ [1]) = true)

/-- norm specifications the setter accepts (exactly, see `asArray1_ok_iff`) -/
def NSpec.Accepted (m : Mesh) : NSpec → Prop
  | .const _ => True
  | .fn _ => True
  | .arr a => shapeAccepted m a.shape
  | .field h => h.mesh.region.containsReg m.region = true ∧ h.nvdim = 1 ∧
      h.mesh.region.dims = m.region.dims
  | .spec s => ∃ a, C02.asArray (fun v => v == 0) s m 1 = .ok a   -- `C02.Spec.WF` on aligned subregions: `C02.spec_ok_iff`

def VSpec.Accepted (m : Mesh) (nvdim : Nat) : VSpec → Prop
  | .scalar c => ¬(1 < nvdim ∧ c ≠ 0)
  | .vec v => (nvdim = 1 ∧ m.n = [v.length]) ∨ v.length = nvdim
  | .arr a => a.shape = m.n ∧ (indicesC m.n).all (fun i => (a.get i).length == nvdim) = true
  | .fn g => (indicesC m.n).all (fun i => (g (m.centre i)).length == nvdim) = true

def ValidSpec.Accepted (m : Mesh) : ValidSpec → Prop
  | .arr a => shapeAccepted m a.shape
  | _ => True

def Step.Accepted (m : Mesh) (nvdim : Nat) : Step → Prop
  | .setNorm none => True
  | .setNorm (some s) => s.Accepted m
  | .update v => v.Accepted m nvdim
  | .setValid s => s.Accepted m

theorem bcastArr_ok_iff {α : Type} (m : Mesh) (a : NDA α) :
    (∃ t, bcastArr m a = .ok t) ↔ shapeAccepted m a.shape := by
  unfold bcastArr shapeAccepted
  by_cases h1 : a.shape = m.n
  · rw [if_pos h1]; exact ⟨fun _ => Or.inl h1, fun _ => ⟨_, rfl⟩⟩
  · rw [if_neg h1]
    simp only [guard_ok_iff, Except.ok.injEq, exists_and_left, exists_eq', and_true,
      not_not, Bool.not_eq_true', Bool.not_eq_false, h1, false_or]

theorem asArray1_ok_iff (m : Mesh) (s : NSpec) : (∃ t, asArray1 m s = .ok t) ↔ s.Accepted m := by
  cases s with
  | const c => exact ⟨fun _ => trivial, fun _ => ⟨_, rfl⟩⟩
  | fn g => exact ⟨fun _ => trivial, fun _ => ⟨_, rfl⟩⟩
  | arr a => exact bcastArr_ok_iff m a
  | field h =>
    simp only [asArray1, NSpec.Accepted, fieldAsArray1_ok_iff, exists_and_left, exists_eq, and_true]
  | spec s =>
    simp only [asArray1, NSpec.Accepted]
    cases C02.asArray (fun v => v == 0) s m 1 with
    | error e => simp
    | ok a => simp

/-- the error a refused norm field raises is a `ValueError` exactly when the region is not
contained or the field is not a scalar field -/
theorem asArray1_field_value_iff (m : Mesh) (h : Fld) :
    asArray1 m (.field h) = .error .value ↔
      h.mesh.region.containsReg m.region = false ∨ h.nvdim ≠ 1 := by
  -- the three tests of `fieldAsArray1` in their order: containment and component count raise
  -- `ValueError`, differing axis names something else, and past all three the call succeeds
  simp only [asArray1, fieldAsArray1]
  by_cases h1 : h.mesh.region.containsReg m.region = true
  · by_cases h2 : h.nvdim = 1
    · by_cases h3 : h.mesh.region.dims = m.region.dims
      · simp [h1, h2, h3]
      · simp [h1, h2, h3]
    · simp [h1, h2]
  · simp [h1]

theorem valuesOf_ok_iff (m : Mesh) (nvdim : Nat) (v : VSpec) :
    (∃ a, valuesOf m nvdim v = .ok a) ↔ v.Accepted m nvdim := by
  cases v with
  | scalar c =>
    simp only [valuesOf, VSpec.Accepted, guard_ok_iff, Except.ok.injEq, exists_and_left, exists_eq',
      and_true]
  | vec v =>
    simp only [valuesOf, VSpec.Accepted]
    by_cases h1 : nvdim = 1 ∧ m.n = [v.length]
    · rw [if_pos h1]; exact ⟨fun _ => Or.inl h1, fun _ => ⟨_, rfl⟩⟩
    · rw [if_neg h1]
      simp only [guard_ok_iff, Except.ok.injEq, exists_and_left, exists_eq', and_true,
        not_not, h1, false_or]
  | arr a =>
    simp only [valuesOf, VSpec.Accepted, guard_ok_iff, Except.ok.injEq, exists_and_left, exists_eq',
      and_true, not_not, Bool.not_eq_true', Bool.not_eq_false]
  | fn g =>
    simp only [valuesOf, VSpec.Accepted, guard_ok_iff, Except.ok.injEq, exists_and_left, exists_eq',
      and_true, Bool.not_eq_true', Bool.not_eq_false]

theorem validOf_ok_iff (sqrt : Rat → Rat) (atol : Rat) (f : Fld) (s : ValidSpec) :
    (∃ v, validOf sqrt atol f s = .ok v) ↔ s.Accepted f.mesh := by
  cases s with
  | none => exact ⟨fun _ => trivial, fun _ => ⟨_, rfl⟩⟩
  | all b => exact ⟨fun _ => trivial, fun _ => ⟨_, rfl⟩⟩
  | byNorm => exact ⟨fun _ => trivial, fun _ => ⟨_, rfl⟩⟩
  | arr a => exact bcastArr_ok_iff f.mesh a

theorem setNorm_ok_iff (sqrt : Rat → Rat) (f : Fld) (o : Option NSpec) :
    (∃ g, setNorm sqrt f o = .ok g) ↔ ∀ s, o = some s → s.Accepted f.mesh := by
  cases o with
  | none => exact ⟨fun _ s hs => (by cases hs), fun _ => ⟨f, rfl⟩⟩
  | some s =>
    constructor
    · rintro ⟨g, hg⟩ s' hs'
      cases hs'
      obtain ⟨t, ht, _⟩ := setNorm_some_ok hg
      exact (asArray1_ok_iff f.mesh s).mp ⟨t, ht⟩
    · intro h
      obtain ⟨t, ht⟩ := (asArray1_ok_iff f.mesh s).mpr (h s rfl)
      exact ⟨_, setNorm_of_target ht⟩

theorem step_ok_iff (sqrt : Rat → Rat) (atol : Rat) (f : Fld) (s : Step) :
    (∃ g, step sqrt atol f s = .ok g) ↔ s.Accepted f.mesh f.nvdim := by
  cases s with
  | setNorm o =>
    cases o with
    | none => exact ⟨fun _ => trivial, fun _ => ⟨f, rfl⟩⟩
    | some s =>
      show (∃ g, setNorm sqrt f (some s) = .ok g) ↔ s.Accepted f.mesh
      rw [setNorm_ok_iff]
      exact ⟨fun h => h s rfl, fun h s' hs' => by cases hs'; exact h⟩
  | update v =>
    show (∃ g, updateValues f v = .ok g) ↔ v.Accepted f.mesh f.nvdim
    rw [← valuesOf_ok_iff]
    exact ⟨fun ⟨g, hg⟩ => let ⟨a, ha, _⟩ := updateValues_ok hg; ⟨a, ha⟩,
      fun ⟨a, ha⟩ => ⟨_, updateValues_of_values ha⟩⟩
  | setValid s =>
    show (∃ g, setValid sqrt atol f s = .ok g) ↔ s.Accepted f.mesh
    rw [← validOf_ok_iff sqrt atol f s]
    exact ⟨fun ⟨g, hg⟩ => let ⟨v, hv, _⟩ := setValid_ok hg; ⟨v, hv⟩,
      fun ⟨v, hv⟩ => ⟨_, setValid_of_valid hv⟩⟩

theorem run_ok_iff (sqrt : Rat → Rat) (atol : Rat) (hist : List Step) (f : Fld) :
    (∃ g, run sqrt atol f hist = .ok g) ↔ ∀ s ∈ hist, s.Accepted f.mesh f.nvdim := by
  induction hist generalizing f with
  | nil => exact ⟨fun _ s hs => (by cases hs), fun _ => ⟨f, rfl⟩⟩
  | cons s rest ih =>
    constructor
    · rintro ⟨g, hg⟩ s' hs'
      obtain ⟨f1, h1, hr⟩ := run_cons_ok hg
      obtain ⟨e1, e2, _⟩ := step_frame h1
      rcases List.mem_cons.mp hs' with rfl | hmem
      · exact (step_ok_iff sqrt atol f s').mp ⟨f1, h1⟩
      · have := (ih f1).mp ⟨g, hr⟩ s' hmem
        rwa [e1, e2] at this
    · intro h
      obtain ⟨f1, h1⟩ := (step_ok_iff sqrt atol f s).mpr (h s List.mem_cons_self)
      obtain ⟨e1, e2, _⟩ := step_frame h1
      obtain ⟨g, hg⟩ := (ih f1).mpr fun s' hs' => by
        rw [e1, e2]; exact h s' (List.mem_cons_of_mem _ hs')
      exact ⟨g, by rw [run_cons_of rest h1]; exact hg⟩

/-! ### the constructor is a history; acceptance of the constructor -/

/-- `Field(mesh, nvdim, value, norm=…, valid=…)` is the three-statement history values → norm →
validity on the blank field, then the default labels are attached -/
theorem mk?_eq_run (sqrt : Rat → Rat) (atol : Rat) (m : Mesh) (nvdim : Nat) (hn : 1 ≤ nvdim) (value : VSpec)
    (nrm : Option NSpec) (valid : ValidSpec) (unit : Option String) :
    mk? sqrt atol m nvdim value nrm valid unit =
      match run sqrt atol (blank m nvdim unit) [.update value, .setNorm nrm, .setValid valid] with
      | .error e => .error e
      | .ok f2 => .ok { f2 with vdims := Fld.defaultVdims nvdim, vmap := defaultVmap nvdim m.region.dims } := by
  unfold mk?
  rw [if_neg (by omega)]
  simp only [run, step, blank]
  cases updateValues (Fld.mk m nvdim ⟨m.n, fun _ => []⟩ ⟨m.n, fun _ => true⟩ none [] unit) value with
  | error e => rfl
  | ok f0 =>
    simp only
    cases setNorm sqrt f0 nrm with
    | error e => rfl
    | ok f1 =>
      simp only
      cases setValid sqrt atol f1 valid with
      | error e => rfl
      | ok f2 => rfl

theorem mk_ok {sqrt : Rat → Rat} {atol : Rat} {m : Mesh} {nvdim : Nat} {value : VSpec}
    {nrm : Option NSpec} {valid : ValidSpec} {unit : Option String} {g : Fld}
    (h : mk? sqrt atol m nvdim value nrm valid unit = .ok g) :
    1 ≤ nvdim ∧ ∃ a, valuesOf m nvdim value = .ok a ∧
      ∃ f1, setNorm sqrt { blank m nvdim unit with data := a } nrm = .ok f1 ∧
        ∃ vd, validOf sqrt atol f1 valid = .ok vd ∧
          g = { f1 with valid := vd, vdims := Fld.defaultVdims nvdim,
                        vmap := defaultVmap nvdim m.region.dims } := by
  have hn : 1 ≤ nvdim := by
    by_contra hlt
    unfold mk? at h
    rw [if_pos (by omega)] at h
    cases h
  rw [mk?_eq_run sqrt atol m nvdim hn] at h
  cases hr : run sqrt atol (blank m nvdim unit) [.update value, .setNorm nrm, .setValid valid] with
  | error e => rw [hr] at h; cases h
  | ok f2 =>
    rw [hr] at h
    obtain ⟨f0, h0, hr⟩ := run_cons_ok hr
    obtain ⟨a, ha, rfl⟩ := updateValues_ok (show updateValues _ value = .ok f0 from h0)
    obtain ⟨f1, h1, hr⟩ := run_cons_ok hr
    obtain ⟨f2', h2, hr⟩ := run_cons_ok hr
    obtain ⟨vd, hvd, rfl⟩ := setValid_ok (show setValid sqrt atol f1 valid = .ok f2' from h2)
    cases hr; cases h
    exact ⟨hn, a, ha, f1, h1, vd, hvd, rfl⟩

theorem mk_ok_iff (sqrt : Rat → Rat) (atol : Rat) (m : Mesh) (nvdim : Nat) (value : VSpec) (nrm : Option NSpec)
    (valid : ValidSpec) (unit : Option String) :
    (∃ g, mk? sqrt atol m nvdim value nrm valid unit = .ok g) ↔
      1 ≤ nvdim ∧ value.Accepted m nvdim ∧ (∀ s, nrm = some s → s.Accepted m) ∧ valid.Accepted m := by
  have hsteps : (∀ s ∈ [Step.update value, .setNorm nrm, .setValid valid], s.Accepted m nvdim) ↔
      value.Accepted m nvdim ∧ (∀ s, nrm = some s → s.Accepted m) ∧ valid.Accepted m := by
    simp only [List.mem_cons, List.not_mem_nil, or_false, forall_eq_or_imp, forall_eq]
    cases nrm <;> simp [Step.Accepted]
  constructor
  · rintro ⟨g, hg⟩
    have hn := (mk_ok hg).1
    rw [mk?_eq_run sqrt atol m nvdim hn] at hg
    refine ⟨hn, hsteps.mp ((run_ok_iff sqrt atol _ (blank m nvdim unit)).mp ?_)⟩
    cases hr : run sqrt atol (blank m nvdim unit) [.update value, .setNorm nrm, .setValid valid] with
    | error e => rw [hr] at hg; cases hg
    | ok f2 => exact ⟨f2, rfl⟩
  · rintro ⟨hn, h⟩
    rw [mk?_eq_run sqrt atol m nvdim hn]
    obtain ⟨g, hg⟩ := (run_ok_iff sqrt atol _ (blank m nvdim unit)).mpr (hsteps.mpr h)
    rw [hg]
    exact ⟨_, rfl⟩

/-! ### the sufficient conditions `…WF` (Lemmas/C15Hist) imply acceptance -/

theorem NSpec.WF.accepted {m : Mesh} (hm : m.Inv) {s : NSpec} (h : s.WF m) : s.Accepted m := by
  cases s with
  | const c => trivial
  | fn g => trivial
  | arr a =>
    rcases h with h | h
    · exact Or.inl h
    · exact Or.inr ⟨by rw [h]; simp, by rw [h, bcastOk_eq]; exact C02.bcastOk_self _⟩
  | field f =>
    obtain ⟨rfl, hnv⟩ := h
    exact ⟨C01.containsReg_self _ hm.1, hnv, rfl⟩
  | spec s => exact h

theorem VSpec.WF.accepted {m : Mesh} {nvdim : Nat} {v : VSpec} (h : v.WF m nvdim) : v.Accepted m nvdim := by
  cases v with
  | scalar c =>
    rintro ⟨h1, h2⟩
    rcases h with h | h
    · omega
    · exact h2 h
  | vec v => exact Or.inr h
  | arr a => exact ⟨h.1, List.all_eq_true.mpr fun i _ => by simp [h.2 i]⟩
  | fn g => exact List.all_eq_true.mpr fun i _ => by simp [h (m.centre i)]

theorem ValidSpec.WF.accepted {m : Mesh} {s : ValidSpec} (h : s.WF m) : s.Accepted m := by
  cases s with
  | arr a => exact Or.inl h
  | _ => trivial

theorem Step.WF.accepted {m : Mesh} {nvdim : Nat} (hm : m.Inv) {s : Step} (h : s.WF m nvdim) :
    s.Accepted m nvdim := by
  cases s with
  | setNorm o =>
    cases o with
    | none => trivial
    | some s => exact NSpec.WF.accepted hm h
  | update v => exact VSpec.WF.accepted h
  | setValid s => exact ValidSpec.WF.accepted h

/-! ### the constructor with labels and mapping -/

theorem vdimsSet_ok_iff (nvdim : Nat) (o : Option (List String)) :
    (∃ vd, vdimsSet nvdim o = .ok vd) ↔ ∀ l, o = some l → l = [] ∨ (l.length = nvdim ∧ hasDup l = false) := by
  cases o with
  | none => exact ⟨fun _ l hl => (by cases hl), fun _ => ⟨_, rfl⟩⟩
  | some l =>
    cases l with
    | nil => exact ⟨fun _ l hl => (by cases hl; exact Or.inl rfl), fun _ => ⟨_, rfl⟩⟩
    | cons x xs =>
      simp only [vdimsSet, guard_ok_iff, Except.ok.injEq, exists_and_left, exists_eq', and_true,
        not_not, Bool.not_eq_true, Option.some.injEq, forall_eq', reduceCtorEq, false_or]

theorem orientVdims_some {f : Fld} {l : List String} (h : f.vdims = some l) : orientVdims f = some l := by
  unfold orientVdims; rw [h]

theorem orientVdims_none {f : Fld} (h : f.vdims = none) : orientVdims f = Fld.defaultVdims f.nvdim := by
  unfold orientVdims; rw [h]

theorem orientVdims_idem (f g : Fld) (hn : g.nvdim = f.nvdim) (hv : g.vdims = orientVdims f) :
    orientVdims g = orientVdims f := by
  cases h : orientVdims f with
  | some l => exact orientVdims_some (hv.trans h)
  | none =>
    rw [orientVdims_none (hv.trans h), hn]
    cases hf : f.vdims with
    | some l => rw [orientVdims_some hf] at h; cases h
    | none => rw [← orientVdims_none hf, h]

/-- a live field's labels (none, or as many distinct labels as components) pass the setter
and come back as `orientVdims` says -/
theorem vdimsSet_live (f : Fld)
    (hl : ∀ l, f.vdims = some l → l ≠ [] ∧ l.length = f.nvdim ∧ hasDup l = false) :
    vdimsSet f.nvdim f.vdims = .ok (orientVdims f) := by
  cases hv : f.vdims with
  | none => rw [orientVdims_none hv]; rfl
  | some l =>
    obtain ⟨h1, h2, h3⟩ := hl l hv
    rw [orientVdims_some hv]
    cases l with
    | nil => exact absurd rfl h1
    | cons x xs =>
      simp only [vdimsSet]
      rw [if_neg (not_not.mpr h2), if_neg (by rw [h3]; simp)]

theorem vmapSet_ok_iff (nvdim : Nat) (vd : Option (List String)) (dims : List String)
    (o : Option (List (String × String))) :
    (∃ vm, vmapSet nvdim vd dims o = .ok vm) ↔
      ∀ mp, o = some mp → (mp.length = 1 ∧ nvdim = 1 ∧ vd = none) ∨ mp = [] ∨
        ∃ l, vd = some l ∧ sameKeys (mp.map (·.1)) l = true := by
  cases o with
  | none => exact ⟨fun _ mp h => (by cases h), fun _ => ⟨_, rfl⟩⟩
  | some mp =>
    simp only [vmapSet, Option.some.injEq, forall_eq']
    by_cases h1 : mp.length = 1 ∧ nvdim = 1 ∧ vd = none
    · simp [h1]
    · have h2 : 0 < mp.length ↔ mp ≠ [] := List.length_pos_iff
      by_cases hne : mp = []
      · simp [hne]
      · rw [if_neg h1, if_pos (h2.mpr hne)]
        cases vd with
        | none => simpa [hne] using fun a b => h1 ⟨a, b, rfl⟩
        | some l => by_cases h3 : sameKeys (mp.map (·.1)) l = true <;> simp [hne, h3]

theorem vmapSet_some_ok (nvdim : Nat) (vd : Option (List String)) (dims : List String)
    (mp : List (String × String))
    (h : mp = [] ∨ ∃ l, vd = some l ∧ sameKeys (mp.map (·.1)) l = true) :
    vmapSet nvdim vd dims (some mp) = .ok mp := by
  simp only [vmapSet]
  rcases h with rfl | ⟨l, rfl, hk⟩
  · simp
  · rw [if_neg (by rintro ⟨_, _, h⟩; cases h)]
    by_cases h2 : 0 < mp.length
    · rw [if_pos h2]; simp only [hk, if_true]
    · rw [if_neg h2]

/-- the full constructor is the plain one followed by the label setter and the mapping setter -/
theorem mkFull?_eq (sqrt : Rat → Rat) (atol : Rat) (m : Mesh) (nvdim : Nat) (value : VSpec)
    (nrm : Option NSpec) (valid : ValidSpec) (vdims : Option (List String))
    (vmap : Option (List (String × String))) (unit : Option String) :
    mkFull? sqrt atol m nvdim value nrm valid vdims vmap unit =
      match mk? sqrt atol m nvdim value nrm valid unit with
      | .error e => .error e
      | .ok g =>
        match vdimsSet nvdim vdims with
        | .error e => .error e
        | .ok vd =>
          match vmapSet nvdim vd m.region.dims vmap with
          | .error e => .error e
          | .ok vm => .ok { g with vdims := vd, vmap := vm } := by
  unfold mkFull? mk?
  split
  · rfl
  · cases updateValues (Fld.mk m nvdim ⟨m.n, fun _ => []⟩ ⟨m.n, fun _ => true⟩ none [] unit) value with
    | error e => rfl
    | ok f0 =>
      simp only
      cases setNorm sqrt f0 nrm with
      | error e => rfl
      | ok f1 =>
        simp only
        cases setValid sqrt atol f1 valid with
        | error e => rfl
        | ok f2 =>
          simp only
          cases vdimsSet nvdim vdims with
          | error e => rfl
          | ok vd =>
            simp only
            cases vmapSet nvdim vd m.region.dims vmap <;> rfl

theorem mkFull?_ok_iff (sqrt : Rat → Rat) (atol : Rat) (m : Mesh) (nvdim : Nat) (value : VSpec)
    (nrm : Option NSpec) (valid : ValidSpec) (vdims : Option (List String))
    (vmap : Option (List (String × String))) (unit : Option String) (g : Fld) :
    mkFull? sqrt atol m nvdim value nrm valid vdims vmap unit = .ok g ↔
      ∃ g0 ls vm, mk? sqrt atol m nvdim value nrm valid unit = .ok g0 ∧ vdimsSet nvdim vdims = .ok ls ∧
        vmapSet nvdim ls m.region.dims vmap = .ok vm ∧ g = { g0 with vdims := ls, vmap := vm } := by
  rw [mkFull?_eq]
  constructor
  · intro h
    cases h0 : mk? sqrt atol m nvdim value nrm valid unit with
    | error e => rw [h0] at h; cases h
    | ok g0 =>
      cases hls : vdimsSet nvdim vdims with
      | error e => rw [h0, hls] at h; cases h
      | ok ls =>
        cases hvm : vmapSet nvdim ls m.region.dims vmap with
        | error e => simp only [h0, hls, hvm] at h; cases h
        | ok vm => simp only [h0, hls, hvm] at h; cases h; exact ⟨g0, ls, vm, rfl, rfl, hvm, rfl⟩
  · rintro ⟨g0, ls, vm, h0, hls, hvm, rfl⟩
    simp only [h0, hls, hvm]

/-- the plain constructor on ready-made arrays: a value array with `nvdim` entries in every cell,
no norm, a validity array — what the norm getter and the orientation getter end with -/
theorem mk?_arrays (sqrt : Rat → Rat) (atol : Rat) (m : Mesh) (nvdim : Nat) (hn : 1 ≤ nvdim)
    (d : List Nat → List Rat) (hd : ∀ i ∈ indicesC m.n, (d i).length = nvdim) (v : NDA Bool) (hv : v.shape = m.n)
    (unit : Option String) :
    mk? sqrt atol m nvdim (.arr ⟨m.n, d⟩) none (.arr v) unit =
      .ok { mesh := m, nvdim := nvdim, data := ⟨m.n, d⟩, valid := ⟨m.n, v.get⟩,
            vdims := Fld.defaultVdims nvdim, vmap := defaultVmap nvdim m.region.dims, unit := unit } := by
  have hlen : (indicesC m.n).all (fun i => (d i).length == nvdim) = true :=
    List.all_eq_true.mpr fun i hi => by simp [hd i hi]
  have hup : updateValues (Fld.mk m nvdim ⟨m.n, fun _ => []⟩ ⟨m.n, fun _ => true⟩ none [] unit) (.arr ⟨m.n, d⟩) =
      .ok (Fld.mk m nvdim ⟨m.n, d⟩ ⟨m.n, fun _ => true⟩ none [] unit) := by
    simp only [updateValues, valuesOf]
    rw [if_neg (not_not.mpr rfl), if_neg (by rw [hlen]; simp)]
  unfold mk?
  rw [if_neg (by omega), hup]
  simp only [setNorm, setValid, validOf, bcastArr_same m v hv]

/-- `Field.orientation`'s constructor call on a field whose arrays have the mesh's shape, with the
plain constructor done: what is left to accept are the labels and the mapping -/
theorem orientation?_eq (sqrt : Rat → Rat) (atol : Rat) (f : Fld) (hn : 1 ≤ f.nvdim)
    (hv : f.valid.shape = f.mesh.n) (hd : ∀ i ∈ indicesC f.mesh.n, (f.data.get i).length = f.nvdim) :
    orientation? sqrt atol f =
      match vdimsSet f.nvdim f.vdims with
      | .error e => .error e
      | .ok vd =>
        match vmapSet f.nvdim vd f.mesh.region.dims (some f.vmap) with
        | .error e => .error e
        | .ok vm =>
          .ok { mesh := f.mesh, nvdim := f.nvdim,
                data := ⟨f.mesh.n, fun i => orientCell sqrt atol (f.data.get i)⟩,
                valid := ⟨f.mesh.n, f.valid.get⟩, vdims := vd, vmap := vm, unit := none } := by
  unfold orientation?
  rw [mkFull?_eq, mk?_arrays sqrt atol f.mesh f.nvdim hn _
    (fun i hi => (orientCell_length sqrt atol _).trans (hd i hi)) f.valid hv]

end DFV.C15
