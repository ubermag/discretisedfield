import DFV.Lemmas.C19Tcd
/-!
# C19 — how the tools react to an action on the VECTORS of the field

A linear map applied to every vector is `rotF q`; the reversal `negF` is the orthogonal map `−1` and a uniform rescaling is `s·1`, so both
are instances and what distinguishes them is `det q`.  Then uniform fields, and a rescaling of every vector by its own factor (which
the orientation field does not see).
-/
namespace DFV.C19
open DFV

/-! ## a linear map applied to every vector -/

/-- Exported as `Props/C19.orientation_rot`. -/
theorem orientation_rotF (sq : Rat → Rat) (q : M3) (h : q.IsOrth) (f : Fld) :
    orientation sq (rotF q f) = rotF q (orientation sq f) := by
  simp only [orientation, rotF, NDA.map]
  congr 2
  funext i
  simp [orient_mulVec sq q h]

theorem negF_eq_rotF (f : Fld) : negF f = rotF (M3.diag (-1)) f := by
  unfold negF rotF
  congr 2; funext v
  rw [V3.neg_eq_mulVec]

theorem scaleF_const_eq_rotF (s : Rat) (f : Fld) : scaleF (fun _ => s) f = rotF (M3.diag s) f := by
  unfold scaleF rotF NDA.map
  congr 2; funext i
  show _ = ((M3.diag s).mulVec _).toList
  rw [M3.diag_mulVec]

theorem orientation_negF (sq : Rat → Rat) (f : Fld) :
    orientation sq (negF f) = negF (orientation sq f) := by
  rw [negF_eq_rotF, negF_eq_rotF, orientation_rotF sq _ M3.diag_neg_one_orth]

theorem cellV_rotF (q : M3) (f : Fld) (i : List Nat) : cellV (rotF q f) i = q.mulVec (cellV f i) := by
  simp [cellV, rotF, NDA.map]

/-- the four neighbours see a field through its counts, its validity and its cell vectors: a map `φ` applied to every cell
vector is applied to every neighbour -/
theorem nb_map (φ : V3 → V3) {o g : Fld} (hm : g.mesh = o.mesh) (hv : g.valid = o.valid)
    (hc : ∀ i, cellV g i = φ (cellV o i)) (i j : Nat) :
    nbE g i j = (nbE o i j).map φ ∧ nbN g i j = (nbN o i j).map φ ∧
    nbW g i j = (nbW o i j).map φ ∧ nbS g i j = (nbS o i j).map φ := by
  refine ⟨?_, ?_, ?_, ?_⟩
  · unfold nbE; rw [hm, hv, hc]; split <;> rfl
  · unfold nbN; rw [hm, hv, hc]; split <;> rfl
  · unfold nbW; rw [hv, hc]; split <;> rfl
  · unfold nbS; rw [hv, hc]; split <;> rfl

theorem tri?_orth (q : M3) (h : q.IsOrth) (v0 : V3) (a b : Option V3) :
    tri? (q.mulVec v0) (a.map q.mulVec) (b.map q.mulVec) = (tri? v0 a b).map (detT q.det) := by
  cases a <;> cases b <;> simp [tri?, triOf_orth q h]

/-- the general form of `triangles_rotF` (`det = 1`) and `triangles_negF` (the map `−1`, `det = −1`) -/
theorem triangles_orth (q : M3) (h : q.IsOrth) (o : Fld) (i j : Nat) :
    triangles (rotF q o) i j = (triangles o i j).map (detT q.det) := by
  obtain ⟨hE, hN, hW, hS⟩ := nb_map q.mulVec (o := o) (g := rotF q o) rfl rfl (cellV_rotF q o) i j
  unfold triangles
  rw [hE, hN, hW, hS, cellV_rotF]
  simp only [tri?_orth q h, List.map_append]

theorem triangles_rotF (q : M3) (h : q.IsRot) (o : Fld) (i j : Nat) :
    triangles (rotF q o) i j = triangles o i j := by
  rw [triangles_orth q h.1, h.2, detT_one, List.map_id]

theorem triangles_negF (o : Fld) (i j : Nat) :
    triangles (negF o) i j = (triangles o i j).map flipT := by
  rw [negF_eq_rotF, triangles_orth _ M3.diag_neg_one_orth, M3.diag_det]
  norm_num [detT_neg_one]

section generic
variable {K : Type} [Field K]

theorem tcdBLAtK_rotF (Om : Tri → K) (q : M3) (h : q.IsRot) (o : Fld) (i j : Nat) :
    tcdBLAtK Om (rotF q o) i j = tcdBLAtK Om o i j := by
  unfold tcdBLAtK
  rw [triangles_rotF q h]
  rfl

theorem blAngleK_flip (Om : Tri → K) (hOm : ∀ tr, tr.t ≠ 0 → Om (flipT tr) = -Om tr) (tr : Tri) :
    blAngleK Om (flipT tr) = -blAngleK Om tr := by
  unfold blAngleK
  by_cases h : tr.t = 0
  · simp [flipT, h]
  · have h' : ¬ (flipT tr).t = 0 := by simpa [flipT] using h
    simp only [h, h', if_false]
    exact hOm tr h

theorem tcdBLAtK_negF (Om : Tri → K) (hOm : ∀ tr, tr.t ≠ 0 → Om (flipT tr) = -Om tr) (o : Fld) (i j : Nat) :
    tcdBLAtK Om (negF o) i j = -tcdBLAtK Om o i j := by
  have e : (blAngleK Om ∘ flipT) = fun tr => -blAngleK Om tr := funext (blAngleK_flip Om hOm)
  rw [tcdBLAtK_scale Om (o := o) (g := negF o) (-1) 1 rfl (by rw [triangles_negF, List.length_map])
    (by rw [triangles_negF, List.map_map, e, sum_map_neg, neg_one_mul]) (one_mul _).symm]
  ring

end generic

/-- the continuous density under an orthogonal map of all vectors: `n·(∂₁n × ∂₂n)` is a triple product and picks up the
determinant.  Rotation invariance and the sign change under reversal are the cases `det = 1` and `−1`. -/
theorem tcdCSpec_orth (sq : Rat → Rat) (pi : Rat) (q : M3) (hq : q.IsOrth) (f : Fld) (i : List Nat) :
    tcdCSpec sq pi (rotF q f) i = q.det * tcdCSpec sq pi f i := by
  unfold tcdCSpec
  rw [orientation_rotF sq q hq, cellV_rotF, Dv_rotF, Dv_rotF, orient_mulVec sq q hq]
  have := triple_mulVec q (orient sq (cellV f i)) (Dv (orientation sq f) 0 1 true i) (Dv (orientation sq f) 1 1 true i)
  unfold V3.triple at this
  rw [this]; ring

theorem tcdCSpec_rotF (sq : Rat → Rat) (pi : Rat) (q : M3) (hq : q.IsRot) (f : Fld) (i : List Nat) :
    tcdCSpec sq pi (rotF q f) i = tcdCSpec sq pi f i := by
  rw [tcdCSpec_orth sq pi q hq.1, hq.2, one_mul]

theorem tcdCSpec_negF (sq : Rat → Rat) (pi : Rat) (f : Fld) (i : List Nat) :
    tcdCSpec sq pi (negF f) i = -tcdCSpec sq pi f i := by
  rw [negF_eq_rotF, tcdCSpec_orth sq pi _ M3.diag_neg_one_orth, M3.diag_det]; ring

/-- the emergent field under ANY linear map of all vectors: `F_kl` is a triple product, it picks up the determinant.
Rotations (`1`), the reversal (`−1`) and a uniform rescaling (`s³`) are instances. -/
theorem emSpec_lin (q : M3) (f : Fld) (k l : Nat) (i : List Nat) :
    emSpec (rotF q f) k l i = q.det * emSpec f k l i := by
  unfold emSpec
  rw [cellV_rotF, Dv_rotF, Dv_rotF]
  exact triple_mulVec q _ _ _

theorem emSpec_rotF (q : M3) (hq : q.IsRot) (f : Fld) (k l : Nat) (i : List Nat) :
    emSpec (rotF q f) k l i = emSpec f k l i := by
  rw [emSpec_lin, hq.2, one_mul]

theorem emSpec_negF (f : Fld) (k l : Nat) (i : List Nat) : emSpec (negF f) k l i = -emSpec f k l i := by
  rw [negF_eq_rotF, emSpec_lin, M3.diag_det]; ring

theorem emFld_negF (f : Fld) : emFld (negF f) = negF (emFld f) := by
  unfold emFld
  simp only [emSpec_negF]
  rfl

theorem nbDot_rotF (sq : Rat → Rat) (q : M3) (hq : q.IsOrth) (f : Fld) (ax : Nat) (i : List Nat) :
    nbDot sq (rotF q f) ax i = nbDot sq f ax i := by
  unfold nbDot
  rw [cellV_rotF, cellV_rotF, orient_mulVec sq q hq, orient_mulVec sq q hq, dot_mulVec q hq]

theorem nbDot_negF (sq : Rat → Rat) (f : Fld) (ax : Nat) (i : List Nat) : nbDot sq (negF f) ax i = nbDot sq f ax i := by
  rw [negF_eq_rotF]; exact nbDot_rotF sq _ M3.diag_neg_one_orth f ax i

theorem tcdVal_rotF (sq : Rat → Rat) (pi : Rat) (Om : Tri → Rat) (q : M3) (hq : q.IsRot) (f : Fld) (m : Method)
    (i : List Nat) : tcdVal sq pi Om (rotF q f) m i = tcdVal sq pi Om f m i :=
  tcdVal_of id rfl sq pi Om m i (tcdCSpec_rotF sq pi q hq f i) fun a b => by
    rw [orientation_rotF sq q hq.1, tcdBLAtK_rotF Om q hq]; rfl

theorem tcdVal_negF (sq : Rat → Rat) (pi : Rat) (Om : Tri → Rat)
    (hOm : ∀ tr, tr.t ≠ 0 → Om (flipT tr) = -Om tr) (f : Fld) (m : Method) (i : List Nat) :
    tcdVal sq pi Om (negF f) m i = -tcdVal sq pi Om f m i :=
  tcdVal_of (-·) neg_zero sq pi Om m i (tcdCSpec_negF sq pi f i) fun a b => by
    rw [orientation_negF, tcdBLAtK_negF Om hOm]

/-! ## uniform fields -/

theorem tri?_t_zero_of_same (v : V3) (a b : Option V3) (ha : ∀ x, a = some x → x = v) (hb : ∀ x, b = some x → x = v) :
    ∀ tr ∈ tri? v a b, tr.t = 0 := by
  intro tr htr
  cases a with
  | none => simp [tri?] at htr
  | some x =>
    cases b with
    | none => simp [tri?] at htr
    | some y =>
      simp only [tri?, List.mem_singleton] at htr
      rw [htr, ha x rfl, hb y rfl]
      exact triOf_same v

/-- in a uniform field every neighbour that exists is the common vector (`nb_map` with the constant map) -/
theorem nb_uniform (o : Fld) (u : V3) (hu : ∀ i, cellV o i = u) (i j : Nat) :
    (∀ x, nbE o i j = some x → x = u) ∧ (∀ x, nbN o i j = some x → x = u) ∧
    (∀ x, nbW o i j = some x → x = u) ∧ (∀ x, nbS o i j = some x → x = u) := by
  obtain ⟨hE, hN, hW, hS⟩ := nb_map (fun _ => u) (o := o) (g := o) rfl rfl hu i j
  exact ⟨fun x hx => by rw [hx] at hE; exact Option.some.inj hE, fun x hx => by rw [hx] at hN; exact Option.some.inj hN,
    fun x hx => by rw [hx] at hW; exact Option.some.inj hW, fun x hx => by rw [hx] at hS; exact Option.some.inj hS⟩

theorem tcdBLAtK_uniform {K : Type} [Field K] (Om : Tri → K) (o : Fld) (u : V3) (hu : ∀ i, cellV o i = u) (i j : Nat) :
    tcdBLAtK Om o i j = 0 := by
  obtain ⟨hE, hN, hW, hS⟩ := nb_uniform o u hu i j
  have hall : ∀ tr ∈ triangles o i j, tr.t = 0 := by
    intro tr htr
    unfold triangles at htr
    rw [hu [i, j]] at htr
    simp only [List.mem_append] at htr
    rcases htr with ((h | h) | h) | h
    · exact tri?_t_zero_of_same u _ _ hE hN tr h
    · exact tri?_t_zero_of_same u _ _ hN hW tr h
    · exact tri?_t_zero_of_same u _ _ hW hS tr h
    · exact tri?_t_zero_of_same u _ _ hS hE tr h
  have hs : ((triangles o i j).map (blAngleK Om)).sum = 0 := by
    apply List.sum_eq_zero
    intro x hx
    obtain ⟨tr, htr, rfl⟩ := List.mem_map.mp hx
    simp [blAngleK, hall tr htr]
  exact tcdBLAtK_of_sum_zero Om o i j hs

theorem orientation_uniform_cell (sq : Rat → Rat) (f : Fld) (v : V3) (hu : uniformF f v) (i : List Nat) :
    cellV (orientation sq f) i = orient sq v := by
  rw [cellV_orientation]
  unfold cellV
  rw [hu i]

theorem orientation_uniform (sq : Rat → Rat) (f : Fld) (v : V3) (hu : uniformF f v) :
    uniformF (orientation sq f) (orient sq v) := by
  intro i
  have := orientation_uniform_cell sq f v hu i
  unfold cellV at this
  exact this

theorem tcdCSpec_uniform (sq : Rat → Rat) (pi : Rat) (f : Fld) (v : V3) (hu : uniformF f v) (i : List Nat) :
    tcdCSpec sq pi f i = 0 := by
  unfold tcdCSpec
  rw [Dv_uniform _ _ (orientation_uniform sq f v hu)]
  simp [V3.dot, V3.cross, V3.zero]

theorem emSpec_uniform (f : Fld) (v : V3) (hu : uniformF f v) (k l : Nat) (i : List Nat) : emSpec f k l i = 0 := by
  unfold emSpec
  rw [Dv_uniform f v hu]
  simp [V3.dot, V3.cross, V3.zero]

theorem nbDot_uniform (sq : Rat → Rat) (f : Fld) (v : V3) (hu : uniformF f v)
    (hsq : sq v.normSq * sq v.normSq = v.normSq) (hz : isZeroNorm (sq v.normSq) = false) (ax : Nat) (i : List Nat) :
    nbDot sq f ax i = 1 := by
  unfold nbDot
  have e : ∀ j, cellV f j = v := hu
  rw [e, e]
  have : V3.dot (orient sq v) (orient sq v) = 1 := orient_unit sq v hsq hz
  rw [this]
  unfold clip1
  norm_num

theorem tcdVal_uniform (sq : Rat → Rat) (pi : Rat) (Om : Tri → Rat) (f : Fld) (v : V3) (hu : uniformF f v)
    (m : Method) (i : List Nat) : tcdVal sq pi Om f m i = 0 :=
  tcdVal_of (fun _ => 0) rfl sq pi Om (f := f) m i (tcdCSpec_uniform sq pi f v hu i) fun a b =>
    tcdBLAtK_uniform Om _ (orient sq v) (orientation_uniform_cell sq f v hu) a b

/-! ## every vector rescaled by its own factor -/

/-- the hypotheses of the rescaling theorems, cell by cell: no cell changes its orientation (`orient_smul`) -/
theorem orient_smul_cells (sq : Rat → Rat) (s : List Nat → Rat) (f : Fld) (hs : ∀ i, s i ≠ 0)
    (hsq : ∀ i, sq (s i * s i * (cellV f i).normSq) = s i * sq (cellV f i).normSq)
    (hz : ∀ i, isZeroNorm (s i * sq (cellV f i).normSq) = isZeroNorm (sq (cellV f i).normSq)) (i : List Nat) :
    orient sq ((V3.ofList (f.data.get i)).smul (s i)) = orient sq (V3.ofList (f.data.get i)) :=
  orient_smul sq (s i) _ (hs i) (hsq i) (hz i)

theorem orientation_scaleF (sq : Rat → Rat) (s : List Nat → Rat) (f : Fld)
    (h : ∀ i, orient sq ((V3.ofList (f.data.get i)).smul (s i)) = orient sq (V3.ofList (f.data.get i))) :
    orientation sq (scaleF s f) = orientation sq f := by
  obtain ⟨mesh, nvdim, ⟨shape, get⟩, valid, vdims, vmap, unit⟩ := f
  simp only [orientation, scaleF, NDA.map]
  congr 2
  funext i
  simp only [V3.ofList_toList]
  rw [h i]

theorem nbDot_scaleF (sq : Rat → Rat) (s : List Nat → Rat) (f : Fld)
    (h : ∀ i, orient sq ((V3.ofList (f.data.get i)).smul (s i)) = orient sq (V3.ofList (f.data.get i)))
    (ax : Nat) (i : List Nat) : nbDot sq (scaleF s f) ax i = nbDot sq f ax i := by
  unfold nbDot
  have e : ∀ j, orient sq (cellV (scaleF s f) j) = orient sq (cellV f j) := by
    intro j
    have := h j
    simpa [cellV, scaleF] using this
  rw [e, e]

theorem tcdVal_scaleF (sq : Rat → Rat) (pi : Rat) (Om : Tri → Rat) (s : List Nat → Rat) (f : Fld)
    (h : ∀ i, orient sq ((V3.ofList (f.data.get i)).smul (s i)) = orient sq (V3.ofList (f.data.get i)))
    (m : Method) (i : List Nat) : tcdVal sq pi Om (scaleF s f) m i = tcdVal sq pi Om f m i := by
  have ho := orientation_scaleF sq s f h
  refine tcdVal_of id rfl sq pi Om m i ?_ fun a b => by rw [ho]; rfl
  unfold tcdCSpec
  rw [ho]
  have : orient sq (cellV (scaleF s f) i) = orient sq (cellV f i) := by
    have := h i
    simpa [cellV, scaleF] using this
  rw [this]
  rfl

end DFV.C19
