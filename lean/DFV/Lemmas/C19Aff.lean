import DFV.Lemmas.C19Bps
import DFV.Lemmas.C19Angle
/-!
# C19 — how the tools react to a translation and a rescaling `λ` of the MESH (`affF lam t`)

Both densities and the emergent field are divided by `λ²` (two derivatives; for the lattice density the triangle area), so the charge
integral is unchanged; for `count_bps`: divergence `/λ³`, plane integrals `·λ²`, cumulative integral `·λ`, so its flux is unchanged.
`affF lam t` replaces the mesh of a field and nothing else, `orientation` the data and nothing else: every projection the other one
leaves alone is the same term, and the `rfl`s below say just that.
-/
namespace DFV.C19
open DFV

/-! ## the densities and the charge integral -/

theorem orientation_affF (sq : Rat → Rat) (lam : Rat) (t : List Rat) (f : Fld) :
    orientation sq (affF lam t f) = affF lam t (orientation sq f) := rfl

theorem affMesh_ndim (lam : Rat) (t : List Rat) (m : Mesh) : (affMesh lam t m).ndim = m.ndim := by
  show (tab m.region.ndim _).length = _
  rw [tab_length]; rfl

theorem tcdCSpec_affF (sq : Rat → Rat) (pi lam : Rat) (t : List Rat) (f : Fld) (h2 : f.mesh.ndim = 2) (i : List Nat) :
    tcdCSpec sq pi (affF lam t f) i = tcdCSpec sq pi f i / (lam * lam) := by
  unfold tcdCSpec
  rw [orientation_affF, Dv_affF lam t _ 0 true i (by show 0 < f.mesh.ndim; omega),
    Dv_affF lam t _ 1 true i (by show 1 < f.mesh.ndim; omega)]
  have : cellV (affF lam t f) i = cellV f i := rfl
  rw [this]
  simp only [V3.dot, V3.cross, V3.sdiv]
  ring

theorem tcdBLAtK_affF {K : Type} [Field K] [CharZero K] (Om : Tri → K) (lam : Rat) (t : List Rat) (o : Fld) (h2 : o.mesh.ndim = 2) (i j : Nat) :
    tcdBLAtK Om (affF lam t o) i j = tcdBLAtK Om o i j / ((lam : K) * (lam : K)) := by
  have ht : triangles (affF lam t o) i j = triangles o i j := rfl
  have ha : triArea (affF lam t o).mesh = lam * lam * triArea o.mesh := by
    unfold triArea
    show 1 / 2 * (affMesh lam t o.mesh).cellAt 0 * (affMesh lam t o.mesh).cellAt 1 = _
    rw [affMesh_cellAt lam t o.mesh 0 (Or.inl (by omega)), affMesh_cellAt lam t o.mesh 1 (Or.inl (by omega))]
    ring
  rw [tcdBLAtK_scale Om (o := o) (g := affF lam t o) 1 ((lam : K) * (lam : K)) rfl (by rw [ht]) (by rw [ht, one_mul])
    (by rw [ha]; push_cast; ring), one_div, inv_mul_eq_div]

theorem integrateAll_aff (a : Bool) (q q' : Fld) (lam : Rat) (hl : lam ≠ 0)
    (hs : q'.data.shape = q.data.shape)
    (hd : ∀ i, (q'.data.get i).getD 0 0 = (q.data.get i).getD 0 0 / (lam * lam))
    (hc : ratProd q'.mesh.cell = lam * lam * ratProd q.mesh.cell) :
    integrateAll a q' = integrateAll a q := by
  rw [integrateAll_eq, integrateAll_eq, hs, hc]
  have e : ((indicesC q.data.shape).map fun i =>
        if a then absR ((q'.data.get i).getD 0 0) else (q'.data.get i).getD 0 0)
      = (indicesC q.data.shape).map fun i =>
        (if a then absR ((q.data.get i).getD 0 0) else (q.data.get i).getD 0 0) / (lam * lam) := by
    apply List.map_congr_left
    intro i _
    rw [hd i]
    cases a
    · simp
    · simp [absR_div_sq]
  rw [e, sum_map_div]
  have : lam * lam ≠ 0 := mul_ne_zero hl hl
  field_simp

theorem tcdVal_affF (sq : Rat → Rat) (pi : Rat) (Om : Tri → Rat) (lam : Rat) (t : List Rat) (f : Fld)
    (h2 : f.mesh.ndim = 2) (m : Method) (i : List Nat) :
    tcdVal sq pi Om (affF lam t f) m i = tcdVal sq pi Om f m i / (lam * lam) :=
  tcdVal_of (· / (lam * lam)) (zero_div _) sq pi Om m i (tcdCSpec_affF sq pi lam t f h2 i) fun a b => by
    rw [orientation_affF, tcdBLAtK_affF Om lam t _ (by exact h2)]; rfl

theorem affMesh_ratProd (lam : Rat) (t : List Rat) (m : Mesh) (h2 : m.ndim = 2) :
    ratProd (affMesh lam t m).cell = lam * lam * ratProd m.cell := by
  rw [ratProd_cell2 _ ((affMesh_ndim lam t m).trans h2), ratProd_cell2 _ h2, affMesh_cellAt lam t m 0 (Or.inl (by omega)),
    affMesh_cellAt lam t m 1 (Or.inl (by omega))]
  ring

/-! ## emergent field -/

theorem emSpec_affF (lam : Rat) (t : List Rat) (f : Fld) (k l : Nat) (hk : k < f.mesh.ndim) (hl : l < f.mesh.ndim)
    (i : List Nat) : emSpec (affF lam t f) k l i = emSpec f k l i / (lam * lam) := by
  unfold emSpec
  rw [Dv_affF lam t f k true i hk, Dv_affF lam t f l true i hl]
  have hc : cellV (affF lam t f) i = cellV f i := rfl
  rw [hc]
  simp only [V3.dot, V3.cross, V3.sdiv]
  ring

/-! ## `count_bps`: scaling and translating the mesh -/

theorem otherAxes_lt (ax : Nat) : (otherAxes ax).1 < 3 ∧ (otherAxes ax).2 < 3 := by
  unfold otherAxes; split <;> [simp; (split <;> simp)]

/-- the two plane integrals on the scaled mesh: each cell edge brings a factor `λ` -/
theorem bpRed_aff (lam : Rat) (t : List Rat) (m : Mesh) (h3 : m.ndim = 3) (g : List Nat → Rat) (ax k : Nat) :
    bpRed (affMesh lam t m) g ax k = lam * lam * bpRed m g ax k := by
  unfold bpRed
  have hn : ∀ a, (affMesh lam t m).nAt a = m.nAt a := fun _ => rfl
  obtain ⟨o1, o2⟩ := otherAxes_lt ax
  rw [hn, hn, affMesh_cellAt lam t m _ (Or.inl (h3 ▸ o2)), affMesh_cellAt lam t m _ (Or.inl (h3 ▸ o1)), ← mul_assoc,
    sumTo_mul_right, sumTo_mul_right]
  ring

theorem sumTo_div (n : Nat) (F : Nat → Rat) (c : Rat) : (sumTo n fun k => F k / c) = sumTo n F / c := by
  simp only [div_eq_mul_inv, sumTo_mul_right]

theorem bpFromReds_aff (reds : List Rat) (lam h : Rat) (hl : lam ≠ 0) :
    bpFromReds (reds.map (· / lam)) (lam * h) = bpFromReds reds h := by
  unfold bpFromReds
  rw [List.length_map]
  unfold tab
  apply List.map_congr_left
  intro k _
  unfold bpIntL
  have e : ∀ j, (reds.map (· / lam)).getD j 0 = reds.getD j 0 / lam := fun j => getD_map_of_eq (f := (· / lam)) (zero_div lam) reds j
  simp only [e]
  rw [sumTo_div]
  field_simp

theorem compRel_force_div (lam : Rat) (t : List Rat) (e e' : Fld) (hm : e'.mesh = affMesh lam t e.mesh) (hvalid : e'.valid = e.valid)
    (hdata : e'.data = e.data.map fun v => v.map (· / (lam * lam))) :
    CompRel (1 / (lam * lam)) (affF lam t (forceF e)) (forceF e') := by
  refine ⟨hm, ?_, ?_, ?_⟩
  · show e'.valid.force false = e.valid.force false
    rw [hvalid]
  · show e'.data.shape = e.data.shape
    rw [hdata]; rfl
  · intro j c _
    show ((e'.data.force []).get j).getD c 0 = 1 / (lam * lam) * ((e.data.force []).get j).getD c 0
    rw [hdata, force_map_comp _ _ c (by simp), getD_map_of_eq (f := (· / (lam * lam))) (zero_div _)]
    ring

/-- THE FLUX IS HOMOGENEOUS OF DEGREE 0 under (mesh `·λ`, field `/λ²`): divergence `/λ³`, the two plane integrals `·λ²`, the
cumulative integral `·λ` -/
theorem fluxE_aff (lam : Rat) (hl : lam ≠ 0) (t : List Rat) (ax : Nat) (hax : ax < 3) (e e' : Fld) (hm3 : e.mesh.ndim = 3)
    (hrel : CompRel (1 / (lam * lam)) (affF lam t e) e') :
    fluxE (affMesh lam t e.mesh) e' ax = fluxE e.mesh e ax := by
  have hdiv : divSpec e' = fun i => (1 / (lam * lam) / lam) * divSpec e i := by
    funext i
    rw [divSpec_smul hrel]
    unfold divSpec
    rw [Dc_affF lam t e 0 true 0 i (Or.inl (by omega)), Dc_affF lam t e 1 true 1 i (Or.inl (by omega)),
      Dc_affF lam t e 2 true 2 i (Or.inl (by omega))]
    ring
  unfold fluxE
  rw [show (affMesh lam t e.mesh).nAt ax = e.mesh.nAt ax from rfl, affMesh_cellAt lam t e.mesh ax (Or.inl (by omega)), hdiv]
  refine Eq.trans ?_ (bpFromReds_aff _ lam _ hl)
  rw [tab_map]
  congr 1
  apply tab_congr
  intro k _
  rw [bpRed_aff lam t e.mesh hm3, bpRed_smul]
  field_simp

end DFV.C19
