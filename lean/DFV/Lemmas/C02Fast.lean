import DFV.Lemmas.C02Nearest
/-! C02: the closed-formula conversion of a source field (`asLeafFieldFast`) equals the code-shaped one
(`asLeaf`, nearest-centre scan) whenever `fieldFastOk` holds — a verified optimisation of the driver. -/
namespace DFV.C02
open DFV DFV.Mesh

variable {V : Type} [Inhabited V]

omit [Inhabited V] in
theorem fieldFastOk_spec (src : VF V) (m : Mesh) (h : fieldFastOk src m = true) :
    m.Inv ∧ src.mesh.Inv ∧ src.mesh.ndim = m.ndim ∧
    ∀ a, a < m.ndim → src.mesh.region.lo a ≤ m.region.lo a ∧ m.region.hi a ≤ src.mesh.region.hi a := by
  unfold fieldFastOk at h
  simp only [Bool.and_eq_true, decide_eq_true_eq] at h
  obtain ⟨⟨⟨h1, h2⟩, h3⟩, h4⟩ := h
  refine ⟨C01.mesh_inv_of_invB m h1, C01.mesh_inv_of_invB _ h2, h3, fun a ha => ?_⟩
  have := (allLt_iff _ _).mp h4 a ha
  simpa using this

theorem asLeafFieldFast_eq (isZero : V → Bool) (src : VF V) (m : Mesh) (nv : Nat) (h : fieldFastOk src m = true) :
    (∀ e, asLeaf isZero (.field src) m nv = .error e ↔ asLeafFieldFast src m nv = .error e) ∧
    (∀ a, asLeaf isZero (.field src) m nv = .ok a →
      ∃ b, asLeafFieldFast src m nv = .ok b ∧ b.shape = a.shape ∧
        ∀ j, inRange (m.n ++ [nv]) j = true → b.get j = a.get j) := by
  obtain ⟨hm, hs, hnd, _⟩ := fieldFastOk_spec src m h
  unfold asLeafFieldFast
  simp only [asLeaf]
  -- the three guards are the same on both sides
  by_cases h1 : (!src.mesh.region.containsReg m.region) = true
  · rw [if_pos h1, if_pos h1]; exact ⟨fun _ => Iff.rfl, fun a ha => nomatch ha⟩
  · rw [if_neg h1, if_neg h1]
    by_cases h2 : src.nvdim ≠ nv
    · rw [if_pos h2, if_pos h2]; exact ⟨fun _ => Iff.rfl, fun a ha => nomatch ha⟩
    · rw [if_neg h2, if_neg h2]
      by_cases h3 : m.region.dims ≠ src.mesh.region.dims
      · rw [if_pos h3, if_pos h3]; exact ⟨fun _ => Iff.rfl, fun a ha => nomatch ha⟩
      · rw [if_neg h3, if_neg h3]
        refine ⟨fun e => ⟨nofun, nofun⟩, fun a ha => ?_⟩
        injection ha with ha; subst ha
        refine ⟨_, rfl, rfl, fun j hj => ?_⟩
        obtain ⟨i, c, rfl, hi, _⟩ := inRange_snoc_cases _ _ _ hj
        simp only [List.dropLast_concat]
        rw [nearestIdx_eq_indexAx src.mesh m hm hs hnd i hi]

end DFV.C02
