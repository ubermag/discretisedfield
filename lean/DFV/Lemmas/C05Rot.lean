import DFV.Lemmas.C05Bc
import DFV.Lemmas.C05Labels
import DFV.Lemmas.C01Ctor
import DFV.Lemmas.Rot
import DFV.Lemmas.C13StepR
/-! quarter turns (C05): geometry of `Mesh.rotate90(ax1, ax2, k)` for every `k` and of one turn as its case `k = 1` (`turned_axes`,
`IsRot90`), the derivative of a turned field in one formula (`D_turned`), the curl of a turned table of derivatives (`curlOf_turn`),
`Field.rotate90` taken apart (`rot90Fld_ok_iff` and its projections), acceptance of a turn.  `Lemmas/C05Bc.lean` has the `bc` string,
`Lemmas/C05Labels.lean` labels and pairing; `Lemmas/C01Ctor.lean` is imported for `C01.mkN_ok_iff'`, `Lemmas/C13StepR.lean` for
`T.viaCtor_ok_iff`, `T.viaCtor_inv`, `Lemmas/Rot.lean` for `T.turned_axis`, `T.rotN_getD`, `T.rotSrc_lt`. -/
namespace DFV.C05
open DFV DFV.C04

/-! ### exchanging two axes -/

/-- `x` with `a` and `b` exchanged -/
def swp (a b x : Nat) : Nat := if x = a then b else if x = b then a else x

theorem swp_left (a b : Nat) : swp a b a = b := if_pos rfl

theorem swp_right (a b : Nat) : swp a b b = a := by
  unfold swp
  split
  · next h => exact h
  · exact if_pos rfl

theorem swp_other {a b x : Nat} (ha : x ≠ a) (hb : x ≠ b) : swp a b x = x := by
  unfold swp; rw [if_neg ha, if_neg hb]

theorem swp_lt {a b x n : Nat} (ha : a < n) (hb : b < n) (hx : x < n) : swp a b x < n := by
  unfold swp
  split
  · exact hb
  · split
    · exact ha
    · exact hx

theorem swp_swp (a b x : Nat) : swp a b (swp a b x) = x := by
  by_cases ha : x = a
  · rw [ha, swp_left, swp_right]
  · by_cases hb : x = b
    · rw [hb, swp_right, swp_left]
    · rw [swp_other ha hb, swp_other ha hb]

theorem swp_comm (a b e : Nat) : swp a b e = swp b a e := by
  by_cases h1 : e = a
  · subst h1; rw [swp_left, swp_right]
  · by_cases h2 : e = b
    · subst h2; rw [swp_right, swp_left]
    · rw [swp_other h1 h2, swp_other h2 h1]

theorem rotN_one (n : List Nat) (a b : Nat) : T.rotN n a b 1 = swapAt n a b := rfl

theorem rotSrc_eq (a b : Nat) (k : Int) (e : Nat) : T.rotSrc a b k e = if T.isOdd k then swp a b e else e := rfl

/-! ### geometry: `Mesh.rotate90(ax1, ax2, k)` for every `k`, and one quarter turn as its case `k = 1`

The turned mesh is accepted (`rotMeshK_succeeds`) and has the axes of the mesh, the two of the plane exchanged for odd `k`
(`turned_axes`): the parity of `k` is all the geometry needs (`T.viaCtor_ok_iff`, `T.turned_axis`).  `Mesh.rotate90(ax1, ax2)`
hands the constructors what `Mesh.rotate90(ax1, ax2, 1)` hands them (`rotRegion_eq_K`, `rotMesh_inv`). -/

theorem mkN_eq {r : Region} {n : List Nat} {bc : String} {m : Mesh} (h : Mesh.mkN? r n bc = .ok m) :
    m = { region := r, n := n, bc := bc.toLower, subs := [] } :=
  ((C01.mkN_ok_iff' r n bc m).mp h).2.2.2

theorem MeshWf.regionInv {f : Fld} (wf : MeshWf f) (hpos : 0 < f.mesh.ndim) : f.mesh.region.Inv :=
  ⟨hpos, wf.pmax_len, wf.dims.1, wf.units_len, wf.dims.2, fun a ha => (wf.pos a ha).1⟩

theorem MeshWf.meshInv {f : Fld} (wf : MeshWf f) (hpos : 0 < f.mesh.ndim) : f.mesh.Inv :=
  ⟨wf.regionInv hpos, wf.n_len, fun a ha => (wf.pos a ha).2⟩

theorem turnedCtor_ok {f : Fld} {a b : Nat} (wf : MeshWf f) (tw : TurnWf f a b) (ha : a < f.mesh.ndim) (hb : b < f.mesh.ndim)
    (hab : a ≠ b) (k : Int) (r' : Region) (hnd : r'.ndim = f.mesh.ndim) (hdims : r'.dims = f.mesh.region.dims) :
    (T.rotN f.mesh.n a b k).length = r'.ndim ∧ (∀ e, e < r'.ndim → 1 ≤ (T.rotN f.mesh.n a b k).getD e 0) ∧
    Mesh.bcOk r'.dims (rotBcK f.mesh.bc (f.mesh.region.dims.getD a "") (f.mesh.region.dims.getD b "") k).toLower = true := by
  refine ⟨by rw [T.rotN_length, hnd]; exact wf.n_len, fun e he => ?_, by rw [hdims, (rotBcK_wf wf tw k).1]; exact (rotBcK_wf wf tw k).2⟩
  rw [T.rotN_getD _ _ _ _ hab (by rw [wf.n_len]; exact ha) (by rw [wf.n_len]; exact hb)]
  exact (wf.pos _ (T.rotSrc_lt a b k e _ ha hb (hnd ▸ he))).2

/-- `Region.rotate90(ax1, ax2, k)` about the centre accepts the region of every well-formed mesh: the turned corners differ on
every axis (`T.rotCoord_ne`) -/
theorem rotRegionK_succeeds (f : Fld) (a b : Nat) (k : Int) (wf : MeshWf f) (ha : a < f.mesh.ndim) (hb : b < f.mesh.ndim) :
    rotRegionK f.mesh.region a b k f.mesh.region.center
      = .ok (T.target f.mesh.region (T.rotCoord f.mesh.region.pmin f.mesh.region.center a b k)
          (T.rotCoord f.mesh.region.pmax f.mesh.region.center a b k) (T.rotUnits f.mesh.region.units a b k)) :=
  have hr := wf.regionInv (by omega)
  (T.viaCtor_ok_iff f.mesh.region hr _ _ (T.rotUnits f.mesh.region.units a b k) (by rw [T.rotUnits_length]; exact wf.units_len) _).mpr
    ⟨fun e he => T.rotCoord_ne _ hr _ a b k ha hb e he, rfl⟩

theorem rotMeshK_succeeds (f : Fld) (a b : Nat) (k : Int) (wf : MeshWf f) (tw : TurnWf f a b) (hsub : f.mesh.subs = [])
    (ha : a < f.mesh.ndim) (hb : b < f.mesh.ndim) (hab : a ≠ b) :
    ∃ m', rotMeshK f.mesh (f.mesh.region.dims.getD a "") (f.mesh.region.dims.getD b "") k = .ok m' := by
  unfold rotMeshK
  rw [if_neg (dims_ne_of_ne f wf.dims a b ha hb hab), wf.dims.indexOf ha, wf.dims.indexOf hb]
  simp only []
  rw [rotRegionK_succeeds f a b k wf ha hb, hsub]
  simp only [mapE]
  obtain ⟨c1, c2, c3⟩ := turnedCtor_ok wf tw ha hb hab k _ (T.target_ndim _ _ _ _) rfl
  rw [(C01.mkN_ok_iff' _ _ _ _).mpr ⟨c1, c2, c3, rfl⟩]
  exact ⟨_, rfl⟩

theorem rotMeshK_inv (m m2 : Mesh) (a b : Nat) (k : Int) (hd : hasDup m.region.dims = false)
    (ha : a < m.region.dims.length) (hb : b < m.region.dims.length)
    (h : rotMeshK m (m.region.dims.getD a "") (m.region.dims.getD b "") k = .ok m2) :
    m2.region = T.target m.region (T.rotCoord m.region.pmin m.region.center a b k)
        (T.rotCoord m.region.pmax m.region.center a b k) (T.rotUnits m.region.units a b k) ∧
    m2.n = T.rotN m.n a b k ∧
    m2.bc = (rotBcK m.bc (m.region.dims.getD a "") (m.region.dims.getD b "") k).toLower := by
  unfold rotMeshK at h
  split at h
  · cases h
  · rw [indexOf?_getD _ a ha hd, indexOf?_getD _ b hb hd] at h
    simp only [] at h
    split at h
    · cases h
    · rename_i r hr
      split at h
      · cases h
      · split at h
        · cases h
        · rename_i m0 hm0
          injection h with h; subst h
          rw [mkN_eq hm0]
          exact ⟨(T.viaCtor_inv _ _ _ _ _ hr).1, rfl, rfl⟩

theorem rotRegion_eq_K (r : Region) (a b : Nat) (ref : List Rat) (hp : r.pmax.length = r.ndim) (ha : a < r.ndim) (hb : b < r.ndim)
    (hab : a ≠ b) : rotRegion r a b ref = rotRegionK r a b 1 ref := by
  have hc : T.cosq 1 = 0 := rfl
  have hs : T.sinq 1 = 1 := rfl
  have key : ∀ p : List Rat, p.length = r.ndim →
      setAt (setAt p a (ref.getD a 0 - (p.getD b 0 - ref.getD b 0))) b (ref.getD b 0 + (p.getD a 0 - ref.getD a 0))
        = tab r.ndim (T.rotCoord p ref a b 1) := by
    intro p hl
    apply eq_tab_of_getD _ _ _ 0 (by rw [length_setAt, length_setAt, hl])
    intro x hx
    unfold T.rotCoord
    rw [hc, hs]
    by_cases hxb : x = b
    · rw [hxb, getD_setAt_eq _ _ _ _ (by rw [length_setAt, hl]; exact hb), if_neg (Ne.symm hab), if_pos rfl]
      ring
    · rw [getD_setAt_ne _ _ _ _ _ hxb]
      by_cases hxa : x = a
      · rw [hxa, getD_setAt_eq _ _ _ _ (by rw [hl]; exact ha), if_pos rfl]
        ring
      · rw [getD_setAt_ne _ _ _ _ _ hxa, if_neg hxa, if_neg hxb]
  unfold rotRegion rotRegionK
  rw [← key r.pmin rfl, ← key r.pmax hp]
  rfl

/-- an accepted `Mesh.rotate90(ax1, ax2)` returns what `Mesh.rotate90(ax1, ax2, k = 1)` returns (`rotMeshK_inv`), whatever the
subregions are -/
theorem rotMesh_inv (f : Fld) (m' : Mesh) (a b : Nat) (wf : MeshWf f) (ha : a < f.mesh.ndim) (hb : b < f.mesh.ndim) (hab : a ≠ b)
    (h : rotMesh f.mesh (f.mesh.region.dims.getD a "") (f.mesh.region.dims.getD b "") = .ok m') :
    m'.region = T.target f.mesh.region (T.rotCoord f.mesh.region.pmin f.mesh.region.center a b 1)
        (T.rotCoord f.mesh.region.pmax f.mesh.region.center a b 1) (T.rotUnits f.mesh.region.units a b 1) ∧
    m'.n = T.rotN f.mesh.n a b 1 ∧
    m'.bc = (rotBcK f.mesh.bc (f.mesh.region.dims.getD a "") (f.mesh.region.dims.getD b "") 1).toLower ∧
    (f.mesh.subs = [] → m'.subs = []) := by
  unfold rotMesh at h
  split at h
  · cases h
  · rw [wf.dims.indexOf ha, wf.dims.indexOf hb] at h
    simp only [] at h
    split at h
    · cases h
    · rename_i r hr
      split at h
      · cases h
      · rename_i subs hsubs
        split at h
        · cases h
        · rename_i m0 hm0
          injection h with h; subst h
          rw [rotRegion_eq_K _ a b _ wf.pmax_len ha hb hab] at hr
          rw [mkN_eq hm0]
          refine ⟨(T.viaCtor_inv _ _ _ _ _ hr).1, rfl, rfl, fun hs => ?_⟩
          rw [hs] at hsubs
          simp only [mapE] at hsubs
          injection hsubs with hsubs
          exact hsubs.symm

theorem rotMesh_eq_K (f : Fld) (a b : Nat) (wf : MeshWf f) (hsub : f.mesh.subs = []) (ha : a < f.mesh.ndim) (hb : b < f.mesh.ndim)
    (hab : a ≠ b) :
    rotMesh f.mesh (f.mesh.region.dims.getD a "") (f.mesh.region.dims.getD b "")
      = rotMeshK f.mesh (f.mesh.region.dims.getD a "") (f.mesh.region.dims.getD b "") 1 := by
  unfold rotMesh rotMeshK
  rw [if_neg (dims_ne_of_ne f wf.dims a b ha hb hab), if_neg (dims_ne_of_ne f wf.dims a b ha hb hab), wf.dims.indexOf ha,
    wf.dims.indexOf hb]
  simp only []
  rw [rotRegion_eq_K _ a b _ wf.pmax_len ha hb hab, hsub]
  rfl

theorem rotMesh_succeeds (f : Fld) (a b : Nat) (wf : MeshWf f) (tw : TurnWf f a b) (hsub : f.mesh.subs = [])
    (ha : a < f.mesh.ndim) (hb : b < f.mesh.ndim) (hab : a ≠ b) :
    ∃ m', rotMesh f.mesh (f.mesh.region.dims.getD a "") (f.mesh.region.dims.getD b "") = .ok m' := by
  rw [rotMesh_eq_K f a b wf hsub ha hb hab]
  exact rotMeshK_succeeds f a b 1 wf tw hsub ha hb hab

/-- every axis of a turned mesh is an axis of the mesh, the two of the plane exchanged for odd `k`: cell count, edge, cell size and
periodicity -/
theorem turned_axes (f : Fld) (m' : Mesh) (a b : Nat) (k : Int) (wf : MeshWf f) (tw : TurnWf f a b)
    (ha : a < f.mesh.ndim) (hb : b < f.mesh.ndim) (hab : a ≠ b)
    (hreg : m'.region = T.target f.mesh.region (T.rotCoord f.mesh.region.pmin f.mesh.region.center a b k)
        (T.rotCoord f.mesh.region.pmax f.mesh.region.center a b k) (T.rotUnits f.mesh.region.units a b k))
    (hn : m'.n = T.rotN f.mesh.n a b k)
    (hbc : m'.bc = (rotBcK f.mesh.bc (f.mesh.region.dims.getD a "") (f.mesh.region.dims.getD b "") k).toLower) :
    m'.ndim = f.mesh.ndim ∧ m'.region.dims = f.mesh.region.dims ∧
    ∀ e, e < f.mesh.ndim → m'.nAt e = f.mesh.nAt (T.rotSrc a b k e) ∧ m'.region.edge e = f.mesh.region.edge (T.rotSrc a b k e) ∧
      m'.cellAt e = f.mesh.cellAt (T.rotSrc a b k e) ∧ perM m' e = perM f.mesh (T.rotSrc a b k e) := by
  have hd : m'.region.dims = f.mesh.region.dims := by rw [hreg]; rfl
  refine ⟨by unfold Mesh.ndim; rw [hreg, T.target_ndim], hd, fun e he => ?_⟩
  obtain ⟨t1, t2, _⟩ := T.turned_axis f.mesh m' (wf.meshInv (by omega)) a b hab ha hb k _ _ hreg hn e he
  refine ⟨t1, t2, by unfold Mesh.cellAt; rw [t1, t2], ?_⟩
  rw [(rotBcK_wf wf tw k).1] at hbc
  rw [rotSrc_eq]
  unfold rotBcK at hbc
  cases ho : T.isOdd k
  · rw [ho] at hbc
    unfold perM; rw [hbc, hd]; rfl
  · rw [ho] at hbc
    obtain ⟨pa, pb, pe⟩ := periodic_turn f { f with mesh := m' } a b wf.dims wf.bc_ok ha hb hab tw.turns hd hbc
    simp only [if_true]
    by_cases ea : e = a
    · subst ea; rw [swp_left]; exact pa
    · by_cases eb : e = b
      · subst eb; rw [swp_right]; exact pb
      · rw [swp_other ea eb]; exact pe e he ea eb

theorem rotMeshK_axis (f : Fld) (m' : Mesh) (a b : Nat) (k : Int) (wf : MeshWf f) (tw : TurnWf f a b)
    (ha : a < f.mesh.ndim) (hb : b < f.mesh.ndim) (hab : a ≠ b)
    (h : rotMeshK f.mesh (f.mesh.region.dims.getD a "") (f.mesh.region.dims.getD b "") k = .ok m') :
    m'.ndim = f.mesh.ndim ∧ m'.region.dims = f.mesh.region.dims ∧
    ∀ e, e < f.mesh.ndim → m'.nAt e = f.mesh.nAt (T.rotSrc a b k e) ∧ m'.region.edge e = f.mesh.region.edge (T.rotSrc a b k e) ∧
      m'.cellAt e = f.mesh.cellAt (T.rotSrc a b k e) ∧ perM m' e = perM f.mesh (T.rotSrc a b k e) := by
  obtain ⟨hreg, hn, hbc⟩ := rotMeshK_inv f.mesh m' a b k wf.dims.2 (by rw [wf.dims.1]; exact ha) (by rw [wf.dims.1]; exact hb) h
  exact turned_axes f m' a b k wf tw ha hb hab hreg hn hbc

theorem isRot90_of_mesh (f R : Fld) (a b : Nat) (wf : MeshWf f) (tw : TurnWf f a b) (ha : a < f.mesh.ndim) (hb : b < f.mesh.ndim)
    (hab : a ≠ b) (hm : rotMesh f.mesh (f.mesh.region.dims.getD a "") (f.mesh.region.dims.getD b "") = .ok R.mesh)
    (hv : R.valid = rot90Arr f.valid a b) (hn : R.nvdim = f.nvdim) : IsRot90 f R a b := by
  obtain ⟨hreg, hn', hbc, _⟩ := rotMesh_inv f R.mesh a b wf ha hb hab hm
  obtain ⟨nd, dm, ax⟩ := turned_axes f R.mesh a b 1 wf tw ha hb hab hreg hn' hbc
  have s : ∀ e, T.rotSrc a b 1 e = swp a b e := fun e => rotSrc_eq a b 1 e
  obtain ⟨na, _, ca, pa⟩ := ax a ha
  obtain ⟨nb, _, cb, pb⟩ := ax b hb
  rw [s, swp_left] at na ca pa
  rw [s, swp_right] at nb cb pb
  have ne : ∀ e, e ≠ a → e ≠ b → R.mesh.nAt e = f.mesh.nAt e := fun e ea eb => by
    unfold Mesh.nAt; rw [hn', rotN_one]; exact getD_swapAt_other _ _ _ _ _ ea eb
  refine ⟨nd, dm, pa, pb, fun e he ea eb => ?_, na, nb, ne, ca, cb, fun e ea eb => ?_, fun i => ⟨_, by rw [hv]; rfl⟩, hn⟩
  · have := (ax e he).2.2.2
    rwa [s, swp_other ea eb] at this
  · by_cases he : e < f.mesh.ndim
    · have := (ax e he).2.2.1
      rwa [s, swp_other ea eb] at this
    · have h0 : f.mesh.nAt e = 0 := by
        unfold Mesh.nAt; rw [List.getD_eq_getElem?_getD, List.getElem?_eq_none (by rw [wf.n_len]; omega)]; rfl
      unfold Mesh.cellAt
      rw [ne e ea eb, h0, Nat.cast_zero, div_zero, div_zero]

theorem IsRot90.dimsOk {f R : Fld} {a b : Nat} (hr : IsRot90 f R a b) (hd : DimsOk f) : DimsOk R := by
  unfold DimsOk; rw [hr.dims, hr.ndim]; exact hd

/-- a turned fully valid field is fully valid: the turn theorems apply to the fields of section 5 of `Props/C05.lean` -/
theorem fullyValid_rot {f R : Fld} {a b : Nat} (hr : IsRot90 f R a b) (hf : FullyValid f) : FullyValid R :=
  fun i => by obtain ⟨j, hj⟩ := hr.valid i; rw [hj]; exact hf j

/-! ### the derivative of a turned field (`D_rot_a/b/e`, `D_turned`) -/

/-- the sign a reversed line gives the first and the second derivative (`C04.revSign`) -/
theorem revSign_one : revSign 1 = -1 := rfl

theorem revSign_two : revSign 2 = 1 := rfl

theorem turnVec_getD (v : List Rat) (v1 v2 c : Nat) (h12 : v1 ≠ v2) (h1 : v1 < v.length) (h2 : v2 < v.length) :
    (turnVec v v1 v2).getD c 0 = (if c = v1 then -1 else 1) * v.getD (swp v1 v2 c) 0 := by
  unfold turnVec
  by_cases hc2 : c = v2
  · subst hc2
    rw [getD_setAt_eq _ _ _ _ (by rw [length_setAt]; exact h2), if_neg (Ne.symm h12), swp_right, one_mul]
  · rw [getD_setAt_ne _ _ _ _ _ hc2]
    by_cases hc1 : c = v1
    · subst hc1
      rw [getD_setAt_eq _ _ _ _ h1, if_pos rfl, swp_left, neg_one_mul]
    · rw [getD_setAt_ne _ _ _ _ _ hc1, if_neg hc1, swp_other hc1 hc2, one_mul]

/-- derivative of the turned field along the FIRST axis of the plane = (sign) derivative of the
original along the SECOND axis at the cell the value came from: the line (values AND validity) is
the old line along `b`, run backwards; nothing is assumed about the validity flags -/
theorem D_rot_a (f R : Fld) (a b c c' o : Nat) (s : Rat) (i : List Nat) (hr : IsRot90 f R a b)
    (hab : a ≠ b) (hla : a < i.length) (hlb : b < i.length)
    (hia : i.getD a 0 < f.mesh.nAt b)
    (hdata : ∀ i', (R.data.get i').getD c 0 = s * (f.data.get (rotIdx f a b i')).getD c' 0)
    (hvalid : ∀ i', R.valid.get i' = f.valid.get (rotIdx f a b i')) :
    D R a o c i = revSign o * s * D f b o c' (rotIdx f a b i) := by
  have hrb : (rotIdx f a b i).getD b 0 = f.mesh.nAt b - 1 - i.getD a 0 := by
    unfold rotIdx; rw [getD_setAt_eq _ _ _ _ (by rw [length_setAt]; exact hlb)]
  have hidx : ∀ k, rotIdx f a b (setAt i a k) = setAt (rotIdx f a b i) b (f.mesh.nAt b - 1 - k) := by
    intro k
    unfold rotIdx
    rw [getD_setAt_ne _ _ _ _ _ (Ne.symm hab), getD_setAt_eq _ _ _ _ hla, setAt_setAt_same, setAt_setAt_same]
  unfold D NDA.line
  simp only [hdata, hvalid, hidx]
  rw [hr.per_a, hr.h_a, hr.n_a, hrb, mul_assoc, ← diffLine'_smul_tab,
    ← diffLine'_reverse_tab _ _ _ _ _ (fun j => s * ((f.data.get (setAt (rotIdx f a b i) b j)).getD c' 0)) _ _ hia]

/-- derivative of the turned field along the SECOND axis of the plane = derivative of the original along the FIRST axis (the line is the
old line along `a`, in the same order) -/
theorem D_rot_b (f R : Fld) (a b c c' o : Nat) (s : Rat) (i : List Nat) (hr : IsRot90 f R a b)
    (hab : a ≠ b) (hla : a < i.length) (hlb : b < i.length)
    (hdata : ∀ i', (R.data.get i').getD c 0 = s * (f.data.get (rotIdx f a b i')).getD c' 0)
    (hvalid : ∀ i', R.valid.get i' = f.valid.get (rotIdx f a b i')) :
    D R b o c i = s * D f a o c' (rotIdx f a b i) := by
  have hra : (rotIdx f a b i).getD a 0 = i.getD b 0 := by
    unfold rotIdx; rw [getD_setAt_ne _ _ _ _ _ hab, getD_setAt_eq _ _ _ _ hla]
  have hidx : ∀ k, rotIdx f a b (setAt i b k) = setAt (rotIdx f a b i) a k := by
    intro k
    unfold rotIdx
    rw [getD_setAt_eq _ _ _ _ hlb, getD_setAt_ne _ _ _ _ _ hab]
    rw [setAt_comm _ b a _ _ (Ne.symm hab), setAt_setAt_same]
    rw [setAt_comm (setAt i a (i.getD b 0)) b a _ _ (Ne.symm hab), setAt_setAt_same]
  unfold D NDA.line
  simp only [hdata, hvalid, hidx]
  rw [hr.per_b, hr.h_b, hr.n_b, hra, diffLine'_smul_tab]

theorem D_rot_e (f R : Fld) (a b e c c' o : Nat) (s : Rat) (i : List Nat) (hr : IsRot90 f R a b)
    (he : e < f.mesh.ndim) (hea : e ≠ a) (heb : e ≠ b)
    (hdata : ∀ i', (R.data.get i').getD c 0 = s * (f.data.get (rotIdx f a b i')).getD c' 0)
    (hvalid : ∀ i', R.valid.get i' = f.valid.get (rotIdx f a b i')) :
    D R e o c i = s * D f e o c' (rotIdx f a b i) := by
  have hre : (rotIdx f a b i).getD e 0 = i.getD e 0 := by
    unfold rotIdx; rw [getD_setAt_ne _ _ _ _ _ heb, getD_setAt_ne _ _ _ _ _ hea]
  have hidx : ∀ k, rotIdx f a b (setAt i e k) = setAt (rotIdx f a b i) e k := by
    intro k
    unfold rotIdx
    rw [getD_setAt_ne _ _ _ _ _ (Ne.symm heb), getD_setAt_ne _ _ _ _ _ (Ne.symm hea)]
    rw [setAt_comm i e a _ _ hea, setAt_comm _ e b _ _ heb]
  unfold D NDA.line
  simp only [hdata, hvalid, hidx]
  rw [hr.per_e e he hea heb, hr.h_e e hea heb, hr.n_e e hea heb, hre, diffLine'_smul_tab]

/-- `D_rot_a`, `D_rot_b`, `D_rot_e` in one formula: the derivative of the turned field along axis `x` is, up to the
sign of the reversal, the derivative of the original along the exchanged axis at the cell the value came from -/
theorem D_turned (f R : Fld) (a b x c c' o : Nat) (s : Rat) (i : List Nat) (hr : IsRot90 f R a b) (hab : a ≠ b)
    (ha : a < f.mesh.ndim) (hb : b < f.mesh.ndim) (hx : x < f.mesh.ndim) (hi : InMesh R i)
    (hdata : ∀ i', (R.data.get i').getD c 0 = s * (f.data.get (rotIdx f a b i')).getD c' 0)
    (hvalid : ∀ i', R.valid.get i' = f.valid.get (rotIdx f a b i')) :
    D R x o c i = (if x = a then revSign o else 1) * s * D f (swp a b x) o c' (rotIdx f a b i) := by
  obtain ⟨hlen, hin⟩ := hi
  rw [hr.ndim] at hlen hin
  by_cases hxa : x = a
  · subst hxa
    rw [if_pos rfl, swp_left]
    exact D_rot_a f R x b c c' o s i hr hab (by rw [hlen]; exact ha) (by rw [hlen]; exact hb)
      (by rw [← hr.n_a]; exact hin x ha) hdata hvalid
  · rw [if_neg hxa, one_mul]
    by_cases hxb : x = b
    · subst hxb
      rw [swp_right]
      exact D_rot_b f R a x c c' o s i hr hab (by rw [hlen]; exact ha) (by rw [hlen]; exact hb) hdata hvalid
    · rw [swp_other hxa hxb]
      exact D_rot_e f R a b x c c' o s i hr hx hxa hxb hdata hvalid

theorem D_turned_vec (f R : Fld) (a b v1 v2 x c o : Nat) (i : List Nat) (hr : IsRot90 f R a b) (hab : a ≠ b)
    (ha : a < f.mesh.ndim) (hb : b < f.mesh.ndim) (hx : x < f.mesh.ndim) (hi : InMesh R i)
    (h12 : v1 ≠ v2) (hv1 : v1 < f.nvdim) (hv2 : v2 < f.nvdim) (hraw : ∀ i, (f.data.get i).length = f.nvdim)
    (hRd : ∀ i', R.data.get i' = turnVec (f.data.get (rotIdx f a b i')) v1 v2)
    (hvalid : ∀ i', R.valid.get i' = f.valid.get (rotIdx f a b i')) :
    D R x o c i = (if x = a then revSign o else 1) * (if c = v1 then -1 else 1)
      * D f (swp a b x) o (swp v1 v2 c) (rotIdx f a b i) :=
  D_turned f R a b x c _ o _ i hr hab ha hb hx hi
    (fun i' => by rw [hRd i', turnVec_getD _ v1 v2 c h12 (by rw [hraw]; exact hv1) (by rw [hraw]; exact hv2)]) hvalid

theorem swp_pair {σ : Nat → Nat} {a b v1 v2 : Nat} (hab : a ≠ b) (hs1 : σ v1 = a) (hs2 : σ v2 = b) (c : Nat)
    (hoth : c ≠ v1 → c ≠ v2 → σ c ≠ a ∧ σ c ≠ b) :
    swp a b (σ c) = σ (swp v1 v2 c) ∧ (σ c = a ↔ c = v1) := by
  by_cases c1 : c = v1
  · subst c1
    rw [hs1, swp_left, swp_left, hs2]
    exact ⟨rfl, fun _ => rfl, fun _ => rfl⟩
  · by_cases c2 : c = v2
    · subst c2
      rw [hs2, swp_right, swp_right, hs1]
      exact ⟨rfl, fun h => absurd h.symm hab, fun h => absurd h c1⟩
    · obtain ⟨na, nb⟩ := hoth c1 c2
      rw [swp_other na nb, swp_other c1 c2]
      exact ⟨rfl, fun h => absurd h na, fun h => absurd h c1⟩

/-! ### sums over exchanged axes; the source cell on fields that share the mesh -/

theorem sumTo_swap (n a b : Nat) (ha : a < n) (hb : b < n) (g : Nat → Rat) :
    sumTo n (fun e => g (swp a b e)) = sumTo n g :=
  sumTo_perm n (swp a b) (swp a b) (fun k hk => ⟨swp_lt ha hb hk, swp_swp a b k⟩)
    (fun k hk => ⟨swp_lt ha hb hk, swp_swp a b k⟩) g

theorem rotIdx_congr (f g : Fld) (a b : Nat) (i : List Nat) (h : g.mesh = f.mesh) : rotIdx g a b i = rotIdx f a b i := by
  unfold rotIdx; rw [h]

/-! ### the curl of a turned table of derivatives -/

/-- exchanging two of the three axes reverses their cyclic order -/
theorem swp_cyclic : ∀ a, a < 3 → ∀ b, b < 3 → a ≠ b → ∀ k, k < 3 →
    swp a b ((k + 1) % 3) = (swp a b k + 2) % 3 ∧ swp a b ((k + 2) % 3) = (swp a b k + 1) % 3 := by
  decide

/-- exactly one of three cyclically consecutive axes is `a` -/
theorem one_of_three : ∀ a, a < 3 → ∀ k, k < 3 →
    (k = a ∧ (k + 1) % 3 ≠ a ∧ (k + 2) % 3 ≠ a) ∨ (k ≠ a ∧ (k + 1) % 3 = a ∧ (k + 2) % 3 ≠ a) ∨
    (k ≠ a ∧ (k + 1) % 3 ≠ a ∧ (k + 2) % 3 = a) := by
  decide

/-- the curl turns like a vector: when the table of derivatives is turned in the plane `(a, b)` (axes and paired
components exchanged, a sign for each index that is `a`), the curl has its components `a`, `b` exchanged with a sign
on `a`.  The exchange reverses the cyclic order of the axes (`swp_cyclic`), which swaps the two terms of a component,
and of the three signs involved exactly one is `-1` (`one_of_three`). -/
theorem curlOf_turn (e eR : Nat → Nat → Rat) (a b : Nat) (ha : a < 3) (hb : b < 3) (hab : a ≠ b)
    (h : ∀ x y, x < 3 → y < 3 →
      eR x y = (if x = a then -1 else 1) * ((if y = a then -1 else 1) * e (swp a b x) (swp a b y)))
    (k : Nat) (hk : k < 3) :
    curlOf eR k = (if k = a then -1 else 1) * curlOf e (swp a b k) := by
  obtain ⟨h1, h2⟩ := swp_cyclic a ha b hb hab k hk
  have l1 : (k + 1) % 3 < 3 := Nat.mod_lt _ (by decide)
  have l2 : (k + 2) % 3 < 3 := Nat.mod_lt _ (by decide)
  unfold curlOf
  rw [h _ _ l1 l2, h _ _ l2 l1, h1, h2]
  rcases one_of_three a ha k hk with ⟨c0, c1, c2⟩ | ⟨c0, c1, c2⟩ | ⟨c0, c1, c2⟩
  · rw [if_neg c1, if_neg c2, if_pos c0]; ring
  · rw [if_pos c1, if_neg c2, if_neg c0]; ring
  · rw [if_neg c1, if_pos c2, if_neg c0]; ring

/-! ### `Field.rotate90` taken apart -/

/-- **`Field.rotate90` taken apart**: it is accepted exactly when `Mesh.rotate90` is and the constructor call of the scalar or of
the vector branch (both in-plane axes paired with a component) is -/
theorem rot90Fld_ok_iff (f R : Fld) (a b : Nat) (hd : DimsOk f) (ha : a < f.mesh.ndim) (hb : b < f.mesh.ndim) :
    rot90Fld f (f.mesh.region.dims.getD a "") (f.mesh.region.dims.getD b "") = .ok R ↔
    ∃ mesh', rotMesh f.mesh (f.mesh.region.dims.getD a "") (f.mesh.region.dims.getD b "") = .ok mesh' ∧
      ((¬ 1 < f.nvdim ∧
          mkFld mesh' f.nvdim (rot90Arr f.data a b) (rot90Arr f.valid a b) f.vdims (some f.vmap) f.unit = .ok R) ∨
       (1 < f.nvdim ∧ ∃ v1 v2, (rDimLast f (f.mesh.region.dims.getD a "")).bind f.vdimIndex = some v1 ∧
          (rDimLast f (f.mesh.region.dims.getD b "")).bind f.vdimIndex = some v2 ∧
          mkFld mesh' f.nvdim ⟨swapAt f.data.shape a b, fun i => turnVec ((rot90Arr f.data a b).get i) v1 v2⟩
            (rot90Arr f.valid a b) f.vdims (some f.vmap) f.unit = .ok R)) := by
  constructor
  · intro h
    unfold rot90Fld at h
    split at h
    · cases h
    · next mesh' hmesh =>
      rw [hd.indexOf ha, hd.indexOf hb] at h
      simp only [] at h
      refine ⟨mesh', hmesh, ?_⟩
      split at h
      · next hn =>
        split at h
        · next v1 v2 h1 h2 => exact Or.inr ⟨hn, v1, v2, h1, h2, h⟩
        · cases h
      · next hn => exact Or.inl ⟨hn, h⟩
  · rintro ⟨mesh', hmesh, ⟨hn, hk⟩ | ⟨hn, v1, v2, h1, h2, hk⟩⟩ <;>
      (unfold rot90Fld
       rw [hmesh]
       simp only []
       rw [hd.indexOf ha, hd.indexOf hb]
       simp only [])
    · rw [if_neg hn]; exact hk
    · rw [if_pos hn, h1, h2]; exact hk

theorem rot90Fld_parts (f R : Fld) (a b : Nat) (hd : DimsOk f) (ha : a < f.mesh.ndim) (hb : b < f.mesh.ndim)
    (h : rot90Fld f (f.mesh.region.dims.getD a "") (f.mesh.region.dims.getD b "") = .ok R) :
    rotMesh f.mesh (f.mesh.region.dims.getD a "") (f.mesh.region.dims.getD b "") = .ok R.mesh ∧
    R.valid = rot90Arr f.valid a b ∧ R.data.shape = swapAt f.data.shape a b ∧ R.nvdim = f.nvdim ∧ R.unit = f.unit := by
  obtain ⟨mesh', hmesh, ⟨_, hk⟩ | ⟨_, v1, v2, _, _, hk⟩⟩ := (rot90Fld_ok_iff f R a b hd ha hb).mp h <;>
    obtain ⟨m1, m2, m3, m4, m5, _⟩ := mkFld_ok hk <;>
    exact ⟨by rw [m1]; exact hmesh, m4, congrArg NDA.shape m3, m2, m5⟩

theorem isRot90_of_ok (f R : Fld) (a b : Nat) (wf : MeshWf f) (tw : TurnWf f a b) (ha : a < f.mesh.ndim) (hb : b < f.mesh.ndim)
    (hab : a ≠ b) (h : rot90Fld f (f.mesh.region.dims.getD a "") (f.mesh.region.dims.getD b "") = .ok R) : IsRot90 f R a b := by
  obtain ⟨hm, hv, _, hn, _⟩ := rot90Fld_parts f R a b wf.dims ha hb h
  exact isRot90_of_mesh f R a b wf tw ha hb hab hm hv hn

/-- `np.rot90` of an array shaped like the mesh takes the entry at `i` from the cell that one quarter turn moves to `i` -/
theorem rot90Arr_get {α} (f : Fld) (A : NDA α) (a b : Nat) (hs : A.shape = f.mesh.n) (i : List Nat) :
    (rot90Arr A a b).get i = A.get (rotIdx f a b i) := by
  unfold rot90Arr rotIdx Mesh.nAt
  simp only []
  rw [hs]

theorem rot90Fld_valid (f R : Fld) (a b : Nat) (hd : DimsOk f) (hvs : f.valid.shape = f.mesh.n)
    (ha : a < f.mesh.ndim) (hb : b < f.mesh.ndim)
    (h : rot90Fld f (f.mesh.region.dims.getD a "") (f.mesh.region.dims.getD b "") = .ok R) :
    ∀ i, R.valid.get i = f.valid.get (rotIdx f a b i) := by
  obtain ⟨_, hv, _⟩ := rot90Fld_parts f R a b hd ha hb h
  intro i
  rw [hv, rot90Arr_get f _ a b hvs]

theorem rot90Fld_scalar_data (f R : Fld) (a b : Nat) (hd : DimsOk f) (hs : f.data.shape = f.mesh.n)
    (hn : f.nvdim = 1) (ha : a < f.mesh.ndim) (hb : b < f.mesh.ndim)
    (h : rot90Fld f (f.mesh.region.dims.getD a "") (f.mesh.region.dims.getD b "") = .ok R) :
    ∀ i, R.data.get i = f.data.get (rotIdx f a b i) := by
  obtain ⟨mesh', _, ⟨_, hk⟩ | ⟨h1, _⟩⟩ := (rot90Fld_ok_iff f R a b hd ha hb).mp h
  · intro i
    rw [(mkFld_ok hk).2.2.1, rot90Arr_get f _ a b hs]
  · omega

theorem rot90Fld_vector_data (f R : Fld) (a b v1 v2 : Nat) (hd : DimsOk f) (hs : f.data.shape = f.mesh.n)
    (hn : 1 < f.nvdim) (ha : a < f.mesh.ndim) (hb : b < f.mesh.ndim)
    (h1 : (rDimLast f (f.mesh.region.dims.getD a "")).bind f.vdimIndex = some v1)
    (h2 : (rDimLast f (f.mesh.region.dims.getD b "")).bind f.vdimIndex = some v2)
    (h : rot90Fld f (f.mesh.region.dims.getD a "") (f.mesh.region.dims.getD b "") = .ok R) :
    ∀ i, R.data.get i = turnVec (f.data.get (rotIdx f a b i)) v1 v2 := by
  obtain ⟨mesh', _, ⟨h0, _⟩ | ⟨_, w1, w2, e1, e2, hk⟩⟩ := (rot90Fld_ok_iff f R a b hd ha hb).mp h
  · exact absurd hn h0
  · rw [h1] at e1; rw [h2] at e2
    injection e1 with e1; injection e2 with e2
    subst e1 e2
    intro i
    rw [(mkFld_ok hk).2.2.1]
    show turnVec ((rot90Arr f.data a b).get i) v1 v2 = _
    rw [rot90Arr_get f _ a b hs]

theorem rot90Fld_vector_meta (f R : Fld) (a b : Nat) (vs : List String) (hd : DimsOk f) (hn : 1 < f.nvdim)
    (hv : f.vdims = some vs) (hvl : vs.length = f.nvdim)
    (ha : a < f.mesh.ndim) (hb : b < f.mesh.ndim)
    (h : rot90Fld f (f.mesh.region.dims.getD a "") (f.mesh.region.dims.getD b "") = .ok R) :
    R.vdims = some vs ∧ R.vmap = f.vmap ∧ R.nvdim = f.nvdim := by
  obtain ⟨_, _, _, hnv, _⟩ := rot90Fld_parts f R a b hd ha hb h
  obtain ⟨mesh', _, ⟨h0, _⟩ | ⟨_, w1, w2, _, _, hk⟩⟩ := (rot90Fld_ok_iff f R a b hd ha hb).mp h
  · exact absurd hn h0
  · obtain ⟨_, _, _, _, _, _, m7, m8⟩ := mkFld_ok hk
    rw [hv] at m7
    obtain ⟨r1, _, _⟩ := (vdimsSet_some_iff (by intro he; subst he; simp at hvl; omega)).mp m7
    rw [r1] at m8
    exact ⟨r1, (vmapSet_some_iff.mp m8).1, hnv⟩

theorem rot90Fld_scalar (f R : Fld) (a b : Nat) (wf : MeshWf f) (tw : TurnWf f a b) (hn : f.nvdim = 1) (ha : a < f.mesh.ndim)
    (hb : b < f.mesh.ndim) (hab : a ≠ b)
    (h : rot90Fld f (f.mesh.region.dims.getD a "") (f.mesh.region.dims.getD b "") = .ok R) :
    IsRot90 f R a b ∧ (∀ i, R.data.get i = f.data.get (rotIdx f a b i)) ∧ R.unit = f.unit := by
  obtain ⟨_, _, _, _, hu⟩ := rot90Fld_parts f R a b wf.dims ha hb h
  exact ⟨isRot90_of_ok f R a b wf tw ha hb hab h,
    rot90Fld_scalar_data f R a b wf.dims wf.data_shape hn ha hb h, hu⟩

/-! ### acceptance of a quarter turn -/

theorem rot90_plain {f R : Fld} {a b : Nat} (hd : DimsOk f) (ha : a < f.mesh.ndim) (hb : b < f.mesh.ndim) (hp : Plain f)
    (h : rot90Fld f (f.mesh.region.dims.getD a "") (f.mesh.region.dims.getD b "") = .ok R) : Plain R := by
  obtain ⟨mesh', _, ⟨_, hk⟩ | ⟨h1, _⟩⟩ := (rot90Fld_ok_iff f R a b hd ha hb).mp h
  · rw [hp.1, hp.2.1, hp.2.2, mkFld_scalar _ _ _ _ [] (Nat.zero_le _)] at hk
    injection hk with hk
    subst hk
    exact ⟨rfl, rfl, rfl⟩
  · rw [hp.1] at h1; omega

theorem rot90_accepts_plain (f : Fld) (a b : Nat) (wf : MeshWf f) (tw : TurnWf f a b) (hsub : f.mesh.subs = []) (hp : Plain f)
    (ha : a < f.mesh.ndim) (hb : b < f.mesh.ndim) (hab : a ≠ b) :
    ∃ R, rot90Fld f (f.mesh.region.dims.getD a "") (f.mesh.region.dims.getD b "") = .ok R := by
  obtain ⟨m', hm'⟩ := rotMesh_succeeds f a b wf tw hsub ha hb hab
  obtain ⟨R, hk⟩ : ∃ R, mkFld m' f.nvdim (rot90Arr f.data a b) (rot90Arr f.valid a b) f.vdims (some f.vmap) f.unit = .ok R :=
    ⟨_, by rw [hp.1, hp.2.1, hp.2.2]; exact mkFld_scalar _ _ _ _ [] (Nat.zero_le _)⟩
  exact ⟨R, (rot90Fld_ok_iff f R a b wf.dims ha hb).mpr ⟨m', hm', Or.inl ⟨by rw [hp.1]; omega, hk⟩⟩⟩

theorem rot90_accepts_vector (f : Fld) (a b v1 v2 : Nat) (vs : List String) (wf : MeshWf f) (tw : TurnWf f a b) (hsub : f.mesh.subs = [])
    (hn : 1 < f.nvdim) (hv : f.vdims = some vs) (hvl : vs.length = f.nvdim) (hvd : hasDup vs = false)
    (hkeys : (f.vmap.map (·.1)).isPerm vs = true)
    (ha : a < f.mesh.ndim) (hb : b < f.mesh.ndim) (hab : a ≠ b)
    (h1 : (rDimLast f (f.mesh.region.dims.getD a "")).bind f.vdimIndex = some v1)
    (h2 : (rDimLast f (f.mesh.region.dims.getD b "")).bind f.vdimIndex = some v2) :
    ∃ R, rot90Fld f (f.mesh.region.dims.getD a "") (f.mesh.region.dims.getD b "") = .ok R := by
  obtain ⟨m', hm'⟩ := rotMesh_succeeds f a b wf tw hsub ha hb hab
  obtain ⟨R, hk⟩ : ∃ R, mkFld m' f.nvdim ⟨swapAt f.data.shape a b, fun i => turnVec ((rot90Arr f.data a b).get i) v1 v2⟩
      (rot90Arr f.valid a b) f.vdims (some f.vmap) f.unit = .ok R :=
    ⟨_, by rw [hv]; exact mkFld_labelled (by omega) hvl hvd (Or.inr hkeys)⟩
  exact ⟨R, (rot90Fld_ok_iff f R a b wf.dims ha hb).mpr ⟨m', hm', Or.inr ⟨hn, v1, v2, h1, h2, hk⟩⟩⟩

end DFV.C05

