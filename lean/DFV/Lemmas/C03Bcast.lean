import DFV.Model.C03
import DFV.Lemmas.Index
import DFV.Lemmas.ListOps
import DFV.Lemmas.NDA

/-! C03: NumPy broadcasting: `bdim` on one axis, `bshape` on right-aligned shapes (through the reversed lists:
`bshapeRev`, `Into`), `bproj` on indices (`bprojRev`, `Below`); then when the array functions `npBin`, `einsumDot`,
`npCross`, `npStack` succeed and what they return (`*_ok_iff`). -/

namespace DFV.C03
open DFV

theorem force_shape {α} (a : NDA α) (d : α) : (a.force d).shape = a.shape := NDA.force_shape a d

theorem inRange_append_single (n i : List Nat) (k c : Nat) :
    inRange (n ++ [k]) (i ++ [c]) = true ↔ inRange n i = true ∧ c < k := by
  rw [inRange_snoc, Bool.and_eq_true, decide_eq_true_eq]

/-- pairwise `i_a < n_a` on lists of equal length (`inRange` in the form that survives `reverse`) -/
def Below : List Nat → List Nat → Prop
  | [], [] => True
  | i :: is, n :: ns => i < n ∧ Below is ns
  | _, _ => False

theorem below_of_inRange (n i : List Nat) (h : inRange n i = true) : Below i n := by
  induction n generalizing i with
  | nil => cases i <;> simp_all [inRange, Below]
  | cons m ms ih =>
    cases i with
    | nil => simp [inRange] at h
    | cons j js =>
      rw [inRange_cons] at h
      exact ⟨h.1, ih js h.2⟩

theorem below_length (i n : List Nat) (h : Below i n) : i.length = n.length := by
  induction i generalizing n with
  | nil => cases n <;> simp_all [Below]
  | cons j js ih =>
    cases n with
    | nil => simp [Below] at h
    | cons m ms => simp [ih ms h.2]

theorem below_append (i n : List Nat) (c k : Nat) (h : Below i n) (hc : c < k) : Below (i ++ [c]) (n ++ [k]) := by
  induction i generalizing n with
  | nil => cases n <;> simp_all [Below]
  | cons j js ih =>
    cases n with
    | nil => simp [Below] at h
    | cons m ms => exact ⟨h.1, ih ms h.2⟩

theorem below_reverse (i n : List Nat) (h : Below i n) : Below i.reverse n.reverse := by
  induction i generalizing n with
  | nil => cases n <;> simp_all [Below]
  | cons j js ih =>
    cases n with
    | nil => simp [Below] at h
    | cons m ms =>
      simp only [List.reverse_cons]
      exact below_append _ _ _ _ (ih ms h.2) h.1

/-- the two lengths can be broadcast -/
def Compat (a b : Nat) : Prop := a = 1 ∨ b = 1 ∨ a = b

theorem bdim_eq_some_iff (k m d : Nat) :
    bdim k m = some d ↔ (k = m ∧ d = k) ∨ (k = 1 ∧ d = m) ∨ (m = 1 ∧ d = k) := by
  -- the three `if`s of `bdim`; in each branch `←` goes by cases on the right-hand side
  unfold bdim
  by_cases h1 : k = m
  · rw [if_pos h1]
    exact ⟨fun h => Or.inl ⟨h1, (Option.some.inj h).symm⟩, fun h => by
      rcases h with ⟨_, rfl⟩ | ⟨rfl, rfl⟩ | ⟨rfl, rfl⟩ <;> first | rfl | rw [h1]⟩
  · rw [if_neg h1]
    by_cases h2 : k = 1
    · rw [if_pos h2]
      exact ⟨fun h => Or.inr (Or.inl ⟨h2, (Option.some.inj h).symm⟩), fun h => by
        rcases h with ⟨h, _⟩ | ⟨_, rfl⟩ | ⟨rfl, rfl⟩ <;> first | rfl | exact absurd h h1 | rw [h2]⟩
    · rw [if_neg h2]
      by_cases h3 : m = 1
      · rw [if_pos h3]
        exact ⟨fun h => Or.inr (Or.inr ⟨h3, (Option.some.inj h).symm⟩), fun h => by
          rcases h with ⟨h, _⟩ | ⟨h, _⟩ | ⟨_, rfl⟩ <;> first | rfl | exact absurd h h1 | exact absurd h h2⟩
      · rw [if_neg h3]
        exact ⟨nofun, fun h => by
          rcases h with ⟨h, _⟩ | ⟨h, _⟩ | ⟨h, _⟩ <;> first | exact absurd h h1 | exact absurd h h2 | exact absurd h h3⟩

theorem bdim_eq_none_iff (k m : Nat) : bdim k m = none ↔ k ≠ m ∧ k ≠ 1 ∧ m ≠ 1 := by
  -- no `d` satisfies one of the three cases of `bdim_eq_some_iff`
  rw [Option.eq_none_iff_forall_ne_some]
  constructor
  · intro h
    exact ⟨fun e => h k ((bdim_eq_some_iff k m k).mpr (Or.inl ⟨e, rfl⟩)),
      fun e => h m ((bdim_eq_some_iff k m m).mpr (Or.inr (Or.inl ⟨e, rfl⟩))),
      fun e => h k ((bdim_eq_some_iff k m k).mpr (Or.inr (Or.inr ⟨e, rfl⟩)))⟩
  · intro ⟨h1, h2, h3⟩ d hd
    rcases (bdim_eq_some_iff k m d).mp hd with ⟨e, _⟩ | ⟨e, _⟩ | ⟨e, _⟩
    exacts [h1 e, h2 e, h3 e]

theorem bdim_self (x : Nat) : bdim x x = some x := (bdim_eq_some_iff x x x).mpr (Or.inl ⟨rfl, rfl⟩)

theorem bdim_one_left (m : Nat) : bdim 1 m = some m := (bdim_eq_some_iff 1 m m).mpr (Or.inr (Or.inl ⟨rfl, rfl⟩))

theorem bdim_one_right (m : Nat) : bdim m 1 = some m := (bdim_eq_some_iff m 1 m).mpr (Or.inr (Or.inr ⟨rfl, rfl⟩))

theorem bdim_some (k m d : Nat) (h : bdim k m = some d) :
    d = (if k = 1 then m else k) ∧ (m = 1 ∨ m = d) := by
  rcases (bdim_eq_some_iff k m d).mp h with ⟨rfl, rfl⟩ | ⟨rfl, rfl⟩ | ⟨rfl, rfl⟩
  · exact ⟨by split <;> rfl, Or.inr rfl⟩
  · exact ⟨(if_pos rfl).symm, Or.inr rfl⟩
  · exact ⟨by split <;> [assumption; rfl], Or.inl rfl⟩

theorem bdim_isSome_iff (k m : Nat) : (bdim k m).isSome = true ↔ (k = m ∨ k = 1 ∨ m = 1) := by
  cases h : bdim k m with
  | none =>
    have := (bdim_eq_none_iff k m).mp h
    simp only [Option.isSome_none, Bool.false_eq_true, false_iff]
    omega
  | some d =>
    have := (bdim_eq_some_iff k m d).mp h
    simp only [Option.isSome_some, true_iff]
    omega

theorem compat_iff_isSome {k m : Nat} : Compat k m ↔ (bdim k m).isSome = true := by
  rw [bdim_isSome_iff]; unfold Compat; omega

theorem compat_of_bdim (k m d : Nat) (h : bdim k m = some d) : Compat k m :=
  compat_iff_isSome.mpr (by rw [h]; rfl)

theorem compat_symm {a b : Nat} (h : Compat a b) : Compat b a := by
  unfold Compat at *; omega

/-- the three cases of `bdim_eq_some_iff` are symmetric in the two lengths -/
theorem bdim_comm (x y : Nat) : bdim x y = bdim y x :=
  Option.ext fun d => by
    rw [bdim_eq_some_iff, bdim_eq_some_iff]
    constructor
    · rintro (⟨rfl, rfl⟩ | h | h)
      exacts [Or.inl ⟨rfl, rfl⟩, Or.inr (Or.inr h), Or.inr (Or.inl h)]
    · rintro (⟨rfl, rfl⟩ | h | h)
      exacts [Or.inl ⟨rfl, rfl⟩, Or.inr (Or.inr h), Or.inr (Or.inl h)]

/-- broadcasting `n` with anything and the result back into `n` gives `n`: one axis -/
theorem bdim_to_self (n x d : Nat) (h1 : bdim n x = some d) (h2 : bdim d n = some n) : d = n := by
  have := (bdim_eq_some_iff _ _ _).mp h1
  have := (bdim_eq_some_iff _ _ _).mp h2
  omega

theorem bshapeRev_cons_some {x y : Nat} {xs ys r : List Nat} (h : bshapeRev (x :: xs) (y :: ys) = some r) :
    ∃ d r', bdim x y = some d ∧ bshapeRev xs ys = some r' ∧ r = d :: r' := by
  simp only [bshapeRev] at h
  cases hd : bdim x y with
  | none => rw [hd] at h; cases h
  | some d =>
    cases hr : bshapeRev xs ys with
    | none => rw [hd, hr] at h; cases h
    | some r' => rw [hd, hr] at h; exact ⟨d, r', rfl, rfl, (Option.some.inj h).symm⟩

theorem bshapeRev_self (r : List Nat) : bshapeRev r r = some r := by
  induction r with
  | nil => rfl
  | cons x xs ih => simp [bshapeRev, bdim_self, ih]

theorem bshapeRev_nil_right (r : List Nat) : bshapeRev r [] = some r := by
  cases r <;> rfl

theorem bshapeRev_length (s t r : List Nat) (h : bshapeRev s t = some r) :
    r.length = max s.length t.length := by
  induction s generalizing t r with
  | nil => simp [bshapeRev] at h; subst h; simp
  | cons x xs ih =>
    cases t with
    | nil => simp [bshapeRev] at h; subst h; simp
    | cons y ys =>
      obtain ⟨d, r', _, hr, rfl⟩ := bshapeRev_cons_some h
      simp [ih ys r' hr]

theorem bprojRev_below (s idx : List Nat) (h : Below idx s) : bprojRev s idx = idx := by
  induction s generalizing idx with
  | nil => cases idx <;> simp_all [Below, bprojRev]
  | cons x xs ih =>
    cases idx with
    | nil => simp [Below] at h
    | cons j js =>
      simp only [bprojRev]
      rw [ih js h.2]
      by_cases hx : x = 1
      · have : j = 0 := by have := h.1; omega
        simp [hx, this]
      · simp [hx]

theorem bproj_inRange (s idx : List Nat) (h : inRange s idx = true) : bproj s idx = idx := by
  unfold bproj
  rw [bprojRev_below _ _ (below_reverse _ _ (below_of_inRange _ _ h))]
  simp

/-- `t` broadcasts into `s`: wherever `s` has length 1 so has `t`, and `t` is not longer -/
def Into : List Nat → List Nat → Prop
  | [], _ => True
  | _ :: _, [] => False
  | t :: ts, s :: ss => (s = 1 → t = 1) ∧ Into ts ss

theorem into_of_bshapeRev_left (s t r : List Nat) (h : bshapeRev s t = some r) : Into s r := by
  induction s generalizing t r with
  | nil => simp [Into]
  | cons x xs ih =>
    cases t with
    | nil =>
      simp [bshapeRev] at h; subst h
      exact ⟨fun h => h, ih [] xs (bshapeRev_nil_right xs)⟩
    | cons y ys =>
      obtain ⟨d, r', hd, hr, rfl⟩ := bshapeRev_cons_some h
      refine ⟨fun hd1 => ?_, ih ys r' hr⟩
      have := (bdim_eq_some_iff x y d).mp hd
      omega

theorem bshapeRev_comm (s t : List Nat) : bshapeRev s t = bshapeRev t s := by
  induction s generalizing t with
  | nil => cases t <;> simp [bshapeRev]
  | cons x xs ih =>
    cases t with
    | nil => simp [bshapeRev]
    | cons y ys => simp only [bshapeRev, ih ys, bdim_comm x y]

theorem into_of_bshapeRev_right (s t r : List Nat) (h : bshapeRev s t = some r) : Into t r := by
  rw [bshapeRev_comm] at h
  exact into_of_bshapeRev_left t s r h

theorem bprojRev_bprojRev (t s idx : List Nat) (h : Into t s) (hl : s.length ≤ idx.length) :
    bprojRev t (bprojRev s idx) = bprojRev t idx := by
  induction t generalizing s idx with
  | nil => simp [bprojRev]
  | cons x xs ih =>
    cases s with
    | nil => simp [Into] at h
    | cons y ys =>
      cases idx with
      | nil => simp at hl
      | cons j js =>
        simp only [bprojRev]
        rw [ih ys js h.2 (by simpa using hl)]
        by_cases hy : y = 1
        · simp [h.1 hy]
        · simp [hy]

theorem bprojRev_length (s idx : List Nat) (hl : s.length ≤ idx.length) : (bprojRev s idx).length = s.length := by
  induction s generalizing idx with
  | nil => simp [bprojRev]
  | cons x xs ih =>
    cases idx with
    | nil => simp at hl
    | cons j js => simp [bprojRev, ih js (by simpa using hl)]

theorem lastAx_concat (l : List Nat) (x : Nat) : lastAx (l ++ [x]) = x :=
  List.getLastD_concat ..

theorem bshape_some_iff (s t r : List Nat) : bshape s t = some r ↔ bshapeRev s.reverse t.reverse = some r.reverse := by
  unfold bshape
  constructor
  · intro h
    cases hb : bshapeRev s.reverse t.reverse with
    | none => simp [hb] at h
    | some x => simp [hb] at h; subst h; simp
  · intro h
    simp [h]

theorem bshape_length (s t r : List Nat) (h : bshape s t = some r) : r.length = max s.length t.length := by
  have := bshapeRev_length _ _ _ ((bshape_some_iff s t r).mp h)
  simpa using this

theorem bshape_last (s t r : List Nat) (k m : Nat) (h : bshape (s ++ [k]) (t ++ [m]) = some r) :
    ∃ d r', bdim k m = some d ∧ r = r' ++ [d] ∧ bshape s t = some r' := by
  rw [bshape_some_iff] at h
  simp only [List.reverse_append, List.reverse_cons, List.reverse_nil, List.nil_append, List.cons_append] at h
  obtain ⟨d, r', hd, hr, hrr⟩ := bshapeRev_cons_some h
  refine ⟨d, r'.reverse, hd, ?_, ?_⟩
  · have := congrArg List.reverse hrr
    simpa using this
  · rw [bshape_some_iff]; simpa using hr

theorem bproj_bproj (t s idx : List Nat) (h : Into t.reverse s.reverse) (hl : s.length ≤ idx.length) :
    bproj t (bproj s idx) = bproj t idx := by
  unfold bproj
  simp only [List.reverse_reverse]
  rw [bprojRev_bprojRev _ _ _ h (by simpa using hl)]

theorem into_left (s t r : List Nat) (h : bshape s t = some r) : Into s.reverse r.reverse :=
  into_of_bshapeRev_left _ _ _ ((bshape_some_iff s t r).mp h)

theorem into_right (s t r : List Nat) (h : bshape s t = some r) : Into t.reverse r.reverse :=
  into_of_bshapeRev_right _ _ _ ((bshape_some_iff s t r).mp h)

/-- length of the last axis, 1 for 0-d arrays -/
def lastDim (s : List Nat) : Nat := if s = [] then 1 else lastAx s

theorem lastDim_eq_lastAx (s : List Nat) (h : s ≠ []) : lastDim s = lastAx s := by
  simp [lastDim, h]

/-- `List.eq_nil_or_concat` with `concat` written as `++ [·]` -/
theorem list_nil_or_concat (s : List Nat) : s = [] ∨ ∃ t m, s = t ++ [m] := by
  rcases List.eq_nil_or_concat s with h | ⟨t, m, h⟩
  · exact Or.inl h
  · exact Or.inr ⟨t, m, by simpa using h⟩

theorem lastDim_concat (t : List Nat) (m : Nat) : lastDim (t ++ [m]) = m := by
  unfold lastDim
  simp [lastAx_concat]

theorem bproj_nil (idx : List Nat) : bproj [] idx = [] := by
  simp [bproj, bprojRev]

theorem bshape_nil_left (t : List Nat) : bshape [] t = some t := by
  simp [bshape, bshapeRev]

theorem bshape_nil_right (t : List Nat) : bshape t [] = some t := by
  simp [bshape, bshapeRev_nil_right]

theorem bshape_lastDim (s t r : List Nat) (h : bshape s t = some r) (hr : r ≠ []) :
    bdim (lastDim s) (lastDim t) = some (lastAx r) := by
  rcases list_nil_or_concat s with hs | ⟨s', k, hs⟩
  · subst hs
    rw [bshape_nil_left] at h
    injection h with h
    subst h
    rw [lastDim_eq_lastAx t hr]
    exact bdim_one_left _
  · rcases list_nil_or_concat t with ht | ⟨t', m, ht⟩
    · subst ht
      rw [bshape_nil_right] at h
      injection h with h
      subst h
      rw [lastDim_eq_lastAx s hr]
      exact bdim_one_right _
    · subst hs; subst ht
      obtain ⟨d, r', hd, hr', _⟩ := bshape_last _ _ _ _ _ h
      rw [lastDim_concat, lastDim_concat, hr', lastAx_concat]
      exact hd

theorem bproj_snoc (t i : List Nat) (m c : Nat) :
    bproj (t ++ [m]) (i ++ [c]) = bproj t i ++ [if m = 1 then 0 else c] := by
  unfold bproj
  simp [bprojRev]

theorem bproj_snoc_lt (t i : List Nat) (m c : Nat) (hc : c < m) :
    bproj t i ++ [c] = bproj (t ++ [m]) (i ++ [c]) := by
  rw [bproj_snoc]
  by_cases hm : m = 1
  · have : c = 0 := by omega
    simp [hm, this]
  · simp [hm]

theorem bproj_last_one (t i : List Nat) (c : Nat) :
    bproj (t ++ [1]) (i ++ [c]) = bproj (t ++ [1]) (i ++ [0]) := by
  rw [bproj_snoc, bproj_snoc, if_pos rfl, if_pos rfl]

theorem lastAx_ne_nil (s : List Nat) (k : Nat) (h : lastAx s = k) (hk : k ≠ 0) : s ≠ [] := by
  intro h0; rw [h0] at h; simp [lastAx] at h; omega

theorem bshape_self (s : List Nat) : bshape s s = some s := by
  rw [bshape_some_iff]; exact bshapeRev_self _

theorem bshapeRev_append (t r : List Nat) : bshapeRev (t ++ r) t = some (t ++ r) := by
  induction t with
  | nil => exact bshapeRev_nil_right r
  | cons x xs ih =>
    cases hr : xs ++ r with
    | nil =>
      have : xs = [] := by cases xs <;> simp_all
      subst this
      simp only [List.cons_append, bshapeRev, bdim_self, hr]
    | cons y ys =>
      simp only [List.cons_append, bshapeRev, bdim_self]
      rw [ih]

/-- a trailing block of the shape (constant vector, per-cell row) broadcasts to the shape -/
theorem bshape_suffix (s t : List Nat) : bshape (s ++ t) t = some (s ++ t) := by
  rw [bshape_some_iff]
  simp only [List.reverse_append]
  exact bshapeRev_append _ _

theorem bshape_comm (s t : List Nat) : bshape s t = bshape t s := by
  unfold bshape; rw [bshapeRev_comm]

theorem bshape_suffix' (s t : List Nat) : bshape t (s ++ t) = some (s ++ t) := by
  rw [bshape_comm]; exact bshape_suffix s t

/-- two arrays over the same cells: the last axes decide -/
theorem bshape_cells (s : List Nat) (k m d : Nat) (h : bdim k m = some d) :
    bshape (s ++ [k]) (s ++ [m]) = some (s ++ [d]) := by
  rw [bshape_some_iff]
  simp only [List.reverse_append, List.reverse_cons, List.reverse_nil, List.nil_append, List.cons_append]
  simp only [bshapeRev, h, bshapeRev_self]

theorem npBin_ok_iff {α β γ : Type} {fn : α → β → γ} {A : NDA α} {B : NDA β} {res : NDA γ} :
    npBin fn A B = .ok res ↔ ∃ s, bshape A.shape B.shape = some s ∧
      res = ⟨s, fun idx => fn (A.get (bproj A.shape idx)) (B.get (bproj B.shape idx))⟩ := by
  unfold npBin
  cases bshape A.shape B.shape with
  | none => exact ⟨nofun, fun ⟨_, h, _⟩ => nomatch h⟩
  | some s => exact ⟨fun h => ⟨s, rfl, (Except.ok.inj h).symm⟩, fun ⟨_, h, hr⟩ => by cases h; rw [hr]⟩

theorem npBin_shape {α β γ : Type} (fn : α → β → γ) (A : NDA α) (B : NDA β) (r : List Nat)
    (h : bshape A.shape B.shape = some r) : ∃ res, npBin fn A B = .ok res ∧ res.shape = r :=
  ⟨_, npBin_ok_iff.mpr ⟨r, h, rfl⟩, rfl⟩

theorem bshape_last_none (s t : List Nat) (k m : Nat) (h : bdim k m = none) : bshape (s ++ [k]) (t ++ [m]) = none := by
  cases hb : bshape (s ++ [k]) (t ++ [m]) with
  | none => rfl
  | some r =>
    obtain ⟨d, _, hd, _⟩ := bshape_last s t r k m hb
    rw [h] at hd; cases hd

theorem bshape_of_npBin {α β γ : Type} {fn : α → β → γ} {A : NDA α} {B : NDA β} {res : NDA γ}
    (h : npBin fn A B = .ok res) : bshape A.shape B.shape = some res.shape := by
  obtain ⟨s, hs, rfl⟩ := npBin_ok_iff.mp h
  exact hs

theorem eq_dropLast_append_lastAx {s : List Nat} (h : s ≠ []) : s = s.dropLast ++ [lastAx s] := by
  obtain ⟨t, x, rfl⟩ := (list_nil_or_concat s).resolve_left h
  rw [List.dropLast_concat, lastAx_concat]

theorem npBin_last_rejected {α β γ : Type} (fn : α → β → γ) (A : NDA α) (B : NDA β) (s t : List Nat) (k m : Nat)
    (hA : A.shape = s ++ [k]) (hB : B.shape = t ++ [m]) (h : k ≠ m) (hk : k ≠ 1) (hm : m ≠ 1) :
    npBin fn A B = .error .value := by
  unfold npBin
  rw [hA, hB, bshape_last_none s t k m ((bdim_eq_none_iff k m).mpr ⟨h, hk, hm⟩)]

/-- `DFV.length_setAt` under the name `C03.length_setAt` -/
theorem length_setAt {α} (s : List α) (ax : Nat) (v : α) : (setAt s ax v).length = s.length :=
  _root_.DFV.length_setAt s ax v

/-- broadcasting `N` with anything and the result back into `N` gives `N` -/
theorem bshapeRev_back (N : List Nat) : ∀ (A r : List Nat), bshapeRev N A = some r → bshapeRev r N = some N → r = N := by
  induction N with
  | nil =>
    intro A r h1 h2
    simp only [bshapeRev] at h1
    injection h1 with h1
    subst h1
    cases A with
    | nil => rfl
    | cons x xs => simp [bshapeRev] at h2
  | cons n N ih =>
    intro A r h1 h2
    cases A with
    | nil => exact (Option.some.inj h1).symm
    | cons x A' =>
      obtain ⟨d, r', hd, hr, rfl⟩ := bshapeRev_cons_some h1
      obtain ⟨d', r2, hd2, hr2, he⟩ := bshapeRev_cons_some h2
      cases he
      rw [ih A' r' hr hr2, bdim_to_self n x d hd hd2]

/-- if `S = n ++ [k]` broadcasts with `A` to `r`, and `r` broadcasts to `n ++ [lastAx r]`
(what the constructor's `np.full` demands), then `r = n ++ [lastAx r]` -/
theorem bshape_back (n : List Nat) (k : Nat) (A r : List Nat) (h1 : bshape (n ++ [k]) A = some r)
    (h2 : bshape r (n ++ [lastAx r]) = some (n ++ [lastAx r])) : r = n ++ [lastAx r] := by
  rw [bshape_some_iff] at h1 h2
  simp only [List.reverse_append, List.reverse_cons, List.reverse_nil, List.nil_append, List.singleton_append] at h1 h2
  have hrev : r.reverse = lastAx r :: n.reverse := by
    generalize A.reverse = Ar at h1
    cases Ar with
    | nil =>
      simp only [bshapeRev] at h1
      injection h1 with h1
      have hr : r = n ++ [k] := by
        have := congrArg List.reverse h1
        simpa using this.symm
      rw [hr, lastAx_concat]
      simp
    | cons x A' =>
      obtain ⟨d, r', hd, hr, h1'⟩ := bshapeRev_cons_some h1
      rw [h1'] at h2
      obtain ⟨d', r2, hd2, hr2, he⟩ := bshapeRev_cons_some h2
      cases he
      have hlast : lastAx r = d := by
        have : r = (d :: r').reverse := by
          have := congrArg List.reverse h1'
          simpa using this
        rw [this]
        simp [lastAx]
      rw [h1', hlast, bshapeRev_back n.reverse A' r' hr hr2]
  have := congrArg List.reverse hrev
  simpa using this

/-- `np.einsum("...l,...l->...", a, b)`: neither array 0-d, the shapes broadcast, the last axis is summed away -/
theorem einsumDot_ok_iff {A B res : NDA GQ} :
    einsumDot A B = .ok res ↔ A.shape ≠ [] ∧ B.shape ≠ [] ∧ ∃ s, bshape A.shape B.shape = some s ∧
      res = ⟨s.dropLast, fun idx => sumTo (lastAx s) fun c =>
        GQ.mul (A.get (bproj A.shape (idx ++ [c]))) (B.get (bproj B.shape (idx ++ [c])))⟩ := by
  unfold einsumDot
  by_cases h0 : A.shape = [] ∨ B.shape = []
  · rw [if_pos h0]; exact ⟨nofun, fun h => (h0.elim (fun h' => h.1 h') (fun h' => h.2.1 h')).elim⟩
  · rw [if_neg h0]
    refine Iff.trans ?_ ⟨fun h => ⟨fun h' => h0 (Or.inl h'), fun h' => h0 (Or.inr h'), h⟩, fun h => h.2.2⟩
    cases bshape A.shape B.shape with
    | none => exact ⟨nofun, fun ⟨_, h, _⟩ => nomatch h⟩
    | some s => exact ⟨fun h => ⟨s, rfl, (Except.ok.inj h).symm⟩, fun ⟨_, h, hr⟩ => by cases h; rw [hr]⟩

/-- `np.cross(a, b)`: both last axes have length 3 and the shapes broadcast -/
theorem npCross_ok_iff {A B res : NDA GQ} :
    npCross A B = .ok res ↔ lastAx A.shape = 3 ∧ lastAx B.shape = 3 ∧ ∃ s, bshape A.shape B.shape = some s ∧
      res = ⟨s, fun idx => crossAt (fun c => A.get (bproj A.shape (idx.dropLast ++ [c])))
        (fun c => B.get (bproj B.shape (idx.dropLast ++ [c]))) (lastAx idx)⟩ := by
  unfold npCross
  by_cases h3 : lastAx A.shape ≠ 3 ∨ lastAx B.shape ≠ 3
  · rw [if_pos h3]; exact ⟨nofun, fun h => (h3.elim (fun h' => h' h.1) (fun h' => h' h.2.1)).elim⟩
  · rw [if_neg h3]
    refine Iff.trans ?_ ⟨fun h => ⟨Decidable.not_not.mp fun h' => h3 (Or.inl h'), Decidable.not_not.mp fun h' => h3 (Or.inr h'), h⟩,
      fun h => h.2.2⟩
    cases bshape A.shape B.shape with
    | none => exact ⟨nofun, fun ⟨_, h, _⟩ => nomatch h⟩
    | some s => exact ⟨fun h => ⟨s, rfl, (Except.ok.inj h).symm⟩, fun ⟨_, h, hr⟩ => by cases h; rw [hr]⟩

/-- `np.stack(parts, axis=-1)`: at least one part, all of the shape of the first -/
theorem npStack_ok_iff {parts : List (NDA GQ)} {res : NDA GQ} :
    npStack parts = .ok res ↔ ∃ p, parts.head? = some p ∧ (∀ q ∈ parts, q.shape = p.shape) ∧
      res = ⟨p.shape ++ [parts.length], fun idx => (parts.getD (lastAx idx) p).get idx.dropLast⟩ := by
  unfold npStack
  cases parts.head? with
  | none => exact ⟨nofun, fun ⟨_, h, _⟩ => nomatch h⟩
  | some p =>
    dsimp only
    by_cases hall : parts.all (fun q => decide (q.shape = p.shape)) = true
    · rw [if_pos hall]
      have hall' : ∀ q ∈ parts, q.shape = p.shape := fun q hq => of_decide_eq_true (List.all_eq_true.mp hall q hq)
      exact ⟨fun h => ⟨p, rfl, hall', (Except.ok.inj h).symm⟩, fun ⟨_, h, _, hr⟩ => by cases h; rw [hr]⟩
    · rw [if_neg hall]
      exact ⟨nofun, fun ⟨_, h, h', _⟩ => absurd (List.all_eq_true.mpr fun q hq => decide_eq_true (Option.some.inj h ▸ h' q hq)) hall⟩

/-- the first of the component slices `<<` stacks is the first slice of the left operand -/
theorem parts_head (A B : NDA GQ) (a b : Nat) (ha : 0 < a) :
    ((List.range a).map (takeLast A) ++ (List.range b).map (takeLast B)).head? = some (takeLast A 0) := by
  cases a with
  | zero => exact absurd ha (Nat.lt_irrefl 0)
  | succ a' => simp [List.range_succ_eq_map]

end DFV.C03
