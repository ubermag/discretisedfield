import DFV.Lemmas.C07Comp
import DFV.Lemmas.C14Setter
/-! Subregions of whole cells.  `SubAligned` boxes are the boxes that fit exactly in the sense of `C14.FitsE`, and the three
tests of the subregion setter are `T.subOk`; so the setter accepts them (`setSubs_ok`), and `Mesh.sel` succeeds on meshes
whose subregions consist of whole cells, keeping that property (`planeSub_aligned`, `rangeSub_aligned`).
Defines `SubsAligned` (every subregion of the mesh is a box of whole cells). -/
namespace DFV.C07
open DFV DFV.Mesh

/-- this model of `Mesh.is_aligned` is the one of `Model/Transform` (meshes of equal dimension) -/
theorem isAligned_eq (m o : Mesh) (hd : o.ndim = m.ndim) : isAligned m o = T.isAligned m o := by
  unfold isAligned T.isAligned
  congr 1
  congr 1
  unfold allclose
  rw [C01.cell_length, C01.cell_length, decide_eq_true hd.symm, Bool.true_and]
  apply allLt_congr
  intro a ha
  rw [C01.cell_getD m a ha, C01.cell_getD o a (hd ▸ ha), C01.allcloseAx_eq_isclose]

/-- the three tests of the subregion setter are `T.subOk` -/
theorem checkSub_ok_iff (m : Mesh) (s : Region) : checkSub m s = .ok () ↔ T.subOk m s = true := by
  unfold checkSub T.subOk
  cases m.region.containsReg s
  · exact ⟨fun h => (nomatch h), fun h => (nomatch h)⟩
  · cases hmk : Mesh.mkCell? s m.cell with
    | error e => exact ⟨fun h => (nomatch h), fun h => (nomatch h)⟩
    | ok sm =>
      obtain ⟨e2, esm⟩ := C14.mkCell?_ok _ _ _ hmk
      have hd : sm.ndim = m.ndim := by rw [esm]; show s.ndim = _; rw [← e2]; exact C01.cell_length m
      show (if (!isAligned m sm) = true then (.error .value : M Unit) else .ok ()) = .ok () ↔
        (true && T.isAligned m sm) = true
      rw [isAligned_eq m sm hd]
      cases T.isAligned m sm
      · exact ⟨fun h => (nomatch h), fun h => (nomatch h)⟩
      · exact ⟨fun _ => rfl, fun _ => rfl⟩

/-- a box of whole cells fits exactly in the sense of `C14.FitsE` -/
theorem fitsE_of_subAligned (m : Mesh) (hm : m.Inv) (s : Region) (k1 k2 : Nat → Nat) (h : SubAligned m s k1 k2) :
    C14.FitsE m s := by
  obtain ⟨h1, h2, hax⟩ := h
  refine ⟨h1, h2, fun a ha => ?_⟩
  obtain ⟨hlt, hle, elo, ehi⟩ := hax a ha
  exact (C14.fitsAx_iff_cell (hm.nAt_pos ha) (C01.cellAt_cover m a (hm.nAt_pos ha)).symm).mpr
    ⟨k1 a, (k2 a : Int) - k1 a, Int.natCast_nonneg _, by omega, by omega, elo, by rw [ehi]; push_cast; ring⟩

theorem subAligned_of_fitsE (m : Mesh) (hm : m.Inv) (s : Region) (h : C14.FitsE m s) :
    ∃ k1 k2, SubAligned m s k1 k2 := by
  obtain ⟨h1, h2, hax⟩ := h
  have : ∀ a, a < m.ndim → ∃ k1 k2 : Nat, k1 < k2 ∧ k2 ≤ m.nAt a ∧
      s.lo a = m.region.lo a + (k1 : Rat) * m.cellAt a ∧ s.hi a = m.region.lo a + (k2 : Rat) * m.cellAt a := by
    intro a ha
    obtain ⟨z, w, hz, hw, hzw, elo, ehi⟩ :=
      (C14.fitsAx_iff_cell (hm.nAt_pos ha) (C01.cellAt_cover m a (hm.nAt_pos ha)).symm).mp (hax a ha)
    refine ⟨z.toNat, (z + w).toNat, by omega, by omega, ?_, ?_⟩
    · rw [elo, ← Int.cast_natCast (R := Rat), Int.toNat_of_nonneg hz]
    · rw [ehi, ← Int.cast_natCast (R := Rat), Int.toNat_of_nonneg (by omega)]; push_cast; rfl
  choose! k1 k2 hk using this
  exact ⟨k1, k2, h1, h2, hk⟩

/-- the subregion setter accepts boxes of whole cells (each passes the three tests: `C14.subOk_of_fits`) and stores
them with the names, units and tolerance of the mesh region -/
theorem setSubs_ok (m : Mesh) (hm : m.Inv) (subs : List (String × Region))
    (h : ∀ p, p ∈ subs → ∃ k1 k2, SubAligned m p.2 k1 k2) :
    setSubs? m subs = .ok { m with subs := subs.map (storeSub m) } := by
  have hc : checkSubs m subs = .ok () := by
    induction subs with
    | nil => rfl
    | cons p rest ih =>
      unfold checkSubs
      obtain ⟨k1, k2, hal⟩ := h p (List.mem_cons_self ..)
      rw [(checkSub_ok_iff m p.2).mpr (C14.subOk_of_fits m hm p.2 (fitsE_of_subAligned m hm p.2 k1 k2 hal))]
      exact ih (fun q hq => h q (List.mem_cons_of_mem _ hq))
  unfold setSubs?
  rw [hc]

/-- the region `Region(p1, p2)` builds from ordered corners: default names, units and tolerance -/
def bareRegion (p1 p2 : List Rat) : Region :=
  ⟨p1, p2, Region.defaultDims p1.length, List.replicate p1.length "m", 1/1000000000000⟩

/-- `Region(p1, p2)` (default names and units) with `p1 < p2` componentwise is accepted as is -/
theorem regionMk_none_ok (p1 p2 : List Rat) (h12 : p1.length = p2.length) (h0 : 0 < p1.length)
    (hlt : ∀ a, a < p1.length → p1.getD a 0 < p2.getD a 0) :
    Region.mk? p1 p2 none none = .ok (bareRegion p1 p2) :=
  T.mk?_ok_of_lt p1 p2 none none _ _ _ h12 (by omega) rfl rfl hlt

/-- a subregion with axis `a` taken out, as `Region(p1, p2)` builds it -/
def planeSubReg (a : Nat) (s : Region) : Region := bareRegion (removeAt s.pmin a) (removeAt s.pmax a)

theorem planeSubs_ok (a : Nat) (c : Rat) (N : Nat) (ha : a < N) (h2 : 2 ≤ N) (subs : List (String × Region))
    (h : ∀ p, p ∈ subs → p.2.pmin.length = N ∧ p.2.pmax.length = N ∧ ∀ b, b < N → p.2.lo b < p.2.hi b) :
    planeSubs a c subs = .ok ((subs.filter fun p => decide (p.2.lo a ≤ c ∧ c ≤ p.2.hi a)).map
      fun p => (p.1, planeSubReg a p.2)) := by
  rw [planeSubs_eq]
  refine subLoop_ok _ _ (planeSubReg a) subs fun p hp _ => ?_
  obtain ⟨l1, l2, l3⟩ := h p hp
  have hl1 : (removeAt p.2.pmin a).length = N - 1 := by rw [length_removeAt _ _ (by omega), l1]
  have hl2 : (removeAt p.2.pmax a).length = N - 1 := by rw [length_removeAt _ _ (by omega), l2]
  exact regionMk_none_ok _ _ (by rw [hl1, hl2]) (by omega) fun b hb => by
    rw [getD_removeAt, getD_removeAt]
    exact l3 _ (skip_lt a b N ha (by omega))

/-- a box of whole cells stays one when the axis is taken out of mesh and box -/
theorem planeSub_aligned (m : Mesh) (hm : m.Inv) (a : Nat) (ha : a < m.ndim) (h2 : 2 ≤ m.ndim) (s : Region)
    (k1 k2 : Nat → Nat) (hal : SubAligned m s k1 k2) :
    SubAligned (planeOf m a) (planeSubReg a s) (fun b => k1 (skip a b)) (fun b => k2 (skip a b)) := by
  obtain ⟨_, hnd, hax⟩ := planeOf_inv m hm a ha h2
  obtain ⟨s1, s2, s3⟩ := hal
  refine ⟨?_, ?_, ?_⟩
  · show (removeAt s.pmin a).length = _
    rw [length_removeAt _ _ (by show a < s.ndim; rw [s1]; exact ha), hnd]
    show s.ndim - 1 = _; rw [s1]
  · show (removeAt s.pmax a).length = _
    rw [length_removeAt _ _ (by rw [s2]; exact ha), s2, hnd]
  · intro b hb
    rw [hnd] at hb
    obtain ⟨e1, e2, e3, e4⟩ := hax b hb
    obtain ⟨t1, t2, t3, t4⟩ := s3 (skip a b) (skip_lt a b m.ndim ha hb)
    refine ⟨t1, by rw [e3]; exact t2, ?_, ?_⟩
    · show (removeAt s.pmin a).getD b 0 = _
      rw [getD_removeAt, e1, e4]; exact t3
    · show (removeAt s.pmax a).getD b 0 = _
      rw [getD_removeAt, e1, e4]; exact t4

theorem aligned_wf (m : Mesh) (hm : m.Inv) (s : Region) (k1 k2 : Nat → Nat) (hal : SubAligned m s k1 k2) :
    s.pmin.length = m.ndim ∧ s.pmax.length = m.ndim ∧ ∀ b, b < m.ndim → s.lo b < s.hi b :=
  ⟨hal.1, hal.2.1, fun b hb => (boxIn_of_aligned m hm s k1 k2 hal).2 b hb |>.2.1⟩

/-- every subregion of the mesh is a box of whole cells (what the subregion setter enforces) -/
def SubsAligned (m : Mesh) : Prop := ∀ p, p ∈ m.subs → ∃ k1 k2, SubAligned m p.2 k1 k2

/-- plane selection on a mesh whose subregions consist of whole cells: accepted, and the result
is the mesh with the axis removed carrying the surviving subregions -/
theorem selPlaneMesh_ok_subs (m : Mesh) (hm : m.Inv) (a : Nat) (ha : a < m.ndim) (h2 : 2 ≤ m.ndim) (c : Rat)
    (hsubs : SubsAligned m) :
    selPlaneMesh m a c = .ok { planeOf m a with
      subs := ((m.subs.filter fun p => decide (p.2.lo a ≤ c ∧ c ≤ p.2.hi a)).map
        fun p => (p.1, planeSubReg a p.2)).map (storeSub (planeOf m a)) } :=
  (selPlaneMesh_iff m hm a ha c _).mpr ⟨h2, _, planeSubs_ok a c m.ndim ha h2 m.subs (fun p hp => by
      obtain ⟨k1, k2, hal⟩ := hsubs p hp
      exact aligned_wf m hm p.2 k1 k2 hal),
    setSubs_ok (planeOf m a) (planeOf_inv m hm a ha h2).1 _ fun q hq => by
      obtain ⟨p, hp, rfl⟩ := List.mem_map.mp hq
      obtain ⟨k1, k2, hal⟩ := hsubs p (List.mem_filter.mp hp).1
      exact ⟨_, _, planeSub_aligned m hm a ha h2 p.2 k1 k2 hal⟩⟩

/-- a subregion clipped to the slab `[lo, hi]` along axis `a`, as `Region(p1, p2)` builds it -/
def rangeSubReg (a : Nat) (lo hi : Rat) (s : Region) : Region :=
  bareRegion (setAt s.pmin a (max lo (s.lo a))) (setAt s.pmax a (min hi (s.hi a)))

theorem rangeSubs_ok (a : Nat) (lo hi step : Rat) (hlh : lo < hi) (hstep : 0 ≤ step) (N : Nat) (ha : a < N)
    (subs : List (String × Region))
    (h : ∀ p, p ∈ subs → p.2.pmin.length = N ∧ p.2.pmax.length = N ∧ ∀ b, b < N → p.2.lo b < p.2.hi b) :
    rangeSubs a lo hi step subs = .ok ((subs.filter fun p =>
        decide (p.2.lo a < hi - step ∧ lo < p.2.hi a - step)).map
      fun p => (p.1, rangeSubReg a lo hi p.2)) := by
  rw [rangeSubs_eq]
  refine subLoop_ok _ _ (rangeSubReg a lo hi) subs fun p hp hk => ?_
  obtain ⟨l1, l2, l3⟩ := h p hp
  rw [decide_eq_true_iff] at hk
  refine regionMk_none_ok _ _ (by rw [length_setAt, length_setAt, l1, l2]) (by rw [length_setAt, l1]; omega) fun b hb => ?_
  rw [length_setAt, l1] at hb
  by_cases hba : b = a
  · subst hba
    rw [getD_setAt_eq _ _ _ _ (by rw [l1]; exact hb), getD_setAt_eq _ _ _ _ (by rw [l2]; exact hb)]
    have := l3 b hb
    apply max_lt <;> apply lt_min <;> linarith
  · rw [getD_setAt_ne _ _ _ _ _ hba, getD_setAt_ne _ _ _ _ _ hba]
    exact l3 b hb

/-- a box of whole cells of `m`, clipped to the slab of the cells `K1 … K2` along axis `a`, is a box of whole cells
of the mesh `g` of these cells (`C14.fitsAx_clip` on the selection axis) -/
theorem rangeSub_aligned (m g : Mesh) (hm : m.Inv) (hg : g.Inv) (a : Nat) (ha : a < m.ndim) (K1 K2 : Nat)
    (hK : K1 ≤ K2) (hnd : g.ndim = m.ndim)
    (blka : AxisBlock g m a a K1 (K2 - K1 + 1))
    (blk : ∀ b, b < m.ndim → b ≠ a → AxisBlock g m b b 0 (m.nAt b))
    (s : Region) (k1 k2 : Nat → Nat) (hal : SubAligned m s k1 k2)
    (hkeep : k1 a < K2 + 1 ∧ K1 < k2 a) :
    ∃ k1' k2', SubAligned g (rangeSubReg a (m.region.lo a + (K1 : Rat) * m.cellAt a)
        (m.region.lo a + ((K2 : Rat) + 1) * m.cellAt a) s) k1' k2' := by
  have hf := fitsE_of_subAligned m hm s k1 k2 hal
  obtain ⟨s1, s2, s3⟩ := hal
  refine subAligned_of_fitsE g hg _ ⟨?_, ?_, fun b hb => ?_⟩
  · show (setAt s.pmin a _).length = _; rw [length_setAt, hnd]; exact s1
  · show (setAt s.pmax a _).length = _; rw [length_setAt, hnd]; exact s2
  rw [hnd] at hb
  have hfb : C14.FitsAx (m.region.lo b) (m.region.hi b) (m.nAt b) (s.lo b) (s.hi b) := hf.2.2 b hb
  show C14.FitsAx (g.region.lo b) (g.region.hi b) (g.nAt b) ((setAt s.pmin a _).getD b 0) ((setAt s.pmax a _).getD b 0)
  by_cases hba : b = a
  · subst hba
    have hc := hm.cellAt_pos hb
    obtain ⟨_, _, t3, t4⟩ := s3 b hb
    rw [getD_setAt_eq _ _ _ _ (by show b < s.ndim; rw [s1]; exact hb), getD_setAt_eq _ _ _ _ (by rw [s2]; exact hb),
      block_hi blka (Nat.succ_pos _), blka.lo, blka.n]
    have : C14.FitsAx (m.region.lo b + (K1 : Rat) * m.cellAt b) (m.region.lo b + ((K2 : Rat) + 1) * m.cellAt b) (K2 - K1 + 1)
        (max (m.region.lo b + (K1 : Rat) * m.cellAt b) (s.lo b)) (min (m.region.lo b + ((K2 : Rat) + 1) * m.cellAt b) (s.hi b)) :=
      C14.fitsAx_clip _ _ _ _ _ K1 K2 (hm.nAt_pos hb) (hm.lo_lt_hi hb) hK hfb
      (by rw [show s.lo b = _ from t3]; exact (C01.face_lt hc _ _).mpr (by exact_mod_cast hkeep.1))
      (by rw [show s.hi b = _ from t4]; exact (C01.face_lt hc _ _).mpr (by exact_mod_cast hkeep.2))
    convert this using 2
    push_cast [Nat.cast_sub hK]; ring
  · have bb := blk b hb hba
    rw [getD_setAt_ne _ _ _ _ _ hba, getD_setAt_ne _ _ _ _ _ hba, block_hi bb (hm.nAt_pos hb), bb.lo, bb.n]
    have e1 : m.region.lo b + ((0 : Nat) : Rat) * m.cellAt b = m.region.lo b := by push_cast; ring
    have e2 : m.region.lo b + (((0 : Nat) : Rat) + (m.nAt b : Rat)) * m.cellAt b = m.region.hi b := by
      rw [C01.hi_eq m b (hm.nAt_pos hb)]; push_cast; ring
    rw [e1, e2]; exact hfb

theorem selRangeMesh_ok_subs (m : Mesh) (hm : m.Inv) (a : Nat) (ha : a < m.ndim) (K1 K2 : Nat)
    (hK : K1 ≤ K2) (hK2 : K2 < m.nAt a)
    (hsubs : SubsAligned m) :
    ∃ g, selRangeMesh m a (m.centreAx a (K1 : Int)) (m.centreAx a (K2 : Int)) = .ok g ∧
      g.n = setAt m.n a (K2 - K1 + 1) := by
  have hfit := rangeCnt_fits m hm a K1 K2 hK hK2
  have hax := fun b hb => blockOf_axis m (rangeOff a K1) (rangeCnt m a K1 K2) b hb (hfit b hb).1 (hfit b hb).2
  have binv : (blockOf m (rangeOff a K1) (rangeCnt m a K1 K2)).Inv :=
    inv_of_blocks m _ hm (tab_length _ _) (tab_length _ _) rfl rfl (tab_length _ _) _ _ (fun b hb => (hfit b hb).1) hax
  have hc := hm.cellAt_pos ha
  have hKr : (K1 : Rat) ≤ (K2 : Rat) := by exact_mod_cast hK
  refine ⟨_, (selRangeMesh_iff m hm a ha K1 K2 hK hK2 _).mpr ⟨_,
    rangeSubs_ok a _ _ _ ((C01.face_lt hc _ _).mpr (by linarith)) (by linarith) m.ndim ha m.subs (fun p hp => by
      obtain ⟨k1, k2, hal⟩ := hsubs p hp
      exact aligned_wf m hm p.2 k1 k2 hal),
    setSubs_ok _ binv _ fun q hq => ?_⟩, tab_rangeCnt m hm a K1 K2⟩
  obtain ⟨p, hp, rfl⟩ := List.mem_map.mp hq
  obtain ⟨hmem, hkeep⟩ := List.mem_filter.mp hp
  rw [decide_eq_true_iff] at hkeep
  obtain ⟨k1, k2, hal⟩ := hsubs p hmem
  obtain ⟨t1, t2, t3, t4⟩ := hal.2.2 a ha
  rw [t3, t4] at hkeep
  exact rangeSub_aligned m _ hm binv a ha K1 K2 hK (tab_length _ _)
    (by have := hax a ha; rwa [rangeOff_self, rangeCnt_self] at this)
    (fun b hb hba => by have := hax b hb; rwa [rangeOff_of_ne hba, rangeCnt_of_ne _ hba] at this)
    p.2 k1 k2 hal ((half_cell_overlap_iff hc K1 K2 (k1 a) (k2 a)).mp hkeep)

theorem subsAligned_wf (m : Mesh) (hm : m.Inv) (h : SubsAligned m) : SubsWF m := by
  intro p hp
  obtain ⟨k1, k2, hal⟩ := h p hp
  obtain ⟨a1, a2, a3⟩ := aligned_wf m hm p.2 k1 k2 hal
  exact ⟨a1, a2, fun b hb => (a3 b hb).le⟩

end DFV.C07
