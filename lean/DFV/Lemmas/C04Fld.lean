import DFV.Lemmas.C04Spec
import DFV.Lemmas.NDA
/-!
C04, the field level: the grid line through a cell, the entry `Field.diff` stores there (`diffEntry`: it is `lineSpec` of the
grid line; zero at invalid cells, congruence, linearity), `Field.diff` as a total description (`diffData`, `diff_map`), the name
lookup of `diffDir`, the boundary-condition words, the cell inside its window; the concrete fields of the non-vacuity examples.
-/
namespace DFV.C04
open DFV

/-! ### the grid line through a cell -/

theorem valOf_lineCells (f : Fld) (ax : Nat) (i : List Nat) (c j : Nat) (hj : j < f.mesh.nAt ax) :
    valOf (lineCells f ax i c) j = (f.data.line ax i j).getD c 0 := by
  unfold valOf lineCells; rw [getD_tab _ _ _ _ hj]

theorem okOf_lineCells (f : Fld) (ax : Nat) (i : List Nat) (c j : Nat) (hj : j < f.mesh.nAt ax) :
    okOf (lineCells f ax i c) j = f.valid.line ax i j := by
  unfold okOf lineCells; rw [getD_tab _ _ _ _ hj]

theorem lineCells_length (f : Fld) (ax : Nat) (i : List Nat) (c : Nat) : (lineCells f ax i c).length = f.mesh.nAt ax := by
  simp [lineCells]

theorem effOk_line_self (f : Fld) (r : Bool) (ax : Nat) (i : List Nat) :
    effOk r (fun j => f.valid.line ax i j) (i.getD ax 0) = fldOk f r i := by
  show (!r || f.valid.line ax i (i.getD ax 0)) = _
  rw [NDA.line_self]; rfl

theorem periodicAx_congr {f g : Fld} (h : g.mesh = f.mesh) (ax : Nat) : periodicAx g ax = periodicAx f ax := by
  unfold periodicAx; rw [h]

/-- **the entry `Field.diff` stores at cell `i`, component `c`** (the expression in `diff` and `diffData`; grad, div, curl and
the Laplacian read their derivatives through the same expression): `lineSpec` of the grid line through `i` -/
theorem diffEntry (f : Fld) (ax o : Nat) (r : Bool) (c : Nat) (i : List Nat) (hi : i.getD ax 0 < f.mesh.nAt ax) :
    (diffLine' (periodicAx f ax) r o (f.mesh.cellAt ax)
        (tab (f.mesh.nAt ax) fun j => ((f.data.line ax i j).getD c 0, f.valid.line ax i j))).getD (i.getD ax 0) 0
      = lineSpec (periodicAx f ax) r o (f.mesh.cellAt ax) (f.mesh.nAt ax) (fun j => (f.data.line ax i j).getD c 0)
          (fun j => f.valid.line ax i j) (i.getD ax 0) := by
  rw [diffLine'_tab, if_pos hi]

/-- no bound on the cell index: beyond the line the entry is the default, 0 as well -/
theorem diffEntry_invalid (f : Fld) (ax o : Nat) (r : Bool) (c : Nat) (i : List Nat) (hv : fldOk f r i = false) :
    (diffLine' (periodicAx f ax) r o (f.mesh.cellAt ax)
        (tab (f.mesh.nAt ax) fun j => ((f.data.line ax i j).getD c 0, f.valid.line ax i j))).getD (i.getD ax 0) 0 = 0 := by
  rw [diffLine'_tab]
  split
  · exact lineSpec_invalid _ _ _ _ _ _ _ _ ((effOk_line_self f r ax i).trans hv)
  · rfl

theorem diffData_getD (f : Fld) (ax order : Nat) (r : Bool) (i : List Nat) (c : Nat) (hc : c < f.nvdim) :
    ((diffData f ax order r).get i).getD c 0
      = (diffLine' (periodicAx f ax) r order (f.mesh.cellAt ax) (lineCells f ax i c)).getD (i.getD ax 0) 0 :=
  getD_tab _ _ _ _ hc

theorem diffEntry_congr (f g : Fld) (ax order : Nat) (r : Bool) (i : List Nat) (c c' : Nat) (hm : g.mesh = f.mesh)
    (hv : ∀ j, g.valid.get j = f.valid.get j) (hd : ∀ j, (g.data.get j).getD c 0 = (f.data.get j).getD c' 0) :
    (diffLine' (periodicAx g ax) r order (g.mesh.cellAt ax) (lineCells g ax i c)).getD (i.getD ax 0) 0
      = (diffLine' (periodicAx f ax) r order (f.mesh.cellAt ax) (lineCells f ax i c')).getD (i.getD ax 0) 0 := by
  unfold lineCells periodicAx NDA.line
  simp only [hm, hv, hd]

/-- the stored entry is linear in the values of the component, for fields on one mesh with one validity: the general form of
`diff_linear` and `diff_linFld` in Props -/
theorem diffEntry_comb (f1 f2 f3 : Fld) (ax order : Nat) (r : Bool) (α β : Rat) (i : List Nat) (c : Nat)
    (hm2 : f2.mesh = f1.mesh) (hm3 : f3.mesh = f1.mesh)
    (hv2 : ∀ j, f2.valid.get j = f1.valid.get j) (hv3 : ∀ j, f3.valid.get j = f1.valid.get j)
    (hd : ∀ j, (f3.data.get j).getD c 0 = α * (f1.data.get j).getD c 0 + β * (f2.data.get j).getD c 0) :
    (diffLine' (periodicAx f3 ax) r order (f3.mesh.cellAt ax) (lineCells f3 ax i c)).getD (i.getD ax 0) 0
      = α * (diffLine' (periodicAx f1 ax) r order (f1.mesh.cellAt ax) (lineCells f1 ax i c)).getD (i.getD ax 0) 0
        + β * (diffLine' (periodicAx f2 ax) r order (f2.mesh.cellAt ax) (lineCells f2 ax i c)).getD (i.getD ax 0) 0 := by
  unfold lineCells periodicAx NDA.line
  simp only [hm2, hm3, hv2, hv3, hd]
  exact diffLine'_comb_tab _ r order _ α β _ _ _ _ _

/-! ### `Field.diff` as a total function -/

/-- `Field.diff` is: order check, axis check, then the record with the array replaced (by `rfl`: `diffData` is the
array expression of `diff` verbatim) -/
theorem diff_eq (f : Fld) (ax order : Nat) (r : Bool) :
    diff f ax order r
      = if order ≠ 1 ∧ order ≠ 2 then .error .notImpl
        else if f.mesh.ndim ≤ ax then .error .value
        else .ok { f with data := diffData f ax order r } := rfl

/-- two calls on operands with the same number of axes are accepted or refused together; the results are related
by `F` as soon as the records with the new arrays are -/
theorem diff_map (f f' : Fld) (ax order : Nat) (r r' : Bool) (F : Fld → Fld) (hn : f'.mesh.ndim = f.mesh.ndim)
    (hF : ({ f' with data := diffData f' ax order r' } : Fld) = F { f with data := diffData f ax order r }) :
    diff f' ax order r' = (diff f ax order r).map F := by
  rw [diff_eq, diff_eq, hn, hF]
  by_cases ho : order ≠ 1 ∧ order ≠ 2
  · rw [if_pos ho, if_pos ho]; rfl
  · rw [if_neg ho, if_neg ho]
    by_cases hax : f.mesh.ndim ≤ ax
    · rw [if_pos hax, if_pos hax]; rfl
    · rw [if_neg hax, if_neg hax]; rfl

theorem diff_ok_order {f g : Fld} {ax order : Nat} {r : Bool} (h : diff f ax order r = .ok g) : order = 1 ∨ order = 2 := by
  rw [diff_eq] at h
  by_cases ho : order ≠ 1 ∧ order ≠ 2
  · rw [if_pos ho] at h; cases h
  · omega

/-! ### name lookup, boundary-condition words -/

/-- the call by name with an unknown name: the order is still checked first -/
theorem diffDir_unknown (f : Fld) (dir : String) (order : Nat) (r : Bool) (h : indexOf? f.mesh.region.dims dir = none) :
    diffDir f dir order r = if order ≠ 1 ∧ order ≠ 2 then .error .notImpl else .error .value := by
  unfold diffDir Region.dim2index
  rw [h]

theorem diffDir_known (f : Fld) (dir : String) (ax order : Nat) (r : Bool)
    (h : indexOf? f.mesh.region.dims dir = some ax) : diffDir f dir order r = diff f ax order r := by
  unfold diffDir Region.dim2index
  rw [h]
  by_cases ho : order ≠ 1 ∧ order ≠ 2
  · rw [if_pos ho, diff_eq, if_pos ho]
  · rw [if_neg ho]

theorem diffDir_ok_iff (f g : Fld) (dir : String) (order : Nat) (r : Bool) :
    diffDir f dir order r = .ok g ↔ ∃ ax, indexOf? f.mesh.region.dims dir = some ax ∧ diff f ax order r = .ok g := by
  cases hi : indexOf? f.mesh.region.dims dir with
  | none =>
    rw [diffDir_unknown f dir order r hi]
    constructor
    · intro h; split at h <;> cases h
    · rintro ⟨ax, h, -⟩; cases h
  | some ax =>
    rw [diffDir_known f dir ax order r hi]
    exact ⟨fun h => ⟨ax, rfl, h⟩, fun ⟨_, e, h⟩ => Option.some.inj e ▸ h⟩

theorem tab_one {α} (f : Nat → α) : tab 1 f = [f 0] := by simp [tab]

theorem periodicBc_empty (d : String) : periodicBc "" d = false := by
  simp [periodicBc]

theorem periodicBc_word (bc d : String) (h : bc = "neumann" ∨ bc = "dirichlet") : periodicBc bc d = false := by
  rcases h with rfl | rfl <;> rfl

/-! ### a cell that counts as valid lies inside its window -/

theorem winB_lt_window (p r : Bool) (cells : List (Rat × Bool)) (j : Nat) (hj : j < cells.length)
    (hv : effOk r (okOf cells) j = true) :
    winB p (effOk r (okOf cells)) cells.length j
      < winB p (effOk r (okOf cells)) cells.length j + winA p (effOk r (okOf cells)) cells.length j := by
  have := winA_pos p (effOk r (okOf cells)) cells.length j hj hv
  omega

theorem fldB_lt_window (f : Fld) (ax : Nat) (r : Bool) (i : List Nat) (hi : i.getD ax 0 < f.mesh.nAt ax)
    (hv : fldOk f r i = true) : fldB f ax r i < fldB f ax r i + fldA f ax r i := by
  have : 0 < fldA f ax r i := winA_pos _ _ _ _ hi ((effOk_line_self f r ax i).trans hv)
  omega

/-! ### concrete fields for the non-vacuity examples -/

/-- 5×2 cells on [0,5]×[0,1], two components, cell (3,1) invalid, all directions open -/
def exF : Fld :=
  { mesh := { region := { pmin := [0, 0], pmax := [5, 1], dims := ["x", "y"], units := ["m", "m"],
                          tol := 1/1000000000000 },
              n := [5, 2], bc := "", subs := [] },
    nvdim := 2,
    data := ⟨[5, 2], fun i => [((i.getD 0 0 : Nat) : Rat) ^ 2, ((i.getD 1 0 : Nat) : Rat)]⟩,
    valid := ⟨[5, 2], fun i => decide (i ≠ [3, 1])⟩, vdims := some ["x", "y"], vmap := [("x", "x"), ("y", "y")],
    unit := none }

/-- `exF` on the same mesh with the axes renamed `n`, `y` and the boundary condition `neumann`: before
repo fix 61bf94db the axis `n` counted as periodic because `"n" in "neumann"` -/
def exFN : Fld :=
  { exF with mesh := { exF.mesh with region := { exF.mesh.region with dims := ["n", "y"] }, bc := "neumann" } }

/-- a 3-d field whose third axis has the two-character name `xy`, periodic along `x` and `y` (`bc = "xy"`):
before the fix the axis `xy` counted as periodic because `"xy" in "xy"` -/
def exFXY : Fld :=
  { mesh := { region := { pmin := [0, 0, 0], pmax := [4, 3, 2], dims := ["x", "y", "xy"], units := ["m", "m", "m"],
                          tol := 1/1000000000000 },
              n := [4, 3, 2], bc := "xy", subs := [] },
    nvdim := 1,
    data := ⟨[4, 3, 2], fun i => [((i.getD 2 0 : Nat) : Rat) ^ 2]⟩,
    valid := ⟨[4, 3, 2], fun _ => true⟩, vdims := none, vmap := [], unit := none }

/-- 6×2 cells on [0,6]×[0,2], PERIODIC along `x` (`bc = "x"`), two components, cell (3,0) invalid: on the
line `y = 0` the ring run is cells 4,5,0,1,2 and crosses the seam.  Component 0 holds `((i+1) mod 6)²`
(a quadratic along the window 5,0,1,2 of cell (1,0)), component 1 holds `3·i + j`. -/
def exP : Fld :=
  { mesh := { region := { pmin := [0, 0], pmax := [6, 2], dims := ["x", "y"], units := ["m", "m"],
                          tol := 1/1000000000000 },
              n := [6, 2], bc := "x", subs := [] },
    nvdim := 2,
    data := ⟨[6, 2], fun i => [(((i.getD 0 0 + 1) % 6 : Nat) : Rat) ^ 2, 3 * ((i.getD 0 0 : Nat) : Rat) + ((i.getD 1 0 : Nat) : Rat)]⟩,
    valid := ⟨[6, 2], fun i => decide (i ≠ [3, 0])⟩, vdims := some ["a", "b"], vmap := [("a", "x")],
    unit := some "T" }

/-- a second field on the mesh of `exF` with the same validity and component count -/
def exG : Fld :=
  { exF with data := ⟨[5, 2], fun i => [((i.getD 1 0 : Nat) : Rat) - 2, ((i.getD 0 0 : Nat) : Rat) * ((i.getD 1 0 : Nat) : Rat)]⟩ }

/-- the ring of known finding D17 -/
def exRing : List (Rat × Bool) := [(7, true), (1, true), (4, true), (9, false), (2, true)]

end DFV.C04
