import DFV.Lemmas.C11Sum
import DFV.Lemmas.C11Nat
/-!
C11: the root-of-unity hypotheses of the value theorems (`IsRoot`, `Roots` — hypotheses of
theorems, never axioms), the conjugation hypotheses (`IsConj`, `ConjRoots`), and what follows
from them on one axis: twiddle factors as powers, orthogonality in both summation orders, the
one-axis inversion and Plancherel identity.  `Root.swap` exchanges a root and its inverse
and keeps `IsRoot` (`IsRoot.swap`, `Roots.swap`): every statement about the inverse transform is the
forward statement for the swapped roots.  `rootAt ρs a` is the root of axis `a`; `Roots_iff` and
`ConjRoots_iff` say what the hypotheses mean axis by axis.
-/
namespace DFV.C11
open DFV

variable {R : Type} [CommRing R]

theorem powN_eq (x : R) (k : Nat) : powN x k = x ^ k := by
  induction k with
  | zero => simp [powN]
  | succ k ih => simp [powN, ih, pow_succ]

/-- two elements with the same inverse are equal (Mathlib's `left_inv_eq_right_inv` in the commutative form
the calls `(z := …)` use) -/
theorem left_inverse_unique {x y z : R} (hx : x * z = 1) (hy : y * z = 1) : x = y :=
  calc x = x * (y * z) := by rw [hy, mul_one]
    _ = (x * z) * y := by ring
    _ = y := by rw [hx, one_mul]

/-! ### roots of unity: the hypotheses of the value theorems -/

/-- `ρ.w` is a primitive `n`-th root of unity in `R` with inverse `ρ.wi`, and `ρ.ninv = 1/n`.
These are hypotheses of theorems (never axioms); `exp(-2πi/n) ∈ ℂ` satisfies them
(`Lemmas/C11Complex.lean`). -/
structure IsRoot (n : Nat) (ρ : Root R) : Prop where
  pow_n : ρ.w ^ n = 1
  inv : ρ.w * ρ.wi = 1
  ninv : ρ.ninv * (n : R) = 1
  orth : ∀ k, 0 < k → k < n → sumN n (fun j => ρ.w ^ (j * k)) = 0

/-- one root structure per axis -/
def Roots : List Nat → List (Root R) → Prop
  | [], _ => True
  | n :: ns, ρs => IsRoot n (ρs.headD ⟨1, 1, 1⟩) ∧ Roots ns ρs.tail

theorem tw_eq (w : R) (n m r : Nat) (h : w ^ n = 1) : tw w n m r = w ^ (m * r) := by
  unfold tw; rw [powN_eq, ← pow_eq_pow_mod _ h]

theorem tw_comm (w : R) (n m r : Nat) : tw w n m r = tw w n r m := by
  unfold tw; rw [Nat.mul_comm]

theorem tw_zero (w : R) (n r : Nat) : tw w n 0 r = 1 := by
  unfold tw; simp [powN]

theorem tw_add (w : R) (n m r s : Nat) (h : w ^ n = 1) : tw w n m (r + s) = tw w n m r * tw w n m s := by
  rw [tw_eq _ _ _ _ h, tw_eq _ _ _ _ h, tw_eq _ _ _ _ h, ← pow_add, Nat.mul_add]

theorem tw_mod (w : R) (n m r : Nat) (h : w ^ n = 1) : tw w n m (r % n) = tw w n m r := by
  rw [tw_eq _ _ _ _ h, tw_eq _ _ _ _ h, pow_eq_pow_mod (m * (r % n)) h,
    pow_eq_pow_mod (m * r) h, Nat.mul_mod, Nat.mod_mod, ← Nat.mul_mod]

theorem IsRoot.pow_mul_wi_pow {n : Nat} {ρ : Root R} (h : IsRoot n ρ) (a : Nat) : ρ.w ^ a * ρ.wi ^ a = 1 := by
  rw [← mul_pow, h.inv, one_pow]

theorem IsRoot.wi_pow_n {n : Nat} {ρ : Root R} (h : IsRoot n ρ) : ρ.wi ^ n = 1 := by
  have := h.pow_mul_wi_pow n
  rwa [h.pow_n, one_mul] at this

theorem IsRoot.wi_eq {n : Nat} {ρ : Root R} (h : IsRoot n ρ) (hn : 0 < n) : ρ.wi = ρ.w ^ (n - 1) :=
  left_inverse_unique (z := ρ.w) (by rw [mul_comm]; exact h.inv)
    (by rw [← pow_succ, Nat.sub_add_cancel hn]; exact h.pow_n)

theorem IsRoot.wi_pow_eq {n : Nat} {ρ : Root R} (h : IsRoot n ρ) (j k : Nat) (hk : k ≤ n) :
    ρ.wi ^ (j * k) = ρ.w ^ (j * (n - k)) :=
  left_inverse_unique (z := ρ.w ^ (j * k)) (by rw [mul_comm]; exact h.pow_mul_wi_pow _)
    (by rw [← pow_add, ← Nat.mul_add, Nat.sub_add_cancel hk, Nat.mul_comm, pow_mul, h.pow_n, one_pow])

/-- negating the index mod `n` exchanges the root and its inverse -/
theorem tw_neg {n : Nat} {ρ : Root R} (h : IsRoot n ρ) (k r : Nat) (hk : k < n) :
    ρ.wi ^ (((n - k % n) % n) * r) = ρ.w ^ (k * r) := by
  rw [Nat.mod_eq_of_lt hk]
  by_cases h0 : k = 0
  · subst h0; simp
  · rw [Nat.mod_eq_of_lt (by omega)]
    exact left_inverse_unique (z := ρ.w ^ ((n - k) * r)) (by rw [mul_comm]; exact h.pow_mul_wi_pow _)
      (by rw [← pow_add, ← Nat.add_mul, Nat.add_sub_cancel' hk.le, pow_mul, h.pow_n, one_pow])

/-- the twiddle factor at a shifted index: `w^((m - ⌊n/2⌋)·r)` -/
theorem tw_shift {n : Nat} {ρ : Root R} (h : IsRoot n ρ) (m r : Nat) (hm : m < n) :
    tw ρ.w n ((m + (n - n / 2)) % n) r = ρ.w ^ (m * r) * ρ.wi ^ (n / 2 * r) := by
  rw [tw_eq _ _ _ _ h.pow_n]
  -- both sides times `w^(⌊n/2⌋ r)` are `w^(m r)`
  have key : ρ.w ^ ((m + (n - n / 2)) % n * r) * ρ.w ^ (n / 2 * r) = ρ.w ^ (m * r) := by
    rw [← pow_add, ← Nat.add_mul, pow_eq_pow_mod _ h.pow_n,
      pow_eq_pow_mod (m * r) h.pow_n, Nat.mul_mod, ishift1_fshift1 n m hm, Nat.mul_mod m r n,
      Nat.mod_eq_of_lt hm]
  rw [← key, mul_assoc, h.pow_mul_wi_pow, mul_one]

/-! ### the inverse roots form a root structure too -/

/-- the same parameters with the roles of `w` and `wi` exchanged -/
def Root.swap (ρ : Root R) : Root R := ⟨ρ.wi, ρ.w, ρ.ninv⟩

theorem IsRoot.swap {n : Nat} {ρ : Root R} (h : IsRoot n ρ) : IsRoot n ρ.swap := by
  refine ⟨h.wi_pow_n, ?_, h.ninv, ?_⟩
  · show ρ.wi * ρ.w = 1
    rw [mul_comm]; exact h.inv
  · intro k hk hkn
    show sumN n (fun j => ρ.wi ^ (j * k)) = 0
    rw [sumN_congr n _ _ (fun j _ => h.wi_pow_eq j k (by omega))]
    exact h.orth (n - k) (by omega) (by omega)

omit [CommRing R] in
theorem Root.swap_swap (ρs : List (Root R)) : (ρs.map Root.swap).map Root.swap = ρs := by
  rw [List.map_map]; exact (List.map_congr_left fun _ _ => rfl).trans (List.map_id _)

theorem headD_swap (ρs : List (Root R)) :
    (ρs.map Root.swap).headD ⟨1, 1, 1⟩ = (ρs.headD ⟨1, 1, 1⟩).swap := by
  cases ρs <;> rfl

/-! ### the root of an axis by its position

The model reads `ρs` by `headD` / `tail` along the recursion over the counts.  `rootAt ρs a` is what
it finds at axis `a`; with it `Roots` and `ConjRoots` are statements about every position, and a
fact about one axis passes to all axes without a further induction. -/

def rootAt (ρs : List (Root R)) (a : Nat) : Root R := ρs.getD a ⟨1, 1, 1⟩

theorem rootAt_zero (ρs : List (Root R)) : rootAt ρs 0 = ρs.headD ⟨1, 1, 1⟩ := by cases ρs <;> rfl

theorem rootAt_succ (ρs : List (Root R)) (a : Nat) : rootAt ρs (a + 1) = rootAt ρs.tail a := by
  cases ρs <;> simp [rootAt]

theorem rootAt_map {α} (l : List α) (g : α → Root R) (d : α) (a : Nat) (ha : a < l.length) :
    rootAt (l.map g) a = g (l.getD a d) := by
  simp [rootAt, List.getD_eq_getElem?_getD, ha]

theorem rootAt_swap (ρs : List (Root R)) (a : Nat) : rootAt (ρs.map Root.swap) a = (rootAt ρs a).swap := by
  unfold rootAt
  by_cases h : a < ρs.length
  · simp [List.getD_eq_getElem?_getD, h]
  · simp [List.getD_eq_getElem?_getD, Nat.le_of_not_lt h, Root.swap]

theorem Roots_iff (ns : List Nat) (ρs : List (Root R)) :
    Roots ns ρs ↔ ∀ a, a < ns.length → IsRoot (ns.getD a 0) (rootAt ρs a) := by
  induction ns generalizing ρs with
  | nil => simp [Roots]
  | cons n ns ih =>
    rw [Roots, ih, List.length_cons, Nat.forall_lt_succ_left]
    simp only [rootAt_zero, rootAt_succ, List.getD_cons_zero, List.getD_cons_succ]

theorem Roots.swap (ns : List Nat) (ρs : List (Root R)) (h : Roots ns ρs) : Roots ns (ρs.map Root.swap) :=
  (Roots_iff _ _).mpr fun a ha => by rw [rootAt_swap]; exact ((Roots_iff _ _).mp h a ha).swap

/-! ### orthogonality and what it gives on one axis -/

/-- orthogonality in the form the inversion needs: the terms are `w^(k(r-j))` or `wi^(k(j-r))` -/
theorem IsRoot.orth_sum {n : Nat} {ρ : Root R} (h : IsRoot n ρ) (r j : Nat) (hr : r < n) (hj : j < n) :
    sumN n (fun k => tw ρ.w n k r * tw ρ.wi n j k) = if r = j then (n : R) else 0 := by
  have hterm : ∀ k, tw ρ.w n k r * tw ρ.wi n j k = ρ.w ^ (k * r) * ρ.wi ^ (k * j) := fun k => by
    rw [tw_eq _ _ _ _ h.pow_n, tw_eq _ _ _ _ h.wi_pow_n, Nat.mul_comm j k]
  rw [sumN_congr n _ _ (fun k _ => hterm k)]
  rcases Nat.lt_trichotomy r j with hlt | rfl | hgt
  · have e : ∀ k, ρ.w ^ (k * r) * ρ.wi ^ (k * j) = ρ.wi ^ (k * (j - r)) := fun k => by
      have : k * j = k * r + k * (j - r) := by rw [← Nat.mul_add, Nat.add_sub_cancel' hlt.le]
      rw [this, pow_add, ← mul_assoc, h.pow_mul_wi_pow, one_mul]
    rw [if_neg (by omega), sumN_congr n _ _ (fun k _ => e k)]
    exact h.swap.orth (j - r) (by omega) (by omega)
  · rw [if_pos rfl, sumN_congr n _ (fun _ => 1) (fun k _ => h.pow_mul_wi_pow _), sumN_const, mul_one]
  · have e : ∀ k, ρ.w ^ (k * r) * ρ.wi ^ (k * j) = ρ.w ^ (k * (r - j)) := fun k => by
      have : k * r = k * (r - j) + k * j := by rw [← Nat.mul_add, Nat.sub_add_cancel hgt.le]
      rw [this, pow_add, mul_assoc, h.pow_mul_wi_pow, mul_one]
    rw [if_neg (by omega), sumN_congr n _ _ (fun k _ => e k)]
    exact h.orth (r - j) (by omega) (by omega)

/-- one axis: the inverse transform undoes the forward one -/
theorem IsRoot.inv_fwd {n : Nat} {ρ : Root R} (h : IsRoot n ρ) (g : Nat → R) (j : Nat) (hj : j < n) :
    ρ.ninv * sumN n (fun k => sumN n (fun r => g r * tw ρ.w n k r) * tw ρ.wi n j k) = g j := by
  have e : ∀ k, sumN n (fun r => g r * tw ρ.w n k r) * tw ρ.wi n j k
      = sumN n (fun r => g r * (tw ρ.w n k r * tw ρ.wi n j k)) := fun k => by
    rw [← sumN_mul_right]; exact sumN_congr _ _ _ (fun r _ => mul_assoc _ _ _)
  -- exchange the sums; by orthogonality only the term `r = j` is left
  rw [sumN_congr n _ _ (fun k _ => e k), sumN_comm,
    sumN_congr n _ (fun r => if r = j then g r * (n : R) else 0) (fun r hr => by
      rw [sumN_mul_left, h.orth_sum r j hr hj]; split <;> simp),
    sumN_single n _ j hj (fun i _ hne => if_neg hne), if_pos rfl, mul_left_comm, h.ninv, mul_one]

/-- one axis of Plancherel's identity -/
theorem plancherel1 {n : Nat} {ρ : Root R} (h : IsRoot n ρ) (a b : Nat → R) :
    sumN n (fun k => sumN n (fun r => a r * tw ρ.w n k r) * sumN n (fun s => b s * tw ρ.wi n k s))
      = (n : R) * sumN n (fun r => a r * b r) := by
  have e1 : ∀ k, sumN n (fun r => a r * tw ρ.w n k r) * sumN n (fun s => b s * tw ρ.wi n k s)
      = sumN n (fun r => sumN n (fun s => (a r * b s) * (tw ρ.w n k r * tw ρ.wi n s k))) := by
    intro k
    rw [sumN_mul_sumN]
    apply sumN_congr; intro r _
    apply sumN_congr; intro s _
    rw [tw_comm ρ.wi n k s]; ring
  rw [sumN_congr n _ _ (fun k _ => e1 k), sumN_comm]
  rw [sumN_congr n _ (fun r => a r * b r * (n : R))]
  · rw [sumN_mul_right]; ring
  · intro r hr
    rw [sumN_comm]
    rw [sumN_congr n _ (fun s => if s = r then a r * b s * (n : R) else 0)]
    · rw [sumN_single n _ r hr (fun i _ hne => by simp [hne])]; simp
    · intro s hs
      rw [sumN_mul_left, h.orth_sum r s hr hs]
      by_cases hsr : s = r
      · rw [if_pos hsr, if_pos hsr.symm]
      · rw [if_neg hsr, if_neg (fun e => hsr e.symm), mul_zero]

/-! ### conjugation -/

/-- `conj` is a ring endomorphism (complex conjugation in ℂ); the same as `IsHom conj`, see `IsConj.isHom` -/
structure IsConj (conj : R → R) : Prop where
  map_zero : conj 0 = 0
  map_one : conj 1 = 1
  map_add : ∀ x y, conj (x + y) = conj x + conj y
  map_mul : ∀ x y, conj (x * y) = conj x * conj y

/-- `conj` inverts the root of every axis -/
def ConjRoots (conj : R → R) : List Nat → List (Root R) → Prop
  | [], _ => True
  | _ :: ns, ρs => conj (ρs.headD ⟨1, 1, 1⟩).w = (ρs.headD ⟨1, 1, 1⟩).wi ∧ ConjRoots conj ns ρs.tail

theorem IsConj.isHom {conj : R → R} (h : IsConj conj) : IsHom conj :=
  ⟨h.map_zero, h.map_one, h.map_add, h.map_mul⟩

/-! a map that preserves `0 1 + *` preserves everything built from them; `IsConj` uses these through `isHom` -/

section hom
variable {S : Type} [CommRing S] {φ : S → R}

theorem IsHom.prodN (h : IsHom φ) (n : Nat) (f : Nat → S) : φ (prodN n f) = prodN n (fun i => φ (f i)) := by
  induction n with
  | zero => simp [C11.prodN, h.map_one]
  | succ n ih => simp only [C11.prodN, h.map_mul, ih]

theorem IsHom.sumBox (h : IsHom φ) (ns : List Nat) (g : List Nat → S) :
    φ (sumBox ns g) = sumBox ns (fun k => φ (g k)) := by
  induction ns generalizing g with
  | nil => rfl
  | cons n ns ih =>
    simp only [C11.sumBox]
    rw [h.sumN]
    exact sumN_congr _ _ _ (fun r _ => ih (fun rs => g (r :: rs)))

theorem IsHom.pow (h : IsHom φ) (x : S) (k : Nat) : φ (x ^ k) = φ x ^ k := by
  rw [← powN_eq, h.powN, powN_eq]

theorem IsHom.natCast (h : IsHom φ) (n : Nat) : φ (n : S) = (n : R) := by
  induction n with
  | zero => simpa using h.map_zero
  | succ n ih => rw [Nat.cast_succ, h.map_add, ih, h.map_one, Nat.cast_succ]
end hom

theorem IsConj.map_inv_of_fixed {conj : R → R} (hc : IsConj conj) {x y : R} (hxy : x * y = 1) (hy : conj y = y) :
    conj x = x :=
  left_inverse_unique (z := y) (by rw [← hy, ← hc.map_mul, hxy, hc.map_one]) hxy

theorem conj_wi {conj : R → R} (hc : IsConj conj) {n : Nat} {ρ : Root R} (h : IsRoot n ρ) (hw : conj ρ.w = ρ.wi) :
    conj ρ.wi = ρ.w := by
  have h1 : conj (ρ.w * ρ.wi) = 1 := by rw [h.inv, hc.map_one]
  rw [hc.map_mul, hw, mul_comm] at h1
  exact left_inverse_unique h1 h.inv

theorem ConjRoots_iff (conj : R → R) (ns : List Nat) (ρs : List (Root R)) :
    ConjRoots conj ns ρs ↔ ∀ a, a < ns.length → conj (rootAt ρs a).w = (rootAt ρs a).wi := by
  induction ns generalizing ρs with
  | nil => simp [ConjRoots]
  | cons n ns ih =>
    rw [ConjRoots, ih, List.length_cons, Nat.forall_lt_succ_left]
    simp only [rootAt_zero, rootAt_succ]

theorem ConjRoots.swap {conj : R → R} (hc : IsConj conj) {ns : List Nat} {ρs : List (Root R)} (hρ : Roots ns ρs)
    (h : ConjRoots conj ns ρs) : ConjRoots conj ns (ρs.map Root.swap) :=
  (ConjRoots_iff _ _ _).mpr fun a ha => by
    rw [rootAt_swap]; exact conj_wi hc ((Roots_iff _ _).mp hρ a ha) ((ConjRoots_iff _ _ _).mp h a ha)

theorem conj_ninv {conj : R → R} (hc : IsConj conj) {n : Nat} {ρ : Root R} (h : IsRoot n ρ) :
    conj ρ.ninv = ρ.ninv :=
  hc.map_inv_of_fixed h.ninv (hc.isHom.natCast n)

theorem conj_half {conj : R → R} (hc : IsConj conj) {half : R} (hh : half * 2 = 1) : conj half = half :=
  hc.map_inv_of_fixed hh (by simpa using hc.isHom.natCast 2)

/-- one axis: conjugating a twiddle factor negates the frequency index -/
theorem conj_tw {conj : R → R} (hc : IsConj conj) {n : Nat} {ρ : Root R} (h : IsRoot n ρ) (hw : conj ρ.w = ρ.wi)
    (k r : Nat) (hk : k < n) : conj (tw ρ.w n k r) = tw ρ.w n ((n - k % n) % n) r := by
  rw [tw_eq _ _ _ _ h.pow_n, tw_eq _ _ _ _ h.pow_n, hc.isHom.pow, hw]
  exact (tw_neg h.swap k r hk).symm

end DFV.C11
