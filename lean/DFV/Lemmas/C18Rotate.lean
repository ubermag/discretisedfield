import DFV.Lemmas.C18Box
import DFV.Lemmas.C18Order
/-! One `rotate` call and histories of calls (C18): the stored values, acceptance and refusal, the state machine.
Hypotheses across the C18 files, weakest first: `AxOk` → `Mesh3` (C18Grid) → `WF` (here; what the value theorems
assume) → `RotH` (C18Rotate90; adds `T.FldInv`, the component order and a mapping with no label twice, for the
comparison with `rotate90`). `InitOk` (here) and `BoxOk` (C18Box) are not assumptions but the exact content of a test
in the code; `Is3d` is needed by C18Scale only. -/
namespace DFV.C18
open DFV DFV.Mesh

/-- the mesh `rotate` builds: the bounding box with the given or the automatic counts, no boundary
conditions, no subregions -/
def boxMesh (f : Fld) (R : M3) (n? : Option (List Nat)) : Mesh :=
  ⟨boxRegion f R, n?.getD (autoN f R (boxRegion f R)), "", []⟩

/-- **`rotateOnce` in closed form**: it succeeds exactly when no edge of the box collapses, the
counts are three non-zero numbers and the component order exists, and then returns
`rotated f R ord (boxMesh f R n?)` -/
theorem rotateOnce_ok_iff (f : Fld) (R : M3) (n? : Option (List Nat)) (g : Fld) :
    rotateOnce f R n? = .ok g ↔ BoxOk f R ∧ (boxMesh f R n?).n.length = 3 ∧ (∀ k ∈ (boxMesh f R n?).n, k ≠ 0) ∧
      ∃ ord, ordFor f = .ok ord ∧ g = rotated f R ord (boxMesh f R n?) := by
  unfold rotateOnce
  by_cases hb : BoxOk f R
  · rw [newRegion_ok_of f R hb]
    simp only
    cases hmk : Mesh.mkN? (boxRegion f R) (n?.getD (autoN f R (boxRegion f R))) with
    | error e =>
      refine ⟨nofun, fun ⟨_, hl, hp, _⟩ => ?_⟩
      exact nomatch hmk.symm.trans ((mkN_iff _ _ _).mpr ⟨hl.trans (boxRegion_ndim f R).symm, hp, rfl⟩)
    | ok nm =>
      obtain ⟨hl, hp, rfl⟩ := (mkN_iff _ _ nm).mp hmk
      rw [boxRegion_ndim] at hl
      cases ho : ordFor f with
      | error e => exact ⟨nofun, fun ⟨_, _, _, ord, h, _⟩ => by cases h⟩
      | ok ord =>
        exact ⟨fun h => ⟨hb, hl, hp, ord, rfl, (Except.ok.inj h).symm⟩,
          fun ⟨_, _, _, ord', ho', hg⟩ => by rw [hg, ← Except.ok.inj ho']; rfl⟩
  · rw [newRegion_err_of f R hb]
    exact ⟨nofun, fun h => absurd h.1 hb⟩

/-- the mesh of the result depends on the mesh of the original only -/
theorem boxMesh_congr (f f' : Fld) (hm : f.mesh = f'.mesh) (R : M3) (n? : Option (List Nat)) : boxMesh f R n? = boxMesh f' R n? := by
  unfold boxMesh boxRegion boxLo boxHi autoN autoX3; rw [hm]

theorem backPos_congr (f f' : Fld) (hm : f.mesh = f'.mesh) (R : M3) (nm : Mesh) (idx : List Nat) :
    backPos f R nm idx = backPos f' R nm idx := by
  unfold backPos; rw [hm]

/-- well-formed input of the rotator: three good axes, scalar or 3-vector with three labels -/
def WF (f : Fld) : Prop :=
  Mesh3 f.mesh ∧ (f.nvdim = 1 ∨ (f.nvdim = 3 ∧ (f.vdims.getD []).length = 3))

/-- interpolate-then-rotate equals rotate-then-interpolate (what the code does) -/
theorem valuesAt_eq_rot_origAt (f : Fld) (R : M3) (ord : List Nat) (p : V3)
    (hv : f.nvdim = 1 ∨ (f.nvdim = 3 ∧ ∀ a, a < 3 → ord.getD a 0 < 3)) :
    valuesAt f R ord p = rotVal f.nvdim R ord (origAt f p) := by
  rcases hv with h1 | ⟨h3, ho⟩
  · -- scalar fields: the rotation does not touch the values
    unfold valuesAt origAt padded paddedOrig rotVal
    simp only [if_pos h1]
  · -- vector fields: a rotated component is a fixed combination of three original components
    unfold valuesAt rotVal
    rw [if_neg (by omega), h3]
    apply tab_congr
    intro c hc
    have hp : padded f R ord c = fun i j k =>
        R.e (invAt ord c) 0 * paddedOrig f (ord.getD 0 0) i j k + R.e (invAt ord c) 1 * paddedOrig f (ord.getD 1 0) i j k
          + R.e (invAt ord c) 2 * paddedOrig f (ord.getD 2 0) i j k := by
      funext i j k
      unfold padded paddedOrig rotVal
      rw [if_neg (by omega), getD_tab _ _ _ _ hc, M3.apply_get]
    rw [hp, interpAt_linear3, M3.apply_get,
      origAt_getD f p _ (by rw [h3]; exact ho 0 (by decide)), origAt_getD f p _ (by rw [h3]; exact ho 1 (by decide)),
      origAt_getD f p _ (by rw [h3]; exact ho 2 (by decide))]

theorem rotated_data (f : Fld) (R : M3) (ord : List Nat) (nm : Mesh) (idx : List Nat) :
    (rotated f R ord nm).data.get idx = valuesAt f R ord (backPos f R nm idx) := rfl

/-- every stored value is the rotation, through the component order, of the interpolant of the
original at the back-rotated cell centre -/
theorem rotated_get (f : Fld) (hf : WF f) (R : M3) (ord : List Nat) (ho : ordFor f = .ok ord) (nm : Mesh) (idx : List Nat) :
    (rotated f R ord nm).data.get idx = rotVal f.nvdim R ord (origAt f (backPos f R nm idx)) :=
  valuesAt_eq_rot_origAt f R ord _ <| hf.2.imp_right fun ⟨h3, hl⟩ =>
    ⟨h3, fun a ha => by have := ordFor_lt f ord ho (by omega) a ha; omega⟩

/-- **`rotate` never refuses a well-formed call**: for a well-formed field with a complete
mapping, every proper rotation and either no `n` or three positive counts, the call succeeds
with the bounding-box region and the requested (or automatic) counts -/
theorem rotateOnce_accepts (f : Fld) (hm : Mesh3 f.mesh) {R : M3} (hR : R.IsRot) (ord : List Nat) (ho : ordFor f = .ok ord)
    (n? : Option (List Nat)) (hn : ∀ n, n? = some n → n.length = 3 ∧ ∀ k ∈ n, k ≠ 0) :
    rotateOnce f R n? = .ok (rotated f R ord (boxMesh f R n?)) := by
  refine (rotateOnce_ok_iff f R n? _).mpr ⟨boxOk_of_isRot f hm hR, ?_, ?_, ord, ho, rfl⟩
  · cases n? with
    | none => exact (autoN_pos f hm hR).1
    | some n => exact (hn n rfl).1
  · cases n? with
    | none => exact (autoN_pos f hm hR).2
    | some n => exact (hn n rfl).2

/-- what `FieldRotator.__init__` demands: scalar or 3-vector, a 3-d mesh, and (for vectors) every
component label mapped to an axis name of the mesh -/
def InitOk (f : Fld) : Prop :=
  (f.nvdim = 1 ∨ f.nvdim = 3) ∧ f.mesh.region.ndim = 3 ∧
  (f.nvdim = 3 → ∀ v ∈ f.vdims.getD [], ∃ d, Fld.lookup f.vmap v = some d ∧ f.mesh.region.dims.contains d = true)

/-- the constructor decides `InitOk`: the label test of the code, read off the `Bool` it computes -/
theorem init_test_iff (f : Fld) :
    (decide (f.nvdim > 1) && !((f.vdims.getD []).all fun v =>
      match Fld.lookup f.vmap v with
      | none => false
      | some d => f.mesh.region.dims.contains d)) = false ↔
    (f.nvdim > 1 → ∀ v ∈ f.vdims.getD [], ∃ d, Fld.lookup f.vmap v = some d ∧ f.mesh.region.dims.contains d = true) := by
  simp only [Bool.and_eq_false_iff, decide_eq_false_iff_not, Bool.not_eq_false', List.all_eq_true]
  constructor
  · intro h hv v hm
    have := (h.resolve_left (not_not.mpr hv)) v hm
    cases hl : Fld.lookup f.vmap v with
    | none => rw [hl] at this; cases this
    | some d => rw [hl] at this; exact ⟨d, rfl, this⟩
  · intro h
    by_cases hv : f.nvdim > 1
    · right; intro v hm
      obtain ⟨d, hd, hc⟩ := h hv v hm
      rw [hd]; exact hc
    · exact Or.inl hv

/-- **`init?` opened**: it returns the fresh rotator when `InitOk` holds and `ValueError` when not -/
theorem init?_cases (f : Fld) :
    (InitOk f ∧ init? f = .ok ⟨f, M3.one, f⟩) ∨ (¬ InitOk f ∧ init? f = .error .value) := by
  unfold init?
  split
  · exact Or.inr ⟨fun hi => by have := hi.1; omega, rfl⟩
  · split
    · rename_i h2; exact Or.inr ⟨fun hi => h2 hi.2.1, rfl⟩
    · split
      · rename_i h3
        refine Or.inr ⟨fun hi => ?_, rfl⟩
        exact Bool.false_ne_true (((init_test_iff f).mpr fun hv => hi.2.2 (by have := hi.1; omega)).symm.trans h3)
      · rename_i h1 h2 h3
        have h3 := (init_test_iff f).mp ((Bool.not_eq_true _).mp h3)
        exact Or.inl ⟨⟨by omega, not_not.mp h2, fun h3' => h3 (by omega)⟩, rfl⟩

theorem init_accepts (f : Fld) (h : InitOk f) : init? f = .ok ⟨f, M3.one, f⟩ :=
  (init?_cases f).elim (·.2) fun h' => absurd h h'.1

theorem init_refuses (f : Fld) (h : ¬ InitOk f) : init? f = .error .value :=
  (init?_cases f).elim (fun h' => absurd h'.1 h) (·.2)

theorem init?_ok_iff (f : Fld) (s : Rotator) : init? f = .ok s ↔ InitOk f ∧ s = ⟨f, M3.one, f⟩ := by
  rcases init?_cases f with ⟨h, e⟩ | ⟨h, e⟩ <;> rw [e]
  · exact ⟨fun hs => ⟨h, (Except.ok.inj hs).symm⟩, fun hs => by rw [hs.2]⟩
  · exact ⟨nofun, fun hs => absurd hs.1 h⟩

theorem init_ok_iff (f : Fld) : (∃ s, init? f = .ok s) ↔ InitOk f :=
  ⟨fun ⟨s, hs⟩ => ((init?_ok_iff f s).mp hs).1, fun h => ⟨_, init_accepts f h⟩⟩

/-- the result does not depend on the boundary conditions, subregions, validity mask or unit of
the original field: `rotateOnce` never reads them -/
theorem rotateOnce_ignores (f : Fld) (R : M3) (n? : Option (List Nat)) (bc : String) (subs : List (String × Region))
    (valid : NDA Bool) (unit : Option String) :
    rotateOnce { f with mesh := { f.mesh with bc := bc, subs := subs }, valid := valid, unit := unit } R n? = rotateOnce f R n? := rfl

theorem init_ignores (f : Fld) (bc : String) (subs : List (String × Region)) (valid : NDA Bool) (unit : Option String) :
    (∃ s, init? { f with mesh := { f.mesh with bc := bc, subs := subs }, valid := valid, unit := unit } = .ok s) ↔
      ∃ s, init? f = .ok s :=
  (init_ok_iff _).trans (init_ok_iff f).symm

theorem run_append (s : Rotator) (a b : List Op) : run s (a ++ b) = run (run s a) b := by
  induction a generalizing s with
  | nil => rfl
  | cons op ops ih => simp only [List.cons_append, run]; exact ih _

theorem run_snoc (s : Rotator) (ops : List Op) (op : Op) : run s (ops ++ [op]) = (step (run s ops) op).1 := by
  rw [run_append]; rfl

theorem step_orig (s : Rotator) (op : Op) : (step s op).1.orig = s.orig := by
  cases op with
  | rotate Q n =>
    cases h : rotateOnce s.orig (Q.mul s.rot) n <;> simp only [step, h]
  | clear => rfl
  | unknown => rfl

theorem step_rotate_rot (s : Rotator) (Q : M3) (n : Option (List Nat)) : (step s (.rotate Q n)).1.rot = Q.mul s.rot := by
  cases h : rotateOnce s.orig (Q.mul s.rot) n <;> simp only [step, h]

theorem step_rotate_ok (s : Rotator) (Q : M3) (n : Option (List Nat)) (g : Fld)
    (h : rotateOnce s.orig (Q.mul s.rot) n = .ok g) :
    step s (.rotate Q n) = ({ s with rot := Q.mul s.rot, cur := g }, none) := by
  simp only [step, h]

theorem step_rotate_err (s : Rotator) (Q : M3) (n : Option (List Nat)) (e : Err)
    (h : rotateOnce s.orig (Q.mul s.rot) n = .error e) :
    step s (.rotate Q n) = ({ s with rot := Q.mul s.rot }, some e) := by
  simp only [step, h]

theorem step_rotate_none_iff (s : Rotator) (Q : M3) (n : Option (List Nat)) :
    (step s (.rotate Q n)).2 = none ↔ ∃ g, rotateOnce s.orig (Q.mul s.rot) n = .ok g := by
  cases h : rotateOnce s.orig (Q.mul s.rot) n with
  | ok g => rw [step_rotate_ok s Q n g h]; exact ⟨fun _ => ⟨g, rfl⟩, fun _ => rfl⟩
  | error e => rw [step_rotate_err s Q n e h]; exact ⟨nofun, fun ⟨_, hg⟩ => nomatch hg⟩

/-- a refused `rotate` call: the error is reported, the current field is kept, the rotation stays accumulated -/
theorem step_rotate_refused (s : Rotator) (Q : M3) (n : Option (List Nat)) (h : ∀ g, rotateOnce s.orig (Q.mul s.rot) n ≠ .ok g) :
    (step s (.rotate Q n)).2 ≠ none ∧ (step s (.rotate Q n)).1.cur = s.cur ∧ (step s (.rotate Q n)).1.rot = Q.mul s.rot := by
  cases hres : rotateOnce s.orig (Q.mul s.rot) n with
  | ok g => exact absurd hres (h g)
  | error e => rw [step_rotate_err s Q n e hres]; exact ⟨nofun, rfl, rfl⟩

/-- a `rotate` step depends only on the original field and on the product it accumulates -/
theorem step_rotate_congr (s s' : Rotator) (Q Q' : M3) (n : Option (List Nat)) (ho : s.orig = s'.orig)
    (hr : Q.mul s.rot = Q'.mul s'.rot) :
    (step s (.rotate Q n)).1.rot = (step s' (.rotate Q' n)).1.rot ∧ (step s (.rotate Q n)).2 = (step s' (.rotate Q' n)).2 ∧
    ((step s' (.rotate Q' n)).2 = none → (step s (.rotate Q n)).1.cur = (step s' (.rotate Q' n)).1.cur) := by
  cases hres : rotateOnce s'.orig (Q'.mul s'.rot) n with
  | ok g =>
    rw [step_rotate_ok s' Q' n g hres, step_rotate_ok s Q n g (by rw [ho, hr]; exact hres), hr]
    exact ⟨rfl, rfl, fun _ => rfl⟩
  | error e =>
    rw [step_rotate_err s' Q' n e hres, step_rotate_err s Q n e (by rw [ho, hr]; exact hres), hr]
    exact ⟨rfl, rfl, fun h => by cases h⟩

theorem run_orig (s : Rotator) (ops : List Op) : (run s ops).orig = s.orig := by
  induction ops generalizing s with
  | nil => rfl
  | cons op ops ih => simp only [run]; rw [ih, step_orig]

/-- the accumulated rotation after a history is the ordered product of the rotations issued
since the last clear -/
theorem run_rot (s : Rotator) (cur : List M3) (hs : s.rot = prodL cur) (ops : List Op) :
    (run s ops).rot = prodL (seg cur ops) := by
  induction ops generalizing s cur with
  | nil => exact hs
  | cons op ops ih =>
    cases op with
    | rotate Q n =>
      simp only [run, seg]
      apply ih
      rw [step_rotate_rot, prodL_append, hs]
    | clear =>
      simp only [run, seg]
      apply ih
      rfl
    | unknown =>
      simp only [run, seg]
      exact ih _ _ hs

/-- a property of all rotations of a history (and of the current segment) holds for the rotations
since the last clear -/
theorem seg_mem (cur : List M3) (ops : List Op) (P : M3 → Prop) (hc : ∀ Q ∈ cur, P Q)
    (hops : ∀ Q n, Op.rotate Q n ∈ ops → P Q) : ∀ Q ∈ seg cur ops, P Q := by
  induction ops generalizing cur with
  | nil => exact hc
  | cons op ops ih =>
    -- the calls after `op` are calls of the history
    have hops' : ∀ Q n, Op.rotate Q n ∈ ops → P Q := fun Q n h => hops Q n (List.mem_cons_of_mem _ h)
    cases op with
    | rotate Q n =>
      -- the segment grows by `Q`, a rotation of the history
      refine ih _ (fun Q' hQ' => ?_) hops'
      rcases List.mem_append.mp hQ' with h | h
      · exact hc Q' h
      · rw [List.mem_singleton.mp h]; exact hops Q n List.mem_cons_self
    -- `clear` starts the segment again, empty; an unknown call leaves it alone
    -- (`nofun` for `∀ Q ∈ [], P Q` takes 40k heartbeats here, `List.not_mem_nil` none)
    | clear => exact ih _ (fun _ h => absurd h List.not_mem_nil) hops'
    | unknown => exact ih _ hc hops'

/-- **a fresh rotator after any history of proper rotations**: the original is untouched, the
accumulated matrix is the ordered product since the last clear, and it is a proper rotation — what a
further `rotate` call starts from -/
theorem run_fresh (f : Fld) (s0 : Rotator) (h0 : init? f = .ok s0) (ops : List Op)
    (hops : ∀ Q n, Op.rotate Q n ∈ ops → Q.IsRot) :
    (run s0 ops).orig = f ∧ (run s0 ops).rot = prodL (seg [] ops) ∧ (run s0 ops).rot.IsRot := by
  obtain rfl := ((init?_ok_iff f s0).mp h0).2
  have hr := run_rot ⟨f, M3.one, f⟩ [] rfl ops
  exact ⟨run_orig _ ops, hr, hr ▸ prodL_isRot _ (seg_mem [] ops M3.IsRot (fun _ h => absurd h List.not_mem_nil) hops)⟩

/-- a call with an unknown method name -/
def Op.isUnknown : Op → Bool
  | .unknown => true
  | _ => false

/-- refused method names leave no trace: the history without them reaches the same state -/
theorem run_skip_unknown (s : Rotator) (ops : List Op) : run s (ops.filter fun o => !o.isUnknown) = run s ops := by
  induction ops generalizing s with
  | nil => rfl
  | cons op ops ih =>
    cases op with
    | rotate Q n => simp only [List.filter, Op.isUnknown, Bool.not_false, run]; exact ih _
    | clear => simp only [List.filter, Op.isUnknown, Bool.not_false, run]; exact ih _
    | unknown => simp only [List.filter, Op.isUnknown, Bool.not_true, run, step]; exact ih _

theorem seg_append (cur : List M3) (a b : List Op) : seg cur (a ++ b) = seg (seg cur a) b := by
  induction a generalizing cur with
  | nil => rfl
  | cons o a ih => cases o <;> simp only [List.cons_append, seg] <;> exact ih _

theorem seg_map_rotate {α} (cur : List M3) (l : List α) (F : α → M3) (N : α → Option (List Nat)) :
    seg cur (l.map fun x => Op.rotate (F x) (N x)) = cur ++ l.map F := by
  induction l generalizing cur with
  | nil => simp [seg]
  | cons x l ih => simp only [List.map_cons, seg]; rw [ih]; simp

theorem valuesAt_add (f1 f2 f3 : Fld) (hm1 : f1.mesh = f3.mesh) (hm2 : f2.mesh = f3.mesh) (hv1 : f1.nvdim = f3.nvdim)
    (hv2 : f2.nvdim = f3.nvdim)
    (hd : ∀ idx c, (f3.data.get idx).getD c 0 = (f1.data.get idx).getD c 0 + (f2.data.get idx).getD c 0)
    (R : M3) (ord : List Nat) (p : V3) (c : Nat) :
    (valuesAt f3 R ord p).getD c 0 = (valuesAt f1 R ord p).getD c 0 + (valuesAt f2 R ord p).getD c 0 := by
  by_cases hc : c < f3.nvdim
  · rw [valuesAt_getD f3 R ord p c hc, valuesAt_getD f1 R ord p c (by omega), valuesAt_getD f2 R ord p c (by omega)]
    have l1 : locOf f1 p = locOf f3 p := by unfold locOf; rw [hm1]
    have l2 : locOf f2 p = locOf f3 p := by unfold locOf; rw [hm2]
    rw [l1, l2]
    have hp : padded f3 R ord c = fun i j k => 1 * padded f1 R ord c i j k + 1 * padded f2 R ord c i j k := by
      funext i j k
      unfold padded
      rw [hm1, hm2, hv1, hv2, one_mul, one_mul]
      exact rotVal_add _ R ord _ _ _ (fun c' => hd _ c') c
    rw [hp, interpAt_linear]; ring
  · -- beyond the last component all three lists read the default
    unfold valuesAt
    rw [getD_tab_ge _ _ _ _ (by omega), getD_tab_ge _ _ _ _ (by omega), getD_tab_ge _ _ _ _ (by omega)]; ring

end DFV.C18
