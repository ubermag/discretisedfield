import DFV.Lemmas.C06Subs
import DFV.Lemmas.C06Chain
/-! Axis removal at object level (C06): the closed form `selF` of `Mesh.sel(d)` (`C06Subs`) commutes with itself
(`selF_comm`: region, counts, bc, subregions), and with it the independence of chained reductions
(`selMany`, `integrate(d1).integrate(d2)…`) of the ORDER of the directions - as whole objects:
reduced mesh with dims, units, tolerance and subregions, labels, unit, validity and values. -/
namespace DFV.C06
open DFV

/-! ## lists with two entries removed -/

theorem skip_skip (a b a' b' q : Nat) (h1 : skip a b' = b) (h2 : skip b a' = a) :
    skip a (skip b' q) = skip b (skip a' q) := by
  have := skip_cases a b'
  have := skip_cases b a'
  have := skip_cases b' q
  have := skip_cases a' q
  have := skip_cases a (skip b' q)
  have := skip_cases b (skip a' q)
  omega

theorem removeAt_removeAt {α} (l : List α) (a b a' b' : Nat) (h1 : skip a b' = b) (h2 : skip b a' = a) :
    removeAt (removeAt l a) b' = removeAt (removeAt l b) a' :=
  DFV.removeAt_removeAt l a b a' b' h1 h2

/-! ## the reduced mesh as the next removal sees it -/

theorem region_ext (r r' : Region) (h1 : r.pmin = r'.pmin) (h2 : r.pmax = r'.pmax) (h3 : r.dims = r'.dims)
    (h4 : r.units = r'.units) (h5 : r.tol = r'.tol) : r = r' := by
  cases r; cases r'; simp only at h1 h2 h3 h4 h5; subst h1; subst h2; subst h3; subst h4; subst h5; rfl

/-- what the next step needs: the reduced mesh is well formed, its subregions pass its setter,
it has one dimension less and every other direction is still a direction -/
theorem selF_facts (m : Mesh) (hm : m.Inv) (hacc : SubsAcc m) (h2 : 2 ≤ m.ndim) (d : String) (ax : Nat)
    (hax : m.region.dim2index d = .ok ax) :
    (selF m ax).Inv ∧ SubsAcc (selF m ax) ∧ (selF m ax).ndim + 1 = m.ndim ∧
    ∀ d' ∈ m.region.dims, d' ≠ d → d' ∈ (selF m ax).region.dims := by
  have haxlt := hm.dim2index_lt hax
  refine ⟨sel_inv m d _ (sel_eq_selF m hm hacc h2 d ax hax), selF_acc m hm hacc h2 ax haxlt, ?_, ?_⟩
  · show (removeAt m.region.pmin ax).length + 1 = m.region.pmin.length
    rw [length_removeAt _ _ haxlt]; show m.ndim - 1 + 1 = m.ndim; omega
  · intro d' hd' hne
    show d' ∈ removeAt m.region.dims ax
    exact mem_removeAt _ _ _ hd' (by rw [C01.getD_of_dim2index hax]; exact fun h => hne h.symm)

/-- `integrate(d)` as a step: it succeeds and returns a field the next step can start from -/
theorem integrate_step_ok (f : Fld) (hf : WF f) (hsubs : SubsAcc f.mesh) (h2 : 2 ≤ f.mesh.ndim) (d : String)
    (hd : d ∈ f.mesh.region.dims) :
    ∃ g, integrate f (.name d) false = .ok (.field g) ∧ WF g ∧ SubsAcc g.mesh ∧ g.mesh.ndim + 1 = f.mesh.ndim ∧
      ∀ d' ∈ f.mesh.region.dims, d' ≠ d → d' ∈ g.mesh.region.dims := by
  obtain ⟨ax, hax⟩ := dim2index_of_mem _ _ hd
  obtain ⟨hinv, hacc, hnd, hmem⟩ := selF_facts f.mesh hf.1 hsubs h2 d ax hax
  have hshape : removeAt f.data.shape ax = (selF f.mesh ax).n := by rw [hf.2]; rfl
  exact ⟨_, (integrate_dir_iff f d _).mpr ⟨ax, _, hax, by omega, sel_eq_selF f.mesh hf.1 hsubs h2 d ax hax, hshape, rfl⟩,
    ⟨hinv, hshape⟩, hacc, hnd, hmem⟩

theorem mean_step_ok (f : Fld) (hf : WF f) (hsubs : SubsAcc f.mesh) (h2 : 2 ≤ f.mesh.ndim) (d : String)
    (hd : d ∈ f.mesh.region.dims) :
    ∃ g, mean f (.name d) = .ok (.field g) ∧ WF g ∧ SubsAcc g.mesh ∧ g.mesh.ndim + 1 = f.mesh.ndim ∧
      ∀ d' ∈ f.mesh.region.dims, d' ≠ d → d' ∈ g.mesh.region.dims := by
  obtain ⟨ax, hax⟩ := dim2index_of_mem _ _ hd
  obtain ⟨hinv, hacc, hnd, hmem⟩ := selF_facts f.mesh hf.1 hsubs h2 d ax hax
  have hshape : removeAt f.data.shape ax = (selF f.mesh ax).n := by rw [hf.2]; rfl
  exact ⟨_, (mean_name_iff f d _).mpr ⟨ax, _, hax, sel_eq_selF f.mesh hf.1 hsubs h2 d ax hax, hshape, rfl⟩,
    ⟨hinv, hshape⟩, hacc, hnd, hmem⟩

/-! ## two removals commute -/

theorem selCoord_selF (m : Mesh) (a b b' : Nat) (h1 : skip a b' = b) : selCoord (selF m a) b' = selCoord m b := by
  unfold selCoord Mesh.cellAt Region.edge Region.lo Region.hi Mesh.nAt
  show (removeAt m.region.pmin a).getD b' 0 + _ * (((removeAt m.region.pmax a).getD b' 0 - (removeAt m.region.pmin a).getD b' 0) / _) = _
  show _ + (((((removeAt m.n a).getD b' 0 / 2 : Nat) : Rat)) + 1/2) * (_ / (((removeAt m.n a).getD b' 0 : Nat) : Rat)) = _
  rw [getD_removeAt_skip, getD_removeAt_skip, getD_removeAt_skip, h1]

theorem keepSubs_map_cut (r : Region) (a b b' : Nat) (h1 : skip a b' = b) (s : Rat) (l : List (String × Region)) :
    keepSubs b' s (l.map fun p => (p.1, cutRegion r a p.2.pmin p.2.pmax))
      = (keepSubs b s l).map fun p => (p.1, cutRegion r a p.2.pmin p.2.pmax) := by
  unfold keepSubs
  rw [List.filter_map]
  congr 1
  apply List.filter_congr
  intro p _
  simp only [Function.comp]
  have e1 : (cutRegion r a p.2.pmin p.2.pmax).hi b' = p.2.hi b := by
    show (removeAt p.2.pmax a).getD b' 0 = _
    rw [getD_removeAt_skip, h1]; rfl
  have e2 : (cutRegion r a p.2.pmin p.2.pmax).lo b' = p.2.lo b := by
    show (removeAt p.2.pmin a).getD b' 0 = _
    rw [getD_removeAt_skip, h1]; rfl
  rw [e1, e2]

theorem keepSubs_comm (a b : Nat) (s t : Rat) (l : List (String × Region)) :
    keepSubs b t (keepSubs a s l) = keepSubs a s (keepSubs b t l) := by
  unfold keepSubs
  rw [List.filter_filter, List.filter_filter]
  apply List.filter_congr
  intro p _
  exact Bool.and_comm _ _

theorem cutRegion_comm (r : Region) (a b a' b' : Nat) (h1 : skip a b' = b) (h2 : skip b a' = a) (X Y X' Y' P Q : List Rat) :
    cutRegion (cutRegion r a X Y) b' (removeAt P a) (removeAt Q a)
      = cutRegion (cutRegion r b X' Y') a' (removeAt P b) (removeAt Q b) := by
  apply region_ext
  · exact removeAt_removeAt _ a b a' b' h1 h2
  · exact removeAt_removeAt _ a b a' b' h1 h2
  · exact removeAt_removeAt _ a b a' b' h1 h2
  · exact removeAt_removeAt _ a b a' b' h1 h2
  · rfl

/-- removing axis `a` and then the axis that was `b`, or the other way round, gives the same
mesh - region with names, units, tolerance; counts; subregions (the same ones survive, in the same
order, with the same corners) -/
theorem selF_comm (m : Mesh) (a b a' b' : Nat) (h1 : skip a b' = b) (h2 : skip b a' = a) :
    selF (selF m a) b' = selF (selF m b) a' := by
  apply T.mesh_ext
  · exact cutRegion_comm m.region a b a' b' h1 h2 _ _ _ _ _ _
  · exact removeAt_removeAt _ a b a' b' h1 h2
  · rfl
  · show (keepSubs b' (selCoord (selF m a) b') (selF m a).subs).map _ = (keepSubs a' (selCoord (selF m b) a') (selF m b).subs).map _
    rw [selCoord_selF m a b b' h1, selCoord_selF m b a a' h2]
    show (keepSubs b' (selCoord m b) ((keepSubs a (selCoord m a) m.subs).map _)).map _
      = (keepSubs a' (selCoord m a) ((keepSubs b (selCoord m b) m.subs).map _)).map _
    rw [keepSubs_map_cut m.region a b b' h1, keepSubs_map_cut m.region b a a' h2, keepSubs_comm, List.map_map, List.map_map]
    apply List.map_congr_left
    intro p _
    simp only [Function.comp]
    congr 1
    exact cutRegion_comm m.region a b a' b' h1 h2 _ _ _ _ _ _

/-- `Mesh.sel(d1).sel(d2) = Mesh.sel(d2).sel(d1)`: on a well-formed mesh with three or more
dimensions whose subregions passed the setter both chains succeed and return the same mesh -/
theorem sel_sel_comm (m : Mesh) (hm : m.Inv) (hacc : SubsAcc m) (h3 : 3 ≤ m.ndim) (d1 d2 : String)
    (hd1 : d1 ∈ m.region.dims) (hd2 : d2 ∈ m.region.dims) (hne : d1 ≠ d2) :
    ∃ m1 m2 m12, sel m d1 = .ok m1 ∧ sel m1 d2 = .ok m12 ∧ sel m d2 = .ok m2 ∧ sel m2 d1 = .ok m12 ∧
      m12.Inv ∧ SubsAcc m12 ∧ m12.ndim + 2 = m.ndim ∧
      ∀ d' ∈ m.region.dims, d' ≠ d1 → d' ≠ d2 → d' ∈ m12.region.dims := by
  obtain ⟨a, ha⟩ := dim2index_of_mem _ _ hd1
  obtain ⟨b, hb⟩ := dim2index_of_mem _ _ hd2
  have hab : a ≠ b := by
    intro heq
    exact hne ((C01.getD_of_dim2index ha).symm.trans (heq ▸ C01.getD_of_dim2index hb))
  have s1 := sel_eq_selF m hm hacc (by omega) d1 a ha
  have s2 := sel_eq_selF m hm hacc (by omega) d2 b hb
  obtain ⟨i1, c1, n1, k1⟩ := selF_facts m hm hacc (by omega) d1 a ha
  obtain ⟨i2, c2, n2, k2⟩ := selF_facts m hm hacc (by omega) d2 b hb
  obtain ⟨b', hb', hskb, _⟩ := (sel_reduced hm ha s1).dim2index_other hm hb (Ne.symm hab)
  obtain ⟨a', ha', hska, _⟩ := (sel_reduced hm hb s2).dim2index_other hm ha hab
  have s12 := sel_eq_selF (selF m a) i1 c1 (by omega) d2 b' hb'
  have s21 := sel_eq_selF (selF m b) i2 c2 (by omega) d1 a' ha'
  obtain ⟨i12, c12, n12, k12⟩ := selF_facts (selF m a) i1 c1 (by omega) d2 b' hb'
  have hc := selF_comm m a b a' b' hskb hska
  refine ⟨_, _, _, s1, s12, s2, by rw [s21, hc], i12, c12, by omega, ?_⟩
  intro d' hd' hn1 hn2
  exact k12 d' (k1 d' hd' hn1) hn2

/-! ## any order of removals -/

/-- `Mesh.sel(d1).sel(d2)…` does not depend on the order of the directions: for every list of
distinct directions (fewer than all) of a well-formed mesh whose subregions passed the setter and
every permutation of it, the two chains return the same result -/
theorem selMany_perm (ds ds' : List String) (hp : ds.Perm ds') :
    ∀ (m : Mesh), m.Inv → SubsAcc m → ds.Nodup → (∀ d ∈ ds, d ∈ m.region.dims) → ds.length < m.ndim →
      selMany m ds = selMany m ds' := by
  induction hp with
  | nil => intro m _ _ _ _ _; rfl
  | @cons x l1 l2 _ ih =>
    intro m hm hacc hnd hmem hlen
    obtain ⟨ax, hax⟩ := dim2index_of_mem _ _ (hmem x (by simp))
    have hlen' : l1.length + 1 < m.ndim := by simpa using hlen
    have s1 := sel_eq_selF m hm hacc (by omega) x ax hax
    obtain ⟨i1, c1, n1, k1⟩ := selF_facts m hm hacc (by omega) x ax hax
    obtain ⟨hx, hnd'⟩ := List.nodup_cons.mp hnd
    simp only [selMany, s1]
    exact ih _ i1 c1 hnd' (fun d hd => k1 d (hmem d (by simp [hd])) (fun h => hx (h ▸ hd))) (by omega)
  | swap x y l =>
    intro m hm hacc hnd hmem hlen
    have hlen' : l.length + 2 < m.ndim := by simpa using hlen
    obtain ⟨hy, hnd1⟩ := List.nodup_cons.mp hnd
    have hxy : y ≠ x := fun h => hy (by simp [h])
    obtain ⟨m1, m2, m12, e1, e12, e2, e21, _⟩ := sel_sel_comm m hm hacc (by omega) y x (hmem y (by simp)) (hmem x (by simp)) hxy
    simp only [selMany, e1, e12, e2, e21]
  | trans h1 _ ih1 ih2 =>
    intro m hm hacc hnd hmem hlen
    rw [ih1 m hm hacc hnd hmem hlen]
    exact ih2 m hm hacc (h1.nodup_iff.mp hnd) (fun d hd => hmem d (h1.mem_iff.mpr hd)) (by rw [← h1.length_eq]; exact hlen)

/-! ## chained integrals in any order: the same object -/

/-- the shape of a successful chained integral over a non-empty list of directions -/
theorem integrateSeq_form (ds : List String) (hne : ds ≠ []) : ∀ (f g : Fld), integrateSeq f ds = .ok (.field g) →
    ∃ A : NDA (List Rat), g.data = A.force [] ∧ A.shape = g.mesh.n ∧ (∀ i, A.get i = tab f.nvdim fun c => cget A i c) ∧
      g.valid = NDA.const g.mesh.n true ∧ g.vdims = f.vdims ∧ g.vmap = f.vmap ∧ g.unit = none ∧ g.nvdim = f.nvdim := by
  induction ds with
  | nil => exact absurd rfl hne
  | cons d rest ih =>
    intro f g h
    obtain ⟨_, _, _, hr⟩ | ⟨g1, hg1, h⟩ := (integrateSeq_cons_iff f d rest _).mp h
    · cases hr
    · obtain ⟨ax, m', hax, _, hsel, hshape, hg1eq⟩ := (integrate_dir_iff f d g1).mp hg1
      cases rest with
      | nil =>
        cases h
        subst hg1eq
        refine ⟨scaleBy f.nvdim (f.mesh.cellAt ax) (sumAxis f.nvdim f.data ax), rfl, hshape, ?_, rfl, rfl, rfl, rfl, rfl⟩
        intro i
        show (tab f.nvdim fun c => cget (sumAxis f.nvdim f.data ax) i c * f.mesh.cellAt ax) = _
        apply tab_congr
        intro c hc
        rw [cget_scaleBy _ _ _ _ _ hc]
      | cons d2 rest2 =>
        obtain ⟨A, e1, e2, e3, e4, e5, e6, e7, e8⟩ := ih (by simp) g1 g h
        have hnv : g1.nvdim = f.nvdim := by rw [hg1eq]
        have hvd : g1.vdims = f.vdims := by rw [hg1eq]
        have hvm : g1.vmap = f.vmap := by rw [hg1eq]
        exact ⟨A, e1, e2, by rw [← hnv]; exact e3, e4, by rw [e5, hvd], by rw [e6, hvm], e7, by rw [e8, hnv]⟩

theorem fld_ext (a b : Fld) (h1 : a.mesh = b.mesh) (h2 : a.nvdim = b.nvdim) (h3 : a.data = b.data) (h4 : a.valid = b.valid)
    (h5 : a.vdims = b.vdims) (h6 : a.vmap = b.vmap) (h7 : a.unit = b.unit) : a = b := by
  cases a; cases b; simp only at h1 h2 h3 h4 h5 h6 h7
  subst h1; subst h2; subst h3; subst h4; subst h5; subst h6; subst h7; rfl

/-- Fubini at object level: two chained integrals over permutations of the same distinct
directions (fewer than all) return THE SAME FIELD - reduced mesh with names, units, tolerance and
subregions, labels, mapping, unit, validity and the stored values -/
theorem integrateSeq_perm_obj (f : Fld) (hf : WF f) (hacc : SubsAcc f.mesh) (ds ds' : List String) (hp : ds.Perm ds')
    (hnd : ds.Nodup) (hmem : ∀ d ∈ ds, d ∈ f.mesh.region.dims) (hlen : ds.length < f.mesh.ndim) (g g' : Fld)
    (h : integrateSeq f ds = .ok (.field g)) (h' : integrateSeq f ds' = .ok (.field g')) : g' = g := by
  by_cases hne : ds = []
  · subst hne
    have : ds' = [] := hp.nil_eq.symm
    subst this
    cases h
    cases h'
    rfl
  · have hne' : ds' ≠ [] := fun e => hne (by subst e; exact hp.eq_nil)
    obtain ⟨_, _, hsm, _⟩ := chain_start f hf ds g h
    obtain ⟨_, _, hsm', _⟩ := chain_start f hf ds' g' h'
    rw [selMany_perm ds ds' hp f.mesh hf.1 hacc hnd hmem hlen, hsm'] at hsm
    injection hsm with hmesh
    obtain ⟨_, _, _, _, hshape, _, hval⟩ := chain_perm f hf ds ds' hp g g' h h'
    obtain ⟨A, e1, e2, e3, e4, e5, e6, e7, e8⟩ := integrateSeq_form ds hne f g h
    obtain ⟨A', e1', e2', e3', e4', e5', e6', e7', e8'⟩ := integrateSeq_form ds' hne' f g' h'
    apply fld_ext
    · exact hmesh
    · rw [e8, e8']
    · rw [e1, e1']
      apply NDA.force_congr [] (by rw [e2, e2', hmesh])
      intro i hi
      rw [e3 i, e3' i]
      apply tab_congr
      intro c hc
      have hig : inRange g.data.shape i = true := by
        rw [e1]; show inRange A.shape i = true
        rw [e2, ← hmesh, ← e2']; exact hi
      have hv := hval i c hig hc
      rw [e1, e1'] at hv
      rw [cget_force A' i c hi, cget_force A i c (by rw [e2, ← hmesh, ← e2']; exact hi)] at hv
      exact hv
    · rw [e4, e4', hmesh]
    · rw [e5, e5']
    · rw [e6, e6']
    · rw [e7, e7']

end DFV.C06
