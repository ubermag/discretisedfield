import Mathlib.Data.Rat.Floor
import DFV.Lemmas.Tab
/-! `Rat.floor` through its two inequalities (core's `Rat.floor` is Mathlib's `⌊·⌋` by `rfl`), and the model's `absR` as `abs`. -/
namespace DFV

theorem rat_floor_eq (q : Rat) (i : Int) (h1 : (i : Rat) ≤ q) (h2 : q < (i : Rat) + 1) : q.floor = i :=
  Int.floor_eq_iff.mpr ⟨h1, h2⟩

theorem rat_floor_le (q : Rat) : (q.floor : Rat) ≤ q := Rat.floor_le q

theorem rat_lt_floor_add_one (q : Rat) : q < (q.floor : Rat) + 1 := by
  have := Rat.lt_floor_add_one q
  push_cast at this
  exact this

theorem rat_floor_nonneg (q : Rat) (h : 0 ≤ q) : 0 ≤ q.floor := Int.floor_nonneg.mpr h

theorem rat_floor_lt (q : Rat) (k : Int) (h : q < (k : Rat)) : q.floor < k := Int.floor_lt.mpr h

theorem rat_le_floor (q : Rat) (k : Int) (h : (k : Rat) ≤ q) : k ≤ q.floor := Int.le_floor.mpr h

/-! ### `absR` -/

theorem absR_eq_abs (x : Rat) : absR x = |x| := by
  unfold absR
  split
  · rw [abs_of_neg]; assumption
  · rw [abs_of_nonneg]; exact not_lt.mp ‹_›

theorem absR_nonneg (x : Rat) : 0 ≤ absR x := by rw [absR_eq_abs]; exact abs_nonneg x

theorem absR_zero : absR 0 = 0 := by rw [absR_eq_abs, abs_zero]
theorem absR_neg (x : Rat) : absR (-x) = absR x := by rw [absR_eq_abs, absR_eq_abs, abs_neg]
theorem absR_mul (x y : Rat) : absR (x * y) = absR x * absR y := by
  rw [absR_eq_abs, absR_eq_abs, absR_eq_abs, abs_mul]
theorem absR_of_nonneg {x : Rat} (h : 0 ≤ x) : absR x = x := by rw [absR_eq_abs, abs_of_nonneg h]
theorem absR_of_nonpos {x : Rat} (h : x ≤ 0) : absR x = -x := by rw [absR_eq_abs, abs_of_nonpos h]
theorem absR_le_iff {x b : Rat} : absR x ≤ b ↔ -b ≤ x ∧ x ≤ b := by rw [absR_eq_abs, abs_le]

end DFV
