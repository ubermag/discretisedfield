import Std.Data.String.ToNat -- `Nat.repr_inj`, for `prefixed_inj`
import DFV.Lemmas.Tab
/-! The list operations of `Model/Basic.lean` (`setAt`, `removeAt`, `swapAt`, `hasDup`, `indexOf?`) through
`length`, `getD` and membership, and lists compared entry by entry (core Lean and `Std` only).
`setAt` is core's `List.set` and `removeAt` is `List.eraseIdx` (`setAt_eq_set`, `removeAt_eq_eraseIdx`): what
core proves about those holds of the model's functions. -/
namespace DFV

/-! ### entries -/

theorem getD_append_left {α} (a b : List α) (i : Nat) (d : α) (h : i < a.length) :
    (a ++ b).getD i d = a.getD i d := by
  rw [List.getD_eq_getElem?_getD, List.getElem?_append_left h, ← List.getD_eq_getElem?_getD]

theorem getD_append_right {α} (a b : List α) (i : Nat) (d : α) (h : a.length ≤ i) :
    (a ++ b).getD i d = b.getD (i - a.length) d := by
  rw [List.getD_eq_getElem?_getD, List.getElem?_append_right h, ← List.getD_eq_getElem?_getD]

theorem getD_mem {α} (l : List α) (a : Nat) (d : α) (h : a < l.length) : l.getD a d ∈ l := by
  rw [List.getD_eq_getElem?_getD, List.getElem?_eq_getElem h]
  exact List.getElem_mem h

theorem exists_getD_of_mem {α} (l : List α) (c d : α) (h : c ∈ l) : ∃ a, a < l.length ∧ l.getD a d = c := by
  obtain ⟨a, ha, hc⟩ := List.getElem_of_mem h
  exact ⟨a, ha, by rw [List.getD_eq_getElem?_getD, List.getElem?_eq_getElem ha]; simpa using hc⟩

theorem list_eq_of_getD {α} (l1 l2 : List α) (d : α) (hl : l1.length = l2.length)
    (h : ∀ a, a < l1.length → l1.getD a d = l2.getD a d) : l1 = l2 := by
  rw [eq_tab_of_getD l1 l1.length (fun a => l2.getD a d) d rfl h]
  exact (eq_tab_of_getD l2 l1.length (fun a => l2.getD a d) d hl.symm (fun _ _ => rfl)).symm

theorem getD_map {α β} (f : α → β) (l : List α) (a : Nat) (d : α) : (l.map f).getD a (f d) = f (l.getD a d) := by
  rw [List.getD_eq_getElem?_getD, List.getD_eq_getElem?_getD, List.getElem?_map]
  cases l[a]? <;> rfl

theorem getD_range (n a d : Nat) (h : a < n) : (List.range n).getD a d = a := by
  rw [List.getD_eq_getElem?_getD, List.getElem?_range h]; rfl

/-- below the length the two defaults are not read -/
theorem getD_map_lt {α β} (l : List α) (f : α → β) (i : Nat) (d : β) (d' : α) (h : i < l.length) :
    (l.map f).getD i d = f (l.getD i d') := by
  simp [List.getD_eq_getElem?_getD, h]

/-- `getD_map` for a default written as it is (`s * 0 = 0`, `((0 : Nat) : Int) = 0`) -/
theorem getD_map_of_eq {α β} {f : α → β} {d : α} {d' : β} (hd : f d = d') (l : List α) (a : Nat) :
    (l.map f).getD a d' = f (l.getD a d) := hd ▸ getD_map f l a d

theorem map_eq_tab {α β} (l : List α) (g : α → β) (d : α) : l.map g = tab l.length fun a => g (l.getD a d) :=
  eq_tab_of_getD _ _ _ (g d) (List.length_map g) fun a _ => getD_map g l a d

theorem getD_concat_length {α} (l : List α) (x d : α) : (l ++ [x]).getD l.length d = x := by
  simp [List.getD_eq_getElem?_getD]

theorem getD_reverse {α} (l : List α) (i : Nat) (d : α) (h : i < l.length) :
    l.reverse.getD i d = l.getD (l.length - 1 - i) d := by
  rw [List.getD_eq_getElem?_getD, List.getElem?_reverse h, ← List.getD_eq_getElem?_getD]

/-- the two source defaults `dv`, `dw` do not occur on the left: under `rw` they must be given -/
theorem getD_zipWith {α β γ} (f : α → β → γ) (v : List α) (w : List β) (i : Nat) (d : γ) (dv : α) (dw : β)
    (h1 : i < v.length) (h2 : i < w.length) : (List.zipWith f v w).getD i d = f (v.getD i dv) (w.getD i dw) := by
  simp [List.getD_eq_getElem?_getD, List.getElem?_zipWith, h1, h2]

theorem getD_inj_of_nodup {α} (l : List α) (hn : l.Nodup) (d : α) {a b : Nat} (ha : a < l.length) (hb : b < l.length)
    (h : l.getD a d = l.getD b d) : a = b := by
  induction l generalizing a b with
  | nil => simp at ha
  | cons x xs ih =>
    obtain ⟨hx, hxs⟩ := List.nodup_cons.mp hn
    cases a with
    | zero =>
      cases b with
      | zero => rfl
      | succ b =>
        simp only [List.getD_cons_zero, List.getD_cons_succ] at h
        exact absurd (h ▸ getD_mem xs b d (Nat.lt_of_succ_lt_succ hb)) hx
    | succ a =>
      cases b with
      | zero =>
        simp only [List.getD_cons_zero, List.getD_cons_succ] at h
        exact absurd (h ▸ getD_mem xs a d (Nat.lt_of_succ_lt_succ ha)) hx
      | succ b =>
        simp only [List.getD_cons_succ] at h
        exact congrArg Nat.succ (ih hxs (Nat.lt_of_succ_lt_succ ha) (Nat.lt_of_succ_lt_succ hb) h)

/-! ### whole lists -/

theorem list3_eq {α} (l : List α) (d : α) (h : l.length = 3) : l = [l.getD 0 d, l.getD 1 d, l.getD 2 d] := by
  match l, h with
  | [a, b, c], _ => rfl

theorem map_toNat_natCast (n : List Nat) : (n.map fun (k : Nat) => (k : Int)).map Int.toNat = n := by
  simp [List.map_map, Function.comp_def]

theorem map_eq_self_iff {α} (g : α → α) (l : List α) : l.map g = l ↔ ∀ x ∈ l, g x = x := by
  induction l with
  | nil => simp
  | cons y ys ih => simp [ih]

/-! ### `setAt` -/

theorem setAt_eq_set {α} (l : List α) (i : Nat) (x : α) : setAt l i x = l.set i x := by
  induction l generalizing i with
  | nil => rfl
  | cons y ys ih => cases i <;> simp [setAt, ih]

theorem length_setAt {α} (l : List α) (i : Nat) (x : α) : (setAt l i x).length = l.length := by
  rw [setAt_eq_set, List.length_set]

theorem getD_setAt_eq {α} (l : List α) (i : Nat) (x d : α) (h : i < l.length) : (setAt l i x).getD i d = x := by
  rw [setAt_eq_set, List.getD_eq_getElem?_getD, List.getElem?_set_self h, Option.getD_some]

theorem getD_setAt_ne {α} (l : List α) (i k : Nat) (x d : α) (h : k ≠ i) : (setAt l i x).getD k d = l.getD k d := by
  rw [setAt_eq_set, List.getD_eq_getElem?_getD, List.getElem?_set_ne (Ne.symm h), List.getD_eq_getElem?_getD]

theorem setAt_comm {α} (l : List α) (i j : Nat) (x y : α) (h : i ≠ j) :
    setAt (setAt l i x) j y = setAt (setAt l j y) i x := by
  simp only [setAt_eq_set, List.set_comm _ _ h]

theorem setAt_setAt_same {α} (l : List α) (i : Nat) (x y : α) : setAt (setAt l i x) i y = setAt l i y := by
  simp only [setAt_eq_set, List.set_set]

theorem setAt_getD_self {α} (l : List α) (i : Nat) (d : α) : setAt l i (l.getD i d) = l := by
  rw [setAt_eq_set]
  by_cases h : i < l.length
  · rw [List.getD_eq_getElem?_getD, List.getElem?_eq_getElem h, Option.getD_some, List.set_getElem_self]
  · exact List.set_eq_of_length_le (Nat.le_of_not_lt h)

/-- out of range nothing is written -/
theorem getD_setAt {α} (l : List α) (i k : Nat) (x d : α) :
    (setAt l i x).getD k d = if k = i ∧ i < l.length then x else l.getD k d := by
  by_cases h : k = i
  · subst h
    by_cases hk : k < l.length
    · rw [getD_setAt_eq l k x d hk, if_pos ⟨rfl, hk⟩]
    · rw [setAt_eq_set, List.set_eq_of_length_le (Nat.le_of_not_lt hk), if_neg fun h => hk h.2]
  · rw [getD_setAt_ne l i k x d h, if_neg fun h' => h h'.1]

theorem setAt_eq_tab {α} (l : List α) (a : Nat) (x d : α) :
    setAt l a x = tab l.length fun b => if b = a then x else l.getD b d :=
  eq_tab_of_getD _ _ _ d (length_setAt l a x) fun b hb => by
    rw [getD_setAt]
    by_cases h : b = a
    · rw [if_pos ⟨h, h ▸ hb⟩, if_pos h]
    · rw [if_neg fun h' => h h'.1, if_neg h]

theorem mem_setAt {α} (l : List α) (i : Nat) (a x : α) (h : x ∈ setAt l i a) : x = a ∨ x ∈ l := by
  rw [setAt_eq_set] at h
  exact (List.mem_or_eq_of_mem_set h).symm

/-! ### `removeAt` -/

theorem removeAt_eq_eraseIdx {α} (l : List α) (i : Nat) : removeAt l i = l.eraseIdx i := by
  induction l generalizing i with
  | nil => rfl
  | cons y ys ih => cases i <;> simp [removeAt, ih]

theorem removeAt_sublist {α} (l : List α) (i : Nat) : (removeAt l i).Sublist l :=
  removeAt_eq_eraseIdx l i ▸ List.eraseIdx_sublist l i

theorem mem_of_mem_removeAt {α} {l : List α} {i : Nat} {y : α} (h : y ∈ removeAt l i) : y ∈ l :=
  (removeAt_sublist l i).subset h

theorem length_removeAt {α} (l : List α) (i : Nat) (h : i < l.length) : (removeAt l i).length = l.length - 1 := by
  rw [removeAt_eq_eraseIdx, List.length_eraseIdx_of_lt h]

theorem getD_removeAt {α} (l : List α) (i k : Nat) (d : α) :
    (removeAt l i).getD k d = l.getD (if k < i then k else k + 1) d := by
  rw [removeAt_eq_eraseIdx, List.getD_eq_getElem?_getD, List.getElem?_eraseIdx, List.getD_eq_getElem?_getD]
  split <;> rfl

theorem removeAt_eq_tab {α} (l : List α) (i : Nat) (d : α) (h : i < l.length) :
    removeAt l i = tab (l.length - 1) fun a => l.getD (if a < i then a else a + 1) d :=
  eq_tab_of_getD _ _ _ d (length_removeAt l i h) fun a _ => getD_removeAt l i a d

/-- two positions `a`, `b` of `l` removed in either order: `b'` is `b` as seen after removing `a`, `a'` is `a` as seen
after removing `b` -/
theorem removeAt_removeAt {α} (l : List α) (a b a' b' : Nat) (h1 : (if b' < a then b' else b' + 1) = b)
    (h2 : (if a' < b then a' else a' + 1) = a) : removeAt (removeAt l a) b' = removeAt (removeAt l b) a' := by
  induction l generalizing a b a' b' with
  | nil => rfl
  | cons x xs ih =>
    cases a with
    | zero =>
      obtain rfl : b = b' + 1 := by simpa using h1.symm
      obtain rfl : a' = 0 := by split at h2 <;> omega
      rfl
    | succ a0 =>
      cases b with
      | zero =>
        obtain rfl : a' = a0 := by simpa using h2
        obtain rfl : b' = 0 := by split at h1 <;> omega
        rfl
      | succ b0 =>
        cases b' with
        | zero => split at h1 <;> omega
        | succ b0' =>
          cases a' with
          | zero => split at h2 <;> omega
          | succ a0' =>
            simp only [removeAt]
            rw [ih a0 b0 a0' b0' (by split at h1 <;> split <;> omega) (by split at h2 <;> split <;> omega)]

/-! ### insertion at a position, written `l.take a ++ x :: l.drop a` (`insertAt` of `Model/C06`, `Model/C07`)

`removeAt` at the same position undoes it, so its entries are those `getD_removeAt` reads. -/

theorem length_take_cons_drop {α} (l : List α) (a : Nat) (x : α) : (l.take a ++ x :: l.drop a).length = l.length + 1 := by
  simp only [List.length_append, List.length_take, List.length_cons, List.length_drop]; omega

theorem removeAt_take_cons_drop {α} (l : List α) (a : Nat) (x : α) (h : a ≤ l.length) :
    removeAt (l.take a ++ x :: l.drop a) a = l := by
  induction l generalizing a with
  | nil => obtain rfl : a = 0 := by simpa using h
           rfl
  | cons y ys ih =>
    cases a with
    | zero => rfl
    | succ a => simp only [List.take_succ_cons, List.drop_succ_cons, List.cons_append, removeAt, ih a (by simpa using h)]

theorem getD_take_cons_drop_self {α} (l : List α) (a : Nat) (x d : α) (h : a ≤ l.length) :
    (l.take a ++ x :: l.drop a).getD a d = x := by
  rw [List.getD_eq_getElem?_getD, List.getElem?_append_right (by simp [List.length_take]; omega)]
  simp [List.length_take, Nat.min_eq_left h]

theorem getD_take_cons_drop_skip {α} (l : List α) (a b : Nat) (x d : α) (h : a ≤ l.length) :
    (l.take a ++ x :: l.drop a).getD (if b < a then b else b + 1) d = l.getD b d := by
  rw [← getD_removeAt, removeAt_take_cons_drop l a x h]

/-! ### `swapAt` -/

theorem length_swapAt {α} [Inhabited α] (l : List α) (i j : Nat) : (swapAt l i j).length = l.length := by
  simp [swapAt, length_setAt]

theorem getD_swapAt_left {α} [Inhabited α] (l : List α) (i j : Nat) (d : α) (hij : i ≠ j)
    (hi : i < l.length) : (swapAt l i j).getD i d = l.getD j default := by
  unfold swapAt
  rw [getD_setAt_ne _ _ _ _ _ hij, getD_setAt_eq _ _ _ _ hi]

theorem getD_swapAt_right {α} [Inhabited α] (l : List α) (i j : Nat) (d : α) (hj : j < l.length) :
    (swapAt l i j).getD j d = l.getD i default := by
  unfold swapAt
  rw [getD_setAt_eq _ _ _ _ (by rw [length_setAt]; exact hj)]

theorem getD_swapAt_other {α} [Inhabited α] (l : List α) (i j k : Nat) (d : α) (h1 : k ≠ i)
    (h2 : k ≠ j) : (swapAt l i j).getD k d = l.getD k d := by
  unfold swapAt
  rw [getD_setAt_ne _ _ _ _ _ h2, getD_setAt_ne _ _ _ _ _ h1]

theorem swapAt_swapAt {α} [Inhabited α] (l : List α) (i j : Nat) (hij : i ≠ j) (hi : i < l.length) (hj : j < l.length) :
    swapAt (swapAt l i j) i j = l := by
  have hl := length_swapAt l i j
  refine list_eq_of_getD _ _ default (by rw [length_swapAt, hl]) fun a _ => ?_
  by_cases e1 : a = i
  · subst e1
    rw [getD_swapAt_left _ _ _ _ hij (hl ▸ hi), getD_swapAt_right _ _ _ _ hj]
  · by_cases e2 : a = j
    · subst e2
      rw [getD_swapAt_right _ _ _ _ (hl ▸ hj), getD_swapAt_left _ _ _ _ hij hi]
    · rw [getD_swapAt_other _ _ _ _ _ e1 e2, getD_swapAt_other _ _ _ _ _ e1 e2]

/-! ### `hasDup` -/

theorem hasDup_false_iff_nodup (l : List String) : hasDup l = false ↔ l.Nodup := by
  induction l with
  | nil => simp [hasDup]
  | cons x xs ih => simp [hasDup, ih]

theorem hasDup_cons (x : String) (xs : List String) :
    hasDup (x :: xs) = false ↔ x ∉ xs ∧ hasDup xs = false := by
  rw [hasDup_false_iff_nodup, hasDup_false_iff_nodup, List.nodup_cons]

theorem hasDup_removeAt (l : List String) (i : Nat) (h : hasDup l = false) : hasDup (removeAt l i) = false :=
  (hasDup_false_iff_nodup _).mpr (((hasDup_false_iff_nodup l).mp h).sublist (removeAt_sublist l i))

theorem hasDup_map {α} (f : α → String) (l : List α) (hn : l.Nodup) (hf : ∀ a ∈ l, ∀ b ∈ l, f a = f b → a = b) :
    hasDup (l.map f) = false := by
  rw [hasDup_false_iff_nodup, List.Nodup, List.pairwise_map]
  exact (List.Pairwise.and_mem.mp hn).imp fun ⟨ha, hb, hab⟩ e => hab (hf _ ha _ hb e)

theorem hasDup_map_inj (f : String → String) (hf : ∀ a b, f a = f b → a = b) (l : List String) :
    hasDup (l.map f) = hasDup l := by
  induction l with
  | nil => rfl
  | cons x xs ih =>
    simp only [List.map_cons, hasDup, ih]
    congr 1
    rw [Bool.eq_iff_iff]
    simp only [List.contains_eq_mem, decide_eq_true_eq, List.mem_map]
    exact ⟨fun ⟨a, ha, e⟩ => hf a x e ▸ ha, fun h => ⟨x, h, rfl⟩⟩

theorem prefixed_inj (pre : String) (i j : Nat) (h : pre ++ toString i = pre ++ toString j) : i = j :=
  Nat.repr_inj.mp ((String.append_right_inj pre).mp h)

theorem hasDup_numbered (pre : String) (n : Nat) : hasDup ((List.range n).map fun i => pre ++ toString i) = false :=
  hasDup_map _ _ List.nodup_range fun a _ b _ e => prefixed_inj pre a b e

/-! ### `indexOf?` (the first position of a name) and `Region.dim2index` -/

private theorem indexOf?_go_shift (x : String) (xs : List String) (k : Nat) :
    indexOf?.go x xs k = (indexOf?.go x xs 0).map (· + k) := by
  induction xs generalizing k with
  | nil => rfl
  | cons y ys ih =>
    simp only [indexOf?.go]
    split
    · simp
    · rw [ih (k + 1), ih (0 + 1), Option.map_map]
      congr 1; funext a; simp only [Function.comp]; omega

theorem indexOf?_nil (x : String) : indexOf? [] x = none := rfl

theorem indexOf?_cons (y : String) (ys : List String) (x : String) :
    indexOf? (y :: ys) x = if y = x then some 0 else (indexOf? ys x).map (· + 1) := by
  simp only [indexOf?, indexOf?.go]
  rw [indexOf?_go_shift]

theorem indexOf?_eq_some_iff (xs : List String) (x : String) (i : Nat) :
    indexOf? xs x = some i ↔ i < xs.length ∧ xs.getD i "" = x ∧ ∀ t, t < i → xs.getD t "" ≠ x := by
  induction xs generalizing i with
  | nil => simp [indexOf?_nil]
  | cons y ys ih =>
    rw [indexOf?_cons]
    by_cases hy : y = x
    · rw [if_pos hy]
      constructor
      · rintro ⟨⟩; exact ⟨Nat.zero_lt_succ _, hy, fun _ ht => absurd ht (Nat.not_lt_zero _)⟩
      · rintro ⟨-, -, h⟩
        cases i with
        | zero => rfl
        | succ i => exact absurd hy (h 0 (Nat.zero_lt_succ i))
    · rw [if_neg hy]
      cases i with
      | zero => simp [hy]
      | succ i =>
        simp only [Option.map_eq_some_iff, Nat.add_right_cancel_iff, exists_eq_right, ih, List.length_cons,
          Nat.add_lt_add_iff_right, List.getD_cons_succ]
        refine and_congr_right fun _ => and_congr_right fun _ => ⟨fun h t ht => ?_, fun h t ht => h (t + 1) (Nat.succ_lt_succ ht)⟩
        cases t with
        | zero => exact hy
        | succ t => exact h t (Nat.lt_of_succ_lt_succ ht)

theorem indexOf?_eq_none_iff (xs : List String) (x : String) : indexOf? xs x = none ↔ x ∉ xs := by
  induction xs with
  | nil => simp [indexOf?_nil]
  | cons y ys ih =>
    rw [indexOf?_cons]
    by_cases hy : y = x
    · simp [hy]
    · simp [hy, ih, Ne.symm hy]

theorem indexOf?_some (xs : List String) (x : String) (k : Nat) (h : indexOf? xs x = some k) :
    k < xs.length ∧ xs.getD k "" = x :=
  have := (indexOf?_eq_some_iff xs x k).mp h
  ⟨this.1, this.2.1⟩

theorem indexOf?_mem (xs : List String) (x : String) (k : Nat) (h : indexOf? xs x = some k) : x ∈ xs :=
  (indexOf?_some xs x k h).2 ▸ getD_mem xs k "" (indexOf?_some xs x k h).1

theorem exists_indexOf?_of_mem (xs : List String) (x : String) (h : x ∈ xs) : ∃ k, indexOf? xs x = some k :=
  Option.ne_none_iff_exists'.mp fun e => (indexOf?_eq_none_iff xs x).mp e h

theorem indexOf?_getD (xs : List String) (k : Nat) (hk : k < xs.length) (hnd : hasDup xs = false) :
    indexOf? xs (xs.getD k "") = some k :=
  (indexOf?_eq_some_iff xs _ k).mpr ⟨hk, rfl, fun _ ht e =>
    absurd (getD_inj_of_nodup xs ((hasDup_false_iff_nodup xs).mp hnd) "" (Nat.lt_trans ht hk) hk e) (Nat.ne_of_lt ht)⟩

theorem dim2index_eq_ok_iff (r : Region) (d : String) (i : Nat) : r.dim2index d = .ok i ↔ indexOf? r.dims d = some i := by
  unfold Region.dim2index
  cases indexOf? r.dims d <;> simp

theorem dim2index_iff (r : Region) (d : String) (a : Nat) :
    r.dim2index d = .ok a ↔ a < r.dims.length ∧ r.dims.getD a "" = d ∧ ∀ t, t < a → r.dims.getD t "" ≠ d :=
  (dim2index_eq_ok_iff r d a).trans (indexOf?_eq_some_iff r.dims d a)

theorem dim2index_ok (r : Region) (d : String) (a : Nat) (h : r.dim2index d = .ok a) :
    a < r.dims.length ∧ r.dims.getD a "" = d :=
  have := (dim2index_iff r d a).mp h
  ⟨this.1, this.2.1⟩

theorem dim2index_mem (r : Region) (d : String) (a : Nat) (h : r.dim2index d = .ok a) : d ∈ r.dims :=
  indexOf?_mem r.dims d a ((dim2index_eq_ok_iff r d a).mp h)

theorem dim2index_getD (r : Region) (a : Nat) (ha : a < r.dims.length) (hnd : hasDup r.dims = false) :
    r.dim2index (r.dims.getD a "") = .ok a :=
  (dim2index_eq_ok_iff r _ a).mpr (indexOf?_getD r.dims a ha hnd)

theorem dim2index_error_iff (r : Region) (d : String) : (∃ e, r.dim2index d = .error e) ↔ d ∉ r.dims := by
  rw [← indexOf?_eq_none_iff]
  unfold Region.dim2index
  cases indexOf? r.dims d <;> simp

end DFV
