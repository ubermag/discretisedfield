import DFV.Model.C02
import DFV.Lemmas.ListOps
import DFV.Lemmas.C01Tol
/-! C02: lists and multi-indices, NumPy broadcasting, the callable loop, `seqM`; last, one mesh over `Rat`:
the facts of the one-axis library `Lemmas/C01` (`indexAx` as clipped floor of the coordinate in cell units,
`centreAx a i` the coordinate `i + 1/2` cells above the lower face) in the forms this family states its
theorems in, and what `point2index` / `index2point` return on accepted points and in-range indices. -/
namespace DFV.C02
open DFV

variable {V : Type}

/-! ### lists -/

/-- = `List.dropLast_concat` -/
theorem dropLast_snoc {α} (l : List α) (x : α) : (l ++ [x]).dropLast = l := by simp

/-- = `List.getLastD_concat` -/
theorem getLastD_snoc {α} (l : List α) (x d : α) : (l ++ [x]).getLastD d = x := by
  simp [List.getLastD_eq_getLast?]

theorem inRange_snoc_cases (n : List Nat) (nv : Nat) (j : List Nat) (h : inRange (n ++ [nv]) j = true) :
    ∃ i c, j = i ++ [c] ∧ inRange n i = true ∧ c < nv := by
  have hne : j ≠ [] := by
    intro e; have := inRange_length _ _ h; rw [e] at this; simp at this
  rw [← List.dropLast_concat_getLast hne, inRange_snoc, Bool.and_eq_true, decide_eq_true_eq] at h
  exact ⟨_, _, (List.dropLast_concat_getLast hne).symm, h.1, h.2⟩

theorem inRange_snoc_of {n i : List Nat} {nv c : Nat} (hi : inRange n i = true) (hc : c < nv) :
    inRange (n ++ [nv]) (i ++ [c]) = true := by
  rw [inRange_snoc, hi, Bool.true_and, decide_eq_true_eq]; exact hc

theorem mem_indicesCode (ns i : List Nat) : i ∈ indicesCode ns ↔ inRange ns i = true := by
  rw [indicesCode_eq_indicesF]; exact DFV.mem_indicesF_iff ns i

theorem find?_congr {α} (l : List α) (p q : α → Bool) (h : ∀ x ∈ l, p x = q x) : l.find? p = l.find? q := by
  induction l with
  | nil => rfl
  | cons x xs ih =>
    rw [List.find?_cons, List.find?_cons, h x List.mem_cons_self, ih fun y hy => h y (List.mem_cons_of_mem _ hy)]

/-- the pairs the callable loop runs over: every cell index with the cell's centre -/
theorem zip_iter (m : Mesh) : (indicesCode m.n).zip m.iter = (indicesCode m.n).map fun i => (i, m.centre i) := by
  unfold Mesh.iter
  induction indicesCode m.n with
  | nil => rfl
  | cons x xs ih => simp [ih]

theorem forall_mem_zip_iter (m : Mesh) (P : List Nat × List Rat → Prop) :
    (∀ p ∈ (indicesCode m.n).zip m.iter, P p) ↔ ∀ i, inRange m.n i = true → P (i, m.centre i) := by
  rw [zip_iter, List.forall_mem_map]
  exact forall_congr' fun i => by rw [mem_indicesCode]

/-! ### the stored values of one cell -/

theorem row_length (a : NDA V) (nv : Nat) (i : List Nat) : (row a nv i).length = nv := tab_length _ _

theorem row_getD (a : NDA V) (nv : Nat) (i : List Nat) (c : Nat) (d : V) (hc : c < nv) :
    (row a nv i).getD c d = a.get (i ++ [c]) := getD_tab _ _ _ _ hc

/-! ### broadcasting -/

theorem bcastOk_self (t : List Nat) : bcastOk t t = true := by
  simp [bcastOk, allLt]

theorem bcastIdx_self (t j : List Nat) (h : inRange t j = true) : bcastIdx t t j = j := by
  obtain ⟨hl, hj⟩ := (inRange_iff t j).mp h
  unfold bcastIdx
  symm
  apply eq_tab_of_getD j t.length _ 0 hl
  intro a ha
  have := hj a ha
  split
  · omega
  · simp

theorem bcastIdx_vec (n : List Nat) (nv : Nat) (i : List Nat) (c : Nat) (hi : i.length = n.length)
    (hc : c < nv) : bcastIdx (n ++ [nv]) [nv] (i ++ [c]) = [c] := by
  have h1 : (n ++ [nv]).length - 1 + 0 = i.length := by simp [hi]
  unfold bcastIdx
  simp only [tab, List.length_singleton, List.range_one, List.map_cons, List.map_nil, List.getD_cons_zero]
  rw [h1, getD_concat_length]
  split
  · congr 1; omega
  · rfl

theorem bcastOk_vec (n : List Nat) (nv : Nat) : bcastOk (n ++ [nv]) [nv] = true := by
  simp [bcastOk, allLt, List.getD_eq_getElem?_getD]

/-! ### the callable loop -/

section
variable [Inhabited V]

theorem setCell_get (a : NDA V) (idx : List Nat) (vs : List V) (i : List Nat) (c : Nat) :
    (setCell a idx vs).get (i ++ [c]) = if i = idx then vs.getD c default else a.get (i ++ [c]) := by
  simp [setCell, List.getLastD_eq_getLast?]

/-- the callable loop in closed form; the general statement behind the acceptance and the rejection of a callable -/
theorem funcLoop_eq (f : List Rat → List V) (nv : Nat) (l : List (List Nat × List Rat)) (a : NDA V) :
    funcLoop f nv l a =
      if ∀ p ∈ l, (f p.2).length = nv then .ok (l.foldl (fun a p => setCell a p.1 (f p.2)) a) else .error .value := by
  induction l generalizing a with
  | nil => rw [if_pos fun _ h => nomatch h]; rfl
  | cons p rest ih =>
    rw [funcLoop, List.foldl_cons]
    by_cases hp : (f p.2).length = nv
    · rw [if_neg (not_not.mpr hp), ih]
      exact if_congr (by rw [List.forall_mem_cons, and_iff_right hp]) rfl rfl
    · rw [if_pos hp, if_neg fun h => hp (h p List.mem_cons_self)]

theorem foldl_setCell_shape (g : List Nat → List V) (l : List (List Nat)) (a : NDA V) :
    (l.foldl (fun a i => setCell a i (g i)) a).shape = a.shape := by
  induction l generalizing a with
  | nil => rfl
  | cons i rest ih => exact ih _

theorem foldl_setCell_get (g : List Nat → List V) (l : List (List Nat)) (a : NDA V) (i : List Nat) (c : Nat) :
    (l.foldl (fun a i => setCell a i (g i)) a).get (i ++ [c]) =
      if i ∈ l then (g i).getD c default else a.get (i ++ [c]) := by
  induction l generalizing a with
  | nil => rfl
  | cons i0 rest ih =>
    rw [List.foldl_cons, ih, setCell_get]
    by_cases h1 : i ∈ rest
    · rw [if_pos h1, if_pos (List.mem_cons_of_mem _ h1)]
    · by_cases h2 : i = i0
      · rw [if_neg h1, if_pos h2, if_pos (h2 ▸ List.mem_cons_self), h2]
      · rw [if_neg h1, if_neg h2, if_neg (by simp [h1, h2])]

end

/-! ### `seqM` -/

theorem seqM_ok {α} (l : List (M α)) (vs : List α) (h : seqM l = .ok vs) : l = vs.map .ok := by
  induction l generalizing vs with
  | nil => simp [seqM] at h; simp [← h]
  | cons x xs ih =>
    simp only [seqM] at h
    split at h
    · cases h
    · split at h
      · cases h
      · rename_i v _ ws hws
        injection h with h; subst h
        simp [ih ws hws]

theorem seqM_err {α} (l : List (M α)) (e : Err) (h : .error e ∈ l) : ∃ e', seqM l = .error e' := by
  induction l with
  | nil => simp at h
  | cons x xs ih =>
    simp only [seqM]
    cases x with
    | error e1 => exact ⟨e1, rfl⟩
    | ok v =>
      have h' : .error e ∈ xs := by simpa using h
      obtain ⟨e', he⟩ := ih h'
      exact ⟨e', by simp [he]⟩

theorem seqM_map_ok {α β} (l : List α) (g : α → M β) (h : ∀ x ∈ l, ∃ v, g x = .ok v) :
    ∃ vs, seqM (l.map g) = .ok vs := by
  induction l with
  | nil => exact ⟨[], rfl⟩
  | cons x xs ih =>
    obtain ⟨v, hv⟩ := h x (by simp)
    obtain ⟨vs, hvs⟩ := ih fun y hy => h y (by simp [hy])
    exact ⟨v :: vs, by simp [seqM, hv, hvs]⟩

/-! ### one mesh: the index map along an axis; `point2index` and `index2point` on lists -/

section Geom
open DFV.Mesh

/-- = `C01.cellAt_pos` (the documents name it here) -/
theorem cell_pos (m : Mesh) (a : Nat) (hn : 0 < m.nAt a) (hr : m.region.lo a < m.region.hi a) :
    0 < m.cellAt a :=
  C01.cellAt_pos m a hn hr

/-! ### `indexAx` -/

theorem indexAx_of_units (m : Mesh) (a : Nat) (q : Rat) (k : Nat) (hk : k < m.nAt a)
    (hr : m.region.lo a < m.region.hi a) (h1 : (k : Rat) ≤ q) (h2 : q < (k : Rat) + 1) :
    m.indexAx a (m.region.lo a + q * m.cellAt a) = k :=
  have hc := C01.cellAt_pos m a (by omega) hr
  (C01.indexAx_eq_iff m a hc hk _).mpr ⟨Or.inr ((C01.face_le hc _ _).mpr h1), Or.inr ((C01.face_lt hc _ _).mpr h2)⟩

/-- the cell a coordinate of the closed edge is mapped to contains it -/
theorem indexAx_contains (m : Mesh) (a : Nat) (x : Rat) (hn : 0 < m.nAt a)
    (hr : m.region.lo a < m.region.hi a) (hlo : m.region.lo a ≤ x) (hhi : x ≤ m.region.hi a) :
    m.indexAx a x < m.nAt a ∧
    m.region.lo a + (m.indexAx a x : Rat) * m.cellAt a ≤ x ∧
    (x < m.region.lo a + ((m.indexAx a x : Rat) + 1) * m.cellAt a ∨
      (m.indexAx a x = m.nAt a - 1 ∧ x = m.region.hi a)) := by
  have hc := C01.cellAt_pos m a hn hr
  obtain ⟨h0, h1, h2⟩ := C01.indexAx_facts m a hn hr x hlo hhi
  refine ⟨h0, (C01.le_quot_iff m a hc _ x).mp h1, hhi.lt_or_eq.imp (fun hlt => ?_) fun e => ⟨?_, e⟩⟩
  · rcases h2 with h2 | h2
    · exact (C01.quot_lt_iff m a hc _ x).mp h2
    · -- the last cell ends at the upper face
      rw [h2, Nat.cast_pred hn, sub_add_cancel, ← C01.hi_eq m a hn]; exact hlt
  · exact C01.indexAx_of_ge m a x hn hr e.ge

/-- the cell a coordinate of the half-open edge is mapped to contains it -/
theorem indexAx_bounds (m : Mesh) (a : Nat) (x : Rat) (hn : 0 < m.nAt a)
    (hr : m.region.lo a < m.region.hi a) (hlo : m.region.lo a ≤ x) (hhi : x < m.region.hi a) :
    m.indexAx a x < m.nAt a ∧
    m.region.lo a + (m.indexAx a x : Rat) * m.cellAt a ≤ x ∧
    x < m.region.lo a + ((m.indexAx a x : Rat) + 1) * m.cellAt a :=
  have h := indexAx_contains m a x hn hr hlo hhi.le
  ⟨h.1, h.2.1, h.2.2.resolve_right fun e => hhi.ne e.2⟩

/-! ### `point2index` and `index2point` -/

theorem containsPt_length (r : Region) (p : List Rat) (h : r.containsPt p = true) : p.length = r.ndim :=
  of_decide_eq_true (Bool.and_eq_true_iff.mp h).1

theorem point2index_of_contains (m : Mesh) (p : List Rat) (hc : m.region.containsPt p = true) :
    m.point2index p = .ok (tab m.ndim fun a => m.indexAx a (p.getD a 0)) :=
  (C01.point2index_ok_iff_containsPt m p _).mpr ⟨containsPt_length _ p hc, hc, rfl⟩

/-- `mesh.index2point(idx)` of an in-range index is the cell centre (`C01.index2point_ofNat` without the rest of
the mesh invariant) -/
theorem index2point_nat (m : Mesh) (hlen : m.n.length = m.ndim) (i : List Nat) (hi : inRange m.n i = true) :
    m.index2point (i.map Int.ofNat) = .ok (m.centre i) := by
  obtain ⟨hil, hib⟩ := (inRange_iff m.n i).mp hi
  exact (C01.index2point_ok_iff' m _ _).mpr ⟨by rw [List.length_map, hil, hlen],
    fun a ha => by
      rw [C01.getD_map_ofNat]
      exact ⟨Int.natCast_nonneg _, by exact_mod_cast hib a (hlen ▸ ha)⟩,
    tab_congr _ _ _ fun a _ => by rw [C01.getD_map_ofNat]⟩

end Geom

end DFV.C02
