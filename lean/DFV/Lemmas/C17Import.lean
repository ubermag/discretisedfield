import DFV.Lemmas.C17Spacing
import DFV.Lemmas.C17Ctor
/-! `from_xarray` step by step: each step of the importer as an equivalence on its inputs with its
refusal classes, their composition (which DataArrays the geometry steps accept and which mesh
results, through the acceptance theorems of `Region(…)` and `Mesh(region, cell)` of C01), what every
accepted DataArray yields (a well-formed mesh, its values), and what is refused. -/
namespace DFV.C17
open DFV

section
variable {α : Type}

/-! ## cell sizes -/

/-- the cell sizes the importer works with: the attribute, else the mean step of every
geometric coordinate -/
def cellUsed (xa : XA α) : List Rat :=
  match xa.attrs.cell with
  | some c => c
  | none => (geo xa).map fun a => meanDiff a.values

/-- what inferring the cell sizes needs: no length-1 entry among `xa.values.shape[:-1]` and at
least two values on every geometric coordinate -/
def InferOk (xa : XA α) : Prop :=
  xa.attrs.cell = none → (∀ x ∈ xa.data.shape.dropLast, x ≠ 1) ∧ ∀ ax ∈ geo xa, 2 ≤ ax.values.length

/-- `cellOf` with its two tests as propositions -/
theorem cellOf_eq (xa : XA α) :
    cellOf xa = match xa.attrs.cell with
      | some c => .ok c
      | none =>
        if 1 ∈ xa.data.shape.dropLast then .error .key
        else if ∃ ax ∈ geo xa, ax.values.length ≤ 1 then .error .value
        else .ok ((geo xa).map fun a => meanDiff a.values) := by
  unfold cellOf
  cases xa.attrs.cell with
  | some c => rfl
  | none => simp only [List.any_beq', List.contains_iff_mem, List.any_eq_true, decide_eq_true_eq]

theorem cellOf_eq_ok_iff (xa : XA α) (c : List Rat) : cellOf xa = .ok c ↔ InferOk xa ∧ c = cellUsed xa := by
  rw [cellOf_eq]
  unfold InferOk cellUsed
  cases xa.attrs.cell with
  | some c0 => simp only [reduceCtorEq, false_imp_iff, true_and, Except.ok.injEq]; exact eq_comm
  | none =>
    simp only [true_imp_iff]
    split_ifs with h1 h2
    · exact ⟨fun h => (nomatch h), fun h => absurd rfl (h.1.1 1 h1)⟩
    · obtain ⟨ax, hax, hl⟩ := h2
      exact ⟨fun h => (nomatch h), fun h => absurd (h.1.2 ax hax) (by omega)⟩
    · rw [Except.ok.injEq, eq_comm]
      exact ⟨fun h => ⟨⟨fun x hx hx1 => h1 (hx1 ▸ hx), fun ax hax => by
        by_contra hlt; exact h2 ⟨ax, hax, by omega⟩⟩, h⟩, fun h => h.2⟩

/-- the two refusal classes of the cell inference: `KeyError` iff `cell` is absent and
`xa.values.shape[:-1]` contains a 1; `ValueError` (the NaN cell size `Mesh` refuses) iff `cell` is
absent, no such 1, and some geometric coordinate has fewer than two values -/
theorem cellOf_err_iff (xa : XA α) :
    (cellOf xa = .error .key ↔ xa.attrs.cell = none ∧ 1 ∈ xa.data.shape.dropLast) ∧
    (cellOf xa = .error .value ↔ xa.attrs.cell = none ∧ ¬ 1 ∈ xa.data.shape.dropLast ∧
      ∃ ax ∈ geo xa, ax.values.length ≤ 1) := by
  rw [cellOf_eq]
  cases xa.attrs.cell with
  | some c0 => exact ⟨⟨fun h => (nomatch h), fun h => (nomatch h.1)⟩, ⟨fun h => (nomatch h), fun h => (nomatch h.1)⟩⟩
  | none =>
    simp only [true_and]
    split_ifs with h1 h2
    · exact ⟨⟨fun _ => h1, fun _ => rfl⟩, ⟨fun h => (nomatch h), fun h => absurd h1 h.1⟩⟩
    · exact ⟨⟨fun h => (nomatch h), fun h => absurd h h1⟩, ⟨fun _ => ⟨h1, h2⟩, fun _ => rfl⟩⟩
    · exact ⟨⟨fun h => (nomatch h), fun h => absurd h h1⟩, ⟨fun h => (nomatch h), fun h => absurd h.2 h2⟩⟩
/-! ## corners -/

/-- the lower corner the importer passes to `Region`: the attribute, else first coordinate minus
half a cell -/
def p1Used (xa : XA α) : List Rat :=
  match xa.attrs.pmin with
  | some p => p
  | none => List.zipWith (fun a c => a.values.getD 0 0 - c / 2) (geo xa) (cellUsed xa)

/-- the upper corner: the attribute, else last coordinate plus half a cell -/
def p2Used (xa : XA α) : List Rat :=
  match xa.attrs.pmax with
  | some p => p
  | none => List.zipWith (fun a c => a.values.getD (a.values.length - 1) 0 + c / 2) (geo xa) (cellUsed xa)

/-- what inferring a corner needs: every geometric coordinate that is paired with a cell size
has at least one value -/
def CornerOk (att : Option (List Rat)) (xa : XA α) : Prop :=
  att = none → ∀ p ∈ List.zip (geo xa) (cellUsed xa), p.1.values ≠ []

theorem any_isEmpty_iff (l : List (Axis × Rat)) :
    l.any (fun p => p.1.values.isEmpty) = false ↔ ∀ p ∈ l, p.1.values ≠ [] := by
  rw [List.any_eq_false]
  constructor
  · intro h p hp he; have := h p hp; simp [he] at this
  · intro h p hp; have := h p hp; simpa using this

/-- taking or inferring a corner (`w` is what the inference computes) -/
theorem corner_eq_ok_iff (att : Option (List Rat)) (z : List (Axis × Rat)) (w p : List Rat) :
    (match att with
      | some p => (.ok p : M (List Rat))
      | none => if z.any (fun p => p.1.values.isEmpty) then .error .index else .ok w) = .ok p ↔
    (att = none → ∀ q ∈ z, q.1.values ≠ []) ∧ p = (match att with | some p => p | none => w) := by
  cases att with
  | some p0 => simp only [reduceCtorEq, false_imp_iff, true_and, Except.ok.injEq]; exact eq_comm
  | none =>
    simp only [true_imp_iff]
    cases ha : z.any (fun p => p.1.values.isEmpty) with
    | true =>
      simp only [if_true, reduceCtorEq, false_iff, not_and]
      intro h
      have := (any_isEmpty_iff _).mpr h
      rw [ha] at this; cases this
    | false =>
      simp only [Bool.false_eq_true, if_false, Except.ok.injEq]
      exact ⟨fun h => ⟨(any_isEmpty_iff _).mp ha, h.symm⟩, fun h => h.2.symm⟩

theorem p1Of_eq_ok_iff (xa : XA α) (p : List Rat) :
    p1Of xa (cellUsed xa) = .ok p ↔ CornerOk xa.attrs.pmin xa ∧ p = p1Used xa :=
  corner_eq_ok_iff _ _ _ p

theorem p2Of_eq_ok_iff (xa : XA α) (p : List Rat) :
    p2Of xa (cellUsed xa) = .ok p ↔ CornerOk xa.attrs.pmax xa ∧ p = p2Used xa :=
  corner_eq_ok_iff _ _ _ p

/-- … and fails only with `IndexError`, when a paired coordinate has no value (a dimension of size 0) -/
theorem corner_err (att : Option (List Rat)) (z : List (Axis × Rat)) (w : List Rat) (e : Err)
    (h : (match att with
      | some p => (.ok p : M (List Rat))
      | none => if z.any (fun p => p.1.values.isEmpty) then .error .index else .ok w) = .error e) : e = .index := by
  cases att with
  | some p0 => cases h
  | none =>
    cases ha : z.any (fun p => p.1.values.isEmpty) with
    | true => simp only [ha, if_true] at h; injection h with h; exact h.symm
    | false => simp only [ha] at h; cases h

theorem p1Of_err (xa : XA α) (e : Err) (h : p1Of xa (cellUsed xa) = .error e) : e = .index :=
  corner_err _ _ _ e h

/-! ## units, region -/

/-- the units the region gets: the coordinates' if EVERY geometric coordinate has them, else the
default `m` on every axis -/
def unitsUsed (xa : XA α) : List String :=
  if (geo xa).any (fun a => a.units.isNone) then List.replicate (geo xa).length "m"
  else (geo xa).map fun a => a.units.getD ""

theorem unitsUsed_of_all (xa : XA α) (h : ∀ ax ∈ geo xa, ax.units ≠ none) :
    unitsUsed xa = (geo xa).map fun a => a.units.getD "" := by
  unfold unitsUsed
  refine if_neg fun hc => ?_
  obtain ⟨ax, hax, hn⟩ := List.any_eq_true.mp hc
  exact h ax hax (Option.isNone_iff_eq_none.mp hn)

theorem unitsUsed_of_none (xa : XA α) (h : ∃ ax ∈ geo xa, ax.units = none) :
    unitsUsed xa = List.replicate (geo xa).length "m" := by
  obtain ⟨ax, hax, hu⟩ := h
  unfold unitsUsed
  exact if_pos (List.any_eq_true.mpr ⟨ax, hax, by rw [hu]; rfl⟩)

theorem unitsOk_unitsOf (xa : XA α) (n : Nat) (hn : (geo xa).length = n) :
    Region.unitsOk n (unitsOf xa) = .ok (unitsUsed xa) := by
  unfold unitsOf unitsUsed
  split
  · rw [hn]; rfl
  · unfold Region.unitsOk
    simp [hn]

/-- the region the importer builds before the tolerance factor is assigned -/
def regionUsed (xa : XA α) : Region :=
  { pmin := tab (p1Used xa).length fun a => min ((p1Used xa).getD a 0) ((p2Used xa).getD a 0),
    pmax := tab (p1Used xa).length fun a => max ((p1Used xa).getD a 0) ((p2Used xa).getD a 0),
    dims := (geo xa).map Axis.name, units := unitsUsed xa, tol := defaultTol }

/-! ## the geometry steps -/

theorem geometryOf_eq_ok_iff (xa : XA α) (m : Mesh) :
    geometryOf xa = .ok m ↔
      (∀ ax ∈ geo xa, EvenSpec ax.values) ∧ InferOk xa ∧ CornerOk xa.attrs.pmin xa ∧ CornerOk xa.attrs.pmax xa ∧
      ∃ r m0, Region.mk? (p1Used xa) (p2Used xa) (some ((geo xa).map Axis.name)) (unitsOf xa) defaultTol = .ok r ∧
        Mesh.mkCell? r (cellUsed xa) "" = .ok m0 ∧ m = setTol m0 xa.attrs.tol := by
  unfold geometryOf meshOf
  simp only [bind_ok_iff', cellOf_eq_ok_iff, mkCellNow_eq, Except.ok.injEq]
  constructor
  · rintro ⟨⟨⟩, h1, cell, ⟨hinf, rfl⟩, p1, h4, p2, h5, r, h6, m0, h7, rfl⟩
    obtain ⟨hc1, rfl⟩ := (p1Of_eq_ok_iff xa p1).mp h4
    obtain ⟨hc2, rfl⟩ := (p2Of_eq_ok_iff xa p2).mp h5
    exact ⟨(checkSpacing_iff xa).mp h1, hinf, hc1, hc2, r, m0, h6, h7, rfl⟩
  · rintro ⟨hs, hinf, hc1, hc2, r, m0, h6, h7, rfl⟩
    exact ⟨(), (checkSpacing_iff xa).mpr hs, _, ⟨hinf, rfl⟩, _, (p1Of_eq_ok_iff xa _).mpr ⟨hc1, rfl⟩, _,
      (p2Of_eq_ok_iff xa _).mpr ⟨hc2, rfl⟩, r, h6, m0, h7, rfl⟩

theorem setTol_eq (m : Mesh) (t : Option Rat) :
    setTol m t = { m with region := { m.region with tol := t.getD m.region.tol } } := by
  cases t <;> rfl

theorem setTol_n (m : Mesh) (t : Option Rat) : (setTol m t).n = m.n := by rw [setTol_eq]

theorem defaultTol_nonneg : (0 : Rat) ≤ defaultTol := by unfold defaultTol; norm_num

theorem regionUsed_ndim (xa : XA α) : (regionUsed xa).ndim = (p1Used xa).length := by
  unfold regionUsed Region.ndim
  simp only [tab_length]

theorem regionMk_used (xa : XA α) (r : Region)
    (h : Region.mk? (p1Used xa) (p2Used xa) (some ((geo xa).map Axis.name)) (unitsOf xa) defaultTol = .ok r) :
    r = regionUsed xa ∧ (geo xa).length = (p1Used xa).length := by
  have hd := ((C01.region_mk_ok_iff _ _ _ _ _).mp ⟨r, h⟩).2.2.1 _ rfl
  have hlen : (geo xa).length = (p1Used xa).length := by rw [← hd.1, List.length_map]
  obtain ⟨u, hu, hr⟩ := regionMk_eq _ _ _ _ _ _ h
  rw [unitsOk_unitsOf xa _ hlen] at hu
  injection hu with hu
  refine ⟨?_, hlen⟩
  rw [hr, ← hu]
  rfl

/-- the geometry steps from the inputs alone: acceptance and result (spelled out at `import_geometry_ok_iff`
in Props/C17) -/
theorem geometryOf_eq_ok_iff_inputs (xa : XA α) (m : Mesh) :
    geometryOf xa = .ok m ↔
      (∀ ax ∈ geo xa, EvenSpec ax.values) ∧ InferOk xa ∧ CornerOk xa.attrs.pmin xa ∧ CornerOk xa.attrs.pmax xa ∧
      ((p1Used xa).length = (p2Used xa).length ∧ (p1Used xa).length ≠ 0 ∧ (geo xa).length = (p1Used xa).length ∧
        hasDup ((geo xa).map Axis.name) = false ∧
        ∀ a, a < (p1Used xa).length → (p1Used xa).getD a 0 ≠ (p2Used xa).getD a 0) ∧
      ((cellUsed xa).length = (p1Used xa).length ∧ (∀ c ∈ cellUsed xa, 0 < c) ∧
        ∀ a, a < (p1Used xa).length → (cellUsed xa).getD a 0 - (regionUsed xa).edge a
          ≤ C01.band (regionUsed xa) ((regionUsed xa).lo a + (cellUsed xa).getD a 0)) ∧
      m.region = { regionUsed xa with tol := xa.attrs.tol.getD defaultTol } ∧ m.bc = "" ∧ m.subs = [] ∧
      m.n.length = (p1Used xa).length ∧
      ∀ a, a < (p1Used xa).length → 1 ≤ m.nAt a ∧
        |(regionUsed xa).edge a - (m.nAt a : Rat) * (cellUsed xa).getD a 0| ≤ listMin (cellUsed xa) / 1000 := by
  rw [geometryOf_eq_ok_iff]
  have hbc := C01.bcOk_empty_lower ((geo xa).map Axis.name)
  constructor
  · -- C01's acceptance theorems of `Region(…)` (`a…`) and `Mesh(region, cell)` (`b…`, `c…`), read at `regionUsed`
    rintro ⟨hs, hinf, hc1, hc2, r, m0, h6, h7, rfl⟩
    obtain ⟨a1, a2, a3, -, a5⟩ := (C01.region_mk_ok_iff _ _ _ _ _).mp ⟨r, h6⟩
    obtain ⟨hr, hlen⟩ := regionMk_used xa r h6
    have hinv := (C01.region_mk_normalises _ _ _ _ _ r h6).1
    subst hr
    have ht : 0 ≤ (regionUsed xa).tol := defaultTol_nonneg
    obtain ⟨⟨b1, b2, b3, -⟩, c1, c2, c3, c4, c5⟩ := (C01.by_cell_ok_iff _ hinv ht _ _ _).mp h7
    rw [regionUsed_ndim] at b1 b3 c4 c5
    refine ⟨hs, hinf, hc1, hc2, ⟨a1, a2, hlen, (a3 _ rfl).2, a5⟩, ⟨b1, b2, b3⟩, ?_, ?_, ?_,
      by rw [setTol_n]; exact c4, by unfold Mesh.nAt; rw [setTol_n]; exact c5⟩
    -- `setTol` replaces `region.tol` and nothing else
    · rw [setTol_eq]; show ({ m0.region with tol := _ } : Region) = _; rw [c1]; rfl
    · rw [setTol_eq]; exact c2.trans C01.toLower_empty
    · rw [setTol_eq]; exact c3
  · -- the same two theorems backwards; `m` is rebuilt from its fields `c1 … c3` and its counts
    rintro ⟨hs, hinf, hc1, hc2, ⟨a1, a2, hlen, a4, a5⟩, ⟨b1, b2, b3⟩, c1, c2, c3, c4, c5⟩
    have hex : ∃ r, Region.mk? (p1Used xa) (p2Used xa) (some ((geo xa).map Axis.name)) (unitsOf xa) defaultTol = .ok r := by
      rw [C01.region_mk_ok_iff]
      refine ⟨a1, a2, ?_, ?_, a5⟩
      · intro d hd
        injection hd with hd
        rw [← hd, List.length_map]
        exact ⟨hlen, a4⟩
      · exact (C01.unitsOk_iff _ _).mp ⟨_, unitsOk_unitsOf xa _ hlen⟩
    obtain ⟨r, h6⟩ := hex
    obtain ⟨hr, -⟩ := regionMk_used xa r h6
    have hinv := (C01.region_mk_normalises _ _ _ _ _ r h6).1
    subst hr
    have ht : 0 ≤ (regionUsed xa).tol := defaultTol_nonneg
    refine ⟨hs, hinf, hc1, hc2, regionUsed xa, { region := regionUsed xa, n := m.n, bc := "", subs := [] }, h6, ?_, ?_⟩
    · rw [C01.by_cell_ok_iff _ hinv ht]
      rw [regionUsed_ndim]
      exact ⟨⟨b1, b2, b3, hbc⟩, rfl, C01.toLower_empty.symm, rfl, c4, c5⟩
    · cases m with
      | mk reg n bc subs =>
        simp only at c1 c2 c3
        subst c1 c2 c3
        rw [setTol_eq]
        rfl

theorem geometryOf_inv (xa : XA α) (m : Mesh) (h : geometryOf xa = .ok m) :
    m.Inv ∧ m.region.dims = (geo xa).map Axis.name ∧ m.bc = "" ∧ m.subs = [] := by
  obtain ⟨-, -, -, -, r, m0, h6, h7, rfl⟩ := (geometryOf_eq_ok_iff xa m).mp h
  obtain ⟨hr, hd⟩ := regionMk_inv _ _ _ _ _ _ h6
  rw [← mkCellNow_eq] at h7
  obtain ⟨hm0, e1, e2, e3⟩ := mkCellNow_inv r hr _ _ h7
  rw [setTol_eq]
  exact ⟨hm0, by rw [← hd, ← e1], e2, e3⟩

theorem geo_names_novd (xa : XA α) : ¬ "vdims" ∈ (geo xa).map Axis.name := by
  intro h
  obtain ⟨ax, hax, hn⟩ := List.mem_map.mp h
  have := (List.mem_filter.mp hax).2
  simp [hn] at this

end

/-! ## the importer as a whole -/

section
variable [FieldAttrs] {α : Type}

theorem fromXA_eq (xa : XA α) :
    fromXA xa = (checkNvdim xa.attrs.nvdim xa.dims).bind fun k => (geometryOf xa).bind fun m => fieldOf xa m k := by
  unfold fromXA geometryOf
  cases checkNvdim xa.attrs.nvdim xa.dims with
  | error e => rfl
  | ok k =>
    cases checkSpacing xa with
    | error e => rfl
    | ok u =>
      cases cellOf xa with
      | error e => rfl
      | ok cell =>
        cases meshOf xa cell <;> rfl

theorem fromXA_eq_ok_iff (xa : XA α) (g : XFld α) :
    fromXA xa = .ok g ↔
      ∃ k m, checkNvdim xa.attrs.nvdim xa.dims = .ok k ∧ geometryOf xa = .ok m ∧ fieldOf xa m k = .ok g := by
  rw [fromXA_eq]
  simp only [bind_ok_iff']
  exact ⟨fun ⟨k, h1, m, h2, h3⟩ => ⟨k, m, h1, h2, h3⟩, fun ⟨k, m, h1, h2, h3⟩ => ⟨k, h1, m, h2, h3⟩⟩

/-! ## refusals -/

theorem fromXA_of_checkNvdim_error (xa : XA α) (e : Err) (h : checkNvdim xa.attrs.nvdim xa.dims = .error e) :
    fromXA xa = .error e := by
  rw [fromXA_eq, h]; rfl

theorem fromXA_vector_no_vdims (xa : XA α) (k : Int) (h : xa.attrs.nvdim = some (.int k)) (hk : 1 < k)
    (hd : ¬ "vdims" ∈ xa.dims) : fromXA xa = .error .value :=
  fromXA_of_checkNvdim_error xa _ ((checkNvdim_err_iff _ _).2.2.mpr (Or.inr ⟨k, h, Or.inr ⟨hk, hd⟩⟩))

theorem fromXA_of_geometry_error (xa : XA α) (h : ∃ e, geometryOf xa = .error e) : ∃ e, fromXA xa = .error e := by
  obtain ⟨e, he⟩ := h
  refine err_of_not_ok _ fun g hg => ?_
  obtain ⟨k, m, -, h2, -⟩ := (fromXA_eq_ok_iff xa g).mp hg
  rw [he] at h2
  cases h2

theorem fromXA_uneven (xa : XA α) (ax : Axis) (hax : ax ∈ geo xa) (hev : evenB ax.values = false) :
    ∃ e, fromXA xa = .error e := by
  refine fromXA_of_geometry_error xa (err_of_not_ok _ fun m hm => ?_)
  have := (evenB_iff_spec _).mpr (((geometryOf_eq_ok_iff xa m).mp hm).1 ax hax)
  rw [hev] at this
  cases this

theorem fromXA_single_no_cell (xa : XA α) (hc : xa.attrs.cell = none) (ax : Axis) (hax : ax ∈ geo xa)
    (hl : ax.values.length ≤ 1) : ∃ e, fromXA xa = .error e := by
  refine fromXA_of_geometry_error xa (err_of_not_ok _ fun m hm => ?_)
  have := ((geometryOf_eq_ok_iff xa m).mp hm).2.1 hc |>.2 ax hax
  omega

end

/-! ## with complete attributes the coordinate values are only spacing-tested -/

section
variable {α : Type}

/-- replace the values of every assigned dimension coordinate (names, sizes, units stay):
`Axis.mapVals fun nm _ => vals nm` on every axis (`geo_setCoordVals`) -/
def setCoordVals (vals : String → List Rat) (xa : XA α) : XA α :=
  { xa with axes := xa.axes.map fun ax =>
      { ax with coord := ax.coord.map fun c => { c with vals := vals ax.name } } }

theorem geo_setCoordVals (vals : String → List Rat) (xa : XA α) :
    geo (setCoordVals vals xa) = (geo xa).map (Axis.mapVals fun nm _ => vals nm) :=
  geo_mapAxes (Axis.mapVals fun nm _ => vals nm) (fun _ => rfl) xa

theorem mapVals_units (φ : String → List Rat → List Rat) (ax : Axis) : (ax.mapVals φ).units = ax.units := by
  unfold Axis.mapVals Axis.units
  cases ax.coord <;> rfl

/-- with both corners given, `meshOf` reads only the names and units of the axes -/
theorem meshOf_setCoordVals (vals : String → List Rat) (xa : XA α) (cell p q : List Rat)
    (hp : xa.attrs.pmin = some p) (hq : xa.attrs.pmax = some q) :
    meshOf (setCoordVals vals xa) cell = meshOf xa cell := by
  have hp' : (setCoordVals vals xa).attrs.pmin = some p := hp
  have hq' : (setCoordVals vals xa).attrs.pmax = some q := hq
  have hn : (geo (setCoordVals vals xa)).map Axis.name = (geo xa).map Axis.name := by
    rw [geo_setCoordVals, List.map_map]
    rfl
  have hu : unitsOf (setCoordVals vals xa) = unitsOf xa := by
    unfold unitsOf
    rw [geo_setCoordVals, List.any_map, List.map_map]
    simp only [Function.comp_def, mapVals_units]
  unfold meshOf p1Of p2Of
  rw [hp', hq', hp, hq, hn, hu]
  rfl

end
end DFV.C17
