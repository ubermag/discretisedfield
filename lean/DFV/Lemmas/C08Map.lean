import DFV.Lemmas.C08Basic
import DFV.Lemmas.Rot
import DFV.Lemmas.C07Resample
/-! The index maps of `sel`, `__getitem__`, `pad`, `resample`, `rotate90` read inside the source
array (the nearest-entry search is the C07 model's, the quarter turn the shared rotation model's); NumPy's `rot90`
(flips + axis swap) is the pointwise map `rotSrc`; the array call of every mapping operation is the gather through
its index map. -/
namespace DFV.C08
open DFV

/-! ## when a mapping operation is applicable: `MapOp.ok` read as a proposition, constructor by constructor -/

section
variable {s : List Nat}

theorem take_ok {ax k : Nat} : (MapOp.take ax k).ok s = true ↔ ax < s.length ∧ k < s.getD ax 0 ∧ 1 < s.length := by
  simp only [MapOp.ok, Bool.and_eq_true, decide_eq_true_eq, and_assoc]

theorem slice_ok {ax lo hi : Nat} : (MapOp.slice ax lo hi).ok s = true ↔ ax < s.length ∧ lo < hi ∧ hi ≤ s.getD ax 0 := by
  simp only [MapOp.ok, Bool.and_eq_true, decide_eq_true_eq, and_assoc]

theorem crop_ok {lo hi : List Nat} : (MapOp.crop lo hi).ok s = true ↔ lo.length = s.length ∧ hi.length = s.length ∧
    ∀ b, b < s.length → lo.getD b 0 < hi.getD b 0 ∧ hi.getD b 0 ≤ s.getD b 0 := by
  simp only [MapOp.ok, Bool.and_eq_true, decide_eq_true_eq, allLt_iff, and_assoc]

theorem pad_ok {mode : PadMode} {w : List (Nat × Nat)} :
    (MapOp.pad mode w).ok s = true ↔ w.length = s.length ∧ ∀ b, b < s.length → 0 < s.getD b 0 := by
  simp only [MapOp.ok, Bool.and_eq_true, decide_eq_true_eq, allLt_iff]

theorem resample_ok {n : List Nat} : (MapOp.resample n).ok s = true ↔ n.length = s.length ∧
    ∀ b, b < s.length → 0 < n.getD b 0 ∧ 0 < s.getD b 0 := by
  simp only [MapOp.ok, Bool.and_eq_true, decide_eq_true_eq, allLt_iff]

theorem rot_ok {a b : Nat} {k : Int} : (MapOp.rot a b k).ok s = true ↔ a < s.length ∧ b < s.length ∧ a ≠ b := by
  simp only [MapOp.ok, Bool.and_eq_true, decide_eq_true_eq, and_assoc]

end

/-! ## padding -/

/-- `(lo + d − lo) mod P` the way `padSrc` computes it without leaving ℕ -/
theorem shift_mod (P lo d : Nat) (hP : 0 < P) : (lo + d + lo * (P - 1)) % P = d % P := by
  obtain ⟨m, rfl⟩ : ∃ m, P = m + 1 := ⟨P - 1, (Nat.sub_add_cancel hP).symm⟩
  rw [Nat.add_sub_cancel, show lo + d + lo * m = d + lo * (m + 1) by rw [Nat.mul_succ]; omega,
    Nat.add_mul_mod_self_right]

theorem padSrc_lt (mode : PadMode) (n lo j t : Nat) (hn : 0 < n) (h : padSrc mode n lo j = some t) :
    t < n := by
  -- a remainder folded back at `n` stays below `n`
  have fold : ∀ c r, c < 2 * n → (if r < n then r else c - r) < n := by
    intro c r hc; split <;> omega
  cases mode with
  | constant =>
    simp only [padSrc] at h
    split at h
    · rename_i hin; cases h; exact Nat.sub_lt_left_of_lt_add hin.1 hin.2
    · cases h
  | edge =>
    cases h
    split
    · exact hn
    · rename_i h1
      split
      · rename_i h2; exact Nat.sub_lt_left_of_lt_add (Nat.le_of_not_lt h1) h2
      · exact Nat.sub_lt hn Nat.one_pos
  | wrap => cases h; exact Nat.mod_lt _ hn
  | symmetric => cases h; exact fold _ _ (Nat.sub_lt (Nat.mul_pos Nat.two_pos hn) Nat.one_pos)
  | reflect =>
    simp only [padSrc] at h
    split at h
    · cases h; exact hn
    · cases h; exact fold _ _ (Nat.sub_lt (Nat.mul_pos Nat.two_pos hn) Nat.two_pos)

theorem padSrc_inside (mode : PadMode) (n lo j : Nat) (h1 : lo ≤ j) (h2 : j < lo + n) :
    padSrc mode n lo j = some (j - lo) := by
  obtain ⟨d, rfl⟩ := Nat.exists_eq_add_of_le h1
  have hd : d < n := Nat.lt_of_add_lt_add_left h2
  have hn : 0 < n := Nat.lt_of_le_of_lt (Nat.zero_le d) hd
  have hd2 : d < 2 * n := Nat.lt_of_lt_of_le hd (Nat.le_mul_of_pos_left n Nat.two_pos)
  rw [Nat.add_sub_cancel_left]
  cases mode with
  | constant => simp only [padSrc]; rw [if_pos ⟨h1, h2⟩, Nat.add_sub_cancel_left]
  | edge =>
    simp only [padSrc]
    rw [if_neg (Nat.not_lt.mpr h1), if_pos h2, Nat.add_sub_cancel_left]
  | wrap =>
    simp only [padSrc]
    rw [shift_mod n lo d hn, Nat.mod_eq_of_lt hd]
  | symmetric =>
    simp only [padSrc]
    rw [shift_mod (2 * n) lo d (Nat.mul_pos Nat.two_pos hn), Nat.mod_eq_of_lt hd2, if_pos hd]
  | reflect =>
    simp only [padSrc]
    split
    · congr 1; omega
    · have hn2 : n ≤ 2 * n - 2 := by omega
      rw [show 2 * n - 3 = 2 * n - 2 - 1 from rfl, shift_mod (2 * n - 2) lo d (Nat.lt_of_lt_of_le hn hn2),
        Nat.mod_eq_of_lt (Nat.lt_of_lt_of_le hd hn2), if_pos hd]

/-! ## nearest-cell lookup -/

/-- the nearest-entry search of this model is the C07 model's; the facts about it (`C07.nearestUpTo_le`, `_congr`,
`_affine`, `_grid`) are proved there and read through this equation -/
theorem nearestUpTo_link (cs : Nat → Rat) (x : Rat) (m : Nat) : C07.nearestUpTo cs x m = nearestUpTo cs x m := by
  induction m with
  | zero => rfl
  | succ k ih => simp only [C07.nearestUpTo, nearestUpTo, ih]

theorem nearestUpTo_le (cs : Nat → Rat) (x : Rat) (m : Nat) : nearestUpTo cs x m ≤ m :=
  nearestUpTo_link cs x m ▸ C07.nearestUpTo_le cs x m

theorem nearest_lt (n n' j : Nat) (hn : 0 < n) : nearest n n' j < n :=
  Nat.lt_of_le_of_lt (nearestUpTo_le _ _ _) (Nat.sub_lt hn Nat.one_pos)

/-! ## quarter turns -/

theorem getD_cases {l : List Nat} {p q x y : Nat} {f : Nat → Nat} (hp : l.getD p 0 = x) (hq : l.getD q 0 = y)
    (ho : ∀ a, a ≠ p → a ≠ q → l.getD a 0 = f a) (b : Nat) :
    l.getD b 0 = if b = p then x else if b = q then y else f b := by
  split_ifs with c1 c2
  · rw [c1, hp]
  · rw [c2, hq]
  · exact ho b c1 c2

/-- NumPy's `rot90` index map (composition of flips and an axis swap) is `rotSrc`, pointwise: the two axes of the
turn carry `T.srcPair`, row by row of the turn table -/
theorem srcIdx_eq_rotSrc (s j : List Nat) (p q : Nat) (k : Int) (hpq : p ≠ q) (hp : p < s.length)
    (hq : q < s.length) (hj : j.length = s.length) : T.srcIdx s p q k j = rotSrc s p q k j := by
  refine eq_tab_of_getD _ _ _ 0 ((T.srcIdx_length s j p q k).trans hj) fun b _ => ?_
  obtain ⟨ep, eq, eo⟩ := T.srcIdx_pair s j p q k hpq (hj ▸ hp) (hj ▸ hq) hj.symm
  rcases T.srcPair_cases (s.getD p 0) (s.getD q 0) k (j.getD p 0) (j.getD q 0) with
    ⟨h, _, _, _, e⟩ | ⟨h, _, _, _, e⟩ | ⟨h, _, _, _, e⟩ | ⟨h, _, _, _, e⟩ <;> rw [e] at ep eq <;> rw [h]
  · -- no turn: `rotSrc` is `j` itself, there is no `if` for `getD_cases` to produce
    show _ = j.getD b 0
    by_cases c1 : b = p
    · rw [c1]; exact ep
    · by_cases c2 : b = q
      · rw [c2]; exact eq
      · exact eo b c1 c2
  · exact getD_cases ep eq eo b
  · exact getD_cases ep eq eo b
  · exact getD_cases ep eq eo b

theorem rot_shape_rotN (s : List Nat) (p q : Nat) (k : Int) : (MapOp.rot p q k).shape s = T.rotN s p q k := by
  show (if k % 4 = 1 ∨ k % 4 = 3 then swapAt s p q else s) = if T.isOdd k then swapAt s p q else s
  rcases T.turn_cases k with ⟨h, o, _⟩ | ⟨h, o, _⟩ | ⟨h, o, _⟩ | ⟨h, o, _⟩ <;> rw [h, o] <;> rfl

theorem rot90_shape {α} (x : NDA α) (p q : Nat) (k : Int) :
    (T.rot90 x p q k).shape = (MapOp.rot p q k).shape x.shape := by
  rw [T.rot90_shape, rot_shape_rotN]

/-! ## every index map reads inside the source -/

theorem src_inRange (op : MapOp) (s : List Nat) (hok : op.ok s = true) (j : List Nat)
    (hj : inRange (op.shape s) j = true) (i : List Nat) (hs : op.src s j = some i) :
    inRange s i = true := by
  cases op with
  | take ax k =>
    obtain ⟨h1, h2, h3⟩ := take_ok.mp hok
    cases hs
    obtain ⟨_, hp⟩ := inRange_tab_inv _ _ _ hj
    refine inRange_tab _ _ fun b hb => ?_
    split_ifs with c1 c2
    · have := hp b (Nat.lt_of_lt_of_le c1 (Nat.le_sub_one_of_lt h1))
      rwa [if_pos c1] at this
    · exact c2 ▸ h2
    · have hlt : ax < b := Nat.lt_of_le_of_ne (Nat.le_of_not_lt c1) (Ne.symm c2)
      have hb1 : 1 ≤ b := Nat.lt_of_le_of_lt (Nat.zero_le ax) hlt
      have := hp (b - 1) (Nat.sub_lt_sub_right hb1 hb)
      rwa [if_neg (Nat.not_lt.mpr (Nat.le_sub_one_of_lt hlt)), Nat.sub_add_cancel hb1] at this
  | slice ax lo hi =>
    obtain ⟨h1, h2, h3⟩ := slice_ok.mp hok
    cases hs
    obtain ⟨_, hp⟩ := inRange_tab_inv _ _ _ hj
    refine inRange_tab _ _ fun b hb => ?_
    have := hp b hb
    split_ifs with c
    · rw [if_pos c] at this
      subst c
      exact Nat.lt_of_lt_of_le (Nat.add_lt_of_lt_sub this) h3
    · rwa [if_neg c] at this
  | crop lo hi =>
    obtain ⟨h1, h2, h3⟩ := crop_ok.mp hok
    cases hs
    obtain ⟨_, hp⟩ := inRange_tab_inv _ _ _ hj
    refine inRange_tab _ _ fun b hb => ?_
    exact Nat.lt_of_lt_of_le (Nat.add_lt_of_lt_sub (hp b hb)) (h3 b hb).2
  | pad mode w =>
    obtain ⟨h1, h2⟩ := pad_ok.mp hok
    simp only [MapOp.src] at hs
    split at hs
    · rename_i hall
      cases hs
      refine inRange_tab _ _ fun b hb => ?_
      have hsome := (allLt_iff _ _).mp hall b hb
      cases hps : padSrc mode (s.getD b 0) (w.getD b (0, 0)).1 (j.getD b 0) with
      | none => rw [hps] at hsome; cases hsome
      | some t => exact padSrc_lt _ _ _ _ _ (h2 b hb) hps
    · cases hs
  | resample n =>
    obtain ⟨h1, h2⟩ := resample_ok.mp hok
    cases hs
    exact inRange_tab _ _ fun b hb => nearest_lt _ _ _ (h2 b hb).2
  | rot p q k =>
    obtain ⟨hp, hq, hpq⟩ := rot_ok.mp hok
    cases hs
    rw [rot_shape_rotN] at hj
    rw [← srcIdx_eq_rotSrc s j p q k hpq hp hq ((inRange_length _ _ hj).trans (T.rotN_length s p q k))]
    exact T.srcIdx_inRange s j p q k hpq hp hq hj

/-! ## the array call is the gather through `src`, for any entry type -/

theorem apply_shape {α} (op : MapOp) (x : NDA α) (fill : α) : (op.apply x fill).shape = op.shape x.shape := by
  cases op with
  | rot p q k => exact rot90_shape x p q k
  -- every operation but `rot` is defined as the gather through `src`; `rot` goes through `T.rot90`
  | _ => rfl

theorem apply_get {α} (op : MapOp) (x : NDA α) (fill : α) (hok : op.ok x.shape = true) (j : List Nat)
    (hj : inRange (op.shape x.shape) j = true) :
    (op.apply x fill).get j = match op.src x.shape j with
      | some i => x.get i
      | none => fill := by
  cases op with
  | rot p q k =>
    obtain ⟨hp, hq, hpq⟩ := rot_ok.mp hok
    have hl : j.length = x.shape.length :=
      (inRange_length _ _ hj).trans ((congrArg List.length (rot_shape_rotN _ p q k)).trans (T.rotN_length _ p q k))
    show (T.rot90 x p q k).get j = x.get (rotSrc x.shape p q k j)
    rw [T.rot90_get, srcIdx_eq_rotSrc _ _ _ _ _ hpq hp hq hl]
  | _ => rfl

/-- `valid_mapped` of Props for the array a mapping node stores; also the `map` case of `eval_spec` -/
theorem own_apply_get (op : MapOp) (m0 : Mask) (hok : op.ok m0.shape = true) (j : List Nat)
    (hj : inRange (op.shape m0.shape) j = true) :
    match op.src m0.shape j with
    | some i => inRange m0.shape i = true ∧ (own (op.apply m0 false)).get j = m0.get i
    | none => (own (op.apply m0 false)).get j = false := by
  rw [own_get _ j ((apply_shape op m0 false).symm ▸ hj), apply_get op m0 false hok j hj]
  cases hsrc : op.src m0.shape j with
  | none => rfl
  | some i => exact ⟨src_inRange op m0.shape hok j hj i hsrc, rfl⟩

end DFV.C08
