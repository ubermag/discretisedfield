import DFV.Lemmas.C07Hist
/-! What composition laws and histories need beyond one operation: the index (and upper index) of a coordinate in a block of
whole cells against the source; both subregion loops of `Mesh.sel` as one loop (`subLoop`) and the subregions a selected
mesh stores; what result meshes keep of `bc` / `subs` without any assumption on the source.  Defines `SubsWF` and `OpSide`
(the side condition of an operation in `op_wf`). -/
namespace DFV.C07
open DFV DFV.Mesh

/-- `s = r` from equal corners coordinate by coordinate (lengths measured against `r.pmin`), names, units
and tolerance -/
theorem region_ext (r s : Region) (h1 : s.pmin.length = r.pmin.length) (h2 : r.pmax.length = r.pmin.length)
    (h3 : s.pmax.length = r.pmin.length)
    (hlo : ∀ a, a < r.pmin.length → s.lo a = r.lo a) (hhi : ∀ a, a < r.pmin.length → s.hi a = r.hi a)
    (hd : s.dims = r.dims) (hu : s.units = r.units) (ht : s.tol = r.tol) : s = r := by
  obtain ⟨rp1, rp2, rd, ru, rt⟩ := r
  obtain ⟨sp1, sp2, sd, su, st⟩ := s
  dsimp only at h1 h2 h3 hd hu ht hlo hhi
  simp only [Region.mk.injEq]
  refine ⟨?_, ?_, hd, hu, ht⟩
  · exact list_eq_of_getD _ _ 0 h1 (fun a ha => hlo a (by omega))
  · exact list_eq_of_getD _ _ 0 (by omega) (fun a ha => hhi a (by omega))

theorem boxIn_of_aligned (m : Mesh) (hm : m.Inv) (item : Region) (k1 k2 : Nat → Nat)
    (hal : SubAligned m item k1 k2) : BoxIn m item := by
  refine ⟨hal.1, ?_⟩
  intro a ha
  obtain ⟨t1, t2, t3, t4⟩ := hal.2.2 a ha
  have hc := hm.cellAt_pos ha
  have hn := hm.nAt_pos ha
  rw [t3, t4]
  exact ⟨((grid_mem_edge m a hn hc _).mpr ⟨Nat.cast_nonneg _, by exact_mod_cast (by omega : k1 a ≤ m.nAt a)⟩).1,
    (C01.face_lt hc _ _).mpr (by exact_mod_cast t1),
    ((grid_mem_edge m a hn hc _).mpr ⟨Nat.cast_nonneg _, by exact_mod_cast t2⟩).2⟩

theorem blockLo_aligned (m : Mesh) (hm : m.Inv) (item : Region) (k1 k2 : Nat → Nat)
    (hal : SubAligned m item k1 k2) (a : Nat) (ha : a < m.ndim) : blockLo m item a = k1 a := by
  obtain ⟨t1, t2, t3, _⟩ := hal.2.2 a ha
  unfold blockLo
  rw [t3]
  exact indexAx_grid m a (k1 a) (by omega) (hm.cellAt_pos ha) _ le_rfl (lt_add_one _)

theorem blockHi_aligned (m : Mesh) (hm : m.Inv) (item : Region) (k1 k2 : Nat → Nat)
    (hal : SubAligned m item k1 k2) (a : Nat) (ha : a < m.ndim) : blockHi m item a = k2 a - 1 := by
  obtain ⟨t1, _, _, t4⟩ := hal.2.2 a ha
  unfold blockHi
  rw [t4, ← Int.cast_natCast (R := Rat), upperIdx_face m a _ (hm.cellAt_pos ha)]
  omega

/-- index of a coordinate in a block of whole cells against its index in the source: they differ
by the block's offset — for every coordinate of the block's closed edge except its upper end,
which the block attributes to its last cell while the source attributes the face to the next cell
(unless the block ends at the source's boundary) -/
theorem indexAx_block {g m : Mesh} {b off cnt : Nat} (blk : AxisBlock g m b b off cnt) (hcnt : 0 < cnt)
    (hc : 0 < m.cellAt b) (z : Rat) (h1 : g.region.lo b ≤ z)
    (hup : z < g.region.hi b ∨ g.region.hi b = m.region.hi b) :
    m.indexAx b z = off + g.indexAx b z := by
  have hgn : 0 < g.nAt b := by rw [blk.n]; exact hcnt
  have hghi := block_hi blk hcnt
  have hj := C01.indexAx_lt g b hgn z
  obtain ⟨l, u⟩ := (C01.indexAx_eq_iff g b (blk.cell ▸ hc) hj z).mp rfl
  rw [blk.lo, blk.cell] at l u
  rw [blk.lo] at h1
  rw [blk.n] at hj u
  have hfit := blk.fits
  refine (C01.indexAx_eq_iff m b hc (by omega) z).mpr ⟨Or.inr ?_, ?_⟩
  · rcases l with l | l
    · rw [l]; push_cast; linarith
    · push_cast; linarith
  · rcases u with u | u
    · rcases hup with hz | hgm
      · refine Or.inr ?_
        rw [hghi, ← u] at hz; push_cast at hz ⊢; linarith
      · refine Or.inl ?_
        rw [hghi, C01.hi_eq m b (by omega)] at hgm
        have := (C01.face_le hc _ _).mp hgm.ge
        have : m.nAt b ≤ off + cnt := by exact_mod_cast this
        omega
    · exact Or.inr (by push_cast; linarith)

/-- `Region(p1, p2)` with default names and units -/
theorem regionMk_none_inv (p1 p2 : List Rat) (tol : Rat) (r : Region)
    (h : Region.mk? p1 p2 none none tol = .ok r) :
    p1.length = p2.length ∧ 0 < p1.length ∧
    r.pmin = tab p1.length (fun a => min (p1.getD a 0) (p2.getD a 0)) ∧
    r.pmax = tab p1.length (fun a => max (p1.getD a 0) (p2.getD a 0)) := by
  obtain ⟨h1, h2, _, _, _, _, _, rfl⟩ := (T.mk?_ok_iff _ _ _ _ _ _).mp h
  exact ⟨h1, Nat.pos_of_ne_zero h2, rfl, rfl⟩

/-- … its corners are the given ones along every axis on which they are in order -/
theorem regionMk_none_corners (p1 p2 : List Rat) (tol : Rat) (r : Region)
    (h : Region.mk? p1 p2 none none tol = .ok r) :
    r.pmin.length = p1.length ∧ r.pmax.length = p1.length ∧
    ∀ b, b < p1.length → p1.getD b 0 ≤ p2.getD b 0 → r.lo b = p1.getD b 0 ∧ r.hi b = p2.getD b 0 := by
  obtain ⟨_, _, e3, e4⟩ := regionMk_none_inv p1 p2 tol r h
  refine ⟨by rw [e3, tab_length], by rw [e4, tab_length], fun b hb hle => ?_⟩
  show r.pmin.getD b 0 = _ ∧ r.pmax.getD b 0 = _
  rw [e3, e4, getD_tab _ _ _ _ hb, getD_tab _ _ _ _ hb]
  exact ⟨min_eq_left hle, max_eq_right hle⟩

/-- the subregions of a mesh built with subregions: the given ones, stored under the names, units
and tolerance of its region -/
theorem mkMesh_subs (r : Region) (cell : List Rat) (bc : String) (subs : List (String × Region)) (g : Mesh)
    (h : mkMesh? r cell bc subs = .ok g) : ∃ m0, m0.region = g.region ∧ g.subs = subs.map (storeSub m0) := by
  obtain ⟨m0, _, h⟩ := (mkMesh_ok_iff r cell bc subs g).mp h
  obtain ⟨g1, _, _, g4⟩ := setSubs_inv m0 subs g h
  exact ⟨m0, g1.symm, g4⟩

theorem selPlaneMesh_subs (m : Mesh) (a : Nat) (c : Rat) (g : Mesh) (h : selPlaneMesh m a c = .ok g) :
    ∃ subs m0, planeSubs a c m.subs = .ok subs ∧ m0.region = g.region ∧ g.subs = subs.map (storeSub m0) := by
  obtain ⟨subs, r, hs, hg⟩ := selPlaneMesh_ctor m a c g h
  obtain ⟨m0, h1, h2⟩ := mkMesh_subs _ _ _ _ g hg
  exact ⟨subs, m0, hs, h1, h2⟩

theorem selRangeMesh_subs (m : Mesh) (a : Nat) (c1 c2 : Rat) (g : Mesh) (h : selRangeMesh m a c1 c2 = .ok g) :
    ∃ subs m0, rangeSubs a (c1 - m.cellAt a / 2) (c2 + m.cellAt a / 2) (m.cellAt a / 2) m.subs = .ok subs ∧
      m0.region = g.region ∧ g.subs = subs.map (storeSub m0) := by
  obtain ⟨subs, r, hs, hg⟩ := selRangeMesh_ctor m a c1 c2 g h
  obtain ⟨m0, h1, h2⟩ := mkMesh_subs _ _ _ _ g hg
  exact ⟨subs, m0, hs, h1, h2⟩

/-- the loop of `Mesh.sel` over the subregions: those that pass `keep` are rebuilt by `mk` (which may refuse),
the others are dropped -/
def subLoop (keep : String × Region → Bool) (mk : Region → M Region) :
    List (String × Region) → M (List (String × Region))
  | [] => .ok []
  | p :: rest =>
    if keep p then
      match mk p.2 with
      | .error e => .error e
      | .ok r =>
        match subLoop keep mk rest with
        | .error e => .error e
        | .ok l => .ok ((p.1, r) :: l)
    else subLoop keep mk rest

theorem planeSubs_eq (a : Nat) (c : Rat) (subs : List (String × Region)) :
    planeSubs a c subs = subLoop (fun p => decide (p.2.lo a ≤ c ∧ c ≤ p.2.hi a))
      (fun s => Region.mk? (removeAt s.pmin a) (removeAt s.pmax a) none none) subs := by
  induction subs with
  | nil => rfl
  | cons p rest ih =>
    unfold planeSubs subLoop
    rw [ih]
    by_cases hk : p.2.lo a ≤ c ∧ c ≤ p.2.hi a
    · rw [if_neg (by rintro (h | h) <;> linarith [hk.1, hk.2]), if_pos (decide_eq_true hk)]
      generalize Region.mk? (removeAt p.2.pmin a) (removeAt p.2.pmax a) none none = x
      generalize subLoop _ _ rest = y
      -- both sides are the same match on the rebuilt region `x` and on the rest of the loop `y`
      cases x <;> [rfl; (cases y <;> rfl)]
    · rw [if_pos (by by_contra h; exact hk ⟨not_lt.mp fun h' => h (Or.inr h'), not_lt.mp fun h' => h (Or.inl h')⟩),
        if_neg (by rw [decide_eq_false hk]; exact Bool.false_ne_true)]

theorem rangeSubs_eq (a : Nat) (lo hi step : Rat) (subs : List (String × Region)) :
    rangeSubs a lo hi step subs = subLoop (fun p => decide (p.2.lo a < hi - step ∧ lo < p.2.hi a - step))
      (fun s => Region.mk? (setAt s.pmin a (max lo (s.lo a))) (setAt s.pmax a (min hi (s.hi a))) none none) subs := by
  induction subs with
  | nil => rfl
  | cons p rest ih =>
    unfold rangeSubs subLoop
    rw [ih]
    by_cases hk : p.2.lo a < hi - step ∧ lo < p.2.hi a - step
    · rw [if_neg (by rintro (h | h) <;> linarith [hk.1, hk.2]), if_pos (decide_eq_true hk)]
      generalize Region.mk? (setAt p.2.pmin a (max lo (p.2.lo a))) (setAt p.2.pmax a (min hi (p.2.hi a))) none none = x
      generalize subLoop _ _ rest = y
      cases x <;> [rfl; (cases y <;> rfl)]
    · rw [if_pos (by by_contra h; exact hk ⟨not_le.mp fun h' => h (Or.inl h'), not_le.mp fun h' => h (Or.inr h')⟩),
        if_neg (by rw [decide_eq_false hk]; exact Bool.false_ne_true)]

/-- an accepted loop lists, in order, the kept subregions, each rebuilt by `mk` -/
theorem subLoop_spec (keep : String × Region → Bool) (mk : Region → M Region) (subs l : List (String × Region))
    (h : subLoop keep mk subs = .ok l) :
    List.Forall₂ (fun q p => q.1 = p.1 ∧ mk p.2 = .ok q.2) l (subs.filter keep) := by
  induction subs generalizing l with
  | nil => cases h; exact List.Forall₂.nil
  | cons p rest ih =>
    unfold subLoop at h
    by_cases hk : keep p = true
    · rw [if_pos hk] at h
      rw [List.filter_cons_of_pos hk]
      cases hr : mk p.2 with
      | error e => rw [hr] at h; cases h
      | ok r =>
        rw [hr] at h
        cases hl : subLoop keep mk rest with
        | error e => rw [hl] at h; cases h
        | ok l' => rw [hl] at h; cases h; exact List.Forall₂.cons ⟨rfl, hr⟩ (ih l' hl)
    · rw [if_neg hk] at h
      rw [List.filter_cons_of_neg hk]
      exact ih l h

theorem subLoop_ok (keep : String × Region → Bool) (mk : Region → M Region) (f : Region → Region)
    (subs : List (String × Region)) (h : ∀ p, p ∈ subs → keep p = true → mk p.2 = .ok (f p.2)) :
    subLoop keep mk subs = .ok ((subs.filter keep).map fun p => (p.1, f p.2)) := by
  induction subs with
  | nil => rfl
  | cons p rest ih =>
    unfold subLoop
    rw [ih fun q hq => h q (List.mem_cons_of_mem _ hq)]
    by_cases hk : keep p = true
    · rw [if_pos hk, List.filter_cons_of_pos hk, h p (List.mem_cons_self ..) hk]; rfl
    · rw [if_neg hk, List.filter_cons_of_neg hk]

/-- the loop of `Mesh.sel` over the subregions for a plane selection: the result lists, in
order, the subregions whose extent along the axis contains the plane's coordinate, each rebuilt
by `Region(p1, p2)` from its corners without the axis -/
theorem planeSubs_spec (a : Nat) (c : Rat) (subs l : List (String × Region))
    (h : planeSubs a c subs = .ok l) :
    List.Forall₂ (fun q p => q.1 = p.1 ∧
        Region.mk? (removeAt p.2.pmin a) (removeAt p.2.pmax a) none none = .ok q.2)
      l (subs.filter fun p => decide (p.2.lo a ≤ c ∧ c ≤ p.2.hi a)) :=
  subLoop_spec _ _ subs l (planeSubs_eq a c subs ▸ h)

/-- the same loop for a range selection with faces `lo`, `hi`: kept are the subregions
overlapping the slab by more than `step` (half a cell), each rebuilt from its corners clipped to
the slab along the axis -/
theorem rangeSubs_spec (a : Nat) (lo hi step : Rat) (subs l : List (String × Region))
    (h : rangeSubs a lo hi step subs = .ok l) :
    List.Forall₂ (fun q p => q.1 = p.1 ∧
        Region.mk? (setAt p.2.pmin a (max lo (p.2.lo a))) (setAt p.2.pmax a (min hi (p.2.hi a)))
          none none = .ok q.2)
      l (subs.filter fun p => decide (p.2.lo a < hi - step ∧ lo < p.2.hi a - step)) :=
  subLoop_spec _ _ subs l (rangeSubs_eq a lo hi step subs ▸ h)

/-! ## `List.Forall₂`: weakening on the members, a partner for every member -/

theorem forall2_imp_mem {α β} {R S : α → β → Prop} {l : List α} {u : List β}
    (h : List.Forall₂ R l u) (hi : ∀ q p, p ∈ u → R q p → S q p) : List.Forall₂ S l u := by
  induction h with
  | nil => exact List.Forall₂.nil
  | cons hr _ ih =>
    exact List.Forall₂.cons (hi _ _ (List.mem_cons_self ..) hr)
      (ih (fun q p hp => hi q p (List.mem_cons_of_mem _ hp)))

theorem forall2_mem_left {α β} {R : α → β → Prop} {l : List α} {u : List β} (h : List.Forall₂ R l u) :
    ∀ q, q ∈ l → ∃ p, p ∈ u ∧ R q p := by
  induction h with
  | nil => intro q hq; cases hq
  | cons hr _ ih =>
    intro q hq
    rcases List.mem_cons.mp hq with rfl | hq'
    · exact ⟨_, List.mem_cons_self .., hr⟩
    · obtain ⟨p, hp, hrp⟩ := ih q hq'
      exact ⟨p, List.mem_cons_of_mem _ hp, hrp⟩

/-- the subregions stored in a well-formed mesh: boxes of the mesh's dimension with ordered corners -/
def SubsWF (m : Mesh) : Prop :=
  ∀ p, p ∈ m.subs → p.2.pmin.length = m.ndim ∧ p.2.pmax.length = m.ndim ∧
    ∀ b, b < m.ndim → p.2.lo b ≤ p.2.hi b

theorem getMesh_bare (m : Mesh) (item : Item) (g : Mesh) (h : getMesh m item = .ok g) :
    g.subs = [] ∧ g.bc = "" := by
  cases item with
  | name s =>
    have h' : getName m s = .ok g := h
    unfold getName at h'
    split at h'
    · cases h'
    · obtain ⟨_, _, g3, g4, _⟩ := mkCell_inv _ _ _ _ h'
      exact ⟨g3, by rw [g4]; simp [String.toLower]⟩
  | region r =>
    have h' : getRegion m r = .ok g := h
    unfold getRegion at h'
    split at h'
    · cases h'
    · split at h'
      · cases h'
      · split at h'
        · cases h'
        · split at h'
          · cases h'
          · split at h'
            · cases h'
            · obtain ⟨_, _, g3, g4, _⟩ := mkCell_inv _ _ _ _ h'
              exact ⟨g3, by rw [g4]; simp [String.toLower]⟩

theorem padMesh_bare (m : Mesh) (pw : List PadW) (g : Mesh) (h : padMesh m pw = .ok g) :
    g.subs = [] ∧ g.bc = m.bc.toLower := by
  unfold padMesh at h
  split at h
  · cases h
  · split at h
    · cases h
    · obtain ⟨_, _, g3, g4, _⟩ := mkCell_inv _ _ _ _ h
      exact ⟨g3, g4⟩

theorem selMesh_bc (m : Mesh) (dim : String) (arg : SelArg) (g : Mesh) (h : selMesh m dim arg = .ok g) :
    g.bc = "" := by
  obtain ⟨a, s, _, hg⟩ := (selMesh_ok_iff m dim arg g).mp h
  obtain ⟨r, cell, subs, hg, _⟩ := selMeshOf_ctor m a s g hg
  rw [(mkMesh_inv _ _ _ _ _ hg).2.2.1]; simp [String.toLower]

theorem whole_aligned (m : Mesh) (hm : m.Inv) : SubAligned m m.region (fun _ => 0) (fun a => m.nAt a) := by
  refine ⟨rfl, hm.pmax_length, ?_⟩
  intro a ha
  refine ⟨hm.nAt_pos ha, le_refl _, by simp, C01.hi_eq m a (hm.nAt_pos ha)⟩

/-- side condition under which the result of an operation is again a well-formed field: boxes
are inside the region (exactly), named subregions consist of whole cells, `pad_width` is a
dictionary (distinct axis names) -/
def OpSide (f : Fld) : FOp → Prop
  | .sel _ _ => True
  | .get (.region r) => BoxIn f.mesh r
  | .get (.name s) => ∃ r k1 k2, findSub f.mesh.subs s = some r ∧ SubAligned f.mesh r k1 k2 ∧
      r.dims = f.mesh.region.dims ∧ r.units = f.mesh.region.units
  | .pad pw _ => (pw.map (·.dim)).Nodup
  | .resample _ => True

theorem selConvert_kind (m : Mesh) (hm : m.Inv) (dim : String) (arg : SelArg) (a : Nat) (s : SelIdx)
    (h : selConvert m dim arg = .ok (a, s)) :
    (∃ c k, s = .plane c k ∧ (arg = .centre ∨ ∃ x, arg = .point x)) ∨ (∃ x y, arg = .range x y) := by
  cases arg with
  | centre =>
    obtain ⟨_, hs⟩ := (selConvert_centre_ok_iff m hm dim a s).mp h
    exact Or.inl ⟨_, _, hs, Or.inl rfl⟩
  | point x =>
    obtain ⟨_, _, _, hs⟩ := (selConvert_point_ok_iff m hm dim x a s).mp h
    exact Or.inl ⟨_, _, hs, Or.inr ⟨x, rfl⟩⟩
  | range x y => exact Or.inr ⟨x, y, rfl⟩
  | bad => exact absurd h (selConvert_bad m dim _)

/-- position of a name after another axis has been removed -/
theorem dim2index_removeAt (r s : Region) (d : String) (a b : Nat) (hb : r.dim2index d = .ok b)
    (hab : a ≠ b) (ha : a < r.dims.length) (hs : s.dims = removeAt r.dims a) :
    s.dim2index d = .ok (if b < a then b else b - 1) := by
  rw [dim2index_iff] at hb ⊢
  obtain ⟨h1, h2, h3⟩ := hb
  rw [hs, length_removeAt _ _ ha]
  by_cases hlt : b < a
  · rw [if_pos hlt]
    refine ⟨by omega, ?_, ?_⟩
    · rw [DFV.getD_removeAt, if_pos hlt]; exact h2
    · intro t ht
      rw [DFV.getD_removeAt, if_pos (by omega)]; exact h3 t ht
  · rw [if_neg hlt]
    refine ⟨by omega, ?_, ?_⟩
    · rw [DFV.getD_removeAt, if_neg (by omega)]
      have : b - 1 + 1 = b := by omega
      rw [this]; exact h2
    · intro t ht
      rw [getD_removeAt]
      apply h3
      unfold skip; split <;> omega

theorem selMesh_nosubs (m : Mesh) (hs : m.subs = []) (dim : String) (arg : SelArg) (g : Mesh)
    (h : selMesh m dim arg = .ok g) : g.subs = [] := by
  obtain ⟨a, s, _, hg⟩ := (selMesh_ok_iff m dim arg g).mp h
  obtain ⟨r, cell, subs, hg, h0⟩ := selMeshOf_ctor m a s g hg
  obtain ⟨m0, _, e⟩ := mkMesh_subs _ _ _ _ g hg
  rw [e, h0 hs]; rfl

/-- the upper index of a coordinate in a block of whole cells and in the source differ by the
block's offset (no exception: `ceil - 1` attributes a face to the cell below it in both) -/
theorem upperIdx_block {g m : Mesh} {b off cnt : Nat} (blk : AxisBlock g m b b off cnt)
    (hc : 0 < m.cellAt b) (z : Rat) : upperIdx m b z = (off : Int) + upperIdx g b z := by
  refine eq_of_forall_le_iff fun k => ?_
  rw [le_upperIdx_iff m b z k hc, ← sub_le_iff_le_add', le_upperIdx_iff g b z _ (blk.cell ▸ hc), blk.lo, blk.cell]
  push_cast
  constructor <;> intro h <;> linarith

end DFV.C07
