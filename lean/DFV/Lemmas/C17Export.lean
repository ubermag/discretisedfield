import DFV.Lemmas.C17Coords
import DFV.Lemmas.C17Hist
/-! The DataArray `to_xarray` returns and the importer on it.  The exported coordinates are the cell
centres, an arithmetic progression from `pmin + cell/2` with step `cell`; so a DataArray that carries a
field the way the exporter lays it out — any of `cell` / `pmin` / `pmax` absent, any `tolerance_factor`,
coordinate units kept or dropped (`LikeExport`) — is a case of `geometry_from_coords` and
`import_of_geometry`.  `fromXA_likeExport` is the one computation the round-trip and rebuild theorems of
`Props/C17.lean` are corollaries of: it returns the field `Reimported` on the mesh `meshBack`.  Then what
the second export of a re-imported field reads, and why no spatial dimension may be called `vdims`. -/
namespace DFV.C17
open DFV

/-! ## the exported coordinates -/

theorem ap_eq_centres (m : Mesh) (a : Nat) :
    ap (m.region.lo a + m.cellAt a / 2) (m.cellAt a) (m.nAt a) = tab (m.nAt a) fun j => m.centreAx a (j : Int) := by
  unfold ap
  apply tab_congr
  intro j _
  rw [C01.centreAx_natCast]; ring

theorem cells_eq_ap (m : Mesh) (a : Nat) (ha : a < m.ndim) :
    m.cells.getD a [] = ap (m.region.lo a + m.cellAt a / 2) (m.cellAt a) (m.nAt a) := by
  rw [C01.cells_axis m a ha, ap_eq_centres]

theorem hi_from_centres (m : Mesh) (hm : m.Inv) (a : Nat) (ha : a < m.ndim) :
    m.region.hi a = m.region.lo a + m.cellAt a / 2 + ((m.nAt a : Rat) - 1) * m.cellAt a + m.cellAt a / 2 := by
  rw [C01.hi_eq m a (hm.2.2 a ha)]
  ring

/-- corners, counts and names of a well-formed mesh, tabulated from its cell centres: what
`geometry_from_coords` returns for the exported coordinates -/
theorem mesh_from_centres (m : Mesh) (hm : m.Inv) :
    m.region.pmin = (tab m.ndim fun a => m.region.lo a + m.cellAt a / 2 - m.cellAt a / 2) ∧
    m.region.pmax = (tab m.ndim fun a =>
      m.region.lo a + m.cellAt a / 2 + ((m.nAt a : Rat) - 1) * m.cellAt a + m.cellAt a / 2) ∧
    m.n = tab m.ndim m.nAt ∧ m.region.dims = (tab m.ndim fun a => m.region.dims.getD a "") := by
  exact ⟨eq_tab_of_getD _ _ _ 0 rfl fun a _ => (add_sub_cancel_right _ _).symm,
    eq_tab_of_getD _ _ _ 0 hm.1.2.1 fun a ha => hi_from_centres m hm a ha,
    eq_tab_of_getD _ _ _ 0 hm.2.1 fun _ _ => rfl, eq_tab_of_getD _ _ _ "" hm.1.2.2.1 fun _ _ => rfl⟩

/-! ## DataArrays that carry a field the way `to_xarray` lays it out -/

/-- `xe` carries field `f` the way `to_xarray` lays it out: the geometric axes have the region's names and the
cell centres as values (whatever their `units` attribute), data and label coordinate are the exporter's, each of
`cell` / `pmin` / `pmax` is absent or the field's; the `tolerance_factor` attribute is whatever it is -/
structure LikeExport {α} (xe : XA α) (f : XFld α) : Prop where
  axes : (geo xe).map (fun ax => (ax.name, ax.values))
    = tab f.mesh.ndim fun a => (f.mesh.region.dims.getD a "", f.mesh.cells.getD a [])
  dims : xe.dims.contains "vdims" = decide (1 < f.nvdim)
  data : xe.data = exportData f
  vd : xe.vdimsCoord = if 1 < f.nvdim then f.vdims else none
  cell : xe.attrs.cell = none ∨ xe.attrs.cell = some f.mesh.cell
  pmin : xe.attrs.pmin = none ∨ xe.attrs.pmin = some f.mesh.region.pmin
  pmax : xe.attrs.pmax = none ∨ xe.attrs.pmax = some f.mesh.region.pmax
  nvdim : xe.attrs.nvdim = some (.int f.nvdim)
  dtype : xe.dtype = f.dtype

/-- the mesh the importer builds from such a DataArray: the field's corners, names and counts; units and
tolerance factor as the importer reads them off `xe` -/
def meshBack {α} (xe : XA α) (f : XFld α) : Mesh :=
  { region := { f.mesh.region with units := unitsUsed xe, tol := xe.attrs.tol.getD defaultTol },
    n := f.mesh.n, bc := "", subs := [] }

/-- labels the importer gives the field -/
def vdimsAfter {α} (f : XFld α) : Option (List String) :=
  if 1 < f.nvdim then (match f.vdims with | some l => some l | none => Fld.defaultVdims f.nvdim) else none

/-- `g` is `f` as the importer returns it on mesh `m`: component count, values and dtype tag of `f`, the labels
`vdimsAfter f`; no unit, all cells valid, default component mapping -/
structure Reimported {α} (f : XFld α) (m : Mesh) (g : XFld α) : Prop where
  mesh : g.mesh = m
  nvdim : g.nvdim = f.nvdim
  data : Agree g.data f.data
  vdims : g.vdims = vdimsAfter f
  dtype : g.dtype = f.dtype
  unit : g.unit = none
  valid : g.valid = NDA.const f.mesh.n true
  vmap : g.vmap = defaultVmap f.nvdim f.mesh.region.dims (vdimsAfter f)

section

variable {α : Type} {xe : XA α} {f g : XFld α} {m : Mesh}

/-! ## what the two relations say, and that `LikeExport` survives the removal of attributes

(nothing here depends on the attribute names of `Field`) -/

theorem LikeExport.len (h : LikeExport xe f) : (geo xe).length = f.mesh.ndim := by
  have := congrArg List.length h.axes
  rwa [List.length_map, tab_length] at this

theorem LikeExport.axis (h : LikeExport xe f) (a : Nat) (ha : a < f.mesh.ndim) :
    ((geo xe).getD a default).name = f.mesh.region.dims.getD a "" ∧
    ((geo xe).getD a default).values = f.mesh.cells.getD a [] := by
  have := congrArg (fun l => l.getD a ((default : Axis).name, (default : Axis).values)) h.axes
  simp only [DFV.getD_map (fun ax : Axis => (ax.name, ax.values)), getD_tab _ _ _ _ ha] at this
  exact ⟨congrArg Prod.fst this, congrArg Prod.snd this⟩

theorem Reimported.values (h : Reimported f m g) :
    g.data.shape = f.data.shape ∧ ∀ i, inRange f.data.shape i = true → g.data.get i = f.data.get i :=
  ⟨h.data.1, fun i hi => h.data.2 i (h.data.1 ▸ hi)⟩

theorem Reimported.geometry (h : Reimported f (meshBack xe f) g) :
    g.mesh.region.pmin = f.mesh.region.pmin ∧ g.mesh.region.pmax = f.mesh.region.pmax ∧
    g.mesh.region.dims = f.mesh.region.dims ∧ g.mesh.n = f.mesh.n ∧ g.mesh.region.units = unitsUsed xe ∧
    g.mesh.region.tol = xe.attrs.tol.getD defaultTol := by
  rw [h.mesh]; exact ⟨rfl, rfl, rfl, rfl, rfl, rfl⟩

theorem vdimsAfter_ne_none (h1 : 1 < f.nvdim) : vdimsAfter f ≠ none := by
  unfold vdimsAfter
  rw [if_pos h1]
  cases f.vdims with
  | some l => simp
  | none => exact defaultVdims_ne_none _ h1

theorem geo_eraseGeom (c p q : Bool) (xe : XA α) : geo (eraseGeom c p q xe) = geo xe := rfl

theorem geo_eraseTol (xe : XA α) : geo (eraseTol xe) = geo xe := rfl

theorem LikeExport.eraseGeom (h : LikeExport xe f) (c p q : Bool) : LikeExport (eraseGeom c p q xe) f :=
  { h with
    cell := by
      cases c
      · exact h.cell
      · exact Or.inl rfl
    pmin := by
      cases p
      · exact h.pmin
      · exact Or.inl rfl
    pmax := by
      cases q
      · exact h.pmax
      · exact Or.inl rfl }

theorem LikeExport.eraseTol (h : LikeExport xe f) : LikeExport (eraseTol xe) f := { h with }

/-- the axis transformation `eraseUnits` applies (for the units what `Axis.mapVals` of `C17Spacing` is for the values) -/
def dropUnits (sel : String → Bool) (ax : Axis) : Axis :=
  if sel ax.name then { ax with coord := ax.coord.map fun c => { c with units := none } } else ax

theorem dropUnits_name (sel : String → Bool) (ax : Axis) : (dropUnits sel ax).name = ax.name := by
  unfold dropUnits; split <;> rfl

theorem geo_eraseUnits (sel : String → Bool) (xe : XA α) : geo (eraseUnits sel xe) = (geo xe).map (dropUnits sel) :=
  geo_mapAxes _ (dropUnits_name sel) xe

theorem LikeExport.eraseUnits (h : LikeExport xe f) (sel : String → Bool) : LikeExport (eraseUnits sel xe) f :=
  { h with
    axes := by
      rw [geo_eraseUnits, List.map_map, ← h.axes]
      refine List.map_congr_left fun ax _ => ?_
      obtain ⟨nm, sz, co⟩ := ax
      unfold dropUnits
      dsimp only [Function.comp]
      split
      · cases co <;> rfl
      · rfl
    dims := by
      have : (C17.eraseUnits sel xe).dims = xe.dims := by
        show (xe.axes.map (dropUnits sel)).map Axis.name = xe.axes.map Axis.name
        rw [List.map_map]
        exact List.map_congr_left fun a _ => dropUnits_name sel a
      rw [this]; exact h.dims }

/-! ### the units the importer reads after `eraseUnits` -/

/-- one selected geometric dimension is enough for the default unit on every axis -/
theorem unitsUsed_eraseUnits_sel (sel : String → Bool) (xe : XA α) (ax : Axis) (hax : ax ∈ geo xe) (hs : sel ax.name = true) :
    unitsUsed (eraseUnits sel xe) = List.replicate (geo xe).length "m" := by
  rw [unitsUsed_of_none _ ⟨dropUnits sel ax, by rw [geo_eraseUnits]; exact List.mem_map_of_mem hax, ?_⟩,
    geo_eraseUnits, List.length_map]
  obtain ⟨nm, sz, co⟩ := ax
  unfold dropUnits Axis.units
  rw [if_pos hs]
  cases co <;> rfl

theorem unitsUsed_eraseUnits_none (sel : String → Bool) (xe : XA α) (h : ∀ ax ∈ geo xe, sel ax.name = false) :
    unitsUsed (eraseUnits sel xe) = unitsUsed xe := by
  have : geo (eraseUnits sel xe) = geo xe := by
    rw [geo_eraseUnits]
    conv_rhs => rw [← List.map_id (geo xe)]
    exact List.map_congr_left fun ax hax => by unfold dropUnits; rw [h ax hax]; rfl
  unfold unitsUsed
  rw [this]

/-! ### the exporter -/

theorem dropLast_append_zero (n i : List Nat) (h : inRange (n ++ [1]) i = true) : i.dropLast ++ [0] = i := by
  have hne : i ≠ [] := by
    intro h0
    have := inRange_length _ _ h
    rw [h0] at this
    simp at this
  obtain ⟨j, c, rfl⟩ : ∃ j c, i = j ++ [c] := ⟨_, _, (List.dropLast_append_getLast hne).symm⟩
  rw [inRange_snoc, Bool.and_eq_true, decide_eq_true_iff] at h
  rw [List.dropLast_concat, Nat.lt_one_iff.mp h.2]

theorem toXarray_ok (f : XFld α) (nm : String) (u : PyArg) (hu : u ≠ .other) :
    toXarray f (.str nm) u = .ok (exported f nm u) := by
  unfold toXarray
  simp only [hu, if_false]

/-- data and label coordinate do not see the mesh -/
theorem exported_data_same {f g : XFld α} (h : SameField f g) (nm : String) (u : PyArg) :
    (exported g nm u).data = exportData f ∧ (exported g nm u).vdimsCoord = (if 1 < f.nvdim then f.vdims else none) := by
  unfold exported exportData
  dsimp only
  rw [h.nvdim, h.data, h.vdims]
  exact ⟨rfl, rfl⟩

theorem exportData_agree {f g : XFld α} (hk : g.nvdim = f.nvdim) (hd : Agree g.data f.data)
    (hs : f.data.shape = f.mesh.n ++ [f.nvdim]) (hpos : 1 ≤ f.nvdim) :
    Agree (exportData g) (exportData f) := by
  unfold exportData
  rw [hk]
  by_cases h1 : 1 < f.nvdim
  · simp only [h1, if_true]; exact hd
  · simp only [h1, if_false]
    refine ⟨by show g.data.shape.dropLast = f.data.shape.dropLast; rw [hd.1], fun i hi => ?_⟩
    show g.data.get (i ++ [0]) = f.data.get (i ++ [0])
    apply hd.2
    have hi' : inRange g.data.shape.dropLast i = true := hi
    rw [hd.1, hs, List.dropLast_concat] at hi'
    rw [hd.1, hs, inRange_snoc, hi']
    have : 0 < f.nvdim := hpos
    simp [this]

theorem exportAxes_congr {f g : XFld α} (hr : g.mesh.region = f.mesh.region) (hn : g.mesh.n = f.mesh.n)
    (hk : g.nvdim = f.nvdim) : exportAxes g = exportAxes f := by
  unfold exportAxes
  rw [hk, hr]
  congr 1
  apply tab_congr
  intro a _
  unfold exportAxis Mesh.nAt Mesh.cells Mesh.ndim Mesh.cellAt Mesh.nAt
  rw [hr, hn]

/-- **A spatial dimension called `vdims` cannot make the round trip** (the clause `novd` of `WF`
is necessary): the importer takes every dimension of that name for the component axis, is left
with fewer geometric dimensions than the `pmin` attribute has entries, and `Region` refuses. -/
theorem vdims_dim_not_importable (f : XFld α) (hm : f.mesh.Inv) (h : "vdims" ∈ f.mesh.region.dims)
    (nm : String) (u : PyArg) (m : Mesh) : geometryOf (exported f nm u) ≠ .ok m := by
  intro hg
  obtain ⟨-, -, -, -, ⟨-, -, hlen, -, -⟩, -⟩ := (geometryOf_eq_ok_iff_inputs _ m).mp hg
  have hp : p1Used (exported f nm u) = f.mesh.region.pmin := rfl
  rw [hp] at hlen
  have hd : f.mesh.region.dims.length = f.mesh.region.pmin.length := hm.1.2.2.1
  obtain ⟨a, ha, hna⟩ := List.getElem_of_mem h
  have hmem : exportAxis f.mesh a ∈ tab f.mesh.region.dims.length (exportAxis f.mesh) := (mem_tab _ _ _).mpr ⟨a, ha, rfl⟩
  have hname : (exportAxis f.mesh a).name = "vdims" := by
    show f.mesh.region.dims.getD a "" = "vdims"
    rw [List.getD_eq_getElem?_getD, List.getElem?_eq_getElem ha]
    exact hna
  have hlt : (geo (exported f nm u)).length < f.mesh.region.dims.length := by
    unfold geo exported exportAxes
    dsimp only
    rw [List.filter_append]
    have h1 : ((tab f.mesh.region.dims.length (exportAxis f.mesh)).filter fun a => decide (a.name ≠ "vdims")).length
        < (tab f.mesh.region.dims.length (exportAxis f.mesh)).length :=
      List.length_filter_lt_length_iff_exists.mpr ⟨_, hmem, by simp [hname]⟩
    rw [tab_length] at h1
    have h2 : ((if 1 < f.nvdim then [({ name := "vdims", size := f.nvdim, coord := none } : Axis)] else []).filter
        fun a => decide (a.name ≠ "vdims")).length = 0 := by
      split <;> simp
    rw [List.length_append, h2]
    omega
  omega

end

section

variable [FieldAttrs] {α : Type} {xe : XA α} {f g : XFld α} {m : Mesh}

/-! ## the importer on an export-like DataArray -/

theorem exportData_shape (hf : f.WF) : (exportData f).shape = f.mesh.n ++ (if 1 < f.nvdim then [f.nvdim] else []) := by
  unfold exportData
  split
  · exact hf.shape
  · show f.data.shape.dropLast = _
    rw [hf.shape, List.dropLast_concat, List.append_nil]

/-- the importer's `expand_dims` undoes the exporter's squeeze of a scalar field -/
theorem exportData_get (hf : f.WF) (i : List Nat) (hi : inRange (f.mesh.n ++ [f.nvdim]) i = true) :
    (exportData f).get (if 1 < f.nvdim then i else i.dropLast) = f.data.get i := by
  unfold exportData
  split
  · rfl
  · have h1 : f.nvdim = 1 := by have := hf.nvdim; omega
    show f.data.get (i.dropLast ++ [0]) = _
    rw [dropLast_append_zero f.mesh.n i (h1 ▸ hi)]

/-- the importer gives back the field's own labels exactly for `LabelsStd` fields (labelled vectors,
unlabelled scalars) -/
theorem vdimsAfter_eq_iff (hf : f.WF) : vdimsAfter f = f.vdims ↔ LabelsStd f := by
  by_cases h1 : 1 < f.nvdim
  · cases hv : f.vdims with
    | some l =>
      unfold vdimsAfter LabelsStd
      simp only [h1, if_true, hv]
      constructor
      · intro _; exact ⟨fun _ => by simp, fun h => by omega⟩
      · intro _; trivial
    | none =>
      have := vdimsAfter_ne_none (f := f) h1
      unfold LabelsStd
      rw [hv] at *
      constructor
      · intro h; exact absurd h this
      · intro h; exact absurd rfl (h.1 h1)
  · have h2 : f.nvdim = 1 := by have := hf.nvdim; omega
    have hv : vdimsAfter f = none := by unfold vdimsAfter; simp only [h1, if_false]
    rw [hv]
    unfold LabelsStd
    constructor
    · intro h; exact ⟨fun h' => absurd h' h1, fun _ => h.symm⟩
    · intro h; exact (h.2 h2).symm

theorem Reimported.labels (h : Reimported f m g) (hf : f.WF) (hl : LabelsStd f) : g.vdims = f.vdims :=
  h.vdims.trans ((vdimsAfter_eq_iff hf).mpr hl)

theorem geometryOf_like (hf : f.WF) (h : LikeExport xe f)
    (hc : xe.attrs.cell = none → ∀ a, a < f.mesh.ndim → 2 ≤ f.mesh.nAt a) : geometryOf xe = .ok (meshBack xe f) := by
  obtain ⟨e1, e2, e3, e4⟩ := mesh_from_centres f.mesh hf.mesh
  have hG : geo xe = tab f.mesh.ndim fun a => (geo xe).getD a default := by
    rw [← h.len]; exact (tab_getD_self _ _).symm
  have e4' : (tab f.mesh.ndim fun a => ((geo xe).getD a default).name) = f.mesh.region.dims :=
    (tab_congr _ _ _ fun a ha => (h.axis a ha).1).trans e4.symm
  have hg := geometry_from_coords xe f.mesh.ndim _ hG hf.mesh.1.1 (fun a => f.mesh.region.lo a + f.mesh.cellAt a / 2) _ _
    (fun a ha => by rw [(h.axis a ha).2, cells_eq_ap _ a ha]; exact Spaced.ap _ _ _ (hf.mesh.2.2 a ha))
    (fun a ha => hf.mesh.cellAt_pos ha) hf.mesh.2.2 (by rw [e4']; exact hf.mesh.1.2.2.2.2.1)
    (h.cell.imp_right fun e => e.trans rfl) (h.pmin.imp_right fun e => by rw [e, ← e1])
    (h.pmax.imp_right fun e => by rw [e, ← e2])
    fun hcn => ⟨hc hcn, shape_no_one _ _ _ (by rw [h.data]; exact exportData_shape hf) fun x hx => by
      -- an entry of `f.mesh.n` is the count `nAt a` of an axis
      obtain ⟨a, ha, rfl⟩ := exists_getD_of_mem f.mesh.n x 0 hx; exact hc hcn a (lt_of_lt_of_eq ha hf.mesh.2.1)⟩
  rw [hg, ← e1, ← e2, ← e3, e4']
  rfl

/-- **The importer on an export-like DataArray** — the general form of the round-trip and rebuild theorems of
`Props/C17.lean`: `import_of_geometry` at the mesh `geometryOf_like` gives -/
theorem fromXA_likeExport (hf : f.WF) (h : LikeExport xe f)
    (hc : xe.attrs.cell = none → ∀ a, a < f.mesh.ndim → 2 ≤ f.mesh.nAt a) :
    ∃ g, fromXA xe = .ok g ∧ Reimported f (meshBack xe f) g := by
  obtain ⟨g, hg, hm, hk, hs, hv, ht, hl, hu, hva, hvm⟩ :=
    import_of_geometry xe f.mesh.n _ (geometryOf_like hf h hc) rfl f.nvdim hf.nvdim h.nvdim
      (fun h1 => by have := h.dims; rwa [decide_eq_true h1, List.contains_iff_mem] at this)
      (by rw [h.data]; exact exportData_shape hf)
      (by rw [h.vd]; intro l hl; split at hl
          · exact hf.labels l hl
          · cases hl)
  have hlab : g.vdims = vdimsAfter f := by
    rw [hl, h.vd]
    unfold vdimsAfter
    by_cases h1 : 1 < f.nvdim
    · rw [if_pos h1, if_pos h1]; cases f.vdims <;> rfl
    · rw [if_neg h1, if_neg h1, show f.nvdim = 1 by have := hf.nvdim; omega]
      rfl
  refine ⟨g, hg, hm, hk, ⟨hs.trans hf.shape.symm, fun i hi => ?_⟩, hlab, ht.trans h.dtype, hu, hva, by rw [hvm, hlab]; rfl⟩
  rw [hv i (hs ▸ hi), h.data, exportData_get hf i (hs ▸ hi)]

/-! ## the DataArray `to_xarray` returns is export-like -/

theorem exportAxis_name_ne (hf : f.WF) (y : Axis) (hy : y ∈ tab f.mesh.region.dims.length (exportAxis f.mesh)) :
    (decide (y.name ≠ "vdims")) = true := by
  obtain ⟨a, ha, rfl⟩ := (mem_tab _ _ _).mp hy
  apply decide_eq_true
  intro h0
  apply hf.novd
  have : (exportAxis f.mesh a).name = f.mesh.region.dims.getD a "" := rfl
  rw [← h0, this]
  exact getD_mem _ _ _ ha

theorem geo_exported (hf : f.WF) (nm : String) (u : PyArg) :
    geo (exported f nm u) = tab f.mesh.ndim (exportAxis f.mesh) := by
  unfold geo exported exportAxes
  dsimp only
  rw [← show f.mesh.region.dims.length = f.mesh.ndim from hf.mesh.1.2.2.1]
  split
  · -- the component axis is filtered out, the geometric axes stay
    rw [List.filter_append, List.filter_eq_self.mpr (exportAxis_name_ne hf)]
    simp
  · rw [List.append_nil]
    exact List.filter_eq_self.mpr (exportAxis_name_ne hf)

theorem dims_exported (hf : f.WF) (nm : String) (u : PyArg) :
    (exported f nm u).dims.contains "vdims" = decide (1 < f.nvdim) := by
  unfold XA.dims exported exportAxes
  simp only [List.map_append]
  by_cases h1 : 1 < f.nvdim
  · simp [h1]
  · simp only [h1, if_false, List.map_nil, List.append_nil, decide_false]
    rw [Bool.eq_false_iff]
    intro hcon
    rw [List.contains_iff_mem] at hcon
    obtain ⟨y, hy, hn⟩ := List.mem_map.mp hcon
    have := exportAxis_name_ne hf y hy
    simp [hn] at this

theorem likeExport_exported (hf : f.WF) (nm : String) (u : PyArg) : LikeExport (exported f nm u) f :=
  { axes := by rw [geo_exported hf nm u, tab_map]; rfl, dims := dims_exported hf nm u, data := rfl, vd := rfl,
    cell := Or.inr rfl, pmin := Or.inr rfl, pmax := Or.inr rfl, nvdim := rfl, dtype := rfl }

theorem unitsUsed_exported (hf : f.WF) (nm : String) (u : PyArg) : unitsUsed (exported f nm u) = f.mesh.region.units := by
  unfold unitsUsed
  rw [geo_exported hf nm u, any_tab_false _ _ _ fun _ _ => rfl, tab_map]
  simp only [Bool.false_eq_true, if_false]
  show tab f.mesh.region.pmin.length (fun a => f.mesh.region.units.getD a "") = _
  rw [← hf.mesh.1.2.2.2.1]
  exact tab_getD_self _ _

theorem meshBack_exported {f : XFld α} (hf : f.WF) (nm : String) (u : PyArg) (c p q : Bool) :
    meshBack (eraseGeom c p q (exported f nm u)) f = { f.mesh with bc := "", subs := [] } := by
  unfold meshBack
  rw [show unitsUsed (eraseGeom c p q (exported f nm u)) = f.mesh.region.units from unitsUsed_exported hf nm u]
  rfl

/-- **The importer on an export**: the field's region and counts (no boundary conditions, no subregions), its
data, the labels `vdimsAfter`, its dtype tag; no unit, all cells valid, default component mapping. -/
theorem fromXA_exported {f : XFld α} (hf : f.WF) (nm : String) (u : PyArg) :
    ∃ g, fromXA (exported f nm u) = .ok g ∧ Reimported f { f.mesh with bc := "", subs := [] } g := by
  have := fromXA_likeExport hf (likeExport_exported hf nm u) (fun h => by cases h)
  rwa [← meshBack_exported hf nm u false false false]

/-- `fromXA_exported` for any `g` that `fromXarray` returned -/
theorem fromXA_exported_of {f : XFld α} (hf : f.WF) (nm : String) (u : PyArg) (g : XFld α)
    (hg : fromXarray (.dataArray (exported f nm u)) = .ok g) : Reimported f { f.mesh with bc := "", subs := [] } g := by
  obtain ⟨g', hg', h⟩ := fromXA_exported hf nm u
  have h1 : fromXA (exported f nm u) = .ok g := hg
  rw [hg'] at h1
  injection h1 with h1
  rwa [← h1]

theorem exported_axis (f : XFld α) (hf : f.WF) (nm : String) (u : PyArg) (a : Nat) (ha : a < f.mesh.ndim) :
    (exported f nm u).axes.getD a default =
      { name := f.mesh.region.dims.getD a "", size := f.mesh.nAt a,
        coord := some { vals := tab (f.mesh.nAt a) fun j => f.mesh.centreAx a (j : Int),
                        units := some (f.mesh.region.units.getD a "") } } := by
  have hd : f.mesh.region.dims.length = f.mesh.ndim := hf.mesh.1.2.2.1
  unfold exported exportAxes
  dsimp only
  rw [List.getD_eq_getElem?_getD, List.getElem?_append_left (by simp [hd, ha])]
  rw [← List.getD_eq_getElem?_getD, getD_tab _ _ _ _ (by rw [hd]; exact ha)]
  unfold exportAxis
  rw [C01.cells_axis f.mesh a ha]

theorem exported_values_ap (f : XFld α) (hf : f.WF) (nm : String) (u : PyArg) (a : Nat) (ha : a < f.mesh.ndim) :
    ((exported f nm u).axes.getD a default).values
      = ap (f.mesh.region.lo a + f.mesh.cellAt a / 2) (f.mesh.cellAt a) (f.mesh.nAt a) := by
  rw [exported_axis f hf nm u a ha, ap_eq_centres]
  rfl

/-! ### the export of a field whose mesh was changed in place -/

/-- names, sizes and units are those of the field before the changes, the coordinates are the cell centres of
the mesh it holds now: the general form of `export_after_history` and the two `export_…_commutes` of
`Props/C17.lean` -/
theorem exported_axis_same {f g : XFld α} (hf : f.WF) (h : SameField f g) (nm : String) (u : PyArg) (a : Nat)
    (ha : a < f.mesh.ndim) :
    (exported g nm u).axes.getD a default =
      { name := f.mesh.region.dims.getD a "", size := f.mesh.nAt a,
        coord := some { vals := tab (f.mesh.nAt a) fun j => g.mesh.centreAx a (j : Int),
                        units := some (f.mesh.region.units.getD a "") } } := by
  rw [exported_axis g (h.wf hf) nm u a (h.frame.ndim ▸ ha), h.frame.dims, h.frame.units, h.frame.nAt]

/-- `exported_axis_same` field by field (comparing the fields of two such axes is cheap, comparing the records is not) -/
theorem exported_fields_same {f g : XFld α} (hf : f.WF) (h : SameField f g) (nm : String) (u : PyArg) (a : Nat)
    (ha : a < f.mesh.ndim) :
    ((exported g nm u).axes.getD a default).name = f.mesh.region.dims.getD a "" ∧
    ((exported g nm u).axes.getD a default).units = some (f.mesh.region.units.getD a "") ∧
    ((exported g nm u).axes.getD a default).values.length = f.mesh.nAt a ∧
    ∀ j, j < f.mesh.nAt a → ((exported g nm u).axes.getD a default).values.getD j 0 = g.mesh.centreAx a (j : Int) := by
  rw [exported_axis_same hf h nm u a ha]
  exact ⟨rfl, rfl, tab_length _ _, fun j hj => getD_tab _ _ _ _ hj⟩

end
end DFV.C17
