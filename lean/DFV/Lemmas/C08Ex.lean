import DFV.Model.C08
/-! Concrete instances used by the non-vacuity `example`s of `Props/C08.lean`. -/
namespace DFV.C08
open DFV

/-- two input fields on a 2×3 mesh -/
def exEnv : Nat → Mask := fun k =>
  if k = 0 then NDA.ofList [2, 3] [true, false, true, true, true, false] false
  else NDA.ofList [2, 3] [true, true, false, true, false, false] false

/-- flat C-order listing of an evaluation result (`none` = rejected) -/
def run (p : Prog) : Option (List Nat × List Bool) :=
  match eval exEnv p with
  | .ok m => some (m.shape, m.toList)
  | .error _ => none

/-- a 3-d input for the VTK round trip -/
def exEnv3 : Nat → Mask := fun _ => NDA.ofList [2, 1, 2] [true, false, false, true] false

def exFld : Fld :=
  { mesh := { region := { pmin := [0, 0], pmax := [2, 1], dims := ["x", "y"], units := ["m", "m"], tol := 0 },
              n := [2, 1], bc := "", subs := [] },
    nvdim := 2,
    data := NDA.ofList [2, 1] [[3 / 1000000000, 4 / 1000000000], [6 / 1000000000, 9 / 1000000000]] [],
    valid := NDA.const [2, 1] true, vdims := none, vmap := [], unit := none }

end DFV.C08
