import DFV.Lemmas.C12Obj
import DFV.Lemmas.NDA
import DFV.Lemmas.Field
import DFV.Model.C12Ctor
/-! Cell values under quarter turns: the two mapped components are distinct positions of every value (value invariant
`FldVInv`; which label of an axis is the mapped one: `Fld.rDim_last` of `Lemmas/Field.lean`), hence `turnVal` composes;
every turned component is a component or its negative; the field constructor's setters establish what `FldVInv` asks. -/
namespace DFV.T
open DFV DFV.C14

/-! ## vector values: the two mapped components are distinct positions inside the value -/

theorem nodup_fst_inj {α β} (l : List (α × β)) (h : (l.map (·.1)).Nodup) (p q : α × β) (hp : p ∈ l) (hq : q ∈ l)
    (e : p.1 = q.1) : p = q := by
  induction l with
  | nil => cases hp
  | cons x xs ih =>
    rw [List.map_cons, List.nodup_cons] at h
    rcases List.mem_cons.mp hp with hp | hp <;> rcases List.mem_cons.mp hq with hq | hq
    · rw [hp, hq]
    · exfalso; apply h.1; rw [hp] at e; rw [e]; exact List.mem_map_of_mem hq
    · exfalso; apply h.1; rw [hq] at e; rw [← e]; exact List.mem_map_of_mem hp
    · exact ih h.2 hp hq

theorem mapped_inv (f : Fld) (a : String) (c : Nat) (h : (f.rDim a).bind f.vdimIndex = some c) :
    ∃ p vs, p ∈ f.vmap ∧ p.2 = a ∧ f.vdims = some vs ∧ c < vs.length ∧ vs.getD c "" = p.1 := by
  cases hr : f.rDim a with
  | none => rw [hr] at h; cases h
  | some l =>
    rw [hr, Option.bind_some] at h
    obtain ⟨pre, post, e, _⟩ := Fld.rDim_last f a l hr
    obtain ⟨vs, hv, hi⟩ := (Fld.vdimIndex_eq_some_iff f l c).mp h
    obtain ⟨hl, e'⟩ := indexOf?_some vs l c hi
    exact ⟨(l, a), vs, by rw [e]; exact List.mem_append_right _ List.mem_cons_self, rfl, hv, hl, e'⟩

/-- **the two mapped components are distinct in-range positions** of every cell value: the
component labels of two different axes are different keys of the mapping, hence different
positions in the label list, which is as long as the values are -/
theorem mapped_distinct (f : Fld) (hv : FldVInv f) (a1 a2 : String) (hne : a1 ≠ a2) (c1 c2 : Nat)
    (h1 : (f.rDim a1).bind f.vdimIndex = some c1) (h2 : (f.rDim a2).bind f.vdimIndex = some c2) :
    c1 ≠ c2 ∧ c1 < f.nvdim ∧ c2 < f.nvdim := by
  obtain ⟨p1, vs1, m1, e1, v1, l1, g1⟩ := mapped_inv f a1 c1 h1
  obtain ⟨p2, vs2, m2, e2, v2, l2, g2⟩ := mapped_inv f a2 c2 h2
  rw [v1] at v2; injection v2 with v2; subst v2
  have hl := hv.2.1 vs1 v1
  refine ⟨?_, hl ▸ l1, hl ▸ l2⟩
  intro e
  subst e
  have : p1 = p2 := nodup_fst_inj f.vmap hv.2.2 p1 p2 m1 m2 (g1.symm.trans g2)
  apply hne; rw [← e1, ← e2, this]

theorem turnVal_zero (f : Fld) (a1 a2 : String) (k : Int) (hk : k % 4 = 0) (v : List Rat) : turnVal f a1 a2 k v = v := by
  rcases turnVal_eq f a1 a2 with h | ⟨c1, c2, _, _, h⟩ <;> rw [h]
  exact rotVec_zero v c1 c2 k hk

/-- turning a value by `k` and then by `l` is turning it by `k + l`: the two mapped components are
distinct positions inside the value -/
theorem turnVal_compose (f : Fld) (hv : FldVInv f) (a1 a2 : String) (hne : a1 ≠ a2) (k l : Int) (v : List Rat)
    (hl : v.length = f.nvdim) : turnVal f a1 a2 l (turnVal f a1 a2 k v) = turnVal f a1 a2 (k + l) v := by
  rcases turnVal_eq f a1 a2 with h | ⟨c1, c2, m1, m2, h⟩ <;> rw [h, h, h]
  obtain ⟨n1, n2, n3⟩ := mapped_distinct f hv a1 a2 hne c1 c2 m1 m2
  exact rotVec_compose' v c1 c2 k l n1 (by rw [hl]; exact n2) (by rw [hl]; exact n3)

/-! ## the exact component rotation is closed under sign changes -/

/-- **closure**: a set of numbers closed under negation that contains every component of a value
contains every component of the turned value, for every `k` — no rounding is involved (the
model's matrix entries are exactly 0, 1, −1, as the code's are: repo commit 1656fb93) -/
theorem rotVec_closed (P : Rat → Prop) (hneg : ∀ x, P x → P (-x)) (v : List Rat) (c1 c2 : Nat) (k : Int)
    (h1 : c1 < v.length) (h2 : c2 < v.length) (hv : ∀ c, c < v.length → P (v.getD c 0)) (c : Nat) (hc : c < v.length) :
    P ((rotVec v c1 c2 k).getD c 0) := by
  have hs := hv _ (rotSrc_lt c1 c2 k c _ h1 h2 hc)
  rw [rotVec_signed _ _ _ _ _ hc]
  rcases rotSign_pm c1 c2 k c with e | e <;> rw [e]
  · rwa [one_mul]
  · rw [neg_one_mul]; exact hneg _ hs

theorem turnVal_closed (P : Rat → Prop) (hneg : ∀ x, P x → P (-x)) (f : Fld) (hv : FldVInv f) (a1 a2 : String) (hne : a1 ≠ a2)
    (k : Int) (v : List Rat) (hl : v.length = f.nvdim) (hP : ∀ c, c < v.length → P (v.getD c 0)) (c : Nat) (hc : c < v.length) :
    P ((turnVal f a1 a2 k v).getD c 0) := by
  rcases turnVal_eq f a1 a2 with h | ⟨c1, c2, m1, m2, h⟩ <;> rw [h]
  · exact hP c hc
  · obtain ⟨_, n2, n3⟩ := mapped_distinct f hv a1 a2 hne c1 c2 m1 m2
    exact rotVec_closed P hneg v c1 c2 k (by rw [hl]; exact n2) (by rw [hl]; exact n3) hP c hc

/-! ## what the setters run by the field constructor store -/

/-- what the `vdims` setter stores: nothing, or exactly `nvdim` pairwise different labels -/
theorem vdimsSet_ok (nvdim : Nat) (vd r : Option (List String)) (h : vdimsSet nvdim vd = .ok r) :
    ∀ vs, r = some vs → vs.length = nvdim ∧ vs.Nodup := by
  rintro vs rfl
  cases vd with
  | none =>
    obtain ⟨hl, hd⟩ := Fld.defaultVdims_ok nvdim vs (Except.ok.inj h)
    exact ⟨hl, (hasDup_false_iff_nodup vs).mp hd⟩
  | some l =>
    simp only [vdimsSet] at h
    split_ifs at h with c1 c2 c3 <;> cases h
    exact ⟨not_not.mp c2, (hasDup_false_iff_nodup _).mp (by simpa using c3)⟩

theorem mappedPairs_keys_sublist (mp : List (String × Option String)) :
    ((mappedPairs mp).map (·.1)).Sublist (mp.map (·.1)) := by
  induction mp with
  | nil => exact List.Sublist.slnil
  | cons p ps ih =>
    obtain ⟨k, v⟩ := p
    cases v with
    | none => exact List.Sublist.cons _ ih
    | some d => exact List.Sublist.cons_cons _ ih

theorem zip_keys_nodup (vs ds : List String) (h : vs.Nodup) : ((List.zip vs ds).map (·.1)).Nodup := by
  have : ((List.zip vs ds).map (·.1)).Sublist vs := by
    induction vs generalizing ds with
    | nil => simp
    | cons v vs ih =>
      cases ds with
      | nil => simp
      | cons d ds =>
        simp only [List.zip_cons_cons, List.map_cons]
        exact List.Sublist.cons_cons _ (ih ds (List.nodup_cons.mp h).2)
  exact this.nodup h

/-- what the `vdim_mapping` setter stores: nothing, or the labels zipped with the dimension names, or a list whose keys
are a rearrangement of the labels -/
theorem vmapSet_ok (mesh : Mesh) (nvdim : Nat) (vs : Option (List String)) (vm : Option (List (String × Option String)))
    (mp : List (String × Option String)) (h : vmapSet mesh nvdim vs vm = .ok mp) :
    mp = [] ∨ (∃ l, vs = some l ∧ mp = (List.zip l mesh.region.dims).map fun p => (p.1, some p.2)) ∨
      ∃ l, vs = some l ∧ (mp.map (·.1)).Perm l := by
  cases vm with
  | none =>
    simp only [vmapSet] at h
    split_ifs at h with c1 c2
    · exact .inl (Except.ok.inj h).symm
    · cases vs with
      | none => exact .inl (Except.ok.inj h).symm
      | some l => exact .inr (.inl ⟨l, rfl, (Except.ok.inj h).symm⟩)
    · exact .inl (Except.ok.inj h).symm
  | some m0 =>
    simp only [vmapSet] at h
    split_ifs at h with c1 c2
    · exact .inl (Except.ok.inj h).symm
    · cases vs with
      | none => cases h
      | some l =>
        simp only at h
        split_ifs at h with c3
        · obtain rfl := Except.ok.inj h
          exact .inr (.inr ⟨l, rfl, List.isPerm_iff.mp c3⟩)
    · obtain rfl := Except.ok.inj h
      exact .inl (List.length_eq_zero_iff.mp (Nat.eq_zero_of_not_pos c2))

/-- hence a dictionary: its keys are pairwise different -/
theorem vmapSet_keys (mesh : Mesh) (nvdim : Nat) (vs : Option (List String)) (vm : Option (List (String × Option String)))
    (mp : List (String × Option String)) (hvs : ∀ l, vs = some l → l.Nodup) (h : vmapSet mesh nvdim vs vm = .ok mp) :
    (mp.map (·.1)).Nodup := by
  rcases vmapSet_ok mesh nvdim vs vm mp h with rfl | ⟨l, hl, rfl⟩ | ⟨l, hl, hp⟩
  · exact List.nodup_nil
  · rw [List.map_map]; exact zip_keys_nodup l _ (hvs l hl)
  · exact hp.nodup_iff.mpr (hvs l hl)

/-- `Field.__init__` on arrays, as an equivalence: the four checks, the two setters, the record -/
theorem mkFld?_ok_iff (mesh : Mesh) (nvdim : Nat) (value : NDA (List Rat)) (valid : NDA Bool) (vdims : Option (List String))
    (vmap : Option (List (String × Option String))) (unit : Option String) (f : Fld) :
    mkFld? mesh nvdim value valid vdims vmap unit = .ok f ↔
      1 ≤ nvdim ∧ value.shape = mesh.n ∧ (∀ j ∈ indicesC mesh.n, (value.get j).length = nvdim) ∧ valid.shape = mesh.n ∧
      ∃ vs mp, vdimsSet nvdim vdims = .ok vs ∧ vmapSet mesh nvdim vs vmap = .ok mp ∧
        f = { mesh := mesh, nvdim := nvdim, data := value, valid := valid, vdims := vs, vmap := mappedPairs mp, unit := unit } := by
  unfold mkFld?
  split_ifs with h1 h2 h3 h4
  · exact ⟨fun h => (nomatch h), fun ⟨a, _⟩ => absurd a (by omega)⟩
  · exact ⟨fun h => (nomatch h), fun ⟨_, a, _⟩ => absurd a h2⟩
  · refine ⟨fun h => (nomatch h), fun ⟨_, _, a, _⟩ => ?_⟩
    rw [Bool.not_eq_true', List.all_eq_false] at h3
    obtain ⟨j, hj, hne⟩ := h3
    exact absurd (decide_eq_true (a j hj)) hne
  · exact ⟨fun h => (nomatch h), fun ⟨_, _, _, a, _⟩ => absurd a h4⟩
  · have hall : ((indicesC mesh.n).all fun j => decide ((value.get j).length = nvdim)) = true := by simpa using h3
    have a3 : ∀ j ∈ indicesC mesh.n, (value.get j).length = nvdim := fun j hj =>
      of_decide_eq_true (List.all_eq_true.mp hall j hj)
    constructor
    · intro h
      cases hv : vdimsSet nvdim vdims with
      | error e => rw [hv] at h; cases h
      | ok vs =>
        rw [hv] at h
        dsimp only at h  -- reduces the `match` on `Except.ok vs`; `rw [hm]` does not see the call under it otherwise
        cases hm : vmapSet mesh nvdim vs vmap with
        | error e => rw [hm] at h; cases h
        | ok mp =>
          rw [hm] at h
          exact ⟨not_lt.mp h1, not_not.mp h2, a3, not_not.mp h4, vs, mp, rfl, hm, (Except.ok.inj h).symm⟩
    · rintro ⟨_, _, _, _, vs, mp, hv, hm, rfl⟩
      rw [hv]
      dsimp only
      rw [hm]

end DFV.T
