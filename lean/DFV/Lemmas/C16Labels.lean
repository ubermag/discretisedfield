import DFV.Lemmas.C16Grid

/-! `to_vtk`'s cell data for ANY distinct component labels, also labels that collide with the
fixed array names `norm` / `field` / `valid` (`AddArray` replaces by name): the names stay distinct,
`GetArray("field")` / `("valid")` are the vector array / the flags, `GetArray(l)` is the scalar of
label `l` unless `l` is one of those two, and the label names a reader finds are the labels that
are no fixed name.  The default labels are never fixed names. -/

namespace DFV.C16
open DFV DFV.Mesh

/-! ## `AddArray` on lists with distinct names -/

def names (l : List VArr) : List String := l.map fun a => a.name

/-- `AddArray` on the names only: a present name stays in place, a fresh one is appended -/
def addName (ns : List String) (s : String) : List String := if s ∈ ns then ns else ns ++ [s]

theorem names_addArray (l : List VArr) (a : VArr) : names (addArray l a) = addName (names l) a.name := by
  induction l with
  | nil => simp [addArray, names, addName]
  | cons b bs ih =>
    simp only [addArray]
    by_cases hb : b.name = a.name
    · rw [if_pos hb]
      simp [names, addName, hb]
    · rw [if_neg hb]
      show b.name :: names (addArray bs a) = addName (b.name :: names bs) a.name
      rw [ih]
      unfold addName
      by_cases hm : a.name ∈ names bs
      · rw [if_pos hm, if_pos (List.mem_cons_of_mem _ hm)]
      · rw [if_neg hm, if_neg (by simp only [List.mem_cons, not_or]; exact ⟨fun e => hb e.symm, hm⟩)]
        rfl

theorem names_addArray_nodup (l : List VArr) (a : VArr) (h : (names l).Nodup) : (names (addArray l a)).Nodup := by
  rw [names_addArray, addName]
  split
  · exact h
  · rename_i hm
    rw [List.nodup_append]
    refine ⟨h, by simp, ?_⟩
    intro x hx y hy
    simp only [List.mem_singleton] at hy
    subst hy
    intro e; subst e; exact hm hx

/-- `lastNamed` from the left, the direction of `AddArray` (from the right, the direction of the reader's name
loop: `lastNamed_snoc` in `C16Reader`) -/
theorem lastNamed_cons (nm : String) (b : VArr) (l : List VArr) :
    lastNamed nm (b :: l) = match lastNamed nm l with
      | some y => some y
      | none => if b.name = nm then some b else none := by
  unfold lastNamed
  by_cases hb : b.name = nm
  · rw [List.filter_cons_of_pos (by simpa using hb), List.getLast?_cons, if_pos hb]
    cases (List.filter (fun a => a.name == nm) l).getLast? <;> rfl
  · rw [List.filter_cons_of_neg (by simpa using hb), if_neg hb]
    cases (List.filter (fun a => a.name == nm) l).getLast? <;> rfl

theorem lastNamed_none_of_not_mem (nm : String) (l : List VArr) (h : ¬ nm ∈ names l) : lastNamed nm l = none := by
  unfold lastNamed
  have : l.filter (fun a => a.name == nm) = [] := by
    rw [List.filter_eq_nil_iff]
    intro a ha hn
    apply h
    simp only [names, List.mem_map]
    exact ⟨a, ha, by simpa using hn⟩
  rw [this]; rfl

/-- `AddArray` on a list with distinct names: afterwards the array called `a.name` is `a`, every
other name still finds what it found before -/
theorem lastNamed_addArray (l : List VArr) (a : VArr) (nm : String) (h : (names l).Nodup) :
    lastNamed nm (addArray l a) = if a.name = nm then some a else lastNamed nm l := by
  induction l with
  | nil =>
    simp only [addArray]
    rw [lastNamed_cons]
    simp [lastNamed]
  | cons b bs ih =>
    obtain ⟨hbn, hnd⟩ := List.nodup_cons.mp (show (b.name :: names bs).Nodup from h)
    simp only [addArray]
    by_cases hb : b.name = a.name
    · rw [if_pos hb, lastNamed_cons, lastNamed_cons]
      by_cases hn : a.name = nm
      · have hno : lastNamed nm bs = none := lastNamed_none_of_not_mem nm bs (by rw [← hn, ← hb]; exact hbn)
        rw [hno, if_pos hn]
        simp [hn]
      · rw [if_neg hn]
        have : ¬ b.name = nm := by rw [hb]; exact hn
        simp [hn, this]
    · rw [if_neg hb, lastNamed_cons, ih hnd, lastNamed_cons]
      by_cases hn : a.name = nm
      · simp [hn]
      · simp [hn]

theorem find_eq_lastNamed (l : List VArr) (nm : String) (h : (names l).Nodup) :
    l.find? (fun a => a.name == nm) = lastNamed nm l := by
  induction l with
  | nil => rfl
  | cons b bs ih =>
    obtain ⟨hbn, hnd⟩ := List.nodup_cons.mp (show (b.name :: names bs).Nodup from h)
    rw [lastNamed_cons, List.find?_cons]
    by_cases hb : b.name = nm
    · have : (b.name == nm) = true := by simpa using hb
      rw [this, lastNamed_none_of_not_mem nm bs (by rw [← hb]; exact hbn), if_pos hb]
    · have : (b.name == nm) = false := by simpa using hb
      rw [this, ih hnd, if_neg hb]
      cases lastNamed nm bs <;> rfl

theorem labelNames_eq_filter (l : List VArr) : labelNames l = (names l).filter isLabelName := by
  unfold labelNames names
  rw [List.filter_map]
  rfl

/-! ## the loop over the labels -/

theorem names_compArrays (mk : String → VArr) (hmk : ∀ l, (mk l).name = l) (ws : List String) (acc : List VArr) :
    names (ws.foldl (fun acc lbl => addArray acc (mk lbl)) acc) = ws.foldl addName (names acc) := by
  induction ws generalizing acc with
  | nil => rfl
  | cons w ws ih =>
    simp only [List.foldl_cons]
    rw [ih, names_addArray, hmk]

theorem nodup_compArrays (mk : String → VArr) (ws : List String) (acc : List VArr) (h : (names acc).Nodup) :
    (names (ws.foldl (fun acc lbl => addArray acc (mk lbl)) acc)).Nodup := by
  induction ws generalizing acc with
  | nil => exact h
  | cons w ws ih =>
    simp only [List.foldl_cons]
    exact ih _ (names_addArray_nodup acc _ h)

theorem lastNamed_compArrays (mk : String → VArr) (hmk : ∀ l, (mk l).name = l) (ws : List String) (acc : List VArr)
    (hacc : (names acc).Nodup) (nm : String) :
    lastNamed nm (ws.foldl (fun acc lbl => addArray acc (mk lbl)) acc) = if nm ∈ ws then some (mk nm) else lastNamed nm acc := by
  induction ws generalizing acc with
  | nil => simp
  | cons w ws ih =>
    simp only [List.foldl_cons]
    rw [ih _ (names_addArray_nodup acc _ hacc), lastNamed_addArray _ _ _ hacc, hmk]
    by_cases h1 : nm ∈ ws
    · have : nm ∈ w :: ws := List.mem_cons_of_mem _ h1
      rw [if_pos h1, if_pos this]
    · rw [if_neg h1]
      by_cases h2 : w = nm
      · subst h2
        rw [if_pos rfl, if_pos (by simp)]
      · have : ¬ nm ∈ w :: ws := by
          simp only [List.mem_cons, not_or]
          exact ⟨fun e => h2 e.symm, h1⟩
        rw [if_neg h2, if_neg this]

theorem filter_addName (p : String → Bool) (ns : List String) (s : String) :
    (addName ns s).filter p = if s ∈ ns then ns.filter p else ns.filter p ++ (if p s then [s] else []) := by
  unfold addName
  split
  · rfl
  · rw [List.filter_append]
    by_cases hp : p s = true <;> simp [List.filter, hp]

theorem filter_foldl_addName (p : String → Bool) (ws ns : List String) (hnd : ws.Nodup)
    (hdis : ∀ w ∈ ws, p w = true → ¬ w ∈ ns) :
    (ws.foldl addName ns).filter p = ns.filter p ++ ws.filter p := by
  induction ws generalizing ns with
  | nil => simp
  | cons w ws ih =>
    obtain ⟨hw, hnd'⟩ := List.nodup_cons.mp hnd
    simp only [List.foldl_cons]
    by_cases hm : w ∈ ns
    · have hpw : p w = false := by
        cases hp : p w with
        | false => rfl
        | true => exact absurd hm (hdis w (by simp) hp)
      have e : addName ns w = ns := by unfold addName; rw [if_pos hm]
      rw [e, ih ns hnd' (fun x hx => hdis x (by simp [hx]))]
      simp [List.filter, hpw]
    · rw [ih (addName ns w) hnd' (by
        intro x hx hpx
        unfold addName
        rw [if_neg hm]
        simp only [List.mem_append, List.mem_singleton, not_or]
        exact ⟨hdis x (by simp [hx]) hpx, fun e => hw (e ▸ hx)⟩)]
      rw [filter_addName, if_neg hm]
      by_cases hp : p w = true
      · simp [List.filter, hp]
      · have hp' : p w = false := by simpa using hp
        simp [List.filter, hp']

theorem filter_label_fixed (ns : List String) (s : String) (hs : isLabelName s = false) :
    (addName ns s).filter isLabelName = ns.filter isLabelName := by
  rw [filter_addName]
  split
  · rfl
  · simp [hs]

/-! ## the parts of the cell data, for any distinct labels -/

/-- the cell data before `field` and `valid` are added -/
def preData (f : Fld) : List VArr :=
  if 1 < f.nvdim then compArrays f (f.vdims.getD []) (addArray [] (normVArr f)) else addArray [] (normVArr f)

theorem cellData_pre (f : Fld) : cellData f = addArray (addArray (preData f) (fieldVArr f)) (validVArr f) := rfl

theorem preData_nodup (f : Fld) : (names (preData f)).Nodup := by
  unfold preData
  have h0 : (names (addArray [] (normVArr f))).Nodup := by simp [addArray, names]
  split
  · exact nodup_compArrays _ _ _ h0
  · exact h0

theorem cellData_nodup (f : Fld) : (names (cellData f)).Nodup := by
  rw [cellData_pre]
  exact names_addArray_nodup _ _ (names_addArray_nodup _ _ (preData_nodup f))

theorem preData_labels (f : Fld) (vs : List String) (hnv : 1 < f.nvdim) (hvs : f.vdims = some vs) (hd : hasDup vs = false) :
    (names (preData f)).filter isLabelName = vs.filter isLabelName := by
  unfold preData
  rw [if_pos hnv, hvs]
  simp only [Option.getD_some]
  unfold compArrays
  rw [names_compArrays (compVArr f vs) (compVArr_name f vs)]
  rw [filter_foldl_addName isLabelName vs _ ((hasDup_false_iff_nodup vs).mp hd) (by
    intro w _ hp
    simp only [addArray, names, List.map_cons, List.map_nil, List.mem_singleton]
    intro e
    have : w = "norm" := e
    subst this
    simp [isLabelName] at hp)]
  simp [addArray, names, normVArr, isLabelName, List.filter]

theorem cellData_field (f : Fld) : lastNamed "field" (cellData f) = some (fieldVArr f) := by
  rw [cellData_pre, lastNamed_addArray _ _ _ (names_addArray_nodup _ _ (preData_nodup f))]
  have : ¬ (validVArr f).name = "field" := by simp [validVArr]
  rw [if_neg this, lastNamed_addArray _ _ _ (preData_nodup f)]
  simp [fieldVArr]

theorem cellData_valid (f : Fld) : lastNamed "valid" (cellData f) = some (validVArr f) := by
  rw [cellData_pre, lastNamed_addArray _ _ _ (names_addArray_nodup _ _ (preData_nodup f))]
  simp [validVArr]

theorem cellData_nonempty (f : Fld) : (cellData f).isEmpty = false := by
  have h := cellData_field f
  cases hc : cellData f with
  | nil => rw [hc] at h; simp [lastNamed] at h
  | cons a l => rfl

/-- `GetArray(l)` for a label `l` of a field with several components: the component's scalar
array unless `l` is `field` or `valid` (then the vector array / the flags) -/
theorem cellData_label (f : Fld) (hnv : 1 < f.nvdim) (vs : List String)
    (hvs : f.vdims = some vs) (l : String) (hl : l ∈ vs) (h1 : l ≠ "field") (h2 : l ≠ "valid") :
    (cellData f).find? (fun a => a.name == l) = some (compVArr f vs l) := by
  rw [find_eq_lastNamed _ _ (cellData_nodup f), cellData_pre,
    lastNamed_addArray _ _ _ (names_addArray_nodup _ _ (preData_nodup f))]
  have n1 : ¬ (validVArr f).name = l := fun e => h2 e.symm
  rw [if_neg n1, lastNamed_addArray _ _ _ (preData_nodup f)]
  have n2 : ¬ (fieldVArr f).name = l := fun e => h1 e.symm
  rw [if_neg n2]
  unfold preData
  rw [if_pos hnv, hvs]
  simp only [Option.getD_some]
  unfold compArrays
  rw [lastNamed_compArrays (compVArr f vs) (compVArr_name f vs) vs _ (by simp [addArray, names]) l, if_pos hl]

/-- **the label names a reader finds in the grid**: the labels that are not `norm`, `field` or
`valid`, in order (none for a one-component field) -/
theorem cellData_labels (f : Fld) (nx ny nz : Nat) (h : WFc f nx ny nz) :
    labelNames (cellData f) = if 1 < f.nvdim then (f.vdims.getD []).filter isLabelName else [] := by
  rw [labelNames_eq_filter, cellData_pre, names_addArray, names_addArray,
    filter_label_fixed _ (validVArr f).name (show isLabelName "valid" = false by decide),
    filter_label_fixed _ (fieldVArr f).name (show isLabelName "field" = false by decide)]
  by_cases hnv : 1 < f.nvdim
  · obtain ⟨vs, hvs, _, hd⟩ := h.labels hnv
    rw [if_pos hnv, preData_labels f vs hnv hvs hd, hvs]
    rfl
  · rw [if_neg hnv]
    unfold preData
    rw [if_neg hnv]
    simp [addArray, names, normVArr, isLabelName, List.filter]

/-! ## the default labels are never fixed names -/

theorem vi_tail (i : Nat) : ∀ c ∈ (s!"v{i}").toList.tail, c.isDigit = true := by
  show ∀ c ∈ (toString "v" ++ toString i).toList.tail, c.isDigit = true
  rw [String.toList_append]
  intro c hc
  have : (toString "v").toList = ['v'] := rfl
  rw [this] at hc
  simp only [List.singleton_append, List.tail_cons] at hc
  have e : (toString i).toList = Nat.toDigits 10 i := Nat.toList_repr
  rw [e] at hc
  exact Nat.isDigit_of_mem_toDigits (by decide) (by decide) hc

/-- after its first character `v{i}` has digits only, `field`, `valid`, `norm` have a letter there: the default labels
are no fixed array names -/
theorem vi_ne (i : Nat) (s : String) (c : Char) (hc : c ∈ s.toList.tail) (hd : c.isDigit = false) : s!"v{i}" ≠ s := by
  intro h
  rw [← h] at hc
  have := vi_tail i c hc
  rw [hd] at this
  cases this

theorem default_labels_plain (nv : Nat) (vs : List String) (h : Fld.defaultVdims nv = some vs) :
    ∀ l ∈ vs, isLabelName l = true := by
  obtain ⟨_, rfl⟩ := (Fld.defaultVdims_eq_some_iff nv vs).mp h
  intro l hl
  split at hl
  · have := List.mem_of_mem_take hl
    simp only [List.mem_cons, List.mem_nil_iff, or_false] at this
    rcases this with rfl | rfl | rfl <;> decide
  · obtain ⟨i, _, rfl⟩ := List.mem_map.mp hl
    have a := vi_ne i "field" 'i' (by decide) (by decide)
    have b := vi_ne i "valid" 'a' (by decide) (by decide)
    have c := vi_ne i "norm" 'o' (by decide) (by decide)
    unfold isLabelName
    simp only [bne_iff_ne, ne_eq, Bool.and_eq_true]
    exact ⟨⟨a, b⟩, c⟩

end DFV.C16
