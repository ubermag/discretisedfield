import Mathlib.RingTheory.RootsOfUnity.Complex
import DFV.Lemmas.C11Arr
import DFV.Lemmas.C11Poly
import DFV.Lemmas.C11Field
/-!
C11: the hypotheses of the value theorems are satisfiable over ℂ.  `exp(-2πi/n)` is a root in the
sense of `IsRoot` for every `n ≥ 1` and complex conjugation satisfies `IsConj`/`ConjRoots`; with
these roots the phase factors `phase`, `phaseR` ARE `exp(-2πi k·r)` for a rational `k·r`; the
evaluation the harness uses (rationals into ℂ, `I ↦ i`, `ζ_a ↦ exp(-2πi/n_a)`) satisfies every
hypothesis of the evaluation theorems and sends the driver's formal roots to these complex roots.
-/
namespace DFV.C11
open DFV Complex

/-- `sumN` is the `Finset` sum over `range n`: the bridge to Mathlib's sums -/
theorem sumN_eq_finset {R : Type} [CommRing R] (n : Nat) (f : Nat → R) :
    sumN n f = ∑ i ∈ Finset.range n, f i := by
  induction n with
  | zero => simp [sumN]
  | succ n ih => rw [Finset.sum_range_succ, ← ih]; rfl

/-- the root structure of `exp(-2πi/n)` in ℂ -/
noncomputable def cRoot (n : Nat) : Root ℂ :=
  ⟨cexp (-(2 * Real.pi * I / n)), cexp (2 * Real.pi * I / n), 1 / (n : ℂ)⟩

/-- `exp(-2πi/n)` satisfies every hypothesis of the value theorems, for every `n ≥ 1` -/
theorem cRoot_isRoot (n : Nat) (hn : 0 < n) : IsRoot n (cRoot n) := by
  have hn0 : (n : ℂ) ≠ 0 := by exact_mod_cast (Nat.pos_iff_ne_zero.mp hn)
  have hprim := Complex.isPrimitiveRoot_exp n (Nat.pos_iff_ne_zero.mp hn)
  have hinv : cexp (-(2 * Real.pi * I / n)) = (cexp (2 * Real.pi * I / n))⁻¹ := by rw [Complex.exp_neg]
  have hprim' : IsPrimitiveRoot (cexp (-(2 * Real.pi * I / n))) n := by rw [hinv]; exact hprim.inv
  refine ⟨?_, ?_, ?_, ?_⟩
  · exact hprim'.pow_eq_one
  · show cexp (-(2 * Real.pi * I / n)) * cexp (2 * Real.pi * I / n) = 1
    rw [← Complex.exp_add]; simp
  · show 1 / (n : ℂ) * (n : ℂ) = 1
    field_simp
  · intro k hk hkn
    show sumN n (fun j => cexp (-(2 * Real.pi * I / n)) ^ (j * k)) = 0
    rw [sumN_eq_finset]
    generalize cexp (-(2 * Real.pi * I / n)) = w at hprim' ⊢
    -- geometric sum: `(Σ_i (w^k)^i)·(w^k - 1) = (w^k)^n - 1 = 0`, and `w^k ≠ 1` for `0 < k < n` since `w` is primitive
    have hne : w ^ k ≠ 1 := by
      intro h
      have := hprim'.dvd_of_pow_eq_one k h
      exact absurd (Nat.le_of_dvd hk this) (by omega)
    have hgeom : (∑ i ∈ Finset.range n, (w ^ k) ^ i) * (w ^ k - 1) = (w ^ k) ^ n - 1 := geom_sum_mul _ _
    have hz : (w ^ k) ^ n = 1 := by
      rw [← pow_mul, Nat.mul_comm, pow_mul, hprim'.pow_eq_one, one_pow]
    rw [hz, sub_self] at hgeom
    have hsum : ∑ i ∈ Finset.range n, (w ^ k) ^ i = 0 := by
      rcases mul_eq_zero.mp hgeom with h | h
      · exact h
      · exact absurd (sub_eq_zero.mp h) hne
    rw [← hsum]
    apply Finset.sum_congr rfl
    intro i _
    rw [← pow_mul, Nat.mul_comm]

theorem cRoots (ns : List Nat) (h : ∀ n ∈ ns, 0 < n) : Roots ns (ns.map cRoot) :=
  (Roots_iff _ _).mpr fun a ha => by
    rw [rootAt_map ns cRoot 0 a ha]; exact cRoot_isRoot _ (h _ (getD_mem ns a 0 ha))

theorem conj_isConj : IsConj (starRingEnd ℂ) :=
  ⟨map_zero _, map_one _, map_add _, map_mul _⟩

theorem cConjRoots (ns : List Nat) : ConjRoots (starRingEnd ℂ) ns (ns.map cRoot) :=
  (ConjRoots_iff _ _ _).mpr fun a ha => by
    rw [rootAt_map ns cRoot 0 a ha]
    simp only [cRoot]
    rw [← Complex.exp_conj]
    congr 1
    simp only [map_neg, map_div₀, map_mul, Complex.conj_ofReal, Complex.conj_I, map_ofNat, map_natCast]
    ring

/-! ### the phase factors as complex exponentials -/

/-- `Σ_a (m_a - ⌊n_a/2⌋)·r_a / n_a` : the dot product of the centre of k-cell `m` of the full
transform with the position of cell `r` counted from the first cell (`kr_is_k_dot_r` in Props) -/
def kr : List Nat → List Nat → List Nat → ℚ
  | [], _, _ => 0
  | n :: ns, m, r => (((m.headD 0 : ℚ) - ((n / 2 : Nat) : ℚ)) * (r.headD 0 : ℚ)) / (n : ℚ) + kr ns m.tail r.tail

/-- the same for the real transform: the last axis is not shifted -/
def krR : List Nat → List Nat → List Nat → ℚ
  | [], _, _ => 0
  | n :: ns, m, r =>
    (if ns = [] then ((m.headD 0 : ℚ) * (r.headD 0 : ℚ)) / (n : ℚ)
     else (((m.headD 0 : ℚ) - ((n / 2 : Nat) : ℚ)) * (r.headD 0 : ℚ)) / (n : ℚ)) + krR ns m.tail r.tail

theorem cRoot_pow (n : Nat) (hn : 0 < n) (a b : Nat) :
    (cRoot n).w ^ a * (cRoot n).wi ^ b
      = cexp (-(2 * Real.pi * I) * (((((a : ℚ) - (b : ℚ)) / (n : ℚ) : ℚ)) : ℂ)) := by
  have hn0 : (n : ℂ) ≠ 0 := by exact_mod_cast (Nat.pos_iff_ne_zero.mp hn)
  simp only [cRoot]
  rw [← Complex.exp_nat_mul, ← Complex.exp_nat_mul, ← Complex.exp_add]
  congr 1
  push_cast
  field_simp
  ring

theorem kr_eq_sumN (ns m r : List Nat) :
    kr ns m r = sumN ns.length fun a =>
      (((m.getD a 0 : ℚ) - ((ns.getD a 0 / 2 : Nat) : ℚ)) * (r.getD a 0 : ℚ)) / (ns.getD a 0 : ℚ) := by
  induction ns generalizing m r with
  | nil => rfl
  | cons n ns ih =>
    rw [List.length_cons, sumN_succ_front, kr, ih]
    cases m <;> cases r <;> rfl

theorem krR_eq_sumN (ns m r : List Nat) :
    krR ns m r = sumN ns.length fun a =>
      if a + 1 = ns.length then ((m.getD a 0 : ℚ) * (r.getD a 0 : ℚ)) / (ns.getD a 0 : ℚ)
      else (((m.getD a 0 : ℚ) - ((ns.getD a 0 / 2 : Nat) : ℚ)) * (r.getD a 0 : ℚ)) / (ns.getD a 0 : ℚ) := by
  induction ns generalizing m r with
  | nil => rfl
  | cons n ns ih =>
    rw [List.length_cons, sumN_succ_front, krR, ih]
    simp only [headD_eq_getD, getD_tail, List.getD_cons_zero, List.getD_cons_succ, Nat.add_right_cancel_iff,
      List.length_eq_zero_iff.symm, eq_comm (a := 0)]

/-- a product of exponentials over the axes is the exponential of the sum -/
theorem prodN_cexp (d : Nat) (c : ℂ) (q : Nat → ℚ) :
    prodN d (fun a => cexp (c * ((q a : ℚ) : ℂ))) = cexp (c * ((sumN d q : ℚ) : ℂ)) := by
  induction d with
  | zero => simp [prodN, sumN]
  | succ d ih => rw [prodN, ih, ← Complex.exp_add, sumN]; push_cast; ring_nf

/-! The four theorems that follow are the four instances of `prodN_cexp`: the phases `phase` (all axes shifted) and
`phaseR` (last axis not shifted), each at the roots `cRoot` and at the inverse roots; in each the ring-side phase is a
`prodN` of powers of `cRoot` (`phase_eq_prodN`, `phaseR_eq_prodN`) and `k·r` a `sumN` (`kr_eq_sumN`, `krR_eq_sumN`). -/

/-- **over ℂ the phase of `fftn_is_dft` is `exp(-2πi k·r)`** -/
theorem phase_complex (ns : List Nat) (h : ∀ n ∈ ns, 0 < n) (m r : List Nat) :
    phase (ns.map cRoot) ns m r = cexp (-(2 * Real.pi * I) * ((kr ns m r : ℚ) : ℂ)) := by
  rw [phase_eq_prodN, kr_eq_sumN, ← prodN_cexp]
  refine prodN_congr _ _ _ fun a ha => ?_
  rw [rootAt_map ns cRoot 0 a ha, cRoot_pow _ (h _ (getD_mem ns a 0 ha))]
  congr 3
  push_cast
  ring

/-- **over ℂ the phase of `rfftn_is_dft` is `exp(-2πi k·r)`** (last axis unshifted) -/
theorem phaseR_complex (ns : List Nat) (h : ∀ n ∈ ns, 0 < n) (m r : List Nat) :
    phaseR (ns.map cRoot) ns m r = cexp (-(2 * Real.pi * I) * ((krR ns m r : ℚ) : ℂ)) := by
  rw [phaseR_eq_prodN, krR_eq_sumN, ← prodN_cexp]
  refine prodN_congr _ _ _ fun a ha => ?_
  have hp := cRoot_pow _ (h _ (getD_mem ns a 0 ha))
  rw [rootAt_map ns cRoot 0 a ha]
  split
  · rw [← mul_one (_ ^ _), ← pow_zero (cRoot (ns.getD a 0)).wi, hp]
    congr 3
    push_cast
    ring
  · rw [hp]
    congr 3
    push_cast
    ring

/-- the inverse roots: `exp(+2πi k·r)` -/
theorem phase_swap_complex (ns : List Nat) (h : ∀ n ∈ ns, 0 < n) (m r : List Nat) :
    phase ((ns.map cRoot).map Root.swap) ns m r = cexp ((2 * Real.pi * I) * ((kr ns m r : ℚ) : ℂ)) := by
  rw [phase_eq_prodN, kr_eq_sumN, ← prodN_cexp]
  refine prodN_congr _ _ _ fun a ha => ?_
  rw [rootAt_swap, rootAt_map ns cRoot 0 a ha, mul_comm]
  show (cRoot (ns.getD a 0)).w ^ _ * (cRoot (ns.getD a 0)).wi ^ _ = _
  rw [cRoot_pow _ (h _ (getD_mem ns a 0 ha))]
  congr 1
  push_cast
  ring

/-- the inverse roots, real transform: `exp(+2πi k·r)` with the last axis unshifted -/
theorem phaseR_swap_complex (ns : List Nat) (h : ∀ n ∈ ns, 0 < n) (m r : List Nat) :
    phaseR ((ns.map cRoot).map Root.swap) ns m r = cexp ((2 * Real.pi * I) * ((krR ns m r : ℚ) : ℂ)) := by
  rw [phaseR_eq_prodN, krR_eq_sumN, ← prodN_cexp]
  refine prodN_congr _ _ _ fun a ha => ?_
  have hp := cRoot_pow _ (h _ (getD_mem ns a 0 ha))
  rw [rootAt_swap, rootAt_map ns cRoot 0 a ha]
  split
  · show (cRoot (ns.getD a 0)).wi ^ _ = _
    rw [← one_mul (_ ^ _), ← pow_zero (cRoot (ns.getD a 0)).w, hp]
    congr 1
    push_cast
    ring
  · rw [mul_comm]
    show (cRoot (ns.getD a 0)).w ^ _ * (cRoot (ns.getD a 0)).wi ^ _ = _
    rw [hp]
    congr 1
    push_cast
    ring

/-! ### the harness's evaluation of the driver's formal arithmetic -/

/-- the harness's evaluation: `ζ_a ↦ exp(-2πi/n_a)` -/
noncomputable def cEv (ns : List Nat) : Ev ℂ :=
  ⟨Rat.castHom ℂ, Complex.I, Complex.I_mul_I, fun a => (cRoot (ns.getD a 1)).w⟩

theorem cEv_prim (ns : List Nat) (h : ∀ n ∈ ns, 0 < n) : PrimRoots (cEv ns) ns := by
  intro a ha
  have hp := h _ (getD_mem ns a 1 ha)
  have hr := cRoot_isRoot _ hp
  exact ⟨hp, hr.pow_n, hr.orth⟩

theorem cEv_root (ns : List Nat) (a : Nat) (hp : 0 < ns.getD a 1) :
    (cEv ns).root a (ns.getD a 1) = cRoot (ns.getD a 1) := by
  have hr := cRoot_isRoot _ hp
  have hwi := hr.wi_eq hp
  show (⟨(cRoot (ns.getD a 1)).w, (cRoot (ns.getD a 1)).w ^ (ns.getD a 1 - 1),
    ((1 / (ns.getD a 1 : ℚ) : ℚ) : ℂ)⟩ : Root ℂ) = cRoot (ns.getD a 1)
  rw [← hwi]
  simp [cRoot]

/-- the driver's formal roots, evaluated the harness's way, are the complex roots `cRoot n_a` -/
theorem cEv_roots (ns : List Nat) (h : ∀ n ∈ ns, 0 < n) : (cEv ns).roots ns = ns.map cRoot := by
  symm
  unfold Ev.roots
  apply eq_tab_of_getD _ _ _ ⟨1, 1, 1⟩ (by simp)
  intro a ha
  rw [cEv_root ns a (h _ (getD_mem ns a 1 ha))]
  simp [List.getD_eq_getElem?_getD, List.getElem?_eq_getElem ha]

theorem cEv_conj (ns : List Nat) (h : ∀ n ∈ ns, 0 < n) : (cEv ns).ConjOK (starRingEnd ℂ) ns.length := by
  refine ⟨conj_isConj, ?_, ?_, ?_⟩
  · intro x
    show (starRingEnd ℂ) ((x : ℚ) : ℂ) = ((x : ℚ) : ℂ)
    exact map_ratCast _ x
  · exact Complex.conj_I
  · intro a ha
    have hr := cRoot_isRoot _ (h _ (getD_mem ns a 1 ha))
    show (cRoot (ns.getD a 1)).w * (starRingEnd ℂ) (cRoot (ns.getD a 1)).w = 1
    have hc : (starRingEnd ℂ) (cRoot (ns.getD a 1)).w = (cRoot (ns.getD a 1)).wi := by
      have := cConjRoots [ns.getD a 1]
      exact this.1
    rw [hc]; exact hr.inv


/-! ### a k-space field for the non-vacuity examples of `Props/C11.lean` -/

/-- a complex 3-component k-space field that did NOT come from `fftn`: off-centre mesh, only some
names / labels / mapped axes carry a prefix (one of them twice), anisotropic cells, counts (3, 1, 2) -/
noncomputable def exK : CF ℂ :=
  { mesh := ⟨⟨[-1, 0, 3], [1, 2, 7/2], ["k_x", "y", "k_k_z"], ["(m)$^{-1}$", "nm", "s"], 1/1000000000000⟩,
             [3, 1, 2], "", []⟩,
    nvdim := 3, data := ⟨[3, 1, 2], fun i => [(i.getD 0 0 : ℂ), Complex.I, 2]⟩,
    vdims := some ["ft_a", "b", "ft_ft_c"], vmap := [("ft_a", "k_x"), ("b", "y"), ("ft_ft_c", "q")],
    unit := some "T" }

theorem exK_inv : CFInv exK :=
  ⟨C01.mesh_inv_of_invB _ (by decide +kernel), rfl, by decide,
    Or.inr ⟨["ft_a", "b", "ft_ft_c"], rfl, by simp, rfl, by decide +kernel, Or.inr rfl⟩⟩

end DFV.C11
