import DFV.Lemmas.C07Meta
import DFV.Lemmas.C07Resample
import DFV.Lemmas.C07Pad
/-! The field operations of C07 as one step function, histories, and the fact that every
operation ends in the same constructor call. -/
namespace DFV.C07
open DFV DFV.Mesh

/-- one field-returning operation of the property -/
inductive FOp where
  | sel (dim : String) (arg : SelArg)
  | get (item : Item)
  | pad (pw : List PadW) (mode : PadMode)
  | resample (n : List Int)

/-- apply one operation (a plane selection of a 1-d field returns a bare value, not a field:
it ends a history) -/
def applyOp (f : Fld) : FOp → M Fld
  | .sel dim arg =>
    match selFld f dim arg with
    | .ok (.field g) => .ok g
    | .ok (.values _) => .error .value
    | .error e => .error e
  | .get item => getItem f item
  | .pad pw mode => padFld f pw mode
  | .resample n => resample f n

/-- the mesh-level counterpart of an operation -/
def applyMeshOp (m : Mesh) : FOp → M Mesh
  | .sel dim arg => selMesh m dim arg
  | .get item => getMesh m item
  | .pad pw _ => padMesh m pw
  | .resample n => Mesh.mkN? m.region (n.map Int.toNat)

/-- a history of operations -/
def runOps (f : Fld) : List FOp → M Fld
  | [] => .ok f
  | op :: rest =>
    match applyOp f op with
    | .error e => .error e
    | .ok g => runOps g rest

theorem runOps_cons (f : Fld) (op : FOp) (rest : List FOp) (g : Fld) :
    runOps f (op :: rest) = .ok g ↔ ∃ g1, applyOp f op = .ok g1 ∧ runOps g1 rest = .ok g := by
  cases h1 : applyOp f op with
  | error e => simp only [runOps, h1]; exact ⟨fun h => (nomatch h), fun ⟨_, h, _⟩ => (nomatch h)⟩
  | ok g1 => simp only [runOps, h1, Except.ok.injEq, exists_eq_left']

theorem runOps_cons_ok (f g : Fld) (op : FOp) (rest : List FOp) (h : applyOp f op = .ok g) :
    runOps f (op :: rest) = runOps g rest := by
  simp only [runOps, h]

theorem selFld_ctor (f : Fld) (dim : String) (arg : SelArg) (g : Fld)
    (h : selFld f dim arg = .ok (.field g)) :
    ∃ m d v, selMesh f.mesh dim arg = .ok m ∧ mkFld m f d v = .ok g := by
  obtain ⟨a, s, m, hc, hm, hg⟩ := (selFld_field_iff f dim arg g).mp h
  exact ⟨m, _, _, (selMesh_ok_iff _ _ _ _).mpr ⟨a, s, hc, hm⟩, hg⟩

theorem applyOp_sel_iff (f : Fld) (dim : String) (arg : SelArg) (g : Fld) :
    applyOp f (.sel dim arg) = .ok g ↔ selFld f dim arg = .ok (.field g) := by
  cases hs : selFld f dim arg with
  | error e => simp only [applyOp, hs]; exact ⟨fun h => (nomatch h), fun h => (nomatch h)⟩
  | ok o =>
    cases o with
    | values v => simp only [applyOp, hs]; exact ⟨fun h => (nomatch h), fun h => (nomatch h)⟩
    | field g' => simp only [applyOp, hs, Except.ok.injEq, SelOut.field.injEq]

theorem applyOp_sel {f : Fld} {dim : String} {arg : SelArg} {g : Fld}
    (h : selFld f dim arg = .ok (.field g)) : applyOp f (.sel dim arg) = .ok g :=
  (applyOp_sel_iff f dim arg g).mpr h

/-- every operation ends in the constructor call, on the mesh its mesh-level counterpart returns -/
theorem applyOp_ctor (f : Fld) (op : FOp) (g : Fld) (h : applyOp f op = .ok g) :
    ∃ m d v, applyMeshOp f.mesh op = .ok m ∧ mkFld m f d v = .ok g := by
  cases op with
  | sel dim arg => exact selFld_ctor f dim arg g ((applyOp_sel_iff f dim arg g).mp h)
  | get item =>
    obtain ⟨sm, _, _, hsm, _, _, hg⟩ := (getItem_ok_iff f item g).mp h
    exact ⟨sm, _, _, hsm, hg⟩
  | pad pw mode =>
    obtain ⟨_, m, _, _, hm, hg⟩ := (padFld_ok_iff f pw mode g).mp h
    exact ⟨m, _, _, hm, hg⟩
  | resample n =>
    obtain ⟨hl, hpos, _, hmeta, rfl⟩ := (resample_ok_iff' f n g).mp h
    exact ⟨_, _, _, regrid_ok hl hpos, (mkFld_ok_iff _ _ _ _ _).mpr ⟨rfl, rfl, hmeta, rfl⟩⟩

end DFV.C07
