import DFV.Lemmas.C11Herm
/-!
C11: the four array transforms of the model (`fftnArr`, `ifftnArr`, `rfftnArr`, `irfftnArr`) and
the library-convention real inverse `irfftnArrNP`, cell by cell and component by component:
round trips, one-sum forms, Hermitian symmetry, realness, translation.
-/
namespace DFV.C11
open DFV

variable {R : Type} [CommRing R]

theorem fftnArr_get (ρs : List (Root R)) (nv : Nat) (a : NDA (List R)) (m : List Nat) (c : Nat) (hc : c < nv) :
    compA (fftnArr ρs nv a) c m = dftN ρs a.shape (compA a c) (fshift a.shape m) := by
  simp only [compA, fftnArr]; exact getD_tab _ _ _ _ hc

theorem rfftnArr_get (ρs : List (Root R)) (nv : Nat) (a : NDA (List R)) (m : List Nat) (c : Nat) (hc : c < nv) :
    compA (rfftnArr ρs nv a) c m = dftN ρs a.shape (compA a c) (fshiftR a.shape m) := by
  simp only [compA, rfftnArr]; exact getD_tab _ _ _ _ hc

theorem ifftnArr_get (ρs : List (Root R)) (nv : Nat) (a : NDA (List R)) (j : List Nat) (c : Nat) (hc : c < nv) :
    compA (ifftnArr ρs nv a) c j = idftN ρs a.shape (fun m => compA a c (ishift a.shape m)) j := by
  simp only [compA, ifftnArr]; exact getD_tab _ _ _ _ hc

theorem irfftnArr_get (conj : R → R) (ρs : List (Root R)) (nv : Nat) (s : List Nat) (a : NDA (List R))
    (j : List Nat) (c : Nat) (hc : c < nv) :
    compA (irfftnArr conj ρs nv s a) c j
      = idftN ρs s (hermExt conj s fun m => compA a c (ishiftR a.shape m)) j := by
  simp only [compA, irfftnArr]; exact getD_tab _ _ _ _ hc

/-- un-shifting the stored spectrum gives the transform in DFT order: `ifftshift(fftshift(fftn(a)))[k] = fftn(a)[k]` -/
theorem fftnArr_ishift (ρs : List (Root R)) (nv : Nat) (a : NDA (List R)) (k : List Nat)
    (hk : inRange a.shape k = true) (c : Nat) (hc : c < nv) :
    compA (fftnArr ρs nv a) c (ishift a.shape k) = dftN ρs a.shape (compA a c) k := by
  rw [fftnArr_get _ _ _ _ _ hc, fshift_ishift a.shape k hk]

/-- `ifftn(ifftshift(fftshift(fftn(a)))) = a` on every cell and component -/
theorem ifftn_fftn_arr (ρs : List (Root R)) (nv : Nat) (a : NDA (List R)) (hρ : Roots a.shape ρs)
    (j : List Nat) (hj : inRange a.shape j = true) (c : Nat) (hc : c < nv) :
    compA (ifftnArr ρs nv (fftnArr ρs nv a)) c j = compA a c j := by
  rw [ifftnArr_get _ _ _ _ _ hc]
  have hs : (fftnArr ρs nv a).shape = a.shape := rfl
  rw [hs, idftN_congr ρs a.shape _ (dftN ρs a.shape (compA a c)) j
    (fun m hm => fftnArr_ishift ρs nv a m hm c hc)]
  exact idftN_dftN ρs a.shape hρ _ j hj

/-- **the inverse transform at a real-space cell**: `ifftn(ifftshift(A))[j] = Π(1/n_a) · Σ_m
A[m] · Π_a wi_a^(m_a j_a) · w_a^(⌊n_a/2⌋ j_a)` — the sum over all k-cells `m` of
`A[m]·exp(+2πi k_m·r_j)` with `k_m` the centre of k-cell `m` -/
theorem ifftnArr_is_idft (ρs : List (Root R)) (nv : Nat) (a : NDA (List R)) (hρ : Roots a.shape ρs)
    (j : List Nat) (c : Nat) (hc : c < nv) :
    compA (ifftnArr ρs nv a) c j
      = ninvProd ρs a.shape * sumBox a.shape fun m => compA a c m * phase (ρs.map Root.swap) a.shape m j := by
  rw [ifftnArr_get _ _ _ _ _ hc, idftN_eq_sumBox]
  congr 1
  rw [← sumBox_ishift a.shape (fun m => compA a c m * phase (ρs.map Root.swap) a.shape m j)]
  apply sumBox_congr
  intro m hm
  rw [← twProd_fshift _ _ (Roots.swap _ _ hρ) _ _ (ishift_inRange _ _ hm), fshift_ishift _ _ hm]

/-- the spectrum of conj-fixed ("real") data is Hermitian: the cell of frequency `-k` holds the
conjugate of the cell of frequency `k` -/
theorem fftnArr_hermitian (conj : R → R) (hc : IsConj conj) (ρs : List (Root R)) (nv : Nat) (a : NDA (List R))
    (hρ : Roots a.shape ρs) (hcr : ConjRoots conj a.shape ρs) (hreal : ∀ i c, conj (compA a c i) = compA a c i)
    (m : List Nat) (hm : inRange a.shape m = true) (c : Nat) (hcv : c < nv) :
    conj (compA (fftnArr ρs nv a) c (mirror a.shape m)) = compA (fftnArr ρs nv a) c m := by
  rw [fftnArr_get _ _ _ _ _ hcv, fftnArr_get _ _ _ _ _ hcv]
  unfold mirror
  rw [fshift_ishift _ _ (negIdx_inRange _ _ (fshift_inRange _ _ hm))]
  exact conj_dftN_neg conj hc ρs a.shape hρ hcr (compA a c) (fun i => hreal i c) _ (fshift_inRange _ _ hm)

/-! ### the real transforms -/

/-- `rfftn` holds, cell by cell, what `fftn` holds in the cell of the same DFT frequency -/
theorem rfftn_half_arr (ρs : List (Root R)) (nv : Nat) (a : NDA (List R)) (hpos : ∀ n ∈ a.shape, 0 < n)
    (m : List Nat) (hm : inRange (halfShape a.shape) m = true) (c : Nat) (hc : c < nv) :
    compA (rfftnArr ρs nv a) c m = compA (fftnArr ρs nv a) c (lastShift a.shape m) := by
  rw [rfftnArr_get _ _ _ _ _ hc, fftnArr_get _ _ _ _ _ hc, fshift_lastShift a.shape m hpos hm]

/-- `fftshift(rfftn(a), axes[:-1])[m] = Σ_r a[r] · phaseR(m, r)` -/
theorem rfftnArr_is_dft (ρs : List (Root R)) (nv : Nat) (a : NDA (List R)) (hρ : Roots a.shape ρs)
    (m : List Nat) (hm : inRange (halfShape a.shape) m = true) (c : Nat) (hc : c < nv) :
    compA (rfftnArr ρs nv a) c m = sumBox a.shape fun r => compA a c r * phaseR ρs a.shape m r := by
  rw [rfftnArr_get _ _ _ _ _ hc, dftN_eq_sumBox]
  apply sumBox_congr
  intro r _
  rw [twProd_fshiftR ρs a.shape hρ m r (.of_half hm)]

/-- `irfftn(ifftshift(fftshift(rfftn(a)), …), s = shape of a) = a` for conj-fixed data -/
theorem irfftn_rfftn_arr (conj : R → R) (hc : IsConj conj) (ρs : List (Root R)) (nv : Nat) (a : NDA (List R))
    (hρ : Roots a.shape ρs) (hcr : ConjRoots conj a.shape ρs)
    (hreal : ∀ i c, conj (compA a c i) = compA a c i)
    (j : List Nat) (hj : inRange a.shape j = true) (c : Nat) (hcv : c < nv) :
    compA (irfftnArr conj ρs nv a.shape (rfftnArr ρs nv a)) c j = compA a c j := by
  rw [irfftnArr_get _ _ _ _ _ _ _ hcv]
  have hs : (rfftnArr ρs nv a).shape = halfShape a.shape := rfl
  rw [hs, idftN_congr ρs a.shape _ (dftN ρs a.shape (compA a c)) j
    (fun k hk => hermExt_rdft conj hc ρs a.shape hρ hcr (compA a c) (fun i => hreal i c) _
      (fun m hm => by rw [rfftnArr_get _ _ _ _ _ hcv, ishiftR_half a.shape m (inRange_length _ _ hm),
        fshiftR_ishiftR a.shape m (.of_inRange hm)]) k hk)]
  exact idftN_dftN ρs a.shape hρ _ j hj

/-- `rfftn(irfftn(G, s)) = G` on every cell of a half spectrum `G` of shape `halfShape s`: the
real forward transform reads back exactly the half the inverse was built from -/
theorem rfftn_irfftn_arr (conj : R → R) (ρs : List (Root R)) (nv : Nat) (s : List Nat) (a : NDA (List R))
    (hs : a.shape = halfShape s) (hpos : ∀ n ∈ s, 0 < n) (hρ : Roots s ρs)
    (m : List Nat) (hm : inRange (halfShape s) m = true) (c : Nat) (hc : c < nv) :
    compA (rfftnArr ρs nv (irfftnArr conj ρs nv s a)) c m = compA a c m := by
  rw [rfftnArr_get _ _ _ _ _ hc]
  have hsh : (irfftnArr conj ρs nv s a).shape = s := rfl
  rw [hsh, dftN_congr ρs s _ (idftN ρs s (hermExt conj s fun m' => compA a c (ishiftR a.shape m'))) _
    (fun j _ => irfftnArr_get _ _ _ _ _ _ _ hc)]
  rw [dftN_idftN ρs s hρ _ _ (fshiftR_inRange s m hpos hm)]
  unfold hermExt
  rw [if_pos (by rw [fshiftR_last]; exact last_le_of_inRange_half s m hm), hs]
  show compA a c (ishiftR (halfShape s) (fshiftR s m)) = _
  rw [ishiftR_half s _ (by rw [fshiftR_length]; exact (LeadIn.of_half hm).1), ishiftR_fshiftR s m (.of_half hm)]

/-- **`irfftn` returns conj-fixed ("real") data** on every half spectrum that is
conjugate-symmetric on its self-mirror planes (last index 0 and, for an even output count, `n/2`) -/
theorem irfftnArr_real (conj : R → R) (hc : IsConj conj) (hinv : ∀ x, conj (conj x) = x) (ρs : List (Root R))
    (nv : Nat) (s : List Nat) (a : NDA (List R)) (hρ : Roots s ρs) (hcr : ConjRoots conj s ρs)
    (c : Nat) (hcv : c < nv)
    (hcons : ∀ k, inRange s k = true → (k.getLastD 0 = 0 ∨ 2 * k.getLastD 0 = s.getLastD 0) →
      conj (compA a c (ishiftR a.shape k)) = compA a c (ishiftR a.shape (negIdx s k)))
    (j : List Nat) :
    conj (compA (irfftnArr conj ρs nv s a) c j) = compA (irfftnArr conj ρs nv s a) c j := by
  rw [irfftnArr_get _ _ _ _ _ _ _ hcv]
  exact idftN_real conj hc ρs s hρ hcr _
    (fun k hk => hermExt_hermitian conj hinv s (fun m => compA a c (ishiftR a.shape m)) hcons k hk) j

/-- **`irfftn` as one sum**, for arrays of the shape the code passes (`halfShape s`) -/
theorem irfftnArr_is_idft (conj : R → R) (ρs : List (Root R)) (nv : Nat) (s : List Nat) (a : NDA (List R))
    (hs : a.shape = halfShape s) (hρ : Roots s ρs) (j : List Nat) (c : Nat) (hc : c < nv) :
    compA (irfftnArr conj ρs nv s a) c j
      = ninvProd ρs s * sumBox s fun m => hermExtS conj s (compA a c) m * phaseR (ρs.map Root.swap) s m j := by
  rw [irfftnArr_get _ _ _ _ _ _ _ hc, hs]
  exact idftN_hermExt_sum conj ρs s hρ (compA a c) j

/-- **`irfftn` from the stored half spectrum only** (arrays of the shape the code passes) -/
theorem irfftnArr_half_sum (conj : R → R) (ρs : List (Root R)) (nv : Nat) (s : List Nat) (a : NDA (List R))
    (hs : a.shape = halfShape s) (hρ : Roots s ρs) (hpos : 0 < s.getLastD 0) (j : List Nat) (c : Nat) (hc : c < nv) :
    compA (irfftnArr conj ρs nv s a) c j
      = ninvProd ρs s * sumBox (halfShape s) fun m => compA a c m * phaseR (ρs.map Root.swap) s m j +
          (if 1 ≤ m.getLastD 0 ∧ m.getLastD 0 < s.getLastD 0 - s.getLastD 0 / 2
           then conj (compA a c m) * phaseR ρs s m j else 0) := by
  rw [irfftnArr_is_idft conj ρs nv s a hs hρ j c hc, hermExt_sum_half conj ρs s hρ hpos]

/-! ### numpy's convention on arbitrary half spectra -/

theorem symArr_get (conj : R → R) (half : R) (nv : Nat) (s : List Nat) (a : NDA (List R)) (m : List Nat)
    (c : Nat) (hc : c < nv) : compA (symArr conj half nv s a) c m = symPlanes conj half s (compA a c) m := by
  simp only [compA, symArr]
  rw [getD_tab _ _ _ _ hc]

theorem irfftnArrNP_is_idft (conj : R → R) (half : R) (ρs : List (Root R)) (nv : Nat) (s : List Nat)
    (a : NDA (List R)) (hs : a.shape = halfShape s) (hρ : Roots s ρs) (j : List Nat) (c : Nat) (hc : c < nv) :
    compA (irfftnArrNP conj half ρs nv s a) c j
      = ninvProd ρs s * sumBox s fun m =>
          hermExtS conj s (symPlanes conj half s (compA a c)) m * phaseR (ρs.map Root.swap) s m j := by
  unfold irfftnArrNP
  rw [irfftnArr_is_idft conj ρs nv s (symArr conj half nv s a) hs hρ j c hc]
  have : compA (symArr conj half nv s a) c = symPlanes conj half s (compA a c) := by
    funext m; exact symArr_get conj half nv s a m c hc
  rw [this]

/-- **on Hermitian-consistent half spectra the library's `irfftn` is the inverse DFT of the plain
Hermitian extension** -/
theorem irfftnArrNP_eq_of_consistent (conj : R → R) (half : R) (hh : half * 2 = 1) (ρs : List (Root R))
    (nv : Nat) (s : List Nat) (a : NDA (List R)) (hs : a.shape = halfShape s) (c : Nat) (hc : c < nv)
    (hcons : HermPlanes conj s (compA a c)) (j : List Nat) :
    compA (irfftnArrNP conj half ρs nv s a) c j = compA (irfftnArr conj ρs nv s a) c j := by
  unfold irfftnArrNP
  rw [irfftnArr_get _ _ _ _ _ _ _ hc, irfftnArr_get _ _ _ _ _ _ _ hc]
  apply idftN_congr
  intro k hk
  have hsame : ∀ i, inRange s i = true → compA (symArr conj half nv s a) c i = compA a c i := by
    intro i hi
    rw [symArr_get conj half nv s a i c hc]
    exact symPlanes_of_consistent conj half hh s (compA a c) i hi hcons
  have hsh : (symArr conj half nv s a).shape = a.shape := rfl
  unfold hermExt
  rw [hsh, hs]
  split
  · beta_reduce
    rw [ishiftR_half s k (inRange_length _ _ hk)]
    exact hsame _ (ishiftR_inRange_full s k hk)
  · beta_reduce
    rw [ishiftR_half s _ (negIdx_length s k hk)]
    rw [hsame _ (ishiftR_inRange_full s _ (negIdx_inRange s k hk))]

/-- **the library's `irfftn` returns conj-fixed ("real") data on EVERY half spectrum** -/
theorem irfftnArrNP_real (conj : R → R) (hc : IsConj conj) (hinv : ∀ x, conj (conj x) = x) (half : R)
    (hh : half * 2 = 1) (ρs : List (Root R)) (nv : Nat) (s : List Nat) (a : NDA (List R))
    (hs : a.shape = halfShape s) (hρ : Roots s ρs) (hcr : ConjRoots conj s ρs) (c : Nat) (hcv : c < nv)
    (j : List Nat) :
    conj (compA (irfftnArrNP conj half ρs nv s a) c j) = compA (irfftnArrNP conj half ρs nv s a) c j := by
  unfold irfftnArrNP
  apply irfftnArr_real conj hc hinv ρs nv s _ hρ hcr c hcv
  intro k hk hp
  have hsh : (symArr conj half nv s a).shape = halfShape s := hs
  rw [hsh, symArr_get _ _ _ _ _ _ _ hcv, symArr_get _ _ _ _ _ _ _ hcv,
    ishiftR_half s k (inRange_length _ _ hk), ishiftR_half s _ (negIdx_length s k hk)]
  rw [symPlanes_hermitian conj hc hinv half hh s (compA a c) _ (ishiftR_inRange_full s k hk)
    (by rw [ishiftR_last]; exact hp)]
  unfold mirrorR
  rw [fshiftR_ishiftR s k (.of_inRange hk)]

/-- **what `rfftn` reads back from the library's `irfftn`**: the half spectrum with its self-mirror
planes replaced by their Hermitian part — the half spectrum itself exactly when it is consistent -/
theorem rfftn_irfftnNP_arr (conj : R → R) (half : R) (ρs : List (Root R)) (nv : Nat) (s : List Nat)
    (a : NDA (List R)) (hs : a.shape = halfShape s) (hpos : ∀ n ∈ s, 0 < n) (hρ : Roots s ρs)
    (m : List Nat) (hm : inRange (halfShape s) m = true) (c : Nat) (hc : c < nv) :
    compA (rfftnArr ρs nv (irfftnArrNP conj half ρs nv s a)) c m = symPlanes conj half s (compA a c) m := by
  unfold irfftnArrNP
  rw [rfftn_irfftn_arr conj ρs nv s (symArr conj half nv s a) hs hpos hρ m hm c hc,
    symArr_get _ _ _ _ _ _ _ hc]

/-- `irfftnArr_half_sum` for the library's convention: the planes with last index 0 and `n/2` enter
through their Hermitian part -/
theorem irfftnArrNP_half_sum (conj : R → R) (half : R) (ρs : List (Root R)) (nv : Nat) (s : List Nat)
    (a : NDA (List R)) (hs : a.shape = halfShape s) (hρ : Roots s ρs) (hpos : 0 < s.getLastD 0) (j : List Nat)
    (c : Nat) (hc : c < nv) :
    compA (irfftnArrNP conj half ρs nv s a) c j
      = ninvProd ρs s * sumBox (halfShape s) fun m =>
          symPlanes conj half s (compA a c) m * phaseR (ρs.map Root.swap) s m j +
          (if 1 ≤ m.getLastD 0 ∧ m.getLastD 0 < s.getLastD 0 - s.getLastD 0 / 2
           then conj (compA a c m) * phaseR ρs s m j else 0) := by
  rw [irfftnArrNP_is_idft conj half ρs nv s a hs hρ j c hc, hermExt_sum_half conj ρs s hρ hpos]
  congr 1
  apply sumBox_congr
  intro m _
  congr 1
  by_cases hc' : 1 ≤ m.getLastD 0 ∧ m.getLastD 0 < s.getLastD 0 - s.getLastD 0 / 2
  · rw [if_pos hc', if_pos hc']
    unfold symPlanes
    rw [if_neg (by omega)]
  · rw [if_neg hc', if_neg hc']

/-! ### cyclic translation -/

/-- the array translated cyclically by `t` cells -/
def rollArr (t : List Nat) (a : NDA (List R)) : NDA (List R) := ⟨a.shape, fun r => a.get (rollIdx a.shape t r)⟩

theorem compA_rollArr (t : List Nat) (a : NDA (List R)) (c : Nat) (r : List Nat) :
    compA (rollArr t a) c r = compA a c (rollIdx a.shape t r) := rfl

/-- **shift theorem for `fftshift(fftn(·))`**: in every k-cell `m` the spectrum of the translated
array is the spectrum of the array times `phase(m, t) = exp(-2πi k_m·(t·cell))` -/
theorem fftnArr_translate (ρs : List (Root R)) (nv : Nat) (a : NDA (List R)) (hρ : Roots a.shape ρs)
    (t : List Nat) (ht : t.length = a.shape.length) (m : List Nat) (hm : inRange a.shape m = true)
    (c : Nat) (hc : c < nv) :
    compA (fftnArr ρs nv (rollArr t a)) c m = phase ρs a.shape m t * compA (fftnArr ρs nv a) c m := by
  rw [fftnArr_get _ _ _ _ _ hc, fftnArr_get _ _ _ _ _ hc]
  show dftN ρs a.shape (fun r => compA a c (rollIdx a.shape t r)) (fshift a.shape m) = _
  rw [dftN_translate ρs a.shape hρ (compA a c) t _ ht, twProd_fshift ρs a.shape hρ m t hm]

/-- the same for the real transform (last axis unshifted) -/
theorem rfftnArr_translate (ρs : List (Root R)) (nv : Nat) (a : NDA (List R)) (hρ : Roots a.shape ρs)
    (t : List Nat) (ht : t.length = a.shape.length) (m : List Nat) (hm : inRange (halfShape a.shape) m = true)
    (c : Nat) (hc : c < nv) :
    compA (rfftnArr ρs nv (rollArr t a)) c m = phaseR ρs a.shape m t * compA (rfftnArr ρs nv a) c m := by
  rw [rfftnArr_get _ _ _ _ _ hc, rfftnArr_get _ _ _ _ _ hc]
  show dftN ρs a.shape (fun r => compA a c (rollIdx a.shape t r)) (fshiftR a.shape m) = _
  rw [dftN_translate ρs a.shape hρ (compA a c) t _ ht, twProd_fshiftR ρs a.shape hρ m t (.of_half hm)]

end DFV.C11
