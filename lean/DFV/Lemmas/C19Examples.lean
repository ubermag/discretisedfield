import DFV.Model.C19
/-! concrete objects used by the non-vacuity examples of `Props/C19.lean` -/
namespace DFV.C19
open DFV

/-- a square root table that is exact on the values used in the examples -/
def sqEx (x : Rat) : Rat := if x = 25 then 5 else if x = 100 then 10 else if x = 1 then 1 else 0

/-- a concrete 2-d mesh (4 × 3 cells of size 1 × 2) -/
def mEx : Mesh :=
  { region := { pmin := [0, 0], pmax := [4, 6], dims := ["x", "y"], units := ["m", "m"], tol := 1 / 1000000000000 },
    n := [4, 3], bc := "", subs := [] }

/-- a 3-component field on it: `(3,4,0)` everywhere -/
def fEx : Fld :=
  { mesh := mEx, nvdim := 3, data := NDA.const [4, 3] [3, 4, 0], valid := NDA.const [4, 3] true,
    vdims := some ["x", "y", "z"], vmap := [], unit := none }

/-- a one-cell "tensor" with trace `−δ` and the cubic symmetry -/
def tEx : NDA (List Rat) := ⟨[1, 1, 1], fun j => if j = [0, 0, 0] then [-1/3, -1/3, -1/3, 0, 0, 0] else []⟩

def m1 : Mesh :=
  { region := { pmin := [0, 0, 0], pmax := [1, 1, 1], dims := ["x", "y", "z"], units := ["m", "m", "m"], tol := 1 / 1000000000000 },
    n := [1, 1, 1], bc := "", subs := [] }

/-- a non-uniform 3-component field on `mEx` (cell `(i, j)` holds `(i, j+1, 2)`), components `x, y`
mapped to the mesh axes `x, y` -/
def fQ : Fld :=
  { mesh := mEx, nvdim := 3, data := ⟨[4, 3], fun i => [(i.getD 0 0 : Rat), (i.getD 1 0 : Rat) + 1, 2]⟩,
    valid := NDA.const [4, 3] true, vdims := some ["x", "y", "z"], vmap := [("x", "x"), ("y", "y")], unit := none }

/-- a 3-d mesh of 2 × 1 × 2 cells with edges 1, 2, 1/2 -/
def m3 : Mesh :=
  { region := { pmin := [0, 0, 0], pmax := [2, 2, 1], dims := ["x", "y", "z"], units := ["m", "m", "m"], tol := 1 / 1000000000000 },
    n := [2, 1, 2], bc := "", subs := [] }

/-- a non-uniform 3-component field on `m3` -/
def f3 : Fld :=
  { mesh := m3, nvdim := 3, data := ⟨[2, 1, 2], fun i => [(i.getD 0 0 : Rat) + 1, (i.getD 2 0 : Rat), 2]⟩,
    valid := NDA.const [2, 1, 2] true, vdims := some ["x", "y", "z"],
    vmap := [("x", "x"), ("y", "y"), ("z", "z")], unit := none }

/-- `fQ` on the mesh periodic along `x` (the example of `charge_rotate90_periodic`) -/
def fQp : Fld := { fQ with mesh := { mEx with bc := "x" } }

/-- a skyrmion-like texture on 4 × 4 cells of size 1 × 2: rim `(0, 0, 5)`, the four inner cells
`(±2, ±2, −1)` (not normalised: `Field.orientation` does that) -/
def fSk : Fld :=
  { mesh := { region := { pmin := [0, 0], pmax := [4, 8], dims := ["x", "y"], units := ["m", "m"], tol := 1 / 1000000000000 },
              n := [4, 4], bc := "", subs := [] },
    nvdim := 3,
    data := ⟨[4, 4], fun i =>
      if 1 ≤ i.getD 0 0 ∧ i.getD 0 0 ≤ 2 ∧ 1 ≤ i.getD 1 0 ∧ i.getD 1 0 ≤ 2
      then [2 * (2 * (i.getD 0 0 : Rat) - 3), 2 * (2 * (i.getD 1 0 : Rat) - 3), -1] else [0, 0, 5]⟩,
    valid := NDA.const [4, 4] true, vdims := some ["x", "y", "z"], vmap := [], unit := none }

end DFV.C19
