import DFV.Lemmas.C03Cells

/-! C03: every step of `evalF` read cell by cell, and the induction over expression trees for cell values,
validity and mesh; components (`f.x`) and the stack of all components. -/

namespace DFV.C03
open DFV

/-- a unary operation maps `unFn env u` over every component list; validity and mesh stay -/
theorem applyUn_cells (env : Env) (u : UnOp) (n : List Nat) (f g : CF)
    (cf : List Nat → List GQ) (vf : List Nat → Bool) (hf : Cells n f cf vf)
    (h : applyUn env u f = .ok g) :
    Cells n g (fun i => (cf i).map (unFn env u)) vf ∧ g.mesh = f.mesh := by
  by_cases hp : u = .pos
  · subst hp
    cases Except.ok.inj h
    exact ⟨hf.congr (fun i _ => (List.map_id _).symm) (fun _ _ => rfl), rfl⟩
  · cases hu : isUfuncUn u with
    | true =>
      rw [applyUn_ufunc env hu] at h
      obtain ⟨hc, hm, _⟩ := ufunc1_cells _ _ n f g cf vf hf h
      exact ⟨hc, hm⟩
    | false =>
      rw [applyUn_rebuild env hu hp] at h
      obtain ⟨hc, hm, _⟩ := mapField_cells _ _ _ n f g cf vf hf h
      exact ⟨hc, hm⟩

/-- `<<` appends the component lists (a non-field operand is first built into a field) -/
theorem shlOp_val_cells (n : List Nat) (f g : CF) (v : Val)
    (cf cv : List Nat → List GQ) (vf vv : List Nat → Bool)
    (hf : Cells n f cf vf) (hv : ValCells n v cv vv)
    (hok : ∀ od, v = .raw od → OpdLiftOk n od) (h : shlOp f v = .ok g) :
    Cells n g (fun i => cf i ++ cv i) (fun i => vf i && vv i) ∧ g.mesh = f.mesh := by
  obtain ⟨o, ho, hs⟩ := shlOp_ok h
  rcases ho with rfl | ⟨od, rfl, hl⟩
  · obtain ⟨hc, hm, _⟩ := shlFF_cells n f o g cf cv vf vv hf hv hs
    exact ⟨hc, hm⟩
  · obtain ⟨_, hL⟩ := liftOpd_cells f.mesh od o (by rw [hf.2.1]; exact hok od rfl) hl
    rw [hf.2.1] at hL
    obtain ⟨hc, hm, _⟩ := shlFF_cells n f o g cf _ vf _ hf hL hs
    exact ⟨hc.congr (fun i _ => by rw [hv.1 i]) (fun i _ => by rw [hv.2 i]), hm⟩

theorem binCell_elem (env : Env) (b : BinOp) (hb : isElem b = true) (xs ys : List GQ) :
    binCell env b xs ys = bz (binFn b) xs ys := by
  cases b <;> first | rfl | cases hb

theorem isElem_of_ufunc {b : BinOp} (hb : isUfuncBin b = true) : isElem b = true := by
  cases b <;> first | rfl | cases hb

theorem isElem_of_operator {b : BinOp} (hb : isOperator b) : isElem b = true := by
  rcases hb with hb | rfl
  · cases b <;> first | rfl | cases hb
  · rfl

/-- the operations whose operands are combined component by component under broadcasting: the
elementwise ones and `dot` -/
def isBcast (b : BinOp) : Prop := isElem b = true ∨ b = .dot

theorem not_isBcast {b : BinOp} (h : b = .cross ∨ b = .shl ∨ b = .angle) : ¬ isBcast b := by
  rintro (hb | hb) <;> rcases h with rfl | rfl | rfl <;> cases hb

/-- a forward method read cell by cell; for elementwise operations and `dot` the component lists of
the two operands at every cell can be broadcast -/
theorem forwardOp_cells (env : Env) (b : BinOp) (n : List Nat) (f g : CF) (v : Val)
    (cf cv : List Nat → List GQ) (vf vv : List Nat → Bool)
    (hf : Cells n f cf vf) (hv : ValCells n v cv vv)
    (hok : (b = .shl ∨ b = .angle) → ∀ od, v = .raw od → OpdLiftOk n od)
    (h : forwardOp env b f v = .ok g) :
    Cells n g (fun i => binCell env b (cf i) (cv i)) (fun i => vf i && vv i) ∧ g.mesh = f.mesh ∧
      (isBcast b → ∀ i, inRange n i = true → Compat (cf i).length (cv i).length) := by
  rcases forwardOp_ok_cases h with ⟨hop, h⟩ | ⟨rfl, h⟩ | ⟨rfl, h⟩ | ⟨rfl, h⟩ | ⟨rfl, h⟩
  · obtain ⟨hc, hm, _⟩ := applyOperator_val_cells _ _ n f g v cf cv vf vv hf hv h
    exact ⟨hc.congr (fun i _ => (binCell_elem env _ (isElem_of_operator hop) _ _).symm) (fun _ _ => rfl), hm,
      fun _ => applyOperator_compat _ _ n f g v cf cv vf vv hf hv h⟩
  · obtain ⟨hc, hm, _, hcp⟩ := dotOp_val_cells n f g v cf cv vf vv hf hv h
    exact ⟨hc, hm, fun _ => hcp⟩
  · obtain ⟨hc, hm, _⟩ := crossOp_val_cells n f g v cf cv vf vv hf hv h
    exact ⟨hc, hm, fun hb => absurd hb (not_isBcast (Or.inl rfl))⟩
  · obtain ⟨hc, hm⟩ := shlOp_val_cells n f g v cf cv vf vv hf hv (hok (Or.inl rfl)) h
    exact ⟨hc, hm, fun hb => absurd hb (not_isBcast (Or.inr (Or.inl rfl)))⟩
  · obtain ⟨hc, hm⟩ := angleOp_cells env.sq env.acos n f g v cf cv vf vv hf hv (hok (Or.inr rfl)) h
    exact ⟨hc, hm, fun hb => absurd hb (not_isBcast (Or.inr (Or.inr rfl)))⟩

theorem dotCell_comm (xs ys : List GQ) (hc : Compat xs.length ys.length) : dotCell xs ys = dotCell ys xs := by
  unfold dotCell
  rw [bz_comm GQ.mul GQ.mul_comm' xs ys hc]

theorem crossCell_neg (xs ys : List GQ) : (crossCell xs ys).map GQ.neg = crossCell ys xs := by
  unfold crossCell
  rw [tab_map]
  apply tab_congr
  intro c _
  exact crossAt_anticomm _ _ c

/-- the function a reflected arithmetic method hands over is the operator's with the arguments exchanged -/
theorem reflFn_spec {b : BinOp} {fn : GQ → GQ → GQ} (h : reflFn b = some fn) :
    isArith b = true ∧ (fun x y => binFn b y x) = fn := by
  cases b <;> cases h
  case add => exact ⟨rfl, funext fun x => funext fun y => GQ.add_comm' y x⟩
  case mul => exact ⟨rfl, funext fun x => funext fun y => GQ.mul_comm' y x⟩
  case div => exact ⟨rfl, rfl⟩

/-- a reflected method computes `other ∘ self` through `self`'s own methods: `self + other`,
`-self + other`, `np.divide(other, self)`, `self.dot(other)`, `-self.cross(other)`, `Field(other) << self` -/
theorem reflectedOp_cells (env : Env) (b : BinOp) (n : List Nat) (od : Opd) (f g : CF)
    (cf : List Nat → List GQ) (vf : List Nat → Bool)
    (hf : Cells n f cf vf) (hok : b = .shl → OpdLiftOk n od)
    (h : reflectedOp b od f = .ok g) :
    Cells n g (fun i => binCell env b (rawCell od i) (cf i)) vf ∧ g.mesh = f.mesh ∧
      (isBcast b → ∀ i, inRange n i = true → Compat (rawCell od i).length (cf i).length) := by
  have hraw : ValCells n (.raw od) (rawCell od) (fun _ => true) := ⟨fun _ => rfl, fun _ => rfl⟩
  rcases reflectedOp_ok h with ⟨fn, hfn, h⟩ | ⟨rfl, f', hn, h⟩ | ⟨rfl, h⟩ | ⟨rfl, g1, hx, h⟩ | ⟨rfl, L, hl, h⟩
  · -- `other ∘ self` is computed as `self ∘' other`, `∘'` being `∘` with its arguments exchanged
    obtain ⟨hba, hfn⟩ := reflFn_spec hfn
    obtain ⟨hc, hm, _⟩ := applyOperator_val_cells _ _ n f g _ cf _ vf _ hf hraw h
    have hcp := applyOperator_compat _ _ n f g _ cf _ vf _ hf hraw h
    refine ⟨hc.congr (fun i hi => ?_) (fun i _ => Bool.and_true _), hm, fun _ i hi => compat_symm (hcp i hi)⟩
    rw [binCell_elem env b (isElem_of_operator (Or.inl hba)), bz_swap _ _ _ (compat_symm (hcp i hi)), hfn]
  · obtain ⟨hf', hm', _⟩ := mapField_cells _ _ _ n f f' cf vf hf hn
    obtain ⟨hc, hm, _⟩ := applyOperator_val_cells _ _ n f' g _ _ _ vf _ hf' hraw h
    have hcp : ∀ i, inRange n i = true → Compat (cf i).length (rawCell od i).length := fun i hi => by
      simpa only [List.length_map] using applyOperator_compat _ _ n f' g _ _ _ vf _ hf' hraw h i hi
    exact ⟨hc.congr (fun i hi => bz_neg_add _ _ (hcp i hi)) (fun i _ => Bool.and_true _), by rw [hm, hm'],
      fun _ i hi => compat_symm (hcp i hi)⟩
  · obtain ⟨hc, hm, _, hcp⟩ := dotOp_val_cells n f g _ cf _ vf _ hf hraw h
    exact ⟨hc.congr (fun i hi => by rw [dotCell_comm _ _ (hcp i hi)]; rfl) (fun i _ => Bool.and_true _), hm,
      fun _ i hi => compat_symm (hcp i hi)⟩
  · obtain ⟨hc1, hm1, _⟩ := crossOp_val_cells n f g1 _ cf _ vf _ hf hraw hx
    obtain ⟨hc, hm, _⟩ := mapField_cells _ _ _ n g1 g _ _ hc1 h
    exact ⟨hc.congr (fun i _ => crossCell_neg _ _) (fun i _ => Bool.and_true _), by rw [hm, hm1],
      fun hb => absurd hb (not_isBcast (Or.inl rfl))⟩
  · obtain ⟨hLm, hL⟩ := liftOpd_cells f.mesh od L (by rw [hf.2.1]; exact hok rfl) hl
    rw [hf.2.1] at hL
    obtain ⟨hc, hm, _⟩ := shlFF_cells n L f g _ cf _ vf hL hf h
    exact ⟨hc.congr (fun _ _ => rfl) (fun i _ => Bool.true_and _), by rw [hm, hLm],
      fun hb => absurd hb (not_isBcast (Or.inr (Or.inl rfl)))⟩

/-- one binary step read cell by cell, whichever of the four ways it took; the result lives on the
mesh of the first field operand -/
theorem applyBin_cells (env : Env) (b : BinOp) (n : List Nat) (l r : Val) (g : CF)
    (cl cr : List Nat → List GQ) (vl vr : List Nat → Bool)
    (hl : ValCells n l cl vl) (hr : ValCells n r cr vr)
    (hok : (b = .shl ∨ b = .angle) → (∀ od, l = .raw od → OpdLiftOk n od) ∧ (∀ od, r = .raw od → OpdLiftOk n od))
    (h : applyBin env b l r = .ok (.fld g)) :
    Cells n g (fun i => binCell env b (cl i) (cr i)) (fun i => vl i && vr i) ∧
    (∃ self, firstFld l r = some self ∧ g.mesh = self.mesh) ∧
    (isBcast b → ∀ i, inRange n i = true → Compat (cl i).length (cr i).length) := by
  rcases applyBin_ok_cases h with ⟨hu, h'⟩ | ⟨_, f, rfl, h'⟩ | ⟨hop, o, f, rfl, rfl, _, h'⟩ | ⟨_, o, f, rfl, rfl, _, h'⟩
  · obtain ⟨hc, hs, hcp⟩ := ufunc2_cells _ _ n l r g cl cr vl vr hl hr h'
    exact ⟨hc.congr (fun i _ => (binCell_elem env b (isElem_of_ufunc hu) _ _).symm) (fun _ _ => rfl), hs, fun _ => hcp⟩
  · obtain ⟨hc, hm, hcp⟩ := forwardOp_cells env b n f g r cl cr vl vr hl hr (fun hb => (hok hb).2) h'
    exact ⟨hc, ⟨f, rfl, hm⟩, hcp⟩
  · obtain ⟨hc, hs, hcp⟩ := ufunc2_cells _ _ n _ _ g cl cr vl vr hl hr h'
    exact ⟨hc.congr (fun i _ => (binCell_elem env _ (isElem_of_operator hop) _ _).symm) (fun _ _ => rfl), hs, fun _ => hcp⟩
  · obtain ⟨hc, hm, hcp⟩ := reflectedOp_cells env b n o f g cr vr hr (fun hb => (hok (Or.inl hb)).1 o rfl) h'
    exact ⟨hc.congr (fun i _ => by rw [hl.1 i]) (fun i _ => by rw [hl.2 i, Bool.true_and]), ⟨f, rfl, hm⟩,
      fun hb i hi => by rw [hl.1 i]; exact hcp hb i hi⟩

/-- an accepted elementwise operation or `dot`: the component lists of the two operands at every
cell can be broadcast -/
theorem applyBin_compat (env : Env) (b : BinOp) (hb : isBcast b) (n : List Nat) (l r : Val) (g : CF)
    (cl cr : List Nat → List GQ) (vl vr : List Nat → Bool)
    (hl : ValCells n l cl vl) (hr : ValCells n r cr vr)
    (h : applyBin env b l r = .ok (.fld g)) :
    ∀ i, inRange n i = true → Compat (cl i).length (cr i).length :=
  (applyBin_cells env b n l r g cl cr vl vr hl hr
    (fun hc => absurd hb (not_isBcast (Or.inr hc))) h).2.2 hb

theorem operandOk_raw (env : Env) (n : List Nat) (l : Expr) (vl : Val) (h : evalF env l = .ok vl)
    (hok : operandOk n l) : ∀ od, vl = .raw od → OpdLiftOk n od := by
  intro od hv
  subst hv
  rw [evalF_raw env l od h] at hok
  exact hok

/-- the induction over programs: cell values, validity and mesh of every sub-result -/
theorem eval_good (env : Env) (n : List Nat) (hwf : ∀ f ∈ env.fields, CFwf f ∧ f.mesh.n = n) :
    ∀ (e : Expr) (v : Val), LiftOk n e → evalF env e = .ok v →
      ValCells n v (evalCell env e) (validCell env e) ∧
      (∀ g, v = .fld g → ∃ k f, e.firstLeaf = some k ∧ env.fields[k]? = some f ∧ g.mesh = f.mesh) := by
  intro e
  induction e with
  | leaf k =>
    intro v _ h
    obtain ⟨f, hk, rfl⟩ := evalF_leaf_ok h
    obtain ⟨hw, hn⟩ := hwf f (List.mem_of_getElem? hk)
    refine ⟨⟨hw, hn, fun i _ => ?_⟩, fun g hg => ⟨k, f, rfl, hk, by rw [Val.fld.inj hg]⟩⟩
    simp only [evalCell, validCell, hk]
    exact ⟨trivial, trivial⟩
  | opd o =>
    intro v _ h
    cases Except.ok.inj h
    exact ⟨⟨fun _ => rfl, fun _ => rfl⟩, fun g hg => nomatch hg⟩
  | un u e ih =>
    intro v hok h
    obtain ⟨f, g, he, hu, rfl⟩ := evalF_un_ok h
    obtain ⟨hf, hmesh⟩ := ih (.fld f) hok he
    obtain ⟨hc, hm⟩ := applyUn_cells env u n f g _ _ hf hu
    refine ⟨hc, fun g' hg' => ?_⟩
    cases Val.fld.inj hg'
    obtain ⟨k, f0, hk, hf0, hm0⟩ := hmesh f rfl
    exact ⟨k, f0, hk, hf0, by rw [hm, hm0]⟩
  | bin b l r ihl ihr =>
    intro v hok h
    obtain ⟨hokl, hokr, hokb⟩ := hok
    obtain ⟨vl, vr, hel, her, hb⟩ := evalF_bin_ok h
    obtain ⟨g, rfl⟩ := applyBin_fld _ _ _ _ _ hb
    obtain ⟨hl, hml⟩ := ihl vl hokl hel
    obtain ⟨hr, hmr⟩ := ihr vr hokr her
    obtain ⟨hc, ⟨self, hself, hm⟩, _⟩ := applyBin_cells env b n vl vr g _ _ _ _ hl hr
      (fun hb' => ⟨operandOk_raw env n l vl hel (hokb hb').1, operandOk_raw env n r vr her (hokb hb').2⟩) hb
    refine ⟨hc, fun g' hg' => ?_⟩
    cases Val.fld.inj hg'
    rcases firstFld_some _ _ _ hself with rfl | rfl
    · obtain ⟨k, f0, hk, hf0, hm0⟩ := hml self rfl
      exact ⟨k, f0, by simp only [Expr.firstLeaf, hk], hf0, by rw [hm, hm0]⟩
    · cases vl with
      | fld f =>
        obtain rfl : f = self := Option.some.inj hself
        obtain ⟨k, f0, hk, hf0, hm0⟩ := hml f rfl
        exact ⟨k, f0, by simp only [Expr.firstLeaf, hk], hf0, by rw [hm, hm0]⟩
      | raw o =>
        obtain ⟨k, f0, hk, hf0, hm0⟩ := hmr self rfl
        refine ⟨k, f0, ?_, hf0, by rw [hm, hm0]⟩
        rw [evalF_raw env l o hel]
        simp only [Expr.firstLeaf, hk]

/-- `evalCell` and `validCell` describe the field an accepted tree evaluates to, cell by cell -/
theorem eval_spec (env : Env) (n : List Nat) (hwf : ∀ f ∈ env.fields, CFwf f ∧ f.mesh.n = n) (e : Expr)
    (hok : LiftOk n e) (g : CF) (h : evalF env e = .ok (.fld g)) (i : List Nat) (hi : inRange n i = true) :
    cellOf g.data i g.nvdim = evalCell env e i ∧ g.valid.get i = validCell env e i :=
  (show Cells n g _ _ from (eval_good env n hwf e (.fld g) hok h).1).2.2 i hi

/-- what the constructor is handed, and what it returns, in `self ∘ other` for two fields -/
theorem applyOperator_fld_meta (fn : GQ → GQ → GQ) (pw : Bool) (f o g : CF)
    (hf : CFwf f) (ho : CFwf o) (hn : f.mesh.n = o.mesh.n)
    (h : applyOperator fn pw f (.fld o) = .ok g) :
    bdim f.nvdim o.nvdim = some g.nvdim ∧
    vdimsSet g.nvdim (fixVdims (metaSrc f o).vdims g.nvdim) = .ok g.vdims ∧
    vmapSet g.nvdim f.mesh.region.ndim g.vdims f.mesh.region.dims (some (metaSrc f o).vmap) = .ok g.vmap ∧
    g.unit = none := by
  have hco : Cells f.mesh.n o (fun i => cellOf o.data i o.nvdim) (fun i => o.valid.get i) :=
    ⟨ho, hn.symm, fun _ _ => ⟨rfl, rfl⟩⟩
  obtain ⟨_, _, hbd⟩ := applyOperator_val_cells fn pw _ f g (.fld o) _ _ _ _ (Cells.self hf) hco h
  rw [show lastDim (Val.fld o).arr.shape = o.nvdim from hco.lastDim] at hbd
  obtain ⟨_, _, res, _, hg⟩ := applyOperator_ok_iff.mp h
  obtain ⟨hvd, hvm⟩ := mkField_meta hg
  rw [← (mkField_mesh hg).2.1] at hvd hvm
  exact ⟨hbd, hvd, hvm, mkField_unit hg⟩

/-- `f.label`: the scalar field of one component; it has no label and no mapping -/
theorem getComp_cells (n : List Nat) (f comp : CF) (cf : List Nat → List GQ) (vf : List Nat → Bool)
    (hf : Cells n f cf vf) (vd : List String) (hvd : f.vdims = some vd) (l : String) (c : Nat)
    (hc : c < f.nvdim) (hidx : indexOf? vd l = some c)
    (h : getComp f l = .ok comp) :
    Cells n comp (fun i => [(cf i).getD c GQ.zero]) vf ∧ comp.mesh = f.mesh ∧ comp.nvdim = 1 ∧
      comp.vdims = none ∧ comp.vmap = [] ∧ comp.unit = f.unit := by
  obtain ⟨vd', c', hvd', hidx', h⟩ := getComp_ok_iff.mp h
  cases Option.some.inj (hvd.symm.trans hvd')
  cases Option.some.inj (hidx.symm.trans hidx')
  have hfs := hf.1.1
  have hshape : (f.data.shape.dropLast ++ [1]) = n ++ [1] := by rw [hfs, hf.2.1]; simp
  have hvs : ∀ v, some f.valid = some v → v.shape = f.mesh.n :=
    mask_some hf.1.2.1
  obtain ⟨hm, hnv, hu, _, hcells⟩ := mkField_of_cells n f.mesh hf.2.1 1 _ hshape _ _ _ _ _ comp hvs h
  obtain ⟨hvdm, hvmm⟩ := mkField_meta h
  have hvd0 : comp.vdims = none := (Except.ok.inj (vdimsSet_one_none.symm.trans hvdm)).symm
  have hvm0 : comp.vmap = [] := by
    rw [hvd0, vmapSet_one_unlabelled _ _ _ (by split <;> simp)] at hvmm
    exact (Except.ok.inj hvmm).symm
  refine ⟨⟨hcells.1, hcells.2.1, ?_⟩, hm, hnv, hvd0, hvm0, hu⟩
  intro i hi
  obtain ⟨hcc, hv⟩ := hcells.2.2 i hi
  refine ⟨?_, by rw [hv]; exact (hf.2.2 i hi).2⟩
  rw [hcc]
  show cellOf _ i 1 = [(cf i).getD c GQ.zero]
  simp only [cellOf, tab, List.range_one, List.map_cons, List.map_nil, List.dropLast_concat]
  rw [← (hf.2.2 i hi).1]
  simp only [cellOf]
  rw [getD_tab _ _ _ _ hc]

/-- labels and mapping that `<<` hands to the constructor -/
theorem shlFF_meta (f o g : CF) (h : shlFF f o = .ok g) :
    vdimsSet (f.nvdim + o.nvdim) (shlVdims f.vdims o.vdims) = .ok g.vdims ∧
    vmapSet (f.nvdim + o.nvdim) f.mesh.region.ndim g.vdims f.mesh.region.dims
      (if (dictUpdate f.vmap o.vmap).length ≠ f.nvdim + o.nvdim then none
       else some (dictUpdate f.vmap o.vmap)) = .ok g.vmap := by
  obtain ⟨_, res, _, hg⟩ := shlFF_ok_iff.mp h
  exact mkField_meta hg

/-- state after stacking the first `j` components -/
def StackInv (f : CF) (n : List Nat) (cf : List Nat → List GQ) (vf : List Nat → Bool) (j : Nat) (acc : CF) : Prop :=
  Cells n acc (fun i => (cf i).take j) vf ∧ acc.mesh = f.mesh ∧ acc.nvdim = j ∧
    acc.vdims = Fld.defaultVdims j ∧
    vmapSet j f.mesh.region.ndim (Fld.defaultVdims j) f.mesh.region.dims none = .ok acc.vmap

/-- stacking the remaining components one by one keeps `StackInv` -/
theorem stackFrom_inv (n : List Nat) (f : CF) (cf : List Nat → List GQ) (vf : List Nat → Bool)
    (hf : Cells n f cf vf) (vd : List String) (hvd : f.vdims = some vd) (hlen : vd.length = f.nvdim)
    (hnd : hasDup vd = false) :
    ∀ (ls : List String) (j : Nat) (acc g : CF), 1 ≤ j → j ≤ f.nvdim → vd.drop j = ls →
      StackInv f n cf vf j acc → stackFrom f acc ls = .ok g → StackInv f n cf vf f.nvdim g := by
  intro ls
  induction ls with
  | nil =>
    intro j acc g _ hjle hdrop hinv h
    cases Except.ok.inj ((stackFrom_nil f acc).symm.trans h)
    have : f.nvdim ≤ j := by
      have := congrArg List.length hdrop
      simp at this
      omega
    have : j = f.nvdim := by omega
    subst this
    exact hinv
  | cons l ls ih =>
    intro j acc g hj1 _ hdrop hinv h
    obtain ⟨comp, acc', hgc, hsh, h⟩ := stackFrom_cons_ok_iff.mp h
    -- `l` is label number `j` of `f`
    have hjlt : j < vd.length := by
      by_contra hcon
      have : vd.drop j = [] := List.drop_eq_nil_of_le (by omega)
      rw [this] at hdrop; cases hdrop
    have hl : l = vd.getD j "" := by
      have := congrArg List.head? hdrop
      simp only [List.head?_drop, List.head?_cons] at this
      rw [List.getD_eq_getElem?_getD, this]; rfl
    have hidx : indexOf? vd l = some j := by rw [hl]; exact indexOf?_getD vd j hjlt hnd
    have hjn : j < f.nvdim := by rw [← hlen]; exact hjlt
    -- so `comp` is component `j` as an unlabelled scalar field without mapping
    obtain ⟨hcc, hcm, hcn, hcvd, hcvm, _⟩ := getComp_cells n f comp cf vf hf vd hvd l j hjn hidx hgc
    obtain ⟨hacc, haccm, haccn, haccvd, haccvm⟩ := hinv
    obtain ⟨hcells, hm', hnv'⟩ := shlFF_cells n acc comp acc' _ _ _ _ hacc hcc hsh
    obtain ⟨hvd', hvm'⟩ := shlFF_meta acc comp acc' hsh
    rw [hcvd] at hvd'
    -- an unlabelled right operand: `<<` hands no labels on, the constructor gives the default ones
    have hvd'' : acc'.vdims = Fld.defaultVdims (j + 1) := by
      have : shlVdims acc.vdims none = none := by
        cases acc.vdims <;> rfl
      rw [this, haccn, hcn] at hvd'
      simp only [vdimsSet] at hvd'
      injection hvd' with hvd'
      exact hvd'.symm
    -- `comp` adds no entry to the mapping, which is therefore too short to be kept: the default mapping is stored
    have hvmlen : acc.vmap.length ≤ j :=
      vmapSet_none_length j _ _ _ _ (fun l hl => (Fld.defaultVdims_ok j l hl).1) haccvm
    have hvm'' : vmapSet (j + 1) f.mesh.region.ndim (Fld.defaultVdims (j + 1)) f.mesh.region.dims none
        = .ok acc'.vmap := by
      rw [hcvm] at hvm'
      rw [dictUpdate_nil, haccn, hcn] at hvm'
      have : acc.vmap.length ≠ j + 1 := by omega
      simp only [this, ne_eq, not_false_eq_true, if_true] at hvm'
      rw [hvd'', haccm] at hvm'
      exact hvm'
    refine ih (j + 1) acc' g (by omega) (by omega) ?_
      ⟨⟨hcells.1, hcells.2.1, ?_⟩, by rw [hm', haccm], by rw [hnv', haccn, hcn], hvd'', hvm''⟩ h
    · rw [← List.drop_drop, hdrop]; rfl
    · intro i hi
      obtain ⟨h1, h2⟩ := hcells.2.2 i hi
      refine ⟨?_, by rw [h2]; simp⟩
      rw [h1]
      have hji : j < (cf i).length := by rw [hf.length i hi]; exact hjn
      show (cf i).take j ++ [(cf i).getD j GQ.zero] = (cf i).take (j + 1)
      rw [List.getD_eq_getElem?_getD, List.getElem?_eq_getElem hji]
      simp only [Option.getD_some]
      exact List.take_append_getElem hji

/-- `f.l₀ << f.l₁ << … << f.lₖ₋₁` reproduces values, validity, mesh and component count;
the labels are the default labels and the mapping the default mapping -/
theorem stackComps_inv (n : List Nat) (f g : CF) (cf : List Nat → List GQ) (vf : List Nat → Bool)
    (hf : Cells n f cf vf) (vd : List String) (hvd : f.vdims = some vd) (hlen : vd.length = f.nvdim)
    (hnd : hasDup vd = false) (h : stackComps f = .ok g) : StackInv f n cf vf f.nvdim g := by
  have hpos := hf.1.2.2
  obtain ⟨l, ls, comp, hvd', hgc, h⟩ := stackComps_ok_iff.mp h
  cases Option.some.inj (hvd.symm.trans hvd')
  have hidx : indexOf? (l :: ls) l = some 0 := by simp [indexOf?, indexOf?.go]
  obtain ⟨hcc, hcm, hcn, hcvd, hcvm, _⟩ := getComp_cells n f comp cf vf hf (l :: ls) hvd l 0 hpos hidx hgc
  refine stackFrom_inv n f cf vf hf (l :: ls) hvd hlen hnd ls 1 comp g (by omega) (by omega) rfl
    ⟨⟨hcc.1, hcc.2.1, ?_⟩, hcm, hcn, by rw [hcvd]; rfl, by rw [hcvm]; rfl⟩ h
  intro i hi
  obtain ⟨h1, h2⟩ := hcc.2.2 i hi
  refine ⟨?_, h2⟩
  rw [h1]
  have h0 : 0 < (cf i).length := by rw [hf.length i hi]; exact hpos
  show [(cf i).getD 0 GQ.zero] = (cf i).take 1
  cases hcf : cf i with
  | nil => rw [hcf] at h0; simp at h0
  | cons x xs => simp

end DFV.C03
