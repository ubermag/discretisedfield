import DFV.Lemmas.NDA
import DFV.Lemmas.C06Mesh
/-! Field-level lemmas for C06: well-formed fields, component values of the array operations, one equivalence per
branch of `integrate` / `mean` and one equation per constant branch (`integrate` and `mean` are unfolded here only),
one equivalence per `cons` step of the list forms, the bookkeeping fields of a returned field
(`integrate_field_meta`, `mean_field_meta`), cell volume, and the values each form returns (`integrate_dir_vals`,
`cum_spec`, `dir_cval`, `cum_last`, `integrate_cval`, `integrate_pair`). -/
namespace DFV.C06
open DFV

/-- well-formed field: well-formed mesh, value array of the mesh's shape -/
def WF (f : Fld) : Prop := f.mesh.Inv ∧ f.data.shape = f.mesh.n

theorem WF.congr {f g : Fld} (hf : WF f) (hm : g.mesh = f.mesh) (hs : g.data.shape = f.data.shape) : WF g :=
  ⟨hm ▸ hf.1, hs.trans (hf.2.trans (congrArg Mesh.n hm).symm)⟩

theorem ndim_pos {m : Mesh} (hm : m.Inv) : 0 < m.ndim := hm.1.ndim_pos

theorem two_le_ndim {m : Mesh} (hm : m.Inv) (h1 : m.ndim ≠ 1) : 2 ≤ m.ndim := by
  have := ndim_pos hm
  omega

theorem n_eq_tab {m : Mesh} (hm : m.Inv) : m.n = tab m.ndim m.nAt :=
  eq_tab_of_getD _ _ _ 0 hm.n_length fun _ _ => rfl

theorem n_of_ndim_one {m : Mesh} (hm : m.Inv) (h1 : m.ndim = 1) : m.n = [m.nAt 0] := by
  have := n_eq_tab hm
  rwa [h1] at this

theorem vals_tab_congr {n : Nat} {a b : Nat → Rat} (h : ∀ c, c < n → a c = b c) :
    (.ok (.vals (tab n a)) : M Res) = .ok (.vals (tab n b)) := by
  rw [tab_congr _ _ _ h]

/-- `Field(mesh, nvdim, value=array, …)` is accepted exactly when the array has the mesh's shape -/
theorem mkFld_ok_iff (m : Mesh) (nv : Nat) (data : NDA (List Rat)) (vd : Option (List String))
    (vm : List (String × String)) (u : Option String) (g : Fld) :
    mkFld m nv data vd vm u = .ok g ↔ data.shape = m.n ∧
      g = { mesh := m, nvdim := nv, data := data.force [], valid := NDA.const m.n true, vdims := vd, vmap := vm, unit := u } := by
  unfold mkFld
  by_cases h : data.shape = m.n
  · rw [if_neg (not_not.mpr h)]; exact ⟨fun e => ⟨h, (Except.ok.inj e).symm⟩, fun e => e.2 ▸ rfl⟩
  · rw [if_pos h]; exact ⟨(fun e => nomatch e), fun e => absurd e.1 h⟩

/-- … and the field it returns, wrapped as a result (the tail of every branch of `integrate` and `mean`) -/
theorem mkFld_field_iff (m : Mesh) (nv : Nat) (data : NDA (List Rat)) (vd : Option (List String))
    (vm : List (String × String)) (u : Option String) (r : Res) :
    (match mkFld m nv data vd vm u with | .error e => .error e | .ok g => .ok (.field g) : M Res) = .ok r ↔
      data.shape = m.n ∧ r = .field { mesh := m, nvdim := nv, data := data.force [], valid := NDA.const m.n true,
                                      vdims := vd, vmap := vm, unit := u } := by
  cases h : mkFld m nv data vd vm u with
  | error e => exact ⟨(fun e => nomatch e), fun e => by rw [((mkFld_ok_iff ..).mpr ⟨e.1, rfl⟩)] at h; cases h⟩
  | ok g =>
    obtain ⟨hs, rfl⟩ := (mkFld_ok_iff ..).mp h
    exact ⟨fun e => ⟨hs, (Except.ok.inj e).symm⟩, fun e => e.2 ▸ rfl⟩

/-! ## component values of the array operations -/

theorem cget_cumAxis (nv : Nat) (h : Rat) (a : NDA (List Rat)) (ax : Nat) (i : List Nat) (c : Nat) (hc : c < nv) :
    cget (cumAxis nv h a ax) i c =
      (if i.getD ax 0 = 0 then cget a i c / 2
       else cget a i c / 2 + cumTo (fun l => cget a (setAt i ax l) c) (i.getD ax 0 - 1)) * h := by
  simp only [cget, cumAxis]
  rw [getD_tab _ _ _ _ hc]

theorem cget_scaleBy (nv : Nat) (h : Rat) (a : NDA (List Rat)) (i : List Nat) (c : Nat) (hc : c < nv) :
    cget (scaleBy nv h a) i c = cget a i c * h := by
  simp only [cget, scaleBy]
  rw [getD_tab _ _ _ _ hc]

theorem cget_divBy (nv : Nat) (h : Rat) (a : NDA (List Rat)) (i : List Nat) (c : Nat) (hc : c < nv) :
    cget (divBy nv h a) i c = cget a i c / h := by
  simp only [cget, divBy]
  rw [getD_tab _ _ _ _ hc]

theorem cget_sumAxis (nv : Nat) (a : NDA (List Rat)) (ax : Nat) (i : List Nat) (c : Nat) (hc : c < nv) :
    cget (sumAxis nv a ax) i c = sumTo (a.shape.getD ax 0) fun j => cget a (insertAt i ax j) c := by
  simp only [cget, sumAxis]
  rw [getD_tab _ _ _ _ hc]

theorem cget_meanAxes (nv : Nat) (a : NDA (List Rat)) (axes : List Nat) (i : List Nat) (c : Nat) (hc : c < nv) :
    cget (meanAxes nv a axes) i c =
      maskSum a.shape (keepMask a.shape.length axes) (fun t => cget a t c) i
        / (dropProd (keepMask a.shape.length axes) a.shape : Rat) := by
  simp only [cget, meanAxes]
  rw [getD_tab _ _ _ _ hc]

theorem cget_force (a : NDA (List Rat)) (i : List Nat) (c : Nat) (h : inRange a.shape i = true) :
    cget (a.force []) i c = cget a i c := by
  unfold cget; rw [NDA.force_get a [] i h]

/-! ## the branches of `integrate` and `mean`: when each is taken and what it returns -/

theorem integrate_refused (f : Fld) (ds : List String) (cum : Bool) :
    integrate f .none true = .error .value ∧ integrate f (.names ds) cum = .error .type ∧
    integrate f .other cum = .error .type := ⟨rfl, rfl, rfl⟩

theorem mean_other (f : Fld) : mean f .other = .error .value := rfl

theorem integrate_name_error (f : Fld) (d : String) (cum : Bool) (e : Err) (h : f.mesh.region.dim2index d = .error e) :
    integrate f (.name d) cum = .error e := by
  unfold integrate; simp only [h]

theorem mean_name_error (f : Fld) (d : String) (e : Err) (h : f.mesh.region.dim2index d = .error e) :
    mean f (.name d) = .error e := by
  unfold mean; simp only [h]

theorem integrate_name_ax {f : Fld} {d : String} {cum : Bool} {r : Res} (h : integrate f (.name d) cum = .ok r) :
    ∃ ax, f.mesh.region.dim2index d = .ok ax := by
  cases hd : f.mesh.region.dim2index d with
  | ok ax => exact ⟨ax, rfl⟩
  | error e => rw [integrate_name_error f d cum e hd] at h; cases h

theorem integrate_cum_iff (f : Fld) (d : String) (r : Res) :
    integrate f (.name d) true = .ok r ↔ ∃ ax, f.mesh.region.dim2index d = .ok ax ∧ f.data.shape = f.mesh.n ∧
      r = .field { mesh := f.mesh, nvdim := f.nvdim,
                   data := (cumAxis f.nvdim (f.mesh.cellAt ax) f.data ax).force [],
                   valid := NDA.const f.mesh.n true, vdims := f.vdims, vmap := f.vmap, unit := none } := by
  unfold integrate
  dsimp only
  cases f.mesh.region.dim2index d with
  | error e => simp
  | ok ax =>
    simp only [if_true]
    exact (mkFld_field_iff ..).trans ⟨fun ⟨a, b⟩ => ⟨ax, rfl, a, b⟩, fun ⟨_, e, a, b⟩ => by cases e; exact ⟨a, b⟩⟩

/-- a non-cumulative directional integral returns the bare array exactly on a 1-d mesh -/
theorem integrate_1d_iff (f : Fld) (d : String) (v : List Rat) :
    integrate f (.name d) false = .ok (.vals v) ↔ ∃ ax, f.mesh.region.dim2index d = .ok ax ∧ f.mesh.ndim = 1 ∧
      v = (scaleBy f.nvdim (f.mesh.cellAt ax) (sumAxis f.nvdim f.data ax)).get [] := by
  unfold integrate
  dsimp only
  cases f.mesh.region.dim2index d with
  | error e => simp
  | ok ax =>
    simp only [Bool.false_eq_true, if_false]
    by_cases h1 : f.mesh.ndim = 1
    · rw [if_pos h1]
      exact ⟨fun e => ⟨ax, rfl, h1, (Res.vals.inj (Except.ok.inj e)).symm⟩, fun ⟨_, e, _, b⟩ => by cases e; exact b ▸ rfl⟩
    · rw [if_neg h1]
      refine ⟨fun e => ?_, fun ⟨_, _, e, _⟩ => absurd e h1⟩
      cases hs : sel f.mesh d with
      | error e' => rw [hs] at e; cases e
      | ok m' => rw [hs] at e; obtain ⟨_, e'⟩ := (mkFld_field_iff ..).mp e; cases e'

/-- … and otherwise a field on `Mesh.sel(d)` -/
theorem integrate_dir_iff (f : Fld) (d : String) (g : Fld) :
    integrate f (.name d) false = .ok (.field g) ↔ ∃ ax m', f.mesh.region.dim2index d = .ok ax ∧ f.mesh.ndim ≠ 1 ∧
      sel f.mesh d = .ok m' ∧ removeAt f.data.shape ax = m'.n ∧
      g = { mesh := m', nvdim := f.nvdim,
            data := (scaleBy f.nvdim (f.mesh.cellAt ax) (sumAxis f.nvdim f.data ax)).force [],
            valid := NDA.const m'.n true, vdims := f.vdims, vmap := f.vmap, unit := none } := by
  unfold integrate
  dsimp only
  cases f.mesh.region.dim2index d with
  | error e => simp
  | ok ax =>
    simp only [Bool.false_eq_true, if_false]
    by_cases h1 : f.mesh.ndim = 1
    · simp [h1]
    · rw [if_neg h1]
      cases sel f.mesh d with
      | error e => simp
      | ok m' =>
        exact (mkFld_field_iff ..).trans ⟨fun ⟨a, b⟩ => ⟨ax, m', rfl, h1, rfl, a, Res.field.inj b⟩,
          fun ⟨_, _, e, _, e', a, b⟩ => by cases e; cases e'; exact ⟨a, b ▸ rfl⟩⟩

theorem mean_name_iff (f : Fld) (d : String) (r : Res) :
    mean f (.name d) = .ok r ↔ ∃ ax m', f.mesh.region.dim2index d = .ok ax ∧ sel f.mesh d = .ok m' ∧
      removeAt f.data.shape ax = m'.n ∧
      r = .field
        { mesh := m', nvdim := f.nvdim,
          data := (divBy f.nvdim ((f.data.shape.getD ax 0 : Nat) : Rat) (sumAxis f.nvdim f.data ax)).force [],
          valid := NDA.const m'.n true, vdims := f.vdims, vmap := f.vmap, unit := f.unit } := by
  unfold mean
  dsimp only
  cases f.mesh.region.dim2index d with
  | error e => simp
  | ok ax =>
    simp only
    cases sel f.mesh d with
    | error e => simp
    | ok m' =>
      exact (mkFld_field_iff ..).trans ⟨fun ⟨a, b⟩ => ⟨ax, m', rfl, rfl, a, b⟩,
        fun ⟨_, _, e, e', a, b⟩ => by cases e; cases e'; exact ⟨a, b⟩⟩

/-- `mean(list)`: the list has no duplicate, and either it names all directions (bare array of the overall
mean) or the result is a field on the iterated reduced mesh -/
theorem mean_names_iff (f : Fld) (ds : List String) (r : Res) :
    mean f (.names ds) = .ok r ↔ hasDup ds = false ∧
    ((sameMultiset ds f.mesh.region.dims = true ∧ r = .vals (meanAll f)) ∨
     (sameMultiset ds f.mesh.region.dims = false ∧
      ∃ m' axes, selMany f.mesh ds = .ok m' ∧ dimIndices f.mesh.region ds = .ok axes ∧
        (meanAxes f.nvdim f.data axes).shape = m'.n ∧
        r = .field { mesh := m', nvdim := f.nvdim, data := (meanAxes f.nvdim f.data axes).force [],
                     valid := NDA.const m'.n true, vdims := f.vdims, vmap := f.vmap, unit := f.unit })) := by
  unfold mean
  dsimp only
  cases hasDup ds with
  | true => simp
  | false =>
    simp only [Bool.false_eq_true, if_false, true_and]
    cases sameMultiset ds f.mesh.region.dims with
    | true =>
      exact ⟨fun e => Or.inl ⟨rfl, (Except.ok.inj e).symm⟩, fun e => by
        rcases e with ⟨_, e⟩ | ⟨e, _⟩
        · exact e ▸ rfl
        · cases e⟩
    | false =>
      simp only [Bool.false_eq_true, if_false, false_and, false_or, true_and]
      cases selMany f.mesh ds with
      | error e => simp
      | ok m' =>
        cases dimIndices f.mesh.region ds with
        | error e => simp
        | ok axes =>
          exact (mkFld_field_iff ..).trans ⟨fun ⟨a, b⟩ => ⟨m', axes, rfl, rfl, a, b⟩,
            fun ⟨_, _, e, e', a, b⟩ => by cases e; cases e'; exact ⟨a, b⟩⟩

theorem mean_names_dup (f : Fld) (ds : List String) (h : hasDup ds = true) : mean f (.names ds) = .error .value := by
  unfold mean
  simp only [h, if_true]

/-- the field case of `mean_names_iff` -/
theorem mean_names_unpack (f : Fld) (ds : List String) (gm : Fld) (h : mean f (.names ds) = .ok (.field gm)) :
    hasDup ds = false ∧ ∃ m' axes, selMany f.mesh ds = .ok m' ∧ dimIndices f.mesh.region ds = .ok axes ∧
      (meanAxes f.nvdim f.data axes).shape = m'.n ∧
      gm = { mesh := m', nvdim := f.nvdim, data := (meanAxes f.nvdim f.data axes).force [],
             valid := NDA.const m'.n true, vdims := f.vdims, vmap := f.vmap, unit := f.unit } := by
  obtain ⟨hdup, ⟨_, hr⟩ | ⟨_, m', axes, h1, h2, h3, hr⟩⟩ := (mean_names_iff f ds _).mp h
  · cases hr
  · exact ⟨hdup, m', axes, h1, h2, h3, Res.field.inj hr⟩

/-! ## the list forms, one step at a time -/

/-- one step of a direction-by-direction integration: the bare array ends the list, a field goes on -/
theorem integrateSeq_cons_iff (f : Fld) (d : String) (ds : List String) (r : Res) :
    integrateSeq f (d :: ds) = .ok r ↔
      (∃ v, integrate f (.name d) false = .ok (.vals v) ∧ ds = [] ∧ r = .vals v) ∨
      (∃ g, integrate f (.name d) false = .ok (.field g) ∧ integrateSeq g ds = .ok r) := by
  rw [integrateSeq]
  cases integrate f (.name d) false with
  | error e => simp
  | ok x =>
    cases x with
    | vals v =>
      by_cases hd : ds = []
      · simpa [hd] using eq_comm
      · simp [hd]
    | field g => simp

theorem meanSeq_cons_iff (f : Fld) (d : String) (ds : List String) (r : Res) :
    meanSeq f (d :: ds) = .ok r ↔ ∃ g, mean f (.name d) = .ok (.field g) ∧ meanSeq g ds = .ok r := by
  rw [meanSeq]
  cases mean f (.name d) with
  | error e => simp
  | ok x => cases x <;> simp

theorem dimIndices_cons_iff (r : Region) (d : String) (ds : List String) (axes : List Nat) :
    dimIndices r (d :: ds) = .ok axes ↔ ∃ a t, r.dim2index d = .ok a ∧ dimIndices r ds = .ok t ∧ axes = a :: t := by
  rw [dimIndices]
  cases r.dim2index d with
  | error e => simp
  | ok a => cases dimIndices r ds <;> simp [eq_comm]

/-! ## the bookkeeping fields of a returned field -/

/-- every field `integrate` returns has the components, labels and mapping of `f`, no unit, and is valid in every cell
of its own mesh -/
theorem integrate_field_meta (f g : Fld) (dir : Dir) (cum : Bool) (h : integrate f dir cum = .ok (.field g)) :
    g.nvdim = f.nvdim ∧ g.vdims = f.vdims ∧ g.vmap = f.vmap ∧ g.unit = none ∧ g.valid = NDA.const g.mesh.n true := by
  cases dir with
  | none => cases cum <;> cases h
  | name d =>
    cases cum with
    | true => obtain ⟨_, _, _, hr⟩ := (integrate_cum_iff f d _).mp h; cases hr; exact ⟨rfl, rfl, rfl, rfl, rfl⟩
    | false => obtain ⟨_, _, _, _, _, _, rfl⟩ := (integrate_dir_iff f d g).mp h; exact ⟨rfl, rfl, rfl, rfl, rfl⟩
  | names ds => cases h
  | other => cases h

theorem mean_field_meta (f g : Fld) (dir : Dir) (h : mean f dir = .ok (.field g)) :
    g.nvdim = f.nvdim ∧ g.vdims = f.vdims ∧ g.vmap = f.vmap ∧ g.unit = f.unit ∧ g.valid = NDA.const g.mesh.n true := by
  cases dir with
  | none => cases h
  | name d => obtain ⟨_, _, _, _, _, hr⟩ := (mean_name_iff f d _).mp h; cases hr; exact ⟨rfl, rfl, rfl, rfl, rfl⟩
  | names ds => obtain ⟨_, _, _, _, _, _, rfl⟩ := mean_names_unpack f ds g h; exact ⟨rfl, rfl, rfl, rfl, rfl⟩
  | other => cases h

/-- the validity part alone (`Props/C08` reads it) -/
theorem integrate_field_valid (f g : Fld) (dir : Dir) (cum : Bool) (h : integrate f dir cum = .ok (.field g)) :
    g.valid = NDA.const g.mesh.n true := (integrate_field_meta f g dir cum h).2.2.2.2

theorem mean_field_valid (f g : Fld) (dir : Dir) (h : mean f dir = .ok (.field g)) :
    g.valid = NDA.const g.mesh.n true := (mean_field_meta f g dir h).2.2.2.2

/-! ## products over a mesh -/

theorem prod_cells_count (k : Nat) (e : Nat → Rat) (n : Nat → Nat) (hn : ∀ a, a < k → 0 < n a) :
    ratProd (tab k fun a => e a / (n a : Rat)) * (natProd (tab k n) : Rat) = ratProd (tab k e) := by
  induction k with
  | zero => simp [tab, ratProd, natProd]
  | succ k ih =>
    rw [tab_succ, tab_succ, tab_succ, C01.ratProd_snoc, C01.ratProd_snoc, natProd_append,
      show natProd [n k] = n k from Nat.mul_one _]
    have h0 : ((n k : Nat) : Rat) ≠ 0 := by exact_mod_cast (Nat.pos_iff_ne_zero.mp (hn k (by omega)))
    rw [← ih fun a ha => hn a (by omega)]
    push_cast
    field_simp

theorem dV_pos (m : Mesh) (hm : m.Inv) : 0 < dV m := by
  unfold dV Mesh.cell
  exact C01.ratProd_pos _ fun x hx => by
    obtain ⟨a, ha, rfl⟩ := (mem_tab _ _ _).mp hx
    exact hm.cellAt_pos ha

theorem dV_mul_count (m : Mesh) (hm : m.Inv) : dV m * (natProd m.n : Rat) = ratProd m.region.edges := by
  have := prod_cells_count m.ndim m.region.edge m.nAt fun _ ha => hm.nAt_pos ha
  rwa [← n_eq_tab hm] at this

theorem cells_cover (m : Mesh) (hm : m.Inv) (a : Nat) (ha : a < m.ndim) :
    (m.nAt a : Rat) * m.cellAt a = m.region.edge a :=
  C01.cellAt_cover m a (hm.nAt_pos ha)

/-! ## the values each form returns -/

/-- `integrate(d)` on a mesh with more than one dimension, `ax` the axis of `d`: the result is a well-formed
field on the mesh `sel` returns, which is the reduced mesh, and its value at the reduced index `i` is the cell length
times the sum along the axis -/
theorem integrate_dir_vals (f : Fld) (hf : WF f) (d : String) (g : Fld) (h : integrate f (.name d) false = .ok (.field g)) :
    ∃ ax, f.mesh.region.dim2index d = .ok ax ∧ sel f.mesh d = .ok g.mesh ∧ Reduced ax f.mesh g.mesh ∧ WF g ∧
      g.nvdim = f.nvdim ∧
      ∀ i c, inRange (removeAt f.mesh.n ax) i = true → c < f.nvdim →
        cget g.data i c = f.mesh.cellAt ax * sumTo (f.mesh.nAt ax) fun j => cget f.data (insertAt i ax j) c := by
  obtain ⟨ax, m', hax, _, hsel, hshape, rfl⟩ := (integrate_dir_iff f d g).mp h
  refine ⟨ax, hax, hsel, sel_reduced hf.1 hax hsel, ⟨sel_inv f.mesh d m' hsel, hshape⟩, rfl, fun i c hi hc => ?_⟩
  have hi' : inRange (scaleBy f.nvdim (f.mesh.cellAt ax) (sumAxis f.nvdim f.data ax)).shape i = true := by
    show inRange (removeAt f.data.shape ax) i = true
    rw [hf.2]; exact hi
  simp only
  rw [cget_force _ _ _ hi', cget_scaleBy _ _ _ _ _ hc, cget_sumAxis _ _ _ _ _ hc, mul_comm, hf.2]
  rfl

/-- `integrate(d, cumulative=True)`: same mesh, half-cell prefix sums times the cell length -/
theorem cum_spec (f : Fld) (d : String) (g : Fld) (h : integrate f (.name d) true = .ok (.field g)) :
    ∃ ax, f.mesh.region.dim2index d = .ok ax ∧ g.mesh = f.mesh ∧ g.data.shape = f.data.shape ∧
      f.data.shape = f.mesh.n ∧ g.nvdim = f.nvdim ∧
      ∀ i c, inRange f.data.shape i = true → c < f.nvdim →
        cget g.data i c = f.mesh.cellAt ax *
          (sumTo (i.getD ax 0) (fun l => cget f.data (setAt i ax l) c) + cget f.data i c / 2) := by
  obtain ⟨ax, hax, hsh, hr⟩ := (integrate_cum_iff f d _).mp h
  injection hr with hr
  subst hr
  refine ⟨ax, hax, rfl, rfl, hsh, rfl, ?_⟩
  intro i c hi hc
  simp only
  rw [cget_force (cumAxis f.nvdim (f.mesh.cellAt ax) f.data ax) i c hi, cget_cumAxis _ _ _ _ _ _ hc]
  split
  · rename_i h0
    rw [h0]; simp only [sumTo]; ring
  · rename_i h0
    rw [cumTo_eq]
    have : i.getD ax 0 - 1 + 1 = i.getD ax 0 := by omega
    rw [this]; ring

theorem cum_mesh {f : Fld} {d : String} {g : Fld} (h : integrate f (.name d) true = .ok (.field g)) : g.mesh = f.mesh := by
  obtain ⟨_, _, hm, _⟩ := cum_spec f d g h
  exact hm

theorem integrate_dir_1d_spec (f : Fld) (hf : WF f) (d : String) (v : List Rat)
    (h : integrate f (.name d) false = .ok (.vals v)) :
    f.mesh.ndim = 1 ∧ f.mesh.region.dim2index d = .ok 0 ∧
    v = tab f.nvdim fun c => f.mesh.cellAt 0 * sumTo (f.mesh.nAt 0) fun j => cget f.data [j] c := by
  obtain ⟨ax, hax, h1, hv⟩ := (integrate_1d_iff f d v).mp h
  obtain ⟨haxlt, _⟩ := dim2index_ok _ _ _ hax
  have hdl : f.mesh.region.dims.length = f.mesh.ndim := hf.1.dims_length
  have hax0 : ax = 0 := by omega
  subst hax0
  refine ⟨h1, hax, ?_⟩
  rw [hv]
  simp only [scaleBy, sumAxis]
  apply tab_congr
  intro c hc
  simp only [cget]
  rw [getD_tab _ _ _ _ hc, mul_comm, hf.2]
  rfl

/-- `integrate(d)` in any number of dimensions (field on the reduced mesh, or the bare array in
1-d): cell length times the sum along the axis -/
theorem dir_cval (f : Fld) (hf : WF f) (d : String) (r : Res) (h : integrate f (.name d) false = .ok r) :
    ∃ ax, f.mesh.region.dim2index d = .ok ax ∧ ax < f.mesh.ndim ∧ r.shape = removeAt f.mesh.n ax ∧
      r.nv = f.nvdim ∧
      ∀ i c, inRange (removeAt f.mesh.n ax) i = true → c < f.nvdim →
        r.cval i c = f.mesh.cellAt ax * sumTo (f.mesh.nAt ax) fun j => cget f.data (insertAt i ax j) c := by
  cases r with
  | field g =>
    obtain ⟨ax, hax, _, hr, hwg, hnv, hval⟩ := integrate_dir_vals f hf d g h
    exact ⟨ax, hax, hr.lt, hwg.2.trans hr.n, hnv, hval⟩
  | vals v =>
    obtain ⟨h1, hax, hv⟩ := integrate_dir_1d_spec f hf d v h
    have hrm : removeAt f.mesh.n 0 = [] := by rw [n_of_ndim_one hf.1 h1]; rfl
    refine ⟨0, hax, by omega, by rw [hrm]; rfl, by rw [hv]; exact tab_length _ _, ?_⟩
    intro i c hi hc
    rw [hrm] at hi
    obtain rfl := eq_nil_of_inRange_nil i hi
    show v.getD c 0 = _
    rw [hv, getD_tab _ _ _ _ hc]
    rfl

/-- The last cumulative entry along the axis plus half the last cell is the directional integral, whichever kind
of result that is: a field on the reduced mesh, or the bare array in 1-d. -/
theorem cum_last (f : Fld) (hf : WF f) (d : String) (gc : Fld) (r : Res)
    (hc : integrate f (.name d) true = .ok (.field gc)) (hr : integrate f (.name d) false = .ok r) :
    ∃ ax, f.mesh.region.dim2index d = .ok ax ∧
      ∀ i c, inRange f.mesh.n i = true → i.getD ax 0 = f.mesh.nAt ax - 1 → c < f.nvdim →
        cget gc.data i c + f.mesh.cellAt ax * (cget f.data i c / 2) = r.cval (removeAt i ax) c := by
  obtain ⟨ax, hax, _, _, _, _, hcum⟩ := cum_spec f d gc hc
  obtain ⟨ax', hax', haxlt, _, _, hdir⟩ := dir_cval f hf d r hr
  cases hax.symm.trans hax'
  refine ⟨ax, hax, fun i c hi hlast hcn => ?_⟩
  have haxi : ax < i.length := by rw [inRange_length _ _ hi, hf.1.n_length]; exact haxlt
  have hnpos : 0 < f.mesh.nAt ax := hf.1.nAt_pos haxlt
  rw [hcum i c (by rw [hf.2]; exact hi) hcn, hdir (removeAt i ax) c (inRange_removeAt _ _ _ hi) hcn]
  have hsplit : f.mesh.nAt ax = i.getD ax 0 + 1 := by omega
  rw [hsplit]
  simp only [sumTo]
  rw [insertAt_removeAt i ax _ haxi, setAt_getD_self,
    sumTo_congr _ (fun j => cget f.data (insertAt (removeAt i ax) ax j) c) (fun l => cget f.data (setAt i ax l) c)
      fun j _ => by rw [insertAt_removeAt i ax j haxi]]
  ring

theorem integrate_none (f : Fld) :
    integrate f .none false = .ok (.vals (tab f.nvdim fun c => ival f .none false [] c)) := by
  unfold integrate
  simp only [Bool.false_eq_true, if_false]
  refine vals_tab_congr fun c _ => ?_
  rw [sumAll_eq, mul_comm]
  rfl

theorem mean_none (f : Fld) :
    mean f .none = .ok (.vals (tab f.nvdim fun c =>
      (nestSum f.data.shape fun t => cget f.data t c) / (natProd f.data.shape : Rat))) :=
  congrArg (fun v => Except.ok (Res.vals v)) (tab_congr _ _ _ fun c _ => by rw [sumAll_eq])

/-- every successful `integrate` returns the spec values on the spec shape -/
theorem integrate_cval (f : Fld) (hf : WF f) (dir : Dir) (cum : Bool) (r : Res)
    (h : integrate f dir cum = .ok r) :
    r.nv = f.nvdim ∧ r.shape = ishape f dir cum ∧
    ∀ i c, inRange r.shape i = true → c < f.nvdim → r.cval i c = ival f dir cum i c := by
  cases dir with
  | none =>
    cases cum with
    | true => cases h
    | false =>
      rw [integrate_none] at h
      injection h with h; subst h
      exact ⟨tab_length _ _, rfl, fun i c _ hc => getD_tab _ _ _ _ hc⟩
  | name d =>
    cases cum with
    | true =>
      obtain ⟨ax, _, _, rfl⟩ := (integrate_cum_iff f d r).mp h
      obtain ⟨ax', hax, _, hs, _, hnv, hval⟩ := cum_spec f d _ h
      refine ⟨hnv, ?_, ?_⟩
      · simp only [Res.shape, ishape, hax, if_true]; rw [hs, hf.2]
      · intro i c hi hc
        simp only [Res.cval, ival, hax, if_true]
        exact hval i c hi hc
    | false =>
      obtain ⟨ax, hax, _, hs, hnv, hval⟩ := dir_cval f hf d r h
      refine ⟨hnv, ?_, ?_⟩
      · simp only [ishape, hax, Bool.false_eq_true, if_false]; exact hs
      · intro i c hi hc
        simp only [ival, hax, Bool.false_eq_true, if_false]
        exact hval i c (by rw [← hs]; exact hi) hc
  | names ds => cases h
  | other => cases h

/-- the same call on two well-formed fields with the same spec shape: the results have the same shape, and
on it each is its own spec value - what every comparison of two integrals starts from -/
theorem integrate_pair (f f' : Fld) (hf : WF f) (hf' : WF f') (dir : Dir) (cum : Bool)
    (hsh : ishape f' dir cum = ishape f dir cum) (r r' : Res)
    (h : integrate f dir cum = .ok r) (h' : integrate f' dir cum = .ok r') :
    r'.shape = r.shape ∧ ∀ i, inRange r.shape i = true →
      (∀ c, c < f.nvdim → r.cval i c = ival f dir cum i c) ∧
      (∀ c, c < f'.nvdim → r'.cval i c = ival f' dir cum i c) := by
  obtain ⟨_, hs, hv⟩ := integrate_cval f hf dir cum r h
  obtain ⟨_, hs', hv'⟩ := integrate_cval f' hf' dir cum r' h'
  have hss : r'.shape = r.shape := by rw [hs, hs', hsh]
  exact ⟨hss, fun i hi => ⟨fun c hc => hv i c hi hc, fun c hc => hv' i c (hss ▸ hi) hc⟩⟩

/-- `mean(d)` is `integrate(d)` divided by the edge length along `d`, on the same reduced mesh -/
theorem mean_dir_div_edge (f : Fld) (hf : WF f) (d : String) (gi : Fld) (r : Res)
    (hi : integrate f (.name d) false = .ok (.field gi)) (hm : mean f (.name d) = .ok r) :
    ∃ ax gm, f.mesh.region.dim2index d = .ok ax ∧ r = .field gm ∧ gm.mesh = gi.mesh ∧
      gm.data.shape = gi.data.shape ∧ gm.unit = f.unit ∧ gm.vdims = f.vdims ∧ gm.vmap = f.vmap ∧
      ∀ i c, inRange (removeAt f.mesh.n ax) i = true → c < f.nvdim →
        cget gm.data i c = cget gi.data i c / f.mesh.region.edge ax := by
  obtain ⟨ax, hax, hsel, hr, hwg, _, hgi⟩ := integrate_dir_vals f hf d gi hi
  have haxlt := hr.lt
  obtain ⟨ax', m'', hax', hsel', _, rfl⟩ := (mean_name_iff f d r).mp hm
  cases hax.symm.trans hax'
  cases hsel.symm.trans hsel'
  refine ⟨ax, _, hax, rfl, rfl, by rw [hwg.2, hr.n, ← hf.2]; rfl, rfl, rfl, rfl, ?_⟩
  intro i c hin hc
  have hn : ((f.mesh.nAt ax : Nat) : Rat) ≠ 0 := Nat.cast_ne_zero.mpr (Nat.pos_iff_ne_zero.mp (hf.1.nAt_pos haxlt))
  have hcp := hf.1.cellAt_pos haxlt
  dsimp only
  rw [hgi i c hin hc, cget_force _ _ _ (by rw [← hf.2] at hin; exact hin), cget_divBy _ _ _ _ _ hc,
    cget_sumAxis _ _ _ _ _ hc, hf.2, ← cells_cover f.mesh hf.1 ax haxlt]
  show sumTo (f.mesh.nAt ax) _ / ((f.mesh.nAt ax : Nat) : Rat) = _
  field_simp

end DFV.C06
