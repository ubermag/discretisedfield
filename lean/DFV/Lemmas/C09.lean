import DFV.Lemmas.C01Cell
import DFV.Lemmas.C01Ctor
import DFV.Lemmas.NDA
import DFV.Model.C09
/-! Arrays and payload order; byte blocks and chunks of the data section; `Mesh.mkCell?` on exact cell sizes
(`mkCell_ok`); dispatch by file extension (`kind_ovf_iff`). -/
namespace DFV.C09
open DFV

/-! ## arrays and payload order -/

/-- file position of cell (i,j,k), component c -/
def pos (nx ny nv i j k c : Nat) : Nat := ((k * ny + j) * nx + i) * nv + c

theorem pos_eq_flatF (nx ny nz nv i j k c : Nat) : pos nx ny nv i j k c = flatF [nx, ny, nz] [i, j, k] * nv + c := by
  simp only [pos, flatF]; ring

theorem pos_eq_flatC (nx ny nz nv i j k c : Nat) :
    pos nx ny nv i j k c = flatC [nz, ny, nx, nv] [k, j, i, c] := by
  simp [pos, flatC, natProd]; ring

theorem pos_lt (nx ny nz nv i j k c : Nat) (hi : i < nx) (hj : j < ny) (hk : k < nz) (hc : c < nv) :
    pos nx ny nv i j k c < natProd [nz, ny, nx, nv] := by
  rw [pos_eq_flatC nx ny nz]
  exact flatC_lt _ _ (by simp [inRange, hi, hj, hk, hc])

theorem ofList_transpose_get {α} (nx ny nz vd : Nat) (flat : List α) (d : α) (i j k cc : Nat) :
    ((NDA.ofList ([nx, ny, nz].reverse ++ [vd]) flat d).transpose [2, 1, 0, 3]).get [i, j, k, cc]
      = flat.getD (pos nx ny vd i j k cc) d := by
  rw [NDA.ofList_transpose_get4, pos_eq_flatF nx ny nz]

theorem flatPayload_getD {α} (f : OField α) (nx ny nz nv : Nat) (hs : f.arr.shape = [nx, ny, nz, nv])
    (i j k c : Nat) (hi : i < nx) (hj : j < ny) (hk : k < nz) (hc : c < nv) (d : α) :
    (flatPayload f).getD (pos nx ny nv i j k c) d = f.arr.get [i, j, k, c] := by
  rw [pos_eq_flatF nx ny nz]
  exact NDA.transpose_toList4_getD f.arr nx ny nz nv hs [i, j, k] (by simp [inRange, hi, hj, hk]) c hc d

theorem flatPayload_length {α} (f : OField α) (nx ny nz nv : Nat) (hs : f.arr.shape = [nx, ny, nz, nv]) :
    (flatPayload f).length = natProd [nz, ny, nx, nv] := by
  unfold flatPayload
  rw [NDA.toList_length, NDA.transpose_shape4 f.arr nx ny nz nv hs]

theorem flatPayload_mem {α} (f : OField α) (x : α) (h : x ∈ flatPayload f) : ∃ idx, x = f.arr.get idx := by
  unfold flatPayload NDA.toList at h
  obtain ⟨i, _, rfl⟩ := List.mem_map.mp h
  exact ⟨_, rfl⟩

theorem natProd_append1 (l : List Nat) (v : Nat) : natProd (l ++ [v]) = natProd l * v := by
  rw [natProd_append]; simp [natProd]

theorem unflatten_eq_ok_iff {α} (n : List Nat) (vd : Nat) (flat : List α) (d : α) (arr : NDA α) :
    unflatten n vd flat d = .ok arr ↔
      flat.length = natProd n * vd ∧ arr = (NDA.ofList (n.reverse ++ [vd]) flat d).transpose [2, 1, 0, 3] := by
  unfold unflatten
  rw [natProd_append1, natProd_reverse]
  simp only [guard_ok_iff, Except.ok.injEq, ne_eq, not_not, eq_comm (a := arr)]

theorem unflatten_get {α} (nx ny nz vd : Nat) (flat : List α) (d : α) (arr : NDA α)
    (h : unflatten [nx, ny, nz] vd flat d = .ok arr) (i j k c : Nat) :
    arr.get [i, j, k, c] = flat.getD (pos nx ny vd i j k c) d ∧ arr.shape = [nx, ny, nz, vd] := by
  obtain ⟨_, rfl⟩ := (unflatten_eq_ok_iff _ vd flat d arr).mp h
  exact ⟨ofList_transpose_get nx ny nz vd flat d i j k c, by simp [NDA.transpose, NDA.ofList, NDA.ofArray]⟩

/-! ## bytes and chunks -/

theorem ceil_step (len cs : Nat) (hcs : 0 < cs) (hl : 0 < len) :
    (len + cs - 1) / cs = (len - cs + cs - 1) / cs + 1 := by
  by_cases h : cs ≤ len
  · have : len + cs - 1 = (len - cs + cs - 1) + cs := by omega
    rw [this, Nat.add_div_right _ hcs]
  · have h1 : (len + cs - 1) / cs = 1 := by
      apply Nat.div_eq_of_lt_le <;> omega
    have h2 : (len - cs + cs - 1) / cs = 0 := by
      apply Nat.div_eq_of_lt; omega
    omega

theorem chunked_flatten {α} (cs : Nat) (hcs : 0 < cs) (l : List α) : (chunked cs l).flatten = l := by
  generalize hn : l.length = n
  induction n using Nat.strong_induction_on generalizing l with
  | _ n ih =>
    by_cases hl : l.length = 0
    · have : l = [] := List.length_eq_zero_iff.mp hl
      subst this
      have : (0 + cs - 1) / cs = 0 := Nat.div_eq_of_lt (by omega)
      simp [chunked, tab]
    · unfold chunked
      rw [ceil_step l.length cs hcs (by omega), tab_succ_cons]
      simp only [List.flatten_cons, Nat.zero_mul, List.drop_zero]
      have hrec := ih (l.drop cs).length (by simp; omega) (l.drop cs) rfl
      unfold chunked at hrec
      have e : (fun i => List.take cs (List.drop ((i + 1) * cs) l))
          = (fun i => List.take cs (List.drop (i * cs) (List.drop cs l))) := by
        funext i
        rw [List.drop_drop]
        congr 2
        ring
      rw [e]
      simp only [List.length_drop] at hrec
      rw [hrec, List.take_append_drop]

theorem flatMap_length_uniform {α β} (l : List α) (g : α → List β) (k : Nat) (h : ∀ x ∈ l, (g x).length = k) :
    (l.flatMap g).length = l.length * k := by
  induction l with
  | nil => simp
  | cons x l ih =>
    simp only [List.flatMap_cons, List.length_append, List.length_cons, h x (by simp),
      ih (fun y hy => h y (by simp [hy]))]
    ring

theorem block_item {α} (c : Codec α) (le : Bool) (w : Nat) (xs : List α) (tail : List Byte)
    (hl : ∀ x, (c.enc le w x).length = w) (i : Nat) (hi : i < xs.length) (d : α) :
    ((xs.flatMap (c.enc le w) ++ tail).drop (i * w)).take w = c.enc le w (xs.getD i d) := by
  induction xs generalizing i with
  | nil => simp at hi
  | cons x xs ih =>
    cases i with
    | zero =>
      simp only [List.flatMap_cons, Nat.zero_mul, List.drop_zero, List.append_assoc, List.getD_cons_zero]
      rw [List.take_append_of_le_length (by rw [hl]), List.take_of_length_le (by rw [hl])]
    | succ i =>
      simp only [List.flatMap_cons, List.append_assoc, List.getD_cons_succ]
      have : (i + 1) * w = (c.enc le w x).length + i * w := by rw [hl]; ring
      rw [this, ← List.drop_drop, List.drop_left]
      exact ih i (by simpa using hi)

theorem fromfile_block {α} (c : Codec α) (le : Bool) (w : Nat) (hw : 0 < w) (xs : List α) (tail : List Byte)
    (hl : ∀ x, (c.enc le w x).length = w) :
    fromfile c le w (xs.flatMap (c.enc le w) ++ tail) xs.length
      = xs.map fun x => c.dec le w (c.enc le w x) := by
  unfold fromfile
  have hlen : xs.length ≤ (xs.flatMap (c.enc le w) ++ tail).length / w := by
    rw [List.length_append, flatMap_length_uniform xs _ w fun x _ => hl x]
    rw [Nat.le_div_iff_mul_le hw]; omega
  rw [Nat.min_eq_left hlen]
  apply List.ext_getElem
  · simp
  · intro i h1 h2
    have hi : i < xs.length := by simpa using h1
    rw [getElem_tab, block_item c le w xs tail hl i hi (xs[i])]
    simp [List.getD_eq_getElem?_getD, hi]

/-- `np.fromfile(count=…)` returns `count` items, or as many as the bytes hold -/
theorem fromfile_length {α} (c : Codec α) (le : Bool) (w : Nat) (bytes : List Byte) (count : Nat) :
    (fromfile c le w bytes count).length = min count (bytes.length / w) := by
  unfold fromfile; simp

theorem triple_getD {α} (l : List α) (z d : α) (p cc : Nat) (hp : p < l.length) (hcc : cc < 3) :
    (l.flatMap fun x => [x, z, z]).getD (p * 3 + cc) d = if cc = 0 then l.getD p d else z := by
  induction l generalizing p with
  | nil => simp at hp
  | cons x xs ih =>
    cases p with
    | zero =>
      simp only [List.flatMap_cons, Nat.zero_mul, Nat.zero_add]
      match cc, hcc with
      | 0, _ => simp
      | 1, _ => simp
      | 2, _ => simp
    | succ p =>
      have : (p + 1) * 3 + cc = (p * 3 + cc) + 3 := by ring
      rw [this]
      simp only [List.flatMap_cons, List.cons_append, List.nil_append, List.getD_cons_succ]
      exact ih p (by simpa using hp)

/-! ## region and mesh constructors -/

theorem forall_lt3 {P : Nat → Prop} (h0 : P 0) (h1 : P 1) (h2 : P 2) : ∀ a, a < 3 → P a
  | 0, _ => h0
  | 1, _ => h1
  | 2, _ => h2

theorem dimsOk_none3 : Region.dimsOk 3 none = .ok ["x", "y", "z"] := by decide

/-- `Mesh(region, cell = edges / n)` has exactly `n` cells: every edge is a whole number of its cells -/
theorem mkCell_ok (r : Region) (n : List Nat) (hn : n.length = r.ndim)
    (hr : ∀ a, a < r.ndim → r.lo a < r.hi a) (hpos : ∀ a, a < r.ndim → 0 < n.getD a 0) :
    Mesh.mkCell? r (tab r.ndim fun a => r.edge a / (n.getD a 0 : Rat))
      = .ok { region := r, n := n, bc := "", subs := [] } := by
  have hne : ∀ a, a < r.ndim → ((n.getD a 0 : Nat) : Rat) ≠ 0 := fun a ha => by exact_mod_cast (hpos a ha).ne'
  have hcell : ∀ a, a < r.ndim → 0 < r.edge a / (n.getD a 0 : Rat) := fun a ha =>
    div_pos (sub_pos.mpr (hr a ha)) (by exact_mod_cast hpos a ha)
  have hmul : ∀ a, a < r.ndim →
      r.edge a = (n.getD a 0 : Rat) * (tab r.ndim fun a => r.edge a / (n.getD a 0 : Rat)).getD a 0 := fun a ha => by
    rw [getD_tab _ _ _ _ ha]; have := hne a ha; field_simp
  have hpc : ∀ c ∈ tab r.ndim fun a => r.edge a / (n.getD a 0 : Rat), 0 < c := fun c hc => by
    obtain ⟨a, ha, rfl⟩ := (mem_tab _ _ _).mp hc
    exact hcell a ha
  have hn' : n = tab r.ndim fun a => n.getD a 0 :=
    list_eq_of_getD _ _ 0 (by rw [hn, tab_length]) fun a ha => by rw [getD_tab _ _ _ _ (hn ▸ ha)]
  have h := C01.mkCell_of_near r _ (fun a => n.getD a 0) "" (tab_length _ _) hpc
    (C01.containsPt_of_exact _ _ ⟨tab_length _ _, fun a ha => by
      have h1 : (1 : Rat) ≤ (n.getD a 0 : Rat) := by exact_mod_cast hpos a ha
      have h2 := hcell a ha
      have h3 := div_le_self (sub_pos.mpr (hr a ha)).le h1
      rw [getD_tab _ _ _ _ ha, getD_tab _ _ _ _ ha]
      unfold Region.edge at h2 ⊢
      constructor <;> linarith⟩)
    (fun a ha => ⟨hpos a ha, by
      rw [← hmul a ha, sub_self, abs_zero]
      exact (C01.cellTol_bounds _ hpc a (by rw [tab_length]; exact ha)).2.1⟩)
    (C01.bcOk_empty_lower _)
  rw [h, ← hn', C01.toLower_empty]

/-! ## dispatch by extension -/

/-- the shape of `writeKind` / `readKind`: only the first branch answers `ovf` -/
theorem kind_ovf_iff (A B C : Prop) [Decidable A] [Decidable B] [Decidable C] :
    (if A then .ok "ovf" else if B then .ok "vtk" else if C then .ok "hdf5" else .error .value : M String) = .ok "ovf"
      ↔ A := by
  by_cases hA : A
  · simp [hA]
  · -- none of the later branches answers `ovf`
    rw [if_neg hA]
    refine iff_of_false (fun h => ?_) hA
    split at h
    · exact absurd (Except.ok.inj h) (by decide)
    · split at h
      · exact absurd (Except.ok.inj h) (by decide)
      · cases h

end DFV.C09
