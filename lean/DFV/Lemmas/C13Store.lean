import DFV.Lemmas.C13Reject
import DFV.Model.C13Store
/-! C13 / C14: the store model of Region and Mesh objects — basic facts; the setter and the constructor in closed
form (`attach_eq`, `mkMeshS_eq` with `built`: they are the setter and the constructor of the value model on the values
of the named objects); the in-place mutation of the Region objects a mesh holds (`updReg_apply`, `updSubs_apply`: every
object becomes `applyR` of its value), why `rotate90` may read the centre of the region after it has been turned
(`rot_center_eq`), and the value model as the abstraction of the in-place mesh step (`meshInplace_ok`). -/
namespace DFV.S
open DFV DFV.T DFV.C14

/-! ## the store -/

theorem reg_setReg_eq (s : Store) (i : Nat) (r : Region) (h : i < s.regs.length) : (s.setReg i r).reg i = r :=
  getD_setAt_eq s.regs i r default h

theorem reg_setReg_ne (s : Store) (i j : Nat) (r : Region) (h : j ≠ i) : (s.setReg i r).reg j = s.reg j :=
  getD_setAt_ne s.regs i j r default h

theorem setReg_length (s : Store) (i : Nat) (r : Region) : (s.setReg i r).regs.length = s.regs.length :=
  length_setAt _ _ _

theorem reg_allocs_lt (s : Store) (rs : List Region) (i : Nat) (h : i < s.regs.length) : (s.allocs rs).reg i = s.reg i :=
  getD_append_left s.regs rs i default h

theorem reg_allocs_ge (s : Store) (rs : List Region) (k : Nat) : (s.allocs rs).reg (s.regs.length + k) = rs.getD k default := by
  have := getD_append_right s.regs rs (s.regs.length + k) default (Nat.le_add_right _ _)
  rwa [Nat.add_sub_cancel_left] at this

theorem reg_allocs_head (s : Store) (r : Region) (rs : List Region) : (s.allocs (r :: rs)).reg s.regs.length = r :=
  reg_allocs_ge s (r :: rs) 0

theorem allocs_length (s : Store) (rs : List Region) : (s.allocs rs).regs.length = s.regs.length + rs.length :=
  List.length_append

theorem reg_allocs_mem (s : Store) (rs : List Region) (j : Nat) (h1 : s.regs.length ≤ j) (h2 : j < s.regs.length + rs.length) :
    (s.allocs rs).reg j ∈ rs := by
  obtain ⟨k, rfl⟩ := Nat.exists_eq_add_of_le h1
  rw [reg_allocs_ge]; exact getD_mem rs k default (by omega)

/-! ## fresh ids -/

/-- the fresh copies keep the names; stated for users of the model -/
theorem freshIds_names {α} (base : Nat) (l : List (String × α)) : (freshIds base l).map (·.1) = l.map (·.1) := by
  induction l generalizing base with
  | nil => rfl
  | cons p ps ih => simp only [freshIds, List.map_cons, ih]

theorem freshIds_ids {α} (base : Nat) (l : List (String × α)) : (freshIds base l).map (·.2) = List.range' base l.length := by
  induction l generalizing base with
  | nil => rfl
  | cons p ps ih => simp only [freshIds, List.map_cons, ih, List.length_cons, List.range'_succ]

theorem freshIds_mem {α} (base : Nat) (l : List (String × α)) (p : String × Nat) (h : p ∈ freshIds base l) :
    base ≤ p.2 ∧ p.2 < base + l.length := by
  have : p.2 ∈ (freshIds base l).map (·.2) := List.mem_map_of_mem h
  rw [freshIds_ids, List.mem_range'_1] at this
  exact this

theorem freshIds_nodup {α} (base : Nat) (l : List (String × α)) : ((freshIds base l).map (·.2)).Nodup := by
  rw [freshIds_ids]; exact List.nodup_range'

theorem valsOf_freshIds {α} (t : Store) (l : List (String × α)) (vals : α → Region) (pre : List Region)
    (h : t.regs = pre ++ l.map (fun p => vals p.2)) :
    valsOf t (freshIds pre.length l) = l.map fun p => (p.1, vals p.2) := by
  induction l generalizing pre with
  | nil => rfl
  | cons p ps ih =>
    have hp : t.reg pre.length = vals p.2 := by
      unfold Store.reg
      rw [h, List.getD_eq_getElem?_getD, List.getElem?_append_right (Nat.le_refl _), Nat.sub_self]
      rfl
    have := ih (pre ++ [vals p.2]) (by rw [h, List.map_cons, List.append_assoc]; rfl)
    rw [List.length_append] at this
    simp only [freshIds, valsOf, List.map_cons, hp]
    exact congrArg _ this

theorem absMesh_mk (t : Store) (rid : Nat) (n : List Nat) (bc : String) (ids : List (String × Nat)) (r : Region)
    (vals : List (String × Region)) (hr : t.reg rid = r) (hv : valsOf t ids = vals) :
    absMesh t ⟨rid, n, bc, ids⟩ = ⟨r, n, bc, vals⟩ := by
  subst hr hv; rfl

theorem absMesh_congr (s s' : Store) (mo : MeshObj) (h : ∀ a ∈ footprint mo, s'.reg a = s.reg a) : absMesh s' mo = absMesh s mo := by
  unfold absMesh
  rw [h _ List.mem_cons_self]
  congr 1
  exact List.map_congr_left fun p hp => by rw [h _ (List.mem_cons_of_mem _ (List.mem_map_of_mem hp))]

/-! ## the setter and the constructor in closed form -/

theorem idsOk_iff (s : Store) (subs : List (String × Nat)) : idsOk s subs = true ↔ ∀ p ∈ subs, p.2 < s.regs.length := by
  unfold idsOk; rw [List.all_eq_true]
  exact forall₂_congr fun p _ => decide_eq_true_iff

theorem valsOf_allocs (s : Store) (rs : List Region) (subs : List (String × Nat)) (h : ∀ p ∈ subs, p.2 < s.regs.length) :
    valsOf (s.allocs rs) subs = valsOf s subs :=
  List.map_congr_left fun p hp => by rw [reg_allocs_lt _ _ _ (h p hp)]

/-- `attach` tests what the setter of the value model tests, on the values of the named objects; it then stores a
stamped copy of every candidate -/
theorem attach_eq (s : Store) (m : Mesh) (subs : List (String × Nat)) :
    attach s m subs = match T.setSubs m (valsOf s subs) with
      | .error e => .error e
      | .ok _ => .ok (s.allocs (subs.map fun p => stamp m.region (s.reg p.2)), freshIds s.regs.length subs) := by
  unfold attach T.setSubs
  by_cases hall : ((valsOf s subs).all fun p => candOk m p.2) = true
  · rw [if_pos hall, if_pos hall]
  · rw [if_neg hall, if_neg hall]

/-- the store after an accepted `Mesh(region=<rid>, n, bc, subregions=subs)`: a copy of the region object, a stamped
copy of every candidate, one more mesh object holding them -/
def built (s : Store) (rid : Nat) (n : List Nat) (bc : String) (subs : List (String × Nat)) : Store :=
  { regs := s.regs ++ s.reg rid :: subs.map fun p => stamp (s.reg rid) (s.reg p.2),
    meshes := s.meshes ++ [⟨s.regs.length, n, bc.toLower, freshIds (s.regs.length + 1) subs⟩] }

/-- the constructor in the store is the constructor of the value model on the values of the named objects -/
theorem mkMeshS_eq (s : Store) (rid : Nat) (n : List Nat) (bc : String) (subs : List (String × Nat))
    (hrid : rid < s.regs.length) (hids : ∀ p ∈ subs, p.2 < s.regs.length) :
    mkMeshS s rid n bc subs = match mkMesh? (s.reg rid) n bc (valsOf s subs) with
      | .error e => .error e
      | .ok _ => .ok (built s rid n bc subs) := by
  unfold mkMeshS mkMesh?
  rw [if_neg (Nat.not_le.mpr hrid), (idsOk_iff s subs).mpr hids, if_neg (by decide)]
  cases hm0 : Mesh.mkN? (s.reg rid) n bc with
  | error e => rfl
  | ok m0 =>
    obtain ⟨_, _, _, rfl⟩ := (C01.mkN_ok_iff' _ _ _ _).mp hm0
    have hst : (subs.map fun p => stamp (s.reg rid) ((s.allocs [s.reg rid]).reg p.2)) = subs.map fun p => stamp (s.reg rid) (s.reg p.2) :=
      List.map_congr_left fun p hp => by rw [reg_allocs_lt _ _ _ (hids p hp)]
    simp only [attach_eq, valsOf_allocs s _ subs hids, hst]
    cases T.setSubs { region := s.reg rid, n := n, bc := bc.toLower, subs := [] } (valsOf s subs) with
    | error e => rfl
    | ok m' =>
      simp only [built, Store.allocs, List.append_assoc, List.singleton_append, List.length_append, List.length_cons,
        List.length_nil, Nat.zero_add]

theorem absMesh_built (s : Store) (rid : Nat) (n : List Nat) (bc : String) (subs : List (String × Nat)) (m' : Mesh)
    (h : mkMesh? (s.reg rid) n bc (valsOf s subs) = .ok m') :
    absMesh (built s rid n bc subs) ⟨s.regs.length, n, bc.toLower, freshIds (s.regs.length + 1) subs⟩ = m' := by
  obtain ⟨_, _, _, _, rfl⟩ := (mkMesh?_ok_iff _ _ _ _ _).mp h
  have hv := valsOf_freshIds (built s rid n bc subs) subs (fun i => stamp (s.reg rid) (s.reg i)) (s.regs ++ [s.reg rid])
    (by simp only [built, List.append_assoc, List.singleton_append])
  rw [List.length_append] at hv
  refine (absMesh_mk _ _ _ _ _ (s.reg rid) _ (reg_allocs_head s _ _) hv).trans ?_
  simp only [valsOf, List.map_map]; rfl

/-! ## in-place calls on Region objects -/

theorem updReg_ok_iff (s s' : Store) (i : Nat) (op : Op) :
    updReg s i op = .ok s' ↔ ∃ r', stepR (s.reg i) (op.withInplace true) = .ok (r', r') ∧ s' = s.setReg i r' := by
  unfold updReg
  cases hst : stepR (s.reg i) (op.withInplace true) with
  | error e => exact ⟨fun h => (nomatch h), fun ⟨_, h, _⟩ => (nomatch h)⟩
  | ok p =>
    obtain ⟨recv, ret⟩ := p
    -- in place the receiver is the result
    obtain rfl : recv = ret := by have := stepR_recv _ _ _ _ hst; rwa [inplace_withInplace, if_pos rfl] at this
    refine ⟨fun h => ⟨recv, rfl, (Except.ok.inj h).symm⟩, ?_⟩
    rintro ⟨r', h, rfl⟩
    obtain rfl : recv = r' := congrArg Prod.fst (Except.ok.inj h)
    rfl

theorem valsOf_setReg (s : Store) (i : Nat) (r : Region) (subs : List (String × Nat)) (h : ∀ p ∈ subs, p.2 ≠ i) :
    valsOf (s.setReg i r) subs = valsOf s subs :=
  List.map_congr_left fun p hp => by rw [reg_setReg_ne _ _ _ _ (h p hp)]

theorem updReg_apply (s : Store) (i : Nat) (op : Op) (hi : (s.reg i).Inv) (h : ¬ Malformed (s.reg i) op) :
    updReg s i op = .ok (s.setReg i (applyR (s.reg i) op)) := by
  have := specR.accepts hi (mt (malformed_withInplace _ op true).mp h)
  rw [inplace_withInplace, if_pos rfl, applyR_withInplace] at this
  exact (updReg_ok_iff _ _ _ _).mpr ⟨_, this, rfl⟩

theorem updSubs_apply (s : Store) (subs : List (String × Nat)) (op : Op)
    (hall : ∀ p ∈ subs, (s.reg p.2).Inv ∧ ¬ Malformed (s.reg p.2) op)
    (hnd : (subs.map (·.2)).Nodup) (hin : ∀ p ∈ subs, p.2 < s.regs.length) :
    ∃ s', updSubs s subs op = (s', true) ∧ s'.meshes = s.meshes ∧ s'.regs.length = s.regs.length ∧
      (∀ i, i ∉ subs.map (·.2) → s'.reg i = s.reg i) ∧
      valsOf s' subs = (valsOf s subs).map fun p => (p.1, applyR p.2 op) := by
  induction subs generalizing s with
  | nil => exact ⟨s, rfl, rfl, rfl, fun _ _ => rfl, rfl⟩
  | cons p ps ih =>
    obtain ⟨hpi, hpm⟩ := hall p List.mem_cons_self
    rw [List.map_cons, List.nodup_cons] at hnd
    have hp : p.2 < s.regs.length := hin p List.mem_cons_self
    have hne : ∀ q ∈ ps, q.2 ≠ p.2 := fun q hq e => hnd.1 (e ▸ List.mem_map_of_mem hq)
    obtain ⟨s', h1, h2, h3, h4, h5⟩ := ih (s.setReg p.2 (applyR (s.reg p.2) op))
      (fun q hq => by rw [reg_setReg_ne _ _ _ _ (hne q hq)]; exact hall q (List.mem_cons_of_mem _ hq)) hnd.2
      (fun q hq => by rw [setReg_length]; exact hin q (List.mem_cons_of_mem _ hq))
    refine ⟨s', by simp only [updSubs, updReg_apply s p.2 op hpi hpm, h1], h2, by rw [h3, setReg_length], fun i hi => ?_, ?_⟩
    · simp only [List.map_cons, List.mem_cons, not_or] at hi
      rw [h4 i hi.2, reg_setReg_ne _ _ _ _ hi.1]
    · show (p.1, s'.reg p.2) :: valsOf s' ps = (p.1, applyR (s.reg p.2) op) :: _
      rw [h5, h4 p.2 hnd.1, reg_setReg_eq _ _ _ hp, valsOf_setReg _ _ _ _ hne]
      rfl

/-! ## `rotate90` reads the centre after the region has been turned: same point -/

theorem rot_center_eq (r r' x : Region) (hr : r.Inv) (a1 a2 : String) (k : Int) (b : Bool)
    (h : rotate90R r a1 a2 k none b = .ok (x, r')) : r'.center = r.center := by
  obtain ⟨_, _, i1, i2, h1, h2, _, _, _, _, e, _⟩ := rotate90R_inv r a1 a2 k none b x r' h
  rw [e]
  exact target_rot_center r i1 i2 k _ (hr.dim2index_lt h1) (hr.dim2index_lt h2)

/-! ## the in-place mesh step: the value model is its abstraction -/

/-- what makes a mesh object's Region objects its own: ids in range, the subregion ids pairwise
different and different from the region id -/
def MeshOk (s : Store) (mo : MeshObj) : Prop :=
  mo.region < s.regs.length ∧ (∀ p ∈ mo.subs, p.2 < s.regs.length) ∧ (mo.subs.map (·.2)).Nodup ∧
  ∀ p ∈ mo.subs, p.2 ≠ mo.region

/-- the call the in-place form makes on every subregion is the one the value model makes -/
theorem subOpInplace_eq (m : Mesh) (hm : m.Inv) (op : Op) (x r' : Region)
    (hreg : stepR m.region (op.withInplace true) = .ok (x, r')) :
    (subOpInplace m.region r' op).withInplace true = subOp m (op.withInplace true) := by
  cases op with
  | translate v i => rfl
  | scale f ref i => rfl
  | rotate90 a1 a2 k ref i =>
    cases ref with
    | some R =>
      -- not `rfl`: the unifier would unfold `Region.center` on both sides before it looks at `Option.getD (some R)`
      simp only [subOpInplace, subOp, subRef, Op.withInplace, Option.getD_some]
    | none => exact congrArg (fun c => Op.rotate90 a1 a2 k (some c) true) (rot_center_eq m.region r' x hm.1 a1 a2 k true hreg)

/-- the calls made on the subregions are in-place calls; stated for users of the model -/
theorem subOpInplace_flag (a b : Region) (op : Op) : (subOpInplace a b op).withInplace true = subOpInplace a b op := by
  cases op <;> rfl

/-- **An accepted in-place mesh step, in the store.**  If the value model accepts the in-place step on
the value of mesh object `mid`, the store model carries it out on the mesh's own Region objects:
the statement evaluates to the mesh object itself, no object is created, every Region object outside
the mesh's footprint keeps its value, the mesh object keeps its Region objects, and its value
afterwards is exactly what the value model returns. -/
theorem meshInplace_ok (s : Store) (mid : Nat) (mo : MeshObj) (op : Op) (hmo : s.meshes[mid]? = some mo)
    (hok : MeshOk s mo) (hm : (absMesh s mo).Inv) (hp : SubsProper (absMesh s mo)) (hb : BcInv (absMesh s mo)) (T1 T : Mesh)
    (h : stepM (absMesh s mo) (op.withInplace true) = .ok (T1, T)) :
    ∃ s' mo', meshInplace s mid op = (s', some (.mesh mid)) ∧ s'.regs.length = s.regs.length ∧
      (∀ i, i ∉ footprint mo → s'.reg i = s.reg i) ∧
      s'.meshes = setAt s.meshes mid mo' ∧ mo'.region = mo.region ∧ mo'.subs = mo.subs ∧ absMesh s' mo' = T := by
  /- The value model returns `applyM (absMesh s mo) op` (`stepM_spec`).  1. the region object becomes `applyR` of its
  value (`updReg_apply`); 2. so does every subregion object (`updSubs_apply`), the calls being the value model's by
  `subOpInplace_eq`; 3. `finishInplace`: nothing for translation and scaling, `n` and `bc` for a quarter turn (the
  `bc` setter accepts by `opBc_inv`). -/
  obtain ⟨hrin, hsin, hnd, hne⟩ := hok
  obtain ⟨hmal, hT⟩ := (stepM_spec _ hm hp _ _ _).mp h
  rw [inplace_withInplace, if_pos rfl, applyM_withInplace] at hT
  rw [malformed_withInplace] at hmal
  obtain ⟨rfl, _⟩ := hT
  have hreg := specR.accepts hm.1 (mt (malformed_withInplace _ op true).mp hmal)
  rw [inplace_withInplace, if_pos rfl, applyR_withInplace] at hreg
  have hupd : updReg s mo.region op = .ok (s.setReg mo.region (applyR (s.reg mo.region) op)) := updReg_apply s mo.region op hm.1 hmal
  have h1reg : (s.setReg mo.region (applyR (s.reg mo.region) op)).reg mo.region = applyR (s.reg mo.region) op := reg_setReg_eq _ _ _ hrin
  have hvals1 : valsOf (s.setReg mo.region (applyR (s.reg mo.region) op)) mo.subs = valsOf s mo.subs := valsOf_setReg _ _ _ _ hne
  -- the call made on the subregion objects and the value model's differ in the flag at most
  have e : (subOpInplace (s.reg mo.region) (applyR (s.reg mo.region) op) op).withInplace true = (subOp (absMesh s mo) op).withInplace true :=
    (subOpInplace_eq (absMesh s mo) hm op _ _ hreg).trans (subOp_withInplace _ _ _)
  have key : ∀ r : Region, (Malformed r (subOpInplace (s.reg mo.region) (applyR (s.reg mo.region) op) op) ↔ Malformed r (subOp (absMesh s mo) op)) ∧
      applyR r (subOpInplace (s.reg mo.region) (applyR (s.reg mo.region) op) op) = applyR r (subOp (absMesh s mo) op) := fun r =>
    ⟨by rw [← malformed_withInplace r _ true, e, malformed_withInplace], by rw [← applyR_withInplace r _ true, e, applyR_withInplace]⟩
  obtain ⟨s2, hs2, a1, a2, a3, a4⟩ := updSubs_apply (s.setReg mo.region (applyR (s.reg mo.region) op)) mo.subs
    (subOpInplace (s.reg mo.region) (applyR (s.reg mo.region) op) op)
    (fun p hpm => by
      rw [reg_setReg_ne _ _ _ _ (hne p hpm), (key _).1]
      obtain ⟨hi, hd⟩ := hp (p.1, s.reg p.2) (List.mem_map_of_mem hpm)
      have hn : (s.reg p.2).ndim = (absMesh s mo).region.ndim := by rw [← hi.dims_length, ← hm.1.dims_length, hd]
      exact ⟨hi, by rw [subOp_malformed_iff _ _ hd hn]; exact hmal⟩)
    hnd (fun p hpm => by rw [setReg_length]; exact hsin p hpm)
  have hnotin : mo.region ∉ mo.subs.map (·.2) := fun hmem => by
    obtain ⟨p, hpm, e'⟩ := List.mem_map.mp hmem
    exact hne p hpm e'
  have h2reg : s2.reg mo.region = applyR (s.reg mo.region) op := by rw [a3 _ hnotin, h1reg]
  have hvals2 : valsOf s2 mo.subs = (applyM (absMesh s mo) op).subs := by
    rw [a4, hvals1]
    exact List.map_congr_left fun p _ => by rw [(key _).2]
  have hframe : ∀ i, i ∉ footprint mo → s2.reg i = s.reg i := by
    intro i hi
    simp only [footprint, List.mem_cons, not_or] at hi
    rw [a3 i hi.2, reg_setReg_ne _ _ _ _ hi.1]
  have hmeshes : s2.meshes = s.meshes := a1
  have hlen : s2.regs.length = s.regs.length := by rw [a2, setReg_length]
  have hmi : meshInplace s mid op = finishInplace s2 mid mo op := by
    unfold meshInplace
    rw [hmo]
    simp only [hupd, h1reg, hs2]
  rw [hmi]
  cases op with
  | translate | scale =>
    -- the mesh object stays as it is: writing it back at its own place changes nothing
    have hsame : setAt s.meshes mid mo = s.meshes := by
      have := setAt_getD_self s.meshes mid mo
      rwa [List.getD_eq_getElem?_getD, hmo, Option.getD_some] at this
    exact ⟨s2, mo, rfl, hlen, hframe, by rw [hmeshes, hsame], rfl, rfl,
      absMesh_mk s2 _ _ _ _ _ _ h2reg hvals2⟩
  | rotate90 a1' a2' k ref i =>
    obtain ⟨_, _, i1, i2, d1, d2, _⟩ := rotate90R_inv _ _ _ _ _ _ _ _ hreg
    have d1 : (s.reg mo.region).dim2index a1' = .ok i1 := d1
    have d2 : (s.reg mo.region).dim2index a2' = .ok i2 := d2
    obtain ⟨_, _, hdims, _⟩ := applyR_inv _ hm.1 _ hmal
    have hd : ∀ a, (s2.reg mo.region).dim2index a = (s.reg mo.region).dim2index a := fun a => by
      rw [h2reg]; exact dim2index_congr _ _ hdims a
    obtain ⟨w1, w2⟩ := opBc_inv (absMesh s mo) hm hb (.rotate90 a1' a2' k ref true) _ _ hreg
    have hbc : Mesh.bcOk (s2.reg mo.region).dims (rotBc mo.bc a1' a2' k).toLower = true := by
      rw [h2reg]; exact w1.symm ▸ w2
    refine ⟨{ s2 with meshes := setAt s2.meshes mid { mo with n := rotN mo.n i1 i2 k, bc := (rotBc mo.bc a1' a2' k).toLower } },
      { mo with n := rotN mo.n i1 i2 k, bc := (rotBc mo.bc a1' a2' k).toLower }, ?_, hlen, hframe,
      by show setAt s2.meshes mid _ = _; rw [hmeshes], rfl, rfl, ?_⟩
    · simp only [finishInplace, hd, d1, d2, hbc, Bool.not_true, Bool.false_eq_true, if_false]
    · refine (absMesh_mk _ _ _ _ _ _ _ h2reg hvals2).trans ?_
      have hN : opN (absMesh s mo) (.rotate90 a1' a2' k ref i) = rotN mo.n i1 i2 k := by
        simp only [opN]
        rw [show (absMesh s mo).region.dim2index a1' = .ok i1 from d1, show (absMesh s mo).region.dim2index a2' = .ok i2 from d2]
        rfl
      show _ = Mesh.mk _ (opN (absMesh s mo) (.rotate90 a1' a2' k ref i)) (opBc (absMesh s mo) (.rotate90 a1' a2' k ref i)) _
      rw [hN]
      exact congrArg (fun b => Mesh.mk _ _ b _) w1

end DFV.S
