import DFV.Lemmas.Rounding
import DFV.Lemmas.C01Tol
import DFV.Model.C01
/-! The index ↔ coordinate maps in rounded arithmetic.  First with an exact cell size `c` (`quotFl`, `centreFl`:
`fl_core`), then for the exact sequence of rounded operations of the code, where the cell size is itself a
computed quantity (`cell_ge`, `quot_err_cell`, `centre_err`; `Mesh.quotAxFl`, `Mesh.indexAxFl`,
`Mesh.centreAxFl`): what the error of the quotient `fl(fl(x − pmin) / fl(fl(pmax − pmin)/n))` means for
the index (`indexAxFl_eq`, `_band`, `_near_centre`), and the computed centre. -/
namespace DFV.C01
open DFV DFV.Mesh

/-! ### index ↔ coordinate with an exact cell size `c` (`Mesh.quotAxFl` / `Mesh.centreAxFl` of
`Model/C01.lean` use the rounded cell size instead: `section Cell` and below) -/

/-- `index2point` as computed: `fl(pmin + fl((i + ½)·c))` -/
def centreFl (R : Rounding) (pmin c : Rat) (i : Nat) : Rat := R.fl (pmin + R.fl (((i : Rat) + 1/2) * c))

/-- the quotient `point2index` floors: `fl(fl(p − pmin) / c)` -/
def quotFl (R : Rounding) (pmin c p : Rat) : Rat := R.fl (R.fl (p - pmin) / c)

/-- two roundings: `|fl(fl(y)/c) − y/c| ≤ 3u·|y/c|` (`quot_err2` with a rounder constant) -/
theorem quot_err (R : Rounding) (y c : Rat) :
    |R.fl (R.fl y / c) - y / c| ≤ 3 * R.u * |y / c| :=
  (quot_err2 R y c).trans (mul_le_mul_of_nonneg_right (by linarith [R.two_le, R.u_nonneg]) (abs_nonneg _))

/-- error propagation through `fl(fl(fl(pmin + fl(A·c)) − pmin)/c)`, in units of cells: the
four roundings move the quotient by less than half a cell when `10u·(|pmin|/c + A) < 1` -/
theorem fl_core (R : Rounding) (pmin c A : Rat) (hc : 0 < c) (hA : 0 ≤ A)
    (hs : 10 * R.u * (|pmin| / c + A) < 1) :
    |R.fl (R.fl (R.fl (pmin + R.fl (A * c)) - pmin) / c) - A| < 1 / 2 := by
  have hAc : |A * c| = A * c := abs_of_nonneg (mul_nonneg hA hc.le)
  have hP : |pmin| / c * c = |pmin| := div_mul_cancel₀ _ hc.ne'
  -- `h1`: `fl(A·c)`;  `h2`: `fl(pmin + ·)`;  `h3`: `fl(· − pmin)`;  `h4`: division by `c` and the last `fl`
  have h1 := R.err (A * c)
  rw [hAc] at h1
  have h2 : |R.fl (pmin + R.fl (A * c)) - pmin - A * c|
      ≤ (17 / 16 * (R.u * A) + R.u * (|pmin| / c + A)) * c := by
    have := R.step (x := pmin + A * c) (y := pmin + R.fl (A * c))
      (E := R.u * (A * c)) (by rwa [add_sub_add_left_eq_sub])
    have t := mul_le_mul_of_nonneg_left (abs_add_le pmin (A * c)) R.u_nonneg
    rw [hAc, ← hP] at t
    rw [sub_sub]; linarith only [this, t]
  have h3 := R.step h2
  rw [hAc] at h3
  have h4 := R.step (x := A) (y := R.fl (R.fl (pmin + R.fl (A * c)) - pmin) / c)
    (E := 17 / 16 * (17 / 16 * (R.u * A) + R.u * (|pmin| / c + A)) + R.u * A)
    (by rw [div_sub' hc.ne', abs_div, abs_of_pos hc, div_le_iff₀ hc, mul_comm c]; linarith only [h3])
  rw [abs_of_nonneg hA] at h4
  have hA' := mul_nonneg R.u_nonneg hA
  have hP' := mul_nonneg R.u_nonneg (div_nonneg (abs_nonneg pmin) hc.le)
  linarith only [h4, hs, hA', hP']

/-! a divisor that is itself a computed quantity, two roundings away from the exact one -/
section Cell
variable (R : Rounding) (c c' : Rat)

theorem cell_ge (hc : 0 < c) (hcc : |c' - c| ≤ (2 * R.u + R.u * R.u) * c) : 5 / 6 * c ≤ c' := by
  have h1 := mul_le_mul_of_nonneg_right (R.two_le.trans (mul_le_mul_of_nonneg_left R.u_small (by norm_num))) hc.le
  linarith [(abs_le.mp (hcc.trans h1)).1]

/-- the quotient with the computed cell size as divisor: `|fl(fl(y)/c') − y/c| ≤ 5u·|y/c|` -/
theorem quot_err_cell (y : Rat) (hc : 0 < c) (hcc : |c' - c| ≤ (2 * R.u + R.u * R.u) * c) :
    0 < c' ∧ |R.fl (R.fl y / c') - y / c| ≤ 5 * R.u * |y / c| := by
  have hu := R.u_nonneg
  have hge := cell_ge R c c' hc hcc
  have hc' : 0 < c' := by linarith
  refine ⟨hc', ?_⟩
  have h1 : |c' - c| ≤ 5 / 2 * R.u * c' := by
    have a1 := mul_le_mul_of_nonneg_right R.two_le hc.le
    have a2 := mul_le_mul_of_nonneg_left hge hu
    linarith only [hcc, a1, a2, mul_nonneg hu hc'.le]
  have h2 := err_trans _ _ _ _ _ (by positivity) (err_divisor _ y c c' hc hc' h1) (quot_err2 R y c')
  refine h2.trans (mul_le_mul_of_nonneg_right ?_ (abs_nonneg _))
  have a3 := mul_le_mul_of_nonneg_right R.u_small hu
  have a4 := mul_le_mul_of_nonneg_right R.u_small (mul_nonneg hu hu)
  linarith only [R.two_le, a3, a4, hu]

/-- the computed centre `fl(lo + fl(A·c'))` is within half a cell of `lo + A·c` when `0 ≤ A ≤ n`
and `12u·(|lo|/c + n) < 1` -/
theorem centre_err (lo A n : Rat) (hc : 0 < c) (hA0 : 0 ≤ A) (hAn : A ≤ n)
    (hcc : |c' - c| ≤ (2 * R.u + R.u * R.u) * c) (hs : 12 * R.u * (|lo| / c + n) < 1) :
    |R.fl (lo + R.fl (A * c')) - (lo + A * c)| < c / 2 := by
  have hu := R.u_nonneg
  have hAc : |A * c| = A * c := abs_of_nonneg (mul_nonneg hA0 hc.le)
  have hL : |lo| / c * c = |lo| := div_mul_cancel₀ _ hc.ne'
  have h0 : |A * c' - A * c| ≤ 33 / 16 * R.u * (A * c) := by
    rw [← mul_sub, abs_mul, abs_of_nonneg hA0]
    have := mul_le_mul_of_nonneg_left (hcc.trans (mul_le_mul_of_nonneg_right R.two_le hc.le)) hA0
    linarith only [this]
  have h1 := R.step h0
  rw [hAc] at h1
  have h2 := R.step (x := lo + A * c) (y := lo + R.fl (A * c'))
    (E := 17 / 16 * (33 / 16 * R.u * (A * c)) + R.u * (A * c)) (by rwa [add_sub_add_left_eq_sub])
  have t := mul_le_mul_of_nonneg_left (abs_add_le lo (A * c)) hu
  rw [hAc] at t
  have k1 := mul_le_mul_of_nonneg_left (mul_le_mul_of_nonneg_right hAn hc.le) hu
  have k2 := mul_lt_mul_of_pos_right hs hc
  have k3 : 12 * R.u * (|lo| / c + n) * c = 12 * (R.u * |lo|) + 12 * (R.u * (n * c)) := by
    rw [mul_assoc (12 * R.u), add_mul, hL]; ring
  have k4 := mul_nonneg hu (abs_nonneg lo)
  have k5 := mul_nonneg hu (mul_nonneg hA0 hc.le)
  linarith only [h2, t, k1, k2, k3, k4, k5]
end Cell

/-- relative distance from face `j`, in cell units ⇔ in coordinates -/
theorem near_coord (m : Mesh) (a : Nat) (hc : 0 < m.cellAt a) (x ε : Rat) (j : Nat) :
    |(x - m.region.lo a) / m.cellAt a - (j : Rat)| ≤ ε * ((x - m.region.lo a) / m.cellAt a) ↔
      |x - (m.region.lo a + (j : Rat) * m.cellAt a)| ≤ ε * (x - m.region.lo a) := by
  rw [div_sub' hc.ne', abs_div, abs_of_pos hc, ← mul_div_assoc, div_le_div_iff_of_pos_right hc,
    mul_comm (m.cellAt a), sub_sub]

section Axis
variable (R : Rounding) (m : Mesh) (a : Nat)

theorem cellAtFl_err (hn : 0 < m.nAt a) (hr : m.region.lo a < m.region.hi a) :
    |m.cellAtFl R.fl a - m.cellAt a| ≤ (2 * R.u + R.u * R.u) * m.cellAt a := by
  have : |m.cellAtFl R.fl a - m.cellAt a| ≤ _ * |m.cellAt a| :=
    quot_err2 R (m.region.hi a - m.region.lo a) (m.nAt a : Rat)
  rwa [abs_of_pos (cellAt_pos m a hn hr)] at this

/-- error of the quotient that `point2index` floors, for the operations the code performs:
`|fl(fl(x − pmin)/cell_fl) − (x − pmin)/cell| ≤ 5u·|(x − pmin)/cell|`, `cell_fl = fl(fl(pmax − pmin)/n)` -/
theorem quotAxFl_err (hn : 0 < m.nAt a) (hr : m.region.lo a < m.region.hi a) (x : Rat) :
    0 < m.cellAtFl R.fl a ∧
    |m.quotAxFl R.fl a x - (x - m.region.lo a) / m.cellAt a| ≤ 5 * R.u * |(x - m.region.lo a) / m.cellAt a| :=
  quot_err_cell R (m.cellAt a) (m.cellAtFl R.fl a) (x - m.region.lo a) (cellAt_pos m a hn hr)
    (cellAtFl_err R m a hn hr)

/-- away from every interior face the computed index is the exact one: if the point's
distance from every interior face `pmin + j·cell`, `j = 1 … n−1`, exceeds `5u·(x − pmin)`, no face
separates the computed quotient from the exact one, and the rounded computation returns the index of
the cell that contains the point.  The faces of the region itself need no margin (`clip`, and the
error is relative to `x − pmin`). -/
theorem indexAxFl_eq (hn : 0 < m.nAt a) (hr : m.region.lo a < m.region.hi a) (x : Rat)
    (hlo : m.region.lo a ≤ x) (hhi : x ≤ m.region.hi a)
    (haway : ∀ j : Nat, 0 < j → j < m.nAt a →
      5 * R.u * (x - m.region.lo a) < |x - (m.region.lo a + (j : Rat) * m.cellAt a)|) :
    m.indexAxFl R.fl a x = m.indexAx a x := by
  obtain ⟨hq0, _⟩ := quot_mem m a hn hr x hlo hhi
  obtain ⟨_, herr⟩ := quotAxFl_err R m a hn hr x
  rw [abs_of_nonneg hq0, abs_le] at herr
  refine (clipIdx_eq_iff_faces hn).mpr fun k hk0 hk => ?_
  have := haway k hk0 hk
  rw [← not_le, ← near_coord m a (cellAt_pos m a hn hr), not_le] at this
  rcases le_or_gt (k : Rat) ((x - m.region.lo a) / m.cellAt a) with h | h
  · rw [abs_of_nonneg (sub_nonneg.mpr h)] at this
    exact iff_of_true (by linarith only [this, herr.1]) h
  · rw [abs_of_neg (sub_neg.mpr h)] at this
    exact iff_of_false (by linarith only [this, herr.2]) (not_le.mpr h)

/-- all that rounding can do to the index: for EVERY coordinate the computed index is the exact one (always
so outside the edge, where both are clipped), or the point lies on the closed edge within `5u·(x − pmin)` of an
interior face `j` and computed and exact index are the two cells `j − 1`, `j` that share it. -/
theorem indexAxFl_band (hn : 0 < m.nAt a) (hr : m.region.lo a < m.region.hi a) (x : Rat)
    (hs : 10 * R.u * (m.nAt a : Rat) < 1) :
    m.indexAxFl R.fl a x = m.indexAx a x ∨
    (m.region.lo a ≤ x ∧ x ≤ m.region.hi a ∧ ∃ j : Nat, 0 < j ∧ j < m.nAt a ∧
      |x - (m.region.lo a + (j : Rat) * m.cellAt a)| ≤ 5 * R.u * (x - m.region.lo a) ∧
      (m.indexAxFl R.fl a x = j - 1 ∨ m.indexAxFl R.fl a x = j) ∧ (m.indexAx a x = j - 1 ∨ m.indexAx a x = j)) := by
  have hc := cellAt_pos m a hn hr
  refine (clipIdx_perturbed hn (mul_nonneg (by norm_num) R.u_nonneg) (by linarith only [hs])
    (quotAxFl_err R m a hn hr x).2).imp_right ?_
  rintro ⟨hq0, hqn, j, hj0, hjn, hnear, h⟩
  refine ⟨by simpa using (le_quot_iff m a hc 0 x).mp hq0, ?_, j, hj0, hjn, (near_coord m a hc x _ j).mp hnear, h⟩
  rw [div_le_iff₀ hc, cellAt_cover m a hn] at hqn
  linarith only [hqn]

/-- a point within `D` of the centre of cell `j`, with `D + 5u·n·cell < cell/2`, lies in the closed
edge, and the computed index of it is `j` -/
theorem indexAxFl_near_centre (hn : 0 < m.nAt a) (hr : m.region.lo a < m.region.hi a) (x D : Rat)
    (j : Nat) (hj : j < m.nAt a)
    (hx : |x - (m.region.lo a + ((j : Rat) + 1 / 2) * m.cellAt a)| ≤ D)
    (hD : D + 5 * R.u * ((m.nAt a : Rat) * m.cellAt a) < m.cellAt a / 2) :
    m.region.lo a ≤ x ∧ x ≤ m.region.hi a ∧ m.indexAxFl R.fl a x = j := by
  have hc := cellAt_pos m a hn hr
  have hcov := cellAt_cover m a hn
  have hu := R.u_nonneg
  have hj0 : 0 ≤ (j : Rat) * m.cellAt a := mul_nonneg (Nat.cast_nonneg j) hc.le
  have hjn : ((j : Rat) + 1) * m.cellAt a ≤ (m.nAt a : Rat) * m.cellAt a :=
    mul_le_mul_of_nonneg_right (by exact_mod_cast hj) hc.le
  have hunc : 0 ≤ R.u * ((m.nAt a : Rat) * m.cellAt a) := by positivity
  -- in cell units: `|q − (j + ½)| ≤ D/cell` and `D/cell + 5u·n < ½`
  have h1 : |(x - m.region.lo a) / m.cellAt a - ((j : Rat) + 1 / 2)| ≤ D / m.cellAt a := by
    rw [div_sub' hc.ne', abs_div, abs_of_pos hc, mul_comm (m.cellAt a), sub_sub]
    exact div_le_div_of_nonneg_right hx hc.le
  rw [abs_le] at hx h1
  have hlo : m.region.lo a ≤ x := by linarith only [hx.1, hj0, hD, hunc]
  have hhi : x ≤ m.region.hi a := by linarith only [hx.2, hjn, hD, hunc, hcov]
  refine ⟨hlo, hhi, ?_⟩
  obtain ⟨hq0, hqn⟩ := quot_mem m a hn hr x hlo hhi
  obtain ⟨_, herr⟩ := quotAxFl_err R m a hn hr x
  rw [abs_of_nonneg hq0, abs_le] at herr
  have h3 : D / m.cellAt a + 5 * R.u * (m.nAt a : Rat) < 1 / 2 := by
    rw [div_add' _ _ _ hc.ne', div_lt_iff₀ hc]; linarith only [hD]
  have h5q := mul_le_mul_of_nonneg_left hqn (mul_nonneg (by norm_num) R.u_nonneg : (0 : Rat) ≤ 5 * R.u)
  exact (clipIdx_eq_iff _ hj).mpr ⟨Or.inr (by linarith only [h1.1, h3, herr.1, h5q]),
    Or.inr (by linarith only [h1.2, h3, herr.2, h5q])⟩

end Axis

/-! ### range of the computed index, the containment test on exact points, the computed centre -/
section Outside
variable (R : Rounding) (m : Mesh) (a : Nat)

theorem indexAxFl_lt (fl : Rat → Rat) (hn : 0 < m.nAt a) (x : Rat) : m.indexAxFl fl a x < m.nAt a :=
  clipIdx_lt _ hn

/-- a point that is exactly inside passes the containment test whatever the rounding: the two
comparisons `pmin ≤ x`, `x ≤ pmax` are exact in floating point -/
theorem containsPtFl_of_exact (fl : Rat → Rat) (r : Region) (p : List Rat) (h : r.containsExact p) :
    r.containsPtFl fl p = true := by
  obtain ⟨hl, hb⟩ := h
  unfold Region.containsPtFl
  rw [decide_eq_true hl, Bool.true_and, allLt_iff]
  intro a ha
  unfold Region.containsAxFl
  rw [decide_eq_true (hb a ha).1, decide_eq_true (hb a ha).2]; rfl

/-- the computed centre of every cell lies strictly inside the edge when
`12u·(|pmin|/cell + n) < 1` (so the containment test of `point2index` accepts it by exact comparison) -/
theorem centreAxFl_inside (hn : 0 < m.nAt a) (hr : m.region.lo a < m.region.hi a) (i : Nat) (hi : i < m.nAt a)
    (hs : 12 * R.u * (|m.region.lo a| / m.cellAt a + (m.nAt a : Rat)) < 1) :
    m.region.lo a < m.centreAxFl R.fl a (i : Int) ∧ m.centreAxFl R.fl a (i : Int) < m.region.hi a := by
  have hc := cellAt_pos m a hn hr
  have hcov := cellAt_cover m a hn
  have hi0 : (0 : Rat) ≤ ((i : Int) : Rat) := by exact_mod_cast i.zero_le
  have hi' : ((i : Int) : Rat) + 1 ≤ (m.nAt a : Rat) := by exact_mod_cast hi
  have := centre_err R (m.cellAt a) (m.cellAtFl R.fl a) (m.region.lo a) (((i : Int) : Rat) + 1 / 2)
    (m.nAt a : Rat) hc (add_nonneg hi0 (by norm_num)) (by linarith only [hi']) (cellAtFl_err R m a hn hr) hs
  rw [abs_lt] at this
  have k0 := mul_nonneg hi0 hc.le
  have k1 := mul_le_mul_of_nonneg_right hi' hc.le
  unfold centreAxFl
  exact ⟨by linarith only [this.1, k0, hc], by linarith only [this.2, k1, hcov, hc]⟩

end Outside

/-- rounded twin of `index2point_ok_iff'` -/
theorem index2pointFl_ok_iff (fl : Rat → Rat) (m : Mesh) (idx : List Int) (p : List Rat) :
    m.index2pointFl fl idx = .ok p ↔
      idx.length = m.ndim ∧ (∀ a, a < m.ndim → 0 ≤ idx.getD a 0 ∧ idx.getD a 0 < (m.nAt a : Int)) ∧
      p = tab m.ndim fun a => m.centreAxFl fl a (idx.getD a 0) := by
  unfold index2pointFl
  simp only [guard_ok_iff, not_not, Bool.not_eq_eq_eq_not, Bool.not_true, Bool.not_eq_false, allLt_iff,
    Bool.and_eq_true, decide_eq_true_eq, Except.ok.injEq, eq_comm (a := p)]

/-- rounded twin of `point2index_ok_iff_containsPt` -/
theorem point2indexFl_ok_iff (fl : Rat → Rat) (m : Mesh) (p : List Rat) (i : List Nat) :
    m.point2indexFl fl p = .ok i ↔
      p.length = m.ndim ∧ m.region.containsPtFl fl p = true ∧
      i = tab m.ndim fun a => m.indexAxFl fl a (p.getD a 0) := by
  unfold point2indexFl
  simp only [guard_ok_iff, not_not, Bool.not_eq_eq_eq_not, Bool.not_true, Bool.not_eq_false,
    Except.ok.injEq, eq_comm (a := i)]

/-- rounded twin of `point2index_of_exact` -/
theorem point2indexFl_of_exact (fl : Rat → Rat) (m : Mesh) (p : List Rat) (h : m.region.containsExact p) :
    m.point2indexFl fl p = .ok (tab m.ndim fun a => m.indexAxFl fl a (p.getD a 0)) :=
  (point2indexFl_ok_iff fl m p _).mpr ⟨h.1, containsPtFl_of_exact fl _ _ h, rfl⟩

end DFV.C01
