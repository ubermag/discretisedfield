import DFV.Lemmas.C01
import DFV.Model.C14
/-! C14: one axis of the subregion invariant, on numbers.  An interval `[l, h]` fits `[L, H]` cut
into `n` cells (`FitsAx`) when both ends are lattice points `L + k·c`, `c = (H − L)/n`; everything
the transformation steps, the selections and the setter need about one axis is proved here, with
the cell size a variable. -/
namespace DFV.C14
open DFV DFV.T

/-- one axis of `FitsE`, on numbers -/
def FitsAx (L H : Rat) (n : Nat) (l h : Rat) : Prop :=
  ∃ z w : Int, 0 ≤ z ∧ 0 < w ∧ z + w ≤ (n : Int) ∧
    l - L = (z : Rat) * ((H - L) / (n : Rat)) ∧ h - l = (w : Rat) * ((H - L) / (n : Rat))

/-- by definition (`Iff.rfl`): `FitsE` is `FitsAx` on every axis -/
theorem fitsE_iff (m : Mesh) (s : Region) :
    FitsE m s ↔ s.pmin.length = m.ndim ∧ s.pmax.length = m.ndim ∧
      ∀ a, a < m.ndim → FitsAx (m.region.lo a) (m.region.hi a) (m.nAt a) (s.lo a) (s.hi a) := Iff.rfl

/-! ## points `L + k·c` of a lattice with cell `c > 0` -/

theorem lat_lt_iff {c : Rat} (hc : 0 < c) (L : Rat) (a b : Int) : L + (a : Rat) * c < L + (b : Rat) * c ↔ a < b :=
  (C01.face_lt hc _ _).trans Int.cast_lt

/-- lattice points are at least a cell apart, so half a cell does not matter -/
theorem lat_lt_half_iff {c : Rat} (hc : 0 < c) (L : Rat) (a b : Int) :
    L + (a : Rat) * c < L + (b : Rat) * c - c / 2 ↔ a < b := by
  constructor
  · intro h
    exact (lat_lt_iff hc L a b).mp (h.trans (sub_lt_self _ (half_pos hc)))
  · intro h
    have : ((a + 1 : Int) : Rat) * c ≤ (b : Rat) * c :=
      mul_le_mul_of_nonneg_right (Int.cast_le.mpr h) hc.le
    push_cast at this
    linarith

/-! ## `FitsAx` -/

/-- `FitsAx` with the cell size named: `l` and `h` are the lattice points `z` and `z + w` -/
theorem fitsAx_iff_cell {L H l h c : Rat} {n : Nat} (hn : 0 < n) (hH : H - L = (n : Rat) * c) :
    FitsAx L H n l h ↔ ∃ z w : Int, 0 ≤ z ∧ 0 < w ∧ z + w ≤ (n : Int) ∧
      l = L + (z : Rat) * c ∧ h = L + ((z : Rat) + (w : Rat)) * c := by
  have hnq : (n : Rat) ≠ 0 := Nat.cast_ne_zero.mpr hn.ne'
  have e : (H - L) / (n : Rat) = c := by rw [hH, mul_div_cancel_left₀ _ hnq]
  unfold FitsAx
  rw [e]
  refine exists_congr fun z => exists_congr fun w =>
    and_congr_right fun _ => and_congr_right fun _ => and_congr_right fun _ => ?_
  rw [sub_eq_iff_eq_add', sub_eq_iff_eq_add']
  -- both directions alike: substitute the two equations, the second needs `ring`
  constructor <;> rintro ⟨rfl, rfl⟩ <;> exact ⟨rfl, by ring⟩

theorem cell_mul (L H : Rat) {n : Nat} (hn : 0 < n) : H - L = (n : Rat) * ((H - L) / (n : Rat)) :=
  (mul_div_cancel₀ _ (Nat.cast_ne_zero.mpr hn.ne')).symm

theorem cell_pos {L H : Rat} {n : Nat} (hn : 0 < n) (hLH : L < H) : 0 < (H - L) / (n : Rat) :=
  div_pos (sub_pos.mpr hLH) (Nat.cast_pos.mpr hn)

/-- "inside": a lattice interval lies within `[L, H]`, lower end below upper end -/
theorem FitsAx.bounds {L H l h : Rat} {n : Nat} (hn : 0 < n) (hLH : L < H) (hf : FitsAx L H n l h) :
    L ≤ l ∧ l < h ∧ h ≤ H := by
  have hc := cell_pos hn hLH
  have hH := cell_mul L H hn
  obtain ⟨z, w, hz0, hw0, hzw, rfl, rfl⟩ := (fitsAx_iff_cell hn hH).mp hf
  generalize (H - L) / (n : Rat) = c at hc hH
  have h1 : 0 ≤ (z : Rat) * c := mul_nonneg (by exact_mod_cast hz0) hc.le
  have h2 : 0 < (w : Rat) * c := mul_pos (by exact_mod_cast hw0) hc
  have h3 : ((z : Rat) + (w : Rat)) * c ≤ (n : Rat) * c := mul_le_mul_of_nonneg_right (by exact_mod_cast hzw) hc.le
  refine ⟨le_add_of_nonneg_right h1, ?_, ?_⟩
  · rw [add_mul, ← add_assoc]; exact lt_add_of_pos_right _ h2
  · rw [eq_add_of_sub_eq' hH]; exact (add_le_add_iff_left L).mpr h3

/-- on the lattice, "overlaps the slab by more than half a cell" is "the open extents meet" -/
theorem overlap_iff (L H : Rat) (n : Nat) (l h : Rat) (i0 i1 : Nat) (hn : 0 < n) (hLH : L < H) (hf : FitsAx L H n l h) :
    (l < L + ((i1 : Rat) + 1) * ((H - L) / n) - (H - L) / n / 2 ∧ L + (i0 : Rat) * ((H - L) / n) < h - (H - L) / n / 2) ↔
    (l < L + ((i1 : Rat) + 1) * ((H - L) / n) ∧ L + (i0 : Rat) * ((H - L) / n) < h) := by
  have hc := cell_pos hn hLH
  obtain ⟨z, w, -, -, -, rfl, rfl⟩ := (fitsAx_iff_cell hn (cell_mul L H hn)).mp hf
  have a1 := lat_lt_half_iff hc L z (i1 + 1)
  have a2 := lat_lt_iff hc L z (i1 + 1)
  have b1 := lat_lt_half_iff hc L i0 (z + w)
  have b2 := lat_lt_iff hc L i0 (z + w)
  push_cast at a1 a2 b1 b2
  rw [a1, a2, b1, b2]

/-- clipping a lattice interval to a slab of whole cells it meets keeps it on the slab's lattice -/
theorem fitsAx_clip (L H : Rat) (n : Nat) (l h : Rat) (i0 i1 : Nat) (hn : 0 < n) (hLH : L < H)
    (h01 : i0 ≤ i1) (hf : FitsAx L H n l h)
    (ho1 : l < L + ((i1 : Rat) + 1) * ((H - L) / n)) (ho2 : L + (i0 : Rat) * ((H - L) / n) < h) :
    FitsAx (L + (i0 : Rat) * ((H - L) / n)) (L + ((i1 : Rat) + 1) * ((H - L) / n)) (i1 - i0 + 1)
      (max (L + (i0 : Rat) * ((H - L) / n)) l) (min (L + ((i1 : Rat) + 1) * ((H - L) / n)) h) := by
  have hc := cell_pos hn hLH
  obtain ⟨z, w, hz0, hw0, hzw, rfl, rfl⟩ := (fitsAx_iff_cell hn (cell_mul L H hn)).mp hf
  generalize (H - L) / (n : Rat) = c at *
  have o1 : z < (i1 : Int) + 1 := (lat_lt_iff hc L z (i1 + 1)).mp (by push_cast; exact ho1)
  have o2 : (i0 : Int) < z + w := (lat_lt_iff hc L i0 (z + w)).mp (by push_cast; exact ho2)
  -- new offset `max(i0, z) − i0`, new length `min(i1 + 1, z + w) − max(i0, z)`
  refine (fitsAx_iff_cell (c := c) (Nat.succ_pos _) ?_).mpr
    ⟨max (i0 : Int) z - i0, min ((i1 : Int) + 1) (z + w) - max (i0 : Int) z, sub_nonneg.mpr (le_max_left _ _),
      sub_pos.mpr (max_lt (lt_min (by omega) o2) (lt_min o1 (by omega))), by omega, ?_, ?_⟩
  · push_cast [Nat.cast_sub h01]; ring
  · push_cast; rw [C01.face_max hc]; ring
  · push_cast; rw [C01.face_min hc]; ring

/-! ## affine images of a lattice interval

The two lemmas take the count as an integer `n : Int`, as `scale_keeps_lattice_axis` etc. in `Props/C14.lean`
are stated; `FitsAx.affine` casts. -/

/-- Image of a lattice interval under `x ↦ A + s·x`, `s > 0`: `[l, h]`, sitting `z` cells (of `[L, H]` cut in `n`)
into `[L, H]` and `w` cells long, goes to an interval sitting `z` cells into the image of `[L, H]`, `w` cells long. -/
theorem affine_lattice_pos (L H l h A s : Rat) (n z w : Int) (hn : 0 < n) (hLH : L < H) (hs : 0 < s) (hw0 : 0 < w)
    (hz : l - L = (z : Rat) * ((H - L) / n)) (hw : h - l = (w : Rat) * ((H - L) / n)) :
    min (A + s * l) (A + s * h) - min (A + s * L) (A + s * H)
      = (z : Rat) * ((max (A + s * L) (A + s * H) - min (A + s * L) (A + s * H)) / n) ∧
    max (A + s * l) (A + s * h) - min (A + s * l) (A + s * h)
      = (w : Rat) * ((max (A + s * L) (A + s * H) - min (A + s * L) (A + s * H)) / n) := by
  have hc : 0 < (H - L) / (n : Rat) := div_pos (sub_pos.mpr hLH) (by exact_mod_cast hn)
  have hlh : l ≤ h := (sub_pos.mp (hw ▸ mul_pos (by exact_mod_cast hw0) hc)).le
  have e1 : A + s * L ≤ A + s * H := (add_le_add_iff_left A).mpr (mul_le_mul_of_nonneg_left hLH.le hs.le)
  have e2 : A + s * l ≤ A + s * h := (add_le_add_iff_left A).mpr (mul_le_mul_of_nonneg_left hlh hs.le)
  rw [min_eq_left e1, max_eq_right e1, min_eq_left e2, max_eq_right e2,
    add_sub_add_left_eq_sub, add_sub_add_left_eq_sub, add_sub_add_left_eq_sub, ← mul_sub, ← mul_sub, ← mul_sub, hz, hw,
    mul_div_assoc]
  exact ⟨mul_left_comm _ _ _, mul_left_comm _ _ _⟩

/-- … and for `s < 0` the ends swap: the image sits `n − z − w` cells into the image of `[L, H]`. -/
theorem affine_lattice_neg (L H l h A s : Rat) (n z w : Int) (hn : 0 < n) (hLH : L < H) (hs : s < 0) (hw0 : 0 < w)
    (hz : l - L = (z : Rat) * ((H - L) / n)) (hw : h - l = (w : Rat) * ((H - L) / n)) :
    min (A + s * l) (A + s * h) - min (A + s * L) (A + s * H)
      = ((n - z - w : Int) : Rat) * ((max (A + s * L) (A + s * H) - min (A + s * L) (A + s * H)) / n) ∧
    max (A + s * l) (A + s * h) - min (A + s * l) (A + s * h)
      = (w : Rat) * ((max (A + s * L) (A + s * H) - min (A + s * L) (A + s * H)) / n) := by
  -- mirror: `x ↦ A + s·x` is `x ↦ A + (−s)·(−x)`, and from the other end `[l, h]` sits `n − z − w` cells into `[L, H]`
  have hH : H - L = (n : Rat) * ((H - L) / n) := (mul_div_cancel₀ _ (by exact_mod_cast hn.ne')).symm
  have e : -L - -H = H - L := by rw [neg_sub_neg]
  have := affine_lattice_pos (-H) (-L) (-h) (-l) A (-s) n (n - z - w) w hn (neg_lt_neg hLH) (neg_pos.mpr hs) hw0
    (by rw [e, neg_sub_neg]
        generalize (H - L) / (n : Rat) = c at *
        rw [show H - h = (H - L) - (l - L) - (h - l) by ring, hH, hz, hw]; push_cast; ring)
    (by rw [e, neg_sub_neg, hw])
  rw [neg_mul_neg, neg_mul_neg, neg_mul_neg, neg_mul_neg] at this
  rw [min_comm (A + s * l), max_comm (A + s * l), min_comm (A + s * L), max_comm (A + s * L)]
  exact this

/-- the lattice relation `FitsAx` is kept by every affine map `x ↦ A + s·x`, `s ≠ 0` -/
theorem FitsAx.affine {L H l h : Rat} {n : Nat} (A : Rat) {s : Rat} (hn : 0 < n) (hLH : L < H) (hs : s ≠ 0)
    (hf : FitsAx L H n l h) :
    FitsAx (min (A + s * L) (A + s * H)) (max (A + s * L) (A + s * H)) n
      (min (A + s * l) (A + s * h)) (max (A + s * l) (A + s * h)) := by
  obtain ⟨z, w, hz0, hw0, hzw, hz, hw⟩ := hf
  have hn' : (0 : Int) < n := Int.natCast_pos.mpr hn
  -- the count as an integer, as the two lemmas above take it
  rw [← Int.cast_natCast (R := Rat) n] at hz hw
  unfold FitsAx
  rw [← Int.cast_natCast (R := Rat) n]
  rcases lt_or_gt_of_ne hs with hneg | hpos
  · exact ⟨n - z - w, w, by omega, hw0, by omega, affine_lattice_neg L H l h A s n z w hn' hLH hneg hw0 hz hw⟩
  · exact ⟨z, w, hz0, hw0, hzw, affine_lattice_pos L H l h A s n z w hn' hLH hpos hw0 hz hw⟩

end DFV.C14
