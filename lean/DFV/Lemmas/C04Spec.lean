import DFV.Lemmas.C04
import DFV.Model.C04Ext
/-!
C04, the index level: what the accumulator walk computes at each position, as a stencil over the cell's run of valid cells: on an
open line (`diffSpec`), on a periodic line (`ringSpec`: the run inside the stored line plus at most one cell from beyond the seam),
on either kind with the restriction on or off (`winSpec` / `lineSpec`). One counter (`cnt`) serves the four walks that count
valid cells; `diffLine'_tab` gives the derivative of a line as a function of its values and validity, and through it what holds of
every stencil (linearity, constants, step scaling, locality, centred differences) holds of whole lines.
-/
namespace DFV.C04
open DFV

/-! ### counting valid cells along a walk

`runBefore`, `runFromAux`, `cycBeforeAux`, `cycFromAux` all count the leading `true`s of a sequence: the validity of the cells a walk
visits (backwards or forwards, inside the stored line or round the ring), for as many steps as the fuel allows. -/

/-- number of leading `true`s among `s 0 … s (f - 1)` -/
def cnt (s : Nat → Bool) : Nat → Nat
  | 0 => 0
  | f + 1 => if s 0 then cnt (fun k => s (k + 1)) f + 1 else 0

theorem cnt_le (s : Nat → Bool) (f : Nat) : cnt s f ≤ f := by
  induction f generalizing s with
  | zero => exact Nat.le_refl 0
  | succ f ih =>
    rw [cnt]
    split
    · exact Nat.succ_le_succ (ih _)
    · exact Nat.zero_le _

theorem cnt_congr (s s' : Nat → Bool) (f : Nat) (h : ∀ k, k < f → s k = s' k) : cnt s f = cnt s' f := by
  induction f generalizing s s' with
  | zero => rfl
  | succ f ih => rw [cnt, cnt, h 0 (Nat.succ_pos f), ih _ _ fun k hk => h (k + 1) (Nat.succ_lt_succ hk)]

theorem cnt_all (s : Nat → Bool) (f : Nat) (h : ∀ k, k < f → s k = true) : cnt s f = f := by
  induction f generalizing s with
  | zero => rfl
  | succ f ih => rw [cnt, if_pos (h 0 (Nat.succ_pos f)), ih _ fun k hk => h (k + 1) (Nat.succ_lt_succ hk)]

/-- **more fuel**: the count goes on where the first stretch ended, unless it stopped before -/
theorem cnt_add (s : Nat → Bool) (a b : Nat) :
    cnt s (a + b) = if cnt s a = a then a + cnt (fun k => s (a + k)) b else cnt s a := by
  induction a generalizing s with
  | zero => simp only [cnt, Nat.zero_add, if_true]
  | succ a ih =>
    rw [Nat.succ_add, cnt, cnt]
    by_cases h0 : s 0 = true
    · rw [if_pos h0, if_pos h0, ih]
      have := cnt_le (fun k => s (k + 1)) a
      by_cases he : cnt (fun k => s (k + 1)) a = a
      · rw [if_pos he, if_pos (by omega), Nat.add_right_comm a _ 1]
        -- the second stretch starts at `a + 1` in `s`, at `a` in the shifted sequence: the same cells
        exact congrArg (a + 1 + cnt · b) (funext fun k => congrArg s (Nat.add_right_comm a k 1))
      · rw [if_neg he, if_neg (by omega)]
    · rw [if_neg h0, if_neg h0, if_neg (by omega)]

theorem cnt_min (s : Nat → Bool) (f F : Nat) (h : f ≤ F) : cnt s f = min (cnt s F) f := by
  obtain ⟨b, rfl⟩ := Nat.exists_eq_add_of_le h
  have := cnt_le s f
  rw [cnt_add]
  split <;> omega

theorem cnt_le_of_false (s : Nat → Bool) (k f : Nat) (h : s k = false) : cnt s f ≤ k := by
  by_cases hk : k < f
  · obtain ⟨b, rfl⟩ : ∃ b, f = k + (b + 1) := ⟨f - k - 1, by omega⟩
    have := cnt_le s k
    rw [cnt_add, cnt, Nat.add_zero, h, if_neg Bool.false_ne_true]
    split <;> omega
  · exact Nat.le_trans (cnt_le s f) (Nat.le_of_not_lt hk)

theorem runFromAux_eq_cnt (v : Nat → Bool) (i f : Nat) : runFromAux v i f = cnt (fun k => v (i + k)) f := by
  induction f generalizing i with
  | zero => rfl
  | succ f ih => rw [runFromAux, cnt, ih]; simp only [Nat.add_zero, Nat.add_assoc, Nat.add_comm 1]

theorem runBefore_eq_cnt (v : Nat → Bool) (i : Nat) : runBefore v i = cnt (fun k => v (i - 1 - k)) i := by
  induction i with
  | zero => rfl
  | succ i ih =>
    rw [runBefore, cnt, ih]
    simp only [Nat.add_sub_cancel, Nat.sub_zero]
    congr 2
    exact cnt_congr _ _ _ fun k hk => congrArg v (by omega)

theorem cycFromAux_eq_cnt (v : Nat → Bool) (L j f : Nat) : cycFromAux v L j f = cnt (fun k => v ((j + k) % L)) f := by
  induction f generalizing j with
  | zero => rfl
  | succ f ih =>
    rw [cycFromAux, cnt, ih]
    -- both sides test the same cell first; then the walks from `(j + 1) % L` and from `j`, one step on, visit the same cells
    exact congrArg (if v (j % L) = true then cnt · f + 1 else 0)
      (funext fun k => congrArg v (by rw [Nat.mod_add_mod, Nat.add_right_comm, Nat.add_assoc]))

/-- walking back on the ring: the cell `k + 1` steps before `j` is `(j + (k + 1) * (L - 1)) % L` (no subtraction; `0 < L` only
lets `j + L - 1` be read as `j + (L - 1)`) -/
theorem cycBeforeAux_eq_cnt (v : Nat → Bool) (L j f : Nat) (hL : 0 < L) :
    cycBeforeAux v L j f = cnt (fun k => v ((j + (k + 1) * (L - 1)) % L)) f := by
  induction f generalizing j with
  | zero => rfl
  | succ f ih =>
    rw [cycBeforeAux, cnt, ih, Nat.zero_add, Nat.one_mul, Nat.add_sub_assoc hL]
    exact congrArg (if v ((j + (L - 1)) % L) = true then cnt · f + 1 else 0)
      (funext fun k => congrArg v (by rw [Nat.mod_add_mod, Nat.add_assoc, Nat.succ_mul (k + 1), Nat.add_comm (L - 1)]))

theorem runBefore_le (v : Nat → Bool) (i : Nat) : runBefore v i ≤ i := by
  rw [runBefore_eq_cnt]; exact cnt_le _ _

theorem runBefore_all (v : Nat → Bool) (i : Nat) (h : ∀ j, j < i → v j = true) : runBefore v i = i := by
  rw [runBefore_eq_cnt]; exact cnt_all _ _ fun k hk => h _ (by omega)

theorem runBefore_congr (v v' : Nat → Bool) (i : Nat) (h : ∀ j, j < i → v j = v' j) : runBefore v i = runBefore v' i := by
  rw [runBefore_eq_cnt, runBefore_eq_cnt]; exact cnt_congr _ _ _ fun k hk => h _ (by omega)

theorem runBefore_lt_of_false (v : Nat → Bool) (h0 : v 0 = false) (j : Nat) (hj : 0 < j) : runBefore v j < j := by
  rw [runBefore_eq_cnt]
  exact Nat.lt_of_le_of_lt (cnt_le_of_false _ (j - 1) j (by rw [show j - 1 - (j - 1) = 0 by omega]; exact h0)) (by omega)

theorem runFromAux_shift (v : Nat → Bool) (m : Nat) (fuel : Nat) (i : Nat) :
    runFromAux v (m + i) fuel = runFromAux (fun k => v (m + k)) i fuel := by
  rw [runFromAux_eq_cnt, runFromAux_eq_cnt]; simp only [Nat.add_assoc]

theorem runFromAux_congr (v v' : Nat → Bool) (fuel : Nat) (i : Nat) (h : ∀ j, i ≤ j → j < i + fuel → v j = v' j) :
    runFromAux v i fuel = runFromAux v' i fuel := by
  rw [runFromAux_eq_cnt, runFromAux_eq_cnt]; exact cnt_congr _ _ _ fun k hk => h _ (by omega) (by omega)

theorem runFromAux_eq (v : Nat → Bool) (n : Nat) (i fuel : Nat) (hv : ∀ j, i ≤ j → j < i + n → v j = true)
    (h : n = fuel ∨ (n < fuel ∧ v (i + n) = false)) : runFromAux v i fuel = n := by
  have hn : cnt (fun k => v (i + k)) n = n := cnt_all _ _ fun k hk => hv _ (by omega) (by omega)
  rw [runFromAux_eq_cnt]
  rcases h with rfl | ⟨hlt, hf⟩
  · exact hn
  · have := cnt_le_of_false (fun k => v (i + k)) n fuel hf
    rw [cnt_min _ n fuel (by omega)] at hn
    omega

theorem runFromAux_lt_of_false (v : Nat → Bool) (fuel i : Nat) (h : v (i + fuel) = false) :
    runFromAux v i (fuel + 1) < fuel + 1 := by
  rw [runFromAux_eq_cnt]
  exact Nat.lt_succ_of_le (cnt_le_of_false _ fuel _ h)

theorem runBefore_shift (v : Nat → Bool) (m : Nat) (hm : v m = false) (j : Nat) :
    runBefore v (m + 1 + j) = runBefore (fun k => v (m + 1 + k)) j := by
  induction j with
  | zero => simp [runBefore, hm]
  | succ j ih =>
    have : m + 1 + (j + 1) = (m + 1 + j) + 1 := by omega
    rw [this]
    simp only [runBefore, ih]

theorem runFrom_le (v : Nat → Bool) (L i : Nat) : runFrom v L i ≤ L - i := by
  rw [runFrom, runFromAux_eq_cnt]; exact cnt_le _ _

theorem runFrom_pos (v : Nat → Bool) (L i : Nat) (hi : i < L) (hv : v i = true) : 0 < runFrom v L i := by
  obtain ⟨m, hm⟩ : ∃ m, L - i = m + 1 := ⟨L - i - 1, by omega⟩
  rw [runFrom, hm, runFromAux, if_pos hv]; omega

theorem runs_of_all_valid (v : Nat → Bool) (n i : Nat) (hi : i < n) (hv : ∀ j, j < n → v j = true) :
    runBefore v i + runFrom v n i = n := by
  rw [runBefore_all v i (fun j hj => hv j (by omega)), runFrom,
    runFromAux_eq v (n - i) i (n - i) (fun j _ hj => hv j (by omega)) (Or.inl rfl)]
  omega

/-! ### the ring run of a cell counted cyclically -/

/-- `k + 1` steps before `j` inside the stored line … -/
theorem back_inside (L j k : Nat) (hj : j < L) (hk : k < j) : (j + (k + 1) * (L - 1)) % L = j - 1 - k := by
  have : j + (k + 1) * (L - 1) = (j - 1 - k) + (k + 1) * L := by
    obtain ⟨m, rfl⟩ : ∃ m, L = m + 1 := ⟨L - 1, by omega⟩
    rw [Nat.add_sub_cancel, Nat.mul_succ]; omega
  rw [this, Nat.add_mul_mod_self_right, Nat.mod_eq_of_lt (by omega)]

/-- … and `j + 1` steps before it: the last cell -/
theorem back_seam (L j : Nat) (hj : j < L) : (j + (j + 1) * (L - 1)) % L = L - 1 := by
  have : j + (j + 1) * (L - 1) = (L - 1) + j * L := by
    obtain ⟨m, rfl⟩ : ∃ m, L = m + 1 := ⟨L - 1, by omega⟩
    rw [Nat.add_sub_cancel, Nat.mul_succ, Nat.succ_mul]; omega
  rw [this, Nat.add_mul_mod_self_right, Nat.mod_eq_of_lt (by omega)]

/-- the first `j` steps back on the ring stay inside the stored line -/
theorem runBefore_eq_back (v : Nat → Bool) (L j : Nat) (hj : j < L) :
    cnt (fun k => v ((j + (k + 1) * (L - 1)) % L)) j = runBefore v j := by
  rw [runBefore_eq_cnt]
  exact cnt_congr _ _ _ fun k hk => by rw [back_inside L j k hj hk]

/-- the fuel runs out before the seam: the walk round the ring is the walk inside the stored line -/
theorem cycBeforeAux_noWrap (v : Nat → Bool) (L : Nat) : ∀ (fuel j : Nat), j < L → fuel ≤ j →
    cycBeforeAux v L j fuel = min (runBefore v j) fuel := by
  intro fuel j hj hf
  rw [cycBeforeAux_eq_cnt v L j _ (by omega), ← runBefore_eq_back v L j hj]
  exact cnt_min _ _ _ hf

/-- the window of the code before `j`: the ring run counted with the fuel the stored line leaves, `j` cells and one more -/
theorem ringBefore_eq_cnt (v : Nat → Bool) (L j : Nat) (hj : j < L) :
    ringBefore v L j = cnt (fun k => v ((j + (k + 1) * (L - 1)) % L)) (j + 1) := by
  rw [cnt_add, runBefore_eq_back v L j hj, ringBefore]
  simp only [cnt, Nat.add_zero, back_seam L j hj]

/-- **the code's count before a cell is the ring run's, cut one cell beyond the seam** -/
theorem ringBefore_eq_min (v : Nat → Bool) (L j : Nat) (hj : j < L) :
    ringBefore v L j = min (cycBefore v L j) (j + 1) := by
  rw [ringBefore_eq_cnt v L j hj, cycBefore, cycBeforeAux_eq_cnt v L j _ (by omega)]
  exact cnt_min _ _ _ (by omega)

/-- the window of the code from `j` on: the ring run counted with the fuel the stored line leaves, `L - j` cells and one more -/
theorem ringFrom_eq_cnt (v : Nat → Bool) (L j : Nat) (hj : j < L) :
    ringFrom v L j = cnt (fun k => v ((j + k) % L)) (L - j + 1) := by
  have e : cnt (fun k => v ((j + k) % L)) (L - j) = runFrom v L j := by
    rw [runFrom, runFromAux_eq_cnt]
    exact cnt_congr _ _ _ fun k hk => by rw [Nat.mod_eq_of_lt (by omega)]
  have := runFrom_le v L j
  rw [cnt_add, e, ringFrom]
  by_cases he : runFrom v L j = L - j
  · rw [if_pos he, if_pos (by omega), he]
    simp only [cnt, Nat.add_zero, show j + (L - j) = L by omega, Nat.mod_self, Nat.zero_add]
  · rw [if_neg he, if_neg (by omega)]

/-- **the code's count from a cell on is the ring run's, cut one cell beyond the seam** -/
theorem ringFrom_eq_min (v : Nat → Bool) (L j : Nat) (hj : j < L) :
    ringFrom v L j = min (cycFrom v L j) (L - j + 1) := by
  rw [ringFrom_eq_cnt v L j hj, cycFrom, cycFromAux_eq_cnt]
  exact cnt_min _ _ _ (by omega)

/-! ### the index-level spec -/

theorem valOf_map_true (r : List Rat) (j : Nat) : valOf (r.map (·, true)) j = r.getD j 0 := by
  unfold valOf
  simp only [List.getD_eq_getElem?_getD, List.getElem?_map]
  cases r[j]? <;> rfl

theorem okOf_map_true (r : List Rat) (j : Nat) : okOf (r.map (·, true)) j = decide (j < r.length) := by
  unfold okOf
  simp only [List.getD_eq_getElem?_getD, List.getElem?_map]
  by_cases h : j < r.length
  · simp [h]
  · simp [h]

theorem valOf_append_left (a b : List (Rat × Bool)) (j : Nat) (h : j < a.length) : valOf (a ++ b) j = valOf a j := by
  unfold valOf
  simp only [List.getD_eq_getElem?_getD, List.getElem?_append_left h]

theorem okOf_append_left (a b : List (Rat × Bool)) (j : Nat) (h : j < a.length) : okOf (a ++ b) j = okOf a j := by
  unfold okOf
  simp only [List.getD_eq_getElem?_getD, List.getElem?_append_left h]

theorem valOf_append_right (a b : List (Rat × Bool)) (j : Nat) : valOf (a ++ b) (a.length + j) = valOf b j := by
  unfold valOf
  simp only [List.getD_eq_getElem?_getD, List.getElem?_append_right (Nat.le_add_right _ _), Nat.add_sub_cancel_left]

theorem okOf_append_right (a b : List (Rat × Bool)) (j : Nat) : okOf (a ++ b) (a.length + j) = okOf b j := by
  unfold okOf
  simp only [List.getD_eq_getElem?_getD, List.getElem?_append_right (Nat.le_add_right _ _), Nat.add_sub_cancel_left]

/-- **locality of the open-line spec**: it reads the validity inside the line and the values on the cell's own run -/
theorem diffSpec_local (o : Nat) (h : Rat) (L : Nat) (x x' : Nat → Rat) (v v' : Nat → Bool) (i : Nat) (hi : i < L)
    (hv : ∀ j, j < L → v j = v' j)
    (hx : ∀ j, i - runBefore v i ≤ j → j < i + runFrom v L i → x j = x' j) :
    diffSpec o h L x v i = diffSpec o h L x' v' i := by
  unfold diffSpec
  rw [← hv i hi, ← runBefore_congr v v' i (fun j hj => hv j (by omega)),
    ← show runFrom v L i = runFrom v' L i from runFromAux_congr v v' _ i (fun j _ _ => hv j (by omega))]
  split
  · rename_i hvi
    have hb := runBefore_le v i
    have hp := runFrom_pos v L i hi hvi
    exact dAt_congr _ _ _ _ _ _ (fun k hk => hx _ (by omega) (by omega)) (by omega)
  · rfl

theorem diffSpec_first_run (o : Nat) (h : Rat) (L n : Nat) (x : Nat → Rat) (v : Nat → Bool) (i : Nat) (hi : i < n)
    (hv : ∀ j, j < n → v j = true) (hn : n = L ∨ (n < L ∧ v n = false)) :
    diffSpec o h L x v i = dAt o h n x i := by
  have e2 : runFrom v L i = n - i :=
    runFromAux_eq v (n - i) i _ (fun j _ _ => hv j (by omega))
      (by rw [show i + (n - i) = n by omega]; rcases hn with rfl | ⟨h1, h2⟩
          · exact Or.inl rfl
          · exact Or.inr ⟨by omega, h2⟩)
  rw [diffSpec, if_pos (hv i hi), runBefore_all v i (fun j hj => hv j (by omega)), e2, show i + (n - i) = n by omega]
  exact dAt_congr _ _ _ _ _ _ (fun k _ => by rw [Nat.sub_self, Nat.zero_add]) hi

theorem diffSpec_after_invalid (o : Nat) (h : Rat) (L m : Nat) (x : Nat → Rat) (v : Nat → Bool) (hm : v m = false)
    (j : Nat) :
    diffSpec o h L x v (m + 1 + j) = diffSpec o h (L - (m + 1)) (fun k => x (m + 1 + k)) (fun k => v (m + 1 + k)) j := by
  have e2 : runFrom v L (m + 1 + j) = runFrom (fun k => v (m + 1 + k)) (L - (m + 1)) j := by
    rw [runFrom, runFromAux_shift, show L - (m + 1 + j) = L - (m + 1) - j by omega]; rfl
  rw [diffSpec, diffSpec, runBefore_shift v m hm, e2]
  split
  · have hb := runBefore_le (fun k => v (m + 1 + k)) j
    exact congrArg (dAt o h _ · _) (funext fun k => congrArg x (by omega))
  · rfl

theorem diffLine_getD_spec (o : Nat) (h : Rat) (cells : List (Rat × Bool)) : ∀ i, i < cells.length →
    (diffLine o h cells).getD i 0 = diffSpec o h cells.length (valOf cells) (okOf cells) i := by
  induction cells using cells_induction with
  | h1 r =>
    intro i hi
    rw [List.length_map] at hi ⊢
    rw [diffLine, sdc_all_valid, diffRun_getD o h r i hi,
      diffSpec_first_run o h _ r.length _ _ i hi (fun j hj => by rw [okOf_map_true]; exact decide_eq_true hj) (Or.inl rfl)]
    exact dAt_congr _ _ _ _ _ _ (fun k _ => (valOf_map_true r k).symm) hi
  | h2 r y rest ih =>
    intro i hi
    have hlen : (r.map (·, true) ++ (y, false) :: rest).length = r.length + 1 + rest.length := by
      rw [List.length_append, List.length_map, List.length_cons]; omega
    have hrl : (r.map (·, true)).length = r.length := List.length_map _
    rw [hlen] at hi ⊢
    rw [diffLine, sdc_head]
    have hv : ∀ j, j < r.length → okOf (r.map (·, true) ++ (y, false) :: rest) j = true := fun j hj => by
      rw [okOf_append_left _ _ _ (by rw [hrl]; exact hj), okOf_map_true]; exact decide_eq_true hj
    have hvm : okOf (r.map (·, true) ++ (y, false) :: rest) r.length = false := by
      have := okOf_append_right (r.map (·, true)) ((y, false) :: rest) 0
      rwa [hrl] at this
    by_cases h1 : i < r.length
    · rw [getD_append_left _ _ _ _ (by rw [diffRun_length]; exact h1), diffRun_getD o h r i h1,
        diffSpec_first_run o h _ r.length _ _ i h1 hv (Or.inr ⟨by omega, hvm⟩)]
      exact dAt_congr _ _ _ _ _ _
        (fun k hk => by rw [valOf_append_left _ _ _ (by rw [hrl]; exact hk), valOf_map_true]) h1
    · obtain ⟨i', rfl⟩ : ∃ i', i = r.length + i' := ⟨i - r.length, by omega⟩
      rw [getD_append_right _ _ _ _ (by rw [diffRun_length]; omega), diffRun_length, Nat.add_sub_cancel_left]
      cases i' with
      | zero => rw [diffSpec, Nat.add_zero, hvm]; rfl
      | succ i' =>
        -- behind the invalid cell that ends the first run: induction hypothesis on the rest, shifted by `diffSpec_after_invalid`
        rw [List.getD_cons_succ, ← diffLine, ih i' (by omega), show r.length + (i' + 1) = r.length + 1 + i' by omega,
          diffSpec_after_invalid o h (r.length + 1 + rest.length) r.length _ _ hvm i',
          show r.length + 1 + rest.length - (r.length + 1) = rest.length by omega]
        refine diffSpec_local o h _ _ _ _ _ i' (by omega) (fun k _ => ?_) (fun k _ _ => ?_)
        · rw [Nat.add_assoc, Nat.add_comm 1 k, ← hrl, okOf_append_right]; rfl
        · rw [Nat.add_assoc, Nat.add_comm 1 k, ← hrl, valOf_append_right]; rfl

/-! ### the padded line read through the ring -/

theorem valOf_wrap1 (cells : List (Rat × Bool)) (hne : cells ≠ []) (k : Nat) (hk : k < cells.length + 2) :
    valOf (wrap1 cells) k = valOf cells ((k + cells.length - 1) % cells.length) := by
  unfold valOf; rw [wrap1_getD_mod cells _ hne k hk]

theorem okOf_wrap1 (cells : List (Rat × Bool)) (hne : cells ≠ []) (k : Nat) (hk : k < cells.length + 2) :
    okOf (wrap1 cells) k = okOf cells ((k + cells.length - 1) % cells.length) := by
  unfold okOf; rw [wrap1_getD_mod cells _ hne k hk]

theorem okOf_wrap1_succ (cells : List (Rat × Bool)) (j : Nat) (hj : j < cells.length) :
    okOf (wrap1 cells) (j + 1) = okOf cells j := by
  rw [okOf_wrap1 cells (by intro e; subst e; exact absurd hj (Nat.not_lt_zero j)) (j + 1) (by omega),
    show j + 1 + cells.length - 1 = j + cells.length by omega, Nat.add_mod_right, Nat.mod_eq_of_lt hj]

theorem ringBefore_le (v : Nat → Bool) (L j : Nat) : ringBefore v L j ≤ j + 1 := by
  unfold ringBefore
  have := runBefore_le v j
  split
  · split <;> omega
  · omega

theorem ringFrom_le (v : Nat → Bool) (L j : Nat) : ringFrom v L j ≤ L - j + 1 := by
  unfold ringFrom
  have := runFrom_le v L j
  split
  · split <;> omega
  · omega

theorem ringFrom_pos (v : Nat → Bool) (L j : Nat) (hj : j < L) (hv : v j = true) : 0 < ringFrom v L j := by
  unfold ringFrom
  have := runFrom_pos v L j hj hv
  split
  · split <;> omega
  · omega

/-- the open-line spec of a line padded by one wrapped cell on each side, read one position further, is the ring spec -/
theorem diffSpec_pad (o : Nat) (h : Rat) (L : Nat) (x xP : Nat → Rat) (v vP : Nat → Bool) (j : Nat) (hj : j < L)
    (hs : ∀ k, k < L → vP (k + 1) = v k) (h0 : vP 0 = v (L - 1)) (hE : vP (L + 1) = v 0)
    (hx : ∀ k, k < L + 2 → xP k = x ((k + L - 1) % L)) :
    diffSpec o h (L + 2) xP vP (j + 1) = ringSpec o h L x v j := by
  -- both counts walk the same cells: inside the stored line by `hs`, one cell beyond the seam by `h0` / `hE`
  have eB : runBefore vP (j + 1) = ringBefore v L j := by
    rw [runBefore_eq_cnt, ringBefore_eq_cnt v L j hj]
    refine cnt_congr _ _ _ fun k hk => ?_
    by_cases hkj : k < j
    · rw [back_inside L j k hj hkj, ← hs (j - 1 - k) (by omega)]; exact congrArg vP (by omega)
    · obtain rfl : k = j := by omega
      rw [back_seam L k hj, ← h0]; exact congrArg vP (by omega)
  have eA : runFrom vP (L + 2) (j + 1) = ringFrom v L j := by
    rw [runFrom, runFromAux_eq_cnt, ringFrom_eq_cnt v L j hj, show L + 2 - (j + 1) = L - j + 1 by omega]
    refine cnt_congr _ _ _ fun k hk => ?_
    by_cases hkL : j + k < L
    · rw [Nat.mod_eq_of_lt hkL, ← hs (j + k) hkL]; exact congrArg vP (by omega)
    · rw [show j + k = L by omega, Nat.mod_self, ← hE]; exact congrArg vP (by omega)
  rw [diffSpec, ringSpec, hs j hj, eB, eA]
  split
  · rename_i hv
    have hb := ringBefore_le v L j
    have ha := ringFrom_le v L j
    have hp := ringFrom_pos v L j hj hv
    refine dAt_congr _ _ _ _ _ _ (fun k hk => ?_) (by omega)
    rw [hx _ (by omega)]
    exact congrArg x (congrArg (· % L) (by omega))
  · rfl

theorem diffRing_getD_ringSpec (o : Nat) (h : Rat) (cells : List (Rat × Bool)) (j : Nat) (hj : j < cells.length) :
    (diffRing o h cells).getD j 0 = ringSpec o h cells.length (valOf cells) (okOf cells) j := by
  have hne : cells ≠ [] := by intro e; subst e; simp at hj
  have hL : 0 < cells.length := by omega
  rw [diffRing_getD o h cells j hj, diffLine_getD_spec o h (wrap1 cells) (j + 1) (by rw [wrap1_length _ hne]; omega),
    wrap1_length _ hne]
  refine diffSpec_pad o h _ _ _ _ _ j hj (fun k hk => okOf_wrap1_succ cells k hk) ?_ ?_ (fun k hk => valOf_wrap1 cells hne k hk)
  · rw [okOf_wrap1 cells hne 0 (by omega), Nat.zero_add, Nat.mod_eq_of_lt (by omega)]
  · rw [okOf_wrap1 cells hne _ (by omega),
      show cells.length + 1 + cells.length - 1 = cells.length + cells.length by omega, Nat.add_mod_right, Nat.mod_self]

/-! ### the window spec for both kinds of line -/

/-- `winSpec false` is `diffSpec`: the `% L` of `winIdx` is idle on an open line -/
theorem diffSpec_eq_winSpec (o : Nat) (h : Rat) (L : Nat) (x : Nat → Rat) (v : Nat → Bool) (j : Nat) (hj : j < L) :
    diffSpec o h L x v j = winSpec false o h L x v j := by
  unfold diffSpec winSpec winIdx winB winA
  simp only [Bool.false_eq_true, if_false]
  split
  · rename_i hv
    have hb := runBefore_le v j
    have ha := runFrom_le v L j
    have hp := runFrom_pos v L j hj hv
    apply dAt_congr _ _ _ _ _ _ _ (by omega)
    intro k hk
    congr 1
    rw [show j + L - runBefore v j + k = (j - runBefore v j + k) + L by omega, Nat.add_mod_right]
    exact (Nat.mod_eq_of_lt (by omega)).symm
  · rfl

theorem ringSpec_eq_winSpec (o : Nat) (h : Rat) (L : Nat) (x : Nat → Rat) (v : Nat → Bool) (j : Nat) :
    ringSpec o h L x v j = winSpec true o h L x v j := rfl

/-- a cell whose run does not cross the seam is differentiated as on the open line -/
theorem ringSpec_off_seam (o : Nat) (h : Rat) (L : Nat) (x : Nat → Rat) (v : Nat → Bool) (j : Nat) (hj : j < L)
    (hb : runBefore v j < j ∨ v (L - 1) = false) (ha : j + runFrom v L j < L ∨ v 0 = false) :
    ringSpec o h L x v j = diffSpec o h L x v j := by
  have eB : ringBefore v L j = runBefore v j := by
    unfold ringBefore
    split
    · rename_i he
      rcases hb with hb | hb
      · omega
      · rw [hb, he]; rfl
    · rfl
  have eA : ringFrom v L j = runFrom v L j := by
    unfold ringFrom
    split
    · rcases ha with ha | ha
      · omega
      · rw [ha]; rfl
    · rfl
  rw [diffSpec_eq_winSpec _ _ _ _ _ _ hj, ringSpec_eq_winSpec]
  -- with `eB`, `eA` the two window specs have the same counts and the same index function
  unfold winSpec winIdx winB winA
  simp only [if_true, Bool.false_eq_true, if_false, eB, eA]

/-- a ring whose first or last stored cell is invalid: no run crosses the seam, the result is that of the open line -/
theorem diffRing_eq_diffLine (o : Nat) (h : Rat) (cells : List (Rat × Bool))
    (hc : okOf cells 0 = false ∨ okOf cells (cells.length - 1) = false) : diffRing o h cells = diffLine o h cells := by
  refine list_eq_of_getD _ _ 0 (by rw [diffRing_length, diffLine_len]) fun j hj => ?_
  rw [diffRing_length] at hj
  rw [diffRing_getD_ringSpec o h cells j hj, diffLine_getD_spec o h cells j hj]
  by_cases hv : okOf cells j = true
  · refine ringSpec_off_seam o h _ _ _ j hj ?_ ?_
    · rcases hc with h0 | hl
      · exact Or.inl (runBefore_lt_of_false _ h0 j (Nat.pos_of_ne_zero fun e => by rw [e, h0] at hv; cases hv))
      · exact Or.inr hl
    · rcases hc with h0 | hl
      · exact Or.inr h0
      · obtain ⟨m, hm⟩ : ∃ m, cells.length - j = m + 1 := ⟨cells.length - j - 1, by omega⟩
        have := runFromAux_lt_of_false (okOf cells) m j (by rw [show j + m = cells.length - 1 by omega]; exact hl)
        rw [runFrom, hm]
        exact Or.inl (by omega)
  · rw [ringSpec, diffSpec, if_neg hv, if_neg hv]

theorem winB_congr (p : Bool) (v v' : Nat → Bool) (L j : Nat) (hj : j < L) (hv : ∀ k, k < L → v k = v' k) :
    winB p v L j = winB p v' L j := by
  unfold winB ringBefore
  rw [runBefore_congr v v' j (fun k hk => hv k (by omega)), hv (L - 1) (by omega)]

theorem winA_congr (p : Bool) (v v' : Nat → Bool) (L j : Nat) (hj : j < L) (hv : ∀ k, k < L → v k = v' k) :
    winA p v L j = winA p v' L j := by
  unfold winA ringFrom
  have : runFrom v L j = runFrom v' L j := runFromAux_congr v v' _ j (fun k h1 h2 => hv k (by omega))
  rw [this, hv 0 (by omega)]

/-- bound for users of `winIdx`: `j + L - winB …` is a true subtraction -/
theorem winB_le (p : Bool) (v : Nat → Bool) (L j : Nat) : winB p v L j ≤ j + 1 := by
  unfold winB
  split
  · exact ringBefore_le v L j
  · have := runBefore_le v j; omega

theorem winA_pos (p : Bool) (v : Nat → Bool) (L j : Nat) (hj : j < L) (hv : v j = true) : 0 < winA p v L j := by
  unfold winA
  split
  · exact ringFrom_pos v L j hj hv
  · exact runFrom_pos v L j hj hv

theorem winIdx_lt (p : Bool) (v : Nat → Bool) (L j k : Nat) (hL : 0 < L) : winIdx p v L j k < L :=
  Nat.mod_lt _ hL

/-- **locality of the window spec**: it reads the validity inside the line and the values on the cell's window -/
theorem winSpec_local (p : Bool) (o : Nat) (h : Rat) (L : Nat) (x x' : Nat → Rat) (v v' : Nat → Bool) (j : Nat) (hj : j < L)
    (hv : ∀ k, k < L → v k = v' k)
    (hx : ∀ k, k < winB p v L j + winA p v L j → x (winIdx p v L j k) = x' (winIdx p v L j k)) :
    winSpec p o h L x v j = winSpec p o h L x' v' j := by
  unfold winSpec winIdx
  rw [← hv j hj, ← winB_congr p v v' L j hj hv, ← winA_congr p v v' L j hj hv]
  split
  · rename_i hvj
    have hp := winA_pos p v L j hj hvj
    exact dAt_congr _ _ _ _ _ _ hx (by omega)
  · rfl

theorem winSpec_congr (p : Bool) (o : Nat) (h : Rat) (L : Nat) (x x' : Nat → Rat) (v v' : Nat → Bool) (j : Nat) (hj : j < L)
    (hx : ∀ k, k < L → x k = x' k) (hv : ∀ k, k < L → v k = v' k) :
    winSpec p o h L x v j = winSpec p o h L x' v' j :=
  winSpec_local p o h L x x' v v' j hj hv fun _ _ => hx _ (Nat.mod_lt _ (by omega))

theorem ringSpec_congr (o : Nat) (h : Rat) (L : Nat) (x x' : Nat → Rat) (v v' : Nat → Bool) (j : Nat) (hj : j < L)
    (hx : ∀ k, k < L → x k = x' k) (hv : ∀ k, k < L → v k = v' k) :
    ringSpec o h L x v j = ringSpec o h L x' v' j := by
  rw [ringSpec_eq_winSpec, ringSpec_eq_winSpec]
  exact winSpec_congr true o h L x x' v v' j hj hx hv

theorem okOf_map_allTrue (cells : List (Rat × Bool)) (j : Nat) (hj : j < cells.length) :
    okOf (cells.map fun c => (c.1, true)) j = true := by
  unfold okOf
  simp [List.getD_eq_getElem?_getD, List.getElem?_map, List.getElem?_eq_getElem hj]

theorem valOf_map_allTrue (cells : List (Rat × Bool)) (j : Nat) :
    valOf (cells.map fun c => (c.1, true)) j = valOf cells j := by
  unfold valOf
  simp only [List.getD_eq_getElem?_getD, List.getElem?_map]
  cases cells[j]? <;> rfl

theorem diffLine'_true_getD (p : Bool) (o : Nat) (h : Rat) (cells : List (Rat × Bool)) (j : Nat) (hj : j < cells.length) :
    (diffLine' p true o h cells).getD j 0 = winSpec p o h cells.length (valOf cells) (okOf cells) j := by
  cases p
  · exact (diffLine_getD_spec o h cells j hj).trans (diffSpec_eq_winSpec _ _ _ _ _ _ hj)
  · exact (diffRing_getD_ringSpec o h cells j hj).trans (ringSpec_eq_winSpec ..)

theorem diffLine'_getD_lineSpec (p r : Bool) (o : Nat) (h : Rat) (cells : List (Rat × Bool)) (j : Nat) (hj : j < cells.length) :
    (diffLine' p r o h cells).getD j 0 = lineSpec p r o h cells.length (valOf cells) (okOf cells) j := by
  cases r
  · have hl : (cells.map fun c => (c.1, true)).length = cells.length := List.length_map _
    rw [diffLine'_false, diffLine'_true_getD p o h _ j (by rw [hl]; exact hj), hl]
    exact winSpec_congr p o h _ _ _ _ _ j hj (fun k _ => valOf_map_allTrue cells k)
      (fun k hk => by rw [okOf_map_allTrue cells k hk]; rfl)
  · exact (diffLine'_true_getD p o h cells j hj).trans
      (winSpec_congr p o h _ _ _ _ _ j hj (fun _ _ => rfl) fun k _ => by simp [effOk])

/-! ### lines given by a value function and a validity function -/

theorem valOf_tab (n : Nat) (x : Nat → Rat) (v : Nat → Bool) (j : Nat) (hj : j < n) :
    valOf (tab n fun j => (x j, v j)) j = x j := by
  unfold valOf; rw [getD_tab _ _ _ _ hj]

theorem okOf_tab (n : Nat) (x : Nat → Rat) (v : Nat → Bool) (j : Nat) (hj : j < n) :
    okOf (tab n fun j => (x j, v j)) j = v j := by
  unfold okOf; rw [getD_tab _ _ _ _ hj]

/-- **the line derivative as a function of values and validity** (the form in which `Field.diff` and the operators built
on it read a line): `lineSpec` inside the line, the default beyond it -/
theorem diffLine'_tab (p r : Bool) (o : Nat) (h : Rat) (n : Nat) (x : Nat → Rat) (v : Nat → Bool) (k : Nat) :
    (diffLine' p r o h (tab n fun j => (x j, v j))).getD k 0 = if k < n then lineSpec p r o h n x v k else 0 := by
  have hl : (tab n fun j => (x j, v j)).length = n := tab_length _ _
  split
  · rename_i hk
    rw [diffLine'_getD_lineSpec p r o h _ k (by rw [hl]; exact hk), hl]
    exact winSpec_congr _ _ _ _ _ _ _ _ k hk (fun j hj => valOf_tab n x v j hj)
      (fun j hj => by unfold effOk; rw [okOf_tab n x v j hj])
  · rw [List.getD_eq_getElem?_getD, List.getElem?_eq_none (by rw [diffLine'_length, hl]; omega)]; rfl

/-! ### what holds of every run stencil holds of every line: the window depends on the validity alone -/

theorem lineSpec_comb (p r : Bool) (o : Nat) (h : Rat) (L : Nat) (x y : Nat → Rat) (α β : Rat) (v : Nat → Bool) (j : Nat) :
    lineSpec p r o h L (fun k => α * x k + β * y k) v j = α * lineSpec p r o h L x v j + β * lineSpec p r o h L y v j := by
  unfold lineSpec winSpec
  split
  · exact dAt_comb ..
  · rw [mul_zero, mul_zero, add_zero]

theorem lineSpec_const (p r : Bool) (o : Nat) (h c : Rat) (L : Nat) (v : Nat → Bool) (j : Nat) :
    lineSpec p r o h L (fun _ => c) v j = 0 := by
  unfold lineSpec winSpec
  split
  · exact dAt_const ..
  · rfl

theorem lineSpec_one_scale (p r : Bool) (lam h : Rat) (L : Nat) (x : Nat → Rat) (v : Nat → Bool) (j : Nat) :
    lineSpec p r 1 (lam * h) L x v j = lineSpec p r 1 h L x v j / lam := by
  unfold lineSpec winSpec
  split
  · exact dAt_one_scale ..
  · rw [zero_div]

/-- no bound on `k`: beyond the line all three entries are 0 -/
theorem diffLine'_comb_tab (p r : Bool) (o : Nat) (h α β : Rat) (n : Nat) (x y : Nat → Rat) (v : Nat → Bool) (k : Nat) :
    (diffLine' p r o h (tab n fun j => (α * x j + β * y j, v j))).getD k 0
      = α * (diffLine' p r o h (tab n fun j => (x j, v j))).getD k 0
        + β * (diffLine' p r o h (tab n fun j => (y j, v j))).getD k 0 := by
  rw [diffLine'_tab, diffLine'_tab, diffLine'_tab]
  split
  · exact lineSpec_comb ..
  · rw [mul_zero, mul_zero, add_zero]

theorem diffLine'_smul_tab (p r : Bool) (o : Nat) (h s : Rat) (n : Nat) (x : Nat → Rat) (v : Nat → Bool) (k : Nat) :
    (diffLine' p r o h (tab n fun j => (s * x j, v j))).getD k 0
      = s * (diffLine' p r o h (tab n fun j => (x j, v j))).getD k 0 := by
  have := diffLine'_comb_tab p r o h s 0 n x x v k
  simpa only [zero_mul, add_zero] using this

/-- what a quarter turn of the grid does to a line: it is run backwards -/
theorem diffLine'_reverse_tab (p r : Bool) (o : Nat) (h : Rat) (n : Nat) (x : Nat → Rat) (v : Nat → Bool) (k : Nat) (hk : k < n) :
    (diffLine' p r o h (tab n fun j => (x (n - 1 - j), v (n - 1 - j)))).getD k 0
      = revSign o * (diffLine' p r o h (tab n fun j => (x j, v j))).getD (n - 1 - k) 0 := by
  have hl : ((diffLine' p r o h (tab n fun j => (x j, v j))).map (revSign o * ·)).length = n := by
    rw [List.length_map, diffLine'_length, tab_length]
  rw [← tab_reverse n fun j => (x j, v j), diffLine'_reverse, getD_reverse _ _ _ (by rw [hl]; exact hk), hl,
    getD_map_of_eq (mul_zero _)]

theorem lineSpec_invalid (p r : Bool) (o : Nat) (h : Rat) (L : Nat) (x : Nat → Rat) (v : Nat → Bool) (j : Nat)
    (hv : effOk r v j = false) : lineSpec p r o h L x v j = 0 := by
  rw [lineSpec, winSpec, hv]; rfl

/-! ### centred differences -/

/-- a valid cell whose two ring neighbours are valid gets the centred wrap-around difference, whatever the mask: the
one-cell wrap padding always supplies the neighbour -/
theorem ringSpec_centred (o : Nat) (h : Rat) (L : Nat) (x : Nat → Rat) (v : Nat → Bool) (j : Nat) (hj : j < L)
    (hv : v j = true) (hs : v ((j + 1) % L) = true) (hp : v ((j + L - 1) % L) = true) :
    ringSpec o h L x v j = centred o h L x j := by
  have hB : 1 ≤ ringBefore v L j := by
    rw [ringBefore_eq_min v L j hj, cycBefore, cycBeforeAux, if_pos hp]; omega
  have hA : 2 ≤ ringFrom v L j := by
    obtain ⟨m, rfl⟩ : ∃ m, L = m + 1 := ⟨L - 1, by omega⟩
    rw [ringFrom_eq_min v _ j hj, cycFrom, cycFromAux, Nat.mod_eq_of_lt hj, if_pos hv, cycFromAux, Nat.mod_mod, if_pos hs]
    omega
  have hBle := ringBefore_le v L j
  unfold ringSpec
  rw [if_pos hv, dAt_interior o h _ _ _ (by omega) hB (by omega)]
  unfold centred
  have a1 : (j + L - ringBefore v L j + (ringBefore v L j + 1)) % L = (j + 1) % L := by
    rw [show j + L - ringBefore v L j + (ringBefore v L j + 1) = (j + 1) + L by omega, Nat.add_mod_right]
  have a2 : (j + L - ringBefore v L j + ringBefore v L j) % L = j % L := by
    rw [show j + L - ringBefore v L j + ringBefore v L j = j + L by omega, Nat.add_mod_right]
  have a3 : (j + L - ringBefore v L j + (ringBefore v L j - 1)) % L = (j + L - 1) % L := by
    congr 1; omega
  simp only [a1, a2, a3]

theorem ringSpec_allValid (o : Nat) (h : Rat) (L : Nat) (x : Nat → Rat) (v : Nat → Bool) (j : Nat) (hj : j < L)
    (hv : ∀ k, k < L → v k = true) : ringSpec o h L x v j = centred o h L x j :=
  ringSpec_centred o h L x v j hj (hv j hj) (hv _ (Nat.mod_lt _ (by omega))) (hv _ (Nat.mod_lt _ (by omega)))

/-- a fully valid line: the run stencil over the whole line, centred differences on a ring -/
theorem winSpec_allValid (p : Bool) (o : Nat) (h : Rat) (L : Nat) (x : Nat → Rat) (v : Nat → Bool) (j : Nat) (hj : j < L)
    (hv : ∀ k, k < L → v k = true) : winSpec p o h L x v j = if p then centred o h L x j else dAt o h L x j := by
  cases p
  · rw [← diffSpec_eq_winSpec _ _ _ _ _ _ hj, diffSpec_first_run o h L L x v j hj hv (Or.inl rfl)]; rfl
  · rw [← ringSpec_eq_winSpec, ringSpec_allValid o h L x v j hj hv]; rfl

theorem diffRing_map_true_getD (o : Nat) (h : Rat) (xs : List Rat) (j : Nat) (hj : j < xs.length) :
    (diffRing o h (xs.map (·, true))).getD j 0 = centred o h xs.length (fun k => xs.getD k 0) j := by
  have hl : (xs.map (·, true)).length = xs.length := List.length_map _
  rw [diffRing_getD_ringSpec o h _ j (by rw [hl]; exact hj), hl,
    ringSpec_allValid o h _ _ _ j hj (fun k hk => by rw [okOf_map_true]; exact decide_eq_true hk)]
  exact congrArg (centred o h xs.length · j) (funext (valOf_map_true xs))

end DFV.C04
