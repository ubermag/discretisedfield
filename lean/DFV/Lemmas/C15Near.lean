import DFV.Lemmas.C15Fld
import DFV.Lemmas.C01
/-!
A field given as norm (`Field._as_array(val: Field, …)`): the nearest-coordinate
selection (`nearestIdx`, larger index on a tie) on the cell midpoints of an axis is
`point2index` along that axis ("floor, then clip": the cell that contains the point, lower face
inclusive; `C01.indexAx_nearest_any`: its centre is the nearest one for every point, inside the edge or not).
-/
namespace DFV.C15
open DFV DFV.Mesh

/-- scanning arg-min that keeps the later index on a tie -/
def scanMin (d : Nat → Rat) (n : Nat) : Nat :=
  (List.range n).foldl (fun best j => if d j ≤ d best then j else best) 0

theorem scanMin_succ (d : Nat → Rat) (n : Nat) :
    scanMin d (n + 1) = if d n ≤ d (scanMin d n) then n else scanMin d n := by
  unfold scanMin
  rw [List.range_succ, List.foldl_append]
  rfl

theorem scanMin_lt (d : Nat → Rat) (n : Nat) : scanMin d n < max n 1 := by
  induction n with
  | zero => simp [scanMin]
  | succ k ih =>
    rw [scanMin_succ]
    split
    · omega
    · omega

theorem scanMin_eq (d : Nat → Rat) (n r : Nat) (hr : r < n) (hmin : ∀ j, j < n → d r ≤ d j)
    (hstrict : ∀ j, r < j → j < n → d r < d j) : scanMin d n = r := by
  suffices h : ∀ k, r < k → k ≤ n → scanMin d k = r from h n hr le_rfl
  intro k hk
  induction k with
  | zero => omega
  | succ k ih =>
    intro hkn
    rw [scanMin_succ]
    by_cases hkr : k = r
    · subst hkr
      have hb : scanMin d k < n := by have := scanMin_lt d k; omega
      rw [if_pos (hmin _ hb)]
    · have hk' : r < k := by omega
      rw [ih hk' (by omega), if_neg (not_le.mpr (hstrict k hk' (by omega)))]

theorem nearestIdx_eq_scanMin (xs : List Rat) (p : Rat) :
    nearestIdx xs p = scanMin (fun j => absR (xs.getD j 0 - p)) xs.length := rfl

/-- **nearest midpoint = containing cell**: on the cell midpoints of an axis the
nearest-coordinate selection with ties to the larger index is `point2index` along that axis,
for every point -/
theorem nearestIdx_cells (m : Mesh) (a : Nat) (ha : a < m.ndim) (hn : 0 < m.nAt a) (hc : 0 < m.cellAt a)
    (p : Rat) : nearestIdx (m.cells.getD a []) p = m.indexAx a p := by
  have hlen : (m.cells.getD a []).length = m.nAt a := by rw [C01.cells_axis m a ha, tab_length]
  have hr := C01.indexAx_lt m a hn p
  have hnear := C01.indexAx_nearest_any m a hn hc p
  rw [nearestIdx_eq_scanMin, hlen]
  refine scanMin_eq _ _ _ hr (fun j hj => ?_) fun j hrj hj => ?_
  · show absR _ ≤ absR _
    rw [absR_eq_abs, absR_eq_abs, C01.cells_getD m a _ ha hr, C01.cells_getD m a j ha hj]
    rcases Nat.lt_trichotomy j (m.indexAx a p) with h | h | h
    · exact (hnear j).1 h
    · rw [h]
    · exact ((hnear j).2 h hj).le
  · show absR _ < absR _
    rw [absR_eq_abs, absR_eq_abs, C01.cells_getD m a _ ha hr, C01.cells_getD m a j ha hj]
    exact (hnear j).2 hrj hj

/-- the coordinate `mesh.cells.<dim>[i_a]` the selection is made at is the `a`-th
coordinate of the centre of cell `i` -/
theorem cells_getD (m : Mesh) (i : List Nat) (a : Nat) (ha : a < m.ndim)
    (hi : i.getD a 0 < m.nAt a) :
    (m.cells.getD a []).getD (i.getD a 0) 0 = (m.centre i).getD a 0 :=
  (C01.cells_getD m a _ ha hi).trans (C01.centre_getD m a i ha).symm

theorem fieldAsArray1_ok_iff (m : Mesh) (h : Fld) (t : NDA Rat) : fieldAsArray1 m h = .ok t ↔
    h.mesh.region.containsReg m.region = true ∧ h.nvdim = 1 ∧ h.mesh.region.dims = m.region.dims ∧
    t = ⟨m.n, fun i => (h.data.get (tab m.ndim fun a =>
      nearestIdx (h.mesh.cells.getD a []) ((m.cells.getD a []).getD (i.getD a 0) 0))).getD 0 0⟩ := by
  simp only [fieldAsArray1, guard_ok_iff, Bool.not_eq_true', Bool.not_eq_false, not_not,
    Except.ok.injEq, eq_comm (b := t)]

/-- **a field as norm**: the target of cell `i` is the value of the norm field at the cell
that contains the centre of cell `i` (per axis `clip(⌊(p − pmin)/cell⌋, 0, n − 1)`, i.e. a
centre lying exactly on a face belongs to the cell above it) -/
theorem fieldAsArray1_get {m : Mesh} {h : Fld} {t : NDA Rat} (ht : fieldAsArray1 m h = .ok t)
    (hh : h.mesh.Inv) (i : List Nat) (hi : ∀ a, a < m.ndim → i.getD a 0 < m.nAt a) :
    t.get i = (h.data.get (tab m.ndim fun a => h.mesh.indexAx a ((m.centre i).getD a 0))).getD 0 0 := by
  obtain ⟨hc, _, _, rfl⟩ := (fieldAsArray1_ok_iff m h t).mp ht
  have hnd : m.ndim = h.mesh.ndim := C01.containsReg_ndim hc
  show (h.data.get _).getD 0 0 = _
  congr 2
  apply tab_congr
  intro a ha
  have ha' : a < h.mesh.ndim := hnd ▸ ha
  rw [cells_getD m i a ha (hi a ha), nearestIdx_cells h.mesh a ha' (hh.2.2 a ha')
    (C01.cellAt_pos _ a (hh.2.2 a ha') (hh.lo_lt_hi ha'))]

theorem fieldAsArray1_same (m : Mesh) (h : Fld) (hm : m.Inv) (hmesh : h.mesh = m) (hnv : h.nvdim = 1) :
    ∃ t, fieldAsArray1 m h = .ok t ∧ t.shape = m.n ∧
      ∀ i : List Nat, i.length = m.ndim → (∀ a, a < m.ndim → i.getD a 0 < m.nAt a) →
        t.get i = (h.data.get i).getD 0 0 := by
  have hacc := (fieldAsArray1_ok_iff m h _).mpr
    ⟨by rw [hmesh]; exact C01.containsReg_self m.region hm.1, hnv, by rw [hmesh], rfl⟩
  refine ⟨_, hacc, rfl, fun i hl hi => ?_⟩
  rw [fieldAsArray1_get hacc (hmesh ▸ hm) i hi]
  congr 2
  symm
  apply eq_tab_of_getD i m.ndim _ 0 hl
  intro a ha
  rw [hmesh, C01.centre_getD m a i ha, C01.indexAx_centreAx m a _ (hi a ha)
    (C01.cellAt_pos m a (hm.2.2 a ha) (hm.lo_lt_hi ha))]

end DFV.C15
