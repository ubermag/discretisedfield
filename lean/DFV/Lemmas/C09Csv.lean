import DFV.Lemmas.C09LexWritten
import DFV.Lemmas.C09Ieee
import DFV.Model.C09Csv
/-! Text data sections at byte level (`Model/C09Csv.lean`): the decimal text of short decimals (`fmtDec`) read back by
`parseDec`, the rows `to_csv` writes read back by the model of `read_csv`, prefixes of the rows, and the rows of a
written text file. -/
namespace DFV.C09
open DFV

theorem digitsVal_append (l r : List Char) (acc : Nat) :
    digitsVal (l ++ r) acc = (digitsVal l acc).bind (digitsVal r) := by
  induction l generalizing acc with
  | nil => rfl
  | cons c l ih =>
    simp only [List.cons_append, digitsVal]
    split
    · exact ih _
    · rfl

theorem digitChar_spec (d : Nat) (h : d < 10) :
    (Nat.digitChar d).isDigit = true ∧ (Nat.digitChar d).toNat - 48 = d := by
  match d, h with
  | 0, _ | 1, _ | 2, _ | 3, _ | 4, _ | 5, _ | 6, _ | 7, _ | 8, _ | 9, _ => decide

theorem digitsVal_padDigits (k n acc : Nat) :
    digitsVal (padDigits k n) acc = some (acc * 10 ^ k + n % 10 ^ k) := by
  induction k generalizing n acc with
  | zero => simp [padDigits, digitsVal, Nat.mod_one]
  | succ k ih =>
    rw [padDigits, digitsVal_append, ih]
    simp only [Option.bind_some, digitsVal]
    have hd := digitChar_spec (n % 10) (Nat.mod_lt _ (by decide))
    rw [if_pos hd.1, hd.2]
    congr 1
    have e : n % 10 ^ (k + 1) = n % 10 + 10 * (n / 10 % 10 ^ k) := by
      rw [Nat.pow_succ, Nat.mul_comm (10 ^ k) 10, Nat.mod_mul]
    rw [e]
    ring

theorem padDigits_length (k n : Nat) : (padDigits k n).length = k := by
  induction k generalizing n with
  | zero => rfl
  | succ k ih => simp [padDigits, ih]

theorem padDigits_chars (k n : Nat) : ∀ c ∈ padDigits k n, c.isDigit = true := by
  induction k generalizing n with
  | zero => intro c hc; simp [padDigits] at hc
  | succ k ih =>
    intro c hc
    rw [padDigits, List.mem_append] at hc
    rcases hc with hc | hc
    · exact ih _ c hc
    · rw [List.mem_singleton.mp hc]
      exact (digitChar_spec (n % 10) (Nat.mod_lt _ (by decide))).1

theorem fmtU_chars (m k : Nat) : ∀ c ∈ fmtU m k, (c.isDigit = true ∨ c = '.') := by
  intro c hc
  unfold fmtU at hc
  rcases List.mem_append.mp hc with hc | hc
  · exact Or.inl ((toString_digits _).2.1 c hc)
  · rcases List.mem_cons.mp hc with rfl | hc
    · exact Or.inr rfl
    · split at hc
      · simp only [List.mem_singleton] at hc
        subst hc; exact Or.inl (by decide)
      · exact Or.inl (padDigits_chars _ _ c hc)

theorem fmtU_ne_nil (m k : Nat) : fmtU m k ≠ [] := by
  unfold fmtU
  intro h
  have := congrArg List.length h
  simp at this

theorem parseUDec_fmtU (m k : Nat) : parseUDec (fmtU m k) = some ((m : Rat) / (10 : Rat) ^ k) := by
  obtain ⟨hne, hdig, hval⟩ := toString_digits (m / 10 ^ k)
  have hnodot : ∀ c ∈ (toString (m / 10 ^ k)).toList, c ≠ '.' := fun c hc => (isDigit_plain c (hdig c hc)).2.2.1
  unfold parseUDec fmtU
  -- the digits before the point, then the point
  obtain ⟨e1, e2⟩ := span_at (· != '.') (toString (m / 10 ^ k)).toList
    ('.' :: if k = 0 then ['0'] else padDigits k (m % 10 ^ k)) (fun c hc => by simpa using hnodot c hc)
    (fun c r e => by cases e; decide)
  rw [e1, e2]
  have hemp : (toString (m / 10 ^ k)).toList.isEmpty = false := by
    cases h : (toString (m / 10 ^ k)).toList with
    | nil => exact absurd h hne
    | cons _ _ => rfl
  simp only [hemp, Bool.false_and, Bool.false_eq_true, if_false, List.drop_succ_cons, List.drop_zero, hval]
  by_cases hk : k = 0
  · subst hk
    simp only [if_true, pow_zero, Nat.div_one]
    have : digitsVal ['0'] 0 = some 0 := by decide
    rw [this]
    simp
  · rw [if_neg hk, digitsVal_padDigits, padDigits_length]
    simp only [Nat.zero_mul, Nat.zero_add, Nat.mod_mod]
    refine congrArg some ?_
    have h10 : ((10 : Rat) ^ k) ≠ 0 := pow_ne_zero _ (by norm_num)
    have hdm := Nat.div_add_mod m (10 ^ k)
    have : (m : Rat) = ((10 ^ k : Nat) : Rat) * ((m / 10 ^ k : Nat) : Rat) + ((m % 10 ^ k : Nat) : Rat) := by
      exact_mod_cast hdm.symm
    rw [this]
    push_cast
    field_simp

theorem shortDec_value (x : Rat) (h : ShortDec x) :
    x = (if x < 0 then -1 else 1) * ((decMant x : Rat) / (10 : Rat) ^ decK x) := by
  have h10 : (0 : Rat) < (10 : Rat) ^ decK x := pow_pos (by norm_num) _
  have hq := (Rat.coe_int_num_of_den_eq_one h).symm
  have hx : x = ((x * (10 : Rat) ^ decK x).num : Rat) / (10 : Rat) ^ decK x := by
    rw [← hq]; field_simp
  unfold decMant
  by_cases hneg : x < 0
  · rw [if_pos hneg]
    have hn : (x * (10 : Rat) ^ decK x).num < 0 := by
      rw [Rat.num_neg]; exact mul_neg_of_neg_of_pos hneg h10
    have : (((x * (10 : Rat) ^ decK x).num.natAbs : Nat) : Rat) = -((x * (10 : Rat) ^ decK x).num : Rat) := by
      rw [← Int.cast_natCast, Int.ofNat_natAbs_of_nonpos (le_of_lt hn), Int.cast_neg]
    rw [this]
    calc x = ((x * (10 : Rat) ^ decK x).num : Rat) / (10 : Rat) ^ decK x := hx
      _ = _ := by ring
  · rw [if_neg hneg]
    have hn : 0 ≤ (x * (10 : Rat) ^ decK x).num := by
      rw [Rat.num_nonneg]; exact mul_nonneg (not_lt.mp hneg) (le_of_lt h10)
    have : (((x * (10 : Rat) ^ decK x).num.natAbs : Nat) : Rat) = ((x * (10 : Rat) ^ decK x).num : Rat) := by
      rw [← Int.cast_natCast, Int.natAbs_of_nonneg hn]
    rw [this, one_mul]
    exact hx

/-- **the decimal text of a short decimal reads back to it** -/
theorem parseDec_fmtDec (x : Rat) (h : ShortDec x) : parseDec (fmtDec x) = some x := by
  have hv := shortDec_value x h
  unfold fmtDec
  by_cases hneg : x < 0
  · rw [if_pos hneg] at hv ⊢
    simp only [parseDec, parseUDec_fmtU, Option.map_some]
    refine congrArg some ?_
    calc -((decMant x : Rat) / (10 : Rat) ^ decK x) = -1 * ((decMant x : Rat) / (10 : Rat) ^ decK x) := by ring
      _ = x := hv.symm
  · rw [if_neg hneg] at hv ⊢
    -- the text starts with a digit, not with `-`
    have hhead : ∀ r, fmtU (decMant x) (decK x) ≠ '-' :: r := by
      intro r hr
      have hmem : '-' ∈ fmtU (decMant x) (decK x) := by rw [hr]; simp
      rcases fmtU_chars _ _ _ hmem with h1 | h1
      · revert h1; decide
      · revert h1; decide
    have : parseDec (fmtU (decMant x) (decK x)) = parseUDec (fmtU (decMant x) (decK x)) := by
      cases hf : fmtU (decMant x) (decK x) with
      | nil => rfl
      | cons c cs =>
        by_cases hc : c = '-'
        · subst hc; exact absurd hf (hhead cs)
        · unfold parseDec
          split
          · rename_i r heq
            injection heq with h1 _
            exact absurd h1 hc
          · rfl
    rw [this, parseUDec_fmtU]
    refine congrArg some ?_
    rw [one_mul] at hv
    exact hv.symm

/-! ## `decIO` is lawful on short decimals -/

theorem fmtDec_chars (x : Rat) : ∀ c ∈ fmtDec x, c.isDigit = true ∨ c = '.' ∨ c = '-' := by
  intro c hc
  unfold fmtDec at hc
  split at hc
  · rcases List.mem_cons.mp hc with rfl | hc
    · exact Or.inr (Or.inr rfl)
    · rcases fmtU_chars _ _ c hc with h | h
      · exact Or.inl h
      · exact Or.inr (Or.inl h)
  · rcases fmtU_chars _ _ c hc with h | h
    · exact Or.inl h
    · exact Or.inr (Or.inl h)

theorem decIO_lawful : decIO.LawfulOn ShortDec where
  parse_fmt x h := parseDec_fmtDec x h
  clean x _ := by
    refine ⟨?_, ?_⟩
    · show fmtDec x ≠ []
      unfold fmtDec
      split
      · simp
      · exact fmtU_ne_nil _ _
    · intro c hc
      rcases fmtDec_chars x c hc with h | rfl | rfl
      · exact (isDigit_plain c h).1
      · decide
      · decide

/-! ## lines -/

theorem csvLines_line (l rest : List Byte) (h : 10 ∉ l) (cur : List Byte) :
    csvLines (l ++ 10 :: rest) cur = (cur.reverse ++ l) :: csvLines rest [] := by
  induction l generalizing cur with
  | nil => simp [csvLines]
  | cons b l ih =>
    have hb : b ≠ 10 := fun e => h (by simp [e])
    simp only [List.cons_append, csvLines, hb, if_false]
    rw [ih (fun e => h (by simp [e]))]
    simp

theorem csvLines_last (l : List Byte) (h : 10 ∉ l) (cur : List Byte) :
    csvLines l cur = if (cur.reverse ++ l).isEmpty then [] else [cur.reverse ++ l] := by
  induction l generalizing cur with
  | nil => simp [csvLines]
  | cons b l ih =>
    have hb : b ≠ 10 := fun e => h (by simp [e])
    simp only [csvLines, hb, if_false]
    rw [ih (fun e => h (by simp [e]))]
    simp

theorem csvLines_block (ls : List (List Byte)) (h : ∀ l ∈ ls, 10 ∉ l) (rest : List Byte) :
    csvLines (unlines ls ++ rest) [] = ls ++ csvLines rest [] := by
  induction ls with
  | nil => rfl
  | cons l ls ih =>
    rw [unlines_cons, List.append_assoc, List.cons_append, csvLines_line l _ (h l (by simp)) [],
      ih (fun x hx => h x (by simp [hx]))]
    rfl

theorem csvLines_unlines (ls : List (List Byte)) (h : ∀ l ∈ ls, 10 ∉ l) (q : List Byte) (hq : 10 ∉ q) :
    csvLines (unlines ls ++ q) [] = ls ++ (if q.isEmpty then [] else [q]) := by
  rw [csvLines_block ls h, csvLines_last q hq]
  rfl

theorem csvLines_prefix (ls : List (List Byte)) (h : ∀ l ∈ ls, 10 ∉ l) (p : List Byte) (hp : p <+: unlines ls) :
    ∃ k q, csvLines p [] = ls.take k ++ (if q.isEmpty then [] else [q]) ∧
      ((k = ls.length ∧ q = []) ∨ ∃ l, ls[k]? = some l ∧ q <+: l) := by
  obtain ⟨k, q, rfl, hk⟩ := prefix_unlines ls p hp
  refine ⟨k, q, csvLines_unlines _ (fun l hl => h l (List.mem_of_mem_take hl)) q ?_, hk⟩
  rcases hk with ⟨_, rfl⟩ | ⟨l, hl, hq⟩
  · simp
  · exact not_mem_of_prefix 10 q _ hq (h _ (List.mem_of_getElem? hl))

theorem csvLines_prefix_length (ls : List (List Byte)) (h : ∀ l ∈ ls, 10 ∉ l) (p : List Byte)
    (hp : p <+: unlines ls) : (csvLines p []).length ≤ ls.length := by
  obtain ⟨k, q, e, hk⟩ := csvLines_prefix ls h p hp
  rw [e]
  rcases hk with ⟨rfl, rfl⟩ | ⟨l, hl, _⟩
  · simp
  · -- `k < ls.length`: the `k` whole lines and at most one piece of a line
    have := (List.getElem?_eq_some_iff.mp hl).1
    rw [List.length_append, List.length_take]
    split
    · rw [List.length_nil]; omega
    · rw [List.length_singleton]; omega

/-! ## the tokenizer on a written row -/

/-- a field of the text: not empty, no blank, no `#` -/
def CsvWord (w : List Char) : Prop := w ≠ [] ∧ ∀ c ∈ w, c ≠ ' ' ∧ c ≠ '#'

theorem csvGo_in (w : List Char) (hw : ∀ c ∈ w, c ≠ ' ' ∧ c ≠ '#') (cur rest : List Char) :
    csvGo (some cur) (w ++ rest) = csvGo (some (w.reverse ++ cur)) rest := by
  induction w generalizing cur with
  | nil => rfl
  | cons c w ih =>
    have hc := hw c (by simp)
    simp only [List.cons_append, csvGo, hc.1, hc.2, if_false]
    rw [ih (fun d hd => hw d (by simp [hd]))]
    simp

theorem csvGo_word (w : List Char) (hw : CsvWord w) (rest : List Char) :
    csvGo none (w ++ rest) = csvGo (some w.reverse) rest := by
  obtain ⟨hne, hall⟩ := hw
  cases w with
  | nil => exact absurd rfl hne
  | cons c w =>
    have hc := hall c (by simp)
    simp only [List.cons_append, csvGo, hc.1, hc.2, if_false]
    rw [csvGo_in w (fun d hd => hall d (by simp [hd]))]
    simp

theorem csvGo_joinSp (ws : List (List Char)) (hne : ws ≠ []) (h : ∀ w ∈ ws, CsvWord w) :
    csvGo none (joinSp ws) = ws := by
  induction ws with
  | nil => exact absurd rfl hne
  | cons w ws ih =>
    cases ws with
    | nil =>
      simp only [joinSp]
      have := csvGo_word w (h w (by simp)) []
      rw [List.append_nil] at this
      rw [this]
      simp [csvGo]
    | cons v vs =>
      simp only [joinSp]
      rw [csvGo_word w (h w (by simp))]
      simp only [csvGo, if_true, List.reverse_reverse]
      rw [ih (by simp) (fun x hx => h x (by simp [hx]))]

theorem csvRecord_row (ws : List (List Char)) (hne : ws ≠ []) (h : ∀ w ∈ ws, CsvWord w) :
    csvRecord (' ' :: joinSp ws) = some ws := by
  simp only [csvRecord, show ¬ (' ' = '#') by decide, if_false, csvGo, if_true]
  rw [csvGo_joinSp ws hne h]

theorem csvConvGo_fmt {α} (T : TextIO α) (P : α → Prop) (L : T.LawfulOn P) (nan : α) (r : List α)
    (hr : ∀ v ∈ r, P v) : csvConvGo T nan (r.map T.fmt) = some r := by
  induction r with
  | nil => rfl
  | cons v r ih =>
    have hv := hr v (by simp)
    have hne : (T.fmt v).isEmpty = false := by
      cases h : T.fmt v with
      | nil => exact absurd h (L.clean v hv).1
      | cons _ _ => rfl
    simp only [List.map_cons, csvConvGo, hne, Bool.false_eq_true, if_false, L.parse_fmt v hv,
      ih (fun x hx => hr x (by simp [hx]))]

theorem csvConvGo_length {α} (T : TextIO α) (nan : α) (fs : List (List Char)) (r : List α)
    (h : csvConvGo T nan fs = some r) : r.length = fs.length := by
  induction fs generalizing r with
  | nil => simp [csvConvGo] at h; subst h; rfl
  | cons f fs ih =>
    simp only [csvConvGo] at h
    split at h
    · rename_i v r' _ hr'
      injection h with h
      subst h
      simp [ih r' hr']
    · cases h

theorem csvConv_length_le {α} (T : TextIO α) (nan : α) (fs : List (List Char)) :
    (csvConv T nan fs).length ≤ fs.length := by
  unfold csvConv
  cases h : csvConvGo T nan fs with
  | none => simp
  | some r => simp [csvConvGo_length T nan fs r h]

/-- number of fields ≤ number of blanks + 1 -/
theorem csvGo_length_le (st : Option (List Char)) (l : List Char) :
    (csvGo st l).length ≤ l.count ' ' + 1 := by
  induction l generalizing st with
  | nil => cases st <;> simp [csvGo]
  | cons c l ih =>
    cases st with
    | none =>
      simp only [csvGo]
      split
      · rename_i hc
        subst hc
        have := ih none
        simp only [List.count_cons_self]
        omega
      · split
        · simp
        · have := ih (some [c])
          have hle : l.count ' ' ≤ (c :: l).count ' ' := List.count_le_count_cons
          omega
    | some cur =>
      simp only [csvGo]
      split
      · rename_i hc
        subst hc
        have := ih none
        simp only [List.count_cons_self, List.length_cons]
        omega
      · split
        · simp
        · have := ih (some (c :: cur))
          have hle : l.count ' ' ≤ (c :: l).count ' ' := List.count_le_count_cons
          omega

theorem count_sp_joinSp (ws : List (List Char)) (h : ∀ w ∈ ws, ∀ c ∈ w, c ≠ ' ') :
    (joinSp ws).count ' ' = ws.length - 1 := by
  induction ws with
  | nil => rfl
  | cons w ws ih =>
    have hw : w.count ' ' = 0 := by
      rw [List.count_eq_zero]
      intro hc
      exact h w (by simp) ' ' hc rfl
    cases ws with
    | nil => simp [joinSp, hw]
    | cons v vs =>
      simp only [joinSp, List.count_append, List.count_cons_self, hw, List.length_cons]
      rw [ih (fun x hx => h x (by simp [hx]))]
      simp

theorem csvRecord_prefix_length (ws : List (List Char)) (h : ∀ w ∈ ws, CsvWord w) (p : List Char)
    (hp : p <+: ' ' :: joinSp ws) (fs : List (List Char)) (hf : csvRecord p = some fs) :
    fs.length ≤ max ws.length 1 := by
  cases p with
  | nil => simp [csvRecord] at hf
  | cons c q =>
    rw [List.cons_prefix_cons] at hp
    obtain ⟨rfl, hq⟩ := hp
    simp only [csvRecord, show ¬ (' ' = '#') by decide, if_false, Option.some.injEq, csvGo, if_true] at hf
    subst hf
    have h1 := csvGo_length_le none q
    have h2 : q.count ' ' ≤ (joinSp ws).count ' ' := hq.sublist.count_le _
    rw [count_sp_joinSp ws (fun w hw c hc => ((h w hw).2 c hc).1)] at h2
    omega

/-! ## bytes ↔ characters of an ASCII line -/

theorem enc_ascii (cs : List Char) (h : ∀ c ∈ cs, c.toNat < 128) : utf8Enc cs = cs.map Char.toNat := by
  induction cs with
  | nil => rfl
  | cons c cs ih =>
    show utf8EncChar c ++ utf8Enc cs = _
    rw [encChar_ascii_eq c (h c (by simp)), ih (fun d hd => h d (by simp [hd]))]
    rfl

theorem prefix_enc_ascii (cs : List Char) (h : ∀ c ∈ cs, c.toNat < 128) (p : List Byte) (hp : p <+: utf8Enc cs) :
    p.map Char.ofNat <+: cs := by
  have := hp.map Char.ofNat
  rw [map_ofNat_enc cs h] at this
  exact this

/-! ## the data section of a written file read back -/

/-- rows the writer can produce and `T` can carry -/
structure RowsOk {α} (T : TextIO α) (P : α → Prop) (rows : List (List α)) : Prop where
  ne : ∀ r ∈ rows, r ≠ []
  vals : ∀ r ∈ rows, ∀ v ∈ r, P v

/-- footer lines: ASCII, start with `#`, no newline inside -/
def FooterOk (footer : List String) : Prop :=
  ∀ l ∈ footer, l.toList.head? = some '#' ∧ ∀ c ∈ l.toList, c.toNat < 128 ∧ c ≠ '\n'

theorem rowWords_ok {α} (T : TextIO α) (P : α → Prop) (L : T.LawfulOn P) (r : List α) (hr : ∀ v ∈ r, P v) :
    ∀ w ∈ r.map T.fmt, CsvWord w := by
  intro w hw
  obtain ⟨v, hv, rfl⟩ := List.mem_map.mp hw
  have := L.clean v (hr v hv)
  exact ⟨this.1, fun c hc => ⟨(this.2 c hc).1, (this.2 c hc).2.1⟩⟩

theorem rowChars_ascii {α} (T : TextIO α) (P : α → Prop) (L : T.LawfulOn P) (r : List α) (hr : ∀ v ∈ r, P v) :
    ∀ c ∈ rowChars T r, c.toNat < 128 ∧ c ≠ '\n' := by
  intro c hc
  unfold rowChars at hc
  rcases List.mem_cons.mp hc with rfl | hc
  · decide
  · rcases mem_joinSp _ c hc with rfl | ⟨w, hw, hcw⟩
    · decide
    · obtain ⟨v, hv, rfl⟩ := List.mem_map.mp hw
      have := (L.clean v (hr v hv)).2 c hcw
      exact ⟨this.2.2.2, this.2.2.1⟩

theorem row_line {α} (T : TextIO α) (P : α → Prop) (L : T.LawfulOn P) (nan : α) (r : List α)
    (hne : r ≠ []) (hr : ∀ v ∈ r, P v) :
    10 ∉ utf8Enc (rowChars T r) ∧
    (csvRecord ((utf8Enc (rowChars T r)).map Char.ofNat)).map (csvConv T nan) = some r ∧
    ((utf8Enc (rowChars T r)).head? == some 35) = false := by
  have hasc := rowChars_ascii T P L r hr
  refine ⟨newline_not_mem_enc _ (fun hc => (hasc _ hc).2 rfl), ?_, ?_⟩
  · rw [map_ofNat_enc _ (fun c hc => (hasc c hc).1)]
    unfold rowChars
    rw [csvRecord_row _ (by simpa using hne) (rowWords_ok T P L r hr)]
    simp only [Option.map_some, csvConv, csvConvGo_fmt T P L nan r hr, Option.getD_some]
  · rw [enc_ascii _ (fun c hc => (hasc c hc).1)]
    simp [rowChars]

theorem footer_line (l : String) (h : l.toList.head? = some '#' ∧ ∀ c ∈ l.toList, c.toNat < 128 ∧ c ≠ '\n') :
    10 ∉ utf8Enc l.toList ∧ csvRecord ((utf8Enc l.toList).map Char.ofNat) = none ∧
    ((utf8Enc l.toList).head? == some 35) = true ∧ latin1 (utf8Enc l.toList) = l := by
  obtain ⟨hh, hasc⟩ := h
  refine ⟨newline_not_mem_enc _ (fun hc => (hasc _ hc).2 rfl), ?_, ?_, latin1_enc l (fun c hc => (hasc c hc).1)⟩
  · rw [map_ofNat_enc _ (fun c hc => (hasc c hc).1)]
    cases hl : l.toList with
    | nil => rfl
    | cons c cs =>
      rw [hl] at hh
      simp only [List.head?_cons, Option.some.injEq] at hh
      subst hh
      simp [csvRecord]
  · rw [enc_ascii _ (fun c hc => (hasc c hc).1)]
    cases hl : l.toList with
    | nil => rw [hl] at hh; cases hh
    | cons c cs =>
      rw [hl] at hh
      simp only [List.head?_cons, Option.some.injEq] at hh
      subst hh
      rfl

def rowsBytes {α} (T : TextIO α) (rows : List (List α)) : List Byte :=
  rows.flatMap fun r => utf8Enc (rowChars T r) ++ [10]

theorem textBytes_split {α} (T : TextIO α) (rows : List (List α)) (footer : List String) :
    textBytes T rows footer = rowsBytes T rows ++ footer.flatMap (fun l => utf8Enc l.toList ++ [10]) := rfl

theorem rowsBytes_eq {α} (T : TextIO α) (rows : List (List α)) :
    rowsBytes T rows = unlines (rows.map fun r => utf8Enc (rowChars T r)) := by
  unfold rowsBytes unlines; rw [List.flatMap_map]

theorem csvRecord_comment (l : List Byte) (h : l.head? = some 35) : csvRecord (l.map Char.ofNat) = none := by
  cases l with
  | nil => cases h
  | cons b l =>
    simp only [List.head?_cons, Option.some.injEq] at h
    subst h
    simp [csvRecord]

/-- **the rows followed by comment lines** (a footer, whole or cut): the records are the rows, the comments those lines -/
theorem csvBody_rows_then {α} (T : TextIO α) (P : α → Prop) (L : T.LawfulOn P) (nan : α)
    (rows : List (List α)) (R : RowsOk T P rows) (x : List Byte)
    (hx : ∀ l ∈ csvLines x [], l.head? = some 35) :
    csvBody T nan (rowsBytes T rows ++ x) = (rows, (csvLines x []).map latin1) := by
  have hrow : ∀ r ∈ rows, _ := fun r hr => row_line T P L nan r (R.ne r hr) (R.vals r hr)
  unfold csvBody
  rw [rowsBytes_eq, csvLines_block _ (by
    intro l hl
    obtain ⟨r, hr, rfl⟩ := List.mem_map.mp hl
    exact (hrow r hr).1), List.filterMap_append, List.filter_append]
  congr 1
  · have h1 : (rows.map fun r => utf8Enc (rowChars T r)).filterMap
        (fun l => (csvRecord (l.map Char.ofNat)).map (csvConv T nan)) = rows := by
      rw [List.filterMap_map]
      conv => rhs; rw [← List.filterMap_some (l := rows)]
      exact List.filterMap_congr fun r hr => (hrow r hr).2.1
    have h2 : (csvLines x []).filterMap (fun l => (csvRecord (l.map Char.ofNat)).map (csvConv T nan)) = [] := by
      rw [List.filterMap_eq_nil_iff]
      intro l hl
      rw [csvRecord_comment l (hx l hl)]
      rfl
    rw [h1, h2, List.append_nil]
  · have h1 : (rows.map fun r => utf8Enc (rowChars T r)).filter (fun l => l.head? == some 35) = [] := by
      rw [List.filter_eq_nil_iff]
      intro l hl
      obtain ⟨r, hr, rfl⟩ := List.mem_map.mp hl
      rw [(hrow r hr).2.2]
      exact Bool.false_ne_true
    rw [h1, List.nil_append, List.filter_eq_self.mpr fun l hl => by rw [hx l hl]; rfl]

/-- **the data section of a written text file reads back**: the model of `read_csv` on the bytes
`to_csv` wrote gives the rows that were written (and the footer lines as comments) -/
theorem csvBody_textBytes {α} (T : TextIO α) (P : α → Prop) (L : T.LawfulOn P) (nan : α)
    (rows : List (List α)) (footer : List String) (R : RowsOk T P rows) (Fo : FooterOk footer) :
    csvBody T nan (textBytes T rows footer) = (rows, footer) := by
  have hl : csvLines (footer.flatMap fun l => utf8Enc l.toList ++ [10]) [] = footer.map fun l => utf8Enc l.toList := by
    have := csvLines_unlines (footer.map fun l => utf8Enc l.toList) (fun l hl => by
      obtain ⟨s, hs, rfl⟩ := List.mem_map.mp hl
      exact (footer_line s (Fo s hs)).1) [] (by simp)
    simpa [unlines, List.flatMap_map] using this
  rw [textBytes_split, csvBody_rows_then T P L nan rows R _ (by
    rw [hl]
    intro l hl
    obtain ⟨s, hs, rfl⟩ := List.mem_map.mp hl
    simpa using (footer_line s (Fo s hs)).2.2.1), hl, List.map_map]
  exact congrArg _ ((List.map_congr_left fun s hs => (footer_line s (Fo s hs)).2.2.2).trans (List.map_id _))

/-! ## what `readText` returns -/

theorem readText_ok_length_le {α} (nan : α) (rows : List (List α)) (nodes vd : Nat) (flat : List α)
    (h : readText nan rows nodes vd = .ok flat) (hc : (rows.headD []).length ≤ vd) :
    flat.length ≤ rows.length * vd := by
  obtain ⟨_, _, hall, rfl⟩ := (readText_ok_iff nan rows nodes vd flat).mp h
  have htl : (rows.take nodes).length ≤ rows.length := by simp [List.length_take]
  have hhead : ((rows.take nodes).headD []).length ≤ vd := by
    cases nodes with
    | zero => simp
    | succ k =>
      cases rows with
      | nil => simp
      | cons r rs => simpa using hc
  -- the first record has at most `vd` fields: nothing is dropped, every record is filled up to its length
  rw [if_neg (by omega), flatMap_length_uniform _ _ _ fun r hr => padRow_length nan _ r (hall r hr)]
  exact Nat.mul_le_mul htl hhead

/-- **a text data section with too few records is rejected**: fewer records than cells, the first
with at most `valuedim` fields -/
theorem short_rows_of_scan {α} [DecidableEq α] (c : Codec α) (isWord : Char → Bool)
    (reserved : String → Bool) (F : OvfFile α) (side : Option (List (String × Region)))
    (rows : List (List α)) (footer : List String) (hbody : F.body = .text rows footer)
    (hshort : ∀ h ws mesh vd, scan F.lines [] = some (h, ws) → readMesh h = .ok mesh →
      valueDim F.first h = .ok vd → rows.length < natProd mesh.n ∧ (rows.headD []).length ≤ vd) :
    ∃ e, fromOvf c isWord reserved F side = .error e := by
  refine err_of_not_ok _ fun g hres => ?_
  obtain ⟨p, mesh, arr, _, hp, hm, ha, hvd1, _⟩ := (fromOvf_ok_iff c isWord reserved F side g).mp hres
  obtain ⟨ws, nodes, hscan, _, _, hvd, hmesh, _, hflat⟩ := (parse_ok_iff c F p).mp hp
  obtain ⟨hlt, hhead⟩ := hshort p.header ws p.mesh p.vd hscan hmesh hvd
  rw [hbody, readBody_text_ok_iff] at hflat
  have hlen := readText_ok_length_le c.nan rows (natProd nodes) p.vd p.flat hflat.2 hhead
  have h1 := (unflatten_isOk_iff _ _ _ _).mp ⟨arr, ha⟩
  rw [loadSide_n _ _ _ hm] at h1
  have h2 : rows.length * p.vd < natProd p.mesh.n * p.vd := Nat.mul_lt_mul_of_pos_right hlt (by omega)
  omega

/-! ## reading the bytes of a text file -/

theorem fromOvfBytesT_text {α} [DecidableEq α] (N : NumIO) (LN : N.Lawful) (T : TextIO α) (P : α → Prop)
    (LT : T.LawfulOn P) (c : Codec α) (isWord : Char → Bool) (reserved : String → Bool)
    (F : OvfFile α) (hs : List HLine) (ws : List String) (K : FileOk N F hs ws) (hb : isBinary ws = false)
    (rows : List (List α)) (footer : List String) (hF : F.body = .text rows footer)
    (R : RowsOk T P rows) (Fo : FooterOk footer) (side : Option (List (String × Region))) :
    fromOvfBytesT N T c isWord reserved (fileBytesT N T F) side = fromOvf c isWord reserved F side := by
  unfold fromOvfBytesT fileBytesT
  rw [hF]
  simp only
  exact fromOvfBytes_text N LN _ c isWord reserved F hs ws K hb rows footer hF _
    (csvBody_textBytes T P LT c.nan rows footer R Fo) side

theorem fromOvfBytesT_bin {α} [DecidableEq α] (N : NumIO) (LN : N.Lawful) (T : TextIO α)
    (c : Codec α) (isWord : Char → Bool) (reserved : String → Bool)
    (F : OvfFile α) (hs : List HLine) (ws : List String) (K : FileOk N F hs ws) (hb : isBinary ws = true)
    (b : List Byte) (hF : F.body = .bin b) (side : Option (List (String × Region))) :
    fromOvfBytesT N T c isWord reserved (fileBytesT N T F) side = fromOvf c isWord reserved F side := by
  have := fromOvfBytes_bin N LN (csvBody T c.nan) c isWord reserved F hs ws K hb b hF side
  unfold fromOvfBytesT fileBytesT
  unfold fileBytes at this
  rw [hF] at this ⊢
  exact this

/-- the footer of a text file (both writers): `footerLines ["Text"]`, evaluated -/
theorem footerLines_text : footerLines ["Text"] = ["# End: Data Text", "# End: Segment"] := by decide +kernel

theorem footerOk_lit : FooterOk ["# End: Data Text", "# End: Segment"] := by
  intro l hl
  simp only [List.mem_cons, List.mem_nil_iff, or_false] at hl
  rcases hl with rfl | rfl
  · exact ⟨by decide, by decide⟩
  · exact ⟨by decide, by decide⟩

theorem footerOk_text : FooterOk (footerLines ["Text"]) := footerLines_text ▸ footerOk_lit

/-! ## prefixes of the rows -/

theorem csvBody_prefix_count {α} (T : TextIO α) (P : α → Prop) (L : T.LawfulOn P) (nan : α)
    (rows : List (List α)) (R : RowsOk T P rows) (p : List Byte) (hp : p <+: rowsBytes T rows) :
    (csvBody T nan p).1.length ≤ rows.length := by
  unfold csvBody
  simp only
  calc _ ≤ (csvLines p []).length := List.length_filterMap_le _ _
    _ ≤ (rows.map fun r => utf8Enc (rowChars T r)).length := by
        apply csvLines_prefix_length
        · intro l hl
          obtain ⟨r, hr, rfl⟩ := List.mem_map.mp hl
          exact (row_line T P L nan r (R.ne r hr) (R.vals r hr)).1
        · rw [← rowsBytes_eq]; exact hp
    _ = rows.length := by simp

theorem csvBody_prefix_head {α} (T : TextIO α) (P : α → Prop) (L : T.LawfulOn P) (nan : α)
    (rows : List (List α)) (R : RowsOk T P rows) (vd : Nat) (hvd : 1 ≤ vd) (hu : ∀ r ∈ rows, r.length = vd)
    (p : List Byte) (hp : p <+: rowsBytes T rows) :
    ((csvBody T nan p).1.headD []).length ≤ vd := by
  obtain ⟨k, q, e, hk⟩ := csvLines_prefix (rows.map fun r => utf8Enc (rowChars T r)) (by
    intro l hl
    obtain ⟨r, hr, rfl⟩ := List.mem_map.mp hl
    exact (row_line T P L nan r (R.ne r hr) (R.vals r hr)).1) p (by rw [← rowsBytes_eq]; exact hp)
  unfold csvBody
  simp only
  rw [e]
  cases rows with
  | nil =>
    rcases hk with ⟨_, rfl⟩ | ⟨l, hl, _⟩
    · simp
    · simp at hl
  | cons r rs =>
    have hr := R.vals r (by simp)
    obtain ⟨_, hrec, _⟩ := row_line T P L nan r (R.ne r (by simp)) hr
    cases k with
    | succ k => simp [hrec, hu r (by simp)]
    | zero =>
      -- a piece of the first row
      rcases hk with ⟨h0, _⟩ | ⟨l, hl, hq⟩
      · cases h0
      · cases (Option.some.inj hl : utf8Enc (rowChars T r) = l)
        simp only [List.take_zero, List.nil_append]
        split
        · simp
        · simp only [List.filterMap_cons, List.filterMap_nil]
          cases hrq : csvRecord (q.map Char.ofNat) with
          | none => simp
          | some fs =>
            have hasc := rowChars_ascii T P L r hr
            have := csvRecord_prefix_length (r.map T.fmt) (rowWords_ok T P L r hr) _
              (prefix_enc_ascii _ (fun ch hch => (hasc ch hch).1) q hq) fs hrq
            have h2 := csvConv_length_le T nan fs
            rw [List.length_map, hu r (by simp)] at this
            simp only [Option.map_some, List.headD_cons]
            omega

theorem rowsBytes_dropLast_prefix {α} (T : TextIO α) (rows : List (List α)) :
    rowsBytes T rows.dropLast <+: rowsBytes T rows := by
  cases h : rows.getLast? with
  | none =>
    have : rows = [] := List.getLast?_eq_none_iff.mp h
    subst this; exact List.prefix_refl _
  | some l =>
    have : rows = rows.dropLast ++ [l] := by
      have := List.dropLast_append_getLast? l (by rw [h]; rfl)
      exact this.symm
    conv => rhs; rw [this]
    unfold rowsBytes
    rw [List.flatMap_append]
    exact List.prefix_append _ _

/-! ## after the rows: footer lines, whole or cut, give no record -/

theorem csvLines_footer_prefix (footer : List String) (Fo : FooterOk footer) (p : List Byte)
    (hp : p <+: footer.flatMap (fun l => utf8Enc l.toList ++ [10])) :
    ∀ l ∈ csvLines p [], l.head? = some 35 := by
  have hline : ∀ l ∈ footer.map fun s => utf8Enc s.toList, 10 ∉ l ∧ l.head? = some 35 := by
    intro l hl
    obtain ⟨s, hs, rfl⟩ := List.mem_map.mp hl
    obtain ⟨h10, _, hh, _⟩ := footer_line s (Fo s hs)
    exact ⟨h10, by simpa using hh⟩
  obtain ⟨k, q, e, hk⟩ := csvLines_prefix _ (fun l hl => (hline l hl).1) p
    (by rw [unlines, List.flatMap_map]; exact hp)
  intro l hl
  rw [e] at hl
  rcases List.mem_append.mp hl with hl | hl
  · exact (hline l (List.mem_of_mem_take hl)).2
  · split at hl
    · cases hl
    · rename_i hne
      rw [List.mem_singleton.mp hl]
      rcases hk with ⟨_, rfl⟩ | ⟨l', hl', ⟨r, hr⟩⟩
      · exact absurd rfl hne
      · have := (hline _ (List.mem_of_getElem? hl')).2
        rw [← hr] at this
        cases q with
        | nil => exact absurd rfl hne
        | cons b q => simpa using this

/-! ## the decimal text codec on binary64 values -/

/-- `fmtDec` / `parseDec` on binary64 values (a parsed number that is no binary64 value becomes 0) -/
noncomputable def decV : TextIO V64 := ⟨fun v => fmtDec v.val, fun cs => (parseDec cs).map guard64⟩

theorem decV_lawful : decV.LawfulOn (fun v => ShortDec v.val) where
  parse_fmt v h := by
    show (parseDec (fmtDec v.val)).map guard64 = some v
    rw [parseDec_fmtDec v.val h, Option.map_some, guard64_of v.val v.property]
  clean v h := decIO_lawful.clean v.val h

/-- a search that starts at or below a good exponent finds one -/
theorem decScale_good (x : Rat) (fuel start k : Nat) (hk : start ≤ k) (hf : k ≤ start + fuel)
    (hg : (x * (10 : Rat) ^ k).den = 1) : (x * (10 : Rat) ^ decScale x fuel start).den = 1 := by
  induction fuel generalizing start with
  | zero =>
    have : k = start := by omega
    subst this; exact hg
  | succ fuel ih =>
    unfold decScale
    split
    · assumption
    · rename_i hns
      have : start ≠ k := by intro e; subst e; exact hns hg
      exact ih (start + 1) (by omega) (by omega)

/-- every rational that becomes an integer when multiplied by a power of ten not larger than
`10^den` is a short decimal (dyadic rationals `a / 2^j` are: `j ≤ 2^j`) -/
theorem shortDec_of_scale (x : Rat) (k : Nat) (hk : k ≤ x.den) (hg : (x * (10 : Rat) ^ k).den = 1) : ShortDec x :=
  decScale_good x x.den 0 k (Nat.zero_le _) (by omega) hg

/-! ## the rows of a written text file -/

theorem textRows_values {α} (c : Codec α) (f : OField α) (e : Bool) (P : α → Prop)
    (hP : ∀ idx, P (f.arr.get idx)) (h0 : P c.zero) : ∀ r ∈ textRows c f e, ∀ v ∈ r, P v := by
  have hget : ∀ k, P ((flatPayload f).getD k c.zero) := by
    intro k
    rw [List.getD_eq_getElem?_getD]
    cases hk : (flatPayload f)[k]? with
    | none => exact h0
    | some x =>
      obtain ⟨idx, rfl⟩ := flatPayload_mem f x (List.mem_of_getElem? hk)
      exact hP idx
  intro r hr v hv
  unfold textRows at hr
  obtain ⟨a, _, rfl⟩ := (mem_tab _ _ _).mp hr
  split at hv
  · simp only [List.append_assoc, List.mem_append, List.mem_cons, List.mem_nil_iff, or_false] at hv
    rcases hv with hv | (rfl | rfl) | hv
    · obtain ⟨b, _, rfl⟩ := (mem_tab _ _ _).mp (List.mem_of_mem_take hv)
      exact hget _
    · exact h0
    · exact h0
    · obtain ⟨b, _, rfl⟩ := (mem_tab _ _ _).mp (List.mem_of_mem_drop hv)
      exact hget _
  · obtain ⟨b, _, rfl⟩ := (mem_tab _ _ _).mp hv
    exact hget _

theorem rowsOk_of_flatten {α} (T : TextIO α) (P : α → Prop) (rows : List (List α)) (vd : Nat) (hvd : 0 < vd)
    (hu : ∀ r ∈ rows, r.length = vd) (hP : ∀ v ∈ rows.flatten, P v) : RowsOk T P rows :=
  ⟨fun r hr hnil => by have := hu r hr; rw [hnil] at this; simp at this; omega,
   fun r hr v hv => hP v (List.mem_flatten.mpr ⟨r, hr, hv⟩)⟩

theorem rowsOk_written {α} (T : TextIO α) (P : α → Prop) (c : Codec α) (f : OField α) (V : Valid f) (e : Bool)
    (he : e = true → f.nvdim = 1) (hP : ∀ idx, P (f.arr.get idx)) (h0 : P c.zero) :
    RowsOk T P (textRows c f e) := by
  obtain ⟨_, huni, _⟩ := textRows_flatten c f V e he
  exact rowsOk_of_flatten T P _ _ (writeDim_pos f V e) huni fun v hv =>
    let ⟨r, hr, hvr⟩ := List.mem_flatten.mp hv
    textRows_values c f e P hP h0 r hr v hvr

theorem short_rows_of_reads {α} [DecidableEq α] (c : Codec α) (isWord : Char → Bool) (reserved : String → Bool)
    (F : OvfFile α) (side : Option (List (String × Region))) (rows : List (List α)) (footer : List String)
    (hbody : F.body = .text rows footer) {h : List (String × HVal)} {ws : List String} {m : Mesh} {vd : Nat}
    (R : Reads F h ws m vd) (hshort : rows.length < natProd m.n ∧ (rows.headD []).length ≤ vd) :
    ∃ e, fromOvf c isWord reserved F side = .error e := by
  refine short_rows_of_scan c isWord reserved F side rows footer hbody fun h' ws' mesh vd' hscan' hmesh hvd' => ?_
  rw [R.hscan] at hscan'
  cases hscan'
  rw [R.hmesh] at hmesh
  rw [R.hvd] at hvd'
  cases hmesh; cases hvd'
  exact hshort

/-- **Truncation points of a text file**: the bytes of any file the byte-level reader reads back (`FileOk`) whose text data
section holds one row of `vd ≥ 1` values `T` carries per cell of the mesh its header is read to, cut anywhere up to the
start of the last row, are never read into a field.  The general form of `text_truncation_rejected`. -/
theorem text_truncation_rejected_of {α} [DecidableEq α] (N : NumIO) (LN : N.Lawful) (T : TextIO α) (P : α → Prop)
    (LT : T.LawfulOn P) (c : Codec α) (isWord : Char → Bool) (reserved : String → Bool)
    (F : OvfFile α) (hs : List HLine) (ws : List String) (K : FileOk N F hs ws) (hb : isBinary ws = false)
    (rows : List (List α)) (footer : List String) (hF : F.body = .text rows footer) (R : RowsOk T P rows)
    {h : List (String × HVal)} {m : Mesh} {vd : Nat} (Rd : Reads F h ws m vd) (hvd : 0 < vd)
    (hu : ∀ r ∈ rows, r.length = vd) (hlen : rows.length = natProd m.n) (hpos : 0 < natProd m.n)
    (t : Nat) (ht : t ≤ (headerBytes N F).length + (rowsBytes T rows.dropLast).length)
    (side : Option (List (String × Region))) :
    ∃ e, fromOvfBytesT N T c isWord reserved ((fileBytesT N T F).take t) side = .error e := by
  unfold fromOvfBytesT fileBytesT
  rw [hF]
  by_cases hlt : t < (headerBytes N F).length
  · exact fromOvfBytes_take_header N LN _ (rfl : (csvBody T c.nan []).1 = []) c isWord reserved F _ _ K _ t hlt side
  rw [List.take_append, List.take_of_length_le (by omega), fromOvfBytes_text_tail N LN _ c isWord reserved F _ _ K hb _ side]
  -- what is left of the data section is a prefix of the bytes of all rows but the last
  have htail : (textBytes T rows footer).take (t - (headerBytes N F).length) <+: rowsBytes T rows.dropLast := by
    obtain ⟨x, hx⟩ := rowsBytes_dropLast_prefix T rows
    rw [textBytes_split, ← hx, List.append_assoc, List.take_append_of_le_length (by omega)]
    exact List.take_prefix _ _
  have R' : RowsOk T P rows.dropLast :=
    ⟨fun r hr => R.ne r (List.dropLast_subset _ hr), fun r hr => R.vals r (List.dropLast_subset _ hr)⟩
  have hcount := csvBody_prefix_count T P LT c.nan _ R' _ htail
  rw [List.length_dropLast, hlen] at hcount
  exact short_rows_of_reads c isWord reserved _ side _ _ rfl (Rd.body _)
    ⟨by omega, csvBody_prefix_head T P LT c.nan _ R' vd hvd (fun r hr => hu r (List.dropLast_subset _ hr)) _ htail⟩

/-- **From the end of the rows on, a cut changes nothing**: the bytes of any file the byte-level reader reads back, with
a text data section of rows `T` carries and a footer of `#` lines, cut anywhere at or after the newline of the last row,
read to what the whole file reads to.  The general form of `text_cut_after_rows_same_field`. -/
theorem text_cut_after_rows_of {α} [DecidableEq α] (N : NumIO) (LN : N.Lawful) (T : TextIO α) (P : α → Prop)
    (LT : T.LawfulOn P) (c : Codec α) (isWord : Char → Bool) (reserved : String → Bool)
    (F : OvfFile α) (hs : List HLine) (ws : List String) (K : FileOk N F hs ws) (hb : isBinary ws = false)
    (rows : List (List α)) (footer : List String) (hF : F.body = .text rows footer) (R : RowsOk T P rows)
    (Fo : FooterOk footer) (t : Nat) (ht : (headerBytes N F).length + (rowsBytes T rows).length ≤ t)
    (side : Option (List (String × Region))) :
    fromOvfBytesT N T c isWord reserved ((fileBytesT N T F).take t) side
      = fromOvfBytesT N T c isWord reserved (fileBytesT N T F) side := by
  rw [fromOvfBytesT_text N LN T P LT c isWord reserved F hs ws K hb rows footer hF R Fo side]
  unfold fromOvfBytesT fileBytesT
  rw [hF, List.take_append, List.take_of_length_le (by omega),
    fromOvfBytes_text_tail N LN _ c isWord reserved F _ _ K hb _ side,
    textBytes_split, List.take_append, List.take_of_length_le (by omega),
    csvBody_rows_then T P LT c.nan _ R _ (csvLines_footer_prefix _ Fo _ (List.take_prefix _ _))]
  exact fromOvf_text_congr c isWord reserved F _ _ _ _ hF (fun _ _ _ _ _ _ => rfl) side

end DFV.C09
