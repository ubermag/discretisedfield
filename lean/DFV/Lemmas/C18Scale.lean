import DFV.Lemmas.C18Rotate
/-! Change of the unit of length, of the origin and of the unit of the value commutes with
`rotate` (C18).

The chain: region and box (`newRegion_aff`) → counts (`autoX3_aff`: the rounded ratio is scale-free) → node grid
(`gridNode_aff`) → search and fraction (`findIdx_scale`, `frac_scale`: unchanged for `s > 0`) → `locOf_aff`, `backPos_aff` →
`valuesAt_aff` → `rotateOnce_aff` → the state machine (`step_aff`, `run_aff`). -/
namespace DFV.C18
open DFV DFV.Mesh

variable (s : Rat) (d : Nat → Rat)

theorem affReg_lo (r : Region) (h : r.pmin.length = 3) (a : Nat) (ha : a < 3) : (affReg s d r).lo a = s * r.lo a + d a := by
  unfold affReg Region.lo
  simp only
  rw [h, getD_tab _ _ _ _ ha]

theorem affReg_hi (r : Region) (h : r.pmax.length = 3) (a : Nat) (ha : a < 3) : (affReg s d r).hi a = s * r.hi a + d a := by
  unfold affReg Region.hi
  simp only
  rw [h, getD_tab _ _ _ _ ha]

theorem affReg_edge (r : Region) (h : Is3d r) (a : Nat) (ha : a < 3) : (affReg s d r).edge a = s * r.edge a := by
  unfold Region.edge
  rw [affReg_lo s d r h.1 a ha, affReg_hi s d r h.2 a ha]; ring

theorem affMesh_nAt (m : Mesh) (a : Nat) : (affMesh s d m).nAt a = m.nAt a := rfl

theorem affMesh_cellAt (m : Mesh) (h : Is3d m.region) (a : Nat) (ha : a < 3) : (affMesh s d m).cellAt a = s * m.cellAt a := by
  unfold cellAt
  rw [affMesh_nAt]
  show (affReg s d m.region).edge a / _ = _
  rw [affReg_edge s d _ h a ha, mul_div_assoc]

theorem affMesh_centreAt (m : Mesh) (h : Is3d m.region) (a : Nat) (ha : a < 3) :
    centreAt (affMesh s d m) a = s * centreAt m a + d a := by
  unfold centreAt
  show ((affReg s d m.region).lo a + (affReg s d m.region).hi a) / 2 = _
  rw [affReg_lo s d _ h.1 a ha, affReg_hi s d _ h.2 a ha]; ring

theorem sumAbs_smul (hs : 0 ≤ s) (R : M3) (w : V3) (i : Nat) :
    sumAbs R ⟨s * w.x, s * w.y, s * w.z⟩ i = s * sumAbs R w i := by
  unfold sumAbs
  simp only
  rw [show R.e i 0 * (s * w.x) = s * (R.e i 0 * w.x) by ring, show R.e i 1 * (s * w.y) = s * (R.e i 1 * w.y) by ring,
    show R.e i 2 * (s * w.z) = s * (R.e i 2 * w.z) by ring, absR_mul s, absR_mul s, absR_mul s,
    _root_.DFV.absR_of_nonneg hs]
  ring

theorem edgesV_aff (m : Mesh) (h : Is3d m.region) :
    edgesV (affMesh s d m) = ⟨s * (edgesV m).x, s * (edgesV m).y, s * (edgesV m).z⟩ := by
  unfold edgesV V3.ofFn
  simp only
  show V3.mk ((affReg s d m.region).edge 0) ((affReg s d m.region).edge 1) ((affReg s d m.region).edge 2) = _
  rw [affReg_edge s d _ h 0 (by decide), affReg_edge s d _ h 1 (by decide), affReg_edge s d _ h 2 (by decide)]

theorem cellV_aff (m : Mesh) (h : Is3d m.region) :
    cellV (affMesh s d m) = ⟨s * (cellV m).x, s * (cellV m).y, s * (cellV m).z⟩ := by
  unfold cellV V3.ofFn
  simp only
  rw [affMesh_cellAt s d _ h 0 (by decide), affMesh_cellAt s d _ h 1 (by decide), affMesh_cellAt s d _ h 2 (by decide)]

theorem boxRegion_aff (hs : 0 ≤ s) (t : Rat) (f : Fld) (h : Is3d f.mesh.region) (R : M3) :
    boxRegion (affFld s d t f) R = affReg s d (boxRegion f R) := by
  unfold boxRegion affReg
  simp only [tab_length]
  congr 1
  · apply tab_congr; intro a ha
    unfold Region.lo
    simp only
    rw [getD_tab _ _ _ _ ha]
    unfold boxLo
    show centreAt (affMesh s d f.mesh) a - sumAbs R (edgesV (affMesh s d f.mesh)) a / 2 = _
    rw [affMesh_centreAt s d _ h a ha, edgesV_aff s d _ h, sumAbs_smul s hs]; ring
  · apply tab_congr; intro a ha
    unfold Region.hi
    simp only
    rw [getD_tab _ _ _ _ ha]
    unfold boxHi
    show centreAt (affMesh s d f.mesh) a + sumAbs R (edgesV (affMesh s d f.mesh)) a / 2 = _
    rw [affMesh_centreAt s d _ h a ha, edgesV_aff s d _ h, sumAbs_smul s hs]; ring

/-- the summed rotated edges scale with the unit of length, so no edge of the box collapses in the one
unit exactly when none does in the other -/
theorem boxOk_aff (hs : 0 < s) (t : Rat) (f : Fld) (h : Is3d f.mesh.region) (R : M3) :
    BoxOk (affFld s d t f) R ↔ BoxOk f R := by
  have e : ∀ a, sumAbs R (edgesV (affFld s d t f).mesh) a = s * sumAbs R (edgesV f.mesh) a := by
    intro a
    show sumAbs R (edgesV (affMesh s d f.mesh)) a = _
    rw [edgesV_aff s d _ h, sumAbs_smul s hs.le]
  constructor
  · intro hh a ha e0; apply hh a ha; rw [e, e0]; ring
  · intro hh a ha e0; rw [e] at e0; exact hh a ha ((mul_eq_zero.mp e0).resolve_left hs.ne')

theorem newRegion_aff (hs : 0 < s) (t : Rat) (f : Fld) (h : Is3d f.mesh.region) (R : M3) :
    newRegion (affFld s d t f) R = (newRegion f R).map (affReg s d) := by
  have hiff := boxOk_aff s d hs t f h R
  by_cases hc : BoxOk f R
  · rw [newRegion_ok_of _ _ hc, newRegion_ok_of _ _ (hiff.mpr hc), boxRegion_aff s d hs.le t f h R]; rfl
  · rw [newRegion_err_of _ _ hc, newRegion_err_of _ _ (fun hh => hc (hiff.mp hh))]; rfl
theorem affReg_is3d (r : Region) (h : Is3d r) : Is3d (affReg s d r) := by
  unfold Is3d affReg; simp [h.1, h.2]

theorem autoX3_aff (hs : 0 < s) (t : Rat) (f : Fld) (h : Is3d f.mesh.region) (R : M3) (reg : Region) (hr : Is3d reg)
    (i : Nat) (hi : i < 3) :
    autoX3 (affFld s d t f) R (affReg s d reg) i = autoX3 f R reg i := by
  unfold autoX3
  show cube ((affReg s d reg).edge i) * (sumAbs R (cellV (affMesh s d f.mesh)) 0 * sumAbs R (cellV (affMesh s d f.mesh)) 1 *
      sumAbs R (cellV (affMesh s d f.mesh)) 2) / (cube (sumAbs R (cellV (affMesh s d f.mesh)) i) *
      ((affMesh s d f.mesh).cellAt 0 * (affMesh s d f.mesh).cellAt 1 * (affMesh s d f.mesh).cellAt 2)) = _
  rw [affReg_edge s d reg hr i hi, cellV_aff s d _ h, sumAbs_smul s hs.le, sumAbs_smul s hs.le, sumAbs_smul s hs.le,
    sumAbs_smul s hs.le, affMesh_cellAt s d _ h 0 (by decide), affMesh_cellAt s d _ h 1 (by decide),
    affMesh_cellAt s d _ h 2 (by decide)]
  have h6 : s ^ 6 ≠ 0 := pow_ne_zero 6 hs.ne'
  symm
  rw [← mul_div_mul_left _ _ h6]
  congr 1 <;> (unfold cube; ring)

theorem autoN_aff (hs : 0 < s) (t : Rat) (f : Fld) (h : Is3d f.mesh.region) (R : M3) (reg : Region) (hr : Is3d reg) :
    autoN (affFld s d t f) R (affReg s d reg) = autoN f R reg := by
  unfold autoN
  apply tab_congr
  intro i hi
  rw [autoX3_aff s d hs t f h R reg hr i hi]

theorem affReg_ndim (r : Region) : (affReg s d r).ndim = r.ndim := by
  unfold affReg Region.ndim; simp

theorem mkN_aff (reg : Region) (n : List Nat) :
    Mesh.mkN? (affReg s d reg) n = (Mesh.mkN? reg n).map (affMesh s d) := by
  unfold Mesh.mkN?
  rw [affReg_ndim]
  split
  · rfl
  · split
    · rfl
    · show (if (!Mesh.bcOk reg.dims ("" : String).toLower) = true then _ else _) = _
      split
      · rfl
      · rfl

theorem linspace_aff (a b e : Rat) (n i : Nat) (hi : i < n) :
    (linspace (s * a + e) (s * b + e) n).getD i 0 = s * (linspace a b n).getD i 0 + e := by
  unfold linspace
  by_cases h1 : n = 1
  · rw [if_pos h1, if_pos h1]
    have : i = 0 := by omega
    subst this
    simp
  · rw [if_neg h1, if_neg h1, getD_tab _ _ _ _ hi, getD_tab _ _ _ _ hi]
    ring

theorem gridNode_aff (m : Mesh) (h : Is3d m.region) (a : Nat) (ha : a < 3) (j : Nat) (hj : j ≤ m.nAt a + 1) :
    gridNode (affMesh s d m) a j = s * gridNode m a j := by
  unfold gridNode
  rw [affMesh_nAt, affMesh_centreAt s d m h a ha, affMesh_cellAt s d m h a ha]
  show (if j = 0 then (affReg s d m.region).lo a - _ else if j = m.nAt a + 1 then (affReg s d m.region).hi a + _ else
    (linspace ((affReg s d m.region).lo a + _) ((affReg s d m.region).hi a - _) _).getD _ _) - _ = _
  rw [affReg_lo s d _ h.1 a ha, affReg_hi s d _ h.2 a ha]
  by_cases h0 : j = 0
  · rw [if_pos h0, if_pos h0]; ring
  · rw [if_neg h0, if_neg h0]
    by_cases h1 : j = m.nAt a + 1
    · rw [if_pos h1, if_pos h1]; ring
    · rw [if_neg h1, if_neg h1]
      rw [show s * m.region.lo a + d a + s * m.cellAt a / 2 = s * (m.region.lo a + m.cellAt a / 2) + d a by ring,
        show s * m.region.hi a + d a - s * m.cellAt a / 2 = s * (m.region.hi a - m.cellAt a / 2) + d a by ring,
        linspace_aff s _ _ _ _ _ (by omega)]
      ring

/-! ### the interval search does not see a positive rescaling -/

theorem findIdx_scale (hs : 0 < s) (g g' : Nat → Rat) (x : Rat) (m : Nat) (hg : ∀ j, j ≤ m → g' j = s * g j) :
    ∀ k, k ≤ m → findIdx g' (s * x) k = findIdx g x k := by
  intro k
  induction k with
  | zero => intro _; rfl
  | succ k ih =>
    intro hk
    unfold findIdx
    rw [hg (k + 1) hk, ih (by omega)]
    have : (s * g (k + 1) ≤ s * x) ↔ (g (k + 1) ≤ x) := mul_le_mul_iff_of_pos_left hs
    simp only [this]

theorem inBounds_scale (hs : 0 < s) (g g' : Nat → Rat) (x : Rat) (m : Nat) (hg : ∀ j, j ≤ m + 1 → g' j = s * g j) :
    inBounds g' m (s * x) = inBounds g m x := by
  have h1 : (s * g 0 ≤ s * x) ↔ (g 0 ≤ x) := mul_le_mul_iff_of_pos_left hs
  have h2 : (s * x ≤ s * g (m + 1)) ↔ (x ≤ g (m + 1)) := mul_le_mul_iff_of_pos_left hs
  rw [Bool.eq_iff_iff, inBounds_iff, inBounds_iff, hg 0 (by omega), hg (m + 1) (by omega), h1, h2]

theorem frac_scale (hs : 0 < s) (g g' : Nat → Rat) (x : Rat) (m i : Nat) (hi : i ≤ m) (hg : ∀ j, j ≤ m + 1 → g' j = s * g j) :
    frac g' i (s * x) = frac g i x := by
  unfold frac
  rw [hg i (by omega), hg (i + 1) (by omega), ← mul_sub, ← mul_sub, mul_div_mul_left _ _ hs.ne']

theorem locate_scale (hs : 0 < s) (g0 g1 g2 g0' g1' g2' : Nat → Rat) (m0 m1 m2 : Nat)
    (h0 : ∀ j, j ≤ m0 + 1 → g0' j = s * g0 j) (h1 : ∀ j, j ≤ m1 + 1 → g1' j = s * g1 j)
    (h2 : ∀ j, j ≤ m2 + 1 → g2' j = s * g2 j) (p : V3) :
    locate g0' g1' g2' m0 m1 m2 ⟨s * p.x, s * p.y, s * p.z⟩ = locate g0 g1 g2 m0 m1 m2 p := by
  unfold locate
  simp only
  rw [inBounds_scale s hs g0 g0' p.x m0 h0, inBounds_scale s hs g1 g1' p.y m1 h1, inBounds_scale s hs g2 g2' p.z m2 h2,
    findIdx_scale s hs g0 g0' p.x m0 (fun j hj => h0 j (by omega)) m0 (le_refl _),
    findIdx_scale s hs g1 g1' p.y m1 (fun j hj => h1 j (by omega)) m1 (le_refl _),
    findIdx_scale s hs g2 g2' p.z m2 (fun j hj => h2 j (by omega)) m2 (le_refl _),
    frac_scale s hs g0 g0' p.x m0 _ (findIdx_le _ _ _) h0, frac_scale s hs g1 g1' p.y m1 _ (findIdx_le _ _ _) h1,
    frac_scale s hs g2 g2' p.z m2 _ (findIdx_le _ _ _) h2]

theorem locOf_aff (hs : 0 < s) (t : Rat) (f : Fld) (h : Is3d f.mesh.region) (p : V3) :
    locOf (affFld s d t f) ⟨s * p.x, s * p.y, s * p.z⟩ = locOf f p := by
  unfold locOf
  exact locate_scale s hs _ _ _ _ _ _ _ _ _ (fun j hj => gridNode_aff s d f.mesh h 0 (by decide) j hj)
    (fun j hj => gridNode_aff s d f.mesh h 1 (by decide) j hj) (fun j hj => gridNode_aff s d f.mesh h 2 (by decide) j hj) p

theorem affMesh_ndim (m : Mesh) : (affMesh s d m).ndim = m.ndim := affReg_ndim s d m.region

theorem centre_aff (nm : Mesh) (h : Is3d nm.region) (idx : List Nat) (a : Nat) (ha : a < 3) :
    ((affMesh s d nm).centre idx).getD a 0 = s * (nm.centre idx).getD a 0 + d a := by
  have hnd : nm.ndim = 3 := h.1
  rw [C01.centre_getD _ a idx (by rw [affMesh_ndim, hnd]; exact ha), C01.centre_getD nm a idx (hnd ▸ ha)]
  unfold centreAx
  rw [affMesh_cellAt s d nm h a ha]
  show (affReg s d nm.region).lo a + _ = _
  rw [affReg_lo s d _ h.1 a ha]; ring

theorem backPos_aff (t : Rat) (f : Fld) (h : Is3d f.mesh.region) (R : M3) (nm : Mesh) (hn : Is3d nm.region) (idx : List Nat) :
    backPos (affFld s d t f) R (affMesh s d nm) idx
      = ⟨s * (backPos f R nm idx).x, s * (backPos f R nm idx).y, s * (backPos f R nm idx).z⟩ := by
  unfold backPos centreV V3.ofFn V3.ofList V3.sub
  simp only
  show R.tr.apply ⟨_ - centreAt (affMesh s d f.mesh) 0, _ - centreAt (affMesh s d f.mesh) 1, _ - centreAt (affMesh s d f.mesh) 2⟩ = _
  rw [centre_aff s d nm hn idx 0 (by decide), centre_aff s d nm hn idx 1 (by decide), centre_aff s d nm hn idx 2 (by decide),
    affMesh_centreAt s d _ h 0 (by decide), affMesh_centreAt s d _ h 1 (by decide), affMesh_centreAt s d _ h 2 (by decide)]
  simp only [M3.apply, V3.dot, V3.mk.injEq]
  refine ⟨?_, ?_, ?_⟩ <;> ring

theorem padded_aff (t : Rat) (f : Fld) (R : M3) (ord : List Nat) (c i j k : Nat) :
    padded (affFld s d t f) R ord c i j k = t * padded f R ord c i j k := by
  unfold padded
  exact rotVal_smul t f.nvdim R ord _ c

theorem interpAt_smul (t : Rat) (V : Nat → Nat → Nat → Rat) (l : Option Loc) :
    interpAt (fun i j k => t * V i j k) l = t * interpAt V l := by
  have h := interpAt_linear t 0 V V l
  simp only [zero_mul, add_zero] at h
  exact h

theorem valuesAt_aff (hs : 0 < s) (t : Rat) (f : Fld) (h : Is3d f.mesh.region) (R : M3) (ord : List Nat) (p : V3) :
    valuesAt (affFld s d t f) R ord ⟨s * p.x, s * p.y, s * p.z⟩ = (valuesAt f R ord p).map (t * ·) := by
  unfold valuesAt
  rw [locOf_aff s d hs t f h p]
  show tab f.nvdim _ = _
  unfold tab
  rw [List.map_map]
  apply List.map_congr_left
  intro c _
  simp only [Function.comp]
  rw [← interpAt_smul]
  congr 1
  funext i j k
  exact padded_aff s d t f R ord c i j k

theorem rotated_aff (hs : 0 < s) (t : Rat) (f : Fld) (h : Is3d f.mesh.region) (R : M3) (ord : List Nat) (nm : Mesh)
    (hn : Is3d nm.region) :
    rotated (affFld s d t f) R ord (affMesh s d nm) = affFld s d t (rotated f R ord nm) := by
  have key : ∀ idx, resampleAt (affFld s d t f) R ord (affMesh s d nm) idx = (resampleAt f R ord nm idx).map (t * ·) := by
    intro idx
    unfold resampleAt
    rw [backPos_aff s d t f h R nm hn idx]
    exact valuesAt_aff s d hs t f h R ord _
  unfold rotated affFld
  simp only [NDA.map]
  congr 1
  show NDA.mk nm.n _ = NDA.mk nm.n _
  congr 1
  funext idx
  exact key idx

theorem ordFor_aff (t : Rat) (f : Fld) : ordFor (affFld s d t f) = ordFor f := rfl

theorem boxRegion_is3d (f : Fld) (R : M3) : Is3d (boxRegion f R) := by
  unfold Is3d boxRegion; simp

/-- **homogeneity of `rotate`**: changing the unit of length (`s > 0`), the origin (`d`) and the
unit of the value (`t`) of the input changes the output in the same way — whatever the matrix,
whatever `n`, refusals included -/
theorem rotateOnce_aff (hs : 0 < s) (t : Rat) (f : Fld) (h : Is3d f.mesh.region) (R : M3) (n? : Option (List Nat)) :
    rotateOnce (affFld s d t f) R n? = (rotateOnce f R n?).map (affFld s d t) := by
  unfold rotateOnce
  rw [newRegion_aff s d hs t f h R, ordFor_aff]
  by_cases hc : BoxOk f R
  · rw [newRegion_ok_of _ _ hc]
    simp only [Except.map]
    rw [autoN_aff s d hs t f h R _ (boxRegion_is3d f R), mkN_aff]
    cases hmk : Mesh.mkN? (boxRegion f R) (n?.getD (autoN f R (boxRegion f R))) with
    | error e => rfl
    | ok nm =>
      simp only [Except.map]
      cases ho : ordFor f with
      | error e => rfl
      | ok ord =>
        simp only
        have hn : Is3d nm.region := by
          rw [((mkN_iff _ _ nm).mp hmk).2.2]; exact boxRegion_is3d f R
        rw [rotated_aff s d hs t f h R ord nm hn]
  · rw [newRegion_err_of _ _ hc]
    rfl

/-- the rotator of the same field in other units -/
def affRot (t : Rat) (st : Rotator) : Rotator := ⟨affFld s d t st.orig, st.rot, affFld s d t st.cur⟩

theorem init_aff (t : Rat) (f : Fld) : init? (affFld s d t f) = (init? f).map (affRot s d t) := by
  have hiff : InitOk (affFld s d t f) ↔ InitOk f := by
    unfold InitOk
    rw [show (affFld s d t f).mesh.region.ndim = f.mesh.region.ndim from affReg_ndim s d f.mesh.region]
    exact Iff.rfl
  by_cases h : InitOk f
  · rw [init_accepts f h, init_accepts _ (hiff.mpr h)]; rfl
  · rw [init_refuses f h, init_refuses _ (fun h' => h (hiff.mp h'))]; rfl

theorem step_aff (hs : 0 < s) (t : Rat) (st : Rotator) (h : Is3d st.orig.mesh.region) (op : Op) :
    step (affRot s d t st) op = (affRot s d t (step st op).1, (step st op).2) := by
  cases op with
  | rotate Q n? =>
    simp only [step]
    show (match rotateOnce (affFld s d t st.orig) (Q.mul st.rot) n? with
      | .ok g => _
      | .error e => _) = _
    rw [rotateOnce_aff s d hs t st.orig h]
    cases rotateOnce st.orig (Q.mul st.rot) n? with
    | ok g => rfl
    | error e => rfl
  | clear => rfl
  | unknown => rfl

theorem run_aff (hs : 0 < s) (t : Rat) (st : Rotator) (h : Is3d st.orig.mesh.region) (ops : List Op) :
    run (affRot s d t st) ops = affRot s d t (run st ops) := by
  induction ops generalizing st with
  | nil => rfl
  | cons op ops ih =>
    simp only [run]
    rw [step_aff s d hs t st h op]
    exact ih _ (by rw [step_orig]; exact h)

end DFV.C18
