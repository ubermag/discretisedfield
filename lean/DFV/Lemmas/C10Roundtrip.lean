import DFV.Lemmas.C10Ctor
/-! C10: the writer followed by the reader, piece by piece: region (`regionLoad_regionSave`), corner table (defines `plainOf`;
`subsLoad_subsSave`), mesh (`meshLoad_meshSave_eq`, for every well-formed state), field (`fieldLoad_fieldSave_eq`), file
(`h5Load_versioned_eq_ok`, `h5Load_h5Save_eq`, `read_back_iff`).  A field that was read is a fixed point of the round trip
(`reread_idem`, `reread_inv`, `h5Load_h5Save_reread`); `reread_eq_self_iff` says when the result is the field written. -/
namespace DFV.C10
open DFV

/-! ## the region -/

theorem regionLoad_regionSave (r : TReg) (h : r.Inv) : regionLoad (regionSave r) = .ok r := by
  obtain ⟨h0, hl, hk, hd, hu, hdup, hlt⟩ := (TReg.inv_iff r).mp h
  exact TReg.initKw_eq_ok.mpr ⟨hlt, init_ordered r.pmin r.pmax (some r.dims) (some r.units) r.dims r.units r.tol h0 hl hk
    (T.dimsOk_some _ _ hd hdup) (T.unitsOk_some _ _ hu) hlt⟩

/-! ## the corner table -/

theorem tableKind_eq_int (m : TMesh) :
    tableKind m = .int ↔ m.region.pmin.kind = .int ∧ ∀ p ∈ m.subs, p.2.pmin.kind = .int ∧ p.2.pmax.kind = .int := by
  simp only [tableKind, joinAll_eq_int, List.forall_mem_cons, List.mem_append, List.mem_map, or_imp, forall_and,
    forall_exists_index, and_imp, forall_apply_eq_imp_iff₂]

/-- the dtype `k` holds both corner arrays of `s`: casting them to `k` changes no number (`castCorners_vals`) -/
abbrev NK.Holds (k : NK) (s : TReg) : Prop := k = .float ∨ (s.pmin.kind = .int ∧ s.pmax.kind = .int)

/-- membership in the `result_type` list: the table's dtype holds every corner array -/
theorem tableKind_lossless (m : TMesh) (p : String × TReg) (hp : p ∈ m.subs) : (tableKind m).Holds p.2 := by
  cases h : tableKind m with
  | int => exact Or.inr (((tableKind_eq_int m).mp h).2 p hp)
  | float => exact Or.inl rfl

theorem subsSave_eq_none (m : TMesh) : subsSave m = none ↔ m.subs = [] := by
  unfold subsSave
  cases m.subs with
  | nil => exact iff_of_true rfl rfl
  | cons a t => exact iff_of_false (by rw [if_pos (List.length_pos_iff.mpr (List.cons_ne_nil a t))]; exact fun h => (by cases h)) (List.cons_ne_nil _ _)

theorem subsSave_eq_some (m : TMesh) (s : H5Subs) : subsSave m = some s ↔
    m.subs ≠ [] ∧ s = { names := m.subs.map (fun p => p.1), kind := tableKind m,
                        rows := m.subs.map (fun p => subRow (tableKind m) p.2) } := by
  unfold subsSave
  by_cases h : m.subs = []
  · simp only [h, List.length_nil, Nat.lt_irrefl, if_false, reduceCtorEq, ne_eq, not_true_eq_false, false_and]
  · simp only [List.length_pos_iff.mpr h, if_true, Option.some.injEq, ne_eq, h, not_false_eq_true, true_and, eq_comm]

theorem subRow_length (k : NK) (s : TReg) : (subRow k s).length = s.pmin.length + s.pmax.length := by
  rw [subRow, NumArr.cast_length, NumArr.append_length]

/-- the region the reader builds from one row of the table -/
def plainOf (k : NK) (ndim : Nat) (s : TReg) : TReg :=
  { pmin := s.pmin.cast k, pmax := s.pmax.cast k, dims := Region.defaultDims ndim,
    units := List.replicate ndim "m", tol := TReg.defaultTol }

theorem castCorners_vals (k : NK) (s : TReg) (hloss : k.Holds s) :
    (s.pmin.cast k).vals = s.pmin.vals ∧ (s.pmax.cast k).vals = s.pmax.vals :=
  ⟨NumArr.cast_vals k _ (hloss.imp_right And.left), NumArr.cast_vals k _ (hloss.imp_right And.right)⟩

theorem castCorners_toRegion (k : NK) (s : TReg)
    (hloss : k.Holds s) : (s.castCorners k).toRegion = s.toRegion := by
  obtain ⟨hv1, hv2⟩ := castCorners_vals k s hloss
  simp only [TReg.castCorners, TReg.toRegion, hv1, hv2]

/-- `Region.__init__` on the corners of a stored subregion, cast to a dtype that holds them -/
theorem init_cast (k : NK) (r s : TReg) (dims units : Option (List String)) (d u : List String) (tol : Num)
    (h0 : 0 < r.ndim) (hs : subInvWB r s = true) (hloss : k.Holds s)
    (hD : Region.dimsOk r.ndim dims = .ok d) (hU : Region.unitsOk r.ndim units = .ok u) :
    TReg.init (s.pmin.cast k) (s.pmax.cast k) dims units tol
      = .ok { pmin := s.pmin.cast k, pmax := s.pmax.cast k, dims := d, units := u, tol := tol } := by
  obtain ⟨hl1, hl2, _, _, _, _, hlt⟩ := (subInvW_iff r s).mp hs
  obtain ⟨hv1, hv2⟩ := castCorners_vals k s hloss
  have e1 : (s.pmin.cast k).length = r.ndim := (NumArr.cast_length _ _).trans hl1
  exact init_ordered _ _ dims units d u tol (e1 ▸ h0) ((NumArr.cast_length _ _).trans (hl2.trans e1.symm))
    ((NumArr.cast_kind _ _).trans (NumArr.cast_kind _ _).symm) (e1 ▸ hD) (e1 ▸ hU) (by rw [e1, hv1, hv2]; exact hlt)

/-- the reader on one row the writer stored: the subregion's corners in the table's dtype, plain names, units, tolerance -/
theorem rowRegion_subRow (k : NK) (r : TReg) (nm : String) (s : TReg) (h0 : 0 < r.ndim) (hs : subInvWB r s = true)
    (hloss : k.Holds s) :
    rowRegion r.ndim (nm, subRow k s) = .ok (nm, plainOf k r.ndim s) := by
  obtain ⟨hl1, _, hk, _⟩ := (subInvW_iff r s).mp hs
  unfold rowRegion subRow
  simp only [← hl1, NumArr.take_cast_append k _ _ hk, NumArr.drop_cast_append k _ _ hk]
  rw [hl1, init_cast k r s none none _ _ _ h0 hs hloss rfl rfl]
  rfl

/-- … on the whole corner table: names in order, one plain region per row -/
theorem subsLoad_subsSave (m : TMesh) (hm : m.InvW) :
    subsLoad m.region.ndim (subsSave m)
      = .ok (m.subs.map fun p => (p.1, plainOf (tableKind m) m.region.ndim p.2)) := by
  obtain ⟨hr, _, _, _, _, hnd, hsub⟩ := (TMesh.invW_iff m).mp hm
  by_cases hs : m.subs = []
  · rw [(subsSave_eq_none m).mpr hs, hs]
    rfl
  · rw [(subsSave_eq_some m _).mpr ⟨hs, rfl⟩]
    simp only [subsLoad, List.zip_map']
    rw [mapE_map, mapE_ok_of _ (fun (p : String × TReg) => (p.1, plainOf (tableKind m) m.region.ndim p.2))]
    · rw [bind_ok, dictOf_nodup]
      rw [List.map_map]
      exact hnd
    · exact fun p hp => rowRegion_subRow _ _ _ _ ((TReg.inv_iff _).mp hr).1 (hsub p hp) (tableKind_lossless m p hp)

/-! ## the mesh -/

/-- the copy of the re-read corner pair the setter builds, tests and stores: the subregion itself,
corners in the table's dtype -/
theorem init_plainOf (k : NK) (r s : TReg) (hr : r.Inv) (hs : subInvWB r s = true)
    (hloss : k.Holds s) :
    TReg.init (plainOf k r.ndim s).pmin (plainOf k r.ndim s).pmax (some r.dims) (some r.units) r.tol = .ok (s.castCorners k) := by
  obtain ⟨h0, _, _, hd, hu, hdup, _⟩ := (TReg.inv_iff r).mp hr
  obtain ⟨_, _, _, hsd, hsu, hst, _⟩ := (subInvW_iff r s).mp hs
  rw [plainOf, init_cast k r s _ _ _ _ _ h0 hs hloss (T.dimsOk_some _ _ hd hdup) (T.unitsOk_some _ _ hu),
    TReg.castCorners, hsd, hsu, hst]

/-- the setter's test of the re-read corner pair of a stored subregion is the three tests on the
subregion as it is stored -/
theorem candOk_plainOf (k : NK) (r s : TReg) (hr : r.Inv) (n : List Nat) (hs : subInvWB r s = true)
    (hloss : k.Holds s) :
    candOk r n (plainOf k r.ndim s) = subAccept r.toRegion n s.toRegion := by
  have hnd : (plainOf k r.ndim s).ndim = r.ndim := (NumArr.cast_length _ _).trans ((subInvW_iff r s).mp hs).1
  rw [candOk_of_init r n _ _ hnd (init_plainOf k r s hr hs hloss), castCorners_toRegion k s hloss]

/-- **the reader on the writer's mesh group, for every well-formed state**: it accepts iff every
stored subregion passes the setter's three tests (with the mesh's tolerance: the reader's setter
re-stamps the re-read corner pair), and then returns the mesh with the subregion corners in the
table's dtype -/
theorem meshLoad_meshSave_eq (m : TMesh) (hm : m.InvW) :
    meshLoad (meshSave m) = if m.rereadableB = true then .ok m.loaded else .error .value := by
  obtain ⟨hr, hn, hpos, hbcl, hbc, _, hsub⟩ := (TMesh.invW_iff m).mp hm
  have hcand : ∀ p ∈ m.subs, candOk m.region m.n (plainOf (tableKind m) m.region.ndim p.2)
      = subAccept m.region.toRegion m.n p.2.toRegion :=
    fun p hp => candOk_plainOf _ _ _ hr m.n (hsub p hp) (tableKind_lossless m p hp)
  unfold meshLoad meshSave
  simp only [regionLoad_regionSave m.region hr, bind_ok, subsLoad_subsSave m hm]
  unfold TMesh.init
  have h2 : (m.n.map fun (k : Nat) => (k : Int)).any (fun k => decide (k ≤ 0)) = false := by
    rw [List.any_eq_false]
    intro k hk
    obtain ⟨j, hj, rfl⟩ := List.mem_map.mp hk
    exact fun h => absurd (of_decide_eq_true h) (Int.not_le.mpr (Int.natCast_pos.mpr (hpos j hj)))
  -- the guards of `Mesh.__init__` in order: one count per axis, counts positive, boundary condition (lower-cased) legal
  rw [if_neg (by rw [List.length_map, hn]; exact fun h => h rfl), h2, if_neg Bool.false_ne_true, hbcl, hbc,
    if_neg (by decide), map_toNat_natCast, setSubs]
  have hall : (m.subs.map fun p => (p.1, plainOf (tableKind m) m.region.ndim p.2)).all (fun p => candOk m.region m.n p.2)
      = m.rereadableB := by
    rw [TMesh.rereadableB, List.all_map, Bool.eq_iff_iff, List.all_eq_true, List.all_eq_true]
    exact forall₂_congr fun p hp => by rw [Function.comp_apply, hcand p hp]
  rw [hall]
  by_cases hrr : m.rereadableB = true
  · rw [if_pos hrr, hrr, if_neg (by decide), mapE_map,
      mapE_ok_of _ (fun (p : String × TReg) => (p.1, p.2.castCorners (tableKind m))) m.subs
        fun p hp => by rw [rebuildSub, init_plainOf _ _ _ hr (hsub p hp) (tableKind_lossless m p hp)]; rfl]
    rfl
  · rw [if_neg hrr, Bool.not_eq_true _ |>.mp hrr]
    rfl

/-! ## the field -/

/-- **the reader on the writer's group `field`, for every well-formed state**: it accepts iff the mesh group is accepted
(`meshLoad_meshSave_eq`), and then returns `reread f` -/
theorem fieldLoad_fieldSave_eq (f : TFld) (hf : f.InvW) :
    fieldLoad (fieldSave f) = if f.mesh.rereadableB = true then .ok (reread f) else .error .value := by
  obtain ⟨hm, hnv, hds, hdl, hvs, _, hvd⟩ := (TFld.invW_iff f).mp hf
  have hwf : f.data.wf := DArr.wf_of_shape hds hdl
  unfold fieldLoad fieldLoadAt fieldSave
  simp only [meshLoad_meshSave_eq f.mesh hm]
  split
  · simp only [bind_ok, decVdims_encVdims, readLoc]
    -- the array has the field's shape already: the two `_as_array` passes only convert integers
    refine (TFld.init_eq_ok hwf).mpr ⟨by omega, hds ▸ arrAccept_shaped _ _, f.valid, _, asValid_shaped f.valid f.mesh.n hvs,
      vdimsSet_of_ok f.nvdim f.vdims hvd, ?_⟩
    rw [show arrConv f.data f.mesh.loaded.n (f.nvdim : Int).toNat = { f.data with buf := f.data.buf.upcast } from
      (arrConv_shaped f.data f.mesh.n f.nvdim hds hwf).trans (by rw [← hds])]
    rfl
  · rfl

theorem fieldLoad_fieldSave_gen (f : TFld) (hf : f.Inv) : fieldLoad (fieldSave f) = .ok (reread f) := by
  obtain ⟨hw, hrr⟩ := (TFld.inv_iff_weak f).mp hf
  rw [fieldLoad_fieldSave_eq f hw, if_pos hrr]

theorem rereadVdims_eq_iff (f : TFld) : rereadVdims f = f.vdims ↔ (f.vdims = none → f.nvdim = 1) := by
  unfold rereadVdims
  cases f.vdims with
  | none => simp only [recodeVdims, Fld.defaultVdims_eq_none_iff, forall_const]
  | some l => exact iff_of_true rfl fun h => (by cases h)

/-- the reader's result is the property's `loaded f` unless the unit is the string `"None"` or
labels are absent on more than one component -/
theorem reread_eq_loaded (f : TFld) (hu : f.unit ≠ some "None") (hv : f.vdims = none → f.nvdim = 1) :
    reread f = loaded f := by
  unfold reread
  rw [(rereadVdims_eq_iff f).mpr hv, (decUnit_encUnit f.unit).mpr hu]
  rfl

theorem reread_vdims (f : TFld) (hv : f.vdims = none → f.nvdim = 1) : (reread f).vdims = f.vdims :=
  (rereadVdims_eq_iff f).mpr hv

theorem fieldLoad_fieldSave (f : TFld) (hf : f.Inv) (hu : f.unit ≠ some "None") (hv : f.vdims = none → f.nvdim = 1) :
    fieldLoad (fieldSave f) = .ok (loaded f) := by
  rw [fieldLoad_fieldSave_gen f hf, reread_eq_loaded f hu hv]

/-! ## the file -/

/-- `Field._from_hdf5` on a file with a version attribute: the two string tests, then the group `field` -/
theorem h5Load_versioned_eq_ok {v t : String} {fld : H5Field} {g : TFld} :
    h5Load (.versioned v t fld) = .ok g ↔ t = "discretisedfield.Field" ∧ v = "0.1" ∧ fieldLoad fld = .ok g := by
  simp only [h5Load, guard_ok_iff, not_not]

/-- the writer's own `type` and version pass the two tests (by rewriting: left to `rfl`, the kernel decides the two
string comparisons character by character, at every use) -/
theorem h5Load_field (fld : H5Field) : h5Load (.versioned "0.1" "discretisedfield.Field" fld) = fieldLoad fld := by
  simp only [h5Load, ne_eq, not_true_eq_false, if_false]

/-- **the reader on the writer's file, for every well-formed state**: the general form of the round-trip theorems and of
`h5_reread_accepts_iff` -/
theorem h5Load_h5Save_eq (f : TFld) (hf : f.InvW) :
    h5Load (h5Save f) = if f.mesh.rereadableB = true then .ok (reread f) else .error .value :=
  (h5Load_field _).trans (fieldLoad_fieldSave_eq f hf)

theorem h5Load_h5Save_gen (f : TFld) (hf : f.Inv) : h5Load (h5Save f) = .ok (reread f) :=
  (h5Load_field _).trans (fieldLoad_fieldSave_gen f hf)

/-- the general form of the theorems `(∃ g, h5Load (h5Save f) = .ok g ∧ …) ↔ …` about one item of the field read back -/
theorem read_back_iff (f : TFld) (hf : f.Inv) (P : TFld → Prop) :
    (∃ g, h5Load (h5Save f) = .ok g ∧ P g) ↔ P (reread f) := by
  rw [h5Load_h5Save_gen f hf]
  exact ⟨fun ⟨_, e, h⟩ => by cases e; exact h, fun h => ⟨_, rfl, h⟩⟩

/-! ## a field that was read is a fixed point of the round trip -/

theorem tableKind_loaded (m : TMesh) : tableKind m.loaded = tableKind m := by
  apply NK.eq_of_int_iff
  rw [tableKind_eq_int, tableKind_eq_int]
  refine and_congr_right fun hr => ?_
  simp only [TMesh.loaded, List.forall_mem_map, TReg.castCorners, NumArr.cast_kind, and_self]
  constructor
  · intro h p hp
    exact ((tableKind_eq_int m).mp (h p hp)).2 p hp
  · intro h p hp
    exact (tableKind_eq_int m).mpr ⟨hr, h⟩

/-- reading changes no number, name, unit or tolerance of a subregion -/
theorem loaded_subs_items (m : TMesh) :
    m.loaded.subs.map (fun p => (p.1, p.2.pmin.vals, p.2.pmax.vals, p.2.dims, p.2.units, p.2.tol))
      = m.subs.map (fun p => (p.1, p.2.pmin.vals, p.2.pmax.vals, p.2.dims, p.2.units, p.2.tol)) := by
  unfold TMesh.loaded
  rw [List.map_map]
  refine List.map_congr_left fun p hp => ?_
  obtain ⟨h1, h2⟩ := castCorners_vals _ p.2 (tableKind_lossless m p hp)
  simp only [Function.comp, TReg.castCorners, h1, h2]

theorem castCorners_idem (k : NK) (s : TReg) : (s.castCorners k).castCorners k = s.castCorners k := by
  simp only [TReg.castCorners]
  rw [(NumArr.cast_eq_self_iff k _).mpr (NumArr.cast_kind k _), (NumArr.cast_eq_self_iff k _).mpr (NumArr.cast_kind k _)]

theorem mesh_loaded_idem (m : TMesh) : m.loaded.loaded = m.loaded := by
  have hk := tableKind_loaded m
  unfold TMesh.loaded at hk ⊢
  simp only [hk, List.map_map]
  congr 1
  apply List.map_congr_left
  intro p _
  simp [Function.comp, castCorners_idem]

/-- the unit has been through `str(unit)` / `"None"` once: a second pass changes nothing -/
theorem decUnit_encUnit_idem (u : Option String) : decUnit (encUnit (decUnit (encUnit u))) = decUnit (encUnit u) := by
  by_cases h : u = some "None"
  · subst h; decide
  · rw [(decUnit_encUnit u).mpr h, (decUnit_encUnit u).mpr h]

theorem recodeVdims_idem (k : Nat) (v : Option (List String)) : recodeVdims k (recodeVdims k v) = recodeVdims k v := by
  cases v with
  | some l => rfl
  | none =>
    show recodeVdims k (Fld.defaultVdims k) = Fld.defaultVdims k
    cases h : Fld.defaultVdims k with
    | none => exact h
    | some l => rfl

theorem reread_idem (f : TFld) : reread (reread f) = reread f := by
  obtain ⟨mesh, nvdim, data, valid, vdims, vmap, unit⟩ := f
  simp only [reread, rereadVdims, loaded, mesh_loaded_idem, DBuf.upcast_idem, decUnit_encUnit_idem, recodeVdims_idem]
  -- `mesh.loaded.region` is `mesh.region`
  rfl

theorem subInvB_castCorners (r : TReg) (n : List Nat) (s : TReg) (k : NK)
    (hloss : k.Holds s) (h : subInvB r n s = true) :
    subInvB r n (s.castCorners k) = true := by
  obtain ⟨hw, hacc⟩ := (subInv_iff_weak r n s).mp h
  obtain ⟨hl1, hl2, _, hd, hu, ht, hlt⟩ := (subInvW_iff r s).mp hw
  obtain ⟨hv1, hv2⟩ := castCorners_vals k s hloss
  refine (subInv_iff_weak _ _ _).mpr ⟨(subInvW_iff _ _).mpr ⟨(NumArr.cast_length _ _).trans hl1, (NumArr.cast_length _ _).trans hl2,
    (NumArr.cast_kind _ _).trans (NumArr.cast_kind _ _).symm, hd, hu, ht, fun a ha => ?_⟩, ?_⟩
  · rw [show (s.castCorners k).pmin.vals = s.pmin.vals from hv1, show (s.castCorners k).pmax.vals = s.pmax.vals from hv2]
    exact hlt a ha
  · rw [castCorners_toRegion k s hloss]
    exact hacc

theorem mesh_loaded_inv (m : TMesh) (hm : m.Inv) : m.loaded.Inv := by
  obtain ⟨_, _, _, _, _, hnd, hsub⟩ := (TMesh.inv_iff m).mp hm
  refine hm.with_subs _ (by rw [List.map_map]; exact hnd) fun q hq => ?_
  obtain ⟨p, hp, rfl⟩ := List.mem_map.mp hq
  exact subInvB_castCorners _ _ _ _ (tableKind_lossless m p hp) (hsub p hp)

/-- `Inv` survives what reading changes: the corner dtypes of the subregions, integer data converted, and any labels that
are `VdimsOk`; mapping and unit are free -/
theorem TFld.Inv.loaded {f : TFld} (hf : f.Inv) (vd : Option (List String)) (hvd : VdimsOk f.nvdim vd)
    (vm : List (String × String)) (u : Option String) :
    ({ f with mesh := f.mesh.loaded, data := { f.data with buf := f.data.buf.upcast }, vdims := vd, vmap := vm, unit := u } : TFld).Inv := by
  obtain ⟨hm, hnv, hds, hdl, hvs, hvl, _⟩ := (TFld.inv_iff f).mp hf
  exact (TFld.inv_iff _).mpr ⟨mesh_loaded_inv f.mesh hm, hnv, hds, (DBuf.upcast_length _).trans hdl, hvs, hvl, hvd⟩

theorem reread_inv (f : TFld) (hf : f.Inv) : (reread f).Inv := by
  obtain ⟨_, hnv, _, _, _, _, hvd⟩ := (TFld.inv_iff f).mp hf
  refine hf.loaded _ ?_ _ _
  show VdimsOk f.nvdim (recodeVdims f.nvdim f.vdims)
  cases hv : f.vdims with
  | none => exact vdimsOk_defaultVdims _ hnv
  | some l => rw [hv] at hvd; exact hvd

/-- **the second generation is exact, for every field the constructors return**: what was read from a file, written
again and read back, is exactly the same state (the general form of `h5_roundtrip_fixed_point`, which assumes unit and
labels that survive the first generation) -/
theorem h5Load_h5Save_reread (f : TFld) (hf : f.Inv) : h5Load (h5Save (reread f)) = .ok (reread f) := by
  rw [h5Load_h5Save_gen _ (reread_inv f hf), reread_idem]

/-! ## when the field read back is the field written -/

theorem castCorners_eq_self_iff (k : NK) (s : TReg) : s.castCorners k = s ↔ s.pmin.kind = k ∧ s.pmax.kind = k := by
  constructor
  · intro h
    exact ⟨(NumArr.cast_eq_self_iff _ _).mp (congrArg TReg.pmin h), (NumArr.cast_eq_self_iff _ _).mp (congrArg TReg.pmax h)⟩
  · rintro ⟨h1, h2⟩
    rw [TReg.castCorners, (NumArr.cast_eq_self_iff _ _).mpr h1, (NumArr.cast_eq_self_iff _ _).mpr h2]

theorem mesh_loaded_eq_self_iff (m : TMesh) :
    m.loaded = m ↔ ∀ p ∈ m.subs, p.2.pmin.kind = tableKind m ∧ p.2.pmax.kind = tableKind m := by
  have : m.loaded = m ↔ (m.subs.map fun p => (p.1, p.2.castCorners (tableKind m))) = m.subs :=
    ⟨congrArg TMesh.subs, fun h => by rw [TMesh.loaded, h]⟩
  rw [this, map_eq_self_iff]
  refine forall₂_congr fun p _ => ?_
  rw [← castCorners_eq_self_iff]
  exact ⟨congrArg Prod.snd, fun h => by rw [h]⟩

theorem loaded_eq_self (f : TFld)
    (hsub : ∀ p ∈ f.mesh.subs, p.2.pmin.kind = tableKind f.mesh ∧ p.2.pmax.kind = tableKind f.mesh)
    (hdata : f.data.buf.kind ≠ .int)
    (hmap : f.vmap = defaultVmap f.nvdim f.mesh.region.dims f.vdims) : loaded f = f := by
  have h1 := (mesh_loaded_eq_self_iff f.mesh).mpr hsub
  unfold loaded
  rw [h1, DBuf.upcast_of_not_int _ hdata, ← hmap]

/-- **the reader's result is the field written iff** the unit is not the string `"None"`, labels
are present or the field has one component, every subregion corner array has the dtype of the
corner table, the data are not integers, and the component-to-axis mapping is the default one -/
theorem reread_eq_self_iff (f : TFld) : reread f = f ↔
    f.unit ≠ some "None" ∧ (f.vdims = none → f.nvdim = 1) ∧
    (∀ p ∈ f.mesh.subs, p.2.pmin.kind = tableKind f.mesh ∧ p.2.pmax.kind = tableKind f.mesh) ∧
    f.data.buf.kind ≠ .int ∧ f.vmap = defaultVmap f.nvdim f.mesh.region.dims f.vdims := by
  constructor
  · intro h
    have hu : decUnit (encUnit f.unit) = f.unit := congrArg TFld.unit h
    have hvd : rereadVdims f = f.vdims := congrArg TFld.vdims h
    have hvm : defaultVmap f.nvdim f.mesh.region.dims (rereadVdims f) = f.vmap := congrArg TFld.vmap h
    have hm : f.mesh.loaded = f.mesh := congrArg TFld.mesh h
    have hd : ({ f.data with buf := f.data.buf.upcast } : DArr) = f.data := congrArg TFld.data h
    exact ⟨(decUnit_encUnit _).mp hu, (rereadVdims_eq_iff f).mp hvd, (mesh_loaded_eq_self_iff _).mp hm,
      (DBuf.upcast_eq_self_iff _).mp (congrArg DArr.buf hd), by rw [← hvm, hvd]⟩
  · rintro ⟨hu, hv, hsub, hdata, hmap⟩
    rw [reread_eq_loaded f hu hv, loaded_eq_self f hsub hdata hmap]


end DFV.C10
