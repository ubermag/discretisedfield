import DFV.Lemmas.C05Iter
/-! `Field.rotate90(ax1, ax2, k)` with any integer `k` (C05, code-shaped model `rot90FldK`; the geometry of the
turned mesh is in `Lemmas/C05Rot.lean`): by residue of `k` modulo 4, `np.rot90(A, k)` and the matrix of `cos/sin(k·π/2)` at
multi-indices of the right length; `rot90FldK` in one equation for scalars and vectors (`rot90FldK_eq`), its comparison with 0, 1, 2
quarter turns or one in the plane named the other way round (`targetK`, `Kind.simK`), and `Commutes.all_k` -/
namespace DFV.C05
open DFV DFV.C04

theorem quarter_kinds (k : Int) :
    (k % 4 = 0 ∧ T.cosq k = 1 ∧ T.sinq k = 0 ∧ T.isOdd k = false) ∨
    (k % 4 = 1 ∧ T.cosq k = 0 ∧ T.sinq k = 1 ∧ T.isOdd k = true) ∨
    (k % 4 = 2 ∧ T.cosq k = -1 ∧ T.sinq k = 0 ∧ T.isOdd k = false) ∨
    (k % 4 = 3 ∧ T.cosq k = 0 ∧ T.sinq k = -1 ∧ T.isOdd k = true) := by
  rcases T.turn_cases k with ⟨h, ho, hc, hs⟩ | ⟨h, ho, hc, hs⟩ | ⟨h, ho, hc, hs⟩ | ⟨h, ho, hc, hs⟩
  · exact Or.inl ⟨h, hc, hs, ho⟩
  · exact Or.inr (Or.inl ⟨h, hc, hs, ho⟩)
  · exact Or.inr (Or.inr (Or.inl ⟨h, hc, hs, ho⟩))
  · exact Or.inr (Or.inr (Or.inr ⟨h, hc, hs, ho⟩))

theorem mesh_eta (m : Mesh) : ({ region := m.region, n := m.n, bc := m.bc, subs := m.subs } : Mesh) = m := rfl

theorem IsRot90.axis {f R : Fld} {a b : Nat} (hr : IsRot90 f R a b) (hab : a ≠ b) (e : Nat) (he : e < f.mesh.ndim) :
    R.mesh.nAt e = f.mesh.nAt (swp a b e) ∧ R.mesh.cellAt e = f.mesh.cellAt (swp a b e) ∧
      perM R.mesh e = perM f.mesh (swp a b e) := by
  by_cases ea : e = a
  · subst ea; rw [swp_left]; exact ⟨hr.n_a, hr.h_a, hr.per_a⟩
  · by_cases eb : e = b
    · subst eb; rw [swp_right]; exact ⟨hr.n_b, hr.h_b, hr.per_b⟩
    · rw [swp_other ea eb]; exact ⟨hr.n_e e ea eb, hr.h_e e ea eb, hr.per_e e he ea eb⟩

/-- what `k` quarter turns do to the components of one cell -/
def Kind.rotV : Kind → Int → List Rat → List Rat
  | .scal, _, v => v
  | .vec v1 v2 _, k, v => T.rotVec v v1 v2 k

/-- **`Field.rotate90(ax1, ax2, k)` in one equation**, for a scalar or a vector field, given the turned mesh: `np.rot90` of values
and validity, the components of every value turned; everything else is the operand's -/
theorem rot90FldK_eq {a b : Nat} {κ : Kind} (X : Fld) (k : Int) (mesh' : Mesh) (hd : DimsOk X) (hκ : κ.Is a b X)
    (ha : a < X.mesh.ndim) (hb : b < X.mesh.ndim)
    (hm : rotMeshK X.mesh (X.mesh.region.dims.getD a "") (X.mesh.region.dims.getD b "") k = .ok mesh') :
    rot90FldK X (X.mesh.region.dims.getD a "") (X.mesh.region.dims.getD b "") k
      = .ok { X with mesh := mesh', data := (T.rot90 X.data a b k).map (κ.rotV k), valid := T.rot90 X.valid a b k } := by
  unfold rot90FldK
  rw [hm]
  simp only []
  rw [hd.indexOf ha, hd.indexOf hb]
  simp only []
  cases κ with
  | scal => rw [if_neg (by rw [hκ.1]; omega)]; exact mkFld_self (a := a) (b := b) (κ := .scal) hκ _ _ _
  | vec v1 v2 vs =>
    rw [if_pos hκ.hn, hκ.h1, hκ.h2]
    exact mkFld_self (κ := .vec v1 v2 vs) hκ _ _ _

/-! ### `np.rot90(A, k)` at multi-indices of the right length, by residue of `k` -/

/-- where `np.rot90(·, k)` in the plane `(a, b)` takes the entry at `i` from -/
def idxK (f : Fld) (a b : Nat) (k : Int) (i : List Nat) : List Nat :=
  if k % 4 = 0 then i
  else if k % 4 = 1 then rotIdx f a b i
  else if k % 4 = 2 then setAt (setAt i a (f.mesh.nAt a - 1 - i.getD a 0)) b (f.mesh.nAt b - 1 - i.getD b 0)
  else rotIdx f b a i

theorem idxK_k0 (f : Fld) (a b : Nat) (k : Int) (i : List Nat) (h : k % 4 = 0) : idxK f a b k i = i := by
  unfold idxK; rw [if_pos h]

theorem idxK_k1 (f : Fld) (a b : Nat) (k : Int) (i : List Nat) (h : k % 4 = 1) : idxK f a b k i = rotIdx f a b i := by
  unfold idxK; rw [if_neg (by omega), if_pos h]

theorem idxK_k2 (f : Fld) (a b : Nat) (k : Int) (i : List Nat) (h : k % 4 = 2) :
    idxK f a b k i = setAt (setAt i a (f.mesh.nAt a - 1 - i.getD a 0)) b (f.mesh.nAt b - 1 - i.getD b 0) := by
  unfold idxK; rw [if_neg (by omega), if_neg (by omega), if_pos h]

theorem idxK_k3 (f : Fld) (a b : Nat) (k : Int) (i : List Nat) (h : k % 4 = 3) : idxK f a b k i = rotIdx f b a i := by
  unfold idxK; rw [if_neg (by omega), if_neg (by omega), if_neg (by omega)]

theorem srcIdx_eq_idxK (f : Fld) (a b : Nat) (k : Int) (i : List Nat) (hnl : f.mesh.n.length = f.mesh.ndim) (hab : a ≠ b)
    (hi : i.length = f.mesh.ndim) (hb : b < f.mesh.ndim) : T.srcIdx f.mesh.n a b k i = idxK f a b k i := by
  have hbi : b < i.length := by omega
  unfold T.srcIdx
  rcases T.turn_cases k with ⟨h, -⟩ | ⟨h, -⟩ | ⟨h, -⟩ | ⟨h, -⟩
  · rw [idxK_k0 _ _ _ _ _ h, if_pos h]
  · rw [idxK_k1 _ _ _ _ _ h, if_neg (by omega), if_neg (by omega), if_pos h, getD_swapAt_right i a b 0 hbi]
    unfold swapAt rotIdx
    rw [setAt_setAt_same]
    rfl
  · rw [idxK_k2 _ _ _ _ _ h, if_neg (by omega), if_pos h, getD_setAt_ne _ _ _ _ _ hab, setAt_comm _ b a _ _ (Ne.symm hab)]
    rfl
  · rw [idxK_k3 _ _ _ _ _ h, if_neg (by omega), if_neg (by omega), if_neg (by omega),
      getD_swapAt_right f.mesh.n a b 0 (by rw [hnl]; exact hb)]
    unfold swapAt rotIdx
    rw [getD_setAt_eq _ _ _ _ hbi, getD_setAt_ne _ _ _ _ _ hab, setAt_comm i b a _ _ (Ne.symm hab), setAt_setAt_same,
      setAt_comm _ a b _ _ hab]
    rfl

theorem rot90_get_idxK {α} (f : Fld) (A : NDA α) (a b : Nat) (k : Int) (i : List Nat) (hs : A.shape = f.mesh.n)
    (hnl : f.mesh.n.length = f.mesh.ndim) (hab : a ≠ b) (hi : i.length = f.mesh.ndim) (hb : b < f.mesh.ndim) :
    (T.rot90 A a b k).get i = A.get (idxK f a b k i) := by
  rw [T.rot90_get, hs, srcIdx_eq_idxK f a b k i hnl hab hi hb]

theorem rot90FldK_data {a b : Nat} {κ : Kind} (X : Fld) (k : Int) (wf : MeshWf X) (tw : TurnWf X a b) (hsub : X.mesh.subs = [])
    (hκ : κ.Is a b X) (ha : a < X.mesh.ndim) (hb : b < X.mesh.ndim) (hab : a ≠ b) :
    ∃ X', rot90FldK X (X.mesh.region.dims.getD a "") (X.mesh.region.dims.getD b "") k = .ok X' ∧
      X'.nvdim = X.nvdim ∧ X'.vdims = X.vdims ∧ X'.vmap = X.vmap ∧
      rotMeshK X.mesh (X.mesh.region.dims.getD a "") (X.mesh.region.dims.getD b "") k = .ok X'.mesh ∧
      (∀ i, i.length = X.mesh.ndim → X'.data.get i = κ.rotV k (X.data.get (idxK X a b k i))) ∧
      (X.valid.shape = X.mesh.n → ∀ i, i.length = X.mesh.ndim → X'.valid.get i = X.valid.get (idxK X a b k i)) := by
  obtain ⟨m', hm'⟩ := rotMeshK_succeeds X a b k wf tw hsub ha hb hab
  refine ⟨_, rot90FldK_eq X k m' wf.dims hκ ha hb hm', rfl, rfl, rfl, hm', fun i hi => ?_, fun hvs i hi => ?_⟩
  · exact congrArg (κ.rotV k) (rot90_get_idxK X X.data a b k i wf.data_shape wf.n_len hab hi hb)
  · exact rot90_get_idxK X X.valid a b k i hvs wf.n_len hab hi hb

/-- `T.rotVec_getD` also beyond the end of the list, where both sides are `0` -/
theorem rotVec_getD_any (v : List Rat) (v1 v2 : Nat) (k : Int) (c : Nat) (h1 : v1 < v.length) (h2 : v2 < v.length) :
    (T.rotVec v v1 v2 k).getD c 0
      = if c = v1 then T.cosq k * v.getD v1 0 - T.sinq k * v.getD v2 0
        else if c = v2 then T.sinq k * v.getD v1 0 + T.cosq k * v.getD v2 0 else v.getD c 0 := by
  by_cases hc : c < v.length
  · exact T.rotVec_getD v v1 v2 k c hc
  · rw [if_neg (by omega), if_neg (by omega), List.getD_eq_getElem?_getD, List.getD_eq_getElem?_getD,
      List.getElem?_eq_none (by rw [T.rotVec_length]; omega), List.getElem?_eq_none (by omega)]

/-- the components of a cell after `k` quarter turns, by residue, in the terms of one quarter turn (`Kind.sgn`, `Kind.src`): the matrix of `k`
quarter turns is the identity, one turn, two turns, one turn the other way round.  In each residue class the values of cos / sin, then the
three cases `c = v1`, `c = v2`, neither -/
theorem Kind.Is.rotV_getD {a b : Nat} {κ : Kind} {X : Fld} (hκ : κ.Is a b X) (j : List Nat) (k : Int) (c : Nat) :
    (k % 4 = 0 → (κ.rotV k (X.data.get j)).getD c 0 = (X.data.get j).getD c 0) ∧
    (k % 4 = 1 → (κ.rotV k (X.data.get j)).getD c 0 = κ.sgn c * (X.data.get j).getD (κ.src c) 0) ∧
    (k % 4 = 2 → (κ.rotV k (X.data.get j)).getD c 0
      = κ.sgn c * (κ.sgn (κ.src c) * (X.data.get j).getD (κ.src (κ.src c)) 0)) ∧
    (k % 4 = 3 → (κ.rotV k (X.data.get j)).getD c 0 = κ.swap.sgn c * (X.data.get j).getD (κ.swap.src c) 0) := by
  cases κ with
  | scal =>
    exact ⟨fun _ => rfl, fun _ => (one_mul _).symm, fun _ => by simp [Kind.rotV, Kind.sgn, Kind.src], fun _ => (one_mul _).symm⟩
  | vec v1 v2 vs =>
    have h1 : v1 < (X.data.get j).length := by rw [hκ.hraw]; exact hκ.hv1
    have h2 : v2 < (X.data.get j).length := by rw [hκ.hraw]; exact hκ.hv2
    have h12 : v1 ≠ v2 := hκ.h12
    have h21 := Ne.symm h12
    simp only [Kind.rotV, Kind.sgn, Kind.src, Kind.swap, swp, rotVec_getD_any _ v1 v2 k c h1 h2]
    rcases T.turn_cases k with ⟨h, -, hc, hs⟩ | ⟨h, -, hc, hs⟩ | ⟨h, -, hc, hs⟩ | ⟨h, -, hc, hs⟩
    · refine ⟨fun _ => ?_, fun h' => by omega, fun h' => by omega, fun h' => by omega⟩
      rw [hc, hs]
      by_cases e1 : c = v1
      · subst e1; simp
      · by_cases e2 : c = v2
        · subst e2; simp [e1]
        · simp [e1, e2]
    · refine ⟨fun h' => by omega, fun _ => ?_, fun h' => by omega, fun h' => by omega⟩
      rw [hc, hs]
      by_cases e1 : c = v1
      · subst e1; simp
      · by_cases e2 : c = v2
        · subst e2; simp [e1]
        · simp [e1, e2]
    · refine ⟨fun h' => by omega, fun h' => by omega, fun _ => ?_, fun h' => by omega⟩
      rw [hc, hs]
      by_cases e1 : c = v1
      · subst e1; simp [h21]
      · by_cases e2 : c = v2
        · subst e2; simp [e1]
        · simp [e1, e2]
    · refine ⟨fun h' => by omega, fun h' => by omega, fun h' => by omega, fun _ => ?_⟩
      rw [hc, hs]
      by_cases e1 : c = v1
      · subst e1; simp [h12]
      · by_cases e2 : c = v2
        · subst e2; simp [e1]
        · simp [e1, e2]
/-- what `rotate90(·, k)` is compared with: nothing, one quarter turn, two quarter turns, or one
quarter turn in the plane named the other way round -/
def targetK (da db : String) (k : Int) (f : Fld) : M Fld :=
  if k % 4 = 0 then .ok f
  else if k % 4 = 1 then rot90Fld f da db
  else if k % 4 = 2 then rotIter da db 2 f
  else rot90Fld f db da

theorem targetK_k0 (da db : String) (k : Int) (f : Fld) (h : k % 4 = 0) : targetK da db k f = .ok f := by
  unfold targetK; rw [if_pos h]

theorem targetK_k1 (da db : String) (k : Int) (f : Fld) (h : k % 4 = 1) : targetK da db k f = rot90Fld f da db := by
  unfold targetK; rw [if_neg (by omega), if_pos h]

theorem targetK_k2 (da db : String) (k : Int) (f : Fld) (h : k % 4 = 2) : targetK da db k f = rotIter da db 2 f := by
  unfold targetK; rw [if_neg (by omega), if_neg (by omega), if_pos h]

theorem targetK_k3 (da db : String) (k : Int) (f : Fld) (h3 : k % 4 = 3) : targetK da db k f = rot90Fld f db da := by
  unfold targetK; rw [if_neg (by omega), if_neg (by omega), if_neg (by omega)]

theorem rotIter_two {da db : String} {f T : Fld} (h : rotIter da db 2 f = .ok T) :
    ∃ R1, rot90Fld f da db = .ok R1 ∧ rot90Fld R1 da db = .ok T := by
  simp only [rotIter] at h
  split at h
  · cases h
  · rename_i R1 h1
    exact ⟨R1, h1, h⟩

theorem rotIdx_twice (f R1 : Fld) (a b : Nat) (i : List Nat) (hr : IsRot90 f R1 a b) (hab : a ≠ b)
    (ha : a < i.length) (hb : b < i.length) :
    rotIdx f a b (rotIdx R1 a b i)
      = setAt (setAt i a (f.mesh.nAt a - 1 - i.getD a 0)) b (f.mesh.nAt b - 1 - i.getD b 0) := by
  unfold rotIdx
  rw [hr.n_b]
  rw [getD_setAt_eq _ _ _ _ (by rw [length_setAt]; exact hb), getD_setAt_ne _ _ _ _ _ hab, getD_setAt_eq _ _ _ _ ha]
  rw [setAt_comm (setAt i a (i.getD b 0)) b a _ _ (Ne.symm hab), setAt_setAt_same, setAt_setAt_same]

theorem two_turns (X R1 T : Fld) (a b : Nat) (wf : MeshWf X) (tw : TurnWf X a b)
    (ha : a < X.mesh.ndim) (hb : b < X.mesh.ndim) (hab : a ≠ b)
    (h1 : rot90Fld X (X.mesh.region.dims.getD a "") (X.mesh.region.dims.getD b "") = .ok R1)
    (h2 : rot90Fld R1 (X.mesh.region.dims.getD a "") (X.mesh.region.dims.getD b "") = .ok T) :
    IsRot90 X R1 a b ∧ IsRot90 R1 T a b ∧ MeshWf R1 ∧ TurnWf R1 a b ∧
      rot90Fld R1 (R1.mesh.region.dims.getD a "") (R1.mesh.region.dims.getD b "") = .ok T ∧
      (X.valid.shape = X.mesh.n → R1.valid.shape = R1.mesh.n) := by
  obtain ⟨hm1, hv1, hs1, _⟩ := rot90Fld_parts X R1 a b wf.dims ha hb h1
  have hr1 := isRot90_of_ok X R1 a b wf tw ha hb hab h1
  obtain ⟨wf1, nd1, d1, bc1, _, hn⟩ := meshWf_rot X R1 a b wf tw ha hb hab hm1 hs1
  have tw1 := turnWf_rot X R1 a b wf tw hr1 bc1
  have h2' : rot90Fld R1 (R1.mesh.region.dims.getD a "") (R1.mesh.region.dims.getD b "") = .ok T := by rw [d1]; exact h2
  have hr2 := isRot90_of_ok R1 T a b wf1 tw1 (by rw [nd1]; exact ha) (by rw [nd1]; exact hb) hab h2'
  exact ⟨hr1, hr2, wf1, tw1, h2', fun hvs => by rw [hv1, hn, ← hvs]; rfl⟩

theorem targetK_mesh (X Tg : Fld) (a b : Nat) (k : Int) (m' : Mesh) (wf : MeshWf X) (tw : TurnWf X a b)
    (ha : a < X.mesh.ndim) (hb : b < X.mesh.ndim) (hab : a ≠ b)
    (hT : targetK (X.mesh.region.dims.getD a "") (X.mesh.region.dims.getD b "") k X = .ok Tg)
    (hm : rotMeshK X.mesh (X.mesh.region.dims.getD a "") (X.mesh.region.dims.getD b "") k = .ok m') :
    MeshSim m' Tg.mesh := by
  obtain ⟨nd, dm, ax⟩ := rotMeshK_axis X m' a b k wf tw ha hb hab hm
  -- `Tg` has the axes of `X` permuted by `π`, and `π` is what the parity of `k` says
  have key : ∀ π : Nat → Nat, Tg.mesh.ndim = X.mesh.ndim → Tg.mesh.region.dims = X.mesh.region.dims →
      (∀ e, e < X.mesh.ndim → Tg.mesh.nAt e = X.mesh.nAt (π e) ∧ Tg.mesh.cellAt e = X.mesh.cellAt (π e) ∧
        perM Tg.mesh e = perM X.mesh (π e)) → (∀ e, T.rotSrc a b k e = π e) → MeshSim m' Tg.mesh := by
    intro π hn hd hax hπ
    refine ⟨nd.trans hn.symm, dm.trans hd.symm, fun e he => ?_⟩
    rw [nd] at he
    obtain ⟨x1, _, x2, x3⟩ := ax e he
    obtain ⟨y1, y2, y3⟩ := hax e he
    rw [hπ] at x1 x2 x3
    exact ⟨x1.trans y1.symm, x2.trans y2.symm, x3.trans y3.symm⟩
  rcases T.turn_cases k with ⟨h, ho, _⟩ | ⟨h, ho, _⟩ | ⟨h, ho, _⟩ | ⟨h, ho, _⟩
  · rw [targetK_k0 _ _ _ _ h] at hT
    injection hT with hT; subst hT
    exact key id rfl rfl (fun _ _ => ⟨rfl, rfl, rfl⟩) (fun e => by rw [rotSrc_eq, ho]; rfl)
  · rw [targetK_k1 _ _ _ _ h] at hT
    have hr := isRot90_of_ok X Tg a b wf tw ha hb hab hT
    exact key (swp a b) hr.ndim hr.dims (hr.axis hab) (fun e => by rw [rotSrc_eq, ho]; rfl)
  · rw [targetK_k2 _ _ _ _ h] at hT
    obtain ⟨R1, h1, h2⟩ := rotIter_two hT
    obtain ⟨hr1, hr2, _⟩ := two_turns X R1 Tg a b wf tw ha hb hab h1 h2
    refine key id (hr2.ndim.trans hr1.ndim) (hr2.dims.trans hr1.dims) (fun e he => ?_) (fun e => by rw [rotSrc_eq, ho]; rfl)
    obtain ⟨y1, y2, y3⟩ := hr2.axis hab e (by rw [hr1.ndim]; exact he)
    obtain ⟨z1, z2, z3⟩ := hr1.axis hab (swp a b e) (swp_lt ha hb he)
    rw [swp_swp] at z1 z2 z3
    exact ⟨y1.trans z1, y2.trans z2, y3.trans z3⟩
  · rw [targetK_k3 _ _ _ _ h] at hT
    have hr := isRot90_of_ok X Tg b a wf (turnWf_symm wf ha hb hab tw) hb ha (Ne.symm hab) hT
    exact key (swp b a) hr.ndim hr.dims (hr.axis (Ne.symm hab)) (fun e => by rw [rotSrc_eq, ho, swp_comm]; rfl)

theorem targetK_data {a b : Nat} {κ : Kind} (X Tg : Fld) (k : Int) (wf : MeshWf X) (tw : TurnWf X a b) (hκ : κ.Is a b X)
    (ha : a < X.mesh.ndim) (hb : b < X.mesh.ndim) (hab : a ≠ b)
    (hT : targetK (X.mesh.region.dims.getD a "") (X.mesh.region.dims.getD b "") k X = .ok Tg) :
    Tg.nvdim = X.nvdim ∧ Tg.vdims = X.vdims ∧ Tg.vmap = X.vmap ∧
    (∀ i, i.length = X.mesh.ndim → ∀ c, (Tg.data.get i).getD c 0 = (κ.rotV k (X.data.get (idxK X a b k i))).getD c 0) ∧
    (X.valid.shape = X.mesh.n → ∀ i, i.length = X.mesh.ndim → Tg.valid.get i = X.valid.get (idxK X a b k i)) := by
  -- one quarter turn in the plane `(p, q)`, which is `(a, b)` or `(b, a)`
  have one : ∀ {κ' : Kind} {p q : Nat} {Y : Fld}, κ'.Is p q X → TurnWf X p q → p < X.mesh.ndim → q < X.mesh.ndim → p ≠ q →
      rot90Fld X (X.mesh.region.dims.getD p "") (X.mesh.region.dims.getD q "") = .ok Y →
      Y.nvdim = X.nvdim ∧ Y.vdims = X.vdims ∧ Y.vmap = X.vmap ∧
      (∀ i c, (Y.data.get i).getD c 0 = κ'.sgn c * (X.data.get (rotIdx X p q i)).getD (κ'.src c) 0) ∧
      (X.valid.shape = X.mesh.n → ∀ i, Y.valid.get i = X.valid.get (rotIdx X p q i)) := by
    intro κ' p q Y hk twp hp hq hpq hY
    have hr := isRot90_of_ok X Y p q wf twp hp hq hpq hY
    obtain ⟨_, e2, e3⟩ := hk.rot wf.dims wf.data_shape hp hq hY hr.dims
    exact ⟨hr.nvdim, e2, e3, hk.turned_getD wf.dims wf.data_shape hp hq hY, fun hvs => rot90Fld_valid X Y p q wf.dims hvs hp hq hY⟩
  rcases T.turn_cases k with ⟨h, -⟩ | ⟨h, -⟩ | ⟨h, -⟩ | ⟨h, -⟩
  · rw [targetK_k0 _ _ _ _ h] at hT
    injection hT with hT; subst hT
    exact ⟨rfl, rfl, rfl, fun i _ c => by rw [idxK_k0 _ _ _ _ _ h, (hκ.rotV_getD _ k c).1 h],
      fun _ i _ => by rw [idxK_k0 _ _ _ _ _ h]⟩
  · rw [targetK_k1 _ _ _ _ h] at hT
    obtain ⟨e1, e2, e3, e4, e5⟩ := one hκ tw ha hb hab hT
    exact ⟨e1, e2, e3, fun i _ c => by rw [idxK_k1 _ _ _ _ _ h, e4, (hκ.rotV_getD _ k c).2.1 h],
      fun hvs i _ => by rw [idxK_k1 _ _ _ _ _ h, e5 hvs]⟩
  · rw [targetK_k2 _ _ _ _ h] at hT
    obtain ⟨R1, h1, h2⟩ := rotIter_two hT
    obtain ⟨hr1, hr2, wf1, _, h2', hvs1⟩ := two_turns X R1 Tg a b wf tw ha hb hab h1 h2
    have ha1 : a < R1.mesh.ndim := by rw [hr1.ndim]; exact ha
    have hb1 : b < R1.mesh.ndim := by rw [hr1.ndim]; exact hb
    obtain ⟨e1, e2, e3, e4, e5⟩ := one hκ tw ha hb hab h1
    obtain ⟨k1, _, _⟩ := hκ.rot wf.dims wf.data_shape ha hb h1 hr1.dims
    obtain ⟨_, f2, f3⟩ := k1.rot wf1.dims wf1.data_shape ha1 hb1 h2' hr2.dims
    refine ⟨hr2.nvdim.trans e1, f2.trans e2, f3.trans e3, fun i hi c => ?_, fun hvs i hi => ?_⟩
    · rw [idxK_k2 _ _ _ _ _ h, k1.turned_getD wf1.dims wf1.data_shape ha1 hb1 h2' i c, e4,
        rotIdx_twice X R1 a b i hr1 hab (by omega) (by omega), (hκ.rotV_getD _ k c).2.2.1 h]
    · rw [idxK_k2 _ _ _ _ _ h, rot90Fld_valid R1 Tg a b wf1.dims (hvs1 hvs) ha1 hb1 h2' i, e5 hvs,
        rotIdx_twice X R1 a b i hr1 hab (by omega) (by omega)]
  · rw [targetK_k3 _ _ _ _ h] at hT
    obtain ⟨e1, e2, e3, e4, e5⟩ := one hκ.swap (turnWf_symm wf ha hb hab tw) hb ha (Ne.symm hab) hT
    exact ⟨e1, e2, e3, fun i _ c => by rw [idxK_k3 _ _ _ _ _ h, e4, (hκ.rotV_getD _ k c).2.2.2 h],
      fun hvs i _ => by rw [idxK_k3 _ _ _ _ _ h, e5 hvs]⟩

/-! ### fields that are alike (`Sim`) have the same derivatives and the same cells -/

theorem periodic_eq_perM (f : Fld) (ax : Nat) : periodic f ax = perM f.mesh ax := rfl

theorem D_sim {X Y : Fld} (h : Sim X Y) (ax o c : Nat) (i : List Nat) (hax : ax < X.mesh.ndim) (hi : i.length = X.mesh.ndim) :
    D X ax o c i = D Y ax o c i := by
  obtain ⟨_, _, hg⟩ := h.mesh
  obtain ⟨g1, g2, g3⟩ := hg ax hax
  unfold D
  rw [periodic_eq_perM, periodic_eq_perM, g3, g2, g1]
  congr 2
  apply tab_congr
  intro j _
  unfold NDA.line
  rw [h.data _ (by rw [length_setAt]; exact hi), h.valid _ (by rw [length_setAt]; exact hi)]

theorem inMesh_sim {X Y : Fld} (h : Sim X Y) (i : List Nat) (hi : InMesh X i) : InMesh Y i := by
  obtain ⟨hl, hin⟩ := hi
  refine ⟨by rw [← h.mesh.1]; exact hl, ?_⟩
  intro e he
  rw [← h.mesh.1] at he
  rw [← (h.mesh.2.2 e he).1]; exact hin e he

/-- **`rotate90(·, k)` in one go and its target** (0, 1, 2 quarter turns, or one in the plane named the other way round) **are
alike** (`Sim`), for a field of either kind: the general form of `rotate90_k_refines_turns_scalar/_vector` of `Props/C05.lean` -/
theorem Kind.simK {a b : Nat} {κ : Kind} (f Tg : Fld) (k : Int) (wf : MeshWf f) (tw : TurnWf f a b)
    (hsub : f.mesh.subs = []) (hvs : f.valid.shape = f.mesh.n) (hκ : κ.Is a b f) (ha : a < f.mesh.ndim) (hb : b < f.mesh.ndim)
    (hab : a ≠ b) (hT : targetK (f.mesh.region.dims.getD a "") (f.mesh.region.dims.getD b "") k f = .ok Tg) :
    ∃ R', rot90FldK f (f.mesh.region.dims.getD a "") (f.mesh.region.dims.getD b "") k = .ok R' ∧ Sim R' Tg ∧ SameMeta R' f := by
  obtain ⟨R', h1, n1, v1, m1, h4, h5, h6⟩ := rot90FldK_data f k wf tw hsub hκ ha hb hab
  obtain ⟨t1, t2, t3, t4, t5⟩ := targetK_data f Tg k wf tw hκ ha hb hab hT
  obtain ⟨hnd, hdm, _⟩ := rotMeshK_axis f R'.mesh a b k wf tw ha hb hab h4
  refine ⟨R', h1, ⟨targetK_mesh f Tg a b k R'.mesh wf tw ha hb hab hT h4, n1.trans t1.symm, v1.trans t2.symm,
    m1.trans t3.symm, fun i hi c => ?_, fun i hi => ?_⟩, ⟨n1, hnd, hdm, v1, m1⟩⟩
  · rw [h5 i (by rw [← hnd]; exact hi), t4 i (by rw [← hnd]; exact hi) c]
  · rw [h6 hvs i (by rw [← hnd]; exact hi), t5 hvs i (by rw [← hnd]; exact hi)]

theorem On.resK {a b m : Nat} {κ : Kind} (f L TL : Fld) (k : Int) (wf : MeshWf f) (tw : TurnWf f a b) (hsub : f.mesh.subs = [])
    (hL : On a b κ m f L) (ha : a < f.mesh.ndim) (hb : b < f.mesh.ndim) (hab : a ≠ b)
    (hT : targetK (f.mesh.region.dims.getD a "") (f.mesh.region.dims.getD b "") k L = .ok TL) :
    ∃ RL', rot90FldK L (f.mesh.region.dims.getD a "") (f.mesh.region.dims.getD b "") k = .ok RL' ∧
      ∀ i, i.length = f.mesh.ndim → ∀ c, (RL'.data.get i).getD c 0 = (TL.data.get i).getD c 0 := by
  obtain ⟨hm, hs, _, hκ⟩ := hL
  have wfL : MeshWf L := meshWf_of_mesh wf hm hs
  have twL : TurnWf L a b := turnWf_of_mesh tw hm
  rw [← hm] at hT ha hb hsub ⊢
  obtain ⟨RL', h1, _, _, _, _, h5, _⟩ := rot90FldK_data L k wfL twL hsub hκ ha hb hab
  obtain ⟨_, _, _, t4, _⟩ := targetK_data L TL k wfL twL hκ ha hb hab hT
  exact ⟨RL', h1, fun i hi c => by rw [h5 i hi, t4 i hi c]⟩

theorem targetK_eq_iter (da db : String) (k : Int) (f : Fld) (h3 : k % 4 ≠ 3) :
    targetK da db k f = rotIter da db (k % 4).toNat f := by
  have h : k % 4 = 0 ∨ k % 4 = 1 ∨ k % 4 = 2 := by omega
  rcases h with h | h | h
  · rw [targetK_k0 _ _ _ _ h, h]; rfl
  · rw [targetK_k1 _ _ _ _ h, h]; rfl
  · rw [targetK_k2 _ _ _ _ h, h]; rfl

/-! ### `Field.rotate90(ax1, ax2, k)` in one go for an operator with the interface `Commutes` -/

variable {a b m : Nat} {κ κ' : Kind} {E E' : Fld → Prop} {op : Fld → M Fld}

theorem RotOk.symm {da db : String} {f : Fld} (hab : a ≠ b) (h : RotOk a b da db f) : RotOk b a db da f :=
  ⟨h.wf, turnWf_symm h.wf h.ha h.hb hab h.tw, h.subs, h.vshape, h.hb, h.ha, h.hdb, h.hda⟩

/-- **`Field.rotate90(ax1, ax2, k)` in one go, every integer `k`** (the general form of the five `*_rot90_all_k` of `Props/C05.lean`): from
the interface in the plane `(a, b)` and in the plane named the other way round (`k ≡ 3`) -/
theorem Commutes.all_k (C : Commutes a b κ κ' m E op) (C' : Commutes b a κ.swap κ'.swap m E' op) (hE : ∀ {f}, E f → E' f)
    (hab : a ≠ b) {f : Fld} (hf : Opd a b (f.mesh.region.dims.getD a "") (f.mesh.region.dims.getD b "") κ E f) (k : Int) :
    ∃ R L LR RL, rot90FldK f (f.mesh.region.dims.getD a "") (f.mesh.region.dims.getD b "") k = .ok R ∧ op f = .ok L ∧
      op R = .ok LR ∧ rot90FldK L (f.mesh.region.dims.getD a "") (f.mesh.region.dims.getD b "") k = .ok RL ∧
      CellEq R m LR RL := by
  have r := hf.rot
  -- the target (0, 1 or 2 quarter turns, or one quarter turn in the plane named the other way round) commutes
  have TC : ∃ Tg L LT TL, targetK (f.mesh.region.dims.getD a "") (f.mesh.region.dims.getD b "") k f = .ok Tg ∧ op f = .ok L ∧
      op Tg = .ok LT ∧ targetK (f.mesh.region.dims.getD a "") (f.mesh.region.dims.getD b "") k L = .ok TL ∧
      DimsOk Tg ∧ E Tg ∧ CellEq Tg m LT TL := by
    by_cases h3 : k % 4 = 3
    · obtain ⟨R, L, LR, RL, h1, h2, h4, h5, pR, mR, _, _, h6⟩ := C'.iter (Ne.symm hab) ⟨r.symm hab, hf.kind.swap, hE hf.ext⟩ 1
      exact ⟨R, L, LR, RL, by rw [targetK_k3 _ _ _ _ h3]; exact h1, h2, h4, by rw [targetK_k3 _ _ _ _ h3]; exact h5,
        pR.rot.wf.dims, C.transfer mR.symm hf.ext, h6⟩
    · obtain ⟨R, L, LR, RL, h1, h2, h4, h5, pR, _, _, _, h6⟩ := C.iter hab hf (k % 4).toNat
      exact ⟨R, L, LR, RL, by rw [targetK_eq_iter _ _ _ _ h3]; exact h1, h2, h4, by rw [targetK_eq_iter _ _ _ _ h3]; exact h5,
        pR.rot.wf.dims, pR.ext, h6⟩
  obtain ⟨Tg, L, LT, TL, hT, hL, hLT, hTL, dT, eT, heq⟩ := TC
  -- the one-go turn of `f` is `Sim` to the target, so the operator gives the same values on both (`sim`); the one-go turn of
  -- the result agrees with the target of the result cell by cell (`resK`)
  obtain ⟨R', hR', hsim, mR'⟩ := Kind.simK f Tg k r.wf r.tw r.subs r.vshape hf.kind r.ha r.hb hab hT
  obtain ⟨LR', hLR'⟩ := C.accepts (mR'.dimsOk r.wf.dims) (by rw [mR'.ndim]; exact r.ha) (by rw [mR'.ndim]; exact r.hb)
    (C.transfer mR'.symm hf.ext)
  obtain ⟨RL', hRL', hres⟩ := On.resK f L TL k r.wf r.tw r.subs (C.result r.wf r.ha r.hb hf.kind hf.ext hL) r.ha r.hb hab hTL
  refine ⟨R', L, LR', RL', hR', hL, hLR', hRL', fun i hi c hc => ?_⟩
  rw [C.sim hsim dT eT hLR' hLT i hi.1 c hc, heq i (inMesh_sim hsim i hi) c hc, hres i (by rw [← mR'.ndim]; exact hi.1) c]

end DFV.C05

