import DFV.Model.C09Lex
import DFV.Lemmas.C09Reader
import DFV.Lemmas.C09Labels
/-! UTF-8 (strict decoding undoes encoding; text without a newline encodes to bytes without the byte 10), and the header loop of
`_from_ovf` on bytes (`Model/C09Lex.lean`): a rendered header line is classified back to what was rendered (`LineOk`), the bytes of a
file whose lines are such (`FileOk`) lex to the file (`fromOvfBytes_header_append`), and every strict prefix of the header bytes is
rejected (`header_prefix_rejected`). -/
namespace DFV.C09
open DFV

/-! ## UTF-8 -/

theorem utf8Dec_cons (b : Nat) (bs : List Nat) : utf8Dec (b :: bs) =
    if b < 128 then (utf8Dec bs).map fun r => Char.ofNat b :: r
    else if b < 194 then none
    else if b < 224 then
      match bs with
      | b1 :: r =>
        if isCont b1 then (utf8Dec r).map fun t => Char.ofNat (cp2 b b1) :: t else none
      | _ => none
    else if b < 240 then
      match bs with
      | b1 :: b2 :: r =>
        if isCont b1 && isCont b2 && decide (2048 ≤ cp3 b b1 b2)
            && !(decide (55296 ≤ cp3 b b1 b2) && decide (cp3 b b1 b2 < 57344)) then
          (utf8Dec r).map fun t => Char.ofNat (cp3 b b1 b2) :: t
        else none
      | _ => none
    else if b < 245 then
      match bs with
      | b1 :: b2 :: b3 :: r =>
        if isCont b1 && isCont b2 && isCont b3 && decide (65536 ≤ cp4 b b1 b2 b3)
            && decide (cp4 b b1 b2 b3 < 1114112) then
          (utf8Dec r).map fun t => Char.ofNat (cp4 b b1 b2 b3) :: t
        else none
      | _ => none
    else none := by
  rw [utf8Dec.eq_def]
  rfl

theorem char_range (c : Char) : c.toNat < 55296 ∨ (57343 < c.toNat ∧ c.toNat < 1114112) := by
  have := c.valid
  simp only [UInt32.isValidChar, Nat.isValidChar] at this
  exact this

theorem isCont_digit (d : Nat) (h : d < 64) : isCont (128 + d) = true := by
  unfold isCont; simp only [Bool.and_eq_true, decide_eq_true_eq]; omega

/-! The strict decoder on a well-formed sequence of one, two, three, four bytes. -/

theorem utf8Dec_one (b : Nat) (r : List Nat) (h : b < 128) :
    utf8Dec (b :: r) = (utf8Dec r).map fun t => Char.ofNat b :: t := by
  rw [utf8Dec_cons, if_pos h]

theorem utf8Dec_two (b b1 : Nat) (r : List Nat) (hb : 194 ≤ b ∧ b < 224) (h1 : isCont b1 = true) :
    utf8Dec (b :: b1 :: r) = (utf8Dec r).map fun t => Char.ofNat (cp2 b b1) :: t := by
  rw [utf8Dec_cons, if_neg (by omega), if_neg (by omega), if_pos hb.2]
  simp only [h1, if_true]

theorem utf8Dec_three (b b1 b2 : Nat) (r : List Nat) (hb : 224 ≤ b ∧ b < 240) (h1 : isCont b1 = true)
    (h2 : isCont b2 = true) (hlo : 2048 ≤ cp3 b b1 b2) (hsur : cp3 b b1 b2 < 55296 ∨ 57344 ≤ cp3 b b1 b2) :
    utf8Dec (b :: b1 :: b2 :: r) = (utf8Dec r).map fun t => Char.ofNat (cp3 b b1 b2) :: t := by
  rw [utf8Dec_cons, if_neg (by omega), if_neg (by omega), if_neg (by omega), if_pos hb.2]
  have : (decide (55296 ≤ cp3 b b1 b2) && decide (cp3 b b1 b2 < 57344)) = false := by
    simp only [Bool.and_eq_false_iff, decide_eq_false_iff_not]; omega
  simp only [h1, h2, decide_eq_true hlo, this, Bool.and_self, Bool.not_false, if_true]

theorem utf8Dec_four (b b1 b2 b3 : Nat) (r : List Nat) (hb : 240 ≤ b ∧ b < 245) (h1 : isCont b1 = true)
    (h2 : isCont b2 = true) (h3 : isCont b3 = true) (hlo : 65536 ≤ cp4 b b1 b2 b3) (hhi : cp4 b b1 b2 b3 < 1114112) :
    utf8Dec (b :: b1 :: b2 :: b3 :: r) = (utf8Dec r).map fun t => Char.ofNat (cp4 b b1 b2 b3) :: t := by
  rw [utf8Dec_cons, if_neg (by omega), if_neg (by omega), if_neg (by omega), if_neg (by omega), if_pos hb.2]
  simp only [h1, h2, h3, decide_eq_true hlo, decide_eq_true hhi, Bool.and_self, if_true]

/-- the encoder writes the base-64 digits of the code point behind a lead byte that tells their number; the decoder on
that class of sequences puts them together again -/
theorem utf8Dec_encChar_append (c : Char) (r : List Nat) :
    utf8Dec (utf8EncChar c ++ r) = (utf8Dec r).map fun t => c :: t := by
  have hv := char_range c
  have d0 : c.toNat % 64 < 64 := Nat.mod_lt _ (by omega)
  have d1 : c.toNat / 64 % 64 < 64 := Nat.mod_lt _ (by omega)
  have d2 : c.toNat / 4096 % 64 < 64 := Nat.mod_lt _ (by omega)
  unfold utf8EncChar
  split
  · rename_i h
    rw [List.singleton_append, utf8Dec_one _ _ h, Char.ofNat_toNat]
  split
  · have hcp : cp2 (192 + c.toNat / 64) (128 + c.toNat % 64) = c.toNat := by unfold cp2; omega
    rw [List.cons_append, List.singleton_append, utf8Dec_two _ _ _ (by omega) (isCont_digit _ d0), hcp, Char.ofNat_toNat]
  split
  · have hcp : cp3 (224 + c.toNat / 4096) (128 + c.toNat / 64 % 64) (128 + c.toNat % 64) = c.toNat := by
      unfold cp3; omega
    rw [List.cons_append, List.cons_append, List.singleton_append,
      utf8Dec_three _ _ _ _ (by omega) (isCont_digit _ d1) (isCont_digit _ d0) (by rw [hcp]; omega) (by rw [hcp]; omega),
      hcp, Char.ofNat_toNat]
  · have hcp : cp4 (240 + c.toNat / 262144) (128 + c.toNat / 4096 % 64) (128 + c.toNat / 64 % 64) (128 + c.toNat % 64)
        = c.toNat := by unfold cp4; omega
    rw [List.cons_append, List.cons_append, List.cons_append, List.singleton_append,
      utf8Dec_four _ _ _ _ _ (by omega) (isCont_digit _ d2) (isCont_digit _ d1) (isCont_digit _ d0) (by rw [hcp]; omega)
        (by rw [hcp]; omega), hcp, Char.ofNat_toNat]

theorem utf8Dec_enc (cs : List Char) : utf8Dec (utf8Enc cs) = some cs := by
  induction cs with
  | nil => rfl
  | cons c cs ih =>
    show utf8Dec (utf8EncChar c ++ utf8Enc cs) = _
    rw [utf8Dec_encChar_append, ih]; rfl

theorem encChar_ascii (c : Char) (b : Nat) (hb : b ∈ utf8EncChar c) (h : b < 128) : c.toNat = b := by
  unfold utf8EncChar at hb
  split at hb
  · simp only [List.mem_cons, List.mem_nil_iff, or_false] at hb; omega
  · split at hb
    · simp only [List.mem_cons, List.mem_nil_iff, or_false] at hb; omega
    · split at hb
      · simp only [List.mem_cons, List.mem_nil_iff, or_false] at hb; omega
      · simp only [List.mem_cons, List.mem_nil_iff, or_false] at hb; omega

theorem newline_not_mem_enc (cs : List Char) (h : '\n' ∉ cs) : 10 ∉ utf8Enc cs := by
  intro hm
  unfold utf8Enc at hm
  rw [List.mem_flatMap] at hm
  obtain ⟨c, hc, hb⟩ := hm
  have := encChar_ascii c 10 hb (by omega)
  have hc' : c = '\n' := by
    rw [← Char.ofNat_toNat c, this]
  exact h (hc' ▸ hc)

/-! ## the header loop, line by line -/

theorem lexGo_line (l rest : List Byte) (h : 10 ∉ l) (cur : List Byte) :
    lexGo (l ++ 10 :: rest) cur = onLine (cur.reverse ++ l) rest (lexGo rest []) := by
  induction l generalizing cur with
  | nil => simp [lexGo]
  | cons b l ih =>
    have hb : b ≠ 10 := fun e => h (by simp [e])
    have hl : 10 ∉ l := fun e => h (by simp [e])
    show lexGo (b :: (l ++ 10 :: rest)) cur = _
    rw [lexGo, if_neg hb, ih hl]
    simp

theorem lexGo_last (l : List Byte) (h : 10 ∉ l) (cur : List Byte) :
    lexGo l cur = if (cur.reverse ++ l).isEmpty then .ok ([], none)
      else onLine (cur.reverse ++ l) [] (.ok ([], none)) := by
  induction l generalizing cur with
  | nil => simp [lexGo]
  | cons b l ih =>
    have hb : b ≠ 10 := fun e => h (by simp [e])
    have hl : 10 ∉ l := fun e => h (by simp [e])
    rw [lexGo, if_neg hb, ih hl]
    simp

theorem splitOn_none (sep : Char) (l : List Char) (h : sep ∉ l) : splitOn sep l = [l] := by
  induction l with
  | nil => rfl
  | cons c l ih =>
    have hc : c ≠ sep := fun e => h (by simp [e])
    have hl : sep ∉ l := fun e => h (by simp [e])
    rw [splitOn, if_neg hc, ih hl]

theorem splitOn_append (sep : Char) (l r : List Char) (h : sep ∉ l) :
    splitOn sep (l ++ sep :: r) = l :: splitOn sep r := by
  induction l with
  | nil => simp [splitOn]
  | cons c l ih =>
    have hc : c ≠ sep := fun e => h (by simp [e])
    have hl : sep ∉ l := fun e => h (by simp [e])
    show splitOn sep (c :: (l ++ sep :: r)) = _
    rw [splitOn, if_neg hc, ih hl]

/-- text `strip()` leaves alone: no white space at either end -/
def Stripped (w : List Char) : Prop :=
  (∀ c, w.head? = some c → c.isWhitespace = false) ∧ (∀ c, w.getLast? = some c → c.isWhitespace = false)

theorem dropWhile_head {α} (p : α → Bool) (w : List α) (h : ∀ c, w.head? = some c → p c = false) :
    w.dropWhile p = w := by
  cases w with
  | nil => rfl
  | cons c w => simp [List.dropWhile, h c rfl]

theorem strip_of_stripped (w : List Char) (h : Stripped w) : strip w = w := by
  unfold strip
  rw [dropWhile_head _ w h.1, dropWhile_head _ w.reverse (by simpa using h.2), List.reverse_reverse]

theorem strip_space_cons (w : List Char) (h : Stripped w) : strip (' ' :: w) = w := by
  have : strip (' ' :: w) = strip w := by
    unfold strip
    rw [List.dropWhile_cons_of_pos (by decide)]
  rw [this, strip_of_stripped w h]

theorem classify_other : classifyLine ['#'] = .other := by decide

theorem splitOn_ne_nil (sep : Char) (l : List Char) : splitOn sep l ≠ [] := by
  cases l with
  | nil => simp [splitOn]
  | cons c l =>
    rw [splitOn]
    split
    · simp
    · split <;> simp

/-- a `# key: value` line: the key, and of the value what stands before its first `:` (`line[1:].split(":")[1]`),
both stripped -/
theorem classify_key_value (k v : List Char) (hd : isDataLine ('#' :: ' ' :: (k ++ ':' :: ' ' :: v)) = false)
    (hk : ':' ∉ k) (sk : Stripped k) :
    classifyLine ('#' :: ' ' :: (k ++ ':' :: ' ' :: v))
      = .kv (String.ofList k) (String.ofList (strip ((splitOn ':' (' ' :: v)).headD []))) := by
  unfold classifyLine
  rw [hd]
  simp only [Bool.false_eq_true, if_false, List.drop_succ_cons, List.drop_zero]
  have hk' : ':' ∉ ' ' :: k := fun h => (List.mem_cons.mp h).elim (by decide) hk
  rw [show ' ' :: (k ++ ':' :: ' ' :: v) = (' ' :: k) ++ ':' :: (' ' :: v) from rfl, splitOn_append _ _ _ hk']
  cases hs : splitOn ':' (' ' :: v) with
  | nil => exact absurd hs (splitOn_ne_nil _ _)
  | cons p ps => simp only [strip_space_cons k sk, List.headD_cons]

theorem classify_kv (k vt : List Char) (hd : isDataLine ('#' :: ' ' :: (k ++ ':' :: ' ' :: vt)) = false)
    (hk : ':' ∉ k) (hv : ':' ∉ vt) (sk : Stripped k) (sv : Stripped vt) :
    classifyLine ('#' :: ' ' :: (k ++ ':' :: ' ' :: vt)) = .kv (String.ofList k) (String.ofList vt) := by
  rw [classify_key_value k vt hd hk sk,
    splitOn_none _ _ (fun h => (List.mem_cons.mp h).elim (by decide) hv : ':' ∉ ' ' :: vt)]
  simp only [List.headD_cons, strip_space_cons vt sv]

theorem beginDataChars_eq : beginDataChars = "# Begin: Data".toList := by decide

theorem dataPrefix_eq : dataPrefix = "# begin: data".toList := by decide

theorem isDataLine_begin (r : List Char) : isDataLine (beginDataChars ++ r) = true := by
  unfold isDataLine
  rw [List.map_append]
  have : beginDataChars.map Char.toLower = dataPrefix := by decide
  rw [this]
  simp

theorem classify_data (ws : List String) (h : ∀ w ∈ ws, NoWs w.toList) :
    classifyLine (beginDataChars ++ ' ' :: joinSp (ws.map String.toList)) = .data ws := by
  unfold classifyLine
  rw [isDataLine_begin]
  simp only [if_true]
  have e : beginDataChars ++ ' ' :: joinSp (ws.map String.toList)
      = ['#'] ++ ' ' :: ("Begin:".toList ++ ' ' :: ("Data".toList ++ ' ' :: joinSp (ws.map String.toList))) := by
    have : beginDataChars = ['#'] ++ ' ' :: ("Begin:".toList ++ ' ' :: "Data".toList) := by decide
    rw [this]; simp
  rw [e, splitWs_cons _ ⟨by decide, by decide⟩, splitWs_cons _ ⟨by decide, by decide⟩,
    splitWs_cons _ ⟨by decide, by decide⟩, splitWs_joinSp]
  · simp [List.map_map, Function.comp_def]
  · intro w hw
    obtain ⟨s, hs, rfl⟩ := List.mem_map.mp hw
    exact h s hs

theorem stripped_of_all (w : List Char) (h : ∀ c ∈ w, c.isWhitespace = false) : Stripped w := by
  constructor
  · intro c hc; exact h c (List.mem_of_mem_head? hc)
  · intro c hc; exact h c (List.mem_of_getLast? hc)

/-- a decimal digit is none of the characters that mean something to the csv tokenizer (and is ASCII), to the header
loop, or to the number parsers -/
theorem isDigit_plain (c : Char) (h : c.isDigit = true) :
    (c ≠ ' ' ∧ c ≠ '#' ∧ c ≠ '\n' ∧ c.toNat < 128) ∧ (c ≠ ':' ∧ c.isWhitespace = false) ∧ c ≠ '.' ∧ c ≠ '-' := by
  have h' : 48 ≤ c.toNat ∧ c.toNat ≤ 57 := by
    simp only [Char.isDigit, Bool.and_eq_true, decide_eq_true_eq] at h
    exact ⟨h.1, h.2⟩
  have hne : ∀ d : Char, (d.toNat < 48 ∨ 57 < d.toNat) → c ≠ d := fun d hd e => by subst e; omega
  refine ⟨⟨hne _ (by decide), hne _ (by decide), hne _ (by decide), by omega⟩, ⟨hne _ (by decide), ?_⟩,
    hne _ (by decide), hne _ (by decide)⟩
  cases hw : c.isWhitespace with
  | false => rfl
  | true =>
    simp only [Char.isWhitespace, Bool.or_eq_true, decide_eq_true_eq] at hw
    rcases hw with ((rfl | rfl) | rfl) | rfl <;> (revert h'; decide)

/-- text a header line can carry as key or value: nothing `strip()` would remove, no `:`, no
newline -/
def TextOk (w : List Char) : Prop := Stripped w ∧ ':' ∉ w ∧ '\n' ∉ w

/-- the kind of a header value agrees with what the reader does with its key -/
def ValOk (k : String) : HVal → Prop
  | .num _ => natKeys.contains k = false ∧ numKeys.contains k = true
  | .nat _ => natKeys.contains k = true
  | .str s => natKeys.contains k = false ∧ numKeys.contains k = false ∧ TextOk s.toList

/-- a header line (not the data line) that the header loop reads back as it was written -/
def LineOk (N : NumIO) : HLine → Prop
  | .other => True
  | .kv k v => TextOk k.toList ∧ ValOk k v ∧ isDataLine (renderLine N (.kv k v)) = false
  | .beginData _ => False

theorem textOk_of_clean (w : List Char) (h : ∀ c ∈ w, c ≠ ':' ∧ c.isWhitespace = false) : TextOk w := by
  refine ⟨stripped_of_all w fun c hc => (h c hc).2, fun hc => (h _ hc).1 rfl, fun hc => ?_⟩
  have := (h _ hc).2
  revert this; decide

theorem renderVal_ok (N : NumIO) (L : N.Lawful) (k : String) (v : HVal) (h : ValOk k v) :
    TextOk (renderVal N v) ∧ classifyVal N k (String.ofList (renderVal N v)) = v := by
  cases v with
  | num q =>
    refine ⟨textOk_of_clean _ (L.clean q), ?_⟩
    simp only [classifyVal, renderVal, h.1, h.2, Bool.false_eq_true, if_false, if_true, String.toList_ofList,
      L.parse_fmt]
  | nat n =>
    refine ⟨textOk_of_clean _ fun c hc => (isDigit_plain c ((toString_digits n).2.1 c hc)).2.1, ?_⟩
    have h' : natKeys.contains k = true := h
    simp only [classifyVal, renderVal, h', if_true, String.ofList_toList, parseNat_toString]
  | str s =>
    refine ⟨h.2.2, ?_⟩
    simp only [classifyVal, renderVal, h.1, h.2.1, Bool.false_eq_true, if_false, String.ofList_toList]

/-- what the header loop makes of a written line -/
def rawOf (N : NumIO) : HLine → RawLine
  | .kv k v => .kv k (String.ofList (renderVal N v))
  | .other => .other
  | .beginData ws => .data ws

theorem toHLine_rawOf (N : NumIO) (L : N.Lawful) (l : HLine) (h : LineOk N l) : toHLine N (rawOf N l) = l := by
  cases l with
  | other => rfl
  | beginData ws => exact False.elim h
  | kv k v => simp only [rawOf, toHLine, (renderVal_ok N L k v h.2.1).2]

theorem classify_rendered (N : NumIO) (L : N.Lawful) (l : HLine) (h : LineOk N l) :
    classifyLine (renderLine N l) = rawOf N l := by
  cases l with
  | other => exact classify_other
  | beginData ws => exact False.elim h
  | kv k v =>
    obtain ⟨hk, hv, hd⟩ := h
    have hv' := (renderVal_ok N L k v hv).1
    have := classify_kv k.toList (renderVal N v) hd hk.2.1 hv'.2.1 hk.1 hv'.1
    simp only [renderLine, rawOf]
    rw [this, String.ofList_toList]

theorem newline_not_mem_rendered (N : NumIO) (L : N.Lawful) (l : HLine) (h : LineOk N l) :
    '\n' ∉ renderLine N l := by
  cases l with
  | other => simp [renderLine]
  | beginData ws => exact False.elim h
  | kv k v =>
    obtain ⟨hk, hv, _⟩ := h
    have hv' := (renderVal_ok N L k v hv).1
    simp only [renderLine, List.mem_cons, List.mem_append, not_or]
    refine ⟨by decide, by decide, hk.2.2, by decide, by decide, hv'.2.2⟩

theorem onLine_rendered (N : NumIO) (L : N.Lawful) (l : HLine) (h : LineOk N l) (rest : List Byte)
    (more : M LexRes) :
    onLine (utf8Enc (renderLine N l)) rest more =
      match more with
      | .error e => .error e
      | .ok p => .ok (rawOf N l :: p.1, p.2) := by
  unfold onLine
  rw [utf8Dec_enc]
  simp only [classify_rendered N L l h]
  cases l with
  | other => rfl
  | beginData ws => exact False.elim h
  | kv k v => rfl

/-- the data line is made of words -/
def WordsOk (ws : List String) : Prop := ∀ w ∈ ws, NoWs w.toList

theorem newline_not_mem_joinSp (ws : List (List Char)) (h : ∀ w ∈ ws, NoWs w) : '\n' ∉ joinSp ws :=
  not_mem_joinSp ws '\n' (by decide) fun w hw hc => by
    have := (h w hw).2 _ hc
    revert this; decide

theorem newline_not_mem_dataLine (N : NumIO) (ws : List String) (h : WordsOk ws) :
    '\n' ∉ renderLine N (.beginData ws) := by
  simp only [renderLine, List.mem_append, List.mem_cons, not_or]
  refine ⟨by decide, by decide, newline_not_mem_joinSp _ ?_⟩
  intro w hw
  obtain ⟨s, hs, rfl⟩ := List.mem_map.mp hw
  exact h s hs

theorem lexGo_lines (N : NumIO) (L : N.Lawful) (hs : List HLine) (hok : ∀ l ∈ hs, LineOk N l) (rest : List Byte) :
    lexGo (linesBytes N hs ++ rest) [] = match lexGo rest [] with
      | .error e => .error e
      | .ok p => .ok (hs.map (rawOf N) ++ p.1, p.2) := by
  induction hs with
  | nil => show lexGo rest [] = _; cases lexGo rest [] <;> rfl
  | cons l hs ih =>
    have hl := hok l (by simp)
    simp only [linesBytes, List.flatMap_cons, List.append_assoc, List.cons_append, List.nil_append, List.map_cons] at ih ⊢
    rw [lexGo_line _ _ (newline_not_mem_enc _ (newline_not_mem_rendered N L l hl))]
    simp only [List.reverse_nil, List.nil_append]
    rw [onLine_rendered N L l hl, ih (fun x hx => hok x (by simp [hx]))]
    cases lexGo rest [] <;> rfl

/-- **the header loop reads back what the writer wrote**: header lines, then the data line; the
bytes that follow are the data section -/
theorem lexGo_header (N : NumIO) (L : N.Lawful) (hs : List HLine) (ws : List String) (tail : List Byte)
    (hok : ∀ l ∈ hs, LineOk N l) (hws : WordsOk ws) :
    lexGo (linesBytes N (hs ++ [.beginData ws]) ++ tail) [] = .ok (hs.map (rawOf N), some (ws, tail)) := by
  have e : linesBytes N (hs ++ [.beginData ws]) ++ tail
      = linesBytes N hs ++ (utf8Enc (renderLine N (.beginData ws)) ++ 10 :: tail) := by simp [linesBytes]
  rw [e, lexGo_lines N L hs hok, lexGo_line _ _ (newline_not_mem_enc _ (newline_not_mem_dataLine N ws hws))]
  simp only [List.reverse_nil, List.nil_append]
  unfold onLine
  rw [utf8Dec_enc]
  simp only [renderLine, classify_data ws hws, List.append_nil]

theorem mem_strip (l : List Char) (c : Char) (h : c ∈ strip l) : c ∈ l := by
  unfold strip at h
  rw [List.mem_reverse] at h
  have := (List.dropWhile_sublist _).subset h
  rw [List.mem_reverse] at this
  exact (List.dropWhile_sublist _).subset this

theorem split_at_colon (l : List Char) (h : ':' ∈ l) : ∃ a b, l = a ++ ':' :: b ∧ ':' ∉ a := by
  induction l with
  | nil => cases h
  | cons c l ih =>
    by_cases hc : c = ':'
    · exact ⟨[], l, by rw [hc]; rfl, by simp⟩
    · rcases List.mem_cons.mp h with h | h
      · exact absurd h.symm hc
      · obtain ⟨a, b, e, ha⟩ := ih h
        refine ⟨c :: a, b, by rw [e]; rfl, ?_⟩
        intro hm
        rcases List.mem_cons.mp hm with h' | h'
        · exact hc h'.symm
        · exact ha h'

/-- a value with a `:` in it is cut at that `:` by `line[1:].split(":")[1]` -/
theorem classify_value_colon (k a b : List Char) (hd : isDataLine ('#' :: ' ' :: (k ++ ':' :: ' ' :: (a ++ ':' :: b))) = false)
    (hk : ':' ∉ k) (ha : ':' ∉ a) (sk : Stripped k) :
    classifyLine ('#' :: ' ' :: (k ++ ':' :: ' ' :: (a ++ ':' :: b)))
      = .kv (String.ofList k) (String.ofList (strip (' ' :: a))) := by
  rw [classify_key_value k _ hd hk sk, show ' ' :: (a ++ ':' :: b) = (' ' :: a) ++ ':' :: b from rfl,
    splitOn_append _ _ _ (fun h => (List.mem_cons.mp h).elim (by decide) ha : ':' ∉ ' ' :: a)]
  rfl

/-! ## first line -/

theorem encChar_ascii_eq (c : Char) (h : c.toNat < 128) : utf8EncChar c = [c.toNat] := by
  unfold utf8EncChar; rw [if_pos h]

theorem map_ofNat_enc (cs : List Char) (h : ∀ c ∈ cs, c.toNat < 128) : (utf8Enc cs).map Char.ofNat = cs := by
  induction cs with
  | nil => rfl
  | cons c cs ih =>
    show (utf8EncChar c ++ utf8Enc cs).map Char.ofNat = _
    rw [encChar_ascii_eq c (h c (by simp)), List.map_append, ih (fun d hd => h d (by simp [hd]))]
    simp [Char.ofNat_toNat]

/-- an ASCII first line is the same text whether its bytes are taken as Latin-1 or UTF-8 -/
theorem latin1_enc (s : String) (h : ∀ c ∈ s.toList, c.toNat < 128) : latin1 (utf8Enc s.toList) = s := by
  unfold latin1
  rw [map_ofNat_enc _ h, String.ofList_toList]

/-- `next(f)`: the bytes up to the first newline, and what is left -/
theorem span_newline (l r : List Byte) (h : 10 ∉ l) :
    (l ++ 10 :: r).takeWhile (fun b => b != 10) = l ∧ (l ++ 10 :: r).dropWhile (fun b => b != 10) = 10 :: r :=
  span_at _ l _ (fun c hc => by simp only [bne_iff_ne, ne_eq]; rintro rfl; exact h hc) (fun c r e => by cases e; simp)

theorem span_no_newline (l : List Byte) (h : 10 ∉ l) :
    l.takeWhile (fun b => b != 10) = l ∧ l.dropWhile (fun b => b != 10) = [] := by
  have := span_at (fun b : Byte => b != 10) l [] (fun c hc => by simp only [bne_iff_ne, ne_eq]; rintro rfl; exact h hc)
    (fun _ _ e => by cases e)
  rwa [List.append_nil] at this

theorem takeWhile_ne_all (l : List Byte) (h : 10 ∉ l) : l.takeWhile (fun b => b != 10) = l := (span_no_newline l h).1

/-! ## reading the bytes of a file -/

/-- a file whose header the byte-level reader reads back: ASCII first line without newline,
header lines that satisfy `LineOk`, then the data line -/
structure FileOk {α} (N : NumIO) (F : OvfFile α) (hs : List HLine) (ws : List String) : Prop where
  lines : F.lines = hs ++ [.beginData ws]
  first : ∀ c ∈ F.first.toList, c.toNat < 128 ∧ c ≠ '\n'
  ok : ∀ l ∈ hs, LineOk N l
  words : WordsOk ws

/-- `next(f)` and the header loop: a first line, ended by its newline, then whatever the loop makes of the rest -/
theorem lexBytes_first (l rest : List Byte) (h : 10 ∉ l) :
    lexBytes (l ++ 10 :: rest) = match lexGo rest [] with
      | .error e => .error e
      | .ok p => .ok { first := l, lines := p.1, data := p.2 } := by
  unfold lexBytes
  rw [(span_newline l rest h).1, (span_newline l rest h).2, if_neg (by cases l <;> simp)]
  rfl

theorem lexBytes_partial (l : List Byte) (h : 10 ∉ l) (hne : l ≠ []) :
    lexBytes l = .ok { first := l, lines := [], data := none } := by
  unfold lexBytes
  rw [(span_no_newline l h).1, (span_no_newline l h).2, if_neg (by cases l <;> simp at hne ⊢)]
  rfl

theorem lexBytes_file {α} (N : NumIO) (L : N.Lawful) (F : OvfFile α) (hs : List HLine) (ws : List String)
    (K : FileOk N F hs ws) (tail : List Byte) :
    lexBytes (headerBytes N F ++ tail)
      = .ok { first := utf8Enc F.first.toList, lines := hs.map (rawOf N), data := some (ws, tail) } := by
  unfold headerBytes
  rw [K.lines, List.append_assoc, List.cons_append,
    lexBytes_first _ _ (newline_not_mem_enc _ fun hc => (K.first _ hc).2 rfl), lexGo_header N L hs ws tail K.ok K.words]

theorem toFile_lexed {α} (N : NumIO) (L : N.Lawful) (tb : List Byte → List (List α) × List String)
    (F : OvfFile α) (hs : List HLine) (ws : List String) (K : FileOk N F hs ws) (tail : List Byte) :
    toFile N tb { first := utf8Enc F.first.toList, lines := hs.map (rawOf N), data := some (ws, tail) }
      = { first := F.first, lines := F.lines,
          body := if isBinary ws then .bin tail else .text (tb tail).1 (tb tail).2 } := by
  unfold toFile
  simp only
  rw [latin1_enc _ (fun c hc => (K.first c hc).1), K.lines, List.map_map]
  congr 2
  rw [List.map_congr_left (g := id) (fun l hl => by simpa using toHLine_rawOf N L l (K.ok l hl))]
  simp

/-- **The byte level in one equation**: the bytes of a header the loop reads back (`FileOk`), followed by anything,
are read as the file with that data section. -/
theorem fromOvfBytes_header_append {α} [DecidableEq α] (N : NumIO) (L : N.Lawful)
    (tb : List Byte → List (List α) × List String) (c : Codec α) (isWord : Char → Bool)
    (reserved : String → Bool) (F : OvfFile α) (hs : List HLine) (ws : List String) (K : FileOk N F hs ws)
    (tail : List Byte) (side : Option (List (String × Region))) :
    fromOvfBytes N tb c isWord reserved (headerBytes N F ++ tail) side
      = fromOvf c isWord reserved
          ({ F with body := if isBinary ws then .bin tail else .text (tb tail).1 (tb tail).2 } : OvfFile α) side := by
  unfold fromOvfBytes
  rw [lexBytes_file N L F hs ws K tail]
  dsimp only
  rw [toFile_lexed N L tb F hs ws K tail]

theorem fromOvfBytes_bin {α} [DecidableEq α] (N : NumIO) (L : N.Lawful)
    (tb : List Byte → List (List α) × List String) (c : Codec α) (isWord : Char → Bool)
    (reserved : String → Bool) (F : OvfFile α) (hs : List HLine) (ws : List String) (K : FileOk N F hs ws)
    (hb : isBinary ws = true) (b : List Byte) (hF : F.body = .bin b) (side : Option (List (String × Region))) :
    fromOvfBytes N tb c isWord reserved (fileBytes N F) side = fromOvf c isWord reserved F side := by
  unfold fileBytes
  rw [hF, fromOvfBytes_header_append N L tb c isWord reserved F hs ws K b side, hb, if_pos rfl, ← hF]

/-- the bytes of the header of a text file followed by anything: the byte-level reader sees the file
with the records the model of `read_csv` makes of what follows -/
theorem fromOvfBytes_text_tail {α} [DecidableEq α] (N : NumIO) (L : N.Lawful)
    (tb : List Byte → List (List α) × List String) (c : Codec α) (isWord : Char → Bool)
    (reserved : String → Bool) (F : OvfFile α) (hs : List HLine) (ws : List String) (K : FileOk N F hs ws)
    (hb : isBinary ws = false) (tail : List Byte) (side : Option (List (String × Region))) :
    fromOvfBytes N tb c isWord reserved (headerBytes N F ++ tail) side
      = fromOvf c isWord reserved ({ F with body := .text (tb tail).1 (tb tail).2 } : OvfFile α) side := by
  rw [fromOvfBytes_header_append N L tb c isWord reserved F hs ws K tail side, hb]
  rfl

/-- reading the bytes of a text file = reading the file, when `tb` (pandas) makes the file's rows of the bytes of its data
section -/
theorem fromOvfBytes_text {α} [DecidableEq α] (N : NumIO) (L : N.Lawful)
    (tb : List Byte → List (List α) × List String) (c : Codec α) (isWord : Char → Bool)
    (reserved : String → Bool) (F : OvfFile α) (hs : List HLine) (ws : List String) (K : FileOk N F hs ws)
    (hb : isBinary ws = false) (rows : List (List α)) (footer : List String) (hF : F.body = .text rows footer)
    (tbytes : List Byte) (htb : tb tbytes = (rows, footer)) (side : Option (List (String × Region))) :
    fromOvfBytes N tb c isWord reserved (headerBytes N F ++ tbytes) side = fromOvf c isWord reserved F side := by
  rw [fromOvfBytes_text_tail N L tb c isWord reserved F hs ws K hb tbytes side, htb, ← hF]

/-! ## strict prefixes of the header -/

/-- the header loop found no data section worth the name: it failed, or found no data line, or
found a data line with nothing after it -/
def NoTail : M LexRes → Prop
  | .error _ => True
  | .ok (_, none) => True
  | .ok (_, some (_, rest)) => rest = []

theorem NoTail.prepend {more : M LexRes} (ls : List RawLine) :
    NoTail more → NoTail (match more with | .error e => .error e | .ok p => .ok (ls ++ p.1, p.2)) := by
  intro h
  match more, h with
  | .error _, _ => trivial
  | .ok (_, none), _ => trivial
  | .ok (_, some (_, _)), h => exact h

theorem NoTail.cases {r : M LexRes} (h : NoTail r) :
    (∃ e, r = .error e) ∨ ∃ ls d, r = .ok (ls, d) ∧ (d = none ∨ ∃ ws, d = some (ws, [])) := by
  match r, h with
  | .error e, _ => exact Or.inl ⟨e, rfl⟩
  | .ok (ls, none), _ => exact Or.inr ⟨ls, none, rfl, Or.inl rfl⟩
  | .ok (ls, some (w, rest)), h => exact Or.inr ⟨ls, _, rfl, Or.inr ⟨w, by rw [show rest = [] from h]⟩⟩

/-- what one iteration of the header loop can return: the data line ends the loop with the bytes after it, any other
line is put in front of what the remaining iterations returned -/
theorem onLine_ok_inv (line rest : List Byte) (more : M LexRes) (ls : List RawLine)
    (d : Option (List String × List Byte)) (h : onLine line rest more = .ok (ls, d)) :
    (ls = [] ∧ ∃ ws, d = some (ws, rest)) ∨
      ∃ r p, (∀ ws, r ≠ .data ws) ∧ more = .ok p ∧ ls = r :: p.1 ∧ d = p.2 := by
  unfold onLine at h
  split at h
  · cases h
  · cases hc : classifyLine _ with
    | data ws => rw [hc] at h; cases h; exact Or.inl ⟨rfl, ws, rfl⟩
    | kv k v =>
      rw [hc] at h
      cases more with
      | error e => cases h
      | ok p => cases h; exact Or.inr ⟨.kv k v, p, (fun ws e => by cases e), rfl, rfl, rfl⟩
    | other =>
      rw [hc] at h
      cases more with
      | error e => cases h
      | ok p => cases h; exact Or.inr ⟨.other, p, (fun ws e => by cases e), rfl, rfl, rfl⟩

theorem noTail_onLine_last (line : List Byte) : NoTail (onLine line [] (.ok ([], none))) := by
  cases h : onLine line [] (.ok ([], none)) with
  | error e => trivial
  | ok q =>
    obtain ⟨ls, d⟩ := q
    rcases onLine_ok_inv _ _ _ ls d h with ⟨_, ws, rfl⟩ | ⟨r, p, _, hp, _, rfl⟩
    · exact rfl
    · cases hp; trivial

theorem prefix_append_cases {α} (p a b : List α) (h : p <+: a ++ b) :
    p <+: a ∨ ∃ t, p = a ++ t ∧ t <+: b := by
  induction a generalizing p with
  | nil => exact Or.inr ⟨p, rfl, h⟩
  | cons x a ih =>
    cases p with
    | nil => exact Or.inl (List.nil_prefix)
    | cons y p =>
      rw [List.cons_append, List.cons_prefix_cons] at h
      obtain ⟨rfl, h⟩ := h
      rcases ih p h with h | ⟨t, rfl, ht⟩
      · exact Or.inl (List.cons_prefix_cons.mpr ⟨rfl, h⟩)
      · exact Or.inr ⟨t, rfl, ht⟩

theorem not_mem_of_prefix {α} (x : α) (p l : List α) (h : p <+: l) (hx : x ∉ l) : x ∉ p :=
  fun hp => hx (h.subset hp)

/-- lines, each ended by `\n`: the shape of the header lines, of the rows and of the footer -/
def unlines (ls : List (List Byte)) : List Byte := ls.flatMap (· ++ [10])

theorem unlines_cons (l : List Byte) (ls : List (List Byte)) : unlines (l :: ls) = l ++ 10 :: unlines ls := by
  simp [unlines]

/-- **a prefix of a block of complete lines**: some of the lines, whole, then a piece of the next one (possibly
all of it, without its newline) -/
theorem prefix_unlines (ls : List (List Byte)) (p : List Byte) (hp : p <+: unlines ls) :
    ∃ k q, p = unlines (ls.take k) ++ q ∧ ((k = ls.length ∧ q = []) ∨ ∃ l, ls[k]? = some l ∧ q <+: l) := by
  induction ls generalizing p with
  | nil => exact ⟨0, [], by simpa [unlines] using hp, Or.inl ⟨rfl, rfl⟩⟩
  | cons l ls ih =>
    rw [unlines_cons] at hp
    rcases prefix_append_cases p _ _ hp with h | ⟨t, rfl, ht⟩
    · exact ⟨0, p, rfl, Or.inr ⟨l, rfl, h⟩⟩
    · rcases List.prefix_cons_iff.mp ht with rfl | ⟨t', rfl, ht'⟩
      · exact ⟨0, l, by simp [unlines], Or.inr ⟨l, rfl, List.prefix_refl _⟩⟩
      · obtain ⟨k, q, rfl, hk⟩ := ih t' ht'
        exact ⟨k + 1, q, by simp [unlines_cons], by simpa using hk⟩

theorem noTail_partial (p e : List Byte) (he : 10 ∉ e) (hp : p <+: e) : NoTail (lexGo p []) := by
  rw [lexGo_last p (not_mem_of_prefix 10 p e hp he) [], List.reverse_nil, List.nil_append]
  by_cases h : p.isEmpty = true
  · rw [if_pos h]; trivial
  · rw [if_neg h]; exact noTail_onLine_last p

theorem linesBytes_eq (N : NumIO) (ls : List HLine) :
    linesBytes N ls = unlines (ls.map fun l => utf8Enc (renderLine N l)) := by
  unfold linesBytes unlines; rw [List.flatMap_map]

/-- **every strict prefix of the header bytes** (cut between lines, inside a line, inside a
character): the header loop never gets to a non-empty data section -/
theorem noTail_prefix (N : NumIO) (L : N.Lawful) (hs : List HLine) (ws : List String)
    (hok : ∀ l ∈ hs, LineOk N l) (hws : WordsOk ws) (p : List Byte)
    (hp : p <+: linesBytes N (hs ++ [.beginData ws])) (hne : p ≠ linesBytes N (hs ++ [.beginData ws])) :
    NoTail (lexGo p []) := by
  have hnl : ∀ l ∈ hs ++ [.beginData ws], 10 ∉ utf8Enc (renderLine N l) := by
    intro l hl
    rcases List.mem_append.mp hl with hl | hl
    · exact newline_not_mem_enc _ (newline_not_mem_rendered N L l (hok l hl))
    · rw [List.mem_singleton.mp hl]; exact newline_not_mem_enc _ (newline_not_mem_dataLine N ws hws)
  rw [linesBytes_eq] at hp hne
  -- whole header lines, which the loop reads, then a piece of the next line, which gives no data section
  obtain ⟨k, q, rfl, hk⟩ := prefix_unlines _ p hp
  rcases hk with ⟨rfl, rfl⟩ | ⟨l, hl, hq⟩
  · exact absurd (by rw [List.take_length, List.append_nil]) hne
  · have hk : k ≤ hs.length := by
      have := (List.getElem?_eq_some_iff.mp hl).1
      simp at this; omega
    obtain ⟨x, hx, rfl⟩ := List.mem_map.mp (List.mem_of_getElem? hl)
    rw [← List.map_take, List.take_append_of_le_length hk, ← linesBytes_eq,
      lexGo_lines N L _ (fun x hx => hok x (List.mem_of_mem_take hx))]
    exact (noTail_partial q _ (hnl x hx) hq).prepend _

theorem onLine_nodata (line rest : List Byte) (more : M LexRes) (ls : List RawLine)
    (d : Option (List String × List Byte)) (h : onLine line rest more = .ok (ls, d))
    (hm : ∀ ls' d', more = .ok (ls', d') → ∀ l ∈ ls', ∀ ws, l ≠ .data ws) :
    ∀ l ∈ ls, ∀ ws, l ≠ .data ws := by
  rcases onLine_ok_inv _ _ _ ls d h with ⟨rfl, _⟩ | ⟨r, p, hr, hp, rfl, _⟩
  · intro l hl; cases hl
  · intro l hl
    rcases List.mem_cons.mp hl with rfl | hl
    · exact hr
    · exact hm p.1 p.2 hp l hl

/-- the lines the header loop collects never contain a data line (it stops there) -/
theorem lexGo_nodata (p cur : List Byte) (ls : List RawLine) (d : Option (List String × List Byte))
    (h : lexGo p cur = .ok (ls, d)) : ∀ l ∈ ls, ∀ ws, l ≠ .data ws := by
  induction p generalizing cur ls d with
  | nil =>
    rw [lexGo] at h
    split at h
    · injection h with h; injection h with h1 _; subst h1; intro l hl; cases hl
    · exact onLine_nodata _ _ _ ls d h (fun ls' d' e => by
        injection e with e; injection e with e1 _; subst e1; intro l hl; cases hl)
  | cons b p ih =>
    rw [lexGo] at h
    split at h
    · exact onLine_nodata _ _ _ ls d h (fun ls' d' e => ih [] ls' d' e)
    · exact ih _ ls d h

/-- with nothing after the data line, the data block cannot be read: binary (short read of the
check value, or a width that is not 4 or 8) or text (no rows) -/
theorem readBody_empty {α} [DecidableEq α] (c : Codec α) (v2 : Bool) (ws : List String)
    (footer : List String) (nodes vd : Nat) :
    ∃ e, readBody c v2 ws (if isBinary ws then .bin [] else .text [] footer) nodes vd = .error e := by
  refine err_of_not_ok _ fun flat h => ?_
  cases hb : isBinary ws
  · rw [hb, if_neg Bool.false_ne_true, readBody_text_ok_iff] at h
    -- no records: `read_csv` has nothing to read
    exact ((readText_ok_iff c.nan [] _ vd flat).mp h.2).1 List.take_nil
  · rw [hb, if_pos rfl, readBody_bin_ok_iff] at h
    -- a check value of 4 or 8 bytes cannot be read from no bytes
    obtain ⟨hle, hw, _⟩ := (readBin_ok_iff c v2 _ [] _ vd flat).mp h.2
    simp at hle; omega

theorem fromOvf_empty_body {α} [DecidableEq α] (c : Codec α) (isWord : Char → Bool) (reserved : String → Bool)
    (F : OvfFile α) (side : Option (List (String × Region))) (ls : List HLine) (ws : List String)
    (hl : F.lines = ls ++ [.beginData ws]) (hnd : ∀ l ∈ ls, ∀ w, l ≠ .beginData w)
    (footer : List String) (hb : F.body = if isBinary ws then .bin [] else .text [] footer) :
    ∃ e, fromOvf c isWord reserved F side = .error e := by
  refine err_of_not_ok _ fun g hres => ?_
  obtain ⟨p, _, _, _, hp, _⟩ := (fromOvf_ok_iff c isWord reserved F side g).mp hres
  obtain ⟨ws', nodes, hscan, _, _, _, _, _, hflat⟩ := (parse_ok_iff c F p).mp hp
  rw [hl, scan_kvs ls ws [] hnd] at hscan
  injection hscan with hscan
  injection hscan with _ hws
  subst hws
  rw [hb] at hflat
  obtain ⟨e, he⟩ := readBody_empty c (isV2 F.first) ws footer (natProd nodes) p.vd
  rw [he] at hflat
  cases hflat

theorem toHLine_nodata (N : NumIO) (ls : List RawLine) (h : ∀ l ∈ ls, ∀ ws, l ≠ .data ws) :
    ∀ l ∈ ls.map (toHLine N), ∀ w, l ≠ .beginData w := by
  intro l hl w
  obtain ⟨r, hr, rfl⟩ := List.mem_map.mp hl
  cases r with
  | kv k v => intro hc; cases hc
  | other => intro hc; cases hc
  | data ws => exact absurd rfl (h _ hr ws)

theorem fromOvf_noTail {α} [DecidableEq α] (N : NumIO) (tb : List Byte → List (List α) × List String)
    (htb : (tb []).1 = []) (c : Codec α) (isWord : Char → Bool) (reserved : String → Bool)
    (L : Lexed) (side : Option (List (String × Region)))
    (hnd : ∀ l ∈ L.lines, ∀ ws, l ≠ .data ws)
    (hd : L.data = none ∨ ∃ ws, L.data = some (ws, [])) :
    ∃ e, fromOvf c isWord reserved (toFile N tb L) side = .error e := by
  rcases hd with hd | ⟨ws, hd⟩
  · refine ⟨.runtime, ?_⟩
    refine fromOvf_error_of_parse _ _ _ _ _ _ (parse_no_data c _ ?_)
    unfold toFile
    rw [hd]
    exact scan_none_of_no_data _ [] (toHLine_nodata N _ hnd)
  · apply fromOvf_empty_body c isWord reserved _ side (L.lines.map (toHLine N)) ws
      (by unfold toFile; rw [hd]) (toHLine_nodata N _ hnd) (tb []).2
    unfold toFile; rw [hd]; simp only [htb]

/-- **a file cut anywhere inside its header is rejected**: before the end of the first line,
between header lines, inside a header line, inside a multi-byte character, inside the data
line or just before its newline -/
theorem header_prefix_rejected {α} [DecidableEq α] (N : NumIO) (L : N.Lawful)
    (tb : List Byte → List (List α) × List String) (htb : (tb []).1 = [])
    (c : Codec α) (isWord : Char → Bool) (reserved : String → Bool)
    (F : OvfFile α) (hs : List HLine) (ws : List String) (K : FileOk N F hs ws)
    (P : List Byte) (hP : P <+: headerBytes N F) (hne : P ≠ headerBytes N F)
    (side : Option (List (String × Region))) :
    ∃ e, fromOvfBytes N tb c isWord reserved P side = .error e := by
  have hnl : 10 ∉ utf8Enc F.first.toList := newline_not_mem_enc _ (fun hc => (K.first _ hc).2 rfl)
  unfold headerBytes at hP hne
  rw [K.lines] at hP hne
  -- the cut lies in the first line (or just before its newline), or after it
  have first_case : ∀ Q, Q <+: utf8Enc F.first.toList → ∃ e, fromOvfBytes N tb c isWord reserved Q side = .error e := by
    intro Q hQ
    cases Q with
    | nil => exact ⟨_, rfl⟩
    | cons b Q =>
      unfold fromOvfBytes
      rw [lexBytes_partial _ (not_mem_of_prefix 10 _ _ hQ hnl) (by simp)]
      exact fromOvf_noTail N tb htb c isWord reserved _ side (fun l hl => by cases hl) (Or.inl rfl)
  rcases prefix_append_cases P _ _ hP with h | ⟨t, rfl, ht⟩
  · exact first_case P h
  · rcases List.prefix_cons_iff.mp ht with rfl | ⟨t', rfl, ht'⟩
    · rw [List.append_nil]; exact first_case _ (List.prefix_refl _)
    · have key := noTail_prefix N L hs ws K.ok K.words t' ht' fun h => hne (by rw [h])
      have nd := lexGo_nodata t' []
      unfold fromOvfBytes
      rw [lexBytes_first _ _ hnl]
      rcases key.cases with ⟨e, hr⟩ | ⟨ls, d, hr, hd⟩
      · rw [hr]; exact ⟨e, rfl⟩
      · rw [hr]; exact fromOvf_noTail N tb htb c isWord reserved _ side (nd ls d hr) hd

end DFV.C09
