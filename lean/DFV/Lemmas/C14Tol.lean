import DFV.Lemmas.C14Setter
/-! C14: the tolerant tests of the subregion setter at mesh level, in exact rational arithmetic: how
`is_aligned` behaves when all lengths are multiplied by `s > 0` (the inside and divisibility tests
are relative, the alignment test is ABSOLUTE — finding D18), that an exact fit stays one at every length scale, the
comparison tolerance `band` of the inside test (`Props/C14.inside_iff_tolerance`), what of the candidate region the
setter's outcome depends on, and what the copying form of a mesh step rests on.  The tests on numbers are in `C14Rem`. -/
namespace DFV.C14
open DFV DFV.T DFV.Mesh

/-! ## change of length scale -/

/-- all lengths of a region multiplied by `s` -/
def scaleReg (s : Rat) (r : Region) : Region := { r with pmin := r.pmin.map (s * ·), pmax := r.pmax.map (s * ·) }

/-- all lengths of a mesh multiplied by `s` (same counts) -/
def scaleMesh (s : Rat) (m : Mesh) : Mesh := { m with region := scaleReg s m.region, subs := m.subs.map fun p => (p.1, scaleReg s p.2) }

theorem scaleReg_lo (s : Rat) (r : Region) (a : Nat) : (scaleReg s r).lo a = s * r.lo a :=
  getD_map_of_eq (mul_zero s) r.pmin a

theorem scaleReg_hi (s : Rat) (r : Region) (a : Nat) : (scaleReg s r).hi a = s * r.hi a :=
  getD_map_of_eq (mul_zero s) r.pmax a

theorem scaleReg_pmin_length (s : Rat) (r : Region) : (scaleReg s r).pmin.length = r.pmin.length := List.length_map _

theorem scaleReg_pmax_length (s : Rat) (r : Region) : (scaleReg s r).pmax.length = r.pmax.length := List.length_map _

theorem scaleMesh_ndim (s : Rat) (m : Mesh) : (scaleMesh s m).ndim = m.ndim := scaleReg_pmin_length s m.region

theorem scaleMesh_cellAt (s : Rat) (m : Mesh) (a : Nat) : (scaleMesh s m).cellAt a = s * m.cellAt a := by
  unfold Mesh.cellAt Region.edge
  show ((scaleReg s m.region).hi a - (scaleReg s m.region).lo a) / (m.nAt a : Rat) = _
  rw [scaleReg_hi, scaleReg_lo]; ring

/-- **`is_aligned` at length scale `s`** (both meshes scaled, default or any absolute tolerance `t`)
**is `is_aligned` at the original scale with tolerance `t / s`**: enlarging a mesh by `10⁶` makes the
test `10⁶` times stricter — exactly aligned boxes whose coordinates carry rounding errors above
`10⁻¹²` are then refused —, shrinking it by `10¹²` makes it accept everything (D18 delimited). -/
theorem isAligned_scale (s : Rat) (hs : 0 < s) (m o : Mesh) (t : Rat) :
    isAligned (scaleMesh s m) (scaleMesh s o) t = isAligned m o (t / s) := by
  have hlo : ∀ a, (scaleMesh s m).region.lo a - (scaleMesh s o).region.lo a = s * (m.region.lo a - o.region.lo a) :=
    fun a => by show (scaleReg s m.region).lo a - (scaleReg s o.region).lo a = _; rw [scaleReg_lo, scaleReg_lo, mul_sub]
  have hhi : ∀ a, (scaleMesh s m).region.hi a - (scaleMesh s o).region.hi a = s * (m.region.hi a - o.region.hi a) :=
    fun a => by show (scaleReg s m.region).hi a - (scaleReg s o.region).hi a = _; rw [scaleReg_hi, scaleReg_hi, mul_sub]
  unfold isAligned
  simp only [scaleMesh_ndim, hlo, hhi, scaleMesh_cellAt, allcloseAx_scale s _ _ t hs, misalignedAx_scale s _ _ t hs]

/-! ## exact fits at every length scale -/

theorem scaleReg_inv (σ : Rat) (hσ : 0 < σ) (r : Region) (hr : r.Inv) : (scaleReg σ r).Inv := by
  obtain ⟨h1, h2, h3, h4, h5, h6⟩ := hr
  have e1 := scaleReg_pmin_length σ r
  refine ⟨e1 ▸ h1, (scaleReg_pmax_length σ r).trans (h2.trans e1.symm), h3.trans e1.symm, h4.trans e1.symm, h5, ?_⟩
  intro a ha
  have ha' : a < r.pmin.length := e1 ▸ ha
  rw [scaleReg_lo, scaleReg_hi]
  exact mul_lt_mul_of_pos_left (h6 a ha') hσ

theorem scaleMesh_inv (σ : Rat) (hσ : 0 < σ) (m : Mesh) (hm : m.Inv) : (scaleMesh σ m).Inv := by
  obtain ⟨h1, h2, h3⟩ := hm
  have hnd := scaleMesh_ndim σ m
  refine ⟨scaleReg_inv σ hσ _ h1, ?_, ?_⟩
  · exact h2.trans hnd.symm
  · intro a ha; rw [hnd] at ha; exact h3 a ha

theorem fitsE_scale (σ : Rat) (m : Mesh) (s : Region) (h : FitsE m s) : FitsE (scaleMesh σ m) (scaleReg σ s) := by
  obtain ⟨h1, h2, h3⟩ := h
  have hnd := scaleMesh_ndim σ m
  refine ⟨(scaleReg_pmin_length σ s).trans (h1.trans hnd.symm), (scaleReg_pmax_length σ s).trans (h2.trans hnd.symm), ?_⟩
  intro a ha
  rw [hnd] at ha
  obtain ⟨z, w, hz0, hw0, hzw, hz, hw⟩ := h3 a ha
  refine ⟨z, w, hz0, hw0, hzw, ?_, ?_⟩
  · show (scaleReg σ s).lo a - (scaleReg σ m.region).lo a = _
    rw [scaleReg_lo, scaleReg_lo, scaleMesh_cellAt, ← mul_sub, hz]; ring
  · rw [scaleReg_lo, scaleReg_hi, scaleMesh_cellAt, ← mul_sub, hw]; ring

/-- comparison tolerance of `Region.__contains__` at coordinate `x`; same as `C01.band` (definitionally: the
C01 lemmas apply as they are) -/
def band (r : Region) (x : Rat) : Rat := r.atol + r.tol * |x|

/-! ## what the setter's outcome depends on -/

/-- one candidate of the setter, with the constructor call spelled out -/
theorem subOk_eq (m : Mesh) (s : Region) :
    subOk m s = (m.region.containsReg s && (mkCellOk s m.cell &&
      isAligned m { region := s, n := tab s.ndim fun a => (roundHalfEven (s.edge a / m.cell.getD a 0)).toNat, bc := "", subs := [] })) := by
  unfold subOk
  rw [mkCell?_eq]
  -- `false`: both sides are `false`; `true`: the `match` reduces
  cases mkCellOk s m.cell <;> simp

/-- the setter's tests look only at the region and the counts of the mesh -/
theorem subOk_congr (m m' : Mesh) (s : Region) (hr : m'.region = m.region) (hn : m'.n = m.n) : subOk m' s = subOk m s := by
  cases m; cases m'
  simp only at hr hn
  subst hr; subst hn
  rfl

/-- `is_aligned` looks at the corners and counts of the other mesh only -/
theorem isAligned_congr_right (m o o' : Mesh) (t : Rat) (h1 : o'.region.pmin = o.region.pmin) (h2 : o'.region.pmax = o.region.pmax)
    (hn : o'.n = o.n) : isAligned m o' t = isAligned m o t := by
  unfold isAligned Mesh.cellAt Mesh.nAt Region.edge Region.lo Region.hi
  rw [h1, h2, hn]

/-- **the three tests `subOk`, made on a region as given, depend on its two corners and its own tolerance
factor only — never on its dimension names or units** -/
theorem subOk_indep_names (m : Mesh) (s : Region) (d u : List String) :
    subOk m { s with dims := d, units := u } = subOk m s := by
  rw [subOk_eq, subOk_eq]
  rfl

/-- the candidate's own tolerance factor enters through one test only — "the cell must not exceed the
region", `Mesh(region = candidate, cell = mesh.cell)` — which passes for EVERY tolerance factor as soon
as the candidate is at least one cell long on every axis; so for such candidates (all exactly fitting
ones, and all that the divisibility test would let through with `n ≥ 1` except boxes shorter than a
cell by less than 0.1 %) **the verdict does not depend on the candidate's tolerance factor** -/
theorem subOk_indep_tol (m : Mesh) (s : Region) (t' : Rat)
    (hpos : ∀ a, a < s.ndim → 0 ≤ m.cell.getD a 0)
    (hfit : ∀ a, a < s.ndim → s.lo a + m.cell.getD a 0 ≤ s.hi a) :
    subOk m { s with tol := t' } = subOk m s := by
  rw [subOk_eq, subOk_eq]
  have key : ∀ r : Region, r.pmin = s.pmin → r.pmax = s.pmax →
      r.containsPt (tab r.ndim fun a => r.lo a + m.cell.getD a 0) = true := by
    intro r e1 e2
    refine C01.containsPt_of_exact r _ ⟨tab_length _ _, fun a ha => ?_⟩
    rw [getD_tab _ _ _ _ ha]
    have hnd : r.ndim = s.ndim := by unfold Region.ndim; rw [e1]
    have hlo : r.lo a = s.lo a := by unfold Region.lo; rw [e1]
    have hhi : r.hi a = s.hi a := by unfold Region.hi; rw [e2]
    rw [hnd] at ha
    exact ⟨le_add_of_nonneg_right (hpos a ha), by rw [hlo, hhi]; exact hfit a ha⟩
  have k1 := key s rfl rfl
  have k2 := key { s with tol := t' } rfl rfl
  unfold mkCellOk
  rw [k1, k2]
  rfl

/-! ## the setter's check `candOk` (repo fix 5591fed0): independent of the candidate's metadata -/

/-- **the setter's verdict on a candidate depends on its two corners only** — not on its dimension
names, units or its own tolerance factor: the tests are made on the copy re-created with the mesh
region's metadata (a candidate of another dimension is refused whatever it carries) -/
theorem candOk_indep (m : Mesh) (s : Region) (d u : List String) (t : Rat) :
    candOk m { s with dims := d, units := u, tol := t } = candOk m s := by
  unfold candOk
  by_cases h : s.ndim = m.ndim
  · have h' : ({ s with dims := d, units := u, tol := t } : Region).ndim = m.ndim := h
    rw [if_pos h, if_pos h']
    rfl
  · have h' : ¬ ({ s with dims := d, units := u, tol := t } : Region).ndim = m.ndim := h
    rw [if_neg h, if_neg h']
    have hf : ∀ c : Region, c.pmin.length ≠ m.region.ndim → subOk m c = false :=
      fun c hc => Bool.eq_false_iff.mpr fun hok => hc (subOk_ndim m c hok)
    rw [hf s h]; exact hf _ h

/-- … and, like the tests, on the region and the counts of the mesh only -/
theorem candOk_congr (m m' : Mesh) (s : Region) (hr : m'.region = m.region) (hn : m'.n = m.n) : candOk m' s = candOk m s := by
  unfold candOk Mesh.ndim
  rw [hr, subOk_congr m m' _ hr hn]

end DFV.C14

/-! ## the copying form of a mesh step, for subregions that are proper regions but need not fit

What `Props/C14.copy_form_is_constructor_of_inplace` and `copy_accepted_iff_inplace_passes` rest on: on a proper region an
accepted step returns `applyR` in whichever form it is called (`stepR_reform`), so the region step and the subregion steps of
a mesh step do not depend on the form (`stepMU_parts_flag`); a mesh step is then the assignment or the constructor
(`stepM_of_parts`).  Declared in `DFV.T`, next to `stepM` / `mkMesh?`. -/
namespace DFV.T
open DFV DFV.C14

/-- on a proper region an accepted step returns `applyR`, in whichever form it is called -/
theorem stepR_reform (r : Region) (hr : r.Inv) (op : Op) (b b' : Bool) (x ret : Region)
    (h : stepR r (op.withInplace b) = .ok (x, ret)) :
    ret = applyR r op ∧ stepR r (op.withInplace b') = .ok (if b' then ret else r, ret) := by
  obtain ⟨hmal, rfl, _⟩ := (stepR_ok_iff r hr _ _ _).mp h
  rw [malformed_withInplace] at hmal
  rw [applyR_withInplace]
  exact ⟨rfl, (stepR_ok_iff r hr _ _ _).mpr
    ⟨by rwa [malformed_withInplace], (applyR_withInplace r op b').symm, by rw [inplace_withInplace]⟩⟩

/-- the region step and the subregion steps of a mesh step do not depend on the form — for subregions that are proper
regions (no exact fit, no common names needed): every accepted subregion step returns `applyR` -/
theorem stepMU_parts_flag (m : Mesh) (hm : m.Inv) (hp : ∀ p ∈ m.subs, p.2.Inv) (op : Op) (b b' : Bool) (x r' : Region)
    (subs' : List (String × Region))
    (hreg : stepR m.region (op.withInplace b) = .ok (x, r'))
    (hsub : mapSubs m.subs (fun s => stepR s (subOp m (op.withInplace b))) = .ok subs') :
    stepR m.region (op.withInplace b') = .ok (if b' then r' else m.region, r') ∧
    mapSubs m.subs (fun s => stepR s (subOp m (op.withInplace b'))) = .ok subs' := by
  have key : ∀ b'', mapSubs m.subs (fun s => stepR s (subOp m (op.withInplace b''))) =
      .ok (m.subs.map fun p => (p.1, applyR p.2 (subOp m op))) := fun b'' =>
    mapSubs_eq_map m.subs _ (fun s => applyR s (subOp m op)) fun p hpm => by
      obtain ⟨x, y, hy⟩ := (mapSubs_ok_mem _ _ _ hsub).1 p hpm
      rw [subOp_withInplace] at hy
      obtain ⟨rfl, h2⟩ := stepR_reform p.2 (hp p hpm) (subOp m op) b b'' x y hy
      exact ⟨_, (congrArg (stepR p.2) (subOp_withInplace m op b'')).trans h2⟩
  rw [key b] at hsub
  exact ⟨(stepR_reform _ hm.1 op b b' x r' hreg).2, (key b').trans hsub⟩

/-- a mesh step whose region step and subregion steps are accepted is the assignment (in place) or the constructor (copying) -/
theorem stepM_of_parts (m : Mesh) (op : Op) (x r' : Region) (subs' : List (String × Region))
    (hreg : stepR m.region op = .ok (x, r')) (hsub : mapSubs m.subs (fun s => stepR s (subOp m op)) = .ok subs') :
    stepM m op =
      if op.inplace then .ok ({ m with region := r', n := opN m op, bc := opBc m op, subs := subs' },
                              { m with region := r', n := opN m op, bc := opBc m op, subs := subs' })
      else match mkMesh? r' (opN m op) (opBc m op) subs' with
        | .error e => .error e
        | .ok m' => .ok (m, m') := by
  rw [stepM_eq_stepMU]; unfold stepMU; rw [hreg, hsub]
  rfl

end DFV.T
