import DFV.Lemmas.C02Dict
import DFV.Lemmas.C02Aligned
/-! C02: the dictionary overload on a mesh whose subregions are unions of cells — what the loop
writes for such a subregion, which subregion supplies a cell, progress of the loop. -/
namespace DFV.C02
open DFV DFV.Mesh

variable {V : Type} [Inhabited V]

/-- on a subregion that is the union of the cells `k1 ≤ i < k2` the body looks the key up, converts its
value on the submesh and takes the result as it is: the slices are the index box, and the submesh has the
shape of the box -/
theorem patchOf_aligned (isZero : V → Bool) (items : List (String × Leaf V)) (m : Mesh) (hm : m.Inv) (nv : Nat)
    (p : String × Region) (k1 k2 : Nat → Nat) (hal : AlignedSub m p.2 k1 k2) :
    patchOf isZero items m nv p =
      match lookupLeaf items p.1 with
      | none => .ok none
      | some l =>
        match asLeaf isZero l (subMeshOf m p.2 k1 k2) nv with
        | .error e => .error e
        | .ok sub => .ok (some ((tab m.ndim k1, tab m.ndim k2), ⟨(subMeshOf m p.2 k1 k2).n ++ [nv],
            fun j => sub.get (bcastIdx ((subMeshOf m p.2 k1 k2).n ++ [nv]) sub.shape j)⟩)) := by
  have hreg : (subMeshOf m p.2 k1 k2).region = p.2 := rfl
  simp only [patchOf, mkCell_aligned m hm p.2 k1 k2 hal, hreg, region2slices_spec m hm p.2 k1 k2 hal, boxShape_tab]
  cases lookupLeaf items p.1 with
  | none => rfl
  | some l =>
    dsimp only
    cases hsub : asLeaf isZero l (subMeshOf m p.2 k1 k2) nv with
    | error e => rfl
    | ok sub =>
      dsimp only [bcast]
      rw [if_pos (by rw [asLeaf_shape isZero l _ nv sub hsub]; exact bcastOk_self _)]
      rfl

theorem patchOf_aligned_ok_iff (isZero : V → Bool) (items : List (String × Leaf V)) (m : Mesh) (hm : m.Inv) (nv : Nat)
    (p : String × Region) (k1 k2 : Nat → Nat) (hal : AlignedSub m p.2 k1 k2) :
    (∃ o, patchOf isZero items m nv p = .ok o) ↔
      ∀ lf, lookupLeaf items p.1 = some lf → Leaf.WF isZero lf (subMeshOf m p.2 k1 k2) nv := by
  rw [patchOf_aligned isZero items m hm nv p k1 k2 hal]
  cases lookupLeaf items p.1 with
  | none => exact ⟨fun _ _ h => (nomatch h), fun _ => ⟨_, rfl⟩⟩
  | some l =>
    dsimp only
    cases hsub : asLeaf isZero l (subMeshOf m p.2 k1 k2) nv with
    | error e =>
      exact ⟨fun ⟨_, h⟩ => (nomatch h), fun h => by rw [asLeaf_ok_of_wf isZero l _ nv (h l rfl)] at hsub; cases hsub⟩
    | ok sub => exact ⟨fun _ lf h => Option.some.inj h ▸ wf_of_asLeaf_ok isZero l _ nv sub hsub, fun _ => ⟨_, rfl⟩⟩

theorem patchVal_aligned (isZero : V → Bool) (items : List (String × Leaf V)) (m : Mesh) (hm : m.Inv) (nv : Nat)
    (p : String × Region) (k1 k2 : Nat → Nat) (hal : AlignedSub m p.2 k1 k2)
    (l : Leaf V) (hl : lookupLeaf items p.1 = some l) (hwf : Leaf.WF isZero l (subMeshOf m p.2 k1 k2) nv)
    (i : List Nat) (hi : i.length = m.ndim) (c : Nat) (hc : c < nv) :
    patchVal isZero items m nv p (i ++ [c]) =
      if inBox (tab m.ndim k1) (tab m.ndim k2) (i ++ [c])
      then some ((leafArr l (subMeshOf m p.2 k1 k2) nv).get (subIdx m k1 i ++ [c])) else none := by
  rw [patchVal_eq, patchOf_aligned isZero items m hm nv p k1 k2 hal, hl]
  dsimp only
  rw [asLeaf_ok_of_wf isZero l _ nv hwf]
  dsimp only [patchGet]
  by_cases hb : inBox (tab m.ndim k1) (tab m.ndim k2) (i ++ [c]) = true
  · rw [if_pos hb, if_pos hb, localIdx_snoc m k1 i hi c, leafArr_shape isZero l _ nv hwf, bcastIdx_self]
    show inRange ((tab m.ndim fun a => k2 a - k1 a) ++ [nv]) (subIdx m k1 i ++ [c]) = true
    exact inRange_snoc_of (subIdx_inRange m k1 k2 i hi [c] hb) hc
  · rw [if_neg hb, if_neg hb]

/-! ### which subregion supplies a cell -/

/-- entry `j` of the array a leaf converts to on mesh `sm` -/
def leafVal (isZero : V → Bool) (l : Leaf V) (sm : Mesh) (nv : Nat) (j : List Nat) : V :=
  match asLeaf isZero l sm nv with
  | .ok sub => sub.get j
  | .error _ => default

/-- subregion `p` is a key of the value dictionary and its index box contains cell `i` -/
def hits (items : List (String × Leaf V)) (m : Mesh) (k1 k2 : String × Region → Nat → Nat) (i : List Nat)
    (p : String × Region) : Bool :=
  (lookupLeaf items p.1).isSome && inBox (tab m.ndim (k1 p)) (tab m.ndim (k2 p)) i

/-- value subregion `p`'s entry of the dictionary assigns to component `c` of mesh cell `i` -/
def cellOf (isZero : V → Bool) (items : List (String × Leaf V)) (m : Mesh) (nv : Nat)
    (k1 k2 : String × Region → Nat → Nat) (i : List Nat) (c : Nat) (p : String × Region) : V :=
  match lookupLeaf items p.1 with
  | some lf => leafVal isZero lf (subMeshOf m p.2 (k1 p) (k2 p)) nv (subIdx m (k1 p) i ++ [c])
  | none => default

theorem cellOf_of_ok (isZero : V → Bool) (items : List (String × Leaf V)) (m : Mesh) (nv : Nat)
    (k1 k2 : String × Region → Nat → Nat) (i : List Nat) (c : Nat) (p : String × Region) (lf : Leaf V)
    (hl : lookupLeaf items p.1 = some lf) (b : NDA V)
    (hb : asLeaf isZero lf (subMeshOf m p.2 (k1 p) (k2 p)) nv = .ok b) :
    cellOf isZero items m nv k1 k2 i c p = b.get (subIdx m (k1 p) i ++ [c]) := by
  simp only [cellOf, hl, leafVal, hb]

omit [Inhabited V] in
/-- a hit lies in the index box; stated as the instance `rest = []` of the hypothesis `inBox … (i ++ rest)` that
`inBox_iff_centre`, `subIdx_inRange` and `subMesh_centre` take -/
theorem hits_inBox (items : List (String × Leaf V)) (m : Mesh) (k1 k2 : String × Region → Nat → Nat)
    (i : List Nat) (p : String × Region) (h : hits items m k1 k2 i p = true) :
    inBox (tab m.ndim (k1 p)) (tab m.ndim (k2 p)) (i ++ []) = true := by
  rw [hits, Bool.and_eq_true] at h
  rw [List.append_nil]
  exact h.2

omit [Inhabited V] in
theorem lookupLeaf_mem (items : List (String × Leaf V)) (name : String) (lf : Leaf V)
    (h : lookupLeaf items name = some lf) : ∃ q ∈ items, q.2 = lf := by
  unfold lookupLeaf at h
  cases hf : items.find? (fun p => p.1 == name) with
  | none => rw [hf] at h; cases h
  | some q =>
    rw [hf] at h
    simp only [Option.map_some, Option.some.injEq] at h
    exact ⟨q, List.mem_of_find?_eq_some hf, h⟩

/-- with every listed leaf well formed on its submesh: the first subregion writing the entry is the first
listed subregion that is a key of the dictionary and whose box contains the cell -/
theorem findSome_patch (isZero : V → Bool) (items : List (String × Leaf V)) (m : Mesh) (hm : m.Inv) (nv : Nat)
    (k1 k2 : String × Region → Nat → Nat) (i : List Nat) (hi : i.length = m.ndim) (c : Nat) (hc : c < nv)
    (l : List (String × Region))
    (hal : ∀ p ∈ l, AlignedSub m p.2 (k1 p) (k2 p))
    (hwf : ∀ p ∈ l, ∀ lf, lookupLeaf items p.1 = some lf → Leaf.WF isZero lf (subMeshOf m p.2 (k1 p) (k2 p)) nv) :
    (l.findSome? fun p => patchVal isZero items m nv p (i ++ [c])) =
      (l.find? (hits items m k1 k2 i)).map (cellOf isZero items m nv k1 k2 i c) := by
  induction l with
  | nil => rfl
  | cons p rest ih =>
    have ih' := ih (fun q hq => hal q (by simp [hq])) (fun q hq => hwf q (by simp [hq]))
    simp only [List.findSome?_cons, List.find?_cons]
    cases hl : lookupLeaf items p.1 with
    | none =>
      rw [patchVal_unlisted isZero items m nv p _ hl]
      have : hits items m k1 k2 i p = false := by simp [hits, hl]
      simp only [this]
      exact ih'
    | some lf =>
      have hlf := hwf p (by simp) lf hl
      rw [patchVal_aligned isZero items m hm nv p (k1 p) (k2 p) (hal p (by simp)) lf hl hlf i hi c hc]
      have hb : inBox (tab m.ndim (k1 p)) (tab m.ndim (k2 p)) (i ++ [c]) =
          inBox (tab m.ndim (k1 p)) (tab m.ndim (k2 p)) i := inBox_append _ _ _ _ (by simp [hi])
      have hh : hits items m k1 k2 i p = inBox (tab m.ndim (k1 p)) (tab m.ndim (k2 p)) i := by simp [hits, hl]
      rw [hb, hh]
      by_cases hbox : inBox (tab m.ndim (k1 p)) (tab m.ndim (k2 p)) i = true
      · simp only [hbox, if_true, Option.map_some]
        rw [cellOf_of_ok isZero items m nv k1 k2 i c p lf hl _ (asLeaf_ok_of_wf isZero lf _ nv hlf)]
      · simp only [hbox, Bool.false_eq_true, if_false]
        exact ih'

/-- on a mesh whose subregions are unions of cells the loop runs through exactly when every listed value is
well formed on its submesh — also the value of a subregion completely hidden behind earlier ones -/
theorem dictLoop_aligned_ok_iff (isZero : V → Bool) (items : List (String × Leaf V)) (m : Mesh) (hm : m.Inv) (nv : Nat)
    (k1 k2 : String × Region → Nat → Nat) (hal : ∀ p ∈ m.subs, AlignedSub m p.2 (k1 p) (k2 p))
    (a0 : NDA (Option V)) :
    (∃ a1, dictLoop isZero items m nv m.subs.reverse a0 = .ok a1) ↔
      ∀ p ∈ m.subs, ∀ lf, lookupLeaf items p.1 = some lf → Leaf.WF isZero lf (subMeshOf m p.2 (k1 p) (k2 p)) nv := by
  rw [dictLoop_ok_iff]
  simp only [List.mem_reverse]
  exact forall₂_congr fun p hp => patchOf_aligned_ok_iff isZero items m hm nv p (k1 p) (k2 p) (hal p hp)

end DFV.C02
