import DFV.Model.C16
import DFV.Lemmas.C14Setter
/-! concrete fields used by the non-vacuity `example`s of `Props/C16.lean`, with the hypotheses
the theorems ask of them -/
namespace DFV.C16
open DFV DFV.Mesh

/-- a 2 × 1 × 2 anisotropic mesh with negative offset, two labelled components, one invalid
cell and a one-cell subregion -/
def exField : Fld :=
  { mesh := { region := { pmin := [-1, 0, 1/2], pmax := [1, 3, 3/2], dims := ["x", "y", "z"],
                          units := ["m", "m", "m"], tol := 1/1000000000000 },
              n := [2, 1, 2], bc := "",
              subs := [("s", { pmin := [0, 0, 1/2], pmax := [1, 3, 1], dims := ["x", "y", "z"],
                               units := ["m", "m", "m"], tol := 1/1000000000000 })] },
    nvdim := 2,
    data := NDA.ofList [2, 1, 2] [[3, 4], [0, -1], [5, 12], [7, 1/2]] [],
    valid := NDA.ofList [2, 1, 2] [true, false, true, true] false,
    vdims := some ["a", "b"], vmap := [], unit := none }

theorem exField_wf : WF exField 2 1 2 :=
  ⟨C01.mesh_inv_of_invB _ (by decide +kernel), rfl, rfl, rfl, by decide,
    fun _ => ⟨["a", "b"], rfl, rfl, by decide, by decide, by decide, by decide⟩⟩

/-- a rounding that keeps multiples of 1/8 (stand-in for the text writer's ten digits) -/
def rnd8 (q : Rat) : Rat := ((q * 8 + 1/2).floor : Rat) / 8

/-- the example field on a region whose x edge (2/3, cell 1/3) no multiple of 1/8 holds, with a
subregion of one cell in x -/
def exThird : Fld :=
  { exField with mesh := { region := { exField.mesh.region with pmin := [0, 0, 0], pmax := [2/3, 3, 1] },
                           n := [2, 1, 2], bc := "",
                           subs := [("s", { exField.mesh.region with pmin := [0, 0, 0], pmax := [1/3, 3, 1/2] })] } }

theorem exField_subinv : C14.SubInv exField.mesh := by
  intro p hp
  simp only [exField, List.mem_singleton] at hp
  subst hp
  refine ⟨rfl, rfl, rfl, rfl, rfl, ?_⟩
  intro a ha
  have : a = 0 ∨ a = 1 ∨ a = 2 := by
    have : a < 3 := ha
    omega
  rcases this with rfl | rfl | rfl
  · exact ⟨1, 1, by decide, by decide, by decide, by decide +kernel, by decide +kernel⟩
  · exact ⟨0, 1, by decide, by decide, by decide, by decide +kernel, by decide +kernel⟩
  · exact ⟨0, 1, by decide, by decide, by decide, by decide +kernel, by decide +kernel⟩

end DFV.C16
