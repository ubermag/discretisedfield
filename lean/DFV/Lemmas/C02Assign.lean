import Mathlib.Data.List.Nodup
import DFV.Lemmas.C02Accept
/-! C02: sequences of assignments.  Histories on one field (the array held is that of the last
accepted assignment), and sessions with a store of arrays: every assignment stores a NEW array,
so no two field objects ever share their array and an in-place change of one array is seen by its
holder only. -/
namespace DFV.C02
open DFV

variable {V : Type} [Inhabited V]

/-! ### histories on one field -/

/-- the array an assignment produces on mesh `m` with `nv` components — it does not depend on what
the field held before -/
def Assign.result (isZero : V → Bool) (m : Mesh) (nv : Nat) : Assign V → M (NDA V)
  | .set l => asLeaf isZero l m nv
  | .upd s => updateValues isZero s m nv
  | .setS s => asArray isZero s m nv

/-- array of the last accepted assignment of a history (`acc` if there is none) -/
def lastResult (isZero : V → Bool) (m : Mesh) (nv : Nat) (acc : Option (NDA V)) (ops : List (Assign V)) :
    Option (NDA V) :=
  ops.foldl (fun acc op => match Assign.result isZero m nv op with
    | .ok a => some a
    | .error _ => acc) acc

/-- field `f` with the array replaced (or kept) -/
def withData (f : VF V) (o : Option (NDA V)) : VF V :=
  match o with
  | none => f
  | some a => { f with data := a }

theorem step_eq (isZero : V → Bool) (f : VF V) (op : Assign V) :
    VF.step isZero f op = match Assign.result isZero f.mesh f.nvdim op with
      | .ok a => { f with data := a }
      | .error _ => f := by
  cases op with
  | set l =>
    simp only [VF.step, setArray_eq, Assign.result]
    cases asLeaf isZero l f.mesh f.nvdim <;> rfl
  | upd s =>
    simp only [VF.step, update_eq, Assign.result]
    cases updateValues isZero s f.mesh f.nvdim <;> rfl
  | setS s =>
    simp only [VF.step, setSpec_eq, Assign.result]
    cases asArray isZero s f.mesh f.nvdim <;> rfl

theorem step_withData (isZero : V → Bool) (f : VF V) (acc : Option (NDA V)) (op : Assign V) :
    VF.step isZero (withData f acc) op = withData f (match Assign.result isZero f.mesh f.nvdim op with
      | .ok a => some a
      | .error _ => acc) := by
  rw [step_eq]
  cases acc with
  | none =>
    simp only [withData]
    cases Assign.result isZero f.mesh f.nvdim op <;> rfl
  | some b =>
    simp only [withData]
    cases Assign.result isZero f.mesh f.nvdim op <;> rfl

theorem run_withData (isZero : V → Bool) (f : VF V) (acc : Option (NDA V)) (ops : List (Assign V)) :
    VF.run isZero (withData f acc) ops = withData f (lastResult isZero f.mesh f.nvdim acc ops) := by
  induction ops generalizing acc with
  | nil => rfl
  | cons op rest ih =>
    simp only [VF.run, List.foldl_cons, lastResult] at ih ⊢
    rw [step_withData]
    exact ih _

theorem result_shape (isZero : V → Bool) (m : Mesh) (nv : Nat) (op : Assign V) (a : NDA V)
    (h : Assign.result isZero m nv op = .ok a) : a.shape = m.n ++ [nv] := by
  cases op with
  | set l => exact asLeaf_shape isZero l m nv a h
  | upd s =>
    obtain ⟨_, _, h⟩ := (updateValues_ok_iff isZero s m nv a).mp h
    exact asLeaf_shape isZero _ m nv a h
  | setS s => exact asArray_shape_any isZero s m nv a h

theorem lastResult_shape (isZero : V → Bool) (m : Mesh) (nv : Nat) (acc : Option (NDA V)) (ops : List (Assign V))
    (hacc : ∀ a, acc = some a → a.shape = m.n ++ [nv]) :
    ∀ a, lastResult isZero m nv acc ops = some a → a.shape = m.n ++ [nv] := by
  induction ops generalizing acc with
  | nil => exact hacc
  | cons op rest ih =>
    simp only [lastResult, List.foldl_cons] at ih ⊢
    apply ih
    intro a ha
    split at ha
    · rename_i b hb
      injection ha with ha; subst ha
      exact result_shape isZero m nv op b hb
    · exact hacc a ha

theorem lastResult_append_ok (isZero : V → Bool) (m : Mesh) (nv : Nat) (acc : Option (NDA V))
    (pre post : List (Assign V)) (op : Assign V) (a : NDA V)
    (hop : Assign.result isZero m nv op = .ok a)
    (hpost : ∀ q ∈ post, ∃ e, Assign.result isZero m nv q = .error e) :
    lastResult isZero m nv acc (pre ++ op :: post) = some a := by
  simp only [lastResult, List.foldl_append, List.foldl_cons, hop]
  induction post with
  | nil => rfl
  | cons q rest ih =>
    obtain ⟨e, he⟩ := hpost q (by simp)
    simp only [List.foldl_cons, he]
    exact ih fun q' hq' => hpost q' (by simp [hq'])

/-! ### ownership in a store -/

/-- SEPARATION: every field object points into the store, and different objects point to different
buffers -/
def Sess.Sep (st : Sess V) : Prop :=
  (∀ i, i < st.objs.length → (st.obj i).addr < st.store.length) ∧
  ∀ i k, i < st.objs.length → k < st.objs.length → i ≠ k → (st.obj i).addr ≠ (st.obj k).addr

/-- the addresses the field objects point to -/
def Sess.addrs (st : Sess V) : List Nat := st.objs.map (·.addr)

omit [Inhabited V] in
/-- separation, as a fact about one list: the addresses are a duplicate-free list of positions of the store -/
theorem Sess.sep_iff (st : Sess V) : st.Sep ↔ (∀ x ∈ st.addrs, x < st.store.length) ∧ st.addrs.Nodup := by
  have hl : st.addrs.length = st.objs.length := List.length_map _
  have hobj : ∀ i (hi : i < st.addrs.length), st.addrs[i] = (st.obj i).addr :=
    fun i hi => by simp [Sess.obj, Sess.addrs, List.getD_eq_getElem?_getD, hl ▸ hi]
  rw [Sess.Sep, List.forall_mem_iff_getElem, List.Nodup, List.pairwise_iff_getElem]
  constructor
  · rintro ⟨h1, h2⟩
    exact ⟨fun i hi => hobj i hi ▸ h1 i (hl ▸ hi),
      fun i j hi hj hij => by rw [hobj i hi, hobj j hj]; exact h2 i j (hl ▸ hi) (hl ▸ hj) hij.ne⟩
  · rintro ⟨h1, h2⟩
    refine ⟨fun i hi => hobj i (hl ▸ hi) ▸ h1 i (hl ▸ hi), fun i k hi hk hne => ?_⟩
    rw [← hobj i (hl ▸ hi), ← hobj k (hl ▸ hk)]
    rcases Nat.lt_or_gt_of_ne hne with h' | h'
    · exact h2 i k _ _ h'
    · exact (h2 k i _ _ h').symm

omit [Inhabited V] in
/-- `⟨default, 0, none, 0⟩` is the default object of `Sess.obj`; `Sess.obj`, `Sess.buf` unfold to `getD` -/
theorem obj_set (st : Sess V) (i : Nat) (o : Obj) (k : Nat) (hi : i < st.objs.length) :
    (st.objs.set i o).getD k ⟨default, 0, none, 0⟩ = if k = i then o else st.obj k := by
  rw [← setAt_eq_set, getD_setAt]; simp only [hi, and_true]; rfl

theorem buf_append_old (st : Sess V) (a : NDA V) (b : Nat) (hb : b < st.store.length) :
    (st.store ++ [a]).getD b (NDA.const [] default) = st.buf b :=
  getD_append_left _ _ b _ hb

theorem buf_append_new (st : Sess V) (a : NDA V) :
    (st.store ++ [a]).getD st.store.length (NDA.const [] default) = a :=
  getD_concat_length _ _ _

theorem buf_set (st : Sess V) (b : Nat) (a : NDA V) (k : Nat) (hb : b < st.store.length) :
    (st.store.set b a).getD k (NDA.const [] default) = if k = b then a else st.buf k := by
  rw [← setAt_eq_set, getD_setAt]; simp only [hb, and_true]; rfl

/-- what an accepted assignment to object `i` does to the session: the converted array `a` is
appended to the store and object `i` points to it -/
def assigned (st : Sess V) (i : Nat) (a : NDA V) : Sess V :=
  { store := st.store ++ [a], objs := st.objs.set i { st.obj i with addr := st.store.length } }

/-- `objs[i].array = src` and `objs[i].update_field_values(src)` at once — they differ in the conversion
only (one for the setter, two for `update_field_values`): object `i` must exist, the conversion must be
accepted, and then the statement does `assigned` -/
theorem step_assign_eq (isZero : V → Bool) (st : Sess V) (i : Nat) (src : Src V) (upd : Bool) :
    st.step isZero (if upd then .upd i src else .set i src) =
      if i < st.objs.length then
        match (if upd then updateValues isZero (st.spec src) (st.obj i).mesh (st.obj i).nvdim
               else asArray isZero (st.spec src) (st.obj i).mesh (st.obj i).nvdim) with
        | .error _ => (st, false)
        | .ok a => (assigned st i a, true)
      else (st, false) := by cases upd <;> rfl

theorem step_assign_iff (isZero : V → Bool) (st : Sess V) (i : Nat) (src : Src V) (upd : Bool) :
    (st.step isZero (if upd then .upd i src else .set i src)).2 = true ↔
      i < st.objs.length ∧
      ∃ a, (if upd then updateValues isZero (st.spec src) (st.obj i).mesh (st.obj i).nvdim
            else asArray isZero (st.spec src) (st.obj i).mesh (st.obj i).nvdim) = .ok a ∧
        (st.step isZero (if upd then .upd i src else .set i src)).1 = assigned st i a := by
  rw [step_assign_eq]
  generalize (if upd then updateValues isZero (st.spec src) (st.obj i).mesh (st.obj i).nvdim
              else asArray isZero (st.spec src) (st.obj i).mesh (st.obj i).nvdim) = r
  by_cases hi : i < st.objs.length
  · rw [if_pos hi]
    cases r with
    | error e => exact ⟨nofun, fun ⟨_, _, h, _⟩ => (nomatch h)⟩
    | ok a => exact ⟨fun _ => ⟨hi, a, rfl, rfl⟩, fun _ => rfl⟩
  · rw [if_neg hi]; exact ⟨nofun, fun h => absurd h.1 hi⟩

omit [Inhabited V] in
theorem assigned_sep (st : Sess V) (i : Nat) (a : NDA V) (h : st.Sep) : (assigned st i a).Sep := by
  rw [Sess.sep_iff] at h ⊢
  have e : (assigned st i a).addrs = st.addrs.set i st.store.length := List.map_set
  rw [e, show (assigned st i a).store.length = st.store.length + 1 from List.length_append]
  exact ⟨fun x hx => (List.mem_or_eq_of_mem_set hx).elim (fun hx => Nat.lt_succ_of_lt (h.1 x hx))
      fun e => e ▸ Nat.lt_succ_self _,
    h.2.set fun hm => Nat.lt_irrefl _ (h.1 _ hm)⟩

theorem assigned_fields (st : Sess V) (i : Nat) (a : NDA V) (hi : i < st.objs.length) (h : st.Sep) :
    (assigned st i a).field i = { st.field i with data := a } ∧
    (∀ k, k < st.objs.length → k ≠ i → (assigned st i a).field k = st.field k) ∧
    (∀ b, b < st.store.length → (assigned st i a).buf b = st.buf b) ∧
    ((assigned st i a).obj i).addr = st.store.length := by
  have hobj : ∀ k, (assigned st i a).obj k = if k = i then { st.obj i with addr := st.store.length } else st.obj k :=
    fun k => obj_set st i _ k hi
  refine ⟨?_, fun k hk hne => ?_, fun b hb => buf_append_old st a b hb, by rw [hobj]; simp⟩
  · unfold Sess.field
    rw [hobj]
    simp only [if_true]
    congr 1
    exact buf_append_new st a
  · unfold Sess.field
    rw [hobj]
    simp only [hne, if_false]
    congr 1
    exact buf_append_old st a _ (h.1 k hk)

/-- a new object built from object `i` and the converted array `a` -/
def created (st : Sess V) (i : Nat) (a : NDA V) : Sess V :=
  { store := st.store ++ [a], objs := st.objs ++ [{ st.obj i with addr := st.store.length }] }

omit [Inhabited V] in
theorem obj_created_old (st : Sess V) (i : Nat) (a : NDA V) (k : Nat) (hk : k < st.objs.length) :
    (created st i a).obj k = st.obj k :=
  getD_append_left _ _ k _ hk

omit [Inhabited V] in
theorem obj_created_new (st : Sess V) (i : Nat) (a : NDA V) :
    (created st i a).obj st.objs.length = { st.obj i with addr := st.store.length } :=
  getD_concat_length _ _ _

omit [Inhabited V] in
theorem created_sep (st : Sess V) (i : Nat) (a : NDA V) (h : st.Sep) : (created st i a).Sep := by
  rw [Sess.sep_iff] at h ⊢
  have e : (created st i a).addrs = st.addrs ++ [st.store.length] := List.map_append
  rw [e, show (created st i a).store.length = st.store.length + 1 from List.length_append]
  exact ⟨fun x hx => (List.mem_append.mp hx).elim (fun hx => Nat.lt_succ_of_lt (h.1 x hx))
      fun hx => List.mem_singleton.mp hx ▸ Nat.lt_succ_self _,
    List.nodup_append.mpr ⟨h.2, List.pairwise_singleton _ _, fun x hx y hy e => by
      rw [List.mem_singleton.mp hy] at e; exact Nat.lt_irrefl _ (e ▸ h.1 x hx)⟩⟩

theorem created_fields (st : Sess V) (i : Nat) (a : NDA V) (h : st.Sep) :
    (created st i a).field st.objs.length = { st.field i with data := a } ∧
    (∀ k, k < st.objs.length → (created st i a).field k = st.field k) ∧
    (∀ b, b < st.store.length → (created st i a).buf b = st.buf b) := by
  refine ⟨?_, fun k hk => ?_, fun b hb => buf_append_old st a b hb⟩
  · unfold Sess.field
    rw [obj_created_new]
    congr 1
    exact buf_append_new st a
  · unfold Sess.field
    rw [obj_created_old _ _ _ _ hk]
    congr 1
    exact buf_append_old st a _ (h.1 k hk)

/-- an in-place change of buffer `b` -/
def written (st : Sess V) (b : Nat) (a : NDA V) : Sess V := { st with store := st.store.set b a }

omit [Inhabited V] in
theorem written_sep (st : Sess V) (b : Nat) (a : NDA V) (h : st.Sep) : (written st b a).Sep := by
  rw [Sess.sep_iff] at h ⊢
  rw [show (written st b a).store.length = st.store.length from List.length_set]
  exact h

/-- the frame property of an in-place write -/
theorem written_fields (st : Sess V) (b : Nat) (a : NDA V) (hb : b < st.store.length) :
    (∀ k, (st.obj k).addr ≠ b → (written st b a).field k = st.field k) ∧
    (∀ k, (st.obj k).addr = b → (written st b a).field k = { st.field k with data := a }) ∧
    (∀ c, c ≠ b → (written st b a).buf c = st.buf c) := by
  have hbuf : ∀ c, (written st b a).buf c = if c = b then a else st.buf c := fun c => buf_set st b a c hb
  refine ⟨fun k hk => ?_, fun k hk => ?_, fun c hc => by rw [hbuf]; simp [hc]⟩
  · show (⟨_, _, (written st b a).buf (st.obj k).addr, _⟩ : VF V) = _
    rw [hbuf]; simp only [hk, if_false]; rfl
  · show (⟨_, _, (written st b a).buf (st.obj k).addr, _⟩ : VF V) = _
    rw [hbuf]; simp only [hk, if_true]; rfl

/-- does the statement write into buffer `b` in place? -/
def Stmt.writes (b : Nat) : Stmt V → Bool
  | .poke b' _ _ => b' == b
  | .fill b' _ => b' == b
  | _ => false

/-- does the statement assign to object `i`? -/
def Stmt.assigns (i : Nat) : Stmt V → Bool
  | .set i' _ => i' == i
  | .upd i' _ => i' == i
  | _ => false

/-- every statement is one of: nothing, an assignment to some object, a creation, an in-place write
into some buffer -/
theorem step_cases (isZero : V → Bool) (st : Sess V) (c : Stmt V) :
    (st.step isZero c).1 = st ∨
    (∃ i a, i < st.objs.length ∧ c.assigns i = true ∧ (st.step isZero c).1 = assigned st i a) ∨
    (∃ i a, (st.step isZero c).1 = created st i a) ∨
    (∃ b a, b < st.store.length ∧ c.writes b = true ∧ (st.step isZero c).1 = written st b a) := by
  have hassign : ∀ i src (upd : Bool), (st.step isZero (if upd then .upd i src else .set i src)).1 = st ∨
      ∃ a, i < st.objs.length ∧ (st.step isZero (if upd then .upd i src else .set i src)).1 = assigned st i a := by
    intro i src upd
    rw [step_assign_eq]
    by_cases hi : i < st.objs.length
    · rw [if_pos hi]
      cases (if upd then updateValues isZero (st.spec src) (st.obj i).mesh (st.obj i).nvdim
             else asArray isZero (st.spec src) (st.obj i).mesh (st.obj i).nvdim) with
      | error e => exact Or.inl rfl
      | ok a => exact Or.inr ⟨a, hi, rfl⟩
    · rw [if_neg hi]; exact Or.inl rfl
  cases c with
  | set i src => exact (hassign i src false).imp_right fun ⟨a, hi, e⟩ => Or.inl ⟨i, a, hi, beq_self_eq_true i, e⟩
  | upd i src => exact (hassign i src true).imp_right fun ⟨a, hi, e⟩ => Or.inl ⟨i, a, hi, beq_self_eq_true i, e⟩
  | new i src =>
    simp only [Sess.step]
    by_cases hi : i < st.objs.length
    · rw [if_pos hi]
      cases updateValues isZero (st.spec src) (st.obj i).mesh (st.obj i).nvdim with
      | error e => exact Or.inl rfl
      | ok a => exact Or.inr (Or.inr (Or.inl ⟨i, a, rfl⟩))
    · rw [if_neg hi]; exact Or.inl rfl
  | poke b j v =>
    simp only [Sess.step]
    by_cases hb : b < st.store.length
    · rw [if_pos hb]; exact Or.inr (Or.inr (Or.inr ⟨b, _, hb, beq_self_eq_true b, rfl⟩))
    · rw [if_neg hb]; exact Or.inl rfl
  | fill b v =>
    simp only [Sess.step]
    by_cases hb : b < st.store.length
    · rw [if_pos hb]; exact Or.inr (Or.inr (Or.inr ⟨b, _, hb, beq_self_eq_true b, rfl⟩))
    · rw [if_neg hb]; exact Or.inl rfl

theorem step_sep (isZero : V → Bool) (st : Sess V) (c : Stmt V) (h : st.Sep) : (st.step isZero c).1.Sep := by
  rcases step_cases isZero st c with e | ⟨i, a, hi, _, e⟩ | ⟨i, a, e⟩ | ⟨b, a, _, _, e⟩
  · rw [e]; exact h
  · rw [e]; exact assigned_sep st i a h
  · rw [e]; exact created_sep st i a h
  · rw [e]; exact written_sep st b a h

theorem run_sep (isZero : V → Bool) (st : Sess V) (prog : List (Stmt V)) (h : st.Sep) : (st.run isZero prog).Sep := by
  induction prog generalizing st with
  | nil => exact h
  | cons c rest ih =>
    simp only [Sess.run, List.foldl_cons]
    exact ih _ (step_sep isZero st c h)

theorem step_objs_len (isZero : V → Bool) (st : Sess V) (c : Stmt V) :
    st.objs.length ≤ (st.step isZero c).1.objs.length ∧ st.store.length ≤ (st.step isZero c).1.store.length := by
  rcases step_cases isZero st c with e | ⟨i, a, hi, _, e⟩ | ⟨i, a, e⟩ | ⟨b, a, _, _, e⟩ <;> rw [e]
  · exact ⟨Nat.le_refl _, Nat.le_refl _⟩
  · simp [assigned]
  · simp [created]
  · simp [written]

theorem step_keeps (isZero : V → Bool) (st : Sess V) (c : Stmt V) (h : st.Sep) (k : Nat) (hk : k < st.objs.length)
    (h1 : c.assigns k = false) (h2 : c.writes (st.obj k).addr = false) :
    (st.step isZero c).1.field k = st.field k ∧ ((st.step isZero c).1.obj k).addr = (st.obj k).addr := by
  rcases step_cases isZero st c with e | ⟨i, a, hi, hc, e⟩ | ⟨i, a, e⟩ | ⟨b, a, hb, hc, e⟩ <;> rw [e]
  · exact ⟨rfl, rfl⟩
  · have hne : k ≠ i := fun e => by rw [e, hc] at h1; cases h1
    refine ⟨(assigned_fields st i a hi h).2.1 k hk hne, ?_⟩
    rw [show (assigned st i a).obj k = _ from obj_set st i _ k hi, if_neg hne]
  · refine ⟨(created_fields st i a h).2.1 k hk, ?_⟩
    rw [obj_created_old _ _ _ _ hk]
  · have hne : (st.obj k).addr ≠ b := fun e => by rw [e, hc] at h2; cases h2
    exact ⟨(written_fields st b a hb).1 k hne, rfl⟩

/-- a whole history in which nobody assigns to object `k` or writes into ITS buffer — whatever is
done to all other objects and arrays, the source of `k`'s value included — leaves `k`'s array as it was -/
theorem run_keeps (isZero : V → Bool) (st : Sess V) (prog : List (Stmt V)) (h : st.Sep) (k : Nat) (hk : k < st.objs.length)
    (hprog : ∀ c ∈ prog, c.assigns k = false ∧ c.writes (st.obj k).addr = false) :
    (st.run isZero prog).field k = st.field k := by
  induction prog generalizing st with
  | nil => rfl
  | cons c rest ih =>
    simp only [Sess.run, List.foldl_cons]
    obtain ⟨e1, e2⟩ := step_keeps isZero st c h k hk (hprog c (by simp)).1 (hprog c (by simp)).2
    have := ih (st.step isZero c).1 (step_sep isZero st c h)
      (Nat.lt_of_lt_of_le hk (step_objs_len isZero st c).1)
      (fun c' hc' => by rw [e2]; exact hprog c' (by simp [hc']))
    simp only [Sess.run] at this
    rw [this, e1]

end DFV.C02
