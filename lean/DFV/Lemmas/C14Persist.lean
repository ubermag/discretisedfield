import DFV.Lemmas.C14Sel
/-! C14: the JSON side-car of subregions — decode ∘ encode on one region (`regionOfJV_toJV`) and on the dictionary
`save_subregions` writes (`subsOfJV_save`); `Props/C14.load_save_roundtrip` adds the setter. -/
namespace DFV.C14
open DFV DFV.T DFV.Mesh

/-- the five keys are distinct literals -/
theorem lookup5 (v1 v2 v3 v4 v5 : JV) :
    lookupJV [("pmin", v1), ("pmax", v2), ("dims", v3), ("units", v4), ("tolerance_factor", v5)] "pmin" = some v1 ∧
    lookupJV [("pmin", v1), ("pmax", v2), ("dims", v3), ("units", v4), ("tolerance_factor", v5)] "pmax" = some v2 ∧
    lookupJV [("pmin", v1), ("pmax", v2), ("dims", v3), ("units", v4), ("tolerance_factor", v5)] "dims" = some v3 ∧
    lookupJV [("pmin", v1), ("pmax", v2), ("dims", v3), ("units", v4), ("tolerance_factor", v5)] "units" = some v4 ∧
    lookupJV [("pmin", v1), ("pmax", v2), ("dims", v3), ("units", v4), ("tolerance_factor", v5)] "tolerance_factor" = some v5 := by
  refine ⟨?_, ?_, ?_, ?_, ?_⟩ <;> rfl

/-- the list loops of the decoder (`numsOf`, `strsOf`, `subsOfJV`) on a list the encoder wrote -/
theorem mapM_map_ok {α β : Type} (enc : α → β) (dec : β → M α) (l : List α) (h : ∀ x ∈ l, dec (enc x) = .ok x) :
    (l.map enc).mapM dec = .ok l := by
  induction l with
  | nil => rfl
  | cons x xs ih =>
    rw [List.map_cons, List.mapM_cons, h x List.mem_cons_self, ih fun y hy => h y (List.mem_cons_of_mem _ hy)]; rfl

/-- **decode ∘ encode = id on proper regions** -/
theorem regionOfJV_toJV (r : Region) (hr : r.Inv) : regionOfJV (regionToJV r) = .ok r := by
  have hr' := hr
  obtain ⟨r0, r1, r2, r3, r4, r5⟩ := hr
  unfold regionToJV regionOfJV
  obtain ⟨l1, l2, l3, l4, l5⟩ := lookup5 (.arr (r.pmin.map .num)) (.arr (r.pmax.map .num)) (.arr (r.dims.map .str))
    (.arr (r.units.map .str)) (.num r.tol)
  simp only [l1, l2, l3, l4, l5, numsOf, strsOf, optStrs, optTol, numOf,
    mapM_map_ok JV.num numOf _ fun _ _ => rfl, mapM_map_ok JV.str strOf _ fun _ _ => rfl]
  rw [if_neg (not_not.mpr r1.symm)]
  have hall : allLt r.pmin.length (fun a => decide (r.pmin.getD a 0 < r.pmax.getD a 0)) = true := by
    rw [allLt_iff]; intro a ha; exact decide_eq_true (r5 a ha)
  rw [hall]
  simp only [Bool.not_true, Bool.false_eq_true, if_false]
  exact mk?_self r hr'

/-- **decoding what `save_subregions` wrote gives back the subregions** (names, order, corners,
names of dimensions, units, tolerance) -/
theorem subsOfJV_save (m : Mesh) (h : ∀ p ∈ m.subs, p.2.Inv) : subsOfJV (saveSubs m) = .ok m.subs := by
  refine mapM_map_ok (fun p => (p.1, regionToJV p.2)) _ m.subs fun p hp => ?_
  simp only [regionOfJV_toJV p.2 (h p hp)]

end DFV.C14
