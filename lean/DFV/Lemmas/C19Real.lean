import Mathlib.Analysis.SpecialFunctions.Trigonometric.Arctan
import Mathlib.Analysis.SpecialFunctions.Arsinh
import Mathlib.Analysis.SpecialFunctions.Complex.Log
import Mathlib.Analysis.SpecialFunctions.Trigonometric.Inverse
import Mathlib.Analysis.Real.Sqrt
import DFV.Lemmas.C19Demag
/-! C19: the leaf hypotheses of the property theorems hold for the REAL functions
(`Real.arctan`, `Real.arsinh`, `Real.sqrt`, `Real.arccos`, `Complex.log`), and the real-space
trace of the demagnetisation tensor evaluated with the real functions is `−δ`. -/
namespace DFV.C19
open Real

/-- `arctan(bc/(aR)) + arctan(ca/(bR)) + arctan(ab/(cR)) = π/2` for `a, b, c > 0`, `R = √(a²+b²+c²)`.
Exported as `Props/C19.arctan_sum_identity`. -/
theorem arctan_sum (a b c : ℝ) (ha : 0 < a) (hb : 0 < b) (hc : 0 < c) :
    arctan (b * c / (a * √(a ^ 2 + b ^ 2 + c ^ 2))) + arctan (c * a / (b * √(a ^ 2 + b ^ 2 + c ^ 2)))
      + arctan (a * b / (c * √(a ^ 2 + b ^ 2 + c ^ 2))) = π / 2 := by
  have hS : 0 < a ^ 2 + b ^ 2 + c ^ 2 := by positivity
  set R := √(a ^ 2 + b ^ 2 + c ^ 2) with hRdef
  have hR : 0 < R := Real.sqrt_pos.mpr hS
  have hR2 : R ^ 2 = a ^ 2 + b ^ 2 + c ^ 2 := Real.sq_sqrt hS.le
  have euv : b * c / (a * R) * (c * a / (b * R)) = c ^ 2 / R ^ 2 := by field_simp
  have huv : b * c / (a * R) * (c * a / (b * R)) < 1 := by
    rw [euv, div_lt_one (by positivity), hR2]
    nlinarith [sq_pos_of_pos ha, sq_pos_of_pos hb]
  rw [arctan_add huv]
  have hw : 0 < a * b / (c * R) := by positivity
  have e : (b * c / (a * R) + c * a / (b * R)) / (1 - b * c / (a * R) * (c * a / (b * R))) = (a * b / (c * R))⁻¹ := by
    have h1 : 1 - b * c / (a * R) * (c * a / (b * R)) = (a ^ 2 + b ^ 2) / R ^ 2 := by
      rw [euv]; field_simp; linarith
    rw [h1]
    have hab : 0 < a ^ 2 + b ^ 2 := by positivity
    field_simp
    ring
  rw [e, arctan_inv_of_pos hw]
  ring

/-- real value of a leaf of the symbolic Newell terms (the code's zero guards included) -/
noncomputable def lvR : Leaf → ℝ
  | .asinh a b => Real.arsinh (if b = 0 then 0 else (a : ℝ) / √(b : ℝ))
  | .atan a b c => Real.arctan (if b = 0 then 0 else (a : ℝ) / ((b : ℝ) * √(c : ℝ)))
  | .sqrt a => √(a : ℝ)

/-- the arctangent hypothesis of `trace_grid` / `demag_trace_real_space` holds for the real leaves -/
theorem lvR_atan_sum : AtanSum lvR (π / 2) := by
  intro a b c ha hb hc
  simp only [lvR, ha.ne', hb.ne', hc.ne', if_false]
  push_cast
  exact arctan_sum (a : ℝ) (b : ℝ) (c : ℝ) (by exact_mod_cast ha) (by exact_mod_cast hb) (by exact_mod_cast hc)

/-! ## the Berg–Lüscher angle -/

/-- the number whose argument `bergluescher_angle` takes: `1 + d₁₂ + d₂₃ + d₃₁ + i·t` -/
noncomputable def nC (tr : Tri) : ℂ := ⟨1 + (tr.d12 : ℝ) + tr.d23 + tr.d31, (tr.t : ℝ)⟩

/-- `2·Im log((1 + d₁₂ + d₂₃ + d₃₁ + i·t)/ρ)/(4π)`, `ρ = √(2(1+d₁₂)(1+d₂₃)(1+d₃₁))`, as in `util.bergluescher_angle` -/
noncomputable def omegaR (tr : Tri) : ℝ :=
  2 * (Complex.log ((⟨1 + (tr.d12 : ℝ) + tr.d23 + tr.d31, (tr.t : ℝ)⟩ : ℂ)
    / ((√(2 * (1 + (tr.d12 : ℝ)) * (1 + tr.d23) * (1 + tr.d31)) : ℝ) : ℂ))).im / (4 * π)

/-- the hypothesis of `tcd_reversal` holds for the real formula: odd in the triple product -/
theorem omegaR_flip (tr : Tri) (ht : tr.t ≠ 0) : omegaR (flipT tr) = -omegaR tr := by
  unfold omegaR flipT
  simp only
  set ρ : ℝ := √(2 * (1 + (tr.d12 : ℝ)) * (1 + tr.d23) * (1 + tr.d31)) with hρ
  set z : ℂ := ⟨1 + (tr.d12 : ℝ) + tr.d23 + tr.d31, (tr.t : ℝ)⟩ with hz
  have hzc : (⟨1 + (tr.d12 : ℝ) + tr.d23 + tr.d31, ((-tr.t : Rat) : ℝ)⟩ : ℂ) = (starRingEnd ℂ) z := by
    apply Complex.ext <;> simp [hz]
  have hdiv : (starRingEnd ℂ) z / (ρ : ℂ) = (starRingEnd ℂ) (z / (ρ : ℂ)) := by
    rw [map_div₀, Complex.conj_ofReal]
  have harg : (z / (ρ : ℂ)).arg ≠ π := by
    intro h
    rw [Complex.arg_eq_pi_iff] at h
    obtain ⟨hre, him⟩ := h
    by_cases h0 : ρ = 0
    · rw [h0] at hre; simp at hre
    · rw [Complex.div_ofReal_im] at him
      have : (tr.t : ℝ) = 0 := by
        have hzim : z.im = (tr.t : ℝ) := by simp [hz]
        rw [hzim] at him
        exact (div_eq_zero_iff.mp him).resolve_right h0
      exact ht (by exact_mod_cast this)
  rw [hzc, hdiv, Complex.log_conj _ harg, Complex.conj_im]
  ring

/-- for `ρ > 0` it is `2·arg(1 + d₁₂ + d₂₃ + d₃₁ + i·t)/(4π)` — what the harness evaluates with `atan2` -/
theorem omegaR_eq_arg (tr : Tri) (hρ : 0 < 2 * (1 + (tr.d12 : ℝ)) * (1 + tr.d23) * (1 + tr.d31)) :
    omegaR tr = 2 * Complex.arg (nC tr) / (4 * π) := by
  unfold omegaR nC
  rw [Complex.log_im]
  have h : 0 < √(2 * (1 + (tr.d12 : ℝ)) * (1 + tr.d23) * (1 + tr.d31)) := Real.sqrt_pos.mpr hρ
  have e : ∀ (w : ℂ) (r : ℝ), 0 < r → (w / (r : ℂ)).arg = w.arg := by
    intro w r hr
    rw [div_eq_mul_inv, ← Complex.ofReal_inv, Complex.arg_mul_real (inv_pos.mpr hr)]
  rw [e _ _ h]

/-! ## arccos and sqrt -/

/-- the hypothesis of `angle_range` holds for the real arccosine -/
theorem arccos_range (x : ℝ) : 0 ≤ Real.arccos x ∧ Real.arccos x ≤ π :=
  ⟨Real.arccos_nonneg x, Real.arccos_le_pi x⟩

/-- the hypotheses of `orientation_scale` / `orientation_unit` hold for the real square root -/
theorem sqrt_homogeneous (s x : ℝ) (hs : 0 ≤ s) : √(s * s * x) = s * √x := by
  rw [Real.sqrt_mul (mul_self_nonneg s), Real.sqrt_mul_self hs]

end DFV.C19
