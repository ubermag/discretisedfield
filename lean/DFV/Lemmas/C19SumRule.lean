import Mathlib.Algebra.BigOperators.Group.Finset.Basic
import Mathlib.Algebra.BigOperators.Group.Finset.Sigma
import Mathlib.Tactic.Ring
import Mathlib.Tactic.LinearCombination
/-!
# C19 — the sum rule of the demagnetising field of a uniformly magnetised cuboid, for a tensor with values
in any field

`N j0 j1 j2 c` is component `c` of a tensor at cell `(j0, j1, j2)` of the `2n−1` displacement grid.  What the
rule needs of it is its trace on the grid (`t` at the central cell, `0` elsewhere) and, for the cube, the cyclic
symmetry of its diagonal.  The rational tensor of the model (`Lemmas/C19Cuboid`) and the tensor with the real leaves
(`Lemmas/C19Fourier`) are instances.
-/
namespace DFV.C19
open Finset

/-- component `a` at cell `q` of the linear convolution of `N` with the uniform magnetisation `M e_a` on
`n0 × n1 × n2` cells (only `N_aa` contributes); displacement `d` is stored at index `d + n − 1` -/
def uniConv {K : Type} [CommRing K] (N : Nat → Nat → Nat → Nat → K) (n0 n1 n2 : Nat) (M : K) (a q0 q1 q2 : Nat) : K :=
  ∑ r0 ∈ range n0, ∑ r1 ∈ range n1, ∑ r2 ∈ range n2,
    N (q0 + (n0 - 1) - r0) (q1 + (n1 - 1) - r1) (q2 + (n2 - 1) - r2) a * M

/-- congruence of a triple sum over a box; the summands may be compared under the bounds -/
theorem sum3_congr_fin {K : Type} [AddCommMonoid K] (n0 n1 n2 : Nat) (F G : Nat → Nat → Nat → K)
    (h : ∀ a b c, a < n0 → b < n1 → c < n2 → F a b c = G a b c) :
    ∑ a ∈ range n0, ∑ b ∈ range n1, ∑ c ∈ range n2, F a b c = ∑ a ∈ range n0, ∑ b ∈ range n1, ∑ c ∈ range n2, G a b c :=
  sum_congr rfl fun a ha => sum_congr rfl fun b hb => sum_congr rfl fun c hc =>
    h a b c (mem_range.1 ha) (mem_range.1 hb) (mem_range.1 hc)

/-- a sum over a box of a term that lives on the single cell `(q0, q1, q2)` of the box -/
theorem sum3_single {K : Type} [AddCommMonoid K] (n0 n1 n2 q0 q1 q2 : Nat) (h0 : q0 < n0) (h1 : q1 < n1) (h2 : q2 < n2) (c : K) :
    ∑ r0 ∈ range n0, ∑ r1 ∈ range n1, ∑ r2 ∈ range n2, (if r0 = q0 ∧ r1 = q1 ∧ r2 = q2 then c else 0) = c := by
  rw [sum_eq_single_of_mem q0 (mem_range.2 h0), sum_eq_single_of_mem q1 (mem_range.2 h1),
    sum_eq_single_of_mem q2 (mem_range.2 h2), if_pos ⟨rfl, rfl, rfl⟩]
  · exact fun r2 _ hne => if_neg fun c => hne c.2.2
  · exact fun r1 _ hne => sum_eq_zero fun r2 _ => if_neg fun c => hne c.2.1
  · exact fun r0 _ hne => sum_eq_zero fun r1 _ => sum_eq_zero fun r2 _ => if_neg fun c => hne c.1

/-- the trace of `N` on the `2n−1` displacement grid is `t·δ`: `t` at the central cell (displacement 0) and `0` at every other cell -/
def TraceDelta {K : Type} [Add K] [Zero K] (N : Nat → Nat → Nat → Nat → K) (n0 n1 n2 : Nat) (t : K) : Prop :=
  ∀ j0 j1 j2, j0 < 2 * n0 - 1 → j1 < 2 * n1 - 1 → j2 < 2 * n2 - 1 →
    N j0 j1 j2 0 + N j0 j1 j2 1 + N j0 j1 j2 2 = if j0 = n0 - 1 ∧ j1 = n1 - 1 ∧ j2 = n2 - 1 then t else 0

/-- SUM RULE: at every cell the three components along the respective magnetisation add up to `t·M`:
the sum over the sources of the trace has the single non-zero term `r = q` -/
theorem uniConv_sum {K : Type} [CommRing K] (N : Nat → Nat → Nat → Nat → K) (n0 n1 n2 : Nat) (t M : K)
    (hN : TraceDelta N n0 n1 n2 t)
    (q0 q1 q2 : Nat) (h0 : q0 < n0) (h1 : q1 < n1) (h2 : q2 < n2) :
    uniConv N n0 n1 n2 M 0 q0 q1 q2 + uniConv N n0 n1 n2 M 1 q0 q1 q2 + uniConv N n0 n1 n2 M 2 q0 q1 q2 = t * M := by
  unfold uniConv
  simp only [← sum_add_distrib, ← add_mul]
  -- the trace of the tensor at displacement `q − r` is `t` for the source `r = q` and `0` for every other source
  rw [← sum3_single n0 n1 n2 q0 q1 q2 h0 h1 h2 (t * M)]
  refine sum3_congr_fin n0 n1 n2 _ _ fun r0 r1 r2 hr0 hr1 hr2 => ?_
  rw [hN _ _ _ (by omega) (by omega) (by omega)]
  by_cases c : r0 = q0 ∧ r1 = q1 ∧ r2 = q2
  · rw [if_pos c, if_pos (by omega)]
  · rw [if_neg c, if_neg (by omega), zero_mul]

theorem sum3_cyc {K : Type} [AddCommMonoid K] (n : Nat) (F : Nat → Nat → Nat → K) :
    ∑ a ∈ range n, ∑ b ∈ range n, ∑ c ∈ range n, F b c a = ∑ a ∈ range n, ∑ b ∈ range n, ∑ c ∈ range n, F a b c := by
  rw [sum_comm]
  exact sum_congr rfl fun b _ => sum_comm

/-- −M/3 EACH FOR A CUBE: with the cyclic symmetry `N_yy(j₀,j₁,j₂) = N_xx(j₁,j₂,j₀)`, `N_zz(j₀,j₁,j₂) = N_xx(j₂,j₀,j₁)`
the three components summed over all cells are equal (rename sources and cells cyclically), and they add up to
`t·M·n³` by the sum rule -/
theorem uniConv_cube_third {K : Type} [Field K] [CharZero K] (N : Nat → Nat → Nat → Nat → K) (n : Nat) (t M : K)
    (hN : TraceDelta N n n n t)
    (hsym : ∀ j0 j1 j2, j0 < 2 * n - 1 → j1 < 2 * n - 1 → j2 < 2 * n - 1 →
      N j0 j1 j2 1 = N j1 j2 j0 0 ∧ N j0 j1 j2 2 = N j2 j0 j1 0)
    (a : Nat) (ha : a < 3) :
    ∑ q0 ∈ range n, ∑ q1 ∈ range n, ∑ q2 ∈ range n, uniConv N n n n M a q0 q1 q2 = t * M * (n : K) ^ 3 / 3 := by
  have c1 : ∀ q0 q1 q2, q0 < n → q1 < n → q2 < n → uniConv N n n n M 1 q0 q1 q2 = uniConv N n n n M 0 q1 q2 q0 :=
    fun q0 q1 q2 h0 h1 h2 =>
      -- omega: `q + (n−1) − r < 2n−1` needs `q < n` (`h0 h1 h2`) only, not the bounds on `r`
      (sum3_congr_fin n n n _ _ fun r0 r1 r2 _ _ _ => by rw [(hsym _ _ _ (by omega) (by omega) (by omega)).1]).trans
        (sum3_cyc n fun a b c => N (q1 + (n - 1) - a) (q2 + (n - 1) - b) (q0 + (n - 1) - c) 0 * M)
  have c2 : ∀ q0 q1 q2, q0 < n → q1 < n → q2 < n → uniConv N n n n M 2 q0 q1 q2 = uniConv N n n n M 0 q2 q0 q1 :=
    fun q0 q1 q2 h0 h1 h2 =>
      (sum3_congr_fin n n n _ _ fun r0 r1 r2 _ _ _ => by rw [(hsym _ _ _ (by omega) (by omega) (by omega)).2]).trans
        (sum3_cyc n fun a b c => N (q2 + (n - 1) - c) (q0 + (n - 1) - a) (q1 + (n - 1) - b) 0 * M).symm
  -- `s1`, `s2`: rename the cells cyclically as well
  have s1 : ∑ q0 ∈ range n, ∑ q1 ∈ range n, ∑ q2 ∈ range n, uniConv N n n n M 1 q0 q1 q2
      = ∑ q0 ∈ range n, ∑ q1 ∈ range n, ∑ q2 ∈ range n, uniConv N n n n M 0 q0 q1 q2 :=
    (sum3_congr_fin n n n _ _ c1).trans (sum3_cyc n fun q0 q1 q2 => uniConv N n n n M 0 q0 q1 q2)
  have s2 : ∑ q0 ∈ range n, ∑ q1 ∈ range n, ∑ q2 ∈ range n, uniConv N n n n M 2 q0 q1 q2
      = ∑ q0 ∈ range n, ∑ q1 ∈ range n, ∑ q2 ∈ range n, uniConv N n n n M 0 q0 q1 q2 :=
    (sum3_congr_fin n n n _ _ c2).trans (sum3_cyc n fun a b c => uniConv N n n n M 0 c a b).symm
  have tot : (∑ q0 ∈ range n, ∑ q1 ∈ range n, ∑ q2 ∈ range n, uniConv N n n n M 0 q0 q1 q2)
      + (∑ q0 ∈ range n, ∑ q1 ∈ range n, ∑ q2 ∈ range n, uniConv N n n n M 1 q0 q1 q2)
      + (∑ q0 ∈ range n, ∑ q1 ∈ range n, ∑ q2 ∈ range n, uniConv N n n n M 2 q0 q1 q2) = t * M * (n : K) ^ 3 := by
    simp only [← sum_add_distrib]
    rw [sum3_congr_fin n n n _ (fun _ _ _ => t * M) fun q0 q1 q2 h0 h1 h2 => uniConv_sum N n n n t M hN q0 q1 q2 h0 h1 h2]
    simp only [sum_const, card_range, nsmul_eq_mul]
    ring
  -- three equal summands adding up to `tot`
  rw [s1, s2] at tot
  rcases (by omega : a = 0 ∨ a = 1 ∨ a = 2) with rfl | rfl | rfl
  · linear_combination tot / 3
  · rw [s1]; linear_combination tot / 3
  · rw [s2]; linear_combination tot / 3

end DFV.C19
