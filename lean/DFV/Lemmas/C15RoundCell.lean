import DFV.Lemmas.C15Rel
/-!
Rounded arithmetic for C15, cells.  The kernel counted in half roundings (`Rel`): the sum of squares
as computed (left to right, complex terms with or without a fused multiply-add, any bracketing
`SqTree`), the norm with an exact and with a rounded root, quotient and product, the squared length
under a component map — for every number of components; `Props/C15.lean` turns the counts into its
constants at the last step.  Then what a component map within `ρ` of `x ↦ λ·x` does to the direction,
and the cell functions; the complex kernel goes through the `(re, im)` view `flattenC`.
-/
namespace DFV.C15
variable {K : Type} [Field K] [LinearOrder K] [IsStrictOrderedRing K]

/-- a bracketing of a sum of squares -/
inductive SqTree (K : Type) where
  | leaf (x : K)
  | node (l r : SqTree K)

namespace SqTree

def leaves : SqTree K → List K
  | leaf x => [x]
  | node l r => l.leaves ++ r.leaves

def depth : SqTree K → Nat
  | leaf _ => 0
  | node l r => max l.depth r.depth + 1

/-- the sum as computed: every square rounded, every addition rounded, in the order of the tree -/
def flSum (fl : K → K) : SqTree K → K
  | leaf x => fl (x * x)
  | node l r => fl (l.flSum fl + r.flSum fl)

end SqTree

omit [Field K] [LinearOrder K] [IsStrictOrderedRing K] in
theorem SqTree.depth_lt (t : SqTree K) : t.depth + 1 ≤ t.leaves.length := by
  induction t with
  | leaf x => simp [SqTree.leaves, SqTree.depth]
  | node l r ihl ihr =>
    simp only [SqTree.leaves, SqTree.depth, List.length_append]
    omega

/-! ### the kernel, counted: no step has a side condition -/
section counted
variable {fl : K → K} {u : K}

/-- a left-to-right sum of computed terms `q x`, each known up to `j` roundings against the exact
term `p x ≥ 0`, every addition rounded; `T` is the exact sum -/
theorem foldl_sum_rel {α : Type} (h : FlOk fl u) (hu : u ≤ 1 / 1024) (p q : α → K) (T : List α → K)
    (j : Nat) (hT0 : T [] = 0) (hT : ∀ x xs, T (x :: xs) = p x + T xs) (hp : ∀ x, 0 ≤ p x)
    (hq : ∀ x, Rel (base u) (2 * j) (q x) (p x)) (v : List α) :
    ∀ (k : Nat) (a a' : K), j ≤ k → 0 ≤ a → Rel (base u) (2 * k) a' a →
      Rel (base u) (2 * (k + v.length)) (v.foldl (fun acc x => fl (acc + q x)) a') (a + T v) := by
  induction v with
  | nil => intro k a a' _ _ hk; simpa [hT0] using hk
  | cons x xs ih =>
    intro k a a' hjk ha hk
    have e2 : k + (xs.length + 1) = k + 1 + xs.length := by omega
    rw [List.foldl_cons, List.length_cons, hT, ← add_assoc a, e2]
    exact ih (k + 1) (a + p x) _ (by omega) (add_nonneg ha (hp x))
      (((Rel.fl h hu _).trans (hk.add ((hq x).mono (by omega)) ha (hp x))).mono (by omega))

/-- **rounded sum of squares** of `n` components: `n + 1` roundings -/
theorem flSqLen_rel (h : FlOk fl u) (hu : u ≤ 1 / 1024) (v : List K) :
    Rel (base u) (2 * (v.length + 1)) (flSqLen fl v) (sqLen v) := by
  have := foldl_sum_rel h hu (fun x => x * x) (fun x => fl (x * x)) sqLen 1 rfl (fun _ _ => rfl)
    mul_self_nonneg (fun x => Rel.fl h hu _) v 1 0 0 le_rfl le_rfl ((Rel.refl (base_unit h hu) 0).mono (by omega))
  rwa [zero_add, Nat.add_comm] at this

/-- one term `(conj(z)·z).real`, fused or not: two roundings -/
theorem cflAbs2_rel (h : FlOk fl u) (hu : u ≤ 1 / 1024) (fused : Bool) (z : K × K) :
    Rel (base u) 4 (cflAbs2 fl fused z) (z.1 * z.1 + z.2 * z.2) := by
  have key : ∀ a' : K, Rel (base u) 2 a' (z.1 * z.1) →
      Rel (base u) 4 (fl (a' + fl (z.2 * z.2))) (z.1 * z.1 + z.2 * z.2) := fun a' ha' =>
    (Rel.fl h hu _).trans (ha'.add (Rel.fl h hu _) (mul_self_nonneg _) (mul_self_nonneg _))
  unfold cflAbs2
  cases fused with
  | true => simpa using key (z.1 * z.1) ((Rel.refl (base_unit h hu) _).mono (by omega))
  | false => simpa using key (fl (z.1 * z.1)) (Rel.fl h hu _)

/-- **rounded `Σ|z_c|²`** of `n` complex components: `n + 2` roundings -/
theorem cflSqLen_rel (h : FlOk fl u) (hu : u ≤ 1 / 1024) (fused : Bool) (v : List (K × K)) :
    Rel (base u) (2 * (v.length + 2)) (cflSqLen fl fused v) (cSqLen v) := by
  have := foldl_sum_rel h hu (fun z : K × K => z.1 * z.1 + z.2 * z.2) (cflAbs2 fl fused) cSqLen 2 rfl
    (fun _ _ => rfl) (fun z => add_nonneg (mul_self_nonneg _) (mul_self_nonneg _))
    (cflAbs2_rel h hu fused) v 2 0 0 le_rfl le_rfl ((Rel.refl (base_unit h hu) 0).mono (by omega))
  rwa [zero_add, Nat.add_comm] at this

/-- **sum of squares in any order**: as many roundings as the bracketing is deep, plus one; a
bracketing is shallower than it has leaves, so no more than left to right -/
theorem SqTree.flSum_rel (h : FlOk fl u) (hu : u ≤ 1 / 1024) (t : SqTree K) :
    Rel (base u) (2 * (t.leaves.length + 1)) (t.flSum fl) (sqLen t.leaves) := by
  suffices H : Rel (base u) (2 * (t.depth + 1)) (t.flSum fl) (sqLen t.leaves) from
    H.mono (by have := t.depth_lt; omega)
  induction t with
  | leaf x =>
    simp only [SqTree.flSum, SqTree.leaves, SqTree.depth, sqLen, add_zero]
    exact Rel.fl h hu _
  | node l r ihl ihr =>
    simp only [SqTree.flSum, SqTree.leaves, SqTree.depth, sqLen_append]
    have hl : 2 * (l.depth + 1) ≤ 2 * (max l.depth r.depth + 1) := by omega
    have hr : 2 * (r.depth + 1) ≤ 2 * (max l.depth r.depth + 1) := by omega
    exact ((Rel.fl h hu _).trans ((ihl.mono hl).add (ihr.mono hr) (sqLen_nonneg _) (sqLen_nonneg _))).mono
      (by omega)

/-- **the computed norm with an exact root**: `n + 1` halves for the root of the radicand, two for
its rounding -/
theorem flNormCell_rel {sqrt : K → K} (h : FlOk fl u) (hu : u ≤ 1 / 1024) (v : List K)
    (hs : SqrtAt sqrt (sqLen v)) (hs' : SqrtAt sqrt (flSqLen fl v)) :
    Rel (base u) (v.length + 3) (flNormCell fl sqrt v) (normCell sqrt v) :=
  ((Rel.fl h hu _).trans (Rel.sqrt hs'.1 hs.1 (by rw [hs'.2, hs.2]; exact flSqLen_rel h hu v))).mono (by omega)

/-- the computed norm is zero exactly on the zero vector: the setter's `where=` mask computed in
floating point is the exact mask -/
theorem flNormCell_eq_zero {sqrt : K → K} (h : FlOk fl u) (hu : u ≤ 1 / 1024) (v : List K)
    (hs' : SqrtAt sqrt (flSqLen fl v)) : flNormCell fl sqrt v = 0 ↔ sqLen v = 0 :=
  ((Rel.fl h hu _).eq_zero_iff.trans hs'.eq_zero_iff).trans (flSqLen_rel h hu v).eq_zero_iff

/-- **rounded root of a computed radicand, then one rounding**: eight more halves on the square -/
theorem norm_exec_rel {sq : K → K} {S S' : K} {k : ℕ} (h : FlOk fl u) (hq : SqrtOk sq u) (hu : u ≤ 1 / 1024)
    (hS : 0 ≤ S) (herr : Rel (base u) k S' S) :
    0 ≤ fl (sq S') ∧ Rel (base u) (k + 8) (fl (sq S') * fl (sq S')) S := by
  rcases eq_or_lt_of_le hS with hz | hpos
  · rw [herr.eq_zero_iff.mpr hz.symm, hq.2 0 le_rfl, h.zero, ← hz, mul_zero]
    exact ⟨le_rfl, (Rel.refl (base_unit h hu) 0).mono (by omega)⟩
  · have hS'pos : 0 < S' := lt_of_le_of_ne (herr.nonneg hS) fun e => hpos.ne' (herr.eq_zero_iff.mp e.symm)
    obtain ⟨hr0, hrr⟩ := Rel.sqrtOk hq h.1 hu hS'pos
    have hν := Rel.fl h hu (sq S')
    exact ⟨hν.nonneg hr0, (((hν.mul hν).trans hrr).trans herr).mono (by omega)⟩

/-- the computed norm with a rounded root: `n + 1` roundings in the radicand and eight halves -/
theorem flNormCell_exec_rel {sq : K → K} (h : FlOk fl u) (hq : SqrtOk sq u) (hu : u ≤ 1 / 1024) (v : List K) :
    0 ≤ flNormCell fl sq v ∧
    Rel (base u) (2 * (v.length + 5)) (flNormCell fl sq v * flNormCell fl sq v) (sqLen v) := by
  obtain ⟨h1, h2⟩ := norm_exec_rel h hq hu (sqLen_nonneg v) (flSqLen_rel h hu v)
  exact ⟨h1, h2.mono (by omega)⟩

theorem cflNormCell_exec_rel {sq : K → K} (h : FlOk fl u) (hq : SqrtOk sq u) (hu : u ≤ 1 / 1024) (fused : Bool)
    (v : List (K × K)) :
    0 ≤ cflNormCell fl sq fused v ∧
    Rel (base u) (2 * (v.length + 6)) (cflNormCell fl sq fused v * cflNormCell fl sq fused v) (cSqLen v) := by
  obtain ⟨h1, h2⟩ := norm_exec_rel h hq hu (cSqLen_nonneg v) (cflSqLen_rel h hu fused v)
  exact ⟨h1, h2.mono (by omega)⟩

/-- quotient and product by a denominator known up to `k`: one more rounding each -/
theorem quot_mul_rel (h : FlOk fl u) (hu : u ≤ 1 / 1024) {n ν : K} {k : ℕ} (hν : Rel (base u) k ν n) (x t : K) :
    Rel (base u) (k + 2) (fl (x / ν)) (x / n) ∧ Rel (base u) (k + 4) (fl (fl (x / ν) * t)) (t / n * x) := by
  have r1 : Rel (base u) (k + 2) (fl (x / ν)) (x / n) :=
    ((Rel.fl h hu _).trans (hν.div_left x)).mono (by omega)
  have e : t / n * x = x / n * t := by ring
  rw [e]
  exact ⟨r1, ((Rel.fl h hu _).trans (r1.mul_right t)).mono (by omega)⟩

/-- division through the rounded reciprocal: two roundings; times `t`: three -/
theorem recip_mul_rel (h : FlOk fl u) (hu : u ≤ 1 / 1024) (n x t : K) :
    Rel (base u) 4 (fl (x * fl (1 / n))) (x / n) ∧ Rel (base u) 6 (fl (fl (x * fl (1 / n)) * t)) (t / n * x) := by
  have r1 : Rel (base u) 4 (fl (x * fl (1 / n))) (x / n) := by
    have r0 := (Rel.fl h hu (1 / n)).mul_right x
    rw [mul_comm (fl (1 / n)) x, one_div_mul_eq_div] at r0
    exact (Rel.fl h hu _).trans r0
  have e : t / n * x = x / n * t := by ring
  rw [e]
  exact ⟨r1, (Rel.fl h hu _).trans (r1.mul_right t)⟩

theorem sqLen_map_rel {b : K} (B : 0 < b ∧ b ≤ 1) (f : K → K) (lam : K) (k : ℕ) (v : List K)
    (h : ∀ x ∈ v, Rel b k (f x) (lam * x)) : Rel b (2 * k) (sqLen (v.map f)) (lam * lam * sqLen v) := by
  induction v with
  | nil => simp only [List.map_nil, sqLen, mul_zero]; exact (Rel.refl B 0).mono (by omega)
  | cons x xs ih =>
    simp only [List.map_cons, sqLen, mul_add]
    have h1 := h x List.mem_cons_self
    have e : lam * lam * (x * x) = lam * x * (lam * x) := by ring
    rw [e]
    exact ((h1.mul h1).mono (by omega)).add (ih fun y hy => h y (List.mem_cons_of_mem _ hy))
      (mul_self_nonneg _) (mul_nonneg (mul_self_nonneg lam) (sqLen_nonneg xs))

/-- **squared length under a component map known up to `k` against `x ↦ (t/n)·x`**, `n²` known up
to `j` against the exact squared length.  With an exact root `n = ‖v‖`, `j = 0`. -/
theorem scaledMap_rel {b : K} (B : 0 < b ∧ b ≤ 1) (f : K → K) (v : List K) {t n : K} {k j : ℕ} (hS : sqLen v ≠ 0)
    (hnsq : Rel b j (n * n) (sqLen v)) (herr : ∀ x, Rel b k (f x) (t / n * x)) :
    Rel b (2 * k + j) (sqLen (v.map f)) (t * t) := by
  have h1 := sqLen_map_rel B f (t / n) k v fun x _ => herr x
  have hn : n * n ≠ 0 := fun e => hS (hnsq.eq_zero_iff.mp e)
  have h2 := (hnsq.div_left (sqLen v)).mul_right (t * t)
  have e : t / n * (t / n) * sqLen v = sqLen v / (n * n) * (t * t) := by field_simp
  rw [div_self hS, one_mul] at h2
  rw [e] at h1
  exact h1.trans h2

theorem normCell_sq_rel {b : K} (B : 0 < b ∧ b ≤ 1) {sqrt : K → K} {v : List K} (hs : SqrtAt sqrt (sqLen v)) :
    Rel b 0 (normCell sqrt v * normCell sqrt v) (sqLen v) := by
  rw [normCell_mul_self hs]; exact Rel.refl B _

end counted

/-! ### the direction under a component map within `ρ` of `x ↦ lam·x` -/

omit [LinearOrder K] [IsStrictOrderedRing K] in
theorem getD_map_zero (f : K → K) (v : List K) (a : Nat) :
    (v.map f).getD a 0 = if a < v.length then f (v.getD a 0) else 0 := by
  by_cases h : a < v.length <;> simp [List.getD_eq_getElem?_getD, h]

omit [LinearOrder K] [IsStrictOrderedRing K] in
/-- a relation between `f x` and `x` that holds between `0` and `0` holds between the entries of
`v.map f` and of `v` at every index, past the end too -/
theorem getD_map_rel (f : K → K) (v : List K) (P : K → K → Prop) (h0 : P 0 0) (h : ∀ x, P (f x) x)
    (a : Nat) : P ((v.map f).getD a 0) (v.getD a 0) := by
  rw [getD_map_zero]
  split
  · exact h _
  · rename_i hge
    have : v.getD a 0 = 0 := by simp [List.getD_eq_getElem?_getD, not_lt.mp hge]
    rw [this]; exact h0

theorem getD_map_times (f : K → K) (v : List K) (n c : K) (h : ∀ x, |f x * n - x| ≤ c * |x|) (a : Nat) :
    |(v.map f).getD a 0 * n - v.getD a 0| ≤ c * |v.getD a 0| :=
  getD_map_rel f v (fun w x => |w * n - x| ≤ c * |x|) (by simp) h a

/-- cross terms of a componentwise perturbed multiple `w = v.map f` with the old vector:
`|w_a v_b − w_b v_a| ≤ 2ρ·|lam v_a v_b|` and `|w_a v_b| ≥ (1 − ρ)·|lam v_a v_b|`, so relatively below
`c/(1 − ρ')` for `ρ ≤ ρ'`, `2ρ ≤ c` (the form the harness uses) -/
theorem cross_rel (f : K → K) (lam : K) {ρ ρ' c : K} (v : List K)
    (h : ∀ x, |f x - lam * x| ≤ ρ * |lam * x|) (hρ0 : 0 ≤ ρ) (hρ1 : ρ ≤ 1) (hρ' : ρ ≤ ρ')
    (hc : 2 * ρ ≤ c) (a b : Nat) :
    |(v.map f).getD a 0 * v.getD b 0 - (v.map f).getD b 0 * v.getD a 0| * (1 - ρ') ≤
      c * |(v.map f).getD a 0 * v.getD b 0| := by
  have hP := fun a => getD_map_rel f v (fun w x => ∃ e, w = lam * x * e ∧ |e - 1| ≤ ρ)
    ⟨1, by simp, by simpa using hρ0⟩ (fun x => exists_factor hρ0 (h x)) a
  obtain ⟨ea, ha, h1⟩ := hP a
  obtain ⟨eb, hb, h2⟩ := hP b
  rw [ha, hb]
  generalize v.getD a 0 = x
  generalize v.getD b 0 = y
  -- `w_a v_b − w_b v_a = lam·x·y·(e_a − e_b)` and `w_a v_b = lam·x·y·e_a`, with `|e_a − e_b| ≤ 2ρ`, `|e_a| ≥ 1 − ρ`
  have e1 : lam * x * ea * y - lam * y * eb * x = lam * x * y * (ea - eb) := by ring
  have e2 : lam * x * ea * y = lam * x * y * ea := by ring
  rw [e1, e2, abs_mul, abs_mul _ ea, mul_assoc, mul_left_comm c]
  refine mul_le_mul_of_nonneg_left ?_ (abs_nonneg _)
  have d := abs_sub_le ea 1 eb
  rw [abs_sub_comm 1 eb] at d
  have l := abs_sub_abs_le_abs_sub 1 (1 - ea)
  rw [sub_sub_cancel, abs_one, abs_sub_comm 1 ea] at l
  have k1 := mul_le_mul_of_nonneg_left (sub_le_sub_left hρ' 1) (abs_nonneg (ea - eb))
  have k2 := mul_le_mul_of_nonneg_right (show |ea - eb| ≤ 2 * ρ by linarith) (sub_nonneg.mpr hρ1)
  have k3 := mul_le_mul_of_nonneg_right hc (sub_nonneg.mpr hρ1)
  have k4 := mul_le_mul_of_nonneg_left (show 1 - ρ ≤ |ea| by linarith) (show 0 ≤ c by linarith)
  linarith

/-- `Σ_c w_c v_c` -/
def dot : List K → List K → K
  | x :: xs, y :: ys => x * y + dot xs ys
  | _, _ => 0

/-- the perturbed multiple still points the same way: `w·v ≥ (1-ρ)·lam·‖v‖²` for `lam ≥ 0` -/
theorem dot_map_low (f : K → K) (lam ρ : K) (hl : 0 ≤ lam) (hρ : 0 ≤ ρ) (v : List K)
    (h : ∀ x ∈ v, |f x - lam * x| ≤ ρ * |lam * x|) :
    (1 - ρ) * (lam * sqLen v) ≤ dot (v.map f) v := by
  induction v with
  | nil => simp [dot, sqLen]
  | cons x xs ih =>
    simp only [List.map_cons, dot, sqLen]
    obtain ⟨e, he, h1⟩ := exists_factor hρ (h x List.mem_cons_self)
    have h2 := ih fun y hy => h y (List.mem_cons_of_mem _ hy)
    have := mul_le_mul_of_nonneg_left (show 1 - ρ ≤ e by linarith [(abs_le.mp h1).1])
      (mul_nonneg hl (mul_self_nonneg x))
    rw [he]
    linarith

/-- **the direction under a component map within `ρ < 1` of `x ↦ (t/n)·x`**, `n > 0`, on a non-zero
cell: cross terms with the old vector relatively below `c/(1 − ρ')` for `ρ ≤ ρ'`, `2ρ ≤ c`, and for
`t > 0` a positive dot product with it -/
theorem direction_of_err (f : K → K) (v : List K) {t n ρ ρ' c : K}
    (h : ∀ x, |f x - t / n * x| ≤ ρ * |t / n * x|) (hρ0 : 0 ≤ ρ) (hρ1 : ρ < 1) (hρ' : ρ ≤ ρ') (hc : 2 * ρ ≤ c)
    (hn : 0 < n) (hS : 0 < sqLen v) :
    (∀ a b : Nat, a < v.length →
      |(v.map f).getD a 0 * v.getD b 0 - (v.map f).getD b 0 * v.getD a 0| * (1 - ρ') ≤
        c * |(v.map f).getD a 0 * v.getD b 0|) ∧
    (0 < t → 0 < dot (v.map f) v) :=
  ⟨fun a b _ => cross_rel f _ v h hρ0 hρ1.le hρ' hc a b,
    fun ht => lt_of_lt_of_le (mul_pos (sub_pos.mpr hρ1) (mul_pos (div_pos ht hn) hS))
      (dot_map_low f _ ρ (div_pos ht hn).le hρ0 v fun x _ => h x)⟩

/-! ### the cell functions -/
section cells
variable {fl : K → K} {u : K}

/-- the identity is the rounding with `u = 0`, so the rounded kernel with `fl := id` is the
exact kernel -/
theorem flOk_id : FlOk (id : K → K) 0 := ⟨le_rfl, fun x => by simp⟩

theorem flSqLen_id (v : List K) : flSqLen id v = sqLen v :=
  (flSqLen_rel flOk_id (by norm_num) v).eq_of_unit_one

theorem cflSqLen_id (fused : Bool) (v : List (K × K)) : cflSqLen id fused v = cSqLen v :=
  (cflSqLen_rel flOk_id (by norm_num) fused v).eq_of_unit_one

omit [LinearOrder K] [IsStrictOrderedRing K] in
theorem cflDivCell_id (v : List (K × K)) (n : K) : cflDivCell id v n = v.map fun z => (z.1 / n, z.2 / n) := by
  unfold cflDivCell
  exact List.map_congr_left fun z _ => by simp [div_eq_mul_inv]

omit [IsStrictOrderedRing K] in
theorem flSetCell_of_ne {fl sqrt : K → K} {v : List K} (t : K) (hne : flNormCell fl sqrt v ≠ 0) :
    flSetCell fl sqrt v t = v.map fun x => fl (fl (x / flNormCell fl sqrt v) * t) := by
  unfold flSetCell
  rw [if_neg hne, List.map_map]
  rfl

theorem flSetCell_of_eq {fl sqrt : K → K} {u : K} (h : FlOk fl u) {v : List K} (t : K)
    (he : flNormCell fl sqrt v = 0) : flSetCell fl sqrt v t = zeros v := by
  unfold flSetCell
  rw [if_pos he]
  exact map_zeros (by rw [zero_mul, h.zero]) v

theorem closeZero_of_lt {atol x : K} (hx : 0 ≤ x) (h : atol < x) : closeZero atol x = false := by
  rw [closeZero_eq, abs_of_nonneg hx]; exact decide_eq_false (not_le.mpr h)

theorem closeZero_of_le {atol x : K} (hx : 0 ≤ x) (h : x ≤ atol) : closeZero atol x = true := by
  rw [closeZero_eq, abs_of_nonneg hx]; exact decide_eq_true h

theorem flOrientCell_of_lt {fl sqrt : K → K} {atol : K} {v : List K} (hn : 0 ≤ flNormCell fl sqrt v)
    (hat : atol < flNormCell fl sqrt v) :
    flOrientCell fl sqrt atol v = v.map fun x => fl (x / flNormCell fl sqrt v) := by
  unfold flOrientCell; rw [closeZero_of_lt hn hat]; rfl

theorem flOrientCell_of_le {fl sqrt : K → K} {atol : K} {v : List K} (hn : 0 ≤ flNormCell fl sqrt v)
    (hle : flNormCell fl sqrt v ≤ atol) : flOrientCell fl sqrt atol v = zeros v := by
  unfold flOrientCell; rw [closeZero_of_le hn hle]; rfl

/-- **the orientation's guard under rounding**, for a computed norm within `η` of the length: a
cell whose length is at most `atol/(1 + η)` is zeroed, one whose length exceeds `atol/(1 − η)`
is normalised; only lengths inside that band can go either way -/
theorem flOrientCell_band_of {fl sqrt : K → K} {atol η : K} {v : List K}
    (hn0 : 0 ≤ flNormCell fl sqrt v)
    (herr : |flNormCell fl sqrt v - normCell sqrt v| ≤ η * normCell sqrt v) :
    (normCell sqrt v * (1 + η) ≤ atol → flOrientCell fl sqrt atol v = zeros v) ∧
    (atol < normCell sqrt v * (1 - η) →
      flOrientCell fl sqrt atol v = v.map fun x => fl (x / flNormCell fl sqrt v)) := by
  have herr := abs_le.mp herr
  exact ⟨fun hle => flOrientCell_of_le hn0 (by linarith [herr.2]),
    fun hlt => flOrientCell_of_lt hn0 (by linarith [herr.1])⟩

/-- **the computed setter with an exact root**: every component known up to `n + 7` against
`(t/‖v‖)·v_c` (the norm `n + 3`, two roundings), the squared length up to twice that against `t²` -/
theorem flSetCell_exact_rel {sqrt : K → K} (h : FlOk fl u) (hu : u ≤ 1 / 1024) (v : List K) (t : K)
    (hs : SqrtAt sqrt (sqLen v)) (hs' : SqrtAt sqrt (flSqLen fl v)) (hnz : sqLen v ≠ 0) :
    (∀ x, Rel (base u) (v.length + 7) (fl (fl (x / flNormCell fl sqrt v) * t)) (t / normCell sqrt v * x)) ∧
    Rel (base u) (2 * (v.length + 7)) (sqLen (v.map fun x => fl (fl (x / flNormCell fl sqrt v) * t))) (t * t) := by
  have B := base_unit h hu
  have hrel := fun x => (quot_mul_rel h hu (flNormCell_rel h hu v hs hs') x t).2
  exact ⟨hrel, scaledMap_rel (j := 0) B _ v hnz (normCell_sq_rel B hs) hrel⟩

/-- **the computed orientation with an exact root**: components known up to `n + 5` against
`v_c/‖v‖`, the squared length up to twice that against 1 -/
theorem flOrientCell_exact_rel {sqrt : K → K} (h : FlOk fl u) (hu : u ≤ 1 / 1024) (v : List K)
    (hs : SqrtAt sqrt (sqLen v)) (hs' : SqrtAt sqrt (flSqLen fl v)) (hnz : sqLen v ≠ 0) :
    (∀ x, Rel (base u) (v.length + 5) (fl (x / flNormCell fl sqrt v)) (x / normCell sqrt v)) ∧
    Rel (base u) (2 * (v.length + 5)) (sqLen (v.map fun x => fl (x / flNormCell fl sqrt v))) 1 := by
  have B := base_unit h hu
  have hrel := fun x => (quot_mul_rel h hu (flNormCell_rel h hu v hs hs') x 1).1
  have := scaledMap_rel (t := 1) (j := 0) B _ v hnz (normCell_sq_rel B hs)
    fun x => by rw [one_div_mul_eq_div]; exact hrel x
  rw [mul_one] at this
  exact ⟨hrel, this⟩

/-- … at most four components: `13u`, `12u/(1 − 6u)` -/
theorem flSetCell_four {fl sqrt : K → K} {u : K} (h : FlOk fl u) (hu : u ≤ 1 / 1024) (v : List K)
    (t : K) (hlen : v.length ≤ 4) (hs : SqrtAt sqrt (sqLen v)) (hs' : SqrtAt sqrt (flSqLen fl v))
    (hnz : sqLen v ≠ 0) :
    |sqLen (flSetCell fl sqrt v t) - t * t| ≤ 13 * u * (t * t) ∧
    (∀ a b : Nat, a < v.length →
      |(flSetCell fl sqrt v t).getD a 0 * v.getD b 0 - (flSetCell fl sqrt v t).getD b 0 * v.getD a 0|
        * (1 - 6 * u) ≤ 12 * u * |(flSetCell fl sqrt v t).getD a 0 * v.getD b 0|) ∧
    (0 < t → 0 < dot (flSetCell fl sqrt v t) v) := by
  obtain ⟨hrel, hsq⟩ := flSetCell_exact_rel h hu v t hs hs' hnz
  have herr := fun x => ((hrel x).mono (show v.length + 7 ≤ 11 by omega)).le_lit h.1 hu 6 (by norm_num) (by norm_num)
  have hsq := (hsq.mono (show 2 * (v.length + 7) ≤ 22 by omega)).le_lit h.1 hu 13 (by norm_num) (by norm_num)
  have hρ := mul_lt_one_of_le (c := 6) hu (by norm_num) (by norm_num)
  rw [abs_mul_self] at hsq
  rw [flSetCell_of_ne t fun e => hnz ((flNormCell_eq_zero h hu v hs').mp e)]
  exact ⟨hsq, direction_of_err _ v herr (mul_nonneg (by norm_num) h.1) hρ le_rfl (le_of_eq (by ring))
    (hs.pos hnz) (lt_of_le_of_ne (sqLen_nonneg v) (Ne.symm hnz))⟩

/-- the setter's component map `x ↦ fl(fl(x/n)·t)` for a positive `n` whose square is known up to
`j` against the squared length: eight more halves on the squared length; two roundings
(`17/8·u`) per component give the direction -/
theorem setMap_rel (h : FlOk fl u) (hu : u ≤ 1 / 1024) (v : List K) (t : K) {n : K} {j : ℕ} (hn : 0 < n)
    (hS : 0 < sqLen v) (hnsq : Rel (base u) j (n * n) (sqLen v)) :
    Rel (base u) (8 + j) (sqLen (v.map fun x => fl (fl (x / n) * t))) (t * t) ∧
    (∀ a b : Nat, a < v.length →
      |(v.map fun x => fl (fl (x / n) * t)).getD a 0 * v.getD b 0 -
          (v.map fun x => fl (fl (x / n) * t)).getD b 0 * v.getD a 0| * (1 - 17 / 8 * u) ≤
        17 / 4 * u * |(v.map fun x => fl (fl (x / n) * t)).getD a 0 * v.getD b 0|) ∧
    (0 < t → 0 < dot (v.map fun x => fl (fl (x / n) * t)) v) := by
  have B := base_unit h hu
  have hrel := fun x => (quot_mul_rel h hu (Rel.refl B n) x t).2
  have herr := fun x => (hrel x).le_lit h.1 hu (17 / 8) (by norm_num) (by norm_num)
  have hρ := mul_lt_one_of_le (c := 17 / 8) hu (by norm_num) (by norm_num)
  exact ⟨scaledMap_rel B _ v hS.ne' hnsq hrel,
    direction_of_err _ v herr (mul_nonneg (by norm_num) h.1) hρ le_rfl (le_of_eq (by ring)) hn hS⟩

/-- the orientation's component map `x ↦ fl(x/n)`: four more halves -/
theorem orientMap_rel (h : FlOk fl u) (hu : u ≤ 1 / 1024) (v : List K) {n : K} {j : ℕ}
    (hS : sqLen v ≠ 0) (hnsq : Rel (base u) j (n * n) (sqLen v)) :
    Rel (base u) (4 + j) (sqLen (v.map fun x => fl (x / n))) 1 := by
  have := scaledMap_rel (t := 1) (base_unit h hu) _ v hS hnsq
    fun x => by rw [one_div_mul_eq_div]; exact Rel.fl h hu (x / n)
  rwa [mul_one] at this

/-- **the computed setter for a computed norm `ν ≥ 0` whose square is known up to `j`** against the
squared length: a zero cell stays exactly zero; otherwise the squared length is known up to
`8 + j` against `t²`, cross terms with the old vector relatively below `17/4·u/(1 − 17/8·u)`,
positive dot product for `t > 0`.  The rounded-root theorems (at most four components, any
number, any order of summation) differ in `j` only. -/
theorem flSetCell_exec_rel {sq : K → K} {j : ℕ} (h : FlOk fl u) (hu : u ≤ 1 / 1024) (v : List K) (t : K)
    (hnorm : 0 ≤ flNormCell fl sq v ∧ Rel (base u) j (flNormCell fl sq v * flNormCell fl sq v) (sqLen v)) :
    ((∀ x ∈ v, x = 0) → flSetCell fl sq v t = zeros v) ∧
    (sqLen v ≠ 0 →
      Rel (base u) (8 + j) (sqLen (flSetCell fl sq v t)) (t * t) ∧
      (∀ a b : Nat, a < v.length →
        |(flSetCell fl sq v t).getD a 0 * v.getD b 0 - (flSetCell fl sq v t).getD b 0 * v.getD a 0|
          * (1 - 17 / 8 * u) ≤ 17 / 4 * u * |(flSetCell fl sq v t).getD a 0 * v.getD b 0|) ∧
      (0 < t → 0 < dot (flSetCell fl sq v t) v)) := by
  obtain ⟨hn0, hnsq⟩ := hnorm
  have hz := hnsq.sq_eq_zero_iff
  refine ⟨fun hv => flSetCell_of_eq h t (hz.mpr ((sqLen_eq_zero_iff v).mpr hv)), fun hS => ?_⟩
  have hne : flNormCell fl sq v ≠ 0 := fun e => hS (hz.mp e)
  rw [flSetCell_of_ne t hne]
  exact setMap_rel h hu v t (lt_of_le_of_ne hn0 (Ne.symm hne))
    (lt_of_le_of_ne (sqLen_nonneg v) (Ne.symm hS)) hnsq

/-- **the computed orientation for such a norm**, above the threshold: squared length known up to
`4 + j` against 1; times the computed norm it reproduces the field within one rounding -/
theorem flOrientCell_exec_rel {sq : K → K} {atol : K} {j : ℕ} (h : FlOk fl u) (hu : u ≤ 1 / 1024) (v : List K)
    (hnorm : 0 ≤ flNormCell fl sq v ∧ Rel (base u) j (flNormCell fl sq v * flNormCell fl sq v) (sqLen v))
    (h0 : 0 ≤ atol) (hat : atol < flNormCell fl sq v) :
    Rel (base u) (4 + j) (sqLen (flOrientCell fl sq atol v)) 1 ∧
    ∀ a : Nat, |(flOrientCell fl sq atol v).getD a 0 * flNormCell fl sq v - v.getD a 0| ≤ u * |v.getD a 0| := by
  obtain ⟨hn0, hnsq⟩ := hnorm
  have hnpos : 0 < flNormCell fl sq v := lt_of_le_of_lt h0 hat
  have hS : sqLen v ≠ 0 := fun e => (mul_pos hnpos hnpos).ne' (hnsq.eq_zero_iff.mpr e)
  rw [flOrientCell_of_lt hn0 hat]
  exact ⟨orientMap_rel h hu v hS hnsq, getD_map_times _ v _ u fun x => times_err hnpos.ne' (h.2 _)⟩

end cells

/-! ### the complex kernel through the `(re, im)` view -/

omit [LinearOrder K] [IsStrictOrderedRing K] in
theorem flattenC_cflDiv (fl : K → K) (v : List (K × K)) (n : K) :
    flattenC (cflDivCell fl v n) = (flattenC v).map fun x => fl (x * fl (1 / n)) := by
  unfold cflDivCell
  exact flattenC_map (fun x => fl (x * fl (1 / n))) v

omit [IsStrictOrderedRing K] in
theorem flattenC_cflSet_of_ne {fl sq : K → K} {fused : Bool} {v : List (K × K)} (t : K)
    (hne : cflNormCell fl sq fused v ≠ 0) :
    flattenC (cflSetCell fl sq fused v t) =
      (flattenC v).map fun x => fl (fl (x * fl (1 / cflNormCell fl sq fused v)) * t) := by
  unfold cflSetCell
  rw [if_neg hne, flattenC_map (fun x => fl (x * t)), flattenC_cflDiv, List.map_map]
  rfl

theorem flattenC_cflSet_of_eq {fl sq : K → K} {u : K} (h : FlOk fl u) {fused : Bool} {v : List (K × K)}
    (t : K) (he : cflNormCell fl sq fused v = 0) :
    flattenC (cflSetCell fl sq fused v t) = zeros (flattenC v) := by
  unfold cflSetCell
  rw [if_pos he, flattenC_map (fun x => fl (x * t)), flattenC_zeros]
  exact map_zeros (by rw [zero_mul, h.zero]) _

theorem flattenC_cflOrient_of_lt {fl sq : K → K} {fused : Bool} {atol : K} {v : List (K × K)}
    (hn : 0 ≤ cflNormCell fl sq fused v) (hat : atol < cflNormCell fl sq fused v) :
    flattenC (cflOrientCell fl sq fused atol v) =
      (flattenC v).map fun x => fl (x * fl (1 / cflNormCell fl sq fused v)) := by
  unfold cflOrientCell; rw [closeZero_of_lt hn hat]; exact flattenC_cflDiv fl v _

end DFV.C15
