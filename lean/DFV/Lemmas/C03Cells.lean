import DFV.Lemmas.C03Ctor

/-! C03: every operation read cell by cell.  First the ring laws of `GQ` (primed names: `GQ` carries no algebraic
instances), `crossAt`, `sumTo` and list broadcasting `bz`.  `Cells n f cf vf` says that `f` is a well-formed field over
the cell counts `n` whose cell `i` holds the component list `cf i` and the validity `vf i`.  Each
operation is one NumPy call on whole arrays followed by the constructor; the lemmas here turn that
into the cell-level function (`bz`, `dotCell`, `crossCell`, `++`, …) on the operands' component lists. -/

namespace DFV.C03
open DFV

namespace GQ

theorem ext' {a b : GQ} (h1 : a.re = b.re) (h2 : a.im = b.im) : a = b := by
  cases a; cases b; simp_all

theorem add_comm' (a b : GQ) : add a b = add b a := by
  apply ext' <;> simp only [add] <;> ring

theorem mul_comm' (a b : GQ) : mul a b = mul b a := by
  apply ext' <;> simp only [mul] <;> ring

theorem neg_add_eq_sub (a b : GQ) : add (neg a) b = sub b a := by
  apply ext' <;> simp only [add, neg, sub] <;> ring

theorem neg_sub (a b : GQ) : neg (sub a b) = sub b a := by
  apply ext' <;> simp only [neg, sub] <;> ring

theorem add_assoc' (a b c : GQ) : add (add a b) c = add a (add b c) := by
  apply ext' <;> simp only [add] <;> ring

theorem mul_assoc' (a b c : GQ) : mul (mul a b) c = mul a (mul b c) := by
  apply ext' <;> simp only [mul] <;> ring

theorem mul_add' (a b c : GQ) : mul a (add b c) = add (mul a b) (mul a c) := by
  apply ext' <;> simp only [mul, add] <;> ring

theorem sub_eq_add_neg' (a b : GQ) : sub a b = add a (neg b) := by
  apply ext' <;> simp only [sub, add, neg] <;> ring

theorem re_im_recompose (z : GQ) : add (realPart z) (mul ⟨0, 1⟩ (imagPart z)) = z := by
  apply ext' <;> simp only [add, mul, realPart, imagPart] <;> ring

theorem conj_mul (a b : GQ) : conj (mul a b) = mul (conj a) (conj b) := by
  apply ext' <;> simp only [conj, mul] <;> ring

theorem conj_add (a b : GQ) : conj (add a b) = add (conj a) (conj b) := by
  apply ext'
  · simp only [conj, add]
  · simp only [conj, add]; ring

theorem sub_self' (a : GQ) : sub a a = zero := by
  apply ext' <;> simp only [sub, zero] <;> ring

theorem mul_one' (a : GQ) : mul a ⟨1, 0⟩ = a := by
  apply ext' <;> simp only [mul] <;> ring

theorem add_zero' (a : GQ) : add a ⟨0, 0⟩ = a := by
  apply ext' <;> simp only [add] <;> ring

end GQ

theorem crossAt_anticomm (x y : Nat → GQ) (c : Nat) : GQ.neg (crossAt x y c) = crossAt y x c := by
  unfold crossAt
  split
  · rw [GQ.neg_sub, GQ.mul_comm' (x 2), GQ.mul_comm' (x 1)]
  · split
    · rw [GQ.neg_sub, GQ.mul_comm' (x 0), GQ.mul_comm' (x 2)]
    · rw [GQ.neg_sub, GQ.mul_comm' (x 1), GQ.mul_comm' (x 0)]

theorem crossAt_congr (x x' y y' : Nat → GQ) (c : Nat)
    (hx : ∀ k, k < 3 → x k = x' k) (hy : ∀ k, k < 3 → y k = y' k) : crossAt x y c = crossAt x' y' c := by
  unfold crossAt
  rw [hx 0 (by omega), hx 1 (by omega), hx 2 (by omega), hy 0 (by omega), hy 1 (by omega), hy 2 (by omega)]

theorem sumTo_succ (n : Nat) (f : Nat → GQ) : sumTo (n + 1) f = GQ.add (sumTo n f) (f n) := by
  simp [sumTo, List.range_succ]

theorem sumTo_congr (n : Nat) (f g : Nat → GQ) (h : ∀ c, c < n → f c = g c) : sumTo n f = sumTo n g := by
  induction n with
  | zero => rfl
  | succ n ih =>
    rw [sumTo_succ, sumTo_succ, ih (fun c hc => h c (by omega)), h n (by omega)]

/-- length of `bz f xs ys` from the lengths of `xs`, `ys` (the `d` of `bdim_some`) -/
def bl (x y : Nat) : Nat := if x = 1 then y else x

/-- component `c` of a component list under broadcasting (a one-element list is repeated) -/
def compAt (xs : List GQ) (c : Nat) : GQ := xs.getD (if xs.length = 1 then 0 else c) GQ.zero

theorem bz_length (f : GQ → GQ → GQ) (xs ys : List GQ) : (bz f xs ys).length = bl xs.length ys.length := by
  simp [bz, bl]

theorem bz_getD (fn : GQ → GQ → GQ) (xs ys : List GQ) (c : Nat) (hc : c < bl xs.length ys.length) :
    (bz fn xs ys).getD c GQ.zero = fn (compAt xs c) (compAt ys c) :=
  getD_tab _ _ _ _ hc

theorem bl_comm {a b : Nat} (h : Compat a b) : bl a b = bl b a := by
  unfold bl Compat at *
  split <;> split <;> omega

theorem bz_swap (fn : GQ → GQ → GQ) (xs ys : List GQ) (hc : Compat xs.length ys.length) :
    bz fn xs ys = bz (fun a b => fn b a) ys xs := by
  unfold bz
  rw [show (if xs.length = 1 then ys.length else xs.length) = (if ys.length = 1 then xs.length else ys.length) from bl_comm hc]

theorem bz_comm (fn : GQ → GQ → GQ) (hfn : ∀ a b, fn a b = fn b a) (xs ys : List GQ)
    (hc : Compat xs.length ys.length) : bz fn xs ys = bz fn ys xs := by
  rw [bz_swap fn xs ys hc]
  have : (fun a b => fn b a) = fn := by funext a b; exact (hfn a b).symm
  rw [this]

theorem bz_map_left (fn : GQ → GQ → GQ) (g : GQ → GQ) (xs ys : List GQ) :
    bz fn (xs.map g) ys = bz (fun a b => fn (g a) b) xs ys := by
  unfold bz
  simp only [List.length_map]
  apply tab_congr
  intro c hc
  have hj : (if xs.length = 1 then 0 else c) < xs.length := by
    by_cases h : xs.length = 1
    · simp [h]
    · simpa [h] using hc
  congr 1
  simp [List.getD_eq_getElem?_getD, List.getElem?_map, List.getElem?_eq_getElem hj]

theorem bz_map_out (fn : GQ → GQ → GQ) (g : GQ → GQ) (xs ys : List GQ) :
    (bz fn xs ys).map g = bz (fun a b => g (fn a b)) xs ys := by
  unfold bz
  rw [tab_map]

theorem bz_neg_add (xs ys : List GQ) (hc : Compat xs.length ys.length) :
    bz GQ.add (xs.map GQ.neg) ys = bz GQ.sub ys xs := by
  rw [bz_map_left, bz_swap GQ.sub ys xs (by unfold Compat at *; omega)]
  congr 1
  funext a b
  exact GQ.neg_add_eq_sub a b

theorem bz_single (fn : GQ → GQ → GQ) (a b : GQ) : bz fn [a] [b] = [fn a b] := by
  simp [bz, tab]

theorem bz_zipWith (fn : GQ → GQ → GQ) (xs ys : List GQ) (h : xs.length = ys.length) :
    bz fn xs ys = List.zipWith fn xs ys := by
  unfold bz
  apply List.ext_getElem
  · by_cases h1 : xs.length = 1
    · simp [h1, ← h]
    · simp [h1, ← h]
  · intro c h1 h2
    simp only [List.length_zipWith] at h2
    have hx : c < xs.length := by omega
    have hy : c < ys.length := by omega
    rw [getElem_tab, List.getElem_zipWith]
    by_cases hl : xs.length = 1
    · have hc : c = 0 := by omega
      subst hc
      have hl' : ys.length = 1 := by omega
      simp [hl, hl', List.getD_eq_getElem?_getD]
    · have hl' : ¬ ys.length = 1 := by omega
      simp [hl, hl', List.getD_eq_getElem?_getD, List.getElem?_eq_getElem hx, List.getElem?_eq_getElem hy]

theorem bz_scalar_right (fn : GQ → GQ → GQ) (xs : List GQ) (y : GQ) : bz fn xs [y] = xs.map (fun x => fn x y) := by
  unfold bz
  apply List.ext_getElem
  · by_cases h1 : xs.length = 1 <;> simp [h1]
  · intro c h1 h2
    simp only [List.length_map] at h2
    rw [getElem_tab, List.getElem_map]
    by_cases hl : xs.length = 1
    · have hc : c = 0 := by omega
      subst hc
      simp [hl, List.getD_eq_getElem?_getD]
    · simp [hl, List.getD_eq_getElem?_getD, List.getElem?_eq_getElem h2]

theorem cellOf_length (a : NDA GQ) (i : List Nat) (k : Nat) : (cellOf a i k).length = k := by
  simp [cellOf]

theorem cellOf_map (a : NDA GQ) (fn : GQ → GQ) (i : List Nat) (k : Nat) :
    cellOf (a.map fn) i k = (cellOf a i k).map fn := by
  unfold cellOf
  rw [tab_map]
  rfl

theorem opdCell_length (a : NDA GQ) (i : List Nat) : (opdCell a i).length = lastDim a.shape := by
  unfold opdCell lastDim
  by_cases h : a.shape = []
  · simp [h]
  · simp [h, cellOfB]

theorem opdCell_getD (a : NDA GQ) (i : List Nat) (c : Nat)
    (hc : lastDim a.shape = 1 ∨ c < lastDim a.shape) :
    compAt (opdCell a i) c = a.get (bproj a.shape (i ++ [c])) := by
  unfold compAt
  rw [opdCell_length]
  rcases list_nil_or_concat a.shape with h | ⟨t, m, h⟩
  · unfold opdCell lastDim
    simp [h, bproj_nil]
  · have hl : lastDim a.shape = m := by rw [h]; exact lastDim_concat t m
    have hne : ¬ a.shape = [] := by rw [h]; simp
    unfold opdCell
    simp only [hne, if_false, hl, cellOfB]
    rw [h, lastAx_concat]
    by_cases hm : m = 1
    · subst hm
      simp only [if_true]
      rw [getD_tab _ _ _ _ (by omega), bproj_last_one t i c]
    · simp only [hm, if_false]
      have : c < m := by
        rcases hc with hc | hc
        · rw [hl] at hc; exact absurd hc hm
        · rw [hl] at hc; exact hc
      rw [getD_tab _ _ _ _ this]

theorem opdCell_scalarArr (z : GQ) (i : List Nat) : opdCell (scalarArr z) i = [z] := by
  simp [opdCell, scalarArr]

theorem opdCell_vector (a : NDA GQ) (k : Nat) (ha : a.shape = [k]) (i : List Nat) :
    opdCell a i = tab k (fun c => a.get [c]) := by
  unfold opdCell cellOfB
  rw [if_neg (by rw [ha]; simp), ha]
  show tab k _ = _
  apply tab_congr
  intro c hc
  congr 1
  unfold bproj
  simp only [List.reverse_cons, List.reverse_nil, List.nil_append, List.reverse_append, List.cons_append]
  simp only [bprojRev]
  by_cases hk : k = 1
  · subst hk
    have : c = 0 := by omega
    subst this
    simp
  · simp [hk]

theorem opdCell_percell (a : NDA GQ) (n : List Nat) (k : Nat) (ha : a.shape = n ++ [k]) (i : List Nat)
    (hi : inRange n i = true) : opdCell a i = cellOf a i k := by
  unfold opdCell cellOfB cellOf
  rw [if_neg (by rw [ha]; simp), ha, lastAx_concat]
  apply tab_congr
  intro c hc
  rw [bproj_inRange]
  rw [inRange_append_single]
  exact ⟨hi, hc⟩

theorem opdCell_field (f : CF) (hw : CFwf f) (i : List Nat) (hi : inRange f.mesh.n i = true) :
    opdCell f.data i = cellOf f.data i f.nvdim :=
  opdCell_percell f.data f.mesh.n f.nvdim hw.1 i hi

/-- elementwise function on the broadcast views of two arrays at cell `i`: component `c`
is the function of the two arrays read at `i ++ [c]` through broadcasting -/
theorem bz_opdCell (fn : GQ → GQ → GQ) (A B : NDA GQ) (s : List Nat)
    (hs : bshape A.shape B.shape = some s) (hsne : s ≠ []) (i : List Nat) :
    bdim (lastDim A.shape) (lastDim B.shape) = some (lastAx s) ∧
    (bz fn (opdCell A i) (opdCell B i)).length = lastAx s ∧
    ∀ c, c < lastAx s →
      (bz fn (opdCell A i) (opdCell B i)).getD c GQ.zero =
        fn (A.get (bproj A.shape (i ++ [c]))) (B.get (bproj B.shape (i ++ [c]))) := by
  have hbd := bshape_lastDim _ _ _ hs hsne
  obtain ⟨hd1, hd2⟩ := bdim_some _ _ _ hbd
  have hlen : (bz fn (opdCell A i) (opdCell B i)).length = lastAx s := by
    rw [bz_length, opdCell_length, opdCell_length]; exact hd1.symm
  refine ⟨hbd, hlen, ?_⟩
  intro c h1
  rw [bz_getD _ _ _ _ (by rw [← bz_length, hlen]; exact h1)]
  have hcA : lastDim A.shape = 1 ∨ c < lastDim A.shape := by
    by_cases hA : lastDim A.shape = 1
    · exact Or.inl hA
    · right; rw [hd1] at h1; simpa [hA] using h1
  have hcB : lastDim B.shape = 1 ∨ c < lastDim B.shape := by
    rcases hd2 with hB | hB
    · exact Or.inl hB
    · right; rw [hB]; exact h1
  rw [opdCell_getD A i c hcA, opdCell_getD B i c hcB]

/-- `f` is a well-formed field on a mesh with cell counts `n` whose cell `i` holds the
components `cf i` and the validity `vf i` -/
def Cells (n : List Nat) (f : CF) (cf : List Nat → List GQ) (vf : List Nat → Bool) : Prop :=
  CFwf f ∧ f.mesh.n = n ∧ ∀ i, inRange n i = true → cellOf f.data i f.nvdim = cf i ∧ f.valid.get i = vf i

theorem Cells.congr {n f cf vf cf' vf'} (h : Cells n f cf vf) (hc : ∀ i, inRange n i = true → cf i = cf' i)
    (hv : ∀ i, inRange n i = true → vf i = vf' i) : Cells n f cf' vf' :=
  ⟨h.1, h.2.1, fun i hi => ⟨(h.2.2 i hi).1.trans (hc i hi), (h.2.2 i hi).2.trans (hv i hi)⟩⟩

theorem Cells.self {f : CF} (hw : CFwf f) :
    Cells f.mesh.n f (fun i => cellOf f.data i f.nvdim) (fun i => f.valid.get i) :=
  ⟨hw, rfl, fun _ _ => ⟨rfl, rfl⟩⟩

theorem Cells.opd {n f cf vf} (h : Cells n f cf vf) (i : List Nat) (hi : inRange n i = true) :
    opdCell f.data i = cf i := by
  obtain ⟨hw, hn, hc⟩ := h
  rw [opdCell_field f hw i (by rw [hn]; exact hi)]
  exact (hc i hi).1

theorem lastDim_field (f : CF) (hw : CFwf f) : lastDim f.data.shape = f.nvdim := by
  rw [hw.1]; exact lastDim_concat _ _

theorem Cells.rank {n f cf vf} (h : Cells n f cf vf) : f.mesh.n.length < f.data.shape.length := by
  rw [h.1.1]; simp

theorem Cells.lastDim {n f cf vf} (h : Cells n f cf vf) : lastDim f.data.shape = f.nvdim :=
  lastDim_field f h.1

theorem Cells.length {n f cf vf} (h : Cells n f cf vf) (i : List Nat) (hi : inRange n i = true) :
    (cf i).length = f.nvdim := by
  rw [← (h.2.2 i hi).1, cellOf_length]

/-- per-cell description of an operand value: a field, or a raw operand (always valid) -/
def ValCells (n : List Nat) (v : Val) (cv : List Nat → List GQ) (vv : List Nat → Bool) : Prop :=
  match v with
  | .fld f => Cells n f cv vv
  | .raw od => (∀ i, cv i = rawCell od i) ∧ (∀ i, vv i = true)

theorem ValCells.opd {n v cv vv} (h : ValCells n v cv vv) (i : List Nat) (hi : inRange n i = true) :
    opdCell v.arr i = cv i := by
  cases v with
  | fld f => exact Cells.opd h i hi
  | raw od =>
    rw [h.1 i]
    cases od with
    | num z k np => exact opdCell_scalarArr z i
    | arr a k np => rfl

theorem ValCells.length {n v cv vv} (h : ValCells n v cv vv) (i : List Nat) (hi : inRange n i = true) :
    (cv i).length = lastDim v.arr.shape := by
  rw [← h.opd i hi, opdCell_length]

/-- the field whose mesh a binary operation reuses lives on the common cell counts, its array has one
axis more than the mesh, and the mask handed to the constructor is the AND over the field operands -/
theorem ufuncValid_cells (n : List Nat) (self : CF) (l r : Val) (cl cr : List Nat → List GQ)
    (vl vr : List Nat → Bool) (hl : ValCells n l cl vl) (hr : ValCells n r cr vr)
    (hs : firstFld l r = some self) :
    self.mesh.n = n ∧ (self.mesh.n.length < l.arr.shape.length ∨ self.mesh.n.length < r.arr.shape.length) ∧
      (ufuncValid self l r).shape = self.mesh.n ∧
      ∀ i, inRange n i = true → (ufuncValid self l r).get i = (vl i && vr i) := by
  cases l with
  | fld f =>
    have hf : Cells n f cl vl := hl
    obtain rfl : f = self := Option.some.inj hs
    refine ⟨hf.2.1, Or.inl hf.rank, ?_⟩
    cases r with
    | fld o =>
      have ho : Cells n o cr vr := hr
      exact ⟨hf.1.2.1, fun i hi => by
        show (f.valid.get i && o.valid.get i) = _
        rw [(hf.2.2 i hi).2, (ho.2.2 i hi).2]⟩
    | raw od =>
      exact ⟨hf.1.2.1, fun i hi => by
        show f.valid.get i = _
        rw [(hf.2.2 i hi).2, hr.2 i, Bool.and_true]⟩
  | raw od =>
    cases r with
    | fld o =>
      have ho : Cells n o cr vr := hr
      obtain rfl : o = self := Option.some.inj hs
      exact ⟨ho.2.1, Or.inr ho.rank, ho.1.2.1, fun i hi => by
        show o.valid.get i = _
        rw [(ho.2.2 i hi).2, hl.2 i, Bool.true_and]⟩
    | raw od2 => cases hs

/-- from the arrays to the operands: a result described through the two input arrays and the mask of
the call is described through the operands' component lists and validities -/
theorem Cells.of_arrays {n : List Nat} {self g : CF} {l r : Val} {cl cr : List Nat → List GQ}
    {vl vr : List Nat → Bool} {F : List GQ → List GQ → List GQ} (hl : ValCells n l cl vl) (hr : ValCells n r cr vr)
    (hs : firstFld l r = some self)
    (h : Cells self.mesh.n g (fun i => F (opdCell l.arr i) (opdCell r.arr i))
      (validAt (some (ufuncValid self l r)))) :
    Cells n g (fun i => F (cl i) (cr i)) (fun i => vl i && vr i) := by
  obtain ⟨hn, _, _, hv⟩ := ufuncValid_cells n self l r cl cr vl vr hl hr hs
  rw [hn] at h
  exact h.congr (fun i hi => by rw [hl.opd i hi, hr.opd i hi]) hv

/-- **array-level = cell-level** for a NumPy binary function followed by the constructor:
if `function(A, B)` is accepted by `Field(mesh, nvdim=res.shape[-1], value=res, …)` then
cell `i` of the new field is the function applied, with broadcasting of one-element
lists, to the component lists of `A` and `B` at cell `i`. -/
theorem npBin_cells (fn : GQ → GQ → GQ) (mesh : Mesh) (A B res : NDA GQ)
    (hrank : mesh.n.length < A.shape.length ∨ mesh.n.length < B.shape.length)
    (hres : npBin fn A B = .ok res)
    (kind : Kind) (vd : Option (List String)) (valid : Option (NDA Bool)) (vm : Option VMap)
    (unit : Option String) (g : CF)
    (hvs : ∀ v, valid = some v → v.shape = mesh.n)
    (hg : mkField mesh (lastAx res.shape) (.arr res) kind vd valid vm unit = .ok g) :
    Cells mesh.n g (fun i => bz fn (opdCell A i) (opdCell B i)) (validAt valid) ∧ g.mesh = mesh ∧
      bdim (lastDim A.shape) (lastDim B.shape) = some g.nvdim := by
  obtain ⟨s, hs, rfl⟩ := npBin_ok_iff.mp hres
  have hslen := bshape_length _ _ _ hs
  have hr : mesh.n.length < s.length := by omega
  obtain ⟨hm, hn, hwf, _, _, _, _, _, hdata, hvalid, hrank⟩ :=
    mkField_arr mesh _ _ kind vd valid vm unit g (not_meshShaped hr) hvs hg
  have hlen : s.length = mesh.n.length + 1 := hrank hr
  have hsne : s ≠ [] := by
    intro h0; rw [h0] at hlen; simp at hlen
  refine ⟨⟨hwf, by rw [hm], fun i hi => ⟨?_, hvalid i hi⟩⟩, hm, by rw [hn]; exact (bz_opdCell fn A B s hs hsne []).1⟩
  obtain ⟨_, hbl, hbg⟩ := bz_opdCell fn A B s hs hsne i
  have hn : g.nvdim = lastAx s := hn
  apply List.ext_getElem
  · rw [cellOf_length, hbl, hn]
  · intro c h1 h2
    rw [cellOf_length, hn] at h1
    have hidx : inRange (mesh.n ++ [lastAx s]) (i ++ [c]) = true := by
      rw [inRange_append_single]; exact ⟨hi, h1⟩
    have hil : s.length ≤ (i ++ [c]).length := by
      simp [inRange_length _ _ hi, hlen]
    have := hbg c h1
    rw [List.getD_eq_getElem?_getD, List.getElem?_eq_getElem h2, Option.getD_some] at this
    simp only [cellOf, getElem_tab]
    rw [this, hdata _ hidx]
    show fn (A.get (bproj A.shape (bproj s (i ++ [c])))) (B.get (bproj B.shape (bproj s (i ++ [c])))) = _
    rw [bproj_bproj A.shape s _ (into_left _ _ _ hs) hil, bproj_bproj B.shape s _ (into_right _ _ _ hs) hil]

/-- the constructor applied to an array of exactly the field shape `n ++ [nv]` -/
theorem mkField_of_cells (n : List Nat) (mesh : Mesh) (hmn : mesh.n = n) (nv : Nat) (res : NDA GQ)
    (hs : res.shape = n ++ [nv]) (kind : Kind) (vd : Option (List String)) (valid : Option (NDA Bool))
    (vm : Option VMap) (unit : Option String) (g : CF)
    (hvs : ∀ v, valid = some v → v.shape = mesh.n)
    (h : mkField mesh nv (.arr res) kind vd valid vm unit = .ok g) :
    g.mesh = mesh ∧ g.nvdim = nv ∧ g.unit = unit ∧ g.kind = kind.ctor ∧
      Cells n g (fun i => cellOf res i nv) (validAt valid) := by
  have hr : mesh.n.length < res.shape.length := by rw [hs, hmn]; simp
  obtain ⟨hm, hnv, hwf, hu, hk, _, _, _, hdata, hvalid, _⟩ :=
    mkField_arr mesh nv res kind vd valid vm unit g (not_meshShaped hr) hvs h
  refine ⟨hm, hnv, hu, hk, hwf, by rw [hm]; exact hmn, ?_⟩
  intro i hi
  have hi' : inRange mesh.n i = true := by rw [hmn]; exact hi
  refine ⟨?_, hvalid i hi'⟩
  rw [hnv]
  unfold cellOf
  apply tab_congr
  intro c hc
  have hidx : inRange (mesh.n ++ [nv]) (i ++ [c]) = true := by
    rw [inRange_append_single]; exact ⟨hi', hc⟩
  rw [hdata _ hidx, hs, ← hmn, bproj_inRange _ _ hidx]

/-- the constructor applied to `fn` of every entry of `f`'s own array, with `f`'s mask -/
theorem mkField_map_cells (fn : GQ → GQ) (n : List Nat) (f g : CF) (cf : List Nat → List GQ) (vf : List Nat → Bool)
    (hf : Cells n f cf vf) {kind : Kind} {vd : Option (List String)} {vm : Option VMap} {unit : Option String}
    (h : mkField f.mesh f.nvdim (.arr (f.data.map fn)) kind vd (some f.valid) vm unit = .ok g) :
    Cells n g (fun i => (cf i).map fn) vf ∧ g.mesh = f.mesh ∧ g.nvdim = f.nvdim := by
  obtain ⟨hm, hnv, _, _, hc⟩ := mkField_of_cells n f.mesh hf.2.1 f.nvdim (f.data.map fn)
    (by show f.data.shape = _; rw [hf.1.1, hf.2.1]) _ _ _ _ _ g (mask_some hf.1.2.1) h
  exact ⟨hc.congr (fun i hi => by rw [cellOf_map, (hf.2.2 i hi).1]) (fun i hi => (hf.2.2 i hi).2), hm, hnv⟩

theorem mapField_cells (fn : GQ → GQ) (rk : Kind → Kind) (keepUnit : Bool) (n : List Nat) (f g : CF)
    (cf : List Nat → List GQ) (vf : List Nat → Bool) (hf : Cells n f cf vf)
    (h : mapField fn rk keepUnit f = .ok g) :
    Cells n g (fun i => (cf i).map fn) vf ∧ g.mesh = f.mesh ∧ g.nvdim = f.nvdim :=
  mkField_map_cells fn n f g cf vf hf h

theorem ufunc1_cells (fn : GQ → GQ) (rk : Kind → Kind) (n : List Nat) (f g : CF)
    (cf : List Nat → List GQ) (vf : List Nat → Bool) (hf : Cells n f cf vf)
    (h : ufunc1 fn rk f = .ok g) :
    Cells n g (fun i => (cf i).map fn) vf ∧ g.mesh = f.mesh ∧ g.nvdim = f.nvdim := by
  have hmk := (ufuncWrap_ok_iff.mp (ufunc1_ok_iff.mp h).2).2
  have hlast : lastAx (f.data.map fn).shape = f.nvdim := by
    show lastAx f.data.shape = f.nvdim
    rw [hf.1.1, lastAx_concat]
  rw [hlast] at hmk
  exact mkField_map_cells fn n f g cf vf hf hmk

/-- `self ∘ other` is `bz fn` on the two component lists, for any operand -/
theorem applyOperator_val_cells (fn : GQ → GQ → GQ) (pw : Bool) (n : List Nat) (f g : CF) (v : Val)
    (cf cv : List Nat → List GQ) (vf vv : List Nat → Bool)
    (hf : Cells n f cf vf) (hv : ValCells n v cv vv)
    (h : applyOperator fn pw f v = .ok g) :
    Cells n g (fun i => bz fn (cf i) (cv i)) (fun i => vf i && vv i) ∧ g.mesh = f.mesh ∧
      bdim f.nvdim (lastDim v.arr.shape) = some g.nvdim := by
  obtain ⟨_, _, res, hres, hg⟩ := applyOperator_ok_iff.mp h
  obtain ⟨_, hrank, hvs, _⟩ := ufuncValid_cells n f (.fld f) v cf cv vf vv hf hv rfl
  obtain ⟨hc, hm, hbd⟩ := npBin_cells fn f.mesh f.data v.arr res hrank hres _ _ _ _ _ g (mask_some hvs) hg
  rw [hf.lastDim] at hbd
  exact ⟨Cells.of_arrays (l := .fld f) hf hv rfl hc, hm, hbd⟩

/-- an accepted `self ∘ other`: the component lists of the two operands at every cell can be broadcast -/
theorem applyOperator_compat (fn : GQ → GQ → GQ) (pw : Bool) (n : List Nat) (f g : CF) (v : Val)
    (cf cv : List Nat → List GQ) (vf vv : List Nat → Bool)
    (hf : Cells n f cf vf) (hv : ValCells n v cv vv)
    (h : applyOperator fn pw f v = .ok g) : ∀ i, inRange n i = true → Compat (cf i).length (cv i).length := by
  intro i hi
  rw [hf.length i hi, hv.length i hi]
  exact compat_of_bdim _ _ _ (applyOperator_val_cells fn pw n f g v cf cv vf vv hf hv h).2.2

theorem ufunc2_cells (fn : GQ → GQ → GQ) (pw : Bool) (n : List Nat) (l r : Val) (g : CF)
    (cl cr : List Nat → List GQ) (vl vr : List Nat → Bool)
    (hl : ValCells n l cl vl) (hr : ValCells n r cr vr)
    (h : ufunc2 fn pw l r = .ok g) :
    Cells n g (fun i => bz fn (cl i) (cr i)) (fun i => vl i && vr i) ∧
      (∃ self, firstFld l r = some self ∧ g.mesh = self.mesh) ∧
      ∀ i, inRange n i = true → Compat (cl i).length (cr i).length := by
  obtain ⟨self, ⟨hs, _, _⟩, _, res, hres, hw⟩ := ufunc2_ok_iff.mp h
  obtain ⟨_, hrank, hvs, _⟩ := ufuncValid_cells n self l r cl cr vl vr hl hr hs
  obtain ⟨hc, hm, hbd⟩ :=
    npBin_cells fn self.mesh l.arr r.arr res hrank hres _ _ _ _ _ g (mask_some hvs) (ufuncWrap_ok_iff.mp hw).2
  refine ⟨Cells.of_arrays hl hr hs hc, ⟨self, hs, hm⟩, fun i hi => ?_⟩
  rw [hl.length i hi, hr.length i hi]
  exact compat_of_bdim _ _ _ hbd

/-- `einsum` then the constructor is `dotCell` on the component lists: the shape of `res` comes from `bshape`,
and `bproj_bproj` collapses the two-stage broadcast -/
theorem einsum_cells (mesh : Mesh) (A B res : NDA GQ)
    (hrank : mesh.n.length < A.shape.length ∨ mesh.n.length < B.shape.length)
    (hres : einsumDot A B = .ok res)
    (kind : Kind) (vd : Option (List String)) (valid : Option (NDA Bool)) (vm : Option VMap)
    (unit : Option String) (g : CF)
    (hvs : ∀ v, valid = some v → v.shape = mesh.n)
    (hg : mkField mesh 1 (.arr ⟨res.shape ++ [1], fun idx => res.get idx.dropLast⟩) kind vd valid vm unit = .ok g) :
    Cells mesh.n g (fun i => [dotCell (opdCell A i) (opdCell B i)]) (validAt valid) ∧ g.mesh = mesh ∧ g.nvdim = 1 ∧
      Compat (lastDim A.shape) (lastDim B.shape) := by
  obtain ⟨hneA, _, s, hs, rfl⟩ := einsumDot_ok_iff.mp hres
  have hslen := bshape_length _ _ _ hs
  have hsne : s ≠ [] := by
    intro h0
    rw [h0] at hslen
    exact hneA (List.length_eq_zero_iff.mp (by simp at hslen; omega))
  obtain ⟨s', m, hsm⟩ := (list_nil_or_concat s).resolve_left hsne
  subst hsm
  have hr : mesh.n.length < ((s' ++ [m]).dropLast ++ [1]).length := by simp at hslen ⊢; omega
  obtain ⟨hm, hn, hwf, _, _, _, _, _, hdata, hvalid, hrank⟩ :=
    mkField_arr mesh 1 _ kind vd valid vm unit g (not_meshShaped hr) hvs hg
  have hs'len : s'.length = mesh.n.length := by simpa using hrank hr
  refine ⟨⟨hwf, by rw [hm], fun i hi => ⟨?_, hvalid i hi⟩⟩, hm, hn,
    compat_of_bdim _ _ _ (bz_opdCell GQ.mul A B _ hs hsne []).1⟩
  obtain ⟨_, hbl, hbg⟩ := bz_opdCell GQ.mul A B _ hs hsne i
  have hil : ∀ c, (s' ++ [m]).length ≤ (i ++ [c]).length := fun c => by
    simp [hs'len, inRange_length _ _ hi]
  rw [hn]
  show [g.data.get (i ++ [0])] = _
  rw [hdata _ (by rw [inRange_append_single]; exact ⟨hi, Nat.one_pos⟩)]
  show [sumTo _ _] = _
  simp only [List.dropLast_concat, bproj_snoc, if_true]
  refine congrArg (fun x => [x]) ?_
  unfold dotCell
  rw [hbl, lastAx_concat]
  rw [lastAx_concat] at hbg
  apply sumTo_congr
  intro c hc
  rw [hbg c hc, bproj_snoc_lt s' i m c hc,
    bproj_bproj A.shape _ (i ++ [c]) (into_left _ _ _ hs) (hil c),
    bproj_bproj B.shape _ (i ++ [c]) (into_right _ _ _ hs) (hil c)]

/-- `dot` is `dotCell` on the two component lists, for any operand -/
theorem dotOp_val_cells (n : List Nat) (f g : CF) (v : Val)
    (cf cv : List Nat → List GQ) (vf vv : List Nat → Bool)
    (hf : Cells n f cf vf) (hv : ValCells n v cv vv) (h : dotOp f v = .ok g) :
    Cells n g (fun i => [dotCell (cf i) (cv i)]) (fun i => vf i && vv i) ∧ g.mesh = f.mesh ∧ g.nvdim = 1 ∧
      ∀ i, inRange n i = true → Compat (cf i).length (cv i).length := by
  obtain ⟨_, res, hres, hg⟩ := dotOp_ok_iff.mp h
  obtain ⟨_, hrank, hvs, _⟩ := ufuncValid_cells n f (.fld f) v cf cv vf vv hf hv rfl
  obtain ⟨hc, hm, hn, hcp⟩ := einsum_cells f.mesh f.data v.arr res hrank hres _ _ _ _ _ g (mask_some hvs) hg
  refine ⟨Cells.of_arrays (l := .fld f) (F := fun xs ys => [dotCell xs ys]) hf hv rfl hc, hm, hn, fun i hi => ?_⟩
  rw [hf.length i hi, hv.length i hi, ← hf.lastDim]
  exact hcp

/-- `np.cross` then the constructor is `crossCell` on the component lists (same two steps as `einsum_cells`) -/
theorem cross_cells (mesh : Mesh) (A B res : NDA GQ)
    (hrank : mesh.n.length < A.shape.length ∨ mesh.n.length < B.shape.length)
    (hres : npCross A B = .ok res)
    (kind : Kind) (vd : Option (List String)) (valid : Option (NDA Bool)) (vm : Option VMap)
    (unit : Option String) (g : CF)
    (hvs : ∀ v, valid = some v → v.shape = mesh.n)
    (hg : mkField mesh 3 (.arr res) kind vd valid vm unit = .ok g) :
    Cells mesh.n g (fun i => crossCell (opdCell A i) (opdCell B i)) (validAt valid) ∧ g.mesh = mesh ∧
      g.nvdim = 3 := by
  obtain ⟨hA, hB, s, hs, rfl⟩ := npCross_ok_iff.mp hres
  have hAd : lastDim A.shape = 3 := by rw [lastDim_eq_lastAx _ (lastAx_ne_nil _ _ hA (by omega))]; exact hA
  have hBd : lastDim B.shape = 3 := by rw [lastDim_eq_lastAx _ (lastAx_ne_nil _ _ hB (by omega))]; exact hB
  have hslen := bshape_length _ _ _ hs
  have hr : mesh.n.length < s.length := by omega
  obtain ⟨hm, hn, hwf, _, _, hl, _, _, hdata, hvalid, hrank⟩ :=
    mkField_arr mesh 3 _ kind vd valid vm unit g (not_meshShaped hr) hvs hg
  have hlen : s.length = mesh.n.length + 1 := hrank hr
  have hl : lastAx s = 3 := hl
  refine ⟨⟨hwf, by rw [hm], fun i hi => ⟨?_, hvalid i hi⟩⟩, hm, hn⟩
  have hsne : s ≠ [] := by
    intro h0; rw [h0] at hlen; simp at hlen
  obtain ⟨s', m, hsm⟩ := (list_nil_or_concat s).resolve_left hsne
  subst hsm
  rw [lastAx_concat] at hl
  subst hl
  have hil : ∀ c, (s' ++ [3]).length ≤ (i ++ [c]).length := fun c => by
    rw [hlen, List.length_append, inRange_length _ _ hi]; rfl
  rw [hn]
  unfold crossCell cellOf
  apply tab_congr
  intro c hc
  rw [hdata _ (by rw [inRange_append_single]; exact ⟨hi, hc⟩)]
  dsimp only
  rw [bproj_snoc]
  simp only [show ¬ (3 = 1) by omega, if_false, List.dropLast_concat, lastAx_concat]
  apply crossAt_congr
  · intro k hk
    rw [bproj_snoc_lt s' i 3 k hk,
        bproj_bproj A.shape _ (i ++ [k]) (into_left _ _ _ hs) (hil k)]
    have := opdCell_getD A i k (Or.inr (by rw [hAd]; exact hk))
    rw [compAt, opdCell_length, hAd] at this
    simpa using this.symm
  · intro k hk
    rw [bproj_snoc_lt s' i 3 k hk,
        bproj_bproj B.shape _ (i ++ [k]) (into_right _ _ _ hs) (hil k)]
    have := opdCell_getD B i k (Or.inr (by rw [hBd]; exact hk))
    rw [compAt, opdCell_length, hBd] at this
    simpa using this.symm

/-- `cross` is `crossCell` on the two component lists, for any operand -/
theorem crossOp_val_cells (n : List Nat) (f g : CF) (v : Val)
    (cf cv : List Nat → List GQ) (vf vv : List Nat → Bool)
    (hf : Cells n f cf vf) (hv : ValCells n v cv vv) (h : crossOp f v = .ok g) :
    Cells n g (fun i => crossCell (cf i) (cv i)) (fun i => vf i && vv i) ∧ g.mesh = f.mesh ∧ g.nvdim = 3 := by
  obtain ⟨_, _, res, hres, hg⟩ := crossOp_ok_iff.mp h
  obtain ⟨_, hrank, hvs, _⟩ := ufuncValid_cells n f (.fld f) v cf cv vf vv hf hv rfl
  obtain ⟨hc, hm, hn⟩ := cross_cells f.mesh f.data v.arr res hrank hres _ _ _ _ _ g (mask_some hvs) hg
  exact ⟨Cells.of_arrays (l := .fld f) hf hv rfl hc, hm, hn⟩

theorem tab_add {α} (a b : Nat) (h : Nat → α) : tab (a + b) h = tab a h ++ tab b (fun c => h (a + c)) := by
  unfold tab
  rw [List.range_add, List.map_append, List.map_map]
  rfl

theorem parts_getD (a b : NDA GQ) (k1 k2 c : Nat) (d : NDA GQ) (hc : c < k1 + k2) :
    ((List.range k1).map (takeLast a) ++ (List.range k2).map (takeLast b)).getD c d =
      if c < k1 then takeLast a c else takeLast b (c - k1) := by
  rw [List.getD_eq_getElem?_getD]
  by_cases h : c < k1
  · rw [List.getElem?_append_left (by simpa using h)]
    simp [h]
  · rw [List.getElem?_append_right (by simpa using h)]
    have : c - k1 < k2 := by omega
    simp [h, this]

/-- `<<` of two fields appends the component lists -/
theorem shlFF_cells (n : List Nat) (f o g : CF) (cf co : List Nat → List GQ) (vf vo : List Nat → Bool)
    (hf : Cells n f cf vf) (ho : Cells n o co vo) (h : shlFF f o = .ok g) :
    Cells n g (fun i => cf i ++ co i) (fun i => vf i && vo i) ∧ g.mesh = f.mesh ∧
      g.nvdim = f.nvdim + o.nvdim := by
  obtain ⟨_, res, hst, hg⟩ := shlFF_ok_iff.mp h
  obtain ⟨p, hp, _, hr⟩ := npStack_ok_iff.mp hst
  have hshape := congrArg NDA.shape hr
  have hget := fun idx => congrFun (congrArg NDA.get hr) idx
  dsimp only at hshape hget
  have hfp := hf.1.2.2
  have hp0 : p = takeLast f.data 0 := Option.some.inj (hp.symm.trans (parts_head _ _ _ _ hfp))
  have hps : p.shape = n := by
    rw [hp0]; show f.data.shape.dropLast = n
    rw [hf.1.1, hf.2.1]; simp
  rw [show (_ ++ _ : List (NDA GQ)).length = f.nvdim + o.nvdim by simp, hps] at hshape
  obtain ⟨hm, hnv, _, _, hc⟩ :=
    mkField_of_cells n f.mesh hf.2.1 (f.nvdim + o.nvdim) res hshape _ _ _ _ _ g (mask_and hf.1.2.1) hg
  refine ⟨hc.congr (fun i hi => ?_) (fun i hi => ?_), hm, hnv⟩
  · rw [← (hf.2.2 i hi).1, ← (ho.2.2 i hi).1]
    unfold cellOf
    rw [tab_add]
    congr 1
    · apply tab_congr
      intro c hcc
      rw [hget, lastAx_concat, parts_getD _ _ _ _ _ _ (by omega)]
      simp [hcc, takeLast]
    · apply tab_congr
      intro c hcc
      rw [hget, lastAx_concat, parts_getD _ _ _ _ _ _ (by omega)]
      have : ¬ (f.nvdim + c < f.nvdim) := by omega
      simp [this, takeLast]
  · show (f.valid.get i && o.valid.get i) = _
    rw [(hf.2.2 i hi).2, (ho.2.2 i hi).2]

theorem mkField_num_cells (mesh : Mesh) (nv : Nat) (z : GQ) (kind : Kind) (g : CF)
    (h : mkField mesh nv (.num z) kind none none none none = .ok g) :
    g.mesh = mesh ∧ g.nvdim = nv ∧ Cells mesh.n g (fun _ => List.replicate nv z) (fun _ => true) := by
  obtain ⟨hm, hn, hpos, _, arr, own, vl, ha, hv, hd, hvl, _, _, _⟩ := mkField_ok _ _ _ _ _ _ _ _ _ h
  have harr : arr = NDA.const (mesh.n ++ [nv]) z := by
    simp only [asArray] at ha
    split at ha
    · cases ha
    · injection ha with ha; injection ha with ha1 ha2; exact ha1.symm
  have hvl' := validSet_none _ _ hv
  refine ⟨hm, hn, ⟨?_, ?_, ?_⟩, by rw [hm], ?_⟩
  · rw [hd, hm, hn, harr]; rfl
  · rw [hvl, hm, hvl']; rfl
  · rw [hn]; exact hpos
  · intro i hi
    refine ⟨?_, ?_⟩
    · rw [hn]
      apply List.ext_getElem
      · simp [cellOf]
      · intro c h1 h2
        simp only [cellOf, getElem_tab, List.getElem_replicate]
        rw [hd, NDA.force_get _ _ _ (by
          rw [harr]; show inRange (mesh.n ++ [nv]) (i ++ [c]) = true
          rw [inRange_append_single]; exact ⟨hi, by simpa [cellOf] using h1⟩), harr]
        rfl
    · rw [hvl, NDA.force_get _ _ _ (by rw [hvl']; exact hi), hvl']; rfl

theorem mkField_arr_cells (mesh : Mesh) (nv : Nat) (a : NDA GQ) (kind : Kind) (g : CF)
    (hne : a.shape ≠ mesh.n)
    (h : mkField mesh nv (.arr a) kind none none none none = .ok g) :
    g.mesh = mesh ∧ g.nvdim = nv ∧ lastDim a.shape = nv ∧ Cells mesh.n g (opdCell a) (fun _ => true) := by
  obtain ⟨hm, hn, hwf, _, _, hl, hnil, _, hdata, hvalid, _⟩ :=
    mkField_arr mesh nv a kind none none none none g (fun hh => hne hh.2) (by intro v hv; cases hv) h
  refine ⟨hm, hn, by rw [lastDim_eq_lastAx _ hnil]; exact hl, hwf, by rw [hm], ?_⟩
  intro i hi
  refine ⟨?_, by rw [hvalid i hi]; rfl⟩
  rw [hn]
  unfold opdCell cellOfB cellOf
  simp only [hnil, if_false, hl]
  apply tab_congr
  intro c hc
  rw [hdata _ (by rw [inRange_append_single]; exact ⟨hi, hc⟩)]

theorem liftOpd_cells (mesh : Mesh) (od : Opd) (L : CF) (hok : OpdLiftOk mesh.n od)
    (h : liftOpd mesh od = .ok L) :
    L.mesh = mesh ∧ Cells mesh.n L (rawCell od) (fun _ => true) := by
  have h := (liftOpd_ok_iff.mp h).2
  cases od with
  | num z k np => exact ⟨(mkField_num_cells _ _ _ _ _ h).1, (mkField_num_cells _ _ _ _ _ h).2.2⟩
  | arr a k np => exact ⟨(mkField_arr_cells _ _ _ _ _ hok h).1, (mkField_arr_cells _ _ _ _ _ hok h).2.2.2⟩

/-- `norm` is `sq (normSqCell ·)` on every component list -/
theorem normOp_cells (sq : Rat → Rat) (n : List Nat) (f g : CF) (cf : List Nat → List GQ) (vf : List Nat → Bool)
    (hf : Cells n f cf vf) (h : normOp sq f = .ok g) :
    Cells n g (fun i => [⟨sq (normSqCell (cf i)), 0⟩]) vf ∧ g.mesh = f.mesh ∧ g.nvdim = 1 := by
  have hfs := hf.1.1
  obtain ⟨hm, hnv, _, _, hc⟩ := mkField_of_cells n f.mesh hf.2.1 1 _
    (show f.data.shape.dropLast ++ [1] = n ++ [1] by rw [hfs, hf.2.1]; simp) _ _ _ _ _ g (mask_some hf.1.2.1) h
  refine ⟨hc.congr (fun i hi => ?_) (fun i hi => (hf.2.2 i hi).2), hm, hnv⟩
  show cellOf _ i 1 = [⟨sq (normSqCell (cf i)), 0⟩]
  simp only [cellOf, tab, List.range_one, List.map_cons, List.map_nil, List.dropLast_concat]
  congr 2
  unfold normSqCell
  rw [hfs, lastAx_concat, ← (hf.2.2 i hi).1, cellOf_length]
  congr 2
  apply sumTo_congr
  intro c hcc
  simp only [cellOf]
  rw [getD_tab _ _ _ _ hcc]

/-- the second operand of `angle` as a field has the operand's component lists; the mask is the one
every binary operation uses -/
theorem angleVec_cells (n : List Nat) (f : CF) (v : Val) (vec : CF) (valid : NDA Bool)
    (cf cv : List Nat → List GQ) (vf vv : List Nat → Bool)
    (hf : Cells n f cf vf) (hv : ValCells n v cv vv)
    (hok : ∀ od, v = .raw od → OpdLiftOk n od)
    (h : angleVec f v = .ok (vec, valid)) :
    (∃ vv', Cells n vec cv vv') ∧ valid = ufuncValid f (.fld f) v := by
  obtain ⟨rfl, hcase⟩ := angleVec_ok h
  refine ⟨?_, rfl⟩
  rcases hcase with ⟨o, rfl, rfl, _⟩ | ⟨od, rfl, h1, hmk⟩
  · exact ⟨vv, hv⟩
  · have hokk := hok od rfl
    cases od with
    | num z k np =>
      obtain ⟨_, _, hc⟩ := mkField_num_cells _ _ _ _ _ hmk
      rw [hf.2.1, h1 z k np rfl] at hc
      exact ⟨_, hc.congr (fun i _ => (hv.1 i).symm) (fun _ _ => rfl)⟩
    | arr a k np =>
      obtain ⟨_, _, _, hc⟩ := mkField_arr_cells _ _ _ _ _ (by rw [hf.2.1]; exact hokk) hmk
      rw [hf.2.1] at hc
      exact ⟨_, hc.congr (fun i _ => (hv.1 i).symm) (fun _ _ => rfl)⟩

/-- `angle` is `angleCell` on the two component lists -/
theorem angleOp_cells (sq acos : Rat → Rat) (n : List Nat) (f g : CF) (v : Val)
    (cf cv : List Nat → List GQ) (vf vv : List Nat → Bool)
    (hf : Cells n f cf vf) (hv : ValCells n v cv vv)
    (hok : ∀ od, v = .raw od → OpdLiftOk n od)
    (h : angleOp sq acos f v = .ok g) :
    Cells n g (fun i => angleCell sq acos (cf i) (cv i)) (fun i => vf i && vv i) ∧ g.mesh = f.mesh := by
  obtain ⟨vec, valid, d, n1, n2, p, q, hav, hd, hn1, hn2, hp, hq, hg⟩ := angleOp_ok h
  obtain ⟨⟨vv', hvec⟩, rfl⟩ := angleVec_cells n f v vec valid cf cv vf vv hf hv hok hav
  obtain ⟨_, _, hvs, hvget⟩ := ufuncValid_cells n f (.fld f) v cf cv vf vv hf hv rfl
  obtain ⟨hdc, _, hdn, _⟩ := dotOp_val_cells n f d (.fld vec) cf cv vf vv' hf hvec hd
  obtain ⟨hn1c, _, hn1n⟩ := normOp_cells sq n f n1 cf vf hf hn1
  obtain ⟨hn2c, _, hn2n⟩ := normOp_cells sq n vec n2 cv vv' hvec hn2
  obtain ⟨hpc, _, hpn⟩ := applyOperator_val_cells GQ.mul false n n1 p (.fld n2) _ _ _ _ hn1c hn2c hp
  obtain ⟨hqc, _, hqn⟩ := applyOperator_val_cells GQ.div false n d q (.fld p) _ _ _ _ hdc hpc hq
  have hp1 : p.nvdim = 1 := by
    rw [hn1n, show lastDim (Val.fld n2).arr.shape = n2.nvdim from Cells.lastDim hn2c, hn2n] at hpn
    exact (Option.some.inj hpn).symm
  have hq1 : q.nvdim = 1 := by
    rw [hdn, show lastDim (Val.fld p).arr.shape = p.nvdim from Cells.lastDim hpc, hp1] at hqn
    exact (Option.some.inj hqn).symm
  have hqs : (q.data.map fun z => (⟨acos z.re, 0⟩ : GQ)).shape = n ++ [1] := by
    show q.data.shape = n ++ [1]
    rw [hqc.1.1, hqc.2.1, hq1]
  obtain ⟨hm, _, _, _, hc⟩ := mkField_of_cells n f.mesh hf.2.1 1 _ hqs _ _ _ _ _ g (mask_some hvs) hg
  refine ⟨hc.congr (fun i hi => ?_) hvget, hm⟩
  have hqcell := (hqc.2.2 i hi).1
  simp only [hq1, bz_single] at hqcell
  rw [cellOf_map, hqcell]
  rfl

end DFV.C03
