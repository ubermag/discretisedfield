import DFV.Model.Field
import DFV.Lemmas.Index
import DFV.Lemmas.ListOps
/-! Arrays (`NDA` of `Model/Field.lean`) through `shape` and `get`: the C-order buffer `toList` and its inverse
`ofList`, `force`, `transpose`, the payload order of the file formats; then the default component labels of a field
(`Fld.defaultVdims`). Mathlib's `ring` comes with `Lemmas/Index`. -/
namespace DFV

namespace NDA
variable {α : Type}

/-! ### the C-order buffer: `toList`, `ofList`, `force` -/

theorem toList_eq_tab (a : NDA α) : a.toList = tab (natProd a.shape) fun p => a.get (unflatC a.shape p) := by
  simp [toList, indicesC, tab, List.map_map, Function.comp_def]

theorem toList_length (a : NDA α) : a.toList.length = natProd a.shape := by
  rw [toList_eq_tab, tab_length]

theorem toList_getD (a : NDA α) (p : Nat) (d : α) (h : p < natProd a.shape) :
    a.toList.getD p d = a.get (unflatC a.shape p) := by
  rw [toList_eq_tab, getD_tab _ _ _ _ h]

theorem toList_congr {a b : NDA α} (hs : a.shape = b.shape)
    (h : ∀ i, inRange a.shape i = true → a.get i = b.get i) : a.toList = b.toList := by
  unfold toList
  rw [← hs]
  exact List.map_congr_left fun i hi => h i ((mem_indicesC_iff _ i).mp hi)

theorem ofList_get (sh : List Nat) (xs : List α) (d : α) (i : List Nat) :
    (ofList sh xs d).get i = xs.getD (flatC sh i) d := by
  simp [ofList, ofArray, List.getD_eq_getElem?_getD]

theorem force_shape (a : NDA α) (d : α) : (a.force d).shape = a.shape := rfl

theorem force_get (a : NDA α) (d : α) (i : List Nat) (h : inRange a.shape i = true) :
    (a.force d).get i = a.get i := by
  unfold force
  rw [ofList_get, toList_getD _ _ _ (flatC_lt _ _ h), unflatC_flatC _ _ h]

theorem force_congr {a b : NDA α} (d : α) (hs : a.shape = b.shape)
    (h : ∀ i, inRange a.shape i = true → a.get i = b.get i) : a.force d = b.force d := by
  unfold force
  rw [toList_congr hs h, hs]

theorem line_self (a : NDA α) (ax : Nat) (i : List Nat) : a.line ax i (i.getD ax 0) = a.get i := by
  rw [line, setAt_getD_self]

/-! ### `transpose` -/

theorem transpose_shape (a : NDA α) (perm : List Nat) :
    (a.transpose perm).shape = perm.map fun p => a.shape.getD p 0 := rfl

private theorem indexOfNat_of_mem (perm : List Nat) (s : Nat) (h : s ∈ perm) :
    ∃ r, transpose.indexOfNat perm s = some r ∧ r < perm.length ∧ perm.getD r 0 = s := by
  unfold transpose.indexOfNat
  obtain ⟨r, hr, hs⟩ := exists_getD_of_mem perm s 0 h
  cases hf : (List.range perm.length).find? fun k => perm.getD k 0 == s with
  | none =>
    rw [List.find?_eq_none] at hf
    exact absurd (by simpa using hs) (hf r (List.mem_range.mpr hr))
  | some k => exact ⟨k, rfl, List.mem_range.mp (List.mem_of_find?_eq_some hf), by simpa using List.find?_some hf⟩

/-- the result index whose entry `r` is entry `perm[r]` of `j` reads the source at `j`. `perm` need only name every
source axis: the model looks an axis up at its first position in `perm`. -/
theorem transpose_get (a : NDA α) (perm j : List Nat) (hj : j.length = a.shape.length)
    (hp : ∀ s, s < a.shape.length → s ∈ perm) :
    (a.transpose perm).get (perm.map fun p => j.getD p 0) = a.get j := by
  show a.get (tab a.shape.length fun s => (perm.map fun p => j.getD p 0).getD ((transpose.indexOfNat perm s).getD 0) 0) = _
  congr 1
  rw [← hj]
  refine (eq_tab_of_getD j j.length _ 0 rfl fun s hs => ?_).symm
  obtain ⟨r, hr, hlt, hrs⟩ := indexOfNat_of_mem perm s (hp s (hj ▸ hs))
  rw [hr, Option.getD_some, getD_map_lt perm _ r 0 0 hlt, hrs]

theorem transpose_get4 (a : NDA α) (h : a.shape.length = 4) (p q r s : Nat) :
    (a.transpose [2, 1, 0, 3]).get [p, q, r, s] = a.get [r, q, p, s] :=
  a.transpose_get [2, 1, 0, 3] [r, q, p, s] h.symm (by rw [h]; decide)

theorem transpose_shape4 (a : NDA α) (n0 n1 n2 n3 : Nat) (h : a.shape = [n0, n1, n2, n3]) :
    (a.transpose [2, 1, 0, 3]).shape = [n2, n1, n0, n3] := by
  rw [transpose_shape, h]; rfl

theorem transpose_get3 (a : NDA α) (h : a.shape.length = 3) (p q r : Nat) :
    (a.transpose [2, 1, 0]).get [p, q, r] = a.get [r, q, p] :=
  a.transpose_get [2, 1, 0] [r, q, p] h.symm (by rw [h]; decide)

theorem transpose_shape3 (a : NDA α) (n0 n1 n2 : Nat) (h : a.shape = [n0, n1, n2]) :
    (a.transpose [2, 1, 0]).shape = [n2, n1, n0] := by
  rw [transpose_shape, h]; rfl

/-! ### payload order: `transpose((2,1,0,3))` of the reversed shape lists cells first index fastest -/

/-- the reader's side of the payload order: `reshape(*reversed(n), nv).transpose((2,1,0,3))` puts flat entry
`flatF n (i,j,k) · nv + c` at `[i, j, k, c]` (no range hypothesis) -/
theorem ofList_transpose_get4 (nx ny nz nv : Nat) (xs : List α) (d : α) (i j k c : Nat) :
    ((NDA.ofList ([nx, ny, nz].reverse ++ [nv]) xs d).transpose [2, 1, 0, 3]).get [i, j, k, c] =
      xs.getD (flatF [nx, ny, nz] [i, j, k] * nv + c) d := by
  rw [transpose_get4 _ (by simp [NDA.ofList, NDA.ofArray]), ofList_get]
  exact congrArg (xs.getD · d) (flatC_reverse_comp [nx, ny, nz] [i, j, k] nv c rfl)

theorem ofList_transpose_get3 (nx ny nz : Nat) (xs : List α) (d : α) (i j k : Nat) :
    ((NDA.ofList [nx, ny, nz].reverse xs d).transpose [2, 1, 0]).get [i, j, k] = xs.getD (flatF [nx, ny, nz] [i, j, k]) d := by
  rw [transpose_get3 _ (by simp [NDA.ofList, NDA.ofArray]), ofList_get]
  exact congrArg (xs.getD · d) (flatC_reverse [nx, ny, nz] [i, j, k] rfl)

/-- the writer's side: `a.transpose((2,1,0,3)).reshape(-1)` lists cells first index fastest, components innermost -/
theorem transpose_toList4 (a : NDA α) (nx ny nz nv : Nat) (hs : a.shape = [nx, ny, nz, nv]) :
    (a.transpose [2, 1, 0, 3]).toList =
      tab (natProd [nx, ny, nz] * nv) fun q => a.get (unflatF [nx, ny, nz] (q / nv) ++ [q % nv]) := by
  rw [toList_eq_tab, transpose_shape4 a nx ny nz nv hs]
  -- `[nz, ny, nx]` is `[nx, ny, nz].reverse` by computation: the lemmas about the reversed shape apply as they are
  have hp : natProd [nz, ny, nx] = natProd [nx, ny, nz] := natProd_reverse [nx, ny, nz]
  rw [show natProd [nz, ny, nx, nv] = natProd [nx, ny, nz] * nv from (natProd_append_one [nz, ny, nx] nv).trans (by rw [hp])]
  refine tab_congr _ _ _ fun q hq => ?_
  have hnv : 0 < nv := Nat.pos_of_ne_zero fun h => by simp [h] at hq
  have h1 : unflatC [nz, ny, nx, nv] q = unflatC [nz, ny, nx] (q / nv) ++ [q % nv] :=
    unflatC_append_one [nz, ny, nx] nv q (hp ▸ hq)
  have h2 : unflatC [nz, ny, nx] (q / nv) = (unflatF [nx, ny, nz] (q / nv)).reverse :=
    unflatC_reverse [nx, ny, nz] (q / nv) ((Nat.div_lt_iff_lt_mul hnv).mpr hq)
  rw [h1, h2]
  simp only [unflatF, List.reverse_cons, List.reverse_nil, List.nil_append, List.cons_append]
  rw [transpose_get4 _ (by simp [hs])]

theorem transpose_toList3 (a : NDA α) (nx ny nz : Nat) (hs : a.shape = [nx, ny, nz]) :
    (a.transpose [2, 1, 0]).toList = tab (natProd [nx, ny, nz]) fun t => a.get (unflatF [nx, ny, nz] t) := by
  rw [toList_eq_tab, transpose_shape3 a nx ny nz hs, show natProd [nz, ny, nx] = natProd [nx, ny, nz] from natProd_reverse [nx, ny, nz]]
  refine tab_congr _ _ _ fun t ht => ?_
  rw [show unflatC [nz, ny, nx] t = (unflatF [nx, ny, nz] t).reverse from unflatC_reverse [nx, ny, nz] t ht]
  simp only [unflatF, List.reverse_cons, List.reverse_nil, List.nil_append, List.cons_append]
  rw [transpose_get3 _ (by simp [hs])]

theorem transpose_toList4_getD (a : NDA α) (nx ny nz nv : Nat) (hs : a.shape = [nx, ny, nz, nv]) (idx : List Nat)
    (hi : inRange [nx, ny, nz] idx = true) (c : Nat) (hc : c < nv) (d : α) :
    ((a.transpose [2, 1, 0, 3]).toList).getD (flatF [nx, ny, nz] idx * nv + c) d = a.get (idx ++ [c]) := by
  have hlt := flatF_lt _ _ hi
  have hq : flatF [nx, ny, nz] idx * nv + c < natProd [nx, ny, nz] * nv := by
    calc flatF [nx, ny, nz] idx * nv + c < flatF [nx, ny, nz] idx * nv + nv := by omega
      _ = (flatF [nx, ny, nz] idx + 1) * nv := by ring
      _ ≤ natProd [nx, ny, nz] * nv := Nat.mul_le_mul_right _ hlt
  rw [transpose_toList4 a nx ny nz nv hs, getD_tab _ _ _ _ hq]
  have h1 : (flatF [nx, ny, nz] idx * nv + c) / nv = flatF [nx, ny, nz] idx := by
    rw [Nat.add_comm, Nat.add_mul_div_right _ _ (by omega), Nat.div_eq_of_lt hc, Nat.zero_add]
  have h2 : (flatF [nx, ny, nz] idx * nv + c) % nv = c := by
    rw [Nat.add_comm, Nat.add_mul_mod_self_right, Nat.mod_eq_of_lt hc]
  rw [h1, h2, unflatF_flatF _ _ hi]

end NDA

namespace Fld

/-! ### default component labels -/

theorem defaultVdims_eq_none_iff (k : Nat) : defaultVdims k = none ↔ k = 1 := by
  unfold defaultVdims
  split
  · simp [*]
  · split <;> simp [*]

theorem defaultVdims_eq_some_iff (k : Nat) (l : List String) :
    defaultVdims k = some l ↔
      k ≠ 1 ∧ l = if k ≤ 3 then ["x", "y", "z"].take k else (List.range k).map fun i => s!"v{i}" := by
  unfold defaultVdims
  split
  · simp [*]
  · split <;> simp [*, eq_comm]

theorem defaultVdims_ok (k : Nat) (l : List String) (h : defaultVdims k = some l) :
    l.length = k ∧ hasDup l = false := by
  obtain ⟨h1, rfl⟩ := (defaultVdims_eq_some_iff k l).mp h
  split
  · have : k = 0 ∨ k = 2 ∨ k = 3 := by omega
    rcases this with rfl | rfl | rfl <;> exact ⟨rfl, by decide⟩
  · exact ⟨by simp, hasDup_numbered "v" k⟩

end Fld

end DFV
