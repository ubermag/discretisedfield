import DFV.Model.C07
import DFV.Lemmas.C01Ctor
/-! Every field operation of the C07 model as an equivalence: the operation returns `g` exactly when its
guards pass, its mesh-level counterpart returns a mesh, and the constructor call `mkFld` on that mesh and on
the named arrays returns `g`; `mkFld` itself returns exactly the source field with mesh, arrays, labels and
mapping replaced; `_sel_convert_input` by kind of selection value; an error of the first stage of an operation is
the error of the operation.  Whatever else is said about a result (`Lemmas/C07Hist`, `Props/C07`) is read off these. -/
namespace DFV.C07
open DFV DFV.Mesh

theorem mkFld_ok_iff (m : Mesh) (f : Fld) (d : NDA (List Rat)) (v : NDA Bool) (g : Fld) :
    mkFld m f d v = .ok g ↔ d.shape = m.n ∧ v.shape = m.n ∧ metaOk f = true ∧
      g = { f with mesh := m, data := d, valid := v, vdims := (metaOf f).1, vmap := (metaOf f).2 } := by
  unfold mkFld
  rw [guard_ok_iff]
  simp only [not_or, not_not, Bool.not_eq_false, Except.ok.injEq, and_assoc, eq_comm (a := g)]

/-! ## `_sel_convert_input` by kind of selection value -/

theorem selConvert_point_iff (m : Mesh) (dim : String) (x : Rat) (r : Nat × SelIdx) :
    selConvert m dim (.point x) = .ok r ↔
      ∃ a ck, m.region.dim2index dim = .ok a ∧ selOne m a x = .ok ck ∧ r = (a, .plane ck.1 ck.2) := by
  unfold selConvert
  cases m.region.dim2index dim with
  | error e => exact ⟨fun h => (nomatch h), fun ⟨_, _, h, _⟩ => (nomatch h)⟩
  | ok a =>
    simp only [Except.ok.injEq, exists_and_left, exists_eq_left']
    cases selOne m a x with
    | error e => exact ⟨fun h => (nomatch h), fun ⟨_, h, _⟩ => (nomatch h)⟩
    | ok ck => simp only [Except.ok.injEq, exists_eq_left', eq_comm]

theorem selConvert_range_iff (m : Mesh) (dim : String) (x y : Rat) (r : Nat × SelIdx) :
    selConvert m dim (.range x y) = .ok r ↔
      ∃ a ck1 ck2, m.region.dim2index dim = .ok a ∧ selOne m a (min x y) = .ok ck1 ∧
        selOne m a (max x y) = .ok ck2 ∧ r = (a, .range ck1.1 ck2.1 ck1.2 ck2.2) := by
  unfold selConvert
  cases m.region.dim2index dim with
  | error e => exact ⟨fun h => (nomatch h), fun ⟨_, _, _, h, _⟩ => (nomatch h)⟩
  | ok a =>
    simp only [Except.ok.injEq, exists_and_left, exists_eq_left']
    cases selOne m a (min x y) with
    | error e => exact ⟨fun h => (nomatch h), fun ⟨_, h, _⟩ => (nomatch h)⟩
    | ok ck1 =>
      simp only [Except.ok.injEq, exists_eq_left']
      cases selOne m a (max x y) with
      | error e => exact ⟨fun h => (nomatch h), fun ⟨_, h, _⟩ => (nomatch h)⟩
      | ok ck2 => simp only [Except.ok.injEq, exists_eq_left', eq_comm]

theorem selConvert_centre_iff (m : Mesh) (dim : String) (r : Nat × SelIdx) :
    selConvert m dim .centre = .ok r ↔
      ∃ a ck, m.region.dim2index dim = .ok a ∧ cellOf m a m.region.center = .ok ck ∧ r = (a, .plane ck.1 ck.2) := by
  unfold selConvert
  cases m.region.dim2index dim with
  | error e => exact ⟨fun h => (nomatch h), fun ⟨_, _, h, _⟩ => (nomatch h)⟩
  | ok a =>
    simp only [Except.ok.injEq, exists_and_left, exists_eq_left']
    cases cellOf m a m.region.center with
    | error e => exact ⟨fun h => (nomatch h), fun ⟨_, h, _⟩ => (nomatch h)⟩
    | ok ck => simp only [Except.ok.injEq, exists_eq_left', eq_comm]

theorem selConvert_bad (m : Mesh) (dim : String) (r : Nat × SelIdx) : selConvert m dim .bad ≠ .ok r := by
  unfold selConvert
  cases m.region.dim2index dim <;> exact fun h => (nomatch h)

theorem selConvert_dim {m : Mesh} {dim : String} {arg : SelArg} {a : Nat} {s : SelIdx}
    (h : selConvert m dim arg = .ok (a, s)) : m.region.dim2index dim = .ok a := by
  cases arg with
  | bad => exact absurd h (selConvert_bad m dim _)
  | point x => obtain ⟨_, _, hd, _, e⟩ := (selConvert_point_iff m dim x _).mp h; cases e; exact hd
  | range x y => obtain ⟨_, _, _, hd, _, _, e⟩ := (selConvert_range_iff m dim x y _).mp h; cases e; exact hd
  | centre => obtain ⟨_, _, hd, _, e⟩ := (selConvert_centre_iff m dim _).mp h; cases e; exact hd

/-! ## `Mesh.sel`, `Field.sel`, `Field.__getitem__`, `Field.pad` -/

theorem selMesh_ok_iff (m : Mesh) (dim : String) (arg : SelArg) (g : Mesh) :
    selMesh m dim arg = .ok g ↔ ∃ a s, selConvert m dim arg = .ok (a, s) ∧ selMeshOf m a s = .ok g := by
  unfold selMesh
  cases selConvert m dim arg with
  | error e => simp
  | ok ai => exact ⟨fun h => ⟨ai.1, ai.2, rfl, h⟩, fun ⟨_, _, e, h⟩ => by injection e with e; subst e; exact h⟩

theorem selMesh_of_convert {m : Mesh} {dim : String} {arg : SelArg} {a : Nat} {s : SelIdx}
    (h : selConvert m dim arg = .ok (a, s)) : selMesh m dim arg = selMeshOf m a s := by
  unfold selMesh; rw [h]

theorem selConvert_ok_of_selMesh {m : Mesh} {dim : String} {arg : SelArg} {g : Mesh}
    (h : selMesh m dim arg = .ok g) : ∃ r, selConvert m dim arg = .ok r := by
  obtain ⟨a, s, hc, _⟩ := (selMesh_ok_iff m dim arg g).mp h
  exact ⟨_, hc⟩

theorem selConvert_ok_of_selFld {f : Fld} {dim : String} {arg : SelArg} {o : SelOut}
    (h : selFld f dim arg = .ok o) : ∃ r, selConvert f.mesh dim arg = .ok r := by
  unfold selFld at h
  cases hc : selConvert f.mesh dim arg with
  | error e => rw [hc] at h; cases h
  | ok r => exact ⟨r, rfl⟩

/-- `Field.sel` returns a field (not the bare value of a 1-d plane selection) exactly when normalisation,
mesh selection and constructor call succeed -/
theorem selFld_field_iff (f : Fld) (dim : String) (arg : SelArg) (g : Fld) :
    selFld f dim arg = .ok (.field g) ↔
      ∃ a s m, selConvert f.mesh dim arg = .ok (a, s) ∧ selMeshOf f.mesh a s = .ok m ∧
        mkFld m f (selData f.data a s) (selData f.valid a s) = .ok g := by
  unfold selFld selMesh
  cases hc : selConvert f.mesh dim arg with
  | error e => exact ⟨fun h => (nomatch h), fun ⟨_, _, _, h, _⟩ => (nomatch h)⟩
  | ok ai =>
    obtain ⟨a, s⟩ := ai
    simp only [Except.ok.injEq, Prod.mk.injEq, exists_and_left, and_assoc, exists_eq_left']
    cases hm : selMeshOf f.mesh a s with
    | error e =>
      refine ⟨fun h => ?_, fun ⟨_, h, _⟩ => (nomatch h)⟩
      cases s with
      | plane c k => simp only at h; split at h <;> cases h
      | range c1 c2 k1 k2 => cases h
    | ok m =>
      simp only [Except.ok.injEq, exists_eq_left']
      cases hg : mkFld m f (selData f.data a s) (selData f.valid a s) with
      | error e => exact ⟨fun h => (nomatch h), fun h => (nomatch h)⟩
      | ok g' => simp only [Except.ok.injEq, SelOut.field.injEq]

theorem getItem_ok_iff (f : Fld) (item : Item) (g : Fld) :
    getItem f item = .ok g ↔
      ∃ sm p0 imin, getMesh f.mesh item = .ok sm ∧ sm.index2point (List.replicate sm.ndim 0) = .ok p0 ∧
        f.mesh.point2index p0 = .ok imin ∧
        mkFld sm f (sliceBlock f.data imin sm.n) (sliceBlock f.valid imin sm.n) = .ok g := by
  unfold getItem
  cases getMesh f.mesh item with
  | error e => exact ⟨fun h => (nomatch h), fun ⟨_, _, _, h, _⟩ => nomatch h⟩
  | ok sm =>
    simp only [Except.ok.injEq, exists_and_left, exists_eq_left']
    cases h0 : sm.index2point (List.replicate sm.ndim 0) with
    | error e => exact ⟨fun h => (nomatch h), fun ⟨_, h, _⟩ => nomatch h⟩
    | ok p0 =>
      simp only [Except.ok.injEq, exists_eq_left']
      cases h1 : f.mesh.point2index p0 with
      | error e => exact ⟨fun h => (nomatch h), fun ⟨_, h, _⟩ => nomatch h⟩
      | ok imin => simp only [Except.ok.injEq, exists_eq_left']

theorem padFld_ok_iff (f : Fld) (pw : List PadW) (mode : PadMode) (g : Fld) :
    padFld f pw mode = .ok g ↔
      ∃ d m, padAxes f.mesh pw = .ok d ∧ (d.any fun e => decide (e.2.1 < 0) || decide (e.2.2 < 0)) = false ∧
        padMesh f.mesh pw = .ok m ∧
        mkFld m f (padNDA mode (widthOf d) (List.replicate f.nvdim 0) f.data)
          (padNDA mode (widthOf d) false f.valid) = .ok g := by
  unfold padFld
  cases padAxes f.mesh pw with
  | error e => exact ⟨fun h => (nomatch h), fun ⟨_, _, h, _⟩ => nomatch h⟩
  | ok d =>
    simp only [guard_ok_iff, Bool.not_eq_true, Except.ok.injEq, exists_and_left, exists_eq_left']
    cases padMesh f.mesh pw with
    | error e => exact ⟨fun h => (nomatch h.2), fun ⟨_, _, h, _⟩ => nomatch h⟩
    | ok m => simp only [Except.ok.injEq, exists_eq_left']

/-! ## the meshes `Mesh.sel` builds end in one constructor call -/

theorem mkMesh_ok_iff (r : Region) (cell : List Rat) (bc : String) (subs : List (String × Region)) (g : Mesh) :
    mkMesh? r cell bc subs = .ok g ↔ ∃ m0, Mesh.mkCell? r cell bc = .ok m0 ∧ setSubs? m0 subs = .ok g := by
  unfold mkMesh?
  cases Mesh.mkCell? r cell bc with
  | error e => exact ⟨fun h => (nomatch h), fun ⟨_, h, _⟩ => (nomatch h)⟩
  | ok m0 => simp only [Except.ok.injEq, exists_eq_left']

/-- a plane selection: the loop over the subregions, then `Mesh(region, cell, subregions)` without boundary condition -/
theorem selPlaneMesh_ctor (m : Mesh) (a : Nat) (c : Rat) (g : Mesh) (h : selPlaneMesh m a c = .ok g) :
    ∃ subs r, planeSubs a c m.subs = .ok subs ∧ mkMesh? r (removeAt m.cell a) "" subs = .ok g := by
  unfold selPlaneMesh at h
  cases hs : planeSubs a c m.subs with
  | error e => rw [hs] at h; cases h
  | ok subs =>
    rw [hs] at h
    cases hr : Region.mk? (removeAt m.region.pmin a) (removeAt m.region.pmax a)
        (some (removeAt m.region.dims a)) (some (removeAt m.region.units a)) m.region.tol with
    | error e => simp only [hr] at h; cases h
    | ok r => simp only [hr] at h; exact ⟨subs, r, rfl, h⟩

theorem selRangeMesh_ctor (m : Mesh) (a : Nat) (c1 c2 : Rat) (g : Mesh) (h : selRangeMesh m a c1 c2 = .ok g) :
    ∃ subs r, rangeSubs a (c1 - m.cellAt a / 2) (c2 + m.cellAt a / 2) (m.cellAt a / 2) m.subs = .ok subs ∧
      mkMesh? r m.cell "" subs = .ok g := by
  unfold selRangeMesh at h
  cases hs : rangeSubs a (c1 - m.cellAt a / 2) (c2 + m.cellAt a / 2) (m.cellAt a / 2) m.subs with
  | error e => rw [hs] at h; cases h
  | ok subs =>
    rw [hs] at h
    cases hr : Region.mk? (setAt m.region.pmin a (c1 - m.cellAt a / 2)) (setAt m.region.pmax a (c2 + m.cellAt a / 2))
        (some m.region.dims) (some m.region.units) m.region.tol with
    | error e => simp only [hr] at h; cases h
    | ok r => simp only [hr] at h; exact ⟨subs, r, rfl, h⟩

/-- both kinds: a constructor call without boundary condition, on no subregions when the source has none -/
theorem selMeshOf_ctor (m : Mesh) (a : Nat) (s : SelIdx) (g : Mesh) (h : selMeshOf m a s = .ok g) :
    ∃ r cell subs, mkMesh? r cell "" subs = .ok g ∧ (m.subs = [] → subs = []) := by
  cases s with
  | plane c k =>
    obtain ⟨subs, r, hs, hg⟩ := selPlaneMesh_ctor m a c g h
    exact ⟨r, _, subs, hg, fun h0 => by rw [h0] at hs; exact (Except.ok.inj hs).symm⟩
  | range c1 c2 k1 k2 =>
    obtain ⟨subs, r, hs, hg⟩ := selRangeMesh_ctor m a c1 c2 g h
    exact ⟨r, _, subs, hg, fun h0 => by rw [h0] at hs; exact (Except.ok.inj hs).symm⟩

/-! ## the error of the first stage is the error of the operation -/

theorem selMesh_error {m : Mesh} {dim : String} {arg : SelArg} {e : Err}
    (h : selConvert m dim arg = .error e) : selMesh m dim arg = .error e := by
  unfold selMesh; rw [h]

theorem selFld_error {f : Fld} {dim : String} {arg : SelArg} {e : Err}
    (h : selConvert f.mesh dim arg = .error e) : selFld f dim arg = .error e := by
  unfold selFld; rw [h]

theorem getItem_error {f : Fld} {item : Item} {e : Err} (h : getMesh f.mesh item = .error e) :
    getItem f item = .error e := by
  unfold getItem; rw [h]

theorem padMesh_error {m : Mesh} {pw : List PadW} {e : Err}
    (h : padCorners m pw m.region.pmin m.region.pmax = .error e) : padMesh m pw = .error e := by
  unfold padMesh; rw [h]

theorem padFld_error {f : Fld} {pw : List PadW} {mode : PadMode} {e : Err} (h : padAxes f.mesh pw = .error e) :
    padFld f pw mode = .error e := by
  unfold padFld; rw [h]

/-! ## `Field.resample` -/

/-- `Field.resample` with the array lookup left open: `resample` is `resampleWith @resampleNDA`, `resampleFast` is
`resampleWith @resampleNDAFast`, both by definition -/
def resampleWith (look : {α : Type} → Mesh → Mesh → NDA α → NDA α) (f : Fld) (n : List Int) : M Fld :=
  if n.length ≠ f.mesh.ndim then .error .value
  else if n.any (fun k => decide (k ≤ 0)) then .error .value
  else
    match Mesh.mkN? f.mesh.region (n.map Int.toNat) with
    | .error e => .error e
    | .ok m =>
      if !f.mesh.region.containsReg m.region then .error .value
      else mkFld m f (look f.mesh m f.data) (look f.mesh m f.valid)

/-- the mesh `Mesh(region, n)` a resampling builds -/
def regrid (m : Mesh) (n : List Nat) : Mesh := { region := m.region, n := n, bc := "", subs := [] }

theorem regrid_ok {m : Mesh} {n : List Int} (hl : n.length = m.ndim) (hpos : ∀ k, k ∈ n → 0 < k) :
    Mesh.mkN? m.region (n.map Int.toNat) = .ok (regrid m (n.map Int.toNat)) := by
  rw [C01.mkN_ok_iff']
  refine ⟨by rw [List.length_map]; exact hl, fun a ha => ?_, C01.bcOk_empty_lower _, by
    rw [C01.toLower_empty]; rfl⟩
  have ha' : a < n.length := hl ▸ ha
  have := hpos n[a] (List.getElem_mem ha')
  rw [List.getD_eq_getElem?_getD, List.getElem?_map, List.getElem?_eq_getElem ha']
  simp only [Option.map_some, Option.getD_some]; omega

/-- the result of a resampling in closed form: the containment test compares the region with itself, everything
else is read off the request -/
theorem resampleWith_ok_iff (look : {α : Type} → Mesh → Mesh → NDA α → NDA α)
    (hshape : ∀ {α : Type} (s t : Mesh) (x : NDA α), (look s t x).shape = t.n)
    (f : Fld) (n : List Int) (g : Fld) :
    resampleWith look f n = .ok g ↔
      n.length = f.mesh.ndim ∧ (∀ k, k ∈ n → 0 < k) ∧ f.mesh.region.containsReg f.mesh.region = true ∧
      metaOk f = true ∧
      g = { f with mesh := regrid f.mesh (n.map Int.toNat),
                   data := look f.mesh (regrid f.mesh (n.map Int.toNat)) f.data,
                   valid := look f.mesh (regrid f.mesh (n.map Int.toNat)) f.valid,
                   vdims := (metaOf f).1, vmap := (metaOf f).2 } := by
  unfold resampleWith
  rw [guard_ok_iff, guard_ok_iff, not_not]
  refine and_congr_right fun hl => ?_
  have hany : (¬ (n.any fun k => decide (k ≤ 0)) = true) ↔ ∀ k, k ∈ n → 0 < k := by
    simp [List.any_eq_true]
  rw [hany]
  refine and_congr_right fun hpos => ?_
  rw [regrid_ok hl hpos]
  simp only
  rw [guard_ok_iff, mkFld_ok_iff]
  simp [hshape, regrid]

theorem resampleNDA_shape {α : Type} (s t : Mesh) (x : NDA α) : (resampleNDA s t x).shape = t.n := rfl
theorem resampleNDAFast_shape {α : Type} (s t : Mesh) (x : NDA α) : (resampleNDAFast s t x).shape = t.n := rfl

/-- `resampleWith_ok_iff` for `Field.resample`: no assumption on the field, the result in closed form (the prime:
`resample_ok_iff` of `Props/C07` is the statement for well-formed fields, where the containment test passes) -/
theorem resample_ok_iff' (f : Fld) (n : List Int) (g : Fld) :
    resample f n = .ok g ↔
      n.length = f.mesh.ndim ∧ (∀ k, k ∈ n → 0 < k) ∧ f.mesh.region.containsReg f.mesh.region = true ∧
      metaOk f = true ∧
      g = { f with mesh := regrid f.mesh (n.map Int.toNat),
                   data := resampleNDA f.mesh (regrid f.mesh (n.map Int.toNat)) f.data,
                   valid := resampleNDA f.mesh (regrid f.mesh (n.map Int.toNat)) f.valid,
                   vdims := (metaOf f).1, vmap := (metaOf f).2 } :=
  resampleWith_ok_iff @resampleNDA resampleNDA_shape f n g

end DFV.C07
