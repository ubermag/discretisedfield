import DFV.Model.C08Dict
import DFV.Model.C03
import DFV.Lemmas.C08Ex
/-! Concrete instances for the non-vacuity `example`s of the second half of `Props/C08.lean`
(object-level links, mesh objects in sessions, dictionary setter). -/
namespace DFV.C08
open DFV

def exReg : Region :=
  { pmin := [0, 0], pmax := [4, 2], dims := ["x", "y"], units := ["m", "m"], tol := 1 / 1000000000000 }

/-- a 4 × 2 mesh over `[0,4] × [0,2]` with two overlapping subregions: cells 1..2 × 0 and cells 2..3 × 0..1 -/
def exMesh : Mesh :=
  { region := exReg, n := [4, 2], bc := "",
    subs := [("a", { exReg with pmin := [1, 0], pmax := [3, 1] }), ("b", { exReg with pmin := [2, 0], pmax := [4, 2] })] }

/-- a scalar field of distinct tokens, invalid in the odd layers along `x` -/
def exF : Fld :=
  { mesh := exMesh, nvdim := 1, data := ⟨[4, 2], fun i => [((i.getD 0 0 * 10 + i.getD 1 0 : Nat) : Rat)]⟩,
    valid := ⟨[4, 2], fun i => i.getD 0 0 % 2 == 0⟩, vdims := none, vmap := [], unit := none }

/-- a vector field on the same mesh (components mapped to the axes), with a hole -/
def exV : Fld :=
  { exF with nvdim := 2, data := ⟨[4, 2], fun i => [((i.getD 0 0 : Nat) : Rat), ((i.getD 1 0 : Nat) : Rat)]⟩,
             valid := ⟨[4, 2], fun i => !(i.getD 0 0 == 1 && i.getD 1 0 == 0)⟩,
             vdims := some ["x", "y"], vmap := [("x", "x"), ("y", "y")] }

def isField : M C07.SelOut → Bool
  | .ok (.field _) => true
  | _ => false

def isOk {α} : M α → Bool
  | .ok _ => true
  | _ => false

/-- validity of an accepted result, flat -/
def validOf (r : M Fld) : Option (List Nat × List Bool) :=
  match r with
  | .ok g => some (g.valid.shape, g.valid.toList)
  | .error _ => none

/-- two C03 fields on one mesh -/
def exCF (msk : List Nat → Bool) : C03.CF :=
  { mesh := exMesh, nvdim := 1, data := ⟨[4, 2, 1], fun i => ⟨((i.getD 0 0 + 1 : Nat) : Rat), 0⟩⟩, valid := ⟨[4, 2], msk⟩,
    vdims := none, vmap := [], unit := none, kind := .float }

def exC03 : C03.Env :=
  { fields := [exCF fun i => i.getD 0 0 % 2 == 0, exCF fun i => i.getD 1 0 == 0], sq := fun x => x, acos := fun x => x,
    arg := fun _ => 0 }

end DFV.C08
