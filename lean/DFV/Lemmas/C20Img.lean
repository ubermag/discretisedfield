import DFV.Model.C20
import DFV.Lemmas.C01
import DFV.Lemmas.Transform
import DFV.Lemmas.NDA
/-!
Geometry of what is handed to matplotlib (C20): the transposed masked image, cell centres,
matplotlib's placement contract per axis (`AxisCovers`), the pixel that shows a physical point
(`pixel_of_point`) and the extent (`extentOf`).
-/
namespace DFV.C20
open DFV

theorem mesh_n_two (m : Mesh) (hinv : m.Inv) (h2 : m.region.ndim = 2) : m.n.length = 2 := by
  rw [hinv.2.1, h2]

/-! ## transposition -/

theorem transpose10_get {α} (a : NDA α) (h : a.shape.length = 2) (r c : Nat) :
    (a.transpose [1, 0]).get [r, c] = a.get [c, r] :=
  a.transpose_get [1, 0] [c, r] h.symm (by rw [h]; decide)

theorem transpose10_shape {α} (a : NDA α) :
    (a.transpose [1, 0]).shape = [a.shape.getD 1 0, a.shape.getD 0 0] := rfl

theorem imgOf_get {α} (n : List Nat) (hn : n.length = 2) (keep : NDA Bool) (val : List Nat → α)
    (r c : Nat) :
    (imgOf n keep val).get [r, c] = if keep.get [c, r] then some (val [c, r]) else none := by
  unfold imgOf
  rw [transpose10_get _ (by simpa using hn)]

theorem imgOf_shape {α} (n : List Nat) (keep : NDA Bool) (val : List Nat → α) :
    (imgOf n keep val).shape = [n.getD 1 0, n.getD 0 0] := by
  unfold imgOf
  rw [transpose10_shape]

theorem colourArr_get (n : List Nat) (hn : n.length = 2) (a : NDA (List Rat)) (r c : Nat) :
    (colourArr n a).get [r, c] = (a.get [c, r]).getD 0 0 := by
  unfold colourArr
  rw [transpose10_get _ (by simpa using hn)]

theorem colourArr_shape (n : List Nat) (a : NDA (List Rat)) :
    (colourArr n a).shape = [n.getD 1 0, n.getD 0 0] := by
  unfold colourArr
  rw [transpose10_shape]

/-! ## cell centres (`mesh.cells`) -/

theorem cells_length (m : Mesh) (a : Nat) (ha : a < m.ndim) :
    (m.cells.getD a []).length = m.nAt a := by
  rw [C01.cells_axis m a ha, tab_length]

theorem pointsAx_length (m : Mesh) (a : Nat) (mult : Rat) (ha : a < m.ndim) :
    (pointsAx m a mult).length = m.nAt a := by
  unfold pointsAx
  rw [List.length_map, cells_length m a ha]

theorem pointsAx_getD (m : Mesh) (a j : Nat) (mult : Rat) (ha : a < m.ndim) (hj : j < m.nAt a) :
    (pointsAx m a mult).getD j 0 = (m.region.lo a + ((j : Rat) + 1 / 2) * m.cellAt a) / mult := by
  unfold pointsAx
  rw [getD_map_of_eq (f := (· / mult)) (zero_div mult), C01.cells_getD m a j ha hj, C01.centreAx_natCast]

/-! ## matplotlib's placement contract, one axis -/

/-- one axis of matplotlib's placement contract (trusted): pixel `c` of `C` pixels spanning
`[x0, x1]` covers `[x0 + c·w, x0 + (c+1)·w)` with `w = (x1 - x0)/C`; the last pixel
includes `x1` -/
def AxisCovers (C : Nat) (x0 x1 : Rat) (c : Nat) (x : Rat) : Prop :=
  x0 + (c : Rat) * ((x1 - x0) / (C : Rat)) ≤ x ∧
  (x < x0 + ((c : Rat) + 1) * ((x1 - x0) / (C : Rat)) ∨ (c = C - 1 ∧ x = x1))

theorem axisCovers_unique (C : Nat) (x0 x1 : Rat) (h01 : x0 < x1) (c c' : Nat) (x : Rat)
    (hc : c < C) (hc' : c' < C) (h : AxisCovers C x0 x1 c x) (h' : AxisCovers C x0 x1 c' x) :
    c = c' := by
  have hC : (0 : Rat) < (C : Rat) := by exact_mod_cast (by omega : 0 < C)
  have hw : 0 < (x1 - x0) / (C : Rat) := div_pos (sub_pos.mpr h01) hC
  have hx1 : x0 + (C : Rat) * ((x1 - x0) / (C : Rat)) = x1 := by rw [mul_div_cancel₀ _ hC.ne']; ring
  obtain ⟨l, u⟩ := h
  obtain ⟨l', u'⟩ := h'
  generalize (x1 - x0) / (C : Rat) = w at hw hx1 l u l' u'
  -- a pixel that ends strictly after `x` does not hold the right end `x1`
  have excl : ∀ d : Nat, d < C → x < x0 + ((d : Rat) + 1) * w → x ≠ x1 := by
    intro d hd hlt heq
    have : ((d : Rat) + 1) * w ≤ (C : Rat) * w :=
      mul_le_mul_of_nonneg_right (by exact_mod_cast hd) hw.le
    rw [← hx1] at heq
    exact absurd (heq ▸ hlt) (not_lt.mpr (add_le_add_right this x0))
  rcases u with u | ⟨e, ex⟩ <;> rcases u' with u' | ⟨e', ex'⟩
  · -- half-open intervals of width `w` that share a point have the same number
    have h1 : c < c' + 1 := by exact_mod_cast (C01.face_lt hw _ _).mp (lt_of_le_of_lt l u')
    have h2 : c' < c + 1 := by exact_mod_cast (C01.face_lt hw _ _).mp (lt_of_le_of_lt l' u)
    omega
  · exact absurd ex' (excl c hc u)
  · exact absurd ex (excl c' hc' u')
  · omega

/-- the cell index of the physical coordinate `x·mult` is the pixel index that covers `x`
when the pixels span `[lo/mult, hi/mult]` (C01's `indexAx_eq_iff`, rescaled) -/
theorem axisCovers_index (m : Mesh) (a : Nat) (mult x : Rat) (hn : 0 < m.nAt a)
    (hr : m.region.lo a < m.region.hi a) (hm : 0 < mult)
    (hlo : m.region.lo a ≤ x * mult) (hhi : x * mult ≤ m.region.hi a) :
    m.indexAx a (x * mult) < m.nAt a ∧
    AxisCovers (m.nAt a) (m.region.lo a / mult) (m.region.hi a / mult) (m.indexAx a (x * mult)) x := by
  have hw : (m.region.hi a / mult - m.region.lo a / mult) / (m.nAt a : Rat) = m.cellAt a / mult := by
    unfold Mesh.cellAt Region.edge
    ring
  have e : ∀ i : Rat, m.region.lo a / mult + i * (m.cellAt a / mult) = (m.region.lo a + i * m.cellAt a) / mult :=
    fun i => by ring
  unfold AxisCovers
  rw [hw, e, e, div_le_iff₀ hm, lt_div_iff₀ hm, eq_div_iff (ne_of_gt hm)]
  have hk := C01.indexAx_lt m a hn (x * mult)
  obtain ⟨h1, h2⟩ := (C01.indexAx_eq_iff m a (C01.cellAt_pos m a hn hr) hk (x * mult)).mp rfl
  refine ⟨hk, h1.elim (fun h0 => by rw [h0, Nat.cast_zero, zero_mul, add_zero]; exact hlo) id, ?_⟩
  rcases h2 with hlast | hlt
  · -- the upper face of the last cell is `hi`, which the last pixel includes
    rcases hhi.lt_or_eq with hx | hx
    · left
      rw [show (m.indexAx a (x * mult) : Rat) + 1 = (m.nAt a : Rat) by exact_mod_cast hlast, ← C01.hi_eq m a hn]
      exact hx
    · exact Or.inr ⟨by omega, hx⟩
  · exact Or.inl hlt

/-- **Which pixel shows a physical point** (geometry only, the general form of the positional
statements): for pixels spanning `region / m` the pixel `[indexAx 1 (y·m)][indexAx 0 (x·m)]` — that of the
cell containing `(x·m, y·m)` — covers `(x, y)` along both axes, and no other pixel does -/
theorem pixel_of_point (msh : Mesh) (hinv : msh.Inv) (h2 : msh.region.ndim = 2) (m : Rat) (hm : 0 < m)
    (x y : Rat) (hx : msh.region.lo 0 ≤ x * m ∧ x * m ≤ msh.region.hi 0)
    (hy : msh.region.lo 1 ≤ y * m ∧ y * m ≤ msh.region.hi 1) :
    msh.indexAx 0 (x * m) < msh.nAt 0 ∧ msh.indexAx 1 (y * m) < msh.nAt 1 ∧
    (AxisCovers (msh.nAt 0) (msh.region.lo 0 / m) (msh.region.hi 0 / m) (msh.indexAx 0 (x * m)) x ∧
      AxisCovers (msh.nAt 1) (msh.region.lo 1 / m) (msh.region.hi 1 / m) (msh.indexAx 1 (y * m)) y) ∧
    ∀ r c, r < msh.nAt 1 → c < msh.nAt 0 →
      AxisCovers (msh.nAt 0) (msh.region.lo 0 / m) (msh.region.hi 0 / m) c x ∧
        AxisCovers (msh.nAt 1) (msh.region.lo 1 / m) (msh.region.hi 1 / m) r y →
      r = msh.indexAx 1 (y * m) ∧ c = msh.indexAx 0 (x * m) := by
  have hnd : msh.ndim = 2 := h2
  have c0 := axisCovers_index msh 0 m x (hinv.2.2 0 (by omega)) (hinv.lo_lt_hi (by omega)) hm hx.1 hx.2
  have c1 := axisCovers_index msh 1 m y (hinv.2.2 1 (by omega)) (hinv.lo_lt_hi (by omega)) hm hy.1 hy.2
  have d : ∀ a, a < 2 → msh.region.lo a / m < msh.region.hi a / m := fun a ha =>
    div_lt_div_of_pos_right (hinv.lo_lt_hi (by omega)) hm
  exact ⟨c0.1, c1.1, ⟨c0.2, c1.2⟩, fun r c hr hc hcov =>
    ⟨axisCovers_unique _ _ _ (d 1 (by omega)) r _ y hr c1.1 hcov.2 c1.2,
     axisCovers_unique _ _ _ (d 0 (by omega)) c _ x hc c0.1 hcov.1 c0.2⟩⟩

/-! ## extent -/

/-- the extent every image is given: the corners of the region in units of the multiplier -/
def extentOf (r : Region) (m : Rat) : List Rat := [r.lo 0 / m, r.hi 0 / m, r.lo 1 / m, r.hi 1 / m]

theorem extent_eq (r : Region) (hinv : r.Inv) (h2 : r.ndim = 2) (m : Rat) (hm : 0 < m) :
    extent r m = .ok (extentOf r m) := by
  obtain ⟨_, _, hd, hu, hdup, hlt⟩ := hinv
  have h2' : r.pmin.length = 2 := h2
  -- the corners as `extent` writes them: `region.scale(1 / m)` about the origin
  have e1 : (tab r.ndim fun a => 0 - (0 - r.lo a) * (1 / m)) = tab 2 fun a => r.lo a / m := by
    rw [h2]; exact tab_congr _ _ _ fun a _ => by ring
  have e2 : (tab r.ndim fun a => (0 - (0 - r.lo a) * (1 / m)) + r.edge a * (1 / m))
      = tab 2 fun a => r.hi a / m := by
    rw [h2]; exact tab_congr _ _ _ fun a _ => by unfold Region.edge; ring
  unfold extent extentOf
  rw [if_neg (ne_of_gt hm), e1, e2,
    T.mk?_ok_of_lt _ _ _ _ r.dims r.units r.tol (by rw [tab_length, tab_length]) (by rw [tab_length]; omega)
      (T.dimsOk_some _ _ (by rw [tab_length, hd, h2']) hdup) (T.unitsOk_some _ _ (by rw [tab_length, hu, h2']))
      (fun a ha => by
        rw [tab_length] at ha
        rw [getD_tab _ _ _ _ ha, getD_tab _ _ _ _ ha]; exact div_lt_div_of_pos_right (hlt a (by omega)) hm)]
  rfl

end DFV.C20
