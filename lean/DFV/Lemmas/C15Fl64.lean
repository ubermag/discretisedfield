import DFV.Lemmas.C15Round
import DFV.Lemmas.C01
/-!
The executable binary64 rounding `fl64` (what the driver runs in the bit-exact comparison
with NumPy) obeys the standard model with `u = 2^-53`: it is an instance of the `fl` the
rounded-arithmetic theorems of C15 quantify over; `count_ok` is the component-count hypothesis of
the any-length theorems for this `u`.
-/
namespace DFV.C15
open DFV

theorem pow2_pos (e : Int) : 0 < pow2 e := by
  unfold pow2
  split
  · exact_mod_cast Nat.pos_of_ne_zero (by positivity)
  · apply div_pos one_pos
    exact_mod_cast Nat.pos_of_ne_zero (by positivity)

/-- an accepted significand is at least `2^52` and moves by at most ½ when rounded, so the
relative error is at most `2^-53` -/
theorem fl64At_err {x r : Rat} {e : Int} (h : fl64At x e = some r) :
    |r - x| ≤ 1 / 9007199254740992 * x := by
  unfold fl64At at h
  split at h
  · rename_i hm
    simp only [Option.some.injEq] at h
    subst h
    have hp := pow2_pos e
    have hx : x = x / pow2 e * pow2 e := by field_simp
    have herr := C01.roundHalfEven_err (x / pow2 e)
    have e1 : (Mesh.roundHalfEven (x / pow2 e) : Rat) * pow2 e - x =
        ((Mesh.roundHalfEven (x / pow2 e) : Rat) - x / pow2 e) * pow2 e := by
      rw [sub_mul]; congr 1
    rw [e1, abs_mul, abs_of_pos hp]
    have h1 : |(Mesh.roundHalfEven (x / pow2 e) : Rat) - x / pow2 e| * pow2 e ≤ 1 / 2 * pow2 e :=
      mul_le_mul_of_nonneg_right herr hp.le
    have h2 : 4503599627370496 * pow2 e ≤ x := by
      have := mul_le_mul_of_nonneg_right hm.1 hp.le
      rw [← hx] at this; exact this
    linarith
  · cases h

theorem fl64Pos_err (x : Rat) (hx : 0 ≤ x) : |fl64Pos x - x| ≤ 1 / 9007199254740992 * x := by
  unfold fl64Pos
  split
  · rename_i r h; exact fl64At_err h
  · split
    · rename_i r h; exact fl64At_err h
    · simp only [sub_self, abs_zero]; positivity

/-- **binary64 rounding obeys the standard model**, `u = 2^-53`, for every rational -/
theorem fl64_flOk : FlOk fl64 (1 / 9007199254740992) := by
  refine ⟨by norm_num, fun x => ?_⟩
  unfold fl64
  split
  · rename_i h; subst h; simp
  · split
    · rename_i _ hneg
      have := fl64Pos_err (-x) (by linarith)
      rw [abs_of_neg hneg]
      have e : -fl64Pos (-x) - x = -(fl64Pos (-x) - -x) := by ring
      rw [e, abs_neg]; exact this
    · rename_i hne hnn
      have hpos : 0 < x := lt_of_le_of_ne (not_lt.mp hnn) (Ne.symm hne)
      rw [abs_of_pos hpos]
      exact fl64Pos_err x hpos.le

/-- the component-count hypothesis for binary64 and fewer than two million components (any `n` with
`(n+2)² ≤ 2^43` would do; two million is a round number below that) -/
theorem count_ok (n : Nat) (k : Nat) (hk : k ≤ 2) (h : n < 2000000) :
    ((n : Rat) + k) * ((n : Rat) + k) * (1 / 9007199254740992) ≤ 1 / 1024 := by
  have h1 : (n : Rat) + k ≤ 2000001 := by
    have : (n : Rat) ≤ 1999999 := by exact_mod_cast Nat.le_of_lt_succ (by omega : n < 1999999 + 1)
    have : (k : Rat) ≤ 2 := by exact_mod_cast hk
    linarith
  have h0 : (0 : Rat) ≤ (n : Rat) + k := by positivity
  have : ((n : Rat) + k) * ((n : Rat) + k) ≤ 2000001 * 2000001 := mul_le_mul h1 h1 h0 (by norm_num)
  linarith

end DFV.C15
