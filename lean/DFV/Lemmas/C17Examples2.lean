import DFV.Lemmas.C17Examples
/-! Concrete instances for the `example`s of `Props/C17.lean` on 4-d arrays with single-cell axes,
contradicting attributes, refusal classes and long coordinates. -/
namespace DFV.C17
open DFV

/-- 4-d vector DataArray with two single-cell axes (`y`, `w`), three labelled components, the
`cell` attribute only: `x = 1, 3`, `y = 5`, `z = -1, -½, 0`, `w = 7` -/
def ex4 : XA Nat :=
  { name := "four",
    axes := [{ name := "x", size := 2, coord := some { vals := [1, 3], units := some "nm" } },
             { name := "y", size := 1, coord := some { vals := [5], units := some "nm" } },
             { name := "z", size := 3, coord := some { vals := [-1, -1/2, 0], units := some "" } },
             { name := "w", size := 1, coord := some { vals := [7], units := some "s" } },
             { name := "vdims", size := 3, coord := none }],
    vdimsCoord := some ["a", "b", "c"], data := ⟨[2, 1, 3, 1, 3], fun i => flatC [2, 1, 3, 1, 3] i⟩,
    attrs := { units := some "T", cell := some [2, 4, 1/2, 10], pmin := none, pmax := none, nvdim := some (.int 3),
               tol := some (1/1000) },
    dtype := "float32" }

/-- `ex4` without its `cell` attribute -/
def ex4NoCell : XA Nat := { ex4 with attrs := { ex4.attrs with cell := none } }

/-- complete attributes that CONTRADICT the coordinates: coordinates `0, 1, 2` (step 1), attributes
`cell = 2`, `pmin = 10`, `pmax = 16`: the mesh is the attributes' (3 cells of size 2 from 10 to 16) -/
def exContra : XA Nat :=
  { name := "contra", axes := [{ name := "x", size := 3, coord := some { vals := [0, 1, 2], units := none } }],
    vdimsCoord := none, data := ⟨[3], fun i => 7 + i.getD 0 0⟩,
    attrs := { units := none, cell := some [2], pmin := some [10], pmax := some [16], nvdim := some (.int 1), tol := none },
    dtype := "int64" }

/-- attributes that contradict the DATA shape: `cell = 1` on a region of 6 cells, 3 data values:
refused (`np.full` cannot broadcast 3 values into 6 cells) -/
def exContraShape : XA Nat := { exContra with attrs := { exContra.attrs with cell := some [1] } }

/-- a scalar DataArray whose LAST geometric axis has a single coordinate and no `cell` attribute:
`xa.values.shape[:-1]` = `(2,)` has no 1, so the refusal is the `ValueError` of the NaN cell size -/
def exLastSingle : XA Nat :=
  { name := "ls", axes := [{ name := "x", size := 2, coord := some { vals := [0, 1], units := none } },
                           { name := "y", size := 1, coord := some { vals := [5], units := none } }],
    vdimsCoord := none, data := ⟨[2, 1], fun i => flatC [2, 1] i⟩,
    attrs := { units := none, cell := none, pmin := none, pmax := none, nvdim := some (.int 1), tol := none },
    dtype := "float64" }

/-- … and one whose FIRST axis is the single one: `KeyError` -/
def exFirstSingle : XA Nat :=
  { name := "fs", axes := [{ name := "x", size := 1, coord := some { vals := [5], units := none } },
                           { name := "y", size := 2, coord := some { vals := [0, 1], units := none } }],
    vdimsCoord := none, data := ⟨[1, 2], fun i => flatC [1, 2] i⟩,
    attrs := { units := none, cell := none, pmin := none, pmax := none, nvdim := some (.int 1), tol := none },
    dtype := "float64" }

/-- a long coordinate (1000 values, step ¼ from 7) for the linear-time forms -/
def exLong : List Rat := tab 1000 fun j => 7 + (j : Rat) / 4

end DFV.C17
