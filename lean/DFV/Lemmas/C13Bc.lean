import DFV.Lemmas.C13Forms
/-! C12/C13: the `bc` letter swap of `Mesh.rotate90` (`rotBc`) at string level — it leaves `bc` alone or swaps two
single lower-case letters (`rotBc_cases`), keeps the `bc` setter's check and lower case, composes like the turns —
and the mesh step specified under the three invariants of the mesh level (`MInv`, `specM`), with the `BcWf`
versions other families use (`stepM_forms_bc`, `stepM_error_iff`); at the end `FInv`, the invariant bundle of the field
level (used from `C13Reject` on). -/
namespace DFV.T
open DFV DFV.C14

/-! ## strings and lists (nothing about `bc` in them) -/

theorem single_of_length (s : String) (h : s.length = 1) : ∃ c, s.toList = [c] := by
  rw [← String.length_toList] at h
  match hs : s.toList, h with
  | [c], _ => exact ⟨c, rfl⟩

theorem map_fix_mem {α} (f : α → α) (l : List α) (h : l.map f = l) : ∀ c ∈ l, f c = c := by
  induction l with
  | nil => intro c hc; cases hc
  | cons x xs ih =>
    rw [List.map_cons] at h
    injection h with h1 h2
    intro c hc
    rcases List.mem_cons.mp hc with e | e
    · rw [e]; exact h1
    · exact ih h2 c e

theorem toLower_toList (s : String) : s.toLower.toList = s.toList.map Char.toLower := by
  unfold String.toLower; exact String.toList_map

theorem lower_iff (s : String) : s.toLower = s ↔ ∀ c ∈ s.toList, c.toLower = c := by
  rw [← String.toList_inj, toLower_toList]
  constructor
  · exact map_fix_mem _ _
  · intro h
    conv_rhs => rw [← List.map_id s.toList]
    exact List.map_congr_left h

/-! ## the letter swap

`rotBc` of `Model/Transform.lean` is split into its letter map `bcSwap` and its guard `bcTurns` (`rotBc_eq`). -/

/-- the letter map: the (first) letters of the two axis names trade places -/
def bcSwap (a1 a2 : String) (c : Char) : Char :=
  if [c] = a1.toList then a2.toList.headD c else if [c] = a2.toList then a1.toList.headD c else c

/-- the guard: an odd number of quarter turns, a periodic `bc`, two single lower-case letters as axis names -/
def bcTurns (bc a1 a2 : String) (k : Int) : Bool :=
  isOdd k && !(bc == "neumann" || bc == "dirichlet" || bc == "") && a1.length == 1 && a2.length == 1
    && a1 == a1.toLower && a2 == a2.toLower

theorem rotBc_eq (bc a1 a2 : String) (k : Int) :
    rotBc bc a1 a2 k = if bcTurns bc a1 a2 k then String.ofList (bc.toList.map (bcSwap a1 a2)) else bc := rfl

theorem bcSwap_spec (a1 a2 : String) (x y : Char) (h1 : a1.toList = [x]) (h2 : a2.toList = [y]) (c : Char) :
    bcSwap a1 a2 c = if c = x then y else if c = y then x else c := by
  unfold bcSwap
  rw [h1, h2]
  simp

theorem bcSwap_invol (a1 a2 : String) (x y : Char) (h1 : a1.toList = [x]) (h2 : a2.toList = [y]) (c : Char) :
    bcSwap a1 a2 (bcSwap a1 a2 c) = c := by
  rw [bcSwap_spec a1 a2 x y h1 h2, bcSwap_spec a1 a2 x y h1 h2]
  by_cases e1 : c = x
  · subst e1
    by_cases e3 : y = c
    · simp [e3]
    · simp [e3]
  · by_cases e2 : c = y
    · subst e2; simp [e1]
    · simp [e1, e2]

theorem bcSwap_inj (a1 a2 : String) (x y : Char) (h1 : a1.toList = [x]) (h2 : a2.toList = [y]) (c d : Char)
    (h : bcSwap a1 a2 c = bcSwap a1 a2 d) : c = d := by
  have := congrArg (bcSwap a1 a2) h
  rwa [bcSwap_invol a1 a2 x y h1 h2, bcSwap_invol a1 a2 x y h1 h2] at this

theorem map_bcSwap_invol (a1 a2 : String) (x y : Char) (h1 : a1.toList = [x]) (h2 : a2.toList = [y]) (l : List Char) :
    (l.map (bcSwap a1 a2)).map (bcSwap a1 a2) = l := by
  rw [List.map_map]
  exact List.map_id'' (fun c => bcSwap_invol a1 a2 x y h1 h2 c) l

/-- every letter occurs once -/
def Distinct (l : List Char) : Prop := ∀ c ∈ l, (l.filter (· = c)).length = 1

/-- every letter occurs once, as the `bc` check counts it: the list has no duplicates -/
theorem distinct_iff_nodup (l : List Char) : Distinct l ↔ l.Nodup := by
  have hc : ∀ c, (l.filter (· = c)).length = l.count c := fun c => List.count_eq_length_filter.symm
  unfold Distinct
  simp only [hc, List.nodup_iff_count]
  constructor
  · intro h a
    by_cases ha : a ∈ l
    · exact (h a ha).le
    · rw [List.count_eq_zero.mpr ha]; exact Nat.zero_le _
  · intro h c hc'
    exact Nat.le_antisymm (h c) (List.one_le_count_iff.mpr hc')

theorem distinct_map_inj (l : List Char) (φ : Char → Char) (hφ : ∀ c d, φ c = φ d → c = d) (h : Distinct l) :
    Distinct (l.map φ) := by
  rw [distinct_iff_nodup] at h ⊢
  exact List.Pairwise.map φ (fun a b hab e => hab (hφ a b e)) h

/-- a string in which every character occurs once is neither of the two words (each has a repeated letter) -/
theorem not_word_of_distinct (l : List Char) (h : Distinct l) : l ≠ "neumann".toList ∧ l ≠ "dirichlet".toList := by
  rw [distinct_iff_nodup] at h
  exact ⟨fun e => absurd (e ▸ h) (by decide), fun e => absurd (e ▸ h) (by decide)⟩

/-- the `bc` setter's check, as a proposition -/
theorem bcOk_iff (dims : List String) (bc : String) :
    Mesh.bcOk dims bc = true ↔
      PlainBc bc ∨ ((∀ c ∈ bc.toList, String.singleton c ∈ dims) ∧ Distinct bc.toList) := by
  unfold Mesh.bcOk PlainBc Distinct
  simp only [Bool.or_eq_true, decide_eq_true_eq, List.all_eq_true, Bool.and_eq_true, List.contains_iff_mem]
  constructor
  · rintro (((h | h) | h) | h)
    · exact Or.inl (Or.inr (Or.inl h))
    · exact Or.inl (Or.inr (Or.inr h))
    · exact Or.inl (Or.inl h)
    · exact Or.inr ⟨fun c hc => (h c hc).1, fun c hc => (h c hc).2⟩
  · rintro ((h | h | h) | ⟨h1, h2⟩)
    · exact Or.inl (Or.inr h)
    · exact Or.inl (Or.inl (Or.inl h))
    · exact Or.inl (Or.inl (Or.inr h))
    · exact Or.inr fun c hc => ⟨h1 c hc, h2 c hc⟩

theorem plainBc_ok (dims : List String) (bc : String) (h : PlainBc bc) : Mesh.bcOk dims bc = true :=
  (bcOk_iff dims bc).mpr (Or.inl h)

theorem bcTurns_iff (bc a1 a2 : String) (k : Int) :
    bcTurns bc a1 a2 k = true ↔ isOdd k = true ∧ ¬ PlainBc bc ∧ a1.length = 1 ∧ a2.length = 1
      ∧ a1.toLower = a1 ∧ a2.toLower = a2 := by
  unfold bcTurns
  rw [Bool.and_eq_true, Bool.and_eq_true, Bool.and_eq_true, Bool.and_eq_true, Bool.and_eq_true, Bool.not_eq_true',
    beq_iff_eq, beq_iff_eq, beq_iff_eq, beq_iff_eq, ← Bool.not_eq_true, plainBc_iff]
  constructor
  · rintro ⟨⟨⟨⟨⟨a, b⟩, c⟩, d⟩, e⟩, f⟩; exact ⟨a, b, c, d, e.symm, f.symm⟩
  · rintro ⟨a, b, c, d, e, f⟩; exact ⟨⟨⟨⟨⟨a, b⟩, c⟩, d⟩, e.symm⟩, f.symm⟩

theorem rotBc_multichar (bc a1 a2 : String) (k : Int) (h : a1.length ≠ 1 ∨ a2.length ≠ 1) : rotBc bc a1 a2 k = bc := by
  rw [rotBc_eq, if_neg]
  rw [bcTurns_iff]; rintro ⟨_, _, h1, h2, _⟩
  rcases h with h | h
  · exact h h1
  · exact h h2

theorem rotBc_odd (bc a1 a2 : String) (k : Int) (hk : isOdd k = true) (hp : ¬ PlainBc bc) (h1 : a1.length = 1) (h2 : a2.length = 1)
    (l1 : a1.toLower = a1) (l2 : a2.toLower = a2) :
    rotBc bc a1 a2 k = String.ofList (bc.toList.map (bcSwap a1 a2)) := by
  rw [rotBc_eq, if_pos]
  rw [bcTurns_iff]; exact ⟨hk, hp, h1, h2, l1, l2⟩

theorem rotBc_cases (bc a1 a2 : String) (k : Int) :
    rotBc bc a1 a2 k = bc ∨
    (¬ PlainBc bc ∧ ∃ x y, a1.toList = [x] ∧ a2.toList = [y] ∧ a1.toLower = a1 ∧ a2.toLower = a2 ∧
      rotBc bc a1 a2 k = String.ofList (bc.toList.map (bcSwap a1 a2))) := by
  by_cases ht : bcTurns bc a1 a2 k = true
  · obtain ⟨hk, hp, s1, s2, lo1, lo2⟩ := (bcTurns_iff _ _ _ _).mp ht
    obtain ⟨x, hx⟩ := single_of_length a1 s1
    obtain ⟨y, hy⟩ := single_of_length a2 s2
    exact Or.inr ⟨hp, x, y, hx, hy, lo1, lo2, rotBc_odd bc a1 a2 k hk hp s1 s2 lo1 lo2⟩
  · exact Or.inl (by rw [rotBc_eq, if_neg ht])

theorem rotBc_plain_iff (bc a1 a2 : String) (k : Int) (hd : PlainBc bc ∨ Distinct bc.toList) :
    PlainBc (rotBc bc a1 a2 k) ↔ PlainBc bc := by
  rcases rotBc_cases bc a1 a2 k with e | ⟨hp, x, y, hx, hy, _, _, e⟩ <;> rw [e]
  refine ⟨fun h => ?_, fun h => absurd h hp⟩
  exfalso
  rw [plainBc_toList, String.toList_ofList] at h
  obtain ⟨n1, n2⟩ := not_word_of_distinct _ (distinct_map_inj bc.toList (bcSwap a1 a2) (bcSwap_inj a1 a2 x y hx hy) (hd.resolve_left hp))
  rcases h with h | h | h
  · apply hp; rw [plainBc_toList]; left
    simpa using h
  · exact n1 h
  · exact n2 h

theorem rotBc_bcOk (dims : List String) (bc a1 a2 : String) (k : Int) (hok : Mesh.bcOk dims bc = true)
    (m1 : a1 ∈ dims) (m2 : a2 ∈ dims) : Mesh.bcOk dims (rotBc bc a1 a2 k) = true := by
  rcases rotBc_cases bc a1 a2 k with e | ⟨hp, x, y, hx, hy, _, _, e⟩ <;> rw [e]
  · exact hok
  rw [bcOk_iff] at hok ⊢
  obtain ⟨hin, hdist⟩ := hok.resolve_left hp
  rw [String.toList_ofList]
  refine Or.inr ⟨fun c' hc' => ?_, distinct_map_inj _ _ (bcSwap_inj a1 a2 x y hx hy) hdist⟩
  obtain ⟨c, hc, rfl⟩ := List.mem_map.mp hc'
  have ex : String.singleton x = a1 := by rw [← String.toList_inj, String.toList_singleton, hx]
  have ey : String.singleton y = a2 := by rw [← String.toList_inj, String.toList_singleton, hy]
  rw [bcSwap_spec a1 a2 x y hx hy]
  split
  · rw [ey]; exact m2
  · split
    · rw [ex]; exact m1
    · exact hin c hc

theorem rotBc_parity (bc a1 a2 : String) (k l : Int) (h : isOdd k = isOdd l) : rotBc bc a1 a2 k = rotBc bc a1 a2 l := by
  unfold rotBc; rw [h]

theorem rotBc_compose (bc a1 a2 : String) (k l : Int) (hd : PlainBc bc ∨ Distinct bc.toList) :
    rotBc (rotBc bc a1 a2 k) a1 a2 l = rotBc bc a1 a2 (k + l) := by
  have hadd := isOdd_add k l
  cases hk : isOdd k
  · rw [rotBc_even bc a1 a2 k hk]
    exact rotBc_parity _ _ _ _ _ (by rw [hadd, hk]; cases isOdd l <;> rfl)
  · cases hl : isOdd l
    · rw [rotBc_even _ _ _ l hl]
      exact rotBc_parity _ _ _ _ _ (by rw [hadd, hk, hl]; rfl)
    · -- two odd turns: the letters are swapped twice, or not at all
      rw [rotBc_even bc a1 a2 (k + l) (by rw [hadd, hk, hl]; rfl), rotBc_parity _ a1 a2 l k (hl.trans hk.symm)]
      rcases rotBc_cases bc a1 a2 k with e | ⟨hp, x, y, hx, hy, lo1, lo2, e⟩
      · rw [e, e]
      · have hp' : ¬ PlainBc (rotBc bc a1 a2 k) := by rw [rotBc_plain_iff bc a1 a2 k hd]; exact hp
        have s1 : a1.length = 1 := by rw [← String.length_toList, hx]; rfl
        have s2 : a2.length = 1 := by rw [← String.length_toList, hy]; rfl
        rw [rotBc_odd _ a1 a2 k hk hp' s1 s2 lo1 lo2, e, String.toList_ofList, map_bcSwap_invol a1 a2 x y hx hy,
          String.ofList_toList]

/-! ## `str.lower` -/

/-- **`rotBc` and `str.lower`**: a lower-case `bc` stays lower-case under the letter swap — only lower-case axis names
are swapped in (repo fix be43fa9b) -/
theorem rotBc_toLower (bc a1 a2 : String) (k : Int) (hl : bc.toLower = bc) : (rotBc bc a1 a2 k).toLower = rotBc bc a1 a2 k := by
  rcases rotBc_cases bc a1 a2 k with e | ⟨_, x, y, hx, hy, lo1, lo2, e⟩ <;> rw [e]
  · exact hl
  rw [lower_iff, String.toList_ofList]
  intro c' hc'
  obtain ⟨c, hc, rfl⟩ := List.mem_map.mp hc'
  rw [bcSwap_spec a1 a2 x y hx hy]
  split
  · exact (lower_iff a2).mp lo2 y (by rw [hy]; simp)
  · split
    · exact (lower_iff a1).mp lo1 x (by rw [hx]; simp)
    · exact (lower_iff bc).mp hl c hc

/-- `rotBc_toLower` with two hypotheses it does not need (the form `Lemmas/C19Rotate90.lean` and `Props/C12.lean` call) -/
theorem rotBc_lower (bc a1 a2 : String) (k : Int) (hl : bc.toLower = bc)
    (_ : a1.length = 1 → a1.toLower = a1) (_ : a2.length = 1 → a2.toLower = a2) :
    (rotBc bc a1 a2 k).toLower = rotBc bc a1 a2 k :=
  rotBc_toLower bc a1 a2 k hl

/-! ## the `bc` invariant of a mesh -/

/-- what the `bc` setter guarantees: `bc` is lower-cased and passed the check against the
dimension names -/
def BcInv (m : Mesh) : Prop := m.bc.toLower = m.bc ∧ Mesh.bcOk m.region.dims m.bc = true

/-- single-character dimension names are lower-case -/
def LowerDims (dims : List String) : Prop := ∀ d ∈ dims, d.length = 1 → d.toLower = d

/-- well-formed boundary condition: the setter's guarantee, and — for periodic `bc` — lower-case
single-character dimension names.  Every non-periodic condition qualifies (`bcWf_of_plain`).  No proof uses the second
part (`rotBc` swaps only lower-case names, `rotBc_toLower`, so `BcInv` alone is kept by every step: `opBc_inv`, `MInv`,
`specM`); it is what the statements of `Props/C12.lean` and `Props/C13.lean` ask for, and `applyM_bcWf`, `bcWfB`, `FInv`
carry it for them. -/
def BcWf (m : Mesh) : Prop := BcInv m ∧ (PlainBc m.bc ∨ LowerDims m.region.dims)

theorem bcWf_of_plain (m : Mesh) (h : PlainBc m.bc) : BcWf m :=
  ⟨⟨plainBc_lower _ h, plainBc_ok _ _ h⟩, Or.inl h⟩

theorem opBc_inv (m : Mesh) (hm : m.Inv) (hb : BcInv m) (op : Op) (x r' : Region) (hreg : stepR m.region op = .ok (x, r')) :
    (opBc m op).toLower = opBc m op ∧ Mesh.bcOk r'.dims (opBc m op) = true := by
  obtain ⟨hl, hok⟩ := hb
  obtain ⟨_, _, hd, _⟩ := stepR_keeps m.region hm.1 op x r' hreg
  rw [hd]
  cases op with
  | translate | scale => exact ⟨hl, hok⟩
  | rotate90 a1 a2 k ref i =>
    obtain ⟨_, _, i1, i2, h1, h2, _⟩ := rotate90R_inv _ _ _ _ _ _ _ _ hreg
    exact ⟨rotBc_toLower _ _ _ _ hl, rotBc_bcOk _ _ _ _ _ hok (dim2index_mem _ _ _ h1) (dim2index_mem _ _ _ h2)⟩

/-- the three invariants of the mesh level: mesh invariant, exactly fitting subregions, and what the `bc` setter
guarantees -/
def MInv (m : Mesh) : Prop := m.Inv ∧ SubInv m ∧ BcInv m

theorem applyM_mInv (m : Mesh) (h : MInv m) (op : Op) (hmal : ¬ Malformed m.region op) : MInv (applyM m op) :=
  ⟨applyM_inv m h.1 op hmal, applyM_subInv m h.1 h.2.1 op hmal, opBc_inv m h.1 h.2.2 op _ _ (specR.accepts h.1.1 hmal)⟩

/-- the mesh step under the three invariants, periodic `bc` included: the constructor of the copying form returns `applyM m op` as it
is (`remake_fix`).  The general form of the mesh-level theorems of `Props/C13.lean` and `Props/C12.lean`. -/
theorem specM : Spec stepM MInv (fun m => Malformed m.region) applyM where
  mal_flag := fun m => malformed_withInplace m.region
  ap_flag := applyM_withInplace
  rejects := stepM_malformed
  keeps := applyM_mInv
  ok_iff := fun m h op recv ret => by
    rw [stepM_spec m h.1 (subsProper_of_subInv m h.1 h.2.1)]
    refine and_congr_right fun hmal => ?_
    obtain ⟨i1, i2, i3⟩ := applyM_mInv m h op hmal
    rw [remake_fix _ i1 i2 i3.1 i3.2]
    cases op.inplace
    · simp only [Bool.false_eq_true, if_false, Except.ok.injEq]
      exact ⟨fun ⟨a, b⟩ => ⟨b.symm, a⟩, fun ⟨a, b⟩ => ⟨b, a.symm⟩⟩
    · simp only [if_true]

/-- `BcWf` adds to `BcInv` a condition on the dimension names that no step changes -/
theorem applyM_bcWf (m : Mesh) (hm : m.Inv) (hb : BcWf m) (op : Op) (hmal : ¬ Malformed m.region op) : BcWf (applyM m op) :=
  ⟨opBc_inv m hm hb.1 op _ _ (specR.accepts hm.1 hmal),
   hb.2.imp (fun hp => show PlainBc (opBc m op) from (plainBc_op m op hp).symm ▸ hp)
     fun h => show LowerDims (applyR m.region op).dims from (applyR_inv m.region hm.1 op hmal).2.2.1.symm ▸ h⟩

/-- `specM.forms` under `BcWf`, the hypothesis the statements of `Props/C12.lean` and `Props/C13.lean` carry -/
theorem stepM_forms_bc (m : Mesh) (hm : m.Inv) (hs : SubInv m) (hb : BcWf m) (op : Op) :
    (∃ T : Mesh, T.Inv ∧ SubInv T ∧ BcWf T ∧ (PlainBc m.bc → T.bc = m.bc) ∧ T.region.dims = m.region.dims ∧
        stepM m (op.withInplace true) = .ok (T, T) ∧ stepM m (op.withInplace false) = .ok (m, T)) ∨
    ((∃ e, stepM m (op.withInplace true) = .error e) ∧ (∃ e, stepM m (op.withInplace false) = .error e)) :=
  (specM.forms ⟨hm, hs, hb.1⟩ op).imp (fun ⟨T, ⟨⟨h1, h2, _⟩, e, hmal⟩, h5, h6⟩ =>
    ⟨T, h1, h2, e ▸ applyM_bcWf m hm hb op hmal, fun hp => e ▸ plainBc_op m op hp,
      e ▸ (applyR_inv m.region hm.1 op hmal).2.2.1, h5, h6⟩) id

/-- `specM.error_iff` under `BcWf`: the subregion steps and the constructor of the copying form never add a rejection -/
theorem stepM_error_iff (m : Mesh) (hm : m.Inv) (hs : SubInv m) (hb : BcWf m) (op : Op) :
    (∃ e, stepM m op = .error e) ↔ Malformed m.region op :=
  specM.error_iff ⟨hm, hs, hb.1⟩ op

theorem runM_forms_agree_bc (m : Mesh) (hm : m.Inv) (hs : SubInv m) (hb : BcInv m) (ops : List Op) (flags : List Bool)
    (hl : flags.length = ops.length) :
    runM m (List.zipWith Op.withInplace ops flags) = runM m ops :=
  specM.forms_agree runM_follows ⟨hm, hs, hb⟩ ops flags hl

theorem runM_forms_agree (m : Mesh) (hm : m.Inv) (hs : SubInv m) (hbc : PlainBc m.bc) (ops : List Op) (flags : List Bool)
    (hl : flags.length = ops.length) :
    runM m (List.zipWith Op.withInplace ops flags) = runM m ops :=
  runM_forms_agree_bc m hm hs (bcWf_of_plain m hbc).1 ops flags hl

/-- Boolean checker for `BcWf` (used by the non-vacuity examples) -/
def bcWfB (m : Mesh) : Bool :=
  decide (m.bc.toLower = m.bc) && Mesh.bcOk m.region.dims m.bc &&
  m.region.dims.all fun d => d.length != 1 || decide (d.toLower = d)

theorem bcWf_of_bcWfB (m : Mesh) (h : bcWfB m = true) : BcWf m := by
  unfold bcWfB at h
  simp only [Bool.and_eq_true, decide_eq_true_eq, List.all_eq_true, Bool.or_eq_true, bne_iff_ne, ne_eq] at h
  obtain ⟨⟨h1, h2⟩, h3⟩ := h
  refine ⟨⟨h1, h2⟩, Or.inr ?_⟩
  intro d hd hl
  rcases h3 d hd with h | h
  · exact absurd hl h
  · exact h

/-- the invariant bundle carried through field histories: shape invariant, `SubInv` of the mesh,
well-formed boundary condition (periodic ones included) -/
def FInv (f : Fld) : Prop := FldInv f ∧ SubInv f.mesh ∧ BcWf f.mesh

end DFV.T
