import DFV.Lemmas.C06Fld
import DFV.Lemmas.C14Setter
/-! Subregions through axis removal (C06).  The coordinate `Mesh.sel(dim)` selects along the removed axis (the centre
of cell ⌊n/2⌋).  Exactly fitting subregions (`SubFits`): they pass the three checks of the
subregion setter and fit the reduced mesh again.  Subregions the setter accepts only thanks to its tolerances
(`SubOk`, `SubAcc`): the three checks (inside the region up to `atol`, a whole number of cells up to 0.1 % of the
smallest cell, aligned up to 1e-12) are inherited axis by axis by `Mesh.sel(dim)`, so axis removal - and with it
`integrate(d)`, `mean(d)`, `mean(list)` - succeeds on every mesh whose subregions passed the setter: `sel` in
closed form (`selF`, `sel_eq_selF`). -/
namespace DFV.C06
open DFV

/-! ## the coordinate a bare-name selection picks: the centre of cell ⌊n/2⌋ along the removed
axis (the cell that contains the region centre) -/

theorem indexAx_centre (m : Mesh) (hm : m.Inv) (a : Nat) (ha : a < m.ndim) :
    m.indexAx a (m.region.center.getD a 0) = m.nAt a / 2 := by
  have hc := hm.cellAt_pos ha
  have hnpos := hm.nAt_pos ha
  -- the centre is `n/2` cells above the lower face, and `⌊n/2⌋ ≤ n/2 < ⌊n/2⌋ + 1`
  have hx : m.region.center.getD a 0 = m.region.lo a + (m.nAt a : Rat) / 2 * m.cellAt a := by
    rw [C01.center_getD _ a ha, div_mul_eq_mul_div, cells_cover m hm a ha]
    unfold Region.edge; ring
  have h1 : ((m.nAt a / 2 : Nat) : Rat) ≤ (m.nAt a : Rat) / 2 := by
    rw [le_div_iff₀ (by norm_num)]; exact_mod_cast Nat.div_mul_le_self _ 2
  have h2 : (m.nAt a : Rat) / 2 < ((m.nAt a / 2 : Nat) : Rat) + 1 := by
    rw [div_lt_iff₀ (by norm_num)]; exact_mod_cast (by omega : m.nAt a < (m.nAt a / 2 + 1) * 2)
  rw [C01.indexAx_eq_iff m a hc (by omega), hx]
  exact ⟨Or.inr ((C01.face_le hc _ _).mpr h1), Or.inr ((C01.face_lt hc _ _).mpr h2)⟩

/-- the coordinate a bare-name selection picks along the removed axis: the centre of cell
⌊n/2⌋ (the region centre itself when `n` is odd, half a cell above it when `n` is even) -/
theorem selCentre_eq (m : Mesh) (hm : m.Inv) (ax : Nat) (hax : ax < m.ndim) :
    selCentre m ax = .ok (m.region.lo ax + (((m.nAt ax / 2 : Nat) : Rat) + 1/2) * m.cellAt ax) := by
  have hc : m.region.containsExact m.region.center :=
    ⟨C01.center_length _, fun a ha => by
      have := hm.lo_lt_hi ha
      rw [C01.center_getD _ a ha]
      constructor <;> linarith⟩
  have hi : inRange m.n (tab m.ndim fun a => m.indexAx a (m.region.center.getD a 0)) = true :=
    hm.inRange_tab _ fun a ha => C01.indexAx_lt m a (hm.nAt_pos ha) _
  unfold selCentre
  rw [C01.point2index_of_exact m _ hc]
  dsimp only
  rw [C01.index2point_ofNat m hm _ hi]
  dsimp only
  rw [C01.centre_getD m ax _ hax, getD_tab _ _ _ _ hax, indexAx_centre m hm ax hax, C01.centreAx_natCast]

/-! ## exactly fitting subregions -/

/-- the box `s` fits the mesh `m` exactly: one coordinate per direction, and on every axis it
starts a whole number `z` of cells into the region and is a whole number `w ≥ 1` of cells
long, ending inside (`z + w ≤ n`) -/
def SubFits (m : Mesh) (s : Region) : Prop :=
  s.pmin.length = m.ndim ∧ s.pmax.length = m.ndim ∧
  ∀ a, a < m.ndim → ∃ z w : Nat, 0 < w ∧ z + w ≤ m.nAt a ∧
    s.lo a = m.region.lo a + (z : Rat) * m.cellAt a ∧ s.hi a = s.lo a + (w : Rat) * m.cellAt a

/-- every subregion held by the mesh fits it exactly -/
def SubsFit (m : Mesh) : Prop := ∀ p ∈ m.subs, SubFits m p.2

theorem subsFit_nil (m : Mesh) (h : m.subs = []) : SubsFit m := by
  intro p hp; rw [h] at hp; simp at hp

/-- a subregion with the axis `ax` removed, as `df.Region(p1=sub_p_1, p2=sub_p_2)` builds it -/
def projReg (ax : Nat) (r : Region) : Region :=
  { pmin := removeAt r.pmin ax, pmax := removeAt r.pmax ax,
    dims := Region.defaultDims (removeAt r.pmin ax).length,
    units := List.replicate (removeAt r.pmin ax).length "m", tol := 1/1000000000000 }

/-- a region re-created by the subregion setter with the mesh's dims, units, tolerance -/
def restamp (m : Mesh) (r : Region) : Region :=
  { pmin := r.pmin, pmax := r.pmax, dims := m.region.dims, units := m.region.units, tol := m.region.tol }

/-- the subregions whose closed extent along `ax` contains the coordinate `s` -/
def keepSubs (ax : Nat) (s : Rat) (subs : List (String × Region)) : List (String × Region) :=
  subs.filter fun p => !(decide (p.2.hi ax < s) || decide (s < p.2.lo ax))

/-! ## a fitting subregion, one axis removed -/

theorem subFits_lo_lt_hi (m : Mesh) (hm : m.Inv) (s : Region) (hs : SubFits m s) (a : Nat) (ha : a < m.ndim) :
    s.lo a < s.hi a := by
  obtain ⟨z, w, hw, _, _, hhi⟩ := hs.2.2 a ha
  rw [hhi]
  have hc := hm.cellAt_pos ha
  have : (0 : Rat) < (w : Rat) := by exact_mod_cast hw
  have := mul_pos this hc
  linarith

/-! ## axis removal with subregions -/

theorem projReg_fits {m mc : Mesh} {ax : Nat} (h : Reduced ax m mc) (s : Region) (hs : SubFits m s) :
    SubFits mc (projReg ax s) := by
  refine ⟨?_, ?_, fun a ha => ?_⟩
  · exact (length_removeAt _ _ (hs.1 ▸ h.lt)).trans (by rw [hs.1, h.ndim])
  · exact (length_removeAt _ _ (hs.2.1 ▸ h.lt)).trans (by rw [hs.2.1, h.ndim])
  · obtain ⟨z, w, hw, hzw, hlo, hhi⟩ := hs.2.2 _ (h.skip_lt ha)
    refine ⟨z, w, hw, by rw [h.nAt]; exact hzw, ?_, ?_⟩
    · show (removeAt s.pmin ax).getD a 0 = _
      rw [getD_removeAt_skip, h.lo, h.cellAt]; exact hlo
    · show (removeAt s.pmax ax).getD a 0 = (removeAt s.pmin ax).getD a 0 + _
      rw [getD_removeAt_skip, getD_removeAt_skip, h.cellAt]; exact hhi

/-! ## subregions within the tolerances -/

/-! ## `listMin` -/

theorem listMin_removeAt_ge (l : List Rat) (ax : Nat) (hax : ax < l.length) (h2 : 2 ≤ l.length) :
    listMin l ≤ listMin (removeAt l ax) :=
  C01.listMin_le_mem _ _ (mem_of_mem_removeAt (C01.listMin_mem _ fun h => by
    have := length_removeAt l ax hax
    rw [h] at this
    simp at this
    omega))

/-! ## tolerant containment, axis by axis -/

theorem isclose_mono (a b rtol atol atol' : Rat) (h : atol ≤ atol') (hc : Region.isclose a b rtol atol = true) :
    Region.isclose a b rtol atol' = true := by
  rw [C01.isclose_iff] at hc ⊢
  linarith

theorem isclose_nonpos (a b rtol atol : Rat) (h1 : rtol ≤ 0) (h2 : atol ≤ 0) (hc : Region.isclose a b rtol atol = true) :
    a = b := by
  rw [C01.isclose_iff] at hc
  have h5 : rtol * |b| ≤ 0 := mul_nonpos_of_nonpos_of_nonneg h1 (abs_nonneg b)
  exact sub_eq_zero.mp (abs_eq_zero.mp (le_antisymm (by linarith) (abs_nonneg _)))

/-- one axis of the tolerant box test carries over to a box with the same bounds on that axis,
the same relative tolerance and an absolute tolerance that is not smaller (or, for a negative
tolerance factor, whatever it is: the tolerant part never holds then) -/
theorem containsAx_mono (r r' : Region) (a a' : Nat) (x : Rat) (hlo : r'.lo a' = r.lo a) (hhi : r'.hi a' = r.hi a)
    (htol : r'.tol = r.tol) (hat : 0 ≤ r.tol → r.atol ≤ r'.atol) (hneg : r.tol < 0 → r.atol ≤ 0)
    (h : r.containsAx a x = true) : r'.containsAx a' x = true := by
  rw [C01.containsAx_eq_true_iff] at h ⊢
  rw [hlo, hhi, htol]
  by_cases ht : 0 ≤ r.tol
  · exact ⟨h.1.imp_right (isclose_mono _ _ _ _ _ (hat ht)), h.2.imp_right (isclose_mono _ _ _ _ _ (hat ht))⟩
  · have ht' : r.tol < 0 := not_le.mp ht
    exact ⟨h.1.elim Or.inl fun h1 => Or.inl (isclose_nonpos _ _ _ _ ht'.le (hneg ht') h1).le,
      h.2.elim Or.inl fun h2 => Or.inl (isclose_nonpos _ _ _ _ ht'.le (hneg ht') h2).ge⟩

/-- a box with one axis removed, seen from the original: bounds of the remaining axes, same tolerance factor.
(`Reduced` is about meshes; the tolerance tests also compare plain boxes - a stored subregion `canon s` and its cut
`projReg ax s` - so the bounds are fields here and `subOk_proj` supplies them once for the regions of the two meshes and
once for the two boxes.) -/
structure IsProj (ax : Nat) (r r' : Region) : Prop where
  lt : ax < r.ndim
  ndim : r'.ndim + 1 = r.ndim
  two : 2 ≤ r.ndim
  lo : ∀ a, r'.lo a = r.lo (skip ax a)
  hi : ∀ a, r'.hi a = r.hi (skip ax a)
  tol : r'.tol = r.tol
  pos : ∀ a, a < r.ndim → r.lo a < r.hi a

theorem IsProj.edge {ax : Nat} {r r' : Region} (h : IsProj ax r r') (a : Nat) : r'.edge a = r.edge (skip ax a) := by
  unfold Region.edge; rw [h.lo, h.hi]

theorem IsProj.atol_le {ax : Nat} {r r' : Region} (h : IsProj ax r r') (ht : 0 ≤ r.tol) : r.atol ≤ r'.atol := by
  unfold Region.atol
  rw [h.tol]
  apply mul_le_mul_of_nonneg_right _ ht
  have hn : r'.ndim = r.ndim - 1 := by have := h.ndim; omega
  have : r'.edges = removeAt r.edges ax := by
    unfold Region.edges
    rw [removeAt_tab _ _ _ h.lt, hn]
    exact tab_congr _ _ _ fun a _ => h.edge a
  rw [this]
  exact listMin_removeAt_ge _ ax (by unfold Region.edges; rw [tab_length]; exact h.lt) (by unfold Region.edges; rw [tab_length]; exact h.two)

theorem IsProj.atol_neg {ax : Nat} {r r' : Region} (h : IsProj ax r r') (ht : r.tol < 0) : r.atol ≤ 0 := by
  unfold Region.atol
  refine mul_nonpos_of_nonneg_of_nonpos (C01.listMin_nonneg _ fun y hy => ?_) ht.le
  obtain ⟨a, ha, rfl⟩ := (mem_tab _ _ _).mp hy
  exact sub_pos.mpr (h.pos a ha)

theorem containsPt_proj (ax : Nat) (r r' : Region) (h : IsProj ax r r') (p : List Rat)
    (hp : r.containsPt p = true) : r'.containsPt (removeAt p ax) = true := by
  rw [C01.containsPt_eq_true_iff] at hp ⊢
  obtain ⟨hl, hall⟩ := hp
  have hn : r'.ndim = r.ndim - 1 := by have := h.ndim; omega
  refine ⟨by rw [length_removeAt _ _ (by rw [hl]; exact h.lt), hl, hn], fun a ha => ?_⟩
  rw [getD_removeAt_skip]
  exact containsAx_mono r r' (skip ax a) a _ (h.lo a) (h.hi a) h.tol h.atol_le h.atol_neg
    (hall (skip ax a) (skip_lt ax a _ (by omega)))

/-! ## `Mesh(region=…, cell=…)` with one axis removed -/

theorem notDivisible_mono (e c t t' : Rat) (h : t ≤ t') (hn : Mesh.notDivisible e c t = false) :
    Mesh.notDivisible e c t' = false := by
  unfold Mesh.notDivisible at hn ⊢
  simp only [Bool.and_eq_false_iff, decide_eq_false_iff_not, not_lt] at hn ⊢
  rcases hn with hn | hn
  · exact Or.inl (le_trans hn h)
  · exact Or.inr (by linarith)

theorem mkCell_proj (ax : Nat) (s s' : Region) (hp : IsProj ax s s') (cell : List Rat)
    (o : Mesh) (h : Mesh.mkCell? s cell = .ok o) :
    ∃ o', Mesh.mkCell? s' (removeAt cell ax) = .ok o' ∧ ∀ a, a < s'.ndim → o'.nAt a = o.nAt (skip ax a) := by
  obtain ⟨h1, h2, h3, h4, h5⟩ := (mkCell_iff s cell).mp ⟨o, h⟩
  have hn : s'.ndim = s.ndim - 1 := by have := hp.ndim; omega
  have hcl : (removeAt cell ax).length = s'.ndim := by
    rw [length_removeAt _ _ (by rw [h1]; exact hp.lt), h1, hn]
  have hg : ∀ a, (removeAt cell ax).getD a 0 = cell.getD (skip ax a) 0 := fun a => getD_removeAt_skip _ _ _ _
  have hex : ∃ o', Mesh.mkCell? s' (removeAt cell ax) = .ok o' := by
    rw [mkCell_iff]
    refine ⟨hcl, ?_, ?_, ?_, ?_⟩
    · exact fun c hc => h2 c (mem_of_mem_removeAt hc)
    · have : (tab s'.ndim fun a => s'.lo a + (removeAt cell ax).getD a 0)
          = removeAt (tab s.ndim fun a => s.lo a + cell.getD a 0) ax := by
        rw [removeAt_tab _ _ _ hp.lt, hn]
        apply tab_congr
        intro a _
        rw [hp.lo, hg]
      rw [this]
      exact containsPt_proj ax s s' hp _ h3
    · intro a ha
      have := h4 (skip ax a) (skip_lt ax a _ (by omega))
      rw [hg, hp.edge]
      refine notDivisible_mono _ _ _ _ ?_ this
      have := listMin_removeAt_ge cell ax (by rw [h1]; exact hp.lt) (by rw [h1]; exact hp.two)
      linarith
    · intro a ha
      rw [hg, hp.edge]
      exact h5 (skip ax a) (skip_lt ax a _ (by omega))
  obtain ⟨o', ho'⟩ := hex
  refine ⟨o', ho', ?_⟩
  intro a ha
  have e1 := mkCell_ok _ _ _ ho'
  have e2 := mkCell_ok _ _ _ h
  unfold Mesh.nAt
  rw [e1, e2]
  simp only
  rw [getD_tab _ _ _ _ ha, getD_tab _ _ _ _ (skip_lt ax a _ (by omega)), hg, hp.edge]

/-! ## `is_aligned`, axis by axis -/

theorem aligned_proj (ax : Nat) (m mc o o' : Mesh) (t : Rat) (hnd : mc.ndim + 1 = m.ndim)
    (hc : ∀ a, mc.cellAt a = m.cellAt (skip ax a)) (hoc : ∀ a, a < mc.ndim → o'.cellAt a = o.cellAt (skip ax a))
    (hlo : ∀ a, mc.region.lo a = m.region.lo (skip ax a)) (hhi : ∀ a, mc.region.hi a = m.region.hi (skip ax a))
    (holo : ∀ a, o'.region.lo a = o.region.lo (skip ax a)) (hohi : ∀ a, o'.region.hi a = o.region.hi (skip ax a))
    (h : aligned m o t = true) : aligned mc o' t = true := by
  unfold aligned at h ⊢
  simp only [Bool.and_eq_true] at h ⊢
  obtain ⟨⟨h1, h2⟩, h3⟩ := h
  rw [allLt_iff] at h1 h2 h3
  have hs : ∀ a, a < mc.ndim → skip ax a < m.ndim := fun a ha => skip_lt ax a _ (by omega)
  refine ⟨⟨?_, ?_⟩, ?_⟩
  · rw [allLt_iff]; intro a ha
    rw [hc, hoc a ha]; exact h1 _ (hs a ha)
  · rw [allLt_iff]; intro a ha
    rw [hc, hlo, holo]; exact h2 _ (hs a ha)
  · rw [allLt_iff]; intro a ha
    rw [hc, hhi, hohi]; exact h3 _ (hs a ha)

/-! ## the setter's checks on one candidate -/

/-- `df.Region(p1=s.pmin, p2=s.pmax)`: the same box with default names, units and tolerance -/
def canon (s : Region) : Region :=
  { pmin := s.pmin, pmax := s.pmax, dims := Region.defaultDims s.pmin.length,
    units := List.replicate s.pmin.length "m", tol := 1/1000000000000 }

/-- the three checks of the `subregions` setter on one candidate region: inside the mesh region
(tolerant), `Mesh(region=r, cell=mesh.cell)` can be built (0.1 % divisibility, at least one
cell), and that mesh is aligned with the mesh (1e-12) -/
def SubOk (m : Mesh) (r : Region) : Prop :=
  m.region.containsReg r = true ∧ ∃ o, Mesh.mkCell? r m.cell = .ok o ∧ aligned m o (1/1000000000000) = true

/-- a stored subregion passes the setter's checks when it is offered again as a plain box
(`df.Region(p1, p2)` - what `Mesh.sel` does with the subregions it keeps) -/
def SubAcc (m : Mesh) (s : Region) : Prop := SubOk m (canon s)

/-- every subregion held by the mesh passes the setter's checks -/
def SubsAcc (m : Mesh) : Prop := ∀ p ∈ m.subs, SubAcc m p.2

theorem subsAcc_nil (m : Mesh) (h : m.subs = []) : SubsAcc m := by
  intro p hp; rw [h] at hp; simp at hp

/-- the setter accepts a list of candidates exactly when each passes the three checks, and
then stores each with the mesh's dims, units, tolerance -/
theorem setSubs_ok_iff (m : Mesh) (subs t : List (String × Region)) :
    setSubs m subs = .ok t ↔ (∀ p ∈ subs, SubOk m p.2) ∧ t = subs.map fun p => (p.1, restamp m p.2) := by
  induction subs generalizing t with
  | nil => exact ⟨fun e => ⟨(fun _ hp => nomatch hp), (Except.ok.inj e).symm⟩, fun e => e.2 ▸ rfl⟩
  | cons p rest ih =>
    obtain ⟨k, r⟩ := p
    rw [setSubs, List.forall_mem_cons, List.map_cons]
    show _ ↔ ((m.region.containsReg r = true ∧ ∃ o, Mesh.mkCell? r m.cell = .ok o ∧ aligned m o (1/1000000000000) = true) ∧ _) ∧ _
    cases m.region.containsReg r with
    | false => exact ⟨(fun e => nomatch e), fun e => nomatch e.1.1.1⟩
    | true =>
      cases Mesh.mkCell? r m.cell with
      | error e => exact ⟨(fun e => nomatch e), fun ⟨⟨⟨_, _, e, _⟩, _⟩, _⟩ => nomatch e⟩
      | ok o =>
        dsimp only
        cases hal : aligned m o (1/1000000000000) with
        | false => exact ⟨(fun e => nomatch e), fun ⟨⟨⟨_, _, e, e'⟩, _⟩, _⟩ => by cases e; rw [hal] at e'; cases e'⟩
        | true =>
          cases hr : setSubs m rest with
          | error e => exact ⟨(fun e => nomatch e), fun ⟨⟨_, h⟩, _⟩ => by rw [(ih _).mpr ⟨h, rfl⟩] at hr; cases hr⟩
          | ok t' =>
            obtain ⟨h, rfl⟩ := (ih t').mp hr
            exact ⟨fun e => ⟨⟨⟨rfl, o, rfl, hal⟩, h⟩, (Except.ok.inj e).symm⟩, fun e => e.2 ▸ rfl⟩

/-! ## what acceptance says about the box, and the exact fit as a special case -/

theorem roundHalfEven_nonpos (q : Rat) (h : q ≤ 0) : Mesh.roundHalfEven q ≤ 0 := by
  have := C01.roundHalfEven_nonneg (-q) (neg_nonneg.mpr h)
  rw [C01.roundHalfEven_neg] at this
  omega

theorem subOk_basic (m : Mesh) (hm : m.Inv) (r : Region) (h : SubOk m r) :
    r.pmin.length = m.ndim ∧ r.pmax.length = m.ndim ∧ ∀ a, a < m.ndim → r.lo a < r.hi a := by
  obtain ⟨hc, o, ho, _⟩ := h
  obtain ⟨hl1, hl2⟩ : r.pmin.length = m.ndim ∧ r.pmax.length = m.ndim := C01.containsReg_lengths hc
  refine ⟨hl1, hl2, ?_⟩
  intro a ha
  obtain ⟨_, _, _, _, h5⟩ := (mkCell_iff r m.cell).mp ⟨o, ho⟩
  have h5a := h5 a (by show a < r.pmin.length; rw [hl1]; exact ha)
  by_contra hlt
  have hle : r.edge a ≤ 0 := by unfold Region.edge; linarith [not_lt.mp hlt]
  have hc := hm.cellAt_pos ha
  have hq : r.edge a / m.cell.getD a 0 ≤ 0 := by
    rw [C01.cell_getD m a ha]
    exact div_nonpos_of_nonpos_of_nonneg hle (le_of_lt hc)
  have := roundHalfEven_nonpos _ hq
  omega

theorem subAcc_basic (m : Mesh) (hm : m.Inv) (s : Region) (h : SubAcc m s) :
    s.pmin.length = m.ndim ∧ s.pmax.length = m.ndim ∧ ∀ a, a < m.ndim → s.lo a < s.hi a :=
  subOk_basic m hm (canon s) h

/-! ## the shared model of the setter's tests (`Model/Transform`, lemmas in `C14Setter`)

`aligned` is `T.isAligned`, `SubOk` is `T.subOk … = true`, `SubFits` is `C14.FitsE` with natural instead of integer
counts; through these bridges the completeness of the tests on an exactly fitting box is C14's. -/

theorem aligned_eq (m o : Mesh) (t : Rat) : aligned m o t = T.isAligned m o t := by
  unfold aligned T.isAligned
  congr 3
  funext a
  rw [C01.allcloseAx_eq_isclose]

theorem subOk_iff (m : Mesh) (r : Region) : SubOk m r ↔ T.subOk m r = true := by
  unfold SubOk T.subOk
  rw [Bool.and_eq_true]
  refine and_congr_right fun _ => ?_
  cases Mesh.mkCell? r m.cell with
  | error e => exact ⟨fun ⟨_, h, _⟩ => (nomatch h), fun h => (nomatch h)⟩
  | ok o =>
    show (∃ o', Except.ok o = Except.ok o' ∧ _) ↔ T.isAligned m o = true
    exact ⟨fun ⟨_, h, ha⟩ => by cases h; rwa [← aligned_eq], fun h => ⟨o, rfl, by rwa [aligned_eq]⟩⟩

theorem fitsE_of_subFits (m : Mesh) (s : Region) (h : SubFits m s) : C14.FitsE m s := by
  obtain ⟨h1, h2, hax⟩ := h
  refine ⟨h1, h2, fun a ha => ?_⟩
  obtain ⟨z, w, hw, hzw, hlo, hhi⟩ := hax a ha
  exact ⟨z, w, Int.natCast_nonneg _, by exact_mod_cast hw, by exact_mod_cast hzw,
    by rw [hlo]; push_cast; ring, by rw [hhi]; push_cast; ring⟩

theorem subFits_of_fitsE (m : Mesh) (s : Region) (h : C14.FitsE m s) : SubFits m s := by
  obtain ⟨h1, h2, hax⟩ := h
  refine ⟨h1, h2, fun a ha => ?_⟩
  obtain ⟨z, w, hz, hw, hzw, hlo, hhi⟩ := hax a ha
  refine ⟨z.toNat, w.toNat, by omega, by omega, ?_, ?_⟩
  · rw [← Int.cast_natCast (R := Rat), Int.toNat_of_nonneg hz, ← hlo]; ring
  · rw [← Int.cast_natCast (R := Rat), Int.toNat_of_nonneg hw.le, ← hhi]; ring

theorem subAcc_of_fits (m : Mesh) (hm : m.Inv) (s : Region) (hs : SubFits m s) : SubAcc m s :=
  (subOk_iff m _).mpr (C14.subOk_of_fits m hm _ (fitsE_of_subFits m (canon s) hs))

theorem subsAcc_of_fit (m : Mesh) (hm : m.Inv) (h : SubsFit m) : SubsAcc m :=
  fun p hp => subAcc_of_fits m hm p.2 (h p hp)

/-! ## axis removal keeps accepted subregions accepted -/

theorem projReg_mk (m : Mesh) (ax : Nat) (hax : ax < m.ndim) (h2 : 2 ≤ m.ndim) (s : Region)
    (hs : s.pmin.length = m.ndim ∧ s.pmax.length = m.ndim ∧ ∀ a, a < m.ndim → s.lo a < s.hi a) :
    Region.mk? (removeAt s.pmin ax) (removeAt s.pmax ax) none none = .ok (projReg ax s) := by
  have hl1 : (removeAt s.pmin ax).length = m.ndim - 1 := by
    rw [length_removeAt _ _ (by rw [hs.1]; exact hax), hs.1]
  have hl2 : (removeAt s.pmax ax).length = m.ndim - 1 := by
    rw [length_removeAt _ _ (by rw [hs.2.1]; exact hax), hs.2.1]
  refine T.mk?_ok_of_lt _ _ none none _ _ _ (by rw [hl1, hl2]) (by rw [hl1]; omega) rfl rfl fun a ha => ?_
  rw [hl1] at ha
  rw [getD_removeAt_skip, getD_removeAt_skip]
  exact hs.2.2 _ (skip_lt ax a _ ha)

theorem projSubs_eq (m : Mesh) (ax : Nat) (hax : ax < m.ndim) (h2 : 2 ≤ m.ndim) (s : Rat)
    (subs : List (String × Region))
    (hb : ∀ p ∈ subs, p.2.pmin.length = m.ndim ∧ p.2.pmax.length = m.ndim ∧ ∀ a, a < m.ndim → p.2.lo a < p.2.hi a) :
    projSubs ax s subs = .ok ((keepSubs ax s subs).map fun p => (p.1, projReg ax p.2)) := by
  induction subs with
  | nil => rfl
  | cons p rest ih =>
    obtain ⟨k, r⟩ := p
    have ih' := ih (fun q hq => hb q (by simp [hq]))
    have hr := hb (k, r) (by simp)
    unfold projSubs
    by_cases hc : (decide (r.hi ax < s) || decide (s < r.lo ax)) = true
    · simp only [hc, if_true]
      rw [ih']
      have hf : keepSubs ax s ((k, r) :: rest) = keepSubs ax s rest := by
        unfold keepSubs; rw [List.filter_cons]; simp only [hc, Bool.not_true, Bool.false_eq_true, if_false]
      rw [hf]
    · have hc' : (decide (r.hi ax < s) || decide (s < r.lo ax)) = false := by simpa using hc
      simp only [hc', Bool.false_eq_true, if_false, projReg_mk m ax hax h2 r hr, ih']
      have hf : keepSubs ax s ((k, r) :: rest) = (k, r) :: keepSubs ax s rest := by
        unfold keepSubs; rw [List.filter_cons]; simp only [hc', Bool.not_false, if_true]
      rw [hf]; rfl

/-- THE inheritance step: a stored subregion that passes the setter's checks of the mesh passes,
with one axis removed, the setter's checks of the reduced mesh.  Every check is per axis except
three tolerances taken from a minimum over the axes (the region's `atol`, the box's own `atol`,
0.1 % of the smallest cell) - and a minimum over fewer axes is not smaller. -/
theorem subOk_proj {m mc : Mesh} (hm : m.Inv) {ax : Nat} (h : Reduced ax m mc) (s : Region) (hs : SubAcc m s) :
    SubOk mc (projReg ax s) := by
  obtain ⟨hl1, hl2, hpos⟩ := subAcc_basic m hm s hs
  have hP : IsProj ax m.region mc.region :=
    ⟨h.lt, by have := h.ndim; have := h.two; show mc.ndim + 1 = m.ndim; omega, h.two, h.lo, h.hi, h.tol, fun _ ha => hm.lo_lt_hi ha⟩
  have haxs : ax < s.pmin.length := hl1 ▸ h.lt
  have hpn : (projReg ax s).ndim = mc.ndim := (length_removeAt _ _ haxs).trans (by rw [hl1, h.ndim])
  have hQ : IsProj ax (canon s) (projReg ax s) :=
    ⟨haxs, by have := h.ndim; have := h.two; show (projReg ax s).ndim + 1 = s.pmin.length; omega,
      by show 2 ≤ s.pmin.length; rw [hl1]; exact h.two,
      fun a => getD_removeAt_skip _ _ _ _, fun a => getD_removeAt_skip _ _ _ _, rfl, fun a ha => hpos a (hl1 ▸ ha)⟩
  obtain ⟨hc, o, ho, hal⟩ := hs
  replace hc := (C01.containsReg_eq_true_iff _ _).mp hc
  obtain ⟨o', ho', hon⟩ := mkCell_proj ax (canon s) (projReg ax s) hQ m.cell o ho
  have hor' : o'.region = projReg ax s := by rw [mkCell_ok _ _ _ ho']
  have hor : o.region = canon s := by rw [mkCell_ok _ _ _ ho]
  refine ⟨(C01.containsReg_eq_true_iff _ _).mpr ⟨containsPt_proj ax _ _ hP _ hc.1, containsPt_proj ax _ _ hP _ hc.2⟩,
    o', h.cell ▸ ho', ?_⟩
  apply aligned_proj ax m mc o o' _ hP.ndim h.cellAt ?_ h.lo h.hi ?_ ?_ hal
  · intro a ha
    unfold Mesh.cellAt
    rw [hon a (hpn ▸ ha), hor', hor, hQ.edge]
  · intro a; rw [hor', hor]; exact hQ.lo a
  · intro a; rw [hor', hor]; exact hQ.hi a

/-! ## `Mesh.sel(d)` in closed form -/

/-- the coordinate a bare-name selection keeps along axis `a`: the centre of cell ⌊n/2⌋ -/
def selCoord (m : Mesh) (a : Nat) : Rat := m.region.lo a + (((m.nAt a / 2 : Nat) : Rat) + 1/2) * m.cellAt a

/-- the mesh `Mesh.sel(d)` returns, `ax` the axis named `d`: that axis removed from corners, names,
units and counts, same tolerance, no boundary conditions, and the subregions whose closed extent
along the axis contains the selected coordinate, each with the axis removed -/
def selF (m : Mesh) (ax : Nat) : Mesh :=
  { region := cutRegion m.region ax m.region.pmin m.region.pmax, n := removeAt m.n ax, bc := "",
    subs := (keepSubs ax (selCoord m ax) m.subs).map fun p => (p.1, cutRegion m.region ax p.2.pmin p.2.pmax) }

theorem reduced_selF (m : Mesh) (ax : Nat) (hax : ax < m.ndim) (h2 : 2 ≤ m.ndim) : Reduced ax m (selF m ax) :=
  ⟨hax, h2, rfl, rfl, rfl, rfl, rfl, rfl, rfl⟩

theorem forall_keepSubs_map {β} (ax : Nat) (s : Rat) (subs : List (String × Region)) (g : String × Region → β)
    (Q : β → Prop) (h : ∀ p ∈ subs, Q (g p)) : ∀ q ∈ (keepSubs ax s subs).map g, Q q := fun q hq => by
  obtain ⟨p, hp, rfl⟩ := List.mem_map.mp hq
  exact h p (List.mem_of_mem_filter hp)

theorem selF_acc (m : Mesh) (hm : m.Inv) (hacc : SubsAcc m) (h2 : 2 ≤ m.ndim) (ax : Nat) (hax : ax < m.ndim) :
    SubsAcc (selF m ax) :=
  forall_keepSubs_map _ _ _ _ _ fun p hp => subOk_proj hm (reduced_selF m ax hax h2) p.2 (hacc p hp)

theorem selF_fit (m : Mesh) (hfit : SubsFit m) (h2 : 2 ≤ m.ndim) (ax : Nat) (hax : ax < m.ndim) :
    SubsFit (selF m ax) :=
  forall_keepSubs_map _ _ _ _ _ fun p hp => projReg_fits (reduced_selF m ax hax h2) p.2 (hfit p hp)

/-- **`Mesh.sel(d)` in closed form**: on a well-formed mesh (two or more dimensions) whose subregions passed the
setter - exactly fitting or only within the tolerances - it succeeds, for every direction name, and returns
exactly `selF m ax`: each of its six steps is computed (`selCentre_eq`, `projSubs_eq`, `cut_region_ok`,
`cut_mesh_ok`, `setSubs_ok_iff` with `subOk_proj`) -/
theorem sel_eq_selF (m : Mesh) (hm : m.Inv) (hacc : SubsAcc m) (h2 : 2 ≤ m.ndim) (d : String) (ax : Nat)
    (hax : m.region.dim2index d = .ok ax) : sel m d = .ok (selF m ax) := by
  have haxlt := hm.dim2index_lt hax
  rw [sel_of m d ax _ _ _ _ _ hax (selCentre_eq m hm ax haxlt)
    (projSubs_eq m ax haxlt h2 _ m.subs fun p hp => subAcc_basic m hm p.2 (hacc p hp))
    (cut_region_ok m hm ax haxlt h2) (cut_mesh_ok m hm ax haxlt)
    ((setSubs_ok_iff _ _ _).mpr ⟨forall_keepSubs_map _ _ _ _ _ fun p hp =>
      subOk_proj hm (reduced_selF m ax haxlt h2) p.2 (hacc p hp), rfl⟩), List.map_map]
  rfl

theorem sel_okS (m : Mesh) (hm : m.Inv) (hfit : SubsFit m) (h2 : 2 ≤ m.ndim) (d : String) (ax : Nat)
    (hax : m.region.dim2index d = .ok ax) : ∃ m', sel m d = .ok m' ∧ SubsFit m' :=
  ⟨_, sel_eq_selF m hm (subsAcc_of_fit m hm hfit) h2 d ax hax, selF_fit m hfit h2 ax (hm.dim2index_lt hax)⟩

end DFV.C06
