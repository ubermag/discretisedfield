import DFV.Model.C18
import DFV.Lemmas.Tab
import DFV.Lemmas.RatFloor
import Mathlib.Tactic.Ring
import Mathlib.Tactic.Linarith
/-! Interval search, multilinear interpolation (also of edge-padded samples) and the rounded cube
root for C18. -/
namespace DFV.C18
open DFV

/-! ## interval search -/

theorem findIdx_le (g : Nat → Rat) (x : Rat) (m : Nat) : findIdx g x m ≤ m := by
  induction m with
  | zero => simp [findIdx]
  | succ k ih =>
    unfold findIdx
    split
    · exact Nat.le_refl _
    · omega

theorem findIdx_spec (g : Nat → Rat) (x : Rat) (m : Nat) : findIdx g x m = 0 ∨ g (findIdx g x m) ≤ x := by
  induction m with
  | zero => left; simp [findIdx]
  | succ k ih =>
    unfold findIdx
    split
    · right; assumption
    · exact ih

theorem findIdx_upper (g : Nat → Rat) (x : Rat) (m j : Nat) (h1 : findIdx g x m < j) (h2 : j ≤ m) : x < g j := by
  induction m with
  | zero => omega
  | succ k ih =>
    unfold findIdx at h1
    split at h1
    · omega
    · rename_i hn
      by_cases hj : j = k + 1
      · subst hj; exact lt_of_not_ge hn
      · exact ih h1 (by omega)

theorem findIdx_last_or_lt_next (g : Nat → Rat) (x : Rat) (m : Nat) : findIdx g x m = m ∨ x < g (findIdx g x m + 1) := by
  by_cases e : findIdx g x m = m
  · exact Or.inl e
  · have := findIdx_le g x m
    exact Or.inr (findIdx_upper g x m _ (Nat.lt_succ_self _) (by omega))

theorem findIdx_lt_next (g : Nat → Rat) (x : Rat) (m : Nat) (h : x < g (m + 1)) : x < g (findIdx g x m + 1) := by
  rcases findIdx_last_or_lt_next g x m with e | h'
  · rw [e]; exact h
  · exact h'

theorem findIdx_ge (g : Nat → Rat) (x : Rat) (m j : Nat) (hj : j ≤ m) (h : g j ≤ x) : j ≤ findIdx g x m := by
  by_contra hc
  have := findIdx_upper g x m j (by omega) hj
  linarith

/-- characterisation: the found index is the unique `i ≤ m` with `g i ≤ x` (or `i = 0`) and
all later nodes up to `m` above `x` -/
theorem findIdx_eq (g : Nat → Rat) (x : Rat) (m i : Nat) (hi : i ≤ m) (hl : g i ≤ x ∨ i = 0)
    (hu : ∀ j, i < j → j ≤ m → x < g j) : findIdx g x m = i := by
  have h1 : findIdx g x m ≤ m := findIdx_le g x m
  rcases Nat.lt_trichotomy (findIdx g x m) i with h | h | h
  · rcases hl with hl | hl
    · have := findIdx_upper g x m i h hi
      linarith
    · omega
  · exact h
  · have hx := hu _ h h1
    rcases findIdx_spec g x m with h0 | h0
    · omega
    · linarith

theorem findIdx_interior (g : Nat → Rat) (x : Rat) (m : Nat) (hm : 1 ≤ m) (hlo : g 1 ≤ x) (hhi : x < g m) :
    1 ≤ findIdx g x m ∧ findIdx g x m + 1 ≤ m := by
  refine ⟨findIdx_ge g x m 1 hm hlo, ?_⟩
  have hle := findIdx_le g x m
  by_contra hc
  have he : findIdx g x m = m := by omega
  rcases findIdx_spec g x m with h0 | h0
  · omega
  · rw [he] at h0; linarith

/-- the bounds test of the interpolator: between the first and the last node, ends included -/
theorem inBounds_iff (g : Nat → Rat) (m : Nat) (x : Rat) : inBounds g m x = true ↔ g 0 ≤ x ∧ x ≤ g (m + 1) := by
  unfold inBounds; simp

theorem inBounds_false_iff (g : Nat → Rat) (m : Nat) (x : Rat) : inBounds g m x = false ↔ x < g 0 ∨ g (m + 1) < x := by
  rw [← Bool.not_eq_true, inBounds_iff, not_and_or, not_le, not_le]

theorem findIdx_bracket (g : Nat → Rat) (x : Rat) (m : Nat) (hb : inBounds g m x = true) :
    g (findIdx g x m) ≤ x ∧ x ≤ g (findIdx g x m + 1) := by
  obtain ⟨h0, h1⟩ := (inBounds_iff g m x).mp hb
  constructor
  · rcases findIdx_spec g x m with h | h
    · rw [h]; exact h0
    · exact h
  · rcases findIdx_last_or_lt_next g x m with e | h
    · rw [e]; exact h1
    · exact h.le

theorem mono_of_step (g : Nat → Rat) (m : Nat) (hs : ∀ j, j ≤ m → g j < g (j + 1)) (i j : Nat)
    (hij : i < j) (hj : j ≤ m + 1) : g i < g j := by
  induction j with
  | zero => omega
  | succ k ih =>
    by_cases hk : i = k
    · subst hk; exact hs i (by omega)
    · exact lt_trans (ih (by omega) (by omega)) (hs k (by omega))

theorem findIdx_at_node (g : Nat → Rat) (m : Nat) (hs : ∀ j, j ≤ m → g j < g (j + 1)) (i : Nat) (hi : i ≤ m) :
    findIdx g (g i) m = i := by
  apply findIdx_eq _ _ _ _ hi (Or.inl (le_refl _))
  intro k hk hkm
  exact mono_of_step g m hs i k hk (by omega)

theorem inBounds_node (g : Nat → Rat) (m : Nat) (hs : ∀ j, j ≤ m → g j < g (j + 1)) (i : Nat) (hi : i ≤ m) :
    inBounds g m (g i) = true := by
  rw [inBounds_iff]
  constructor
  · by_cases e : i = 0
    · subst e; exact le_refl _
    · exact (mono_of_step g m hs 0 i (by omega) (by omega)).le
  · exact (mono_of_step g m hs i (m + 1) (by omega) (by omega)).le

theorem frac_node (g : Nat → Rat) (i : Nat) : frac g i (g i) = 0 := by unfold frac; simp

theorem frac_range (g : Nat → Rat) (m : Nat) (hs : ∀ j, j ≤ m → g j < g (j + 1)) (x : Rat) (hb : inBounds g m x = true) :
    0 ≤ frac g (findIdx g x m) x ∧ frac g (findIdx g x m) x ≤ 1 := by
  obtain ⟨b1, b2⟩ := findIdx_bracket g x m hb
  have hpos := hs _ (findIdx_le g x m)
  unfold frac
  constructor
  · exact div_nonneg (by linarith) (by linarith)
  · rw [div_le_one (by linarith)]; linarith

theorem locate_some (g0 g1 g2 : Nat → Rat) (m0 m1 m2 : Nat) (p : V3)
    (h0 : inBounds g0 m0 p.x = true) (h1 : inBounds g1 m1 p.y = true) (h2 : inBounds g2 m2 p.z = true) :
    locate g0 g1 g2 m0 m1 m2 p =
      some ⟨findIdx g0 p.x m0, findIdx g1 p.y m1, findIdx g2 p.z m2,
            frac g0 (findIdx g0 p.x m0) p.x, frac g1 (findIdx g1 p.y m1) p.y, frac g2 (findIdx g2 p.z m2) p.z⟩ := by
  unfold locate
  simp [h0, h1, h2]

theorem locate_none (g0 g1 g2 : Nat → Rat) (m0 m1 m2 : Nat) (p : V3)
    (h : inBounds g0 m0 p.x = false ∨ inBounds g1 m1 p.y = false ∨ inBounds g2 m2 p.z = false) :
    locate g0 g1 g2 m0 m1 m2 p = none := by
  unfold locate
  rcases h with h | h | h <;> simp [h]

/-! ## one linear interpolation step -/

def lin (t a b : Rat) : Rat := (1 - t) * a + t * b

theorem lin_same (t a : Rat) : lin t a a = a := by unfold lin; ring
theorem lin_zero (a b : Rat) : lin 0 a b = a := by unfold lin; ring

theorem lin_frac (a b x : Rat) (h : b - a ≠ 0) : lin ((x - a) / (b - a)) a b = x := by
  have e : ∀ t, lin t a b = a + t * (b - a) := fun t => by unfold lin; ring
  rw [e, div_mul_cancel₀ _ h]; ring

theorem lin_range (t a b lo hi : Rat) (h0 : 0 ≤ t) (h1 : t ≤ 1) (ha : lo ≤ a ∧ a ≤ hi) (hb : lo ≤ b ∧ b ≤ hi) :
    lo ≤ lin t a b ∧ lin t a b ≤ hi := by
  have h1' : 0 ≤ 1 - t := sub_nonneg.mpr h1
  have a1 := mul_le_mul_of_nonneg_left ha.1 h1'
  have a2 := mul_le_mul_of_nonneg_left ha.2 h1'
  have b1 := mul_le_mul_of_nonneg_left hb.1 h0
  have b2 := mul_le_mul_of_nonneg_left hb.2 h0
  unfold lin
  constructor <;> linarith

/-! ## the eight-corner sum -/

theorem sum8_lin0 (t0 t1 t2 : Rat) (W : Nat → Nat → Nat → Rat) :
    sum8 t0 t1 t2 W = lin t0 (lin t1 (lin t2 (W 0 0 0) (W 0 0 1)) (lin t2 (W 0 1 0) (W 0 1 1)))
      (lin t1 (lin t2 (W 1 0 0) (W 1 0 1)) (lin t2 (W 1 1 0) (W 1 1 1))) := by
  unfold sum8 wgt lin; simp; ring

/-- weighted congruence of the eight-corner sum: corners with zero weight do not matter -/
theorem sum8_congr_w (t0 t1 t2 : Rat) (W W' : Nat → Nat → Nat → Rat)
    (h : ∀ e0 e1 e2, e0 ≤ 1 → e1 ≤ 1 → e2 ≤ 1 → wgt t0 e0 * wgt t1 e1 * wgt t2 e2 = 0 ∨ W e0 e1 e2 = W' e0 e1 e2) :
    sum8 t0 t1 t2 W = sum8 t0 t1 t2 W' := by
  have key : ∀ e0 e1 e2, e0 ≤ 1 → e1 ≤ 1 → e2 ≤ 1 →
      wgt t0 e0 * wgt t1 e1 * wgt t2 e2 * W e0 e1 e2 = wgt t0 e0 * wgt t1 e1 * wgt t2 e2 * W' e0 e1 e2 := by
    intro e0 e1 e2 h0 h1 h2
    rcases h e0 e1 e2 h0 h1 h2 with z | e
    · rw [z]; simp
    · rw [e]
  unfold sum8
  rw [key 0 0 0 (by decide) (by decide) (by decide), key 0 0 1 (by decide) (by decide) (by decide),
    key 0 1 0 (by decide) (by decide) (by decide), key 0 1 1 (by decide) (by decide) (by decide),
    key 1 0 0 (by decide) (by decide) (by decide), key 1 0 1 (by decide) (by decide) (by decide),
    key 1 1 0 (by decide) (by decide) (by decide), key 1 1 1 (by decide) (by decide) (by decide)]

theorem sum8_congr (t0 t1 t2 : Rat) (V W : Nat → Nat → Nat → Rat)
    (h : ∀ e0 e1 e2, e0 ≤ 1 → e1 ≤ 1 → e2 ≤ 1 → V e0 e1 e2 = W e0 e1 e2) : sum8 t0 t1 t2 V = sum8 t0 t1 t2 W :=
  sum8_congr_w _ _ _ _ _ fun e0 e1 e2 h0 h1 h2 => Or.inr (h e0 e1 e2 h0 h1 h2)

/-- samples of an affine function of the corner coordinates `G0 e0, G1 e1, G2 e2`: the sum is that
function of the interpolated coordinates -/
theorem sum8_affine_lin (α β0 β1 β2 t0 t1 t2 : Rat) (G0 G1 G2 : Nat → Rat) (W : Nat → Nat → Nat → Rat)
    (hW : ∀ e0 e1 e2, e0 ≤ 1 → e1 ≤ 1 → e2 ≤ 1 → W e0 e1 e2 = α + β0 * G0 e0 + β1 * G1 e1 + β2 * G2 e2) :
    sum8 t0 t1 t2 W = α + β0 * lin t0 (G0 0) (G0 1) + β1 * lin t1 (G1 0) (G1 1) + β2 * lin t2 (G2 0) (G2 1) := by
  rw [sum8_congr _ _ _ _ _ hW]
  unfold sum8 wgt lin
  simp only [if_true, if_false, Nat.one_ne_zero]
  ring

theorem sum8_affine (α β0 β1 β2 : Rat) (G0 G1 G2 : Nat → Rat) (x0 x1 x2 : Rat) (W : Nat → Nat → Nat → Rat)
    (hd0 : G0 1 - G0 0 ≠ 0) (hd1 : G1 1 - G1 0 ≠ 0) (hd2 : G2 1 - G2 0 ≠ 0)
    (hW : ∀ e0 e1 e2, e0 ≤ 1 → e1 ≤ 1 → e2 ≤ 1 → W e0 e1 e2 = α + β0 * G0 e0 + β1 * G1 e1 + β2 * G2 e2) :
    sum8 ((x0 - G0 0) / (G0 1 - G0 0)) ((x1 - G1 0) / (G1 1 - G1 0)) ((x2 - G2 0) / (G2 1 - G2 0)) W
      = α + β0 * x0 + β1 * x1 + β2 * x2 := by
  rw [sum8_affine_lin α β0 β1 β2 _ _ _ G0 G1 G2 W hW, lin_frac _ _ _ hd0, lin_frac _ _ _ hd1, lin_frac _ _ _ hd2]

/-- the eight weights sum to one -/
theorem sum8_const (t0 t1 t2 c : Rat) : sum8 t0 t1 t2 (fun _ _ _ => c) = c := by
  rw [sum8_lin0]; simp only [lin_same]

theorem sum8_linear (t0 t1 t2 a b : Rat) (V W : Nat → Nat → Nat → Rat) :
    sum8 t0 t1 t2 (fun i j k => a * V i j k + b * W i j k) = a * sum8 t0 t1 t2 V + b * sum8 t0 t1 t2 W := by
  unfold sum8
  ring

theorem sum8_zero (W : Nat → Nat → Nat → Rat) : sum8 0 0 0 W = W 0 0 0 := by
  rw [sum8_lin0]; simp only [lin_zero]

theorem sum8_range (t0 t1 t2 lo hi : Rat) (W : Nat → Nat → Nat → Rat)
    (h0 : 0 ≤ t0 ∧ t0 ≤ 1) (h1 : 0 ≤ t1 ∧ t1 ≤ 1) (h2 : 0 ≤ t2 ∧ t2 ≤ 1)
    (hW : ∀ e0 e1 e2, e0 ≤ 1 → e1 ≤ 1 → e2 ≤ 1 → lo ≤ W e0 e1 e2 ∧ W e0 e1 e2 ≤ hi) :
    lo ≤ sum8 t0 t1 t2 W ∧ sum8 t0 t1 t2 W ≤ hi := by
  rw [sum8_lin0]
  apply lin_range _ _ _ _ _ h0.1 h0.2 <;> apply lin_range _ _ _ _ _ h1.1 h1.2 <;> apply lin_range _ _ _ _ _ h2.1 h2.2 <;>
    exact hW _ _ _ (by decide) (by decide) (by decide)

theorem interpAt_linear (a b : Rat) (V W : Nat → Nat → Nat → Rat) (l : Option Loc) :
    interpAt (fun i j k => a * V i j k + b * W i j k) l = a * interpAt V l + b * interpAt W l := by
  cases l with
  | none => simp [interpAt]
  | some l => simp only [interpAt]; exact sum8_linear _ _ _ a b _ _

/-- three-term version used for the vector rotation: `interpAt_linear` twice -/
theorem interpAt_linear3 (a b c : Rat) (U V W : Nat → Nat → Nat → Rat) (l : Option Loc) :
    interpAt (fun i j k => a * U i j k + b * V i j k + c * W i j k) l
      = a * interpAt U l + b * interpAt V l + c * interpAt W l := by
  have h := interpAt_linear 1 c (fun i j k => a * U i j k + b * V i j k) W l
  simp only [one_mul] at h
  rw [h, interpAt_linear]

theorem interpAt_congr (V W : Nat → Nat → Nat → Rat) (l : Loc)
    (h : ∀ e0 e1 e2, e0 ≤ 1 → e1 ≤ 1 → e2 ≤ 1 →
      V (l.i0 + e0) (l.i1 + e1) (l.i2 + e2) = W (l.i0 + e0) (l.i1 + e1) (l.i2 + e2)) :
    interpAt V (some l) = interpAt W (some l) := by
  simp only [interpAt]
  exact sum8_congr _ _ _ _ _ h

/-- `trilin` inside the node grid: the form `trilinear_affine`, `trilinear_const`, `trilinear_node` and `trilin_eq_lin1` start from -/
theorem trilin_inBounds (g0 g1 g2 : Nat → Rat) (m0 m1 m2 : Nat) (V : Nat → Nat → Nat → Rat) (p : V3)
    (h0 : inBounds g0 m0 p.x = true) (h1 : inBounds g1 m1 p.y = true) (h2 : inBounds g2 m2 p.z = true) :
    trilin g0 g1 g2 m0 m1 m2 V p
      = sum8 (frac g0 (findIdx g0 p.x m0) p.x) (frac g1 (findIdx g1 p.y m1) p.y) (frac g2 (findIdx g2 p.z m2) p.z)
          fun e0 e1 e2 => V (findIdx g0 p.x m0 + e0) (findIdx g1 p.y m1 + e1) (findIdx g2 p.z m2 + e2) := by
  unfold trilin
  rw [locate_some _ _ _ _ _ _ p h0 h1 h2]
  rfl

/-! ## edge-padded samples: the interpolant is constant across the padding -/

/-- 1-d interpolation of samples `V` on the nodes `g 0 … g (m+1)` -/
def lin1 (g : Nat → Rat) (m : Nat) (V : Nat → Rat) (x : Rat) : Rat :=
  lin (frac g (findIdx g x m) x) (V (findIdx g x m)) (V (findIdx g x m + 1))

/-- `x` moved into `[g 1, g m]` -/
def clampG (g : Nat → Rat) (m : Nat) (x : Rat) : Rat := if x < g 1 then g 1 else if g m < x then g m else x

/-- with edge padding (`V 0 = V 1`, `V m = V (m+1)`) the 1-d interpolant is constant outside
`[g 1, g m]` -/
theorem lin1_clamp (g : Nat → Rat) (m : Nat) (hm : 1 ≤ m) (hs : ∀ j, j ≤ m → g j < g (j + 1)) (V : Nat → Rat)
    (h0 : V 0 = V 1) (h1 : V m = V (m + 1)) (x : Rat) :
    lin1 g m V (clampG g m x) = lin1 g m V x := by
  unfold clampG
  by_cases c1 : x < g 1
  · rw [if_pos c1]
    have e : findIdx g x m = 0 := by
      apply findIdx_eq _ _ _ _ (by omega) (Or.inr rfl)
      intro j hj hjm
      by_cases e1 : j = 1
      · subst e1; exact c1
      · exact lt_trans c1 (mono_of_step g m hs 1 j (by omega) (by omega))
    unfold lin1
    rw [e, findIdx_at_node g m hs 1 hm, frac_node, lin_zero, h0, lin_same]
  · rw [if_neg c1]
    by_cases c2 : g m < x
    · rw [if_pos c2]
      have e : findIdx g x m = m := by
        apply findIdx_eq _ _ _ _ (le_refl _) (Or.inl c2.le)
        intro j hj hjm; omega
      unfold lin1
      rw [e, findIdx_at_node g m hs m (le_refl _), frac_node, lin_zero, ← h1, lin_same]
    · rw [if_neg c2]

theorem clampG_inBounds (g : Nat → Rat) (m : Nat) (hm : 1 ≤ m) (hs : ∀ j, j ≤ m → g j < g (j + 1)) (x : Rat) :
    inBounds g m (clampG g m x) = true := by
  have a0 : g 0 < g 1 := hs 0 (by omega)
  have a1 : g m < g (m + 1) := hs m (le_refl _)
  have a2 : g 1 ≤ g m := by
    by_cases e : m = 1
    · subst e; exact le_refl _
    · exact (mono_of_step g m hs 1 m (by omega) (by omega)).le
  rw [inBounds_iff]
  unfold clampG
  split
  · constructor <;> linarith
  · split
    · constructor <;> linarith
    · constructor <;> linarith

/-- edge padding of a sample array on the three axes -/
structure Padded3 (m0 m1 m2 : Nat) (W : Nat → Nat → Nat → Rat) : Prop where
  a0 : ∀ j k, W 0 j k = W 1 j k
  b0 : ∀ j k, W m0 j k = W (m0 + 1) j k
  a1 : ∀ i k, W i 0 k = W i 1 k
  b1 : ∀ i k, W i m1 k = W i (m1 + 1) k
  a2 : ∀ i j, W i j 0 = W i j 1
  b2 : ∀ i j, W i j m2 = W i j (m2 + 1)

theorem trilin_eq_lin1 (g0 g1 g2 : Nat → Rat) (m0 m1 m2 : Nat) (W : Nat → Nat → Nat → Rat) (p : V3)
    (b0 : inBounds g0 m0 p.x = true) (b1 : inBounds g1 m1 p.y = true) (b2 : inBounds g2 m2 p.z = true) :
    trilin g0 g1 g2 m0 m1 m2 W p
      = lin1 g0 m0 (fun i => lin1 g1 m1 (fun j => lin1 g2 m2 (fun k => W i j k) p.z) p.y) p.x := by
  rw [trilin_inBounds _ _ _ _ _ _ W p b0 b1 b2, sum8_lin0]
  rfl

/-- **edge padding in three dimensions**: inside the node grid the interpolant of edge-padded
samples is the interpolant at the position clamped to the box of the first / last interior nodes
(level by level, `lin1_clamp`) -/
theorem trilin_clamp (g0 g1 g2 : Nat → Rat) (m0 m1 m2 : Nat) (h0 : 1 ≤ m0) (h1 : 1 ≤ m1) (h2 : 1 ≤ m2)
    (hs0 : ∀ j, j ≤ m0 → g0 j < g0 (j + 1)) (hs1 : ∀ j, j ≤ m1 → g1 j < g1 (j + 1)) (hs2 : ∀ j, j ≤ m2 → g2 j < g2 (j + 1))
    (W : Nat → Nat → Nat → Rat) (hW : Padded3 m0 m1 m2 W) (p : V3)
    (b0 : inBounds g0 m0 p.x = true) (b1 : inBounds g1 m1 p.y = true) (b2 : inBounds g2 m2 p.z = true) :
    trilin g0 g1 g2 m0 m1 m2 W ⟨clampG g0 m0 p.x, clampG g1 m1 p.y, clampG g2 m2 p.z⟩ = trilin g0 g1 g2 m0 m1 m2 W p := by
  rw [trilin_eq_lin1 _ _ _ _ _ _ W ⟨clampG g0 m0 p.x, clampG g1 m1 p.y, clampG g2 m2 p.z⟩ (clampG_inBounds g0 m0 h0 hs0 _)
    (clampG_inBounds g1 m1 h1 hs1 _) (clampG_inBounds g2 m2 h2 hs2 _), trilin_eq_lin1 _ _ _ _ _ _ W p b0 b1 b2]
  have e2 : ∀ i j, lin1 g2 m2 (fun k => W i j k) (clampG g2 m2 p.z) = lin1 g2 m2 (fun k => W i j k) p.z :=
    fun i j => lin1_clamp g2 m2 h2 hs2 _ (hW.a2 i j) (hW.b2 i j) p.z
  have e1 : ∀ i, lin1 g1 m1 (fun j => lin1 g2 m2 (fun k => W i j k) p.z) (clampG g1 m1 p.y)
      = lin1 g1 m1 (fun j => lin1 g2 m2 (fun k => W i j k) p.z) p.y :=
    fun i => lin1_clamp g1 m1 h1 hs1 _ (by simp only [hW.a1]) (by simp only [hW.b1]) p.y
  simp only [e2, e1]
  exact lin1_clamp g0 m0 h0 hs0 _ (by simp only [hW.a0]) (by simp only [hW.b0]) p.x

/-! ## the integer search behind the automatic cell counts -/

theorem cube_mul (a b : Rat) : cube (a * b) = cube a * cube b := by unfold cube; ring

theorem cube_mono (a b : Rat) (ha : 0 ≤ a) (hab : a ≤ b) : cube a ≤ cube b := by
  unfold cube
  have hb : 0 ≤ b := le_trans ha hab
  have h1 : a * a ≤ b * b := mul_le_mul hab hab ha hb
  exact mul_le_mul h1 hab ha (mul_nonneg hb hb)

theorem cube_strict (a b : Rat) (ha : 0 ≤ a) (hab : a < b) : cube a < cube b := by
  unfold cube
  have hb : 0 < b := lt_of_le_of_lt ha hab
  have h1 : a * a ≤ b * b := mul_le_mul hab.le hab.le ha hb.le
  have h2 : a * a * a ≤ b * b * a := mul_le_mul_of_nonneg_right h1 ha
  have h3 : b * b * a < b * b * b := mul_lt_mul_of_pos_left hab (mul_pos hb hb)
  linarith

theorem le_cube (a : Rat) (h : 1 ≤ a) : a ≤ cube a := by
  have := cube_mono 1 a (by norm_num) h
  have h2 : 1 * a ≤ a * a := mul_le_mul_of_nonneg_right h (by linarith)
  have h3 : (a * a) * 1 ≤ a * a * a := mul_le_mul_of_nonneg_left h (mul_self_nonneg a)
  unfold cube; linarith

/-- half-integers: `a + ½ ≤ b − ½` for naturals `a < b`, and so for their cubes -/
theorem cube_half_le (a b : Nat) (h : a < b) : cube ((a : Rat) + 1/2) ≤ cube ((b : Rat) - 1/2) := by
  have hc : ((a : Nat) : Rat) + 1 ≤ (b : Rat) := by exact_mod_cast h
  have : (0 : Rat) ≤ (a : Rat) := Nat.cast_nonneg _
  exact cube_mono _ _ (by linarith) (by linarith)

theorem cast_succ_sub_half (n : Nat) : ((n + 1 : Nat) : Rat) - 1/2 = (n : Rat) + 1/2 := by
  push_cast; ring

/-- `roundCbrt q = k` means `(k − ½)³ ≤ q < (k + ½)³` (the lower bound only for `k ≥ 1`) -/
theorem roundCbrt_bounds (q : Rat) (hq : 0 ≤ q) :
    (1 ≤ roundCbrt q → cube ((roundCbrt q : Rat) - 1/2) ≤ q) ∧ q < cube ((roundCbrt q : Rat) + 1/2) := by
  unfold roundCbrt
  constructor
  · intro h1
    rcases findIdx_spec (fun k => cube ((k : Rat) - 1/2)) q (q.floor.toNat + 2) with h0 | h0
    · omega
    · exact h0
  · -- the search range is long enough: `q < ⌊q⌋ + 1 < (⌊q⌋ + 2) + ½ ≤ ((⌊q⌋ + 2) + ½)³`
    have hlast : q < cube (((q.floor.toNat + 2 + 1 : Nat) : Rat) - 1/2) := by
      have h1 := rat_lt_floor_add_one q
      have h2 : ((q.floor.toNat : Nat) : Rat) = (q.floor : Rat) := by
        exact_mod_cast Int.toNat_of_nonneg (rat_floor_nonneg q hq)
      have h3 : (0 : Rat) ≤ (q.floor.toNat : Rat) := Nat.cast_nonneg _
      rw [cast_succ_sub_half]
      refine lt_of_lt_of_le ?_ (le_cube _ (by push_cast; linarith))
      push_cast; rw [h2]; linarith
    simpa only [cast_succ_sub_half] using findIdx_lt_next (fun k => cube ((k : Rat) - 1/2)) q _ hlast

theorem roundCbrt_unique (q : Rat) (hq : 0 ≤ q) (k : Nat)
    (h1 : 1 ≤ k → cube ((k : Rat) - 1/2) ≤ q) (h2 : q < cube ((k : Rat) + 1/2)) : roundCbrt q = k := by
  obtain ⟨b1, b2⟩ := roundCbrt_bounds q hq
  rcases Nat.lt_trichotomy (roundCbrt q) k with h | h | h
  · have := cube_half_le _ _ h
    have := h1 (by omega)
    linarith
  · exact h
  · have := cube_half_le _ _ h
    have := b1 (by omega)
    linarith

/-- perfect cubes are their own rounded cube roots (`roundCbrt_cube` of `Props/C18.lean`, stated
here for `lat_autoN`) -/
theorem roundCbrt_cube' (k : Nat) : roundCbrt (cube (k : Rat)) = k := by
  have hk : (0 : Rat) ≤ (k : Rat) := Nat.cast_nonneg k
  apply roundCbrt_unique _ (by unfold cube; positivity) k
  · intro h1
    have : (1 : Rat) ≤ (k : Rat) := by exact_mod_cast h1
    exact cube_mono _ _ (by linarith) (by linarith)
  · exact cube_strict _ _ hk (by linarith)

end DFV.C18
