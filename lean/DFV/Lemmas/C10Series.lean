import DFV.Lemmas.C10Roundtrip
/-! C10: the code-shaped writer (`toHdf5`: empty dataset, then assignment) against the store
`h5Save`, and the time-series helpers: slot access as two equations (`writeLoc_idx_eq_ok`, `readLoc_idx_eq`); `writeLoc` /
`readLoc` on the flat buffer obey the read-over-write laws (`writeLoc_step`); by induction over a history of slot writes
every slot holds what was written to it last (`readLoc_writeAll`); on whole fields a history of `_h5_save_data` calls is such
a history (`saveAll_eq_ok`), so slot `k` of any group reads as the single-field group holding what the slot holds
(`fieldLoadAt_saveAll`).  Defines `slotOf`, `writeAll`, `castOr`, `slotAfter`, `saveAll`, and `slotField`, the
field that `Props/C10.lean` says `_h5_load_field(…, k)` returns. -/
namespace DFV.C10
open DFV

/-! ## lists: replacing a window, reading a window -/

theorem length_splice {α : Type} (v w : List α) (start : Nat) (h : start + w.length ≤ v.length) :
    (v.take start ++ w ++ v.drop (start + w.length)).length = v.length := by
  simp only [List.length_append, List.length_take, List.length_drop]
  omega

theorem window_splice_same {α : Type} (v w : List α) (start : Nat) (h : start + w.length ≤ v.length) :
    ((v.take start ++ w ++ v.drop (start + w.length)).drop start).take w.length = w := by
  have hl : (v.take start).length = start := by rw [List.length_take]; omega
  rw [List.append_assoc, List.drop_left' hl, List.take_left' rfl]

theorem window_splice_other {α : Type} (v w : List α) (start s len : Nat) (h : start + w.length ≤ v.length)
    (hd : s + len ≤ start ∨ start + w.length ≤ s) :
    ((v.take start ++ w ++ v.drop (start + w.length)).drop s).take len = (v.drop s).take len := by
  have hl : (v.take start).length = start := by rw [List.length_take]; omega
  rcases hd with hd | hd
  · -- the window lies before the replaced entries
    rw [List.append_assoc, List.drop_append_of_le_length (by omega), List.take_append_of_le_length (by rw [List.length_drop]; omega),
      List.drop_take, List.take_take, Nat.min_eq_left (by omega)]
  · -- … or after them
    have hl2 : (v.take start ++ w).length = start + w.length := by rw [List.length_append, hl]
    rw [List.drop_append, List.drop_eq_nil_of_le (by rw [hl2]; exact hd), List.nil_append, hl2, List.drop_drop]
    congr 2
    omega

theorem window_length {α : Type} (v : List α) (s len : Nat) (h : s + len ≤ v.length) : ((v.drop s).take len).length = len := by
  rw [List.length_take, List.length_drop]
  omega

/-! ## typed buffers -/

namespace DBuf

theorem castTo_ok (k : DK) (b c : DBuf) (h : b.castTo k = .ok c) : c.kind = k ∧ c.length = b.length := by
  cases k <;> cases b <;> cases h <;> first | exact ⟨rfl, rfl⟩ | exact ⟨rfl, List.length_map _⟩

theorem castTo_self (b : DBuf) : b.castTo b.kind = .ok b := by
  cases b <;> rfl

/-- which conversions exist: int and float convert into one another and into themselves, complex only into complex;
real and complex never convert into one another -/
theorem castTo_ok_iff (k : DK) (b : DBuf) :
    (∃ c, b.castTo k = .ok c) ↔ (k = .complex ↔ b.kind = .complex) := by
  cases k <;> cases b <;> simp [castTo, kind]

theorem zeros_kind (k : DK) (n : Nat) : (zeros k n).kind = k := by cases k <;> rfl

theorem zeros_length (k : DK) (n : Nat) : (zeros k n).length = n := by
  cases k <;> simp [zeros, length]

theorem splice_kind (d b : DBuf) (s : Nat) : (d.splice s b).kind = d.kind := by
  cases d <;> cases b <;> rfl

theorem splice_length (d b : DBuf) (s : Nat) (hk : b.kind = d.kind) (h : s + b.length ≤ d.length) :
    (d.splice s b).length = d.length := by
  -- mixed kinds are excluded by `hk`; in the three pure cases the statement is the list lemma (so below, twice)
  cases d <;> cases b <;> simp only [kind, reduceCtorEq] at hk <;>
    simp only [splice, length] at h ⊢ <;> exact length_splice _ _ _ h

theorem slice_length (d : DBuf) (s len : Nat) (h : s + len ≤ d.length) : (d.slice s len).length = len := by
  cases d <;> exact window_length _ _ _ h

theorem slice_kind (d : DBuf) (s len : Nat) : (d.slice s len).kind = d.kind := by
  cases d <;> rfl

/-- **read over write, same window** -/
theorem slice_splice_same (d b : DBuf) (s : Nat) (hk : b.kind = d.kind) (h : s + b.length ≤ d.length) :
    (d.splice s b).slice s b.length = b := by
  -- as `splice_length`: the three same-kind cases are the list lemma
  cases d <;> cases b <;> simp only [kind, reduceCtorEq] at hk <;>
    simp only [splice, slice, length] at h ⊢ <;> rw [window_splice_same _ _ _ h]

/-- **read over write, disjoint window** -/
theorem slice_splice_other (d b : DBuf) (s s' len : Nat) (hk : b.kind = d.kind) (h : s + b.length ≤ d.length)
    (hd : s' + len ≤ s ∨ s + b.length ≤ s') :
    (d.splice s b).slice s' len = d.slice s' len := by
  -- as `splice_length`
  cases d <;> cases b <;> simp only [kind, reduceCtorEq] at hk <;>
    simp only [splice, slice, length] at h ⊢ <;> rw [window_splice_other _ _ _ _ _ h hd]

theorem slice_zeros (k : DK) (n s len : Nat) (h : s + len ≤ n) : (zeros k n).slice s len = zeros k len := by
  -- what is left is `min len (n - s) = len`
  cases k <;> simp only [zeros, slice, List.drop_replicate, List.take_replicate] <;> congr 2 <;> omega

theorem slice_all (d : DBuf) : d.slice 0 d.length = d := by
  cases d <;> simp [slice, length]

end DBuf

/-! ## the code-shaped writer -/

/-- **`_to_hdf5` (empty dataset of the field's dtype, then `dataset[:] = array`) leaves exactly
the store `h5Save f`**: the array dataset is the array, value for value, dtype included. -/
theorem toHdf5_eq (f : TFld) (hs : f.data.shape = f.mesh.n ++ [f.nvdim]) : toHdf5 f = .ok (h5Save f) := by
  unfold toHdf5 saveData saveStructure writeLoc
  simp only [hs, ne_eq, not_true_eq_false, if_false, DBuf.zeros_kind, DBuf.castTo_self, bind_ok, h5Save, fieldSave]
  congr 3
  rw [← hs]

/-! ## slots -/

/-- the slot an index addresses (`-1` is the last one) -/
def slotOf (T : Nat) (t : Int) : Nat := (t % (T : Int)).toNat

theorem slotOf_lt (T : Nat) (t : Int) (hT : 0 < T) : slotOf T t < T := by
  unfold slotOf
  have h1 : 0 ≤ t % (T : Int) := Int.emod_nonneg _ (by omega)
  have h2 : t % (T : Int) < T := Int.emod_lt_of_pos _ (by omega)
  omega

theorem slotOf_nat (T k : Nat) (hk : k < T) : slotOf T (k : Int) = k := by
  unfold slotOf
  rw [Int.emod_eq_of_lt (by omega) (by omega)]
  simp

theorem slotOf_neg (T k : Nat) (hk : k < T) : slotOf T ((k : Int) - T) = k := by
  unfold slotOf
  have : ((k : Int) - T) % (T : Int) = k := by
    rw [Int.sub_emod, Int.emod_self, Int.sub_zero, Int.emod_emod_of_dvd _ (dvd_refl _), Int.emod_eq_of_lt (by omega) (by omega)]
  rw [this]
  simp

theorem slot_bound (T k S : Nat) (hk : k < T) : k * S + S ≤ T * S := by
  have : (k + 1) * S ≤ T * S := Nat.mul_le_mul_right S (by omega)
  rw [Nat.add_mul, Nat.one_mul] at this
  exact this

theorem slots_disjoint (k k' S : Nat) (hne : k ≠ k') : k' * S + S ≤ k * S ∨ k * S + S ≤ k' * S := by
  rcases Nat.lt_or_gt_of_ne hne with h | h
  · exact Or.inr (slot_bound k' k S h)
  · exact Or.inl (slot_bound k k' S h)

/-- `dataset[t] = array` on a dataset with a leading axis of length `T` -/
theorem writeLoc_idx_eq_ok (ds ds' a : DArr) (T : Nat) (rest : List Nat) (t : Int) (hsh : ds.shape = T :: rest) :
    writeLoc ds (.idx t) a = .ok ds' ↔
      (-(T : Int) ≤ t ∧ t < T) ∧ a.shape = rest ∧
      ∃ b, a.buf.castTo ds.buf.kind = .ok b ∧
        ds' = { shape := T :: rest, buf := ds.buf.splice (slotOf T t * natProd rest) b } := by
  unfold writeLoc
  simp only [hsh, guard_ok_iff, bind_ok_iff', Except.ok.injEq, not_or, Int.not_lt, Int.not_le, not_not, slotOf, eq_comm (a := ds')]

theorem writeLoc_idx_accepts (ds a : DArr) (T : Nat) (rest : List Nat) (t : Int) (hsh : ds.shape = T :: rest)
    (ht : -(T : Int) ≤ t ∧ t < T) (hs : a.shape = rest) (hk : ds.buf.kind = .complex ↔ a.buf.kind = .complex) :
    ∃ ds', writeLoc ds (.idx t) a = .ok ds' := by
  obtain ⟨b, hb⟩ := (DBuf.castTo_ok_iff ds.buf.kind a.buf).mpr hk
  exact ⟨_, (writeLoc_idx_eq_ok ds _ a T rest t hsh).mpr ⟨ht, hs, b, hb, rfl⟩⟩

/-- `dataset[t]` -/
theorem readLoc_idx_eq (ds : DArr) (T : Nat) (rest : List Nat) (t : Int) (hsh : ds.shape = T :: rest) :
    readLoc ds (.idx t) = if t < -(T : Int) ∨ (T : Int) ≤ t then .error .index
      else .ok { shape := rest, buf := ds.buf.slice (slotOf T t * natProd rest) (natProd rest) } := by
  unfold readLoc
  simp only [hsh]
  rfl

theorem readLoc_idx (ds : DArr) (T : Nat) (rest : List Nat) (k : Nat) (hsh : ds.shape = T :: rest) (hk : k < T) :
    readLoc ds (.idx (k : Int)) = .ok { shape := rest, buf := ds.buf.slice (k * natProd rest) (natProd rest) } := by
  rw [readLoc_idx_eq ds T rest _ hsh, if_neg (by omega), slotOf_nat T k hk]

/-- one write: shape, dtype and well-formedness are kept; the slot written holds the converted
array, every other slot is untouched -/
theorem writeLoc_step (ds ds' a : DArr) (T : Nat) (rest : List Nat) (t : Int) (hsh : ds.shape = T :: rest)
    (hwf : ds.wf) (hawf : a.wf) (h : writeLoc ds (.idx t) a = .ok ds') :
    ds'.shape = T :: rest ∧ ds'.buf.kind = ds.buf.kind ∧ ds'.wf ∧
    ∃ b, a.buf.castTo ds.buf.kind = .ok b ∧ b.length = natProd rest ∧
      ∀ k, k < T → ds'.buf.slice (k * natProd rest) (natProd rest) =
        if slotOf T t = k then b else ds.buf.slice (k * natProd rest) (natProd rest) := by
  obtain ⟨ht, hs, b, hb, rfl⟩ := (writeLoc_idx_eq_ok ds ds' a T rest t hsh).mp h
  have hT : 0 < T := by omega
  have hbk := (DBuf.castTo_ok _ _ _ hb).1
  have hbl : b.length = natProd rest := by
    rw [(DBuf.castTo_ok _ _ _ hb).2, hawf, hs]
  have hdl : ds.buf.length = T * natProd rest := hwf.length_cons hsh
  have hfit : slotOf T t * natProd rest + b.length ≤ ds.buf.length := by
    rw [hbl, hdl]; exact slot_bound T _ _ (slotOf_lt T t hT)
  refine ⟨rfl, DBuf.splice_kind _ _ _, ?_, b, hb, hbl, ?_⟩
  · show (ds.buf.splice _ b).length = natProd (T :: rest)
    rw [DBuf.splice_length _ _ _ hbk hfit, hdl]; rfl
  · intro k hk
    show (ds.buf.splice _ b).slice _ _ = _
    split
    · rename_i he
      subst he
      have := DBuf.slice_splice_same _ _ _ hbk hfit
      rw [hbl] at this
      exact this
    · rename_i hne
      apply DBuf.slice_splice_other _ _ _ _ _ hbk hfit
      rw [hbl]
      exact slots_disjoint _ _ _ hne

/-! ## histories of slot writes -/

/-- a history of slot writes (every one must succeed) -/
def writeAll (ds : DArr) : List (Int × DArr) → M DArr
  | [] => .ok ds
  | w :: ws => (writeLoc ds (.idx w.1) w.2).bind fun ds' => writeAll ds' ws

/-- the conversion of `a` into dtype `k` where there is one -/
def castOr (k : DK) (a : DBuf) (dflt : DBuf) : DBuf :=
  match a.castTo k with
  | .ok b => b
  | .error _ => dflt

/-- what slot `k` holds after a history: the (converted) array of the last write that addressed
it, else what it held before -/
def slotAfter (T : Nat) (kind : DK) (k : Nat) (init : DBuf) (ws : List (Int × DArr)) : DBuf :=
  ws.foldl (fun cur w => if slotOf T w.1 = k then castOr kind w.2.buf cur else cur) init

theorem slotAfter_nil (T : Nat) (kind : DK) (k : Nat) (init : DBuf) : slotAfter T kind k init [] = init := rfl

theorem slotAfter_length (T : Nat) (kind : DK) (k S : Nat) (init : DBuf) (ws : List (Int × DArr))
    (hi : init.length = S) (hw : ∀ w ∈ ws, w.2.buf.length = S) : (slotAfter T kind k init ws).length = S := by
  induction ws generalizing init with
  | nil => exact hi
  | cons w ws ih =>
    simp only [slotAfter, List.foldl_cons]
    apply ih _ _ (fun w' hw' => hw w' (by simp [hw']))
    split
    · unfold castOr
      cases hc : w.2.buf.castTo kind with
      | error e => exact hi
      | ok b => simp only; rw [(DBuf.castTo_ok _ _ _ hc).2]; exact hw w (by simp)
    · exact hi

/-- **History of slot writes.**  After any sequence of successful slot writes — in any order,
with rewrites, with negative indices — the dataset keeps shape, dtype and size, and reading
slot `k` returns what `slotAfter` says: the array written there last (converted to the
dataset's dtype), or what the slot held before. -/
theorem readLoc_writeAll (ws : List (Int × DArr)) (ds ds' : DArr) (T : Nat) (rest : List Nat)
    (hsh : ds.shape = T :: rest) (hwf : ds.wf) (haw : ∀ w ∈ ws, w.2.wf) (h : writeAll ds ws = .ok ds') :
    ds'.shape = T :: rest ∧ ds'.buf.kind = ds.buf.kind ∧ ds'.wf ∧ (∀ w ∈ ws, w.2.buf.length = natProd rest) ∧
    ∀ k, k < T → readLoc ds' (.idx (k : Int)) =
      .ok { shape := rest,
            buf := slotAfter T ds.buf.kind k (ds.buf.slice (k * natProd rest) (natProd rest)) ws } := by
  induction ws generalizing ds with
  | nil =>
    cases h
    exact ⟨hsh, rfl, hwf, fun w hw => (by cases hw), fun k hk => readLoc_idx _ T rest k hsh hk⟩
  | cons w ws ih =>
    obtain ⟨ds1, h1, h⟩ := bind_ok_iff'.mp h
    have hw := haw w List.mem_cons_self
    obtain ⟨hsh1, hk1, hwf1, b, hb, _, hsl⟩ := writeLoc_step ds ds1 w.2 T rest w.1 hsh hwf hw h1
    obtain ⟨hsh', hk', hwf', hlen, hrd⟩ := ih ds1 hsh1 hwf1 (fun w' hw' => haw w' (List.mem_cons_of_mem _ hw')) h
    refine ⟨hsh', hk'.trans hk1, hwf', ?_, fun k hk => ?_⟩
    · intro w' hw'
      rcases List.mem_cons.mp hw' with rfl | hw'
      · rw [hw, ((writeLoc_idx_eq_ok ds ds1 w'.2 T rest w'.1 hsh).mp h1).2.1]
      · exact hlen w' hw'
    · rw [hrd k hk, hk1, hsl k hk]
      simp only [slotAfter, List.foldl_cons, castOr, hb]

/-- **acceptance of a history**: indices in range, slot-shaped arrays and dtypes with a
conversion path — then every write succeeds -/
theorem writeAll_accepts (ws : List (Int × DArr)) (ds : DArr) (T : Nat) (rest : List Nat)
    (hsh : ds.shape = T :: rest) (hwf : ds.wf)
    (hw : ∀ w ∈ ws, (-(T : Int) ≤ w.1 ∧ w.1 < T) ∧ w.2.shape = rest ∧ w.2.wf ∧
      (ds.buf.kind = .complex ↔ w.2.buf.kind = .complex)) :
    ∃ ds', writeAll ds ws = .ok ds' := by
  induction ws generalizing ds with
  | nil => exact ⟨ds, rfl⟩
  | cons w ws ih =>
    obtain ⟨ht, hs, hawf, hk⟩ := hw w (by simp)
    obtain ⟨ds1, h1⟩ := writeLoc_idx_accepts ds w.2 T rest w.1 hsh ht hs hk
    obtain ⟨hsh1, hk1, hwf1, _⟩ := writeLoc_step ds ds1 w.2 T rest w.1 hsh hwf hawf h1
    obtain ⟨ds', h'⟩ := ih ds1 hsh1 hwf1 (fun w' hw' => by rw [hk1]; exact hw w' (by simp [hw']))
    exact ⟨ds', by simp only [writeAll, h1, bind_ok, h']⟩

/-! ## whole fields -/

/-- a history of `_h5_save_data(dataset, t)` calls -/
def saveAll (h : H5Field) : List (Int × TFld) → M H5Field
  | [] => .ok h
  | w :: ws => (saveData h (.idx w.1) w.2).bind fun h' => saveAll h' ws

/-- a history of `_h5_save_data` calls is the history of slot writes into the dataset `array`; nothing else changes -/
theorem saveAll_eq_ok (ws : List (Int × TFld)) (h h' : H5Field) :
    saveAll h ws = .ok h' ↔ ∃ a, writeAll h.array (ws.map fun w => (w.1, w.2.data)) = .ok a ∧ h' = { h with array := a } := by
  induction ws generalizing h with
  | nil => exact ⟨fun e => ⟨h.array, rfl, by cases e; rfl⟩, fun ⟨a, ha, e⟩ => by cases ha; rw [e]; rfl⟩
  | cons w ws ih =>
    simp only [saveAll, saveData, List.map_cons, writeAll, bind_ok_iff', Except.ok.injEq]
    constructor
    · rintro ⟨h1, ⟨a1, ha1, rfl⟩, hrest⟩
      obtain ⟨a, ha, e⟩ := (ih _).mp hrest
      exact ⟨a, ⟨a1, ha1, ha⟩, e⟩
    · rintro ⟨a, ⟨a1, ha1, ha⟩, e⟩
      exact ⟨_, ⟨a1, ha1, rfl⟩, (ih _).mpr ⟨a, ha, e⟩⟩

/-- **a series, for any group and any history of successful `_h5_save_data` calls** (the general form of
`series_roundtrip`): every array written has the slot's size, and `_h5_load_field(group, k)` is the single-field reader on the
group that holds, as its array, what `slotAfter` says slot `k` holds -/
theorem fieldLoadAt_saveAll (h h' : H5Field) (T : Nat) (rest : List Nat) (ws : List (Int × TFld))
    (hsh : h.array.shape = T :: rest) (hwf : h.array.wf) (hws : ∀ w ∈ ws, w.2.data.wf) (hrun : saveAll h ws = .ok h')
    (k : Nat) (hk : k < T) :
    (∀ w ∈ ws, w.2.data.buf.length = natProd rest) ∧
    fieldLoadAt h' (.idx (k : Int)) =
      fieldLoad { h with array := { shape := rest,
                                    buf := slotAfter T h.array.buf.kind k (h.array.buf.slice (k * natProd rest) (natProd rest))
                                      (ws.map fun w => (w.1, w.2.data)) } } := by
  obtain ⟨a, hwr, rfl⟩ := (saveAll_eq_ok ws _ h').mp hrun
  obtain ⟨_, _, _, hlen, hrd⟩ := readLoc_writeAll _ _ _ T rest hsh hwf
    (fun w hw => by obtain ⟨w', hw', rfl⟩ := List.mem_map.mp hw; exact hws w' hw') hwr
  refine ⟨fun w hw => hlen _ (List.mem_map.mpr ⟨w, hw, rfl⟩), ?_⟩
  unfold fieldLoad fieldLoadAt
  rw [show readLoc ({ h with array := a } : H5Field).array _ = _ from hrd k hk]
  simp only [readLoc, bind_ok]

theorem data_wf_of_inv (f : TFld) (hf : f.Inv) : DArr.wf f.data := by
  obtain ⟨_, _, hds, hdl, _⟩ := (TFld.inv_iff f).mp hf
  exact DArr.wf_of_shape hds hdl

/-- the field with `f0`'s structure and, as data, what slot `k` of a `T`-slot dataset created for
`f0` holds after the history `ws` of slot writes (zeros if nothing was written there) -/
def slotField (f0 : TFld) (T k : Nat) (ws : List (Int × TFld)) : TFld :=
  { f0 with data := { shape := f0.mesh.n ++ [f0.nvdim],
                      buf := slotAfter T f0.data.buf.kind k
                        (DBuf.zeros f0.data.buf.kind (natProd (f0.mesh.n ++ [f0.nvdim])))
                        (ws.map fun w => (w.1, w.2.data)) } }

end DFV.C10
