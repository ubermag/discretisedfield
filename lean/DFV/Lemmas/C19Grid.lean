import DFV.Lemmas.C19Demag
import DFV.Lemmas.C19Mesh
/-!
# C19 — the trace of the tensor of `demag_tensor(mesh)` on its displacement grid

Cell `j` of the `2n−1` grid sits at displacement `(j − (n−1))·cell`, so the trace of `tensorArr` there is the
trace of `_N` on the grid of integer multiples of the cell edges (`trace_grid`) — for leaves valued in any field of
characteristic 0.  The rational tensor (`Lemmas/C19Cuboid`) and the real tensor (`Lemmas/C19Fourier`, there also cast
to ℂ) are instances.
-/
namespace DFV.C19
open DFV
variable {K : Type} [Field K] [CharZero K]

/-- `arrPoint_eq` with the factor written as an integer, the form `trace_grid` wants -/
theorem arrPoint_grid (m : Mesh) (hm : m.Inv) (a : Nat) (ha : a < m.ndim) (j : Nat) (hj : j < 2 * m.nAt a - 1) :
    arrPoint m a j = (((j : Int) - ((m.nAt a : Int) - 1) : Int) : Rat) * m.cellAt a := by
  rw [arrPoint_eq m hm a ha j hj]; push_cast; ring

/-- the three diagonal components of `tensorArr` add up to `−2P/pi` in the central cell and to `0` elsewhere
(`P` = the value of the arctangent sum of the leaves) -/
theorem tensorArr_trace (lv : Leaf → K) (P : K) (pi : Rat) (hpi : pi ≠ 0) (m : Mesh) (hm : m.Inv) (h3 : m.ndim = 3) (hat : AtanSum lv P)
    (j0 j1 j2 : Nat) (b0 : j0 < 2 * m.nAt 0 - 1) (b1 : j1 < 2 * m.nAt 1 - 1) (b2 : j2 < 2 * m.nAt 2 - 1) :
    evalK lv ((tensorArr pi m [j0, j1, j2]).getD 0 []) + evalK lv ((tensorArr pi m [j0, j1, j2]).getD 1 [])
        + evalK lv ((tensorArr pi m [j0, j1, j2]).getD 2 [])
      = if j0 = m.nAt 0 - 1 ∧ j1 = m.nAt 1 - 1 ∧ j2 = m.nAt 2 - 1 then -(2 * P / (pi : K)) else 0 := by
  -- `0 < nAt i`, for the `omega`s at the end (`n − 1` on naturals against `j − (n − 1) = 0` on integers)
  obtain ⟨p0, p1, p2⟩ := nAt_pos3 hm h3
  have key := trace_grid lv P pi (m.cellAt 0) (m.cellAt 1) (m.cellAt 2) hpi (hm.cellAt_pos (by omega))
    (hm.cellAt_pos (by omega)) (hm.cellAt_pos (by omega)) hat
    ((j0 : Int) - ((m.nAt 0 : Int) - 1)) ((j1 : Int) - ((m.nAt 1 : Int) - 1)) ((j2 : Int) - ((m.nAt 2 : Int) - 1))
  rw [← arrPoint_grid m hm 0 (by omega) j0 b0, ← arrPoint_grid m hm 1 (by omega) j1 b1,
    ← arrPoint_grid m hm 2 (by omega) j2 b2] at key
  refine Eq.trans key ?_
  by_cases hc : j0 = m.nAt 0 - 1 ∧ j1 = m.nAt 1 - 1 ∧ j2 = m.nAt 2 - 1
  · rw [if_pos hc, if_pos (by omega)]
  · rw [if_neg hc, if_neg (by omega)]

/-- CYCLIC SYMMETRY ON A CUBE (equal counts, equal cell edges), for the symbolic terms themselves: the `yy` and `zz` entries of a
cell are the `xx` entry of the cells with cyclically permuted indices — `_N` evaluates the same function at permuted arguments.
Every evaluation of the leaves (rational, real) inherits it. -/
theorem tensorArr_cubic (pi : Rat) (m : Mesh) (n : Nat) (hn0 : m.nAt 0 = n) (hn1 : m.nAt 1 = n) (hn2 : m.nAt 2 = n)
    (hc1 : m.cellAt 1 = m.cellAt 0) (hc2 : m.cellAt 2 = m.cellAt 0) (j0 j1 j2 : Nat) :
    (tensorArr pi m [j0, j1, j2]).getD 1 [] = (tensorArr pi m [j1, j2, j0]).getD 0 [] ∧
    (tensorArr pi m [j0, j1, j2]).getD 2 [] = (tensorArr pi m [j2, j0, j1]).getD 0 [] := by
  have p1 : ∀ j, arrPoint m 1 j = arrPoint m 0 j := by
    intro j; unfold arrPoint; rw [hn1, hn0, hc1]
  have p2 : ∀ j, arrPoint m 2 j = arrPoint m 0 j := by
    intro j; unfold arrPoint; rw [hn2, hn0, hc2]
  unfold tensorArr nAll
  simp only [List.getD_cons_zero, List.getD_cons_succ, hc1, hc2, p1, p2]
  trivial

/-- the arctangent hypothesis on rational leaf functions, in the form `tensorArr_trace` (and `trace_grid`) take it -/
theorem evalLeaf_atan_sum (asinh atan sqrt : Rat → Rat) (pi : Rat)
    (hat : ∀ a b c : Rat, 0 < a → 0 < b → 0 < c →
      atan (b * c / (a * sqrt (a ^ 2 + b ^ 2 + c ^ 2))) + atan (c * a / (b * sqrt (a ^ 2 + b ^ 2 + c ^ 2)))
        + atan (a * b / (c * sqrt (a ^ 2 + b ^ 2 + c ^ 2))) = pi / 2) :
    AtanSum (K := Rat) (evalLeaf asinh atan sqrt) (pi / 2) := by
  intro a b c ha hb hc
  simp only [evalLeaf, ha.ne', hb.ne', hc.ne', if_false]
  exact hat a b c ha hb hc

end DFV.C19
