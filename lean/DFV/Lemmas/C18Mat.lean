import DFV.Model.C18
import Mathlib.Tactic.Ring
import Mathlib.Tactic.Linarith
import Mathlib.Tactic.FieldSimp
import Mathlib.Tactic.LinearCombination
/-! 3×3 rational matrix algebra for C18: entries, products, transposes, rotations, quaternions,
modified Rodrigues parameters, vector alignment, ordered products. Laws are proved on the fields
`x, y, z` (`ext; ring`); statements quantified over an axis index reach them through `forall_lt3`. -/
namespace DFV.C18
open DFV

theorem a_cases (a : Nat) (ha : a < 3) : a = 0 ∨ a = 1 ∨ a = 2 := by omega

/-- what holds of the three axes holds of every axis below 3: the bridge between statements about the
fields `x, y, z` and statements quantified over an index -/
theorem forall_lt3 {P : Nat → Prop} (h0 : P 0) (h1 : P 1) (h2 : P 2) : ∀ a, a < 3 → P a
  | 0, _ => h0
  | 1, _ => h1
  | 2, _ => h2

theorem perm3_cases (a b c : Nat) (ha : a < 3) (hb : b < 3) (hc : c < 3) (hab : a ≠ b) (hac : a ≠ c) (hbc : b ≠ c) :
    (a = 0 ∧ b = 1 ∧ c = 2) ∨ (a = 0 ∧ b = 2 ∧ c = 1) ∨ (a = 1 ∧ b = 0 ∧ c = 2) ∨ (a = 1 ∧ b = 2 ∧ c = 0) ∨
    (a = 2 ∧ b = 0 ∧ c = 1) ∨ (a = 2 ∧ b = 1 ∧ c = 0) := by
  -- 27 cases: the 21 with a repeated value contradict a `≠`, the 6 remaining are the disjuncts
  rcases a_cases a ha with rfl | rfl | rfl <;> rcases a_cases b hb with rfl | rfl | rfl <;>
    rcases a_cases c hc with rfl | rfl | rfl <;> simp at hab hac hbc ⊢

theorem perm3_sum (F : Nat → Rat) (a b c : Nat) (ha : a < 3) (hb : b < 3) (hc : c < 3) (hab : a ≠ b) (hac : a ≠ c)
    (hbc : b ≠ c) : F a + F b + F c = F 0 + F 1 + F 2 := by
  rcases perm3_cases a b c ha hb hc hab hac hbc with ⟨rfl, rfl, rfl⟩ | ⟨rfl, rfl, rfl⟩ | ⟨rfl, rfl, rfl⟩ | ⟨rfl, rfl, rfl⟩ |
    ⟨rfl, rfl, rfl⟩ | ⟨rfl, rfl, rfl⟩ <;> ring

theorem perm3_prod (F : Nat → Rat) (a b c : Nat) (ha : a < 3) (hb : b < 3) (hc : c < 3) (hab : a ≠ b) (hac : a ≠ c)
    (hbc : b ≠ c) : F a * F b * F c = F 0 * F 1 * F 2 := by
  rcases perm3_cases a b c ha hb hc hab hac hbc with ⟨rfl, rfl, rfl⟩ | ⟨rfl, rfl, rfl⟩ | ⟨rfl, rfl, rfl⟩ | ⟨rfl, rfl, rfl⟩ |
    ⟨rfl, rfl, rfl⟩ | ⟨rfl, rfl, rfl⟩ <;> ring

/-! ## components and entries -/

theorem V3.get_ofFn (f : Nat → Rat) : ∀ a, a < 3 → (V3.ofFn f).get a = f a := forall_lt3 rfl rfl rfl

theorem V3.get_ofList (l : List Rat) : ∀ i, i < 3 → (V3.ofList l).get i = l.getD i 0 := forall_lt3 rfl rfl rfl

theorem V3.get_sub (a b : V3) (i : Nat) : (a.sub b).get i = a.get i - b.get i := by
  match i with
  | 0 => rfl
  | 1 => rfl
  | (k + 2) => rfl

theorem V3.get_cases (v : V3) (P : Nat → Rat → Prop) (h0 : P 0 v.x) (h1 : P 1 v.y) (h2 : P 2 v.z) (a : Nat) (ha : a < 3) :
    P a (v.get a) :=
  forall_lt3 (P := fun a => P a (v.get a)) h0 h1 h2 a ha

theorem V3.smul_inv_smul (n : Rat) (hn : n ≠ 0) (v : V3) : (v.smul n).smul (1 / n) = v := by
  ext <;> simp only [V3.smul] <;> field_simp

theorem V3.ext_get (u v : V3) (h : ∀ a, a < 3 → u.get a = v.get a) : u = v :=
  V3.ext (h 0 (by decide)) (h 1 (by decide)) (h 2 (by decide))

theorem M3.apply_get (Q : M3) (v : V3) (i : Nat) :
    (Q.apply v).get i = Q.e i 0 * v.x + Q.e i 1 * v.y + Q.e i 2 * v.z := by
  match i with
  | 0 => rfl
  | 1 => rfl
  | (k + 2) => rfl

theorem M3.tr_apply_get (Q : M3) (v : V3) (j : Nat) :
    (Q.tr.apply v).get j = Q.e 0 j * v.x + Q.e 1 j * v.y + Q.e 2 j * v.z := by
  match j with
  | 0 => rfl
  | 1 => rfl
  | (k + 2) => rfl

theorem M3.ofFn_e (e : Nat → Nat → Rat) : ∀ i, i < 3 → ∀ j, j < 3 → (M3.ofFn e).e i j = e i j :=
  forall_lt3 (forall_lt3 rfl rfl rfl) (forall_lt3 rfl rfl rfl) (forall_lt3 rfl rfl rfl)

theorem M3.tr_e (Q : M3) : ∀ i, i < 3 → ∀ j, j < 3 → Q.tr.e i j = Q.e j i :=
  forall_lt3 (forall_lt3 rfl rfl rfl) (forall_lt3 rfl rfl rfl) (forall_lt3 rfl rfl rfl)

theorem M3.mul_row (A B : M3) (i : Nat) : (A.mul B).row i = B.tr.apply (A.row i) := by
  match i with
  | 0 => rfl
  | 1 => rfl
  | (k + 2) => rfl

theorem M3.mul_e (A B : M3) (i j : Nat) :
    (A.mul B).e i j = A.e i 0 * B.e 0 j + A.e i 1 * B.e 1 j + A.e i 2 * B.e 2 j := by
  unfold M3.e
  rw [M3.mul_row, M3.tr_apply_get]
  simp only [M3.e, V3.get]
  ring

theorem M3.ext_e (A B : M3) (h : ∀ i j, i < 3 → j < 3 → A.e i j = B.e i j) : A = B := by
  have e00 := h 0 0 (by decide) (by decide)
  have e01 := h 0 1 (by decide) (by decide)
  have e02 := h 0 2 (by decide) (by decide)
  have e10 := h 1 0 (by decide) (by decide)
  have e11 := h 1 1 (by decide) (by decide)
  have e12 := h 1 2 (by decide) (by decide)
  have e20 := h 2 0 (by decide) (by decide)
  have e21 := h 2 1 (by decide) (by decide)
  have e22 := h 2 2 (by decide) (by decide)
  simp only [M3.e, M3.row, V3.get] at e00 e01 e02 e10 e11 e12 e20 e21 e22
  ext <;> assumption

/-- a matrix is determined by its action: the images of the unit vectors are its columns -/
theorem M3.apply_eq_imp (A B : M3) (h : ∀ v, A.apply v = B.apply v) : A = B := by
  have hx := h ⟨1, 0, 0⟩
  have hy := h ⟨0, 1, 0⟩
  have hz := h ⟨0, 0, 1⟩
  simp only [M3.apply, V3.dot, V3.mk.injEq, mul_one, mul_zero, add_zero, zero_add] at hx hy hz
  ext
  exacts [hx.1, hy.1, hz.1, hx.2.1, hy.2.1, hz.2.1, hx.2.2, hy.2.2, hz.2.2]

namespace M3

/-! ## products and transposes -/

theorem apply_mul (A B : M3) (v : V3) : (A.mul B).apply v = A.apply (B.apply v) := by
  ext <;> simp only [mul, apply, tr, V3.dot] <;> ring

theorem apply_one (v : V3) : one.apply v = v := by
  ext <;> simp only [apply, V3.dot, one] <;> ring

theorem mul_assoc (A B C : M3) : (A.mul B).mul C = A.mul (B.mul C) :=
  apply_eq_imp _ _ fun v => by rw [apply_mul, apply_mul, apply_mul, apply_mul]

theorem one_mul (A : M3) : one.mul A = A :=
  apply_eq_imp _ _ fun v => by rw [apply_mul, apply_one]

theorem mul_one (A : M3) : A.mul one = A :=
  apply_eq_imp _ _ fun v => by rw [apply_mul, apply_one]

theorem tr_tr (A : M3) : A.tr.tr = A := by
  ext <;> simp only [tr]

theorem tr_mul (A B : M3) : (A.mul B).tr = B.tr.mul A.tr := by
  ext <;> simp only [mul, apply, tr, V3.dot] <;> ring

theorem tr_one : one.tr = one := by
  ext <;> simp only [tr, one]

theorem det_mul (A B : M3) : (A.mul B).det = A.det * B.det := by
  simp only [mul, apply, tr, V3.dot, det]; ring

theorem det_tr (A : M3) : A.tr.det = A.det := by
  simp only [tr, det]; ring

theorem det_one : one.det = 1 := by
  simp only [one, det]; ring

/-- classical adjoint (transposed cofactor matrix) -/
def adj (Q : M3) : M3 :=
  ⟨⟨Q.r1.y * Q.r2.z - Q.r1.z * Q.r2.y, Q.r0.z * Q.r2.y - Q.r0.y * Q.r2.z, Q.r0.y * Q.r1.z - Q.r0.z * Q.r1.y⟩,
   ⟨Q.r1.z * Q.r2.x - Q.r1.x * Q.r2.z, Q.r0.x * Q.r2.z - Q.r0.z * Q.r2.x, Q.r0.z * Q.r1.x - Q.r0.x * Q.r1.z⟩,
   ⟨Q.r1.x * Q.r2.y - Q.r1.y * Q.r2.x, Q.r0.y * Q.r2.x - Q.r0.x * Q.r2.y, Q.r0.x * Q.r1.y - Q.r0.y * Q.r1.x⟩⟩

def scal (s : Rat) : M3 := ⟨⟨s, 0, 0⟩, ⟨0, s, 0⟩, ⟨0, 0, s⟩⟩

theorem mul_adj (Q : M3) : Q.mul Q.adj = scal Q.det := by
  ext <;> simp only [mul, apply, tr, V3.dot, adj, scal, det] <;> ring

theorem scal_one : scal 1 = one := rfl

/-! ## rotations -/

theorem IsRot.tr_eq_adj {Q : M3} (h : Q.IsRot) : Q.tr = Q.adj := by
  have h1 : Q.mul Q.adj = one := by rw [mul_adj, h.2, scal_one]
  calc Q.tr = Q.tr.mul one := (mul_one _).symm
    _ = Q.tr.mul (Q.mul Q.adj) := by rw [h1]
    _ = (Q.tr.mul Q).mul Q.adj := (mul_assoc _ _ _).symm
    _ = Q.adj := by rw [h.1, one_mul]

theorem IsRot.mul_tr {Q : M3} (h : Q.IsRot) : Q.mul Q.tr = one := by
  rw [h.tr_eq_adj, mul_adj, h.2, scal_one]

theorem IsRot.tr_mul {Q : M3} (h : Q.IsRot) : Q.tr.mul Q = one := h.1

theorem isRot_one : one.IsRot := ⟨by rw [tr_one, one_mul], det_one⟩

theorem IsRot.mul {A B : M3} (ha : A.IsRot) (hb : B.IsRot) : (A.mul B).IsRot := by
  constructor
  · rw [M3.tr_mul, mul_assoc, ← mul_assoc A.tr, ha.1, one_mul, hb.1]
  · rw [det_mul, ha.2, hb.2]; ring

theorem IsRot.tr {Q : M3} (h : Q.IsRot) : Q.tr.IsRot :=
  ⟨by rw [tr_tr]; exact h.mul_tr, by rw [det_tr]; exact h.2⟩

theorem IsRot.tr_apply_apply {Q : M3} (h : Q.IsRot) (v : V3) : Q.tr.apply (Q.apply v) = v := by
  rw [← apply_mul, h.1, apply_one]

theorem IsRot.apply_tr_apply {Q : M3} (h : Q.IsRot) (v : V3) : Q.apply (Q.tr.apply v) = v := by
  rw [← apply_mul, h.mul_tr, apply_one]

theorem dot_apply_of_orth {Q : M3} (h : Q.tr.mul Q = one) (u v : V3) : (Q.apply u).dot (Q.apply v) = u.dot v := by
  have key : (Q.apply u).dot (Q.apply v) = u.dot ((Q.tr.mul Q).apply v) := by
    simp only [M3.mul, M3.apply, M3.tr, V3.dot]; ring
  rw [key, h, apply_one]

theorem IsRot.dot_apply {Q : M3} (h : Q.IsRot) (u v : V3) : (Q.apply u).dot (Q.apply v) = u.dot v :=
  dot_apply_of_orth h.1 u v

theorem cross_apply (Q : M3) (u v : V3) : (Q.apply u).cross (Q.apply v) = Q.adj.tr.apply (u.cross v) := by
  ext <;> simp only [apply, adj, tr, V3.cross, V3.dot] <;> ring

/-- a proper rotation commutes with the cross product: its cofactor matrix is itself -/
theorem IsRot.cross_apply {Q : M3} (h : Q.IsRot) (u v : V3) : (Q.apply u).cross (Q.apply v) = Q.apply (u.cross v) := by
  rw [M3.cross_apply, ← h.tr_eq_adj, tr_tr]

theorem IsRot.row_norm {Q : M3} (h : Q.IsRot) (i : Nat) (hi : i < 3) :
    Q.e i 0 * Q.e i 0 + Q.e i 1 * Q.e i 1 + Q.e i 2 * Q.e i 2 = 1 := by
  have hm := congrArg (fun M : M3 => M.e i i) h.mul_tr
  simp only [mul_e] at hm
  rw [tr_e Q 0 (by decide) i hi, tr_e Q 1 (by decide) i hi, tr_e Q 2 (by decide) i hi] at hm
  exact hm.trans (forall_lt3 (P := fun i => one.e i i = 1) rfl rfl rfl i hi)

/-! ## scalar multiples; quaternions -/

def smul (s : Rat) (A : M3) : M3 := ⟨A.r0.smul s, A.r1.smul s, A.r2.smul s⟩

theorem smul_tr (s : Rat) (A : M3) : (smul s A).tr = smul s A.tr := rfl

theorem smul_apply (s : Rat) (A : M3) (v : V3) : (smul s A).apply v = (A.apply v).smul s := by
  ext <;> simp only [smul, apply, V3.smul, V3.dot] <;> ring

theorem isRot_smul (s n : Rat) (A : M3) (h1 : A.tr.mul A = scal n) (h2 : s * s * n = 1) (h3 : s * s * s * A.det = 1) :
    (smul s A).IsRot := by
  constructor
  · have : (smul s A).tr.mul (smul s A) = smul (s * s) (A.tr.mul A) := by
      ext <;> simp only [smul, mul, apply, tr, V3.smul, V3.dot] <;> ring
    rw [this, h1, ← scal_one, ← h2]
    ext <;> simp only [smul, scal, V3.smul, mul_zero]
  · rw [← h3]; simp only [smul, V3.smul, det]; ring

/-- the numerators of `ofQuat`: `|q|²` times the rotation of the quaternion `q = w + xi + yj + zk` -/
def quatNum (w x y z : Rat) : M3 :=
  ⟨⟨w*w + x*x - y*y - z*z, 2 * (x*y - w*z), 2 * (x*z + w*y)⟩,
   ⟨2 * (x*y + w*z), w*w - x*x + y*y - z*z, 2 * (y*z - w*x)⟩,
   ⟨2 * (x*z - w*y), 2 * (y*z + w*x), w*w - x*x - y*y + z*z⟩⟩

theorem ofQuat_eq (w x y z : Rat) : ofQuat w x y z = smul (1 / (w*w + x*x + y*y + z*z)) (quatNum w x y z) := by
  ext <;> simp only [ofQuat, smul, quatNum, V3.smul] <;> ring

theorem ofQuat_isRot (w x y z : Rat) (h : w*w + x*x + y*y + z*z ≠ 0) : (ofQuat w x y z).IsRot := by
  rw [ofQuat_eq]
  apply isRot_smul _ ((w*w + x*x + y*y + z*z) * (w*w + x*x + y*y + z*z))
  · ext <;> simp only [quatNum, mul, apply, tr, V3.dot, scal] <;> ring
  · generalize w*w + x*x + y*y + z*z = n at h; field_simp
  · have : (quatNum w x y z).det = (w*w + x*x + y*y + z*z) * (w*w + x*x + y*y + z*z) * (w*w + x*x + y*y + z*z) := by
      simp only [quatNum, det]; ring
    rw [this]; generalize w*w + x*x + y*y + z*z = n at h; field_simp

theorem ofQuat_conj (w x y z : Rat) : ofQuat w (-x) (-y) (-z) = (ofQuat w x y z).tr := by
  rw [ofQuat_eq, ofQuat_eq, smul_tr]
  have hq : quatNum w (-x) (-y) (-z) = (quatNum w x y z).tr := by
    ext <;> simp only [quatNum, tr] <;> ring
  rw [hq, neg_mul_neg, neg_mul_neg, neg_mul_neg]

theorem ofQuat_axis (w x y z : Rat) (h : w*w + x*x + y*y + z*z ≠ 0) : (ofQuat w x y z).apply ⟨x, y, z⟩ = ⟨x, y, z⟩ := by
  have hq : (quatNum w x y z).apply ⟨x, y, z⟩ = V3.smul (w*w + x*x + y*y + z*z) ⟨x, y, z⟩ := by
    ext <;> simp only [quatNum, apply, V3.dot, V3.smul] <;> ring
  rw [ofQuat_eq, smul_apply, hq, V3.smul_inv_smul _ h]

end M3

/-! ## modified Rodrigues parameters -/

/-- the quaternion of the MRP vector `p` has norm `(1 + |p|²)²` -/
theorem ofMrp_isRot (p : V3) : (M3.ofMrp p).IsRot := by
  unfold M3.ofMrp
  apply M3.ofQuat_isRot
  have h : (1 - p.dot p) * (1 - p.dot p) + 2 * p.x * (2 * p.x) + 2 * p.y * (2 * p.y) + 2 * p.z * (2 * p.z)
      = (1 + p.dot p) * (1 + p.dot p) := by unfold V3.dot; ring
  rw [h]
  have : 0 ≤ p.dot p := by
    unfold V3.dot
    have := mul_self_nonneg p.x
    have := mul_self_nonneg p.y
    have := mul_self_nonneg p.z
    linarith
  have h1 : 0 < 1 + p.dot p := by linarith
  exact (mul_pos h1 h1).ne'

theorem ofMrp_zero : M3.ofMrp ⟨0, 0, 0⟩ = M3.one := by decide +kernel

theorem ofMrp_neg (p : V3) : M3.ofMrp ⟨-p.x, -p.y, -p.z⟩ = (M3.ofMrp p).tr := by
  unfold M3.ofMrp
  rw [← M3.ofQuat_conj]
  congr 1 <;> simp only [V3.dot] <;> ring

/-! ## `align_vector`: the rotation about `i × f` taking `i` to `f` (equal lengths) -/

theorem align_norm_ne (i f : V3) (hv : i.cross f ≠ ⟨0, 0, 0⟩) :
    (i.dot i + i.dot f) * (i.dot i + i.dot f) + (i.cross f).x * (i.cross f).x + (i.cross f).y * (i.cross f).y
      + (i.cross f).z * (i.cross f).z ≠ 0 := by
  intro h
  have h0 := mul_self_nonneg (i.dot i + i.dot f)
  have h1 := mul_self_nonneg (i.cross f).x
  have h2 := mul_self_nonneg (i.cross f).y
  have h3 := mul_self_nonneg (i.cross f).z
  exact hv (V3.ext (mul_self_eq_zero.mp (by linarith)) (mul_self_eq_zero.mp (by linarith))
    (mul_self_eq_zero.mp (by linarith)))

/-- **`align_vector`**: for vectors of equal length that are not parallel the model's matrix is a
proper rotation, takes `initial` to `final`, and keeps the cross product fixed -/
theorem ofAlign_spec (i f : V3) (hlen : i.dot i = f.dot f) (hv : i.cross f ≠ ⟨0, 0, 0⟩) :
    (M3.ofAlign i f).IsRot ∧ (M3.ofAlign i f).apply i = f ∧ (M3.ofAlign i f).apply (i.cross f) = i.cross f := by
  have hN := align_norm_ne i f hv
  refine ⟨M3.ofQuat_isRot _ _ _ _ hN, ?_, M3.ofQuat_axis _ _ _ _ hN⟩
  unfold M3.ofAlign
  -- numerators: `quatNum · i = |q|² f`, a polynomial identity modulo `|i| = |f|`
  have hc : f.x * f.x + f.y * f.y + f.z * f.z - (i.x * i.x + i.y * i.y + i.z * i.z) = 0 := by
    unfold V3.dot at hlen; linarith
  have hq : (M3.quatNum (i.dot i + i.dot f) (i.cross f).x (i.cross f).y (i.cross f).z).apply i
      = V3.smul ((i.dot i + i.dot f) * (i.dot i + i.dot f) + (i.cross f).x * (i.cross f).x + (i.cross f).y * (i.cross f).y
          + (i.cross f).z * (i.cross f).z) f := by
    ext <;> simp only [M3.quatNum, M3.apply, V3.dot, V3.smul, V3.cross]
    · linear_combination (-(f.x + i.x) * (i.x * i.x + i.y * i.y + i.z * i.z)) * hc
    · linear_combination (-(f.y + i.y) * (i.x * i.x + i.y * i.y + i.z * i.z)) * hc
    · linear_combination (-(f.z + i.z) * (i.x * i.x + i.y * i.y + i.z * i.z)) * hc
  rw [M3.ofQuat_eq, M3.smul_apply, hq, V3.smul_inv_smul _ hN]

theorem ofAlign_swap (i f : V3) (hlen : i.dot i = f.dot f) : M3.ofAlign f i = (M3.ofAlign i f).tr := by
  unfold M3.ofAlign
  rw [← M3.ofQuat_conj]
  congr 1
  · unfold V3.dot at *; linear_combination -hlen
  all_goals simp only [V3.cross]; ring

/-! ## ordered products -/

theorem prodL_apply (Qs : List M3) (v : V3) : (prodL Qs).apply v = Qs.foldl (fun u Q => Q.apply u) v := by
  induction Qs generalizing v with
  | nil => simp [prodL, M3.apply_one]
  | cons Q Qs ih => simp only [prodL, List.foldl_cons, M3.apply_mul, ih]

theorem prodL_tr_apply (Qs : List M3) (v : V3) : (prodL Qs).tr.apply v = Qs.foldr (fun Q u => Q.tr.apply u) v := by
  induction Qs generalizing v with
  | nil => simp [prodL, M3.tr_one, M3.apply_one]
  | cons Q Qs ih => simp only [prodL, List.foldr_cons, M3.tr_mul, M3.apply_mul, ih]

/-- the one induction over ordered products: `prodL_isRot` and `LatM.prodL` are its instances -/
theorem prodL_closed (P : M3 → Prop) (h1 : P M3.one) (hmul : ∀ A B, P A → P B → P (A.mul B)) (Qs : List M3)
    (h : ∀ Q ∈ Qs, P Q) : P (prodL Qs) := by
  induction Qs with
  | nil => exact h1
  | cons Q Qs ih =>
    exact hmul _ _ (ih fun Q' h' => h Q' (List.mem_cons_of_mem _ h')) (h Q List.mem_cons_self)

theorem prodL_isRot (Qs : List M3) (h : ∀ Q ∈ Qs, Q.IsRot) : (prodL Qs).IsRot :=
  prodL_closed M3.IsRot M3.isRot_one (fun _ _ => M3.IsRot.mul) Qs h

/-- the product of a concatenated history: the later part multiplies from the left -/
theorem prodL_append_list (A B : List M3) : prodL (A ++ B) = (prodL B).mul (prodL A) := by
  induction A with
  | nil => simp [prodL, M3.mul_one]
  | cons Q A ih => simp only [List.cons_append, prodL]; rw [ih, M3.mul_assoc]

theorem prodL_append (Qs : List M3) (Q : M3) : prodL (Qs ++ [Q]) = Q.mul (prodL Qs) := by
  rw [prodL_append_list]; simp only [prodL, M3.one_mul]

theorem prodL_cons_mul (Q : M3) (Qs : List M3) (P : M3) : (prodL (Q :: Qs)).mul P = (prodL Qs).mul (Q.mul P) := by
  simp only [prodL]; rw [M3.mul_assoc]

end DFV.C18
