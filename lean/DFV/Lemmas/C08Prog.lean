import DFV.Lemmas.C08Map
/-! The setter and the file round trips cell by cell; `eval` node by node; the code-shaped evaluator
refines the index-level reading and accepts exactly the well-formed programs; leaf dependencies;
the store; inlining (`Feeds`): evaluation of `p.subst σ` is evaluation of `p` on what the `σ k` produce. -/
namespace DFV.C08
open DFV

/-! ## file round trips -/

theorem vtk_roundtrip_get (m : Mask) (i : List Nat) (h : inRange m.shape i = true) :
    (vtkRead m.shape (vtkWrite m)).get i = m.get i := by
  have hlt := flatF_lt m.shape i h
  have key : (vtkWrite m).getD (flatF m.shape i) 0 = if m.get i then 1 else 0 := by
    unfold vtkWrite indicesF
    simp only [List.map_map]
    rw [List.getD_eq_getElem?_getD, List.getElem?_map, List.getElem?_range hlt]
    simp only [Option.map_some, Option.getD_some, Function.comp]
    rw [unflatF_flatF m.shape i h]
  show decide ((vtkWrite m).getD (flatF m.shape i) 0 ≠ 0) = m.get i
  rw [key]
  cases m.get i <;> rfl

theorem h5_roundtrip_get (m : Mask) (i : List Nat) (h : inRange m.shape i = true) :
    (h5Read m.shape (h5Write m)).get i = m.get i :=
  NDA.force_get m false i h

/-! ## the setter -/

/-- the general form of the `setter_*` theorems of Props -/
theorem setMask_ok {n : List Nat} {s : MSpec} {m : Mask} :
    setMask n s = .ok m ↔ s.ok n = true ∧ own ⟨n, specMask n s⟩ = m := by
  cases s with
  | none | const _ | cells _ | norm _ => exact ⟨fun h => ⟨rfl, Except.ok.inj h⟩, fun h => congrArg Except.ok h.2⟩
  | bad => exact ⟨fun h => (nomatch h), fun h => (nomatch h.1)⟩
  | lookup src inside cs xs =>
    cases inside
    · exact ⟨fun h => (nomatch h), fun h => (nomatch h.1)⟩
    · by_cases hl : src.shape.length = n.length
      · simp only [setMask, MSpec.ok, hl, Bool.not_true, Bool.false_eq_true, if_false, ne_eq, not_true_eq_false,
          Except.ok.injEq, Bool.true_and, decide_true, true_and]
        rfl
      · simp only [setMask, MSpec.ok, hl, Bool.not_true, Bool.false_eq_true, if_false, ne_eq, not_false_eq_true, if_true,
          reduceCtorEq, decide_false, Bool.and_false, false_and]
  | arr a =>
    have hf : specMask n (.arr a) = fun j => if a.shape = n then decide (a.get j ≠ 0)
        else decide (a.get (bcastIdx a.shape (n ++ [1]) (j ++ [0])) ≠ 0) := rfl
    simp only [setMask, MSpec.ok, hf, Bool.or_eq_true, Bool.and_eq_true, decide_eq_true_eq]
    by_cases h1 : a.shape = n
    · simp only [h1, if_true, Except.ok.injEq, true_or, true_and]
    · by_cases h2 : a.shape.getLast? = some 1
      · by_cases h3 : bcastOk a.shape (n ++ [1]) = true
        · simp only [h1, h2, h3, if_false, ne_eq, not_true_eq_false, Bool.not_true, Bool.false_eq_true, Except.ok.injEq,
            false_or, and_self, true_and]
        · simp only [h1, h2, h3, if_false, ne_eq, not_true_eq_false, Bool.not_false, if_true, reduceCtorEq, false_or,
            and_false, false_and]
      · simp only [h1, h2, if_false, ne_eq, not_false_eq_true, if_true, reduceCtorEq, false_or, false_and]

theorem setMask_arr_same {n : List Nat} {a : NDA Rat} (ha : a.shape = n) :
    setMask n (.arr a) = .ok (own ⟨n, fun j => decide (a.get j ≠ 0)⟩) := by
  simp only [setMask, if_pos ha]

theorem setMask_ok_iff (n : List Nat) (s : MSpec) : (∃ m, setMask n s = .ok m) ↔ s.ok n = true :=
  ⟨fun ⟨_, h⟩ => (setMask_ok.mp h).1, fun h => ⟨_, setMask_ok.mpr ⟨h, rfl⟩⟩⟩

theorem setMask_spec (n : List Nat) (s : MSpec) (m : Mask) (h : setMask n s = .ok m) :
    m.shape = n ∧ ∀ j, inRange n j = true → m.get j = specMask n s j := by
  obtain ⟨_, rfl⟩ := setMask_ok.mp h
  exact ⟨own_shape _, fun j hj => own_get ⟨n, specMask n s⟩ j hj⟩

/-- the all-valid mask of a field built without `valid=` -/
theorem setMask_one (n : List Nat) : setMask n (.const 1) = .ok (own (NDA.const n true)) :=
  setMask_ok.mpr ⟨rfl, rfl⟩

theorem bcastIdx_inRange (s t j : List Nat) (hok : bcastOk s t = true) (hj : inRange t j = true) :
    inRange s (bcastIdx s t j) = true := by
  simp only [bcastOk, Bool.and_eq_true, decide_eq_true_eq] at hok
  obtain ⟨hle, hall⟩ := hok
  rw [allLt_iff] at hall
  obtain ⟨hl, hp⟩ := (inRange_iff _ _).mp hj
  unfold bcastIdx
  apply inRange_tab _ _
  intro k hk
  have := hall k hk
  simp only [Bool.or_eq_true, decide_eq_true_eq] at this
  by_cases c : s.getD k 0 = 1
  · rw [if_pos c, c]; exact Nat.one_pos
  · rw [if_neg c]
    rcases this with h1 | h1
    · exact absurd h1 c
    · rw [h1]; exact hp _ (by omega)

/-! ## `eval`, node by node -/

section
variable {env : Nat → Mask} {p q : Prog} {m : Mask}

theorem eval_un_ok : eval env (.un p) = .ok m ↔ ∃ m0, eval env p = .ok m0 ∧ own m0 = m := by
  simp only [eval]
  cases eval env p <;> simp only [reduceCtorEq, false_and, exists_false, Except.ok.injEq, exists_eq_left']

theorem eval_binC_ok : eval env (.binC p) = .ok m ↔ ∃ m0, eval env p = .ok m0 ∧ own m0 = m := eval_un_ok

theorem eval_binF_ok : eval env (.binF p q) = .ok m ↔
    ∃ a b, eval env p = .ok a ∧ eval env q = .ok b ∧ a.shape = b.shape ∧ own (NDA.zipWith and a b) = m := by
  simp only [eval]
  cases eval env p <;> cases eval env q <;>
    simp only [ok_guard_iff, reduceCtorEq, false_and, and_false, exists_false, Except.ok.injEq, exists_eq_left',
      exists_and_left]

theorem eval_map_ok {op : MapOp} : eval env (.map op p) = .ok m ↔
    ∃ m0, eval env p = .ok m0 ∧ op.ok m0.shape = true ∧ own (op.apply m0 false) = m := by
  simp only [eval]
  cases eval env p <;> simp only [ok_guard_iff, reduceCtorEq, false_and, exists_false, Except.ok.injEq, exists_eq_left']

theorem eval_vtk_ok : eval env (.vtk p) = .ok m ↔
    ∃ m0, eval env p = .ok m0 ∧ m0.shape.length = 3 ∧ own (vtkRead m0.shape (vtkWrite m0)) = m := by
  simp only [eval]
  cases eval env p <;> simp only [ok_guard_iff, reduceCtorEq, false_and, exists_false, Except.ok.injEq, exists_eq_left']

theorem eval_hdf5_ok : eval env (.hdf5 p) = .ok m ↔
    ∃ m0, eval env p = .ok m0 ∧ own (h5Read m0.shape (h5Write m0)) = m := by
  simp only [eval]
  cases eval env p <;> simp only [reduceCtorEq, false_and, exists_false, Except.ok.injEq, exists_eq_left']

theorem eval_setv_ok {s : MSpec} : eval env (.setv s p) = .ok m ↔
    ∃ m0, eval env p = .ok m0 ∧ setMask m0.shape s = .ok m := by
  simp only [eval]
  cases eval env p <;> simp only [reduceCtorEq, false_and, exists_false, Except.ok.injEq, exists_eq_left']

theorem eval_fresh_ok {k : FreshOp} : eval env (.fresh k p) = .ok m ↔
    ∃ m0, eval env p = .ok m0 ∧ k.ok m0.shape = true ∧ own (NDA.const (k.shape m0.shape) true) = m := by
  simp only [eval, setMask_one]
  cases eval env p <;> simp only [ok_guard_iff, reduceCtorEq, false_and, exists_false, Except.ok.injEq, exists_eq_left']

end

/-! ## refinement: code-shaped evaluator = index-level reading -/

/-- the conclusion of `eval_spec` -/
def Reads (env : Nat → Mask) (p : Prog) (m : Mask) : Prop :=
  m.shape = shapeOf env p ∧ ∀ j, inRange m.shape j = true → m.get j = spec env p j

/-- every node stores `own` of an array; this is the step all cases of `eval_spec` end with -/
theorem Reads.of_own {env : Nat → Mask} {P : Prog} {m' : Mask} (hs : m'.shape = shapeOf env P)
    (hg : ∀ j, inRange m'.shape j = true → m'.get j = spec env P j) : Reads env P (own m') :=
  ⟨(own_shape m').trans hs, fun j hj => by rw [own_shape] at hj; rw [own_get m' j hj, hg j hj]⟩

theorem Reads.copy {env : Nat → Mask} {p P : Prog} {m0 m' : Mask} (h : Reads env p m0)
    (hsh : shapeOf env P = shapeOf env p) (hsp : ∀ j, spec env P j = spec env p j) (hs : m'.shape = m0.shape)
    (hg : ∀ j, inRange m0.shape j = true → m'.get j = m0.get j) : Reads env P (own m') :=
  .of_own (hs.trans (h.1.trans hsh.symm)) fun j hj => by rw [hg j (hs ▸ hj), h.2 j (hs ▸ hj), hsp]

theorem eval_spec (env : Nat → Mask) (p : Prog) : ∀ m, eval env p = .ok m → Reads env p m := by
  induction p with
  | leaf k =>
    intro m h
    cases h
    exact ⟨rfl, fun j _ => rfl⟩
  | pos p ih => exact ih
  | un p ih =>
    intro m h
    obtain ⟨m0, h0, rfl⟩ := eval_un_ok.mp h
    exact Reads.copy (ih m0 h0) rfl (fun _ => rfl) rfl fun _ _ => rfl
  | binC p ih =>
    intro m h
    obtain ⟨m0, h0, rfl⟩ := eval_binC_ok.mp h
    exact Reads.copy (ih m0 h0) rfl (fun _ => rfl) rfl fun _ _ => rfl
  | vtk p ih =>
    intro m h
    obtain ⟨m0, h0, _, rfl⟩ := eval_vtk_ok.mp h
    exact Reads.copy (ih m0 h0) rfl (fun _ => rfl) rfl (vtk_roundtrip_get m0)
  | hdf5 p ih =>
    intro m h
    obtain ⟨m0, h0, rfl⟩ := eval_hdf5_ok.mp h
    exact Reads.copy (ih m0 h0) rfl (fun _ => rfl) rfl (h5_roundtrip_get m0)
  | binF p q ihp ihq =>
    intro m h
    obtain ⟨a, b, ha, hb, hab, rfl⟩ := eval_binF_ok.mp h
    obtain ⟨hsa, hga⟩ := ihp a ha
    refine .of_own hsa fun j hj => ?_
    show (a.get j && b.get j) = (spec env p j && spec env q j)
    rw [hga j hj, (ihq b hb).2 j (hab ▸ hj)]
  | map op p ih =>
    intro m h
    obtain ⟨m0, h0, hok, rfl⟩ := eval_map_ok.mp h
    obtain ⟨hs, hg⟩ := ih m0 h0
    have hsh := (own_shape _).trans (apply_shape op m0 false)
    refine ⟨hsh.trans (congrArg op.shape hs), fun j hj => ?_⟩
    have hr := own_apply_get op m0 hok j (hsh ▸ hj)
    show _ = match op.src (shapeOf env p) j with
      | some i => spec env p i
      | none => false
    rw [← hs]
    cases hsrc : op.src m0.shape j with
    | none => rw [hsrc] at hr; exact hr
    | some i => rw [hsrc] at hr; exact hr.2.trans (hg i hr.1)
  | setv s p ih =>
    intro m h
    obtain ⟨m0, h0, hm⟩ := eval_setv_ok.mp h
    obtain ⟨_, rfl⟩ := setMask_ok.mp hm
    exact .of_own (m' := ⟨_, specMask _ s⟩) (ih m0 h0).1 fun j _ => congrArg (specMask · s j) (ih m0 h0).1
  | fresh k p ih =>
    intro m h
    obtain ⟨m0, h0, _, rfl⟩ := eval_fresh_ok.mp h
    exact .of_own (m' := NDA.const _ true) (congrArg k.shape (ih m0 h0).1) fun _ _ => rfl

/-! ## accepted = well formed -/

theorem eval_ok_iff (env : Nat → Mask) (p : Prog) : (∃ m, eval env p = .ok m) ↔ wf env p = true := by
  -- the operand's shape, on which the node's own check is made, is the predicted one
  have sh : ∀ {p m0}, eval env p = .ok m0 → m0.shape = shapeOf env p := fun h => (eval_spec env _ _ h).1
  -- a node that checks `c` on its operand's shape and then stores `F` of the operand's mask
  have node : ∀ {p P : Prog} {c : List Nat → Prop} {F : Mask → Mask},
      (∀ m, eval env P = .ok m ↔ ∃ m0, eval env p = .ok m0 ∧ c m0.shape ∧ F m0 = m) →
      ((∃ m, eval env p = .ok m) ↔ wf env p = true) →
      ((∃ m, eval env P = .ok m) ↔ wf env p = true ∧ c (shapeOf env p)) := fun hP ih =>
    ⟨fun ⟨m, h⟩ => let ⟨m0, h0, hc, _⟩ := (hP m).mp h; ⟨ih.mp ⟨m0, h0⟩, sh h0 ▸ hc⟩,
      fun ⟨hw, hc⟩ => let ⟨m0, h0⟩ := ih.mpr hw; ⟨_, (hP _).mpr ⟨m0, h0, (sh h0).symm ▸ hc, rfl⟩⟩⟩
  -- … and one without a check
  have node0 : ∀ {p P : Prog} {F : Mask → Mask},
      (∀ m, eval env P = .ok m ↔ ∃ m0, eval env p = .ok m0 ∧ F m0 = m) →
      ((∃ m, eval env p = .ok m) ↔ wf env p = true) → ((∃ m, eval env P = .ok m) ↔ wf env p = true) := fun hP ih =>
    ⟨fun ⟨m, h⟩ => let ⟨m0, h0, _⟩ := (hP m).mp h; ih.mp ⟨m0, h0⟩,
      fun hw => let ⟨m0, h0⟩ := ih.mpr hw; ⟨_, (hP _).mpr ⟨m0, h0, rfl⟩⟩⟩
  induction p with
  | leaf k => exact ⟨fun _ => rfl, fun _ => ⟨_, rfl⟩⟩
  | pos p ih => exact ih
  | un p ih => exact node0 (p := p) (fun _ => eval_un_ok) ih
  | binC p ih => exact node0 (p := p) (fun _ => eval_binC_ok) ih
  | hdf5 p ih => exact node0 (p := p) (fun _ => eval_hdf5_ok) ih
  | binF p q ihp ihq =>
    simp only [wf, Bool.and_eq_true, decide_eq_true_eq]
    constructor
    · rintro ⟨_, h⟩
      obtain ⟨a, b, ha, hb, hab, _⟩ := eval_binF_ok.mp h
      exact ⟨⟨ihp.mp ⟨a, ha⟩, ihq.mp ⟨b, hb⟩⟩, sh ha ▸ sh hb ▸ hab⟩
    · rintro ⟨⟨hp, hq⟩, hs⟩
      obtain ⟨a, ha⟩ := ihp.mpr hp
      obtain ⟨b, hb⟩ := ihq.mpr hq
      exact ⟨_, eval_binF_ok.mpr ⟨a, b, ha, hb, by rw [sh ha, sh hb, hs], rfl⟩⟩
  | map op p ih =>
    simp only [wf, Bool.and_eq_true]
    exact node (c := fun s => op.ok s = true) (fun _ => eval_map_ok) ih
  | vtk p ih =>
    simp only [wf, Bool.and_eq_true, decide_eq_true_eq]
    exact node (c := fun s => s.length = 3) (fun _ => eval_vtk_ok) ih
  | setv s p ih =>
    simp only [wf, Bool.and_eq_true]
    exact node (c := fun n => s.ok n = true) (F := fun m0 => own ⟨m0.shape, specMask m0.shape s⟩)
      (fun _ => by simp only [eval_setv_ok, setMask_ok]) ih
  | fresh k p ih =>
    simp only [wf, Bool.and_eq_true]
    exact node (c := fun s => k.ok s = true) (fun _ => eval_fresh_ok) ih

/-- `valid_program_total` of Props; `same_mask_of_spec_in`, `Tracks.eval` and `valid_nary_and` open with it -/
theorem eval_of_wf (env : Nat → Mask) (p : Prog) (h : wf env p = true) :
    ∃ m, eval env p = .ok m ∧ m.shape = shapeOf env p ∧
      ∀ j, inRange (shapeOf env p) j = true → m.get j = spec env p j := by
  obtain ⟨m, hm⟩ := (eval_ok_iff env p).mpr h
  obtain ⟨h1, h2⟩ := eval_spec env p m hm
  exact ⟨m, hm, h1, fun j hj => h2 j (h1 ▸ hj)⟩

/-! ## dependencies on the leaves -/

theorem spec_deps (env : Nat → Mask) (p : Prog) (hp : setterFree p = true) : ∀ j,
    spec env p j = match deps env p j with
      | some l => l.all fun kj => (env kj.1).get kj.2
      | none => false := by
  induction p with
  | leaf k => intro j; exact (Bool.and_true _).symm
  | pos p ih | un p ih | binC p ih | vtk p ih | hdf5 p ih => exact ih hp
  | binF p q ihp ihq =>
    intro j
    simp only [setterFree, Bool.and_eq_true] at hp
    simp only [spec, deps]
    rw [ihp hp.1 j, ihq hp.2 j]
    cases deps env p j with
    | none => rfl
    | some l1 =>
      cases deps env q j with
      | none => exact Bool.and_false _
      | some l2 => exact List.all_append.symm
  | map op p ih =>
    intro j
    simp only [spec, deps]
    cases op.src (shapeOf env p) j with
    | none => rfl
    | some i => exact ih hp i
  | setv s p _ => cases hp
  | fresh k p _ => intro j; rfl

/-! ## ownership: the store -/

theorem write_other (st : Store) (a k b : Nat) (v : Bool) (h : b ≠ a) :
    (write st a k v).getD b [] = st.getD b [] :=
  getD_set_ne _ _ _ _ _ h

/-- the allocation every node that builds a field ends with -/
def allocS (env : Nat → Mask) (P : Prog) (r : M (Nat × Store)) : M (Nat × Store) :=
  match r with
  | .error e => .error e
  | .ok r =>
    match eval env P with
    | .error e => .error e
    | .ok m => .ok (r.2.length, r.2 ++ [m.toList])

theorem allocS_ok {env : Nat → Mask} {P : Prog} {r : M (Nat × Store)} {st st' : Store} {a : Nat}
    (hr : ∀ r1, r = .ok r1 → ∃ ext, r1.2 = st ++ ext) (h : allocS env P r = .ok (a, st')) :
    ∃ ext m, eval env P = .ok m ∧ a = (st ++ ext).length ∧ st' = st ++ ext ++ [m.toList] := by
  unfold allocS at h
  split at h
  · cases h
  · rename_i r1
    obtain ⟨ext, he⟩ := hr r1 rfl
    split at h
    · cases h
    · rename_i m hm
      cases h
      exact ⟨ext, m, hm, by rw [he], by rw [he]⟩

/-- the general form of `result_owns_validity` and `result_buffer_holds_mask` of Props -/
theorem evalS_ok (env : Nat → Mask) (addr : Nat → Nat) (p : Prog) : ∀ st a st', evalS env addr p st = .ok (a, st') →
    (∃ ext, st' = st ++ ext) ∧
    (aliasOf p = none → ∃ ext m, eval env p = .ok m ∧ a = (st ++ ext).length ∧ st' = st ++ ext ++ [m.toList]) := by
  have both : ∀ {p : Prog} {st st' : Store} {a : Nat},
      (∃ ext m, eval env p = .ok m ∧ a = (st ++ ext).length ∧ st' = st ++ ext ++ [m.toList]) →
      (∃ ext, st' = st ++ ext) ∧
      (aliasOf p = none → ∃ ext m, eval env p = .ok m ∧ a = (st ++ ext).length ∧ st' = st ++ ext ++ [m.toList]) :=
    fun h => ⟨let ⟨ext, m, _, _, h3⟩ := h; ⟨ext ++ [m.toList], by rw [h3, List.append_assoc]⟩, fun _ => h⟩
  induction p with
  | leaf k =>
    intro st a st' h
    cases h
    exact ⟨⟨[], (List.append_nil _).symm⟩, fun hp => nomatch hp⟩
  | pos p ih => exact ih
  -- `evalS` at a one-operand node is, by definition, `allocS` of the operand's run
  | un p ih | binC p ih | vtk p ih | hdf5 p ih =>
    exact fun st a st' h => both (allocS_ok (fun r1 h1 => (ih st r1.1 r1.2 h1).1) h)
  | map _ p ih | setv _ p ih | fresh _ p ih =>
    exact fun st a st' h => both (allocS_ok (fun r1 h1 => (ih st r1.1 r1.2 h1).1) h)
  -- at `binF`, `evalS` is by definition `allocS` of the two operands' runs one after the other: that `match` is written
  -- out as `r`, and the last goal checks the definitional equality by cases on the first run
  | binF p q ihp ihq =>
    refine fun st a st' h => both (allocS_ok (r := match evalS env addr p st with
      | .error e => .error e
      | .ok r1 => evalS env addr q r1.2) (fun r2 h2 => ?_) ?_)
    · split at h2
      · cases h2
      · rename_i r1 h1
        obtain ⟨e1, he1⟩ := (ihp st r1.1 r1.2 h1).1
        obtain ⟨e2, he2⟩ := (ihq r1.2 r2.1 r2.2 h2).1
        exact ⟨e1 ++ e2, by rw [he2, he1, List.append_assoc]⟩
    · rw [← h]
      simp only [evalS, allocS]
      -- both sides are the same match on the first operand's run
      cases evalS env addr p st <;> rfl

/-! ## inlining -/

/-- the inputs `vals` are what the programs `σ k` produce on `env`: each is accepted, and `vals k` has its shape and,
inside the shape, its index-level reading -/
def Feeds (env : Nat → Mask) (σ : Nat → Prog) (vals : Nat → Mask) : Prop :=
  ∀ k, wf env (σ k) = true ∧ shapeOf env (σ k) = (vals k).shape ∧
    ∀ j, inRange (vals k).shape j = true → spec env (σ k) j = (vals k).get j

section
variable {env vals : Nat → Mask} {σ : Nat → Prog}

theorem subst_shapeOf (h : Feeds env σ vals) (p : Prog) : shapeOf env (p.subst σ) = shapeOf vals p := by
  induction p with
  | leaf k => exact (h k).2.1
  | pos p ih | un p ih | binC p ih | vtk p ih | hdf5 p ih => exact ih
  | binF p q ihp _ => exact ihp
  | setv _ p ih => exact ih
  | map op p ih => exact congrArg op.shape ih
  | fresh k p ih => exact congrArg k.shape ih

theorem subst_wf (h : Feeds env σ vals) (p : Prog) : wf env (p.subst σ) = wf vals p := by
  induction p with
  | leaf k => exact (h k).1
  | pos p ih | un p ih | binC p ih | hdf5 p ih => exact ih
  | binF p q ihp ihq => simp only [Prog.subst, wf, ihp, ihq, subst_shapeOf h]
  | map op p ih => simp only [Prog.subst, wf, ih, subst_shapeOf h]
  | vtk p ih => simp only [Prog.subst, wf, ih, subst_shapeOf h]
  | setv s p ih => simp only [Prog.subst, wf, ih, subst_shapeOf h]
  | fresh k p ih => simp only [Prog.subst, wf, ih, subst_shapeOf h]

theorem subst_spec (h : Feeds env σ vals) (p : Prog) (hw : wf vals p = true) : ∀ j,
    inRange (shapeOf vals p) j = true → spec env (p.subst σ) j = spec vals p j := by
  induction p with
  | leaf k => exact (h k).2.2
  | pos p ih | un p ih | binC p ih | hdf5 p ih => exact ih hw
  | vtk p ih =>
    simp only [wf, Bool.and_eq_true] at hw
    exact ih hw.1
  | binF p q ihp ihq =>
    intro j hj
    simp only [wf, Bool.and_eq_true, decide_eq_true_eq] at hw
    simp only [Prog.subst, spec]
    rw [ihp hw.1.1 j hj, ihq hw.1.2 j (hw.2 ▸ hj)]
  | map op p ih =>
    intro j hj
    simp only [wf, Bool.and_eq_true] at hw
    simp only [Prog.subst, spec, subst_shapeOf h]
    cases hs : op.src (shapeOf vals p) j with
    | none => rfl
    | some i => exact ih hw.1 i (src_inRange op _ hw.2 j hj i hs)
  | setv s p _ => intro j _; simp only [Prog.subst, spec, subst_shapeOf h]
  | fresh k p _ => intro j _; rfl

end

end DFV.C08
