import DFV.Lemmas.C05Examples
import DFV.Lemmas.C05Obj
/-! concrete fields for the non-vacuity examples of the object-level rotation theorems of
`DFV/Props/C05.lean` (meshes with subregions, explicit reference points, in-place form, multi-character
axis names) and the model-level witness of open finding D57 -/
namespace DFV.C05
open DFV DFV.C04

/-- a subregion of `exMesh` made of whole cells -/
def exSub : Region :=
  { pmin := [0, 0, 0], pmax := [2, 2, 4], dims := ["a", "b", "c"], units := ["m", "m", "m"], tol := 1/1000000000000 }

/-- the masked scalar field `exSM` (periodic along `a`) on the mesh WITH the subregion `s` -/
def exSMs : Fld := { exSM with mesh := { exSM.mesh with subs := [("s", exSub)] } }

/-- the masked permuted vector field `exVM` on the mesh WITH the subregion `s` -/
def exVMs : Fld := { exVM with mesh := { exVM.mesh with subs := [("s", exSub)] } }

theorem exSMs_wf : MeshWf exSMs := meshWf_subs exSM_wf _
theorem exSMs_tw02 : TurnWf exSMs 0 2 := turnWf_subs exSM_tw02 _
theorem exVMs_wf : MeshWf exVMs := meshWf_subs exVM_wf _
theorem exVMs_tw (a b : Nat) : TurnWf exVMs a b := turnWf_subs (exVM_tw a b) _

theorem ok_of_toBool {α} {r : M α} (h : r.toBool = true) : ∃ v, r = .ok v := by
  cases r with
  | ok v => exact ⟨v, rfl⟩
  | error e => cases h

/-- `exSMs.rotate90('a', 'c', k=-3, reference_point=(1, 2, 3), inplace=True)` is accepted: the mesh
constructor re-validates the turned subregion -/
theorem exSMs_rot : ∃ x g, T.rotate90F exSMs "a" "c" (-3) (some [1, 2, 3]) true = .ok (x, g) := by
  obtain ⟨v, hv⟩ := ok_of_toBool (r := T.rotate90F exSMs "a" "c" (-3) (some [1, 2, 3]) true) (by decide +kernel)
  exact ⟨v.1, v.2, hv⟩

/-- `exVMs.rotate90('c', 'a', k=5, reference_point=(1/2, 2, -3))` (copying form) is accepted -/
theorem exVMs_rot : ∃ x g, T.rotate90F exVMs "c" "a" 5 (some [1/2, 2, -3]) false = .ok (x, g) := by
  obtain ⟨v, hv⟩ := ok_of_toBool (r := T.rotate90F exVMs "c" "a" 5 (some [1/2, 2, -3]) false) (by decide +kernel)
  exact ⟨v.1, v.2, hv⟩

/-- a mesh whose second and third axis have multi-character names, periodic along `x` only -/
def exMeshMc : Mesh :=
  { region := { pmin := [0, 0, 0], pmax := [4, 6, 10], dims := ["x", "yy", "zeta"],
                units := ["m", "m", "m"], tol := 1/1000000000000 },
    n := [4, 3, 5], bc := "x", subs := [] }

def exSmc : Fld := { exS with mesh := exMeshMc }

theorem lower_x : ("x" : String).toLower = "x" := by decide +kernel

theorem exSmc_wf : MeshWf exSmc :=
  ⟨rfl, rfl, ⟨rfl, by decide⟩, rfl, by decide, lower_x, by decide, rfl⟩

/-! ### finding D57 in the model: axis `x` periodic, the other axis of the plane named `yy` -/

def exM57 : Mesh :=
  { region := { pmin := [0, 0], pmax := [4, 6], dims := ["x", "yy"], units := ["m", "m"], tol := 1/1000000000000 },
    n := [4, 3], bc := "x", subs := [] }

/-- the scalar field `i₀²` on `exM57` -/
def exS57 : Fld :=
  { mesh := exM57, nvdim := 1, data := ⟨[4, 3], fun i => [((i.getD 0 0 : Nat) : Rat) ^ 2]⟩,
    valid := ⟨[4, 3], fun _ => true⟩, vdims := none, vmap := [], unit := none }

/-- both orders of "quarter turn in the plane `(da, db)`" and "Laplacian" on `f`: the two values at cell `[0, 0]` -/
def chk (f : Fld) (da db : String) : Option (Rat × Rat) :=
  match rot90FldK f da db 1, laplace f with
  | .ok R, .ok L =>
    match laplace R, rot90FldK L da db 1 with
    | .ok LR, .ok RL => some ((LR.data.get [0, 0]).getD 0 0, (RL.data.get [0, 0]).getD 0 0)
    | _, _ => none
  | _, _ => none

theorem chk_some {f : Fld} {da db : String} {u v : Rat} (h : chk f da db = some (u, v)) :
    ∃ R L LR RL, rot90FldK f da db 1 = .ok R ∧ laplace f = .ok L ∧ laplace R = .ok LR ∧ rot90FldK L da db 1 = .ok RL ∧
      (LR.data.get [0, 0]).getD 0 0 = u ∧ (RL.data.get [0, 0]).getD 0 0 = v := by
  unfold chk at h
  split at h
  · next R L hR hL =>
    split at h
    · next LR RL hLR hRL =>
      injection h with h
      injection h with h1 h2
      exact ⟨R, L, LR, RL, hR, hL, hLR, hRL, h1, h2⟩
    · cases h
  · cases h

theorem chk57_val : chk exS57 "x" "yy" = some (2, 10) := by decide +kernel

theorem exS57_wf : MeshWf exS57 :=
  ⟨rfl, rfl, ⟨rfl, by decide⟩, rfl, by decide, lower_x, by decide, rfl⟩

/-! ### axis names that are substrings of the word in `bc` (not periodic: repo fix 61bf94db), upper-case names -/

/-- `exS57` with the axes called `n`, `y` on a `neumann` mesh: `"n" in "neumann"` -/
def exSN : Fld := { exS57 with mesh := { exM57 with region := { exM57.region with dims := ["n", "y"] }, bc := "neumann" } }

theorem lower_neumann : ("neumann" : String).toLower = "neumann" := by decide +kernel

theorem exSN_wf : MeshWf exSN :=
  ⟨rfl, rfl, ⟨rfl, by decide⟩, rfl, by decide, lower_neumann, by decide, rfl⟩

/-- a 3-d mesh periodic along `x` and `y` whose third axis is called `xy`: `"xy" in "xy"` -/
def exMeshXY : Mesh :=
  { region := { pmin := [0, 0, 0], pmax := [4, 6, 10], dims := ["x", "y", "xy"],
                units := ["m", "m", "m"], tol := 1/1000000000000 },
    n := [4, 3, 5], bc := "xy", subs := [] }

def exSXY : Fld := { exS with mesh := exMeshXY }

/-- `exS57` with the second axis called `Y` (upper case): `Mesh.rotate90` accepts the
turn and leaves `bc = "x"` alone (repo fix be43fa9b: only lower-case names are exchanged) -/
def exS57U : Fld := { exS57 with mesh := { exM57 with region := { exM57.region with dims := ["x", "Y"] } } }

theorem chk57U_val : chk exS57U "x" "Y" = some (2, 10) := by decide +kernel

theorem exS57U_wf : MeshWf exS57U :=
  ⟨rfl, rfl, ⟨rfl, by decide⟩, rfl, by decide, lower_x, by decide, rfl⟩

end DFV.C05
