import DFV.Lemmas.C14Persist
/-! C13: in-place == copying at mesh level, one step, for a mesh whose subregions fit it exactly (`SubInv`:
`Lemmas/C14Step`, namespace `DFV.C14`): the mesh a step assigns keeps `SubInv` (`applyM_subInv`), the constructor of the
copying form can only fail on `bc` (`remake_eq`) and returns an invariant mesh as it is (`remake_fix`); hence the
in-place form from the copying form (`stepM_copy_to_inplace`); the non-periodic boundary conditions `PlainBc`. -/
namespace DFV.T
open DFV DFV.C14

theorem subsProper_of_subInv (m : Mesh) (hm : m.Inv) (hs : SubInv m) : S.SubsProper m :=
  fun p hp => ⟨subOkE_regionInv m hm p.2 (hs p hp), (hs p hp).1⟩

theorem applyM_subInv (m : Mesh) (hm : m.Inv) (hs : SubInv m) (op : Op) (h : ¬ Malformed m.region op) : SubInv (applyM m op) := by
  intro q hq
  obtain ⟨p, hp, rfl⟩ := List.mem_map.mp hq
  exact subOkE_apply m _ hm p.2 (hs p hp) op h rfl rfl

/-- the constructor on a mesh with exactly fitting subregions: only the `bc` check can fail, and `bc` is lower-cased -/
theorem remake_eq (m : Mesh) (hm : m.Inv) (hs : SubInv m) :
    remake m = if Mesh.bcOk m.region.dims m.bc.toLower then .ok { m with bc := m.bc.toLower } else .error .value := by
  by_cases hbc : Mesh.bcOk m.region.dims m.bc.toLower = true
  · rw [if_pos hbc]
    refine (mkMesh?_ok_iff _ _ _ _ _).mpr ⟨hm.2.1, hm.2.2, hbc, fun p hp => ?_, ?_⟩
    · cases m; exact candOk_of_fits _ hm p.2 (hs p hp).2.2.2
    · -- the subregions carry the stamp already
      exact congrArg (fun l => ({ m with bc := m.bc.toLower, subs := l } : Mesh)) (map_restamp_of_subInv m hs m.region rfl rfl rfl).symm
  · rw [if_neg hbc]
    cases h : remake m with
    | error e => rw [mkMesh?_error _ _ _ _ e h]
    | ok m' => exact absurd ((mkMesh?_ok_iff _ _ _ _ _).mp h).2.2.1 hbc

theorem remake_fix (m : Mesh) (hm : m.Inv) (hs : SubInv m) (hl : m.bc.toLower = m.bc) (hb : Mesh.bcOk m.region.dims m.bc = true) :
    remake m = .ok m := by
  rw [remake_eq m hm hs, hl, if_pos hb]

/-! ## the non-periodic boundary conditions -/

/-- `bc` names no periodic direction -/
def PlainBc (bc : String) : Prop := bc = "" ∨ bc = "neumann" ∨ bc = "dirichlet"

/-- the test `rotBc` and the `bc` check make -/
theorem plainBc_iff (bc : String) : (bc == "neumann" || bc == "dirichlet" || bc == "") = true ↔ PlainBc bc := by
  unfold PlainBc
  simp only [Bool.or_eq_true, beq_iff_eq]
  constructor
  · rintro ((h | h) | h)
    · exact Or.inr (Or.inl h)
    · exact Or.inr (Or.inr h)
    · exact Or.inl h
  · rintro (h | h | h)
    · exact Or.inr h
    · exact Or.inl (Or.inl h)
    · exact Or.inl (Or.inr h)

theorem plainBc_toList (bc : String) : PlainBc bc ↔ bc.toList = [] ∨ bc.toList = "neumann".toList ∨ bc.toList = "dirichlet".toList := by
  unfold PlainBc
  have h0 : ("" : String).toList = [] := by decide
  constructor
  · rintro (h | h | h) <;> subst h
    · exact Or.inl h0
    · exact Or.inr (Or.inl rfl)
    · exact Or.inr (Or.inr rfl)
  · rintro (h | h | h)
    · left; rw [← String.toList_inj, h, h0]
    · right; left; exact String.toList_inj.mp h
    · right; right; exact String.toList_inj.mp h

theorem plainBc_lower (bc : String) (h : PlainBc bc) : bc.toLower = bc := by
  rcases h with rfl | rfl | rfl
  · decide +kernel
  · decide +kernel
  · decide +kernel

/-- the guard of `rotBc` asks for a `bc` that is none of the three -/
theorem plainBc_rot (bc a1 a2 : String) (k : Int) (h : PlainBc bc) : rotBc bc a1 a2 k = bc := by
  unfold rotBc
  rw [(plainBc_iff bc).mpr h]
  simp

theorem rotBc_even (bc a1 a2 : String) (k : Int) (hk : isOdd k = false) : rotBc bc a1 a2 k = bc := by
  unfold rotBc; rw [hk]; rfl

theorem plainBc_op (m : Mesh) (op : Op) (h : PlainBc m.bc) : opBc m op = m.bc := by
  cases op with
  | translate | scale => rfl
  | rotate90 a1 a2 k r i => exact plainBc_rot _ _ _ _ h

/-! ## copying ⇒ in place -/

/-- if the copying form of a mesh step is accepted, the receiver is left
untouched, the in-place form is accepted too, and the returned mesh is the in-place state with
`bc` lower-cased by the constructor -/
theorem stepM_copy_to_inplace (m : Mesh) (hm : m.Inv) (hs : SubInv m) (op : Op) (recv ret : Mesh)
    (h : stepM m (op.withInplace false) = .ok (recv, ret)) :
    recv = m ∧ ∃ T, stepM m (op.withInplace true) = .ok (T, T) ∧ ret = { T with bc := T.bc.toLower } := by
  have hp := subsProper_of_subInv m hm hs
  obtain ⟨hmal, h2⟩ := (stepM_spec m hm hp _ _ _).mp h
  rw [inplace_withInplace, if_neg Bool.false_ne_true, applyM_withInplace, malformed_withInplace] at *
  rw [remake_eq _ (applyM_inv m hm op hmal) (applyM_subInv m hm hs op hmal)] at h2
  refine ⟨h2.1, applyM m op, stepM_assign m hm hp op hmal, ?_⟩
  have h3 := h2.2
  split at h3
  · exact (Except.ok.inj h3).symm
  · cases h3

end DFV.T
