import Mathlib.Algebra.Ring.Hom.Defs
import Mathlib.Algebra.Ring.Rat
import Mathlib.Tactic.LinearCombination
import DFV.Lemmas.C11Root
import DFV.Lemmas.C11Nat
/-!
C11: evaluation of the driver's formal root-of-unity arithmetic (`Poly`, `Model/C11.lean`) into an arbitrary
commutative ring: `ev.eval d p = Σ_terms (q re + q im · I) · Π_{a<d} ζ_a^(e_a)` for a ring homomorphism `q : ℚ → R`, an
`I` with `I·I = -1` and one `ζ a` per axis (`Ev R`).  The arithmetic is sound for ANY `ζ` (`eval_isHom`); `Poly.conj` and
the printed dense form need `ζ_a^(n_a) = 1`; the formal roots `Poly.roots ns` evaluate to roots in the sense of `Roots`
when every `ζ_a` is a primitive `n_a`-th root of unity (`PrimRoot`).

`Mathlib.Tactic.LinearCombination` is imported for one step, `coef_mul`: the product of two coefficients is the
ring identity plus a multiple of `I·I = -1`, and that is how the proof says it.
-/
namespace DFV.C11
open DFV

variable {R : Type} [CommRing R]

/-! ### evaluation data and evaluation -/

/-- where the formal symbols go: rationals through `q`, the imaginary unit to `I`, the formal
root of axis `a` to `ζ a` -/
structure Ev (R : Type) [CommRing R] where
  q : ℚ →+* R
  I : R
  I_sq : I * I = -1
  ζ : Nat → R

namespace Ev
variable (ev : Ev R)

/-- value of a Gaussian-rational coefficient `re + i·im` -/
def coef (re im : Rat) : R := ev.q re + ev.q im * ev.I

/-- value of the monomial with exponent vector `e` among `d` axes: `Π_{a<d} ζ_a^(e_a)` -/
def mono (d : Nat) (e : List Nat) : R := prodN d fun a => ev.ζ a ^ e.getD a 0

def term (d : Nat) (t : List Nat × Rat × Rat) : R := ev.coef t.2.1 t.2.2 * ev.mono d t.1

def evalL (d : Nat) : List (List Nat × Rat × Rat) → R
  | [] => 0
  | t :: ts => ev.term d t + evalL d ts

/-- value of a formal combination -/
def eval (d : Nat) (p : Poly) : R := ev.evalL d p.terms

theorem coef_add (a b c e : Rat) : ev.coef (a + c) (b + e) = ev.coef a b + ev.coef c e := by
  simp only [coef, map_add]; ring

theorem coef_zero : ev.coef 0 0 = 0 := by simp [coef]

theorem coef_mul (a b c e : Rat) :
    ev.coef a b * ev.coef c e = ev.coef (a * c - b * e) (a * e + b * c) := by
  simp only [coef, map_add, map_sub, map_mul]
  linear_combination (ev.q b * ev.q e) * ev.I_sq

theorem addExp_nil_right (x : List Nat) : addExp x [] = x := by
  cases x <;> simp [addExp]

theorem addExp_getD (x y : List Nat) (a : Nat) : (addExp x y).getD a 0 = x.getD a 0 + y.getD a 0 := by
  induction x generalizing y a with
  | nil => simp [addExp]
  | cons x xs ih =>
    cases y with
    | nil => simp [addExp]
    | cons y ys =>
      cases a with
      | zero => simp [addExp]
      | succ a => simpa [addExp] using ih ys a

theorem mono_addExp (d : Nat) (x y : List Nat) : ev.mono d (addExp x y) = ev.mono d x * ev.mono d y := by
  unfold mono
  rw [← prodN_mul]
  apply prodN_congr
  intro a _
  rw [addExp_getD, pow_add]

theorem mono_nil (d : Nat) : ev.mono d [] = 1 := by
  unfold mono
  rw [prodN_congr d _ (fun _ => 1) (fun a _ => by simp), prodN_one]

theorem evalL_append (d : Nat) (xs ys : List (List Nat × Rat × Rat)) :
    ev.evalL d (xs ++ ys) = ev.evalL d xs + ev.evalL d ys := by
  induction xs with
  | nil => simp [evalL]
  | cons x xs ih => simp only [List.cons_append, evalL, ih]; ring

/-- the product of two terms, as the `Mul Poly` instance forms it -/
def mulT (t1 t2 : List Nat × Rat × Rat) : List Nat × Rat × Rat :=
  (addExp t1.1 t2.1, t1.2.1 * t2.2.1 - t1.2.2 * t2.2.2, t1.2.1 * t2.2.2 + t1.2.2 * t2.2.1)

theorem term_mulT (d : Nat) (t1 t2 : List Nat × Rat × Rat) :
    ev.term d (mulT t1 t2) = ev.term d t1 * ev.term d t2 := by
  simp only [term, mulT, mono_addExp, ← coef_mul]; ring

theorem evalL_map_mulT (d : Nat) (t1 : List Nat × Rat × Rat) (ts : List (List Nat × Rat × Rat)) :
    ev.evalL d (ts.map (mulT t1)) = ev.term d t1 * ev.evalL d ts := by
  induction ts with
  | nil => simp [evalL]
  | cons t ts ih => simp only [List.map_cons, evalL, ih, term_mulT]; ring

theorem evalL_flatMap (d : Nat) (xs ys : List (List Nat × Rat × Rat)) :
    ev.evalL d (xs.flatMap fun t1 => ys.map (mulT t1)) = ev.evalL d xs * ev.evalL d ys := by
  induction xs with
  | nil => simp [evalL]
  | cons x xs ih => simp only [List.flatMap_cons, evalL_append, evalL_map_mulT, ih, evalL]; ring

theorem eval_zero (d : Nat) : ev.eval d 0 = 0 := rfl

theorem eval_one (d : Nat) : ev.eval d 1 = 1 := by
  show ev.evalL d [([], 1, 0)] = 1
  simp [evalL, term, coef, mono_nil]

theorem eval_add (d : Nat) (a b : Poly) : ev.eval d (a + b) = ev.eval d a + ev.eval d b :=
  ev.evalL_append d a.terms b.terms

theorem eval_mul (d : Nat) (a b : Poly) : ev.eval d (a * b) = ev.eval d a * ev.eval d b :=
  ev.evalL_flatMap d a.terms b.terms

/-- **the formal arithmetic is sound**: evaluation preserves `0 1 + *`, whatever the `ζ_a` are -/
theorem eval_isHom (d : Nat) : IsHom (ev.eval d) :=
  ⟨ev.eval_zero d, ev.eval_one d, ev.eval_add d, ev.eval_mul d⟩

theorem eval_const (d : Nat) (re im : Rat) : ev.eval d (Poly.const re im) = ev.coef re im := by
  show ev.evalL d [([], re, im)] = _
  simp [evalL, term, mono_nil]

theorem getD_replicate_append (a k b : Nat) :
    (List.replicate a 0 ++ [k]).getD b 0 = if b = a then k else 0 := by
  induction a generalizing b with
  | zero =>
    cases b with
    | zero => simp
    | succ b => simp
  | succ a ih =>
    cases b with
    | zero => simp [List.replicate_succ]
    | succ b => simpa [List.replicate_succ] using ih b

theorem eval_mono (d a k : Nat) (ha : a < d) : ev.eval d (Poly.mono a k) = ev.ζ a ^ k := by
  show ev.evalL d [(List.replicate a 0 ++ [k], 1, 0)] = _
  simp only [evalL, term, coef, map_one, map_zero, zero_mul, add_zero, one_mul, mono]
  rw [prodN_single d _ a ha (fun i _ hne => by rw [getD_replicate_append, if_neg hne, pow_zero]),
    getD_replicate_append, if_pos rfl]

/-- the values of the driver's formal root parameters of axis `a` with `n` samples -/
def root (a n : Nat) : Root R := ⟨ev.ζ a, ev.ζ a ^ (n - 1), ev.q (1 / (n : Rat))⟩

theorem eval_root (d a n : Nat) (ha : a < d) : Root.map (ev.eval d) (Poly.root a n) = ev.root a n := by
  simp only [Root.map, Poly.root, root, eval_mono _ _ _ _ ha, eval_const, coef, map_zero, zero_mul, add_zero,
    pow_one]

/-- the values of `Poly.roots ns` -/
def roots (ns : List Nat) : List (Root R) := tab ns.length fun a => ev.root a (ns.getD a 1)

theorem eval_roots (ns : List Nat) :
    (Poly.roots ns).map (Root.map (ev.eval ns.length)) = ev.roots ns := by
  unfold Poly.roots roots
  rw [tab_map]
  apply tab_congr
  intro a ha
  exact ev.eval_root _ _ _ ha

end Ev

/-! ### primitive roots: the formal roots evaluate to roots in the sense of `Roots` -/

/-- `z` is a primitive `n`-th root of unity, in the form the value theorems use -/
structure PrimRoot (n : Nat) (z : R) : Prop where
  pow_n : z ^ n = 1
  orth : ∀ k, 0 < k → k < n → sumN n (fun j => z ^ (j * k)) = 0

theorem Ev.root_isRoot (ev : Ev R) (a n : Nat) (hn : 0 < n) (h : PrimRoot n (ev.ζ a)) : IsRoot n (ev.root a n) := by
  refine ⟨h.pow_n, ?_, ?_, h.orth⟩
  · show ev.ζ a * ev.ζ a ^ (n - 1) = 1
    rw [← pow_succ', Nat.sub_add_cancel hn]; exact h.pow_n
  · show ev.q (1 / (n : Rat)) * (n : R) = 1
    have hn0 : (n : ℚ) ≠ 0 := by exact_mod_cast (Nat.pos_iff_ne_zero.mp hn)
    rw [← map_natCast ev.q n, ← map_mul, one_div, inv_mul_cancel₀ hn0, map_one]

theorem getD_one_eq (ns : List Nat) (a : Nat) (ha : a < ns.length) : ns.getD a 1 = ns.getD a 0 := by
  simp [List.getD_eq_getElem?_getD, ha]

theorem Ev.rootAt_roots (ev : Ev R) (ns : List Nat) (a : Nat) (ha : a < ns.length) :
    rootAt (ev.roots ns) a = ev.root a (ns.getD a 1) := getD_tab _ _ _ _ ha

/-- every axis has a positive count and a primitive root -/
def PrimRoots (ev : Ev R) (ns : List Nat) : Prop :=
  ∀ a, a < ns.length → 0 < ns.getD a 1 ∧ PrimRoot (ns.getD a 1) (ev.ζ a)

theorem Ev.roots_Roots (ev : Ev R) (ns : List Nat) (h : PrimRoots ev ns) : Roots ns (ev.roots ns) :=
  (Roots_iff _ _).mpr fun a ha => by
    rw [ev.rootAt_roots ns a ha, ← getD_one_eq ns a ha]; exact ev.root_isRoot a _ (h a ha).1 (h a ha).2

/-! ### conjugation -/

/-- `z^((n - e mod n) mod n) = z⁻¹^e` when `z^n = 1` -/
theorem pow_neg_mod (z zi : R) (n e : Nat) (hn : 0 < n) (hz : z ^ n = 1) (hi : z * zi = 1) :
    z ^ ((n - e % n) % n) = zi ^ e := by
  have h1 : z ^ ((n - e % n) % n) * z ^ e = 1 := by
    rw [← pow_add, pow_eq_pow_mod _ hz]
    have : ((n - e % n) % n + e) % n = 0 := by
      have hlt : e % n < n := Nat.mod_lt _ hn
      have h0 : ((n - e % n) % n + e) % n = ((n - e % n) + e % n) % n := by
        rw [Nat.add_mod, Nat.mod_mod, Nat.add_mod (n - e % n) (e % n) n, Nat.mod_mod]
      have : n - e % n + e % n = n := by omega
      rw [h0, this, Nat.mod_self]
    rw [this, pow_zero]
  exact left_inverse_unique h1 (by rw [← mul_pow, mul_comm, hi, one_pow])

/-- the hypotheses on a conjugation of `R` relative to the evaluation data: a ring
endomorphism fixing the rationals, negating `I` and inverting every `ζ_a` (a < d) -/
structure Ev.ConjOK (ev : Ev R) (conj : R → R) (d : Nat) : Prop where
  isConj : IsConj conj
  fix_q : ∀ x, conj (ev.q x) = ev.q x
  neg_I : conj ev.I = -ev.I
  inv_ζ : ∀ a, a < d → ev.ζ a * conj (ev.ζ a) = 1

theorem Ev.conj_term (ev : Ev R) (conj : R → R) (ns : List Nat) (hc : ev.ConjOK conj ns.length)
    (hpos : ∀ a, a < ns.length → 0 < ns.getD a 1) (hζ : ∀ a, a < ns.length → ev.ζ a ^ ns.getD a 1 = 1)
    (t : List Nat × Rat × Rat) :
    ev.term ns.length
        (tab ns.length (fun a => (ns.getD a 1 - t.1.getD a 0 % ns.getD a 1) % ns.getD a 1), t.2.1, -t.2.2)
      = conj (ev.term ns.length t) := by
  simp only [Ev.term]
  rw [hc.isConj.map_mul]
  congr 1
  · simp only [Ev.coef, hc.isConj.map_add, hc.isConj.map_mul, hc.fix_q, hc.neg_I, map_neg]; ring
  · unfold Ev.mono
    rw [hc.isConj.isHom.prodN]
    apply prodN_congr
    intro a ha
    rw [getD_tab _ _ _ _ ha, hc.isConj.isHom.pow]
    exact pow_neg_mod _ _ _ _ (hpos a ha) (hζ a ha) (hc.inv_ζ a ha)

/-- **`Poly.conj` is conjugation** once `ζ_a^(n_a) = 1` -/
theorem Ev.eval_conj (ev : Ev R) (conj : R → R) (ns : List Nat) (hc : ev.ConjOK conj ns.length)
    (hpos : ∀ a, a < ns.length → 0 < ns.getD a 1) (hζ : ∀ a, a < ns.length → ev.ζ a ^ ns.getD a 1 = 1)
    (p : Poly) : ev.eval ns.length (Poly.conj ns p) = conj (ev.eval ns.length p) := by
  unfold Ev.eval Poly.conj
  simp only
  induction p.terms with
  | nil => simp [Ev.evalL, hc.isConj.map_zero]
  | cons t ts ih =>
    simp only [List.map_cons, Ev.evalL, hc.isConj.map_add, ih]
    rw [ev.conj_term conj ns hc hpos hζ t]

theorem Ev.roots_ConjRoots (ev : Ev R) (conj : R → R) (ns : List Nat) (hc : ev.ConjOK conj ns.length)
    (hpos : ∀ a, a < ns.length → 0 < ns.getD a 1) (hζ : ∀ a, a < ns.length → ev.ζ a ^ ns.getD a 1 = 1) :
    ConjRoots conj ns (ev.roots ns) :=
  (ConjRoots_iff _ _ _).mpr fun a ha => by
    rw [ev.rootAt_roots ns a ha]
    show conj (ev.ζ a) = ev.ζ a ^ (ns.getD a 1 - 1)
    exact left_inverse_unique (z := ev.ζ a) (by rw [mul_comm]; exact hc.inv_ζ a ha)
      (by rw [← pow_succ, Nat.sub_add_cancel (hpos a ha)]; exact hζ a ha)

/-! ### collection of like monomials, exponents reduced mod the counts -/

theorem redExp_inRange (ns e : List Nat) (hpos : ∀ a, a < ns.length → 0 < ns.getD a 1) :
    inRange ns (Poly.redExp ns e) = true := by
  apply C01.inRange_of_getD _ _ (by simp [Poly.redExp])
  intro a ha
  rw [Poly.redExp, getD_tab _ _ _ _ ha, ← getD_one_eq ns a ha]
  exact Nat.mod_lt _ (hpos a ha)

theorem Ev.mono_redExp (ev : Ev R) (ns e : List Nat) (hζ : ∀ a, a < ns.length → ev.ζ a ^ ns.getD a 1 = 1) :
    ev.mono ns.length (Poly.redExp ns e) = ev.mono ns.length e := by
  unfold Ev.mono Poly.redExp
  apply prodN_congr
  intro a ha
  rw [getD_tab _ _ _ _ ha]
  exact (pow_eq_pow_mod _ (hζ a ha)).symm

/-- value of a dense coefficient table: `Σ_k c_k · ζ^(unflat k)` — what the harness computes
from the driver's output with `ζ_a = exp(-2πi/n_a)` -/
def Ev.evalDense (ev : Ev R) (ns : List Nat) (tbl : List (Rat × Rat)) : R :=
  sumN (natProd ns) fun k => ev.coef (tbl.getD k (0, 0)).1 (tbl.getD k (0, 0)).2 * ev.mono ns.length (unflatC ns k)

theorem Ev.coefAt_sum (ev : Ev R) (N : Nat) (Mo : Nat → R) (ts : List (Nat × Rat × Rat))
    (hts : ∀ t ∈ ts, t.1 < N) :
    sumN N (fun k => ev.coef (Poly.coefAt k ts).1 (Poly.coefAt k ts).2 * Mo k)
      = (ts.map fun t => ev.coef t.2.1 t.2.2 * Mo t.1).sum := by
  induction ts with
  | nil => simp [Poly.coefAt, ev.coef_zero, sumN_zero]
  | cons t ts ih =>
    have hstep : ∀ k, ev.coef (Poly.coefAt k (t :: ts)).1 (Poly.coefAt k (t :: ts)).2 * Mo k
        = (if k = t.1 then ev.coef t.2.1 t.2.2 * Mo k else 0)
          + ev.coef (Poly.coefAt k ts).1 (Poly.coefAt k ts).2 * Mo k := by
      intro k
      simp only [Poly.coefAt]
      by_cases hk : t.1 = k
      · rw [if_pos hk, if_pos hk.symm, ev.coef_add]; ring
      · rw [if_neg hk, if_neg (fun e => hk e.symm)]; ring
    rw [sumN_congr N _ _ (fun k _ => hstep k), sumN_add, ih (fun t' ht' => hts t' (by simp [ht'])),
      sumN_single N _ t.1 (hts t (by simp)) (fun i _ hne => by rw [if_neg hne])]
    simp

theorem Ev.evalL_eq_sum (ev : Ev R) (d : Nat) (ts : List (List Nat × Rat × Rat)) :
    ev.evalL d ts = (ts.map (ev.term d)).sum := by
  induction ts with
  | nil => simp [Ev.evalL]
  | cons t ts ih => simp [Ev.evalL, ih]

/-- **the printed form has the value of the combination**: collecting like monomials with
exponents reduced mod the counts does not change the value once `ζ_a^(n_a) = 1` -/
theorem Ev.evalDense_dense (ev : Ev R) (ns : List Nat) (hpos : ∀ a, a < ns.length → 0 < ns.getD a 1)
    (hζ : ∀ a, a < ns.length → ev.ζ a ^ ns.getD a 1 = 1) (p : Poly) :
    ev.evalDense ns (Poly.dense ns p) = ev.eval ns.length p := by
  unfold Ev.evalDense Poly.dense Poly.denseOf
  have hget : ∀ k, k < natProd ns →
      (tab (natProd ns) fun k => Poly.coefAt k (p.terms.map fun t => (flatC ns (Poly.redExp ns t.1), t.2.1, t.2.2))).getD k (0, 0)
        = Poly.coefAt k (p.terms.map fun t => (flatC ns (Poly.redExp ns t.1), t.2.1, t.2.2)) :=
    fun k hk => getD_tab _ _ _ _ hk
  rw [sumN_congr _ _ _ (fun k hk => by rw [hget k hk])]
  rw [ev.coefAt_sum (natProd ns) (fun k => ev.mono ns.length (unflatC ns k))]
  · rw [Ev.eval, ev.evalL_eq_sum, List.map_map]
    congr 1
    apply List.map_congr_left
    intro t _
    simp only [Function.comp, Ev.term]
    rw [unflatC_flatC ns _ (redExp_inRange ns t.1 hpos), ev.mono_redExp ns t.1 hζ]
  · intro t ht
    obtain ⟨t0, _, rfl⟩ := List.mem_map.mp ht
    exact flatC_lt ns _ (redExp_inRange ns t0.1 hpos)

/-- the printed table of a cell of a symbolic array evaluates to that cell of the evaluated array -/
theorem Ev.evalDense_cell (ev : Ev R) (ns : List Nat) (h : PrimRoots ev ns) (a : NDA (List Poly)) (c : Nat)
    (m : List Nat) :
    ev.evalDense ns (Poly.dense ns (compA a c m)) = compA (mapA (ev.eval ns.length) a) c m := by
  rw [ev.evalDense_dense ns (fun a ha => (h a ha).1) (fun a ha => (h a ha).2.pow_n),
    compA_mapA (ev.eval_isHom ns.length)]

end DFV.C11
