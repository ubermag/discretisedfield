import DFV.Lemmas.C02Basic
/-! C02: leaves — everything `_as_array` takes except a dictionary.  A leaf is accepted exactly when it
is well formed (`Leaf.WF`, a condition on the inputs alone) and is then converted to `leafArr`
(`asLeaf_eq_ok_iff`); a malformed leaf is rejected with the error `leafErr` (`asLeaf_of_not_wf`); what `leafArr`
holds is said kind by kind. -/
namespace DFV.C02
open DFV DFV.Mesh

variable {V : Type} [Inhabited V]

/-- WELL-FORMED leaf specification on mesh `m` for `nv` components, stated on the inputs alone:
a number for a scalar field (or the number zero), an array of the cells' shape for a scalar field or
one whose last axis is `nv` and which NumPy can broadcast to `(*n, nv)`, a function returning `nv`
numbers at every cell centre, a field with `nv` components and the same dimension names whose region
contains the mesh's. -/
def Leaf.WF (isZero : V → Bool) (l : Leaf V) (m : Mesh) (nv : Nat) : Prop :=
  match l with
  | .bad => False
  | .scalar v => nv ≤ 1 ∨ isZero v = true
  | .arr a => (nv = 1 ∧ a.shape = m.n) ∨ (a.shape.getLast? = some nv ∧ bcastOk (m.n ++ [nv]) a.shape = true)
  | .func f => ∀ i, inRange m.n i = true → (f (m.centre i)).length = nv
  | .field src => src.mesh.region.containsReg m.region = true ∧ src.nvdim = nv ∧
      m.region.dims = src.mesh.region.dims

/-- the array a well-formed leaf is converted to -/
def leafArr (l : Leaf V) (m : Mesh) (nv : Nat) : NDA V :=
  match l with
  | .bad => NDA.const [] default
  | .scalar v => NDA.const (m.n ++ [nv]) v
  | .arr a =>
    if nv = 1 ∧ a.shape = m.n then ⟨m.n ++ [1], fun j => a.get j.dropLast⟩
    else ⟨m.n ++ [nv], fun j => a.get (bcastIdx (m.n ++ [nv]) a.shape j)⟩
  | .func f => (indicesCode m.n).foldl (fun a i => setCell a i (f (m.centre i))) (NDA.const (m.n ++ [nv]) default)
  | .field src =>
    ⟨m.n ++ [src.nvdim], fun j => src.data.get (nearestIdx src.mesh m j.dropLast ++ [j.getLastD 0])⟩

/-- ACCEPTANCE AND RESULT OF A LEAF in one statement; the theorems about constants, arrays, callables and
source fields are its instances -/
theorem asLeaf_eq_ok_iff (isZero : V → Bool) (l : Leaf V) (m : Mesh) (nv : Nat) (a : NDA V) :
    asLeaf isZero l m nv = .ok a ↔ Leaf.WF isZero l m nv ∧ a = leafArr l m nv := by
  cases l with
  | bad => exact ⟨nofun, fun h => h.1.elim⟩
  | scalar v =>
    -- the guard is the negation of the condition
    have : (1 < nv ∧ isZero v = false) ↔ ¬ (nv ≤ 1 ∨ isZero v = true) := by
      rw [not_or, Nat.not_le, Bool.not_eq_true]
    simp only [asLeaf, Leaf.WF, leafArr, this, guard_ok_iff, not_not, Except.ok.injEq, eq_comm (a := a)]
  | arr arr =>
    -- first disjunct: the cell-shaped array of a scalar field; second: the two guards on the last axis and the shape
    simp only [asLeaf, Leaf.WF, leafArr, bcast]
    by_cases h1 : nv = 1 ∧ arr.shape = m.n
    · rw [if_pos h1, if_pos h1, Except.ok.injEq, eq_comm]; exact (and_iff_right (Or.inl h1)).symm
    · rw [if_neg h1, if_neg h1, guard_ok_iff, not_not, or_iff_right h1, and_assoc]
      refine and_congr_right fun _ => ?_
      by_cases hb : bcastOk (m.n ++ [nv]) arr.shape = true
      · rw [if_pos hb, Except.ok.injEq, eq_comm]; exact (and_iff_right hb).symm
      · rw [if_neg hb]; exact ⟨nofun, fun h => absurd h.1 hb⟩
  | func f =>
    -- the loop visits every cell together with its centre: `funcLoop_eq` read over the cells
    rw [asLeaf, funcLoop_eq]
    by_cases h : Leaf.WF isZero (.func f) m nv
    · rw [if_pos ((forall_mem_zip_iter m fun p => (f p.2).length = nv).mpr h), and_iff_right h, Except.ok.injEq, eq_comm, zip_iter, List.foldl_map]; rfl
    · rw [if_neg (mt (forall_mem_zip_iter m fun p => (f p.2).length = nv).mp h)]; exact ⟨nofun, fun hh => absurd hh.1 h⟩
  | field src =>
    -- the three guards — region, component count, dimension names — are the three conjuncts, in this order
    simp only [asLeaf, Leaf.WF, leafArr, guard_ok_iff, Bool.not_eq_true', Bool.not_eq_false, not_not,
      Except.ok.injEq, eq_comm (a := a), and_assoc]

theorem asLeaf_ok_of_wf (isZero : V → Bool) (l : Leaf V) (m : Mesh) (nv : Nat) (h : Leaf.WF isZero l m nv) :
    asLeaf isZero l m nv = .ok (leafArr l m nv) :=
  (asLeaf_eq_ok_iff isZero l m nv _).mpr ⟨h, rfl⟩

theorem wf_of_asLeaf_ok (isZero : V → Bool) (l : Leaf V) (m : Mesh) (nv : Nat) (a : NDA V)
    (h : asLeaf isZero l m nv = .ok a) : Leaf.WF isZero l m nv :=
  ((asLeaf_eq_ok_iff isZero l m nv a).mp h).1

/-- the error a malformed leaf raises: `TypeError` for a value of no known kind, `KeyError` for a field that fits in
region and component count but names its dimensions otherwise, `ValueError` in every other case -/
def leafErr (l : Leaf V) (m : Mesh) (nv : Nat) : Err :=
  match l with
  | .bad => .type
  | .field src => if src.mesh.region.containsReg m.region = true ∧ src.nvdim = nv then .key else .value
  | _ => .value

/-- REJECTION OF A LEAF in one statement; the theorems about rejected constants, arrays, callables and source
fields are its instances -/
theorem asLeaf_of_not_wf (isZero : V → Bool) (l : Leaf V) (m : Mesh) (nv : Nat)
    (h : ¬ Leaf.WF isZero l m nv) : asLeaf isZero l m nv = .error (leafErr l m nv) := by
  cases l with
  | bad => rfl
  | scalar v =>
    rw [Leaf.WF, not_or, Nat.not_le, Bool.not_eq_true] at h
    rw [asLeaf, if_pos h]; rfl
  | arr arr =>
    -- neither the cell-shaped array of a scalar field, nor (last axis `nv` and broadcastable)
    rw [Leaf.WF, not_or] at h
    rw [asLeaf, if_neg h.1]
    by_cases hl : arr.shape.getLast? = some nv
    · rw [if_neg (not_not.mpr hl), bcast, if_neg fun hb => h.2 ⟨hl, hb⟩]; rfl
    · rw [if_pos hl]; rfl
  | func f =>
    rw [asLeaf, funcLoop_eq, if_neg (mt (forall_mem_zip_iter m fun p => (f p.2).length = nv).mp h)]; rfl
  | field src =>
    -- the three guards in the order of the code: region, component count, dimension names
    rw [asLeaf, leafErr]
    by_cases h1 : src.mesh.region.containsReg m.region = true
    · by_cases h2 : src.nvdim = nv
      · rw [if_neg (by simpa using h1), if_neg (not_not.mpr h2), if_pos fun h3 => h ⟨h1, h2, h3⟩, if_pos ⟨h1, h2⟩]
      · rw [if_neg (by simpa using h1), if_pos h2, if_neg fun hh => h2 hh.2]
    · rw [if_pos (by simpa using h1), if_neg fun hh => h1 hh.1]

theorem asLeaf_err_of_not_wf (isZero : V → Bool) (l : Leaf V) (m : Mesh) (nv : Nat)
    (h : ¬ Leaf.WF isZero l m nv) : ∃ e, asLeaf isZero l m nv = .error e :=
  ⟨_, asLeaf_of_not_wf isZero l m nv h⟩

/-! ### what `leafArr` holds -/

theorem leafArr_shape (isZero : V → Bool) (l : Leaf V) (m : Mesh) (nv : Nat) (h : Leaf.WF isZero l m nv) :
    (leafArr l m nv).shape = m.n ++ [nv] := by
  cases l with
  | bad => exact h.elim
  | scalar v => rfl
  | arr a =>
    simp only [leafArr]
    split
    · rename_i h1; rw [h1.1]
    · rfl
  | func f => exact foldl_setCell_shape _ _ _
  | field src => exact congrArg (m.n ++ [·]) h.2.1

theorem asLeaf_shape (isZero : V → Bool) (l : Leaf V) (sm : Mesh) (nv : Nat) (sub : NDA V)
    (h : asLeaf isZero l sm nv = .ok sub) : sub.shape = sm.n ++ [nv] := by
  obtain ⟨hwf, rfl⟩ := (asLeaf_eq_ok_iff isZero l sm nv sub).mp h
  exact leafArr_shape isZero l sm nv hwf

theorem leafArr_arr_cells (a : NDA V) (m : Mesh) (nv : Nat) (h : nv = 1 ∧ a.shape = m.n) :
    leafArr (.arr a) m nv = ⟨m.n ++ [1], fun j => a.get j.dropLast⟩ :=
  if_pos h

theorem leafArr_arr_bcast (a : NDA V) (m : Mesh) (nv : Nat) (h : ¬ (nv = 1 ∧ a.shape = m.n)) :
    leafArr (.arr a) m nv = ⟨m.n ++ [nv], fun j => a.get (bcastIdx (m.n ++ [nv]) a.shape j)⟩ :=
  if_neg h

theorem leafArr_func_get (f : List Rat → List V) (m : Mesh) (nv : Nat) (i : List Nat) (hi : inRange m.n i = true)
    (c : Nat) : (leafArr (.func f) m nv).get (i ++ [c]) = (f (m.centre i)).getD c default :=
  (foldl_setCell_get _ _ _ i c).trans (if_pos ((mem_indicesCode _ _).mpr hi))

theorem asLeaf_arr_full (isZero : V → Bool) (a : NDA V) (m : Mesh) (nv : Nat) (hs : a.shape = m.n ++ [nv]) :
    ∃ b, asLeaf isZero (.arr a) m nv = .ok b ∧ b.shape = m.n ++ [nv] ∧
      ∀ j, inRange (m.n ++ [nv]) j = true → b.get j = a.get j := by
  have h1 : ¬ (nv = 1 ∧ a.shape = m.n) := fun h => by simpa using congrArg List.length (hs.symm.trans h.2)
  refine ⟨_, asLeaf_ok_of_wf isZero (.arr a) m nv (Or.inr ⟨by rw [hs]; simp, hs ▸ bcastOk_self _⟩), ?_⟩
  rw [leafArr_arr_bcast a m nv h1]
  exact ⟨rfl, fun j hj => by show a.get (bcastIdx _ a.shape j) = _; rw [hs, bcastIdx_self _ j hj]⟩

end DFV.C02
