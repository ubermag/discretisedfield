import DFV.Lemmas.C11Root
/-!
C11: the n-dimensional transforms `dftN` / `idftN` over a commutative ring — as one sum over the
box with a phase factor, linearity, zero frequency, inversion, the inverse transform as the forward
one at the inverse roots (`idftN_eq_dftN`), the phase at the shifted indices of the arrays
(`phase`, `phaseR`), Plancherel/Parseval, the transform of a single-cell field and of a cyclically
translated one.  The phase factors are products over the axes (`twProd_eq_prodN`, `phase_eq_prodN`,
`phaseR_eq_prodN`, `ninvProd_eq_prodN`): a one-axis identity passes to them by `prodN_congr`.
-/
namespace DFV.C11
open DFV

variable {R : Type} [CommRing R]

/-- the phase factor `Π_a w_a^(m_a·r_a)` (exponents reduced mod `n_a`) -/
def twProd : List (Root R) → List Nat → List Nat → List Nat → R
  | _, [], _, _ => 1
  | ρs, n :: ns, m, r => tw (ρs.headD ⟨1, 1, 1⟩).w n (m.headD 0) (r.headD 0) * twProd ρs.tail ns m.tail r.tail

theorem twProd_eq_prodN (ρs : List (Root R)) (ns m r : List Nat) :
    twProd ρs ns m r = prodN ns.length fun a => tw (rootAt ρs a).w (ns.getD a 0) (m.getD a 0) (r.getD a 0) := by
  induction ns generalizing ρs m r with
  | nil => rfl
  | cons n ns ih =>
    rw [twProd, ih, List.length_cons, prodN_succ_front]
    simp only [rootAt_zero, rootAt_succ, headD_eq_getD, getD_tail, List.getD_cons_zero, List.getD_cons_succ]

theorem twProd_comm (ρs : List (Root R)) (ns m r : List Nat) : twProd ρs ns m r = twProd ρs ns r m := by
  rw [twProd_eq_prodN, twProd_eq_prodN]
  exact prodN_congr _ _ _ fun a _ => tw_comm _ _ _ _

/-- the transform is the sum over all cells of value × phase factor -/
theorem dftN_eq_sumBox (ρs : List (Root R)) (ns : List Nat) (f : List Nat → R) (m : List Nat) :
    dftN ρs ns f m = sumBox ns fun r => f r * twProd ρs ns m r := by
  induction ns generalizing ρs f m with
  | nil => simp [dftN, sumBox, twProd]
  | cons n ns ih =>
    rw [dftN_cons]
    simp only [sumBox]
    apply sumN_congr
    intro r _
    rw [ih, ← sumBox_mul_right]
    apply sumBox_congr
    intro rs _
    simp only [twProd, List.headD_cons, List.tail_cons]
    ring

theorem dftN_congr (ρs : List (Root R)) (ns : List Nat) (f g : List Nat → R) (m : List Nat)
    (h : ∀ i, inRange ns i = true → f i = g i) : dftN ρs ns f m = dftN ρs ns g m := by
  rw [dftN_eq_sumBox, dftN_eq_sumBox]
  apply sumBox_congr
  intro i hi; rw [h i hi]

theorem dftN_linear (ρs : List (Root R)) (ns : List Nat) (f g : List Nat → R) (α β : R) (m : List Nat) :
    dftN ρs ns (fun i => α * f i + β * g i) m = α * dftN ρs ns f m + β * dftN ρs ns g m := by
  simp only [dftN_eq_sumBox]
  rw [← sumBox_mul_left, ← sumBox_mul_left, ← sumBox_add]
  exact sumBox_congr _ _ _ fun r _ => by ring

theorem dftN_mul_left (ρs : List (Root R)) (ns : List Nat) (f : List Nat → R) (c : R) (m : List Nat) :
    dftN ρs ns (fun i => c * f i) m = c * dftN ρs ns f m := by
  simpa using dftN_linear ρs ns f f c 0 m

theorem dftN_sumN (ρs : List (Root R)) (ns : List Nat) (n : Nat) (F : Nat → List Nat → R) (m : List Nat) :
    dftN ρs ns (fun js => sumN n fun r => F r js) m = sumN n fun r => dftN ρs ns (F r) m := by
  simp only [dftN_eq_sumBox, ← sumN_mul_right]
  exact sumBox_sumN ns n _

theorem dftN_sumBox (ρs : List (Root R)) (ns bs : List Nat) (F : List Nat → List Nat → R) (m : List Nat) :
    dftN ρs ns (fun j => sumBox bs fun r => F r j) m = sumBox bs fun r => dftN ρs ns (F r) m := by
  induction bs generalizing F with
  | nil => rfl
  | cons b bs ih =>
    simp only [sumBox]
    rw [dftN_sumN]
    exact sumN_congr _ _ _ fun r _ => ih fun rs => F (r :: rs)

theorem dftN_zero (ρs : List (Root R)) (ns : List Nat) (f : List Nat → R) (m : List Nat)
    (hm : ∀ a, m.getD a 0 = 0) : dftN ρs ns f m = sumBox ns f := by
  rw [dftN_eq_sumBox]
  apply sumBox_congr
  intro i _
  rw [twProd_eq_prodN, prodN_congr _ _ (fun _ => 1) (fun a _ => by rw [hm a, tw_zero]), prodN_one, mul_one]

/-! ### inversion -/

/-- inverse ∘ forward = identity, from the orthogonality hypothesis, for any number of axes -/
theorem idftN_dftN (ρs : List (Root R)) (ns : List Nat) (hρ : Roots ns ρs) (f : List Nat → R)
    (j : List Nat) (hj : inRange ns j = true) : idftN ρs ns (dftN ρs ns f) j = f j := by
  induction ns generalizing ρs f j with
  | nil =>
    cases j with
    | nil => rfl
    | cons x xs => simp [inRange] at hj
  | cons n ns ih =>
    cases j with
    | nil => simp [inRange] at hj
    | cons j0 js =>
      rw [inRange_cons] at hj
      obtain ⟨hr, hrs⟩ := hρ
      rw [idftN_cons]
      simp only [dftN_cons, List.headD_cons, List.tail_cons]
      -- the first axis is inverted under the transform of the other axes
      have h1 : (fun ms => (ρs.headD ⟨1, 1, 1⟩).ninv * sumN n fun k =>
            (sumN n fun r => dftN ρs.tail ns (fun rs => f (r :: rs)) ms * tw (ρs.headD ⟨1, 1, 1⟩).w n k r) *
              tw (ρs.headD ⟨1, 1, 1⟩).wi n j0 k)
          = dftN ρs.tail ns fun rs => f (j0 :: rs) :=
        funext fun ms => hr.inv_fwd (fun r => dftN ρs.tail ns (fun rs => f (r :: rs)) ms) j0 hj.1
      rw [h1]
      exact ih ρs.tail hrs _ js hj.2

/-! ### the inverse transform is the forward transform at the inverse roots -/

/-- `Π_a (1/n_a)` -/
def ninvProd : List (Root R) → List Nat → R
  | _, [] => 1
  | ρs, _ :: ns => (ρs.headD ⟨1, 1, 1⟩).ninv * ninvProd ρs.tail ns

theorem ninvProd_eq_prodN (ρs : List (Root R)) (ns : List Nat) :
    ninvProd ρs ns = prodN ns.length fun a => (rootAt ρs a).ninv := by
  induction ns generalizing ρs with
  | nil => rfl
  | cons n ns ih =>
    rw [ninvProd, ih, List.length_cons, prodN_succ_front]
    simp only [rootAt_zero, rootAt_succ]

theorem ninvProd_swap (ρs : List (Root R)) (ns : List Nat) : ninvProd (ρs.map Root.swap) ns = ninvProd ρs ns := by
  rw [ninvProd_eq_prodN, ninvProd_eq_prodN]
  exact prodN_congr _ _ _ fun a _ => by rw [rootAt_swap]; rfl

/-- the axis-by-axis inverse is the forward transform with every root exchanged for its inverse, divided by the
number of cells; what is known about `dftN` applies to `idftN` through this equation -/
theorem idftN_eq_dftN (ρs : List (Root R)) (ns : List Nat) (F : List Nat → R) (j : List Nat) :
    idftN ρs ns F j = ninvProd ρs ns * dftN (ρs.map Root.swap) ns F j := by
  induction ns generalizing ρs F j with
  | nil => simp [idftN, dftN, ninvProd]
  | cons n ns ih =>
    -- the inverse of the first axis sits inside the inverse of the others: pull it out by linearity
    rw [idftN_cons, ih, dftN_mul_left, dftN_sumN, dftN_cons, headD_swap, ← List.map_tail, ninvProd, ← sumN_mul_left,
      ← sumN_mul_left, ← sumN_mul_left]
    apply sumN_congr
    intro k _
    rw [show (fun js => F (k :: js) * tw (ρs.headD ⟨1, 1, 1⟩).wi n (j.headD 0) k)
        = fun js => tw (ρs.headD ⟨1, 1, 1⟩).wi n (j.headD 0) k * F (k :: js) from funext fun _ => mul_comm _ _,
      dftN_mul_left]
    show _ = _ * (_ * tw (ρs.headD ⟨1, 1, 1⟩).wi n (j.headD 0) k)
    ring

theorem idftN_congr (ρs : List (Root R)) (ns : List Nat) (F G : List Nat → R) (j : List Nat)
    (h : ∀ i, inRange ns i = true → F i = G i) : idftN ρs ns F j = idftN ρs ns G j := by
  rw [idftN_eq_dftN, idftN_eq_dftN, dftN_congr _ ns F G j h]

/-- forward ∘ inverse = identity: `idftN_dftN` at the inverse roots -/
theorem dftN_idftN (ρs : List (Root R)) (ns : List Nat) (hρ : Roots ns ρs) (F : List Nat → R)
    (m : List Nat) (hm : inRange ns m = true) : dftN ρs ns (idftN ρs ns F) m = F m := by
  have h := idftN_dftN (ρs.map Root.swap) ns (Roots.swap ns ρs hρ) F m hm
  rwa [idftN_eq_dftN, Root.swap_swap, ninvProd_swap, ← dftN_mul_left, ← funext (idftN_eq_dftN ρs ns F)] at h

/-- the inverse transform as one sum over the k-box: `Π(1/n_a) · Σ_k F[k] · Π_a wi_a^(k_a j_a)` -/
theorem idftN_eq_sumBox (ρs : List (Root R)) (ns : List Nat) (F : List Nat → R) (j : List Nat) :
    idftN ρs ns F j = ninvProd ρs ns * sumBox ns fun k => F k * twProd (ρs.map Root.swap) ns k j := by
  rw [idftN_eq_dftN, dftN_eq_sumBox]
  simp only [twProd_comm _ ns j]

/-! ### the phase at the shifted indices -/

/-- `Π_a w_a^(m_a r_a) · wi_a^(⌊n_a/2⌋ r_a)`: the phase `exp(-2πi Σ_a (m_a - ⌊n_a/2⌋) r_a / n_a)` -/
def phase : List (Root R) → List Nat → List Nat → List Nat → R
  | _, [], _, _ => 1
  | ρs, n :: ns, m, r =>
    ((ρs.headD ⟨1, 1, 1⟩).w ^ (m.headD 0 * r.headD 0) * (ρs.headD ⟨1, 1, 1⟩).wi ^ (n / 2 * r.headD 0)) *
      phase ρs.tail ns m.tail r.tail

theorem phase_eq_prodN (ρs : List (Root R)) (ns m r : List Nat) :
    phase ρs ns m r = prodN ns.length fun a =>
      (rootAt ρs a).w ^ (m.getD a 0 * r.getD a 0) * (rootAt ρs a).wi ^ (ns.getD a 0 / 2 * r.getD a 0) := by
  induction ns generalizing ρs m r with
  | nil => rfl
  | cons n ns ih =>
    rw [phase, ih, List.length_cons, prodN_succ_front]
    simp only [rootAt_zero, rootAt_succ, headD_eq_getD, getD_tail, List.getD_cons_zero, List.getD_cons_succ]

theorem twProd_fshift (ρs : List (Root R)) (ns : List Nat) (hρ : Roots ns ρs) (m r : List Nat)
    (hm : inRange ns m = true) : twProd ρs ns (fshift ns m) r = phase ρs ns m r := by
  rw [twProd_eq_prodN, phase_eq_prodN]
  exact prodN_congr _ _ _ fun a ha => by
    rw [fshift_getD ns m (inRange_length _ _ hm) a ha]
    exact tw_shift ((Roots_iff _ _).mp hρ a ha) _ _ (inRange_getD ns m hm a ha)

/-- phase of the real transform: like `phase` on every axis but the last, where the index is
not shifted: `Π_{a<last} w_a^(m_a r_a)·wi_a^(⌊n_a/2⌋ r_a) · w_last^(m_last r_last)` -/
def phaseR : List (Root R) → List Nat → List Nat → List Nat → R
  | _, [], _, _ => 1
  | ρs, n :: ns, m, r =>
    (if ns = [] then (ρs.headD ⟨1, 1, 1⟩).w ^ (m.headD 0 * r.headD 0)
     else (ρs.headD ⟨1, 1, 1⟩).w ^ (m.headD 0 * r.headD 0) * (ρs.headD ⟨1, 1, 1⟩).wi ^ (n / 2 * r.headD 0)) *
      phaseR ρs.tail ns m.tail r.tail

theorem phaseR_eq_prodN (ρs : List (Root R)) (ns m r : List Nat) :
    phaseR ρs ns m r = prodN ns.length fun a =>
      if a + 1 = ns.length then (rootAt ρs a).w ^ (m.getD a 0 * r.getD a 0)
      else (rootAt ρs a).w ^ (m.getD a 0 * r.getD a 0) * (rootAt ρs a).wi ^ (ns.getD a 0 / 2 * r.getD a 0) := by
  induction ns generalizing ρs m r with
  | nil => rfl
  | cons n ns ih =>
    rw [phaseR, ih, List.length_cons, prodN_succ_front]
    simp only [rootAt_zero, rootAt_succ, headD_eq_getD, getD_tail, List.getD_cons_zero, List.getD_cons_succ,
      Nat.add_right_cancel_iff, List.length_eq_zero_iff.symm, eq_comm (a := 0)]

theorem twProd_fshiftR (ρs : List (Root R)) (ns : List Nat) (hρ : Roots ns ρs) (m r : List Nat)
    (hm : LeadIn ns m) : twProd ρs ns (fshiftR ns m) r = phaseR ρs ns m r := by
  rw [twProd_eq_prodN, phaseR_eq_prodN]
  refine prodN_congr _ _ _ fun a ha => ?_
  have hr := (Roots_iff _ _).mp hρ a ha
  rw [fshiftR_getD ns m a (hm.1 ▸ ha), hm.1]
  split
  · exact tw_eq _ _ _ _ hr.pow_n
  · exact tw_shift hr _ _ (hm.2 a (by omega))

/-! ### Plancherel / Parseval -/

/-- `ρs'` carries as `w` the inverse roots of `ρs` -/
def InvOf : List Nat → List (Root R) → List (Root R) → Prop
  | [], _, _ => True
  | _ :: ns, ρs, ρs' => (ρs'.headD ⟨1, 1, 1⟩).w = (ρs.headD ⟨1, 1, 1⟩).wi ∧ InvOf ns ρs.tail ρs'.tail


/-- **Plancherel, bilinear form**: `Σ_k F[k]·G'[k] = N · Σ_r f[r]·g[r]` where `F` is the
transform of `f` and `G'` the transform of `g` with the inverse roots -/
theorem plancherel (ρs ρs' : List (Root R)) (ns : List Nat) (hρ : Roots ns ρs) (hi : InvOf ns ρs ρs')
    (f g : List Nat → R) :
    sumBox ns (fun k => dftN ρs ns f k * dftN ρs' ns g k) = (natProd ns : R) * sumBox ns (fun r => f r * g r) := by
  induction ns generalizing ρs ρs' f g with
  | nil => simp [sumBox, dftN, natProd]
  | cons n ns ih =>
    obtain ⟨hr, hrs⟩ := hρ
    obtain ⟨hi0, his⟩ := hi
    simp only [sumBox, dftN_cons, List.headD_cons, List.tail_cons]
    have h2 := sumBox_sumN ns n (fun k0 ks =>
      (sumN n fun r => dftN ρs.tail ns (fun rs => f (r :: rs)) ks * tw (ρs.headD ⟨1, 1, 1⟩).w n k0 r) *
      (sumN n fun r => dftN ρs'.tail ns (fun rs => g (r :: rs)) ks * tw (ρs'.headD ⟨1, 1, 1⟩).w n k0 r))
    rw [← h2]
    rw [sumBox_congr ns _ (fun ks => (n : R) * sumN n fun r =>
        dftN ρs.tail ns (fun rs => f (r :: rs)) ks * dftN ρs'.tail ns (fun rs => g (r :: rs)) ks)
      (fun ks _ => by rw [hi0]; exact plancherel1 hr _ _)]
    rw [sumBox_mul_left, sumBox_sumN]
    rw [sumN_congr n _ _ (fun r _ => ih ρs.tail ρs'.tail hrs his (fun rs => f (r :: rs)) (fun rs => g (r :: rs)))]
    rw [sumN_mul_left]
    simp only [natProd]
    push_cast
    ring

theorem InvOf_conj (conj : R → R) (ns : List Nat) (ρs : List (Root R)) (hcr : ConjRoots conj ns ρs) :
    InvOf ns ρs (ρs.map (Root.map conj)) := by
  induction ns generalizing ρs with
  | nil => trivial
  | cons n ns ih =>
    obtain ⟨h0, hs⟩ := hcr
    refine ⟨?_, ?_⟩
    · cases ρs with
      | nil => rfl
      | cons ρ ρs => exact h0
    · rw [map_tail']; exact ih ρs.tail hs

/-- **Parseval / Plancherel with conjugation**: `Σ_k F[k]·conj G[k] = N · Σ_r f[r]·conj g[r]` -/
theorem parseval (conj : R → R) (hc : IsConj conj) (ρs : List (Root R)) (ns : List Nat) (hρ : Roots ns ρs)
    (hcr : ConjRoots conj ns ρs) (f g : List Nat → R) :
    sumBox ns (fun k => dftN ρs ns f k * conj (dftN ρs ns g k))
      = (natProd ns : R) * sumBox ns (fun r => f r * conj (g r)) := by
  rw [← plancherel ρs (ρs.map (Root.map conj)) ns hρ (InvOf_conj conj ns ρs hcr) f (fun r => conj (g r))]
  apply sumBox_congr
  intro k _
  rw [hc.isHom.dftN]


/-! ### the transform of a field that is non-zero in one cell, and of a translated field -/

theorem dftN_delta (ρs : List (Root R)) (ns : List Nat) (r0 : List Nat) (hr : inRange ns r0 = true) (v : R)
    (f : List Nat → R) (h0 : f r0 = v) (hf : ∀ i, inRange ns i = true → i ≠ r0 → f i = 0) (m : List Nat) :
    dftN ρs ns f m = v * twProd ρs ns m r0 := by
  rw [dftN_eq_sumBox, sumBox_single ns _ r0 hr (fun i hi hne => by rw [hf i hi hne, zero_mul]), h0]

/-- **shift theorem for the DFT contract**: the transform of the array translated cyclically by
`t` cells is the transform of the array times `Π_a w_a^(m_a t_a)` -/
theorem dftN_translate (ρs : List (Root R)) (ns : List Nat) (hρ : Roots ns ρs) (f : List Nat → R)
    (t m : List Nat) (ht : t.length = ns.length) :
    dftN ρs ns (fun r => f (rollIdx ns t r)) m = twProd ρs ns m t * dftN ρs ns f m := by
  rw [dftN_eq_sumBox, dftN_eq_sumBox, ← sumBox_mul_left,
    ← sumBox_imap (fun a n j => (j + (n - t.getD a 0 % n)) % n)
      (fun a n g => by
        by_cases hn : n = 0
        · subst hn; rfl
        · exact sumN_rotate n _ (by have := Nat.mod_lt (t.getD a 0) (Nat.pos_of_ne_zero hn); omega) g) ns
      fun r => twProd ρs ns m t * (f r * twProd ρs ns m r)]
  refine sumBox_congr ns _ _ fun r hr => ?_
  have hl := inRange_length _ _ hr
  rw [rollIdx_eq_imap ns t r ht hl, mul_left_comm]
  congr 1
  -- axis by axis: the phase at `r` is the phase at `t` times the phase at `r - t`
  rw [twProd_eq_prodN, twProd_eq_prodN, twProd_eq_prodN, ← prodN_mul]
  refine prodN_congr _ _ _ fun a ha => ?_
  have hw := ((Roots_iff _ _).mp hρ a ha).pow_n
  rw [imap_getD _ ns r a (hl ▸ ha), ← tw_add _ _ _ _ _ hw, ← tw_mod _ _ _ (_ + _) hw, Nat.add_comm,
    roll_back _ _ _ (inRange_getD ns r hr a ha)]

end DFV.C11
