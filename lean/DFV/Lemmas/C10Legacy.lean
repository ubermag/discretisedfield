import DFV.Lemmas.C10Accept
import DFV.Lemmas.C14H5
/-! C10, legacy layout.  The side-car is accepted iff the setter's tolerant tests accept its boxes
(`sidecarLoad_ok_iff`).  The legacy reader is characterised from the stored items (`legacyLoad_iff`), and whatever
it returns satisfies `Inv` (`legacyLoad_inv`).  The order in which the two corners of an axis are stored is
immaterial (`legacyField_corner_order`).  Last, because it needs nothing of the rest: the bridge to C14's setter —
a side-car whose boxes fit the mesh exactly is accepted (`sidecarLoad_fits`, through C14's completeness of the
`subregions` setter).  Defines `legacyField`, `sidecarRegions`, `Legacy.WellFormed`, `legacyFieldOn`, `TMesh.toMesh`,
`H5Region.toRegion`. -/
namespace DFV.C10
open DFV

/-- the field the legacy reader returns for a file without side-car -/
def legacyField (l : Legacy) : TFld :=
  { mesh := { region := { pmin := NumArr.minimum l.p1 l.p2, pmax := NumArr.maximum l.p1 l.p2,
                          dims := Region.defaultDims l.p1.length, units := List.replicate l.p1.length "m",
                          tol := TReg.defaultTol },
              n := l.n.map Int.toNat, bc := "", subs := [] },
    nvdim := l.dim.toNat,
    data := { shape := l.n.map Int.toNat ++ [l.dim.toNat], buf := l.array.buf.upcast },
    valid := { shape := l.n.map Int.toNat, buf := List.replicate (natProd (l.n.map Int.toNat)) true },
    vdims := Fld.defaultVdims l.dim.toNat,
    vmap := defaultVmap l.dim.toNat (Region.defaultDims l.p1.length) (Fld.defaultVdims l.dim.toNat),
    unit := none }

/-! ## the side-car -/

/-- `Region(**val)` for every entry of the side-car -/
def sidecarRegions (sc : List (String × H5Region)) : M (List (String × TReg)) :=
  mapE (fun p => (regionLoad p.2).bind fun s => .ok (p.1, s)) sc

theorem sidecarRegions_inv (sc : List (String × H5Region)) (ss : List (String × TReg)) (h : sidecarRegions sc = .ok ss) :
    ∀ q ∈ ss, q.2.Inv := by
  intro q hq
  obtain ⟨p, _, hp⟩ := mapE_ok_mem _ _ _ h q hq
  obtain ⟨s, hs, e⟩ := bind_ok_iff'.mp hp
  cases e
  exact regionLoad_inv hs

/-- `mesh.load_subregions`: the entries as regions, the dict of them handed to the setter -/
theorem sidecarLoad_eq_ok {m m' : TMesh} {sc : List (String × H5Region)} :
    sidecarLoad m (some sc) = .ok m' ↔
      ∃ ss ss', sidecarRegions sc = .ok ss ∧ setSubs m.region m.n (dictOf ss) = .ok ss' ∧ m' = { m with subs := ss' } := by
  simp only [sidecarLoad, sidecarRegions, bind_ok_iff', Except.ok.injEq, eq_comm (b := m')]
  exact ⟨fun ⟨ss, h1, ss', h2, e⟩ => ⟨ss, ss', h1, h2, e⟩, fun ⟨ss, ss', h1, h2, e⟩ => ⟨ss, h1, ss', h2, e⟩⟩

theorem sidecarLoad_keeps (m m' : TMesh) (sc : Option (List (String × H5Region)))
    (h : sidecarLoad m sc = .ok m') : m'.region = m.region ∧ m'.n = m.n ∧ m'.bc = m.bc := by
  cases sc with
  | none => cases h; exact ⟨rfl, rfl, rfl⟩
  | some l =>
    obtain ⟨_, _, _, _, rfl⟩ := sidecarLoad_eq_ok.mp h
    exact ⟨rfl, rfl, rfl⟩

/-- **The side-car is accepted iff every entry is a valid `Region(pmin=…, pmax=…, …)` and every
region that remains after dict insertion passes the setter's test** `candOk` — the three TOLERANT
tests (inside the region within its tolerance, an aggregate of cells within 0.1 %, aligned within
1e-12) on the entry's corner pair with the MESH's tolerance factor (`candOk_eq`); the
`tolerance_factor`, names and units the side-car carries are immaterial — and then the mesh carries
exactly these regions, names in dict order, re-stamped with the mesh's names, units and tolerance. -/
theorem sidecarLoad_ok_iff (m : TMesh) (hm : m.InvW) (sc : List (String × H5Region)) (m' : TMesh) :
    sidecarLoad m (some sc) = .ok m' ↔
      ∃ ss, sidecarRegions sc = .ok ss ∧
        (∀ p ∈ dictOf ss, candOk m.region m.n p.2 = true) ∧
        m' = { m with subs := (dictOf ss).map (stampSub m.region) } := by
  have hr := ((TMesh.invW_iff m).mp hm).1
  rw [sidecarLoad_eq_ok]
  refine exists_congr fun ss => ⟨?_, ?_⟩
  · rintro ⟨ss', hss, hset, rfl⟩
    obtain ⟨hacc, rfl⟩ := (setSubs_eq_ok m.region hr m.n _ ss'
      fun p hp => sidecarRegions_inv sc ss hss p (mem_dictOf _ _ hp)).mp hset
    exact ⟨hss, hacc, by rw [stampSub_eq_restampT]⟩
  · rintro ⟨hss, hacc, rfl⟩
    exact ⟨_, hss, (setSubs_eq_ok m.region hr m.n _ _
      fun p hp => sidecarRegions_inv sc ss hss p (mem_dictOf _ _ hp)).mpr ⟨hacc, rfl⟩, by rw [stampSub_eq_restampT]⟩

theorem sidecarLoad_inv (m : TMesh) (hm : m.Inv) (sc : Option (List (String × H5Region))) (m' : TMesh)
    (h : sidecarLoad m sc = .ok m') : m'.Inv := by
  cases sc with
  | none => cases h; exact hm
  | some l =>
    obtain ⟨ss, ss', hss, hset, rfl⟩ := sidecarLoad_eq_ok.mp h
    obtain ⟨hnames, hsub⟩ := setSubs_ok m.region ((TMesh.inv_iff m).mp hm).1 m.n _ ss'
      (fun p hp => sidecarRegions_inv l ss hss p (mem_dictOf _ _ hp)) hset
    exact hm.with_subs _ (hnames ▸ hasDup_keys_dictOf _) hsub

/-! ## the legacy reader: acceptance from the stored items, and the result -/

/-- the stored items of a legacy file the reader accepts (side-car aside) -/
def Legacy.WellFormed (l : Legacy) : Prop :=
  0 < l.p1.length ∧ l.p2.length = l.p1.length ∧
  (∀ a, a < l.p1.length → l.p1.vals.getD a 0 ≠ l.p2.vals.getD a 0) ∧
  l.n.length = l.p1.length ∧ (∀ k ∈ l.n, 0 < k) ∧ 1 ≤ l.dim ∧
  arrAcceptB l.array.shape (l.n.map Int.toNat) l.dim.toNat = true

/-- the field the legacy reader returns for ANY accepted array (mesh-shaped scalar arrays and
broadcastable arrays included), on the mesh `m'` the side-car leaves -/
def legacyFieldOn (l : Legacy) (m' : TMesh) : TFld :=
  { legacyField l with mesh := m', data := arrConv l.array (l.n.map Int.toNat) l.dim.toNat }

theorem legacyLoad_eq_ok {l : Legacy} {g : TFld} :
    legacyLoad l = .ok g ↔ ∃ r m m', TReg.init l.p1 l.p2 none none TReg.defaultTol = .ok r ∧ TMesh.init r l.n "" [] = .ok m ∧
      sidecarLoad m l.sidecar = .ok m' ∧ TFld.init m' (some l.dim) l.array none none none = .ok g := by
  simp only [legacyLoad, bind_ok_iff']
  exact ⟨fun ⟨r, hr, m, hm, m', hm', hg⟩ => ⟨r, m, m', hr, hm, hm', hg⟩, fun ⟨r, m, m', hr, hm, hm', hg⟩ => ⟨r, hr, m, hm, m', hm', hg⟩⟩

/-- the two plain constructor calls of the legacy reader -/
theorem legacy_mesh_init_iff (l : Legacy) (r : TReg) (m : TMesh) :
    (TReg.init l.p1 l.p2 none none TReg.defaultTol = .ok r ∧ TMesh.init r l.n "" [] = .ok m) ↔
      (0 < l.p1.length ∧ l.p2.length = l.p1.length ∧ (∀ a, a < l.p1.length → l.p1.vals.getD a 0 ≠ l.p2.vals.getD a 0) ∧
        l.n.length = l.p1.length ∧ ∀ k ∈ l.n, 0 < k) ∧ r = (legacyField l).mesh.region ∧ m = (legacyField l).mesh := by
  simp only [TReg.init_eq_ok, TMesh.init_eq_ok, Region.dimsOk, Region.unitsOk, Except.ok.injEq, C01.toLower_empty, C01.bcOk_empty,
    setSubs, List.all_nil, Bool.not_true, Bool.false_eq_true, if_false, mapE, true_and, exists_and_left, exists_eq_left']
  constructor
  · rintro ⟨⟨hl, h0, hne, rfl⟩, hn, hpos, rfl⟩
    exact ⟨⟨h0, hl, hne, hn.trans (NumArr.minimum_length _ _ hl), hpos⟩, rfl, rfl⟩
  · rintro ⟨⟨h0, hl, hne, hn, hpos⟩, rfl, rfl⟩
    exact ⟨⟨hl, h0, hne, rfl⟩, hn.trans (NumArr.minimum_length _ _ hl).symm, hpos, rfl⟩

/-- **The legacy reader, from the stored items alone.**  A legacy file is read iff its stored
items are well formed and the side-car (if any) is accepted; the result is `legacyFieldOn`. -/
theorem legacyLoad_iff (l : Legacy) (hwf : l.array.wf) (g : TFld) :
    legacyLoad l = .ok g ↔
      l.WellFormed ∧ ∃ m', sidecarLoad (legacyField l).mesh l.sidecar = .ok m' ∧ g = legacyFieldOn l m' := by
  rw [legacyLoad_eq_ok]
  constructor
  · rintro ⟨r, m, m', hr, hm, hm', hg⟩
    obtain ⟨⟨h0, hl, hne, hn, hpos⟩, rfl, rfl⟩ := (legacy_mesh_init_iff l r m).mp ⟨hr, hm⟩
    obtain ⟨hr', hn', _⟩ := sidecarLoad_keeps _ _ _ hm'
    obtain ⟨hdim, hacc, v, vd, hv, hvd, rfl⟩ := (TFld.init_eq_ok hwf).mp hg
    cases hv
    cases hvd
    rw [hn'] at hacc
    refine ⟨⟨h0, hl, hne, hn, hpos, hdim, hacc⟩, m', hm', ?_⟩
    rw [legacyFieldOn, hn', hr']
    rfl
  · rintro ⟨⟨h0, hl, hne, hn, hpos, hdim, hacc⟩, m', hm', rfl⟩
    obtain ⟨e1, e2⟩ := (legacy_mesh_init_iff l _ _).mpr ⟨⟨h0, hl, hne, hn, hpos⟩, rfl, rfl⟩
    obtain ⟨hr', hn', _⟩ := sidecarLoad_keeps _ _ _ hm'
    refine ⟨_, _, m', e1, e2, hm', (TFld.init_eq_ok hwf).mpr ⟨hdim, by rw [hn']; exact hacc, _, _, rfl, rfl, ?_⟩⟩
    rw [legacyFieldOn, hn', hr']
    rfl

/-- the legacy reader on a file whose array has the field's shape, whatever the side-car contributes -/
theorem legacyLoad_ok_gen (l : Legacy) (m' : TMesh) (h0 : 0 < l.p1.length) (hl : l.p2.length = l.p1.length)
    (hne : ∀ a, a < l.p1.length → l.p1.vals.getD a 0 ≠ l.p2.vals.getD a 0)
    (hn : l.n.length = l.p1.length) (hpos : ∀ k ∈ l.n, 0 < k) (hdim : 1 ≤ l.dim)
    (hs : l.array.shape = l.n.map Int.toNat ++ [l.dim.toNat])
    (hb : l.array.buf.length = natProd (l.n.map Int.toNat ++ [l.dim.toNat]))
    (hsc : sidecarLoad (legacyField l).mesh l.sidecar = .ok m') :
    legacyLoad l = .ok { legacyField l with mesh := m' } := by
  have hwf : l.array.wf := DArr.wf_of_shape hs hb
  refine (legacyLoad_iff l hwf _).mpr ⟨⟨h0, hl, hne, hn, hpos, hdim, hs ▸ arrAccept_shaped _ _⟩, m', hsc, ?_⟩
  rw [legacyFieldOn, arrConv_shaped _ _ _ hs hwf]
  rfl

/-- **whatever the legacy reader returns satisfies the invariant** -/
theorem legacyLoad_inv (l : Legacy) (hwf : l.array.wf) (g : TFld) (h : legacyLoad l = .ok g) : g.Inv := by
  obtain ⟨r, m, m', hr, hm, hm', hg⟩ := legacyLoad_eq_ok.mp h
  have hminv : m.Inv := TMesh.init_inv r (TReg.init_inv hr) l.n "" [] (fun p hp => by cases hp) rfl m hm
  exact init_inv m' (sidecarLoad_inv m hminv _ m' hm') _ _ _ _ _ hwf (fun w hw => by cases hw) g hg

theorem legacy_mesh_inv (l : Legacy) (h0 : 0 < l.p1.length) (hl : l.p2.length = l.p1.length)
    (hne : ∀ a, a < l.p1.length → l.p1.vals.getD a 0 ≠ l.p2.vals.getD a 0)
    (hn : l.n.length = l.p1.length) (hpos : ∀ k ∈ l.n, 0 < k) : (legacyField l).mesh.Inv := by
  obtain ⟨e1, e2⟩ := (legacy_mesh_init_iff l _ _).mpr ⟨⟨h0, hl, hne, hn, hpos⟩, rfl, rfl⟩
  exact TMesh.init_inv _ (TReg.init_inv e1) l.n "" [] (fun p hp => by cases hp) rfl _ e2

/-! ## corner order -/

/-- `min` and `max` are symmetric, so exchanging the two stored corners component by component changes neither
`np.minimum` nor `np.maximum` of them -/
theorem zipWith_swap {f : Rat → Rat → Rat} (hf : ∀ x y, f x y = f y x) (a b a' b' : List Rat) (n : Nat)
    (ha : a.length = n) (hb : b.length = n) (ha' : a'.length = n) (hb' : b'.length = n)
    (hsw : ∀ i, i < n → (a'.getD i 0 = a.getD i 0 ∧ b'.getD i 0 = b.getD i 0) ∨ (a'.getD i 0 = b.getD i 0 ∧ b'.getD i 0 = a.getD i 0)) :
    List.zipWith f a' b' = List.zipWith f a b := by
  have hl : (List.zipWith f a' b').length = n := by rw [List.length_zipWith, ha', hb', Nat.min_self]
  refine list_eq_of_getD _ _ 0 (by rw [hl, List.length_zipWith, ha, hb, Nat.min_self]) fun i hi => ?_
  rw [hl] at hi
  rw [getD_zipWith f a' b' i 0 0 0 (ha' ▸ hi) (hb' ▸ hi), getD_zipWith f a b i 0 0 0 (ha ▸ hi) (hb ▸ hi)]
  rcases hsw i hi with ⟨e1, e2⟩ | ⟨e1, e2⟩
  · rw [e1, e2]
  · rw [e1, e2, hf]

/-- **Any corner order.**  Two legacy files that differ only in which of the two stored corner
datasets holds the smaller coordinate — axis by axis, in any combination — describe the same
field: the reader normalises. -/
theorem legacyField_corner_order (l l' : Legacy) (hl : l.p2.length = l.p1.length) (hl1 : l'.p1.length = l.p1.length)
    (hl2 : l'.p2.length = l.p1.length)
    (hk : NK.join l'.p1.kind l'.p2.kind = NK.join l.p1.kind l.p2.kind)
    (hsw : ∀ a, a < l.p1.length →
      (l'.p1.vals.getD a 0 = l.p1.vals.getD a 0 ∧ l'.p2.vals.getD a 0 = l.p2.vals.getD a 0) ∨
      (l'.p1.vals.getD a 0 = l.p2.vals.getD a 0 ∧ l'.p2.vals.getD a 0 = l.p1.vals.getD a 0))
    (hn : l'.n = l.n) (hd : l'.dim = l.dim) (ha : l'.array = l.array) : legacyField l' = legacyField l := by
  have e1 := NumArr.vals_length l.p1
  have e2 := (NumArr.vals_length l.p2).trans hl
  have e3 := (NumArr.vals_length l'.p1).trans hl1
  have e4 := (NumArr.vals_length l'.p2).trans hl2
  have hmin : NumArr.minimum l'.p1 l'.p2 = NumArr.minimum l.p1 l.p2 :=
    NumArr.eq_of_kind_vals _ _ (by rw [NumArr.minimum_kind, NumArr.minimum_kind, hk])
      (by rw [NumArr.minimum_vals, NumArr.minimum_vals]; exact zipWith_swap min_comm _ _ _ _ _ e1 e2 e3 e4 hsw)
  have hmax : NumArr.maximum l'.p1 l'.p2 = NumArr.maximum l.p1 l.p2 :=
    NumArr.eq_of_kind_vals _ _ (by rw [NumArr.maximum_kind, NumArr.maximum_kind, hk])
      (by rw [NumArr.maximum_vals, NumArr.maximum_vals]; exact zipWith_swap max_comm _ _ _ _ _ e1 e2 e3 e4 hsw)
  unfold legacyField
  rw [hmin, hmax, hl1, hn, hd, ha]

/-! ## the side-car: from C14's setter to the typed setter -/

/-- the untyped mesh (region values, counts) C14's setter theorems speak about -/
def TMesh.toMesh (m : TMesh) : Mesh := { region := m.region.toRegion, n := m.n, bc := "", subs := [] }

theorem toMesh_inv (m : TMesh) (hm : m.Inv) : m.toMesh.Inv := by
  obtain ⟨hr, hn, hpos, _⟩ := (TMesh.inv_iff m).mp hm
  obtain ⟨h0, hl, _, hd, hu, hdup, hlt⟩ := (TReg.inv_iff m.region).mp hr
  have hv := NumArr.vals_length m.region.pmin
  exact C13.meshInv_of_parts m.toMesh ⟨hv ▸ h0, (NumArr.vals_length _).trans (hl.trans hv.symm), hd.trans hv.symm,
    hu.trans hv.symm, hdup, fun a ha => hlt a (lt_of_lt_of_eq ha hv)⟩ (hn.trans hv.symm) hpos

/-- a box that fits the mesh exactly passes the three tests of the typed setter, whatever names,
units and tolerance it carries -/
theorem subAccept_of_fits (m : TMesh) (hm : m.Inv) (s : Region) (h : C14.FitsE m.toMesh s) :
    subAccept m.region.toRegion m.n s = true :=
  (C14.subAccept_eq_subOk _ _ _).trans (C14.subOk_of_fits m.toMesh (toMesh_inv m hm) s h)

/-- one side-car entry as the untyped box it describes -/
def H5Region.toRegion (h : H5Region) : Region :=
  { pmin := h.pmin.vals, pmax := h.pmax.vals, dims := h.dims, units := h.units, tol := h.tol.val }

theorem H5Region.region_toRegion (h : H5Region) : h.region.toRegion = h.toRegion := by
  unfold H5Region.region H5Region.toRegion TReg.toRegion
  simp only [NumArr.cast_vals _ _ (NumArr.join_lossless h.pmin h.pmax).1, NumArr.cast_vals _ _ (NumArr.join_lossless h.pmin h.pmax).2]

theorem fits_entry (m : TMesh) (hm : m.Inv) (h : H5Region) (hf : C14.FitsE m.toMesh h.toRegion) :
    h.pmin.length = m.region.ndim ∧ h.pmax.length = m.region.ndim ∧
      ∀ a, a < m.region.ndim → h.pmin.vals.getD a 0 < h.pmax.vals.getD a 0 := by
  have hb := C14.fits_bounds m.toMesh (toMesh_inv m hm) _ hf
  have hnd : m.toMesh.ndim = m.region.ndim := toRegion_ndim m.region
  exact ⟨(NumArr.vals_length _).symm.trans (hf.1.trans hnd), (NumArr.vals_length _).symm.trans (hf.2.1.trans hnd),
    fun a ha => (hb a (hnd ▸ ha)).2.1⟩

theorem stampSub_fits_inv (m : TMesh) (hm : m.Inv) (p : String × H5Region) (hf : C14.FitsE m.toMesh p.2.toRegion) :
    subInvB m.region m.n (stampSub m.region (p.1, p.2.region)).2 = true := by
  obtain ⟨e1, e2, hlt⟩ := fits_entry m hm p.2 hf
  have hv1 := NumArr.cast_vals _ _ (NumArr.join_lossless p.2.pmin p.2.pmax).1
  have hv2 := NumArr.cast_vals _ _ (NumArr.join_lossless p.2.pmin p.2.pmax).2
  refine (subInv_iff_weak _ _ _).mpr ⟨(subInvW_iff _ _).mpr ⟨(NumArr.cast_length _ _).trans e1, (NumArr.cast_length _ _).trans e2,
    (NumArr.cast_kind _ _).trans (NumArr.cast_kind _ _).symm, rfl, rfl, rfl, fun a ha => ?_⟩, ?_⟩
  · show (p.2.pmin.cast _).vals.getD a 0 < (p.2.pmax.cast _).vals.getD a 0
    rw [hv1, hv2]
    exact hlt a ha
  · exact subAccept_of_fits m hm _ (C14.fitsE_congr m.toMesh m.toMesh p.2.toRegion _ rfl rfl hv1 hv2 hf)

/-- **A fitting side-car is accepted.**  If every box of the side-car fits the mesh exactly
(inside, whole cells, on the lattice: `C14.FitsE`) and carries `ndim` distinct dimension names
and `ndim` units, `mesh.load_subregions` succeeds and attaches exactly these boxes — names in
dict order, the corners in their common dtype, the mesh's names, units and tolerance. -/
theorem sidecarLoad_fits (m : TMesh) (hm : m.Inv) (sc : List (String × H5Region))
    (hwf : ∀ p ∈ sc, p.2.dims.length = m.region.ndim ∧ hasDup p.2.dims = false ∧ p.2.units.length = m.region.ndim)
    (hfit : ∀ p ∈ sc, C14.FitsE m.toMesh p.2.toRegion) :
    sidecarLoad m (some sc) =
      .ok { m with subs := (dictOf (sc.map fun p => (p.1, p.2.region))).map (stampSub m.region) } := by
  obtain ⟨hr, _⟩ := (TMesh.inv_iff m).mp hm
  have hload : ∀ p ∈ sc, regionLoad p.2 = .ok p.2.region := by
    intro p hp
    obtain ⟨l1, l2, hlt⟩ := fits_entry m hm p.2 (hfit p hp)
    obtain ⟨w1, w2, w3⟩ := hwf p hp
    exact (regionLoad_ok_iff _ _).mpr ⟨(H5Region.ok_iff _).mpr ⟨l2.trans l1.symm, l1 ▸ ((TReg.inv_iff _).mp hr).1,
      l1 ▸ hlt, w1.trans l1.symm, w2, w3.trans l1.symm⟩, rfl⟩
  refine (sidecarLoad_ok_iff m ((TMesh.inv_iff_weak m).mp hm).1 sc _).mpr ⟨sc.map fun p => (p.1, p.2.region), ?_, ?_, rfl⟩
  · exact mapE_ok_of _ _ sc fun p hp => by rw [hload p hp]; rfl
  · intro q hq
    obtain ⟨p, hp, rfl⟩ := List.mem_map.mp (mem_dictOf _ _ hq)
    rw [candOk_eq m.region hr m.n _ (regionLoad_inv (hload p hp)), H5Region.region_toRegion]
    exact subAccept_of_fits m hm _ (C14.fitsE_congr m.toMesh m.toMesh p.2.toRegion _ rfl rfl rfl rfl (hfit p hp))

theorem sidecar_mesh_inv (m : TMesh) (hm : m.Inv) (sc : List (String × H5Region))
    (hfit : ∀ p ∈ sc, C14.FitsE m.toMesh p.2.toRegion) :
    ({ m with subs := (dictOf (sc.map fun p => (p.1, p.2.region))).map (stampSub m.region) } : TMesh).Inv := by
  refine hm.with_subs _ (by rw [List.map_map]; exact hasDup_keys_dictOf _) fun q hq => ?_
  obtain ⟨q0, hq0, rfl⟩ := List.mem_map.mp hq
  obtain ⟨p, hp, rfl⟩ := List.mem_map.mp (mem_dictOf _ _ hq0)
  exact stampSub_fits_inv m hm p (hfit p hp)

end DFV.C10
