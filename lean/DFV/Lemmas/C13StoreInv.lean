import DFV.Lemmas.C13Store
/-! C13 / C14: the invariant of the store model after every session: `Good` (every Region object a proper region, no Region object
the subregion of two meshes or twice of one, every mesh object in a proper state).  Every statement keeps it (`exec_inv`), because
all methods only extend the Region objects (`Ext`) and change the list of mesh objects in one of three ways (`MeshesStep`); hence
the region object of a mesh is held by no other mesh (`exec_regExcl`) and footprints are disjoint (`footprints_disjoint`). -/
namespace DFV.S
open DFV DFV.T DFV.C14

/-! ## lists and `setAt` (no store in them) -/

theorem flatMap_split {α β} (l : List α) (f : α → List β) (i : Nat) (b : α) (h : l[i]? = some b) :
    l.flatMap f = (l.take i).flatMap f ++ f b ++ (l.drop (i + 1)).flatMap f := by
  obtain ⟨hi, e⟩ := List.getElem?_eq_some_iff.mp h
  conv => lhs; rw [← List.take_append_drop i l, List.drop_eq_getElem_cons hi, e]
  rw [List.flatMap_append, List.flatMap_cons, List.append_assoc]

theorem flatMap_setAt {α β} (l : List α) (f : α → List β) (i : Nat) (a b : α) (h : l[i]? = some b) :
    (setAt l i a).flatMap f = (l.take i).flatMap f ++ f a ++ (l.drop (i + 1)).flatMap f := by
  rw [setAt_eq_set, List.set_eq_take_append_cons_drop, if_pos (List.getElem?_eq_some_iff.mp h).1, List.flatMap_append,
    List.flatMap_cons, List.append_assoc]

theorem nodup_of_flatMap {α β} (l : List α) (f : α → List β) (h : (l.flatMap f).Nodup) (a : α) (ha : a ∈ l) : (f a).Nodup := by
  induction l with
  | nil => cases ha
  | cons y ys ih =>
    rw [List.flatMap_cons, List.nodup_append] at h
    rcases List.mem_cons.mp ha with e | e
    · rw [e]; exact h.1
    · exact ih h.2.1 e

theorem getElem?_setAt_eq {α} (l : List α) (i : Nat) (a : α) (h : i < l.length) : (setAt l i a)[i]? = some a := by
  rw [setAt_eq_set]; exact List.getElem?_set_self h

theorem getElem?_setAt_ne {α} (l : List α) (i j : Nat) (a : α) (h : j ≠ i) : (setAt l i a)[j]? = l[j]? := by
  rw [setAt_eq_set]; exact List.getElem?_set_ne (Ne.symm h)

/-- a block of a duplicate-free list of numbers below `b` replaced by a duplicate-free block of numbers from `b` on -/
theorem nodup_replace_fresh (A B B' C : List Nat) (b : Nat) (h : (A ++ B ++ C).Nodup) (hlt : ∀ x ∈ A ++ B ++ C, x < b)
    (hB' : B'.Nodup) (hge : ∀ y ∈ B', b ≤ y) : (A ++ B' ++ C).Nodup := by
  rw [List.nodup_append] at h ⊢
  obtain ⟨h1, h2, h3⟩ := h
  rw [List.nodup_append] at h1 ⊢
  refine ⟨⟨h1.1, hB', fun a ha y hy e => ?_⟩, h2, fun a ha c hc e => ?_⟩
  · have := hlt a (List.mem_append_left _ (List.mem_append_left _ ha))
    have := hge y hy
    omega
  · rcases List.mem_append.mp ha with ha | ha
    · exact h3 a (List.mem_append_left _ ha) c hc e
    · have := hge a ha
      have := hlt c (List.mem_append_right _ hc)
      omega

theorem getElem?_append_singleton {α} (l : List α) (a x : α) (i : Nat) (h : (l ++ [a])[i]? = some x) :
    l[i]? = some x ∨ (i = l.length ∧ x = a) := by
  by_cases hi : i < l.length
  · rw [List.getElem?_append_left hi] at h; exact Or.inl h
  · rw [List.getElem?_append_right (by omega)] at h
    have : i - l.length = 0 := by
      cases hk : i - l.length with
      | zero => rfl
      | succ k => rw [hk] at h; simp at h
    rw [this] at h
    simp at h
    exact Or.inr ⟨by omega, h.symm⟩

theorem mem_take_or_drop {α} (l : List α) (i j : Nat) (x : α) (h : l[j]? = some x) (hij : j ≠ i) :
    x ∈ l.take i ∨ x ∈ l.drop (i + 1) := by
  by_cases hlt : j < i
  · left
    have : (l.take i)[j]? = some x := by rw [List.getElem?_take_of_lt hlt]; exact h
    exact List.mem_of_getElem? this
  · right
    have : (l.drop (i + 1))[j - (i + 1)]? = some x := by
      rw [List.getElem?_drop]
      have : i + 1 + (j - (i + 1)) = j := by omega
      rw [this]; exact h
    exact List.mem_of_getElem? this

/-! ## what never changes about a Region object; what is always true about a mesh object -/

/-- the ids of all subregion objects, mesh by mesh -/
def subIds (s : Store) : List Nat := s.meshes.flatMap fun mo => mo.subs.map (·.2)

/-- the ids of the region objects of the meshes -/
def regIds (s : Store) : List Nat := s.meshes.map (·.region)

/-- `b` is a proper region with the dimension and the dimension names of `a` (no method changes them) -/
def Similar (a b : Region) : Prop := b.Inv ∧ b.ndim = a.ndim ∧ b.dims = a.dims

/-- the state of one mesh object: its region object exists, its subregion objects exist and were
created after the region object; counts positive, one per direction; `bc` lower-cased and checked; the
subregions carry the dimension names of the region -/
def MeshVal (s : Store) (mo : MeshObj) : Prop :=
  mo.region < s.regs.length ∧ (∀ p ∈ mo.subs, mo.region < p.2 ∧ p.2 < s.regs.length) ∧
  mo.n.length = (s.reg mo.region).ndim ∧ (∀ k ∈ mo.n, 0 < k) ∧ BcInv (absMesh s mo) ∧
  ∀ p ∈ mo.subs, (s.reg p.2).dims = (s.reg mo.region).dims

/-- the invariant of the store: every Region object is a proper region; no Region object is the
subregion of two meshes or twice of one; every mesh object is in a proper state -/
def Good (s : Store) : Prop :=
  (∀ i, i < s.regs.length → (s.reg i).Inv) ∧ (subIds s).Nodup ∧ ∀ mo ∈ s.meshes, MeshVal s mo

theorem similar_refl (a : Region) (h : a.Inv) : Similar a a := ⟨h, rfl, rfl⟩

/-- the Region objects of `s'` extend those of `s`: the old objects keep their skeletons, the new ones are proper
regions (the meshes are not looked at) -/
structure Ext (s s' : Store) : Prop where
  len : s.regs.length ≤ s'.regs.length
  old : ∀ j, j < s.regs.length → Similar (s.reg j) (s'.reg j)
  new : ∀ j, s.regs.length ≤ j → j < s'.regs.length → (s'.reg j).Inv

theorem Ext.refl (s : Store) (hinv : ∀ j, j < s.regs.length → (s.reg j).Inv) : Ext s s :=
  ⟨Nat.le_refl _, fun j hj => similar_refl _ (hinv j hj), fun _ h1 h2 => absurd h2 (Nat.not_lt.mpr h1)⟩

theorem Ext.trans {s s1 s2 : Store} (h1 : Ext s s1) (h2 : Ext s1 s2) : Ext s s2 :=
  ⟨Nat.le_trans h1.len h2.len,
    fun j hj =>
      have a := h1.old j hj
      have b := h2.old j (Nat.lt_of_lt_of_le hj h1.len)
      ⟨b.1, b.2.1.trans a.2.1, b.2.2.trans a.2.2⟩,
    fun j _ b => if h : j < s1.regs.length then (h2.old j h).1 else h2.new j (Nat.le_of_not_lt h) b⟩

theorem Ext.congr {s s' s'' : Store} (h : Ext s s') (e : s''.regs = s'.regs) : Ext s s'' := by
  have hr : ∀ j, s''.reg j = s'.reg j := fun j => by unfold Store.reg; rw [e]
  exact ⟨e ▸ h.len, fun j hj => hr j ▸ h.old j hj, fun j h1 h2 => hr j ▸ h.new j h1 (e ▸ h2)⟩

theorem Ext.inv {s s' : Store} (h : Ext s s') (i : Nat) (hi : i < s'.regs.length) : (s'.reg i).Inv :=
  if hl : i < s.regs.length then (h.old i hl).1 else h.new i (Nat.le_of_not_lt hl) hi

theorem Ext.allocs (s : Store) (hinv : ∀ j, j < s.regs.length → (s.reg j).Inv) (rs : List Region) (hrs : ∀ r ∈ rs, r.Inv) :
    Ext s (s.allocs rs) :=
  ⟨by rw [allocs_length]; omega, fun j hj => by rw [reg_allocs_lt _ _ _ hj]; exact similar_refl _ (hinv j hj),
    fun j h1 h2 => hrs _ (reg_allocs_mem s rs j h1 (allocs_length s rs ▸ h2))⟩

theorem updReg_similar (s s' : Store) (i : Nat) (op : Op) (h : updReg s i op = .ok s')
    (hinv : ∀ j, j < s.regs.length → (s.reg j).Inv) :
    s'.meshes = s.meshes ∧ s'.regs.length = s.regs.length ∧ Ext s s' := by
  obtain ⟨r', hst, e⟩ := (updReg_ok_iff s s' i op).mp h
  subst e
  refine ⟨rfl, setReg_length _ _ _, Nat.le_of_eq (setReg_length _ _ _).symm, fun j hj => ?_,
    fun j h1 h2 => absurd (setReg_length s i r' ▸ h2) (Nat.not_lt.mpr h1)⟩
  by_cases hji : j = i
  · subst hji
    rw [reg_setReg_eq _ _ _ hj]
    obtain ⟨a, b, c, _⟩ := stepR_keeps _ (hinv j hj) _ _ _ hst
    exact ⟨a, b, c⟩
  · rw [reg_setReg_ne _ _ _ _ hji]; exact similar_refl _ (hinv j hj)

/-- the in-place method on a dictionary of Region objects, wherever the sequence stops: same objects, same
meshes, every object keeps its skeleton -/
theorem updSubs_similar (s s' : Store) (subs : List (String × Nat)) (op : Op) (b : Bool) (h : updSubs s subs op = (s', b))
    (hinv : ∀ j, j < s.regs.length → (s.reg j).Inv) :
    s'.meshes = s.meshes ∧ s'.regs.length = s.regs.length ∧ Ext s s' := by
  induction subs generalizing s with
  | nil =>
    simp only [updSubs] at h
    injection h with h1 _
    subst h1
    exact ⟨rfl, rfl, Ext.refl s hinv⟩
  | cons p ps ih =>
    simp only [updSubs] at h
    cases hu : updReg s p.2 op with
    | error e =>
      rw [hu] at h
      injection h with h1 _
      subst h1
      exact ⟨rfl, rfl, Ext.refl s hinv⟩
    | ok s1 =>
      rw [hu] at h
      obtain ⟨a1, a2, a3⟩ := updReg_similar s s1 p.2 op hu hinv
      obtain ⟨b1, b2, b3⟩ := ih s1 h a3.inv
      exact ⟨b1.trans a1, b2.trans a2, a3.trans b3⟩

theorem bcInv_congr (m m' : Mesh) (hb : m'.bc = m.bc) (hd : m'.region.dims = m.region.dims) (h : BcInv m) : BcInv m' := by
  unfold BcInv at h ⊢
  rw [hb, hd]; exact h

theorem meshVal_similar (s s' : Store) (mo : MeshObj) (h : MeshVal s mo) (he : Ext s s') : MeshVal s' mo := by
  obtain ⟨h1, h2, h3, h4, h5, h6⟩ := h
  have hlen := he.len
  have hsim := he.old
  have hr := hsim mo.region h1
  refine ⟨by omega, fun p hp => ⟨(h2 p hp).1, by have := (h2 p hp).2; omega⟩, by rw [hr.2.1]; exact h3, h4, ?_, ?_⟩
  · exact bcInv_congr (absMesh s mo) (absMesh s' mo) rfl hr.2.2 h5
  · intro p hp
    rw [(hsim p.2 (h2 p hp).2).2.2, hr.2.2]; exact h6 p hp

/-- a mesh object of the store stands at some position (core's `List.mem_iff_getElem?`) -/
theorem mem_meshes_getElem? (s : Store) (mo : MeshObj) (h : mo ∈ s.meshes) : ∃ i : Nat, s.meshes[i]? = some mo :=
  List.mem_iff_getElem?.mp h

/-- the store stays good while its Region objects are extended, no Region object becomes the subregion of two
meshes, and every mesh object is an old one or in a proper state -/
theorem good_of (s s' : Store) (hg : Good s) (he : Ext s s') (hnd : (subIds s').Nodup)
    (hval : ∀ mo ∈ s'.meshes, mo ∈ s.meshes ∨ MeshVal s' mo) : Good s' :=
  ⟨he.inv, hnd, fun mo hmo => (hval mo hmo).elim (fun h => meshVal_similar s s' mo (hg.2.2 mo h) he) id⟩

/-- `good_of` when the list of mesh objects is the same -/
theorem good_same_meshes (s s' : Store) (hg : Good s) (hm : s'.meshes = s.meshes) (he : Ext s s') : Good s' :=
  good_of s s' hg he (by unfold subIds; rw [hm]; exact hg.2.1) fun mo hmo => Or.inl (hm ▸ hmo)

theorem allocs_good (s : Store) (hg : Good s) (rs : List Region) (hrs : ∀ r ∈ rs, r.Inv) : Good (s.allocs rs) :=
  good_same_meshes s (s.allocs rs) hg rfl (Ext.allocs s hg.1 rs hrs)

/-- `good_of` when one mesh object is replaced by one that holds the same Region objects and is in a proper state -/
theorem good_setAt_same_ids (s s' : Store) (hg : Good s) (mid : Nat) (mo mo' : MeshObj) (hmo : s.meshes[mid]? = some mo)
    (hm : s'.meshes = setAt s.meshes mid mo') (hsub : mo'.subs = mo.subs) (hval : MeshVal s' mo') (he : Ext s s') : Good s' := by
  refine good_of s s' hg he ?_ fun m hmem => (mem_setAt _ _ _ _ (hm ▸ hmem)).symm.imp id fun e => by rw [e]; exact hval
  have g2 := hg.2.1
  unfold subIds at g2 ⊢
  rw [hm, flatMap_setAt _ _ _ _ _ hmo, hsub, ← flatMap_split _ _ _ _ hmo]
  exact g2

theorem subIds_lt (s : Store) (hg : Good s) (i : Nat) (hi : i ∈ subIds s) : i < s.regs.length := by
  unfold subIds at hi
  rw [List.mem_flatMap] at hi
  obtain ⟨mo, hmo, hmem⟩ := hi
  obtain ⟨p, hp, e⟩ := List.mem_map.mp hmem
  rw [← e]; exact ((hg.2.2 mo hmo).2.1 p hp).2

/-- `good_of` when a new mesh object is appended whose subregion objects are new objects -/
theorem good_append (s s' : Store) (hg : Good s) (mo' : MeshObj) (hm : s'.meshes = s.meshes ++ [mo'])
    (hfresh : (mo'.subs.map (·.2)).Nodup ∧ ∀ p ∈ mo'.subs, s.regs.length ≤ p.2) (hval : MeshVal s' mo') (he : Ext s s') :
    Good s' := by
  refine good_of s s' hg he ?_ fun m hmem =>
    (List.mem_append.mp (hm ▸ hmem)).imp id fun e => by rw [List.mem_singleton.mp e]; exact hval
  -- appending is replacing the empty block at the end
  have := nodup_replace_fresh (subIds s) [] (mo'.subs.map (·.2)) [] s.regs.length (by simpa using hg.2.1)
    (by simpa using subIds_lt s hg) hfresh.1 (fun y hy => by obtain ⟨p, hp, rfl⟩ := List.mem_map.mp hy; exact hfresh.2 p hp)
  unfold subIds at this ⊢
  rw [hm, List.flatMap_append]
  simpa using this

/-- `good_of` when one mesh object gets a new dictionary of new objects -/
theorem good_setAt_fresh (s s' : Store) (hg : Good s) (mid : Nat) (mo mo' : MeshObj) (hmo : s.meshes[mid]? = some mo)
    (hm : s'.meshes = setAt s.meshes mid mo')
    (hfresh : (mo'.subs.map (·.2)).Nodup ∧ ∀ p ∈ mo'.subs, s.regs.length ≤ p.2) (hval : MeshVal s' mo') (he : Ext s s') :
    Good s' := by
  refine good_of s s' hg he ?_ fun m hmem => (mem_setAt _ _ _ _ (hm ▸ hmem)).symm.imp id fun e => by rw [e]; exact hval
  have g2 := hg.2.1
  have hlt := subIds_lt s hg
  unfold subIds at g2 hlt ⊢
  rw [flatMap_split _ _ _ _ hmo] at g2 hlt
  rw [hm, flatMap_setAt _ _ _ _ _ hmo]
  exact nodup_replace_fresh _ _ _ _ s.regs.length g2 hlt hfresh.1
    (fun y hy => by obtain ⟨p, hp, rfl⟩ := List.mem_map.mp hy; exact hfresh.2 p hp)

/-! ## every statement keeps the store good -/

theorem stamp_inv (r c : Region) (hr : r.Inv) (hc : c.Inv) (hl : c.pmin.length = r.ndim) : Similar r (stamp r c) := by
  obtain ⟨r1, r2, r3, r4, r5, r6⟩ := hr
  obtain ⟨c1, c2, c3, c4, c5, c6⟩ := hc
  have hl' : c.pmin.length = r.pmin.length := hl
  refine ⟨⟨c1, c2, by show r.dims.length = c.pmin.length; rw [r3, hl'], by show r.units.length = c.pmin.length; rw [r4, hl'],
    r5, c6⟩, hl, rfl⟩

/-- after an accepted assignment of subregions: old objects untouched, the new ones are proper
regions with the names of the mesh region, the new dictionary consists of new, pairwise different ids; in particular the
Region objects are extended (`Ext`) -/
theorem attach_facts (s s' : Store) (m : Mesh) (subs ids : List (String × Nat)) (h : attach s m subs = .ok (s', ids))
    (hinv : ∀ i, i < s.regs.length → (s.reg i).Inv) (hm : m.region.Inv) (hids : ∀ p ∈ subs, p.2 < s.regs.length) :
    s'.meshes = s.meshes ∧ s'.regs.length = s.regs.length + subs.length ∧
    (∀ j, j < s.regs.length → s'.reg j = s.reg j) ∧
    (∀ j, s.regs.length ≤ j → j < s'.regs.length → Similar m.region (s'.reg j)) ∧
    (ids.map (·.2)).Nodup ∧ (∀ p ∈ ids, s.regs.length ≤ p.2 ∧ p.2 < s'.regs.length) ∧ Ext s s' := by
  rw [attach_eq] at h
  cases hs : T.setSubs m (valsOf s subs) with
  | error e => rw [hs] at h; cases h
  | ok m' =>
    rw [hs] at h; cases h
    have hall := ((setSubs_ok_iff _ _ _).mp hs).1
    have hblock : ∀ r ∈ subs.map (fun p => stamp m.region (s.reg p.2)), Similar m.region r := fun r hr => by
      obtain ⟨p, hp, rfl⟩ := List.mem_map.mp hr
      exact stamp_inv _ _ hm (hinv _ (hids p hp)) (candOk_ndim m _ (hall (p.1, s.reg p.2) (List.mem_map_of_mem hp)))
    exact ⟨rfl, by rw [allocs_length, List.length_map], fun j hj => reg_allocs_lt _ _ _ hj,
      fun j h1 h2 => hblock _ (reg_allocs_mem s _ j h1 (allocs_length s _ ▸ h2)), freshIds_nodup _ _,
      fun p hp => by rw [allocs_length, List.length_map]; exact freshIds_mem _ _ _ hp,
      Ext.allocs s hinv _ fun r hr => (hblock r hr).1⟩

theorem mkMeshS_guards (s s' : Store) (rid : Nat) (n : List Nat) (bc : String) (subs : List (String × Nat))
    (h : mkMeshS s rid n bc subs = .ok s') : rid < s.regs.length ∧ ∀ p ∈ subs, p.2 < s.regs.length := by
  unfold mkMeshS at h
  by_cases hrid : s.regs.length ≤ rid
  · rw [if_pos hrid] at h; cases h
  · by_cases hb : idsOk s subs = true
    · exact ⟨Nat.lt_of_not_le hrid, (idsOk_iff s subs).mp hb⟩
    · rw [if_neg hrid, Bool.eq_false_iff.mpr hb] at h; cases h

theorem empty_good : Good Store.empty :=
  ⟨fun i hi => absurd hi (by simp [Store.empty]), List.nodup_nil, fun mo hmo => by simp [Store.empty] at hmo⟩

/-- how a statement changes the list of mesh objects: not at all; or one mesh object is replaced by one
with the same region object and either the same subregion objects or new ones; or a mesh object is
appended whose region object and subregion objects are all new -/
def MeshesStep (s s' : Store) : Prop :=
  s'.meshes = s.meshes ∨
  (∃ (mid : Nat) (mo mo' : MeshObj), s.meshes[mid]? = some mo ∧ s'.meshes = setAt s.meshes mid mo' ∧ mo'.region = mo.region ∧
    (mo'.subs = mo.subs ∨ ∀ p ∈ mo'.subs, s.regs.length ≤ p.2)) ∨
  (∃ mo', s'.meshes = s.meshes ++ [mo'] ∧ (∀ p ∈ mo'.subs, s.regs.length ≤ p.2) ∧ s.regs.length ≤ mo'.region)

/-- the in-place mesh step keeps the store good on EVERY path — also when an exception leaves Region
objects already moved —, and the mesh object keeps its Region objects -/
theorem meshInplace_inv (s : Store) (hg : Good s) (mid : Nat) (op : Op) :
    Good (meshInplace s mid op).1 ∧ MeshesStep s (meshInplace s mid op).1 := by
  /- Every early exit returns a store with the meshes of `s` whose Region objects extend those of `s` (`same`, from
  `updReg_similar`, `updSubs_similar`); only the last branch — a quarter turn that ran through — writes the mesh object
  back, with the counts turned and, if the setter accepts it, the turned `bc` (`key`). -/
  unfold meshInplace
  cases hmo : s.meshes[mid]? with
  | none => exact ⟨hg, Or.inl rfl⟩
  | some mo =>
    simp only
    have hmem : mo ∈ s.meshes := List.mem_of_getElem? hmo
    cases hu : updReg s mo.region op with
    | error e => exact ⟨hg, Or.inl rfl⟩
    | ok s1 =>
      simp only
      obtain ⟨a1, a2, a3⟩ := updReg_similar s s1 mo.region op hu hg.1
      cases hs : updSubs s1 mo.subs (subOpInplace (s.reg mo.region) (s1.reg mo.region) op) with
      | mk s2 b =>
        obtain ⟨b1, _, b3⟩ := updSubs_similar s1 s2 _ _ b hs a3.inv
        have hm2 : s2.meshes = s.meshes := b1.trans a1
        have he2 : Ext s s2 := a3.trans b3
        have hg2 : Good s2 := good_same_meshes s s2 hg hm2 he2
        have same : Good s2 ∧ MeshesStep s s2 := ⟨hg2, Or.inl hm2⟩
        cases b with
        | false => exact same
        | true =>
          simp only
          cases op with
          | translate | scale => exact same
          | rotate90 a1' a2' k ref i =>
            simp only [finishInplace]
            cases hd1 : (s2.reg mo.region).dim2index a1' with
            | error e => exact same
            | ok i1 =>
              cases hd2 : (s2.reg mo.region).dim2index a2' with
              | error e => exact same
              | ok i2 =>
                simp only
                obtain ⟨w1, w2, w3, w4, w5, w6⟩ := meshVal_similar s s2 mo (hg.2.2 mo hmem) he2
                have hdl : (s2.reg mo.region).dims.length = (s2.reg mo.region).ndim := (hg2.1 _ w1).dims_length
                have l1 : i1 < mo.n.length := by rw [w3, ← hdl]; exact dim2index_lt _ _ _ hd1
                have l2 : i2 < mo.n.length := by rw [w3, ← hdl]; exact dim2index_lt _ _ _ hd2
                have hpos : ∀ q ∈ rotN mo.n i1 i2 k, 0 < q := fun q hq => w4 q (mem_rotN _ _ _ _ l1 l2 q hq)
                -- the counts are assigned in any case, `bc` only if the setter accepts it
                have key : ∀ bc', BcInv (absMesh s2 { mo with n := rotN mo.n i1 i2 k, bc := bc' }) →
                    Good { s2 with meshes := setAt s2.meshes mid { mo with n := rotN mo.n i1 i2 k, bc := bc' } } ∧
                    MeshesStep s { s2 with meshes := setAt s2.meshes mid { mo with n := rotN mo.n i1 i2 k, bc := bc' } } := by
                  intro bc' hbc'
                  refine ⟨?_, Or.inr (Or.inl ⟨mid, mo, { mo with n := rotN mo.n i1 i2 k, bc := bc' }, hmo,
                    by show setAt s2.meshes mid _ = _; rw [hm2], rfl, Or.inl rfl⟩)⟩
                  apply good_setAt_same_ids s2
                    { s2 with meshes := setAt s2.meshes mid { mo with n := rotN mo.n i1 i2 k, bc := bc' } }
                    hg2 mid mo _ (hm2 ▸ hmo) rfl rfl _ ((Ext.refl s2 hg2.1).congr rfl)
                  exact ⟨w1, w2, by show (rotN mo.n i1 i2 k).length = _; rw [rotN_length]; exact w3, hpos, hbc', w6⟩
                by_cases hbc : Mesh.bcOk (s2.reg mo.region).dims (rotBc mo.bc a1' a2' k).toLower = true
                · rw [hbc]
                  simp only [Bool.not_true, Bool.false_eq_true, if_false]
                  exact key _ ⟨C01.toLower_idem _, hbc⟩
                · rw [Bool.eq_false_iff.mpr hbc]
                  simp only [Bool.not_false, if_true]
                  exact key _ w5

theorem meshCopy_regions_inv (s : Store) (hg : Good s) (mo : MeshObj) (hmem : mo ∈ s.meshes) (op op' : Op) (x r' : Region)
    (subs' : List (String × Region)) (hr : stepR (s.reg mo.region) op = .ok (x, r'))
    (hsub : mapSubs (valsOf s mo.subs) (fun c => stepR c op') = .ok subs') : ∀ r ∈ r' :: subs'.map (·.2), r.Inv := by
  obtain ⟨v1, v2, _⟩ := hg.2.2 mo hmem
  intro r hmr
  rcases List.mem_cons.mp hmr with e | e
  · rw [e]; exact (stepR_keeps _ (hg.1 _ v1) _ _ _ hr).1
  · obtain ⟨q, hq, rfl⟩ := List.mem_map.mp e
    obtain ⟨p, hp, y, hy⟩ := (mapSubs_ok_mem _ _ _ hsub).2 q hq
    obtain ⟨p0, hp0, rfl⟩ := List.mem_map.mp hp
    exact (stepR_keeps _ (hg.1 _ (v2 p0 hp0).2) _ _ _ hy).1

/-- the constructor keeps the store good, whatever Region objects it is given, and appends one mesh object, all of
whose Region objects are new: a copy of the region object and stamped copies of the candidates -/
theorem mkMeshS_inv (s0 s s' : Store) (hg : Good s) (hm : s.meshes = s0.meshes) (hl : s0.regs.length ≤ s.regs.length)
    (rid : Nat) (n : List Nat) (bc : String) (subs : List (String × Nat)) (h : mkMeshS s rid n bc subs = .ok s') :
    Good s' ∧ MeshesStep s0 s' := by
  obtain ⟨hrid, hids⟩ := mkMeshS_guards s s' rid n bc subs h
  rw [mkMeshS_eq s rid n bc subs hrid hids] at h
  cases hmk : mkMesh? (s.reg rid) n bc (valsOf s subs) with
  | error e => rw [hmk] at h; cases h
  | ok m' =>
    rw [hmk] at h; cases h
    obtain ⟨hnl, hnp, hbc, hall, _⟩ := (mkMesh?_ok_iff _ _ _ _ _).mp hmk
    have hri := hg.1 rid hrid
    have hblock : ∀ r ∈ s.reg rid :: subs.map (fun p => stamp (s.reg rid) (s.reg p.2)), Similar (s.reg rid) r := by
      intro r hr
      rcases List.mem_cons.mp hr with e | e
      · rw [e]; exact similar_refl _ hri
      · obtain ⟨p, hp, rfl⟩ := List.mem_map.mp e
        exact stamp_inv _ _ hri (hg.1 _ (hids p hp)) (candOk_ndim _ _ (hall (p.1, s.reg p.2) (List.mem_map_of_mem hp)))
    have hlen : (built s rid n bc subs).regs.length = s.regs.length + (1 + subs.length) := by
      simp only [built, List.length_append, List.length_cons, List.length_map]; omega
    have hnew : ∀ j, s.regs.length ≤ j → j < (built s rid n bc subs).regs.length → Similar (s.reg rid) ((built s rid n bc subs).reg j) :=
      fun j h1 h2 => hblock _ (reg_allocs_mem s _ j h1 (by rw [hlen] at h2; simpa [Nat.add_comm] using h2))
    have hfresh := freshIds_mem (s.regs.length + 1) subs
    have hr0 : (built s rid n bc subs).reg s.regs.length = s.reg rid := reg_allocs_head s _ _
    refine ⟨?_, Or.inr (Or.inr ⟨_, by rw [← hm]; rfl, fun p hp => by have := (hfresh p hp).1; omega, hl⟩)⟩
    refine good_append s _ hg _ rfl ⟨freshIds_nodup _ _, fun p hp => by have := (hfresh p hp).1; omega⟩ ?_
      ((Ext.allocs s hg.1 _ fun r hr => (hblock r hr).1).congr rfl)
    refine ⟨by show s.regs.length < _; omega,
      fun p hp => ⟨by show s.regs.length < p.2; have := (hfresh p hp).1; omega, by have := (hfresh p hp).2; omega⟩, by rw [hr0]; exact hnl,
      fun k hk => ?_, ?_, fun p hp => ?_⟩
    · obtain ⟨a, ha, rfl⟩ := exists_getD_of_mem n k 0 hk
      exact hnp a (hnl ▸ ha)
    · rw [absMesh_built s rid n bc subs m' hmk]
      obtain ⟨_, _, _, _, rfl⟩ := (mkMesh?_ok_iff _ _ _ _ _).mp hmk
      exact ⟨C01.toLower_idem bc, hbc⟩
    · rw [hr0]
      exact (hnew p.2 (by have := (hfresh p hp).1; omega) (by have := (hfresh p hp).2; omega)).2.2

theorem meshCopy_inv (s : Store) (hg : Good s) (mid : Nat) (op : Op) :
    Good (meshCopy s mid op).1 ∧ MeshesStep s (meshCopy s mid op).1 := by
  have same : Good s ∧ MeshesStep s s := ⟨hg, Or.inl rfl⟩
  unfold meshCopy
  cases hmo : s.meshes[mid]? with
  | none => exact same
  | some mo =>
    simp only
    cases hr : stepR (s.reg mo.region) (op.withInplace false) with
    | error e => exact same
    | ok xr =>
      obtain ⟨x, r'⟩ := xr
      cases hsub : mapSubs (valsOf s mo.subs) (fun c => stepR c (subOpCopy (s.reg mo.region) op)) with
      | error e => exact same
      | ok subs' =>
        simp only
        have hg1 := allocs_good s hg _ (meshCopy_regions_inv s hg mo (List.mem_of_getElem? hmo) _ _ x r' subs' hr hsub)
        cases hmk : mkMeshS (s.allocs (r' :: subs'.map (·.2))) s.regs.length (opNS (s.reg mo.region) mo.n op) (opBcS mo.bc op)
            (freshIds (s.regs.length + 1) subs') with
        | error e => exact same
        | ok s' => exact mkMeshS_inv s _ s' hg1 rfl (by rw [allocs_length]; omega) _ _ _ _ hmk

/-- the assignment of subregions keeps the store good: it is refused without effect, or the mesh object gets a dictionary
of new Region objects — stamped copies of the candidates (`attach_facts`) — and stays in a proper state -/
theorem setSubsS_inv (s : Store) (hg : Good s) (mid : Nat) (subs : List (String × Nat)) :
    Good (exec s (.setSubs mid subs)).1 ∧ MeshesStep s (exec s (.setSubs mid subs)).1 := by
  have same : Good s ∧ MeshesStep s s := ⟨hg, Or.inl rfl⟩
  simp only [exec]
  cases hmo : s.meshes[mid]? with
  | none => exact same
  | some mo =>
    simp only
    have hmem : mo ∈ s.meshes := List.mem_of_getElem? hmo
    obtain ⟨v1, v2, v3, v4, v5, v6⟩ := hg.2.2 mo hmem
    by_cases hidsb : idsOk s subs = true
    · rw [hidsb]
      simp only [Bool.not_true, Bool.false_eq_true, if_false]
      have hids := (idsOk_iff s subs).mp hidsb
      cases hat : attach s (absMesh s mo) subs with
      | error e => exact same
      | ok r =>
        obtain ⟨s1, ids⟩ := r
        simp only
        obtain ⟨f1, f2, f3, f4, f5, f6, f7⟩ := attach_facts s s1 (absMesh s mo) subs ids hat hg.1 (hg.1 _ v1) hids
        have hsr : ∀ j, ({ s1 with meshes := setAt s1.meshes mid { mo with subs := ids } } : Store).reg j = s1.reg j := fun _ => rfl
        have hms : setAt s1.meshes mid { mo with subs := ids } = setAt s.meshes mid { mo with subs := ids } := by rw [f1]
        refine ⟨?_, Or.inr (Or.inl ⟨mid, mo, { mo with subs := ids }, hmo, hms, rfl, Or.inr fun p hp => (f6 p hp).1⟩)⟩
        apply good_setAt_fresh s { s1 with meshes := setAt s1.meshes mid { mo with subs := ids } } hg mid mo { mo with subs := ids } hmo
          hms ⟨f5, fun p hp => (f6 p hp).1⟩ ?_ (f7.congr rfl)
        refine ⟨by show mo.region < s1.regs.length; omega,
          fun p hp => ⟨by show mo.region < p.2; have := (f6 p hp).1; omega, (f6 p hp).2⟩, ?_, v4, ?_, ?_⟩
        · rw [hsr, f3 _ v1]; exact v3
        · refine bcInv_congr (absMesh s mo)
            (absMesh { s1 with meshes := setAt s1.meshes mid { mo with subs := ids } } { mo with subs := ids }) rfl ?_ v5
          show (s1.reg mo.region).dims = _
          rw [f3 _ v1]; rfl
        · intro p hp
          rw [hsr, hsr, f3 _ v1, (f4 p.2 (f6 p hp).1 (f6 p hp).2).2.2]; rfl
    · rw [Bool.eq_false_iff.mpr hidsb]; exact same

/-- **every statement keeps the store good** — on every path, rejected statements and statements that
raise half-way included — and changes the list of mesh objects in one of the three ways of `MeshesStep` -/
theorem exec_inv (s : Store) (hg : Good s) (st : Stmt) : Good (exec s st).1 ∧ MeshesStep s (exec s st).1 := by
  -- statement by statement; a refused statement returns the store as it is (`same`), the others are the lemmas above
  have same : Good s ∧ MeshesStep s s := ⟨hg, Or.inl rfl⟩
  cases st with
  | newRegion r =>
    simp only [exec]
    by_cases hr : r.invB = true
    · rw [if_pos hr]
      exact ⟨allocs_good s hg [r] fun r0 h0 => List.mem_singleton.mp h0 ▸ C01.region_inv_of_invB r hr, Or.inl rfl⟩
    · rw [if_neg hr]; exact same
  | newMesh rid n bc subs =>
    simp only [exec]
    cases hmk : mkMeshS s rid n bc subs with
    | error e => exact same
    | ok s' => exact mkMeshS_inv s s s' hg rfl (le_refl _) _ _ _ _ hmk
  | setSubs mid subs => exact setSubsS_inv s hg mid subs
  | meshOp mid op =>
    simp only [exec]
    split
    · exact meshInplace_inv s hg mid op
    · exact meshCopy_inv s hg mid op
  | regionOp rid op =>
    simp only [exec]
    by_cases hrid : s.regs.length ≤ rid
    · rw [if_pos hrid]; exact same
    · rw [if_neg hrid]
      split
      · cases hu : updReg s rid op with
        | error e => exact same
        | ok s' =>
          obtain ⟨a1, a2, a3⟩ := updReg_similar s s' rid op hu hg.1
          exact ⟨good_same_meshes s s' hg a1 a3, Or.inl a1⟩
      · cases hst : stepR (s.reg rid) (op.withInplace false) with
        | error e => exact same
        | ok xr =>
          obtain ⟨x, ret⟩ := xr
          simp only
          exact ⟨allocs_good s hg [ret] fun r0 h0 =>
            List.mem_singleton.mp h0 ▸ (stepR_keeps _ (hg.1 rid (by omega)) _ _ _ hst).1, Or.inl rfl⟩

theorem exec_good (s : Store) (hg : Good s) (st : Stmt) : Good (exec s st).1 := (exec_inv s hg st).1

theorem run_good (s : Store) (hg : Good s) (sts : List Stmt) : Good (run s sts) := by
  induction sts generalizing s with
  | nil => exact hg
  | cons st sts ih => exact ih _ (exec_good s hg st)

/-! ## exclusive ownership of Region objects (the constructor stores a copy of the region object it is given, repo fix 12c808de) -/

/-- the region object of one mesh is not held by another mesh (neither as region nor as subregion) -/
def RegExcl (s : Store) : Prop :=
  ∀ (i j : Nat) (mo mo' : MeshObj), s.meshes[i]? = some mo → s.meshes[j]? = some mo' → i ≠ j → mo.region ∉ footprint mo'

theorem empty_regExcl : RegExcl Store.empty := fun i j a b ha => by simp [Store.empty] at ha

/-- `Owned` (Model/C13Store) read off a mesh object; stated for users of the model -/
theorem owned_of_getElem? (s : Store) (i : Nat) (mo : MeshObj) (h : s.meshes[i]? = some mo) (a : Nat) (ha : a ∈ footprint mo) :
    Owned s a := ⟨mo, List.mem_of_getElem? h, ha⟩

theorem footprint_lt (s : Store) (hg : Good s) (i : Nat) (mo : MeshObj) (h : s.meshes[i]? = some mo) (a : Nat) (ha : a ∈ footprint mo) :
    a < s.regs.length := by
  obtain ⟨v1, v2, _⟩ := hg.2.2 mo (List.mem_of_getElem? h)
  simp only [footprint, List.mem_cons] at ha
  rcases ha with e | e
  · rw [e]; exact v1
  · obtain ⟨p, hp, e2⟩ := List.mem_map.mp e
    rw [← e2]; exact (v2 p hp).2

/-- **every statement keeps the region objects exclusive**: a new mesh object gets a region object of
its own (repo fix 12c808de), an existing one keeps its region object -/
theorem exec_regExcl (s : Store) (hg : Good s) (he : RegExcl s) (st : Stmt) : RegExcl (exec s st).1 := by
  rcases (exec_inv s hg st).2 with h | ⟨mid, mo, mo', hmo, hm, hreg, hsubs⟩ | ⟨mo', hm, hfresh, hnr⟩
  · intro i j a b ha hb hij
    rw [h] at ha hb
    exact he i j a b ha hb hij
  · intro i j a b ha hb hij
    rw [hm] at ha hb
    have hmid : mid < s.meshes.length := (List.getElem?_eq_some_iff.mp hmo).1
    by_cases hi : i = mid
    · subst hi
      rw [getElem?_setAt_eq _ _ _ hmid] at ha
      injection ha with ha; subst ha
      rw [getElem?_setAt_ne _ _ _ _ (Ne.symm hij)] at hb
      rw [hreg]; exact he i j mo b hmo hb hij
    · rw [getElem?_setAt_ne _ _ _ _ hi] at ha
      by_cases hj : j = mid
      · subst hj
        rw [getElem?_setAt_eq _ _ _ hmid] at hb
        injection hb with hb; subst hb
        have hold := he i j a mo ha hmo hij
        simp only [footprint, List.mem_cons, not_or] at hold ⊢
        refine ⟨by rw [hreg]; exact hold.1, ?_⟩
        rcases hsubs with e | e
        · rw [e]; exact hold.2
        · intro hmem
          obtain ⟨p, hp, e2⟩ := List.mem_map.mp hmem
          have := e p hp
          have := footprint_lt s hg i a ha a.region List.mem_cons_self
          omega
      · rw [getElem?_setAt_ne _ _ _ _ hj] at hb
        exact he i j a b ha hb hij
  · intro i j a b ha hb hij
    rw [hm] at ha hb
    rcases getElem?_append_singleton _ _ _ _ ha with ha' | ⟨hi, ea⟩ <;>
      rcases getElem?_append_singleton _ _ _ _ hb with hb' | ⟨hj, eb⟩
    · exact he i j a b ha' hb' hij
    · -- an old region against the new mesh: all its objects are new
      subst eb
      have hlt := footprint_lt s hg i a ha' a.region List.mem_cons_self
      simp only [footprint, List.mem_cons, not_or]
      constructor
      · omega
      · intro hmem
        obtain ⟨p, hp, e2⟩ := List.mem_map.mp hmem
        have := hfresh p hp
        omega
    · -- the new region against an old mesh
      subst ea
      intro hmem
      have hlt := footprint_lt s hg j b hb' _ hmem
      omega
    · omega

theorem run_regExcl (s : Store) (hg : Good s) (he : RegExcl s) (sts : List Stmt) : RegExcl (run s sts) := by
  induction sts generalizing s with
  | nil => exact he
  | cons st sts ih => exact ih _ (exec_good s hg st) (exec_regExcl s hg he st)

theorem subs_disjoint (s : Store) (hg : Good s) (i j : Nat) (mo mo' : MeshObj) (hi : s.meshes[i]? = some mo)
    (hj : s.meshes[j]? = some mo') (hij : i ≠ j) (p q : String × Nat) (hp : p ∈ mo.subs) (hq : q ∈ mo'.subs) : p.2 ≠ q.2 := by
  have hnd := hg.2.1
  unfold subIds at hnd
  rw [flatMap_split _ _ _ _ hi, List.nodup_append] at hnd
  obtain ⟨h1, _, h3⟩ := hnd
  rw [List.nodup_append] at h1
  have hp' : p.2 ∈ mo.subs.map (·.2) := List.mem_map_of_mem hp
  have hq' : q.2 ∈ mo'.subs.map (·.2) := List.mem_map_of_mem hq
  rcases mem_take_or_drop _ i j mo' hj (Ne.symm hij) with hm | hm
  · intro e
    exact h1.2.2 q.2 (List.mem_flatMap.mpr ⟨mo', hm, hq'⟩) p.2 hp' e.symm
  · intro e
    exact h3 p.2 (List.mem_append_right _ hp') q.2 (List.mem_flatMap.mpr ⟨mo', hm, hq'⟩) e

/-- **No Region object is reachable from two meshes, nor twice from one** — in every good store with
exclusive region objects: the footprints of two different mesh objects are disjoint, and the
footprint of a mesh object lists pairwise different objects -/
theorem footprints_disjoint (s : Store) (hg : Good s) (he : RegExcl s) (i j : Nat) (mo mo' : MeshObj)
    (hi : s.meshes[i]? = some mo) (hj : s.meshes[j]? = some mo') :
    (footprint mo).Nodup ∧ (i ≠ j → ∀ a, a ∈ footprint mo → a ∉ footprint mo') := by
  obtain ⟨v1, v2, _⟩ := hg.2.2 mo (List.mem_of_getElem? hi)
  constructor
  · unfold footprint
    rw [List.nodup_cons]
    refine ⟨?_, nodup_of_flatMap _ _ hg.2.1 mo (List.mem_of_getElem? hi)⟩
    intro hmem
    obtain ⟨p, hp, e⟩ := List.mem_map.mp hmem
    have := (v2 p hp).1
    omega
  · intro hij a ha ha'
    simp only [footprint, List.mem_cons] at ha ha'
    rcases ha with e | e
    · subst e
      exact he i j mo mo' hi hj hij (by simpa [footprint] using ha')
    · rcases ha' with e' | e'
      · subst e'
        exact he j i mo' mo hj hi (Ne.symm hij) (by simp only [footprint, List.mem_cons]; exact Or.inr e)
      · obtain ⟨p, hp, e1⟩ := List.mem_map.mp e
        obtain ⟨q, hq, e2⟩ := List.mem_map.mp e'
        exact subs_disjoint s hg i j mo mo' hi hj hij p q hp hq (e1.trans e2.symm)

end DFV.S
