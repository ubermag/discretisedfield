import DFV.Lemmas.C02DictAligned
/-! C02: acceptance.  Every accepted specification gives an array of shape `(*n, nvdim)`; the
two-pass path `update_field_values` → `array` setter stores the conversion's result; each of the three
assignment paths is one conversion whose result replaces the array; and a
specification is accepted exactly when it is well formed, a condition on the inputs alone
(`Leaf.WF`, `dictWF`, `Spec.WF`).  Last: the insertion order of the value dictionary is irrelevant, and
on aligned subregions the index-box test is the centre test. -/
namespace DFV.C02
open DFV DFV.Mesh

variable {V : Type} [Inhabited V]

/-! ### shapes, the two-pass path -/

theorem asArray_shape_any (isZero : V → Bool) (s : Spec V) (m : Mesh) (nv : Nat) (a : NDA V)
    (h : asArray isZero s m nv = .ok a) : a.shape = m.n ++ [nv] := by
  cases s with
  | leaf l => exact asLeaf_shape isZero l m nv a h
  | dict items dflt =>
    obtain ⟨_, a1, hloop, hrest⟩ := (asArray_dict_eq_ok_iff isZero items dflt m nv a).mp h
    have hs1 := (dictLoop_get isZero items m nv _ _ a1 hloop).1.trans (fillArr_spec dflt m nv).1
    rcases hrest with ⟨_, rfl⟩ | ⟨_, d, _, a2, hdl, rfl⟩
    · exact hs1
    · exact (dfltLoop_get d m nv _ a1 a2 hdl).1.trans hs1

theorem updateValues_ok_iff (isZero : V → Bool) (s : Spec V) (m : Mesh) (nv : Nat) (b : NDA V) :
    updateValues isZero s m nv = .ok b ↔
      ∃ a, asArray isZero s m nv = .ok a ∧ asLeaf isZero (.arr a) m nv = .ok b := by
  unfold updateValues
  cases asArray isZero s m nv with
  | error e => exact ⟨nofun, fun ⟨_, h, _⟩ => nomatch h⟩
  | ok a => simp

theorem updateValues_of_ok (isZero : V → Bool) (s : Spec V) (m : Mesh) (nv : Nat) (a : NDA V)
    (h : asArray isZero s m nv = .ok a) :
    ∃ b, updateValues isZero s m nv = .ok b ∧ b.shape = m.n ++ [nv] ∧
      ∀ j, inRange (m.n ++ [nv]) j = true → b.get j = a.get j := by
  obtain ⟨b, hb, hrest⟩ := asLeaf_arr_full isZero a m nv (asArray_shape_any isZero s m nv a h)
  exact ⟨b, (updateValues_ok_iff isZero s m nv b).mpr ⟨a, h, hb⟩, hrest⟩

theorem updateValues_of_err (isZero : V → Bool) (s : Spec V) (m : Mesh) (nv : Nat) (e : Err)
    (h : asArray isZero s m nv = .error e) : updateValues isZero s m nv = .error e := by
  unfold updateValues; rw [h]

/-! ### the three assignment paths: one conversion each, whose result replaces the array -/

theorem setArray_eq (isZero : V → Bool) (f : VF V) (l : Leaf V) :
    f.setArray isZero l = (asLeaf isZero l f.mesh f.nvdim).map fun a => { f with data := a } := by
  unfold VF.setArray; cases asLeaf isZero l f.mesh f.nvdim <;> rfl

theorem update_eq (isZero : V → Bool) (f : VF V) (s : Spec V) :
    f.update isZero s = (updateValues isZero s f.mesh f.nvdim).map fun a => { f with data := a } := by
  unfold VF.update; cases updateValues isZero s f.mesh f.nvdim <;> rfl

theorem setSpec_eq (isZero : V → Bool) (f : VF V) (s : Spec V) :
    f.setSpec isZero s = (asArray isZero s f.mesh f.nvdim).map fun a => { f with data := a } := by
  unfold VF.setSpec; cases asArray isZero s f.mesh f.nvdim <;> rfl

omit [Inhabited V] in
theorem withData_ok (f g : VF V) (x : M (NDA V)) (h : x.map (fun a => { f with data := a }) = .ok g) :
    ∃ a, x = .ok a ∧ g = { f with data := a } := by
  cases x with
  | error e => cases h
  | ok a => exact ⟨a, rfl, (Except.ok.inj h).symm⟩

/-! ### dictionaries -/

/-- the `default` entry serves cell `i` (asked only for cells no listed subregion covers): a
constant always does, a function must return `nv` numbers at the cell centre, a field must have
`nv` components and be defined at the cell centre; an absent default serves no cell -/
def dfltCellOk (dflt : Option (Dflt V)) (m : Mesh) (nv : Nat) (i : List Nat) : Prop :=
  match dflt with
  | none => False
  | some (.val _) => True
  | some (.func fn) => (fn (m.centre i)).length = nv
  | some (.field src) => src.nvdim = nv ∧ ∃ j, src.mesh.point2index (m.centre i) = .ok j
  | some .bad => False

/-- WELL-FORMED dictionary on a mesh whose subregions are unions of cells (index boxes `k1 p … k2 p`):
the default can be broadcast if it is a constant, every listed subregion's value is well formed on
the subregion's own mesh (also a subregion hidden behind earlier ones), and the default serves every
cell that no listed subregion covers. -/
def dictWF (isZero : V → Bool) (items : List (String × Leaf V)) (dflt : Option (Dflt V)) (m : Mesh) (nv : Nat)
    (k1 k2 : String × Region → Nat → Nat) : Prop :=
  dfltFillOk dflt m nv ∧
  (∀ p ∈ m.subs, ∀ lf, lookupLeaf items p.1 = some lf →
    Leaf.WF isZero lf (subMeshOf m p.2 (k1 p) (k2 p)) nv) ∧
  (∀ i, inRange m.n i = true → (∀ p ∈ m.subs, hits items m k1 k2 i p = false) → dfltCellOk dflt m nv i)

omit [Inhabited V] in
theorem dfltCell_ok_iff (d : Dflt V) (hd : ∀ arr, d ≠ .val arr) (m : Mesh) (hlen : m.n.length = m.ndim) (nv : Nat) (i : List Nat)
    (hi : inRange m.n i = true) :
    (∃ vs, dfltCell d m i = .ok vs ∧ vs.length = nv) ↔ dfltCellOk (some d) m nv i := by
  rw [dfltCell_eq d m hlen i hi]
  cases d with
  | val arr => exact absurd rfl (hd arr)
  | func fn => exact ⟨fun ⟨_, h, hl⟩ => by cases h; exact hl, fun h => ⟨_, rfl, h⟩⟩
  | field src =>
    simp only [VF.call, dfltCellOk]
    cases src.mesh.point2index (m.centre i) with
    | error e => exact ⟨fun ⟨_, h, _⟩ => (nomatch h), fun ⟨_, _, h⟩ => (nomatch h)⟩
    | ok j =>
      exact ⟨fun ⟨_, h, hl⟩ => ⟨by cases h; rw [← hl, row_length], j, rfl⟩,
        fun h => ⟨_, rfl, by rw [row_length, h.1]⟩⟩
  | bad => exact ⟨fun ⟨_, h, _⟩ => (nomatch h), False.elim⟩

theorem loop_entry_none_iff (isZero : V → Bool) (items : List (String × Leaf V)) (m : Mesh) (hm : m.Inv) (nv : Nat)
    (k1 k2 : String × Region → Nat → Nat)
    (hal : ∀ p ∈ m.subs, AlignedSub m p.2 (k1 p) (k2 p))
    (hwf : ∀ p ∈ m.subs, ∀ lf, lookupLeaf items p.1 = some lf →
      Leaf.WF isZero lf (subMeshOf m p.2 (k1 p) (k2 p)) nv)
    (a0 a1 : NDA (Option V)) (hloop : dictLoop isZero items m nv m.subs.reverse a0 = .ok a1)
    (i : List Nat) (hi : inRange m.n i = true) (c : Nat) (hc : c < nv) (h0 : a0.get (i ++ [c]) = none) :
    a1.get (i ++ [c]) = none ↔ ∀ p ∈ m.subs, hits items m k1 k2 i p = false := by
  obtain ⟨_, hg1⟩ := dictLoop_get isZero items m nv _ a0 a1 hloop
  rw [hg1, h0, findSome_patch isZero items m hm nv k1 k2 i (hm.length_eq hi) c hc m.subs hal hwf,
    Option.or_none, Option.map_eq_none_iff, List.find?_eq_none]
  exact forall₂_congr fun p _ => Bool.eq_false_iff.symm

theorem dict_wf_of_ok (isZero : V → Bool) (items : List (String × Leaf V)) (dflt : Option (Dflt V))
    (m : Mesh) (hm : m.Inv) (nv : Nat) (hnv : 0 < nv) (k1 k2 : String × Region → Nat → Nat)
    (hal : ∀ p ∈ m.subs, AlignedSub m p.2 (k1 p) (k2 p)) (a : NDA V)
    (h : asArray isZero (.dict items dflt) m nv = .ok a) : dictWF isZero items dflt m nv k1 k2 := by
  obtain ⟨hfill, a1, hloop, hdef⟩ := (asArray_dict_accepted_iff isZero items dflt m nv).mp ⟨a, h⟩
  have hwf := (dictLoop_aligned_ok_iff isZero items m hm nv k1 k2 hal _).mp ⟨a1, hloop⟩
  refine ⟨hfill, hwf, fun i hi hno => ?_⟩
  obtain ⟨hs0, ⟨arr, hd, _⟩ | ⟨hd, hget⟩⟩ := fillArr_spec dflt m nv
  · subst hd; exact trivial
  · -- the cell is still unset after the loop, so the default pass ran and was asked for it
    have n0 : a1.get (i ++ [0]) = none :=
      (loop_entry_none_iff isZero items m hm nv k1 k2 hal hwf _ a1 hloop i hi 0 hnv (hget _)).mpr hno
    obtain ⟨d, rfl, a2, hdl⟩ := hdef ((anyNone_iff_cell a1 m.n nv
      ((dictLoop_get isZero items m nv _ _ a1 hloop).1.trans hs0)).mpr ⟨i, 0, hi, hnv, n0⟩)
    exact (dfltCell_ok_iff d (fun arr e => hd arr (e ▸ rfl)) m hm.n_length nv i hi).mp
      ((dfltLoop_ok_iff d m nv _ a1).mp ⟨a2, hdl⟩ i ((mem_nanCells m a1 i).mpr ⟨hi, n0⟩))

/-- holds for any number of components, while `dict_wf_of_ok` needs `0 < nv`: hence two theorems -/
theorem dict_ok_of_wf (isZero : V → Bool) (items : List (String × Leaf V)) (dflt : Option (Dflt V))
    (m : Mesh) (hm : m.Inv) (nv : Nat) (k1 k2 : String × Region → Nat → Nat)
    (hal : ∀ p ∈ m.subs, AlignedSub m p.2 (k1 p) (k2 p))
    (h : dictWF isZero items dflt m nv k1 k2) :
    ∃ a, asArray isZero (.dict items dflt) m nv = .ok a := by
  obtain ⟨hf, hwf, hcell⟩ := h
  obtain ⟨a1, hloop⟩ := (dictLoop_aligned_ok_iff isZero items m hm nv k1 k2 hal (fillArr dflt m nv)).mpr hwf
  refine (asArray_dict_accepted_iff isZero items dflt m nv).mpr ⟨hf, a1, hloop, fun hany => ?_⟩
  obtain ⟨hs1, hg1⟩ := dictLoop_get isZero items m nv _ _ a1 hloop
  obtain ⟨hs0, hfill'⟩ := fillArr_spec dflt m nv
  obtain ⟨i0, c0, hi0, hc0, hn0⟩ := (anyNone_iff_cell a1 m.n nv (hs1.trans hs0)).mp hany
  rcases hfill' with ⟨arr, hd, hget⟩ | ⟨hd, hget⟩
  · -- constant default: the loop never erases an entry, so nothing is unset
    rw [hg1, hget, Option.or_eq_none_iff] at hn0
    cases hn0.2
  · -- the unset cells are the uncovered ones, which the default serves
    have hunc : ∀ i c, inRange m.n i = true → c < nv → a1.get (i ++ [c]) = none →
        ∀ p ∈ m.subs, hits items m k1 k2 i p = false := fun i c hi hc =>
      (loop_entry_none_iff isZero items m hm nv k1 k2 hal hwf _ a1 hloop i hi c hc (hget _)).mp
    cases dflt with
    | none => exact (hcell i0 hi0 (hunc i0 c0 hi0 hc0 hn0)).elim
    | some d =>
      refine ⟨d, rfl, (dfltLoop_ok_iff d m nv (nanCells m a1) a1).mpr fun i hin => ?_⟩
      obtain ⟨hi, n0⟩ := (mem_nanCells m a1 i).mp hin
      exact (dfltCell_ok_iff d (fun arr e => hd arr (e ▸ rfl)) m hm.n_length nv i hi).mpr
        (hcell i hi (hunc i 0 hi (by omega) n0))

/-- WELL-FORMED specification of any kind, on the inputs alone -/
def Spec.WF (isZero : V → Bool) (s : Spec V) (m : Mesh) (nv : Nat) (k1 k2 : String × Region → Nat → Nat) : Prop :=
  match s with
  | .leaf l => Leaf.WF isZero l m nv
  | .dict items dflt => dictWF isZero items dflt m nv k1 k2

/-- `0 < nv` is needed only for ⇒, and only for dictionaries -/
theorem spec_ok_iff (isZero : V → Bool) (s : Spec V) (m : Mesh) (hm : m.Inv) (nv : Nat) (hnv : 0 < nv)
    (k1 k2 : String × Region → Nat → Nat) (hal : ∀ p ∈ m.subs, AlignedSub m p.2 (k1 p) (k2 p)) :
    (∃ a, asArray isZero s m nv = .ok a) ↔ Spec.WF isZero s m nv k1 k2 := by
  cases s with
  | leaf l =>
    simp only [asArray, Spec.WF]
    exact ⟨fun ⟨a, h⟩ => wf_of_asLeaf_ok isZero l m nv a h, fun h => ⟨_, asLeaf_ok_of_wf isZero l m nv h⟩⟩
  | dict items dflt =>
    simp only [Spec.WF]
    exact ⟨fun ⟨a, h⟩ => dict_wf_of_ok isZero items dflt m hm nv hnv k1 k2 hal a h,
      dict_ok_of_wf isZero items dflt m hm nv k1 k2 hal⟩

/-! ### the order of the value dictionary; box test = centre test -/

omit [Inhabited V] in
/-- `lookupLeaf` only depends on the set of entries when the keys are pairwise different (Python
dictionaries have unique keys): the insertion order of the value dictionary is irrelevant -/
theorem lookupLeaf_perm (items items' : List (String × Leaf V)) (hp : items.Perm items')
    (hnd : (items.map (·.1)).Nodup) (name : String) : lookupLeaf items name = lookupLeaf items' name := by
  unfold lookupLeaf
  congr 1
  induction hp with
  | nil => rfl
  | cons x _ ih =>
    rw [List.find?_cons, List.find?_cons, ih (List.nodup_cons.mp hnd).2]
  | swap x y l =>
    -- at most one of the two swapped keys is `name`
    have hne : ¬ (y.1 = name ∧ x.1 = name) := fun h =>
      (List.nodup_cons.mp hnd).1 (List.mem_cons.mpr (Or.inl (h.1.trans h.2.symm)))
    simp only [List.find?_cons]
    cases hx : (x.1 == name) <;> cases hy : (y.1 == name) <;> try rfl
    -- both keys equal `name`
    · exact absurd ⟨beq_iff_eq.mp hy, beq_iff_eq.mp hx⟩ hne
  | trans h1 _ ih1 ih2 =>
    rw [ih1 hnd]
    exact ih2 ((List.Perm.map (·.1) h1).nodup_iff.mp hnd)

theorem asArray_dict_congr (isZero : V → Bool) (items items' : List (String × Leaf V)) (dflt : Option (Dflt V))
    (m : Mesh) (nv : Nat) (h : ∀ name, lookupLeaf items name = lookupLeaf items' name) :
    asArray isZero (.dict items dflt) m nv = asArray isZero (.dict items' dflt) m nv := by
  simp only [asArray]
  split
  · rfl
  · rw [dictLoop_congr isZero items items' m nv h]

/-- subregion `p` is a key of the value dictionary and its region contains the centre of cell `i` -/
def listedContains (items : List (String × Leaf V)) (m : Mesh) (i : List Nat) (p : String × Region) : Bool :=
  (lookupLeaf items p.1).isSome &&
    allLt m.ndim fun a => decide (p.2.lo a ≤ m.centreAx a (i.getD a 0 : Nat)) &&
      decide (m.centreAx a (i.getD a 0 : Nat) ≤ p.2.hi a)

omit [Inhabited V] in
theorem hits_eq_listedContains (items : List (String × Leaf V)) (m : Mesh) (hm : m.Inv)
    (k1 k2 : String × Region → Nat → Nat) (p : String × Region) (hal : AlignedSub m p.2 (k1 p) (k2 p))
    (i : List Nat) (hi : inRange m.n i = true) : hits items m k1 k2 i p = listedContains items m i p := by
  have hiff := inBox_iff_centre m hm p.2 (k1 p) (k2 p) hal i hi []
  simp only [List.append_nil] at hiff
  unfold hits listedContains
  congr 1
  rw [Bool.eq_iff_iff, hiff, allLt_iff]
  simp only [Bool.and_eq_true, decide_eq_true_eq]

end DFV.C02
