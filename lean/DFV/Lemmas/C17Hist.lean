import DFV.Lemmas.C01
import DFV.Lemmas.C13StepM
import DFV.Model.C17
/-! In-place changes of the mesh a field holds (`field.mesh.translate(…, inplace=True)`,
`field.mesh.scale(…, inplace=True)`), as modelled by the shared `T.stepM`: what an accepted call does to
the region (read off the shared step lemmas `T.stepM_returns`, `T.stepM_keeps`, `T.applyR_inv`, `T.stepM_assign`: the
region becomes `T.applyR`, the `T.target` of the new corners), which calls are accepted, that
well-formedness is kept, and how the cell centres move (`T.scaleLo_eq`, `T.scaleHi_sub_scaleLo`). -/
namespace DFV.C17
open DFV

/-- the reference point used: the argument, else the region's centre -/
def refOf (r : Region) (ref : Option (List Rat)) : List Rat := ref.getD r.center

/-! ## what an accepted in-place call did -/

theorem toOp_inplace (op : MeshOp) : op.toOp.inplace = true := by cases op <;> rfl

/-- either operation: the call was well-formed, the mesh keeps its invariant, its counts and `bc`; its region is
`T.applyR` (`T.target` of the new corners, by `rfl` per operation) -/
theorem stepM_inplace (m : Mesh) (hm : m.Inv) (op : MeshOp) (m' ret : Mesh) (h : T.stepM m op.toOp = .ok (m', ret)) :
    m'.Inv ∧ ¬ T.Malformed m.region op.toOp ∧ m'.region = T.applyR m.region op.toOp ∧ m'.n = m.n ∧ m'.bc = m.bc := by
  obtain ⟨hinv, -, -, -⟩ := T.stepM_keeps m hm _ _ _ h
  obtain ⟨hmal, hr, hn, hbc, hrecv⟩ := T.stepM_returns m hm _ _ _ h
  rw [toOp_inplace, if_pos rfl] at hbc hrecv
  subst hrecv
  exact ⟨hinv, hmal, hr, by rw [hn]; cases op <;> rfl, by rw [hbc]; cases op <;> rfl⟩

theorem stepM_translate_inv (m : Mesh) (hm : m.Inv) (v : List Rat) (m' ret : Mesh)
    (h : T.stepM m (.translate v true) = .ok (m', ret)) :
    v.length = m.ndim ∧ m'.n = m.n ∧
    m'.region = T.target m.region (fun a => m.region.lo a + v.getD a 0) (fun a => m.region.hi a + v.getD a 0)
      m.region.units := by
  obtain ⟨-, hmal, hr, hn, -⟩ := stepM_inplace m hm (.translate v) m' ret h
  exact ⟨not_not.mp hmal, hn, hr⟩

theorem stepM_scale_inv (m : Mesh) (hm : m.Inv) (f : T.Factor) (ref : Option (List Rat)) (m' ret : Mesh)
    (h : T.stepM m (.scale f ref true) = .ok (m', ret)) :
    (f.okFor m.ndim = true ∧ (refOf m.region ref).length = m.ndim ∧ ∀ a, a < m.ndim → f.at a ≠ 0) ∧ m'.n = m.n ∧
    m'.region = T.target m.region (T.scaleLo m.region f (refOf m.region ref)) (T.scaleHi m.region f (refOf m.region ref))
      m.region.units := by
  obtain ⟨-, hmal, hr, hn, -⟩ := stepM_inplace m hm (.scale f ref) m' ret h
  obtain ⟨h1, h2, h3⟩ := not_or.mp hmal |>.imp id not_or.mp
  exact ⟨⟨(Bool.not_eq_false _).mp h1, not_not.mp h2, fun a ha h0 => h3 ⟨a, ha, h0⟩⟩, hn, hr⟩

/-! ## what an accepted in-place call keeps -/

/-- the two meshes have the same cell counts, names, units, tolerance, and `m'` is a
well-formed mesh again -/
structure SameFrame (m m' : Mesh) : Prop where
  n : m'.n = m.n
  dims : m'.region.dims = m.region.dims
  units : m'.region.units = m.region.units
  tol : m'.region.tol = m.region.tol
  ndim : m'.ndim = m.ndim
  inv : m'.Inv

theorem SameFrame.refl (m : Mesh) (hm : m.Inv) : SameFrame m m := ⟨rfl, rfl, rfl, rfl, rfl, hm⟩

theorem SameFrame.nAt {m m' : Mesh} (h : SameFrame m m') (a : Nat) : m'.nAt a = m.nAt a := by
  unfold Mesh.nAt; rw [h.n]

theorem SameFrame.trans {m1 m2 m3 : Mesh} (h1 : SameFrame m1 m2) (h2 : SameFrame m2 m3) : SameFrame m1 m3 :=
  ⟨h2.n.trans h1.n, h2.dims.trans h1.dims, h2.units.trans h1.units, h2.tol.trans h1.tol, h2.ndim.trans h1.ndim, h2.inv⟩

theorem sameFrame_step (m : Mesh) (hm : m.Inv) (op : MeshOp) (m' ret : Mesh) (h : T.stepM m op.toOp = .ok (m', ret)) :
    SameFrame m m' := by
  obtain ⟨hinv, hmal, hr, hn, -⟩ := stepM_inplace m hm op m' ret h
  obtain ⟨-, hnd, hd, ht⟩ := T.applyR_inv _ hm.1 _ hmal
  -- translation and scaling keep the units (a quarter turn would not)
  exact ⟨hn, hr ▸ hd, by rw [hr]; cases op <;> rfl, hr ▸ ht, by unfold Mesh.ndim; rw [hr]; exact hnd, hinv⟩

/-! ## cell centres after an accepted call -/

/-- cell centres of a mesh with the counts of `m` on a `T.target` region of `m`'s -/
theorem centreAx_target (m m' : Mesh) (lo' hi' : Nat → Rat) (u : List String) (hn : m'.n = m.n)
    (hr : m'.region = T.target m.region lo' hi' u) (a : Nat) (ha : a < m.ndim) (j : Int) :
    m'.centreAx a j =
      min (lo' a) (hi' a) + ((j : Rat) + 1/2) * ((max (lo' a) (hi' a) - min (lo' a) (hi' a)) / (m.nAt a : Rat)) := by
  unfold Mesh.centreAx Mesh.cellAt Region.edge Mesh.nAt
  rw [hn, hr, T.target_lo _ _ _ _ _ ha, T.target_hi _ _ _ _ _ ha]

theorem centre_translate (m : Mesh) (v : List Rat) (m' ret : Mesh)
    (h : T.stepM m (.translate v true) = .ok (m', ret)) (a : Nat) (ha : a < m.ndim) (hm : m.Inv) (j : Int) :
    m'.centreAx a j = m.centreAx a j + v.getD a 0 := by
  obtain ⟨-, hn, hr⟩ := stepM_translate_inv m hm v m' ret h
  have hle : m.region.lo a + v.getD a 0 ≤ m.region.hi a + v.getD a 0 := (add_lt_add_left (hm.lo_lt_hi ha) _).le
  rw [centreAx_target m m' _ _ _ hn hr a ha, min_eq_left hle, max_eq_right hle]
  unfold Mesh.centreAx Mesh.cellAt Region.edge
  ring

theorem centre_scale_pos (m : Mesh) (f : T.Factor) (ref : Option (List Rat)) (m' ret : Mesh)
    (h : T.stepM m (.scale f ref true) = .ok (m', ret)) (a : Nat) (ha : a < m.ndim) (hm : m.Inv)
    (hs : 0 < f.at a) (j : Int) :
    m'.centreAx a j = (refOf m.region ref).getD a 0 + f.at a * (m.centreAx a j - (refOf m.region ref).getD a 0) := by
  obtain ⟨-, hn, hr⟩ := stepM_scale_inv m hm f ref m' ret h
  have hle : T.scaleLo m.region f (refOf m.region ref) a ≤ T.scaleHi m.region f (refOf m.region ref) a :=
    sub_nonneg.mp (by rw [T.scaleHi_sub_scaleLo]; exact (mul_pos (hm.1.edge_pos ha) hs).le)
  rw [centreAx_target m m' _ _ _ hn hr a ha, min_eq_left hle, max_eq_right hle, T.scaleHi_sub_scaleLo, T.scaleLo_eq]
  unfold Mesh.centreAx Mesh.cellAt
  ring

/-- scaling by a negative factor: the order of the cells along the axis is reversed -/
theorem centre_scale_neg (m : Mesh) (f : T.Factor) (ref : Option (List Rat)) (m' ret : Mesh)
    (h : T.stepM m (.scale f ref true) = .ok (m', ret)) (a : Nat) (ha : a < m.ndim) (hm : m.Inv)
    (hs : f.at a < 0) (j : Int) :
    m'.centreAx a j = (refOf m.region ref).getD a 0 +
      f.at a * (m.centreAx a ((m.nAt a : Int) - 1 - j) - (refOf m.region ref).getD a 0) := by
  obtain ⟨-, hn, hr⟩ := stepM_scale_inv m hm f ref m' ret h
  have hle : T.scaleHi m.region f (refOf m.region ref) a ≤ T.scaleLo m.region f (refOf m.region ref) a :=
    sub_nonpos.mp (by rw [T.scaleHi_sub_scaleLo]; exact (mul_neg_of_pos_of_neg (hm.1.edge_pos ha) hs).le)
  -- the new cell size is `-s` times the old one
  have hq : (T.scaleLo m.region f (refOf m.region ref) a - T.scaleHi m.region f (refOf m.region ref) a) / (m.nAt a : Rat)
      = -(f.at a * m.cellAt a) := by
    rw [← neg_sub, T.scaleHi_sub_scaleLo]; unfold Mesh.cellAt; ring
  -- the new lower face is the image of the old upper one, `hi = lo + n·cell`
  rw [centreAx_target m m' _ _ _ hn hr a ha, min_eq_right hle, max_eq_left hle, hq, T.scaleHi_eq,
    C01.hi_eq m a (hm.2.2 a ha)]
  unfold Mesh.centreAx
  push_cast
  ring

/-! ## acceptance: a mesh without subregions -/

theorem inplace_accepted_of (m : Mesh) (hm : m.Inv) (hsub : m.subs = []) (op : MeshOp) (h : ¬ T.Malformed m.region op.toOp) :
    ∃ m', T.stepM m op.toOp = .ok (m', m') := by
  have := T.stepM_assign m hm (by rw [hsub]; exact fun _ h => nomatch h) op.toOp h
  rw [show op.toOp.withInplace true = op.toOp by cases op <;> rfl] at this
  exact ⟨_, this⟩

theorem translate_accepted (m : Mesh) (hm : m.Inv) (hsub : m.subs = []) (v : List Rat) (hv : v.length = m.ndim) :
    ∃ m', T.stepM m (.translate v true) = .ok (m', m') :=
  inplace_accepted_of m hm hsub (.translate v) (not_not.mpr hv)

theorem scale_accepted (m : Mesh) (hm : m.Inv) (hsub : m.subs = []) (f : T.Factor) (ref : Option (List Rat))
    (hf : f.okFor m.ndim = true) (href : (refOf m.region ref).length = m.ndim)
    (hs : ∀ a, a < m.ndim → f.at a ≠ 0) :
    ∃ m', T.stepM m (.scale f ref true) = .ok (m', m') := by
  refine inplace_accepted_of m hm hsub (.scale f ref) ?_
  rintro (h | h | ⟨a, ha, h0⟩)
  · exact absurd (hf.symm.trans h) (by decide)
  · exact h href
  · exact hs a ha h0

/-! ## the field -/

section
variable {α : Type}

/-- what a history of in-place mesh calls keeps of the field -/
structure SameField (f g : XFld α) : Prop where
  frame : SameFrame f.mesh g.mesh
  nvdim : g.nvdim = f.nvdim
  data : g.data = f.data
  valid : g.valid = f.valid
  vdims : g.vdims = f.vdims
  vmap : g.vmap = f.vmap
  unit : g.unit = f.unit
  dtype : g.dtype = f.dtype

theorem SameField.refl (f : XFld α) (hm : f.mesh.Inv) : SameField f f :=
  ⟨SameFrame.refl _ hm, rfl, rfl, rfl, rfl, rfl, rfl, rfl⟩

theorem SameField.trans {f g k : XFld α} (h1 : SameField f g) (h2 : SameField g k) : SameField f k :=
  ⟨h1.frame.trans h2.frame, h2.nvdim.trans h1.nvdim, h2.data.trans h1.data, h2.valid.trans h1.valid,
   h2.vdims.trans h1.vdims, h2.vmap.trans h1.vmap, h2.unit.trans h1.unit, h2.dtype.trans h1.dtype⟩

theorem meshStep_ok (f : XFld α) (op : MeshOp) (m' ret : Mesh) (h : T.stepM f.mesh op.toOp = .ok (m', ret)) :
    f.meshStep op = { f with mesh := m' } := by
  simp only [XFld.meshStep, h]

theorem meshStep_rejected (f : XFld α) (op : MeshOp) (e : Err) (h : T.stepM f.mesh op.toOp = .error e) :
    f.meshStep op = f := by
  simp only [XFld.meshStep, h]

variable [FieldAttrs]

theorem SameField.wf {f g : XFld α} (hf : f.WF) (h : SameField f g) : g.WF :=
  { mesh := h.frame.inv, nvdim := by rw [h.nvdim]; exact hf.nvdim,
    shape := by rw [h.data, h.frame.n, h.nvdim]; exact hf.shape,
    novd := by rw [h.frame.dims]; exact hf.novd,
    labels := by rw [h.vdims, h.nvdim]; exact hf.labels }

theorem meshStep_same (f : XFld α) (hf : f.WF) (op : MeshOp) : SameField f (f.meshStep op) := by
  unfold XFld.meshStep
  cases h : T.stepM f.mesh op.toOp with
  | error e => exact SameField.refl f hf.mesh
  | ok p => exact ⟨sameFrame_step f.mesh hf.mesh op p.1 p.2 h, rfl, rfl, rfl, rfl, rfl, rfl, rfl⟩

theorem run_same (f : XFld α) (hf : f.WF) (ops : List MeshOp) : SameField f (f.run ops) := by
  induction ops generalizing f with
  | nil => exact SameField.refl f hf.mesh
  | cons op ops ih =>
    have h1 := meshStep_same f hf op
    exact h1.trans (ih (f.meshStep op) (h1.wf hf))

end
end DFV.C17
