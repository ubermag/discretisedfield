import DFV.Model.Field
import DFV.Lemmas.ListOps
/-! The label lookups of `Model/Field.lean`: `Fld.vdimIndex` (position of a component label, through `indexOf?` of
`Lemmas/ListOps.lean`), `Fld.lookup` (first entry of a mapping under a key) and `Fld.rDim` (the reversed mapping: of several
labels mapped onto one axis the LAST one). -/
namespace DFV.Fld
open DFV

theorem vdimIndex_of_some {f : Fld} {vs : List String} (hv : f.vdims = some vs) (l : String) :
    f.vdimIndex l = indexOf? vs l := by
  unfold vdimIndex; rw [hv]

theorem vdimIndex_of_none {f : Fld} (hv : f.vdims = none) (l : String) : f.vdimIndex l = none := by
  unfold vdimIndex; rw [hv]

theorem vdimIndex_eq_some_iff (f : Fld) (l : String) (c : Nat) :
    f.vdimIndex l = some c ↔ ∃ vs, f.vdims = some vs ∧ indexOf? vs l = some c := by
  cases hv : f.vdims with
  | none => rw [vdimIndex_of_none hv]; exact ⟨fun h => (nomatch h), fun ⟨_, h, _⟩ => (nomatch h)⟩
  | some vs => rw [vdimIndex_of_some hv]; exact ⟨fun h => ⟨vs, rfl, h⟩, fun ⟨_, e, h⟩ => by cases e; exact h⟩

theorem lookup_nil (k : String) : lookup [] k = none := rfl

theorem lookup_cons (k d : String) (rest : List (String × String)) (l : String) :
    lookup ((k, d) :: rest) l = if k = l then some d else lookup rest l := by
  unfold lookup
  rw [List.find?_cons]
  by_cases h : k = l
  · simp [h]
  · have : (k == l) = false := by simpa using h
    simp [h, this]

theorem lookup_mem (mp : List (String × String)) (l d : String) (h : lookup mp l = some d) : (l, d) ∈ mp := by
  induction mp with
  | nil => cases h
  | cons p rest ih =>
    obtain ⟨k, v⟩ := p
    rw [lookup_cons] at h
    split at h
    · next e => cases h; rw [e]; exact List.mem_cons_self
    · exact List.mem_cons_of_mem _ (ih h)

/-- the first hit of the reversed list is the last hit of the list: everything after it fails `p` -/
theorem find?_reverse_last {α} (p : α → Bool) (l : List α) (x : α) (h : l.reverse.find? p = some x) :
    ∃ pre post, l = pre ++ x :: post ∧ p x = true ∧ ∀ y ∈ post, p y = false := by
  obtain ⟨hx, as, bs, e, hn⟩ := List.find?_eq_some_iff_append.mp h
  refine ⟨bs.reverse, as.reverse, ?_, hx, fun y hy => (Bool.not_eq_true' _).mp (hn y (List.mem_reverse.mp hy))⟩
  rw [← List.reverse_reverse l, e, List.reverse_append, List.reverse_cons, List.append_assoc]; rfl

/-- `_r_dim_mapping[a]` is the label of the LAST entry of the mapping whose target is `a`: the
mapping splits as `pre ++ (label, a) :: post` with no entry of `post` mapped onto `a` -/
theorem rDim_last (f : Fld) (a l : String) (h : f.rDim a = some l) :
    ∃ pre post, f.vmap = pre ++ (l, a) :: post ∧ ∀ q ∈ post, q.2 ≠ a := by
  unfold rDim at h
  cases hf : f.vmap.reverse.find? (fun p => p.2 == a) with
  | none => rw [hf] at h; cases h
  | some p =>
    rw [hf] at h
    simp only [Option.map_some] at h
    injection h with h
    obtain ⟨pre, post, e, hx, hpost⟩ := find?_reverse_last _ _ _ hf
    have hp : p = (l, a) := by rw [← h, ← (beq_iff_eq.mp hx : p.2 = a)]
    exact ⟨pre, post, by rw [e, hp], fun q hq => beq_eq_false_iff_ne.mp (hpost q hq)⟩

theorem rDim_none_iff (f : Fld) (a : String) : f.rDim a = none ↔ ∀ q ∈ f.vmap, q.2 ≠ a := by
  unfold rDim
  rw [Option.map_eq_none_iff, List.find?_eq_none]
  constructor
  · intro h q hq e; exact h q (List.mem_reverse.mpr hq) (beq_iff_eq.mpr e)
  · intro h q hq e; exact h q (List.mem_reverse.mp hq) (beq_iff_eq.mp e)

end DFV.Fld
