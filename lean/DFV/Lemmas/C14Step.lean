import DFV.Lemmas.C13StepM
import DFV.Lemmas.C14Lattice
import DFV.Lemmas.C01Ctor
/-! C14: the subregion invariant `SubInv` through the transformation steps.  Every region step is one axis-wise affine
map `x_a ↦ off a + fac a · x_(src a)` (`axMap`, `applyR_axMap`) that reads the units, the names and the reference point of the
step but not the corners, so the mesh region and each subregion move under the same map (`axMap_subOp`) and an exact fit
is kept axis by axis (`fitsE_axmap`, `subOkE_apply`); `stepM_subInv'` reads the rest off C13's description of the mesh step.
Also `subOkE_regionInv`, `mkMesh_inv`. -/
namespace DFV.T
open DFV

/-- the axis-wise affine map `x_a ↦ off a + fac a · x_(src a)` of a step, and the units of the result -/
structure AxMap where
  src : Nat → Nat
  off : Nat → Rat
  fac : Nat → Rat
  units : List String

/-- the map of step `op` on an object with units `u`, centre `c` and axis positions `ix`: translation `(id, v, 1)`, scaling
about `R` `(id, R − R·f, f)`, quarter turn about `R` `(rotSrc, rotOff R, rotSign)` -/
def axMapOf (u : List String) (c : List Rat) (ix : String → Nat) : Op → AxMap
  | .translate v _ => ⟨id, fun a => v.getD a 0, fun _ => 1, u⟩
  | .scale f ref _ => ⟨id, fun a => (ref.getD c).getD a 0 - (ref.getD c).getD a 0 * f.at a, f.at, u⟩
  | .rotate90 a1 a2 k ref _ =>
    ⟨rotSrc (ix a1) (ix a2) k, rotOff (ref.getD c) (ix a1) (ix a2) k, rotSign (ix a1) (ix a2) k, rotUnits u (ix a1) (ix a2) k⟩

/-- the map of a step on a region: it reads the units, the centre and the names, not the corners -/
def axMap (r : Region) (op : Op) : AxMap := axMapOf r.units r.center (axisOf r) op

/-- a subregion carrying the names and units of the mesh region moves under the map of the mesh region (its step has the
reference point of the mesh) -/
theorem axMap_subOp (m : Mesh) (s : Region) (hd : s.dims = m.region.dims) (hu : s.units = m.region.units) (op : Op) :
    axMap s (subOp m op) = axMap m.region op := by
  -- for every centre `c`: the step of a subregion carries the reference point of the mesh, it never reads its own centre
  have h1 : ∀ u c ix, axMapOf u c ix (subOp m op) = axMapOf u m.region.center ix op := fun _ _ _ => by cases op <;> rfl
  have h2 : axisOf s = axisOf m.region := funext fun a => by unfold axisOf; rw [dim2index_congr m.region s hd]
  unfold axMap
  rw [hu, h2, h1]

/-- **the region a well-formed step returns is the image of the region under the axis map of the step** — the general form of
`rotCoord_affine` for all three steps -/
theorem applyR_axMap (r : Region) (hr : r.Inv) (op : Op) (h : ¬ Malformed r op) :
    applyR r op = target r (fun a => (axMap r op).off a + (axMap r op).fac a * r.lo ((axMap r op).src a))
                           (fun a => (axMap r op).off a + (axMap r op).fac a * r.hi ((axMap r op).src a)) (axMap r op).units ∧
    ∀ a, a < r.ndim → (axMap r op).src a < r.ndim ∧ (axMap r op).fac a ≠ 0 := by
  cases op with
  | translate v i =>
    refine ⟨?_, fun a ha => ⟨ha, one_ne_zero⟩⟩
    -- here and below: lower and upper corner alike
    apply target_congr <;> intro a _ <;> simp only [axMap, axMapOf, id, one_mul] <;> exact add_comm _ _
  | scale f ref i =>
    refine ⟨?_, fun a ha => ⟨ha, fun hz => h (Or.inr (Or.inr ⟨a, ha, hz⟩))⟩⟩
    apply target_congr <;> intro a _ <;> simp only [axMap, axMapOf, id, scaleLo_eq, scaleHi_eq] <;> ring
  | rotate90 a1 a2 k ref i =>
    obtain ⟨h12, l1, l2, _⟩ := axisOf_wf r hr a1 a2 k ref i h
    refine ⟨?_, fun a ha => ⟨rotSrc_lt _ _ _ _ _ l1 l2 ha, rotSign_ne_zero _ _ _ _⟩⟩
    apply target_congr <;> intro a _ <;> exact rotCoord_affine _ _ _ _ _ a

/-- the counts follow the axes -/
theorem opN_getD (m : Mesh) (hm : m.Inv) (op : Op) (h : ¬ Malformed m.region op) (a : Nat) :
    (opN m op).getD a 0 = m.nAt ((axMap m.region op).src a) := by
  cases op with
  | translate v i => rfl
  | scale f ref i => rfl
  | rotate90 a1 a2 k ref i =>
    obtain ⟨h12, l1, l2, d1, d2⟩ := axisOf_wf m.region hm.1 a1 a2 k ref i h
    simp only [opN, d1, d2]
    exact rotN_getD _ _ _ _ h12 (hm.2.1 ▸ l1) (hm.2.1 ▸ l2) a

end DFV.T

namespace DFV.C14
open DFV DFV.T

/-- an exact fit through an axis-wise affine map `x_a ↦ A_a + s_a · x_{σ a}`, `s_a ≠ 0`, of mesh and box -/
theorem fitsE_axmap (m m' : Mesh) (hm : m.Inv) (sub sub' : Region) (σ : Nat → Nat) (A s : Nat → Rat) (u u' : List String)
    (hσ : ∀ a, a < m.ndim → σ a < m.ndim) (hs : ∀ a, a < m.ndim → s a ≠ 0)
    (hr : m'.region = target m.region (fun a => A a + s a * m.region.lo (σ a)) (fun a => A a + s a * m.region.hi (σ a)) u)
    (hn : ∀ a, a < m.ndim → m'.nAt a = m.nAt (σ a))
    (hsub : sub' = target sub (fun a => A a + s a * sub.lo (σ a)) (fun a => A a + s a * sub.hi (σ a)) u')
    (h : FitsE m sub) : FitsE m' sub' := by
  have hnd : m'.ndim = m.ndim := by unfold Mesh.ndim; rw [hr]; exact target_ndim _ _ _ _
  have hsn : sub.ndim = m.ndim := h.1
  refine ⟨by rw [hsub, hnd, ← hsn]; exact tab_length _ _, by rw [hsub, hnd, ← hsn]; exact tab_length _ _, ?_⟩
  intro a ha
  rw [hnd] at ha
  have hb := hσ a ha
  have hf : FitsAx (m.region.lo (σ a)) (m.region.hi (σ a)) (m.nAt (σ a)) (sub.lo (σ a)) (sub.hi (σ a)) :=
    h.2.2 (σ a) hb
  show FitsAx (m'.region.lo a) (m'.region.hi a) (m'.nAt a) (sub'.lo a) (sub'.hi a)
  rw [hn a ha, hr, hsub, target_lo _ _ _ _ _ ha, target_hi _ _ _ _ _ ha, target_lo _ _ _ _ _ (hsn ▸ ha),
    target_hi _ _ _ _ _ (hsn ▸ ha)]
  exact hf.affine (A a) (hm.nAt_pos hb) (hm.lo_lt_hi hb) (hs a ha)

theorem subOkE_regionInv (m : Mesh) (hm : m.Inv) (s : Region) (h : SubOkE m s) : s.Inv := by
  obtain ⟨hd, hu, _, h1, h2, hax⟩ := h
  have hr := hm.1
  obtain ⟨r0, r1, r2, r3, r4, _⟩ := hr
  have e : m.ndim = m.region.pmin.length := rfl
  refine ⟨by rw [h1, e]; exact r0, by rw [h1, h2], by rw [hd, h1, e]; exact r2, by rw [hu, h1, e]; exact r3, by rw [hd]; exact r4, ?_⟩
  intro a ha
  rw [h1] at ha
  exact ((show FitsAx _ _ _ _ _ from hax a ha).bounds (hm.nAt_pos ha) (hm.lo_lt_hi ha)).2.1

/-- **One subregion through one step**: a box that fits `m` exactly, moved by a well-formed step about the reference
point of the mesh, carries the metadata of the moved region and fits every mesh with the moved region and the turned
counts exactly — region and box move under the same axis map (`axMap_subOp`), so `fitsE_axmap` applies. -/
theorem subOkE_apply (m M' : Mesh) (hm : m.Inv) (s : Region) (h : SubOkE m s) (op : Op) (hmal : ¬ Malformed m.region op)
    (hr : M'.region = applyR m.region op) (hn : M'.n = opN m op) : SubOkE M' (applyR s (subOp m op)) := by
  have hsi := subOkE_regionInv m hm s h
  obtain ⟨hd, hu, ht, hfit⟩ := h
  obtain ⟨e1, hax⟩ := applyR_axMap m.region hm.1 op hmal
  obtain ⟨e2, _⟩ := applyR_axMap s hsi (subOp m op) ((subOp_malformed_iff m s hd hfit.1 op).not.mpr hmal)
  rw [axMap_subOp m s hd hu op] at e2
  -- `target` keeps names and tolerance factor and sets the units
  refine ⟨by rw [hr, e1, e2]; exact hd, by rw [hr, e1, e2]; rfl, by rw [hr, e1, e2]; exact ht, ?_⟩
  exact fitsE_axmap m M' hm s _ _ _ _ _ _ (fun a ha => (hax a ha).1) (fun a ha => (hax a ha).2) (hr.trans e1)
    (fun a _ => by unfold Mesh.nAt; rw [hn]; exact opN_getD m hm op hmal a) e2 hfit

/-- what the mesh constructor with subregions returns, read off `mkMesh?_ok_iff`; the map on the subregions is `restamp r`,
spelled out because `restamp` is defined with the setter (`C14Setter`) -/
theorem mkMesh_inv (r : Region) (n : List Nat) (bc : String) (subs : List (String × Region)) (m' : Mesh)
    (h : mkMesh? r n bc subs = .ok m') :
    m'.region = r ∧ m'.n = n ∧ m'.bc = bc.toLower ∧
    m'.subs = subs.map (fun p => (p.1, { pmin := p.2.pmin, pmax := p.2.pmax, dims := r.dims, units := r.units, tol := r.tol })) ∧
    n.length = r.ndim ∧ (∀ k ∈ n, 0 < k) ∧ Mesh.bcOk r.dims bc.toLower = true ∧
    ∀ p ∈ subs, candOk { region := r, n := n, bc := bc.toLower, subs := [] } p.2 = true := by
  obtain ⟨hl, hpos, hbc, hall, rfl⟩ := (mkMesh?_ok_iff r n bc subs m').mp h
  refine ⟨rfl, rfl, rfl, rfl, hl, fun k hk => ?_, hbc, hall⟩
  obtain ⟨a, ha, rfl⟩ := exists_getD_of_mem n k 0 hk
  exact hpos a (hl ▸ ha)

/-- **`SubInv` through one accepted mesh step** (either form): the step assigns `applyM m op`, whose subregions are the
images of `subOkE_apply`, or returns the constructor's copy of it, which has the same region, counts and corners. -/
theorem stepM_subInv' (m : Mesh) (hm : m.Inv) (hs : SubInv m) (op : Op) (recv ret : Mesh)
    (h : stepM m op = .ok (recv, ret)) :
    SubInv recv ∧ SubInv ret ∧ ret.subs.map (·.1) = m.subs.map (·.1) := by
  obtain ⟨hmal, hcase⟩ := (stepM_spec m hm (fun p hp => ⟨subOkE_regionInv m hm p.2 (hs p hp), (hs p hp).1⟩) op recv ret).mp h
  have hA : SubInv (applyM m op) := fun q hq => by
    obtain ⟨p, hp, rfl⟩ := List.mem_map.mp hq
    exact subOkE_apply m _ hm p.2 (hs p hp) op hmal rfl rfl
  have hnames : (applyM m op).subs.map (·.1) = m.subs.map (·.1) := by
    show List.map _ (List.map _ _) = _
    rw [List.map_map]; rfl
  split at hcase
  · obtain ⟨rfl, rfl⟩ := hcase
    exact ⟨hA, hA, hnames⟩
  · obtain ⟨rfl, hmk⟩ := hcase
    obtain ⟨_, _, _, _, rfl⟩ := (mkMesh?_ok_iff _ _ _ _ _).mp hmk
    refine ⟨hs, fun q hq => ?_, by show List.map _ (List.map _ _) = _; rw [List.map_map]; exact hnames⟩
    obtain ⟨p', hp', rfl⟩ := List.mem_map.mp hq
    -- `FitsE` reads the region, the counts and the corners only
    exact ⟨rfl, rfl, rfl, (hA p' hp').2.2.2⟩

end DFV.C14
