import DFV.Lemmas.C07Get
/-! Padding.  Both loops over the `pad_width` dictionary (`Mesh.pad` moves the corners, `Field.pad` builds the widths) are
accepted exactly when every key names an axis and add up the widths per axis (`sumW`); `Mesh.pad` returns `padOf`, of which
the source is a block (`Padded`); the dictionary agrees with the loop when the keys are distinct.  `numpy.pad` is an index
map per axis (`padSrc`): value and validity of a padded cell come from the per-axis source indices. -/
namespace DFV.C07
open DFV DFV.Mesh

/-- total width requested for axis `b` (the dictionary loop of `Mesh.pad` adds them up) -/
def sumW (m : Mesh) (sel : PadW → Int) : List PadW → Nat → Int
  | [], _ => 0
  | w :: rest, b =>
    (match m.region.dim2index w.dim with
     | .ok a => if a = b then sel w else 0
     | .error _ => 0) + sumW m sel rest b

theorem sumW_cons (m : Mesh) (sel : PadW → Int) (w : PadW) (rest : List PadW) (b : Nat) :
    sumW m sel (w :: rest) b =
      (match m.region.dim2index w.dim with
       | .ok a => if a = b then sel w else 0
       | .error _ => 0) + sumW m sel rest b := rfl

/-- the loop of `Mesh.pad`: accepted exactly when every key names an axis, and then every corner coordinate has moved by the
total width requested for its axis -/
theorem padCorners_iff (m : Mesh) (pw : List PadW) (pmin pmax : List Rat) (pp : List Rat × List Rat) :
    padCorners m pw pmin pmax = .ok pp ↔
      (∀ w, w ∈ pw → ∃ a, m.region.dim2index w.dim = .ok a) ∧
      pp = (tab pmin.length fun b => pmin.getD b 0 - (sumW m (·.lo) pw b : Rat) * m.cellAt b,
            tab pmax.length fun b => pmax.getD b 0 + (sumW m (·.hi) pw b : Rat) * m.cellAt b) := by
  induction pw generalizing pmin pmax with
  | nil =>
    have e : ∀ (p : List Rat) (σ : Rat), (tab p.length fun b => p.getD b 0 + σ * ((0 : Int) : Rat) * m.cellAt b) = p :=
      fun p σ => (eq_tab_of_getD p _ _ 0 rfl fun b _ => by simp).symm
    have e1 := e pmin (-1)
    have e2 := e pmax 1
    simp only [neg_mul, one_mul, ← sub_eq_add_neg] at e1 e2
    simp only [padCorners, sumW, e1, e2, Except.ok.injEq, List.not_mem_nil, false_imp_iff, implies_true, true_and, eq_comm]
  | cons w rest ih =>
    unfold padCorners
    cases hd : m.region.dim2index w.dim with
    | error e =>
      exact ⟨fun h => (nomatch h), fun h => by obtain ⟨a, ha⟩ := h.1 w (List.mem_cons_self ..); rw [hd] at ha; cases ha⟩
    | ok a =>
      simp only
      rw [ih, List.forall_mem_cons, hd, length_setAt, length_setAt]
      have e : ∀ (σ : Rat) (sel : PadW → Int) (p : List Rat),
          (tab p.length fun b => (setAt p a (p.getD a 0 + σ * (sel w : Rat) * m.cellAt a)).getD b 0
            + σ * (sumW m sel rest b : Rat) * m.cellAt b)
          = tab p.length fun b => p.getD b 0 + σ * (sumW m sel (w :: rest) b : Rat) * m.cellAt b := fun σ sel p =>
        tab_congr _ _ _ fun b hb => by
          rw [sumW_cons, hd]
          simp only
          by_cases hab : a = b
          · subst hab; rw [getD_setAt_eq _ _ _ _ hb, if_pos rfl]; push_cast; ring
          · rw [getD_setAt_ne _ _ _ _ _ (fun hh => hab hh.symm), if_neg hab]; push_cast; ring
      have e1 := e (-1) (·.lo) pmin
      have e2 := e 1 (·.hi) pmax
      simp only [neg_mul, one_mul, ← sub_eq_add_neg] at e1 e2
      rw [e1, e2]
      exact ⟨fun h => ⟨⟨⟨a, rfl⟩, h.1⟩, h.2⟩, fun h => ⟨h.1.2, h.2⟩⟩

theorem padCorners_unknown (m : Mesh) (pw : List PadW) (p1 p2 : List Rat)
    (h : ∃ w, w ∈ pw ∧ ∀ a, m.region.dim2index w.dim ≠ .ok a) : ∃ e, padCorners m pw p1 p2 = .error e :=
  err_of_not_ok _ fun pp hpp => by
    obtain ⟨w, hw, hbad⟩ := h
    obtain ⟨a, ha⟩ := ((padCorners_iff m pw p1 p2 pp).mp hpp).1 w hw
    exact hbad a ha

theorem sumW_nonneg (m : Mesh) (sel : PadW → Int) (pw : List PadW) (h : ∀ w, w ∈ pw → 0 ≤ sel w) (b : Nat) :
    0 ≤ sumW m sel pw b := by
  induction pw with
  | nil => exact le_rfl
  | cons w rest ih =>
    rw [sumW_cons]
    have h1 := h w (List.mem_cons_self ..)
    have h2 := ih fun w' hw' => h w' (List.mem_cons_of_mem _ hw')
    cases m.region.dim2index w.dim with
    | error e => simpa using h2
    | ok a =>
      simp only
      split <;> omega

/-- the axis a key of the `pad_width` dictionary names (0 for a name the region does not have) -/
def padAxis (m : Mesh) (w : PadW) : Nat :=
  match m.region.dim2index w.dim with
  | .ok a => a
  | .error _ => 0

/-- the dictionary of `Field.pad`: built exactly when every key names an axis, entry by entry -/
theorem padAxes_iff (m : Mesh) (pw : List PadW) (d : List (Nat × Int × Int)) :
    padAxes m pw = .ok d ↔
      (∀ w, w ∈ pw → ∃ a, m.region.dim2index w.dim = .ok a) ∧ d = pw.map fun w => (padAxis m w, w.lo, w.hi) := by
  induction pw generalizing d with
  | nil => simp only [padAxes, Except.ok.injEq, List.not_mem_nil, false_imp_iff, implies_true, true_and, List.map_nil, eq_comm]
  | cons w rest ih =>
    unfold padAxes
    rw [List.forall_mem_cons, List.map_cons]
    cases hd : m.region.dim2index w.dim with
    | error e => exact ⟨fun h => (nomatch h), fun ⟨⟨⟨a, ha⟩, _⟩, _⟩ => (nomatch ha)⟩
    | ok a =>
      have ea : padAxis m w = a := by unfold padAxis; rw [hd]
      rw [ea]
      cases hr : padAxes m rest with
      | error e =>
        exact ⟨fun h => (nomatch h), fun ⟨⟨_, hall⟩, _⟩ => by rw [(ih _).mpr ⟨hall, rfl⟩] at hr; cases hr⟩
      | ok l =>
        obtain ⟨hall, rfl⟩ := (ih l).mp hr
        simp only [Except.ok.injEq]
        exact ⟨fun h => ⟨⟨⟨a, rfl⟩, hall⟩, h.symm⟩, fun h => h.2.symm⟩

theorem padAxes_ok (m : Mesh) (pw : List PadW) (h : ∀ w, w ∈ pw → ∃ a, m.region.dim2index w.dim = .ok a) :
    ∃ d, padAxes m pw = .ok d ∧ ∀ e, e ∈ d → ∃ w, w ∈ pw ∧ e.2 = (w.lo, w.hi) :=
  ⟨_, (padAxes_iff m pw _).mpr ⟨h, rfl⟩, fun e he => by
    obtain ⟨w, hw, rfl⟩ := List.mem_map.mp he
    exact ⟨w, hw, rfl⟩⟩

theorem padAxes_unknown (m : Mesh) (pw : List PadW)
    (h : ∃ w, w ∈ pw ∧ ∀ a, m.region.dim2index w.dim ≠ .ok a) : ∃ e, padAxes m pw = .error e :=
  err_of_not_ok _ fun d hd => by
    obtain ⟨w, hw, hbad⟩ := h
    obtain ⟨a, ha⟩ := ((padAxes_iff m pw d).mp hd).1 w hw
    exact hbad a ha

theorem padAxes_mem (m : Mesh) (pw : List PadW) (d : List (Nat × Int × Int)) (h : padAxes m pw = .ok d)
    (w : PadW) (hw : w ∈ pw) : ∃ a, (a, w.lo, w.hi) ∈ d := by
  rw [((padAxes_iff m pw d).mp h).2]
  exact ⟨_, List.mem_map.mpr ⟨w, hw, rfl⟩⟩

/-- the padded mesh: `L b` cells in front and `H b` cells behind along every axis `b` -/
def padOf (m : Mesh) (L H : Nat → Nat) : Mesh :=
  { region := { m.region with
      pmin := tab m.ndim fun b => m.region.lo b - (L b : Rat) * m.cellAt b,
      pmax := tab m.ndim fun b => m.region.hi b + (H b : Rat) * m.cellAt b },
    n := tab m.ndim fun b => m.nAt b + L b + H b, bc := m.bc.toLower, subs := [] }

theorem padOf_axis (m : Mesh) (hm : m.Inv) (L H : Nat → Nat) (b : Nat) (hb : b < m.ndim) :
    (padOf m L H).nAt b = m.nAt b + L b + H b ∧
    (padOf m L H).region.lo b = m.region.lo b - (L b : Rat) * m.cellAt b ∧
    (padOf m L H).region.hi b = m.region.hi b + (H b : Rat) * m.cellAt b ∧
    (padOf m L H).cellAt b = m.cellAt b := by
  have e1 : (padOf m L H).nAt b = m.nAt b + L b + H b := getD_tab _ _ _ _ hb
  have e2 : (padOf m L H).region.lo b = m.region.lo b - (L b : Rat) * m.cellAt b := getD_tab _ _ _ _ hb
  have e3 : (padOf m L H).region.hi b = m.region.hi b + (H b : Rat) * m.cellAt b := getD_tab _ _ _ _ hb
  refine ⟨e1, e2, e3, ?_⟩
  -- the edge grew by `L + H` cells
  have hpos : (0 : Rat) < ((m.nAt b + L b + H b : Nat) : Rat) := by
    exact_mod_cast (by have := hm.nAt_pos hb; omega : 0 < m.nAt b + L b + H b)
  show ((padOf m L H).region.hi b - (padOf m L H).region.lo b) / ((padOf m L H).nAt b : Rat) = _
  rw [e1, e2, e3, div_eq_iff hpos.ne', C01.hi_eq m b (hm.nAt_pos hb)]
  push_cast; ring

theorem padOf_inv (m : Mesh) (hm : m.Inv) (L H : Nat → Nat) : (padOf m L H).Inv := by
  have hnd : (padOf m L H).region.pmin.length = m.ndim := tab_length _ _
  refine ⟨⟨by rw [hnd]; exact hm.ndim_pos, (tab_length _ _).trans hnd.symm, hm.dims_length.trans hnd.symm,
    hm.units_length.trans hnd.symm, hm.1.dims_nodup, fun b hb => ?_⟩, (tab_length _ _).trans hnd.symm,
    fun b hb => ?_⟩
  · rw [hnd] at hb
    obtain ⟨_, e2, e3, _⟩ := padOf_axis m hm L H b hb
    rw [e2, e3]
    have hc := hm.cellAt_pos hb
    have := hm.lo_lt_hi hb
    have h1 := mul_nonneg (Nat.cast_nonneg (α := Rat) (L b)) hc.le
    have h2 := mul_nonneg (Nat.cast_nonneg (α := Rat) (H b)) hc.le
    linarith
  · have hb' : b < m.ndim := hnd ▸ hb
    rw [(padOf_axis m hm L H b hb').1]
    have := hm.nAt_pos hb'
    omega

/-- the constructor path of `Mesh.pad` on the corners of `padOf`: the region is built as it stands, and the mesh on it
is accepted exactly when the boundary condition is, and then it is `padOf` -/
theorem padOf_build (m : Mesh) (hm : m.Inv) (L H : Nat → Nat) :
    Region.mk? (padOf m L H).region.pmin (padOf m L H).region.pmax (some m.region.dims)
      (some m.region.units) m.region.tol = .ok (padOf m L H).region ∧
    ∀ g, Mesh.mkCell? (padOf m L H).region m.cell m.bc = .ok g ↔
      Mesh.bcOk m.region.dims m.bc.toLower = true ∧ g = padOf m L H := by
  have hax := padOf_axis m hm L H
  have hnd : (padOf m L H).region.pmin.length = m.ndim := tab_length _ _
  have hlt : ∀ b, b < m.ndim → (padOf m L H).region.lo b < (padOf m L H).region.hi b := fun b hb =>
    (padOf_inv m hm L H).lo_lt_hi (by rw [← hnd] at hb; exact hb)
  refine ⟨regionMk_ok _ _ _ _ _ (hnd.trans (tab_length _ _).symm) (hnd ▸ hm.ndim_pos)
    (hnd ▸ hm.dims_length) hm.1.dims_nodup (hnd ▸ hm.units_length) (fun b hb => hlt b (hnd ▸ hb)), ?_⟩
  exact mkCell_iff (padOf m L H).region (padOf m L H).n _ _ ((C01.cell_length m).trans hnd.symm)
    ((tab_length _ _).trans hnd.symm) (fun b hb => by
      have hb' : b < m.ndim := hnd ▸ hb
      rw [C01.cell_getD m b hb']
      exact ⟨by rw [show (padOf m L H).n.getD b 0 = _ from (hax b hb').1]; have := hm.nAt_pos hb'; omega,
        hlt b hb', (hax b hb').2.2.2.symm⟩)

/-- `Mesh.pad` with non-negative total widths: accepted exactly when every named axis exists and the boundary
condition is accepted, and then it returns `padOf` -/
theorem padMesh_iff (m : Mesh) (hm : m.Inv) (pw : List PadW)
    (hL : ∀ b, b < m.ndim → 0 ≤ sumW m (·.lo) pw b) (hH : ∀ b, b < m.ndim → 0 ≤ sumW m (·.hi) pw b) (g : Mesh) :
    padMesh m pw = .ok g ↔
      (∀ w, w ∈ pw → ∃ a, m.region.dim2index w.dim = .ok a) ∧ Mesh.bcOk m.region.dims m.bc.toLower = true ∧
      g = padOf m (fun b => (sumW m (·.lo) pw b).toNat) (fun b => (sumW m (·.hi) pw b).toNat) := by
  have cast : ∀ z : Int, 0 ≤ z → ((z.toNat : Nat) : Rat) = (z : Rat) := fun z hz => by
    exact_mod_cast congrArg (Int.cast (R := Rat)) (Int.toNat_of_nonneg hz)
  -- the corners the loop returns are those of `padOf`
  have hpp : ∀ pp, padCorners m pw m.region.pmin m.region.pmax = .ok pp ↔
      (∀ w, w ∈ pw → ∃ a, m.region.dim2index w.dim = .ok a) ∧
      pp = ((padOf m (fun b => (sumW m (·.lo) pw b).toNat) (fun b => (sumW m (·.hi) pw b).toNat)).region.pmin,
            (padOf m (fun b => (sumW m (·.lo) pw b).toNat) (fun b => (sumW m (·.hi) pw b).toNat)).region.pmax) := fun pp => by
    rw [padCorners_iff, hm.pmax_length]
    exact and_congr_right fun _ => Eq.congr_right (Prod.ext
      (tab_congr _ _ _ fun b hb => by rw [cast _ (hL b hb)]; rfl) (tab_congr _ _ _ fun b hb => by rw [cast _ (hH b hb)]; rfl))
  unfold padMesh
  cases hc : padCorners m pw m.region.pmin m.region.pmax with
  | error e => exact ⟨fun h => (nomatch h), fun h => by rw [(hpp _).mpr ⟨h.1, rfl⟩] at hc; cases hc⟩
  | ok pp =>
    obtain ⟨hdims, rfl⟩ := (hpp pp).mp hc
    simp only
    rw [(padOf_build m hm _ _).1]
    exact ((padOf_build m hm _ _).2 g).trans ⟨fun h => ⟨hdims, h⟩, fun h => h.2⟩

/-- `g` is `m` with `L b` cells added in front and `H b` cells behind along every axis `b`: names, units and tolerance
of `m`, its boundary condition in lower case; `m` is the block of `g` behind the front cells -/
structure Padded (g m : Mesh) (L H : Nat → Nat) : Prop where
  ndim : g.ndim = m.ndim
  nlen : g.n.length = m.ndim
  pmax : g.region.pmax.length = m.ndim
  dims : g.region.dims = m.region.dims
  units : g.region.units = m.region.units
  tol : g.region.tol = m.region.tol
  bc : g.bc = m.bc.toLower
  nAt : ∀ b, b < m.ndim → g.nAt b = m.nAt b + L b + H b
  lo : ∀ b, b < m.ndim → g.region.lo b = m.region.lo b - (L b : Rat) * m.cellAt b
  hi : ∀ b, b < m.ndim → g.region.hi b = m.region.hi b + (H b : Rat) * m.cellAt b
  source : ∀ b, b < m.ndim → AxisBlock m g b b (L b) (m.nAt b)

theorem padOf_padded (m : Mesh) (hm : m.Inv) (L H : Nat → Nat) : Padded (padOf m L H) m L H :=
  ⟨tab_length _ _, tab_length _ _, tab_length _ _, rfl, rfl, rfl, rfl, fun b hb => (padOf_axis m hm L H b hb).1,
    fun b hb => (padOf_axis m hm L H b hb).2.1, fun b hb => (padOf_axis m hm L H b hb).2.2.1, fun b hb => by
      obtain ⟨e1, e2, _, e4⟩ := padOf_axis m hm L H b hb
      exact ⟨by rw [e2, e4]; ring, rfl, e4.symm, by rw [e1]; omega⟩⟩

/-- projection of `padMesh_iff` -/
theorem padMesh_inv (m : Mesh) (hm : m.Inv) (pw : List PadW)
    (hL : ∀ b, b < m.ndim → 0 ≤ sumW m (·.lo) pw b) (hH : ∀ b, b < m.ndim → 0 ≤ sumW m (·.hi) pw b)
    (g : Mesh) (h : padMesh m pw = .ok g) :
    Padded g m (fun b => (sumW m (·.lo) pw b).toNat) (fun b => (sumW m (·.hi) pw b).toNat) := by
  obtain ⟨_, _, rfl⟩ := (padMesh_iff m hm pw hL hH g).mp h
  exact padOf_padded m hm _ _

/-- projection of `padMesh_iff`: acceptance, with the counts -/
theorem padMesh_ok (m : Mesh) (hm : m.Inv) (pw : List PadW)
    (hdims : ∀ w, w ∈ pw → ∃ a, m.region.dim2index w.dim = .ok a)
    (hL : ∀ b, b < m.ndim → 0 ≤ sumW m (·.lo) pw b) (hH : ∀ b, b < m.ndim → 0 ≤ sumW m (·.hi) pw b)
    (hbc : Mesh.bcOk m.region.dims m.bc.toLower = true) :
    ∃ g, padMesh m pw = .ok g ∧
      g.n = tab m.ndim fun b => m.nAt b + (sumW m (·.lo) pw b).toNat + (sumW m (·.hi) pw b).toNat :=
  ⟨_, (padMesh_iff m hm pw hL hH _).mpr ⟨hdims, hbc, rfl⟩, rfl⟩

/-- projection of `padMesh_iff`: the padded mesh is well formed -/
theorem padMesh_meshInv (m : Mesh) (hm : m.Inv) (pw : List PadW)
    (hL : ∀ b, b < m.ndim → 0 ≤ sumW m (·.lo) pw b) (hH : ∀ b, b < m.ndim → 0 ≤ sumW m (·.hi) pw b)
    (g : Mesh) (h : padMesh m pw = .ok g) : g.Inv := by
  obtain ⟨_, _, rfl⟩ := (padMesh_iff m hm pw hL hH g).mp h
  exact padOf_inv m hm _ _

/-! ## the dictionary of `Field.pad` agrees with the loop of `Mesh.pad` when keys are distinct -/

theorem sumW_zero (m : Mesh) (sel : PadW → Int) (pw : List PadW) (b : Nat)
    (h : ∀ w, w ∈ pw → m.region.dim2index w.dim ≠ .ok b) : sumW m sel pw b = 0 := by
  induction pw with
  | nil => rfl
  | cons w rest ih =>
    rw [sumW_cons, ih (fun w' hw' => h w' (List.mem_cons_of_mem _ hw'))]
    have := h w (List.mem_cons_self ..)
    cases hd : m.region.dim2index w.dim with
    | error e => simp
    | ok a =>
      have : a ≠ b := by intro hab; subst hab; exact this hd
      simp [this]

theorem widthOf_eq_sumW (m : Mesh) (pw : List PadW) (d : List (Nat × Int × Int))
    (hnd : (pw.map (·.dim)).Nodup) (h : padAxes m pw = .ok d) (b : Nat) :
    widthOf d b = (sumW m (·.lo) pw b, sumW m (·.hi) pw b) := by
  obtain ⟨hdims, rfl⟩ := (padAxes_iff m pw d).mp h
  clear h
  induction pw with
  | nil => rfl
  | cons w rest ih =>
    obtain ⟨a, hd⟩ := hdims w (List.mem_cons_self ..)
    simp only [List.map_cons, List.nodup_cons] at hnd
    rw [List.map_cons, show padAxis m w = a by unfold padAxis; rw [hd]]
    unfold widthOf
    rw [sumW_cons, sumW_cons, hd]
    by_cases hab : a = b
    · subst hab
      have hz : ∀ sel, sumW m sel rest a = 0 := fun sel => sumW_zero _ _ _ _ fun w' hw' hcon => hnd.1 (by
        rw [← C01.getD_of_dim2index hd, C01.getD_of_dim2index hcon]
        exact List.mem_map_of_mem hw')
      simp [hz]
    · simp only [hab, if_false]
      rw [ih hnd.2 fun w' hw' => hdims w' (List.mem_cons_of_mem _ hw')]
      simp

theorem padAxes_nonneg (d : List (Nat × Int × Int))
    (h : (d.any fun e => decide (e.2.1 < 0) || decide (e.2.2 < 0)) = false) (b : Nat) :
    0 ≤ (widthOf d b).1 ∧ 0 ≤ (widthOf d b).2 := by
  induction d with
  | nil => simp [widthOf]
  | cons e rest ih =>
    simp only [List.any_cons, Bool.or_eq_false_iff] at h
    unfold widthOf
    split
    · have := h.1
      simp only [decide_eq_false_iff_not, not_lt] at this
      exact this
    · exact ih h.2

/-! ## `numpy.pad` along one axis -/

/-- what the periodic modes of `padSrc` (`wrap`, `symmetric`, `reflect`) share: Euclidean division by the period, remainder
in `[0, P)` and the decomposition -/
theorem emod_rep (d P : Int) (hP : 0 < P) : 0 ≤ d % P ∧ d % P < P ∧ d = d % P + d / P * P :=
  ⟨Int.emod_nonneg d hP.ne', Int.emod_lt_of_pos d hP, by have := Int.emod_add_mul_ediv d P; linarith only [this]⟩

theorem padSrc_inside (mode : PadMode) (n lo j : Nat) (h1 : lo ≤ j) (h2 : j < lo + n) :
    padSrc mode n lo j = some (j - lo) := by
  unfold padSrc; rw [if_pos ⟨h1, h2⟩]

theorem padFld_inv (f : Fld) (pw : List PadW) (hnd : (pw.map (·.dim)).Nodup)
    (mode : PadMode) (g : Fld) (h : padFld f pw mode = .ok g) :
    padMesh f.mesh pw = .ok g.mesh ∧
    (∀ b, 0 ≤ sumW f.mesh (·.lo) pw b ∧ 0 ≤ sumW f.mesh (·.hi) pw b) ∧
    g.data = padNDA mode (fun b => (sumW f.mesh (·.lo) pw b, sumW f.mesh (·.hi) pw b))
      (List.replicate f.nvdim 0) f.data ∧
    g.valid = padNDA mode (fun b => (sumW f.mesh (·.lo) pw b, sumW f.mesh (·.hi) pw b)) false f.valid := by
  obtain ⟨d, m, hd, hneg, hm, hg⟩ := (padFld_ok_iff f pw mode g).mp h
  obtain ⟨_, _, _, rfl⟩ := (mkFld_ok_iff _ _ _ _ _).mp hg
  -- the dictionary has distinct keys, so its entry for an axis is the sum the mesh loop forms
  have hw : widthOf d = fun b => (sumW f.mesh (·.lo) pw b, sumW f.mesh (·.hi) pw b) :=
    funext (widthOf_eq_sumW f.mesh pw d hnd hd)
  refine ⟨hm, fun b => ?_, by rw [← hw], by rw [← hw]⟩
  have := padAxes_nonneg d hneg b
  rwa [hw] at this

/-! ## `np.pad`: value and validity of a padded cell -/

theorem pad_get (f : Fld) (hf : FldWF f) (pw : List PadW) (hnd : (pw.map (·.dim)).Nodup)
    (mode : PadMode) (g : Fld) (h : padFld f pw mode = .ok g) (j : List Nat) :
    g.data.get j = (match padSrcIdx mode f.mesh.n
        (fun b => (sumW f.mesh (·.lo) pw b, sumW f.mesh (·.hi) pw b)) j with
      | some i => f.data.get i
      | none => List.replicate f.nvdim 0) ∧
    g.valid.get j = (match padSrcIdx mode f.mesh.n
        (fun b => (sumW f.mesh (·.lo) pw b, sumW f.mesh (·.hi) pw b)) j with
      | some i => f.valid.get i
      | none => false) := by
  obtain ⟨_, _, p3, p4⟩ := padFld_inv f pw hnd mode g h
  constructor
  -- `get` of the array `padNDA` builds is its defining function
  · rw [p3]; unfold padNDA; simp only; rw [hf.2.1]; rfl
  · rw [p4]; unfold padNDA; simp only; rw [hf.2.2]; rfl

theorem padSrcIdx_some (mode : PadMode) (shape : List Nat) (w : Nat → Int × Int) (j : List Nat) (i : Nat → Nat)
    (hi : ∀ b, b < shape.length → padSrc mode (shape.getD b 0) (w b).1.toNat (j.getD b 0) = some (i b)) :
    padSrcIdx mode shape w j = some (tab shape.length i) := by
  unfold padSrcIdx
  have hall : allLt shape.length (fun b =>
      (padSrc mode (shape.getD b 0) (w b).1.toNat (j.getD b 0)).isSome) = true := by
    rw [allLt_iff]; intro b hb; rw [hi b hb]; rfl
  rw [if_pos hall]
  congr 1
  apply tab_congr
  intro b hb
  rw [hi b hb]; rfl

theorem padSrcIdx_none (mode : PadMode) (shape : List Nat) (w : Nat → Int × Int) (j : List Nat) (b : Nat)
    (hb : b < shape.length) (hn : padSrc mode (shape.getD b 0) (w b).1.toNat (j.getD b 0) = none) :
    padSrcIdx mode shape w j = none := by
  unfold padSrcIdx
  have hall : allLt shape.length (fun b =>
      (padSrc mode (shape.getD b 0) (w b).1.toNat (j.getD b 0)).isSome) = false := by
    apply allLt_false_of _ _ b hb
    rw [hn]; rfl
  rw [hall]; rfl

theorem pad_pointwise_axes (f : Fld) (hf : FldWF f) (pw : List PadW) (hnd : (pw.map (·.dim)).Nodup)
    (mode : PadMode) (g : Fld) (h : padFld f pw mode = .ok g) (j : List Nat) (i : Nat → Nat)
    (hi : ∀ b, b < f.mesh.ndim →
      padSrc mode (f.mesh.nAt b) (sumW f.mesh (·.lo) pw b).toNat (j.getD b 0) = some (i b)) :
    g.data.get j = f.data.get (tab f.mesh.ndim i) ∧ g.valid.get j = f.valid.get (tab f.mesh.ndim i) := by
  obtain ⟨q1, q2⟩ := pad_get f hf pw hnd mode g h j
  have hs := padSrcIdx_some mode f.mesh.n (fun b => (sumW f.mesh (·.lo) pw b, sumW f.mesh (·.hi) pw b)) j i
    (by rw [hf.1.n_length]; exact hi)
  rw [hf.1.n_length] at hs
  rw [q1, q2, hs]
  exact ⟨rfl, rfl⟩

theorem pad_fill_axis (f : Fld) (hf : FldWF f) (pw : List PadW) (hnd : (pw.map (·.dim)).Nodup)
    (mode : PadMode) (g : Fld) (h : padFld f pw mode = .ok g) (j : List Nat) (b : Nat) (hb : b < f.mesh.ndim)
    (hn : padSrc mode (f.mesh.nAt b) (sumW f.mesh (·.lo) pw b).toNat (j.getD b 0) = none) :
    g.data.get j = List.replicate f.nvdim 0 ∧ g.valid.get j = false := by
  obtain ⟨q1, q2⟩ := pad_get f hf pw hnd mode g h j
  rw [q1, q2, padSrcIdx_none mode f.mesh.n (fun b => (sumW f.mesh (·.lo) pw b, sumW f.mesh (·.hi) pw b)) j b
    (by rw [hf.1.n_length]; exact hb) hn]
  exact ⟨rfl, rfl⟩

theorem pad_centre (f : Fld) (hf : FldWF f) (pw : List PadW) (hnd : (pw.map (·.dim)).Nodup)
    (mode : PadMode) (g : Fld) (h : padFld f pw mode = .ok g) (b : Nat) (hb : b < f.mesh.ndim) (j : Nat) :
    g.mesh.centreAx b ((j : Nat) : Int)
      = f.mesh.region.lo b + ((j : Rat) - ((sumW f.mesh (·.lo) pw b).toNat : Rat) + 1 / 2) * f.mesh.cellAt b := by
  obtain ⟨p1, p2, _, _⟩ := padFld_inv f pw hnd mode g h
  have blk := (padMesh_inv f.mesh hf.1 pw (fun b _ => (p2 b).1) (fun b _ => (p2 b).2) g.mesh p1).source b hb
  rw [C01.centreAx_natCast, blk.lo, ← blk.cell]; ring

/-- general form of `pad_edge_pointwise`, `pad_wrap_`, `pad_symmetric_`, `pad_reflect_pointwise`: if along every axis the
mode's index map yields an in-range source index with property `P`, the padded cell holds value and validity of the
source cell with these indices -/
theorem pad_pointwise_gen (f : Fld) (hf : FldWF f) (pw : List PadW) (hnd : (pw.map (·.dim)).Nodup)
    (mode : PadMode) (g : Fld) (h : padFld f pw mode = .ok g) (j : List Nat) (P : Nat → Nat → Prop)
    (hex : ∀ b, b < f.mesh.ndim → ∃ i,
      padSrc mode (f.mesh.nAt b) (sumW f.mesh (·.lo) pw b).toNat (j.getD b 0) = some i ∧ i < f.mesh.nAt b ∧ P b i) :
    ∃ i, inRange f.mesh.n i = true ∧ (∀ b, b < f.mesh.ndim → P b (i.getD b 0)) ∧
      g.data.get j = f.data.get i ∧ g.valid.get j = f.valid.get i := by
  let i : Nat → Nat := fun b => (padSrc mode (f.mesh.nAt b) (sumW f.mesh (·.lo) pw b).toNat (j.getD b 0)).getD 0
  have hi : ∀ b, b < f.mesh.ndim →
      padSrc mode (f.mesh.nAt b) (sumW f.mesh (·.lo) pw b).toNat (j.getD b 0) = some (i b) := by
    intro b hb
    obtain ⟨i0, h0, _⟩ := hex b hb
    show _ = some ((padSrc mode (f.mesh.nAt b) (sumW f.mesh (·.lo) pw b).toNat (j.getD b 0)).getD 0)
    rw [h0]; rfl
  have hib : ∀ b, b < f.mesh.ndim → i b < f.mesh.nAt b ∧ P b (i b) := by
    intro b hb
    obtain ⟨i0, h0, h1, h2⟩ := hex b hb
    have : i b = i0 := by
      have := hi b hb; rw [h0] at this; injection this with this; exact this.symm
    rw [this]; exact ⟨h1, h2⟩
  obtain ⟨v1, v2⟩ := pad_pointwise_axes f hf pw hnd mode g h j i hi
  refine ⟨tab f.mesh.ndim i, ?_, ?_, v1, v2⟩
  · rw [← hf.1.n_length]; exact DFV.inRange_tab _ i fun b hb => (hib b (hf.1.n_length ▸ hb)).1
  · intro b hb
    rw [getD_tab _ _ _ _ hb]; exact (hib b hb).2

/-- the index map of `np.pad` depends on the position only through its offset from the source -/
theorem padSrc_shift (mode : PadMode) (n lo d j : Nat) :
    padSrc mode n (lo + d) (j + d) = padSrc mode n lo j := by
  unfold padSrc
  have e : ((j + d : Nat) : Int) - ((lo + d : Nat) : Int) = (j : Int) - (lo : Int) := by push_cast; ring
  by_cases h : lo ≤ j ∧ j < lo + n
  · rw [if_pos h, if_pos (by omega)]; congr 1; omega
  · rw [if_neg h, if_neg (by omega)]
    cases mode with
    | constant => rfl
    | edge =>
      simp only
      by_cases hlt : j < lo
      · rw [if_pos hlt, if_pos (by omega)]
      · rw [if_neg hlt, if_neg (by omega)]
    | wrap => simp only [e]
    | symmetric => simp only [e]
    | reflect => simp only [e]

end DFV.C07
