import DFV.Lemmas.C03Cells
import DFV.Lemmas.C03Accepts

/-! C03: the other forms of `__array_ufunc__`: two-output ufuncs (`np.divmod`, `np.modf`), `reduce`,
`accumulate`, `outer` and calls with `out=`. -/

namespace DFV.C03
open DFV

theorem ufuncPairWrap_ok_iff {self : CF} {m : Mesh} {res : NDA GQ} {k : Kind} {valid : NDA Bool} {g : CF} :
    ufuncPairWrap self m res k valid = .ok g ↔
      mkField m (lastAx res.shape) (.arr res) k self.vdims (some valid) (some self.vmap) none = .ok g := by
  unfold ufuncPairWrap
  cases mkField m (lastAx res.shape) (.arr res) k self.vdims (some valid) (some self.vmap) none with
  | error e => exact ⟨nofun, nofun⟩
  | ok g' => exact Iff.rfl

/-- a two-output call: the shared opening, a loop for the dtypes, both NumPy calls, and a field in both positions
(result `j` is rebuilt on the mesh of the `j`-th) -/
theorem ufunc2pair_ok_iff {fn1 fn2 : GQ → GQ → GQ} {c : Bool} {l r : Val} {g1 g2 : CF} :
    ufunc2pair fn1 fn2 c l r = .ok (g1, g2) ↔ ∃ self, UfuncPre l r self ∧
      ¬ (¬ c = true ∧ (l.kind = .complex ∨ r.kind = .complex)) ∧
      ∃ r1 r2, npBin fn1 l.arr r.arr = .ok r1 ∧ npBin fn2 l.arr r.arr = .ok r2 ∧ ∃ f o, l = .fld f ∧ r = .fld o ∧
        ufuncPairWrap self f.mesh r1 (l.kind.join r.kind) (ufuncValid self l r) = .ok g1 ∧
        ufuncPairWrap self o.mesh r2 (l.kind.join r.kind) (ufuncValid self l r) = .ok g2 := by
  refine (ufuncFront_ok_iff l r (fun self a ka b kb =>
    if ¬ c ∧ (ka = .complex ∨ kb = .complex) then .error .type
    else match npBin fn1 a b with
      | .error e => .error e
      | .ok r1 => match npBin fn2 a b with
        | .error e => .error e
        | .ok r2 => match l, r with
          | .fld f, .fld o =>
            (match ufuncPairWrap self f.mesh r1 (ka.join kb) (ufuncValid self l r) with
             | .error e => .error e
             | .ok g1 =>
               match ufuncPairWrap self o.mesh r2 (ka.join kb) (ufuncValid self l r) with
               | .error e => .error e
               | .ok g2 => .ok (g1, g2))
          | _, _ => .error .notImpl) (g1, g2)).trans (exists_congr fun self => and_congr_right fun _ => ?_)
  by_cases hc : ¬ c = true ∧ (l.kind = .complex ∨ r.kind = .complex)
  · rw [if_pos hc]; exact ⟨nofun, fun h => absurd hc h.1⟩
  · rw [if_neg hc]
    refine Iff.trans ?_ ⟨fun h => ⟨hc, h⟩, fun h => h.2⟩
    cases npBin fn1 l.arr r.arr with
    | error e => exact ⟨nofun, fun ⟨_, _, h, _⟩ => nomatch h⟩
    | ok r1 =>
      cases npBin fn2 l.arr r.arr with
      | error e => exact ⟨nofun, fun ⟨_, _, _, h, _⟩ => nomatch h⟩
      | ok r2 =>
        refine Iff.trans ?_ ⟨fun h => ⟨r1, r2, rfl, rfl, h⟩, fun ⟨_, _, h1, h2, h⟩ => Except.ok.inj h1 ▸ Except.ok.inj h2 ▸ h⟩
        cases l with
        | raw od => exact ⟨nofun, fun ⟨_, _, h, _⟩ => nomatch h⟩
        | fld f =>
          cases r with
          | raw od => exact ⟨nofun, fun ⟨_, _, _, h, _⟩ => nomatch h⟩
          | fld o =>
            suffices key : _ ↔ ufuncPairWrap self f.mesh r1 (f.kind.join o.kind) (ufuncValid self (.fld f) (.fld o)) = .ok g1 ∧
                ufuncPairWrap self o.mesh r2 (f.kind.join o.kind) (ufuncValid self (.fld f) (.fld o)) = .ok g2 from
              key.trans ⟨fun h => ⟨f, o, rfl, rfl, h⟩, fun ⟨_, _, h1, h2, h⟩ => by cases h1; cases h2; exact h⟩
            dsimp only [Val.kind]
            cases ufuncPairWrap self f.mesh r1 (f.kind.join o.kind) (ufuncValid self (.fld f) (.fld o)) with
            | error e => exact ⟨nofun, fun h => nomatch h.1⟩
            | ok g1' =>
              cases ufuncPairWrap self o.mesh r2 (f.kind.join o.kind) (ufuncValid self (.fld f) (.fld o)) with
              | error e => exact ⟨nofun, fun h => nomatch h.2⟩
              | ok g2' =>
                exact ⟨fun h => by cases h; exact ⟨rfl, rfl⟩, fun ⟨h1, h2⟩ => by cases h1; cases h2; rfl⟩

/-- **array-level = cell-level for the two results** -/
theorem ufunc2pair_cells (fn1 fn2 : GQ → GQ → GQ) (c : Bool) (n : List Nat) (f o g1 g2 : CF)
    (cf co : List Nat → List GQ) (vf vo : List Nat → Bool) (hf : Cells n f cf vf) (ho : Cells n o co vo)
    (h : ufunc2pair fn1 fn2 c (.fld f) (.fld o) = .ok (g1, g2)) :
    Cells n g1 (fun i => bz fn1 (cf i) (co i)) (fun i => vf i && vo i) ∧
    Cells n g2 (fun i => bz fn2 (cf i) (co i)) (fun i => vf i && vo i) ∧ g1.mesh = f.mesh ∧ g2.mesh = o.mesh := by
  obtain ⟨self, ⟨hs, _, _⟩, _, r1, r2, h1, h2, _, _, hl, hr, hw1, hw2⟩ := ufunc2pair_ok_iff.mp h
  cases Val.fld.inj hl; cases Val.fld.inj hr; cases Option.some.inj hs
  have hfo : f.mesh.n = o.mesh.n := by rw [hf.2.1, ho.2.1]
  obtain ⟨hc1, hm1, _⟩ :=
    npBin_cells fn1 f.mesh f.data o.data r1 (Or.inl hf.rank) h1 _ _ _ _ _ g1 (mask_and hf.1.mask)
      (ufuncPairWrap_ok_iff.mp hw1)
  obtain ⟨hc2, hm2, _⟩ :=
    npBin_cells fn2 o.mesh f.data o.data r2 (Or.inr ho.rank) h2 _ _ _ _ _ g2 (mask_and (hf.1.mask.trans hfo))
      (ufuncPairWrap_ok_iff.mp hw2)
  rw [← hfo] at hc2
  exact ⟨Cells.of_arrays (l := .fld f) (r := .fld o) hf ho rfl hc1,
    Cells.of_arrays (l := .fld f) (r := .fld o) hf ho rfl hc2, hm1, hm2⟩

/-- a two-output call needs a field in both positions -/
theorem ufunc2pair_raw_rejected (fn1 fn2 : GQ → GQ → GQ) (c : Bool) (l r : Val)
    (h : (∃ od, l = .raw od) ∨ (∃ od, r = .raw od)) : ∃ e, ufunc2pair fn1 fn2 c l r = .error e := by
  refine err_of_not_ok _ fun p hp => ?_
  obtain ⟨g1, g2⟩ := p
  obtain ⟨_, _, _, _, _, _, _, _, _, hl, hr, _⟩ := ufunc2pair_ok_iff.mp hp
  rcases h with ⟨od, rfl⟩ | ⟨od, rfl⟩
  · cases hl
  · cases hr

/-- fields on different meshes, incompatible component counts, and (for ufuncs without a
complex loop) complex data are refused by two-output calls -/
theorem ufunc2pair_ff_rejected (fn1 fn2 : GQ → GQ → GQ) (c : Bool) (f o : CF)
    (h : meshAllclose f.mesh o.mesh ≠ .ok true ∨
         (CFwf f ∧ CFwf o ∧ f.nvdim ≠ o.nvdim ∧ f.nvdim ≠ 1 ∧ o.nvdim ≠ 1) ∨
         (c = false ∧ (f.kind = .complex ∨ o.kind = .complex))) :
    ∃ e, ufunc2pair fn1 fn2 c (.fld f) (.fld o) = .error e := by
  refine err_of_not_ok _ fun p hp => ?_
  obtain ⟨g1, g2⟩ := p
  obtain ⟨_, ⟨hs, _, hmo⟩, hc, _, _, h1, _⟩ := ufunc2pair_ok_iff.mp hp
  cases Option.some.inj hs
  rcases h with h | ⟨hf, ho, hne, hk, hm⟩ | ⟨hcf, hk⟩
  · exact h (ufuncIn_fld.mp hmo)
  · exact nomatch (npBin_last_rejected fn1 f.data o.data _ _ _ _ hf.1 ho.1 hne hk hm).symm.trans h1
  · exact hc ⟨by simp [hcf], hk⟩

/-- a unary two-output ufunc has two results and one mesh: always refused -/
theorem ufunc1pair_rejected (f : CF) : ∃ e, ufunc1pair f = .error e := by
  unfold ufunc1pair
  cases ufuncMeshOk f (.fld f) with
  | error e => exact ⟨e, rfl⟩
  | ok _ => exact ⟨_, rfl⟩

theorem ufuncWrap_shape_rejected (self : CF) (res : NDA GQ) (k : Kind) (valid : NDA Bool)
    (h : res.shape.dropLast ≠ self.mesh.n) : ufuncWrap self res k valid = .error .notImpl := by
  unfold ufuncWrap
  rw [if_pos h]

theorem ufuncWrap_length_rejected (self : CF) (res : NDA GQ) (k : Kind) (valid : NDA Bool)
    (h : res.shape.length ≠ self.mesh.n.length + 1) (h0 : self.mesh.n ≠ []) :
    ufuncWrap self res k valid = .error .notImpl := by
  apply ufuncWrap_shape_rejected
  intro hc
  have hl := congrArg List.length hc
  rw [List.length_dropLast] at hl
  cases hs : res.shape with
  | nil =>
    rw [hs] at hc
    exact h0 hc.symm
  | cons x xs =>
    rw [hs] at hl h
    simp only [List.length_cons] at hl h
    omega

theorem setAt_eq_self_iff (s : List Nat) (ax v : Nat) (h : ax < s.length) : setAt s ax v = s ↔ s.getD ax 0 = v := by
  induction s generalizing ax with
  | nil => simp at h
  | cons x xs ih =>
    cases ax with
    | zero => simp [setAt, eq_comm]
    | succ a =>
      simp only [setAt, List.cons.injEq, true_and, List.getD_cons_succ]
      exact ih a (by simpa using h)

theorem setAt_append_lt {α} (n : List α) (k : α) (ax : Nat) (v : α) (h : ax < n.length) :
    setAt (n ++ [k]) ax v = setAt n ax v ++ [k] := by
  rw [setAt_eq_set, setAt_eq_set, List.set_append_left _ _ h]

theorem setAt_append_last {α} (n : List α) (k v : α) : setAt (n ++ [k]) n.length v = n ++ [v] := by
  rw [setAt_eq_set, List.set_append_right _ _ (Nat.le_refl _)]; simp

theorem foldAxis_one (fn : GQ → GQ → GQ) (a : NDA GQ) (ax : Nat) (base : List Nat) :
    foldAxis fn a ax base 1 = a.get (setAt base ax 0) := by
  simp [foldAxis]

theorem foldAxis_succ (fn : GQ → GQ → GQ) (a : NDA GQ) (ax : Nat) (base : List Nat) (k : Nat) :
    foldAxis fn a ax base (k + 2) = fn (foldAxis fn a ax base (k + 1)) (a.get (setAt base ax (k + 1))) := by
  simp only [foldAxis, Nat.add_sub_cancel]
  rw [show k + 2 - 1 = k + 1 from rfl, List.range_succ, List.foldl_append]
  rfl

theorem foldAxis_setAt (fn : GQ → GQ → GQ) (a : NDA GQ) (ax : Nat) (base : List Nat) (v len : Nat) :
    foldAxis fn a ax (setAt base ax v) len = foldAxis fn a ax base len := by
  simp only [foldAxis, setAt_setAt_same]

/-- the field the wrapper returns for an array of the field's shape holds that array and the mask it was handed -/
theorem ufuncWrap_get {self g : CF} {res : NDA GQ} {k : Kind} {V : NDA Bool} (h : ufuncWrap self res k V = .ok g)
    (hrs : res.shape = self.mesh.n ++ [self.nvdim]) (hV : V.shape = self.mesh.n) :
    (∀ idx, inRange (self.mesh.n ++ [self.nvdim]) idx = true → g.data.get idx = res.get idx) ∧
    (∀ i, inRange self.mesh.n i = true → g.valid.get i = V.get i) := by
  obtain ⟨_, hmk⟩ := ufuncWrap_ok_iff.mp h
  rw [hrs, lastAx_concat] at hmk
  obtain ⟨_, _, _, _, _, _, _, _, hdata, hvalid, _⟩ :=
    mkField_arr self.mesh self.nvdim res _ _ (some V) _ _ g (not_meshShaped (by rw [hrs]; simp)) (mask_some hV) hmk
  exact ⟨fun idx hidx => by rw [hdata idx hidx, hrs, bproj_inRange _ _ hidx], fun i hi => by rw [hvalid i hi]; rfl⟩

/-- the array `ufunc.reduce` computes from `a` -/
def reducedArr (fn : GQ → GQ → GQ) (a : NDA GQ) (keep : Bool) : Option Nat → NDA GQ
  | none => npReduceAll fn a
  | some k => npReduce fn a k keep

/-- `np.<ufunc>.reduce(f, axis=…, keepdims=…)`: the mesh check, an axis inside the array (or `None`), the wrapper on
the reduced array -/
theorem ufuncReduce_ok_iff {fn : GQ → GQ → GQ} {f g : CF} {ax : Option Nat} {keep : Bool} :
    ufuncReduce fn f ax keep = .ok g ↔ meshAllclose f.mesh f.mesh = .ok true ∧
      (∀ k, ax = some k → k < f.data.shape.length) ∧ ufuncWrap f (reducedArr fn f.data keep ax) f.kind f.valid = .ok g := by
  unfold ufuncReduce
  rw [← ufuncMeshOk_fld]
  cases ufuncMeshOk f (.fld f) with
  | error e => exact ⟨nofun, fun h => nomatch h.1⟩
  | ok u =>
    refine Iff.trans ?_ ⟨fun h => ⟨rfl, h⟩, fun h => h.2⟩
    cases ax with
    | none => exact ⟨fun h => ⟨nofun, h⟩, fun h => h.2⟩
    | some k =>
      dsimp only
      by_cases hk : f.data.shape.length ≤ k
      · rw [if_pos hk]; exact ⟨nofun, fun h => absurd (h.1 k rfl) (Nat.not_lt.mpr hk)⟩
      · rw [if_neg hk]; exact ⟨fun h => ⟨fun _ e => Option.some.inj e ▸ Nat.not_le.mp hk, h⟩, fun h => h.2⟩

/-- `np.<ufunc>.reduce(f, axis=None)` is refused: a 0-d result has no mesh axes -/
theorem ufuncReduce_none_rejected (fn : GQ → GQ → GQ) (f : CF) (keep : Bool) (h0 : f.mesh.n ≠ []) :
    ∃ e, ufuncReduce fn f none keep = .error e :=
  err_of_not_ok _ fun _ hg => h0 (ufuncWrap_ok_iff.mp (ufuncReduce_ok_iff.mp hg).2.2).1.symm

/-- an axis beyond the array's rank is refused -/
theorem ufuncReduce_range_rejected (fn : GQ → GQ → GQ) (f : CF) (ax : Nat) (keep : Bool)
    (h : f.data.shape.length ≤ ax) : ∃ e, ufuncReduce fn f (some ax) keep = .error e :=
  err_of_not_ok _ fun _ hg => absurd ((ufuncReduce_ok_iff.mp hg).2.1 ax rfl) (Nat.not_lt.mpr h)

/-- without `keepdims` a reduction loses an axis and is refused -/
theorem ufuncReduce_nokeep_rejected (fn : GQ → GQ → GQ) (f : CF) (hw : CFwf f) (h0 : f.mesh.n ≠ []) (ax : Nat)
    (hax : ax < f.data.shape.length) : ∃ e, ufuncReduce fn f (some ax) false = .error e := by
  refine err_of_not_ok _ fun g hg => ?_
  have hl := congrArg List.length (ufuncWrap_ok_iff.mp (ufuncReduce_ok_iff.mp hg).2.2).1
  have h1 := length_removeAt f.data.shape ax hax
  have h2 : f.data.shape.length = f.mesh.n.length + 1 := by rw [hw.1]; simp
  have h3 : 0 < f.mesh.n.length := List.length_pos_of_ne_nil h0
  simp only [reducedArr, npReduce, Bool.false_eq_true, if_false, List.length_dropLast] at hl
  omega

/-- with `keepdims`, reducing an axis of length other than 1 is refused: a mesh axis changes
the cell counts, the component axis leaves one component for `nvdim` labels -/
theorem ufuncReduce_keep_rejected (fn : GQ → GQ → GQ) (f : CF) (hw : CFwf f) (hst : MetaStable f) (ax : Nat)
    (hax : ax < f.data.shape.length) (hlen : f.data.shape.getD ax 0 ≠ 1) :
    ∃ e, ufuncReduce fn f (some ax) true = .error e := by
  refine err_of_not_ok _ fun g hg => ?_
  obtain ⟨hdrop, hmk⟩ := ufuncWrap_ok_iff.mp (ufuncReduce_ok_iff.mp hg).2.2
  have hlen' : f.data.shape.length = f.mesh.n.length + 1 := by rw [hw.1]; simp
  by_cases hlt : ax < f.mesh.n.length
  · -- a mesh axis: the cell counts change
    simp only [reducedArr, npReduce, if_true] at hdrop
    rw [hw.1, setAt_append_lt _ _ _ _ hlt, List.dropLast_concat, setAt_eq_self_iff _ _ _ hlt] at hdrop
    apply hlen
    rw [hw.1, getD_append_left _ _ _ _ hlt]
    exact hdrop
  · -- the component axis: one component is left for `nvdim` labels
    have hax' : ax = f.mesh.n.length := by omega
    have hnv : f.nvdim ≠ 1 := by
      intro h1
      apply hlen
      rw [hw.1, hax', getD_append_right _ _ _ _ (Nat.le_refl _), Nat.sub_self]
      exact h1
    have hshape : (reducedArr fn f.data true (some ax)).shape = f.mesh.n ++ [1] := by
      simp only [reducedArr, npReduce, if_true]
      rw [hw.1, hax', setAt_append_last]
    rw [hshape, lastAx_concat] at hmk
    cases hvd : f.vdims with
    | none => exact hnv (hst.unlabelled hw.2.2 hvd).1
    | some l => exact hst.labels_refused hw.2.2 hvd (fun h => hnv h.symm) (hvd ▸ (mkField_meta hmk).1)

/-- **the only accepted reductions are identities**: with `keepdims` and an axis of length 1
the call is accepted, keeps labels and mapping, and returns the values and validity of `f` -/
theorem ufuncReduce_keep_accepts (fn : GQ → GQ → GQ) (M : Mesh) (hM : MeshOk M) (f : CF) (hf : Good M f) (ax : Nat)
    (hax : ax < f.data.shape.length) (hlen : f.data.shape.getD ax 0 = 1) :
    ∃ g, ufuncReduce fn f (some ax) true = .ok g ∧ Good M g ∧ g.nvdim = f.nvdim ∧ g.vdims = f.vdims ∧
      g.vmap = f.vmap ∧ g.unit = none ∧ g.kind = f.kind.ctor ∧
      (∀ idx, inRange (f.mesh.n ++ [f.nvdim]) idx = true → g.data.get idx = f.data.get idx) ∧
      (∀ i, inRange f.mesh.n i = true → g.valid.get i = f.valid.get i) := by
  have hshape : (npReduce fn f.data ax true).shape = f.mesh.n ++ [f.nvdim] := by
    simp only [npReduce, if_true]
    rw [(setAt_eq_self_iff _ _ _ hax).mpr hlen, hf.wf.shape]
  obtain ⟨g, hg, hgg, h1, h2, h3, h4, h5⟩ :=
    Accepts.conj <| ufuncWrap_accepts M f hf (npReduce fn f.data ax true) f.kind f.valid hshape hf.wf.mask
  have hred : ufuncReduce fn f (some ax) true = .ok g :=
    ufuncReduce_ok_iff.mpr ⟨by rw [hf.mesh]; exact hM.2, fun _ e => Option.some.inj e ▸ hax, hg⟩
  obtain ⟨hdata, hvalid⟩ := ufuncWrap_get hg hshape hf.wf.mask
  refine ⟨g, hred, hgg, h1, h2, h3, h4, h5, fun idx hidx => ?_, hvalid⟩
  rw [hdata idx hidx]
  show foldAxis fn f.data ax idx (f.data.shape.getD ax 0) = _
  rw [hlen, foldAxis_one]
  have hlt : idx.getD ax 0 < 1 := by
    have := inRange_getD (f.mesh.n ++ [f.nvdim]) idx hidx ax (by rw [← hf.wf.shape]; exact hax)
    rw [← hf.wf.shape, hlen] at this
    exact this
  have h0 : idx.getD ax 0 = 0 := by omega
  rw [← h0, setAt_getD_self]

/-- **`np.<ufunc>.accumulate(f, axis)` is accepted** for every axis of the array (mesh axes and
the component axis): a field on the same mesh with `f`'s labels, mapping and validity whose
entries are the running `fn`-fold along that axis -/
theorem ufuncAccumulate_accepts (fn : GQ → GQ → GQ) (M : Mesh) (hM : MeshOk M) (f : CF) (hf : Good M f) (ax : Nat)
    (hax : ax < f.data.shape.length) :
    ∃ g, ufuncAccumulate fn f ax = .ok g ∧ Good M g ∧ g.nvdim = f.nvdim ∧ g.vdims = f.vdims ∧
      g.vmap = f.vmap ∧ g.unit = none ∧ g.kind = f.kind.ctor ∧
      (∀ idx, inRange (f.mesh.n ++ [f.nvdim]) idx = true →
        g.data.get idx = foldAxis fn f.data ax idx (idx.getD ax 0 + 1)) ∧
      (∀ i, inRange f.mesh.n i = true → g.valid.get i = f.valid.get i) := by
  have hshape : (npAccumulate fn f.data ax).shape = f.mesh.n ++ [f.nvdim] := hf.wf.shape
  obtain ⟨g, hg, hgg, h1, h2, h3, h4, h5⟩ :=
    Accepts.conj <| ufuncWrap_accepts M f hf (npAccumulate fn f.data ax) f.kind f.valid hshape hf.wf.mask
  have hacc : ufuncAccumulate fn f ax = .ok g := by
    simp only [ufuncAccumulate, ufuncMeshOk]
    rw [hf.mesh, hM.2]
    simp only
    rw [if_neg (Nat.not_le.mpr hax)]
    exact hg
  obtain ⟨hdata, hvalid⟩ := ufuncWrap_get hg hshape hf.wf.mask
  exact ⟨g, hacc, hgg, h1, h2, h3, h4, h5, fun idx hidx => (hdata idx hidx).trans rfl, hvalid⟩

/-- the write into `out=`: the inputs broadcast into the shape of `out`'s array, the result dtype can be cast to `out`'s, and
the array of `out` is overwritten (nothing else of `out` changes) -/
theorem outWrite_ok_iff {fn : GQ → GQ → GQ} {rk : Kind} {a b : NDA GQ} {out out' : CF} :
    outWrite fn rk a b out = .ok out' ↔
      (∃ s, bshape a.shape b.shape = some s ∧ bshape s out.data.shape = some out.data.shape) ∧
      rk.castable out.kind = true ∧
      out' = { out with data := ⟨out.data.shape, fun idx => fn (a.get (bproj a.shape idx)) (b.get (bproj b.shape idx))⟩ } := by
  unfold outWrite
  cases hb : bshape a.shape b.shape with
  | none => exact ⟨nofun, fun ⟨⟨_, h, _⟩, _⟩ => nomatch h⟩
  | some s =>
    dsimp only
    by_cases h1 : bshape s out.data.shape = some out.data.shape
    · rw [if_neg (fun h => h h1)]
      cases h2 : rk.castable out.kind with
      | false => rw [if_pos rfl]; exact ⟨nofun, fun h => nomatch h.2.1⟩
      | true =>
        rw [if_neg (by decide)]
        exact ⟨fun h => ⟨⟨s, rfl, h1⟩, rfl, (Except.ok.inj h).symm⟩, fun h => by rw [h.2.2]⟩
    · rw [if_pos h1]
      exact ⟨nofun, fun ⟨⟨_, h, h'⟩, _⟩ => by cases Option.some.inj h; exact absurd h' h1⟩

/-- a call with `out=` either fails before NumPy's call and leaves `out` alone, or NumPy has overwritten the array of
`out` and the result is what the wrapper makes of that array -/
theorem ufunc2out_cases (fn : GQ → GQ → GQ) (pw : Bool) (rk : Kind → Kind → Kind) (l r : Val) (out : CF) :
    (∃ e, ufunc2out fn pw rk l r out = ⟨.error e, out⟩) ∨
    ∃ a ka b kb out', ufuncInput l = .ok (a, ka) ∧ ufuncInput r = .ok (b, kb) ∧
      negIntPow pw ka kb b = false ∧ outWrite fn (rk ka kb) a b out = .ok out' ∧
      ufunc2out fn pw rk l r out =
        ⟨(match firstFld l r with
          | none => .error .notImpl
          | some self => ufuncWrap self out'.data out.kind (ufuncValid self l r)), out'⟩ := by
  unfold ufunc2out
  cases hl : ufuncInput l with
  | error e => exact Or.inl ⟨e, rfl⟩
  | ok p =>
    obtain ⟨a, ka⟩ := p
    simp only
    cases hr : ufuncInput r with
    | error e => exact Or.inl ⟨e, rfl⟩
    | ok q =>
      obtain ⟨b, kb⟩ := q
      simp only
      split
      · exact Or.inl ⟨_, rfl⟩
      · split
        · exact Or.inl ⟨_, rfl⟩
        · rename_i hp
          cases hw : outWrite fn (rk ka kb) a b out with
          | error e => exact Or.inl ⟨e, rfl⟩
          | ok out' => exact Or.inr ⟨a, ka, b, kb, out', rfl, rfl, by simpa using hp, hw, rfl⟩

theorem ufuncValid_shape (l r : Val) (self : CF) (hs : firstFld l r = some self)
    (hwl : ∀ f, l = .fld f → CFwf f) (hwr : ∀ f, r = .fld f → CFwf f) :
    (ufuncValid self l r).shape = self.mesh.n := by
  cases l with
  | fld f =>
    simp only [firstFld] at hs
    injection hs with hs
    subst hs
    cases r with
    | fld o => exact (hwl f rfl).2.1
    | raw od => exact (hwl f rfl).2.1
  | raw od =>
    cases r with
    | fld o =>
      simp only [firstFld] at hs
      injection hs with hs
      subst hs
      exact (hwr o rfl).2.1
    | raw od2 => simp [firstFld] at hs

end DFV.C03
