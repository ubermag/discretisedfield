import DFV.Lemmas.C04Spec
/-!
C04, rotating the stored ring (`rotCells`): the masks for which the periodic derivative commutes with every rotation (all
valid, or no three cyclically consecutive valid cells), the witness that it does not for every other mask (known
finding D17), and the cells for which it does whatever the mask (those whose ring run the seam does not cut).
-/
namespace DFV.C04
open DFV

/-! ### the rotated ring read through the unrotated one -/

theorem rotCells_length (cells : List (Rat × Bool)) (s : Nat) : (rotCells cells s).length = cells.length := by
  simp [rotCells]

theorem valOf_rotCells (cells : List (Rat × Bool)) (s k : Nat) (hk : k < cells.length) :
    valOf (rotCells cells s) k = valOf cells ((k + s) % cells.length) := by
  unfold valOf rotCells; rw [getD_tab _ _ _ _ hk]

theorem okOf_rotCells (cells : List (Rat × Bool)) (s k : Nat) (hk : k < cells.length) :
    okOf (rotCells cells s) k = okOf cells ((k + s) % cells.length) := by
  unfold okOf rotCells; rw [getD_tab _ _ _ _ hk]

theorem diffRing_rot_getD (o : Nat) (h : Rat) (cells : List (Rat × Bool)) (s j : Nat) (hj : j < cells.length) :
    (diffRing o h (rotCells cells s)).getD j 0
      = ringSpec o h cells.length (fun k => valOf cells ((k + s) % cells.length))
          (fun k => okOf cells ((k + s) % cells.length)) j := by
  rw [diffRing_getD_ringSpec o h _ j (by rw [rotCells_length]; exact hj), rotCells_length]
  exact ringSpec_congr o h _ _ _ _ _ j hj (fun k hk => valOf_rotCells cells s k hk) (fun k hk => okOf_rotCells cells s k hk)

/-! ### modular arithmetic on ring positions -/

/-- used with `c = 1`, `c = 2` and, for the step back, `c = L - 1` -/
theorem mod_add_rot (L j c s : Nat) : ((j + c) % L + s) % L = ((j + s) % L + c) % L := by
  rw [Nat.mod_add_mod, Nat.mod_add_mod, Nat.add_right_comm]

theorem mod_self_rot (L j s : Nat) : (j % L + s) % L = ((j + s) % L) % L := by
  rw [Nat.mod_add_mod, Nat.mod_mod]

theorem mod_pred_rot (L j s : Nat) (hL : 0 < L) : ((j + L - 1) % L + s) % L = ((j + s) % L + L - 1) % L := by
  rw [Nat.add_sub_assoc hL, Nat.add_sub_assoc hL]; exact mod_add_rot L j (L - 1) s

theorem rot_inj (L s k p : Nat) (hk : k < L) (hp : p < L) (h : (k + s) % L = (p + s) % L) : k = p := by
  -- cancel `s` in `ℤ` (there is no subtraction to cancel with in `ℕ`)
  have := (Int.emod_add_cancel_right (m := k) (n := L) (k := p) (s : Int)).mp (by exact_mod_cast h)
  rw [← Nat.mod_eq_of_lt hk, ← Nat.mod_eq_of_lt hp]
  exact_mod_cast this

/-! ### fully valid rings: centred differences, whatever the rotation -/

theorem centred_rot (o : Nat) (h : Rat) (L : Nat) (x : Nat → Rat) (s j : Nat) (hL : 0 < L) :
    centred o h L (fun k => x ((k + s) % L)) j = centred o h L x ((j + s) % L) := by
  unfold centred
  simp only [mod_add_rot L j 1, mod_pred_rot L j s hL, mod_self_rot]

/-! ### rings without three consecutive valid cells: two-cell differences, whatever the rotation -/

theorem noThree_rot (v : Nat → Bool) (L s : Nat) (h : noThree v L) : noThree (fun k => v ((k + s) % L)) L := by
  intro j hj hc
  have hL : 0 < L := by omega
  have := h ((j + s) % L) (Nat.mod_lt _ hL)
  apply this
  obtain ⟨h1, h2, h3⟩ := hc
  refine ⟨h1, ?_, ?_⟩
  · rw [← mod_add_rot]; exact h2
  · rw [← mod_add_rot]; exact h3

theorem shortRing_rot (o : Nat) (h : Rat) (L : Nat) (x : Nat → Rat) (v : Nat → Bool) (s j : Nat) (hj : j < L) :
    shortRing o h L (fun k => x ((k + s) % L)) (fun k => v ((k + s) % L)) j = shortRing o h L x v ((j + s) % L) := by
  have hL : 0 < L := by omega
  unfold shortRing
  simp only [mod_add_rot L j 1, mod_pred_rot L j s hL, mod_self_rot, Nat.mod_mod]

theorem noThree_not_both (v : Nat → Bool) (L j : Nat) (h3 : noThree v L) (hj : j < L) (hv : v j = true)
    (hp : v ((j + L - 1) % L) = true) (hs : v ((j + 1) % L) = true) : False := by
  have hL : 0 < L := by omega
  apply h3 ((j + L - 1) % L) (Nat.mod_lt _ hL)
  refine ⟨hp, ?_, ?_⟩
  · rw [Nat.mod_add_mod, show j + L - 1 + 1 = j + L by omega, Nat.add_mod_right, Nat.mod_eq_of_lt hj]; exact hv
  · rw [Nat.mod_add_mod, show j + L - 1 + 2 = (j + 1) + L by omega, Nat.add_mod_right]; exact hs

theorem noThree_ringBefore (v : Nat → Bool) (L j : Nat) (h3 : noThree v L) (hj : j < L) (hv : v j = true) :
    ringBefore v L j = if v ((j + L - 1) % L) = true then 1 else 0 := by
  have hc : cycBefore v L j = if v ((j + L - 1) % L) = true then 1 else 0 := by
    obtain ⟨m, rfl⟩ : ∃ m, L = m + 1 := ⟨L - 1, by omega⟩
    rw [cycBefore, cycBeforeAux]
    split
    · rename_i hp
      rw [cycBeforeAux, if_neg]
      intro hpp
      refine noThree_not_both v _ _ h3 (Nat.mod_lt _ (by omega)) hp hpp ?_
      rw [Nat.mod_add_mod, show j + (m + 1) - 1 + 1 = j + (m + 1) by omega, Nat.add_mod_right, Nat.mod_eq_of_lt hj]
      exact hv
    · rfl
  rw [ringBefore_eq_min v L j hj, hc]
  split <;> omega

theorem noThree_ringFrom (v : Nat → Bool) (L j : Nat) (h3 : noThree v L) (hj : j < L) (hv : v j = true) :
    ringFrom v L j = if v ((j + 1) % L) = true then 2 else 1 := by
  have hc : cycFrom v L j = if v ((j + 1) % L) = true then 2 else 1 := by
    obtain ⟨m, rfl⟩ : ∃ m, L = m + 1 := ⟨L - 1, by omega⟩
    rw [cycFrom, cycFromAux, Nat.mod_eq_of_lt hj, if_pos hv, cycFromAux, Nat.mod_mod]
    split
    · rename_i hs
      cases m with
      | zero => rfl
      | succ m =>
        rw [cycFromAux, Nat.mod_mod, if_neg]
        exact fun hss => h3 j hj ⟨hv, hs, by rw [Nat.mod_add_mod] at hss; exact hss⟩
    · rfl
  rw [ringFrom_eq_min v L j hj, hc]
  split <;> omega

theorem ringSpec_noThree (o : Nat) (ho : o = 1 ∨ o = 2) (h : Rat) (L : Nat) (x : Nat → Rat) (v : Nat → Bool) (j : Nat)
    (hj : j < L) (h3 : noThree v L) : ringSpec o h L x v j = shortRing o h L x v j := by
  unfold ringSpec shortRing
  by_cases hv : v j = true
  · -- the window has at most one cell before `j` and at most two from it on: three cases by the two neighbours
    simp only [hv, if_true]
    rw [noThree_ringBefore v L j h3 hj hv, noThree_ringFrom v L j h3 hj hv]
    by_cases hs : v ((j + 1) % L) = true
    · -- successor valid, hence predecessor not: the run `j, j + 1`
      have hp : ¬ v ((j + L - 1) % L) = true := fun hp => noThree_not_both v L j h3 hj hv hp hs
      simp only [hs, hp, if_true, if_false, Bool.false_eq_true]
      rcases ho with rfl | rfl
      · simp only [if_true]
        rw [show 0 + 2 = 2 from rfl, dAt_two]
        congr 2
        · congr 1; rw [show j + L - 0 + 1 = (j + 1) + L by omega, Nat.add_mod_right]
        · congr 1; rw [show j + L - 0 + 0 = j + L by omega, Nat.add_mod_right]
      · simp only [show ¬ (2 : Nat) = 1 by omega, if_false]
        exact dAt_short 2 (Or.inr rfl) h _ (by omega) _ _
    · simp only [hs, if_false, Bool.false_eq_true]
      by_cases hp : v ((j + L - 1) % L) = true
      · -- only the predecessor valid: the run `j - 1, j`
        simp only [hp, if_true]
        rcases ho with rfl | rfl
        · simp only [if_true]
          rw [show 1 + 1 = 2 from rfl, dAt_two]
          congr 2
          · congr 1; rw [show j + L - 1 + 1 = j + L by omega, Nat.add_mod_right]
        · simp only [show ¬ (2 : Nat) = 1 by omega, if_false]
          exact dAt_short 2 (Or.inr rfl) h _ (by omega) _ _
      · -- no valid neighbour: a run of one cell
        simp only [hp, if_false, Bool.false_eq_true]
        have := dAt_short o ho h (0 + 1) (by rcases ho with rfl | rfl <;> omega) (fun k => x ((j + L - 0 + k) % L)) 0
        rw [this]
        split <;> rfl  -- both branches of `shortRing` are 0 here
  · simp only [hv, if_false, Bool.false_eq_true]

/-! ### every other mask: a run of three or more cells, cut one cell before its end -/

/-- a mask that is not fully valid and has three cyclically consecutive valid cells has a ring run of
at least three cells that ENDS somewhere: cells `e-2, e-1, e` valid, cell `e+1` invalid -/
theorem exists_run_end (v : Nat → Bool) (L : Nat) (k0 : Nat) (hk0 : k0 < L) (hbad : v k0 = false) (c : Nat)
    (h3 : v (c % L) = true ∧ v ((c + 1) % L) = true ∧ v ((c + 2) % L) = true) :
    ∃ e, e < L ∧ v e = true ∧ v ((e + L - 1) % L) = true ∧ v ((e + L - 2) % L) = true ∧ v ((e + 1) % L) = false := by
  have hL : 0 < L := by omega
  apply Classical.byContradiction
  intro hne
  have step : ∀ e, e < L → v e = true → v ((e + L - 1) % L) = true → v ((e + L - 2) % L) = true → v ((e + 1) % L) = true := by
    intro e he h1 h2 h3'
    cases hv : v ((e + 1) % L) with
    | true => rfl
    | false => exact absurd ⟨e, he, h1, h2, h3', hv⟩ hne
  -- otherwise validity propagates cell by cell all the way round from `c` to the invalid cell `k0`
  have all : ∀ t, v ((c + t) % L) = true ∧ v ((c + t + 1) % L) = true ∧ v ((c + t + 2) % L) = true := by
    intro t
    induction t with
    | zero => exact h3
    | succ t ih =>
      obtain ⟨a1, a2, a3⟩ := ih
      refine ⟨?_, ?_, ?_⟩
      · rw [show c + (t + 1) = c + t + 1 by omega]; exact a2
      · rw [show c + (t + 1) + 1 = c + t + 2 by omega]; exact a3
      · have := step ((c + t + 2) % L) (Nat.mod_lt _ hL) a3
          (by rw [show (c + t + 2) % L + L - 1 = (c + t + 2) % L + (L - 1) by omega, Nat.mod_add_mod,
                show c + t + 2 + (L - 1) = (c + t + 1) + L by omega, Nat.add_mod_right]; exact a2)
          (by by_cases hL1 : L = 1
              · subst hL1; simp only [Nat.mod_one] at a1 ⊢; exact a1
              · rw [show (c + t + 2) % L + L - 2 = (c + t + 2) % L + (L - 2) by omega, Nat.mod_add_mod,
                  show c + t + 2 + (L - 2) = (c + t) + L by omega, Nat.add_mod_right]; exact a1)
        rw [Nat.mod_add_mod] at this
        rw [show c + (t + 1) + 2 = c + t + 2 + 1 by omega]; exact this
  have := (all (k0 + L - c % L)).1
  have hc : c % L < L := Nat.mod_lt _ hL
  rw [← Nat.mod_add_mod, show c % L + (k0 + L - c % L) = k0 + L by omega, Nat.add_mod_right, Nat.mod_eq_of_lt hk0, hbad] at this
  exact absurd this (by simp)

/-- a run of at least three cells that ends at the last cell of the stored line whose first cell is
invalid: the last cell gets the one-sided end stencil of its whole run -/
theorem ringSpec_last (o : Nat) (h : Rat) (L : Nat) (x : Nat → Rat) (v : Nat → Bool) (hL : 4 ≤ L)
    (h0 : v 0 = false) (h1 : v (L - 1) = true) (h2 : v (L - 2) = true) (h3 : v (L - 3) = true) :
    ∃ b, 2 ≤ b ∧ b + 2 ≤ L ∧ ringSpec o h L x v (L - 1) = dAt o h (b + 1) (fun k => x (L - 1 - b + k)) b := by
  have hlt := runBefore_lt_of_false v h0 (L - 1) (by omega)
  refine ⟨runBefore v (L - 1), ?_, by omega, ?_⟩
  · obtain ⟨a, rfl⟩ : ∃ a, L = a + 3 := ⟨L - 3, by omega⟩
    change 2 ≤ runBefore v (a + 1 + 1)
    rw [runBefore, if_pos (show v (a + 1) = true from h2), runBefore, if_pos (show v a = true from h3)]; omega
  · have eA : runFrom v L (L - 1) = 1 :=
      runFromAux_eq v 1 (L - 1) _ (fun j hj hj' => by rw [show j = L - 1 by omega]; exact h1) (Or.inl (by omega))
    rw [ringSpec_off_seam o h L x v (L - 1) (by omega) (Or.inl hlt) (Or.inr h0), diffSpec, if_pos h1, eA]

/-- the same run stored with its last cell first: that cell is differentiated with ONE cell from
beyond the seam, as a run of two -/
theorem ringSpec_first (o : Nat) (h : Rat) (L : Nat) (x : Nat → Rat) (v : Nat → Bool) (hL : 3 ≤ L)
    (h0 : v 0 = true) (h1 : v 1 = false) (hl : v (L - 1) = true) :
    ringSpec o h L x v 0 = dAt o h 2 (fun k => x ((L - 1 + k) % L)) 1 := by
  have eB : ringBefore v L 0 = 1 := by
    unfold ringBefore
    simp [runBefore, hl]
  have eA : ringFrom v L 0 = 1 := by
    have e : runFrom v L 0 = 1 :=
      runFromAux_eq v 1 0 _ (fun j _ hj => by rw [show j = 0 by omega]; exact h0) (Or.inr ⟨by omega, h1⟩)
    rw [ringFrom, e, if_neg (by omega)]
  unfold ringSpec
  rw [if_pos h0, eB, eA]
  apply dAt_congr _ _ _ _ _ _ _ (by omega)
  intro k _
  congr 2
  omega

/-- three valid cells followed by an invalid one need four ring positions: in a shorter ring `e`, `e - 1` or `e - 2` IS `e + 1` -/
theorem four_le_of_run_end (v : Nat → Bool) (L e : Nat) (he : e < L) (hv : v e = true) (hp : v ((e + L - 1) % L) = true)
    (hp2 : v ((e + L - 2) % L) = true) (hs : v ((e + 1) % L) = false) : 4 ≤ L := by
  apply Classical.byContradiction
  intro hlt
  have : L = 1 ∨ L = 2 ∨ L = 3 := by omega
  rcases this with rfl | rfl | rfl
  · rw [Nat.mod_one, ← show e = 0 by omega, hv] at hs; cases hs
  · rw [show e + 2 - 1 = e + 1 by omega, hs] at hp; cases hp
  · rw [show e + 3 - 2 = e + 1 by omega, hs] at hp2; cases hp2

/-- **the witness against shift-equivariance**: a ring run of at least three cells ending at cell `e`
(cells `e-2, e-1, e` valid, `e+1` invalid), data 1 at `e` and 0 elsewhere.  Stored with cell `e+1`
first, cell `e` (the last stored cell) gets the end stencil of its whole run; stored with cell `e`
first it is differentiated with one cell from beyond the seam, as a run of two: the results differ. -/
theorem ring_rot_fails (o : Nat) (ho : o = 1 ∨ o = 2) (h : Rat) (hh : h ≠ 0) (cells : List (Rat × Bool)) (e : Nat)
    (he : e < cells.length) (hv : okOf cells e = true) (hp : okOf cells ((e + cells.length - 1) % cells.length) = true)
    (hp2 : okOf cells ((e + cells.length - 2) % cells.length) = true) (hs : okOf cells ((e + 1) % cells.length) = false)
    (hx : ∀ k, k < cells.length → valOf cells k = if k = e then 1 else 0) :
    (diffRing o h (rotCells cells (e + 1))).getD (cells.length - 1) 0 ≠ (diffRing o h (rotCells cells e)).getD 0 0 := by
  have hL : 4 ≤ cells.length := four_le_of_run_end (okOf cells) _ e he hv hp hp2 hs
  generalize hLdef : cells.length = L at *
  -- the data read through the rotation that puts cell `e` at position `p`: 1 at `p`, 0 elsewhere
  have hrot : ∀ p s, p < L → (p + s) % L = e → ∀ k, k < L → valOf cells ((k + s) % L) = if k = p then 1 else 0 := by
    intro p s hp hps k hk
    rw [hx _ (Nat.mod_lt _ (by omega))]
    by_cases hkp : k = p
    · rw [if_pos hkp, hkp, if_pos hps]
    · rw [if_neg hkp, if_neg fun hke => hkp (rot_inj L s k p hk hp (hke.trans hps.symm))]
  have he1 : (L - 1 + (e + 1)) % L = e := by
    rw [show L - 1 + (e + 1) = e + L by omega, Nat.add_mod_right, Nat.mod_eq_of_lt he]
  have he0 : (0 + e) % L = e := by rw [Nat.zero_add, Nat.mod_eq_of_lt he]
  have r1 := diffRing_rot_getD o h cells (e + 1) (L - 1) (by omega)
  have r2 := diffRing_rot_getD o h cells e 0 (by omega)
  rw [hLdef] at r1 r2
  rw [r1, r2, ringSpec_congr o h L _ _ _ _ _ (by omega) (hrot (L - 1) (e + 1) (by omega) he1) (fun _ _ => rfl),
    ringSpec_congr o h L _ _ _ _ _ (by omega) (hrot 0 e (by omega) he0) (fun _ _ => rfl)]
  -- `ringSpec_last` on the rotation that stores `e` last (position 0 holds the invalid cell `e + 1`)
  obtain ⟨b, hb2, hbL, e1⟩ := ringSpec_last o h L (fun k => if k = L - 1 then 1 else 0)
    (fun k => okOf cells ((k + (e + 1)) % L)) hL
    (by show okOf cells ((0 + (e + 1)) % L) = false; rw [Nat.zero_add]; exact hs)
    (by show okOf cells ((L - 1 + (e + 1)) % L) = true; rw [he1]; exact hv)
    (by show okOf cells ((L - 2 + (e + 1)) % L) = true; rw [show L - 2 + (e + 1) = e + L - 1 by omega]; exact hp)
    (by show okOf cells ((L - 3 + (e + 1)) % L) = true; rw [show L - 3 + (e + 1) = e + L - 2 by omega]; exact hp2)
  -- `ringSpec_first` on the rotation that stores `e` first (position 1 holds `e + 1`, the last position `e - 1`)
  rw [e1, ringSpec_first o h L _ (fun k => okOf cells ((k + e) % L)) (by omega)
    (by show okOf cells ((0 + e) % L) = true; rw [he0]; exact hv)
    (by show okOf cells ((1 + e) % L) = false; rw [Nat.add_comm 1 e]; exact hs)
    (by show okOf cells ((L - 1 + e) % L) = true; rw [show L - 1 + e = e + L - 1 by omega]; exact hp)]
  rw [dAt_last_impulse o ho h b hb2 _ (if_pos (by omega)) (fun k hk => if_neg (by omega))]
  -- order 1: end stencil `3/(2h)` against the two-cell stencil `1/h`; order 2: `2/h²` (`1/h²` for a run of three)
  -- against `0` for a run of two
  rcases ho with rfl | rfl
  · rw [dAt_two, show (L - 1 + 1) % L = 0 by rw [show L - 1 + 1 = L by omega, Nat.mod_self], if_pos rfl,
      Nat.add_zero, Nat.mod_eq_of_lt (by omega : L - 1 < L), if_neg (show ¬ L - 1 = 0 by omega), if_pos rfl, sub_zero, Ne,
      div_eq_div_iff (mul_ne_zero two_ne_zero hh) hh, one_mul]
    exact fun heq => absurd (mul_right_cancel₀ hh heq) (by norm_num)
  · rw [dAt_short 2 (Or.inr rfl) h 2 (by omega), if_neg (by omega)]
    exact div_ne_zero (by split <;> norm_num) (mul_ne_zero hh hh)

theorem okOf_of_mask (cells : List (Rat × Bool)) (k : Nat) : okOf cells k = (cells.map (·.2)).getD k false := by
  unfold okOf
  simp only [List.getD_eq_getElem?_getD, List.getElem?_map]
  cases cells[k]? <;> rfl

/-- **every mask that is not fully valid and has three cyclically consecutive valid cells carries data on which two
storages of the same ring give the same cell different derivatives** (the failing half of `ring_shift_iff` in Props) -/
theorem exists_rot_mismatch (o : Nat) (ho : o = 1 ∨ o = 2) (h : Rat) (hh : h ≠ 0) (m : List Bool) (k0 : Nat) (hk0 : k0 < m.length)
    (hbad : m.getD k0 false = false) (c : Nat) (hc : c < m.length)
    (h3 : m.getD c false = true ∧ m.getD ((c + 1) % m.length) false = true ∧ m.getD ((c + 2) % m.length) false = true) :
    ∃ (cells : List (Rat × Bool)) (e : Nat), cells.map (·.2) = m ∧ e < m.length ∧
      (diffRing o h (rotCells cells (e + 1))).getD (m.length - 1) 0 ≠ (diffRing o h (rotCells cells e)).getD 0 0 := by
  obtain ⟨e, he, hv, hp, hp2, hs⟩ := exists_run_end (fun k => m.getD k false) m.length k0 hk0 hbad c
    (by rw [Nat.mod_eq_of_lt hc]; exact h3)
  -- data: 1 at cell e, 0 elsewhere
  have hm : (tab m.length fun k => ((if k = e then 1 else 0 : Rat), m.getD k false)).map (·.2) = m := by
    rw [tab_map]; exact tab_getD_self m false
  have hl : (tab m.length fun k => ((if k = e then 1 else 0 : Rat), m.getD k false)).length = m.length := tab_length _ _
  refine ⟨_, e, hm, he, ?_⟩
  have := ring_rot_fails o ho h hh (tab m.length fun k => ((if k = e then 1 else 0 : Rat), m.getD k false)) e (by rw [hl]; exact he)
    (by rw [okOf_of_mask, hm]; exact hv) (by rw [okOf_of_mask, hm, hl]; exact hp) (by rw [okOf_of_mask, hm, hl]; exact hp2)
    (by rw [okOf_of_mask, hm, hl]; exact hs) (fun k hk => by unfold valOf; rw [getD_tab _ _ _ _ (hl ▸ hk)])
  rwa [hl] at this

/-! ### the ring run under rotation -/

theorem cycBefore_rot (v : Nat → Bool) (L s j : Nat) (hL : 0 < L) :
    cycBefore (fun k => v ((k + s) % L)) L j = cycBefore v L ((j + s) % L) := by
  rw [cycBefore, cycBefore, cycBeforeAux_eq_cnt _ _ _ _ hL, cycBeforeAux_eq_cnt _ _ _ _ hL]
  exact cnt_congr _ _ _ fun k _ => congrArg v (by rw [Nat.mod_add_mod, Nat.mod_add_mod, Nat.add_right_comm])

theorem cycFrom_rot (v : Nat → Bool) (L s j : Nat) :
    cycFrom (fun k => v ((k + s) % L)) L j = cycFrom v L ((j + s) % L) := by
  rw [cycFrom, cycFrom, cycFromAux_eq_cnt, cycFromAux_eq_cnt]
  exact cnt_congr _ _ _ fun k _ => congrArg v (by rw [Nat.mod_add_mod, Nat.mod_add_mod, Nat.add_right_comm])

/-- the ideal ring spec does not depend on where the stored line starts (`hb` only makes `L - cycBefore …` in the index
arithmetic a true subtraction; it holds as soon as the ring has an invalid cell) -/
theorem idealRingSpec_rot (o : Nat) (h : Rat) (L : Nat) (x : Nat → Rat) (v : Nat → Bool) (s j : Nat) (hj : j < L)
    (hb : cycBefore v L ((j + s) % L) ≤ L) :
    idealRingSpec o h L (fun k => x ((k + s) % L)) (fun k => v ((k + s) % L)) j = idealRingSpec o h L x v ((j + s) % L) := by
  have hL : 0 < L := by omega
  unfold idealRingSpec
  rw [cycBefore_rot v L s j hL, cycFrom_rot]
  split
  · congr 1
    funext k
    have hJ : (j + s) % L < L := Nat.mod_lt _ hL
    beta_reduce
    congr 1
    rw [Nat.mod_add_mod,
      show (j + s) % L + L - cycBefore v L ((j + s) % L) + k = (j + s) % L + (L - cycBefore v L ((j + s) % L) + k) by omega,
      Nat.mod_add_mod]
    congr 1
    omega
  · rfl

/-- where the ring run of a cell is not cut by the seam (it extends at most one cell beyond it on each side)
the code computes the ideal ring spec -/
theorem ringSpec_eq_ideal (o : Nat) (h : Rat) (L : Nat) (x : Nat → Rat) (v : Nat → Bool) (j : Nat) (hj : j < L)
    (hb : cycBefore v L j ≤ j + 1) (ha : cycFrom v L j ≤ L - j + 1) :
    ringSpec o h L x v j = idealRingSpec o h L x v j := by
  unfold ringSpec idealRingSpec
  rw [ringBefore_eq_min v L j hj, ringFrom_eq_min v L j hj, Nat.min_eq_left hb, Nat.min_eq_left ha]

end DFV.C04
