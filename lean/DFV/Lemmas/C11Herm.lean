import DFV.Lemmas.C11Dft
/-!
C11: Hermitian symmetry.  The transform of conj-fixed ("real") data is Hermitian and a Hermitian
spectrum has a conj-fixed inverse transform; the Hermitian extension `hermExt` of a half
spectrum, its inverse transform as one sum over the output box in the coordinates of the array
(`hermExtS`) and as a sum over the stored half only; numpy's convention for the self-mirror
planes (`symPlanes`, `HermPlanes`).
-/
namespace DFV.C11
open DFV

variable {R : Type} [CommRing R]

/-! ### the spectrum of real data -/

theorem conj_twProd (conj : R → R) (hc : IsConj conj) (ρs : List (Root R)) (ns : List Nat) (hρ : Roots ns ρs)
    (hcr : ConjRoots conj ns ρs) (m r : List Nat) (hm : inRange ns m = true) :
    conj (twProd ρs ns m r) = twProd ρs ns (negIdx ns m) r := by
  rw [twProd_eq_prodN, twProd_eq_prodN, hc.isHom.prodN]
  refine prodN_congr _ _ _ fun a ha => ?_
  rw [negIdx_getD ns m hm a ha]
  exact conj_tw hc ((Roots_iff _ _).mp hρ a ha) ((ConjRoots_iff _ _ _).mp hcr a ha) _ _ (inRange_getD ns m hm a ha)

/-- the conjugate of the transform is the transform of the conjugate data at the negated frequency, for any
data; Hermitian symmetry of the spectrum of real data is the case `conj ∘ f = f` -/
theorem conj_dftN (conj : R → R) (hc : IsConj conj) (ρs : List (Root R)) (ns : List Nat)
    (hρ : Roots ns ρs) (hcr : ConjRoots conj ns ρs) (f : List Nat → R) (k : List Nat) (hk : inRange ns k = true) :
    conj (dftN ρs ns f k) = dftN ρs ns (fun i => conj (f i)) (negIdx ns k) := by
  rw [dftN_eq_sumBox, dftN_eq_sumBox, hc.isHom.sumBox]
  exact sumBox_congr ns _ _ fun r _ => by rw [hc.map_mul, conj_twProd conj hc ρs ns hρ hcr k r hk]

/-- Hermitian symmetry of the transform of conj-fixed ("real") data -/
theorem conj_dftN_neg (conj : R → R) (hc : IsConj conj) (ρs : List (Root R)) (ns : List Nat)
    (hρ : Roots ns ρs) (hcr : ConjRoots conj ns ρs) (f : List Nat → R) (hf : ∀ i, conj (f i) = f i)
    (k : List Nat) (hk : inRange ns k = true) :
    conj (dftN ρs ns f (negIdx ns k)) = dftN ρs ns f k := by
  rw [conj_dftN conj hc ρs ns hρ hcr f _ (negIdx_inRange ns k hk), negIdx_negIdx ns k hk]
  simp only [hf]

/-- the half spectrum of conj-fixed data, extended by Hermitian symmetry, is the full spectrum -/
theorem hermExt_rdft (conj : R → R) (hc : IsConj conj) (ρs : List (Root R)) (ns : List Nat)
    (hρ : Roots ns ρs) (hcr : ConjRoots conj ns ρs) (f : List Nat → R) (hf : ∀ i, conj (f i) = f i)
    (G : List Nat → R) (hG : ∀ m, inRange ns m = true → G m = dftN ρs ns f m)
    (k : List Nat) (hk : inRange ns k = true) :
    hermExt conj ns G k = dftN ρs ns f k := by
  unfold hermExt
  split
  · exact hG k hk
  · rw [hG _ (negIdx_inRange ns k hk)]
    exact conj_dftN_neg conj hc ρs ns hρ hcr f hf k hk

/-! ### the inverse transform of a Hermitian spectrum is real -/

theorem conj_ninvProd (conj : R → R) (hc : IsConj conj) (ρs : List (Root R)) (ns : List Nat) (hρ : Roots ns ρs) :
    conj (ninvProd ρs ns) = ninvProd ρs ns := by
  rw [ninvProd_eq_prodN, hc.isHom.prodN]
  exact prodN_congr _ _ _ fun a ha => conj_ninv hc ((Roots_iff _ _).mp hρ a ha)

/-- a spectrum with `conj F[k] = F[-k]` has a conj-fixed inverse transform -/
theorem idftN_real (conj : R → R) (hc : IsConj conj) (ρs : List (Root R)) (ns : List Nat) (hρ : Roots ns ρs)
    (hcr : ConjRoots conj ns ρs) (F : List Nat → R)
    (hF : ∀ k, inRange ns k = true → conj (F k) = F (negIdx ns k)) (j : List Nat) :
    conj (idftN ρs ns F j) = idftN ρs ns F j := by
  rw [idftN_eq_sumBox, hc.map_mul, conj_ninvProd conj hc ρs ns hρ]
  congr 1
  rw [hc.isHom.sumBox, ← sumBox_negIdx ns (fun k => F k * twProd (ρs.map Root.swap) ns k j)]
  exact sumBox_congr ns _ _ fun k hk => by
    rw [hc.map_mul, hF k hk, conj_twProd conj hc _ ns (Roots.swap ns ρs hρ) (hcr.swap hc hρ) k j hk]

/-! ### the Hermitian extension of a consistent half spectrum is Hermitian -/

omit [CommRing R] in
theorem hermExt_hermitian (conj : R → R) (hinv : ∀ x, conj (conj x) = x) (s : List Nat) (G : List Nat → R)
    (hcons : ∀ k, inRange s k = true → (k.getLastD 0 = 0 ∨ 2 * k.getLastD 0 = s.getLastD 0) →
      conj (G k) = G (negIdx s k))
    (k : List Nat) (hk : inRange s k = true) :
    conj (hermExt conj s G k) = hermExt conj s G (negIdx s k) := by
  have hl' := negIdx_last s k hk
  have hlt : k.getLastD 0 < s.getLastD 0 ∨ (k.getLastD 0 = 0 ∧ s.getLastD 0 = 0) := by
    by_cases hs : s = []
    · subst hs
      cases k with
      | nil => exact Or.inr ⟨rfl, rfl⟩
      | cons x xs => simp [inRange] at hk
    · exact Or.inl (last_lt_of_inRange s k hk hs)
  have hck := hcons k hk
  clear hcons
  unfold hermExt
  rw [negIdx_negIdx s k hk]
  -- from here on only arithmetic on `l = last k`, `n = last s`, `l' = last (-k)`
  generalize k.getLastD 0 = l at *
  generalize s.getLastD 0 = n at *
  generalize (negIdx s k).getLastD 0 = l' at *
  have hl2 : l' = if l = 0 then 0 else n - l := by
    rcases hlt with h | ⟨h1, h2⟩
    · rw [hl', Nat.mod_eq_of_lt h]
      by_cases h0 : l = 0
      · subst h0; simp
      · rw [if_neg h0, Nat.mod_eq_of_lt (by omega)]
    · subst h1; subst h2; simp [hl']
  by_cases h1 : l ≤ n / 2
  · rw [if_pos h1]
    by_cases h2 : l' ≤ n / 2
    · rw [if_pos h2]
      apply hck
      by_cases h0 : l = 0
      · left; exact h0
      · right; rw [if_neg h0] at hl2; omega
    · rw [if_neg h2]
  · rw [if_neg h1, hinv]
    have h2 : l' ≤ n / 2 := by
      have h0 : l ≠ 0 := by omega
      rw [if_neg h0] at hl2; omega
    rw [if_pos h2]

/-! ### the inverse transform of a Hermitian extension as one sum in array coordinates -/

/-- the full spectrum in ARRAY coordinates (leading axes shifted) that a half-spectrum array `A`
stands for: `A[m]` for last index `≤ ⌊n/2⌋`, else the conjugate of the mirror cell -/
def hermExtS (conj : R → R) (s : List Nat) (A : List Nat → R) (m : List Nat) : R :=
  if m.getLastD 0 ≤ s.getLastD 0 / 2 then A m else conj (A (mirrorR s m))

/-- `idftN` of the Hermitian extension of an un-shifted half spectrum `A ∘ ifftshift` is
`Π(1/n_a) Σ_m Ã[m] · Π_{a<last} wi_a^(m_a j_a) w_a^(⌊n_a/2⌋ j_a) · wi_last^(m_last j_last)`, the sum
running over ALL cells `m` of the output box and `Ã` the Hermitian extension in array coordinates -/
theorem idftN_hermExt_sum (conj : R → R) (ρs : List (Root R)) (s : List Nat) (hρ : Roots s ρs)
    (A : List Nat → R) (j : List Nat) :
    idftN ρs s (hermExt conj s fun m => A (ishiftR (halfShape s) m)) j
      = ninvProd ρs s * sumBox s fun m => hermExtS conj s A m * phaseR (ρs.map Root.swap) s m j := by
  rw [idftN_eq_sumBox]
  congr 1
  rw [← sumBox_fshiftR s (fun k => hermExt conj s (fun m => A (ishiftR (halfShape s) m)) k * twProd (ρs.map Root.swap) s k j)]
  apply sumBox_congr
  intro m hm
  have hlen : m.length = s.length := inRange_length _ _ hm
  rw [twProd_fshiftR _ s (Roots.swap s ρs hρ) m j (.of_inRange hm)]
  congr 1
  unfold hermExt hermExtS
  rw [fshiftR_last]
  split
  · -- last index in the stored half: the stored cell itself
    show A (ishiftR (halfShape s) (fshiftR s m)) = A m
    rw [ishiftR_half s _ (by rw [fshiftR_length, hlen]), ishiftR_fshiftR s m (.of_inRange hm)]
  · -- beyond it: the conjugate of the mirror cell (`mirrorR` is `negIdx` in array coordinates)
    show conj (A (ishiftR (halfShape s) (negIdx s (fshiftR s m)))) = conj (A (mirrorR s m))
    rw [ishiftR_half s _ (negIdx_length s _ (fshiftR_inRange_full s m hm))]
    rfl

/-! ### the same sum collected over the stored half spectrum -/

theorem twProd_swap_negIdx (ρs : List (Root R)) (ns : List Nat) (hρ : Roots ns ρs) (k j : List Nat)
    (hk : inRange ns k = true) : twProd (ρs.map Root.swap) ns (negIdx ns k) j = twProd ρs ns k j := by
  rw [twProd_eq_prodN, twProd_eq_prodN]
  refine prodN_congr _ _ _ fun a ha => ?_
  have hr := (Roots_iff _ _).mp hρ a ha
  rw [rootAt_swap, negIdx_getD ns k hk a ha, tw_eq _ _ _ _ hr.swap.pow_n, tw_eq _ _ _ _ hr.pow_n]
  exact tw_neg hr _ _ (inRange_getD ns k hk a ha)

theorem phaseR_mirrorR (ρs : List (Root R)) (s : List Nat) (hρ : Roots s ρs) (m j : List Nat)
    (hm : inRange s m = true) : phaseR (ρs.map Root.swap) s (mirrorR s m) j = phaseR ρs s m j := by
  rw [← twProd_fshiftR _ s (Roots.swap s ρs hρ) _ j (.of_inRange (mirrorR_inRange s m hm)), fshiftR_mirrorR s m hm,
    twProd_swap_negIdx ρs s hρ _ j (fshiftR_inRange_full s m hm), twProd_fshiftR ρs s hρ m j (.of_inRange hm)]

/-- **c2r form**: the one-sum inverse DFT of the Hermitian extension, collected over the stored
half spectrum -/
theorem hermExt_sum_half (conj : R → R) (ρs : List (Root R)) (s : List Nat) (hρ : Roots s ρs)
    (hpos : 0 < s.getLastD 0) (A : List Nat → R) (j : List Nat) :
    sumBox s (fun m => hermExtS conj s A m * phaseR (ρs.map Root.swap) s m j)
      = sumBox (halfShape s) fun m => A m * phaseR (ρs.map Root.swap) s m j +
          (if 1 ≤ m.getLastD 0 ∧ m.getLastD 0 < s.getLastD 0 - s.getLastD 0 / 2
           then conj (A m) * phaseR ρs s m j else 0) := by
  have hs : s ≠ [] := by intro e; rw [e] at hpos; simp at hpos
  -- split the extension into the stored part and the mirrored part
  have e1 : sumBox s (fun m => hermExtS conj s A m * phaseR (ρs.map Root.swap) s m j)
      = sumBox s (fun m => if m.getLastD 0 ≤ s.getLastD 0 / 2 then A m * phaseR (ρs.map Root.swap) s m j else 0)
        + sumBox s (fun m => if m.getLastD 0 ≤ s.getLastD 0 / 2 then 0
            else conj (A (mirrorR s m)) * phaseR (ρs.map Root.swap) s m j) := by
    rw [← sumBox_add]
    apply sumBox_congr
    intro m _
    unfold hermExtS
    split
    · rw [add_zero]   -- stored part: `x = x + 0`
    · rw [zero_add]   -- mirrored part: `x = 0 + x`
  -- re-index the mirrored part by the mirror map
  have e2 : sumBox s (fun m => if m.getLastD 0 ≤ s.getLastD 0 / 2 then 0
            else conj (A (mirrorR s m)) * phaseR (ρs.map Root.swap) s m j)
      = sumBox s (fun m => if 1 ≤ m.getLastD 0 ∧ m.getLastD 0 < s.getLastD 0 - s.getLastD 0 / 2
            then conj (A m) * phaseR ρs s m j else 0) := by
    rw [← sumBox_mirrorR s (fun m => if m.getLastD 0 ≤ s.getLastD 0 / 2 then 0
            else conj (A (mirrorR s m)) * phaseR (ρs.map Root.swap) s m j)]
    apply sumBox_congr
    intro m hm
    have hl := last_lt_of_inRange s m hm hs
    rw [mirrorR_last s m hm, mirrorR_mirrorR s m hm, phaseR_mirrorR ρs s hρ m j hm, Nat.mod_eq_of_lt hl]
    by_cases h0 : m.getLastD 0 = 0
    · rw [h0]
      simp
    · have hlt : s.getLastD 0 - m.getLastD 0 < s.getLastD 0 := by omega
      rw [Nat.mod_eq_of_lt hlt]
      by_cases hc : m.getLastD 0 < s.getLastD 0 - s.getLastD 0 / 2
      · rw [if_neg (by omega), if_pos ⟨by omega, hc⟩]
      · rw [if_pos (by omega), if_neg (fun h => hc h.2)]
  rw [e1, e2, ← sumBox_add, sumBox_half s hpos]
  · apply sumBox_congr
    intro m hm
    rw [if_pos (last_le_of_inRange_half s m hm)]
  · intro m _ hl
    rw [if_neg hl, if_neg (by omega), add_zero]

/-! ### numpy's convention on the self-mirror planes -/

/-- a half-spectrum array is Hermitian on its self-mirror planes (array coordinates) -/
def HermPlanes (conj : R → R) (s : List Nat) (A : List Nat → R) : Prop :=
  ∀ m, inRange s m = true → (m.getLastD 0 = 0 ∨ 2 * m.getLastD 0 = s.getLastD 0) → conj (A m) = A (mirrorR s m)

/-- **on Hermitian-consistent planes numpy's convention changes nothing** -/
theorem symPlanes_of_consistent (conj : R → R) (half : R) (hh : half * 2 = 1) (s : List Nat)
    (A : List Nat → R) (m : List Nat) (hm : inRange s m = true)
    (hcons : HermPlanes conj s A) :
    symPlanes conj half s A m = A m := by
  unfold symPlanes
  split
  · rename_i hp
    have h1 := hcons _ (mirrorR_inRange s m hm) (plane_mirror s m hm hp)
    rw [mirrorR_mirrorR s m hm] at h1
    rw [h1]
    calc half * (A m + A m) = (half * 2) * A m := by ring
      _ = A m := by rw [hh, one_mul]
  · rfl

/-- **the symmetrised planes are Hermitian** for every input -/
theorem symPlanes_hermitian (conj : R → R) (hc : IsConj conj) (hinv : ∀ x, conj (conj x) = x) (half : R)
    (hh : half * 2 = 1) (s : List Nat) (A : List Nat → R) (m : List Nat) (hm : inRange s m = true)
    (hp : m.getLastD 0 = 0 ∨ 2 * m.getLastD 0 = s.getLastD 0) :
    conj (symPlanes conj half s A m) = symPlanes conj half s A (mirrorR s m) := by
  unfold symPlanes
  rw [if_pos hp, if_pos (plane_mirror s m hm hp), mirrorR_mirrorR s m hm, hc.map_mul, hc.map_add, hinv,
    conj_half hc hh]
  ring

omit [CommRing R] in
/-- the same condition in un-shifted coordinates (the form `irfftnArr_real` asks for) -/
theorem HermPlanes.unshifted {conj : R → R} {s : List Nat} {A : List Nat → R} (h : HermPlanes conj s A)
    (k : List Nat) (hk : inRange s k = true) (hp : k.getLastD 0 = 0 ∨ 2 * k.getLastD 0 = s.getLastD 0) :
    conj (A (ishiftR (halfShape s) k)) = A (ishiftR (halfShape s) (negIdx s k)) := by
  rw [ishiftR_half s k (inRange_length _ _ hk), ishiftR_half s _ (negIdx_length s k hk)]
  have := h (ishiftR s k) (ishiftR_inRange_full s k hk) (by rw [ishiftR_last]; exact hp)
  rw [this]
  unfold mirrorR
  rw [fshiftR_ishiftR s k (.of_inRange hk)]


end DFV.C11
