import DFV.Lemmas.C14Setter
/-! C14: decidable checkers for the invariants (used by the non-vacuity examples), a concrete mesh with
subregions (`exM`, `exP`), and the field `exF` / history `exOps` shared by the examples of other families (C12, C13, C10 reach
them through the import chain `C14Ex → C14Sel → C14Persist → C13Forms`; `C14Sel` itself uses nothing of this file). -/
namespace DFV.C14
open DFV DFV.T DFV.Mesh

/-- `C01.mesh_inv_of_invB`, under the name the example files of C12 use -/
theorem mesh_inv_of_invB' (m : Mesh) (h : m.invB = true) : m.Inv := C01.mesh_inv_of_invB m h

/-- Boolean checker for `FitsE` -/
def fitsB (m : Mesh) (s : Region) : Bool :=
  decide (s.pmin.length = m.ndim) && decide (s.pmax.length = m.ndim) &&
  allLt m.ndim fun a =>
    decide (0 ≤ ((s.lo a - m.region.lo a) / m.cellAt a).floor) &&
    decide (0 < ((s.hi a - s.lo a) / m.cellAt a).floor) &&
    decide (((s.lo a - m.region.lo a) / m.cellAt a).floor + ((s.hi a - s.lo a) / m.cellAt a).floor ≤ (m.nAt a : Int)) &&
    decide (s.lo a - m.region.lo a = (((s.lo a - m.region.lo a) / m.cellAt a).floor : Rat) * m.cellAt a) &&
    decide (s.hi a - s.lo a = (((s.hi a - s.lo a) / m.cellAt a).floor : Rat) * m.cellAt a)

theorem fitsE_of_fitsB (m : Mesh) (s : Region) (h : fitsB m s = true) : FitsE m s := by
  unfold fitsB at h
  simp only [Bool.and_eq_true, decide_eq_true_eq] at h
  obtain ⟨⟨h1, h2⟩, h3⟩ := h
  refine ⟨h1, h2, ?_⟩
  intro a ha
  have := (allLt_iff _ _).mp h3 a ha
  simp only [Bool.and_eq_true, decide_eq_true_eq] at this
  obtain ⟨⟨⟨⟨a1, a2⟩, a3⟩, a4⟩, a5⟩ := this
  exact ⟨_, _, a1, a2, a3, a4, a5⟩

/-- Boolean checker for `SubInv` -/
def subInvB (m : Mesh) : Bool :=
  m.subs.all fun p => decide (p.2.dims = m.region.dims) && decide (p.2.units = m.region.units) &&
    decide (p.2.tol = m.region.tol) && fitsB m p.2

theorem subInv_of_subInvB (m : Mesh) (h : subInvB m = true) : SubInv m := by
  intro p hp
  have := List.all_eq_true.mp h p hp
  simp only [Bool.and_eq_true, decide_eq_true_eq] at this
  obtain ⟨⟨⟨a1, a2⟩, a3⟩, a4⟩ := this
  exact ⟨a1, a2, a3, fitsE_of_fitsB m p.2 a4⟩

/-- a 3-d mesh, anisotropic counts and cells, two (touching) subregions, periodic in x -/
def exM : Mesh :=
  { region := ⟨[0, 0, 0], [8, 6, 2], ["x", "y", "z"], ["m", "s", "K"], 1/1000000000000⟩,
    n := [4, 6, 1], bc := "x",
    subs := [("a", ⟨[2, 1, 0], [6, 3, 2], ["x", "y", "z"], ["m", "s", "K"], 1/1000000000000⟩),
             ("b", ⟨[6, 0, 0], [8, 6, 2], ["x", "y", "z"], ["m", "s", "K"], 1/1000000000000⟩)] }

theorem exM_inv : exM.Inv := mesh_inv_of_invB' exM (by decide +kernel)

theorem exM_subInv : SubInv exM := subInv_of_subInvB exM (by decide +kernel)

/-- a box carrying other names, units and tolerance that fits `exM` exactly -/
theorem exM_fits : FitsE exM ⟨[0, 2, 0], [4, 5, 2], ["p", "q", "r"], ["a", "b", "c"], 0⟩ :=
  fitsE_of_fitsB _ _ (by decide +kernel)

/-- the same mesh with the default (non-periodic) boundary condition -/
def exP : Mesh := { exM with bc := "" }

theorem exP_inv : exP.Inv := mesh_inv_of_invB' exP (by decide +kernel)

theorem exP_subInv : SubInv exP := subInv_of_subInvB exP (by decide +kernel)

/-- a 3-component field on `exP` with the identity component-to-axis mapping -/
def exF : Fld :=
  { mesh := exP, nvdim := 3, data := NDA.const [4, 6, 1] [1, 2, 3], valid := NDA.const [4, 6, 1] true,
    vdims := some ["x", "y", "z"], vmap := [("x", "x"), ("y", "y"), ("z", "z")], unit := none }

theorem exF_inv : FldInv exF := ⟨exP_inv, rfl, rfl⟩

/-- a history mixing a negative-factor in-place scale about a far reference point, an odd quarter
turn (copying) and an in-place translation -/
def exOps : List Op :=
  [.scale (.vec [-2, 1/2, 3]) (some [100, -50, 7]) true, .rotate90 "x" "y" (-3) none false,
   .translate [1/2, -3, 10] true]

end DFV.C14
