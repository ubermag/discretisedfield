import DFV.Model.C10
/-! concrete states used by the non-vacuity `example`s of `Props/C10.lean` (data only) -/
namespace DFV.C10
open DFV

/-- an integer-cornered 2-d region (0,0)–(2,1) in 4×2 cells of size ½, a float-cornered
subregion with fractional corners (½,0)–(3/2,1), an overlapping integer-cornered one,
renamed dims/units, periodic bc, complex data with two labels; the two invalid cells hold
NaN / inf / −0 patterns -/
def exField : TFld :=
  { mesh := { region := { pmin := .ints [0, 0], pmax := .ints [2, 1], dims := ["a", "t"], units := ["nm", "s"],
                          tol := .float (1/1000) },
              n := [4, 2], bc := "a",
              subs := [("s", { pmin := .floats [1/2, 0], pmax := .floats [3/2, 1], dims := ["a", "t"], units := ["nm", "s"],
                               tol := .float (1/1000) }),
                       ("r", { pmin := .ints [0, 0], pmax := .ints [1, 1], dims := ["a", "t"], units := ["nm", "s"],
                               tol := .float (1/1000) })] },
    nvdim := 2,
    data := { shape := [4, 2, 2],
              buf := .complexes ((List.range 16).map fun (k : Nat) =>
                if k = 2 then (FV.nan true 7, FV.inf false) else if k = 9 then (FV.negZero, FV.inf true)
                else (FV.fin ((k : Rat) / 4), FV.fin (-(k : Rat)))) },
    valid := { shape := [4, 2], buf := [true, false, true, true, false, true, true, true] },
    vdims := some ["p", "None"],
    vmap := [("p", "a"), ("None", "t")],
    unit := some "A/m" }

/-- an all-float field meeting the hypotheses of the exact round trip (an invalid cell holding a NaN) -/
def exFloat : TFld :=
  { mesh := { region := { pmin := .floats [-1/4], pmax := .floats [5/4], dims := ["x"], units := ["m"],
                          tol := TReg.defaultTol },
              n := [3], bc := "",
              subs := [("core", { pmin := .floats [1/4], pmax := .floats [3/4], dims := ["x"], units := ["m"],
                                  tol := TReg.defaultTol })] },
    nvdim := 1, data := { shape := [3, 1], buf := .floats [.fin (1/2), .fin (-3), .nan false 1] },
    valid := { shape := [3], buf := [true, true, false] },
    vdims := none, vmap := [], unit := none }

/-- three components on a 1-d mesh without labels (`vdims=[]`): the D34 class -/
def exNoLabels : TFld :=
  { exFloat with nvdim := 3, data := { shape := [3, 3], buf := .floats ((List.range 9).map fun (k : Nat) => FV.fin k) } }

/-- integer data, one entry beyond 2^53 -/
def exBigInt : TFld :=
  { exFloat with data := { shape := [3, 1], buf := .ints [5, 2 ^ 53 + 1, -7] } }

/-- a legacy file meeting the hypotheses of `legacy_read` (p1/p2 unordered, int data) -/
def exLegacy : Legacy :=
  { p1 := .floats [2, 0], p2 := .floats [0, 1], n := [2, 1], dim := 3,
    array := { shape := [2, 1, 3], buf := .ints [1, 2, 3, 4, 5, 6] }, sidecar := none }

/-- the same file with the corners of the first axis exchanged and integer-typed `p2` -/
def exLegacySwapped : Legacy :=
  { exLegacy with p1 := .floats [0, 0], p2 := .ints [2, 1] }

/-- … and with a side-car holding one box (first cell), int/float corners mixed -/
def exLegacySide : Legacy :=
  { exLegacy with sidecar := some [("left", { pmin := .ints [0, 0], pmax := .floats [1, 1], dims := ["u", "v"],
                                              units := ["nm", "nm"], ndim := 2, tol := .float (1/1000) })] }

/-- a history of slot writes into a 3-slot series created for `exFloat`: slot 1, slot −1 (= 2),
slot 1 again -/
def exWrites : List (Int × TFld) :=
  [(1, { exFloat with data := { shape := [3, 1], buf := .floats [.fin 1, .fin 2, .fin 3] } }),
   (-1, { exFloat with data := { shape := [3, 1], buf := .floats [.negZero, .inf true, .fin 9] } }),
   (1, { exFloat with data := { shape := [3, 1], buf := .ints [4, 5, 6] } })]

/-! a candidate subregion accepted only thanks to its own tolerance factor (nm regime:
region (0)–(10 nm) in 10 cells, candidate (0)–(0.9995 nm) with `tolerance_factor=1e-2`) -/

def exTolRegion : TReg :=
  { pmin := .floats [0], pmax := .floats [1/100000000], dims := ["x"], units := ["m"], tol := TReg.defaultTol }

def exTolCand : TReg :=
  { pmin := .floats [0], pmax := .floats [1999/2000000000000], dims := ["x"], units := ["m"], tol := .float (1/100) }

/-- the mesh `Mesh(region=exTolRegion, n=10, subregions={"a": exTolCand})` returned BEFORE repo fix
5591fed0 (now the constructor refuses): the subregion re-stamped with the mesh's tolerance factor -/
def exTolMesh : TMesh :=
  { region := exTolRegion, n := [10], bc := "", subs := [("a", { exTolCand with tol := TReg.defaultTol })] }

def exTolField : TFld :=
  { mesh := exTolMesh, nvdim := 1, data := { shape := [10, 1], buf := .floats (List.replicate 10 (.fin 1)) },
    valid := { shape := [10], buf := List.replicate 10 true }, vdims := none, vmap := [], unit := none }

/-- the same region carrying `tolerance_factor=1e-2` itself -/
def exTolRegionLoose : TReg := { exTolRegion with tol := .float (1/100) }

/-- `Mesh(region=exTolRegionLoose, n=10, subregions={"a": exTolCand})` -/
def exTolMeshLoose : TMesh :=
  { region := exTolRegionLoose, n := [10], bc := "", subs := [("a", { exTolCand with tol := .float (1/100) })] }

def exTolFieldLoose : TFld := { exTolField with mesh := exTolMeshLoose }

/-- a legacy file whose array is a mesh-shaped scalar array (no component axis) -/
def exLegacyScalar : Legacy :=
  { p1 := .ints [0, 0], p2 := .ints [2, 1], n := [2, 1], dim := 1,
    array := { shape := [2, 1], buf := .ints [7, -3] }, sidecar := none }

/-- a legacy file whose array has to be broadcast along the first axis -/
def exLegacyBcast : Legacy :=
  { exLegacy with array := { shape := [1, 1, 3], buf := .floats [.fin 1, .negZero, .nan true 5] } }

/-- a legacy file (nm regime) whose side-car box is accepted only within the tolerances -/
def exLegacyTolSide : Legacy :=
  { p1 := .floats [0], p2 := .floats [1/100000000], n := [10], dim := 1,
    array := { shape := [10, 1], buf := .floats (List.replicate 10 (.fin 1)) },
    sidecar := some [("a", { pmin := .floats [0], pmax := .floats [1999/2000000000000], dims := ["x"], units := ["m"], ndim := 1,
                             tol := .float (1/100) })] }

end DFV.C10
