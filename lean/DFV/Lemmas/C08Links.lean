import DFV.Lemmas.C05
import DFV.Lemmas.C11Mesh
import DFV.Lemmas.C15Hist
import DFV.Lemmas.C08Set
/-! The object-level links to the C05, C11 and C15 models.  C05: `grad`, `div`, `curl`, `laplace` (and `C04.diff` /
`C05.diffDim` underneath) return a field whose validity array has the operand's shape and the operand's entry at EVERY
index — the validity part of `C05.Over`, which the C05 lemmas establish for every derived field.  C11: the shape
`Mesh.ifftn(rfft=True)` settles on is the one `FreshOp.irfft` names.  C15: a statement of a history that is
not a validity assignment (`notSetValid`, C15's `isSetValid` negated); `valid='norm'` on squared lengths. -/
namespace DFV.C08
open DFV

/-! ## C05: the differential operators -/

/-- same shape, same entries at ALL indices (the C05 model stores the array it is handed, without a copy); where a copy
is made (`own`) only the entries inside the shape are determined, and the weaker `MaskEq` of `C08LinkC03` is the notion -/
def SameMask (m m0 : NDA Bool) : Prop := m.shape = m0.shape ∧ ∀ j, m.get j = m0.get j

theorem SameMask.of_over {f g : Fld} (h : C05.Over f g) : SameMask g.valid f.valid := ⟨h.vshape, h.valid⟩

theorem c05_mapE_pos {α} {gf : α → M Fld} {xs : List α} {ys : List Fld} (h : C05.mapE gf xs = .ok ys) (hne : ys ≠ []) :
    0 < xs.length :=
  (C05.mapE_ok gf xs ys h).1 ▸ List.length_pos_iff.mpr hne

theorem c05_grad_valid (f g : Fld) (h : C05.grad f = .ok g) :
    SameMask g.valid f.valid ∧ 0 < f.mesh.region.dims.length :=
  let ⟨_, _, hds, hs⟩ := C05.grad_inv h
  ⟨.of_over (C05.grad_over h), c05_mapE_pos hds (C05.stack_ne_nil hs)⟩

theorem c05_div_valid (f g : Fld) (h : C05.div f = .ok g) :
    SameMask g.valid f.valid ∧ ∃ vs, f.vdims = some vs ∧ 0 < vs.length :=
  let ⟨_, vs, _, hvs, _, hts, hs⟩ := C05.div_inv h
  ⟨.of_over (C05.div_over h), vs, hvs, c05_mapE_pos hts (C05.sumF_ne_nil hs)⟩

theorem c05_curl_valid (f g : Fld) (h : C05.curl f = .ok g) : SameMask g.valid f.valid :=
  .of_over (C05.curl_over h)

theorem c05_laplace_valid (f g : Fld) (h : C05.laplace f = .ok g) :
    SameMask g.valid f.valid ∧ 0 < f.mesh.region.dims.length ∧
      (f.nvdim ≠ 1 → ∃ vs, f.vdims = some vs ∧ 0 < vs.length) := by
  refine ⟨.of_over (C05.laplace_over h), ?_⟩
  by_cases hn : f.nvdim = 1
  · obtain ⟨ts, hts, hs⟩ := C05.laplace_scalar_inv hn h
    exact ⟨c05_mapE_pos hts (C05.sumF_ne_nil hs), fun hne => absurd hn hne⟩
  · obtain ⟨vs, ds, r, _, hvs, hds, hr, _, _⟩ := C05.laplace_vector_inv hn h
    have hpos := c05_mapE_pos hds (C05.stack_ne_nil hr)
    -- the first component's Laplacian is itself a sum over the directions
    obtain ⟨hl, he⟩ := C05.mapE_ok _ _ _ hds
    obtain ⟨ts, hts, hs⟩ := C05.lapComp_inv (he 0 hpos (hl ▸ hpos))
    exact ⟨c05_mapE_pos hts (C05.sumF_ne_nil hs), fun _ => ⟨vs, hvs, hpos⟩⟩

theorem c05_diffDim_valid {f g : Fld} {d : String} {o : Nat} (h : C05.diffDim f d o = .ok g) : g.valid = f.valid :=
  let ⟨_, _, h⟩ := C05.diffDim_inv h
  (C05.diff_ok h).2.2.1

/-! ## C11: the k-mesh of the FFT family -/

/-- the shape `ifftShape` settles on for `rfft=True`: the operand's counts on the leading axes and,
on the last axis, the count `irfftLast` names, which halves to the operand's -/
theorem c11_ifftShape_ok (m : Mesh) (shape : Option (List Nat)) (s : List Nat)
    (hs : C11.ifftShape m true shape = .ok s) (hpos : ∀ x ∈ s, x ≠ 0) (hl : m.n.length = m.ndim) (hnd : 0 < m.ndim) :
    s.length = m.ndim ∧ (∀ a, a < m.ndim - 1 → s.getD a 0 = m.nAt a) ∧
      s.getD (m.ndim - 1) 0 = irfftLast (shape.map fun s => s.getD (m.ndim - 1) 0) m.n ∧
      s.getD (m.ndim - 1) 0 / 2 + 1 = m.nAt (m.ndim - 1) := by
  -- `C11.ifftShape_none` says what the default is; the rest is `getD_setAt`
  have hsl := C11.ifftShape_length m true shape s hl hs
  have h0 : s.getD (m.ndim - 1) 0 ≠ 0 := hpos _ (getD_mem s _ 0 (by omega))
  cases shape with
  | some s0 =>
    obtain ⟨rfl, _, h2, h3⟩ := (C11.ifftShape_some_ok_iff m true s0 s).mp hs
    exact ⟨hsl, h2, rfl, h3⟩
  | none =>
    rw [C11.ifftShape_none] at hs
    obtain rfl := Except.ok.inj hs
    have hlast : m.n.getD (m.n.length - 1) 0 = m.nAt (m.ndim - 1) := by rw [hl]; rfl
    simp only [Option.map_none, irfftLast, hlast]
    by_cases c : m.nAt (m.ndim - 1) = 1
    · rw [if_neg (by simp [c]), if_pos c]
      exact ⟨hl, fun _ _ => rfl, c, by rw [show m.n.getD (m.ndim - 1) 0 = 1 from c, c]⟩
    · rw [if_pos (by simp [c])] at h0 ⊢
      rw [if_neg c]
      rw [getD_setAt_eq _ _ _ _ (by omega)] at h0 ⊢
      exact ⟨by rw [length_setAt]; exact hl, fun a ha => by rw [getD_setAt_ne _ _ _ _ _ (Nat.ne_of_lt ha)]; rfl, rfl, by omega⟩

/-- … in this model's words: `FreshOp.irfft` accepts the operand's shape and names `s` -/
theorem c11_ifftShape_irfft (m : Mesh) (shape : Option (List Nat)) (s : List Nat)
    (hs : C11.ifftShape m true shape = .ok s) (hpos : ∀ x ∈ s, x ≠ 0) (hl : m.n.length = m.ndim) (hnd : 0 < m.ndim) :
    (FreshOp.irfft (shape.map fun s => s.getD (m.ndim - 1) 0)).ok m.n = true ∧
      s = (FreshOp.irfft (shape.map fun s => s.getD (m.ndim - 1) 0)).shape m.n := by
  obtain ⟨hsl, hlead, hlast, hhalf⟩ := c11_ifftShape_ok m shape s hs hpos hl hnd
  have hlastpos : 0 < s.getD (m.ndim - 1) 0 :=
    Nat.pos_of_ne_zero (hpos _ (getD_mem s _ 0 (by rw [hsl]; exact Nat.sub_lt hnd Nat.one_pos)))
  refine ⟨?_, eq_tab_of_getD s _ _ 0 (hsl.trans hl.symm) fun i hi => ?_⟩
  · simp only [FreshOp.ok, Bool.and_eq_true, decide_eq_true_eq]
    rw [hl, ← hlast]
    exact ⟨⟨hnd, hlastpos⟩, hhalf⟩
  · rw [hl] at hi ⊢
    by_cases c : i + 1 = m.ndim
    · rw [if_pos c, ← hlast]
      congr 1; omega
    · rw [if_neg c]
      exact hlead i (by omega)

/-! ## C15: norm, orientation, `valid='norm'` -/

theorem sumSq_eq_sqLen (v : List Rat) : sumSq v = C15.sqLen v := by
  induction v with
  | nil => rfl
  | cons x xs ih => simp only [sumSq, C15.sqLen, ih]

/-- a statement of a C15 history that is not `field.valid = …` -/
def notSetValid : C15.Step → Bool
  | .setValid _ => false
  | _ => true

/-- … in the C15 family's own words (`C15.step_cases` speaks of `isSetValid`) -/
theorem notSetValid_eq (s : C15.Step) : notSetValid s = !C15.isSetValid s := by cases s <;> rfl

end DFV.C08
