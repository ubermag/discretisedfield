import DFV.Lemmas.C10
import DFV.Lemmas.C01Cell
/-! C10: the constructor chain (`Region.__init__`, the `subregions` setter, `Mesh.__init__`, `_as_array`, the `valid` and `vdims`
setters, `Field.__init__`).  The invariants unpacked (defines `TMesh.InvWith`, `TFld.InvWith`: `Inv` and `InvW` differ only in
what they say of a stored subregion); each constructor as one equation `ctor … = .ok r ↔ conditions ∧ r = …`
(`TReg.init_eq_ok`, `setSubs_eq_ok`, `TMesh.init_eq_ok`, `asArray_eq_ok`, `TFld.init_eq_ok`; defines `restampT`, `stampC`,
`stampSub`, `arrAcceptB`, `arrConv`, …); from it what the constructor establishes (`Inv`), what it stores, and which inputs it
accepts.  The setter's test is the three tests on the copy it stores (`candOk_eq`).  Last: three facts about `Inv` on their own. -/
namespace DFV.C10
open DFV

/-! ## invariants, unpacked -/

theorem TReg.inv_iff (r : TReg) : r.Inv ↔
    0 < r.pmin.length ∧ r.pmax.length = r.pmin.length ∧ r.pmin.kind = r.pmax.kind ∧
    r.dims.length = r.pmin.length ∧ r.units.length = r.pmin.length ∧ hasDup r.dims = false ∧
    ∀ a, a < r.pmin.length → r.pmin.vals.getD a 0 < r.pmax.vals.getD a 0 := by
  simp only [TReg.Inv, TReg.invB, Bool.and_eq_true, decide_eq_true_eq, allLt_decide, Bool.not_eq_true', and_assoc]

theorem subInvW_iff (r s : TReg) : subInvWB r s = true ↔
    s.pmin.length = r.ndim ∧ s.pmax.length = r.ndim ∧ s.pmin.kind = s.pmax.kind ∧
    s.dims = r.dims ∧ s.units = r.units ∧ s.tol = r.tol ∧
    (∀ a, a < r.ndim → s.pmin.vals.getD a 0 < s.pmax.vals.getD a 0) := by
  simp only [subInvWB, Bool.and_eq_true, decide_eq_true_eq, allLt_decide, and_assoc]

theorem subInv_iff_weak (r : TReg) (n : List Nat) (s : TReg) : subInvB r n s = true ↔
    subInvWB r s = true ∧ subAccept r.toRegion n s.toRegion = true :=
  Bool.and_eq_true_iff

/-- what `Mesh.__init__` guarantees, `sub` being what it guarantees of each stored subregion -/
abbrev TMesh.InvWith (m : TMesh) (sub : TReg → Bool) : Prop :=
  m.region.Inv ∧ m.n.length = m.region.ndim ∧ (∀ k ∈ m.n, 0 < k) ∧
  m.bc.toLower = m.bc ∧ Mesh.bcOk m.region.dims m.bc = true ∧
  hasDup (m.subs.map fun p => p.1) = false ∧ ∀ p ∈ m.subs, sub p.2 = true

/-- the left side is the body of `TMesh.invB` / `TMesh.invWB` with the subregion test abstracted, so both
unpackings below are instances, by unification -/
theorem TMesh.invWith_iff (m : TMesh) (sub : TReg → Bool) :
    (m.region.invB && decide (m.n.length = m.region.ndim) && m.n.all (fun k => decide (0 < k)) &&
      decide (m.bc.toLower = m.bc) && Mesh.bcOk m.region.dims m.bc &&
      !hasDup (m.subs.map fun p => p.1) && m.subs.all fun p => sub p.2) = true ↔ m.InvWith sub := by
  simp only [TMesh.InvWith, TReg.Inv, Bool.and_eq_true, decide_eq_true_eq, List.all_eq_true, Bool.not_eq_true', and_assoc]

theorem TMesh.inv_iff (m : TMesh) : m.Inv ↔ m.InvWith (subInvB m.region m.n) := TMesh.invWith_iff m _

theorem TMesh.invW_iff (m : TMesh) : m.InvW ↔ m.InvWith (subInvWB m.region) := TMesh.invWith_iff m _

theorem TMesh.rereadable_iff (m : TMesh) : m.rereadableB = true ↔
    ∀ p ∈ m.subs, subAccept m.region.toRegion m.n p.2.toRegion = true :=
  List.all_eq_true

theorem TMesh.inv_iff_weak (m : TMesh) : m.Inv ↔ m.InvW ∧ m.rereadableB = true := by
  simp only [TMesh.inv_iff, TMesh.invW_iff, TMesh.InvWith, TMesh.rereadable_iff, subInv_iff_weak, and_assoc, forall_and]

/-- what `Field.__init__` guarantees on a mesh of which it guarantees `mesh` -/
abbrev TFld.InvWith (f : TFld) (mesh : Prop) : Prop :=
  mesh ∧ 1 ≤ f.nvdim ∧
  f.data.shape = f.mesh.n ++ [f.nvdim] ∧ f.data.buf.length = natProd (f.mesh.n ++ [f.nvdim]) ∧
  f.valid.shape = f.mesh.n ∧ f.valid.buf.length = natProd f.mesh.n ∧
  VdimsOk f.nvdim f.vdims

/-- the left side is the body of `TFld.invB` / `TFld.invWB` with the mesh test abstracted -/
theorem TFld.invWith_iff (f : TFld) (mb : Bool) :
    (mb && decide (1 ≤ f.nvdim) &&
      decide (f.data.shape = f.mesh.n ++ [f.nvdim]) && decide (f.data.buf.length = natProd (f.mesh.n ++ [f.nvdim])) &&
      decide (f.valid.shape = f.mesh.n) && decide (f.valid.buf.length = natProd f.mesh.n) &&
      (match f.vdims with
       | none => true
       | some l => !l.isEmpty && decide (l.length = f.nvdim) && !hasDup l)) = true ↔ f.InvWith (mb = true) := by
  unfold TFld.InvWith
  cases f.vdims with
  | none => simp only [Bool.and_eq_true, decide_eq_true_eq, VdimsOk, and_assoc]
  | some l =>
    simp only [Bool.and_eq_true, decide_eq_true_eq, Bool.not_eq_true', List.isEmpty_eq_false_iff, VdimsOk, and_assoc]

theorem TFld.inv_iff (f : TFld) : f.Inv ↔ f.InvWith f.mesh.Inv := TFld.invWith_iff f _

theorem TFld.invW_iff (f : TFld) : f.InvW ↔ f.InvWith f.mesh.InvW := TFld.invWith_iff f _

theorem TFld.inv_iff_weak (f : TFld) : f.Inv ↔ f.InvW ∧ f.mesh.rereadableB = true := by
  rw [TFld.inv_iff, TFld.invW_iff, TMesh.inv_iff_weak]
  exact and_right_comm

/-- `Inv` says one thing of each component: the subregions may be replaced by any list with distinct names whose members
have the subregion invariant (and likewise the mesh of a field: `TFld.Inv.with_mesh`) -/
theorem TMesh.Inv.with_subs {m : TMesh} (hm : m.Inv) (ss : List (String × TReg)) (hnd : hasDup (ss.map fun p => p.1) = false)
    (hs : ∀ p ∈ ss, subInvB m.region m.n p.2 = true) : ({ m with subs := ss } : TMesh).Inv := by
  obtain ⟨hr, hn, hpos, hbl, hbc, _, _⟩ := (TMesh.inv_iff m).mp hm
  exact (TMesh.inv_iff _).mpr ⟨hr, hn, hpos, hbl, hbc, hnd, hs⟩

theorem TFld.Inv.with_mesh {f : TFld} (hf : f.Inv) (m : TMesh) (hm : m.Inv) (hn : m.n = f.mesh.n) :
    ({ f with mesh := m } : TFld).Inv := by
  obtain ⟨_, rest⟩ := (TFld.inv_iff f).mp hf
  exact (TFld.inv_iff _).mpr ⟨hm, hn ▸ rest⟩

/-! ## the constructors, as equations -/

/-- `Region.__init__` succeeds iff the corner arrays are equally long, not empty, different in every
component, and names and units fit; it stores the element-wise minimum and maximum -/
theorem TReg.init_eq_ok {p1 p2 : NumArr} {dims units : Option (List String)} {tol : Num} {r : TReg} :
    TReg.init p1 p2 dims units tol = .ok r ↔
      p2.length = p1.length ∧ 0 < p1.length ∧
      ∃ d u, Region.dimsOk p1.length dims = .ok d ∧ Region.unitsOk p1.length units = .ok u ∧
        (∀ a, a < p1.length → p1.vals.getD a 0 ≠ p2.vals.getD a 0) ∧
        r = { pmin := NumArr.minimum p1 p2, pmax := NumArr.maximum p1 p2, dims := d, units := u, tol := tol } := by
  unfold TReg.init
  cases Region.dimsOk p1.length dims with
  | error e => simp only [guard_ok_iff, reduceCtorEq, and_false, false_and, exists_false]
  | ok d =>
    cases Region.unitsOk p1.length units with
    | error e => simp only [guard_ok_iff, reduceCtorEq, and_false, false_and, exists_false]
    | ok u =>
      simp only [guard_ok_iff, Bool.not_eq_true', Bool.not_eq_false, allLt_decide, Decidable.not_not, Except.ok.injEq,
        exists_and_left, exists_eq_left']
      exact ⟨fun ⟨h1, h2, h3, h4⟩ => ⟨h1.symm, Nat.pos_of_ne_zero h2, h3, h4.symm⟩,
        fun ⟨h1, h2, h3, h4⟩ => ⟨h1.symm, Nat.ne_of_gt h2, h3, h4.symm⟩⟩

/-- the `pmin`/`pmax` keyword form: strictly ordered corners, then the ordinary constructor -/
theorem TReg.initKw_eq_ok {p1 p2 : NumArr} {dims units : Option (List String)} {tol : Num} {r : TReg} :
    TReg.initKw p1 p2 dims units tol = .ok r ↔
      (∀ a, a < p1.length → p1.vals.getD a 0 < p2.vals.getD a 0) ∧ TReg.init p1 p2 dims units tol = .ok r := by
  simp only [TReg.initKw, guard_ok_iff, Bool.not_eq_true', Bool.not_eq_false, allLt_decide, Decidable.not_not, TReg.init_eq_ok]
  exact ⟨fun h => ⟨h.2.1, h.2.2⟩, fun h => ⟨h.2.1.symm, h⟩⟩

/-- **`Region.__init__` establishes the region invariant**, for every pair of corner arrays it
accepts, in any order and of any dtype -/
theorem TReg.init_inv {p1 p2 : NumArr} {dims units : Option (List String)} {tol : Num} {r : TReg}
    (h : TReg.init p1 p2 dims units tol = .ok r) : r.Inv := by
  obtain ⟨hl, h0, d, u, hd, hu, hne, rfl⟩ := TReg.init_eq_ok.mp h
  have hm := NumArr.minimum_length _ _ hl
  rw [TReg.inv_iff]
  exact ⟨hm ▸ h0, (NumArr.maximum_length _ _ hl).trans hm.symm, by rw [NumArr.minimum_kind, NumArr.maximum_kind],
    (C01.dimsOk_spec _ _ _ hd).1.trans hm.symm, (C01.unitsOk_spec _ _ _ hu).trans hm.symm, (C01.dimsOk_spec _ _ _ hd).2.1,
    fun a ha => NumArr.minimum_lt_maximum _ _ hl a (hm ▸ ha) (hne a (hm ▸ ha))⟩

/-- ordered corners are stored as they are, in their common dtype -/
theorem init_ordered_gen (p1 p2 : NumArr) (dims units : Option (List String)) (d u : List String) (tol : Num)
    (h0 : 0 < p1.length) (hl : p2.length = p1.length)
    (hD : Region.dimsOk p1.length dims = .ok d) (hU : Region.unitsOk p1.length units = .ok u)
    (hlt : ∀ a, a < p1.length → p1.vals.getD a 0 < p2.vals.getD a 0) :
    TReg.init p1 p2 dims units tol =
      .ok { pmin := p1.cast (NK.join p1.kind p2.kind), pmax := p2.cast (NK.join p1.kind p2.kind), dims := d, units := u,
            tol := tol } := by
  obtain ⟨hmin, hmax⟩ := NumArr.minimum_maximum_ordered_gen p1 p2 hl hlt
  exact TReg.init_eq_ok.mpr ⟨hl, h0, d, u, hD, hU, fun a ha => ne_of_lt (hlt a ha), by rw [hmin, hmax]⟩

theorem init_ordered (p1 p2 : NumArr) (dims units : Option (List String)) (d u : List String) (tol : Num)
    (h0 : 0 < p1.length) (hl : p2.length = p1.length) (hk : p1.kind = p2.kind)
    (hD : Region.dimsOk p1.length dims = .ok d) (hU : Region.unitsOk p1.length units = .ok u)
    (hlt : ∀ a, a < p1.length → p1.vals.getD a 0 < p2.vals.getD a 0) :
    TReg.init p1 p2 dims units tol = .ok { pmin := p1, pmax := p2, dims := d, units := u, tol := tol } := by
  obtain ⟨hmin, hmax⟩ := NumArr.minimum_maximum_ordered p1 p2 hk hl hlt
  exact TReg.init_eq_ok.mpr ⟨hl, h0, d, u, hD, hU, fun a ha => ne_of_lt (hlt a ha), by rw [hmin, hmax]⟩

/-! ## the setter's tests -/

theorem subAccept_dims_units (r : Region) (n : List Nat) (s : Region) (d u : List String) :
    subAccept r n { s with dims := d, units := u } = subAccept r n s := by
  unfold subAccept
  congr 1
  -- the cell is built from `r` and `n` only
  generalize Mesh.cell { region := r, n := n, bc := "", subs := [] } = cell
  -- the conditions of `C01.mkCell_ok_iff'` mention corners and tolerance only (the empty boundary condition is legal
  -- for any names), the aligned test the corners and counts
  have hb := C01.bcOk_empty_lower
  cases h : Mesh.mkCell? s cell with
  | error e =>
    cases h' : Mesh.mkCell? { s with dims := d, units := u } cell with
    | error e' => rfl
    | ok sm' =>
      obtain ⟨a1, a2, a3, a4, a5, _, _⟩ := (C01.mkCell_ok_iff' _ _ _ _).mp h'
      rw [(C01.mkCell_ok_iff' s cell "" _).mpr ⟨a1, a2, a3, a4, a5, hb _, rfl⟩] at h
      cases h
  | ok sm =>
    obtain ⟨a1, a2, a3, a4, a5, _, rfl⟩ := (C01.mkCell_ok_iff' _ _ _ _).mp h
    rw [(C01.mkCell_ok_iff' { s with dims := d, units := u } cell "" _).mpr ⟨a1, a2, a3, a4, a5, hb _, rfl⟩]
    rfl

theorem toRegion_ndim (r : TReg) : r.toRegion.ndim = r.ndim := NumArr.vals_length _

/-- the containment test starts with the two length tests -/
theorem subAccept_length (r : Region) (n : List Nat) (s : Region) (h : subAccept r n s = true) :
    s.pmin.length = r.ndim ∧ s.pmax.length = r.ndim :=
  C01.containsReg_lengths (Bool.and_eq_true_iff.mp h).1

theorem subAccept_false_of_length (r : Region) (n : List Nat) (s : Region) (h : s.pmin.length ≠ r.ndim) :
    subAccept r n s = false :=
  Bool.eq_false_iff.mpr fun hacc => h (subAccept_length r n s hacc).1

theorem toRegion_length_ne {r s : TReg} (h : s.ndim ≠ r.ndim) : s.toRegion.pmin.length ≠ r.toRegion.ndim :=
  fun e => h ((toRegion_ndim s).symm.trans (e.trans (toRegion_ndim r)))

theorem candOk_of_ndim_ne (r : TReg) (n : List Nat) (s : TReg) (h : s.ndim ≠ r.ndim) : candOk r n s = false := by
  unfold candOk
  rw [if_neg h]
  exact subAccept_false_of_length _ _ _ (toRegion_length_ne h)

theorem candOk_of_init (r : TReg) (n : List Nat) (s v : TReg) (hnd : s.ndim = r.ndim)
    (hinit : TReg.init s.pmin s.pmax (some r.dims) (some r.units) r.tol = .ok v) :
    candOk r n s = subAccept r.toRegion n v.toRegion := by
  unfold candOk
  rw [if_pos hnd, hinit]

/-- **the setter's test of a (valid) candidate**: the three tests on the candidate's corner pair
with the MESH's tolerance factor — the candidate's names, units and own tolerance are immaterial -/
theorem candOk_eq (r : TReg) (hr : r.Inv) (n : List Nat) (s : TReg) (hs : s.Inv) :
    candOk r n s = subAccept r.toRegion n { s.toRegion with tol := r.tol.val } := by
  obtain ⟨h0, hl, hk, _, _, _, hlt⟩ := (TReg.inv_iff s).mp hs
  obtain ⟨_, _, _, hd, hu, hdup, _⟩ := (TReg.inv_iff r).mp hr
  by_cases hnd : s.ndim = r.ndim
  · have hnd' : s.pmin.length = r.pmin.length := hnd
    rw [candOk_of_init r n s _ hnd (init_ordered s.pmin s.pmax (some r.dims) (some r.units) r.dims r.units r.tol h0 hl hk
      (T.dimsOk_some _ _ (by rw [hnd', hd]) hdup) (T.unitsOk_some _ _ (by rw [hnd', hu])) hlt)]
    exact subAccept_dims_units r.toRegion n { s.toRegion with tol := r.tol.val } r.dims r.units
  · rw [candOk_of_ndim_ne r n s hnd]
    exact (subAccept_false_of_length r.toRegion n { s.toRegion with tol := r.tol.val } (toRegion_length_ne hnd)).symm

/-! ## the `subregions` setter -/

/-- the subregion the setter stores for a candidate: its corners, the mesh's names, units, tolerance
(the same pair as `stampSub r p`, by `rfl`; both are `(p.1, stampC r p.2)`) -/
def restampT (r : TReg) (p : String × TReg) : String × TReg :=
  (p.1, ({ p.2 with dims := r.dims, units := r.units, tol := r.tol } : TReg))

/-- the copy of a candidate the setter tests and stores: its corners, the mesh region's names,
units and tolerance factor -/
def stampC (r s : TReg) : TReg := { s with dims := r.dims, units := r.units, tol := r.tol }

/-- the subregion the setter stores for an accepted candidate: its corners, the mesh's names,
units and tolerance (`restampT r p` with the record spelled out) -/
def stampSub (r : TReg) (p : String × TReg) : String × TReg :=
  (p.1, { pmin := p.2.pmin, pmax := p.2.pmax, dims := r.dims, units := r.units, tol := r.tol })

/-- the three spellings above are one map -/
theorem stampSub_eq_restampT : stampSub = restampT := rfl

theorem candOk_eq_stampC (r : TReg) (hr : r.Inv) (n : List Nat) (s : TReg) (hs : s.Inv) :
    candOk r n s = subAccept r.toRegion n (stampC r s).toRegion :=
  (candOk_eq r hr n s hs).trans (subAccept_dims_units r.toRegion n { s.toRegion with tol := r.tol.val } r.dims r.units).symm

theorem rebuildSub_of_candOk (r : TReg) (hr : r.Inv) (n : List Nat) (p : String × TReg) (hp : p.2.Inv)
    (hc : candOk r n p.2 = true) : rebuildSub r p = .ok (restampT r p) ∧ subInvB r n (restampT r p).2 = true := by
  obtain ⟨h0, hl, hk, _, _, _, hlt⟩ := (TReg.inv_iff p.2).mp hp
  obtain ⟨_, _, _, hd, hu, hdup, _⟩ := (TReg.inv_iff r).mp hr
  rw [candOk_eq_stampC r hr n p.2 hp] at hc
  have l1 : p.2.pmin.length = r.ndim :=
    (NumArr.vals_length _).symm.trans ((subAccept_length _ _ _ hc).1.trans (toRegion_ndim r))
  refine ⟨?_, (subInv_iff_weak _ _ _).mpr ⟨(subInvW_iff _ _).mpr ⟨l1, hl.trans l1, hk, rfl, rfl, rfl, fun a ha => hlt a (l1 ▸ ha)⟩, hc⟩⟩
  rw [rebuildSub, init_ordered p.2.pmin p.2.pmax (some r.dims) (some r.units) r.dims r.units r.tol h0 hl hk
    (T.dimsOk_some _ _ (hd.trans l1.symm) hdup) (T.unitsOk_some _ _ (hu.trans l1.symm)) hlt]
  rfl

/-- **the `subregions` setter, for ANY (valid) candidate regions**: it accepts iff every candidate
passes its test, and then stores the candidates re-stamped -/
theorem setSubs_eq_ok (r : TReg) (hr : r.Inv) (n : List Nat) (subs ss : List (String × TReg)) (hinv : ∀ p ∈ subs, p.2.Inv) :
    setSubs r n subs = .ok ss ↔ (∀ p ∈ subs, candOk r n p.2 = true) ∧ ss = subs.map (restampT r) := by
  simp only [setSubs, guard_ok_iff, Bool.not_eq_true', Bool.not_eq_false, List.all_eq_true]
  refine and_congr_right fun hacc => ?_
  rw [mapE_ok_of _ (restampT r) subs fun p hp => (rebuildSub_of_candOk r hr n p (hinv p hp) (hacc p hp)).1,
    Except.ok.injEq, eq_comm]

theorem setSubs_ok (r : TReg) (hr : r.Inv) (n : List Nat) (subs ss : List (String × TReg))
    (hinv : ∀ p ∈ subs, p.2.Inv) (h : setSubs r n subs = .ok ss) :
    ss.map (fun p => p.1) = subs.map (fun p => p.1) ∧ (∀ p ∈ ss, subInvB r n p.2 = true) := by
  obtain ⟨hacc, rfl⟩ := (setSubs_eq_ok r hr n subs ss hinv).mp h
  refine ⟨by rw [List.map_map]; rfl, fun q hq => ?_⟩
  obtain ⟨p, hp, rfl⟩ := List.mem_map.mp hq
  exact (rebuildSub_of_candOk r hr n p (hinv p hp) (hacc p hp)).2

/-! ## the mesh constructor -/

/-- `Mesh.__init__`: one positive count per axis, a legal boundary condition, the setter's verdict -/
theorem TMesh.init_eq_ok {r : TReg} {n : List Int} {bc : String} {subs : List (String × TReg)} {m : TMesh} :
    TMesh.init r n bc subs = .ok m ↔
      n.length = r.ndim ∧ (∀ k ∈ n, 0 < k) ∧ Mesh.bcOk r.dims bc.toLower = true ∧
      ∃ ss, setSubs r (n.map Int.toNat) subs = .ok ss ∧
        m = { region := r, n := n.map Int.toNat, bc := bc.toLower, subs := ss } := by
  simp only [TMesh.init, guard_ok_iff, bind_ok_iff', Bool.not_eq_true', Bool.not_eq_false, Decidable.not_not, Except.ok.injEq,
    List.any_eq_true, decide_eq_true_eq, not_exists, not_and, Int.not_le, eq_comm (b := m)]

theorem toNat_pos_of_mem {n : List Int} (hpos : ∀ k ∈ n, 0 < k) : ∀ k ∈ n.map Int.toNat, 0 < k := by
  intro k hk
  obtain ⟨j, hj, rfl⟩ := List.mem_map.mp hk
  exact Int.lt_toNat.mpr (hpos j hj)

/-- **`Mesh.__init__` establishes the invariant `Inv`** for any region, counts, boundary condition
and any dict of candidate regions (distinct names: they are dict keys) — whatever names, units and
tolerance factor the candidates carry (the tests are made on the copy that is stored). -/
theorem TMesh.init_inv (r : TReg) (hr : r.Inv) (n : List Int) (bc : String) (subs : List (String × TReg))
    (hinv : ∀ p ∈ subs, p.2.Inv) (hnd : hasDup (subs.map fun p => p.1) = false) (m : TMesh)
    (h : TMesh.init r n bc subs = .ok m) : m.Inv := by
  obtain ⟨hn, hpos, hbc, ss, hset, rfl⟩ := TMesh.init_eq_ok.mp h
  obtain ⟨hnames, hsub⟩ := setSubs_ok r hr _ subs ss hinv hset
  exact (TMesh.inv_iff _).mpr ⟨hr, (List.length_map _).trans hn, toNat_pos_of_mem hpos, C01.toLower_idem _, hbc, hnames ▸ hnd, hsub⟩

theorem meshInit_ok_iff (r : TReg) (hr : r.Inv) (n : List Int) (bc : String) (subs : List (String × TReg))
    (hinv : ∀ p ∈ subs, p.2.Inv) :
    (∃ m, TMesh.init r n bc subs = .ok m) ↔
      n.length = r.ndim ∧ (∀ k ∈ n, 0 < k) ∧ Mesh.bcOk r.dims bc.toLower = true ∧
      ∀ p ∈ subs, candOk r (n.map Int.toNat) p.2 = true := by
  constructor
  · rintro ⟨m, hm⟩
    obtain ⟨a1, a2, a3, ss, hset, _⟩ := TMesh.init_eq_ok.mp hm
    exact ⟨a1, a2, a3, ((setSubs_eq_ok r hr _ subs ss hinv).mp hset).1⟩
  · rintro ⟨a1, a2, a3, hacc⟩
    exact ⟨_, TMesh.init_eq_ok.mpr ⟨a1, a2, a3, _, (setSubs_eq_ok r hr _ subs _ hinv).mpr ⟨hacc, rfl⟩, rfl⟩⟩

/-! ## `_as_array`, the `valid` and `vdims` setters -/

/-- the array shapes `_as_array` accepts for a mesh with counts `n` and `k` components: the mesh's
own shape when `k = 1`, or any shape with last axis `k` that broadcasts to `(*n, k)` -/
def arrAcceptB (shape n : List Nat) (k : Nat) : Bool :=
  (decide (k = 1) && decide (shape = n)) || (decide (shape.getLast? = some k) && bcastOk shape (n ++ [k]))

/-- the array after `update_field_values` and the `array` setter (two `_as_array` passes) -/
def arrConv (val : DArr) (n : List Nat) (k : Nat) : DArr :=
  { shape := n ++ [k],
    buf := if k = 1 ∧ val.shape = n then val.buf.upcast
           else (val.buf.gather (bcastIdx val.shape (n ++ [k]))).upcast }

/-- `_as_array`: a mesh-shaped array of a one-component field is taken as it is; any other accepted
array is broadcast and converted -/
theorem asArray_eq_ok {val : DArr} {n : List Nat} {k : Nat} {d : DArr} :
    asArray val n k = .ok d ↔
      arrAcceptB val.shape n k = true ∧
      d = if k = 1 ∧ val.shape = n then { shape := n ++ [1], buf := val.buf }
          else { shape := n ++ [k], buf := (val.buf.gather (bcastIdx val.shape (n ++ [k]))).upcast } := by
  unfold asArray arrAcceptB
  by_cases h1 : k = 1 ∧ val.shape = n
  · simp only [if_pos h1, decide_eq_true h1.1, decide_eq_true h1.2, Bool.and_self, Bool.true_or, true_and, Except.ok.injEq]
    exact eq_comm
  · have h1' : (decide (k = 1) && decide (val.shape = n)) = false := by
      simpa only [Bool.and_eq_false_iff, decide_eq_false_iff_not, ← not_and_or] using h1
    simp only [if_neg h1, h1', Bool.false_or, guard_ok_iff, Decidable.not_not, Bool.not_eq_true', Bool.not_eq_false,
      Bool.and_eq_true, decide_eq_true_eq, Except.ok.injEq, and_assoc, eq_comm (a := d)]

theorem asArray_ok_iff (val : DArr) (n : List Nat) (k : Nat) :
    (∃ d, asArray val n k = .ok d) ↔ arrAcceptB val.shape n k = true := by
  simp only [asArray_eq_ok, exists_and_left, exists_eq, and_true]

theorem asArray_ok (val d : DArr) (n : List Nat) (k : Nat) (hwf : val.wf) (h : asArray val n k = .ok d) :
    d.shape = n ++ [k] ∧ d.wf := by
  obtain ⟨_, rfl⟩ := asArray_eq_ok.mp h
  split
  · rename_i h1
    obtain ⟨rfl, hs⟩ := h1
    exact ⟨rfl, by rw [DArr.wf, hwf, hs, natProd_append_one, Nat.mul_one]⟩
  · exact ⟨rfl, by rw [DArr.wf, DBuf.upcast_length, DBuf.gather_length, bcastIdx_length]⟩

/-- the two passes: the first fixes the shape (keeping the dtype of a mesh-shaped scalar array),
the second converts integer data to binary64 -/
theorem asArray_twice (val : DArr) (n : List Nat) (k : Nat) (hwf : val.wf)
    (hacc : arrAcceptB val.shape n k = true) :
    (asArray val n k).bind (fun d1 => asArray d1 n k) = .ok (arrConv val n k) := by
  rw [asArray_eq_ok.mpr ⟨hacc, rfl⟩, bind_ok, arrConv]
  split
  · rename_i h1
    obtain ⟨rfl, hs⟩ := h1
    exact asArray_shaped _ n 1 rfl (by rw [hwf, hs, natProd_append_one, Nat.mul_one])
  · rw [asArray_shaped _ n k rfl (by rw [DBuf.upcast_length, DBuf.gather_length, bcastIdx_length]), DBuf.upcast_idem]

theorem asArray_twice_eq_ok {val data : DArr} {n : List Nat} {k : Nat} (hwf : val.wf) :
    (∃ d1, asArray val n k = .ok d1 ∧ asArray d1 n k = .ok data) ↔ arrAcceptB val.shape n k = true ∧ data = arrConv val n k := by
  constructor
  · rintro ⟨d1, h1, h2⟩
    have hacc := (asArray_ok_iff _ _ _).mp ⟨d1, h1⟩
    have htw := asArray_twice val n k hwf hacc
    rw [h1, bind_ok, h2] at htw
    exact ⟨hacc, Except.ok.inj htw⟩
  · rintro ⟨hacc, rfl⟩
    exact bind_ok_iff'.mp (asArray_twice val n k hwf hacc)

theorem arrConv_shaped (val : DArr) (n : List Nat) (k : Nat) (hs : val.shape = n ++ [k]) (hwf : val.wf) :
    arrConv val n k = { shape := n ++ [k], buf := val.buf.upcast } := by
  have h1 : ¬ (k = 1 ∧ val.shape = n) := fun h => append_singleton_ne n k (hs.symm.trans h.2)
  rw [arrConv, if_neg h1, hs, bcastIdx_self, ← hs, ← hwf, DBuf.gather_range]

theorem arrAccept_shaped (n : List Nat) (k : Nat) : arrAcceptB (n ++ [k]) n k = true := by
  rw [arrAcceptB, List.getLast?_concat, bcastOk_self, decide_eq_true rfl]
  exact Bool.or_true _

theorem arrConv_wf (val : DArr) (n : List Nat) (k : Nat) (hwf : val.wf) (hacc : arrAcceptB val.shape n k = true) :
    (arrConv val n k).wf := by
  obtain ⟨d1, h1, h2⟩ := bind_ok_iff'.mp (asArray_twice val n k hwf hacc)
  exact (asArray_ok _ _ _ _ (asArray_ok _ _ _ _ hwf h1).2 h2).2

/-- the `valid` shapes `_as_array(valid, mesh, 1, bool)` accepts -/
def validAcceptB (shape n : List Nat) : Bool :=
  decide (shape = n) || (decide (shape.getLast? = some 1) && bcastOk shape (n ++ [1]))

theorem asValid_eq_ok {w : VArr} {n : List Nat} {v : VArr} :
    asValid (some w) n = .ok v ↔
      validAcceptB w.shape n = true ∧
      v = { shape := n, buf := if w.shape = n then w.buf else (bcastIdx w.shape (n ++ [1])).map fun k => w.buf.getD k false } := by
  unfold asValid validAcceptB
  by_cases h1 : w.shape = n
  · simp only [if_pos h1, decide_eq_true h1, Bool.true_or, true_and, Except.ok.injEq]
    exact eq_comm
  · simp only [if_neg h1, decide_eq_false h1, Bool.false_or, guard_ok_iff, Decidable.not_not, Bool.not_eq_true',
      Bool.not_eq_false, Bool.and_eq_true, decide_eq_true_eq, Except.ok.injEq, and_assoc, eq_comm (a := v)]

theorem asValid_ok_iff (v : VArr) (n : List Nat) : (∃ v', asValid (some v) n = .ok v') ↔ validAcceptB v.shape n = true := by
  simp only [asValid_eq_ok, exists_and_left, exists_eq, and_true]

theorem asValid_ok (val : Option VArr) (v : VArr) (n : List Nat)
    (hwf : ∀ w, val = some w → w.buf.length = natProd w.shape) (h : asValid val n = .ok v) :
    v.shape = n ∧ v.buf.length = natProd n := by
  cases val with
  | none => cases h; exact ⟨rfl, List.length_replicate⟩
  | some w =>
    obtain ⟨_, rfl⟩ := asValid_eq_ok.mp h
    refine ⟨rfl, ?_⟩
    show (if _ then _ else _ : List Bool).length = _
    split
    · rename_i hs
      rw [hwf w rfl, hs]
    · rw [List.length_map, bcastIdx_length, natProd_append_one, Nat.mul_one]

/-- the labels the `vdims` setter accepts for `k` components: none given (defaults), the empty
list (no labels), or `k` distinct names -/
def vdimsAcceptB (k : Nat) : Option (List String) → Bool
  | none => true
  | some [] => true
  | some (x :: l) => decide ((x :: l).length = k) && !hasDup (x :: l)

/-- the attribute `vdims`: a list of strings, or the string `"None"` -/
def vdimsAttrAcceptB (k : Nat) : VdimsAttr → Bool
  | .str s => decide (s = "None")
  | .list l => vdimsAcceptB k (some l)

theorem vdimsSet_cons_eq_ok {k : Nat} {x : String} {t : List String} {v' : Option (List String)} :
    vdimsSet k (some (x :: t)) = .ok v' ↔ (x :: t).length = k ∧ hasDup (x :: t) = false ∧ v' = some (x :: t) := by
  simp only [vdimsSet, guard_ok_iff, Decidable.not_not, Bool.not_eq_true, Except.ok.injEq, eq_comm (a := v')]

theorem vdimsSet_ok_iff (k : Nat) (v : Option (List String)) : (∃ v', vdimsSet k v = .ok v') ↔ vdimsAcceptB k v = true := by
  cases v with
  | none => exact ⟨fun _ => rfl, fun _ => ⟨_, rfl⟩⟩
  | some l =>
    cases l with
    | nil => exact ⟨fun _ => rfl, fun _ => ⟨_, rfl⟩⟩
    | cons x t =>
      simp only [vdimsSet_cons_eq_ok, vdimsAcceptB, Bool.and_eq_true, decide_eq_true_eq, Bool.not_eq_true', exists_and_left,
        exists_eq, and_true]

theorem vdimsSet_ok (k : Nat) (hk : 1 ≤ k) (v v' : Option (List String)) (h : vdimsSet k v = .ok v') :
    VdimsOk k v' := by
  cases v with
  | none => cases h; exact vdimsOk_defaultVdims k hk
  | some l =>
    cases l with
    | nil => cases h; trivial
    | cons x t =>
      obtain ⟨h1, h2, rfl⟩ := vdimsSet_cons_eq_ok.mp h
      exact ⟨List.cons_ne_nil _ _, h1, h2⟩

/-! ## the field constructor -/

/-- `Field.__init__` with a component count and an array that has as many entries as its shape says: the array converted by
the two passes, the `valid` and `vdims` setters -/
theorem TFld.init_eq_ok {mesh : TMesh} {k : Int} {value : DArr} {vdims : Option (List String)} {unit : Option String}
    {valid : Option VArr} {f : TFld} (hwf : value.wf) :
    TFld.init mesh (some k) value vdims unit valid = .ok f ↔
      1 ≤ k ∧ arrAcceptB value.shape mesh.n k.toNat = true ∧
        ∃ v vd, asValid valid mesh.n = .ok v ∧ vdimsSet k.toNat vdims = .ok vd ∧
        f = { mesh := mesh, nvdim := k.toNat, data := arrConv value mesh.n k.toNat, valid := v, vdims := vd,
              vmap := defaultVmap k.toNat mesh.region.dims vd, unit := unit } := by
  simp only [TFld.init, guard_ok_iff, bind_ok_iff', Int.not_lt, Except.ok.injEq, eq_comm (b := f)]
  constructor
  · rintro ⟨hk, d1, h1, data, h2, v, h3, vd, h4, rfl⟩
    obtain ⟨hacc, rfl⟩ := (asArray_twice_eq_ok hwf).mp ⟨d1, h1, h2⟩
    exact ⟨hk, hacc, v, vd, h3, h4, rfl⟩
  · rintro ⟨hk, hacc, v, vd, h3, h4, rfl⟩
    obtain ⟨d1, h1, h2⟩ := (asArray_twice_eq_ok hwf).mpr ⟨hacc, rfl⟩
    exact ⟨hk, d1, h1, _, h2, v, h3, vd, h4, rfl⟩

/-- what `Field.__init__` guarantees about everything but the mesh, which it stores as given -/
theorem TFld.init_items (m : TMesh) (nvdim : Option Int) (value : DArr) (vdims : Option (List String))
    (unit : Option String) (valid : Option VArr) (hwf : value.wf)
    (hvwf : ∀ w, valid = some w → w.buf.length = natProd w.shape) (f : TFld)
    (h : TFld.init m nvdim value vdims unit valid = .ok f) :
    f.mesh = m ∧ 1 ≤ f.nvdim ∧ f.data.shape = m.n ++ [f.nvdim] ∧ f.data.buf.length = natProd (m.n ++ [f.nvdim]) ∧
    f.valid.shape = m.n ∧ f.valid.buf.length = natProd m.n ∧ VdimsOk f.nvdim f.vdims := by
  cases nvdim with
  | none => cases h
  | some k =>
    obtain ⟨hk, hacc, v, vd, hv, hvd, rfl⟩ := (TFld.init_eq_ok hwf).mp h
    obtain ⟨hv1, hv2⟩ := asValid_ok _ _ _ hvwf hv
    have hk1 : 1 ≤ k.toNat := Int.le_toNat (by omega) |>.mpr hk
    exact ⟨rfl, hk1, rfl, arrConv_wf value m.n k.toNat hwf hacc, hv1, hv2, vdimsSet_ok _ hk1 _ _ hvd⟩

/-- **`Field.__init__` establishes the field invariant** on a mesh that has it -/
theorem init_inv (m : TMesh) (hm : m.Inv) (nvdim : Option Int) (value : DArr) (vdims : Option (List String))
    (unit : Option String) (valid : Option VArr) (hwf : value.wf)
    (hvwf : ∀ w, valid = some w → w.buf.length = natProd w.shape) (f : TFld)
    (h : TFld.init m nvdim value vdims unit valid = .ok f) : f.Inv := by
  obtain ⟨e, rest⟩ := TFld.init_items m nvdim value vdims unit valid hwf hvwf f h
  rw [← e] at hm rest
  exact (TFld.inv_iff f).mpr ⟨hm, rest⟩

theorem init_invW (m : TMesh) (hm : m.InvW) (nvdim : Option Int) (value : DArr) (vdims : Option (List String))
    (unit : Option String) (valid : Option VArr) (hwf : value.wf)
    (hvwf : ∀ w, valid = some w → w.buf.length = natProd w.shape) (f : TFld)
    (h : TFld.init m nvdim value vdims unit valid = .ok f) : f.InvW := by
  obtain ⟨e, rest⟩ := TFld.init_items m nvdim value vdims unit valid hwf hvwf f h
  rw [← e] at hm rest
  exact (TFld.invW_iff f).mpr ⟨hm, rest⟩

theorem fieldInit_ok_iff (m : TMesh) (k : Int) (value : DArr) (hwf : value.wf) (vd : Option (List String)) (u : Option String)
    (valid : VArr) :
    (∃ f, TFld.init m (some k) value vd u (some valid) = .ok f) ↔
      1 ≤ k ∧ arrAcceptB value.shape m.n k.toNat = true ∧ validAcceptB valid.shape m.n = true ∧ vdimsAcceptB k.toNat vd = true := by
  simp only [TFld.init_eq_ok hwf, ← asValid_ok_iff, ← vdimsSet_ok_iff]
  exact ⟨fun ⟨_, hk, ha, v, vd', hv, hvd, _⟩ => ⟨hk, ha, ⟨v, hv⟩, ⟨vd', hvd⟩⟩,
    fun ⟨hk, ha, ⟨v, hv⟩, ⟨vd', hvd⟩⟩ => ⟨_, hk, ha, v, vd', hv, hvd, rfl⟩⟩

/-! ## `Inv` on its own -/

/-- without subregions the acceptance clause is empty -/
theorem inv_of_invW_nosubs (m : TMesh) (hm : m.InvW) (hs : m.subs = []) : m.Inv :=
  (TMesh.inv_iff_weak m).mpr ⟨hm, (TMesh.rereadable_iff m).mpr fun p hp => by rw [hs] at hp; cases hp⟩

/-- a region with ordered corners of one dtype is what `np.minimum` / `np.maximum` return for it -/
theorem inv_min_max (r : TReg) (hr : r.Inv) : NumArr.minimum r.pmin r.pmax = r.pmin ∧ NumArr.maximum r.pmin r.pmax = r.pmax := by
  obtain ⟨_, hl, hk, _, _, _, hlt⟩ := (TReg.inv_iff r).mp hr
  exact NumArr.minimum_maximum_ordered _ _ hk hl hlt

/-- a region as `Region(p1=…, p2=…)` builds it: default names, units, tolerance -/
def TReg.isPlain (s : TReg) : Prop :=
  s.dims = Region.defaultDims s.pmin.length ∧ s.units = List.replicate s.pmin.length "m" ∧ s.tol = TReg.defaultTol

theorem plain_toRegion (s : TReg) (hp : s.isPlain) : s.toRegion = plainRegion s.pmin.vals s.pmax.vals := by
  obtain ⟨h1, h2, h3⟩ := hp
  unfold TReg.toRegion plainRegion
  rw [h1, h2, h3, NumArr.vals_length]

end DFV.C10
