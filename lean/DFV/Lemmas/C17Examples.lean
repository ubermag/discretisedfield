import DFV.Lemmas.C01Base
import DFV.Model.C17
/-! Concrete instances for the non-vacuity `example`s of `Props/C17.lean`. -/
namespace DFV.C17
open DFV

/-- a sample set of attribute names of `Field` for the non-vacuity examples (the theorems hold
for every set; the correspondence run uses the answers of the real class) -/
@[reducible] def exAttrs : FieldAttrs :=
  ⟨fun c => ["mesh", "array", "norm", "unit", "mean", "to_xarray", "__class__"].contains c⟩

attribute [local instance] exAttrs

/-- the sample attribute set meets the hypothesis `hdef` of `import_wf`: none of the default
labels `x, y, z, v0, v1, …` is in it -/
theorem exAttrs_defaults : ∀ k l, Fld.defaultVdims k = some l → l.any FieldAttrs.has = false := by
  intro k l h
  unfold Fld.defaultVdims at h
  split at h
  · cases h
  · split at h
    · injection h with h
      subst h
      have hxyz : ∀ t ∈ ["x", "y", "z"], FieldAttrs.has t = false := by decide
      exact List.any_eq_false.mpr fun t ht => by rw [hxyz t (List.mem_of_mem_take ht)]; exact Bool.false_ne_true
    · injection h with h
      subst h
      rw [List.any_eq_false]
      intro x hx
      obtain ⟨i, -, rfl⟩ := List.mem_map.mp hx
      show (["mesh", "array", "norm", "unit", "mean", "to_xarray", "__class__"].contains ("v" ++ toString i)) ≠ true
      -- none of the sample names begins with `v`
      intro hc
      have hv : ∀ t ∈ ["mesh", "array", "norm", "unit", "mean", "to_xarray", "__class__"], t.toList.head? ≠ some 'v' := by
        decide
      exact hv _ (List.contains_iff_mem.mp hc) (by simp [String.toList_append])

/-- 3-d mesh with negative offset, a single-cell axis, `n = (3,1,2)`, renamed units, custom
tolerance; two labelled components (no default component mapping), distinct values -/
def exF : XFld Nat :=
  { mesh := { region := { pmin := [-1, 0, 1/2], pmax := [2, 1/2, 1], dims := ["x", "y", "z"],
                          units := ["nm", "nm", "m"], tol := 1/1000000000 },
              n := [3, 1, 2], bc := "xy", subs := [] },
    nvdim := 2, data := ⟨[3, 1, 2, 2], fun i => flatC [3, 1, 2, 2] i⟩, valid := NDA.const [3, 1, 2] true,
    vdims := some ["a", "b"], vmap := [], unit := some "A/m", dtype := "float32" }

theorem exF_wf : exF.WF :=
  { mesh := C01.mesh_inv_of_invB _ (by decide +kernel), nvdim := by decide, shape := rfl, novd := by decide,
    labels := by intro l h; cases h; decide }

/-- 2-d scalar field, at least two cells per axis -/
def exS : XFld Nat :=
  { mesh := { region := { pmin := [-3/2, 10], pmax := [0, 11], dims := ["u", "t"], units := ["m", "s"],
                          tol := defaultTol },
              n := [3, 2], bc := "", subs := [] },
    nvdim := 1, data := ⟨[3, 2, 1], fun i => flatC [3, 2, 1] i⟩, valid := NDA.const [3, 2] true,
    vdims := none, vmap := [], unit := none, dtype := "float64" }

theorem exS_wf : exS.WF :=
  { mesh := C01.mesh_inv_of_invB _ (by decide +kernel), nvdim := by decide, shape := rfl, novd := by decide,
    labels := by intro l h; cases h }

/-- hand-built 1-d DataArray at the nanometre scale with coordinates 0, 1e-9, 5e-9 (spacings
1 nm and 4 nm) and no geometric attributes -/
def exNm : XA Nat :=
  { name := "nm", axes := [{ name := "x", size := 3, coord := some { vals := [0, 1/1000000000, 5/1000000000], units := none } }],
    vdimsCoord := none, data := ⟨[3], fun i => i.getD 0 0⟩,
    attrs := { units := none, cell := none, pmin := none, pmax := none, nvdim := some (.int 1), tol := none },
    dtype := "float64" }

/-- the same coordinates in metres -/
def exM : XA Nat :=
  { exNm with axes := [{ name := "x", size := 3, coord := some { vals := [0, 1, 5], units := none } }] }

/-- hand-built 2-component DataArray: `x = 0,1,2` without coordinate (xarray's default index),
`t = 10, 10.5`, component axis last, no labels, no geometric attributes -/
def exHand : XA Nat :=
  { name := "hand",
    axes := [{ name := "x", size := 3, coord := none },
             { name := "t", size := 2, coord := some { vals := [10, 21/2], units := some "s" } },
             { name := "vdims", size := 2, coord := none }],
    vdimsCoord := none, data := ⟨[3, 2, 2], fun i => flatC [3, 2, 2] i⟩,
    attrs := { units := none, cell := none, pmin := none, pmax := none, nvdim := some (.int 2), tol := none },
    dtype := "int64" }

/-- single-cell axis with the `cell` attribute: x has the one coordinate 3, cell 2 -/
def exOne : XA Nat :=
  { name := "one", axes := [{ name := "x", size := 1, coord := some { vals := [3], units := none } },
                            { name := "t", size := 2, coord := some { vals := [10, 21/2], units := none } }],
    vdimsCoord := none, data := ⟨[1, 2], fun i => flatC [1, 2] i⟩,
    attrs := { units := none, cell := some [2, 1/2], pmin := none, pmax := some [4, 43/4], nvdim := some (.int 1), tol := none },
    dtype := "float64" }

/-- history on `exS` (no subregions): translate, scale by (-2, 1/2) about the centre, two rejected calls
(wrong length; factor 0) -/
def exOps : List MeshOp := [.translate [1, 2], .scale (.vec [-2, 1/2]) none, .translate [1], .scale (.scalar 0) none]

/-- `exHand` with a label coordinate one of whose entries is the name of an attribute -/
def exReserved : XA Nat := { exHand with vdimsCoord := some ["mesh", "b"] }

/-- evenly spaced DESCENDING coordinates 3, 2, 1 with complete attributes -/
def exDesc : XA Nat :=
  { name := "desc", axes := [{ name := "x", size := 3, coord := some { vals := [3, 2, 1], units := none } }],
    vdimsCoord := none, data := ⟨[3], fun i => 10 * i.getD 0 0⟩,
    attrs := { units := none, cell := some [1], pmin := some [1/2], pmax := some [7/2], nvdim := some (.int 1), tol := none },
    dtype := "float64" }

end DFV.C17
