import DFV.Model.C09
/-! The grammar of `valuelabels` and `valueunits`: `split`, the label regex and `convert` on what the writer
produces and on the label styles of foreign writers (OOMMF `stem_x`, braced phrases), and what the two lines
cannot carry (white space, the literal `None`, characters that are not word characters). -/
namespace DFV.C09
open DFV

/-! ## `str.split` and joining by blanks -/

/-- a word in the sense of `str.split()`: non-empty, no white space -/
def NoWs (w : List Char) : Prop := w ≠ [] ∧ ∀ c ∈ w, c.isWhitespace = false

theorem splitWsGo_word (w : List Char) (hw : ∀ c ∈ w, c.isWhitespace = false) (rest acc : List Char) :
    splitWsGo (w ++ rest) acc = splitWsGo rest (w.reverse ++ acc) := by
  induction w generalizing acc with
  | nil => simp
  | cons c cs ih =>
    have hc : c.isWhitespace = false := hw c (by simp)
    simp only [List.cons_append, splitWsGo, hc, Bool.false_eq_true, if_false]
    rw [ih (fun d hd => hw d (by simp [hd]))]
    simp

theorem splitWs_single (w : List Char) (hw : NoWs w) : splitWs w = [w] := by
  unfold splitWs
  have := splitWsGo_word w hw.2 [] []
  simp only [List.append_nil] at this
  rw [this]
  simp [splitWsGo, hw.1]

theorem splitWs_cons (w : List Char) (hw : NoWs w) (rest : List Char) :
    splitWs (w ++ ' ' :: rest) = w :: splitWs rest := by
  unfold splitWs
  rw [splitWsGo_word w hw.2]
  have hs : ' '.isWhitespace = true := by decide
  simp [splitWsGo, hw.1, hs]

theorem splitWs_joinSp (ws : List (List Char)) (h : ∀ w ∈ ws, NoWs w) : splitWs (joinSp ws) = ws := by
  induction ws with
  | nil => simp [joinSp, splitWs, splitWsGo]
  | cons w ws ih =>
    cases ws with
    | nil => simpa [joinSp] using splitWs_single w (h w (by simp))
    | cons v vs =>
      simp only [joinSp]
      rw [splitWs_cons w (h w (by simp)), ih (fun x hx => h x (by simp [hx]))]

theorem mem_joinSp (ws : List (List Char)) (c : Char) (hc : c ∈ joinSp ws) : c = ' ' ∨ ∃ w ∈ ws, c ∈ w := by
  induction ws with
  | nil => simp [joinSp] at hc
  | cons w ws ih =>
    cases ws with
    | nil => exact Or.inr ⟨w, by simp, by simpa [joinSp] using hc⟩
    | cons v vs =>
      simp only [joinSp, List.mem_append, List.mem_cons] at hc
      rcases hc with hc | rfl | hc
      · exact Or.inr ⟨w, by simp, hc⟩
      · exact Or.inl rfl
      · rcases ih hc with h | ⟨x, hx, hcx⟩
        · exact Or.inl h
        · exact Or.inr ⟨x, by simp [hx], hcx⟩

theorem not_mem_joinSp (ws : List (List Char)) (c : Char) (hc : c ≠ ' ') (h : ∀ w ∈ ws, c ∉ w) : c ∉ joinSp ws :=
  fun hm => (mem_joinSp ws c hm).elim hc fun ⟨w, hw, hcw⟩ => h w hw hcw

theorem length_dropWhile_le {α} (p : α → Bool) (l : List α) : (l.dropWhile p).length ≤ l.length := by
  induction l with
  | nil => simp
  | cons x xs ih =>
    simp only [List.dropWhile_cons]
    split
    · simp; omega
    · simp

theorem tokensF_mono (isWord : Char → Bool) (k : Nat) (l : List Char) (h : l.length ≤ k) :
    tokensF isWord k l = tokensF isWord l.length l := by
  induction k using Nat.strongRecOn generalizing l with
  | _ k ih =>
    cases l with
    | nil => cases k <;> simp [tokensF]
    | cons c cs =>
      cases k with
      | zero => simp at h
      | succ k =>
        simp only [List.length_cons, tokensF]
        have hk : cs.length ≤ k := by simpa using h
        have hd1 : (cs.dropWhile isWord).length ≤ cs.length := length_dropWhile_le _ _
        have hd2 : ∀ r, (cs.dropWhile fun d => isWord d || d == ' ') = '}' :: r → r.length ≤ cs.length := by
          intro r hr
          have := length_dropWhile_le (fun d => isWord d || d == ' ') cs
          rw [hr] at this; simp at this; omega
        -- the branches of `tokensF`; each recursive call is on a list no longer than `cs`
        split
        · -- a word: the call is on `cs.dropWhile isWord`
          rw [ih k (by omega) _ (by omega), ih cs.length (by omega) _ hd1]
        · split
          · split
            · rename_i r hr
              have := hd2 r hr
              split
              · -- `{}` with nothing between the braces: the call is on `cs`
                rw [ih k (by omega) _ hk]
              · -- `{body}`: the call is on what follows the `}`
                rw [ih k (by omega) _ (by omega), ih cs.length (by omega) _ this]
            · -- `{` without its `}`: the call is on `cs`
              rw [ih k (by omega) _ hk]
          · -- any other character: the call is on `cs`
            rw [ih k (by omega) _ hk]

/-- a label made of word characters only -/
def IsLabel (isWord : Char → Bool) (w : List Char) : Prop := w ≠ [] ∧ ∀ c ∈ w, isWord c = true

theorem span_at {α} (p : α → Bool) (body rest : List α) (hb : ∀ c ∈ body, p c = true)
    (hr : ∀ c r, rest = c :: r → p c = false) :
    (body ++ rest).takeWhile p = body ∧ (body ++ rest).dropWhile p = rest := by
  induction body with
  | nil =>
    cases rest with
    | nil => simp
    | cons c r => simp [hr c r rfl]
  | cons c cs ih =>
    have := ih (fun d hd => hb d (by simp [hd]))
    simp [hb c (by simp), this]

theorem tokens_word_cons (isWord : Char → Bool) (hsp : isWord ' ' = false) (w : List Char)
    (hw : IsLabel isWord w) (rest : List Char) :
    tokens isWord (w ++ ' ' :: rest) = w :: tokens isWord rest := by
  obtain ⟨hne, hall⟩ := hw
  cases w with
  | nil => exact absurd rfl hne
  | cons c cs =>
    unfold tokens
    simp only [List.cons_append, List.length_cons, tokensF]
    have hc : isWord c = true := hall c (by simp)
    have := span_at isWord cs (' ' :: rest) (fun d hd => hall d (by simp [hd]))
      (fun d r h => by injection h with h1 _; subst h1; exact hsp)
    simp only [hc, if_true, this.1, this.2]
    congr 1
    -- fuel: one step on the blank, then monotonicity
    have hlen : (' ' :: rest).length ≤ (cs ++ ' ' :: rest).length := by simp
    rw [tokensF_mono isWord _ _ hlen]
    simp only [List.length_cons, tokensF, hsp, Bool.false_eq_true, if_false]
    have : ¬ (' ' = '{') := by decide
    simp only [this, if_false]

theorem tokens_word_single (isWord : Char → Bool) (w : List Char) (hw : IsLabel isWord w) :
    tokens isWord w = [w] := by
  obtain ⟨hne, hall⟩ := hw
  cases w with
  | nil => exact absurd rfl hne
  | cons c cs =>
    unfold tokens
    simp only [List.length_cons, tokensF]
    have hc : isWord c = true := hall c (by simp)
    have := span_at isWord cs [] (fun d hd => hall d (by simp [hd])) (fun d r h => by cases h)
    simp only [List.append_nil] at this
    simp only [hc, if_true, this.1, this.2]
    cases cs.length <;> simp [tokensF]

/-- what the label theorems need to know about `\w` -/
structure WordClass (isWord : Char → Bool) : Prop where
  space : isWord ' ' = false
  lbrace : isWord '{' = false
  rbrace : isWord '}' = false
  field : ∀ c ∈ "field_".toList, isWord c = true
  xword : isWord 'x' = true
  nows : ∀ c, isWord c = true → c.isWhitespace = false

theorem splitWs_replicate (u : List Char) (hu : NoWs u) (d : Nat) :
    splitWs (joinSp (List.replicate d u)) = List.replicate d u :=
  splitWs_joinSp _ (fun w hw => by rw [(List.mem_replicate.mp hw).2]; exact hu)

theorem recoverUnit_none (d : Nat) (hd : 0 < d) :
    recoverUnit (String.ofList (joinSp (List.replicate d "None".toList))) = none := by
  unfold recoverUnit
  rw [String.toList_ofList, splitWs_replicate _ ⟨by decide, by decide⟩]
  obtain ⟨k, rfl⟩ : ∃ k, d = k + 1 := ⟨d - 1, by omega⟩
  simp [List.replicate_succ]

theorem recoverUnit_some (u : String) (hu : NoWs u.toList) (hn : u ≠ "None") (d : Nat) (hd : 0 < d) :
    recoverUnit (String.ofList (joinSp (List.replicate d u.toList))) = some u := by
  unfold recoverUnit
  rw [String.toList_ofList, splitWs_replicate _ hu]
  obtain ⟨k, rfl⟩ : ∃ k, d = k + 1 := ⟨d - 1, by omega⟩
  have hne : ¬ u.toList = ['N', 'o', 'n', 'e'] := by
    intro h
    apply hn
    rw [← String.ofList_toList (s := u), h]
  simp [List.replicate_succ, hne, String.ofList_toList]

/-! ## what `valueunits` cannot carry -/

theorem splitWsGo_mem (l acc : List Char) (hacc : ∀ c ∈ acc, c.isWhitespace = false) :
    ∀ w ∈ splitWsGo l acc, ∀ c ∈ w, (c ∈ l ∨ c ∈ acc) ∧ c.isWhitespace = false := by
  induction l generalizing acc with
  | nil =>
    intro w hw c hc
    unfold splitWsGo at hw
    split at hw
    · cases hw
    · rw [List.mem_singleton.mp hw, List.mem_reverse] at hc
      exact ⟨Or.inr hc, hacc c hc⟩
  | cons a l ih =>
    intro w hw c hc
    -- what the recursive call says, seen from `a :: l` and `acc`
    have step : ∀ acc', (∀ c ∈ acc', c.isWhitespace = false) → (∀ c ∈ acc', c = a ∨ c ∈ acc) → w ∈ splitWsGo l acc' →
        (c ∈ a :: l ∨ c ∈ acc) ∧ c.isWhitespace = false := fun acc' h1 h2 hw' =>
      let ⟨h, hws⟩ := ih acc' h1 w hw' c hc
      ⟨h.elim (fun h => Or.inl (List.mem_cons_of_mem _ h)) fun h => (h2 c h).elim (fun e => Or.inl (e ▸ List.mem_cons_self)) Or.inr,
        hws⟩
    unfold splitWsGo at hw
    split at hw
    · split at hw
      · exact step [] (by simp) (by simp) hw
      · rcases List.mem_cons.mp hw with rfl | hw
        · rw [List.mem_reverse] at hc
          exact ⟨Or.inr hc, hacc c hc⟩
        · exact step [] (by simp) (by simp) hw
    · rename_i ha
      refine step (a :: acc) (fun c hc => ?_) (fun c hc => List.mem_cons.mp hc) hw
      rcases List.mem_cons.mp hc with rfl | hc
      · simpa using ha
      · exact hacc c hc

theorem splitWs_mem (l w : List Char) (hw : w ∈ splitWs l) (c : Char) (hc : c ∈ w) : c ∈ l ∧ c.isWhitespace = false :=
  let ⟨h, hws⟩ := splitWsGo_mem l [] (by simp) w hw c hc
  ⟨h.elim id fun h => (nomatch h), hws⟩

/-- a unit is recovered from `valueunits` when its words are all the same and not `None`: it is that word -/
theorem recoverUnit_some_inv (t u : String) (h : recoverUnit t = some u) :
    ∃ w ws, splitWs t.toList = w :: ws ∧ w ≠ "None".toList ∧ u = String.ofList w := by
  unfold recoverUnit at h
  split at h
  · cases h
  · rename_i w ws hs
    split at h
    · cases h
    · split at h
      · cases h
      · rename_i hne
        exact ⟨w, ws, hs, by simpa using hne, (Option.some.inj h).symm⟩

theorem recoverUnit_mem (t u : String) (h : recoverUnit t = some u) :
    ∀ c ∈ u.toList, c ∈ t.toList ∧ c.isWhitespace = false := by
  obtain ⟨w, ws, hs, _, rfl⟩ := recoverUnit_some_inv t u h
  rw [String.toList_ofList]
  exact splitWs_mem t.toList w (by rw [hs]; simp)

theorem recoverUnit_ne_None (t : String) : recoverUnit t ≠ some "None" := fun h =>
  let ⟨w, _, _, hne, e⟩ := recoverUnit_some_inv t _ h
  hne (by rw [← String.toList_ofList (l := w), ← e])

theorem joinSp_replicate_succ (k : Nat) (u : List Char) : ∃ r, joinSp (List.replicate (k + 1) u) = u ++ r := by
  cases k with
  | zero => exact ⟨[], by simp [joinSp]⟩
  | succ k => exact ⟨' ' :: joinSp (List.replicate (k + 1) u), rfl⟩

/-! ## label styles of foreign writers -/

theorem tokens_skip (isWord : Char → Bool) (c : Char) (hc : isWord c = false) (hb : c ≠ '{') (rest : List Char) :
    tokens isWord (c :: rest) = tokens isWord rest := by
  show tokensF isWord (rest.length + 1) (c :: rest) = _
  simp only [tokensF, hc, Bool.false_eq_true, if_false, hb]
  rfl

/-- `{[\w ]+}`: a braced run of word characters and blanks is one token, braces included -/
theorem tokens_brace_cons (isWord : Char → Bool) (W : WordClass isWord) (body : List Char) (hne : body ≠ [])
    (hb : ∀ c ∈ body, (isWord c || c == ' ') = true) (rest : List Char) :
    tokens isWord ('{' :: (body ++ '}' :: rest)) = ('{' :: (body ++ ['}'])) :: tokens isWord rest := by
  show tokensF isWord ((body ++ '}' :: rest).length + 1) _ = _
  have hp : (isWord '}' || '}' == ' ') = false := by rw [W.rbrace]; decide
  have := span_at (fun d => isWord d || d == ' ') body ('}' :: rest) hb
    (fun d r h => by injection h with h1 _; subst h1; exact hp)
  simp only [tokensF, W.lbrace, Bool.false_eq_true, if_false, if_true, this.1, this.2]
  have he : body.isEmpty = false := by cases body with
    | nil => exact absurd rfl hne
    | cons _ _ => rfl
  simp only [he, Bool.false_eq_true, if_false]
  congr 1
  exact tokensF_mono isWord _ rest (by simp; omega)

/-- the label styles of foreign writers -/
inductive Item where
  | stem (s l : List Char)          -- `s_l`       (OOMMF `Magnetization_x`, mumax `m_x`)
  | plain (w : List Char)           -- a word without underscore
  | phrase (p l : List Char)        -- `{p_l}`     (OOMMF `{Total field_x}`)
  | words (ws : List (List Char))   -- `{w1 w2 w3}` (OOMMF `{Total energy density}`)

def Item.text : Item → List Char
  | .stem s l => s ++ '_' :: l
  | .plain w => w
  | .phrase p l => '{' :: ((p ++ '_' :: l) ++ '}' :: [])
  | .words ws => '{' :: (joinSp ws ++ '}' :: [])

/-- what the reader is meant to make of it -/
def Item.label : Item → List Char
  | .stem _ l => l
  | .plain w => w
  | .phrase _ l => l
  | .words ws => joinUs ws

def Item.Ok (isWord : Char → Bool) : Item → Prop
  | .stem s l => (∀ c ∈ s, isWord c = true ∧ c ≠ '_') ∧ IsLabel isWord l
  | .plain w => IsLabel isWord w ∧ '_' ∉ w
  | .phrase p l => (∀ c ∈ p, (isWord c || c == ' ') = true ∧ c ≠ '_') ∧ IsLabel isWord l
  | .words ws => ws ≠ [] ∧ ∀ w ∈ ws, IsLabel isWord w ∧ '_' ∉ w

theorem isWord_us (isWord : Char → Bool) (W : WordClass isWord) : isWord '_' = true := W.field '_' (by decide)

theorem no_brace (isWord : Char → Bool) (W : WordClass isWord) (l : List Char) (h : ∀ c ∈ l, (isWord c || c == ' ') = true) :
    l.filter (fun c => c != '{' && c != '}') = l := by
  apply List.filter_eq_self.mpr
  intro c hc
  have := h c hc
  have a : c ≠ '{' := by rintro rfl; rw [W.lbrace] at this; revert this; decide
  have b : c ≠ '}' := by rintro rfl; rw [W.rbrace] at this; revert this; decide
  simp [a, b]

theorem dropWhile_us (p rest : List Char) (hp : ∀ c ∈ p, c ≠ '_') :
    (p ++ '_' :: rest).dropWhile (· != '_') = '_' :: rest := by
  induction p with
  | nil => simp
  | cons c p ih =>
    have hc : c ≠ '_' := hp c (by simp)
    simp [hc, ih (fun d hd => hp d (by simp [hd]))]

theorem convert_tail (isWord : Char → Bool) (W : WordClass isWord) (l : List Char) (hl : IsLabel isWord l) :
    joinUs (splitWs (l.filter fun c => c != '{' && c != '}')) = l := by
  rw [no_brace isWord W l (fun c hc => by rw [hl.2 c hc]; rfl),
    splitWs_single l ⟨hl.1, fun c hc => W.nows c (hl.2 c hc)⟩]
  simp [joinUs]

theorem convert_stem (isWord : Char → Bool) (W : WordClass isWord) (s l : List Char) (hs : ∀ c ∈ s, c ≠ '_')
    (hl : IsLabel isWord l) : convert (s ++ '_' :: l) = l := by
  unfold convert
  have h1 : (s ++ '_' :: l).contains '_' = true := by simp
  simp only [h1, if_true, dropWhile_us s l hs, List.drop_succ_cons, List.drop_zero]
  exact convert_tail isWord W l hl

theorem convert_plain (isWord : Char → Bool) (W : WordClass isWord) (w : List Char) (hw : IsLabel isWord w)
    (hu : '_' ∉ w) : convert w = w := by
  unfold convert
  have h1 : w.contains '_' = false := by simpa using hu
  simp only [h1, Bool.false_eq_true, if_false]
  exact convert_tail isWord W w hw

theorem convert_phrase (isWord : Char → Bool) (W : WordClass isWord) (p l : List Char) (hp : ∀ c ∈ p, c ≠ '_')
    (hl : IsLabel isWord l) : convert ('{' :: ((p ++ '_' :: l) ++ '}' :: [])) = l := by
  unfold convert
  have h1 : ('{' :: ((p ++ '_' :: l) ++ '}' :: [])).contains '_' = true := by simp
  have e : '{' :: ((p ++ '_' :: l) ++ '}' :: []) = ('{' :: p) ++ '_' :: (l ++ ['}']) := by simp
  have hp' : ∀ c ∈ '{' :: p, c ≠ '_' := by
    intro c hc
    rcases List.mem_cons.mp hc with rfl | hc
    · decide
    · exact hp c hc
  simp only [h1, if_true]
  rw [e, dropWhile_us _ _ hp']
  simp only [List.drop_succ_cons, List.drop_zero]
  have hf : (l ++ ['}']).filter (fun c => c != '{' && c != '}') = l.filter (fun c => c != '{' && c != '}') := by
    simp [List.filter_append]
  rw [hf]
  exact convert_tail isWord W l hl

theorem joinSp_wordish (isWord : Char → Bool) (ws : List (List Char)) (h : ∀ w ∈ ws, IsLabel isWord w) :
    ∀ c ∈ joinSp ws, (isWord c || c == ' ') = true := by
  intro c hc
  rcases mem_joinSp ws c hc with rfl | ⟨w, hw, hcw⟩
  · simp
  · rw [(h w hw).2 c hcw]; rfl

theorem convert_words (isWord : Char → Bool) (W : WordClass isWord) (ws : List (List Char))
    (h : ∀ w ∈ ws, IsLabel isWord w ∧ '_' ∉ w) : convert ('{' :: (joinSp ws ++ '}' :: [])) = joinUs ws := by
  unfold convert
  have hu := not_mem_joinSp ws '_' (by decide) (fun w hw => (h w hw).2)
  have h1 : ('{' :: (joinSp ws ++ '}' :: [])).contains '_' = false := by
    simp only [List.contains_eq_mem, List.mem_cons, List.mem_append, List.mem_nil_iff, or_false, decide_eq_false_iff_not,
      not_or]
    exact ⟨by decide, hu, by decide⟩
  simp only [h1, Bool.false_eq_true, if_false]
  have e : ('{' :: (joinSp ws ++ '}' :: [])).filter (fun c => c != '{' && c != '}')
      = (joinSp ws).filter (fun c => c != '{' && c != '}') := by
    simp [List.filter_append]
  rw [e, no_brace isWord W _ (joinSp_wordish isWord ws (fun w hw => (h w hw).1)),
    splitWs_joinSp ws (fun w hw => ⟨(h w hw).1.1, fun c hc => W.nows c ((h w hw).1.2 c hc)⟩)]

theorem convert_item (isWord : Char → Bool) (W : WordClass isWord) (it : Item) (h : it.Ok isWord) :
    convert it.text = it.label := by
  cases it with
  | stem s l => exact convert_stem isWord W s l (fun c hc => (h.1 c hc).2) h.2
  | plain w => exact convert_plain isWord W w h.1 h.2
  | phrase p l => exact convert_phrase isWord W p l (fun c hc => (h.1 c hc).2) h.2
  | words ws => exact convert_words isWord W ws h.2

theorem item_word (isWord : Char → Bool) (W : WordClass isWord) (s l : List Char)
    (hs : ∀ c ∈ s, isWord c = true ∧ c ≠ '_') (hl : IsLabel isWord l) : IsLabel isWord (s ++ '_' :: l) := by
  refine ⟨by simp, ?_⟩
  intro c hc
  rcases List.mem_append.mp hc with h | h
  · exact (hs c h).1
  · rcases List.mem_cons.mp h with rfl | h
    · exact isWord_us isWord W
    · exact hl.2 c h

theorem item_body (isWord : Char → Bool) (W : WordClass isWord) (it : Item) (h : it.Ok isWord) :
    (IsLabel isWord it.text) ∨
    (∃ body, it.text = '{' :: (body ++ '}' :: []) ∧ body ≠ [] ∧ ∀ c ∈ body, (isWord c || c == ' ') = true) := by
  cases it with
  | stem s l => exact Or.inl (item_word isWord W s l h.1 h.2)
  | plain w => exact Or.inl h.1
  | phrase p l =>
    refine Or.inr ⟨p ++ '_' :: l, rfl, by simp, ?_⟩
    intro c hc
    rcases List.mem_append.mp hc with hc | hc
    · exact (h.1 c hc).1
    · rcases List.mem_cons.mp hc with rfl | hc
      · rw [isWord_us isWord W]; rfl
      · rw [h.2.2 c hc]; rfl
  | words ws =>
    refine Or.inr ⟨joinSp ws, rfl, ?_, joinSp_wordish isWord ws (fun w hw => (h.2 w hw).1)⟩
    obtain ⟨hne, hw⟩ := h
    cases ws with
    | nil => exact absurd rfl hne
    | cons w ws =>
      have := (hw w (by simp)).1.1
      cases w with
      | nil => exact absurd rfl this
      | cons c w => cases ws <;> simp [joinSp]

/-- `re.findall(r"(\w+|{[\w ]+})", …)` on items separated by single blanks returns the items -/
theorem tokens_items (isWord : Char → Bool) (W : WordClass isWord) (its : List Item)
    (h : ∀ it ∈ its, it.Ok isWord) : tokens isWord (joinSp (its.map Item.text)) = its.map Item.text := by
  induction its with
  | nil => rfl
  | cons it its ih =>
    have hit := h it (by simp)
    have ih' := ih (fun x hx => h x (by simp [hx]))
    cases its with
    | nil =>
      simp only [List.map_cons, List.map_nil, joinSp]
      rcases item_body isWord W it hit with hw | ⟨body, e, hne, hb⟩
      · exact tokens_word_single isWord _ hw
      · rw [e, tokens_brace_cons isWord W body hne hb []]; rfl
    | cons it2 its =>
      simp only [List.map_cons, joinSp] at ih' ⊢
      rcases item_body isWord W it hit with hw | ⟨body, e, hne, hb⟩
      · rw [tokens_word_cons isWord W.space _ hw, ih']
      · rw [e]
        have e2 : '{' :: (body ++ ['}']) ++ ' ' :: joinSp (it2.text :: its.map Item.text)
            = '{' :: (body ++ '}' :: (' ' :: joinSp (it2.text :: its.map Item.text))) := by simp
        rw [e2, tokens_brace_cons isWord W body hne hb, tokens_skip isWord ' ' W.space (by decide), ih']

/-- **foreign label styles**: `valuelabels` written as `stem_x` words (OOMMF `Magnetization_x`,
mumax `m_x`), plain words, braced phrases `{Total field_x}` and braced multi-word names
`{Total energy density}` is read to the labels `x`, the word, `x`, `Total_energy_density` when
these are distinct, and to no labels when they are not (`m_x m_x m_x`) -/
theorem recoverLabels_items (isWord : Char → Bool) (W : WordClass isWord) (its : List Item)
    (h : ∀ it ∈ its, it.Ok isWord) :
    recoverLabels isWord (String.ofList (joinSp (its.map Item.text)))
      = if hasDup (its.map fun it => String.ofList it.label) then none
        else some (its.map fun it => String.ofList it.label) := by
  unfold recoverLabels
  rw [String.toList_ofList, tokens_items isWord W its h, List.map_map]
  rw [List.map_congr_left (g := fun it => String.ofList it.label) fun it hit => by
    simp only [Function.comp]; rw [convert_item isWord W it (h it hit)]]

/-- the writer's `field_<c>` words are items of the `stem_label` style: labels of a vector field survive
`valuelabels: field_<c> …` → regex → `convert`, underscores inside the labels included, when they are distinct -/
theorem recoverLabels_fields (isWord : Char → Bool) (W : WordClass isWord) (vs : List String)
    (hl : ∀ v ∈ vs, IsLabel isWord v.toList) :
    recoverLabels isWord (String.ofList (joinSp (vs.map fun c => "field_".toList ++ c.toList)))
      = if hasDup vs then none else some vs := by
  have hf : ∀ c ∈ "field".toList, c ∈ "field_".toList ∧ c ≠ '_' := by decide
  have h := recoverLabels_items isWord W (vs.map fun v => Item.stem "field".toList v.toList) (by
    intro it hit
    obtain ⟨v, hv, rfl⟩ := List.mem_map.mp hit
    exact ⟨fun c hc => ⟨W.field c (hf c hc).1, (hf c hc).2⟩, hl v hv⟩)
  have hfe : ∀ v : String, "field".toList ++ '_' :: v.toList = "field_".toList ++ v.toList := fun v => by
    rw [show "field_".toList = "field".toList ++ ['_'] by decide, List.append_assoc]; rfl
  simp only [List.map_map, Function.comp_def, Item.text, Item.label, String.ofList_toList, List.map_id', hfe] at h
  exact h

/-! ## what the regex and `convert` can produce -/

theorem mem_takeWhile_p {α} (p : α → Bool) (l : List α) (x : α) (h : x ∈ l.takeWhile p) : p x = true := by
  induction l with
  | nil => simp at h
  | cons a l ih =>
    simp only [List.takeWhile_cons] at h
    split at h
    · rcases List.mem_cons.mp h with rfl | h
      · assumption
      · exact ih h
    · simp at h

theorem tokensF_chars (isWord : Char → Bool) (k : Nat) (l : List Char) :
    ∀ t ∈ tokensF isWord k l, ∀ c ∈ t, isWord c = true ∨ c = '{' ∨ c = '}' ∨ c = ' ' := by
  -- one case per branch of `tokensF`; `ih` is the statement for the recursive call
  fun_induction tokensF isWord k l with
  | case1 | case2 => intro t ht; cases ht
  | case3 k c cs hc ih =>
    -- a word: `c` and the word characters after it
    intro t ht
    rcases List.mem_cons.mp ht with rfl | ht
    · intro d hd
      rcases List.mem_cons.mp hd with rfl | hd
      · exact Or.inl hc
      · exact Or.inl (mem_takeWhile_p _ _ _ hd)
    · exact ih t ht
  | case5 k cs rest hr hne _ ih =>
    -- `{body}`: the brace, word characters and blanks, the brace
    intro t ht
    rcases List.mem_cons.mp ht with rfl | ht
    · intro d hd
      rcases List.mem_cons.mp hd with rfl | hd
      · exact Or.inr (Or.inl rfl)
      · rcases List.mem_append.mp hd with hd | hd
        · have := mem_takeWhile_p _ _ _ hd
          simp only [Bool.or_eq_true, beq_iff_eq] at this
          exact this.elim Or.inl fun h => Or.inr (Or.inr (Or.inr h))
        · exact Or.inr (Or.inr (Or.inl (List.mem_singleton.mp hd)))
    · exact ih t ht
  | case4 _ _ _ _ _ _ ih | case6 _ _ _ _ ih | case7 _ _ _ _ _ ih =>
    -- `{}`, a `{` without its `}`, any other character: no token
    exact ih
theorem mem_joinUs (ws : List (List Char)) : ∀ c ∈ joinUs ws, c = '_' ∨ ∃ w ∈ ws, c ∈ w := by
  induction ws with
  | nil => intro c hc; simp [joinUs] at hc
  | cons w ws ih =>
    cases ws with
    | nil => intro c hc; exact Or.inr ⟨w, by simp, by simpa [joinUs] using hc⟩
    | cons v vs =>
      intro c hc
      simp only [joinUs, List.mem_append, List.mem_cons] at hc
      rcases hc with hc | rfl | hc
      · exact Or.inr ⟨w, by simp, hc⟩
      · exact Or.inl rfl
      · rcases ih c hc with h | ⟨x, hx, hcx⟩
        · exact Or.inl h
        · exact Or.inr ⟨x, by simp [hx], hcx⟩

theorem convert_chars (isWord : Char → Bool) (hus : isWord '_' = true) (t : List Char)
    (ht : ∀ c ∈ t, isWord c = true ∨ c = '{' ∨ c = '}' ∨ c = ' ') :
    ∀ c ∈ convert t, isWord c = true := by
  intro c hc
  unfold convert at hc
  rcases mem_joinUs _ c hc with rfl | ⟨w, hw, hcw⟩
  · exact hus
  · obtain ⟨hmem, hnws⟩ := splitWs_mem _ w hw c hcw
    rw [List.mem_filter] at hmem
    obtain ⟨hm, hf⟩ := hmem
    simp only [Bool.and_eq_true, bne_iff_ne, ne_eq] at hf
    have hm' : c ∈ t := by
      split at hm
      · exact (List.dropWhile_suffix _).subset (List.mem_of_mem_drop hm)
      · exact hm
    rcases ht c hm' with h | h | h | h
    · exact h
    · exact absurd h hf.1
    · exact absurd h hf.2
    · subst h
      have : ' '.isWhitespace = true := by decide
      rw [this] at hnws; cases hnws

/-- **whatever `valuelabels` holds, every recovered label is made of word characters** -/
theorem recoverLabels_wordchars (isWord : Char → Bool) (hus : isWord '_' = true) (text : String)
    (ls : List String) (h : recoverLabels isWord text = some ls) :
    (∀ l ∈ ls, ∀ c ∈ l.toList, isWord c = true) ∧ hasDup ls = false := by
  unfold recoverLabels at h
  split at h
  · cases h
  · rename_i hd
    injection h with h
    subst h
    refine ⟨?_, by simpa using hd⟩
    intro l hl c hc
    obtain ⟨t, ht, rfl⟩ := List.mem_map.mp hl
    rw [String.toList_ofList] at hc
    exact convert_chars isWord hus t (tokensF_chars isWord _ _ t ht) c hc

end DFV.C09
