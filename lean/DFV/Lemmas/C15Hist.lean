import DFV.Lemmas.C15Near
/-!
Histories (`run`) for C15: frame invariants, independence of the array from the validity
mask, the sufficient well-formedness predicates `…WF` of the acceptance theorems (that they
suffice is `Step.WF.accepted`, `Lemmas/C15Acc.lean`); a concrete mesh
(`exMesh`) and a labelled field on it (`exLabelled`) for the examples.
-/
namespace DFV.C15
open DFV

/-- same mesh, component count and array (validity, labels, unit may differ) -/
def SameArr (f f' : Fld) : Prop := f.mesh = f'.mesh ∧ f.nvdim = f'.nvdim ∧ f.data = f'.data

def isSetValid : Step → Bool
  | .setValid _ => true
  | _ => false

/-- **what a statement can do**: a validity assignment replaces the mask and nothing else; any other
statement replaces the array and nothing else, by an array that depends on mesh, component
count and old array only (so it does the same to any field that agrees in these) -/
theorem step_cases {sqrt : Rat → Rat} {atol : Rat} {f g : Fld} {s : Step} (h : step sqrt atol f s = .ok g) :
    (isSetValid s = true ∧ ∃ v, g = { f with valid := v }) ∨
    (isSetValid s = false ∧ ∃ d, g = { f with data := d } ∧
      ∀ f', SameArr f f' → step sqrt atol f' s = .ok { f' with data := d }) := by
  cases s with
  | setNorm s =>
    refine Or.inr ⟨rfl, ?_⟩
    cases s with
    | none =>
      simp only [step, setNorm_none, Except.ok.injEq] at h
      subst h
      exact ⟨f.data, rfl, fun f' hs => by rw [hs.2.2]; rfl⟩
    | some s =>
      obtain ⟨t, ht, rfl⟩ := setNorm_some_ok (show setNorm sqrt f (some s) = .ok g from h)
      refine ⟨_, rfl, fun f' hs => ?_⟩
      rw [hs.1] at ht
      rw [hs.1, hs.2.2]
      exact setNorm_of_target ht
  | update v =>
    obtain ⟨a, ha, rfl⟩ := updateValues_ok (show updateValues f v = .ok g from h)
    refine Or.inr ⟨rfl, a, rfl, fun f' hs => ?_⟩
    exact updateValues_of_values (by rw [← hs.1, ← hs.2.1]; exact ha)
  | setValid s =>
    obtain ⟨v, _, rfl⟩ := setValid_ok (show setValid sqrt atol f s = .ok g from h)
    exact Or.inl ⟨rfl, v, rfl⟩

theorem step_frame {sqrt : Rat → Rat} {atol : Rat} {f g : Fld} {s : Step}
    (h : step sqrt atol f s = .ok g) :
    g.mesh = f.mesh ∧ g.nvdim = f.nvdim ∧ g.unit = f.unit ∧ g.vdims = f.vdims ∧ g.vmap = f.vmap := by
  rcases step_cases h with ⟨_, v, rfl⟩ | ⟨_, d, rfl, _⟩ <;> exact ⟨rfl, rfl, rfl, rfl, rfl⟩

theorem run_cons_ok {sqrt : Rat → Rat} {atol : Rat} {f g : Fld} {s : Step} {rest : List Step}
    (h : run sqrt atol f (s :: rest) = .ok g) :
    ∃ f1, step sqrt atol f s = .ok f1 ∧ run sqrt atol f1 rest = .ok g := by
  simp only [run] at h
  cases hs : step sqrt atol f s with
  | error e => rw [hs] at h; cases h
  | ok f1 => rw [hs] at h; exact ⟨f1, rfl, h⟩

theorem run_cons_of {sqrt : Rat → Rat} {atol : Rat} {f f1 : Fld} {s : Step} (rest : List Step)
    (h : step sqrt atol f s = .ok f1) : run sqrt atol f (s :: rest) = run sqrt atol f1 rest := by
  simp only [run, h]

theorem run_append_ok {sqrt : Rat → Rat} {atol : Rat} (h1 h2 : List Step) {f g : Fld}
    (h : run sqrt atol f (h1 ++ h2) = .ok g) :
    ∃ f1, run sqrt atol f h1 = .ok f1 ∧ run sqrt atol f1 h2 = .ok g := by
  induction h1 generalizing f with
  | nil => exact ⟨f, rfl, h⟩
  | cons s rest ih =>
    obtain ⟨f1, hs, hr⟩ := run_cons_ok (show run sqrt atol f (s :: (rest ++ h2)) = .ok g from h)
    obtain ⟨f2, h2', h3⟩ := ih hr
    exact ⟨f2, by rw [run_cons_of rest hs]; exact h2', h3⟩

/-! ### the array does not depend on the validity mask -/

/-- a history run from a field with the same array, its validity assignments left out: the same
array at the end, and the mask it started with -/
theorem run_sameArr {sqrt : Rat → Rat} {atol : Rat} (hist : List Step) {f f' g : Fld}
    (hs : SameArr f f') (h : run sqrt atol f hist = .ok g) :
    ∃ g', run sqrt atol f' (hist.filter fun s => !isSetValid s) = .ok g' ∧ SameArr g g' ∧ g'.valid = f'.valid := by
  induction hist generalizing f f' with
  | nil =>
    cases h
    exact ⟨f', rfl, hs, rfl⟩
  | cons s rest ih =>
    obtain ⟨f1, h1, hr⟩ := run_cons_ok h
    rcases step_cases h1 with ⟨hv, v, rfl⟩ | ⟨hv, d, rfl, hd⟩
    · rw [List.filter_cons_of_neg (by simp [hv])]
      exact ih (f := { f with valid := v }) (show SameArr { f with valid := v } f' from hs) hr
    · rw [List.filter_cons_of_pos (by simp [hv])]
      obtain ⟨g', hg', hs', hv'⟩ := ih (f := { f with data := d }) (f' := { f' with data := d }) ⟨hs.1, hs.2.1, rfl⟩ hr
      exact ⟨g', by rw [run_cons_of _ (hd f' hs)]; exact hg', hs', hv'⟩

/-! ### well-formed specifications -/

/-- norm specifications the property ranges over (sufficient for acceptance) -/
def NSpec.WF (m : Mesh) : NSpec → Prop
  | .const _ => True
  | .fn _ => True
  | .arr a => a.shape = m.n ∨ a.shape = m.n ++ [1]
  | .field h => h.mesh = m ∧ h.nvdim = 1
  | .spec s => ∃ a, C02.asArray (fun v => v == 0) s m 1 = .ok a

def VSpec.WF (m : Mesh) (nvdim : Nat) : VSpec → Prop
  | .scalar c => nvdim = 1 ∨ c = 0
  | .vec v => v.length = nvdim
  | .arr a => a.shape = m.n ∧ ∀ i, (a.get i).length = nvdim
  | .fn g => ∀ p, (g p).length = nvdim

def ValidSpec.WF (m : Mesh) : ValidSpec → Prop
  | .arr a => a.shape = m.n
  | _ => True

def Step.WF (m : Mesh) (nvdim : Nat) : Step → Prop
  | .setNorm none => True
  | .setNorm (some s) => s.WF m
  | .update v => v.WF m nvdim
  | .setValid s => s.WF m

/-! ### a concrete well-formed mesh for the non-vacuity examples -/

/-- two cells of width 1 on `[0, 2]` -/
def exMesh : Mesh :=
  { region := { pmin := [0], pmax := [2], dims := ["x"], units := ["m"], tol := 0 },
    n := [2], bc := "", subs := [] }

theorem exMesh_inv : exMesh.Inv := C01.mesh_inv_of_invB exMesh (by decide +kernel)

/-- a labelled two-component field with a mapping on that mesh -/
def exLabelled : Fld :=
  { mesh := exMesh, nvdim := 2, data := ⟨[2], fun i => if i = [0] then [3, 4] else [0, 0]⟩,
    valid := ⟨[2], fun i => i = [0]⟩, vdims := some ["a", "b"], vmap := [("b", "x"), ("a", "x")],
    unit := some "T" }

theorem exLabelled_cells : ∀ i ∈ indicesC exMesh.n, (exLabelled.data.get i).length = 2 := by
  intro i hi
  have e : indicesC exMesh.n = [[0], [1]] := by decide +kernel
  rw [e] at hi
  have : i = [0] ∨ i = [1] := by simpa using hi
  rcases this with rfl | rfl <;> rfl

end DFV.C15
