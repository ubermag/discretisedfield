import DFV.Lemmas.C03EvalCells

/-! C03: elementwise trees entry by entry (`scalarAt`), and the ring laws of the Gaussian rationals lifted to
whole trees. -/

namespace DFV.C03
open DFV

theorem elementwise_bin {b : BinOp} {l r : Expr} (hb : isElem b = true) (hl : l.elementwise = true)
    (hr : r.elementwise = true) : (Expr.bin b l r).elementwise = true := by
  simp only [Expr.elementwise, hb, hl, hr, Bool.and_self]

/-- an elementwise tree has no `<<` / `angle` node, so the side condition `LiftOk` holds of it -/
theorem liftOk_of_elementwise (n : List Nat) (e : Expr) (h : e.elementwise = true) : LiftOk n e := by
  induction e with
  | leaf k => trivial
  | opd o => trivial
  | un u e ih => exact ih h
  | bin b l r ihl ihr =>
    simp only [Expr.elementwise, Bool.and_eq_true] at h
    refine ⟨ihl h.1.2, ihr h.2, ?_⟩
    intro hc
    rcases hc with rfl | rfl <;> simp [isElem] at h

/-- every binary node of the tree combines operands whose component lists can be broadcast -/
def WidthOk (env : Env) (n : List Nat) : Expr → Prop
  | .leaf _ => True
  | .opd _ => True
  | .un _ e => WidthOk env n e
  | .bin _ l r => WidthOk env n l ∧ WidthOk env n r ∧
      ∀ i, inRange n i = true → Compat (evalCell env l i).length (evalCell env r i).length

/-- **accepted elementwise trees are width-consistent at every node** (induction over trees) -/
theorem widthOk_of_eval (env : Env) (n : List Nat) (hwf : ∀ f ∈ env.fields, CFwf f ∧ f.mesh.n = n) :
    ∀ (e : Expr) (v : Val), e.elementwise = true → evalF env e = .ok v → WidthOk env n e := by
  intro e
  induction e with
  | leaf k => intros; trivial
  | opd o => intros; trivial
  | un u e ih =>
    intro v hel h
    obtain ⟨f, _, he, _⟩ := evalF_un_ok h
    exact ih (.fld f) hel he
  | bin b l r ihl ihr =>
    intro v hel h
    simp only [Expr.elementwise, Bool.and_eq_true] at hel
    obtain ⟨vl, vr, hl, hr, h⟩ := evalF_bin_ok h
    obtain ⟨g, rfl⟩ := applyBin_fld _ _ _ _ _ h
    obtain ⟨hcl, _⟩ := eval_good env n hwf l vl (liftOk_of_elementwise n l hel.1.2) hl
    obtain ⟨hcr, _⟩ := eval_good env n hwf r vr (liftOk_of_elementwise n r hel.2) hr
    exact ⟨ihl vl hel.1.2 hl, ihr vr hel.2 hr,
      applyBin_compat env b (Or.inl hel.1.1) n vl vr g _ _ _ _ hcl hcr h⟩

/-- `compAt` commutes with `bz`, for an index in range or a one-element result -/
theorem compAt_bz (fn : GQ → GQ → GQ) (xs ys : List GQ) (c : Nat)
    (hc : c < (bz fn xs ys).length ∨ (bz fn xs ys).length = 1) :
    compAt (bz fn xs ys) c = fn (compAt xs c) (compAt ys c) := by
  have hlen := bz_length fn xs ys
  show (bz fn xs ys).getD (if (bz fn xs ys).length = 1 then 0 else c) GQ.zero = _
  by_cases h1 : (bz fn xs ys).length = 1
  · -- a one-element result: both operands have one element, and every component is component 0
    have hx : xs.length = 1 := by
      by_contra hx
      rw [bl, if_neg hx] at hlen
      exact hx (by rw [← hlen, h1])
    have hy : ys.length = 1 := by
      rw [bl, if_pos hx] at hlen
      rw [← hlen, h1]
    rw [if_pos h1, bz_getD _ _ _ _ (by rw [← hlen, h1]; exact Nat.one_pos)]
    simp only [compAt, hx, hy, if_true]
  · rw [if_neg h1]
    exact bz_getD _ _ _ _ (by rw [← hlen]; exact hc.resolve_right h1)

/-- an index in range for `bz fn xs ys` (or a one-element result) is in range for each operand, unless that operand has
one element: the result is as long as the longer operand -/
theorem bz_index_sides (fn : GQ → GQ → GQ) (xs ys : List GQ) (c : Nat) (hcp : Compat xs.length ys.length)
    (hc : c < (bz fn xs ys).length ∨ (bz fn xs ys).length = 1) :
    (c < xs.length ∨ xs.length = 1) ∧ (c < ys.length ∨ ys.length = 1) := by
  rw [bz_length] at hc
  unfold bl at hc
  unfold Compat at hcp
  split at hc <;> omega

/-- `compAt` commutes with `map`, for an index in range or a one-element list -/
theorem compAt_map (g : GQ → GQ) (xs : List GQ) (c : Nat) (hc : c < xs.length ∨ xs.length = 1) :
    compAt (xs.map g) c = g (compAt xs c) := by
  unfold compAt
  rw [List.length_map]
  have hidx : (if xs.length = 1 then 0 else c) < xs.length := by
    by_cases h1 : xs.length = 1
    · rw [if_pos h1, h1]; exact Nat.one_pos
    · rw [if_neg h1]
      rcases hc with hc | hc
      · exact hc
      · exact absurd hc h1
  simp [List.getD_eq_getElem?_getD, List.getElem?_eq_getElem hidx]

/-- **component lists = tree of scalars** (induction over trees): for a width-consistent
elementwise tree, component `c` of the list `evalCell env e i` — the one element when the list
has length 1 — is the tree evaluated on numbers at index `i ++ [c]` -/
theorem evalCell_scalar (env : Env) (n : List Nat) (hwf : ∀ f ∈ env.fields, CFwf f ∧ f.mesh.n = n)
    (i : List Nat) (hi : inRange n i = true) :
    ∀ (e : Expr), e.elementwise = true → WidthOk env n e →
      ∀ c, (c < (evalCell env e i).length ∨ (evalCell env e i).length = 1) →
        compAt (evalCell env e i) c = scalarAt env e (i ++ [c]) := by
  intro e
  induction e with
  | leaf k =>
    intro _ _ c hc
    simp only [evalCell, scalarAt] at hc ⊢
    cases hk : env.fields[k]? with
    | none =>
      rw [hk] at hc
      simp at hc
    | some f =>
      rw [hk] at hc
      simp only at hc ⊢
      obtain ⟨hw, hn⟩ := hwf f (List.mem_of_getElem? hk)
      rw [cellOf_length] at hc
      rw [← opdCell_field f hw i (by rw [hn]; exact hi)]
      exact opdCell_getD f.data i c (by rw [lastDim_field f hw]; exact hc.symm)
  | opd o =>
    intro _ _ c hc
    cases o with
    | num z k np => simp [evalCell, rawCell, scalarAt, compAt]
    | arr a k np =>
      simp only [evalCell, rawCell, scalarAt] at hc ⊢
      rw [opdCell_length] at hc
      exact opdCell_getD a i c hc.symm
  | un u e ih =>
    intro hel hw c hc
    simp only [evalCell, List.length_map] at hc
    simp only [evalCell, scalarAt]
    rw [compAt_map _ _ _ hc, ih hel hw c hc]
  | bin b l r ihl ihr =>
    intro hel hw c hc
    simp only [Expr.elementwise, Bool.and_eq_true] at hel
    obtain ⟨hwl, hwr, hcomp⟩ := hw
    have hbc := binCell_elem env b hel.1.1 (evalCell env l i) (evalCell env r i)
    simp only [evalCell, scalarAt]
    rw [hbc]
    simp only [evalCell] at hc
    rw [hbc] at hc
    rw [compAt_bz _ _ _ _ hc]
    obtain ⟨hcl, hcr⟩ := bz_index_sides (binFn b) _ _ c (hcomp i hi) hc
    rw [ihl hel.1.2 hwl c hcl, ihr hel.2 hwr c hcr]

theorem bl_assoc (a b c : Nat) : bl (bl a b) c = bl a (bl b c) := by
  by_cases ha : a = 1 <;> simp [bl, ha]

theorem bl_distrib (a b c : Nat) : bl a (bl b c) = bl (bl a b) (bl a c) := by
  by_cases ha : a = 1 <;> simp [bl, ha]

theorem bl_one_right (a : Nat) : bl a 1 = a := by
  by_cases ha : a = 1 <;> simp [bl, ha]

/-- **two accepted elementwise trees with the same tree of scalars are the same field, cell by
cell** (given that their component lists have the same length) -/
theorem scalar_ext (env : Env) (n : List Nat) (hwf : ∀ f ∈ env.fields, CFwf f ∧ f.mesh.n = n)
    (e1 e2 : Expr) (hel1 : e1.elementwise = true) (hel2 : e2.elementwise = true) (g1 g2 : CF)
    (h1 : evalF env e1 = .ok (.fld g1)) (h2 : evalF env e2 = .ok (.fld g2))
    (hlen : ∀ i, (evalCell env e1 i).length = (evalCell env e2 i).length)
    (hs : ∀ idx, scalarAt env e1 idx = scalarAt env e2 idx) :
    ∀ i, inRange n i = true →
      cellOf g1.data i g1.nvdim = cellOf g2.data i g2.nvdim ∧
      g1.valid.get i = validCell env e1 i ∧ g2.valid.get i = validCell env e2 i := by
  intro i hi
  obtain ⟨⟨_, _, hc1⟩, _⟩ := eval_good env n hwf e1 (.fld g1) (liftOk_of_elementwise n e1 hel1) h1
  obtain ⟨⟨_, _, hc2⟩, _⟩ := eval_good env n hwf e2 (.fld g2) (liftOk_of_elementwise n e2 hel2) h2
  have hw1 := widthOk_of_eval env n hwf e1 (.fld g1) hel1 h1
  have hw2 := widthOk_of_eval env n hwf e2 (.fld g2) hel2 h2
  refine ⟨?_, (hc1 i hi).2, (hc2 i hi).2⟩
  rw [(hc1 i hi).1, (hc2 i hi).1]
  apply List.ext_getElem (hlen i)
  intro c hc1' hc2'
  have s1 := evalCell_scalar env n hwf i hi e1 hel1 hw1 c (Or.inl hc1')
  have s2 := evalCell_scalar env n hwf i hi e2 hel2 hw2 c (Or.inl hc2')
  have e : compAt (evalCell env e1 i) c = compAt (evalCell env e2 i) c := by rw [s1, s2, hs]
  unfold compAt at e
  rw [hlen i] at e
  by_cases hone : (evalCell env e2 i).length = 1
  · rw [if_pos hone] at e
    have hc0 : c = 0 := by omega
    subst hc0
    rw [List.getD_eq_getElem?_getD, List.getD_eq_getElem?_getD, List.getElem?_eq_getElem hc1',
      List.getElem?_eq_getElem hc2'] at e
    exact e
  · rw [if_neg hone] at e
    rw [List.getD_eq_getElem?_getD, List.getD_eq_getElem?_getD, List.getElem?_eq_getElem hc1',
      List.getElem?_eq_getElem hc2'] at e
    exact e

/-- **two accepted elementwise trees with the same tree of scalars, equal lengths and equal validity cell by cell are the
same field**: equal values in every cell and equal masks.  The ring laws for whole trees are instances. -/
theorem scalar_ext_same (env : Env) (n : List Nat) (hwf : ∀ f ∈ env.fields, CFwf f ∧ f.mesh.n = n)
    (e1 e2 : Expr) (hel1 : e1.elementwise = true) (hel2 : e2.elementwise = true)
    (hlen : ∀ i, (evalCell env e1 i).length = (evalCell env e2 i).length)
    (hs : ∀ idx, scalarAt env e1 idx = scalarAt env e2 idx) (hv : ∀ i, validCell env e1 i = validCell env e2 i)
    (g1 g2 : CF) (h1 : evalF env e1 = .ok (.fld g1)) (h2 : evalF env e2 = .ok (.fld g2)) :
    ∀ i, inRange n i = true →
      cellOf g1.data i g1.nvdim = cellOf g2.data i g2.nvdim ∧ g1.valid.get i = g2.valid.get i := by
  intro i hi
  obtain ⟨hcell, v1, v2⟩ := scalar_ext env n hwf e1 e2 hel1 hel2 g1 g2 h1 h2 hlen hs i hi
  exact ⟨hcell, by rw [v1, v2, hv i]⟩

end DFV.C03
