import DFV.Lemmas.C20Plot
import DFV.Lemmas.C07Resample
/-!
What the filter in force keeps (C20): default filter, explicit filter on the same cell counts,
explicit filter on another resolution; the value an auxiliary field (filter / colour / lightness
field) contributes to a cell in closed form; the scalar image inside the default plot.
-/
namespace DFV.C20
open DFV

/-! ## auxiliary field on another resolution: closed form of the lookup -/

/-- source index of the nearest-centre lookup: cell `i` of the grid `tgt` looks, on every axis
`b`, at cell `⌊(2·i_b + 1)·n'_b / (2·n_b)⌋` of the grid `src` (`n` cell counts of `tgt`, `n'` of
`src`): the cell of `src` at the same relative position as the centre of cell `i` -/
def srcIdx (src tgt : Mesh) (i : List Nat) : List Nat :=
  tab src.ndim fun b => ((2 * i.getD b 0 + 1) * src.nAt b) / (2 * tgt.nAt b)

/-- an auxiliary field on other cell counts is resampled: the array used is the nearest-centre lookup of
its own array from its region re-gridded with the cell counts of the plotted field -/
theorem auxOnMesh_other_inv (f g : Fld) (hn : g.mesh.n ≠ f.mesh.n) (a : NDA (List Rat))
    (h : auxOnMesh f g = .ok a) :
    f.mesh.n.length = g.mesh.ndim ∧ (∀ k, k ∈ f.mesh.n → 0 < k) ∧
    a = C07.resampleNDA g.mesh (C07.regrid g.mesh f.mesh.n) g.data := by
  unfold auxOnMesh at h
  rw [if_neg hn] at h
  cases hr : C07.resample g (f.mesh.n.map Int.ofNat) with
  | error e => rw [hr] at h; cases h
  | ok r =>
    rw [hr] at h
    obtain rfl := Except.ok.inj h
    obtain ⟨hl, hpos, _, _, rfl⟩ := (C07.resample_ok_iff' g _ r).mp hr
    rw [List.length_map] at hl
    refine ⟨hl, fun k hk => Int.natCast_pos.mp (hpos _ (List.mem_map_of_mem hk)), ?_⟩
    show C07.resampleNDA g.mesh (C07.regrid g.mesh ((f.mesh.n.map Int.ofNat).map Int.toNat)) g.data = _
    rw [show (f.mesh.n.map Int.ofNat).map Int.toNat = f.mesh.n from map_toNat_natCast _]

/-- `aux.resample(field.mesh.n)` in closed form: the value used for cell `i` of the plotted
field is the value of the auxiliary field's cell `srcIdx … i` -/
theorem auxOnMesh_other (f g : Fld) (hg : g.mesh.Inv) (hn : g.mesh.n ≠ f.mesh.n) (a : NDA (List Rat))
    (h : auxOnMesh f g = .ok a) :
    ∀ i, (∀ b, b < g.mesh.ndim → i.getD b 0 < f.mesh.nAt b) →
      a.get i = g.data.get (srcIdx g.mesh f.mesh i) := by
  obtain ⟨hl, hpos, rfl⟩ := auxOnMesh_other_inv f g hn a h
  exact fun i hi => C07.resampleNDA_get g.mesh _ hg (C07.regrid_inv hg hl hpos) rfl _ i hi

/-- physical reading of `srcIdx` when both fields live on the same region: the looked-up cell is
the cell of the auxiliary mesh that CONTAINS the centre of cell `i` of the plotted field -/
theorem srcIdx_contains (src tgt : Mesh) (hs : src.Inv) (ht : tgt.Inv) (hreg : tgt.region = src.region)
    (i : List Nat) (hi : ∀ b, b < src.ndim → i.getD b 0 < tgt.nAt b) :
    srcIdx src tgt i = tab src.ndim fun b => src.indexAx b (tgt.centreAx b ((i.getD b 0 : Nat) : Int)) := by
  unfold srcIdx
  apply tab_congr
  intro b hb
  have hb' : b < tgt.ndim := by unfold Mesh.ndim at hb ⊢; rw [hreg]; exact hb
  exact (C07.resample_index src tgt b (hs.2.2 b hb) (ht.2.2 b hb')
    (by rw [hreg]) (by rw [hreg]) (hs.lo_lt_hi hb) _ (hi b hb)).symm

theorem centre_div (k n : Nat) (hn : 0 < n) : ((2 * k + 1) * n) / (2 * n) = k := by
  rw [show (2 * k + 1) * n = n + k * (2 * n) by ring, Nat.add_mul_div_right _ _ (by omega),
    Nat.div_eq_of_lt (by omega), Nat.zero_add]

theorem srcIdx_same (src tgt : Mesh) (h2 : src.ndim = 2) (hn : src.n = tgt.n) (i j : Nat)
    (hi : i < tgt.nAt 0) (hj : j < tgt.nAt 1) : srcIdx src tgt [i, j] = [i, j] := by
  have e : ∀ b, src.nAt b = tgt.nAt b := fun b => by unfold Mesh.nAt; rw [hn]
  unfold srcIdx
  rw [h2]
  show [((2 * i + 1) * src.nAt 0) / (2 * tgt.nAt 0), ((2 * j + 1) * src.nAt 1) / (2 * tgt.nAt 1)] = [i, j]
  rw [e 0, e 1, centre_div i _ (by omega), centre_div j _ (by omega)]

/-- the value an auxiliary field contributes to the cell with index `i`: its own cell on equal counts,
the cell at the same relative position otherwise -/
def auxAt (f g : Fld) (i : List Nat) : Rat :=
  if g.mesh.n = f.mesh.n then (g.data.get i).getD 0 0
  else (g.data.get (srcIdx g.mesh f.mesh i)).getD 0 0

/-- requirement on an auxiliary field whose cell counts differ: both meshes well formed -/
def AuxGeom (f g : Fld) : Prop :=
  g.mesh.n = f.mesh.n ∨ (g.mesh.Inv ∧ f.mesh.Inv)

theorem auxOnMesh_at (f g : Fld) (hgeo : AuxGeom f g)
    (hg2 : g.mesh.region.ndim = 2) (a : NDA (List Rat)) (h : auxOnMesh f g = .ok a)
    (i j : Nat) (hi : i < f.mesh.nAt 0) (hj : j < f.mesh.nAt 1) :
    (a.get [i, j]).getD 0 0 = auxAt f g [i, j] := by
  unfold auxAt
  by_cases hn : g.mesh.n = f.mesh.n
  · rw [if_pos hn]
    rw [auxOnMesh_same f g hn] at h
    injection h with h
    rw [h]
  · rw [if_neg hn]
    rcases hgeo with hgeo | ⟨hg, _⟩
    · exact absurd hgeo hn
    · rw [auxOnMesh_other f g hg hn a h [i, j]]
      intro b hb
      have hb2 : b < 2 := by unfold Mesh.ndim at hb; omega
      rcases (by omega : b = 0 ∨ b = 1) with rfl | rfl
      · simpa using hi
      · simpa using hj

/-! ## what the filter in force keeps -/

/-- the property's own description of a drawn cell: valid, and non-zero in the filter field
(looked up at the cell itself, or at the same relative position on another resolution) -/
def keptBy (f : Fld) (flt : Option Fld) (i : List Nat) : Bool :=
  f.valid.get i && match flt with
    | none => true
    | some g => !decide (auxAt f g i = 0)

/-- **Filter in force = the property's description**, for the default filter, an explicit filter
on the same cell counts and an explicit filter on another resolution alike -/
theorem filterKeep_keptBy (f : Fld) (o : Opts) (h2 : f.mesh.region.ndim = 2)
    (hgeo : ∀ g, o.filter = some g → AuxGeom f g) (keep : NDA Bool)
    (hk : filterKeep f (filterOf f o) = .ok keep) (i j : Nat) (hi : i < f.mesh.nAt 0)
    (hj : j < f.mesh.nAt 1) : keep.get [i, j] = keptBy f o.filter [i, j] := by
  cases hflt : o.filter with
  | none =>
    have hfo := filterOf_none f o hflt
    obtain ⟨keep', hk', hget⟩ := filterKeep_valid f h2
    rw [hfo, hk'] at hk
    injection hk with hk
    subst hk
    rw [hget]
    simp [keptBy]
  | some g =>
    have hfo := filterOf_some f g o hflt
    rw [hfo] at hk
    obtain ⟨_, hg2, a, ha, _, hget⟩ := filterKeep_ok_inv f g keep hk
    rw [hget, auxOnMesh_at f g (hgeo g hflt) hg2 a ha i j hi hj]
    simp only [keptBy]
    rw [Bool.and_comm]

theorem filterKeep_congr (f f' flt : Fld) (hm : f'.mesh = f.mesh) (hv : f'.valid = f.valid) :
    filterKeep f' flt = filterKeep f flt := by
  unfold filterKeep auxOnMesh
  rw [hm, hv]

/-! ## the scalar image inside the default plot -/

/-- the scalar part of `field.mpl()`: `scalar` is called on a field `f'` that shares mesh and
validity with the plotted field `f` and whose value is component `c` of `f` (the field itself,
`c = 0`, or `getattr(field, label)`), with the multiplier of the call and the filter in force -/
theorem default_scalar_image (f' f : Fld) (o : Opts) (m : Rat) (c : Nat) (cs : List PlotCall)
    (hinv : f.mesh.Inv) (hm : f'.mesh = f.mesh) (hv : f'.valid = f.valid)
    (hd : ∀ i, (f'.data.get i).getD 0 0 = (f.data.get i).getD c 0)
    (hgeo : ∀ g, o.filter = some g → AuxGeom f g)
    (h : mplScalar f' { o with mult := some m, filter := some (filterOf f o) } = .ok cs) :
    0 < m ∧ ∃ img lab, axisLabels f.mesh.region m = .ok lab ∧
      cs = [.imshow img "lower" (extentOf f.mesh.region m), lab] ∧ img.shape = [f.mesh.nAt 1, f.mesh.nAt 0] ∧
      ∀ i j, i < f.mesh.nAt 0 → j < f.mesh.nAt 1 →
        img.get [j, i] = if keptBy f o.filter [i, j] then some ((f.data.get [i, j]).getD c 0) else none := by
  obtain ⟨h2, _, m2, keep, lab, hpos, hm2, hk, hl, hc⟩ := mplScalar_inv f' _ cs (by rw [hm]; exact hinv) h
  obtain rfl : m = m2 := Except.ok.inj hm2
  rw [hm] at h2 hl hc
  have hfo : filterOf f' { o with mult := some m, filter := some (filterOf f o) } = filterOf f o := rfl
  rw [hfo, filterKeep_congr f f' _ hm hv] at hk
  refine ⟨hpos, _, lab, hl, hc, by rw [imgOf_shape]; rfl, fun i j hi hj => ?_⟩
  rw [imgOf_get _ (mesh_n_two f.mesh hinv h2), filterKeep_keptBy f o h2 hgeo keep hk i j hi hj, hd]

end DFV.C20
