import DFV.Lemmas.C01Cell
import DFV.Lemmas.C01Ctor
import DFV.Lemmas.C02Basic
/-! C02: subregions that are unions of cells (`AlignedSub`) — their slices are their index box, a
cell lies in the box iff the subregion contains its centre, and `mesh[subregion]`
(= `Mesh(region=subregion, cell=mesh.cell)`) is the mesh of the box with the same cells. -/
namespace DFV.C02
open DFV DFV.Mesh

/-- `r` is the union of the cells `k1 a ≤ i_a < k2 a` of mesh `m` (what the subregion setter
of `Mesh` guarantees, C14) -/
structure AlignedSub (m : Mesh) (r : Region) (k1 k2 : Nat → Nat) : Prop where
  ndim : r.ndim = m.ndim
  box : ∀ a, a < m.ndim → k1 a < k2 a ∧ k2 a ≤ m.nAt a ∧
    r.lo a = m.region.lo a + (k1 a : Rat) * m.cellAt a ∧
    r.hi a = m.region.lo a + (k2 a : Rat) * m.cellAt a

/-- the submesh `mesh[subregion]` of a union of cells -/
def subMeshOf (m : Mesh) (r : Region) (k1 k2 : Nat → Nat) : Mesh :=
  { region := r, n := tab m.ndim fun a => k2 a - k1 a, bc := "", subs := [] }

/-- index of mesh cell `i` inside the submesh -/
def subIdx (m : Mesh) (k1 : Nat → Nat) (i : List Nat) : List Nat := tab m.ndim fun a => i.getD a 0 - k1 a

/-! ### the index box -/

theorem inBox_tab (n : Nat) (k1 k2 : Nat → Nat) (j : List Nat) :
    inBox (tab n k1) (tab n k2) j = true ↔ ∀ a, a < n → k1 a ≤ j.getD a 0 ∧ j.getD a 0 < k2 a := by
  unfold inBox
  rw [allLt_iff, tab_length]
  refine forall_congr' fun a => imp_congr_right fun ha => ?_
  rw [getD_tab _ _ _ _ ha, getD_tab _ _ _ _ ha, Bool.and_eq_true, decide_eq_true_eq, decide_eq_true_eq]

theorem boxShape_tab (n : Nat) (k1 k2 : Nat → Nat) :
    boxShape (tab n k1) (tab n k2) = tab n fun a => k2 a - k1 a := by
  unfold boxShape
  rw [tab_length]
  exact tab_congr _ _ _ fun a ha => by rw [getD_tab _ _ _ _ ha, getD_tab _ _ _ _ ha]

theorem region2slices_spec (m : Mesh) (hm : m.Inv) (r : Region) (k1 k2 : Nat → Nat)
    (h : AlignedSub m r k1 k2) : region2slices m r = .ok (tab m.ndim k1, tab m.ndim k2) := by
  -- the two probe points are the centres of the cells `k1` and `k2 - 1`
  have e1 : (tab m.ndim fun a => r.lo a + m.cellAt a / 2) = tab m.ndim fun a => m.centreAx a (k1 a : Nat) :=
    tab_congr _ _ _ fun a ha => by rw [(h.box a ha).2.2.1, C01.centreAx_natCast]; ring
  have e2 : (tab m.ndim fun a => r.hi a - m.cellAt a / 2) =
      tab m.ndim fun a => m.centreAx a ((k2 a - 1 : Nat) : Nat) :=
    tab_congr _ _ _ fun a ha => by
      rw [(h.box a ha).2.2.2, C01.centreAx_natCast, Nat.cast_pred (by have := h.box a ha; omega)]; ring
  unfold region2slices
  rw [e1, e2, C01.point2index_centres m hm k1 (fun a ha => by have := h.box a ha; omega),
    C01.point2index_centres m hm (fun a => k2 a - 1) (fun a ha => by have := h.box a ha; omega)]
  refine congrArg (fun t => Except.ok (tab m.ndim k1, t)) (tab_congr _ _ _ fun a ha => ?_)
  have := h.box a ha
  rw [getD_tab _ _ _ _ ha]; omega

/-- along one axis: `k1 ≤ i < k2` iff the centre of cell `i` lies between the faces `k1` and `k2` -/
theorem centre_between_faces (lo c : Rat) (hc : 0 < c) (k1 k2 i : Nat) :
    (lo + (k1 : Rat) * c ≤ lo + ((i : Rat) + 1 / 2) * c ∧ lo + ((i : Rat) + 1 / 2) * c ≤ lo + (k2 : Rat) * c) ↔
      k1 ≤ i ∧ i < k2 := by
  rw [add_le_add_iff_left, add_le_add_iff_left, mul_le_mul_iff_of_pos_right hc, mul_le_mul_iff_of_pos_right hc]
  constructor
  · rintro ⟨h1, h2⟩
    have g1 : (k1 : Rat) < (i : Rat) + 1 := by linarith only [h1]
    have g2 : (i : Rat) < (k2 : Rat) := by linarith only [h2]
    exact ⟨Nat.lt_succ_iff.mp (by exact_mod_cast g1), by exact_mod_cast g2⟩
  · rintro ⟨h1, h2⟩
    have g1 : (k1 : Rat) ≤ (i : Rat) := by exact_mod_cast h1
    have g2 : (i : Rat) + 1 ≤ (k2 : Rat) := by exact_mod_cast h2
    exact ⟨by linarith only [g1], by linarith only [g2]⟩

theorem inBox_iff_centre (m : Mesh) (hm : m.Inv) (r : Region) (k1 k2 : Nat → Nat)
    (h : AlignedSub m r k1 k2) (i : List Nat) (hi : inRange m.n i = true) (rest : List Nat) :
    inBox (tab m.ndim k1) (tab m.ndim k2) (i ++ rest) = true ↔
      ∀ a, a < m.ndim → r.lo a ≤ m.centreAx a (i.getD a 0 : Nat) ∧ m.centreAx a (i.getD a 0 : Nat) ≤ r.hi a := by
  have hil : i.length = m.ndim := hm.length_eq hi
  rw [inBox_tab]
  refine forall_congr' fun a => imp_congr_right fun ha => ?_
  obtain ⟨_, _, h3, h4⟩ := h.box a ha
  rw [getD_append_left _ _ _ _ (by omega), h3, h4, C01.centreAx_natCast]
  exact (centre_between_faces _ _ (hm.cellAt_pos ha) _ _ _).symm

theorem subIdx_inRange (m : Mesh) (k1 k2 : Nat → Nat) (i : List Nat) (hi : i.length = m.ndim) (rest : List Nat)
    (hb : inBox (tab m.ndim k1) (tab m.ndim k2) (i ++ rest) = true) :
    inRange (tab m.ndim fun a => k2 a - k1 a) (subIdx m k1 i) = true := by
  rw [inRange_iff, subIdx, tab_length, tab_length]
  refine ⟨rfl, fun a ha => ?_⟩
  have := (inBox_tab _ _ _ _).mp hb a ha
  rw [getD_append_left _ _ _ _ (by omega)] at this
  rw [getD_tab _ _ _ _ ha, getD_tab _ _ _ _ ha]
  omega

theorem localIdx_snoc (m : Mesh) (k1 : Nat → Nat) (i : List Nat) (hi : i.length = m.ndim) (c : Nat) :
    localIdx (tab m.ndim k1) (i ++ [c]) = subIdx m k1 i ++ [c] := by
  have e : (i ++ [c]).getD m.ndim 0 = c := by rw [← hi]; exact getD_concat_length i c 0
  unfold localIdx subIdx
  rw [List.length_append, List.length_singleton, hi, tab_succ, e, getD_tab_ge _ _ _ _ (le_refl _), Nat.sub_zero]
  exact congrArg (· ++ [c]) (tab_congr _ _ _ fun a ha => by
    rw [getD_append_left _ _ _ _ (by omega), getD_tab _ _ _ _ ha])

/-! ### the submesh -/

theorem AlignedSub.edge {m : Mesh} {r : Region} {k1 k2 : Nat → Nat} (h : AlignedSub m r k1 k2) (a : Nat)
    (ha : a < m.ndim) : r.edge a = ((k2 a - k1 a : Nat) : Rat) * m.cellAt a := by
  obtain ⟨h1, _, h3, h4⟩ := h.box a ha
  rw [Region.edge, h3, h4, Nat.cast_sub h1.le]; ring

theorem mkCell_aligned (m : Mesh) (hm : m.Inv) (r : Region) (k1 k2 : Nat → Nat) (h : AlignedSub m r k1 k2) :
    Mesh.mkCell? r m.cell = .ok (subMeshOf m r k1 k2) := by
  -- every edge of the subregion is exactly a whole positive number of cells
  have := C01.mkCell_of_exact r m.cell (fun a => k2 a - k1 a) "" (by rw [h.ndim, Mesh.cell, tab_length])
    (fun y hy => by
      obtain ⟨a, ha, rfl⟩ := (mem_tab _ _ _).mp hy
      exact hm.cellAt_pos ha)
    (fun a ha => ⟨by have := h.box a (h.ndim ▸ ha); omega, by
      rw [C01.cell_getD m a (h.ndim ▸ ha), h.edge a (h.ndim ▸ ha)]⟩)
    (by rw [C01.toLower_empty]; simp [bcOk])
  rw [C01.toLower_empty, h.ndim] at this
  exact this

theorem subMesh_cellAt (m : Mesh) (r : Region) (k1 k2 : Nat → Nat) (h : AlignedSub m r k1 k2) (a : Nat)
    (ha : a < m.ndim) : (subMeshOf m r k1 k2).cellAt a = m.cellAt a := by
  have hk : ((k2 a - k1 a : Nat) : Rat) ≠ 0 := Nat.cast_ne_zero.mpr (by have := h.box a ha; omega)
  show r.edge a / (((tab m.ndim fun a => k2 a - k1 a).getD a 0 : Nat) : Rat) = m.cellAt a
  rw [getD_tab _ _ _ _ ha, h.edge a ha, mul_div_cancel_left₀ _ hk]

theorem subMesh_centre (m : Mesh) (r : Region) (k1 k2 : Nat → Nat) (hal : AlignedSub m r k1 k2)
    (i : List Nat) (hi : i.length = m.ndim) (rest : List Nat)
    (hb : inBox (tab m.ndim k1) (tab m.ndim k2) (i ++ rest) = true) :
    (subMeshOf m r k1 k2).centre (subIdx m k1 i) = m.centre i := by
  unfold Mesh.centre
  show tab r.ndim _ = _
  rw [hal.ndim]
  apply tab_congr
  intro a ha
  have := (inBox_tab _ _ _ _).mp hb a ha
  rw [getD_append_left _ _ _ _ (by omega)] at this
  rw [C01.centreAx_natCast, C01.centreAx_natCast, subMesh_cellAt m r k1 k2 hal a ha, subIdx, getD_tab _ _ _ _ ha,
    Nat.cast_sub this.1]
  show r.lo a + _ = _
  rw [(hal.box a ha).2.2.1]; ring

end DFV.C02
