import Mathlib.Data.List.Induction
import DFV.Lemmas.C02Leaf
/-! C02: the dictionary overload on any mesh — the fill, the reversed loop over the subregions, the default
pass; the conversion taken apart into the three (`asArray_dict_eq_ok_iff`), when it is accepted
(`asArray_dict_accepted_iff`) and what its entries are (`asArray_dict_get`). -/
namespace DFV.C02
open DFV DFV.Mesh

variable {V : Type} [Inhabited V]

/-- what the loop body for subregion `p` has ready before it touches the array: the slices and the array
to paint there (`none`: `p` is not a key of the dictionary, the body skips it).  Nothing up to this point
depends on the array under construction, so acceptance of the loop is a property of the subregions alone
(`dictLoop_ok_iff`). -/
def patchOf (isZero : V → Bool) (items : List (String × Leaf V)) (m : Mesh) (nv : Nat) (p : String × Region) :
    M (Option ((List Nat × List Nat) × NDA V)) :=
  match Mesh.mkCell? p.2 m.cell with
  | .error e => .error e
  | .ok sm =>
    match lookupLeaf items p.1 with
    | none => .ok none
    | some l =>
      match region2slices m sm.region with
      | .error e => .error e
      | .ok sl =>
        match asLeaf isZero l sm nv with
        | .error e => .error e
        | .ok sub =>
          match bcast (boxShape sl.1 sl.2 ++ [nv]) sub with
          | .error e => .error e
          | .ok sb => .ok (some (sl, sb))

/-- what a patch writes at entry `j` (`none`: `j` lies outside its slices) -/
def patchGet (q : (List Nat × List Nat) × NDA V) (j : List Nat) : Option V :=
  if inBox q.1.1 q.1.2 j then some (q.2.get (localIdx q.1.1 j)) else none

/-- the array with a patch painted on it -/
def painted (a : NDA (Option V)) (q : (List Nat × List Nat) × NDA V) : NDA (Option V) :=
  ⟨a.shape, fun j => if inBox q.1.1 q.1.2 j then some (q.2.get (localIdx q.1.1 j)) else a.get j⟩

omit [Inhabited V] in
theorem painted_get (a : NDA (Option V)) (q : (List Nat × List Nat) × NDA V) (j : List Nat) :
    (painted a q).get j = (patchGet q j).or (a.get j) := by
  unfold painted patchGet
  dsimp only
  split <;> rfl

/-- one round of the loop: the body fails, skips `p`, or paints its patch -/
theorem dictLoop_cons (isZero : V → Bool) (items : List (String × Leaf V)) (m : Mesh) (nv : Nat)
    (p : String × Region) (rest : List (String × Region)) (a : NDA (Option V)) :
    dictLoop isZero items m nv (p :: rest) a =
      match patchOf isZero items m nv p with
      | .error e => .error e
      | .ok none => dictLoop isZero items m nv rest a
      | .ok (some q) => dictLoop isZero items m nv rest (painted a q) := by
  obtain ⟨name, reg⟩ := p
  simp only [dictLoop, patchOf, paint]
  -- the body of `dictLoop` and `patchOf` branch on the same five results, in the same order
  cases Mesh.mkCell? reg m.cell with
  | error e => rfl
  | ok sm =>
    dsimp only
    cases lookupLeaf items name with
    | none => rfl
    | some l =>
      dsimp only
      cases region2slices m sm.region with
      | error e => rfl
      | ok sl =>
        dsimp only
        cases asLeaf isZero l sm nv with
        | error e => rfl
        | ok sub =>
          dsimp only
          cases bcast (boxShape sl.1 sl.2 ++ [nv]) sub <;> rfl

/-- what the loop body for subregion `p` writes at entry `j` (`none`: it does not touch `j`): `patchOf` read at one
entry, a failing body counted as not writing (`patchVal_eq`) -/
def patchVal (isZero : V → Bool) (items : List (String × Leaf V)) (m : Mesh) (nv : Nat)
    (p : String × Region) (j : List Nat) : Option V :=
  match Mesh.mkCell? p.2 m.cell with
  | .error _ => none
  | .ok sm =>
    match lookupLeaf items p.1 with
    | none => none
    | some l =>
      match region2slices m sm.region with
      | .error _ => none
      | .ok sl =>
        match asLeaf isZero l sm nv with
        | .error _ => none
        | .ok sub =>
          match bcast (boxShape sl.1 sl.2 ++ [nv]) sub with
          | .error _ => none
          | .ok sb => if inBox sl.1 sl.2 j then some (sb.get (localIdx sl.1 j)) else none

theorem patchVal_eq (isZero : V → Bool) (items : List (String × Leaf V)) (m : Mesh) (nv : Nat)
    (p : String × Region) (j : List Nat) :
    patchVal isZero items m nv p j =
      match patchOf isZero items m nv p with
      | .ok (some q) => patchGet q j
      | _ => none := by
  simp only [patchVal, patchOf]
  cases Mesh.mkCell? p.2 m.cell with
  | error e => rfl
  | ok sm =>
    dsimp only
    cases lookupLeaf items p.1 with
    | none => rfl
    | some l =>
      dsimp only
      cases region2slices m sm.region with
      | error e => rfl
      | ok sl =>
        dsimp only
        cases asLeaf isZero l sm nv with
        | error e => rfl
        | ok sub =>
          dsimp only
          cases bcast (boxShape sl.1 sl.2 ++ [nv]) sub <;> rfl

theorem patchVal_unlisted (isZero : V → Bool) (items : List (String × Leaf V)) (m : Mesh) (nv : Nat)
    (p : String × Region) (j : List Nat) (h : lookupLeaf items p.1 = none) :
    patchVal isZero items m nv p j = none := by
  unfold patchVal
  split
  · rfl
  · rw [h]

/-- the loop over the REVERSED list: the entry is written by the last processed subregion that touches
it, i.e. by the FIRST listed one -/
theorem dictLoop_get (isZero : V → Bool) (items : List (String × Leaf V)) (m : Mesh) (nv : Nat)
    (l : List (String × Region)) (a0 a : NDA (Option V))
    (h : dictLoop isZero items m nv l.reverse a0 = .ok a) :
    a.shape = a0.shape ∧
    ∀ j, a.get j = (l.findSome? fun p => patchVal isZero items m nv p j).or (a0.get j) := by
  induction l using List.reverseRecOn generalizing a0 with
  | nil =>
    injection h with h; subst h
    exact ⟨rfl, fun _ => rfl⟩
  | append_singleton rest p ih =>
    rw [List.reverse_append, List.reverse_singleton, List.singleton_append, dictLoop_cons] at h
    have hp := patchVal_eq isZero items m nv p
    cases hq : patchOf isZero items m nv p with
    | error e => rw [hq] at h; cases h
    | ok o =>
      rw [hq] at h hp
      cases o with
      | none =>
        dsimp only at hp
        obtain ⟨hs, hg⟩ := ih a0 h
        refine ⟨hs, fun j => ?_⟩
        rw [hg j, List.findSome?_append, List.findSome?_cons, hp j]
        cases (rest.findSome? fun p => patchVal isZero items m nv p j) <;> rfl
      | some q =>
        dsimp only at hp
        obtain ⟨hs, hg⟩ := ih _ h
        refine ⟨hs, fun j => ?_⟩
        rw [hg j, painted_get, List.findSome?_append, List.findSome?_cons, hp j]
        cases (rest.findSome? fun p => patchVal isZero items m nv p j) <;> cases patchGet q j <;> rfl

omit [Inhabited V] in
theorem anyNone_iff (a : NDA (Option V)) : anyNone a = true ↔ ∃ j, inRange a.shape j = true ∧ a.get j = none := by
  simp only [anyNone, List.any_eq_true, mem_indicesC_iff, Option.isNone_iff_eq_none]

omit [Inhabited V] in
theorem anyNone_iff_cell (a : NDA (Option V)) (n : List Nat) (nv : Nat) (hs : a.shape = n ++ [nv]) :
    anyNone a = true ↔ ∃ i c, inRange n i = true ∧ c < nv ∧ a.get (i ++ [c]) = none := by
  rw [anyNone_iff, hs]
  constructor
  · rintro ⟨j, hj, hn⟩
    obtain ⟨i, c, rfl, hi, hc⟩ := inRange_snoc_cases n nv j hj
    exact ⟨i, c, hi, hc, hn⟩
  · rintro ⟨i, c, hi, hc, hn⟩
    exact ⟨_, inRange_snoc_of hi hc, hn⟩

theorem dictLoop_unset (isZero : V → Bool) (items : List (String × Leaf V)) (m : Mesh) (nv : Nat)
    (l : List (String × Region)) (a0 a : NDA (Option V)) (h : dictLoop isZero items m nv l.reverse a0 = .ok a)
    (j : List Nat) (hj : inRange a0.shape j = true) (h0 : a0.get j = none)
    (hun : (l.findSome? fun p => patchVal isZero items m nv p j) = none) :
    a.get j = none ∧ anyNone a = true := by
  obtain ⟨hs, hg⟩ := dictLoop_get isZero items m nv l a0 a h
  have n : a.get j = none := by rw [hg, hun, h0]; rfl
  exact ⟨n, (anyNone_iff a).mpr ⟨j, hs ▸ hj, n⟩⟩

theorem dictLoop_ok_iff (isZero : V → Bool) (items : List (String × Leaf V)) (m : Mesh) (nv : Nat)
    (l : List (String × Region)) (a0 : NDA (Option V)) :
    (∃ a, dictLoop isZero items m nv l a0 = .ok a) ↔ ∀ p ∈ l, ∃ o, patchOf isZero items m nv p = .ok o := by
  induction l generalizing a0 with
  | nil => exact ⟨fun _ _ h => (nomatch h), fun _ => ⟨a0, rfl⟩⟩
  | cons p rest ih =>
    rw [dictLoop_cons, List.forall_mem_cons]
    cases patchOf isZero items m nv p with
    | error e => exact ⟨fun ⟨_, h⟩ => (nomatch h), fun ⟨⟨_, h⟩, _⟩ => (nomatch h)⟩
    | ok o =>
      cases o with
      | none => exact (ih a0).trans ⟨fun h => ⟨⟨_, rfl⟩, h⟩, fun h => h.2⟩
      | some q => exact (ih _).trans ⟨fun h => ⟨⟨_, rfl⟩, h⟩, fun h => h.2⟩

/-- the loop only looks the keys of the value dictionary up -/
theorem dictLoop_congr (isZero : V → Bool) (items items' : List (String × Leaf V)) (m : Mesh) (nv : Nat)
    (h : ∀ name, lookupLeaf items name = lookupLeaf items' name) (l : List (String × Region)) (a : NDA (Option V)) :
    dictLoop isZero items m nv l a = dictLoop isZero items' m nv l a := by
  have hp : ∀ p, patchOf isZero items m nv p = patchOf isZero items' m nv p := fun p => by
    simp only [patchOf, h]
  induction l generalizing a with
  | nil => rfl
  | cons p rest ih =>
    rw [dictLoop_cons, dictLoop_cons, hp]
    cases patchOf isZero items' m nv p with
    | error e => rfl
    | ok o => cases o <;> exact ih _

/-! ### the default pass -/

theorem setCellO_get (a : NDA (Option V)) (idx : List Nat) (vs : List V) (i : List Nat) (c : Nat) :
    (setCellO a idx vs).get (i ++ [c]) = if i = idx then some (vs.getD c default) else a.get (i ++ [c]) := by
  simp [setCellO, List.getLastD_eq_getLast?]

theorem dfltLoop_get (d : Dflt V) (m : Mesh) (nv : Nat) (l : List (List Nat)) (a b : NDA (Option V))
    (h : dfltLoop d m nv l a = .ok b) :
    b.shape = a.shape ∧ ∀ i c,
      (i ∈ l → ∃ vs, dfltCell d m i = .ok vs ∧ vs.length = nv ∧ b.get (i ++ [c]) = some (vs.getD c default)) ∧
      (i ∉ l → b.get (i ++ [c]) = a.get (i ++ [c])) := by
  induction l generalizing a with
  | nil =>
    injection h with h; subst h
    exact ⟨rfl, fun i c => ⟨fun hi => (nomatch hi), fun _ => rfl⟩⟩
  | cons i0 rest ih =>
    simp only [dfltLoop] at h
    cases hvs0 : dfltCell d m i0 with
    | error e => rw [hvs0] at h; cases h
    | ok vs0 =>
      rw [hvs0] at h
      by_cases hlen : vs0.length ≠ nv
      · simp only [if_pos hlen] at h; cases h
      · simp only [if_neg hlen] at h
        obtain ⟨hs, hg⟩ := ih _ h
        -- `setCellO` keeps the shape (`rfl`)
        refine ⟨hs.trans rfl, fun i c => ⟨fun hi => ?_, fun hi => ?_⟩⟩
        · by_cases hr : i ∈ rest
          · exact (hg i c).1 hr
          · have hi0 : i = i0 := (List.mem_cons.mp hi).resolve_right hr
            subst hi0
            refine ⟨vs0, hvs0, not_not.mp hlen, ?_⟩
            rw [(hg i c).2 hr, setCellO_get, if_pos rfl]
        · have h1 : i ≠ i0 := fun e => hi (e ▸ List.mem_cons_self)
          have h2 : i ∉ rest := fun e => hi (List.mem_cons_of_mem _ e)
          rw [(hg i c).2 h2, setCellO_get, if_neg h1]

theorem dfltLoop_ok_iff (d : Dflt V) (m : Mesh) (nv : Nat) (l : List (List Nat)) (a : NDA (Option V)) :
    (∃ b, dfltLoop d m nv l a = .ok b) ↔ ∀ i ∈ l, ∃ vs, dfltCell d m i = .ok vs ∧ vs.length = nv := by
  induction l generalizing a with
  | nil => exact ⟨fun _ _ h => (nomatch h), fun _ => ⟨a, rfl⟩⟩
  | cons i rest ih =>
    rw [dfltLoop, List.forall_mem_cons]
    cases dfltCell d m i with
    | error e => exact ⟨fun ⟨_, h⟩ => (nomatch h), fun ⟨⟨_, h, _⟩, _⟩ => (nomatch h)⟩
    | ok vs =>
      dsimp only
      by_cases hl : vs.length = nv
      · rw [if_neg (not_not.mpr hl), ih]
        exact ⟨fun h => ⟨⟨vs, rfl, hl⟩, h⟩, fun h => h.2⟩
      · rw [if_pos hl]
        exact ⟨fun ⟨_, h⟩ => (nomatch h), fun ⟨⟨_, h, h'⟩, _⟩ => absurd (Except.ok.inj h ▸ h') hl⟩

omit [Inhabited V] in
theorem anyNone_false (a : NDA (Option V)) (h : anyNone a = false) (j : List Nat)
    (hj : inRange a.shape j = true) : (a.get j).isSome = true := by
  cases hh : a.get j with
  | some v => rfl
  | none => rw [(anyNone_iff a).mpr ⟨j, hj, hh⟩] at h; cases h

omit [Inhabited V] in
theorem mem_nanCells (m : Mesh) (a : NDA (Option V)) (i : List Nat) :
    i ∈ nanCells m a ↔ inRange m.n i = true ∧ a.get (i ++ [0]) = none := by
  simp only [nanCells, List.mem_filter, mem_indicesC_iff, Option.isNone_iff_eq_none]

/-! ### slices only look at the spatial part of an index -/

theorem inBox_append (lo hi i r : List Nat) (h : lo.length ≤ i.length) :
    inBox lo hi (i ++ r) = inBox lo hi i := by
  unfold inBox
  rw [Bool.eq_iff_iff, allLt_iff, allLt_iff]
  constructor
  · intro hh a ha
    have := hh a ha
    rwa [getD_append_left _ _ _ _ (by omega)] at this
  · intro hh a ha
    rw [getD_append_left _ _ _ _ (by omega)]
    exact hh a ha

theorem region2slices_len (m : Mesh) (r : Region) (sl : List Nat × List Nat)
    (h : region2slices m r = .ok sl) : sl.1.length = m.ndim := by
  unfold region2slices at h
  split at h
  · cases h
  · rename_i i1 h1
    split at h
    · cases h
    · cases h
      rw [((C01.point2index_ok_iff_containsPt m _ i1).mp h1).2.2, tab_length]

/-- whether the loop body writes an entry does not depend on the component: the box test ignores the
component index (`inBox_append`) -/
theorem patchVal_isSome_comp (isZero : V → Bool) (items : List (String × Leaf V)) (m : Mesh) (nv : Nat)
    (p : String × Region) (i : List Nat) (hi : i.length = m.ndim) (c c' : Nat) :
    (patchVal isZero items m nv p (i ++ [c])).isSome = (patchVal isZero items m nv p (i ++ [c'])).isSome := by
  unfold patchVal
  split
  · rfl
  · split
    · rfl
    · split
      · rfl
      · rename_i sl hsl
        split
        · rfl
        · split
          · rfl
          · have hl := region2slices_len _ _ _ hsl
            rw [inBox_append _ _ _ _ (by omega), inBox_append _ _ _ _ (by omega)]
            split <;> rfl

/-! ### the assembled conversion -/

/-- value the default assigns to component `c` of cell `i`: a non-callable default is broadcast
by `np.full`, a callable one is evaluated at the cell centre, a field default is sampled there -/
def dfltVal (dflt : Option (Dflt V)) (m : Mesh) (nv : Nat) (i : List Nat) (c : Nat) : V :=
  match dflt with
  | some (.val a) => a.get (bcastIdx (m.n ++ [nv]) a.shape (i ++ [c]))
  | some (.func f) => (f (m.centre i)).getD c default
  | some (.field src) =>
    match src.call (m.centre i) with
    | .ok vs => vs.getD c default
    | .error _ => default
  | _ => default

/-- the `default` entry can be handed to `np.full` (a callable or absent default is not) -/
def dfltFillOk (dflt : Option (Dflt V)) (m : Mesh) (nv : Nat) : Prop :=
  match dflt with
  | some (.val d) => bcastOk (m.n ++ [nv]) d.shape = true
  | some .bad => False
  | _ => True

/-- the array the loop starts from: a constant default broadcast, otherwise the sentinel everywhere -/
def fillArr (dflt : Option (Dflt V)) (m : Mesh) (nv : Nat) : NDA (Option V) :=
  match dflt with
  | some (.val arr) => ⟨m.n ++ [nv], fun j => some (arr.get (bcastIdx (m.n ++ [nv]) arr.shape j))⟩
  | _ => NDA.const (m.n ++ [nv]) none

omit [Inhabited V] in
theorem fillOf_eq_ok_iff (dflt : Option (Dflt V)) (m : Mesh) (nv : Nat) (a0 : NDA (Option V)) :
    fillOf dflt m nv = .ok a0 ↔ dfltFillOk dflt m nv ∧ a0 = fillArr dflt m nv := by
  unfold fillOf dfltFillOk fillArr
  rcases dflt with _ | (arr | f | src | _)
  · exact ⟨fun h => ⟨trivial, (Except.ok.inj h).symm⟩, fun h => h.2 ▸ rfl⟩
  · simp only [bcast]
    by_cases hb : bcastOk (m.n ++ [nv]) arr.shape = true
    · rw [if_pos hb]; exact ⟨fun h => ⟨hb, (Except.ok.inj h).symm⟩, fun h => h.2 ▸ rfl⟩
    · rw [if_neg hb]; exact ⟨nofun, fun h => absurd h.1 hb⟩
  · exact ⟨fun h => ⟨trivial, (Except.ok.inj h).symm⟩, fun h => h.2 ▸ rfl⟩
  · exact ⟨fun h => ⟨trivial, (Except.ok.inj h).symm⟩, fun h => h.2 ▸ rfl⟩
  · exact ⟨nofun, fun h => h.1.elim⟩

omit [Inhabited V] in
theorem fillArr_spec (dflt : Option (Dflt V)) (m : Mesh) (nv : Nat) :
    (fillArr dflt m nv).shape = m.n ++ [nv] ∧
    ((∃ arr, dflt = some (.val arr) ∧
        ∀ j, (fillArr dflt m nv).get j = some (arr.get (bcastIdx (m.n ++ [nv]) arr.shape j))) ∨
     ((∀ arr, dflt ≠ some (.val arr)) ∧ ∀ j, (fillArr dflt m nv).get j = none)) := by
  rcases dflt with _ | (arr | f | src | _)
  · exact ⟨rfl, Or.inr ⟨nofun, fun _ => rfl⟩⟩
  · exact ⟨rfl, Or.inl ⟨arr, rfl, fun _ => rfl⟩⟩
  · exact ⟨rfl, Or.inr ⟨nofun, fun _ => rfl⟩⟩
  · exact ⟨rfl, Or.inr ⟨nofun, fun _ => rfl⟩⟩
  · exact ⟨rfl, Or.inr ⟨nofun, fun _ => rfl⟩⟩

omit [Inhabited V] in
theorem dfltCell_eq (d : Dflt V) (m : Mesh) (hlen : m.n.length = m.ndim) (i : List Nat) (hi : inRange m.n i = true) :
    dfltCell d m i =
      match d with
      | .func f => .ok (f (m.centre i))
      | .field src => src.call (m.centre i)
      | _ => .error .type := by
  unfold dfltCell
  rw [index2point_nat m hlen i hi]
  cases d <;> rfl

theorem dfltCell_val (d : Dflt V) (m : Mesh) (nv : Nat) (hlen : m.n.length = m.ndim) (i : List Nat)
    (hi : inRange m.n i = true) (vs : List V) (h : dfltCell d m i = .ok vs) (c : Nat) :
    vs.getD c default = dfltVal (some d) m nv i c := by
  rw [dfltCell_eq d m hlen i hi] at h
  cases d with
  | val arr => cases h
  | func f => cases h; rfl
  | field src => simp only at h; simp only [dfltVal, h]
  | bad => cases h

/-- the dictionary conversion taken apart, once; what is proved about dictionaries — shape, acceptance, entries,
rejections — goes through this statement -/
theorem asArray_dict_eq_ok_iff (isZero : V → Bool) (items : List (String × Leaf V)) (dflt : Option (Dflt V))
    (m : Mesh) (nv : Nat) (a : NDA V) :
    asArray isZero (.dict items dflt) m nv = .ok a ↔
      dfltFillOk dflt m nv ∧ ∃ a1, dictLoop isZero items m nv m.subs.reverse (fillArr dflt m nv) = .ok a1 ∧
        ((anyNone a1 = false ∧ a = unwrap a1) ∨
         (anyNone a1 = true ∧ ∃ d, dflt = some d ∧ ∃ a2, dfltLoop d m nv (nanCells m a1) a1 = .ok a2 ∧
            a = unwrap a2)) := by
  simp only [asArray]
  cases hf : fillOf dflt m nv with
  | error e => exact ⟨nofun, fun h => by rw [(fillOf_eq_ok_iff dflt m nv _).mpr ⟨h.1, rfl⟩] at hf; cases hf⟩
  | ok a0 =>
    obtain ⟨hfill, rfl⟩ := (fillOf_eq_ok_iff dflt m nv a0).mp hf
    rw [and_iff_right hfill]
    dsimp only
    cases dictLoop isZero items m nv m.subs.reverse (fillArr dflt m nv) with
    | error e => exact ⟨nofun, fun ⟨_, h, _⟩ => nomatch h⟩
    | ok a1 =>
      simp only [Except.ok.injEq, exists_eq_left']
      cases hany : anyNone a1 with
      | false => simp [eq_comm]
      | true =>
        rw [if_pos rfl]
        cases dflt with
        | none => simp
        | some d =>
          simp only [Option.some.injEq, exists_eq_left']
          cases dfltLoop d m nv (nanCells m a1) a1 with
          | error e => simp
          | ok a2 => simp [eq_comm]

/-- after fill and loop the components of a cell are set or unset together -/
theorem dictLoop_isSome_comp (isZero : V → Bool) (items : List (String × Leaf V)) (dflt : Option (Dflt V))
    (m : Mesh) (nv : Nat) (a1 : NDA (Option V))
    (h : dictLoop isZero items m nv m.subs.reverse (fillArr dflt m nv) = .ok a1)
    (i : List Nat) (hi : i.length = m.ndim) (c : Nat) :
    (a1.get (i ++ [c])).isSome = (a1.get (i ++ [0])).isSome := by
  obtain ⟨_, hg⟩ := dictLoop_get isZero items m nv _ _ a1 h
  rw [hg, hg]
  obtain ⟨_, ⟨arr, _, hget⟩ | ⟨_, hget⟩⟩ := fillArr_spec dflt m nv
  · simp only [hget, Option.isSome_or, Option.isSome_some, Bool.or_true]
  · rw [hget, hget, Option.or_none, Option.or_none, Bool.eq_iff_iff, List.findSome?_isSome_iff,
      List.findSome?_isSome_iff]
    simp only [patchVal_isSome_comp isZero items m nv _ i hi c 0]

/-- THE ENTRIES OF AN ACCEPTED DICTIONARY CONVERSION: what fill and loop have set is final; a cell they left unset
holds what the default assigns to it -/
theorem asArray_dict_get (isZero : V → Bool) (items : List (String × Leaf V)) (dflt : Option (Dflt V))
    (m : Mesh) (nv : Nat) (a : NDA V) (hlen : m.n.length = m.ndim)
    (h : asArray isZero (.dict items dflt) m nv = .ok a) (i : List Nat) (hi : inRange m.n i = true) (c : Nat)
    (hc : c < nv) :
    ∃ a1, dictLoop isZero items m nv m.subs.reverse (fillArr dflt m nv) = .ok a1 ∧
      a.get (i ++ [c]) = match a1.get (i ++ [c]) with
        | some v => v
        | none => dfltVal dflt m nv i c := by
  obtain ⟨_, a1, hloop, hrest⟩ := (asArray_dict_eq_ok_iff isZero items dflt m nv a).mp h
  have hcomp := dictLoop_isSome_comp isZero items dflt m nv a1 hloop i ((inRange_length _ _ hi).trans hlen) c
  refine ⟨a1, hloop, ?_⟩
  rcases hrest with ⟨hany, rfl⟩ | ⟨_, d, rfl, a2, hdl, rfl⟩
  · -- nothing is unset
    have hs := (dictLoop_get isZero items m nv _ _ a1 hloop).1.trans (fillArr_spec dflt m nv).1
    obtain ⟨v, hv⟩ := Option.isSome_iff_exists.mp
      (anyNone_false a1 hany (i ++ [c]) (by rw [hs]; exact inRange_snoc_of hi hc))
    show (a1.get (i ++ [c])).getD default = _
    rw [hv]; rfl
  · show (a2.get (i ++ [c])).getD default = _
    obtain ⟨hin, hout⟩ := (dfltLoop_get d m nv _ a1 a2 hdl).2 i c
    cases h0 : a1.get (i ++ [0]) with
    | none =>
      -- the default pass fills the cell
      obtain ⟨vs, hvs, _, hval⟩ := hin ((mem_nanCells m a1 i).mpr ⟨hi, h0⟩)
      rw [h0, Option.isSome_none, Option.isSome_eq_false_iff, Option.isNone_iff_eq_none] at hcomp
      rw [hval, hcomp]
      exact dfltCell_val d m nv hlen i hi vs hvs c
    | some w =>
      rw [hout fun hin' => by rw [((mem_nanCells m a1 i).mp hin').2] at h0; cases h0]
      rw [h0, Option.isSome_some, Option.isSome_iff_exists] at hcomp
      obtain ⟨v, hv⟩ := hcomp
      rw [hv]; rfl

theorem asArray_dict_accepted_iff (isZero : V → Bool) (items : List (String × Leaf V)) (dflt : Option (Dflt V))
    (m : Mesh) (nv : Nat) :
    (∃ a, asArray isZero (.dict items dflt) m nv = .ok a) ↔
      dfltFillOk dflt m nv ∧ ∃ a1, dictLoop isZero items m nv m.subs.reverse (fillArr dflt m nv) = .ok a1 ∧
        (anyNone a1 = true → ∃ d, dflt = some d ∧ ∃ a2, dfltLoop d m nv (nanCells m a1) a1 = .ok a2) := by
  simp only [asArray_dict_eq_ok_iff]
  constructor
  · rintro ⟨a, hf, a1, hl, h⟩
    refine ⟨hf, a1, hl, fun hany => ?_⟩
    rcases h with ⟨h, _⟩ | ⟨_, d, hd, a2, h2, _⟩
    · rw [hany] at h; cases h
    · exact ⟨d, hd, a2, h2⟩
  · rintro ⟨hf, a1, hl, h⟩
    cases hany : anyNone a1 with
    | false => exact ⟨_, hf, a1, hl, Or.inl ⟨hany, rfl⟩⟩
    | true =>
      obtain ⟨d, hd, a2, h2⟩ := h hany
      exact ⟨_, hf, a1, hl, Or.inr ⟨hany, d, hd, a2, h2, rfl⟩⟩

end DFV.C02
