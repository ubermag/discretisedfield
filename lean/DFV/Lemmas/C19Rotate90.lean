import DFV.Lemmas.C19Quarter
import DFV.Lemmas.C18Plane
import DFV.Lemmas.C19Mesh
import DFV.Props.C12
import DFV.Lemmas.C13StepM
import DFV.Lemmas.C13StepR
import DFV.Lemmas.MeshInv
import DFV.Lemmas.C05Rot
import DFV.Lemmas.C13Bc
/-!
# C19 — `Field.rotate90` (C12's model, `T.rotate90F`) produces a quarter-turned field in the sense of `QTurn`

Every quarter turn `Field.rotate90` can make of a 2-d field (odd `k`, either order of the two axes; the hypotheses are `TurnCall`) is a
`QTurn` of the field or of the result, so the charge is unchanged (`charge_turn`).  What the result stores is read off the library's
description of `Field.rotate90` once (`rotate90F_cells`); the periodicity flags turn with the mesh because `Mesh.rotate90` rewrites
the `bc` string and `periodic` of this family is `C05.periodic`, so `C05.periodic_turn` applies.
-/
namespace DFV.C19
open DFV DFV.T

/-! ## the rotation `Field.rotate90` applies to the vectors is C18's `Rq` -/

theorem M3.ofRows_tr_mulVec {Q : C18.M3} (h : Q.IsRot) (v : V3) :
    (M3.ofRows Q.tr).mulVec ((M3.ofRows Q).mulVec v) = v :=
  congrArg V3.of18 (h.tr_apply_apply v.to18)

/-- `rotVec` on a 3-component cell value is C18's quarter turn `Rq` (the plane rotation `Rcs` by `cosq k`, `sinq k`) -/
theorem ofList_rotVec (v : List Rat) (hv : v.length = 3) (c1 c2 : Nat) (k : Int) (h1 : c1 < 3) (h2 : c2 < 3) (h12 : c1 ≠ c2) :
    V3.ofList (rotVec v c1 c2 k) = (M3.ofRows (C18.Rq c1 c2 k)).mulVec (V3.ofList v) := by
  rw [M3.ofRows_mulVec]
  have key : ∀ a, a < 3 → (rotVec v c1 c2 k).getD a 0
      = ((C18.Rq c1 c2 k).apply (V3.ofList v).to18).get a := by
    intro a ha
    rw [C18.Rq_apply_get c1 c2 k h1 h2 h12 _ a ha, rotVec_getD v c1 c2 k a (hv ▸ ha)]
    have g : ∀ b, b < 3 → ((V3.ofList v).to18).get b = v.getD b 0 := fun b hb =>
      C18.V3.get_ofList v b hb
    rw [g c1 h1, g c2 h2, g a ha]
  unfold V3.ofList
  rw [key 0 (by omega), key 1 (by omega), key 2 (by omega)]
  rfl

/-! ## the mesh `Mesh.rotate90` returns -/

/-- the mesh `Mesh.rotate90(a1, a2, k)` returns (copying form): invariant kept, counts `rotN`, the region `target`ed at the turned
corners (so the same axis names), `bc` rewritten and lower-cased -/
theorem rotMesh_spec (m x m' : Mesh) (hm : m.Inv) (a1 a2 : String) (k : Int) (ref : Option (List Rat)) (i1 i2 : Nat)
    (hi1 : m.region.dim2index a1 = .ok i1) (hi2 : m.region.dim2index a2 = .ok i2)
    (h : stepM m (.rotate90 a1 a2 k ref false) = .ok (x, m')) :
    m'.Inv ∧ m'.n = rotN m.n i1 i2 k ∧ m'.bc = (rotBc m.bc a1 a2 k).toLower ∧
    m'.region = target m.region (rotCoord m.region.pmin (ref.getD m.region.center) i1 i2 k)
      (rotCoord m.region.pmax (ref.getD m.region.center) i1 i2 k) (rotUnits m.region.units i1 i2 k) := by
  obtain ⟨j1, j2, e1, e2, _, _, _, hreg, hn, hbc⟩ := stepM_rot_returns m hm a1 a2 k ref false x m' h
  rw [hi1] at e1; rw [hi2] at e2
  obtain rfl := Except.ok.inj e1; obtain rfl := Except.ok.inj e2
  exact ⟨(stepM_keeps m hm _ x m' h).2.1, hn, hbc, hreg⟩

theorem isOdd_of_mod {k : Int} (hk : k % 2 = 1) : isOdd k = true := by unfold isOdd; simpa using hk

/-- an odd number of quarter turns of a 2-d mesh in the plane of its two axes (named in either order) exchanges the counts
and the cell edges of the two axes (`T.turned_axis`: axis `a` of the result is axis `rotSrc a` of the original) -/
theorem rotMesh_odd (m m' : Mesh) (hm : m.Inv) (h2 : m.ndim = 2) (i1 i2 : Nat) (k : Int)
    (hord : (i1 = 0 ∧ i2 = 1) ∨ (i1 = 1 ∧ i2 = 0)) (hk : k % 2 = 1) (R : List Rat) (units : List String)
    (hr' : m'.region = target m.region (rotCoord m.region.pmin R i1 i2 k) (rotCoord m.region.pmax R i1 i2 k) units)
    (hn' : m'.n = rotN m.n i1 i2 k) :
    m'.ndim = 2 ∧ m'.nAt 0 = m.nAt 1 ∧ m'.nAt 1 = m.nAt 0 ∧ m'.cellAt 0 = m.cellAt 1 ∧ m'.cellAt 1 = m.cellAt 0 := by
  have hodd := isOdd_of_mod hk
  have s : rotSrc i1 i2 k 0 = 1 ∧ rotSrc i1 i2 k 1 = 0 := by
    rcases hord with ⟨rfl, rfl⟩ | ⟨rfl, rfl⟩
    · exact ⟨rotSrc_odd_left 0 1 k hodd, rotSrc_odd_right 0 1 k hodd⟩
    · exact ⟨rotSrc_odd_right 1 0 k hodd, rotSrc_odd_left 1 0 k hodd⟩
  obtain ⟨s0, s1⟩ := s
  have t := turned_axis m m' hm i1 i2 (by omega) (by omega) (by omega) k R units hr' hn'
  obtain ⟨n0, e0, _⟩ := t 0 (by omega)
  obtain ⟨n1, e1, _⟩ := t 1 (by omega)
  rw [s0] at n0 e0; rw [s1] at n1 e1
  refine ⟨by unfold Mesh.ndim; rw [hr', target_ndim]; exact h2, n0, n1, ?_, ?_⟩
  · unfold Mesh.cellAt; rw [n0, e0]
  · unfold Mesh.cellAt; rw [n1, e1]

theorem n_eq2 (m : Mesh) (hm : m.Inv) (h2 : m.ndim = 2) : m.n = [m.nAt 0, m.nAt 1] := by
  have hl : m.n.length = 2 := by rw [hm.n_length]; exact h2
  unfold Mesh.nAt
  match hn : m.n, hl with
  | [a, b], _ => simp

theorem vdimIndex_lt (f : Fld) (a : String) (c : Nat) (hvd : ∀ vs, f.vdims = some vs → vs.length = 3)
    (h : (f.rDim a).bind f.vdimIndex = some c) : c < 3 := by
  obtain ⟨l, _, h⟩ := Option.bind_eq_some_iff.mp h
  obtain ⟨vs, hvs, h⟩ := (Fld.vdimIndex_eq_some_iff f l c).mp h
  exact hvd vs hvs ▸ (indexOf?_some vs l c h).1

theorem periodic_of_bc_empty (f : Fld) (ax : Nat) (h : f.mesh.bc = "") : periodic f ax = false := by
  unfold periodic; rw [h]; exact C04.periodicBc_empty _

/-! ## what `T.rotate90F` stores -/

/-- the two index maps of a quarter turn of a 2-d array: which one it is depends on `k mod 4` and on the order of the axes -/
theorem srcIdx_quarter (n0 n1 i1 i2 : Nat) (k : Int) (hord : (i1 = 0 ∧ i2 = 1) ∨ (i1 = 1 ∧ i2 = 0)) (hk : k % 2 = 1) :
    ((k % 4 = 1 ∧ i1 = 0 ∨ k % 4 = 3 ∧ i1 = 1) ∧ ∀ i j, srcIdx [n0, n1] i1 i2 k [i, j] = [j, n1 - 1 - i]) ∨
    ((k % 4 = 3 ∧ i1 = 0 ∨ k % 4 = 1 ∧ i1 = 1) ∧ ∀ i j, srcIdx [n0, n1] i1 i2 k [i, j] = [n0 - 1 - j, i]) := by
  have h4 : k % 4 = 1 ∨ k % 4 = 3 := by omega
  have a0 : ¬ (k % 4 = 0) := by omega
  have a2 : ¬ (k % 4 = 2) := by omega
  rcases hord with ⟨rfl, rfl⟩ | ⟨rfl, rfl⟩ <;> rcases h4 with h4 | h4
  · refine Or.inl ⟨Or.inl ⟨h4, rfl⟩, fun i j => ?_⟩
    unfold srcIdx; rw [if_neg a0, if_neg a2, if_pos h4]; simp [swapAt, setAt]
  · refine Or.inr ⟨Or.inl ⟨h4, rfl⟩, fun i j => ?_⟩
    unfold srcIdx; rw [if_neg a0, if_neg a2, if_neg (by omega)]; simp [swapAt, setAt]
  · refine Or.inr ⟨Or.inr ⟨h4, rfl⟩, fun i j => ?_⟩
    unfold srcIdx; rw [if_neg a0, if_neg a2, if_pos h4]; simp [swapAt, setAt]
  · refine Or.inl ⟨Or.inr ⟨h4, rfl⟩, fun i j => ?_⟩
    unfold srcIdx; rw [if_neg a0, if_neg a2, if_neg (by omega)]; simp [swapAt, setAt]

/-- a call `Field.rotate90(a1, a2, k)` that makes a quarter turn: a well-formed 2-d field with three components of length 3, the two
axes of its mesh named in either order (`i1`, `i2` their indices), odd `k`, three component labels, the two axes mapped to
different components -/
structure TurnCall (f : Fld) (a1 a2 : String) (k : Int) (i1 i2 : Nat) : Prop where
  inv : FldInv f
  ndim : f.mesh.ndim = 2
  nvdim : f.nvdim = 3
  len : ∀ i, (f.data.get i).length = 3
  ax1 : f.mesh.region.dim2index a1 = .ok i1
  ax2 : f.mesh.region.dim2index a2 = .ok i2
  ord : (i1 = 0 ∧ i2 = 1) ∨ (i1 = 1 ∧ i2 = 0)
  odd : k % 2 = 1
  labels : ∀ vs, f.vdims = some vs → vs.length = 3
  comps : (f.rDim a1).bind f.vdimIndex ≠ (f.rDim a2).bind f.vdimIndex

/-- WHAT `Field.rotate90` STORES, cell by cell.  For odd `k` in the plane of the two axes (named in either order) of
a 2-d three-component field: counts and cell edges of the two axes are exchanged, and cell `[i, j]` of the result
holds the vector of the source cell `srcIdx … [i, j]` rotated in the plane of two different components `c1, c2`
by the angle of `k` quarter turns (`C18.Rq`), with the source cell's validity -/
theorem rotate90F_cells {f recv g : Fld} {a1 a2 : String} {k : Int} {ref : Option (List Rat)} {b : Bool} {i1 i2 : Nat}
    (c : TurnCall f a1 a2 k i1 i2) (h : rotate90F f a1 a2 k ref b = .ok (recv, g)) :
    g.nvdim = 3 ∧ g.mesh.ndim = 2 ∧ g.data.shape = [g.mesh.nAt 0, g.mesh.nAt 1] ∧
    g.mesh.nAt 0 = f.mesh.nAt 1 ∧ g.mesh.nAt 1 = f.mesh.nAt 0 ∧
    g.mesh.cellAt 0 = f.mesh.cellAt 1 ∧ g.mesh.cellAt 1 = f.mesh.cellAt 0 ∧
    ∃ c1 c2, c1 < 3 ∧ c2 < 3 ∧ c1 ≠ c2 ∧
      (∀ i j, cellV g [i, j]
        = (M3.ofRows (C18.Rq c1 c2 k)).mulVec (cellV f (srcIdx [f.mesh.nAt 0, f.mesh.nAt 1] i1 i2 k [i, j]))) ∧
      ∀ i j, g.valid.get [i, j] = f.valid.get (srcIdx [f.mesh.nAt 0, f.mesh.nAt 1] i1 i2 k [i, j]) := by
  obtain ⟨hf, h2, h3, hlen, hi1, hi2, hord, hk, hvd, hc⟩ := c
  -- `T.rotate90F_ok_iff`: the result is `turnedFld` on the turned mesh `m'`, and a vector field has both mapped components
  obtain ⟨y, m', j1, j2, hs, e1, e2, hcomp, rfl, _⟩ := (rotate90F_ok_iff f a1 a2 k ref b recv g).mp h
  rw [hi1] at e1; rw [hi2] at e2
  obtain rfl := Except.ok.inj e1; obtain rfl := Except.ok.inj e2
  obtain ⟨hmi, hn, _, hreg⟩ := rotMesh_spec f.mesh y m' hf.1 a1 a2 k ref i1 i2 hi1 hi2 hs
  obtain ⟨hgd, n0, n1, c0, c1⟩ := rotMesh_odd f.mesh m' hf.1 h2 i1 i2 k hord hk _ _ hreg hn
  have hfn := n_eq2 f.mesh hf.1 h2
  obtain ⟨c1', c2', hc1, hc2⟩ := hcomp (by omega)
  have hc12 : c1' ≠ c2' := by
    intro e; apply hc; rw [hc1, hc2, e]
  have hl1 : c1' < 3 := vdimIndex_lt f a1 c1' hvd hc1
  have hl2 : c2' < 3 := vdimIndex_lt f a2 c2' hvd hc2
  refine ⟨h3, hgd, ?_, n0, n1, c0, c1, c1', c2', hl1, hl2, hc12, fun i j => ?_, fun i j => ?_⟩
  · show (rot90 f.data i1 i2 k).shape = [m'.nAt 0, m'.nAt 1]
    rw [rot90_shape, hf.2.1, ← hn]
    exact n_eq2 m' hmi hgd
  · show V3.ofList (turnVal f a1 a2 k ((rot90 f.data i1 i2 k).get [i, j])) = _
    rw [rot90_get, turnVal_vector f a1 a2 k _ c1' c2' (by omega) hc1 hc2, hf.2.1, hfn,
      ofList_rotVec _ (hlen _) _ _ k hl1 hl2 hc12]
    rfl
  · show (rot90 f.valid i1 i2 k).get [i, j] = _
    rw [rot90_get, hf.2.2, hfn]

/-- the first of the two index maps makes the result the quarter turn of `f` -/
theorem qturn_of_src {f g : Fld} {Q : M3} {src : List Nat → List Nat}
    (n0 : g.mesh.nAt 0 = f.mesh.nAt 1) (n1 : g.mesh.nAt 1 = f.mesh.nAt 0)
    (c0 : g.mesh.cellAt 0 = f.mesh.cellAt 1) (c1 : g.mesh.cellAt 1 = f.mesh.cellAt 0)
    (hper : periodic g 0 = periodic f 1 ∧ periodic g 1 = periodic f 0)
    (hsrc : ∀ i j, src [i, j] = [j, f.mesh.nAt 1 - 1 - i])
    (hdata : ∀ i j, cellV g [i, j] = Q.mulVec (cellV f (src [i, j])))
    (hvalid : ∀ i j, g.valid.get [i, j] = f.valid.get (src [i, j])) : QTurn Q f g := by
  refine ⟨n0, n1, c0, c1, hper.1, hper.2, fun i j _ _ => ?_, fun i j _ _ => ?_⟩
  · rw [hdata, hsrc, cellV_rotF]; rfl
  · rw [hvalid, hsrc]; rfl

/-- EVERY QUARTER TURN.  `Field.rotate90` with odd `k` in the plane of the two axes (named in either
order) of a 2-d three-component field returns a field `g` such that `g` is a
quarter turn of `f` or `f` is a quarter turn of `g` (`QTurn`, with a proper rotation of the vectors) —
given that the periodicity flags of the two axes are exchanged (`hper`; open boundaries:
`rotate90F_quarter`, periodic ones: `rotate90F_quarter_bc`) -/
theorem rotate90F_quarter_of {f recv g : Fld} {a1 a2 : String} {k : Int} {ref : Option (List Rat)} {b : Bool} {i1 i2 : Nat}
    (c : TurnCall f a1 a2 k i1 i2) (hper : periodic g 0 = periodic f 1 ∧ periodic g 1 = periodic f 0)
    (h : rotate90F f a1 a2 k ref b = .ok (recv, g)) :
    g.nvdim = 3 ∧ g.mesh.ndim = 2 ∧ g.data.shape = [g.mesh.nAt 0, g.mesh.nAt 1] ∧
    ((∃ Q : M3, Q.IsRot ∧ QTurn Q f g) ∨ (∃ Q : M3, Q.IsRot ∧ QTurn Q g f)) := by
  obtain ⟨g3, g2, hgs, n0, n1, c0, c1, c1', c2', hl1, hl2, hc12, hdata, hvalid⟩ := rotate90F_cells c h
  have hR := C18.Rq_isRot c1' c2' k hl1 hl2 hc12
  refine ⟨g3, g2, hgs, ?_⟩
  rcases srcIdx_quarter (f.mesh.nAt 0) (f.mesh.nAt 1) i1 i2 k c.ord c.odd with ⟨_, hsrc⟩ | ⟨_, hsrc⟩
  · -- `g` is the quarter turn of `f`
    exact Or.inl ⟨_, M3.ofRows_isRot hR, qturn_of_src n0 n1 c0 c1 hper hsrc hdata hvalid⟩
  · -- `f` is the quarter turn of `g`
    right
    have hn1 : (rotF (M3.ofRows (C18.Rq c1' c2' k).tr) g).mesh.nAt 1 = f.mesh.nAt 0 := n1
    refine ⟨M3.ofRows (C18.Rq c1' c2' k).tr, M3.ofRows_isRot hR.tr, n1.symm, n0.symm, c1.symm, c0.symm, ?_, ?_, ?_, ?_⟩
    · exact hper.2.symm
    · exact hper.1.symm
    -- in both remaining parts `hi' : i < n₀` is what makes the double subtraction `n₀ − 1 − (n₀ − 1 − i)` cancel
    · intro i j hi hj
      have hi' : i < f.mesh.nAt 0 := by rw [hn1] at hi; exact hi
      have e : f.mesh.nAt 0 - 1 - (f.mesh.nAt 0 - 1 - i) = i := by omega
      rw [cellV_rotF, hn1, hdata, hsrc, e]; exact (M3.ofRows_tr_mulVec hR _).symm
    · intro i j hi hj
      have hi' : i < f.mesh.nAt 0 := by rw [hn1] at hi; exact hi
      have e : f.mesh.nAt 0 - 1 - (f.mesh.nAt 0 - 1 - i) = i := by omega
      rw [hn1]
      show f.valid.get [i, j] = g.valid.get [j, f.mesh.nAt 0 - 1 - i]
      rw [hvalid, hsrc, e]

theorem rotate90F_dims (f recv g : Fld) (a1 a2 : String) (k : Int) (ref : Option (List Rat)) (b : Bool)
    (hf : FldInv f) (h : rotate90F f a1 a2 k ref b = .ok (recv, g)) :
    g.mesh.region.dims = f.mesh.region.dims ∧ g.mesh.bc = (rotBc f.mesh.bc a1 a2 k).toLower := by
  obtain ⟨y, m', i1, i2, hs, hi1, hi2, _, rfl, _⟩ := (rotate90F_ok_iff f a1 a2 k ref b recv g).mp h
  obtain ⟨_, _, hbc, hreg⟩ := rotMesh_spec f.mesh y m' hf.1 a1 a2 k ref i1 i2 hi1 hi2 hs
  exact ⟨by show m'.region.dims = _; rw [hreg]; rfl, hbc⟩

theorem rotate90F_open_bc (f recv g : Fld) (a1 a2 : String) (k : Int) (ref : Option (List Rat)) (b : Bool)
    (hf : FldInv f) (hbc : f.mesh.bc = "") (h : rotate90F f a1 a2 k ref b = .ok (recv, g)) : g.mesh.bc = "" := by
  have bcg := (rotate90F_dims f recv g a1 a2 k ref b hf h).2
  rw [hbc, plainBc_rot "" a1 a2 k (Or.inl rfl), C01.toLower_empty] at bcg
  exact bcg

theorem periodic_open {f g : Fld} (hbc : f.mesh.bc = "") (bcg : g.mesh.bc = "") :
    periodic g 0 = periodic f 1 ∧ periodic g 1 = periodic f 0 :=
  ⟨by rw [periodic_of_bc_empty g 0 bcg, periodic_of_bc_empty f 1 hbc],
   by rw [periodic_of_bc_empty g 1 bcg, periodic_of_bc_empty f 0 hbc]⟩

/-- `rotate90F_quarter_of` for open boundaries -/
theorem rotate90F_quarter {f recv g : Fld} {a1 a2 : String} {k : Int} {ref : Option (List Rat)} {b : Bool} {i1 i2 : Nat}
    (c : TurnCall f a1 a2 k i1 i2) (hbc : f.mesh.bc = "") (h : rotate90F f a1 a2 k ref b = .ok (recv, g)) :
    g.nvdim = 3 ∧ g.mesh.ndim = 2 ∧ g.data.shape = [g.mesh.nAt 0, g.mesh.nAt 1] ∧
    ((∃ Q : M3, Q.IsRot ∧ QTurn Q f g) ∨ (∃ Q : M3, Q.IsRot ∧ QTurn Q g f)) :=
  rotate90F_quarter_of c (periodic_open hbc (rotate90F_open_bc f recv g a1 a2 k ref b c.inv hbc h)) h

/-- `Field.rotate90` with `k ≡ 1 (mod 4)` in the plane of the two axes of a 2-d field (open
boundaries) returns a quarter-turned field in the sense of `QTurn`, with a proper rotation `Q`: the instance of
`rotate90F_quarter` in which the disjunction is decided (`QTurn Q f g`) -/
theorem rotate90F_turn (f recv g : Fld) (a1 a2 : String) (k : Int) (ref : Option (List Rat)) (b : Bool)
    (hf : FldInv f) (h2 : f.mesh.ndim = 2) (h3 : f.nvdim = 3) (hlen : ∀ i, (f.data.get i).length = 3)
    (hbc : f.mesh.bc = "")
    (hi1 : f.mesh.region.dim2index a1 = .ok 0) (hi2 : f.mesh.region.dim2index a2 = .ok 1) (hk : k % 4 = 1)
    (hvd : ∀ vs, f.vdims = some vs → vs.length = 3)
    (hc : (f.rDim a1).bind f.vdimIndex ≠ (f.rDim a2).bind f.vdimIndex)
    (h : rotate90F f a1 a2 k ref b = .ok (recv, g)) :
    ∃ Q : M3, Q.IsRot ∧ QTurn Q f g ∧ g.nvdim = 3 ∧ g.mesh.ndim = 2 ∧
      g.data.shape = [g.mesh.nAt 0, g.mesh.nAt 1] := by
  have c : TurnCall f a1 a2 k 0 1 := ⟨hf, h2, h3, hlen, hi1, hi2, Or.inl ⟨rfl, rfl⟩, by omega, hvd, hc⟩
  obtain ⟨g3, g2, hgs, n0, n1, c0, c1, c1', c2', hl1, hl2, hc12, hdata, hvalid⟩ := rotate90F_cells c h
  -- `k ≡ 1 (mod 4)` with the axes in their own order: the first index map
  rcases srcIdx_quarter (f.mesh.nAt 0) (f.mesh.nAt 1) 0 1 k c.ord c.odd with ⟨_, hsrc⟩ | ⟨hcase, _⟩
  · exact ⟨_, M3.ofRows_isRot (C18.Rq_isRot c1' c2' k hl1 hl2 hc12),
      qturn_of_src n0 n1 c0 c1 (periodic_open hbc (rotate90F_open_bc f recv g a1 a2 k ref b hf hbc h)) hsrc hdata hvalid,
      g3, g2, hgs⟩
  · omega

/-! ## periodic boundary conditions -/

/-- C19's and C05's periodicity flags are the same function -/
theorem periodic_eq_C05 (f : Fld) (ax : Nat) : periodic f ax = C05.periodic f ax := rfl

/-- for odd `k` the `bc` rewriting of `Mesh.rotate90` is the exchange of the two axis names (`T.rotBc` depends on `k` through its parity;
C05's `rotBc1` is `T.rotBc` at `k = 1`) -/
theorem rotBc_odd (bc da db : String) (k : Int) (hk : isOdd k = true) : rotBc bc da db k = C05.rotBc1 bc da db :=
  (rotBc_parity bc da db k 1 hk).trans (C05.rotBc1_eq bc da db).symm

/-- THE PERIODICITY FLAGS TURN WITH THE MESH.  `g` carries the mesh `Mesh.rotate90(a1, a2, k)` (odd `k`, the two
axes of a 2-d mesh in either order) makes of `f`'s mesh: same axis names, `bc` rewritten and lower-cased.  If
`f`'s `bc` is what the `bc` setter guarantees (lower case, accepted) and the plane can turn (`C05.BcTurns`:
both names single lower-case characters, or both axes periodic alike), axis 0 of `g` is periodic iff axis 1 of `f`
is, and vice versa.  Exported as `Props/C19.periodic_flags_turn`. -/
theorem periodic_after_turn (f g : Fld) (a1 a2 : String) (k : Int) (i1 i2 : Nat)
    (hd : f.mesh.region.dims.length = f.mesh.ndim) (hdup : hasDup f.mesh.region.dims = false) (h2 : f.mesh.ndim = 2)
    (hbl : f.mesh.bc.toLower = f.mesh.bc) (hbok : Mesh.bcOk f.mesh.region.dims f.mesh.bc = true)
    (hi1 : f.mesh.region.dim2index a1 = .ok i1) (hi2 : f.mesh.region.dim2index a2 = .ok i2)
    (hord : (i1 = 0 ∧ i2 = 1) ∨ (i1 = 1 ∧ i2 = 0)) (hk : k % 2 = 1) (ht : C05.BcTurns f 0 1)
    (hdims : g.mesh.region.dims = f.mesh.region.dims) (hbc : g.mesh.bc = (rotBc f.mesh.bc a1 a2 k).toLower) :
    periodic g 0 = periodic f 1 ∧ periodic g 1 = periodic f 0 := by
  have hodd := isOdd_of_mod hk
  have e1 : f.mesh.region.dims.getD i1 "" = a1 := (indexOf?_some _ _ _ ((dim2index_eq_ok_iff _ _ _).mp hi1)).2
  have e2 : f.mesh.region.dims.getD i2 "" = a2 := (indexOf?_some _ _ _ ((dim2index_eq_ok_iff _ _ _).mp hi2)).2
  -- a lower-case `bc` stays lower case under the rewriting; then the bridge to C05's form
  rw [rotBc_toLower _ _ _ _ hbl, rotBc_odd _ _ _ _ hodd] at hbc
  simp only [periodic_eq_C05]
  rcases hord with ⟨rfl, rfl⟩ | ⟨rfl, rfl⟩
  · rw [← e1, ← e2] at hbc
    obtain ⟨p1, p2, _⟩ := C05.periodic_turn f g 0 1 ⟨hd, hdup⟩ hbok (by omega) (by omega) (by omega) ht hdims hbc
    exact ⟨p1, p2⟩
  · rw [← e1, ← e2] at hbc
    have ht' : C05.BcTurns f 1 0 := by
      rcases ht with ⟨s1, s2, l1, l2⟩ | hp
      · exact Or.inl ⟨s2, s1, l2, l1⟩
      · exact Or.inr hp.symm
    obtain ⟨p1, p2, _⟩ := C05.periodic_turn f g 1 0 ⟨hd, hdup⟩ hbok (by omega) (by omega) (by omega) ht' hdims hbc
    exact ⟨p2, p1⟩

/-- EVERY QUARTER TURN, ANY BOUNDARY CONDITIONS.  `Field.rotate90` with odd `k` in the plane of the two axes
(either order) of a 2-d three-component field whose `bc` is lower case and accepted by the mesh (what the `bc`
setter guarantees) and whose plane can turn (`C05.BcTurns`) returns a quarter turn of `f` (or `f` is a
quarter turn of the result) in the sense of `QTurn` — periodicity flags included. -/
theorem rotate90F_quarter_bc {f recv g : Fld} {a1 a2 : String} {k : Int} {ref : Option (List Rat)} {b : Bool} {i1 i2 : Nat}
    (c : TurnCall f a1 a2 k i1 i2) (hbl : f.mesh.bc.toLower = f.mesh.bc) (hbok : Mesh.bcOk f.mesh.region.dims f.mesh.bc = true)
    (ht : C05.BcTurns f 0 1) (h : rotate90F f a1 a2 k ref b = .ok (recv, g)) :
    g.nvdim = 3 ∧ g.mesh.ndim = 2 ∧ g.data.shape = [g.mesh.nAt 0, g.mesh.nAt 1] ∧
    ((∃ Q : M3, Q.IsRot ∧ QTurn Q f g) ∨ (∃ Q : M3, Q.IsRot ∧ QTurn Q g f)) := by
  obtain ⟨hdims, hbc⟩ := rotate90F_dims f recv g a1 a2 k ref b c.inv h
  exact rotate90F_quarter_of c (periodic_after_turn f g a1 a2 k i1 i2 c.inv.1.dims_length c.inv.1.1.dims_nodup c.ndim hbl hbok
    c.ax1 c.ax2 c.ord c.odd ht hdims hbc) h

end DFV.C19
