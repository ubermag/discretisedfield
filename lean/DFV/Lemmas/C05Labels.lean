import DFV.Lemmas.C05
/-! labels, mapping and pairing of the operators' operands and results (C05): the pairings `σ`, `ρ` read through the mapping,
the positional pairing of what `grad` and `curl` hand back, raw lengths of stacked values, relabelling (`setVdims`,
`transportMap`), the tail of the vector Laplacian, one-to-one mappings. -/
namespace DFV.C05
open DFV DFV.C04

/-- a pairing `ρ` that is one-to-one on the three axes sends different axes to different components (nine cases of `(a, b)`, each one of
the three hypotheses, its symmetric form, or `a = b`) -/
theorem rho_ne {ρ : Nat → Nat} (hinj : ρ 0 ≠ ρ 1 ∧ ρ 0 ≠ ρ 2 ∧ ρ 1 ≠ ρ 2) {a b : Nat} (ha : a < 3) (hb : b < 3) (hab : a ≠ b) :
    ρ a ≠ ρ b := by
  obtain ⟨h01, h02, h12⟩ := hinj
  have : (a = 0 ∨ a = 1 ∨ a = 2) ∧ (b = 0 ∨ b = 1 ∨ b = 2) := by omega
  rcases this with ⟨rfl | rfl | rfl, rfl | rfl | rfl⟩ <;> first | exact absurd rfl hab | assumption | exact Ne.symm ‹_›

theorem vmap_pos {mp : List (String × String)} {l d : String} (h : Fld.lookup mp l = some d) : 0 < mp.length :=
  List.length_pos_of_mem (Fld.lookup_mem _ _ _ h)

theorem pair_of_rho {f : Fld} {vs : List String} {ρ : Nat → Nat} (hv : f.vdims = some vs) (hvl : vs.length = f.nvdim)
    (hvd : hasDup vs = false) (hn : f.nvdim = 3)
    (hρ : ∀ d, d < 3 → ρ d < 3 ∧ rDimLast f (f.mesh.region.dims.getD d "") = some (vs.getD (ρ d) "")) (d : Nat) (hd : d < 3) :
    (rDimLast f (f.mesh.region.dims.getD d "")).bind f.vdimIndex = some (ρ d) := by
  rw [(hρ d hd).2]
  exact vdimIndex_getD f vs hv hvd (ρ d) (by rw [hvl, hn]; exact (hρ d hd).1)

theorem rho_transfer {f g : Fld} {vs : List String} {ρ : Nat → Nat} (hm : g.vmap = f.vmap)
    (hd : g.mesh.region.dims = f.mesh.region.dims)
    (hρ : ∀ d, d < 3 → ρ d < 3 ∧ rDimLast f (f.mesh.region.dims.getD d "") = some (vs.getD (ρ d) "")) :
    ∀ d, d < 3 → ρ d < 3 ∧ rDimLast g (g.mesh.region.dims.getD d "") = some (vs.getD (ρ d) "") := by
  intro d hd'
  refine ⟨(hρ d hd').1, ?_⟩
  have := (hρ d hd').2
  unfold rDimLast at this ⊢
  rw [hm, hd]; exact this

/-- the assignment `σ` of components to axes only depends on the mapping and the axis names (the bounds are parameters: the
callers have them as component count and dimension of either field, or as `3`) -/
theorem sigma_transfer {f g : Fld} {vs : List String} {σ : Nat → Nat} {n m n' m' : Nat} (hn : n' = n) (hnd : m' = m)
    (hm : g.vmap = f.vmap) (hd : g.mesh.region.dims = f.mesh.region.dims)
    (hσ : ∀ c, c < n → σ c < m ∧ Fld.lookup f.vmap (vs.getD c "") = some (f.mesh.region.dims.getD (σ c) "")) :
    ∀ c, c < n' → σ c < m' ∧ Fld.lookup g.vmap (vs.getD c "") = some (g.mesh.region.dims.getD (σ c) "") := by
  subst hn hnd
  intro c hc
  rw [hm, hd]
  exact hσ c hc

theorem sigma_relabel {f f' : Fld} {old new : List String} {σ : Nat → Nat} (hm : f'.mesh = f.mesh) (hn : f'.nvdim = f.nvdim)
    (hl : ∀ k, k < f.nvdim → Fld.lookup f'.vmap (new.getD k "") = Fld.lookup f.vmap (old.getD k ""))
    (hσ : ∀ c, c < f.nvdim → σ c < f.mesh.ndim ∧
      Fld.lookup f.vmap (old.getD c "") = some (f.mesh.region.dims.getD (σ c) "")) :
    ∀ c, c < f'.nvdim → σ c < f'.mesh.ndim ∧
      Fld.lookup f'.vmap (new.getD c "") = some (f'.mesh.region.dims.getD (σ c) "") := by
  intro c hc
  rw [hn] at hc
  rw [hm, hl c hc]
  exact hσ c hc

/-- for a one-to-one mapping the pairing `ρ` of the three axes with components is the inverse of the assignment `σ` -/
theorem rho_of_sigma {f : Fld} {vs : List String} {σ ρ : Nat → Nat} (hone : OneToOne f.vmap) (hn : f.nvdim = 3)
    (hσ : ∀ c, c < f.nvdim → σ c < f.mesh.ndim ∧
      Fld.lookup f.vmap (vs.getD c "") = some (f.mesh.region.dims.getD (σ c) ""))
    (hinv : ∀ d, d < 3 → ρ d < 3 ∧ σ (ρ d) = d) :
    ∀ d, d < 3 → ρ d < 3 ∧ rDimLast f (f.mesh.region.dims.getD d "") = some (vs.getD (ρ d) "") := by
  intro d hd
  obtain ⟨r1, r2⟩ := hinv d hd
  have := (hσ (ρ d) (by rw [hn]; exact r1)).2
  rw [r2] at this
  exact ⟨r1, rDimLast_of_lookup f _ _ hone this⟩

theorem ne_of_sigma {σ : Nat → Nat} {a b v1 v2 : Nat} (hab : a ≠ b) (hs1 : σ v1 = a) (hs2 : σ v2 = b) : v1 ≠ v2 :=
  fun he => hab (by rw [← hs1, ← hs2, he])

/-! ### positional pairing -/

theorem snd_mem_of_mem_zip {ls ds : List String} {p : String × String} (h : p ∈ List.zip ls ds) : p.2 ∈ ds := by
  induction ls generalizing ds with
  | nil => simp at h
  | cons l ls ih =>
    cases ds with
    | nil => simp at h
    | cons d ds =>
      simp only [List.zip_cons_cons, List.mem_cons] at h
      rcases h with rfl | h
      · simp
      · simp [ih h]

theorem zip_inj_snd (ls ds : List String) (hd : hasDup ds = false) : OneToOne (List.zip ls ds) := by
  induction ls generalizing ds with
  | nil => intro p hp; simp at hp
  | cons l ls ih =>
    cases ds with
    | nil => intro p hp; simp at hp
    | cons d ds =>
      obtain ⟨hnd, hd'⟩ := (hasDup_cons d ds).mp hd
      intro p hp q hq hpq
      simp only [List.zip_cons_cons, List.mem_cons] at hp hq
      rcases hp with rfl | hp
      · rcases hq with rfl | hq
        · rfl
        · exact absurd (by have := snd_mem_of_mem_zip hq; rw [← hpq] at this; exact this) hnd
      · rcases hq with rfl | hq
        · exact absurd (by have := snd_mem_of_mem_zip hp; rw [hpq] at this; exact this) hnd
        · exact ih ds hd' p hp q hq hpq

theorem lookup_zip (ls ds : List String) (hl : hasDup ls = false) (a : Nat) (ha : a < ls.length) (hlen : ls.length = ds.length) :
    Fld.lookup (List.zip ls ds) (ls.getD a "") = some (ds.getD a "") := by
  induction ls generalizing ds a with
  | nil => simp at ha
  | cons l ls ih =>
    cases ds with
    | nil => simp at hlen
    | cons d ds =>
      rw [List.zip_cons_cons]
      cases a with
      | zero => rw [Fld.lookup_cons]; simp
      | succ a =>
        simp only [List.getD_cons_succ]
        rw [lookup_cons_getD l d _ ls hl a (by simpa using ha)]
        exact ih ds ((hasDup_cons l ls).mp hl).2 a (by simpa using ha) (by simpa using hlen)

theorem pos_pairing (g : Fld) (labels : List String) (hv : g.vdims = some labels)
    (hm : g.vmap = List.zip labels g.mesh.region.dims) (hl : hasDup labels = false)
    (hd : hasDup g.mesh.region.dims = false) (hlen : labels.length = g.mesh.region.dims.length)
    (a : Nat) (ha : a < labels.length) :
    (rDimLast g (g.mesh.region.dims.getD a "")).bind g.vdimIndex = some a := by
  have h1 : Fld.lookup g.vmap (labels.getD a "") = some (g.mesh.region.dims.getD a "") := by
    rw [hm]; exact lookup_zip labels _ hl a ha hlen
  rw [rDimLast_of_lookup g _ _ (by rw [hm]; exact zip_inj_snd labels _ hd) h1]
  simp only [Option.bind_some]
  exact vdimIndex_getD g labels hv hl a ha

/-! ### raw lengths of stacked values; a sum of plain scalars is a plain scalar -/

theorem lshift_len {a b g : Fld} (h : lshift a b = .ok g) (i : List Nat) : (g.data.get i).length = g.nvdim := by
  obtain ⟨_, _, m2, _, _, m3, _, _⟩ := lshift_ok h
  rw [m3 i, m2]; simp [cellv_length]

theorem stackGo_len (ds : List Fld) : ∀ (acc g : Fld), ds ≠ [] → stackGo acc ds = .ok g →
    ∀ i, (g.data.get i).length = g.nvdim := by
  induction ds with
  | nil => intro _ _ h; exact absurd rfl h
  | cons d ds ih =>
    intro acc g _ h
    obtain ⟨r, hr, h⟩ := stackGo_cons_ok h
    cases ds with
    | nil => simp only [stackGo] at h; injection h with h; subst h; exact lshift_len hr
    | cons d' ds' => exact ih r g (by simp) h

theorem grad_len {f g : Fld} (hnd : 2 ≤ f.mesh.region.dims.length) (h : grad f = .ok g) :
    ∀ i, (g.data.get i).length = g.nvdim := by
  obtain ⟨_, ds, hds, h⟩ := grad_inv h
  obtain ⟨l, _⟩ := mapE_ok _ _ _ hds
  cases ds with
  | nil => simp [stack] at h
  | cons d0 ds' =>
    simp only [stack] at h
    exact stackGo_len ds' d0 g (by intro he; subst he; simp at l; omega) h

/-- the positional default labels of an `n`-component field (`x, y[, z]` up to three components,
`v0 … v(n-1)` beyond — the general rule of the `vdims` setter) exist, are `n` many and pairwise
different, for EVERY `n ≥ 2` -/
theorem posVdims_nodup (n : Nat) (h2 : 2 ≤ n) :
    ∃ labels, posVdims n = some labels ∧ labels.length = n ∧ hasDup labels = false :=
  have h := (Fld.defaultVdims_eq_some_iff n _).mpr ⟨by omega, rfl⟩
  ⟨_, h, Fld.defaultVdims_ok n _ h⟩

theorem plain_of_laplace_scalar {f g : Fld} (hp : Plain f) (h : laplace f = .ok g) : Plain g := by
  obtain ⟨ts, hts, h⟩ := laplace_scalar_inv hp.1 h
  exact sumF_plain (mapE_all _ Plain (fun x y hy => diffDim_plain hp hy) _ _ hts) h

theorem plain_of_div {f g : Fld} (h : div f = .ok g) : Plain g := by
  obtain ⟨_, vs, ts, _, _, hts, h⟩ := div_inv h
  exact sumF_plain (mapE_all _ Plain (fun _ _ hy => divTerm_plain hy) _ _ hts) h

theorem curl_len {f g : Fld} (h : curl f = .ok g) : ∀ i, (g.data.get i).length = g.nvdim := by
  obtain ⟨_, _, vs, x, y, z, cx, cy, cz, cxy, _, _, _, _, _, _, _, h⟩ := curl_inv h
  exact lshift_len h

/-! ### the tail of the vector Laplacian: labels and mapping of the operand are put back -/

/-- `field.vdims = new` on a field with labels `old` and a non-empty mapping, taken apart: the new labels are as many
and pairwise different, the mapping is transported position by position -/
theorem setVdims_inv {f g : Fld} {old new : List String} (hold : f.vdims = some old) (hmap : 0 < f.vmap.length)
    (hne : new ≠ []) (h : setVdims f (some new) = .ok g) :
    new.length = f.nvdim ∧ hasDup new = false ∧
      ∃ mp, transportMap f.vmap new old = .ok mp ∧ g = { f with vdims := some new, vmap := mp } := by
  unfold setVdims at h
  split at h
  · cases h
  · next r hr =>
    obtain ⟨r1, r2, r3⟩ := (vdimsSet_some_iff hne).mp hr
    subst r1
    rw [hold] at h
    simp only [] at h
    rw [if_pos hmap] at h
    split at h
    · cases h
    · next mp hmp =>
      obtain ⟨mp', hmp', rfl⟩ := setVmap_ok_iff.mp h
      exact ⟨r2, r3, mp, hmp, by rw [(vmapSet_some_iff.mp hmp').1]⟩

/-- the tail of the vector Laplacian: `result.vdims = self.vdims; result.vdim_mapping = self.vdim_mapping` -/
theorem lapTail_ok {r r' g : Fld} {vs : List String} {mp : List (String × String)} (hne : vs ≠ [])
    (h1 : setVdims r (some vs) = .ok r') (h2 : setVmap r' (some mp) = .ok g) :
    g.mesh = r.mesh ∧ g.nvdim = r.nvdim ∧ g.data = r.data ∧ g.valid = r.valid ∧ g.vdims = some vs ∧ g.vmap = mp := by
  obtain ⟨a1, a2, a3, a4, _, a6⟩ := setVdims_ok h1
  obtain ⟨b1, b2, b3, b4, b5, _, b7⟩ := setVmap_ok h2
  obtain ⟨c1, _, _⟩ := (vdimsSet_some_iff hne).mp a6
  rw [c1] at b7 b5
  exact ⟨by rw [b1, a1], by rw [b2, a2], by rw [b3, a3], by rw [b4, a4], b5, (vmapSet_some_iff.mp b7).1⟩

theorem transportMap_succeeds (mp : List (String × String)) : ∀ (ns os : List String), ns.length = os.length →
    (∀ k, k < os.length → ∃ d, Fld.lookup mp (os.getD k "") = some d) →
    ∃ r, transportMap mp ns os = .ok r ∧ r.map (·.1) = ns := by
  intro ns
  induction ns with
  | nil => intro os _ _; exact ⟨[], by simp [transportMap], rfl⟩
  | cons n ns ih =>
    intro os hl hlook
    cases os with
    | nil => simp at hl
    | cons o os =>
      obtain ⟨d, hd⟩ := hlook 0 (by simp)
      simp only [List.getD_cons_zero] at hd
      obtain ⟨r, hr, hk⟩ := ih os (by simpa using hl) (fun k hk => by
        have := hlook (k + 1) (by simpa using hk)
        simpa using this)
      exact ⟨(n, d) :: r, by simp only [transportMap, hd, hr], by simp [hk]⟩

theorem posVmap_zip {m : Mesh} {n : Nat} {labels : List String} (hlab : posVdims n = some labels) (h1 : n ≠ 1)
    (hn : n = m.region.ndim) : posVmap m n = List.zip labels m.region.dims := by
  unfold posVmap
  unfold posVdims at hlab
  rw [if_neg h1, if_pos hn, hlab]

theorem lapTail_succeeds (r : Fld) (vs : List String) (mp : List (String × String)) (hn : 2 ≤ r.nvdim)
    (hd : r.mesh.region.dims.length = r.mesh.region.ndim)
    (hv : r.vdims = posVdims r.nvdim) (hm : r.vmap = posVmap r.mesh r.nvdim)
    (hvl : vs.length = r.nvdim) (hvd : hasDup vs = false)
    (hkeys : mp = [] ∨ (mp.map (·.1)).isPerm vs = true) :
    ∃ r' g, setVdims r (some vs) = .ok r' ∧ setVmap r' (some mp) = .ok g := by
  obtain ⟨labels, hlab, hlen, hnodup⟩ := posVdims_nodup r.nvdim hn
  have hvs : vdimsSet r.nvdim (some vs) = .ok (some vs) :=
    (vdimsSet_some_iff (by intro he; subst he; simp at hvl; omega)).mpr ⟨rfl, hvl, hvd⟩
  have hr' : ∃ r', setVdims r (some vs) = .ok r' ∧ r'.mesh = r.mesh ∧ r'.nvdim = r.nvdim ∧ r'.vdims = some vs := by
    unfold setVdims
    rw [hvs, hv, hlab]
    simp only []
    by_cases hl : 0 < r.vmap.length
    · rw [if_pos hl]
      have h1 : ¬ (r.nvdim = 1) := by omega
      have hnd : r.nvdim = r.mesh.region.ndim := by
        by_contra h2
        rw [hm] at hl
        unfold posVmap at hl
        simp only [h1, h2, if_false] at hl
        simp at hl
      have hz : r.vmap = List.zip labels r.mesh.region.dims := hm.trans (posVmap_zip hlab h1 hnd)
      obtain ⟨tm, htm, hkeys'⟩ := transportMap_succeeds r.vmap vs labels (by rw [hvl, hlen]) (fun k hk => by
        rw [hz]
        exact ⟨_, lookup_zip labels _ hnodup k hk (by rw [hlen, hd, hnd])⟩)
      rw [htm]
      simp only []
      rw [setVmap_some (vs := vs) rfl (Or.inr (by rw [hkeys']; exact List.isPerm_iff.mpr (List.Perm.refl _)))]
      exact ⟨_, rfl, rfl, rfl, rfl⟩
    · rw [if_neg hl]
      exact ⟨_, rfl, rfl, rfl, rfl⟩
  obtain ⟨r', h1, m1, m2, m3⟩ := hr'
  exact ⟨r', { r' with vmap := mp }, h1, setVmap_some m3 hkeys⟩

theorem laplace_vector_len {f g : Fld} {vs : List String} (hn : 2 ≤ f.nvdim) (hv : f.vdims = some vs)
    (hvl : vs.length = f.nvdim) (h : laplace f = .ok g) : ∀ i, (g.data.get i).length = g.nvdim := by
  obtain ⟨vs', ds, r, r', hv', hds, hst, hsv, h⟩ := laplace_vector_inv (by omega) h
  rw [hv] at hv'; injection hv' with hv'; subst hv'
  obtain ⟨l, _⟩ := mapE_ok _ _ _ hds
  obtain ⟨_, a2, a3, _⟩ := setVdims_ok hsv
  obtain ⟨_, b2, b3, _⟩ := setVmap_ok h
  rw [b3, a3, b2, a2]
  cases ds with
  | nil => simp [stack] at hst
  | cons d0 ds' =>
    simp only [stack] at hst
    exact stackGo_len ds' d0 r (by intro he; subst he; simp at l; omega) hst

/-- the shared model's `Fld.rDim` and C05's `rDimLast` read `Field._r_dim_mapping` alike (the LAST key mapped onto `d`) -/
theorem rDim_eq_rDimLast (f : Fld) (d : String) : f.rDim d = rDimLast f d := rfl

/-! ### relabelling keeps a one-to-one mapping one-to-one -/

theorem transportMap_mem (mp : List (String × String)) : ∀ (ns os : List String) (r : List (String × String)),
    transportMap mp ns os = .ok r →
    ∀ p ∈ r, ∃ k, k < ns.length ∧ k < os.length ∧ p.1 = ns.getD k "" ∧ Fld.lookup mp (os.getD k "") = some p.2 := by
  intro ns
  induction ns with
  | nil => intro os r h p hp; simp only [transportMap] at h; injection h with h; subst h; simp at hp
  | cons n ns ih =>
    intro os r h p hp
    cases os with
    | nil => simp only [transportMap] at h; injection h with h; subst h; simp at hp
    | cons o os =>
      obtain ⟨d, rest, hd, hrest, rfl⟩ := transportMap_cons_ok h
      simp only [List.mem_cons] at hp
      rcases hp with rfl | hp
      · exact ⟨0, by simp, by simp, rfl, hd⟩
      · obtain ⟨k, h1, h2, h3, h4⟩ := ih os rest hrest p hp
        exact ⟨k + 1, by simp; omega, by simp; omega, by simpa using h3, by simpa using h4⟩

theorem transportMap_oneToOne (mp : List (String × String)) (ns os : List String) (r : List (String × String))
    (hone : OneToOne mp) (hod : hasDup os = false) (h : transportMap mp ns os = .ok r) : OneToOne r := by
  intro p hp q hq hpq
  obtain ⟨k, _, k2, k3, k4⟩ := transportMap_mem mp ns os r h p hp
  obtain ⟨k', _, k2', k3', k4'⟩ := transportMap_mem mp ns os r h q hq
  have m1 := Fld.lookup_mem mp _ _ k4
  have m2 := Fld.lookup_mem mp _ _ k4'
  have := hone _ m1 _ m2 hpq
  have e : os.getD k "" = os.getD k' "" := by injection this
  have ek := getD_inj_of_nodup os ((hasDup_false_iff_nodup os).mp hod) "" k2 k2' e
  subst ek
  cases p; cases q
  simp only at k3 k3' hpq
  rw [k3, k3', hpq]

end DFV.C05
