import DFV.Lemmas.C20HeapLight
import DFV.Lemmas.C20Session
/-!
The default plot `field.mpl()` on the heap refines the value model (C20) — `scalar` of a FRESH component
field composed with `vector` of the field itself, on one heap — and sessions of DIRECT method calls on one
heap answer like the value model on the initial heap and leave every older buffer alone (`session_spec`).
-/
namespace DFV.C20
open DFV

/-! ## default plot -/

/-- **The parts of the default plot on the heap refine those of the value model**: `scalar` of a fresh
component field (three components) or of the field itself (one), with the default filter built from the
PLOTTED field, composed with `vector` on the heap the scalar part left behind. -/
theorem defaultPartsH_refines (h : AHeap) (f : HFld) (o : HOpts) (m : Rat) (hinv : f.mesh.Inv) (hf : f.On h)
    (hnum : ∀ i, (h.buf f.arr i).isSome) (hflt : ∀ g, o.filter = some g → g.On h)
    (haux : ∀ g, o.aux = some g → g.On h) (hlab : ∀ vs, f.vdims = some vs → vs.length ≤ f.nvdim) :
    (defaultPartsH h f o m).2 = defaultParts (f.abs h) (o.abs h) m := by
  unfold defaultPartsH defaultParts
  rw [abs_nvdim]
  by_cases hn1 : f.nvdim = 1
  · -- one component: the field itself, filter built in `__call__`
    rw [if_pos hn1, if_pos hn1]
    have frF : Frame h (filterFieldH h f o.filter).1 := frame_filterFieldH h f o.filter
    exact scalarH_refinesA (filterFieldH h f o.filter).1 f (f.abs h)
      { o with mult := some m, filter := some (filterFieldH h f o.filter).2 }
      { o.abs h with mult := some m, filter := some (filterOf (f.abs h) (o.abs h)) }
      hinv (hf.frame frF) (fun i => by rw [frF.2 _ hf.1]; exact hnum i) rfl rfl
      (fun x y => by rw [frF.2 _ hf.1]; exact abs_data h f 0 (by omega) [x, y])
      (fun x y => (validAt_frame _ _ f frF hf _).symm) rfl
      (fun H' fr => (filterFieldH_rel h h f o.filter (Frame.refl h) hf hflt).frame fr)
  rw [if_neg hn1, if_neg hn1]
  by_cases hn2 : f.nvdim = 2
  · rw [if_pos hn2, if_pos hn2, vectorH_refines h f { o with mult := some m } hinv hf hnum hflt haux hlab,
      oabs_with_mult]
  rw [if_neg hn2, if_neg hn2]
  by_cases hn3 : f.nvdim = 3
  swap
  · rw [if_neg hn3, if_neg hn3]
  rw [if_pos hn3, if_pos hn3, stepH_snd]
  refine bind_congr_ok fun c _ => ?_
  -- heaps: after `getattr(field, label)`, after the default filter, after `scalar`
  have fr1 : Frame h (compFieldH h f c).1 := frame_derivedH h f _
  have fr2 : Frame (compFieldH h f c).1 (filterFieldH (compFieldH h f c).1 f o.filter).1 :=
    frame_filterFieldH _ f o.filter
  have hf' : (compFieldH h f c).2.On (compFieldH h f c).1 :=
    ⟨by show h.length < (derivedH h f _).1.length; rw [derivedH_len]; omega,
     by show h.length + 1 < (derivedH h f _).1.length; rw [derivedH_len]; omega⟩
  have harr : ∀ i, (filterFieldH (compFieldH h f c).1 f o.filter).1.buf (compFieldH h f c).2.arr i =
      some (((f.abs h).data.get i.dropLast).getD c 0) := fun i => by
    rw [fr2.2 _ hf'.1]; exact derivedH_arr h f _ i
  have hvalb : ∀ i, (filterFieldH (compFieldH h f c).1 f o.filter).1.buf (compFieldH h f c).2.val i =
      some (if f.validAt h (i.take 2) then 1 else 0) := fun i => by
    rw [fr2.2 _ hf'.2]; exact derivedH_val h f _ i
  have fr3 : Frame h (thirdScalarH h f o m c).1 := (fr1.trans fr2).trans (frame_scalarH _ _ _)
  have keyS : (thirdScalarH h f o m c).2 = mplScalar (compField (f.abs h) c)
      { o.abs h with mult := some m, filter := some (filterOf (f.abs h) (o.abs h)) } :=
    scalarH_refinesA (filterFieldH (compFieldH h f c).1 f o.filter).1 (compFieldH h f c).2
      (compField (f.abs h) c)
      { o with mult := some m, filter := some (filterFieldH (compFieldH h f c).1 f o.filter).2 }
      { o.abs h with mult := some m, filter := some (filterOf (f.abs h) (o.abs h)) }
      hinv (hf'.frame fr2) (fun i => by rw [harr i]; rfl) rfl rfl
      (fun x y => by rw [harr]; rfl)
      (fun x y => by
        show f.validAt h [x, y] = ((filterFieldH (compFieldH h f c).1 f o.filter).1.buf
          (compFieldH h f c).2.val [x, y] == some 1)
        rw [hvalb]
        show _ = (some (if f.validAt h [x, y] = true then (1 : Rat) else 0) == some 1)
        cases f.validAt h [x, y] <;> decide)
      rfl
      (fun H' fr => ((filterFieldH_rel h _ f o.filter fr1 hf hflt).congr (f' := (compFieldH h f c).2) rfl).frame fr)
  have keyV := vectorH_refines _ f { o with mult := some m } hinv (hf.frame fr3)
    (fun i => by rw [fr3.2 _ hf.1]; exact hnum i)
    (fun g hg => (hflt g hg).frame fr3) (fun g hg => (haux g hg).frame fr3) hlab
  rw [abs_frame _ _ f fr3 hf, oabs_frame _ _ { o with mult := some m } fr3 hflt haux, oabs_with_mult] at keyV
  rw [stepH_snd, keyS]
  refine bind_congr_ok fun cs _ => ?_
  rw [stepH_snd, keyV]

theorem defaultH_refines (h : AHeap) (f : HFld) (o : HOpts) (hinv : f.mesh.Inv) (hf : f.On h)
    (hnum : ∀ i, (h.buf f.arr i).isSome) (hflt : ∀ g, o.filter = some g → g.On h)
    (haux : ∀ g, o.aux = some g → g.On h) (hlab : ∀ vs, f.vdims = some vs → vs.length ≤ f.nvdim) :
    (defaultH h f o).2 = mplDefault (f.abs h) (o.abs h) := by
  rw [defaultH_eq, mplDefault_eq_bind, abs_mesh, oabs_mult]
  by_cases h2 : f.mesh.region.ndim ≠ 2
  · rw [if_pos h2, if_pos h2]
  rw [if_neg h2, if_neg h2, stepH_snd]
  refine bind_congr_ok fun m _ => ?_
  unfold withLabelsH
  rw [stepH_snd, defaultPartsH_refines h f o m hinv hf hnum hflt haux hlab]
  refine bind_congr_ok fun parts _ => ?_
  rw [stepH_snd]

/-! ## sessions -/

/-- input conditions of one direct call on the heap `h`: the plotted field is a well-formed field
object whose arrays live on `h` and hold numbers, it has at least one component and no more labels
than components; the filter / colour / lightness fields handed in live on `h`; a lightness field
holds numbers -/
def HReqOk (h : AHeap) (r : HReq) : Prop :=
  r.field.mesh.Inv ∧ r.field.On h ∧ (∀ i, (h.buf r.field.arr i).isSome) ∧ 1 ≤ r.field.nvdim ∧
  (∀ g, r.opts.filter = some g → g.On h) ∧ (∀ g, r.opts.aux = some g → g.On h) ∧
  (∀ vs, r.field.vdims = some vs → vs.length ≤ r.field.nvdim) ∧
  (r.kind = .lightness → ∀ g, r.opts.aux = some g → ∀ i, (h.buf g.arr i).isSome)

theorem HReqOk.frame {h h' : AHeap} {r : HReq} (ok : HReqOk h r) (fr : Frame h h') : HReqOk h' r := by
  obtain ⟨hinv, hon, hnum, hnv, hflt, haux, hlab, hlight⟩ := ok
  refine ⟨hinv, hon.frame fr, fun i => by rw [fr.2 _ hon.1]; exact hnum i, hnv, fun g hg => (hflt g hg).frame fr,
    fun g hg => (haux g hg).frame fr, hlab, fun hk g hg i => ?_⟩
  rw [fr.2 _ (haux g hg).1]
  exact hlight hk g hg i

theorem callH_frame (sqrtF : Rat → Rat) (h : AHeap) (r : HReq) : Frame h (callH sqrtF h r).1 := by
  unfold callH
  cases r.kind with
  | scalar => exact frame_scalarH h _ _
  | contour => exact frame_contourH h _ _
  | vector => exact frame_vectorH h _ _
  | lightness => exact frame_lightnessH sqrtF h _ _ _
  | default => exact frame_defaultH h _ _

theorem callH_spec (sqrtF : Rat → Rat) (h : AHeap) (r : HReq) (ok : HReqOk h r) :
    (callH sqrtF h r).2 = specH sqrtF h r := by
  obtain ⟨hinv, hon, hnum, hnv, hflt, haux, hlab, hlight⟩ := ok
  unfold callH specH
  cases hk : r.kind with
  | scalar => exact scalarH_refines h _ _ hinv hon hnum hflt hnv
  | contour => exact contourH_refines h _ _ hinv hon hnum hflt
  | vector => exact vectorH_refines h _ _ hinv hon hnum hflt haux hlab
  | lightness =>
    exact lightnessH_refines sqrtF h _ _ _ hinv hon hflt (fun g hg => ⟨haux g hg, hlight hk g hg⟩)
  | default => exact defaultH_refines h _ _ hinv hon hnum hflt haux hlab

theorem specH_frame (sqrtF : Rat → Rat) (h h' : AHeap) (r : HReq) (ok : HReqOk h r) (fr : Frame h h') :
    specH sqrtF h' r = specH sqrtF h r := by
  obtain ⟨_, hon, _, _, hflt, haux, _, _⟩ := ok
  unfold specH
  rw [abs_frame h h' r.field fr hon, oabs_frame h h' r.opts fr hflt haux]

theorem runHeapSession_length (sqrtF : Rat → Rat) (h : AHeap) (rs : List HReq) :
    (runHeapSession sqrtF h rs).2.length = rs.length :=
  session_length (callH sqrtF) (runHeapSession sqrtF) (fun _ => rfl) (fun _ _ _ => rfl) h rs

/-- **Sessions of direct calls** (`session_spec` for the heap of buffers): started on any heap `h` that
extends the initial heap `h0` without changing it, the session answers every request like the
value model on `h0` and ends on a heap that still extends `h0` unchanged. -/
theorem runHeapSession_spec (sqrtF : Rat → Rat) (h0 : AHeap) (rs : List HReq)
    (ok : ∀ r ∈ rs, HReqOk h0 r) (h : AHeap) (fr : Frame h0 h) :
    (runHeapSession sqrtF h rs).2 = rs.map (specH sqrtF h0) ∧ Frame h0 (runHeapSession sqrtF h rs).1 :=
  session_spec Frame Frame.trans (callH sqrtF) (runHeapSession sqrtF) (fun _ => rfl) (fun _ _ _ => rfl)
    (callH_frame sqrtF) (specH sqrtF) HReqOk
    (fun h0 h r okr fr => by rw [callH_spec sqrtF h r (okr.frame fr), specH_frame sqrtF h0 h r okr fr])
    h0 rs ok h fr

end DFV.C20
