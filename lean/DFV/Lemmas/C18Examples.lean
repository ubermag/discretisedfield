import DFV.Lemmas.C18Rotate
/-! Concrete instances used by the non-vacuity `example`s of `Props/C18.lean`. -/
namespace DFV.C18
open DFV

def exMesh : Mesh :=
  ⟨⟨[0, 0, 0], [4, 4, 3], ["x", "y", "z"], ["m", "m", "m"], 1/1000000000000⟩, [4, 4, 3], "", []⟩

/-- a 4×4×3 scalar field with affine data `1 + 2x − 3y + 5z` on the box [0,4]×[0,4]×[0,3] -/
def exF : Fld :=
  { mesh := exMesh, nvdim := 1,
    data := ⟨[4, 4, 3], fun idx => [1 + 2 * centreAbs exMesh 0 (idx.getD 0 0) + (-3) * centreAbs exMesh 1 (idx.getD 1 0)
                                      + 5 * centreAbs exMesh 2 (idx.getD 2 0)]⟩,
    valid := NDA.const [4, 4, 3] true, vdims := none, vmap := [], unit := none }

/-- a uniform 3-vector field `(7, −2, 3)` with labels `p, q, r` mapped to `y, x, z` -/
def exV : Fld :=
  { mesh := exMesh, nvdim := 3, data := ⟨[4, 4, 3], fun _ => [7, -2, 3]⟩,
    valid := NDA.const [4, 4, 3] true, vdims := some ["p", "q", "r"],
    vmap := [("p", "y"), ("q", "x"), ("r", "z")], unit := none }

/-- rotation about z with cos = 3/5, sin = 4/5 (quaternion 2 + k) -/
def exR : M3 := M3.ofQuat 2 0 0 1
/-- a generic rational rotation (quaternion 1 + 2i − 2j + 3k) -/
def exR2 : M3 := M3.ofQuat 1 2 (-2) 3

def exReg : Region := ⟨[-4/5, -4/5, 0], [24/5, 24/5, 3], ["x", "y", "z"], ["m", "m", "m"], 1/1000000000000⟩
def exNM : Mesh := ⟨exReg, [5, 5, 3], "", []⟩

def okIs {α} [DecidableEq α] (x : M α) (r : α) : Bool :=
  match x with
  | .ok v => decide (v = r)
  | .error _ => false

theorem okIs_sound {α} [DecidableEq α] (x : M α) (r : α) (h : okIs x r = true) : x = .ok r := by
  cases x with
  | error e => simp [okIs] at h
  | ok v => simp [okIs] at h; rw [h]

def isOk {α} : M α → Bool
  | .ok _ => true
  | .error _ => false

theorem isOk_sound {α} (x : M α) (h : isOk x = true) : ∃ v, x = .ok v := by
  cases x with
  | error e => simp [isOk] at h
  | ok v => exact ⟨v, rfl⟩

theorem exNewRegion : newRegion exF exR = .ok exReg := okIs_sound _ _ (by decide +kernel)
theorem exNewRegionV : newRegion exV exR = .ok exReg := okIs_sound _ _ (by decide +kernel)
theorem exMk : Mesh.mkN? exReg [5, 5, 3] "" = .ok exNM := okIs_sound _ _ (by decide +kernel)
theorem exOrdV : ordFor exV = .ok [1, 0, 2] := okIs_sound _ _ (by decide +kernel)

theorem exRot : rotateOnce exF exR (some [5, 5, 3]) = .ok (rotated exF exR [] exNM) := by
  unfold rotateOnce
  rw [exNewRegion]
  simp only [Option.getD_some]
  rw [exMk]
  rfl

theorem exRotV : rotateOnce exV exR (some [5, 5, 3]) = .ok (rotated exV exR [1, 0, 2] exNM) := by
  unfold rotateOnce
  rw [exNewRegionV]
  simp only [Option.getD_some]
  rw [exMk, exOrdV]

/-- acceptance (`rotateOnce_accepts`) in the form the examples ask for -/
theorem isOk_rotateOnce (f : Fld) (hm : Mesh3 f.mesh) {R : M3} (hR : R.IsRot) (ord : List Nat) (ho : ordFor f = .ok ord)
    (n? : Option (List Nat)) (hn : ∀ n, n? = some n → n.length = 3 ∧ ∀ k ∈ n, k ≠ 0) : isOk (rotateOnce f R n?) = true := by
  rw [rotateOnce_accepts f hm hR ord ho n? hn]; rfl

theorem exWF : WF exF := by unfold WF Mesh3 AxOk; decide +kernel
theorem exWFV : WF exV := by unfold WF Mesh3 AxOk; decide +kernel

end DFV.C18
