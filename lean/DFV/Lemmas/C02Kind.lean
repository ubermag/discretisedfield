import DFV.Model.C02
/-! C02: the kind (bool / int / float / complex) of the array a conversion returns when no dtype is
requested. -/
namespace DFV.C02
open DFV

variable {V : Type}

theorem Kind.pmax_float (k : Kind) :
    (k.pmax .float = .float ∨ k.pmax .float = .complex) ∧ (k.pmax .float = .complex ↔ k = .complex) ∧
    (k = k.pmax .float ↔ Kind.float.rank ≤ k.rank) ∧ ((k.pmax .float).pmax .float = k.pmax .float) := by
  cases k <;> decide

/-- the specification is a number, an array or a field: the forms whose values have a kind of their own -/
def Spec.hasKind : Spec V → Prop
  | .leaf (.scalar _) | .leaf (.arr _) | .leaf (.field _) => True
  | _ => False

theorem Spec.hasKind_iff (s : Spec V) :
    s.hasKind ↔ (∃ v, s = .leaf (.scalar v)) ∨ (∃ a, s = .leaf (.arr a)) ∨ ∃ src, s = .leaf (.field src) := by
  cases s with
  | dict items dflt => exact ⟨False.elim, by rintro (⟨_, h⟩ | ⟨_, h⟩ | ⟨_, h⟩) <;> cases h⟩
  | leaf l =>
    cases l with
    | scalar v => exact ⟨fun _ => Or.inl ⟨v, rfl⟩, fun _ => trivial⟩
    | arr a => exact ⟨fun _ => Or.inr (Or.inl ⟨a, rfl⟩), fun _ => trivial⟩
    | field src => exact ⟨fun _ => Or.inr (Or.inr ⟨src, rfl⟩), fun _ => trivial⟩
    | func f => exact ⟨False.elim, by rintro (⟨_, h⟩ | ⟨_, h⟩ | ⟨_, h⟩) <;> cases h⟩
    | bad => exact ⟨False.elim, by rintro (⟨_, h⟩ | ⟨_, h⟩ | ⟨_, h⟩) <;> cases h⟩

theorem specKind_none_complex (vk : Kind) (s : Spec V) (m : Mesh) (nv : Nat) :
    specKind none vk s m nv = .complex ↔ vk = .complex ∧ s.hasKind := by
  cases s with
  | dict items dflt => exact ⟨nofun, fun h => h.2.elim⟩
  | leaf l =>
    cases l with
    | scalar v => exact (Kind.pmax_float vk).2.1.trans (and_iff_left trivial).symm
    | arr a =>
      simp only [specKind, leafKind]
      split
      · exact (and_iff_left trivial).symm
      · exact (Kind.pmax_float vk).2.1.trans (and_iff_left trivial).symm
    | field src => exact (and_iff_left trivial).symm
    | func f => exact ⟨nofun, fun h => h.2.elim⟩
    | bad => exact ⟨nofun, fun h => h.2.elim⟩

theorem specKind_none_low (vk : Kind) (s : Spec V) (m : Mesh) (nv : Nat) :
    (specKind none vk s m nv).rank < Kind.float.rank ↔
      vk.rank < Kind.float.rank ∧
        ((∃ a, s = .leaf (.arr a) ∧ nv = 1 ∧ a.shape = m.n) ∨ ∃ src, s = .leaf (.field src)) := by
  have hhigh : ¬ (vk.pmax .float).rank < Kind.float.rank := by cases vk <;> decide
  cases s with
  | dict items dflt => exact ⟨fun h => absurd h (Nat.lt_irrefl _), by rintro ⟨_, ⟨_, h, _⟩ | ⟨_, h⟩⟩ <;> cases h⟩
  | leaf l =>
    cases l with
    | scalar v => exact ⟨fun h => absurd h hhigh, by rintro ⟨_, ⟨_, h, _⟩ | ⟨_, h⟩⟩ <;> cases h⟩
    | arr a =>
      simp only [specKind, leafKind]
      split
      · rename_i h
        exact ⟨fun hv => ⟨hv, Or.inl ⟨a, rfl, h⟩⟩, fun hv => hv.1⟩
      · rename_i h
        refine ⟨fun hv => absurd hv hhigh, ?_⟩
        rintro ⟨_, ⟨b, hb, hb'⟩ | ⟨_, hb⟩⟩
        · injection hb with hb; injection hb with hb; subst hb; exact absurd hb' h
        · cases hb
    | field src => exact ⟨fun h => ⟨h, Or.inr ⟨src, rfl⟩⟩, fun h => h.1⟩
    | func f => exact ⟨fun h => absurd h (Nat.lt_irrefl _), by rintro ⟨_, ⟨_, h, _⟩ | ⟨_, h⟩⟩ <;> cases h⟩
    | bad => exact ⟨fun h => absurd h (Nat.lt_irrefl _), by rintro ⟨_, ⟨_, h, _⟩ | ⟨_, h⟩⟩ <;> cases h⟩

/-- the two-pass path converts an array of shape `(*n, nvdim)`, never the cell-shaped shortcut -/
theorem updKind_none [Inhabited V] (vk : Kind) (s : Spec V) (m : Mesh) (nv : Nat) :
    updKind none vk s m nv = (specKind none vk s m nv).pmax .float := by
  have : ¬ (nv = 1 ∧ (NDA.const (m.n ++ [nv]) (default : V)).shape = m.n) := fun h => by
    have := congrArg List.length h.2
    simp [NDA.const] at this
  simp only [updKind, leafKind, if_neg this]

end DFV.C02
