import DFV.Lemmas.RatFloor
import DFV.Lemmas.Index
import DFV.Lemmas.ListOps
/-! What the geometry of `Model/Basic.lean` needs before any geometry, in this order: lists (`listMin` / `listMax`,
products), `np.round` (`roundHalfEven_eq_iff`), the boundary-condition strings, `Region` (exact containment,
`dim2index`, `center`), the Boolean invariants, and the fields of `Region.Inv` / `Mesh.Inv` by name
(`hr.lo_lt_hi ha`, `hm.nAt_pos ha`, `hm.cellAt_pos ha` …). -/
namespace DFV.C01
open DFV DFV.Mesh

/-! ### lists -/

theorem hasDup_false_iff_nodup (l : List String) : hasDup l = false ↔ l.Nodup := DFV.hasDup_false_iff_nodup l

theorem inRange_of_getD (ns is : List Nat) (hl : is.length = ns.length)
    (h : ∀ a, a < ns.length → is.getD a 0 < ns.getD a 0) : inRange ns is = true :=
  (inRange_iff ns is).mpr ⟨hl, h⟩

theorem getD_map_ofNat (i : List Nat) (a : Nat) : (i.map Int.ofNat).getD a 0 = ((i.getD a 0 : Nat) : Int) :=
  getD_map_of_eq (f := Int.ofNat) rfl i a

/-! ### `listMin` / `listMax` -/

theorem foldl_min_le (xs : List Rat) (x : Rat) : xs.foldl min x ≤ x := by
  induction xs generalizing x with
  | nil => simp
  | cons y ys ih => exact le_trans (ih (min x y)) (min_le_left _ _)

theorem foldl_min_le_mem (xs : List Rat) (x y : Rat) (h : y = x ∨ y ∈ xs) : xs.foldl min x ≤ y := by
  induction xs generalizing x with
  | nil => rcases h with h | h; · simp [h]
           · simp at h
  | cons z zs ih =>
    simp only [List.foldl_cons]
    rcases h with h | h
    · exact le_trans (foldl_min_le zs _) (by rw [h]; exact min_le_left _ _)
    · rcases List.mem_cons.mp h with h | h
      · exact le_trans (foldl_min_le zs _) (by rw [h]; exact min_le_right _ _)
      · exact ih _ (Or.inr h)

theorem listMin_le_mem (xs : List Rat) (y : Rat) (h : y ∈ xs) : listMin xs ≤ y := by
  cases xs with
  | nil => simp at h
  | cons x xs => exact foldl_min_le_mem xs x y (List.mem_cons.mp h)

theorem foldl_min_mem (xs : List Rat) (x : Rat) : xs.foldl min x ∈ x :: xs := by
  induction xs generalizing x with
  | nil => exact List.mem_cons_self
  | cons z zs ih =>
    rw [List.foldl_cons]
    rcases List.mem_cons.mp (ih (min x z)) with h | h
    · rw [h]
      rcases min_choice x z with h2 | h2 <;> rw [h2] <;> simp
    · exact List.mem_cons_of_mem _ (List.mem_cons_of_mem _ h)

theorem listMin_mem (xs : List Rat) (h : xs ≠ []) : listMin xs ∈ xs := by
  cases xs with
  | nil => exact absurd rfl h
  | cons x xs => exact foldl_min_mem xs x

theorem listMin_eq (l : List Rat) (a : Rat) (ha : a ∈ l) (hmin : ∀ y ∈ l, a ≤ y) : listMin l = a :=
  le_antisymm (listMin_le_mem l a ha) (hmin _ (listMin_mem l (List.ne_nil_of_mem ha)))

theorem listMin_nonneg_of_nonneg (xs : List Rat) (h : ∀ y ∈ xs, 0 ≤ y) : 0 ≤ listMin xs := by
  cases xs with
  | nil => exact le_rfl
  | cons x xs => exact h _ (listMin_mem _ (List.cons_ne_nil x xs))

theorem listMin_nonneg (xs : List Rat) (h : ∀ y ∈ xs, 0 < y) : 0 ≤ listMin xs :=
  listMin_nonneg_of_nonneg xs fun y hy => (h y hy).le

theorem foldl_max_ge (xs : List Rat) (x y : Rat) (hy : y ∈ x :: xs) : y ≤ xs.foldl max x := by
  induction xs generalizing x y with
  | nil => rw [List.mem_singleton.mp hy]; exact le_refl _
  | cons z zs ih =>
    rw [List.foldl_cons]
    rcases List.mem_cons.mp hy with rfl | h
    · exact (le_max_left _ _).trans (ih _ _ List.mem_cons_self)
    · rcases List.mem_cons.mp h with rfl | h
      · exact (le_max_right _ _).trans (ih _ _ List.mem_cons_self)
      · exact ih _ _ (List.mem_cons_of_mem _ h)

theorem foldl_max_mem (xs : List Rat) (x : Rat) : xs.foldl max x ∈ x :: xs := by
  induction xs generalizing x with
  | nil => exact List.mem_cons_self
  | cons z zs ih =>
    rw [List.foldl_cons]
    rcases List.mem_cons.mp (ih (max x z)) with h | h
    · rw [h]
      rcases max_choice x z with h2 | h2 <;> rw [h2] <;> simp
    · exact List.mem_cons_of_mem _ (List.mem_cons_of_mem _ h)

theorem listMax_eq (l : List Rat) (a : Rat) (ha : a ∈ l) (hmax : ∀ y ∈ l, y ≤ a) : listMax l = a := by
  cases l with
  | nil => simp at ha
  | cons x xs => exact le_antisymm (hmax _ (foldl_max_mem xs x)) (foldl_max_ge xs x a ha)

/-! ### products -/

theorem ratProd_map_mul {α} (l : List α) (f g : α → Rat) :
    ratProd (l.map f) * ratProd (l.map g) = ratProd (l.map fun x => f x * g x) := by
  induction l with
  | nil => simp [ratProd]
  | cons x xs ih => simp only [List.map_cons, ratProd]; rw [← ih]; ring

theorem natProd_cast (l : List Nat) : ((natProd l : Nat) : Rat) = ratProd (l.map (Nat.cast : Nat → Rat)) := by
  induction l with
  | nil => simp [natProd, ratProd]
  | cons x xs ih => simp only [natProd, List.map_cons, ratProd]; push_cast; rw [ih]

theorem ratProd_snoc (l : List Rat) (y : Rat) : ratProd (l ++ [y]) = ratProd l * y := by
  induction l with
  | nil => simp [ratProd]
  | cons x xs ih => simp only [List.cons_append, ratProd, ih, mul_assoc]

theorem ratProd_pos (l : List Rat) (h : ∀ x ∈ l, 0 < x) : 0 < ratProd l := by
  induction l with
  | nil => simp [ratProd]
  | cons x xs ih =>
    simp only [ratProd]
    exact mul_pos (h x (by simp)) (ih fun y hy => h y (by simp [hy]))

def intProd : List Int → Int
  | [] => 1
  | x :: xs => x * intProd xs

theorem ratProd_cast_int (l : List Int) : ratProd (l.map (Int.cast : Int → Rat)) = ((intProd l : Int) : Rat) := by
  induction l with
  | nil => simp [ratProd, intProd]
  | cons x xs ih => simp only [List.map_cons, ratProd, intProd]; push_cast; rw [ih]

/-! ### `np.round` -/

/-- `np.round` returns the nearest whole number, and of two equally near ones the even one -/
theorem roundHalfEven_spec (q : Rat) :
    |q - (roundHalfEven q : Rat)| < 1 / 2 ∨ (|q - (roundHalfEven q : Rat)| = 1 / 2 ∧ roundHalfEven q % 2 = 0) := by
  have h1 := rat_floor_le q
  have h2 := rat_lt_floor_add_one q
  unfold roundHalfEven
  split_ifs with c1 c2 c3
  · exact Or.inl (by rw [abs_of_nonneg (by linarith)]; exact c1)
  · exact Or.inl (by push_cast; rw [abs_of_neg (by linarith)]; linarith)
  · exact Or.inr ⟨by rw [abs_of_nonneg (by linarith)]; linarith, c3⟩
  · exact Or.inr ⟨by push_cast; rw [abs_of_neg (by linarith)]; linarith, by omega⟩

/-- … and that determines it -/
theorem roundHalfEven_eq_iff (q : Rat) (k : Int) :
    roundHalfEven q = k ↔ |q - (k : Rat)| < 1 / 2 ∨ (|q - (k : Rat)| = 1 / 2 ∧ k % 2 = 0) := by
  refine ⟨fun e => e ▸ roundHalfEven_spec q, fun hk => ?_⟩
  -- two whole numbers that near to `q` are less than 1 apart, or at most 1 apart and both even
  have hr := roundHalfEven_spec q
  generalize roundHalfEven q = r at hr
  have tri := abs_sub_le (r : Rat) q k
  rw [abs_sub_comm (r : Rat) q] at tri
  have : |((r - k : Int) : Rat)| < 1 ∨ (|((r - k : Int) : Rat)| ≤ 1 ∧ r % 2 = 0 ∧ k % 2 = 0) := by
    push_cast
    rcases hk with hk | ⟨hk, ek⟩ <;> rcases hr with hr | ⟨hr, er⟩
    · exact Or.inl (by linarith)
    · exact Or.inl (by linarith)
    · exact Or.inl (by linarith)
    · exact Or.inr ⟨by linarith, er, ek⟩
  rcases this with h | ⟨h, er, ek⟩
  · have := abs_lt.mp (by exact_mod_cast h : |r - k| < 1); omega
  · have := abs_le.mp (by exact_mod_cast h : |r - k| ≤ 1); omega

theorem roundHalfEven_of_near (q : Rat) (k : Int) (h : |q - (k : Rat)| < 1/2) : roundHalfEven q = k :=
  (roundHalfEven_eq_iff q k).mpr (Or.inl h)

theorem roundHalfEven_int (k : Int) : roundHalfEven (k : Rat) = k :=
  roundHalfEven_of_near _ k (by rw [sub_self, abs_zero]; norm_num)

theorem roundHalfEven_err (q : Rat) : |(roundHalfEven q : Rat) - q| ≤ 1 / 2 := by
  rw [abs_sub_comm]
  rcases roundHalfEven_spec q with h | h
  · exact h.le
  · exact h.1.le

theorem roundHalfEven_nonneg (q : Rat) (hq : 0 ≤ q) : 0 ≤ roundHalfEven q := by
  have := abs_le.mp (roundHalfEven_err q)
  have : (-1 : Rat) < (roundHalfEven q : Rat) := by linarith
  have : (-1 : Int) < roundHalfEven q := by exact_mod_cast this
  omega

/-- `np.round` is odd (ties go to the even neighbour on both sides) -/
theorem roundHalfEven_neg (q : Rat) : roundHalfEven (-q) = -roundHalfEven q := by
  rw [roundHalfEven_eq_iff]
  have e : |(-q) - ((-roundHalfEven q : Int) : Rat)| = |q - (roundHalfEven q : Rat)| := by
    push_cast; rw [← abs_neg]; congr 1; ring
  rw [e]
  exact (roundHalfEven_spec q).imp_right fun h => ⟨h.1, by omega⟩

/-! ### boundary-condition strings -/

theorem toLower_empty : "".toLower = "" := by
  unfold String.toLower
  exact String.map_eq_empty.mpr rfl

/-- a lower-cased capital lies in 'a'..'z', outside 'A'..'Z': the second pass changes nothing -/
theorem char_lower_idem (c : Char) : c.toLower.toLower = c.toLower := by
  unfold Char.toLower
  split
  · rename_i h
    split
    · rename_i h2
      exfalso
      simp only [ge_iff_le, UInt32.le_iff_toNat_le, UInt32.toNat_add] at h h2
      have e1 : 'A'.val.toNat = 65 := by decide
      have e2 : 'Z'.val.toNat = 90 := by decide
      have e3 : ('a'.val - 'A'.val).toNat = 32 := by decide
      rw [e1, e2] at h
      rw [e1, e2, e3] at h2
      omega
    · rfl
  · rfl

/-- `bc.lower().lower() == bc.lower()` -/
theorem toLower_idem (s : String) : s.toLower.toLower = s.toLower := by
  apply String.toList_inj.mp
  simp only [String.toLower, String.toList_map, List.map_map]
  apply List.map_congr_left
  intro a _
  exact char_lower_idem a

/-- the default boundary condition `bc = ""` is valid on every region -/
theorem bcOk_empty (dims : List String) : bcOk dims "" = true := by simp [bcOk]

theorem bcOk_empty_lower (dims : List String) : bcOk dims "".toLower = true := by
  rw [toLower_empty]; exact bcOk_empty dims

/-! ### `Region`: exact containment, `dim2index` (the lookup `indexOf?` itself: `Lemmas/ListOps.lean`), `center` -/

theorem containsAx_of_exact (r : Region) (a : Nat) (x : Rat) (h1 : r.lo a ≤ x) (h2 : x ≤ r.hi a) :
    r.containsAx a x = true := by
  unfold Region.containsAx
  simp [h1, h2]

/-- `np.isclose(a, b, rtol, atol)` -/
theorem isclose_iff (a b rtol atol : Rat) : Region.isclose a b rtol atol = true ↔ |a - b| ≤ atol + rtol * |b| := by
  unfold Region.isclose
  rw [decide_eq_true_iff, absR_eq_abs, absR_eq_abs]

/-- `isclose_iff` with the model's own absolute value -/
theorem isclose_iff_absR (a b rtol atol : Rat) :
    Region.isclose a b rtol atol = true ↔ absR (a - b) ≤ atol + rtol * absR b := decide_eq_true_iff

theorem containsAx_eq_true_iff (r : Region) (a : Nat) (x : Rat) :
    r.containsAx a x = true ↔ (r.lo a ≤ x ∨ Region.isclose (r.lo a) x r.tol r.atol = true) ∧
      (x ≤ r.hi a ∨ Region.isclose (r.hi a) x r.tol r.atol = true) := by
  unfold Region.containsAx
  rw [Bool.and_eq_true, Bool.or_eq_true, Bool.or_eq_true, decide_eq_true_eq, decide_eq_true_eq]

theorem containsAx_false_of_lt (r : Region) (a : Nat) (x : Rat) (hx : x < r.lo a)
    (hband : r.atol + r.tol * absR x < r.lo a - x) : r.containsAx a x = false := by
  rw [Bool.eq_false_iff, ne_eq, containsAx_eq_true_iff, isclose_iff_absR, absR_of_nonneg (sub_pos.mpr hx).le]
  exact fun h => h.1.elim (not_le.mpr hx) (not_le.mpr hband)

theorem containsAx_false_of_gt (r : Region) (a : Nat) (x : Rat) (hx : r.hi a < x)
    (hband : r.atol + r.tol * absR x < x - r.hi a) : r.containsAx a x = false := by
  rw [Bool.eq_false_iff, ne_eq, containsAx_eq_true_iff, isclose_iff_absR, isclose_iff_absR (r.hi a),
    absR_of_nonpos (sub_neg.mpr hx).le, neg_sub]
  exact fun h => h.2.elim (not_le.mpr hx) (not_le.mpr hband)

theorem containsPt_eq_true_iff (r : Region) (p : List Rat) :
    r.containsPt p = true ↔ p.length = r.ndim ∧ ∀ a, a < r.ndim → r.containsAx a (p.getD a 0) = true := by
  unfold Region.containsPt
  rw [Bool.and_eq_true, decide_eq_true_eq, allLt_iff]

theorem containsPt_of_exact (r : Region) (p : List Rat) (h : r.containsExact p) : r.containsPt p = true :=
  (containsPt_eq_true_iff r p).mpr ⟨h.1, fun a ha => containsAx_of_exact r a _ (h.2 a ha).1 (h.2 a ha).2⟩

theorem containsPt_false_of_length (r : Region) (p : List Rat) (h : p.length ≠ r.ndim) : r.containsPt p = false :=
  Bool.eq_false_iff.mpr fun hc => h ((containsPt_eq_true_iff r p).mp hc).1

theorem containsPt_false_of_axis (r : Region) (p : List Rat) {a : Nat} (ha : a < r.ndim)
    (h : r.containsAx a (p.getD a 0) = false) : r.containsPt p = false :=
  Bool.eq_false_iff.mpr fun hc => by rw [((containsPt_eq_true_iff r p).mp hc).2 a ha] at h; cases h

theorem containsReg_eq_true_iff (r o : Region) :
    r.containsReg o = true ↔ r.containsPt o.pmin = true ∧ r.containsPt o.pmax = true := Bool.and_eq_true_iff

theorem containsReg_lengths {r o : Region} (h : r.containsReg o = true) : o.pmin.length = r.ndim ∧ o.pmax.length = r.ndim :=
  ⟨((containsPt_eq_true_iff r _).mp ((containsReg_eq_true_iff r o).mp h).1).1,
    ((containsPt_eq_true_iff r _).mp ((containsReg_eq_true_iff r o).mp h).2).1⟩

theorem containsReg_of_exact (r o : Region) (h1 : o.pmin.length = r.ndim) (h2 : o.pmax.length = r.ndim)
    (h : ∀ a, a < r.ndim → (r.lo a ≤ o.lo a ∧ o.lo a ≤ r.hi a) ∧ (r.lo a ≤ o.hi a ∧ o.hi a ≤ r.hi a)) :
    r.containsReg o = true :=
  (containsReg_eq_true_iff r o).mpr ⟨containsPt_of_exact r _ ⟨h1, fun a ha => (h a ha).1⟩,
    containsPt_of_exact r _ ⟨h2, fun a ha => (h a ha).2⟩⟩

theorem containsReg_false_of_length (r o : Region) (h : o.pmin.length ≠ r.ndim ∨ o.pmax.length ≠ r.ndim) :
    r.containsReg o = false :=
  Bool.eq_false_iff.mpr fun hc => h.elim (fun h => h (containsReg_lengths hc).1) fun h => h (containsReg_lengths hc).2

theorem containsReg_ndim {r o : Region} (h : r.containsReg o = true) : o.ndim = r.ndim := (containsReg_lengths h).1

section Dim2index
variable (r : Region) (d : String)

/-- `dim2index_iff` of `Lemmas/ListOps.lean` -/
theorem dim2index_ok_iff (a : Nat) :
    r.dim2index d = .ok a ↔ a < r.dims.length ∧ r.dims.getD a "" = d ∧ ∀ t, t < a → r.dims.getD t "" ≠ d :=
  dim2index_iff r d a

theorem dim2index_exists_iff : (∃ a, r.dim2index d = .ok a) ↔ d ∈ r.dims :=
  ⟨fun ⟨a, h⟩ => DFV.dim2index_mem r d a h, fun h =>
    (exists_indexOf?_of_mem r.dims d h).imp fun a ha => (dim2index_eq_ok_iff r d a).mpr ha⟩

variable {r d} {a : Nat} (h : r.dim2index d = .ok a)
include h

theorem dim2index_lt : a < r.dims.length := (dim2index_ok r d a h).1

theorem getD_of_dim2index : r.dims.getD a "" = d := (dim2index_ok r d a h).2

end Dim2index

theorem dim2index_inj {r : Region} {d1 d2 : String} {a : Nat} (h1 : r.dim2index d1 = .ok a) (h2 : r.dim2index d2 = .ok a) :
    d1 = d2 := (getD_of_dim2index h1).symm.trans (getD_of_dim2index h2)

theorem center_length (r : Region) : r.center.length = r.ndim := tab_length _ _

theorem center_getD (r : Region) (a : Nat) (ha : a < r.ndim) : r.center.getD a 0 = (r.lo a + r.hi a) / 2 :=
  getD_tab _ _ _ _ ha

/-! ### the invariants -/

theorem region_inv_of_invB (r : Region) (h : r.invB = true) : r.Inv := by
  unfold Region.invB at h
  simp only [Bool.and_eq_true, decide_eq_true_eq, Bool.not_eq_true'] at h
  obtain ⟨⟨⟨⟨⟨h1, h2⟩, h3⟩, h4⟩, h5⟩, h6⟩ := h
  refine ⟨h1, h2, h3, h4, h5, ?_⟩
  intro a ha
  have := (allLt_iff _ _).mp h6 a ha
  simpa using this

theorem mesh_inv_of_invB (m : Mesh) (h : m.invB = true) : m.Inv := by
  unfold Mesh.invB at h
  simp only [Bool.and_eq_true, decide_eq_true_eq] at h
  obtain ⟨⟨h1, h2⟩, h3⟩ := h
  refine ⟨region_inv_of_invB _ h1, h2, ?_⟩
  intro a ha
  have := (allLt_iff _ _).mp h3 a ha
  simpa using this

section RegionInv
variable {r : Region} (hr : r.Inv)
include hr

theorem _root_.DFV.Region.Inv.ndim_pos : 0 < r.ndim := hr.1

theorem _root_.DFV.Region.Inv.pmax_length : r.pmax.length = r.ndim := hr.2.1

theorem _root_.DFV.Region.Inv.dims_length : r.dims.length = r.ndim := hr.2.2.1

theorem _root_.DFV.Region.Inv.units_length : r.units.length = r.ndim := hr.2.2.2.1

theorem _root_.DFV.Region.Inv.dims_nodup : hasDup r.dims = false := hr.2.2.2.2.1

theorem _root_.DFV.Region.Inv.lo_lt_hi {a : Nat} (ha : a < r.ndim) : r.lo a < r.hi a := hr.2.2.2.2.2 a ha

theorem _root_.DFV.Region.Inv.edge_pos {a : Nat} (ha : a < r.ndim) : 0 < r.edge a := sub_pos.mpr (hr.lo_lt_hi ha)

theorem _root_.DFV.Region.Inv.dim2index_lt {d : String} {a : Nat} (h : r.dim2index d = .ok a) : a < r.ndim :=
  lt_of_lt_of_eq (C01.dim2index_lt h) hr.dims_length

end RegionInv

theorem containsReg_self (r : Region) (hr : r.Inv) : r.containsReg r = true :=
  containsReg_of_exact r r rfl hr.pmax_length fun _ ha =>
    ⟨⟨le_rfl, (hr.lo_lt_hi ha).le⟩, (hr.lo_lt_hi ha).le, le_rfl⟩

section Inv
variable {m : Mesh} (hm : m.Inv)
include hm

theorem _root_.DFV.Mesh.Inv.lo_lt_hi {a : Nat} (ha : a < m.ndim) : m.region.lo a < m.region.hi a :=
  hm.1.lo_lt_hi ha

theorem _root_.DFV.Mesh.Inv.n_length : m.n.length = m.ndim := hm.2.1

theorem _root_.DFV.Mesh.Inv.dims_length : m.region.dims.length = m.ndim := hm.1.dims_length

theorem _root_.DFV.Mesh.Inv.dim2index_lt {d : String} {a : Nat} (h : m.region.dim2index d = .ok a) : a < m.ndim :=
  hm.1.dim2index_lt h

theorem _root_.DFV.Mesh.Inv.length_eq {i : List Nat} (hi : inRange m.n i = true) : i.length = m.ndim :=
  (inRange_length m.n i hi).trans hm.2.1

theorem _root_.DFV.Mesh.Inv.getD_lt {i : List Nat} (hi : inRange m.n i = true) {a : Nat} (ha : a < m.ndim) :
    i.getD a 0 < m.nAt a :=
  inRange_getD m.n i hi a (hm.2.1.trans_gt ha)

theorem _root_.DFV.Mesh.Inv.nAt_pos {a : Nat} (ha : a < m.ndim) : 0 < m.nAt a := hm.2.2 a ha

theorem _root_.DFV.Mesh.Inv.mem_n_pos : ∀ k ∈ m.n, 0 < k := by
  intro k hk
  obtain ⟨a, ha, rfl⟩ := exists_getD_of_mem m.n k 0 hk
  exact hm.nAt_pos (lt_of_lt_of_eq ha hm.n_length)

theorem _root_.DFV.Mesh.Inv.cellAt_pos {a : Nat} (ha : a < m.ndim) : 0 < m.cellAt a :=
  div_pos (sub_pos.mpr (hm.lo_lt_hi ha)) (by exact_mod_cast hm.2.2 a ha)

theorem _root_.DFV.Mesh.Inv.inRange_tab (f : Nat → Nat) (h : ∀ a, a < m.ndim → f a < m.nAt a) :
    inRange m.n (tab m.ndim f) = true := by
  rw [← hm.n_length]
  exact DFV.inRange_tab m.n f fun a ha => h a (hm.n_length ▸ ha)

/-- an in-range multi-index passes the checks of `index2point` -/
theorem _root_.DFV.Mesh.Inv.natIndex_ok {i : List Nat} (hi : inRange m.n i = true) :
    (i.map Int.ofNat).length = m.ndim ∧ ∀ a, a < m.ndim →
      0 ≤ (i.map Int.ofNat).getD a 0 ∧ (i.map Int.ofNat).getD a 0 < (m.nAt a : Int) :=
  ⟨by rw [List.length_map]; exact hm.length_eq hi, fun a ha => by
    rw [getD_map_ofNat]; exact ⟨Int.natCast_nonneg _, by exact_mod_cast hm.getD_lt hi ha⟩⟩

end Inv

theorem _root_.DFV.Mesh.Inv.congr {m m' : Mesh} (hm : m.Inv) (hr : m'.region = m.region) (hn : m'.n = m.n) : m'.Inv := by
  unfold Mesh.Inv Mesh.ndim Mesh.nAt at *
  rw [hr, hn]
  exact hm

end DFV.C01
