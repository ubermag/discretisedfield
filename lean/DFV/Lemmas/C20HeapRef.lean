import DFV.Lemmas.C20Heap
import DFV.Lemmas.C20Plot
/-!
The plot functions on the heap REFINE the value model (C20): what `scalar` / `contour` / `vector`
hand to matplotlib after their in-place NaN writes is what `mplScalar` / `mplContour` /
`mplVector` compute from the field as a value.  The one place where the two NaN writes of
`_filter_values` are looked at is `filterValuesH_spec`.
-/
namespace DFV.C20
open DFV

theorem imgOfBuf_eq {α} (n : List Nat) (hn : n.length = 2) (b : List Nat → Option α) (keep : NDA Bool)
    (val : List Nat → α)
    (hb : ∀ x y, b [x, y] = if keep.get [x, y] then some (val [x, y]) else none) :
    (⟨n, b⟩ : NDA (Option α)).transpose [1, 0] = imgOf n keep val := by
  unfold imgOf NDA.transpose
  simp only [hn]
  congr 1
  funext i
  exact hb _ _

/-- the field's arrays exist on the heap -/
def HFld.On (h : AHeap) (f : HFld) : Prop := f.arr < h.length ∧ f.val < h.length

theorem HFld.On.frame {h h' : AHeap} {g : HFld} (hg : g.On h) (fr : Frame h h') : g.On h' :=
  ⟨Nat.lt_of_lt_of_le hg.1 fr.1, Nat.lt_of_lt_of_le hg.2 fr.1⟩

theorem abs_frame (h h' : AHeap) (f : HFld) (fr : Frame h h') (hf : f.On h) : f.abs h' = f.abs h := by
  unfold HFld.abs HFld.validAt
  rw [fr.2 _ hf.1, fr.2 _ hf.2]

theorem validAt_frame (h h' : AHeap) (f : HFld) (fr : Frame h h') (hf : f.On h) (i : List Nat) :
    f.validAt h' i = f.validAt h i := by
  unfold HFld.validAt
  rw [fr.2 _ hf.2]

theorem abs_data (h : AHeap) (g : HFld) (c : Nat) (hc : c < g.nvdim) (i : List Nat) :
    ((g.abs h).data.get i).getD c 0 = (h.buf g.arr (i ++ [c])).getD 0 :=
  getD_tab _ _ _ _ hc

theorem abs_mesh (h : AHeap) (f : HFld) : (f.abs h).mesh = f.mesh := rfl
theorem abs_nvdim (h : AHeap) (f : HFld) : (f.abs h).nvdim = f.nvdim := rfl
theorem oabs_mult (h : AHeap) (o : HOpts) : (o.abs h).mult = o.mult := rfl

theorem oabs_with_mult (h : AHeap) (o : HOpts) (m : Rat) :
    ({ o with mult := some m } : HOpts).abs h = { o.abs h with mult := some m } := rfl

theorem oabs_frame (h h' : AHeap) (o : HOpts) (fr : Frame h h') (hflt : ∀ g, o.filter = some g → g.On h)
    (haux : ∀ g, o.aux = some g → g.On h) : o.abs h' = o.abs h := by
  unfold HOpts.abs
  have e1 : o.filter.map (·.abs h') = o.filter.map (·.abs h) := by
    cases hf : o.filter with
    | none => rfl
    | some g => simp only [Option.map_some]; rw [abs_frame h h' g fr (hflt g hf)]
  have e2 : o.aux.map (·.abs h') = o.aux.map (·.abs h) := by
    cases hf : o.aux with
    | none => rfl
    | some g => simp only [Option.map_some]; rw [abs_frame h h' g fr (haux g hf)]
  rw [e1, e2]

theorem some_getD_of_isSome (b : Option Rat) (h : b.isSome) : some (b.getD 0) = b := by
  cases b with
  | none => cases h
  | some v => rfl

/-! ## `_filter_values` -/

theorem buf_two_writes (h : AHeap) (V : Nat) (m1 m2 : List Nat → Bool) (hV : V < h.length) (i : List Nat) :
    ((h.nanWhere V m1).nanWhere V m2).buf V i =
      if m2 i then none else if m1 i then none else h.buf V i := by
  rw [buf_nanWhere_eq _ _ _ (by rw [nanWhere_len]; exact hV), buf_nanWhere_eq _ _ _ hV]

/-- **`_filter_values` on any buffer `R` of the heap against the filter step of the value model**,
for any value field `fA` that has the cell counts of `f` and reads `f`'s validity at every cell, and
any value filter `FA` that reads like the filter object `F`: both fail together; otherwise the
entries of `R` in the cells the value model drops are NaN, all others and all other buffers are
untouched. -/
theorem filterValuesH_spec (H : AHeap) (f F : HFld) (fA FA : Fld) (R : Nat)
    (hf : f.On H) (hR : R < H.length) (hmesh : fA.mesh.n = f.mesh.n)
    (hval : ∀ x y, fA.valid.get [x, y] = f.validAt H [x, y])
    (hF1 : FA.nvdim = F.nvdim) (hF2 : FA.mesh = F.mesh)
    (hsame : F.mesh.n = f.mesh.n → F.nvdim = 1 →
      ∀ x y, (H.buf F.arr [x, y, 0]).getD 0 = (FA.data.get [x, y]).getD 0 0)
    (hother : F.mesh.n ≠ f.mesh.n → F.abs H = FA) :
    match filterKeep fA FA with
    | .error e => filterValuesH H f F R = .error e
    | .ok keep => ∃ H', filterValuesH H f F R = .ok H' ∧
        ∀ x y (i : List Nat), i.take 2 = [x, y] →
          H'.buf R i = if keep.get [x, y] then H.buf R i else none := by
  unfold filterKeep
  by_cases c1 : F.nvdim ≠ 1
  · rw [if_pos (by rw [hF1]; exact c1)]
    unfold filterValuesH
    rw [if_pos c1]
  rw [if_neg (by rw [hF1]; exact c1)]
  by_cases c2 : F.mesh.region.ndim ≠ 2
  · rw [if_pos (by rw [hF2]; exact c2)]
    unfold filterValuesH
    rw [if_neg c1, if_pos c2]
  rw [if_neg (by rw [hF2]; exact c2)]
  have g1 : F.nvdim = 1 := not_not.mp c1
  have g2 : F.mesh.region.ndim = 2 := not_not.mp c2
  -- the two writes, with `z` the filter value of the cell and `v` its validity
  have two : ∀ (z : Rat) (v : Bool) (b : Option Rat),
      (if (!v) = true then none else if decide (z = 0) = true then none else b) =
        if (!decide (z = 0) && v) = true then b else none := by
    intro z v b
    cases v <;> by_cases hz : z = 0 <;> simp [hz]
  unfold filterValuesH filterArrH
  rw [if_neg c1, if_neg c2]
  by_cases hn : F.mesh.n = f.mesh.n
  · rw [auxOnMesh_same fA FA (by rw [hF2, hmesh]; exact hn), if_pos hn]
    refine ⟨_, rfl, fun x y i hi => ?_⟩
    rw [buf_two_writes _ _ _ _ hR]
    simp only [hi]
    show (if (!f.validAt H [x, y]) = true then none
      else if decide ((H.buf F.arr [x, y, 0]).getD 0 = 0) = true then none else H.buf R i) = _
    rw [← hval x y, hsame hn g1 x y]
    exact two _ _ _
  · rw [if_neg hn, hother hn]
    have : auxOnMesh (f.abs H) FA = auxOnMesh fA FA := by unfold auxOnMesh; rw [hmesh]; rfl
    rw [this]
    cases auxOnMesh fA FA with
    | error e => rfl
    | ok a =>
      refine ⟨_, rfl, fun x y i hi => ?_⟩
      rw [buf_two_writes _ _ _ _ (by rw [alloc_len]; omega)]
      simp only [hi]
      rw [validAt_frame _ _ f (frame_alloc H _) hf, ← hval x y, show ∀ b, (H.alloc b).2 = H.length from fun _ => rfl,
        buf_alloc_new, buf_alloc_lt _ _ _ hR]
      exact two _ _ _

/-- relation between a filter field on the heap and the filter field of the value model, as far
as `_filter_values` looks at it -/
structure FilterRel (H : AHeap) (f F : HFld) (FA : Fld) : Prop where
  on : F.On H
  nvdim : FA.nvdim = F.nvdim
  mesh : FA.mesh = F.mesh
  same : F.mesh.n = f.mesh.n → F.nvdim = 1 →
    ∀ x y, (H.buf F.arr [x, y, 0]).getD 0 = (FA.data.get [x, y]).getD 0 0
  other : F.mesh.n ≠ f.mesh.n → F.abs H = FA

theorem FilterRel.frame {H H' : AHeap} {f F : HFld} {FA : Fld} (r : FilterRel H f F FA) (fr : Frame H H') :
    FilterRel H' f F FA :=
  ⟨r.on.frame fr, r.nvdim, r.mesh,
   fun hn h1 x y => by rw [fr.2 _ r.on.1]; exact r.same hn h1 x y,
   fun hn => by rw [abs_frame _ _ F fr r.on]; exact r.other hn⟩

theorem FilterRel.congr {H : AHeap} {f f' F : HFld} {FA : Fld} (r : FilterRel H f F FA)
    (hm : f'.mesh.n = f.mesh.n) : FilterRel H f' F FA :=
  ⟨r.on, r.nvdim, r.mesh, fun hn h1 => r.same (by rw [← hm]; exact hn) h1,
   fun hn => r.other (by rw [← hm]; exact hn)⟩

theorem validAsFieldH_len (h : AHeap) (f : HFld) : (validAsFieldH h f).1.length = h.length + 2 := by
  unfold validAsFieldH; simp only [alloc_len]

theorem validAsFieldH_arr (h : AHeap) (f : HFld) (i : List Nat) :
    (validAsFieldH h f).1.buf (validAsFieldH h f).2.arr i =
      some (if f.validAt h (i.take 2) then 1 else 0) := by
  show ((h.alloc _).1.alloc _).1.buf h.length i = _
  rw [buf_alloc_lt _ _ h.length (by rw [alloc_len]; omega), buf_alloc_new]

/-- the filter in force (the given object, or a fresh `_valid_as_field` built on any later heap
`H`) stands in `FilterRel` to the filter of the value model -/
theorem filterFieldH_rel (h H : AHeap) (f : HFld) (flt : Option HFld) (fr : Frame h H) (hf : f.On h)
    (hflt : ∀ g, flt = some g → g.On h) :
    FilterRel (filterFieldH H f flt).1 f (filterFieldH H f flt).2
      (filterOf (f.abs h) { filter := flt.map (·.abs h) }) := by
  cases flt with
  | none =>
    refine ⟨⟨?_, ?_⟩, rfl, rfl, fun _ _ x y => ?_, fun hn => absurd rfl hn⟩
    · show H.length < (validAsFieldH H f).1.length; rw [validAsFieldH_len]; omega
    · show H.length + 1 < (validAsFieldH H f).1.length; rw [validAsFieldH_len]; omega
    · show ((validAsFieldH H f).1.buf (validAsFieldH H f).2.arr [x, y, 0]).getD 0 = _
      rw [validAsFieldH_arr]
      show (if f.validAt H [x, y] = true then (1 : Rat) else 0) = if f.validAt h [x, y] = true then 1 else 0
      rw [validAt_frame _ _ f fr hf]
  | some g =>
    have hg := hflt g rfl
    exact ⟨hg.frame fr, rfl, rfl,
      fun _ h1 x y => by
        show (H.buf g.arr [x, y, 0]).getD 0 = _
        rw [fr.2 _ hg.1]
        exact (abs_data h g 0 (Nat.lt_of_lt_of_le Nat.one_pos (Nat.le_of_eq h1.symm)) [x, y]).symm,
      fun _ => abs_frame h H g fr hg⟩

/-! ## scalar / contour -/

/-- **`values` after `_filter_values` = the masked array of the value model.**  `f` is a field on
the heap `H` with numbers in its array; `fA` a value field with the cell counts of `f` whose
component 0 and validity agree with `f` at every cell; the filter in force stands in `FilterRel`
to the value filter `FA`.  The common part of `scalar` / `contour` on the heap fails exactly when
the filter step of the value model fails, and otherwise leaves in `values` the field's number
where the value model keeps the cell and NaN elsewhere. -/
theorem maskedValuesH_spec (H : AHeap) (f : HFld) (flt : Option HFld) (fA FA : Fld)
    (hf : f.On H) (hnum : ∀ i, (H.buf f.arr i).isSome) (hmesh : fA.mesh.n = f.mesh.n)
    (hval : ∀ x y, fA.valid.get [x, y] = f.validAt H [x, y])
    (hdata : ∀ x y, (fA.data.get [x, y]).getD 0 0 = (H.buf f.arr [x, y, 0]).getD 0)
    (rel : ∀ H', Frame H H' → FilterRel (filterFieldH H' f flt).1 f (filterFieldH H' f flt).2 FA) :
    match filterKeep fA FA with
    | .error e => maskedValuesH H f flt = .error e
    | .ok keep => ∃ hv, maskedValuesH H f flt = .ok hv ∧ hv.2 = H.length ∧
        ∀ x y, hv.1.buf hv.2 [x, y] =
          if keep.get [x, y] then some ((fA.data.get [x, y]).getD 0 0) else none := by
  have fr1 : Frame H (H.alloc fun i => H.buf f.arr (i.take 2 ++ [0])).1 := frame_alloc H _
  have frF := frame_filterFieldH (H.alloc fun i => H.buf f.arr (i.take 2 ++ [0])).1 f flt
  have hV : H.length < (H.alloc fun i => H.buf f.arr (i.take 2 ++ [0])).1.length := by
    rw [alloc_len]; omega
  have r := rel _ fr1
  have key := filterValuesH_spec _ f _ fA FA H.length (hf.frame (fr1.trans frF))
    (Nat.lt_of_lt_of_le hV frF.1) hmesh
    (fun x y => by rw [hval x y, validAt_frame _ _ f (fr1.trans frF) hf]) r.nvdim r.mesh r.same r.other
  unfold maskedValuesH
  cases hk : filterKeep fA FA with
  | error e => rw [hk] at key; rw [key]
  | ok keep =>
    rw [hk] at key
    obtain ⟨H', hH', hb⟩ := key
    rw [hH']
    refine ⟨_, rfl, rfl, fun x y => ?_⟩
    rw [hb x y [x, y] rfl, frF.2 _ hV, buf_alloc_new, hdata x y]
    show (if keep.get [x, y] = true then H.buf f.arr [x, y, 0] else none) = _
    rw [some_getD_of_isSome _ (hnum [x, y, 0])]

/-- **`values` handed on as an image = the masked image of the value model**: the common part of
`scalar` / `contour` followed by the labels and a call `mk` built from the transposed `values`, against the
filter step of the value model followed by the same (hypotheses as `maskedValuesH_spec`) -/
theorem maskedH_tail (H : AHeap) (f : HFld) (flt : Option HFld) (fA FA : Fld) (r : Region) (m : Rat)
    (mk : NDA (Option Rat) → PlotCall) (hn : f.mesh.n.length = 2)
    (hf : f.On H) (hnum : ∀ i, (H.buf f.arr i).isSome) (hmesh : fA.mesh.n = f.mesh.n)
    (hval : ∀ x y, fA.valid.get [x, y] = f.validAt H [x, y])
    (hdata : ∀ x y, (fA.data.get [x, y]).getD 0 0 = (H.buf f.arr [x, y, 0]).getD 0)
    (rel : ∀ H', Frame H H' → FilterRel (filterFieldH H' f flt).1 f (filterFieldH H' f flt).2 FA) :
    (stepH H (maskedValuesH H f flt) fun hv => stepH hv.1 (axisLabels r m) fun lab =>
      (hv.1, .ok [mk (imgOfBuf f.mesh.n (hv.1.buf hv.2)), lab])).2 =
    (filterKeep fA FA).bind fun keep => (axisLabels r m).bind fun lab =>
      .ok [mk (imgOf f.mesh.n keep fun i => (fA.data.get i).getD 0 0), lab] := by
  have spec := maskedValuesH_spec H f flt fA FA hf hnum hmesh hval hdata rel
  cases hk : filterKeep fA FA with
  | error e => rw [hk] at spec; rw [spec]; rfl
  | ok keep =>
    rw [hk] at spec
    obtain ⟨hv, hm, _, hb⟩ := spec
    rw [hm, stepH, stepH_snd]
    exact congrArg (fun img => (axisLabels r m).bind fun lab => .ok [mk img, lab]) (imgOfBuf_eq f.mesh.n hn _ keep _ hb)

/-- **The scalar plot on the heap against any value field that reads the same at the cells.**
`f` is a field with at least one component on the heap `H`, numbers in its array; `fA` a value
field on the same mesh with as many components, whose component 0 and validity agree with `f` at
every cell; the multiplier step agrees, and the filter in force stands in `FilterRel` to the value
filter.  Then `scalar` on the heap hands over what `mplScalar fA` does. -/
theorem scalarH_refinesA (H : AHeap) (f : HFld) (fA : Fld) (o : HOpts) (oA : Opts)
    (hinv : f.mesh.Inv) (hf : f.On H) (hnum : ∀ i, (H.buf f.arr i).isSome)
    (hmesh : fA.mesh = f.mesh) (hnvA : fA.nvdim = f.nvdim)
    (hdata : ∀ x y, (fA.data.get [x, y]).getD 0 0 = (H.buf f.arr [x, y, 0]).getD 0)
    (hval : ∀ x y, fA.valid.get [x, y] = f.validAt H [x, y])
    (hmult : setupMultiplier (f.abs H) o.mult = setupMultiplier fA oA.mult)
    (rel : ∀ H', Frame H H' →
      FilterRel (filterFieldH H' f o.filter).1 f (filterFieldH H' f o.filter).2 (filterOf fA oA)) :
    (scalarH H f o).2 = mplScalar fA oA := by
  rw [scalarH_eq, mplScalar_eq_bind, hmesh, hnvA, hmult]
  by_cases h2 : f.mesh.region.ndim ≠ 2
  · rw [if_pos h2, if_pos h2]
  rw [if_neg h2, if_neg h2]
  by_cases hnv : f.nvdim > 1
  · rw [if_pos hnv, if_pos hnv]
  rw [if_neg hnv, if_neg hnv, stepH_snd]
  refine bind_congr_ok fun m _ => ?_
  rw [stepH_snd, scalarCore_eq_bind, hmesh]
  refine bind_congr_ok fun ext _ => ?_
  exact maskedH_tail H f o.filter fA (filterOf fA oA) _ m (fun img => .imshow img "lower" ext)
    (mesh_n_two f.mesh hinv (not_not.mp h2)) hf hnum (by rw [hmesh]) hval hdata rel

/-- **The scalar plot on the heap refines the value model** (also for fields it refuses) -/
theorem scalarH_refines (h : AHeap) (f : HFld) (o : HOpts) (hinv : f.mesh.Inv) (hf : f.On h)
    (hnum : ∀ i, (h.buf f.arr i).isSome) (hg : ∀ g, o.filter = some g → g.On h) (hnv : 1 ≤ f.nvdim) :
    (scalarH h f o).2 = mplScalar (f.abs h) (o.abs h) :=
  scalarH_refinesA h f (f.abs h) o (o.abs h) hinv hf hnum rfl rfl (fun x y => abs_data h f 0 hnv [x, y])
    (fun _ _ => rfl) rfl (fun H' fr => filterFieldH_rel h H' f o.filter fr hf hg)

theorem contourH_refines (h : AHeap) (f : HFld) (o : HOpts) (hinv : f.mesh.Inv) (hf : f.On h)
    (hnum : ∀ i, (h.buf f.arr i).isSome) (hg : ∀ g, o.filter = some g → g.On h) :
    (contourH h f o).2 = mplContour (f.abs h) (o.abs h) := by
  rw [contourH_eq, mplContour_eq_bind, abs_mesh, abs_nvdim, oabs_mult]
  by_cases h2 : f.mesh.region.ndim ≠ 2
  · rw [if_pos h2, if_pos h2]
  rw [if_neg h2, if_neg h2]
  by_cases hnv : f.nvdim ≠ 1
  · rw [if_pos hnv, if_pos hnv]
  rw [if_neg hnv, if_neg hnv, stepH_snd]
  refine bind_congr_ok fun m _ => ?_
  exact maskedH_tail h f o.filter (f.abs h) (filterOf (f.abs h) (o.abs h)) _ m
    (fun Z => .contour (pointsAx f.mesh 0 m) (pointsAx f.mesh 1 m) Z)
    (mesh_n_two f.mesh hinv (not_not.mp h2)) hf hnum rfl (fun _ _ => rfl)
    (fun x y => abs_data h f 0 (by omega) [x, y]) (fun H' fr => filterFieldH_rel h H' f o.filter fr hf hg)

/-! ## vector -/

theorem vectorH_refines (h : AHeap) (f : HFld) (o : HOpts) (hinv : f.mesh.Inv) (hf : f.On h)
    (hnum : ∀ i, (h.buf f.arr i).isSome) (hflt : ∀ g, o.filter = some g → g.On h)
    (haux : ∀ g, o.aux = some g → g.On h) (hlab : ∀ vs, f.vdims = some vs → vs.length ≤ f.nvdim) :
    (vectorH h f o).2 = mplVector (f.abs h) (o.abs h) := by
  rw [vectorH_eq, mplVector_eq_bind, abs_mesh, oabs_mult, show (o.abs h).vdimsArg = o.vdimsArg from rfl,
    show (f.abs h).vmap = f.vmap from rfl]
  by_cases h2 : f.mesh.region.ndim ≠ 2
  · rw [if_pos h2, if_pos h2]
  rw [if_neg h2, if_neg h2]
  have h2' : f.mesh.region.ndim = 2 := not_not.mp h2
  have hn : f.mesh.n.length = 2 := mesh_n_two f.mesh hinv h2'
  by_cases hv : (o.vdimsArg.isNone && f.vmap.isEmpty) = true
  · rw [if_pos hv, if_pos hv]
  rw [if_neg hv, if_neg hv, stepH_snd]
  refine bind_congr_ok fun m _ => ?_
  -- `values = array.copy()`, the fresh `_valid_as_field`, `_filter_values`
  have fr1 : Frame h (h.alloc (h.buf f.arr)).1 := frame_alloc h _
  have frF := frame_validAsFieldH (h.alloc (h.buf f.arr)).1 f
  have hV : h.length < (h.alloc (h.buf f.arr)).1.length := by rw [alloc_len]; omega
  have r := filterFieldH_rel h _ f none fr1 hf (fun _ hg => nomatch hg)
  have key := filterValuesH_spec _ f _ (f.abs h) _ h.length (hf.frame (fr1.trans frF))
    (Nat.lt_of_lt_of_le hV frF.1) rfl (fun x y => (validAt_frame _ _ f (fr1.trans frF) hf _).symm)
    r.nvdim r.mesh r.same r.other
  obtain ⟨keep, hk, hget⟩ := filterKeep_valid (f.abs h) h2'
  rw [show filterOf (f.abs h) { filter := (none : Option HFld).map (·.abs h) } = validAsField (f.abs h)
    from rfl, hk] at key
  obtain ⟨H3, hH3, hb⟩ := key
  have fr3 : Frame h H3 := frame_filterValuesH h _ f _ h.length H3 (fr1.trans frF) (Nat.le_refl _) hH3
  -- an arrow component read from `values` is the masked component of the value model
  have arrow : ∀ (a : Option Nat) (l : Option String), arrowIdx (f.abs h) l = .ok a →
      arrowOfBuf f.mesh.n (H3.buf h.length) a = arrowArr (f.abs h) keep a := by
    intro a l hl
    cases a with
    | none => exact imgOfBuf_eq f.mesh.n hn _ ⟨f.mesh.n, fun _ => true⟩ (fun _ => 0) (fun _ _ => rfl)
    | some k =>
      obtain ⟨_, vs, _, _, hvs, hkl, _⟩ := arrowIdx_some_inv (f.abs h) l k hl
      refine imgOfBuf_eq f.mesh.n hn _ keep _ (fun x y => ?_)
      show H3.buf h.length [x, y, k] = _
      rw [hb x y [x, y, k] rfl, frF.2 _ hV, buf_alloc_new, hget,
        abs_data h f k (Nat.lt_of_lt_of_le hkl (hlab vs hvs)) [x, y]]
      show _ = if f.validAt h [x, y] = true then some ((h.buf f.arr [x, y, k]).getD 0) else none
      rw [some_getD_of_isSome _ (hnum [x, y, k])]
      rfl
  rw [stepH_snd, show filterValuesH (validAsFieldH (h.alloc (h.buf f.arr)).1 f).1 f
    (validAsFieldH (h.alloc (h.buf f.arr)).1 f).2 h.length = .ok H3 from hH3, vectorCore_eq_bind, hk]
  show (stepH H3 (vectorVdims (f.abs H3) (o.abs H3)) _).2 = (vectorVdims (f.abs h) (o.abs h)).bind _
  rw [abs_frame _ _ f fr3 hf, oabs_frame _ _ o fr3 hflt haux, stepH_snd]
  refine bind_congr_ok fun vd _ => ?_
  rw [stepH_snd]
  refine bind_congr_ok fun ax hax => ?_
  rw [stepH_snd]
  refine bind_congr_ok fun ay hay => ?_
  rw [arrow ax _ hax, arrow ay _ hay]
  by_cases hnn : (ax.isNone && ay.isNone) = true
  · rw [if_pos hnn, if_pos hnn]
  rw [if_neg hnn, if_neg hnn, stepH_snd]
  refine bind_congr_ok fun c _ => ?_
  rw [stepH_snd]
  rfl

end DFV.C20
