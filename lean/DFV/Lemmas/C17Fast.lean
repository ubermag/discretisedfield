import DFV.Model.C17Fast
import DFV.Lemmas.C17Spacing
/-! The linear-time forms the driver runs (`Model/C17Fast.lean`) equal the pointwise definitions
the theorems are about. -/
namespace DFV.C17
open DFV

theorem diffsL_length (v : List Rat) : (diffsL v).length = v.length - 1 := by
  unfold diffsL
  rw [List.length_zipWith, List.length_tail]
  omega

theorem diffsL_eq (v : List Rat) : diffsL v = diffs v := by
  unfold diffs
  apply eq_tab_of_getD _ _ _ 0 (diffsL_length v)
  intro j hj
  have h0 : j < v.length := by omega
  have h1 : j + 1 < v.length := by omega
  unfold diffsL
  -- entry `j` of the `zipWith` over the list and its tail is `v[j+1] - v[j]`
  simp [List.getD_eq_getElem?_getD, List.getElem?_zipWith, List.getElem?_eq_getElem h0, List.getElem?_eq_getElem h1]

theorem meanDiffL_eq (v : List Rat) : meanDiffL v = meanDiff v := by
  unfold meanDiffL meanDiff; rw [diffsL_eq]

theorem allClose_eq_all (m : Rat) (l : List Rat) :
    allClose m l = l.all fun d => Region.isclose d m (1/100000) 0 := by
  induction l with
  | nil => rfl
  | cons d ds ih => rw [allClose, ih, List.all_cons]

theorem evenFast_eq (v : List Rat) : evenFast v = evenB v := by
  unfold evenFast evenB
  rw [meanDiffL_eq, diffsL_eq, allClose_eq_all]
  congr 1
  rw [Bool.eq_iff_iff, List.all_eq_true, allLt_iff]
  constructor
  · intro h j hj
    exact h _ (getD_mem _ _ _ (by rw [diffs, tab_length]; exact hj))
  · intro h d hd
    obtain ⟨j, hj, rfl⟩ := (mem_tab _ _ _).mp hd
    have := h j hj
    rwa [diffs_getD v j (by omega)] at this

theorem checkSpacingFast_eq {α} (xa : XA α) : checkSpacingFast xa = checkSpacing xa := by
  unfold checkSpacingFast checkSpacing
  simp only [evenFast_eq]

theorem cellOfFast_eq {α} (xa : XA α) : cellOfFast xa = cellOf xa := by
  unfold cellOfFast cellOf
  simp only [meanDiffL_eq]
  cases xa.attrs.cell <;> rfl

theorem fromXAFast_eq [FieldAttrs] {α} (xa : XA α) : fromXAFast xa = fromXA xa := by
  unfold fromXAFast fromXA
  simp only [checkSpacingFast_eq, cellOfFast_eq]

theorem fromXarrayFast_eq [FieldAttrs] {α} (o : PyObj α) : fromXarrayFast o = fromXarray o := by
  cases o with
  | other => rfl
  | dataArray xa => exact fromXAFast_eq xa

end DFV.C17
