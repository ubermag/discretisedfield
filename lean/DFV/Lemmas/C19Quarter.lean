import DFV.Lemmas.C19Act
import DFV.Lemmas.C19Conv
import DFV.Lemmas.Index
/-!
# C19 — a quarter turn of the sample

`SpTurn f g`: `g` is `f` with the sample turned by a quarter turn — cell `[i, j]` of `g` holds
what cell `[j, n₁−1−i]` of `f` holds (the index map of `np.rot90(·, 1)`), counts, cell edges and
periodic flags of the two axes swapped.  `QTurn Q f g`: in addition the vectors are rotated by `Q`.

Along the turned axes `∂₀' = −∂₁`, `∂₁' = ∂₀` at the source cell, and the Berg–Lüscher triangles of a cell are the source cell's
in rotated order; hence both densities take the source cell's value and the charge is unchanged.
-/
namespace DFV.C19
open DFV

/-! ## components -/

def compV (v : V3) (c : Nat) : Rat := if c = 0 then v.x else if c = 1 then v.y else v.z

theorem getD_eq_compV (f : Fld) (i : List Nat) (c : Nat) (hc : c < 3) :
    (f.data.get i).getD c 0 = compV (cellV f i) c := by
  rcases (by omega : c = 0 ∨ c = 1 ∨ c = 2) with rfl | rfl | rfl <;> rfl

/-! ## the relation -/

/-- `g` is `f` with the sample turned by a quarter turn (index map of `np.rot90(·, 1)` on a 2-d array) -/
structure SpTurn (f g : Fld) : Prop where
  n0 : g.mesh.nAt 0 = f.mesh.nAt 1
  n1 : g.mesh.nAt 1 = f.mesh.nAt 0
  c0 : g.mesh.cellAt 0 = f.mesh.cellAt 1
  c1 : g.mesh.cellAt 1 = f.mesh.cellAt 0
  p0 : periodic g 0 = periodic f 1
  p1 : periodic g 1 = periodic f 0
  val : ∀ i j, i < f.mesh.nAt 1 → j < f.mesh.nAt 0 → cellV g [i, j] = cellV f [j, f.mesh.nAt 1 - 1 - i]
  ok : ∀ i j, i < f.mesh.nAt 1 → j < f.mesh.nAt 0 → g.valid.get [i, j] = f.valid.get [j, f.mesh.nAt 1 - 1 - i]

/-- the sample turned by a quarter turn and every vector rotated by `Q` -/
def QTurn (Q : M3) (f g : Fld) : Prop := SpTurn (rotF Q f) g

theorem SpTurn.orientation (sq : Rat → Rat) {f g : Fld} (h : SpTurn f g) :
    SpTurn (orientation sq f) (orientation sq g) := by
  refine ⟨h.n0, h.n1, h.c0, h.c1, h.p0, h.p1, ?_, h.ok⟩
  intro i j hi hj
  rw [cellV_orientation, cellV_orientation, h.val i j hi hj]
  rfl

/-! ## derivatives along the turned axes -/

/-- along the first axis of the turned field the lines are the source's second-axis lines reversed -/
theorem Dc_turn0 {f g : Fld} (h : SpTurn f g) (order : Nat) (r : Bool) (c : Nat) (hc : c < 3) (i j : Nat)
    (hi : i < f.mesh.nAt 1) (hj : j < f.mesh.nAt 0) :
    Dc g 0 order r c [i, j] = C04.revSign order * Dc f 1 order r c [j, f.mesh.nAt 1 - 1 - i] := by
  unfold Dc NDA.line
  simp only [setAt, List.getD_cons_zero, List.getD_cons_succ]
  rw [h.p0, h.c0, h.n0, ← C04.diffLine'_reverse_tab _ _ _ _ _ _ _ _ hi]
  congr 2
  apply tab_congr
  intro t ht
  rw [getD_eq_compV g _ c hc, getD_eq_compV f _ c hc, h.val t j ht hj, h.ok t j ht hj]

/-- along the second axis of the turned field the lines are the source's first-axis lines -/
theorem Dc_turn1 {f g : Fld} (h : SpTurn f g) (order : Nat) (r : Bool) (c : Nat) (hc : c < 3) (i j : Nat)
    (hi : i < f.mesh.nAt 1) :
    Dc g 1 order r c [i, j] = Dc f 0 order r c [j, f.mesh.nAt 1 - 1 - i] := by
  unfold Dc NDA.line
  simp only [setAt, List.getD_cons_zero, List.getD_cons_succ]
  rw [h.p1, h.c1, h.n1]
  have e : (tab (f.mesh.nAt 0) fun t => ((g.data.get [i, t]).getD c 0, g.valid.get [i, t]))
      = tab (f.mesh.nAt 0) fun t => ((f.data.get [t, f.mesh.nAt 1 - 1 - i]).getD c 0, f.valid.get [t, f.mesh.nAt 1 - 1 - i]) := by
    apply tab_congr
    intro t ht
    rw [getD_eq_compV g _ c hc, getD_eq_compV f _ c hc, h.val i t hi ht, h.ok i t hi ht]
  rw [e]

theorem Dv_turn0 {f g : Fld} (h : SpTurn f g) (r : Bool) (i j : Nat) (hi : i < f.mesh.nAt 1) (hj : j < f.mesh.nAt 0) :
    Dv g 0 1 r [i, j] = (Dv f 1 1 r [j, f.mesh.nAt 1 - 1 - i]).neg := by
  unfold Dv V3.neg
  rw [Dc_turn0 h 1 r 0 (by omega) i j hi hj, Dc_turn0 h 1 r 1 (by omega) i j hi hj, Dc_turn0 h 1 r 2 (by omega) i j hi hj]
  simp [C04.revSign]

theorem Dv_turn1 {f g : Fld} (h : SpTurn f g) (r : Bool) (i j : Nat) (hi : i < f.mesh.nAt 1) :
    Dv g 1 1 r [i, j] = Dv f 0 1 r [j, f.mesh.nAt 1 - 1 - i] := by
  unfold Dv
  rw [Dc_turn1 h 1 r 0 (by omega) i j hi, Dc_turn1 h 1 r 1 (by omega) i j hi, Dc_turn1 h 1 r 2 (by omega) i j hi]

theorem tcdCSpec_turn (sq : Rat → Rat) (pi : Rat) {f g : Fld} (h : SpTurn f g) (i j : Nat)
    (hi : i < f.mesh.nAt 1) (hj : j < f.mesh.nAt 0) :
    tcdCSpec sq pi g [i, j] = tcdCSpec sq pi f [j, f.mesh.nAt 1 - 1 - i] := by
  unfold tcdCSpec
  have ho := h.orientation sq
  have hm : (orientation sq f).mesh = f.mesh := rfl  -- `orientation` changes only the data
  have e0 := Dv_turn0 ho true i j hi hj
  have e1 := Dv_turn1 ho true i j hi
  rw [hm] at e0 e1
  rw [e0, e1, h.val i j hi hj]
  simp only [V3.dot, V3.cross, V3.neg]
  ring

/-! ## Berg–Lüscher: the neighbours turn with the sample -/

theorem nbE_turn {o g : Fld} (h : SpTurn o g) (i j : Nat) (hi : i < o.mesh.nAt 1) (hj : j < o.mesh.nAt 0) :
    nbE g i j = nbS o j (o.mesh.nAt 1 - 1 - i) := by
  unfold nbE nbS
  rw [h.n0]
  by_cases hc : i + 1 < o.mesh.nAt 1
  · have e : o.mesh.nAt 1 - 1 - i - 1 = o.mesh.nAt 1 - 1 - (i + 1) := by omega
    have h1 : (1 ≤ o.mesh.nAt 1 - 1 - i) := by omega
    rw [h.ok (i + 1) j hc hj, h.val (i + 1) j hc hj, e]
    simp [hc, h1]
  · have h1 : ¬ (1 ≤ o.mesh.nAt 1 - 1 - i) := by omega
    simp [hc, h1]

theorem nbN_turn {o g : Fld} (h : SpTurn o g) (i j : Nat) (hi : i < o.mesh.nAt 1) :
    nbN g i j = nbE o j (o.mesh.nAt 1 - 1 - i) := by
  unfold nbN nbE
  rw [h.n1]
  by_cases hc : j + 1 < o.mesh.nAt 0
  · rw [h.ok i (j + 1) hi hc, h.val i (j + 1) hi hc]
  · simp [hc]

theorem nbW_turn {o g : Fld} (h : SpTurn o g) (i j : Nat) (hi : i < o.mesh.nAt 1) (hj : j < o.mesh.nAt 0) :
    nbW g i j = nbN o j (o.mesh.nAt 1 - 1 - i) := by
  unfold nbW nbN
  by_cases hc : 1 ≤ i
  · have e : o.mesh.nAt 1 - 1 - (i - 1) = o.mesh.nAt 1 - 1 - i + 1 := by omega
    have h1 : o.mesh.nAt 1 - 1 - i + 1 < o.mesh.nAt 1 := by omega
    rw [h.ok (i - 1) j (by omega) hj, h.val (i - 1) j (by omega) hj, e]
    simp [hc, h1]
  · have h1 : ¬ (o.mesh.nAt 1 - 1 - i + 1 < o.mesh.nAt 1) := by omega
    simp [hc, h1]

theorem nbS_turn {o g : Fld} (h : SpTurn o g) (i j : Nat) (hi : i < o.mesh.nAt 1) (hj : j < o.mesh.nAt 0) :
    nbS g i j = nbW o j (o.mesh.nAt 1 - 1 - i) := by
  unfold nbS nbW
  by_cases hc : 1 ≤ j
  · rw [h.ok i (j - 1) hi (by omega), h.val i (j - 1) hi (by omega)]
  · simp [hc]

/-- the triangle list of a cell of the turned field is the source cell's list rotated by one place.
Exported as `Props/C19.bl_triangles_quarter_turn`. -/
theorem triangles_turn {o g : Fld} (h : SpTurn o g) (i j : Nat) (hi : i < o.mesh.nAt 1) (hj : j < o.mesh.nAt 0) :
    triangles g i j
      = tri? (cellV o [j, o.mesh.nAt 1 - 1 - i]) (nbS o j (o.mesh.nAt 1 - 1 - i)) (nbE o j (o.mesh.nAt 1 - 1 - i)) ++
        (tri? (cellV o [j, o.mesh.nAt 1 - 1 - i]) (nbE o j (o.mesh.nAt 1 - 1 - i)) (nbN o j (o.mesh.nAt 1 - 1 - i)) ++
         tri? (cellV o [j, o.mesh.nAt 1 - 1 - i]) (nbN o j (o.mesh.nAt 1 - 1 - i)) (nbW o j (o.mesh.nAt 1 - 1 - i)) ++
         tri? (cellV o [j, o.mesh.nAt 1 - 1 - i]) (nbW o j (o.mesh.nAt 1 - 1 - i)) (nbS o j (o.mesh.nAt 1 - 1 - i))) := by
  unfold triangles
  rw [nbE_turn h i j hi hj, nbN_turn h i j hi, nbW_turn h i j hi hj, nbS_turn h i j hi hj, h.val i j hi hj]
  simp only [List.append_assoc]

/-- so it is a permutation of the source cell's list: same sum, same length -/
theorem triangles_turn_perm {o g : Fld} (h : SpTurn o g) (i j : Nat) (hi : i < o.mesh.nAt 1) (hj : j < o.mesh.nAt 0) :
    (triangles g i j).Perm (triangles o j (o.mesh.nAt 1 - 1 - i)) := by
  rw [triangles_turn h i j hi hj]
  unfold triangles
  exact List.perm_append_comm

/-- TRIANGLE SUM: the Berg–Lüscher density of the turned field at `[i, j]` is the source's at
`[j, n₁−1−i]` — every mask, any leaf `Ω` (the same triangles are summed, in rotated order) -/
theorem tcdBLAtK_turn {K : Type} [Field K] (Om : Tri → K) {o g : Fld} (h : SpTurn o g) (i j : Nat) (hi : i < o.mesh.nAt 1) (hj : j < o.mesh.nAt 0) :
    tcdBLAtK Om g i j = tcdBLAtK Om o j (o.mesh.nAt 1 - 1 - i) := by
  have ha : triArea g.mesh = triArea o.mesh := by
    unfold triArea; rw [h.c0, h.c1]; ring
  have hp := triangles_turn_perm h i j hi hj
  unfold tcdBLAtK
  rw [h.ok i j hi hj, ha, (hp.map (blAngleK Om)).sum_eq, hp.length_eq]

/-! ## sums over all cells of a 2-d array -/

theorem sum_flatMap_range (a : Nat) (F : Nat → List Rat) :
    ((List.range a).flatMap F).sum = sumTo a fun i => (F i).sum := by
  induction a with
  | zero => rfl
  | succ a ih => rw [List.range_succ, List.flatMap_append, List.sum_append, ih]; simp [sumTo]

theorem sum_map_range (b : Nat) (F : Nat → Rat) : ((List.range b).map F).sum = sumTo b F := by
  induction b with
  | zero => rfl
  | succ b ih => rw [List.range_succ, List.map_append, List.sum_append, ih]; simp [sumTo]

theorem sum_indicesC2 (a b : Nat) (F : List Nat → Rat) :
    ((indicesC [a, b]).map F).sum = sumTo a fun i => sumTo b fun j => F [i, j] := by
  have e : indicesC [a, b] = productLastFastest [a, b] := (product_eq_unflatC [a, b]).symm
  rw [e]
  simp only [productLastFastest, List.map_cons, List.map_nil]
  rw [List.map_flatMap, sum_flatMap_range]
  apply sumTo_congr
  intro i _
  rw [List.map_map, List.map_flatMap]
  simp only [List.map_cons, List.map_nil, Function.comp]
  rw [← List.map_eq_flatMap, sum_map_range]

theorem sum_turn (n0 n1 : Nat) (F : Nat → Nat → Rat) :
    (sumTo n1 fun i => sumTo n0 fun j => F j (n1 - 1 - i)) = sumTo n0 fun a => sumTo n1 fun b => F a b := by
  rw [sumTo_reflect n1 (fun i => sumTo n0 fun j => F j i)]
  exact sumTo_comm n1 n0 (fun i j => F j i)

/-! ## both methods, and the charge -/

theorem tcdVal_turn (sq : Rat → Rat) (pi : Rat) (Om : Tri → Rat) (Q : M3) (hQ : Q.IsRot) {f g : Fld} (h : QTurn Q f g)
    (m : Method) (i j : Nat) (hi : i < f.mesh.nAt 1) (hj : j < f.mesh.nAt 0) :
    tcdVal sq pi Om g m [i, j] = tcdVal sq pi Om f m [j, f.mesh.nAt 1 - 1 - i] := by
  cases m with
  | continuous =>
    show tcdCSpec sq pi g [i, j] = tcdCSpec sq pi f _
    rw [tcdCSpec_turn sq pi h i j hi hj, tcdCSpec_rotF sq pi Q hQ]
    rfl
  | bergLuescher =>
    show tcdBLAt Om (orientation sq g) i j = tcdBLAt Om (orientation sq f) j (f.mesh.nAt 1 - 1 - i)
    rw [tcdBLAt_eq_K, tcdBLAt_eq_K, tcdBLAtK_turn Om (h.orientation sq) i j hi hj, orientation_rotF sq Q hQ.1,
      tcdBLAtK_rotF Om Q hQ]
    rfl
  | other => rfl

theorem integrateAll_2d (a : Bool) (q : Fld) (n0 n1 : Nat) (hs : q.data.shape = [n0, n1]) (h2 : q.mesh.ndim = 2) :
    integrateAll a q = (sumTo n0 fun i => sumTo n1 fun j =>
      if a then absR ((q.data.get [i, j]).getD 0 0) else (q.data.get [i, j]).getD 0 0) * (q.mesh.cellAt 0 * q.mesh.cellAt 1) := by
  rw [integrateAll_eq, hs, sum_indicesC2, ratProd_cell2 _ h2]

theorem integrateAll_tcdFld (a : Bool) (sq : Rat → Rat) (pi : Rat) (Om : Tri → Rat) (f : Fld) (m : Method)
    (hs : f.data.shape = [f.mesh.nAt 0, f.mesh.nAt 1]) (h2 : f.mesh.ndim = 2) :
    integrateAll a (tcdFld sq pi Om f m)
      = (sumTo (f.mesh.nAt 0) fun i => sumTo (f.mesh.nAt 1) fun j =>
          if a then absR (tcdVal sq pi Om f m [i, j]) else tcdVal sq pi Om f m [i, j]) * (f.mesh.cellAt 0 * f.mesh.cellAt 1) :=
  integrateAll_2d a _ _ _ hs h2

/-- CHARGE UNDER A QUARTER TURN OF THE SAMPLE: both methods, absolute or not, every mask, open
or periodic directions (flags turned with the sample), any cell edges.  Exported as `Props/C19.charge_quarter_turn`. -/
theorem charge_turn (sq : Rat → Rat) (pi : Rat) (Om : Tri → Rat) (Q : M3) (hQ : Q.IsRot) {f g : Fld} (h : QTurn Q f g)
    (hf3 : f.nvdim = 3) (hg3 : g.nvdim = 3) (hf2 : f.mesh.ndim = 2) (hg2 : g.mesh.ndim = 2)
    (hfs : f.data.shape = [f.mesh.nAt 0, f.mesh.nAt 1]) (hgs : g.data.shape = [g.mesh.nAt 0, g.mesh.nAt 1])
    (m : Method) (a : Bool) : charge sq pi Om g m a = charge sq pi Om f m a := by
  by_cases hm : m = .other
  · subst hm
    rw [charge_closed, charge_closed]; rfl
  · have tf := tcd_succeeds sq pi Om f m hf3 hf2 hm
    have tg := tcd_succeeds sq pi Om g m hg3 hg2 hm
    rw [charge_of_tcd sq pi Om f _ m a tf, charge_of_tcd sq pi Om g _ m a tg]
    congr 1
    -- `h : SpTurn (rotF Q f) g` read with the mesh of `rotF Q f` reduced to `f`'s (`rotF` changes only the data)
    have n0 : g.mesh.nAt 0 = f.mesh.nAt 1 := h.n0
    have n1 : g.mesh.nAt 1 = f.mesh.nAt 0 := h.n1
    rw [integrateAll_tcdFld a sq pi Om g m hgs hg2, integrateAll_tcdFld a sq pi Om f m hfs hf2]
    have c0 : g.mesh.cellAt 0 = f.mesh.cellAt 1 := h.c0
    have c1 : g.mesh.cellAt 1 = f.mesh.cellAt 0 := h.c1
    simp only [c0, c1, n0, n1]
    have e : (sumTo (f.mesh.nAt 1) fun i => sumTo (f.mesh.nAt 0) fun j =>
          if a then absR (tcdVal sq pi Om g m [i, j]) else tcdVal sq pi Om g m [i, j])
        = sumTo (f.mesh.nAt 1) fun i => sumTo (f.mesh.nAt 0) fun j =>
          (fun x y => if a then absR (tcdVal sq pi Om f m [x, y]) else tcdVal sq pi Om f m [x, y]) j (f.mesh.nAt 1 - 1 - i) := by
      apply sumTo_congr; intro i hi
      apply sumTo_congr; intro j hj
      rw [tcdVal_turn sq pi Om Q hQ h m i j hi hj]
    rw [e, sum_turn (f.mesh.nAt 0) (f.mesh.nAt 1)
      (fun x y => if a then absR (tcdVal sq pi Om f m [x, y]) else tcdVal sq pi Om f m [x, y])]
    ring

theorem charge_turn_either (sq : Rat → Rat) (pi : Rat) (Om : Tri → Rat) {f g : Fld}
    (h : (∃ Q : M3, Q.IsRot ∧ QTurn Q f g) ∨ (∃ Q : M3, Q.IsRot ∧ QTurn Q g f))
    (hf3 : f.nvdim = 3) (hg3 : g.nvdim = 3) (hf2 : f.mesh.ndim = 2) (hg2 : g.mesh.ndim = 2)
    (hfs : f.data.shape = [f.mesh.nAt 0, f.mesh.nAt 1]) (hgs : g.data.shape = [g.mesh.nAt 0, g.mesh.nAt 1])
    (m : Method) (a : Bool) : charge sq pi Om g m a = charge sq pi Om f m a := by
  rcases h with ⟨Q, hQ, hT⟩ | ⟨Q, hQ, hT⟩
  · exact charge_turn sq pi Om Q hQ hT hf3 hg3 hf2 hg2 hfs hgs m a
  · exact (charge_turn sq pi Om Q hQ hT hg3 hf3 hg2 hf2 hgs hfs m a).symm

end DFV.C19
