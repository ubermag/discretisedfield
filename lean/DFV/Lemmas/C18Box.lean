import DFV.Lemmas.C18Grid
import DFV.Lemmas.C01Ctor
/-! Geometry of the rotated mesh (C18): the bounding box of `_calculate_new_region`, the `Region`
and `Mesh` constructors on it, and the automatic cell counts of `_calculate_new_n`. -/
namespace DFV.C18
open DFV DFV.Mesh

/-! ## summed absolute rotated extents -/

/-- `DFV.absR_of_nonneg` with the number explicit -/
theorem absR_of_nonneg (x : Rat) (h : 0 ≤ x) : absR x = x :=
  _root_.DFV.absR_of_nonneg h

theorem sumAbs_nonneg (R : M3) (w : V3) (i : Nat) : 0 ≤ sumAbs R w i := by
  unfold sumAbs
  have := absR_nonneg (R.e i 0 * w.x)
  have := absR_nonneg (R.e i 1 * w.y)
  have := absR_nonneg (R.e i 2 * w.z)
  linarith

theorem sumAbs_eq (R : M3) (w : V3) (hx : 0 ≤ w.x) (hy : 0 ≤ w.y) (hz : 0 ≤ w.z) (i : Nat) :
    sumAbs R w i = |R.e i 0| * w.x + |R.e i 1| * w.y + |R.e i 2| * w.z := by
  unfold sumAbs
  rw [absR_eq_abs, absR_eq_abs, absR_eq_abs, abs_mul, abs_mul, abs_mul, abs_of_nonneg hx, abs_of_nonneg hy, abs_of_nonneg hz]

theorem sumAbs_mono (R : M3) (v w : V3) (hx : 0 ≤ v.x ∧ v.x ≤ w.x) (hy : 0 ≤ v.y ∧ v.y ≤ w.y) (hz : 0 ≤ v.z ∧ v.z ≤ w.z)
    (i : Nat) : sumAbs R v i ≤ sumAbs R w i := by
  rw [sumAbs_eq R v hx.1 hy.1 hz.1, sumAbs_eq R w (hx.1.trans hx.2) (hy.1.trans hy.2) (hz.1.trans hz.2)]
  exact add_le_add (add_le_add (mul_le_mul_of_nonneg_left hx.2 (abs_nonneg _)) (mul_le_mul_of_nonneg_left hy.2 (abs_nonneg _)))
    (mul_le_mul_of_nonneg_left hz.2 (abs_nonneg _))

/-- the summed absolute rotated extents are positive on every axis: a rotated box is not flat
(a row of a rotation matrix is not zero) -/
theorem sumAbs_pos {R : M3} (h : R.IsRot) (w : V3) (hx : 0 < w.x) (hy : 0 < w.y) (hz : 0 < w.z) (i : Nat) (hi : i < 3) :
    0 < sumAbs R w i := by
  by_contra hc
  rw [sumAbs_eq R w hx.le hy.le hz.le] at hc
  have n0 := mul_nonneg (abs_nonneg (R.e i 0)) hx.le
  have n1 := mul_nonneg (abs_nonneg (R.e i 1)) hy.le
  have n2 := mul_nonneg (abs_nonneg (R.e i 2)) hz.le
  have z0 : |R.e i 0| * w.x = 0 := by linarith
  have z1 : |R.e i 1| * w.y = 0 := by linarith
  have z2 : |R.e i 2| * w.z = 0 := by linarith
  have e0 : R.e i 0 = 0 := abs_eq_zero.mp ((mul_eq_zero.mp z0).resolve_right hx.ne')
  have e1 : R.e i 1 = 0 := abs_eq_zero.mp ((mul_eq_zero.mp z1).resolve_right hy.ne')
  have e2 : R.e i 2 = 0 := abs_eq_zero.mp ((mul_eq_zero.mp z2).resolve_right hz.ne')
  have := h.row_norm i hi
  rw [e0, e1, e2] at this
  norm_num at this

/-- the product of two sums of three non-negative terms contains the two products that avoid the first terms -/
theorem prod2_ge (b1 b2 b3 c1 c2 c3 : Rat) (hb1 : 0 ≤ b1) (hb2 : 0 ≤ b2) (hb3 : 0 ≤ b3) (hc1 : 0 ≤ c1) (hc2 : 0 ≤ c2)
    (hc3 : 0 ≤ c3) : b2*c3 + b3*c2 ≤ (b1 + b2 + b3) * (c1 + c2 + c3) := by
  have : (b1 + b2 + b3) * (c1 + c2 + c3) = b2*c3 + b3*c2 + (b1*(c1+c2+c3) + b2*c1 + b2*c2 + b3*c1 + b3*c3) := by ring
  have : 0 ≤ b1*(c1+c2+c3) + b2*c1 + b2*c2 + b3*c1 + b3*c3 := by positivity
  linarith

/-- the product of three sums of three non-negative terms contains the six "permutation" products -/
theorem prod3_ge_perm (a1 a2 a3 b1 b2 b3 c1 c2 c3 : Rat) (ha1 : 0 ≤ a1) (ha2 : 0 ≤ a2) (ha3 : 0 ≤ a3)
    (hb1 : 0 ≤ b1) (hb2 : 0 ≤ b2) (hb3 : 0 ≤ b3) (hc1 : 0 ≤ c1) (hc2 : 0 ≤ c2) (hc3 : 0 ≤ c3) :
    a1*b2*c3 + a1*b3*c2 + a2*b1*c3 + a2*b3*c1 + a3*b1*c2 + a3*b2*c1 ≤ (a1 + a2 + a3) * (b1 + b2 + b3) * (c1 + c2 + c3) := by
  have h1 := mul_le_mul_of_nonneg_left (prod2_ge b1 b2 b3 c1 c2 c3 hb1 hb2 hb3 hc1 hc2 hc3) ha1
  have h2 := mul_le_mul_of_nonneg_left (prod2_ge b2 b1 b3 c2 c1 c3 hb2 hb1 hb3 hc2 hc1 hc3) ha2
  have h3 := mul_le_mul_of_nonneg_left (prod2_ge b3 b1 b2 c3 c1 c2 hb3 hb1 hb2 hc3 hc1 hc2) ha3
  linarith

theorem mul3_le_abs (u v w : Rat) : u * v * w ≤ |u| * |v| * |w| := by
  rw [← abs_mul, ← abs_mul]; exact le_abs_self _

theorem neg_mul3_le_abs (u v w : Rat) : -(u * v * w) ≤ |u| * |v| * |w| := by
  rw [← abs_mul, ← abs_mul]; exact neg_le_abs _

/-- the bounding box of a rotated box has at least the volume of the box: `w.x w.y w.z` is the
determinant of `R · diag w`, each of its six terms is at most the product of the absolute values,
and those six products occur in the product of the three row sums -/
theorem prod_sumAbs_ge {R : M3} (hR : R.IsRot) (w : V3) :
    w.x * w.y * w.z ≤ sumAbs R w 0 * sumAbs R w 1 * sumAbs R w 2 := by
  have hdet : w.x * w.y * w.z
      = R.e 0 0 * w.x * (R.e 1 1 * w.y) * (R.e 2 2 * w.z) + -(R.e 0 0 * w.x * (R.e 1 2 * w.z) * (R.e 2 1 * w.y))
        + -(R.e 0 1 * w.y * (R.e 1 0 * w.x) * (R.e 2 2 * w.z)) + R.e 0 1 * w.y * (R.e 1 2 * w.z) * (R.e 2 0 * w.x)
        + R.e 0 2 * w.z * (R.e 1 0 * w.x) * (R.e 2 1 * w.y) + -(R.e 0 2 * w.z * (R.e 1 1 * w.y) * (R.e 2 0 * w.x)) := by
    calc w.x * w.y * w.z = R.det * (w.x * w.y * w.z) := by rw [hR.2, one_mul]
      _ = _ := by simp only [M3.det, M3.e, M3.row, V3.get]; ring
  unfold sumAbs
  simp only [absR_eq_abs]
  have h1 := mul3_le_abs (R.e 0 0 * w.x) (R.e 1 1 * w.y) (R.e 2 2 * w.z)
  have h2 := neg_mul3_le_abs (R.e 0 0 * w.x) (R.e 1 2 * w.z) (R.e 2 1 * w.y)
  have h3 := neg_mul3_le_abs (R.e 0 1 * w.y) (R.e 1 0 * w.x) (R.e 2 2 * w.z)
  have h4 := mul3_le_abs (R.e 0 1 * w.y) (R.e 1 2 * w.z) (R.e 2 0 * w.x)
  have h5 := mul3_le_abs (R.e 0 2 * w.z) (R.e 1 0 * w.x) (R.e 2 1 * w.y)
  have h6 := neg_mul3_le_abs (R.e 0 2 * w.z) (R.e 1 1 * w.y) (R.e 2 0 * w.x)
  have hp := prod3_ge_perm |R.e 0 0 * w.x| |R.e 0 1 * w.y| |R.e 0 2 * w.z| |R.e 1 0 * w.x| |R.e 1 1 * w.y| |R.e 1 2 * w.z|
    |R.e 2 0 * w.x| |R.e 2 1 * w.y| |R.e 2 2 * w.z| (abs_nonneg _) (abs_nonneg _) (abs_nonneg _) (abs_nonneg _)
    (abs_nonneg _) (abs_nonneg _) (abs_nonneg _) (abs_nonneg _) (abs_nonneg _)
  rw [hdet]
  linarith

theorem edge_pos (m : Mesh) (a : Nat) (h : AxOk m a) : 0 < m.region.edge a := by
  unfold Region.edge; linarith [h.1]

theorem cell_le_edge (m : Mesh) (a : Nat) (h : AxOk m a) : m.cellAt a ≤ m.region.edge a :=
  div_le_self (edge_pos m a h).le (by exact_mod_cast h.2)

theorem edgesV_pos (m : Mesh) (hm : Mesh3 m) : 0 < (edgesV m).x ∧ 0 < (edgesV m).y ∧ 0 < (edgesV m).z :=
  ⟨edge_pos m 0 (hm 0 (by decide)), edge_pos m 1 (hm 1 (by decide)), edge_pos m 2 (hm 2 (by decide))⟩

theorem cellV_pos (m : Mesh) (hm : Mesh3 m) : 0 < (cellV m).x ∧ 0 < (cellV m).y ∧ 0 < (cellV m).z :=
  ⟨cell_pos m 0 (hm 0 (by decide)), cell_pos m 1 (hm 1 (by decide)), cell_pos m 2 (hm 2 (by decide))⟩

theorem cellV_le_edgesV (m : Mesh) (hm : Mesh3 m) :
    (cellV m).x ≤ (edgesV m).x ∧ (cellV m).y ≤ (edgesV m).y ∧ (cellV m).z ≤ (edgesV m).z :=
  ⟨cell_le_edge m 0 (hm 0 (by decide)), cell_le_edge m 1 (hm 1 (by decide)), cell_le_edge m 2 (hm 2 (by decide))⟩

theorem sumAbs_edges_ge_cells (m : Mesh) (hm : Mesh3 m) (R : M3) (i : Nat) :
    sumAbs R (cellV m) i ≤ sumAbs R (edgesV m) i := by
  obtain ⟨c0, c1, c2⟩ := cellV_pos m hm
  obtain ⟨l0, l1, l2⟩ := cellV_le_edgesV m hm
  exact sumAbs_mono R _ _ ⟨c0.le, l0⟩ ⟨c1.le, l1⟩ ⟨c2.le, l2⟩ i

/-! ## the `Region` constructor on the bounding box -/

/-- the two candidate corners handed to the `Region` constructor -/
def boxLo (f : Fld) (R : M3) (i : Nat) : Rat := centreAt f.mesh i - sumAbs R (edgesV f.mesh) i / 2
def boxHi (f : Fld) (R : M3) (i : Nat) : Rat := centreAt f.mesh i + sumAbs R (edgesV f.mesh) i / 2

/-- the region the code builds when it accepts -/
def boxRegion (f : Fld) (R : M3) : Region :=
  ⟨tab 3 (boxLo f R), tab 3 (boxHi f R), ["x", "y", "z"], ["m", "m", "m"], 1/1000000000000⟩

/-- no edge of the bounding box has length zero: the only test of the `Region` constructor that
`_calculate_new_region` can fail -/
def BoxOk (f : Fld) (R : M3) : Prop := ∀ a, a < 3 → sumAbs R (edgesV f.mesh) a ≠ 0

/-- `newRegion` opened: the `Region` constructor on the two candidate corners passes every test
except possibly the one for an edge of length zero -/
theorem newRegion_eq (f : Fld) (R : M3) :
    newRegion f R = if allLt 3 (fun a => decide ((tab 3 (boxLo f R)).getD a 0 ≠ (tab 3 (boxHi f R)).getD a 0)) = true then
      .ok (T.normalised (tab 3 (boxLo f R)) (tab 3 (boxHi f R)) ["x", "y", "z"] ["m", "m", "m"] (1/1000000000000))
    else .error .value := by
  unfold newRegion Region.mk?
  simp only [tab_length, ne_eq, not_true_eq_false, if_false, Region.dimsOk, Region.unitsOk, Nat.succ_ne_zero]
  have sw : ∀ (b : Bool) (x y : M Region), (if (!b) = true then x else y) = if b = true then y else x := by
    intro b x y; cases b <;> rfl
  exact sw _ _ _

theorem newRegion_allLt (f : Fld) (R : M3) :
    allLt 3 (fun a => decide ((tab 3 (boxLo f R)).getD a 0 ≠ (tab 3 (boxHi f R)).getD a 0)) = true ↔ BoxOk f R := by
  unfold BoxOk
  rw [allLt_iff]
  refine forall_congr' fun a => forall_congr' fun ha => ?_
  rw [getD_tab _ _ _ _ ha, getD_tab _ _ _ _ ha, decide_eq_true_eq]
  unfold boxLo boxHi
  constructor
  · intro h e; apply h; rw [e]; ring
  · intro h e; apply h; linarith

/-- `newRegion` in closed form: the box when no row sum vanishes (`boxLo ≤ boxHi`, so the
constructor's sorting of the corners changes nothing) -/
theorem newRegion_ok_of (f : Fld) (R : M3) (hne : BoxOk f R) :
    newRegion f R = .ok (boxRegion f R) := by
  rw [newRegion_eq, if_pos ((newRegion_allLt f R).mpr hne)]
  have hle : ∀ a, boxLo f R a ≤ boxHi f R a := fun a => by
    have := sumAbs_nonneg R (edgesV f.mesh) a
    unfold boxLo boxHi; linarith
  rw [T.normalised_tab]
  unfold boxRegion
  congr 2
  · exact tab_congr _ _ _ fun a _ => min_eq_left (hle a)
  · exact tab_congr _ _ _ fun a _ => max_eq_right (hle a)

theorem newRegion_err_of (f : Fld) (R : M3) (hne : ¬ BoxOk f R) :
    newRegion f R = .error .value := by
  rw [newRegion_eq, if_neg (mt (newRegion_allLt f R).mp hne)]

theorem newRegion_ok_iff (f : Fld) (R : M3) (reg : Region) :
    newRegion f R = .ok reg ↔ BoxOk f R ∧ reg = boxRegion f R := by
  by_cases hb : BoxOk f R
  · rw [newRegion_ok_of f R hb]
    exact ⟨fun h => ⟨hb, (Except.ok.inj h).symm⟩, fun h => by rw [h.2]⟩
  · rw [newRegion_err_of f R hb]
    exact ⟨nofun, fun h => absurd h.1 hb⟩

theorem boxRegion_lo (f : Fld) (R : M3) (a : Nat) (ha : a < 3) :
    (boxRegion f R).lo a = centreAt f.mesh a - sumAbs R (edgesV f.mesh) a / 2 :=
  getD_tab _ _ _ _ ha

theorem boxRegion_hi (f : Fld) (R : M3) (a : Nat) (ha : a < 3) :
    (boxRegion f R).hi a = centreAt f.mesh a + sumAbs R (edgesV f.mesh) a / 2 :=
  getD_tab _ _ _ _ ha

theorem boxRegion_edge (f : Fld) (R : M3) (a : Nat) (ha : a < 3) : (boxRegion f R).edge a = sumAbs R (edgesV f.mesh) a := by
  unfold Region.edge; rw [boxRegion_lo f R a ha, boxRegion_hi f R a ha]; ring

/-- a displacement from the centre bounded by half the row sum lies between the faces of the box: with
`apply_bound` / `corner_bound` the box contains the rotated region, with `corner_attains` it is the smallest such box -/
theorem mem_box_of_abs_le (f : Fld) (R : M3) (a : Nat) (ha : a < 3) (y : Rat) (h : |y| ≤ sumAbs R (edgesV f.mesh) a / 2) :
    (boxRegion f R).lo a ≤ centreAt f.mesh a + y ∧ centreAt f.mesh a + y ≤ (boxRegion f R).hi a := by
  rw [boxRegion_lo f R a ha, boxRegion_hi f R a ha]
  obtain ⟨h1, h2⟩ := abs_le.mp h
  constructor <;> linarith

/-- the bounding box of a rotated well-formed region is never refused -/
theorem boxOk_of_isRot (f : Fld) (hm : Mesh3 f.mesh) {R : M3} (hR : R.IsRot) : BoxOk f R := fun a ha =>
  (sumAbs_pos hR (edgesV f.mesh) (edgesV_pos f.mesh hm).1 (edgesV_pos f.mesh hm).2.1 (edgesV_pos f.mesh hm).2.2 a ha).ne'

theorem newRegion_accepts (f : Fld) (hm : Mesh3 f.mesh) {R : M3} (hR : R.IsRot) : newRegion f R = .ok (boxRegion f R) :=
  newRegion_ok_of f R (boxOk_of_isRot f hm hR)

theorem boxRegion_ndim (f : Fld) (R : M3) : (boxRegion f R).ndim = 3 := by
  unfold boxRegion Region.ndim; simp

/-! ## the eight corners -/

/-- sign of a corner: `true` = upper face -/
def sgn (b : Bool) : Rat := if b then 1 else -1

/-- a corner of the original region, relative to its centre -/
def cornerRel (m : Mesh) (s0 s1 s2 : Bool) : V3 :=
  ⟨sgn s0 * (m.region.edge 0 / 2), sgn s1 * (m.region.edge 1 / 2), sgn s2 * (m.region.edge 2 / 2)⟩

theorem abs_sgn_mul (b : Bool) (x : Rat) : |sgn b * x| = |x| := by
  unfold sgn; cases b <;> simp

theorem abs_mul_le_half (r d e : Rat) (hd : |d| ≤ e / 2) : |r * d| ≤ |r * e| / 2 := by
  have he : 0 ≤ e := by have := abs_nonneg d; linarith
  rw [abs_mul, abs_mul, abs_of_nonneg he]
  have := mul_le_mul_of_nonneg_left hd (abs_nonneg r)
  linarith

/-- coordinate `i` of the image of a point within half an edge of the centre (on every axis) is
bounded by half the summed absolute rotated edges -/
theorem apply_bound (R : M3) (m : Mesh) (v : V3) (hx : |v.x| ≤ m.region.edge 0 / 2) (hy : |v.y| ≤ m.region.edge 1 / 2)
    (hz : |v.z| ≤ m.region.edge 2 / 2) (i : Nat) : |(R.apply v).get i| ≤ sumAbs R (edgesV m) i / 2 := by
  rw [M3.apply_get]
  unfold sumAbs
  simp only [absR_eq_abs, edgesV, V3.ofFn]
  have k0 := abs_mul_le_half (R.e i 0) _ _ hx
  have k1 := abs_mul_le_half (R.e i 1) _ _ hy
  have k2 := abs_mul_le_half (R.e i 2) _ _ hz
  have := abs_add_three (R.e i 0 * v.x) (R.e i 1 * v.y) (R.e i 2 * v.z)
  linarith

theorem abs_mul_sgn_half (r e : Rat) (b : Bool) : |r * (sgn b * (e / 2))| = |r * e| / 2 := by
  rw [show r * (sgn b * (e / 2)) = sgn b * (r * e / 2) by ring, abs_sgn_mul, abs_div, abs_two]

theorem corner_bound (R : M3) (m : Mesh) (s0 s1 s2 : Bool) (i : Nat) :
    |(R.apply (cornerRel m s0 s1 s2)).get i| ≤ sumAbs R (edgesV m) i / 2 := by
  rw [M3.apply_get]
  unfold sumAbs cornerRel edgesV V3.ofFn
  simp only [absR_eq_abs]
  have h := abs_add_three (R.e i 0 * (sgn s0 * (m.region.edge 0 / 2))) (R.e i 1 * (sgn s1 * (m.region.edge 1 / 2)))
    (R.e i 2 * (sgn s2 * (m.region.edge 2 / 2)))
  rw [abs_mul_sgn_half, abs_mul_sgn_half, abs_mul_sgn_half] at h
  linarith

/-- the corner whose signs follow the signs of row `i` reaches the bound -/
theorem corner_attains (R : M3) (m : Mesh) (i : Nat) :
    (R.apply (cornerRel m (decide (0 ≤ R.e i 0 * m.region.edge 0)) (decide (0 ≤ R.e i 1 * m.region.edge 1))
      (decide (0 ≤ R.e i 2 * m.region.edge 2)))).get i = sumAbs R (edgesV m) i / 2 := by
  rw [M3.apply_get]
  unfold sumAbs cornerRel edgesV V3.ofFn
  simp only [absR_eq_abs]
  have key : ∀ x : Rat, sgn (decide (0 ≤ x)) * x = |x| := by
    intro x
    unfold sgn
    by_cases hx : 0 ≤ x
    · simp [hx, abs_of_nonneg hx]
    · simp [hx, abs_of_neg (lt_of_not_ge hx)]
  have k0 := key (R.e i 0 * m.region.edge 0)
  have k1 := key (R.e i 1 * m.region.edge 1)
  have k2 := key (R.e i 2 * m.region.edge 2)
  linear_combination (1/2) * k0 + (1/2) * k1 + (1/2) * k2

theorem sgn_not (b : Bool) : sgn (!b) = - sgn b := by
  unfold sgn; cases b <;> simp

theorem corner_attains_neg (R : M3) (m : Mesh) (i : Nat) :
    (R.apply (cornerRel m (!decide (0 ≤ R.e i 0 * m.region.edge 0)) (!decide (0 ≤ R.e i 1 * m.region.edge 1))
      (!decide (0 ≤ R.e i 2 * m.region.edge 2)))).get i = - (sumAbs R (edgesV m) i / 2) := by
  have h := corner_attains R m i
  rw [M3.apply_get] at h ⊢
  simp only [cornerRel, sgn_not] at h ⊢
  linear_combination (-1 : Rat) * h

/-! ## the `Mesh` constructor on the bounding box -/

theorem forall_mem_ne_zero_iff (n : List Nat) : (∀ k ∈ n, k ≠ 0) ↔ ∀ a, a < n.length → 1 ≤ n.getD a 0 :=
  ⟨fun h a ha => Nat.pos_of_ne_zero (h _ (getD_mem n a 0 ha)), fun h k hk => by
    obtain ⟨a, ha, rfl⟩ := exists_getD_of_mem n k 0 hk
    exact Nat.pos_iff_ne_zero.mp (h a ha)⟩

/-- `Mesh(region, n)` without boundary conditions: `C01.mkN_ok_iff'` for `bc = ""` -/
theorem mkN_iff (r : Region) (n : List Nat) (nm : Mesh) :
    Mesh.mkN? r n = .ok nm ↔ n.length = r.ndim ∧ (∀ k ∈ n, k ≠ 0) ∧ nm = ⟨r, n, "", []⟩ := by
  have hb := C01.bcOk_empty r.dims
  rw [C01.mkN_ok_iff', C01.toLower_empty, forall_mem_ne_zero_iff]
  constructor
  · rintro ⟨hl, hp, _, e⟩; exact ⟨hl, hl ▸ hp, e⟩
  · rintro ⟨hl, hp, e⟩; exact ⟨hl, hl ▸ hp, hb, e⟩

/-! ## the automatic cell counts -/

/-- the quantity rounded by `_calculate_new_n` is at least one -/
theorem autoX3_ge_one (f : Fld) (hm : Mesh3 f.mesh) {R : M3} (hR : R.IsRot) (i : Nat) (hi : i < 3) :
    1 ≤ autoX3 f R (boxRegion f R) i := by
  obtain ⟨c0, c1, c2⟩ := cellV_pos f.mesh hm
  have hli := sumAbs_pos hR (cellV f.mesh) c0 c1 c2 i hi
  have hV : f.mesh.cellAt 0 * f.mesh.cellAt 1 * f.mesh.cellAt 2
      ≤ sumAbs R (cellV f.mesh) 0 * sumAbs R (cellV f.mesh) 1 * sumAbs R (cellV f.mesh) 2 := prod_sumAbs_ge hR (cellV f.mesh)
  have hc3 : cube (sumAbs R (cellV f.mesh) i) ≤ cube ((boxRegion f R).edge i) := by
    rw [boxRegion_edge f R i hi]; exact cube_mono _ _ hli.le (sumAbs_edges_ge_cells f.mesh hm R i)
  have hc3p : 0 < cube (sumAbs R (cellV f.mesh) i) := by unfold cube; positivity
  have hVp : 0 < f.mesh.cellAt 0 * f.mesh.cellAt 1 * f.mesh.cellAt 2 := mul_pos (mul_pos c0 c1) c2
  unfold autoX3
  rw [le_div_iff₀ (mul_pos hc3p hVp), one_mul]
  exact mul_le_mul hc3 hV hVp.le (le_trans hc3p.le hc3)

theorem roundCbrt_pos (q : Rat) (hq : 1 ≤ q) : roundCbrt q ≠ 0 := by
  intro e
  have := (roundCbrt_bounds q (by linarith)).2
  rw [e] at this
  unfold cube at this
  norm_num at this
  linarith

/-- **the automatic cell counts are positive** for every rotation of a well-formed field -/
theorem autoN_pos (f : Fld) (hm : Mesh3 f.mesh) {R : M3} (hR : R.IsRot) :
    (autoN f R (boxRegion f R)).length = 3 ∧ ∀ k ∈ autoN f R (boxRegion f R), k ≠ 0 := by
  refine ⟨by unfold autoN; simp, ?_⟩
  intro k hk
  obtain ⟨i, hi, rfl⟩ := (mem_tab _ _ _).mp hk
  exact roundCbrt_pos _ (autoX3_ge_one f hm hR i hi)

end DFV.C18
