import DFV.Model.Basic
/-! Lemmas about `tab` / `allLt` and computations in `M`: guards, `bind`, rejection (core Lean only). -/
namespace DFV

/-! ### `tab` -/

@[simp] theorem tab_length {α} (n : Nat) (f : Nat → α) : (tab n f).length = n := by
  simp [tab]

theorem getD_tab {α} (n : Nat) (f : Nat → α) (i : Nat) (d : α) (h : i < n) :
    (tab n f).getD i d = f i := by
  simp [tab, List.getD_eq_getElem?_getD, h]

theorem getD_tab_ge {α} (n : Nat) (f : Nat → α) (i : Nat) (d : α) (h : n ≤ i) :
    (tab n f).getD i d = d := by
  simp [tab, List.getD_eq_getElem?_getD, h]

theorem getElem_tab {α} (n : Nat) (f : Nat → α) (i : Nat) (h : i < (tab n f).length) :
    (tab n f)[i] = f i := by
  simp [tab]

theorem mem_tab {α} (n : Nat) (f : Nat → α) (y : α) : y ∈ tab n f ↔ ∃ a, a < n ∧ f a = y := by
  simp [tab]

theorem eq_tab_of_getD {α} (l : List α) (n : Nat) (f : Nat → α) (d : α) (hl : l.length = n)
    (h : ∀ i, i < n → l.getD i d = f i) : l = tab n f := by
  apply List.ext_getElem
  · simp [hl]
  · intro i h1 h2
    have hi : i < n := by simpa [hl] using h1
    have := h i hi
    rw [getElem_tab]
    simpa [List.getD_eq_getElem?_getD, h1] using this

theorem tab_getD_self {α} (l : List α) (d : α) : (tab l.length fun a => l.getD a d) = l :=
  (eq_tab_of_getD l l.length _ d rfl fun _ _ => rfl).symm

theorem tab_congr {α} (n : Nat) (f g : Nat → α) (h : ∀ i, i < n → f i = g i) : tab n f = tab n g := by
  unfold tab
  apply List.map_congr_left
  intro i hi
  exact h i (List.mem_range.mp hi)

theorem tab_map {α β} (n : Nat) (f : Nat → α) (g : α → β) : (tab n f).map g = tab n fun k => g (f k) := by
  simp [tab, List.map_map, Function.comp_def]

theorem zipWith_tab {α β γ} (g : α → β → γ) (n : Nat) (A : Nat → α) (B : Nat → β) :
    List.zipWith g (tab n A) (tab n B) = tab n fun i => g (A i) (B i) := by
  simp [tab, List.zipWith_map, List.zipWith_self]

theorem tab_succ {α} (n : Nat) (f : Nat → α) : tab (n + 1) f = tab n f ++ [f n] := by
  simp [tab, List.range_succ]

theorem tab_succ_cons {α} (n : Nat) (f : Nat → α) : tab (n + 1) f = f 0 :: tab n fun a => f (a + 1) := by
  simp [tab, List.range_succ_eq_map, Function.comp_def]

theorem tab_reverse {α} (n : Nat) (f : Nat → α) : (tab n f).reverse = tab n fun a => f (n - 1 - a) := by
  apply List.ext_getElem
  · simp
  · intro i h1 h2
    rw [List.getElem_reverse, getElem_tab, getElem_tab, tab_length]

/-! ### `allLt` -/

theorem allLt_iff (n : Nat) (p : Nat → Bool) : allLt n p = true ↔ ∀ a, a < n → p a = true := by
  simp [allLt, List.all_eq_true]

theorem allLt_false_of (n : Nat) (p : Nat → Bool) (a : Nat) (ha : a < n) (h : p a = false) :
    allLt n p = false := by
  cases hh : allLt n p with
  | false => rfl
  | true =>
    have := (allLt_iff n p).mp hh a ha
    simp [h] at this

theorem allLt_congr (n : Nat) (p q : Nat → Bool) (h : ∀ a, a < n → p a = q a) : allLt n p = allLt n q := by
  rw [Bool.eq_iff_iff, allLt_iff, allLt_iff]
  exact ⟨fun hp a ha => (h a ha) ▸ hp a ha, fun hq a ha => (h a ha).symm ▸ hq a ha⟩

/-- the two cases of `a < 2`, for statements over the axes of a two-dimensional example -/
theorem lt_two (a : Nat) (h : a < 2) : a = 0 ∨ a = 1 := by omega

/-! ### computations in `M`

The iffs are proved by running both branches (`split`/`cases`, then `simp`): the statements are the content. -/

/-- a guard in front of a computation -/
theorem guard_ok_iff {α} (c : Prop) [Decidable c] (e : Err) (x : M α) (y : α) :
    (if c then .error e else x) = .ok y ↔ ¬ c ∧ x = .ok y := by
  split <;> simp [*]

theorem guard_error_iff {α} (c : Prop) [Decidable c] (e e' : Err) (x : M α) :
    (if c then .error e else x) = .error e' ↔ (c ∧ e = e') ∨ (¬ c ∧ x = .error e') := by
  split <;> simp [*]

/-- a check in front of a result -/
theorem ok_guard_iff {α} (c : Prop) [Decidable c] (a b : α) (e : Err) :
    (if c then (.ok a : M α) else .error e) = .ok b ↔ c ∧ a = b := by
  split <;> simp [*]

/-- a computation that may fail in front of another one (`do`-notation / `>>=` in `M`) -/
theorem bind_ok_iff {α β} {x : M α} {f : α → M β} {y : β} :
    x >>= f = .ok y ↔ ∃ v, x = .ok v ∧ f v = .ok y := by
  cases x with
  | error e => simp [bind, Except.bind]
  | ok v => simp [bind, Except.bind]

/-- `bind_ok_iff` for models that spell the step `x.bind f` -/
theorem bind_ok_iff' {α β} {x : M α} {f : α → M β} {y : β} :
    x.bind f = .ok y ↔ ∃ v, x = .ok v ∧ f v = .ok y := by
  cases x <;> simp [Except.bind]

theorem bind_congr_ok {α β} {x : M α} {f g : α → M β} (h : ∀ a, x = .ok a → f a = g a) : x >>= f = x >>= g := by
  cases x with
  | error e => rfl
  | ok a => exact h a rfl

theorem err_of_not_ok {α} (x : M α) (h : ∀ v, x ≠ .ok v) : ∃ e, x = .error e := by
  cases x with
  | error e => exact ⟨e, rfl⟩
  | ok v => exact absurd rfl (h v)

theorem err_iff_not_ok {α} (x : M α) : (∃ e, x = .error e) ↔ ¬ ∃ v, x = .ok v := by
  cases x <;> simp

/-- a computation with one error `e` and one possible result `t`, returned exactly under `P`, fails with `e`
exactly when `P` does not hold -/
theorem error_iff_not {α} {x : M α} {e : Err} {P : Prop} {t : α} (h : x = .error e ∨ ∃ v, x = .ok v)
    (hP : ∀ v, x = .ok v ↔ P ∧ v = t) : x = .error e ↔ ¬ P := by
  constructor
  · intro he hp
    rw [(hP t).mpr ⟨hp, rfl⟩] at he
    cases he
  · intro hn
    rcases h with h | ⟨v, hv⟩
    · exact h
    · exact absurd ((hP v).mp hv).1 hn

end DFV
