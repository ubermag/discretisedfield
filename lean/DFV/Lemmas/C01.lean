import DFV.Lemmas.C01Base
/-! One axis of a mesh: `clip∘floor` (`clipIdx`) and the index of a coordinate (`le_indexAx_iff`, `indexAx_eq_iff`),
positions `L + p·c` on the lattice, cell size, centres, and the per-axis lists built with `np.linspace`
(`Mesh.cells`, `Mesh.vertices`). -/
namespace DFV.C01
open DFV DFV.Mesh

/-- `clip(⌊q⌋, 0, n − 1)`: what `Mesh.indexAx` (and its rounded twin `Mesh.indexAxFl`) does with the
coordinate in units of cells -/
def clipIdx (q : Rat) (n : Nat) : Nat := (clipInt q.floor 0 ((n : Int) - 1)).toNat

theorem clipIdx_lt (q : Rat) {n : Nat} (hn : 0 < n) : clipIdx q n < n := by
  unfold clipIdx clipInt
  split
  · simpa using hn
  · split <;> omega

/-- for an interior face `0 < k < n`: cell `k` or a later one exactly when at or beyond face `k`.  With
`clipIdx_lt` this determines `clipIdx`. -/
theorem le_clipIdx_iff (q : Rat) {n k : Nat} (hk0 : 0 < k) (hk : k < n) : k ≤ clipIdx q n ↔ (k : Rat) ≤ q := by
  have : (k : Rat) ≤ q ↔ (k : Int) ≤ q.floor :=
    ⟨fun h => rat_le_floor q k (by exact_mod_cast h), fun h => le_trans (by exact_mod_cast h) (rat_floor_le q)⟩
  rw [this]
  unfold clipIdx clipInt
  split
  · omega
  · split <;> omega

/-- the index is `k` exactly between the faces `k` and `k + 1`; nothing is asked below the first face
and above the last one (`clip`) -/
theorem clipIdx_eq_iff (q : Rat) {n k : Nat} (hk : k < n) :
    clipIdx q n = k ↔ (k = 0 ∨ (k : Rat) ≤ q) ∧ (k + 1 = n ∨ q < (k : Rat) + 1) := by
  have hlt := clipIdx_lt q (n := n) (by omega)
  have h1 : k = 0 ∨ (k : Rat) ≤ q ↔ k ≤ clipIdx q n := by
    rcases Nat.eq_zero_or_pos k with h | h
    · simp [h]
    · rw [le_clipIdx_iff q h hk, or_iff_right h.ne']
  have h2 : k + 1 = n ∨ q < (k : Rat) + 1 ↔ ¬ k + 1 ≤ clipIdx q n := by
    by_cases h : k + 1 = n
    · simp only [h, true_or, true_iff]; omega
    · rw [le_clipIdx_iff q (Nat.succ_pos k) (by omega), or_iff_right h, not_le, Nat.cast_add_one]
  rw [h1, h2]; omega

/-- two numbers get the same index exactly when no interior face separates them -/
theorem clipIdx_eq_iff_faces {q q' : Rat} {n : Nat} (hn : 0 < n) :
    clipIdx q' n = clipIdx q n ↔ ∀ k : Nat, 0 < k → k < n → ((k : Rat) ≤ q' ↔ (k : Rat) ≤ q) := by
  constructor
  · intro e k hk0 hk
    rw [← le_clipIdx_iff q' hk0 hk, ← le_clipIdx_iff q hk0 hk, e]
  · intro h
    refine eq_of_forall_le_iff fun k => ?_
    rcases Nat.eq_zero_or_pos k with rfl | hk0
    · simp
    · by_cases hk : k < n
      · rw [le_clipIdx_iff q' hk0 hk, le_clipIdx_iff q hk0 hk]; exact h k hk0 hk
      · have := clipIdx_lt q hn
        have := clipIdx_lt q' hn
        constructor <;> intro <;> omega

/-- what a relative perturbation can do to the index: a number `q'` within `ε·|q|` of `q`, `2εn < 1`, gets the
index of `q` (always so below the first and above the last face, where both are clipped), or `0 ≤ q ≤ n` and an
interior face `j` lies between them: then `j` is within `ε·q` of `q` and both indices are among the two cells
that share it -/
theorem clipIdx_perturbed {q q' ε : Rat} {n : Nat} (hn : 0 < n) (hε : 0 ≤ ε) (hs : 2 * ε * (n : Rat) < 1)
    (herr : |q' - q| ≤ ε * |q|) :
    clipIdx q' n = clipIdx q n ∨ (0 ≤ q ∧ q ≤ (n : Rat) ∧ ∃ j : Nat, 0 < j ∧ j < n ∧ |q - (j : Rat)| ≤ ε * q ∧
      (clipIdx q' n = j - 1 ∨ clipIdx q' n = j) ∧ (clipIdx q n = j - 1 ∨ clipIdx q n = j)) := by
  have hN : (1 : Rat) ≤ (n : Rat) := by exact_mod_cast hn
  have hε1 : 0 ≤ 1 - ε := by linarith only [hs, mul_le_mul_of_nonneg_left hN hε]
  rw [abs_le] at herr
  rcases lt_or_ge q 0 with hq0 | hq0
  · -- below the first face: `q' ≤ (1 − ε)·q < 0`, both indices are 0
    rw [abs_of_neg hq0] at herr
    have := mul_nonpos_of_nonneg_of_nonpos hε1 hq0.le
    exact Or.inl (((clipIdx_eq_iff q' hn).mpr ⟨Or.inl rfl, Or.inr (by push_cast; linarith only [herr.2, this])⟩).trans
      ((clipIdx_eq_iff q hn).mpr ⟨Or.inl rfl, Or.inr (by push_cast; linarith only [hq0])⟩).symm)
  rw [abs_of_nonneg hq0] at herr
  rcases lt_or_ge (n : Rat) q with hqn | hqn
  · -- above the last face: `q' ≥ (1 − ε)·q ≥ n − ½`, both indices are `n − 1`
    have := mul_le_mul_of_nonneg_left hqn.le hε1
    have hc : ((n - 1 : Nat) : Rat) = (n : Rat) - 1 := Nat.cast_pred hn
    exact Or.inl (((clipIdx_eq_iff q' (by omega : n - 1 < n)).mpr
        ⟨Or.inr (by rw [hc]; linarith only [herr.1, this, hs]), Or.inl (by omega)⟩).trans
      ((clipIdx_eq_iff q (by omega : n - 1 < n)).mpr ⟨Or.inr (by rw [hc]; linarith only [hqn]), Or.inl (by omega)⟩).symm)
  by_cases he : clipIdx q' n = clipIdx q n
  · exact Or.inl he
  refine Or.inr ⟨hq0, hqn, ?_⟩
  -- different indices: by `clipIdx_eq_iff_faces` some interior face `j` separates `q'` from `q`
  rw [clipIdx_eq_iff_faces hn] at he
  push Not at he
  obtain ⟨j, hj0, hjn, hsep⟩ := he
  have hεq : ε * q < 1 / 2 := by linarith only [hs, mul_le_mul_of_nonneg_left hqn hε]
  have hj1 : ((j - 1 : Nat) : Rat) = (j : Rat) - 1 := Nat.cast_pred hj0
  have hnear : |q - (j : Rat)| ≤ ε * q := by
    rw [abs_le]
    rcases hsep with ⟨h1, h2⟩ | ⟨h1, h2⟩
    · constructor <;> linarith only [h1, h2, herr.1, herr.2]
    · constructor <;> linarith only [h2, h1, herr.1, herr.2]
  rw [abs_le] at hnear
  -- a number strictly between the faces `j − 1` and `j + 1` has index `j − 1` or `j`; `q` and `q'` are such numbers
  -- because `ε·q ≤ ε·n < ½` (`hεq`, the one use of `2εn < 1`)
  have two : ∀ p : Rat, (j : Rat) - 1 < p → p < (j : Rat) + 1 → clipIdx p n = j - 1 ∨ clipIdx p n = j := by
    intro p l u
    rcases le_or_gt (j : Rat) p with h | h
    · exact Or.inr ((clipIdx_eq_iff p hjn).mpr ⟨Or.inr h, Or.inr u⟩)
    · exact Or.inl ((clipIdx_eq_iff p (by omega)).mpr
        ⟨Or.inr (by rw [hj1]; exact l.le), Or.inr (by rw [hj1]; linarith only [h])⟩)
  exact ⟨j, hj0, hjn, abs_le.mpr hnear,
    two q' (by linarith only [hnear.1, herr.1, hεq]) (by linarith only [hnear.2, herr.2, hεq]),
    two q (by linarith only [hnear.1, hεq]) (by linarith only [hnear.2, hεq])⟩

theorem linspace_length (a b : Rat) (n : Nat) : (linspace a b n).length = n := by
  unfold linspace
  split <;> simp [*]

/-- entry `j` of `np.linspace(a, b, N + 1)` -/
theorem linspace_getD (a b : Rat) (N j : Nat) (hN : 0 < N) (hj : j ≤ N) :
    (linspace a b (N + 1)).getD j 0 = a + (j : Rat) * ((b - a) / (N : Rat)) := by
  unfold linspace
  rw [if_neg (by omega), getD_tab _ _ _ _ (by omega)]
  simp only [Nat.cast_add, Nat.cast_one, add_sub_cancel_right]

/-! ### positions `L + p·c` on a lattice of step `c > 0`: faces at whole `p`, centres at `k + ½` -/

theorem face_le {L c : Rat} (hc : 0 < c) (p q : Rat) : L + p * c ≤ L + q * c ↔ p ≤ q := by
  rw [add_le_add_iff_left, mul_le_mul_iff_of_pos_right hc]

theorem face_lt {L c : Rat} (hc : 0 < c) (p q : Rat) : L + p * c < L + q * c ↔ p < q := by
  rw [add_lt_add_iff_left, mul_lt_mul_iff_of_pos_right hc]

theorem face_max {L c : Rat} (hc : 0 < c) (p q : Rat) : max (L + p * c) (L + q * c) = L + max p q * c := by
  rcases le_total p q with h | h
  · rw [max_eq_right h, max_eq_right ((face_le hc _ _).mpr h)]
  · rw [max_eq_left h, max_eq_left ((face_le hc _ _).mpr h)]

theorem face_min {L c : Rat} (hc : 0 < c) (p q : Rat) : min (L + p * c) (L + q * c) = L + min p q * c := by
  rcases le_total p q with h | h
  · rw [min_eq_left h, min_eq_left ((face_le hc _ _).mpr h)]
  · rw [min_eq_right h, min_eq_right ((face_le hc _ _).mpr h)]

section Axis
variable (m : Mesh) (a : Nat)

theorem cell_length : m.cell.length = m.ndim := tab_length _ _

theorem cell_getD (ha : a < m.ndim) : m.cell.getD a 0 = m.cellAt a := getD_tab _ _ _ _ ha

theorem cellAt_cover (hn : 0 < m.nAt a) :
    (m.nAt a : Rat) * m.cellAt a = m.region.hi a - m.region.lo a :=
  mul_div_cancel₀ _ (by exact_mod_cast hn.ne')

theorem hi_eq (hn : 0 < m.nAt a) : m.region.hi a = m.region.lo a + (m.nAt a : Rat) * m.cellAt a := by
  rw [cellAt_cover m a hn]; ring

theorem cellAt_pos (hn : 0 < m.nAt a) (hr : m.region.lo a < m.region.hi a) : 0 < m.cellAt a :=
  div_pos (sub_pos.mpr hr) (by exact_mod_cast hn)

/-- first and last centre of `N + 1` cells are `N` cells apart -/
theorem centres_span (N : Nat) (hN : m.nAt a = N + 1) :
    m.region.hi a - m.cellAt a / 2 - (m.region.lo a + m.cellAt a / 2) = (N : Rat) * m.cellAt a := by
  have := cellAt_cover m a (by omega)
  rw [hN] at this; push_cast at this; linarith

/-- units of cells ⇔ coordinates -/
theorem le_quot_iff (hc : 0 < m.cellAt a) (p x : Rat) :
    p ≤ (x - m.region.lo a) / m.cellAt a ↔ m.region.lo a + p * m.cellAt a ≤ x := by
  rw [le_div_iff₀ hc, le_sub_iff_add_le, add_comm]

theorem quot_lt_iff (hc : 0 < m.cellAt a) (p x : Rat) :
    (x - m.region.lo a) / m.cellAt a < p ↔ x < m.region.lo a + p * m.cellAt a := by
  rw [← not_le, le_quot_iff m a hc, not_le]

theorem quot_mem (hn : 0 < m.nAt a) (hr : m.region.lo a < m.region.hi a) (x : Rat)
    (hlo : m.region.lo a ≤ x) (hhi : x ≤ m.region.hi a) :
    0 ≤ (x - m.region.lo a) / m.cellAt a ∧ (x - m.region.lo a) / m.cellAt a ≤ (m.nAt a : Rat) := by
  have hc := cellAt_pos m a hn hr
  refine ⟨div_nonneg (by linarith) hc.le, ?_⟩
  rw [div_le_iff₀ hc, cellAt_cover m a hn]
  linarith

theorem indexAx_eq_clipIdx (x : Rat) :
    m.indexAx a x = clipIdx ((x - m.region.lo a) / m.cellAt a) (m.nAt a) := rfl

theorem indexAx_lt (hn : 0 < m.nAt a) (x : Rat) : m.indexAx a x < m.nAt a := clipIdx_lt _ hn

/-- `point2index` along one axis is the lower adjoint of `k ↦ pmin + k·cell`: for an interior face `k`,
`x` belongs to cell `k` or a later one exactly when it is at or beyond that face (any `x`, inside the
edge or not) -/
theorem le_indexAx_iff (hc : 0 < m.cellAt a) {k : Nat} (hk0 : 0 < k) (hk : k < m.nAt a) (x : Rat) :
    k ≤ m.indexAx a x ↔ m.region.lo a + (k : Rat) * m.cellAt a ≤ x :=
  (le_clipIdx_iff _ hk0 hk).trans (le_quot_iff m a hc _ x)

/-- the index of `x` is `k` exactly when `x` lies between the faces of cell `k`; the first cell also
takes everything below it, the last one everything above -/
theorem indexAx_eq_iff (hc : 0 < m.cellAt a) {k : Nat} (hk : k < m.nAt a) (x : Rat) :
    m.indexAx a x = k ↔ (k = 0 ∨ m.region.lo a + (k : Rat) * m.cellAt a ≤ x) ∧
      (k + 1 = m.nAt a ∨ x < m.region.lo a + ((k : Rat) + 1) * m.cellAt a) := by
  rw [indexAx_eq_clipIdx, clipIdx_eq_iff _ hk, le_quot_iff m a hc, quot_lt_iff m a hc]

theorem indexAx_mono (hn : 0 < m.nAt a) (hc : 0 < m.cellAt a) {x y : Rat} (hxy : x ≤ y) :
    m.indexAx a x ≤ m.indexAx a y := by
  rcases Nat.eq_zero_or_pos (m.indexAx a x) with h | h
  · omega
  · have hk := indexAx_lt m a hn x
    exact (le_indexAx_iff m a hc h hk y).mpr (((le_indexAx_iff m a hc h hk x).mp le_rfl).trans hxy)

/-- a point of the closed edge `[pmin, pmax]` gets an in-range index whose cell contains it: lower face inclusive,
upper face exclusive except for the last cell, which also takes `pmax` -/
theorem indexAx_contains (x : Rat) (hn : 0 < m.nAt a) (hr : m.region.lo a < m.region.hi a)
    (hlo : m.region.lo a ≤ x) (hhi : x ≤ m.region.hi a) :
    m.indexAx a x < m.nAt a ∧
    m.region.lo a + (m.indexAx a x : Rat) * m.cellAt a ≤ x ∧
    (x < m.region.lo a + ((m.indexAx a x : Rat) + 1) * m.cellAt a ∨
      (m.indexAx a x = m.nAt a - 1 ∧ x = m.region.hi a)) := by
  have hk := indexAx_lt m a hn x
  obtain ⟨h1, h2⟩ := (indexAx_eq_iff m a (cellAt_pos m a hn hr) hk x).mp rfl
  refine ⟨hk, h1.elim (fun h => by rw [h]; simpa using hlo) id, ?_⟩
  rcases h2 with h | h
  · -- last cell: its upper face is `pmax`
    have e : (m.indexAx a x : Rat) + 1 = (m.nAt a : Rat) := by exact_mod_cast h
    rw [e, ← hi_eq m a hn]
    exact hhi.lt_or_eq.imp_right fun hx => ⟨by omega, hx⟩
  · exact Or.inl h

/-- `indexAx_contains` in units of cells: `k ≤ q`, and `q < k + 1` unless `k` is the last cell -/
theorem indexAx_facts (hn : 0 < m.nAt a) (hr : m.region.lo a < m.region.hi a) (x : Rat)
    (hlo : m.region.lo a ≤ x) (hhi : x ≤ m.region.hi a) :
    m.indexAx a x < m.nAt a ∧ (m.indexAx a x : Rat) ≤ (x - m.region.lo a) / m.cellAt a ∧
    ((x - m.region.lo a) / m.cellAt a < (m.indexAx a x : Rat) + 1 ∨ m.indexAx a x = m.nAt a - 1) := by
  have hc := cellAt_pos m a hn hr
  obtain ⟨h1, h2, h3⟩ := indexAx_contains m a x hn hr hlo hhi
  exact ⟨h1, (le_quot_iff m a hc _ x).mpr h2, h3.imp (quot_lt_iff m a hc _ x).mpr And.left⟩

/-- `indexAx_contains` with the upper end closed: the closed box of the cell that `point2index` assigns -/
theorem indexAx_box (x : Rat) (hn : 0 < m.nAt a) (hr : m.region.lo a < m.region.hi a)
    (hlo : m.region.lo a ≤ x) (hhi : x ≤ m.region.hi a) :
    m.indexAx a x < m.nAt a ∧ m.region.lo a + (m.indexAx a x : Rat) * m.cellAt a ≤ x ∧
      x ≤ m.region.lo a + ((m.indexAx a x : Rat) + 1) * m.cellAt a := by
  obtain ⟨h1, h2, h3⟩ := indexAx_contains m a x hn hr hlo hhi
  refine ⟨h1, h2, h3.elim le_of_lt fun ⟨e, hx⟩ => ?_⟩
  rw [e, Nat.cast_pred hn, sub_add_cancel, ← hi_eq m a hn]; exact hhi

theorem centreAx_natCast (i : Nat) :
    m.centreAx a (i : Int) = m.region.lo a + ((i : Rat) + 1 / 2) * m.cellAt a := by
  unfold centreAx; rw [Int.cast_natCast]

theorem centreAx_mem (i : Nat) (hi : i < m.nAt a) (hc : 0 < m.cellAt a) :
    m.region.lo a < m.centreAx a (i : Int) ∧ m.centreAx a (i : Int) < m.region.hi a := by
  rw [centreAx_natCast, hi_eq m a (by omega), face_lt hc, lt_add_iff_pos_right]
  have h0 : (0 : Rat) ≤ (i : Rat) := Nat.cast_nonneg i
  have h1 : (i : Rat) + 1 ≤ (m.nAt a : Rat) := by exact_mod_cast hi
  exact ⟨mul_pos (by linarith only [h0]) hc, by linarith only [h1]⟩

theorem centreAx_between (i : Nat) (hc : 0 < m.cellAt a) :
    m.region.lo a + (i : Rat) * m.cellAt a < m.centreAx a (i : Int) ∧
    m.centreAx a (i : Int) < m.region.lo a + ((i : Rat) + 1) * m.cellAt a := by
  rw [centreAx_natCast, face_lt hc, face_lt hc]
  exact ⟨by linarith only, by linarith only⟩

theorem indexAx_centreAx (i : Nat) (hi : i < m.nAt a) (hc : 0 < m.cellAt a) :
    m.indexAx a (m.centreAx a (i : Int)) = i := by
  rw [indexAx_eq_iff m a hc hi, centreAx_natCast, face_le hc, face_lt hc]
  exact ⟨Or.inr (by linarith only), Or.inr (by linarith only)⟩

/-- the centre of the cell that `point2index` finds is the nearest centre, for EVERY coordinate `x`: at
least as near as the centre of any earlier cell, strictly nearer than that of any later one (`np.argmin`
over the centres with ties to the larger index = clipped floor; left of the first face and right of the
last one the end cells are nearest) -/
theorem indexAx_nearest_any (hn : 0 < m.nAt a) (hc : 0 < m.cellAt a) (x : Rat) (j : Nat) :
    (j < m.indexAx a x → |m.centreAx a (m.indexAx a x : Nat) - x| ≤ |m.centreAx a (j : Nat) - x|) ∧
    (m.indexAx a x < j → j < m.nAt a → |m.centreAx a (m.indexAx a x : Nat) - x| < |m.centreAx a (j : Nat) - x|) := by
  have hk := indexAx_lt m a hn x
  obtain ⟨hlo, hhi⟩ := (indexAx_eq_iff m a hc hk x).mp rfl
  generalize m.indexAx a x = k at hk hlo hhi
  rw [centreAx_natCast, centreAx_natCast]
  constructor
  · intro hj
    have h1 := hlo.resolve_left (by omega)
    have h2 := mul_le_mul_of_nonneg_right (by exact_mod_cast hj : (j : Rat) + 1 ≤ (k : Rat)) hc.le
    rw [abs_of_nonpos (by linarith : m.region.lo a + ((j : Rat) + 1 / 2) * m.cellAt a - x ≤ 0), abs_le]
    constructor <;> linarith
  · intro hj hjn
    have h1 := hhi.resolve_left (by omega)
    have h2 := mul_le_mul_of_nonneg_right (by exact_mod_cast hj : (k : Rat) + 1 ≤ (j : Rat)) hc.le
    rw [abs_of_pos (by linarith : 0 < m.region.lo a + ((j : Rat) + 1 / 2) * m.cellAt a - x), abs_lt]
    constructor <;> linarith

/-- entry `j` of the list of centres of axis `a` (`Mesh.cells`, built with `np.linspace`) -/
theorem cells_getD (j : Nat) (ha : a < m.ndim) (hj : j < m.nAt a) :
    (m.cells.getD a []).getD j 0 = m.centreAx a (j : Int) := by
  unfold cells
  rw [getD_tab _ _ _ _ ha, centreAx_natCast]
  by_cases h1 : m.nAt a = 1
  · obtain rfl : j = 0 := by omega
    rw [h1]
    show m.region.lo a + m.cellAt a / 2 = _
    push_cast; ring
  · obtain ⟨N, hN⟩ : ∃ N, m.nAt a = N + 1 := ⟨m.nAt a - 1, by omega⟩
    have hNq : (N : Rat) ≠ 0 := by exact_mod_cast (by omega : N ≠ 0)
    rw [hN, linspace_getD _ _ _ _ (by omega) (by omega), centres_span m a N hN, mul_div_cancel_left₀ _ hNq]
    ring

theorem cells_length (ha : a < m.ndim) : (m.cells.getD a []).length = m.nAt a := by
  unfold cells
  rw [getD_tab _ _ _ _ ha, linspace_length]

theorem cells_axis (ha : a < m.ndim) : m.cells.getD a [] = tab (m.nAt a) fun j => m.centreAx a (j : Int) :=
  eq_tab_of_getD _ _ _ 0 (cells_length m a ha) fun j hj => cells_getD m a j ha hj

/-- entry `j` of the list of vertices of axis `a` (`Mesh.vertices`) is the face `pmin + j·cell`, `j = 0 … n` -/
theorem vertices_getD (ha : a < m.ndim) (hn : 0 < m.nAt a) (j : Nat) (hj : j ≤ m.nAt a) :
    (m.vertices.getD a []).getD j 0 = m.region.lo a + (j : Rat) * m.cellAt a := by
  unfold vertices
  rw [getD_tab _ _ _ _ ha, linspace_getD _ _ _ _ hn hj]
  rfl

theorem vertices_length (ha : a < m.ndim) : (m.vertices.getD a []).length = m.nAt a + 1 := by
  unfold vertices
  rw [getD_tab _ _ _ _ ha, linspace_length]

theorem vertices_ends (ha : a < m.ndim) (hn : 0 < m.nAt a) :
    (m.vertices.getD a []).getD 0 0 = m.region.lo a ∧
    (m.vertices.getD a []).getD ((m.vertices.getD a []).length - 1) 0 = m.region.hi a := by
  rw [vertices_length m a ha, Nat.add_sub_cancel, vertices_getD m a ha hn 0 (by omega),
    vertices_getD m a ha hn _ le_rfl, ← hi_eq m a hn]
  exact ⟨by simp, rfl⟩

theorem centre_length (i : List Nat) : (m.centre i).length = m.ndim := tab_length _ _

theorem centre_getD (i : List Nat) (ha : a < m.ndim) :
    (m.centre i).getD a 0 = m.centreAx a ((i.getD a 0 : Nat) : Int) := by
  unfold centre
  rw [getD_tab _ _ _ _ ha]

end Axis

theorem vertices_congr (m m' : Mesh) (h1 : m'.region.pmin = m.region.pmin) (h2 : m'.region.pmax = m.region.pmax)
    (hn : m'.n = m.n) : m'.vertices = m.vertices := by
  unfold Mesh.vertices Mesh.ndim Region.ndim Mesh.nAt Region.lo Region.hi
  rw [h1, h2, hn]

end DFV.C01
