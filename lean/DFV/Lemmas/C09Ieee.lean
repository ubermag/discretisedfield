import DFV.Lemmas.C09
/-! The driver's IEEE-754 codec on rationals: the byte layer loses nothing, the check values are the only bit
patterns that decode to them, `ilog2` is the binade and rounding leaves every value of the format alone, so the
codec restricted to binary64 values (`V64`) is a lawful codec. -/
namespace DFV.C09
open DFV

theorem leBytes_length (w n : Nat) : (leBytes w n).length = w := by simp [leBytes, tab]

theorem ieee_enc_len (le : Bool) (w : Nat) (x : Rat) : (ieee.enc le w x).length = w := by
  cases le <;> simp [ieee, leBytes_length]

theorem leBytes_succ (w n : Nat) : leBytes (w + 1) n = n % 256 :: leBytes w (n / 256) := by
  unfold leBytes
  rw [tab_succ_cons]
  congr 1
  · simp
  · unfold tab
    apply List.map_congr_left
    intro i _
    rw [Nat.pow_succ, Nat.mul_comm, Nat.div_div_eq_div_mul]

theorem ofLE_leBytes (w n : Nat) : ofLE (leBytes w n) = n % 256 ^ w := by
  induction w generalizing n with
  | zero => simp [leBytes, tab, ofLE, Nat.mod_one]
  | succ w ih =>
    rw [leBytes_succ, ofLE, ih, Nat.pow_succ, Nat.mul_comm (256 ^ w) 256, Nat.mod_mul]

theorem bitsAbs_le (F : Fmt) (a : Rat) : bitsAbs F a ≤ F.infBits := by
  unfold bitsAbs; split <;> exact Nat.min_le_left _ _

theorem infBits_lt (F : Fmt) : F.infBits < F.signBit := by
  unfold Fmt.infBits Fmt.signBit
  rw [Nat.pow_add]
  have : 0 < 2 ^ F.ebits := Nat.pow_pos (by omega)
  have h2 : 0 < 2 ^ F.mbits := Nat.pow_pos (by omega)
  exact Nat.mul_lt_mul_of_pos_right (by omega) h2

theorem toBits_lt (F : Fmt) (x : Rat) : toBits F x < 2 * F.signBit := by
  have h1 := infBits_lt F
  unfold toBits
  split
  · omega
  · split
    · have := bitsAbs_le F (-x); omega
    · have := bitsAbs_le F x; omega

/-- **the byte layer of the IEEE codec loses nothing**: splitting a 32- or 64-bit pattern into
bytes (little or big endian) and reassembling it gives the pattern back; so what comes back from
`dec (enc x)` is `x` rounded to the format, whatever the endianness -/
theorem ieee_dec_enc (le : Bool) (w : Nat) (hw : w = 4 ∨ w = 8) (x : Rat) :
    ieee.dec le w (ieee.enc le w x) = fromBits (fmtOf w) (toBits (fmtOf w) x) := by
  have hb : toBits (fmtOf w) x < 256 ^ w := by
    rcases hw with rfl | rfl
    · have := toBits_lt f32 x
      have e : 2 * f32.signBit = 256 ^ 4 := by decide
      simp only [fmtOf, if_true]; omega
    · have := toBits_lt f64 x
      have e : 2 * f64.signBit = 256 ^ 8 := by decide
      simp only [fmtOf, show ¬ (8 = 4) by omega, if_false]; omega
  cases le
  · simp only [ieee, Bool.false_eq_true, if_false, List.reverse_reverse]
    rw [ofLE_leBytes, Nat.mod_eq_of_lt hb]
  · simp only [ieee, if_true]
    rw [ofLE_leBytes, Nat.mod_eq_of_lt hb]

theorem ieee_dec_enc4 (le : Bool) (x : Rat) : ieee.dec le 4 (ieee.enc le 4 x) = narrow32 x :=
  ieee_dec_enc le 4 (Or.inl rfl) x

theorem pow2_eq_zpow (e : Int) : pow2 e = (2 : Rat) ^ e := by
  unfold pow2
  split
  · rename_i h
    conv_rhs => rw [← Int.toNat_of_nonneg h]
    rw [zpow_natCast]
  · have h' : e = -((-e).toNat : Int) := by omega
    conv_rhs => rw [h']
    rw [zpow_neg, zpow_natCast, one_div]

theorem pow2_pos (e : Int) : 0 < pow2 e := by rw [pow2_eq_zpow]; exact zpow_pos (by norm_num) e

theorem pow2_succ (e : Int) : pow2 (e + 1) = 2 * pow2 e := by
  rw [pow2_eq_zpow, pow2_eq_zpow, zpow_add_one₀ (by norm_num), mul_comm]

theorem pow2_add_nat (e : Int) (k : Nat) : pow2 (e + k) = (2 : Rat) ^ k * pow2 e := by
  rw [pow2_eq_zpow, pow2_eq_zpow, zpow_add₀ (by norm_num), zpow_natCast, mul_comm]

theorem pow2_sub_nat (e : Int) (k : Nat) : pow2 (e - k) = pow2 e / 2 ^ k := by
  rw [pow2_eq_zpow, pow2_eq_zpow, zpow_sub₀ (by norm_num), zpow_natCast]

theorem pow2_le (e e' : Int) (h : e ≤ e') : pow2 e ≤ pow2 e' := by
  rw [pow2_eq_zpow, pow2_eq_zpow]; exact zpow_le_zpow_right₀ (by norm_num) h

theorem pow2_natCast (n : Nat) : pow2 (n : Int) = (2 : Rat) ^ n := by rw [pow2_eq_zpow, zpow_natCast]

theorem binade_unique {x : Rat} {e e' : Int} (h1 : pow2 e ≤ x) (h2 : x < pow2 (e + 1)) (h1' : pow2 e' ≤ x)
    (h2' : x < pow2 (e' + 1)) : e = e' := by
  by_contra hne
  rcases lt_or_gt_of_ne hne with h | h
  · have := pow2_le (e + 1) e' (by omega); linarith
  · have := pow2_le (e' + 1) e (by omega); linarith

theorem subnormal_below (mb mant : Nat) (hm : mant < 2 ^ mb) (e : Int) :
    ((mant : Nat) : Rat) * pow2 (e - mb) < pow2 e := by
  have e1 : pow2 e = 2 ^ mb * pow2 (e - mb) := by
    rw [← pow2_add_nat]; congr 1; ring
  rw [e1]
  exact mul_lt_mul_of_pos_right (by exact_mod_cast hm) (pow2_pos _)

theorem normal_binade (mb mant : Nat) (hm : mant < 2 ^ mb) (e : Int) :
    pow2 e ≤ ((2 ^ mb + mant : Nat) : Rat) * pow2 (e - mb) ∧
      ((2 ^ mb + mant : Nat) : Rat) * pow2 (e - mb) < pow2 (e + 1) := by
  have hp := pow2_pos (e - mb)
  have hmc : ((mant : Nat) : Rat) < 2 ^ mb := by exact_mod_cast hm
  have hm0 : (0 : Rat) ≤ ((mant : Nat) : Rat) := Nat.cast_nonneg _
  have e1 : pow2 e = 2 ^ mb * pow2 (e - mb) := by
    rw [← pow2_add_nat]; congr 1; ring
  have e2 : pow2 (e + 1) = 2 ^ (mb + 1) * pow2 (e - mb) := by
    rw [← pow2_add_nat]; congr 1; push_cast; ring
  rw [e1, e2]
  constructor
  · apply mul_le_mul_of_nonneg_right _ hp.le
    push_cast; linarith
  · apply mul_lt_mul_of_pos_right _ hp
    push_cast; rw [pow_succ]; linarith
/-- the magnitude `fromBits` assigns to exponent field `E` and mantissa field `mant` -/
def magOf (F : Fmt) (E mant : Nat) : Rat :=
  if E = 2 ^ F.ebits - 1 then (if mant = 0 then pow2 (F.bias + 1) else pow2 (F.bias + 2))
  else if E = 0 then ((mant : Nat) : Rat) * pow2 (F.emin - F.mbits)
  else ((2 ^ F.mbits + mant : Nat) : Rat) * pow2 ((E : Nat) - F.bias - F.mbits)

theorem fromBits_eq_magOf (F : Fmt) (b : Nat) :
    fromBits F b = (if b / F.signBit % 2 = 1 then -1 else 1) * magOf F (b / 2 ^ F.mbits % 2 ^ F.ebits) (b % 2 ^ F.mbits) := rfl

/-- a magnitude is not negative, and one that is a normal number `M ∈ [2^p, 2^(p+1))` has exponent field `bias + p`
and the mantissa `M` determines -/
theorem magOf_normal (F : Fmt) (p : Nat) (M : Rat) (hM1 : (2 : Rat) ^ p ≤ M) (hM2 : M < 2 ^ (p + 1))
    (hbias : (p : Int) + 1 ≤ F.bias) (E mant : Nat) (hmant : mant < 2 ^ F.mbits) :
    0 ≤ magOf F E mant ∧ (magOf F E mant = M →
      ((E : Nat) : Int) = F.bias + p ∧ ((2 ^ F.mbits + mant : Nat) : Rat) * pow2 ((p : Int) - F.mbits) = M) := by
  have hmant0 : (0 : Rat) ≤ ((mant : Nat) : Rat) := by positivity
  unfold magOf
  split
  · -- infinity / NaN
    have hbig : pow2 ((p : Int) + 2) ≤ (if mant = 0 then pow2 (F.bias + 1) else pow2 (F.bias + 2)) := by
      split
      · exact pow2_le _ _ (by omega)
      · exact pow2_le _ _ (by omega)
    have e : pow2 ((p : Int) + 2) = 2 ^ (p + 2) := by
      have : (p : Int) + 2 = ((p + 2 : Nat) : Int) := by push_cast; ring
      rw [this, pow2_natCast]
    refine ⟨le_trans (le_of_lt (pow2_pos _)) hbig, fun hm => ?_⟩
    exfalso
    rw [e, hm] at hbig
    have : (2 : Rat) ^ (p + 1) ≤ 2 ^ (p + 2) := pow_le_pow_right₀ (by norm_num) (by omega)
    linarith
  · split
    · -- subnormal
      have hp2 := pow2_pos (F.emin - F.mbits)
      have hlt := subnormal_below F.mbits _ hmant F.emin
      refine ⟨mul_nonneg hmant0 hp2.le, fun hm => ?_⟩
      exfalso
      have h1 : pow2 F.emin ≤ pow2 0 := pow2_le _ _ (by unfold Fmt.emin; omega)
      have h2 : pow2 0 = 1 := by norm_num [pow2]
      have h3 : (1 : Rat) ≤ 2 ^ p := one_le_pow₀ (by norm_num)
      linarith
    · -- normal
      obtain ⟨hlo, hhi⟩ := normal_binade F.mbits mant hmant (((E : Nat) : Int) - F.bias)
      refine ⟨le_trans (le_of_lt (pow2_pos _)) hlo, fun hm => ?_⟩
      rw [hm] at hlo hhi
      have hd : ((E : Nat) : Int) - F.bias = p :=
        binade_unique hlo hhi (by rw [pow2_natCast]; exact hM1)
          (by rw [show (p : Int) + 1 = ((p + 1 : Nat) : Int) by push_cast; ring, pow2_natCast]; exact hM2)
      refine ⟨by omega, ?_⟩
      rw [← hm]
      congr 2
      omega

/-- the only bit patterns whose value is a given normal number `M ∈ [2^p, 2^(p+1))`: positive
sign, exponent field `bias + p`, mantissa determined by `M` -/
theorem fromBits_eq_normal (F : Fmt) (p : Nat) (M : Rat) (hM1 : (2 : Rat) ^ p ≤ M) (hM2 : M < 2 ^ (p + 1))
    (hbias : (p : Int) + 1 ≤ F.bias) (b : Nat) (h : fromBits F b = M) :
    b / F.signBit % 2 ≠ 1 ∧ ((b / 2 ^ F.mbits % 2 ^ F.ebits : Nat) : Int) = F.bias + p ∧
      ((2 ^ F.mbits + b % 2 ^ F.mbits : Nat) : Rat) * pow2 ((p : Int) - F.mbits) = M := by
  have hMpos : 0 < M := lt_of_lt_of_le (by positivity) hM1
  obtain ⟨h0, hk⟩ := magOf_normal F p M hM1 hM2 hbias (b / 2 ^ F.mbits % 2 ^ F.ebits) (b % 2 ^ F.mbits)
    (Nat.mod_lt _ (Nat.pow_pos (by omega)))
  rw [fromBits_eq_magOf] at h
  by_cases hs : b / F.signBit % 2 = 1
  · rw [if_pos hs] at h; linarith
  · rw [if_neg hs, one_mul] at h
    exact ⟨hs, hk h⟩

/-- the 8-byte check value has one pattern.  `123456789012345` lies in `[2^46, 2^47)`; its significand is
`123456789012345 · 2^(52-46) = 7901234496790080 = 2^52 + mant`, and the pattern is `(1023 + 46) · 2^52 + mant` -/
theorem magic8_unique (b : Nat) (hb : b < 2 ^ 64) (h : fromBits f64 b = 123456789012345) :
    b = 0x42DC12218377DE40 := by
  obtain ⟨h1, h2, h3⟩ := fromBits_eq_normal f64 46 123456789012345 (by norm_num) (by norm_num)
    (by decide) b h
  have hp : pow2 ((46 : Nat) - (f64.mbits : Int)) = 1 / 64 := by
    have : ((46 : Nat) : Int) - (f64.mbits : Int) = -6 := by decide
    rw [this, pow2_eq_zpow]; norm_num
  rw [hp, mul_one_div, div_eq_iff (by norm_num)] at h3
  have h3' : ((2 ^ f64.mbits + b % 2 ^ f64.mbits : Nat) : Rat) = ((7901234496790080 : Nat) : Rat) :=
    h3.trans (by norm_num)
  have h3'' : 2 ^ f64.mbits + b % 2 ^ f64.mbits = 7901234496790080 := by exact_mod_cast h3'
  have hb2 : f64.bias = 1023 := by decide
  rw [hb2] at h2
  simp only [f64, Fmt.signBit] at h1 h2 h3''
  omega

/-- the 4-byte check value has one pattern.  `1234567` lies in `[2^20, 2^21)`; its significand is
`1234567 · 2^(23-20) = 9876536 = 2^23 + mant`, and the pattern is `(127 + 20) · 2^23 + mant` -/
theorem magic4_unique (b : Nat) (hb : b < 2 ^ 32) (h : fromBits f32 b = 1234567) : b = 0x4996B438 := by
  obtain ⟨h1, h2, h3⟩ := fromBits_eq_normal f32 20 1234567 (by norm_num) (by norm_num) (by decide) b h
  have hp : pow2 ((20 : Nat) - (f32.mbits : Int)) = 1 / 8 := by
    have : ((20 : Nat) : Int) - (f32.mbits : Int) = -3 := by decide
    rw [this, pow2_eq_zpow]; norm_num
  rw [hp, mul_one_div, div_eq_iff (by norm_num)] at h3
  have h3' : ((2 ^ f32.mbits + b % 2 ^ f32.mbits : Nat) : Rat) = ((9876536 : Nat) : Rat) :=
    h3.trans (by norm_num)
  have h3'' : 2 ^ f32.mbits + b % 2 ^ f32.mbits = 9876536 := by exact_mod_cast h3'
  have hb2 : f32.bias = 127 := by decide
  rw [hb2] at h2
  simp only [f32, Fmt.signBit] at h1 h2 h3''
  omega

theorem ofLE_lt (bs : List Nat) (h : ∀ x ∈ bs, x < 256) : ofLE bs < 256 ^ bs.length := by
  induction bs with
  | nil => simp [ofLE]
  | cons x bs ih =>
    have hx := h x (by simp)
    have := ih (fun y hy => h y (by simp [hy]))
    simp only [ofLE, List.length_cons, Nat.pow_succ]
    omega

theorem leBytes_ofLE (bs : List Nat) (h : ∀ x ∈ bs, x < 256) : leBytes bs.length (ofLE bs) = bs := by
  induction bs with
  | nil => rfl
  | cons x bs ih =>
    have hx := h x (by simp)
    rw [List.length_cons, leBytes_succ, ofLE]
    have e1 : (x + 256 * ofLE bs) % 256 = x := by omega
    have e2 : (x + 256 * ofLE bs) / 256 = ofLE bs := by omega
    rw [e1, e2, ih (fun y hy => h y (by simp [hy]))]

/-! ## rounding -/

/-- the arithmetic core of `ilog2_spec`: `a = n/d` with `2^ln ≤ n < 2^(ln+1)`, `2^ld ≤ d < 2^(ld+1)` -/
theorem binade_bounds (a n d : Rat) (ln ld : Nat) (hd : 0 < d) (ha : a = n / d)
    (n1 : (2 : Rat) ^ ln ≤ n) (n2 : n < 2 ^ (ln + 1)) (d1 : (2 : Rat) ^ ld ≤ d) (d2 : d < 2 ^ (ld + 1)) :
    pow2 ((ln : Int) - ld - 1) < a ∧ a < pow2 ((ln : Int) - ld + 1) := by
  have hL : pow2 ((ln : Int) - (ld : Int)) = (2 : Rat) ^ ln / 2 ^ ld := by
    rw [pow2_sub_nat, pow2_natCast]
  have hp1 : (0 : Rat) < 2 ^ ln := by positivity
  have hp2 : (0 : Rat) < 2 ^ ld := by positivity
  constructor
  · have e : pow2 ((ln : Int) - (ld : Int) - 1) = (2 : Rat) ^ ln / 2 ^ (ld + 1) := by
      have := pow2_sub_nat ((ln : Int) - (ld : Int)) 1
      simp only [Nat.cast_one, pow_one] at this
      rw [this, hL, pow_succ]; field_simp
    rw [e, ha, div_lt_div_iff₀ (by positivity) hd]
    calc (2 : Rat) ^ ln * d ≤ n * d := mul_le_mul_of_nonneg_right n1 hd.le
      _ < n * 2 ^ (ld + 1) := mul_lt_mul_of_pos_left d2 (hp1.trans_le n1)
  · rw [pow2_succ, hL, ha, div_lt_iff₀ hd]
    have : (2 : Rat) * (2 ^ ln / 2 ^ ld) * d = 2 ^ (ln + 1) * (d / 2 ^ ld) := by
      rw [pow_succ]; field_simp
    rw [this]
    have h1 : (1 : Rat) ≤ d / 2 ^ ld := by rw [le_div_iff₀ hp2]; linarith
    have h2 : (0 : Rat) < 2 ^ (ln + 1) := by positivity
    calc n < 2 ^ (ln + 1) * 1 := by rw [mul_one]; exact n2
      _ ≤ 2 ^ (ln + 1) * (d / 2 ^ ld) := mul_le_mul_of_nonneg_left h1 h2.le

theorem ilog2_spec (a : Rat) (ha : 0 < a) : pow2 (ilog2 a) ≤ a ∧ a < pow2 (ilog2 a + 1) := by
  have hnum : 0 < a.num := Rat.num_pos.mpr ha
  have hn0 : a.num.natAbs ≠ 0 := by omega
  have hd0 : a.den ≠ 0 := a.den_nz
  have hcast : a = (a.num.natAbs : Rat) / (a.den : Rat) := by
    have h1 : (a.num.natAbs : Rat) = (a.num : Rat) := by
      rw [Nat.cast_natAbs, abs_of_pos hnum]
    rw [h1]; exact (Rat.num_div_den a).symm
  have hdpos : (0 : Rat) < (a.den : Rat) := by exact_mod_cast Nat.pos_of_ne_zero hd0
  have n1 : ((2 : Rat) ^ a.num.natAbs.log2) ≤ (a.num.natAbs : Rat) := by
    exact_mod_cast Nat.log2_self_le hn0
  have n2 : (a.num.natAbs : Rat) < (2 : Rat) ^ (a.num.natAbs.log2 + 1) := by
    exact_mod_cast (Nat.lt_log2_self (n := a.num.natAbs))
  have d1 : ((2 : Rat) ^ a.den.log2) ≤ (a.den : Rat) := by
    exact_mod_cast Nat.log2_self_le hd0
  have d2 : (a.den : Rat) < (2 : Rat) ^ (a.den.log2 + 1) := by
    exact_mod_cast (Nat.lt_log2_self (n := a.den))
  obtain ⟨lo, up⟩ := binade_bounds a _ _ _ _ hdpos hcast n1 n2 d1 d2
  unfold ilog2
  split
  · rename_i h; exact ⟨h, up⟩
  · rename_i h
    refine ⟨le_of_lt lo, ?_⟩
    rw [show (a.num.natAbs.log2 : Int) - (a.den.log2 : Int) - 1 + 1 = (a.num.natAbs.log2 : Int) - (a.den.log2 : Int) by ring]
    exact lt_of_not_ge h

theorem ilog2_unique (a : Rat) (ha : 0 < a) (e : Int) (h1 : pow2 e ≤ a) (h2 : a < pow2 (e + 1)) : ilog2 a = e :=
  binade_unique (ilog2_spec a ha).1 (ilog2_spec a ha).2 h1 h2

theorem roundHalfEven_natCast_toNat (n : Nat) : (Mesh.roundHalfEven ((n : Nat) : Rat)).toNat = n := by
  rw [← Int.cast_natCast, C01.roundHalfEven_int]; simp

/-! `bitsAbs` on a scaled significand `N·2^(e-m)`: the division by the unit of the binade gives back `N`, which the
rounding leaves alone.  The two equations, from which the three kinds of magnitude follow. -/

/-- at or above the smallest normal exponent, with the leading bit in `N = 2^m + mant`: exponent field `e + bias`,
mantissa field `mant` (before saturation) -/
theorem bitsAbs_scaled (F : Fmt) (mant : Nat) (hm : mant < 2 ^ F.mbits) (e : Int) (he : F.emin ≤ e) :
    bitsAbs F (((2 ^ F.mbits + mant : Nat) : Rat) * pow2 (e - F.mbits))
      = min F.infBits ((e + F.bias).toNat * 2 ^ F.mbits + mant) := by
  have hp := pow2_pos (e - F.mbits)
  have hlog : ilog2 (((2 ^ F.mbits + mant : Nat) : Rat) * pow2 (e - F.mbits)) = e := by
    obtain ⟨hlo, hhi⟩ := normal_binade F.mbits mant hm e
    exact ilog2_unique _ (mul_pos (by push_cast; positivity) hp) _ hlo hhi
  unfold bitsAbs
  rw [hlog, if_neg (by omega), mul_div_assoc, div_self hp.ne', mul_one, roundHalfEven_natCast_toNat, Nat.add_sub_cancel_left]

/-- below it, without a leading bit: the pattern is the significand -/
theorem bitsAbs_scaled_sub (F : Fmt) (mant : Nat) (hm0 : 0 < mant) (hm : mant < 2 ^ F.mbits) :
    bitsAbs F (((mant : Nat) : Rat) * pow2 (F.emin - F.mbits)) = min F.infBits mant := by
  have hp := pow2_pos (F.emin - F.mbits)
  have hpos : 0 < ((mant : Nat) : Rat) * pow2 (F.emin - F.mbits) := mul_pos (by exact_mod_cast hm0) hp
  have hlog : ilog2 (((mant : Nat) : Rat) * pow2 (F.emin - F.mbits)) < F.emin := by
    by_contra hge
    have := pow2_le F.emin (ilog2 (((mant : Nat) : Rat) * pow2 (F.emin - F.mbits))) (by omega)
    have := (ilog2_spec _ hpos).1
    linarith [subnormal_below F.mbits mant hm F.emin]
  unfold bitsAbs
  rw [if_pos hlog, mul_div_assoc, div_self hp.ne', mul_one, roundHalfEven_natCast_toNat]

theorem bias_nonneg (F : Fmt) : (0 : Int) ≤ F.bias := by
  unfold Fmt.bias
  have : (1 : Int) ≤ 2 ^ (F.ebits - 1) := by exact_mod_cast Nat.one_le_two_pow
  omega

/-- normal numbers: the rounding of `(2^m + mant)·2^(E-bias-m)` is its own pattern -/
theorem bitsAbs_normal (F : Fmt) (E mant : Nat) (hE1 : 1 ≤ E) (hE2 : E + 2 ≤ 2 ^ F.ebits) (hm : mant < 2 ^ F.mbits) :
    bitsAbs F (((2 ^ F.mbits + mant : Nat) : Rat) * pow2 ((E : Nat) - F.bias - F.mbits)) = E * 2 ^ F.mbits + mant := by
  rw [bitsAbs_scaled F mant hm _ (by unfold Fmt.emin; omega), show ((E : Int) - F.bias + F.bias).toNat = E by omega]
  apply Nat.min_eq_right
  unfold Fmt.infBits
  have : (E + 1) * 2 ^ F.mbits ≤ (2 ^ F.ebits - 1) * 2 ^ F.mbits := Nat.mul_le_mul_right _ (by omega)
  rw [Nat.add_mul, Nat.one_mul] at this
  omega

theorem bitsAbs_subnormal (F : Fmt) (mant : Nat) (hm0 : 0 < mant) (hm : mant < 2 ^ F.mbits) (he : 1 ≤ F.ebits) :
    bitsAbs F (((mant : Nat) : Rat) * pow2 (F.emin - F.mbits)) = mant := by
  rw [bitsAbs_scaled_sub F mant hm0 hm]
  apply Nat.min_eq_right
  unfold Fmt.infBits
  have h1 : 1 ≤ 2 ^ F.ebits - 1 := by
    have : 2 ^ 1 ≤ 2 ^ F.ebits := Nat.pow_le_pow_right (by omega) he
    omega
  have := Nat.mul_le_mul_right (2 ^ F.mbits) h1
  omega

/-- the stand-in of infinity, `2^(bias+1)`: significand `2^m`, exponent field all ones -/
theorem bitsAbs_inf (F : Fmt) (he : 1 ≤ F.ebits) : bitsAbs F (pow2 (F.bias + 1)) = F.infBits := by
  have hb := bias_nonneg F
  have e : pow2 (F.bias + 1) = ((2 ^ F.mbits + 0 : Nat) : Rat) * pow2 (F.bias + 1 - F.mbits) := by
    rw [Nat.add_zero, Nat.cast_pow, Nat.cast_ofNat, ← pow2_add_nat]
    congr 1; ring
  have h2 : (F.bias + 1 + F.bias).toNat = 2 ^ F.ebits - 1 := by
    unfold Fmt.bias
    have : (2 : Int) ^ F.ebits = 2 * 2 ^ (F.ebits - 1) := by
      rw [← pow_succ']; congr 1; omega
    have h3 : ((2 ^ F.ebits - 1 : Nat) : Int) = 2 ^ F.ebits - 1 := by
      have : 1 ≤ 2 ^ F.ebits := Nat.one_le_two_pow
      push_cast [Nat.cast_sub this]; ring
    omega
  rw [e, bitsAbs_scaled F 0 (Nat.pow_pos (by omega)) _ (by unfold Fmt.emin; omega), h2, Nat.add_zero]
  exact Nat.min_self _

/-- every magnitude except zero and NaN is a fixed point of the rounding: `bitsAbs` returns its
own fields -/
theorem bitsAbs_magOf (F : Fmt) (he : 1 ≤ F.ebits) (E mant : Nat) (hE : E < 2 ^ F.ebits) (hm : mant < 2 ^ F.mbits)
    (hnan : E = 2 ^ F.ebits - 1 → mant = 0) (hnz : ¬ (E = 0 ∧ mant = 0)) :
    bitsAbs F (magOf F E mant) = E * 2 ^ F.mbits + mant ∧ 0 < magOf F E mant := by
  unfold magOf
  by_cases h1 : E = 2 ^ F.ebits - 1
  · have hm0 := hnan h1
    subst hm0
    simp only [h1, if_true]
    refine ⟨?_, pow2_pos _⟩
    rw [bitsAbs_inf F he]; rfl
  · rw [if_neg h1]
    by_cases h2 : E = 0
    · subst h2
      have hm0 : 0 < mant := by omega
      simp only [if_true, Nat.zero_mul, Nat.zero_add]
      exact ⟨bitsAbs_subnormal F mant hm0 hm he, mul_pos (by exact_mod_cast hm0) (pow2_pos _)⟩
    · rw [if_neg h2]
      refine ⟨bitsAbs_normal F E mant (by omega) (by omega) hm, mul_pos ?_ (pow2_pos _)⟩
      push_cast; positivity

theorem fields_lt (e m E mant : Nat) (hE : E < 2 ^ e) (hm : mant < 2 ^ m) : E * 2 ^ m + mant < 2 ^ (e + m) := by
  rw [Nat.pow_add]
  have : (E + 1) * 2 ^ m ≤ 2 ^ e * 2 ^ m := Nat.mul_le_mul_right _ (by omega)
  rw [Nat.add_mul, Nat.one_mul] at this
  omega

theorem fields_pos (e m E mant : Nat) (hE : E < 2 ^ e) (hm : mant < 2 ^ m) :
    (E * 2 ^ m + mant) / 2 ^ (e + m) % 2 = 0 ∧ (E * 2 ^ m + mant) / 2 ^ m % 2 ^ e = E ∧ (E * 2 ^ m + mant) % 2 ^ m = mant := by
  have hP : 0 < 2 ^ m := Nat.pow_pos (by omega)
  have h1 : (E * 2 ^ m + mant) / 2 ^ m = E := by
    rw [Nat.mul_comm, Nat.mul_add_div hP, Nat.div_eq_of_lt hm, Nat.add_zero]
  have h2 : (E * 2 ^ m + mant) % 2 ^ m = mant := by
    rw [Nat.mul_comm, Nat.mul_add_mod, Nat.mod_eq_of_lt hm]
  have h3 := fields_lt e m E mant hE hm
  exact ⟨by rw [Nat.div_eq_of_lt h3], by rw [h1, Nat.mod_eq_of_lt hE], h2⟩

theorem fields_neg (e m E mant : Nat) (hE : E < 2 ^ e) (hm : mant < 2 ^ m) :
    (2 ^ (e + m) + (E * 2 ^ m + mant)) / 2 ^ (e + m) % 2 = 1 ∧
    (2 ^ (e + m) + (E * 2 ^ m + mant)) / 2 ^ m % 2 ^ e = E ∧ (2 ^ (e + m) + (E * 2 ^ m + mant)) % 2 ^ m = mant := by
  have hP : 0 < 2 ^ m := Nat.pow_pos (by omega)
  have hS : 0 < 2 ^ (e + m) := Nat.pow_pos (by omega)
  obtain ⟨_, f2, f3⟩ := fields_pos e m E mant hE hm
  have h3 := fields_lt e m E mant hE hm
  refine ⟨?_, ?_, ?_⟩
  · have : (2 ^ (e + m) + (E * 2 ^ m + mant)) / 2 ^ (e + m) = 1 := by
      rw [Nat.add_div_left _ hS, Nat.div_eq_of_lt h3]
    rw [this]
  · have : 2 ^ (e + m) + (E * 2 ^ m + mant) = 2 ^ m * 2 ^ e + (E * 2 ^ m + mant) := by rw [Nat.pow_add, Nat.mul_comm]
    rw [this, Nat.mul_add_div hP, Nat.add_mod, Nat.mod_self, Nat.zero_add, Nat.mod_mod, f2]
  · have : 2 ^ (e + m) + (E * 2 ^ m + mant) = 2 ^ m * 2 ^ e + (E * 2 ^ m + mant) := by rw [Nat.pow_add, Nat.mul_comm]
    rw [this, Nat.mul_add_mod, f3]

/-! ## the normal form: sign, exponent field, mantissa field

A bit pattern is `pattern F s E mant`, its value `± magOf F E mant`; decoding reads the fields back
(`fromBits_pattern`), encoding the value gives the pattern (`toBits_fields`).  That every value of the format is a fixed
point of the rounding, and that no value is encoded as a NaN, are read off these two equations. -/

/-- the bit pattern with sign `s`, exponent field `E` and mantissa field `mant` -/
def pattern (F : Fmt) (s : Prop) [Decidable s] (E mant : Nat) : Nat :=
  (if s then F.signBit else 0) + (E * 2 ^ F.mbits + mant)

theorem pattern_fields (F : Fmt) (s : Prop) [Decidable s] (E mant : Nat) (hE : E < 2 ^ F.ebits) (hm : mant < 2 ^ F.mbits) :
    (pattern F s E mant / F.signBit % 2 = 1 ↔ s) ∧ pattern F s E mant / 2 ^ F.mbits % 2 ^ F.ebits = E ∧
      pattern F s E mant % 2 ^ F.mbits = mant := by
  unfold pattern Fmt.signBit
  by_cases hs : s
  · obtain ⟨f1, f2, f3⟩ := fields_neg F.ebits F.mbits E mant hE hm
    rw [if_pos hs]
    exact ⟨iff_of_true f1 hs, f2, f3⟩
  · obtain ⟨f1, f2, f3⟩ := fields_pos F.ebits F.mbits E mant hE hm
    rw [if_neg hs, Nat.zero_add]
    exact ⟨iff_of_false (by rw [f1]; decide) hs, f2, f3⟩

theorem fromBits_pattern (F : Fmt) (s : Prop) [Decidable s] (E mant : Nat) (hE : E < 2 ^ F.ebits) (hm : mant < 2 ^ F.mbits) :
    fromBits F (pattern F s E mant) = (if s then -1 else 1) * magOf F E mant := by
  obtain ⟨f1, f2, f3⟩ := pattern_fields F s E mant hE hm
  rw [fromBits_eq_magOf, f2, f3, if_congr f1 rfl rfl]

theorem toBits_fields (F : Fmt) (he : 1 ≤ F.ebits) (s : Prop) [Decidable s] (E mant : Nat) (hE : E < 2 ^ F.ebits)
    (hm : mant < 2 ^ F.mbits) (hnan : E = 2 ^ F.ebits - 1 → mant = 0) (hnz : ¬ (E = 0 ∧ mant = 0)) :
    toBits F ((if s then -1 else 1) * magOf F E mant) = pattern F s E mant := by
  obtain ⟨hbits, hpos⟩ := bitsAbs_magOf F he E mant hE hm hnan hnz
  unfold toBits pattern
  by_cases hs : s
  · rw [if_pos hs, if_pos hs, if_neg (by linarith), if_pos (by linarith), neg_one_mul, neg_neg, hbits]
  · rw [if_neg hs, if_neg hs, one_mul, if_neg hpos.ne', if_neg (not_lt.mpr hpos.le), hbits, Nat.zero_add]

/-- the pattern is not a NaN -/
def NotNaN (F : Fmt) (b : Nat) : Prop := b / 2 ^ F.mbits % 2 ^ F.ebits = 2 ^ F.ebits - 1 → b % 2 ^ F.mbits = 0

/-- **every value of the format is a fixed point of the rounding**: encoding the value of a
non-NaN bit pattern and decoding again gives the same value (for either zero: zero) -/
theorem round_fixed (F : Fmt) (he : 1 ≤ F.ebits) (b : Nat) (hnan : NotNaN F b) :
    fromBits F (toBits F (fromBits F b)) = fromBits F b := by
  have hE : b / 2 ^ F.mbits % 2 ^ F.ebits < 2 ^ F.ebits := Nat.mod_lt _ (Nat.pow_pos (by omega))
  have hm : b % 2 ^ F.mbits < 2 ^ F.mbits := Nat.mod_lt _ (Nat.pow_pos (by omega))
  rw [fromBits_eq_magOf F b]
  unfold NotNaN at hnan
  generalize b / 2 ^ F.mbits % 2 ^ F.ebits = E at hE hnan ⊢
  generalize b % 2 ^ F.mbits = mant at hm hnan ⊢
  by_cases hz : E = 0 ∧ mant = 0
  · obtain ⟨rfl, rfl⟩ := hz
    have h0 : magOf F 0 0 = 0 := by
      unfold magOf
      rw [if_neg (by have := Nat.pow_le_pow_right (show 0 < 2 by omega) he; omega)]
      simp
    rw [h0, mul_zero, show toBits F 0 = 0 by simp [toBits], fromBits_eq_magOf]
    simp only [Nat.zero_div, Nat.zero_mod, h0, mul_zero]
  · rw [toBits_fields F he _ E mant hE hm hnan hz, fromBits_pattern F _ E mant hE hm]

/-! ## the codec on binary64 values -/

/-- `toBits` never produces a NaN pattern: the magnitude bits are at most those of infinity -/
theorem toBits_notNaN (F : Fmt) (x : Rat) : NotNaN F (toBits F x) := by
  have key : ∀ r, r ≤ F.infBits → ∀ (s : Prop) [Decidable s], NotNaN F ((if s then F.signBit else 0) + r) := by
    intro r hr s _
    have hP : 0 < 2 ^ F.mbits := Nat.pow_pos (by omega)
    have hm : r % 2 ^ F.mbits < 2 ^ F.mbits := Nat.mod_lt _ hP
    have hone : 1 ≤ 2 ^ F.ebits := Nat.one_le_two_pow
    have hr' : r = r / 2 ^ F.mbits * 2 ^ F.mbits + r % 2 ^ F.mbits := by
      rw [Nat.mul_comm]; exact (Nat.div_add_mod r (2 ^ F.mbits)).symm
    have hEle : r / 2 ^ F.mbits ≤ 2 ^ F.ebits - 1 := by
      unfold Fmt.infBits at hr
      rw [Nat.div_le_iff_le_mul_add_pred hP]
      have : (2 ^ F.ebits - 1) * 2 ^ F.mbits = 2 ^ F.mbits * (2 ^ F.ebits - 1) := Nat.mul_comm _ _
      omega
    obtain ⟨_, f2, f3⟩ := pattern_fields F s (r / 2 ^ F.mbits) (r % 2 ^ F.mbits) (by omega) hm
    unfold pattern at f2 f3
    rw [← hr'] at f2 f3
    intro hfield
    -- exponent field all ones and `r ≤ infBits` force the mantissa field to be zero
    rw [f2] at hfield
    rw [f3]
    unfold Fmt.infBits at hr
    rw [hfield] at hr'
    omega
  unfold toBits
  split
  · have := key 0 (Nat.zero_le _) False
    simpa using this
  · split
    · exact key _ (bitsAbs_le F _) True
    · have := key _ (bitsAbs_le F x) False
      simpa using this

theorem narrow32_idem (x : Rat) : narrow32 (narrow32 x) = narrow32 x := by
  unfold narrow32
  exact round_fixed f32 (by decide) _ (toBits_notNaN f32 x)

/-- the rationals that are binary64 values: the value of some non-NaN bit pattern (±∞ are
represented by their stand-ins `±2^1024`) -/
def IsF64 (x : Rat) : Prop := ∃ b, NotNaN f64 b ∧ x = fromBits f64 b

abbrev V64 := { x : Rat // IsF64 x }

theorem isF64_round (x : Rat) : IsF64 (fromBits f64 (toBits f64 x)) :=
  ⟨_, toBits_notNaN f64 x, rfl⟩

theorem isF64_fixed (x : Rat) (h : IsF64 x) : fromBits f64 (toBits f64 x) = x := by
  obtain ⟨b, hb, rfl⟩ := h
  exact round_fixed f64 (by decide) b hb

theorem isF64_zero : IsF64 0 := by
  have h := isF64_round 0
  have e : fromBits f64 (toBits f64 0) = 0 := by decide +kernel
  rwa [e] at h

open Classical in
/-- a rational as a binary64 value; what is none (a decoded NaN) becomes 0 -/
noncomputable def guard64 (x : Rat) : V64 := if h : IsF64 x then ⟨x, h⟩ else ⟨0, isF64_zero⟩

theorem guard64_of (x : Rat) (h : IsF64 x) : guard64 x = ⟨x, h⟩ := by
  unfold guard64; rw [dif_pos h]

/-- the driver's IEEE codec on binary64 values (decoded NaN patterns, which are no values, are
mapped to 0; everything else is `ieee`) -/
noncomputable def ieeeV : Codec V64 where
  enc le w v := ieee.enc le w v.val
  dec le w bs := guard64 (ieee.dec le w bs)
  magic w := guard64 (ieee.magic w)
  zero := ⟨0, isF64_zero⟩

/-- float32 rounding on binary64 values -/
noncomputable def narrowV (v : V64) : V64 := ieeeV.dec true 4 (ieeeV.enc true 4 v)

theorem isF64_of_fixed (x : Rat) (h : fromBits f64 (toBits f64 x) = x) : IsF64 x := by
  rw [← h]; exact isF64_round x

theorem isF64_magic4 : IsF64 (ieee.magic 4) := isF64_of_fixed _ (by decide +kernel)
theorem isF64_magic8 : IsF64 (ieee.magic 8) := isF64_of_fixed _ (by decide +kernel)

theorem ieeeV_dec_of (le : Bool) (w : Nat) (bs : List Byte) (x : Rat) (hx : IsF64 x) (h : ieee.dec le w bs = x) :
    ieeeV.dec le w bs = ⟨x, hx⟩ := by
  subst h
  exact guard64_of _ hx

theorem ieeeV_magic4 : ieeeV.magic 4 = ⟨ieee.magic 4, isF64_magic4⟩ := guard64_of _ isF64_magic4

theorem narrowV_val (v : V64) : narrowV v = guard64 (narrow32 v.val) := by
  unfold narrowV
  show guard64 (ieee.dec true 4 (ieee.enc true 4 v.val)) = _
  rw [ieee_dec_enc4]

theorem narrow32_magic4 : narrow32 (ieee.magic 4) = ieee.magic 4 := by decide +kernel
theorem narrow32_zero : narrow32 0 = 0 := by decide +kernel

/-- **the IEEE codec is lawful on binary64 values**: every value occupies `w` bytes; an 8-byte
value comes back bit for bit (as the same rational), in either byte order; a 4-byte value comes
back as its float32 rounding; the check values and zero are float32 numbers -/
theorem ieeeV_lawful : ieeeV.Lawful narrowV := by
  constructor
  · intro le w x; exact ieee_enc_len le w x.val
  · intro le x
    apply ieeeV_dec_of
    show ieee.dec le 8 (ieee.enc le 8 x.val) = x.val
    rw [ieee_dec_enc le 8 (Or.inr rfl)]
    exact isF64_fixed x.val x.property
  · intro le x
    show guard64 (ieee.dec le 4 (ieee.enc le 4 x.val)) = guard64 (ieee.dec true 4 (ieee.enc true 4 x.val))
    rw [ieee_dec_enc4 le, ieee_dec_enc4 true]
  · rw [ieeeV_magic4, narrowV_val]
    simp only [narrow32_magic4]
    exact guard64_of _ isF64_magic4
  · rw [narrowV_val]
    show guard64 (narrow32 0) = _
    rw [narrow32_zero]
    exact guard64_of _ isF64_zero

/-- where `ieeeV` and the driver's `ieee` agree: on every byte string that does not decode to a
NaN, `ieeeV.dec` is `ieee.dec`; encoding is the same function -/
theorem ieeeV_agrees (le : Bool) (w : Nat) (bs : List Byte) (h : IsF64 (ieee.dec le w bs)) (v : V64) :
    (ieeeV.dec le w bs).val = ieee.dec le w bs ∧ ieeeV.enc le w v = ieee.enc le w v.val := by
  refine ⟨?_, rfl⟩
  rw [ieeeV_dec_of le w bs _ h rfl]

end DFV.C09
