import DFV.Lemmas.C19
import DFV.Lemmas.C19SumRule
/-! C19, `demag_field` as a convolution: finite sums (`sumTo`, `sum3` are `Finset` sums; `Finset.sum_mul` and `Finset.sum_range_reflect`
are not among the imports, so `sumTo_mul_right` and `sumTo_reflect` go by induction), zero-padded circular convolution = linear
convolution, what `demag_field` accepts and stores (`DemagAcc`, `demagFld`, `demagField_closed`). -/
namespace DFV.C19
open DFV

/-! ## finite sums -/

theorem sumTo_eq_sum (n : Nat) (f : Nat → Rat) : sumTo n f = ∑ k ∈ Finset.range n, f k := by
  induction n with
  | zero => rfl
  | succ n ih => rw [sumTo, ih, Finset.sum_range_succ]

theorem sum3_eq_sum (n0 n1 n2 : Nat) (g : Nat → Nat → Nat → Rat) :
    sum3 n0 n1 n2 g = ∑ i ∈ Finset.range n0, ∑ j ∈ Finset.range n1, ∑ k ∈ Finset.range n2, g i j k := by
  unfold sum3
  simp only [sumTo_eq_sum]

theorem sumTo_congr (n : Nat) (f g : Nat → Rat) (h : ∀ k, k < n → f k = g k) : sumTo n f = sumTo n g := by
  rw [sumTo_eq_sum, sumTo_eq_sum]
  exact Finset.sum_congr rfl fun k hk => h k (Finset.mem_range.1 hk)

theorem sumTo_zero (n : Nat) (f : Nat → Rat) (h : ∀ k, k < n → f k = 0) : sumTo n f = 0 := by
  rw [sumTo_eq_sum]
  exact Finset.sum_eq_zero fun k hk => h k (Finset.mem_range.1 hk)

theorem sumTo_add (n : Nat) (f g : Nat → Rat) : sumTo n (fun k => f k + g k) = sumTo n f + sumTo n g := by
  simp only [sumTo_eq_sum, Finset.sum_add_distrib]

theorem sumTo_mul_right (n : Nat) (f : Nat → Rat) (c : Rat) : sumTo n (fun k => f k * c) = sumTo n f * c := by
  induction n with
  | zero => simp [sumTo]
  | succ n ih => simp only [sumTo, ih]; ring

theorem sumTo_mul_left (n : Nat) (f : Nat → Rat) (c : Rat) : sumTo n (fun k => c * f k) = c * sumTo n f := by
  simp only [mul_comm c, sumTo_mul_right]

theorem sumTo_split (a b : Nat) (f : Nat → Rat) : sumTo (a + b) f = sumTo a f + sumTo b (fun k => f (a + k)) := by
  simp only [sumTo_eq_sum, Finset.sum_range_add]

theorem sumTo_reflect (n : Nat) (f : Nat → Rat) : sumTo n (fun k => f (n - 1 - k)) = sumTo n f := by
  induction n generalizing f with
  | zero => rfl
  | succ n ih =>
    -- peel the first term on the left, the last on the right
    have h1 : sumTo (n + 1) (fun k => f (n + 1 - 1 - k)) = sumTo (1 + n) (fun k => f (n - k)) := by
      rw [Nat.add_comm 1 n]; apply sumTo_congr; intro k _; congr 1
    rw [h1, sumTo_split 1 n]
    simp only [sumTo]
    have h2 : sumTo n (fun k => f (n - (1 + k))) = sumTo n (fun k => f (n - 1 - k)) := by
      apply sumTo_congr; intro k _; congr 1; omega
    rw [h2, ih f]
    simp only [Nat.sub_zero]
    ring

theorem sumTo_single (n q : Nat) (hq : q < n) (f : Nat → Rat) (h : ∀ k, k < n → k ≠ q → f k = 0) :
    sumTo n f = f q := by
  rw [sumTo_eq_sum]
  exact Finset.sum_eq_single_of_mem q (Finset.mem_range.2 hq) fun k hk => h k (Finset.mem_range.1 hk)

/-! ## sums over a box -/

theorem sum3_zero (n0 n1 n2 : Nat) (g : Nat → Nat → Nat → Rat)
    (h : ∀ a b c, a < n0 → b < n1 → c < n2 → g a b c = 0) : sum3 n0 n1 n2 g = 0 :=
  sumTo_zero _ _ fun a ha => sumTo_zero _ _ fun b hb => sumTo_zero _ _ fun c hc => h a b c ha hb hc

theorem sum3_add (n0 n1 n2 : Nat) (f g : Nat → Nat → Nat → Rat) :
    sum3 n0 n1 n2 (fun a b c => f a b c + g a b c) = sum3 n0 n1 n2 f + sum3 n0 n1 n2 g := by
  unfold sum3
  rw [← sumTo_add]
  apply sumTo_congr; intro i _
  rw [← sumTo_add]
  apply sumTo_congr; intro j _
  rw [← sumTo_add]

theorem sum3_congr (n0 n1 n2 : Nat) (f g : Nat → Nat → Nat → Rat)
    (h : ∀ a b c, a < n0 → b < n1 → c < n2 → f a b c = g a b c) : sum3 n0 n1 n2 f = sum3 n0 n1 n2 g := by
  unfold sum3
  apply sumTo_congr; intro i hi
  apply sumTo_congr; intro j hj
  apply sumTo_congr; intro k hk
  exact h i j k hi hj hk

theorem sumTo_comm (n m : Nat) (h : Nat → Nat → Rat) :
    sumTo n (fun a => sumTo m (fun b => h a b)) = sumTo m (fun b => sumTo n (fun a => h a b)) := by
  simp only [sumTo_eq_sum]
  exact Finset.sum_comm

theorem sumTo_const (n : Nat) (c : Rat) : sumTo n (fun _ => c) = (n : Rat) * c := by
  rw [sumTo_eq_sum, Finset.sum_const, Finset.card_range, nsmul_eq_mul]

theorem sum3_const (n0 n1 n2 : Nat) (c : Rat) :
    sum3 n0 n1 n2 (fun _ _ _ => c) = (n0 : Rat) * ((n1 : Rat) * ((n2 : Rat) * c)) := by
  simp only [sum3, sumTo_const]

/-! ## zero-padded circular convolution = linear convolution -/

theorem subMod_of_le (p j N : Nat) (hp : p < N) (hjp : j ≤ p) : subMod p j N = p - j := by
  unfold subMod
  rw [Nat.mod_eq_of_lt (by omega : j < N), show p + N - j = (p - j) + N by omega, Nat.add_mod_right,
    Nat.mod_eq_of_lt (by omega)]

theorem subMod_of_lt (p j N : Nat) (hj : j < N) (hpj : p < j) : subMod p j N = p + N - j := by
  unfold subMod
  rw [Nat.mod_eq_of_lt hj, Nat.mod_eq_of_lt (by omega)]

/-- one axis: circular convolution on `2n−1` points against a signal that vanishes beyond
`n`, read at `q + n − 1`, is the linear convolution: of the three stretches `j < q`, `q ≤ j < q + n`, `q + n ≤ j`
the outer two only meet the padding, the middle one is the linear sum read backwards -/
theorem circ_axis (n q : Nat) (hq : q < n) (G : Nat → Nat → Rat) (hG : ∀ j r, n ≤ r → G j r = 0) :
    sumTo (2 * n - 1) (fun j => G j (subMod (q + (n - 1)) j (2 * n - 1)))
      = sumTo n (fun r => G (q + (n - 1) - r) r) := by
  have hN : 2 * n - 1 = q + (n + (n - 1 - q)) := by omega
  have hp : q + (n - 1) < 2 * n - 1 := by omega
  rw [hN, sumTo_split, sumTo_split, ← hN,
    sumTo_zero q _ fun k hk => hG _ _ (by rw [subMod_of_le _ _ _ hp (by omega)]; omega),
    sumTo_zero (n - 1 - q) _ fun k hk => hG _ _ (by rw [subMod_of_lt _ _ _ (by omega) (by omega)]; omega),
    zero_add, add_zero, ← sumTo_reflect n fun r => G (q + (n - 1) - r) r]
  apply sumTo_congr
  intro k hk
  rw [subMod_of_le _ _ _ hp (by omega), show q + (n - 1) - (q + k) = n - 1 - k by omega,
    show q + (n - 1) - (n - 1 - k) = q + k by omega]

theorem circ3 (n0 n1 n2 q0 q1 q2 : Nat) (h0 : q0 < n0) (h1 : q1 < n1) (h2 : q2 < n2)
    (A : Nat → Nat → Nat → Nat → Nat → Nat → Rat)
    (hA : ∀ j0 j1 j2 r0 r1 r2, (n0 ≤ r0 ∨ n1 ≤ r1 ∨ n2 ≤ r2) → A j0 j1 j2 r0 r1 r2 = 0) :
    sum3 (2 * n0 - 1) (2 * n1 - 1) (2 * n2 - 1) (fun j0 j1 j2 =>
        A j0 j1 j2 (subMod (q0 + (n0 - 1)) j0 (2 * n0 - 1)) (subMod (q1 + (n1 - 1)) j1 (2 * n1 - 1))
          (subMod (q2 + (n2 - 1)) j2 (2 * n2 - 1)))
      = sum3 n0 n1 n2 (fun r0 r1 r2 =>
        A (q0 + (n0 - 1) - r0) (q1 + (n1 - 1) - r1) (q2 + (n2 - 1) - r2) r0 r1 r2) := by
  unfold sum3
  have s2 : ∀ j0 j1, sumTo (2 * n2 - 1) (fun j2 => A j0 j1 j2 (subMod (q0 + (n0 - 1)) j0 (2 * n0 - 1))
        (subMod (q1 + (n1 - 1)) j1 (2 * n1 - 1)) (subMod (q2 + (n2 - 1)) j2 (2 * n2 - 1)))
      = sumTo n2 (fun r2 => A j0 j1 (q2 + (n2 - 1) - r2) (subMod (q0 + (n0 - 1)) j0 (2 * n0 - 1))
        (subMod (q1 + (n1 - 1)) j1 (2 * n1 - 1)) r2) := by
    intro j0 j1
    exact circ_axis n2 q2 h2 (fun j r => A j0 j1 j (subMod (q0 + (n0 - 1)) j0 (2 * n0 - 1))
      (subMod (q1 + (n1 - 1)) j1 (2 * n1 - 1)) r) (fun j r hr => hA _ _ _ _ _ _ (Or.inr (Or.inr hr)))
  have s1 : ∀ j0, sumTo (2 * n1 - 1) (fun j1 => sumTo n2 (fun r2 => A j0 j1 (q2 + (n2 - 1) - r2)
        (subMod (q0 + (n0 - 1)) j0 (2 * n0 - 1)) (subMod (q1 + (n1 - 1)) j1 (2 * n1 - 1)) r2))
      = sumTo n1 (fun r1 => sumTo n2 (fun r2 => A j0 (q1 + (n1 - 1) - r1) (q2 + (n2 - 1) - r2)
        (subMod (q0 + (n0 - 1)) j0 (2 * n0 - 1)) r1 r2)) := by
    intro j0
    exact circ_axis n1 q1 h1 (fun j r => sumTo n2 (fun r2 => A j0 j (q2 + (n2 - 1) - r2)
      (subMod (q0 + (n0 - 1)) j0 (2 * n0 - 1)) r r2))
      (fun j r hr => sumTo_zero _ _ (fun k _ => hA _ _ _ _ _ _ (Or.inr (Or.inl hr))))
  have s0 : sumTo (2 * n0 - 1) (fun j0 => sumTo n1 (fun r1 => sumTo n2 (fun r2 =>
        A j0 (q1 + (n1 - 1) - r1) (q2 + (n2 - 1) - r2) (subMod (q0 + (n0 - 1)) j0 (2 * n0 - 1)) r1 r2)))
      = sumTo n0 (fun r0 => sumTo n1 (fun r1 => sumTo n2 (fun r2 =>
        A (q0 + (n0 - 1) - r0) (q1 + (n1 - 1) - r1) (q2 + (n2 - 1) - r2) r0 r1 r2))) :=
    circ_axis n0 q0 h0 (fun j r => sumTo n1 (fun r1 => sumTo n2 (fun r2 =>
      A j (q1 + (n1 - 1) - r1) (q2 + (n2 - 1) - r2) r r1 r2)))
      (fun j r hr => sumTo_zero _ _ (fun k _ => sumTo_zero _ _ (fun k' _ => hA _ _ _ _ _ _ (Or.inl hr))))
  rw [← s0]
  apply sumTo_congr
  intro j0 _
  rw [← s1 j0]
  apply sumTo_congr
  intro j1 _
  exact s2 j0 j1

/-- `demag_field`'s cropped circular convolution is the linear convolution, at every cell -/
theorem circConv_eq_linConv (T : NDA (List Rat)) (f : Fld) (a : Nat) (q0 q1 q2 : Nat)
    (h0 : q0 < f.mesh.nAt 0) (h1 : q1 < f.mesh.nAt 1) (h2 : q2 < f.mesh.nAt 2) :
    circConv T f a [q0 + (f.mesh.nAt 0 - 1), q1 + (f.mesh.nAt 1 - 1), q2 + (f.mesh.nAt 2 - 1)]
      = linConv T f a [q0, q1, q2] := by
  unfold circConv linConv
  apply sumTo_congr
  intro b _
  simp only [List.getD_cons_zero, List.getD_cons_succ]
  rw [circ3 (f.mesh.nAt 0) (f.mesh.nAt 1) (f.mesh.nAt 2) q0 q1 q2 h0 h1 h2
    (fun j0 j1 j2 r0 r1 r2 => (T.get [j0, j1, j2]).getD (symIdx a b) 0 * padded f b [r0, r1, r2])]
  · unfold sum3
    apply sumTo_congr; intro r0 hr0
    apply sumTo_congr; intro r1 hr1
    apply sumTo_congr; intro r2 hr2
    unfold padded
    simp only [List.getD_cons_zero, List.getD_cons_succ]
    rw [if_pos ⟨hr0, hr1, hr2⟩]
  · intro j0 j1 j2 r0 r1 r2 hr
    unfold padded
    simp only [List.getD_cons_zero, List.getD_cons_succ]
    have : ¬ (r0 < f.mesh.nAt 0 ∧ r1 < f.mesh.nAt 1 ∧ r2 < f.mesh.nAt 2) := by omega
    rw [if_neg this]; ring

/-! ## `demag_field`: acceptance and what it stores -/

/-- what `demag_field` tests before it computes: a three-component field on a 3-d mesh with axes `x, y, z` and a tensor
(real-space or spectrum) of shape `sh` on the `2n−1` grid -/
def DemagAcc (sh : List Nat) (f : Fld) : Prop :=
  f.mesh.ndim = 3 ∧ f.nvdim = 3 ∧ f.mesh.region.dims = ["x", "y", "z"] ∧
    sh = tensorShape f.mesh

instance (sh : List Nat) (f : Fld) : Decidable (DemagAcc sh f) := by unfold DemagAcc; infer_instance

/-- four refusals with the same error in front of a computation -/
theorem guards4 {α} (a b c d : Prop) [Decidable a] [Decidable b] [Decidable c] [Decidable d] (e : Err) (x : M α) :
    (if ¬ a then .error e else if ¬ b then .error e else if ¬ c then .error e else if ¬ d then .error e else x)
      = if a ∧ b ∧ c ∧ d then x else .error e := by
  by_cases ha : a <;> by_cases hb : b <;> by_cases hc : c <;> by_cases hd : d <;> simp [ha, hb, hc, hd]

/-- the field `demag_field(m, tensor)` returns -/
def demagFld (T : NDA (List Rat)) (f : Fld) : Fld :=
  { mesh := f.mesh, nvdim := 3,
    data := ⟨f.mesh.n, fun q => tab 3 fun a =>
      circConv T f a [q.getD 0 0 + (f.mesh.nAt 0 - 1), q.getD 1 0 + (f.mesh.nAt 1 - 1), q.getD 2 0 + (f.mesh.nAt 2 - 1)]⟩,
    valid := NDA.const f.mesh.n true, vdims := some ["x", "y", "z"],
    vmap := List.zip ["x", "y", "z"] f.mesh.region.dims, unit := none }

theorem demagField_closed (T : NDA (List Rat)) (f : Fld) :
    demagField T f = if DemagAcc T.shape f then .ok (demagFld T f) else .error .value :=
  guards4 _ _ _ _ _ _

/-- the code-shaped model tests the same four things -/
theorem demagFieldFFT_closed {R : Type} [Zero R] [One R] [Add R] [Mul R] (ι : Rat → R) (ρs : List (C11.Root R))
    (That : NDA (List R)) (f : Fld) :
    demagFieldFFT ι ρs That f
      = if DemagAcc That.shape f then .ok (f.mesh, cropArr (demagFFTArr ρs That (padArr ι f)) f.mesh) else .error .value :=
  guards4 _ _ _ _ _ _

theorem demagFld_comp (T : NDA (List Rat)) (f : Fld) (a : Nat) (ha : a < 3) (q0 q1 q2 : Nat)
    (h0 : q0 < f.mesh.nAt 0) (h1 : q1 < f.mesh.nAt 1) (h2 : q2 < f.mesh.nAt 2) :
    ((demagFld T f).data.get [q0, q1, q2]).getD a 0 = linConv T f a [q0, q1, q2] := by
  show (tab 3 fun a => circConv T f a _).getD a 0 = _
  rw [getD_tab _ _ _ _ ha]
  exact circConv_eq_linConv T f a q0 q1 q2 h0 h1 h2

theorem demagField_eq_ok_iff (T : NDA (List Rat)) (f g : Fld) :
    demagField T f = .ok g ↔ DemagAcc T.shape f ∧ g = demagFld T f := by
  rw [demagField_closed]
  split
  · exact ⟨fun h => ⟨‹_›, (Except.ok.inj h).symm⟩, fun h => by rw [h.2]⟩
  · exact ⟨nofun, fun h => absurd h.1 ‹_›⟩

theorem demagField_accepts_iff (T : NDA (List Rat)) (f : Fld) :
    (∃ g, demagField T f = .ok g) ↔
      (f.mesh.ndim = 3 ∧ f.nvdim = 3 ∧ f.mesh.region.dims = ["x", "y", "z"] ∧ T.shape = tensorShape f.mesh) := by
  simp only [demagField_eq_ok_iff, exists_and_left, exists_eq, and_true, DemagAcc]

end DFV.C19
