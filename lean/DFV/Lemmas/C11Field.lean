import DFV.Lemmas.C11Mesh
/-!
C11: the field-level code around the array transforms.  What a successful `Field(...)` call of
`_fftn` returns, the dictionary loop that renames labels and mapping and its inverse, the field
invariant `CFInv`, the field `relabel inverse f mesh data` that `_fftn` returns on a valid field
(`finish_eq_relabel`, `CFInv.relabel`, `relabel_relabel`), success of the forward transforms on
every valid field, inverse after forward at field level (`inverse_forward_ok`), and acceptance of
the inverse transforms as equivalences.
-/
namespace DFV.C11
open DFV

section
variable {R : Type}

/-! ### what a successful constructor call returns -/

/-- labels passed to the `vdims` setter: none are stored for an empty list; otherwise they must be one per component
and distinct, and are stored as they are -/
theorem vdimsSetter_some_ok_iff (nv : Nat) (vs : List String) (r : Option (List String)) :
    vdimsSetter nv (some vs) = .ok r ↔
      (vs = [] ∧ r = none) ∨ (vs ≠ [] ∧ vs.length = nv ∧ hasDup vs = false ∧ r = some vs) := by
  show (if vs.length = 0 then Except.ok none
      else if vs.length ≠ nv then Except.error Err.value
      else if hasDup vs = true then Except.error Err.value else Except.ok (some vs)) = (Except.ok r : M _) ↔ _
  by_cases h0 : vs = []
  · simp [h0, eq_comm (a := r)]
  · rw [if_neg (fun e => h0 (List.length_eq_zero_iff.mp e)), guard_ok_iff, guard_ok_iff]
    simp [h0, eq_comm (a := r)]

theorem vmapSetter_some (nv : Nat) (dims : List String) (vs : List String) (mp r : List (String × String))
    (h : vmapSetter nv dims (some vs) (some mp) = .ok r) : r = mp := by
  unfold vmapSetter at h
  simp only [Option.isNone_some, Bool.and_false, Bool.false_eq_true, if_false] at h
  split at h
  · cases h
  · injection h with h; exact h.symm

/-- a mapping that is empty or keyed by the labels in their order passes the `vdim_mapping` setter unchanged -/
theorem vmapSetter_some_ok (nv : Nat) (dims : List String) (vs : List String) (mp : List (String × String))
    (hk : mp = [] ∨ mp.map (·.1) = vs) : vmapSetter nv dims (some vs) (some mp) = .ok mp := by
  unfold vmapSetter
  simp only [Option.isNone_some, Bool.and_false, Bool.false_eq_true, if_false, Option.getD_some]
  rcases hk with rfl | hk
  · simp
  · have : (mp.map (·.1)).isPerm vs = true := by rw [hk, List.isPerm_iff]
    simp [this]

/-- **the constructor call succeeds iff** there is a component, the array has the mesh's shape and the two setters
accept; the result then holds what was passed and what the setters returned.  (`C11Nat.mkCF_map` opens `mkCF` once
more: that file is kept free of Mathlib and of this one.) -/
theorem mkCF_ok_iff (mesh : Mesh) (nv : Nat) (data : NDA (List R)) (vd : Option (List String))
    (vm : Option (List (String × String))) (unit : Option String) (g : CF R) :
    mkCF mesh nv data vd vm unit = .ok g ↔
      1 ≤ nv ∧ data.shape = mesh.n ∧ ∃ vd' mp, vdimsSetter nv vd = .ok vd' ∧
        vmapSetter nv mesh.region.dims vd' vm = .ok mp ∧
        g = { mesh := mesh, nvdim := nv, data := data, vdims := vd', vmap := mp, unit := unit } := by
  unfold mkCF
  rw [guard_ok_iff, guard_ok_iff, not_lt, not_not]
  refine and_congr_right fun _ => and_congr_right fun _ => ?_
  split
  · simp [*]
  · split <;> simp [*, eq_comm]

theorem mkCF_ok {mesh : Mesh} {nv : Nat} {data : NDA (List R)} {vd : Option (List String)}
    {vm : Option (List (String × String))} {unit : Option String} {g : CF R}
    (h : mkCF mesh nv data vd vm unit = .ok g) :
    g.mesh = mesh ∧ g.data = data ∧ g.nvdim = nv ∧ g.unit = unit ∧ data.shape = mesh.n ∧
      vdimsSetter nv vd = .ok g.vdims ∧ vmapSetter nv mesh.region.dims g.vdims vm = .ok g.vmap := by
  obtain ⟨_, hshape, vd', mp, hvd, hmp, rfl⟩ := (mkCF_ok_iff ..).mp h
  exact ⟨rfl, rfl, rfl, rfl, hshape, hvd, hmp⟩

/-- how `_fftn` renames a component label -/
def reLabel : Bool → String → String
  | true, v => stripPre "ft_" v
  | false, v => "ft_" ++ v

/-- how `_fftn` renames the axis a label is mapped to -/
def reAxis : Bool → String → String
  | true, d => stripPre "k_" d
  | false, d => "k_" ++ d

/-- `_fftn` is the constructor call on the renamed labels and the renamed mapping, in both directions -/
theorem finish_eq (f : CF R) (mesh : Mesh) (data : NDA (List R)) (inverse : Bool) :
    finish f mesh data inverse = mkCF mesh f.nvdim data (f.vdims.map fun vs => vs.map (reLabel inverse))
      (f.vdims.map fun vs => renameMap f.vmap (reLabel inverse) (reAxis inverse) vs []) f.unit := by
  unfold finish
  cases f.vdims <;> cases inverse <;> rfl

theorem finish_ok {f : CF R} {mesh : Mesh} {data : NDA (List R)} {inv : Bool} {g : CF R}
    (h : finish f mesh data inv = .ok g) :
    g.mesh = mesh ∧ g.data = data ∧ g.nvdim = f.nvdim ∧ g.unit = f.unit ∧ data.shape = mesh.n := by
  have := mkCF_ok (finish_eq f mesh data inv ▸ h)
  exact ⟨this.1, this.2.1, this.2.2.1, this.2.2.2.1, this.2.2.2.2.1⟩

/-- every transform is `_fftn` applied to a mesh result and an array made from it: what success
of the whole says about the parts -/
theorem finish_match_ok {f g : CF R} {r : M Mesh} {D : Mesh → NDA (List R)} {inv : Bool}
    (h : (match r with
      | .error e => (.error e : M (CF R))
      | .ok k => finish f k (D k) inv) = .ok g) :
    r = .ok g.mesh ∧ g.data = D g.mesh ∧ g.nvdim = f.nvdim ∧ g.unit = f.unit ∧
      finish f g.mesh (D g.mesh) inv = .ok g := by
  cases r with
  | error e => cases h
  | ok k =>
    obtain rfl := (finish_ok h).1
    exact ⟨rfl, (finish_ok h).2.1, (finish_ok h).2.2.1, (finish_ok h).2.2.2.1, h⟩

/-- labels and mapping after `_fftn` on a labelled field: renamed, and the renamed labels are distinct -/
theorem finish_labels {f : CF R} {mesh : Mesh} {data : NDA (List R)} {inverse : Bool} {g : CF R} (vs : List String)
    (hv : f.vdims = some vs) (hne : vs ≠ []) (h : finish f mesh data inverse = .ok g) :
    g.vdims = some (vs.map (reLabel inverse)) ∧
      g.vmap = renameMap f.vmap (reLabel inverse) (reAxis inverse) vs [] ∧
      hasDup (vs.map (reLabel inverse)) = false := by
  rw [finish_eq, hv] at h
  obtain ⟨_, _, _, _, _, hvd, hmp⟩ := mkCF_ok h
  rcases (vdimsSetter_some_ok_iff _ _ _).mp hvd with ⟨he, _⟩ | ⟨_, _, hd, hr⟩
  · exact absurd (List.map_eq_nil_iff.mp he) hne
  · rw [hr] at hmp
    exact ⟨hr, vmapSetter_some _ _ _ _ _ hmp, hd⟩

end

/-! ### dictionaries -/

theorem dictGet_nil (k : String) : dictGet [] k = none := rfl

/-- `dictGet` is `Fld.lookup`: the library's `Fld.lookup_cons` under the model's name -/
theorem dictGet_cons (k' v' : String) (m : List (String × String)) (k : String) :
    dictGet ((k', v') :: m) k = if k' = k then some v' else dictGet m k :=
  Fld.lookup_cons k' v' m k

theorem dictGet_set_same (m : List (String × String)) (k v : String) : dictGet (dictSet m k v) k = some v := by
  induction m with
  | nil => simp [dictSet, dictGet_cons]
  | cons p m ih =>
    obtain ⟨k', v'⟩ := p
    simp only [dictSet]
    by_cases h : k' = k
    · have : (k' == k) = true := by simpa using h
      rw [this]; simp [dictGet_cons]
    · have : (k' == k) = false := by simpa using h
      rw [this]
      simp only [Bool.false_eq_true, if_false]
      rw [dictGet_cons, if_neg h, ih]

theorem dictGet_set_other (m : List (String × String)) (k v k2 : String) (hne : k2 ≠ k) :
    dictGet (dictSet m k v) k2 = dictGet m k2 := by
  induction m with
  | nil => simp [dictSet, dictGet_cons, dictGet_nil, Ne.symm hne]
  | cons p m ih =>
    obtain ⟨k', v'⟩ := p
    simp only [dictSet]
    by_cases h : k' = k
    · have : (k' == k) = true := by simpa using h
      rw [this]
      simp only [if_true]
      rw [dictGet_cons, dictGet_cons, h, if_neg (Ne.symm hne), if_neg (Ne.symm hne)]
    · have : (k' == k) = false := by simpa using h
      rw [this]
      simp only [Bool.false_eq_true, if_false]
      rw [dictGet_cons, dictGet_cons, ih]

/-- spec of the mapping loop of `_fftn`: the entry of the renamed label `fk v` is the renamed
entry of `v` -/
theorem renameMap_get (vmap : List (String × String)) (fk fv : String → String) (vs : List String)
    (acc : List (String × String)) (v : String) (hinj : ∀ u ∈ vs, fk u = fk v → u = v) :
    dictGet (renameMap vmap fk fv vs acc) (fk v) =
      if v ∈ vs then (match dictGet vmap v with
        | some d => some (fv d)
        | none => dictGet acc (fk v))
      else dictGet acc (fk v) := by
  induction vs generalizing acc with
  | nil => simp [renameMap]
  | cons u us ih =>
    have hinj' : ∀ w ∈ us, fk w = fk v → w = v := fun w hw => hinj w (List.mem_cons_of_mem _ hw)
    simp only [renameMap]
    by_cases huv : u = v
    · subst huv
      cases hd : dictGet vmap u with
      | none =>
        simp only
        rw [ih acc hinj']
        simp [hd]
      | some d =>
        simp only
        rw [ih _ hinj']
        simp [hd, dictGet_set_same]
    · have hk : fk v ≠ fk u := fun e => huv (hinj u (by simp) e.symm)
      have hmem : (v ∈ u :: us) ↔ v ∈ us := by
        simp [List.mem_cons, Ne.symm huv]
      cases hd : dictGet vmap u with
      | none =>
        simp only
        rw [ih acc hinj']
        simp only [hmem]
      | some d =>
        simp only
        rw [ih _ hinj', dictGet_set_other _ _ _ _ hk]
        simp only [hmem]

/-- forward renaming: label `ft_v` is mapped to `k_d` iff `v` is mapped to `d` -/
theorem renameMap_fwd (vmap : List (String × String)) (vs : List String) (v : String) (hv : v ∈ vs) :
    dictGet (renameMap vmap ("ft_" ++ ·) ("k_" ++ ·) vs []) ("ft_" ++ v) = (dictGet vmap v).map ("k_" ++ ·) := by
  rw [renameMap_get vmap ("ft_" ++ ·) ("k_" ++ ·) vs [] v (fun u _ e => pre_inj "ft_" u v e), if_pos hv]
  cases dictGet vmap v <;> simp [dictGet_nil]

theorem labels_roundtrip (vs : List String) : (vs.map ("ft_" ++ ·)).map (stripPre "ft_") = vs :=
  Function.LeftInverse.list_map (stripPre_add "ft_") vs

/-- inverse ∘ forward renaming restores every entry of the mapping -/
theorem renameMap_roundtrip (vmap : List (String × String)) (vs : List String) (v : String) (hv : v ∈ vs) :
    dictGet (renameMap (renameMap vmap ("ft_" ++ ·) ("k_" ++ ·) vs []) (stripPre "ft_") (stripPre "k_")
        (vs.map ("ft_" ++ ·)) []) v = dictGet vmap v := by
  have hkey : stripPre "ft_" ("ft_" ++ v) = v := stripPre_add "ft_" v
  have h := renameMap_get (renameMap vmap ("ft_" ++ ·) ("k_" ++ ·) vs []) (stripPre "ft_") (stripPre "k_")
    (vs.map ("ft_" ++ ·)) [] ("ft_" ++ v) (by
      intro u hu e
      obtain ⟨w, _, rfl⟩ := List.mem_map.mp hu
      rw [stripPre_add, stripPre_add] at e
      rw [e])
  rw [hkey] at h
  rw [h, if_pos (List.mem_map.mpr ⟨v, hv, rfl⟩), renameMap_fwd vmap vs v hv]
  cases dictGet vmap v with
  | none => simp [dictGet_nil]
  | some d => simp [stripPre_add]


/-! ### the renamed mapping as a list -/

theorem dictGet_none_of_not_key (m : List (String × String)) (k : String) (h : k ∉ m.map (·.1)) :
    dictGet m k = none := by
  induction m with
  | nil => rfl
  | cons p m ih =>
    obtain ⟨k', v'⟩ := p
    simp only [List.map_cons, List.mem_cons, not_or] at h
    rw [dictGet_cons, if_neg (fun e => h.1 e.symm), ih h.2]

theorem dictSet_fresh (m : List (String × String)) (k v : String) (h : k ∉ m.map (·.1)) :
    dictSet m k v = m ++ [(k, v)] := by
  induction m with
  | nil => rfl
  | cons p m ih =>
    obtain ⟨k', v'⟩ := p
    simp only [List.map_cons, List.mem_cons, not_or] at h
    have : (k' == k) = false := by simpa using (fun e => h.1 e.symm)
    simp only [dictSet, this, Bool.false_eq_true, if_false, List.cons_append, ih h.2]

/-- when every label has an entry and renamed labels stay distinct, the loop appends the
renamed entries in label order -/
theorem renameMap_eq (vmap : List (String × String)) (fk fv : String → String) (vs : List String)
    (acc : List (String × String)) (hnd : hasDup vs = false)
    (hinj : ∀ u ∈ vs, ∀ v ∈ vs, fk u = fk v → u = v)
    (hall : ∀ v ∈ vs, ∃ d, dictGet vmap v = some d)
    (hacc : ∀ v ∈ vs, fk v ∉ acc.map (·.1)) :
    renameMap vmap fk fv vs acc = acc ++ vs.map fun v => (fk v, fv ((dictGet vmap v).getD "")) := by
  induction vs generalizing acc with
  | nil => simp [renameMap]
  | cons u us ih =>
    rw [hasDup_cons] at hnd
    obtain ⟨d, hd⟩ := hall u (by simp)
    simp only [renameMap, hd]
    rw [dictSet_fresh acc _ _ (hacc u (by simp))]
    rw [ih (acc ++ [(fk u, fv d)]) hnd.2
      (fun a ha b hb => hinj a (List.mem_cons_of_mem _ ha) b (List.mem_cons_of_mem _ hb))
      (fun v hv => hall v (List.mem_cons_of_mem _ hv))
      (by
        intro v hv
        simp only [List.map_append, List.map_cons, List.map_nil, List.mem_append, List.mem_singleton, not_or]
        refine ⟨hacc v (List.mem_cons_of_mem _ hv), ?_⟩
        intro e
        have := hinj v (List.mem_cons_of_mem _ hv) u (by simp) e
        subst this
        exact hnd.1 hv)]
    simp [hd]

theorem renameMap_of_empty (fk fv : String → String) (vs : List String) (acc : List (String × String)) :
    renameMap [] fk fv vs acc = acc := by
  induction vs generalizing acc with
  | nil => rfl
  | cons u us ih => simp only [renameMap, dictGet_nil]; exact ih acc

/-- a dictionary whose keys are `vs` (distinct) is the list of its entries in that order -/
theorem dict_eq_of_keys (m : List (String × String)) (vs : List String) (hk : m.map (·.1) = vs)
    (hnd : hasDup vs = false) : vs.map (fun v => (v, (dictGet m v).getD "")) = m := by
  induction m generalizing vs with
  | nil => subst hk; rfl
  | cons p m ih =>
    obtain ⟨k, d⟩ := p
    subst hk
    simp only [List.map_cons] at hnd ⊢
    rw [hasDup_cons] at hnd
    rw [dictGet_cons, if_pos rfl]
    simp only [Option.getD_some, List.cons.injEq, true_and]
    have e : (m.map (·.1)).map (fun v => (v, (dictGet ((k, d) :: m) v).getD ""))
        = (m.map (·.1)).map (fun v => (v, (dictGet m v).getD "")) := by
      apply List.map_congr_left
      intro v hv
      have hne : k ≠ v := fun e => hnd.1 (e ▸ hv)
      rw [dictGet_cons, if_neg hne]
    rw [e, ih _ rfl hnd.2]

theorem dictGet_some_of_key (m : List (String × String)) (k : String) (h : k ∈ m.map (·.1)) :
    ∃ d, dictGet m k = some d := by
  induction m with
  | nil => simp at h
  | cons p m ih =>
    obtain ⟨k', v'⟩ := p
    rw [dictGet_cons]
    by_cases e : k' = k
    · exact ⟨v', by rw [if_pos e]⟩
    · rw [if_neg e]
      simp only [List.map_cons, List.mem_cons] at h
      rcases h with h | h
      · exact absurd h.symm e
      · exact ih h


/-- the loop of `_fftn` on a mapping that is empty or has exactly the labels as keys (in label
order): every entry is renamed in place -/
theorem renameMap_total (vmap : List (String × String)) (fk fv : String → String) (vs : List String)
    (hk : vmap = [] ∨ vmap.map (·.1) = vs) (hnd : hasDup vs = false)
    (hinj : ∀ u ∈ vs, ∀ v ∈ vs, fk u = fk v → u = v) :
    renameMap vmap fk fv vs [] = vmap.map fun p => (fk p.1, fv p.2) := by
  rcases hk with rfl | hk
  · rw [renameMap_of_empty]; rfl
  · rw [renameMap_eq vmap fk fv vs [] hnd hinj
      (fun v hv => dictGet_some_of_key vmap v (by rw [hk]; exact hv)) (fun v _ => by simp)]
    simp only [List.nil_append]
    conv => rhs; rw [← dict_eq_of_keys vmap vs hk hnd]
    rw [List.map_map]
    rfl

/-! ### the field invariant; `_fftn` succeeds on valid fields -/

section
variable {R : Type}

/-- state invariant the `Field` constructor establishes (labels distinct and as many as
components; mapping empty or keyed by the labels; scalar fields may be unlabelled) -/
structure CFInv (f : CF R) : Prop where
  mesh : f.mesh.Inv
  shape : f.data.shape = f.mesh.n
  nv : 1 ≤ f.nvdim
  labels : (f.vdims = none ∧ f.nvdim = 1 ∧ f.vmap = []) ∨
    (∃ vs, f.vdims = some vs ∧ vs ≠ [] ∧ vs.length = f.nvdim ∧ hasDup vs = false ∧
      (f.vmap = [] ∨ f.vmap.map (·.1) = vs))

theorem mkCF_labelled (mesh : Mesh) (nv : Nat) (data : NDA (List R)) (vs : List String)
    (mp : List (String × String)) (unit : Option String) (hnv : 1 ≤ nv) (hshape : data.shape = mesh.n)
    (hne : vs ≠ []) (hlen : vs.length = nv) (hnd : hasDup vs = false)
    (hk : mp = [] ∨ mp.map (·.1) = vs) :
    mkCF mesh nv data (some vs) (some mp) unit
      = .ok { mesh := mesh, nvdim := nv, data := data, vdims := some vs, vmap := mp, unit := unit } :=
  (mkCF_ok_iff ..).mpr ⟨hnv, hshape, _, _, (vdimsSetter_some_ok_iff ..).mpr (.inr ⟨hne, hlen, hnd, rfl⟩),
    vmapSetter_some_ok _ _ _ _ hk, rfl⟩

theorem mkCF_scalar (mesh : Mesh) (data : NDA (List R)) (unit : Option String) (hshape : data.shape = mesh.n) :
    mkCF mesh 1 data none none unit
      = .ok { mesh := mesh, nvdim := 1, data := data, vdims := none, vmap := [], unit := unit } :=
  (mkCF_ok_iff ..).mpr ⟨le_rfl, hshape, _, _, rfl, rfl, rfl⟩

theorem inj_of_hasDup_map (f : String → String) (l : List String) (h : hasDup (l.map f) = false) :
    ∀ u ∈ l, ∀ v ∈ l, f u = f v → u = v := by
  induction l with
  | nil => intro u hu; cases hu
  | cons x xs ih =>
    simp only [List.map_cons, hasDup_cons] at h
    obtain ⟨hx, hxs⟩ := h
    have hnot : ∀ v ∈ xs, f x ≠ f v := by
      intro v hv e
      exact hx (List.mem_map.mpr ⟨v, hv, e.symm⟩)
    intro u hu v hv e
    rcases List.mem_cons.mp hu with rfl | hu'
    · rcases List.mem_cons.mp hv with rfl | hv'
      · rfl
      · exact absurd e (hnot v hv')
    · rcases List.mem_cons.mp hv with rfl | hv'
      · exact absurd e.symm (hnot u hu')
      · exact ih hxs u hu' v hv' e

/-- how `_fftn` renames an entry of the mapping -/
def reEntry (inverse : Bool) (p : String × String) : String × String := (reLabel inverse p.1, reAxis inverse p.2)

/-- what `_fftn` returns on a valid field: the given mesh and array, component count and unit kept, labels and
mapping renamed entry by entry -/
abbrev relabel (inverse : Bool) (f : CF R) (mesh : Mesh) (data : NDA (List R)) : CF R :=
  { mesh := mesh, nvdim := f.nvdim, data := data, vdims := f.vdims.map fun vs => vs.map (reLabel inverse),
    vmap := f.vmap.map (reEntry inverse), unit := f.unit }

/-- the forward renaming never fails; the inverse one needs the stripped labels to stay distinct -/
def StripOk (inverse : Bool) (f : CF R) : Prop :=
  inverse = true → ∀ vs, f.vdims = some vs → hasDup (vs.map (stripPre "ft_")) = false

theorem CFInv.reLabel_distinct {f : CF R} (hf : CFInv f) {inverse : Bool} (hd : StripOk inverse f) {vs : List String}
    (hv : f.vdims = some vs) : hasDup (vs.map (reLabel inverse)) = false := by
  cases inverse with
  | true => exact hd rfl vs hv
  | false =>
    rcases hf.labels with ⟨hv', _, _⟩ | ⟨vs', hv', _, _, hnd, _⟩
    · rw [hv'] at hv; cases hv
    · obtain rfl := Option.some.inj (hv'.symm.trans hv)
      exact (hasDup_map_inj _ (pre_inj "ft_") vs').trans hnd

/-- `_fftn` succeeds on every valid field whose renamed labels stay distinct, and returns `relabel` -/
theorem finish_eq_relabel (f : CF R) (hf : CFInv f) (mesh : Mesh) (data : NDA (List R)) (inverse : Bool)
    (hshape : data.shape = mesh.n) (hd : StripOk inverse f) :
    finish f mesh data inverse = .ok (relabel inverse f mesh data) := by
  rw [finish_eq]
  unfold relabel
  rcases hf.labels with ⟨hv, hnv, hmp⟩ | ⟨vs, hv, hne, hlen, hnd, hk⟩
  · rw [hv, hnv, hmp]
    exact mkCF_scalar mesh data f.unit hshape
  · have hdis := hf.reLabel_distinct hd hv
    rw [hv, Option.map_some, Option.map_some, renameMap_total f.vmap _ _ vs hk hnd (inj_of_hasDup_map _ vs hdis)]
    refine mkCF_labelled mesh f.nvdim data _ _ f.unit hf.nv hshape (by simpa using hne) (by simpa using hlen) hdis ?_
    rcases hk with h | h
    · left; rw [h]; rfl
    · right; rw [List.map_map, ← h, List.map_map]; rfl

theorem CFInv.relabel {f : CF R} (hf : CFInv f) (inverse : Bool) {mesh : Mesh} (hmesh : mesh.Inv) {data : NDA (List R)}
    (hshape : data.shape = mesh.n) (hd : StripOk inverse f) : CFInv (C11.relabel inverse f mesh data) := by
  refine ⟨hmesh, hshape, hf.nv, ?_⟩
  rcases hf.labels with ⟨hv, hnv, hmp⟩ | ⟨vs, hv, hne, hlen, _, hk⟩
  · left; simp [hv, hnv, hmp]
  · right
    refine ⟨vs.map (reLabel inverse), by simp [hv], by simpa using hne, by simpa using hlen,
      hf.reLabel_distinct hd hv, ?_⟩
    rcases hk with h | h
    · left; simp [h]
    · right
      show (f.vmap.map (reEntry inverse)).map (·.1) = vs.map (reLabel inverse)
      rw [← h, List.map_map, List.map_map]
      exact List.map_congr_left fun p _ => by cases inverse <;> rfl

theorem StripOk.fwd (f : CF R) : StripOk false f := nofun

/-- after the forward renaming the stripped labels are the original ones, hence distinct -/
theorem CFInv.stripOk_relabel {f : CF R} (hf : CFInv f) (mesh : Mesh) (data : NDA (List R)) (inverse : Bool) :
    StripOk inverse (C11.relabel false f mesh data) := by
  intro _ vs' h
  rcases hf.labels with ⟨hv, _, _⟩ | ⟨vs, hv, _, _, hnd, _⟩
  · simp [hv] at h
  · simp only [hv, Option.map_some, Option.some.injEq] at h
    subst h
    exact (congrArg hasDup (labels_roundtrip vs)).trans hnd

/-- inverse after forward renaming restores labels and mapping -/
theorem relabel_relabel (f : CF R) (k m : Mesh) (d d' : NDA (List R)) :
    relabel true (relabel false f k d) m d' = { f with mesh := m, data := d' } := by
  have hv : (f.vdims.map fun vs => vs.map (reLabel false)).map (fun vs => vs.map (reLabel true)) = f.vdims := by
    cases f.vdims with
    | none => rfl
    | some vs => exact congrArg some (labels_roundtrip vs)
  have hm : (f.vmap.map (reEntry false)).map (reEntry true) = f.vmap := by
    rw [List.map_map]
    exact (List.map_congr_left fun p _ => by
      show (stripPre "ft_" ("ft_" ++ p.1), stripPre "k_" ("k_" ++ p.2)) = p
      rw [stripPre_add, stripPre_add]).trans (List.map_id _)
  simp only [relabel, hv, hm]

/-- forward after inverse renaming: every label and entry loses and regains its prefix -/
theorem relabel_strip (f : CF R) (k m : Mesh) (d d' : NDA (List R)) :
    (relabel false (relabel true f k d) m d').vdims = f.vdims.map (fun vs => vs.map fun v => "ft_" ++ stripPre "ft_" v) ∧
    (relabel false (relabel true f k d) m d').vmap
      = f.vmap.map fun p => ("ft_" ++ stripPre "ft_" p.1, "k_" ++ stripPre "k_" p.2) := by
  constructor
  · cases hv : f.vdims <;> simp [hv, List.map_map, Function.comp_def, reLabel]
  · simp [List.map_map, Function.comp_def, reEntry, reLabel, reAxis]

end

/-! ### the forward transforms succeed on every valid field; inverse ∘ forward restores it -/

section
variable {R : Type} [Zero R] [One R] [Add R] [Mul R]

theorem fftn_inv {ρs : List (Root R)} {f g : CF R} (h : fftn ρs f = .ok g) :
    meshFftn f.mesh false = .ok g.mesh ∧ g.data = fftnArr ρs f.nvdim f.data ∧ g.nvdim = f.nvdim ∧ g.unit = f.unit ∧
      finish f g.mesh (fftnArr ρs f.nvdim f.data) false = .ok g :=
  finish_match_ok h

theorem rfftn_inv {ρs : List (Root R)} {f g : CF R} (h : rfftn ρs f = .ok g) :
    meshFftn f.mesh true = .ok g.mesh ∧ g.data = rfftnArr ρs f.nvdim f.data ∧ g.nvdim = f.nvdim ∧ g.unit = f.unit ∧
      finish f g.mesh (rfftnArr ρs f.nvdim f.data) false = .ok g :=
  finish_match_ok h

theorem ifftn_inv {ρs : List (Root R)} {f g : CF R} (h : ifftn ρs f = .ok g) :
    meshIfftn f.mesh false none = .ok g.mesh ∧ g.data = ifftnArr ρs f.nvdim f.data ∧ g.nvdim = f.nvdim ∧
      g.unit = f.unit ∧ finish f g.mesh (ifftnArr ρs f.nvdim f.data) true = .ok g :=
  finish_match_ok h

/-- the array of a successful transform: the second component of `fftn_inv`, `rfftn_inv`, `ifftn_inv`, which every
value theorem starts from -/
theorem fftn_data {ρs : List (Root R)} {f g : CF R} (h : fftn ρs f = .ok g) : g.data = fftnArr ρs f.nvdim f.data :=
  (fftn_inv h).2.1

theorem rfftn_data {ρs : List (Root R)} {f g : CF R} (h : rfftn ρs f = .ok g) : g.data = rfftnArr ρs f.nvdim f.data :=
  (rfftn_inv h).2.1

theorem ifftn_data {ρs : List (Root R)} {f g : CF R} (h : ifftn ρs f = .ok g) : g.data = ifftnArr ρs f.nvdim f.data :=
  (ifftn_inv h).2.1

/-- the forward companion of `fftn_inv`: once the mesh step has succeeded the transform is `_fftn` -/
theorem fftn_of_mesh (ρs : List (Root R)) (f : CF R) {k : Mesh} (hk : meshFftn f.mesh false = .ok k) :
    fftn ρs f = finish f k (fftnArr ρs f.nvdim f.data) false := by
  unfold fftn; rw [hk]

/-- `Field.fftn` succeeds on every valid field, with this result -/
theorem fftn_ok (ρs : List (Root R)) (f : CF R) (hf : CFInv f) :
    fftn ρs f = .ok (relabel false f (kMesh f.mesh false) (fftnArr ρs f.nvdim f.data)) := by
  rw [fftn_of_mesh ρs f (meshFftn_ok f.mesh false hf.mesh)]
  exact finish_eq_relabel f hf _ _ false (by rw [kMesh_n_full f.mesh hf.mesh]; exact hf.shape) (.fwd f)

/-- `Field.rfftn` succeeds on every valid field, with this result -/
theorem rfftn_ok (ρs : List (Root R)) (f : CF R) (hf : CFInv f) :
    rfftn ρs f = .ok (relabel false f (kMesh f.mesh true) (rfftnArr ρs f.nvdim f.data)) := by
  unfold rfftn
  rw [meshFftn_ok f.mesh true hf.mesh]
  exact finish_eq_relabel f hf _ _ false (by rw [kMesh_n_half f.mesh hf.mesh, ← hf.shape]; rfl) (.fwd f)

omit [Zero R] [One R] [Add R] [Mul R] in
/-- every inverse transform of a forward one whose mesh round trip ends on the mesh centred at the origin succeeds and
restores counts, cell size, dims, units, labels, mapping and unit; `A` is the forward array, `D k` the inverse one -/
theorem inverse_forward_ok (f : CF R) (hf : CFInv f) (rfft : Bool) (shape : Option (List Nat)) (A : NDA (List R))
    (hA : A.shape = (kMesh f.mesh rfft).n) (D : Mesh → NDA (List R))
    (hk : meshIfftn (kMesh f.mesh rfft) rfft shape = .ok (originMesh f.mesh f.mesh.n))
    (hD : (D (originMesh f.mesh f.mesh.n)).shape = f.mesh.n) :
    (match meshIfftn (kMesh f.mesh rfft) rfft shape with
      | .error e => (.error e : M (CF R))
      | .ok k => finish (relabel false f (kMesh f.mesh rfft) A) k (D k) true)
      = .ok { f with mesh := originMesh f.mesh f.mesh.n, data := D (originMesh f.mesh f.mesh.n) } := by
  rw [hk]
  simp only
  rw [finish_eq_relabel _ (hf.relabel false (kMesh_inv f.mesh rfft hf.mesh) hA (.fwd f)) (originMesh f.mesh f.mesh.n) _ true hD
    (hf.stripOk_relabel _ _ true), relabel_relabel]

end

/-! ### `_fftn` (inverse direction): acceptance as an equivalence -/

section
variable {R : Type}

/-- **`_fftn(ifftn=True)` on a valid field: accepted iff the labels stay distinct once the prefix
`ft_` is stripped** (data of the mesh's shape) -/
theorem finish_inv_ok_iff (f : CF R) (hf : CFInv f) (mesh : Mesh) (data : NDA (List R))
    (hshape : data.shape = mesh.n) :
    (∃ g, finish f mesh data true = .ok g) ↔
      ∀ vs, f.vdims = some vs → hasDup (vs.map (stripPre "ft_")) = false := by
  constructor
  · rintro ⟨g, h⟩ vs hv
    have hne : vs ≠ [] := by
      rcases hf.labels with ⟨hv', _, _⟩ | ⟨vs', hv', hne, _⟩
      · rw [hv'] at hv; cases hv
      · rw [hv'] at hv; injection hv with hv; subst hv; exact hne
    exact (finish_labels vs hv hne h).2.2
  · intro h
    exact ⟨_, finish_eq_relabel f hf mesh data true hshape fun _ => h⟩

/-- the array of a valid half-spectrum field has the half shape of the counts `Mesh.ifftn(rfft=True, …)` works with -/
theorem CFInv.shape_half {f : CF R} (hf : CFInv f) {shape : Option (List Nat)} {s : List Nat}
    (hs : ifftShape f.mesh true shape = .ok s) : f.data.shape = halfShape s :=
  hf.shape.trans (ifftShape_half f.mesh hf.mesh shape s hs).symm

/-- **every inverse transform on a valid field** is `Mesh.ifftn` followed by `_fftn(ifftn=True)` on an array `D k`
made for the result mesh `k`: accepted iff the counts `s` derived from `shape` are accepted and positive and
dimension names and labels stay distinct once stripped; the result then lives on `rMesh f.mesh s` -/
theorem inverse_ok_iff (f : CF R) (hf : CFInv f) (rfft : Bool) (shape : Option (List Nat)) (D : Mesh → NDA (List R))
    (hD : ∀ s, ifftShape f.mesh rfft shape = .ok s → (D (rMesh f.mesh s)).shape = s) (g : CF R) :
    (match meshIfftn f.mesh rfft shape with
      | .error e => (.error e : M (CF R))
      | .ok k => finish f k (D k) true) = .ok g ↔
      ∃ s, ifftShape f.mesh rfft shape = .ok s ∧ (∀ a, a < f.mesh.ndim → 0 < s.getD a 0) ∧
        hasDup (f.mesh.region.dims.map (stripPre "k_")) = false ∧
        (∀ vs, f.vdims = some vs → hasDup (vs.map (stripPre "ft_")) = false) ∧
        g = relabel true f (rMesh f.mesh s) (D (rMesh f.mesh s)) := by
  constructor
  · intro h
    obtain ⟨hm, _, _, _, hg⟩ := finish_match_ok h
    obtain ⟨s, hs, hp, hd, hgm⟩ := (meshIfftn_ok_iff f.mesh hf.mesh rfft shape g.mesh).mp hm
    rw [hgm] at hg
    have hl := (finish_inv_ok_iff f hf _ _ (hD s hs)).mp ⟨g, hg⟩
    rw [finish_eq_relabel f hf _ _ true (hD s hs) fun _ => hl] at hg
    exact ⟨s, hs, hp, hd, hl, (Except.ok.inj hg).symm⟩
  · rintro ⟨s, hs, hp, hd, hl, rfl⟩
    rw [(meshIfftn_ok_iff f.mesh hf.mesh rfft shape _).mpr ⟨s, hs, hp, hd, rfl⟩]
    exact finish_eq_relabel f hf _ _ true (hD s hs) fun _ => hl

end

section
variable {R : Type} [Zero R] [One R] [Add R] [Mul R]

/-- **`Field.irfftn(shape)` on a valid field: accepted iff** the counts derived from `shape` are
accepted and positive, and dimension names and labels stay distinct once stripped -/
theorem irfftn_ok_iff (conj : R → R) (ρs : List (Root R)) (f : CF R) (hf : CFInv f) (shape : Option (List Nat))
    (g : CF R) :
    irfftn conj ρs f shape = .ok g ↔
      ∃ s, ifftShape f.mesh true shape = .ok s ∧ (∀ a, a < f.mesh.ndim → 0 < s.getD a 0) ∧
        hasDup (f.mesh.region.dims.map (stripPre "k_")) = false ∧
        (∀ vs, f.vdims = some vs → hasDup (vs.map (stripPre "ft_")) = false) ∧
        g = relabel true f (rMesh f.mesh s) (irfftnArr conj ρs f.nvdim s f.data) :=
  inverse_ok_iff f hf true shape (fun k => irfftnArr conj ρs f.nvdim k.n f.data) (fun _ _ => rfl) g

end

end DFV.C11
