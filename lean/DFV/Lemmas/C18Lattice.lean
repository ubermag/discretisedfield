import DFV.Lemmas.C18Rotate
import DFV.Lemmas.C18Plane
/-! Signed permutation matrices (the 24 lattice rotations and their mirror images) in
`FieldRotator`: bounding box, back-rotated centres, automatic cell counts, stored values;
products; quarter turns are such matrices. -/
namespace DFV.C18
open DFV DFV.Mesh

/-- `R` is the signed permutation matrix `e_j ↦ s j • e_(π j)`; the first two fields say that `π`
permutes the axes (`IsLat.perm : Perm3 π`) -/
structure IsLat (R : M3) (π : Nat → Nat) (s : Nat → Rat) : Prop where
  lt : ∀ j, j < 3 → π j < 3
  inj : ∀ i j, i < 3 → j < 3 → π i = π j → i = j
  sign : ∀ j, j < 3 → s j = 1 ∨ s j = -1
  entry : ∀ i j, i < 3 → j < 3 → R.e i j = if i = π j then s j else 0

theorem IsLat.perm {R π s} (h : IsLat R π s) : Perm3 π := ⟨h.lt, h.inj⟩

/-- row `i` of a signed permutation matrix has its only non-zero entry in column `π⁻¹ i` -/
theorem IsLat.row {R π s} (h : IsLat R π s) (i j : Nat) (hi : i < 3) (hj : j < 3) :
    R.e i j = if j = pinv π i then s j else 0 := by
  rw [h.entry i j hi hj]
  by_cases e : i = π j
  · rw [if_pos e, if_pos (by rw [e, h.perm.pinv_pi j hj])]
  · rw [if_neg e, if_neg (fun e' => e (by rw [e', h.perm.pi_pinv i hi]))]

theorem sum3_single (c : Nat) (hc : c < 3) (X : Nat → Rat) :
    (if 0 = c then X 0 else 0) + (if 1 = c then X 1 else 0) + (if 2 = c then X 2 else 0) = X c := by
  rcases a_cases c hc with rfl | rfl | rfl <;> simp

theorem IsLat.apply_get {R π s} (h : IsLat R π s) (v : V3) (i : Nat) (hi : i < 3) :
    (R.apply v).get i = s (pinv π i) * v.get (pinv π i) := by
  rw [M3.apply_get, h.row i 0 hi (by decide), h.row i 1 hi (by decide), h.row i 2 hi (by decide)]
  simp only [ite_mul, zero_mul]
  exact sum3_single _ (pinv_lt π i) fun j => s j * v.get j

theorem IsLat.tr_apply_get {R π s} (h : IsLat R π s) (u : V3) (j : Nat) (hj : j < 3) :
    (R.tr.apply u).get j = s j * u.get (π j) := by
  rw [M3.tr_apply_get, h.entry 0 j (by decide) hj, h.entry 1 j (by decide) hj, h.entry 2 j (by decide) hj]
  simp only [ite_mul, zero_mul]
  exact sum3_single _ (h.lt j hj) fun k => s j * u.get k

theorem absR_sign_mul (s w : Rat) (hs : s = 1 ∨ s = -1) (hw : 0 ≤ w) : absR (s * w) = w := by
  rw [absR_eq_abs]
  rcases hs with e | e <;> rw [e]
  · rw [one_mul, abs_of_nonneg hw]
  · rw [show (-1 : Rat) * w = -w by ring, abs_neg, abs_of_nonneg hw]

theorem IsLat.sumAbs {R π s} (h : IsLat R π s) (w : V3) (hx : 0 ≤ w.x) (hy : 0 ≤ w.y) (hz : 0 ≤ w.z) (i : Nat) (hi : i < 3) :
    sumAbs R w i = w.get (pinv π i) := by
  unfold C18.sumAbs
  rw [h.row i 0 hi (by decide), h.row i 1 hi (by decide), h.row i 2 hi (by decide)]
  simp only [ite_mul, zero_mul, apply_ite absR, absR_zero]
  exact (sum3_single _ (pinv_lt π i) fun j => absR (s j * w.get j)).trans
    (absR_sign_mul _ _ (h.sign _ (pinv_lt π i)) (V3.get_cases w (fun _ x => 0 ≤ x) hx hy hz _ (pinv_lt π i)))

theorem prod_pinv {R π s} (h : IsLat R π s) (F : Nat → Rat) :
    F (pinv π 0) * F (pinv π 1) * F (pinv π 2) = F 0 * F 1 * F 2 := by
  have ne : ∀ a b, a < 3 → b < 3 → a ≠ b → pinv π a ≠ pinv π b := fun a b ha hb hab e => hab (h.perm.pinv_inj a b ha hb e)
  exact perm3_prod F _ _ _ (pinv_lt π 0) (pinv_lt π 1) (pinv_lt π 2) (ne 0 1 (by decide) (by omega) (by omega))
    (ne 0 2 (by decide) (by omega) (by omega)) (ne 1 2 (by decide) (by omega) (by omega))

/-- bounding box under a signed permutation: the edge lengths are permuted about the same centre -/
theorem lat_region (f : Fld) (hm : Mesh3 f.mesh) {R : M3} {π : Nat → Nat} {s : Nat → Rat} (hL : IsLat R π s) (i : Nat) (hi : i < 3) :
    (boxRegion f R).lo i = centreAt f.mesh i - f.mesh.region.edge (pinv π i) / 2 ∧
    (boxRegion f R).hi i = centreAt f.mesh i + f.mesh.region.edge (pinv π i) / 2 := by
  obtain ⟨e0, e1, e2⟩ := edgesV_pos f.mesh hm
  rw [boxRegion_lo f R i hi, boxRegion_hi f R i hi, hL.sumAbs _ e0.le e1.le e2.le i hi]
  unfold edgesV
  rw [V3.get_ofFn _ _ (pinv_lt π i)]
  exact ⟨rfl, rfl⟩

/-- source cell index on axis `j` of target cell `idx` under the signed permutation `(π, s)` -/
def latSrc (n : Nat → Nat) (π : Nat → Nat) (s : Nat → Rat) (idx : List Nat) (j : Nat) : Nat :=
  if s j = 1 then idx.getD (π j) 0 else n j - 1 - idx.getD (π j) 0

theorem latSrc_lt (n : Nat → Nat) (π : Nat → Nat) (s : Nat → Rat) (idx : List Nat) (j : Nat)
    (h : idx.getD (π j) 0 < n j) : latSrc n π s idx j < n j := by
  unfold latSrc; split <;> omega

/-- with the permuted cell counts, the centre of target cell `idx` is rotated back onto the
centre of the source cell `latSrc idx` — on every axis, for any cell sizes.
`Rᵀ` reads coordinate `π j` of the target centre with the sign `s j` (`tr_apply_get`). Target axis
`π j` has the cell count, the cell size and, about the common centre, the faces of source axis `j`
(`hn`, `lat_region`), so its `k`-th centre is the `k`-th centre of source axis `j`; the sign `-1`
mirrors it to centre `n j - 1 - k`. -/
theorem lat_backPos (f : Fld) (hm : Mesh3 f.mesh) {R : M3} {π : Nat → Nat} {s : Nat → Rat} (hL : IsLat R π s)
    (nm : Mesh) (hr : nm.region = boxRegion f R) (hn : ∀ i, i < 3 → nm.nAt i = f.mesh.nAt (pinv π i))
    (idx : List Nat) (j : Nat) (hj : j < 3) (hx : s j = -1 → idx.getD (π j) 0 < f.mesh.nAt j) :
    (backPos f R nm idx).get j = centreRel f.mesh j (latSrc f.mesh.nAt π s idx j) := by
  have hi := hL.lt j hj
  have hpj := hL.perm.pinv_pi j hj
  obtain ⟨q0, q1⟩ := lat_region f hm hL (π j) hi
  rw [hpj] at q0 q1
  have hnd : nm.ndim = 3 := by
    unfold Mesh.ndim; rw [hr]; exact boxRegion_ndim f R
  have hE : f.mesh.region.edge j = (f.mesh.nAt j : Rat) * f.mesh.cellAt j := by
    have := n_mul_cell f.mesh j (hm j hj); unfold Region.edge; linarith
  have hN : nm.nAt (π j) = f.mesh.nAt j := by rw [hn _ hi, hpj]
  have hcell : nm.cellAt (π j) = f.mesh.cellAt j := by
    unfold Mesh.cellAt; rw [hN]; congr 1
    unfold Region.edge; rw [hr, q0, q1]; unfold Region.edge; ring
  unfold backPos
  rw [hL.tr_apply_get _ j hj, V3.get_sub, V3.get_ofList _ _ hi]
  unfold centreV
  rw [C01.centre_getD nm (π j) idx (hnd ▸ hi), V3.get_ofFn _ _ hi, C01.centreAx_natCast, hcell, hr, q0, hE]
  unfold centreRel latSrc
  have hlo : f.mesh.region.lo j = centreAt f.mesh j - (f.mesh.nAt j : Rat) * f.mesh.cellAt j / 2 := hE ▸ lo_eq_centre f.mesh j
  rw [hlo]
  rcases hL.sign j hj with e | e
  · rw [if_pos e, e]; ring
  · have hx := hx e
    rw [if_neg (by rw [e]; norm_num), e, Nat.cast_sub (by omega), Nat.cast_sub (by omega)]
    push_cast; ring

/-- the automatic cell counts of a lattice rotation are the permuted cell counts (the rounded
cube root is taken of a perfect cube), whatever the cell sizes -/
theorem lat_autoN (f : Fld) (hm : Mesh3 f.mesh) {R : M3} {π : Nat → Nat} {s : Nat → Rat} (hL : IsLat R π s)
    : autoN f R (boxRegion f R) = tab 3 fun i => f.mesh.nAt (pinv π i) := by
  obtain ⟨c0, c1, c2⟩ := cellV_pos f.mesh hm
  have p0 := cell_pos f.mesh 0 (hm 0 (by decide))
  have p1 := cell_pos f.mesh 1 (hm 1 (by decide))
  have p2 := cell_pos f.mesh 2 (hm 2 (by decide))
  unfold autoN
  apply tab_congr
  intro i hi
  have hx : autoX3 f R (boxRegion f R) i = cube (f.mesh.nAt (pinv π i) : Rat) := by
    unfold autoX3
    rw [hL.sumAbs _ c0.le c1.le c2.le 0 (by decide), hL.sumAbs _ c0.le c1.le c2.le 1 (by decide),
        hL.sumAbs _ c0.le c1.le c2.le 2 (by decide), hL.sumAbs _ c0.le c1.le c2.le i hi]
    have hg : ∀ a, a < 3 → (cellV f.mesh).get a = f.mesh.cellAt a := fun a ha => V3.get_ofFn _ _ ha
    rw [hg _ (pinv_lt π 0), hg _ (pinv_lt π 1), hg _ (pinv_lt π 2), hg _ (pinv_lt π i),
        prod_pinv hL f.mesh.cellAt]
    obtain ⟨q0, q1⟩ := lat_region f hm hL i hi
    have hj := hm _ (pinv_lt π i)
    have hcov := n_mul_cell f.mesh _ hj
    have hc := cell_pos f.mesh _ hj
    have he : (boxRegion f R).edge i = (f.mesh.nAt (pinv π i) : Rat) * f.mesh.cellAt (pinv π i) := by
      unfold Region.edge at *; rw [q0, q1]; linarith
    rw [he, cube_mul]
    have hc3 : cube (f.mesh.cellAt (pinv π i)) ≠ 0 := by unfold cube; positivity
    have hP : f.mesh.cellAt 0 * f.mesh.cellAt 1 * f.mesh.cellAt 2 ≠ 0 := by positivity
    rw [mul_assoc, mul_div_assoc, div_self (mul_ne_zero hc3 hP), mul_one]
  rw [hx]
  exact roundCbrt_cube' _

theorem one_isLat : IsLat M3.one (fun j => j) (fun _ => 1) := by
  refine ⟨fun j hj => hj, fun i j _ _ e => e, fun _ _ => Or.inl rfl, ?_⟩
  have h : ∀ i, i < 3 → ∀ j, j < 3 → M3.one.e i j = if i = j then 1 else 0 :=
    forall_lt3 (forall_lt3 rfl rfl rfl) (forall_lt3 rfl rfl rfl) (forall_lt3 rfl rfl rfl)
  exact fun i j hi hj => h i hi j hj

theorem latSrc_id (n : Nat → Nat) (i0 i1 i2 : Nat) :
    [latSrc n (fun j => j) (fun _ => 1) [i0, i1, i2] 0, latSrc n (fun j => j) (fun _ => 1) [i0, i1, i2] 1,
      latSrc n (fun j => j) (fun _ => 1) [i0, i1, i2] 2] = [i0, i1, i2] := by
  unfold latSrc; rw [if_pos rfl]; rfl

theorem pinv_id : ∀ i, i < 3 → pinv (fun j => j) i = i := forall_lt3 rfl rfl rfl

theorem IsLat.mul {A B : M3} {πA πB : Nat → Nat} {sA sB : Nat → Rat} (hA : IsLat A πA sA) (hB : IsLat B πB sB) :
    IsLat (A.mul B) (fun j => πA (πB j)) (fun j => sB j * sA (πB j)) := by
  refine ⟨fun j hj => hA.lt _ (hB.lt j hj), fun i j hi hj e => hB.inj i j hi hj (hA.inj _ _ (hB.lt i hi) (hB.lt j hj) e), ?_, ?_⟩
  · intro j hj
    rcases hB.sign j hj with e1 | e1 <;> rcases hA.sign _ (hB.lt j hj) with e2 | e2 <;> rw [e1, e2] <;> norm_num
  · intro i j hi hj
    rw [M3.mul_e A B i j, hB.entry 0 j (by decide) hj, hB.entry 1 j (by decide) hj, hB.entry 2 j (by decide) hj]
    simp only [mul_ite, mul_zero]
    rw [sum3_single _ (hB.lt j hj) fun k => A.e i k * sB j, hA.entry i _ hi (hB.lt j hj), ite_mul, zero_mul, mul_comm]

def LatM (R : M3) : Prop := ∃ (π : Nat → Nat) (s : Nat → Rat), IsLat R π s

theorem LatM.one : LatM M3.one := ⟨_, _, one_isLat⟩
theorem LatM.mul {A B : M3} (hA : LatM A) (hB : LatM B) : LatM (A.mul B) := by
  obtain ⟨_, _, h1⟩ := hA
  obtain ⟨_, _, h2⟩ := hB
  exact ⟨_, _, h1.mul h2⟩

theorem LatM.prodL (Qs : List M3) (h : ∀ Q ∈ Qs, LatM Q) : LatM (prodL Qs) :=
  prodL_closed LatM LatM.one (fun _ _ => LatM.mul) Qs h

/-- the entry function of `Rcs` (its body, with cosine and sine as parameters), named so that the
four quarter turns can be evaluated below; `Rq_isLat` passes from `Rq` to it by unfolding -/
def entryB (p q : Nat) (c s : Rat) (i j : Nat) : Rat :=
  if i = p ∧ j = p then c else if i = p ∧ j = q then -s
  else if i = q ∧ j = p then s else if i = q ∧ j = q then c
  else if i = j then 1 else 0

/-- the axis map `T.rotSrc p q k` of C12's quarter turn with the parity of `k` as a parameter, and the
column signs with cosine and sine as parameters: the forms in which the four turns can be evaluated.
Column `p` of `Rcs` is `c e_p + s e_q` and column `q` is `-s e_p + c e_q`; in a quarter turn one of
`c`, `s` is zero, so the one entry left in column `p` is `c + s` and the one in column `q` is `c - s`. -/
def piB (p q : Nat) (odd : Bool) (j : Nat) : Nat := if odd then (if j = p then q else if j = q then p else j) else j
def sgB (p q : Nat) (c s : Rat) (j : Nat) : Rat := if j = p then c + s else if j = q then c - s else 1

/-- the four quarter turns, checked entry by entry (3⁴ cases each) -/
theorem entryB_k0 : ∀ p, p < 3 → ∀ q, q < 3 → p ≠ q → ∀ i, i < 3 → ∀ j, j < 3 →
    entryB p q 1 0 i j = if i = piB p q false j then sgB p q 1 0 j else 0 := by decide +kernel
theorem entryB_k1 : ∀ p, p < 3 → ∀ q, q < 3 → p ≠ q → ∀ i, i < 3 → ∀ j, j < 3 →
    entryB p q 0 1 i j = if i = piB p q true j then sgB p q 0 1 j else 0 := by decide +kernel
theorem entryB_k2 : ∀ p, p < 3 → ∀ q, q < 3 → p ≠ q → ∀ i, i < 3 → ∀ j, j < 3 →
    entryB p q (-1) 0 i j = if i = piB p q false j then sgB p q (-1) 0 j else 0 := by decide +kernel
theorem entryB_k3 : ∀ p, p < 3 → ∀ q, q < 3 → p ≠ q → ∀ i, i < 3 → ∀ j, j < 3 →
    entryB p q 0 (-1) i j = if i = piB p q true j then sgB p q 0 (-1) j else 0 := by decide +kernel

/-- column signs of the quarter turn `Rq p q k` -/
def sgq (p q : Nat) (k : Int) (j : Nat) : Rat := sgB p q (T.cosq k) (T.sinq k) j

theorem Rq_isLat (p q : Nat) (k : Int) (hp : p < 3) (hq : q < 3) (hpq : p ≠ q) : IsLat (Rq p q k) (T.rotSrc p q k) (sgq p q k) := by
  refine ⟨fun j hj => T.rotSrc_lt p q k j 3 hp hq hj,
    fun i j _ _ e => (T.rotSrc_rotSrc p q k i).symm.trans ((congrArg (T.rotSrc p q k) e).trans (T.rotSrc_rotSrc p q k j)), ?_, ?_⟩
  · -- in each of the four turns `c + s` and `c - s` are `1` or `-1`
    intro j _
    unfold sgq sgB
    rcases T.quarter_cases' k with ⟨hc, hs⟩ | ⟨hc, hs⟩ | ⟨hc, hs⟩ | ⟨hc, hs⟩ <;> rw [hc, hs] <;>
      (split
       · norm_num
       · split
         · norm_num
         · left; rfl)
  · intro i j hi hj
    unfold Rq Rcs
    rw [M3.ofFn_e _ i hi j hj]
    show entryB p q (T.cosq k) (T.sinq k) i j = if i = piB p q (T.isOdd k) j then sgB p q (T.cosq k) (T.sinq k) j else 0
    rcases T.turn_cases k with ⟨_, ho, hc, hs⟩ | ⟨_, ho, hc, hs⟩ | ⟨_, ho, hc, hs⟩ | ⟨_, ho, hc, hs⟩ <;> rw [hc, hs, ho]
    · exact entryB_k0 p hp q hq hpq i hi j hj
    · exact entryB_k1 p hp q hq hpq i hi j hj
    · exact entryB_k2 p hp q hq hpq i hi j hj
    · exact entryB_k3 p hp q hq hpq i hi j hj

theorem pinv_rotSrc (p q : Nat) (k : Int) (hp : p < 3) (hq : q < 3) (hpq : p ≠ q) (i : Nat) (hi : i < 3) :
    pinv (T.rotSrc p q k) i = T.rotSrc p q k i := by
  have hL := Rq_isLat p q k hp hq hpq
  have h1 := hL.perm.pi_pinv i hi
  have h2 := T.rotSrc_rotSrc p q k i
  exact hL.inj _ _ (pinv_lt _ _) (hL.lt i hi) (by rw [h1, h2])

theorem LatM.rq (p q : Nat) (k : Int) (hp : p < 3) (hq : q < 3) (hpq : p ≠ q) : LatM (Rq p q k) :=
  ⟨_, _, Rq_isLat p q k hp hq hpq⟩

theorem pinv_comp {A B : M3} {πA πB : Nat → Nat} {sA sB : Nat → Rat} (hA : IsLat A πA sA) (hB : IsLat B πB sB)
    (i : Nat) (hi : i < 3) : pinv (fun j => πA (πB j)) i = pinv πB (pinv πA i) := by
  have hC := hA.mul hB
  have hj : pinv πB (pinv πA i) < 3 := pinv_lt _ _
  have e : πA (πB (pinv πB (pinv πA i))) = i := by
    rw [hB.perm.pi_pinv _ (pinv_lt _ _), hA.perm.pi_pinv i hi]
  have := hC.perm.pinv_pi _ hj
  simp only [e] at this
  exact this

theorem getD3_lt (i0 i1 i2 : Nat) (F : Nat → Nat) (h0 : i0 < F 0) (h1 : i1 < F 1) (h2 : i2 < F 2) :
    ∀ i, i < 3 → [i0, i1, i2].getD i 0 < F i := forall_lt3 h0 h1 h2

/-- the source index of the composed lattice rotation is the source of the source -/
theorem latSrc_comp {A B : M3} {πA πB : Nat → Nat} {sA sB : Nat → Rat} (hA : IsLat A πA sA) (hB : IsLat B πB sB)
    (nF : Nat → Nat) (idx : List Nat)
    (hidx : ∀ i, i < 3 → idx.getD i 0 < nF (pinv (fun j => πA (πB j)) i)) (j : Nat) (hj : j < 3) :
    latSrc nF πB sB [latSrc (fun i => nF (pinv πB i)) πA sA idx 0, latSrc (fun i => nF (pinv πB i)) πA sA idx 1,
                     latSrc (fun i => nF (pinv πB i)) πA sA idx 2] j
      = latSrc nF (fun j => πA (πB j)) (fun j => sB j * sA (πB j)) idx j := by
  have hC := hA.mul hB
  have hb := hB.lt j hj
  have hx := hidx _ (hC.lt j hj)
  rw [hC.perm.pinv_pi j hj] at hx
  have hx' : idx.getD (πA (πB j)) 0 < nF j := hx
  have g3 : ∀ F : Nat → Nat, ∀ i, i < 3 → [F 0, F 1, F 2].getD i 0 = F i := fun F => forall_lt3 rfl rfl rfl
  unfold latSrc
  rw [g3 (fun i => if sA i = 1 then idx.getD (πA i) 0 else nF (pinv πB i) - 1 - idx.getD (πA i) 0) (πB j) hb]
  simp only
  rw [hB.perm.pinv_pi j hj]
  rw [List.getD_eq_getElem?_getD] at hx'
  rcases hB.sign j hj with e1 | e1 <;> rcases hA.sign _ hb with e2 | e2 <;> rw [e1, e2] <;> norm_num
  omega

/-- **lattice rotations copy cells**: with `n` left to the code or given as the permuted cell
counts, the counts are the permuted ones, the region has the permuted edges about the same
centre, and every target cell stores the rotated value of exactly one source cell -/
theorem lat_copies (f : Fld) (hf : WF f) (hlen : ∀ idx, (f.data.get idx).length = f.nvdim)
    {R : M3} {π : Nat → Nat} {s : Nat → Rat} (hL : IsLat R π s) (n? : Option (List Nat))
    (hn : n? = none ∨ n? = some (tab 3 fun i => f.mesh.nAt (pinv π i))) (g : Fld) (h : rotateOnce f R n? = .ok g) :
    g.mesh.n = (tab 3 fun i => f.mesh.nAt (pinv π i)) ∧
    (∀ i, i < 3 → g.mesh.region.lo i = centreAt f.mesh i - f.mesh.region.edge (pinv π i) / 2 ∧
                  g.mesh.region.hi i = centreAt f.mesh i + f.mesh.region.edge (pinv π i) / 2) ∧
    ∃ ord, ordFor f = .ok ord ∧ ∀ idx, (∀ i, i < 3 → idx.getD i 0 < f.mesh.nAt (pinv π i)) →
      g.data.get idx = rotVal f.nvdim R ord
        (f.data.get [latSrc f.mesh.nAt π s idx 0, latSrc f.mesh.nAt π s idx 1, latSrc f.mesh.nAt π s idx 2]) := by
  obtain ⟨_, _, _, ord, ho, rfl⟩ := (rotateOnce_ok_iff f R n? g).mp h
  have hn' : (boxMesh f R n?).n = tab 3 fun i => f.mesh.nAt (pinv π i) := by
    rcases hn with rfl | rfl
    · exact lat_autoN f hf.1 hL
    · rfl
  have hN : ∀ i, i < 3 → (boxMesh f R n?).nAt i = f.mesh.nAt (pinv π i) := fun i hi => by
    unfold Mesh.nAt; rw [hn', getD_tab _ _ _ _ hi]; rfl
  refine ⟨hn', lat_region f hf.1 hL, ord, ho, fun idx hidx => ?_⟩
  have hb : ∀ j, j < 3 → idx.getD (π j) 0 < f.mesh.nAt j := fun j hj => by
    have := hidx _ (hL.lt j hj)
    rwa [hL.perm.pinv_pi j hj] at this
  have hsrc : ∀ j, j < 3 → latSrc f.mesh.nAt π s idx j < f.mesh.nAt j := fun j hj => latSrc_lt _ _ _ _ _ (hb j hj)
  rw [rotated_get f hf R ord ho]
  congr 1
  exact origAt_centre f hf.1 _ _ _ (hsrc 0 (by decide)) (hsrc 1 (by decide)) (hsrc 2 (by decide)) (hlen _) _
    (lat_backPos f hf.1 hL _ rfl hN idx 0 (by decide) fun _ => hb 0 (by decide))
    (lat_backPos f hf.1 hL _ rfl hN idx 1 (by decide) fun _ => hb 1 (by decide))
    (lat_backPos f hf.1 hL _ rfl hN idx 2 (by decide) fun _ => hb 2 (by decide))

end DFV.C18
