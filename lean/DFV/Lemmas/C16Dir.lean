import DFV.Lemmas.C16Reader

/-! Histories of `to_file` / `from_file` calls in a directory: what a successful write leaves under
its name, that calls on other names touch neither file, and that side-cars are never empty and
never removed. -/

namespace DFV.C16
open DFV DFV.Mesh

/-! ## files by name -/

theorem look_cons {α : Type} (p : String × α) (l : List (String × α)) (k' : String) :
    look (p :: l) k' = if p.1 = k' then some p.2 else look l k' := by
  unfold look
  by_cases h : p.1 = k'
  · rw [List.find?_cons_of_pos (by simpa using h), if_pos h]; rfl
  · rw [List.find?_cons_of_neg (by simpa using h), if_neg h]

theorem look_put {α : Type} (l : List (String × α)) (k k' : String) (v : α) :
    look (put l k v) k' = if k' = k then some v else look l k' := by
  induction l with
  | nil => rw [put, look_cons]; simp only [eq_comm (a := k)]
  | cons p l ih =>
    rw [put]
    split
    · rename_i he
      rw [look_cons, look_cons, he]
      by_cases h : k' = k
      · rw [if_pos h, if_pos h.symm]
      · rw [if_neg h, if_neg fun e => h e.symm, if_neg fun e => h e.symm]
    · rename_i hne
      rw [look_cons, look_cons, ih]
      by_cases hp : p.1 = k'
      · rw [if_pos hp, if_pos hp, if_neg fun e => hne (hp.trans e)]
      · rw [if_neg hp, if_neg hp]

theorem look_put_same {α : Type} (l : List (String × α)) (k : String) (v : α) : look (put l k v) k = some v := by
  rw [look_put, if_pos rfl]

theorem put_mem {α : Type} (l : List (String × α)) (k : String) (v : α) (p : String × α) (hp : p ∈ put l k v) :
    p = (k, v) ∨ p ∈ l := by
  induction l with
  | nil => simp [put] at hp; exact Or.inl hp
  | cons q l ih =>
    simp only [put] at hp
    split at hp
    · rcases List.mem_cons.mp hp with h | h
      · exact Or.inl h
      · exact Or.inr (List.mem_cons_of_mem _ h)
    · rcases List.mem_cons.mp hp with h | h
      · exact Or.inr (by rw [h]; exact List.mem_cons_self)
      · rcases ih h with h | h
        · exact Or.inl h
        · exact Or.inr (List.mem_cons_of_mem _ h)

theorem look_mem {α : Type} (l : List (String × α)) (k : String) (v : α) (h : look l k = some v) : ∃ p ∈ l, p.2 = v := by
  unfold look at h
  cases hf : l.find? (fun p => p.1 == k) with
  | none => rw [hf] at h; cases h
  | some p =>
    rw [hf] at h
    injection h with h
    exact ⟨p, List.mem_of_find?_eq_some hf, h⟩

/-! ## one call, a session -/

/-- `Except.map some` reflects `.ok (some _)`: a read that reports a field has read that field -/
theorem of_map_some_ok {α : Type} {x : M α} {y : α} (h : x.map some = .ok (some y)) : x = .ok y := by
  cases x with
  | error e => cases h
  | ok v => cases h; rfl

/-- **a write in a directory, exactly**: `to_file` succeeds, the file is created or overwritten, and the side-car
only when `to_file` made one -/
theorem write_eq_ok (d d' : Dir) (name : String) (f : Fld) (rep : String) (save : Bool) (rnd : Rat → Rat) :
    d.write name f rep save rnd = .ok d' ↔
      ∃ v, toFile f rep save rnd = .ok v ∧
        d' = ⟨put d.vtk name ⟨v.grid, []⟩, match v.sidecar with | some s => put d.json name s | none => d.json⟩ := by
  unfold Dir.write
  cases toFile f rep save rnd with
  | error e => exact ⟨nofun, fun ⟨_, h, _⟩ => nomatch h⟩
  | ok v => exact ⟨fun h => ⟨v, rfl, (Except.ok.inj h).symm⟩, fun ⟨_, h1, h2⟩ => by cases h1; rw [h2]; rfl⟩

/-- a write whose `to_file` succeeds goes through, and a read of the name then sees the new grid with the side-car
this call wrote, or else the one that was there -/
theorem write_of_toFile (d : Dir) (name : String) (f : Fld) (rep : String) (save : Bool) (rnd : Rat → Rat) (v : VFile)
    (hv : toFile f rep save rnd = .ok v) :
    ∃ d', d.write name f rep save rnd = .ok d' ∧
      d'.read name = readVtk v.grid [] (match v.sidecar with
                                        | some s => some s
                                        | none => look d.json name) := by
  refine ⟨_, (write_eq_ok ..).mpr ⟨v, hv, rfl⟩, ?_⟩
  unfold Dir.read
  simp only [look_put_same]
  cases v.sidecar with
  | none => rfl
  | some s => simp only [look_put_same]

theorem write_json (d d' : Dir) (name : String) (f : Fld) (rep : String) (save : Bool) (rnd : Rat → Rat)
    (h : d.write name f rep save rnd = .ok d') :
    d'.json = if save && !f.mesh.subs.isEmpty then put d.json name f.mesh.subs else d.json := by
  obtain ⟨_, hv, rfl⟩ := (write_eq_ok ..).mp h
  obtain ⟨_, _, _, _, rfl⟩ := (toFile_ok_iff ..).mp hv
  dsimp only
  by_cases hc : (save && !f.mesh.subs.isEmpty) = true
  · rw [if_pos hc, if_pos hc]
  · rw [if_neg hc, if_neg hc]

/-- **what one call does to the two files of a name**: a read or a rejected write nothing; an accepted write under
another name nothing; an accepted write under this name replaces the grid, and the side-car only if it made one -/
theorem step_look (rnd : Rat → Rat) (d : Dir) (o : DOp) (name : String) :
    (look (d.step rnd o).1.vtk name, look (d.step rnd o).1.json name) =
      match o with
      | .read _ => (look d.vtk name, look d.json name)
      | .write n f rep save =>
        match toFile f rep save rnd with
        | .error _ => (look d.vtk name, look d.json name)
        | .ok v =>
          if name = n then (some ⟨v.grid, []⟩, match v.sidecar with | some s => some s | none => look d.json name)
          else (look d.vtk name, look d.json name) := by
  cases o with
  | read n => rfl
  | write n f rep save =>
    simp only [Dir.step, Dir.write]
    cases toFile f rep save rnd with
    | error e => rfl
    | ok v =>
      dsimp only
      cases v.sidecar with
      | none => simp only [look_put]; split <;> rfl
      | some s => simp only [look_put]; split <;> rfl

theorem step_other (rnd : Rat → Rat) (d : Dir) (o : DOp) (name : String) (hne : o.name ≠ name) :
    look (d.step rnd o).1.vtk name = look d.vtk name ∧ look (d.step rnd o).1.json name = look d.json name := by
  have := step_look rnd d o name
  cases o with
  | read n => exact Prod.mk.inj this
  | write n f rep save =>
    dsimp only at this
    cases hv : toFile f rep save rnd with
    | error e => rw [hv] at this; exact Prod.mk.inj this
    | ok v => rw [hv] at this; dsimp only at this; rw [if_neg fun e => hne e.symm] at this; exact Prod.mk.inj this

theorem after_other (rnd : Rat → Rat) (d : Dir) (ops : List DOp) (name : String) (h : ∀ o ∈ ops, o.name ≠ name) :
    look (Dir.after rnd d ops).vtk name = look d.vtk name ∧ look (Dir.after rnd d ops).json name = look d.json name := by
  induction ops generalizing d with
  | nil => exact ⟨rfl, rfl⟩
  | cons o os ih =>
    simp only [Dir.after]
    obtain ⟨h1, h2⟩ := ih (d.step rnd o).1 fun p hp => h p (by simp [hp])
    obtain ⟨h3, h4⟩ := step_other rnd d o name (h o (by simp))
    exact ⟨h1.trans h3, h2.trans h4⟩

theorem step_read (rnd : Rat → Rat) (d : Dir) (n : String) : (d.step rnd (.read n)).1 = d := rfl

theorem step_failed (rnd : Rat → Rat) (d : Dir) (n : String) (f : Fld) (rep : String) (save : Bool) (e : Err)
    (h : d.write n f rep save rnd = .error e) : (d.step rnd (.write n f rep save)).1 = d := by
  simp only [Dir.step, h]

theorem run_length (rnd : Rat → Rat) (d : Dir) (ops : List DOp) : (Dir.run rnd d ops).length = ops.length := by
  induction ops generalizing d with
  | nil => rfl
  | cons o os ih => simp [Dir.run, ih]

theorem run_append_read (rnd : Rat → Rat) (d : Dir) (ops : List DOp) (name : String) :
    Dir.run rnd d (ops ++ [.read name]) = Dir.run rnd d ops ++ [((Dir.after rnd d ops).read name).map some] := by
  induction ops generalizing d with
  | nil => rfl
  | cons o os ih =>
    simp only [List.cons_append, Dir.run, Dir.after]
    rw [ih]

theorem after_append (rnd : Rat → Rat) (d : Dir) (ops1 ops2 : List DOp) :
    Dir.after rnd d (ops1 ++ ops2) = Dir.after rnd (Dir.after rnd d ops1) ops2 := by
  induction ops1 generalizing d with
  | nil => rfl
  | cons o os ih =>
    simp only [List.cons_append, Dir.after]
    exact ih _

/-! ## side-cars over histories -/

theorem cars_step (rnd : Rat → Rat) (d : Dir) (o : DOp) (h : CarsNonempty d) : CarsNonempty (d.step rnd o).1 := by
  cases o with
  | read n => exact h
  | write n f rep save =>
    simp only [Dir.step]
    cases hw : d.write n f rep save rnd with
    | error e => exact h
    | ok d' =>
      simp only
      intro p hp
      rw [write_json d d' n f rep save rnd hw] at hp
      split at hp
      · rename_i hc
        rcases put_mem _ _ _ _ hp with e | e
        · rw [e]
          simp only
          intro hn
          rw [hn] at hc
          simp at hc
        · exact h p e
      · exact h p hp

/-- **invariant over histories**: no session ever leaves an empty side-car behind -/
theorem cars_after (rnd : Rat → Rat) (d : Dir) (ops : List DOp) (h : CarsNonempty d) : CarsNonempty (Dir.after rnd d ops) := by
  induction ops generalizing d with
  | nil => exact h
  | cons o os ih => exact ih _ (cars_step rnd d o h)

theorem step_json_none_iff (rnd : Rat → Rat) (d : Dir) (o : DOp) (name : String) :
    look (d.step rnd o).1.json name = none ↔ look d.json name = none ∧ ¬ o.writesCar rnd name := by
  have := congrArg Prod.snd (step_look rnd d o name)
  dsimp only at this
  rw [this]
  cases o with
  | read n => exact ⟨fun h => ⟨h, nofun⟩, fun h => h.1⟩
  | write n f rep save =>
    dsimp only [DOp.writesCar]
    cases hv : toFile f rep save rnd with
    | error e => exact ⟨fun h => ⟨h, fun ⟨_, _, _, _, hv'⟩ => nomatch hv'⟩, fun h => h.1⟩
    | ok v =>
      obtain ⟨_, _, _, _, rfl⟩ := (toFile_ok_iff ..).mp hv
      dsimp only
      by_cases hn : name = n
      · by_cases hc : (save && !f.mesh.subs.isEmpty) = true
        · have hs : save = true ∧ f.mesh.subs.isEmpty = false := by simpa using hc
          simp only [if_pos hn, if_pos hc]
          exact ⟨nofun, fun h => absurd ⟨hn.symm, hs.1, hs.2, _, rfl⟩ h.2⟩
        · simp only [if_pos hn, if_neg hc]
          exact ⟨fun h => ⟨h, fun hw => hc (by simp [hw.2.1, hw.2.2.1])⟩, fun h => h.1⟩
      · simp only [if_neg hn]
        exact ⟨fun h => ⟨h, fun hw => hn hw.1.symm⟩, fun h => h.1⟩

/-- **a side-car exists after a session exactly when** it existed before or one of the calls
wrote it: side-cars are never removed -/
theorem after_json_none_iff (rnd : Rat → Rat) (d : Dir) (ops : List DOp) (name : String) :
    look (Dir.after rnd d ops).json name = none ↔ look d.json name = none ∧ ∀ o ∈ ops, ¬ o.writesCar rnd name := by
  induction ops generalizing d with
  | nil => simp [Dir.after]
  | cons o os ih =>
    simp only [Dir.after]
    rw [ih, step_json_none_iff]
    constructor
    · rintro ⟨⟨h1, h2⟩, h3⟩
      refine ⟨h1, ?_⟩
      intro x hx
      rcases List.mem_cons.mp hx with rfl | hx
      · exact h2
      · exact h3 x hx
    · rintro ⟨h1, h2⟩
      exact ⟨⟨h1, h2 o (by simp)⟩, fun x hx => h2 x (by simp [hx])⟩

end DFV.C16
