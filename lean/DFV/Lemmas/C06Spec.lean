import DFV.Lemmas.C06Fld
/-! The spec values of C06: `ival` (integrals) and `mval` (means) as functions of the field.  Both are positive linear
functionals of one component of the data (`PosLin`; `ivalW_posLin`, `mvalW_posLin`): linear in the field, per component,
and - stated for `ival` - monotone with the triangle inequality.  Neither depends on where the mesh sits
(`ival_translate`, `mval_congr`); the moved field is well formed again. -/
namespace DFV.C06
open DFV

/-! ## the spec values of the integrals as sums with non-negative weights -/

/-- a functional on scalar arrays that is a sum with non-negative weights: what every spec value of `integrate` is,
as a function of one component of the data (for a fixed mesh, shape, direction and index).  Linearity,
monotonicity and the triangle inequality of the integrals are those of such functionals. -/
structure PosLin (W : (List Nat → Rat) → Rat) : Prop where
  lin : ∀ (a b : Rat) (g h : List Nat → Rat), W (fun t => a * g t + b * h t) = a * W g + b * W h
  mono : ∀ g h : List Nat → Rat, (∀ t, g t ≤ h t) → W g ≤ W h

namespace PosLin
variable {V W : (List Nat → Rat) → Rat}

theorem eval (t : List Nat) : PosLin fun g => g t := ⟨fun _ _ _ _ => rfl, fun _ _ h => h t⟩

theorem zero : PosLin fun _ => 0 := ⟨fun _ _ _ _ => by ring, fun _ _ _ => le_refl _⟩

theorem comp (hW : PosLin W) (φ : List Nat → List Nat) : PosLin fun g => W fun t => g (φ t) :=
  ⟨fun a b _ _ => hW.lin a b _ _, fun _ _ hgh => hW.mono _ _ fun t => hgh (φ t)⟩

theorem add (hV : PosLin V) (hW : PosLin W) : PosLin fun g => V g + W g :=
  ⟨fun a b g h => by rw [hV.lin, hW.lin]; ring, fun g h hgh => add_le_add (hV.mono g h hgh) (hW.mono g h hgh)⟩

theorem smul (c : Rat) (hc : 0 ≤ c) (hW : PosLin W) : PosLin fun g => c * W g :=
  ⟨fun a b g h => by rw [hW.lin]; ring, fun g h hgh => mul_le_mul_of_nonneg_left (hW.mono g h hgh) hc⟩

theorem of_sumTo (n : Nat) {W : Nat → (List Nat → Rat) → Rat} (hW : ∀ j, PosLin (W j)) :
    PosLin fun g => sumTo n fun j => W j g := by
  induction n with
  | zero => exact zero
  | succ n ih => exact ih.add (hW n)

theorem of_nestSum (ns : List Nat) : PosLin (nestSum ns) := by
  induction ns with
  | nil => exact eval []
  | cons n ns ih => exact of_sumTo n fun x => ih.comp (x :: ·)

theorem div (c : Rat) (hc : 0 ≤ c) (hW : PosLin W) : PosLin fun g => W g / c := by
  simpa only [div_eq_inv_mul] using hW.smul c⁻¹ (inv_nonneg.mpr hc)

theorem of_maskSum (shape : List Nat) (K : List Bool) (i : List Nat) : PosLin fun g => maskSum shape K g i := by
  induction shape generalizing K i with
  | nil => exact eval []
  | cons n ns ih =>
    cases K with
    | nil => exact (ih [] i.tail).comp (i.headD 0 :: ·)
    | cons k ks =>
      cases k with
      | false => exact of_sumTo n fun x => (ih ks i).comp (x :: ·)
      | true => exact (ih ks i.tail).comp (i.headD 0 :: ·)

/-- triangle inequality: `-|g| ≤ g ≤ |g|`, so `-W|g| ≤ W g ≤ W|g|` -/
theorem abs_le (hW : PosLin W) (g : List Nat → Rat) : |W g| ≤ W fun t => |g t| := by
  have h1 := hW.mono g _ fun t => le_abs_self (g t)
  have h2 := hW.mono (fun t => (-1) * |g t| + 0 * g t) g fun t => by have := neg_abs_le (g t); linarith
  rw [hW.lin] at h2
  exact _root_.abs_le.mpr ⟨by linarith, h1⟩

end PosLin

/-- `ival` as a functional of one component of the data -/
def ivalW (m : Mesh) (shape : List Nat) (dir : Dir) (cum : Bool) (i : List Nat) (g : List Nat → Rat) : Rat :=
  match dir with
  | .none => dV m * nestSum shape g
  | .name d =>
    match m.region.dim2index d with
    | .ok ax =>
      if cum then m.cellAt ax * (sumTo (i.getD ax 0) (fun l => g (setAt i ax l)) + g i / 2)
      else m.cellAt ax * sumTo (m.nAt ax) fun j => g (insertAt i ax j)
    | .error _ => 0
  | _ => 0

theorem ival_eq (f : Fld) (dir : Dir) (cum : Bool) (i : List Nat) (c : Nat) :
    ival f dir cum i c = ivalW f.mesh f.data.shape dir cum i fun t => cget f.data t c := by
  cases dir <;> rfl

/-- the weights are the cell volume resp. the cell length of the axis (positive), and ½ of it for the cell itself in
the cumulative form -/
theorem ivalW_posLin (m : Mesh) (hm : m.Inv) (shape : List Nat) (dir : Dir) (cum : Bool) (i : List Nat) :
    PosLin (ivalW m shape dir cum i) := by
  cases dir with
  | none => exact (PosLin.of_nestSum shape).smul _ (dV_pos m hm).le
  | name d =>
    show PosLin fun g => match m.region.dim2index d with
      | .ok ax => if cum then m.cellAt ax * (sumTo (i.getD ax 0) (fun l => g (setAt i ax l)) + g i / 2)
                  else m.cellAt ax * sumTo (m.nAt ax) fun j => g (insertAt i ax j)
      | .error _ => 0
    cases hax : m.region.dim2index d with
    | error e => exact PosLin.zero
    | ok ax =>
      have hc : 0 ≤ m.cellAt ax := (hm.cellAt_pos (hm.dim2index_lt hax)).le
      cases cum with
      | true =>
        have half : PosLin fun g => g i / 2 :=
          ⟨fun a b g h => by ring, fun g h hgh => by have := hgh i; linarith⟩
        exact ((PosLin.of_sumTo _ fun l => PosLin.eval (setAt i ax l)).add half).smul _ hc
      | false => exact (PosLin.of_sumTo _ fun j => PosLin.eval (insertAt i ax j)).smul _ hc
  | names ds => exact PosLin.zero
  | other => exact PosLin.zero

/-! ## integrals: linear, per component, position-free -/

theorem cget_lin (α β : Rat) (f g : Fld) (i : List Nat) (c : Nat) (hc : c < f.nvdim) :
    cget (lin α f β g).data i c = α * cget f.data i c + β * cget g.data i c := by
  simp only [lin, cget]
  rw [getD_tab _ _ _ _ hc]

theorem ival_lin (α β : Rat) (f g : Fld) (hf : f.mesh.Inv) (hm : g.mesh = f.mesh) (hs : g.data.shape = f.data.shape)
    (dir : Dir) (cum : Bool) (i : List Nat) (c : Nat) (hc : c < f.nvdim) :
    ival (lin α f β g) dir cum i c = α * ival f dir cum i c + β * ival g dir cum i c := by
  rw [ival_eq, ival_eq, ival_eq, hm, hs, ← (ivalW_posLin f.mesh hf _ dir cum i).lin]
  exact congrArg _ (funext fun t => cget_lin α β f g t c hc)

theorem cget_compFld (f : Fld) (c : Nat) (i : List Nat) :
    cget (compFld f c).data i 0 = cget f.data i c := by
  simp [compFld, cget]

theorem ival_comp (f : Fld) (c : Nat) (dir : Dir) (cum : Bool) (i : List Nat) :
    ival (compFld f c) dir cum i 0 = ival f dir cum i c := by
  rw [ival_eq, ival_eq]
  exact congrArg _ (funext fun t => cget_compFld f c t)

theorem shift_lo (t : List Rat) (r : Region) (a : Nat) (ha : a < r.pmin.length) :
    (shiftRegion t r).lo a = r.lo a + t.getD a 0 := by
  simp only [shiftRegion, Region.lo]
  rw [getD_tab _ _ _ _ ha]

theorem shift_hi (t : List Rat) (r : Region) (a : Nat) (ha : a < r.pmax.length) :
    (shiftRegion t r).hi a = r.hi a + t.getD a 0 := by
  simp only [shiftRegion, Region.hi]
  rw [getD_tab _ _ _ _ ha]

theorem translate_ndim (t : List Rat) (f : Fld) : (translate t f).mesh.ndim = f.mesh.ndim := tab_length _ _

theorem translate_cellAt (t : List Rat) (f : Fld) (hf : f.mesh.Inv) (a : Nat) (ha : a < f.mesh.ndim) :
    (translate t f).mesh.cellAt a = f.mesh.cellAt a := by
  have h1 : a < f.mesh.region.pmin.length := ha
  have h2 : a < f.mesh.region.pmax.length := by rw [hf.1.pmax_length]; exact h1
  simp only [translate, Mesh.cellAt, Region.edge, Mesh.nAt]
  rw [shift_lo t _ a h1, shift_hi t _ a h2]
  ring_nf

theorem translate_dV (t : List Rat) (f : Fld) (hf : f.mesh.Inv) : dV (translate t f).mesh = dV f.mesh := by
  unfold dV Mesh.cell
  rw [translate_ndim]
  congr 1
  exact tab_congr _ _ _ fun a ha => translate_cellAt t f hf a ha

theorem ival_translate (t : List Rat) (f : Fld) (hf : f.mesh.Inv) (dir : Dir) (cum : Bool) (i : List Nat) (c : Nat) :
    ival (translate t f) dir cum i c = ival f dir cum i c := by
  have hd : (translate t f).data = f.data := rfl
  cases dir with
  | none => simp only [ival, hd, translate_dV t f hf]
  | name d =>
    have hdi : (translate t f).mesh.region.dim2index d = f.mesh.region.dim2index d := rfl
    have hn : ∀ a, (translate t f).mesh.nAt a = f.mesh.nAt a := fun a => rfl
    simp only [ival, hd, hdi, hn]
    cases hax : f.mesh.region.dim2index d with
    | error e => rfl
    | ok ax =>
      simp only [translate_cellAt t f hf ax (hf.dim2index_lt hax)]
  | names ds => simp [ival]
  | other => simp [ival]

theorem shiftRegion_inv (t : List Rat) (r : Region) (hr : r.Inv) : (shiftRegion t r).Inv := by
  have hl1 : (shiftRegion t r).ndim = r.ndim := tab_length _ _
  have hl2 : (shiftRegion t r).pmax.length = r.pmax.length := tab_length _ _
  refine ⟨lt_of_lt_of_eq hr.ndim_pos hl1.symm, hl2.trans (hr.pmax_length.trans hl1.symm), hr.dims_length.trans hl1.symm,
    hr.units_length.trans hl1.symm, hr.dims_nodup, fun a ha => ?_⟩
  replace ha : a < r.ndim := lt_of_lt_of_eq ha hl1
  rw [shift_lo t r a ha, shift_hi t r a (hr.pmax_length ▸ ha)]
  exact (add_lt_add_iff_right _).mpr (hr.lo_lt_hi ha)

theorem translate_wf (t : List Rat) (f : Fld) (hf : WF f) : WF (translate t f) := by
  have hnd := translate_ndim t f
  exact ⟨⟨shiftRegion_inv t _ hf.1.1, hf.1.n_length.trans hnd.symm, fun a ha => hf.1.nAt_pos (hnd ▸ ha)⟩, hf.2⟩

/-! ## integrals: order and absolute value -/

theorem cget_absF (f : Fld) (i : List Nat) (c : Nat) (hc : c < f.nvdim) :
    cget (absF f).data i c = |cget f.data i c| := by
  simp only [absF, cget]
  rw [getD_tab _ _ _ _ hc, absR_eq_abs]

theorem ival_mono (f g : Fld) (hf : WF f) (hm : g.mesh = f.mesh) (hs : g.data.shape = f.data.shape)
    (c : Nat) (hle : ∀ t, cget f.data t c ≤ cget g.data t c) (dir : Dir) (cum : Bool) (i : List Nat) :
    ival f dir cum i c ≤ ival g dir cum i c := by
  rw [ival_eq, ival_eq, hm, hs]
  exact (ivalW_posLin f.mesh hf.1 _ dir cum i).mono _ _ hle

theorem ival_abs (f : Fld) (hf : WF f) (c : Nat) (hc : c < f.nvdim) (dir : Dir) (cum : Bool) (i : List Nat) :
    |ival f dir cum i c| ≤ ival (absF f) dir cum i c := by
  rw [ival_eq, ival_eq]
  refine le_of_le_of_eq ((ivalW_posLin f.mesh hf.1 _ dir cum i).abs_le _) ?_
  exact congrArg _ (funext fun t => (cget_absF f t c hc).symm)

/-! ## means: the same for the spec values `mval` -/

theorem maskSum_congr' (shape : List Nat) (K : List Bool) (g h : List Nat → Rat) (i : List Nat)
    (hgh : ∀ t, g t = h t) : maskSum shape K g i = maskSum shape K h i := by
  have : g = h := funext hgh
  rw [this]

theorem meanAll_getD (f : Fld) (c : Nat) (hc : c < f.nvdim) :
    (meanAll f).getD c 0 = (nestSum f.data.shape fun t => cget f.data t c) / (natProd f.data.shape : Rat) := by
  unfold meanAll
  rw [getD_tab _ _ _ _ hc, sumAll_eq]

/-- `mval` as a functional of one component of the data: a sum divided by the number of summed cells -/
def mvalW (r : Region) (shape : List Nat) (dir : Dir) (i : List Nat) (g : List Nat → Rat) : Rat :=
  match dir with
  | .none => nestSum shape g / (natProd shape : Rat)
  | .name d =>
    match r.dim2index d with
    | .ok ax => (sumTo (shape.getD ax 0) fun j => g (insertAt i ax j)) / ((shape.getD ax 0 : Nat) : Rat)
    | .error _ => 0
  | .names ds =>
    if sameMultiset ds r.dims then nestSum shape g / (natProd shape : Rat)
    else
      match dimIndices r ds with
      | .ok axes => maskSum shape (keepMask shape.length axes) g i / (dropProd (keepMask shape.length axes) shape : Rat)
      | .error _ => 0
  | .other => 0

theorem mval_eq (f : Fld) (dir : Dir) (i : List Nat) (c : Nat) :
    mval f dir i c = mvalW f.mesh.region f.data.shape dir i fun t => cget f.data t c := by
  cases dir <;> rfl

theorem mvalW_posLin (r : Region) (shape : List Nat) (dir : Dir) (i : List Nat) : PosLin (mvalW r shape dir i) := by
  have hall : PosLin fun g => nestSum shape g / (natProd shape : Rat) := (PosLin.of_nestSum shape).div _ (Nat.cast_nonneg _)
  cases dir with
  | none => exact hall
  | name d =>
    show PosLin fun g => match r.dim2index d with
      | .ok ax => (sumTo (shape.getD ax 0) fun j => g (insertAt i ax j)) / ((shape.getD ax 0 : Nat) : Rat)
      | .error _ => 0
    cases r.dim2index d with
    | error e => exact PosLin.zero
    | ok ax => exact (PosLin.of_sumTo _ fun j => PosLin.eval (insertAt i ax j)).div _ (Nat.cast_nonneg _)
  | names ds =>
    show PosLin fun g => if sameMultiset ds r.dims then nestSum shape g / (natProd shape : Rat)
      else match dimIndices r ds with
        | .ok axes => maskSum shape (keepMask shape.length axes) g i / (dropProd (keepMask shape.length axes) shape : Rat)
        | .error _ => 0
    cases sameMultiset ds r.dims with
    | true => exact hall
    | false =>
      simp only [Bool.false_eq_true, if_false]
      cases dimIndices r ds with
      | error e => exact PosLin.zero
      | ok axes => exact (PosLin.of_maskSum shape _ i).div _ (Nat.cast_nonneg _)
  | other => exact PosLin.zero

theorem mval_lin (α β : Rat) (f g : Fld) (hm : g.mesh = f.mesh) (hs : g.data.shape = f.data.shape)
    (dir : Dir) (i : List Nat) (c : Nat) (hc : c < f.nvdim) :
    mval (lin α f β g) dir i c = α * mval f dir i c + β * mval g dir i c := by
  rw [mval_eq, mval_eq, mval_eq, hm, hs, ← (mvalW_posLin f.mesh.region _ dir i).lin]
  exact congrArg _ (funext fun t => cget_lin α β f g t c hc)

theorem mval_comp (f : Fld) (c : Nat) (dir : Dir) (i : List Nat) :
    mval (compFld f c) dir i 0 = mval f dir i c := by
  rw [mval_eq, mval_eq]
  exact congrArg _ (funext fun t => cget_compFld f c t)

theorem dimIndices_congr (r r' : Region) (h : r'.dims = r.dims) (ds : List String) :
    dimIndices r' ds = dimIndices r ds := by
  induction ds with
  | nil => rfl
  | cons d ds ih => simp only [dimIndices, T.dim2index_congr r r' h d, ih]

/-- the sum / count values and their shape depend on the direction names, the shape and the data only: not on where
the mesh sits, not on its size -/
theorem mval_congr (f f' : Fld) (hd : f'.mesh.region.dims = f.mesh.region.dims) (hdata : f'.data = f.data)
    (dir : Dir) (i : List Nat) (c : Nat) : mval f' dir i c = mval f dir i c := by
  cases dir with
  | none => simp only [mval, hdata]
  | name d => simp only [mval, T.dim2index_congr _ _ hd, hdata]
  | names ds => simp only [mval, hd, dimIndices_congr _ _ hd ds, hdata]
  | other => rfl

theorem mshape_congr (f f' : Fld) (hd : f'.mesh.region.dims = f.mesh.region.dims) (hs : f'.data.shape = f.data.shape)
    (dir : Dir) : mshape f' dir = mshape f dir := by
  cases dir with
  | none => rfl
  | name d => simp only [mshape, T.dim2index_congr _ _ hd, hs]
  | names ds => simp only [mshape, hd, dimIndices_congr _ _ hd ds, hs]
  | other => rfl

/-! ## every form of `mean` returns the spec values -/

/-- every successful `mean` (no direction, one direction, a list in any order) returns, on the spec shape, the sum over
the averaged axes divided by the number of summed cells -/
theorem mean_cval (f : Fld) (dir : Dir) (r : Res) (h : mean f dir = .ok r) :
    r.nv = f.nvdim ∧ r.shape = mshape f dir ∧
    ∀ i c, inRange r.shape i = true → c < f.nvdim → r.cval i c = mval f dir i c := by
  cases dir with
  | none =>
    rw [mean_none] at h
    cases h
    exact ⟨tab_length _ _, rfl, fun i c _ hc => getD_tab _ _ _ _ hc⟩
  | name d =>
    obtain ⟨ax, m', hax, _, _, hr⟩ := (mean_name_iff f d r).mp h
    subst hr
    refine ⟨rfl, by simp only [mshape, hax]; rfl, ?_⟩
    intro i c hi hc
    simp only [Res.cval, mval, hax]
    rw [cget_force (divBy f.nvdim ((f.data.shape.getD ax 0 : Nat) : Rat) (sumAxis f.nvdim f.data ax)) i c hi,
      cget_divBy _ _ _ _ _ hc, cget_sumAxis _ _ _ _ _ hc]
  | names ds =>
    obtain ⟨_, hcase⟩ := (mean_names_iff f ds r).mp h
    rcases hcase with ⟨hsame, hr⟩ | ⟨hsame, m', axes, _, haxes, _, hr⟩
    · subst hr
      refine ⟨by simp [Res.nv, meanAll], by simp only [mshape, hsame, if_true]; rfl, ?_⟩
      intro i c _ hc
      simp only [Res.cval, mval, hsame, if_true]
      exact meanAll_getD f c hc
    · subst hr
      refine ⟨rfl, by simp only [mshape, hsame, Bool.false_eq_true, if_false, haxes]; rfl, ?_⟩
      intro i c hi hc
      simp only [Res.cval, mval, hsame, Bool.false_eq_true, if_false, haxes]
      rw [cget_force (meanAxes f.nvdim f.data axes) i c hi, cget_meanAxes _ _ _ _ _ hc]
  | other => cases h

/-- the same call on two fields with the same spec shape: the results have the same shape, and on it each is its own
spec value - what every comparison of two means starts from -/
theorem mean_pair (f f' : Fld) (dir : Dir) (hsh : mshape f' dir = mshape f dir) (r r' : Res)
    (h : mean f dir = .ok r) (h' : mean f' dir = .ok r') :
    r'.shape = r.shape ∧ ∀ i, inRange r.shape i = true →
      (∀ c, c < f.nvdim → r.cval i c = mval f dir i c) ∧
      (∀ c, c < f'.nvdim → r'.cval i c = mval f' dir i c) := by
  obtain ⟨_, hs, hv⟩ := mean_cval f dir r h
  obtain ⟨_, hs', hv'⟩ := mean_cval f' dir r' h'
  have hss : r'.shape = r.shape := by rw [hs, hs', hsh]
  exact ⟨hss, fun i hi => ⟨fun c hc => hv i c hi hc, fun c hc => hv' i c (hss ▸ hi) hc⟩⟩

end DFV.C06
