import DFV.Lemmas.C08Set
/-! Compound operations (`sum`, stacking with `<<`, ufuncs with several field inputs, `grad`, `div`,
`curl`, `laplace`, reflected operators).  `SameReading E P p`: the program `P` has the acceptance, the shape and
the index-level reading of `p` — kept by unary operations, by combining two such programs, by chains, stacks and sums
of them — and then returns `p`'s mask (`SameReading.mask`); the programs `field.py` composes are such.  Padding and
taking the original block back is the identity on validity. -/
namespace DFV.C08
open DFV

theorem chainF_shapeOf (env : Nat → Mask) (xs : List Prog) : ∀ acc, shapeOf env (chainF acc xs) = shapeOf env acc := by
  induction xs with
  | nil => intro acc; rfl
  | cons x xs ih => intro acc; simp only [chainF]; rw [ih]; rfl

theorem chainF_spec (env : Nat → Mask) (xs : List Prog) : ∀ acc j,
    spec env (chainF acc xs) j = (spec env acc j && xs.all fun x => spec env x j) := by
  induction xs with
  | nil => intro acc j; simp [chainF]
  | cons x xs ih =>
    intro acc j
    simp only [chainF, List.all_cons]
    rw [ih]
    simp only [spec, Bool.and_assoc]

theorem chainF_wf (env : Nat → Mask) (xs : List Prog) : ∀ acc,
    wf env (chainF acc xs) =
      (wf env acc && xs.all fun x => wf env x && decide (shapeOf env acc = shapeOf env x)) := by
  induction xs with
  | nil => intro acc; simp [chainF]
  | cons x xs ih =>
    intro acc
    simp only [chainF, List.all_cons]
    rw [ih]
    simp only [wf, shapeOf, Bool.and_assoc]
    rfl

theorem chainF_setterFree (xs : List Prog) : ∀ acc,
    setterFree (chainF acc xs) = (setterFree acc && xs.all setterFree) := by
  induction xs with
  | nil => intro acc; simp [chainF]
  | cons x xs ih =>
    intro acc
    simp only [chainF, List.all_cons]
    rw [ih]
    simp only [setterFree, Bool.and_assoc]

/-! ## programs with the reading of another -/

/-- `P` reads as `p`: the general form of `valid_grad`, `valid_div`, `valid_curl`, `valid_laplace`, `valid_reflected` of Props -/
structure SameReading (E : Nat → Mask) (P p : Prog) : Prop where
  wf : wf E P = wf E p
  shape : shapeOf E P = shapeOf E p
  spec : ∀ j, spec E P j = spec E p j

namespace SameReading
variable {E : Nat → Mask} {p P Q : Prog}

theorem refl (p : Prog) : SameReading E p p := ⟨rfl, rfl, fun _ => rfl⟩

theorem un (h : SameReading E P p) : SameReading E (.un P) p := ⟨h.wf, h.shape, h.spec⟩

theorem binC (h : SameReading E P p) : SameReading E (.binC P) p := ⟨h.wf, h.shape, h.spec⟩

theorem binF (h1 : SameReading E P p) (h2 : SameReading E Q p) : SameReading E (.binF P Q) p :=
  ⟨by simp only [C08.wf, h1.wf, h2.wf, h1.shape, h2.shape, decide_true, Bool.and_true, Bool.and_self], h1.shape,
    fun j => by simp only [C08.spec, h1.spec, h2.spec, Bool.and_self]⟩

/-- combining with the all-valid temporary field on the same cells (`f << 3`, `3 << f`) -/
theorem lshift (p : Prog) : SameReading E (lshiftConstProg p) p ∧ SameReading E (rlshiftConstProg p) p := by
  refine ⟨⟨?_, rfl, fun _ => Bool.and_true _⟩, ⟨?_, rfl, fun _ => Bool.true_and _⟩⟩ <;>
    simp only [lshiftConstProg, rlshiftConstProg, C08.wf, shapeOf, FreshOp.ok, FreshOp.shape, decide_true, Bool.and_true,
      Bool.and_self]

theorem chain (xs : List Prog) : ∀ {acc : Prog}, SameReading E acc p → (∀ x ∈ xs, SameReading E x p) →
    SameReading E (chainF acc xs) p := by
  induction xs with
  | nil => exact fun h _ => h
  | cons x xs ih =>
    exact fun h hx => ih (h.binF (hx x List.mem_cons_self)) fun y hy => hx y (List.mem_cons_of_mem _ hy)

theorem stack {l : List Prog} (hne : l ≠ []) (h : ∀ x ∈ l, SameReading E x p) : SameReading E (stackProg l) p := by
  cases l with
  | nil => exact absurd rfl hne
  | cons x xs => exact chain xs (h x List.mem_cons_self) fun y hy => h y (List.mem_cons_of_mem _ hy)

theorem sum {l : List Prog} (hne : l ≠ []) (h : ∀ x ∈ l, SameReading E x p) : SameReading E (sumProg l) p := by
  cases l with
  | nil => exact absurd rfl hne
  | cons x xs => exact chain xs (h x List.mem_cons_self).binC fun y hy => h y (List.mem_cons_of_mem _ hy)

theorem copies {n : Nat} (hn : 0 < n) (h : SameReading E P p) :
    tab n (fun _ => P) ≠ [] ∧ ∀ x ∈ tab n (fun _ => P), SameReading E x p :=
  ⟨fun he => Nat.ne_of_gt hn ((tab_length n _).symm.trans (congrArg List.length he)),
    fun x hx => by obtain ⟨_, _, rfl⟩ := List.mem_map.mp hx; exact h⟩

end SameReading

/-- the readings need agree INSIDE the shape only: `pad_then_crop_back` of Props has no more -/
theorem same_mask_of_spec_in (env : Nat → Mask) (P p : Prog) (hsh : shapeOf env P = shapeOf env p)
    (hsp : ∀ j, inRange (shapeOf env p) j = true → spec env P j = spec env p j)
    (hwf : wf env P = true → wf env p = true) (m : Mask) (h : eval env P = .ok m) :
    ∃ m0, eval env p = .ok m0 ∧ m.shape = m0.shape ∧ ∀ j, inRange m0.shape j = true → m.get j = m0.get j := by
  obtain ⟨m0, hm0, h3, h4⟩ := eval_of_wf env p (hwf ((eval_ok_iff env P).mp ⟨m, h⟩))
  obtain ⟨h1, h2⟩ := eval_spec env P m h
  have hs : m.shape = m0.shape := by rw [h1, h3, hsh]
  refine ⟨m0, hm0, hs, fun j hj => ?_⟩
  rw [h2 j (hs ▸ hj), h4 j (h3 ▸ hj), hsp j (h3 ▸ hj)]

theorem SameReading.mask {E : Nat → Mask} {p P : Prog} (h : SameReading E P p) (m : Mask) (hm : eval E P = .ok m) :
    ∃ m0, eval E p = .ok m0 ∧ m.shape = m0.shape ∧ ∀ j, inRange m0.shape j = true → m.get j = m0.get j :=
  same_mask_of_spec_in E P p h.shape (fun j _ => h.spec j) (fun hw => h.wf ▸ hw) m hm

/-! ## the differential operators -/

theorem gradProg_same (E : Nat → Mask) (nd : Nat) (p : Prog) (hn : 0 < nd) : SameReading E (gradProg nd p) p :=
  let c := SameReading.copies hn (.un (.refl p))
  .stack c.1 c.2

theorem divProg_same (E : Nat → Mask) (nv : Nat) (p : Prog) (hn : 0 < nv) : SameReading E (divProg nv p) p :=
  let c := SameReading.copies hn (.un (.un (.refl p)))
  .sum c.1 c.2

theorem curlProg_same (E : Nat → Mask) (p : Prog) : SameReading E (curlProg p) p :=
  let c := SameReading.copies (Nat.succ_pos 2) (.binF (.un (.un (.refl p))) (.un (.un (.refl p))))
  .stack c.1 c.2

theorem laplaceProg_same (E : Nat → Mask) (nd nv : Nat) (p : Prog) (hd : 0 < nd) (hv : 0 < nv) :
    SameReading E (laplaceProg nd nv p) p := by
  unfold laplaceProg
  split
  · have c := SameReading.copies (E := E) hd (.un (.refl p))
    exact .stack (List.cons_ne_nil _ _) fun x hx => List.mem_singleton.mp hx ▸ .sum c.1 c.2
  · have c := SameReading.copies (E := E) hd (.un (.un (.refl p)))
    have d := SameReading.copies hv (SameReading.sum c.1 c.2)
    exact .stack d.1 d.2

/-! ## padding, then the original block -/

theorem unpad_pad_shape (mode : PadMode) (w : List (Nat × Nat)) (s : List Nat) :
    (unpad w s).shape ((MapOp.pad mode w).shape s) = s := by
  simp only [unpad, MapOp.shape, tab_length]
  rw [← tab_getD_self s 0]
  simp only [tab_length]
  apply tab_congr
  intro b hb
  rw [getD_tab _ _ _ _ hb, getD_tab _ _ _ _ hb, getD_tab _ _ _ _ hb]
  exact Nat.add_sub_cancel_left _ _

theorem unpad_pad_src (mode : PadMode) (w : List (Nat × Nat)) (s j : List Nat) (hj : inRange s j = true) :
    ∃ i, (unpad w s).src ((MapOp.pad mode w).shape s) j = some i ∧ (MapOp.pad mode w).src s i = some j := by
  obtain ⟨hl, hlt⟩ := (inRange_iff s j).mp hj
  refine ⟨tab s.length fun b => j.getD b 0 + (w.getD b (0, 0)).1, ?_, ?_⟩
  · simp only [unpad, MapOp.src, MapOp.shape, tab_length]
    congr 1
    apply tab_congr
    intro b hb
    rw [getD_tab _ _ _ _ hb]
  · rw [pad_src_inside mode w s _ (fun b hb => by
      rw [getD_tab _ _ _ _ hb, Nat.add_comm]
      exact ⟨Nat.le_add_right _ _, Nat.add_lt_add_left (hlt b hb) _⟩)]
    congr 1
    rw [eq_tab_of_getD j s.length (fun b => j.getD b 0) 0 hl (fun _ _ => rfl)]
    apply tab_congr
    intro b hb
    rw [getD_tab _ _ _ _ hb, getD_tab _ _ _ _ hb]
    exact Nat.add_sub_cancel _ _

theorem unpad_pad_ok (mode : PadMode) (w : List (Nat × Nat)) (s : List Nat) (hw : w.length = s.length)
    (hpos : ∀ b, b < s.length → 0 < s.getD b 0) :
    (MapOp.pad mode w).ok s = true ∧ (unpad w s).ok ((MapOp.pad mode w).shape s) = true := by
  constructor
  · exact pad_ok.mpr ⟨hw, hpos⟩
  · simp only [unpad, MapOp.ok, MapOp.shape, tab_length, Bool.and_eq_true, decide_eq_true_eq, allLt_iff, true_and]
    intro b hb
    rw [getD_tab _ _ _ _ hb, getD_tab _ _ _ _ hb, getD_tab _ _ _ _ hb]
    exact ⟨Nat.lt_add_of_pos_right (hpos b hb), by rw [Nat.add_comm _ (s.getD b 0)]; exact Nat.le_add_right _ _⟩

theorem unpad_pad_facts (env : Nat → Mask) (mode : PadMode) (w : List (Nat × Nat)) (p : Prog) :
    shapeOf env (.map (unpad w (shapeOf env p)) (.map (.pad mode w) p)) = shapeOf env p ∧
    (∀ j, inRange (shapeOf env p) j = true →
      spec env (.map (unpad w (shapeOf env p)) (.map (.pad mode w) p)) j = spec env p j) ∧
    (wf env (.map (unpad w (shapeOf env p)) (.map (.pad mode w) p)) = true → wf env p = true) ∧
    (wf env p = true → w.length = (shapeOf env p).length →
      (∀ b, b < (shapeOf env p).length → 0 < (shapeOf env p).getD b 0) →
      wf env (.map (unpad w (shapeOf env p)) (.map (.pad mode w) p)) = true) := by
  refine ⟨unpad_pad_shape mode w _, fun j hj => ?_, fun h => ?_, fun h hw hpos => ?_⟩
  · obtain ⟨i, h1, h2⟩ := unpad_pad_src mode w (shapeOf env p) j hj
    show (match (unpad w (shapeOf env p)).src ((MapOp.pad mode w).shape (shapeOf env p)) j with
      | some i => (match (MapOp.pad mode w).src (shapeOf env p) i with
        | some i' => spec env p i'
        | none => false)
      | none => false) = spec env p j
    rw [h1]; simp only; rw [h2]
  · simp only [wf, Bool.and_eq_true] at h
    exact h.1.1
  · obtain ⟨o1, o2⟩ := unpad_pad_ok mode w (shapeOf env p) hw hpos
    simp only [wf, shapeOf, Bool.and_eq_true]
    exact ⟨⟨h, o1⟩, o2⟩

end DFV.C08
