import DFV.Lemmas.RatFloor
/-! Abstract rounded arithmetic (standard model `fl x = x(1+δ)`, `|δ| ≤ u`).  `Rounding` is a
hypothesis package carried by theorems, not an axiom.  Errors are propagated in two ways:
relative errors compose (`err_trans`, `err_div`, `err_mul`, `err_divisor`; good for products and quotients),
and an absolute error `E` grows to at most `17/16·E + u·|x|` in one rounding (`Rounding.step`; needed
where signed numbers are added, and it keeps every bound linear in `u`).  The package is satisfiable: exact arithmetic
(`Rounding.exact`, `Props/C01.lean`, `u = 0`) and binary64 (`Rounding.binary64`, `Lemmas/C01Fl64.lean`, `u = 2^-53`) are instances. -/
namespace DFV.C01
open DFV

theorem abs_le_of_err (u x y : Rat) (h : |y - x| ≤ u * |x|) : |y| ≤ (1 + u) * |x| := by
  have := abs_sub_abs_le_abs_sub y x
  linarith

/-- two successive relative errors `e`, `d` make `(1 + e)(1 + d) − 1` -/
theorem err_trans (e d x y z : Rat) (hd : 0 ≤ d) (hy : |y - x| ≤ e * |x|) (hz : |z - y| ≤ d * |y|) :
    |z - x| ≤ (e + d + d * e) * |x| := by
  have h1 := mul_le_mul_of_nonneg_left (abs_le_of_err e x y hy) hd
  have h2 := abs_sub_le z y x
  linarith

theorem err_div (e x y c : Rat) (h : |y - x| ≤ e * |x|) : |y / c - x / c| ≤ e * |x / c| := by
  rw [← sub_div, abs_div, abs_div, ← mul_div_assoc]
  exact div_le_div_of_nonneg_right h (abs_nonneg c)

theorem err_mul (e k x y : Rat) (h : |y - x| ≤ e * |x|) : |k * y - k * x| ≤ e * |k * x| := by
  rw [← mul_sub, abs_mul, abs_mul, mul_left_comm]
  exact mul_le_mul_of_nonneg_left h (abs_nonneg k)

/-- a divisor with relative error `e` (measured against the perturbed divisor) -/
theorem err_divisor (e y c c' : Rat) (hc : 0 < c) (hc' : 0 < c') (h : |c' - c| ≤ e * c') :
    |y / c' - y / c| ≤ e * |y / c| := by
  have e1 : y / c' - y / c = y / c * ((c - c') / c') := by field_simp
  rw [e1, abs_mul, mul_comm e]
  refine mul_le_mul_of_nonneg_left ?_ (abs_nonneg _)
  rwa [abs_div, abs_of_pos hc', div_le_iff₀ hc', abs_sub_comm]

/-- standard model of rounding: every operation returns the exact result times `(1 + δ)`,
`|δ| ≤ u`.  A parameter of the theorems below (not an axiom); `u = 2^-53` for binary64.  The bound
`u ≤ 1/16` is what makes `1 + u ≤ 17/16` in `Rounding.step` and `2u + u² ≤ 33/16·u` in `two_le`. -/
structure Rounding where
  fl : Rat → Rat
  u : Rat
  u_nonneg : 0 ≤ u
  u_small : u ≤ 1/16
  err : ∀ x, |fl x - x| ≤ u * |x|

section Basic
variable (R : Rounding)

theorem Rounding.one_sub_pos : 0 < 1 - R.u := sub_pos.mpr (R.u_small.trans_lt (by norm_num))

theorem Rounding.one_add_pos : 0 < 1 + R.u := add_pos_of_pos_of_nonneg one_pos R.u_nonneg

/-- `2u + u² = (1 + u)² − 1`, the relative error of two roundings, is at most `33/16·u` -/
theorem Rounding.two_le : 2 * R.u + R.u * R.u ≤ 33 / 16 * R.u := by
  have := mul_le_mul_of_nonneg_right R.u_small R.u_nonneg
  linarith

/-- `(1 − u)³ − (1 + u)(1 − 4u) = u²(7 − u)` -/
theorem Rounding.cube_ge : (1 + R.u) * (1 - 4 * R.u) ≤ (1 - R.u) * ((1 - R.u) * (1 - R.u)) := by
  have := mul_nonneg (mul_nonneg R.u_nonneg R.u_nonneg) (by linarith [R.u_small] : 0 ≤ 7 - R.u)
  linarith

/-- `(1 − u)(1 + 5u) − (1 + u)³ = u(1 − 8u − u²)` -/
theorem Rounding.cube_le : (1 + R.u) * ((1 + R.u) * (1 + R.u)) ≤ (1 - R.u) * (1 + 5 * R.u) := by
  have h := mul_le_mul_of_nonneg_right R.u_small R.u_nonneg
  have := mul_nonneg R.u_nonneg (by linarith [R.u_small] : 0 ≤ 1 - 8 * R.u - R.u * R.u)
  linarith

theorem Rounding.step {x y E : Rat} (h : |y - x| ≤ E) : |R.fl y - x| ≤ 17 / 16 * E + R.u * |x| := by
  have h1 : |y| ≤ |x| + E := by
    have := abs_sub_abs_le_abs_sub y x
    linarith
  have h2 := abs_sub_le (R.fl y) y x
  have h3 := mul_le_mul_of_nonneg_left h1 R.u_nonneg
  have h4 := mul_le_mul_of_nonneg_right R.u_small ((abs_nonneg _).trans h)
  linarith [R.err y]

theorem fl_bounds_nonneg (x : Rat) (hx : 0 ≤ x) : (1 - R.u) * x ≤ R.fl x ∧ R.fl x ≤ (1 + R.u) * x := by
  have := R.err x
  rw [abs_of_nonneg hx, abs_le] at this
  constructor <;> linarith

theorem fl_bounds_of_le {x l h : Rat} (hl : 0 ≤ l) (h1 : l ≤ x) (h2 : x ≤ h) :
    (1 - R.u) * l ≤ R.fl x ∧ R.fl x ≤ (1 + R.u) * h := by
  obtain ⟨b1, b2⟩ := fl_bounds_nonneg R x (hl.trans h1)
  exact ⟨(mul_le_mul_of_nonneg_left h1 R.one_sub_pos.le).trans b1,
    b2.trans (mul_le_mul_of_nonneg_left h2 R.one_add_pos.le)⟩

theorem fl_abs_bounds (x : Rat) : (1 - R.u) * |x| ≤ |R.fl x| ∧ |R.fl x| ≤ (1 + R.u) * |x| := by
  have h := R.err x
  have := abs_sub_abs_le_abs_sub x (R.fl x)
  rw [abs_sub_comm] at this
  exact ⟨by linarith, abs_le_of_err R.u x (R.fl x) h⟩

theorem fl_neg_of_neg (x : Rat) (hx : x < 0) : R.fl x < 0 := by
  have := R.err x
  rw [abs_of_neg hx, abs_le] at this
  linarith only [this.2, mul_neg_of_neg_of_pos hx R.one_sub_pos]

end Basic

/-- two roundings, sharp form: `|fl(fl(y)/c) − y/c| ≤ (2u + u²)·|y/c|` -/
theorem quot_err2 (R : Rounding) (y c : Rat) :
    |R.fl (R.fl y / c) - y / c| ≤ (2 * R.u + R.u * R.u) * |y / c| :=
  (err_trans _ _ _ _ _ R.u_nonneg (err_div _ _ _ c (R.err y)) (R.err _)).trans_eq (by ring)

end DFV.C01
