import DFV.Lemmas.C09
/-! The reader `_from_ovf` on a structured file: `parse` and `fromOvf` as chains of stages (`parse_of_scan`, `fromOvf_eq`) with what
success means (`parse_ok_iff`, `fromOvf_ok_iff`).  `Reads F h ws m vd` (the header is read) and `Carries c F vd vals w` (the data section
holds `vals` at width `w`) together give the parsed values (`parse_values`); then what the reader never looks at: the footer, a
trailing column, the order of the header lines. -/
namespace DFV.C09
open DFV

/-- what the reader needs from the header dictionary -/
structure HeaderOf (h : List (String × HVal)) (lo hi cell : Nat → Rat) (n : Nat → Nat) (mu : String) : Prop where
  pmin : hnums h "xmin" "ymin" "zmin" = .ok [lo 0, lo 1, lo 2]
  pmax : hnums h "xmax" "ymax" "zmax" = .ok [hi 0, hi 1, hi 2]
  step : hnums h "xstepsize" "ystepsize" "zstepsize" = .ok [cell 0, cell 1, cell 2]
  nodes : hnats h "xnodes" "ynodes" "znodes" = .ok [n 0, n 1, n 2]
  mu : hget h "meshunit" = .ok (.str mu)

/-- region with corners `lo` / `hi`, axes `x, y, z`, one unit and the `Region` constructor's default tolerance
(`tolerance_factor = 1e-12`) -/
def regOf (lo hi : Nat → Rat) (mu : String) : Region :=
  { pmin := [lo 0, lo 1, lo 2], pmax := [hi 0, hi 1, hi 2], dims := ["x", "y", "z"],
    units := [mu, mu, mu], tol := 1 / 1000000000000 }

/-- the mesh a consistent header yields -/
def meshOf (lo hi : Nat → Rat) (n : Nat → Nat) (mu : String) : Mesh :=
  { region := regOf lo hi mu, n := [n 0, n 1, n 2], bc := "", subs := [] }

theorem readMesh_ok (h : List (String × HVal)) (lo hi cell : Nat → Rat) (n : Nat → Nat) (mu : String)
    (H : HeaderOf h lo hi cell n mu)
    (hlt : ∀ a, a < 3 → lo a < hi a) (hn : ∀ a, a < 3 → 0 < n a)
    (hc : ∀ a, a < 3 → cell a = (hi a - lo a) / (n a : Rat)) :
    readMesh h = .ok (meshOf lo hi n mu) := by
  unfold readMesh
  rw [H.pmin, H.pmax, H.step, H.mu]
  simp only [bind, Except.bind, HVal.show]
  -- axis by axis, so that `[lo 0, lo 1, lo 2].getD a 0` reduces to `lo a`
  have hlt' := forall_lt3 (P := fun a => [lo 0, lo 1, lo 2].getD a 0 < [hi 0, hi 1, hi 2].getD a 0)
    (hlt 0 (by omega)) (hlt 1 (by omega)) (hlt 2 (by omega))
  have hr := T.mk?_ok_of_lt [lo 0, lo 1, lo 2] [hi 0, hi 1, hi 2] none (some [mu, mu, mu]) ["x", "y", "z"] [mu, mu, mu]
    (1 / 1000000000000) rfl (by simp) dimsOk_none3 (T.unitsOk_some _ _ rfl) hlt'
  rw [hr]
  simp only
  have hm := mkCell_ok (regOf lo hi mu) [n 0, n 1, n 2] rfl hlt'
    (forall_lt3 (hn 0 (by omega)) (hn 1 (by omega)) (hn 2 (by omega)))
  have hcells : [cell 0, cell 1, cell 2] = tab (regOf lo hi mu).ndim
      (fun a => (regOf lo hi mu).edge a / (([n 0, n 1, n 2].getD a 0 : Nat) : Rat)) := by
    have h0 := hc 0 (by omega)
    have h1 := hc 1 (by omega)
    have h2 := hc 2 (by omega)
    simp [tab, Region.ndim, Region.edge, Region.lo, Region.hi, regOf, List.range, List.range.loop, h0, h1, h2]
  show Mesh.mkCell? (regOf lo hi mu) [cell 0, cell 1, cell 2] = _
  rw [hcells, hm]
  rfl

theorem natProd_pos3 (n : Nat → Nat) (hn : ∀ a, a < 3 → 0 < n a) : 0 < natProd [n 0, n 1, n 2] :=
  natProd_pos _ fun m hm => by
    simp only [List.mem_cons, List.mem_nil_iff, or_false] at hm
    rcases hm with rfl | rfl | rfl
    exacts [hn 0 (by omega), hn 1 (by omega), hn 2 (by omega)]

theorem dec_enc_magic {α} (c : Codec α) (narrow : α → α) (L : c.Lawful narrow) (le : Bool) (w : Nat)
    (hw : w = 4 ∨ w = 8) : c.dec le w (c.enc le w (c.magic w)) = c.magic w := by
  rcases hw with rfl | rfl
  · rw [L.dec_enc4, L.narrow_magic]
  · rw [L.dec_enc8]

/-- what reading a `w`-byte value written by the codec gives -/
def conv {α} (narrow : α → α) (w : Nat) (x : α) : α := if w = 4 then narrow x else x

theorem conv_zero_width {α} (narrow : α → α) (x : α) : conv narrow 0 x = x := by
  unfold conv; rw [if_neg (by omega)]

theorem dec_enc_conv {α} (c : Codec α) (narrow : α → α) (L : c.Lawful narrow) (le : Bool) (w : Nat)
    (hw : w = 4 ∨ w = 8) (x : α) : c.dec le w (c.enc le w x) = conv narrow w x := by
  rcases hw with rfl | rfl
  · rw [L.dec_enc4]; rfl
  · rw [L.dec_enc8]; rfl

theorem readBin_ok_iff {α} [DecidableEq α] (c : Codec α) (v2 : Bool) (w : Nat) (bytes : List Byte)
    (count vd : Nat) (flat : List α) :
    readBin c v2 w bytes count vd = .ok flat ↔
      w ≤ bytes.length ∧ (w = 4 ∨ w = 8) ∧ c.dec v2 w (bytes.take w) = c.magic w ∧ vd ≠ 0 ∧
      (fromfile c v2 w (bytes.drop w) count).length % vd = 0 ∧
      flat = fromfile c v2 w (bytes.drop w) count := by
  -- the five guards of `readBin`, one conjunct each
  unfold readBin
  simp only [guard_ok_iff, Except.ok.injEq, Nat.not_lt, not_and_or, not_not, ne_eq, eq_comm (a := flat)]

/-- a data block - check value, encoded values, whatever follows: the check value is read back, and `np.fromfile`
returns the values, decoded -/
theorem block_read {α} (c : Codec α) (narrow : α → α) (L : c.Lawful narrow) (le : Bool)
    (w : Nat) (hw : w = 4 ∨ w = 8) (vals : List α) (tail : List Byte) :
    w ≤ (c.enc le w (c.magic w) ++ (vals.flatMap (c.enc le w) ++ tail)).length ∧
    c.dec le w ((c.enc le w (c.magic w) ++ (vals.flatMap (c.enc le w) ++ tail)).take w) = c.magic w ∧
    fromfile c le w ((c.enc le w (c.magic w) ++ (vals.flatMap (c.enc le w) ++ tail)).drop w) vals.length
      = vals.map (conv narrow w) := by
  have hlen : (c.enc le w (c.magic w)).length = w := L.enc_len _ _ _
  refine ⟨by rw [List.length_append, hlen]; omega, ?_, ?_⟩
  · rw [List.take_append_of_le_length (by omega), List.take_of_length_le (by omega), dec_enc_magic c narrow L le w hw]
  · have := List.drop_left (l₁ := c.enc le w (c.magic w)) (l₂ := vals.flatMap (c.enc le w) ++ tail)
    rw [hlen] at this
    rw [this, fromfile_block c le w (by omega) vals tail (fun x => L.enc_len le w x)]
    exact List.map_congr_left fun x _ => dec_enc_conv c narrow L le w hw x

theorem readBin_block {α} [DecidableEq α] (c : Codec α) (narrow : α → α) (L : c.Lawful narrow) (le : Bool)
    (w : Nat) (hw : w = 4 ∨ w = 8) (vals : List α) (tail : List Byte) (vd : Nat) (hvd : 0 < vd)
    (hmod : vals.length % vd = 0) :
    readBin c le w (c.enc le w (c.magic w) ++ (vals.flatMap (c.enc le w) ++ tail)) vals.length vd
      = .ok (vals.map (conv narrow w)) := by
  obtain ⟨h1, h2, h3⟩ := block_read c narrow L le w hw vals tail
  exact (readBin_ok_iff c le w _ _ vd _).mpr ⟨h1, hw, h2, by omega, by rw [h3, List.length_map, hmod], h3.symm⟩

theorem isBinary_nil : isBinary [] = false := by decide +kernel

theorem digitsVal_digits (l : List Char) (acc : Nat) (h : ∀ c ∈ l, c.isDigit = true) :
    digitsVal l acc = some (Nat.ofDigitChars 10 l acc) := by
  induction l generalizing acc with
  | nil => rfl
  | cons c l ih =>
    rw [digitsVal, if_pos (h c (by simp)), ih _ (fun d hd => h d (by simp [hd])), Nat.ofDigitChars_cons]
    congr 2
    have : '0'.toNat = 48 := by decide
    rw [this]; omega

theorem toString_digits (n : Nat) :
    (toString n).toList ≠ [] ∧ (∀ c ∈ (toString n).toList, c.isDigit = true) ∧
      digitsVal (toString n).toList 0 = some n := by
  have e : (toString n).toList = Nat.toDigits 10 n := Nat.toList_repr
  rw [e]
  have hd : ∀ c ∈ Nat.toDigits 10 n, c.isDigit = true := fun c hc =>
    Nat.isDigit_of_mem_toDigits (by decide) (by decide) hc
  exact ⟨Nat.toDigits_ne_nil, hd, by rw [digitsVal_digits _ _ hd, Nat.ofDigitChars_ten_toDigits]⟩

theorem parseNat_toString (n : Nat) : parseNat (toString n) = some n := by
  obtain ⟨_, _, hv⟩ := toString_digits n
  unfold parseNat
  rw [if_neg (by simp)]
  exact hv

theorem width_words (w : Nat) :
    isBinary ["Binary", toString w] = true ∧ dataWidth ["Binary", toString w] = some w := by
  refine ⟨?_, ?_⟩
  · show ("Binary".toLower == "binary") = true
    decide +kernel
  · show (some (toString w)).bind parseNat = some w
    exact parseNat_toString w

/-- the words of the data line for values of width `w` (0: text) -/
def refWords (w : Nat) : List String := if w = 0 then ["Text"] else ["Binary", toString w]

theorem refWords_bin (w : Nat) (hw : w ≠ 0) : refWords w = ["Binary", toString w] := by
  unfold refWords; rw [if_neg hw]

theorem isBinary_refWords (w : Nat) (hw : w = 4 ∨ w = 8) : isBinary (refWords w) = true := by
  rw [refWords_bin w (by omega)]; exact (width_words w).1

theorem dataWidth_refWords (w : Nat) (hw : w = 4 ∨ w = 8) : dataWidth (refWords w) = some w := by
  rw [refWords_bin w (by omega)]; exact (width_words w).2

theorem isBinary_text : isBinary (refWords 0) = false := by decide +kernel

/-- the `vdims` setter on a non-empty list of labels: accepted exactly when there are `vd` of them, all different,
none the name of a `Field` attribute -/
theorem vdimsSetter_cons_ok_iff (reserved : String → Bool) (vd : Nat) (v : String) (vs : List String)
    (r : Option (List String)) :
    vdimsSetter reserved vd (some (v :: vs)) = .ok r ↔
      (v :: vs).length = vd ∧ hasDup (v :: vs) = false ∧ (∀ x ∈ v :: vs, reserved x = false) ∧ r = some (v :: vs) := by
  -- the three guards of the setter, one conjunct each
  simp only [vdimsSetter, guard_ok_iff, Except.ok.injEq, ne_eq, not_not, Bool.not_eq_true, List.any_eq_false,
    eq_comm (a := r)]

theorem vdimsSetter_some (reserved : String → Bool) (vs : List String) (hne : vs ≠ [])
    (hd : hasDup vs = false) (hr : ∀ v ∈ vs, reserved v = false) :
    vdimsSetter reserved vs.length (some vs) = .ok (some vs) := by
  cases vs with
  | nil => exact absurd rfl hne
  | cons v vs => exact (vdimsSetter_cons_ok_iff reserved _ v vs _).mpr ⟨rfl, hd, hr, rfl⟩

/-! ## the data section by the mode of the data line -/

theorem readBody_bin {α} [DecidableEq α] (c : Codec α) (v2 : Bool) (ws : List String) (bytes : List Byte) (n vd : Nat) :
    readBody c v2 ws (.bin bytes) n vd
      = if isBinary ws then readBin c v2 ((dataWidth ws).getD 0) bytes (n * vd) vd else .error .value := rfl

theorem readBody_text {α} [DecidableEq α] (c : Codec α) (v2 : Bool) (ws : List String) (rows : List (List α))
    (footer : List String) (n vd : Nat) :
    readBody c v2 ws (.text rows footer) n vd = if isBinary ws then .error .value else readText c.nan rows n vd := rfl

theorem readBody_bin_ok_iff {α} [DecidableEq α] (c : Codec α) (v2 : Bool) (ws : List String) (bytes : List Byte)
    (n vd : Nat) (flat : List α) :
    readBody c v2 ws (.bin bytes) n vd = .ok flat ↔
      isBinary ws = true ∧ readBin c v2 ((dataWidth ws).getD 0) bytes (n * vd) vd = .ok flat := by
  rw [readBody_bin]; cases isBinary ws <;> simp

theorem readBody_text_ok_iff {α} [DecidableEq α] (c : Codec α) (v2 : Bool) (ws : List String) (rows : List (List α))
    (footer : List String) (n vd : Nat) (flat : List α) :
    readBody c v2 ws (.text rows footer) n vd = .ok flat ↔ isBinary ws = false ∧ readText c.nan rows n vd = .ok flat := by
  rw [readBody_text]; cases isBinary ws <;> simp

/-! ## the reader, stage by stage -/

theorem scan_none_of_no_data (lines : List HLine) (acc : List (String × HVal))
    (h : ∀ l ∈ lines, ∀ ws, l ≠ .beginData ws) : scan lines acc = none := by
  induction lines generalizing acc with
  | nil => rfl
  | cons l ls ih =>
    cases l with
    | kv k v => simp only [scan]; exact ih _ (fun x hx => h x (by simp [hx]))
    | other => simp only [scan]; exact ih _ (fun x hx => h x (by simp [hx]))
    | beginData ws => exact absurd rfl (h _ (by simp) ws)

theorem parse_no_data {α} [DecidableEq α] (c : Codec α) (F : OvfFile α) (hs : scan F.lines [] = none) :
    parse c F = .error .runtime := by
  unfold parse; rw [hs]

/-- `parse` after the header loop: the two tests of the data line, the three header reads, the data section -/
theorem parse_of_scan {α} [DecidableEq α] (c : Codec α) (F : OvfFile α) (h : List (String × HVal)) (ws : List String)
    (hs : scan F.lines [] = some (h, ws)) :
    parse c F =
      if ws.isEmpty then .error .index
      else if isBinary ws && (dataWidth ws).isNone then .error .value
      else valueDim F.first h >>= fun vd => readMesh h >>= fun mesh =>
        hnats h "xnodes" "ynodes" "znodes" >>= fun nodes =>
        readBody c (isV2 F.first) ws F.body (natProd nodes) vd >>= fun flat =>
        .ok { mesh := mesh, vd := vd, flat := flat, header := h } := by
  -- the model's `match x with | .error e => .error e | .ok a => ..` is `x >>= ..`: by cases on each stage
  unfold parse
  rw [hs]
  dsimp only
  split
  · rfl
  · split
    · rfl
    · cases valueDim F.first _ <;> [rfl; skip]
      cases readMesh _ <;> [rfl; skip]
      cases hnats _ "xnodes" "ynodes" "znodes" <;> [rfl; skip]
      show (match readBody c _ _ _ _ _ with | .error e => .error e | .ok flat => _) = readBody c _ _ _ _ _ >>= _
      cases readBody c _ _ _ _ _ <;> rfl

theorem parse_ok_iff {α} [DecidableEq α] (c : Codec α) (F : OvfFile α) (p : Parsed α) :
    parse c F = .ok p ↔ ∃ ws nodes, scan F.lines [] = some (p.header, ws) ∧ ws.isEmpty = false ∧
      (isBinary ws && (dataWidth ws).isNone) = false ∧ valueDim F.first p.header = .ok p.vd ∧
      readMesh p.header = .ok p.mesh ∧ hnats p.header "xnodes" "ynodes" "znodes" = .ok nodes ∧
      readBody c (isV2 F.first) ws F.body (natProd nodes) p.vd = .ok p.flat := by
  cases hs : scan F.lines [] with
  | none => rw [parse_no_data c F hs]; simp
  | some q =>
    obtain ⟨h, ws⟩ := q
    rw [parse_of_scan c F h ws hs]
    simp only [guard_ok_iff, bind_ok_iff, Except.ok.injEq, Option.some.injEq, Prod.mk.injEq, Bool.not_eq_true]
    constructor
    · rintro ⟨h0, h1, vd, hv, mesh, hm, nodes, hn, flat, hf, rfl⟩
      exact ⟨ws, nodes, ⟨rfl, rfl⟩, h0, h1, hv, hm, hn, hf⟩
    · rintro ⟨ws', nodes, ⟨rfl, rfl⟩, h0, h1, hv, hm, hn, hf⟩
      exact ⟨h0, h1, _, hv, _, hm, nodes, hn, _, hf, rfl⟩

/-- `parse` looks at the data section through `readBody` only, and only once the header is read -/
theorem parse_congr_body {α} [DecidableEq α] (c : Codec α) (F : OvfFile α) (body' : Body α)
    (hb : ∀ h ws vd nodes, scan F.lines [] = some (h, ws) → valueDim F.first h = .ok vd →
      hnats h "xnodes" "ynodes" "znodes" = .ok nodes →
      readBody c (isV2 F.first) ws body' (natProd nodes) vd = readBody c (isV2 F.first) ws F.body (natProd nodes) vd) :
    parse c ({ F with body := body' } : OvfFile α) = parse c F := by
  cases hs : scan F.lines [] with
  | none => rw [parse_no_data c F hs, parse_no_data c ({ F with body := body' } : OvfFile α) hs]
  | some q =>
    obtain ⟨h, ws⟩ := q
    rw [parse_of_scan c F h ws hs, parse_of_scan c ({ F with body := body' } : OvfFile α) h ws hs]
    split
    · rfl
    · split
      · rfl
      · exact bind_congr_ok fun vd hv => bind_congr_ok fun mesh _ => bind_congr_ok fun nodes hn => by
          rw [hb h ws vd nodes hs hv hn]

/-- `fromOvf` after `parse`: side-car file, reshape, the `Field` constructor's test of the labels -/
theorem fromOvf_eq {α} [DecidableEq α] (c : Codec α) (isWord : Char → Bool) (reserved : String → Bool)
    (F : OvfFile α) (side : Option (List (String × Region))) :
    fromOvf c isWord reserved F side = parse c F >>= fun p => loadSide p.mesh side >>= fun mesh =>
      unflatten mesh.n p.vd p.flat c.zero >>= fun arr =>
      if p.vd < 1 then .error .value
      else vdimsSetter reserved p.vd (labelsOf isWord p.header) >>= fun vd' =>
        .ok { mesh := mesh, nvdim := p.vd, arr := arr, vdims := vd', unit := unitOf p.header } := by
  unfold fromOvf
  cases parse c F with
  | error e => rfl
  | ok p =>
    show (match loadSide p.mesh side with | .error e => .error e | .ok mesh => _) = loadSide p.mesh side >>= _
    cases loadSide p.mesh side with
    | error e => rfl
    | ok mesh =>
      show (match unflatten mesh.n p.vd p.flat c.zero with | .error e => .error e | .ok arr => _)
        = unflatten mesh.n p.vd p.flat c.zero >>= _
      cases unflatten mesh.n p.vd p.flat c.zero with
      | error e => rfl
      | ok arr =>
        show (if _ then _ else _) = (if _ then _ else _)
        split
        · rfl
        · cases vdimsSetter reserved p.vd _ <;> rfl

theorem fromOvf_ok_iff {α} [DecidableEq α] (c : Codec α) (isWord : Char → Bool) (reserved : String → Bool)
    (F : OvfFile α) (side : Option (List (String × Region))) (g : OField α) :
    fromOvf c isWord reserved F side = .ok g ↔ ∃ p mesh arr vd', parse c F = .ok p ∧ loadSide p.mesh side = .ok mesh ∧
      unflatten mesh.n p.vd p.flat c.zero = .ok arr ∧ 1 ≤ p.vd ∧
      vdimsSetter reserved p.vd (labelsOf isWord p.header) = .ok vd' ∧
      g = { mesh := mesh, nvdim := p.vd, arr := arr, vdims := vd', unit := unitOf p.header } := by
  rw [fromOvf_eq]
  simp only [bind_ok_iff, guard_ok_iff, Except.ok.injEq, Nat.not_lt]
  constructor
  · rintro ⟨p, hp, mesh, hm, arr, ha, hvd, vd', hv, rfl⟩
    exact ⟨p, mesh, arr, vd', hp, hm, ha, hvd, hv, rfl⟩
  · rintro ⟨p, mesh, arr, vd', hp, hm, ha, hvd, hv, rfl⟩
    exact ⟨p, hp, mesh, hm, arr, ha, hvd, vd', hv, rfl⟩

theorem fromOvf_error_of_parse {α} [DecidableEq α] (c : Codec α) (isWord : Char → Bool)
    (reserved : String → Bool) (F : OvfFile α) (side : Option (List (String × Region))) (e : Err)
    (h : parse c F = .error e) : fromOvf c isWord reserved F side = .error e := by
  rw [fromOvf_eq, h]; rfl

theorem fromOvf_congr_parse {α} [DecidableEq α] (c : Codec α) (isWord : Char → Bool) (reserved : String → Bool)
    (F F' : OvfFile α) (side : Option (List (String × Region))) (h : parse c F' = parse c F) :
    fromOvf c isWord reserved F' side = fromOvf c isWord reserved F side := by
  rw [fromOvf_eq, fromOvf_eq, h]

theorem loadSide_n (m m' : Mesh) (side : Option (List (String × Region))) (h : loadSide m side = .ok m') :
    m'.n = m.n := by
  cases side with
  | none => simp [loadSide] at h; rw [← h]
  | some s =>
    simp only [loadSide, loadSub] at h
    split at h
    · cases h
    · injection h with h; rw [← h]

theorem unflatten_isOk_iff {α} (n : List Nat) (vd : Nat) (flat : List α) (d : α) :
    (∃ arr, unflatten n vd flat d = .ok arr) ↔ flat.length = natProd n * vd :=
  ⟨fun ⟨_, h⟩ => ((unflatten_eq_ok_iff n vd flat d _).mp h).1, fun h => ⟨_, (unflatten_eq_ok_iff n vd flat d _).mpr ⟨h, rfl⟩⟩⟩

theorem fromOvf_of_parse_side {α} [DecidableEq α] (c : Codec α) (isWord : Char → Bool) (reserved : String → Bool)
    (F : OvfFile α) (side : Option (List (String × Region))) (m m' : Mesh) (n : Nat → Nat)
    (hmn : m.n = [n 0, n 1, n 2]) (vd : Nat) (hvd : 0 < vd)
    (flat : List α) (h : List (String × HVal))
    (hp : parse c F = .ok { mesh := m, vd := vd, flat := flat, header := h })
    (hside : loadSide m side = .ok m')
    (hlen : flat.length = natProd [n 0, n 1, n 2] * vd)
    (vd' : Option (List String)) (hl : vdimsSetter reserved vd (labelsOf isWord h) = .ok vd') :
    ∃ g, fromOvf c isWord reserved F side = .ok g ∧ g.mesh = m' ∧ g.nvdim = vd ∧ g.vdims = vd' ∧
      g.unit = unitOf h ∧
      ∀ i j k cc, g.arr.get [i, j, k, cc] = flat.getD (pos (n 0) (n 1) vd i j k cc) c.zero := by
  have hu : unflatten m'.n vd flat c.zero
      = .ok ((NDA.ofList ([n 0, n 1, n 2].reverse ++ [vd]) flat c.zero).transpose [2, 1, 0, 3]) := by
    rw [loadSide_n _ _ _ hside, hmn]
    exact (unflatten_eq_ok_iff _ vd flat c.zero _).mpr ⟨hlen, rfl⟩
  exact ⟨_, (fromOvf_ok_iff c isWord reserved F side _).mpr ⟨_, _, _, _, hp, hside, hu, hvd, hl, rfl⟩, rfl, rfl, rfl, rfl,
    ofList_transpose_get _ _ _ _ _ _⟩

theorem fromOvf_of_parse {α} [DecidableEq α] (c : Codec α) (isWord : Char → Bool) (reserved : String → Bool)
    (F : OvfFile α) (lo hi : Nat → Rat) (n : Nat → Nat) (mu : String) (vd : Nat) (hvd : 0 < vd)
    (flat : List α) (h : List (String × HVal))
    (hp : parse c F = .ok { mesh := meshOf lo hi n mu, vd := vd, flat := flat, header := h })
    (hlen : flat.length = natProd [n 0, n 1, n 2] * vd)
    (vd' : Option (List String)) (hl : vdimsSetter reserved vd (labelsOf isWord h) = .ok vd') :
    ∃ g, fromOvf c isWord reserved F none = .ok g ∧ g.mesh = meshOf lo hi n mu ∧ g.nvdim = vd ∧ g.vdims = vd' ∧
      g.unit = unitOf h ∧
      ∀ i j k cc, g.arr.get [i, j, k, cc] = flat.getD (pos (n 0) (n 1) vd i j k cc) c.zero :=
  fromOvf_of_parse_side c isWord reserved F none _ _ n rfl vd hvd flat h hp rfl hlen vd' hl

/-! ## the header of a file, read -/

/-- the header loop and the header reads of `parse` succeed on `F`: dictionary `h`, words of the data line `ws`,
mesh `m`, `vd` components.  Nothing here depends on the data section. -/
structure Reads {α} (F : OvfFile α) (h : List (String × HVal)) (ws : List String) (m : Mesh) (vd : Nat) : Prop where
  hscan : scan F.lines [] = some (h, ws)
  hvd : valueDim F.first h = .ok vd
  hmesh : readMesh h = .ok m
  hnodes : hnats h "xnodes" "ynodes" "znodes" = .ok m.n

theorem Reads.of_header {α} {F : OvfFile α} {h ws vd} {lo hi cell : Nat → Rat} {n : Nat → Nat} {mu : String}
    (hs : scan F.lines [] = some (h, ws)) (hv : valueDim F.first h = .ok vd) (H : HeaderOf h lo hi cell n mu)
    (hlt : ∀ a, a < 3 → lo a < hi a) (hn : ∀ a, a < 3 → 0 < n a)
    (hc : ∀ a, a < 3 → cell a = (hi a - lo a) / (n a : Rat)) : Reads F h ws (meshOf lo hi n mu) vd :=
  ⟨hs, hv, readMesh_ok h lo hi cell n mu H hlt hn hc, H.nodes⟩

theorem Reads.body {α} {F : OvfFile α} {h ws m vd} (R : Reads F h ws m vd) (b : Body α) :
    Reads ({ F with body := b } : OvfFile α) h ws m vd :=
  ⟨R.hscan, R.hvd, R.hmesh, R.hnodes⟩

theorem parse_of_reads {α} [DecidableEq α] {F : OvfFile α} {h ws m vd} (R : Reads F h ws m vd) (c : Codec α)
    (hne : ws.isEmpty = false) (hw : isBinary ws = true → (dataWidth ws).isNone = false) :
    parse c F = readBody c (isV2 F.first) ws F.body (natProd m.n) vd >>= fun flat =>
      .ok { mesh := m, vd := vd, flat := flat, header := h } := by
  rw [parse_of_scan c F h ws R.hscan, hne, R.hvd, R.hmesh, R.hnodes]
  cases hb : isBinary ws
  · rfl
  · rw [hw hb]; rfl

/-- what an accepted file with a binary data section has passed: the general form of `binary_accepted_iff` (its `→` half) and of the
`*_rejected` theorems about binary files -/
theorem fromOvf_ok_bin_inv {α} [DecidableEq α] (c : Codec α) (isWord : Char → Bool) (reserved : String → Bool)
    (F : OvfFile α) (side : Option (List (String × Region))) (g : OField α) (bytes : List Byte)
    (hg : fromOvf c isWord reserved F side = .ok g) (hbody : F.body = .bin bytes) :
    ∃ h ws mesh vd w, scan F.lines [] = some (h, ws) ∧ readMesh h = .ok mesh ∧ valueDim F.first h = .ok vd ∧
      dataWidth ws = some w ∧ (w = 4 ∨ w = 8) ∧ w ≤ bytes.length ∧
      c.dec (isV2 F.first) w (bytes.take w) = c.magic w ∧ w * (1 + natProd mesh.n * vd) ≤ bytes.length ∧
      0 < vd ∧ ∃ vd', vdimsSetter reserved vd (labelsOf isWord h) = .ok vd' := by
  obtain ⟨p, mesh, arr, vd', hp, hm, ha, hvd1, hset, _⟩ := (fromOvf_ok_iff c isWord reserved F side g).mp hg
  obtain ⟨ws, nodes, hscan, _, _, hvd, hmesh, _, hflat⟩ := (parse_ok_iff c F p).mp hp
  rw [hbody, readBody_bin_ok_iff] at hflat
  obtain ⟨hle, hw48, hmag, _, _, hfl⟩ := (readBin_ok_iff c _ _ bytes _ _ _).mp hflat.2
  have hw : dataWidth ws = some ((dataWidth ws).getD 0) := by
    cases h : dataWidth ws with
    | none => rw [h] at hw48; simp at hw48
    | some w => rfl
  refine ⟨p.header, ws, p.mesh, p.vd, _, hscan, hmesh, hvd, hw, hw48, hle, hmag, ?_, hvd1, vd', hset⟩
  generalize (dataWidth ws).getD 0 = w at hw48 hle hfl
  have hlen : (fromfile c (isV2 F.first) w (bytes.drop w) (natProd nodes * p.vd)).length ≤ (bytes.drop w).length / w := by
    rw [fromfile_length]; exact Nat.min_le_right _ _
  rw [← hfl, List.length_drop] at hlen
  have hne := (unflatten_isOk_iff _ _ _ _).mp ⟨arr, ha⟩
  rw [loadSide_n _ _ _ hm] at hne
  have : natProd p.mesh.n * p.vd ≤ (bytes.length - w) / w := by omega
  rw [Nat.le_div_iff_mul_le (by omega)] at this
  rw [Nat.mul_add, Nat.mul_one, Nat.mul_comm w]
  omega

theorem fromOvf_ok_bin_reads {α} [DecidableEq α] (c : Codec α) (isWord : Char → Bool) (reserved : String → Bool)
    (F : OvfFile α) (side : Option (List (String × Region))) (g : OField α) (bytes : List Byte)
    (hg : fromOvf c isWord reserved F side = .ok g) (hbody : F.body = .bin bytes)
    {h ws m vd} (R : Reads F h ws m vd) (w : Nat) (hw : dataWidth ws = some w) :
    (w = 4 ∨ w = 8) ∧ c.dec (isV2 F.first) w (bytes.take w) = c.magic w ∧ 0 < vd ∧
      w * (1 + natProd m.n * vd) ≤ bytes.length ∧ ∃ vd', vdimsSetter reserved vd (labelsOf isWord h) = .ok vd' := by
  obtain ⟨h', ws', mesh, vd', w', hscan', hmesh, hvd', hw', h2, _, h3, hlen, h4, hset⟩ :=
    fromOvf_ok_bin_inv c isWord reserved F side g bytes hg hbody
  rw [R.hscan] at hscan'
  cases hscan'
  rw [R.hmesh] at hmesh; rw [R.hvd] at hvd'; rw [hw] at hw'
  cases hmesh; cases hvd'; cases hw'
  exact ⟨h2, h3, h4, hlen, hset⟩

/-- a binary data section shorter than check value + `prod(n)·valuedim` values, under a header that is read: the
file is rejected -/
theorem short_block_of_reads {α} [DecidableEq α] (c : Codec α) (isWord : Char → Bool) (reserved : String → Bool)
    (F : OvfFile α) (side : Option (List (String × Region))) (bytes : List Byte) (hbody : F.body = .bin bytes)
    {h ws m vd} (R : Reads F h ws m vd) (w : Nat) (hw : dataWidth ws = some w)
    (hshort : bytes.length < w * (1 + natProd m.n * vd)) :
    ∃ e, fromOvf c isWord reserved F side = .error e := by
  refine err_of_not_ok _ fun g hg => ?_
  exact absurd (fromOvf_ok_bin_reads c isWord reserved F side g bytes hg hbody R w hw).2.2.2.1 (Nat.not_le.mpr hshort)

/-! ## text data sections -/

/-- rows of `reshape((-1, nv))`, concatenated, are the flat payload again -/
theorem rows_flatten {α} (l : List α) (m nv : Nat) (hl : l.length = m * nv) (d : α) :
    (tab m fun r => tab nv fun k => l.getD (r * nv + k) d).flatten = l := by
  induction m generalizing l with
  | zero => simp [tab, List.length_eq_zero_iff.mp (by simpa using hl)]
  | succ m ih =>
    -- the first row is `l.take nv`, the other rows are those of `l.drop nv`
    have hlen : (l.drop nv).length = m * nv := by rw [List.length_drop, hl, Nat.succ_mul]; omega
    have h0 : (tab nv fun k => l.getD (0 * nv + k) d) = l.take nv := by
      rw [← tab_getD_self (l.take nv) d, List.length_take, Nat.min_eq_left (by rw [hl, Nat.succ_mul]; omega)]
      exact tab_congr _ _ _ fun k hk => by
        rw [Nat.zero_mul, Nat.zero_add, List.getD_eq_getElem?_getD, List.getD_eq_getElem?_getD, List.getElem?_take_of_lt hk]
    have hr : (fun r => tab nv fun k => l.getD ((r + 1) * nv + k) d)
        = fun r => tab nv fun k => (l.drop nv).getD (r * nv + k) d := by
      funext r
      exact tab_congr _ _ _ fun k _ => by
        rw [List.getD_eq_getElem?_getD, List.getD_eq_getElem?_getD, List.getElem?_drop]
        congr 2; ring
    rw [tab_succ_cons, List.flatten_cons, h0, hr, ih _ hlen, List.take_append_drop]

theorem padRow_length {α} (nan : α) (k : Nat) (r : List α) (h : r.length ≤ k) : (padRow nan k r).length = k := by
  unfold padRow; simp; omega

theorem padRow_full {α} (nan : α) (k : Nat) (r : List α) (h : r.length = k) : padRow nan k r = r := by
  unfold padRow; rw [h]; simp

/-- `read_csv(nrows=nodes)`: the first record fixes the number of columns; a record with a refused field or with more fields is an
error, a shorter one is filled up; a column beyond the components (mumax3's trailing blank) is dropped -/
theorem readText_ok_iff {α} (nan : α) (rows : List (List α)) (nodes vd : Nat) (flat : List α) :
    readText nan rows nodes vd = .ok flat ↔
      rows.take nodes ≠ [] ∧ (∀ r ∈ rows.take nodes, r ≠ []) ∧
      (∀ r ∈ rows.take nodes, r.length ≤ ((rows.take nodes).headD []).length) ∧
      flat = if ((rows.take nodes).headD []).length = vd + 1
        then (rows.take nodes).flatMap fun r => (padRow nan (vd + 1) r).take vd
        else (rows.take nodes).flatMap (padRow nan ((rows.take nodes).headD []).length) := by
  unfold readText
  generalize rows.take nodes = L
  -- the three guards, one conjunct each; the two return forms are one `if`
  rw [← apply_ite (Except.ok (ε := Err))]
  simp only [guard_ok_iff, Except.ok.injEq, List.isEmpty_iff, Bool.not_eq_true', Bool.not_eq_false, List.any_eq_true,
    List.all_eq_true, decide_eq_true_eq, not_exists, not_and, eq_comm (a := flat), ne_eq]

theorem readText_of_uniform {α} (nan : α) (rows : List (List α)) (nodes vd k : Nat) (hk0 : 0 < k)
    (hk : k = vd ∨ k = vd + 1) (hu : ∀ r ∈ rows, r.length = k) :
    readText nan rows nodes vd = if (rows.take nodes).isEmpty then .error .value
      else .ok ((rows.take nodes).flatMap fun r => r.take vd) := by
  have hu' : ∀ r ∈ rows.take nodes, r.length = k := fun r hr => hu r (List.mem_of_mem_take hr)
  by_cases he : rows.take nodes = []
  · -- no record: the first guard
    unfold readText
    rw [he]; rfl
  · rw [if_neg (by simpa using he)]
    have hhead : ((rows.take nodes).headD []).length = k := by
      cases hL : rows.take nodes with
      | nil => exact absurd hL he
      | cons r rs => exact hu' r (by rw [hL]; simp)
    refine (readText_ok_iff nan rows nodes vd _).mpr ⟨he, fun r hr e => ?_, fun r hr => by rw [hu' r hr, hhead], ?_⟩
    · have := hu' r hr
      rw [e] at this
      exact absurd this.symm hk0.ne'
    · -- no record is padded; a column beyond the components is cut off
      rw [hhead]
      rcases hk with rfl | rfl
      · rw [if_neg (by omega)]
        exact List.flatMap_congr fun x hx => by
          rw [padRow_full nan _ x (hu' x hx), List.take_of_length_le (by rw [hu' x hx])]
      · rw [if_pos rfl]
        exact List.flatMap_congr fun x hx => by rw [padRow_full nan _ x (hu' x hx)]

theorem readText_uniform {α} (nan : α) (rows : List (List α)) (m vd : Nat) (hm : 0 < m) (hlen : rows.length = m)
    (hvd : 0 < vd) (hu : ∀ r ∈ rows, r.length = vd) : readText nan rows m vd = .ok rows.flatten := by
  rw [readText_of_uniform nan rows m vd vd hvd (Or.inl rfl) hu, List.take_of_length_le (by omega),
    if_neg (by cases rows <;> simp at hlen ⊢; omega), List.flatten_eq_flatMap]
  exact congrArg _ (List.flatMap_congr fun x hx => List.take_of_length_le (by rw [hu x hx]))

/-! ## the data section of a file, carrying values -/

/-- the data section of `F` holds the values `vals`, `vd` per node, at width `w`: as the check value and the encoded
values (whatever follows them), or for `w = 0` as text rows of `vd` values each -/
inductive Carries {α} (c : Codec α) (F : OvfFile α) (vd : Nat) (vals : List α) : Nat → Prop
  | bin (w : Nat) (hw : w = 4 ∨ w = 8) (tail : List Byte)
      (h : F.body = .bin (c.enc (isV2 F.first) w (c.magic w) ++ (vals.flatMap (c.enc (isV2 F.first) w) ++ tail))) :
      Carries c F vd vals w
  | text (rows : List (List α)) (footer : List String) (h : F.body = .text rows footer)
      (hu : ∀ r ∈ rows, r.length = vd) (hf : rows.flatten = vals) : Carries c F vd vals 0

/-- **A header that is read and a data section that carries `vals`: `parse` returns `vals`, decoded** (`conv narrow w`:
float32-rounded at width 4).  The general form of the round trips: the files of `_to_ovf` and of the reference
writer are two instances. -/
theorem parse_values {α} [DecidableEq α] {F : OvfFile α} {h m vd} {w : Nat} (R : Reads F h (refWords w) m vd)
    (c : Codec α) (narrow : α → α) (L : w ≠ 0 → c.Lawful narrow) (vals : List α) (C : Carries c F vd vals w)
    (hvd : 0 < vd) (hpos : 0 < natProd m.n) (hcount : vals.length = natProd m.n * vd) :
    parse c F = .ok { mesh := m, vd := vd, flat := vals.map (conv narrow w), header := h } := by
  cases C with
  | bin w hw tail hb =>
    rw [parse_of_reads R c (by rw [refWords_bin w (by omega)]; rfl) (fun _ => by rw [dataWidth_refWords w hw]; rfl)]
    rw [hb, readBody_bin, isBinary_refWords w hw, if_pos rfl, dataWidth_refWords w hw, Option.getD_some]
    rw [← hcount, readBin_block c narrow (L (by omega)) _ w hw vals tail vd hvd (by rw [hcount]; exact Nat.mul_mod_left _ _)]
    rfl
  | text rows footer hb hu hf =>
    rw [parse_of_reads R c rfl (fun hb => absurd hb (by rw [isBinary_text]; exact Bool.false_ne_true))]
    rw [hb, readBody_text, isBinary_text, if_neg Bool.false_ne_true]
    have hlen : rows.length = natProd m.n := by
      have := flatMap_length_uniform rows id vd hu
      rw [← List.flatten_eq_flatMap] at this
      rw [hf, hcount] at this
      exact (Nat.eq_of_mul_eq_mul_right hvd this).symm
    rw [readText_uniform _ rows _ vd hpos hlen hvd hu, hf,
      List.map_congr_left (g := id) fun x _ => conv_zero_width narrow x, List.map_id]
    rfl

/-- mumax3 writes a blank at the end of every text row, which the csv reader sees as one more
(empty) column: a data section whose rows carry one extra trailing entry is read to the same
values -/
theorem readText_trailing_column {α} (nan : α) (rows : List (List α)) (nodes vd : Nat) (x : List α → α)
    (hvd : 0 < vd) (hu : ∀ r ∈ rows, r.length = vd) :
    readText nan (rows.map fun r => r ++ [x r]) nodes vd = readText nan rows nodes vd := by
  rw [readText_of_uniform nan rows nodes vd vd hvd (Or.inl rfl) hu,
    readText_of_uniform nan _ nodes vd (vd + 1) (by omega) (Or.inr rfl) (fun r hr => by
      obtain ⟨z, hz, rfl⟩ := List.mem_map.mp hr
      simp [hu z hz]), ← List.map_take, List.flatMap_map]
  have hu' : ∀ r ∈ rows.take nodes, r.length = vd := fun r hr => hu r (List.mem_of_mem_take hr)
  generalize rows.take nodes = L at hu'
  cases L with
  | nil => rfl
  | cons r rs =>
    simp only [List.map_cons, List.isEmpty_cons, Bool.false_eq_true, if_false]
    exact congrArg _ (List.flatMap_congr fun y hy => List.take_append_of_le_length (by rw [hu' y hy]))

/-- reading a text file depends on its data section only through what `readText` makes of the
rows for the `valuedim` of the header -/
theorem fromOvf_text_congr {α} [DecidableEq α] (c : Codec α) (isWord : Char → Bool) (reserved : String → Bool)
    (F : OvfFile α) (rows rows' : List (List α)) (footer footer' : List String) (hb : F.body = .text rows footer)
    (hrows : ∀ h ws vd nodes, scan F.lines [] = some (h, ws) → valueDim F.first h = .ok vd →
      readText c.nan rows' nodes vd = readText c.nan rows nodes vd)
    (side : Option (List (String × Region))) :
    fromOvf c isWord reserved ({ F with body := .text rows' footer' } : OvfFile α) side
      = fromOvf c isWord reserved F side := by
  refine fromOvf_congr_parse c isWord reserved F _ side (parse_congr_body c F _ fun h ws vd nodes hs hv _ => ?_)
  rw [hb, readBody_text, readBody_text, hrows h ws vd _ hs hv]

/-! ## the reader sees the header lines only through the dictionary -/

/-- two header dictionaries that answer every lookup alike -/
def HEquiv (h h' : List (String × HVal)) : Prop := ∀ k, hget h k = hget h' k

theorem hnum_congr {h h'} (E : HEquiv h h') (k : String) : hnum h k = hnum h' k := by unfold hnum; rw [E k]
theorem hnat_congr {h h'} (E : HEquiv h h') (k : String) : hnat h k = hnat h' k := by unfold hnat; rw [E k]
theorem hnums_congr {h h'} (E : HEquiv h h') (a b c : String) : hnums h a b c = hnums h' a b c := by
  unfold hnums; rw [hnum_congr E a, hnum_congr E b, hnum_congr E c]
theorem hnats_congr {h h'} (E : HEquiv h h') (a b c : String) : hnats h a b c = hnats h' a b c := by
  unfold hnats; rw [hnat_congr E a, hnat_congr E b, hnat_congr E c]
theorem readMesh_congr {h h'} (E : HEquiv h h') : readMesh h = readMesh h' := by
  unfold readMesh
  rw [hnums_congr E "xmin" "ymin" "zmin", hnums_congr E "xmax" "ymax" "zmax",
    hnums_congr E "xstepsize" "ystepsize" "zstepsize", E "meshunit"]
theorem valueDim_congr {h h'} (E : HEquiv h h') (first : String) : valueDim first h = valueDim first h' := by
  unfold valueDim; rw [hnat_congr E "valuedim"]
theorem labelsOf_congr {h h'} (E : HEquiv h h') (isWord : Char → Bool) : labelsOf isWord h = labelsOf isWord h' := by
  unfold labelsOf; rw [E "valuelabels"]
theorem unitOf_congr {h h'} (E : HEquiv h h') : unitOf h = unitOf h' := by
  unfold unitOf; rw [E "valueunits"]

theorem fromOvf_congr_header {α} [DecidableEq α] (c : Codec α) (isWord : Char → Bool) (reserved : String → Bool)
    (F F' : OvfFile α) (h h' : List (String × HVal)) (ws : List String)
    (hs : scan F.lines [] = some (h, ws)) (hs' : scan F'.lines [] = some (h', ws)) (E : HEquiv h' h)
    (hf : F'.first = F.first) (hb : F'.body = F.body) (side : Option (List (String × Region))) :
    fromOvf c isWord reserved F' side = fromOvf c isWord reserved F side := by
  rw [fromOvf_eq, fromOvf_eq, parse_of_scan c F h ws hs, parse_of_scan c F' h' ws hs', hf, hb, valueDim_congr E,
    readMesh_congr E, hnats_congr E]
  split
  · rfl
  split
  · rfl
  -- the two sides differ in the dictionary handed on, which is looked at through `labelsOf` and `unitOf` only
  cases valueDim F.first h <;> [rfl; skip]
  cases readMesh h <;> [rfl; skip]
  cases hnats h "xnodes" "ynodes" "znodes" <;> [rfl; skip]
  dsimp only [bind, Except.bind]
  cases readBody c (isV2 F.first) ws F.body _ _ <;> [rfl; skip]
  dsimp only
  rw [labelsOf_congr E, unitOf_congr E]

/-- the `key: value` pairs of header lines, in file order -/
def kvs : List HLine → List (String × HVal)
  | [] => []
  | .kv k v :: ls => (k, v) :: kvs ls
  | _ :: ls => kvs ls

theorem kvs_append (l l' : List HLine) : kvs (l ++ l') = kvs l ++ kvs l' := by
  induction l with
  | nil => rfl
  | cons x l ih => cases x <;> simp [kvs, ih]

theorem scan_kvs (ls : List HLine) (ws : List String) (acc : List (String × HVal))
    (h : ∀ l ∈ ls, ∀ w, l ≠ .beginData w) :
    scan (ls ++ [.beginData ws]) acc = some ((kvs ls).reverse ++ acc, ws) := by
  induction ls generalizing acc with
  | nil => rfl
  | cons l ls ih =>
    cases l with
    | kv k v =>
      show scan (ls ++ [.beginData ws]) ((k, v) :: acc) = _
      rw [ih _ (fun x hx => h x (by simp [hx]))]
      simp [kvs]
    | other => exact ih _ (fun x hx => h x (by simp [hx]))
    | beginData w => exact absurd rfl (h _ (by simp) w)

theorem scan_mem (ls : List HLine) (acc h : List (String × HVal)) (ws : List String) (hs : scan ls acc = some (h, ws)) :
    ∀ p ∈ h, p ∈ acc ∨ HLine.kv p.1 p.2 ∈ ls := by
  induction ls generalizing acc with
  | nil => cases hs
  | cons l ls ih =>
    intro p hp
    cases l with
    | beginData w => cases hs; exact Or.inl hp
    | other => exact (ih acc hs p hp).imp_right (List.mem_cons_of_mem _)
    | kv k v =>
      rcases ih ((k, v) :: acc) hs p hp with h0 | h1
      · rcases List.mem_cons.mp h0 with rfl | h0
        · exact Or.inr List.mem_cons_self
        · exact Or.inl h0
      · exact Or.inr (List.mem_cons_of_mem _ h1)

theorem hget_mem (h : List (String × HVal)) (k : String) (v : HVal) (hv : hget h k = .ok v) : (k, v) ∈ h := by
  unfold hget at hv
  split at hv
  · rename_i p hp
    cases hv
    have hk : p.1 = k := by simpa using List.find?_some hp
    exact hk ▸ List.mem_of_find?_eq_some hp
  · cases hv

theorem kvs_perm (ls ls' : List HLine) (hp : ls'.Perm ls) : (kvs ls').Perm (kvs ls) := by
  induction hp with
  | nil => exact List.Perm.refl _
  | cons x _ ih => cases x <;> simp [kvs, ih]
  | swap x y l => cases x <;> cases y <;> simp [kvs, List.Perm.swap]
  | trans _ _ ih1 ih2 => exact ih1.trans ih2

theorem find_unique (l : List (String × HVal)) (hnd : (l.map Prod.fst).Nodup) (p : String × HVal) (hp : p ∈ l) :
    l.find? (fun q => q.1 == p.1) = some p := by
  induction l with
  | nil => cases hp
  | cons q l ih =>
    simp only [List.map_cons, List.nodup_cons] at hnd
    rcases List.mem_cons.mp hp with rfl | hp
    · simp
    · have : q.1 ≠ p.1 := by
        intro e; apply hnd.1; rw [e]; exact List.mem_map_of_mem hp
      have hb : (q.1 == p.1) = false := by simpa using this
      rw [List.find?_cons, hb]
      exact ih hnd.2 hp

theorem hget_perm (l l' : List (String × HVal)) (hp : l'.Perm l) (hnd : (l.map Prod.fst).Nodup) : HEquiv l' l := by
  intro k
  have hnd' : (l'.map Prod.fst).Nodup := (hp.map Prod.fst).nodup_iff.mpr hnd
  unfold hget
  cases hf : l.find? (fun p => p.1 == k) with
  | none =>
    have : l'.find? (fun p => p.1 == k) = none := by
      rw [List.find?_eq_none] at hf ⊢
      intro x hx; exact hf x (hp.mem_iff.mp hx)
    rw [this]
  | some p =>
    have hm := List.mem_of_find?_eq_some hf
    have hk : p.1 = k := by simpa using List.find?_some hf
    subst hk
    rw [find_unique l' hnd' p (hp.mem_iff.mpr hm)]

/-! ## the binary reader never looks beyond check value and values -/

theorem fromfile_take {α} (c : Codec α) (le : Bool) (w : Nat) (hw : 0 < w) (b : List Byte) (t count : Nat)
    (ht : w * (1 + count) ≤ t) (hl : t ≤ b.length) :
    fromfile c le w ((b.take t).drop w) count = fromfile c le w (b.drop w) count := by
  unfold fromfile
  have e1 : min count (((b.take t).drop w).length / w) = count := by
    rw [List.length_drop, List.length_take, Nat.min_eq_left hl]
    apply Nat.min_eq_left
    rw [Nat.le_div_iff_mul_le hw]
    have : w * (1 + count) = w + count * w := by ring
    omega
  have e2 : min count ((b.drop w).length / w) = count := by
    rw [List.length_drop]
    apply Nat.min_eq_left
    rw [Nat.le_div_iff_mul_le hw]
    have : w * (1 + count) = w + count * w := by ring
    omega
  rw [e1, e2]
  unfold tab
  apply List.map_congr_left
  intro i hi
  have hi' : i < count := by simpa using hi
  congr 1
  -- item `i` lies before the cut
  have : w * (1 + count) = w + count * w := by ring
  have : i * w + w ≤ count * w := by
    have := Nat.mul_le_mul_right w (Nat.succ_le_of_lt hi')
    rw [Nat.succ_mul] at this; exact this
  rw [List.drop_drop, List.drop_drop, List.drop_take, List.take_take]
  congr 1
  omega

/-- a width other than 4 and 8 is refused by the first guard or the second -/
theorem readBin_bad_width {α} [DecidableEq α] (c : Codec α) (le : Bool) (w : Nat) (b : List Byte) (count vd : Nat)
    (hw : ¬ (w = 4 ∨ w = 8)) : readBin c le w b count vd = .error .value := by
  unfold readBin
  by_cases h1 : b.length < w
  · rw [if_pos h1]
  · rw [if_neg h1, if_pos (by omega)]

theorem readBin_take {α} [DecidableEq α] (c : Codec α) (le : Bool) (w : Nat) (b : List Byte) (count vd t : Nat)
    (ht : w * (1 + count) ≤ t) :
    readBin c le w (b.take t) count vd = readBin c le w b count vd := by
  by_cases hl : b.length ≤ t
  · rw [List.take_of_length_le hl]
  · have hl' : t ≤ b.length := by omega
    by_cases hw : w = 4 ∨ w = 8
    · have hw0 : 0 < w := by rcases hw with rfl | rfl <;> omega
      have hwt : w ≤ t := by
        have : w * (1 + count) = w + w * count := by ring
        omega
      unfold readBin
      rw [List.length_take, Nat.min_eq_left hl', List.take_take, Nat.min_eq_left hwt,
        fromfile_take c le w hw0 b t count ht hl']
      have a1 : ¬ (t < w) := by omega
      have a2 : ¬ (b.length < w) := by omega
      rw [if_neg a1, if_neg a2]
    · rw [readBin_bad_width c le w _ count vd hw, readBin_bad_width c le w _ count vd hw]

/-- a binary file reads the same when everything after check value + `prod(nodes)·valuedim`
values is cut away (or replaced): the footer is never looked at -/
theorem fromOvf_cut {α} [DecidableEq α] (c : Codec α) (isWord : Char → Bool) (reserved : String → Bool)
    (F : OvfFile α) (b : List Byte) (hb : F.body = .bin b) (t : Nat)
    (hcut : ∀ h ws vd nodes, scan F.lines [] = some (h, ws) → valueDim F.first h = .ok vd →
      hnats h "xnodes" "ynodes" "znodes" = .ok nodes → (dataWidth ws).getD 0 * (1 + natProd nodes * vd) ≤ t)
    (side : Option (List (String × Region))) :
    fromOvf c isWord reserved ({ F with body := .bin (b.take t) } : OvfFile α) side
      = fromOvf c isWord reserved F side := by
  refine fromOvf_congr_parse c isWord reserved F _ side (parse_congr_body c F _ fun h ws vd nodes hs hv hn => ?_)
  rw [hb, readBody_bin, readBody_bin, readBin_take c _ _ b _ vd t (hcut h ws vd nodes hs hv hn)]

theorem hnums_ok_inv (h : List (String × HVal)) (a b c : String) (l : List Rat) (hl : hnums h a b c = .ok l) :
    (∃ q, hnum h a = .ok q) ∧ (∃ q, hnum h b = .ok q) ∧ (∃ q, hnum h c = .ok q) := by
  unfold hnums at hl
  simp only [bind_ok_iff] at hl
  obtain ⟨x, hx, y, hy, z, hz, _⟩ := hl
  exact ⟨⟨x, hx⟩, ⟨y, hy⟩, ⟨z, hz⟩⟩

theorem hnats_ok_inv (h : List (String × HVal)) (a b c : String) (l : List Nat) (hl : hnats h a b c = .ok l) :
    (∃ q, hnat h a = .ok q) ∧ (∃ q, hnat h b = .ok q) ∧ (∃ q, hnat h c = .ok q) := by
  unfold hnats at hl
  simp only [bind_ok_iff] at hl
  obtain ⟨x, hx, y, hy, z, hz, _⟩ := hl
  exact ⟨⟨x, hx⟩, ⟨y, hy⟩, ⟨z, hz⟩⟩

end DFV.C09
