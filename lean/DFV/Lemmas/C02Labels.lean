import DFV.Lemmas.C02Accept
/-! C02: component labels — the `vdims` setter — and the two operations that involve them: component
access and the constructor. -/
namespace DFV.C02
open DFV

/-- what the `vdims` setter accepts, and what it returns: an empty list removes the labels; any other list
must have `nv` pairwise different entries, none of them the name of an attribute -/
theorem vdimsSet_some_ok_iff (reserved : List String) (nv : Nat) (vs : List String) (r : Option (List String)) :
    vdimsSet reserved nv (some vs) = .ok r ↔
      (vs = [] ∧ r = none) ∨
      (vs ≠ [] ∧ vs.length = nv ∧ hasDup vs = false ∧ (∀ c ∈ vs, c ∉ reserved) ∧ r = some vs) := by
  have hres : (vs.any fun c => reserved.contains c) = true ↔ ¬ ∀ c ∈ vs, c ∉ reserved := by
    simp [List.any_eq_true]
  by_cases h0 : vs = []
  · subst h0
    exact ⟨fun h => Or.inl ⟨rfl, (Except.ok.inj h).symm⟩,
      fun h => h.elim (fun h => by rw [h.2]; rfl) fun h => absurd rfl h.1⟩
  · have h0' : ¬ vs.length = 0 := fun e => h0 (List.eq_nil_of_length_eq_zero e)
    simp only [vdimsSet, if_neg h0', guard_ok_iff, hres, not_not, Bool.not_eq_true, Except.ok.injEq, h0, false_and,
      false_or, ne_eq, not_false_eq_true, true_and, eq_comm (a := r)]

theorem defaultLabels_spec (nv : Nat) :
    (nv = 2 → defaultLabels nv = some ["x", "y"]) ∧ (nv = 3 → defaultLabels nv = some ["x", "y", "z"]) ∧
    (nv ≤ 1 → defaultLabels nv = none) ∧
    (3 < nv → ∃ vs, defaultLabels nv = some vs ∧ vs.length = nv ∧ ∀ k, k < nv → vs.getD k "" = s!"v{k}") := by
  refine ⟨fun h => by subst h; rfl, fun h => by subst h; rfl, fun h => ?_, fun h => ?_⟩
  · unfold defaultLabels
    have h1 : ¬ (2 ≤ nv ∧ nv ≤ 3) := by omega
    have h2 : ¬ 3 < nv := by omega
    simp [h1, h2]
  · unfold defaultLabels
    have h1 : ¬ (2 ≤ nv ∧ nv ≤ 3) := by omega
    simp only [h1, if_false, h, if_true]
    refine ⟨_, rfl, by simp, fun k hk => ?_⟩
    simp [List.getD_eq_getElem?_getD, hk]

/-! ### component access and the constructor -/

variable {V : Type} [Inhabited V]

/-- the constructor accepts the column of component `k` as a scalar field's value, and stores it -/
theorem mk?_col (isZero : V → Bool) (f : VF V) (k : Nat) :
    ∃ b, VF.mk? isZero f.mesh 1 (.leaf (.arr ⟨f.mesh.n ++ [1], fun j => f.data.get (j.dropLast ++ [k])⟩)) none =
        .ok ⟨f.mesh, 1, b, none⟩ ∧
      b.shape = f.mesh.n ++ [1] ∧ ∀ i, inRange f.mesh.n i = true → b.get (i ++ [0]) = f.data.get (i ++ [k]) := by
  obtain ⟨a, ha, _, hag⟩ := asLeaf_arr_full isZero
    ⟨f.mesh.n ++ [1], fun j => f.data.get (j.dropLast ++ [k])⟩ f.mesh 1 rfl
  obtain ⟨b, hb, hbs, hbg⟩ := updateValues_of_ok isZero (.leaf (.arr _)) f.mesh 1 a ha
  refine ⟨b, by unfold VF.mk?; rw [hb], hbs, fun i hi => ?_⟩
  have hj : inRange (f.mesh.n ++ [1]) (i ++ [0]) = true := inRange_snoc_of hi Nat.one_pos
  rw [hbg _ hj, hag _ hj]
  show f.data.get ((i ++ [0]).dropLast ++ [k]) = _
  rw [List.dropLast_concat]

/-- component access in one statement; `comp_ok` is its ⇒ with `mk?_col` -/
theorem comp_eq_ok_iff (isZero : V → Bool) (f : VF V) (label : String) (g : VF V) :
    f.comp isZero label = .ok g ↔ ∃ vs, f.vdims = some vs ∧ ∃ k, indexOf? vs label = some k ∧
      VF.mk? isZero f.mesh 1 (.leaf (.arr ⟨f.mesh.n ++ [1], fun j => f.data.get (j.dropLast ++ [k])⟩)) none = .ok g := by
  unfold VF.comp
  cases f.vdims with
  | none => exact ⟨nofun, fun ⟨_, h, _⟩ => nomatch h⟩
  | some vs =>
    simp only [Option.some.injEq, exists_eq_left']
    cases indexOf? vs label with
    | none => exact ⟨nofun, fun ⟨_, h, _⟩ => nomatch h⟩
    | some k => simp only [Option.some.injEq, exists_eq_left']

theorem comp_ok (isZero : V → Bool) (f : VF V) (label : String) (g : VF V) (h : f.comp isZero label = .ok g) :
    ∃ vs k, f.vdims = some vs ∧ indexOf? vs label = some k ∧ g.mesh = f.mesh ∧ g.nvdim = 1 ∧
      g.data.shape = f.mesh.n ++ [1] ∧
      ∀ i, inRange f.mesh.n i = true → g.data.get (i ++ [0]) = f.data.get (i ++ [k]) := by
  obtain ⟨vs, hv, k, hk, hg⟩ := (comp_eq_ok_iff isZero f label g).mp h
  obtain ⟨b, hb, hbs, hbg⟩ := mk?_col isZero f k
  cases hb.symm.trans hg
  exact ⟨vs, k, hv, hk, rfl, rfl, hbs, hbg⟩

/-- the constructor in one statement; `new?_ok` is its ⇒ with `updateValues_ok_iff` -/
theorem new?_eq_ok_iff (isZero : V → Bool) (reserved : List String) (m : Mesh) (nv : Nat) (s : Spec V)
    (vdims : Option (List String)) (g : VF V) :
    VF.new? isZero reserved m nv s vdims = .ok g ↔
      1 ≤ nv ∧ ∃ b, updateValues isZero s m nv = .ok b ∧ ∃ vd, vdimsSet reserved nv vdims = .ok vd ∧
        g = ⟨m, nv, b, vd⟩ := by
  unfold VF.new?
  rw [guard_ok_iff, Nat.not_lt]
  cases updateValues isZero s m nv with
  | error e => exact and_congr_right fun _ => ⟨nofun, fun ⟨_, h, _⟩ => nomatch h⟩
  | ok b =>
    simp only [Except.ok.injEq, exists_eq_left']
    cases vdimsSet reserved nv vdims with
    | error e => exact and_congr_right fun _ => ⟨nofun, fun ⟨_, h, _⟩ => nomatch h⟩
    | ok vd => simp only [Except.ok.injEq, exists_eq_left', eq_comm]

theorem new?_ok (isZero : V → Bool) (reserved : List String) (m : Mesh) (nv : Nat) (s : Spec V)
    (vdims : Option (List String)) (g : VF V) (h : VF.new? isZero reserved m nv s vdims = .ok g) :
    1 ≤ nv ∧ ∃ a vd, asArray isZero s m nv = .ok a ∧ vdimsSet reserved nv vdims = .ok vd ∧
      g.mesh = m ∧ g.nvdim = nv ∧ g.vdims = vd ∧ g.data.shape = m.n ++ [nv] ∧
      ∀ j, inRange (m.n ++ [nv]) j = true → g.data.get j = a.get j := by
  obtain ⟨hnv, b, hb, vd, hvd, rfl⟩ := (new?_eq_ok_iff isZero reserved m nv s vdims g).mp h
  obtain ⟨a, ha, _⟩ := (updateValues_ok_iff isZero s m nv b).mp hb
  obtain ⟨b', hb', hbs, hbg⟩ := updateValues_of_ok isZero s m nv a ha
  cases hb.symm.trans hb'
  exact ⟨hnv, a, vd, ha, hvd, rfl, rfl, rfl, hbs, hbg⟩

end DFV.C02
