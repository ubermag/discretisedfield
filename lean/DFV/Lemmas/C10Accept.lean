import DFV.Lemmas.C10Series
/-! C10: the readers on ANY file content — `_RegionIO_HDF5._h5_load`, the corner table, `_MeshIO_HDF5._h5_load`,
`_h5_load_field` taken apart into the constructor calls they make (`meshLoad_eq_ok`, `fieldLoadAt_eq_ok`); whatever they return has
`Inv` (`regionLoad_inv`, `meshLoad_inv`, `fieldLoadAt_inv`); exactly which groups they accept (`…_ok_iff`; defines `H5Region.region`,
`H5Region.okB`, `rowOkB`, `H5Mesh.Accepted`, `H5Field.Accepted`). -/
namespace DFV.C10
open DFV

/-! ## the region reader -/

/-- `Region(**val)` for stored attributes with ordered corners: the two corner lists in their
common dtype, the entry's own names, units, tolerance -/
def H5Region.region (h : H5Region) : TReg :=
  { pmin := h.pmin.cast (NK.join h.pmin.kind h.pmax.kind), pmax := h.pmax.cast (NK.join h.pmin.kind h.pmax.kind),
    dims := h.dims, units := h.units, tol := h.tol }

/-- the stored region attributes `Region(pmin=…, pmax=…, dims=…, units=…)` accepts -/
def H5Region.okB (h : H5Region) : Bool :=
  decide (h.pmax.length = h.pmin.length) && decide (0 < h.pmin.length) &&
  (allLt h.pmin.length fun a => decide (h.pmin.vals.getD a 0 < h.pmax.vals.getD a 0)) &&
  decide (h.dims.length = h.pmin.length) && !hasDup h.dims && decide (h.units.length = h.pmin.length)

theorem H5Region.ok_iff (h : H5Region) : h.okB = true ↔
    h.pmax.length = h.pmin.length ∧ 0 < h.pmin.length ∧
    (∀ a, a < h.pmin.length → h.pmin.vals.getD a 0 < h.pmax.vals.getD a 0) ∧
    h.dims.length = h.pmin.length ∧ hasDup h.dims = false ∧ h.units.length = h.pmin.length := by
  simp only [H5Region.okB, Bool.and_eq_true, decide_eq_true_eq, allLt_decide, Bool.not_eq_true', and_assoc]

/-- **`_RegionIO_HDF5._h5_load` accepts exactly the well-formed attribute sets**, and returns
the region they describe -/
theorem regionLoad_ok_iff (h : H5Region) (r : TReg) : regionLoad h = .ok r ↔ h.okB = true ∧ r = h.region := by
  rw [regionLoad, TReg.initKw_eq_ok, H5Region.ok_iff]
  constructor
  · rintro ⟨hlt, hinit⟩
    obtain ⟨hl, h0, d, u, hd, hu, _, _⟩ := TReg.init_eq_ok.mp hinit
    obtain ⟨d1, d2, rfl⟩ := T.dimsOk_some_inv _ _ _ hd
    obtain ⟨u1, rfl⟩ := T.unitsOk_some_inv _ _ _ hu
    rw [init_ordered_gen _ _ _ _ _ _ _ h0 hl hd hu hlt] at hinit
    cases hinit
    exact ⟨⟨hl, h0, hlt, d1, d2, u1⟩, rfl⟩
  · rintro ⟨⟨hl, h0, hlt, hd, hdup, hu⟩, rfl⟩
    exact ⟨hlt, init_ordered_gen _ _ _ _ _ _ _ h0 hl (T.dimsOk_some _ _ hd hdup) (T.unitsOk_some _ _ hu) hlt⟩

theorem regionLoad_inv {h : H5Region} {r : TReg} (hl : regionLoad h = .ok r) : r.Inv :=
  TReg.init_inv (TReg.initKw_eq_ok.mp hl).2

theorem H5Region.region_inv (h : H5Region) (hok : h.okB = true) : h.region.Inv :=
  regionLoad_inv ((regionLoad_ok_iff h h.region).mpr ⟨hok, rfl⟩)

theorem H5Region.region_ndim (h : H5Region) : h.region.ndim = h.pmin.length :=
  NumArr.cast_length _ _

/-! ## the corner table reader -/

/-- one row of the corner table describes a region: its two halves have the same positive length
and differ in every component -/
def rowOkB (ndim : Nat) (row : NumArr) : Bool :=
  decide (0 < (row.take ndim).length) && decide ((row.drop ndim).length = (row.take ndim).length) &&
  allLt (row.take ndim).length fun a => decide ((row.take ndim).vals.getD a 0 ≠ (row.drop ndim).vals.getD a 0)

/-- `Region(p1=…, p2=…)` with default names and units accepts any two equally long, non-empty
corner arrays that differ in every component -/
theorem init_plain_ok_iff (p1 p2 : NumArr) (tol : Num) :
    (∃ r, TReg.init p1 p2 none none tol = .ok r) ↔
      0 < p1.length ∧ p2.length = p1.length ∧ ∀ a, a < p1.length → p1.vals.getD a 0 ≠ p2.vals.getD a 0 := by
  simp only [TReg.init_eq_ok, Region.dimsOk, Region.unitsOk, Except.ok.injEq, exists_and_left, exists_eq_left', exists_eq,
    and_true]
  exact and_left_comm

theorem rowRegion_ok_iff (ndim : Nat) (p : String × NumArr) : (∃ q, rowRegion ndim p = .ok q) ↔ rowOkB ndim p.2 = true := by
  rw [rowRegion, exists_bind_pure_ok, init_plain_ok_iff]
  simp only [rowOkB, Bool.and_eq_true, decide_eq_true_eq, allLt_decide, and_assoc]

theorem subsLoad_ok_iff (ndim : Nat) (s : H5Subs) :
    (∃ ss, subsLoad ndim (some s) = .ok ss) ↔ ∀ p ∈ List.zip s.names s.rows, rowOkB ndim p.2 = true := by
  rw [subsLoad, exists_bind_pure_ok, mapE_ok_iff]
  exact forall₂_congr fun p _ => rowRegion_ok_iff ndim p

/-- the candidates the HDF5 reader builds from the corner table are valid regions with distinct names -/
theorem subsLoad_cands_inv (ndim : Nat) (s : Option H5Subs) (ss : List (String × TReg)) (h : subsLoad ndim s = .ok ss) :
    hasDup (ss.map fun p => p.1) = false ∧ ∀ p ∈ ss, p.2.Inv := by
  cases s with
  | none => cases h; exact ⟨rfl, fun p hp => (by cases hp)⟩
  | some s =>
    obtain ⟨l, hl, h⟩ := bind_ok_iff'.mp h
    cases h
    refine ⟨hasDup_keys_dictOf l, fun p hp => ?_⟩
    obtain ⟨a, _, hrow⟩ := mapE_ok_mem _ _ _ hl p (mem_dictOf l p hp)
    obtain ⟨s', hs', hp'⟩ := bind_ok_iff'.mp hrow
    cases hp'
    exact TReg.init_inv hs'

/-! ## the mesh reader -/

/-- `_MeshIO_HDF5._h5_load`, taken apart: the region, the candidates, the constructor -/
theorem meshLoad_eq_ok {h : H5Mesh} {m : TMesh} :
    meshLoad h = .ok m ↔ ∃ r ss, regionLoad h.region = .ok r ∧ subsLoad r.ndim h.subs = .ok ss ∧ TMesh.init r h.n h.bc ss = .ok m := by
  simp only [meshLoad, bind_ok_iff']
  exact ⟨fun ⟨r, hr, ss, hss, hm⟩ => ⟨r, ss, hr, hss, hm⟩, fun ⟨r, ss, hr, hss, hm⟩ => ⟨r, hr, ss, hss, hm⟩⟩

/-- **`_MeshIO_HDF5._h5_load` establishes the mesh invariant**, for every group it accepts -/
theorem meshLoad_inv (h : H5Mesh) (m : TMesh) (hm : meshLoad h = .ok m) : m.Inv := by
  obtain ⟨r, ss, hr, hss, hm⟩ := meshLoad_eq_ok.mp hm
  obtain ⟨hnd, hinv⟩ := subsLoad_cands_inv _ _ _ hss
  exact TMesh.init_inv r (regionLoad_inv hr) _ _ ss hinv hnd m hm

theorem meshLoad_n (h : H5Mesh) (m : TMesh) (hm : meshLoad h = .ok m) : m.n = h.n.map Int.toNat := by
  obtain ⟨r, ss, _, _, hm⟩ := meshLoad_eq_ok.mp hm
  obtain ⟨_, _, _, _, _, rfl⟩ := TMesh.init_eq_ok.mp hm
  rfl

/-- **whatever an HDF5 file contains, the loaded subregions went through the setter**: they are
the setter's result on some candidate list, every candidate — re-stamped with the loaded mesh
region's names, units and tolerance factor — passed the three tests of the loaded mesh, and the
stored subregions are the re-stamped candidates -/
theorem meshLoad_cands_tested (h : H5Mesh) (g : TMesh) (hg : meshLoad h = .ok g) :
    ∃ cands : List (String × TReg), setSubs g.region g.n cands = .ok g.subs ∧
      (∀ c ∈ cands, subAccept g.region.toRegion g.n (stampC g.region c.2).toRegion = true) ∧
      g.subs = cands.map (restampT g.region) := by
  obtain ⟨r, ss, hr, hss, hm⟩ := meshLoad_eq_ok.mp hg
  obtain ⟨_, _, _, ss', hset, rfl⟩ := TMesh.init_eq_ok.mp hm
  have hinv := (subsLoad_cands_inv _ _ _ hss).2
  obtain ⟨hacc, heq⟩ := (setSubs_eq_ok r (regionLoad_inv hr) _ ss ss' hinv).mp hset
  exact ⟨ss, hset, fun c hc => (candOk_eq_stampC r (regionLoad_inv hr) _ c.2 (hinv c hc)).symm.trans (hacc c hc), heq⟩

/-- the mesh group the reader accepts -/
def H5Mesh.Accepted (h : H5Mesh) : Prop :=
  h.region.okB = true ∧
  (∃ ss, subsLoad h.region.pmin.length h.subs = .ok ss ∧
    ∀ p ∈ ss, candOk h.region.region (h.n.map Int.toNat) p.2 = true) ∧
  h.n.length = h.region.pmin.length ∧ (∀ k ∈ h.n, 0 < k) ∧ Mesh.bcOk h.region.dims h.bc.toLower = true

theorem meshLoad_ok_iff (h : H5Mesh) : (∃ m, meshLoad h = .ok m) ↔ h.Accepted := by
  simp only [meshLoad_eq_ok, regionLoad_ok_iff]
  constructor
  · rintro ⟨m, r, ss, ⟨hok, rfl⟩, hss, hm⟩
    obtain ⟨a1, a2, a3, a4⟩ := (meshInit_ok_iff _ (H5Region.region_inv _ hok) _ _ _ (subsLoad_cands_inv _ _ _ hss).2).mp ⟨m, hm⟩
    rw [H5Region.region_ndim] at hss a1
    exact ⟨hok, ⟨ss, hss, a4⟩, a1, a2, a3⟩
  · rintro ⟨hok, ⟨ss, hss, hacc⟩, a1, a2, a3⟩
    rw [← H5Region.region_ndim] at hss a1
    obtain ⟨m, hm⟩ := (meshInit_ok_iff _ (H5Region.region_inv _ hok) _ _ _ (subsLoad_cands_inv _ _ _ hss).2).mpr ⟨a1, a2, a3, hacc⟩
    exact ⟨m, _, ss, ⟨hok, rfl⟩, hss, hm⟩

/-! ## the field reader -/

theorem readLoc_wf (ds a : DArr) (loc : Loc) (hwf : ds.wf) (h : readLoc ds loc = .ok a) : a.wf := by
  cases loc with
  | all => cases h; exact hwf
  | idx t =>
    cases hsh : ds.shape with
    | nil => simp only [readLoc, hsh] at h; cases h
    | cons T rest =>
      rw [readLoc_idx_eq ds T rest t hsh] at h
      obtain ⟨hr, h⟩ := (guard_ok_iff _ _ _ _).mp h
      cases h
      exact DBuf.slice_length _ _ _ (hwf.length_cons hsh ▸ slot_bound T _ _ (slotOf_lt T t (by omega)))

theorem fieldLoadAt_eq_ok {h : H5Field} {loc : Loc} {f : TFld} :
    fieldLoadAt h loc = .ok f ↔ ∃ m vd a, meshLoad h.mesh = .ok m ∧ decVdims h.vdims = .ok vd ∧ readLoc h.array loc = .ok a ∧
      TFld.init m (some h.nvdim) a vd (decUnit h.unit) (some h.valid) = .ok f := by
  simp only [fieldLoadAt, bind_ok_iff']
  exact ⟨fun ⟨m, hm, vd, hvd, a, ha, hf⟩ => ⟨m, vd, a, hm, hvd, ha, hf⟩, fun ⟨m, vd, a, hm, hvd, ha, hf⟩ => ⟨m, hm, vd, hvd, a, ha, hf⟩⟩

/-- **The reader returns constructor-grade fields only.**  Whatever `_h5_load_field` returns — for
any group, tampered or not, at any location — satisfies `Inv`: region corners ordered and of one
dtype, names distinct, counts positive, boundary condition lower-cased and legal, subregion names
distinct, every subregion re-created with the region's names/units/tolerance and accepted by the
three tests, array and validity of the field's shape, labels absent or `nvdim` distinct names. -/
theorem fieldLoadAt_inv (h : H5Field) (loc : Loc) (f : TFld) (hawf : h.array.wf)
    (hvwf : h.valid.buf.length = natProd h.valid.shape) (hl : fieldLoadAt h loc = .ok f) : f.Inv := by
  obtain ⟨m, vd, a, hm, _, ha, hf⟩ := fieldLoadAt_eq_ok.mp hl
  exact init_inv m (meshLoad_inv _ _ hm) _ a vd _ _ (readLoc_wf _ _ _ hawf ha) (fun w hw => by cases hw; exact hvwf) f hf

theorem decVdims_ok_iff (k : Nat) (a : VdimsAttr) :
    (∃ vd, decVdims a = .ok vd ∧ vdimsAcceptB k vd = true) ↔ vdimsAttrAcceptB k a = true := by
  cases a with
  | str s =>
    by_cases hs : s = "None"
    · simp only [decVdims, if_pos hs, vdimsAttrAcceptB, decide_eq_true hs, Except.ok.injEq, exists_eq_left', vdimsAcceptB]
    · simp only [decVdims, if_neg hs, vdimsAttrAcceptB, decide_eq_false hs, reduceCtorEq, false_and, exists_false,
        Bool.false_eq_true]
  | list l => simp only [decVdims, vdimsAttrAcceptB, Except.ok.injEq, exists_eq_left']

/-- the group `field` the reader accepts -/
def H5Field.Accepted (h : H5Field) : Prop :=
  h.mesh.Accepted ∧ 1 ≤ h.nvdim ∧ vdimsAttrAcceptB h.nvdim.toNat h.vdims = true ∧
  arrAcceptB h.array.shape (h.mesh.n.map Int.toNat) h.nvdim.toNat = true ∧
  validAcceptB h.valid.shape (h.mesh.n.map Int.toNat) = true

theorem fieldLoad_ok_iff (h : H5Field) (hwf : h.array.wf) : (∃ f, fieldLoad h = .ok f) ↔ h.Accepted := by
  rw [H5Field.Accepted, ← meshLoad_ok_iff, ← decVdims_ok_iff]
  simp only [fieldLoad, fieldLoadAt_eq_ok, readLoc, Except.ok.injEq]
  constructor
  · rintro ⟨f, m, vd, a, hm, hvd, rfl, hf⟩
    obtain ⟨a1, a2, a3, a4⟩ := (fieldInit_ok_iff m h.nvdim h.array hwf vd _ h.valid).mp ⟨f, hf⟩
    rw [meshLoad_n h.mesh m hm] at a2 a3
    exact ⟨⟨m, hm⟩, a1, ⟨vd, hvd, a4⟩, a2, a3⟩
  · rintro ⟨⟨m, hm⟩, a1, ⟨vd, hvd, a4⟩, a2, a3⟩
    rw [← meshLoad_n h.mesh m hm] at a2 a3
    obtain ⟨f, hf⟩ := (fieldInit_ok_iff m h.nvdim h.array hwf vd _ h.valid).mpr ⟨a1, a2, a3, a4⟩
    exact ⟨f, m, vd, _, hm, hvd, rfl, hf⟩

end DFV.C10
