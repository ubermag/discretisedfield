import DFV.Lemmas.C03Ctor
import DFV.Lemmas.C08Compound
/-! The object-level link to the C03 model (field algebra).  Every operator path of the C03 model ends in
`C03.mkField self.mesh … (some V) …` with `V` the cell-wise AND of the field operands' masks (`C03.ufuncValid`); what it
stores is `own V`, literally the `own` of this model (`c03_op`).  For whole expressions: `BinOut` lists what one binary step
can be, `Tracks` says that a C08 program is accepted and reads as a given mask, and `expr_link` that the validity of an
expression's value is what the C08 evaluator computes on the translated program (`progOf`). -/
namespace DFV.C08
open DFV

/-- the cell-wise AND as the C03 model writes it is the C08 model's -/
theorem zipWith_and_eq (a b : NDA Bool) : NDA.zipWith (fun x y => x && y) a b = NDA.zipWith and a b := rfl

/-! ## what the constructor stores -/

theorem c03_mkField_none {mesh : Mesh} {nv : Nat} {val : C03.Value} {k : C03.Kind} {vd vm u} {g : C03.CF}
    (h : C03.mkField mesh nv val k vd none vm u = .ok g) : g.valid = own (NDA.const mesh.n true) ∧ g.mesh = mesh := by
  -- of `C03.mkField_ok`: the mesh, the mask `vl` that `validSet mesh none` returns, and `g.valid = vl.force false`
  -- (as `C03.mkField_valid` takes them for `some V`)
  obtain ⟨hm, _, _, _, _, _, vl, _, hv, _, hvl, _⟩ := C03.mkField_ok _ _ _ _ _ _ _ _ _ h
  exact ⟨by rw [hvl, C03.validSet_none _ _ hv]; rfl, hm⟩

/-- the shape part of the field invariant of the C03 model -/
def CFInv (f : C03.CF) : Prop := f.valid.shape = f.mesh.n

/-- a number / array operand is no field; a lemma because `nofun` in its place costs about 1 k at every use -/
theorem not_fld {od : C03.Opd} {P : C03.CF → Prop} (o : C03.CF) (h : C03.Val.raw od = .fld o) : P o := nomatch h

/-- result of an operation between two fields: a copy of the AND, same cells -/
structure AndRes (a o g : C03.CF) : Prop where
  hvalid : g.valid = own (NDA.zipWith and a.valid o.valid)
  hmesh : g.mesh = a.mesh
  hsame : a.mesh.n = o.mesh.n

/-- result of an operation with one field operand: a copy of its mask -/
structure SameRes (a g : C03.CF) : Prop where
  hvalid : g.valid = own a.valid
  hmesh : g.mesh = a.mesh

theorem AndRes.inv {self o g : C03.CF} (h : AndRes self o g) (hs : CFInv self) : CFInv g := by
  unfold CFInv; rw [h.hvalid, h.hmesh, own_shape]; exact hs

theorem SameRes.inv {self g : C03.CF} (h : SameRes self g) (hs : CFInv self) : CFInv g := by
  unfold CFInv; rw [h.hvalid, h.hmesh, own_shape]; exact hs

theorem SameRes.trans {f g k : C03.CF} (h1 : SameRes f g) (h2 : SameRes g k) : SameRes f k :=
  ⟨by rw [h2.hvalid, h1.hvalid, own_own], h2.hmesh.trans h1.hmesh⟩

/-- result of an operator path on the field `f` and the operand `v`, the general form of `AndRes` and `SameRes`: a copy
of the AND of the field operands' masks (`C03.ufuncValid f (.fld f) v`: `f.valid` alone when `v` is no field), on `f`'s
mesh; a field operand has `f`'s cells -/
structure OpRes (f : C03.CF) (v : C03.Val) (g : C03.CF) : Prop where
  hvalid : g.valid = own (C03.ufuncValid f (.fld f) v)
  hmesh : g.mesh = f.mesh
  hsame : ∀ o, v = .fld o → f.mesh.n = o.mesh.n

theorem OpRes.and {f o g : C03.CF} (h : OpRes f (.fld o) g) : AndRes f o g := ⟨h.hvalid, h.hmesh, h.hsame o rfl⟩

theorem OpRes.same {f g : C03.CF} {od : C03.Opd} (h : OpRes f (.raw od) g) : SameRes f g := ⟨h.hvalid, h.hmesh⟩

theorem OpRes.inv {f g : C03.CF} {v : C03.Val} (h : OpRes f v g) (hf : CFInv f) : CFInv g := by
  unfold CFInv; rw [h.hvalid, h.hmesh, own_shape]
  cases v <;> exact hf

/-- **every operator path** ends in a constructor call on `f`'s mesh with `valid=` that AND -/
theorem c03_op {f g : C03.CF} {v : C03.Val} {nv val k vd vm u}
    (h : C03.mkField f.mesh nv val k vd (some (C03.ufuncValid f (.fld f) v)) vm u = .ok g) (hf : CFInv f)
    (hn : ∀ o, v = .fld o → f.mesh.n = o.mesh.n) : OpRes f v g :=
  let ⟨h1, h2⟩ := C03.mkField_valid h (by cases v <;> exact hf)
  ⟨h1, h2, hn⟩

theorem c03_same {f g : C03.CF} {nv val k vd vm u}
    (h : C03.mkField f.mesh nv val k vd (some f.valid) vm u = .ok g) (hf : CFInv f) : SameRes f g :=
  let ⟨h1, h2⟩ := C03.mkField_valid h hf
  ⟨h1, h2⟩

theorem c03_guard_n {f : C03.CF} {v : C03.Val} (h : C03.opGuard f v ∨ C03.strictGuard f v) (o : C03.CF)
    (ho : v = .fld o) : f.mesh.n = o.mesh.n := by
  subst ho
  rcases h with h | h <;> exact C03.checkSame_n _ _ _ h

theorem c03_applyOperator {fn pw} {f g : C03.CF} {v : C03.Val} (h : C03.applyOperator fn pw f v = .ok g)
    (hf : CFInv f) : OpRes f v g :=
  let ⟨hc, _, _, _, hg⟩ := C03.applyOperator_ok_iff.mp h
  c03_op hg hf (c03_guard_n (.inl hc))

theorem c03_mapField {fn rk ku} {self g : C03.CF} (h : C03.mapField fn rk ku self = .ok g) (hs : CFInv self) :
    SameRes self g := c03_same h hs

theorem c03_dotOp {f g : C03.CF} {v : C03.Val} (h : C03.dotOp f v = .ok g) (hf : CFInv f) : OpRes f v g :=
  let ⟨hc, _, _, hg⟩ := C03.dotOp_ok_iff.mp h
  c03_op hg hf (c03_guard_n (.inr hc))

theorem c03_crossOp {f g : C03.CF} {v : C03.Val} (h : C03.crossOp f v = .ok g) (hf : CFInv f) : OpRes f v g :=
  let ⟨hc, _, _, _, hg⟩ := C03.crossOp_ok_iff.mp h
  c03_op hg hf (c03_guard_n (.inr hc))

theorem c03_shlFF {f o g : C03.CF} (h : C03.shlFF f o = .ok g) (hf : CFInv f) : OpRes f (.fld o) g :=
  let ⟨hq, _, _, hg⟩ := C03.shlFF_ok_iff.mp h
  c03_op hg hf fun _ ho => by cases ho; exact C03.meshEq_n hq

/-- the field `<<` builds from a number / array operand: all cells valid, on the given mesh -/
theorem c03_liftOpd {mesh : Mesh} {od : C03.Opd} {t : C03.CF} (h : C03.liftOpd mesh od = .ok t) :
    t.valid = own (NDA.const mesh.n true) ∧ t.mesh = mesh :=
  c03_mkField_none (C03.liftOpd_ok_iff.mp h).2

theorem c03_normOp {sq} {self g : C03.CF} (h : C03.normOp sq self = .ok g) (hs : CFInv self) : SameRes self g :=
  c03_same h hs

theorem c03_getComp {f g : C03.CF} {l : String} (h : C03.getComp f l = .ok g) (hs : CFInv f) : SameRes f g :=
  let ⟨_, _, _, _, hg⟩ := C03.getComp_ok_iff.mp h
  c03_same hg hs

theorem c03_ufuncWrap {self g : C03.CF} {res k V} (h : C03.ufuncWrap self res k V = .ok g) (hV : V.shape = self.mesh.n) :
    g.valid = own V ∧ g.mesh = self.mesh :=
  C03.mkField_valid (C03.ufuncWrap_ok_iff.mp h).2 hV

theorem c03_ufunc1 {fn rk} {self g : C03.CF} (h : C03.ufunc1 fn rk self = .ok g) (hs : CFInv self) : SameRes self g :=
  let ⟨h1, h2⟩ := c03_ufuncWrap (C03.ufunc1_ok_iff.mp h).2 hs
  ⟨h1, h2⟩

theorem c03_angleOp {sq ac} {f g : C03.CF} {v : C03.Val} (h : C03.angleOp sq ac f v = .ok g) (hf : CFInv f) :
    OpRes f v g := by
  -- of `C03.angleOp_ok`: the first step (`angleVec`, which fixes the mask handed on) and the last (the constructor call)
  obtain ⟨_, _, _, _, _, _, _, hav, _, _, _, _, _, hg⟩ := C03.angleOp_ok h
  obtain ⟨rfl, hv⟩ := C03.angleVec_ok hav
  refine c03_op hg hf fun o ho => ?_
  rcases hv with ⟨o', ho', _, hc⟩ | ⟨od, hod, _⟩
  · cases ho.symm.trans ho'; exact C03.checkSame_n _ _ _ hc
  · cases ho.symm.trans hod

/-! ## masks up to entries outside the shape -/

/-- same shape, same entries INSIDE the shape — what `Tracks.eval` and `SameReading.mask` conclude (spelt out there, as
in the Props statements they serve); weaker than `SameMask` of `C08Links`, which compares the arrays at ALL indices, and
the right notion here because `own` is only determined inside the shape -/
def MaskEq (a b : NDA Bool) : Prop := a.shape = b.shape ∧ ∀ j, inRange a.shape j = true → a.get j = b.get j

theorem MaskEq.of_eq {a b : NDA Bool} (h : a = b) : MaskEq a b := by subst h; exact ⟨rfl, fun _ _ => rfl⟩

theorem MaskEq.and_self (a : NDA Bool) : MaskEq (NDA.zipWith Bool.and a a) a :=
  ⟨rfl, fun _ _ => Bool.and_self _⟩

theorem own_and_true (a : NDA Bool) :
    own (NDA.zipWith Bool.and a (own (NDA.const a.shape true))) = own a ∧
    own (NDA.zipWith Bool.and (own (NDA.const a.shape true)) a) = own a := by
  have hs : (own (NDA.const a.shape true)).shape = a.shape := own_shape _
  have ht : ∀ j, inRange a.shape j = true → (own (NDA.const a.shape true)).get j = true :=
    fun j hj => own_get (NDA.const a.shape true) j hj
  exact ⟨own_congr rfl fun j hj => (congrArg (a.get j && ·) (ht j hj)).trans (Bool.and_true _),
    own_congr hs fun j hj => (congrArg (· && a.get j) (ht j (hs ▸ hj))).trans (Bool.true_and _)⟩

/-! ## one step of the C03 evaluator -/

theorem c03_shlOp {f g : C03.CF} {v : C03.Val} (h : C03.shlOp f v = .ok g) (hf : CFInv f) : OpRes f v g := by
  obtain ⟨o, ho, hs⟩ := C03.shlOp_ok h
  have hr := c03_shlFF hs hf
  rcases ho with rfl | ⟨od, rfl, ht⟩
  · exact hr
  · obtain ⟨t1, _⟩ := c03_liftOpd ht
    refine ⟨?_, hr.hmesh, not_fld⟩
    rw [hr.and.hvalid, t1, ← hf]
    exact (own_and_true f.valid).1

theorem c03_forwardOp {env : C03.Env} {b : C03.BinOp} {f g : C03.CF} {v : C03.Val}
    (h : C03.forwardOp env b f v = .ok g) (hf : CFInv f) : OpRes f v g := by
  rcases C03.forwardOp_ok_cases h with ⟨_, h'⟩ | ⟨_, h'⟩ | ⟨_, h'⟩ | ⟨_, h'⟩ | ⟨_, h'⟩
  exacts [c03_applyOperator h' hf, c03_dotOp h' hf, c03_crossOp h' hf, c03_shlOp h' hf, c03_angleOp h' hf]

theorem c03_reflectedOp {b : C03.BinOp} {od : C03.Opd} {f g : C03.CF} (h : C03.reflectedOp b od f = .ok g)
    (hf : CFInv f) : SameRes f g := by
  rcases C03.reflectedOp_ok h with ⟨_, _, h'⟩ | ⟨_, g0, h0, h'⟩ | ⟨_, h'⟩ | ⟨_, g0, h0, h'⟩ | ⟨_, t, ht, h'⟩
  · exact (c03_applyOperator h' hf).same
  · -- `-self + other`
    have h1 := c03_mapField h0 hf
    exact h1.trans (c03_applyOperator h' (h1.inv hf)).same
  · exact (c03_dotOp h' hf).same
  · -- `-self.cross(other)`
    have h1 := (c03_crossOp h0 hf).same
    exact h1.trans (c03_mapField h' (h1.inv hf))
  · -- `Field(mesh, value=other) << self`
    obtain ⟨t1, t2⟩ := c03_liftOpd ht
    have hr := c03_shlFF h' (show CFInv t by unfold CFInv; rw [t1, t2, own_shape]; rfl)
    refine ⟨?_, hr.hmesh.trans t2⟩
    rw [hr.and.hvalid, t1, ← hf]
    exact (own_and_true f.valid).2

theorem c03_ufunc2_rr {fn pw} {g : C03.CF} {a b : C03.Opd} (h : C03.ufunc2 fn pw (.raw a) (.raw b) = .ok g) : False := by
  obtain ⟨self, ⟨hself, _⟩, _⟩ := C03.ufunc2_ok_iff.mp h
  cases hself

/-- what one binary step can be: with a field on the left the result on it and the right operand; with a number /
array on the left the result on the field on the right alone -/
inductive BinOut : C03.Val → C03.Val → C03.CF → Prop
  | left {f : C03.CF} {r : C03.Val} {g : C03.CF} : (CFInv f → OpRes f r g) → BinOut (.fld f) r g
  | right {od : C03.Opd} {o g : C03.CF} : (CFInv o → SameRes o g) → BinOut (.raw od) (.fld o) g

/-- a binary ufunc call: the wrapper on the first field input, with the AND of the field inputs' masks -/
theorem c03_ufunc2 {fn pw} {l r : C03.Val} {g : C03.CF} (h : C03.ufunc2 fn pw l r = .ok g) : BinOut l r g := by
  obtain ⟨self, ⟨hself, _, hr⟩, _, _, _, hw⟩ := C03.ufunc2_ok_iff.mp h
  cases l with
  | fld f =>
    cases Option.some.inj hself
    refine .left fun hf => ?_
    obtain ⟨h1, h2⟩ := c03_ufuncWrap hw (by cases r <;> exact hf)
    exact ⟨h1, h2, fun o ho => by subst ho; exact C03.meshAllclose_n _ _ (C03.ufuncIn_fld.mp hr)⟩
  | raw od =>
    cases r with
    | raw _ => cases hself
    | fld o =>
      cases Option.some.inj hself
      refine .right fun ho => ?_
      obtain ⟨h1, h2⟩ := c03_ufuncWrap hw ho
      exact ⟨h1, h2⟩

/-- **one binary step**, whichever of the four ways (`C03.applyBin_ok_cases`) it takes -/
theorem c03_applyBin {env : C03.Env} {b : C03.BinOp} {l r : C03.Val} {g : C03.CF}
    (h : C03.applyBin env b l r = .ok (.fld g)) : BinOut l r g := by
  rcases C03.applyBin_ok_cases h with ⟨_, h'⟩ | ⟨_, f, rfl, h'⟩ | ⟨_, o, f, rfl, rfl, _, h'⟩ | ⟨_, o, f, rfl, rfl, _, h'⟩
  · exact c03_ufunc2 h'
  · exact .left (c03_forwardOp h')
  · exact c03_ufunc2 h'
  · exact .right (c03_reflectedOp h')

theorem c03_applyUn {env : C03.Env} {u : C03.UnOp} {f g : C03.CF} (h : C03.applyUn env u f = .ok g) (hf : CFInv f)
    (hu : u ≠ .pos) : SameRes f g := by
  cases hc : C03.isUfuncUn u with
  | true => rw [C03.applyUn_ufunc env hc] at h; exact c03_ufunc1 h hf
  | false => rw [C03.applyUn_rebuild env hc hu] at h; exact c03_mapField h hf

/-! ## the C08 side: programs that read as a given mask -/

/-- `p` is accepted on `E`, and its index-level reading is the mask `V` -/
def Tracks (E : Nat → Mask) (p : Prog) (V : NDA Bool) : Prop :=
  wf E p = true ∧ shapeOf E p = V.shape ∧ ∀ j, inRange V.shape j = true → spec E p j = V.get j

section
variable {E : Nat → Mask} {p q P : Prog} {V W : NDA Bool}

theorem Tracks.eval (h : Tracks E p V) :
    ∃ m, eval E p = .ok m ∧ m.shape = V.shape ∧ ∀ j, inRange m.shape j = true → m.get j = V.get j := by
  obtain ⟨m, hm, h1, h2⟩ := eval_of_wf E p h.1
  have hs : m.shape = V.shape := h1.trans h.2.1
  exact ⟨m, hm, hs, fun j hj => (h2 j (h1 ▸ hj)).trans (h.2.2 j (hs ▸ hj))⟩

theorem Tracks.own (h : Tracks E p V) : Tracks E p (own V) :=
  ⟨h.1, h.2.1.trans (own_shape V).symm, fun j hj =>
    have hj' : inRange V.shape j = true := own_shape V ▸ hj
    (h.2.2 j hj').trans (own_get V j hj').symm⟩

theorem Tracks.of_same (h : Tracks E p V) (hs : SameReading E P p) : Tracks E P V :=
  ⟨hs.wf.trans h.1, hs.shape.trans h.2.1, fun j hj => (hs.spec j).trans (h.2.2 j hj)⟩

theorem Tracks.and (hp : Tracks E p V) (hq : Tracks E q W) (hs : V.shape = W.shape) :
    Tracks E (.binF p q) (NDA.zipWith Bool.and V W) :=
  ⟨by simp only [wf, hp.1, hq.1, hp.2.1, hq.2.1, hs, decide_true, Bool.and_self], hp.2.1,
    fun j hj => congrArg₂ Bool.and (hp.2.2 j hj) (hq.2.2 j (hs ▸ hj))⟩

end

/-! ## the translation -/

/-- validity program of a C03 expression (a number / array operand is `.opd`; anything else that
evaluates is a field) -/
def progOf : C03.Expr → Prog
  | .leaf k => .leaf k
  | .opd _ => .leaf 0
  | .un u e => if u = .pos then .pos (progOf e) else .un (progOf e)
  | .bin b l r =>
    if l.isField = true then
      if r.isField = true then .binF (progOf l) (progOf r)
      else if b = .shl then lshiftConstProg (progOf l) else .binC (progOf l)
    else
      match l with
      | .opd o =>
        if C03.isUfuncBin b = true ∨ C03.isNp o = true then .binC (progOf r)
        else if b = .sub then rsubProg (progOf r)
        else if b = .cross then rcrossProg (progOf r)
        else if b = .shl then rlshiftConstProg (progOf r)
        else .binC (progOf r)
      | _ => .leaf 0

/-- the masks of the field leaves -/
def maskEnv (env : C03.Env) : Nat → Mask := fun k =>
  match env.fields[k]? with
  | some f => f.valid
  | none => NDA.const [] false

theorem eval_fresh_same (E : Nat → Mask) (p : Prog) (m0 : NDA Bool) (h0 : eval E p = .ok m0) :
    eval E (.fresh .same p) = .ok (own (NDA.const m0.shape true)) :=
  eval_fresh_ok.mpr ⟨m0, h0, rfl, rfl⟩

theorem progOf_bin_left (E : Nat → Mask) (b : C03.BinOp) (l : C03.Expr) (od : C03.Opd) (hl : l.isField = true) :
    SameReading E (progOf (.bin b l (.opd od))) (progOf l) := by
  simp only [progOf, hl, C03.Expr.isField, if_true, Bool.false_eq_true, if_false]
  split
  · exact (SameReading.lshift _).1
  · exact (SameReading.refl _).binC

theorem progOf_bin_right (E : Nat → Mask) (b : C03.BinOp) (ol : C03.Opd) (r : C03.Expr) :
    SameReading E (progOf (.bin b (.opd ol) r)) (progOf r) := by
  simp only [progOf, C03.Expr.isField, Bool.false_eq_true, if_false]
  -- the five branches of `progOf` for a number / array on the left, in the order of its `if`s
  repeat' split
  · exact (SameReading.refl _).binC     -- a ufunc, or a NumPy operand
  · exact (SameReading.refl _).un.binC  -- `.sub`: `rsubProg`
  · exact (SameReading.refl _).binC.un  -- `.cross`: `rcrossProg`
  · exact (SameReading.lshift _).2      -- `.shl`: `rlshiftConstProg`
  · exact (SameReading.refl _).binC     -- every other operator

/-- the induction behind `link_c03_expression` of Props, with the invariant (`CFInv`, `Tracks`) that statement does not show -/
theorem expr_link (env : C03.Env) (henv : ∀ (k : Nat) (f : C03.CF), env.fields[k]? = some f → CFInv f) (e : C03.Expr) :
    ∀ g, C03.evalF env e = .ok (.fld g) → e.isField = true ∧ CFInv g ∧ Tracks (maskEnv env) (progOf e) g.valid := by
  induction e with
  | leaf k =>
    intro g h
    obtain ⟨f, hk, hv⟩ := C03.evalF_leaf_ok h
    cases hv
    have : maskEnv env k = g.valid := by simp only [maskEnv, hk]
    exact ⟨rfl, henv k g hk, rfl, congrArg NDA.shape this, fun j _ => congrArg (NDA.get · j) this⟩
  | opd o => intro g h; cases h
  | un u e ih =>
    intro g h
    obtain ⟨f, g', he, hu, hv⟩ := C03.evalF_un_ok h
    cases hv
    obtain ⟨hfld, hinv, ht⟩ := ih f he
    by_cases hp : u = .pos
    · subst hp
      cases Except.ok.inj hu
      refine ⟨hfld, hinv, ?_⟩
      rw [show progOf (.un .pos e) = .pos (progOf e) from if_pos rfl]
      exact ht
    · have hr := c03_applyUn hu hinv hp
      refine ⟨hfld, hr.inv hinv, ?_⟩
      rw [show progOf (.un u e) = .un (progOf e) from if_neg hp, hr.hvalid]
      exact (ht.of_same (SameReading.refl _).un).own
  | bin b l r ihl ihr =>
    intro g h
    obtain ⟨vl, vr, hvl, hvr, hb⟩ := C03.evalF_bin_ok h
    cases c03_applyBin hb with
    | @left f _ _ hout =>
      obtain ⟨hlf, hfi, htl⟩ := ihl f hvl
      have hout := hout hfi
      refine ⟨by simp only [C03.Expr.isField, hlf, Bool.true_or], hout.inv hfi, ?_⟩
      rw [hout.hvalid]
      cases vr with
      | fld o =>
        obtain ⟨hrf, hoi, htr⟩ := ihr o hvr
        rw [show progOf (.bin b l r) = .binF (progOf l) (progOf r) by simp only [progOf, hlf, hrf, if_true]]
        exact (htl.and htr (by rw [hfi, hoi]; exact hout.hsame o rfl)).own
      | raw od =>
        cases C03.evalF_raw env r od hvr
        exact (htl.of_same (progOf_bin_left _ b l od hlf)).own
    | @right ol o _ hout =>
      cases C03.evalF_raw env l ol hvl
      obtain ⟨hrf, hoi, htr⟩ := ihr o hvr
      have hout := hout hoi
      refine ⟨by simp only [C03.Expr.isField, hrf, Bool.or_true], hout.inv hoi, ?_⟩
      rw [hout.hvalid]
      exact (htr.of_same (progOf_bin_right _ b ol r)).own

end DFV.C08
