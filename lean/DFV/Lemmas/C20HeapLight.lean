import DFV.Lemmas.C20HeapRef
/-!
The lightness plot on the heap refines the value model (C20): the lightness array that is
normalised in place and the `rgb` array that receives the NaN writes hold what `lightCore`
computes.  `lightStageH` names the two steps of the final stage that can fail after the multiplier;
the branches of `lightnessH` in front of it are those of `mplLightness` (`lightnessH_eq`).
-/
namespace DFV.C20
open DFV

/-- the arrays of the final lightness stage against the value model, given the array `src` the
lightness is copied from -/
theorem lightArraysH_of_src (h H : AHeap) (f LF F : HFld) (FA : Fld) (clim : Rat × Rat)
    (lget : List Nat → Rat) (fr : Frame h H) (hf : f.On h) (rel : FilterRel H f F FA)
    (hp : AHeap × Nat)
    (hfa : filterArrH (H.alloc fun i => H.buf f.arr (i.take 2 ++ [0])).1 f LF = .ok hp)
    (hsrc : ∀ i, hp.1.buf hp.2 (i ++ [0]) = some (lget i)) :
    match filterKeep (f.abs h) FA with
    | .error e => lightArraysH H f LF F clim = .error e
    | .ok keep => ∃ hr, lightArraysH H f LF F clim = .ok hr ∧
        (∀ x y, (hr.1.buf hr.2.2 [x, y, 0]).isNone = !keep.get [x, y]) ∧
        ∀ x y, (hr.1.buf hr.2.1 [x, y]).getD 0 =
          normalise (ndaMin ⟨f.mesh.n, lget⟩) (ndaMax ⟨f.mesh.n, lget⟩) clim (lget [x, y]) := by
  have frp : Frame H hp.1 := (frame_alloc H _).trans (frame_filterArrH _ f LF hp hfa)
  have hS : (fun i => (hp.1.buf hp.2 (i ++ [0])).getD 0) = lget := by
    funext i; rw [hsrc i]; rfl
  -- heap after `lightness = ….copy()`, the in-place normalisation and the allocation of `rgb`
  have frL : Frame H (hp.1.alloc fun i => hp.1.buf hp.2 (i.take 2 ++ [0])).1 := frp.trans (frame_alloc _ _)
  have hLlt : hp.1.length < (hp.1.alloc fun i => hp.1.buf hp.2 (i.take 2 ++ [0])).1.length := by
    rw [alloc_len]; omega
  have frM := frame_mapAt_fresh H _ hp.1.length
    (normalise (ndaMin ⟨f.mesh.n, fun i => (hp.1.buf hp.2 (i ++ [0])).getD 0⟩)
      (ndaMax ⟨f.mesh.n, fun i => (hp.1.buf hp.2 (i ++ [0])).getD 0⟩) clim) frL frp.1
  have frR := frM.trans (frame_alloc _ (fun _ => some (0 : Rat)))
  have key := filterValuesH_spec _ f F (f.abs h) FA (hp.1.length + 1) (hf.frame (fr.trans frR))
    (by rw [alloc_len, mapAt_len, alloc_len]; omega) rfl
    (fun x y => (validAt_frame _ _ f (fr.trans frR) hf _).symm)
    rel.nvdim rel.mesh (rel.frame frR).same (rel.frame frR).other
  unfold lightArraysH
  rw [hfa]
  simp only []
  cases hk : filterKeep (f.abs h) FA with
  | error e =>
    rw [hk] at key
    simp only [] at key
    rw [key]
  | ok keep =>
    rw [hk] at key
    obtain ⟨H', hH', hR⟩ := key
    -- the lightness buffer is older than `rgb`, the only buffer `_filter_values` writes to
    have hoth := (frame_filterValuesH _ _ f F (hp.1.length + 1) H' (frame_alloc _ _)
      (by rw [mapAt_len, alloc_len]) hH').2 hp.1.length (by rw [mapAt_len, alloc_len]; omega)
    rw [hH']
    simp only []
    refine ⟨_, rfl, fun x y => ?_, fun x y => ?_⟩
    · show (H'.buf (hp.1.length + 1) [x, y, 0]).isNone = _
      rw [hR x y [x, y, 0] rfl]
      have : ((hp.1.alloc fun i => hp.1.buf hp.2 (i.take 2 ++ [0])).1.mapAt hp.1.length
          (normalise (ndaMin ⟨f.mesh.n, fun i => (hp.1.buf hp.2 (i ++ [0])).getD 0⟩)
            (ndaMax ⟨f.mesh.n, fun i => (hp.1.buf hp.2 (i ++ [0])).getD 0⟩) clim)).length = hp.1.length + 1 := by
        rw [mapAt_len, alloc_len]
      rw [← this, buf_alloc_new]
      cases keep.get [x, y] <;> rfl
    · show (H'.buf hp.1.length [x, y]).getD 0 = _
      rw [hoth, buf_mapAt_eq _ _ _ hLlt, buf_alloc_new]
      show ((hp.1.buf hp.2 [x, y, 0]).map _).getD 0 = _
      rw [show hp.1.buf hp.2 [x, y, 0] = some (lget [x, y]) from hsrc [x, y], hS]
      rfl

/-- lightness field in force, then the arrays: the two steps of the final stage that can fail
after the multiplier -/
def lightStageH (H : AHeap) (f : HFld) (aux : Option HFld) (F : HFld) (clim : Rat × Rat)
    (dflt : List Nat → Rat) : M (AHeap × Nat × Nat) :=
  match lightFieldH H f aux dflt with
  | .error e => .error e
  | .ok hl => lightArraysH hl.1 f hl.2 F clim

/-- **The arrays of the final lightness stage = the value model**: lightness source and filter
fail together and in the same order; otherwise `rgb` is NaN exactly in the cells the value model
drops and `lightness` holds the value model's normalised lightness -/
theorem lightStageH_spec (h H : AHeap) (f F : HFld) (aux : Option HFld) (FA : Fld) (clim : Rat × Rat)
    (dflt : List Nat → Rat) (fr : Frame h H) (hf : f.On h) (rel : FilterRel H f F FA)
    (haux : ∀ g, aux = some g → g.On h ∧ ∀ i, (h.buf g.arr i).isSome) :
    match lightSrc (f.abs h) (aux.map (·.abs h)) ⟨f.mesh.n, dflt⟩ with
    | .error e => lightStageH H f aux F clim dflt = .error e
    | .ok l =>
      match filterKeep (f.abs h) FA with
      | .error e => lightStageH H f aux F clim dflt = .error e
      | .ok keep => ∃ hr, lightStageH H f aux F clim dflt = .ok hr ∧
          (∀ x y, (hr.1.buf hr.2.2 [x, y, 0]).isNone = !keep.get [x, y]) ∧
          ∀ x y, (hr.1.buf hr.2.1 [x, y]).getD 0 =
            normalise (ndaMin ⟨f.mesh.n, l.get⟩) (ndaMax ⟨f.mesh.n, l.get⟩) clim (l.get [x, y]) := by
  cases aux with
  | none =>
    have hls : lightSrc (f.abs h) ((none : Option HFld).map (·.abs h)) ⟨f.mesh.n, dflt⟩
        = .ok ⟨f.mesh.n, dflt⟩ := rfl
    rw [hls]
    simp only []
    have frD : Frame H (derivedH H f dflt).1 := frame_derivedH H f dflt
    have hfa : filterArrH ((derivedH H f dflt).1.alloc fun i => (derivedH H f dflt).1.buf f.arr (i.take 2 ++ [0])).1 f
        (derivedH H f dflt).2 = .ok (((derivedH H f dflt).1.alloc fun i => (derivedH H f dflt).1.buf f.arr (i.take 2 ++ [0])).1,
          (derivedH H f dflt).2.arr) := by
      unfold filterArrH
      rw [if_pos (show (derivedH H f dflt).2.mesh.n = f.mesh.n from rfl)]
    have hsrc : ∀ i, ((derivedH H f dflt).1.alloc fun i => (derivedH H f dflt).1.buf f.arr (i.take 2 ++ [0])).1.buf
        (derivedH H f dflt).2.arr (i ++ [0]) = some (dflt i) := by
      intro i
      show AHeap.buf _ H.length (i ++ [0]) = _
      rw [buf_alloc_lt _ _ _ (by rw [derivedH_len]; omega), derivedH_arr, List.dropLast_concat]
    have key := lightArraysH_of_src h (derivedH H f dflt).1 f (derivedH H f dflt).2 F FA clim dflt
      (fr.trans frD) hf (rel.frame frD) _ hfa hsrc
    unfold lightStageH lightFieldH
    exact key
  | some g =>
    obtain ⟨hgon, hgnum⟩ := haux g rfl
    have hgH : g.On H := hgon.frame fr
    unfold lightSrc lightStageH lightFieldH
    simp only [Option.map_some]
    by_cases c1 : g.nvdim ≠ 1
    · rw [if_pos (show (g.abs h).nvdim ≠ 1 from c1), if_pos c1]
    · rw [if_neg (show ¬ (g.abs h).nvdim ≠ 1 from c1), if_neg c1]
      by_cases c2 : g.mesh.region.ndim ≠ 2
      · rw [if_pos (show (g.abs h).mesh.region.ndim ≠ 2 from c2), if_pos c2]
      · rw [if_neg (show ¬ (g.abs h).mesh.region.ndim ≠ 2 from c2), if_neg c2]
        have g1 : g.nvdim = 1 := not_not.mp c1
        simp only []
        have frV : Frame H (H.alloc fun i => H.buf f.arr (i.take 2 ++ [0])).1 := frame_alloc H _
        by_cases hn : g.mesh.n = f.mesh.n
        · rw [auxOnMesh_same (f.abs h) (g.abs h) hn]
          simp only []
          have hfa : filterArrH (H.alloc fun i => H.buf f.arr (i.take 2 ++ [0])).1 f g
              = .ok ((H.alloc fun i => H.buf f.arr (i.take 2 ++ [0])).1, g.arr) := by
            unfold filterArrH
            rw [if_pos hn]
          have hsrc : ∀ i, (H.alloc fun i => H.buf f.arr (i.take 2 ++ [0])).1.buf g.arr (i ++ [0])
              = some (((g.abs h).data.get i).getD 0 0) := by
            intro i
            rw [frV.2 _ hgH.1, fr.2 _ hgon.1]
            rw [abs_data h g 0 (by omega) i, some_getD_of_isSome _ (hgnum (i ++ [0]))]
          exact lightArraysH_of_src h H f g F FA clim _ fr hf rel _ hfa hsrc
        · have hax : auxOnMesh (f.abs (H.alloc fun i => H.buf f.arr (i.take 2 ++ [0])).1)
              (g.abs (H.alloc fun i => H.buf f.arr (i.take 2 ++ [0])).1) = auxOnMesh (f.abs h) (g.abs h) := by
            rw [abs_frame _ _ f (fr.trans frV) hf, abs_frame _ _ g (fr.trans frV) hgon]
          cases ha : auxOnMesh (f.abs h) (g.abs h) with
          | error e =>
            simp only []
            unfold lightArraysH filterArrH
            rw [if_neg hn, hax, ha]
          | ok a =>
            simp only []
            have hfa : filterArrH (H.alloc fun i => H.buf f.arr (i.take 2 ++ [0])).1 f g
                = .ok ((H.alloc fun i => H.buf f.arr (i.take 2 ++ [0])).1.alloc
                    fun i => some ((a.get i.dropLast).getD 0 0)) := by
              unfold filterArrH
              rw [if_neg hn, hax, ha]
            refine lightArraysH_of_src h H f g F FA clim (fun i => (a.get i).getD 0 0) fr hf rel _ hfa ?_
            intro i
            show ((H.alloc _).1.alloc _).1.buf (H.alloc _).1.length (i ++ [0]) = _
            rw [buf_alloc_new, List.dropLast_concat]

theorem lightCoreH_stage (h : AHeap) (f : HFld) (o : HOpts) (clim : Option (Rat × Rat))
    (hue : List Nat → Hue) (dflt : List Nat → Rat) :
    (lightCoreH h f o clim hue dflt).2 =
      (setupMultiplier (f.abs h) o.mult).bind fun m => (extent f.mesh.region m).bind fun ext =>
      (lightStageH (filterFieldH h f o.filter).1 f o.aux (filterFieldH h f o.filter).2 (clim.getD (0, 1)) dflt).bind
      fun hr => (axisLabels f.mesh.region m).bind fun lab =>
        .ok [.imshowHL
          ((⟨f.mesh.n, fun i =>
              if (hr.1.buf hr.2.2 (i ++ [0])).isNone then none
              else some (hue i, (hr.1.buf hr.2.1 i).getD 0)⟩ : NDA (Option (Hue × Rat))).transpose [1, 0])
          "lower" ext, lab] := by
  rw [lightCoreH_eq, stepH_snd]
  refine bind_congr_ok fun m _ => ?_
  rw [stepH_snd]
  refine bind_congr_ok fun ext _ => ?_
  rw [stepH_snd]
  unfold lightStageH
  cases lightFieldH (filterFieldH h f o.filter).1 f o.aux dflt with
  | error e => rfl
  | ok hl =>
    dsimp only [Except.bind]
    rw [stepH_snd]
    refine bind_congr_ok fun hr _ => ?_
    rw [stepH_snd]
    rfl

theorem lightCoreH_refines (h : AHeap) (f : HFld) (o : HOpts) (clim : Option (Rat × Rat))
    (hue : List Nat → Hue) (dflt : List Nat → Rat) (hinv : f.mesh.Inv) (h2 : f.mesh.region.ndim = 2)
    (hf : f.On h) (hflt : ∀ g, o.filter = some g → g.On h)
    (haux : ∀ g, o.aux = some g → g.On h ∧ ∀ i, (h.buf g.arr i).isSome) :
    (lightCoreH h f o clim hue dflt).2 =
      lightCore (f.abs h) { o.abs h with clim := clim } hue ⟨f.mesh.n, dflt⟩
        (filterOf (f.abs h) (o.abs h)) := by
  have hn : f.mesh.n.length = 2 := mesh_n_two f.mesh hinv h2
  rw [lightCoreH_stage, lightCore_eq_bind]
  refine bind_congr_ok fun m _ => bind_congr_ok fun ext _ => ?_
  have spec := lightStageH_spec h (filterFieldH h f o.filter).1 f (filterFieldH h f o.filter).2 o.aux
    (filterOf (f.abs h) (o.abs h)) (clim.getD (0, 1)) dflt (frame_filterFieldH h f o.filter) hf
    (filterFieldH_rel h h f o.filter (Frame.refl h) hf hflt) haux
  show _ = (lightSrc (f.abs h) (o.aux.map (·.abs h)) ⟨f.mesh.n, dflt⟩).bind _
  cases hl : lightSrc (f.abs h) (o.aux.map (·.abs h)) ⟨f.mesh.n, dflt⟩ with
  | error e => rw [hl] at spec; rw [spec]; rfl
  | ok l =>
    rw [hl] at spec
    dsimp only [Except.bind] at spec ⊢
    cases hk : filterKeep (f.abs h) (filterOf (f.abs h) (o.abs h)) with
    | error e => rw [hk] at spec; rw [spec]
    | ok keep =>
      rw [hk] at spec
      obtain ⟨hr, hst, hR, hL⟩ := spec
      rw [hst]
      refine congrArg (fun img => (axisLabels f.mesh.region m).bind fun lab => .ok [.imshowHL img "lower" ext, lab])
        (imgOfBuf_eq f.mesh.n hn _ keep _ fun x y => ?_)
      show (if (hr.1.buf hr.2.2 [x, y, 0]).isNone = true then none
        else some (hue [x, y], (hr.1.buf hr.2.1 [x, y]).getD 0)) = _
      rw [hR x y, hL x y]
      cases keep.get [x, y] <;> rfl


/-- **`lightness` on the heap = default lightness, hue, then the final stage**, as `mplLightness_eq`.
`lightnessH` is a definition of its own (it also says which heap is returned), so its branches on the number
of components are read here once more; they are the same tree as in `mplLightness_eq`, which is why
`lightnessH_refines` below only has to compare the final stages. -/
theorem lightnessH_eq (sqrtF : Rat → Rat) (h : AHeap) (f : HFld) (o : HOpts) (clim : Option (Rat × Rat)) :
    lightnessH sqrtF h f o clim =
      if f.mesh.region.ndim ≠ 2 then (h, .error .runtime)
      else stepH h (lightDefault sqrtF (f.abs h) o.aux.isSome o.pick) fun d =>
        stepH h (lightHue (f.abs h)) fun hue => lightCoreH h f o clim hue d := by
  unfold lightnessH lightDefault lightHue stepH
  rw [abs_nvdim, show (f.abs h).vmap = f.vmap from rfl]
  by_cases h2 : f.mesh.region.ndim ≠ 2
  · rw [if_pos h2, if_pos h2]
  rw [if_neg h2, if_neg h2]
  by_cases hn2 : f.nvdim = 2
  · rw [if_pos hn2, if_pos hn2, if_pos (Or.inl hn2)]
    cases angleComps (f.abs h) <;> rfl
  rw [if_neg hn2, if_neg hn2]
  by_cases hn3 : f.nvdim = 3
  · rw [if_pos hn3, if_pos hn3, if_pos (Or.inr hn3)]
    cases o.aux with
    | some g => cases angleComps (f.abs h) <;> rfl
    | none =>
      by_cases hm : f.vmap.isEmpty = true
      · rw [if_pos hm, if_neg (by simp), if_pos hm]
      rw [if_neg hm, if_neg (by simp), if_neg hm]
      cases thirdComp (f.abs h) (inplaneVdims (f.abs h)) o.pick with
      | error e => rfl
      | ok c => cases angleComps (f.abs h) <;> rfl
  rw [if_neg hn3, if_neg hn3, if_neg (show ¬ (f.nvdim = 2 ∨ f.nvdim = 3) from fun h => h.elim hn2 hn3)]
  by_cases hn4 : f.nvdim > 3
  · rw [if_pos hn4, if_pos hn4]
  rw [if_neg hn4, if_neg hn4]

theorem frame_lightnessH (sqrtF : Rat → Rat) (h : AHeap) (f : HFld) (o : HOpts) (clim : Option (Rat × Rat)) :
    Frame h (lightnessH sqrtF h f o clim).1 :=
  lightnessH_eq sqrtF h f o clim ▸ frame_ite (Frame.refl h) (frame_stepH (Frame.refl h) fun _ _ =>
    frame_stepH (Frame.refl h) fun _ _ => frame_lightCoreH h f o clim _ _)

theorem lightnessH_refines (sqrtF : Rat → Rat) (h : AHeap) (f : HFld) (o : HOpts) (clim : Option (Rat × Rat))
    (hinv : f.mesh.Inv) (hf : f.On h) (hflt : ∀ g, o.filter = some g → g.On h)
    (haux : ∀ g, o.aux = some g → g.On h ∧ ∀ i, (h.buf g.arr i).isSome) :
    (lightnessH sqrtF h f o clim).2 = mplLightness sqrtF (f.abs h) { o.abs h with clim := clim } := by
  rw [lightnessH_eq, mplLightness_eq,
    show ({ o.abs h with clim := clim } : Opts).aux.isSome = o.aux.isSome by cases ho : o.aux <;> simp [HOpts.abs, ho]]
  show _ = if f.mesh.region.ndim ≠ 2 then _ else _
  split
  · rfl
  · rename_i h2
    show _ = match lightDefault sqrtF (f.abs h) o.aux.isSome o.pick with
      | .error e => Except.error e
      | .ok d => _
    cases lightDefault sqrtF (f.abs h) o.aux.isSome o.pick with
    | error e => rfl
    | ok d =>
      cases lightHue (f.abs h) with
      | error e => rfl
      | ok hue => exact lightCoreH_refines h f o clim hue d hinv (not_not.mp h2) hf hflt haux

end DFV.C20
