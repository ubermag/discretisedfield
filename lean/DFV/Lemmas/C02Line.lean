import DFV.Lemmas.C02Basic
/-! C02: lines — the points of `Mesh.line`, their distances, sampling along a line — and the data
frame `Line.__init__` builds by column assignment (`data[name] = col`): the last assignment to a
name wins, names without a clash give the assignments themselves. -/
namespace DFV.C02
open DFV DFV.Mesh

variable {V : Type}

/-! ### points, distances, acceptance -/

theorem cast_pred_pos (n : Nat) (hn : 2 ≤ n) : (0 : Rat) < (n : Rat) - 1 :=
  sub_pos.mpr (by exact_mod_cast hn)

theorem meshLine_ok_iff (m : Mesh) (p1 p2 : List Rat) (n : Nat) (pts : List (List Rat)) :
    meshLine m p1 p2 n = .ok pts ↔
      m.region.containsPt p1 = true ∧ m.region.containsPt p2 = true ∧ 2 ≤ n ∧
      pts = tab n fun i => tab m.ndim fun a =>
        p1.getD a 0 + (i : Rat) * ((p2.getD a 0 - p1.getD a 0) / ((n : Rat) - 1)) := by
  unfold meshLine
  simp only [guard_ok_iff, Bool.or_eq_true, Bool.not_eq_eq_eq_not, Bool.not_true, not_or, Bool.not_eq_false,
    Nat.not_lt, Except.ok.injEq, eq_comm (a := pts), and_assoc]

/-- `Field.line` in one statement; `line_ok` and `line_accepts_of` are its two directions -/
theorem line_eq_ok_iff (f : VF V) (p1 p2 : List Rat) (n : Nat) (o : LineOut V) :
    f.line p1 p2 n = .ok o ↔ ∃ pts, meshLine f.mesh p1 p2 n = .ok pts ∧ ∃ vals, seqM (pts.map f.call) = .ok vals ∧
      o = ⟨pts, vals, pts.map fun p => sqDist p (pts.getD 0 [])⟩ := by
  unfold VF.line
  cases meshLine f.mesh p1 p2 n with
  | error e => exact ⟨nofun, fun ⟨_, h, _⟩ => nomatch h⟩
  | ok pts =>
    simp only [Except.ok.injEq, exists_eq_left']
    cases seqM (pts.map f.call) with
    | error e => simp
    | ok vals => simp [eq_comm]

theorem line_ok (f : VF V) (p1 p2 : List Rat) (n : Nat) (o : LineOut V) (h : f.line p1 p2 n = .ok o) :
    f.mesh.region.containsPt p1 = true ∧ f.mesh.region.containsPt p2 = true ∧ 2 ≤ n ∧
    (o.points = tab n fun i => tab f.mesh.ndim fun a =>
      p1.getD a 0 + (i : Rat) * ((p2.getD a 0 - p1.getD a 0) / ((n : Rat) - 1))) ∧
    o.points.map f.call = o.values.map .ok ∧
    o.r2 = o.points.map fun p => sqDist p (o.points.getD 0 []) := by
  obtain ⟨pts, hpts, vals, hvals, rfl⟩ := (line_eq_ok_iff f p1 p2 n o).mp h
  obtain ⟨hc1, hc2, hn, hp⟩ := (meshLine_ok_iff _ _ _ _ _).mp hpts
  exact ⟨hc1, hc2, hn, hp, seqM_ok _ _ hvals, rfl⟩

theorem listSum_tab_mul (n : Nat) (k : Rat) (g : Nat → Rat) :
    listSum (tab n fun a => k * g a) = k * listSum (tab n g) := by
  unfold tab
  induction List.range n with
  | nil => simp [listSum]
  | cons x xs ih => simp only [List.map_cons, listSum, ih]; ring

/-- squared distance of the `j`-th point of a line from its first point -/
theorem sqDist_line (nd n j : Nat) (p1 p2 : List Rat) (hp2 : p2.length = nd) (hn : 2 ≤ n) :
    sqDist (tab nd fun a => p1.getD a 0 + (j : Rat) * ((p2.getD a 0 - p1.getD a 0) / ((n : Rat) - 1)))
           (tab nd fun a => p1.getD a 0 + ((0 : Nat) : Rat) * ((p2.getD a 0 - p1.getD a 0) / ((n : Rat) - 1)))
      = ((j : Rat) * (j : Rat)) / (((n : Rat) - 1) * ((n : Rat) - 1)) * sqDist p2 p1 := by
  have hne := (cast_pred_pos n hn).ne'
  unfold sqDist
  rw [tab_length, hp2, ← listSum_tab_mul]
  congr 1
  apply tab_congr
  intro a ha
  rw [getD_tab _ _ _ _ ha, getD_tab _ _ _ _ ha]
  field_simp
  ring

theorem line_accepts_of (f : VF V) (p1 p2 : List Rat) (n : Nat) (hc1 : f.mesh.region.containsPt p1 = true)
    (hc2 : f.mesh.region.containsPt p2 = true) (hn : 2 ≤ n)
    (hall : ∀ j, j < n → ∃ vs, f.call (tab f.mesh.ndim fun a =>
      p1.getD a 0 + (j : Rat) * ((p2.getD a 0 - p1.getD a 0) / ((n : Rat) - 1))) = .ok vs) :
    ∃ o, f.line p1 p2 n = .ok o := by
  obtain ⟨vals, hvals⟩ := seqM_map_ok _ f.call fun pt hpt => by
    obtain ⟨j, hj, rfl⟩ := (mem_tab _ _ _).mp hpt
    exact hall j hj
  exact ⟨_, (line_eq_ok_iff f p1 p2 n _).mpr ⟨_, (meshLine_ok_iff f.mesh p1 p2 n _).mpr ⟨hc1, hc2, hn, rfl⟩, vals, hvals, rfl⟩⟩

theorem convex_in (lo hi x1 x2 t : Rat) (t0 : 0 ≤ t) (t1 : t ≤ 1) (h1 : lo ≤ x1 ∧ x1 ≤ hi) (h2 : lo ≤ x2 ∧ x2 ≤ hi) :
    lo ≤ x1 + t * (x2 - x1) ∧ x1 + t * (x2 - x1) ≤ hi := by
  have a1 := mul_nonneg (sub_nonneg.mpr t1) (sub_nonneg.mpr h1.1)
  have a2 := mul_nonneg t0 (sub_nonneg.mpr h2.1)
  have b1 := mul_nonneg (sub_nonneg.mpr t1) (sub_nonneg.mpr h1.2)
  have b2 := mul_nonneg t0 (sub_nonneg.mpr h2.2)
  constructor <;> linarith only [a1, a2, b1, b2]

theorem segment_in (lo hi x1 x2 : Rat) (j n : Nat) (hn : 2 ≤ n) (hj : j < n)
    (h1 : lo ≤ x1 ∧ x1 ≤ hi) (h2 : lo ≤ x2 ∧ x2 ≤ hi) :
    lo ≤ x1 + (j : Rat) * ((x2 - x1) / ((n : Rat) - 1)) ∧ x1 + (j : Rat) * ((x2 - x1) / ((n : Rat) - 1)) ≤ hi := by
  have hn' := cast_pred_pos n hn
  have hj1 : (j : Rat) ≤ (n : Rat) - 1 := le_sub_iff_add_le.mpr (by exact_mod_cast hj)
  rw [show (j : Rat) * ((x2 - x1) / ((n : Rat) - 1)) = (j : Rat) / ((n : Rat) - 1) * (x2 - x1) by ring]
  exact convex_in lo hi x1 x2 _ (div_nonneg (Nat.cast_nonneg j) hn'.le) ((div_le_one hn').mpr hj1) h1 h2

/-! ### the data frame -/

/-- `data[name] = c` sets that column and no other -/
theorem colOf_setCol (fr : List (String × Col V)) (name x : String) (c : Col V) :
    colOf (setCol fr name c) x = if x = name then some c else colOf fr x := by
  induction fr with
  | nil =>
    by_cases h : x = name
    · simp [setCol, colOf, h]
    · have : (name == x) = false := beq_eq_false_iff_ne.mpr fun e => h e.symm
      simp [setCol, colOf, h, this]
  | cons p rest ih =>
    obtain ⟨k, y⟩ := p
    unfold colOf at ih ⊢
    by_cases hk : k = name
    · subst hk
      rw [setCol, if_pos rfl, List.find?_cons, List.find?_cons]
      by_cases hx : x = k
      · rw [if_pos hx, hx, beq_self_eq_true]; rfl
      · rw [if_neg hx, beq_eq_false_iff_ne.mpr fun e : k = x => hx e.symm]
    · rw [setCol, if_neg hk, List.find?_cons, List.find?_cons]
      by_cases hx : k = x
      · rw [beq_iff_eq.mpr hx, if_neg (hx ▸ hk)]
      · rw [beq_eq_false_iff_ne.mpr hx]; exact ih

/-- names of the columns, in data-frame order -/
def colNames (fr : List (String × Col V)) : List String := fr.map (·.1)

theorem colNames_cons (p : String × Col V) (fr : List (String × Col V)) : colNames (p :: fr) = p.1 :: colNames fr := rfl

theorem colNames_append (fr gr : List (String × Col V)) : colNames (fr ++ gr) = colNames fr ++ colNames gr :=
  List.map_append

theorem colNames_reverse (fr : List (String × Col V)) : colNames fr.reverse = (colNames fr).reverse :=
  List.map_reverse

theorem length_colNames (fr : List (String × Col V)) : (colNames fr).length = fr.length := List.length_map _

theorem mem_colNames_of_mem {fr : List (String × Col V)} {p : String × Col V} (h : p ∈ fr) : p.1 ∈ colNames fr :=
  List.mem_map_of_mem h

theorem setCol_new (fr : List (String × Col V)) (name : String) (c : Col V) (h : name ∉ colNames fr) :
    setCol fr name c = fr ++ [(name, c)] := by
  induction fr with
  | nil => rfl
  | cons p rest ih =>
    obtain ⟨k, x⟩ := p
    rw [colNames_cons, List.mem_cons, not_or] at h
    have hk : ¬ k = name := fun e => h.1 e.symm
    simp only [setCol, hk, if_false, List.cons_append]
    rw [ih h.2]

theorem colNames_setCol_old (fr : List (String × Col V)) (name : String) (c : Col V) (h : name ∈ colNames fr) :
    colNames (setCol fr name c) = colNames fr := by
  induction fr with
  | nil => cases h
  | cons p rest ih =>
    obtain ⟨k, x⟩ := p
    simp only [setCol]
    split
    · rfl
    · rename_i hk
      simp only [colNames_cons, List.mem_cons] at h ⊢
      rcases h with h | h
      · exact absurd h.symm hk
      · congr 1; exact ih h

theorem applyAssigns_fresh (fr as : List (String × Col V))
    (hnd : (colNames fr ++ colNames as).Nodup) : applyAssigns fr as = fr ++ as := by
  induction as generalizing fr with
  | nil => exact (List.append_nil fr).symm
  | cons p rest ih =>
    have hnew : p.1 ∉ colNames fr := fun hmem =>
      (List.nodup_append.mp hnd).2.2 _ hmem _ List.mem_cons_self rfl
    rw [applyAssigns, setCol_new fr p.1 p.2 hnew, ih, List.append_assoc, List.singleton_append]
    rw [colNames_append, List.append_assoc]
    exact hnd

/-- the last assignment to a name determines the column -/
theorem colOf_applyAssigns (fr as : List (String × Col V)) (name : String) :
    colOf (applyAssigns fr as) name =
      match as.reverse.find? (fun p => p.1 == name) with
      | some p => some p.2
      | none => colOf fr name := by
  induction as generalizing fr with
  | nil => simp [applyAssigns]
  | cons p rest ih =>
    simp only [applyAssigns, List.reverse_cons, List.find?_append]
    rw [ih]
    cases hf : rest.reverse.find? (fun p => p.1 == name) with
    | some q => simp
    | none =>
      simp only [Option.none_or, List.find?_cons, List.find?_nil]
      rw [colOf_setCol]
      by_cases hp : p.1 = name
      · rw [beq_iff_eq.mpr hp, if_pos hp.symm]
      · rw [beq_eq_false_iff_ne.mpr hp, if_neg fun e => hp e.symm]

theorem length_setCol_old (fr : List (String × Col V)) (name : String) (c : Col V) (h : name ∈ colNames fr) :
    (setCol fr name c).length = fr.length := by
  rw [← length_colNames, colNames_setCol_old fr name c h, length_colNames]

theorem length_applyAssigns_le (fr as : List (String × Col V)) :
    (applyAssigns fr as).length ≤ fr.length + as.length := by
  induction as generalizing fr with
  | nil => exact Nat.le_refl _
  | cons p rest ih =>
    have h1 := ih (setCol fr p.1 p.2)
    have h2 : (setCol fr p.1 p.2).length ≤ fr.length + 1 := by
      by_cases hp : p.1 ∈ colNames fr
      · rw [length_setCol_old fr p.1 p.2 hp]; exact Nat.le_succ _
      · rw [setCol_new fr p.1 p.2 hp, List.length_append]; rfl
    rw [applyAssigns, List.length_cons]
    omega

/-- a name assigned twice costs a column -/
theorem length_applyAssigns_lt (fr as : List (String × Col V)) (hfr : (colNames fr).Nodup)
    (h : ¬ (colNames fr ++ colNames as).Nodup) : (applyAssigns fr as).length < fr.length + as.length := by
  induction as generalizing fr with
  | nil => exact absurd (by rw [show colNames ([] : List (String × Col V)) = [] from rfl, List.append_nil]; exact hfr) h
  | cons p rest ih =>
    obtain ⟨k, x⟩ := p
    rw [applyAssigns, List.length_cons]
    dsimp only
    by_cases hp : k ∈ colNames fr
    · have := length_applyAssigns_le (setCol fr k x) rest
      rw [length_setCol_old fr k x hp] at this
      omega
    · have hnd : (colNames (fr ++ [(k, x)])).Nodup := by
        rw [colNames_append]
        exact List.nodup_append.mpr ⟨hfr, List.pairwise_singleton _ _,
          fun a ha b hb e => hp ((show b = k from List.mem_singleton.mp hb) ▸ e ▸ ha)⟩
      have := ih (fr ++ [(k, x)]) hnd (by rwa [colNames_append, List.append_assoc])
      rw [List.length_append, List.length_singleton] at this
      rw [setCol_new fr k x hp]
      omega

/-! ### the assignments of `Line.__init__` -/

theorem tab_getD_take {α} (l : List α) (d : α) (n : Nat) : tab (min n l.length) (fun a => l.getD a d) = l.take n := by
  apply List.ext_getElem
  · simp
  · intro a h1 h2
    rw [getElem_tab]
    simp only [tab_length] at h1
    have : a < l.length := by omega
    simp [List.getD_eq_getElem?_getD, this]

/-- coordinate columns assigned, in order -/
def dimAssigns (dims : List String) (o : LineOut V) : List (String × Col V) :=
  tab dims.length fun a => (dims.getD a "", Col.num (o.points.map fun p => p.getD a 0))

/-- value columns assigned, in order -/
def valAssigns [Inhabited V] (vcols : List String) (nv : Nat) (o : LineOut V) : List (String × Col V) :=
  tab (min nv vcols.length) fun c => (vcols.getD c "", Col.val (o.values.map fun v => v.getD c default))

theorem mem_dimAssigns (dims : List String) (o : LineOut V) (a : Nat) (ha : a < dims.length) :
    (dims.getD a "", Col.num (o.points.map fun p => p.getD a 0)) ∈ dimAssigns dims o :=
  (mem_tab _ _ _).mpr ⟨a, ha, rfl⟩

theorem mem_valAssigns [Inhabited V] (vcols : List String) (nv : Nat) (o : LineOut V) (c : Nat)
    (hc : c < nv) (hc' : c < vcols.length) :
    (vcols.getD c "", Col.val (o.values.map fun v => v.getD c default)) ∈ valAssigns vcols nv o :=
  (mem_tab _ _ _).mpr ⟨c, Nat.lt_min.mpr ⟨hc, hc'⟩, rfl⟩

theorem frameAssigns_eq [Inhabited V] (dims vcols : List String) (nv : Nat) (o : LineOut V) :
    frameAssigns dims vcols nv o = ("r", Col.dist2 o.r2) :: (dimAssigns dims o ++ valAssigns vcols nv o) := rfl

theorem colNames_dimAssigns (dims : List String) (o : LineOut V) : colNames (dimAssigns dims o) = dims := by
  unfold colNames dimAssigns
  rw [tab_map]
  exact tab_getD_self dims ""

theorem colNames_valAssigns [Inhabited V] (vcols : List String) (nv : Nat) (o : LineOut V) :
    colNames (valAssigns vcols nv o) = vcols.take nv := by
  unfold colNames valAssigns
  rw [tab_map]
  exact tab_getD_take vcols "" nv

theorem colNames_frameAssigns [Inhabited V] (dims vcols : List String) (nv : Nat) (o : LineOut V) :
    colNames (frameAssigns dims vcols nv o) = "r" :: (dims ++ vcols.take nv) := by
  rw [frameAssigns_eq, colNames_cons, colNames_append, colNames_dimAssigns, colNames_valAssigns]

theorem lineFrame_eq_frameAssigns [Inhabited V] (dims vcols : List String) (nv : Nat) (o : LineOut V)
    (hnd : ("r" :: (dims ++ vcols.take nv)).Nodup) : lineFrame dims vcols nv o = frameAssigns dims vcols nv o := by
  unfold lineFrame
  rw [applyAssigns_fresh [] _ (by rw [colNames_frameAssigns]; exact hnd), List.nil_append]

theorem find_of_nodup (l : List (String × Col V)) (hnd : (colNames l).Nodup) (p : String × Col V) (hp : p ∈ l) :
    l.find? (fun q => q.1 == p.1) = some p := by
  induction l with
  | nil => simp at hp
  | cons q rest ih =>
    rw [colNames_cons, List.nodup_cons] at hnd
    rcases List.mem_cons.mp hp with rfl | hp'
    · simp
    · have hne : (q.1 == p.1) = false := by
        have : q.1 ≠ p.1 := fun e => hnd.1 (e ▸ mem_colNames_of_mem hp')
        simpa using this
      simp only [List.find?_cons, hne]
      exact ih hnd.2 hp'

theorem find_rev_of_nodup (l : List (String × Col V)) (hnd : (colNames l).Nodup) (p : String × Col V) (hp : p ∈ l) :
    l.reverse.find? (fun q => q.1 == p.1) = some p := by
  apply find_of_nodup
  · rw [colNames_reverse, List.Nodup, List.pairwise_reverse]
    exact List.Pairwise.imp Ne.symm hnd
  · simpa using hp

theorem find_none_of_not_mem (l : List (String × Col V)) (name : String) (h : name ∉ colNames l) :
    l.find? (fun q => q.1 == name) = none := by
  rw [List.find?_eq_none]
  intro q hq
  have : q.1 ≠ name := fun e => h (e ▸ mem_colNames_of_mem hq)
  simpa using this

theorem colOf_of_nodup (l : List (String × Col V)) (hnd : (colNames l).Nodup) (p : String × Col V) (hp : p ∈ l) :
    colOf l p.1 = some p.2 := by
  unfold colOf
  rw [find_of_nodup l hnd p hp]; rfl

theorem lineData_eq_ok_iff [Inhabited V] (f : VF V) (p1 p2 : List Rat) (n : Nat) (fr : List (String × Col V)) :
    f.lineData p1 p2 n = .ok fr ↔ ∃ o, f.line p1 p2 n = .ok o ∧
      fr = lineFrame f.mesh.region.dims (valueColumns f.vdims f.nvdim) f.nvdim o := by
  unfold VF.lineData
  cases f.line p1 p2 n <;> simp [eq_comm]

end DFV.C02
