import DFV.Lemmas.C01Ctor
import DFV.Lemmas.C01Cell
import DFV.Lemmas.C06Idx
/-! Mesh lemmas for C06: removing an axis from a list (`skip`), name lookup, `Mesh(region, cell)` without boundary
conditions, `Mesh.sel(dim)` step by step, the two constructor calls inside it computed on a well-formed mesh
(`cut_region_ok`, `cut_mesh_ok`), and what a success therefore returns: the relation `Reduced ax m m'` (axis removal)
with everything the reduced mesh inherits - bounds, counts, cell lengths, cell volume, the positions of the other
directions. -/
namespace DFV.C06
open DFV

/-! ## removing an axis from a list -/

/-- position in the full index list of position `a` of the list with `ax` removed -/
def skip (ax a : Nat) : Nat := if a < ax then a else a + 1

theorem getD_removeAt_skip {α} (l : List α) (ax p : Nat) (d : α) :
    (removeAt l ax).getD p d = l.getD (skip ax p) d :=
  getD_removeAt l ax p d

theorem skip_cases (ax a : Nat) : (a < ax ∧ skip ax a = a) ∨ (ax ≤ a ∧ skip ax a = a + 1) := by
  unfold skip; split <;> omega

theorem skip_lt (ax a n : Nat) (h : a < n - 1) : skip ax a < n := by
  have := skip_cases ax a; omega

theorem skip_ne (ax a : Nat) : skip ax a ≠ ax := by
  have := skip_cases ax a; omega

theorem removeAt_tab {α} (n : Nat) (f : Nat → α) (ax : Nat) (h : ax < n) :
    removeAt (tab n f) ax = tab (n - 1) fun a => f (skip ax a) := by
  apply List.ext_getElem
  · rw [length_removeAt _ _ (by simpa using h)]; simp
  · intro i h1 h2
    have hi : i < n - 1 := by simpa using h2
    have e1 : (removeAt (tab n f) ax)[i] = (removeAt (tab n f) ax).getD i (f 0) := by
      simp [List.getD_eq_getElem?_getD, h1]
    rw [e1, getD_removeAt_skip, getD_tab _ _ _ _ (skip_lt ax i n hi), getElem_tab]

theorem removeAt_eq_tab {α} (l : List α) (ax : Nat) (d : α) (h : ax < l.length) :
    removeAt l ax = tab (l.length - 1) fun a => l.getD (skip ax a) d :=
  DFV.removeAt_eq_tab l ax d h

theorem ratProd_removeAt (l : List Rat) (ax : Nat) (h : ax < l.length) :
    ratProd l = l.getD ax 0 * ratProd (removeAt l ax) := by
  induction l generalizing ax with
  | nil => simp at h
  | cons x xs ih =>
    cases ax with
    | zero => simp [removeAt, ratProd]
    | succ ax =>
      simp only [removeAt, ratProd, List.getD_cons_succ]
      rw [ih ax (by simpa using h)]; ring

theorem natProd_removeAt (l : List Nat) (ax : Nat) (h : ax < l.length) :
    natProd l = l.getD ax 0 * natProd (removeAt l ax) := by
  induction l generalizing ax with
  | nil => simp at h
  | cons x xs ih =>
    cases ax with
    | zero => simp [removeAt, natProd]
    | succ ax =>
      simp only [removeAt, natProd, List.getD_cons_succ]
      rw [ih ax (by simpa using h)]; ring

theorem mem_removeAt (xs : List String) (x : String) (ax : Nat) (h : x ∈ xs) (hne : xs.getD ax "" ≠ x) :
    x ∈ removeAt xs ax := by
  induction xs generalizing ax with
  | nil => simp at h
  | cons y ys ih =>
    cases ax with
    | zero =>
      simp only [removeAt]
      rcases List.mem_cons.mp h with rfl | h
      · simp at hne
      · exact h
    | succ ax =>
      simp only [removeAt]
      rcases List.mem_cons.mp h with rfl | h
      · simp
      · exact List.mem_cons_of_mem _ (ih ax h (by simpa using hne))

/-! ## name lookup -/

theorem dim2index_of_mem (r : Region) (d : String) (h : d ∈ r.dims) : ∃ ax, r.dim2index d = .ok ax :=
  (C01.dim2index_exists_iff r d).mpr h

/-! ## the mesh constructor without boundary conditions -/

/-- `Mesh(region=r, cell=cell)` without boundary conditions: what a success returns -/
theorem mkCell_ok (r : Region) (cell : List Rat) (m' : Mesh) (h : Mesh.mkCell? r cell = .ok m') :
    m' = { region := r,
           n := tab r.ndim fun a => (Mesh.roundHalfEven (r.edge a / cell.getD a 0)).toNat,
           bc := "", subs := [] } := by
  obtain ⟨_, _, _, _, _, _, this⟩ := (C01.mkCell_ok_iff' r cell "" m').mp h
  rwa [C01.toLower_empty] at this

theorem mkCell_iff (r : Region) (cell : List Rat) :
    (∃ o, Mesh.mkCell? r cell = .ok o) ↔
      cell.length = r.ndim ∧ (∀ c ∈ cell, 0 < c) ∧
      r.containsPt (tab r.ndim fun a => r.lo a + cell.getD a 0) = true ∧
      (∀ a, a < r.ndim → Mesh.notDivisible (r.edge a) (cell.getD a 0) (listMin cell / 1000) = false) ∧
      (∀ a, a < r.ndim → 1 ≤ (Mesh.roundHalfEven (r.edge a / cell.getD a 0)).toNat) := by
  constructor
  · rintro ⟨o, h⟩
    obtain ⟨h1, h2, h3, h4, h5, _⟩ := (C01.mkCell_ok_iff' r cell "" o).mp h
    exact ⟨h1, h2, h3, h4, h5⟩
  · rintro ⟨h1, h2, h3, h4, h5⟩
    exact ⟨_, (C01.mkCell_ok_iff' r cell "" _).mpr ⟨h1, h2, h3, h4, h5, C01.bcOk_empty_lower _, rfl⟩⟩

/-! ## `Mesh.sel` -/

/-- `Mesh.sel(d)` step by step: axis lookup, selected coordinate, projected subregions, reduced
region, reduced mesh, subregion setter -/
theorem sel_of (m : Mesh) (d : String) (ax : Nat) (s : Rat) (subs ss : List (String × Region)) (r : Region) (mc : Mesh)
    (hax : m.region.dim2index d = .ok ax) (hs : selCentre m ax = .ok s) (hp : projSubs ax s m.subs = .ok subs)
    (hr : Region.mk? (removeAt m.region.pmin ax) (removeAt m.region.pmax ax)
      (some (removeAt m.region.dims ax)) (some (removeAt m.region.units ax)) m.region.tol = .ok r)
    (hmc : Mesh.mkCell? r (removeAt m.cell ax) = .ok mc) (hss : setSubs mc subs = .ok ss) :
    sel m d = .ok { mc with subs := ss } := by
  unfold sel
  rw [hax]; dsimp only
  rw [hs]; dsimp only
  rw [hp]; dsimp only
  rw [hr]; dsimp only
  rw [hmc]; dsimp only
  rw [hss]

theorem sel_unpack (m : Mesh) (d : String) (m' : Mesh) (h : sel m d = .ok m') :
    ∃ ax s subs r mc ss, m.region.dim2index d = .ok ax ∧ selCentre m ax = .ok s ∧
      projSubs ax s m.subs = .ok subs ∧
      Region.mk? (removeAt m.region.pmin ax) (removeAt m.region.pmax ax)
        (some (removeAt m.region.dims ax)) (some (removeAt m.region.units ax)) m.region.tol = .ok r ∧
      Mesh.mkCell? r (removeAt m.cell ax) = .ok mc ∧ setSubs mc subs = .ok ss ∧ m' = { mc with subs := ss } := by
  unfold sel at h
  split at h
  · cases h
  · rename_i ax hax
    split at h
    · cases h
    · rename_i s hs
      split at h
      · cases h
      · rename_i subs hp
        split at h
        · cases h
        · rename_i r hr
          split at h
          · cases h
          · rename_i mc hmc
            split at h
            · cases h
            · rename_i ss hss
              exact ⟨ax, s, subs, r, mc, ss, hax, hs, hp, hr, hmc, hss, (Except.ok.inj h).symm⟩

/-- `m'` is `m` with axis `ax` removed from corners, names, units and counts: what `Mesh.sel` returns,
subregions aside.  Everything the reduced mesh inherits axis by axis (bounds, counts, cell lengths; the
cell volume loses one factor) is read off this relation through `skip`, without looking at `sel` again. -/
structure Reduced (ax : Nat) (m m' : Mesh) : Prop where
  lt : ax < m.ndim
  two : 2 ≤ m.ndim
  pmin : m'.region.pmin = removeAt m.region.pmin ax
  pmax : m'.region.pmax = removeAt m.region.pmax ax
  dims : m'.region.dims = removeAt m.region.dims ax
  units : m'.region.units = removeAt m.region.units ax
  tol : m'.region.tol = m.region.tol
  n : m'.n = removeAt m.n ax
  bc : m'.bc = ""

/-- a box with axis `ax` removed, carrying the names / units / tolerance of region `r` without
that axis -/
def cutRegion (r : Region) (ax : Nat) (pmin pmax : List Rat) : Region :=
  { pmin := removeAt pmin ax, pmax := removeAt pmax ax, dims := removeAt r.dims ax,
    units := removeAt r.units ax, tol := r.tol }

/-- `Region(...)` on the corners of a well-formed mesh with one axis removed: they are still ordered, so the
constructor returns them as they are -/
theorem cut_region_ok (m : Mesh) (hm : m.Inv) (ax : Nat) (hax : ax < m.ndim) (h2 : 2 ≤ m.ndim) :
    Region.mk? (removeAt m.region.pmin ax) (removeAt m.region.pmax ax) (some (removeAt m.region.dims ax))
        (some (removeAt m.region.units ax)) m.region.tol
      = .ok (cutRegion m.region ax m.region.pmin m.region.pmax) := by
  have hl : ∀ {α} (l : List α), l.length = m.ndim → (removeAt l ax).length = (removeAt m.region.pmin ax).length :=
    fun l h => (length_removeAt l ax (h ▸ hax)).trans (h ▸ (length_removeAt _ _ hax).symm)
  refine T.mk?_ok_of_lt _ _ _ _ _ _ _ (hl _ hm.1.pmax_length).symm ?_
    (T.dimsOk_some _ _ (hl _ hm.dims_length) (hasDup_removeAt _ _ hm.1.dims_nodup))
    (T.unitsOk_some _ _ (hl _ hm.1.units_length)) fun a ha => ?_
  · rw [length_removeAt _ _ hax]; show m.ndim - 1 ≠ 0; omega
  · rw [length_removeAt _ _ hax] at ha
    rw [getD_removeAt_skip, getD_removeAt_skip]
    exact hm.lo_lt_hi (skip_lt ax a _ ha)

/-- `Mesh(region, cell)` on the reduced region with the cell lengths of the remaining axes: every edge is a whole
number of cells, so the counts of the remaining axes come back -/
theorem cut_mesh_ok (m : Mesh) (hm : m.Inv) (ax : Nat) (hax : ax < m.ndim) :
    Mesh.mkCell? (cutRegion m.region ax m.region.pmin m.region.pmax) (removeAt m.cell ax)
      = .ok { region := cutRegion m.region ax m.region.pmin m.region.pmax, n := removeAt m.n ax, bc := "", subs := [] } := by
  have hnd : (cutRegion m.region ax m.region.pmin m.region.pmax).ndim = m.ndim - 1 := length_removeAt _ _ hax
  have hcl : m.cell.length = m.ndim := C01.cell_length m
  have hg : ∀ a, a < m.ndim - 1 → (removeAt m.cell ax).getD a 0 = m.cellAt (skip ax a) := fun a ha => by
    rw [getD_removeAt_skip, C01.cell_getD m _ (skip_lt ax a _ ha)]
  have h := C01.mkCell_of_exact (cutRegion m.region ax m.region.pmin m.region.pmax) (removeAt m.cell ax)
    (fun a => m.nAt (skip ax a)) "" (by rw [length_removeAt _ _ (hcl ▸ hax), hcl, hnd])
    (fun c hc => by
      obtain ⟨a, ha, rfl⟩ := exists_getD_of_mem _ c 0 hc
      rw [length_removeAt _ _ (hcl ▸ hax), hcl] at ha
      rw [hg a ha]; exact hm.cellAt_pos (skip_lt ax a _ ha))
    (fun a ha => by
      rw [hnd] at ha
      have hs := skip_lt ax a _ ha
      refine ⟨hm.nAt_pos hs, ?_⟩
      rw [hg a ha, C01.cellAt_cover m _ (hm.nAt_pos hs)]
      unfold Region.edge Region.hi Region.lo
      show (removeAt m.region.pmax ax).getD a 0 - (removeAt m.region.pmin ax).getD a 0 = _
      rw [getD_removeAt_skip, getD_removeAt_skip])
    (C01.bcOk_empty_lower _)
  rw [C01.toLower_empty, hnd, ← hm.n_length] at h
  rw [removeAt_eq_tab m.n ax 0 (hm.n_length ▸ hax)]
  exact h

/-- a successful `Mesh.sel(d)` on a well-formed mesh returns the mesh with the axis of `d` removed: the two
constructor calls inside `sel` are `cut_region_ok` and `cut_mesh_ok` -/
theorem sel_reduced {m : Mesh} (hm : m.Inv) {d : String} {ax : Nat} (hax : m.region.dim2index d = .ok ax)
    {m' : Mesh} (h : sel m d = .ok m') : Reduced ax m m' := by
  obtain ⟨ax', _, _, r, mc, ss, hax', _, _, hr, hmc, _, rfl⟩ := sel_unpack m d m' h
  cases hax.symm.trans hax'
  have haxn := hm.dim2index_lt hax
  -- the region constructor refuses an empty list of corners
  have h2 : 2 ≤ m.ndim := by
    have := (T.mk?_ok_inv _ _ _ _ _ _ hr).2.1
    rw [length_removeAt _ _ haxn] at this
    show 2 ≤ m.region.pmin.length; omega
  rw [cut_region_ok m hm ax haxn h2] at hr
  cases hr
  rw [cut_mesh_ok m hm ax haxn] at hmc
  cases hmc
  exact ⟨haxn, h2, rfl, rfl, rfl, rfl, rfl, rfl, rfl⟩

namespace Reduced

theorem of_nosubs {ax : Nat} {m m' : Mesh} (h : Reduced ax { m with subs := [] } m') : Reduced ax m m' :=
  ⟨h.lt, h.two, h.pmin, h.pmax, h.dims, h.units, h.tol, h.n, h.bc⟩

variable {ax : Nat} {m m' : Mesh} (h : Reduced ax m m')
include h

theorem ndim : m'.ndim = m.ndim - 1 := (congrArg List.length h.pmin).trans (length_removeAt _ _ h.lt)

theorem skip_lt {a : Nat} (ha : a < m'.ndim) : skip ax a < m.ndim := C06.skip_lt ax a _ (h.ndim ▸ ha)

theorem lo (a : Nat) : m'.region.lo a = m.region.lo (skip ax a) := by
  unfold Region.lo; rw [h.pmin, getD_removeAt_skip]

theorem hi (a : Nat) : m'.region.hi a = m.region.hi (skip ax a) := by
  unfold Region.hi; rw [h.pmax, getD_removeAt_skip]

theorem nAt (a : Nat) : m'.nAt a = m.nAt (skip ax a) := by
  unfold Mesh.nAt; rw [h.n, getD_removeAt_skip]

theorem cellAt (a : Nat) : m'.cellAt a = m.cellAt (skip ax a) := by
  unfold Mesh.cellAt Region.edge; rw [h.lo, h.hi, h.nAt]

theorem cell : m'.cell = removeAt m.cell ax := by
  unfold Mesh.cell
  rw [removeAt_tab _ _ _ h.lt, h.ndim]
  exact tab_congr _ _ _ fun a _ => h.cellAt a

theorem dV : dV m = m.cellAt ax * dV m' := by
  unfold C06.dV
  rw [h.cell, ratProd_removeAt m.cell ax (by simpa [Mesh.cell] using h.lt)]
  congr 1
  exact getD_tab _ _ _ _ h.lt

end Reduced

theorem Reduced.getD_dims_not_mem {ax : Nat} {m m' : Mesh} (h : Reduced ax m m') (hm : m.Inv) :
    m.region.dims.getD ax "" ∉ m'.region.dims := by
  intro hmem
  have hnd : m.region.dims.Nodup := (hasDup_false_iff_nodup _).mp hm.1.dims_nodup
  have hl : ax < m.region.dims.length := lt_of_lt_of_eq h.lt hm.dims_length.symm
  rw [h.dims] at hmem
  obtain ⟨q, hq, e⟩ := exists_getD_of_mem _ _ "" hmem
  rw [length_removeAt _ _ hl] at hq
  rw [getD_removeAt_skip] at e
  exact skip_ne ax q (getD_inj_of_nodup _ hnd "" (C06.skip_lt ax q _ hq) hl e)

theorem Reduced.dim2index_other {ax' : Nat} {m m' : Mesh} (h : Reduced ax' m m') (hm : m.Inv) {d : String} {ax : Nat}
    (hax : m.region.dim2index d = .ok ax) (hne : ax ≠ ax') :
    ∃ p, m'.region.dim2index d = .ok p ∧ skip ax' p = ax ∧ p < m'.ndim := by
  obtain ⟨haxl, haxd⟩ := dim2index_ok _ _ _ hax
  have hnd : m.region.dims.Nodup := (hasDup_false_iff_nodup _).mp hm.1.dims_nodup
  have hdl : m.region.dims.length = m.ndim := hm.dims_length
  have hmem : d ∈ m'.region.dims := by
    rw [h.dims]
    apply mem_removeAt _ _ _ (dim2index_mem _ _ _ hax)
    intro heq
    exact hne (getD_inj_of_nodup _ hnd "" haxl (hdl ▸ h.lt) (by rw [haxd, heq]))
  obtain ⟨p, hp⟩ := dim2index_of_mem _ _ hmem
  obtain ⟨hpl, hpd⟩ := dim2index_ok _ _ _ hp
  rw [h.dims, length_removeAt _ _ (hdl ▸ h.lt), hdl, ← h.ndim] at hpl
  refine ⟨p, hp, getD_inj_of_nodup _ hnd "" (hdl ▸ h.skip_lt hpl) haxl ?_, hpl⟩
  rw [haxd, ← hpd, h.dims, getD_removeAt_skip]

/-- the reduced mesh is well formed, whatever the mesh: its region and its counts come out of the
constructors -/
theorem sel_inv (m : Mesh) (d : String) (m' : Mesh) (h : sel m d = .ok m') : m'.Inv := by
  obtain ⟨ax, _, _, r, mc, ss, _, _, _, hr, hmc, _, rfl⟩ := sel_unpack m d m' h
  obtain ⟨_, _, _, hrinv, _⟩ := C01.region_mk_spec _ _ _ _ _ _ hr
  have hreg : mc.region = r := by rw [mkCell_ok _ _ _ hmc]
  refine ⟨hreg ▸ hrinv, ?_, fun a ha => ?_⟩
  · show mc.n.length = mc.region.ndim
    rw [mkCell_ok _ _ _ hmc]; exact tab_length _ _
  · exact (C01.mkCell_near r hrinv _ "" mc hmc a (hreg ▸ ha)).1

end DFV.C06
