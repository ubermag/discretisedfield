import DFV.Lemmas.C19Conv
import DFV.Lemmas.C19Demag
import DFV.Lemmas.C19Grid
/-!
# C19 — the sum rule for a uniformly magnetised cuboid, composed: the tensor only has to have
trace `−δ` on the cells of the displacement grid (not outside), `demag_field` is shown to accept
the uniformly magnetised fields, and the tensor is instantiated with the model's Newell tensor
(`tensorArr`) evaluated with any rational leaves that satisfy the arctangent identity.
-/
namespace DFV.C19
open DFV

/-- the component of `linConv` along the magnetisation direction for a uniformly magnetised cuboid:
of the three terms `b` only `b = a` has a non-zero magnetisation component -/
theorem linConv_uniF (T : NDA (List Rat)) (m : Mesh) (M : Rat) (a : Nat) (ha : a < 3) (q0 q1 q2 : Nat) :
    linConv T (uniF m M a) a [q0, q1, q2]
      = uniConv (fun j0 j1 j2 c => (T.get [j0, j1, j2]).getD c 0) (m.nAt 0) (m.nAt 1) (m.nAt 2) M a q0 q1 q2 := by
  -- component `b` of the uniform field `M e_a`
  have uniF_comp : ∀ b, b < 3 → ∀ r : List Nat, ((uniF m M a).data.get r).getD b 0 = if b = a then M else 0 :=
    fun b hb r => getD_tab _ _ _ _ hb
  unfold linConv uniConv
  rw [sumTo_single 3 a ha, ← sum3_eq_sum]
  · apply sum3_congr
    intro r0 r1 r2 _ _ _
    rw [uniF_comp a ha, if_pos rfl, symIdx, if_pos rfl]
    rfl
  · intro b hb hne
    apply sum3_zero
    intro r0 r1 r2 _ _ _
    rw [uniF_comp b hb, if_neg hne, mul_zero]

/-- SUM RULE with the trace hypothesis only on the cells of the `2n−1` displacement grid.  Exported as `Props/C19.cuboid_sum_rule_grid`. -/
theorem cuboid_sum_inrange (T : NDA (List Rat)) (m : Mesh) (M : Rat)
    (hT : TraceDelta (fun j0 j1 j2 c => (T.get [j0, j1, j2]).getD c 0) (m.nAt 0) (m.nAt 1) (m.nAt 2) (-1))
    (q0 q1 q2 : Nat) (h0 : q0 < m.nAt 0) (h1 : q1 < m.nAt 1) (h2 : q2 < m.nAt 2) :
    linConv T (uniF m M 0) 0 [q0, q1, q2] + linConv T (uniF m M 1) 1 [q0, q1, q2]
      + linConv T (uniF m M 2) 2 [q0, q1, q2] = -M := by
  rw [linConv_uniF T m M 0 (by omega), linConv_uniF T m M 1 (by omega), linConv_uniF T m M 2 (by omega),
    uniConv_sum _ _ _ _ (-1) M hT q0 q1 q2 h0 h1 h2, neg_one_mul]

theorem demagField_uniF (T : NDA (List Rat)) (m : Mesh) (M : Rat) (a : Nat) (h3 : m.ndim = 3)
    (hdims : m.region.dims = ["x", "y", "z"]) (hT : T.shape = tensorShape m) :
    ∃ g, demagField T (uniF m M a) = .ok g ∧ g.mesh = m ∧ g.data.shape = m.n ∧
      ∀ c, c < 3 → ∀ q0 q1 q2, q0 < m.nAt 0 → q1 < m.nAt 1 → q2 < m.nAt 2 →
        (g.data.get [q0, q1, q2]).getD c 0 = linConv T (uniF m M a) c [q0, q1, q2] :=
  ⟨_, (demagField_eq_ok_iff T _ _).mpr ⟨⟨h3, rfl, hdims, hT⟩, rfl⟩, rfl, rfl, demagFld_comp T (uniF m M a)⟩

/-! ## the model's Newell tensor with rational leaves -/

/-- the real-space tensor of `demag_tensor(mesh)` with the leaves evaluated by rational functions -/
def tensorQ (asinh atan sqrt : Rat → Rat) (pi : Rat) (m : Mesh) : NDA (List Rat) :=
  ⟨[2 * m.nAt 0 - 1, 2 * m.nAt 1 - 1, 2 * m.nAt 2 - 1],
   fun j => (tensorArr pi m j).map (evalTerms asinh atan sqrt)⟩

theorem tensorQ_trace (asinh atan sqrt : Rat → Rat) (pi : Rat) (hpi : pi ≠ 0) (m : Mesh) (hm : m.Inv) (h3 : m.ndim = 3)
    (hat : ∀ a b c : Rat, 0 < a → 0 < b → 0 < c →
      atan (b * c / (a * sqrt (a ^ 2 + b ^ 2 + c ^ 2))) + atan (c * a / (b * sqrt (a ^ 2 + b ^ 2 + c ^ 2)))
        + atan (a * b / (c * sqrt (a ^ 2 + b ^ 2 + c ^ 2))) = pi / 2)
    (j0 j1 j2 : Nat) (b0 : j0 < 2 * m.nAt 0 - 1) (b1 : j1 < 2 * m.nAt 1 - 1) (b2 : j2 < 2 * m.nAt 2 - 1) :
    ((tensorQ asinh atan sqrt pi m).get [j0, j1, j2]).getD 0 0 + ((tensorQ asinh atan sqrt pi m).get [j0, j1, j2]).getD 1 0
      + ((tensorQ asinh atan sqrt pi m).get [j0, j1, j2]).getD 2 0
      = if j0 = m.nAt 0 - 1 ∧ j1 = m.nAt 1 - 1 ∧ j2 = m.nAt 2 - 1 then -1 else 0 := by
  have key := tensorArr_trace (K := Rat) (evalLeaf asinh atan sqrt) (pi / 2) pi hpi m hm h3
    (evalLeaf_atan_sum asinh atan sqrt pi hat) j0 j1 j2 b0 b1 b2
  simp only [evalK_rat, Rat.cast_id] at key
  have e : -(2 * (pi / 2) / pi) = -1 := by field_simp
  rw [e] at key
  exact key

/-! ## the cube -/

/-- for a cube each of the three summed field components is a third of the total; trace and cyclic
symmetry of the tensor are only needed on the displacement grid -/
theorem cube_third_inrange (T : NDA (List Rat)) (m : Mesh) (M : Rat) (n : Nat)
    (hn0 : m.nAt 0 = n) (hn1 : m.nAt 1 = n) (hn2 : m.nAt 2 = n)
    (hT : TraceDelta (fun j0 j1 j2 c => (T.get [j0, j1, j2]).getD c 0) n n n (-1))
    (hsym : ∀ j0 j1 j2, j0 < 2 * n - 1 → j1 < 2 * n - 1 → j2 < 2 * n - 1 →
      (T.get [j0, j1, j2]).getD 1 0 = (T.get [j1, j2, j0]).getD 0 0 ∧
      (T.get [j0, j1, j2]).getD 2 0 = (T.get [j2, j0, j1]).getD 0 0)
    (a : Nat) (ha : a < 3) :
    sum3 n n n (fun q0 q1 q2 => linConv T (uniF m M a) a [q0, q1, q2]) = -M * (n : Rat) ^ 3 / 3 := by
  rw [sum3_eq_sum]
  simp only [linConv_uniF T m M a ha, hn0, hn1, hn2]
  rw [uniConv_cube_third _ n (-1) M hT hsym a ha, neg_one_mul]

theorem tensorQ_cubic (asinh atan sqrt : Rat → Rat) (pi : Rat) (m : Mesh) (n : Nat)
    (hn0 : m.nAt 0 = n) (hn1 : m.nAt 1 = n) (hn2 : m.nAt 2 = n)
    (hc1 : m.cellAt 1 = m.cellAt 0) (hc2 : m.cellAt 2 = m.cellAt 0) (j0 j1 j2 : Nat) :
    ((tensorQ asinh atan sqrt pi m).get [j0, j1, j2]).getD 1 0 = ((tensorQ asinh atan sqrt pi m).get [j1, j2, j0]).getD 0 0 ∧
    ((tensorQ asinh atan sqrt pi m).get [j0, j1, j2]).getD 2 0 = ((tensorQ asinh atan sqrt pi m).get [j2, j0, j1]).getD 0 0 := by
  obtain ⟨e1, e2⟩ := tensorArr_cubic pi m n hn0 hn1 hn2 hc1 hc2 j0 j1 j2
  have g : ∀ (j : List Nat) (c : Nat), ((tensorQ asinh atan sqrt pi m).get j).getD c 0
      = evalTerms asinh atan sqrt ((tensorArr pi m j).getD c []) := fun j c =>
    getD_map_of_eq (f := evalTerms asinh atan sqrt) (d := []) rfl (tensorArr pi m j) c
  rw [g, g, g, g, e1, e2]
  exact ⟨rfl, rfl⟩

end DFV.C19
