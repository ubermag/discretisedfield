import DFV.Props.C11
import DFV.Lemmas.C19
import DFV.Lemmas.NDA
/-!
# C19 — the convolution theorem for C11's model of the n-dimensional DFT

`dftN (a ⊛ b) = dftN a · dftN b` and `idftN (dftN a · dftN b) = a ⊛ b`, `⊛` the circular convolution
over the box, for any commutative ring with roots of unity (hypotheses `Roots`): the shift theorem of C11
(`dftN_translate`) summed over the translations.
-/
namespace DFV.C19
open DFV DFV.C11

section ring
variable {R : Type} [CommRing R]

/-- cyclic difference of multi-indices: `(j − r) mod n` per axis -/
def subIdx : List Nat → List Nat → List Nat → List Nat
  | n :: ns, j :: js, r :: rs => subMod j r n :: subIdx ns js rs
  | _, _, _ => []

/-- circular convolution over the box `ns` -/
def cconvN (ns : List Nat) (a b : List Nat → R) (j : List Nat) : R :=
  sumBox ns fun r => a r * b (subIdx ns j r)

/-- the cyclic difference is C11's cyclic translation with the roles of the arguments exchanged -/
theorem subIdx_eq_rollIdx (ns j r : List Nat) (hr : inRange ns r = true) : subIdx ns j r = rollIdx ns r j := by
  induction ns generalizing j r with
  | nil => cases r <;> cases j <;> simp_all [subIdx, rollIdx, inRange]
  | cons n ns ih =>
    cases r with
    | nil => simp [inRange] at hr
    | cons r0 rs =>
      rw [inRange_cons] at hr
      cases j with
      | nil => rfl
      | cons j0 js =>
        rw [subIdx, rollIdx, ih js rs hr.2, subMod, Nat.add_sub_assoc (Nat.mod_lt _ (by omega)).le]

/-- THE CONVOLUTION THEOREM (forward form), any number of axes — the shift theorem summed: a circular convolution is
`Σ_r a[r] · (b translated by r)`, and the transform of a translate is the transform times a phase (`C11.dftN_translate`) -/
theorem dftN_cconvN (ρs : List (Root R)) (ns : List Nat) (hρ : Roots ns ρs) (a b : List Nat → R) (m : List Nat) :
    dftN ρs ns (cconvN ns a b) m = dftN ρs ns a m * dftN ρs ns b m := by
  unfold cconvN
  rw [dftN_sumBox, dftN_eq_sumBox ρs ns a, ← sumBox_mul_right]
  refine sumBox_congr ns _ _ fun r hr => ?_
  rw [dftN_mul_left, funext fun j => congrArg b (subIdx_eq_rollIdx ns j r hr),
    dftN_translate ρs ns hρ b r m (inRange_length _ _ hr), mul_assoc]

/-- THE CONVOLUTION THEOREM (inverse form): `ifftn(fftn(a)·fftn(b))` is the circular convolution -/
theorem idftN_mul_dftN (ρs : List (Root R)) (ns : List Nat) (hρ : Roots ns ρs) (a b : List Nat → R)
    (j : List Nat) (hj : inRange ns j = true) :
    idftN ρs ns (fun k => dftN ρs ns a k * dftN ρs ns b k) j = cconvN ns a b j := by
  rw [idftN_congr ρs ns _ (dftN ρs ns (cconvN ns a b)) j (fun k _ => (dftN_cconvN ρs ns hρ a b k).symm)]
  exact idftN_dftN ρs ns hρ _ j hj

/-! ## `demag_field` through the transforms = the circular convolution of the model -/

theorem map_sumTo (ι : ℚ →+* R) (n : Nat) (g : Nat → Rat) : ι (sumTo n g) = sumN n fun k => ι (g k) := by
  induction n with
  | zero => simp [sumTo, sumN]
  | succ n ih => simp only [sumTo, sumN, map_add, ih]

theorem compA_embArr (ι : ℚ →+* R) (T : NDA (List Rat)) (c : Nat) (j : List Nat) :
    compA (embArr (⇑ι) T) c j = ι ((T.get j).getD c 0) :=
  getD_map_of_eq (f := ⇑ι) (map_zero ι) (T.get j) c

theorem compA_padArr (ι : ℚ →+* R) (f : Fld) (b : Nat) (hb : b < 3) (r : List Nat) :
    compA (padArr (⇑ι) f) b r = ι (padded f b r) := by
  unfold compA padArr
  simp only
  rw [getD_tab _ _ _ _ hb]

theorem cconvN3 (ι : ℚ →+* R) (N0 N1 N2 : Nat) (A B : List Nat → Rat) (p0 p1 p2 : Nat) :
    cconvN [N0, N1, N2] (fun j => ι (A j)) (fun r => ι (B r)) [p0, p1, p2]
      = ι (sum3 N0 N1 N2 fun j0 j1 j2 => A [j0, j1, j2] * B [subMod p0 j0 N0, subMod p1 j1 N1, subMod p2 j2 N2]) := by
  unfold cconvN sum3
  simp only [sumBox, subIdx, map_sumTo, map_mul]

theorem compA_force (a : NDA (List R)) (c : Nat) (idx : List Nat) (h : inRange a.shape idx = true) :
    compA (a.force []) c idx = compA a c idx := by
  unfold compA; rw [NDA.force_get a [] idx h]

theorem compA_mk (sh : List Nat) (F : List Nat → List R) (a : Nat) (i : List Nat) :
    compA (⟨sh, F⟩ : NDA (List R)) a i = (F i).getD a 0 := rfl

/-- `ifftn(fftn(T)·fftn(M))`, component `a`, for arrays over `R` of a common shape: the sum over `b` of
the circular convolutions of `T_ab` with `M_b` -/
theorem demagFFTArr_gen (ρs : List (Root R)) (Tq Mq : NDA (List R)) (sh : List Nat) (hT : Tq.shape = sh) (hM : Mq.shape = sh)
    (hρ : Roots sh ρs) (a : Nat) (ha : a < 3) (p : List Nat) (hp : inRange sh p = true) :
    compA (demagFFTArr ρs (fftnArr ρs 6 Tq) Mq) a p
      = cconvN sh (compA Tq (symIdx a 0)) (compA Mq 0) p + cconvN sh (compA Tq (symIdx a 1)) (compA Mq 1) p
        + cconvN sh (compA Tq (symIdx a 2)) (compA Mq 2) p := by
  have hs6 : symIdx a 0 < 6 ∧ symIdx a 1 < 6 ∧ symIdx a 2 < 6 := by
    unfold symIdx
    rcases (by omega : a = 0 ∨ a = 1 ∨ a = 2) with rfl | rfl | rfl <;> simp
  subst hT
  -- the spectrum handed to the inverse transform, entry `k`: the products of the transforms of `T_ab` and `M_b`, summed over `b`
  have hspec : ∀ k, inRange Tq.shape k = true →
      compA (NDA.force (specProd (fftnArr ρs 6 Tq) ((fftnArr ρs 3 Mq).force [])) []) a (ishift Tq.shape k)
        = 1 * (1 * (dftN ρs Tq.shape (compA Tq (symIdx a 0)) k * dftN ρs Tq.shape (compA Mq 0) k)
              + 1 * (dftN ρs Tq.shape (compA Tq (symIdx a 1)) k * dftN ρs Tq.shape (compA Mq 1) k))
          + 1 * (dftN ρs Tq.shape (compA Tq (symIdx a 2)) k * dftN ρs Tq.shape (compA Mq 2) k) := by
    intro k hk
    have hik : inRange Tq.shape (ishift Tq.shape k) = true := ishift_inRange _ k hk
    have e2 : ∀ b, b < 3 → compA ((fftnArr ρs 3 Mq).force []) b (ishift Tq.shape k) = dftN ρs Tq.shape (compA Mq b) k :=
      fun b hb => by
        rw [compA_force _ _ _ (by show inRange Mq.shape _ = true; rw [hM]; exact hik), ← hM,
          fftnArr_ishift ρs 3 Mq k (hM ▸ hk) b hb]
    rw [compA_force _ _ _ (show inRange (specProd (fftnArr ρs 6 Tq) ((fftnArr ρs 3 Mq).force [])).shape _ = true from hik)]
    unfold specProd
    rw [compA_mk, getD_tab _ _ _ _ ha, e2 0 (by omega), e2 1 (by omega), e2 2 (by omega),
      fftnArr_ishift ρs 6 Tq k hk _ hs6.1, fftnArr_ishift ρs 6 Tq k hk _ hs6.2.1, fftnArr_ishift ρs 6 Tq k hk _ hs6.2.2]
    ring
  unfold demagFFTArr
  rw [ifftnArr_get _ _ _ _ _ ha]
  show idftN ρs Tq.shape _ p = _
  refine (idftN_congr ρs Tq.shape _ _ p hspec).trans ?_
  rw [C11.ifft_linear, C11.ifft_linear, idftN_mul_dftN ρs _ hρ _ _ p hp, idftN_mul_dftN ρs _ hρ _ _ p hp,
    idftN_mul_dftN ρs _ hρ _ _ p hp]
  ring

/-- ONE COMPONENT OF `ifftn(tensor_hat · fftn(m_pad))` IS THE MODEL'S CIRCULAR CONVOLUTION -/
theorem demagFFTArr_get (ι : ℚ →+* R) (ρs : List (Root R)) (T : NDA (List Rat)) (f : Fld)
    (hT : T.shape = tensorShape f.mesh) (hρ : Roots (tensorShape f.mesh) ρs)
    (a : Nat) (ha : a < 3) (p0 p1 p2 : Nat) (h0 : p0 < 2 * f.mesh.nAt 0 - 1) (h1 : p1 < 2 * f.mesh.nAt 1 - 1)
    (h2 : p2 < 2 * f.mesh.nAt 2 - 1) :
    compA (demagFFTArr ρs (tensorSpectrum (⇑ι) ρs T) (padArr (⇑ι) f)) a [p0, p1, p2] = ι (circConv T f a [p0, p1, p2]) := by
  have hp : inRange (tensorShape f.mesh) [p0, p1, p2] = true := by
    simp [tensorShape, inRange, h0, h1, h2]
  unfold tensorSpectrum
  rw [demagFFTArr_gen ρs (embArr (⇑ι) T) (padArr (⇑ι) f) _ hT rfl hρ a ha _ hp]
  unfold tensorShape
  have ec : ∀ c, compA (embArr (⇑ι) T) c = fun j => ι ((T.get j).getD c 0) := fun c => funext fun j => compA_embArr ι T c j
  have ep : ∀ b, b < 3 → compA (padArr (⇑ι) f) b = fun r => ι (padded f b r) := fun b hb => funext fun r => compA_padArr ι f b hb r
  rw [ec, ec, ec, ep 0 (by omega), ep 1 (by omega), ep 2 (by omega), cconvN3, cconvN3, cconvN3]
  unfold circConv
  simp only [sumTo, List.getD_cons_zero, List.getD_cons_succ, map_add, map_zero]
  ring

end ring
end DFV.C19
