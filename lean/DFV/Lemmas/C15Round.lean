import Mathlib.Algebra.Order.Field.Basic
import Mathlib.Tactic.Ring
import Mathlib.Tactic.FieldSimp
import Mathlib.Tactic.Linarith
import Mathlib.Tactic.Positivity
import DFV.Lemmas.C15
/-!
Rounded arithmetic for C15: the two contracts.  `FlOk fl u` is the standard model (every operation
returns the exact result times `1 + δ`, `|δ| ≤ u`), `SqrtOk sq u` what is asked of a rounded square
root.  Both are *hypotheses* carried by the theorems, like `C01.Rounding`, generic in the ordered
field `K`; `fl64` and `sqrt64` meet them.  With them three order-field facts their users share
(`exists_factor`: a relative error is a factor near 1; `mul_lt_one_of_le`, `times_err`).
-/
namespace DFV.C15
variable {K : Type} [Field K] [LinearOrder K] [IsStrictOrderedRing K]

/-- **a relative error is a factor**: `|X − x| ≤ g·|x|` makes `X` the exact `x` times some `e` within `g`
of 1 — the form in which signs, zeros, products and directions are read off an error bound -/
theorem exists_factor {X x g : K} (hg : 0 ≤ g) (h : |X - x| ≤ g * |x|) : ∃ e, X = x * e ∧ |e - 1| ≤ g := by
  rcases eq_or_ne x 0 with rfl | hx
  · rw [abs_zero, mul_zero, sub_zero] at h
    exact ⟨1, by rw [abs_nonpos_iff.mp h, zero_mul], by rwa [sub_self, abs_zero]⟩
  · refine ⟨X / x, (mul_div_cancel₀ _ hx).symm, ?_⟩
    have e : X / x - 1 = (X - x) / x := by field_simp
    rw [e, abs_div, div_le_iff₀ (abs_pos.mpr hx)]; exact h

/-- standard model of rounding: `|fl x - x| ≤ u·|x|` for every `x` -/
def FlOk (fl : K → K) (u : K) : Prop := 0 ≤ u ∧ ∀ x, |fl x - x| ≤ u * |x|

theorem FlOk.zero {fl : K → K} {u : K} (h : FlOk fl u) : fl 0 = 0 := by
  have := h.2 0
  simp only [sub_zero, abs_zero, mul_zero] at this
  exact abs_eq_zero.mp (le_antisymm this (abs_nonneg _))

/-- rounding never produces a zero out of a non-zero number (no underflow in the model) -/
theorem FlOk.eq_zero_iff {fl : K → K} {u : K} (h : FlOk fl u) (hu : u < 1) (x : K) :
    fl x = 0 ↔ x = 0 := by
  obtain ⟨e, he, h1⟩ := exists_factor h.1 (h.2 x)
  rw [he, mul_eq_zero, or_iff_left]
  rintro rfl   -- the factor is within `u < 1` of 1, so it is not 0
  rw [zero_sub, abs_neg, abs_one] at h1
  exact absurd h1 (not_le.mpr hu)

theorem FlOk.nonneg {fl : K → K} {u : K} (h : FlOk fl u) (hu : u ≤ 1) {x : K} (hx : 0 ≤ x) :
    0 ≤ fl x := by
  obtain ⟨e, he, h1⟩ := exists_factor h.1 (h.2 x)
  rw [he]
  exact mul_nonneg hx (by linarith [(abs_le.mp h1).1])

theorem mul_lt_one_of_le {c u : K} (hu : u ≤ 1 / 1024) (hc0 : 0 ≤ c) (hc : c < 1024) : c * u < 1 :=
  lt_of_le_of_lt (mul_le_mul_of_nonneg_left hu hc0)
    (by rw [mul_one_div, div_lt_one (by norm_num)]; exact hc)

/-- a computed quotient `q` within `c` of `x/n`, multiplied back: `q·n` within `c` of `x` -/
theorem times_err {q n x c : K} (hn : n ≠ 0) (h : |q - x / n| ≤ c * |x / n|) : |q * n - x| ≤ c * |x| := by
  have e : q * n - x = (q - x / n) * n := by field_simp
  have e2 : |x| = |x / n| * |n| := by rw [← abs_mul, div_mul_cancel₀ x hn]
  rw [e, abs_mul, e2, ← mul_assoc]
  exact mul_le_mul_of_nonneg_right h (abs_nonneg n)

/-- contract of a rounded square root; `2u + 3u²` (not `2u + u²`) is what the half-ulp window of
the executable root gives, see `sqrt64_sq_err` -/
def SqrtOk (sq : K → K) (u : K) : Prop :=
  (∀ x, 0 < x → 0 ≤ sq x ∧ |sq x * sq x - x| ≤ (2 * u + 3 * (u * u)) * x) ∧ ∀ x, x ≤ 0 → sq x = 0

end DFV.C15
