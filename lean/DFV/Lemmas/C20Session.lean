import DFV.Model.C20Session
import DFV.Lemmas.ListOps
/-!
The dictionary store (C20) — `alloc` / `read` / `write` —, the frame
property of `MplField.__call__` (only freshly allocated dictionaries are written) and the
reduction of a call to the pure specification `callSpec`.  First section: the induction over
histories (`session_spec`) that serves this store and the heap of buffers (`C20HeapSession`).
-/
namespace DFV.C20
open DFV

/-! ## histories of calls on a growing state -/

/-- **Histories of calls, by induction over the history** (the general form of `runSession_spec` for the
dictionary store and `runHeapSession_spec` for the heap of buffers).  `run` serves requests one after the
other with `call`; `Fr s s'` says that `s'` extends `s` without changing it.  If every call extends the
state, and answers `spec s0 r` whenever it starts from an extension of `s0` on which `r` is `Ok`, then a
history started on an extension of `s0` gets the answers `spec s0` assigns to each request alone and ends
on an extension of `s0`. -/
theorem session_spec {S R A : Type} (Fr : S → S → Prop) (trans : ∀ {a b c}, Fr a b → Fr b c → Fr a c)
    (call : S → R → S × A) (run : S → List R → S × List A) (run_nil : ∀ s, run s [] = (s, []))
    (run_cons : ∀ s r rs, run s (r :: rs) = ((run (call s r).1 rs).1, (call s r).2 :: (run (call s r).1 rs).2))
    (frame : ∀ s r, Fr s (call s r).1) (spec : S → R → A) (Ok : S → R → Prop)
    (meets : ∀ s0 s r, Ok s0 r → Fr s0 s → (call s r).2 = spec s0 r)
    (s0 : S) (rs : List R) (ok : ∀ r ∈ rs, Ok s0 r) (s : S) (fr : Fr s0 s) :
    (run s rs).2 = rs.map (spec s0) ∧ Fr s0 (run s rs).1 := by
  induction rs generalizing s with
  | nil => rw [run_nil]; exact ⟨rfl, fr⟩
  | cons r rs ih =>
    obtain ⟨i1, i2⟩ := ih (fun q hq => ok q (List.mem_cons_of_mem _ hq)) _ (trans fr (frame s r))
    rw [run_cons]
    exact ⟨by rw [List.map_cons, i1, meets s0 s r (ok r List.mem_cons_self) fr], i2⟩

theorem session_length {S R A : Type} (call : S → R → S × A) (run : S → List R → S × List A)
    (run_nil : ∀ s, run s [] = (s, []))
    (run_cons : ∀ s r rs, run s (r :: rs) = ((run (call s r).1 rs).1, (call s r).2 :: (run (call s r).1 rs).2))
    (s : S) (rs : List R) : (run s rs).2.length = rs.length := by
  induction rs generalizing s with
  | nil => rw [run_nil]; rfl
  | cons r rs ih => rw [run_cons, List.length_cons, List.length_cons, ih]

theorem getLast?_map_concat {α β} (g : α → β) (l : List α) (a : α) :
    ((l ++ [a]).map g).getLast? = some (g a) := by
  rw [List.map_append]
  simp only [List.map_cons, List.map_nil, List.getLast?_append, List.getLast?_singleton, Option.some_or]

/-! ## store -/

/-- `s'` extends the store `s` and reads the same at every address of `s` -/
def SFrame (s s' : Store) : Prop := s.length ≤ s'.length ∧ ∀ a, a < s.length → s'.read a = s.read a

/-- (the heap of buffers has the same relation, `Frame` in `C20Heap`, with the same proof of transitivity) -/
theorem SFrame.trans {a b c : Store} (h1 : SFrame a b) (h2 : SFrame b c) : SFrame a c :=
  ⟨Nat.le_trans h1.1 h2.1, fun x hx => by rw [h2.2 x (Nat.lt_of_lt_of_le hx h1.1), h1.2 x hx]⟩

theorem read_alloc_lt (s : Store) (k : Kw) (a : Nat) (h : a < s.length) :
    (s.alloc k).1.read a = s.read a :=
  getD_append_left s [k] a {} h

theorem read_alloc_new (s : Store) (k : Kw) : (s.alloc k).1.read (s.alloc k).2 = k :=
  getD_concat_length s k {}

theorem alloc_length (s : Store) (k : Kw) : (s.alloc k).1.length = s.length + 1 :=
  List.length_append

theorem alloc_addr (s : Store) (k : Kw) : (s.alloc k).2 = s.length := rfl

theorem write_length (s : Store) (a : Nat) (k : Kw) : (s.write a k).length = s.length :=
  length_setAt s a k

theorem read_write_ne (s : Store) (a b : Nat) (k : Kw) (h : b ≠ a) : (s.write a k).read b = s.read b :=
  getD_setAt_ne s a b k {} h

theorem read_write_eq (s : Store) (a : Nat) (k : Kw) (h : a < s.length) : (s.write a k).read a = k :=
  getD_setAt_eq s a k {} h

theorem read_ge (s : Store) (a : Nat) (h : s.length ≤ a) : s.read a = {} := by
  unfold Store.read
  rw [List.getD_eq_getElem?_getD, List.getElem?_eq_none h]
  rfl

/-! ## the local dictionaries -/

theorem kwLocal_length (s : Store) (arg : Option Nat) : (kwLocal s arg).1.length = s.length + 1 := by
  cases arg <;> exact alloc_length _ _

theorem kwLocal_addr (s : Store) (arg : Option Nat) : (kwLocal s arg).2 = s.length := by
  cases arg <;> rfl

theorem kwLocal_read_lt (s : Store) (arg : Option Nat) (a : Nat) (h : a < s.length) :
    (kwLocal s arg).1.read a = s.read a := by
  cases arg <;> exact read_alloc_lt _ _ a h

theorem kwLocal_read_new (s : Store) (arg : Option Nat) :
    (kwLocal s arg).1.read s.length = (arg.map s.read).getD {} := by
  cases arg with
  | none => exact read_alloc_new s {}
  | some a => exact read_alloc_new s (s.read a)

/-- the two local dictionaries of a call: `scalar_kw` at the first free address, `vector_kw` at the next -/
theorem kwLocal_two (s : Store) (a b : Option Nat) :
    (kwLocal s a).2 = s.length ∧ (kwLocal (kwLocal s a).1 b).2 = s.length + 1 ∧
    (kwLocal (kwLocal s a).1 b).1.length = s.length + 2 :=
  ⟨kwLocal_addr s a, by rw [kwLocal_addr, kwLocal_length], by rw [kwLocal_length, kwLocal_length]⟩

/-! ## `setdefault` -/

theorem setdefault_length (s : Store) (a : Nat) :
    (∀ v, (setdefaultUseColor s a v).length = s.length) ∧
    (∀ v, (setdefaultColorbar s a v).length = s.length) ∧
    (∀ v, (setdefaultCbLabel s a v).length = s.length) ∧
    (∀ v, (setdefaultFilter s a v).length = s.length) :=
  ⟨fun _ => write_length _ _ _, fun _ => write_length _ _ _, fun _ => write_length _ _ _,
   fun _ => write_length _ _ _⟩

/-- the four `setdefault`s leave other addresses alone; in the order `use_color`, `colorbar`,
`colorbar_label`, `filter_field` (selected below by `.1`, `.2.1`, `.2.2.1`, `.2.2.2`) -/
theorem setdefault_read_ne (s : Store) (a b : Nat) (h : b ≠ a) :
    (∀ v, (setdefaultUseColor s a v).read b = s.read b) ∧
    (∀ v, (setdefaultColorbar s a v).read b = s.read b) ∧
    (∀ v, (setdefaultCbLabel s a v).read b = s.read b) ∧
    (∀ v, (setdefaultFilter s a v).read b = s.read b) :=
  ⟨fun _ => read_write_ne _ _ _ _ h, fun _ => read_write_ne _ _ _ _ h,
   fun _ => read_write_ne _ _ _ _ h, fun _ => read_write_ne _ _ _ _ h⟩

/-! ## `fillDefaults` -/

theorem fillDefaults_length (s : Store) (f : Fld) (pick sa va : Nat) :
    (fillDefaults s f pick sa va).length = s.length := by
  unfold fillDefaults
  split <;> simp only [setdefaultFilter, setdefaultCbLabel, setdefaultColorbar, setdefaultUseColor,
    write_length]

theorem fillDefaults_read_other (s : Store) (f : Fld) (pick sa va a : Nat) (h1 : a ≠ sa) (h2 : a ≠ va) :
    (fillDefaults s f pick sa va).read a = s.read a := by
  unfold fillDefaults
  split <;>
    simp only [(setdefault_read_ne _ sa a h1).2.2.2, (setdefault_read_ne _ sa a h1).2.2.1,
      (setdefault_read_ne _ va a h2).2.1, (setdefault_read_ne _ va a h2).1]

theorem fillDefaults_read_sa (s : Store) (f : Fld) (pick sa va : Nat) (hsa : sa < s.length)
    (hne : sa ≠ va) :
    ((fillDefaults s f pick sa va).read sa).filter = some ((s.read sa).filter.getD (validAsField f)) := by
  unfold fillDefaults
  split
  · -- three components: `filter_field` is set last, on top of `colorbar_label`, both in `scalar_kw`; the
    -- two `setdefault`s before them write `vector_kw`
    unfold setdefaultFilter
    rw [read_write_eq _ _ _ (by
      simp only [setdefaultCbLabel, setdefaultColorbar, setdefaultUseColor, write_length]; exact hsa)]
    simp only []  -- reduces the projection of the record just read (here and below: `simp only []` only evaluates)
    unfold setdefaultCbLabel
    rw [read_write_eq _ _ _ (by
      simp only [setdefaultColorbar, setdefaultUseColor, write_length]; exact hsa)]
    simp only [(setdefault_read_ne _ va sa hne).2.1, (setdefault_read_ne _ va sa hne).1]
  · -- otherwise `filter_field` is the only write to `scalar_kw`
    unfold setdefaultFilter
    rw [read_write_eq _ _ _ (by
      simp only [setdefaultColorbar, setdefaultUseColor, write_length]; exact hsa)]
    simp only [(setdefault_read_ne _ va sa hne).2.1, (setdefault_read_ne _ va sa hne).1]

theorem fillDefaults_read_va (s : Store) (f : Fld) (pick sa va : Nat) (hva : va < s.length)
    (hne : sa ≠ va) :
    ((fillDefaults s f pick sa va).read va).useColor = some ((s.read va).useColor.getD false) ∧
    ((fillDefaults s f pick sa va).read va).colorField = (s.read va).colorField ∧
    ((fillDefaults s f pick sa va).read va).vdims = (s.read va).vdims := by
  have hne' : va ≠ sa := fun h => hne h.symm
  have key : (setdefaultColorbar (setdefaultUseColor s va false) va false).read va =
      { s.read va with useColor := some ((s.read va).useColor.getD false),
                       colorbar := some ((s.read va).colorbar.getD false) } := by
    unfold setdefaultColorbar
    rw [read_write_eq _ _ _ (by simp only [setdefaultUseColor, write_length]; exact hva)]
    unfold setdefaultUseColor
    rw [read_write_eq _ _ _ hva]
  unfold fillDefaults
  split
  · rw [(setdefault_read_ne _ sa va hne').2.2.2, (setdefault_read_ne _ sa va hne').2.2.1, key]
    exact ⟨rfl, rfl, rfl⟩
  · rw [(setdefault_read_ne _ sa va hne').2.2.2, key]
    exact ⟨rfl, rfl, rfl⟩

/-! ## the filter option

`mplVector` never reads `o.filter`; `mplDefault` reads it only as
`filterOf f o = o.filter.getD (validAsField f)`.  Both facts hold by unfolding. -/

theorem mplVector_filter_irrelevant (f : Fld) (o : Opts) (x : Option Fld) :
    mplVector f { o with filter := x } = mplVector f o := rfl

theorem mplDefault_filter_filled (f : Fld) (o : Opts) :
    mplDefault f { o with filter := some (o.filter.getD (validAsField f)) } = mplDefault f o := rfl

/-! ## one call -/

theorem callMpl_frame (s : Store) (r : Req) : SFrame s (callMpl s r).1 := by
  unfold callMpl
  by_cases h2 : r.field.mesh.region.ndim ≠ 2
  · rw [if_pos h2]; exact ⟨Nat.le_refl _, fun _ _ => rfl⟩
  rw [if_neg h2]
  cases setupMultiplier r.field r.mult with
  | error e => exact ⟨Nat.le_refl _, fun _ _ => rfl⟩
  | ok m =>
    dsimp only
    obtain ⟨hsa, hva, hlen⟩ := kwLocal_two s r.skw r.vkw
    refine ⟨by rw [fillDefaults_length, hlen]; omega, fun a ha => ?_⟩
    rw [fillDefaults_read_other _ _ _ _ _ a (by omega) (by omega),
      kwLocal_read_lt _ _ a (by rw [kwLocal_length]; omega), kwLocal_read_lt _ _ a ha]

/-- one call hands over exactly what the pure specification says.  Only the address of `vector_kw` has
to be in range: the local `scalar_kw` is copied from `s` itself, the local `vector_kw` from the store
after that allocation, where an address of `s` still reads the same (`kwLocal_read_lt`). -/
theorem callMpl_spec (s : Store) (r : Req) (hv : ∀ a, r.vkw = some a → a < s.length) :
    (callMpl s r).2 = callSpec s r := by
  unfold callMpl callSpec
  split
  · rename_i h2
    unfold mplDefault
    rw [if_pos h2]
  · rename_i h2
    split
    · rename_i e he
      unfold mplDefault
      rw [if_neg h2]
      simp only [he]
    · simp only []
      obtain ⟨hsa, hva, hlen⟩ := kwLocal_two s r.skw r.vkw
      obtain ⟨u1, u2, u3⟩ := fillDefaults_read_va (kwLocal (kwLocal s r.skw).1 r.vkw).1 r.field r.pick
        (kwLocal s r.skw).2 (kwLocal (kwLocal s r.skw).1 r.vkw).2 (by omega) (by omega)
      have u0 := fillDefaults_read_sa (kwLocal (kwLocal s r.skw).1 r.vkw).1 r.field r.pick
        (kwLocal s r.skw).2 (kwLocal (kwLocal s r.skw).1 r.vkw).2 (by omega) (by omega)
      have rs : (kwLocal (kwLocal s r.skw).1 r.vkw).1.read (kwLocal s r.skw).2 = (r.skw.map s.read).getD {} := by
        rw [hsa, kwLocal_read_lt _ _ _ (by rw [kwLocal_length]; omega), kwLocal_read_new]
      have rv : (kwLocal (kwLocal s r.skw).1 r.vkw).1.read (kwLocal (kwLocal s r.skw).1 r.vkw).2
          = (r.vkw.map s.read).getD {} := by
        rw [hva, ← kwLocal_length s r.skw, kwLocal_read_new]
        cases hv' : r.vkw with
        | none => rfl
        | some a =>
          simp only [Option.map_some, Option.getD_some]
          exact kwLocal_read_lt s r.skw a (hv a hv')
      rw [rs] at u0
      rw [rv] at u1 u2 u3
      -- a missing dictionary reads as the empty one, field by field
      have e1 : ∀ x : Option Kw, (x.getD {}).filter = x.bind (·.filter) := by intro x; cases x <;> rfl
      have e2 : ∀ x : Option Kw, (x.getD {}).colorField = x.bind (·.colorField) := by intro x; cases x <;> rfl
      have e3 : ∀ x : Option Kw, (x.getD {}).vdims = x.bind (·.vdims) := by intro x; cases x <;> rfl
      have e4 : ∀ x : Option Kw, (x.getD {}).useColor = x.bind (·.useColor) := by intro x; cases x <;> rfl
      unfold optsOfKw
      rw [u0, u1, u2, u3, e1, e2, e3, e4]
      simp only [Option.getD_some]
      exact mplDefault_filter_filled r.field
        { mult := r.mult, filter := (Option.map s.read r.skw).bind fun x => x.filter,
          aux := (Option.map s.read r.vkw).bind fun x => x.colorField,
          vdimsArg := (Option.map s.read r.vkw).bind fun x => x.vdims,
          useColor := ((Option.map s.read r.vkw).bind fun x => x.useColor).getD false, pick := r.pick }

/-! ## sessions -/

/-- every dictionary address of the requests refers to one of the first `n` dictionaries (those
the caller made before the session) -/
def ReqsValid (n : Nat) (rs : List Req) : Prop :=
  ∀ r ∈ rs, (∀ a, r.skw = some a → a < n) ∧ (∀ a, r.vkw = some a → a < n)

theorem callSpec_congr (s s' : Store) (r : Req) (hs : ∀ a, r.skw = some a → s'.read a = s.read a)
    (hv : ∀ a, r.vkw = some a → s'.read a = s.read a) : callSpec s' r = callSpec s r := by
  unfold callSpec
  have e1 : r.skw.map s'.read = r.skw.map s.read := by
    cases h : r.skw with
    | none => rfl
    | some a => simp only [Option.map_some]; rw [hs a h]
  have e2 : r.vkw.map s'.read = r.vkw.map s.read := by
    cases h : r.vkw with
    | none => rfl
    | some a => simp only [Option.map_some]; rw [hv a h]
  rw [e1, e2]

theorem runSession_length (s : Store) (rs : List Req) : (runSession s rs).2.length = rs.length :=
  session_length callMpl runSession (fun _ => rfl) (fun _ _ _ => rfl) s rs

/-- **Sessions.**  Served from any store `s'` that agrees with `s0` on the caller's dictionaries,
every request of a history gets the answer `callSpec s0` assigns to it alone, and the caller's
dictionaries are unchanged at the end. -/
theorem runSession_spec (s0 : Store) (rs : List Req) (hv : ReqsValid s0.length rs) (s' : Store)
    (fr : SFrame s0 s') :
    (runSession s' rs).2 = rs.map (callSpec s0) ∧ SFrame s0 (runSession s' rs).1 :=
  session_spec SFrame SFrame.trans callMpl runSession (fun _ => rfl) (fun _ _ _ => rfl) callMpl_frame callSpec
    (fun s r => (∀ a, r.skw = some a → a < s.length) ∧ (∀ a, r.vkw = some a → a < s.length))
    (fun s0 s r okr fr => by
      rw [callMpl_spec s r (fun a ha => Nat.lt_of_lt_of_le (okr.2 a ha) fr.1),
        callSpec_congr s0 s r (fun a ha => fr.2 a (okr.1 a ha)) (fun a ha => fr.2 a (okr.2 a ha))])
    s0 rs hv s' fr

end DFV.C20
