import Mathlib.Tactic.Ring
import Mathlib.Data.Rat.Floor
import DFV.Model.C10
import DFV.Lemmas.C01Ctor
import DFV.Lemmas.NDA
import DFV.Lemmas.C01Iter
import DFV.Lemmas.Tab
import DFV.Lemmas.Index
/-! C10, base: `Except` plumbing (`mapE`), Python dicts as association lists (defines `dictGet`), a few
list facts, typed arrays and casts (`NumArr`, `rne53`, `DBuf`), broadcasting an array to its own shape (defines
`DArr.wf`), the encodings of labels and unit (defines `VdimsOk`: absent, or `nvdim` distinct names). -/
namespace DFV.C10
open DFV

/-! ## Except plumbing -/

@[simp] theorem bind_ok {α β : Type} (x : α) (k : α → M β) : (Except.ok x : M α).bind k = k x := rfl
@[simp] theorem bind_err {α β : Type} (e : Err) (k : α → M β) : (Except.error e : M α).bind k = .error e := rfl

theorem bind_bind {α β γ : Type} (x : M α) (f : α → M β) (g : β → M γ) :
    (x.bind f).bind g = x.bind fun a => (f a).bind g := by cases x <;> rfl

theorem exists_bind_pure_ok {α β : Type} (x : M α) (g : α → β) : (∃ q, x.bind (fun a => .ok (g a)) = .ok q) ↔ ∃ a, x = .ok a := by
  cases x with
  | error e => exact ⟨fun ⟨_, h⟩ => (by cases h), fun ⟨_, h⟩ => (by cases h)⟩
  | ok a => exact ⟨fun _ => ⟨a, rfl⟩, fun _ => ⟨g a, rfl⟩⟩

theorem mapE_cons_eq_ok {α β : Type} {f : α → M β} {a : α} {as : List α} {l' : List β} :
    mapE f (a :: as) = .ok l' ↔ ∃ b bs, f a = .ok b ∧ mapE f as = .ok bs ∧ l' = b :: bs := by
  simp only [mapE, bind_ok_iff', Except.ok.injEq, eq_comm (a := l')]
  exact ⟨fun ⟨b, hb, bs, hbs, e⟩ => ⟨b, bs, hb, hbs, e⟩, fun ⟨b, bs, hb, hbs, e⟩ => ⟨b, hb, bs, hbs, e⟩⟩

theorem mapE_ok_of {α β : Type} (f : α → M β) (g : α → β) (l : List α)
    (h : ∀ a ∈ l, f a = .ok (g a)) : mapE f l = .ok (l.map g) := by
  induction l with
  | nil => rfl
  | cons a as ih =>
    exact mapE_cons_eq_ok.mpr ⟨_, _, h a List.mem_cons_self, ih fun b hb => h b (List.mem_cons_of_mem _ hb), rfl⟩

theorem mapE_map {α β γ : Type} (f : β → M γ) (h : α → β) (l : List α) :
    mapE f (l.map h) = mapE (fun a => f (h a)) l := by
  induction l with
  | nil => rfl
  | cons a as ih => simp only [List.map_cons, mapE, ih]

theorem mapE_ok_mem {α β : Type} (f : α → M β) (l : List α) (l' : List β) (h : mapE f l = .ok l') :
    ∀ b ∈ l', ∃ a ∈ l, f a = .ok b := by
  induction l generalizing l' with
  | nil => cases h; intro b hb; cases hb
  | cons a as ih =>
    obtain ⟨b0, bs, h0, h1, rfl⟩ := mapE_cons_eq_ok.mp h
    intro b hb
    rcases List.mem_cons.mp hb with rfl | hb
    · exact ⟨a, List.mem_cons_self, h0⟩
    · obtain ⟨a', ha', hf⟩ := ih bs h1 b hb
      exact ⟨a', List.mem_cons_of_mem _ ha', hf⟩

theorem mapE_ok_keys {α β : Type} (f : String × α → M (String × β)) (l : List (String × α)) (l' : List (String × β))
    (hf : ∀ a b, f a = .ok b → b.1 = a.1) (h : mapE f l = .ok l') : l'.map (fun p => p.1) = l.map (fun p => p.1) := by
  induction l generalizing l' with
  | nil => cases h; rfl
  | cons a as ih =>
    obtain ⟨b0, bs, h0, h1, rfl⟩ := mapE_cons_eq_ok.mp h
    simp only [List.map_cons, hf a b0 h0, ih bs h1]

theorem mapE_ok_iff {α β : Type} (f : α → M β) (l : List α) :
    (∃ l', mapE f l = .ok l') ↔ ∀ a ∈ l, ∃ b, f a = .ok b := by
  induction l with
  | nil => exact ⟨fun _ a ha => (by cases ha), fun _ => ⟨[], rfl⟩⟩
  | cons a t ih =>
    simp only [mapE_cons_eq_ok, List.forall_mem_cons, ← ih]
    exact ⟨fun ⟨_, b, bs, hb, hbs, _⟩ => ⟨⟨b, hb⟩, bs, hbs⟩, fun ⟨⟨b, hb⟩, bs, hbs⟩ => ⟨_, b, bs, hb, hbs, rfl⟩⟩

/-! ## Python dicts as association lists -/

/-- Python `d[k]`; the model has no lookup of its own except `fsGet` (`Model/C10Raw.lean`, the same body): the lemmas
below say what `dictInsert` / `dictOf` hold under a key -/
def dictGet {α : Type} (d : List (String × α)) (k : String) : Option α := (d.find? fun p => p.1 == k).map (·.2)

theorem mem_dictInsert {α : Type} (d : List (String × α)) (k : String) (v : α) (q : String × α)
    (h : q ∈ dictInsert d k v) : q ∈ d ∨ q = (k, v) := by
  induction d with
  | nil => exact Or.inr (List.mem_singleton.mp h)
  | cons p t ih =>
    rw [dictInsert] at h
    split at h
    · exact (List.mem_cons.mp h).symm.imp (List.mem_cons_of_mem _) id
    · rcases List.mem_cons.mp h with h | h
      · exact Or.inl (h ▸ List.mem_cons_self)
      · exact (ih h).imp (List.mem_cons_of_mem _) id

theorem mem_keys_dictInsert {α : Type} (d : List (String × α)) (k : String) (v : α) (x : String) :
    x ∈ (dictInsert d k v).map (fun p => p.1) ↔ x ∈ d.map (fun p => p.1) ∨ x = k := by
  induction d with
  | nil => simp only [dictInsert, List.map_cons, List.map_nil, List.mem_singleton, List.not_mem_nil, false_or]
  | cons p t ih =>
    rw [dictInsert]
    split
    · rename_i hk
      simp only [List.map_cons, List.mem_cons, hk]
      exact ⟨Or.inl, fun h => h.elim id Or.inl⟩
    · simp only [List.map_cons, List.mem_cons, ih, or_assoc]

theorem nodup_keys_dictInsert {α : Type} (d : List (String × α)) (k : String) (v : α)
    (h : (d.map fun p => p.1).Nodup) : ((dictInsert d k v).map fun p => p.1).Nodup := by
  induction d with
  | nil => exact List.pairwise_singleton _ k
  | cons p t ih =>
    obtain ⟨hp, ht⟩ := List.nodup_cons.mp h
    rw [dictInsert]
    split
    · rename_i hk
      subst hk
      exact h
    · rename_i hk
      refine List.nodup_cons.mpr ⟨fun hm => ?_, ih ht⟩
      exact ((mem_keys_dictInsert t k v p.1).mp hm).elim hp hk

theorem dictInsert_fresh {α : Type} (d : List (String × α)) (k : String) (v : α)
    (h : k ∉ d.map fun p => p.1) : dictInsert d k v = d ++ [(k, v)] := by
  induction d with
  | nil => rfl
  | cons p t ih =>
    rw [List.map_cons, List.mem_cons, not_or] at h
    rw [dictInsert, if_neg (Ne.symm h.1), ih h.2, List.cons_append]

/-- inserting from the left is folding the reversed list from the right: its head is inserted last -/
theorem dictOf_eq_foldr {α : Type} (ps : List (String × α)) :
    dictOf ps = ps.reverse.foldr (fun p d => dictInsert d p.1 p.2) [] := by
  rw [List.foldr_reverse]
  rfl

theorem dictOf_nodup {α : Type} (ps : List (String × α)) (h : hasDup (ps.map fun p => p.1) = false) :
    dictOf ps = ps := by
  have hn : (ps.reverse.map fun p => p.1).Nodup := by
    rw [List.map_reverse]
    exact List.pairwise_reverse.mpr (((hasDup_false_iff_nodup _).mp h).imp Ne.symm)
  rw [dictOf_eq_foldr, ← List.reverse_reverse ps]
  generalize ps.reverse = qs at hn
  rw [List.reverse_reverse]
  -- every key is new when its pair is inserted: the pairs are appended in order
  induction qs with
  | nil => rfl
  | cons p t ih =>
    obtain ⟨hp, ht⟩ := List.nodup_cons.mp hn
    rw [List.foldr_cons, ih ht, dictInsert_fresh _ _ _ (by rw [List.map_reverse, List.mem_reverse]; exact hp), List.reverse_cons]

theorem mem_dictOf {α : Type} (ps : List (String × α)) (q : String × α) (h : q ∈ dictOf ps) : q ∈ ps := by
  rw [dictOf_eq_foldr] at h
  rw [← List.mem_reverse]
  revert h
  induction ps.reverse with
  | nil => exact id
  | cons p t ih =>
    intro h
    exact (mem_dictInsert _ _ _ _ h).elim (fun h => List.mem_cons_of_mem _ (ih h)) fun (e : q = (p.1, p.2)) => e ▸ List.mem_cons_self

theorem hasDup_keys_dictOf {α : Type} (ps : List (String × α)) : hasDup ((dictOf ps).map fun p => p.1) = false := by
  rw [hasDup_false_iff_nodup, dictOf_eq_foldr]
  induction ps.reverse with
  | nil => exact List.nodup_nil
  | cons p t ih => exact nodup_keys_dictInsert _ p.1 p.2 ih

theorem dictGet_cons {α : Type} (a : String) (x : α) (t : List (String × α)) (k : String) :
    dictGet ((a, x) :: t) k = if a = k then some x else dictGet t k := by
  unfold dictGet
  rw [List.find?_cons]
  by_cases h : a = k
  · rw [if_pos h, show ((a, x).1 == k) = true from beq_iff_eq.mpr h]
    rfl
  · rw [if_neg h, show ((a, x).1 == k) = false from beq_eq_false_iff_ne.mpr h]

theorem dictGet_insert {α : Type} (d : List (String × α)) (k k' : String) (v : α) :
    dictGet (dictInsert d k v) k' = if k = k' then some v else dictGet d k' := by
  induction d with
  | nil => rw [dictInsert, dictGet_cons]
  | cons p t ih =>
    obtain ⟨a, x⟩ := p
    rw [dictInsert]
    by_cases ha : a = k
    · subst ha
      rw [if_pos rfl, dictGet_cons, dictGet_cons]
      split <;> rfl
    · rw [if_neg ha, dictGet_cons, dictGet_cons, ih]
      by_cases hk : k = k'
      · subst hk
        rw [if_neg ha, if_pos rfl, if_pos rfl]
      · rw [if_neg hk, if_neg hk]

/-- the dict comprehension keeps, under every key, the value of its LAST occurrence -/
theorem dictGet_dictOf {α : Type} (ps : List (String × α)) (k : String) :
    dictGet (dictOf ps) k = dictGet ps.reverse k := by
  rw [dictOf_eq_foldr]
  induction ps.reverse with
  | nil => rfl
  | cons p t ih =>
    obtain ⟨a, x⟩ := p
    rw [List.foldr_cons, dictGet_insert, ih, dictGet_cons]

/-! ## lists -/

theorem allLt_decide (n : Nat) (p : Nat → Prop) [DecidablePred p] :
    allLt n (fun a => decide (p a)) = true ↔ ∀ a, a < n → p a := by
  simp only [allLt_iff, decide_eq_true_eq]

theorem zipWith_min_max_of_le (v w : List Rat) (hl : w.length = v.length)
    (h : ∀ i, i < v.length → v.getD i 0 ≤ w.getD i 0) : List.zipWith min v w = v ∧ List.zipWith max v w = w := by
  induction v generalizing w with
  | nil => exact ⟨rfl, (List.eq_nil_of_length_eq_zero hl).symm ▸ rfl⟩
  | cons a as ih =>
    cases w with
    | nil => cases hl
    | cons b bs =>
      have h0 : a ≤ b := h 0 (Nat.succ_pos _)
      obtain ⟨i1, i2⟩ := ih bs (Nat.succ.inj hl) fun i hi => h (i + 1) (Nat.succ_lt_succ hi)
      exact ⟨by rw [List.zipWith_cons_cons, min_eq_left h0, i1], by rw [List.zipWith_cons_cons, max_eq_right h0, i2]⟩

/-! ## casts -/

theorem truncR_intCast (i : Int) : truncR (i : Rat) = i := by
  unfold truncR
  split
  · exact Rat.floor_intCast i
  · have : (-(i : Rat)) = ((-i : Int) : Rat) := (Int.cast_neg i).symm
    rw [this, Rat.floor_intCast]
    omega

theorem NK.eq_of_int_iff {a b : NK} (h : a = .int ↔ b = .int) : a = b := by
  cases a <;> cases b <;> first | rfl | exact absurd (h.mp rfl) (by decide) | exact absurd (h.mpr rfl) (by decide)

theorem joinAll_eq_int (ks : List NK) : joinAll ks = .int ↔ ∀ k ∈ ks, k = .int := by
  unfold joinAll
  by_cases h : ∀ k ∈ ks, k = NK.int
  · rw [if_pos (List.all_eq_true.mpr fun k hk => decide_eq_true (h k hk))]
    exact iff_of_true rfl h
  · rw [if_neg fun hall => h fun k hk => of_decide_eq_true (List.all_eq_true.mp hall k hk)]
    exact iff_of_false (fun e => (by cases e)) h

namespace NumArr

theorem cast_kind (k : NK) (a : NumArr) : (a.cast k).kind = k := by
  cases k <;> cases a <;> rfl

theorem cast_length (k : NK) (a : NumArr) : (a.cast k).length = a.length := by
  cases k <;> cases a <;> simp only [cast, length, List.length_map]

theorem vals_length (a : NumArr) : a.vals.length = a.length := by
  cases a <;> simp only [vals, length, List.length_map]

theorem cast_vals (k : NK) (a : NumArr) (h : k = .float ∨ a.kind = .int) : (a.cast k).vals = a.vals := by
  cases k <;> cases a <;> first | rfl | (rcases h with h | h <;> cases h)

theorem cast_self (a : NumArr) : a.cast a.kind = a := by
  cases a <;> rfl

theorem cast_eq_self_iff (k : NK) (a : NumArr) : a.cast k = a ↔ a.kind = k :=
  ⟨fun h => by rw [← h, cast_kind], fun h => h ▸ cast_self a⟩

/-- integer array → float dataset → integer again is exact (`truncR` of an integer) -/
theorem cast_int_of_cast_float (v : List Int) : ((ints v).cast .float).cast .int = ints v := by
  simp only [cast, List.map_map]
  congr 1
  exact (List.map_congr_left fun i _ => truncR_intCast i).trans (List.map_id v)

/-- two arrays of one kind are appended in that kind, so the cast maps over the concatenation and `take` / `drop` at
the first length split it again; the mixed-kind cases are excluded by `h` -/
theorem take_cast_append (k : NK) (a b : NumArr) (h : a.kind = b.kind) :
    ((a.append b).cast k).take a.length = a.cast k := by
  cases k <;> cases a <;> cases b <;> first
    | (cases h; done)
    | simp [append, cast, take, length, vals]

theorem drop_cast_append (k : NK) (a b : NumArr) (h : a.kind = b.kind) :
    ((a.append b).cast k).drop a.length = b.cast k := by
  cases k <;> cases a <;> cases b <;> first
    | (cases h; done)
    | simp [append, cast, drop, length, vals]

theorem append_vals (a b : NumArr) : (a.append b).vals = a.vals ++ b.vals := by
  cases a <;> cases b <;> first | rfl | exact List.map_append

theorem append_kind (a b : NumArr) : (a.append b).kind = NK.join a.kind b.kind := by
  cases a <;> cases b <;> rfl

theorem append_length (a b : NumArr) : (a.append b).length = a.length + b.length := by
  rw [← vals_length, append_vals, List.length_append, vals_length, vals_length]

theorem eq_of_kind_vals (a b : NumArr) (hk : a.kind = b.kind) (hv : a.vals = b.vals) : a = b := by
  cases a <;> cases b <;> first
    | (cases hk; done)
    | exact congrArg floats hv
    | exact congrArg ints (List.map_injective_iff.mpr (fun x y h => Int.cast_inj.mp h) hv)

theorem minimum_kind (a b : NumArr) : (minimum a b).kind = NK.join a.kind b.kind := by
  cases a <;> cases b <;> rfl

theorem maximum_kind (a b : NumArr) : (maximum a b).kind = NK.join a.kind b.kind := by
  cases a <;> cases b <;> rfl

theorem join_comm (a b : NK) : NK.join a b = NK.join b a := by cases a <;> cases b <;> rfl

/-- `np.minimum` is the element-wise minimum of the numbers, whatever the dtypes -/
theorem minimum_vals (a b : NumArr) : (minimum a b).vals = List.zipWith min a.vals b.vals := by
  cases a <;> cases b <;> simp only [minimum, vals]
  rw [List.zipWith_map_left, List.zipWith_map_right, List.map_zipWith]
  exact congrArg (fun f => List.zipWith f _ _) (funext fun x => funext fun y => Int.cast_min)

theorem maximum_vals (a b : NumArr) : (maximum a b).vals = List.zipWith max a.vals b.vals := by
  cases a <;> cases b <;> simp only [maximum, vals]
  rw [List.zipWith_map_left, List.zipWith_map_right, List.map_zipWith]
  exact congrArg (fun f => List.zipWith f _ _) (funext fun x => funext fun y => Int.cast_max)

theorem minimum_length (a b : NumArr) (hl : b.length = a.length) : (minimum a b).length = a.length := by
  rw [← vals_length, minimum_vals, List.length_zipWith, vals_length, vals_length, hl, Nat.min_self]

theorem maximum_length (a b : NumArr) (hl : b.length = a.length) : (maximum a b).length = a.length := by
  rw [← vals_length, maximum_vals, List.length_zipWith, vals_length, vals_length, hl, Nat.min_self]

/-- the dtype two arrays join to holds the numbers of both -/
theorem join_lossless (a b : NumArr) :
    (NK.join a.kind b.kind = .float ∨ a.kind = .int) ∧ (NK.join a.kind b.kind = .float ∨ b.kind = .int) := by
  cases a <;> cases b <;> exact ⟨by simp [NK.join, kind], by simp [NK.join, kind]⟩

/-- corners that are ordered already: `np.minimum` / `np.maximum` only unify the dtype -/
theorem minimum_maximum_ordered_gen (a b : NumArr) (hl : b.length = a.length)
    (h : ∀ i, i < a.length → a.vals.getD i 0 < b.vals.getD i 0) :
    minimum a b = a.cast (NK.join a.kind b.kind) ∧ maximum a b = b.cast (NK.join a.kind b.kind) := by
  obtain ⟨e1, e2⟩ := zipWith_min_max_of_le a.vals b.vals (by rw [vals_length, vals_length, hl])
    fun i hi => le_of_lt (h i (vals_length a ▸ hi))
  exact ⟨eq_of_kind_vals _ _ (by rw [minimum_kind, cast_kind]) (by rw [minimum_vals, e1, cast_vals _ _ (join_lossless a b).1]),
    eq_of_kind_vals _ _ (by rw [maximum_kind, cast_kind]) (by rw [maximum_vals, e2, cast_vals _ _ (join_lossless a b).2])⟩

theorem minimum_maximum_ordered (a b : NumArr) (hk : a.kind = b.kind) (hl : b.length = a.length)
    (h : ∀ i, i < a.length → a.vals.getD i 0 < b.vals.getD i 0) : minimum a b = a ∧ maximum a b = b := by
  obtain ⟨e1, e2⟩ := minimum_maximum_ordered_gen a b hl h
  have hj : NK.join a.kind b.kind = a.kind := by rw [hk]; cases b.kind <;> rfl
  rw [e1, e2, hj, cast_self, hk, cast_self]
  exact ⟨rfl, rfl⟩

theorem minimum_lt_maximum (a b : NumArr) (hl : b.length = a.length) (i : Nat) (hi : i < a.length)
    (hne : a.vals.getD i 0 ≠ b.vals.getD i 0) : (minimum a b).vals.getD i 0 < (maximum a b).vals.getD i 0 := by
  rw [minimum_vals, maximum_vals, getD_zipWith _ _ _ _ _ 0 0 (by rw [vals_length]; exact hi) (by rw [vals_length, hl]; exact hi),
    getD_zipWith _ _ _ _ _ 0 0 (by rw [vals_length]; exact hi) (by rw [vals_length, hl]; exact hi)]
  exact min_lt_max.mpr hne

end NumArr

/-! ## the C cast `int64 → double` (`rne53`): which integers it keeps -/

theorem rne53_of_le (i : Int) (h : i.natAbs ≤ 2 ^ 53) : rne53 i = i := by
  unfold rne53; rw [if_pos h]

/-- the search for the number of bits to drop never overshoots a sufficient one -/
theorem dropE_le (n : Nat) (fuel e e' : Nat) (he : e ≤ e') (h : n / 2 ^ e' < 2 ^ 53) : dropE n fuel e ≤ e' := by
  induction fuel generalizing e with
  | zero => exact he
  | succ fuel ih =>
    simp only [dropE]
    split
    · exact he
    · rename_i hc
      apply ih
      rcases Nat.lt_or_ge e e' with hlt | hge
      · exact hlt
      · have : e = e' := by omega
        subst this
        exact absurd h hc

/-- … and, within its fuel, finds one -/
theorem dropE_spec (n : Nat) (fuel e : Nat) (h : n / 2 ^ (e + fuel) < 2 ^ 53) : n / 2 ^ (dropE n fuel e) < 2 ^ 53 := by
  induction fuel generalizing e with
  | zero => simpa [dropE] using h
  | succ fuel ih =>
    simp only [dropE]
    split
    · assumption
    · apply ih
      have : e + 1 + fuel = e + (fuel + 1) := by omega
      rw [this]; exact h

theorem rneNat_of_dvd (n e : Nat) (h : 2 ^ e ∣ n) : rneNat n e = n := by
  unfold rneNat
  have h0 : n % 2 ^ e = 0 := Nat.mod_eq_zero_of_dvd h
  have hp : 0 < 2 ^ e := Nat.pos_of_ne_zero (by simp)
  rw [h0, if_pos (by omega)]
  exact Nat.div_mul_cancel h

/-- the rounded value is a 53-bit number (or 2^53) times the power of two dropped -/
theorem rneNat_form (n e : Nat) : ∃ q, (q = n / 2 ^ e ∨ q = n / 2 ^ e + 1) ∧ rneNat n e = q * 2 ^ e := by
  unfold rneNat
  by_cases h1 : 2 * (n % 2 ^ e) < 2 ^ e
  · rw [if_pos h1]; exact ⟨_, Or.inl rfl, rfl⟩
  · rw [if_neg h1]
    by_cases h2 : 2 ^ e < 2 * (n % 2 ^ e)
    · rw [if_pos h2]; exact ⟨_, Or.inr rfl, rfl⟩
    · rw [if_neg h2]
      by_cases h3 : n / 2 ^ e % 2 = 0
      · rw [if_pos h3]; exact ⟨_, Or.inl rfl, rfl⟩
      · rw [if_neg h3]; exact ⟨_, Or.inr rfl, rfl⟩

/-- **Integers with at most 53 significant bits survive** (any magnitude) -/
theorem rne53_of_representable (i : Int) (m e : Nat) (hm : m < 2 ^ 53) (h : i.natAbs = m * 2 ^ e) : rne53 i = i := by
  unfold rne53
  split
  · rfl
  · have hdiv : i.natAbs / 2 ^ e < 2 ^ 53 := by
      rw [h, Nat.mul_div_cancel _ (Nat.pos_of_ne_zero (by simp))]; exact hm
    have hle := dropE_le i.natAbs 64 0 e (Nat.zero_le _) hdiv
    have hdvd : 2 ^ (dropE i.natAbs 64 0) ∣ i.natAbs := by
      have h2 : 2 ^ (dropE i.natAbs 64 0) ∣ m * 2 ^ e := Dvd.dvd.mul_left (Nat.pow_dvd_pow 2 hle) m
      rw [← h] at h2
      exact h2
    rw [rneNat_of_dvd _ _ hdvd]
    exact Int.sign_mul_natAbs i

/-- **… and only those** (for every `int64`): an integer the C cast keeps has at most 53
significant bits (a 53-bit number, or 2^53, times a power of two) -/
theorem representable_of_rne53 (i : Int) (hi : i.natAbs < 2 ^ 64) (h : rne53 i = i) :
    ∃ m e : Nat, m ≤ 2 ^ 53 ∧ i.natAbs = m * 2 ^ e := by
  unfold rne53 at h
  split at h
  · rename_i hle
    exact ⟨i.natAbs, 0, hle, by simp⟩
  · -- 64 is the fuel `rne53` gives the search: enough for every int64 (`natAbs < 2 ^ 64`)
    have hspec := dropE_spec i.natAbs 64 0 (by
      have : i.natAbs / 2 ^ (0 + 64) = 0 := Nat.div_eq_of_lt (by simpa using hi)
      rw [this]; exact Nat.pos_of_ne_zero (by simp))
    obtain ⟨q, hq, hr⟩ := rneNat_form i.natAbs (dropE i.natAbs 64 0)
    refine ⟨q, dropE i.natAbs 64 0, by rcases hq with rfl | rfl <;> omega, ?_⟩
    have := congrArg Int.natAbs h
    rw [Int.natAbs_mul, Int.natAbs_natCast, hr] at this
    have hs : i.sign.natAbs = 1 := by
      rcases Int.lt_trichotomy i 0 with hneg | hz | hpos
      · rw [Int.sign_eq_neg_one_of_neg hneg]; rfl
      · subst hz; rename_i hgt; simp at hgt
      · rw [Int.sign_eq_one_of_pos hpos]; rfl
    rw [hs, Nat.one_mul] at this
    exact this.symm

/-- the first integer binary64 does not hold: 2^53 + 1 becomes 2^53 (tie to even) -/
theorem rne53_2p53_succ : rne53 (2 ^ 53 + 1) = 2 ^ 53 := by decide +kernel

/-- … and 2^53 + 3 becomes 2^53 + 4 (tie to even, upward) -/
theorem rne53_2p53_three : rne53 (2 ^ 53 + 3) = 2 ^ 53 + 4 := by decide +kernel

/-! ## arrays: broadcasting an array to its own shape is the identity -/

/-- well-formed dataset: the buffer has as many entries as the shape says -/
def DArr.wf (a : DArr) : Prop := a.buf.length = natProd a.shape

theorem DArr.wf_of_shape {a : DArr} {s : List Nat} (hs : a.shape = s) (hl : a.buf.length = natProd s) : a.wf :=
  hl.trans (congrArg natProd hs.symm)

theorem DArr.wf.length_cons {a : DArr} (h : a.wf) {T : Nat} {rest : List Nat} (hsh : a.shape = T :: rest) :
    a.buf.length = T * natProd rest := by
  rw [h, hsh]
  rfl

theorem bcastOk_self (s : List Nat) : bcastOk s s = true := by
  unfold bcastOk
  simp [allLt_iff]

/-- no axis of `s` is stretched, so the source index of flat position `k` is `unflatC s k` itself (the rank offset
`s.length - s.length` of broadcasting is zero), and `flatC s (unflatC s k) = k` -/
theorem bcastIdx_self (s : List Nat) : bcastIdx s s = List.range (natProd s) := by
  unfold bcastIdx tab
  conv_rhs => rw [← List.map_id (List.range (natProd s))]
  apply List.map_congr_left
  intro k hk
  have hk' : k < natProd s := List.mem_range.mp hk
  have hpos := (natProd_pos_iff s).mp (by omega)
  have hin := unflatC_inRange s k hpos hk'
  have hlen := inRange_length s _ hin
  have : (tab s.length fun a => if s.getD a 0 = 1 then 0 else (unflatC s k).getD (a + (s.length - s.length)) 0)
      = unflatC s k := by
    symm
    apply eq_tab_of_getD _ _ _ 0 hlen
    intro i hi
    have hlt := inRange_getD s _ hin i hi
    simp only [Nat.sub_self, Nat.add_zero]
    split
    · rename_i h1
      rw [h1] at hlt
      omega
    · rfl
  simp only [id]
  unfold tab at this
  rw [this]
  exact flatC_unflatC s k hpos hk'

namespace DBuf

theorem gather_range (b : DBuf) : b.gather (List.range b.length) = b := by
  cases b <;> exact congrArg _ (tab_getD_self _ _)

theorem upcast_length (b : DBuf) : b.upcast.length = b.length := by
  cases b <;> simp [upcast, length]

theorem upcast_idem (b : DBuf) : b.upcast.upcast = b.upcast := by
  cases b <;> rfl

/-- **the conversion on reading keeps every value iff every integer survives the C cast** to binary64 (`IntSafe`) -/
theorem upcast_vals_iff (b : DBuf) : b.upcast.vals = b.vals ↔ b.IntSafe := by
  cases b with
  | ints v =>
    -- entry by entry: `(fin (rne53 i), fin 0) = (fin i, fin 0)`
    simp only [upcast, vals, List.map_map, List.map_inj_left, Function.comp, Prod.mk.injEq, FV.fin.injEq, and_true, Int.cast_inj,
      IntSafe, intSafeB, List.all_eq_true, decide_eq_true_eq]
  | floats v => exact iff_of_true rfl rfl
  | complexes v => exact iff_of_true rfl rfl

theorem upcast_vals (b : DBuf) (h : b.IntSafe) : b.upcast.vals = b.vals := (upcast_vals_iff b).mpr h

theorem intSafe_of_not_int (b : DBuf) (h : b.kind ≠ .int) : b.IntSafe := by
  cases b <;> simp_all [IntSafe, intSafeB, kind]

theorem upcast_intSafe (b : DBuf) : b.upcast.IntSafe := by
  cases b <;> rfl

theorem upcast_complex_iff (b : DBuf) : b.upcast.kind = .complex ↔ b.kind = .complex := by
  cases b <;> simp [upcast, kind]

theorem upcast_of_not_int (b : DBuf) (h : b.kind ≠ .int) : b.upcast = b := by
  cases b <;> simp_all [upcast, kind]

theorem upcast_eq_self_iff (b : DBuf) : b.upcast = b ↔ b.kind ≠ .int := by
  constructor
  · intro h hk
    cases b <;> simp_all [upcast, kind]
  · exact upcast_of_not_int b

end DBuf

theorem bcastIdx_length (src tgt : List Nat) : (bcastIdx src tgt).length = natProd tgt := tab_length _ _

theorem DBuf.gather_length (b : DBuf) (idx : List Nat) : (b.gather idx).length = idx.length := by
  cases b <;> exact List.length_map _

theorem append_singleton_ne (n : List Nat) (k : Nat) : n ++ [k] ≠ n := fun h => by
  have := congrArg List.length h
  rw [List.length_append] at this
  exact absurd this (by simp)

/-- `_as_array` on an array that already has the field's shape: only the dtype conversion -/
theorem asArray_shaped (d : DArr) (n : List Nat) (nvdim : Nat) (hs : d.shape = n ++ [nvdim])
    (hl : d.buf.length = natProd (n ++ [nvdim])) :
    asArray d n nvdim = .ok { shape := n ++ [nvdim], buf := d.buf.upcast } := by
  obtain ⟨shape, buf⟩ := d
  simp only at hs hl
  subst hs
  unfold asArray
  have h1 : ¬ (nvdim = 1 ∧ n ++ [nvdim] = n) := fun h => append_singleton_ne n nvdim h.2
  have h2 : ¬ (n ++ [nvdim]).getLast? ≠ some nvdim := by
    rw [List.getLast?_concat]
    simp
  simp only [h1, h2, if_false, bcastOk_self, Bool.not_true, Bool.false_eq_true, bcastIdx_self]
  rw [← hl, DBuf.gather_range]

theorem asValid_shaped (v : VArr) (n : List Nat) (hs : v.shape = n) : asValid (some v) n = .ok v := by
  obtain ⟨shape, buf⟩ := v
  subst hs
  simp only [asValid, if_true]

/-! ## labels, unit -/

theorem decVdims_encVdims (v : Option (List String)) : decVdims (encVdims v) = .ok v := by
  cases v <;> rfl

theorem decUnit_encUnit (u : Option String) : decUnit (encUnit u) = u ↔ u ≠ some "None" := by
  cases u with
  | none => simp [decUnit, encUnit]
  | some s =>
    by_cases h : s = "None"
    · subst h; simp [decUnit, encUnit]
    · simp [decUnit, encUnit, h]

/-- labels: absent, or a non-empty duplicate-free list of `nvdim` names -/
def VdimsOk (nvdim : Nat) : Option (List String) → Prop
  | none => True
  | some l => l ≠ [] ∧ l.length = nvdim ∧ hasDup l = false

theorem vdimsOk_defaultVdims (k : Nat) (hk : 1 ≤ k) : VdimsOk k (Fld.defaultVdims k) := by
  cases h : Fld.defaultVdims k with
  | none => trivial
  | some l =>
    obtain ⟨hl, hd⟩ := Fld.defaultVdims_ok k l h
    exact ⟨fun e => by subst e; exact absurd hl (by simp; omega), hl, hd⟩

theorem vdimsSet_of_ok (nvdim : Nat) (v : Option (List String)) (h : VdimsOk nvdim v) :
    vdimsSet nvdim v = .ok (recodeVdims nvdim v) := by
  cases v with
  | none => rfl
  | some l =>
    obtain ⟨hne, hl, hd⟩ := h
    cases l with
    | nil => exact absurd rfl hne
    | cons x t => simp [vdimsSet, hl, hd, recodeVdims]

end DFV.C10
