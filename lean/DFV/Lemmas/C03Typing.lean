import DFV.Lemmas.C03Accepts

/-! C03: the static typing judgment `HasTy` (component count, labels, mapping, unit, dtype kind of an
expression's value) and its soundness `hasTy_eval`: rule by rule, the method that the step reaches accepts
(`C03Accepts`) and `Accepts.bin` makes that the value of the node.  The metadata table `binTy` of the 16 binary
operations between two fields with its two halves (accepted with the tabulated metadata / refused). -/

namespace DFV.C03
open DFV

/-- dtype kind of the result of a unary operation (`+f` is `f` itself; everything else goes
through the constructor, which stores at least float64) -/
def unKind : UnOp → Kind → Kind
  | .pos, k => k
  | .abs, k | .real, k | .imag, k | .absP, k | .uabsolute, k => k.realOf.ctor
  | .phase, _ => .float
  | _, k => k.ctor

/-- static result of a unary operation -/
def unTy (u : UnOp) (t : Ty) : Ty :=
  { t with unit := if unKeepsUnit u then t.unit else none, kind := unKind u t.kind }

/-- an exponent (number, constant vector, per-cell array) NumPy accepts for every base dtype:
not integer-typed, or without negative entries -/
def PowOk : Opd → Prop
  | .num z k _ => k ≠ .int ∨ 0 ≤ z.re
  | .arr a k _ => k ≠ .int ∨ a.toList.any (fun z => decide (z.re < 0)) = false

theorem negIntPow_notpow (b : BinOp) (h : isPow b = false) (kb ke : Kind) (e : NDA GQ) :
    negIntPow (isPow b) kb ke e = false := by
  rw [h]; exact negIntPow_false _ _ _

theorem negIntPow_powOk (pw : Bool) (kb : Kind) (od : Opd) (h : PowOk od) :
    negIntPow pw kb (rawKind od) (rawArr od) = false := by
  refine Bool.eq_false_iff.mpr fun hh => ?_
  obtain ⟨_, _, hk, z, hz, hlt⟩ := negIntPow_eq_true_iff.mp hh
  cases od with
  | arr a k np =>
    rcases (h : k ≠ .int ∨ a.toList.any (fun z => decide (z.re < 0)) = false) with h' | h'
    · exact h' hk
    · exact absurd (h'.symm.trans (List.any_eq_true.mpr ⟨z, hz, decide_eq_true hlt⟩)) Bool.false_ne_true
  | num z' k np =>
    rcases (h : k ≠ .int ∨ 0 ≤ z'.re) with h' | h'
    · exact h' hk
    · cases List.mem_singleton.mp (show z ∈ [z'] from hz)
      exact absurd h' (Rat.not_le.mpr hlt)

theorem applyUn_accepts (env : Env) (u : UnOp) (M : Mesh) (hM : MeshOk M) (f : CF) (hf : Good M f) :
    Accepts M (applyUn env u f) (unTy u (tyOf f)) := by
  cases u
  case pos => exact ⟨f, rfl, hf, rfl⟩
  case neg => exact mapField_accepts GQ.neg id false M f hf
  case abs => exact mapField_accepts (GQ.abs env.sq) Kind.realOf true M f hf
  case real => exact mapField_accepts GQ.realPart Kind.realOf true M f hf
  case imag => exact mapField_accepts GQ.imagPart Kind.realOf true M f hf
  case conj => exact mapField_accepts GQ.conj id true M f hf
  case absP => exact mapField_accepts (GQ.abs env.sq) Kind.realOf false M f hf
  case phase => exact mapField_accepts (fun z => ⟨env.arg z, 0⟩) (fun _ => .float) false M f hf
  case unegative => exact ufunc1_accepts GQ.neg id M hM f hf
  case upositive => exact ufunc1_accepts id id M hM f hf
  case uabsolute => exact ufunc1_accepts (GQ.abs env.sq) Kind.realOf M hM f hf
  case usquare => exact ufunc1_accepts (fun z => GQ.mul z z) id M hM f hf
  case uconjugate => exact ufunc1_accepts GQ.conj id M hM f hf
  case usign => exact ufunc1_accepts (GQ.sign env.sq) id M hM f hf

/-- the metadata of `self ∘ other` for two fields, as the typing rules and the table write it -/
theorem opTy_eq {f o : CF} {d : Nat} (ho : 0 < o.nvdim) (hd : bdim f.nvdim o.nvdim = some d) (k : Kind) :
    (⟨d, (metaSrc f o).vdims, (metaSrc f o).vmap, none, k⟩ : Ty) =
      (if (tyOf f).nv = 1 ∧ 1 < (tyOf o).nv then tyOf o else tyOf f).res k := by
  rw [← metaSrc_nvdim f o d ho hd]
  show _ = (if f.nvdim = 1 ∧ 1 < o.nvdim then tyOf o else tyOf f).res k
  rw [← metaSrc_apply tyOf f o]
  rfl

/-- NumPy's integer-power rule does not object to `+ - * /`, nor to `**` with an exponent that is `PowOk` -/
theorem negIntPow_arith {b : BinOp} {od : Opd} (hb : isArith b = true ∨ (b = .pow ∧ PowOk od)) (kb : Kind) :
    negIntPow (isPow b) kb (rawKind od) (rawArr od) = false :=
  hb.elim (fun hb => negIntPow_notpow b (isPow_arith hb) _ _ _) (fun hb => negIntPow_powOk _ _ _ hb.2)

theorem negIntPow_uarith {b : BinOp} {od : Opd} (hb : isUArith b = true ∨ (b = .upow ∧ PowOk od)) (kb : Kind) :
    negIntPow (isPow b) kb (rawKind od) (rawArr od) = false :=
  hb.elim (fun hb => negIntPow_notpow b (isPow_uarith hb) _ _ _) (fun hb => negIntPow_powOk _ _ _ hb.2)

/-- **static typing of expression trees** over the fields of `env` (all on the mesh `M`):
`HasTy env M e t` predicts component count, labels, mapping, unit and dtype kind of `e`'s value.
Covers leaves, all unary operations, `+ - * /` (two fields with equal counts or one scalar
field; number / constant vector of matching length / per-cell array on either side, plain
or NumPy), `**` with a number / vector / array / field exponent and `NumPy number ** field`,
`dot` and `cross` (two fields, or a vector / array on either side), `<<` between fields and
with a number / constant vector on either side, `angle` with a field / number / vector /
per-cell array, and the binary ufunc calls incl. `np.power` with the field in either
position and an unlabelled scalar field first with a vector field second. -/
inductive HasTy (env : Env) (M : Mesh) : Expr → Ty → Prop
  | leaf (k : Nat) (f : CF) : env.fields[k]? = some f → HasTy env M (.leaf k) (tyOf f)
  | un (u : UnOp) (e : Expr) (t : Ty) : HasTy env M e t → HasTy env M (.un u e) (unTy u t)
  | arithFF (b : BinOp) (l r : Expr) (tl tr : Ty) (d : Nat) : isArith b = true →
      HasTy env M l tl → HasTy env M r tr → bdim tl.nv tr.nv = some d →
      HasTy env M (.bin b l r)
        ((if tl.nv = 1 ∧ 1 < tr.nv then tr else tl).res (tl.kind.join tr.kind).ctor)
  | arithFR (b : BinOp) (l : Expr) (od : Opd) (t : Ty) : (isArith b = true ∨ (b = .pow ∧ PowOk od)) →
      HasTy env M l t → RawFits M.n t.nv od →
      HasTy env M (.bin b l (.opd od)) (t.res (t.kind.join (rawKind od)).ctor)
  | arithRF (b : BinOp) (od : Opd) (r : Expr) (t : Ty) : isArith b = true →
      HasTy env M r t → RawFits M.n t.nv od →
      HasTy env M (.bin b (.opd od) r) (t.res (t.kind.join (rawKind od)).ctor)
  | dotFF (l r : Expr) (tl tr : Ty) : HasTy env M l tl → HasTy env M r tr → tl.nv = tr.nv →
      HasTy env M (.bin .dot l r) ⟨1, none, [], none, (tl.kind.join tr.kind).ctor⟩
  | dotFR (l : Expr) (a : NDA GQ) (k : Kind) (np : Bool) (t : Ty) : HasTy env M l t →
      RawFits M.n t.nv (.arr a k np) →
      HasTy env M (.bin .dot l (.opd (.arr a k np))) ⟨1, none, [], none, (t.kind.join k).ctor⟩
  | dotRF (a : NDA GQ) (k : Kind) (r : Expr) (t : Ty) : HasTy env M r t →
      RawFits M.n t.nv (.arr a k false) →
      HasTy env M (.bin .dot (.opd (.arr a k false)) r) ⟨1, none, [], none, (t.kind.join k).ctor⟩
  | crossFF (l r : Expr) (tl tr : Ty) (m : VMap) : HasTy env M l tl → HasTy env M r tr → tl.nv = 3 → tr.nv = 3 →
      vmapSet 3 M.region.ndim tl.vdims M.region.dims none = .ok m →
      HasTy env M (.bin .cross l r) ⟨3, tl.vdims, m, none, (tl.kind.join tr.kind).ctor⟩
  | crossFR (l : Expr) (a : NDA GQ) (k : Kind) (np : Bool) (t : Ty) (m : VMap) : HasTy env M l t → t.nv = 3 →
      RawFits M.n t.nv (.arr a k np) →
      vmapSet 3 M.region.ndim t.vdims M.region.dims none = .ok m →
      HasTy env M (.bin .cross l (.opd (.arr a k np))) ⟨3, t.vdims, m, none, (t.kind.join k).ctor⟩
  | crossRF (a : NDA GQ) (k : Kind) (r : Expr) (t : Ty) (m : VMap) : HasTy env M r t → t.nv = 3 →
      RawFits M.n t.nv (.arr a k false) →
      vmapSet 3 M.region.ndim t.vdims M.region.dims none = .ok m →
      HasTy env M (.bin .cross (.opd (.arr a k false)) r) ⟨3, t.vdims, m, none, (t.kind.join k).ctor⟩
  | shlFF (l r : Expr) (tl tr : Ty) (m : VMap) : HasTy env M l tl → HasTy env M r tr →
      (if (dictUpdate tl.vmap tr.vmap).length = tl.nv + tr.nv then m = dictUpdate tl.vmap tr.vmap
       else vmapSet (tl.nv + tr.nv) M.region.ndim (shlLabels tl.vdims tr.vdims (tl.nv + tr.nv)) M.region.dims none
              = .ok m) →
      HasTy env M (.bin .shl l r)
        ⟨tl.nv + tr.nv, shlLabels tl.vdims tr.vdims (tl.nv + tr.nv), m, none, (tl.kind.join tr.kind).ctor⟩
  | angleFF (l r : Expr) (tl tr : Ty) : HasTy env M l tl → HasTy env M r tr → tl.nv = tr.nv →
      HasTy env M (.bin .angle l r) ⟨1, none, [], some "rad", .float⟩
  | ufuncFF (b : BinOp) (l r : Expr) (tl tr : Ty) : isUArith b = true →
      HasTy env M l tl → HasTy env M r tr → bdim tl.nv tr.nv = some tl.nv →
      HasTy env M (.bin b l r) (tl.res (tl.kind.join tr.kind).ctor)
  | ufuncFR (b : BinOp) (l : Expr) (od : Opd) (t : Ty) : (isUArith b = true ∨ (b = .upow ∧ PowOk od)) →
      HasTy env M l t → RawFits M.n t.nv od → UfuncOpd od →
      HasTy env M (.bin b l (.opd od)) (t.res (t.kind.join (rawKind od)).ctor)
  | ufuncRF (b : BinOp) (od : Opd) (r : Expr) (t : Ty) : isUArith b = true →
      HasTy env M r t → RawFits M.n t.nv od → UfuncOpd od →
      HasTy env M (.bin b (.opd od) r) (t.res (t.kind.join (rawKind od)).ctor)
  | powFF (l r : Expr) (tl tr : Ty) (d : Nat) : HasTy env M l tl → HasTy env M r tr →
      bdim tl.nv tr.nv = some d → (tl.kind ≠ .int ∨ tr.kind ≠ .int) →
      HasTy env M (.bin .pow l r)
        ((if tl.nv = 1 ∧ 1 < tr.nv then tr else tl).res (tl.kind.join tr.kind).ctor)
  | powRF (od : Opd) (r : Expr) (t : Ty) : HasTy env M r t → RawFits M.n t.nv od → UfuncOpd od →
      isNp od = true → (rawKind od ≠ .int ∨ t.kind ≠ .int) →
      HasTy env M (.bin .pow (.opd od) r) (t.res (t.kind.join (rawKind od)).ctor)
  | upowFF (l r : Expr) (tl tr : Ty) : HasTy env M l tl → HasTy env M r tr →
      bdim tl.nv tr.nv = some tl.nv → (tl.kind ≠ .int ∨ tr.kind ≠ .int) →
      HasTy env M (.bin .upow l r) (tl.res (tl.kind.join tr.kind).ctor)
  | upowRF (od : Opd) (r : Expr) (t : Ty) : HasTy env M r t → RawFits M.n t.nv od → UfuncOpd od →
      (rawKind od ≠ .int ∨ t.kind ≠ .int) →
      HasTy env M (.bin .upow (.opd od) r) (t.res (t.kind.join (rawKind od)).ctor)
  | ufuncSF (b : BinOp) (l r : Expr) (tl tr : Ty) : isUfuncBin b = true →
      HasTy env M l tl → HasTy env M r tr → tl.nv = 1 → 1 < tr.nv → tl.vdims = none →
      (isPow b = true → tl.kind ≠ .int ∨ tr.kind ≠ .int) →
      HasTy env M (.bin b l r) ⟨tr.nv, Fld.defaultVdims tr.nv, [], none, (tl.kind.join tr.kind).ctor⟩
  | shlFR (l : Expr) (od : Opd) (t : Ty) : HasTy env M l t → LiftFits M.n od →
      HasTy env M (.bin .shl l (.opd od)) (shlTy M t (liftTy M od))
  | shlRF (od : Opd) (r : Expr) (t : Ty) : HasTy env M r t → LiftFits M.n od → isNp od = false →
      HasTy env M (.bin .shl (.opd od) r) (shlTy M (liftTy M od) t)
  | angleFR (l : Expr) (od : Opd) (t : Ty) : HasTy env M l t → AngleFits M.n t.nv od →
      HasTy env M (.bin .angle l (.opd od)) ⟨1, none, [], some "rad", .float⟩

/-- **soundness of the typing judgment**: a well-typed tree over `Good` fields on a mesh `M`
evaluates to a field, that field is `Good` on `M` and carries the predicted component
count, labels, mapping, unit and dtype kind -/
theorem hasTy_eval (env : Env) (M : Mesh) (hM : MeshOk M) (hgood : ∀ f ∈ env.fields, Good M f)
    (e : Expr) (t : Ty) (h : HasTy env M e t) :
    ∃ g, evalF env e = .ok (.fld g) ∧ Good M g ∧ tyOf g = t := by
  -- each rule: the subtrees evaluate (induction), the method the step reaches accepts (C03Accepts), `Accepts.bin`
  induction h with
  | leaf k f hk => exact ⟨f, by simp only [evalF, hk], hgood f (List.mem_of_getElem? hk), rfl⟩
  | un u e t _ ih =>
    obtain ⟨f, hf, hfg, rfl⟩ := ih
    exact (applyUn_accepts env u M hM f hfg).un hf
  | arithFF b l r tl tr d hb _ _ hd ihl ihr =>
    obtain ⟨f, hf, hfg, rfl⟩ := ihl
    obtain ⟨o, ho, hog, rfl⟩ := ihr
    exact ((applyOperator_fld_accepts _ _ M hM f o hfg hog d hd (negIntPow_notpow b (isPow_arith hb) _ _ _)).cast
      (opTy_eq hog.wf.pos hd _)).bin hf ho (applyBin_operator env (Or.inl hb) f _)
  | arithFR b l od t hb _ hfit ih =>
    obtain ⟨f, hf, hfg, rfl⟩ := ih
    exact (applyOperator_raw_accepts _ _ M f hfg od hfit (negIntPow_arith hb _)).bin hf
      (evalF_opd env od) (applyBin_operator env (hb.imp_right And.left) f _)
  | arithRF b od r t hb _ hfit ih =>
    obtain ⟨f, hf, hfg, rfl⟩ := ih
    by_cases hnp : isNp od = true
    · exact (ufunc2_rf_accepts _ _ M hM f hfg od hfit (ufuncOpd_of_isNp hnp) (negIntPow_notpow b (isPow_arith hb) _ _ _)).bin
        (evalF_opd env od) hf (applyBin_np_left env (Or.inl hb) hnp f)
    · exact (reflectedOp_arith_accepts b hb M f hfg od hfit).bin (evalF_opd env od) hf
        (applyBin_reflected env (isOperator_not_ufunc (Or.inl hb)) (Bool.eq_false_iff.mpr hnp) f)
  | dotFF l r tl tr _ _ hn ihl ihr =>
    obtain ⟨f, hf, hfg, rfl⟩ := ihl
    obtain ⟨o, ho, hog, rfl⟩ := ihr
    exact (dotOp_fld_accepts M hM f o hfg hog hn).bin hf ho (applyBin_forward env rfl f _)
  | dotFR l a k np t _ hfit ih =>
    obtain ⟨f, hf, hfg, rfl⟩ := ih
    exact (dotOp_raw_accepts M f hfg a k np hfit).bin hf (evalF_opd env _)
      (applyBin_forward env rfl f _)
  | dotRF a k r t _ hfit ih =>
    obtain ⟨f, hf, hfg, rfl⟩ := ih
    exact (dotOp_raw_accepts M f hfg a k false hfit).bin (evalF_opd env _) hf
      (applyBin_reflected env rfl rfl f)
  | crossFF l r tl tr m _ _ h3 h3' hm ihl ihr =>
    obtain ⟨f, hf, hfg, rfl⟩ := ihl
    obtain ⟨o, ho, hog, rfl⟩ := ihr
    cases Except.ok.inj ((vmapSet_none_eq _ _ _ _).symm.trans hm)
    exact (crossOp_fld_accepts M hM f o hfg hog h3 h3').bin hf ho (applyBin_forward env rfl f _)
  | crossFR l a k np t m _ h3 hfit hm ih =>
    obtain ⟨f, hf, hfg, rfl⟩ := ih
    cases Except.ok.inj ((vmapSet_none_eq _ _ _ _).symm.trans hm)
    exact (crossOp_raw_accepts M hM f hfg h3 a k np hfit).bin hf (evalF_opd env _)
      (applyBin_forward env rfl f _)
  | crossRF a k r t m _ h3 hfit hm ih =>
    obtain ⟨f, hf, hfg, rfl⟩ := ih
    cases Except.ok.inj ((vmapSet_none_eq _ _ _ _).symm.trans hm)
    exact (reflectedOp_cross_accepts M hM f hfg h3 a k hfit).bin (evalF_opd env _) hf
      (applyBin_reflected env rfl rfl f)
  | shlFF l r tl tr m _ _ hm ihl ihr =>
    obtain ⟨f, hf, hfg, rfl⟩ := ihl
    obtain ⟨o, ho, hog, rfl⟩ := ihr
    refine ((shlFF_accepts M hM f o hfg hog).cast ?_).bin hf ho (applyBin_forward env rfl f _)
    -- the rule gives the mapping by the same case distinction as `shlMap`
    have hm' : m = shlMap M (tyOf f) (tyOf o) := by
      unfold shlMap
      split
      · rename_i hc; rw [if_pos hc] at hm; exact hm
      · rename_i hc; rw [if_neg hc, vmapSet_none_eq] at hm; exact (Except.ok.inj hm).symm
    rw [hm']; rfl
  | angleFF l r tl tr _ _ hn ihl ihr =>
    obtain ⟨f, hf, hfg, rfl⟩ := ihl
    obtain ⟨o, ho, hog, rfl⟩ := ihr
    exact (angleOp_fld_accepts env.sq env.acos M hM f o hfg hog hn).bin hf ho (applyBin_forward env rfl f _)
  | ufuncFF b l r tl tr hb _ _ hd ihl ihr =>
    obtain ⟨f, hf, hfg, rfl⟩ := ihl
    obtain ⟨o, ho, hog, rfl⟩ := ihr
    exact (ufunc2_ff_accepts _ _ M hM f o hfg hog hd (negIntPow_notpow b (isPow_uarith hb) _ _ _)).bin hf ho
      (applyBin_ufunc env (isUfuncBin_uarith hb) _ _)
  | ufuncFR b l od t hb _ hfit hu ih =>
    obtain ⟨f, hf, hfg, rfl⟩ := ih
    exact (ufunc2_fr_accepts _ _ M hM f hfg od hfit hu (negIntPow_uarith hb _)).bin hf
      (evalF_opd env od) (applyBin_ufunc env (hb.elim isUfuncBin_uarith fun h => h.1 ▸ rfl) _ _)
  | ufuncRF b od r t hb _ hfit hu ih =>
    obtain ⟨f, hf, hfg, rfl⟩ := ih
    exact (ufunc2_rf_accepts _ _ M hM f hfg od hfit hu
      (negIntPow_notpow b (isPow_uarith hb) _ _ _)).bin (evalF_opd env od) hf (applyBin_ufunc env (isUfuncBin_uarith hb) _ _)
  | powFF l r tl tr d _ _ hd hk ihl ihr =>
    obtain ⟨f, hf, hfg, rfl⟩ := ihl
    obtain ⟨o, ho, hog, rfl⟩ := ihr
    exact ((applyOperator_fld_accepts GQ.pow true M hM f o hfg hog d hd (negIntPow_kinds _ _ _ _ hk)).cast
      (opTy_eq hog.wf.pos hd _)).bin hf ho (applyBin_operator env (Or.inr rfl) f _)
  | powRF od r t _ hfit hu hnp hk ih =>
    obtain ⟨f, hf, hfg, rfl⟩ := ih
    exact (ufunc2_rf_accepts GQ.pow true M hM f hfg od hfit hu (negIntPow_kinds _ _ _ _ hk)).bin
      (evalF_opd env od) hf (applyBin_np_left env (Or.inr rfl) hnp f)
  | upowFF l r tl tr _ _ hd hk ihl ihr =>
    obtain ⟨f, hf, hfg, rfl⟩ := ihl
    obtain ⟨o, ho, hog, rfl⟩ := ihr
    exact (ufunc2_ff_accepts GQ.pow true M hM f o hfg hog hd (negIntPow_kinds _ _ _ _ hk)).bin hf ho
      (applyBin_ufunc env rfl _ _)
  | upowRF od r t _ hfit hu hk ih =>
    obtain ⟨f, hf, hfg, rfl⟩ := ih
    exact (ufunc2_rf_accepts GQ.pow true M hM f hfg od hfit hu (negIntPow_kinds _ _ _ _ hk)).bin
      (evalF_opd env od) hf (applyBin_ufunc env rfl _ _)
  | ufuncSF b l r tl tr hb _ _ h1 h2 hvd hk ihl ihr =>
    obtain ⟨f, hf, hfg, rfl⟩ := ihl
    obtain ⟨o, ho, hog, rfl⟩ := ihr
    have hpw : negIntPow (isPow b) f.kind o.kind o.data = false := by
      cases hp : isPow b with
      | false => exact negIntPow_false _ _ _
      | true => exact negIntPow_kinds _ _ _ _ (hk hp)
    exact (ufunc2_sf_accepts _ _ M hM f o hfg hog h1 hvd hpw).bin hf ho (applyBin_ufunc env hb _ _)
  | shlFR l od t _ hfit ih =>
    obtain ⟨f, hf, hfg, rfl⟩ := ih
    exact (shlOp_lift_accepts M hM f hfg od hfit).bin hf (evalF_opd env od) (applyBin_forward env rfl f _)
  | shlRF od r t _ hfit hnp ih =>
    obtain ⟨f, hf, hfg, rfl⟩ := ih
    exact (reflectedOp_shl_accepts M hM f hfg od hfit).bin (evalF_opd env od) hf (applyBin_reflected env rfl hnp f)
  | angleFR l od t _ hfit ih =>
    obtain ⟨f, hf, hfg, rfl⟩ := ih
    exact (angleOp_raw_accepts env.sq env.acos M hM f hfg od hfit).bin hf (evalF_opd env od) (applyBin_forward env rfl f _)

/-- `hasTy_eval` with the five entries of `t` spelled out -/
theorem hasTy_sound (env : Env) (M : Mesh) (hM : MeshOk M) (hgood : ∀ f ∈ env.fields, Good M f)
    (e : Expr) (t : Ty) (h : HasTy env M e t) :
    ∃ g, evalF env e = .ok (.fld g) ∧ Good M g ∧ g.nvdim = t.nv ∧ g.vdims = t.vdims ∧ g.vmap = t.vmap ∧
      g.unit = t.unit ∧ g.kind = t.kind := by
  obtain ⟨g, hg, hgg, rfl⟩ := hasTy_eval env M hM hgood e t h
  exact ⟨g, hg, hgg, rfl, rfl, rfl, rfl, rfl⟩

theorem hasTy_not_opd (env : Env) (M : Mesh) (od : Opd) (t : Ty) : ¬ HasTy env M (.opd od) t := by
  intro h; cases h

theorem hasTy_operandOk (env : Env) (M : Mesh) (n : List Nat) (e : Expr) (t : Ty) (h : HasTy env M e t) :
    operandOk n e := by
  cases e with
  | opd od => exact absurd h (hasTy_not_opd env M od t)
  | leaf k => trivial
  | un u e => trivial
  | bin b l r => trivial

theorem isArith_ne {b : BinOp} (hb : isArith b = true) : b ≠ .shl ∧ b ≠ .angle :=
  ⟨fun h => (by rw [h] at hb; cases hb), fun h => (by rw [h] at hb; cases hb)⟩

theorem isUfuncBin_ne {b : BinOp} (hb : isUfuncBin b = true) : b ≠ .shl ∧ b ≠ .angle :=
  ⟨fun h => (by rw [h] at hb; cases hb), fun h => (by rw [h] at hb; cases hb)⟩

theorem liftFits_ok {n : List Nat} {od : Opd} (h : LiftFits n od) : OpdLiftOk n od := by
  cases od with
  | num z k np => trivial
  | arr a k np => obtain ⟨m, _, _, hne⟩ := h; exact hne

theorem hasTy_liftOk (env : Env) (M : Mesh) (e : Expr) (t : Ty) (h : HasTy env M e t) :
    LiftOk M.n e := by
  induction h with
  | leaf k f hk => trivial
  | un u e t _ ih => exact ih
  | arithFF b l r tl tr d hb _ _ _ ihl ihr => exact .bin ihl ihr (isArith_ne hb)
  | arithFR b l od t hb _ _ ih =>
    exact .bin ih trivial (hb.elim isArith_ne fun h => h.1 ▸ ⟨nofun, nofun⟩)
  | arithRF b od r t hb _ _ ih => exact .bin trivial ih (isArith_ne hb)
  | dotFF l r tl tr _ _ _ ihl ihr => exact .bin ihl ihr ⟨nofun, nofun⟩
  | dotFR l a k np t _ _ ih => exact .bin ih trivial ⟨nofun, nofun⟩
  | dotRF a k r t _ _ ih => exact .bin trivial ih ⟨nofun, nofun⟩
  | crossFF l r tl tr m _ _ _ _ _ ihl ihr => exact .bin ihl ihr ⟨nofun, nofun⟩
  | crossFR l a k np t m _ _ _ _ ih => exact .bin ih trivial ⟨nofun, nofun⟩
  | crossRF a k r t m _ _ _ _ ih => exact .bin trivial ih ⟨nofun, nofun⟩
  | shlFF l r tl tr m hl hr _ ihl ihr =>
    exact ⟨ihl, ihr, fun _ => ⟨hasTy_operandOk env M M.n l tl hl, hasTy_operandOk env M M.n r tr hr⟩⟩
  | angleFF l r tl tr hl hr _ ihl ihr =>
    exact ⟨ihl, ihr, fun _ => ⟨hasTy_operandOk env M M.n l tl hl, hasTy_operandOk env M M.n r tr hr⟩⟩
  | ufuncFF b l r tl tr hb _ _ _ ihl ihr => exact .bin ihl ihr (isUfuncBin_ne (isUfuncBin_uarith hb))
  | ufuncFR b l od t hb _ _ _ ih =>
    exact .bin ih trivial (isUfuncBin_ne (hb.elim isUfuncBin_uarith fun h => h.1 ▸ rfl))
  | ufuncRF b od r t hb _ _ _ ih => exact .bin trivial ih (isUfuncBin_ne (isUfuncBin_uarith hb))
  | powFF l r tl tr d _ _ _ _ ihl ihr => exact .bin ihl ihr ⟨nofun, nofun⟩
  | powRF od r t _ _ _ _ _ ih => exact .bin trivial ih ⟨nofun, nofun⟩
  | upowFF l r tl tr _ _ _ _ ihl ihr => exact .bin ihl ihr ⟨nofun, nofun⟩
  | upowRF od r t _ _ _ _ ih => exact .bin trivial ih ⟨nofun, nofun⟩
  | ufuncSF b l r tl tr hb _ _ _ _ _ _ ihl ihr => exact .bin ihl ihr (isUfuncBin_ne hb)
  | shlFR l od t hl hfit ih => exact ⟨ih, trivial, fun _ => ⟨hasTy_operandOk env M M.n l t hl, liftFits_ok hfit⟩⟩
  | shlRF od r t hr hfit _ ih => exact ⟨trivial, ih, fun _ => ⟨liftFits_ok hfit, hasTy_operandOk env M M.n r t hr⟩⟩
  | angleFR l od t hl hfit ih =>
    refine ⟨ih, trivial, fun _ => ⟨hasTy_operandOk env M M.n l t hl, ?_⟩⟩
    cases od with
    | num z k np => trivial
    | arr a k np => exact hfit.2

/-- **the table**: component count, labels, mapping, unit and dtype kind of `l ∘ r` for two
fields on the mesh `M` with static descriptions `tl`, `tr` — `none` = the combination is
refused.  One row per operator family:
* `+ - * / **`: counts must broadcast; labels and mapping of the vector operand (of the left
  one when the counts agree); no unit;
* `dot`, `angle`: equal counts; unlabelled scalar without mapping; `angle` has unit `rad`;
* `cross`: three components each; labels of the left operand, default mapping;
* `<<`: always; concatenated labels / merged mapping when unique, defaults otherwise;
* ufunc calls: the result must have the first field's count — or the first field is an
  unlabelled scalar (then default labels, empty mapping); no unit. -/
def binTy (M : Mesh) (b : BinOp) (tl tr : Ty) : Option Ty :=
  match b with
  | .add | .sub | .mul | .div | .pow =>
    if (bdim tl.nv tr.nv).isSome then some ((if tl.nv = 1 ∧ 1 < tr.nv then tr else tl).res (kindFF tl tr)) else none
  | .dot => if tl.nv = tr.nv then some ⟨1, none, [], none, kindFF tl tr⟩ else none
  | .cross =>
    if tl.nv = 3 ∧ tr.nv = 3 then
      some ⟨3, tl.vdims, vmapDefault 3 M.region.ndim tl.vdims M.region.dims, none, kindFF tl tr⟩
    else none
  | .shl => some ⟨tl.nv + tr.nv, shlLabels tl.vdims tr.vdims (tl.nv + tr.nv), shlMap M tl tr, none, kindFF tl tr⟩
  | .angle => if tl.nv = tr.nv then some ⟨1, none, [], some "rad", .float⟩ else none
  | .uadd | .usub | .umul | .udiv | .umax | .umin | .upow =>
    if bdim tl.nv tr.nv = some tl.nv then some (tl.res (kindFF tl tr))
    else if tl.nv = 1 ∧ 1 < tr.nv ∧ tl.vdims = none then
      some ⟨tr.nv, Fld.defaultVdims tr.nv, [], none, kindFF tl tr⟩
    else none

theorem binTy_operator (M : Mesh) {b : BinOp} (hb : isOperator b) (tl tr : Ty) :
    binTy M b tl tr =
      if (bdim tl.nv tr.nv).isSome then some ((if tl.nv = 1 ∧ 1 < tr.nv then tr else tl).res (kindFF tl tr)) else none := by
  rcases hb with hb | rfl
  · cases b <;> first | rfl | cases hb
  · rfl

theorem binTy_ufunc (M : Mesh) {b : BinOp} (hb : isUfuncBin b = true) (tl tr : Ty) :
    binTy M b tl tr =
      if bdim tl.nv tr.nv = some tl.nv then some (tl.res (kindFF tl tr))
      else if tl.nv = 1 ∧ 1 < tr.nv ∧ tl.vdims = none then some ⟨tr.nv, Fld.defaultVdims tr.nv, [], none, kindFF tl tr⟩
      else none := by
  cases b <;> first | rfl | cases hb

/-- **what the table accepts, the code accepts — with the tabulated metadata** -/
theorem binTy_accepts (env : Env) (M : Mesh) (hM : MeshOk M) (f o : CF) (hf : Good M f) (ho : Good M o)
    (b : BinOp) (hpw : negIntPow (isPow b) f.kind o.kind o.data = false) (t : Ty)
    (ht : binTy M b (tyOf f) (tyOf o) = some t) :
    ∃ g, applyBin env b (.fld f) (.fld o) = .ok (.fld g) ∧ Good M g ∧ tyOf g = t := by
  by_cases hop : isOperator b
  · rw [binTy_operator M hop] at ht
    cases hd : bdim (tyOf f).nv (tyOf o).nv with
    | none => simp [hd] at ht
    | some d =>
      simp only [hd, Option.isSome_some, if_true, Option.some.injEq] at ht
      exact ((applyOperator_fld_accepts _ _ M hM f o hf ho d hd hpw).cast ((opTy_eq ho.wf.pos hd _).trans ht)).step
        (applyBin_operator env hop f _)
  cases hu : isUfuncBin b with
  | true =>
    rw [binTy_ufunc M hu] at ht
    change (if bdim f.nvdim o.nvdim = some f.nvdim then _
      else if f.nvdim = 1 ∧ 1 < o.nvdim ∧ f.vdims = none then _ else _) = _ at ht
    by_cases hd : bdim f.nvdim o.nvdim = some f.nvdim
    · rw [if_pos hd] at ht
      exact ((ufunc2_ff_accepts _ _ M hM f o hf ho hd hpw).cast (Option.some.inj ht)).step (applyBin_ufunc env hu _ _)
    · rw [if_neg hd] at ht
      by_cases hc : f.nvdim = 1 ∧ 1 < o.nvdim ∧ f.vdims = none
      · rw [if_pos hc] at ht
        exact ((ufunc2_sf_accepts _ _ M hM f o hf ho hc.1 hc.2.2 hpw).cast (Option.some.inj ht)).step
          (applyBin_ufunc env hu _ _)
      · rw [if_neg hc] at ht; cases ht
  | false =>
    cases b
    case dot =>
      have ht : (if f.nvdim = o.nvdim then some (⟨1, none, [], none, kindFF (tyOf f) (tyOf o)⟩ : Ty) else none) = some t := ht
      by_cases hn : f.nvdim = o.nvdim
      · rw [if_pos hn] at ht
        exact ((dotOp_fld_accepts M hM f o hf ho hn).cast (Option.some.inj ht)).step (applyBin_forward env rfl f _)
      · rw [if_neg hn] at ht; cases ht
    case cross =>
      have ht : (if f.nvdim = 3 ∧ o.nvdim = 3 then
          some (⟨3, f.vdims, vmapDefault 3 M.region.ndim f.vdims M.region.dims, none, kindFF (tyOf f) (tyOf o)⟩ : Ty)
        else none) = some t := ht
      by_cases hn : f.nvdim = 3 ∧ o.nvdim = 3
      · rw [if_pos hn] at ht
        exact ((crossOp_fld_accepts M hM f o hf ho hn.1 hn.2).cast (Option.some.inj ht)).step
          (applyBin_forward env rfl f _)
      · rw [if_neg hn] at ht; cases ht
    case shl =>
      exact ((shlFF_accepts M hM f o hf ho).cast (Option.some.inj ht)).step (applyBin_forward env rfl f _)
    case angle =>
      have ht : (if f.nvdim = o.nvdim then some (⟨1, none, [], some "rad", .float⟩ : Ty) else none) = some t := ht
      by_cases hn : f.nvdim = o.nvdim
      · rw [if_pos hn] at ht
        exact ((angleOp_fld_accepts env.sq env.acos M hM f o hf ho hn).cast (Option.some.inj ht)).step
          (applyBin_forward env rfl f _)
      · rw [if_neg hn] at ht; cases ht
    case add | sub | mul | div => exact absurd (Or.inl rfl) hop
    case pow => exact absurd (Or.inr rfl) hop
    all_goals cases hu

/-- **what the table refuses, the code refuses** (and so does NumPy's integer-power rule) -/
theorem binTy_rejects (env : Env) (M : Mesh) (f o : CF) (hf : Good M f) (ho : Good M o) (b : BinOp)
    (h : binTy M b (tyOf f) (tyOf o) = none ∨ negIntPow (isPow b) f.kind o.kind o.data = true) :
    ∃ e, applyBin env b (.fld f) (.fld o) = .error e := by
  by_cases hop : isOperator b
  · rw [applyBin_operator env hop]
    apply liftFld_error
    rcases h with h | h
    · rw [binTy_operator M hop] at h
      cases hd : bdim f.nvdim o.nvdim with
      | none => exact applyOperator_fld_nvdim_rejected _ _ f o hd
      | some d =>
        have hd' : bdim (tyOf f).nv (tyOf o).nv = some d := hd
        simp [hd'] at h
    · exact applyOperator_fld_negpow_rejected _ _ f o h
  cases hu : isUfuncBin b with
  | true =>
    rw [applyBin_ufunc env hu]
    apply liftFld_error
    rcases h with h | h
    · rw [binTy_ufunc M hu] at h
      change (if bdim f.nvdim o.nvdim = some f.nvdim then _
        else if f.nvdim = 1 ∧ 1 < o.nvdim ∧ f.vdims = none then _ else _) = _ at h
      by_cases hd : bdim f.nvdim o.nvdim = some f.nvdim
      · rw [if_pos hd] at h; cases h
      · rw [if_neg hd] at h
        by_cases hc : f.nvdim = 1 ∧ 1 < o.nvdim ∧ f.vdims = none
        · rw [if_pos hc] at h; cases h
        · cases hb : bdim f.nvdim o.nvdim with
          | none =>
            obtain ⟨h1, h2, h3⟩ := (bdim_eq_none_iff _ _).mp hb
            exact ufunc2_nvdim_rejected _ _ f o hf.1 ho.1 h1 h2 h3
          | some d =>
            obtain ⟨hd1, hd2⟩ := bdim_some _ _ _ hb
            have hf1 : f.nvdim = 1 := by
              by_contra hne
              rw [if_neg hne] at hd1
              exact hd (by rw [hb, hd1])
            rw [if_pos hf1] at hd1
            have ho1 : 1 < o.nvdim := by
              have := ho.wf.pos
              have hne : o.nvdim ≠ 1 := by
                intro h1; apply hd; rw [hb, hd1, h1, hf1]
              omega
            cases hvd : f.vdims with
            | none => exact absurd ⟨hf1, ho1, hvd⟩ hc
            | some l =>
              exact ufunc2_sf_rejected _ _ f o hf.1 hf.stable ho.1 (by rw [hf.mesh, ho.mesh]) hf1 ho1 l hvd
    · exact ufunc2_ff_negpow_rejected _ _ f o h
  | false =>
    have hnp : isPow b = false := by
      cases b <;> first | rfl | exact absurd (Or.inr rfl) hop | cases hu
    have h' : binTy M b (tyOf f) (tyOf o) = none := by
      rcases h with h | h
      · exact h
      · rw [negIntPow_notpow b hnp] at h; cases h
    cases b
    case dot =>
      have h' : (if f.nvdim = o.nvdim then some (⟨1, none, [], none, kindFF (tyOf f) (tyOf o)⟩ : Ty) else none) = none := h'
      by_cases hne : f.nvdim = o.nvdim
      · rw [if_pos hne] at h'; cases h'
      · exact applyBin_unchecked env (b := .dot) rfl nofun f o fun hc =>
          hne ((checkSame_ok_iff.mp hc).2.resolve_left fun h => Bool.false_ne_true h.1)
    case cross =>
      have h' : (if f.nvdim = 3 ∧ o.nvdim = 3 then
          some (⟨3, f.vdims, vmapDefault 3 M.region.ndim f.vdims M.region.dims, none, kindFF (tyOf f) (tyOf o)⟩ : Ty)
        else none) = none := h'
      by_cases hne : f.nvdim = 3 ∧ o.nvdim = 3
      · rw [if_pos hne] at h'; cases h'
      · rw [applyBin_forward env rfl]
        exact liftFld_error (err_of_not_ok _ fun g hg =>
          hne ((crossOp_ok_iff.mp (show crossOp f (.fld o) = .ok g from hg)).2.1 o rfl))
    case shl => cases h'
    case angle =>
      have h' : (if f.nvdim = o.nvdim then some (⟨1, none, [], some "rad", .float⟩ : Ty) else none) = none := h'
      by_cases hne : f.nvdim = o.nvdim
      · rw [if_pos hne] at h'; cases h'
      · exact applyBin_unchecked env (b := .angle) rfl nofun f o fun hc =>
          hne ((checkSame_ok_iff.mp hc).2.resolve_left fun h => Bool.false_ne_true h.1)
    case add | sub | mul | div => exact absurd (Or.inl rfl) hop
    case pow => exact absurd (Or.inr rfl) hop
    all_goals cases hu

end DFV.C03
