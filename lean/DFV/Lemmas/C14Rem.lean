import DFV.Lemmas.C01Cell
import DFV.Model.C14
/-! C14: the remainder test shared by `Mesh.is_aligned` and the divisibility check of
`Mesh(region, cell)`, on numbers, in exact rational arithmetic: accepted iff within the tolerance of
a whole number of cells (both directions, every tolerance), the number fact behind finding D18 (`near_multiple_iff`: the
distance of `z·c + ε` to the lattice is `|ε|`), and how the tests behave when all lengths are multiplied by `s > 0`. -/
namespace DFV.C14
open DFV DFV.T DFV.Mesh

/-! ## the remainder test -/

/-- the test shared by the divisibility check of `Mesh(region, cell)` and by `is_aligned`:
`tol < rem < c − tol` (true = rejected) -/
def remTest (x c t : Rat) : Bool := decide (t < remainder x c) && decide (remainder x c < c - t)

theorem notDivisible_eq (e c t : Rat) : notDivisible e c t = remTest e c t := rfl

/-- **the remainder test passes iff the number is within `t` of a whole multiple of `c`** -/
theorem remTest_false_iff (x c t : Rat) (hc : 0 < c) : remTest x c t = false ↔ ∃ z : Int, |x - (z : Rat) * c| ≤ t :=
  C01.notDivisible_false_iff x c t hc

/-- negation of `remTest_false_iff` -/
theorem remTest_true_iff (x c t : Rat) (hc : 0 < c) : remTest x c t = true ↔ ∀ z : Int, t < |x - (z : Rat) * c| := by
  constructor
  · intro h z
    by_contra hn
    have := (remTest_false_iff x c t hc).mpr ⟨z, not_lt.mp hn⟩
    rw [h] at this; cases this
  · intro h
    cases hb : remTest x c t with
    | true => rfl
    | false =>
      obtain ⟨z, hz⟩ := (remTest_false_iff x c t hc).mp hb
      exact absurd (h z) (not_lt.mpr hz)

theorem misalignedAx_eq (d c t : Rat) : misalignedAx d c t = remTest (absR d) c t := rfl

/-- the multiples of `c` are symmetric about 0, so `|d|` may replace `d` -/
theorem abs_multiple_iff (d c t : Rat) : (∃ z : Int, |absR d - (z : Rat) * c| ≤ t) ↔ ∃ z : Int, |d - (z : Rat) * c| ≤ t := by
  have neg : ∀ x : Rat, (∃ z : Int, |x - (z : Rat) * c| ≤ t) → ∃ z : Int, |-x - (z : Rat) * c| ≤ t := fun x ⟨z, hz⟩ =>
    ⟨-z, by rwa [show -x - ((-z : Int) : Rat) * c = -(x - (z : Rat) * c) by push_cast; ring, abs_neg]⟩
  rw [absR_eq_abs]
  rcases abs_choice d with h | h <;> rw [h]
  exact ⟨fun h => neg_neg d ▸ neg _ h, neg d⟩

/-- **`is_aligned`, one corner offset: accepted iff the offset is within `t` of a whole number of
cells** — both directions, every tolerance `t`, every cell size `c > 0` -/
theorem misalignedAx_false_iff (d c t : Rat) (hc : 0 < c) :
    misalignedAx d c t = false ↔ ∃ z : Int, |d - (z : Rat) * c| ≤ t := by
  rw [misalignedAx_eq, remTest_false_iff _ _ _ hc, abs_multiple_iff]

/-- the distance of `z·c + ε` (`|ε| ≤ c/2`) to the nearest whole multiple of `c` is `|ε|` -/
theorem near_multiple_iff (z : Int) (c ε t : Rat) (hc : 0 < c) (hε : |ε| ≤ c / 2) :
    (∃ w : Int, |((z : Rat) * c + ε) - (w : Rat) * c| ≤ t) ↔ |ε| ≤ t := by
  constructor
  · rintro ⟨w, hw⟩
    have e : ((z : Rat) * c + ε) - (w : Rat) * c = ((z - w : Int) : Rat) * c + ε := by push_cast; ring
    rw [e] at hw
    by_cases hk : z - w = 0
    · rwa [hk, Int.cast_zero, zero_mul, zero_add] at hw
    · have := int_mul_add_abs_ge hc hk ε
      linarith
  · intro h
    exact ⟨z, by rwa [add_sub_cancel_left]⟩

/-! ## change of length scale -/

theorem remainder_scale (s x c : Rat) (hs : 0 < s) : remainder (s * x) (s * c) = s * remainder x c := by
  unfold remainder
  rw [mul_div_mul_left _ _ hs.ne']; ring

theorem absR_scale (s x : Rat) (hs : 0 < s) : absR (s * x) = s * absR x := by
  rw [absR_eq_abs, absR_eq_abs, abs_mul, abs_of_pos hs]

/-- the remainder test at length scale `s` with tolerance `t` is the test at unit scale with
tolerance `t / s` -/
theorem remTest_scale (s x c t : Rat) (hs : 0 < s) : remTest (s * x) (s * c) t = remTest x c (t / s) := by
  unfold remTest
  have e : s * c - t = s * (c - t / s) := by rw [mul_sub, mul_div_cancel₀ t hs.ne']
  rw [remainder_scale s x c hs, e, decide_eq_decide.mpr (mul_lt_mul_iff_of_pos_left hs),
    decide_eq_decide.mpr (div_lt_iff₀' hs).symm]

/-- **the alignment test is not scale invariant**: multiplying all lengths by `s` while keeping the
absolute tolerance is the same as dividing the tolerance by `s` at the original scale -/
theorem misalignedAx_scale (s d c t : Rat) (hs : 0 < s) : misalignedAx (s * d) (s * c) t = misalignedAx d c (t / s) := by
  rw [misalignedAx_eq, misalignedAx_eq, absR_scale s d hs, remTest_scale s _ c t hs]

/-- **the divisibility test IS scale invariant** (its tolerance `min(cell)/1000` scales with the mesh) -/
theorem notDivisible_scale (s e c t : Rat) (hs : 0 < s) : notDivisible (s * e) (s * c) (s * t) = notDivisible e c t := by
  rw [notDivisible_eq, notDivisible_eq, remTest_scale s e c (s * t) hs, mul_div_cancel_left₀ _ hs.ne']

/-- the cell-size comparison of `is_aligned` (`np.allclose`, relative 1e-5 plus the absolute tolerance) -/
theorem allcloseAx_scale (s a b t : Rat) (hs : 0 < s) : allcloseAx (s * a) (s * b) t = allcloseAx a b (t / s) := by
  unfold allcloseAx
  have e : t + s * absR b / 100000 = s * (t / s + absR b / 100000) := by
    rw [mul_add, mul_div_cancel₀ t hs.ne', mul_div_assoc]
  rw [← mul_sub, absR_scale s _ hs, absR_scale s b hs, e, decide_eq_decide.mpr (mul_le_mul_iff_of_pos_left hs)]

end DFV.C14
