import DFV.Lemmas.C01
import DFV.Model.C01
/-! `Mesh.indices` steps like an odometer whose first wheel is the fastest (that it has every in-range index
exactly once: `mem_indicesF_iff`, `indicesF_nodup` of `Lemmas/Index.lean`); the reshape/broadcast of
`coordinate_field` reads entry `idx[i]` of the list of centres of axis `i`. -/
namespace DFV.C01
open DFV DFV.Mesh

/-- the iteration order is the odometer order, first wheel fastest -/
theorem unflatF_succ (ns : List Nat) (h : ∀ n ∈ ns, 0 < n) (k : Nat) :
    unflatF ns (k + 1) = succF ns (unflatF ns k) := by
  induction ns generalizing k with
  | nil => simp [unflatF, succF]
  | cons n ns ih =>
    have hn : 0 < n := h n (by simp)
    simp only [unflatF, succF]
    by_cases hc : k % n + 1 < n
    · rw [if_pos hc]
      have h1 : (k + 1) % n = k % n + 1 := by
        rw [Nat.add_mod]
        by_cases h1n : n = 1
        · subst h1n; omega
        · have : 1 % n = 1 := Nat.mod_eq_of_lt (by omega)
          rw [this, Nat.mod_eq_of_lt hc]
      have h2 : (k + 1) / n = k / n := by
        have hk := Nat.div_add_mod k n
        have : k + 1 = n * (k / n) + (k % n + 1) := by omega
        rw [this, Nat.mul_add_div hn, Nat.div_eq_of_lt hc]; simp
      rw [h1, h2]
    · rw [if_neg hc]
      have hm : k % n = n - 1 := by have := Nat.mod_lt k hn; omega
      have hk := Nat.div_add_mod k n
      have e : k + 1 = n * (k / n + 1) := by
        rw [Nat.mul_add, Nat.mul_one]; omega
      have h1 : (k + 1) % n = 0 := by rw [e]; exact Nat.mul_mod_right _ _
      have h2 : (k + 1) / n = k / n + 1 := by rw [e]; exact Nat.mul_div_cancel_left _ hn
      rw [h1, h2, ih (fun m hm => h m (by simp [hm]))]

/-! ### reshape + broadcast of the coordinate field -/

theorem natProd_ones (s : List Nat) (h : ∀ x ∈ s, x = 1) : natProd s = 1 := by
  induction s with
  | nil => rfl
  | cons x xs ih =>
    simp only [natProd]
    rw [h x (by simp), ih fun y hy => h y (by simp [hy])]

theorem flatC_zeros (s x : List Nat) (h : ∀ y ∈ x, y = 0) : flatC s x = 0 := by
  induction s generalizing x with
  | nil => simp [flatC]
  | cons n ns ih =>
    cases x with
    | nil => simp [flatC]
    | cons y ys =>
      simp only [flatC]
      rw [h y (by simp), ih ys fun z hz => h z (by simp [hz])]
      simp

/-- an index that is zero off axis `i`, into a shape that is 1 behind axis `i`, has C-order
position `x[i]` -/
theorem flatC_single (s x : List Nat) (i : Nat) (hl : s.length = x.length) (hi : i < s.length)
    (hs : ∀ j, i < j → j < s.length → s.getD j 0 = 1)
    (hx : ∀ j, j ≠ i → j < x.length → x.getD j 0 = 0) : flatC s x = x.getD i 0 := by
  induction s generalizing x i with
  | nil => simp at hi
  | cons n ns ih =>
    cases x with
    | nil => simp at hl
    | cons y ys =>
      simp only [flatC]
      cases i with
      | zero =>
        have h1 : natProd ns = 1 := natProd_ones ns fun z hz => by
          obtain ⟨j, hj, rfl⟩ := exists_getD_of_mem ns z 0 hz
          exact hs (j + 1) (by omega) (Nat.succ_lt_succ hj)
        have h2 : flatC ns ys = 0 := flatC_zeros ns ys fun z hz => by
          obtain ⟨j, hj, rfl⟩ := exists_getD_of_mem ys z 0 hz
          exact hx (j + 1) (by omega) (Nat.succ_lt_succ hj)
        rw [h1, h2, Nat.mul_one, Nat.add_zero]; rfl
      | succ i' =>
        have hy : y = 0 := hx 0 (by omega) (Nat.succ_pos _)
        rw [hy, Nat.zero_mul, Nat.zero_add, List.getD_cons_succ]
        exact ih ys i' (Nat.succ.inj hl) (Nat.lt_of_succ_lt_succ hi)
          (fun j hj hjl => hs (j + 1) (by omega) (Nat.succ_lt_succ hjl))
          (fun j hj hjl => hx (j + 1) (by omega) (Nat.succ_lt_succ hjl))

/-- the position read by the reshape/broadcast of `coordinate_field` is `idx[i]` -/
theorem coord_position (m : Mesh) (idx : List Nat) (i : Nat) (hi : i < m.ndim)
    (hidx : idx.getD i 0 < m.nAt i) :
    flatC (m.coordShape i) (coordBcast (m.coordShape i) idx) = idx.getD i 0 := by
  have hsl : (m.coordShape i).length = m.ndim := by simp [coordShape]
  have hg : ∀ j, j < m.ndim → (m.coordShape i).getD j 0 = if i = j then m.nAt i else 1 := by
    intro j hj; unfold coordShape; rw [getD_tab _ _ _ _ hj]
  rw [flatC_single (m.coordShape i) (coordBcast (m.coordShape i) idx) i (by simp [coordBcast]) (by rw [hsl]; exact hi)]
  · unfold coordBcast
    rw [hsl, getD_tab _ _ _ _ hi, hg i hi, if_pos rfl]
    split
    · omega
    · rfl
  · intro j hij hj
    rw [hsl] at hj
    rw [hg j hj, if_neg (by omega)]
  · intro j hij hj
    have hj' : j < m.ndim := by simpa [coordBcast, hsl] using hj
    unfold coordBcast
    rw [hsl, getD_tab _ _ _ _ hj', hg j hj', if_neg (show ¬ i = j from fun e => hij e.symm), if_pos rfl]

end DFV.C01
