import DFV.Lemmas.C19
import DFV.Lemmas.C19Diff
/-! C19: what `topological_charge_density`, `topological_charge` and `emergent_magnetic_field` return, in closed form —
the Berg–Lüscher density over any field (`tcdBLAtK`), the continuous density (`tcdCSpec`), the value of either method (`tcdVal`), the
density as one equation (`TcdAcc`, `tcdFld`, `tcd_closed`), the emergent field (`emSpec`, `emFld`), the charge integral. -/
namespace DFV.C19
open DFV

/-! ## the Berg–Lüscher density with the leaf `Ω` valued in any field

The model's `tcdBLAt` is the case `K = ℚ` (`tcdBLAt_eq_K`); the real formula is the case `K = ℝ` (`tcdBLReal`, `Lemmas/C19IntegReal`). -/

section generic
variable {K : Type} [Field K]

/-- `util.bergluescher_angle` with a `K`-valued leaf -/
def blAngleK (Om : Tri → K) (tr : Tri) : K := if tr.t = 0 then 0 else Om tr

/-- Berg–Lüscher density of cell `(i, j)` with a `K`-valued leaf (same triangles, same area, same count) -/
def tcdBLAtK (Om : Tri → K) (o : Fld) (i j : Nat) : K :=
  if o.valid.get [i, j] then
    if 0 < (triangles o i j).length then
      ((triangles o i j).map (blAngleK Om)).sum / (((triArea o.mesh : Rat) : K) * ((triangles o i j).length : K))
    else 0
  else 0

/-- THE LATTICE DENSITY SEES THE FIELD through the valid bit of the cell, the sum and the number of its triangle angles and the triangle
area: same bit, same number, sum `· c`, area `· d` give the value `· c/d`.  Rotation and quarter turn are `c = d = 1`, reversal
`c = −1`, the rescaled mesh `d = λ²`. -/
theorem tcdBLAtK_scale (Om : Tri → K) {o g : Fld} {i j i' j' : Nat} (c d : K)
    (hv : g.valid.get [i, j] = o.valid.get [i', j']) (hl : (triangles g i j).length = (triangles o i' j').length)
    (hs : ((triangles g i j).map (blAngleK Om)).sum = c * ((triangles o i' j').map (blAngleK Om)).sum)
    (ha : ((triArea g.mesh : Rat) : K) = d * ((triArea o.mesh : Rat) : K)) :
    tcdBLAtK Om g i j = c / d * tcdBLAtK Om o i' j' := by
  unfold tcdBLAtK
  rw [hv, hl, hs, ha]
  split
  · split
    · ring
    · rw [mul_zero]
  · rw [mul_zero]

theorem tcdBLAtK_of_sum_zero (Om : Tri → K) (o : Fld) (i j : Nat) (hs : ((triangles o i j).map (blAngleK Om)).sum = 0) :
    tcdBLAtK Om o i j = 0 := by
  unfold tcdBLAtK
  rw [hs, zero_div]
  split <;> [split <;> rfl; rfl]

end generic

/-- Exported as `Props/C19.bl_density_is_rational_case`. -/
theorem tcdBLAt_eq_K (Om : Tri → Rat) (o : Fld) (i j : Nat) : tcdBLAt Om o i j = tcdBLAtK (K := Rat) Om o i j := by
  unfold tcdBLAt tcdBLAtK
  rw [lsum_eq_sum]
  simp
  rfl

/-! ## continuous density in closed form -/

/-- SPEC: `1/(4π) · n·(∂₁n × ∂₂n)` at cell `i`, `n` the orientation field -/
def tcdCSpec (sq : Rat → Rat) (pi : Rat) (f : Fld) (i : List Nat) : Rat :=
  1 / (4 * pi) * V3.dot (orient sq (cellV f i))
    (V3.cross (Dv (orientation sq f) 0 1 true i) (Dv (orientation sq f) 1 1 true i))

theorem tcdContinuous_eq (sq : Rat → Rat) (pi : Rat) (f : Fld) (h3 : f.nvdim = 3) (h2 : f.mesh.ndim = 2) :
    tcdContinuous sq pi f
      = .ok { mesh := f.mesh, nvdim := 1, data := ⟨f.data.shape, fun i => [tcdCSpec sq pi f i]⟩,
              valid := f.valid, vdims := none, vmap := [], unit := none } := by
  unfold tcdContinuous
  have hn3 : ¬ f.nvdim ≠ 3 := by simp [h3]
  have hn2 : ¬ f.mesh.ndim ≠ 2 := by simp [h2]
  rw [if_neg hn3, if_neg hn2]
  have hd0 := diff_eq (orientation sq f) 0 1 true (Or.inl rfl) (by show 0 < f.mesh.ndim; omega)
  have hd1 := diff_eq (orientation sq f) 1 1 true (Or.inl rfl) (by show 1 < f.mesh.ndim; omega)
  rw [hd0, hd1]
  simp only
  congr 3
  funext i
  have o3 : (orientation sq f).nvdim = 3 := h3
  unfold tcdCAt tcdCSpec
  rw [cellV_diff _ _ 0 1 true o3 hd0, cellV_diff _ _ 1 1 true o3 hd1, cellV_orientation]

theorem tcdContinuous_err (sq : Rat → Rat) (pi : Rat) (f : Fld) (h : f.nvdim ≠ 3 ∨ f.mesh.ndim ≠ 2) :
    tcdContinuous sq pi f = .error .value := by
  unfold tcdContinuous
  by_cases h3 : f.nvdim ≠ 3
  · rw [if_pos h3]
  · rw [if_neg h3]
    have : f.mesh.ndim ≠ 2 := by
      rcases h with h | h
      · exact absurd h h3
      · exact h
    rw [if_pos this]

/-! ## integrals -/

theorem lsum_map_mul (xs : List Rat) (k : Rat) : lsum (xs.map fun x => x * k) = lsum xs * k := by
  rw [lsum_eq_sum, lsum_eq_sum]
  simpa using sum_map_mul_right xs id k

theorem lsum_map_congr {α} (l : List α) (g h : α → Rat) (hgh : ∀ x ∈ l, g x = h x) :
    lsum (l.map g) = lsum (l.map h) := by
  rw [List.map_congr_left hgh]

theorem integrateAll_eq (a : Bool) (q : Fld) :
    integrateAll a q = ((indicesC q.data.shape).map fun i =>
      if a then absR ((q.data.get i).getD 0 0) else (q.data.get i).getD 0 0).sum * ratProd q.mesh.cell := by
  unfold integrateAll NDA.toList
  rw [lsum_eq_sum, List.map_map]
  rfl

theorem ratProd_cell2 (m : Mesh) (h2 : m.ndim = 2) : ratProd m.cell = m.cellAt 0 * m.cellAt 1 := by
  unfold Mesh.cell
  rw [h2]
  simp [tab, ratProd, List.range_succ]

theorem integrateAll_congr (a : Bool) (q q' : Fld) (hs : q'.data.shape = q.data.shape)
    (hd : ∀ i, (q'.data.get i).getD 0 0 = (q.data.get i).getD 0 0) (hm : q'.mesh = q.mesh) :
    integrateAll a q' = integrateAll a q := by
  rw [integrateAll_eq, integrateAll_eq, hs, hm]
  congr 2
  apply List.map_congr_left
  intro i _
  rw [hd i]

theorem integrateAll_neg (q q' : Fld) (hs : q'.data.shape = q.data.shape)
    (hd : ∀ i, (q'.data.get i).getD 0 0 = -(q.data.get i).getD 0 0) (hm : q'.mesh = q.mesh) :
    integrateAll false q' = -integrateAll false q ∧ integrateAll true q' = integrateAll true q := by
  rw [integrateAll_eq, integrateAll_eq, integrateAll_eq, integrateAll_eq, hs, hm]
  constructor
  · have e : ((indicesC q.data.shape).map fun i => if false = true then absR ((q'.data.get i).getD 0 0) else (q'.data.get i).getD 0 0)
        = (indicesC q.data.shape).map fun i => -(if false = true then absR ((q.data.get i).getD 0 0) else (q.data.get i).getD 0 0) := by
      apply List.map_congr_left
      intro i _
      rw [hd i]; simp
    rw [e, sum_map_neg]; ring
  · congr 2
    apply List.map_congr_left
    intro i _
    rw [hd i]; simp [absR_neg]

theorem integrateAll_zero (a : Bool) (q : Fld) (hd : ∀ i, (q.data.get i).getD 0 0 = 0) : integrateAll a q = 0 := by
  rw [integrateAll_eq]
  have : ((indicesC q.data.shape).map fun i =>
      if a then absR ((q.data.get i).getD 0 0) else (q.data.get i).getD 0 0).sum = 0 := by
    apply List.sum_eq_zero
    intro x hx
    obtain ⟨i, _, rfl⟩ := List.mem_map.mp hx
    rw [hd i]
    cases a <;> simp [absR]
  rw [this]; ring

/-! ## emergent field in closed form -/

/-- SPEC: `F_kl = m·(∂_k m × ∂_l m)` -/
def emSpec (f : Fld) (k l : Nat) (i : List Nat) : Rat :=
  V3.dot (cellV f i) (V3.cross (Dv f k 1 true i) (Dv f l 1 true i))

/-- the field `emergent_magnetic_field(f)` returns -/
def emFld (f : Fld) : Fld :=
  { mesh := f.mesh, nvdim := 3,
    data := ⟨f.data.shape, fun i => [emSpec f 1 2 i, emSpec f 2 0 i, emSpec f 0 1 i]⟩,
    valid := f.valid, vdims := some ["x", "y", "z"],
    vmap := List.zip ["x", "y", "z"] f.mesh.region.dims, unit := none }

theorem emFld_mesh (f : Fld) : (emFld f).mesh = f.mesh := rfl
theorem emFld_valid (f : Fld) : (emFld f).valid = f.valid := rfl
theorem emFld_shape (f : Fld) : (emFld f).data.shape = f.data.shape := rfl

theorem emergent_eq (f : Fld) (h3 : f.nvdim = 3) (hd : f.mesh.ndim = 3) : emergent f = .ok (emFld f) := by
  unfold emergent emFld
  have hn3 : ¬ f.nvdim ≠ 3 := by simp [h3]
  have hnd : ¬ f.mesh.ndim ≠ 3 := by simp [hd]
  rw [if_neg hn3, if_neg hnd]
  have h0 := diff_eq f 0 1 true (Or.inl rfl) (by omega)
  have h1 := diff_eq f 1 1 true (Or.inl rfl) (by omega)
  have h2 := diff_eq f 2 1 true (Or.inl rfl) (by omega)
  rw [h0, h1, h2]
  simp only
  congr 3
  funext i
  unfold emAt emSpec
  rw [cellV_diff _ _ 0 1 true h3 h0, cellV_diff _ _ 1 1 true h3 h1, cellV_diff _ _ 2 1 true h3 h2]

theorem emergent_ok {f e : Fld} (h : emergent f = .ok e) : f.nvdim = 3 ∧ f.mesh.ndim = 3 ∧ e = emFld f := by
  by_cases h3 : f.nvdim = 3
  · by_cases hd : f.mesh.ndim = 3
    · rw [emergent_eq f h3 hd] at h
      exact ⟨h3, hd, (Except.ok.inj h).symm⟩
    · unfold emergent at h; rw [if_neg (not_not.mpr h3), if_pos hd] at h; cases h
  · unfold emergent at h; rw [if_pos h3] at h; cases h

theorem emFld_congr {f g : Fld} (hm : g.mesh = f.mesh) (hv : g.valid = f.valid) (hs : g.data.shape = f.data.shape)
    (he : ∀ k l i, emSpec g k l i = emSpec f k l i) : emFld g = emFld f := by
  unfold emFld
  rw [hm, hv, hs]
  simp only [he]

theorem emFld_comp (f : Fld) (i : List Nat) (c : Nat) (hc : c < 3) :
    ((emFld f).data.get i).getD c 0 = emSpec f ((c + 1) % 3) ((c + 2) % 3) i := by
  rcases (by omega : c = 0 ∨ c = 1 ∨ c = 2) with rfl | rfl | rfl <;> rfl

/-! ## both methods at once: the value stored in cell `i` -/

/-- SPEC: the density value `topological_charge_density(field, method)` stores in cell `i` -/
def tcdVal (sq : Rat → Rat) (pi : Rat) (Om : Tri → Rat) (f : Fld) : Method → List Nat → Rat
  | .continuous, i => tcdCSpec sq pi f i
  | .bergLuescher, i => tcdBLAt Om (orientation sq f) (i.getD 0 0) (i.getD 1 0)
  | .other, _ => 0

/-- a statement about the stored value is a statement about the two densities: `φ` relates the values of `g` and `f` as soon as it
relates their continuous densities and their lattice densities (and fixes `0`, the value of the unknown method) -/
theorem tcdVal_of (φ : Rat → Rat) (h0 : φ 0 = 0) (sq : Rat → Rat) (pi : Rat) (Om : Tri → Rat) {f g : Fld} (m : Method) (i : List Nat)
    (hC : tcdCSpec sq pi g i = φ (tcdCSpec sq pi f i))
    (hB : ∀ a b, tcdBLAtK (K := Rat) Om (orientation sq g) a b = φ (tcdBLAtK Om (orientation sq f) a b)) :
    tcdVal sq pi Om g m i = φ (tcdVal sq pi Om f m i) := by
  cases m with
  | continuous => exact hC
  | bergLuescher =>
    show tcdBLAt Om (orientation sq g) _ _ = φ (tcdBLAt Om (orientation sq f) _ _)
    rw [tcdBLAt_eq_K, tcdBLAt_eq_K]
    exact hB _ _
  | other => exact h0.symm

/-- the acceptance test of `topological_charge_density` -/
def TcdAcc (f : Fld) (m : Method) : Prop := f.nvdim = 3 ∧ f.mesh.ndim = 2 ∧ m ≠ .other

instance (f : Fld) (m : Method) : Decidable (TcdAcc f m) := by unfold TcdAcc; infer_instance

/-- the field `topological_charge_density(f, method)` returns: the scalar field of `tcdVal` on the same mesh with the same validity -/
def tcdFld (sq : Rat → Rat) (pi : Rat) (Om : Tri → Rat) (f : Fld) (m : Method) : Fld :=
  { mesh := f.mesh, nvdim := 1, data := ⟨f.data.shape, fun i => [tcdVal sq pi Om f m i]⟩,
    valid := f.valid, vdims := none, vmap := [], unit := none }

/-- `topological_charge_density` IN CLOSED FORM: every 3-component field on a 2-d mesh is accepted by both methods, everything else is
refused, always with the same error.  The acceptance test is split here and nowhere else. -/
theorem tcd_closed (sq : Rat → Rat) (pi : Rat) (Om : Tri → Rat) (f : Fld) (m : Method) :
    tcd sq pi Om f m = if TcdAcc f m then .ok (tcdFld sq pi Om f m) else .error .value := by
  by_cases h : TcdAcc f m
  · obtain ⟨h3, h2, hm⟩ := h
    rw [if_pos ⟨h3, h2, hm⟩]
    cases m with
    | continuous =>
      change tcdContinuous sq pi f = _
      rw [tcdContinuous_eq sq pi f h3 h2]; rfl
    | bergLuescher =>
      change tcdBL sq Om f = _
      unfold tcdBL
      rw [if_neg (by simp [h3]), if_neg (by simp [h2])]
      rfl
    | other => exact absurd rfl hm
  · rw [if_neg h]
    have hc : f.nvdim ≠ 3 ∨ f.mesh.ndim ≠ 2 ∨ m = .other := by
      by_contra hn
      exact h ⟨not_not.mp fun a => hn (Or.inl a), not_not.mp fun a => hn (Or.inr (Or.inl a)), fun a => hn (Or.inr (Or.inr a))⟩
    cases m with
    | continuous => exact tcdContinuous_err sq pi f (by simpa using hc)
    | bergLuescher =>
      show tcdBL sq Om f = _
      unfold tcdBL
      by_cases h3 : f.nvdim ≠ 3
      · rw [if_pos h3]
      · rw [if_neg h3, if_pos (by simpa [h3] using hc)]
    | other => rfl

theorem tcd_succeeds (sq : Rat → Rat) (pi : Rat) (Om : Tri → Rat) (f : Fld) (m : Method)
    (h3 : f.nvdim = 3) (h2 : f.mesh.ndim = 2) (hm : m ≠ .other) : tcd sq pi Om f m = .ok (tcdFld sq pi Om f m) := by
  rw [tcd_closed, if_pos ⟨h3, h2, hm⟩]

theorem tcd_err (sq : Rat → Rat) (pi : Rat) (Om : Tri → Rat) (f : Fld) (m : Method) (h : ¬ TcdAcc f m) :
    tcd sq pi Om f m = .error .value := by
  rw [tcd_closed, if_neg h]

theorem tcd_eq_ok_iff (sq : Rat → Rat) (pi : Rat) (Om : Tri → Rat) (f q : Fld) (m : Method) :
    tcd sq pi Om f m = .ok q ↔ TcdAcc f m ∧ q = tcdFld sq pi Om f m := by
  rw [tcd_closed]
  split
  · exact ⟨fun h => ⟨‹_›, (Except.ok.inj h).symm⟩, fun h => by rw [h.2]⟩
  · exact ⟨nofun, fun h => absurd h.1 ‹_›⟩

theorem tcd_ok (sq : Rat → Rat) (pi : Rat) (Om : Tri → Rat) (f q : Fld) (m : Method)
    (h : tcd sq pi Om f m = .ok q) : f.nvdim = 3 ∧ f.mesh.ndim = 2 ∧ m ≠ .other ∧ q = tcdFld sq pi Om f m :=
  let ⟨⟨a, b, c⟩, d⟩ := (tcd_eq_ok_iff sq pi Om f q m).mp h; ⟨a, b, c, d⟩

/-- `topological_charge_density` sees the field only through its component count, mesh, validity, shape and the values
`tcdVal`: two fields that agree in these get the same result or the same refusal -/
theorem tcd_congr (sq : Rat → Rat) (pi : Rat) (Om : Tri → Rat) {f g : Fld} (m : Method) (hn : g.nvdim = f.nvdim)
    (hm : g.mesh = f.mesh) (hv : g.valid = f.valid) (hs : g.data.shape = f.data.shape)
    (h : ∀ i, tcdVal sq pi Om g m i = tcdVal sq pi Om f m i) : tcd sq pi Om g m = tcd sq pi Om f m := by
  have hacc : TcdAcc g m ↔ TcdAcc f m := by unfold TcdAcc; rw [hn, hm]
  have hfld : tcdFld sq pi Om g m = tcdFld sq pi Om f m := by unfold tcdFld; rw [hm, hv, hs, funext h]
  rw [tcd_closed, tcd_closed, hfld]
  exact if_congr hacc rfl rfl

/-- `topological_charge` is `Field.integrate` of the density: its own two guards only repeat refusals of the density -/
theorem charge_closed (sq : Rat → Rat) (pi : Rat) (Om : Tri → Rat) (f : Fld) (m : Method) (a : Bool) :
    charge sq pi Om f m a = (tcd sq pi Om f m).map (integrateAll a) := by
  unfold charge
  by_cases h3 : f.nvdim ≠ 3
  · rw [if_pos h3, tcd_err sq pi Om f m fun h => h3 h.1]; rfl
  · rw [if_neg h3]
    by_cases h2 : f.mesh.ndim ≠ 2
    · rw [if_pos h2, tcd_err sq pi Om f m fun h => h2 h.2.1]; rfl
    · rw [if_neg h2]
      cases tcd sq pi Om f m <;> rfl

theorem charge_of_tcd (sq : Rat → Rat) (pi : Rat) (Om : Tri → Rat) (f q : Fld) (m : Method) (a : Bool)
    (h : tcd sq pi Om f m = .ok q) : charge sq pi Om f m a = .ok (integrateAll a q) := by
  rw [charge_closed, h]; rfl

theorem charge_err (sq : Rat → Rat) (pi : Rat) (Om : Tri → Rat) (f : Fld) (m : Method) (a : Bool)
    (h : ¬ TcdAcc f m) : charge sq pi Om f m a = .error .value := by
  rw [charge_closed, tcd_err sq pi Om f m h]; rfl

theorem charge_ok_inv (sq : Rat → Rat) (pi : Rat) (Om : Tri → Rat) (f : Fld) (m : Method) (a : Bool) (c : Rat)
    (h : charge sq pi Om f m a = .ok c) : ∃ q, tcd sq pi Om f m = .ok q ∧ c = integrateAll a q := by
  rw [charge_closed] at h
  cases ht : tcd sq pi Om f m with
  | error e => rw [ht] at h; cases h
  | ok q => rw [ht] at h; exact ⟨q, rfl, (Except.ok.inj h).symm⟩

theorem charge_err_of_tcd (sq : Rat → Rat) (pi : Rat) (Om : Tri → Rat) (f : Fld) (m : Method) (a : Bool) (e : Err)
    (h : tcd sq pi Om f m = .error e) : ∃ e', charge sq pi Om f m a = .error e' := by
  rw [charge_closed, h]; exact ⟨_, rfl⟩

/-! ## accepted ⇔ three components, 2-d mesh, known method -/

theorem tcd_accepts_iff (sq : Rat → Rat) (pi : Rat) (Om : Tri → Rat) (f : Fld) (m : Method) :
    (∃ q, tcd sq pi Om f m = .ok q) ↔ (f.nvdim = 3 ∧ f.mesh.ndim = 2 ∧ m ≠ .other) := by
  simp only [tcd_eq_ok_iff, exists_and_left, exists_eq, and_true, TcdAcc]

theorem charge_accepts_iff (sq : Rat → Rat) (pi : Rat) (Om : Tri → Rat) (f : Fld) (m : Method) (a : Bool) :
    (∃ c, charge sq pi Om f m a = .ok c) ↔ (f.nvdim = 3 ∧ f.mesh.ndim = 2 ∧ m ≠ .other) := by
  rw [← tcd_accepts_iff sq pi Om f m]
  exact ⟨fun ⟨c, hc⟩ => let ⟨q, hq, _⟩ := charge_ok_inv sq pi Om f m a c hc; ⟨q, hq⟩,
    fun ⟨q, hq⟩ => ⟨_, charge_of_tcd sq pi Om f q m a hq⟩⟩

end DFV.C19
