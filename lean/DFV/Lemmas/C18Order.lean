import DFV.Lemmas.C18Mat
import DFV.Lemmas.ListOps
import DFV.Lemmas.Field
/-! The component ↔ axis permutation of C18 (`ordered_idx`, `argsort`) and the rotation of one
cell value through it. Permutations of the three axes (`Perm3`, inverse `pinv`) are treated once, for
the component order here and for the signed permutation matrices of `C18Lattice`. -/
namespace DFV.C18
open DFV DFV.Mesh

/-! ## permutations of the three axes -/

/-- inverse of a permutation of `{0, 1, 2}` -/
def pinv (π : Nat → Nat) (i : Nat) : Nat := if π 0 = i then 0 else if π 1 = i then 1 else 2

theorem pinv_lt (π : Nat → Nat) (i : Nat) : pinv π i < 3 := by
  unfold pinv; split <;> [omega; (split <;> omega)]

/-- `π` permutes `{0, 1, 2}`: what the component order `ord` (`PermOrd`) and the axis map of a signed
permutation matrix (`IsLat`) have in common -/
structure Perm3 (π : Nat → Nat) : Prop where
  lt : ∀ j, j < 3 → π j < 3
  inj : ∀ i j, i < 3 → j < 3 → π i = π j → i = j

/-- three distinct values below 3 are all of them: `i` that is neither `π 0` nor `π 1` is `π 2` -/
theorem Perm3.pi_pinv {π} (h : Perm3 π) (i : Nat) (hi : i < 3) : π (pinv π i) = i := by
  have a0 := h.lt 0 (by decide)
  have a1 := h.lt 1 (by decide)
  have a2 := h.lt 2 (by decide)
  have i01 : π 0 ≠ π 1 := fun e => absurd (h.inj 0 1 (by decide) (by decide) e) (by decide)
  have i02 : π 0 ≠ π 2 := fun e => absurd (h.inj 0 2 (by decide) (by decide) e) (by decide)
  have i12 : π 1 ≠ π 2 := fun e => absurd (h.inj 1 2 (by decide) (by decide) e) (by decide)
  unfold pinv
  split
  · assumption
  · split
    · assumption
    · omega

theorem Perm3.pinv_pi {π} (h : Perm3 π) (j : Nat) (hj : j < 3) : pinv π (π j) = j :=
  h.inj _ _ (pinv_lt _ _) hj (h.pi_pinv (π j) (h.lt j hj))

theorem Perm3.pinv_inj {π} (h : Perm3 π) (i j : Nat) (hi : i < 3) (hj : j < 3) (e : pinv π i = pinv π j) : i = j := by
  rw [← h.pi_pinv i hi, ← h.pi_pinv j hj, e]

/-- the model's `invAt` (`argsort` of the code) is the inverse permutation: both are the same search -/
theorem invAt_eq_pinv (ord : List Nat) : invAt ord = pinv fun a => ord.getD a 0 := rfl

theorem invAt_lt (ord : List Nat) (c : Nat) : invAt ord c < 3 := pinv_lt (fun a => ord.getD a 0) c

/-! ## the component order -/

/-- the reverse mapping `FieldRotator` reads (`_r_dim_mapping`) is the shared model's `Fld.rDim`: the two
definitions have the same body, so the lemmas of `Lemmas/Field.lean` speak about `rDimLast` -/
theorem rDimLast_eq_rDim (f : Fld) (d : String) : rDimLast f d = f.rDim d := rfl

theorem rDimLast_some (f : Fld) (d l : String) (h : rDimLast f d = some l) : (l, d) ∈ f.vmap := by
  obtain ⟨pre, post, e, _⟩ := Fld.rDim_last f d l h
  rw [e]; exact List.mem_append_right _ List.mem_cons_self

theorem rDimLast_isSome (f : Fld) (d : String) (h : ∃ p ∈ f.vmap, p.2 = d) : ∃ l, rDimLast f d = some l := by
  obtain ⟨p, hp, hd⟩ := h
  cases hr : f.rDim d with
  | some l => exact ⟨l, hr⟩
  | none => exact absurd hd ((Fld.rDim_none_iff f d).mp hr p hp)

/-- the component of axis `a`: the last label mapped to the axis name, at its position in `vdims` -/
theorem ordAt_inv (f : Fld) (a k : Nat) (h : ordAt f a = some k) :
    ∃ lbl vs, rDimLast f (f.mesh.region.dims.getD a "") = some lbl ∧ f.vdims = some vs ∧ indexOf? vs lbl = some k := by
  unfold ordAt at h
  cases hr : rDimLast f (f.mesh.region.dims.getD a "") with
  | none => rw [hr] at h; simp at h
  | some lbl =>
    rw [hr] at h
    obtain ⟨vs, hv, hi⟩ := (Fld.vdimIndex_eq_some_iff f lbl k).mp h
    exact ⟨lbl, vs, rfl, hv, hi⟩

theorem ordAt_lt (f : Fld) (a k : Nat) (h : ordAt f a = some k) : k < (f.vdims.getD []).length := by
  obtain ⟨lbl, vs, _, hv, hi⟩ := ordAt_inv f a k h
  rw [hv]; exact (indexOf?_some vs lbl k hi).1

theorem ordAt_label (f : Fld) (a k : Nat) (h : ordAt f a = some k) :
    ((f.vdims.getD []).getD k "", f.mesh.region.dims.getD a "") ∈ f.vmap := by
  obtain ⟨lbl, vs, hr, hv, hi⟩ := ordAt_inv f a k h
  rw [hv, Option.getD_some, (indexOf?_some vs lbl k hi).2]
  exact rDimLast_some f _ lbl hr

/-- `ordered_idx` of a vector field: the components of the three axes, if all three exist -/
theorem ordFor_vector (f : Fld) (h1 : f.nvdim ≠ 1) (ord : List Nat) :
    ordFor f = .ok ord ↔ ∃ a b c, ordAt f 0 = some a ∧ ordAt f 1 = some b ∧ ordAt f 2 = some c ∧ ord = [a, b, c] := by
  unfold ordFor
  rw [if_neg h1]
  constructor
  · intro h
    split at h
    · rename_i a b c h0 h1 h2
      exact ⟨a, b, c, h0, h1, h2, (Except.ok.inj h).symm⟩
    · cases h
  · rintro ⟨a, b, c, h0, h1, h2, rfl⟩
    rw [h0, h1, h2]

theorem ordFor_getD (f : Fld) (ord : List Nat) (h : ordFor f = .ok ord) (h1 : f.nvdim ≠ 1) : ∀ a, a < 3 → ordAt f a = some (ord.getD a 0) := by
  obtain ⟨a, b, c, h0, h1, h2, rfl⟩ := (ordFor_vector f h1 ord).mp h
  exact forall_lt3 h0 h1 h2

theorem ordFor_lt (f : Fld) (ord : List Nat) (h : ordFor f = .ok ord) (h1 : f.nvdim ≠ 1) (a : Nat) (ha : a < 3) :
    ord.getD a 0 < (f.vdims.getD []).length :=
  ordAt_lt f a _ (ordFor_getD f ord h h1 a ha)

/-- the component order reads the layout (`nvdim`, `vdims`, `vmap`) and the axis names only -/
theorem ordFor_congr (f g : Fld) (hn : f.nvdim = g.nvdim) (hv : f.vdims = g.vdims) (hp : f.vmap = g.vmap)
    (hd : f.mesh.region.dims = g.mesh.region.dims) : ordFor f = ordFor g := by
  unfold ordFor ordAt rDimLast Fld.vdimIndex
  rw [hn, hv, hp, hd]

/-- `ord` lists three distinct component positions -/
def PermOrd (ord : List Nat) : Prop :=
  ord.getD 0 0 < 3 ∧ ord.getD 1 0 < 3 ∧ ord.getD 2 0 < 3 ∧
  ord.getD 0 0 ≠ ord.getD 1 0 ∧ ord.getD 0 0 ≠ ord.getD 2 0 ∧ ord.getD 1 0 ≠ ord.getD 2 0

theorem PermOrd.perm {ord} (h : PermOrd ord) : Perm3 fun a => ord.getD a 0 := by
  obtain ⟨l0, l1, l2, d01, d02, d12⟩ := h
  refine ⟨fun a ha => ?_, fun a b ha hb e => ?_⟩
  · exact forall_lt3 (P := fun a => ord.getD a 0 < 3) l0 l1 l2 a ha
  -- equal indices: `rfl`; different ones contradict one of the three distinctness facts
  · rcases a_cases a ha with rfl | rfl | rfl <;> rcases a_cases b hb with rfl | rfl | rfl <;>
      first | rfl | exact absurd e d01 | exact absurd e d02 | exact absurd e d12 | exact absurd e.symm d01 |
        exact absurd e.symm d02 | exact absurd e.symm d12

theorem PermOrd.surj {ord} (h : PermOrd ord) (c : Nat) (hc : c < 3) : ∃ a, a < 3 ∧ ord.getD a 0 = c :=
  ⟨_, pinv_lt _ c, h.perm.pi_pinv c hc⟩

/-- `argsort` of a permutation is its inverse: the position that holds `ord[a]` is `a` -/
theorem invAt_ord {ord} (h : PermOrd ord) (a : Nat) (ha : a < 3) : invAt ord (ord.getD a 0) = a := by
  rw [invAt_eq_pinv]; exact h.perm.pinv_pi a ha

/-- **`argsort` of a permutation is the model's `invAt`** (the inverse permutation): evaluated for
the six permutations and the three positions -/
theorem argsort_eq_invAt {ord : List Nat} (h : PermOrd ord) (hl : ord.length = 3) (x : Nat) (hx : x < 3) :
    (argsortL ord).getD x 0 = invAt ord x := by
  obtain ⟨l0, l1, l2, d01, d02, d12⟩ := h
  match ord, hl with
  | [a, b, c], _ =>
    rcases perm3_cases a b c l0 l1 l2 d01 d02 d12 with ⟨rfl, rfl, rfl⟩ | ⟨rfl, rfl, rfl⟩ | ⟨rfl, rfl, rfl⟩ | ⟨rfl, rfl, rfl⟩ |
      ⟨rfl, rfl, rfl⟩ | ⟨rfl, rfl, rfl⟩ <;> rcases a_cases x hx with rfl | rfl | rfl <;> rfl

/-- the vector in spatial order that the code hands to `Rotation.apply` -/
def spatial (ord : List Nat) (v : List Rat) : V3 :=
  ⟨v.getD (ord.getD 0 0) 0, v.getD (ord.getD 1 0) 0, v.getD (ord.getD 2 0) 0⟩

theorem spatial_get (ord : List Nat) (v : List Rat) : ∀ a, a < 3 → (spatial ord v).get a = v.getD (ord.getD a 0) 0 :=
  forall_lt3 rfl rfl rfl

theorem rotVal_scalar {n : Nat} (h1 : n = 1) (R : M3) (ord : List Nat) (v : List Rat) : rotVal n R ord v = v := by
  subst h1; rfl

theorem rotVal3_def (R : M3) (ord : List Nat) (v : List Rat) :
    rotVal 3 R ord v = tab 3 fun c => (R.apply (spatial ord v)).get (invAt ord c) := by
  unfold rotVal; rw [if_neg (by decide)]; rfl

/-- **vectors through the permutation and back**: the component that belongs to spatial axis
`a` of the stored value is component `a` of `R` applied to the vector in spatial order -/
theorem rotVal_spatial (R : M3) {ord : List Nat} (h : PermOrd ord) (v : List Rat) (a : Nat) (ha : a < 3) :
    (rotVal 3 R ord v).getD (ord.getD a 0) 0 = (R.apply (spatial ord v)).get a := by
  rw [rotVal3_def, getD_tab _ _ _ _ (h.perm.lt a ha), invAt_ord h a ha]

theorem rotVal_length3 (R : M3) (ord : List Nat) (v : List Rat) : (rotVal 3 R ord v).length = 3 := by
  rw [rotVal3_def]; exact tab_length _ _

/-- **`ordered_idx` is a permutation**: for a 3-vector field with three labels, distinct axis
names and a mapping in which no label occurs twice, a successful component order lists three
distinct component positions -/
theorem ordFor_perm (f : Fld) (ord : List Nat) (h : ordFor f = .ok ord) (h3 : f.nvdim = 3)
    (hl : (f.vdims.getD []).length = 3)
    (hdims : ∀ a b, a < 3 → b < 3 → a ≠ b → f.mesh.region.dims.getD a "" ≠ f.mesh.region.dims.getD b "")
    (hkey : ∀ x ∈ f.vmap, ∀ y ∈ f.vmap, x.1 = y.1 → x = y) : PermOrd ord := by
  have h1 : f.nvdim ≠ 1 := by omega
  have lt : ∀ a, a < 3 → ord.getD a 0 < 3 := by
    intro a ha; have := ordFor_lt f ord h h1 a ha; omega
  have ne : ∀ a b, a < 3 → b < 3 → a ≠ b → ord.getD a 0 ≠ ord.getD b 0 := by
    intro a b ha hb hab e
    have ma := ordAt_label f a _ (ordFor_getD f ord h h1 a ha)
    have mb := ordAt_label f b _ (ordFor_getD f ord h h1 b hb)
    rw [e] at ma
    have := hkey _ ma _ mb rfl
    exact hdims a b ha hb hab (congrArg Prod.snd this)
  exact ⟨lt 0 (by decide), lt 1 (by decide), lt 2 (by decide), ne 0 1 (by decide) (by omega) (by omega),
    ne 0 2 (by decide) (by omega) (by omega), ne 1 2 (by decide) (by omega) (by omega)⟩

theorem ordFor_ok_iff (f : Fld) :
    (∃ ord, ordFor f = .ok ord) ↔ (f.nvdim = 1 ∨ ∀ a, a < 3 → ∃ k, ordAt f a = some k) := by
  constructor
  · rintro ⟨ord, h⟩
    by_cases h1 : f.nvdim = 1
    · exact Or.inl h1
    · exact Or.inr fun a ha => ⟨_, ordFor_getD f ord h h1 a ha⟩
  · rintro (h1 | h)
    · exact ⟨[], by unfold ordFor; rw [if_pos h1]⟩
    · by_cases h1 : f.nvdim = 1
      · exact ⟨[], by unfold ordFor; rw [if_pos h1]⟩
      · obtain ⟨a, ha⟩ := h 0 (by decide)
        obtain ⟨b, hb⟩ := h 1 (by decide)
        obtain ⟨c, hc⟩ := h 2 (by decide)
        exact ⟨[a, b, c], (ordFor_vector f h1 _).mpr ⟨a, b, c, ha, hb, hc, rfl⟩⟩

theorem ordAt_some_iff (f : Fld) (hkeys : ∀ p ∈ f.vmap, ∃ k, f.vdimIndex p.1 = some k) (a : Nat) :
    (∃ k, ordAt f a = some k) ↔ ∃ p ∈ f.vmap, p.2 = f.mesh.region.dims.getD a "" := by
  constructor
  · rintro ⟨k, hk⟩
    exact ⟨_, ordAt_label f a k hk, rfl⟩
  · intro h
    obtain ⟨l, hl⟩ := rDimLast_isSome f _ h
    obtain ⟨k, hk⟩ := hkeys _ (rDimLast_some f _ l hl)
    exact ⟨k, by unfold ordAt; rw [hl]; exact hk⟩

theorem spatial_rotVal (R : M3) {ord : List Nat} (h : PermOrd ord) (v : List Rat) :
    spatial ord (rotVal 3 R ord v) = R.apply (spatial ord v) := by
  apply V3.ext_get
  intro a ha
  rw [spatial_get _ _ a ha, rotVal_spatial R h v a ha]

theorem rotVal_one {ord : List Nat} (h : PermOrd ord) (v : List Rat) (hv : v.length = 3) : rotVal 3 M3.one ord v = v := by
  rw [rotVal3_def]
  symm
  apply eq_tab_of_getD _ _ _ 0 hv
  intro c hc
  obtain ⟨a, ha, rfl⟩ := h.surj c hc
  rw [invAt_ord h a ha, M3.apply_one, spatial_get _ _ a ha]

theorem rotVal_mul (A B : M3) {ord : List Nat} (h : PermOrd ord) (v : List Rat) :
    rotVal 3 (A.mul B) ord v = rotVal 3 A ord (rotVal 3 B ord v) := by
  rw [rotVal3_def, rotVal3_def A, spatial_rotVal B h, M3.apply_mul]

theorem rotVal_inverse {R : M3} (hR : R.IsRot) {ord : List Nat} (h : PermOrd ord) (v : List Rat) (hv : v.length = 3) :
    rotVal 3 R.tr ord (rotVal 3 R ord v) = v := by
  rw [← rotVal_mul _ _ h, hR.1, rotVal_one h v hv]

theorem rotVal_dot {R : M3} (hR : R.IsRot) {ord : List Nat} (h : PermOrd ord) (v w : List Rat) :
    (spatial ord (rotVal 3 R ord v)).dot (spatial ord (rotVal 3 R ord w)) = (spatial ord v).dot (spatial ord w) := by
  rw [spatial_rotVal R h, spatial_rotVal R h, hR.dot_apply]

theorem spatial_normsq {ord : List Nat} (h : PermOrd ord) (v : List Rat) :
    (spatial ord v).dot (spatial ord v) = v.getD 0 0 * v.getD 0 0 + v.getD 1 0 * v.getD 1 0 + v.getD 2 0 * v.getD 2 0 := by
  obtain ⟨l0, l1, l2, d01, d02, d12⟩ := h
  exact perm3_sum (fun c => v.getD c 0 * v.getD c 0) _ _ _ l0 l1 l2 d01 d02 d12

theorem rotVal_smul (t : Rat) (nvdim : Nat) (R : M3) (ord : List Nat) (v : List Rat) (c : Nat) :
    (rotVal nvdim R ord (v.map (t * ·))).getD c 0 = t * (rotVal nvdim R ord v).getD c 0 := by
  unfold rotVal
  by_cases h1 : nvdim = 1
  · rw [if_pos h1, if_pos h1, getD_map_of_eq (mul_zero t)]
  · rw [if_neg h1, if_neg h1]
    by_cases hc : c < 3
    · rw [getD_tab _ _ _ _ hc, getD_tab _ _ _ _ hc, M3.apply_get, M3.apply_get]
      simp only [getD_map_of_eq (mul_zero t)]
      ring
    · rw [getD_tab_ge _ _ _ _ (by omega), getD_tab_ge _ _ _ _ (by omega)]; ring

theorem rotVal_add (nvdim : Nat) (R : M3) (ord : List Nat) (u v w : List Rat)
    (h : ∀ c, w.getD c 0 = u.getD c 0 + v.getD c 0) (c : Nat) :
    (rotVal nvdim R ord w).getD c 0 = (rotVal nvdim R ord u).getD c 0 + (rotVal nvdim R ord v).getD c 0 := by
  unfold rotVal
  by_cases h1 : nvdim = 1
  · rw [if_pos h1, if_pos h1, if_pos h1, h]
  · rw [if_neg h1, if_neg h1, if_neg h1]
    by_cases hc : c < 3
    · rw [getD_tab _ _ _ _ hc, getD_tab _ _ _ _ hc, getD_tab _ _ _ _ hc, M3.apply_get, M3.apply_get, M3.apply_get]
      simp only [h]
      ring
    · rw [getD_tab_ge _ _ _ _ (by omega), getD_tab_ge _ _ _ _ (by omega), getD_tab_ge _ _ _ _ (by omega)]; ring

end DFV.C18
