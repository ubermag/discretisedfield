import DFV.Lemmas.Transform
import DFV.Lemmas.C01
import DFV.Lemmas.C13Run
/-! The region steps of `Model/Transform.lean`.  All three end the same way (`finishR`): in place the new
corners are checked and assigned, the copying form re-enters the constructor; either way the result is
`target`.  Each step as one equivalence (`translateR_ok_iff`, `scaleR_ok_iff`, `rotate90R_ok_iff`), the rejected
calls (`Malformed`), the region a step returns as a function (`applyR`), and the region step specified
(`stepR_ok_iff`, `specR`).  Shared by the object-level theorems of C12, C13 and C14. -/
namespace DFV.T
open DFV

/-! ## the common end of the three steps -/

/-- the `_inv` and `_recv` lemmas of this file ask nothing of the region; the `_ok_iff` ones need `r.Inv`, for the constructor of the
copying form -/
theorem viaCtor_inv (r r' : Region) (lo' hi' : Nat → Rat) (units : List String)
    (h : viaCtor r (tab r.ndim lo') (tab r.ndim hi') units = .ok r') :
    r' = target r lo' hi' units ∧ ∀ a, a < r.ndim → lo' a ≠ hi' a := by
  unfold viaCtor at h
  obtain ⟨_, _, _, _, _, hne, hr'⟩ := mk?_ok_inv _ _ _ _ _ _ h
  constructor
  · rw [hr', normalised_tab]; rfl
  · intro a ha
    have := hne a (by simpa using ha)
    rwa [getD_tab _ _ _ _ ha, getD_tab _ _ _ _ ha] at this

theorem viaCtor_ok_iff (r : Region) (hr : r.Inv) (lo' hi' : Nat → Rat) (units : List String) (hu : units.length = r.ndim)
    (r' : Region) :
    viaCtor r (tab r.ndim lo') (tab r.ndim hi') units = .ok r' ↔ (∀ a, a < r.ndim → lo' a ≠ hi' a) ∧ r' = target r lo' hi' units := by
  refine ⟨fun h => (viaCtor_inv r r' _ _ _ h).symm, fun ⟨hne, e⟩ => ?_⟩
  have h : viaCtor r (tab r.ndim lo') (tab r.ndim hi') units = .ok _ :=
    mk?_ok_of _ _ r.dims units r.tol (by rw [tab_length, tab_length]) (by rw [tab_length]; exact Nat.pos_iff_ne_zero.mp hr.ndim_pos)
      (by rw [tab_length]; exact hr.dims_length) hr.dims_nodup (by rw [tab_length]; exact hu)
      (fun a ha => by
        rw [tab_length] at ha
        rw [getD_tab _ _ _ _ ha, getD_tab _ _ _ _ ha]; exact hne a ha)
  rw [h, e, (viaCtor_inv r _ _ _ _ h).1]

/-- how every region step ends: in place the new corners are checked and assigned, the copying form
re-enters the constructor -/
def finishR (r : Region) (lo' hi' : Nat → Rat) (units : List String) (b : Bool) : M (Region × Region) :=
  if b then
    if !allLt r.ndim (fun a => decide (hi' a - lo' a ≠ 0)) then .error .value
    else .ok (target r lo' hi' units, target r lo' hi' units)
  else match viaCtor r (tab r.ndim lo') (tab r.ndim hi') units with
    | .error e => .error e
    | .ok r' => .ok (r, r')

theorem finishR_inplace_iff (r : Region) (lo' hi' : Nat → Rat) (units : List String) (recv ret : Region) :
    finishR r lo' hi' units true = .ok (recv, ret) ↔
      (∀ a, a < r.ndim → lo' a ≠ hi' a) ∧ ret = target r lo' hi' units ∧ recv = ret := by
  have hall : allLt r.ndim (fun a => decide (hi' a - lo' a ≠ 0)) = true ↔ ∀ a, a < r.ndim → lo' a ≠ hi' a := by
    rw [allLt_iff]
    exact forall₂_congr fun a _ => by rw [decide_eq_true_eq, ne_eq, sub_eq_zero, eq_comm]
  unfold finishR
  rw [if_pos rfl]
  by_cases h : allLt r.ndim (fun a => decide (hi' a - lo' a ≠ 0)) = true
  · rw [h]
    simp only [Bool.not_true, Bool.false_eq_true, if_false, Except.ok.injEq, Prod.mk.injEq]
    exact ⟨fun ⟨e1, e2⟩ => ⟨hall.mp h, e2.symm, e1.symm.trans e2⟩, fun ⟨_, e2, e1⟩ => ⟨(e1.trans e2).symm, e2.symm⟩⟩
  · rw [Bool.eq_false_iff.mpr h]
    exact ⟨fun e => (nomatch e), fun ⟨hne, _⟩ => absurd (hall.mpr hne) h⟩

theorem finishR_inv (r : Region) (lo' hi' : Nat → Rat) (units : List String) (b : Bool) (recv ret : Region)
    (h : finishR r lo' hi' units b = .ok (recv, ret)) :
    (∀ a, a < r.ndim → lo' a ≠ hi' a) ∧ ret = target r lo' hi' units ∧ recv = if b then ret else r := by
  unfold finishR at h
  cases b
  · rw [if_neg Bool.false_ne_true] at h ⊢
    cases hc : viaCtor r (tab r.ndim lo') (tab r.ndim hi') units with
    | error e => rw [hc] at h; cases h
    | ok r' =>
      rw [hc] at h
      injection h with h; injection h with ha hb
      obtain ⟨e, hne⟩ := viaCtor_inv r r' _ _ _ hc
      exact ⟨hne, hb ▸ e, ha.symm⟩
  · rw [if_pos rfl]
    exact (finishR_inplace_iff r lo' hi' units recv ret).mp h

theorem finishR_ok_iff (r : Region) (hr : r.Inv) (lo' hi' : Nat → Rat) (units : List String) (hu : units.length = r.ndim)
    (b : Bool) (recv ret : Region) :
    finishR r lo' hi' units b = .ok (recv, ret) ↔
      (∀ a, a < r.ndim → lo' a ≠ hi' a) ∧ ret = target r lo' hi' units ∧ recv = if b then ret else r := by
  cases b
  · refine ⟨finishR_inv r lo' hi' units false recv ret, ?_⟩
    rintro ⟨hne, rfl, rfl⟩
    unfold finishR
    rw [(viaCtor_ok_iff _ hr _ _ _ hu _).mpr ⟨hne, rfl⟩, if_neg Bool.false_ne_true]
  · rw [finishR_inplace_iff, if_pos rfl]

/-! ## the three steps -/

theorem scaleR_eq (r : Region) (f : Factor) (ref : Option (List Rat)) (b : Bool) :
    scaleR r f ref b = if (!f.okFor r.ndim) = true then .error .value else if (ref.getD r.center).length ≠ r.ndim then .error .value
      else finishR r (scaleLo r f (ref.getD r.center)) (scaleHi r f (ref.getD r.center)) r.units b := rfl

theorem rotate90R_eq (r : Region) (ax1 ax2 : String) (k : Int) (ref : Option (List Rat)) (b : Bool) :
    rotate90R r ax1 ax2 k ref b = if ax1 = ax2 then .error .value else if (ref.getD r.center).length ≠ r.ndim then .error .value
      else match r.dim2index ax1, r.dim2index ax2 with
        | .error e, _ => .error e
        | _, .error e => .error e
        | .ok i1, .ok i2 => finishR r (rotCoord r.pmin (ref.getD r.center) i1 i2 k) (rotCoord r.pmax (ref.getD r.center) i1 i2 k)
            (rotUnits r.units i1 i2 k) b := rfl

theorem translateR_recv (r : Region) (v : List Rat) (b : Bool) (recv ret : Region)
    (h : translateR r v b = .ok (recv, ret)) : recv = if b then ret else r := by
  unfold translateR at h
  split at h
  · cases h
  · cases b
    · rw [if_neg Bool.false_ne_true] at h ⊢
      split at h
      · cases h
      · injection h with h; injection h with ha _; exact ha.symm
    · rw [if_pos rfl] at h ⊢
      split at h
      · cases h
      · injection h with h; injection h with ha hb; rw [← ha, ← hb]

/-- translation ends like the other two steps when the corners are ordered: the in-place form assigns the moved corners as
they are, and these are ordered already -/
theorem translateR_eq (r : Region) (hlt : ∀ a, a < r.ndim → r.lo a < r.hi a) (v : List Rat) (b : Bool) :
    translateR r v b = if v.length ≠ r.ndim then .error .value
      else finishR r (fun a => r.lo a + v.getD a 0) (fun a => r.hi a + v.getD a 0) r.units b := by
  have ht := target_of_le r (fun a => r.lo a + v.getD a 0) (fun a => r.hi a + v.getD a 0) r.units
    fun a ha => (add_lt_add_left (hlt a ha) _).le
  unfold translateR finishR; rw [ht]; rfl

theorem translateR_ok_iff (r : Region) (hr : r.Inv) (v : List Rat) (b : Bool) (recv ret : Region) :
    translateR r v b = .ok (recv, ret) ↔ v.length = r.ndim ∧
      ret = target r (fun a => r.lo a + v.getD a 0) (fun a => r.hi a + v.getD a 0) r.units ∧ recv = if b then ret else r := by
  rw [translateR_eq r (fun _ => hr.lo_lt_hi) v b, guard_ok_iff, not_not, finishR_ok_iff r hr _ _ _ hr.units_length]
  exact and_congr_right fun _ => and_iff_right fun a ha => (add_lt_add_left (hr.lo_lt_hi ha) _).ne

/-- in-place translation needs ordered corners only (a subregion of C06's histories has no more) -/
theorem translateR_inplace_iff (r : Region) (hlt : ∀ a, a < r.ndim → r.lo a < r.hi a) (v : List Rat) (recv ret : Region) :
    translateR r v true = .ok (recv, ret) ↔ v.length = r.ndim ∧
      ret = target r (fun a => r.lo a + v.getD a 0) (fun a => r.hi a + v.getD a 0) r.units ∧ recv = ret := by
  rw [translateR_eq r hlt v true, guard_ok_iff, not_not, finishR_inplace_iff]
  exact and_congr_right fun _ => and_iff_right fun a ha => (add_lt_add_left (hlt a ha) _).ne

/-- what an accepted translation returned — unlike `scaleR_inv`, `rotate90R_inv` for a proper region only: the in-place form
assigns the moved corners unordered, and only `hr` makes them `target` -/
theorem translateR_inv (r : Region) (hr : r.Inv) (v : List Rat) (b : Bool) (recv ret : Region)
    (h : translateR r v b = .ok (recv, ret)) :
    v.length = r.ndim ∧
    ret = target r (fun a => r.lo a + v.getD a 0) (fun a => r.hi a + v.getD a 0) r.units ∧
    recv = if b then ret else r :=
  (translateR_ok_iff r hr v b recv ret).mp h

theorem scaleLo_eq (r : Region) (f : Factor) (R : List Rat) (a : Nat) :
    scaleLo r f R a = R.getD a 0 + f.at a * (r.lo a - R.getD a 0) := by
  unfold scaleLo; ring

theorem scaleHi_eq (r : Region) (f : Factor) (R : List Rat) (a : Nat) :
    scaleHi r f R a = R.getD a 0 + f.at a * (r.hi a - R.getD a 0) := by
  unfold scaleHi scaleLo Region.edge; ring

theorem scaleLo_eq_scaleHi_iff_of_lt (r : Region) (f : Factor) (R : List Rat) (a : Nat) (h : r.lo a < r.hi a) :
    scaleLo r f R a = scaleHi r f R a ↔ f.at a = 0 := by
  have he : r.edge a ≠ 0 := (sub_pos.mpr h).ne'
  rw [eq_comm, ← sub_eq_zero, scaleHi_sub_scaleLo, mul_eq_zero, or_iff_right he]

theorem scaleLo_eq_scaleHi_iff (r : Region) (hr : r.Inv) (f : Factor) (R : List Rat) (a : Nat) (ha : a < r.ndim) :
    scaleLo r f R a = scaleHi r f R a ↔ f.at a = 0 :=
  scaleLo_eq_scaleHi_iff_of_lt r f R a (hr.lo_lt_hi ha)

theorem scaleR_inv (r : Region) (f : Factor) (ref : Option (List Rat)) (b : Bool) (recv ret : Region)
    (h : scaleR r f ref b = .ok (recv, ret)) :
    f.okFor r.ndim = true ∧ (ref.getD r.center).length = r.ndim ∧
    (∀ a, a < r.ndim → scaleLo r f (ref.getD r.center) a ≠ scaleHi r f (ref.getD r.center) a) ∧
    ret = target r (scaleLo r f (ref.getD r.center)) (scaleHi r f (ref.getD r.center)) r.units ∧
    recv = if b then ret else r := by
  rw [scaleR_eq, guard_ok_iff, guard_ok_iff, not_not, Bool.not_eq_true', Bool.not_eq_false] at h
  exact ⟨h.1, h.2.1, finishR_inv r _ _ _ b recv ret h.2.2⟩

theorem scaleR_ok_iff (r : Region) (hr : r.Inv) (f : Factor) (ref : Option (List Rat)) (b : Bool) (recv ret : Region) :
    scaleR r f ref b = .ok (recv, ret) ↔ f.okFor r.ndim = true ∧ (ref.getD r.center).length = r.ndim ∧
      (∀ a, a < r.ndim → f.at a ≠ 0) ∧
      ret = target r (scaleLo r f (ref.getD r.center)) (scaleHi r f (ref.getD r.center)) r.units ∧ recv = if b then ret else r := by
  rw [scaleR_eq, guard_ok_iff, guard_ok_iff, not_not, Bool.not_eq_true', Bool.not_eq_false, finishR_ok_iff r hr _ _ _ hr.units_length]
  exact and_congr_right fun _ => and_congr_right fun _ => and_congr_left fun _ =>
    forall₂_congr fun a ha => not_congr (scaleLo_eq_scaleHi_iff r hr f _ a ha)

theorem scaleR_inplace_iff (r : Region) (hlt : ∀ a, a < r.ndim → r.lo a < r.hi a) (f : Factor) (ref : Option (List Rat))
    (recv ret : Region) :
    scaleR r f ref true = .ok (recv, ret) ↔ f.okFor r.ndim = true ∧ (ref.getD r.center).length = r.ndim ∧
      (∀ a, a < r.ndim → f.at a ≠ 0) ∧
      ret = target r (scaleLo r f (ref.getD r.center)) (scaleHi r f (ref.getD r.center)) r.units ∧ recv = ret := by
  rw [scaleR_eq, guard_ok_iff, guard_ok_iff, not_not, Bool.not_eq_true', Bool.not_eq_false, finishR_inplace_iff]
  exact and_congr_right fun _ => and_congr_right fun _ => and_congr_left fun _ =>
    forall₂_congr fun a ha => not_congr (scaleLo_eq_scaleHi_iff_of_lt r f _ a (hlt a ha))

/-- `C01.dim2index_inj` with explicit arguments (the form `Lemmas/C14Step.lean` calls) -/
theorem dim2index_inj (r : Region) (d1 d2 : String) (i : Nat) (h1 : r.dim2index d1 = .ok i) (h2 : r.dim2index d2 = .ok i) :
    d1 = d2 :=
  C01.dim2index_inj h1 h2

theorem rotate90R_inv (r : Region) (ax1 ax2 : String) (k : Int) (ref : Option (List Rat)) (b : Bool)
    (recv ret : Region) (h : rotate90R r ax1 ax2 k ref b = .ok (recv, ret)) :
    ax1 ≠ ax2 ∧ (ref.getD r.center).length = r.ndim ∧
    ∃ i1 i2, r.dim2index ax1 = .ok i1 ∧ r.dim2index ax2 = .ok i2 ∧ i1 ≠ i2 ∧
      i1 < r.dims.length ∧ i2 < r.dims.length ∧
      (∀ a, a < r.ndim → rotCoord r.pmin (ref.getD r.center) i1 i2 k a ≠ rotCoord r.pmax (ref.getD r.center) i1 i2 k a) ∧
      ret = target r (rotCoord r.pmin (ref.getD r.center) i1 i2 k) (rotCoord r.pmax (ref.getD r.center) i1 i2 k)
              (rotUnits r.units i1 i2 k) ∧
      recv = if b then ret else r := by
  rw [rotate90R_eq, guard_ok_iff, guard_ok_iff, not_not] at h
  obtain ⟨hax, href, h⟩ := h
  cases h1 : r.dim2index ax1 with
  | error e => rw [h1] at h; cases h
  | ok i1 =>
    cases h2 : r.dim2index ax2 with
    | error e => rw [h1, h2] at h; cases h
    | ok i2 =>
      rw [h1, h2] at h
      exact ⟨hax, href, i1, i2, rfl, rfl, fun e => hax (C01.dim2index_inj h1 (e ▸ h2)), dim2index_lt _ _ _ h1,
        dim2index_lt _ _ _ h2, finishR_inv r _ _ _ b recv ret h⟩

theorem rotate90R_ok_iff (r : Region) (hr : r.Inv) (ax1 ax2 : String) (k : Int) (ref : Option (List Rat)) (b : Bool)
    (recv ret : Region) :
    rotate90R r ax1 ax2 k ref b = .ok (recv, ret) ↔ ax1 ≠ ax2 ∧ (ref.getD r.center).length = r.ndim ∧
      ∃ i1 i2, r.dim2index ax1 = .ok i1 ∧ r.dim2index ax2 = .ok i2 ∧
        ret = target r (rotCoord r.pmin (ref.getD r.center) i1 i2 k) (rotCoord r.pmax (ref.getD r.center) i1 i2 k)
                (rotUnits r.units i1 i2 k) ∧ recv = if b then ret else r := by
  rw [rotate90R_eq, guard_ok_iff, guard_ok_iff, not_not]
  refine and_congr_right fun _ => and_congr_right fun _ => ?_
  cases h1 : r.dim2index ax1 with
  | error e1 => exact ⟨fun h => (nomatch h), fun ⟨_, _, h, _⟩ => (nomatch h)⟩
  | ok i1 =>
    cases h2 : r.dim2index ax2 with
    | error e2 => exact ⟨fun h => (nomatch h), fun ⟨_, _, _, h, _⟩ => (nomatch h)⟩
    | ok i2 =>
      simp only [Except.ok.injEq, exists_and_left, exists_eq_left']
      rw [finishR_ok_iff r hr _ _ _ ((rotUnits_length _ _ _ _).trans hr.units_length)]
      -- a proper region turned is not degenerate
      exact and_iff_right (rotCoord_ne r hr _ i1 i2 k (hr.dim2index_lt h1) (hr.dim2index_lt h2))

theorem stepR_recv (r : Region) (op : Op) (recv ret : Region) (h : stepR r op = .ok (recv, ret)) :
    recv = if op.inplace then ret else r := by
  cases op with
  | translate v i => exact translateR_recv r v i recv ret h
  | scale f ref i => exact (scaleR_inv r f ref i recv ret h).2.2.2.2
  | rotate90 a1 a2 k ref i =>
    obtain ⟨_, _, _, _, _, _, _, _, _, _, _, e⟩ := rotate90R_inv r a1 a2 k ref i recv ret h
    exact e

/-! ## accepted and rejected calls -/

/-- the malformed-argument classes of a transformation call on an object with region `r`:
wrong-length vector; wrong-length factor list, wrong-length reference point, a zero factor;
equal axes, wrong-length reference point, an unknown axis name -/
def Malformed (r : Region) : Op → Prop
  | .translate v _ => v.length ≠ r.ndim
  | .scale f ref _ => f.okFor r.ndim = false ∨ (ref.getD r.center).length ≠ r.ndim ∨ ∃ a, a < r.ndim ∧ f.at a = 0
  | .rotate90 a1 a2 _ ref _ => a1 = a2 ∨ (ref.getD r.center).length ≠ r.ndim ∨
      (∃ e, r.dim2index a1 = .error e) ∨ ∃ e, r.dim2index a2 = .error e

theorem malformed_withInplace (r : Region) (op : Op) (b : Bool) : Malformed r (op.withInplace b) ↔ Malformed r op := by
  cases op <;> exact Iff.rfl

theorem malformed_scale (r : Region) (f : Factor) (ref : Option (List Rat)) (i : Bool) :
    Malformed r (.scale f ref i) ↔ f.okFor r.ndim = false ∨ (ref.getD r.center).length ≠ r.ndim ∨ ∃ a, a < r.ndim ∧ f.at a = 0 := Iff.rfl

theorem malformed_rotate90 (r : Region) (a1 a2 : String) (k : Int) (ref : Option (List Rat)) (i : Bool) :
    Malformed r (.rotate90 a1 a2 k ref i) ↔ a1 = a2 ∨ (ref.getD r.center).length ≠ r.ndim ∨
      (∃ e, r.dim2index a1 = .error e) ∨ ∃ e, r.dim2index a2 = .error e := Iff.rfl

theorem stepR_malformed (r : Region) (op : Op) (h : Malformed r op) : ∃ e, stepR r op = .error e := by
  cases op with
  | translate v i => exact ⟨.value, if_pos h⟩
  | scale f ref i =>
    show ∃ e, scaleR r f ref i = .error e
    rw [scaleR_eq]
    by_cases hf : (!f.okFor r.ndim) = true
    · exact ⟨_, if_pos hf⟩
    · by_cases href : (ref.getD r.center).length ≠ r.ndim
      · exact ⟨_, by rw [if_neg hf, if_pos href]⟩
      · rw [if_neg hf, if_neg href]
        rcases h with h | h | ⟨a, ha, hz⟩
        · exact absurd (by rw [h]; rfl) hf
        · exact absurd h href
        · -- a zero factor makes the two corners coincide on that axis, which neither form accepts
          exact err_of_not_ok _ fun v hv =>
            (finishR_inv r _ _ _ i v.1 v.2 hv).1 a ha (by unfold scaleHi; rw [hz, mul_zero, add_zero])
  | rotate90 a1 a2 k ref i =>
    show ∃ e, rotate90R r a1 a2 k ref i = .error e
    rw [rotate90R_eq]
    by_cases hax : a1 = a2
    · exact ⟨_, if_pos hax⟩
    · by_cases href : (ref.getD r.center).length ≠ r.ndim
      · exact ⟨_, by rw [if_neg hax, if_pos href]⟩
      · rw [if_neg hax, if_neg href]
        rcases h with h | h | ⟨e, he⟩ | ⟨e, he⟩
        · exact absurd h hax
        · exact absurd h href
        · rw [he]; exact ⟨e, rfl⟩
        · rw [he]; cases r.dim2index a1 <;> exact ⟨_, rfl⟩

/-- position of a dimension name (0 for an unknown one) -/
def axisOf (r : Region) (a : String) : Nat := match r.dim2index a with | .ok i => i | .error _ => 0

theorem axisOf_ok {r : Region} {a : String} {i : Nat} (h : r.dim2index a = .ok i) : axisOf r a = i := by
  unfold axisOf; rw [h]

/-- the region a step returns, in either form -/
def applyR (r : Region) : Op → Region
  | .translate v _ => target r (fun a => r.lo a + v.getD a 0) (fun a => r.hi a + v.getD a 0) r.units
  | .scale f ref _ => target r (scaleLo r f (ref.getD r.center)) (scaleHi r f (ref.getD r.center)) r.units
  | .rotate90 a1 a2 k ref _ =>
    target r (rotCoord r.pmin (ref.getD r.center) (axisOf r a1) (axisOf r a2) k)
      (rotCoord r.pmax (ref.getD r.center) (axisOf r a1) (axisOf r a2) k) (rotUnits r.units (axisOf r a1) (axisOf r a2) k)

theorem applyR_withInplace (r : Region) (op : Op) (b : Bool) : applyR r (op.withInplace b) = applyR r op := by cases op <;> rfl

theorem axisOf_wf (r : Region) (hr : r.Inv) (a1 a2 : String) (k : Int) (ref : Option (List Rat)) (i : Bool)
    (h : ¬ Malformed r (.rotate90 a1 a2 k ref i)) :
    axisOf r a1 ≠ axisOf r a2 ∧ axisOf r a1 < r.ndim ∧ axisOf r a2 < r.ndim ∧
    r.dim2index a1 = .ok (axisOf r a1) ∧ r.dim2index a2 = .ok (axisOf r a2) := by
  simp only [Malformed, not_or, not_exists] at h
  obtain ⟨hne, _, h1, h2⟩ := h
  cases d1 : r.dim2index a1 with
  | error e => exact absurd d1 (h1 e)
  | ok i1 =>
    cases d2 : r.dim2index a2 with
    | error e => exact absurd d2 (h2 e)
    | ok i2 =>
      rw [axisOf_ok d1, axisOf_ok d2]
      exact ⟨fun e => hne (C01.dim2index_inj d1 (e ▸ d2)), hr.dim2index_lt d1, hr.dim2index_lt d2, rfl, rfl⟩

theorem applyR_inv (r : Region) (hr : r.Inv) (op : Op) (h : ¬ Malformed r op) :
    (applyR r op).Inv ∧ (applyR r op).ndim = r.ndim ∧ (applyR r op).dims = r.dims ∧ (applyR r op).tol = r.tol := by
  have hu : r.units.length = r.ndim := hr.units_length
  refine ⟨?_, by cases op <;> exact target_ndim _ _ _ _, by cases op <;> rfl, by cases op <;> rfl⟩
  cases op with
  | translate v i => exact target_inv r hr _ _ _ hu fun a ha => by have := hr.lo_lt_hi ha; intro e; linarith
  | scale f ref i =>
    exact target_inv r hr _ _ _ hu fun a ha e =>
      h (Or.inr (Or.inr ⟨a, ha, (scaleLo_eq_scaleHi_iff r hr f _ a ha).mp e⟩))
  | rotate90 a1 a2 k ref i =>
    obtain ⟨_, l1, l2, _⟩ := axisOf_wf r hr a1 a2 k ref i h
    exact target_inv r hr _ _ _ ((rotUnits_length _ _ _ _).trans hu) (rotCoord_ne r hr _ _ _ k l1 l2)

/-- the region step specified (`specR`): every region-level theorem of `Props/C13.lean` is read off this statement -/
theorem stepR_ok_iff (r : Region) (hr : r.Inv) (op : Op) (recv ret : Region) :
    stepR r op = .ok (recv, ret) ↔ ¬ Malformed r op ∧ ret = applyR r op ∧ recv = if op.inplace then ret else r := by
  cases op with
  | translate v i => exact (translateR_ok_iff r hr v i recv ret).trans (and_congr_left' not_not.symm)
  | scale f ref i =>
    refine (scaleR_ok_iff r hr f ref i recv ret).trans ?_
    simp only [Malformed, not_or, not_exists, not_and, Bool.not_eq_false, not_not, applyR, Op.inplace, and_assoc]
    -- both sides are the same five conjuncts (`f.at a ≠ 0` against `¬ f.at a = 0`)
    exact Iff.rfl
  | rotate90 a1 a2 k ref i =>
    refine (rotate90R_ok_iff r hr a1 a2 k ref i recv ret).trans ?_
    simp only [Malformed, not_or, not_exists, not_not, Op.inplace, and_assoc]
    refine and_congr_right fun _ => and_congr_right fun _ => ?_
    cases h1 : r.dim2index a1 with
    | error e1 => exact ⟨fun ⟨_, _, h, _⟩ => (nomatch h), fun ⟨h, _⟩ => absurd rfl (h e1)⟩
    | ok i1 =>
      cases h2 : r.dim2index a2 with
      | error e2 => exact ⟨fun ⟨_, _, _, h, _⟩ => (nomatch h), fun ⟨_, h, _⟩ => absurd rfl (h e2)⟩
      | ok i2 =>
        -- with both names known, `applyR` turns about their positions `i1`, `i2`
        simp only [applyR, axisOf_ok h1, axisOf_ok h2]
        simp only [Except.ok.injEq, exists_and_left, exists_eq_left', reduceCtorEq, not_false_eq_true, implies_true, true_and]
        -- what is left on both sides: `ret = target …` and the receiver
        exact Iff.rfl

theorem specR : Spec stepR Region.Inv Malformed applyR :=
  ⟨malformed_withInplace, applyR_withInplace, stepR_malformed, stepR_ok_iff, fun r hr op h => (applyR_inv r hr op h).1⟩

theorem stepR_keeps (r : Region) (hr : r.Inv) (op : Op) (x r' : Region) (h : stepR r op = .ok (x, r')) :
    r'.Inv ∧ r'.ndim = r.ndim ∧ r'.dims = r.dims ∧ r'.tol = r.tol := by
  obtain ⟨hm, rfl, _⟩ := (stepR_ok_iff r hr op x r').mp h
  exact applyR_inv r hr op hm

theorem stepR_error_iff (r : Region) (hr : r.Inv) (op : Op) : (∃ e, stepR r op = .error e) ↔ Malformed r op :=
  specR.error_iff hr op

/-! ## the parity of the number of quarter turns -/

theorem isOdd_iff (k : Int) : isOdd k = true ↔ (k % 4 = 1 ∨ k % 4 = 3) := by
  unfold isOdd; rw [decide_eq_true_eq]; omega

end DFV.T
