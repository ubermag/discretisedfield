import DFV.Lemmas.C20Accept
import DFV.Lemmas.C20HeapSession
/-!
Closed examples for the non-vacuity `example`s of `Props/C20.lean`: a 2 × 3 mesh on `[0,4]×[0,6]` with cell
`(0, 2)` invalid; a nanometre-sized 3 × 4 mesh with custom dimension names and units, a periodic direction, a
subregion, holes in the validity and a swapped mapping; the first set with its arrays on a heap of buffers.
-/
namespace DFV.C20
open DFV

def exRegion : Region :=
  { pmin := [0, 0], pmax := [4, 6], dims := ["x", "y"], units := ["m", "m"], tol := 1/1000000000000 }
def exMesh : Mesh := { region := exRegion, n := [2, 3], bc := "", subs := [] }
/-- scalar field with values 1..6 (C order), cell (0, 2) invalid -/
def exS : Fld :=
  { mesh := exMesh, nvdim := 1, data := NDA.ofList [2, 3] [[1], [2], [3], [4], [5], [6]] [],
    valid := NDA.ofList [2, 3] [true, true, false, true, true, true] false,
    vdims := none, vmap := [], unit := none }
/-- 3-component field, labels a b c, `a ↦ y`, `b ↦ x`, `c ↦ z` -/
def exV : Fld :=
  { mesh := exMesh, nvdim := 3,
    data := NDA.ofList [2, 3] [[0, 1, 2], [3, 4, 5], [6, 7, 8], [9, 10, 11], [12, 13, 14], [15, 16, 17]] [],
    valid := NDA.ofList [2, 3] [true, true, false, true, true, true] false,
    vdims := some ["a", "b", "c"], vmap := [("a", "y"), ("b", "x"), ("c", "z")], unit := none }
/-- filter that is non-zero everywhere -/
def exOnes : Fld := { exS with data := NDA.ofList [2, 3] [[1], [1], [1], [1], [1], [1]] [],
                               valid := NDA.ofList [2, 3] [true, true, true, true, true, true] false }
/-- a filter on 4 × 3 cells of the same region, zero in its cells with first index 0 and 1 -/
def exFine : Fld :=
  { exS with mesh := { exMesh with n := [4, 3] },
             data := NDA.ofList [4, 3] [[0], [0], [0], [0], [0], [0], [1], [1], [1], [1], [1], [1]] [],
             valid := NDA.ofList [4, 3] (List.replicate 12 true) false }

theorem exMesh_inv : exMesh.Inv := C01.mesh_inv_of_invB exMesh (by decide +kernel)

theorem exFine_mesh_inv : exFine.mesh.Inv := C01.mesh_inv_of_invB _ (by decide +kernel)

theorem exS_multOk : MultOk exS none := by
  show ∀ a, a < exS.mesh.region.ndim → _
  decide +kernel

theorem exFine_auxOk : AuxOk exS exFine := ⟨rfl, rfl, Or.inr ⟨exFine_mesh_inv, by decide +kernel⟩⟩

theorem exV_mappingOk : MappingOk exV :=
  ⟨["a", "b", "c"], rfl, by decide +kernel, by decide +kernel, by decide +kernel⟩

theorem exV_labels : ∃ vs, exV.vdims = some vs ∧ vs.length = 3 ∧ hasDup vs = false :=
  ⟨_, rfl, rfl, by decide +kernel⟩

theorem exV_colourOk : ColourOk exV {} := Or.inr (Or.inr ⟨rfl, Or.inr exV_labels⟩)

/-! ## second set -/

/-- `[0, 30 nm] × [-20 ns, 20 ns]`, dimensions `a`, `t`, units `m`, `s` -/
def exNmRegion : Region :=
  { pmin := [0, -20 / 1000000000], pmax := [30 / 1000000000, 20 / 1000000000], dims := ["a", "t"],
    units := ["m", "s"], tol := 1/1000000000000 }

/-- 3 × 4 cells, periodic along `a`, one subregion -/
def exNmMesh : Mesh :=
  { region := exNmRegion, n := [3, 4], bc := "a",
    subs := [("core", { exNmRegion with pmin := [10 / 1000000000, -10 / 1000000000],
                                        pmax := [20 / 1000000000, 10 / 1000000000] })] }

/-- scalar field, values `10·i + j`, cells `(0, 1)` and `(2, 3)` invalid -/
def exNmS : Fld :=
  { mesh := exNmMesh, nvdim := 1,
    data := ⟨[3, 4], fun i => [10 * (i.getD 0 0 : Rat) + (i.getD 1 0 : Rat)]⟩,
    valid := ⟨[3, 4], fun i => !(i == [0, 1] || i == [2, 3])⟩,
    vdims := none, vmap := [], unit := none }

/-- 2-component field with the mapping swapped: `p ↦ t`, `q ↦ a` -/
def exNmV : Fld :=
  { mesh := exNmMesh, nvdim := 2,
    data := ⟨[3, 4], fun i => [3 * (i.getD 0 0 : Rat), 4 * (i.getD 1 0 : Rat) - 4]⟩,
    valid := ⟨[3, 4], fun i => !(i == [1, 1])⟩,
    vdims := some ["p", "q"], vmap := [("p", "t"), ("q", "a")], unit := some "A/m" }

/-- filter on 6 × 2 cells of the same region, zero in its cells with first index 0 and 1 -/
def exNmFlt : Fld :=
  { exNmS with mesh := { exNmMesh with n := [6, 2], bc := "", subs := [] },
               data := ⟨[6, 2], fun i => [if i.getD 0 0 < 2 then 0 else 1]⟩,
               valid := ⟨[6, 2], fun _ => true⟩ }

theorem exNmMesh_inv : exNmMesh.Inv := C01.mesh_inv_of_invB exNmMesh (by decide +kernel)

/-! ## third set: arrays on the heap -/

/-- the arrays of the example scalar field `exS` as two buffers: `array` at address 0, `valid` at 1 -/
def exHeap : AHeap :=
  [fun i => some ((exS.data.get (i.take 2)).getD (i.getD 2 0) 0),
   fun i => some (if exS.valid.get (i.take 2) then 1 else 0)]

/-- `exS` with its arrays on `exHeap` -/
def exHS : HFld :=
  { mesh := exMesh, nvdim := 1, arr := 0, val := 1, vdims := none, vmap := [], unit := none }

/-- the vector example `exV` with its arrays at addresses 0, 1 of a heap -/
def exHeapV : AHeap :=
  [fun i => some ((exV.data.get (i.take 2)).getD (i.getD 2 0) 0),
   fun i => some (if exV.valid.get (i.take 2) then 1 else 0)]

def exHV : HFld :=
  { mesh := exMesh, nvdim := 3, arr := 0, val := 1, vdims := exV.vdims, vmap := exV.vmap, unit := none }

/-- one heap with the arrays of the vector example (addresses 0, 1) and of the scalar example (2, 3) -/
def exHeap2 : AHeap := exHeapV ++ exHeap

/-- the scalar example field with its arrays at addresses 2, 3 -/
def exHS2 : HFld := { exHS with arr := 2, val := 3 }

/-- a history of five direct calls of all kinds that share the two fields -/
def exHReqs : List HReq :=
  [{ kind := .default, field := exHV, opts := { useColor := false } },
   { kind := .scalar, field := exHS2 },
   { kind := .vector, field := exHV, opts := { aux := some exHS2 } },
   { kind := .lightness, field := exHV, opts := { filter := some exHS2, aux := some exHS2 } },
   { kind := .contour, field := exHS2, opts := { filter := some exHS2 } }]

theorem exHReqs_ok : ∀ r ∈ exHReqs, HReqOk exHeap2 r := by
  intro r hr
  simp only [exHReqs, List.mem_cons, List.mem_nil_iff, or_false] at hr
  rcases hr with rfl | rfl | rfl | rfl | rfl <;>
    exact ⟨exMesh_inv, ⟨by decide, by decide⟩, fun _ => rfl, by decide,
      fun g hg => by cases hg <;> exact ⟨by decide, by decide⟩,
      fun g hg => by cases hg <;> exact ⟨by decide, by decide⟩,
      fun vs hvs => by cases hvs <;> decide,
      fun _ g hg i => by cases hg <;> rfl⟩

end DFV.C20
