import DFV.Lemmas.C13StepR
import DFV.Lemmas.MeshInv
/-! The mesh step of `Model/Transform.lean` described uniformly (`stepMU`): the region step on the region and on every subregion
(about the reference point of the mesh), counts and `bc` turned, then assignment (in place) or the constructor (copying).
Specified for a mesh whose subregions are proper regions with its names (`S.SubsProper`, `stepM_spec`): the copying form is the
constructor applied to `applyM m op`. -/
namespace DFV.T
open DFV

/-- the step applied to the subregions: same step, reference point fixed to the one of the mesh -/
def subOp (m : Mesh) : Op → Op
  | .translate v i => .translate v i
  | .scale f ref i => .scale f (subRef m ref) i
  | .rotate90 a1 a2 k ref i => .rotate90 a1 a2 k (subRef m ref) i

/-- cell counts after the step -/
def opN (m : Mesh) : Op → List Nat
  | .rotate90 a1 a2 k _ _ =>
    match m.region.dim2index a1, m.region.dim2index a2 with
    | .ok i1, .ok i2 => rotN m.n i1 i2 k
    | _, _ => m.n
  | _ => m.n

/-- `bc` after the step: the letters of the two axes swapped by an odd quarter turn -/
def opBc (m : Mesh) : Op → String
  | .rotate90 a1 a2 k _ _ => rotBc m.bc a1 a2 k
  | _ => m.bc

theorem subOp_withInplace (m : Mesh) (op : Op) (b : Bool) : subOp m (op.withInplace b) = (subOp m op).withInplace b := by
  cases op <;> rfl
theorem opN_withInplace (m : Mesh) (op : Op) (b : Bool) : opN m (op.withInplace b) = opN m op := by
  cases op <;> rfl
theorem opBc_withInplace (m : Mesh) (op : Op) (b : Bool) : opBc m (op.withInplace b) = opBc m op := by
  cases op <;> rfl

/-- uniform description of a mesh step -/
def stepMU (m : Mesh) (op : Op) : M (Mesh × Mesh) :=
  match stepR m.region op, mapSubs m.subs (fun s => stepR s (subOp m op)) with
  | .error e, _ => .error e
  | _, .error e => .error e
  | .ok (_, r'), .ok subs' =>
    if op.inplace then
      .ok ({ m with region := r', n := opN m op, bc := opBc m op, subs := subs' },
           { m with region := r', n := opN m op, bc := opBc m op, subs := subs' })
    else match mkMesh? r' (opN m op) (opBc m op) subs' with
      | .error e => .error e
      | .ok m' => .ok (m, m')

theorem stepM_eq_stepMU (m : Mesh) (op : Op) : stepM m op = stepMU m op := by
  -- the `rotate90` branch of `stepM` also matches on the two `dim2index` results; an accepted `rotate90R`
  -- makes both `.ok` (`rotate90R_inv`), so its extra error branches are dead
  cases op with
  | translate v i => rfl
  | scale f ref i => rfl
  | rotate90 a1 a2 k ref i =>
    simp only [stepM, stepMU, stepR, subOp, opN, opBc, Op.inplace]
    cases hreg : rotate90R m.region a1 a2 k ref i with
    | error e => rfl
    | ok p =>
      obtain ⟨x, r'⟩ := p
      obtain ⟨_, _, i1, i2, h1, h2, _⟩ := rotate90R_inv _ _ _ _ _ _ _ _ hreg
      rw [h1, h2]
      cases mapSubs m.subs (fun s => rotate90R s a1 a2 k (subRef m ref) i) with
      | error e => rfl
      | ok subs' => rfl

/-! ## `mapSubs` -/

theorem mapSubs_cons (p : String × Region) (ps : List (String × Region)) (f : Region → M (Region × Region)) :
    mapSubs (p :: ps) f = match f p.2 with
      | .error e => .error e
      | .ok (_, ret) => match mapSubs ps f with
        | .error e => .error e
        | .ok qs => .ok ((p.1, ret) :: qs) := by
  unfold mapSubs
  rw [List.mapM_cons]
  cases hp : f p.2 with
  | error e => rfl
  | ok q =>
    obtain ⟨recv, ret⟩ := q
    simp only []
    cases hps : List.mapM (fun p => match f p.2 with | .ok (_, ret) => (.ok (p.1, ret) : M _) | .error e => .error e) ps with
    | error e => rfl
    | ok qs => rfl

/-- **`mapSubs`** is accepted exactly when `f` accepts every region; names and order are kept, and every region is replaced
by what `f` returned for it -/
theorem mapSubs_ok_iff (l l' : List (String × Region)) (f : Region → M (Region × Region)) :
    mapSubs l f = .ok l' ↔ List.Forall₂ (fun p p' => p'.1 = p.1 ∧ ∃ recv, f p.2 = .ok (recv, p'.2)) l l' := by
  induction l generalizing l' with
  | nil => exact ⟨fun h => by cases h; exact .nil, fun h => by cases h; rfl⟩
  | cons p ps ih =>
    rw [mapSubs_cons]
    constructor
    · intro h
      cases hp : f p.2 with
      | error e => rw [hp] at h; cases h
      | ok q =>
        cases hps : mapSubs ps f with
        | error e => rw [hp, hps] at h; cases h
        | ok qs => rw [hp, hps] at h; cases h; exact .cons ⟨rfl, q.1, hp⟩ ((ih qs).mp hps)
    · intro h
      cases h with
      | @cons _ p' _ qs hr hrest =>
        obtain ⟨e, x, hx⟩ := hr
        rw [hx, (ih qs).mpr hrest, ← e]

theorem mapSubs_inv (subs subs' : List (String × Region)) (f : Region → M (Region × Region))
    (h : mapSubs subs f = .ok subs') :
    List.Forall₂ (fun p p' => p'.1 = p.1 ∧ ∃ recv, f p.2 = .ok (recv, p'.2)) subs subs' :=
  (mapSubs_ok_iff subs subs' f).mp h

theorem mapSubs_eq_map (l : List (String × Region)) (f : Region → M (Region × Region)) (g : Region → Region)
    (h : ∀ p ∈ l, ∃ x, f p.2 = .ok (x, g p.2)) : mapSubs l f = .ok (l.map fun p => (p.1, g p.2)) :=
  (mapSubs_ok_iff _ _ f).mpr (List.forall₂_map_right_iff.mpr (List.forall₂_same.mpr fun p hp => ⟨rfl, h p hp⟩))

theorem mapSubs_ok_mem (l l' : List (String × Region)) (f : Region → M (Region × Region)) (h : mapSubs l f = .ok l') :
    (∀ p ∈ l, ∃ x y, f p.2 = .ok (x, y)) ∧ ∀ q ∈ l', ∃ p ∈ l, ∃ x, f p.2 = .ok (x, q.2) := by
  have := mapSubs_inv _ _ _ h
  clear h
  induction this with
  | nil => exact ⟨fun _ hp => (nomatch hp), fun _ hq => (nomatch hq)⟩
  | @cons p p' ps ps' hr _ ih =>
    obtain ⟨_, x, hx⟩ := hr
    constructor
    · intro q hq
      rcases List.mem_cons.mp hq with e | e
      · subst e; exact ⟨x, _, hx⟩
      · exact ih.1 q e
    · intro q hq
      rcases List.mem_cons.mp hq with e | e
      · subst e; exact ⟨p, List.mem_cons_self, x, hx⟩
      · obtain ⟨p0, hp0, h0⟩ := ih.2 q e
        exact ⟨p0, List.mem_cons_of_mem _ hp0, h0⟩

theorem mapSubs_ok_of_all (subs : List (String × Region)) (f : Region → M (Region × Region))
    (h : ∀ p ∈ subs, ∃ x T, f p.2 = .ok (x, T)) : ∃ subs', mapSubs subs f = .ok subs' := by
  induction subs with
  | nil => exact ⟨[], rfl⟩
  | cons p ps ih =>
    obtain ⟨x, T, hp⟩ := h p List.mem_cons_self
    obtain ⟨qs, hq⟩ := ih fun q hq => h q (List.mem_cons_of_mem _ hq)
    exact ⟨(p.1, T) :: qs, (mapSubs_ok_iff _ _ f).mpr (.cons ⟨rfl, x, hp⟩ ((mapSubs_ok_iff _ _ f).mp hq))⟩

/-! ## the mesh invariant -/

theorem opN_ok (m : Mesh) (hm : m.Inv) (op : Op) :
    (opN m op).length = m.n.length ∧ ∀ k ∈ opN m op, 0 < k := by
  have hmem := hm.mem_n_pos
  obtain ⟨hr, hl, hp⟩ := hm
  cases op with
  | translate | scale => exact ⟨rfl, hmem⟩
  | rotate90 a1 a2 k ref i =>
    simp only [opN]
    split
    · rename_i i1 i2 h1 h2
      have hd : m.region.dims.length = m.region.ndim := hr.dims_length
      have l1 : i1 < m.n.length := by rw [hl, ← hd]; exact dim2index_lt _ _ _ h1
      have l2 : i2 < m.n.length := by rw [hl, ← hd]; exact dim2index_lt _ _ _ h2
      exact ⟨rotN_length _ _ _ _, fun x hx => hmem x (mem_rotN _ _ _ _ l1 l2 x hx)⟩
    · exact ⟨rfl, hmem⟩

/-! ## what an accepted step did -/

theorem stepM_ok (m : Mesh) (op : Op) (recv ret : Mesh) (h : stepM m op = .ok (recv, ret)) :
    ∃ x r' subs', stepR m.region op = .ok (x, r') ∧ mapSubs m.subs (fun s => stepR s (subOp m op)) = .ok subs' ∧
      if op.inplace then ret = { m with region := r', n := opN m op, bc := opBc m op, subs := subs' } ∧ recv = ret
      else recv = m ∧ mkMesh? r' (opN m op) (opBc m op) subs' = .ok ret := by
  rw [stepM_eq_stepMU] at h
  unfold stepMU at h
  cases hreg : stepR m.region op with
  | error e => rw [hreg] at h; cases h
  | ok p =>
    cases hsub : mapSubs m.subs (fun s => stepR s (subOp m op)) with
    | error e => rw [hreg, hsub] at h; cases h
    | ok subs' =>
      rw [hreg, hsub] at h
      refine ⟨p.1, p.2, subs', rfl, rfl, ?_⟩
      cases hi : op.inplace
      · rw [if_neg Bool.false_ne_true]
        simp only [hi, Bool.false_eq_true, if_false] at h
        cases hmk : mkMesh? p.2 (opN m op) (opBc m op) subs' with
        | error e => rw [hmk] at h; cases h
        | ok m' =>
          rw [hmk] at h
          injection h with h; injection h with h1 h2
          exact ⟨h1.symm, h2 ▸ rfl⟩
      · rw [if_pos rfl]
        simp only [hi, if_true] at h
        injection h with h; injection h with h1 h2
        exact ⟨h2.symm, h1.symm.trans h2⟩

theorem stepM_ok_iff (m : Mesh) (op : Op) (recv ret : Mesh) :
    stepM m op = .ok (recv, ret) ↔
    ∃ x r' subs', stepR m.region op = .ok (x, r') ∧ mapSubs m.subs (fun s => stepR s (subOp m op)) = .ok subs' ∧
      if op.inplace then ret = { m with region := r', n := opN m op, bc := opBc m op, subs := subs' } ∧ recv = ret
      else recv = m ∧ mkMesh? r' (opN m op) (opBc m op) subs' = .ok ret := by
  refine ⟨stepM_ok m op recv ret, ?_⟩
  rintro ⟨x, r', subs', hreg, hsub, hcase⟩
  rw [stepM_eq_stepMU]; unfold stepMU; rw [hreg, hsub]
  cases hi : op.inplace
  · rw [hi, if_neg Bool.false_ne_true] at hcase
    simp only [Bool.false_eq_true, if_false, hcase.2, hcase.1]
  · rw [hi, if_pos rfl] at hcase
    simp only [if_true, hcase.2, hcase.1]

theorem stepM_keeps (m : Mesh) (hm : m.Inv) (op : Op) (recv ret : Mesh) (h : stepM m op = .ok (recv, ret)) :
    recv.Inv ∧ ret.Inv ∧ ret.n = opN m op ∧ ∃ x, stepR m.region op = .ok (x, ret.region) := by
  have hN := opN_ok m hm op
  obtain ⟨x, r', subs', hreg, _, hcase⟩ := stepM_ok m op recv ret h
  obtain ⟨hri, hrn, _, _⟩ := stepR_keeps m.region hm.1 op x r' hreg
  have hl : (opN m op).length = r'.ndim := by rw [hN.1, hrn]; exact hm.2.1
  have hi : ∀ (bc : String) (ss : List (String × Region)), ({ region := r', n := opN m op, bc := bc, subs := ss } : Mesh).Inv :=
    fun bc ss => DFV.C13.meshInv_of_parts _ hri hl hN.2
  split at hcase
  · obtain ⟨rfl, rfl⟩ := hcase
    exact ⟨hi _ _, hi _ _, rfl, x, hreg⟩
  · obtain ⟨e0, hm'⟩ := hcase
    obtain ⟨_, _, _, _, rfl⟩ := (mkMesh?_ok_iff _ _ _ _ _).mp hm'
    exact ⟨e0 ▸ hm, hi _ _, rfl, x, hreg⟩

/-- what an accepted mesh step returned, whatever the subregions are: the region the region step returns, the counts, `bc` —
lower-cased by the constructor of the copying form —, and the receiver -/
theorem stepM_returns (m : Mesh) (hm : m.Inv) (op : Op) (recv ret : Mesh) (h : stepM m op = .ok (recv, ret)) :
    ¬ Malformed m.region op ∧ ret.region = applyR m.region op ∧ ret.n = opN m op ∧
    ret.bc = (if op.inplace then opBc m op else (opBc m op).toLower) ∧ recv = if op.inplace then ret else m := by
  obtain ⟨x, r', subs', hreg, _, hcase⟩ := stepM_ok m op recv ret h
  obtain ⟨hmal, rfl, _⟩ := (stepR_ok_iff _ hm.1 _ _ _).mp hreg
  cases hi : op.inplace
  · rw [hi, if_neg Bool.false_ne_true] at hcase
    rw [if_neg Bool.false_ne_true, if_neg Bool.false_ne_true]
    obtain ⟨rfl, hmk⟩ := hcase
    obtain ⟨_, _, _, _, rfl⟩ := (mkMesh?_ok_iff _ _ _ _ _).mp hmk
    exact ⟨hmal, rfl, rfl, rfl, rfl⟩
  · rw [hi, if_pos rfl] at hcase
    rw [if_pos rfl, if_pos rfl]
    obtain ⟨rfl, rfl⟩ := hcase
    exact ⟨hmal, rfl, rfl, rfl, rfl⟩

/-- `stepM_returns` for a quarter turn, with the positions of the two axes: the premises of `turned_axis` (`Lemmas/Rot.lean`) -/
theorem stepM_rot_returns (m : Mesh) (hm : m.Inv) (a1 a2 : String) (k : Int) (ref : Option (List Rat)) (b : Bool) (y m' : Mesh)
    (h : stepM m (.rotate90 a1 a2 k ref b) = .ok (y, m')) :
    ∃ i1 i2, m.region.dim2index a1 = .ok i1 ∧ m.region.dim2index a2 = .ok i2 ∧ i1 ≠ i2 ∧ i1 < m.ndim ∧ i2 < m.ndim ∧
      m'.region = target m.region (rotCoord m.region.pmin (ref.getD m.region.center) i1 i2 k)
        (rotCoord m.region.pmax (ref.getD m.region.center) i1 i2 k) (rotUnits m.region.units i1 i2 k) ∧
      m'.n = rotN m.n i1 i2 k ∧ m'.bc = (if b then rotBc m.bc a1 a2 k else (rotBc m.bc a1 a2 k).toLower) := by
  obtain ⟨hmal, hr, hn, hbc, _⟩ := stepM_returns m hm _ y m' h
  obtain ⟨h12, l1, l2, d1, d2⟩ := axisOf_wf m.region hm.1 a1 a2 k ref b hmal
  exact ⟨_, _, d1, d2, h12, l1, l2, hr, by rw [hn]; simp only [opN, d1, d2], hbc⟩

/-! ## the mesh step specified -/

/-- the region is transformed first, so nothing is asked of the mesh -/
theorem stepM_malformed (m : Mesh) (op : Op) (h : Malformed m.region op) : ∃ e, stepM m op = .error e := by
  obtain ⟨e, he⟩ := stepR_malformed m.region op h
  rw [stepM_eq_stepMU]; unfold stepMU; rw [he]
  exact ⟨e, rfl⟩

/-- the subregions are transformed about the reference point of the mesh step, whatever their own centre -/
theorem subRef_getD (m : Mesh) (ref : Option (List Rat)) (c : List Rat) : (subRef m ref).getD c = ref.getD m.region.center := rfl

theorem subOp_malformed_iff (m : Mesh) (s : Region) (hd : s.dims = m.region.dims) (hn : s.ndim = m.region.ndim) (op : Op) :
    Malformed s (subOp m op) ↔ Malformed m.region op := by
  have d := dim2index_congr m.region s hd
  -- unfolding `Malformed` by `rw`, not by `simp`/`show`: those would unfold `Region.center` of both regions to compare them
  cases op with
  | translate v i => show v.length ≠ s.ndim ↔ _; rw [hn]; exact Iff.rfl
  | scale f ref i => rw [subOp, malformed_scale, malformed_scale, subRef_getD, hn]
  | rotate90 a1 a2 k ref i => rw [subOp, malformed_rotate90, malformed_rotate90, subRef_getD, hn, d a1, d a2]

/-- the mesh a step makes of `m` by assignment: the step on the region and on every subregion, counts and `bc` turned -/
def applyM (m : Mesh) (op : Op) : Mesh :=
  { region := applyR m.region op, n := opN m op, bc := opBc m op, subs := m.subs.map fun p => (p.1, applyR p.2 (subOp m op)) }

/-- `Mesh(region=m.region, n=m.n, bc=m.bc, subregions=m.subregions)` -/
def remake (m : Mesh) : M Mesh := mkMesh? m.region m.n m.bc m.subs

theorem applyM_withInplace (m : Mesh) (op : Op) (b : Bool) : applyM m (op.withInplace b) = applyM m op := by
  unfold applyM; rw [applyR_withInplace, opN_withInplace, opBc_withInplace, subOp_withInplace]
  simp only [applyR_withInplace]

/-- the subregions are proper regions with the dimension names of the mesh region (what the setter stores; no exact fit
needed).  The name stands in the namespace of the store model because `Props/C13.good_store_mesh` states it there. -/
def _root_.DFV.S.SubsProper (m : Mesh) : Prop := ∀ p ∈ m.subs, p.2.Inv ∧ p.2.dims = m.region.dims

theorem subs_step (m : Mesh) (hm : m.Inv) (hp : S.SubsProper m) (op : Op)
    (h : ¬ Malformed m.region op) : mapSubs m.subs (fun s => stepR s (subOp m op)) = .ok (applyM m op).subs := by
  refine mapSubs_eq_map m.subs _ (fun s => applyR s (subOp m op)) fun p hpm => ?_
  obtain ⟨hi, hd⟩ := hp p hpm
  have hn : p.2.ndim = m.region.ndim := by rw [← hi.dims_length, ← hm.1.dims_length, hd]
  exact ⟨_, (stepR_ok_iff p.2 hi _ _ _).mpr ⟨by rw [subOp_malformed_iff m p.2 hd hn]; exact h, rfl, rfl⟩⟩

/-- the mesh step specified: the in-place form assigns `applyM m op`, the copying form returns what the constructor makes of it;
`specM` (`Lemmas/C13Bc.lean`) packs it under `MInv` -/
theorem stepM_spec (m : Mesh) (hm : m.Inv) (hp : S.SubsProper m) (op : Op) (recv ret : Mesh) :
    stepM m op = .ok (recv, ret) ↔ ¬ Malformed m.region op ∧
      if op.inplace then ret = applyM m op ∧ recv = ret else recv = m ∧ remake (applyM m op) = .ok ret := by
  rw [stepM_ok_iff]
  constructor
  · rintro ⟨x, r', subs', hreg, hsub, hcase⟩
    obtain ⟨hmal, rfl, _⟩ := (stepR_ok_iff _ hm.1 _ _ _).mp hreg
    rw [subs_step m hm hp op hmal] at hsub
    cases hsub
    exact ⟨hmal, hcase⟩
  · rintro ⟨hmal, hcase⟩
    exact ⟨_, _, _, (stepR_ok_iff _ hm.1 _ _ _).mpr ⟨hmal, rfl, rfl⟩, subs_step m hm hp op hmal, hcase⟩

/-- the same as an equation, which also says with what a step is rejected: the region step's error, or the constructor's -/
theorem stepM_eq (m : Mesh) (hm : m.Inv) (hp : S.SubsProper m) (op : Op) :
    stepM m op = match stepR m.region op with
      | .error e => .error e
      | .ok _ => if op.inplace then .ok (applyM m op, applyM m op) else
          match remake (applyM m op) with
          | .error e => .error e
          | .ok m' => .ok (m, m') := by
  rw [stepM_eq_stepMU]; unfold stepMU
  cases hreg : stepR m.region op with
  | error e => rfl
  | ok p =>
    obtain ⟨x, r'⟩ := p
    obtain ⟨hmal, rfl, _⟩ := (stepR_ok_iff _ hm.1 _ _ _).mp hreg
    rw [subs_step m hm hp op hmal]; rfl

/-- `hp` is `S.SubsProper m` written out: `Lemmas/C17Hist.lean` proves it by rewriting `m.subs` -/
theorem stepM_assign (m : Mesh) (hm : m.Inv) (hp : ∀ p ∈ m.subs, p.2.Inv ∧ p.2.dims = m.region.dims) (op : Op)
    (h : ¬ Malformed m.region op) : stepM m (op.withInplace true) = .ok (applyM m op, applyM m op) :=
  (stepM_spec m hm hp _ _ _).mpr
    ⟨by rwa [malformed_withInplace], by rw [inplace_withInplace, if_pos rfl, applyM_withInplace]; exact ⟨rfl, rfl⟩⟩

theorem applyM_inv (m : Mesh) (hm : m.Inv) (op : Op) (h : ¬ Malformed m.region op) : (applyM m op).Inv := by
  obtain ⟨hri, hrn, _, _⟩ := applyR_inv m.region hm.1 op h
  have hN := opN_ok m hm op
  have hl : (opN m op).length = (applyR m.region op).ndim := by rw [hN.1, hrn]; exact hm.2.1
  exact DFV.C13.meshInv_of_parts _ hri hl hN.2

end DFV.T
