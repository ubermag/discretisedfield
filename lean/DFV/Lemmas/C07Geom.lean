import DFV.Lemmas.C01Tol
/-! Per-axis geometry over `Rat`, on `Lemmas/C01` and `Lemmas/C01Tol` (whose lemmas are used under their own names):
half-integers against faces (`centre_between_faces`, `half_cell_overlap_iff`); `indexAx` as the lower adjoint of the
face map `k ↦ lo + k·cell` in the forms this family uses (`le_indexAx_iff`, `indexAx_le_iff`, `index_contains`: cells
contain their points); the faces of a cell from its centre; `point2index` / `index2point` on exactly contained points
with the hypotheses split. -/
namespace DFV.C07
open DFV DFV.Mesh

/-! ## projections of the mesh invariant that `Lemmas/C01Base` states for the region only -/

theorem _root_.DFV.Mesh.Inv.ndim_pos {m : Mesh} (h : m.Inv) : 0 < m.ndim := h.1.ndim_pos
theorem _root_.DFV.Mesh.Inv.pmax_length {m : Mesh} (h : m.Inv) : m.region.pmax.length = m.ndim := h.1.pmax_length
theorem _root_.DFV.Mesh.Inv.units_length {m : Mesh} (h : m.Inv) : m.region.units.length = m.ndim := h.1.units_length

theorem inv_pmin_length (m : Mesh) : m.region.pmin.length = m.ndim := rfl

/-- `C01.cellAt_pos` -/
theorem cell_pos (m : Mesh) (a : Nat) (hn : 0 < m.nAt a) (hr : m.region.lo a < m.region.hi a) :
    0 < m.cellAt a :=
  C01.cellAt_pos m a hn hr

/-- index → centre → index (exact arithmetic): `C01.indexAx_centreAx` -/
theorem roundtrip (m : Mesh) (a : Nat) (i : Nat) (hi : i < m.nAt a) (hc : 0 < m.cellAt a) :
    m.indexAx a (m.centreAx a (i : Int)) = i :=
  C01.indexAx_centreAx m a i hi hc

/-! ## the grid of an axis: positions `lo + p·cell` (`C01.face_le` …), faces at natural `p`, centres at `k + 1/2` -/

theorem natCast_le_add_half (s k : Nat) : (s : Rat) ≤ (k : Rat) + 1 / 2 ↔ s ≤ k := by
  constructor
  · intro h
    by_contra hn
    have : (k : Rat) + 1 ≤ (s : Rat) := by exact_mod_cast Nat.lt_of_not_le hn
    linarith
  · intro h
    have : (s : Rat) ≤ (k : Rat) := by exact_mod_cast h
    linarith

theorem natCast_add_half_le (k s : Nat) : (k : Rat) + 1 / 2 ≤ (s : Rat) ↔ k < s := by
  constructor
  · intro h
    by_contra hn
    have : (s : Rat) ≤ (k : Rat) := by exact_mod_cast Nat.le_of_not_lt hn
    linarith
  · intro h
    have : (k : Rat) + 1 ≤ (s : Rat) := by exact_mod_cast h
    linarith

/-- the centre of cell `k` lies between the faces `s₁` and `s₂` exactly when `s₁ ≤ k < s₂` -/
theorem centre_between_faces {L c : Rat} (hc : 0 < c) (k s1 s2 : Nat) :
    (L + (s1 : Rat) * c ≤ L + ((k : Rat) + 1 / 2) * c ∧ L + ((k : Rat) + 1 / 2) * c ≤ L + (s2 : Rat) * c)
      ↔ (s1 ≤ k ∧ k < s2) := by
  rw [C01.face_le hc, C01.face_le hc, natCast_le_add_half, natCast_add_half_le]

/-- the faces `s₁`, `s₂` overlap the cells `k₁ … k₂` by more than half a cell on both sides exactly
when they share a whole cell with them (the overlap test of `Mesh.sel` for subregions) -/
theorem half_cell_overlap_iff {L c : Rat} (hc : 0 < c) (k1 k2 s1 s2 : Nat) :
    (L + (s1 : Rat) * c < (L + ((k2 : Rat) + 1) * c) - c / 2 ∧ L + (k1 : Rat) * c < (L + (s2 : Rat) * c) - c / 2)
      ↔ (s1 < k2 + 1 ∧ k1 < s2) := by
  have e1 : L + ((k2 : Rat) + 1) * c - c / 2 = L + ((k2 : Rat) + 1 / 2) * c := by ring
  have e2 : L + (s2 : Rat) * c - c / 2 = L + ((s2 : Rat) - 1 / 2) * c := by ring
  rw [e1, e2, C01.face_lt hc, C01.face_lt hc, ← not_le, natCast_add_half_le, not_lt, lt_sub_iff_add_lt, ← not_le,
    natCast_le_add_half, not_le, Nat.lt_succ_iff]

theorem grid_mem_edge (m : Mesh) (a : Nat) (hn : 0 < m.nAt a) (hc : 0 < m.cellAt a) (p : Rat) :
    (m.region.lo a ≤ m.region.lo a + p * m.cellAt a ∧ m.region.lo a + p * m.cellAt a ≤ m.region.hi a)
      ↔ (0 ≤ p ∧ p ≤ (m.nAt a : Rat)) := by
  rw [C01.hi_eq m a hn, C01.face_le hc, le_add_iff_nonneg_right, mul_nonneg_iff_of_pos_right hc]

/-- `indexAx` is the lower adjoint of `k ↦ lo + k·cell` on the edge: `x` belongs to cell `k` or a
later one exactly when it is at or beyond the lower face of cell `k` -/
theorem le_indexAx_iff (m : Mesh) (a : Nat) (x : Rat) (k : Nat) (hc : 0 < m.cellAt a) (hk : k < m.nAt a)
    (hx : m.region.lo a ≤ x) : k ≤ m.indexAx a x ↔ m.region.lo a + (k : Rat) * m.cellAt a ≤ x := by
  rcases Nat.eq_zero_or_pos k with rfl | hk0
  · simpa using hx
  · exact C01.le_indexAx_iff m a hc hk0 hk x

theorem indexAx_lt_iff (m : Mesh) (a : Nat) (x : Rat) (k : Nat) (hc : 0 < m.cellAt a) (hk : k < m.nAt a)
    (hx : m.region.lo a ≤ x) : m.indexAx a x < k ↔ x < m.region.lo a + (k : Rat) * m.cellAt a := by
  rw [← not_le, le_indexAx_iff m a x k hc hk hx, not_le]

theorem indexAx_le_iff (m : Mesh) (a : Nat) (x : Rat) (i : Nat) (hc : 0 < m.cellAt a) (hi : i < m.nAt a)
    (hx : m.region.lo a ≤ x) (hx' : x < m.region.hi a) :
    m.indexAx a x ≤ i ↔ x < m.region.lo a + ((i : Rat) + 1) * m.cellAt a := by
  by_cases hi1 : i + 1 < m.nAt a
  · rw [← Nat.lt_succ_iff, indexAx_lt_iff m a x _ hc hi1 hx, Nat.cast_add_one]
  · have := C01.indexAx_lt m a (by omega) x
    have e : (i : Rat) + 1 = (m.nAt a : Rat) := by exact_mod_cast (by omega : i + 1 = m.nAt a)
    rw [e, ← C01.hi_eq m a (by omega)]
    exact ⟨fun _ => hx', fun _ => by omega⟩

theorem indexAx_eq_of_bounds (m : Mesh) (a : Nat) (x : Rat) (k : Nat) (hk : k < m.nAt a)
    (hc : 0 < m.cellAt a)
    (h1 : m.region.lo a + (k : Rat) * m.cellAt a ≤ x)
    (h2 : x < m.region.lo a + ((k : Rat) + 1) * m.cellAt a) : m.indexAx a x = k :=
  (C01.indexAx_eq_iff m a hc hk x).mpr ⟨Or.inr h1, Or.inr h2⟩

theorem cell_in_edge (m : Mesh) (a : Nat) (x : Rat) (k : Nat) (hk : k < m.nAt a) (hc : 0 < m.cellAt a)
    (h1 : m.region.lo a + (k : Rat) * m.cellAt a ≤ x)
    (h2 : x < m.region.lo a + ((k : Rat) + 1) * m.cellAt a) : m.region.lo a ≤ x ∧ x ≤ m.region.hi a :=
  ⟨le_trans ((grid_mem_edge m a (by omega) hc _).mpr ⟨Nat.cast_nonneg k, by exact_mod_cast hk.le⟩).1 h1,
   le_trans h2.le ((grid_mem_edge m a (by omega) hc _).mpr
    ⟨by exact_mod_cast Nat.zero_le (k + 1), by exact_mod_cast hk⟩).2⟩

theorem indexAx_grid (m : Mesh) (a : Nat) (k : Nat) (hk : k < m.nAt a) (hc : 0 < m.cellAt a) (p : Rat)
    (h1 : (k : Rat) ≤ p) (h2 : p < (k : Rat) + 1) : m.indexAx a (m.region.lo a + p * m.cellAt a) = k :=
  indexAx_eq_of_bounds m a _ k hk hc ((C01.face_le hc _ _).mpr h1) ((C01.face_lt hc _ _).mpr h2)

theorem indexAx_hi (m : Mesh) (a : Nat) (hn : 0 < m.nAt a) (hc : 0 < m.cellAt a) :
    m.indexAx a (m.region.hi a) = m.nAt a - 1 :=
  (C01.indexAx_eq_iff m a hc (by omega) _).mpr ⟨Or.inr (by
    rw [C01.hi_eq m a hn, C01.face_le hc]; exact_mod_cast Nat.sub_le _ _), Or.inl (by omega)⟩

theorem centre_sub_half (m : Mesh) (a k : Nat) :
    m.centreAx a ((k : Nat) : Int) - m.cellAt a / 2 = m.region.lo a + (k : Rat) * m.cellAt a := by
  rw [C01.centreAx_natCast]; ring

theorem centre_add_half (m : Mesh) (a k : Nat) :
    m.centreAx a ((k : Nat) : Int) + m.cellAt a / 2 = m.region.lo a + ((k : Rat) + 1) * m.cellAt a := by
  rw [C01.centreAx_natCast]; ring

theorem centre_bounds (m : Mesh) (a : Nat) (i : Nat) (hi : i < m.nAt a) (hc : 0 < m.cellAt a) :
    m.region.lo a ≤ m.centreAx a ((i : Nat) : Int) ∧ m.centreAx a ((i : Nat) : Int) ≤ m.region.hi a :=
  (C01.centreAx_mem m a i hi hc).imp le_of_lt le_of_lt

/-- a coordinate of the closed edge lies in the cell whose index it gets (last cell closed) -/
theorem index_contains (m : Mesh) (a : Nat) (x : Rat) (hn : 0 < m.nAt a)
    (hr : m.region.lo a < m.region.hi a) (hlo : m.region.lo a ≤ x) (hhi : x ≤ m.region.hi a) :
    m.region.lo a + (m.indexAx a x : Rat) * m.cellAt a ≤ x ∧
    (x < m.region.lo a + ((m.indexAx a x : Rat) + 1) * m.cellAt a ∨
      (m.indexAx a x = m.nAt a - 1 ∧ x = m.region.hi a)) := by
  obtain ⟨h1, h2⟩ := (C01.indexAx_eq_iff m a (C01.cellAt_pos m a hn hr) (C01.indexAx_lt m a hn x) x).mp rfl
  refine ⟨h1.elim (fun h0 => by rw [h0]; simpa using hlo) id, h2.elim (fun hl => ?_) Or.inl⟩
  -- in the last cell: below the upper face, or on it
  have hcast : (m.indexAx a x : Rat) + 1 = (m.nAt a : Rat) := by exact_mod_cast hl
  rcases hhi.lt_or_eq with h | h
  · left; rw [hcast, ← C01.hi_eq m a hn]; exact h
  · right; exact ⟨by omega, h⟩

/-! ## tolerant containment follows from exact containment -/

/-- `C01.containsPt_of_exact` with the two parts of `containsExact` as separate hypotheses -/
theorem containsPt_of_exact (r : Region) (p : List Rat) (hl : p.length = r.ndim)
    (h : ∀ a, a < r.ndim → r.lo a ≤ p.getD a 0 ∧ p.getD a 0 ≤ r.hi a) : r.containsPt p = true :=
  C01.containsPt_of_exact r p ⟨hl, h⟩

/-! ## `point2index` / `index2point` in closed form -/

theorem point2index_eq (m : Mesh) (p : List Rat) (hl : p.length = m.ndim)
    (h : ∀ a, a < m.ndim → m.region.lo a ≤ p.getD a 0 ∧ p.getD a 0 ≤ m.region.hi a) :
    m.point2index p = .ok (tab m.ndim fun a => m.indexAx a (p.getD a 0)) :=
  C01.point2index_of_exact m p ⟨hl, h⟩

theorem index2point_eq (m : Mesh) (idx : List Int) (hl : idx.length = m.ndim)
    (h : ∀ a, a < m.ndim → 0 ≤ idx.getD a 0 ∧ idx.getD a 0 < (m.nAt a : Int)) :
    m.index2point idx = .ok (tab m.ndim fun a => m.centreAx a (idx.getD a 0)) :=
  (C01.index2point_ok_iff' m idx _).mpr ⟨hl, h, rfl⟩

end DFV.C07
