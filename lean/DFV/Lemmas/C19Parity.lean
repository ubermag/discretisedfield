import DFV.Lemmas.C19Real
import DFV.Lemmas.C19Mesh
/-!
# C19 — parities of the demagnetisation tensor under reflection of a coordinate

`N_ab(…, −r_e, …) = (−1)^{δ_ae + δ_be} N_ab(…, r_e, …)`: the diagonal components are even in every
coordinate, `N_xy` is odd in `x` and in `y` and even in `z`, and so on — theorems of the symbolic Newell
model for every leaf evaluation in which `arcsinh` and `arctan` are odd (the real functions are).
-/
namespace DFV.C19
open DFV
variable {K : Type} [Field K] [CharZero K]

/-- the leaf evaluation is odd in the numerators (and in the plain factor of the arctangent's
denominator), as `arcsinh(a/√b)` and `arctan(a/(b√c))` are -/
structure OddLeaves (lv : Leaf → K) : Prop where
  asinh : ∀ a b : Rat, lv (.asinh (-a) b) = -lv (.asinh a b)
  atanNum : ∀ a b c : Rat, lv (.atan (-a) b c) = -lv (.atan a b c)
  atanDen : ∀ a b c : Rat, lv (.atan a (-b) c) = -lv (.atan a b c)

/-! ## pointwise parities of the Newell functions -/

omit [CharZero K] in
/-- `f` is even in each argument (as a list of terms already: only `|·|` and squares of the arguments occur).  Evenness is written
`= 1 * …` so that the stencil lemmas below take the sign `ε = 1` here and `ε = −1` for the odd arguments of `g` in the same form. -/
theorem evalK_newellF_even (lv : Leaf → K) :
    (∀ x y z, evalK lv (newellF (-x) y z) = (1 : K) * evalK lv (newellF x y z)) ∧
    (∀ x y z, evalK lv (newellF x (-y) z) = (1 : K) * evalK lv (newellF x y z)) ∧
    (∀ x y z, evalK lv (newellF x y (-z)) = (1 : K) * evalK lv (newellF x y z)) := by
  refine ⟨fun x y z => ?_, fun x y z => ?_, fun x y z => ?_⟩ <;>
    simp only [newellF, absR_neg, neg_mul, mul_neg, Even.neg_pow (by decide : Even 2), one_mul]

theorem evalK_newellG_parity (lv : Leaf → K) (h : OddLeaves lv) :
    (∀ x y z, evalK lv (newellG (-x) y z) = (-1 : K) * evalK lv (newellG x y z)) ∧
    (∀ x y z, evalK lv (newellG x (-y) z) = (-1 : K) * evalK lv (newellG x y z)) ∧
    (∀ x y z, evalK lv (newellG x y (-z)) = (1 : K) * evalK lv (newellG x y z)) := by
  refine ⟨fun x y z => ?_, fun x y z => ?_, fun x y z => ?_⟩ <;>
    simp only [newellG, evalK, Even.neg_pow (by decide : Even 2)]
  · rw [show -x * y = -(x * y) by ring, show -x * z = -(x * z) by ring, h.asinh, h.atanNum, h.atanNum, h.atanDen]
    push_cast
    ring
  · rw [show x * -y = -(x * y) by ring, show -y * z = -(y * z) by ring, h.asinh, h.atanNum, h.atanNum, h.atanDen]
    push_cast
    ring
  · rw [show x * -z = -(x * z) by ring, show y * -z = -(y * z) by ring, h.asinh, h.atanNum, h.atanNum, h.atanDen]
    push_cast
    ring

/-! ## the 64-point stencil inherits the parity -/

omit [CharZero K] in
/-- the second difference is symmetric: if `g` at `−a` is `ε` times `h` at `a`, so are their second differences -/
theorem w3_reflect (g h : Rat → K) (ε : K) (hp : ∀ a, g (-a) = ε * h a) : w3 g = ε * w3 h := by
  have h0 := hp 0
  have h1 := hp 1
  have h2 := hp (-1)
  rw [neg_zero] at h0
  rw [neg_neg] at h2
  unfold w3
  rw [h0, h1, h2]
  ring

omit [CharZero K] in
theorem w3_smul (h : Rat → K) (ε : K) : (w3 fun a => ε * h a) = ε * w3 h := by
  unfold w3; ring

/-- sign of component `c` (`xx, yy, zz, xy, xz, yz`) under reflection of coordinate `e` -/
def paritySign (e c : Nat) : Int :=
  if c < 3 then 1
  else if c = 3 then (if e = 2 then 1 else -1)
  else if c = 4 then (if e = 1 then 1 else -1)
  else (if e = 0 then 1 else -1)

/-- reflect coordinate `e` of the displacement -/
def reflectAt (e : Nat) (x y z : Rat) : Rat × Rat × Rat :=
  if e = 0 then (-x, y, z) else if e = 1 then (x, -y, z) else (x, y, -z)

section element
variable (lv : Leaf → K) {fn : Rat → Rat → Rat → List Term} {ε : K} {pi vol x y z dx dy dz : Rat}

/-- a function with parity `ε` in its first argument gives a tensor element with that parity -/
theorem nElement_parity_x (hp : ∀ x y z, evalK lv (fn (-x) y z) = ε * evalK lv (fn x y z)) :
    evalK lv (nElement pi vol fn (-x) y z dx dy dz) = ε * evalK lv (nElement pi vol fn x y z dx dy dz) := by
  unfold nElement
  rw [evalK_scale, evalK_scale, evalK_stencilSum, evalK_stencilSum,
    w3_reflect _ (fun a => w3 fun b => w3 fun c => evalK lv (fn (x + a * dx) (y + b * dy) (z + c * dz))) ε
      fun a => by simp only [neg_mul, ← neg_add, hp, w3_smul]]
  ring

theorem nElement_parity_y (hp : ∀ x y z, evalK lv (fn x (-y) z) = ε * evalK lv (fn x y z)) :
    evalK lv (nElement pi vol fn x (-y) z dx dy dz) = ε * evalK lv (nElement pi vol fn x y z dx dy dz) := by
  have e : ∀ a : Rat, (w3 fun b => w3 fun c => evalK lv (fn (x + a * dx) (-y + b * dy) (z + c * dz)))
      = ε * w3 fun b => w3 fun c => evalK lv (fn (x + a * dx) (y + b * dy) (z + c * dz)) :=
    fun a => w3_reflect _ _ ε fun b => by simp only [neg_mul, ← neg_add, hp, w3_smul]
  unfold nElement
  rw [evalK_scale, evalK_scale, evalK_stencilSum, evalK_stencilSum]
  simp only [e, w3_smul]
  ring

theorem nElement_parity_z (hp : ∀ x y z, evalK lv (fn x y (-z)) = ε * evalK lv (fn x y z)) :
    evalK lv (nElement pi vol fn x y (-z) dx dy dz) = ε * evalK lv (nElement pi vol fn x y z dx dy dz) := by
  have e : ∀ a b : Rat, (w3 fun c => evalK lv (fn (x + a * dx) (y + b * dy) (-z + c * dz)))
      = ε * w3 fun c => evalK lv (fn (x + a * dx) (y + b * dy) (z + c * dz)) :=
    fun a b => w3_reflect _ _ ε fun c => by simp only [neg_mul, ← neg_add, hp]
  unfold nElement
  rw [evalK_scale, evalK_scale, evalK_stencilSum, evalK_stencilSum]
  simp only [e, w3_smul]
  ring

end element

/-! ## the six components -/

/-- PARITIES OF ALL SIX COMPONENTS under reflection of any coordinate: component `c` is the element of `newellF` or
`newellG` with the coordinates in some order; the reflected coordinate sits in one argument position, where the
function is even or odd.  Exported as `Props/C19.demag_tensor_parity`. -/
theorem nAll_parity (lv : Leaf → K) (h : OddLeaves lv) (pi c0 c1 c2 x y z : Rat) (e c : Nat) (he : e < 3) (hc : c < 6) :
    evalK lv ((nAll pi c0 c1 c2 (reflectAt e x y z).1 (reflectAt e x y z).2.1 (reflectAt e x y z).2.2).getD c [])
      = ((paritySign e c : Int) : K) * evalK lv ((nAll pi c0 c1 c2 x y z).getD c []) := by
  obtain ⟨fx, fy, fz⟩ := evalK_newellF_even lv
  obtain ⟨gx, gy, gz⟩ := evalK_newellG_parity lv h
  have he' : e = 0 ∨ e = 1 ∨ e = 2 := by omega
  have hc' : c = 0 ∨ c = 1 ∨ c = 2 ∨ c = 3 ∨ c = 4 ∨ c = 5 := by omega
  have p1 : ((1 : Int) : K) = 1 := Int.cast_one
  have m1 : ((-1 : Int) : K) = -1 := by rw [Int.cast_neg, Int.cast_one]
  rcases he' with rfl | rfl | rfl
  · show evalK lv ((nAll pi c0 c1 c2 (-x) y z).getD c []) = _
    rcases hc' with rfl | rfl | rfl | rfl | rfl | rfl
    · rw [show paritySign 0 0 = 1 from rfl, p1]; exact nElement_parity_x lv fx
    · rw [show paritySign 0 1 = 1 from rfl, p1]; exact nElement_parity_z lv fz
    · rw [show paritySign 0 2 = 1 from rfl, p1]; exact nElement_parity_y lv fy
    · rw [show paritySign 0 3 = -1 from rfl, m1]; exact nElement_parity_x lv gx
    · rw [show paritySign 0 4 = -1 from rfl, m1]; exact nElement_parity_x lv gx
    · rw [show paritySign 0 5 = 1 from rfl, p1]; exact nElement_parity_z lv gz
  · show evalK lv ((nAll pi c0 c1 c2 x (-y) z).getD c []) = _
    rcases hc' with rfl | rfl | rfl | rfl | rfl | rfl
    · rw [show paritySign 1 0 = 1 from rfl, p1]; exact nElement_parity_y lv fy
    · rw [show paritySign 1 1 = 1 from rfl, p1]; exact nElement_parity_x lv fx
    · rw [show paritySign 1 2 = 1 from rfl, p1]; exact nElement_parity_z lv fz
    · rw [show paritySign 1 3 = -1 from rfl, m1]; exact nElement_parity_y lv gy
    · rw [show paritySign 1 4 = 1 from rfl, p1]; exact nElement_parity_z lv gz
    · rw [show paritySign 1 5 = -1 from rfl, m1]; exact nElement_parity_x lv gx
  · show evalK lv ((nAll pi c0 c1 c2 x y (-z)).getD c []) = _
    rcases hc' with rfl | rfl | rfl | rfl | rfl | rfl
    · rw [show paritySign 2 0 = 1 from rfl, p1]; exact nElement_parity_z lv fz
    · rw [show paritySign 2 1 = 1 from rfl, p1]; exact nElement_parity_y lv fy
    · rw [show paritySign 2 2 = 1 from rfl, p1]; exact nElement_parity_x lv fx
    · rw [show paritySign 2 3 = 1 from rfl, p1]; exact nElement_parity_z lv gz
    · rw [show paritySign 2 4 = -1 from rfl, m1]; exact nElement_parity_y lv gy
    · rw [show paritySign 2 5 = -1 from rfl, m1]; exact nElement_parity_y lv gy

/-! ## on the displacement grid: reflection of an index about the central cell -/

/-- reflect index `e` of a cell of the `2n−1` displacement grid about the central cell `n−1` -/
def reflectIdx (m : Mesh) (e : Nat) (j : List Nat) : List Nat := setAt j e (2 * m.nAt e - 2 - j.getD e 0)

theorem arrPoint_reflect (m : Mesh) (hm : m.Inv) (a : Nat) (ha : a < m.ndim) (j : Nat) (hj : j < 2 * m.nAt a - 1) :
    arrPoint m a (2 * m.nAt a - 2 - j) = -arrPoint m a j := by
  rw [arrPoint_eq m hm a ha j hj, arrPoint_eq m hm a ha _ (by omega)]
  have : ((2 * m.nAt a - 2 - j : Nat) : Rat) = 2 * (m.nAt a : Rat) - 2 - (j : Rat) := by
    rw [Nat.cast_sub (by omega), Nat.cast_sub (by omega)]
    push_cast; ring
  rw [this]; ring

/-- PARITY OF THE TENSOR ON ITS GRID: reflecting index `e` of a cell of the displacement grid about the central
cell multiplies component `c` of the array-based tensor by `paritySign e c`.  Exported as `Props/C19.demag_tensor_grid_parity`. -/
theorem tensorArr_parity (lv : Leaf → K) (h : OddLeaves lv) (pi : Rat) (m : Mesh) (hm : m.Inv) (h3 : m.ndim = 3)
    (j0 j1 j2 : Nat) (h0 : j0 < 2 * m.nAt 0 - 1) (h1 : j1 < 2 * m.nAt 1 - 1) (h2 : j2 < 2 * m.nAt 2 - 1)
    (e c : Nat) (he : e < 3) (hc : c < 6) :
    evalK lv ((tensorArr pi m (reflectIdx m e [j0, j1, j2])).getD c [])
      = ((paritySign e c : Int) : K) * evalK lv ((tensorArr pi m [j0, j1, j2]).getD c []) := by
  have he' : e = 0 ∨ e = 1 ∨ e = 2 := by omega
  have key := nAll_parity lv h pi (m.cellAt 0) (m.cellAt 1) (m.cellAt 2) (arrPoint m 0 j0) (arrPoint m 1 j1) (arrPoint m 2 j2) e c he hc
  have e0 : tensorArr pi m [j0, j1, j2]
      = nAll pi (m.cellAt 0) (m.cellAt 1) (m.cellAt 2) (arrPoint m 0 j0) (arrPoint m 1 j1) (arrPoint m 2 j2) := rfl
  rw [e0, ← key]
  rcases he' with rfl | rfl | rfl
  · have := arrPoint_reflect m hm 0 (by omega) j0 h0
    simp only [tensorArr, reflectIdx, reflectAt, setAt, List.getD_cons_zero, List.getD_cons_succ, if_true]
    rw [this]
  · have := arrPoint_reflect m hm 1 (by omega) j1 h1
    simp only [tensorArr, reflectIdx, reflectAt, setAt, List.getD_cons_zero, List.getD_cons_succ, if_true, one_ne_zero, if_false]
    rw [this]
  · have := arrPoint_reflect m hm 2 (by omega) j2 h2
    simp only [tensorArr, reflectIdx, reflectAt, setAt, List.getD_cons_zero, List.getD_cons_succ, OfNat.ofNat_ne_zero, OfNat.ofNat_ne_one, if_false]
    rw [this]

/-! ## the real leaves are odd

`lvR_odd` and `evalLeaf_odd` walk the same three leaves; the carriers differ (`ℝ` with Mathlib's `arsinh`, `arctan`; `ℚ` with functions
that are odd by hypothesis), so each rewrites with its own oddness facts. -/

theorem lvR_odd : OddLeaves lvR := by
  refine ⟨?_, ?_, ?_⟩
  · intro a b
    simp only [lvR]
    split
    · simp
    · push_cast; rw [neg_div, Real.arsinh_neg]
  · intro a b c
    simp only [lvR]
    split
    · simp
    · push_cast; rw [neg_div, Real.arctan_neg]
  · intro a b c
    simp only [lvR]
    by_cases hb : b = 0
    · simp [hb]
    · have hb' : ¬ (-b = 0) := by simpa using hb
      simp only [hb, hb', if_false]
      push_cast
      rw [neg_mul, div_neg, Real.arctan_neg]

theorem evalLeaf_odd (asinh atan sqrt : Rat → Rat) (h1 : ∀ x, asinh (-x) = -asinh x) (h2 : ∀ x, atan (-x) = -atan x) :
    OddLeaves (K := Rat) (evalLeaf asinh atan sqrt) := by
  refine ⟨?_, ?_, ?_⟩
  · intro a b
    simp only [evalLeaf]
    split
    · rw [← h1]; simp
    · rw [neg_div, h1]
  · intro a b c
    simp only [evalLeaf]
    split
    · rw [← h2]; simp
    · rw [neg_div, h2]
  · intro a b c
    simp only [evalLeaf]
    by_cases hb : b = 0
    · simp only [hb, neg_zero, if_true]; rw [← h2]; simp
    · have hb' : ¬ (-b = 0) := by simpa using hb
      simp only [hb, hb', if_false]
      rw [neg_mul, div_neg, h2]

end DFV.C19
