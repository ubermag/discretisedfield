import DFV.Lemmas.C05Rot
/-! Iterated quarter turns (C05): what a quarter turn preserves (well-formedness of mesh and arrays,
the way `bc` turns — on `Lemmas/C05Bc.lean` —, labels, mapping and pairing of a vector field), the two kinds of field a turn distinguishes (`Kind`), results
of either kind on the mesh of the operand (`On`; `ScalOn`, `VecOn` in the statements of `Props/C05.lean`) and how they turn, the
interface `Commutes` of an operator that commutes with one quarter turn, the induction over the number of turns
(`Commutes.iter`), and the hypothesis bundles of divergence, curl and vector Laplacian (`DivE`, `CurlE`, `LapVE`) -/
namespace DFV.C05
open DFV DFV.C04

theorem meshWf_rot (f R : Fld) (a b : Nat) (wf : MeshWf f) (tw : TurnWf f a b) (ha : a < f.mesh.ndim) (hb : b < f.mesh.ndim)
    (hab : a ≠ b) (hm : rotMesh f.mesh (f.mesh.region.dims.getD a "") (f.mesh.region.dims.getD b "") = .ok R.mesh)
    (hs : R.data.shape = swapAt f.data.shape a b) :
    MeshWf R ∧ R.mesh.ndim = f.mesh.ndim ∧ R.mesh.region.dims = f.mesh.region.dims ∧
    R.mesh.bc = rotBc1 f.mesh.bc (f.mesh.region.dims.getD a "") (f.mesh.region.dims.getD b "") ∧
    (f.mesh.subs = [] → R.mesh.subs = []) ∧ R.mesh.n = swapAt f.mesh.n a b := by
  obtain ⟨hreg, hn, hbc, t4⟩ := rotMesh_inv f R.mesh a b wf ha hb hab hm
  obtain ⟨hnd, hdm, ax⟩ := turned_axes f R.mesh a b 1 wf tw ha hb hab hreg hn hbc
  have hbc' : R.mesh.bc = rotBc1 f.mesh.bc (f.mesh.region.dims.getD a "") (f.mesh.region.dims.getD b "") := hbc.trans tw.bc_lower
  refine ⟨⟨?_, ?_, ?_, ?_, ?_, ?_, ?_, ?_⟩, hnd, hdm, hbc', t4, hn.trans (rotN_one _ a b)⟩
  · rw [hnd, hreg]; exact tab_length _ _
  · rw [hnd, hn, T.rotN_length]; exact wf.n_len
  · unfold DimsOk; rw [hdm, hnd]; exact wf.dims
  · rw [hnd, hreg]; exact (T.rotUnits_length _ a b 1).trans wf.units_len
  · intro x hx
    rw [hnd] at hx
    obtain ⟨n1, e1, _, _⟩ := ax x hx
    have p := wf.pos _ (T.rotSrc_lt a b 1 x _ ha hb hx)
    refine ⟨?_, by rw [n1]; exact p.2⟩
    unfold Region.edge at e1
    linarith [p.1]
  · rw [hbc']; exact tw.bc_lower
  · rw [hdm, hbc']; exact tw.bc_ok
  · rw [hs, wf.data_shape, hn, rotN_one]

/-- **the way `bc` turns is preserved**: after a quarter turn the field can be turned again -/
theorem turnWf_rot (f R : Fld) (a b : Nat) (wf : MeshWf f) (tw : TurnWf f a b) (hr : IsRot90 f R a b)
    (hbc : R.mesh.bc = rotBc1 f.mesh.bc (f.mesh.region.dims.getD a "") (f.mesh.region.dims.getD b "")) :
    TurnWf R a b := by
  have hinv := rotBc1_invol f.mesh.region.dims f.mesh.bc (f.mesh.region.dims.getD a "") (f.mesh.region.dims.getD b "") wf.bc_ok
  refine ⟨?_, ?_, ?_⟩
  · rcases tw.turns with ⟨s1, s2, l1, l2⟩ | hp
    · left
      rw [hr.dims]
      exact ⟨s1, s2, l1, l2⟩
    · right
      rw [hr.per_a, hr.per_b, hp]
  · rw [hr.dims, hbc, hinv]; exact wf.bc_lower
  · rw [hr.dims, hbc, hinv]; exact wf.bc_ok

/-- two fields agree on the first `m` components of every cell of the mesh of `f` -/
def CellEq (f : Fld) (m : Nat) (X Y : Fld) : Prop :=
  ∀ i, InMesh f i → ∀ c, c < m → (X.data.get i).getD c 0 = (Y.data.get i).getD c 0

theorem CellEq.refl (f : Fld) (m : Nat) (X : Fld) : CellEq f m X X := fun _ _ _ _ => rfl

theorem CellEq.trans {f : Fld} {m : Nat} {X Y Z : Fld} (h1 : CellEq f m X Y) (h2 : CellEq f m Y Z) : CellEq f m X Z :=
  fun i hi c hc => (h1 i hi c hc).trans (h2 i hi c hc)

/-- everything a quarter turn in the plane of axes `a`, `b` (named `da`, `db`) needs of a field,
scalar or vector — and hands on to the turned field -/
structure RotOk (a b : Nat) (da db : String) (f : Fld) : Prop where
  wf : MeshWf f
  tw : TurnWf f a b
  subs : f.mesh.subs = []
  vshape : f.valid.shape = f.mesh.n
  ha : a < f.mesh.ndim
  hb : b < f.mesh.ndim
  hda : f.mesh.region.dims.getD a "" = da
  hdb : f.mesh.region.dims.getD b "" = db

theorem rotOk_rot {a b : Nat} {da db : String} {f R : Fld} (hab : a ≠ b) (hf : RotOk a b da db f)
    (h : rot90Fld f da db = .ok R) :
    RotOk a b da db R ∧ IsRot90 f R a b ∧ rotMesh f.mesh da db = .ok R.mesh ∧ R.unit = f.unit := by
  have h' := h
  rw [← hf.hda, ← hf.hdb] at h'
  obtain ⟨hm, hv, hs, _, hu⟩ := rot90Fld_parts f R a b hf.wf.dims hf.ha hf.hb h'
  obtain ⟨w, hnd, hdims, hbc, hsub, hnn⟩ := meshWf_rot f R a b hf.wf hf.tw hf.ha hf.hb hab hm hs
  have hr := isRot90_of_ok f R a b hf.wf hf.tw hf.ha hf.hb hab h'
  refine ⟨⟨w, turnWf_rot f R a b hf.wf hf.tw hr hbc, hsub hf.subs, ?_, by rw [hnd]; exact hf.ha, by rw [hnd]; exact hf.hb,
    by rw [hdims]; exact hf.hda, by rw [hdims]; exact hf.hdb⟩, hr, by rw [← hf.hda, ← hf.hdb]; exact hm, hu⟩
  rw [hv, hnn, ← hf.vshape]; rfl

theorem inMesh_rotIdx {f R : Fld} {a b : Nat} (hr : IsRot90 f R a b) (hab : a ≠ b) (ha : a < f.mesh.ndim) (hb : b < f.mesh.ndim)
    (i : List Nat) (hi : InMesh R i) : InMesh f (rotIdx f a b i) := by
  obtain ⟨hl, hin⟩ := hi
  rw [hr.ndim] at hl hin
  refine ⟨by unfold rotIdx; rw [length_setAt, length_setAt]; exact hl, ?_⟩
  intro e he
  unfold rotIdx
  by_cases heb : e = b
  · subst heb
    rw [getD_setAt_eq _ _ _ _ (by rw [length_setAt, hl]; exact he)]
    have := hin a ha
    rw [hr.n_a] at this
    omega
  · rw [getD_setAt_ne _ _ _ _ _ heb]
    by_cases hea : e = a
    · subst hea
      rw [getD_setAt_eq _ _ _ _ (by rw [hl]; exact he)]
      have := hin b hb
      rw [hr.n_b] at this
      exact this
    · rw [getD_setAt_ne _ _ _ _ _ hea]
      have := hin e he
      rw [hr.n_e e hea heb] at this
      exact this

/-- a vector field with well-formed labels `vs`, a mapping whose keys are the labels, and the axes
`a`, `b` paired with the stored components `v1 ≠ v2` -/
structure VecMeta (a b v1 v2 : Nat) (vs : List String) (X : Fld) : Prop where
  hn : 1 < X.nvdim
  hv : X.vdims = some vs
  hvl : vs.length = X.nvdim
  hvd : hasDup vs = false
  hkeys : (X.vmap.map (·.1)).isPerm vs = true
  hmap : 0 < X.vmap.length
  h1 : (rDimLast X (X.mesh.region.dims.getD a "")).bind X.vdimIndex = some v1
  h2 : (rDimLast X (X.mesh.region.dims.getD b "")).bind X.vdimIndex = some v2
  hv1 : v1 < X.nvdim
  hv2 : v2 < X.nvdim
  h12 : v1 ≠ v2
  hraw : ∀ i, (X.data.get i).length = X.nvdim

theorem turnVec_length (v : List Rat) (v1 v2 : Nat) : (turnVec v v1 v2).length = v.length := by
  unfold turnVec; rw [length_setAt, length_setAt]

theorem vecMeta_turned {a b v1 v2 : Nat} {vs : List String} {X X' : Fld} (hX : VecMeta a b v1 v2 vs X) (hd : DimsOk X)
    (hs : X.data.shape = X.mesh.n) (ha : a < X.mesh.ndim) (hb : b < X.mesh.ndim)
    (h : rot90Fld X (X.mesh.region.dims.getD a "") (X.mesh.region.dims.getD b "") = .ok X')
    (hdims : X'.mesh.region.dims = X.mesh.region.dims) : VecMeta a b v1 v2 vs X' ∧ X'.vdims = X.vdims ∧ X'.vmap = X.vmap := by
  obtain ⟨q1, q2, q3⟩ := rot90Fld_vector_meta X X' a b vs hd hX.hn hX.hv hX.hvl ha hb h
  have hdat := rot90Fld_vector_data X X' a b v1 v2 hd hs hX.hn ha hb hX.h1 hX.h2 h
  have hidx : X'.vdimIndex = X.vdimIndex := by
    funext l; rw [Fld.vdimIndex_of_some q1, Fld.vdimIndex_of_some hX.hv]
  have hrd : ∀ d, rDimLast X' d = rDimLast X d := by
    intro d; unfold rDimLast; rw [q2]
  exact ⟨⟨by rw [q3]; exact hX.hn, q1, by rw [q3]; exact hX.hvl, hX.hvd, by rw [q2]; exact hX.hkeys, by rw [q2]; exact hX.hmap,
    by rw [hdims, hrd, hidx]; exact hX.h1, by rw [hdims, hrd, hidx]; exact hX.h2, by rw [q3]; exact hX.hv1,
    by rw [q3]; exact hX.hv2, hX.h12, by intro i; rw [hdat i, turnVec_length, hX.hraw, q3]⟩, by rw [q1, hX.hv], q2⟩

theorem vecMeta_rot {a b v1 v2 : Nat} {vs : List String} {X : Fld} (hab : a ≠ b) (wf : MeshWf X) (tw : TurnWf X a b)
    (hsub : X.mesh.subs = []) (ha : a < X.mesh.ndim) (hb : b < X.mesh.ndim) (hX : VecMeta a b v1 v2 vs X) :
    ∃ X', rot90Fld X (X.mesh.region.dims.getD a "") (X.mesh.region.dims.getD b "") = .ok X' ∧
      (X'.mesh.region.dims = X.mesh.region.dims → VecMeta a b v1 v2 vs X') ∧ X'.vmap = X.vmap ∧ X'.vdims = X.vdims ∧
      ∀ i, X'.data.get i = turnVec (X.data.get (rotIdx X a b i)) v1 v2 := by
  obtain ⟨X', hX'⟩ := rot90_accepts_vector X a b v1 v2 vs wf tw hsub hX.hn hX.hv hX.hvl hX.hvd hX.hkeys ha hb hab hX.h1 hX.h2
  obtain ⟨q1, q2, _⟩ := rot90Fld_vector_meta X X' a b vs wf.dims hX.hn hX.hv hX.hvl ha hb hX'
  exact ⟨X', hX', fun hdims => (vecMeta_turned hX wf.dims wf.data_shape ha hb hX' hdims).1, q2, by rw [q1, hX.hv],
    rot90Fld_vector_data X X' a b v1 v2 wf.dims wf.data_shape hX.hn ha hb hX.h1 hX.h2 hX'⟩

theorem vecMeta_symm {a b v1 v2 : Nat} {vs : List String} {X : Fld} (hX : VecMeta a b v1 v2 vs X) : VecMeta b a v2 v1 vs X :=
  ⟨hX.hn, hX.hv, hX.hvl, hX.hvd, hX.hkeys, hX.hmap, hX.h2, hX.h1, hX.hv2, hX.hv1, Ne.symm hX.h12, hX.hraw⟩

/-- scalar results living on the mesh of `f` -/
def ScalOn (f X : Fld) : Prop := X.mesh = f.mesh ∧ Plain X ∧ X.data.shape = X.mesh.n

/-- vector results living on the mesh of `f` -/
def VecOn (a b v1 v2 : Nat) (vs : List String) (f X : Fld) : Prop :=
  X.mesh = f.mesh ∧ X.data.shape = X.mesh.n ∧ VecMeta a b v1 v2 vs X

/-- a field over `f` with one component per axis, the positional labels and the positional mapping is a vector result
whose every axis is paired with the stored component of the same index (what `grad` and `curl` hand back) -/
theorem vecOn_positional {f X : Fld} {labels : List String} (a b : Nat) (wf : MeshWf f) (ha : a < f.mesh.ndim)
    (hb : b < f.mesh.ndim) (hab : a ≠ b) (ov : Over f X) (hn : X.nvdim = f.mesh.ndim)
    (hlab : posVdims f.mesh.ndim = some labels) (hlen : labels.length = f.mesh.ndim) (hnd : hasDup labels = false)
    (m1 : X.vdims = posVdims X.nvdim) (m2 : X.vmap = posVmap X.mesh X.nvdim) (hraw : ∀ i, (X.data.get i).length = X.nvdim) :
    VecOn a b a b labels f X := by
  have hn2 : 2 ≤ f.mesh.ndim := by omega
  rw [hn] at m1 m2
  rw [hlab] at m1
  have hvm : X.vmap = List.zip labels X.mesh.region.dims := by
    rw [m2]; exact posVmap_zip hlab (by omega) (by rw [ov.mesh]; rfl)
  have hXd : DimsOk X := ov.dimsOk wf.dims
  have hll : labels.length = X.mesh.region.dims.length := by rw [hlen, hXd.1, ov.mesh]
  have hpair : ∀ x, x < f.mesh.ndim → (rDimLast X (X.mesh.region.dims.getD x "")).bind X.vdimIndex = some x :=
    fun x hx => pos_pairing X labels m1 hvm hnd hXd.2 hll x (by rw [hlen]; exact hx)
  exact ⟨ov.mesh, by rw [ov.shape, ov.mesh]; exact wf.data_shape, by rw [hn]; omega, m1, by rw [hlen, hn], hnd,
    by rw [hvm, List.map_fst_zip (by omega)]; exact List.isPerm_iff.mpr (List.Perm.refl _),
    by rw [hvm, List.length_zip]; omega, hpair a ha, hpair b hb, by rw [hn]; exact ha, by rw [hn]; exact hb, hab, hraw⟩

/-! ### the two kinds of field a quarter turn distinguishes; operands and results of either kind -/

/-- labels, mapping, axis names and the two counts agree: all that acceptance by an operator and the pairing of components
with axes read -/
structure SameMeta (X Y : Fld) : Prop where
  nvdim : X.nvdim = Y.nvdim
  ndim : X.mesh.ndim = Y.mesh.ndim
  dims : X.mesh.region.dims = Y.mesh.region.dims
  vdims : X.vdims = Y.vdims
  vmap : X.vmap = Y.vmap

theorem SameMeta.symm {X Y : Fld} (h : SameMeta X Y) : SameMeta Y X :=
  ⟨h.nvdim.symm, h.ndim.symm, h.dims.symm, h.vdims.symm, h.vmap.symm⟩

theorem SameMeta.trans {X Y Z : Fld} (h : SameMeta X Y) (k : SameMeta Y Z) : SameMeta X Z :=
  ⟨h.nvdim.trans k.nvdim, h.ndim.trans k.ndim, h.dims.trans k.dims, h.vdims.trans k.vdims, h.vmap.trans k.vmap⟩

theorem Sim.sameMeta {X Y : Fld} (h : Sim X Y) : SameMeta X Y := ⟨h.nvdim, h.mesh.1, h.mesh.2.1, h.vdims, h.vmap⟩

theorem SameMeta.dimsOk {X Y : Fld} (h : SameMeta X Y) (hd : DimsOk Y) : DimsOk X := by
  unfold DimsOk; rw [h.dims, h.ndim]; exact hd

/-- the two kinds of field that `Field.rotate90` in the plane of the axes `a`, `b` distinguishes: plain scalars, and vectors
with labels `vs` whose stored components `v1`, `v2` are paired with `a`, `b` -/
inductive Kind
  | scal
  | vec (v1 v2 : Nat) (vs : List String)

def Kind.Is (a b : Nat) : Kind → Fld → Prop
  | .scal, X => Plain X
  | .vec v1 v2 vs, X => VecMeta a b v1 v2 vs X

theorem mkFld_self {a b : Nat} {κ : Kind} {X : Fld} (hκ : κ.Is a b X) (mesh' : Mesh) (data : NDA (List Rat)) (valid : NDA Bool) :
    mkFld mesh' X.nvdim data valid X.vdims (some X.vmap) X.unit = .ok { X with mesh := mesh', data := data, valid := valid } := by
  cases κ with
  | scal =>
    obtain ⟨mesh, nvdim, d, v, vdims, vmap, unit⟩ := X
    obtain ⟨rfl, rfl, rfl⟩ := hκ
    rfl
  | vec v1 v2 vs =>
    have hκ : VecMeta a b v1 v2 vs X := hκ
    rw [hκ.hv, mkFld_labelled (by have := hκ.hn; omega) hκ.hvl hκ.hvd (Or.inr hκ.hkeys)]

/-- the kind seen from the plane named the other way round -/
def Kind.swap : Kind → Kind
  | .scal => .scal
  | .vec v1 v2 vs => .vec v2 v1 vs

theorem Kind.Is.swap {a b : Nat} {κ : Kind} {X : Fld} (h : κ.Is a b X) : κ.swap.Is b a X := by
  cases κ with
  | scal => exact h
  | vec v1 v2 vs => exact vecMeta_symm h

/-- sign and source of stored component `c` under one quarter turn: the two paired components of a vector trade places, the
first with a sign; nothing happens to a scalar -/
def Kind.sgn : Kind → Nat → Rat
  | .scal, _ => 1
  | .vec v1 _ _, c => if c = v1 then -1 else 1

def Kind.src : Kind → Nat → Nat
  | .scal, c => c
  | .vec v1 v2 _, c => swp v1 v2 c

theorem Kind.src_lt {κ : Kind} {a b n c : Nat} {X : Fld} (hκ : κ.Is a b X) (hn : X.nvdim = n) (hc : c < n) : κ.src c < n := by
  cases κ with
  | scal => exact hc
  | vec v1 v2 vs => exact swp_lt (hn ▸ hκ.hv1) (hn ▸ hκ.hv2) hc

theorem Kind.Is.accepts {a b : Nat} {κ : Kind} {X : Fld} (hκ : κ.Is a b X) (wf : MeshWf X) (tw : TurnWf X a b)
    (hsub : X.mesh.subs = []) (ha : a < X.mesh.ndim) (hb : b < X.mesh.ndim) (hab : a ≠ b) :
    ∃ X', rot90Fld X (X.mesh.region.dims.getD a "") (X.mesh.region.dims.getD b "") = .ok X' := by
  cases κ with
  | scal => exact rot90_accepts_plain X a b wf tw hsub hκ ha hb hab
  | vec v1 v2 vs =>
    exact rot90_accepts_vector X a b v1 v2 vs wf tw hsub hκ.hn hκ.hv hκ.hvl hκ.hvd hκ.hkeys ha hb hab hκ.h1 hκ.h2

theorem Kind.Is.rot {a b : Nat} {κ : Kind} {X X' : Fld} (hκ : κ.Is a b X) (hd : DimsOk X) (hs : X.data.shape = X.mesh.n)
    (ha : a < X.mesh.ndim) (hb : b < X.mesh.ndim)
    (h : rot90Fld X (X.mesh.region.dims.getD a "") (X.mesh.region.dims.getD b "") = .ok X')
    (hdims : X'.mesh.region.dims = X.mesh.region.dims) : κ.Is a b X' ∧ X'.vdims = X.vdims ∧ X'.vmap = X.vmap := by
  cases κ with
  | scal =>
    have p := rot90_plain hd ha hb hκ h
    exact ⟨p, by rw [p.2.1, hκ.2.1], by rw [p.2.2, hκ.2.2]⟩
  | vec v1 v2 vs => exact vecMeta_turned hκ hd hs ha hb h hdims

theorem Kind.Is.turned_getD {a b : Nat} {κ : Kind} {X X' : Fld} (hκ : κ.Is a b X) (hd : DimsOk X) (hs : X.data.shape = X.mesh.n)
    (ha : a < X.mesh.ndim) (hb : b < X.mesh.ndim)
    (h : rot90Fld X (X.mesh.region.dims.getD a "") (X.mesh.region.dims.getD b "") = .ok X') (i : List Nat) (c : Nat) :
    (X'.data.get i).getD c 0 = κ.sgn c * (X.data.get (rotIdx X a b i)).getD (κ.src c) 0 := by
  cases κ with
  | scal => rw [rot90Fld_scalar_data X X' a b hd hs hκ.1 ha hb h i]; exact (one_mul _).symm
  | vec v1 v2 vs =>
    rw [rot90Fld_vector_data X X' a b v1 v2 hd hs hκ.hn ha hb hκ.h1 hκ.h2 h i,
      turnVec_getD _ v1 v2 c hκ.h12 (by rw [hκ.hraw]; exact hκ.hv1) (by rw [hκ.hraw]; exact hκ.hv2)]
    rfl

/-- a field of kind `κ` with `m` components on the mesh of `f`, with a mesh-shaped array: what an operator hands back -/
structure On (a b : Nat) (κ : Kind) (m : Nat) (f X : Fld) : Prop where
  mesh : X.mesh = f.mesh
  shape : X.data.shape = X.mesh.n
  nvdim : X.nvdim = m
  kind : κ.Is a b X

theorem On.of_scalOn {a b : Nat} {f X : Fld} (h : ScalOn f X) : On a b .scal 1 f X := ⟨h.1, h.2.2, h.2.1.1, h.2.1⟩

theorem On.of_vecOn {a b v1 v2 m : Nat} {vs : List String} {f X : Fld} (h : VecOn a b v1 v2 vs f X) (hm : X.nvdim = m) :
    On a b (.vec v1 v2 vs) m f X := ⟨h.1, h.2.1, hm, h.2.2⟩

theorem On.accepts {a b m : Nat} {κ : Kind} {f X : Fld} (hX : On a b κ m f X) (wf : MeshWf f) (tw : TurnWf f a b)
    (hsub : f.mesh.subs = []) (ha : a < f.mesh.ndim) (hb : b < f.mesh.ndim) (hab : a ≠ b) :
    ∃ X', rot90Fld X (X.mesh.region.dims.getD a "") (X.mesh.region.dims.getD b "") = .ok X' :=
  hX.kind.accepts (meshWf_of_mesh wf hX.mesh hX.shape) (turnWf_of_mesh tw hX.mesh) (by rw [hX.mesh]; exact hsub) (by rw [hX.mesh]; exact ha)
    (by rw [hX.mesh]; exact hb) hab

theorem On.turned_getD {a b m : Nat} {κ : Kind} {f X X' : Fld} (hX : On a b κ m f X) (hd : DimsOk f) (ha : a < f.mesh.ndim)
    (hb : b < f.mesh.ndim) (h : rot90Fld X (X.mesh.region.dims.getD a "") (X.mesh.region.dims.getD b "") = .ok X')
    (i : List Nat) (c : Nat) :
    (X'.data.get i).getD c 0 = κ.sgn c * (X.data.get (rotIdx f a b i)).getD (κ.src c) 0 := by
  rw [← rotIdx_congr f X a b i hX.mesh]
  exact hX.kind.turned_getD (by unfold DimsOk; rw [hX.mesh]; exact hd) hX.shape (by rw [hX.mesh]; exact ha) (by rw [hX.mesh]; exact hb) h i c

theorem On.rot {a b m : Nat} {κ : Kind} {da db : String} {f R X : Fld} (hab : a ≠ b) (hf : RotOk a b da db f)
    (hX : On a b κ m f X) (h : rot90Fld f da db = .ok R) : ∃ X', rot90Fld X da db = .ok X' ∧ On a b κ m R X' := by
  obtain ⟨hm, hs, hn, hκ⟩ := hX
  have wfX : MeshWf X := meshWf_of_mesh hf.wf hm hs
  have twX := turnWf_of_mesh hf.tw hm
  have haX : a < X.mesh.ndim := by rw [hm]; exact hf.ha
  have hbX : b < X.mesh.ndim := by rw [hm]; exact hf.hb
  have hsX : X.mesh.subs = [] := by rw [hm]; exact hf.subs
  obtain ⟨X', hX'⟩ := hκ.accepts wfX twX hsX haX hbX hab
  obtain ⟨hmX, _, hsX', hnX, _⟩ := rot90Fld_parts X X' a b wfX.dims haX hbX hX'
  obtain ⟨_, _, hdims, _, _, hnn⟩ := meshWf_rot X X' a b wfX twX haX hbX hab hmX hsX'
  refine ⟨X', by rw [← hf.hda, ← hf.hdb, ← hm]; exact hX', ?_, by rw [hsX', hs, hnn], hnX.trans hn,
    (hκ.rot wfX.dims hs haX hbX hX' hdims).1⟩
  obtain ⟨_, _, hmR, _⟩ := rotOk_rot hab hf h
  rw [hm, hf.hda, hf.hdb, hmR] at hmX
  injection hmX with e; exact e.symm

theorem On.rot_eq {a b m : Nat} {κ : Kind} {da db : String} {f R X Y X' Y' : Fld} (hab : a ≠ b) (hf : RotOk a b da db f)
    (hX : On a b κ m f X) (hY : On a b κ m f Y) (h : rot90Fld f da db = .ok R) (hX' : rot90Fld X da db = .ok X')
    (hY' : rot90Fld Y da db = .ok Y') (heq : CellEq f m X Y) : CellEq R m X' Y' := by
  obtain ⟨_, hr, _, _⟩ := rotOk_rot hab hf h
  intro i hi c hc
  rw [hX.turned_getD hf.wf.dims hf.ha hf.hb (by rw [hX.mesh, hf.hda, hf.hdb]; exact hX') i c,
    hY.turned_getD hf.wf.dims hf.ha hf.hb (by rw [hY.mesh, hf.hda, hf.hdb]; exact hY') i c,
    heq _ (inMesh_rotIdx hr hab hf.ha hf.hb i hi) _ (Kind.src_lt hX.kind hX.nvdim hc)]

/-- the operands of an operator in the plane `(a, b)` (named `da`, `db`): turnable, of kind `κ`, and with the labels and the
pairing `E` that the operator asks for -/
structure Opd (a b : Nat) (da db : String) (κ : Kind) (E : Fld → Prop) (f : Fld) : Prop where
  rot : RotOk a b da db f
  kind : κ.Is a b f
  ext : E f

theorem Kind.turn {a b : Nat} {κ : Kind} {da db : String} {f : Fld} (hab : a ≠ b) (hf : RotOk a b da db f) (hκ : κ.Is a b f) :
    ∃ R, rot90Fld f da db = .ok R ∧ RotOk a b da db R ∧ κ.Is a b R ∧ SameMeta R f := by
  obtain ⟨R, hR⟩ := hκ.accepts hf.wf hf.tw hf.subs hf.ha hf.hb hab
  have hR' : rot90Fld f da db = .ok R := by rw [← hf.hda, ← hf.hdb]; exact hR
  obtain ⟨rR, hr, _, _⟩ := rotOk_rot hab hf hR'
  obtain ⟨hk, hv, hm⟩ := hκ.rot hf.wf.dims hf.wf.data_shape hf.ha hf.hb hR hr.dims
  exact ⟨R, hR', rR, hk, hr.nvdim, hr.ndim, hr.dims, hv, hm⟩

/-- `op` maps operands of kind `κ` that satisfy `E` (a condition on labels, mapping, axis names and
counts only) to results of kind `κ'` with `m` components on the same mesh; it reads nothing but the cells (`sim`), and it
commutes with one quarter turn in the plane `(a, b)` (`quarter`). -/
structure Commutes (a b : Nat) (κ κ' : Kind) (m : Nat) (E : Fld → Prop) (op : Fld → M Fld) : Prop where
  transfer : ∀ {X Y}, SameMeta X Y → E X → E Y
  accepts : ∀ {f}, DimsOk f → a < f.mesh.ndim → b < f.mesh.ndim → E f → ∃ L, op f = .ok L
  over : ∀ {f L}, op f = .ok L → Over f L
  result : ∀ {f L}, MeshWf f → a < f.mesh.ndim → b < f.mesh.ndim → κ.Is a b f → E f → op f = .ok L →
    On a b κ' m f L
  sim : ∀ {X Y LX LY}, Sim X Y → DimsOk Y → E Y → op X = .ok LX → op Y = .ok LY →
    ∀ i, i.length = X.mesh.ndim → ∀ c, c < m → (LX.data.get i).getD c 0 = (LY.data.get i).getD c 0
  quarter : ∀ {da db f R L LR RL}, Opd a b da db κ E f →
    rot90Fld f (f.mesh.region.dims.getD a "") (f.mesh.region.dims.getD b "") = .ok R → op f = .ok L → op R = .ok LR →
    rot90Fld L (L.mesh.region.dims.getD a "") (L.mesh.region.dims.getD b "") = .ok RL → CellEq R m LR RL

variable {a b m : Nat} {κ κ' : Kind} {E : Fld → Prop} {op : Fld → M Fld}

/-- **An operator with the interface commutes with any number of quarter turns** (the general form of the five `*_rot90_iter` of
`Props/C05.lean`), by induction over their number: the
operand class is closed under a turn (`Kind.turn`, `transfer`), results turn along with their operand (`On.rot`), and turning
respects cell-wise agreement of results (`On.rot_eq`). -/
theorem Commutes.iter (C : Commutes a b κ κ' m E op) (hab : a ≠ b) {da db : String} {f : Fld} (hf : Opd a b da db κ E f)
    (n : Nat) :
    ∃ R L LR RL, rotIter da db n f = .ok R ∧ op f = .ok L ∧ op R = .ok LR ∧ rotIter da db n L = .ok RL ∧
      Opd a b da db κ E R ∧ SameMeta R f ∧ On a b κ' m R LR ∧ On a b κ' m R RL ∧ CellEq R m LR RL := by
  obtain ⟨L, hL⟩ := C.accepts hf.rot.wf.dims hf.rot.ha hf.rot.hb hf.ext
  have sL := C.result hf.rot.wf hf.rot.ha hf.rot.hb hf.kind hf.ext hL
  induction n with
  | zero => exact ⟨f, L, L, L, rfl, hL, hL, rfl, hf, ⟨rfl, rfl, rfl, rfl, rfl⟩, sL, sL, CellEq.refl f m L⟩
  | succ n ih =>
    obtain ⟨R, L0, LR, RL, h1, h2, h3, h4, pR, mR, sLR, sRL, heq⟩ := ih
    obtain rfl : L = L0 := ok_inj hL h2
    obtain ⟨R', hR', rR', kR', mR'⟩ := Kind.turn hab pR.rot pR.kind
    have eR' := C.transfer mR'.symm pR.ext
    obtain ⟨LR', hLR'⟩ := C.accepts rR'.wf.dims rR'.ha rR'.hb eR'
    obtain ⟨RL1, hRL1, _⟩ := sLR.rot hab pR.rot hR'
    obtain ⟨RL', hRL', sRL'⟩ := sRL.rot hab pR.rot hR'
    have e1 := C.quarter pR (by rw [pR.rot.hda, pR.rot.hdb]; exact hR') h3 hLR'
      (by rw [(C.over h3).mesh, pR.rot.hda, pR.rot.hdb]; exact hRL1)
    have e2 := sLR.rot_eq hab pR.rot sRL hR' hRL1 hRL' heq
    refine ⟨R', L, LR', RL', ?_, hL, hLR', ?_, ⟨rR', kR', eR'⟩, mR'.trans mR, C.result rR'.wf rR'.ha rR'.hb kR' eR' hLR', sRL',
      e1.trans e2⟩
    · simp only [rotIter, h1]; exact hR'
    · simp only [rotIter, h4]; exact hRL'

/-! ### what each operator asks of labels, mapping and counts (the `E` of `Commutes`) -/

theorem SameMeta.plain {X Y : Fld} (h : SameMeta X Y) (hp : Plain X) : Plain Y :=
  ⟨h.nvdim ▸ hp.1, h.vdims ▸ hp.2.1, h.vmap ▸ hp.2.2⟩

/-- `div`: as many components as axes, labels `vs`, component `c` mapped onto axis `σ c`, and `σ` carries the pair
`(v1, v2)` onto the plane `(a, b)` and nothing else into it -/
structure DivE (a b v1 v2 : Nat) (vs : List String) (σ : Nat → Nat) (f : Fld) : Prop where
  hnn : f.nvdim = f.mesh.ndim
  hv : f.vdims = some vs
  hvl : vs.length = f.nvdim
  hvd : hasDup vs = false
  hσ : ∀ c, c < f.nvdim → σ c < f.mesh.ndim ∧ Fld.lookup f.vmap (vs.getD c "") = some (f.mesh.region.dims.getD (σ c) "")
  hs1 : σ v1 = a
  hs2 : σ v2 = b
  hoth : ∀ c, c < f.nvdim → c ≠ v1 → c ≠ v2 → σ c ≠ a ∧ σ c ≠ b

theorem DivE.symm {a b v1 v2 : Nat} {vs : List String} {σ : Nat → Nat} {f : Fld} (e : DivE a b v1 v2 vs σ f) :
    DivE b a v2 v1 vs σ f :=
  ⟨e.hnn, e.hv, e.hvl, e.hvd, e.hσ, e.hs2, e.hs1, fun c hc c2 c1 => (e.hoth c hc c1 c2).symm⟩

theorem DivE.transfer {a b v1 v2 : Nat} {vs : List String} {σ : Nat → Nat} {X Y : Fld} (h : SameMeta X Y)
    (e : DivE a b v1 v2 vs σ X) : DivE a b v1 v2 vs σ Y :=
  ⟨by rw [← h.nvdim, ← h.ndim]; exact e.hnn, by rw [← h.vdims]; exact e.hv, by rw [← h.nvdim]; exact e.hvl, e.hvd,
    sigma_transfer h.nvdim.symm h.ndim.symm h.vmap.symm h.dims.symm e.hσ, e.hs1, e.hs2, by rw [← h.nvdim]; exact e.hoth⟩

/-- `curl`: three components on three axes, labels `vs`, mapping `σ` with the reversed mapping `ρ` one-to-one -/
structure CurlE (vs : List String) (σ ρ : Nat → Nat) (f : Fld) : Prop where
  hn : f.nvdim = 3
  hnd : f.mesh.ndim = 3
  hv : f.vdims = some vs
  hvl : vs.length = f.nvdim
  hvd : hasDup vs = false
  hσ : ∀ c, c < 3 → σ c < 3 ∧ Fld.lookup f.vmap (vs.getD c "") = some (f.mesh.region.dims.getD (σ c) "")
  hρ : ∀ d, d < 3 → ρ d < 3 ∧ rDimLast f (f.mesh.region.dims.getD d "") = some (vs.getD (ρ d) "")
  hinj : ρ 0 ≠ ρ 1 ∧ ρ 0 ≠ ρ 2 ∧ ρ 1 ≠ ρ 2

theorem CurlE.transfer {vs : List String} {σ ρ : Nat → Nat} {X Y : Fld} (h : SameMeta X Y) (e : CurlE vs σ ρ X) :
    CurlE vs σ ρ Y :=
  ⟨by rw [← h.nvdim]; exact e.hn, by rw [← h.ndim]; exact e.hnd, by rw [← h.vdims]; exact e.hv, by rw [← h.nvdim]; exact e.hvl,
    e.hvd, sigma_transfer rfl rfl h.vmap.symm h.dims.symm e.hσ, rho_transfer h.vmap.symm h.dims.symm e.hρ, e.hinj⟩

theorem CurlE.vecMeta {a b : Nat} {vs : List String} {σ ρ : Nat → Nat} {f : Fld} (e : CurlE vs σ ρ f)
    (hkeys : (f.vmap.map (·.1)).isPerm vs = true) (hraw : ∀ i, (f.data.get i).length = f.nvdim) (ha : a < 3) (hb : b < 3)
    (hab : a ≠ b) : VecMeta a b (ρ a) (ρ b) vs f :=
  ⟨by rw [e.hn]; omega, e.hv, e.hvl, e.hvd, hkeys, vmap_pos (e.hσ 0 (by omega)).2, pair_of_rho e.hv e.hvl e.hvd e.hn e.hρ a ha,
    pair_of_rho e.hv e.hvl e.hvd e.hn e.hρ b hb, by rw [e.hn]; exact (e.hρ a ha).1, by rw [e.hn]; exact (e.hρ b hb).1,
    rho_ne e.hinj ha hb hab, hraw⟩

/-- the vector Laplacian: `N ≥ 2` components with labels `vs` that are the keys of the mapping -/
structure LapVE (N : Nat) (vs : List String) (f : Fld) : Prop where
  hN : f.nvdim = N
  hn : 1 < f.nvdim
  hv : f.vdims = some vs
  hvl : vs.length = f.nvdim
  hvd : hasDup vs = false
  hkeys : (f.vmap.map (·.1)).isPerm vs = true

theorem LapVE.transfer {N : Nat} {vs : List String} {X Y : Fld} (h : SameMeta X Y) (e : LapVE N vs X) : LapVE N vs Y :=
  ⟨by rw [← h.nvdim]; exact e.hN, by rw [← h.nvdim]; exact e.hn, by rw [← h.vdims]; exact e.hv, by rw [← h.nvdim]; exact e.hvl,
    e.hvd, by rw [← h.vmap]; exact e.hkeys⟩

end DFV.C05

