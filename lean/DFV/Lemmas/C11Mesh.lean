import Mathlib.Tactic.Linarith
import Mathlib.Tactic.FieldSimp
import DFV.Lemmas.Transform
import DFV.Lemmas.C01Ctor
import DFV.Lemmas.C11Freq
import DFV.Lemmas.C11Index
/-!
C11: `Mesh.fftn` and `Mesh.ifftn`.  The names and units of the k-mesh and their removal, the two
constructor calls both methods end in, closed forms of the per-axis quantities, the k-mesh `kMesh`
that `Mesh.fftn` returns on every valid mesh and its geometry, the counts `Mesh.ifftn` derives
from `shape`, acceptance of `Mesh.ifftn` as an equivalence with the result `rMesh` on any valid
k-mesh, the round trips in both orders (`originMesh`, `KCanonical`), and the concrete meshes of
the non-vacuity examples.
-/
namespace DFV.C11
open DFV

/-! ### the names and units of the k-mesh: prefix `k_`, unit `(…)$^{-1}$`, and their removal -/

theorem pre_inj (p a b : String) (h : p ++ a = p ++ b) : a = b := (String.append_right_inj p).mp h

theorem stripPre_add (p s : String) : stripPre p (p ++ s) = s := by
  unfold stripPre
  rw [String.toList_append]
  have h : p.toList.isPrefixOf (p.toList ++ s.toList) = true := by
    rw [List.isPrefixOf_iff_prefix]; exact List.prefix_append _ _
  rw [if_pos h, List.drop_left, String.ofList_toList]

/-- prefixing undoes stripping exactly on the labels that carry the prefix -/
theorem pre_strip (p s : String) (h : p.toList.isPrefixOf s.toList = true) : p ++ stripPre p s = s := by
  unfold stripPre
  rw [if_pos h]
  obtain ⟨t, ht⟩ := List.isPrefixOf_iff_prefix.mp h
  apply String.ext
  rw [String.toList_append, String.toList_ofList, ← ht, List.drop_left]

theorem stripUnit_kUnit (u : String) : stripUnit (kUnit u) = u := by
  unfold stripUnit kUnit
  simp only [String.toList_append]
  have e1 : "(".toList = ['('] := rfl
  have h1 : "(".toList.isPrefixOf ("(".toList ++ u.toList ++ ")$^{-1}$".toList) = true := by
    rw [List.isPrefixOf_iff_prefix, List.append_assoc]; exact List.prefix_append _ _
  have h2 : ")$^{-1}$".toList.isSuffixOf ("(".toList ++ u.toList ++ ")$^{-1}$".toList) = true := by
    rw [List.isSuffixOf_iff_suffix]; exact List.suffix_append _ _
  rw [h1, h2]
  simp only [Bool.and_self, if_true]
  have e8 : ")$^{-1}$".toList.length = 8 := rfl
  rw [e1]
  simp only [List.cons_append, List.nil_append, List.drop_succ_cons, List.drop_zero, List.length_cons,
    List.length_append, e8]
  have : u.toList.length + 8 + 1 - 1 - 8 = u.toList.length := by omega
  rw [this, List.take_left, String.ofList_toList]

theorem map_strip_kDim (l : List String) : (l.map kDim).map (stripPre "k_") = l :=
  Function.LeftInverse.list_map (f := stripPre "k_") (g := kDim) (stripPre_add "k_") l

theorem map_strip_kUnit (l : List String) : (l.map kUnit).map stripUnit = l :=
  Function.LeftInverse.list_map stripUnit_kUnit l

/-! ### constructor calls that succeed (`Mesh.fftn` and `Mesh.ifftn` both end in these two) -/

theorem mkN_ok (r : Region) (n : List Nat) (h1 : n.length = r.ndim) (h2 : ∀ a, a < n.length → 0 < n.getD a 0) :
    Mesh.mkN? r n = .ok { region := r, n := n, bc := "", subs := [] } :=
  (C01.mkN_ok_iff' r n "" _).mpr
    ⟨h1, fun a ha => h2 a (h1 ▸ ha), C01.bcOk_empty_lower _, by rw [C01.toLower_empty]⟩

/-- `Region(p1, p2, dims, units)` on ordered corners with valid names returns them unchanged -/
theorem region_mk_ok (p1 p2 : List Rat) (dims units : List String) (tol : Rat)
    (hlen : p2.length = p1.length) (hpos : 0 < p1.length) (hd : dims.length = p1.length)
    (hdup : hasDup dims = false) (hu : units.length = p1.length)
    (hlt : ∀ a, a < p1.length → p1.getD a 0 < p2.getD a 0) :
    Region.mk? p1 p2 (some dims) (some units) tol
      = .ok { pmin := p1, pmax := p2, dims := dims, units := units, tol := tol } :=
  T.mk?_ok_of_lt p1 p2 _ _ dims units tol hlen.symm (by omega) (T.dimsOk_some _ _ hd hdup) (T.unitsOk_some _ _ hu) hlt

/-! ### closed forms of the per-axis quantities of `Mesh.fftn` -/

theorem cell_pos (m : Mesh) (hm : m.Inv) (a : Nat) (ha : a < m.ndim) : 0 < m.cellAt a :=
  hm.cellAt_pos ha

/-- the frequency indices the k-mesh holds along axis `i`: `kLo … kHi` -/
def kLo (m : Mesh) (rfft : Bool) (i : Nat) : Int :=
  if rfft && (i == m.ndim - 1) then 0 else -((m.nAt i / 2 : Nat) : Int)

def kHi (m : Mesh) (rfft : Bool) (i : Nat) : Int :=
  if rfft && (i == m.ndim - 1) then ((m.nAt i / 2 : Nat) : Int) else (((m.nAt i - 1) / 2 : Nat) : Int)

/-- axis `i` of the k-mesh holds the frequency indices `kLo … kHi` in cells of size `1/(n·cell)` -/
theorem kAxis_eq (m : Mesh) (rfft : Bool) (i : Nat) (hn : 1 ≤ m.nAt i) (hd : 0 < m.cellAt i) :
    kP1 m rfft i = ((kLo m rfft i : Rat) - 1 / 2) / ((m.nAt i : Rat) * m.cellAt i) ∧
    kP2 m rfft i = ((kHi m rfft i : Rat) + 1 / 2) / ((m.nAt i : Rat) * m.cellAt i) ∧
    (kN m rfft i : Int) = kHi m rfft i - kLo m rfft i + 1 := by
  have hn0 : (m.nAt i : Rat) ≠ 0 := (Nat.cast_pos.mpr hn).ne'
  have hd0 : m.cellAt i ≠ 0 := hd.ne'
  unfold kP1 kP2 kN kLo kHi kFreqs
  by_cases h1 : m.nAt i = 1
  · -- a single cell: `Mesh.fftn` centres it at 0 whatever the kind, and `kLo = kHi = 0` for both kinds
    simp only [if_pos h1]; rw [h1]; split <;> simp
  · -- otherwise: minimum, maximum and half-spacing of the frequency list of the kind
    simp only [if_neg h1]
    split
    · -- real transform, last axis: the indices `0 … ⌊n/2⌋`
      rw [rfftfreq_min _ _ hn hd, rfftfreq_max _ _ hn hd, rfftfreq_dfreq _ _ (by omega) hd]
      refine ⟨?_, ?_, ?_⟩
      · simp only [Int.cast_zero]; field_simp; ring      -- lower end
      · simp only [Int.cast_natCast]; field_simp          -- upper end
      · simp [rfftfreq]                                   -- number of cells
    · -- every other axis: the indices `-⌊n/2⌋ … ⌊(n-1)/2⌋`
      rw [fftfreq_min _ _ (by omega) hd, fftfreq_max _ _ (by omega) hd, fftfreq_dfreq _ _ (by omega) hd]
      refine ⟨?_, ?_, ?_⟩
      · simp only [Int.cast_neg, Int.cast_natCast]; field_simp
      · simp only [Int.cast_natCast]; field_simp
      · simp only [fftfreq, tab_length]; omega

theorem kP1_eq (m : Mesh) (rfft : Bool) (i : Nat) (hn : 1 ≤ m.nAt i) (hd : 0 < m.cellAt i) :
    kP1 m rfft i = ((kLo m rfft i : Rat) - 1 / 2) / ((m.nAt i : Rat) * m.cellAt i) :=
  (kAxis_eq m rfft i hn hd).1

theorem kN_full (m : Mesh) (rfft : Bool) (i : Nat) (h : (rfft && (i == m.ndim - 1)) = false) :
    kN m rfft i = m.nAt i := by
  unfold kN
  by_cases h1 : m.nAt i = 1
  · rw [if_pos h1, h1]
  · rw [if_neg h1]; unfold kFreqs; rw [h]; simp [fftfreq]

theorem kN_half (m : Mesh) (rfft : Bool) (i : Nat) (h : (rfft && (i == m.ndim - 1)) = true) :
    kN m rfft i = m.nAt i / 2 + 1 := by
  unfold kN
  by_cases h1 : m.nAt i = 1
  · rw [if_pos h1, h1]
  · rw [if_neg h1]; unfold kFreqs; rw [h]; simp [rfftfreq]

/-- the `kN` cells of size `1/(n·cell)` start at `kP1` and end at `kP2` -/
theorem kP2_eq_add (m : Mesh) (rfft : Bool) (i : Nat) (hn : 1 ≤ m.nAt i) (hd : 0 < m.cellAt i) :
    kP2 m rfft i = kP1 m rfft i + (kN m rfft i : Rat) / ((m.nAt i : Rat) * m.cellAt i) := by
  obtain ⟨h1, h2, h3⟩ := kAxis_eq m rfft i hn hd
  have hk : (kN m rfft i : Rat) = (kHi m rfft i : Rat) - (kLo m rfft i : Rat) + 1 := by exact_mod_cast h3
  rw [h1, h2, hk]
  ring

theorem kN_pos (m : Mesh) (rfft : Bool) (i : Nat) (hn : 1 ≤ m.nAt i) : 0 < kN m rfft i := by
  cases h : (rfft && (i == m.ndim - 1))
  · rw [kN_full m rfft i h]; omega
  · rw [kN_half m rfft i h]; omega

theorem kP_lt (m : Mesh) (rfft : Bool) (i : Nat) (hn : 1 ≤ m.nAt i) (hd : 0 < m.cellAt i) :
    kP1 m rfft i < kP2 m rfft i := by
  rw [kP2_eq_add m rfft i hn hd]
  exact lt_add_of_pos_right _ (div_pos (Nat.cast_pos.mpr (kN_pos m rfft i hn)) (mul_pos (Nat.cast_pos.mpr hn) hd))

/-! ### `Mesh.fftn` succeeds on every valid mesh and returns the mesh `kMesh` -/

/-- the k-mesh (spec): what `Mesh.fftn` returns -/
def kMesh (m : Mesh) (rfft : Bool) : Mesh :=
  { region := { pmin := tab m.ndim (kP1 m rfft), pmax := tab m.ndim (kP2 m rfft),
                dims := m.region.dims.map kDim, units := m.region.units.map kUnit, tol := m.region.tol },
    n := tab m.ndim (kN m rfft), bc := "", subs := [] }

/-- `Mesh.fftn` is two constructor calls in a row -/
theorem meshFftn_bind (m : Mesh) (rfft : Bool) :
    meshFftn m rfft =
      Region.mk? (tab m.ndim (kP1 m rfft)) (tab m.ndim (kP2 m rfft))
          (some (m.region.dims.map kDim)) (some (m.region.units.map kUnit)) m.region.tol >>= fun r =>
        Mesh.mkN? r (tab m.ndim (kN m rfft)) := by
  unfold meshFftn; split <;> simp only [*] <;> rfl

theorem meshFftn_ok (m : Mesh) (rfft : Bool) (hm : m.Inv) : meshFftn m rfft = .ok (kMesh m rfft) := by
  rw [meshFftn_bind, bind_ok_iff]
  refine ⟨_, region_mk_ok (tab m.ndim (kP1 m rfft)) (tab m.ndim (kP2 m rfft)) (m.region.dims.map kDim)
      (m.region.units.map kUnit) m.region.tol (by simp) (by rw [tab_length]; exact hm.1.ndim_pos)
      (by simp [hm.dims_length]) (by rw [hasDup_map_inj kDim (pre_inj "k_")]; exact hm.1.dims_nodup)
      (by simp [hm.1.units_length, Mesh.ndim]) ?_, ?_⟩
  · intro a ha
    rw [tab_length] at ha
    rw [getD_tab _ _ _ _ ha, getD_tab _ _ _ _ ha]
    exact kP_lt m rfft a (hm.nAt_pos ha) (hm.cellAt_pos ha)
  · rw [mkN_ok _ _ (by simp [Region.ndim]) (by
        intro a ha
        rw [tab_length] at ha
        rw [getD_tab _ _ _ _ ha]
        exact kN_pos m rfft a (hm.nAt_pos ha))]
    rfl

theorem meshFftn_eq {m : Mesh} {rfft : Bool} {k : Mesh} (hm : m.Inv) (h : meshFftn m rfft = .ok k) :
    k = kMesh m rfft := by
  rw [meshFftn_ok m rfft hm] at h
  exact (Except.ok.inj h).symm

/-- the counts of `Mesh.fftn`'s result, whenever it succeeds (no validity hypothesis on `m`) -/
theorem meshFftn_n {m : Mesh} {rfft : Bool} {k : Mesh} (h : meshFftn m rfft = .ok k) :
    k.n = tab m.ndim (kN m rfft) := by
  rw [meshFftn_bind, bind_ok_iff] at h
  obtain ⟨r, _, h⟩ := h
  rw [((C01.mkN_ok_iff' _ _ _ _).mp h).2.2.2]

/-! ### the counts `Mesh.ifftn` works with -/

theorem ifftShape_some (m : Mesh) (rfft : Bool) (s : List Nat) :
    ifftShape m rfft (some s) =
      if s.length ≠ m.ndim then .error .value
      else if !allLt (m.ndim - 1) (fun a => s.getD a 0 == m.nAt a) then .error .value
      else if s.getD (m.ndim - 1) 0 / 2 + 1 ≠ m.nAt (m.ndim - 1) then .error .value
      else .ok s := rfl

theorem ifftShape_none (m : Mesh) (rfft : Bool) :
    ifftShape m rfft none =
      .ok (if rfft && (m.nAt (m.ndim - 1) != 1) then setAt m.n (m.ndim - 1) ((m.nAt (m.ndim - 1) - 1) * 2)
           else m.n) := rfl

theorem ifftShape_false_none (m : Mesh) : ifftShape m false none = .ok m.n := by
  simp [ifftShape]

/-- **an explicit shape is accepted iff** it has one entry per axis, the k-mesh's counts on the leading axes
and a last entry `s` with `s // 2 + 1 = n_last`; it is then used as it is -/
theorem ifftShape_some_ok_iff (m : Mesh) (rfft : Bool) (s s' : List Nat) :
    ifftShape m rfft (some s) = .ok s' ↔
      s' = s ∧ s.length = m.ndim ∧ (∀ a, a < m.ndim - 1 → s.getD a 0 = m.nAt a) ∧
        s.getD (m.ndim - 1) 0 / 2 + 1 = m.nAt (m.ndim - 1) := by
  rw [ifftShape_some, guard_ok_iff, guard_ok_iff, guard_ok_iff, Except.ok.injEq, not_not, not_not, Bool.not_eq_true',
    Bool.not_eq_false, allLt_iff]
  simp only [beq_iff_eq]
  exact ⟨fun ⟨h1, h2, h3, e⟩ => ⟨e.symm, h1, h2, h3⟩, fun ⟨e, h1, h2, h3⟩ => ⟨h1, h2, h3, e.symm⟩⟩

/-- a shape that is not accepted is refused with a `ValueError` -/
theorem ifftShape_some_error (m : Mesh) (rfft : Bool) (s : List Nat) (e : Err)
    (h : ifftShape m rfft (some s) = .error e) : e = .value := by
  rw [ifftShape_some, guard_error_iff, guard_error_iff, guard_error_iff] at h
  rcases h with ⟨_, h⟩ | ⟨_, ⟨_, h⟩ | ⟨_, ⟨_, h⟩ | ⟨_, h⟩⟩⟩
  · exact h.symm
  · exact h.symm
  · exact h.symm
  · cases h

theorem ifftShape_rejects (k : Mesh) (rfft : Bool) (s : List Nat)
    (h : s.length ≠ k.ndim ∨ (∃ a, a < k.ndim - 1 ∧ s.getD a 0 ≠ k.nAt a) ∨
         s.getD (k.ndim - 1) 0 / 2 + 1 ≠ k.nAt (k.ndim - 1)) :
    ifftShape k rfft (some s) = .error .value := by
  cases hres : ifftShape k rfft (some s) with
  | ok s' =>
    obtain ⟨_, h1, h2, h3⟩ := (ifftShape_some_ok_iff k rfft s s').mp hres
    rcases h with h | ⟨a, ha, hne⟩ | h
    · exact absurd h1 h
    · exact absurd (h2 a ha) hne
    · exact absurd h3 h
  | error e => rw [ifftShape_some_error k rfft s e hres]

theorem ndim_pred_lt (m : Mesh) (hm : m.Inv) : m.ndim - 1 < m.ndim := Nat.sub_lt hm.1.ndim_pos Nat.one_pos

theorem ifftShape_length (m : Mesh) (rfft : Bool) (shape : Option (List Nat)) (s : List Nat)
    (hn : m.n.length = m.ndim) (h : ifftShape m rfft shape = .ok s) : s.length = m.ndim := by
  cases shape with
  | some s0 =>
    have := (ifftShape_some_ok_iff m rfft s0 s).mp h
    rw [this.1]; exact this.2.1
  | none =>
    rw [ifftShape_none] at h
    injection h with h
    rw [← h]
    split
    · rw [length_setAt]; exact hn
    · exact hn

theorem ifftShape_none_pos (m : Mesh) (hm : m.Inv) (rfft : Bool) (s : List Nat)
    (h : ifftShape m rfft none = .ok s) (a : Nat) (ha : a < m.ndim) : 0 < s.getD a 0 := by
  rw [ifftShape_none] at h
  injection h with h
  rw [← h]
  split
  · rename_i hc
    rw [getD_setAt]
    split
    · have hl := hm.nAt_pos (ndim_pred_lt m hm)
      simp only [Bool.and_eq_true, bne_iff_ne, ne_eq] at hc
      omega
    · exact hm.nAt_pos ha
  · exact hm.nAt_pos ha

/-- the counts the real inverse works with, given or default: one per axis, the k-mesh's own on the leading axes, and a
last count `s` with `s // 2 + 1 = n_last` -/
theorem ifftShape_true_spec (m : Mesh) (hm : m.Inv) (shape : Option (List Nat)) (s : List Nat)
    (h : ifftShape m true shape = .ok s) :
    s.length = m.ndim ∧ (∀ a, a < m.ndim - 1 → s.getD a 0 = m.nAt a) ∧
      s.getD (m.ndim - 1) 0 / 2 + 1 = m.nAt (m.ndim - 1) := by
  cases shape with
  | some s0 => obtain ⟨rfl, h⟩ := (ifftShape_some_ok_iff m true s0 s).mp h; exact h
  | none =>
    rw [ifftShape_none] at h
    obtain rfl := Except.ok.inj h
    have hl := ndim_pred_lt m hm
    have hp := hm.nAt_pos hl
    split
    · -- the default `(n_last - 1)·2`
      rename_i hc
      simp only [Bool.true_and, bne_iff_ne, ne_eq] at hc
      refine ⟨by rw [length_setAt]; exact hm.n_length, fun a ha => getD_setAt_ne _ _ _ _ _ (by omega), ?_⟩
      rw [getD_setAt_eq _ _ _ _ (by rw [hm.n_length]; exact hl)]; omega
    · -- a single cell stays a single cell
      rename_i hc
      have h1 : m.nAt (m.ndim - 1) = 1 := by simpa using hc
      exact ⟨hm.n_length, fun a _ => rfl, by show m.nAt _ / 2 + 1 = _; rw [h1]⟩

/-- hence their half shape is the k-mesh's own shape -/
theorem ifftShape_half (m : Mesh) (hm : m.Inv) (shape : Option (List Nat)) (s : List Nat)
    (h : ifftShape m true shape = .ok s) : halfShape s = m.n := by
  obtain ⟨h1, h2, h3⟩ := ifftShape_true_spec m hm shape s h
  refine list_eq_of_getD _ _ 0 (by rw [halfShape_length, h1, hm.n_length]) fun a ha => ?_
  rw [halfShape_length] at ha
  rw [halfShape_getD s a ha]
  split
  · rw [show a = m.ndim - 1 by omega]; exact h3
  · exact h2 a (by omega)
/-! ### `Mesh.ifftn`: its four steps, the result `rMesh`, acceptance as an equivalence -/


/-- what `Mesh.ifftn` returns for the (validated or default) counts `s` -/
def rMesh (k : Mesh) (s : List Nat) : Mesh :=
  { region := { pmin := tab k.ndim fun a => -(1 / (2 * k.cellAt a)),
                pmax := tab k.ndim fun a => 1 / (2 * k.cellAt a),
                dims := k.region.dims.map (stripPre "k_"), units := k.region.units.map stripUnit,
                tol := k.region.tol },
    n := s, bc := "", subs := [] }

theorem rP_diff (k : Mesh) (s : List Nat) (i : Nat) (hs : 1 ≤ s.getD i 0) (hc : 0 < k.cellAt i) :
    rP2 k s i - rP1 k s i = 1 / k.cellAt i := by
  unfold rP1 rP2
  by_cases h1 : s.getD i 0 = 1
  · rw [if_pos h1, if_pos h1]; ring
  · rw [if_neg h1, if_neg h1, fftfreq_min _ _ (by omega) hc, fftfreq_max _ _ (by omega) hc,
      fftfreq_dfreq _ _ (by omega) hc]
    generalize s.getD i 0 = n at hs h1
    generalize k.cellAt i = c at hc
    -- the indices `-⌊n/2⌋ … ⌈n/2⌉-1` are `n` in number
    have hq : (((n - 1) / 2 : Nat) : Rat) + ((n / 2 : Nat) : Rat) + 1 = (n : Rat) := by
      exact_mod_cast (by omega : (n - 1) / 2 + n / 2 + 1 = n)
    have hs0 : (n : Rat) ≠ 0 := (Nat.cast_pos.mpr hs).ne'
    have hc0 : c ≠ 0 := hc.ne'
    rw [← eq_sub_iff_add_eq, ← eq_sub_iff_add_eq] at hq
    rw [hq]
    field_simp
    ring

theorem rN_eq (s : List Nat) (i : Nat) : rN s i = s.getD i 0 := by
  unfold rN
  by_cases h1 : s.getD i 0 = 1
  · rw [if_pos h1, h1]
  · rw [if_neg h1]; simp [fftfreq]

theorem tab_rN (s : List Nat) (d : Nat) (h : s.length = d) : tab d (rN s) = s :=
  (eq_tab_of_getD s _ _ 0 h fun i _ => (rN_eq s i).symm).symm

/-- translating `[l, h]` of length `1/c` by minus its centre -/
theorem recentre_coords (l h c : Rat) (hd : h - l = 1 / c) :
    l + -((l + h) / 2) = -(1 / (2 * c)) ∧ h + -((l + h) / 2) = 1 / (2 * c) := by
  rw [show (1 : Rat) / (2 * c) = (1 / c) / 2 by rw [div_div, mul_comm], ← hd]
  constructor <;> ring

/-- `Mesh.ifftn` is four steps in a row: the counts, none of them zero, `Region(...)`, `Mesh(...)`; the result
is then moved to the origin -/
theorem meshIfftn_bind (m : Mesh) (rfft : Bool) (shape : Option (List Nat)) :
    meshIfftn m rfft shape =
      ifftShape m rfft shape >>= fun s =>
        if s.any (· = 0) then .error .value
        else
          Region.mk? (tab m.ndim (rP1 m s)) (tab m.ndim (rP2 m s))
              (some (m.region.dims.map (stripPre "k_"))) (some (m.region.units.map stripUnit)) m.region.tol >>= fun r =>
            Mesh.mkN? r (tab m.ndim (rN s)) >>= fun k => .ok (recentre k) := by
  unfold meshIfftn
  repeat' split
  all_goals simp [*, bind, Except.bind]

theorem meshIfftn_shape_error {k : Mesh} {rfft : Bool} {shape : Option (List Nat)} {e : Err}
    (h : ifftShape k rfft shape = .error e) : meshIfftn k rfft shape = .error e := by
  rw [meshIfftn_bind, h]; rfl

theorem meshIfftn_ok (k : Mesh) (rfft : Bool) (shape : Option (List Nat)) (s : List Nat) (hk : k.Inv)
    (hs : ifftShape k rfft shape = .ok s) (hsl : s.length = k.ndim)
    (hsp : ∀ a, a < k.ndim → 0 < s.getD a 0)
    (hdup : hasDup (k.region.dims.map (stripPre "k_")) = false) :
    meshIfftn k rfft shape = .ok (rMesh k s) := by
  have hdiff : ∀ a, a < k.ndim → rP2 k s a - rP1 k s a = 1 / k.cellAt a :=
    fun a ha => rP_diff k s a (hsp a ha) (hk.cellAt_pos ha)
  rw [meshIfftn_bind, bind_ok_iff]
  refine ⟨s, hs, ?_⟩
  rw [guard_ok_iff, bind_ok_iff]
  refine ⟨(C01.any_zero_iff s _ rfl).mpr fun a ha => hsp a (by omega), _,
    region_mk_ok (tab k.ndim (rP1 k s)) (tab k.ndim (rP2 k s)) (k.region.dims.map (stripPre "k_"))
      (k.region.units.map stripUnit) k.region.tol (by simp) (by rw [tab_length]; exact hk.1.ndim_pos)
      (by simp [hk.dims_length]) hdup (by simp [hk.1.units_length, Mesh.ndim]) ?_, ?_⟩
  · intro a ha
    rw [tab_length] at ha
    rw [getD_tab _ _ _ _ ha, getD_tab _ _ _ _ ha]
    have h1 : 0 < 1 / k.cellAt a := by have := hk.cellAt_pos ha; positivity
    linarith [hdiff a ha]
  · rw [tab_rN s _ hsl, mkN_ok _ _ (by simp [Region.ndim, hsl, Mesh.ndim]) (fun a ha => hsp a (by omega))]
    show Except.ok (recentre _) = .ok (rMesh k s)
    unfold recentre rMesh
    simp only [Mesh.ndim, Region.ndim, tab_length, Region.lo, Region.hi]
    congr 3
    · apply tab_congr
      intro a ha
      rw [getD_tab _ _ _ _ ha, getD_tab _ _ _ _ ha]
      exact (recentre_coords _ _ _ (hdiff a ha)).1
    · apply tab_congr
      intro a ha
      rw [getD_tab _ _ _ _ ha, getD_tab _ _ _ _ ha]
      exact (recentre_coords _ _ _ (hdiff a ha)).2

/-- what a successful `Mesh.ifftn` call implies about its inputs, and the counts of its result (of the mesh only
`k.n.length = k.ndim` is used) -/
theorem meshIfftn_inv (k : Mesh) (rfft : Bool) (shape : Option (List Nat)) (b : Mesh) (hn : k.n.length = k.ndim)
    (h : meshIfftn k rfft shape = .ok b) :
    ∃ s, ifftShape k rfft shape = .ok s ∧ s.any (· = 0) = false ∧
      hasDup (k.region.dims.map (stripPre "k_")) = false ∧ b.n = s := by
  rw [meshIfftn_bind, bind_ok_iff] at h
  obtain ⟨s, hs, h⟩ := h                  -- the counts
  rw [guard_ok_iff, bind_ok_iff] at h
  obtain ⟨h0, r, hr, h⟩ := h              -- no zero count; `Region(...)`
  rw [bind_ok_iff] at h
  obtain ⟨k', hk', h⟩ := h                -- `Mesh(...)`
  obtain rfl := Except.ok.inj h
  refine ⟨s, hs, Bool.eq_false_iff.mpr h0, (T.mk?_ok_inv _ _ _ _ _ _ hr).2.2.2.1, ?_⟩
  show k'.n = s
  rw [((C01.mkN_ok_iff' _ _ _ _).mp hk').2.2.2]
  exact tab_rN s _ (ifftShape_length k rfft shape s hn hs)

/-- **`Mesh.ifftn` on a valid mesh: accepted iff** the counts derived from `shape` are accepted
and positive and no two dimension names coincide once the prefix `k_` is stripped; the result is
then `rMesh k s` -/
theorem meshIfftn_ok_iff (k : Mesh) (hk : k.Inv) (rfft : Bool) (shape : Option (List Nat)) (b : Mesh) :
    meshIfftn k rfft shape = .ok b ↔
      ∃ s, ifftShape k rfft shape = .ok s ∧ (∀ a, a < k.ndim → 0 < s.getD a 0) ∧
        hasDup (k.region.dims.map (stripPre "k_")) = false ∧ b = rMesh k s := by
  constructor
  · intro h
    obtain ⟨s, hs, h0, hd, _⟩ := meshIfftn_inv k rfft shape b hk.n_length h
    have hl := ifftShape_length k rfft shape s hk.n_length hs
    have hp : ∀ a, a < k.ndim → 0 < s.getD a 0 := fun a ha =>
      (C01.any_zero_iff s _ rfl).mp (Bool.eq_false_iff.mp h0) a (by omega)
    have := meshIfftn_ok k rfft shape s hk hs hl hp hd
    rw [this] at h
    injection h with h
    exact ⟨s, hs, hp, hd, h.symm⟩
  · rintro ⟨s, hs, hp, hd, rfl⟩
    exact meshIfftn_ok k rfft shape s hk hs (ifftShape_length k rfft shape s hk.n_length hs) hp hd

/-! ### geometry of the k-mesh -/

theorem kMesh_ndim (m : Mesh) (rfft : Bool) : (kMesh m rfft).ndim = m.ndim := by
  simp [kMesh, Mesh.ndim, Region.ndim]

theorem kMesh_lo (m : Mesh) (rfft : Bool) (a : Nat) (ha : a < m.ndim) :
    (kMesh m rfft).region.lo a = kP1 m rfft a := by
  simp only [kMesh, Region.lo]; exact getD_tab _ _ _ _ ha

theorem kMesh_hi (m : Mesh) (rfft : Bool) (a : Nat) (ha : a < m.ndim) :
    (kMesh m rfft).region.hi a = kP2 m rfft a := by
  simp only [kMesh, Region.hi]; exact getD_tab _ _ _ _ ha

theorem kMesh_nAt (m : Mesh) (rfft : Bool) (a : Nat) (ha : a < m.ndim) :
    (kMesh m rfft).nAt a = kN m rfft a := by
  simp only [kMesh, Mesh.nAt]; exact getD_tab _ _ _ _ ha

/-- valid because the constructors that built it accepted it -/
theorem kMesh_inv (m : Mesh) (rfft : Bool) (hm : m.Inv) : (kMesh m rfft).Inv := by
  have h := meshFftn_ok m rfft hm
  rw [meshFftn_bind, bind_ok_iff] at h
  obtain ⟨r, hr, h⟩ := h
  exact (C01.mkN_inv r (C01.region_mk_spec _ _ _ _ _ _ hr).2.2.2.1 _ _ _ h).1

theorem kMesh_edge (m : Mesh) (rfft : Bool) (hm : m.Inv) (a : Nat) (ha : a < m.ndim) :
    (kMesh m rfft).region.edge a = (kN m rfft a : Rat) / ((m.nAt a : Rat) * m.cellAt a) := by
  unfold Region.edge
  rw [kMesh_lo m rfft a ha, kMesh_hi m rfft a ha, kP2_eq_add m rfft a (hm.nAt_pos ha) (hm.cellAt_pos ha)]
  ring

theorem kMesh_cellAt (m : Mesh) (rfft : Bool) (hm : m.Inv) (a : Nat) (ha : a < m.ndim) :
    (kMesh m rfft).cellAt a = 1 / ((m.nAt a : Rat) * m.cellAt a) := by
  have hk0 : (kN m rfft a : Rat) ≠ 0 := (Nat.cast_pos.mpr (kN_pos m rfft a (hm.nAt_pos ha))).ne'
  show (kMesh m rfft).region.edge a / ((kMesh m rfft).nAt a : Rat) = _
  rw [kMesh_edge m rfft hm a ha, kMesh_nAt m rfft a ha, div_right_comm, div_self hk0]

/-- the real-space mesh of counts `s` with the extent of `m`, centred at the origin -/
def originMesh (m : Mesh) (s : List Nat) : Mesh :=
  { region := { pmin := tab m.ndim fun a => -(m.region.edge a / 2),
                pmax := tab m.ndim fun a => m.region.edge a / 2,
                dims := m.region.dims, units := m.region.units, tol := m.region.tol },
    n := s, bc := "", subs := [] }

theorem rMesh_kMesh (m : Mesh) (rfft : Bool) (s : List Nat) (hm : m.Inv) :
    rMesh (kMesh m rfft) s = originMesh m s := by
  unfold rMesh originMesh
  rw [kMesh_ndim]
  have e1 : (kMesh m rfft).region.dims = m.region.dims.map kDim := rfl
  have e2 : (kMesh m rfft).region.units = m.region.units.map kUnit := rfl
  have e3 : (kMesh m rfft).region.tol = m.region.tol := rfl
  rw [e1, e2, e3, map_strip_kDim, map_strip_kUnit]
  have key : ∀ a, a < m.ndim → 1 / (2 * (kMesh m rfft).cellAt a) = m.region.edge a / 2 := by
    intro a ha
    rw [kMesh_cellAt m rfft hm a ha, Region.edge, ← C01.cellAt_cover m a (hm.nAt_pos ha)]
    have hn0 : (m.nAt a : Rat) ≠ 0 := ne_of_gt (Nat.cast_pos.mpr (hm.nAt_pos ha))
    have hd0 : m.cellAt a ≠ 0 := ne_of_gt (hm.cellAt_pos ha)
    field_simp
  have hp : tab m.ndim (fun a => -(1 / (2 * (kMesh m rfft).cellAt a))) = tab m.ndim (fun a => -(m.region.edge a / 2)) :=
    tab_congr _ _ _ (fun a ha => by rw [key a ha])
  have hq : tab m.ndim (fun a => 1 / (2 * (kMesh m rfft).cellAt a)) = tab m.ndim (fun a => m.region.edge a / 2) :=
    tab_congr _ _ _ key
  rw [hp, hq]

theorem kMesh_n (m : Mesh) (rfft : Bool) : (kMesh m rfft).n = tab m.ndim (kN m rfft) := rfl

/-- the counts of `Mesh.fftn()` are the mesh's (only `m.n.length = m.ndim` is used) -/
theorem kN_tab_full (m : Mesh) (hl : m.n.length = m.ndim) : tab m.ndim (kN m false) = m.n :=
  (eq_tab_of_getD m.n _ _ 0 hl fun i _ => (kN_full m false i rfl).symm).symm

theorem kMesh_n_full (m : Mesh) (hm : m.Inv) : (kMesh m false).n = m.n := kN_tab_full m hm.n_length

/-- the centre of k-cell `j` of axis `a` is the frequency of index `kLo + j`, for every integer `j` and both kinds;
`kcentre_full` and `kcentre_half` spell `kLo` out -/
theorem kMesh_centreAx (m : Mesh) (rfft : Bool) (hm : m.Inv) (a : Nat) (ha : a < m.ndim) (j : Int) :
    (kMesh m rfft).centreAx a j = ((kLo m rfft a : Rat) + (j : Rat)) / ((m.nAt a : Rat) * m.cellAt a) := by
  unfold Mesh.centreAx
  rw [kMesh_cellAt m rfft hm a ha, kMesh_lo m rfft a ha, kP1_eq m rfft a (hm.nAt_pos ha) (hm.cellAt_pos ha)]
  ring

theorem kcentre_full (m : Mesh) (rfft : Bool) (hm : m.Inv) (a : Nat) (ha : a < m.ndim)
    (h : (rfft && (a == m.ndim - 1)) = false) (j : Int) :
    (kMesh m rfft).centreAx a j = ((j : Rat) - ((m.nAt a / 2 : Nat) : Rat)) * (1 / ((m.nAt a : Rat) * m.cellAt a)) := by
  rw [kMesh_centreAx m rfft hm a ha, kLo, h]
  simp only [Bool.false_eq_true, if_false, Int.cast_neg, Int.cast_natCast]
  ring

theorem kcentre_half (m : Mesh) (rfft : Bool) (hm : m.Inv) (a : Nat) (ha : a < m.ndim)
    (h : (rfft && (a == m.ndim - 1)) = true) (j : Int) :
    (kMesh m rfft).centreAx a j = (j : Rat) * (1 / ((m.nAt a : Rat) * m.cellAt a)) := by
  rw [kMesh_centreAx m rfft hm a ha, kLo, h]
  simp only [if_true, Int.cast_zero]
  ring

/-! ### the counts of the real transform's k-mesh, and what `Mesh.ifftn` makes of them -/

/-- the flag `rfft && (a == ndim - 1)` of the model at the last axis … -/
theorem isLast_self (m : Mesh) : (true && (m.ndim - 1 == m.ndim - 1)) = true := by simp

/-- … and at an earlier one -/
theorem isLast_of_lt (m : Mesh) (a : Nat) (h : a < m.ndim - 1) : (true && (a == m.ndim - 1)) = false := by
  have : a ≠ m.ndim - 1 := by omega
  simp [this]

/-- the counts of `Mesh.fftn(rfft=True)` are the half shape of the mesh's -/
theorem kN_tab_half (m : Mesh) (hl : m.n.length = m.ndim) : tab m.ndim (kN m true) = halfShape m.n := by
  unfold halfShape
  rw [hl]
  refine tab_congr _ _ _ fun a ha => ?_
  by_cases h : a + 1 = m.ndim
  · rw [if_pos h, kN_half m true a (by simp; omega)]; rfl
  · rw [if_neg h, kN_full m true a (by simp; omega)]; rfl

theorem kMesh_n_half (m : Mesh) (hm : m.Inv) : (kMesh m true).n = halfShape m.n := kN_tab_half m hm.n_length

theorem ifftShape_half_some (m : Mesh) (hm : m.Inv) : ifftShape (kMesh m true) true (some m.n) = .ok m.n := by
  have hl := ndim_pred_lt m hm
  rw [ifftShape_some_ok_iff, kMesh_ndim, kMesh_nAt m true _ hl, kN_half m true _ (isLast_self m)]
  refine ⟨rfl, hm.n_length, fun a ha => ?_, rfl⟩
  rw [kMesh_nAt m true a (by omega), kN_full m true a (isLast_of_lt m a ha)]
  rfl

/-- without an explicit shape the real inverse assumes an even last count (or 1) -/
theorem ifftShape_half_none (m : Mesh) (hm : m.Inv) :
    ifftShape (kMesh m true) true none
      = .ok (if m.nAt (m.ndim - 1) = 1 then m.n else setAt m.n (m.ndim - 1) (m.nAt (m.ndim - 1) / 2 * 2)) := by
  have hl := ndim_pred_lt m hm
  have hlen : m.n.length = m.ndim := hm.n_length
  rw [ifftShape_none, kMesh_ndim, kMesh_nAt m true _ hl, kN_half m true _ (isLast_self m), kMesh_n_half m hm]
  congr 1
  by_cases h1 : m.nAt (m.ndim - 1) = 1
  · -- the half shape of a last count 1 is 1 again
    rw [if_pos h1, h1, if_neg (by decide), halfShape_eq_setAt, hlen,
      show m.n.getD (m.ndim - 1) 0 / 2 + 1 = m.n.getD (m.ndim - 1) 0 by show m.nAt _ / 2 + 1 = m.nAt _; rw [h1]]
    exact setAt_getD_self m.n _ 0
  · rw [if_neg h1, if_pos (by simp only [Bool.true_and, bne_iff_ne, ne_eq]; have := hm.nAt_pos hl; omega),
      Nat.add_sub_cancel, halfShape_eq_setAt, hlen, setAt_setAt_same]

/-- for an even last count, or 1, the default counts of the real inverse are the mesh's own -/
theorem half_none_counts (m : Mesh) (h : m.nAt (m.ndim - 1) % 2 = 0 ∨ m.nAt (m.ndim - 1) = 1) :
    (if m.nAt (m.ndim - 1) = 1 then m.n else setAt m.n (m.ndim - 1) (m.nAt (m.ndim - 1) / 2 * 2)) = m.n := by
  by_cases h1 : m.nAt (m.ndim - 1) = 1
  · rw [if_pos h1]
  · rw [if_neg h1]
    have e : m.nAt (m.ndim - 1) / 2 * 2 = m.nAt (m.ndim - 1) := by omega
    rw [e]
    exact setAt_getD_self m.n (m.ndim - 1) 0

/-! ### the mesh-level round trips -/

theorem hasDup_strip_kDim (m : Mesh) (rfft : Bool) (hm : m.Inv) :
    hasDup ((kMesh m rfft).region.dims.map (stripPre "k_")) = false := by
  have : (kMesh m rfft).region.dims = m.region.dims.map kDim := rfl
  rw [this, map_strip_kDim]; exact hm.1.dims_nodup

/-- **`Mesh.ifftn ∘ Mesh.fftn`**, both kinds, any `shape`: whenever the counts `s` derived from `shape` are accepted and
positive, the result is the mesh of counts `s` with the extent of `m`, centred at the origin -/
theorem mesh_roundtrip (m : Mesh) (hm : m.Inv) (rfft : Bool) (shape : Option (List Nat)) (s : List Nat)
    (hs : ifftShape (kMesh m rfft) rfft shape = .ok s) (hp : ∀ a, a < m.ndim → 0 < s.getD a 0) :
    meshIfftn (kMesh m rfft) rfft shape = .ok (originMesh m s) := by
  have hk := kMesh_inv m rfft hm
  rw [meshIfftn_ok (kMesh m rfft) rfft shape s hk hs (ifftShape_length _ rfft shape s hk.n_length hs)
      (by rw [kMesh_ndim]; exact hp) (hasDup_strip_kDim m rfft hm), rMesh_kMesh m rfft s hm]

theorem mesh_roundtrip_full (m : Mesh) (hm : m.Inv) :
    meshIfftn (kMesh m false) false none = .ok (originMesh m m.n) :=
  mesh_roundtrip m hm false none m.n ((ifftShape_false_none _).trans (by rw [kMesh_n_full m hm]))
    fun _ ha => hm.nAt_pos ha

theorem mesh_roundtrip_half_shape (m : Mesh) (hm : m.Inv) :
    meshIfftn (kMesh m true) true (some m.n) = .ok (originMesh m m.n) :=
  mesh_roundtrip m hm true (some m.n) m.n (ifftShape_half_some m hm) fun _ ha => hm.nAt_pos ha

theorem mesh_roundtrip_half_none (m : Mesh) (hm : m.Inv) :
    meshIfftn (kMesh m true) true none
      = .ok (originMesh m (if m.nAt (m.ndim - 1) = 1 then m.n
                           else setAt m.n (m.ndim - 1) (m.nAt (m.ndim - 1) / 2 * 2))) :=
  mesh_roundtrip m hm true none _ (ifftShape_half_none m hm) fun a ha =>
    ifftShape_none_pos _ (kMesh_inv m true hm) true _ (ifftShape_half_none m hm) a (by rw [kMesh_ndim]; exact ha)

theorem originMesh_cellAt (m : Mesh) (a : Nat) (ha : a < m.ndim) : (originMesh m m.n).cellAt a = m.cellAt a := by
  unfold Mesh.cellAt Region.edge
  simp only [originMesh, Region.lo, Region.hi, Mesh.nAt]
  rw [getD_tab _ _ _ _ ha, getD_tab _ _ _ _ ha]
  unfold Region.edge Region.lo Region.hi
  ring

theorem originMesh_centre (m : Mesh) (s : List Nat) (a : Nat) (ha : a < m.ndim) :
    (originMesh m s).region.lo a + (originMesh m s).region.hi a = 0 := by
  simp only [originMesh, Region.lo, Region.hi]
  rw [getD_tab _ _ _ _ ha, getD_tab _ _ _ _ ha]
  ring

/-! ### geometry of `rMesh k s` for any valid `k` -/

theorem rMesh_ndim (k : Mesh) (s : List Nat) : (rMesh k s).ndim = k.ndim := by
  simp [rMesh, Mesh.ndim, Region.ndim]

theorem rMesh_edge (k : Mesh) (s : List Nat) (a : Nat) (ha : a < k.ndim) :
    (rMesh k s).region.edge a = 1 / k.cellAt a := by
  simp only [rMesh, Region.edge, Region.lo, Region.hi]
  rw [getD_tab _ _ _ _ ha, getD_tab _ _ _ _ ha]
  ring

theorem rMesh_cellAt (k : Mesh) (s : List Nat) (a : Nat) (ha : a < k.ndim) :
    (rMesh k s).cellAt a = 1 / ((s.getD a 0 : Rat) * k.cellAt a) := by
  unfold Mesh.cellAt
  rw [rMesh_edge k s a ha]
  show 1 / k.cellAt a / ((s.getD a 0 : Nat) : Rat) = _
  rw [div_div, mul_comm]
  rfl

theorem rMesh_inv (k : Mesh) (hk : k.Inv) (s : List Nat) (hl : s.length = k.ndim)
    (hp : ∀ a, a < k.ndim → 0 < s.getD a 0) (hd : hasDup (k.region.dims.map (stripPre "k_")) = false) :
    (rMesh k s).Inv := by
  refine ⟨⟨?_, ?_, ?_, ?_, hd, ?_⟩, ?_, ?_⟩
  · show 0 < (tab k.ndim _).length
    rw [tab_length]; exact hk.1.ndim_pos
  · show (tab k.ndim _).length = (tab k.ndim _).length
    rw [tab_length, tab_length]
  · show (k.region.dims.map _).length = (tab k.ndim _).length
    rw [List.length_map, tab_length]; exact hk.dims_length
  · show (k.region.units.map _).length = (tab k.ndim _).length
    rw [List.length_map, tab_length]; exact hk.1.units_length
  · intro a ha
    have ha' : a < k.ndim := by rwa [show (rMesh k s).region.pmin.length = k.ndim from tab_length _ _] at ha
    have hc := hk.cellAt_pos ha'
    have : (rMesh k s).region.hi a - (rMesh k s).region.lo a = 1 / k.cellAt a := rMesh_edge k s a ha'
    have h1 : 0 < 1 / k.cellAt a := by positivity
    linarith
  · show s.length = (tab k.ndim _).length
    rw [tab_length]; exact hl
  · intro a ha
    rw [rMesh_ndim] at ha
    exact hp a ha

/-! ### the k-mesh depends on counts, extents, names, units, tolerance — not on the position -/

theorem kMesh_congr (m m' : Mesh) (rfft : Bool) (h1 : m'.ndim = m.ndim) (h2 : m'.n = m.n)
    (h3 : ∀ a, a < m.ndim → m'.region.edge a = m.region.edge a)
    (hd : m'.region.dims = m.region.dims) (hu : m'.region.units = m.region.units)
    (ht : m'.region.tol = m.region.tol) : kMesh m' rfft = kMesh m rfft := by
  have hn : ∀ a, m'.nAt a = m.nAt a := fun a => by unfold Mesh.nAt; rw [h2]
  have hc : ∀ a, a < m.ndim → m'.cellAt a = m.cellAt a := fun a ha => by
    unfold Mesh.cellAt; rw [h3 a ha, hn a]
  unfold kMesh
  rw [h1, hd, hu, ht]
  have e1 : tab m.ndim (kP1 m' rfft) = tab m.ndim (kP1 m rfft) :=
    tab_congr _ _ _ (fun a ha => by simp only [kP1, kFreqs, hn, hc a ha, h1])
  have e2 : tab m.ndim (kP2 m' rfft) = tab m.ndim (kP2 m rfft) :=
    tab_congr _ _ _ (fun a ha => by simp only [kP2, kFreqs, hn, hc a ha, h1])
  have e3 : tab m.ndim (kN m' rfft) = tab m.ndim (kN m rfft) :=
    tab_congr _ _ _ (fun a ha => by simp only [kN, kFreqs, hn, hc a ha, h1])
  rw [e1, e2, e3]

theorem originMesh_edge (m : Mesh) (s : List Nat) (a : Nat) (ha : a < m.ndim) :
    (originMesh m s).region.edge a = m.region.edge a := by
  simp only [originMesh, Region.edge, Region.lo, Region.hi]
  rw [getD_tab _ _ _ _ ha, getD_tab _ _ _ _ ha]
  ring

theorem kMesh_originMesh (m : Mesh) (rfft : Bool) : kMesh (originMesh m m.n) rfft = kMesh m rfft :=
  kMesh_congr m (originMesh m m.n) rfft (by simp [originMesh, Mesh.ndim, Region.ndim]) rfl
    (fun a ha => originMesh_edge m m.n a ha) rfl rfl rfl

/-! ### `Mesh.fftn ∘ Mesh.ifftn` on any valid k-mesh -/

theorem rMesh_nAt (k : Mesh) (s : List Nat) (a : Nat) : (rMesh k s).nAt a = s.getD a 0 := rfl
theorem rMesh_nAt_self (k : Mesh) (a : Nat) : (rMesh k k.n).nAt a = k.nAt a := rfl

/-- the k-mesh of a real-space mesh `Mesh.ifftn` returns has the cell sizes of the k-mesh it was made from, for both
kinds and whatever the counts `s`: one period `1/cell_k` is `s_a` cells, and the k-cell of those is `cell_k` again -/
theorem kMesh_rMesh_cellAt (k : Mesh) (hk : k.Inv) (hd : hasDup (k.region.dims.map (stripPre "k_")) = false)
    (s : List Nat) (hl : s.length = k.ndim) (hp : ∀ a, a < k.ndim → 0 < s.getD a 0) (rfft : Bool)
    (a : Nat) (ha : a < k.ndim) : (kMesh (rMesh k s) rfft).cellAt a = k.cellAt a := by
  have ha' : a < (rMesh k s).ndim := by rw [rMesh_ndim]; exact ha
  rw [kMesh_cellAt _ rfft (rMesh_inv k hk s hl hp hd) a ha', rMesh_cellAt k s a ha, rMesh_nAt]
  have hn0 : ((s.getD a 0 : Nat) : Rat) ≠ 0 := ne_of_gt (Nat.cast_pos.mpr (hp a ha))
  have hc0 : k.cellAt a ≠ 0 := ne_of_gt (hk.cellAt_pos ha)
  field_simp

/-- with its own counts, the full transform's k-mesh has them again -/
theorem kMesh_rMesh_cell (k : Mesh) (hk : k.Inv) (hd : hasDup (k.region.dims.map (stripPre "k_")) = false)
    (a : Nat) (ha : a < k.ndim) :
    (kMesh (rMesh k k.n) false).nAt a = k.nAt a ∧ (kMesh (rMesh k k.n) false).cellAt a = k.cellAt a := by
  refine ⟨?_, kMesh_rMesh_cellAt k hk hd k.n hk.n_length (fun _ ha => hk.nAt_pos ha) false a ha⟩
  rw [kMesh_nAt _ false a (by rw [rMesh_ndim]; exact ha), kN_full _ false a (by simp)]; rfl

/-- a k-mesh in the position, with the names and units `Mesh.fftn` produces: cell `⌊n/2⌋` centred
at frequency 0 on every axis, names `k_…`, units `(…)$^{-1}$`, no bc, no subregions -/
structure KCanonical (k : Mesh) : Prop where
  bc : k.bc = ""
  subs : k.subs = []
  dims : (k.region.dims.map (stripPre "k_")).map kDim = k.region.dims
  units : (k.region.units.map stripUnit).map kUnit = k.region.units
  pos : ∀ a, a < k.ndim → k.region.lo a = -(((k.nAt a / 2 : Nat) : Rat) + 1 / 2) * k.cellAt a

theorem kMesh_canonical (m : Mesh) (hm : m.Inv) : KCanonical (kMesh m false) := by
  refine ⟨rfl, rfl, ?_, ?_, ?_⟩
  · show ((m.region.dims.map kDim).map (stripPre "k_")).map kDim = m.region.dims.map kDim
    rw [map_strip_kDim]
  · show ((m.region.units.map kUnit).map stripUnit).map kUnit = m.region.units.map kUnit
    rw [map_strip_kUnit]
  · intro a ha
    rw [kMesh_ndim] at ha
    rw [kMesh_lo m false a ha, kMesh_cellAt m false hm a ha, kMesh_nAt m false a ha, kN_full m false a (by simp),
      kP1_eq m false a (hm.nAt_pos ha) (hm.cellAt_pos ha), kLo]
    simp only [Bool.false_and, Bool.false_eq_true, if_false, Int.cast_neg, Int.cast_natCast]
    ring

/-- **`Mesh.fftn ∘ Mesh.ifftn` restores exactly the canonical k-meshes** -/
theorem kMesh_rMesh_of_canonical (k : Mesh) (hk : k.Inv) (hd : hasDup (k.region.dims.map (stripPre "k_")) = false)
    (hc : KCanonical k) : kMesh (rMesh k k.n) false = k := by
  have hr := rMesh_inv k hk k.n hk.n_length (fun _ ha => hk.nAt_pos ha) hd
  have hnd : (rMesh k k.n).ndim = k.ndim := rMesh_ndim k k.n
  have hpos : ∀ a, a < k.ndim → 0 < (rMesh k k.n).cellAt a := fun a ha => hr.cellAt_pos (by rw [hnd]; exact ha)
  -- one period: `n` cells of the real-space mesh span `1/cell_k`
  have hcell : ∀ a, a < k.ndim → ((rMesh k k.n).nAt a : Rat) * (rMesh k k.n).cellAt a = 1 / k.cellAt a := by
    intro a ha
    rw [C01.cellAt_cover (rMesh k k.n) a (hk.nAt_pos ha)]
    exact rMesh_edge k k.n a ha
  have hlo : ∀ a, a < k.ndim → kP1 (rMesh k k.n) false a = k.region.lo a := by
    intro a ha
    have hc0 : k.cellAt a ≠ 0 := (hk.cellAt_pos ha).ne'
    rw [kP1_eq (rMesh k k.n) false a (hk.nAt_pos ha) (hpos a ha), hcell a ha, hc.pos a ha, kLo, rMesh_nAt_self]
    simp only [Bool.false_and, Bool.false_eq_true, if_false, Int.cast_neg, Int.cast_natCast]
    field_simp
    ring
  have hhi : ∀ a, a < k.ndim → kP2 (rMesh k k.n) false a = k.region.hi a := by
    intro a ha
    have hc0 : k.cellAt a ≠ 0 := (hk.cellAt_pos ha).ne'
    rw [kP2_eq_add (rMesh k k.n) false a (hk.nAt_pos ha) (hpos a ha), hlo a ha, hcell a ha, kN_full _ false a (by simp),
      rMesh_nAt_self, C01.hi_eq k a (hk.nAt_pos ha)]
    field_simp
  have e : kMesh (rMesh k k.n) false
      = ⟨⟨k.region.pmin, k.region.pmax, k.region.dims, k.region.units, k.region.tol⟩, k.n, k.bc, k.subs⟩ := by
    unfold kMesh
    rw [hnd, hc.bc, hc.subs]
    have e1 : tab k.ndim (kP1 (rMesh k k.n) false) = k.region.pmin := by
      symm; apply eq_tab_of_getD _ _ _ 0 rfl
      intro a ha; exact (hlo a ha).symm
    have e2 : tab k.ndim (kP2 (rMesh k k.n) false) = k.region.pmax := by
      symm; apply eq_tab_of_getD _ _ _ 0 hk.1.pmax_length
      intro a ha; exact (hhi a ha).symm
    have e3 : tab k.ndim (kN (rMesh k k.n) false) = k.n := by
      symm; apply eq_tab_of_getD _ _ _ 0 hk.n_length
      intro a _; rw [kN_full _ false a (by simp)]; rfl
    rw [e1, e2, e3]
    show (⟨⟨_, _, (k.region.dims.map (stripPre "k_")).map kDim, (k.region.units.map stripUnit).map kUnit, k.region.tol⟩,
      _, _, _⟩ : Mesh) = _
    rw [hc.dims, hc.units]
  rw [e]

/-- the same for the real transform: counts `halfShape s` and the k-mesh's cell sizes -/
theorem kMesh_rMesh_cell_half (k : Mesh) (hk : k.Inv) (hd : hasDup (k.region.dims.map (stripPre "k_")) = false)
    (s : List Nat) (hl : s.length = k.ndim) (hp : ∀ a, a < k.ndim → 0 < s.getD a 0) :
    (kMesh (rMesh k s) true).n = halfShape s ∧
    ∀ a, a < k.ndim → (kMesh (rMesh k s) true).cellAt a = k.cellAt a :=
  ⟨kMesh_n_half _ (rMesh_inv k hk s hl hp hd), kMesh_rMesh_cellAt k hk hd s hl hp true⟩

/-! ### concrete meshes for the non-vacuity examples of `Props/C11.lean` -/

/-- a 3-d mesh with a negative offset, anisotropic cells and an odd, a single-cell and an even
axis (`n = (3, 1, 2)`) -/
def exMesh : Mesh :=
  ⟨⟨[-1/2, 0, 3], [1, 2, 7/2], ["x", "y", "z"], ["m", "nm", "s"], 1/1000000000000⟩, [3, 1, 2], "", []⟩

theorem exMesh_inv : exMesh.Inv := C01.mesh_inv_of_invB _ (by decide +kernel)

/-- a valid 2-d mesh whose names collide once `k_` is stripped -/
def exCollide : Mesh := ⟨⟨[0, 0], [1, 1], ["k_x", "x"], ["m", "m"], 1/1000000000000⟩, [2, 3], "", []⟩

theorem exCollide_inv : exCollide.Inv := C01.mesh_inv_of_invB _ (by decide +kernel)

end DFV.C11
