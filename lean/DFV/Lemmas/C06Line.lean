import DFV.Lemmas.C06Rot
/-! Directional sums under quarter turns (C06): the line of cells through a cell of the turned
field along axis `a` is the line through the source cell along the axis that was turned onto `a`
(traversed forwards or backwards), so directional integrals and means follow the axes.  At the end:
a quarter turn creates no subregion (`rotate90F_subs_nil`). -/
namespace DFV.C06
open DFV DFV.T

/-- is component `b` of the source index counted from the far end of its axis?  (The rows of `T.srcPair_cases`: of
the pair `(p, q)` a half turn reverses both axes, `k ≡ 3` the first and `k ≡ 1` the second.) -/
def srcRev (p q : Nat) (k : Int) (b : Nat) : Bool :=
  if b = p then (k % 4 = 2 ∨ k % 4 = 3) else if b = q then (k % 4 = 2 ∨ k % 4 = 1) else false

/-- component `b` of the source index is component `rotSrc b` of the index, counted forwards or
backwards -/
theorem srcIdx_getD (sh j : List Nat) (p q : Nat) (k : Int) (hpq : p ≠ q) (hp : p < sh.length) (hq : q < sh.length)
    (hjl : j.length = sh.length) (b : Nat) :
    (srcIdx sh p q k j).getD b 0 =
      if srcRev p q k b then sh.getD b 0 - 1 - j.getD (rotSrc p q k b) 0 else j.getD (rotSrc p q k b) 0 := by
  obtain ⟨ep, eq, eo⟩ := srcIdx_pair sh j p q k hpq (hjl ▸ hp) (hjl ▸ hq) hjl.symm
  have hqp := hpq.symm
  -- on the two axes of the plane one row of the table of quarter turns each; the other axes are untouched
  by_cases e1 : b = p
  · subst e1
    rw [ep]
    rcases srcPair_cases (sh.getD b 0) (sh.getD q 0) k (j.getD b 0) (j.getD q 0) with
      ⟨hk, ho, _, _, e⟩ | ⟨hk, ho, _, _, e⟩ | ⟨hk, ho, _, _, e⟩ | ⟨hk, ho, _, _, e⟩ <;>
      rw [e] <;> simp [srcRev, rotSrc, hk, ho]
  · by_cases e2 : b = q
    · subst e2
      rw [eq]
      rcases srcPair_cases (sh.getD p 0) (sh.getD b 0) k (j.getD p 0) (j.getD b 0) with
        ⟨hk, ho, _, _, e⟩ | ⟨hk, ho, _, _, e⟩ | ⟨hk, ho, _, _, e⟩ | ⟨hk, ho, _, _, e⟩ <;>
        rw [e] <;> simp [srcRev, rotSrc, hk, ho, e1]
    · rw [eo b e1 e2]
      simp [srcRev, rotSrc, e1, e2]

theorem srcIdx_setAt (sh j : List Nat) (p q : Nat) (k : Int) (hpq : p ≠ q) (hp : p < sh.length) (hq : q < sh.length)
    (hjl : j.length = sh.length) (a : Nat) (ha : a < sh.length) (t : Nat) :
    srcIdx sh p q k (setAt j a t) = setAt (srcIdx sh p q k j) (rotSrc p q k a)
      (if srcRev p q k (rotSrc p q k a) then sh.getD (rotSrc p q k a) 0 - 1 - t else t) := by
  have hJl : (srcIdx sh p q k j).length = sh.length := by rw [srcIdx_length, hjl]
  apply list_eq_of_getD _ _ 0
  · rw [srcIdx_length, length_setAt, length_setAt, srcIdx_length]
  · intro b _
    rw [srcIdx_getD sh _ p q k hpq hp hq (by rw [length_setAt, hjl]) b, getD_setAt j, getD_setAt (srcIdx sh p q k j),
      srcIdx_getD sh j p q k hpq hp hq hjl b, hJl, hjl]
    by_cases hb : b = rotSrc p q k a
    · subst hb
      rw [rotSrc_rotSrc]
      simp only [true_and, ha, rotSrc_lt p q k a _ hp hq ha, if_true]
    · have hb' : ¬ rotSrc p q k b = a := fun h => hb (by rw [← h, rotSrc_rotSrc])
      simp only [hb, hb', false_and, if_false]

/-- **sums along lines follow the axes**: summing along axis `a` through cell `j` of the turned
array is summing along axis `rotSrc a` through the source cell of `j` -/
theorem lineSum_rot (sh j : List Nat) (p q : Nat) (k : Int) (hpq : p ≠ q) (hp : p < sh.length) (hq : q < sh.length)
    (hjl : j.length = sh.length) (a : Nat) (ha : a < sh.length) (G : List Nat → Rat) :
    sumTo ((rotN sh p q k).getD a 0) (fun t => G (srcIdx sh p q k (setAt j a t)))
      = sumTo (sh.getD (rotSrc p q k a) 0) (fun u => G (setAt (srcIdx sh p q k j) (rotSrc p q k a) u)) := by
  rw [rotN_getD sh p q k hpq hp hq a]
  have e : (fun t => G (srcIdx sh p q k (setAt j a t)))
      = fun t => G (setAt (srcIdx sh p q k j) (rotSrc p q k a)
          (if srcRev p q k (rotSrc p q k a) then sh.getD (rotSrc p q k a) 0 - 1 - t else t)) := by
    funext t; rw [srcIdx_setAt sh j p q k hpq hp hq hjl a ha t]
  rw [e]
  cases srcRev p q k (rotSrc p q k a) with
  | false => rfl
  | true =>
    simp only [if_true]
    exact sumTo_reverse _ (fun u => G (setAt (srcIdx sh p q k j) (rotSrc p q k a) u))

/-- **Directional integrals follow the axes under a quarter turn.**  `integrate(d)` of the turned
field, at the reduced cell `i`, is the cell length of the axis that was turned onto `d` times the
sum along THAT axis of the field through the source cell of `i` - with the two mapped components
of a vector field turned by the quarter-turn matrix. -/
theorem rot_dir_vals (f : Fld) (hf : WF f) (hl : CellLen f) (a1 a2 : String) (k : Int) (ref : Option (List Rat))
    (b : Bool) (x g : Fld) (h : rotate90F f a1 a2 k ref b = .ok (x, g)) (d : String) (r : Res)
    (hr : integrate g (.name d) false = .ok r) :
    ∃ i1 i2 a, f.mesh.region.dim2index a1 = .ok i1 ∧ f.mesh.region.dim2index a2 = .ok i2 ∧
      f.mesh.region.dim2index d = .ok a ∧ a < f.mesh.ndim ∧ rotSrc i1 i2 k a < f.mesh.ndim ∧
      r.shape = removeAt (rotN f.mesh.n i1 i2 k) a ∧
      ∀ i c, inRange (removeAt (rotN f.mesh.n i1 i2 k) a) i = true → c < f.nvdim →
        inRange f.mesh.n (srcIdx f.mesh.n i1 i2 k (insertAt i a 0)) = true ∧
        r.cval i c = (turnVals f a1 a2 k (tab f.nvdim fun c' =>
          f.mesh.cellAt (rotSrc i1 i2 k a) * sumTo (f.mesh.nAt (rotSrc i1 i2 k a))
            (fun u => cget f.data (setAt (srcIdx f.mesh.n i1 i2 k (insertAt i a 0)) (rotSrc i1 i2 k a) u) c'))).getD c 0 := by
  -- `dir_cval` on the turned field: cell length × sum along axis `a`; each of its cells is the source cell with the
  -- components turned (`Turned.data`); by `lineSum_rot` the line along `a` is the line along `rotSrc a` through the
  -- source cell; the turn commutes with that line functional (`turnVals_comm`).
  obtain ⟨i1, i2, t⟩ := rotate90F_turned f hf a1 a2 k ref b x g h
  obtain ⟨a, hax, haxlt, hrs, _, hval⟩ := dir_cval g t.wf d r hr
  rw [dim2index_congr f.mesh.region g.mesh.region t.dims d] at hax
  rw [t.ndim] at haxlt
  rw [t.n] at hrs hval
  have hp1 : i1 < f.mesh.n.length := hf.2 ▸ t.sh1 hf
  have hp2 : i2 < f.mesh.n.length := hf.2 ▸ t.sh2 hf
  have han : a < f.mesh.n.length := by rw [hf.1.n_length]; exact haxlt
  have hsrc : rotSrc i1 i2 k a < f.mesh.ndim := rotSrc_lt i1 i2 k a _ t.lt1 t.lt2 haxlt
  have hpos' := rotN_pos f.mesh.n i1 i2 k hp1 hp2 (Mesh.Inv.mem_n_pos hf.1)
  refine ⟨i1, i2, a, t.d1, t.d2, hax, haxlt, hsrc, hrs, ?_⟩
  intro i c hi hc
  -- the full index with 0 inserted, and its source cell
  have hrl : (rotN f.mesh.n i1 i2 k).length = f.mesh.n.length := rotN_length _ _ _ _
  have hila := inRange_length _ _ hi
  have hrm := length_removeAt (rotN f.mesh.n i1 i2 k) a (by rw [hrl]; exact han)
  have hai : a ≤ i.length := by omega
  have h0 : 0 < (rotN f.mesh.n i1 i2 k).getD a 0 := by
    have hmem : (rotN f.mesh.n i1 i2 k).getD a 0 ∈ rotN f.mesh.n i1 i2 k := by
      rw [List.getD_eq_getElem?_getD, List.getElem?_eq_getElem (by rw [hrl]; exact han)]
      exact List.getElem_mem _
    exact hpos' _ hmem
  have hj0 : inRange (rotN f.mesh.n i1 i2 k) (insertAt i a 0) = true :=
    inRange_insertAt _ i a 0 (by rw [hrl]; exact han) hi h0
  have hj0l : (insertAt i a 0).length = f.mesh.n.length := by rw [inRange_length _ _ hj0, hrl]
  have hJ : inRange f.mesh.n (srcIdx f.mesh.n i1 i2 k (insertAt i a 0)) = true :=
    srcIdx_inRange f.mesh.n _ i1 i2 k t.ne hp1 hp2 hj0
  refine ⟨hJ, ?_⟩
  rw [hval i c hi (by rw [t.nvdim]; exact hc)]
  have hgn : g.mesh.nAt a = (rotN f.mesh.n i1 i2 k).getD a 0 := by unfold Mesh.nAt; rw [t.n]
  refine Eq.trans ?_ (turnVals_comm f a1 a2 k
    (fun G => f.mesh.cellAt (rotSrc i1 i2 k a) * sumTo (f.mesh.nAt (rotSrc i1 i2 k a))
      fun u => G (setAt (srcIdx f.mesh.n i1 i2 k (insertAt i a 0)) (rotSrc i1 i2 k a) u))
    (fun s => inRange f.data.shape s = true) (fun α β G H => by rw [sumTo_lin]; ring)
    (fun G H e => by
      rw [sumTo_congr _ _ _ fun u hu => e _ (by rw [hf.2]; exact inRange_setAt _ _ _ _ hJ hu)])
    f.data.get hl c hc)
  rw [t.cellAt a haxlt, hgn, sumTo_congr _ _
    (fun u => (turnVals f a1 a2 k (f.data.get (srcIdx f.mesh.n i1 i2 k (setAt (insertAt i a 0) a u)))).getD c 0)
    fun u _ => by unfold cget; rw [t.data, hf.2, setAt_insertAt_self i a 0 u hai]]
  exact congrArg _ (lineSum_rot f.mesh.n (insertAt i a 0) i1 i2 k t.ne hp1 hp2 hj0l a han
    fun s => (turnVals f a1 a2 k (f.data.get s)).getD c 0)

theorem rotate90F_subs_nil (f : Fld) (hs : f.mesh.subs = []) (a1 a2 : String) (k : Int) (ref : Option (List Rat))
    (b : Bool) (x g : Fld) (h : rotate90F f a1 a2 k ref b = .ok (x, g)) : g.mesh.subs = [] := by
  obtain ⟨y, m', _, _, hm', _, _, e1, _⟩ := rotate90F_inv f a1 a2 k ref b x g h
  obtain ⟨_, _, _, _, _, _, hfa⟩ := stepM_rot_subs f.mesh (by intro p hp; rw [hs] at hp; simp at hp) a1 a2 k ref false y m' hm'
  rw [hs] at hfa
  rw [e1]
  cases hms : m'.subs with
  | nil => rfl
  | cons q qs => rw [hms] at hfa; cases hfa

end DFV.C06
