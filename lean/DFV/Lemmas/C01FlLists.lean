import DFV.Lemmas.C01Fl
/-! The per-axis lists and the products as computed: `np.linspace` in rounded arithmetic (`linspaceFl`) against
the exact formula, the rounded half cell that `Mesh.cells` adds to `pmin` and subtracts from `pmax`, and
`np.prod` (`prodFl`: sequential `acc = fl(acc·x)`) of perturbed positive factors, for tables of any length. -/
namespace DFV.C01
open DFV DFV.Mesh

/-- entry `j` of `np.linspace(A, B, N + 1)` as computed (not the overwritten last one) is within
`10u·M` of `A + j·(B − A)/N`, where `M` bounds `|A|`, `|B|` -/
theorem linspace_entry_err (R : Rounding) (A B M : Rat) (N j : Nat) (hN : 0 < N) (hj : j ≤ N)
    (hA : |A| ≤ M) (hB : |B| ≤ M) :
    |R.fl (R.fl ((j : Rat) * R.fl (R.fl (B - A) / (N : Rat))) + A) - (A + (j : Rat) * ((B - A) / (N : Rat)))|
      ≤ 10 * R.u * M := by
  have hu := R.u_nonneg
  have hNq : (0 : Rat) < (N : Rat) := by exact_mod_cast hN
  have hjq : (0 : Rat) ≤ (j : Rat) := Nat.cast_nonneg j
  have hjN : (j : Rat) ≤ (N : Rat) := by exact_mod_cast hj
  -- `|j·s| ≤ |B − A| ≤ 2M` for the exact step `s`
  have hs : |(j : Rat) * ((B - A) / (N : Rat))| ≤ 2 * M := by
    rw [abs_mul, abs_div, abs_of_nonneg hjq, abs_of_pos hNq, ← mul_div_assoc, div_le_iff₀ hNq, mul_comm]
    exact (mul_le_mul_of_nonneg_left hjN (abs_nonneg _)).trans
      (mul_le_mul_of_nonneg_right ((abs_sub B A).trans (by linarith only [hA, hB])) hNq.le)
  have h1 : |(j : Rat) * R.fl (R.fl (B - A) / (N : Rat)) - (j : Rat) * ((B - A) / (N : Rat))|
      ≤ 33 / 16 * R.u * (2 * M) :=
    (err_mul _ _ _ _ (quot_err2 R (B - A) N)).trans
      (mul_le_mul R.two_le hs (abs_nonneg _) (by positivity))
  have h2 := R.step h1
  have h3 := R.step (x := (j : Rat) * ((B - A) / (N : Rat)) + A)
    (y := R.fl ((j : Rat) * R.fl (R.fl (B - A) / (N : Rat))) + A)
    (E := 17 / 16 * (33 / 16 * R.u * (2 * M)) + R.u * (2 * M))
    (by rw [add_sub_add_right_eq_sub]; exact h2.trans (by linarith only [mul_le_mul_of_nonneg_left hs hu]))
  have t := mul_le_mul_of_nonneg_left ((abs_add_le _ A).trans (add_le_add hs hA)) hu
  have huM := mul_nonneg hu ((abs_nonneg A).trans hA)
  rw [add_comm A]
  linarith only [h3, t, huM]

theorem linspaceFl_getD (fl : Rat → Rat) (a b : Rat) (N j : Nat) (hN : 0 < N) (hj : j ≤ N) :
    (linspaceFl fl a b (N + 1)).getD j 0
      = if j = N then b else fl (fl ((j : Rat) * fl (fl (b - a) / (N : Rat))) + a) := by
  unfold linspaceFl
  rw [if_neg (by omega), getD_tab _ _ _ _ (by omega)]
  simp only [Nat.add_right_cancel_iff, Nat.cast_add, Nat.cast_one, add_sub_cancel_right]

theorem linspace_last (A B : Rat) (N : Nat) (hN : 0 < N) : A + (N : Rat) * ((B - A) / (N : Rat)) = B := by
  rw [mul_div_cancel₀ _ (by exact_mod_cast hN.ne' : (N : Rat) ≠ 0)]; ring

theorem interp_perturb (A B A' B' th d : Rat) (h0 : 0 ≤ th) (h1 : th ≤ 1)
    (hA : |A' - A| ≤ d) (hB : |B' - B| ≤ d) :
    |(A' + th * (B' - A')) - (A + th * (B - A))| ≤ d := by
  have e : (A' + th * (B' - A')) - (A + th * (B - A)) = (1 - th) * (A' - A) + th * (B' - B) := by ring
  rw [e]
  have t := abs_add_le ((1 - th) * (A' - A)) (th * (B' - B))
  rw [abs_mul, abs_mul, abs_of_nonneg h0, abs_of_nonneg (by linarith : 0 ≤ 1 - th)] at t
  have a1 : (1 - th) * |A' - A| ≤ (1 - th) * d := mul_le_mul_of_nonneg_left hA (by linarith)
  have a2 : th * |B' - B| ≤ th * d := mul_le_mul_of_nonneg_left hB h0
  linarith

/-- `np.linspace` between computed end points `A'`, `B'`, each within `d` of `A`, `B`: every entry `j ≤ N`, the
overwritten last one included, is within `10u·(M + d) + d` of the exact entry for `A`, `B` -/
theorem linspaceFl_entry_perturbed (R : Rounding) (A B A' B' M d : Rat) (N j : Nat) (hN : 0 < N) (hj : j ≤ N)
    (hA : |A| ≤ M) (hB : |B| ≤ M) (hA' : |A' - A| ≤ d) (hB' : |B' - B| ≤ d) :
    |(linspaceFl R.fl A' B' (N + 1)).getD j 0 - (A + (j : Rat) * ((B - A) / (N : Rat)))|
      ≤ 10 * R.u * (M + d) + d := by
  rw [linspaceFl_getD _ _ _ _ _ hN hj]
  split
  · next h =>
    rw [h, linspace_last A B N hN]
    have := mul_nonneg (mul_nonneg (by norm_num : (0 : Rat) ≤ 10) R.u_nonneg)
      (add_nonneg ((abs_nonneg _).trans hA) ((abs_nonneg _).trans hA'))
    linarith
  · -- the computed formula between `A'`, `B'` against the exact one, then the end points moved back to `A`, `B`
    have hNq : (0 : Rat) < (N : Rat) := by exact_mod_cast hN
    have k1 := linspace_entry_err R A' B' (M + d) N j hN hj
      (by linarith only [hA, hA', abs_sub_abs_le_abs_sub A' A]) (by linarith only [hB, hB', abs_sub_abs_le_abs_sub B' B])
    have k2 := interp_perturb A B A' B' ((j : Rat) / (N : Rat)) d (by positivity)
      ((div_le_one hNq).mpr (by exact_mod_cast hj)) hA' hB'
    rw [div_mul_eq_mul_div, div_mul_eq_mul_div] at k2
    rw [← mul_div_assoc] at k1 ⊢
    exact (abs_sub_le _ _ _).trans (add_le_add k1 k2)

/-- … in particular between exact end points: within `10u·M` of the exact entry -/
theorem linspaceFl_entry_err (R : Rounding) (A B M : Rat) (N j : Nat) (hN : 0 < N) (hj : j ≤ N)
    (hA : |A| ≤ M) (hB : |B| ≤ M) :
    |(linspaceFl R.fl A B (N + 1)).getD j 0 - (A + (j : Rat) * ((B - A) / (N : Rat)))| ≤ 10 * R.u * M := by
  simpa using linspaceFl_entry_perturbed R A B A B M 0 N j hN hj hA hB (by simp) (by simp)

/-- the rounded half of the computed cell size is within `16/5·u·M` of `cell/2` (`cell/2 ≤ M`) -/
theorem half_cell_err (R : Rounding) (c c' M : Rat) (hc : 0 < c) (hcM : c / 2 ≤ M)
    (hcc : |c' - c| ≤ (2 * R.u + R.u * R.u) * c) : |R.fl (c' / 2) - c / 2| ≤ 16 / 5 * R.u * M := by
  have h0 : |c' / 2 - c / 2| ≤ 33 / 16 * R.u * (c / 2) := by
    rw [← sub_div, abs_div, abs_of_pos (by norm_num : (0 : Rat) < 2)]
    have := hcc.trans (mul_le_mul_of_nonneg_right R.two_le hc.le)
    linarith only [this]
  have h1 := R.step h0
  rw [abs_of_pos (half_pos hc)] at h1
  have h2 := mul_le_mul_of_nonneg_left hcM R.u_nonneg
  have h3 := mul_nonneg R.u_nonneg (half_pos hc).le
  linarith only [h1, h2, h3]

/-- the end points `pmin + cell/2`, `pmax − cell/2` that `Mesh.cells` hands to `np.linspace` lie between
the corners, and the computed ones are within `6u·M` of them (`M ≥ |pmin|, |pmax|`) -/
theorem cells_ends_err (R : Rounding) (lo hi c c' M n : Rat) (hc : 0 < c) (hn : 1 ≤ n)
    (hcov : n * c = hi - lo) (hlo : |lo| ≤ M) (hhi : |hi| ≤ M)
    (hcc : |c' - c| ≤ (2 * R.u + R.u * R.u) * c) :
    (|lo + c / 2| ≤ M ∧ |hi - c / 2| ≤ M) ∧
    |R.fl (lo + R.fl (c' / 2)) - (lo + c / 2)| ≤ 6 * R.u * M ∧
    |R.fl (hi - R.fl (c' / 2)) - (hi - c / 2)| ≤ 6 * R.u * M := by
  have hu := R.u_nonneg
  have huM : 0 ≤ R.u * M := mul_nonneg hu ((abs_nonneg _).trans hlo)
  have hnc := mul_le_mul_of_nonneg_right hn hc.le
  rw [abs_le] at hlo hhi
  have hstart : |lo + c / 2| ≤ M :=
    abs_le.mpr ⟨by linarith only [hlo.1, hc], by linarith only [hhi.2, hcov, hnc, hc]⟩
  have hstop : |hi - c / 2| ≤ M :=
    abs_le.mpr ⟨by linarith only [hlo.1, hcov, hnc, hc], by linarith only [hhi.2, hc]⟩
  have hh := half_cell_err R c c' M hc (by linarith only [hnc, hcov, hlo.1, hhi.2]) hcc
  refine ⟨⟨hstart, hstop⟩, ?_, ?_⟩
  · have := R.step (x := lo + c / 2) (y := lo + R.fl (c' / 2)) (E := 16 / 5 * R.u * M)
      (by rwa [add_sub_add_left_eq_sub])
    linarith only [this, huM, mul_le_mul_of_nonneg_left hstart hu]
  · have := R.step (x := hi - c / 2) (y := hi - R.fl (c' / 2)) (E := 16 / 5 * R.u * M)
      (by rwa [sub_sub_sub_cancel_left, abs_sub_comm])
    linarith only [this, huM, mul_le_mul_of_nonneg_left hstop hu]

/-! ### `np.prod` -/

/-- `np.prod` takes the first factor as it is, then multiplies from the left and rounds each time -/
theorem prodFl_snoc (fl : Rat → Rat) (x : Rat) (l : List Rat) (y : Rat) :
    prodFl fl (x :: l ++ [y]) = fl (prodFl fl (x :: l) * y) := by
  simp [prodFl, List.foldl_append]

/-- `np.prod` of `d + 1` positive factors, each within `ρ`, computed with `d` rounded multiplications
lies within the factors `(1 ∓ ρ)·((1 ∓ ρ)(1 ∓ u))^d` of the exact product.  `prodFl` folds from the left, so
the induction takes the last factor off (`tab_succ`) and its hypothesis is the statement itself. -/
theorem prodFl_tab_bounds (R : Rounding) (ρ : Rat) (hρ1 : ρ ≤ 1) (f' f : Nat → Rat) (d : Nat)
    (h : ∀ a, a < d + 1 → 0 < f a ∧ (1 - ρ) * f a ≤ f' a ∧ f' a ≤ (1 + ρ) * f a) :
    0 < ratProd (tab (d + 1) f) ∧
    (1 - ρ) * ((1 - ρ) * (1 - R.u)) ^ d * ratProd (tab (d + 1) f) ≤ prodFl R.fl (tab (d + 1) f') ∧
    prodFl R.fl (tab (d + 1) f') ≤ (1 + ρ) * ((1 + ρ) * (1 + R.u)) ^ d * ratProd (tab (d + 1) f) := by
  have hρ : 0 ≤ 1 - ρ := sub_nonneg.mpr hρ1
  induction d with
  | zero =>
    obtain ⟨h0, h1, h2⟩ := h 0 (by omega)
    simpa [tab, prodFl, ratProd] using ⟨h0, h1, h2⟩
  | succ d ih =>
    obtain ⟨X0, L, U⟩ := ih fun a ha => h a (by omega)
    obtain ⟨hx, hy1, hy2⟩ := h (d + 1) (by omega)
    rw [tab_succ (d + 1) f, tab_succ (d + 1) f', ratProd_snoc]
    generalize ratProd (tab (d + 1) f) = X at *
    rw [tab_succ_cons d f', prodFl_snoc, ← tab_succ_cons d f']
    generalize prodFl R.fl (tab (d + 1) f') = P at *
    -- `P·y'` lies between the two products; one more rounding
    have hL0 : 0 ≤ (1 - ρ) * ((1 - ρ) * (1 - R.u)) ^ d * X :=
      mul_nonneg (mul_nonneg hρ (pow_nonneg (mul_nonneg hρ R.one_sub_pos.le) d)) X0.le
    have hy0 : 0 ≤ f' (d + 1) := (mul_nonneg hρ hx.le).trans hy1
    have l1 := mul_le_mul L hy1 (mul_nonneg hρ hx.le) (hL0.trans L)
    have u1 := mul_le_mul U hy2 hy0 ((hL0.trans L).trans U)
    obtain ⟨b1, b2⟩ := fl_bounds_of_le R (mul_nonneg hL0 (mul_nonneg hρ hx.le)) l1 u1
    exact ⟨mul_pos X0 hx, b1.trans_eq' (by rw [pow_succ]; ring), b2.trans_eq (by rw [pow_succ]; ring)⟩

end DFV.C01

