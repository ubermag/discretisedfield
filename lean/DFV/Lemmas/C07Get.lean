import DFV.Lemmas.C07Sel
/-! `Mesh.__getitem__` (region / name), `Field.__getitem__`, `region2slices`.  The upper index `ceil - 1` is adjoint to the
face map like `indexAx`; `mesh[region]` is the block of the cells covering the box (`getRegion_iff`), `mesh[name]` the mesh
on a subregion of whole cells (`getName_eq`); `field[item]` slices the arrays at the block's offset.  Defines `BoxIn`,
`blockLo` / `blockHi`, `FldWF` and `SubAligned`. -/
namespace DFV.C07
open DFV DFV.Mesh

/-- `upperIdx` is adjoint to the faces as well: cell `k` lies at or below the upper index of `x`
exactly when its lower face is strictly below `x` -/
theorem le_upperIdx_iff (m : Mesh) (a : Nat) (x : Rat) (k : Int) (hc : 0 < m.cellAt a) :
    k ≤ upperIdx m a x ↔ m.region.lo a + (k : Rat) * m.cellAt a < x := by
  unfold upperIdx
  rw [Int.le_sub_one_iff, Rat.lt_ceil_iff, lt_div_iff₀ hc, lt_sub_iff_add_lt, add_comm]

theorem upperIdx_face (m : Mesh) (a : Nat) (k : Int) (hc : 0 < m.cellAt a) :
    upperIdx m a (m.region.lo a + (k : Rat) * m.cellAt a) = k - 1 := by
  apply le_antisymm
  · have := (le_upperIdx_iff m a _ k hc).not.mpr (lt_irrefl _)
    omega
  · rw [le_upperIdx_iff m a _ _ hc, C01.face_lt hc]
    push_cast; linarith

/-- `ceil(q) - 1 < q ≤ ceil(q)` in the form used for the upper index -/
theorem upperIdx_bounds (m : Mesh) (a : Nat) (x : Rat) (hc : 0 < m.cellAt a) :
    m.region.lo a + (upperIdx m a x : Rat) * m.cellAt a < x ∧
    x ≤ m.region.lo a + ((upperIdx m a x : Rat) + 1) * m.cellAt a := by
  refine ⟨(le_upperIdx_iff m a x _ hc).mp le_rfl, not_lt.mp fun h => ?_⟩
  have := (le_upperIdx_iff m a x (upperIdx m a x + 1) hc).mpr (by push_cast; exact h)
  omega

/-- exact containment of a box in the mesh region, with positive extent -/
def BoxIn (m : Mesh) (item : Region) : Prop :=
  item.ndim = m.ndim ∧ ∀ a, a < m.ndim →
    m.region.lo a ≤ item.lo a ∧ item.lo a < item.hi a ∧ item.hi a ≤ m.region.hi a

theorem upperIdx_range (m : Mesh) (hm : m.Inv) (item : Region) (hbox : BoxIn m item) (a : Nat) (ha : a < m.ndim) :
    0 ≤ upperIdx m a (item.hi a) ∧ upperIdx m a (item.hi a) < (m.nAt a : Int) ∧
    ((m.indexAx a (item.lo a) : Nat) : Int) ≤ upperIdx m a (item.hi a) := by
  have hc := hm.cellAt_pos ha
  have hn := hm.nAt_pos ha
  obtain ⟨b1, b2, b3⟩ := hbox.2 a ha
  obtain ⟨c1, _⟩ := index_contains m a (item.lo a) hn (hm.lo_lt_hi ha) b1 (by linarith)
  refine ⟨?_, ?_, ?_⟩
  · rw [le_upperIdx_iff m a _ _ hc]; push_cast; linarith
  · have := (le_upperIdx_iff m a (item.hi a) (m.nAt a) hc).not.mpr (by
      push_cast; rw [← C01.hi_eq m a hn]; exact not_lt.mpr b3)
    omega
  · rw [le_upperIdx_iff m a _ _ hc]; push_cast; linarith

theorem upperIdxC_eq (m : Mesh) (hm : m.Inv) (item : Region) (hbox : BoxIn m item) (a : Nat) (ha : a < m.ndim) :
    upperIdxC m a (item.hi a) = upperIdx m a (item.hi a) := by
  obtain ⟨h1, h2, _⟩ := upperIdx_range m hm item hbox a ha
  unfold upperIdxC clipInt
  rw [if_neg (by omega), if_neg (by omega)]

/-- lower / upper cell index of the covering block along axis `a` -/
def blockLo (m : Mesh) (item : Region) (a : Nat) : Nat := m.indexAx a (item.lo a)
def blockHi (m : Mesh) (item : Region) (a : Nat) : Nat := (upperIdx m a (item.hi a)).toNat

/-- `mesh[region]` for a box inside the region: accepted exactly when the upper corner has the mesh's dimension, and
then it returns the block from the cell of the lower corner to the cell below the upper corner -/
theorem getRegion_iff (m : Mesh) (hm : m.Inv) (item : Region) (hbox : BoxIn m item) (g : Mesh) :
    getRegion m item = .ok g ↔ item.pmax.length = m.ndim ∧
      g = blockOf m (blockLo m item) (fun b => blockHi m item b - blockLo m item b + 1) := by
  have hex : ∀ a, a < m.ndim → m.region.lo a ≤ item.lo a ∧ item.lo a ≤ m.region.hi a ∧
      m.region.lo a ≤ item.hi a ∧ item.hi a ≤ m.region.hi a := fun a ha => by
    obtain ⟨b1, b2, b3⟩ := hbox.2 a ha
    exact ⟨b1, by linarith, by linarith, b3⟩
  by_cases hpm : item.pmax.length = m.ndim
  · have hcr : m.region.containsReg item = true :=
      C01.containsReg_of_exact _ _ hbox.1 hpm fun a ha => ⟨⟨(hex a ha).1, (hex a ha).2.1⟩, (hex a ha).2.2⟩
    have hrange := fun a ha => upperIdx_range m hm item hbox a ha
    have hfit : ∀ b, b < m.ndim → 0 < blockHi m item b - blockLo m item b + 1 ∧
        blockLo m item b + (blockHi m item b - blockLo m item b + 1) ≤ m.nAt b := fun b hb => by
      obtain ⟨u0, u1, u2⟩ := hrange b hb
      unfold blockHi blockLo
      omega
    unfold getRegion
    rw [hcr]
    simp only [Bool.not_true, Bool.false_eq_true, if_false]
    rw [point2index_eq m item.pmin hbox.1 fun a ha => ⟨(hex a ha).1, (hex a ha).2.1⟩]
    simp only
    rw [index2point_natsToInts m _ fun a ha => C01.indexAx_lt m a (hm.nAt_pos ha) _]
    simp only
    rw [tab_congr _ _ _ fun a ha => upperIdxC_eq m hm item hbox a ha,
      index2point_eq m _ (tab_length _ _) fun a ha => by
        rw [getD_tab _ _ _ _ ha]; exact ⟨(hrange a ha).1, (hrange a ha).2.1⟩]
    simp only
    -- the corners handed to the constructor: lower face of cell `blockLo`, upper face of cell `blockHi`
    rw [show (tab m.ndim fun a => (tab m.ndim fun a => m.centreAx a ((m.indexAx a (item.pmin.getD a 0) : Nat) : Int)).getD a 0
          - m.cellAt a / 2)
        = (blockOf m (blockLo m item) fun b => blockHi m item b - blockLo m item b + 1).region.pmin from
        tab_congr _ _ _ fun a ha => by
          rw [getD_tab _ _ _ _ ha, C01.centreAx_natCast]
          unfold blockLo Region.lo; ring,
      show (tab m.ndim fun a => (tab m.ndim fun a => m.centreAx a ((tab m.ndim fun a =>
          upperIdx m a (item.hi a)).getD a 0)).getD a 0 + m.cellAt a / 2)
        = (blockOf m (blockLo m item) fun b => blockHi m item b - blockLo m item b + 1).region.pmax from
        tab_congr _ _ _ fun a ha => by
          obtain ⟨u0, _, u2⟩ := hrange a ha
          have hle : blockLo m item a ≤ blockHi m item a := by unfold blockHi blockLo; omega
          rw [getD_tab _ _ _ _ ha, getD_tab _ _ _ _ ha, ← Int.toNat_of_nonneg u0]
          show m.centreAx a ((blockHi m item a : Nat) : Int) + _ = _
          rw [C01.centreAx_natCast, Nat.cast_add_one, Nat.cast_sub hle]; ring,
      (blockOf_build m hm _ _ hfit).1]
    simp only
    rw [(blockOf_build m hm _ _ hfit).2]
    exact ⟨fun h => ⟨hpm, (Except.ok.inj h).symm⟩, fun h => by rw [h.2]⟩
  · refine ⟨fun h => ?_, fun h => absurd h.1 hpm⟩
    have hcr : m.region.containsReg item = false := C01.containsReg_false_of_length _ _ (Or.inr hpm)
    unfold getRegion at h
    rw [hcr] at h
    cases h

/-- `mesh[region]` returns the block of the cells `blockLo … blockHi` of every axis, a bare mesh; `blockHi` is the
upper index of the box's upper corner -/
theorem getRegion_inv (m : Mesh) (hm : m.Inv) (item : Region) (hbox : BoxIn m item) (g : Mesh)
    (h : getRegion m item = .ok g) :
    MeshBlock g m (blockLo m item) (fun a => blockHi m item a - blockLo m item a + 1) ∧ g.bc = "" ∧ g.subs = [] ∧
    ∀ a, a < m.ndim → blockLo m item a ≤ blockHi m item a ∧ blockHi m item a < m.nAt a ∧
      upperIdx m a (item.hi a) = (blockHi m item a : Int) := by
  obtain ⟨_, rfl⟩ := (getRegion_iff m hm item hbox g).mp h
  have hr := fun a ha => upperIdx_range m hm item hbox a ha
  exact ⟨.of_blockOf (fun a ha => ⟨Nat.succ_pos _, by have := hr a ha; unfold blockHi blockLo at *; omega⟩) rfl rfl,
    rfl, rfl,
    fun a ha => ⟨by have := hr a ha; unfold blockHi blockLo; omega, by have := hr a ha; unfold blockHi; omega,
      (Int.toNat_of_nonneg (hr a ha).1).symm⟩⟩

/-- projection of `getRegion_iff`: acceptance, with the counts -/
theorem getRegion_ok (m : Mesh) (hm : m.Inv) (item : Region) (hbox : BoxIn m item)
    (hpm : item.pmax.length = m.ndim) :
    ∃ g, getRegion m item = .ok g ∧ g.n = tab m.ndim fun a => blockHi m item a - blockLo m item a + 1 :=
  ⟨_, (getRegion_iff m hm item hbox _).mpr ⟨hpm, rfl⟩, rfl⟩

/-- field well-formedness: mesh invariant and arrays shaped like the mesh -/
def FldWF (f : Fld) : Prop := f.mesh.Inv ∧ f.data.shape = f.mesh.n ∧ f.valid.shape = f.mesh.n

theorem getD_replicate_zero (n a : Nat) : (List.replicate n (0 : Int)).getD a 0 = 0 := by
  rw [List.getD_eq_getElem?_getD]
  by_cases h : a < n <;> simp [h]

/-- `field[item]` when the extracted mesh is a block of whole cells of the source on every axis: the point it
looks up to place the extracted arrays, the centre of the first cell of the extracted mesh, lies in the source
cell at the block's offset -/
theorem block_origin (m sm : Mesh) (hm : m.Inv) (hnd : sm.ndim = m.ndim) (hnl : sm.n.length = m.ndim)
    (off cnt : Nat → Nat) (hcnt : ∀ b, b < m.ndim → 0 < cnt b)
    (hblk : ∀ b, b < m.ndim → AxisBlock sm m b b (off b) (cnt b)) :
    ∃ p0, sm.index2point (List.replicate sm.ndim 0) = .ok p0 ∧ m.point2index p0 = .ok (tab m.ndim off) := by
  have h0 : inRange sm.n (tab m.ndim fun _ => 0) = true := by
    rw [← hnl]
    exact DFV.inRange_tab _ _ fun b hb => by
      show 0 < sm.nAt b; rw [(hblk b (hnl ▸ hb)).n]; exact hcnt b (hnl ▸ hb)
  refine ⟨sm.centre (tab m.ndim fun _ => 0), ?_, ?_⟩
  · rw [index2point_eq sm _ (by simp) fun b hb => by
      rw [getD_replicate_zero]
      have : 0 < sm.nAt b := by rw [(hblk b (hnd ▸ hb)).n]; exact hcnt b (hnd ▸ hb)
      exact ⟨le_rfl, by exact_mod_cast this⟩]
    exact congrArg _ (tab_congr _ _ _ fun b hb => by rw [getD_replicate_zero, getD_tab _ _ _ _ (hnd ▸ hb)]; rfl)
  · rw [block_point2index m sm hm hnd hnl off cnt hblk _ h0]
    exact congrArg _ (tab_congr _ _ _ fun b hb => by rw [getD_tab _ _ _ _ hb, Nat.add_zero])

theorem getItem_block (f : Fld) (hf : FldWF f) (item : Item) (sm : Mesh) (hsm : getMesh f.mesh item = .ok sm)
    (hnd : sm.ndim = f.mesh.ndim) (hnl : sm.n.length = f.mesh.ndim)
    (off cnt : Nat → Nat) (hcnt : ∀ b, b < f.mesh.ndim → 0 < cnt b)
    (hblk : ∀ b, b < f.mesh.ndim → AxisBlock sm f.mesh b b (off b) (cnt b))
    (g : Fld) (h : getItem f item = .ok g) :
    g.mesh = sm ∧ ∀ j, inRange g.mesh.n j = true →
      f.mesh.point2index (g.mesh.centre j) = .ok (tab f.mesh.ndim fun b => off b + j.getD b 0) ∧
      g.data.get j = f.data.get (tab f.mesh.ndim fun b => off b + j.getD b 0) ∧
      g.valid.get j = f.valid.get (tab f.mesh.ndim fun b => off b + j.getD b 0) := by
  obtain ⟨_, p0, imin, h1, hp0, himin, hg⟩ := (getItem_ok_iff f item g).mp h
  cases hsm.symm.trans h1
  obtain ⟨_, e1, e2⟩ := block_origin f.mesh sm hf.1 hnd hnl off cnt hcnt hblk
  cases e1.symm.trans hp0
  cases e2.symm.trans himin
  obtain ⟨_, _, _, rfl⟩ := (mkFld_ok_iff _ _ _ _ _).mp hg
  -- `sliceBlock` reads the source at `j + imin`
  have hidx : ∀ (sh : List Nat) (j : List Nat), sh = f.mesh.n →
      (tab sh.length fun b => j.getD b 0 + (tab f.mesh.ndim off).getD b 0)
        = tab f.mesh.ndim fun b => off b + j.getD b 0 := fun sh j hsh => by
    rw [hsh, hf.1.n_length]
    exact tab_congr _ _ _ fun b hb => by rw [getD_tab _ _ _ _ hb, Nat.add_comm]
  refine ⟨rfl, fun j hj => ⟨block_point2index f.mesh sm hf.1 hnd hnl off cnt hblk j hj, ?_, ?_⟩⟩
  · exact congrArg f.data.get (hidx _ j hf.2.1)
  · exact congrArg f.valid.get (hidx _ j hf.2.2)

theorem getItem_ok_of_block (f : Fld) (hf : FldWF f) (item : Item) (sm : Mesh)
    (hgm : getMesh f.mesh item = .ok sm) (e1 : sm.ndim = f.mesh.ndim)
    (off cnt : Nat → Nat) (hcnt : ∀ b, b < f.mesh.ndim → 0 < cnt b)
    (hblk : ∀ b, b < f.mesh.ndim → AxisBlock sm f.mesh b b (off b) (cnt b))
    (hsn : sm.n = tab f.mesh.ndim cnt) (hmeta : metaOk f = true) : ∃ g, getItem f item = .ok g := by
  obtain ⟨p0, h0, h1⟩ := block_origin f.mesh sm hf.1 e1 (by rw [hsn, tab_length]) off cnt hcnt hblk
  -- the slice `off : off + cnt` lies inside the source array, so it has the shape of the extracted mesh
  have hshape : ∀ (sh : List Nat), sh = f.mesh.n →
      (tab sh.length fun b => min ((tab f.mesh.ndim off).getD b 0 + sm.n.getD b 0) (sh.getD b 0)
        - min ((tab f.mesh.ndim off).getD b 0) (sh.getD b 0)) = sm.n := fun sh hsh => by
    rw [hsh, hsn, hf.1.n_length]
    refine tab_congr _ _ _ fun b hb => ?_
    rw [getD_tab _ _ _ _ hb, getD_tab _ _ _ _ hb]
    have := (hblk b hb).fits
    have : f.mesh.n.getD b 0 = f.mesh.nAt b := rfl
    omega
  obtain ⟨g, hg⟩ := mkFld_ok sm f (sliceBlock f.data (tab f.mesh.ndim off) sm.n)
    (sliceBlock f.valid (tab f.mesh.ndim off) sm.n) (hshape _ hf.2.1) (hshape _ hf.2.2) hmeta
  exact ⟨g, (getItem_ok_iff f item g).mpr ⟨sm, p0, _, hgm, h0, h1, hg⟩⟩

/-- a stored subregion that consists of whole cells `k₁ … k₂-1` of the mesh on every axis -/
def SubAligned (m : Mesh) (s : Region) (k1 k2 : Nat → Nat) : Prop :=
  s.ndim = m.ndim ∧ s.pmax.length = m.ndim ∧ ∀ a, a < m.ndim →
    k1 a < k2 a ∧ k2 a ≤ m.nAt a ∧
    s.lo a = m.region.lo a + (k1 a : Rat) * m.cellAt a ∧
    s.hi a = m.region.lo a + (k2 a : Rat) * m.cellAt a

/-- `mesh[name]` for a subregion of whole cells `k₁ … k₂-1`: the mesh on the subregion with these counts, a block of
the source on every axis -/
theorem getName_eq (m : Mesh) (hm : m.Inv) (name : String) (s : Region) (hfind : findSub m.subs name = some s)
    (k1 k2 : Nat → Nat) (hal : SubAligned m s k1 k2) :
    getName m name = .ok { region := s, n := tab m.ndim fun a => k2 a - k1 a, bc := "", subs := [] } ∧
    ∀ a, a < m.ndim → AxisBlock { region := s, n := tab m.ndim fun a => k2 a - k1 a, bc := "", subs := [] } m a a
      (k1 a) (k2 a - k1 a) := by
  obtain ⟨s1, s2, s3⟩ := hal
  have hax : ∀ a, a < m.ndim → AxisBlock { region := s, n := tab m.ndim fun a => k2 a - k1 a, bc := "", subs := [] }
      m a a (k1 a) (k2 a - k1 a) := fun a ha => by
    obtain ⟨t1, t2, t3, t4⟩ := s3 a ha
    exact axisBlock_of _ m a a _ _ (by omega) t3 (by rw [show _ = _ from t4, Nat.cast_sub t1.le]; ring)
      (getD_tab _ _ _ _ ha) (by omega)
  refine ⟨?_, hax⟩
  unfold getName
  rw [hfind]
  exact mkCell_ok_nobc s _ m.cell (by rw [C01.cell_length, s1]) (by rw [tab_length, s1]) fun a ha => by
    rw [s1] at ha
    obtain ⟨t1, _, t3, t4⟩ := s3 a ha
    rw [C01.cell_getD m _ ha]
    exact ⟨by rw [getD_tab _ _ _ _ ha]; omega, by
      rw [t3, t4]; exact (C01.face_lt (hm.cellAt_pos ha) _ _).mpr (by exact_mod_cast t1), (hax a ha).cell.symm⟩

/-- projection of `getName_eq`: the result is the subregion itself, as a block of the mesh -/
theorem getName_inv (m : Mesh) (hm : m.Inv) (name : String) (s : Region) (hfind : findSub m.subs name = some s)
    (k1 k2 : Nat → Nat) (hal : SubAligned m s k1 k2) (g : Mesh) (h : getName m name = .ok g) :
    g.region = s ∧ g.ndim = m.ndim ∧ g.n.length = m.ndim ∧
    ∀ a, a < m.ndim → AxisBlock g m a a (k1 a) (k2 a - k1 a) := by
  obtain ⟨e, hax⟩ := getName_eq m hm name s hfind k1 k2 hal
  cases e.symm.trans h
  exact ⟨rfl, hal.1, tab_length _ _, hax⟩

/-- projection of `getName_eq`: acceptance, with the counts -/
theorem getName_ok (m : Mesh) (hm : m.Inv) (name : String) (s : Region) (hfind : findSub m.subs name = some s)
    (k1 k2 : Nat → Nat) (hal : SubAligned m s k1 k2) :
    ∃ g, getName m name = .ok g ∧ g.n = tab m.ndim fun a => k2 a - k1 a :=
  ⟨_, (getName_eq m hm name s hfind k1 k2 hal).1, rfl⟩

/-! ## `region2slices` -/

theorem region2slices_inv (m : Mesh) (r : Region) (s : List (Nat × Nat)) (h : region2slices m r = .ok s) :
    s = tab m.ndim fun a => (m.indexAx a (r.lo a + m.cellAt a / 2), m.indexAx a (r.hi a - m.cellAt a / 2) + 1) := by
  unfold region2slices at h
  split at h
  · cases h
  · split at h
    · cases h
    · rename_i i1 h1
      split at h
      · cases h
      · rename_i i2 h2
        injection h with h
        obtain ⟨_, _, e1⟩ := (C01.point2index_ok_iff_containsPt m _ _).mp h1
        obtain ⟨_, _, e2⟩ := (C01.point2index_ok_iff_containsPt m _ _).mp h2
        rw [← h]
        apply tab_congr
        intro a ha
        rw [e1, e2, getD_tab _ _ _ _ ha, getD_tab _ _ _ _ ha, getD_tab _ _ _ _ ha, getD_tab _ _ _ _ ha]

end DFV.C07
