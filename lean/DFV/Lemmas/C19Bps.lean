import DFV.Lemmas.C01
import DFV.Lemmas.C19Act
import DFV.Lemmas.C19Conv
/-!
# C19 — `count_bps`

Materialised arrays (`forceF`) are handled through component-wise agreement of fields (`CompRel`), under which derivatives, divergence
and the emergent field are linear.  The pipeline of `count_bps` — divergence, the two plane integrals (`bpRed`), the cumulative
integral (`bpFromReds`), rounding and counting (`bpOf`) — is taken piece by piece under reversal; then the arithmetic of the count on
its own, and `count_bps` in closed form over its flux (`countBps_closed`).
-/
namespace DFV.C19
open DFV

/-! ## materialised arrays -/

theorem force_get_opt {α} (a : NDA α) (d : α) (i : List Nat) :
    (a.force d).get i = (((indicesC a.shape)[flatC a.shape i]?).map a.get).getD d := by
  show (NDA.ofList a.shape a.toList d).get i = _
  unfold NDA.ofList NDA.ofArray NDA.toList
  simp only
  rw [Array.getD_eq_getD_getElem?]
  simp only [List.getElem?_toArray, List.getElem?_map]

theorem force_map_comp (a : NDA (List Rat)) (φ : List Rat → List Rat) (c : Nat) (hφ : (φ []).getD c 0 = 0) (i : List Nat) :
    (((a.map φ).force []).get i).getD c 0 = (φ ((a.force []).get i)).getD c 0 := by
  rw [force_get_opt, force_get_opt]
  show ((((indicesC a.shape)[flatC a.shape i]?).map fun j => φ (a.get j)).getD []).getD c 0 = _
  cases (indicesC a.shape)[flatC a.shape i]? with
  | none => simp only [Option.map_none, Option.getD_none, List.getD_nil]; exact hφ.symm
  | some j => simp

/-! ## fields related component by component -/

/-- same mesh, validity and shape, and component `c` of every cell of `g` is `s` times that of `f` -/
structure CompRel (s : Rat) (f g : Fld) : Prop where
  mesh : g.mesh = f.mesh
  valid : g.valid = f.valid
  shape : g.data.shape = f.data.shape
  comp : ∀ j c, c < 3 → (g.data.get j).getD c 0 = s * (f.data.get j).getD c 0

theorem CompRel.Dc {s : Rat} {f g : Fld} (h : CompRel s f g) (ax order : Nat) (r : Bool) (c : Nat) (hc : c < 3) (i : List Nat) :
    Dc g ax order r c i = s * Dc f ax order r c i :=
  Dc_smul f g ax order r c s i h.mesh h.valid fun j => h.comp j c hc

theorem CompRel.cellV {s : Rat} {f g : Fld} (h : CompRel s f g) (i : List Nat) : cellV g i = (cellV f i).smul s := by
  unfold C19.cellV V3.ofList V3.smul
  rw [h.comp i 0 (by omega), h.comp i 1 (by omega), h.comp i 2 (by omega)]

theorem CompRel.Dv {s : Rat} {f g : Fld} (h : CompRel s f g) (ax order : Nat) (r : Bool) (i : List Nat) :
    Dv g ax order r i = (Dv f ax order r i).smul s := by
  unfold C19.Dv V3.smul
  rw [h.Dc ax order r 0 (by omega), h.Dc ax order r 1 (by omega), h.Dc ax order r 2 (by omega)]

theorem CompRel.emSpec {s : Rat} {f g : Fld} (h : CompRel s f g) (k l : Nat) (i : List Nat) :
    emSpec g k l i = s * s * s * emSpec f k l i := by
  unfold C19.emSpec
  rw [h.cellV, h.Dv, h.Dv]
  simp only [V3.dot, V3.cross, V3.smul]
  ring

theorem CompRel.emFld {f g : Fld} (h : CompRel 1 f g) : emFld g = emFld f :=
  emFld_congr h.mesh h.valid h.shape fun k l i => by rw [h.emSpec]; ring

theorem forceF_rotF (q : M3) (o : Fld) : CompRel 1 (rotF q (forceF o)) (forceF (rotF q o)) := by
  refine ⟨rfl, rfl, rfl, ?_⟩
  intro j c _
  rw [one_mul]
  show (((o.data.map fun v => (q.mulVec (V3.ofList v)).toList).force []).get j).getD c 0 = _
  rw [force_map_comp _ _ c]
  · rfl
  · have : (q.mulVec (V3.ofList [])).toList = [0, 0, 0] := by
      simp [V3.ofList, M3.mulVec, V3.toList]
    rw [this]
    rcases c with _ | _ | _ | c <;> simp

theorem forceF_negF (o : Fld) : CompRel 1 (negF (forceF o)) (forceF (negF o)) := by
  rw [negF_eq_rotF, negF_eq_rotF]; exact forceF_rotF _ o

theorem negF_compRel (f : Fld) : CompRel (-1) f (negF f) := by
  refine ⟨rfl, rfl, rfl, ?_⟩
  intro j c hc
  show ((V3.ofList (f.data.get j)).neg.toList).getD c 0 = _
  rcases (by omega : c = 0 ∨ c = 1 ∨ c = 2) with rfl | rfl | rfl <;> simp [V3.ofList, V3.neg, V3.toList]

theorem CompRel.trans {s t : Rat} {f g h : Fld} (a : CompRel s f g) (b : CompRel t g h) : CompRel (t * s) f h := by
  refine ⟨b.mesh.trans a.mesh, b.valid.trans a.valid, b.shape.trans a.shape, ?_⟩
  intro j c hc
  rw [b.comp j c hc, a.comp j c hc]; ring

/-! ## invalid cells -/

/-- `Field.diff(restrict2valid=True)` stores the zero vector in every invalid cell -/
theorem Dv_invalid_zero (f : Fld) (ax : Nat) (i : List Nat) (hv : f.valid.get i = false) : Dv f ax 1 true i = V3.zero := by
  have e : ∀ c, Dc f ax 1 true c i = 0 := fun c =>
    C04.diffEntry_invalid f ax 1 true c i (by rw [C04.fldOk, hv]; rfl)
  unfold C19.Dv V3.zero
  rw [e 0, e 1, e 2]

/-! ## divergence and the plane integrals -/

/-- SPEC of the divergence `Σ_k ∂_k F_k` at cell `i` -/
def divSpec (e : Fld) (i : List Nat) : Rat := Dc e 0 1 true 0 i + Dc e 1 1 true 1 i + Dc e 2 1 true 2 i

theorem divCount_eq (pi : Rat) (m : Mesh) (ax : Nat) (e : Fld) (h3 : e.nvdim = 3) (hd : e.mesh.ndim = 3) :
    divCount pi m ax e =
      if m.nAt ax < 2 then .error .index
      else .ok (bpOf (bpFromReds (tab (m.nAt ax) fun k => bpRed m (divSpec e) ax k) (m.cellAt ax)) pi) := by
  unfold divCount
  rw [diff_eq e 0 1 true (Or.inl rfl) (by omega), diff_eq e 1 1 true (Or.inl rfl) (by omega),
    diff_eq e 2 1 true (Or.inl rfl) (by omega)]
  simp only
  have : (divAt { e with data := ⟨e.data.shape, fun i => tab e.nvdim fun c => Dc e 0 1 true c i⟩ }
      { e with data := ⟨e.data.shape, fun i => tab e.nvdim fun c => Dc e 1 1 true c i⟩ }
      { e with data := ⟨e.data.shape, fun i => tab e.nvdim fun c => Dc e 2 1 true c i⟩ }) = divSpec e := by
    funext i
    unfold divAt divSpec
    simp only
    rw [getD_tab _ _ _ _ (by omega), getD_tab _ _ _ _ (by omega), getD_tab _ _ _ _ (by omega)]
  rw [this]

theorem divSpec_smul {s : Rat} {e e' : Fld} (h : CompRel s e e') (i : List Nat) : divSpec e' i = s * divSpec e i := by
  unfold divSpec
  rw [h.Dc 0 1 true 0 (by omega), h.Dc 1 1 true 1 (by omega), h.Dc 2 1 true 2 (by omega)]
  ring

theorem sumTo_neg (n : Nat) (g : Nat → Rat) : sumTo n (fun k => -g k) = -sumTo n g := by
  simp only [sumTo_eq_sum, Finset.sum_neg_distrib]

theorem bpRed_smul (m : Mesh) (μ : Rat) (g : List Nat → Rat) (ax k : Nat) :
    bpRed m (fun i => μ * g i) ax k = μ * bpRed m g ax k := by
  unfold bpRed
  simp only [sumTo_mul_left, mul_assoc]

/-- the cumulative integral is linear in the list and in the cell size; the family uses the two instances `bpFromReds_neg` and
`bpFromReds_aff` (`Lemmas/C19Aff`), each in the form its caller meets -/
theorem bpFromReds_neg (reds : List Rat) (h : Rat) : bpFromReds (reds.map (-·)) h = (bpFromReds reds h).map (-·) := by
  unfold bpFromReds
  rw [List.length_map]
  apply List.ext_getElem
  · simp [tab]
  · intro i h1 h2
    have hi : i < reds.length := by simpa [tab] using h1
    simp only [tab, List.getElem_map, List.getElem_range]
    unfold bpIntL
    have e : ∀ k, (reds.map (-·)).getD k 0 = -reds.getD k 0 := fun k => getD_map_of_eq (f := (-·)) neg_zero reds k
    simp only [e, sumTo_neg]
    ring

/-! ## rounding and counting -/

theorem sum_filter_pos_nonneg (l : List Int) : 0 ≤ (l.filter (0 < ·)).sum :=
  int_sum_nonneg _ fun x hx => by have := (List.mem_filter.mp hx).2; simp only [decide_eq_true_eq] at this; omega

theorem sum_filter_neg_nonpos (l : List Int) : (l.filter (· < 0)).sum ≤ 0 := by
  have h := int_sum_nonneg ((l.filter (· < 0)).map (-·)) fun y hy => by
    obtain ⟨x, hx, rfl⟩ := List.mem_map.mp hy
    have := (List.mem_filter.mp hx).2
    simp only [decide_eq_true_eq] at this
    omega
  rw [← List.sum_neg] at h
  omega

theorem diffs_neg (l : List Int) : diffs (l.map (-·)) = (diffs l).map (-·) := by
  unfold diffs
  rw [List.length_map]
  apply List.ext_getElem
  · simp [tab]
  · intro i h1 h2
    simp only [tab, List.getElem_map, List.getElem_range]
    have e : ∀ k, (l.map (-·)).getD k 0 = -l.getD k 0 := fun k => getD_map_of_eq (f := (-·)) neg_zero l k
    rw [e, e]; ring

/-- `List.filter_map` for negation: the negative entries of `−l` are the negated positive entries of `l`, and conversely -/
theorem filter_neg_lt (l : List Int) : (l.map (-·)).filter (· < 0) = (l.filter (0 < ·)).map (-·) := by
  rw [List.filter_map]
  congr 2
  funext x
  simp

theorem filter_neg_gt (l : List Int) : (l.map (-·)).filter (0 < ·) = (l.filter (· < 0)).map (-·) := by
  rw [List.filter_map]
  congr 2
  funext x
  simp

theorem map_natAbs_neg (l : List Int) : (l.map (-·)).map (fun d => (d.natAbs : Int)) = l.map fun d => (d.natAbs : Int) := by
  rw [List.map_map]
  apply List.map_congr_left
  intro x _
  simp

theorem rle_neg (l : List Int) : rle (l.map (-·)) = (rle l).map fun p => (-p.1, p.2) := by
  induction l with
  | nil => rfl
  | cons x xs ih =>
    simp only [List.map_cons, rle, ih]
    cases h : rle xs with
    | nil => simp
    | cons p r =>
      obtain ⟨y, c⟩ := p
      simp only [List.map_cons]
      by_cases hxy : x = y
      · subst hxy; simp
      · have : ¬ (-x = -y) := by omega
        simp [hxy, this]

/-- REVERSAL OF THE COUNT: negating the cumulative flux negates the local Bloch-point number, keeps
the total count and swaps head-to-head with tail-to-tail -/
theorem bpOf_neg (fint : List Rat) (pi : Rat) :
    (bpOf (fint.map (-·)) pi).fint = (bpOf fint pi).fint.map (-·) ∧
    (bpOf (fint.map (-·)) pi).number = (bpOf fint pi).number.map (-·) ∧
    (bpOf (fint.map (-·)) pi).total = (bpOf fint pi).total ∧
    (bpOf (fint.map (-·)) pi).hh = (bpOf fint pi).tt ∧
    (bpOf (fint.map (-·)) pi).tt = (bpOf fint pi).hh ∧
    (bpOf (fint.map (-·)) pi).pattern = (bpOf fint pi).pattern.map fun p => (-p.1, p.2) := by
  have hn : (fint.map (-·)).map (fun x => Mesh.roundHalfEven (x / (4 * pi)))
      = (fint.map fun x => Mesh.roundHalfEven (x / (4 * pi))).map (-·) := by
    rw [List.map_map, List.map_map]
    apply List.map_congr_left
    intro x _
    simp only [Function.comp]
    rw [neg_div, C01.roundHalfEven_neg]
  unfold bpOf
  simp only [hn, diffs_neg, map_natAbs_neg, filter_neg_lt, filter_neg_gt, isum_eq_sum, ← List.sum_neg, rle_neg]
  have hp := sum_filter_pos_nonneg (diffs (fint.map fun x => Mesh.roundHalfEven (x / (4 * pi))))
  have hn' := sum_filter_neg_nonpos (diffs (fint.map fun x => Mesh.roundHalfEven (x / (4 * pi))))
  refine ⟨trivial, trivial, trivial, ?_, ?_, trivial⟩ <;> simp only [Int.ofNat_eq_natCast] <;> omega

/-! ## a unit step of the rounded flux -/

theorem rle_replicate (x : Int) (b : Nat) (hb : 0 < b) : rle (List.replicate b x) = [(x, b)] := by
  induction b with
  | zero => omega
  | succ b ih =>
    cases b with
    | zero => simp [rle]
    | succ b =>
      rw [List.replicate_succ, rle, ih (by omega)]
      simp

theorem rle_step (x y : Int) (hxy : x ≠ y) (a b : Nat) (ha : 0 < a) (hb : 0 < b) :
    rle (List.replicate a x ++ List.replicate b y) = [(x, a), (y, b)] := by
  induction a with
  | zero => omega
  | succ a ih =>
    cases a with
    | zero =>
      simp only [List.replicate_succ, List.replicate_zero, List.nil_append, List.cons_append, rle]
      rw [rle_replicate y b hb]
      simp [hxy]
    | succ a =>
      rw [List.replicate_succ, List.cons_append, rle, ih (by omega)]
      simp

theorem getD_step (a b k : Nat) (hk : k < a + b) :
    (List.replicate a (0 : Int) ++ List.replicate b 1).getD k 0 = if k < a then 0 else 1 := by
  rw [List.getD_eq_getElem?_getD]
  by_cases h : k < a
  · rw [List.getElem?_append_left (by simpa using h)]
    simp [h]
  · rw [List.getElem?_append_right (by simpa using h)]
    simp only [List.length_replicate, if_neg h]
    rw [List.getElem?_replicate, if_pos (by omega)]
    rfl

theorem diffs_step (a b : Nat) (ha : 0 < a) (hb : 0 < b) :
    diffs (List.replicate a (0 : Int) ++ List.replicate b 1) = List.replicate (a - 1) 0 ++ [1] ++ List.replicate (b - 1) 0 := by
  unfold diffs
  rw [List.length_append, List.length_replicate, List.length_replicate]
  have hl : (List.replicate (a - 1) (0 : Int) ++ [1]).length = a := by
    rw [List.length_append, List.length_replicate, List.length_singleton]; omega
  apply List.ext_getElem
  · rw [tab_length, List.length_append, hl, List.length_replicate]; omega
  · intro k h1 h2
    have hk : k < a + b - 1 := by rw [tab_length] at h1; exact h1
    rw [getElem_tab _ _ _ h1, getD_step a b (k + 1) (by omega), getD_step a b k (by omega)]
    -- left of the step `0 − 0`, at it `1 − 0`, right of it `1 − 1`
    by_cases hlt : k < a - 1
    · rw [List.getElem_append_left (by rw [hl]; omega), List.getElem_append_left (by rwa [List.length_replicate]),
        List.getElem_replicate, if_pos (by omega), if_pos (by omega)]
      rfl
    · by_cases heq : k = a - 1
      · subst heq
        rw [List.getElem_append_left (by rw [hl]; omega), List.getElem_append_right (by rw [List.length_replicate]),
          if_neg (by omega), if_pos (by omega)]
        simp
      · rw [List.getElem_append_right (by rw [hl]; omega), List.getElem_replicate, if_neg (by omega), if_neg (by omega)]
        rfl

/-- A SINGLE UNIT STEP IS ONE TAIL-TO-TAIL BLOCH POINT: if the rounded cumulative flux `F_int/(4π)` is
`0` on the first `a` cells and `1` on the remaining `b` cells, `count_bps` reports exactly one Bloch
point, tail-to-tail, none head-to-head, pattern `[[0, a], [1, b]]` -/
theorem bpOf_unit_step (fint : List Rat) (pi : Rat) (a b : Nat) (ha : 0 < a) (hb : 0 < b)
    (h : (fint.map fun x => Mesh.roundHalfEven (x / (4 * pi))) = List.replicate a 0 ++ List.replicate b 1) :
    (bpOf fint pi).total = 1 ∧ (bpOf fint pi).tt = 1 ∧ (bpOf fint pi).hh = 0 ∧
    (bpOf fint pi).pattern = [(0, a), (1, b)] := by
  unfold bpOf
  simp only [h]
  rw [diffs_step a b ha hb]
  refine ⟨?_, ?_, ?_, rle_step 0 1 (by decide) a b ha hb⟩
  -- among the differences only the single `1` counts: it is kept by `natAbs` and by `0 < ·`, dropped by `· < 0`
  all_goals simp [isum_eq_sum]

/-! ## arithmetic of the count -/

theorem sum_split (l : List Int) :
    (l.filter (0 < ·)).sum + (l.filter (· < 0)).sum = l.sum ∧
    (l.filter (0 < ·)).sum - (l.filter (· < 0)).sum = (l.map fun d => (d.natAbs : Int)).sum := by
  induction l with
  | nil => simp
  | cons x xs ih =>
    obtain ⟨i1, i2⟩ := ih
    simp only [List.filter_cons, List.map_cons, List.sum_cons]
    by_cases hp : 0 < x
    · have hn : ¬ x < 0 := by omega
      simp only [hp, hn, decide_true, decide_false, if_true, List.sum_cons, Bool.false_eq_true, if_false]
      constructor <;> omega
    · by_cases hn : x < 0
      · simp only [hp, hn, decide_true, decide_false, if_true, List.sum_cons, Bool.false_eq_true, if_false]
        constructor <;> omega
      · have : x = 0 := by omega
        subst this
        simp only [hp, decide_false, Bool.false_eq_true, if_false, Int.natAbs_zero]
        constructor <;> omega

theorem sum_diffs (xs : List Int) : (diffs xs).sum = xs.getD (xs.length - 1) 0 - xs.getD 0 0 := by
  unfold diffs
  have key : ∀ n, n ≤ xs.length - 1 → (tab n fun k => xs.getD (k + 1) 0 - xs.getD k 0).sum = xs.getD n 0 - xs.getD 0 0 := by
    intro n
    induction n with
    | zero => intro _; simp [tab]
    | succ n ih =>
      intro hn
      have e : tab (n + 1) (fun k => xs.getD (k + 1) 0 - xs.getD k 0)
          = tab n (fun k => xs.getD (k + 1) 0 - xs.getD k 0) ++ [xs.getD (n + 1) 0 - xs.getD n 0] := by
        unfold tab
        rw [List.range_succ, List.map_append]
        rfl
      rw [e, List.sum_append, ih (by omega)]
      simp only [List.sum_cons, List.sum_nil]
      omega
  exact key _ (Nat.le_refl _)

theorem rle_decode (l : List Int) : (rle l).flatMap (fun p => List.replicate p.2 p.1) = l := by
  induction l with
  | nil => rfl
  | cons x xs ih =>
    simp only [rle]
    cases h : rle xs with
    | nil =>
      rw [h] at ih
      simp only [List.flatMap_nil] at ih
      simp [← ih]
    | cons p r =>
      obtain ⟨y, c⟩ := p
      rw [h] at ih
      simp only
      by_cases hxy : x = y
      · subst hxy
        rw [if_pos rfl, ← ih]
        simp [List.replicate_succ]
      · rw [if_neg hxy, ← ih]
        simp

/-! ## `count_bps` in closed form: four guards, then the count of the rounded cumulative flux -/

/-- the cumulative flux along `ax` on mesh `m` of a (materialised) emergent field `e`: its divergence integrated over the two
other directions, then cumulatively along `ax` -/
def fluxE (m : Mesh) (e : Fld) (ax : Nat) : List Rat :=
  bpFromReds (tab (m.nAt ax) fun k => bpRed m (divSpec e) ax k) (m.cellAt ax)

/-- the cumulative flux `count_bps(field, direction)` rounds: that of the emergent field of the orientation field -/
def fluxOf (sq : Rat → Rat) (f : Fld) (ax : Nat) : List Rat :=
  fluxE f.mesh (forceF (emFld (forceF (orientation sq f)))) ax

theorem countBps_closed (sq : Rat → Rat) (pi : Rat) (f : Fld) (dir : String) :
    countBps sq pi f dir =
      if f.mesh.ndim ≠ 3 then .error .value
      else if f.nvdim ≠ 3 then .error .value
      else match indexOf? f.mesh.region.dims dir with
        | none => .error .value
        | some ax => if f.mesh.nAt ax < 2 then .error .index else .ok (bpOf (fluxOf sq f ax) pi) := by
  unfold countBps
  by_cases hd : f.mesh.ndim ≠ 3
  · rw [if_pos hd, if_pos hd]
  · rw [if_neg hd, if_neg hd]
    by_cases h3 : f.nvdim ≠ 3
    · rw [if_pos h3, if_pos h3]
    · rw [if_neg h3, if_neg h3, emergent_eq (forceF (orientation sq f)) (not_not.mp h3) (not_not.mp hd)]
      cases indexOf? f.mesh.region.dims dir with
      | none => rfl
      | some ax => exact divCount_eq pi f.mesh ax _ rfl (not_not.mp hd)

theorem countBps_eq_ok_iff (sq : Rat → Rat) (pi : Rat) (f : Fld) (dir : String) (r : BpResult) :
    countBps sq pi f dir = .ok r ↔
      f.mesh.ndim = 3 ∧ f.nvdim = 3 ∧ ∃ ax, indexOf? f.mesh.region.dims dir = some ax ∧ 2 ≤ f.mesh.nAt ax ∧
        r = bpOf (fluxOf sq f ax) pi := by
  rw [countBps_closed]
  -- the four guards of `countBps_closed` in their order; where one refuses, the conjunct of the same name fails on the right
  by_cases hd : f.mesh.ndim ≠ 3
  · simp [hd]
  by_cases h3 : f.nvdim ≠ 3
  · simp [h3]
  cases indexOf? f.mesh.region.dims dir with
  | none => simp [hd, h3]
  | some ax =>
    by_cases hn : f.mesh.nAt ax < 2
    · simp [hd, h3, hn]
    · simp [not_not.mp hd, not_not.mp h3, hn, Nat.le_of_not_lt hn, eq_comm]

theorem countBps_accepts_iff (sq : Rat → Rat) (pi : Rat) (f : Fld) (dir : String) :
    (∃ r, countBps sq pi f dir = .ok r) ↔
      (f.mesh.ndim = 3 ∧ f.nvdim = 3 ∧ ∃ ax, indexOf? f.mesh.region.dims dir = some ax ∧ 2 ≤ f.mesh.nAt ax) :=
  ⟨fun ⟨r, h⟩ => by
      obtain ⟨hd, h3, ax, hax, hn, _⟩ := (countBps_eq_ok_iff sq pi f dir r).mp h
      exact ⟨hd, h3, ax, hax, hn⟩,
    fun ⟨hd, h3, ax, hax, hn⟩ => ⟨_, (countBps_eq_ok_iff sq pi f dir _).mpr ⟨hd, h3, ax, hax, hn, rfl⟩⟩⟩

/-- `count_bps` sees the field only through its guards and its flux along the named direction -/
theorem countBps_congr (sq : Rat → Rat) (pi : Rat) {f g : Fld} (dir : String) (hd : g.mesh.ndim = f.mesh.ndim)
    (hv : g.nvdim = f.nvdim) (hdims : g.mesh.region.dims = f.mesh.region.dims) (hn : ∀ ax, g.mesh.nAt ax = f.mesh.nAt ax)
    (hflux : f.mesh.ndim = 3 → ∀ ax, indexOf? f.mesh.region.dims dir = some ax → fluxOf sq g ax = fluxOf sq f ax) :
    countBps sq pi g dir = countBps sq pi f dir := by
  rw [countBps_closed, countBps_closed, hd, hv, hdims]
  by_cases hd3 : f.mesh.ndim ≠ 3
  · rw [if_pos hd3, if_pos hd3]
  · rw [if_neg hd3, if_neg hd3]
    cases hax : indexOf? f.mesh.region.dims dir with
    | none => rfl
    | some ax => simp only [hn, hflux (not_not.mp hd3) ax hax]

theorem fluxE_neg (m : Mesh) {e e' : Fld} (h : CompRel (-1) e e') (ax : Nat) : fluxE m e' ax = (fluxE m e ax).map (-·) := by
  unfold fluxE
  have ed : divSpec e' = fun i => -1 * divSpec e i := funext fun i => divSpec_smul h i
  rw [ed, ← bpFromReds_neg, tab_map]
  simp only [bpRed_smul]
  simp only [neg_one_mul]

theorem fluxOf_rotF (sq : Rat → Rat) (q : M3) (hq : q.IsRot) (f : Fld) (ax : Nat) :
    fluxOf sq (rotF q f) ax = fluxOf sq f ax := by
  unfold fluxOf
  rw [orientation_rotF sq q hq.1, (forceF_rotF q (orientation sq f)).emFld,
    emFld_congr (f := forceF (orientation sq f)) (g := rotF q (forceF (orientation sq f))) rfl rfl rfl
      fun k l i => emSpec_rotF q hq _ k l i]
  rfl

theorem fluxOf_negF (sq : Rat → Rat) (f : Fld) (ax : Nat) : fluxOf sq (negF f) ax = (fluxOf sq f ax).map (-·) := by
  unfold fluxOf
  rw [orientation_negF, (forceF_negF (orientation sq f)).emFld, emFld_negF]
  refine fluxE_neg f.mesh ?_ ax
  have := (negF_compRel (forceF (emFld (forceF (orientation sq f))))).trans (forceF_negF (emFld (forceF (orientation sq f))))
  simpa using this

end DFV.C19
