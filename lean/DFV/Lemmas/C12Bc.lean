import DFV.Lemmas.C12Obj
import DFV.Lemmas.C13Bc
import DFV.Model.C12
/-! Quarter turns of a mesh with its `bc` string: composition `bc` included (the letter swap composes when the letters
are distinct); which calls are refused (the axis-name lookup is exact string membership); how the periodic directions
turn with the axes, or do not (multi-character names: the mesh of finding D57). -/
namespace DFV.T
open DFV DFV.C14

/-! ## composition with periodic `bc` -/

theorem distinct_of_bcOk (dims : List String) (bc : String) (h : Mesh.bcOk dims bc = true) :
    PlainBc bc ∨ Distinct bc.toList := by
  rcases (bcOk_iff dims bc).mp h with h | ⟨_, h⟩
  · exact Or.inl h
  · exact Or.inr h

/-- when `bc` passes the `bc` check, the mesh turned by `k` and then by `l` IS the mesh turned by `k + l` -/
theorem applyM_rot_compose_bc (m : Mesh) (hm : m.Inv) (hs : SubInv m) (hok : Mesh.bcOk m.region.dims m.bc = true)
    (a1 a2 : String) (k l : Int) (R : List Rat) (b b' b'' : Bool) (hw : ¬ Malformed m.region (.rotate90 a1 a2 k (some R) b)) :
    applyM (applyM m (.rotate90 a1 a2 k (some R) b)) (.rotate90 a1 a2 l (some R) b') = applyM m (.rotate90 a1 a2 (k + l) (some R) b'') := by
  rw [applyM_rot_compose m hm hs a1 a2 k l R b b' b'' hw, rotBc_compose _ _ _ _ _ (distinct_of_bcOk _ _ hok)]
  rfl

/-- in place, a turn by `k` then a turn by `l` about the same point is the turn by `k + l` on region, counts and every
subregion, the second turn always accepted; the two meshes are equal when `bc` passes the `bc` check (`C12.mesh_compose`) -/
theorem stepM_rot_compose (m : Mesh) (hm : m.Inv) (hs : SubInv m) (a1 a2 : String) (k l : Int) (R : List Rat)
    (m1 m1' : Mesh) (h : stepM m (.rotate90 a1 a2 k (some R) true) = .ok (m1, m1')) :
    ∃ m2 m12, stepM m1' (.rotate90 a1 a2 l (some R) true) = .ok (m2, m2) ∧
      stepM m (.rotate90 a1 a2 (k + l) (some R) true) = .ok (m12, m12) ∧
      m2.region = m12.region ∧ m2.n = m12.n ∧ m2.subs = m12.subs ∧
      m2.bc = rotBc (rotBc m.bc a1 a2 k) a1 a2 l ∧ m12.bc = rotBc m.bc a1 a2 (k + l) ∧
      (Mesh.bcOk m.region.dims m.bc = true → m2 = m12) := by
  have hp := subsProper_of_subInv m hm hs
  obtain ⟨hw, e⟩ := (stepM_spec m hm hp _ _ _).mp h
  obtain ⟨rfl, _⟩ : m1' = applyM m (.rotate90 a1 a2 k (some R) true) ∧ m1 = m1' := e
  have hi := applyM_inv m hm _ hw
  have hw1 := applyM_rot_wf m hm a1 a2 k l R true true hw
  have e := applyM_rot_compose m hm hs a1 a2 k l R true true true hw
  exact ⟨_, _, stepM_assign _ hi (subsProper_of_subInv _ hi (applyM_subInv m hm hs _ hw)) (.rotate90 a1 a2 l (some R) true) hw1,
    stepM_assign m hm hp (.rotate90 a1 a2 (k + l) (some R) true) hw, (congrArg Mesh.region e :), (congrArg Mesh.n e :), (congrArg Mesh.subs e :),
    rfl, rfl, fun hok => applyM_rot_compose_bc m hm hs hok a1 a2 k l R true true true hw⟩

theorem stepM_rot_compose_bc (m : Mesh) (hm : m.Inv) (hs : SubInv m) (hok : Mesh.bcOk m.region.dims m.bc = true)
    (a1 a2 : String) (k l : Int) (R : List Rat)
    (m1 m1' : Mesh) (h : stepM m (.rotate90 a1 a2 k (some R) true) = .ok (m1, m1')) :
    ∃ m2, stepM m1' (.rotate90 a1 a2 l (some R) true) = .ok (m2, m2) ∧
      stepM m (.rotate90 a1 a2 (k + l) (some R) true) = .ok (m2, m2) := by
  obtain ⟨m2, m12, h2, h12, _, _, _, _, _, he⟩ := stepM_rot_compose m hm hs a1 a2 k l R m1 m1' h
  obtain rfl := he hok
  exact ⟨m2, h2, h12⟩

/-- the last clause of `C12.mesh_inverse`: with a `bc` that passes the check the whole mesh comes back -/
theorem stepM_rot_inverse_bc (m : Mesh) (hm : m.Inv) (hs : SubInv m) (hok : Mesh.bcOk m.region.dims m.bc = true)
    (a1 a2 : String) (k : Int) (R : List Rat)
    (m1 m1' : Mesh) (h : stepM m (.rotate90 a1 a2 k (some R) true) = .ok (m1, m1')) :
    stepM m1' (.rotate90 a1 a2 (-k) (some R) true) = .ok (m, m) := by
  obtain ⟨m2, h2, h12⟩ := stepM_rot_compose_bc m hm hs hok a1 a2 k (-k) R m1 m1' h
  obtain ⟨e, _⟩ := stepM_rot_zero m hm hs a1 a2 (k + -k) (turn_back k) (some R) true _ m2 h12
  simp only [if_true] at e
  rw [e] at h2; exact h2

/-! ## which calls are refused -/

/-- the malformed classes of a quarter turn, with the lookup spelled out -/
theorem malformed_rot_iff (r : Region) (a1 a2 : String) (k : Int) (ref : Option (List Rat)) (b : Bool) :
    Malformed r (.rotate90 a1 a2 k ref b) ↔
      a1 = a2 ∨ (ref.getD r.center).length ≠ r.ndim ∨ a1 ∉ r.dims ∨ a2 ∉ r.dims := by
  simp only [Malformed, dim2index_error_iff]

/-! ## periodic directions turn with the axes — or do not (multi-character names) -/

/-- the definition, with `PlainBc` -/
theorem periodicAlong_iff (m : Mesh) (d : String) :
    PeriodicAlong m d ↔ ¬ PlainBc m.bc ∧ ∃ c, d.toList = [c] ∧ c ∈ m.bc.toList := Iff.rfl

theorem mem_map_bcSwap (a1 a2 : String) (x y : Char) (h1 : a1.toList = [x]) (h2 : a2.toList = [y]) (l : List Char) (c : Char) :
    c ∈ l.map (bcSwap a1 a2) ↔ bcSwap a1 a2 c ∈ l := by
  constructor
  · intro h
    obtain ⟨c0, hc0, rfl⟩ := List.mem_map.mp h
    rw [bcSwap_invol a1 a2 x y h1 h2]; exact hc0
  · intro h
    have := List.mem_map_of_mem (f := bcSwap a1 a2) h
    rwa [bcSwap_invol a1 a2 x y h1 h2] at this

theorem bcSwap_left (a1 a2 : String) (x y : Char) (h1 : a1.toList = [x]) (h2 : a2.toList = [y]) : bcSwap a1 a2 x = y := by
  rw [bcSwap_spec a1 a2 x y h1 h2, if_pos rfl]

theorem bcSwap_right (a1 a2 : String) (x y : Char) (h1 : a1.toList = [x]) (h2 : a2.toList = [y]) : bcSwap a1 a2 y = x := by
  rw [bcSwap_spec a1 a2 x y h1 h2]
  split
  · next e => exact e
  · rw [if_pos rfl]

theorem bcSwap_other (a1 a2 : String) (x y : Char) (h1 : a1.toList = [x]) (h2 : a2.toList = [y]) (c : Char) (c1 : c ≠ x)
    (c2 : c ≠ y) : bcSwap a1 a2 c = c := by
  rw [bcSwap_spec a1 a2 x y h1 h2, if_neg c1, if_neg c2]

theorem periodicAlong_single (m : Mesh) (d : String) (c : Char) (hd : d.toList = [c]) :
    PeriodicAlong m d ↔ ¬ PlainBc m.bc ∧ c ∈ m.bc.toList := by
  constructor
  · rintro ⟨hp, c0, h0, hm⟩
    rw [hd] at h0; injection h0 with h0; subst h0
    exact ⟨hp, hm⟩
  · rintro ⟨hp, hm⟩
    exact ⟨hp, c, hd, hm⟩

/-- a multi-character name cannot be a periodic direction: `bc` names directions by single letters -/
theorem not_periodic_multichar (m : Mesh) (d : String) (h : d.length ≠ 1) : ¬ PeriodicAlong m d := by
  rintro ⟨_, c, hc, _⟩
  apply h
  rw [← String.length_toList, hc]; rfl

/-! ## the mesh of finding D57 -/

/-- the mesh of finding D57: region (0,0)–(4,6), dims `x`, `yy`, n = (4,3), periodic along `x` -/
def exD57 : Mesh :=
  { region := ⟨[0, 0], [4, 6], ["x", "yy"], ["m", "m"], 1/1000000000000⟩, n := [4, 3], bc := "x", subs := [] }

end DFV.T
