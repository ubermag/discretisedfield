import Mathlib.Algebra.BigOperators.Group.Finset.Basic
import Mathlib.Algebra.BigOperators.Ring.Finset
import Mathlib.Tactic.Abel
import DFV.Lemmas.C19Quarter
import DFV.Lemmas.C19Examples
/-!
# C19 — the Berg–Lüscher sum over a closed lattice surface (combinatorial part)

On a fully valid 2-d mesh whose outermost cells all hold the same vector (the sheet closes up to a sphere) the lattice charge of
`topological_charge(method="berg-luescher")` is `Q = ½ Σ_squares (Ω(T₁) + Ω(T₂) + Ω(T₃) + Ω(T₄))`, the mean of the two triangulations
of the sheet.  If the solid angle `Ω(a, b, c)` is — after a homomorphism `φ` into an abelian group (for the real formula `ℝ → ℝ/ℤ`) — a
COBOUNDARY `θ(a,b) + θ(b,c) + θ(c,a)` of an antisymmetric link function `θ`, the links cancel in pairs (discrete Stokes theorem) and
`φ(2Q) = 0`.  The file ends with the decidable forms of the hypotheses on the sheet, checked on the example `fSk`.
-/
namespace DFV.C19
open DFV Finset

/-! ## discrete Stokes theorem on the lattice -/

section stokes
variable {G : Type} [AddCommGroup G]

/-- circulation around the unit square with lower-left corner `(i, j)`: bottom link, right link,
top link backwards, left link backwards (`h i j` = the link `(i,j) → (i+1,j)`, `v i j` = the link
`(i,j) → (i,j+1)`) -/
def plaq (h v : Nat → Nat → G) (i j : Nat) : G := h i j + v (i + 1) j - h i (j + 1) - v i j

/-- one row of squares: the inner vertical links cancel -/
theorem plaq_row (h v : Nat → Nat → G) (m j : Nat) :
    ∑ i ∈ range m, plaq h v i j
      = ∑ i ∈ range m, h i j + v m j - ∑ i ∈ range m, h i (j + 1) - v 0 j := by
  induction m with
  | zero => simp
  | succ m ih =>
    rw [sum_range_succ, sum_range_succ, sum_range_succ, ih]
    unfold plaq
    abel

/-- DISCRETE STOKES on the `m × n` block of squares: the circulations add up to the circulation
around the block (bottom, right, top backwards, left backwards).  Exported as `Props/C19.lattice_stokes`. -/
theorem plaq_block (h v : Nat → Nat → G) (m n : Nat) :
    ∑ j ∈ range n, ∑ i ∈ range m, plaq h v i j
      = ∑ i ∈ range m, h i 0 + ∑ j ∈ range n, v m j - ∑ i ∈ range m, h i n - ∑ j ∈ range n, v 0 j := by
  induction n with
  | zero => simp
  | succ n ih =>
    rw [sum_range_succ, sum_range_succ, sum_range_succ, ih, plaq_row]
    abel

end stokes

/-! ## re-indexing sums over the cells as sums over the squares -/

section reindex
variable {M : Type} [AddCommMonoid M]

theorem sum_if_succ_lt (n : Nat) (F : Nat → M) :
    ∑ i ∈ range n, (if i + 1 < n then F i else 0) = ∑ i ∈ range (n - 1), F i := by
  cases n with
  | zero => simp
  | succ n =>
    rw [sum_range_succ, if_neg (by omega), add_zero]
    apply sum_congr rfl
    intro i hi
    rw [mem_range] at hi
    rw [if_pos (by omega)]

theorem sum_if_one_le (n : Nat) (F : Nat → M) :
    ∑ i ∈ range n, (if 1 ≤ i then F i else 0) = ∑ i ∈ range (n - 1), F (i + 1) := by
  cases n with
  | zero => simp
  | succ n =>
    rw [sum_range_succ', if_neg (by omega), add_zero]
    apply sum_congr rfl
    intro i _
    rw [if_pos (by omega)]

end reindex

/-! ## the four triangles of a cell, all cells valid -/

/-- the four neighbours in a fully valid field: the validity test drops out -/
theorem nb_allValid (o : Fld) (hv : AllValid o) (i j : Nat) (hi : i < o.mesh.nAt 0) (hj : j < o.mesh.nAt 1) :
    nbE o i j = (if i + 1 < o.mesh.nAt 0 then some (pv o (i + 1) j) else none) ∧
    nbN o i j = (if j + 1 < o.mesh.nAt 1 then some (pv o i (j + 1)) else none) ∧
    nbW o i j = (if 1 ≤ i then some (pv o (i - 1) j) else none) ∧
    nbS o i j = (if 1 ≤ j then some (pv o i (j - 1)) else none) := by
  refine ⟨?_, ?_, ?_, ?_⟩
  · unfold nbE; by_cases h : i + 1 < o.mesh.nAt 0 <;> simp [h, hv (i + 1) j _ hj]
  · unfold nbN; by_cases h : j + 1 < o.mesh.nAt 1 <;> simp [h, hv i (j + 1) hi]
  · unfold nbW; by_cases h : 1 ≤ i <;> simp [h, hv (i - 1) j (by omega) hj]
  · unfold nbS; by_cases h : 1 ≤ j <;> simp [h, hv i (j - 1) hi (by omega)]

theorem tri?_ite (v0 a b : V3) (p q : Prop) [Decidable p] [Decidable q] :
    tri? v0 (if p then some a else none) (if q then some b else none) = if p ∧ q then [triOf v0 a b] else [] := by
  by_cases hp : p <;> by_cases hq : q <;> simp [hp, hq, tri?]

theorem triangles_allValid (o : Fld) (hv : AllValid o) (i j : Nat) (hi : i < o.mesh.nAt 0) (hj : j < o.mesh.nAt 1) :
    triangles o i j
      = (if i + 1 < o.mesh.nAt 0 ∧ j + 1 < o.mesh.nAt 1 then [tNE o i j] else []) ++
        (if 1 ≤ i ∧ j + 1 < o.mesh.nAt 1 then [tNW o i j] else []) ++
        (if 1 ≤ i ∧ 1 ≤ j then [tSW o i j] else []) ++
        (if i + 1 < o.mesh.nAt 0 ∧ 1 ≤ j then [tSE o i j] else []) := by
  obtain ⟨hE, hN, hW, hS⟩ := nb_allValid o hv i j hi hj
  unfold triangles
  rw [hE, hN, hW, hS]
  -- `tri?_ite` lists the condition of the first neighbour first; here: the condition along axis 0 first
  simp only [tri?_ite, and_comm (a := j + 1 < o.mesh.nAt 1) (b := 1 ≤ i), and_comm (a := 1 ≤ j) (b := i + 1 < o.mesh.nAt 0)]
  rfl

section sums
variable {K : Type} [Field K]

/-- sum of `g` over the triangles of a cell -/
def triSum (g : Tri → K) (o : Fld) (i j : Nat) : K := ((triangles o i j).map g).sum

theorem sum_map_ite_and (g : Tri → K) (p q : Prop) [Decidable p] [Decidable q] (t : Tri) :
    (((if p ∧ q then [t] else []) : List Tri).map g).sum = if p then (if q then g t else 0) else 0 := by
  by_cases hp : p <;> by_cases hq : q <;> simp [hp, hq]

theorem triSum_allValid (g : Tri → K) (o : Fld) (hv : AllValid o) (i j : Nat) (hi : i < o.mesh.nAt 0) (hj : j < o.mesh.nAt 1) :
    triSum g o i j
      = (if i + 1 < o.mesh.nAt 0 then (if j + 1 < o.mesh.nAt 1 then g (tNE o i j) else 0) else 0) +
        (if 1 ≤ i then (if j + 1 < o.mesh.nAt 1 then g (tNW o i j) else 0) else 0) +
        (if 1 ≤ i then (if 1 ≤ j then g (tSW o i j) else 0) else 0) +
        (if i + 1 < o.mesh.nAt 0 then (if 1 ≤ j then g (tSE o i j) else 0) else 0) := by
  unfold triSum
  rw [triangles_allValid o hv i j hi hj]
  simp only [List.map_append, List.sum_append]
  rw [sum_map_ite_and, sum_map_ite_and, sum_map_ite_and, sum_map_ite_and]

/-- SUM OVER CELLS = SUM OVER SQUARES: every triangle belongs to exactly one lattice square -/
theorem triSum_cells_eq_squares (g : Tri → K) (o : Fld) (hv : AllValid o) :
    ∑ i ∈ range (o.mesh.nAt 0), ∑ j ∈ range (o.mesh.nAt 1), triSum g o i j
      = ∑ i ∈ range (o.mesh.nAt 0 - 1), ∑ j ∈ range (o.mesh.nAt 1 - 1),
          (g (tNE o i j) + g (tNW o (i + 1) j) + g (tSW o (i + 1) (j + 1)) + g (tSE o i (j + 1))) := by
  have e : ∑ i ∈ range (o.mesh.nAt 0), ∑ j ∈ range (o.mesh.nAt 1), triSum g o i j
      = ∑ i ∈ range (o.mesh.nAt 0), ∑ j ∈ range (o.mesh.nAt 1),
        ((if i + 1 < o.mesh.nAt 0 then (if j + 1 < o.mesh.nAt 1 then g (tNE o i j) else 0) else 0) +
        (if 1 ≤ i then (if j + 1 < o.mesh.nAt 1 then g (tNW o i j) else 0) else 0) +
        (if 1 ≤ i then (if 1 ≤ j then g (tSW o i j) else 0) else 0) +
        (if i + 1 < o.mesh.nAt 0 then (if 1 ≤ j then g (tSE o i j) else 0) else 0)) := by
    apply sum_congr rfl; intro i hi
    apply sum_congr rfl; intro j hj
    rw [mem_range] at hi hj
    exact triSum_allValid g o hv i j hi hj
  rw [e]
  simp only [sum_add_distrib]
  have push : ∀ (p : Prop) [Decidable p] (F : Nat → K) (n : Nat),
      ∑ j ∈ range n, (if p then F j else 0) = if p then ∑ j ∈ range n, F j else 0 := by
    intro p _ F n; by_cases hp : p <;> simp [hp]
  simp only [push, sum_if_succ_lt, sum_if_one_le]

end sums

/-! ## the rim and the weights `1 / (area · count)` -/

section closed
variable {K G : Type} [Field K] [CharZero K] [AddCommGroup G]

theorem triOf_t_rim (r x y : V3) (h : x = r ∨ y = r) : (triOf r x y).t = 0 := by
  rcases h with rfl | rfl <;> (simp only [triOf, V3.dot, V3.cross]; ring)

omit [CharZero K] in
theorem ite_blAngleK_zero (Om : Tri → K) (p q : Prop) [Decidable p] [Decidable q] (tr : Tri) (h : p → q → tr.t = 0) :
    (if p then (if q then blAngleK Om tr else 0) else 0) = 0 := by
  by_cases hp : p
  · by_cases hq : q
    · rw [if_pos hp, if_pos hq]; exact if_pos (h hp hq)
    · rw [if_pos hp, if_neg hq]
  · rw [if_neg hp]

omit [CharZero K] in
/-- at a cell of the rim every triangle contains the rim vector twice (the cell itself and, of its two neighbours
in the triangle, the one along the rim): all angles are zero -/
theorem triSum_rim (Om : Tri → K) (o : Fld) (r : V3) (hv : AllValid o) (hr : UniformRim o r) (i j : Nat)
    (hi : i < o.mesh.nAt 0) (hj : j < o.mesh.nAt 1)
    (hrim : i = 0 ∨ i + 1 = o.mesh.nAt 0 ∨ j = 0 ∨ j + 1 = o.mesh.nAt 1) :
    triSum (blAngleK Om) o i j = 0 := by
  rw [triSum_allValid _ o hv i j hi hj]
  have h0 : pv o i j = r := hr i j hi hj hrim
  -- `UniformRim` spelled out
  replace hr : ∀ i j, i < o.mesh.nAt 0 → j < o.mesh.nAt 1 →
      (i = 0 ∨ i + 1 = o.mesh.nAt 0 ∨ j = 0 ∨ j + 1 = o.mesh.nAt 1) → pv o i j = r := hr
  -- each of the four triangles, when it exists, has a second corner on the rim: the neighbour along the side the cell lies on
  have hNE : i + 1 < o.mesh.nAt 0 → j + 1 < o.mesh.nAt 1 → (tNE o i j).t = 0 := fun a b => by
    unfold tNE; rw [h0]; apply triOf_t_rim
    rcases hrim with h | h | h | h
    · exact Or.inr (hr i (j + 1) hi b (Or.inl h))
    · omega
    · exact Or.inl (hr (i + 1) j a hj (Or.inr (Or.inr (Or.inl h))))
    · omega
  have hNW : 1 ≤ i → j + 1 < o.mesh.nAt 1 → (tNW o i j).t = 0 := fun a b => by
    unfold tNW; rw [h0]; apply triOf_t_rim
    rcases hrim with h | h | h | h
    · omega
    · exact Or.inl (hr i (j + 1) hi b (Or.inr (Or.inl h)))
    · exact Or.inr (hr (i - 1) j (by omega) hj (Or.inr (Or.inr (Or.inl h))))
    · omega
  have hSW : 1 ≤ i → 1 ≤ j → (tSW o i j).t = 0 := fun a b => by
    unfold tSW; rw [h0]; apply triOf_t_rim
    rcases hrim with h | h | h | h
    · omega
    · exact Or.inr (hr i (j - 1) hi (by omega) (Or.inr (Or.inl h)))
    · omega
    · exact Or.inl (hr (i - 1) j (by omega) hj (Or.inr (Or.inr (Or.inr h))))
  have hSE : i + 1 < o.mesh.nAt 0 → 1 ≤ j → (tSE o i j).t = 0 := fun a b => by
    unfold tSE; rw [h0]; apply triOf_t_rim
    rcases hrim with h | h | h | h
    · exact Or.inl (hr i (j - 1) hi (by omega) (Or.inl h))
    · omega
    · omega
    · exact Or.inr (hr (i + 1) j a hj (Or.inr (Or.inr (Or.inr h))))
  rw [ite_blAngleK_zero Om _ _ _ hNE, ite_blAngleK_zero Om _ _ _ hNW, ite_blAngleK_zero Om _ _ _ hSW,
    ite_blAngleK_zero Om _ _ _ hSE]
  simp

/-- the weight of a cell: with a uniform rim, twice the density times the cell area is the plain sum of
the cell's triangle angles (inner cells have four triangles of area `c₀c₁/2`; at the rim both sides vanish) -/
theorem cell_weight (Om : Tri → K) (o : Fld) (r : V3) (hv : AllValid o) (hr : UniformRim o r)
    (hc0 : o.mesh.cellAt 0 ≠ 0) (hc1 : o.mesh.cellAt 1 ≠ 0) (i j : Nat)
    (hi : i < o.mesh.nAt 0) (hj : j < o.mesh.nAt 1) :
    2 * (tcdBLAtK Om o i j * (((o.mesh.cellAt 0 * o.mesh.cellAt 1 : Rat)) : K)) = triSum (blAngleK Om) o i j := by
  by_cases hrim : i = 0 ∨ i + 1 = o.mesh.nAt 0 ∨ j = 0 ∨ j + 1 = o.mesh.nAt 1
  · have hz := triSum_rim Om o r hv hr i j hi hj hrim
    rw [hz, tcdBLAtK_of_sum_zero Om o i j hz, zero_mul, mul_zero]
  · have h1 : 1 ≤ i := by omega
    have h2 : i + 1 < o.mesh.nAt 0 := by omega
    have h3 : 1 ≤ j := by omega
    have h4 : j + 1 < o.mesh.nAt 1 := by omega
    have hl : (triangles o i j).length = 4 := by
      rw [triangles_allValid o hv i j hi hj]
      simp [h1, h2, h3, h4]
    unfold tcdBLAtK triSum
    rw [hv i j hi hj, hl]
    simp only [if_true, Nat.ofNat_pos]
    have k0 : ((o.mesh.cellAt 0 : Rat) : K) ≠ 0 := by exact_mod_cast hc0
    have k1 : ((o.mesh.cellAt 1 : Rat) : K) ≠ 0 := by exact_mod_cast hc1
    unfold triArea
    push_cast
    field_simp
    ring

/-- the triangles of a lattice square seen from its other three corners, with the `− 1`s of `tNW`, `tSW`, `tSE` resolved -/
theorem tNW_succ (o : Fld) (i j : Nat) : tNW o (i + 1) j = triOf (pv o (i + 1) j) (pv o (i + 1) (j + 1)) (pv o i j) := by
  unfold tNW; simp

theorem tSW_succ (o : Fld) (i j : Nat) :
    tSW o (i + 1) (j + 1) = triOf (pv o (i + 1) (j + 1)) (pv o i (j + 1)) (pv o (i + 1) j) := by
  unfold tSW; simp

theorem tSE_succ (o : Fld) (i j : Nat) : tSE o i (j + 1) = triOf (pv o i (j + 1)) (pv o i j) (pv o (i + 1) (j + 1)) := by
  unfold tSE; simp

/-- the solid angle of the triangle `(x, y, z)` is, after `φ`, the coboundary of the link function `θ` -/
def Cob (φ : K →+ G) (Om : Tri → K) (θ : V3 → V3 → G) (x y z : V3) : Prop :=
  φ (blAngleK Om (triOf x y z)) = θ x y + θ y z + θ z x

/-- the horizontal link `(i, j) → (i+1, j)` of the lattice -/
def hLink (θ : V3 → V3 → G) (o : Fld) (i j : Nat) : G := θ (pv o i j) (pv o (i + 1) j)

/-- the vertical link `(i, j) → (i, j+1)` -/
def vLink (θ : V3 → V3 → G) (o : Fld) (i j : Nat) : G := θ (pv o i j) (pv o i (j + 1))

/-- the four coboundary hypotheses of the lattice square with lower-left cell `(i, j)` -/
def SquareCob (φ : K →+ G) (Om : Tri → K) (θ : V3 → V3 → G) (o : Fld) (i j : Nat) : Prop :=
  Cob φ Om θ (pv o i j) (pv o (i + 1) j) (pv o i (j + 1)) ∧
  Cob φ Om θ (pv o (i + 1) j) (pv o (i + 1) (j + 1)) (pv o i j) ∧
  Cob φ Om θ (pv o (i + 1) (j + 1)) (pv o i (j + 1)) (pv o (i + 1) j) ∧
  Cob φ Om θ (pv o i (j + 1)) (pv o i j) (pv o (i + 1) (j + 1))

omit [CharZero K] in
/-- each of the two triangulations of a lattice square has the circulation of `θ` around the square as
its solid angle (after `φ`): the diagonal link cancels against its reverse -/
theorem square_cob (φ : K →+ G) (Om : Tri → K) (θ : V3 → V3 → G) (o : Fld) (hanti : ∀ x y, θ y x = -θ x y)
    (i j : Nat) (hc : SquareCob φ Om θ o i j) :
    φ (blAngleK Om (tNE o i j) + blAngleK Om (tSW o (i + 1) (j + 1))) = plaq (hLink θ o) (vLink θ o) i j ∧
    φ (blAngleK Om (tNW o (i + 1) j) + blAngleK Om (tSE o i (j + 1))) = plaq (hLink θ o) (vLink θ o) i j := by
  obtain ⟨c1, c2, c3, c4⟩ := hc
  unfold Cob at c1 c2 c3 c4
  rw [map_add, map_add, tNW_succ, tSW_succ, tSE_succ]
  unfold tNE
  rw [c1, c2, c3, c4]
  unfold plaq hLink vLink
  rw [hanti (pv o (i + 1) (j + 1)) (pv o i (j + 1)), hanti (pv o i (j + 1)) (pv o i j),
    hanti (pv o i (j + 1)) (pv o (i + 1) j), hanti (pv o (i + 1) (j + 1)) (pv o i j)]
  constructor <;> abel

/-- a horizontal link in the bottom or top row, a vertical link in the first or last column joins two rim cells: it vanishes -/
theorem hLink_rim (θ : V3 → V3 → G) (o : Fld) (r : V3) (hr : UniformRim o r) (hrr : θ r r = 0) (i j : Nat)
    (hi : i + 1 < o.mesh.nAt 0) (hj : j < o.mesh.nAt 1) (h : j = 0 ∨ j + 1 = o.mesh.nAt 1) : hLink θ o i j = 0 := by
  have e : ∀ i', i' < o.mesh.nAt 0 → pv o i' j = r := fun i' hi' =>
    hr i' j hi' hj (Or.inr (Or.inr h))
  unfold hLink
  rw [e i (by omega), e (i + 1) hi, hrr]

theorem vLink_rim (θ : V3 → V3 → G) (o : Fld) (r : V3) (hr : UniformRim o r) (hrr : θ r r = 0) (i j : Nat)
    (hi : i < o.mesh.nAt 0) (hj : j + 1 < o.mesh.nAt 1) (h : i = 0 ∨ i + 1 = o.mesh.nAt 0) : vLink θ o i j = 0 := by
  have e : ∀ j', j' < o.mesh.nAt 1 → pv o i j' = r := fun j' hj' =>
    hr i j' hi hj' (h.elim Or.inl fun h => Or.inr (Or.inl h))
  unfold vLink
  rw [e j (by omega), e (j + 1) hj, hrr]

/-- with a uniform rim the circulations of all squares add up to zero: by the discrete Stokes theorem they add up to the
circulation around the block, which runs along the rim -/
theorem plaq_rim (θ : V3 → V3 → G) (o : Fld) (r : V3) (hr : UniformRim o r) (hrr : θ r r = 0) :
    ∑ j ∈ range (o.mesh.nAt 1 - 1), ∑ i ∈ range (o.mesh.nAt 0 - 1), plaq (hLink θ o) (vLink θ o) i j = 0 := by
  by_cases hs : o.mesh.nAt 0 ≤ 1 ∨ o.mesh.nAt 1 ≤ 1
  · rcases hs with hs | hs
    · rw [show o.mesh.nAt 0 - 1 = 0 by omega]; simp
    · rw [show o.mesh.nAt 1 - 1 = 0 by omega]; simp
  -- the four sides of the block run along the rim
  have hb : ∑ i ∈ range (o.mesh.nAt 0 - 1), hLink θ o i 0 = 0 := sum_eq_zero fun i hi => by
    rw [mem_range] at hi
    exact hLink_rim θ o r hr hrr i 0 (by omega) (by omega) (Or.inl rfl)
  have hr' : ∑ j ∈ range (o.mesh.nAt 1 - 1), vLink θ o (o.mesh.nAt 0 - 1) j = 0 := sum_eq_zero fun j hj => by
    rw [mem_range] at hj
    exact vLink_rim θ o r hr hrr (o.mesh.nAt 0 - 1) j (by omega) (by omega) (Or.inr (by omega))
  have ht : ∑ i ∈ range (o.mesh.nAt 0 - 1), hLink θ o i (o.mesh.nAt 1 - 1) = 0 := sum_eq_zero fun i hi => by
    rw [mem_range] at hi
    exact hLink_rim θ o r hr hrr i (o.mesh.nAt 1 - 1) (by omega) (by omega) (Or.inr (by omega))
  have hl : ∑ j ∈ range (o.mesh.nAt 1 - 1), vLink θ o 0 j = 0 := sum_eq_zero fun j hj => by
    rw [mem_range] at hj
    exact vLink_rim θ o r hr hrr 0 j (by omega) (by omega) (Or.inl rfl)
  rw [plaq_block, hb, hr', ht, hl]
  simp

omit [CharZero K] in
/-- the lattice charge `Σ_cells q·c₀c₁` of the Berg–Lüscher density with leaf `Om` -/
def latticeCharge (Om : Tri → K) (o : Fld) : K :=
  ∑ i ∈ range (o.mesh.nAt 0), ∑ j ∈ range (o.mesh.nAt 1), tcdBLAtK Om o i j * (((o.mesh.cellAt 0 * o.mesh.cellAt 1 : Rat)) : K)

/-- TWICE THE LATTICE CHARGE IS THE SUM OF ALL FOUR TRIANGLES OF ALL SQUARES (uniform rim, all cells valid):
the charge is the mean of the two triangulations of the sheet.  Exported as `Props/C19.bl_charge_two_triangulations`. -/
theorem charge_as_squares (Om : Tri → K) (o : Fld) (r : V3) (hv : AllValid o) (hr : UniformRim o r)
    (hc0 : o.mesh.cellAt 0 ≠ 0) (hc1 : o.mesh.cellAt 1 ≠ 0) :
    2 * latticeCharge Om o
      = ∑ i ∈ range (o.mesh.nAt 0 - 1), ∑ j ∈ range (o.mesh.nAt 1 - 1),
          (blAngleK Om (tNE o i j) + blAngleK Om (tNW o (i + 1) j) + blAngleK Om (tSW o (i + 1) (j + 1))
            + blAngleK Om (tSE o i (j + 1))) := by
  unfold latticeCharge
  rw [← triSum_cells_eq_squares _ o hv, mul_sum]
  apply sum_congr rfl; intro i hi
  rw [mul_sum]
  apply sum_congr rfl; intro j hj
  rw [mem_range] at hi hj
  exact cell_weight Om o r hv hr hc0 hc1 i j hi hj

/-- total angle of the triangulation of the sheet that cuts every lattice square along its `SE–NW` diagonal (triangles
`(SW,SE,NW)` and `(NE,NW,SE)`); for the real solid angle its degree -/
def degA (Om : Tri → K) (o : Fld) : K :=
  ∑ i ∈ range (o.mesh.nAt 0 - 1), ∑ j ∈ range (o.mesh.nAt 1 - 1), (blAngleK Om (tNE o i j) + blAngleK Om (tSW o (i + 1) (j + 1)))

/-- … and of the triangulation that cuts along `SW–NE` (triangles `(SE,NE,SW)` and `(NW,SW,NE)`) -/
def degB (Om : Tri → K) (o : Fld) : K :=
  ∑ i ∈ range (o.mesh.nAt 0 - 1), ∑ j ∈ range (o.mesh.nAt 1 - 1), (blAngleK Om (tNW o (i + 1) j) + blAngleK Om (tSE o i (j + 1)))

theorem charge_eq_mean_deg (Om : Tri → K) (o : Fld) (r : V3) (hv : AllValid o) (hr : UniformRim o r)
    (hc0 : o.mesh.cellAt 0 ≠ 0) (hc1 : o.mesh.cellAt 1 ≠ 0) :
    2 * latticeCharge Om o = degA Om o + degB Om o := by
  rw [charge_as_squares Om o r hv hr hc0 hc1]
  unfold degA degB
  simp only [← sum_add_distrib]
  exact sum_congr rfl fun i _ => sum_congr rfl fun j _ => by ring

omit [CharZero K] in
/-- EACH TRIANGULATION CLOSES UP: after `φ` its triangles of a square add up to the circulation of the links around the square
(`square_cob`), and on a sheet with uniform rim the circulations of all squares cancel (`plaq_rim`) -/
theorem deg_closed (φ : K →+ G) (Om : Tri → K) (θ : V3 → V3 → G) (o : Fld) (r : V3) (hr : UniformRim o r)
    (hanti : ∀ x y, θ y x = -θ x y) (hrr : θ r r = 0)
    (hcob : ∀ i j, i + 1 < o.mesh.nAt 0 → j + 1 < o.mesh.nAt 1 → SquareCob φ Om θ o i j) :
    φ (degA Om o) = 0 ∧ φ (degB Om o) = 0 := by
  have key : ∀ F : Nat → Nat → K,
      (∀ i j, i + 1 < o.mesh.nAt 0 → j + 1 < o.mesh.nAt 1 → φ (F i j) = plaq (hLink θ o) (vLink θ o) i j) →
      φ (∑ i ∈ range (o.mesh.nAt 0 - 1), ∑ j ∈ range (o.mesh.nAt 1 - 1), F i j) = 0 := by
    intro F hF
    rw [map_sum, sum_congr rfl fun i hi => (map_sum φ _ _).trans
      (sum_congr rfl fun j hj => hF i j (by rw [mem_range] at hi; omega) (by rw [mem_range] at hj; omega)), sum_comm]
    exact plaq_rim θ o r hr hrr
  exact ⟨key _ fun i j hi hj => (square_cob φ Om θ o hanti i j (hcob i j hi hj)).1,
    key _ fun i j hi hj => (square_cob φ Om θ o hanti i j (hcob i j hi hj)).2⟩

/-- THE BERG–LÜSCHER SUM OVER A CLOSED SHEET.  Fully valid field, the outermost cells all equal to `r`;
`φ` a homomorphism of the value field into an abelian group, `θ` an antisymmetric link function with
`θ(r, r) = 0`, and on each of the four right triangles of every lattice square the solid angle is the
coboundary of `θ` after `φ`.  Then `φ` kills twice the lattice charge `Σ_cells q·c₀c₁`. -/
theorem bl_closed_sum (φ : K →+ G) (Om : Tri → K) (θ : V3 → V3 → G) (o : Fld) (r : V3)
    (hv : AllValid o) (hr : UniformRim o r) (hc0 : o.mesh.cellAt 0 ≠ 0) (hc1 : o.mesh.cellAt 1 ≠ 0)
    (hanti : ∀ x y, θ y x = -θ x y) (hrr : θ r r = 0)
    (hcob : ∀ i j, i + 1 < o.mesh.nAt 0 → j + 1 < o.mesh.nAt 1 → SquareCob φ Om θ o i j) :
    φ (2 * latticeCharge Om o) = 0 := by
  rw [charge_eq_mean_deg Om o r hv hr hc0 hc1, map_add, (deg_closed φ Om θ o r hr hanti hrr hcob).1,
    (deg_closed φ Om θ o r hr hanti hrr hcob).2, add_zero]

/-- … and if on every square the two triangulations give the same solid angle, `φ` kills the lattice
charge itself -/
theorem bl_closed_sum_one (φ : K →+ G) (Om : Tri → K) (θ : V3 → V3 → G) (o : Fld) (r : V3)
    (hv : AllValid o) (hr : UniformRim o r) (hc0 : o.mesh.cellAt 0 ≠ 0) (hc1 : o.mesh.cellAt 1 ≠ 0)
    (hanti : ∀ x y, θ y x = -θ x y) (hrr : θ r r = 0)
    (hcob : ∀ i j, i + 1 < o.mesh.nAt 0 → j + 1 < o.mesh.nAt 1 → SquareCob φ Om θ o i j)
    (hAB : ∀ i j, i + 1 < o.mesh.nAt 0 → j + 1 < o.mesh.nAt 1 →
      blAngleK Om (tNE o i j) + blAngleK Om (tSW o (i + 1) (j + 1))
        = blAngleK Om (tNW o (i + 1) j) + blAngleK Om (tSE o i (j + 1))) :
    φ (latticeCharge Om o) = 0 := by
  have hAB' : degB Om o = degA Om o :=
    sum_congr rfl fun i hi => sum_congr rfl fun j hj => by
      rw [mem_range] at hi hj
      exact (hAB i j (by omega) (by omega)).symm
  have h2 := charge_eq_mean_deg Om o r hv hr hc0 hc1
  rw [hAB', ← two_mul] at h2
  rw [mul_left_cancel₀ (OfNat.ofNat_ne_zero 2) h2]
  exact (deg_closed φ Om θ o r hr hanti hrr hcob).1

end closed

/-! ## the model's own `topological_charge(method="berg-luescher")` as that sum -/

/-- `topological_charge(field, method="berg-luescher")` of the model is the sum over all cells of the
lattice density of the orientation field times the cell area -/
theorem charge_bl_sum (sq : Rat → Rat) (pi : Rat) (Om : Tri → Rat) (f : Fld) (c : Rat)
    (hs : f.data.shape = [f.mesh.nAt 0, f.mesh.nAt 1])
    (h : charge sq pi Om f .bergLuescher false = .ok c) :
    c = latticeCharge (K := Rat) Om (orientation sq f) := by
  obtain ⟨q, hq, rfl⟩ := charge_ok_inv sq pi Om f .bergLuescher false c h
  obtain ⟨_, h2, _, rfl⟩ := tcd_ok sq pi Om f q .bergLuescher hq
  unfold latticeCharge
  rw [integrateAll_tcdFld false sq pi Om f _ hs h2, sumTo_eq_sum, sum_mul]
  apply sum_congr rfl; intro i _
  rw [sumTo_eq_sum, sum_mul]
  apply sum_congr rfl; intro j _
  simp only [Bool.false_eq_true, if_false]
  show tcdBLAt Om (orientation sq f) i j * _ = _
  rw [tcdBLAt_eq_K]
  rfl

/-! ## the hypotheses on the orientation field, and a decision procedure for them -/

theorem closedSheet_of_B (o : Fld) (r : V3) (h : closedSheetB o r = true) : ClosedSheet o r := by
  unfold closedSheetB at h
  simp only [Bool.and_eq_true, decide_eq_true_eq, allLt_iff] at h
  obtain ⟨⟨⟨⟨h1, h2⟩, h3⟩, h4⟩, h5⟩ := h
  refine ⟨fun i j hi hj => (h1 i hi j hj).1, fun i j hi hj hr => (h1 i hi j hj).2 hr, h2, h3, h4, ?_⟩
  intro i j hi hj
  exact h5 i (by omega) j (by omega)

theorem smoothSheet_of_B (o : Fld) (h : smoothSheetB o = true) : SmoothSheet o := by
  unfold smoothSheetB at h
  simp only [decide_eq_true_eq, allLt_iff] at h
  intro i j hi hj
  exact h i (by omega) j (by omega)

/-- the skyrmion-like texture `fSk` (`Lemmas/C19Examples`) satisfies them -/
theorem fSk_closed : ClosedSheet (orientation ratSqrt fSk) ⟨0, 0, 1⟩ := closedSheet_of_B _ _ (by decide +kernel)

theorem fSk_smooth : SmoothSheet (orientation ratSqrt fSk) := smoothSheet_of_B _ (by decide +kernel)

end DFV.C19
