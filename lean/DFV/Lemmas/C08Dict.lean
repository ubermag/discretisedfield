import DFV.Lemmas.C08Set
/-! A dictionary over the subregions of the mesh as validity
(`setMaskDict`).  The loop that paints the subregions in reversed order = "the FIRST subregion
whose name is a key and whose block contains the cell decides, else the default"; accepted exactly
when every value is acceptable on its own subregion and a default exists unless all cells are
covered. -/
namespace DFV.C08
open DFV

/-! ## the reading: the first covering entry decides -/

/-- first entry (in list order) that is a key and contains `j` decides; else `fb` -/
def dictGo : List DEntry → Bool → List Nat → Bool
  | [], fb, _ => fb
  | e :: rest, fb, j =>
    match e.val with
    | none => dictGo rest fb j
    | some s => if inBox e.lo e.hi j then specMask (boxShape e.lo e.hi) s (boxIdx e.lo j) else dictGo rest fb j

theorem dictGo_append (es es' : List DEntry) (fb : Bool) (j : List Nat) :
    dictGo (es ++ es') fb j = dictGo es (dictGo es' fb j) j := by
  induction es with
  | nil => rfl
  | cons e rest ih =>
    simp only [List.cons_append, dictGo]
    cases e.val with
    | none => exact ih
    | some s =>
      simp only
      split
      · rfl
      · exact ih

theorem dictCell_eq_go (dflt : DDefault) (es : List DEntry) (j : List Nat) :
    dictCell dflt es j = dictGo es (dictCell dflt [] j) j := by
  induction es with
  | nil => rfl
  | cons e rest ih =>
    simp only [dictCell, dictGo]
    cases e.val with
    | none => exact ih
    | some s =>
      simp only
      split
      · rfl
      · exact ih

theorem dictCovered_append (es es' : List DEntry) (j : List Nat) :
    dictCovered (es ++ es') j = (dictCovered es j || dictCovered es' j) := by
  induction es with
  | nil => simp [dictCovered]
  | cons e rest ih => simp only [List.cons_append, dictCovered, ih, Bool.or_assoc]

theorem dictCovered_reverse (es : List DEntry) (j : List Nat) : dictCovered es.reverse j = dictCovered es j := by
  induction es with
  | nil => rfl
  | cons e rest ih =>
    rw [List.reverse_cons, dictCovered_append, ih]
    simp only [dictCovered, Bool.or_false]
    exact Bool.or_comm _ _

theorem dictGo_uncovered (es : List DEntry) (fb : Bool) (j : List Nat) (h : dictCovered es j = false) :
    dictGo es fb j = fb := by
  induction es with
  | nil => rfl
  | cons e rest ih =>
    simp only [dictCovered, Bool.or_eq_false_iff, Bool.and_eq_false_iff] at h
    simp only [dictGo]
    cases hv : e.val with
    | none => exact ih h.2
    | some s =>
      simp only
      have : inBox e.lo e.hi j = false := by
        rcases h.1 with h1 | h1
        · rw [hv] at h1; simp at h1
        · exact h1
      simp only [this]
      exact ih h.2

theorem dictGo_covered (es : List DEntry) (fb fb' : Bool) (j : List Nat) (h : dictCovered es j = true) :
    dictGo es fb j = dictGo es fb' j := by
  induction es with
  | nil => simp [dictCovered] at h
  | cons e rest ih =>
    simp only [dictGo]
    cases hv : e.val with
    | none =>
      simp only [dictCovered, hv, Option.isSome_none, Bool.false_and, Bool.false_or] at h
      exact ih h
    | some s =>
      simp only
      by_cases c : inBox e.lo e.hi j = true
      · simp only [c, if_true]
      · simp only [dictCovered, hv, Option.isSome_some, Bool.true_and, c, Bool.false_or] at h
        simp only [c]
        exact ih h

/-! ## the painting loop -/

theorem boxIdx_inRange (lo hi j : List Nat) (h : inBox lo hi j = true) :
    inRange (boxShape lo hi) (boxIdx lo j) = true := by
  unfold boxShape boxIdx
  refine (inRange_iff _ _).mpr ⟨(tab_length _ _).trans (tab_length _ _).symm, fun a ha => ?_⟩
  rw [tab_length] at ha
  rw [getD_tab _ _ _ _ ha, getD_tab _ _ _ _ ha]
  have := (allLt_iff _ _).mp h a ha
  simp only [Bool.and_eq_true, decide_eq_true_eq] at this
  omega

theorem entriesOk_reverse (es : List DEntry) : entriesOk es.reverse = entriesOk es := by
  unfold entriesOk; exact List.all_reverse

/-- the painting loop, read cell by cell: a later entry of the loop overwrites an earlier one -/
theorem paint_spec (n : List Nat) (es : List DEntry) : ∀ (st st' : Mask × Mask), paint n es st = .ok st' →
    (es ≠ [] → st.1.shape = n → st'.1.shape = n) ∧ (st.1.shape = n → st'.1.shape = n) ∧
    ∀ j, inRange n j = true →
      st'.1.get j = dictGo es.reverse (st.1.get j) j ∧ st'.2.get j = (st.2.get j && !dictCovered es j) := by
  induction es with
  | nil =>
    intro st st' h
    simp only [paint, Except.ok.injEq] at h; subst h
    exact ⟨fun hne => absurd rfl hne, id, fun j _ => ⟨rfl, by simp [dictCovered]⟩⟩
  | cons e rest ih =>
    intro st st' h
    simp only [paint] at h
    cases hv : e.val with
    | none =>
      rw [hv] at h
      obtain ⟨_, h2, h3⟩ := ih st st' h
      refine ⟨fun _ => h2, h2, fun j hj => ?_⟩
      obtain ⟨e1, e2⟩ := h3 j hj
      rw [List.reverse_cons, dictGo_append]
      refine ⟨?_, ?_⟩
      · rw [e1]; simp only [dictGo, hv]
      · rw [e2]; simp only [dictCovered, hv, Option.isSome_none, Bool.false_and, Bool.false_or]
    | some s =>
      rw [hv] at h
      simp only at h
      split at h
      · cases h
      · rename_i sm hsm
        obtain ⟨_, h2, h3⟩ := ih _ st' h
        refine ⟨fun _ _ => h2 rfl, fun _ => h2 rfl, fun j hj => ?_⟩
        obtain ⟨e1, e2⟩ := h3 j hj
        rw [List.reverse_cons, dictGo_append]
        refine ⟨?_, ?_⟩
        · rw [e1]
          simp only [dictGo, hv]
          by_cases c : inBox e.lo e.hi j = true
          · simp only [c, if_true]
            rw [(setMask_spec _ _ _ hsm).2 _ (boxIdx_inRange _ _ _ c)]
          · simp only [c]; rfl
        · rw [e2]
          simp only [dictCovered, hv, Option.isSome_some, Bool.true_and]
          by_cases c : inBox e.lo e.hi j = true
          · simp [c]
          · simp only [c]; simp

/-- … for the reversed list, as the setter calls it: the FIRST entry of `es` that covers the cell wins -/
theorem paint_reverse_spec (n : List Nat) (es : List DEntry) (st st' : Mask × Mask)
    (h : paint n es.reverse st = .ok st') (j : List Nat) (hj : inRange n j = true) :
    st'.1.get j = dictGo es (st.1.get j) j ∧ st'.2.get j = (st.2.get j && !dictCovered es j) := by
  have := (paint_spec n es.reverse st st' h).2.2 j hj
  rwa [List.reverse_reverse, dictCovered_reverse] at this

theorem entriesOk_cons (e : DEntry) (rest : List DEntry) :
    entriesOk (e :: rest) = ((match e.val with
      | none => true
      | some s => s.ok (boxShape e.lo e.hi)) && entriesOk rest) := rfl

theorem paint_ok_iff (n : List Nat) (es : List DEntry) : ∀ st : Mask × Mask,
    (∃ st', paint n es st = .ok st') ↔ entriesOk es = true := by
  induction es with
  | nil => exact fun st => ⟨fun _ => rfl, fun _ => ⟨st, rfl⟩⟩
  | cons e rest ih =>
    intro st
    rw [entriesOk_cons, Bool.and_eq_true]
    simp only [paint]
    cases e.val with
    | none => exact (ih st).trans ⟨fun h => ⟨rfl, h⟩, fun h => h.2⟩
    | some s =>
      cases hs : setMask (boxShape e.lo e.hi) s with
      | error er =>
        simp only [hs]
        exact ⟨fun ⟨_, h⟩ => (nomatch h), fun h => by
          obtain ⟨_, hm⟩ := (setMask_ok_iff _ _).mpr h.1
          rw [hs] at hm; cases hm⟩
      | ok sm =>
        simp only [hs]
        exact (ih _).trans ⟨fun h => ⟨(setMask_ok_iff _ _).mp ⟨sm, hs⟩, h⟩, fun h => h.2⟩

/-! ## the setter -/

/-- initial `(array, unset)` of the dictionary branch -/
def dictInit (n : List Nat) : DDefault → Mask × Mask
  | .const v => (NDA.const n (decide (v ≠ 0)), NDA.const n false)
  | _ => (NDA.const n false, NDA.const n true)

theorem setMaskDict_unfold (n : List Nat) (d : DictSpec) :
    setMaskDict n d = match paint n d.subs.reverse (dictInit n d.dflt) with
      | .error e => .error e
      | .ok st =>
        if (indicesC n).any st.2.get then
          match d.dflt with
          | .func g => .ok (own ⟨n, fun j => if st.2.get j then g j else st.1.get j⟩)
          | _ => .error .key
        else .ok (own ⟨n, st.1.get⟩) := by
  unfold setMaskDict dictInit
  cases d.dflt <;> rfl

/-- `dict_setter_first_wins` of Props -/
theorem setMaskDict_spec (n : List Nat) (d : DictSpec) (m : Mask) (h : setMaskDict n d = .ok m) :
    m.shape = n ∧ ∀ j, inRange n j = true → m.get j = dictCell d.dflt d.subs j := by
  rw [setMaskDict_unfold] at h
  split at h
  · cases h
  · rename_i st hp
    have hcell := paint_reverse_spec n d.subs _ st hp
    split at h
    · rename_i hany
      split at h
      · rename_i g hg
        simp only [Except.ok.injEq] at h; subst h
        refine ⟨rfl, fun j hj => ?_⟩
        rw [own_get _ _ hj]
        obtain ⟨e1, e2⟩ := hcell j hj
        show (if st.2.get j = true then g j else st.1.get j) = _
        rw [dictCell_eq_go, e1, e2, hg]
        simp only [dictInit, NDA.const, Bool.true_and, dictCell]
        by_cases c : dictCovered d.subs j = true
        · simp only [c, Bool.not_true, Bool.false_eq_true, if_false]
          exact dictGo_covered _ _ _ _ c
        · have c' : dictCovered d.subs j = false := by simpa using c
          simp only [c', Bool.not_false, if_true]
          exact (dictGo_uncovered _ _ _ c').symm
      · cases h
    · rename_i hany
      simp only [Except.ok.injEq] at h; subst h
      refine ⟨rfl, fun j hj => ?_⟩
      rw [own_get _ _ hj]
      obtain ⟨e1, e2⟩ := hcell j hj
      show st.1.get j = _
      rw [dictCell_eq_go, e1]
      -- either the default was a number (array pre-filled with it) or the cell is covered
      have hun : st.2.get j = false := by
        have := hany
        simp only [Bool.not_eq_true, List.any_eq_false] at this
        simpa using this j ((mem_indicesC_iff n j).mpr hj)
      cases hd : d.dflt with
      | const v => rfl
      | none | func _ =>
        rw [hd] at e2
        have hc : dictCovered d.subs j = true := by
          rw [hun] at e2; simpa [dictInit, NDA.const] using e2.symm
        exact dictGo_covered _ _ _ _ hc

/-- is any cell unset at the start of the loop? -/
def dfltUnset : DDefault → Bool
  | .const _ => false
  | _ => true

/-- the test for unset cells after the loop, decided: some cell is unset exactly when the start leaves cells unset and
not every cell is covered -/
theorem any_unset (n : List Nat) (d : DictSpec) (st : Mask × Mask)
    (hp : paint n d.subs.reverse (dictInit n d.dflt) = .ok st) :
    (indicesC n).any st.2.get = (dfltUnset d.dflt && !(indicesC n).all fun j => dictCovered d.subs j) := by
  have hun : ∀ j ∈ indicesC n, st.2.get j = (dfltUnset d.dflt && !dictCovered d.subs j) := fun j hj => by
    rw [(paint_reverse_spec n d.subs _ st hp j ((mem_indicesC_iff n j).mp hj)).2]
    cases d.dflt <;> rfl
  rw [Bool.eq_iff_iff, List.any_eq_true, Bool.and_eq_true, Bool.not_eq_true', List.all_eq_false]
  constructor
  · rintro ⟨j, hj, h⟩
    rw [hun j hj, Bool.and_eq_true, Bool.not_eq_true'] at h
    exact ⟨h.1, j, hj, by rw [h.2]; exact Bool.false_ne_true⟩
  · rintro ⟨h1, j, hj, h2⟩
    exact ⟨j, hj, by rw [hun j hj, h1, Bool.true_and, Bool.not_eq_true']; exact Bool.eq_false_iff.mpr h2⟩

/-- the dictionary half of `setter_any_accepted_iff` of Props -/
theorem setMaskDict_ok_iff (n : List Nat) (d : DictSpec) :
    (∃ m, setMaskDict n d = .ok m) ↔ d.ok n = true := by
  rw [setMaskDict_unfold]
  unfold DictSpec.ok
  cases hp : paint n d.subs.reverse (dictInit n d.dflt) with
  | error e =>
    have : entriesOk d.subs = false := by
      cases hb : entriesOk d.subs with
      | false => rfl
      | true =>
        obtain ⟨st', hst'⟩ := (paint_ok_iff n d.subs.reverse (dictInit n d.dflt)).mpr (by rw [entriesOk_reverse]; exact hb)
        rw [hp] at hst'; cases hst'
    simp [this]
  | ok st =>
    have hok : entriesOk d.subs = true := by
      rw [← entriesOk_reverse]; exact (paint_ok_iff n d.subs.reverse _).mp ⟨st, hp⟩
    simp only [any_unset n d st hp, hok, Bool.true_and]
    cases (indicesC n).all fun j => dictCovered d.subs j with
    | true =>
      simp only [Bool.not_true, Bool.and_false, Bool.false_eq_true, if_false, Bool.true_or]
      exact ⟨fun _ => trivial, fun _ => ⟨_, rfl⟩⟩
    | false =>
      cases d.dflt <;> simp only [dfltUnset, Bool.not_false, Bool.and_true, Bool.false_or, if_true, if_false, Bool.false_eq_true]
      · exact ⟨fun ⟨_, h⟩ => (nomatch h), False.elim⟩
      · exact ⟨fun _ => trivial, fun _ => ⟨_, rfl⟩⟩
      · exact ⟨fun _ => trivial, fun _ => ⟨_, rfl⟩⟩

end DFV.C08
