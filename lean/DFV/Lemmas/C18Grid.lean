import DFV.Lemmas.C18Interp
import DFV.Lemmas.C18Mat
import DFV.Lemmas.C01
import DFV.Model.C18Ext
/-! The padded node grid of `_create_interpolation_funcs` and the interpolant of the original
field on it (C18): between cell centres, on affine and uniform data, in the edge band, outside. -/
namespace DFV.C18
open DFV DFV.Mesh

/-- what the theorems need of the original mesh on axis `a`: positive edge and cell count -/
def AxOk (m : Mesh) (a : Nat) : Prop := m.region.lo a < m.region.hi a ∧ 0 < m.nAt a

def Mesh3 (m : Mesh) : Prop := ∀ a, a < 3 → AxOk m a

/-- `C01.cellAt_pos` with the two hypotheses bundled as `AxOk` -/
theorem cell_pos (m : Mesh) (a : Nat) (h : AxOk m a) : 0 < m.cellAt a :=
  C01.cellAt_pos m a h.2 h.1

/-- `C01.cellAt_cover` under `AxOk`: the cells fill the edge -/
theorem n_mul_cell (m : Mesh) (a : Nat) (h : AxOk m a) : (m.nAt a : Rat) * m.cellAt a = m.region.hi a - m.region.lo a :=
  C01.cellAt_cover m a h.2

theorem lo_eq_centre (m : Mesh) (a : Nat) : m.region.lo a = centreAt m a - m.region.edge a / 2 := by
  unfold centreAt Region.edge; ring

theorem hi_eq_centre (m : Mesh) (a : Nat) : m.region.hi a = centreAt m a + m.region.edge a / 2 := by
  unfold centreAt Region.edge; ring

theorem tolI_pos : (0 : Rat) < tolI := by unfold tolI; norm_num

theorem gridNode_zero (m : Mesh) (a : Nat) :
    gridNode m a 0 = m.region.lo a - m.cellAt a * tolI - centreAt m a := by
  unfold gridNode; simp

theorem gridNode_last (m : Mesh) (a : Nat) :
    gridNode m a (m.nAt a + 1) = m.region.hi a + m.cellAt a * tolI - centreAt m a := by
  unfold gridNode; simp

/-- interior nodes are the cell centres (the `np.linspace` of the code), relative to the region centre -/
theorem gridNode_interior (m : Mesh) (a : Nat) (h : AxOk m a) (j : Nat) (h1 : 1 ≤ j) (h2 : j ≤ m.nAt a) :
    gridNode m a j = m.region.lo a + (((j - 1 : Nat) : Rat) + 1/2) * m.cellAt a - centreAt m a := by
  unfold gridNode
  rw [if_neg (by omega), if_neg (by omega)]
  congr 1
  obtain ⟨N, hN⟩ : ∃ N, m.nAt a = N + 1 := ⟨m.nAt a - 1, by have := h.2; omega⟩
  rcases Nat.eq_zero_or_pos N with h0 | hpos
  · have hj : j = 1 := by omega
    subst hj
    rw [hN, h0]
    simp [linspace]
    ring
  · rw [hN, C01.linspace_getD _ _ N (j - 1) hpos (by omega), C01.centres_span m a N hN,
      mul_div_cancel_left₀ _ (by exact_mod_cast hpos.ne')]
    ring

theorem gridNode_strict (m : Mesh) (a : Nat) (h : AxOk m a) (j : Nat) (hj : j ≤ m.nAt a) :
    gridNode m a j < gridNode m a (j + 1) := by
  have hc := cell_pos m a h
  have hcov := n_mul_cell m a h
  have ht := mul_pos hc tolI_pos
  by_cases h0 : j = 0
  · subst h0
    rw [gridNode_zero, gridNode_interior m a h 1 le_rfl h.2]
    simp only [Nat.sub_self, Nat.cast_zero]
    linarith
  · by_cases hl : j = m.nAt a
    · subst hl
      rw [gridNode_last, gridNode_interior m a h _ h.2 le_rfl, Nat.cast_sub h.2]
      simp only [Nat.cast_one]
      linarith
    · have h1 : 1 ≤ j := Nat.pos_of_ne_zero h0
      rw [gridNode_interior m a h j h1 hj, gridNode_interior m a h (j + 1) (Nat.succ_pos j) (Nat.lt_of_le_of_ne hj hl),
        Nat.add_sub_cancel, Nat.cast_sub h1]
      simp only [Nat.cast_one]
      linarith

theorem gridNode_mono (m : Mesh) (a : Nat) (h : AxOk m a) (i j : Nat) (hij : i < j) (hj : j ≤ m.nAt a + 1) :
    gridNode m a i < gridNode m a j :=
  mono_of_step (gridNode m a) (m.nAt a) (fun j hj => gridNode_strict m a h j hj) i j hij hj

/-- `p` passes the bounds test of the interpolator on all three axes -/
def InPad (f : Fld) (p : V3) : Prop :=
  ∀ a, a < 3 → gridNode f.mesh a 0 ≤ p.get a ∧ p.get a ≤ gridNode f.mesh a (f.mesh.nAt a + 1)

theorem locOf_some (f : Fld) (p : V3) (h : InPad f p) :
    locOf f p = some ⟨findIdx (gridNode f.mesh 0) p.x (f.mesh.nAt 0), findIdx (gridNode f.mesh 1) p.y (f.mesh.nAt 1),
      findIdx (gridNode f.mesh 2) p.z (f.mesh.nAt 2),
      frac (gridNode f.mesh 0) (findIdx (gridNode f.mesh 0) p.x (f.mesh.nAt 0)) p.x,
      frac (gridNode f.mesh 1) (findIdx (gridNode f.mesh 1) p.y (f.mesh.nAt 1)) p.y,
      frac (gridNode f.mesh 2) (findIdx (gridNode f.mesh 2) p.z (f.mesh.nAt 2)) p.z⟩ := by
  unfold locOf
  exact locate_some _ _ _ _ _ _ p ((inBounds_iff _ _ _).mpr (h 0 (by decide)))
    ((inBounds_iff _ _ _).mpr (h 1 (by decide))) ((inBounds_iff _ _ _).mpr (h 2 (by decide)))

theorem inPad_of (f : Fld) (p : V3) (h0 : gridNode f.mesh 0 0 ≤ p.x ∧ p.x ≤ gridNode f.mesh 0 (f.mesh.nAt 0 + 1))
    (h1 : gridNode f.mesh 1 0 ≤ p.y ∧ p.y ≤ gridNode f.mesh 1 (f.mesh.nAt 1 + 1))
    (h2 : gridNode f.mesh 2 0 ≤ p.z ∧ p.z ≤ gridNode f.mesh 2 (f.mesh.nAt 2 + 1)) : InPad f p :=
  V3.get_cases p (fun a x => gridNode f.mesh a 0 ≤ x ∧ x ≤ gridNode f.mesh a (f.mesh.nAt a + 1)) h0 h1 h2

/-- the bounds test in absolute coordinates: within the region enlarged by `1e-9` cell on every side -/
theorem inPad_iff (f : Fld) (p : V3) :
    InPad f p ↔ ∀ a, a < 3 →
      f.mesh.region.lo a - f.mesh.cellAt a * tolI ≤ p.get a + centreAt f.mesh a ∧
      p.get a + centreAt f.mesh a ≤ f.mesh.region.hi a + f.mesh.cellAt a * tolI := by
  unfold InPad
  constructor
  · intro h a ha
    have := h a ha
    rw [gridNode_zero, gridNode_last] at this
    constructor <;> linarith [this.1, this.2]
  · intro h a ha
    have := h a ha
    rw [gridNode_zero, gridNode_last]
    constructor <;> linarith [this.1, this.2]

theorem locOf_none (f : Fld) (p : V3) (h : ¬ InPad f p) : locOf f p = none := by
  unfold locOf
  apply locate_none
  by_contra hc
  apply h
  simp only [not_or, Bool.not_eq_false] at hc
  exact inPad_of f p ((inBounds_iff _ _ _).mp hc.1) ((inBounds_iff _ _ _).mp hc.2.1) ((inBounds_iff _ _ _).mp hc.2.2)

theorem valuesAt_getD (f : Fld) (R : M3) (ord : List Nat) (p : V3) (c : Nat) (hc : c < f.nvdim) :
    (valuesAt f R ord p).getD c 0 = interpAt (padded f R ord c) (locOf f p) := by
  unfold valuesAt
  exact getD_tab _ _ _ _ hc

theorem origAt_getD (f : Fld) (p : V3) (c : Nat) (hc : c < f.nvdim) :
    (origAt f p).getD c 0 = interpAt (paddedOrig f c) (locOf f p) := by
  unfold origAt
  exact getD_tab _ _ _ _ hc

/-- `origAt` tabulates the interpolant of each component: what holds of every component holds of the list -/
theorem origAt_eq (f : Fld) (p : V3) (F : Nat → Rat)
    (h : ∀ c, c < f.nvdim → interpAt (paddedOrig f c) (locOf f p) = F c) : origAt f p = tab f.nvdim F :=
  tab_congr _ _ _ h

/-- interior bracket: between the centres of cells `k` and `k + 1` -/
def Between (m : Mesh) (a k : Nat) (x : Rat) : Prop :=
  centreRel m a k ≤ x ∧ x < centreRel m a (k + 1) ∧ k + 1 < m.nAt a

theorem gridNode_centreRel (m : Mesh) (a : Nat) (h : AxOk m a) (k : Nat) (hk : k < m.nAt a) :
    gridNode m a (k + 1) = centreRel m a k := by
  rw [gridNode_interior m a h (k + 1) (Nat.succ_pos k) hk]
  unfold centreRel
  simp

theorem gridNode_centreRel_pred (m : Mesh) (a : Nat) (h : AxOk m a) (j : Nat) (h1 : 1 ≤ j) (hj : j ≤ m.nAt a) :
    gridNode m a j = centreRel m a (j - 1) := by
  obtain ⟨k, rfl⟩ : ∃ k, j = k + 1 := ⟨j - 1, by omega⟩
  exact gridNode_centreRel m a h k hj

theorem centreRel_step (m : Mesh) (a k : Nat) : centreRel m a (k + 1) - centreRel m a k = m.cellAt a := by
  unfold centreRel; push_cast; ring

theorem findIdx_between (m : Mesh) (a : Nat) (h : AxOk m a) (k : Nat) (x : Rat) (hb : Between m a k x) :
    findIdx (gridNode m a) x (m.nAt a) = k + 1 := by
  obtain ⟨h1, h2, h3⟩ := hb
  apply findIdx_eq _ _ _ _ (by omega)
  · left; rw [gridNode_centreRel m a h k (by omega)]; exact h1
  · intro j hj hjm
    have hk2 : gridNode m a (k + 2) = centreRel m a (k + 1) := gridNode_centreRel m a h (k + 1) (by omega)
    by_cases e : j = k + 2
    · subst e; rw [hk2]; exact h2
    · have := gridNode_mono m a h (k + 2) j (by omega) (by omega)
      rw [hk2] at this
      linarith

theorem centre_inPad (m : Mesh) (a : Nat) (h : AxOk m a) (k : Nat) (hk : k < m.nAt a) :
    gridNode m a 0 < centreRel m a k ∧ centreRel m a k < gridNode m a (m.nAt a + 1) := by
  rw [← gridNode_centreRel m a h k hk]
  exact ⟨gridNode_mono m a h 0 (k + 1) (Nat.succ_pos k) (Nat.succ_le_succ hk.le),
    gridNode_mono m a h (k + 1) (m.nAt a + 1) (Nat.succ_lt_succ hk) le_rfl⟩

theorem centres_inPad (m : Mesh) (a : Nat) (h : AxOk m a) (k l : Nat) (hk : k < m.nAt a) (hl : l < m.nAt a) (x : Rat)
    (h1 : centreRel m a k ≤ x) (h2 : x ≤ centreRel m a l) : gridNode m a 0 ≤ x ∧ x ≤ gridNode m a (m.nAt a + 1) :=
  ⟨(centre_inPad m a h k hk).1.le.trans h1, h2.trans (centre_inPad m a h l hl).2.le⟩

theorem frac_between (m : Mesh) (a : Nat) (h : AxOk m a) (k : Nat) (x : Rat) (hk : k + 1 < m.nAt a) :
    frac (gridNode m a) (k + 1) x = (x - centreRel m a k) / m.cellAt a := by
  unfold frac
  rw [gridNode_centreRel m a h k (by omega), show k + 1 + 1 = (k + 1) + 1 from rfl,
      gridNode_centreRel m a h (k + 1) (by omega), centreRel_step]

/-- at least half a cell inside on axis `a` (strictly on the upper side): between the first
and the last cell centre -/
def Deep (m : Mesh) (a : Nat) (x : Rat) : Prop := centreRel m a 0 ≤ x ∧ x < centreRel m a (m.nAt a - 1)

theorem centreAbs_eq (m : Mesh) (a k : Nat) : centreAbs m a k = centreRel m a k + centreAt m a := by
  unfold centreAbs centreRel; ring

/-- "at least one cell inside" (the property's wording) implies `Deep` -/
theorem deep_of_one_cell_inside (m : Mesh) (a : Nat) (h : AxOk m a) (x : Rat)
    (h1 : m.region.lo a + m.cellAt a ≤ x + centreAt m a) (h2 : x + centreAt m a ≤ m.region.hi a - m.cellAt a) :
    Deep m a x := by
  have hc := cell_pos m a h
  have hcov := n_mul_cell m a h
  have hn := h.2
  unfold Deep centreRel
  have hcast : (((m.nAt a - 1 : Nat)) : Rat) = (m.nAt a : Rat) - 1 := by
    rw [Nat.cast_sub (by omega)]; simp
  rw [hcast]
  constructor
  · push_cast; linarith
  · linarith

/-- a `Deep` coordinate lies between two neighbouring cell centres: those of the bracket the search finds -/
theorem between_of_deep (m : Mesh) (a : Nat) (h : AxOk m a) (x : Rat) (hd : Deep m a x) :
    ∃ k, Between m a k x := by
  obtain ⟨a1, b1⟩ := findIdx_interior (gridNode m a) x (m.nAt a) h.2
    (by rw [gridNode_centreRel m a h 0 h.2]; exact hd.1)
    (by rw [gridNode_centreRel_pred m a h _ h.2 le_rfl]; exact hd.2)
  have hin := centres_inPad m a h 0 (m.nAt a - 1) h.2 (Nat.sub_lt h.2 Nat.one_pos) x hd.1 hd.2.le
  have hb := findIdx_bracket (gridNode m a) x (m.nAt a) ((inBounds_iff _ _ _).mpr hin)
  obtain ⟨k, hk⟩ : ∃ k, findIdx (gridNode m a) x (m.nAt a) = k + 1 := ⟨_, (Nat.sub_add_cancel a1).symm⟩
  refine ⟨k, ?_, ?_, by omega⟩
  · rw [← gridNode_centreRel m a h k (by omega), ← hk]; exact hb.1
  · rw [← gridNode_centreRel m a h (k + 1) (by omega), ← hk]
    exact (findIdx_last_or_lt_next _ _ _).resolve_left (by omega)

/-! ## closed brackets: positions between the first and the last cell centre, ends included

`Br` is the general notion: `Between` is its first alternative (`br_of_between`), and every
coordinate that is `Deep` or on the last centre has a `Br` bracket (`br_exists`). The interpolant is
computed once, for `Br` (`origAt_br`); `Between` and `Deep` serve the statements that use them. -/

/-- `x` lies in the bracket of cell `k`: between the centres of cells `k` and `k + 1`, or exactly
on the centre of cell `k` (the only possibility for the last cell) -/
def Br (m : Mesh) (a k : Nat) (x : Rat) : Prop :=
  k < m.nAt a ∧ centreRel m a k ≤ x ∧ ((x < centreRel m a (k + 1) ∧ k + 1 < m.nAt a) ∨ x = centreRel m a k)

theorem br_of_between (m : Mesh) (a k : Nat) (x : Rat) (h : Between m a k x) : Br m a k x :=
  ⟨by have := h.2.2; omega, h.1, Or.inl ⟨h.2.1, h.2.2⟩⟩

theorem br_exists (m : Mesh) (a : Nat) (h : AxOk m a) (x : Rat) (h1 : centreRel m a 0 ≤ x)
    (h2 : x ≤ centreRel m a (m.nAt a - 1)) : ∃ k, Br m a k x := by
  by_cases e : x = centreRel m a (m.nAt a - 1)
  · exact ⟨m.nAt a - 1, by have := h.2; omega, e.ge, Or.inr e⟩
  · obtain ⟨k, hk⟩ := between_of_deep m a h x ⟨h1, lt_of_le_of_ne h2 e⟩
    exact ⟨k, br_of_between m a k x hk⟩

theorem br_findIdx (m : Mesh) (a : Nat) (h : AxOk m a) (k : Nat) (x : Rat) (hb : Br m a k x) :
    findIdx (gridNode m a) x (m.nAt a) = k + 1 ∧
    frac (gridNode m a) (k + 1) x = (x - centreRel m a k) / m.cellAt a ∧
    (k + 1 < m.nAt a ∨ (x - centreRel m a k) / m.cellAt a = 0) ∧
    (gridNode m a 0 ≤ x ∧ x ≤ gridNode m a (m.nAt a + 1)) := by
  obtain ⟨hk, hlo, hup⟩ := hb
  by_cases hk1 : k + 1 < m.nAt a
  · have hbt : Between m a k x := by
      rcases hup with ⟨u, _⟩ | e
      · exact ⟨hlo, u, hk1⟩
      · refine ⟨hlo, ?_, hk1⟩
        rw [e]; have := centreRel_step m a k; have := cell_pos m a h; linarith
    exact ⟨findIdx_between m a h k x hbt, frac_between m a h k x hk1, Or.inl hk1, centres_inPad m a h k (k + 1) hk hk1 x hlo hbt.2.1.le⟩
  · have hkn : k + 1 = m.nAt a := by omega
    have e : x = centreRel m a k := by
      rcases hup with ⟨_, u⟩ | e
      · omega
      · exact e
    have hg : gridNode m a (k + 1) = x := by rw [gridNode_centreRel m a h k hk, e]
    refine ⟨?_, ?_, Or.inr (by rw [e]; simp), ?_⟩
    · rw [← hg]
      exact findIdx_at_node _ _ (fun j hj => gridNode_strict m a h j hj) (k + 1) (by omega)
    · rw [← hg, frac_node, hg, e]; simp
    · exact centres_inPad m a h k k hk hk x hlo e.le

/-- a corner of the bracket of cell `k` either carries weight zero (beyond the last cell) or is the
padded copy of cell `k + e` -/
theorem br_corner (n k e : Nat) (t : Rat) (he : e ≤ 1) (hk : k < n) (hz : k + 1 < n ∨ t = 0) :
    wgt t e = 0 ∨ padIdx n (k + 1 + e) = k + e := by
  by_cases g : e = 0 ∨ k + 1 < n
  · right; unfold padIdx; omega
  · left
    have e1 : e = 1 := by omega
    have z : t = 0 := by rcases hz with z | z <;> [omega; exact z]
    rw [e1, z]; simp [wgt]

/-- **closed-bracket form of the interpolant**: at a position in the brackets of cells
`k0, k1, k2` the interpolant of the original is the eight-cell formula between the centres of
cells `k` and `k + 1` (on an axis where `k` is the last cell the offset is `0` and the missing
neighbour carries weight zero) -/
theorem origAt_br (f : Fld) (hm : Mesh3 f.mesh) (p : V3) (k0 k1 k2 : Nat)
    (h0 : Br f.mesh 0 k0 p.x) (h1 : Br f.mesh 1 k1 p.y) (h2 : Br f.mesh 2 k2 p.z) :
    origAt f p = tab f.nvdim fun c => cellInterp f c k0 k1 k2 ((p.x - centreRel f.mesh 0 k0) / f.mesh.cellAt 0)
      ((p.y - centreRel f.mesh 1 k1) / f.mesh.cellAt 1) ((p.z - centreRel f.mesh 2 k2) / f.mesh.cellAt 2) := by
  obtain ⟨i0, f0, z0, b0⟩ := br_findIdx _ _ (hm 0 (by decide)) k0 _ h0
  obtain ⟨i1, f1, z1, b1⟩ := br_findIdx _ _ (hm 1 (by decide)) k1 _ h1
  obtain ⟨i2, f2, z2, b2⟩ := br_findIdx _ _ (hm 2 (by decide)) k2 _ h2
  apply origAt_eq
  intro c _
  rw [locOf_some f p (inPad_of f p b0 b1 b2), i0, i1, i2, f0, f1, f2]
  unfold cellInterp
  simp only [interpAt]
  apply sum8_congr_w
  intro e0 e1 e2 he0 he1 he2
  rcases br_corner _ k0 e0 _ he0 h0.1 z0 with w | p0
  · left; rw [w]; ring
  rcases br_corner _ k1 e1 _ he1 h1.1 z1 with w | p1
  · left; rw [w]; ring
  rcases br_corner _ k2 e2 _ he2 h2.1 z2 with w | p2
  · left; rw [w]; ring
  right
  unfold paddedOrig
  rw [p0, p1, p2]

theorem origAt_centre (f : Fld) (hm : Mesh3 f.mesh) (i j k : Nat) (hi : i < f.mesh.nAt 0) (hj : j < f.mesh.nAt 1)
    (hk : k < f.mesh.nAt 2) (hlen : (f.data.get [i, j, k]).length = f.nvdim) (p : V3)
    (hx : p.x = centreRel f.mesh 0 i) (hy : p.y = centreRel f.mesh 1 j) (hz : p.z = centreRel f.mesh 2 k) :
    origAt f p = f.data.get [i, j, k] := by
  rw [origAt_br f hm p i j k ⟨hi, hx.ge, Or.inr hx⟩ ⟨hj, hy.ge, Or.inr hy⟩ ⟨hk, hz.ge, Or.inr hz⟩, hx, hy, hz,
    sub_self, sub_self, sub_self, zero_div, zero_div, zero_div]
  refine (eq_tab_of_getD _ _ _ 0 hlen fun c _ => ?_).symm
  unfold cellInterp
  rw [sum8_zero]
  rfl

theorem padIdx_lt (n j : Nat) (hn : 0 < n) : padIdx n j < n := by
  unfold padIdx; omega

/-- samples of an affine function of the cell centres on the eight cells around a bracket: the
eight-cell formula is that function of the position -/
theorem cellInterp_affine (f : Fld) (c k0 k1 k2 : Nat) (α β0 β1 β2 x0 x1 x2 : Rat)
    (h0 : f.mesh.cellAt 0 ≠ 0) (h1 : f.mesh.cellAt 1 ≠ 0) (h2 : f.mesh.cellAt 2 ≠ 0)
    (hd : ∀ e0 e1 e2, e0 ≤ 1 → e1 ≤ 1 → e2 ≤ 1 → (f.data.get [k0 + e0, k1 + e1, k2 + e2]).getD c 0
        = α + β0 * centreRel f.mesh 0 (k0 + e0) + β1 * centreRel f.mesh 1 (k1 + e1) + β2 * centreRel f.mesh 2 (k2 + e2)) :
    cellInterp f c k0 k1 k2 ((x0 - centreRel f.mesh 0 k0) / f.mesh.cellAt 0) ((x1 - centreRel f.mesh 1 k1) / f.mesh.cellAt 1)
      ((x2 - centreRel f.mesh 2 k2) / f.mesh.cellAt 2) = α + β0 * x0 + β1 * x1 + β2 * x2 := by
  -- the corner coordinates are `centreRel (k + e)`, one cell apart
  have st : ∀ a k, centreRel f.mesh a (k + 1) - centreRel f.mesh a (k + 0) = f.mesh.cellAt a := fun a k => centreRel_step _ a k
  have := sum8_affine α β0 β1 β2 (fun e => centreRel f.mesh 0 (k0 + e)) (fun e => centreRel f.mesh 1 (k1 + e))
    (fun e => centreRel f.mesh 2 (k2 + e)) x0 x1 x2 _ ((st 0 k0).symm ▸ h0) ((st 1 k1).symm ▸ h1) ((st 2 k2).symm ▸ h2) hd
  simp only [st] at this
  exact this

/-- **affine data**: if every component of the stored data is an affine function of the cell
centres, the interpolant reproduces it at every point at least half a cell inside -/
theorem origAt_affine (f : Fld) (hm : Mesh3 f.mesh) (α β0 β1 β2 : Nat → Rat)
    (hdata : ∀ c, c < f.nvdim → ∀ i j k, i < f.mesh.nAt 0 → j < f.mesh.nAt 1 → k < f.mesh.nAt 2 →
      (f.data.get [i, j, k]).getD c 0
        = α c + β0 c * centreAbs f.mesh 0 i + β1 c * centreAbs f.mesh 1 j + β2 c * centreAbs f.mesh 2 k)
    (p : V3) (h0 : Deep f.mesh 0 p.x) (h1 : Deep f.mesh 1 p.y) (h2 : Deep f.mesh 2 p.z) :
    origAt f p = tab f.nvdim fun c =>
      α c + β0 c * (p.x + centreAt f.mesh 0) + β1 c * (p.y + centreAt f.mesh 1) + β2 c * (p.z + centreAt f.mesh 2) := by
  obtain ⟨k0, b0⟩ := between_of_deep _ _ (hm 0 (by decide)) _ h0
  obtain ⟨k1, b1⟩ := between_of_deep _ _ (hm 1 (by decide)) _ h1
  obtain ⟨k2, b2⟩ := between_of_deep _ _ (hm 2 (by decide)) _ h2
  rw [origAt_br f hm p k0 k1 k2 (br_of_between _ _ _ _ b0) (br_of_between _ _ _ _ b1) (br_of_between _ _ _ _ b2)]
  apply tab_congr
  intro c hc
  rw [cellInterp_affine f c k0 k1 k2 (α c + β0 c * centreAt f.mesh 0 + β1 c * centreAt f.mesh 1 + β2 c * centreAt f.mesh 2)
      (β0 c) (β1 c) (β2 c) p.x p.y p.z
      (cell_pos _ _ (hm 0 (by decide))).ne' (cell_pos _ _ (hm 1 (by decide))).ne' (cell_pos _ _ (hm 2 (by decide))).ne']
  · ring
  · intro e0 e1 e2 he0 he1 he2
    rw [hdata c hc _ _ _ (by have := b0.2.2; omega) (by have := b1.2.2; omega) (by have := b2.2.2; omega),
      centreAbs_eq, centreAbs_eq, centreAbs_eq]
    ring

/-- **uniform data**: a constant field is reproduced everywhere inside the padded box -/
theorem origAt_uniform (f : Fld) (hm : Mesh3 f.mesh) (v : List Rat) (hvl : v.length = f.nvdim)
    (hdata : ∀ i j k, i < f.mesh.nAt 0 → j < f.mesh.nAt 1 → k < f.mesh.nAt 2 → f.data.get [i, j, k] = v)
    (p : V3) (hin : InPad f p) : origAt f p = v := by
  refine (origAt_eq f p (fun c => v.getD c 0) fun c _ => ?_).trans (eq_tab_of_getD v _ _ 0 hvl fun _ _ => rfl).symm
  rw [locOf_some f p hin]
  simp only [interpAt]
  rw [sum8_congr _ _ _ _ (fun _ _ _ => v.getD c 0)]
  · exact sum8_const _ _ _ _
  · intro e0 e1 e2 _ _ _
    unfold paddedOrig
    rw [hdata _ _ _ (padIdx_lt _ _ (hm 0 (by decide)).2) (padIdx_lt _ _ (hm 1 (by decide)).2)
      (padIdx_lt _ _ (hm 2 (by decide)).2)]

theorem valuesAt_outside (f : Fld) (R : M3) (ord : List Nat) (p : V3) (h : ¬ InPad f p) :
    valuesAt f R ord p = tab f.nvdim fun _ => 0 := by
  unfold valuesAt
  rw [locOf_none f p h]
  rfl

/-- a coordinate more than `1e-9` cell outside the region fails the bounds test -/
theorem outside_not_inPad (f : Fld) (p : V3) (a : Nat) (ha : a < 3)
    (h : p.get a + centreAt f.mesh a < f.mesh.region.lo a - f.mesh.cellAt a * tolI ∨
         f.mesh.region.hi a + f.mesh.cellAt a * tolI < p.get a + centreAt f.mesh a) : ¬ InPad f p := by
  intro hin
  have := (inPad_iff f p).mp hin a ha
  rcases h with h | h <;> linarith [this.1, this.2]

/-- **no new extrema**: if component `c` of every cell of the original lies in `[lo, hi]` with
`lo ≤ 0 ≤ hi`, so does the interpolant of that component at every position (inside: a convex
combination of cell values; outside: the fill value 0) -/
theorem origAt_range (f : Fld) (hm : Mesh3 f.mesh) (c : Nat) (hc : c < f.nvdim) (lo hi : Rat) (hlo : lo ≤ 0) (hhi : 0 ≤ hi)
    (hdata : ∀ i j k, i < f.mesh.nAt 0 → j < f.mesh.nAt 1 → k < f.mesh.nAt 2 →
      lo ≤ (f.data.get [i, j, k]).getD c 0 ∧ (f.data.get [i, j, k]).getD c 0 ≤ hi) (p : V3) :
    lo ≤ (origAt f p).getD c 0 ∧ (origAt f p).getD c 0 ≤ hi := by
  rw [origAt_getD f p c hc]
  by_cases hin : InPad f p
  · rw [locOf_some f p hin]
    simp only [interpAt]
    apply sum8_range
    · exact frac_range _ _ (fun j hj => gridNode_strict _ _ (hm 0 (by decide)) j hj) _ ((inBounds_iff _ _ _).mpr (hin 0 (by decide)))
    · exact frac_range _ _ (fun j hj => gridNode_strict _ _ (hm 1 (by decide)) j hj) _ ((inBounds_iff _ _ _).mpr (hin 1 (by decide)))
    · exact frac_range _ _ (fun j hj => gridNode_strict _ _ (hm 2 (by decide)) j hj) _ ((inBounds_iff _ _ _).mpr (hin 2 (by decide)))
    · intro e0 e1 e2 _ _ _
      unfold paddedOrig
      exact hdata _ _ _ (padIdx_lt _ _ (hm 0 (by decide)).2) (padIdx_lt _ _ (hm 1 (by decide)).2) (padIdx_lt _ _ (hm 2 (by decide)).2)
  · rw [locOf_none f p hin]
    exact ⟨hlo, hhi⟩

/-! ## the edge band -/

theorem padIdx_01 (n : Nat) : padIdx n 0 = padIdx n 1 := by unfold padIdx; omega
theorem padIdx_last (n : Nat) : padIdx n n = padIdx n (n + 1) := by unfold padIdx; omega

theorem paddedOrig_padded3 (f : Fld) (c : Nat) :
    Padded3 (f.mesh.nAt 0) (f.mesh.nAt 1) (f.mesh.nAt 2) (paddedOrig f c) := by
  constructor <;> intros <;> unfold paddedOrig
  · rw [padIdx_01]
  · rw [padIdx_last]
  · rw [padIdx_01]
  · rw [padIdx_last]
  · rw [padIdx_01]
  · rw [padIdx_last]

theorem clampAx_eq (m : Mesh) (a : Nat) (h : AxOk m a) (x : Rat) : clampAx m a x = clampG (gridNode m a) (m.nAt a) x := by
  unfold clampAx clampG
  rw [gridNode_centreRel m a h 0 h.2, gridNode_centreRel_pred m a h _ h.2 le_rfl]

theorem clampAx_range (m : Mesh) (a : Nat) (h : AxOk m a) (x : Rat) :
    centreRel m a 0 ≤ clampAx m a x ∧ clampAx m a x ≤ centreRel m a (m.nAt a - 1) := by
  have hmono : centreRel m a 0 ≤ centreRel m a (m.nAt a - 1) := by
    have hc := cell_pos m a h
    unfold centreRel
    have := mul_nonneg (Nat.cast_nonneg (m.nAt a - 1) : (0 : Rat) ≤ _) hc.le
    push_cast
    linarith
  unfold clampAx
  split
  · exact ⟨le_refl _, hmono⟩
  · split
    · exact ⟨hmono, le_refl _⟩
    · constructor <;> linarith

theorem clampAx_id (m : Mesh) (a : Nat) (x : Rat) (h1 : centreRel m a 0 ≤ x) (h2 : x ≤ centreRel m a (m.nAt a - 1)) :
    clampAx m a x = x := by
  unfold clampAx
  rw [if_neg (by linarith), if_neg (by linarith)]

/-- by definition: `trilin` is `interpAt` after `locate`, and `origAt` tabulates exactly that -/
theorem origAt_eq_trilin (f : Fld) (p : V3) :
    origAt f p = tab f.nvdim fun c => trilin (gridNode f.mesh 0) (gridNode f.mesh 1) (gridNode f.mesh 2)
      (f.mesh.nAt 0) (f.mesh.nAt 1) (f.mesh.nAt 2) (paddedOrig f c) p := rfl

/-- **the edge band**: for a position that passes the bounds test, the interpolant of the original
is the interpolant at the position clamped (per axis) to the box spanned by the first and last
cell centres — `np.pad(mode="edge")` continues the boundary cells up to the padded faces -/
theorem origAt_clamp (f : Fld) (hm : Mesh3 f.mesh) (p : V3) (hin : InPad f p) :
    origAt f (clampV f.mesh p) = origAt f p := by
  rw [origAt_eq_trilin, origAt_eq_trilin]
  apply tab_congr
  intro c _
  unfold clampV
  rw [clampAx_eq _ _ (hm 0 (by decide)), clampAx_eq _ _ (hm 1 (by decide)), clampAx_eq _ _ (hm 2 (by decide))]
  exact trilin_clamp _ _ _ _ _ _ (hm 0 (by decide)).2 (hm 1 (by decide)).2 (hm 2 (by decide)).2
    (fun j hj => gridNode_strict _ _ (hm 0 (by decide)) j hj) (fun j hj => gridNode_strict _ _ (hm 1 (by decide)) j hj)
    (fun j hj => gridNode_strict _ _ (hm 2 (by decide)) j hj) _ (paddedOrig_padded3 f c) p
    ((inBounds_iff _ _ _).mpr (hin 0 (by decide))) ((inBounds_iff _ _ _).mpr (hin 1 (by decide)))
    ((inBounds_iff _ _ _).mpr (hin 2 (by decide)))

end DFV.C18
