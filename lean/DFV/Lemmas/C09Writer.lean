import DFV.Lemmas.C09Sub
import DFV.Lemmas.C09Labels
/-! The writer `_to_ovf` and the round trip on structured files: what the writer checks and the file it returns (`toOvfE_ok_iff`,
`writtenFile`); the reference writer of the OVF specification.  The header of either file is read (`written_reads`, `ref_reads`) and its
data section carries the values (`written_carries`, `ref_carries`), so `parse_values` gives what the reader makes of them, uniformly in
the representation and in `extend_scalar` (`written_read`, `ref_read`, `written_refRead`). -/
namespace DFV.C09
open DFV

/-- the dictionary the header loop builds from the writer's lines: the key/value pairs of `headerLines`, reversed
(the loop conses, so the newest entry comes first) -/
def writtenHeader {α} (f : OField α) (extend : Bool) (labels : String) : List (String × HVal) :=
  [("End", .str "Header"), ("valueunits", .str (valueUnits f extend)), ("valuelabels", .str labels),
   ("valuedim", .nat (writeDim f extend)),
   ("zmax", .num (f.mesh.region.hi 2)), ("ymax", .num (f.mesh.region.hi 1)), ("xmax", .num (f.mesh.region.hi 0)),
   ("zmin", .num (f.mesh.region.lo 2)), ("ymin", .num (f.mesh.region.lo 1)), ("xmin", .num (f.mesh.region.lo 0)),
   ("zstepsize", .num (f.mesh.cellAt 2)), ("ystepsize", .num (f.mesh.cellAt 1)), ("xstepsize", .num (f.mesh.cellAt 0)),
   ("znodes", .nat (f.mesh.nAt 2)), ("ynodes", .nat (f.mesh.nAt 1)), ("xnodes", .nat (f.mesh.nAt 0)),
   ("zbase", .num (f.mesh.region.lo 2 + f.mesh.cellAt 2 / 2)), ("ybase", .num (f.mesh.region.lo 1 + f.mesh.cellAt 1 / 2)),
   ("xbase", .num (f.mesh.region.lo 0 + f.mesh.cellAt 0 / 2)),
   ("meshtype", .str "rectangular"), ("meshunit", .str (f.mesh.region.units.getD 0 "")),
   ("Desc", .str "File generated by Field class"), ("Title", .str "Field"),
   ("Begin", .str "Header"), ("Begin", .str "Segment"), ("Segment count", .nat 1)]

/-! `scan` on the literal lines and `List.find?` on the literal keys of the dictionary are evaluated (`rfl`). -/

theorem scan_written {α} (f : OField α) (extend : Bool) (labels : String) (rw : List String) :
    scan (headerLines f extend labels rw) [] = some (writtenHeader f extend labels, rw) := rfl

theorem isV2_first : isV2 "# OOMMF OVF 2.0" = true ∧ isV2 "# OOMMF: rectangular mesh v1.0" = false := by
  constructor <;> decide +kernel

theorem headerOf_written {α} (f : OField α) (extend : Bool) (labels : String) :
    HeaderOf (writtenHeader f extend labels) f.mesh.region.lo f.mesh.region.hi f.mesh.cellAt f.mesh.nAt
      (f.mesh.region.units.getD 0 "") := by
  constructor <;> rfl

theorem valueDim_written {α} (f : OField α) (extend : Bool) (labels : String) :
    valueDim "# OOMMF OVF 2.0" (writtenHeader f extend labels) = .ok (writeDim f extend) := by
  unfold valueDim
  rw [if_pos isV2_first.1]
  rfl

theorem labelsOf_written {α} (isWord : Char → Bool) (f : OField α) (extend : Bool) (labels : String) :
    labelsOf isWord (writtenHeader f extend labels) = recoverLabels isWord labels := rfl

theorem unitOf_written {α} (f : OField α) (extend : Bool) (labels : String) :
    unitOf (writtenHeader f extend labels) = recoverUnit (valueUnits f extend) := rfl

/-! ## fields the writer accepts -/

/-- a field `_to_ovf` accepts: three dimensions, one mesh unit, positive counts, array of
shape `(*n, nvdim)` -/
structure Valid {α} (f : OField α) : Prop where
  pmin3 : f.mesh.region.pmin.length = 3
  pmax3 : f.mesh.region.pmax.length = 3
  n3 : f.mesh.n.length = 3
  lt : ∀ a, a < 3 → f.mesh.region.lo a < f.mesh.region.hi a
  npos : ∀ a, a < 3 → 0 < f.mesh.nAt a
  units : f.mesh.region.units
    = [f.mesh.region.units.getD 0 "", f.mesh.region.units.getD 0 "", f.mesh.region.units.getD 0 ""]
  nv : 0 < f.nvdim
  shape : f.arr.shape = f.mesh.n ++ [f.nvdim]

/-- component labels the `Field` constructor accepts and the header grammar can carry -/
def LabelsOk {α} (isWord : Char → Bool) (reserved : String → Bool) (f : OField α) : Prop :=
  reserved "x" = false ∧
  match f.vdims with
  | none => f.nvdim = 1
  | some vs => vs.length = f.nvdim ∧ hasDup vs = false ∧
      ∀ v ∈ vs, IsLabel isWord v.toList ∧ reserved v = false

/-- units the header grammar can carry: no white space, not the literal `None` -/
def UnitOk : Option String → Prop
  | none => True
  | some u => NoWs u.toList ∧ u ≠ "None"

theorem ne_empty_of_noWs {u : String} (h : NoWs u.toList) : u ≠ "" := fun e => h.1 (by rw [e]; rfl)

theorem unitWord_some {u : String} (h : u ≠ "") : unitWord (some u) = u := by simp only [unitWord, h, if_false]

theorem UnitOk.noWs {u : Option String} (h : UnitOk u) : NoWs (unitWord u).toList := by
  cases u with
  | none => exact ⟨by decide, by decide⟩
  | some u => rw [unitWord_some (ne_empty_of_noWs h.1)]; exact h.1

theorem recoverUnit_valueUnits {α} (f : OField α) (extend : Bool) (hu : UnitOk f.unit) (hd : 0 < writeDim f extend) :
    recoverUnit (valueUnits f extend) = f.unit := by
  unfold valueUnits
  cases hf : f.unit with
  | none => exact recoverUnit_none _ hd
  | some u =>
    rw [hf] at hu
    rw [unitWord_some (ne_empty_of_noWs hu.1)]
    exact recoverUnit_some u hu.1 hu.2 _ hd

/-- the components `_to_ovf` names on the `valuelabels` line: `x` for one component, `x` for each of the components of
an extended field, else the field's labels -/
def labelComps {α} (f : OField α) (e : Bool) : Option (List String) :=
  if writeDim f e = 1 then some ["x"] else if e then some (List.replicate (writeDim f e) "x") else f.vdims

/-- the `valuelabels` line: `field_<c>` for each component named -/
theorem valueLabels_eq {α} (f : OField α) (e : Bool) :
    valueLabels f e = match labelComps f e with
      | none => .error .type
      | some cs => .ok (String.ofList (joinSp (cs.map fun c => "field_".toList ++ c.toList))) := by
  unfold valueLabels labelComps
  split
  · rfl
  · split
    · show _ = Except.ok (String.ofList (joinSp (List.map _ (List.replicate _ "x"))))
      rw [List.map_replicate]; rfl
    · cases f.vdims <;> rfl

theorem isLabel_x (isWord : Char → Bool) (W : WordClass isWord) : IsLabel isWord "x".toList :=
  ⟨by decide, fun c hc => by rw [List.mem_singleton.mp hc]; exact W.xword⟩

theorem labelComps_ok {α} (isWord : Char → Bool) (W : WordClass isWord) (reserved : String → Bool)
    (f : OField α) (e : Bool) (hl : LabelsOk isWord reserved f) (cs : List String) (h : labelComps f e = some cs) :
    cs.length = writeDim f e ∧ ∀ c ∈ cs, IsLabel isWord c.toList := by
  unfold labelComps at h
  split at h
  · rename_i h1
    cases h
    exact ⟨h1.symm, fun c hc => by rw [List.mem_singleton.mp hc]; exact isLabel_x isWord W⟩
  · split at h
    · cases h
      exact ⟨List.length_replicate, fun c hc => by rw [(List.mem_replicate.mp hc).2]; exact isLabel_x isWord W⟩
    · rename_i he
      have := hl.2
      rw [h] at this
      exact ⟨this.1.trans (by simp [writeDim, he]), fun c hc => (this.2.2 c hc).1⟩

theorem valueLabels_ok_inv {α} (isWord : Char → Bool) (W : WordClass isWord) (reserved : String → Bool)
    (f : OField α) (e : Bool) (hl : LabelsOk isWord reserved f) (labels : String) (h : valueLabels f e = .ok labels) :
    ∃ cs : List String, labels = String.ofList (joinSp (cs.map fun c => "field_".toList ++ c.toList)) ∧
      cs.length = writeDim f e ∧ ∀ c ∈ cs, IsLabel isWord c.toList := by
  rw [valueLabels_eq] at h
  cases hc : labelComps f e with
  | none => rw [hc] at h; cases h
  | some cs =>
    rw [hc] at h
    exact ⟨cs, (Except.ok.inj h).symm, labelComps_ok isWord W reserved f e hl cs hc⟩

theorem noWs_field_label (isWord : Char → Bool) (W : WordClass isWord) (c : List Char) (hc : IsLabel isWord c) :
    NoWs ("field_".toList ++ c) :=
  ⟨by simp, fun ch hch => (List.mem_append.mp hch).elim
    ((by decide : ∀ d ∈ "field_".toList, d.isWhitespace = false) ch) fun h1 => W.nows ch (hc.2 ch h1)⟩

/-! ## the file `toOvfE` returns -/

theorem valid_lists {α} (f : OField α) (V : Valid f) :
    [f.mesh.region.lo 0, f.mesh.region.lo 1, f.mesh.region.lo 2] = f.mesh.region.pmin ∧
    [f.mesh.region.hi 0, f.mesh.region.hi 1, f.mesh.region.hi 2] = f.mesh.region.pmax ∧
    [f.mesh.nAt 0, f.mesh.nAt 1, f.mesh.nAt 2] = f.mesh.n :=
  ⟨(list3_eq _ 0 V.pmin3).symm, (list3_eq _ 0 V.pmax3).symm, (list3_eq _ 0 V.n3).symm⟩

theorem toOvf_false {α} (c : Codec α) (f : OField α) (rep : String) :
    toOvf c f rep false = toOvfE c f rep false := rfl

theorem toOvf_scalar {α} (c : Codec α) (f : OField α) (rep : String) (extend : Bool) (h1 : f.nvdim = 1) :
    toOvf c f rep extend = toOvfE c f rep extend := by
  unfold toOvf; simp [h1]

theorem toOvf_vector {α} (c : Codec α) (f : OField α) (rep : String) (extend : Bool) (h1 : f.nvdim ≠ 1) :
    toOvf c f rep extend = toOvfE c f rep false := by
  unfold toOvf
  have : (f.nvdim == 1) = false := by simpa using h1
  rw [this, Bool.and_false]

/-- `extend_scalar` takes effect on one-component fields only -/
theorem eff_scalar {α} (f : OField α) (extend : Bool) : (extend && f.nvdim == 1) = true → f.nvdim = 1 := by
  intro h; simp only [Bool.and_eq_true, beq_iff_eq] at h; exact h.2

theorem writeDim_eff {α} (f : OField α) (extend : Bool) :
    writeDim f (extend && f.nvdim == 1) = writeDim f extend := by
  cases extend <;> simp [writeDim]

theorem unitOk_of_roundtrip {α} (f : OField α) (extend : Bool) (hd : 0 < writeDim f extend)
    (h : recoverUnit (valueUnits f extend) = f.unit) : UnitOk f.unit := by
  cases hf : f.unit with
  | none => trivial
  | some u =>
    rw [hf] at h
    have hne : u ≠ "" := by
      intro e
      subst e
      have : recoverUnit (valueUnits f extend) = none := by
        unfold valueUnits
        rw [hf]
        exact recoverUnit_none _ hd
      rw [this] at h; cases h
    refine ⟨⟨?_, fun c hc => (recoverUnit_mem _ u h c hc).2⟩, ?_⟩
    · intro e; apply hne; rw [← String.ofList_toList (s := u), e]
    · intro e; subst e; exact recoverUnit_ne_None _ h

/-- the three representations and the width of their values (0: text) -/
def RepOk (rep : String) (w : Nat) : Prop := (rep = "txt" ∧ w = 0) ∨ (rep = "bin4" ∧ w = 4) ∨ (rep = "bin8" ∧ w = 8)

theorem RepOk.width {rep : String} {w : Nat} (h : RepOk rep w) : w = 0 ∨ w = 4 ∨ w = 8 :=
  h.imp And.right (Or.imp And.right And.right)

theorem RepOk.words {rep : String} {w : Nat} (h : RepOk rep w) : repWords rep = .ok (refWords w) ∧ repWidth rep = w := by
  rcases h with ⟨rfl, rfl⟩ | ⟨rfl, rfl⟩ | ⟨rfl, rfl⟩ <;> exact ⟨rfl, rfl⟩

theorem RepOk.unique {rep : String} {w w' : Nat} (h : RepOk rep w) (h' : RepOk rep w') : w' = w := by
  rcases h with ⟨rfl, rfl⟩ | ⟨rfl, rfl⟩ | ⟨rfl, rfl⟩ <;>
    rcases h' with ⟨h, rfl⟩ | ⟨h, rfl⟩ | ⟨h, rfl⟩ <;> first | rfl | exact absurd h (by decide)

theorem repWords_ok_iff (rep : String) (rw : List String) :
    repWords rep = .ok rw ↔ ∃ w, RepOk rep w ∧ rw = refWords w ∧ repWidth rep = w := by
  constructor
  · intro h
    unfold repWords at h
    split at h
    · exact ⟨4, Or.inr (Or.inl ⟨rfl, rfl⟩), (Except.ok.inj h).symm, rfl⟩
    · exact ⟨8, Or.inr (Or.inr ⟨rfl, rfl⟩), (Except.ok.inj h).symm, rfl⟩
    · exact ⟨0, Or.inl ⟨rfl, rfl⟩, (Except.ok.inj h).symm, rfl⟩
    · cases h
  · rintro ⟨w, ⟨rfl, rfl⟩ | ⟨rfl, rfl⟩ | ⟨rfl, rfl⟩, rfl, _⟩ <;> rfl

/-- the values of the data section: the x-fastest payload, each value followed by two zeros when a
scalar field is extended to three components -/
def payloadE {α} (c : Codec α) (f : OField α) (e : Bool) : List α :=
  if e then (flatPayload f).flatMap fun x => [x, c.zero, c.zero] else flatPayload f

/-- the values of the binary data block are `payloadE`; refused only when an extended array is not one value per cell -/
theorem binValues_ok_iff {α} (c : Codec α) (f : OField α) (e : Bool) (vals : List α) :
    binValues c f e = .ok vals ↔ (e = true → natProd f.arr.shape = natProd f.mesh.n) ∧ vals = payloadE c f e := by
  unfold binValues payloadE
  cases e
  · simp [eq_comm]
  · by_cases h : natProd f.arr.shape = natProd f.mesh.n <;> simp [h, eq_comm]

/-- the data section `_to_ovf` writes at width `w`: the text rows, or check value, values, newline and footer -/
def writtenBody {α} (c : Codec α) (f : OField α) (e : Bool) (w : Nat) : Body α :=
  if w = 0 then .text (textRows c f e) (footerLines ["Text"])
  else .bin (c.enc true w (c.magic w) ++ ((payloadE c f e).flatMap (c.enc true w) ++ 10 :: footerBytes (refWords w)))

/-- the file `_to_ovf` returns for the labels line `labels` at width `w` -/
def writtenFile {α} (c : Codec α) (f : OField α) (e : Bool) (labels : String) (w : Nat) : OvfFile α :=
  { first := "# OOMMF OVF 2.0", lines := headerLines f e labels (refWords w), body := writtenBody c f e w }

/-- **what `_to_ovf` checks and what it returns** -/
theorem toOvfE_ok_iff {α} (c : Codec α) (f : OField α) (rep : String) (e : Bool) (F : OvfFile α) :
    toOvfE c f rep e = .ok F ↔ f.mesh.region.ndim = 3 ∧ allSame f.mesh.region.units = true ∧
      ∃ labels w, valueLabels f e = .ok labels ∧ RepOk rep w ∧
        (w ≠ 0 → e = true → natProd f.arr.shape = natProd f.mesh.n) ∧
        F = writtenFile c f e labels w := by
  -- `←` computes the file; `→` reads one conjunct off each guard passed, and the file is then the computed one
  have fwd : ∀ labels w, f.mesh.region.ndim = 3 → allSame f.mesh.region.units = true → valueLabels f e = .ok labels →
      RepOk rep w → (w ≠ 0 → e = true → natProd f.arr.shape = natProd f.mesh.n) →
      toOvfE c f rep e = .ok (writtenFile c f e labels w) := by
    intro labels w h3 hu hl hw hsz
    unfold toOvfE
    rw [if_neg (not_not.mpr h3), hl]
    dsimp only
    rw [hw.words.1]
    dsimp only
    rw [if_neg (by simpa using hu), hw.words.2]
    by_cases hw0 : w = 0
    · subst hw0; rfl
    · rw [if_neg hw0, (binValues_ok_iff c f e _).mpr ⟨hsz hw0, rfl⟩]
      dsimp only
      rw [← List.flatMap_assoc, List.flatMap_id', chunked_flatten chunkSize (by decide)]
      simp [writtenFile, writtenBody, hw0, List.append_assoc]
  refine ⟨fun h => ?_, fun ⟨h3, hu, labels, w, hl, hw, hsz, hF⟩ => hF ▸ fwd labels w h3 hu hl hw hsz⟩
  have hc : f.mesh.region.ndim = 3 ∧ allSame f.mesh.region.units = true ∧ ∃ labels w, valueLabels f e = .ok labels ∧
      RepOk rep w ∧ (w ≠ 0 → e = true → natProd f.arr.shape = natProd f.mesh.n) := by
    unfold toOvfE at h
    split at h
    · cases h
    rename_i h3
    split at h
    · cases h
    rename_i labels hl
    split at h
    · cases h
    rename_i rw hr
    split at h
    · cases h
    rename_i hu
    obtain ⟨w, hw, rfl, hwd⟩ := (repWords_ok_iff rep rw).mp hr
    refine ⟨not_not.mp h3, by simpa using hu, labels, w, hl, hw, fun hw0 he => ?_⟩
    rw [hwd, if_neg hw0] at h
    split at h
    · cases h
    rename_i vals hb
    exact ((binValues_ok_iff c f e vals).mp hb).1 he
  obtain ⟨h3, hu, labels, w, hl, hw, hsz⟩ := hc
  exact ⟨h3, hu, labels, w, hl, hw, hsz, Except.ok.inj (h.symm.trans (fwd labels w h3 hu hl hw hsz))⟩

theorem writtenBody_text {α} (c : Codec α) (f : OField α) (e : Bool) :
    writtenBody c f e 0 = .text (textRows c f e) (footerLines ["Text"]) := rfl

theorem writtenBody_bin {α} (c : Codec α) (f : OField α) (e : Bool) (w : Nat) (hw : w ≠ 0) :
    writtenBody c f e w = .bin (c.enc true w (c.magic w) ++ ((payloadE c f e).flatMap (c.enc true w)
      ++ 10 :: footerBytes (refWords w))) := by
  rw [writtenBody, if_neg hw]

theorem toOvfE_shape {α} (c : Codec α) (f : OField α) (rep : String) (e : Bool) (F : OvfFile α)
    (h : toOvfE c f rep e = .ok F) :
    ∃ labels w, valueLabels f e = .ok labels ∧ RepOk rep w ∧ F = writtenFile c f e labels w :=
  let ⟨_, _, labels, w, hl, hw, _, hF⟩ := (toOvfE_ok_iff c f rep e F).mp h
  ⟨labels, w, hl, hw, hF⟩

theorem toOvfE_shape_of {α} {c : Codec α} {f : OField α} {rep : String} {e : Bool} {F : OvfFile α} {w : Nat}
    (hrep : RepOk rep w) (h : toOvfE c f rep e = .ok F) :
    ∃ labels, valueLabels f e = .ok labels ∧ F = writtenFile c f e labels w := by
  obtain ⟨labels, w', hl, hw', hF⟩ := toOvfE_shape c f rep e F h
  cases hrep.unique hw'
  exact ⟨labels, hl, hF⟩

/-! ## the reference writer -/

/-- the dictionary the header loop builds from the reference writer's lines -/
def refHeader {α} (v2 : Bool) (x : Content α) : List (String × HVal) :=
  ("End", .str "Header") ::
  ((if v2 then [("valuedim", HVal.nat x.vd)] else [("valuemultiplier", .str "1"), ("valueunit", .str "A/m")]) ++
  [("zmax", .num (x.hi 2)), ("ymax", .num (x.hi 1)), ("xmax", .num (x.hi 0)),
   ("zmin", .num (x.lo 2)), ("ymin", .num (x.lo 1)), ("xmin", .num (x.lo 0)),
   ("znodes", .nat (x.nodes.getD 2 0)), ("ynodes", .nat (x.nodes.getD 1 0)), ("xnodes", .nat (x.nodes.getD 0 0)),
   ("zstepsize", .num (x.step.getD 2 0)), ("ystepsize", .num (x.step.getD 1 0)), ("xstepsize", .num (x.step.getD 0 0)),
   ("zbase", .num (x.base.getD 2 0)), ("ybase", .num (x.base.getD 1 0)), ("xbase", .num (x.base.getD 0 0)),
   ("meshunit", .str x.meshunit), ("meshtype", .str "rectangular"), ("Title", .str "ref"),
   ("Begin", .str "Header"), ("Begin", .str "Segment"), ("Segment count", .nat 1)])

theorem scan_ref {α} (c : Codec α) (v2 : Bool) (w : Nat) (x : Content α) :
    scan (refWriter c v2 w x).lines [] = some (refHeader v2 x, refWords w) := by
  cases v2 <;> rfl

theorem headerOf_ref {α} (v2 : Bool) (x : Content α) :
    HeaderOf (refHeader v2 x) x.lo x.hi (fun a => x.step.getD a 0) (fun a => x.nodes.getD a 0) x.meshunit := by
  cases v2 <;> constructor <;> rfl

theorem isV2_ref {α} (c : Codec α) (v2 : Bool) (w : Nat) (x : Content α) :
    isV2 (refWriter c v2 w x).first = v2 := by
  cases v2 with
  | true => exact isV2_first.1
  | false => exact isV2_first.2

theorem valueDim_ref {α} (c : Codec α) (v2 : Bool) (w : Nat) (x : Content α) (h1 : v2 = false → x.vd = 3) :
    valueDim (refWriter c v2 w x).first (refHeader v2 x) = .ok x.vd := by
  unfold valueDim
  rw [isV2_ref]
  cases v2 with
  | true => rfl
  | false => rw [h1 rfl]; rfl

theorem labelsOf_ref {α} (isWord : Char → Bool) (v2 : Bool) (x : Content α) :
    labelsOf isWord (refHeader v2 x) = none := by
  cases v2 <;> rfl

theorem unitOf_ref {α} (v2 : Bool) (x : Content α) : unitOf (refHeader v2 x) = none := by
  cases v2 <;> rfl

theorem content_lo_lt_hi {α} (x : Content α) (hstep : ∀ a, a < 3 → 0 < x.step.getD a 0)
    (hn : ∀ a, a < 3 → 0 < x.nodes.getD a 0) (a : Nat) (ha : a < 3) : x.lo a < x.hi a := by
  have h2 : (0 : Rat) < (x.nodes.getD a 0 : Rat) := by exact_mod_cast hn a ha
  have := mul_pos h2 (hstep a ha)
  unfold Content.lo Content.hi
  linarith

theorem content_step {α} (x : Content α) (hn : ∀ a, a < 3 → 0 < x.nodes.getD a 0) (a : Nat) (ha : a < 3) :
    x.step.getD a 0 = (x.hi a - x.lo a) / ((x.nodes.getD a 0 : Nat) : Rat) := by
  have h2 : ((x.nodes.getD a 0 : Nat) : Rat) ≠ 0 := by exact_mod_cast (hn a ha).ne'
  unfold Content.lo Content.hi
  field_simp
  ring

theorem ref_reads {α} (c : Codec α) (v2 : Bool) (w : Nat) (x : Content α)
    (hstep : ∀ a, a < 3 → 0 < x.step.getD a 0) (hn : ∀ a, a < 3 → 0 < x.nodes.getD a 0) (hv1 : v2 = false → x.vd = 3) :
    Reads (refWriter c v2 w x) (refHeader v2 x) (refWords w)
      (meshOf x.lo x.hi (fun a => x.nodes.getD a 0) x.meshunit) x.vd :=
  .of_header (scan_ref c v2 w x) (valueDim_ref c v2 w x hv1) (headerOf_ref v2 x) (content_lo_lt_hi x hstep hn) hn
    (content_step x hn)

theorem refWriter_body_bin {α} (c : Codec α) (v2 : Bool) (w : Nat) (hw : w ≠ 0) (x : Content α) :
    (refWriter c v2 w x).body = .bin (c.enc v2 w (c.magic w) ++ (x.values.flatMap (c.enc v2 w)
      ++ 10 :: footerBytes ["Binary", toString w])) := by
  simp [refWriter, hw, List.append_assoc]

theorem ref_carries {α} (c : Codec α) (v2 : Bool) (w : Nat) (hw : w = 0 ∨ w = 4 ∨ w = 8) (x : Content α) (hvd : 0 < x.vd)
    (hcount : x.values.length = natProd [x.nodes.getD 0 0, x.nodes.getD 1 0, x.nodes.getD 2 0] * x.vd) :
    Carries c (refWriter c v2 w x) x.vd x.values w := by
  rcases hw with rfl | hw
  · refine .text _ _ rfl (fun r hr => ?_) ?_
    · obtain ⟨a, _, rfl⟩ := (mem_tab _ _ _).mp hr
      exact tab_length _ _
    · rw [hcount, Nat.mul_div_cancel _ hvd]
      exact rows_flatten _ _ _ hcount c.zero
  · exact .bin w hw _ (by rw [isV2_ref]; exact refWriter_body_bin c v2 w (by omega) x)

/-- **Foreign files, every representation** (`w = 0`: text): the general form of `reader_v1_v2` and `reader_v1_v2_txt` -/
theorem ref_read {α} [DecidableEq α] (c : Codec α) (narrow : α → α) (isWord : Char → Bool) (reserved : String → Bool)
    (v2 : Bool) (w : Nat) (hw : w = 0 ∨ w = 4 ∨ w = 8) (L : w ≠ 0 → c.Lawful narrow)
    (x : Content α) (hstep : ∀ a, a < 3 → 0 < x.step.getD a 0) (hn : ∀ a, a < 3 → 0 < x.nodes.getD a 0)
    (hvd : 0 < x.vd) (hv1 : v2 = false → x.vd = 3)
    (hcount : x.values.length = natProd [x.nodes.getD 0 0, x.nodes.getD 1 0, x.nodes.getD 2 0] * x.vd) :
    ∃ g, fromOvf c isWord reserved (refWriter c v2 w x) none = .ok g ∧
      g.mesh = meshOf x.lo x.hi (fun a => x.nodes.getD a 0) x.meshunit ∧ g.nvdim = x.vd ∧
      g.vdims = Fld.defaultVdims x.vd ∧ g.unit = none ∧
      ∀ i j k cc, i < x.nodes.getD 0 0 → j < x.nodes.getD 1 0 → k < x.nodes.getD 2 0 → cc < x.vd →
        g.arr.get [i, j, k, cc]
          = conv narrow w (x.values.getD (pos (x.nodes.getD 0 0) (x.nodes.getD 1 0) x.vd i j k cc) c.zero) := by
  have hp := parse_values (ref_reads c v2 w x hstep hn hv1) c narrow L x.values (ref_carries c v2 w hw x hvd hcount) hvd
    (natProd_pos3 _ hn) hcount
  obtain ⟨g, hg, hm, hnv, hvd', hun, harr⟩ := fromOvf_of_parse c isWord reserved _ _ _ _ _ x.vd hvd _ _ hp
    (by rw [List.length_map]; exact hcount) _ (by rw [labelsOf_ref]; rfl)
  refine ⟨g, hg, hm, hnv, hvd', hun.trans (unitOf_ref v2 x), fun i j k cc hi hj hk hcc => ?_⟩
  rw [harr, getD_map_lt _ _ _ _ c.zero (by
    rw [hcount, ← natProd_reverse [_, _, _], ← natProd_append1]; exact pos_lt _ _ _ _ _ _ _ _ hi hj hk hcc)]

/-! ## all representations, `extend_scalar` on and off -/

/-- what the independent reader makes of the header of a written file -/
def writtenContent {α} (f : OField α) (e : Bool) (vals : List α) : Content α :=
  { base := [f.mesh.region.lo 0 + f.mesh.cellAt 0 / 2, f.mesh.region.lo 1 + f.mesh.cellAt 1 / 2,
             f.mesh.region.lo 2 + f.mesh.cellAt 2 / 2],
    step := [f.mesh.cellAt 0, f.mesh.cellAt 1, f.mesh.cellAt 2],
    nodes := [f.mesh.nAt 0, f.mesh.nAt 1, f.mesh.nAt 2], vd := writeDim f e,
    meshunit := f.mesh.region.units.getD 0 "", values := vals }

theorem refReader_header {α} [DecidableEq α] (c : Codec α) (f : OField α) (e : Bool) (labels : String)
    (rw : List String) (body : Body α) :
    refReader c { first := "# OOMMF OVF 2.0", lines := headerLines f e labels rw, body := body }
      = refReaderBody c { first := "# OOMMF OVF 2.0", lines := headerLines f e labels rw, body := body } rw
          [f.mesh.region.lo 0 + f.mesh.cellAt 0 / 2, f.mesh.region.lo 1 + f.mesh.cellAt 1 / 2,
             f.mesh.region.lo 2 + f.mesh.cellAt 2 / 2]
          [f.mesh.cellAt 0, f.mesh.cellAt 1, f.mesh.cellAt 2] [f.mesh.nAt 0, f.mesh.nAt 1, f.mesh.nAt 2]
          (writeDim f e) (f.mesh.region.units.getD 0 "") := by
  unfold refReader
  simp only [scan_written]
  have hb : hnums (writtenHeader f e labels) "xbase" "ybase" "zbase"
      = .ok [f.mesh.region.lo 0 + f.mesh.cellAt 0 / 2, f.mesh.region.lo 1 + f.mesh.cellAt 1 / 2,
             f.mesh.region.lo 2 + f.mesh.cellAt 2 / 2] := rfl
  have hvd : hnat (writtenHeader f e labels) "valuedim" = .ok (writeDim f e) := rfl
  have H := headerOf_written f e labels
  rw [hb, H.step, H.nodes, hvd, H.mu]
  simp only [bind, Except.bind, HVal.text]

theorem payload_count {α} (f : OField α) (V : Valid f) :
    (flatPayload f).length = natProd [f.mesh.nAt 0, f.mesh.nAt 1, f.mesh.nAt 2] * f.nvdim := by
  obtain ⟨_, _, e3⟩ := valid_lists f V
  have hshape : f.arr.shape = [f.mesh.nAt 0, f.mesh.nAt 1, f.mesh.nAt 2, f.nvdim] := by
    rw [V.shape, ← e3]; rfl
  rw [flatPayload_length f _ _ _ _ hshape]; simp [natProd]; ring

theorem payloadE_count {α} (c : Codec α) (f : OField α) (V : Valid f) (e : Bool) (he : e = true → f.nvdim = 1) :
    (payloadE c f e).length = natProd [f.mesh.nAt 0, f.mesh.nAt 1, f.mesh.nAt 2] * writeDim f e := by
  cases e with
  | false => simpa [payloadE, writeDim] using payload_count f V
  | true =>
    have h1 := he rfl
    have := payload_count f V
    rw [h1, Nat.mul_one] at this
    simp [payloadE, writeDim, h1, this]

theorem textRows_extended {α} (c : Codec α) (f : OField α) (h1 : f.nvdim = 1) :
    textRows c f true = (flatPayload f).map fun x => [x, c.zero, c.zero] := by
  rw [map_eq_tab _ _ c.zero]
  simp only [textRows, if_true, h1, Nat.div_one, Nat.mul_one]
  rfl

theorem textRows_flatten {α} (c : Codec α) (f : OField α) (V : Valid f) (e : Bool) (he : e = true → f.nvdim = 1) :
    (textRows c f e).flatten = payloadE c f e ∧ (∀ r ∈ textRows c f e, r.length = writeDim f e) ∧
      (textRows c f e).length = natProd [f.mesh.nAt 0, f.mesh.nAt 1, f.mesh.nAt 2] := by
  have hcount := payload_count f V
  cases e with
  | false =>
    have hlen : (flatPayload f).length / f.nvdim = natProd [f.mesh.nAt 0, f.mesh.nAt 1, f.mesh.nAt 2] := by
      rw [hcount]; exact Nat.mul_div_cancel _ V.nv
    have hrows : textRows c f false = tab (natProd [f.mesh.nAt 0, f.mesh.nAt 1, f.mesh.nAt 2]) fun r =>
        tab f.nvdim fun k => (flatPayload f).getD (r * f.nvdim + k) c.zero := by
      rw [← hlen]; rfl
    rw [hrows]
    refine ⟨rows_flatten _ _ _ hcount c.zero, fun r hr => ?_, tab_length _ _⟩
    obtain ⟨a, _, rfl⟩ := (mem_tab _ _ _).mp hr
    exact tab_length _ _
  | true =>
    have h1 := he rfl
    rw [h1, Nat.mul_one] at hcount
    rw [textRows_extended c f h1]
    refine ⟨(List.flatMap_def ..).symm, fun r hr => ?_, by rw [List.length_map, hcount]⟩
    obtain ⟨x, _, rfl⟩ := List.mem_map.mp hr
    simp [writeDim, h1]

theorem writeDim_pos {α} (f : OField α) (V : Valid f) (e : Bool) : 0 < writeDim f e := by
  unfold writeDim; split <;> [omega; exact V.nv]

/-- labels through the header, for every `extend_scalar`: what is written, and what the `vdims`
setter makes of what is recovered -/
theorem labels_written_e {α} (isWord : Char → Bool) (W : WordClass isWord) (reserved : String → Bool)
    (f : OField α) (hnv : 0 < f.nvdim) (e : Bool) (hl : e = false → LabelsOk isWord reserved f)
    (he : e = true → f.nvdim = 1) :
    ∃ labels vd', valueLabels f e = .ok labels ∧
      vdimsSetter reserved (writeDim f e) (recoverLabels isWord labels) = .ok vd' ∧
      (e = true → vd' = some ["x", "y", "z"]) ∧ (e = false → 1 < f.nvdim → vd' = f.vdims) := by
  have hx : ∀ c ∈ ["x"], IsLabel isWord c.toList := fun c hc => by
    rw [List.mem_singleton.mp hc]; exact isLabel_x isWord W
  cases e with
  | true =>
    -- three times `field_x`: the labels collide, the reader keeps none, the constructor gives `x, y, z`
    have h1 := he rfl
    have hc : labelComps f true = some ["x", "x", "x"] := by simp [labelComps, writeDim, h1, List.replicate]
    refine ⟨_, some ["x", "y", "z"], by rw [valueLabels_eq, hc], ?_, fun _ => rfl, fun h => nomatch h⟩
    rw [recoverLabels_fields isWord W _ (fun c hc => hx c (by simpa using hc))]
    simp [writeDim, h1, hasDup, vdimsSetter, Fld.defaultVdims]
  | false =>
    obtain ⟨hxr, hl⟩ := hl rfl
    have hwd : writeDim f false = f.nvdim := by simp [writeDim]
    by_cases h1 : f.nvdim = 1
    · have hc : labelComps f false = some ["x"] := by simp [labelComps, writeDim, h1]
      refine ⟨_, some ["x"], by rw [valueLabels_eq, hc], ?_, fun h => (nomatch h), by omega⟩
      rw [recoverLabels_fields isWord W _ hx, hwd, h1]
      exact vdimsSetter_some reserved ["x"] (by simp) (by decide) (by simpa using hxr)
    · cases hv : f.vdims with
      | none => rw [hv] at hl; exact absurd hl h1
      | some vs =>
        rw [hv] at hl
        obtain ⟨hlen, hdup, hall⟩ := hl
        have hc : labelComps f false = some vs := by simp [labelComps, writeDim, h1, hv]
        refine ⟨_, some vs, by rw [valueLabels_eq, hc], ?_, fun h => (nomatch h), fun _ _ => rfl⟩
        rw [recoverLabels_fields isWord W vs (fun v hv => (hall v hv).1), hdup, hwd, ← hlen]
        exact vdimsSetter_some reserved vs (by intro h; rw [h] at hlen; simp at hlen; omega) hdup
          (fun v hv => (hall v hv).2)

theorem payloadE_getD {α} (c : Codec α) (f : OField α) (V : Valid f) (e : Bool) (he : e = true → f.nvdim = 1)
    (i j k cc : Nat) (hi : i < f.mesh.nAt 0) (hj : j < f.mesh.nAt 1) (hk : k < f.mesh.nAt 2)
    (hcc : cc < writeDim f e) :
    (payloadE c f e).getD (pos (f.mesh.nAt 0) (f.mesh.nAt 1) (writeDim f e) i j k cc) c.zero
      = if e then (if cc = 0 then f.arr.get [i, j, k, 0] else c.zero) else f.arr.get [i, j, k, cc] := by
  obtain ⟨_, _, e3⟩ := valid_lists f V
  have hshape : f.arr.shape = [f.mesh.nAt 0, f.mesh.nAt 1, f.mesh.nAt 2, f.nvdim] := by
    rw [V.shape, ← e3]; rfl
  cases e with
  | false =>
    have hwd : writeDim f false = f.nvdim := by simp [writeDim]
    rw [hwd] at hcc ⊢
    simp only [payloadE, Bool.false_eq_true, if_false]
    exact flatPayload_getD f _ _ _ _ hshape i j k cc hi hj hk hcc c.zero
  | true =>
    have h1 := he rfl
    have hwd : writeDim f true = 3 := by simp [writeDim, h1]
    rw [hwd] at hcc ⊢
    rw [h1] at hshape
    simp only [payloadE, if_true]
    have hpos : pos (f.mesh.nAt 0) (f.mesh.nAt 1) 3 i j k cc = pos (f.mesh.nAt 0) (f.mesh.nAt 1) 1 i j k 0 * 3 + cc := by
      simp [pos]
    have hlt1 : pos (f.mesh.nAt 0) (f.mesh.nAt 1) 1 i j k 0 < (flatPayload f).length := by
      rw [flatPayload_length f _ _ _ _ hshape]
      exact pos_lt _ _ _ _ _ _ _ _ hi hj hk (by omega)
    rw [hpos, triple_getD _ _ _ _ _ hlt1 hcc, flatPayload_getD f _ _ _ _ hshape i j k 0 hi hj hk (by omega)]

theorem toOvfE_written {α} (c : Codec α) (f : OField α) (V : Valid f) (e : Bool) (he : e = true → f.nvdim = 1)
    (rep : String) (w : Nat) (hrep : RepOk rep w) (labels : String) (hlab : valueLabels f e = .ok labels) :
    toOvfE c f rep e = .ok (writtenFile c f e labels w) :=
  (toOvfE_ok_iff c f rep e _).mpr ⟨by simp [Region.ndim, V.pmin3], by rw [V.units]; simp [allSame], labels, w, hlab, hrep,
    fun _ h => by rw [V.shape, natProd_append1, he h]; simp, rfl⟩

theorem written_reads {α} (c : Codec α) (f : OField α) (V : Valid f) (e : Bool) (labels : String) (w : Nat) :
    Reads (writtenFile c f e labels w) (writtenHeader f e labels) (refWords w)
      (meshOf f.mesh.region.lo f.mesh.region.hi f.mesh.nAt (f.mesh.region.units.getD 0 "")) (writeDim f e) :=
  .of_header (scan_written f e labels _) (valueDim_written f e labels) (headerOf_written f e labels) V.lt V.npos
    (fun _ _ => rfl)

theorem written_carries {α} (c : Codec α) (f : OField α) (V : Valid f) (e : Bool) (he : e = true → f.nvdim = 1)
    (labels : String) (w : Nat) (hw : w = 0 ∨ w = 4 ∨ w = 8) :
    Carries c (writtenFile c f e labels w) (writeDim f e) (payloadE c f e) w := by
  rcases hw with rfl | hw
  · obtain ⟨hflat, huni, _⟩ := textRows_flatten c f V e he
    exact .text _ _ rfl huni hflat
  · refine .bin w hw (10 :: footerBytes (refWords w)) ?_
    show writtenBody c f e w = .bin (c.enc (isV2 "# OOMMF OVF 2.0") w _ ++ ((payloadE c f e).flatMap (c.enc (isV2 "# OOMMF OVF 2.0") w) ++ _))
    rw [writtenBody, if_neg (by omega), isV2_first.1]

theorem written_parse {α} [DecidableEq α] (c : Codec α) (narrow : α → α)
    (f : OField α) (V : Valid f) (e : Bool) (he : e = true → f.nvdim = 1)
    (w : Nat) (hw : w = 0 ∨ w = 4 ∨ w = 8) (L : w ≠ 0 → c.Lawful narrow) (labels : String) :
    parse c (writtenFile c f e labels w)
      = .ok { mesh := meshOf f.mesh.region.lo f.mesh.region.hi f.mesh.nAt (f.mesh.region.units.getD 0 ""),
              vd := writeDim f e, flat := (payloadE c f e).map (conv narrow w),
              header := writtenHeader f e labels } :=
  parse_values (written_reads c f V e labels w) c narrow L _ (written_carries c f V e he labels w hw)
    (writeDim_pos f V e) (natProd_pos3 _ V.npos) (payloadE_count c f V e he)

theorem written_refReader {α} [DecidableEq α] (c : Codec α) (narrow : α → α)
    (f : OField α) (V : Valid f) (e : Bool) (he : e = true → f.nvdim = 1)
    (w : Nat) (hw : w = 0 ∨ w = 4 ∨ w = 8) (L : w ≠ 0 → c.Lawful narrow) (labels : String) :
    refReader c (writtenFile c f e labels w)
      = .ok (writtenContent f e ((payloadE c f e).map (conv narrow w))) := by
  have hcount := payloadE_count c f V e he
  rw [writtenFile, refReader_header]
  unfold refReaderBody
  rcases hw with rfl | hw
  · obtain ⟨hflat, _, _⟩ := textRows_flatten c f V e he
    rw [List.map_congr_left (g := id) fun x _ => conv_zero_width narrow x, List.map_id]
    simp only [writtenBody_text, show refWords 0 = ["Text"] from rfl, hflat, hcount, ne_eq, not_true_eq_false, if_false]
    rfl
  · obtain ⟨h1, h2, h3⟩ := block_read c narrow (L (by omega)) true w hw (payloadE c f e) (10 :: footerBytes (refWords w))
    simp only [writtenBody_bin c f e w (by omega), refWords_bin w (by omega), parseNat_toString w, Option.getD_some]
    rw [refWords_bin w (by omega)] at h1 h2 h3
    rw [if_neg (Nat.not_lt.mpr h1), h2, ← hcount, h3]
    simp [writtenContent]

theorem loadSide_written {α} (f : OField α) (V : Valid f) (withSide : Bool)
    (hs : withSide = true → ∀ p ∈ f.mesh.subs, ∃ i j, SubOf f.mesh p.2 i j) :
    ∃ m', loadSide (meshOf f.mesh.region.lo f.mesh.region.hi f.mesh.nAt (f.mesh.region.units.getD 0 ""))
        (if withSide then some (saveSub f.mesh) else none) = .ok m' ∧
      m'.subs.map (fun p => (p.1, p.2.pmin, p.2.pmax))
        = (if withSide then f.mesh.subs.map (fun p => (p.1, p.2.pmin, p.2.pmax)) else []) ∧
      m'.n = [f.mesh.nAt 0, f.mesh.nAt 1, f.mesh.nAt 2] ∧
      m'.region = regOf f.mesh.region.lo f.mesh.region.hi (f.mesh.region.units.getD 0 "") := by
  cases withSide with
  | false => exact ⟨_, rfl, rfl, rfl, rfl⟩
  | true =>
    have M := mesh3_meshOf f.mesh.region.lo f.mesh.region.hi f.mesh.nAt (f.mesh.region.units.getD 0 "") V.lt V.npos
    refine ⟨_, loadSub_saveSub f.mesh _ M fun p hp => ?_, corners_retag _ _, rfl, rfl⟩
    obtain ⟨i, j, S⟩ := hs rfl p hp
    exact ⟨i, j, subOf_meshOf f.mesh _ p.2 i j S⟩

theorem conv_zero {α} (c : Codec α) (narrow : α → α) (w : Nat) (L : w ≠ 0 → c.Lawful narrow) :
    conv narrow w c.zero = c.zero := by
  unfold conv; split
  · exact (L (by omega)).narrow_zero
  · rfl

theorem payloadE_conv_getD {α} (c : Codec α) (narrow : α → α) (w : Nat) (f : OField α) (V : Valid f) (e : Bool)
    (he : e = true → f.nvdim = 1) (i j k cc : Nat) (hi : i < f.mesh.nAt 0) (hj : j < f.mesh.nAt 1)
    (hk : k < f.mesh.nAt 2) (hcc : cc < writeDim f e) :
    ((payloadE c f e).map (conv narrow w)).getD (pos (f.mesh.nAt 0) (f.mesh.nAt 1) (writeDim f e) i j k cc) c.zero
      = conv narrow w (if e then (if cc = 0 then f.arr.get [i, j, k, 0] else c.zero) else f.arr.get [i, j, k, cc]) := by
  have hlt : pos (f.mesh.nAt 0) (f.mesh.nAt 1) (writeDim f e) i j k cc < (payloadE c f e).length := by
    rw [payloadE_count c f V e he, ← natProd_reverse [_, _, _], ← natProd_append1]
    exact pos_lt _ _ _ _ _ _ _ _ hi hj hk hcc
  rw [getD_map_lt _ _ _ _ c.zero hlt, payloadE_getD c f V e he i j k cc hi hj hk hcc]

/-- **Round trip, general form**: `e` is the effective `extend_scalar` (it acts on one-component fields only);
labels matter for a field that is not extended only, a lawful codec for the binary representations only, the
subregion hypothesis with the side-car file only, and `UnitOk` for the unit only. -/
theorem written_read {α} [DecidableEq α] (c : Codec α) (narrow : α → α) (isWord : Char → Bool)
    (W : WordClass isWord) (reserved : String → Bool) (f : OField α) (V : Valid f)
    (e : Bool) (hl : e = false → LabelsOk isWord reserved f) (he : e = true → f.nvdim = 1)
    (rep : String) (w : Nat) (hrep : RepOk rep w) (L : w ≠ 0 → c.Lawful narrow) (withSide : Bool)
    (hs : withSide = true → ∀ p ∈ f.mesh.subs, ∃ i j, SubOf f.mesh p.2 i j) :
    ∃ F g, toOvfE c f rep e = .ok F ∧
      fromOvf c isWord reserved F (if withSide then some (saveSub f.mesh) else none) = .ok g ∧
      g.mesh.region.pmin = f.mesh.region.pmin ∧ g.mesh.region.pmax = f.mesh.region.pmax ∧
      g.mesh.region.units = f.mesh.region.units ∧ g.mesh.n = f.mesh.n ∧
      g.nvdim = writeDim f e ∧ (UnitOk f.unit → g.unit = f.unit) ∧
      g.mesh.subs.map (fun p => (p.1, p.2.pmin, p.2.pmax))
        = (if withSide then f.mesh.subs.map (fun p => (p.1, p.2.pmin, p.2.pmax)) else []) ∧
      (e = true → g.vdims = some ["x", "y", "z"]) ∧ (e = false → 1 < f.nvdim → g.vdims = f.vdims) ∧
      ∀ i j k cc, i < f.mesh.nAt 0 → j < f.mesh.nAt 1 → k < f.mesh.nAt 2 → cc < writeDim f e →
        g.arr.get [i, j, k, cc] = conv narrow w
          (if e then (if cc = 0 then f.arr.get [i, j, k, 0] else c.zero) else f.arr.get [i, j, k, cc]) := by
  obtain ⟨labels, vd', hlab, hset, hv1, hv2⟩ := labels_written_e isWord W reserved f V.nv e hl he
  have hF := toOvfE_written c f V e he rep w hrep labels hlab
  have hp := written_parse c narrow f V e he w hrep.width L labels
  obtain ⟨e1, e2, e3⟩ := valid_lists f V
  have hwd := writeDim_pos f V e
  obtain ⟨m', hside, hsubs, hn', hreg⟩ := loadSide_written f V withSide hs
  obtain ⟨g, hg, hm, hnv, hvd, hun, harr⟩ :=
    fromOvf_of_parse_side c isWord reserved _ _ _ m' f.mesh.nAt rfl (writeDim f e) hwd _ _ hp hside
      (by rw [List.length_map]; exact payloadE_count c f V e he) vd' (by rw [labelsOf_written]; exact hset)
  rw [← hm] at hsubs hn' hreg
  refine ⟨_, g, hF, hg, by rw [hreg]; exact e1, by rw [hreg]; exact e2, by rw [hreg]; exact V.units.symm,
    hn'.trans e3, hnv, fun hu => ?_, hsubs, fun h => hvd.trans (hv1 h), fun h h' => hvd.trans (hv2 h h'),
    fun i j k cc hi hj hk hcc => ?_⟩
  · rw [hun, unitOf_written]
    exact recoverUnit_valueUnits f e hu hwd
  · exact (harr i j k cc).trans (payloadE_conv_getD c narrow w f V e he i j k cc hi hj hk hcc)

/-- nodes, step and base of the written header span the field's region -/
theorem base_step_span {α} (f : OField α) (V : Valid f) (a : Nat) (ha : a < 3) :
    (f.mesh.region.lo a + f.mesh.cellAt a / 2) - f.mesh.cellAt a / 2 = f.mesh.region.lo a ∧
    ((f.mesh.region.lo a + f.mesh.cellAt a / 2) - f.mesh.cellAt a / 2) + (f.mesh.nAt a : Rat) * f.mesh.cellAt a
      = f.mesh.region.hi a ∧
    0 < f.mesh.cellAt a := by
  have hn : (0 : Rat) < (f.mesh.nAt a : Rat) := by exact_mod_cast V.npos a ha
  have hlt := V.lt a ha
  simp only [Mesh.cellAt, Region.edge]
  refine ⟨by ring, ?_, div_pos (by linarith) hn⟩
  field_simp
  ring

/-- **The written file under the independent reader, general form** (`e` the effective `extend_scalar`). -/
theorem written_refRead {α} [DecidableEq α] (c : Codec α) (narrow : α → α) (isWord : Char → Bool)
    (W : WordClass isWord) (reserved : String → Bool) (f : OField α) (V : Valid f)
    (e : Bool) (hl : e = false → LabelsOk isWord reserved f) (he : e = true → f.nvdim = 1)
    (rep : String) (w : Nat) (hrep : RepOk rep w) (L : w ≠ 0 → c.Lawful narrow) :
    ∃ F x, toOvfE c f rep e = .ok F ∧ isV2 F.first = true ∧ refReader c F = .ok x ∧
      x.nodes = f.mesh.n ∧ x.vd = writeDim f e ∧ x.meshunit = f.mesh.region.units.getD 0 "" ∧
      (∀ a, a < 3 → x.step.getD a 0 = f.mesh.cellAt a ∧ x.lo a = f.mesh.region.lo a ∧ x.hi a = f.mesh.region.hi a) ∧
      x.values.length = natProd f.mesh.n * writeDim f e ∧
      ∀ i j k cc, i < f.mesh.nAt 0 → j < f.mesh.nAt 1 → k < f.mesh.nAt 2 → cc < writeDim f e →
        x.values.getD (pos (f.mesh.nAt 0) (f.mesh.nAt 1) (writeDim f e) i j k cc) c.zero
          = conv narrow w (if e then (if cc = 0 then f.arr.get [i, j, k, 0] else c.zero) else f.arr.get [i, j, k, cc]) := by
  obtain ⟨labels, _, hlab, _, _, _⟩ := labels_written_e isWord W reserved f V.nv e hl he
  refine ⟨_, _, toOvfE_written c f V e he rep w hrep labels hlab, isV2_first.1,
    written_refReader c narrow f V e he w hrep.width L labels, (valid_lists f V).2.2, rfl, rfl, fun a ha => ?_, ?_,
    payloadE_conv_getD c narrow w f V e he⟩
  · have hm := base_step_span f V a ha
    -- on each of the three axes the entries of the content are read off by evaluation
    match a, ha with
    | 0, _ | 1, _ | 2, _ => exact ⟨rfl, hm.1, hm.2.1⟩
  · show ((payloadE c f e).map (conv narrow w)).length = _
    rw [List.length_map, payloadE_count c f V e he, (valid_lists f V).2.2]

theorem valueLabels_isOk_iff {α} (f : OField α) (extend : Bool) :
    (∃ l, valueLabels f (extend && f.nvdim == 1) = .ok l) ↔ (f.nvdim = 1 ∨ f.vdims ≠ none) := by
  unfold valueLabels writeDim
  by_cases h1 : f.nvdim = 1
  · cases extend <;> simp [h1]
  · have : (f.nvdim == 1) = false := by simpa using h1
    simp only [this, Bool.and_false, Bool.false_eq_true, if_false, h1, false_or]
    cases f.vdims <;> simp

theorem repOk_iff (rep : String) : (∃ w, RepOk rep w) ↔ rep = "txt" ∨ rep = "bin4" ∨ rep = "bin8" :=
  ⟨fun ⟨_, h⟩ => h.imp And.left (Or.imp And.left And.left),
   fun h => h.elim (fun h => ⟨0, Or.inl ⟨h, rfl⟩⟩) fun h => h.elim (fun h => ⟨4, Or.inr (Or.inl ⟨h, rfl⟩)⟩)
     fun h => ⟨8, Or.inr (Or.inr ⟨h, rfl⟩)⟩⟩

/-- the general form of `writer_accepts_iff` and `writer_rejects` -/
theorem toOvf_ok_iff {α} (c : Codec α) (f : OField α) (rep : String) (extend : Bool) :
    (∃ F, toOvf c f rep extend = .ok F) ↔
      f.mesh.region.ndim = 3 ∧ (rep = "txt" ∨ rep = "bin4" ∨ rep = "bin8") ∧
      allSame f.mesh.region.units = true ∧ (f.nvdim = 1 ∨ f.vdims ≠ none) ∧
      (extend = true → f.nvdim = 1 → rep ≠ "txt" → natProd f.arr.shape = natProd f.mesh.n) := by
  unfold toOvf
  rw [← valueLabels_isOk_iff f extend, ← repOk_iff]
  constructor
  · rintro ⟨F, hF⟩
    obtain ⟨h3, hu, l, w, hl, hw, hsz, -⟩ := (toOvfE_ok_iff c f rep _ F).mp hF
    refine ⟨h3, ⟨w, hw⟩, hu, ⟨l, hl⟩, fun he h1 ht => hsz ?_ (by simp [he, h1])⟩
    rintro rfl
    rcases hw with ⟨h, _⟩ | ⟨_, h⟩ | ⟨_, h⟩
    exacts [ht h, absurd h (by decide), absurd h (by decide)]
  · rintro ⟨h3, ⟨w, hw⟩, hu, ⟨l, hl⟩, hsz⟩
    refine ⟨_, (toOvfE_ok_iff c f rep _ _).mpr ⟨h3, hu, l, w, hl, hw, fun hw0 he => ?_, rfl⟩⟩
    have he' : extend = true ∧ f.nvdim = 1 := by simpa using he
    refine hsz he'.1 he'.2 ?_
    rintro rfl
    rcases hw with ⟨_, h⟩ | ⟨h, _⟩ | ⟨h, _⟩
    exacts [hw0 h, absurd h (by decide), absurd h (by decide)]

end DFV.C09
