import DFV.Lemmas.C07SubsOk
/-! Results as re-indexings of their source.  `Shows g f φ`: cell `j` of `g` is the (existing) cell `φ j` of `f`.  `FldBlock`
(on `MeshBlock`): a field made, on every axis, of a block of whole cells of another one — what `field[region]` and range
selections return, and what the source and every smaller padding are inside a padded field; such extractions compose, and
the same cells give the same object.  Resampling shows source cell `rsIdx`; refining first does not change it. -/
namespace DFV.C07
open DFV DFV.Mesh

/-- the mesh of `g` is that block of the mesh of `f`, and cell `j` of `g` holds value and validity of cell
`off + j` of `f` -/
structure FldBlock (g f : Fld) (off cnt : Nat → Nat) : Prop where
  mesh : MeshBlock g.mesh f.mesh off cnt
  cells : ∀ j, inRange g.mesh.n j = true →
    g.data.get j = f.data.get (tab f.mesh.ndim fun b => off b + j.getD b 0) ∧
    g.valid.get j = f.valid.get (tab f.mesh.ndim fun b => off b + j.getD b 0)

/-! ## re-indexing -/

/-- cell `j` of `g` shows cell `φ j` of `f`: that cell exists, and value and validity are its -/
def Shows (g f : Fld) (φ : List Nat → List Nat) : Prop :=
  ∀ j, inRange g.mesh.n j = true →
    inRange f.mesh.n (φ j) = true ∧ g.data.get j = f.data.get (φ j) ∧ g.valid.get j = f.valid.get (φ j)

namespace Shows
variable {h g g' f : Fld} {φ φ' ψ : List Nat → List Nat}

theorem trans (hg : Shows g f φ) (hh : Shows h g ψ) : Shows h f (φ ∘ ψ) := fun j hj =>
  ⟨(hg _ (hh j hj).1).1, (hh j hj).2.1.trans (hg _ (hh j hj).1).2.1, (hh j hj).2.2.trans (hg _ (hh j hj).1).2.2⟩

theorem congr (hg : Shows g f φ) (he : ∀ j, inRange g.mesh.n j = true → φ j = φ' j) : Shows g f φ' :=
  fun j hj => he j hj ▸ hg j hj

theorem agree (hg : Shows g f φ) (hg' : Shows g' f φ) (hn : g.mesh.n = g'.mesh.n) (j : List Nat)
    (hj : inRange g.mesh.n j = true) : g.data.get j = g'.data.get j ∧ g.valid.get j = g'.valid.get j :=
  ⟨(hg j hj).2.1.trans (hg' j (hn ▸ hj)).2.1.symm, (hg j hj).2.2.trans (hg' j (hn ▸ hj)).2.2.symm⟩

end Shows

theorem AxisBlock.trans {h g m : Mesh} {b off cnt off' cnt' : Nat} (hg : AxisBlock g m b b off cnt)
    (hh : AxisBlock h g b b off' cnt') : AxisBlock h m b b (off + off') cnt' :=
  ⟨by rw [hh.lo, hg.lo, hg.cell]; push_cast; ring, hh.n, hh.cell.trans hg.cell, by
    have := hh.fits; have := hg.fits; have := hg.n; omega⟩

theorem AxisBlock.whole {g m : Mesh} {b : Nat} (h : AxisBlock g m b b 0 (m.nAt b)) (hn : 0 < m.nAt b) :
    g.region.lo b = m.region.lo b ∧ g.region.hi b = m.region.hi b :=
  ⟨by rw [h.lo, Nat.cast_zero, zero_mul, add_zero],
   by rw [block_hi h hn, C01.hi_eq m b hn, Nat.cast_zero, zero_add]⟩

theorem AxisBlock.ext {g g' m : Mesh} {b off cnt : Nat} (h : AxisBlock g m b b off cnt)
    (h' : AxisBlock g' m b b off cnt) (hpos : 0 < cnt) :
    g.region.lo b = g'.region.lo b ∧ g.region.hi b = g'.region.hi b ∧ g.nAt b = g'.nAt b :=
  ⟨by rw [h.lo, h'.lo], by rw [block_hi h hpos, block_hi h' hpos], by rw [h.n, h'.n]⟩

namespace MeshBlock
variable {g m : Mesh} {off cnt : Nat → Nat}

theorem refl (hm : m.Inv) : MeshBlock m m (fun _ => 0) m.nAt :=
  ⟨rfl, hm.n_length, hm.pmax_length, rfl, rfl, rfl, fun _ hb => hm.nAt_pos hb, fun b hb =>
    ⟨by rw [Nat.cast_zero, zero_mul, add_zero], rfl, rfl, by omega⟩⟩

theorem getD_lt (h : MeshBlock g m off cnt) {j : List Nat} (hj : inRange g.n j = true) {b : Nat}
    (hb : b < m.ndim) : j.getD b 0 < cnt b := by
  have := inRange_getD _ _ hj b (by rw [h.nlen]; exact hb)
  rw [← (h.axis b hb).n]; exact this

theorem point2index (h : MeshBlock g m off cnt) (hm : m.Inv) (j : List Nat) (hj : inRange g.n j = true) :
    m.point2index (g.centre j) = .ok (tab m.ndim fun b => off b + j.getD b 0) :=
  block_point2index m g hm h.ndim h.nlen off cnt h.axis j hj

theorem congr (h : MeshBlock g m off cnt) {off' cnt' : Nat → Nat}
    (he : ∀ b, b < m.ndim → off b = off' b ∧ cnt b = cnt' b) : MeshBlock g m off' cnt' :=
  ⟨h.ndim, h.nlen, h.pmax, h.dims, h.units, h.tol, fun b hb => (he b hb).2 ▸ h.pos b hb,
   fun b hb => (he b hb).1 ▸ (he b hb).2 ▸ h.axis b hb⟩

theorem trans {h' : Mesh} {off' cnt' : Nat → Nat} (hg : MeshBlock g m off cnt)
    (hh : MeshBlock h' g off' cnt') : MeshBlock h' m (fun b => off b + off' b) cnt' :=
  ⟨hh.ndim.trans hg.ndim, hh.nlen.trans hg.ndim, hh.pmax.trans hg.ndim, hh.dims.trans hg.dims,
   hh.units.trans hg.units, hh.tol.trans hg.tol, fun b hb => hh.pos b (hg.ndim ▸ hb),
   fun b hb => (hg.axis b hb).trans (hh.axis b (hg.ndim ▸ hb))⟩

theorem unique {g' : Mesh} (h : MeshBlock g m off cnt) (h' : MeshBlock g' m off cnt) :
    g.region = g'.region ∧ g.n = g'.n := by
  have hax := fun b hb => (h.axis b hb).ext (h'.axis b hb) (h.pos b hb)
  have hnd : g.ndim = g'.ndim := h.ndim.trans h'.ndim.symm
  exact ⟨region_ext g'.region g.region hnd (h'.pmax.trans h'.ndim.symm) (h.pmax.trans h'.ndim.symm)
      (fun b hb => (hax b (h'.ndim ▸ hb)).1) (fun b hb => (hax b (h'.ndim ▸ hb)).2.1)
      (h.dims.trans h'.dims.symm) (h.units.trans h'.units.symm) (h.tol.trans h'.tol.symm),
    list_eq_of_getD _ _ 0 (h.nlen.trans h'.nlen.symm) fun b hb => (hax b (h.nlen ▸ hb)).2.2⟩

theorem aligned (h : MeshBlock g m off cnt) : SubAligned m g.region off (fun b => off b + cnt b) :=
  ⟨h.ndim, h.pmax, fun b hb => ⟨Nat.lt_add_of_pos_right (h.pos b hb), (h.axis b hb).fits, (h.axis b hb).lo, by
    rw [block_hi (h.axis b hb) (h.pos b hb), Nat.cast_add]⟩⟩

end MeshBlock

namespace FldBlock
variable {g f : Fld} {off cnt : Nat → Nat}

theorem congr (h : FldBlock g f off cnt) {off' cnt' : Nat → Nat}
    (he : ∀ b, b < f.mesh.ndim → off b = off' b ∧ cnt b = cnt' b) : FldBlock g f off' cnt' := by
  refine ⟨h.mesh.congr he, fun j hj => ?_⟩
  rw [← tab_congr _ _ _ fun b hb => congrArg (· + j.getD b 0) (he b hb).1]
  exact h.cells j hj

theorem source_inRange (h : FldBlock g f off cnt) (hf : f.mesh.Inv) {j : List Nat}
    (hj : inRange g.mesh.n j = true) :
    inRange f.mesh.n (tab f.mesh.ndim fun b => off b + j.getD b 0) = true := by
  apply C01.inRange_of_getD _ _ (by rw [tab_length, hf.n_length])
  intro b hb
  rw [hf.n_length] at hb
  rw [getD_tab _ _ _ _ hb]
  have := h.mesh.getD_lt hj hb
  have := (h.mesh.axis b hb).fits
  show _ < f.mesh.nAt b
  omega

theorem trans {h : Fld} {off' cnt' : Nat → Nat} (hg : FldBlock g f off cnt) (hginv : g.mesh.Inv)
    (hh : FldBlock h g off' cnt') : FldBlock h f (fun b => off b + off' b) cnt' := by
  refine ⟨hg.mesh.trans hh.mesh, fun j hj => ?_⟩
  obtain ⟨d1, v1⟩ := hh.cells j hj
  obtain ⟨d2, v2⟩ := hg.cells _ (hh.source_inRange hginv hj)
  have hidx : (tab f.mesh.ndim fun b => off b + (tab g.mesh.ndim fun b => off' b + j.getD b 0).getD b 0)
      = tab f.mesh.ndim fun b => off b + off' b + j.getD b 0 :=
    tab_congr _ _ _ fun b hb => by rw [getD_tab _ _ _ _ (hg.mesh.ndim ▸ hb), Nat.add_assoc]
  rw [hidx] at d2 v2
  exact ⟨d1.trans d2, v1.trans v2⟩

theorem unique {g' : Fld} (h : FldBlock g f off cnt) (h' : FldBlock g' f off cnt) :
    g.mesh.region = g'.mesh.region ∧ g.mesh.n = g'.mesh.n ∧
    ∀ j, inRange g.mesh.n j = true → g.data.get j = g'.data.get j ∧ g.valid.get j = g'.valid.get j := by
  obtain ⟨hr, hn⟩ := h.mesh.unique h'.mesh
  refine ⟨hr, hn, fun j hj => ?_⟩
  obtain ⟨d1, v1⟩ := h.cells j hj
  obtain ⟨d2, v2⟩ := h'.cells j (hn ▸ hj)
  exact ⟨d1.trans d2.symm, v1.trans v2.symm⟩

/-- two blocks with the same offsets, the second with at least as many cells on every axis: the
cells of the first are cells of the second and hold the same values -/
theorem cells_of_le {g' : Fld} {cnt' : Nat → Nat} (h : FldBlock g f off cnt) (h' : FldBlock g' f off cnt')
    (hle : ∀ b, b < f.mesh.ndim → cnt b ≤ cnt' b) (j : List Nat) (hj : inRange g.mesh.n j = true) :
    inRange g'.mesh.n j = true ∧ g.data.get j = g'.data.get j ∧ g.valid.get j = g'.valid.get j := by
  have hj' : inRange g'.mesh.n j = true := by
    apply C01.inRange_of_getD _ _ (by rw [h'.mesh.nlen, inRange_length _ _ hj, h.mesh.nlen])
    intro b hb
    rw [h'.mesh.nlen] at hb
    show _ < g'.mesh.nAt b
    rw [(h'.mesh.axis b hb).n]
    exact lt_of_lt_of_le (h.mesh.getD_lt hj hb) (hle b hb)
  obtain ⟨d1, v1⟩ := h.cells j hj
  obtain ⟨d2, v2⟩ := h'.cells j hj'
  exact ⟨hj', d1.trans d2.symm, v1.trans v2.symm⟩

theorem refl (hf : FldWF f) : FldBlock f f (fun _ => 0) f.mesh.nAt := by
  refine ⟨MeshBlock.refl hf.1, fun j hj => ?_⟩
  have : (tab f.mesh.ndim fun b => 0 + j.getD b 0) = j :=
    (eq_tab_of_getD _ _ _ 0 (by rw [inRange_length _ _ hj, hf.1.n_length]) fun b _ => (Nat.zero_add _).symm).symm
  rw [this]
  exact ⟨rfl, rfl⟩

end FldBlock

/-! ## any point of a cell of a block -/

theorem block_any_point {g m : Mesh} {b off cnt : Nat} (blk : AxisBlock g m b b off cnt) (hc : 0 < m.cellAt b)
    (j : Nat) (hj : j < cnt) (x : Rat)
    (h1 : g.region.lo b + (j : Rat) * g.cellAt b ≤ x) (h2 : x < g.region.lo b + ((j : Rat) + 1) * g.cellAt b) :
    g.indexAx b x = j ∧ m.indexAx b x = off + j ∧
    g.region.lo b ≤ x ∧ x ≤ g.region.hi b ∧ m.region.lo b ≤ x ∧ x ≤ m.region.hi b := by
  have hgc : 0 < g.cellAt b := by rw [blk.cell]; exact hc
  have hjg : j < g.nAt b := by rw [blk.n]; exact hj
  have hjm : off + j < m.nAt b := by have := blk.fits; omega
  -- cell `j` of the block is cell `off + j` of the source
  have h1m : m.region.lo b + ((off + j : Nat) : Rat) * m.cellAt b ≤ x := by
    rw [blk.lo, blk.cell] at h1; push_cast; linarith
  have h2m : x < m.region.lo b + (((off + j : Nat) : Rat) + 1) * m.cellAt b := by
    rw [blk.lo, blk.cell] at h2; push_cast; linarith
  exact ⟨indexAx_eq_of_bounds g b x j hjg hgc h1 h2, indexAx_eq_of_bounds m b x (off + j) hjm hc h1m h2m,
    (cell_in_edge g b x j hjg hgc h1 h2).1, (cell_in_edge g b x j hjg hgc h1 h2).2,
    (cell_in_edge m b x _ hjm hc h1m h2m).1, (cell_in_edge m b x _ hjm hc h1m h2m).2⟩

theorem aligned_any_point (m g : Mesh) (hm : m.Inv) (hnd : g.ndim = m.ndim) (hnl : g.n.length = m.ndim)
    (off cnt : Nat → Nat) (hblk : ∀ b, b < m.ndim → AxisBlock g m b b (off b) (cnt b))
    (j : List Nat) (hj : inRange g.n j = true) (p : List Rat) (hp : p.length = m.ndim)
    (hin : ∀ b, b < m.ndim → g.region.lo b + (j.getD b 0 : Rat) * g.cellAt b ≤ p.getD b 0 ∧
      p.getD b 0 < g.region.lo b + ((j.getD b 0 : Rat) + 1) * g.cellAt b) :
    g.point2index p = .ok j ∧ m.point2index p = .ok (tab m.ndim fun b => off b + j.getD b 0) := by
  have hjl : j.length = m.ndim := by rw [inRange_length _ _ hj, hnl]
  have hfacts : ∀ b, b < m.ndim → _ := fun b hb =>
    block_any_point (hblk b hb) (hm.cellAt_pos hb) (j.getD b 0)
      (by
        have := inRange_getD _ _ hj b (by rw [hnl]; exact hb)
        have hn := (hblk b hb).n
        rw [nAt_def] at hn
        omega) (p.getD b 0) (hin b hb).1 (hin b hb).2
  constructor
  · rw [point2index_eq g p (by rw [hp, hnd]) (fun b hb => by
      obtain ⟨_, _, c3, c4, _, _⟩ := hfacts b (by omega)
      exact ⟨c3, c4⟩)]
    congr 1
    symm
    apply eq_tab_of_getD _ _ _ 0 (by rw [hjl, hnd])
    intro b hb
    exact (hfacts b (by omega)).1.symm
  · rw [point2index_eq m p hp (fun b hb => by
      obtain ⟨_, _, _, _, c5, c6⟩ := hfacts b hb
      exact ⟨c5, c6⟩)]
    congr 1
    exact tab_congr _ _ _ (fun b hb => (hfacts b hb).2.1)

/-! ## `mesh[region]`, `field[region]` -/

theorem blockHi_cast (m : Mesh) (hm : m.Inv) (item : Region) (hbox : BoxIn m item) (a : Nat) (ha : a < m.ndim) :
    ((blockHi m item a : Nat) : Int) = upperIdx m a (item.hi a) :=
  Int.toNat_of_nonneg (upperIdx_range m hm item hbox a ha).1

theorem getItem_region_block (f : Fld) (hf : FldWF f) (item : Region) (hbox : BoxIn f.mesh item)
    (g : Fld) (h : getItem f (.region item) = .ok g) :
    getRegion f.mesh item = .ok g.mesh ∧
    FldBlock g f (blockLo f.mesh item) (fun b => blockHi f.mesh item b - blockLo f.mesh item b + 1) := by
  obtain ⟨sm, _, _, hsm, _⟩ := (getItem_ok_iff f _ g).mp h
  have blk := (getRegion_inv f.mesh hf.1 item hbox sm hsm).1
  obtain ⟨r1, r2⟩ := getItem_block f hf (.region item) sm hsm blk.ndim blk.nlen _ _ blk.pos blk.axis g h
  exact ⟨r1 ▸ hsm, r1 ▸ blk, fun j hj => (r2 j hj).2⟩

/-- cropping a field to the region of one of its block sub-fields returns that sub-field -/
theorem FldBlock.crop {g' g : Fld} {off cnt : Nat → Nat} (hb : FldBlock g' g off cnt) (hg : FldWF g) (h : Fld)
    (hh : getItem g (.region g'.mesh.region) = .ok h) :
    h.mesh.region = g'.mesh.region ∧ h.mesh.n = g'.mesh.n ∧
    ∀ j, inRange h.mesh.n j = true → h.data.get j = g'.data.get j ∧ h.valid.get j = g'.valid.get j := by
  have hal := hb.mesh.aligned
  obtain ⟨_, bh⟩ := getItem_region_block g hg _ (boxIn_of_aligned g.mesh hg.1 _ _ _ hal) h hh
  refine (bh.congr fun b hb' => ?_).unique hb
  have := hb.mesh.pos b hb'
  rw [blockLo_aligned g.mesh hg.1 _ _ _ hal b hb', blockHi_aligned g.mesh hg.1 _ _ _ hal b hb']
  exact ⟨rfl, by omega⟩

/-! ## padding: the source, and every smaller padding, is a block of the padded field -/

/-- mesh level: the padding by `pw'` inside the padding by `pw` (no more cells on any side) -/
theorem padMesh_block (m : Mesh) (hm : m.Inv) (pw pw' : List PadW)
    (hL : ∀ b, b < m.ndim → 0 ≤ sumW m (·.lo) pw' b ∧ sumW m (·.lo) pw' b ≤ sumW m (·.lo) pw b)
    (hH : ∀ b, b < m.ndim → 0 ≤ sumW m (·.hi) pw' b ∧ sumW m (·.hi) pw' b ≤ sumW m (·.hi) pw b)
    (g g' : Mesh) (h : padMesh m pw = .ok g) (h' : padMesh m pw' = .ok g') :
    MeshBlock g' g (fun b => (sumW m (·.lo) pw b).toNat - (sumW m (·.lo) pw' b).toNat) g'.nAt := by
  have pg := padMesh_inv m hm pw
    (fun b hb => le_trans (hL b hb).1 (hL b hb).2) (fun b hb => le_trans (hH b hb).1 (hH b hb).2) g h
  have pg' := padMesh_inv m hm pw' (fun b hb => (hL b hb).1) (fun b hb => (hH b hb).1) g' h'
  have e1 := pg.ndim
  refine ⟨pg'.ndim.trans e1.symm, pg'.nlen.trans e1.symm, pg'.pmax.trans e1.symm, pg'.dims.trans pg.dims.symm,
    pg'.units.trans pg.units.symm, pg'.tol.trans pg.tol.symm, fun b hb => ?_, fun b hb => ?_⟩
  · rw [pg'.nAt b (e1 ▸ hb)]
    have := hm.nAt_pos (e1 ▸ hb)
    omega
  · rw [e1] at hb
    have blk := pg.source b hb
    have blk' := pg'.source b hb
    have hl := (hL b hb).2
    have hh := (hH b hb).2
    refine ⟨?_, rfl, blk'.cell.symm.trans blk.cell, by rw [pg.nAt b hb, pg'.nAt b hb]; omega⟩
    rw [pg'.lo b hb, pg.lo b hb, ← blk.cell, Nat.cast_sub (Int.toNat_le_toNat hl)]; ring

theorem padFld_block (f : Fld) (hf : FldWF f) (pw pw' : List PadW)
    (hnd : (pw.map (·.dim)).Nodup) (hnd' : (pw'.map (·.dim)).Nodup) (mode : PadMode) (g g' : Fld)
    (hg : padFld f pw mode = .ok g) (hg' : padFld f pw' mode = .ok g')
    (hle : ∀ b, b < f.mesh.ndim → sumW f.mesh (·.lo) pw' b ≤ sumW f.mesh (·.lo) pw b ∧
      sumW f.mesh (·.hi) pw' b ≤ sumW f.mesh (·.hi) pw b) :
    FldBlock g' g (fun b => (sumW f.mesh (·.lo) pw b).toNat - (sumW f.mesh (·.lo) pw' b).toNat)
      g'.mesh.nAt := by
  obtain ⟨p1, p2, _, _⟩ := padFld_inv f pw hnd mode g hg
  obtain ⟨p1', p2', _, _⟩ := padFld_inv f pw' hnd' mode g' hg'
  have blk := padMesh_block f.mesh hf.1 pw pw' (fun b hb => ⟨(p2' b).1, (hle b hb).1⟩)
    (fun b hb => ⟨(p2' b).2, (hle b hb).2⟩) g.mesh g'.mesh p1 p1'
  have e1 := (padMesh_inv f.mesh hf.1 pw (fun b _ => (p2 b).1) (fun b _ => (p2 b).2) g.mesh p1).ndim
  refine ⟨blk, fun j _ => ?_⟩
  obtain ⟨r2, r3⟩ := pad_get f hf pw hnd mode g hg
    (tab g.mesh.ndim fun b => (sumW f.mesh (·.lo) pw b).toNat - (sumW f.mesh (·.lo) pw' b).toNat + j.getD b 0)
  obtain ⟨r2', r3'⟩ := pad_get f hf pw' hnd' mode g' hg' j
  -- along every axis the two positions have the same offset from the source
  have hax : ∀ b, b < f.mesh.ndim →
      padSrc mode (f.mesh.n.getD b 0) (sumW f.mesh (·.lo) pw b).toNat
        ((tab g.mesh.ndim fun b => (sumW f.mesh (·.lo) pw b).toNat - (sumW f.mesh (·.lo) pw' b).toNat
          + j.getD b 0).getD b 0)
      = padSrc mode (f.mesh.n.getD b 0) (sumW f.mesh (·.lo) pw' b).toNat (j.getD b 0) := by
    intro b hb
    have hl := Int.toNat_le_toNat (hle b hb).1
    rw [getD_tab _ _ _ _ (e1 ▸ hb), Nat.add_comm _ (j.getD b 0), ← padSrc_shift mode _ (sumW f.mesh (·.lo) pw' b).toNat
      ((sumW f.mesh (·.lo) pw b).toNat - (sumW f.mesh (·.lo) pw' b).toNat), Nat.add_sub_cancel' hl]
  have hidx : padSrcIdx mode f.mesh.n (fun b => (sumW f.mesh (·.lo) pw b, sumW f.mesh (·.hi) pw b))
      (tab g.mesh.ndim fun b => (sumW f.mesh (·.lo) pw b).toNat - (sumW f.mesh (·.lo) pw' b).toNat + j.getD b 0)
      = padSrcIdx mode f.mesh.n (fun b => (sumW f.mesh (·.lo) pw' b, sumW f.mesh (·.hi) pw' b)) j := by
    unfold padSrcIdx
    rw [hf.1.n_length]
    simp only
    rw [allLt_congr _ _ _ fun b hb => congrArg Option.isSome (hax b hb),
      tab_congr _ _ _ fun b hb => congrArg (Option.getD · 0) (hax b hb)]
  rw [hidx] at r2 r3
  exact ⟨r2'.trans r2.symm, r3'.trans r3.symm⟩

theorem padFld_source_block (f : Fld) (hf : FldWF f) (pw : List PadW) (hnd : (pw.map (·.dim)).Nodup)
    (mode : PadMode) (g : Fld) (h : padFld f pw mode = .ok g) :
    FldBlock f g (fun b => (sumW f.mesh (·.lo) pw b).toNat) f.mesh.nAt := by
  obtain ⟨p1, p2, _, _⟩ := padFld_inv f pw hnd mode g h
  have pg := padMesh_inv f.mesh hf.1 pw (fun b _ => (p2 b).1) (fun b _ => (p2 b).2) g.mesh p1
  have e1 := pg.ndim
  refine ⟨⟨e1.symm, hf.1.n_length.trans e1.symm, hf.1.pmax_length.trans e1.symm, pg.dims.symm, pg.units.symm,
    pg.tol.symm, fun b hb => hf.1.nAt_pos (e1 ▸ hb), fun b hb => pg.source b (e1 ▸ hb)⟩, fun j hj => ?_⟩
  obtain ⟨d, v⟩ := pad_pointwise_axes f hf pw hnd mode g h
    (tab g.mesh.ndim fun b => (sumW f.mesh (·.lo) pw b).toNat + j.getD b 0) (fun b => j.getD b 0)
    (fun b hb => by
      rw [getD_tab _ _ _ _ (e1.symm ▸ hb), padSrc_inside mode _ _ _ (Nat.le_add_right _ _)
        (Nat.add_lt_add_left (show j.getD b 0 < f.mesh.nAt b from
          inRange_getD _ _ hj b (by rw [hf.1.n_length]; exact hb)) _),
        Nat.add_sub_cancel_left])
  rw [← eq_tab_self j _ (by rw [inRange_length _ _ hj, hf.1.n_length])] at d v
  exact ⟨d.symm, v.symm⟩

/-! ## range selections -/

theorem selMesh_range_block (m : Mesh) (hm : m.Inv) (dim : String) (x y : Rat) (g : Mesh)
    (h : selMesh m dim (.range x y) = .ok g) :
    ∃ a, m.region.dim2index dim = .ok a ∧ m.region.lo a ≤ min x y ∧ max x y ≤ m.region.hi a ∧
      m.indexAx a (min x y) ≤ m.indexAx a (max x y) ∧
      MeshBlock g m (rangeOff a (m.indexAx a (min x y)))
        (rangeCnt m a (m.indexAx a (min x y)) (m.indexAx a (max x y))) := by
  obtain ⟨a, hd, h1, h2, h⟩ := selMesh_range m hm dim x y g h
  have ha := hm.dim2index_lt hd
  have hk := C01.indexAx_mono m a (hm.nAt_pos ha) (hm.cellAt_pos ha) (le_trans (min_le_left x y) (le_max_left x y))
  have hk2 := C01.indexAx_lt m a (hm.nAt_pos ha) (max x y)
  obtain ⟨subs, _, hs⟩ := (selRangeMesh_iff m hm a ha _ _ hk hk2 g).mp h
  obtain ⟨g1, g2, _, _⟩ := setSubs_inv _ _ _ hs
  exact ⟨a, hd, h1, h2, hk, .of_blockOf (rangeCnt_fits m hm a _ _ hk hk2) g1 g2⟩

theorem selFld_range_block (f : Fld) (hf : f.mesh.Inv) (dim : String) (x y : Rat) (g : Fld)
    (h : selFld f dim (.range x y) = .ok (.field g)) :
    ∃ a, f.mesh.region.dim2index dim = .ok a ∧ f.mesh.region.lo a ≤ min x y ∧ max x y ≤ f.mesh.region.hi a ∧
      f.mesh.indexAx a (min x y) ≤ f.mesh.indexAx a (max x y) ∧
      selMesh f.mesh dim (.range x y) = .ok g.mesh ∧
      FldBlock g f (rangeOff a (f.mesh.indexAx a (min x y)))
        (rangeCnt f.mesh a (f.mesh.indexAx a (min x y)) (f.mesh.indexAx a (max x y))) := by
  obtain ⟨hm, a, hd, hv, hw⟩ := selFld_range f hf dim x y g h
  obtain ⟨a', hd', h1, h2, hk, blk⟩ := selMesh_range_block f.mesh hf dim x y g.mesh hm
  cases hd.symm.trans hd'
  refine ⟨a, hd, h1, h2, hk, hm, blk, fun j hj => ?_⟩
  -- the arrays handed to the constructor are the slices `k₁ : k₂ + 1` along axis `a`
  rw [tab_rangeOff j _ a _ (by rw [inRange_length _ _ hj, blk.nlen]) (hf.dim2index_lt hd), hv, hw]
  exact ⟨rfl, rfl⟩

/-! ## resampling -/

/-- source cell of target cell `j` when `src` is resampled to the counts of `tgt`: `⌊(2j+1)·n / 2n'⌋` per axis -/
def rsIdx (src tgt : Mesh) (j : List Nat) : List Nat :=
  tab src.ndim fun b => resampleIdx (src.nAt b) (tgt.nAt b) (j.getD b 0)

theorem resampleIdx_lt (n n' j : Nat) (hn : 0 < n) (hj : j < n') : resampleIdx n n' j < n := by
  unfold resampleIdx
  rw [Nat.div_lt_iff_lt_mul (by omega)]
  calc (2 * j + 1) * n < (2 * n') * n := Nat.mul_lt_mul_of_pos_right (by omega) hn
    _ = n * (2 * n') := Nat.mul_comm _ _

theorem regrid_point2index (src tgt : Mesh) (hs : src.Inv) (ht : tgt.Inv) (hr : tgt.region = src.region)
    (j : List Nat) (hj : inRange tgt.n j = true) : src.point2index (tgt.centre j) = .ok (rsIdx src tgt j) := by
  have hnd : tgt.ndim = src.ndim := by unfold Mesh.ndim; rw [hr]
  have hjb : ∀ b, b < src.ndim → j.getD b 0 < tgt.nAt b := fun b hb =>
    inRange_getD _ _ hj b (by rw [ht.n_length, hnd]; exact hb)
  rw [point2index_eq src _ (by rw [C01.centre_length, hnd]) fun b hb => by
    rw [C01.centre_getD tgt b j (hnd ▸ hb)]
    have := centre_bounds tgt b _ (hjb b hb) (ht.cellAt_pos (hnd ▸ hb))
    rwa [hr] at this]
  refine congrArg _ (tab_congr _ _ _ fun b hb => ?_)
  rw [C01.centre_getD tgt b j (hnd ▸ hb)]
  exact resample_index src tgt b (hs.nAt_pos hb) (ht.nAt_pos (hnd ▸ hb)) (by rw [hr]) (by rw [hr])
    (hs.lo_lt_hi hb) _ (hjb b hb)

/-- `Field.resample`: a well-formed field on `Mesh(region, n)` whose cell `j` shows source cell `rsIdx` (what
`resample_pointwise`, `resample_id`, `resample_via_refinement` of `Props/C07` are read off) -/
theorem resample_shows (f : Fld) (hf : FldWF f) (n : List Int) (g : Fld) (h : resample f n = .ok g) :
    FldWF g ∧ g.mesh = regrid f.mesh (n.map Int.toNat) ∧ Shows g f (rsIdx f.mesh g.mesh) := by
  obtain ⟨h1, h2, _, _, rfl⟩ := (resample_ok_iff' f n g).mp h
  have ht := regrid_inv hf.1 (n := n.map Int.toNat) (by rw [List.length_map]; exact h1) (fun k hk => by
    obtain ⟨z, hz, rfl⟩ := List.mem_map.mp hk
    have := h2 z hz; omega)
  have hjb : ∀ j, inRange (regrid f.mesh (n.map Int.toNat)).n j = true → ∀ b, b < f.mesh.ndim →
      j.getD b 0 < (regrid f.mesh (n.map Int.toNat)).nAt b := fun j hj b hb =>
    inRange_getD _ _ hj b (by rw [ht.n_length]; exact hb)
  refine ⟨⟨ht, rfl, rfl⟩, rfl, fun j hj => ⟨?_, ?_, ?_⟩⟩
  · have := DFV.inRange_tab f.mesh.n (fun b => resampleIdx (f.mesh.nAt b) ((regrid f.mesh (n.map Int.toNat)).nAt b) (j.getD b 0))
      fun b hb => resampleIdx_lt _ _ _ (hf.1.nAt_pos (hf.1.n_length ▸ hb)) (hjb j hj b (hf.1.n_length ▸ hb))
    rwa [hf.1.n_length] at this
  · exact resampleNDA_get _ _ hf.1 ht rfl _ j (hjb j hj)
  · exact resampleNDA_get _ _ hf.1 ht rfl _ j (hjb j hj)

/-- refining first does not change a later resampling: `⌊⌊(2j+1)·rn / 2q⌋ / r⌋ = ⌊(2j+1)·n / 2q⌋` on every axis -/
theorem rsIdx_refine (f g k : Mesh) (r : Nat → Nat) (hnd : g.ndim = f.ndim)
    (hr : ∀ b, b < f.ndim → 0 < r b ∧ 0 < f.nAt b ∧ g.nAt b = r b * f.nAt b) (j : List Nat) :
    rsIdx f g (rsIdx g k j) = rsIdx f k j := by
  refine tab_congr _ _ _ fun b hb => ?_
  show resampleIdx _ _ ((tab g.ndim _).getD b 0) = _
  rw [getD_tab _ _ _ _ (hnd ▸ hb), (hr b hb).2.2, resampleIdx, resampleIdx, resampleIdx,
    refine_div _ _ _ (hr b hb).1 (hr b hb).2.1]
  exact via_div _ _ _ _ (hr b hb).1

end DFV.C07
