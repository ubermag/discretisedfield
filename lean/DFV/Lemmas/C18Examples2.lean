import DFV.Lemmas.C18Examples
import DFV.Model.C18Ext
/-! Concrete instances with boundary conditions, units and non-lattice rotations for the `example`s of
`Props/C18.lean`. -/
namespace DFV.C18
open DFV

/-- the vector example with periodic boundary conditions in x and y, a subregion, a validity mask
with holes (the slab `i = 1` invalid) and a unit -/
def exP : Fld :=
  { exV with mesh := { exV.mesh with bc := "xy", subs := [("a", exReg)] },
             valid := ⟨[4, 4, 3], fun idx => decide (idx.getD 0 0 ≠ 1)⟩, unit := some "A/m" }

/-- a 5-12-13 rotation about x after a 3-4-5 rotation about z: a rational rotation that is neither
a lattice rotation nor about a coordinate axis -/
def exPyth : M3 := (RaxisCS 0 (5/13) (12/13)).mul (RaxisCS 2 (3/5) (4/5))

/-- twice the scalar example field (same mesh) -/
def exDouble : Fld := { exF with data := ⟨[4, 4, 3], fun idx => (exF.data.get idx).map (2 * ·)⟩ }

/-- the example in nanometres, far from the origin, values in units of 8e5 -/
def exNano : Fld := affFld (1/1000000000) (fun a => 1000 + a) 800000 exV

end DFV.C18
