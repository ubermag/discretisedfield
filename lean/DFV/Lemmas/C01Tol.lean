import DFV.Lemmas.C01
/-! The tolerance band of `Region.__contains__` as an explicit
inequality, acceptance/refusal of `point2index` / `index2point` as equivalences, `clip` after
`floor` = `floor` after clamping the point into the closed edge, and the round trips at list level. -/
namespace DFV.C01
open DFV DFV.Mesh

/-- the comparison tolerance of `Region.__contains__` at coordinate `x`:
`atol + rtol·|x|` with `atol = min(edges)·tolerance_factor`, `rtol = tolerance_factor` -/
def band (r : Region) (x : Rat) : Rat := r.atol + r.tol * |x|

/-- `p` is in the region up to the comparison tolerance (the exact expression of the code) -/
def TolInside (r : Region) (p : List Rat) : Prop :=
  p.length = r.ndim ∧ ∀ a, a < r.ndim →
    r.lo a - p.getD a 0 ≤ band r (p.getD a 0) ∧ p.getD a 0 - r.hi a ≤ band r (p.getD a 0)

/-- a coordinate moved onto the closed edge `[lo, hi]` -/
def clampAx (r : Region) (a : Nat) (x : Rat) : Rat := max (r.lo a) (min (r.hi a) x)

def clampPt (r : Region) (p : List Rat) : List Rat := tab r.ndim fun a => clampAx r a (p.getD a 0)

theorem atol_nonneg (r : Region) (hr : r.Inv) (ht : 0 ≤ r.tol) : 0 ≤ r.atol := by
  unfold Region.atol
  apply mul_nonneg _ ht
  apply listMin_nonneg
  intro y hy
  obtain ⟨a, ha, rfl⟩ := (mem_tab _ _ _).mp hy
  exact hr.edge_pos ha

theorem band_nonneg (r : Region) (hr : r.Inv) (ht : 0 ≤ r.tol) (x : Rat) : 0 ≤ band r x := by
  unfold band
  have := atol_nonneg r hr ht
  have := mul_nonneg ht (abs_nonneg x)
  linarith

theorem isclose_self (x rtol atol : Rat) (hr : 0 ≤ rtol) (ha : 0 ≤ atol) : Region.isclose x x rtol atol = true := by
  unfold Region.isclose
  rw [sub_self, absR_zero, decide_eq_true_iff]
  exact add_nonneg ha (mul_nonneg hr (absR_nonneg x))

/-- the two-step test `l ≤ x or isclose(l, x)` is one inequality -/
theorem le_or_abs_le_iff {l x B : Rat} (hB : 0 ≤ B) : (l ≤ x ∨ |l - x| ≤ B) ↔ l - x ≤ B := by
  constructor
  · rintro (h | h)
    · linarith
    · exact (le_abs_self _).trans h
  · intro h
    rcases le_or_gt l x with h1 | h1
    · exact Or.inl h1
    · exact Or.inr (by rwa [abs_of_pos (sub_pos.mpr h1)])

/-- one axis of `point in region`, as the inequality the code evaluates -/
theorem containsAx_iff (r : Region) (a : Nat) (x : Rat) (hb : 0 ≤ band r x) :
    r.containsAx a x = true ↔ r.lo a - x ≤ band r x ∧ x - r.hi a ≤ band r x := by
  unfold Region.containsAx Region.isclose
  simp only [Bool.and_eq_true, Bool.or_eq_true, decide_eq_true_eq, absR_eq_abs]
  rw [← le_or_abs_le_iff hb, ← neg_sub x (r.hi a), ← le_or_abs_le_iff (l := x) hb, abs_sub_comm x, neg_sub]
  rfl

theorem containsPt_iff (r : Region) (hr : r.Inv) (ht : 0 ≤ r.tol) (p : List Rat) :
    r.containsPt p = true ↔ TolInside r p := by
  rw [containsPt_eq_true_iff]
  exact and_congr_right fun _ => forall₂_congr fun a _ => containsAx_iff r a _ (band_nonneg r hr ht _)

theorem tolInside_of_exact (r : Region) (hr : r.Inv) (ht : 0 ≤ r.tol) (p : List Rat)
    (h : r.containsExact p) : TolInside r p := by
  refine ⟨h.1, fun a ha => ?_⟩
  have hb := band_nonneg r hr ht (p.getD a 0)
  have := h.2 a ha
  constructor <;> linarith

section Outside
variable (m : Mesh) (a : Nat) (x : Rat) (hn : 0 < m.nAt a) (hr : m.region.lo a < m.region.hi a)
include hn hr

theorem indexAx_of_le (hx : x ≤ m.region.lo a) : m.indexAx a x = 0 := by
  have hc := cellAt_pos m a hn hr
  rw [indexAx_eq_iff m a hc hn]
  exact ⟨Or.inl rfl, Or.inr (by push_cast; linarith only [hx, hc])⟩

theorem indexAx_of_ge (hx : m.region.hi a ≤ x) : m.indexAx a x = m.nAt a - 1 := by
  have hc := cellAt_pos m a hn hr
  rw [indexAx_eq_iff m a hc (by omega)]
  refine ⟨Or.inr ?_, Or.inl (by omega)⟩
  rw [Nat.cast_pred hn]
  linarith only [hx, hc, hi_eq m a hn]

/-- `clip(floor(·))` of the code = `floor` of the point moved onto the closed edge: below the
region the index is 0, above it `n − 1`, inside nothing changes. -/
theorem indexAx_clamp : m.indexAx a x = m.indexAx a (clampAx m.region a x) := by
  unfold clampAx
  by_cases h1 : x < m.region.lo a
  · rw [min_eq_right (by linarith), max_eq_left h1.le, indexAx_of_le m a x hn hr h1.le,
      indexAx_of_le m a _ hn hr le_rfl]
  · by_cases h2 : m.region.hi a < x
    · rw [min_eq_left h2.le, max_eq_right hr.le, indexAx_of_ge m a x hn hr h2.le,
        indexAx_of_ge m a _ hn hr le_rfl]
    · rw [min_eq_right (not_lt.mp h2), max_eq_right (not_lt.mp h1)]

end Outside

theorem clampAx_mem (r : Region) (a : Nat) (x : Rat) (hr : r.lo a < r.hi a) :
    r.lo a ≤ clampAx r a x ∧ clampAx r a x ≤ r.hi a := by
  unfold clampAx
  exact ⟨le_max_left _ _, max_le hr.le (min_le_left _ _)⟩

theorem clampAx_near (r : Region) (a : Nat) (x : Rat) (hr : r.lo a < r.hi a)
    (h : r.lo a - x ≤ band r x ∧ x - r.hi a ≤ band r x) (hb : 0 ≤ band r x) :
    |clampAx r a x - x| ≤ band r x := by
  unfold clampAx
  by_cases h1 : x < r.lo a
  · rw [min_eq_right (by linarith), max_eq_left h1.le, abs_of_pos (by linarith)]; exact h.1
  · by_cases h2 : r.hi a < x
    · rw [min_eq_left h2.le, max_eq_right hr.le, abs_of_neg (by linarith)]; linarith
    · rw [min_eq_right (not_lt.mp h2), max_eq_right (not_lt.mp h1)]; simpa using hb

theorem clampPt_exact (r : Region) (hr : r.Inv) (p : List Rat) : r.containsExact (clampPt r p) := by
  refine ⟨by simp [clampPt, Region.ndim], fun a ha => ?_⟩
  unfold clampPt
  rw [getD_tab _ _ _ _ ha]
  exact clampAx_mem r a _ (hr.lo_lt_hi ha)

/-- acceptance of `index2point`, from the index alone (the statement of `index2point_ok_iff` of `Props/C01.lean`; the primed
name is the one other families use, so as not to import a `Props` file — likewise `point2index_ok_iff'` below) -/
theorem index2point_ok_iff' (m : Mesh) (idx : List Int) (p : List Rat) :
    m.index2point idx = .ok p ↔
      idx.length = m.ndim ∧ (∀ a, a < m.ndim → 0 ≤ idx.getD a 0 ∧ idx.getD a 0 < (m.nAt a : Int)) ∧
      p = tab m.ndim fun a => m.centreAx a (idx.getD a 0) := by
  unfold index2point
  simp only [guard_ok_iff, not_not, Bool.not_eq_eq_eq_not, Bool.not_true, Bool.not_eq_false, allLt_iff,
    Bool.and_eq_true, decide_eq_true_eq, Except.ok.injEq, eq_comm (a := p)]

theorem index2point_cases (m : Mesh) (idx : List Int) :
    m.index2point idx = .error .index ∨ ∃ p, m.index2point idx = .ok p := by
  unfold index2point
  split
  · exact Or.inl rfl
  · split
    · exact Or.inl rfl
    · exact Or.inr ⟨_, rfl⟩

theorem point2index_cases (m : Mesh) (p : List Rat) :
    m.point2index p = .error .value ∨ ∃ i, m.point2index p = .ok i := by
  unfold point2index
  split
  · exact Or.inl rfl
  · split
    · exact Or.inl rfl
    · exact Or.inr ⟨_, rfl⟩

theorem point2index_ok_iff_containsPt (m : Mesh) (p : List Rat) (i : List Nat) :
    m.point2index p = .ok i ↔
      p.length = m.ndim ∧ m.region.containsPt p = true ∧ i = tab m.ndim fun a => m.indexAx a (p.getD a 0) := by
  unfold point2index
  simp only [guard_ok_iff, not_not, Bool.not_eq_eq_eq_not, Bool.not_true, Bool.not_eq_false,
    Except.ok.injEq, eq_comm (a := i)]

theorem point2index_ok_iff' (m : Mesh) (hm : m.Inv) (ht : 0 ≤ m.region.tol) (p : List Rat) (i : List Nat) :
    m.point2index p = .ok i ↔
      TolInside m.region p ∧ i = tab m.ndim fun a => m.indexAx a (p.getD a 0) := by
  rw [point2index_ok_iff_containsPt, containsPt_iff m.region hm.1 ht]
  exact ⟨fun h => h.2, fun h => ⟨h.1.1, h⟩⟩

theorem index2point_error_iff (m : Mesh) (idx : List Int) :
    m.index2point idx = .error .index ↔
      (idx.length ≠ m.ndim ∨ ∃ a, a < m.ndim ∧ (idx.getD a 0 < 0 ∨ (m.nAt a : Int) ≤ idx.getD a 0)) := by
  rw [error_iff_not (index2point_cases m idx) fun p => (index2point_ok_iff' m idx p).trans and_assoc.symm]
  simp only [not_and_or, not_forall, not_le, not_lt, exists_prop, ne_eq]

theorem point2index_error_iff (m : Mesh) (hm : m.Inv) (ht : 0 ≤ m.region.tol) (p : List Rat) :
    m.point2index p = .error .value ↔
      (p.length ≠ m.ndim ∨ ∃ a, a < m.ndim ∧
        (band m.region (p.getD a 0) < m.region.lo a - p.getD a 0 ∨
         band m.region (p.getD a 0) < p.getD a 0 - m.region.hi a)) := by
  rw [error_iff_not (point2index_cases m p) (point2index_ok_iff' m hm ht p)]
  simp only [TolInside, not_and_or, not_forall, not_le, exists_prop, ne_eq]
  rfl

theorem point2index_of_exact (m : Mesh) (p : List Rat) (h : m.region.containsExact p) :
    m.point2index p = .ok (tab m.ndim fun a => m.indexAx a (p.getD a 0)) :=
  (point2index_ok_iff_containsPt m p _).mpr ⟨h.1, containsPt_of_exact _ _ h, rfl⟩

theorem point2index_centres (m : Mesh) (hm : m.Inv) (k : Nat → Nat) (hk : ∀ a, a < m.ndim → k a < m.nAt a) :
    m.point2index (tab m.ndim fun a => m.centreAx a (k a : Nat)) = .ok (tab m.ndim k) := by
  have hex : m.region.containsExact (tab m.ndim fun a => m.centreAx a (k a : Nat)) :=
    ⟨tab_length _ _, fun a (ha : a < m.ndim) => by
      rw [getD_tab _ _ _ _ ha]
      obtain ⟨l, u⟩ := centreAx_mem m a _ (hk a ha) (hm.cellAt_pos ha)
      exact ⟨l.le, u.le⟩⟩
  rw [point2index_of_exact m _ hex]
  exact congrArg _ (tab_congr _ _ _ fun a ha => by
    rw [getD_tab _ _ _ _ ha, indexAx_centreAx m a _ (hk a ha) (hm.cellAt_pos ha)])

theorem point2index_centre (m : Mesh) (hm : m.Inv) (i : List Nat) (hi : inRange m.n i = true) :
    m.point2index (m.centre i) = .ok i := by
  rw [Mesh.centre, point2index_centres m hm _ fun a ha => hm.getD_lt hi ha]
  exact congrArg _ (eq_tab_of_getD i m.ndim _ 0 (hm.length_eq hi) fun _ _ => rfl).symm

theorem index2point_ofNat (m : Mesh) (hm : m.Inv) (i : List Nat) (hi : inRange m.n i = true) :
    m.index2point (i.map Int.ofNat) = .ok (m.centre i) := by
  obtain ⟨h1, h2⟩ := hm.natIndex_ok hi
  rw [index2point_ok_iff']
  exact ⟨h1, h2, tab_congr _ _ _ fun a _ => by rw [getD_map_ofNat]⟩

end DFV.C01
