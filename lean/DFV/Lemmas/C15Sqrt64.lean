import Mathlib.Data.Nat.Log
import Mathlib.Data.Nat.Sqrt
import Mathlib.Tactic.Positivity
import Mathlib.Data.Rat.Lemmas
import DFV.Lemmas.C15Fl64
/-!
The executable correctly rounded root `sqrt64` (what the driver runs in the bit-exact
comparison with `np.sqrt`): its square is within `2u + 3u²` (`u = 2^-53`) of the radicand,
for every positive rational — a purely rational statement of "relative error at most `u`".
-/
namespace DFV.C15
open DFV

/-- rounding of the integer part of a root to 53 bits: the result `n` is within half a unit
`H` of the root, in the form `n - H ≤ s` and `s + 1 ≤ n + H` (or the root is exactly
`s = n + H`), and the unit is small: `2^53·H ≤ s` -/
theorem sqrt64Round_spec (s : Nat) (exact : Bool) (hs : 2 ^ 53 ≤ s) :
    ∃ H : Nat, 0 < H ∧ H ≤ sqrt64Round s exact ∧ sqrt64Round s exact ≤ s + H ∧
      (s + 1 ≤ sqrt64Round s exact + H ∨ (exact = true ∧ sqrt64Round s exact + H = s)) ∧
      2 ^ 53 * H ≤ s := by
  have hs0 : s ≠ 0 := by
    intro e; rw [e] at hs; exact absurd hs (by norm_num)
  have hL : 53 ≤ Nat.log2 s := (Nat.le_log2 hs0).mpr hs
  have hpow : 2 ^ Nat.log2 s ≤ s := Nat.log2_self_le hs0
  refine ⟨2 ^ (Nat.log2 s - 53), Nat.pos_of_ne_zero (by positivity), ?_⟩
  have hU : 2 ^ (Nat.log2 s + 1 - 53) = 2 * 2 ^ (Nat.log2 s - 53) := by
    have : Nat.log2 s + 1 - 53 = (Nat.log2 s - 53) + 1 := by omega
    rw [this, pow_succ]; ring
  have hsplit : 2 ^ Nat.log2 s = 2 ^ 53 * 2 ^ (Nat.log2 s - 53) := by
    rw [← pow_add]; congr 1; omega
  have hHs : 2 ^ 53 * 2 ^ (Nat.log2 s - 53) ≤ s := by rw [← hsplit]; exact hpow
  generalize 2 ^ (Nat.log2 s - 53) = H at *
  have hHpos : 0 < H := by
    rcases Nat.eq_zero_or_pos H with h | h
    · subst h
      rw [Nat.mul_zero] at hsplit
      exact absurd hsplit (by positivity)
    · exact h
  have hrem : s % (2 * H) < 2 * H := Nat.mod_lt _ (by omega)
  have hreml : s % (2 * H) ≤ s := Nat.mod_le _ _
  have hbig : 2 * H ≤ s := by
    have : 2 * H ≤ 2 ^ 53 * H := Nat.mul_le_mul_right H (by norm_num)
    omega
  unfold sqrt64Round
  rw [hU]
  generalize s % (2 * H) = rem at *
  generalize s / (2 * H) % 2 = par
  -- each of the three bounds on the four branches of `sqrt64Round`: remainder below half a unit
  -- `2H` (down), above it (up), a tie with `exact` and even quotient (down), any other tie (up)
  refine ⟨?_, ?_, ?_, hHs⟩
  · split
    · omega
    · split
      · omega
      · split <;> omega
  · split
    · omega
    · split
      · omega
      · split <;> omega
  · split
    · left; omega
    · split
      · left; omega
      · rename_i h1 h2
        split
        · rename_i h3
          right
          simp only [Bool.and_eq_true, decide_eq_true_eq] at h3
          exact ⟨h3.1, by omega⟩
        · left; omega

theorem scale_lower (x : Rat) (hx : 0 < x) : (2 : Rat) ^ 109 ≤ x * (4 : Rat) ^ sqrt64Scale x := by
  have hnum : (1 : Rat) ≤ (x.num : Rat) := by
    have : 0 < x.num := Rat.num_pos.mpr hx
    exact_mod_cast this
  have hden : (0 : Rat) < (x.den : Rat) := by exact_mod_cast x.den_pos
  have hdlt : (x.den : Rat) < (2 : Rat) ^ (Nat.log2 x.den + 1) := by
    exact_mod_cast (Nat.lt_log2_self (n := x.den))
  have hxeq : x = (x.num : Rat) / (x.den : Rat) := (Rat.num_div_den x).symm
  have h4 : (4 : Rat) ^ sqrt64Scale x = (2 : Rat) ^ 109 * (2 : Rat) ^ (Nat.log2 x.den + 1) * 2 ^ Nat.log2 x.den := by
    unfold sqrt64Scale
    have : (4 : Rat) = 2 ^ 2 := by norm_num
    rw [this, ← pow_mul, ← pow_add, ← pow_add]
    congr 1; omega
  rw [h4]
  have hp : (1 : Rat) ≤ (2 : Rat) ^ Nat.log2 x.den := one_le_pow₀ (by norm_num)
  have hx1 : 1 / (x.den : Rat) ≤ x := by
    rw [hxeq, Rat.num_div_den]
    rw [div_le_iff₀ hden]
    calc (1 : Rat) ≤ (x.num : Rat) := hnum
      _ = x * x.den := by rw [mul_comm]; exact (Rat.den_mul_eq_num x).symm ▸ rfl
  have hA : (1 : Rat) ≤ x * (2 : Rat) ^ (Nat.log2 x.den + 1) := by
    have : 1 / (x.den : Rat) * (x.den : Rat) = 1 := by field_simp
    have h1 : 1 / (x.den : Rat) * (x.den : Rat) ≤ x * (2 : Rat) ^ (Nat.log2 x.den + 1) :=
      mul_le_mul hx1 hdlt.le hden.le hx.le
    linarith
  have h109 : (0 : Rat) < (2 : Rat) ^ 109 := by positivity
  calc (2 : Rat) ^ 109 = 2 ^ 109 * 1 * 1 := by ring
    _ ≤ 2 ^ 109 * (x * 2 ^ (Nat.log2 x.den + 1)) * 2 ^ Nat.log2 x.den := by
        apply mul_le_mul _ hp (by norm_num) (by positivity)
        exact mul_le_mul_of_nonneg_left hA h109.le
    _ = x * (2 ^ 109 * 2 ^ (Nat.log2 x.den + 1) * 2 ^ Nat.log2 x.den) := by ring

/-- integer part: `s² ≤ y < (s+1)²` for `s = Nat.sqrt ⌊y⌋`, and `s ≥ 2^54` when `y ≥ 2^109` -/
theorem sqrtInt_bounds (y : Rat) (hy : (2 : Rat) ^ 109 ≤ y) :
    ((Nat.sqrt y.floor.toNat : Nat) : Rat) * (Nat.sqrt y.floor.toNat : Nat) ≤ y ∧
    y < (((Nat.sqrt y.floor.toNat : Nat) : Rat) + 1) * (((Nat.sqrt y.floor.toNat : Nat) : Rat) + 1) ∧
    2 ^ 54 ≤ Nat.sqrt y.floor.toNat := by
  have hy0 : 0 ≤ y := le_trans (by positivity) hy
  have hf0 : 0 ≤ y.floor := rat_floor_nonneg y hy0
  have hN : ((y.floor.toNat : Nat) : Rat) = (y.floor : Rat) := by
    have : ((y.floor.toNat : Nat) : Int) = y.floor := Int.toNat_of_nonneg hf0
    exact_mod_cast congrArg (fun z : Int => (z : Rat)) this
  have h1 := rat_floor_le y
  have h2 := rat_lt_floor_add_one y
  set N := y.floor.toNat with hNdef
  have hs1 : Nat.sqrt N * Nat.sqrt N ≤ N := by have := Nat.sqrt_le' N; rwa [pow_two] at this
  have hs2 : N < (Nat.sqrt N + 1) * (Nat.sqrt N + 1) := by
    have := Nat.lt_succ_sqrt' N; rwa [pow_two] at this
  refine ⟨?_, ?_, ?_⟩
  · have : ((Nat.sqrt N * Nat.sqrt N : Nat) : Rat) ≤ (N : Rat) := by exact_mod_cast hs1
    push_cast at this
    linarith
  · have : ((N : Nat) : Rat) + 1 ≤ (((Nat.sqrt N + 1) * (Nat.sqrt N + 1) : Nat) : Rat) := by
      exact_mod_cast hs2
    push_cast at this
    linarith
  · apply Nat.le_sqrt.mpr
    have : ((2 ^ 109 : Nat) : Int) ≤ y.floor := by
      apply rat_le_floor
      push_cast; exact hy
    have : (2 ^ 109 : Nat) ≤ N := by omega
    calc 2 ^ 54 * 2 ^ 54 ≤ 2 ^ 109 := by norm_num
      _ ≤ N := this

/-- the window around a rounded integer root, about variables: `s² ≤ y < (s+1)²`, `n` within the
half-unit `H` of `s` (or `s = n + H` exactly and `y = s²`), `2^53·H ≤ s`, and `x = y/P²`: with
`r = n/P`, `h = H/P`, `b = 2^53·h` one has `b² ≤ x` and `(r − h)² ≤ x ≤ (r + h)²` -/
theorem root_window {x y P : Rat} {s n H : Nat} (hP : 0 < P) (hxy : x = y / (P * P))
    (hs1 : (s : Rat) * s ≤ y) (hs2 : y < ((s : Rat) + 1) * ((s : Rat) + 1)) (hHn : H ≤ n)
    (hnH : n ≤ s + H) (hup : s + 1 ≤ n + H ∨ (((s * s : Nat) : Rat) = y ∧ n + H = s))
    (hHs : 2 ^ 53 * H ≤ s) :
    ∃ h b : Rat, 0 ≤ h ∧ h ≤ (n : Rat) / P ∧ h = 1 / 9007199254740992 * b ∧ 0 ≤ b ∧ b * b ≤ x ∧
      ((n : Rat) / P - h) * ((n : Rat) / P - h) ≤ x ∧ x ≤ ((n : Rat) / P + h) * ((n : Rat) / P + h) := by
  have hPP : 0 < P * P := mul_pos hP hP
  refine ⟨(H : Rat) / P, ((2 ^ 53 * H : Nat) : Rat) / P, by positivity, ?_, ?_, by positivity, ?_, ?_, ?_⟩
  · exact div_le_div_of_nonneg_right (by exact_mod_cast hHn) hP.le
  · push_cast; field_simp
  · have hbs : ((2 ^ 53 * H : Nat) : Rat) ≤ (s : Rat) := by exact_mod_cast hHs
    rw [div_mul_div_comm, hxy]
    exact div_le_div_of_nonneg_right
      (le_trans (mul_le_mul hbs hbs (by positivity) (by positivity)) hs1) hPP.le
  · have h1 : (0 : Rat) ≤ (n : Rat) - H := sub_nonneg.mpr (by exact_mod_cast hHn)
    have h2 : (n : Rat) - H ≤ (s : Rat) := by
      have : (n : Rat) ≤ (s : Rat) + H := by exact_mod_cast hnH
      linarith
    rw [← sub_div, div_mul_div_comm, hxy]
    exact div_le_div_of_nonneg_right (le_trans (mul_le_mul h2 h2 h1 (by positivity)) hs1) hPP.le
  · rw [← add_div, div_mul_div_comm, hxy]
    refine div_le_div_of_nonneg_right ?_ hPP.le
    rcases hup with hup | ⟨hex, hup⟩
    · have h1 : (s : Rat) + 1 ≤ (n : Rat) + H := by exact_mod_cast hup
      exact le_trans hs2.le (mul_le_mul h1 h1 (by positivity) (by positivity))
    · have h1 : (n : Rat) + H = (s : Rat) := by exact_mod_cast hup
      rw [h1, ← hex]; push_cast; exact le_rfl

/-- **the root's core contract**, rationally: with `r = sqrt64 x` there are a half-unit `h` and
a lower bound `b` of the root with `h = 2^-53·b`, `b² ≤ x` and `(r − h)² ≤ x ≤ (r + h)²` -/
theorem sqrt64_core (x : Rat) (hx : 0 < x) :
    ∃ h b : Rat, 0 ≤ h ∧ h ≤ sqrt64 x ∧ h = 1 / 9007199254740992 * b ∧ 0 ≤ b ∧ b * b ≤ x ∧
      (sqrt64 x - h) * (sqrt64 x - h) ≤ x ∧ x ≤ (sqrt64 x + h) * (sqrt64 x + h) := by
  obtain ⟨hs1, hs2, hs3⟩ := sqrtInt_bounds _ (scale_lower x hx)
  have hsI : sqrt64Int x = Nat.sqrt (x * (4 : Rat) ^ sqrt64Scale x).floor.toNat := rfl
  rw [← hsI] at hs1 hs2 hs3
  obtain ⟨H, _, hHn, hnH, hup, hHs⟩ := sqrt64Round_spec (sqrt64Int x)
    (decide (((sqrt64Int x * sqrt64Int x : Nat) : Rat) = x * (4 : Rat) ^ sqrt64Scale x))
    (le_trans (by norm_num) hs3)
  have hxy : x = x * (4 : Rat) ^ sqrt64Scale x /
      ((2 : Rat) ^ sqrt64Scale x * (2 : Rat) ^ sqrt64Scale x) := by
    rw [← mul_pow]; norm_num
  unfold sqrt64
  rw [if_neg (not_le.mpr hx)]
  exact root_window (by positivity) hxy hs1 hs2 hHn hnH
    (hup.imp_right fun ⟨hex, e⟩ => ⟨of_decide_eq_true hex, e⟩) hHs

/-- **`sqrt64` has relative error at most `u = 2^-53`**, stated on squares: `r ≥ 0` and
`|r² − x| ≤ (2u + 3u²)·x` -/
theorem sqrt64_sq_err (x : Rat) (hx : 0 < x) :
    0 ≤ sqrt64 x ∧
    |sqrt64 x * sqrt64 x - x| ≤
      (2 * (1 / 9007199254740992) + 3 * (1 / 9007199254740992 * (1 / 9007199254740992))) * x := by
  obtain ⟨h, b, hh0, hhr, hhb, hb0, hbb, hlo, hup⟩ := sqrt64_core x hx
  set r := sqrt64 x with hr
  set u : Rat := 1 / 9007199254740992 with hu
  have hu0 : 0 ≤ u := by rw [hu]; norm_num
  have ha0 : 0 ≤ r - h := by linarith
  have hh2 : h * h ≤ u * u * x := by
    have := mul_le_mul_of_nonneg_left hbb (mul_nonneg hu0 hu0)
    rw [hhb]; linarith
  have hha : h * (r - h) ≤ u * x := by
    refine (mul_self_le_mul_self_iff (mul_nonneg hh0 ha0) (by positivity)).mpr ?_
    have := mul_le_mul hh2 hlo (mul_self_nonneg _) (by positivity)
    linarith
  have huux := mul_nonneg (mul_nonneg hu0 hu0) hx.le
  -- `r² − x ≤ r² − (r−h)² = 2h(r−h) + h²` and `x − r² ≤ (r+h)² − r² = 2h(r−h) + 3h²`
  refine ⟨by linarith, ?_⟩
  rw [abs_le]
  constructor <;> linarith

theorem sqrt64_nonpos (x : Rat) (hx : x ≤ 0) : sqrt64 x = 0 := by
  unfold sqrt64; rw [if_pos hx]

end DFV.C15
