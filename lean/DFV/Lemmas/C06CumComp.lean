import DFV.Lemmas.C06Fld
/-! Cumulative integrals composed with further `integrate` calls (C06): the cumulative integral is
a field on the same mesh, so it can be integrated again - along the same direction (a weighted
sum: every cell counts with its distance to the upper face), along another direction (the two
operations commute), or cumulatively along another direction (again commuting). -/
namespace DFV.C06
open DFV

/-! ## sums -/

/-- Σ_{j<n} (Σ_{l<j} x_l + x_j/2) = Σ_{l<n} (n - l - 1/2)·x_l : summing the half-cell prefix
sums weighs every cell with the number of cells from its centre to the end -/
theorem sumTo_cum_weights (n : Nat) (x : Nat → Rat) :
    sumTo n (fun j => sumTo j x + x j / 2) = sumTo n (fun l => ((n : Rat) - (l : Rat) - 1/2) * x l) := by
  induction n with
  | zero => rfl
  | succ n ih =>
    simp only [sumTo]
    rw [ih]
    have : sumTo n (fun l => (((n + 1 : Nat) : Rat) - (l : Rat) - 1/2) * x l)
        = sumTo n (fun l => ((n : Rat) - (l : Rat) - 1/2) * x l) + sumTo n x := by
      rw [← sumTo_add]
      apply sumTo_congr
      intro l _
      push_cast; ring
    rw [this]
    push_cast; ring

/-- exchanging a prefix sum along one axis with a full sum along another -/
theorem cum_comm_alg (a b : Rat) (P N : Nat) (X : Nat → Nat → Rat) (y : Nat → Rat) :
    b * sumTo N (fun j => a * (sumTo P (fun l => X l j) + y j / 2))
      = a * (sumTo P (fun l => b * sumTo N (fun j => X l j)) + b * sumTo N y / 2) := by
  have e1 : sumTo N (fun j => a * (sumTo P (fun l => X l j) + y j / 2))
      = a * (sumTo N (fun j => sumTo P (fun l => X l j)) + sumTo N y / 2) := by
    rw [sumTo_mul_left, sumTo_add, sumTo_div]
  have e2 : sumTo P (fun l => b * sumTo N (fun j => X l j)) = b * sumTo N (fun j => sumTo P (fun l => X l j)) := by
    rw [sumTo_mul_left, sumTo_comm]
  rw [e1, e2]; ring

/-! ## multi-indices with one entry inserted -/

theorem getD_insertAt_skip (i : List Nat) (ax p j : Nat) (h : ax ≤ i.length) :
    (insertAt i ax j).getD (skip ax p) 0 = i.getD p 0 := by
  rw [← getD_removeAt_skip, removeAt_insertAt i ax j h]

theorem setAt_insertAt_skip (i : List Nat) (ax p j l : Nat) (h : ax ≤ i.length) :
    setAt (insertAt i ax j) (skip ax p) l = insertAt (setAt i p l) ax j := by
  induction i generalizing ax p with
  | nil =>
    have : ax = 0 := by simpa using h
    subst this
    simp [skip, setAt, insertAt]
  | cons x xs ih =>
    cases ax with
    | zero =>
      have : skip 0 p = p + 1 := by simp [skip]
      rw [this]
      simp [insertAt, setAt]
    | succ a =>
      cases p with
      | zero =>
        have : skip (a + 1) 0 = 0 := by simp [skip]
        rw [this]
        simp only [insertAt_cons_succ, setAt]
      | succ q =>
        have : skip (a + 1) (q + 1) = skip a q + 1 := by
          unfold skip; split <;> split <;> omega
        rw [this]
        simp only [insertAt_cons_succ, setAt]
        rw [ih a q (by simpa using h)]

/-! ## the cumulative integral is a well-formed field again -/

theorem cum_wf (f : Fld) (hf : WF f) (d : String) (g : Fld) (h : integrate f (.name d) true = .ok (.field g)) : WF g := by
  obtain ⟨_, _, hm, hs, _, _, _⟩ := cum_spec f d g h
  exact hf.congr hm hs

/-! ## the cumulative integral integrated again -/

/-- along ANOTHER direction: integrating the cumulative integral along `d'` is the cumulative
integral (along `d`) of the integral along `d'` - same reduced mesh, same values -/
theorem cum_then_other (f : Fld) (hf : WF f) (d d' : String) (gc g1 g' g2 : Fld)
    (hc : integrate f (.name d) true = .ok (.field gc))
    (h1 : integrate gc (.name d') false = .ok (.field g1))
    (hh : integrate f (.name d') false = .ok (.field g'))
    (h2 : integrate g' (.name d) true = .ok (.field g2)) :
    g1.mesh = g2.mesh ∧ g1.data.shape = g2.data.shape ∧ g1.nvdim = g2.nvdim ∧
    ∀ i c, inRange g1.data.shape i = true → c < f.nvdim → cget g1.data i c = cget g2.data i c := by
  obtain ⟨ax, hax, hm, hs, _, hnv, hcum⟩ := cum_spec f d gc hc
  have hwg := cum_wf f hf d gc hc
  obtain ⟨ax', hax', hselh, hrh, hwh, hnvh, hvalh⟩ := integrate_dir_vals f hf d' g' hh
  obtain ⟨bx, hbx, hsel1, hr1, hw1, hnv1, hval1⟩ := integrate_dir_vals gc hwg d' g1 h1
  rw [hm] at hbx hsel1 hr1 hval1
  cases hax'.symm.trans hbx
  have hs1 : g1.data.shape = removeAt f.mesh.n ax' := hw1.2.trans hr1.n
  have hsh : g'.data.shape = removeAt f.mesh.n ax' := hwh.2.trans hrh.n
  obtain ⟨p, hp, hm2, hs2, _, hnv2, hcum2⟩ := cum_spec g' d g2 h2
  have hne : ax ≠ ax' := by
    rintro rfl
    -- `d` would have been removed from the reduced mesh
    exact hrh.getD_dims_not_mem hf.1 ((dim2index_ok _ _ _ hax).2 ▸ dim2index_mem _ _ _ hp)
  obtain ⟨p', hp', hskip, _⟩ := hrh.dim2index_other hf.1 hax hne
  cases hp.symm.trans hp'
  have hcellp : g'.mesh.cellAt p = f.mesh.cellAt ax := by rw [hrh.cellAt, hskip]
  have hshape : g1.data.shape = g2.data.shape := by rw [hs1, hs2, hsh]
  refine ⟨hm2 ▸ Except.ok.inj (hsel1.symm.trans hselh), hshape, by rw [hnv1, hnv2, hnvh, hnv], ?_⟩
  intro i c hi hcn
  rw [hs1] at hi
  have hnlen : f.mesh.n.length = f.mesh.ndim := hf.1.n_length
  have hax'n : ax' < f.mesh.n.length := by rw [hnlen]; exact hrh.lt
  have hilen : i.length + 1 = f.mesh.n.length := by
    have := inRange_length _ _ hi
    rw [this, length_removeAt _ _ hax'n]; omega
  have hax'i : ax' ≤ i.length := by omega
  rw [hval1 i c hi (by rw [hnv]; exact hcn), hcum2 i c (by rw [hsh]; exact hi) (by rw [hnvh]; exact hcn)]
  rw [hvalh i c hi hcn, hcellp]
  -- left: cell' · Σ_j gc[insert j]; right: cell · (Σ_{l<i[p]} g'[set l] + g'[i]/2)
  have hL : ∀ j, j < f.mesh.nAt ax' →
      cget gc.data (insertAt i ax' j) c = f.mesh.cellAt ax *
        (sumTo (i.getD p 0) (fun l => cget f.data (insertAt (setAt i p l) ax' j) c) + cget f.data (insertAt i ax' j) c / 2) := by
    intro j hj
    have hin : inRange f.data.shape (insertAt i ax' j) = true := by
      rw [hf.2]; exact inRange_insertAt f.mesh.n i ax' j hax'n hi hj
    rw [hcum _ c hin hcn, ← hskip, getD_insertAt_skip i ax' p j hax'i]
    congr 2
    apply sumTo_congr
    intro l _
    rw [setAt_insertAt_skip i ax' p j l hax'i]
  rw [sumTo_congr _ _ _ hL]
  have hR : ∀ l, l < i.getD p 0 →
      cget g'.data (setAt i p l) c = f.mesh.cellAt ax' * sumTo (f.mesh.nAt ax') (fun j => cget f.data (insertAt (setAt i p l) ax' j) c) := by
    intro l hl
    exact hvalh _ c (inRange_setAt_lt _ _ _ _ hi hl) hcn
  rw [sumTo_congr _ _ _ hR]
  exact cum_comm_alg (f.mesh.cellAt ax) (f.mesh.cellAt ax') (i.getD p 0) (f.mesh.nAt ax')
    (fun l j => cget f.data (insertAt (setAt i p l) ax' j) c) (fun j => cget f.data (insertAt i ax' j) c)

/-- exchanging two prefix sums (with their half-cell terms) -/
theorem cum_cum_alg (a b x : Rat) (A B : Nat) (X : Nat → Nat → Rat) (Y Y' : Nat → Rat) :
    b * (sumTo B (fun l' => a * (sumTo A (fun l => X l l') + Y' l' / 2)) + a * (sumTo A Y + x / 2) / 2)
      = a * (sumTo A (fun l => b * (sumTo B (fun l' => X l l') + Y l / 2)) + b * (sumTo B Y' + x / 2) / 2) := by
  have e1 : sumTo B (fun l' => a * (sumTo A (fun l => X l l') + Y' l' / 2))
      = a * (sumTo B (fun l' => sumTo A (fun l => X l l')) + sumTo B Y' / 2) := by
    rw [sumTo_mul_left, sumTo_add, sumTo_div]
  have e2 : sumTo A (fun l => b * (sumTo B (fun l' => X l l') + Y l / 2))
      = b * (sumTo B (fun l' => sumTo A (fun l => X l l')) + sumTo A Y / 2) := by
    rw [sumTo_mul_left, sumTo_add, sumTo_div, sumTo_comm]
  rw [e1, e2]; ring

/-- two cumulative integrals along different directions commute: same mesh, same values -/
theorem cum_cum_comm (f : Fld) (d d' : String) (hne : d ≠ d') (g1 g12 g2 g21 : Fld)
    (h1 : integrate f (.name d) true = .ok (.field g1)) (h12 : integrate g1 (.name d') true = .ok (.field g12))
    (h2 : integrate f (.name d') true = .ok (.field g2)) (h21 : integrate g2 (.name d) true = .ok (.field g21)) :
    g12.mesh = g21.mesh ∧ g12.data.shape = g21.data.shape ∧ g12.nvdim = g21.nvdim ∧
    ∀ i c, inRange f.data.shape i = true → c < f.nvdim → cget g12.data i c = cget g21.data i c := by
  obtain ⟨ax, hax, m1, s1, hsn, n1, v1⟩ := cum_spec f d g1 h1
  obtain ⟨ax', hax', m2, s2, _, n2, v2⟩ := cum_spec f d' g2 h2
  obtain ⟨bx', hbx', m12, s12, _, n12, v12⟩ := cum_spec g1 d' g12 h12
  obtain ⟨bx, hbx, m21, s21, _, n21, v21⟩ := cum_spec g2 d g21 h21
  rw [m1, hax'] at hbx'; injection hbx' with hbx'; subst hbx'
  rw [m2, hax] at hbx; injection hbx with hbx; subst hbx
  have hax_ne : ax ≠ ax' := by
    intro heq
    exact hne ((C01.getD_of_dim2index hax).symm.trans (heq ▸ C01.getD_of_dim2index hax'))
  refine ⟨by rw [m12, m21, m1, m2], by rw [s12, s21, s1, s2], by rw [n12, n21, n1, n2], ?_⟩
  intro i c hi hc
  rw [v12 i c (by rw [s1]; exact hi) (by rw [n1]; exact hc), v21 i c (by rw [s2]; exact hi) (by rw [n2]; exact hc), m1, m2]
  have hA : ∀ l', l' < i.getD ax' 0 →
      cget g1.data (setAt i ax' l') c = f.mesh.cellAt ax *
        (sumTo (i.getD ax 0) (fun l => cget f.data (setAt (setAt i ax l) ax' l') c) + cget f.data (setAt i ax' l') c / 2) := by
    intro l' hl'
    rw [v1 _ c (inRange_setAt_lt _ _ _ _ hi hl') hc, getD_setAt_ne i ax' ax l' 0 hax_ne]
    congr 2
    apply sumTo_congr
    intro l _
    rw [setAt_comm i ax' ax l' l (Ne.symm hax_ne)]
  have hB : ∀ l, l < i.getD ax 0 →
      cget g2.data (setAt i ax l) c = f.mesh.cellAt ax' *
        (sumTo (i.getD ax' 0) (fun l' => cget f.data (setAt (setAt i ax l) ax' l') c) + cget f.data (setAt i ax l) c / 2) := by
    intro l hl
    rw [v2 _ c (inRange_setAt_lt _ _ _ _ hi hl) hc, getD_setAt_ne i ax ax' l 0 (Ne.symm hax_ne)]
  rw [sumTo_congr _ _ _ hA, sumTo_congr _ _ _ hB, v1 i c hi hc, v2 i c hi hc]
  exact cum_cum_alg (f.mesh.cellAt ax) (f.mesh.cellAt ax') (cget f.data i c) (i.getD ax 0) (i.getD ax' 0)
    (fun l l' => cget f.data (setAt (setAt i ax l) ax' l') c)
    (fun l => cget f.data (setAt i ax l) c) (fun l' => cget f.data (setAt i ax' l') c)

end DFV.C06
