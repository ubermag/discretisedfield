import DFV.Lemmas.C07Sel
/-! Requests with non-finite coordinates (`ExtRat`): the IEEE containment test accepts finite
points only, on finite points every extended function is the rational one, and a non-finite
coordinate is refused. -/
namespace DFV.C07
open DFV DFV.Mesh

/-- the finite selection value as an extended one -/
def SelArg.toE : SelArg → SelArgE
  | .centre => .centre
  | .point x => .point (.fin x)
  | .range x y => .range (.fin x) (.fin y)
  | .bad => .bad

theorem finList_map_fin (l : List Rat) : finList? (l.map .fin) = some l := by
  induction l with
  | nil => rfl
  | cons x rest ih =>
    show (match (ExtRat.fin x).toRat?, finList? (rest.map .fin) with
      | some q, some l => some (q :: l)
      | _, _ => none) = _
    rw [ih]; rfl

theorem finList_some (p : List ExtRat) (q : List Rat) (h : finList? p = some q) : p = q.map .fin := by
  induction p generalizing q with
  | nil =>
    unfold finList? at h
    injection h with h; subst h; rfl
  | cons x rest ih =>
    unfold finList? at h
    cases x with
    | fin z =>
      cases hr : finList? rest with
      | none => rw [hr] at h; simp [ExtRat.toRat?] at h
      | some l =>
        rw [hr] at h
        simp only [ExtRat.toRat?] at h
        injection h with h; subst h
        rw [ih l hr]; rfl
    | posInf => simp [ExtRat.toRat?] at h
    | negInf => simp [ExtRat.toRat?] at h
    | nan => simp [ExtRat.toRat?] at h

theorem getD_map_fin (l : List Rat) (a : Nat) : (l.map ExtRat.fin).getD a (.fin 0) = .fin (l.getD a 0) :=
  getD_map_of_eq rfl l a

theorem eq_map_fin_of_getD (p : List ExtRat) (h : ∀ a, a < p.length → ∃ q, p.getD a (.fin 0) = .fin q) :
    ∃ l : List Rat, p = l.map .fin := by
  induction p with
  | nil => exact ⟨[], rfl⟩
  | cons x rest ih =>
    obtain ⟨q, hq⟩ := h 0 (by simp)
    simp only [List.getD_cons_zero] at hq
    obtain ⟨l, hl⟩ := ih (fun a ha => by
      have := h (a + 1) (by simp; omega)
      simpa using this)
    exact ⟨q :: l, by rw [hq, hl]; rfl⟩

theorem containsAxE_fin (r : Region) (a : Nat) (q : Rat) : containsAxE r a (.fin q) = r.containsAx a q := rfl

/-- the containment test is false for `+inf`, `-inf` and `nan` -/
theorem containsAxE_true_fin (r : Region) (a : Nat) (x : ExtRat) (h : containsAxE r a x = true) :
    ∃ q, x = .fin q := by
  cases x with
  | fin q => exact ⟨q, rfl⟩
  | _ => simp [containsAxE, ExtRat.le, iscloseE] at h

theorem containsPtE_map_fin (r : Region) (p : List Rat) : containsPtE r (p.map .fin) = r.containsPt p := by
  unfold containsPtE Region.containsPt
  rw [List.length_map]
  congr 1
  unfold allLt
  apply List.all_congr rfl
  intro a
  rw [getD_map_fin, containsAxE_fin]

theorem containsPtE_true_fin (r : Region) (p : List ExtRat) (h : containsPtE r p = true) :
    ∃ l : List Rat, p = l.map .fin := by
  unfold containsPtE at h
  rw [Bool.and_eq_true, decide_eq_true_iff, allLt_iff] at h
  obtain ⟨hl, hall⟩ := h
  apply eq_map_fin_of_getD
  intro a ha
  exact containsAxE_true_fin r a _ (hall a (by omega))

theorem point2indexE_fin (m : Mesh) (p : List Rat) : point2indexE m (p.map .fin) = m.point2index p := by
  unfold point2indexE Mesh.point2index
  rw [List.length_map, containsPtE_map_fin, finList_map_fin]

/-- the extended lookup accepts exactly the finite points the rational lookup accepts, with the
same answer -/
theorem point2indexE_ok_iff (m : Mesh) (p : List ExtRat) (i : List Nat) :
    point2indexE m p = .ok i ↔ ∃ q : List Rat, p = q.map .fin ∧ m.point2index q = .ok i := by
  constructor
  · intro h
    have hc : containsPtE m.region p = true := by
      unfold point2indexE at h
      split at h
      · cases h
      · split at h
        · cases h
        · rename_i hc; simpa using hc
    obtain ⟨q, hq⟩ := containsPtE_true_fin m.region p hc
    subst hq
    rw [point2indexE_fin] at h
    exact ⟨q, rfl, h⟩
  · rintro ⟨q, hq, h⟩
    subst hq
    rw [point2indexE_fin]; exact h

/-- a point with a non-finite coordinate at some position is refused (whether or not the position is an
axis of the mesh) -/
theorem point2indexE_nonfin (m : Mesh) (p : List ExtRat) (a : Nat)
    (hx : ∀ q, p.getD a (.fin 0) ≠ .fin q) : ∃ e, point2indexE m p = .error e := by
  cases h : point2indexE m p with
  | error e => exact ⟨e, rfl⟩
  | ok i =>
    obtain ⟨q, hq, _⟩ := (point2indexE_ok_iff m p i).mp h
    subst hq
    exact absurd (getD_map_fin q a) (hx _)

theorem setAt_map {α β} (f : α → β) (l : List α) (a : Nat) (x : α) :
    setAt (l.map f) a (f x) = (setAt l a x).map f := by
  induction l generalizing a with
  | nil => rfl
  | cons y rest ih =>
    cases a with
    | zero => rfl
    | succ a => simp [setAt, ih]

theorem testPointE_fin (m : Mesh) (a : Nat) (x : Rat) :
    testPointE m a (.fin x) = (testPoint m a x).map .fin := by
  unfold testPointE testPoint; exact setAt_map _ _ _ _

theorem cellOfE_fin (m : Mesh) (a : Nat) (p : List Rat) : cellOfE m a (p.map .fin) = cellOf m a p := by
  unfold cellOfE cellOf; rw [point2indexE_fin]

theorem selOneE_fin (m : Mesh) (a : Nat) (x : Rat) : selOneE m a (.fin x) = selOne m a x := by
  unfold selOneE selOne
  rw [testPointE_fin, cellOfE_fin]
  by_cases h : x < m.region.lo a ∨ m.region.hi a < x
  · rw [if_pos h, if_pos (by simpa [ExtRat.lt] using h)]
  · rw [if_neg h, if_neg (by simpa [ExtRat.lt] using h)]

/-- a non-finite selection coordinate is refused: `±inf` by the range test, `nan` — for which
both comparisons of the range test are false — by the containment test of `point2index` -/
theorem selOneE_nonfin (m : Mesh) (a : Nat) (ha : a < m.ndim) (x : ExtRat) (hx : ∀ q, x ≠ .fin q) :
    ∃ e, selOneE m a x = .error e := by
  unfold selOneE
  cases x with
  | fin q => exact absurd rfl (hx q)
  | posInf => exact ⟨.value, by simp [ExtRat.lt]⟩
  | negInf => exact ⟨.value, by simp [ExtRat.lt]⟩
  | nan =>
    have hc : (ExtRat.lt .nan (.fin (m.region.lo a)) || ExtRat.lt (.fin (m.region.hi a)) .nan) = false := rfl
    rw [hc]
    simp only [Bool.false_eq_true, if_false]
    unfold cellOfE
    obtain ⟨e, he⟩ := point2indexE_nonfin m (testPointE m a .nan) a (by
      intro q
      unfold testPointE
      rw [getD_setAt_eq _ _ _ _ (by rw [List.length_map]; exact ha)]
      exact fun h => ExtRat.noConfusion h)
    rw [he]
    exact ⟨e, rfl⟩

theorem sort2_fin (x y : Rat) : sort2 (.fin x) (.fin y) = (.fin (min x y), .fin (max x y)) := by
  unfold sort2
  by_cases h : y < x
  · rw [if_pos (by simpa [ExtRat.lt] using h), min_eq_right h.le, max_eq_left h.le]
  · rw [if_neg (by simpa [ExtRat.lt] using h), min_eq_left (not_lt.mp h), max_eq_right (not_lt.mp h)]

theorem sort2_perm (x y : ExtRat) : sort2 x y = (x, y) ∨ sort2 x y = (y, x) := by
  unfold sort2; split
  · exact Or.inr rfl
  · exact Or.inl rfl

theorem selConvertE_fin (m : Mesh) (dim : String) (arg : SelArg) :
    selConvertE m dim arg.toE = selConvert m dim arg := by
  unfold selConvertE selConvert
  cases m.region.dim2index dim with
  | error e => rfl
  | ok a =>
    cases arg with
    | centre => rfl
    | bad => rfl
    | point x => simp only [SelArg.toE]; rw [selOneE_fin]
    | range x y => simp only [SelArg.toE]; rw [sort2_fin]; simp only; rw [selOneE_fin, selOneE_fin]

theorem selMeshE_fin (m : Mesh) (dim : String) (arg : SelArg) :
    selMeshE m dim arg.toE = selMesh m dim arg := by
  unfold selMeshE selMesh; rw [selConvertE_fin]

theorem selFldE_fin (f : Fld) (dim : String) (arg : SelArg) :
    selFldE f dim arg.toE = selFld f dim arg := by
  unfold selFldE selFld; rw [selConvertE_fin, selMeshE_fin]

theorem ExtRat.fin_or_not (x : ExtRat) : (∃ q, x = .fin q) ∨ ∀ q, x ≠ .fin q := by
  cases x with
  | fin q => exact Or.inl ⟨q, rfl⟩
  | _ => exact Or.inr fun q h => ExtRat.noConfusion h

/-- some coordinate of the selection value is not a finite number -/
def SelArgE.NonFinite : SelArgE → Prop
  | .point x => ∀ q, x ≠ .fin q
  | .range x y => (∀ q, x ≠ .fin q) ∨ (∀ q, y ≠ .fin q)
  | _ => False

theorem selArgE_cases (arg : SelArgE) : (∃ a : SelArg, arg = a.toE) ∨ arg.NonFinite := by
  cases arg with
  | centre => exact Or.inl ⟨.centre, rfl⟩
  | bad => exact Or.inl ⟨.bad, rfl⟩
  | point x =>
    rcases x.fin_or_not with ⟨q, rfl⟩ | h
    · exact Or.inl ⟨.point q, rfl⟩
    · exact Or.inr h
  | range x y =>
    rcases x.fin_or_not with ⟨q, rfl⟩ | h
    · rcases y.fin_or_not with ⟨q', rfl⟩ | h'
      · exact Or.inl ⟨.range q q', rfl⟩
      · exact Or.inr (Or.inr h')
    · exact Or.inr (Or.inl h)

/-- `SelArg.toE` is injective: after `simp only [SelArg.toE]` the twelve mixed pairs are closed by
constructor clash, `centre`/`centre` and `bad`/`bad` by `rfl`, `point`/`point` and `range`/`range` by
injectivity of `.fin` -/
theorem toE_inj (a a' : SelArg) (h : a.toE = a'.toE) : a = a' := by
  cases a <;> cases a' <;> simp only [SelArg.toE] at h <;> first | rfl | cases h
  · rfl
  · rfl

theorem toE_not_nonfinite (a : SelArg) : ¬ a.toE.NonFinite := by
  cases a with
  | centre => exact fun h => h
  | bad => exact fun h => h
  | point x => exact fun h => h x rfl
  | range x y =>
    rintro (h | h)
    · exact h x rfl
    · exact h y rfl

theorem selConvertE_nonfin (m : Mesh) (hm : m.Inv) (dim : String) (arg : SelArgE) (h : arg.NonFinite) :
    ∃ e, selConvertE m dim arg = .error e := by
  unfold selConvertE
  cases hd : m.region.dim2index dim with
  | error e => exact ⟨e, rfl⟩
  | ok a =>
    have ha := hm.dim2index_lt hd
    cases arg with
    | centre => exact absurd h (fun h => h)
    | bad => exact absurd h (fun h => h)
    | point x =>
      obtain ⟨e, he⟩ := selOneE_nonfin m a ha x h
      simp only; rw [he]; exact ⟨e, rfl⟩
    | range x y =>
      simp only
      -- whichever of the two sorted bounds is not finite, its lookup refuses
      have hs : (∀ q, (sort2 x y).1 ≠ .fin q) ∨ (∀ q, (sort2 x y).2 ≠ .fin q) := by
        rcases sort2_perm x y with hs | hs <;> rw [hs]
        · exact h
        · exact h.symm
      rcases hs with hs | hs
      · obtain ⟨e, he⟩ := selOneE_nonfin m a ha _ hs
        rw [he]; exact ⟨e, rfl⟩
      · obtain ⟨e, he⟩ := selOneE_nonfin m a ha _ hs
        cases selOneE m a (sort2 x y).1 with
        | error e' => exact ⟨e', rfl⟩
        | ok ck => simp only; rw [he]; exact ⟨e, rfl⟩

theorem selMeshE_error {m : Mesh} {dim : String} {arg : SelArgE} {e : Err}
    (h : selConvertE m dim arg = .error e) : selMeshE m dim arg = .error e := by
  unfold selMeshE; rw [h]

theorem selFldE_error {f : Fld} {dim : String} {arg : SelArgE} {e : Err}
    (h : selConvertE f.mesh dim arg = .error e) : selFldE f dim arg = .error e := by
  unfold selFldE; rw [h]

/-! ### boxes with non-finite corners -/

theorem getRegionE_fin (m : Mesh) (pmin pmax : List Rat) :
    getRegionE m (pmin.map .fin) (pmax.map .fin) = getRegion m (boxRegion pmin pmax) := by
  unfold getRegionE
  rw [containsPtE_map_fin, containsPtE_map_fin, finList_map_fin, finList_map_fin]
  cases hc : (m.region.containsPt pmin && m.region.containsPt pmax) with
  | true => rfl
  | false =>
    unfold getRegion Region.containsReg
    show _ = if (!(m.region.containsPt pmin && m.region.containsPt pmax)) = true then _ else _
    rw [hc]; rfl

theorem getItemE_fin (f : Fld) (pmin pmax : List Rat) :
    getItemE f (pmin.map .fin) (pmax.map .fin) = getItem f (.region (boxRegion pmin pmax)) := by
  unfold getItemE getItem
  rw [getRegionE_fin]; rfl

theorem getRegionE_nonfin (m : Mesh) (pmin pmax : List ExtRat)
    (h : ¬ ((∃ l : List Rat, pmin = l.map .fin) ∧ ∃ l : List Rat, pmax = l.map .fin)) :
    ∃ e, getRegionE m pmin pmax = .error e := by
  unfold getRegionE
  cases hc : (containsPtE m.region pmin && containsPtE m.region pmax) with
  | true =>
    rw [Bool.and_eq_true] at hc
    exact absurd ⟨containsPtE_true_fin _ _ hc.1, containsPtE_true_fin _ _ hc.2⟩ h
  | false => exact ⟨_, rfl⟩

theorem getItemE_error {f : Fld} {pmin pmax : List ExtRat} {e : Err} (h : getRegionE f.mesh pmin pmax = .error e) :
    getItemE f pmin pmax = .error e := by
  unfold getItemE; rw [h]

theorem addRat_fin (q c : Rat) : (ExtRat.fin q).addRat c = .fin (q + c) := rfl

theorem addRat_nonfin (x : ExtRat) (c : Rat) (h : ∀ q, x ≠ .fin q) : ∀ q, x.addRat c ≠ .fin q := by
  cases x with
  | fin z => exact absurd rfl (h z)
  | _ => exact fun q hq => ExtRat.noConfusion hq

theorem region2slicesE_fin (m : Mesh) (pmin pmax : List Rat) :
    region2slicesE m (pmin.map .fin) (pmax.map .fin) = region2slices m (boxRegion pmin pmax) := by
  unfold region2slicesE region2slices
  rw [List.length_map]
  have e1 : (tab m.ndim fun a => ((pmin.map ExtRat.fin).getD a (.fin 0)).addRat (m.cellAt a / 2))
      = (tab m.ndim fun a => (boxRegion pmin pmax).lo a + m.cellAt a / 2).map .fin := by
    unfold tab; rw [List.map_map]
    apply List.map_congr_left
    intro a _
    rw [getD_map_fin, addRat_fin]; rfl
  have e2 : (tab m.ndim fun a => ((pmax.map ExtRat.fin).getD a (.fin 0)).addRat (-(m.cellAt a / 2)))
      = (tab m.ndim fun a => (boxRegion pmin pmax).hi a - m.cellAt a / 2).map .fin := by
    unfold tab; rw [List.map_map]
    apply List.map_congr_left
    intro a _
    rw [getD_map_fin, addRat_fin]
    show ExtRat.fin _ = ExtRat.fin _
    congr 1
    show pmax.getD a 0 + -(m.cellAt a / 2) = pmax.getD a 0 - m.cellAt a / 2
    exact (Rat.sub_eq_add_neg _ _).symm
  rw [e1, e2, point2indexE_fin, point2indexE_fin]
  rfl

theorem region2slicesE_nonfin (m : Mesh) (pmin pmax : List ExtRat) (a : Nat) (ha : a < m.ndim)
    (h : (∀ q, pmin.getD a (.fin 0) ≠ .fin q) ∨ (∀ q, pmax.getD a (.fin 0) ≠ .fin q)) :
    ∃ e, region2slicesE m pmin pmax = .error e := by
  unfold region2slicesE
  by_cases hl : pmin.length ≠ m.ndim
  · rw [if_pos hl]; exact ⟨_, rfl⟩
  · rw [if_neg hl]
    rcases h with h | h
    · obtain ⟨e, he⟩ := point2indexE_nonfin m
        (tab m.ndim fun a => (pmin.getD a (.fin 0)).addRat (m.cellAt a / 2)) a (by
          rw [getD_tab _ _ _ _ ha]; exact addRat_nonfin _ _ h)
      rw [he]; exact ⟨e, rfl⟩
    · cases h1 : point2indexE m (tab m.ndim fun a => (pmin.getD a (.fin 0)).addRat (m.cellAt a / 2)) with
      | error e => exact ⟨e, rfl⟩
      | ok i1 =>
        obtain ⟨e, he⟩ := point2indexE_nonfin m
          (tab m.ndim fun a => (pmax.getD a (.fin 0)).addRat (-(m.cellAt a / 2))) a (by
            rw [getD_tab _ _ _ _ ha]; exact addRat_nonfin _ _ h)
        simp only; rw [he]; exact ⟨e, rfl⟩

/-- `Region(p1, p2)` keeps non-finite coordinates: the corner that received one is non-finite -/
theorem boxMkE_nonfin (p1 p2 pmin pmax : List ExtRat) (h : boxMkE? p1 p2 = .ok (pmin, pmax)) (a : Nat)
    (ha : a < p1.length)
    (hx : (∀ q, p1.getD a (.fin 0) ≠ .fin q) ∨ (∀ q, p2.getD a (.fin 0) ≠ .fin q)) :
    pmin.length = p1.length ∧ pmax.length = p1.length ∧
    ((∀ q, pmin.getD a (.fin 0) ≠ .fin q) ∨ (∀ q, pmax.getD a (.fin 0) ≠ .fin q)) := by
  unfold boxMkE? at h
  split at h
  · cases h
  · split at h
    · cases h
    · split at h
      · cases h
      · injection h with h
        injection h with h1 h2
        subst h1; subst h2
        refine ⟨by rw [tab_length], by rw [tab_length], ?_⟩
        rw [getD_tab _ _ _ _ ha, getD_tab _ _ _ _ ha]
        generalize p1.getD a (.fin 0) = u at hx ⊢
        generalize p2.getD a (.fin 0) = v at hx ⊢
        cases u <;> cases v <;>
          simp only [ExtRat.minE, ExtRat.maxE, ExtRat.lt] <;>
          first
            | (exfalso; rcases hx with hx | hx <;> exact hx _ rfl)
            | (left; intro q hq; split at hq <;> exact ExtRat.noConfusion hq)
            | (right; intro q hq; split at hq <;> exact ExtRat.noConfusion hq)
            | (left; intro q hq; exact ExtRat.noConfusion hq)
            | (right; intro q hq; exact ExtRat.noConfusion hq)

end DFV.C07
