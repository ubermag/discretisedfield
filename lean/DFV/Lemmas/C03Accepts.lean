import DFV.Lemmas.C03Ctor

/-! C03: when the operations accept.  Operands are `Good` fields on one mesh (or on `allclose` meshes), numbers,
constant vectors or per-cell arrays; each lemma is an `Accepts M (method …) t`, proved from right to left through the
method's `*_ok_iff` (C03Dispatch) and an instance of the constructor lemma `mkField_accepts`.  First which operand of
`self ∘ other` gives labels and mapping (`metaSrc_*`), then the methods in the order of the model, last the refusals,
contrapositives of single conjuncts of the same equivalences (`applyOperator_vector_rejected`, which names the error,
evaluates the definition instead). -/

namespace DFV.C03
open DFV

namespace Kind

theorem join_comm (a b : Kind) : a.join b = b.join a := by cases a <;> cases b <;> rfl

theorem ctor_ctor (a : Kind) : a.ctor.ctor = a.ctor := by cases a <;> rfl

theorem join_ctor_left (a b : Kind) : (a.ctor.join b).ctor = (a.join b).ctor := by cases a <;> cases b <;> rfl

end Kind

/-- NumPy's integer-power rule objects to `np.power` on two integer dtypes with a negative exponent entry, and to nothing else -/
theorem negIntPow_eq_true_iff {pw : Bool} {kb ke : Kind} {e : NDA GQ} :
    negIntPow pw kb ke e = true ↔ (pw = true ∧ kb = .int ∧ ke = .int ∧ ∃ z ∈ e.toList, z.re < 0) := by
  simp only [negIntPow, Bool.and_eq_true, decide_eq_true_eq, List.any_eq_true, and_assoc]

theorem negIntPow_false (kb ke : Kind) (e : NDA GQ) : negIntPow false kb ke e = false :=
  Bool.eq_false_iff.mpr fun h => Bool.false_ne_true (negIntPow_eq_true_iff.mp h).1

theorem negIntPow_kinds (pw : Bool) (kb ke : Kind) (e : NDA GQ) (h : kb ≠ .int ∨ ke ≠ .int) :
    negIntPow pw kb ke e = false :=
  Bool.eq_false_iff.mpr fun h' =>
    let ⟨_, hb, he, _⟩ := negIntPow_eq_true_iff.mp h'
    h.elim (fun h => h hb) (fun h => h he)

/-- the operations whose forward method insists on equal component counts -/
def isStrict : BinOp → Bool
  | .dot | .cross | .angle => true
  | _ => false

/-- every forward method other than `<<` has passed `_check_same_mesh_and_field_dim` on the two fields -/
theorem forwardOp_checked {env : Env} {b : BinOp} {f o g : CF} (hb : b ≠ .shl) (h : forwardOp env b f (.fld o) = .ok g) :
    checkSame f o (!isStrict b) = .ok () := by
  cases b
  case shl => exact absurd rfl hb
  case dot => exact (dotOp_ok_iff.mp (show dotOp f (.fld o) = .ok g from h)).1
  case cross => exact (crossOp_ok_iff.mp (show crossOp f (.fld o) = .ok g from h)).1
  case angle =>
    obtain ⟨vec, valid, _, _, _, _, _, hav, _⟩ := angleOp_ok (show angleOp env.sq env.acos f (.fld o) = .ok g from h)
    rcases (angleVec_ok hav).2 with ⟨_, ho, _, hc⟩ | ⟨_, ho, _⟩
    · cases Val.fld.inj ho; exact hc
    · cases ho
  case add | sub | mul | div | pow => exact (applyOperator_ok_iff.mp (show applyOperator _ _ f (.fld o) = .ok g from h)).1
  all_goals cases h

/-- with scalars ignored, `_check_same_mesh_and_field_dim` passes exactly the component counts that broadcast -/
theorem checkSame_bdim_iff {f o : CF} :
    checkSame f o true = .ok () ↔ meshAllclose f.mesh o.mesh = .ok true ∧ (bdim f.nvdim o.nvdim).isSome = true := by
  rw [checkSame_ok_iff, bdim_isSome_iff]
  refine and_congr_right fun _ => ⟨?_, ?_⟩
  · rintro (⟨_, h | h⟩ | h)
    exacts [Or.inr (Or.inl h), Or.inr (Or.inr h), Or.inl h]
  · rintro (h | h | h)
    exacts [Or.inr h, Or.inl ⟨rfl, Or.inl h⟩, Or.inl ⟨rfl, Or.inr h⟩]

/-- equal counts: `self ∘ other` takes labels and mapping from `self` -/
theorem metaSrc_of_eq {f o : CF} (h : f.nvdim = o.nvdim) : metaSrc f o = f :=
  if_neg fun ⟨h1, h2⟩ => Nat.lt_irrefl 1 (by rw [← h, h1] at h2; exact h2)

/-- different counts that broadcast: one operand is the vector, and both orders take labels and mapping from it -/
theorem metaSrc_of_ne {f o : CF} {d : Nat} (hd : bdim f.nvdim o.nvdim = some d) (hf : 0 < f.nvdim) (ho : 0 < o.nvdim)
    (h : f.nvdim ≠ o.nvdim) : metaSrc f o = metaSrc o f := by
  unfold metaSrc
  rcases (bdim_isSome_iff _ _).mp (by rw [hd]; rfl) with h' | h1 | h1
  · exact absurd h' h
  · rw [if_pos ⟨h1, Nat.lt_of_le_of_ne ho fun e => h (h1.trans e)⟩, if_neg fun hc => h (h1.trans hc.1.symm)]
  · rw [if_neg fun hc => h (hc.1.trans h1.symm), if_pos ⟨h1, Nat.lt_of_le_of_ne hf fun e => h (e.symm.trans h1.symm)⟩]

/-- `self ∘ other` and `other ∘ self` carry the same labels and mapping, unless the counts are equal and the
operands' own labels or mappings differ -/
theorem metaSrc_comm {f o : CF} {d : Nat} (hd : bdim f.nvdim o.nvdim = some d) (hf : 0 < f.nvdim) (ho : 0 < o.nvdim)
    (h : f.nvdim = o.nvdim → f.vdims = o.vdims ∧ f.vmap = o.vmap) :
    (metaSrc f o).vdims = (metaSrc o f).vdims ∧ (metaSrc f o).vmap = (metaSrc o f).vmap := by
  by_cases hne : f.nvdim = o.nvdim
  · rw [metaSrc_of_eq hne, metaSrc_of_eq hne.symm]; exact h hne
  · rw [metaSrc_of_ne hd hf ho hne]; exact ⟨rfl, rfl⟩

theorem metaSrc_nvdim (f o : CF) (d : Nat) (ho : 0 < o.nvdim)
    (h : bdim f.nvdim o.nvdim = some d) : (metaSrc f o).nvdim = d := by
  unfold metaSrc
  obtain ⟨h1, h2⟩ := bdim_some _ _ _ h
  by_cases h3 : f.nvdim = 1
  · rw [if_pos h3] at h1
    by_cases h4 : 1 < o.nvdim
    · rw [if_pos ⟨h3, h4⟩, h1]
    · rw [if_neg (fun hc => h4 hc.2)]; omega
  · rw [if_neg h3] at h1
    rw [if_neg (fun hc => h3 hc.1), h1]

/-- **`_apply_operator` accepts two fields whose meshes are `allclose`** (not necessarily the
same object or equal) and whose component counts are equal or one of them 1: the result lives on the
mesh of `self`, carries the labels and mapping of the vector operand (of `self` when both counts
agree) and no unit -/
theorem applyOperator_fld_accepts_close (fn : GQ → GQ → GQ) (pw : Bool) (M M' : Mesh) (f o : CF)
    (hf : Good M f) (ho : Good M' o) (hclose : meshAllclose M M' = .ok true) (d : Nat)
    (hd : bdim f.nvdim o.nvdim = some d) (hpw : negIntPow pw f.kind o.kind o.data = false) :
    Accepts M (applyOperator fn pw f (.fld o))
      ⟨d, (metaSrc f o).vdims, (metaSrc f o).vmap, none, (f.kind.join o.kind).ctor⟩ := by
  obtain ⟨hwf, hsf, rfl⟩ := hf
  obtain ⟨hwo, hso, hmo⟩ := ho
  have hcs : checkSame f o true = .ok () := checkSame_bdim_iff.mpr ⟨by rw [hmo]; exact hclose, by rw [hd]; rfl⟩
  have hshape : bshape f.data.shape o.data.shape = some (f.mesh.n ++ [d]) := by
    rw [hwf.shape, hwo.shape, hmo, ← meshAllclose_n f.mesh M' hclose]
    exact bshape_cells _ _ _ _ hd
  obtain ⟨res, hres, hrs⟩ := npBin_shape fn f.data o.data _ hshape
  have hnvd := metaSrc_nvdim f o d hwo.pos hd
  have hst : MetaStable (metaSrc f o) := metaSrc_ind f o hso hsf
  have hp : 0 < (metaSrc f o).nvdim := metaSrc_ind (P := fun s => 0 < s.nvdim) f o hwo.pos hwf.pos
  refine ((mkField_from_stable (metaSrc f o) hst hp f.mesh res (f.kind.join o.kind)
    (some (NDA.zipWith (fun x y => x && y) f.valid o.valid)) none (by rw [hrs, hnvd]) (mask_and hwf.mask)).cast
    (by rw [hnvd])).imp fun g hg => applyOperator_ok_iff.mpr ⟨hcs, hpw, res, hres, ?_⟩
  rw [hrs, lastAx_concat, ← hnvd]
  exact (hst.fix hp).symm ▸ hg

/-- **`_apply_operator` accepts two fields on one mesh** -/
theorem applyOperator_fld_accepts (fn : GQ → GQ → GQ) (pw : Bool) (M : Mesh) (hM : MeshOk M) (f o : CF)
    (hf : Good M f) (ho : Good M o) (d : Nat) (hd : bdim f.nvdim o.nvdim = some d)
    (hpw : negIntPow pw f.kind o.kind o.data = false) :
    Accepts M (applyOperator fn pw f (.fld o))
      ⟨d, (metaSrc f o).vdims, (metaSrc f o).vmap, none, (f.kind.join o.kind).ctor⟩ :=
  applyOperator_fld_accepts_close fn pw M M f o hf ho hM.2 d hd hpw

/-- a non-field operand `_apply_operator` combines with every field of `k` components: a
number, a constant vector of length `k`, or a per-cell array of the field's own shape -/
def RawFits (n : List Nat) (nv : Nat) : Opd → Prop
  | .num _ _ _ => True
  | .arr a _ _ => a.shape = [nv] ∨ a.shape = n ++ [nv]

theorem rawFits_bshape {M : Mesh} (f : CF) (hf : Good M f) (od : Opd) (h : RawFits M.n f.nvdim od) :
    bshape f.data.shape (rawArr od).shape = some (f.mesh.n ++ [f.nvdim]) ∧
    bshape (rawArr od).shape f.data.shape = some (f.mesh.n ++ [f.nvdim]) := by
  rw [bshape_comm (rawArr od).shape, and_self, hf.wf.shape, hf.mesh]
  cases od with
  | num z k np => exact bshape_nil_right _
  | arr a k np =>
    rcases h with h | h
    · show bshape _ a.shape = _
      rw [h]; exact bshape_suffix _ _
    · show bshape _ a.shape = _
      rw [h]; exact bshape_self _

/-- **`_apply_operator` accepts a number, a constant vector of matching length, a per-cell
array**: labels and mapping of the field are kept, the unit is dropped -/
theorem applyOperator_raw_accepts (fn : GQ → GQ → GQ) (pw : Bool) (M : Mesh) (f : CF) (hf : Good M f)
    (od : Opd) (hfit : RawFits M.n f.nvdim od) (hpw : negIntPow pw f.kind (rawKind od) (rawArr od) = false) :
    Accepts M (applyOperator fn pw f (.raw od))
      ⟨f.nvdim, f.vdims, f.vmap, none, (f.kind.join (rawKind od)).ctor⟩ := by
  obtain ⟨hwf, hsf, rfl⟩ := hf
  have hp : 0 < f.nvdim := hwf.pos
  obtain ⟨res, hres, hrs⟩ := npBin_shape fn f.data (rawArr od) _ (rawFits_bshape f ⟨hwf, hsf, rfl⟩ od hfit).1
  refine (mkField_from_stable f hsf hp f.mesh res (f.kind.join (rawKind od)) (some f.valid) none hrs
    (mask_some hwf.mask)).imp fun g hg => applyOperator_ok_iff.mpr ⟨?_, hpw, res, hres, ?_⟩
  · cases od with
    | num z k np => trivial
    | arr a k np =>
      rcases hfit with h | h
      · exact ⟨by rw [h]; simp, Or.inr (Or.inl (by rw [h]; rfl))⟩
      · exact ⟨by rw [h]; simp, Or.inl (by rw [hwf.shape, h])⟩
  · rw [hrs, lastAx_concat]
    exact (hsf.fix hp).symm ▸ hg

/-- **the unary rebuilds accept** (`-f`, `abs(f)`, `f.real`, `f.imag`, `f.conjugate`, `f.abs`, `f.phase`) -/
theorem mapField_accepts (fn : GQ → GQ) (rk : Kind → Kind) (keepUnit : Bool) (M : Mesh) (f : CF) (hf : Good M f) :
    Accepts M (mapField fn rk keepUnit f)
      ⟨f.nvdim, f.vdims, f.vmap, (if keepUnit then f.unit else none), (rk f.kind).ctor⟩ := by
  obtain ⟨hwf, hsf, rfl⟩ := hf
  exact mkField_from_stable f hsf hwf.pos f.mesh (f.data.map fn) (rk f.kind) (some f.valid)
    (if keepUnit then f.unit else none) hwf.shape (mask_some hwf.mask)

/-- **the ufunc protocol accepts a result of the field's shape**: labels and mapping of
`self` are kept, no unit -/
theorem ufuncWrap_accepts (M : Mesh) (self : CF) (hf : Good M self) (res : NDA GQ) (k : Kind) (valid : NDA Bool)
    (hrs : res.shape = self.mesh.n ++ [self.nvdim]) (hv : valid.shape = self.mesh.n) :
    Accepts M (ufuncWrap self res k valid)
      ⟨self.nvdim, self.vdims, self.vmap, none, k.ctor⟩ := by
  obtain ⟨hwf, hsf, rfl⟩ := hf
  exact (mkField_from_stable self hsf hwf.pos self.mesh res k (some valid) none hrs (mask_some hv)).imp fun g hg =>
    ufuncWrap_ok_iff.mpr ⟨by rw [hrs]; simp, by rw [hrs, lastAx_concat]; exact hg⟩

/-- **unary ufuncs accept**: labels and mapping kept, no unit -/
theorem ufunc1_accepts (fn : GQ → GQ) (rk : Kind → Kind) (M : Mesh) (hM : MeshOk M) (f : CF) (hf : Good M f) :
    Accepts M (ufunc1 fn rk f)
      ⟨f.nvdim, f.vdims, f.vmap, none, (rk f.kind).ctor⟩ := by
  exact (ufuncWrap_accepts M f hf (f.data.map fn) (rk f.kind) f.valid hf.wf.shape hf.wf.mask).imp fun g hg =>
    ufunc1_ok_iff.mpr ⟨by rw [hf.mesh]; exact hM.2, hg⟩

/-- a freshly built unlabelled scalar field (result of `dot`, `norm`, `angle`) -/
theorem mkField_scalar_accepts (M : Mesh) (res : NDA GQ) (kind : Kind) (valid : Option (NDA Bool))
    (unit : Option String) (hs : res.shape = M.n ++ [1]) (hv : ∀ v, valid = some v → v.shape = M.n) :
    Accepts M (mkField M 1 (.arr res) kind none valid none unit)
      ⟨1, none, [], unit, kind.ctor⟩ :=
  mkField_accepts M 1 (.arr res) kind none valid none unit Nat.one_pos (asArray_exact M 1 res hs) rfl hv vdimsSet_one_none
    (vmapSet_one_none _ _ _) rfl (vmapSet_some_nil _ _ _ _)

/-- `einsum` on a field array and a same-shaped array or constant vector: accepted, the last axis is summed away -/
theorem einsumDot_shape (A B : NDA GQ) (s : List Nat) (k : Nat) (hA : A.shape = s ++ [k])
    (hB : B.shape = s ++ [k] ∨ B.shape = [k]) : ∃ res, einsumDot A B = .ok res ∧ res.shape = s := by
  refine ⟨_, einsumDot_ok_iff.mpr ⟨by rw [hA]; simp, by rcases hB with h | h <;> rw [h] <;> simp, s ++ [k], ?_, rfl⟩, by simp⟩
  rw [hA]
  rcases hB with h | h <;> rw [h]
  · exact bshape_self _
  · exact bshape_suffix _ _

/-- **`dot` accepts two fields with equal component counts on one mesh**: the result is an
unlabelled scalar field without mapping and unit -/
theorem dotOp_fld_accepts (M : Mesh) (hM : MeshOk M) (f o : CF) (hf : Good M f) (ho : Good M o)
    (hn : f.nvdim = o.nvdim) :
    Accepts M (dotOp f (.fld o))
      ⟨1, none, [], none, (f.kind.join o.kind).ctor⟩ := by
  obtain ⟨hwf, hsf, hmf⟩ := hf
  obtain ⟨hwo, hso, hmo⟩ := ho
  have hcs : checkSame f o false = .ok () := checkSame_ok_iff.mpr ⟨by rw [hmf, hmo]; exact hM.2, Or.inr hn⟩
  obtain ⟨res, hres, hrs⟩ := einsumDot_shape f.data o.data M.n f.nvdim (by rw [hwf.shape, hmf])
    (Or.inl (by rw [hwo.shape, hmo, hn]))
  exact (mkField_scalar_accepts M ⟨res.shape ++ [1], fun idx => res.get idx.dropLast⟩
    (f.kind.join o.kind) (some (NDA.zipWith (fun x y => x && y) f.valid o.valid)) none
    (by show res.shape ++ [1] = _; rw [hrs])
    (mask_and (by rw [hwf.mask, hmf]))).imp fun g hg =>
    dotOp_ok_iff.mpr ⟨hcs, res, hres, by rw [hmf]; exact hg⟩

/-- **`dot` accepts a constant vector of matching length or a per-cell array** -/
theorem dotOp_raw_accepts (M : Mesh) (f : CF) (hf : Good M f) (a : NDA GQ) (k : Kind) (np : Bool)
    (hfit : RawFits M.n f.nvdim (.arr a k np)) :
    Accepts M (dotOp f (.raw (.arr a k np)))
      ⟨1, none, [], none, (f.kind.join k).ctor⟩ := by
  obtain ⟨hwf, hsf, hmf⟩ := hf
  obtain ⟨res, hres, hrs⟩ := einsumDot_shape f.data a M.n f.nvdim (by rw [hwf.shape, hmf])
    (by rcases hfit with h | h
        · exact Or.inr h
        · exact Or.inl h)
  exact (mkField_scalar_accepts M ⟨res.shape ++ [1], fun idx => res.get idx.dropLast⟩
    (f.kind.join k) (some f.valid) none
    (by show res.shape ++ [1] = _; rw [hrs])
    (mask_some (by rw [hwf.mask, hmf]))).imp fun g hg =>
    dotOp_ok_iff.mpr ⟨trivial, res, hres, by rw [hmf]; exact hg⟩

/-- `np.cross` on a 3-component field array and a same-shaped array or constant 3-vector: accepted, same shape -/
theorem npCross_shape (A B : NDA GQ) (s : List Nat) (hA : A.shape = s ++ [3])
    (hB : B.shape = s ++ [3] ∨ B.shape = [3]) : ∃ res, npCross A B = .ok res ∧ res.shape = s ++ [3] := by
  refine ⟨_, npCross_ok_iff.mpr ⟨by rw [hA, lastAx_concat], ?_, s ++ [3], ?_, rfl⟩, rfl⟩
  · rcases hB with h | h <;> rw [h]
    · exact lastAx_concat _ _
    · rfl
  · rw [hA]
    rcases hB with h | h <;> rw [h]
    · exact bshape_self _
    · exact bshape_suffix _ _

/-- the constructor call at the end of `cross`: labels of `self`, default mapping -/
theorem mkField_cross_accepts (M : Mesh) (hM : MeshOk M) (f : CF) (hf : Good M f) (h3 : f.nvdim = 3)
    (res : NDA GQ) (kind : Kind) (valid : NDA Bool) (hs : res.shape = M.n ++ [3]) (hv : valid.shape = M.n) :
    Accepts M (mkField M 3 (.arr res) kind f.vdims (some valid) none none)
      ⟨3, f.vdims, vmapDefault 3 M.region.ndim f.vdims M.region.dims, none, kind.ctor⟩ := by
  obtain ⟨hwf, hsf, _⟩ := hf
  exact mkField_accepts_named M hM.1 3 (.arr res) kind f.vdims (some valid) none none (by omega) (asArray_exact M 3 res hs) rfl
    (mask_some hv) (fun h0 => (hsf.labels hwf.pos [] h0).1 rfl) (by rw [← h3]; exact hsf.1) (vmapSet_none_eq _ _ _ _)

/-- **`cross` accepts two three-component fields on one mesh**: labels of `self`, default
mapping, no unit -/
theorem crossOp_fld_accepts (M : Mesh) (hM : MeshOk M) (f o : CF) (hf : Good M f) (ho : Good M o)
    (h3 : f.nvdim = 3) (h3' : o.nvdim = 3) :
    Accepts M (crossOp f (.fld o))
      ⟨3, f.vdims, vmapDefault 3 M.region.ndim f.vdims M.region.dims, none, (f.kind.join o.kind).ctor⟩ := by
  have hcs : checkSame f o false = .ok () :=
    checkSame_ok_iff.mpr ⟨by rw [hf.mesh, ho.mesh]; exact hM.2, Or.inr (by rw [h3, h3'])⟩
  obtain ⟨res, hres, hrs⟩ := npCross_shape f.data o.data M.n (by rw [hf.wf.shape, hf.mesh, h3])
    (Or.inl (by rw [ho.wf.shape, ho.mesh, h3']))
  exact (mkField_cross_accepts M hM f hf h3 res (f.kind.join o.kind)
    (NDA.zipWith (fun x y => x && y) f.valid o.valid) hrs (by show f.valid.shape = _; rw [hf.wf.mask, hf.mesh])).imp fun g hg =>
    crossOp_ok_iff.mpr ⟨hcs, fun _ ho' => by cases ho'; exact ⟨h3, h3'⟩, res, hres, by rw [hf.mesh]; exact hg⟩

/-- **`cross` accepts a constant 3-vector or a per-cell array of 3-vectors** -/
theorem crossOp_raw_accepts (M : Mesh) (hM : MeshOk M) (f : CF) (hf : Good M f) (h3 : f.nvdim = 3)
    (a : NDA GQ) (k : Kind) (np : Bool) (hfit : RawFits M.n f.nvdim (.arr a k np)) :
    Accepts M (crossOp f (.raw (.arr a k np)))
      ⟨3, f.vdims, vmapDefault 3 M.region.ndim f.vdims M.region.dims, none, (f.kind.join k).ctor⟩ := by
  obtain ⟨res, hres, hrs⟩ := npCross_shape f.data a M.n (by rw [hf.wf.shape, hf.mesh, h3])
    (by rcases hfit with h | h
        · right; rw [h, h3]
        · left; rw [h, h3])
  exact (mkField_cross_accepts M hM f hf h3 res (f.kind.join k) f.valid hrs
    (by rw [hf.wf.mask, hf.mesh])).imp fun g hg =>
    crossOp_ok_iff.mpr ⟨trivial, fun _ ho => Val.noConfusion ho, res, hres, by rw [hf.mesh]; exact hg⟩

/-- a non-field input the ufunc protocol takes: a number or a NumPy array -/
def UfuncOpd : Opd → Prop
  | .num _ _ _ => True
  | .arr _ _ np => np = true

theorem ufuncIn_raw {self : CF} {od : Opd} : UfuncIn self (.raw od) ↔ UfuncOpd od := by
  cases od with
  | num z k np => exact ⟨fun _ => trivial, fun _ => ⟨rfl, rfl⟩⟩
  | arr a k np =>
    cases np with
    | false => exact ⟨fun h => (nomatch h.1), fun h => Bool.noConfusion (h : false = true)⟩
    | true => exact ⟨fun _ => rfl, fun _ => ⟨rfl, rfl⟩⟩

theorem ufuncOpd_of_isNp {od : Opd} (h : isNp od = true) : UfuncOpd od := by
  cases od with
  | num z k np => trivial
  | arr a k np => exact h

/-- **binary ufuncs accept two fields whose meshes are `allclose`** when the result has `self`'s count -/
theorem ufunc2_ff_accepts_close (fn : GQ → GQ → GQ) (pw : Bool) (M M' : Mesh) (hM : MeshOk M) (f o : CF)
    (hf : Good M f) (ho : Good M' o) (hclose : meshAllclose M M' = .ok true)
    (hd : bdim f.nvdim o.nvdim = some f.nvdim) (hpw : negIntPow pw f.kind o.kind o.data = false) :
    Accepts M (ufunc2 fn pw (.fld f) (.fld o))
      ⟨f.nvdim, f.vdims, f.vmap, none, (f.kind.join o.kind).ctor⟩ := by
  have hshape : bshape f.data.shape o.data.shape = some (f.mesh.n ++ [f.nvdim]) := by
    rw [hf.wf.shape, ho.wf.shape, hf.mesh, ho.mesh, ← meshAllclose_n M M' hclose]
    exact bshape_cells _ _ _ _ hd
  obtain ⟨res, hres, hrs⟩ := npBin_shape fn f.data o.data _ hshape
  exact (ufuncWrap_accepts M f hf res (f.kind.join o.kind)
    (NDA.zipWith (fun x y => x && y) f.valid o.valid) hrs hf.wf.mask).imp fun g hg =>
    ufunc2_ok_iff.mpr ⟨f, ⟨rfl, ufuncIn_fld.mpr (by rw [hf.mesh]; exact hM.2),
    ufuncIn_fld.mpr (by rw [hf.mesh, ho.mesh]; exact hclose)⟩, hpw, res, hres, hg⟩

/-- **binary ufunc on two fields** on one mesh: accepted when the result has `self`'s component count -/
theorem ufunc2_ff_accepts (fn : GQ → GQ → GQ) (pw : Bool) (M : Mesh) (hM : MeshOk M) (f o : CF)
    (hf : Good M f) (ho : Good M o) (hd : bdim f.nvdim o.nvdim = some f.nvdim)
    (hpw : negIntPow pw f.kind o.kind o.data = false) :
    Accepts M (ufunc2 fn pw (.fld f) (.fld o))
      ⟨f.nvdim, f.vdims, f.vmap, none, (f.kind.join o.kind).ctor⟩ :=
  ufunc2_ff_accepts_close fn pw M M hM f o hf ho hM.2 hd hpw

/-- **binary ufunc, field first, then a number or NumPy array** -/
theorem ufunc2_fr_accepts (fn : GQ → GQ → GQ) (pw : Bool) (M : Mesh) (hM : MeshOk M) (f : CF)
    (hf : Good M f) (od : Opd) (hfit : RawFits M.n f.nvdim od) (hu : UfuncOpd od)
    (hpw : negIntPow pw f.kind (rawKind od) (rawArr od) = false) :
    Accepts M (ufunc2 fn pw (.fld f) (.raw od))
      ⟨f.nvdim, f.vdims, f.vmap, none, (f.kind.join (rawKind od)).ctor⟩ := by
  obtain ⟨res, hres, hrs⟩ := npBin_shape fn f.data (rawArr od) _ (rawFits_bshape f hf od hfit).1
  exact (ufuncWrap_accepts M f hf res (f.kind.join (rawKind od)) f.valid hrs hf.wf.mask).imp fun g hg =>
    ufunc2_ok_iff.mpr ⟨f, ⟨rfl, ufuncIn_fld.mpr (by rw [hf.mesh]; exact hM.2), ufuncIn_raw.mpr hu⟩, hpw, res, hres, hg⟩

/-- **binary ufunc, a number or NumPy array first, then the field** (also the path of
`np.float64(2) * f`, `ndarray + f`) -/
theorem ufunc2_rf_accepts (fn : GQ → GQ → GQ) (pw : Bool) (M : Mesh) (hM : MeshOk M) (f : CF)
    (hf : Good M f) (od : Opd) (hfit : RawFits M.n f.nvdim od) (hu : UfuncOpd od)
    (hpw : negIntPow pw (rawKind od) f.kind f.data = false) :
    Accepts M (ufunc2 fn pw (.raw od) (.fld f))
      ⟨f.nvdim, f.vdims, f.vmap, none, (f.kind.join (rawKind od)).ctor⟩ := by
  rw [Kind.join_comm]
  obtain ⟨res, hres, hrs⟩ := npBin_shape fn (rawArr od) f.data _ (rawFits_bshape f hf od hfit).2
  exact (ufuncWrap_accepts M f hf res ((rawKind od).join f.kind) f.valid hrs hf.wf.mask).imp fun g hg =>
    ufunc2_ok_iff.mpr ⟨f, ⟨rfl, ufuncIn_raw.mpr hu, ufuncIn_fld.mpr (by rw [hf.mesh]; exact hM.2)⟩, hpw, res, hres, hg⟩

/-- stacking the component slices of two arrays over the same cells: accepted, shape `n ++ [a + b]` -/
theorem npStack_shape (n : List Nat) (A B : NDA GQ) (a b : Nat) (ha : 0 < a) (hA : A.shape.dropLast = n)
    (hB : B.shape.dropLast = n) :
    ∃ res, npStack ((List.range a).map (takeLast A) ++ (List.range b).map (takeLast B)) = .ok res ∧
      res.shape = n ++ [a + b] := by
  refine ⟨_, npStack_ok_iff.mpr ⟨_, parts_head A B a b ha, fun q hq => ?_, rfl⟩, ?_⟩
  · simp only [List.mem_append, List.mem_map] at hq
    rcases hq with ⟨_, _, rfl⟩ | ⟨_, _, rfl⟩
    · rfl
    · exact hB.trans hA.symm
  · show A.shape.dropLast ++ [_] = _
    rw [hA]
    simp

/-- the label setter accepts what `<<` hands it, and stores `shlLabels` -/
theorem shlVdims_accepts (f o : CF) (hf : MetaStable f) (ho : MetaStable o) (hpf : 0 < f.nvdim) (hpo : 0 < o.nvdim) :
    ∃ vd', vdimsSet (f.nvdim + o.nvdim) (shlVdims f.vdims o.vdims) = .ok vd' ∧
      vd' = shlLabels f.vdims o.vdims (f.nvdim + o.nvdim) ∧ shlVdims f.vdims o.vdims ≠ some [] := by
  unfold shlLabels shlVdims
  cases hfv : f.vdims with
  | none => exact ⟨_, rfl, rfl, by simp⟩
  | some a =>
    cases hov : o.vdims with
    | none => exact ⟨_, rfl, rfl, by simp⟩
    | some b =>
      simp only
      obtain ⟨hane, halen, _⟩ := hf.labels hpf a hfv
      obtain ⟨_, hblen, _⟩ := ho.labels hpo b hov
      by_cases hd : hasDup (a ++ b) = true
      · rw [if_pos hd]; exact ⟨_, rfl, rfl, by simp⟩
      · rw [if_neg hd]
        have hne : a ++ b ≠ [] := by simp [hane]
        refine ⟨some (a ++ b), vdimsSet_some_ok_iff.mpr (Or.inr ⟨hne, rfl, by simp [halen, hblen], by simpa using hd⟩), rfl, ?_⟩
        intro h; injection h with h; exact hne h

/-- mapping of `l << r`: the merged dict when it covers all components, else the default -/
def shlMap (M : Mesh) (tl tr : Ty) : VMap :=
  if (dictUpdate tl.vmap tr.vmap).length = tl.nv + tr.nv then dictUpdate tl.vmap tr.vmap
  else vmapDefault (tl.nv + tr.nv) M.region.ndim (shlLabels tl.vdims tr.vdims (tl.nv + tr.nv)) M.region.dims

/-- static result of `l << r` -/
def shlTy (M : Mesh) (tl tr : Ty) : Ty :=
  ⟨tl.nv + tr.nv, shlLabels tl.vdims tr.vdims (tl.nv + tr.nv), shlMap M tl tr, none, kindFF tl tr⟩

/-- **`<<` accepts two fields on one mesh.**  The result has `k + l` components; its labels
are the concatenation when both operands are labelled and no label repeats, the default
labels otherwise; its mapping is the merged dict when that covers all `k + l` components,
the default mapping otherwise; no unit. -/
theorem shlFF_accepts (M : Mesh) (hM : MeshOk M) (f o : CF) (hf : Good M f) (ho : Good M o) :
    Accepts M (shlFF f o) (shlTy M (tyOf f) (tyOf o)) := by
  obtain ⟨hwf, hsf, hmf⟩ := hf
  obtain ⟨hwo, hso, hmo⟩ := ho
  have hpf := hwf.pos
  have hpo := hwo.pos
  have hme : meshEq f.mesh o.mesh = true := by rw [hmf, hmo]; exact meshEq_self M
  obtain ⟨res, hres, hrs⟩ := npStack_shape M.n f.data o.data f.nvdim o.nvdim hpf
    (by rw [hwf.shape, hmf]; simp) (by rw [hwo.shape, hmo]; simp)
  obtain ⟨vd', hvd, hvd', hvne⟩ := shlVdims_accepts f o hsf hso hpf hpo
  have hvshape : ∀ v, some (NDA.zipWith (fun x y => x && y) f.valid o.valid) = some v → v.shape = M.n :=
    mask_and (by rw [hwf.mask, hmf])
  -- the mapping: if the merged dict has `k + l` entries no key repeats (`dictUpdate_full`), hence the two label
  -- lists are disjoint, `vdimsSet` got `la ++ lb` and `sameKeys` holds; otherwise `mapping=None` and the default applies
  have hvm : ∃ vm', vmapSet (f.nvdim + o.nvdim) M.region.ndim vd' M.region.dims
      (if (dictUpdate f.vmap o.vmap).length ≠ f.nvdim + o.nvdim then none else some (dictUpdate f.vmap o.vmap)) = .ok vm' ∧
      vm' = shlMap M (tyOf f) (tyOf o) := by
    by_cases hlen : (dictUpdate f.vmap o.vmap).length = f.nvdim + o.nvdim
    · rw [if_neg (by simpa using hlen)]
      have h1 := hsf.vmap_length hpf
      have h2 := hso.vmap_length hpo
      have h3 := dictUpdate_length_le o.vmap f.vmap
      obtain ⟨heq, _, hdis⟩ := dictUpdate_full o.vmap f.vmap (by omega)
      obtain ⟨la, hla, hka, hda⟩ := hsf.full hpf (by omega)
      obtain ⟨lb, hlb, hkb, hdb⟩ := hso.full hpo (by omega)
      obtain ⟨ka1, ka2, ka3⟩ := (sameKeys_iff _ _).mp hka
      obtain ⟨kb1, kb2, kb3⟩ := (sameKeys_iff _ _).mp hkb
      have hnodup : hasDup (la ++ lb) = false := by
        rw [hasDup_false_iff_nodup, List.nodup_append]
        refine ⟨(hasDup_false_iff_nodup _).mp hda, (hasDup_false_iff_nodup _).mp hdb, ?_⟩
        intro x hx y hy hxy
        subst hxy
        exact hdis x (kb3 x hy) (ka3 x hx)
      have hvdv : vd' = some (la ++ lb) := by
        rw [hvd']; unfold shlLabels shlVdims; rw [hla, hlb]; simp only; rw [if_neg (by simp [hnodup])]
      refine ⟨_, vmapSet_some_ok_iff.mpr (Or.inr ⟨fun h => by omega, rfl, Or.inr ⟨la ++ lb, hvdv, ?_⟩⟩),
        (if_pos hlen).symm⟩
      rw [heq, sameKeys_iff]
      simp only [keys, List.map_append, List.length_append, List.mem_append]
      refine ⟨by simp only [keys] at ka1 kb1; rw [ka1, kb1], ?_, ?_⟩
      · rintro x (hx | hx)
        · exact Or.inl (ka2 x hx)
        · exact Or.inr (kb2 x hx)
      · rintro x (hx | hx)
        · exact Or.inl (ka3 x hx)
        · exact Or.inr (kb3 x hx)
    · rw [if_pos (by simpa using hlen)]
      exact ⟨_, vmapSet_none_eq _ _ _ _, by rw [hvd']; exact (if_neg hlen).symm⟩
  obtain ⟨vm', hvm1, rfl⟩ := hvm
  subst hvd'
  exact (mkField_accepts_named M hM.1 (f.nvdim + o.nvdim) (.arr res) (f.kind.join o.kind) (shlVdims f.vdims o.vdims)
    (some (NDA.zipWith (fun x y => x && y) f.valid o.valid)) _ none (by omega) (asArray_exact M _ res hrs) rfl hvshape
    hvne hvd hvm1).imp fun g hg => shlFF_ok_iff.mpr ⟨hme, res, hres, by rw [hmf]; exact hg⟩

/-- **`f.norm` is accepted**: an unlabelled scalar field with `f`'s unit -/
theorem normOp_accepts (sq : Rat → Rat) (M : Mesh) (f : CF) (hf : Good M f) :
    Accepts M (normOp sq f)
      ⟨1, none, [], f.unit, f.kind.realOf.ctor⟩ := by
  obtain ⟨hwf, _, rfl⟩ := hf
  exact mkField_scalar_accepts f.mesh
    ⟨f.data.shape.dropLast ++ [1], fun idx =>
      ⟨sq (sumTo (lastAx f.data.shape) fun c => GQ.ofRat (f.data.get (idx.dropLast ++ [c])).normSq).re, 0⟩⟩
    f.kind.realOf (some f.valid) f.unit (by show f.data.shape.dropLast ++ [1] = _; rw [hwf.shape]; simp)
    (mask_some hwf.mask)

/-- the chain after `angleVec`: `arccos((self.dot(v) / (self.norm * v.norm)).array)` -/
theorem angleOp_tail_accepts (sq acos : Rat → Rat) (M : Mesh) (hM : MeshOk M) (f : CF) (hf : Good M f) (v : Val)
    (vec : CF) (valid : NDA Bool) (hav : angleVec f v = .ok (vec, valid)) (hvec : Good M vec)
    (hn : f.nvdim = vec.nvdim) (hvs : valid.shape = M.n) :
    Accepts M (angleOp sq acos f v)
      ⟨1, none, [], some "rad", .float⟩ := by
  obtain ⟨d, hd, hdg, hdn, _⟩ := (dotOp_fld_accepts M hM f vec hf hvec hn).conj
  obtain ⟨n1, hn1, hn1g, hn1n, _⟩ := (normOp_accepts sq M f hf).conj
  obtain ⟨n2, hn2, hn2g, hn2n, _⟩ := (normOp_accepts sq M vec hvec).conj
  obtain ⟨p, hp, hpg, hpn, _⟩ := (applyOperator_fld_accepts GQ.mul false M hM n1 n2 hn1g hn2g 1
    (by rw [hn1n, hn2n]; rfl) (negIntPow_false _ _ _)).conj
  obtain ⟨q, hq, hqg, hqn, _⟩ := (applyOperator_fld_accepts GQ.div false M hM d p hdg hpg 1
    (by rw [hdn, hpn]; rfl) (negIntPow_false _ _ _)).conj
  refine (mkField_scalar_accepts M (q.data.map fun z => ⟨acos z.re, 0⟩) .float (some valid) (some "rad")
    (by show q.data.shape = _; rw [hqg.wf.shape, hqg.mesh, hqn]) (mask_some hvs)).imp fun g hg =>
    angleOp_ok_iff.mpr ⟨vec, valid, d, n1, n2, p, q, hav, hd, hn1, hn2, hp, hq, by rw [hf.mesh]; exact hg⟩

/-- **`f.angle(g)` is accepted for two fields with equal component counts on one mesh**: an
unlabelled scalar field without mapping, unit `rad` -/
theorem angleOp_fld_accepts (sq acos : Rat → Rat) (M : Mesh) (hM : MeshOk M) (f o : CF) (hf : Good M f)
    (ho : Good M o) (hn : f.nvdim = o.nvdim) :
    Accepts M (angleOp sq acos f (.fld o))
      ⟨1, none, [], some "rad", .float⟩ := by
  have hcs : checkSame f o false = .ok () := checkSame_ok_iff.mpr ⟨by rw [hf.mesh, ho.mesh]; exact hM.2, Or.inr hn⟩
  exact angleOp_tail_accepts sq acos M hM f hf (.fld o) o (NDA.zipWith (fun x y => x && y) f.valid o.valid)
    (angleVec_ok_iff.mpr ⟨rfl, Or.inl ⟨o, rfl, rfl, hcs⟩⟩) ho hn (by show f.valid.shape = _; rw [hf.wf.mask, hf.mesh])

/-- **`np.add(s, v)` with an unlabelled scalar field first and a vector field second is
accepted**: the result has the vector's component count, the *default* labels for that
count (not the vector's own), an empty mapping and no unit -/
theorem ufunc2_sf_accepts (fn : GQ → GQ → GQ) (pw : Bool) (M : Mesh) (hM : MeshOk M) (f o : CF)
    (hf : Good M f) (ho : Good M o) (h1 : f.nvdim = 1) (hvd : f.vdims = none)
    (hpw : negIntPow pw f.kind o.kind o.data = false) :
    Accepts M (ufunc2 fn pw (.fld f) (.fld o))
      ⟨o.nvdim, Fld.defaultVdims o.nvdim, [], none, (f.kind.join o.kind).ctor⟩ := by
  obtain ⟨hwf, hsf, rfl⟩ := hf
  have hpo : 0 < o.nvdim := ho.wf.pos
  have hvm : f.vmap = [] := (hsf.unlabelled hwf.pos hvd).2
  have hshape : bshape f.data.shape o.data.shape = some (f.mesh.n ++ [o.nvdim]) := by
    rw [hwf.shape, ho.wf.shape, ho.mesh, h1]
    exact bshape_cells _ _ _ _ (bdim_one_left _)
  obtain ⟨res, hres, hrs⟩ := npBin_shape fn f.data o.data _ hshape
  refine (mkField_accepts_named f.mesh hM.1 o.nvdim (.arr res) (f.kind.join o.kind) none
    (some (NDA.zipWith (fun x y => x && y) f.valid o.valid)) (some []) none hpo (asArray_exact _ _ res hrs) rfl
    (mask_some hwf.mask) nofun rfl (vmapSet_some_nil _ _ _ _)).imp fun g hg =>
    ufunc2_ok_iff.mpr ⟨f, ⟨rfl, ufuncIn_fld.mpr hM.2, ufuncIn_fld.mpr (by rw [ho.mesh]; exact hM.2)⟩, hpw, res, hres,
      ufuncWrap_ok_iff.mpr ⟨by rw [hrs]; simp, ?_⟩⟩
  rw [hrs, lastAx_concat, hvd, hvm]
  exact hg

/-- **the constructor accepts an array of the field's shape without labels and with the empty mapping**: default labels,
no mapping -/
theorem mkField_plain_accepts (mesh : Mesh) (nv : Nat) (res : NDA GQ) (kind : Kind) (valid : Option (NDA Bool))
    (unit : Option String) (hnv : 0 < nv) (hs : res.shape = mesh.n ++ [nv]) (hv : ∀ v, valid = some v → v.shape = mesh.n) :
    Accepts mesh (mkField mesh nv (.arr res) kind none valid (some []) unit)
      ⟨nv, Fld.defaultVdims nv, [], unit, kind.ctor⟩ :=
  mkField_accepts mesh nv (.arr res) kind none valid (some []) unit hnv (asArray_exact _ _ res hs) rfl hv rfl
    (vmapSet_some_nil _ _ _ _) (vdimsSet_default nv hnv) (vmapSet_some_nil _ _ _ _)

/-- **the constructor accepts** an array that is not mesh-shaped, not 0-d, whose last axis is `nv` and that
broadcasts to `n ++ [nv]`, with the default labels and mapping -/
theorem mkField_bcast_accepts (mesh : Mesh) (hdims : mesh.region.dims.length = mesh.region.ndim) (nv : Nat)
    (a : NDA GQ) (kind : Kind) (hnv : 0 < nv) (hne : a.shape ≠ mesh.n) (h0 : a.shape ≠ [])
    (hl : lastAx a.shape = nv) (hb : bshape a.shape (mesh.n ++ [nv]) = some (mesh.n ++ [nv])) :
    Accepts mesh (mkField mesh nv (.arr a) kind none none none none)
      ⟨nv, Fld.defaultVdims nv, vmapDefault nv mesh.region.ndim (Fld.defaultVdims nv) mesh.region.dims, none, kind.ctor⟩ :=
  mkField_accepts_named mesh hdims nv (.arr a) kind none none none none hnv (asArray_bcast mesh nv a hne h0 hl hb) rfl nofun
    nofun rfl (vmapSet_none_eq _ _ _ _)

/-- **the constructor accepts a number** as the value of a one-component field -/
theorem mkField_num_accepts (mesh : Mesh) (z : GQ) (kind : Kind) :
    Accepts mesh (mkField mesh 1 (.num z) kind none none none none)
      ⟨1, none, [], none, kind.ctor⟩ :=
  mkField_accepts mesh 1 (.num z) kind none none none none Nat.one_pos (arr := NDA.const (mesh.n ++ [1]) z)
    (by simp [asArray]) rfl nofun vdimsSet_one_none (vmapSet_one_none _ _ _) rfl (vmapSet_some_nil _ _ _ _)

/-- a non-field operand `<<` and `angle` lift to a field: a number, or a constant vector of
`m ≥ 1` entries that is not mesh-shaped -/
def LiftFits (n : List Nat) : Opd → Prop
  | .num _ _ _ => True
  | .arr a _ _ => ∃ m, 0 < m ∧ a.shape = [m] ∧ a.shape ≠ n

/-- static description of the field `<<` builds from a number / constant vector -/
def liftTy (M : Mesh) (od : Opd) : Ty :=
  ⟨liftNv od, Fld.defaultVdims (liftNv od),
   vmapDefault (liftNv od) M.region.ndim (Fld.defaultVdims (liftNv od)) M.region.dims, none, (rawKind od).ctor⟩

/-- **`Field(mesh, nvdim=1 | len(other), value=other)` is accepted** for a number and for a
constant vector: default labels and mapping, no unit -/
theorem liftOpd_accepts (M : Mesh) (hM : MeshOk M) (od : Opd) (hfit : LiftFits M.n od) :
    Accepts M (liftOpd M od) (liftTy M od) := by
  cases od with
  | num z k np => exact mkField_num_accepts M z k
  | arr a k np =>
    obtain ⟨m, hm, ha, hne⟩ := hfit
    have hlen : lenOf a = m := by simp [lenOf, ha]
    refine ((mkField_bcast_accepts M hM.1 m a k hm hne (by rw [ha]; simp) (by rw [ha]; rfl)
      (by rw [ha]; exact bshape_suffix' _ _)).cast (by simp only [liftTy, liftNv, hlen, rawKind])).imp fun g hg =>
      liftOpd_ok_iff.mpr ⟨fun _ _ _ e => by cases e; rw [ha]; simp, by rw [liftNv, hlen]; exact hg⟩

/-- **`f << number` / `f << vector`** is `f << Field(mesh, …, value=other)` -/
theorem shlOp_raw_accepts (M : Mesh) (hM : MeshOk M) (f : CF) (hf : Good M f) (od : Opd) (hfit : LiftFits M.n od) :
    ∃ o g, liftOpd M od = .ok o ∧ Good M o ∧ shlOp f (.raw od) = .ok g ∧ shlFF f o = .ok g := by
  obtain ⟨o, ho, hog, _⟩ := liftOpd_accepts M hM od hfit
  obtain ⟨g, hg, _⟩ := shlFF_accepts M hM f o hf hog
  exact ⟨o, g, ho, hog, shlOp_ok_iff.mpr ⟨o, Or.inr ⟨od, rfl, by rw [hf.mesh]; exact ho⟩, hg⟩, hg⟩

/-- `f << number`, `f << vector`: the stack of `f` and the field built from the operand -/
theorem shlOp_lift_accepts (M : Mesh) (hM : MeshOk M) (f : CF) (hf : Good M f) (od : Opd) (hfit : LiftFits M.n od) :
    Accepts M (shlOp f (.raw od)) (shlTy M (tyOf f) (liftTy M od)) := by
  obtain ⟨o, ho, hog, hot⟩ := liftOpd_accepts M hM od hfit
  obtain ⟨g, hg, hgg, hgt⟩ := shlFF_accepts M hM f o hf hog
  exact ⟨g, shlOp_ok_iff.mpr ⟨o, Or.inr ⟨od, rfl, by rw [hf.mesh]; exact ho⟩, hg⟩, hgg, by rw [hgt, hot]⟩

/-- `number << f`, `list << f` (`__rlshift__`): the stack of the field built from the operand and `f` -/
theorem reflectedOp_shl_accepts (M : Mesh) (hM : MeshOk M) (f : CF) (hf : Good M f) (od : Opd) (hfit : LiftFits M.n od) :
    Accepts M (reflectedOp .shl od f) (shlTy M (liftTy M od) (tyOf f)) := by
  obtain ⟨o, ho, hog, hot⟩ := liftOpd_accepts M hM od hfit
  obtain ⟨g, hg, hgg, hgt⟩ := shlFF_accepts M hM o f hog hf
  exact ⟨g, reflectedOp_ok_iff.mpr (Or.inr (Or.inr (Or.inr (Or.inr ⟨rfl, o, by rw [hf.mesh]; exact ho, hg⟩)))), hgg,
    by rw [hgt, hot]⟩

/-- the reflected elementwise methods for a plain Python operand: `other + self` and `other * self` are the forward
operators, `other - self` is `-self + other`, `other / self` is `np.divide(other, self)` -/
theorem reflectedOp_arith_accepts (b : BinOp) (hb : isArith b = true) (M : Mesh) (f : CF) (hf : Good M f) (od : Opd)
    (hfit : RawFits M.n f.nvdim od) :
    Accepts M (reflectedOp b od f) ⟨f.nvdim, f.vdims, f.vmap, none, (f.kind.join (rawKind od)).ctor⟩ := by
  cases b
  case add => exact applyOperator_raw_accepts GQ.add false M f hf od hfit (negIntPow_false _ _ _)
  case mul => exact applyOperator_raw_accepts GQ.mul false M f hf od hfit (negIntPow_false _ _ _)
  case div => exact applyOperator_raw_accepts (fun x y => GQ.div y x) false M f hf od hfit (negIntPow_false _ _ _)
  case sub =>
    obtain ⟨g0, h0, hg0, n0, v0, m0, _, k0⟩ := (mapField_accepts GQ.neg id false M f hf).conj
    obtain ⟨g, h, hg, h1, h2, h3, h4, h5⟩ := (applyOperator_raw_accepts GQ.add false M g0 hg0 od
      (by rw [n0]; exact hfit) (negIntPow_false _ _ _)).conj
    exact .of_conj ⟨g, reflectedOp_ok_iff.mpr (Or.inr (Or.inl ⟨rfl, g0, h0, h⟩)), hg, h1.trans n0, h2.trans v0, h3.trans m0, h4,
      by rw [h5, k0]; exact Kind.join_ctor_left _ _⟩
  all_goals cases hb

/-- `list & f` (`__rand__`) is `-self.cross(other)` -/
theorem reflectedOp_cross_accepts (M : Mesh) (hM : MeshOk M) (f : CF) (hf : Good M f) (h3 : f.nvdim = 3)
    (a : NDA GQ) (k : Kind) (hfit : RawFits M.n f.nvdim (.arr a k false)) :
    Accepts M (reflectedOp .cross (.arr a k false) f)
      ⟨3, f.vdims, vmapDefault 3 M.region.ndim f.vdims M.region.dims, none, (f.kind.join k).ctor⟩ := by
  obtain ⟨g0, h0, hg0, n0, v0, m0, _, k0⟩ := (crossOp_raw_accepts M hM f hf h3 a k false hfit).conj
  obtain ⟨g, h, hg, h1, h2, h3', h4, h5⟩ := (mapField_accepts GQ.neg id false M g0 hg0).conj
  exact .of_conj ⟨g, reflectedOp_ok_iff.mpr (Or.inr (Or.inr (Or.inr (Or.inl ⟨rfl, g0, h0, h⟩)))), hg, h1.trans n0, h2.trans v0, h3'.trans m0, h4,
    by rw [h5, k0]; exact Kind.ctor_ctor _⟩

/-- a non-field second operand of `angle`: a number for a scalar field, a constant vector of
`nvdim` entries or a per-cell array of the field's shape (not mesh-shaped) -/
def AngleFits (n : List Nat) (nv : Nat) : Opd → Prop
  | .num _ _ _ => nv = 1
  | .arr a _ _ => (a.shape = [nv] ∨ a.shape = n ++ [nv]) ∧ a.shape ≠ n

/-- **`f.angle(number | vector | per-cell array)` is accepted**: an unlabelled scalar field
without mapping, unit `rad` -/
theorem angleOp_raw_accepts (sq acos : Rat → Rat) (M : Mesh) (hM : MeshOk M) (f : CF) (hf : Good M f) (od : Opd)
    (hfit : AngleFits M.n f.nvdim od) :
    Accepts M (angleOp sq acos f (.raw od))
      ⟨1, none, [], some "rad", .float⟩ := by
  have hvs : f.valid.shape = M.n := by rw [hf.wf.mask, hf.mesh]
  cases od with
  | num z k np =>
    have h1 : f.nvdim = 1 := hfit
    obtain ⟨vec, hv, hvg, hvn, _⟩ := Accepts.conj <| mkField_num_accepts M z k
    exact angleOp_tail_accepts sq acos M hM f hf _ vec f.valid
      (angleVec_ok_iff.mpr ⟨rfl, Or.inr ⟨_, rfl, fun _ _ _ _ => h1, by rw [hf.mesh, h1]; exact hv⟩⟩) hvg (by rw [h1, hvn]) hvs
  | arr a k np =>
    obtain ⟨hsh, hne⟩ := hfit
    -- a constant vector or a per-cell array: not 0-d, last axis `nvdim`, broadcasts to the field's shape
    have hb : a.shape ≠ [] ∧ lastAx a.shape = f.nvdim ∧
        bshape a.shape (M.n ++ [f.nvdim]) = some (M.n ++ [f.nvdim]) := by
      rcases hsh with h | h
      · rw [h]; exact ⟨List.cons_ne_nil _ _, rfl, bshape_suffix' _ _⟩
      · rw [h]; exact ⟨by simp, lastAx_concat _ _, bshape_self _⟩
    obtain ⟨vec, hv, hvg, hvn, _⟩ := Accepts.conj <|
      mkField_bcast_accepts M hM.1 f.nvdim a k hf.wf.pos hne hb.1 hb.2.1 hb.2.2
    exact angleOp_tail_accepts sq acos M hM f hf _ vec f.valid
      (angleVec_ok_iff.mpr ⟨rfl, Or.inr ⟨_, rfl, nofun, by rw [hf.mesh]; exact hv⟩⟩) hvg hvn.symm hvs

theorem meshAllclose_self (M : Mesh) (h1 : 0 ≤ M.region.tol) (h2 : 0 ≤ M.region.atol) :
    meshAllclose M M = .ok true := by
  unfold meshAllclose
  rw [if_neg (by simp)]
  have hr : regionAllclose M.region M.region = true := by
    unfold regionAllclose allLt
    simp only [Bool.and_eq_true, List.all_eq_true]
    exact ⟨fun a _ => C01.isclose_self _ _ _ h1 h2, fun a _ => C01.isclose_self _ _ _ h1 h2⟩
  rw [hr]
  simp

/-- **`f.label` is accepted for every label of `f`**: an unlabelled scalar field without
mapping that keeps the unit -/
theorem getComp_accepts (M : Mesh) (f : CF) (hf : Good M f) (vd : List String) (hvd : f.vdims = some vd)
    (l : String) (hl : l ∈ vd) :
    Accepts M (getComp f l) ⟨1, none, [], f.unit, f.kind.ctor⟩ := by
  obtain ⟨hwf, hsf, rfl⟩ := hf
  obtain ⟨c, hc⟩ := exists_indexOf?_of_mem vd l hl
  exact (mkField_accepts f.mesh 1 (.arr ⟨f.data.shape.dropLast ++ [1], fun idx => f.data.get (idx.dropLast ++ [c])⟩)
    f.kind none (some f.valid) _ f.unit Nat.one_pos
    (asArray_exact f.mesh 1 _ (show f.data.shape.dropLast ++ [1] = _ by rw [hwf.shape]; simp)) rfl (mask_some hwf.mask)
    vdimsSet_one_none (vmapSet_one_unlabelled _ _ _ (by split <;> simp)) rfl (vmapSet_some_nil _ _ _ _)).imp fun g hg =>
    getComp_ok_iff.mpr ⟨vd, c, hvd, hc, hg⟩

/-- `acc << f.l₁ << f.l₂ << …` is accepted for labels of `f` -/
theorem stackFrom_accepts (M : Mesh) (hM : MeshOk M) (f : CF) (hf : Good M f) (vd : List String)
    (hvd : f.vdims = some vd) :
    ∀ (ls : List String) (acc : CF), (∀ l ∈ ls, l ∈ vd) → Good M acc →
      ∃ g, stackFrom f acc ls = .ok g ∧ Good M g ∧ g.nvdim = acc.nvdim + ls.length := by
  intro ls
  induction ls with
  | nil => intro acc _ hacc; exact ⟨acc, rfl, hacc, rfl⟩
  | cons l ls ih =>
    intro acc hls hacc
    obtain ⟨c, hc, hcg, hcn, _⟩ := (getComp_accepts M f hf vd hvd l (hls l (by simp))).conj
    obtain ⟨a, ha, hag, hat⟩ := shlFF_accepts M hM acc c hacc hcg
    have han : a.nvdim = acc.nvdim + c.nvdim := congrArg Ty.nv hat
    obtain ⟨g, hg, hgg, hgn⟩ := ih a (fun x hx => hls x (by simp [hx])) hag
    refine ⟨g, ?_, hgg, ?_⟩
    · exact stackFrom_cons_ok_iff.mpr ⟨c, a, hc, ha, hg⟩
    · rw [hgn, han, hcn]; simp only [List.length_cons]; omega

/-- **the stack of all components of a labelled field is accepted** -/
theorem stackComps_accepts (M : Mesh) (hM : MeshOk M) (f : CF) (hf : Good M f) (vd : List String)
    (hvd : f.vdims = some vd) : ∃ g, stackComps f = .ok g ∧ Good M g := by
  obtain ⟨hne, _, _⟩ := hf.2.1.labels hf.wf.pos vd hvd
  cases vd with
  | nil => exact absurd rfl hne
  | cons l ls =>
    obtain ⟨c, hc, hcg, _⟩ := getComp_accepts M f hf (l :: ls) hvd l (by simp)
    obtain ⟨g, hg, hgg, _⟩ := stackFrom_accepts M hM f hf (l :: ls) hvd ls c (fun x hx => by simp [hx]) hcg
    exact ⟨g, stackComps_ok_iff.mpr ⟨l, ls, c, hvd, hc, hg⟩, hgg⟩

/-! ## refusals: the contrapositive of one conjunct of a method's equivalence -/

/-- a forward method other than `<<` is refused when `_check_same_mesh_and_field_dim` refuses the two fields -/
theorem applyBin_unchecked (env : Env) {b : BinOp} (hu : isUfuncBin b = false) (hb : b ≠ .shl) (f o : CF)
    (h : checkSame f o (!isStrict b) ≠ .ok ()) : ∃ e, applyBin env b (.fld f) (.fld o) = .error e := by
  rw [applyBin_forward env hu]
  exact liftFld_error (err_of_not_ok _ fun _ hg => h (forwardOp_checked hb hg))

/-- `_apply_operator` refuses two fields whose counts do not broadcast -/
theorem applyOperator_fld_nvdim_rejected (fn : GQ → GQ → GQ) (pw : Bool) (f o : CF)
    (h : bdim f.nvdim o.nvdim = none) : ∃ e, applyOperator fn pw f (.fld o) = .error e :=
  err_of_not_ok _ fun _ hg => by
    have := (checkSame_bdim_iff.mp (applyOperator_ok_iff.mp hg).1).2
    rw [h] at this
    cases this

/-- NumPy's integer-power rule refuses, whatever else holds -/
theorem applyOperator_fld_negpow_rejected (fn : GQ → GQ → GQ) (pw : Bool) (f o : CF)
    (h : negIntPow pw f.kind o.kind o.data = true) : ∃ e, applyOperator fn pw f (.fld o) = .error e :=
  err_of_not_ok _ fun _ hg => Bool.noConfusion (h.symm.trans (applyOperator_ok_iff.mp hg).2.1)

/-- NumPy's integer-power rule refuses inside `__array_ufunc__` too -/
theorem ufunc2_ff_negpow_rejected (fn : GQ → GQ → GQ) (pw : Bool) (f o : CF)
    (h : negIntPow pw f.kind o.kind o.data = true) : ∃ e, ufunc2 fn pw (.fld f) (.fld o) = .error e :=
  err_of_not_ok _ fun _ hg =>
    let ⟨_, _, hp, _⟩ := ufunc2_ok_iff.mp hg
    Bool.noConfusion (h.symm.trans hp)

/-- **a labelled scalar field first is refused** when the second field has several components:
`__array_ufunc__` hands the one label of `self` to the constructor of a vector field -/
theorem ufunc2_sf_rejected (fn : GQ → GQ → GQ) (pw : Bool) (f o : CF) (hwf : CFwf f) (hst : MetaStable f)
    (hwo : CFwf o) (hn : f.mesh.n = o.mesh.n) (h1 : f.nvdim = 1) (h2 : 1 < o.nvdim) (l : List String)
    (hvd : f.vdims = some l) :
    ∃ e, ufunc2 fn pw (.fld f) (.fld o) = .error e := by
  have hshape : bshape f.data.shape o.data.shape = some (f.mesh.n ++ [o.nvdim]) := by
    rw [hwf.shape, hwo.shape, ← hn, h1]
    exact bshape_cells _ _ _ _ (bdim_one_left _)
  refine err_of_not_ok _ fun g hg => ?_
  obtain ⟨self, ⟨hs, _, _⟩, _, res, hres, hw⟩ := ufunc2_ok_iff.mp hg
  cases Option.some.inj hs
  have hmk := (ufuncWrap_ok_iff.mp hw).2
  rw [Option.some.inj ((bshape_of_npBin hres).symm.trans hshape), lastAx_concat, hvd] at hmk
  -- the constructor is handed the one label of `f` for `o.nvdim` components
  exact hst.labels_refused hwf.pos hvd (by omega) (mkField_meta hmk).1

/-- binary ufuncs refuse two fields with different component counts (both above 1) -/
theorem ufunc2_nvdim_rejected (fn : GQ → GQ → GQ) (pw : Bool) (f o : CF) (hf : CFwf f) (ho : CFwf o)
    (hne : f.nvdim ≠ o.nvdim) (h1 : f.nvdim ≠ 1) (h2 : o.nvdim ≠ 1) :
    ∃ e, ufunc2 fn pw (.fld f) (.fld o) = .error e :=
  err_of_not_ok _ fun _ hg =>
    let ⟨_, _, _, _, hres, _⟩ := ufunc2_ok_iff.mp hg
    nomatch (npBin_last_rejected fn f.data o.data _ _ _ _ hf.1 ho.1 hne h1 h2).symm.trans hres

/-- `_apply_operator` refuses a constant vector whose length is not the component count -/
theorem applyOperator_vector_rejected (fn : GQ → GQ → GQ) (pw : Bool) (f : CF) (hw : CFwf f) (a : NDA GQ) (k : Kind)
    (np : Bool) (m : Nat) (ha : a.shape = [m]) (hm : m ≠ f.nvdim) (h1 : f.nvdim ≠ 1) :
    applyOperator fn pw f (.raw (.arr a k np)) = .error .type := by
  have hc : ¬ (f.data.shape = a.shape ∨ f.nvdim = a.shape.headD 0 ∨ f.nvdim = 1) := by
    rw [ha, hw.1]
    rintro (h | h | h)
    · have hl := congrArg List.length h
      simp only [List.length_append, List.length_cons, List.length_nil] at hl
      have hn : f.mesh.n = [] := List.eq_nil_of_length_eq_zero (by omega)
      rw [hn] at h
      simp at h
      exact hm h.symm
    · exact hm (by simpa using h.symm)
    · exact h1 h
  simp only [applyOperator]
  rw [if_neg (by rw [ha]; simp), if_pos hc]

/-- the same vector on the left of a NumPy-dispatched operator -/
theorem ufunc2_vector_rejected (fn : GQ → GQ → GQ) (pw : Bool) (f : CF) (hw : CFwf f) (a : NDA GQ) (k : Kind)
    (m : Nat) (ha : a.shape = [m]) (hm : m ≠ f.nvdim) (h1 : f.nvdim ≠ 1) (hm1 : m ≠ 1) :
    ∃ e, ufunc2 fn pw (.raw (.arr a k true)) (.fld f) = .error e :=
  err_of_not_ok _ fun _ hg =>
    let ⟨_, _, _, _, hres, _⟩ := ufunc2_ok_iff.mp hg
    nomatch (npBin_last_rejected fn a f.data [] f.mesh.n m f.nvdim (by rw [ha]; rfl) hw.1 hm hm1 h1).symm.trans hres

end DFV.C03
