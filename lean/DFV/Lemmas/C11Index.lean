import DFV.Lemmas.C01
import DFV.Lemmas.ListOps
import DFV.Model.C11
/-!
C11: the index maps of the transforms as maps on boxes of indices — `fftshift`/`ifftshift` over
all axes (`fshift`, `ishift`) and over all axes but the last (`fshiftR`, `ishiftR`), negation mod
the counts (`negIdx`), the mirror maps (`mirror`, `mirrorR`), the half-spectrum shape, cyclic
translation (`rollIdx`).  `fshift`, `ishift`, `negIdx` are `axiswise` maps, `fshiftR`, `ishiftR` are
`leadwise` maps, and `LeadIn` is the hypothesis the partial shifts need; `lastShift` and `zeroIdxR` name
the cells the real transform is compared with.  Arithmetic on `Nat` and `List Nat` only.
-/
namespace DFV.C11
open DFV

/-! ### one axis -/

theorem fshift1_ishift1 (n j : Nat) (hj : j < n) : ((j + n / 2) % n + (n - n / 2)) % n = j := by
  rw [Nat.mod_add_mod]
  have : j + n / 2 + (n - n / 2) = j + n := by omega
  rw [this, Nat.add_mod_right, Nat.mod_eq_of_lt hj]

theorem ishift1_fshift1 (n j : Nat) (hj : j < n) : ((j + (n - n / 2)) % n + n / 2) % n = j := by
  rw [Nat.mod_add_mod]
  have : j + (n - n / 2) + n / 2 = j + n := by omega
  rw [this, Nat.add_mod_right, Nat.mod_eq_of_lt hj]

/-- negation mod `n` is an involution -/
theorem neg1_neg1 (n j : Nat) (hj : j < n) : (n - ((n - j % n) % n) % n) % n = j := by
  rw [Nat.mod_eq_of_lt hj]
  by_cases h0 : j = 0
  · subst h0; simp
  · rw [Nat.mod_eq_of_lt (by omega : n - j < n), Nat.mod_eq_of_lt (by omega : n - j < n)]
    have : n - (n - j) = j := by omega
    rw [this, Nat.mod_eq_of_lt hj]

/-- negation mod `n` is the additive inverse mod `n` -/
theorem mod_neg_add (n x : Nat) (hn : 0 < n) : ((n - x % n) % n + x) % n = 0 := by
  have hx := Nat.mod_add_div x n
  have hlt := Nat.mod_lt x hn
  have h : n - x % n + x = n + n * (x / n) := by omega
  rw [Nat.mod_add_mod, h, Nat.add_mul_mod_self_left, Nat.mod_self]

/-- cancelling a summand mod `n`.  `Nat` has no subtraction to cancel with, so the step is done in `Int`
(`Int.emod_add_cancel_right`) and cast back -/
theorem mod_add_cancel (n x y c : Nat) (h : (x + c) % n = (y + c) % n) : x % n = y % n := by
  have := (Int.emod_add_cancel_right (m := x) (n := n) (k := y) (c : Int)).mp (by exact_mod_cast h)
  exact_mod_cast this

/-- per axis the mirror index is `(2⌊n/2⌋ - m) mod n`: frequency `(m - ⌊n/2⌋)/(n·cell)` goes to
`-(m - ⌊n/2⌋)/(n·cell)` (for even `n` the Nyquist cell `m = 0` is its own mirror) -/
theorem mirror1_closed (n m : Nat) (hm : m < n) :
    ((n - ((m + (n - n / 2)) % n) % n) % n + n / 2) % n = (2 * (n / 2) - m) % n := by
  -- both sides plus `m + ⌈n/2⌉` are `⌊n/2⌋` mod `n`
  apply mod_add_cancel n _ _ (m + (n - n / 2))
  rw [show 2 * (n / 2) - m + (m + (n - n / 2)) = n / 2 + n by omega, Nat.add_mod_right, Nat.mod_mod,
    Nat.add_right_comm, Nat.add_mod, mod_neg_add n _ (by omega), Nat.zero_add, Nat.mod_mod]

theorem roll_back (n t r : Nat) (hr : r < n) : ((r + (n - t % n)) % n + t) % n = r := by
  have hn : 0 < n := by omega
  have ht : t % n < n := Nat.mod_lt _ hn
  have h1 : ((r + (n - t % n)) % n + t) % n = (r + (n - t % n) + t) % n := by
    rw [Nat.add_mod, Nat.mod_mod, ← Nat.add_mod]
  rw [h1]
  have h2 : r + (n - t % n) + t = r + n * (1 + t / n) := by
    have := Nat.div_add_mod t n
    have e : n * (1 + t / n) = n + n * (t / n) := by ring
    omega
  rw [h2, Nat.add_mul_mod_self_left, Nat.mod_eq_of_lt hr]

/-! ### entries and last entries of index lists -/

theorem pos_getD (ns : List Nat) (hpos : ∀ n ∈ ns, 0 < n) (a : Nat) (ha : a < ns.length) : 0 < ns.getD a 0 :=
  hpos _ (getD_mem ns a 0 ha)

theorem headD_eq_getD (l : List Nat) : l.headD 0 = l.getD 0 0 := by cases l <;> rfl

theorem getD_tail (l : List Nat) (a : Nat) : l.tail.getD a 0 = l.getD (a + 1) 0 := by cases l <;> simp

theorem getLastD_eq_getD (l : List Nat) : l.getLastD 0 = l.getD (l.length - 1) 0 := by
  rw [List.getLastD_eq_getLast?, List.getLast?_eq_getElem?, List.getD_eq_getElem?_getD]

theorem getLastD_cons_ne (x : Nat) (xs : List Nat) (h : xs ≠ []) : (x :: xs).getLastD 0 = xs.getLastD 0 := by
  cases xs with
  | nil => exact absurd rfl h
  | cons y ys => simp

theorem ne_nil_of_inRange {ns m : List Nat} (h : inRange ns m = true) (hns : ns ≠ []) : m ≠ [] := by
  intro e
  apply hns
  have := inRange_length _ _ h
  rw [e] at this
  exact List.eq_nil_of_length_eq_zero this.symm

theorem last_lt_of_inRange (s m : List Nat) (h : inRange s m = true) (hs : s ≠ []) :
    m.getLastD 0 < s.getLastD 0 := by
  have hlen := inRange_length _ _ h
  have hl : 0 < s.length := List.length_pos_iff.mpr hs
  rw [getLastD_eq_getD, getLastD_eq_getD, hlen]
  exact inRange_getD s m h _ (by omega)

/-! ### index maps that act on every axis separately

`imap φ ns m` has entry `φ a n_a m_a` on axis `a`; the axis map may look at the position `a`.
Every index map of the transforms has this form — `fshift`, `ishift`, `negIdx` with an axis map
that ignores the position (`axiswise`), `rollIdx` with one that reads the translation of its axis,
the partial shifts of the real transforms with one that leaves the last axis alone (`leadwise`) —
so range, entries, inverses and the invariance of box sums are proved for `imap` only. -/

def imap (φ : Nat → Nat → Nat → Nat) (ns m : List Nat) : List Nat :=
  tab m.length fun a => φ a (ns.getD a 0) (m.getD a 0)

theorem imap_length (φ : Nat → Nat → Nat → Nat) (ns m : List Nat) : (imap φ ns m).length = m.length := tab_length _ _

theorem imap_getD (φ : Nat → Nat → Nat → Nat) (ns m : List Nat) (a : Nat) (ha : a < m.length) :
    (imap φ ns m).getD a 0 = φ a (ns.getD a 0) (m.getD a 0) := getD_tab _ _ _ _ ha

theorem imap_cons (φ : Nat → Nat → Nat → Nat) (n : Nat) (ns : List Nat) (j : Nat) (js : List Nat) :
    imap φ (n :: ns) (j :: js) = φ 0 n j :: imap (fun a => φ (a + 1)) ns js := by
  unfold imap; rw [List.length_cons, tab_succ_cons]; rfl

theorem imap_inRange (φ : Nat → Nat → Nat → Nat) (hφ : ∀ a n j, j < n → φ a n j < n) (ns m : List Nat)
    (h : inRange ns m = true) : inRange ns (imap φ ns m) = true := by
  unfold imap; rw [inRange_length _ _ h]
  exact inRange_tab ns _ fun a ha => hφ a _ _ (inRange_getD ns m h a ha)

theorem imap_inv (φ ψ : Nat → Nat → Nat → Nat) (ns m : List Nat)
    (h : ∀ a, a < m.length → φ a (ns.getD a 0) (ψ a (ns.getD a 0) (m.getD a 0)) = m.getD a 0) :
    imap φ ns (imap ψ ns m) = m := by
  refine (eq_tab_of_getD m _ _ 0 (imap_length ψ ns m).symm fun a ha => ?_).symm
  rw [imap_length] at ha
  rw [imap_getD ψ ns m a ha, h a ha]

/-- the recursion of `fshift`, `ishift`, `negIdx`: the same axis map `φ n_a m_a` on every axis -/
def axiswise (φ : Nat → Nat → Nat) : List Nat → List Nat → List Nat
  | n :: ns, j :: js => φ n j :: axiswise φ ns js
  | _, _ => []

theorem axiswise_eq_imap (φ : Nat → Nat → Nat) (ns m : List Nat) (h : m.length = ns.length) :
    axiswise φ ns m = imap (fun _ => φ) ns m := by
  induction ns generalizing m with
  | nil => cases m <;> simp_all [axiswise, imap, tab]
  | cons n ns ih =>
    cases m with
    | nil => simp at h
    | cons j js => rw [axiswise, imap_cons, ih js (by simpa using h)]

theorem axiswise_inRange (φ : Nat → Nat → Nat) (hφ : ∀ n j, j < n → φ n j < n) (ns m : List Nat)
    (h : inRange ns m = true) : inRange ns (axiswise φ ns m) = true := by
  rw [axiswise_eq_imap φ ns m (inRange_length _ _ h)]; exact imap_inRange _ (fun _ => hφ) ns m h

theorem axiswise_length (φ : Nat → Nat → Nat) (ns m : List Nat) (h : m.length = ns.length) :
    (axiswise φ ns m).length = ns.length := by
  rw [axiswise_eq_imap φ ns m h, imap_length, h]

theorem axiswise_getD (φ : Nat → Nat → Nat) (ns m : List Nat) (h : m.length = ns.length) (a : Nat)
    (ha : a < ns.length) : (axiswise φ ns m).getD a 0 = φ (ns.getD a 0) (m.getD a 0) := by
  rw [axiswise_eq_imap φ ns m h]; exact imap_getD _ ns m a (h ▸ ha)

theorem axiswise_inv (φ ψ : Nat → Nat → Nat) (hinv : ∀ n j, j < n → φ n (ψ n j) = j) (ns m : List Nat)
    (h : inRange ns m = true) : axiswise φ ns (axiswise ψ ns m) = m := by
  have hl := inRange_length _ _ h
  rw [axiswise_eq_imap ψ ns m hl, axiswise_eq_imap φ ns _ (by rw [imap_length, hl])]
  exact imap_inv _ _ ns m fun a ha => hinv _ _ (inRange_getD ns m h a (hl ▸ ha))

/-! the model's `fshift`, `ishift`, `negIdx` are `axiswise`, equation by equation (three times the same proof) -/

theorem fshift_eq : fshift = axiswise fun n j => (j + (n - n / 2)) % n := by
  funext ns m; induction ns generalizing m <;> cases m <;> simp [fshift, axiswise, *]

theorem ishift_eq : ishift = axiswise fun n j => (j + n / 2) % n := by
  funext ns m; induction ns generalizing m <;> cases m <;> simp [ishift, axiswise, *]

theorem negIdx_eq : negIdx = axiswise fun n j => (n - j % n) % n := by
  funext ns m; induction ns generalizing m <;> cases m <;> simp [negIdx, axiswise, *]

/-- `fftshift ∘ ifftshift = id` on every in-range index, any shape -/
theorem fshift_ishift (ns m : List Nat) (h : inRange ns m = true) : fshift ns (ishift ns m) = m := by
  rw [fshift_eq, ishift_eq]; exact axiswise_inv _ _ fshift1_ishift1 ns m h

/-- `ifftshift ∘ fftshift = id` -/
theorem ishift_fshift (ns m : List Nat) (h : inRange ns m = true) : ishift ns (fshift ns m) = m := by
  rw [fshift_eq, ishift_eq]; exact axiswise_inv _ _ ishift1_fshift1 ns m h

theorem ishift_inRange (ns m : List Nat) (h : inRange ns m = true) : inRange ns (ishift ns m) = true := by
  rw [ishift_eq]; exact axiswise_inRange _ (fun n j hj => Nat.mod_lt _ (by omega)) ns m h

theorem fshift_inRange (ns m : List Nat) (h : inRange ns m = true) : inRange ns (fshift ns m) = true := by
  rw [fshift_eq]; exact axiswise_inRange _ (fun n j hj => Nat.mod_lt _ (by omega)) ns m h

theorem negIdx_inRange (ns k : List Nat) (hk : inRange ns k = true) : inRange ns (negIdx ns k) = true := by
  rw [negIdx_eq]; exact axiswise_inRange _ (fun n j hj => Nat.mod_lt _ (by omega)) ns k hk

theorem fshift_length (ns m : List Nat) (h : m.length = ns.length) : (fshift ns m).length = ns.length := by
  rw [fshift_eq]; exact axiswise_length _ ns m h

theorem fshift_getD (ns m : List Nat) (h : m.length = ns.length) (a : Nat) (ha : a < ns.length) :
    (fshift ns m).getD a 0 = (m.getD a 0 + (ns.getD a 0 - ns.getD a 0 / 2)) % ns.getD a 0 := by
  rw [fshift_eq]; exact axiswise_getD _ ns m h a ha

theorem ishift_getD (ns m : List Nat) (h : m.length = ns.length) (a : Nat) (ha : a < ns.length) :
    (ishift ns m).getD a 0 = (m.getD a 0 + ns.getD a 0 / 2) % ns.getD a 0 := by
  rw [ishift_eq]; exact axiswise_getD _ ns m h a ha

/-- at the index `⌊n/2⌋` of every axis the shifted array reads the zero-frequency entry (positivity of the counts is
not needed: `0 % 0 = 0`; the hypothesis is what the callers have at hand) -/
theorem fshift_centre (ns : List Nat) (_h : ∀ n ∈ ns, 0 < n) (a : Nat) :
    (fshift ns (ns.map (· / 2))).getD a 0 = 0 := by
  have hl : (ns.map (· / 2)).length = ns.length := List.length_map _
  by_cases ha : a < ns.length
  · -- `⌊n/2⌋ + ⌈n/2⌉ = n` on the axis
    rw [fshift_getD ns _ hl a ha, getD_map_of_eq (f := (· / 2)) (Nat.zero_div 2), Nat.add_sub_cancel' (Nat.div_le_self _ 2),
      Nat.mod_self]
  · rw [List.getD_eq_getElem?_getD, List.getElem?_eq_none (by rw [fshift_length ns _ hl]; omega)]; rfl

theorem negIdx_negIdx (ns k : List Nat) (hk : inRange ns k = true) : negIdx ns (negIdx ns k) = k := by
  rw [negIdx_eq]; exact axiswise_inv _ _ neg1_neg1 ns k hk

theorem negIdx_length (ns k : List Nat) (hk : inRange ns k = true) : (negIdx ns k).length = ns.length :=
  inRange_length _ _ (negIdx_inRange ns k hk)

theorem negIdx_getD (ns k : List Nat) (hk : inRange ns k = true) (a : Nat) (ha : a < ns.length) :
    (negIdx ns k).getD a 0 = (ns.getD a 0 - k.getD a 0 % ns.getD a 0) % ns.getD a 0 := by
  rw [negIdx_eq]; exact axiswise_getD _ ns k (inRange_length _ _ hk) a ha

theorem negIdx_last (ns k : List Nat) (hk : inRange ns k = true) :
    (negIdx ns k).getLastD 0 = (ns.getLastD 0 - k.getLastD 0 % ns.getLastD 0) % ns.getLastD 0 := by
  have hlen := inRange_length _ _ hk
  rw [getLastD_eq_getD, getLastD_eq_getD, getLastD_eq_getD, negIdx_length ns k hk, hlen]
  by_cases h0 : ns.length = 0
  · have hns : ns = [] := List.eq_nil_of_length_eq_zero h0
    subst hns
    cases k with
    | nil => simp [negIdx]
    | cons x xs => simp [inRange] at hk
  · exact negIdx_getD ns k hk _ (by omega)

/-- the k-cell of the opposite frequency: unshift, negate mod the counts, shift back -/
def mirror (ns m : List Nat) : List Nat := ishift ns (negIdx ns (fshift ns m))

theorem mirror_inRange (ns m : List Nat) (hm : inRange ns m = true) : inRange ns (mirror ns m) = true :=
  ishift_inRange _ _ (negIdx_inRange _ _ (fshift_inRange _ _ hm))

theorem mirror_getD (ns m : List Nat) (hm : inRange ns m = true) (a : Nat) (ha : a < ns.length) :
    (mirror ns m).getD a 0 = (2 * (ns.getD a 0 / 2) - m.getD a 0) % ns.getD a 0 := by
  have hf := fshift_inRange ns m hm
  have hn := negIdx_inRange ns _ hf
  unfold mirror
  rw [ishift_getD ns _ (inRange_length _ _ hn) a ha, negIdx_getD ns _ hf a ha,
    fshift_getD ns m (inRange_length _ _ hm) a ha]
  exact mirror1_closed _ _ (inRange_getD ns m hm a ha)

/-! ### the half shape and the partial shifts of the real transforms -/

theorem halfShape_length (ns : List Nat) : (halfShape ns).length = ns.length := by simp [halfShape]

theorem halfShape_getD (ns : List Nat) (a : Nat) (ha : a < ns.length) :
    (halfShape ns).getD a 0 = if a + 1 = ns.length then ns.getD a 0 / 2 + 1 else ns.getD a 0 := by
  unfold halfShape; rw [getD_tab _ _ _ _ ha]

theorem halfShape_eq_setAt (ns : List Nat) :
    halfShape ns = setAt ns (ns.length - 1) (ns.getD (ns.length - 1) 0 / 2 + 1) := by
  refine list_eq_of_getD _ _ 0 (by rw [halfShape_length, length_setAt]) fun a ha => ?_
  rw [halfShape_length] at ha
  rw [halfShape_getD ns a ha, getD_setAt]
  by_cases h : a + 1 = ns.length
  · rw [if_pos h, if_pos ⟨by omega, by omega⟩, show ns.length - 1 = a by omega]
  · rw [if_neg h, if_neg fun h' => h (by omega)]

theorem halfShape_cons (n : Nat) (ns : List Nat) (h : ns ≠ []) : halfShape (n :: ns) = n :: halfShape ns := by
  unfold halfShape
  rw [List.length_cons, tab_succ_cons]
  congr 1
  · have : ¬ (0 + 1 = ns.length + 1) := by
      intro e; apply h; exact List.eq_nil_of_length_eq_zero (by omega)
    rw [if_neg this]; rfl
  · apply tab_congr
    intro a _
    simp only [List.getD_cons_succ]
    by_cases h : a + 1 = ns.length
    · rw [if_pos h, if_pos (by omega)]
    · rw [if_neg h, if_neg (by omega)]

theorem last_le_of_inRange_half (s m : List Nat) (h : inRange (halfShape s) m = true) :
    m.getLastD 0 ≤ s.getLastD 0 / 2 := by
  have hlen : m.length = s.length := by rw [inRange_length _ _ h, halfShape_length]
  rw [getLastD_eq_getD, getLastD_eq_getD, hlen]
  by_cases hl : s.length = 0
  · rw [List.eq_nil_of_length_eq_zero (hlen.trans hl)]; exact Nat.zero_le _
  · have hb := inRange_getD _ _ h (s.length - 1) (by rw [halfShape_length]; omega)
    rw [halfShape_getD s _ (by omega), if_pos (by omega)] at hb
    omega

/-- index of the cell of the full (shifted) transform that holds DFT frequency `j ≥ 0` of the
last axis: `(j + ⌊n/2⌋) mod n` there, other entries unchanged -/
def lastShift (ns m : List Nat) : List Nat :=
  tab m.length fun a => if a + 1 = m.length then (m.getD a 0 + ns.getD a 0 / 2) % ns.getD a 0 else m.getD a 0

theorem lastShift_length (ns m : List Nat) : (lastShift ns m).length = m.length := tab_length _ _

theorem lastShift_getD (ns m : List Nat) (a : Nat) (ha : a < m.length) :
    (lastShift ns m).getD a 0
      = if a + 1 = m.length then (m.getD a 0 + ns.getD a 0 / 2) % ns.getD a 0 else m.getD a 0 :=
  getD_tab _ _ _ _ ha

/-- an axis map applied to every axis but the last: the shape of `fshiftR` and `ishiftR` -/
def leadwise (φ : Nat → Nat → Nat) (ns m : List Nat) : List Nat :=
  imap (fun a n j => if a + 1 = m.length then j else φ n j) ns m

theorem fshiftR_eq : fshiftR = leadwise fun n j => (j + (n - n / 2)) % n := rfl

theorem ishiftR_eq : ishiftR = leadwise fun n j => (j + n / 2) % n := rfl

theorem leadwise_getD (φ : Nat → Nat → Nat) (ns m : List Nat) (a : Nat) (ha : a < m.length) :
    (leadwise φ ns m).getD a 0 = if a + 1 = m.length then m.getD a 0 else φ (ns.getD a 0) (m.getD a 0) :=
  imap_getD _ ns m a ha

theorem leadwise_length (φ : Nat → Nat → Nat) (ns m : List Nat) : (leadwise φ ns m).length = m.length :=
  imap_length _ ns m

theorem leadwise_last (φ : Nat → Nat → Nat) (ns m : List Nat) : (leadwise φ ns m).getLastD 0 = m.getLastD 0 := by
  rw [getLastD_eq_getD, getLastD_eq_getD, leadwise_length]
  by_cases h0 : m.length = 0
  · have h1 : leadwise φ ns m = [] := List.eq_nil_of_length_eq_zero (by rw [leadwise_length]; exact h0)
    have h2 : m = [] := List.eq_nil_of_length_eq_zero h0
    rw [h1, h2]
  · rw [leadwise_getD φ ns m _ (by omega), if_pos (by omega)]

theorem leadwise_inRange (φ : Nat → Nat → Nat) (hφ : ∀ n j, j < n → φ n j < n) (ns m : List Nat)
    (h : inRange ns m = true) : inRange ns (leadwise φ ns m) = true :=
  imap_inRange _ (fun a n j hj => by split; exact hj; exact hφ n j hj) ns m h

theorem fshiftR_getD (ns m : List Nat) (a : Nat) (ha : a < m.length) :
    (fshiftR ns m).getD a 0
      = if a + 1 = m.length then m.getD a 0 else (m.getD a 0 + (ns.getD a 0 - ns.getD a 0 / 2)) % ns.getD a 0 :=
  leadwise_getD (fun n j => (j + (n - n / 2)) % n) ns m a ha

theorem fshiftR_length (ns m : List Nat) : (fshiftR ns m).length = m.length := leadwise_length (fun n j => (j + (n - n / 2)) % n) ns m

theorem fshiftR_last (ns m : List Nat) : (fshiftR ns m).getLastD 0 = m.getLastD 0 := leadwise_last (fun n j => (j + (n - n / 2)) % n) ns m

theorem ishiftR_last (ns m : List Nat) : (ishiftR ns m).getLastD 0 = m.getLastD 0 := leadwise_last (fun n j => (j + n / 2) % n) ns m

/-- on the leading axes the full shift and the partial one agree; on the last axis `lastShift` has undone it -/
theorem fshift_lastShift (ns m : List Nat) (hpos : ∀ n ∈ ns, 0 < n) (h : inRange (halfShape ns) m = true) :
    fshift ns (lastShift ns m) = fshiftR ns m := by
  have hlen : m.length = ns.length := by rw [inRange_length _ _ h, halfShape_length]
  have hl2 : (lastShift ns m).length = ns.length := (lastShift_length ns m).trans hlen
  refine list_eq_of_getD _ _ 0 (by rw [fshift_length ns _ hl2, fshiftR_length, hlen]) fun a ha => ?_
  rw [fshift_length ns _ hl2] at ha
  rw [fshift_getD ns _ hl2 a ha, lastShift_getD ns m a (hlen ▸ ha), fshiftR_getD ns m a (hlen ▸ ha)]
  split
  · have hb := inRange_getD _ _ h a (by rw [halfShape_length]; exact ha)
    rw [halfShape_getD ns a ha, if_pos (by omega)] at hb
    have hn := pos_getD ns hpos a ha
    exact fshift1_ishift1 _ _ (by omega)
  · rfl

/-- the shift of the leading axes only looks at the leading counts, which the half shape shares -/
theorem ishiftR_half (s x : List Nat) (hl : x.length = s.length) : ishiftR (halfShape s) x = ishiftR s x := by
  rw [ishiftR_eq]
  refine list_eq_of_getD _ _ 0 (by rw [leadwise_length, leadwise_length]) fun a ha => ?_
  rw [leadwise_length] at ha
  rw [leadwise_getD _ _ x a ha, leadwise_getD _ _ x a ha]
  split
  · rfl
  · rw [halfShape_getD s a (by omega), if_neg (by omega)]

/-- index of the zero-frequency cell of the real transform: `⌊n/2⌋` on the shifted axes, 0 on
the last -/
def zeroIdxR (ns : List Nat) : List Nat :=
  tab ns.length fun b => if b + 1 = ns.length then 0 else ns.getD b 0 / 2

theorem zeroIdxR_length (ns : List Nat) : (zeroIdxR ns).length = ns.length := tab_length _ _

theorem zeroIdxR_getD (ns : List Nat) (b : Nat) (hb : b < ns.length) :
    (zeroIdxR ns).getD b 0 = if b + 1 = ns.length then 0 else ns.getD b 0 / 2 :=
  getD_tab _ _ _ _ hb

theorem fshiftR_zeroIdxR (ns : List Nat) (_hpos : ∀ n ∈ ns, 0 < n) (b : Nat) :
    (fshiftR ns (zeroIdxR ns)).getD b 0 = 0 := by
  by_cases hb : b < ns.length
  · rw [fshiftR_getD ns _ b (by rw [zeroIdxR_length]; exact hb), zeroIdxR_length, zeroIdxR_getD ns b hb]
    split
    · rfl
    · rw [Nat.add_sub_cancel' (Nat.div_le_self _ 2), Nat.mod_self]
  · exact getD_tab_ge _ _ _ _ (by rw [zeroIdxR_length]; omega)

/-- `m` has as many entries as `ns` and every entry but the last is in range — all that the
partial shifts `fshiftR`, `ishiftR` look at.  It holds on the full box and on the half box. -/
def LeadIn (ns m : List Nat) : Prop :=
  m.length = ns.length ∧ ∀ a, a + 1 < ns.length → m.getD a 0 < ns.getD a 0

theorem LeadIn.of_inRange {ns m : List Nat} (h : inRange ns m = true) : LeadIn ns m :=
  ⟨inRange_length _ _ h, fun a ha => inRange_getD _ _ h a (by omega)⟩

theorem LeadIn.of_half {ns m : List Nat} (h : inRange (halfShape ns) m = true) : LeadIn ns m := by
  refine ⟨by rw [inRange_length _ _ h, halfShape_length], fun a ha => ?_⟩
  have hb := inRange_getD _ _ h a (by rw [halfShape_length]; omega)
  rwa [halfShape_getD ns a (by omega), if_neg (by omega)] at hb

theorem leadwise_inv (φ ψ : Nat → Nat → Nat) (hinv : ∀ n j, j < n → φ n (ψ n j) = j) (ns m : List Nat)
    (h : LeadIn ns m) : leadwise φ ns (leadwise ψ ns m) = m := by
  unfold leadwise
  rw [imap_length]
  refine imap_inv _ _ ns m fun a ha => ?_
  split
  · rfl
  · exact hinv _ _ (h.2 a (by have := h.1; omega))

theorem ishiftR_fshiftR (ns m : List Nat) (h : LeadIn ns m) : ishiftR ns (fshiftR ns m) = m :=
  leadwise_inv (fun n j => (j + n / 2) % n) (fun n j => (j + (n - n / 2)) % n) ishift1_fshift1 ns m h

theorem fshiftR_ishiftR (ns m : List Nat) (h : LeadIn ns m) : fshiftR ns (ishiftR ns m) = m :=
  leadwise_inv (fun n j => (j + (n - n / 2)) % n) (fun n j => (j + n / 2) % n) fshift1_ishift1 ns m h

theorem fshiftR_inRange (ns m : List Nat) (hpos : ∀ n ∈ ns, 0 < n) (h : inRange (halfShape ns) m = true) :
    inRange ns (fshiftR ns m) = true := by
  have hlen : m.length = ns.length := by rw [inRange_length _ _ h, halfShape_length]
  apply C01.inRange_of_getD _ _ (by rw [fshiftR_length, hlen])
  intro a ha
  rw [fshiftR_getD ns m a (by omega)]
  have hn := pos_getD ns hpos a ha
  by_cases hlast : a + 1 = m.length
  · rw [if_pos hlast]
    have hb := inRange_getD _ _ h a (by rw [halfShape_length]; exact ha)
    rw [halfShape_getD ns a ha, if_pos (by omega)] at hb
    omega
  · rw [if_neg hlast]; exact Nat.mod_lt _ hn

theorem fshiftR_inRange_full (ns m : List Nat) (h : inRange ns m = true) : inRange ns (fshiftR ns m) = true :=
  leadwise_inRange (fun n j => (j + (n - n / 2)) % n) (fun n j hj => Nat.mod_lt _ (by omega)) ns m h

theorem ishiftR_inRange_full (ns m : List Nat) (h : inRange ns m = true) : inRange ns (ishiftR ns m) = true :=
  leadwise_inRange (fun n j => (j + n / 2) % n) (fun n j hj => Nat.mod_lt _ (by omega)) ns m h

theorem mirrorR_inRange (s m : List Nat) (h : inRange s m = true) : inRange s (mirrorR s m) = true :=
  ishiftR_inRange_full s _ (negIdx_inRange s _ (fshiftR_inRange_full s m h))

theorem fshiftR_mirrorR (s m : List Nat) (h : inRange s m = true) :
    fshiftR s (mirrorR s m) = negIdx s (fshiftR s m) :=
  fshiftR_ishiftR s _ (.of_inRange (negIdx_inRange s _ (fshiftR_inRange_full s m h)))

theorem mirrorR_mirrorR (s m : List Nat) (h : inRange s m = true) : mirrorR s (mirrorR s m) = m := by
  unfold mirrorR
  rw [fshiftR_ishiftR s _ (.of_inRange (negIdx_inRange s _ (fshiftR_inRange_full s m h))),
    negIdx_negIdx s _ (fshiftR_inRange_full s m h), ishiftR_fshiftR s m (.of_inRange h)]

theorem mirrorR_last (s m : List Nat) (h : inRange s m = true) :
    (mirrorR s m).getLastD 0 = (s.getLastD 0 - m.getLastD 0 % s.getLastD 0) % s.getLastD 0 := by
  unfold mirrorR
  rw [ishiftR_last, negIdx_last s _ (fshiftR_inRange_full s m h), fshiftR_last]

/-- a plane index stays a plane index under the mirror map -/
theorem plane_mirror (s m : List Nat) (h : inRange s m = true)
    (hp : m.getLastD 0 = 0 ∨ 2 * m.getLastD 0 = s.getLastD 0) :
    (mirrorR s m).getLastD 0 = 0 ∨ 2 * (mirrorR s m).getLastD 0 = s.getLastD 0 := by
  rw [mirrorR_last s m h]
  rcases hp with h0 | h2
  · left; rw [h0]; simp
  · right
    have hl : m.getLastD 0 < s.getLastD 0 ∨ s.getLastD 0 = 0 := by omega
    rcases hl with hl | hl
    · rw [Nat.mod_eq_of_lt hl, Nat.mod_eq_of_lt (by omega)]; omega
    · rw [hl] at h2 ⊢; simp

/-! ### cyclic translation -/

/-- index of the cell that moves to cell `r` when the array is translated cyclically by `t`
cells: `(r - t) mod n` per axis -/
def rollIdx : List Nat → List Nat → List Nat → List Nat
  | n :: ns, t :: ts, r :: rs => ((r + (n - t % n)) % n) :: rollIdx ns ts rs
  | _, _, _ => []

theorem rollIdx_eq_imap (ns t r : List Nat) (ht : t.length = ns.length) (hr : r.length = ns.length) :
    rollIdx ns t r = imap (fun a n j => (j + (n - t.getD a 0 % n)) % n) ns r := by
  induction ns generalizing t r with
  | nil => cases r <;> simp_all [rollIdx, imap, tab]
  | cons n ns ih =>
    cases t with
    | nil => simp at ht
    | cons t0 ts =>
      cases r with
      | nil => simp at hr
      | cons r0 rs =>
        rw [rollIdx, imap_cons, ih ts rs (by simpa using ht) (by simpa using hr)]
        simp only [List.getD_cons_zero, List.getD_cons_succ]

end DFV.C11
