import DFV.Lemmas.C09Reader
/-! The subregion side-car file: `Region(**val)` and the three checks of the `subregions` setter pass for boxes of
whole cells (`loadOneSub_ok`), so what `save_subregions` wrote is loaded again (`loadSub_saveSub`). -/
namespace DFV.C09
open DFV

/-- a three-dimensional mesh as the reader builds it -/
structure Mesh3 (m : Mesh) : Prop where
  pmin3 : m.region.pmin.length = 3
  pmax3 : m.region.pmax.length = 3
  n3 : m.n.length = 3
  lt : ∀ a, a < 3 → m.region.lo a < m.region.hi a
  npos : ∀ a, a < 3 → 0 < m.nAt a
  dims : m.region.dims.length = 3 ∧ hasDup m.region.dims = false
  units : m.region.units.length = 3

/-- `s` is the box of cells `i a ≤ · < j a` of mesh `m` on every axis -/
structure SubOf (m : Mesh) (s : Region) (i j : Nat → Nat) : Prop where
  pmin3 : s.pmin.length = 3
  pmax3 : s.pmax.length = 3
  dims : s.dims.length = 3 ∧ hasDup s.dims = false
  units : s.units.length = 3
  lt : ∀ a, a < 3 → i a < j a ∧ j a ≤ m.nAt a
  lo : ∀ a, a < 3 → s.lo a = m.region.lo a + (i a : Rat) * m.cellAt a
  hi : ∀ a, a < 3 → s.hi a = m.region.lo a + (j a : Rat) * m.cellAt a

/-- the region the `subregions` setter stores: corners of `s`, everything else from the mesh -/
def retag (m : Mesh) (s : Region) : Region :=
  { pmin := s.pmin, pmax := s.pmax, dims := m.region.dims, units := m.region.units, tol := m.region.tol }

theorem subOf_geometry {m : Mesh} (M : Mesh3 m) {s : Region} {i j : Nat → Nat} (S : SubOf m s i j) (a : Nat) (ha : a < 3) :
    0 < m.cellAt a ∧ s.lo a < s.hi a ∧ m.region.lo a ≤ s.lo a ∧ s.hi a ≤ m.region.hi a ∧
      0 < j a - i a ∧ s.edge a = ((j a - i a : Nat) : Rat) * m.cellAt a := by
  have hcell := C01.cellAt_pos m a (M.npos a ha) (M.lt a ha)
  -- whole numbers of cells, compared: `k ≤ k'` cells are `k * cell ≤ k' * cell`
  have hmul : ∀ k k' : Nat, k ≤ k' → (k : Rat) * m.cellAt a ≤ (k' : Rat) * m.cellAt a :=
    fun k k' h => mul_le_mul_of_nonneg_right (Nat.cast_le.mpr h) hcell.le
  have h1 := hmul 0 (i a) (Nat.zero_le _)
  have h2 := hmul (j a) (m.nAt a) (S.lt a ha).2
  have h3 := mul_lt_mul_of_pos_right (Nat.cast_lt (α := Rat).mpr (S.lt a ha).1) hcell
  rw [Nat.cast_zero, zero_mul] at h1
  refine ⟨hcell, ?_, ?_, ?_, by have := (S.lt a ha).1; omega, ?_⟩
  · rw [S.lo a ha, S.hi a ha]; linarith
  · rw [S.lo a ha]; linarith
  · rw [S.hi a ha, C01.hi_eq m a (M.npos a ha)]; linarith
  · unfold Region.edge
    rw [S.lo a ha, S.hi a ha, Nat.cast_sub (S.lt a ha).1.le]; ring

/-- `Region(**val)` on ordered corners of a box of whole cells, whatever names, units and tolerance it is given -/
theorem regionMk_subOf {m : Mesh} (M : Mesh3 m) {s : Region} {i j : Nat → Nat} (S : SubOf m s i j)
    (d u : List String) (hd : d.length = 3 ∧ hasDup d = false) (hu : u.length = 3) (tol : Rat) :
    Region.mk? s.pmin s.pmax (some d) (some u) tol = .ok { pmin := s.pmin, pmax := s.pmax, dims := d, units := u, tol := tol } :=
  T.mk?_ok_of_lt s.pmin s.pmax (some d) (some u) d u tol (by rw [S.pmin3, S.pmax3]) (by rw [S.pmin3]; omega)
    (T.dimsOk_some _ _ (by rw [hd.1, S.pmin3]) hd.2) (T.unitsOk_some _ _ (by rw [hu, S.pmin3]))
    fun a ha => (subOf_geometry M S a (S.pmin3 ▸ ha)).2.1

theorem containsReg_subOf {m : Mesh} (M : Mesh3 m) {s : Region} {i j : Nat → Nat} (S : SubOf m s i j) :
    m.region.containsReg s = true := by
  have hnd : m.region.ndim = 3 := M.pmin3
  refine C01.containsReg_of_exact m.region s (by rw [hnd, S.pmin3]) (by rw [hnd, S.pmax3]) fun a ha => ?_
  obtain ⟨_, h1, h2, h3, _⟩ := subOf_geometry M S a (hnd ▸ ha)
  exact ⟨⟨h2, h1.le.trans h3⟩, h2.trans h1.le, h3⟩

/-- the mesh of the box with the cells of `m`: `j - i` cells on every axis -/
def subMesh (s : Region) (i j : Nat → Nat) : Mesh :=
  { region := s, n := [j 0 - i 0, j 1 - i 1, j 2 - i 2], bc := "", subs := [] }

theorem subMesh_nAt (s : Region) (i j : Nat → Nat) : ∀ a, a < 3 → (subMesh s i j).nAt a = j a - i a :=
  forall_lt3 rfl rfl rfl

/-- the box is a whole number of cells of `m` on every axis: `Mesh(region=sub, cell=m.cell)` is `subMesh` -/
theorem mkCell_subOf {m : Mesh} (M : Mesh3 m) {s : Region} {i j : Nat → Nat} (S : SubOf m s i j) :
    Mesh.mkCell? s m.cell = .ok (subMesh s i j) := by
  have hsnd : s.ndim = 3 := S.pmin3
  have hcells : m.cell = tab s.ndim fun a => s.edge a / (((subMesh s i j).n.getD a 0 : Nat) : Rat) := by
    unfold Mesh.cell Mesh.ndim
    rw [show m.region.ndim = 3 from M.pmin3, hsnd]
    refine tab_congr _ _ _ fun a ha => ?_
    obtain ⟨_, _, _, _, hpos, hedge⟩ := subOf_geometry M S a ha
    have hne : ((j a - i a : Nat) : Rat) ≠ 0 := by exact_mod_cast hpos.ne'
    rw [show (subMesh s i j).n.getD a 0 = j a - i a from subMesh_nAt s i j a ha, hedge]
    field_simp
  rw [hcells]
  exact mkCell_ok s _ (by rw [hsnd]; rfl) (fun a ha => (subOf_geometry M S a (hsnd ▸ ha)).2.1)
    (fun a ha => by rw [show (subMesh s i j).n.getD a 0 = j a - i a from subMesh_nAt s i j a (hsnd ▸ ha)]
                    exact (subOf_geometry M S a (hsnd ▸ ha)).2.2.2.2.1)

theorem notDivisible_mul (k : Nat) (c tol : Rat) (hc : 0 < c) (ht : 0 ≤ tol) :
    Mesh.notDivisible ((k : Rat) * c) c tol = false := by
  have := C01.notDivisible_of_multiple (k : Int) c tol hc ht
  rwa [Int.cast_natCast] at this

/-- same cells, faces a whole number of cells from the faces of the mesh: the alignment test passes -/
theorem isAligned_subOf {m : Mesh} (M : Mesh3 m) {s : Region} {i j : Nat → Nat} (S : SubOf m s i j) :
    isAligned m (subMesh s i j) (1 / 1000000000000) = true := by
  have hnd : m.ndim = 3 := M.pmin3
  unfold isAligned
  rw [Bool.and_eq_true, allLt_iff, allLt_iff, hnd]
  refine ⟨fun a ha => ?_, fun a ha => ?_⟩
  · obtain ⟨_, _, _, _, hpos, hedge⟩ := subOf_geometry M S a ha
    have hsc : (subMesh s i j).cellAt a = m.cellAt a := by
      have hne : ((j a - i a : Nat) : Rat) ≠ 0 := by exact_mod_cast hpos.ne'
      show s.edge a / _ = _
      rw [subMesh_nAt s i j a ha, hedge]; field_simp
    rw [hsc]
    exact C01.isclose_self _ _ _ (by norm_num) (by norm_num)
  · obtain ⟨hcell, _, hlo, hhi, _, _⟩ := subOf_geometry M S a ha
    have e1 : absR (m.region.lo a - s.lo a) = (i a : Rat) * m.cellAt a := by
      rw [absR_eq_abs, abs_of_nonpos (by linarith), S.lo a ha]; ring
    have e2 : absR (m.region.hi a - s.hi a) = ((m.nAt a - j a : Nat) : Rat) * m.cellAt a := by
      rw [absR_eq_abs, abs_of_nonneg (by linarith), S.hi a ha, C01.hi_eq m a (M.npos a ha), Nat.cast_sub (S.lt a ha).2]
      ring
    rw [show (subMesh s i j).region = s from rfl, e1, e2, notDivisible_mul _ _ _ hcell (by norm_num),
      notDivisible_mul _ _ _ hcell (by norm_num)]
    rfl

/-- one side-car entry passes `Region(**val)` and all three checks of the `subregions`
setter and comes back with its own corners -/
theorem loadOneSub_ok (m : Mesh) (M : Mesh3 m) (s : Region) (i j : Nat → Nat) (S : SubOf m s i j) :
    loadOneSub m s = .ok (retag m s) := by
  unfold loadOneSub
  have c2 : allLt s.pmin.length (fun a => decide (s.pmin.getD a 0 < s.pmax.getD a 0)) = true := by
    rw [allLt_iff]; intro a ha; exact decide_eq_true (subOf_geometry M S a (S.pmin3 ▸ ha)).2.1
  rw [if_neg (by rw [S.pmin3, S.pmax3]; simp), c2, regionMk_subOf M S s.dims s.units S.dims S.units s.tol]
  simp only [Bool.not_true, Bool.false_eq_true, if_false]
  rw [containsReg_subOf M S]
  simp only [Bool.not_true, Bool.false_eq_true, if_false]
  rw [mkCell_subOf M S]
  simp only
  rw [isAligned_subOf M S]
  simp only [Bool.not_true, Bool.false_eq_true, if_false]
  exact regionMk_subOf M S m.region.dims m.region.units M.dims M.units m.region.tol

/-- `load_subregions` on what `save_subregions` wrote, for boxes of whole cells of the loading mesh -/
theorem loadSub_saveSub (m m' : Mesh) (M : Mesh3 m')
    (h : ∀ p ∈ m.subs, ∃ i j, SubOf m' p.2 i j) :
    loadSub m' (saveSub m) = .ok { m' with subs := m.subs.map fun p => (p.1, retag m' p.2) } := by
  unfold loadSub saveSub
  have key : ∀ (l : List (String × Region)), (∀ p ∈ l, ∃ i j, SubOf m' p.2 i j) →
      l.mapM (fun p => (loadOneSub m' p.2).map fun r => (p.1, r))
        = .ok (l.map fun p => (p.1, retag m' p.2)) := by
    intro l hl
    induction l with
    | nil => rfl
    | cons p ps ih =>
      obtain ⟨i, j, S⟩ := hl p (by simp)
      rw [List.mapM_cons, loadOneSub_ok m' M p.2 i j S, ih (fun q hq => hl q (by simp [hq]))]
      rfl
  rw [key m.subs h]

theorem corners_retag (m : Mesh) (subs : List (String × Region)) :
    (subs.map fun p => (p.1, retag m p.2)).map (fun p => (p.1, p.2.pmin, p.2.pmax))
      = subs.map fun p => (p.1, p.2.pmin, p.2.pmax) := by
  simp [List.map_map, Function.comp_def, retag]

theorem mesh3_meshOf (lo hi : Nat → Rat) (n : Nat → Nat) (mu : String)
    (hlt : ∀ a, a < 3 → lo a < hi a) (hn : ∀ a, a < 3 → 0 < n a) : Mesh3 (meshOf lo hi n mu) := by
  refine ⟨rfl, rfl, rfl, ?_, ?_, ⟨rfl, (by decide : hasDup ["x", "y", "z"] = false)⟩, rfl⟩
  · exact forall_lt3 (hlt 0 (by omega)) (hlt 1 (by omega)) (hlt 2 (by omega))
  · exact forall_lt3 (hn 0 (by omega)) (hn 1 (by omega)) (hn 2 (by omega))

theorem subOf_meshOf (m : Mesh) (mu : String) (s : Region) (i j : Nat → Nat) (S : SubOf m s i j) :
    SubOf (meshOf m.region.lo m.region.hi m.nAt mu) s i j := by
  have e : ∀ a, a < 3 →
      (meshOf m.region.lo m.region.hi m.nAt mu).nAt a = m.nAt a ∧
      (meshOf m.region.lo m.region.hi m.nAt mu).region.lo a = m.region.lo a ∧
      (meshOf m.region.lo m.region.hi m.nAt mu).cellAt a = m.cellAt a :=
    forall_lt3 ⟨rfl, rfl, rfl⟩ ⟨rfl, rfl, rfl⟩ ⟨rfl, rfl, rfl⟩
  refine ⟨S.pmin3, S.pmax3, S.dims, S.units, ?_, ?_, ?_⟩
  · intro a ha; rw [(e a ha).1]; exact S.lt a ha
  · intro a ha; rw [(e a ha).2.1, (e a ha).2.2]; exact S.lo a ha
  · intro a ha; rw [(e a ha).2.1, (e a ha).2.2]; exact S.hi a ha

end DFV.C09
