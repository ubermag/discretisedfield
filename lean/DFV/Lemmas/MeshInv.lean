import DFV.Lemmas.C01Ctor
/-! The mesh constructors and the cell counts of a mesh with the mesh invariant, as C13 and the families
built on its mesh step use them: the `subregions` setter (`setSubs_ok_iff`, `setSubs_error_iff`) and `mkMesh?` as equivalences, the mesh invariant assembled from
its parts, positivity of the counts under `swapAt`. -/
namespace DFV.T
open DFV

theorem setSubs_ok_iff (m m' : Mesh) (subs : List (String × Region)) :
    setSubs m subs = .ok m' ↔ (∀ p ∈ subs, candOk m p.2 = true) ∧
      m' = { m with subs := subs.map fun p => (p.1, stampFor m.region p.2) } := by
  unfold setSubs
  split
  · rename_i h; exact ⟨fun e => ⟨List.all_eq_true.mp h, (Except.ok.inj e).symm⟩, fun ⟨_, e⟩ => e ▸ rfl⟩
  · rename_i h; exact ⟨fun e => (nomatch e), fun ⟨h', _⟩ => absurd (List.all_eq_true.mpr h') h⟩

theorem setSubs_error_iff (m : Mesh) (subs : List (String × Region)) (e : Err) :
    setSubs m subs = .error e ↔ e = .value ∧ ∃ p ∈ subs, candOk m p.2 = false := by
  unfold setSubs
  split
  · rename_i h
    exact ⟨fun e' => (nomatch e'), fun ⟨_, p, hp, hb⟩ => by rw [List.all_eq_true.mp h p hp] at hb; cases hb⟩
  · rename_i h
    refine ⟨fun e' => ⟨(Except.error.inj e').symm, ?_⟩, fun ⟨e', _⟩ => e' ▸ rfl⟩
    rw [List.all_eq_true] at h
    obtain ⟨p, hp⟩ := not_forall.mp h
    exact ⟨p, (Classical.not_imp.mp hp).1, Bool.eq_false_iff.mpr (Classical.not_imp.mp hp).2⟩

/-- `Mesh(region=r, n=n, bc=bc, subregions=subs)` -/
theorem mkMesh?_ok_iff (r : Region) (n : List Nat) (bc : String) (subs : List (String × Region)) (m' : Mesh) :
    mkMesh? r n bc subs = .ok m' ↔ n.length = r.ndim ∧ (∀ a, a < r.ndim → 1 ≤ n.getD a 0) ∧ Mesh.bcOk r.dims bc.toLower = true ∧
      (∀ p ∈ subs, candOk { region := r, n := n, bc := bc.toLower, subs := [] } p.2 = true) ∧
      m' = { region := r, n := n, bc := bc.toLower, subs := subs.map fun p => (p.1, stampFor r p.2) } := by
  unfold mkMesh?
  cases h0 : Mesh.mkN? r n bc with
  | error e =>
    refine ⟨fun h => (nomatch h), fun ⟨a, b, c, _⟩ => ?_⟩
    rw [(C01.mkN_ok_iff' r n bc _).mpr ⟨a, b, c, rfl⟩] at h0; cases h0
  | ok m0 =>
    obtain ⟨a, b, c, rfl⟩ := (C01.mkN_ok_iff' r n bc m0).mp h0
    simp only [setSubs_ok_iff, a, c, true_and]
    exact (and_iff_right b).symm

theorem mkMesh?_error (r : Region) (n : List Nat) (bc : String) (subs : List (String × Region)) (e : Err)
    (h : mkMesh? r n bc subs = .error e) : e = .value := by
  unfold mkMesh? at h
  cases h0 : Mesh.mkN? r n bc with
  | error e0 =>
    rw [h0] at h; cases h
    unfold Mesh.mkN? at h0
    split at h0
    · cases h0; rfl
    · split at h0
      · cases h0; rfl
      · split at h0
        · cases h0; rfl
        · cases h0
  | ok m0 =>
    rw [h0] at h
    exact ((setSubs_error_iff m0 subs e).mp h).1

end DFV.T

namespace DFV.C13
open DFV DFV.T

theorem nAt_pos_of_mem (m : Mesh) (hl : m.n.length = m.ndim) (h : ∀ k ∈ m.n, 0 < k) (a : Nat) (ha : a < m.ndim) :
    0 < m.nAt a :=
  h _ (getD_mem m.n a 0 (lt_of_lt_of_eq ha hl.symm))

theorem meshInv_of_parts (m : Mesh) (hr : m.region.Inv) (hl : m.n.length = m.region.ndim) (hp : ∀ k ∈ m.n, 0 < k) : m.Inv :=
  ⟨hr, hl, nAt_pos_of_mem m hl hp⟩

theorem mem_swapAt_pos (n : List Nat) (i j : Nat) (h : ∀ k ∈ n, 0 < k) (hi : i < n.length) (hj : j < n.length) :
    ∀ k ∈ swapAt n i j, 0 < k := by
  intro k hk
  obtain ⟨a, ha, rfl⟩ := exists_getD_of_mem _ k 0 hk
  rw [length_swapAt] at ha
  refine h _ ?_
  by_cases e1 : a = j
  · rw [e1, getD_swapAt_right _ _ _ _ hj]; exact getD_mem n i _ hi
  · by_cases e2 : a = i
    · rw [e2, getD_swapAt_left _ _ _ _ (fun h => e1 (e2.trans h)) hi]; exact getD_mem n j _ hj
    · rw [getD_swapAt_other _ _ _ _ _ e2 e1]; exact getD_mem n a _ ha

end DFV.C13
