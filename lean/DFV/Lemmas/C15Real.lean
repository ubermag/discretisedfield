import Mathlib.Analysis.Real.Sqrt
import DFV.Lemmas.C15RoundCell
/-!
`Real.sqrt` satisfies the `SqrtAt` hypothesis at every non-negative real, in particular
at every squared length, exact or as computed: the C15 theorems hold for real-valued fields
without any "is a square" side condition.
-/
namespace DFV.C15

theorem real_sqrtAt {x : ℝ} (hx : 0 ≤ x) : SqrtAt Real.sqrt x :=
  ⟨Real.sqrt_nonneg x, Real.mul_self_sqrt hx⟩

theorem real_sqrtAt_sqLen (v : List ℝ) : SqrtAt Real.sqrt (sqLen v) := real_sqrtAt (sqLen_nonneg v)

theorem real_sqrtAt_mul_self (t : ℝ) : SqrtAt Real.sqrt (t * t) := real_sqrtAt (mul_self_nonneg t)

theorem real_sqrtAt_zero : SqrtAt Real.sqrt 0 := real_sqrtAt le_rfl

/-- … and at every squared length as computed under the standard model (it is non-negative) -/
theorem real_sqrtAt_flSqLen {fl : ℝ → ℝ} {u : ℝ} (h : FlOk fl u) (hu : u ≤ 1 / 1024) (v : List ℝ) :
    SqrtAt Real.sqrt (flSqLen fl v) :=
  real_sqrtAt ((flSqLen_rel h hu v).nonneg (sqLen_nonneg v))

end DFV.C15
