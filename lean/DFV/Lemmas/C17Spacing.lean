import DFV.Lemmas.C01Base
import DFV.Model.C17
/-! The spacing test of `from_xarray` (`evenB`, `checkSpacing`) against its index-level
specification `EvenSpec`: every step within `1e-5·|mean step|` of the mean step.  The verdict is a
function of the steps alone, invariant under `x ↦ s·x + t` (`s ≠ 0`), and the specification can be read
from either end; arithmetic progressions pass; a progression with one coordinate moved passes iff the
displacement is below an explicit threshold; every accepted step lies within `1 ± 1e-5` of the mean step. -/
namespace DFV.C17
open DFV

/-! ## `isclose` without absolute tolerance -/

theorem isclose_iff (a b r : Rat) : Region.isclose a b r 0 = true ↔ absR (a - b) ≤ r * absR b := by
  rw [C01.isclose_iff_absR, zero_add]

/-! ## steps, mean step, specification -/

theorem diffs_getD (v : List Rat) (j : Nat) (hj : j + 1 < v.length) :
    (diffs v).getD j 0 = v.getD (j + 1) 0 - v.getD j 0 :=
  getD_tab _ _ _ _ (by omega)

/-- index-level specification of the spacing test: every step is within `1e-5·|mean step|` of
the mean step (vacuous for fewer than two coordinates) -/
def EvenSpec (v : List Rat) : Prop :=
  ∀ j, j + 1 < v.length →
    absR ((v.getD (j + 1) 0 - v.getD j 0) - meanDiff v) ≤ 1/100000 * absR (meanDiff v)

/-- the code-shaped test (`size > 1 and not np.allclose(diff, diff.mean(), atol=0)` negated)
is the specification -/
theorem evenB_iff_spec (v : List Rat) : evenB v = true ↔ EvenSpec v := by
  unfold evenB EvenSpec
  rw [Bool.or_eq_true, decide_eq_true_iff, allLt_iff]
  constructor
  · rintro (h | h) j hj
    · omega
    · have := h j (by omega)
      rwa [isclose_iff, diffs_getD v j hj] at this
  · intro h
    by_cases hl : v.length ≤ 1
    · exact Or.inl hl
    · refine Or.inr fun j hj => ?_
      rw [isclose_iff, diffs_getD v j (by omega)]
      exact h j (by omega)

theorem evenB_false_of_dev (v : List Rat) (j : Nat) (hj : j + 1 < v.length)
    (hdev : 1/100000 * absR (meanDiff v) < absR ((v.getD (j + 1) 0 - v.getD j 0) - meanDiff v)) :
    evenB v = false := by
  rw [← Bool.not_eq_true, evenB_iff_spec]
  exact fun h => absurd (h j hj) (not_le.mpr hdev)

theorem evenB_congr_steps (v w : List Rat) (hl : v.length = w.length)
    (hs : ∀ j, j + 1 < v.length → v.getD (j + 1) 0 - v.getD j 0 = w.getD (j + 1) 0 - w.getD j 0) :
    evenB v = evenB w := by
  have hd : diffs v = diffs w := by
    unfold diffs
    rw [← hl]
    exact tab_congr _ _ _ fun j hj => hs j (by omega)
  unfold evenB meanDiff
  rw [hd, hl]

theorem sumR_append_singleton (l : List Rat) (x : Rat) : sumR (l ++ [x]) = sumR l + x := by
  induction l with
  | nil => simp [sumR]
  | cons y ys ih => simp only [List.cons_append, sumR, ih]; ring

theorem sumR_tab_diff (f : Nat → Rat) (m : Nat) : sumR (tab m fun j => f (j + 1) - f j) = f m - f 0 := by
  induction m with
  | zero => simp [tab, sumR]
  | succ k ih => rw [tab_succ, sumR_append_singleton, ih]; ring

theorem meanDiff_eq (v : List Rat) :
    meanDiff v = (v.getD (v.length - 1) 0 - v.getD 0 0) / ((v.length - 1 : Nat) : Rat) := by
  unfold meanDiff diffs
  rw [sumR_tab_diff (fun j => v.getD j 0)]

theorem cast_pred_ne_zero (n : Nat) (hn : 2 ≤ n) : (n : Rat) - 1 ≠ 0 := by
  rw [← Nat.cast_pred (show 0 < n by omega)]
  exact_mod_cast (by omega : n - 1 ≠ 0)

theorem span_eq (v : List Rat) (hn : 2 ≤ v.length) :
    v.getD (v.length - 1) 0 - v.getD 0 0 = ((v.length : Rat) - 1) * meanDiff v := by
  have h2 := cast_pred_ne_zero _ hn
  rw [meanDiff_eq, Nat.cast_pred (show 0 < v.length by omega), mul_div_cancel₀ _ h2]

/-! ## evenly spaced coordinates -/

/-- `n` evenly spaced coordinates from `v0` with step `h` -/
def ap (v0 h : Rat) (n : Nat) : List Rat := tab n fun j => v0 + (j : Rat) * h

@[simp] theorem ap_length (v0 h : Rat) (n : Nat) : (ap v0 h n).length = n := tab_length _ _

theorem ap_getD (v0 h : Rat) (n j : Nat) (hj : j < n) : (ap v0 h n).getD j 0 = v0 + (j : Rat) * h :=
  getD_tab _ _ _ _ hj

theorem ap_first (v0 h : Rat) (n : Nat) (hn : 1 ≤ n) : (ap v0 h n).getD 0 0 = v0 := by
  rw [ap_getD _ _ _ _ (by omega)]; simp

theorem ap_last (v0 h : Rat) (n : Nat) (hn : 1 ≤ n) :
    (ap v0 h n).getD ((ap v0 h n).length - 1) 0 = v0 + ((n : Rat) - 1) * h := by
  rw [ap_length, ap_getD _ _ _ _ (by omega), Nat.cast_pred hn]

theorem meanDiff_ap (v0 h : Rat) (n : Nat) (hn : 2 ≤ n) : meanDiff (ap v0 h n) = h := by
  have h2 := cast_pred_ne_zero n hn
  rw [meanDiff_eq, ap_last _ _ _ (by omega), ap_first _ _ _ (by omega), ap_length, Nat.cast_pred (show 0 < n by omega),
    add_sub_cancel_left, mul_div_cancel_left₀ _ h2]

theorem evenB_ap (v0 h : Rat) (n : Nat) : evenB (ap v0 h n) = true := by
  rw [evenB_iff_spec]
  intro j hj
  rw [ap_length] at hj
  have e : (ap v0 h n).getD (j + 1) 0 - (ap v0 h n).getD j 0 = h := by
    rw [ap_getD _ _ _ _ hj, ap_getD _ _ _ _ (by omega)]; push_cast; ring
  rw [e, meanDiff_ap _ _ _ (by omega), sub_self, absR_zero]
  exact mul_nonneg (by norm_num) (absR_nonneg h)

/-! ## invariance -/

theorem sumR_map_mul (s : Rat) (l : List Rat) : sumR (l.map (s * ·)) = s * sumR l := by
  induction l with
  | nil => simp [sumR]
  | cons x xs ih => simp only [List.map_cons, sumR, ih]; ring

theorem diffs_map_affine (s t : Rat) (v : List Rat) :
    diffs (v.map fun x => s * x + t) = (diffs v).map (s * ·) := by
  unfold diffs
  rw [List.length_map, tab_map]
  apply tab_congr
  intro j hj
  rw [getD_map_lt _ _ _ _ 0 (by omega), getD_map_lt _ _ _ _ 0 (by omega)]
  ring

theorem meanDiff_map_affine (s t : Rat) (v : List Rat) : meanDiff (v.map fun x => s * x + t) = s * meanDiff v := by
  unfold meanDiff
  rw [diffs_map_affine, sumR_map_mul, List.length_map, mul_div_assoc]

theorem isclose_scale (s d m r : Rat) (hs : s ≠ 0) :
    Region.isclose (s * d) (s * m) r 0 = Region.isclose d m r 0 := by
  rw [Bool.eq_iff_iff, isclose_iff, isclose_iff, ← mul_sub, absR_mul, absR_mul, mul_left_comm]
  exact mul_le_mul_iff_of_pos_left (by rw [absR_eq_abs]; exact abs_pos.mpr hs)

/-- **The verdict is invariant under `x ↦ s·x + t` for any `s ≠ 0`**: a change of length unit, of
origin, or of the direction of the axis -/
theorem evenB_map_affine (s t : Rat) (hs : s ≠ 0) (v : List Rat) : evenB (v.map fun x => s * x + t) = evenB v := by
  unfold evenB
  have : (fun j => Region.isclose (((diffs v).map (s * ·)).getD j 0) (s * meanDiff v) (1/100000) 0)
      = fun j => Region.isclose ((diffs v).getD j 0) (meanDiff v) (1/100000) 0 :=
    funext fun j => by rw [getD_map_of_eq (mul_zero s), isclose_scale _ _ _ _ hs]
  rw [List.length_map, meanDiff_map_affine, diffs_map_affine, this]

theorem evenB_scale_ne (s : Rat) (hs : s ≠ 0) (v : List Rat) : evenB (v.map (s * ·)) = evenB v := by
  rw [← evenB_map_affine s 0 hs v]
  simp only [add_zero]

theorem evenB_shift (t : Rat) (v : List Rat) : evenB (v.map (· + t)) = evenB v := by
  rw [← evenB_map_affine 1 t one_ne_zero v]
  simp only [one_mul]

theorem meanDiff_reverse (v : List Rat) : meanDiff v.reverse = - meanDiff v := by
  rw [meanDiff_eq, meanDiff_eq, List.length_reverse]
  by_cases h0 : v.length = 0
  · have : v = [] := List.length_eq_zero_iff.mp h0
    subst this; simp
  · rw [getD_reverse _ _ _ (by omega), getD_reverse _ _ _ (by omega)]
    have e1 : v.length - 1 - (v.length - 1) = 0 := by omega
    have e2 : v.length - 1 - 0 = v.length - 1 := by omega
    rw [e1, e2]
    ring

theorem evenSpec_reverse (v : List Rat) (h : EvenSpec v) : EvenSpec v.reverse := by
  intro j hj
  rw [List.length_reverse] at hj
  rw [meanDiff_reverse, getD_reverse _ _ _ (by omega), getD_reverse _ _ _ (by omega), absR_neg]
  have := h (v.length - 1 - (j + 1)) (by omega)
  have e : v.length - 1 - (j + 1) + 1 = v.length - 1 - j := by omega
  rw [e] at this
  have e2 : v.getD (v.length - 1 - (j + 1)) 0 - v.getD (v.length - 1 - j) 0 - -meanDiff v
      = -(v.getD (v.length - 1 - j) 0 - v.getD (v.length - 1 - (j + 1)) 0 - meanDiff v) := by ring
  rw [e2, absR_neg]
  exact this

theorem evenB_reverse (v : List Rat) : evenB v.reverse = evenB v := by
  rw [Bool.eq_iff_iff, evenB_iff_spec, evenB_iff_spec]
  exact ⟨fun h => by have := evenSpec_reverse _ h; rwa [List.reverse_reverse] at this, evenSpec_reverse v⟩

/-! ## what accepted coordinates look like -/

/-- a step within `r·|m|` of `m`, multiplied by `m` (about variables, so that `linarith` works on `d`, `m` and not on the coordinates' terms) -/
theorem mul_mean_bounds (d m r : Rat) (h : |d - m| ≤ r * |m|) :
    (1 - r) * (m * m) ≤ d * m ∧ d * m ≤ (1 + r) * (m * m) := by
  have := mul_le_mul_of_nonneg_right h (abs_nonneg m)
  rw [← abs_mul, mul_assoc, abs_mul_abs_self, abs_le] at this
  constructor <;> linarith [this.1, this.2]

theorem evenSpec_step_bounds (v : List Rat) (h : EvenSpec v) (j : Nat) (hj : j + 1 < v.length) :
    (1 - 1/100000) * (meanDiff v * meanDiff v) ≤ (v.getD (j + 1) 0 - v.getD j 0) * meanDiff v ∧
    (v.getD (j + 1) 0 - v.getD j 0) * meanDiff v ≤ (1 + 1/100000) * (meanDiff v * meanDiff v) := by
  have := h j hj
  rw [absR_eq_abs, absR_eq_abs] at this
  exact mul_mean_bounds _ _ _ this

/-! ## one coordinate of an arithmetic progression moved -/

/-- `v0, v0+h, …` with coordinate `k` moved by `e` -/
def apMoved (v0 h : Rat) (n k : Nat) (e : Rat) : List Rat :=
  tab n fun j => v0 + (j : Rat) * h + (if j = k then e else 0)

@[simp] theorem apMoved_length (v0 h : Rat) (n k : Nat) (e : Rat) : (apMoved v0 h n k e).length = n :=
  tab_length _ _

theorem apMoved_getD (v0 h : Rat) (n k : Nat) (e : Rat) (j : Nat) (hj : j < n) :
    (apMoved v0 h n k e).getD j 0 = v0 + (j : Rat) * h + (if j = k then e else 0) :=
  getD_tab _ _ _ _ hj

/-- step `j`: `h`, plus `e` on the way into the moved coordinate, minus `e` on the way out -/
theorem apMoved_step (v0 h : Rat) (n k : Nat) (e : Rat) (j : Nat) (hj : j + 1 < n) :
    (apMoved v0 h n k e).getD (j + 1) 0 - (apMoved v0 h n k e).getD j 0
      = h + ((if j + 1 = k then e else 0) - (if j = k then e else 0)) := by
  rw [apMoved_getD _ _ _ _ _ _ hj, apMoved_getD _ _ _ _ _ _ (by omega)]
  push_cast; ring

/-- the mean step moves only with the two end coordinates -/
theorem meanDiff_apMoved (v0 h : Rat) (n k : Nat) (e : Rat) (hn : 2 ≤ n) :
    meanDiff (apMoved v0 h n k e)
      = h + ((if n - 1 = k then e else 0) - (if 0 = k then e else 0)) / ((n : Rat) - 1) := by
  have h2 := cast_pred_ne_zero n hn
  rw [meanDiff_eq, apMoved_length, apMoved_getD _ _ _ _ _ _ (by omega), apMoved_getD _ _ _ _ _ _ (by omega),
    Nat.cast_pred (show 0 < n by omega)]
  field_simp
  push_cast; ring

/-- the spacing test on a moved progression, in terms of the displacement alone: `μ` is what the
mean step gains -/
theorem evenB_apMoved_iff (v0 h : Rat) (n k : Nat) (e : Rat) (hn : 2 ≤ n) (μ : Rat)
    (hμ : ((if n - 1 = k then e else 0) - (if 0 = k then e else 0)) / ((n : Rat) - 1) = μ) :
    evenB (apMoved v0 h n k e) = true ↔
      ∀ j, j + 1 < n →
        absR ((if j + 1 = k then e else 0) - (if j = k then e else 0) - μ) ≤ 1/100000 * absR (h + μ) := by
  rw [evenB_iff_spec]
  unfold EvenSpec
  rw [apMoved_length, meanDiff_apMoved _ _ _ _ _ hn, hμ]
  refine forall_congr' fun j => forall_congr' fun hj => ?_
  rw [apMoved_step _ _ _ _ _ _ hj, add_sub_add_left_eq_sub]

/-- **Exact threshold for one moved interior coordinate**: an arithmetic progression with any
origin `v0` and any step `h` whose interior coordinate `k` is moved by `e` passes the spacing
test iff `|e| ≤ 1e-5·|h|` — no dependence on `v0`, on the scale only through `e/h`. -/
theorem evenB_apMoved (v0 h : Rat) (n k : Nat) (e : Rat) (hk0 : 0 < k) (hk : k + 1 < n) :
    evenB (apMoved v0 h n k e) = true ↔ absR e ≤ 1/100000 * absR h := by
  rw [evenB_apMoved_iff v0 h n k e (by omega) 0
    (by rw [if_neg (by omega), if_neg (by omega), sub_self, zero_div])]
  simp only [sub_zero, add_zero]
  constructor
  · intro H
    have := H k hk
    rwa [if_neg (by omega), if_pos rfl, zero_sub, absR_neg] at this
  · intro he j _
    split_ifs
    · omega
    · rwa [sub_zero]
    · rwa [zero_sub, absR_neg]
    · rw [sub_self, absR_zero]
      exact mul_nonneg (by norm_num) (absR_nonneg h)

/-! ### an end coordinate moved

The mean step moves by `±e/(n-1)`, the step next to the end deviates
from it by `e(n-2)/(n-1)`, every other step by `e/(n-1)`, which is less -/

theorem moved_end_eq (e n : Rat) (hn : n - 1 ≠ 0) : e - e / (n - 1) = e * (n - 2) / (n - 1) := by
  field_simp; ring

theorem moved_end_le (e n : Rat) (hn : 3 ≤ n) : absR (e / (n - 1)) ≤ absR (e * (n - 2) / (n - 1)) := by
  rw [absR_eq_abs, absR_eq_abs, abs_div, abs_div, abs_mul, abs_of_pos (by linarith : (0 : Rat) < n - 2)]
  exact div_le_div_of_nonneg_right (le_mul_of_one_le_right (abs_nonneg e) (by linarith)) (abs_nonneg _)

theorem evenB_apMoved_last (v0 h : Rat) (n : Nat) (e : Rat) (hn : 3 ≤ n) :
    evenB (apMoved v0 h n (n - 1) e) = true ↔
      absR (e * ((n : Rat) - 2) / ((n : Rat) - 1)) ≤ 1/100000 * absR (h + e / ((n : Rat) - 1)) := by
  have hN : (3 : Rat) ≤ (n : Rat) := by exact_mod_cast hn
  have hN0 := cast_pred_ne_zero n (by omega)
  rw [evenB_apMoved_iff v0 h n (n - 1) e (by omega) (e / ((n : Rat) - 1))
    (by rw [if_pos rfl, if_neg (by omega), sub_zero])]
  constructor
  · intro H
    have := H (n - 2) (by omega)
    rwa [if_pos (by omega), if_neg (by omega), sub_zero, moved_end_eq _ _ hN0] at this
  · intro he j hj
    rw [if_neg (by omega : ¬ j = n - 1), sub_zero]
    split_ifs
    · rwa [moved_end_eq _ _ hN0]
    · rw [zero_sub, absR_neg]
      exact le_trans (moved_end_le e n hN) he

theorem apMoved_reverse (v0 h : Rat) (n : Nat) (e : Rat) :
    (apMoved v0 h n 0 e).reverse = apMoved (v0 + ((n : Rat) - 1) * h) (-h) n (n - 1) e := by
  unfold apMoved
  rw [tab_reverse]
  refine tab_congr _ _ _ fun j hj => ?_
  have e1 : ((n - 1 - j : Nat) : Rat) = (n : Rat) - 1 - (j : Rat) := by
    rw [Nat.cast_sub (by omega), Nat.cast_sub (by omega), Nat.cast_one]
  rw [e1, if_congr (show n - 1 - j = 0 ↔ j = n - 1 by omega) rfl rfl]
  ring

/-- the first coordinate displaced by `e`: the mirror image of `evenB_apMoved_last` (step `-h`) -/
theorem evenB_apMoved_first (v0 h : Rat) (n : Nat) (e : Rat) (hn : 3 ≤ n) :
    evenB (apMoved v0 h n 0 e) = true ↔
      absR (e * ((n : Rat) - 2) / ((n : Rat) - 1)) ≤ 1/100000 * absR (h - e / ((n : Rat) - 1)) := by
  rw [← evenB_reverse, apMoved_reverse, evenB_apMoved_last _ _ n e hn,
    show -h + e / ((n : Rat) - 1) = -(h - e / ((n : Rat) - 1)) by ring, absR_neg]

/-! ## DataArray level -/

section
variable {α : Type}

theorem geo_mapAxes (g : Axis → Axis) (hn : ∀ ax, (g ax).name = ax.name) (xa : XA α) :
    geo { xa with axes := xa.axes.map g } = (geo xa).map g := by
  unfold geo
  rw [List.filter_map]
  congr 2
  funext ax
  simp only [Function.comp, hn]

/-- replace the assigned coordinate values of an axis (`φ` is given the axis name); an axis
without coordinate keeps xarray's index `0 … n-1` -/
def Axis.mapVals (φ : String → List Rat → List Rat) (ax : Axis) : Axis :=
  { ax with coord := ax.coord.map fun c => { c with vals := φ ax.name c.vals } }

theorem evenB_mapVals (φ : String → List Rat → List Rat) (hφ : ∀ nm v, evenB (φ nm v) = evenB v) (ax : Axis) :
    evenB (ax.mapVals φ).values = evenB ax.values := by
  obtain ⟨nm, sz, co⟩ := ax
  cases co with
  | none => rfl
  | some c => exact hφ nm c.vals

theorem checkSpacing_mapVals (φ : String → List Rat → List Rat) (hφ : ∀ nm v, evenB (φ nm v) = evenB v) (xa : XA α) :
    checkSpacing { xa with axes := xa.axes.map (Axis.mapVals φ) } = checkSpacing xa := by
  unfold checkSpacing
  have : ((fun a : Axis => evenB a.values) ∘ Axis.mapVals φ) = fun a => evenB a.values :=
    funext (evenB_mapVals φ hφ)
  rw [geo_mapAxes (Axis.mapVals φ) (fun _ => rfl), List.all_map, this]

theorem checkSpacing_scale_ne (s : Rat) (hs : s ≠ 0) (xa : XA α) :
    checkSpacing (scaleCoords s xa) = checkSpacing xa :=
  checkSpacing_mapVals (fun _ v => v.map (s * ·)) (fun _ => evenB_scale_ne s hs) xa

/-- move the assigned coordinates of dimension `d` by `t d` (dimensions without coordinate keep
xarray's index): `Axis.mapVals fun nm v => v.map (· + t nm)` on every axis, by `rfl` -/
def shiftCoords {α} (t : String → Rat) (xa : XA α) : XA α :=
  { xa with axes := xa.axes.map fun ax =>
      { ax with coord := ax.coord.map fun c => { c with vals := c.vals.map (· + t ax.name) } } }

theorem checkSpacing_shift (t : String → Rat) (xa : XA α) : checkSpacing (shiftCoords t xa) = checkSpacing xa :=
  checkSpacing_mapVals (fun nm v => v.map (· + t nm)) (fun nm => evenB_shift (t nm)) xa

theorem checkSpacing_iff (xa : XA α) : checkSpacing xa = .ok () ↔ ∀ ax ∈ geo xa, EvenSpec ax.values := by
  unfold checkSpacing
  simp only [← evenB_iff_spec, ← List.all_eq_true]
  -- the `if` of `checkSpacing` is on `(geo xa).all (evenB ·.values)`, which the rewrite has made the right-hand side
  split <;> simp [*]

theorem checkSpacing_ok_or_value (xa : XA α) : checkSpacing xa = .ok () ∨ checkSpacing xa = .error .value := by
  unfold checkSpacing
  split
  · exact Or.inl rfl
  · exact Or.inr rfl

end
end DFV.C17
