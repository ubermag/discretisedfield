import DFV.Lemmas.C07Ctor
/-! `Field.resample`: the nearest-coordinate lookup finds the cell containing the point (exact arithmetic), in
closed form the cell `⌊(2j+1)·n / 2n'⌋` (`resample_index`, `resampleNDA_get`); the mesh `Mesh(region, n)` it
builds is well formed (`regrid_inv`); every well-formed request is accepted (`resample_ok`). -/
namespace DFV.C07
open DFV DFV.Mesh

theorem nearestUpTo_le (cs : Nat → Rat) (x : Rat) (k : Nat) : nearestUpTo cs x k ≤ k := by
  induction k with
  | zero => simp [nearestUpTo]
  | succ k ih =>
    unfold nearestUpTo
    split <;> omega

theorem nearestUpTo_congr (cs cs' : Nat → Rat) (x : Rat) (m : Nat) (h : ∀ k, k ≤ m → cs k = cs' k) :
    nearestUpTo cs x m = nearestUpTo cs' x m := by
  induction m with
  | zero => rfl
  | succ k ih =>
    have ihk := ih fun i hi => h i (Nat.le_succ_of_le hi)
    simp only [nearestUpTo, ihk, h (k + 1) le_rfl, h _ (Nat.le_succ_of_le (nearestUpTo_le cs' x k))]

theorem nearestUpTo_affine (cs : Nat → Rat) (x lo E : Rat) (hE : 0 < E) (m : Nat) :
    nearestUpTo (fun k => lo + E * cs k) (lo + E * x) m = nearestUpTo cs x m := by
  induction m with
  | zero => rfl
  | succ k ih =>
    have e : ∀ i, absR (lo + E * cs i - (lo + E * x)) = E * absR (cs i - x) := fun i => by
      rw [show lo + E * cs i - (lo + E * x) = E * (cs i - x) by ring, absR_mul, absR_of_nonneg hE.le]
    simp only [nearestUpTo, ih, e, mul_le_mul_iff_right₀ hE]

/-- on the half-integers the entry nearest to `y ∈ [q, q + 1)` among the first `m + 1` is number `min m q`: the
cell that contains `y`, a point half-way between two entries going to the upper one -/
theorem nearestUpTo_grid (y : Rat) (q : Nat) (h1 : (q : Rat) ≤ y) (h2 : y < (q : Rat) + 1) (m : Nat) :
    nearestUpTo (fun k => (k : Rat) + 1 / 2) y m = min m q := by
  induction m with
  | zero => exact (Nat.zero_min q).symm
  | succ k ih =>
    simp only [nearestUpTo, ih, Nat.cast_add, Nat.cast_one]
    by_cases c : k + 1 ≤ q
    · -- left of the point the next entry is at least as near
      have hk : (k : Rat) + 1 ≤ y := le_trans (by exact_mod_cast c) h1
      rw [Nat.min_eq_left (Nat.le_of_succ_le c), Nat.min_eq_left c, if_pos (by
        rw [absR_le_iff, absR_of_nonpos (show (k : Rat) + 1 / 2 - y ≤ 0 by linarith only [hk])]
        constructor <;> linarith only [hk])]
    · -- right of the cell of the point the next entry is farther than the cell's own
      have c' : (q : Rat) ≤ (k : Rat) := by exact_mod_cast Nat.le_of_lt_succ (Nat.lt_of_not_le c)
      rw [Nat.min_eq_right (Nat.le_of_lt_succ (Nat.lt_of_not_le c)),
        Nat.min_eq_right (Nat.le_succ_of_le (Nat.le_of_lt_succ (Nat.lt_of_not_le c))), if_neg (by
        have : absR ((q : Rat) + 1 / 2 - y) ≤ 1 / 2 := absR_le_iff.mpr ⟨by linarith only [h2], by linarith only [h1]⟩
        rw [absR_of_nonneg (by linarith only [h2, c'])]; intro h; linarith only [h, this, h2, c'])]

/-- the nearest cell centre (ties to the larger index) is the centre of the cell that contains the coordinate:
on the grid of centres the search returns `min (n - 1) ⌊(x - lo) / cell⌋`, which is the clipped floor -/
theorem nearestAx_eq (m : Mesh) (hm : m.Inv) (a : Nat) (ha : a < m.ndim) (x : Rat)
    (h1 : m.region.lo a ≤ x) : nearestAx m a x = m.indexAx a x := by
  have hn := hm.nAt_pos ha
  have hc := hm.cellAt_pos ha
  obtain ⟨y, hy⟩ : ∃ y, y = (x - m.region.lo a) / m.cellAt a := ⟨_, rfl⟩
  have hx : x = m.region.lo a + m.cellAt a * y := by rw [hy]; field_simp; ring
  have hf : (0 : Int) ≤ y.floor := (Int.floor_nonneg (a := y)).mpr (hy ▸ div_nonneg (by linarith) hc.le)
  have hcast : ((y.floor.toNat : Nat) : Rat) = ((y.floor : Int) : Rat) := by
    exact_mod_cast congrArg (Int.cast (R := Rat)) (Int.toNat_of_nonneg hf)
  unfold nearestAx indexAx clipInt
  rw [← hy, nearestUpTo_congr _ (fun k => m.region.lo a + m.cellAt a * ((k : Rat) + 1 / 2)) _ _ fun k hk => by
      show (m.cells.getD a []).getD k 0 = _
      rw [C01.cells_getD m a k ha (by omega), C01.centreAx_natCast]; ring,
    hx, nearestUpTo_affine _ _ _ _ hc,
    nearestUpTo_grid y y.floor.toNat (by rw [hcast]; exact Int.floor_le _) (by rw [hcast]; exact Int.lt_floor_add_one _)]
  split_ifs <;> omega

/-! ## the closed form of the lookup -/

/-- Source cell of a target cell when two meshes share an edge `[lo, hi]` along axis `a`: the
centre of target cell `j` lies in source cell `⌊(2j+1)·n / (2·n')⌋` (`n`, `n'` the cell counts of
source and target). -/
theorem resample_index (src tgt : Mesh) (a : Nat) (hs : 0 < src.nAt a) (ht : 0 < tgt.nAt a)
    (hlo : tgt.region.lo a = src.region.lo a) (hhi : tgt.region.hi a = src.region.hi a)
    (hlt : src.region.lo a < src.region.hi a) (j : Nat) (hj : j < tgt.nAt a) :
    src.indexAx a (tgt.centreAx a ((j : Nat) : Int)) = ((2 * j + 1) * src.nAt a) / (2 * tgt.nAt a) := by
  have hc := C01.cellAt_pos src a hs hlt
  have hQ : 0 < 2 * tgt.nAt a := by omega
  -- in cells of the source the target centre sits at position `(2j+1)·n / (2·n')`
  have hpos : tgt.centreAx a ((j : Nat) : Int) = src.region.lo a +
      (((2 * j + 1) * src.nAt a : Nat) : Rat) / ((2 * tgt.nAt a : Nat) : Rat) * src.cellAt a := by
    rw [C01.centreAx_natCast, hlo]
    unfold cellAt Region.edge
    rw [hlo, hhi]
    push_cast
    field_simp
  rw [hpos]
  refine indexAx_grid src a _ ?_ hc _ ?_ ?_
  · rw [Nat.div_lt_iff_lt_mul hQ]
    calc (2 * j + 1) * src.nAt a < (2 * tgt.nAt a) * src.nAt a := Nat.mul_lt_mul_of_pos_right (by omega) hs
      _ = src.nAt a * (2 * tgt.nAt a) := Nat.mul_comm _ _
  · rw [le_div_iff₀ (by exact_mod_cast hQ)]
    exact_mod_cast Nat.div_mul_le_self ((2 * j + 1) * src.nAt a) (2 * tgt.nAt a)
  · rw [div_lt_iff₀ (by exact_mod_cast hQ)]
    have := Nat.lt_mul_div_succ ((2 * j + 1) * src.nAt a) hQ
    rw [Nat.mul_comm (2 * tgt.nAt a)] at this
    exact_mod_cast this

theorem refine_div (j n r : Nat) (hr : 0 < r) (hn : 0 < n) : ((2 * j + 1) * n) / (2 * (r * n)) = j / r := by
  have h1 : 2 * (r * n) = n * (2 * r) := by ring
  rw [h1, Nat.mul_comm (2 * j + 1) n, Nat.mul_div_mul_left _ _ hn]
  -- (2j+1)/(2r) = j / r
  have hj := Nat.div_add_mod j r
  have hm := Nat.mod_lt j hr
  apply Nat.div_eq_of_lt_le
  · calc j / r * (2 * r) = 2 * (r * (j / r)) := by ring
      _ ≤ 2 * j + 1 := by omega
  · calc 2 * j + 1 < 2 * (r * (j / r) + r) := by omega
      _ = (j / r + 1) * (2 * r) := by ring

theorem coarsen_div (j n r : Nat) (hn : 0 < n) : ((2 * j + 1) * (r * n)) / (2 * n) = r * j + r / 2 := by
  have h1 : (2 * j + 1) * (r * n) = n * ((2 * j + 1) * r) := by ring
  rw [h1, Nat.mul_comm 2 n, Nat.mul_div_mul_left _ _ hn]
  have h2 : (2 * j + 1) * r = r + 2 * (r * j) := by ring
  rw [h2, Nat.add_mul_div_left _ _ (by omega : 0 < 2)]
  omega

theorem via_div (a n r q : Nat) (hr : 0 < r) : (a * (r * n)) / (2 * q) / r = (a * n) / (2 * q) := by
  rw [Nat.div_div_eq_div_mul]
  have : a * (r * n) = (a * n) * r := by ring
  rw [this, Nat.mul_div_mul_right _ _ hr]

theorem regrid_inv {m : Mesh} (hm : m.Inv) {n : List Nat} (hl : n.length = m.ndim) (hpos : ∀ k, k ∈ n → 0 < k) :
    (regrid m n).Inv :=
  ⟨hm.1, hl, fun a ha => hpos _ (getD_mem n a 0 (hl ▸ ha))⟩

/-- the array `Field.resample` computes, cell by cell: the nearest-coordinate lookup on meshes over the same
region reads source cell `⌊(2j+1)·n / 2n'⌋` on every axis (`resampleNDAFast` by definition) -/
theorem resampleNDA_get {α : Type} (src tgt : Mesh) (hs : src.Inv) (ht : tgt.Inv) (hr : tgt.region = src.region)
    (x : NDA α) (j : List Nat) (hj : ∀ b, b < src.ndim → j.getD b 0 < tgt.nAt b) :
    (resampleNDA src tgt x).get j
      = x.get (tab src.ndim fun b => resampleIdx (src.nAt b) (tgt.nAt b) (j.getD b 0)) := by
  have hnd : tgt.ndim = src.ndim := by unfold Mesh.ndim; rw [hr]
  refine congrArg x.get (tab_congr _ _ _ fun b hb => ?_)
  have hc := centre_bounds tgt b _ (hj b hb) (ht.cellAt_pos (hnd ▸ hb))
  rw [hr] at hc
  rw [show coord tgt b (j.getD b 0) = _ from C01.cells_getD tgt b _ (hnd ▸ hb) (hj b hb), nearestAx_eq src hs b hb _ hc.1]
  exact resample_index src tgt b (hs.nAt_pos hb) (ht.nAt_pos (hnd ▸ hb)) (by rw [hr]) (by rw [hr])
    (hs.lo_lt_hi hb) _ (hj b hb)

theorem resample_ok (f : Fld) (hf : f.mesh.Inv) (hmeta : metaOk f = true) (n : List Int)
    (hl : n.length = f.mesh.ndim) (hpos : ∀ k, k ∈ n → 0 < k) : ∃ g, resample f n = .ok g :=
  ⟨_, (resample_ok_iff' f n _).mpr ⟨hl, hpos, C01.containsReg_self _ hf.1, hmeta, rfl⟩⟩

end DFV.C07
