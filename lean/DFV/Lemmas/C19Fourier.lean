import DFV.Props.C11
import DFV.Lemmas.C19Real
import DFV.Lemmas.C19Grid
/-!
# C19 — the demagnetisation tensor with the real leaves: its trace in real space and in Fourier space

The tensor of `demag_tensor(mesh)` evaluated with the real `arcsinh`, `arctan`, `sqrt` (`tensorR`): its real-space trace is
`tensorArr_trace` with `lvR_atan_sum`.  Composed with C11's model of `Field.fftn` (`fftn_is_dft`): a tensor field whose real-space
trace is `t·δ_{r0}` has Fourier-space trace `t·exp(−2πi k·r0)` in every k-cell; for the complex roots of unity that phase has modulus 1.
-/
namespace DFV.C19
open DFV DFV.C11 Finset

/-! ## the tensor with the real leaves -/

/-- component `c` of the real-space tensor at cell `j` of the displacement grid, real leaves -/
noncomputable def tensorR (pi : Rat) (m : Mesh) (j : List Nat) (c : Nat) : ℝ := evalK lvR ((tensorArr pi m j).getD c [])

/-- Exported as `Props/C19.demag_trace_grid_real`. -/
theorem tensorR_trace (pi : Rat) (hpi : pi ≠ 0) (m : Mesh) (hm : m.Inv) (h3 : m.ndim = 3) (i0 i1 i2 : Nat)
    (b0 : i0 < 2 * m.nAt 0 - 1) (b1 : i1 < 2 * m.nAt 1 - 1) (b2 : i2 < 2 * m.nAt 2 - 1) :
    tensorR pi m [i0, i1, i2] 0 + tensorR pi m [i0, i1, i2] 1 + tensorR pi m [i0, i1, i2] 2
      = if i0 = m.nAt 0 - 1 ∧ i1 = m.nAt 1 - 1 ∧ i2 = m.nAt 2 - 1 then -(Real.pi / (pi : ℝ)) else 0 := by
  have key := tensorArr_trace lvR (Real.pi / 2) pi hpi m hm h3 lvR_atan_sum i0 i1 i2 b0 b1 b2
  rw [show -(2 * (Real.pi / 2) / (pi : ℝ)) = -(Real.pi / (pi : ℝ)) by ring] at key
  exact key

theorem tensorR_cubic (pi : Rat) (m : Mesh) (n : Nat) (hn0 : m.nAt 0 = n) (hn1 : m.nAt 1 = n) (hn2 : m.nAt 2 = n)
    (hc1 : m.cellAt 1 = m.cellAt 0) (hc2 : m.cellAt 2 = m.cellAt 0) (j0 j1 j2 : Nat) :
    tensorR pi m [j0, j1, j2] 1 = tensorR pi m [j1, j2, j0] 0 ∧ tensorR pi m [j0, j1, j2] 2 = tensorR pi m [j2, j0, j1] 0 := by
  unfold tensorR
  rw [(tensorArr_cubic pi m n hn0 hn1 hn2 hc1 hc2 j0 j1 j2).1, (tensorArr_cubic pi m n hn0 hn1 hn2 hc1 hc2 j0 j1 j2).2]
  exact ⟨rfl, rfl⟩

/-- component `a` of the demagnetising field of the uniform magnetisation `M e_a` at cell `q`: the linear
convolution with the real tensor (only `N_aa` contributes) -/
noncomputable def demagUniformR (pi : Rat) (m : Mesh) (M : ℝ) (a : Nat) (q0 q1 q2 : Nat) : ℝ :=
  ∑ r0 ∈ range (m.nAt 0), ∑ r1 ∈ range (m.nAt 1), ∑ r2 ∈ range (m.nAt 2),
    tensorR pi m [q0 + (m.nAt 0 - 1) - r0, q1 + (m.nAt 1 - 1) - r1, q2 + (m.nAt 2 - 1) - r2] a * M

/-! ## a trace `t·δ` in real space is `t` times a phase in Fourier space -/

section ring
variable {R : Type} [CommRing R]

/-- Fourier-space trace of a field whose first three components add up to `t` in cell `r0` and to
`0` in every other cell: `t · phase(m, r0)` in every k-cell `m`.  Exported as `Props/C19.fourier_trace_of_real_space_trace`. -/
theorem fourier_trace_of_delta (ρs : List (Root R)) (f g : CF R) (h : fftn ρs f = .ok g)
    (hρ : Roots f.data.shape ρs) (hnv : 3 ≤ f.nvdim) (r0 : List Nat) (hr : inRange f.data.shape r0 = true) (t : R)
    (hT : ∀ i, inRange f.data.shape i = true →
      compA f.data 0 i + compA f.data 1 i + compA f.data 2 i = if i = r0 then t else 0)
    (m : List Nat) (hm : inRange f.data.shape m = true) :
    compA g.data 0 m + compA g.data 1 m + compA g.data 2 m = t * phase ρs f.data.shape m r0 := by
  rw [fftn_is_dft ρs f g h hρ m hm 0 (by omega), fftn_is_dft ρs f g h hρ m hm 1 (by omega),
    fftn_is_dft ρs f g h hρ m hm 2 (by omega), ← sumBox_add, ← sumBox_add]
  rw [sumBox_single f.data.shape _ r0 hr]
  · rw [← add_mul, ← add_mul, hT r0 hr, if_pos rfl]
  · intro i hi hne
    rw [← add_mul, ← add_mul, hT i hi, if_neg hne, zero_mul]

end ring

/-! ## the phase has modulus one for the complex roots of unity -/

/-- `C11.phase_complex`: the phase is `exp(−2πi·q)` with `q` rational -/
theorem phase_norm (ns : List Nat) (h : ∀ n ∈ ns, 0 < n) (m r : List Nat) : ‖phase (ns.map cRoot) ns m r‖ = 1 := by
  rw [phase_complex ns h, Complex.norm_exp]
  simp

/-! ## the model's tensor as a complex field -/

/-- the real-space tensor of `demag_tensor(mesh)` — six symbolic Newell term lists per cell of the
displacement grid — evaluated with the real `arcsinh`, `arctan`, `sqrt` (`lvR`), as a complex field
on the tensor mesh `tm` (what `df.Field(mesh_new, nvdim=6, value=values, vdims=[xx,…])` holds) -/
noncomputable def tensorC (pi : Rat) (m tm : Mesh) : CF ℂ :=
  { mesh := tm, nvdim := 6,
    data := ⟨tensorShape m, fun j => (tensorArr pi m j).map fun ts => ((evalK lvR ts : ℝ) : ℂ)⟩,
    vdims := some ["xx", "yy", "zz", "xy", "xz", "yz"], vmap := [], unit := none }

/-- the central cell of the displacement grid (displacement 0) -/
def centreCell (m : Mesh) : List Nat := [m.nAt 0 - 1, m.nAt 1 - 1, m.nAt 2 - 1]

theorem inRange3 (a b c : Nat) (i : List Nat) (h : inRange [a, b, c] i = true) :
    ∃ i0 i1 i2, i = [i0, i1, i2] ∧ i0 < a ∧ i1 < b ∧ i2 < c := by
  have hl := inRange_length _ _ h
  match i, hl with
  | [i0, i1, i2], _ =>
    simp only [inRange, Bool.and_eq_true, decide_eq_true_eq] at h
    exact ⟨i0, i1, i2, rfl, h.1, h.2.1, h.2.2.1⟩

/-- Exported as `Props/C19.demag_trace_grid`. -/
theorem tensorC_trace (pi : Rat) (hpi : pi ≠ 0) (m tm : Mesh) (hm : m.Inv) (h3 : m.ndim = 3)
    (i : List Nat) (hi : inRange (tensorShape m) i = true) :
    compA (tensorC pi m tm).data 0 i + compA (tensorC pi m tm).data 1 i + compA (tensorC pi m tm).data 2 i
      = if i = centreCell m then -(((Real.pi / (pi : ℝ) : ℝ)) : ℂ) else 0 := by
  obtain ⟨i0, i1, i2, rfl, b0, b1, b2⟩ := inRange3 _ _ _ i hi
  -- an entry of `tensorC` is the cast of the entry of `tensorR`
  have hsum : compA (tensorC pi m tm).data 0 [i0, i1, i2] + compA (tensorC pi m tm).data 1 [i0, i1, i2]
      + compA (tensorC pi m tm).data 2 [i0, i1, i2]
      = ((tensorR pi m [i0, i1, i2] 0 + tensorR pi m [i0, i1, i2] 1 + tensorR pi m [i0, i1, i2] 2 : ℝ) : ℂ) := by
    push_cast; rfl
  rw [hsum, tensorR_trace pi hpi m hm h3 i0 i1 i2 b0 b1 b2]
  have hiff : ([i0, i1, i2] = centreCell m) ↔ (i0 = m.nAt 0 - 1 ∧ i1 = m.nAt 1 - 1 ∧ i2 = m.nAt 2 - 1) := by
    simp [centreCell]
  simp only [hiff]
  split <;> simp

theorem centreCell_inRange (m : Mesh) (hm : m.Inv) (h3 : m.ndim = 3) : inRange (tensorShape m) (centreCell m) = true := by
  obtain ⟨p0, p1, p2⟩ := nAt_pos3 hm h3
  unfold tensorShape centreCell
  simp only [inRange, Bool.and_eq_true, decide_eq_true_eq, and_true]
  omega

/-- TRACE IN FOURIER SPACE: the transform (C11's `Field.fftn`, any commutative-ring roots replaced
by the complex roots of unity) of the model's real-space tensor has trace
`−(π/pi)·exp(−2πi k·r_c)` in every k-cell, `r_c` the central cell — modulus `π/|pi|`, i.e. 1 up
to the rounding of `np.pi` -/
theorem tensorC_fourier_trace (pi : Rat) (hpi : pi ≠ 0) (m tm : Mesh) (hm : m.Inv) (h3 : m.ndim = 3)
    (g : CF ℂ) (h : fftn ((tensorShape m).map cRoot) (tensorC pi m tm) = .ok g)
    (k : List Nat) (hk : inRange (tensorShape m) k = true) :
    compA g.data 0 k + compA g.data 1 k + compA g.data 2 k
        = -(((Real.pi / (pi : ℝ) : ℝ)) : ℂ) * phase ((tensorShape m).map cRoot) (tensorShape m) k (centreCell m) ∧
    ‖compA g.data 0 k + compA g.data 1 k + compA g.data 2 k‖ = Real.pi / |(pi : ℝ)| := by
  have hpos : ∀ n ∈ tensorShape m, 0 < n := by
    obtain ⟨p0, p1, p2⟩ := nAt_pos3 hm h3
    intro n hn
    unfold tensorShape at hn
    simp only [List.mem_cons, List.not_mem_nil, or_false] at hn
    omega
  have key := fourier_trace_of_delta ((tensorShape m).map cRoot) (tensorC pi m tm) g h
    (cRoots (tensorShape m) hpos) (by show 3 ≤ 6; omega) (centreCell m) (centreCell_inRange m hm h3)
    (-(((Real.pi / (pi : ℝ) : ℝ)) : ℂ)) (fun i hi => tensorC_trace pi hpi m tm hm h3 i hi) k hk
  refine ⟨key, ?_⟩
  rw [key, norm_mul]
  have : (tensorC pi m tm).data.shape = tensorShape m := rfl
  rw [this, phase_norm _ hpos, mul_one, norm_neg, Complex.norm_real, Real.norm_eq_abs, abs_div, abs_of_pos Real.pi_pos]

/-! ## the transform is accepted -/

theorem tensorMesh_inv (m tm : Mesh) (hm : m.Inv) (h3 : m.ndim = 3) (h : tensorMesh m = .ok tm) :
    tm.Inv ∧ tm.n = tensorShape m := by
  rw [tensorMesh_eq m hm] at h
  injection h with h
  subst h
  -- `Region.Inv`: six parts; then the two further parts of `Mesh.Inv`; then the counts
  refine ⟨⟨⟨?_, ?_, ?_, ?_, ?_, ?_⟩, ?_, ?_⟩, ?_⟩
  · simp [h3]                              -- the corner lists are not empty
  · simp                                   -- `pmax` is as long as `pmin`
  · simp only [tab_length, h3]; rfl        -- one default name per axis
  · simp                                   -- one unit per axis
  · rw [h3]; rfl                           -- the default names `x, y, z` are distinct
  · intro a ha                             -- `lo < hi` on every axis
    simp only [tab_length] at ha
    simp only [Region.lo, Region.hi]
    rw [getD_tab _ _ _ _ ha, getD_tab _ _ _ _ ha]
    exact tensorCorners_lt m hm a ha
  · simp [Region.ndim]                     -- one count per axis
  · intro a ha                             -- every count is positive
    have ha' : a < m.ndim := by simpa [Mesh.ndim, Region.ndim] using ha
    have hp := hm.nAt_pos ha'
    show 0 < (tab m.ndim fun a => 2 * m.nAt a - 1).getD a 0
    rw [getD_tab _ _ _ _ ha']
    omega
  · simp only [h3, tensorShape]
    rfl

theorem tensorC_inv (pi : Rat) (m tm : Mesh) (hm : m.Inv) (h3 : m.ndim = 3) (h : tensorMesh m = .ok tm) :
    CFInv (tensorC pi m tm) := by
  obtain ⟨hi, hn⟩ := tensorMesh_inv m tm hm h3 h
  refine ⟨hi, hn.symm, by show 1 ≤ 6; omega, Or.inr ⟨_, rfl, by simp, rfl, by decide, Or.inl rfl⟩⟩

end DFV.C19
