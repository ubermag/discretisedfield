import DFV.Lemmas.Rot
import DFV.Lemmas.C13Forms
/-! Quarter turns at object level: the steps see `k mod 4` only; the identity turn and composition of turns on regions
(`rotate90R_zero`, `rotate90R_compose`) and, stated on the meshes a turn assigns (`applyM` of `Lemmas/C13StepM`), on
meshes (`applyM_rot_zero`, `applyM_rot_compose`), whence both forms of the mesh step; arrays (`rot90_compose'`);
what an accepted field rotation returned (`Turned`, `rotate90F_parts`, `rotate90F_centre`, `rotate90F_twice`);
subregions under a mesh rotation (`stepM_rot_subs`). -/
namespace DFV.T
open DFV DFV.C14

/-- the steps see `k` through `rotCoord`, `rotUnits`, `rotN`, `rotBc`, `rot90`, `rotVec` only (`Lemmas/Transform`, `Lemmas/Rot`) -/
theorem rotate90R_mod4 (r : Region) (a1 a2 : String) (k : Int) (ref : Option (List Rat)) (b : Bool) :
    rotate90R r a1 a2 (k % 4) ref b = rotate90R r a1 a2 k ref b := by
  unfold rotate90R
  simp only [rotCoord_mod4, rotUnits_mod4]

theorem stepM_rot_mod4 (m : Mesh) (a1 a2 : String) (k : Int) (ref : Option (List Rat)) (b : Bool) :
    stepM m (.rotate90 a1 a2 (k % 4) ref b) = stepM m (.rotate90 a1 a2 k ref b) := by
  simp only [stepM, rotate90R_mod4, rotN_mod4, rotBc_mod4]

theorem rotate90F_mod4 (f : Fld) (a1 a2 : String) (k : Int) (ref : Option (List Rat)) (b : Bool) :
    rotate90F f a1 a2 (k % 4) ref b = rotate90F f a1 a2 k ref b := by
  unfold rotate90F
  simp only [stepM_rot_mod4, rot90_mod4', rotVec_mod4]

/-- the general form of `C12.region_turn_zero`: both forms at once -/
theorem rotate90R_zero (r : Region) (hr : r.Inv) (a1 a2 : String) (k : Int) (hk : k % 4 = 0) (ref : Option (List Rat))
    (b : Bool) (x ret : Region) (h : rotate90R r a1 a2 k ref b = .ok (x, ret)) : ret = r ∧ x = r := by
  obtain ⟨_, _, i1, i2, _, _, _, _, _, _, e, ex⟩ := rotate90R_inv _ _ _ _ _ _ _ _ h
  have hodd := (turn_zero k hk).1
  have : ret = r := by
    rw [e, rotUnits_of_even _ _ _ _ hodd]
    have := target_congr r (rotCoord r.pmin (ref.getD r.center) i1 i2 k) (rotCoord r.pmax (ref.getD r.center) i1 i2 k) r.lo r.hi r.units
      (fun a _ => rotCoord_zero _ _ _ _ _ hk a) (fun a _ => rotCoord_zero _ _ _ _ _ hk a)
    rw [this, target_self r hr]
  refine ⟨this, ?_⟩
  rw [ex, this]; exact ite_self _

/-- corners of the twice-turned region = corners of the region turned once by the sum -/
theorem rot_twice_corner (r : Region) (hr : r.Inv) (R : List Rat) (i1 i2 : Nat) (k l : Int) (h12 : i1 ≠ i2)
    (l1 : i1 < r.ndim) (l2 : i2 < r.ndim) (r1 : Region)
    (e : r1 = target r (rotCoord r.pmin R i1 i2 k) (rotCoord r.pmax R i1 i2 k) (rotUnits r.units i1 i2 k))
    (a : Nat) (ha : a < r.ndim) :
    min (rotCoord r1.pmin R i1 i2 l a) (rotCoord r1.pmax R i1 i2 l a)
        = min (rotCoord r.pmin R i1 i2 (k + l) a) (rotCoord r.pmax R i1 i2 (k + l) a) ∧
    max (rotCoord r1.pmin R i1 i2 l a) (rotCoord r1.pmax R i1 i2 l a)
        = max (rotCoord r.pmin R i1 i2 (k + l) a) (rotCoord r.pmax R i1 i2 (k + l) a) := by
  have hb : rotSrc i1 i2 l a < r.ndim := rotSrc_lt _ _ _ _ _ l1 l2 ha
  have e1 : r1.pmin.getD (rotSrc i1 i2 l a) 0
      = min (rotCoord r.pmin R i1 i2 k (rotSrc i1 i2 l a)) (rotCoord r.pmax R i1 i2 k (rotSrc i1 i2 l a)) := by
    rw [e]; exact getD_tab _ _ _ _ hb
  have e2 : r1.pmax.getD (rotSrc i1 i2 l a) 0
      = max (rotCoord r.pmin R i1 i2 k (rotSrc i1 i2 l a)) (rotCoord r.pmax R i1 i2 k (rotSrc i1 i2 l a)) := by
    rw [e]; exact getD_tab _ _ _ _ hb
  -- a corner turned by `k`, then (in affine form) by `l`, is the corner turned by `k + l`
  have c : ∀ p : List Rat, p.length = r.ndim →
      rotOff R i1 i2 l a + rotSign i1 i2 l a * rotCoord p R i1 i2 k (rotSrc i1 i2 l a) = rotCoord p R i1 i2 (k + l) a := by
    intro p hp
    rw [← hp] at hb l1 l2 ha
    rw [← getD_tab p.length (rotCoord p R i1 i2 k) _ 0 hb, ← rotCoord_affine _ R i1 i2 l a]
    exact rotCoord_compose p R i1 i2 k l h12 l1 l2 a ha
  rw [rotCoord_affine _ _ _ _ _ a, rotCoord_affine r1.pmax _ _ _ _ a, e1, e2, min_affine, max_affine, c r.pmin rfl,
    c r.pmax hr.pmax_length]
  exact ⟨rfl, rfl⟩

/-- a turn by `k` then a turn by `l` about the same point is the turn by `k + l`, the second turn always accepted
(`C12.region_compose`) -/
theorem rotate90R_compose (r : Region) (hr : r.Inv) (a1 a2 : String) (k l : Int) (R : List Rat) (b b' b'' : Bool)
    (x1 r1 : Region) (h : rotate90R r a1 a2 k (some R) b = .ok (x1, r1)) :
    ∃ r2, rotate90R r1 a1 a2 l (some R) b' = .ok (if b' then r2 else r1, r2) ∧
          rotate90R r a1 a2 (k + l) (some R) b'' = .ok (if b'' then r2 else r, r2) := by
  obtain ⟨hax, href, i1, i2, h1, h2, h12, l1, l2, hne, e, _⟩ := rotate90R_inv _ _ _ _ _ _ _ _ h
  have hR : (some R : Option (List Rat)).getD r.center = R := rfl
  have hR1 : (some R : Option (List Rat)).getD r1.center = R := rfl
  rw [hR] at href hne e
  rw [hr.dims_length] at l1 l2
  have hu : (rotUnits r.units i1 i2 k).length = r.ndim := by rw [rotUnits_length]; exact hr.units_length
  have hr1 : r1.Inv := by rw [e]; exact target_inv r hr _ _ _ hu hne
  have hn1 : r1.ndim = r.ndim := by rw [e]; exact target_ndim _ _ _ _
  have hd1 : r1.dims = r.dims := by rw [e]; rfl
  have g1 : r1.dim2index a1 = .ok i1 := (dim2index_congr _ _ hd1 a1).trans h1
  have g2 : r1.dim2index a2 = .ok i2 := (dim2index_congr _ _ hd1 a2).trans h2
  have f1 := (rotate90R_ok_iff r1 hr1 a1 a2 l (some R) b' _ _).mpr ⟨hax, by rw [hR1, hn1]; exact href, i1, i2, g1, g2, rfl, rfl⟩
  have f2 := (rotate90R_ok_iff r hr a1 a2 (k + l) (some R) b'' _ _).mpr ⟨hax, by rw [hR]; exact href, i1, i2, h1, h2, rfl, rfl⟩
  rw [hR1] at f1
  rw [hR] at f2
  have key : target r1 (rotCoord r1.pmin R i1 i2 l) (rotCoord r1.pmax R i1 i2 l) (rotUnits r1.units i1 i2 l)
      = target r (rotCoord r.pmin R i1 i2 (k + l)) (rotCoord r.pmax R i1 i2 (k + l)) (rotUnits r.units i1 i2 (k + l)) := by
    have hu2 : rotUnits r1.units i1 i2 l = rotUnits r.units i1 i2 (k + l) := by
      rw [e]; exact rotUnits_compose r.units i1 i2 k l h12 (by rw [hr.units_length]; exact l1) (by rw [hr.units_length]; exact l2)
    have p1 := tab_congr r.ndim _ _ fun a ha => (rot_twice_corner r hr R i1 i2 k l h12 l1 l2 r1 e a ha).1
    have p2 := tab_congr r.ndim _ _ fun a ha => (rot_twice_corner r hr R i1 i2 k l h12 l1 l2 r1 e a ha).2
    unfold target
    rw [hu2, hn1, p1, p2, e]
    rfl
  rw [key] at f1
  exact ⟨_, f1, f2⟩

/-- `rotate90R_compose` on the regions themselves -/
theorem applyR_rot_compose (r : Region) (hr : r.Inv) (a1 a2 : String) (k l : Int) (R : List Rat) (b b' b'' : Bool)
    (h : ¬ Malformed r (.rotate90 a1 a2 k (some R) b)) :
    applyR (applyR r (.rotate90 a1 a2 k (some R) b)) (.rotate90 a1 a2 l (some R) b')
      = applyR r (.rotate90 a1 a2 (k + l) (some R) b'') := by
  obtain ⟨r2, h2, h12⟩ := rotate90R_compose r hr a1 a2 k l R b b' b'' _ _ (specR.accepts hr h)
  exact ((stepR_ok_iff _ (applyR_inv r hr _ h).1 (.rotate90 a1 a2 l (some R) b') _ _).mp h2).2.1.symm.trans
    ((stepR_ok_iff r hr (.rotate90 a1 a2 (k + l) (some R) b'') _ _).mp h12).2.1

theorem applyR_rot_zero (r : Region) (hr : r.Inv) (a1 a2 : String) (k : Int) (hk : k % 4 = 0) (ref : Option (List Rat)) (b : Bool)
    (h : ¬ Malformed r (.rotate90 a1 a2 k ref b)) : applyR r (.rotate90 a1 a2 k ref b) = r :=
  (rotate90R_zero r hr a1 a2 k hk ref b _ _ (specR.accepts hr h)).1

theorem sub_rot_wf (m : Mesh) (hm : m.Inv) (hs : SubInv m) (p : String × Region) (hp : p ∈ m.subs)
    (a1 a2 : String) (k : Int) (ref : Option (List Rat)) (b : Bool) (h : ¬ Malformed m.region (.rotate90 a1 a2 k ref b)) :
    p.2.Inv ∧ ¬ Malformed p.2 (subOp m (.rotate90 a1 a2 k ref b)) :=
  ⟨subOkE_regionInv m hm p.2 (hs p hp), fun hmal => h ((subOp_malformed_iff m p.2 (hs p hp).1 (hs p hp).2.2.2.1 _).mp hmal)⟩

/-- whether a quarter turn about a given point is well-formed depends on the dimension and the names only -/
theorem malformed_rot_congr (r s : Region) (hn : s.ndim = r.ndim) (hd : s.dims = r.dims) (a1 a2 : String) (k l : Int) (R : List Rat)
    (b b' : Bool) : Malformed s (.rotate90 a1 a2 l (some R) b') ↔ Malformed r (.rotate90 a1 a2 k (some R) b) := by
  rw [malformed_rotate90, malformed_rotate90, dim2index_congr r s hd, dim2index_congr r s hd, Option.getD_some, Option.getD_some, hn]

theorem applyM_rot_wf (m : Mesh) (hm : m.Inv) (a1 a2 : String) (k l : Int) (R : List Rat) (b b' : Bool)
    (hw : ¬ Malformed m.region (.rotate90 a1 a2 k (some R) b)) :
    ¬ Malformed (applyM m (.rotate90 a1 a2 k (some R) b)).region (.rotate90 a1 a2 l (some R) b') := fun hmal =>
  hw ((malformed_rot_congr m.region _ (applyR_inv m.region hm.1 _ hw).2.1 (applyR_inv m.region hm.1 _ hw).2.2.1 a1 a2 k l R b b').mp hmal)

/-- **two quarter turns of a mesh about one point, as meshes**: the mesh turned by `k` and then by `l` is the mesh
turned by `k + l`, except that `bc` has had its letters swapped twice -/
theorem applyM_rot_compose (m : Mesh) (hm : m.Inv) (hs : SubInv m) (a1 a2 : String) (k l : Int) (R : List Rat) (b b' b'' : Bool)
    (h : ¬ Malformed m.region (.rotate90 a1 a2 k (some R) b)) :
    applyM (applyM m (.rotate90 a1 a2 k (some R) b)) (.rotate90 a1 a2 l (some R) b')
      = { applyM m (.rotate90 a1 a2 (k + l) (some R) b'') with bc := rotBc (rotBc m.bc a1 a2 k) a1 a2 l } := by
  obtain ⟨h12, l1, l2, d1, d2⟩ := axisOf_wf m.region hm.1 _ _ _ _ _ h
  have hd := (applyR_inv m.region hm.1 _ h).2.2.1
  have g1 := (dim2index_congr m.region _ hd a1).trans d1
  have g2 := (dim2index_congr m.region _ hd a2).trans d2
  refine mesh_ext _ _ (applyR_rot_compose m.region hm.1 a1 a2 k l R b b' b'' h) ?_ rfl ?_
  · simp only [applyM, opN, g1, g2, d1, d2]
    exact rotN_compose _ _ _ _ _ h12 (hm.n_length ▸ l1) (hm.n_length ▸ l2)
  · simp only [applyM, List.map_map]
    refine List.map_congr_left fun p hp => ?_
    obtain ⟨hpi, hw⟩ := sub_rot_wf m hm hs p hp a1 a2 k (some R) b h
    exact Prod.ext rfl (applyR_rot_compose p.2 hpi a1 a2 k l R b b' b'' hw)

/-- what an accepted copying turn returns: the mesh the in-place turn assigns, with `bc` lower-cased by the constructor
(the invariants do not look at `bc`) -/
theorem stepM_rot_copy_ok (m : Mesh) (hm : m.Inv) (hs : SubInv m) (a1 a2 : String) (k : Int) (ref : Option (List Rat))
    (y ret : Mesh) (h : stepM m (.rotate90 a1 a2 k ref false) = .ok (y, ret)) :
    ¬ Malformed m.region (.rotate90 a1 a2 k ref false) ∧ y = m ∧ ret.Inv ∧ SubInv ret ∧
    ret = { applyM m (.rotate90 a1 a2 k ref false) with bc := (applyM m (.rotate90 a1 a2 k ref false)).bc.toLower } := by
  obtain ⟨hw, e⟩ := (stepM_spec m hm (subsProper_of_subInv m hm hs) _ _ _).mp h
  obtain ⟨e1, c⟩ : y = m ∧ remake (applyM m (.rotate90 a1 a2 k ref false)) = .ok ret := e
  rw [remake_eq _ (applyM_inv m hm _ hw) (applyM_subInv m hm hs _ hw)] at c
  split at c
  · obtain rfl := Except.ok.inj c
    exact ⟨hw, e1, applyM_inv m hm _ hw, applyM_subInv m hm hs _ hw, rfl⟩
  · cases c

theorem applyM_rot_zero (m : Mesh) (hm : m.Inv) (hs : SubInv m) (a1 a2 : String) (k : Int) (hk : k % 4 = 0) (ref : Option (List Rat))
    (b : Bool) (h : ¬ Malformed m.region (.rotate90 a1 a2 k ref b)) : applyM m (.rotate90 a1 a2 k ref b) = m := by
  obtain ⟨_, _, _, d1, d2⟩ := axisOf_wf m.region hm.1 _ _ _ _ _ h
  have hodd := (turn_zero k hk).1
  refine mesh_ext _ _ (applyR_rot_zero m.region hm.1 a1 a2 k hk ref b h) ?_ ?_ ?_
  · simp only [applyM, opN, d1, d2]; exact rotN_of_even _ _ _ _ hodd
  · exact rotBc_even _ _ _ _ hodd
  · refine (List.map_congr_left fun p hp => ?_).trans (List.map_id _)
    obtain ⟨hpi, hw⟩ := sub_rot_wf m hm hs p hp a1 a2 k ref b h
    exact Prod.ext rfl (applyR_rot_zero p.2 hpi a1 a2 k hk _ b hw)

/-- a turn by a multiple of four quarter turns gives the mesh back, the copying form with `bc` lower-cased by the
constructor (`C12.mesh_turn_zero`) -/
theorem stepM_rot_zero (m : Mesh) (hm : m.Inv) (hs : SubInv m) (a1 a2 : String) (k : Int) (hk : k % 4 = 0)
    (ref : Option (List Rat)) (b : Bool) (recv ret : Mesh) (h : stepM m (.rotate90 a1 a2 k ref b) = .ok (recv, ret)) :
    ret = (if b then m else { m with bc := m.bc.toLower }) ∧ recv = m := by
  cases b
  · obtain ⟨hw, e1, _, _, rfl⟩ := stepM_rot_copy_ok m hm hs a1 a2 k ref recv ret h
    rw [applyM_rot_zero m hm hs a1 a2 k hk ref false hw]
    exact ⟨rfl, e1⟩
  · obtain ⟨hw, e⟩ := (stepM_spec m hm (subsProper_of_subInv m hm hs) _ _ _).mp h
    obtain ⟨e1, e2⟩ : ret = applyM m (.rotate90 a1 a2 k ref true) ∧ recv = ret := e
    rw [applyM_rot_zero m hm hs a1 a2 k hk ref true hw] at e1
    exact ⟨e1, e2.trans e1⟩

/-- `srcIdx_compose` on arrays (`C12.rot90_compose`) -/
theorem rot90_compose' {α} (a : NDA α) (p q : Nat) (k l : Int) (hpq : p ≠ q) (hp : p < a.shape.length) (hq : q < a.shape.length) :
    (rot90 (rot90 a p q k) p q l).shape = (rot90 a p q (k + l)).shape ∧
    ∀ j, inRange (rot90 a p q (k + l)).shape j = true →
      (rot90 (rot90 a p q k) p q l).get j = (rot90 a p q (k + l)).get j := by
  simp only [rot90_get, rot90_shape]
  exact ⟨rotN_compose _ _ _ _ _ hpq hp hq, fun j hj => congrArg a.get (srcIdx_compose _ j p q k l hpq hp hq hj)⟩

theorem rot90_zero {α} (a : NDA α) (p q : Nat) (k : Int) (hk : k % 4 = 0) : rot90 a p q k = a := by
  unfold rot90; rw [if_pos hk]

/-- `g` is `f` turned by `k` in the plane of the axes `a1`, `a2` found at positions `i1`, `i2`: the
positions are distinct and inside the shape, `g` finds the axes at the same positions, keeps
labels, mapping and unit, satisfies the shape invariant, and carries validity and values moved
by the same `np.rot90`, each value turned by `turnVal` -/
structure Turned (f g : Fld) (a1 a2 : String) (k : Int) (i1 i2 : Nat) : Prop where
  ax1 : f.mesh.region.dim2index a1 = .ok i1
  ax2 : f.mesh.region.dim2index a2 = .ok i2
  ax1' : g.mesh.region.dim2index a1 = .ok i1
  ax2' : g.mesh.region.dim2index a2 = .ok i2
  names_ne : a1 ≠ a2
  ne : i1 ≠ i2
  lt1 : i1 < f.mesh.n.length
  lt2 : i2 < f.mesh.n.length
  inv : FldInv g
  nvdim : g.nvdim = f.nvdim
  vdims : g.vdims = f.vdims
  vmap : g.vmap = f.vmap
  unit : g.unit = f.unit
  valid : g.valid = rot90 f.valid i1 i2 k
  data : g.data = (rot90 f.data i1 i2 k).map (turnVal f a1 a2 k)

theorem Turned.unique {f g : Fld} {a1 a2 : String} {k : Int} {i1 i2 j1 j2 : Nat} (t : Turned f g a1 a2 k i1 i2)
    (d1 : f.mesh.region.dim2index a1 = .ok j1) (d2 : f.mesh.region.dim2index a2 = .ok j2) : j1 = i1 ∧ j2 = i2 :=
  ⟨Except.ok.inj (d1.symm.trans t.ax1), Except.ok.inj (d2.symm.trans t.ax2)⟩

theorem Turned.data_get {f g : Fld} {a1 a2 : String} {k : Int} {i1 i2 : Nat} (t : Turned f g a1 a2 k i1 i2) (j : List Nat) :
    g.data.get j = turnVal f a1 a2 k (f.data.get (srcIdx f.data.shape i1 i2 k j)) := by
  rw [t.data]; simp only [NDA.map]; rw [rot90_get]

theorem Turned.src_inRange {f g : Fld} {a1 a2 : String} {k : Int} {i1 i2 : Nat} (t : Turned f g a1 a2 k i1 i2) (hf : FldInv f)
    (j : List Nat) (hj : inRange g.mesh.n j = true) : inRange f.mesh.n (srcIdx f.data.shape i1 i2 k j) = true := by
  rw [← t.inv.data_shape, t.data] at hj
  rw [← hf.data_shape]
  exact rot90_src_inRange f.data i1 i2 k t.ne (by rw [hf.data_shape]; exact t.lt1) (by rw [hf.data_shape]; exact t.lt2) j hj

/-- what an accepted field rotation returned, for a field satisfying the shape invariant -/
theorem rotate90F_parts (f : Fld) (hf : FldInv f) (a1 a2 : String) (k : Int) (ref : Option (List Rat)) (b : Bool) (x g : Fld)
    (h : rotate90F f a1 a2 k ref b = .ok (x, g)) :
    ∃ y i1 i2, stepM f.mesh (.rotate90 a1 a2 k ref false) = .ok (y, g.mesh) ∧ Turned f g a1 a2 k i1 i2 ∧
      x = if b then g else f := by
  obtain ⟨y, m', i1, i2, hm', d1, d2, _, rfl, ex⟩ := (rotate90F_ok_iff f a1 a2 k ref b x g).mp h
  obtain ⟨q1, q2, hq1, hq2, h12, l1, l2, hr, hn, _⟩ := stepM_rot_returns f.mesh hf.1 a1 a2 k ref false y m' hm'
  obtain rfl : i1 = q1 := Except.ok.inj (d1.symm.trans hq1)
  obtain rfl : i2 = q2 := Except.ok.inj (d2.symm.trans hq2)
  have hd := dim2index_congr f.mesh.region m'.region (by rw [hr]; rfl)
  have hshape : ∀ {α} (a : NDA α), a.shape = f.mesh.n → (rot90 a i1 i2 k).shape = m'.n := fun a ha => by
    rw [rot90_shape, ha, hn]
  exact ⟨y, i1, i2, hm',
    { ax1 := d1, ax2 := d2, ax1' := (hd a1).trans d1, ax2' := (hd a2).trans d2,
      names_ne := fun e => h12 (Except.ok.inj ((e ▸ d1).symm.trans d2)), ne := h12,
      lt1 := hf.1.n_length ▸ l1, lt2 := hf.1.n_length ▸ l2,
      inv := ⟨(stepM_keeps f.mesh hf.1 _ _ _ hm').2.1, hshape _ hf.data_shape, hshape _ hf.valid_shape⟩,
      nvdim := rfl, vdims := rfl, vmap := rfl, unit := rfl, valid := rfl, data := rfl }, ex⟩

/-- what an accepted quarter turn about the centre (copying form) returned: `Turned` plus the cell counts, the axis
names and the corners -/
theorem rotate90F_centre (f : Fld) (hF : FldInv f) (a1 a2 : String) (k : Int) (x g : Fld)
    (h : rotate90F f a1 a2 k none false = .ok (x, g)) :
    ∃ p q, Turned f g a1 a2 k p q ∧ g.mesh.n = rotN f.mesh.n p q k ∧ g.mesh.region.dims = f.mesh.region.dims ∧
      g.mesh.region.ndim = f.mesh.region.ndim ∧
      ∀ a, a < f.mesh.region.ndim →
        g.mesh.region.lo a = min (rotCoord f.mesh.region.pmin f.mesh.region.center p q k a)
                                 (rotCoord f.mesh.region.pmax f.mesh.region.center p q k a) ∧
        g.mesh.region.hi a = max (rotCoord f.mesh.region.pmin f.mesh.region.center p q k a)
                                 (rotCoord f.mesh.region.pmax f.mesh.region.center p q k a) := by
  obtain ⟨y, p, q, hm', ht, _⟩ := rotate90F_parts f hF a1 a2 k none false x g h
  obtain ⟨_, _, hn, xr, hxr⟩ := stepM_keeps f.mesh hF.1 _ _ _ hm'
  obtain ⟨_, hnd, hdims, _⟩ := stepR_keeps f.mesh.region hF.1.1 _ _ _ hxr
  obtain ⟨_, _, p', q', d1, d2, _, _, _, _, hreg, _⟩ := rotate90R_inv _ _ _ _ _ _ _ _ hxr
  obtain ⟨rfl, rfl⟩ := ht.unique d1 d2
  refine ⟨_, _, ht, by rw [hn]; simp only [opN, d1, d2], hdims, hnd, fun a ha => ?_⟩
  rw [hreg, target_lo _ _ _ _ a ha, target_hi _ _ _ _ a ha]
  exact ⟨rfl, rfl⟩

/-- a field turned by `k` and then by `l` (any reference points and forms)
carries, at every index, the validity the array turned once by `k + l` carries there, and that
array's value turned by `k` and then by `l`. -/
theorem rotate90F_twice (f : Fld) (hf : FldInv f) (a1 a2 : String) (k l : Int) (ref ref' : Option (List Rat))
    (b b' : Bool) (x1 g1 x2 g2 : Fld)
    (h1 : rotate90F f a1 a2 k ref b = .ok (x1, g1)) (h2 : rotate90F g1 a1 a2 l ref' b' = .ok (x2, g2)) :
    ∃ i1 i2, f.mesh.region.dim2index a1 = .ok i1 ∧ f.mesh.region.dim2index a2 = .ok i2 ∧
      g2.nvdim = f.nvdim ∧ g2.vdims = f.vdims ∧ g2.vmap = f.vmap ∧ g2.unit = f.unit ∧
      g2.valid.shape = (rot90 f.valid i1 i2 (k + l)).shape ∧ g2.data.shape = (rot90 f.data i1 i2 (k + l)).shape ∧
      (∀ j, inRange (rot90 f.valid i1 i2 (k + l)).shape j = true → g2.valid.get j = (rot90 f.valid i1 i2 (k + l)).get j) ∧
      (∀ j, inRange (rot90 f.data i1 i2 (k + l)).shape j = true →
        g2.data.get j = turnVal f a1 a2 l (turnVal f a1 a2 k ((rot90 f.data i1 i2 (k + l)).get j))) := by
  obtain ⟨_, i1, i2, _, s, _⟩ := rotate90F_parts f hf a1 a2 k ref b x1 g1 h1
  obtain ⟨_, j1, j2, _, t, _⟩ := rotate90F_parts g1 s.inv a1 a2 l ref' b' x2 g2 h2
  obtain ⟨rfl, rfl⟩ := t.unique s.ax1' s.ax2'
  obtain ⟨vs, vg⟩ := rot90_compose' f.valid i1 i2 k l s.ne (by rw [hf.valid_shape]; exact s.lt1) (by rw [hf.valid_shape]; exact s.lt2)
  obtain ⟨ds, dg⟩ := rot90_compose' f.data i1 i2 k l s.ne (by rw [hf.data_shape]; exact s.lt1) (by rw [hf.data_shape]; exact s.lt2)
  have u6 := t.valid
  have u7 := t.data
  rw [s.valid] at u6
  rw [s.data, rot90_map, turnVal_congr f g1 s.nvdim s.vdims s.vmap] at u7
  refine ⟨i1, i2, s.ax1, s.ax2, t.nvdim.trans s.nvdim, t.vdims.trans s.vdims, t.vmap.trans s.vmap, t.unit.trans s.unit,
    by rw [u6, vs], by rw [u7]; exact ds, ?_, ?_⟩
  · intro j hj; rw [u6]; exact vg j hj
  · intro j hj; rw [u7]; simp only [NDA.map]; rw [dg j hj]

theorem forall2_imp_map {α β γ} (R : α → β → Prop) (R' : α → γ → Prop) (g : β → γ) (l1 : List α) (l2 : List β)
    (h : List.Forall₂ R l1 l2) (hi : ∀ a b, a ∈ l1 → R a b → R' a (g b)) : List.Forall₂ R' l1 (l2.map g) := by
  induction h with
  | nil => exact List.Forall₂.nil
  | @cons a b as bs hr _ ih =>
    rw [List.map_cons]
    exact List.Forall₂.cons (hi a b (by simp) hr) (ih fun a' b' ha' => hi a' b' (List.mem_cons_of_mem _ ha'))

/-- `q` is the subregion `p` turned like the mesh: same name, corners re-ordered after `rotCoord · R i1 i2 k` -/
abbrev TurnedSub (R : List Rat) (i1 i2 : Nat) (k : Int) (p q : String × Region) : Prop :=
  q.1 = p.1 ∧
  q.2.pmin = (target p.2 (rotCoord p.2.pmin R i1 i2 k) (rotCoord p.2.pmax R i1 i2 k) (rotUnits p.2.units i1 i2 k)).pmin ∧
  q.2.pmax = (target p.2 (rotCoord p.2.pmin R i1 i2 k) (rotCoord p.2.pmax R i1 i2 k) (rotUnits p.2.units i1 i2 k)).pmax

/-- an accepted mesh rotation turns the region and every subregion by the same corner map about the same reference
point (the given one, else the centre of the mesh region), keeping names and order (`C12.subregions_turn_with_mesh`) -/
theorem stepM_rot_subs (m : Mesh) (hd : ∀ p ∈ m.subs, p.2.dims = m.region.dims) (a1 a2 : String) (k : Int)
    (ref : Option (List Rat)) (b : Bool) (recv ret : Mesh) (h : stepM m (.rotate90 a1 a2 k ref b) = .ok (recv, ret)) :
    ∃ i1 i2, m.region.dim2index a1 = .ok i1 ∧ m.region.dim2index a2 = .ok i2 ∧
      ret.region = target m.region (rotCoord m.region.pmin (ref.getD m.region.center) i1 i2 k)
        (rotCoord m.region.pmax (ref.getD m.region.center) i1 i2 k) (rotUnits m.region.units i1 i2 k) ∧
      ret.n = rotN m.n i1 i2 k ∧
      List.Forall₂ (TurnedSub (ref.getD m.region.center) i1 i2 k) m.subs ret.subs := by
  obtain ⟨x, r', subs', hreg, hsub, hcase⟩ := stepM_ok m _ recv ret h
  simp only [stepR] at hreg
  simp only [subOp, stepR] at hsub
  obtain ⟨_, _, i1, i2, h1, h2, _, _, _, _, er, _⟩ := rotate90R_inv _ _ _ _ _ _ _ _ hreg
  have hN : opN m (.rotate90 a1 a2 k ref b) = rotN m.n i1 i2 k := by simp only [opN, h1, h2]
  -- the subregions are turned the same way; `g` is what the copying form does to them afterwards
  have hsubs : ∀ g : String × Region → String × Region,
      (∀ q, (g q).1 = q.1 ∧ (g q).2.pmin = q.2.pmin ∧ (g q).2.pmax = q.2.pmax) →
      List.Forall₂ (TurnedSub (ref.getD m.region.center) i1 i2 k) m.subs (subs'.map g) := by
    intro g hg
    apply forall2_imp_map _ _ g _ _ (mapSubs_inv _ _ _ hsub)
    intro p q hp ⟨hn, y, hq⟩
    obtain ⟨_, _, j1, j2, g1, g2, _, _, _, _, e, _⟩ := rotate90R_inv _ _ _ _ _ _ _ _ hq
    have hdi := dim2index_congr m.region p.2 (hd p hp)
    obtain rfl : i1 = j1 := Except.ok.inj (h1.symm.trans ((hdi a1).symm.trans g1))
    obtain rfl : i2 = j2 := Except.ok.inj (h2.symm.trans ((hdi a2).symm.trans g2))
    obtain ⟨e1, e2, e3⟩ := hg q
    exact ⟨e1.trans hn, by rw [e2, e]; rfl, by rw [e3, e]; rfl⟩
  refine ⟨i1, i2, h1, h2, ?_⟩
  cases b
  · obtain ⟨_, hm'⟩ := hcase
    obtain ⟨e1, e2, _, e4, _⟩ := mkMesh_inv _ _ _ _ _ hm'
    refine ⟨by rw [e1, er], by rw [e2, hN], ?_⟩
    rw [e4]
    exact hsubs _ fun q => ⟨rfl, rfl, rfl⟩
  · obtain ⟨rfl, _⟩ := hcase
    have := hsubs id fun q => ⟨rfl, rfl, rfl⟩
    rw [List.map_id] at this
    exact ⟨er, hN, this⟩

/-- two accepted copying turns about the same point, compared with the in-place turn by the sum:
same region, counts and subregions -/
theorem stepM_rot_twice_copy (m : Mesh) (hm : m.Inv) (hs : SubInv m) (a1 a2 : String) (k l : Int) (R : List Rat)
    (y1 m1 y2 m2 : Mesh)
    (h1 : stepM m (.rotate90 a1 a2 k (some R) false) = .ok (y1, m1))
    (h2 : stepM m1 (.rotate90 a1 a2 l (some R) false) = .ok (y2, m2)) :
    ∃ T, stepM m (.rotate90 a1 a2 (k + l) (some R) true) = .ok (T, T) ∧
      m2.region = T.region ∧ m2.n = T.n ∧ m2.subs = T.subs := by
  obtain ⟨hw, _, hi1, hs1, e1⟩ := stepM_rot_copy_ok m hm hs a1 a2 k (some R) y1 m1 h1
  obtain ⟨_, _, _, _, e2⟩ := stepM_rot_copy_ok m1 hi1 hs1 a1 a2 l (some R) y2 m2 h2
  -- the region, counts and subregions of a turned mesh do not look at `bc`
  have e := applyM_rot_compose m hm hs a1 a2 k l R false false true hw
  subst e2 e1
  exact ⟨_, stepM_assign m hm (subsProper_of_subInv m hm hs) (.rotate90 a1 a2 (k + l) (some R) true) hw,
    (congrArg Mesh.region e :), (congrArg Mesh.n e :), (congrArg Mesh.subs e :)⟩

theorem stepM_rot_inverse_copy (m : Mesh) (hm : m.Inv) (hs : SubInv m) (a1 a2 : String) (k : Int) (R : List Rat)
    (y1 m1 y2 m2 : Mesh)
    (h1 : stepM m (.rotate90 a1 a2 k (some R) false) = .ok (y1, m1))
    (h2 : stepM m1 (.rotate90 a1 a2 (-k) (some R) false) = .ok (y2, m2)) :
    m2.region = m.region ∧ m2.n = m.n ∧ m2.subs = m.subs := by
  obtain ⟨T, hT, q⟩ := stepM_rot_twice_copy m hm hs a1 a2 k (-k) R y1 m1 y2 m2 h1 h2
  obtain ⟨ez, _⟩ := stepM_rot_zero m hm hs a1 a2 (k + -k) (turn_back k) (some R) true _ T hT
  simp only [if_true] at ez
  subst ez
  exact q

end DFV.T
