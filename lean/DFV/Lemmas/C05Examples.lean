import DFV.Lemmas.C05
/-! concrete fields used by the non-vacuity examples of `DFV/Props/C05.lean` -/
namespace DFV.C05
open DFV DFV.C04

/-- 4×3×5 mesh on [0,4]×[0,6]×[0,10] with renamed axes `a,b,c` (cells 1×2×2), all directions open -/
def exMesh : Mesh :=
  { region := { pmin := [0, 0, 0], pmax := [4, 6, 10], dims := ["a", "b", "c"],
                units := ["m", "m", "m"], tol := 1/1000000000000 },
    n := [4, 3, 5], bc := "", subs := [] }

/-- the polynomial `x₀² + x₁·x₂` and its partial derivatives -/
def exP : (Nat → Rat) → Rat := fun x => x 0 ^ 2 + x 1 * x 2

def exP1 : Nat → (Nat → Rat) → Rat
  | 0, x => 2 * x 0
  | 1, x => x 2
  | _, x => x 1

def exP2 : Nat → (Nat → Rat) → Rat
  | 0, _ => 2
  | _, _ => 0

/-- plain scalar field sampling `exP` at the cell centres -/
def exS : Fld :=
  { mesh := exMesh, nvdim := 1,
    data := ⟨[4, 3, 5], fun i => [exP fun a => exMesh.centreAx a ((i.getD a 0 : Nat) : Int)]⟩,
    valid := ⟨[4, 3, 5], fun _ => true⟩, vdims := none, vmap := [], unit := none }

/-- vector field with labels `p,q,r` stored in that order and mapped `p→c, q→a, r→b`
(a non-identity permutation, dict order different from storage order) -/
def exV : Fld :=
  { mesh := exMesh, nvdim := 3,
    data := ⟨[4, 3, 5], fun i => [exMesh.centreAx 0 ((i.getD 0 0 : Nat) : Int) * exMesh.centreAx 1 ((i.getD 1 0 : Nat) : Int),
                                  exMesh.centreAx 2 ((i.getD 2 0 : Nat) : Int) ^ 2,
                                  exMesh.centreAx 0 ((i.getD 0 0 : Nat) : Int)]⟩,
    valid := ⟨[4, 3, 5], fun _ => true⟩, vdims := some ["p", "q", "r"],
    vmap := [("q", "a"), ("p", "c"), ("r", "b")], unit := some "T" }

theorem exMesh_exact : ExactMesh exS := by
  unfold ExactMesh
  exact ⟨fun _ => rfl, by decide +kernel⟩

theorem exP_quad : ∀ a, a < 3 → QuadAlong exP a (exP1 a) (exP2 a) := by
  intro a ha
  have : a = 0 ∨ a = 1 ∨ a = 2 := by omega
  rcases this with rfl | rfl | rfl <;> intro x s <;> simp [exP, exP1, exP2, upd] <;> ring

/-- the pairing hypotheses of `div_eq` / `div_accepts` for the permuted field `exV`:
stored component 0 (`p`) ↦ axis 2 (`c`), 1 (`q`) ↦ 0 (`a`), 2 (`r`) ↦ 1 (`b`) -/
def exσ : Nat → Nat
  | 0 => 2
  | 1 => 0
  | _ => 1

/-- the pairing hypothesis of `curl_eq` on `exV`: axis 0 is paired with stored component 1, axis 1 with 2, axis 2 with 0 -/
def exρ : Nat → Nat
  | 0 => 1
  | 1 => 2
  | _ => 0

theorem exV_σ : ∀ c, c < exV.nvdim → exσ c < exV.mesh.ndim ∧
    Fld.lookup exV.vmap (["p", "q", "r"].getD c "") = some (exV.mesh.region.dims.getD (exσ c) "") := by
  intro c hc
  have : c = 0 ∨ c = 1 ∨ c = 2 := by unfold exV at hc; simp at hc; omega
  rcases this with rfl | rfl | rfl <;> exact ⟨by decide, by decide⟩

theorem exV_ρ : ∀ d, d < 3 → exρ d < 3 ∧
    rDimLast exV (exV.mesh.region.dims.getD d "") = some (["p", "q", "r"].getD (exρ d) "") := by
  intro d hd
  have : d = 0 ∨ d = 1 ∨ d = 2 := by omega
  rcases this with rfl | rfl | rfl <;> exact ⟨by decide, by decide⟩

theorem lower_b : ("b" : String).toLower = "b" := by decide +kernel
theorem lower_a : ("a" : String).toLower = "a" := by decide +kernel
theorem lower_c : ("c" : String).toLower = "c" := by decide +kernel
theorem lower_e : ("" : String).toLower = "" := by decide +kernel

theorem exS_wf : MeshWf exS :=
  ⟨rfl, rfl, ⟨rfl, by decide⟩, rfl, by decide, lower_e, by decide, rfl⟩

theorem exV_wf : MeshWf exV :=
  ⟨rfl, rfl, ⟨rfl, by decide⟩, rfl, by decide, lower_e, by decide, rfl⟩

/-- `exS` on the same mesh made periodic along axis `a` only -/
def exSP : Fld := { exS with mesh := { exMesh with bc := "a" } }

theorem exSP_wf : MeshWf exSP :=
  ⟨rfl, rfl, ⟨rfl, by decide⟩, rfl, by decide, lower_a, by decide, rfl⟩

/-- a MIXED plane: axis `a` periodic, axis `b` open; the turn moves the periodicity to `b` -/
theorem exSP_tw01 : TurnWf exSP 0 1 := by
  have h : rotBc1 exSP.mesh.bc (exSP.mesh.region.dims.getD 0 "") (exSP.mesh.region.dims.getD 1 "") = "b" := by decide +kernel
  exact ⟨Or.inl ⟨by decide, by decide, lower_a, lower_b⟩, by rw [h]; exact lower_b, by rw [h]; decide⟩

theorem exSP_tw02 : TurnWf exSP 0 2 := by
  have h : rotBc1 exSP.mesh.bc (exSP.mesh.region.dims.getD 0 "") (exSP.mesh.region.dims.getD 2 "") = "c" := by decide +kernel
  exact ⟨Or.inl ⟨by decide, by decide, lower_a, lower_c⟩, by rw [h]; exact lower_c, by rw [h]; decide⟩

theorem exV_tw (a b : Nat) : TurnWf exV a b := by
  have h : ∀ da db, rotBc1 exV.mesh.bc da db = "" := by
    intro da db
    unfold rotBc1
    have : exV.mesh.bc = "" := rfl
    rw [this]
    simp
  have hp := C04.periodicBc_empty
  exact ⟨Or.inr (by unfold periodic; simp [exV, exMesh, hp]), by rw [h]; exact lower_e, by rw [h]; decide⟩

/-- `exSP` with one invalid cell (a masked field; periodic along `a`) -/
def exSM : Fld := { exSP with valid := ⟨[4, 3, 5], fun i => decide (i ≠ [1, 1, 2])⟩ }

theorem exSM_wf : MeshWf exSM := meshWf_of_mesh exSP_wf rfl rfl

theorem exSM_tw01 : TurnWf exSM 0 1 := turnWf_of_mesh exSP_tw01 rfl

theorem exSM_tw02 : TurnWf exSM 0 2 := turnWf_of_mesh exSP_tw02 rfl

/-- `exV` with two invalid cells -/
def exVM : Fld := { exV with valid := ⟨[4, 3, 5], fun i => decide (i ≠ [0, 0, 0] ∧ i ≠ [2, 1, 3])⟩ }

theorem exVM_wf : MeshWf exVM := meshWf_of_mesh exV_wf rfl rfl

theorem exVM_tw (a b : Nat) : TurnWf exVM a b := turnWf_of_mesh (exV_tw a b) rfl

/-- `exV` with its components stored in another order (`g_k = f_{π k}`, `π = 2,0,1`), relabelled
`u,v,w`, the mapping carried along: `u→b, v→c, w→a` -/
def exVp : Fld :=
  { exV with
    data := ⟨[4, 3, 5], fun i => [(exV.data.get i).getD 2 0, (exV.data.get i).getD 0 0, (exV.data.get i).getD 1 0]⟩,
    vdims := some ["u", "v", "w"], vmap := [("u", "b"), ("v", "c"), ("w", "a")] }

def exπ : Nat → Nat
  | 0 => 2
  | 1 => 0
  | _ => 1

def exπ' : Nat → Nat
  | 2 => 0
  | 0 => 1
  | _ => 2

/-- `exS` (all directions open) with one invalid cell -/
def exSO : Fld := { exS with valid := ⟨[4, 3, 5], fun i => decide (i ≠ [3, 2, 4])⟩ }

end DFV.C05
