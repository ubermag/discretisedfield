import DFV.Model.C20Heap
import DFV.Lemmas.ListOps
/-!
The heap of numpy buffers (C20) — `alloc` / `buf` / `nanWhere` / `mapAt` — and the FRAME property
of the plot functions on the heap: every in-place write lands in a buffer allocated by the call
itself.
-/
namespace DFV.C20
open DFV

/-! ## heap primitives -/

theorem buf_alloc_lt (h : AHeap) (b : ABuf) (a : Nat) (ha : a < h.length) :
    (h.alloc b).1.buf a = h.buf a :=
  getD_append_left h [b] a _ ha

theorem buf_alloc_new (h : AHeap) (b : ABuf) : (h.alloc b).1.buf h.length = b :=
  getD_concat_length h b _

theorem alloc_len (h : AHeap) (b : ABuf) : (h.alloc b).1.length = h.length + 1 :=
  List.length_append

theorem nanWhere_len (h : AHeap) (a : Nat) (m : List Nat → Bool) : (h.nanWhere a m).length = h.length :=
  length_setAt _ _ _

theorem buf_nanWhere_ne (h : AHeap) (a b : Nat) (m : List Nat → Bool) (hne : b ≠ a) :
    (h.nanWhere a m).buf b = h.buf b :=
  getD_setAt_ne h a b _ _ hne

theorem buf_nanWhere_eq (h : AHeap) (a : Nat) (m : List Nat → Bool) (ha : a < h.length) :
    (h.nanWhere a m).buf a = fun i => if m i then none else h.buf a i :=
  getD_setAt_eq h a _ _ ha

/-- `h'` extends `h` and agrees with it on every old address (the twin of `SFrame` for the dictionary store,
`C20Session`) -/
def Frame (h h' : AHeap) : Prop :=
  h.length ≤ h'.length ∧ ∀ a, a < h.length → h'.buf a = h.buf a

/-- `h'` extends `h` and agrees with it on every old address except possibly `v` -/
def FrameExcept (h h' : AHeap) (v : Nat) : Prop :=
  h.length ≤ h'.length ∧ ∀ a, a < h.length → a ≠ v → h'.buf a = h.buf a

theorem Frame.refl (h : AHeap) : Frame h h := ⟨Nat.le_refl _, fun _ _ => rfl⟩

theorem Frame.trans {h1 h2 h3 : AHeap} (a : Frame h1 h2) (b : Frame h2 h3) : Frame h1 h3 :=
  ⟨Nat.le_trans a.1 b.1, fun x hx => by rw [b.2 x (Nat.lt_of_lt_of_le hx a.1), a.2 x hx]⟩

theorem frame_alloc (h : AHeap) (b : ABuf) : Frame h (h.alloc b).1 :=
  ⟨by rw [alloc_len]; omega, fun a ha => buf_alloc_lt h b a ha⟩

theorem frame_nanWhere_fresh (h0 h : AHeap) (v : Nat) (m : List Nat → Bool) (hf : Frame h0 h)
    (hv : h0.length ≤ v) : Frame h0 (h.nanWhere v m) :=
  ⟨by rw [nanWhere_len]; exact hf.1,
   fun a ha => by rw [buf_nanWhere_ne h v a m (by omega), hf.2 a ha]⟩

theorem mapAt_len (h : AHeap) (a : Nat) (fn : Rat → Rat) : (h.mapAt a fn).length = h.length :=
  length_setAt _ _ _

theorem buf_mapAt_ne (h : AHeap) (a b : Nat) (fn : Rat → Rat) (hne : b ≠ a) :
    (h.mapAt a fn).buf b = h.buf b :=
  getD_setAt_ne h a b _ _ hne

theorem buf_mapAt_eq (h : AHeap) (a : Nat) (fn : Rat → Rat) (ha : a < h.length) :
    (h.mapAt a fn).buf a = fun i => (h.buf a i).map fn :=
  getD_setAt_eq h a _ _ ha

theorem frame_mapAt_fresh (h0 h : AHeap) (v : Nat) (fn : Rat → Rat) (hf : Frame h0 h)
    (hv : h0.length ≤ v) : Frame h0 (h.mapAt v fn) :=
  ⟨by rw [mapAt_len]; exact hf.1,
   fun a ha => by rw [buf_mapAt_ne h v a fn (by omega), hf.2 a ha]⟩

/-! ## derived fields

`derivedH` allocates the values at `h.length` and the validity at `h.length + 1`. -/

theorem frame_derivedH (h : AHeap) (f : HFld) (vals : List Nat → Rat) : Frame h (derivedH h f vals).1 := by
  unfold derivedH
  exact (frame_alloc h _).trans (frame_alloc _ _)

theorem derivedH_len (h : AHeap) (f : HFld) (vals : List Nat → Rat) :
    (derivedH h f vals).1.length = h.length + 2 := by
  unfold derivedH; simp only [alloc_len]

theorem derivedH_arr (h : AHeap) (f : HFld) (vals : List Nat → Rat) (i : List Nat) :
    (derivedH h f vals).1.buf h.length i = some (vals i.dropLast) := by
  show ((h.alloc _).1.alloc _).1.buf h.length i = _
  rw [buf_alloc_lt _ _ _ (by rw [alloc_len]; omega), buf_alloc_new]

theorem derivedH_val (h : AHeap) (f : HFld) (vals : List Nat → Rat) (i : List Nat) :
    (derivedH h f vals).1.buf (h.length + 1) i = some (if f.validAt h (i.take 2) then 1 else 0) := by
  show ((h.alloc _).1.alloc _).1.buf (h.length + 1) i = _
  have : (h.alloc fun i => some (vals i.dropLast)).1.length = h.length + 1 := alloc_len _ _
  rw [← this, buf_alloc_new]

theorem frame_validAsFieldH (h : AHeap) (f : HFld) : Frame h (validAsFieldH h f).1 := by
  unfold validAsFieldH
  exact (frame_alloc h _).trans (frame_alloc _ _)

theorem frame_filterFieldH (h : AHeap) (f : HFld) (flt : Option HFld) :
    Frame h (filterFieldH h f flt).1 := by
  cases flt with
  | none => exact frame_validAsFieldH h f
  | some g => exact Frame.refl h

theorem frame_filterArrH (h : AHeap) (f g : HFld) (hp : AHeap × Nat) (hk : filterArrH h f g = .ok hp) :
    Frame h hp.1 := by
  unfold filterArrH at hk
  split at hk
  · injection hk with hk; subst hk; exact Frame.refl h
  · split at hk
    · cases hk
    · injection hk with hk; subst hk; exact frame_alloc h _

/-- `_filter_values` writes only into `values` -/
theorem frame_filterValuesH (h0 h : AHeap) (f g : HFld) (v : Nat) (h' : AHeap) (hf : Frame h0 h)
    (hv : h0.length ≤ v) (hk : filterValuesH h f g v = .ok h') : Frame h0 h' := by
  unfold filterValuesH at hk
  split at hk
  · cases hk
  · split at hk
    · cases hk
    · split at hk
      · cases hk
      · rename_i hp hhp
        injection hk with hk
        subst hk
        exact frame_nanWhere_fresh h0 _ v _
          (frame_nanWhere_fresh h0 _ v _ (hf.trans (frame_filterArrH h f g hp hhp)) hv) hv

/-! ## the plot functions, step by step

A plot function on the heap is a cascade `match step with | .error e => (h', .error e) | .ok v => …`: a
failing step returns the heap at hand.  `X_eq` writes the function once as the chain of `stepH`s it is (by
cases on the steps, in order); the frame of the function is then read off step by step (`frame_stepH`,
`frame_ite`), and its answer is a chain of `bind`s (`stepH_snd`). -/

/-- one step of a plot function on the heap: when the step fails, the heap `h` at hand is returned with the
error; otherwise the function goes on with the result -/
def stepH {α β} (h : AHeap) (x : M α) (k : α → AHeap × M β) : AHeap × M β :=
  match x with
  | .error e => (h, .error e)
  | .ok v => k v

theorem frame_stepH {α β} {h0 h : AHeap} {x : M α} {k : α → AHeap × M β} (fr : Frame h0 h)
    (hk : ∀ v, x = .ok v → Frame h0 (k v).1) : Frame h0 (stepH h x k).1 := by
  cases x with
  | error e => exact fr
  | ok v => exact hk v rfl

theorem frame_ite {β} {h0 : AHeap} {c : Prop} [Decidable c] {a b : AHeap × β} (ha : Frame h0 a.1)
    (hb : Frame h0 b.1) : Frame h0 (if c then a else b).1 := by
  split
  · exact ha
  · exact hb

theorem stepH_snd {α β} (h : AHeap) (x : M α) (k : α → AHeap × M β) :
    (stepH h x k).2 = x.bind fun v => (k v).2 := by
  cases x <;> rfl

theorem frame_maskedValuesH (h : AHeap) (f : HFld) (flt : Option HFld) (hv : AHeap × Nat)
    (hk : maskedValuesH h f flt = .ok hv) : Frame h hv.1 ∧ hv.2 = h.length := by
  unfold maskedValuesH at hk
  split at hk
  · cases hk
  · rename_i h' hh'
    injection hk with hk
    subst hk
    exact ⟨frame_filterValuesH h _ f _ h.length h'
      ((frame_alloc h _).trans (frame_filterFieldH _ f flt)) (Nat.le_refl _) hh', rfl⟩

theorem scalarH_eq (h : AHeap) (f : HFld) (o : HOpts) : scalarH h f o =
    if f.mesh.region.ndim ≠ 2 then (h, .error .runtime) else if f.nvdim > 1 then (h, .error .runtime)
    else stepH h (setupMultiplier (f.abs h) o.mult) fun m => stepH h (extent f.mesh.region m) fun ext =>
      stepH h (maskedValuesH h f o.filter) fun hv => stepH hv.1 (axisLabels f.mesh.region m) fun lab =>
      (hv.1, .ok [.imshow (imgOfBuf f.mesh.n (hv.1.buf hv.2)) "lower" ext, lab]) := by
  unfold scalarH
  refine ite_congr rfl (fun _ => rfl) fun _ => ?_
  refine ite_congr rfl (fun _ => rfl) fun _ => ?_
  cases setupMultiplier (f.abs h) o.mult
  · rfl
  dsimp only [stepH]
  cases extent f.mesh.region _
  · rfl
  cases maskedValuesH h f o.filter
  · rfl
  dsimp only
  cases axisLabels f.mesh.region _ <;> rfl

theorem frame_scalarH (h : AHeap) (f : HFld) (o : HOpts) : Frame h (scalarH h f o).1 :=
  scalarH_eq h f o ▸ frame_ite (Frame.refl h) (frame_ite (Frame.refl h) (frame_stepH (Frame.refl h) fun _ _ =>
    frame_stepH (Frame.refl h) fun _ _ => frame_stepH (Frame.refl h) fun hv hhv =>
    frame_stepH (frame_maskedValuesH h f o.filter hv hhv).1 fun _ _ => (frame_maskedValuesH h f o.filter hv hhv).1))

theorem contourH_eq (h : AHeap) (f : HFld) (o : HOpts) : contourH h f o =
    if f.mesh.region.ndim ≠ 2 then (h, .error .runtime) else if f.nvdim ≠ 1 then (h, .error .runtime)
    else stepH h (setupMultiplier (f.abs h) o.mult) fun m =>
      stepH h (maskedValuesH h f o.filter) fun hv => stepH hv.1 (axisLabels f.mesh.region m) fun lab =>
      (hv.1, .ok [.contour (pointsAx f.mesh 0 m) (pointsAx f.mesh 1 m) (imgOfBuf f.mesh.n (hv.1.buf hv.2)), lab]) := by
  unfold contourH
  refine ite_congr rfl (fun _ => rfl) fun _ => ?_
  refine ite_congr rfl (fun _ => rfl) fun _ => ?_
  cases setupMultiplier (f.abs h) o.mult
  · rfl
  dsimp only [stepH]
  cases maskedValuesH h f o.filter
  · rfl
  dsimp only
  cases axisLabels f.mesh.region _ <;> rfl

theorem frame_contourH (h : AHeap) (f : HFld) (o : HOpts) : Frame h (contourH h f o).1 :=
  contourH_eq h f o ▸ frame_ite (Frame.refl h) (frame_ite (Frame.refl h) (frame_stepH (Frame.refl h) fun _ _ =>
    frame_stepH (Frame.refl h) fun hv hhv =>
    frame_stepH (frame_maskedValuesH h f o.filter hv hhv).1 fun _ _ => (frame_maskedValuesH h f o.filter hv hhv).1))

theorem vectorH_eq (h : AHeap) (f : HFld) (o : HOpts) : vectorH h f o =
    if f.mesh.region.ndim ≠ 2 then (h, .error .runtime)
    else if o.vdimsArg.isNone && f.vmap.isEmpty then (h, .error .value)
    else stepH h (setupMultiplier (f.abs h) o.mult) fun m =>
      stepH h (filterValuesH (validAsFieldH (h.alloc (h.buf f.arr)).1 f).1 f
          (validAsFieldH (h.alloc (h.buf f.arr)).1 f).2 h.length) fun h' =>
      stepH h' (vectorVdims (f.abs h') (o.abs h')) fun vd =>
      stepH h' (arrowIdx (f.abs h') (vd.getD 0 none)) fun ax =>
      stepH h' (arrowIdx (f.abs h') (vd.getD 1 none)) fun ay =>
      if ax.isNone && ay.isNone then (h', .error .value)
      else stepH h' (colourOf (f.abs h') (o.abs h') vd) fun c =>
        stepH h' (axisLabels f.mesh.region m) fun lab =>
        (h', .ok [.quiver (pointsAx f.mesh 0 m) (pointsAx f.mesh 1 m)
                    (arrowOfBuf f.mesh.n (h'.buf h.length) ax) (arrowOfBuf f.mesh.n (h'.buf h.length) ay) c, lab]) := by
  unfold vectorH
  refine ite_congr rfl (fun _ => rfl) fun _ => ?_
  refine ite_congr rfl (fun _ => rfl) fun _ => ?_
  cases setupMultiplier (f.abs h) o.mult
  · rfl
  dsimp only [stepH]
  cases filterValuesH _ f _ h.length
  · rfl
  dsimp only
  cases vectorVdims _ _
  · rfl
  dsimp only
  cases arrowIdx _ _
  · rfl
  dsimp only
  cases arrowIdx _ _
  · rfl
  dsimp only
  refine ite_congr rfl (fun _ => rfl) fun _ => ?_
  cases colourOf _ _ _
  · rfl
  dsimp only
  cases axisLabels f.mesh.region _ <;> rfl

theorem frame_vectorH (h : AHeap) (f : HFld) (o : HOpts) : Frame h (vectorH h f o).1 :=
  vectorH_eq h f o ▸ frame_ite (Frame.refl h) (frame_ite (Frame.refl h) (frame_stepH (Frame.refl h) fun _ _ =>
    frame_stepH (Frame.refl h) fun h' hh' =>
    have fr : Frame h h' := frame_filterValuesH h _ f _ h.length h'
      ((frame_alloc h _).trans (frame_validAsFieldH _ f)) (Nat.le_refl _) hh'
    frame_stepH fr fun _ _ => frame_stepH fr fun _ _ => frame_stepH fr fun _ _ =>
    frame_ite fr (frame_stepH fr fun _ _ => frame_stepH fr fun _ _ => fr)))

/-! ## lightness -/

theorem frame_lightFieldH (h : AHeap) (f : HFld) (lf : Option HFld) (dflt : List Nat → Rat)
    (hl : AHeap × HFld) (hk : lightFieldH h f lf dflt = .ok hl) : Frame h hl.1 := by
  unfold lightFieldH at hk
  split at hk
  · injection hk with hk; subst hk; exact frame_derivedH h f dflt
  · split at hk
    · cases hk
    · split at hk
      · cases hk
      · injection hk with hk; subst hk; exact Frame.refl h

/-- the lightness array that is normalised in place and the `rgb` array that receives the NaN
writes are both allocated by the call -/
theorem frame_lightArraysH (h : AHeap) (f lf flt : HFld) (clim : Rat × Rat) (hr : AHeap × Nat × Nat)
    (hk : lightArraysH h f lf flt clim = .ok hr) : Frame h hr.1 := by
  unfold lightArraysH at hk
  split at hk
  · cases hk
  · rename_i hp hhp
    split at hk
    · cases hk
    · rename_i h' hh'
      injection hk with hk
      subst hk
      have f1 : Frame h hp.1 := (frame_alloc h _).trans (frame_filterArrH _ f lf hp hhp)
      have f2 : Frame h (hp.1.alloc fun i => hp.1.buf hp.2 (i.take 2 ++ [0])).1 := f1.trans (frame_alloc _ _)
      have f3 := frame_mapAt_fresh h _ hp.1.length
        (normalise (ndaMin ⟨f.mesh.n, fun i => (hp.1.buf hp.2 (i ++ [0])).getD 0⟩)
          (ndaMax ⟨f.mesh.n, fun i => (hp.1.buf hp.2 (i ++ [0])).getD 0⟩) clim) f2 f1.1
      exact frame_filterValuesH h _ f flt (hp.1.length + 1) h' (f3.trans (frame_alloc _ _))
        (Nat.le_trans f1.1 (Nat.le_succ _)) hh'

theorem lightCoreH_eq (h : AHeap) (f : HFld) (o : HOpts) (clim : Option (Rat × Rat)) (hue : List Nat → Hue)
    (dflt : List Nat → Rat) : lightCoreH h f o clim hue dflt =
    stepH h (setupMultiplier (f.abs h) o.mult) fun m => stepH h (extent f.mesh.region m) fun ext =>
    stepH h (lightFieldH (filterFieldH h f o.filter).1 f o.aux dflt) fun hl =>
    stepH h (lightArraysH hl.1 f hl.2 (filterFieldH h f o.filter).2 (clim.getD (0, 1))) fun hr =>
    stepH hr.1 (axisLabels f.mesh.region m) fun lab =>
      (hr.1, .ok [.imshowHL
        ((⟨f.mesh.n, fun i =>
            if (hr.1.buf hr.2.2 (i ++ [0])).isNone then none
            else some (hue i, (hr.1.buf hr.2.1 i).getD 0)⟩ : NDA (Option (Hue × Rat))).transpose [1, 0])
        "lower" ext, lab]) := by
  unfold lightCoreH
  cases setupMultiplier (f.abs h) o.mult
  · rfl
  dsimp only [stepH]
  cases extent f.mesh.region _
  · rfl
  cases lightFieldH _ f o.aux dflt
  · rfl
  dsimp only
  cases lightArraysH _ f _ _ _
  · rfl
  dsimp only
  cases axisLabels f.mesh.region _ <;> rfl

theorem frame_lightCoreH (h : AHeap) (f : HFld) (o : HOpts) (clim : Option (Rat × Rat))
    (hue : List Nat → Hue) (dflt : List Nat → Rat) : Frame h (lightCoreH h f o clim hue dflt).1 :=
  lightCoreH_eq h f o clim hue dflt ▸ frame_stepH (Frame.refl h) fun _ _ => frame_stepH (Frame.refl h) fun _ _ =>
    frame_stepH (Frame.refl h) fun hl hhl => frame_stepH (Frame.refl h) fun hr hhr =>
    have fr : Frame h hr.1 :=
      ((frame_filterFieldH h f o.filter).trans (frame_lightFieldH _ f o.aux dflt hl hhl)).trans
        (frame_lightArraysH hl.1 f hl.2 _ _ hr hhr)
    frame_stepH fr fun _ _ => fr

/-! ## default plot -/

/-- the scalar part of the default plot of a 3-component field: `scalar` on `getattr(field, label)` (fresh
arrays) with the default filter built after it -/
def thirdScalarH (h : AHeap) (f : HFld) (o : HOpts) (m : Rat) (c : Nat) : AHeap × M (List PlotCall) :=
  scalarH (filterFieldH (compFieldH h f c).1 f o.filter).1 (compFieldH h f c).2
    { o with mult := some m, filter := some (filterFieldH (compFieldH h f c).1 f o.filter).2 }

/-- the default plot on the heap before the labels: the parts its number of components calls for, one after
the other on the same heap -/
def defaultPartsH (h : AHeap) (f : HFld) (o : HOpts) (m : Rat) : AHeap × M (List PlotCall) :=
  if f.nvdim = 1 then
    scalarH (filterFieldH h f o.filter).1 f { o with mult := some m, filter := some (filterFieldH h f o.filter).2 }
  else if f.nvdim = 2 then vectorH h f { o with mult := some m }
  else if f.nvdim = 3 then
    stepH h (thirdComp (f.abs h) (inplaneVdims (f.abs h)) o.pick) fun c =>
    stepH (thirdScalarH h f o m c).1 (thirdScalarH h f o m c).2 fun cs =>
    stepH (vectorH (thirdScalarH h f o m c).1 f { o with mult := some m }).1
      (vectorH (thirdScalarH h f o m c).1 f { o with mult := some m }).2 fun cv =>
    ((vectorH (thirdScalarH h f o m c).1 f { o with mult := some m }).1, .ok (cs ++ cv))
  else (h, .error .runtime)

/-- the labels after the parts `P` of the default plot, on the heap the parts leave -/
def withLabelsH (P : AHeap × M (List PlotCall)) (r : Region) (m : Rat) : AHeap × M (List PlotCall) :=
  stepH P.1 P.2 fun parts => stepH P.1 (axisLabels r m) fun lab => (P.1, .ok (parts ++ [lab]))

theorem labelsAfterH_one (P : AHeap × M (List PlotCall)) (r : Region) (m : Rat) :
    (match P.2 with
      | .error e => (P.1, .error e)
      | .ok cs =>
        match axisLabels r m with
        | .error e => (P.1, .error e)
        | .ok lab => (P.1, .ok (cs ++ [lab]))) = withLabelsH P r m := by
  unfold withLabelsH
  cases P.2
  · rfl
  cases axisLabels r m <;> rfl

theorem labelsAfterH_two (S V : AHeap × M (List PlotCall)) (r : Region) (m : Rat) :
    (match S.2 with
      | .error e => (S.1, .error e)
      | .ok cs =>
        match V.2 with
        | .error e => (V.1, .error e)
        | .ok cv =>
          match axisLabels r m with
          | .error e => (V.1, .error e)
          | .ok lab => (V.1, .ok (cs ++ cv ++ [lab]))) =
    withLabelsH (stepH S.1 S.2 fun cs => stepH V.1 V.2 fun cv => (V.1, .ok (cs ++ cv))) r m := by
  unfold withLabelsH
  cases S.2
  · rfl
  cases V.2
  · rfl
  cases axisLabels r m <;> rfl

theorem defaultH_eq (h : AHeap) (f : HFld) (o : HOpts) : defaultH h f o =
    if f.mesh.region.ndim ≠ 2 then (h, .error .runtime)
    else stepH h (setupMultiplier (f.abs h) o.mult) fun m =>
      withLabelsH (defaultPartsH h f o m) f.mesh.region m := by
  unfold defaultH
  refine ite_congr rfl (fun _ => rfl) fun _ => ?_
  cases setupMultiplier (f.abs h) o.mult with
  | error e => rfl
  | ok m =>
    dsimp only
    show _ = withLabelsH (defaultPartsH h f o m) f.mesh.region m
    unfold defaultPartsH
    by_cases h1 : f.nvdim = 1
    · rw [if_pos h1, if_pos h1]; exact labelsAfterH_one _ _ m
    rw [if_neg h1, if_neg h1]
    by_cases hn2 : f.nvdim = 2
    · rw [if_pos hn2, if_pos hn2]; exact labelsAfterH_one _ _ m
    rw [if_neg hn2, if_neg hn2]
    by_cases hn3 : f.nvdim = 3
    · rw [if_pos hn3, if_pos hn3]
      cases thirdComp (f.abs h) (inplaneVdims (f.abs h)) o.pick with
      | error e => rfl
      | ok c => exact labelsAfterH_two (thirdScalarH h f o m c) _ _ m
    rw [if_neg hn3, if_neg hn3]
    rfl

theorem frame_defaultPartsH (h : AHeap) (f : HFld) (o : HOpts) (m : Rat) : Frame h (defaultPartsH h f o m).1 :=
  frame_ite ((frame_filterFieldH h f o.filter).trans (frame_scalarH _ f _)) (frame_ite (frame_vectorH h f _)
    (frame_ite (frame_stepH (Frame.refl h) fun c _ =>
      -- heaps: after `getattr(field, label)` and the default filter, after `scalar`, after `vector`
      have fr1 : Frame h (thirdScalarH h f o m c).1 :=
        ((frame_derivedH h f _).trans (frame_filterFieldH (compFieldH h f c).1 f o.filter)).trans
          (frame_scalarH _ (compFieldH h f c).2 _)
      have fr2 := fr1.trans (frame_vectorH _ f { o with mult := some m })
      frame_stepH fr1 fun _ _ => frame_stepH fr2 fun _ _ => fr2) (Frame.refl h)))

theorem frame_defaultH (h : AHeap) (f : HFld) (o : HOpts) : Frame h (defaultH h f o).1 :=
  defaultH_eq h f o ▸ frame_ite (Frame.refl h) (frame_stepH (Frame.refl h) fun m _ =>
    frame_stepH (frame_defaultPartsH h f o m) fun _ _ => frame_stepH (frame_defaultPartsH h f o m) fun _ _ =>
    frame_defaultPartsH h f o m)

end DFV.C20
