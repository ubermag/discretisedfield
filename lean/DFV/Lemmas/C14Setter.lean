import DFV.Lemmas.C14Step
import DFV.Lemmas.C14Rem
import DFV.Lemmas.C01Cell
/-! C14: `is_aligned` axis by axis (`isAligned_iff`), `Mesh(region, cell)` with the default `bc` as one conditional (`mkCell?_eq`), and the
subregion setter accepts every exactly fitting box (completeness of the three tolerant tests at
tolerance-free inputs); inversion of an accepted `setSubs` (`setSubs_ok_eq`, with `restamp`, `candOk_eq`,
`candOk_ndim`). -/
namespace DFV.C14
open DFV DFV.T DFV.Mesh

theorem aligned_of_whole' (d c t : Rat) (hc : 0 < c) (ht : 0 ≤ t) (z : Int) (hz : absR d = (z : Rat) * c) :
    misalignedAx d c t = false :=
  (remTest_false_iff _ c t hc).mpr ⟨z, by rw [hz, sub_self, abs_zero]; exact ht⟩

/-- **`is_aligned`, axis by axis**: the cell sizes agree up to `np.allclose`, and both corner offsets pass the remainder test -/
theorem isAligned_iff (m o : Mesh) (t : Rat) :
    isAligned m o t = true ↔ ∀ a, a < m.ndim → allcloseAx (m.cellAt a) (o.cellAt a) t = true ∧
      misalignedAx (m.region.lo a - o.region.lo a) (m.cellAt a) t = false ∧
      misalignedAx (m.region.hi a - o.region.hi a) (m.cellAt a) t = false := by
  unfold isAligned
  simp only [Bool.and_eq_true, allLt_iff, Bool.not_eq_true']
  exact ⟨fun ⟨⟨h1, h2⟩, h3⟩ a ha => ⟨h1 a ha, h2 a ha, h3 a ha⟩,
    fun h => ⟨⟨fun a ha => (h a ha).1, fun a ha => (h a ha).2.1⟩, fun a ha => (h a ha).2.2⟩⟩

theorem isAligned_of_exact' (m o : Mesh) (t : Rat) (ht : 0 ≤ t)
    (h : ∀ a, a < m.ndim → m.cellAt a = o.cellAt a ∧ 0 < m.cellAt a ∧
      (∃ z : Int, absR (m.region.lo a - o.region.lo a) = (z : Rat) * m.cellAt a) ∧
      (∃ z : Int, absR (m.region.hi a - o.region.hi a) = (z : Rat) * m.cellAt a)) :
    isAligned m o t = true := by
  refine (isAligned_iff m o t).mpr fun a ha => ?_
  obtain ⟨e, hc, ⟨z1, hz1⟩, ⟨z2, hz2⟩⟩ := h a ha
  refine ⟨?_, aligned_of_whole' _ _ _ hc ht z1 hz1, aligned_of_whole' _ _ _ hc ht z2 hz2⟩
  unfold allcloseAx
  rw [e, sub_self, absR_eq_abs, abs_zero, decide_eq_true_eq]
  exact add_nonneg ht (div_nonneg (absR_nonneg _) (by norm_num))

/-- the conditions of `Mesh(region = s, cell = cell)` as one Boolean -/
def mkCellOk (s : Region) (cell : List Rat) : Bool :=
  decide (cell.length = s.ndim) && !cell.any (fun c => decide (c ≤ 0)) &&
  s.containsPt (tab s.ndim fun a => s.lo a + cell.getD a 0) &&
  allLt s.ndim (fun a => !notDivisible (s.edge a) (cell.getD a 0) (listMin cell / 1000)) &&
  allLt s.ndim (fun a => decide (1 ≤ (roundHalfEven (s.edge a / cell.getD a 0)).toNat))

theorem bcOk_empty (dims : List String) : bcOk dims ("" : String).toLower = true := C01.bcOk_empty_lower dims

/-- `Mesh(region = s, cell = cell)` with the default `bc`: accepted iff `mkCellOk`, and then the
counts are the rounded quotients -/
theorem mkCell?_eq (s : Region) (cell : List Rat) :
    Mesh.mkCell? s cell = if mkCellOk s cell then
      .ok { region := s, n := tab s.ndim fun a => (roundHalfEven (s.edge a / cell.getD a 0)).toNat, bc := "", subs := [] }
      else .error .value := by
  unfold Mesh.mkCell? mkCellOk
  by_cases h1 : cell.length = s.ndim
  · rw [if_neg (not_not.mpr h1), decide_eq_true h1, bcOk_empty]
    -- each test in turn: failed, both sides are the error; passed, on to the next
    cases cell.any (fun c => decide (c ≤ 0))
    · cases s.containsPt (tab s.ndim fun a => s.lo a + cell.getD a 0)
      · rfl
      · cases allLt s.ndim (fun a => !notDivisible (s.edge a) (cell.getD a 0) (listMin cell / 1000))
        · rfl
        · cases allLt s.ndim (fun a => decide (1 ≤ (roundHalfEven (s.edge a / cell.getD a 0)).toNat))
          · rfl
          · show Except.ok _ = Except.ok _
            rw [C01.toLower_empty]
    · rfl
  · rw [if_pos h1, decide_eq_false h1]; rfl

theorem mkCell?_ok (s : Region) (cell : List Rat) (g : Mesh) (h : Mesh.mkCell? s cell = .ok g) :
    cell.length = s.ndim ∧
    g = { region := s, n := tab s.ndim fun a => (roundHalfEven (s.edge a / cell.getD a 0)).toNat, bc := "", subs := [] } := by
  obtain ⟨hl, _, _, _, _, _, rfl⟩ := (C01.mkCell_ok_iff' s cell "" g).mp h
  exact ⟨hl, by rw [C01.toLower_empty]⟩

/-- `C01.mkCell_of_exact` with the default `bc`: a mesh requested by cell size exists whenever every edge is exactly a whole
number (≥ 1) of cells -/
theorem mkCell_exact (r : Region) (cell : List Rat) (k : Nat → Nat)
    (hlen : cell.length = r.ndim) (hc : ∀ a, a < r.ndim → 0 < cell.getD a 0)
    (hk : ∀ a, a < r.ndim → 0 < k a ∧ r.edge a = (k a : Rat) * cell.getD a 0) :
    Mesh.mkCell? r cell = .ok { region := r, n := tab r.ndim k, bc := "", subs := [] } := by
  have := C01.mkCell_of_exact r cell k "" hlen (fun c hcm => by
    obtain ⟨a, ha, rfl⟩ := exists_getD_of_mem cell c 0 hcm
    exact hc a (hlen ▸ ha)) hk (bcOk_empty _)
  rwa [C01.toLower_empty] at this

/-- `C01.cellAt_cover` under the mesh invariant -/
theorem n_mul_cell (m : Mesh) (hm : m.Inv) (a : Nat) (ha : a < m.ndim) :
    (m.nAt a : Rat) * m.cellAt a = m.region.hi a - m.region.lo a :=
  C01.cellAt_cover m a (hm.nAt_pos ha)

/-- "inside": an exactly fitting box lies within the region, lower corner below upper corner -/
theorem fits_bounds (m : Mesh) (hm : m.Inv) (s : Region) (h : FitsE m s) (a : Nat) (ha : a < m.ndim) :
    m.region.lo a ≤ s.lo a ∧ s.lo a < s.hi a ∧ s.hi a ≤ m.region.hi a :=
  (((fitsE_iff m s).mp h).2.2 a ha).bounds (hm.nAt_pos ha) (hm.lo_lt_hi ha)

/-- the mesh built with the parent's cell size on an exactly fitting box: it exists, has that box
as region, exactly the parent's cell size, and as many cells as the box is long -/
theorem mkCell_of_fits (m : Mesh) (hm : m.Inv) (s : Region) (h : FitsE m s) :
    ∃ g, Mesh.mkCell? s m.cell = .ok g ∧ g.region = s ∧ g.subs = [] ∧
      ∀ a, a < m.ndim → g.cellAt a = m.cellAt a ∧ 0 < g.nAt a ∧ (g.nAt a : Rat) * m.cellAt a = s.edge a := by
  have hsn : s.ndim = m.ndim := h.1
  -- the length of the box in cells, as a natural number
  have hw : ∀ a, a < m.ndim → ∃ k : Nat, 0 < k ∧ s.edge a = (k : Rat) * m.cellAt a := by
    intro a ha
    obtain ⟨_, w, _, hw0, _, _, hw⟩ := h.2.2 a ha
    refine ⟨w.toNat, by omega, ?_⟩
    rw [← Int.cast_natCast, Int.toNat_of_nonneg hw0.le]; exact hw
  choose! k hk0 hke using hw
  refine ⟨_, mkCell_exact s m.cell k ((C01.cell_length m).trans hsn.symm)
    (fun a ha => by rw [C01.cell_getD m a (hsn ▸ ha)]; exact hm.cellAt_pos (hsn ▸ ha))
    (fun a ha => by rw [C01.cell_getD m a (hsn ▸ ha)]; exact ⟨hk0 a (hsn ▸ ha), hke a (hsn ▸ ha)⟩), rfl, rfl, ?_⟩
  intro a ha
  have hnat : ({ region := s, n := tab s.ndim k, bc := "", subs := [] } : Mesh).nAt a = k a :=
    getD_tab _ _ _ _ (hsn ▸ ha)
  have hkq : ((k a : Nat) : Rat) ≠ 0 := Nat.cast_ne_zero.mpr (hk0 a ha).ne'
  have hcell : ({ region := s, n := tab s.ndim k, bc := "", subs := [] } : Mesh).cellAt a = s.edge a / (k a : Rat) := by
    unfold Mesh.cellAt; rw [hnat]
  rw [hnat, hcell]
  exact ⟨by rw [hke a ha, mul_div_cancel_left₀ _ hkq], hk0 a ha, (hke a ha).symm⟩

/-- the three tests pass on an exactly fitting box: inside by `fits_bounds`, `Mesh(region = s, cell)` exists by
`mkCell_of_fits`, aligned since the lower offset is `z` cells and the upper offset `n − z − w` cells -/
theorem subOk_of_fits (m : Mesh) (hm : m.Inv) (s : Region) (h : FitsE m s) : subOk m s = true := by
  have hb := fits_bounds m hm s h
  have hin : m.region.containsReg s = true := C01.containsReg_of_exact m.region s h.1 h.2.1 fun a ha =>
    ⟨⟨(hb a ha).1, (hb a ha).2.1.le.trans (hb a ha).2.2⟩, ⟨(hb a ha).1.trans (hb a ha).2.1.le, (hb a ha).2.2⟩⟩
  obtain ⟨g, hg, hgr, -, hax⟩ := mkCell_of_fits m hm s h
  unfold subOk
  rw [hin, hg, Bool.true_and]
  apply isAligned_of_exact' _ _ _ (by norm_num)
  intro a ha
  obtain ⟨z, w, hz0, hw0, hzw, hz, hw⟩ := h.2.2 a ha
  have hc := hm.cellAt_pos ha
  have hnc := n_mul_cell m hm a ha
  rw [hgr]
  refine ⟨(hax a ha).1.symm, hc, ⟨z, ?_⟩, ⟨(m.nAt a : Int) - z - w, ?_⟩⟩
  · rw [absR_eq_abs, abs_sub_comm, abs_of_nonneg (sub_nonneg.mpr (hb a ha).1), hz]
  · rw [absR_eq_abs, abs_of_nonneg (sub_nonneg.mpr (hb a ha).2.2)]
    push_cast
    rw [sub_mul, sub_mul, hnc, ← hz, ← hw]; ring

/-- `Region.__init__` on the corners, names, units and tolerance factor of a proper region returns that region -/
theorem mk?_self (r : Region) (hr : r.Inv) : Region.mk? r.pmin r.pmax (some r.dims) (some r.units) r.tol = .ok r :=
  mk?_ok_of_lt r.pmin r.pmax _ _ r.dims r.units r.tol hr.2.1.symm (Nat.pos_iff_ne_zero.mp hr.1)
    (dimsOk_some _ _ hr.2.2.1 hr.2.2.2.2.1) (unitsOk_some _ _ hr.2.2.2.1) hr.2.2.2.2.2

theorem SubOkE.fits {m : Mesh} {s : Region} (h : SubOkE m s) : FitsE m s := h.2.2.2

/-- `FitsE` reads the corners of the region, the counts and the corners of the box, nothing else -/
theorem fitsE_of_corners (m m' : Mesh) (s s' : Region) (hp1 : m'.region.pmin = m.region.pmin)
    (hp2 : m'.region.pmax = m.region.pmax) (hn : m'.n = m.n) (h1 : s'.pmin = s.pmin) (h2 : s'.pmax = s.pmax)
    (h : FitsE m s) : FitsE m' s' := by
  simp only [FitsE, Mesh.ndim, Region.ndim, Mesh.nAt, Mesh.cellAt, Region.lo, Region.hi, Region.edge] at h ⊢
  rw [hp1, hp2, hn, h1, h2]; exact h

theorem fitsE_congr (m m' : Mesh) (s s' : Region) (hr : m'.region = m.region) (hn : m'.n = m.n)
    (h1 : s'.pmin = s.pmin) (h2 : s'.pmax = s.pmax) (h : FitsE m s) : FitsE m' s' :=
  fitsE_of_corners m m' s s' (by rw [hr]) (by rw [hr]) hn h1 h2 h

/-- `SubInv` reads the region, the counts and the subregions, nothing else -/
theorem subInv_congr (m m' : Mesh) (hr : m'.region = m.region) (hn : m'.n = m.n) (hsub : m'.subs = m.subs) (h : SubInv m) :
    SubInv m' := by
  intro p hp
  obtain ⟨h1, h2, h3, h4⟩ := h p (hsub ▸ hp)
  exact ⟨h1.trans (congrArg _ hr.symm), h2.trans (congrArg _ hr.symm), h3.trans (congrArg _ hr.symm),
    fitsE_congr m m' p.2 p.2 hr hn rfl rfl h4⟩

/-- what the setter tests for a candidate of the mesh's dimension: the copy that is going to be stored -/
theorem candOk_eq (m : Mesh) (s : Region) (h : s.pmin.length = m.ndim) : candOk m s = subOk m (stampFor m.region s) := by
  unfold candOk
  have : s.ndim = m.ndim := h
  rw [if_pos this]

/-- a box of another dimension fails the inside test -/
theorem subOk_ndim (m : Mesh) (s : Region) (h : subOk m s = true) : s.pmin.length = m.ndim := by
  unfold subOk at h
  exact C01.containsReg_ndim (Bool.and_eq_true_iff.mp h).1

theorem candOk_ndim (m : Mesh) (s : Region) (h : candOk m s = true) : s.pmin.length = m.ndim := by
  by_contra hn
  unfold candOk at h
  rw [if_neg (show ¬ s.ndim = m.ndim from hn)] at h
  exact hn (subOk_ndim m s h)

/-- an exactly fitting candidate passes, whatever names, units and tolerance factor it carries -/
theorem candOk_of_fits (m : Mesh) (hm : m.Inv) (s : Region) (h : FitsE m s) : candOk m s = true := by
  rw [candOk_eq m s h.1]
  exact subOk_of_fits m hm _ (fitsE_congr m m s _ rfl rfl rfl rfl h)

/-- the re-creation of an accepted candidate with the mesh's metadata -/
def restamp (r : Region) (p : String × Region) : String × Region :=
  (p.1, { pmin := p.2.pmin, pmax := p.2.pmax, dims := r.dims, units := r.units, tol := r.tol })

/-- re-creating the subregions a mesh with `SubInv` holds, with the metadata they carry already, changes nothing -/
theorem map_restamp_of_subInv (m : Mesh) (hs : SubInv m) (r : Region) (hd : r.dims = m.region.dims)
    (hu : r.units = m.region.units) (ht : r.tol = m.region.tol) : m.subs.map (restamp r) = m.subs := by
  conv_rhs => rw [← List.map_id m.subs]
  refine List.map_congr_left fun p hp => ?_
  obtain ⟨h1, h2, h3, _⟩ := hs p hp
  obtain ⟨nm, rg⟩ := p
  unfold restamp
  rw [hd, hu, ht, ← h1, ← h2, ← h3]; rfl

theorem setSubs_ok_eq (m m' : Mesh) (subs : List (String × Region)) (h : setSubs m subs = .ok m') :
    m' = { m with subs := subs.map (restamp m.region) } ∧ ∀ p ∈ subs, candOk m p.2 = true :=
  ((setSubs_ok_iff m m' subs).mp h).symm

/-- **Completeness of the setter**: every candidate set of exactly fitting boxes (whatever names,
units, tolerance they carry) is accepted, and the mesh then satisfies `SubInv`. -/
theorem setSubs_of_fits (m : Mesh) (hm : m.Inv) (subs : List (String × Region)) (h : ∀ p ∈ subs, FitsE m p.2) :
    setSubs m subs = .ok { m with subs := subs.map (restamp m.region) } ∧
    SubInv { m with subs := subs.map (restamp m.region) } := by
  refine ⟨(setSubs_ok_iff m _ subs).mpr ⟨fun p hp => candOk_of_fits m hm p.2 (h p hp), rfl⟩, ?_⟩
  intro q hq
  obtain ⟨p, hp, rfl⟩ := List.mem_map.mp hq
  exact ⟨rfl, rfl, rfl, fitsE_congr m _ p.2 _ rfl rfl rfl rfl (h p hp)⟩

end DFV.C14
