import DFV.Lemmas.C15
import DFV.Lemmas.C02Leaf
/-!
Field-level definitions (`blank`, `scaleF`) and unfolding lemmas for C15: what a successful `setNorm`, `setValid`,
`updateValues` returns, and what `_as_array(·, nvdim=1)` yields per cell for a number,
a callable and an array-like.
-/
namespace DFV.C15
open DFV

/-- the field `Field.__init__` starts from before values, norm and validity are set -/
def blank (m : Mesh) (nvdim : Nat) (unit : Option String) : Fld :=
  { mesh := m, nvdim := nvdim, data := ⟨m.n, fun _ => []⟩, valid := ⟨m.n, fun _ => true⟩,
    vdims := none, vmap := [], unit := unit }

/-- the field with every vector multiplied by `c` (`orientation_scale_invariant` in `Props/C15`) -/
def scaleF (c : Rat) (f : Fld) : Fld := { f with data := ⟨f.mesh.n, fun i => smul c (f.data.get i)⟩ }

theorem asArray1_const (m : Mesh) (c : Rat) : asArray1 m (.const c) = .ok ⟨m.n, fun _ => c⟩ := rfl

theorem asArray1_fn (m : Mesh) (g : List Rat → Rat) :
    asArray1 m (.fn g) = .ok ⟨m.n, fun i => g (m.centre i)⟩ := rfl

theorem bcastArr_same {α : Type} (m : Mesh) (a : NDA α) (h : a.shape = m.n) :
    bcastArr m a = .ok ⟨m.n, a.get⟩ := by
  simp [bcastArr, h]

theorem asArray1_arr (m : Mesh) (a : NDA Rat) (h : a.shape = m.n) :
    asArray1 m (.arr a) = .ok ⟨m.n, a.get⟩ := bcastArr_same m a h

/-! `Model/C15` declares C02's broadcasting again with the two shapes in the other order, and `bcastArr`
is C02's array leaf for one component with the component axis dropped: what C15 needs about
array-likes is read off C02's leaf lemmas. -/

theorem bcastOk_eq (s t : List Nat) : bcastOk s t = C02.bcastOk t s := by
  simp only [bcastOk, C02.bcastOk, Nat.add_comm]

theorem bcastIdx_eq (s t j : List Nat) : bcastIdx s t j = C02.bcastIdx t s j := by
  simp only [bcastIdx, C02.bcastIdx, Nat.add_comm]

/-- for every shape, accepted or not, and with the same error -/
theorem bcastArr_eq_asLeaf {α : Type} [Inhabited α] (isZero : α → Bool) (m : Mesh) (a : NDA α) :
    bcastArr m a = (C02.asLeaf isZero (.arr a) m 1).map fun b => ⟨m.n, fun i => b.get (i ++ [0])⟩ := by
  simp only [bcastArr, C02.asLeaf, C02.bcast, bcastOk_eq, bcastIdx_eq, true_and]
  by_cases h1 : a.shape = m.n
  · rw [if_pos h1, if_pos h1]
    show Except.ok (⟨m.n, a.get⟩ : NDA α) = Except.ok ⟨m.n, fun i => a.get (i ++ [0]).dropLast⟩
    simp only [List.dropLast_concat]
  · rw [if_neg h1, if_neg h1]
    by_cases h2 : a.shape.getLast? ≠ some 1
    · rw [if_pos h2, if_pos h2]; rfl
    · rw [if_neg h2, if_neg h2]
      cases C02.bcastOk (m.n ++ [1]) a.shape <;> rfl

/-- the general form of the second part of `asArray1_spec_agrees`: every array, accepted or refused -/
theorem asArray1_spec_arr (m : Mesh) (a : NDA Rat) :
    asArray1 m (.spec (.leaf (.arr a))) = asArray1 m (.arr a) := by
  rw [show asArray1 m (.arr a) = bcastArr m a from rfl, bcastArr_eq_asLeaf (fun v => v == 0)]
  simp only [asArray1, C02.asArray]
  cases C02.asLeaf (fun v => v == 0) (.arr a) m 1 <;> rfl

/-- an array-like with an explicit trailing component axis, shape `(*mesh.n, 1)` -/
theorem bcastArr_col {α : Type} [Inhabited α] (m : Mesh) (a : NDA α) (h : a.shape = m.n ++ [1]) :
    ∃ t, bcastArr m a = .ok t ∧ t.shape = m.n ∧
      ∀ i : List Nat, i.length = m.n.length → (∀ k, k < m.n.length → i.getD k 0 < m.n.getD k 0) →
        t.get i = a.get (i ++ [0]) := by
  obtain ⟨b, hb, _, hget⟩ := C02.asLeaf_arr_full (fun _ => true) a m 1 h
  refine ⟨_, by rw [bcastArr_eq_asLeaf (fun _ => true), hb]; rfl, rfl, fun i hl hr => hget _ ?_⟩
  rw [inRange_snoc, (inRange_iff m.n i).mpr ⟨hl, hr⟩]; rfl

theorem setNorm_none (sqrt : Rat → Rat) (f : Fld) : setNorm sqrt f none = .ok f := rfl

theorem setNorm_some_ok {sqrt : Rat → Rat} {f g : Fld} {s : NSpec}
    (h : setNorm sqrt f (some s) = .ok g) :
    ∃ t, asArray1 f.mesh s = .ok t ∧
      g = { f with data := ⟨f.mesh.n, fun i => setCell sqrt (f.data.get i) (t.get i)⟩ } := by
  simp only [setNorm] at h
  cases ht : asArray1 f.mesh s with
  | error e => rw [ht] at h; cases h
  | ok t =>
    rw [ht] at h
    simp only [Except.ok.injEq] at h
    exact ⟨t, rfl, h.symm⟩

theorem setNorm_of_target {sqrt : Rat → Rat} {f : Fld} {s : NSpec} {t : NDA Rat}
    (ht : asArray1 f.mesh s = .ok t) :
    setNorm sqrt f (some s) =
      .ok { f with data := ⟨f.mesh.n, fun i => setCell sqrt (f.data.get i) (t.get i)⟩ } := by
  simp only [setNorm, ht]

theorem setNorm_get {sqrt : Rat → Rat} {f g : Fld} {s : NSpec} {t : NDA Rat}
    (ht : asArray1 f.mesh s = .ok t) (h : setNorm sqrt f (some s) = .ok g) (i : List Nat) :
    g.data.get i = setCell sqrt (f.data.get i) (t.get i) := by
  rw [setNorm_of_target ht] at h
  cases h; rfl

theorem setValid_ok {sqrt : Rat → Rat} {atol : Rat} {f g : Fld} {s : ValidSpec}
    (h : setValid sqrt atol f s = .ok g) :
    ∃ v, validOf sqrt atol f s = .ok v ∧ g = { f with valid := v } := by
  unfold setValid at h
  cases hv : validOf sqrt atol f s with
  | error e => rw [hv] at h; cases h
  | ok v =>
    rw [hv] at h
    simp only [Except.ok.injEq] at h
    exact ⟨v, rfl, h.symm⟩

theorem updateValues_ok {f g : Fld} {s : VSpec} (h : updateValues f s = .ok g) :
    ∃ a, valuesOf f.mesh f.nvdim s = .ok a ∧ g = { f with data := a } := by
  unfold updateValues at h
  cases hv : valuesOf f.mesh f.nvdim s with
  | error e => rw [hv] at h; cases h
  | ok a =>
    rw [hv] at h
    simp only [Except.ok.injEq] at h
    exact ⟨a, rfl, h.symm⟩

theorem setValid_of_valid {sqrt : Rat → Rat} {atol : Rat} {f : Fld} {s : ValidSpec} {v : NDA Bool}
    (hv : validOf sqrt atol f s = .ok v) : setValid sqrt atol f s = .ok { f with valid := v } := by
  simp only [setValid, hv]

theorem updateValues_of_values {f : Fld} {s : VSpec} {a : NDA (List Rat)}
    (ha : valuesOf f.mesh f.nvdim s = .ok a) : updateValues f s = .ok { f with data := a } := by
  simp only [updateValues, ha]

end DFV.C15
