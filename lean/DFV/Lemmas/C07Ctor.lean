import DFV.Lemmas.C07Geom
import DFV.Lemmas.C07List
import DFV.Lemmas.C01Cell
import DFV.Lemmas.Transform
import DFV.Lemmas.C07Ops
/-! The constructor paths (`Region.mk?`, `Mesh.mkCell?`, the subregion setter, the `Field(...)` call), read off the
characterisations of `Lemmas/Transform`, `Lemmas/C01Cell` and `C07Ops`: `regionMk_ok`, `mkCell_ok`, `mkCell_iff`
(corners in order, cell sizes that divide the edges a whole number of times), `mkFld_inv` / `mkFld_ok`,
`metaOk f = true ↔ ctorMeta f = .ok (metaOf f)` in its two directions. -/
namespace DFV.C07
open DFV DFV.Mesh

theorem mkCell_inv (r : Region) (cell : List Rat) (bc : String) (m : Mesh)
    (h : Mesh.mkCell? r cell bc = .ok m) :
    m.region = r ∧ m.n = tab r.ndim (fun a => (roundHalfEven (r.edge a / cell.getD a 0)).toNat) ∧
    m.subs = [] ∧ m.bc = bc.toLower ∧ cell.length = r.ndim := by
  obtain ⟨h1, _, _, _, _, _, rfl⟩ := (C01.mkCell_ok_iff' r cell bc m).mp h
  exact ⟨rfl, rfl, rfl, rfl, h1⟩

theorem setSubs_inv (m : Mesh) (subs : List (String × Region)) (m' : Mesh) (h : setSubs? m subs = .ok m') :
    m'.region = m.region ∧ m'.n = m.n ∧ m'.bc = m.bc ∧ m'.subs = subs.map (storeSub m) := by
  unfold setSubs? at h
  split at h
  · cases h
  · injection h with h
    subst h
    exact ⟨rfl, rfl, rfl, rfl⟩

/-- with no subregions to set the setter returns the mesh: `{ m with subs := [] }` is `m` when `m` has none -/
theorem setSubs_nil (m : Mesh) (h : m.subs = []) : setSubs? m [] = .ok m := by
  cases m
  cases h
  rfl

theorem mkMesh_inv (r : Region) (cell : List Rat) (bc : String) (subs : List (String × Region)) (m : Mesh)
    (h : mkMesh? r cell bc subs = .ok m) :
    m.region = r ∧ m.n = tab r.ndim (fun a => (roundHalfEven (r.edge a / cell.getD a 0)).toNat) ∧
    m.bc = bc.toLower ∧ cell.length = r.ndim := by
  obtain ⟨m0, h0, h⟩ := (mkMesh_ok_iff r cell bc subs m).mp h
  obtain ⟨h1, h2, _, h4, h5⟩ := mkCell_inv r cell bc m0 h0
  obtain ⟨g1, g2, g3, _⟩ := setSubs_inv m0 subs m h
  exact ⟨by rw [g1, h1], by rw [g2, h2], by rw [g3, h4], h5⟩

/-! ## acceptance on exact multiples -/

/-- `Mesh(region=r, cell=cell)` succeeds when every cell size divides its edge a whole number
`ks a ≥ 1` of times, and yields exactly those counts. -/
theorem mkCell_ok (r : Region) (ks : List Nat) (cell : List Rat) (bc : String) (hlen : cell.length = r.ndim)
    (hk : ks.length = r.ndim) (hbc : Mesh.bcOk r.dims bc.toLower = true)
    (h : ∀ a, a < r.ndim → 0 < ks.getD a 0 ∧ r.lo a < r.hi a ∧
      cell.getD a 0 = r.edge a / (ks.getD a 0 : Rat)) :
    Mesh.mkCell? r cell bc = .ok { region := r, n := ks, bc := bc.toLower, subs := [] } := by
  have hcpos : ∀ a, a < r.ndim → 0 < cell.getD a 0 := by
    intro a ha
    obtain ⟨h1, h2, h3⟩ := h a ha
    rw [h3]; unfold Region.edge
    exact div_pos (by linarith) (by exact_mod_cast h1)
  have hedge : ∀ a, a < r.ndim → r.edge a = (ks.getD a 0 : Rat) * cell.getD a 0 := by
    intro a ha
    obtain ⟨h1, _, h3⟩ := h a ha
    have : (ks.getD a 0 : Rat) ≠ 0 := by exact_mod_cast h1.ne'
    rw [h3]; field_simp
  have hall : ∀ c ∈ cell, 0 < c := by
    intro c hc
    obtain ⟨a, ha, hca⟩ := exists_getD_of_mem cell c 0 hc
    rw [← hca]; exact hcpos a (by omega)
  rw [C01.mkCell_of_exact r cell (fun a => ks.getD a 0) bc hlen hall (fun a ha => ⟨(h a ha).1, hedge a ha⟩) hbc,
    ← eq_tab_self ks _ hk]

theorem mkCell_ok_nobc (r : Region) (ks : List Nat) (cell : List Rat) (hlen : cell.length = r.ndim)
    (hk : ks.length = r.ndim)
    (h : ∀ a, a < r.ndim → 0 < ks.getD a 0 ∧ r.lo a < r.hi a ∧
      cell.getD a 0 = r.edge a / (ks.getD a 0 : Rat)) :
    Mesh.mkCell? r cell "" = .ok { region := r, n := ks, bc := "", subs := [] } := by
  have := mkCell_ok r ks cell "" hlen hk (C01.bcOk_empty_lower _) h
  rw [C01.toLower_empty] at this
  exact this

/-- `Region(p1, p2, dims, units, tol)` with `p1 < p2` componentwise is accepted as is -/
theorem regionMk_ok (p1 p2 : List Rat) (d u : List String) (tol : Rat)
    (h12 : p1.length = p2.length) (h0 : 0 < p1.length) (hd : d.length = p1.length)
    (hdup : hasDup d = false) (hu : u.length = p1.length)
    (hlt : ∀ a, a < p1.length → p1.getD a 0 < p2.getD a 0) :
    Region.mk? p1 p2 (some d) (some u) tol = .ok { pmin := p1, pmax := p2, dims := d, units := u, tol := tol } :=
  T.mk?_ok_of_lt p1 p2 (some d) (some u) d u tol h12 (by omega) (T.dimsOk_some _ _ hd hdup) (T.unitsOk_some _ _ hu) hlt

/-- `Mesh(region=r, cell=cell, bc=bc)` when every cell size divides its edge a whole number `ks b ≥ 1` of times:
accepted exactly when the boundary condition is, and then it is the mesh with these counts -/
theorem mkCell_iff (r : Region) (ks : List Nat) (cell : List Rat) (bc : String) (hlen : cell.length = r.ndim)
    (hk : ks.length = r.ndim)
    (h : ∀ a, a < r.ndim → 0 < ks.getD a 0 ∧ r.lo a < r.hi a ∧ cell.getD a 0 = r.edge a / (ks.getD a 0 : Rat))
    (g : Mesh) :
    Mesh.mkCell? r cell bc = .ok g ↔
      Mesh.bcOk r.dims bc.toLower = true ∧ g = { region := r, n := ks, bc := bc.toLower, subs := [] } := by
  constructor
  · intro hg
    have hbc := ((C01.mkCell_ok_iff' _ _ _ _).mp hg).2.2.2.2.2.1
    rw [mkCell_ok r ks cell bc hlen hk hbc h] at hg
    exact ⟨hbc, (Except.ok.inj hg).symm⟩
  · rintro ⟨hbc, rfl⟩
    exact mkCell_ok r ks cell bc hlen hk hbc h

theorem metaOf_of_ok (f : Fld) (h : metaOk f = true) : ctorMeta f = .ok (metaOf f) := by
  unfold metaOk at h
  unfold metaOf
  cases hc : ctorMeta f with
  | error e => rw [hc] at h; cases h
  | ok p => rfl

theorem metaOk_of_eq (f : Fld) (p : Option (List String) × List (String × String))
    (h : ctorMeta f = .ok p) : metaOk f = true ∧ metaOf f = p := by
  unfold metaOk metaOf; rw [h]; exact ⟨rfl, rfl⟩

theorem mkFld_inv (m : Mesh) (f : Fld) (d : NDA (List Rat)) (v : NDA Bool) (g : Fld)
    (h : mkFld m f d v = .ok g) :
    g.mesh = m ∧ g.data = d ∧ g.valid = v ∧ d.shape = m.n ∧ v.shape = m.n ∧ g.nvdim = f.nvdim ∧
    g.unit = f.unit ∧ ctorMeta f = .ok (g.vdims, g.vmap) := by
  obtain ⟨h1, h2, h3, rfl⟩ := (mkFld_ok_iff m f d v g).mp h
  exact ⟨rfl, rfl, rfl, h1, h2, rfl, rfl, metaOf_of_ok f h3⟩

theorem mkFld_ok (m : Mesh) (f : Fld) (d : NDA (List Rat)) (v : NDA Bool)
    (h1 : d.shape = m.n) (h2 : v.shape = m.n) (h3 : metaOk f = true) :
    ∃ g, mkFld m f d v = .ok g :=
  ⟨_, (mkFld_ok_iff m f d v _).mpr ⟨h1, h2, h3, rfl⟩⟩

end DFV.C07
