import DFV.Lemmas.C03Ctor

/-! C03: every evaluation result carries labels and a mapping in the state a constructor leaves
(`Inv`).  Each operation ends in a constructor call on `self`'s mesh whose `vdims=` argument comes from
an operand; the constructor restores the invariant unless that argument is the explicitly empty list,
which an operand with the invariant never carries.  Induction over arbitrary trees, no typing needed.  Each `*_inv` says: the operation preserves `Inv`. -/

namespace DFV.C03
open DFV

/-- labels/mapping in constructor state, on a mesh whose region names all its axes -/
def Inv (g : CF) : Prop := MetaStable g ∧ g.mesh.region.dims.length = g.mesh.region.ndim

theorem mkField_inv (mesh : Mesh) (nv : Nat) (val : Value) (kind : Kind) (vd : Option (List String))
    (valid : Option (NDA Bool)) (vm : Option VMap) (unit : Option String) (g : CF)
    (hdims : mesh.region.dims.length = mesh.region.ndim) (hne : vd ≠ some [])
    (h : mkField mesh nv val kind vd valid vm unit = .ok g) : Inv g := by
  refine ⟨mkField_stable mesh nv val kind vd valid vm unit g hdims hne h, ?_⟩
  rw [(mkField_mesh h).1]
  exact hdims

theorem applyOperator_inv (fn : GQ → GQ → GQ) (pw : Bool) (f : CF) (v : Val) (g : CF)
    (hf : Inv f) (hv : ∀ o, v = .fld o → Inv o) (h : applyOperator fn pw f v = .ok g) : Inv g := by
  obtain ⟨_, _, res, _, hg⟩ := applyOperator_ok_iff.mp h
  refine mkField_inv _ _ _ _ _ _ _ _ g hf.2 (fixVdims_ne_nil _ _ ?_) hg
  cases v with
  | fld o =>
    exact metaSrc_ind (P := fun s => s.vdims ≠ some []) f o (hv o rfl).1.ne_nil hf.1.ne_nil
  | raw od => exact hf.1.ne_nil

theorem mapField_inv (fn : GQ → GQ) (rk : Kind → Kind) (keepUnit : Bool) (f g : CF) (hf : Inv f)
    (h : mapField fn rk keepUnit f = .ok g) : Inv g :=
  mkField_inv _ _ _ _ _ _ _ _ g hf.2 hf.1.ne_nil h

theorem ufuncWrap_inv (self : CF) (res : NDA GQ) (k : Kind) (valid : NDA Bool) (g : CF) (hf : Inv self)
    (h : ufuncWrap self res k valid = .ok g) : Inv g :=
  mkField_inv _ _ _ _ _ _ _ _ g hf.2 hf.1.ne_nil (ufuncWrap_ok_iff.mp h).2

theorem ufunc1_inv (fn : GQ → GQ) (rk : Kind → Kind) (f g : CF) (hf : Inv f) (h : ufunc1 fn rk f = .ok g) : Inv g :=
  ufuncWrap_inv _ _ _ _ g hf (ufunc1_ok_iff.mp h).2

theorem ufunc2_inv (fn : GQ → GQ → GQ) (pw : Bool) (l r : Val) (g : CF)
    (hl : ∀ o, l = .fld o → Inv o) (hr : ∀ o, r = .fld o → Inv o) (h : ufunc2 fn pw l r = .ok g) : Inv g := by
  obtain ⟨self, ⟨hs, _, _⟩, _, res, _, hw⟩ := ufunc2_ok_iff.mp h
  refine ufuncWrap_inv _ _ _ _ g ?_ hw
  rcases firstFld_some l r self hs with h1 | h1
  · exact hl self h1
  · exact hr self h1

theorem dotOp_inv (f : CF) (v : Val) (g : CF) (hf : Inv f) (h : dotOp f v = .ok g) : Inv g := by
  obtain ⟨_, res, _, hg⟩ := dotOp_ok_iff.mp h
  exact mkField_inv _ _ _ _ _ _ _ _ g hf.2 none_ne_nil hg

theorem crossOp_inv (f : CF) (v : Val) (g : CF) (hf : Inv f) (h : crossOp f v = .ok g) : Inv g := by
  obtain ⟨_, _, res, _, hg⟩ := crossOp_ok_iff.mp h
  exact mkField_inv _ _ _ _ _ _ _ _ g hf.2 hf.1.ne_nil hg

theorem shlFF_inv (f o g : CF) (hf : Inv f) (h : shlFF f o = .ok g) : Inv g := by
  obtain ⟨_, res, _, hg⟩ := shlFF_ok_iff.mp h
  exact mkField_inv _ _ _ _ _ _ _ _ g hf.2 (shlVdims_ne_nil hf.1.ne_nil) hg

theorem liftOpd_inv (mesh : Mesh) (od : Opd) (g : CF) (hd : mesh.region.dims.length = mesh.region.ndim)
    (h : liftOpd mesh od = .ok g) : Inv g ∧ g.mesh = mesh :=
  have h := (liftOpd_ok_iff.mp h).2
  ⟨mkField_inv _ _ _ _ _ _ _ _ g hd none_ne_nil h, (mkField_mesh h).1⟩

theorem shlOp_inv (f : CF) (v : Val) (g : CF) (hf : Inv f) (h : shlOp f v = .ok g) : Inv g := by
  obtain ⟨o, _, hs⟩ := shlOp_ok h
  exact shlFF_inv f o g hf hs

theorem angleOp_inv (sq acos : Rat → Rat) (f : CF) (v : Val) (g : CF) (hf : Inv f)
    (h : angleOp sq acos f v = .ok g) : Inv g := by
  obtain ⟨_, _, _, _, _, _, _, _, _, _, _, _, _, hg⟩ := angleOp_ok h
  exact mkField_inv _ _ _ _ _ _ _ _ g hf.2 none_ne_nil hg

theorem applyUn_inv (env : Env) (u : UnOp) (f g : CF) (hf : Inv f) (h : applyUn env u f = .ok g) : Inv g := by
  by_cases hp : u = .pos
  · subst hp
    cases Except.ok.inj h
    exact hf
  · cases hu : isUfuncUn u with
    | true => rw [applyUn_ufunc env hu] at h; exact ufunc1_inv _ _ f g hf h
    | false => rw [applyUn_rebuild env hu hp] at h; exact mapField_inv _ _ _ f g hf h

theorem forwardOp_inv (env : Env) (b : BinOp) (f : CF) (v : Val) (g : CF) (hf : Inv f)
    (hv : ∀ o, v = .fld o → Inv o) (h : forwardOp env b f v = .ok g) : Inv g := by
  rcases forwardOp_ok_cases h with ⟨_, h⟩ | ⟨_, h⟩ | ⟨_, h⟩ | ⟨_, h⟩ | ⟨_, h⟩
  · exact applyOperator_inv _ _ f v g hf hv h
  · exact dotOp_inv f v g hf h
  · exact crossOp_inv f v g hf h
  · exact shlOp_inv f v g hf h
  · exact angleOp_inv _ _ f v g hf h

theorem reflectedOp_inv (b : BinOp) (od : Opd) (f g : CF) (hf : Inv f) (h : reflectedOp b od f = .ok g) : Inv g := by
  have hraw : ∀ o, Val.raw od = .fld o → Inv o := fun _ h => Val.noConfusion h
  rcases reflectedOp_ok h with ⟨fn, _, h⟩ | ⟨_, g0, h0, h⟩ | ⟨_, h⟩ | ⟨_, g0, h0, h⟩ | ⟨_, o, h0, h⟩
  · exact applyOperator_inv _ _ f _ g hf hraw h
  · exact applyOperator_inv _ _ g0 _ g (mapField_inv _ _ _ f g0 hf h0) hraw h
  · exact dotOp_inv f _ g hf h
  · exact mapField_inv _ _ _ g0 g (crossOp_inv f _ g0 hf h0) h
  · exact shlFF_inv o f g (liftOpd_inv f.mesh od o hf.2 h0).1 h

theorem applyBin_inv (env : Env) (b : BinOp) (l r : Val) (g : CF)
    (hl : ∀ o, l = .fld o → Inv o) (hr : ∀ o, r = .fld o → Inv o)
    (h : applyBin env b l r = .ok (.fld g)) : Inv g := by
  rcases applyBin_ok_cases h with ⟨_, h'⟩ | ⟨_, f, rfl, h'⟩ | ⟨_, o, f, rfl, rfl, _, h'⟩ | ⟨_, o, f, rfl, rfl, _, h'⟩
  · exact ufunc2_inv _ _ l r g hl hr h'
  · exact forwardOp_inv env b f r g (hl f rfl) hr h'
  · exact ufunc2_inv _ _ _ _ g hl hr h'
  · exact reflectedOp_inv b o f g (hr f rfl) h'

/-- **invariant of every evaluation result** (induction over arbitrary expression trees): if
the leaves carry constructor-state labels and mappings, so does the value of every
accepted expression -/
theorem evalF_inv (env : Env) (hleaf : ∀ f ∈ env.fields, Inv f) :
    ∀ (e : Expr) (g : CF), evalF env e = .ok (.fld g) → Inv g := by
  intro e
  induction e with
  | leaf k =>
    intro g h
    obtain ⟨f, hk, hv⟩ := evalF_leaf_ok h
    cases Val.fld.inj hv
    exact hleaf g (List.mem_of_getElem? hk)
  | opd o => intro g h; cases Except.ok.inj h
  | un u e ih =>
    intro g h
    obtain ⟨f, g', he, hu, hv⟩ := evalF_un_ok h
    cases Val.fld.inj hv
    exact applyUn_inv env u f g (ih f he) hu
  | bin b l r ihl ihr =>
    intro g h
    obtain ⟨vl, vr, hl, hr, hb⟩ := evalF_bin_ok h
    exact applyBin_inv env b vl vr g (fun o ho => ihl o (by rw [hl, ho])) (fun o ho => ihr o (by rw [hr, ho])) hb

end DFV.C03
