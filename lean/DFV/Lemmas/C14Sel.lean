import DFV.Lemmas.C14Ex
/-! C14: plane / range selections of a mesh with subregions.  First the regions with one axis replaced (`setAx`, with its
accessors, `setAx_regionInv`, `setAx_mkCell`) — the slab of a range selection and a clipped subregion are such regions.  What a
selection returns is written once, as a function (`rangeMesh m ax i0 i1`, `planeMesh m ax c`); `selRange_eq` / `selPlane_eq`
say that a successful selection returns it, `rangeMesh_inv` / `planeMesh_inv` that it satisfies the mesh invariant and
`SubInv`; before `planeMesh`, regions with one axis removed (`removeAx_*`). -/
namespace DFV.C14
open DFV DFV.T DFV.Mesh

/-- `_sel_convert_input`, accepted: the cell containing the point, and its centre -/
theorem selConvert_inv (m : Mesh) (ax : Nat) (x c : Rat) (i : Nat) (h : selConvert m ax x = .ok (c, i)) :
    i = m.indexAx ax x ∧ c = m.centreAx ax (i : Int) := by
  unfold selConvert at h
  split at h
  · cases h
  · injection h with h; injection h with h1 h2
    subst h2; exact ⟨rfl, h1.symm⟩

/-! ## a region with the extent along one axis replaced -/

/-- `r` with the extent along `ax` replaced by `[lo', hi']` -/
def setAx (r : Region) (ax : Nat) (lo' hi' : Rat) : Region :=
  { r with pmin := setAt r.pmin ax lo', pmax := setAt r.pmax ax hi' }

theorem setAx_ndim (r : Region) (ax : Nat) (lo' hi' : Rat) : (setAx r ax lo' hi').ndim = r.ndim := length_setAt _ _ _

theorem setAx_lo_self (r : Region) (ax : Nat) (lo' hi' : Rat) (h : ax < r.pmin.length) : (setAx r ax lo' hi').lo ax = lo' :=
  getD_setAt_eq _ _ _ _ h

theorem setAx_hi_self (r : Region) (ax : Nat) (lo' hi' : Rat) (h : ax < r.pmax.length) : (setAx r ax lo' hi').hi ax = hi' :=
  getD_setAt_eq _ _ _ _ h

theorem setAx_lo_ne (r : Region) (ax : Nat) (lo' hi' : Rat) (a : Nat) (h : a ≠ ax) : (setAx r ax lo' hi').lo a = r.lo a :=
  getD_setAt_ne _ _ _ _ _ h

theorem setAx_hi_ne (r : Region) (ax : Nat) (lo' hi' : Rat) (a : Nat) (h : a ≠ ax) : (setAx r ax lo' hi').hi a = r.hi a :=
  getD_setAt_ne _ _ _ _ _ h

theorem setAx_regionInv (r : Region) (hr : r.Inv) (ax : Nat) (lo' hi' : Rat) (h : lo' < hi') : (setAx r ax lo' hi').Inv := by
  obtain ⟨r0, r1, r2, r3, r4, r5⟩ := hr
  refine ⟨?_, ?_, ?_, ?_, r4, ?_⟩
  · show 0 < (setAt _ _ _).length; rw [length_setAt]; exact r0
  · show (setAt _ _ _).length = (setAt _ _ _).length; rw [length_setAt, length_setAt]; exact r1
  · show _ = (setAt _ _ _).length; rw [length_setAt]; exact r2
  · show _ = (setAt _ _ _).length; rw [length_setAt]; exact r3
  · intro a ha
    have ha' : a < r.pmin.length := lt_of_lt_of_eq ha (setAx_ndim r ax lo' hi')
    by_cases e : a = ax
    · subst e; rw [setAx_lo_self _ _ _ _ ha', setAx_hi_self _ _ _ _ (r1 ▸ ha')]; exact h
    · rw [setAx_lo_ne _ _ _ _ _ e, setAx_hi_ne _ _ _ _ _ e]; exact r5 a ha'

/-- `Mesh(region = …, cell = m.cell)` on the mesh region with the extent along `ax` replaced by `K ≥ 1` cells: it exists, with
`K` cells along `ax` and the mesh's counts elsewhere -/
theorem setAx_mkCell (m : Mesh) (hm : m.Inv) (ax : Nat) (hax : ax < m.ndim) (lo' hi' : Rat) (K : Nat) (hK : 0 < K)
    (he : hi' - lo' = (K : Rat) * m.cellAt ax) :
    Mesh.mkCell? (setAx m.region ax lo' hi') m.cell =
      .ok { region := setAx m.region ax lo' hi', n := setAt m.n ax K, bc := "", subs := [] } := by
  have hnd : (setAx m.region ax lo' hi').ndim = m.ndim := setAx_ndim _ _ _ _
  refine (mkCell_exact _ m.cell (fun a => (setAt m.n ax K).getD a 0) ?_ ?_ ?_).trans ?_
  · rw [C01.cell_length, hnd]
  · intro k hk; rw [hnd] at hk; rw [C01.cell_getD m k hk]; exact hm.cellAt_pos hk
  · intro k hk
    rw [hnd] at hk
    rw [C01.cell_getD m k hk]
    unfold Region.edge
    by_cases e : k = ax
    · subst e
      rw [setAx_hi_self _ _ _ _ (hm.1.2.1 ▸ hk), setAx_lo_self _ _ _ _ hk, getD_setAt_eq _ _ _ _ (hm.2.1 ▸ hk)]
      exact ⟨hK, he⟩
    · rw [setAx_hi_ne _ _ _ _ _ e, setAx_lo_ne _ _ _ _ _ e, getD_setAt_ne _ _ _ _ _ e]
      exact ⟨hm.nAt_pos hk, (n_mul_cell m hm k hk).symm⟩
  · rw [hnd, ← eq_tab_of_getD (setAt m.n ax K) m.ndim _ 0 (by rw [length_setAt]; exact hm.2.1) fun _ _ => rfl]

/-! ## range selection -/

/-- the slab faces of a range selection: lower face of cell `i0`, upper face of cell `i1` -/
def loSlab (m : Mesh) (ax i0 : Nat) : Rat := m.region.lo ax + (i0 : Rat) * m.cellAt ax

def hiSlab (m : Mesh) (ax i1 : Nat) : Rat := m.region.lo ax + ((i1 : Rat) + 1) * m.cellAt ax

/-- the clipped copy of a subregion -/
def clipSub (m : Mesh) (ax i0 i1 : Nat) (s : Region) : Region :=
  { s with pmin := setAt s.pmin ax (max (loSlab m ax i0) (s.lo ax)), pmax := setAt s.pmax ax (min (hiSlab m ax i1) (s.hi ax)) }

theorem clipSub_eq (m : Mesh) (ax i0 i1 : Nat) (s : Region) :
    clipSub m ax i0 i1 s = setAx s ax (max (loSlab m ax i0) (s.lo ax)) (min (hiSlab m ax i1) (s.hi ax)) := rfl

theorem loSlab_lt_hiSlab (m : Mesh) (ax i0 i1 : Nat) (hc : 0 < m.cellAt ax) (h01 : i0 ≤ i1) :
    loSlab m ax i0 < hiSlab m ax i1 := by
  unfold loSlab hiSlab
  have : (i0 : Rat) < (i1 : Rat) + 1 := by exact_mod_cast Nat.lt_succ_of_le h01
  exact (add_lt_add_iff_left _).mpr (mul_lt_mul_of_pos_right this hc)

/-- the region of a range selection: the extent along `ax` replaced by the slab of the cells `i0 … i1` -/
def slabReg (m : Mesh) (ax i0 i1 : Nat) : Region := setAx m.region ax (loSlab m ax i0) (hiSlab m ax i1)

/-- the mesh a range selection returns for the cells `i0 … i1` of a mesh with exactly fitting subregions: the slab with
`i1 − i0 + 1` cells along `ax`, and the subregions whose open extent meets the open slab, clipped to it and re-created with
the slab's metadata, in the original order -/
def rangeMesh (m : Mesh) (ax i0 i1 : Nat) : Mesh :=
  { region := slabReg m ax i0 i1, n := setAt m.n ax (i1 - i0 + 1), bc := "",
    subs := (m.subs.filter fun p => decide (p.2.lo ax < hiSlab m ax i1) && decide (loSlab m ax i0 < p.2.hi ax)).map
      fun p => restamp (slabReg m ax i0 i1) (p.1, clipSub m ax i0 i1 p.2) }

/-- under `SubInv`, the half-cell test of the range selection is the plain overlap test -/
theorem range_filter_eq (m : Mesh) (hm : m.Inv) (hs : SubInv m) (ax i0 i1 : Nat) (hax : ax < m.ndim) :
    (m.subs.filter fun p =>
      !(decide (hiSlab m ax i1 - m.cellAt ax / 2 ≤ p.2.lo ax) || decide (p.2.hi ax - m.cellAt ax / 2 ≤ loSlab m ax i0))) =
    (m.subs.filter fun p => decide (p.2.lo ax < hiSlab m ax i1) && decide (loSlab m ax i0 < p.2.hi ax)) := by
  apply List.filter_congr
  intro p hp
  have hfa : FitsAx (m.region.lo ax) (m.region.hi ax) (m.nAt ax) (p.2.lo ax) (p.2.hi ax) := (hs p hp).fits.2.2 ax hax
  have := overlap_iff _ _ _ _ _ i0 i1 (hm.nAt_pos hax) (hm.lo_lt_hi hax) hfa
  have e : (!(decide (hiSlab m ax i1 - m.cellAt ax / 2 ≤ p.2.lo ax) || decide (p.2.hi ax - m.cellAt ax / 2 ≤ loSlab m ax i0))) = true ↔
      (decide (p.2.lo ax < hiSlab m ax i1) && decide (loSlab m ax i0 < p.2.hi ax)) = true := by
    simp only [Bool.not_eq_true', Bool.or_eq_false_iff, decide_eq_false_iff_not, not_le, Bool.and_eq_true, decide_eq_true_eq]
    -- `loSlab`, `hiSlab`, `cellAt` unfold to the lattice points of `overlap_iff`
    exact this
  exact Bool.eq_iff_iff.mpr e

/-- **a successful range selection of a mesh with exactly fitting subregions returns `rangeMesh`** for the cells containing the
two bounds -/
theorem selRange_eq (m m' : Mesh) (hm : m.Inv) (hs : SubInv m) (ax : Nat) (a b : Rat) (h : selRange m ax a b = .ok m') :
    ax < m.ndim ∧ m.indexAx ax (min a b) ≤ m.indexAx ax (max a b) ∧ m.indexAx ax (max a b) < m.nAt ax ∧
    m' = rangeMesh m ax (m.indexAx ax (min a b)) (m.indexAx ax (max a b)) := by
  unfold selRange at h
  split at h
  · cases h
  rename_i hax
  replace hax : ax < m.ndim := by omega
  split at h
  · cases h
  · cases h
  rename_i c0 i0 c1 i1 h0 h1
  obtain ⟨rfl, ec0⟩ := selConvert_inv _ _ _ _ _ h0
  obtain ⟨rfl, ec1⟩ := selConvert_inv _ _ _ _ _ h1
  have hc := hm.cellAt_pos hax
  have h01 := C01.indexAx_mono m ax (hm.nAt_pos hax) hc (le_trans (min_le_left a b) (le_max_left a b))
  have elo : c0 - m.cellAt ax / 2 = loSlab m ax (m.indexAx ax (min a b)) := by rw [ec0, C01.centreAx_natCast]; unfold loSlab; ring
  have ehi : c1 + m.cellAt ax / 2 = hiSlab m ax (m.indexAx ax (max a b)) := by rw [ec1, C01.centreAx_natCast]; unfold hiSlab; ring
  rw [elo, ehi] at h
  -- the slab is a proper region and consists of `i1 − i0 + 1` layers of cells
  have hlen : hiSlab m ax (m.indexAx ax (max a b)) - loSlab m ax (m.indexAx ax (min a b)) =
      ((m.indexAx ax (max a b) - m.indexAx ax (min a b) + 1 : Nat) : Rat) * m.cellAt ax := by
    unfold loSlab hiSlab; push_cast [Nat.cast_sub h01]; ring
  have hR := setAx_regionInv m.region hm.1 ax _ _ (loSlab_lt_hiSlab m ax _ _ hc h01)
  split at h
  · cases h
  rename_i r' hr'
  -- the constructor returns the slab, a proper region, as it is
  cases (mk?_self _ hR).symm.trans hr'
  rw [setAx_mkCell m hm ax hax _ _ _ (Nat.succ_pos _) hlen] at h
  obtain ⟨rfl, _⟩ := setSubs_ok_eq _ _ _ h
  refine ⟨hax, h01, C01.indexAx_lt m ax (hm.nAt_pos hax) _, ?_⟩
  -- the model's anonymous record update is `clipSub`, what the setter stores is `restamp`
  unfold rangeMesh
  rw [← range_filter_eq m hm hs ax _ _ hax]
  show Mesh.mk _ _ _ (List.map _ (List.map _ _)) = _
  rw [List.map_map]; rfl

/-- `rangeMesh` keeps the mesh invariant and `SubInv`: on `ax` the clipped subregions sit on the lattice of the slab
(`fitsAx_clip`), the other axes are those of `m` -/
theorem rangeMesh_inv (m : Mesh) (hm : m.Inv) (hs : SubInv m) (ax i0 i1 : Nat) (hax : ax < m.ndim) (h01 : i0 ≤ i1) :
    (rangeMesh m ax i0 i1).Inv ∧ SubInv (rangeMesh m ax i0 i1) := by
  have hrinv : (slabReg m ax i0 i1).Inv :=
    setAx_regionInv m.region hm.1 ax _ _ (loSlab_lt_hiSlab m ax i0 i1 (hm.cellAt_pos hax) h01)
  obtain ⟨⟨r0, r1, r2, r3, r4, r5⟩, hnl, hpos⟩ := hm
  have hnd : (rangeMesh m ax i0 i1).ndim = m.ndim := length_setAt _ _ _
  have hax0 : ax < m.region.pmin.length := hax
  have lo_ax : (slabReg m ax i0 i1).lo ax = loSlab m ax i0 := setAx_lo_self _ _ _ _ hax0
  have hi_ax : (slabReg m ax i0 i1).hi ax = hiSlab m ax i1 := setAx_hi_self _ _ _ _ (by rw [r1]; exact hax0)
  have n_ax : (rangeMesh m ax i0 i1).nAt ax = i1 - i0 + 1 := getD_setAt_eq _ _ _ _ (by rw [hnl]; exact hax)
  have lo_ne : ∀ a, a ≠ ax → (slabReg m ax i0 i1).lo a = m.region.lo a := setAx_lo_ne _ _ _ _
  have hi_ne : ∀ a, a ≠ ax → (slabReg m ax i0 i1).hi a = m.region.hi a := setAx_hi_ne _ _ _ _
  have n_ne : ∀ a, a ≠ ax → (rangeMesh m ax i0 i1).nAt a = m.nAt a := fun a e => getD_setAt_ne _ _ _ _ _ e
  refine ⟨⟨hrinv, ?_, ?_⟩, ?_⟩
  · show (setAt m.n ax _).length = _; rw [length_setAt]; exact hnl.trans hnd.symm
  · intro a ha
    rw [hnd] at ha
    by_cases e : a = ax
    · subst e; rw [n_ax]; omega
    · rw [n_ne a e]; exact hpos a ha
  intro q hq
  obtain ⟨p, hp, rfl⟩ := List.mem_map.mp hq
  obtain ⟨hpm, hpf⟩ := List.mem_filter.mp hp
  obtain ⟨_, _, _, hl1, hl2, hfit⟩ := hs p hpm
  refine ⟨rfl, rfl, rfl, ?_, ?_, ?_⟩
  · show (setAt _ _ _).length = _; rw [length_setAt, hnd]; exact hl1
  · show (setAt _ _ _).length = _; rw [length_setAt, hnd]; exact hl2
  · intro a ha
    rw [hnd] at ha
    have hfa : FitsAx (m.region.lo a) (m.region.hi a) (m.nAt a) (p.2.lo a) (p.2.hi a) := hfit a ha
    show FitsAx ((slabReg m ax i0 i1).lo a) ((slabReg m ax i0 i1).hi a) ((rangeMesh m ax i0 i1).nAt a)
      ((setAt p.2.pmin ax _).getD a 0) ((setAt p.2.pmax ax _).getD a 0)
    by_cases e : a = ax
    · subst e
      rw [lo_ax, hi_ax, n_ax, getD_setAt_eq _ _ _ _ (by rw [hl1]; exact ha), getD_setAt_eq _ _ _ _ (by rw [hl2]; exact ha)]
      simp only [Bool.and_eq_true, decide_eq_true_eq] at hpf
      exact fitsAx_clip _ _ _ _ _ i0 i1 (hpos a ha) (r5 a ha) h01 hfa hpf.1 hpf.2
    · rw [lo_ne a e, hi_ne a e, n_ne a e, getD_setAt_ne _ _ _ _ _ e, getD_setAt_ne _ _ _ _ _ e]
      exact hfa

/-! ## plane selection -/

/-- position `a` of a list with entry `ax` removed holds entry `a` or `a + 1` of the list (`getD_removeAt`); that index is in range -/
theorem removeAt_src_lt (ax a n : Nat) (hax : ax < n) (ha : a < n - 1) : (if a < ax then a else a + 1) < n := by
  split <;> omega

/-- the copy of a subregion with axis `ax` removed -/
def dropSub (ax : Nat) (s : Region) : Region :=
  { s with pmin := removeAt s.pmin ax, pmax := removeAt s.pmax ax, dims := removeAt s.dims ax, units := removeAt s.units ax }

theorem removeAx_regionInv (r : Region) (hr : r.Inv) (ax : Nat) (hax : ax < r.ndim) (h1 : 1 < r.ndim)
    (hdup : hasDup (removeAt r.dims ax) = false) :
    (dropSub ax r).Inv := by
  obtain ⟨r0, r1, r2, r3, r4, r5⟩ := hr
  have hax0 : ax < r.pmin.length := hax
  have hlen : (removeAt r.pmin ax).length = r.pmin.length - 1 := length_removeAt _ _ hax0
  refine ⟨?_, ?_, ?_, ?_, hdup, ?_⟩
  · show 0 < (removeAt _ _).length; rw [hlen]; exact Nat.sub_pos_of_lt h1
  · show (removeAt _ _).length = (removeAt _ _).length
    rw [hlen, length_removeAt _ _ (by rw [r1]; exact hax0), r1]
  · show (removeAt _ _).length = (removeAt _ _).length
    rw [hlen, length_removeAt _ _ (by rw [r2]; exact hax0), r2]
  · show (removeAt _ _).length = (removeAt _ _).length
    rw [hlen, length_removeAt _ _ (by rw [r3]; exact hax0), r3]
  · intro a ha
    show (removeAt r.pmin ax).getD a 0 < (removeAt r.pmax ax).getD a 0
    rw [getD_removeAt, getD_removeAt]
    exact r5 _ (removeAt_src_lt ax a _ hax0 (hlen ▸ ha))

/-- `Mesh(region = …, cell = …)` on the mesh region and cell sizes with axis `ax` removed: it exists, with the remaining counts -/
theorem removeAx_mkCell (m : Mesh) (hm : m.Inv) (ax : Nat) (hax : ax < m.ndim) :
    Mesh.mkCell? (dropSub ax m.region) (removeAt m.cell ax) =
      .ok { region := dropSub ax m.region, n := removeAt m.n ax, bc := "", subs := [] } := by
  have hnd : (dropSub ax m.region).ndim = m.ndim - 1 := length_removeAt _ _ hax
  have hcl := C01.cell_length m
  refine (mkCell_exact _ (removeAt m.cell ax) (fun a => (removeAt m.n ax).getD a 0) ?_ ?_ ?_).trans ?_
  · rw [length_removeAt _ _ (by rw [hcl]; exact hax), hcl, hnd]
  · intro k hk
    have hsk := removeAt_src_lt ax k _ hax (hnd ▸ hk)
    rw [getD_removeAt, C01.cell_getD m _ hsk]; exact hm.cellAt_pos hsk
  · intro k hk
    have hsk := removeAt_src_lt ax k _ hax (hnd ▸ hk)
    show _ ∧ (removeAt m.region.pmax ax).getD k 0 - (removeAt m.region.pmin ax).getD k 0 = _
    rw [getD_removeAt, getD_removeAt, getD_removeAt, getD_removeAt, C01.cell_getD m _ hsk]
    exact ⟨hm.nAt_pos hsk, (n_mul_cell m hm _ hsk).symm⟩
  · rw [hnd, ← eq_tab_of_getD (removeAt m.n ax) (m.ndim - 1) _ 0
      (by rw [length_removeAt _ _ (by rw [hm.2.1]; exact hax), hm.2.1]; rfl) fun _ _ => rfl]

/-- the mesh a plane selection at coordinate `c` returns: axis `ax` removed, and the subregions whose closed extent along
`ax` contains `c`, with that axis removed and re-created with the plane's metadata, in the original order -/
def planeMesh (m : Mesh) (ax : Nat) (c : Rat) : Mesh :=
  { region := dropSub ax m.region, n := removeAt m.n ax, bc := "",
    subs := (m.subs.filter fun p => !(decide (p.2.hi ax < c) || decide (c < p.2.lo ax))).map
      fun p => restamp (dropSub ax m.region) (p.1, dropSub ax p.2) }

/-- **a successful plane selection returns `planeMesh`** at the centre of the cell containing the given coordinate -/
theorem selPlane_eq (m m' : Mesh) (hm : m.Inv) (ax : Nat) (x : Option Rat) (h : selPlane m ax x = .ok m') :
    ax < m.ndim ∧ 1 < m.ndim ∧ hasDup (removeAt m.region.dims ax) = false ∧
    m' = planeMesh m ax (m.centreAx ax (m.indexAx ax (x.getD (m.region.center.getD ax 0)) : Nat)) := by
  unfold selPlane at h
  split at h
  · cases h
  rename_i hax
  replace hax : ax < m.ndim := by omega
  split at h
  · cases h
  rename_i c i hconv
  obtain ⟨rfl, rfl⟩ := selConvert_inv _ _ _ _ _ hconv
  split at h
  · cases h
  rename_i r' hr'
  obtain ⟨_, hne0, _, hdup, _, _, _⟩ := mk?_ok_inv _ _ _ _ _ _ hr'
  have h1 : 1 < m.ndim := by
    rw [length_removeAt _ _ hax] at hne0
    exact Nat.lt_of_sub_ne_zero hne0
  -- the constructor was accepted, so it returned the proper region `dropSub ax m.region`
  cases (mk?_self _ (removeAx_regionInv m.region hm.1 ax hax h1 hdup)).symm.trans hr'
  rw [removeAx_mkCell m hm ax hax] at h
  obtain ⟨rfl, _⟩ := setSubs_ok_eq _ _ _ h
  refine ⟨hax, h1, hdup, ?_⟩
  -- the model's anonymous record update is `dropSub`, what the setter stores is `restamp`
  show Mesh.mk _ _ _ (List.map _ (List.map _ _)) = _
  rw [List.map_map]; rfl

/-- `planeMesh` keeps the mesh invariant and `SubInv`: axis `a` of the plane is axis `a` or `a + 1` of `m`, for the mesh and
for every kept subregion -/
theorem planeMesh_inv (m : Mesh) (hm : m.Inv) (hs : SubInv m) (ax : Nat) (c : Rat) (hax : ax < m.ndim) (h1 : 1 < m.ndim)
    (hdup : hasDup (removeAt m.region.dims ax) = false) : (planeMesh m ax c).Inv ∧ SubInv (planeMesh m ax c) := by
  have hrinv : (dropSub ax m.region).Inv := removeAx_regionInv m.region hm.1 ax hax h1 hdup
  obtain ⟨_, hnl, hpos⟩ := hm
  have hnd : (planeMesh m ax c).ndim = m.ndim - 1 := length_removeAt _ _ hax
  have lo_eq : ∀ a, (dropSub ax m.region).lo a = m.region.lo ((if a < ax then a else a + 1)) := fun a => getD_removeAt _ _ _ _
  have hi_eq : ∀ a, (dropSub ax m.region).hi a = m.region.hi ((if a < ax then a else a + 1)) := fun a => getD_removeAt _ _ _ _
  have n_eq : ∀ a, (planeMesh m ax c).nAt a = m.nAt ((if a < ax then a else a + 1)) := fun a => getD_removeAt _ _ _ _
  refine ⟨⟨hrinv, ?_, ?_⟩, ?_⟩
  · show (removeAt m.n ax).length = _
    rw [length_removeAt _ _ (by rw [hnl]; exact hax), hnl]; exact hnd.symm
  · intro a ha
    rw [hnd] at ha
    rw [n_eq]; exact hpos _ (removeAt_src_lt ax a _ hax ha)
  intro q hq
  obtain ⟨p, hp, rfl⟩ := List.mem_map.mp hq
  obtain ⟨hpm, _⟩ := List.mem_filter.mp hp
  obtain ⟨_, _, _, hl1, hl2, hfit⟩ := hs p hpm
  refine ⟨rfl, rfl, rfl, ?_, ?_, ?_⟩
  · show (removeAt _ _).length = _; rw [length_removeAt _ _ (by rw [hl1]; exact hax), hnd, hl1]
  · show (removeAt _ _).length = _; rw [length_removeAt _ _ (by rw [hl2]; exact hax), hnd, hl2]
  · intro a ha
    rw [hnd] at ha
    show FitsAx ((dropSub ax m.region).lo a) ((dropSub ax m.region).hi a) ((planeMesh m ax c).nAt a)
      ((removeAt p.2.pmin ax).getD a 0) ((removeAt p.2.pmax ax).getD a 0)
    rw [lo_eq, hi_eq, n_eq, getD_removeAt, getD_removeAt]
    exact hfit _ (removeAt_src_lt ax a _ hax ha)

end DFV.C14
