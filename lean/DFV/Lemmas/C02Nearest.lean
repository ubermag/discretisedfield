import DFV.Lemmas.C02Basic
/-! C02: a field as value.  Target cell `i` reads the source cell whose centre is nearest to its own
centre (per axis, ties to the larger index).  On equidistant centres that is the floor index
`Mesh.indexAx` of the target centre in the source mesh — the cell `point2index` finds — with closed
forms for a coarser, a finer and a shifted source. -/
namespace DFV.C02
open DFV DFV.Mesh

/-! ### nearest coordinate, ties to the larger index -/

theorem nearestFn_le (cf : Nat → Rat) (x : Rat) (N : Nat) : nearestFn cf x N ≤ N := by
  induction N with
  | zero => simp [nearestFn]
  | succ N ih =>
    simp only [nearestFn, pick]
    split <;> omega

/-- the scan returns `J` as soon as `J` is at least as near as every earlier coordinate and strictly nearer
than every later one (ties go to the larger index) -/
theorem nearestFn_eq (cf : Nat → Rat) (x : Rat) (N J : Nat) (hJ : J ≤ N)
    (hbelow : ∀ k, k < J → absR (cf J - x) ≤ absR (cf k - x))
    (habove : ∀ k, J < k → k ≤ N → absR (cf J - x) < absR (cf k - x)) : nearestFn cf x N = J := by
  induction N with
  | zero => exact (Nat.le_zero.mp hJ).symm
  | succ N ih =>
    rw [nearestFn, pick]
    rcases Nat.lt_or_ge N J with h | h
    · obtain rfl : J = N + 1 := by omega
      exact if_pos (hbelow _ (Nat.lt_succ_of_le (nearestFn_le cf x N)))
    · rw [ih h fun k hk hkN => habove k hk (by omega)]
      exact if_neg (not_le.mpr (habove _ (by omega) (Nat.le_refl _)))

/-! ### the selected source cell is the floor cell -/

/-- nearest centre with ties to the larger index = clipped floor index, for EVERY coordinate (outside the
edge both give an end cell): the floor cell's centre is the nearest one
(`C01.indexAx_nearest_any`) -/
theorem nearest_eq_indexAx (sm : Mesh) (hm : sm.Inv) (a : Nat) (ha : a < sm.ndim) (x : Rat) :
    nearestFn (fun k => (sm.cells.getD a []).getD k 0) x (sm.nAt a - 1) = sm.indexAx a x := by
  have hn := hm.nAt_pos ha
  have hk := C01.indexAx_lt sm a hn x
  have hnear := C01.indexAx_nearest_any sm a hn (hm.cellAt_pos ha) x
  refine nearestFn_eq _ x _ _ (by omega) (fun k hk' => ?_) fun k hk1 hk2 => ?_
  · rw [absR_eq_abs, absR_eq_abs, C01.cells_getD sm a _ ha hk, C01.cells_getD sm a k ha (by omega)]
    exact (hnear k).1 hk'
  · rw [absR_eq_abs, absR_eq_abs, C01.cells_getD sm a _ ha hk, C01.cells_getD sm a k ha (by omega)]
    exact (hnear k).2 hk1 (by omega)

theorem centre_in_source (sm m : Mesh) (a : Nat) (k : Nat) (hk : k < m.nAt a) (hr : m.region.lo a < m.region.hi a)
    (hin : sm.region.lo a ≤ m.region.lo a ∧ m.region.hi a ≤ sm.region.hi a) :
    sm.region.lo a < m.centreAx a (k : Nat) ∧ m.centreAx a (k : Nat) < sm.region.hi a :=
  have hb := C01.centreAx_mem m a k hk (C01.cellAt_pos m a (by omega) hr)
  ⟨lt_of_le_of_lt hin.1 hb.1, lt_of_lt_of_le hb.2 hin.2⟩

/-- the source cell selected for target cell `i`, as a closed formula: per axis the clipped floor index
(`Mesh.indexAx`) of the target cell's centre in the source mesh — wherever the two meshes lie -/
theorem nearestIdx_eq_indexAx (sm m : Mesh) (hm : m.Inv) (hs : sm.Inv) (hnd : sm.ndim = m.ndim)
    (i : List Nat) (hi : inRange m.n i = true) :
    nearestIdx sm m i = tab m.ndim fun a => sm.indexAx a (m.centreAx a (i.getD a 0 : Nat)) := by
  apply tab_congr
  intro a ha
  rw [C01.cells_getD m a _ ha (hm.getD_lt hi ha)]
  exact nearest_eq_indexAx sm hs a (hnd ▸ ha) _

theorem nearestIdx_eq_point2index (sm m : Mesh) (hm : m.Inv) (hs : sm.Inv) (hnd : sm.ndim = m.ndim)
    (hin : ∀ a, a < m.ndim → sm.region.lo a ≤ m.region.lo a ∧ m.region.hi a ≤ sm.region.hi a)
    (i : List Nat) (hi : inRange m.n i = true) :
    sm.point2index (m.centre i) = .ok (nearestIdx sm m i) := by
  have hex : sm.region.containsExact (m.centre i) := ⟨(tab_length _ _).trans hnd.symm, fun a (ha : a < sm.ndim) => by
    have ha' : a < m.ndim := hnd ▸ ha
    rw [C01.centre_getD m _ i ha']
    have := centre_in_source sm m a _ (hm.getD_lt hi ha') (hm.lo_lt_hi ha') (hin a ha')
    exact ⟨this.1.le, this.2.le⟩⟩
  rw [nearestIdx_eq_indexAx sm m hm hs hnd i hi, C01.point2index_of_exact sm _ hex, hnd]
  exact congrArg _ (tab_congr _ _ _ fun a ha => by rw [C01.centre_getD m _ i ha])

/-! ### closed forms -/

/-- TIE: a coordinate that lies exactly on the face between the source cells `k − 1` and `k` is
given to the UPPER cell `k` -/
theorem indexAx_face (sm : Mesh) (a : Nat) (k : Nat) (hk : k < sm.nAt a)
    (hr : sm.region.lo a < sm.region.hi a) :
    sm.indexAx a (sm.region.lo a + (k : Rat) * sm.cellAt a) = k :=
  indexAx_of_units sm a _ k hk hr le_rfl (lt_add_one _)

theorem cellAt_of_refined (fine coarse : Mesh) (a r : Nat) (hlo : fine.region.lo a = coarse.region.lo a)
    (hhi : fine.region.hi a = coarse.region.hi a) (hn : fine.nAt a = r * coarse.nAt a) (hN : 0 < fine.nAt a) :
    coarse.cellAt a = (r : Rat) * fine.cellAt a := by
  have h2 : (r : Rat) ≠ 0 := by
    intro h; rw [hn, Nat.cast_eq_zero.mp h] at hN; omega
  unfold cellAt Region.edge
  rw [hlo, hhi, hn, Nat.cast_mul, ← mul_div_assoc, mul_div_mul_left _ _ h2]

/-- `i / r` is the floor of `(i + 1/2) / r` -/
theorem floor_half_div (i r : Nat) (hr0 : 0 < r) :
    ((i / r : Nat) : Rat) ≤ ((i : Rat) + 1 / 2) / (r : Rat) ∧
      ((i : Rat) + 1 / 2) / (r : Rat) < ((i / r : Nat) : Rat) + 1 := by
  have hr' : (0 : Rat) < (r : Rat) := Nat.cast_pos.mpr hr0
  have e1 : (i : Rat) = (r : Rat) * ((i / r : Nat) : Rat) + ((i % r : Nat) : Rat) := by
    exact_mod_cast (Nat.div_add_mod i r).symm
  have e2 : ((i % r : Nat) : Rat) + 1 ≤ (r : Rat) := by exact_mod_cast Nat.mod_lt i hr0
  have e3 : (0 : Rat) ≤ ((i % r : Nat) : Rat) := Nat.cast_nonneg _
  rw [le_div_iff₀ hr', div_lt_iff₀ hr']
  constructor <;> linarith only [e1, e2, e3]

/-- `r·i + r/2` is the floor of `(i + 1/2)·r` -/
theorem floor_half_mul (i r : Nat) :
    ((r * i + r / 2 : Nat) : Rat) ≤ ((i : Rat) + 1 / 2) * (r : Rat) ∧
      ((i : Rat) + 1 / 2) * (r : Rat) < ((r * i + r / 2 : Nat) : Rat) + 1 := by
  have e1 : 2 * ((r / 2 : Nat) : Rat) ≤ (r : Rat) := by exact_mod_cast Nat.mul_div_le r 2
  have e2 : (r : Rat) + 1 ≤ 2 * (((r / 2 : Nat) : Rat) + 1) := by
    exact_mod_cast Nat.lt_mul_div_succ r (by omega : 0 < 2)
  rw [Nat.cast_add, Nat.cast_mul]
  constructor <;> linarith only [e1, e2]

/-- COARSER source (same edge, `r` target cells per source cell): target cell `i` reads source
cell `i / r` -/
theorem indexAx_coarser (sm m : Mesh) (a : Nat) (r i : Nat) (hr0 : 0 < r)
    (hlo : sm.region.lo a = m.region.lo a) (hhi : sm.region.hi a = m.region.hi a)
    (hn : m.nAt a = r * sm.nAt a) (hi : i < m.nAt a) (hr : m.region.lo a < m.region.hi a) :
    sm.indexAx a (m.centreAx a (i : Nat)) = i / r := by
  have hkN : i / r < sm.nAt a := by
    rw [Nat.div_lt_iff_lt_mul hr0, Nat.mul_comm, ← hn]; exact hi
  have hx : m.centreAx a (i : Nat) = sm.region.lo a + (((i : Rat) + 1 / 2) / (r : Rat)) * sm.cellAt a := by
    rw [C01.centreAx_natCast, hlo, cellAt_of_refined m sm a r hlo.symm hhi.symm hn (by omega), div_mul_eq_mul_div,
      mul_left_comm, mul_div_cancel_left₀ _ (Nat.cast_ne_zero.mpr hr0.ne')]
  rw [hx]
  exact indexAx_of_units sm a _ _ hkN (by rw [hlo, hhi]; exact hr) (floor_half_div i r hr0).1 (floor_half_div i r hr0).2

/-- FINER source (same edge, `r` source cells per target cell): target cell `i` reads source cell
`r·i + r/2` — the middle one for odd `r`; for even `r` the centre lies on a source face and the
upper neighbour is read -/
theorem indexAx_finer (sm m : Mesh) (a : Nat) (r i : Nat) (hr0 : 0 < r)
    (hlo : sm.region.lo a = m.region.lo a) (hhi : sm.region.hi a = m.region.hi a)
    (hn : sm.nAt a = r * m.nAt a) (hi : i < m.nAt a) (hr : m.region.lo a < m.region.hi a) :
    sm.indexAx a (m.centreAx a (i : Nat)) = r * i + r / 2 := by
  have hkN : r * i + r / 2 < sm.nAt a := by
    have : r / 2 < r := Nat.div_lt_self hr0 (by omega)
    calc r * i + r / 2 < r * (i + 1) := by rw [Nat.mul_add, Nat.mul_one]; omega
      _ ≤ sm.nAt a := hn ▸ Nat.mul_le_mul_left r hi
  have hx : m.centreAx a (i : Nat) = sm.region.lo a + (((i : Rat) + 1 / 2) * (r : Rat)) * sm.cellAt a := by
    rw [C01.centreAx_natCast, hlo, cellAt_of_refined sm m a r hlo hhi hn (by omega), mul_assoc]
  rw [hx]
  exact indexAx_of_units sm a _ _ hkN (by rw [hlo, hhi]; exact hr) (floor_half_mul i r).1 (floor_half_mul i r).2

/-- SHIFTED source (same cell size, the target's lower corner `s` source cells above the
source's): target cell `i` reads source cell `s + i` -/
theorem indexAx_shifted (sm m : Mesh) (a : Nat) (s i : Nat)
    (hcell : sm.cellAt a = m.cellAt a) (hlo : m.region.lo a = sm.region.lo a + (s : Rat) * sm.cellAt a)
    (hk : s + i < sm.nAt a) (hr : sm.region.lo a < sm.region.hi a) :
    sm.indexAx a (m.centreAx a (i : Nat)) = s + i := by
  have hx : m.centreAx a (i : Nat) = sm.region.lo a + (((s + i : Nat) : Rat) + 1 / 2) * sm.cellAt a := by
    rw [C01.centreAx_natCast, hlo, ← hcell, Nat.cast_add]; ring
  rw [hx]
  exact indexAx_of_units sm a _ _ hk hr (le_add_of_nonneg_right (by norm_num))
    ((add_lt_add_iff_left _).mpr (by norm_num))

end DFV.C02
