import DFV.Model.C18Ext
import DFV.Lemmas.C18Mat
import DFV.Lemmas.Transform
/-! Rotations with rational entries (C18): plane rotations with rational cosine and sine, quarter
turns, Pythagorean angles, Rodrigues' formula, Euler sequences. -/
namespace DFV.C18
open DFV

theorem pq_cases (p q : Nat) (hp : p < 3) (hq : q < 3) (hpq : p ≠ q) :
    (p = 0 ∧ q = 1) ∨ (p = 0 ∧ q = 2) ∨ (p = 1 ∧ q = 0) ∨ (p = 1 ∧ q = 2) ∨ (p = 2 ∧ q = 0) ∨ (p = 2 ∧ q = 1) := by
  rcases a_cases p hp with rfl | rfl | rfl <;> rcases a_cases q hq with rfl | rfl | rfl <;> simp at hpq ⊢

/-! ## plane rotations

`Rcs` is a 3×3 table of `if`s; the lemmas of this section evaluate it in the six planes. -/

theorem Rcs_apply_get (p q : Nat) (c s : Rat) (hp : p < 3) (hq : q < 3) (hpq : p ≠ q) (v : V3) (a : Nat) (ha : a < 3) :
    ((Rcs p q c s).apply v).get a =
      if a = p then c * v.get p - s * v.get q else if a = q then s * v.get p + c * v.get q else v.get a := by
  rw [M3.apply_get]
  unfold Rcs
  rw [M3.ofFn_e _ a ha 0 (by omega), M3.ofFn_e _ a ha 1 (by omega), M3.ofFn_e _ a ha 2 (by omega)]
  rcases pq_cases p q hp hq hpq with ⟨rfl, rfl⟩ | ⟨rfl, rfl⟩ | ⟨rfl, rfl⟩ | ⟨rfl, rfl⟩ | ⟨rfl, rfl⟩ | ⟨rfl, rfl⟩ <;>
    rcases a_cases a ha with rfl | rfl | rfl <;> simp [V3.get] <;> ring

theorem Rcs_mul (p q : Nat) (hp : p < 3) (hq : q < 3) (hpq : p ≠ q) (c s c' s' : Rat) :
    (Rcs p q c s).mul (Rcs p q c' s') = Rcs p q (c * c' - s * s') (s * c' + c * s') := by
  apply M3.apply_eq_imp
  intro v
  rw [M3.apply_mul]
  apply V3.ext_get
  intro a ha
  rw [Rcs_apply_get p q _ _ hp hq hpq _ a ha, Rcs_apply_get p q _ _ hp hq hpq _ a ha,
      Rcs_apply_get p q _ _ hp hq hpq _ p hp, Rcs_apply_get p q _ _ hp hq hpq _ q hq,
      Rcs_apply_get p q _ _ hp hq hpq _ a ha]
  rw [if_pos rfl, if_neg (Ne.symm hpq), if_pos rfl]
  by_cases e1 : a = p
  · rw [if_pos e1, if_pos e1]; ring
  · rw [if_neg e1, if_neg e1, if_neg e1]
    by_cases e2 : a = q
    · rw [if_pos e2, if_pos e2]; ring
    · rw [if_neg e2, if_neg e2, if_neg e2]

theorem Rcs_tr (p q : Nat) (hp : p < 3) (hq : q < 3) (hpq : p ≠ q) (c s : Rat) :
    Rcs p q c (-s) = (Rcs p q c s).tr := by
  rcases pq_cases p q hp hq hpq with ⟨rfl, rfl⟩ | ⟨rfl, rfl⟩ | ⟨rfl, rfl⟩ | ⟨rfl, rfl⟩ | ⟨rfl, rfl⟩ | ⟨rfl, rfl⟩ <;>
    simp [Rcs, M3.ofFn, M3.tr]

theorem Rcs_one (p q : Nat) (hp : p < 3) (hq : q < 3) (hpq : p ≠ q) : Rcs p q 1 0 = M3.one := by
  rcases pq_cases p q hp hq hpq with ⟨rfl, rfl⟩ | ⟨rfl, rfl⟩ | ⟨rfl, rfl⟩ | ⟨rfl, rfl⟩ | ⟨rfl, rfl⟩ | ⟨rfl, rfl⟩ <;>
    simp [Rcs, M3.ofFn, M3.one]

theorem Rcs_swap (p q : Nat) (hp : p < 3) (hq : q < 3) (hpq : p ≠ q) (c s : Rat) : Rcs q p c s = Rcs p q c (-s) := by
  rcases pq_cases p q hp hq hpq with ⟨rfl, rfl⟩ | ⟨rfl, rfl⟩ | ⟨rfl, rfl⟩ | ⟨rfl, rfl⟩ | ⟨rfl, rfl⟩ | ⟨rfl, rfl⟩ <;>
    simp [Rcs, M3.ofFn]

theorem Rcs_det (p q : Nat) (hp : p < 3) (hq : q < 3) (hpq : p ≠ q) (c s : Rat) : (Rcs p q c s).det = c * c + s * s := by
  rcases pq_cases p q hp hq hpq with ⟨rfl, rfl⟩ | ⟨rfl, rfl⟩ | ⟨rfl, rfl⟩ | ⟨rfl, rfl⟩ | ⟨rfl, rfl⟩ | ⟨rfl, rfl⟩ <;>
    simp [Rcs, M3.ofFn, M3.det]

/-- every plane rotation with `c² + s² = 1` is a proper rotation: the opposite angle undoes it -/
theorem Rcs_isRot (p q : Nat) (hp : p < 3) (hq : q < 3) (hpq : p ≠ q) (c s : Rat) (h : c * c + s * s = 1) :
    (Rcs p q c s).IsRot := by
  refine ⟨?_, by rw [Rcs_det p q hp hq hpq, h]⟩
  rw [← Rcs_tr p q hp hq hpq, Rcs_mul p q hp hq hpq, ← Rcs_one p q hp hq hpq]
  congr 1 <;> linarith

/-! ## quarter turns -/

theorem quarter_unit (k : Int) : T.cosq k * T.cosq k + T.sinq k * T.sinq k = 1 := by
  rcases T.quarter_cases' k with ⟨hc, hs⟩ | ⟨hc, hs⟩ | ⟨hc, hs⟩ | ⟨hc, hs⟩ <;> rw [hc, hs] <;> norm_num

theorem Rq_isRot (p q : Nat) (k : Int) (hp : p < 3) (hq : q < 3) (hpq : p ≠ q) : (Rq p q k).IsRot :=
  Rcs_isRot p q hp hq hpq _ _ (quarter_unit k)

theorem Rq_apply_get (p q : Nat) (k : Int) (hp : p < 3) (hq : q < 3) (hpq : p ≠ q) (v : V3) (a : Nat) (ha : a < 3) :
    ((Rq p q k).apply v).get a =
      if a = p then T.cosq k * v.get p - T.sinq k * v.get q
      else if a = q then T.sinq k * v.get p + T.cosq k * v.get q else v.get a :=
  Rcs_apply_get p q _ _ hp hq hpq v a ha

/-- **quarter turns compose by adding `k`**: turning by `k` and then by `l` in the same plane is
the single matrix `Rq p q (k + l)` (the later turn multiplies from the left) -/
theorem Rq_mul (p q : Nat) (hp : p < 3) (hq : q < 3) (hpq : p ≠ q) (k l : Int) :
    (Rq p q l).mul (Rq p q k) = Rq p q (k + l) := by
  unfold Rq
  rw [Rcs_mul p q hp hq hpq, (T.quarter_add' k l).1, (T.quarter_add' k l).2]
  congr 1 <;> ring

theorem Rq_mod4 (p q : Nat) (k : Int) : Rq p q (k % 4) = Rq p q k := by
  unfold Rq; rw [T.cosq_mod4, T.sinq_mod4]

theorem Rq_four (p q : Nat) (hp : p < 3) (hq : q < 3) (hpq : p ≠ q) (k : Int) (hk : k % 4 = 0) : Rq p q k = M3.one := by
  rw [← Rq_mod4, hk]; exact Rcs_one p q hp hq hpq

theorem Rq_neg (p q : Nat) (hp : p < 3) (hq : q < 3) (hpq : p ≠ q) (k : Int) : Rq p q (-k) = (Rq p q k).tr := by
  have h1 : (Rq p q (-k)).mul (Rq p q k) = M3.one := by
    rw [Rq_mul p q hp hq hpq]; exact Rq_four p q hp hq hpq _ (by omega)
  have hR := Rq_isRot p q k hp hq hpq
  calc Rq p q (-k) = (Rq p q (-k)).mul M3.one := (M3.mul_one _).symm
    _ = (Rq p q (-k)).mul ((Rq p q k).mul (Rq p q k).tr) := by rw [hR.mul_tr]
    _ = ((Rq p q (-k)).mul (Rq p q k)).mul (Rq p q k).tr := (M3.mul_assoc _ _ _).symm
    _ = (Rq p q k).tr := by rw [h1, M3.one_mul]

/-! ## Pythagorean angles -/

theorem pyth_unit (m n : Rat) (h : m * m + n * n ≠ 0) : pythC m n * pythC m n + pythS m n * pythS m n = 1 := by
  unfold pythC pythS
  rw [div_mul_div_comm, div_mul_div_comm, ← add_div, div_eq_one_iff_eq (mul_ne_zero h h)]
  ring

/-- every rational point of the unit circle except `(−1, 0)` is a Pythagorean pair: the family
`pythC / pythS` is ALL rational angles -/
theorem pyth_complete (c s : Rat) (h : c * c + s * s = 1) (hc : c ≠ -1) : c = pythC (1 + c) s ∧ s = pythS (1 + c) s := by
  have hd : (1 + c) * (1 + c) + s * s = 2 * (1 + c) := by linear_combination h
  have h1 : (1 + c) ≠ 0 := fun e => hc (by linarith)
  have hne : (2 : Rat) * (1 + c) ≠ 0 := mul_ne_zero (by norm_num) h1
  unfold pythC pythS
  rw [hd]
  constructor
  · rw [eq_div_iff hne]; linear_combination h
  · rw [eq_div_iff hne]; ring

/-! ## Rodrigues' formula -/

theorem ofAxisAngle_mul (u : V3) (hu : u.dot u = 1) (c s c' s' : Rat) :
    (ofAxisAngle u c s).mul (ofAxisAngle u c' s') = ofAxisAngle u (c * c' - s * s') (s * c' + c * s') := by
  obtain ⟨x, y, z⟩ := u
  simp only [V3.dot] at hu
  simp only [ofAxisAngle, M3.tr, M3.mul, M3.apply, V3.dot, M3.mk.injEq, V3.mk.injEq]
  refine ⟨⟨?_, ?_, ?_⟩, ⟨?_, ?_, ?_⟩, ⟨?_, ?_, ?_⟩⟩
  · linear_combination (-(s * s') + (1 - c) * (1 - c') * (x * x)) * hu
  · linear_combination ((1 - c) * (1 - c') * (x * y)) * hu
  · linear_combination ((1 - c) * (1 - c') * (x * z)) * hu
  · linear_combination ((1 - c) * (1 - c') * (y * x)) * hu
  · linear_combination (-(s * s') + (1 - c) * (1 - c') * (y * y)) * hu
  · linear_combination ((1 - c) * (1 - c') * (y * z)) * hu
  · linear_combination ((1 - c) * (1 - c') * (z * x)) * hu
  · linear_combination ((1 - c) * (1 - c') * (z * y)) * hu
  · linear_combination (-(s * s') + (1 - c) * (1 - c') * (z * z)) * hu

theorem ofAxisAngle_neg (u : V3) (c s : Rat) : ofAxisAngle u c (-s) = (ofAxisAngle u c s).tr := by
  simp only [ofAxisAngle, M3.tr, M3.mk.injEq, V3.mk.injEq]
  refine ⟨⟨?_, ?_, ?_⟩, ⟨?_, ?_, ?_⟩, ⟨?_, ?_, ?_⟩⟩ <;> first | trivial | ring

theorem ofAxisAngle_zero (u : V3) : ofAxisAngle u 1 0 = M3.one := by
  ext <;> simp only [ofAxisAngle, M3.one] <;> ring

/-- a proper rotation: the opposite angle about the same axis undoes it -/
theorem ofAxisAngle_isRot (u : V3) (c s : Rat) (hu : u.dot u = 1) (h : c * c + s * s = 1) : (ofAxisAngle u c s).IsRot := by
  constructor
  · rw [← ofAxisAngle_neg, ofAxisAngle_mul u hu, ← ofAxisAngle_zero u]
    congr 1 <;> linarith
  · have key : (ofAxisAngle u c s).det = (c + (1 - c) * u.dot u) * (c * c + s * s * u.dot u) := by
      simp only [ofAxisAngle, M3.det, V3.dot]; ring
    rw [key, hu]
    linear_combination h

theorem ofAxisAngle_axis (u : V3) (c s : Rat) (hu : u.dot u = 1) : (ofAxisAngle u c s).apply u = u := by
  obtain ⟨x, y, z⟩ := u
  simp only [V3.dot] at hu
  simp only [ofAxisAngle, M3.apply, V3.dot, V3.mk.injEq]
  refine ⟨?_, ?_, ?_⟩
  · linear_combination ((1 - c) * x) * hu
  · linear_combination ((1 - c) * y) * hu
  · linear_combination ((1 - c) * z) * hu

theorem ofAxisAngle_trace (u : V3) (c s : Rat) (hu : u.dot u = 1) :
    (ofAxisAngle u c s).e 0 0 + (ofAxisAngle u c s).e 1 1 + (ofAxisAngle u c s).e 2 2 = 1 + 2 * c := by
  obtain ⟨x, y, z⟩ := u
  simp only [V3.dot] at hu
  simp only [ofAxisAngle, M3.e, M3.row, V3.get]
  linear_combination (1 - c) * hu

theorem ofAxisAngle_flip (u : V3) (c s : Rat) : ofAxisAngle ⟨-u.x, -u.y, -u.z⟩ c (-s) = ofAxisAngle u c s := by
  simp only [ofAxisAngle, M3.mk.injEq, V3.mk.injEq]
  refine ⟨⟨?_, ?_, ?_⟩, ⟨?_, ?_, ?_⟩, ⟨?_, ?_, ?_⟩⟩ <;> ring

theorem ofAxisAngle_coord (a : Nat) (ha : a < 3) (c s : Rat) :
    ofAxisAngle ⟨if a = 0 then 1 else 0, if a = 1 then 1 else 0, if a = 2 then 1 else 0⟩ c s = RaxisCS a c s := by
  rcases a_cases a ha with rfl | rfl | rfl <;>
    simp [ofAxisAngle, RaxisCS, Rcs, M3.ofFn]

/-- Rodrigues' matrix for the Pythagorean angle `(m, n)` about the unit axis `u` is the rotation of
the quaternion `m + n·u` -/
theorem ofAxisAngle_eq_ofQuat (u : V3) (hu : u.dot u = 1) (m n : Rat) (h : m * m + n * n ≠ 0) :
    ofAxisAngle u (pythC m n) (pythS m n) = M3.ofQuat m (n * u.x) (n * u.y) (n * u.z) := by
  obtain ⟨x, y, z⟩ := u
  simp only [V3.dot] at hu
  have hN : m * m + n * x * (n * x) + n * y * (n * y) + n * z * (n * z) = m * m + n * n := by
    linear_combination (n * n) * hu
  have h1c : 1 - pythC m n = 2 * n * n / (m * m + n * n) := by
    unfold pythC; rw [eq_div_iff h, sub_mul, div_mul_cancel₀ _ h]; ring
  simp only [ofAxisAngle, M3.ofQuat, hN, h1c, M3.mk.injEq, V3.mk.injEq]
  unfold pythC pythS
  -- off the diagonal the entries agree as they stand, on it modulo `|u| = 1`
  refine ⟨⟨?_, ?_, ?_⟩, ⟨?_, ?_, ?_⟩, ⟨?_, ?_, ?_⟩⟩
  · linear_combination (n * n / (m * m + n * n)) * hu
  · ring
  · ring
  · ring
  · linear_combination (n * n / (m * m + n * n)) * hu
  · ring
  · ring
  · ring
  · linear_combination (n * n / (m * m + n * n)) * hu

/-! ## rotations about a coordinate axis -/

theorem RaxisCS_isRot (a : Nat) (c s : Rat) (h : c * c + s * s = 1) : (RaxisCS a c s).IsRot :=
  Rcs_isRot _ _ (Nat.mod_lt _ (by omega)) (Nat.mod_lt _ (by omega)) (by omega) c s h

/-- the rotation about a coordinate axis by a Pythagorean angle is the rotation of the half-angle
quaternion `m + n·e_a` -/
theorem RaxisCS_eq_ofQuat (a : Nat) (ha : a < 3) (m n : Rat) (h : m * m + n * n ≠ 0) :
    RaxisCS a (pythC m n) (pythS m n)
      = M3.ofQuat m (if a = 0 then n else 0) (if a = 1 then n else 0) (if a = 2 then n else 0) := by
  rw [← ofAxisAngle_coord a ha, ofAxisAngle_eq_ofQuat _ (by rcases a_cases a ha with rfl | rfl | rfl <;> decide +kernel) m n h]
  simp only [mul_ite, mul_one, mul_zero]

theorem Raxis_eq_CS (a : Nat) (k : Int) : Raxis a k = RaxisCS a (T.cosq k) (T.sinq k) := rfl

/-! ## Euler sequences -/

def UnitCS (seq : List (Nat × Rat × Rat)) : Prop := ∀ x ∈ seq, x.2.1 * x.2.1 + x.2.2 * x.2.2 = 1

theorem eulerCS_isRot (intr : Bool) (seq : List (Nat × Rat × Rat)) (h : UnitCS seq) : (eulerCS intr seq).IsRot := by
  induction seq with
  | nil => exact M3.isRot_one
  | cons x rest ih =>
    obtain ⟨a, c, s⟩ := x
    have hx := h (a, c, s) List.mem_cons_self
    have hr : UnitCS rest := fun y hy => h y (List.mem_cons_of_mem _ hy)
    unfold eulerCS
    cases intr
    · exact (ih hr).mul (RaxisCS_isRot a c s hx)
    · exact (RaxisCS_isRot a c s hx).mul (ih hr)

theorem eulerCS_append (intr : Bool) (s t : List (Nat × Rat × Rat)) :
    eulerCS intr (s ++ t) = if intr then (eulerCS intr s).mul (eulerCS intr t) else (eulerCS intr t).mul (eulerCS intr s) := by
  induction s with
  | nil => cases intr <;> simp [eulerCS, M3.one_mul, M3.mul_one]
  | cons x rest ih =>
    obtain ⟨a, c, sn⟩ := x
    cases intr
    · simp only [List.cons_append, eulerCS, Bool.false_eq_true, if_false] at ih ⊢
      rw [ih, M3.mul_assoc]
    · simp only [List.cons_append, eulerCS, if_true] at ih ⊢
      rw [ih, M3.mul_assoc]

theorem eulerCS_intrinsic_reverse (seq : List (Nat × Rat × Rat)) : eulerCS true seq = eulerCS false seq.reverse := by
  induction seq with
  | nil => rfl
  | cons x rest ih =>
    obtain ⟨a, c, s⟩ := x
    rw [List.reverse_cons, eulerCS_append]
    simp only [Bool.false_eq_true, if_false, eulerCS, if_true, M3.one_mul]
    rw [ih]

/-- the extrinsic sequence is the ordered product of its axis rotations (later on the left):
what a history of `rotate` calls with the single rotations accumulates -/
theorem eulerCS_extrinsic_prodL (seq : List (Nat × Rat × Rat)) :
    eulerCS false seq = prodL (seq.map fun x => RaxisCS x.1 x.2.1 x.2.2) := by
  induction seq with
  | nil => rfl
  | cons x rest ih =>
    obtain ⟨a, c, s⟩ := x
    simp only [eulerCS, Bool.false_eq_true, if_false, List.map_cons, prodL, ih]

theorem eulerQ_eq_CS (intr : Bool) (seq : List (Nat × Int)) :
    eulerQ intr seq = eulerCS intr (seq.map fun x => (x.1, T.cosq x.2, T.sinq x.2)) := by
  induction seq with
  | nil => rfl
  | cons x rest ih =>
    obtain ⟨a, k⟩ := x
    simp only [eulerQ, List.map_cons, eulerCS, ih, Raxis_eq_CS]

theorem eulerQ_isRot (intr : Bool) (seq : List (Nat × Int)) : (eulerQ intr seq).IsRot := by
  rw [eulerQ_eq_CS]
  apply eulerCS_isRot
  intro x hx
  obtain ⟨y, _, rfl⟩ := List.mem_map.mp hx
  exact quarter_unit y.2

theorem eulerQ_intrinsic_reverse (seq : List (Nat × Int)) : eulerQ true seq = eulerQ false seq.reverse := by
  rw [eulerQ_eq_CS, eulerQ_eq_CS, List.map_reverse]
  exact eulerCS_intrinsic_reverse _

theorem eulerQ_extrinsic_prodL (seq : List (Nat × Int)) : eulerQ false seq = prodL (seq.map fun x => Raxis x.1 x.2) := by
  rw [eulerQ_eq_CS, eulerCS_extrinsic_prodL, List.map_map]
  rfl

end DFV.C18
