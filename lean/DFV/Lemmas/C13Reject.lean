import DFV.Lemmas.Rot
import DFV.Lemmas.C13Bc
/-! C13: the field step `stepF` of `Model/Transform.lean` (other families import the file under this name; rejections are only its
last part).  Which calls are malformed on a field (`MalformedF`); the field step described uniformly
(`stepF_ok_iff`: mesh step, arrays, assignment or new field; its quarter-turn case is `rotate90F_ok_iff`) and what
follows from it: the shape invariant (`stepF_fldInv`), the field a step returns (`applyF`) and the field step
specified (`stepF_spec`, `specF`), whence in place == copying and the rejection classes (`stepF_error_iff`). -/
namespace DFV.T
open DFV DFV.C14

/-- malformed calls on a field: those of its mesh, and a quarter turn of a vector field whose
component-to-axis mapping does not cover the two axes.  This is the form the statements of `Props/C13.lean` use; the
proofs read it as `Malformed … ∨ ¬ Mapped …` (`malformedF_iff`) -/
def MalformedF (f : Fld) : Op → Prop
  | .translate v i => Malformed f.mesh.region (.translate v i)
  | .scale s ref i => Malformed f.mesh.region (.scale s ref i)
  | .rotate90 a1 a2 k ref i => Malformed f.mesh.region (.rotate90 a1 a2 k ref i) ∨
      (f.nvdim > 1 ∧ ((f.rDim a1).bind f.vdimIndex = none ∨ (f.rDim a2).bind f.vdimIndex = none))

theorem malformedF_withInplace (f : Fld) (op : Op) (b : Bool) : MalformedF f (op.withInplace b) ↔ MalformedF f op := by
  cases op <;> exact Iff.rfl

/-- the form of the mesh step a field step makes: its own, but a quarter turn always the copying one -/
def meshFlagF : Op → Bool
  | .rotate90 .. => false
  | op => op.inplace

/-- a vector field can be turned in the plane of two axes only if a component is mapped to each of them -/
def Mapped (f : Fld) : Op → Prop
  | .rotate90 a1 a2 _ _ _ => f.nvdim > 1 → ∃ c1 c2, (f.rDim a1).bind f.vdimIndex = some c1 ∧ (f.rDim a2).bind f.vdimIndex = some c2
  | _ => True

/-- the field after a step whose mesh step returned `m'`: the arrays are kept by translation and scaling and
turned by a quarter turn (`turnedFld`) -/
def fldWith (f : Fld) (m' : Mesh) : Op → Fld
  | .rotate90 a1 a2 k _ _ => turnedFld f m' a1 a2 k (axisOf f.mesh.region a1) (axisOf f.mesh.region a2)
  | _ => { f with mesh := m' }

theorem fldWith_withInplace (f : Fld) (m' : Mesh) (op : Op) (b : Bool) : fldWith f m' (op.withInplace b) = fldWith f m' op := by
  cases op <;> rfl

theorem fldWith_mesh (f : Fld) (m' : Mesh) (op : Op) : (fldWith f m' op).mesh = m' := by cases op <;> rfl

theorem malformedF_iff (f : Fld) (op : Op) : MalformedF f op ↔ Malformed f.mesh.region op ∨ ¬ Mapped f op := by
  cases op with
  | translate | scale => exact (or_iff_left (not_not.mpr trivial)).symm
  | rotate90 a1 a2 k ref i =>
    refine or_congr_right ?_
    simp only [Mapped, Classical.not_imp]
    refine and_congr_right fun _ => ?_
    cases (f.rDim a1).bind f.vdimIndex <;> cases (f.rDim a2).bind f.vdimIndex <;> simp

/-- **What an accepted field step did** (any field): the mesh step — the copying one for a quarter turn — was accepted,
the arrays could be turned, the result is `fldWith`, the receiver is the result (in place) or the field as it was. -/
theorem stepF_ok_iff (f : Fld) (op : Op) (recv ret : Fld) :
    stepF f op = .ok (recv, ret) ↔ ∃ x m', stepM f.mesh (op.withInplace (meshFlagF op)) = .ok (x, m') ∧ Mapped f op ∧
      ret = fldWith f m' op ∧ recv = if op.inplace then ret else f := by
  have shift : ∀ (o : Op) (i : Bool), (match stepM f.mesh o with
      | .error e => .error e
      | .ok (_, m') => .ok (if i then { f with mesh := m' } else f, { f with mesh := m' }) : M (Fld × Fld)) = .ok (recv, ret) ↔
      ∃ x m', stepM f.mesh o = .ok (x, m') ∧ True ∧ ret = { f with mesh := m' } ∧ recv = if i then ret else f := by
    intro o i
    cases stepM f.mesh o with
    | error e => exact ⟨fun h => (nomatch h), fun ⟨_, _, h, _⟩ => (nomatch h)⟩
    | ok p =>
      simp only [Except.ok.injEq, Prod.mk.injEq, true_and]
      exact ⟨fun ⟨h1, h2⟩ => ⟨p.1, p.2, rfl, h2.symm, h2 ▸ h1.symm⟩, fun ⟨_, _, e, h2, h1⟩ => by cases e; exact ⟨h2 ▸ h1.symm, h2.symm⟩⟩
  cases op with
  | translate v i => exact shift (.translate v i) i
  | scale s ref i => exact shift (.scale s ref i) i
  | rotate90 a1 a2 k ref b =>
    show rotate90F f a1 a2 k ref b = _ ↔ _
    rw [rotate90F_ok_iff]
    constructor
    · rintro ⟨y, m', i1, i2, h1, d1, d2, hc, rfl, rfl⟩
      exact ⟨y, m', h1, hc, by simp only [fldWith, axisOf_ok d1, axisOf_ok d2], rfl⟩
    · rintro ⟨y, m', h1, hc, rfl, rfl⟩
      -- an accepted mesh turn has found both axes
      obtain ⟨x, r', _, hreg, _⟩ := stepM_ok _ _ _ _ h1
      obtain ⟨_, _, i1, i2, d1, d2, _⟩ := rotate90R_inv _ _ _ _ _ _ _ _ hreg
      exact ⟨y, m', i1, i2, h1, d1, d2, hc, by simp only [fldWith, axisOf_ok d1, axisOf_ok d2], rfl⟩

theorem fldWith_shape (f : Fld) (m' : Mesh) (op : Op) (x r' : Region) (hreg : stepR f.mesh.region op = .ok (x, r')) :
    (f.data.shape = f.mesh.n → (fldWith f m' op).data.shape = opN f.mesh op) ∧
    (f.valid.shape = f.mesh.n → (fldWith f m' op).valid.shape = opN f.mesh op) := by
  cases op with
  | translate | scale => exact ⟨id, id⟩
  | rotate90 a1 a2 k ref i =>
    obtain ⟨_, _, i1, i2, d1, d2, _⟩ := rotate90R_inv _ _ _ _ _ _ _ _ hreg
    simp only [fldWith, turnedFld, opN, d1, d2, axisOf_ok d1, axisOf_ok d2]
    exact ⟨fun h => by rw [← h]; exact rot90_shape _ _ _ _, fun h => by rw [← h]; exact rot90_shape _ _ _ _⟩

/-- `Props/C13.lean` restates it as `stepF_inv` -/
theorem stepF_fldInv (f : Fld) (hf : FldInv f) (op : Op) (recv ret : Fld) (h : stepF f op = .ok (recv, ret)) :
    FldInv recv ∧ FldInv ret := by
  obtain ⟨x, m', hm', _, rfl, rfl⟩ := (stepF_ok_iff f op recv ret).mp h
  obtain ⟨_, hi, hn, y, hreg⟩ := stepM_keeps f.mesh hf.1 _ x m' hm'
  rw [opN_withInplace] at hn
  obtain ⟨sd, sv⟩ := fldWith_shape f m' (op.withInplace (meshFlagF op)) y _ hreg
  rw [fldWith_withInplace, opN_withInplace] at sd sv
  have : FldInv (fldWith f m' op) := by
    unfold FldInv; rw [fldWith_mesh]
    exact ⟨hi, (sd hf.2.1).trans hn.symm, (sv hf.2.2).trans hn.symm⟩
  exact ⟨by split <;> assumption, this⟩

theorem stepF_malformed (f : Fld) (op : Op) (h : MalformedF f op) : ∃ e, stepF f op = .error e := by
  refine err_of_not_ok _ fun v hv => ?_
  obtain ⟨x, m', hm', hc, _⟩ := (stepF_ok_iff f op v.1 v.2).mp hv
  rcases (malformedF_iff f op).mp h with hm | hn
  · obtain ⟨e, he⟩ := stepM_malformed f.mesh _ ((malformed_withInplace _ op _).mpr hm)
    rw [he] at hm'; cases hm'
  · exact hn hc

/-- the field a step returns: the mesh stepped, the arrays turned -/
def applyF (f : Fld) (op : Op) : Fld := fldWith f (applyM f.mesh op) op

theorem applyF_withInplace (f : Fld) (op : Op) (b : Bool) : applyF f (op.withInplace b) = applyF f op := by
  unfold applyF; rw [fldWith_withInplace, applyM_withInplace]

/-- the field step specified (`specF`): the general form of the field-level theorems of `Props/C13.lean` -/
theorem stepF_spec (f : Fld) (hf : FInv f) (op : Op) (recv ret : Fld) :
    stepF f op = .ok (recv, ret) ↔ ¬ MalformedF f op ∧ ret = applyF f op ∧ recv = if op.inplace then ret else f := by
  have hM : MInv f.mesh := ⟨hf.1.1, hf.2.1, hf.2.2.1⟩
  rw [stepF_ok_iff, malformedF_iff, not_or, not_not]
  constructor
  · rintro ⟨x, m', h1, hc, rfl, rfl⟩
    obtain ⟨a, rfl, _⟩ := (specM.ok_iff _ hM _ _ _).mp h1
    rw [applyM_withInplace]
    exact ⟨⟨mt (malformed_withInplace _ _ _).mpr a, hc⟩, rfl, rfl⟩
  · rintro ⟨⟨hm, hc⟩, rfl, rfl⟩
    have hst := specM.accepts hM (op := op.withInplace (meshFlagF op)) (mt (malformed_withInplace _ _ _).mp hm)
    rw [applyM_withInplace] at hst
    exact ⟨_, _, hst, hc, rfl, rfl⟩

theorem specF : Spec stepF FInv MalformedF applyF where
  mal_flag := malformedF_withInplace
  ap_flag := applyF_withInplace
  rejects := stepF_malformed
  ok_iff := stepF_spec
  keeps := fun f hf op h => by
    have hst := (stepF_spec f hf op _ _).mpr ⟨h, rfl, rfl⟩
    have hm : ¬ Malformed f.mesh.region op := fun hm => h ((malformedF_iff f op).mpr (Or.inl hm))
    have e : (applyF f op).mesh = applyM f.mesh op := fldWith_mesh _ _ _
    exact ⟨(stepF_fldInv f hf.1 op _ _ hst).2, e ▸ applyM_subInv f.mesh hf.1.1 hf.2.1 op hm, e ▸ applyM_bcWf f.mesh hf.1.1 hf.2.2 op hm⟩

theorem stepF_error_iff (f : Fld) (hf : FInv f) (op : Op) : (∃ e, stepF f op = .error e) ↔ MalformedF f op :=
  specF.error_iff hf op

end DFV.T
