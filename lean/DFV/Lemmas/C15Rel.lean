import DFV.Lemmas.C15Round
/-!
Relative errors of the kernel, counted (Stewart's counter `⟨k⟩`, Higham §3.4).  The kernel only
multiplies, divides, takes roots and adds NON-NEGATIVE numbers, so every computed quantity is the
exact one times a positive factor.  `Rel b k x y`: the square of that factor is a product of `k`
factors from `[b, 1/b]`, `b` just below `1 − u` — a count in HALF roundings, so that a rounding counts
two, products and quotients add, a sum of non-negative terms keeps the count and an exact root halves
it, all without side conditions.  Only the last step of a theorem turns a count into a constant
(`Rel.bound`, in the unit of the theorems `Rel.le_of_counts` with its instances): the only numeric facts.
-/
namespace DFV.C15
variable {K : Type} [Field K] [LinearOrder K] [IsStrictOrderedRing K]

/-- `e` is a product of `k` factors from `[b, 1/b]`, for a unit `0 < b ≤ 1` -/
def Fac (b : K) (k : ℕ) (e : K) : Prop := (0 < b ∧ b ≤ 1) ∧ b ^ k ≤ e ∧ e * b ^ k ≤ 1

section algebra
variable {b : K}

theorem Fac.pos {k : ℕ} {e : K} (h : Fac b k e) : 0 < e := lt_of_lt_of_le (pow_pos h.1.1 k) h.2.1

theorem Fac.one (B : 0 < b ∧ b ≤ 1) (k : ℕ) : Fac b k (1 : K) :=
  ⟨B, pow_le_one₀ B.1.le B.2, by rw [one_mul]; exact pow_le_one₀ B.1.le B.2⟩

theorem Fac.mono {j k : ℕ} {e : K} (hjk : j ≤ k) (h : Fac b j e) : Fac b k e := by
  have : b ^ k ≤ b ^ j := pow_le_pow_of_le_one h.1.1.le h.1.2 hjk
  exact ⟨h.1, this.trans h.2.1, (mul_le_mul_of_nonneg_left this h.pos.le).trans h.2.2⟩

theorem Fac.mul {j k : ℕ} {e e' : K} (h : Fac b j e) (h' : Fac b k e') : Fac b (j + k) (e * e') := by
  have hk := (pow_pos h.1.1 k).le
  rw [Fac, pow_add]
  refine ⟨h.1, mul_le_mul h.2.1 h'.2.1 hk h.pos.le, ?_⟩
  calc e * e' * (b ^ j * b ^ k) = (e * b ^ j) * (e' * b ^ k) := by ring
    _ ≤ 1 * 1 := mul_le_mul h.2.2 h'.2.2 (mul_nonneg h'.pos.le hk) zero_le_one
    _ = 1 := one_mul 1

theorem Fac.inv {k : ℕ} {e : K} (h : Fac b k e) : Fac b k e⁻¹ := by
  have hk := pow_pos h.1.1 k
  exact ⟨h.1, by rw [le_inv_comm₀ hk h.pos, ← one_div, le_div_iff₀ hk]; exact h.2.2,
    by rw [inv_mul_le_iff₀ h.pos, mul_one]; exact h.2.1⟩

theorem Fac.sqrt {k : ℕ} {e : K} (he : 0 ≤ e) (h : Fac b (2 * k) (e * e)) : Fac b k e := by
  have hk := (pow_pos h.1.1 k).le
  obtain ⟨B, h1, h2⟩ := h
  rw [two_mul, pow_add] at h1 h2
  refine ⟨B, (mul_self_le_mul_self_iff hk he).mpr h1,
    (mul_self_le_mul_self_iff (mul_nonneg he hk) zero_le_one).mpr ?_⟩
  calc e * b ^ k * (e * b ^ k) = e * e * (b ^ k * b ^ k) := by ring
    _ ≤ 1 * 1 := by rw [one_mul]; exact h2

/-- **a relative error is a factor**: `|X − x| ≤ g·|x|` with `b^k ≤ 1 − g` makes `X` the exact `x`
times a product of `k` unit factors (`(1 + g)·b^k ≤ (1 + g)(1 − g) ≤ 1` is automatic) -/
theorem Fac.of_rel_err {X x g : K} {k : ℕ} (B : 0 < b ∧ b ≤ 1) (hg : 0 ≤ g) (h : |X - x| ≤ g * |x|)
    (hb : b ^ k ≤ 1 - g) : ∃ e, X = x * e ∧ Fac b k e := by
  obtain ⟨e, he, h1⟩ := exists_factor hg h
  obtain ⟨h1, h2⟩ := abs_le.mp h1
  refine ⟨e, he, B, by linarith, ?_⟩
  have := mul_le_mul (show e ≤ 1 + g by linarith) hb (pow_pos B.1 k).le (by linarith)
  have := mul_self_nonneg g
  linarith

/-- Bernoulli: `k` unit factors are at least `1 − k(1 − b)` -/
theorem one_sub_mul_le_pow (B : 0 < b ∧ b ≤ 1) (k : ℕ) : 1 - (k : K) * (1 - b) ≤ b ^ k := by
  induction k with
  | zero => simp
  | succ k ih =>
    have h1 := mul_le_mul_of_nonneg_right ih B.1.le
    have h2 := mul_nonneg (Nat.cast_nonneg (α := K) k) (mul_self_nonneg (1 - b))
    rw [pow_succ]; push_cast
    linarith

end algebra

/-- `x` is `y` up to `k` half roundings: `x = y·e` with `e ≥ 0` and `e²` a product of `k` factors
from `[b, 1/b]` -/
def Rel (b : K) (k : ℕ) (x y : K) : Prop := ∃ e, 0 ≤ e ∧ x = y * e ∧ Fac b k (e * e)

section rel
variable {b : K}

theorem Rel.refl (B : 0 < b ∧ b ≤ 1) (x : K) : Rel b 0 x x :=
  ⟨1, zero_le_one, (mul_one x).symm, by rw [one_mul]; exact Fac.one B 0⟩

theorem Rel.mono {j k : ℕ} {x y : K} (hjk : j ≤ k) (h : Rel b j x y) : Rel b k x y := by
  obtain ⟨e, he, rfl, hf⟩ := h
  exact ⟨e, he, rfl, hf.mono hjk⟩

theorem Rel.eq_zero_iff {k : ℕ} {x y : K} (h : Rel b k x y) : x = 0 ↔ y = 0 := by
  obtain ⟨e, _, rfl, hf⟩ := h
  rw [mul_eq_zero, or_iff_left fun e0 => hf.pos.ne' (by rw [e0, mul_zero])]

theorem Rel.sq_eq_zero_iff {k : ℕ} {x y : K} (h : Rel b k (x * x) y) : x = 0 ↔ y = 0 :=
  mul_self_eq_zero.symm.trans h.eq_zero_iff

theorem Rel.nonneg {k : ℕ} {x y : K} (h : Rel b k x y) (hy : 0 ≤ y) : 0 ≤ x := by
  obtain ⟨e, he, rfl, _⟩ := h; exact mul_nonneg hy he

theorem Rel.trans {j k : ℕ} {x y z : K} (h : Rel b j x y) (h' : Rel b k y z) : Rel b (j + k) x z := by
  obtain ⟨e, he, rfl, hf⟩ := h
  obtain ⟨e', he', rfl, hf'⟩ := h'
  exact ⟨e' * e, mul_nonneg he' he, mul_assoc _ _ _, by
    have := hf.mul hf'; rwa [mul_mul_mul_comm, mul_comm e e'] at this⟩

theorem Rel.mul {j k : ℕ} {x y x' y' : K} (h : Rel b j x y) (h' : Rel b k x' y') :
    Rel b (j + k) (x * x') (y * y') := by
  obtain ⟨e, he, rfl, hf⟩ := h
  obtain ⟨e', he', rfl, hf'⟩ := h'
  exact ⟨e * e', mul_nonneg he he', mul_mul_mul_comm _ _ _ _, by
    have := hf.mul hf'; rwa [mul_mul_mul_comm] at this⟩

omit [IsStrictOrderedRing K] in
theorem Rel.mul_right {k : ℕ} {x y : K} (h : Rel b k x y) (t : K) : Rel b k (x * t) (y * t) := by
  obtain ⟨e, he, rfl, hf⟩ := h
  exact ⟨e, he, mul_right_comm _ _ _, hf⟩

/-- a denominator known up to `k` -/
theorem Rel.div_left {k : ℕ} {n n' : K} (h : Rel b k n' n) (x : K) : Rel b k (x / n') (x / n) := by
  obtain ⟨e, he, rfl, hf⟩ := h
  exact ⟨e⁻¹, inv_nonneg.mpr he, by rw [div_mul_eq_div_div, div_eq_mul_inv (x / n)], by
    rw [← mul_inv]; exact hf.inv⟩

/-- a sum of two non-negative quantities, each known up to `k`, is known up to `k`: its factor is
a weighted mean of the two factors -/
theorem Rel.add {k : ℕ} {x y x' y' : K} (h : Rel b k x y) (h' : Rel b k x' y') (hy : 0 ≤ y) (hy' : 0 ≤ y') :
    Rel b k (x + x') (y + y') := by
  obtain ⟨e, he, rfl, hf⟩ := h
  obtain ⟨e', he', rfl, hf'⟩ := h'
  rcases eq_or_lt_of_le (add_nonneg hy hy') with h0 | hpos
  · have e1 : y = 0 := by linarith
    have e2 : y' = 0 := by linarith
    subst e1; subst e2
    exact ⟨1, zero_le_one, by ring, by rw [one_mul]; exact Fac.one hf.1 k⟩
  · have key : ∀ {a a' c c' : K}, 0 ≤ a → 0 ≤ a' → 0 < a + a' → 0 ≤ c → c ≤ c' → Fac b k (c * c) →
        Fac b k (c' * c') → Fac b k ((a * c + a' * c') / (a + a') * ((a * c + a' * c') / (a + a'))) := by
      intro a a' c c' ha ha' hs hc hcc hf hf'
      have hm0 : c ≤ (a * c + a' * c') / (a + a') := by
        rw [le_div_iff₀ hs]; linarith [mul_le_mul_of_nonneg_left hcc ha']
      have hm1 : (a * c + a' * c') / (a + a') ≤ c' := by
        rw [div_le_iff₀ hs]; linarith [mul_le_mul_of_nonneg_left hcc ha]
      have hm := le_trans hc hm0
      exact ⟨hf.1, hf.2.1.trans (mul_self_le_mul_self hc hm0),
        (mul_le_mul_of_nonneg_right (mul_self_le_mul_self hm hm1) (pow_pos hf.1.1 k).le).trans hf'.2.2⟩
    refine ⟨(y * e + y' * e') / (y + y'),
      div_nonneg (add_nonneg (mul_nonneg hy he) (mul_nonneg hy' he')) hpos.le,
      (mul_div_cancel₀ _ hpos.ne').symm, ?_⟩
    rcases le_total e e' with h | h
    · exact key hy hy' hpos he h hf hf'
    · have := key hy' hy (by rwa [add_comm]) he' h hf' hf
      rwa [add_comm (y' * e'), add_comm y'] at this

/-- **the root halves the count**: exact non-negative roots of two quantities, one known up to
`2k` against the other -/
theorem Rel.sqrt {k : ℕ} {x y : K} (hx : 0 ≤ x) (hy : 0 ≤ y) (h : Rel b (2 * k) (x * x) (y * y)) :
    Rel b k x y := by
  obtain ⟨e, he, hxy, hf⟩ := h
  rcases eq_or_lt_of_le hy with rfl | hpos
  · rw [zero_mul, zero_mul] at hxy
    exact ⟨1, zero_le_one, by rw [mul_self_eq_zero.mp hxy, zero_mul], by rw [one_mul]; exact Fac.one hf.1 k⟩
  · refine ⟨x / y, div_nonneg hx hy, (mul_div_cancel₀ x hpos.ne').symm, ?_⟩
    have : x / y * (x / y) = e := by
      rw [div_mul_div_comm, hxy, mul_div_cancel_left₀ _ (mul_pos hpos hpos).ne']
    rw [this]; exact hf.sqrt he

/-- a factor `e ≥ 0` whose square lies between `1 − g` and `1/(1 − g)` is within `c` of 1 as soon as
`g(1 + 2c) + c² ≤ 2c` -/
theorem near_one {e g c : K} (he : 0 ≤ e) (h1 : 1 - g ≤ e * e) (h2 : e * e * (1 - g) ≤ 1) (hg0 : 0 ≤ g)
    (hc0 : 0 ≤ c) (hc : g * (1 + 2 * c) + c * c ≤ 2 * c) : |e - 1| ≤ c := by
  have hgc := mul_nonneg hg0 hc0
  have hcc := mul_nonneg hc0 hc0
  have hg1 : g < 1 := by
    by_contra hge
    have := mul_le_mul_of_nonneg_right (not_lt.mp hge) (show 0 ≤ 1 + 2 * c by linarith)
    linarith
  rw [abs_le]
  constructor
  · by_contra hlt
    have := mul_self_lt_mul_self he (show e < 1 - c by linarith)
    linarith
  · by_contra hlt
    have h3 := mul_self_lt_mul_self (show 0 ≤ 1 + c by linarith) (show 1 + c < e by linarith)
    have h4 := mul_lt_mul_of_pos_right h3 (sub_pos.mpr hg1)
    have h5 := mul_le_mul_of_nonneg_right hg1.le hcc
    linarith

/-- … which `c = g/2 + g²` meets for `g ≤ 1/5` -/
theorem half_count {g : K} (hg0 : 0 ≤ g) (hg : g ≤ 1 / 5) :
    g * (1 + 2 * (g / 2 + g * g)) + (g / 2 + g * g) * (g / 2 + g * g) ≤ 2 * (g / 2 + g * g) := by
  have g2 := mul_nonneg hg0 hg0
  have g3 := mul_le_mul_of_nonneg_right hg g2
  have g4 := mul_le_mul_of_nonneg_right (mul_le_mul hg hg hg0 (by norm_num)) g2
  have e : g * (1 + 2 * (g / 2 + g * g)) + (g / 2 + g * g) * (g / 2 + g * g) =
      2 * (g / 2 + g * g) - 3 / 4 * (g * g) + 3 * (g * (g * g)) + g * g * (g * g) := by ring
  rw [e]; linarith

/-- **from a count to a bound**: `k` halves of unit `1 − b` with `g = k(1 − b) ≤ 1/5` are within
`g/2 + g²` (Bernoulli for `b^k`, then the root: to first order half of `g`) -/
theorem Rel.bound {k : ℕ} {x y : K} (h : Rel b k x y) (hg : (k : K) * (1 - b) ≤ 1 / 5) :
    |x - y| ≤ ((k : K) * (1 - b) / 2 + (k : K) * (1 - b) * ((k : K) * (1 - b))) * |y| := by
  obtain ⟨e, he, rfl, B, h1, h2⟩ := h
  have hB := one_sub_mul_le_pow B k
  have hg0 : 0 ≤ (k : K) * (1 - b) := mul_nonneg (Nat.cast_nonneg k) (sub_nonneg.mpr B.2)
  have key := near_one he (hB.trans h1) ((mul_le_mul_of_nonneg_left hB (mul_self_nonneg e)).trans h2) hg0
    (add_nonneg (div_nonneg hg0 zero_le_two) (mul_nonneg hg0 hg0)) (half_count hg0 hg)
  have e1 : y * e - y = y * (e - 1) := by ring
  rw [e1, abs_mul, mul_comm]
  exact mul_le_mul_of_nonneg_right key (abs_nonneg y)

end rel

/-! ### the unit of the theorems, roundings and the root contract -/

/-- the unit: `1 − u` would do for roundings; the `3u²` is what the root contract `SqrtOk` (square
within `2u + 3u²`) needs on the lower side, `(1 − u − 3u²)² ≤ 1 − 2u − 3u²` -/
def base (u : K) : K := 1 - u - 3 * (u * u)

theorem base_facts {u : K} (hu0 : 0 ≤ u) (hu : u ≤ 1 / 1024) :
    (0 < base u ∧ base u ≤ 1) ∧ base u ≤ 1 - u ∧ base u * base u ≤ 1 - (2 * u + 3 * (u * u)) := by
  unfold base
  have huu := mul_le_mul_of_nonneg_left hu hu0
  have h0 := mul_nonneg hu0 hu0
  refine ⟨⟨by linarith, by linarith⟩, by linarith, ?_⟩
  have h3 := mul_le_mul_of_nonneg_left huu hu0
  have h5 := mul_le_mul_of_nonneg_left huu h0
  have e : (1 - u - 3 * (u * u)) * (1 - u - 3 * (u * u)) =
      1 - 2 * u - 5 * (u * u) + 6 * (u * (u * u)) + 9 * (u * u * (u * u)) := by ring
  rw [e]; linarith

/-- without rounding (`u = 0`) the unit is 1 and a count is an equality -/
theorem Rel.eq_of_unit_one {k : ℕ} {x y : K} (h : Rel (base (0 : K)) k x y) : x = y := by
  have := h.bound (by simp [base])
  simp only [base, mul_zero, sub_zero, sub_self, zero_div, add_zero, zero_mul] at this
  exact sub_eq_zero.mp (abs_nonpos_iff.mp this)

theorem base_unit {fl : K → K} {u : K} (h : FlOk fl u) (hu : u ≤ 1 / 1024) : 0 < base u ∧ base u ≤ 1 :=
  (base_facts h.1 hu).1

/-- one rounding counts two halves -/
theorem Rel.fl {fl : K → K} {u : K} (h : FlOk fl u) (hu : u ≤ 1 / 1024) (x : K) : Rel (base u) 2 (fl x) x := by
  obtain ⟨B, hb1, _⟩ := base_facts h.1 hu
  obtain ⟨e, he, hf⟩ := Fac.of_rel_err (k := 1) B h.1 (h.2 x) (by rwa [pow_one])
  exact ⟨e, hf.pos.le, he, hf.mul hf⟩

/-- the root contract counts four halves on the square -/
theorem Rel.sqrtOk {sq : K → K} {u : K} (hq : SqrtOk sq u) (hu0 : 0 ≤ u) (hu : u ≤ 1 / 1024) {x : K}
    (hx : 0 < x) : 0 ≤ sq x ∧ Rel (base u) 4 (sq x * sq x) x := by
  obtain ⟨B, _, hbb⟩ := base_facts hu0 hu
  obtain ⟨h0, herr⟩ := hq.1 x hx
  obtain ⟨e, he, hf⟩ := Fac.of_rel_err (k := 2) B
    (add_nonneg (mul_nonneg zero_le_two hu0) (mul_nonneg zero_le_three (mul_self_nonneg u)))
    (by rwa [abs_of_pos hx]) (by rwa [pow_two])
  exact ⟨h0, e, hf.pos.le, he, hf.mul hf⟩

/-! ### from counts to the constants of the statements -/

/-- **the conversion**: in the unit `base u`, `u ≤ 2^-10`, with `m ≥ k·u` and `q ≥ k²·u`: a constant
`C ≥ k/2 + 3m/2 + (1027/1024)²·q` is admissible (`k(1 − base u) = k·u·(1 + 3u)`) -/
theorem Rel.le_of_counts {u x y m q C : K} {k : ℕ} (hu0 : 0 ≤ u) (hu : u ≤ 1 / 1024) (h : Rel (base u) k x y)
    (hm : (k : K) * u ≤ m) (hq : (k : K) * ((k : K) * u) ≤ q) (hm1 : m ≤ 1 / 8)
    (hC : (k : K) / 2 + 3 / 2 * m + 1027 / 1024 * (1027 / 1024) * q ≤ C) : |x - y| ≤ C * u * |y| := by
  have hk : (0 : K) ≤ k := Nat.cast_nonneg k
  have hm0 := mul_nonneg hk hu0
  have a1 := mul_le_mul_of_nonneg_left hu hm0
  have e : (k : K) * (1 - base u) = (k : K) * u + 3 * ((k : K) * u * u) := by unfold base; ring
  refine (h.bound (by rw [e]; linarith)).trans (mul_le_mul_of_nonneg_right ?_ (abs_nonneg y))
  have a2 : (1 + 3 * u) * (1 + 3 * u) ≤ 1027 / 1024 * (1027 / 1024) :=
    mul_le_mul (by linarith) (by linarith) (by linarith) (by norm_num)
  have a3 := mul_le_mul_of_nonneg_left a2 (mul_nonneg hk hm0)
  have key : (k : K) / 2 + 3 / 2 * ((k : K) * u) + (k : K) * ((k : K) * u) * ((1 + 3 * u) * (1 + 3 * u)) ≤ C := by
    linarith
  have := mul_le_mul_of_nonneg_right key hu0
  have e2 : (k : K) * (1 - base u) / 2 + (k : K) * (1 - base u) * ((k : K) * (1 - base u)) =
      ((k : K) / 2 + 3 / 2 * ((k : K) * u) + (k : K) * ((k : K) * u) * ((1 + 3 * u) * (1 + 3 * u))) * u := by
    unfold base; ring
  rw [e2]; exact this

/-- a literal count `k` and `u ≤ 2^-10`: `c·u` is admissible as soon as the numerals satisfy
`k/2 + 3/2·k/1024 + (1027/1024)²·k²/1024 ≤ c` (to first order `k ≤ 2c`) -/
theorem Rel.le_lit {u x y : K} {k : ℕ} (hu0 : 0 ≤ u) (hu : u ≤ 1 / 1024) (h : Rel (base u) k x y) (c : K)
    (hk : (k : K) / 1024 ≤ 1 / 8)
    (hnum : (k : K) / 2 + 3 / 2 * ((k : K) / 1024) + 1027 / 1024 * (1027 / 1024) * ((k : K) * ((k : K) / 1024)) ≤ c) :
    |x - y| ≤ c * u * |y| := by
  have hk0 : (0 : K) ≤ k := Nat.cast_nonneg k
  have a1 : (k : K) * u ≤ (k : K) / 1024 := by
    have := mul_le_mul_of_nonneg_left hu hk0; rwa [mul_one_div] at this
  exact h.le_of_counts hu0 hu a1 (mul_le_mul_of_nonneg_left a1 hk0) hk hnum

/-- the component-count hypothesis `N²·u ≤ 2^-10` of the theorems (`N = n + 1` real, `n + 2` complex
components) makes every count `k ≤ 18·N` small: the second-order terms of `Rel.le_of_counts` are then
`3/2·18/1024 + (1027/1024)²·324/1024 < 1/2`, less than half a rounding — the `+ 1` in `j + 1 ≤ 2d` of
`Rel.le_any`.  (Any factor up to 21 would do; the callers pass `j ≤ 12`, and `n + 12 ≤ 18·(n + 1)` for
every `n`.  `Rel.le_any_sq` counts `2(n + j)` halves, hence its `9`.) -/
theorem count_any {u N k : K} (hu0 : 0 ≤ u) (hN : 1 ≤ N) (hn : N * N * u ≤ 1 / 1024) (hk0 : 0 ≤ k) (hk : k ≤ 18 * N) :
    u ≤ 1 / 1024 ∧ k * u ≤ 18 / 1024 ∧ k * (k * u) ≤ 324 / 1024 := by
  have m0 := mul_nonneg (zero_le_one.trans hN) hu0
  have m1 := mul_le_mul_of_nonneg_right hN m0
  have m2 := mul_le_mul_of_nonneg_right hN hu0
  have k1 := mul_le_mul_of_nonneg_right hk hu0
  have k2 := mul_le_mul_of_nonneg_left k1 hk0
  have k3 := mul_le_mul_of_nonneg_right hk m0
  have e1 : N * (N * u) = N * N * u := by ring
  have e2 : k * (18 * N * u) = 18 * (k * (N * u)) := by ring
  have e3 : 18 * N * (N * u) = 18 * (N * N * u) := by ring
  rw [e1] at m1; rw [e2] at k2; rw [e3] at k3
  exact ⟨by linarith, by linarith, by linarith⟩

theorem count_u {u i : K} {n : ℕ} (hu0 : 0 ≤ u) (hi : 1 ≤ i) (hn : ((n : K) + i) * ((n : K) + i) * u ≤ 1 / 1024) :
    u ≤ 1 / 1024 := by
  have hN := le_add_of_nonneg_of_le (Nat.cast_nonneg (α := K) n) hi
  exact (count_any hu0 hN hn (zero_le_one.trans hN) (by linarith)).1

/-- `n + j` halves under the component-count hypothesis: `(n/2 + d)·u` for `j + 1 ≤ 2d` -/
theorem Rel.le_any {u x y i : K} {n j : ℕ} (hu0 : 0 ≤ u) (hi : 1 ≤ i)
    (hn : ((n : K) + i) * ((n : K) + i) * u ≤ 1 / 1024) (h : Rel (base u) (n + j) x y) (hj : (j : K) ≤ 18 * i) (d : K)
    (hd : (j : K) + 1 ≤ 2 * d) : |x - y| ≤ ((n : K) / 2 + d) * u * |y| := by
  have hn0 : (0 : K) ≤ n := Nat.cast_nonneg n
  obtain ⟨hu, k1, k2⟩ := count_any (k := ((n + j : ℕ) : K)) hu0 (le_add_of_nonneg_of_le hn0 hi) hn
    (Nat.cast_nonneg _) (by push_cast; linarith)
  refine h.le_of_counts hu0 hu k1 k2 (by norm_num) ?_
  push_cast; linarith

/-- `2(n + j)` halves (a square): `(n + d)·u` for `j + 1/2 ≤ d` -/
theorem Rel.le_any_sq {u x y i : K} {n j : ℕ} (hu0 : 0 ≤ u) (hi : 1 ≤ i)
    (hn : ((n : K) + i) * ((n : K) + i) * u ≤ 1 / 1024) (h : Rel (base u) (2 * (n + j)) x y) (hj : (j : K) ≤ 9 * i)
    (d : K) (hd : (j : K) + 1 / 2 ≤ d) : |x - y| ≤ ((n : K) + d) * u * |y| := by
  have hn0 : (0 : K) ≤ n := Nat.cast_nonneg n
  obtain ⟨hu, k1, k2⟩ := count_any (k := ((2 * (n + j) : ℕ) : K)) hu0 (le_add_of_nonneg_of_le hn0 hi) hn
    (Nat.cast_nonneg _) (by push_cast; linarith)
  refine h.le_of_counts hu0 hu k1 k2 (by norm_num) ?_
  push_cast; linarith

end DFV.C15
