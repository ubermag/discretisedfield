import DFV.Lemmas.C13StoreInv
/-! C13 / C14: the value model (`stepM`, `mkMesh?` of `Transform.lean`) is a sound abstraction of the store
model — rejected in-place steps, the frame of accepted ones, and whole histories of in-place steps on one mesh
object. -/
namespace DFV.S
open DFV DFV.T DFV.C14

/-- what `Good` gives for one mesh object: its Region objects are its own (`MeshOk`), its value satisfies the
mesh invariant, has proper subregions with the mesh's dimension names, and a checked `bc`  (`Props/C13.lean` restates it as `good_store_mesh`.) -/
theorem good_mesh (s : Store) (hg : Good s) (mo : MeshObj) (hmem : mo ∈ s.meshes) :
    MeshOk s mo ∧ (absMesh s mo).Inv ∧ SubsProper (absMesh s mo) ∧ BcInv (absMesh s mo) := by
  obtain ⟨v1, v2, v3, v4, v5, v6⟩ := hg.2.2 mo hmem
  have hri := hg.1 _ v1
  refine ⟨⟨v1, fun p hp => (v2 p hp).2, nodup_of_flatMap _ _ hg.2.1 mo hmem, fun p hp => by have := (v2 p hp).1; omega⟩,
    DFV.C13.meshInv_of_parts (absMesh s mo) hri v3 v4, ?_, v5⟩
  intro p hp
  obtain ⟨q, hq, e⟩ := List.mem_map.mp hp
  rw [← e]
  exact ⟨hg.1 _ (v2 q hq).2, v6 q hq⟩

/-- **A rejected in-place mesh step changes nothing in the store** (good store): the value model
rejects only when the call on the REGION object raises — before anything is assigned — because the
subregion objects, holding proper regions with the mesh's dimension names, accept whatever the region
accepted.  (`Props/C13.lean` restates it as `rejected_inplace_mesh_step_changes_nothing`.) -/
theorem meshInplace_err (s : Store) (hg : Good s) (mid : Nat) (mo : MeshObj) (op : Op) (hmo : s.meshes[mid]? = some mo)
    (e : Err) (h : stepM (absMesh s mo) (op.withInplace true) = .error e) : meshInplace s mid op = (s, none) := by
  obtain ⟨_, hm, hp, _⟩ := good_mesh s hg mo (List.mem_of_getElem? hmo)
  rw [stepM_eq _ hm hp] at h
  cases hreg : stepR (absMesh s mo).region (op.withInplace true) with
  | error e' =>
    unfold meshInplace updReg
    rw [hmo]
    have : stepR (s.reg mo.region) (op.withInplace true) = .error e' := hreg
    simp only [this]
  | ok xr =>
    rw [hreg, inplace_withInplace, if_pos rfl] at h
    cases h

/-- **The frame of an accepted in-place mesh step** (good store, exclusive region objects): every
OTHER mesh object has the same value afterwards, and every Region object not held by the mesh —
in particular every object only the caller holds — is unchanged.  (`Props/C13.lean` restates it as `inplace_step_frame`.) -/
theorem meshInplace_frame (s : Store) (hg : Good s) (he : RegExcl s) (mid : Nat) (mo : MeshObj) (op : Op)
    (hmo : s.meshes[mid]? = some mo) (T1 T : Mesh)
    (h : stepM (absMesh s mo) (op.withInplace true) = .ok (T1, T)) :
    ∃ s' mo', meshInplace s mid op = (s', some (.mesh mid)) ∧ s'.meshes[mid]? = some mo' ∧ absMesh s' mo' = T ∧
      footprint mo' = footprint mo ∧
      (∀ j moj, j ≠ mid → s.meshes[j]? = some moj → s'.meshes[j]? = some moj ∧ absMesh s' moj = absMesh s moj) ∧
      (∀ i, i ∉ footprint mo → s'.reg i = s.reg i) ∧ s'.regs.length = s.regs.length := by
  obtain ⟨hok, hm, hp, hb⟩ := good_mesh s hg mo (List.mem_of_getElem? hmo)
  obtain ⟨s', mo', h1, h2, h3, h4, h5, h6, h7⟩ := meshInplace_ok s mid mo op hmo hok hm hp hb T1 T h
  have hmid : mid < s.meshes.length := (List.getElem?_eq_some_iff.mp hmo).1
  refine ⟨s', mo', h1, by rw [h4]; exact getElem?_setAt_eq _ _ _ hmid, h7, by unfold footprint; rw [h5, h6], ?_, h3, h2⟩
  intro j moj hj hmj
  have hdis := (footprints_disjoint s hg he j mid moj mo hmj hmo).2 hj
  exact ⟨by rw [h4, getElem?_setAt_ne _ _ _ _ hj]; exact hmj, absMesh_congr s s' moj fun a ha => h3 a (hdis a ha)⟩

/-! ## constructor, setter, copying form -/

theorem valsOf_fresh_allocs (s : Store) (subs : List (String × Nat)) (f : Nat → Region) :
    valsOf (s.allocs (subs.map fun p => f p.2)) (freshIds s.regs.length subs) = subs.map fun p => (p.1, f p.2) :=
  valsOf_freshIds _ subs f s.regs rfl

/-- the store's copies of `subOp` / `opN` / `opBc` are the value model's -/
theorem subOpCopy_eq (s : Store) (mo : MeshObj) (op : Op) :
    subOpCopy (s.reg mo.region) op = subOp (absMesh s mo) (op.withInplace false) := by cases op <;> rfl
theorem opNS_eq (s : Store) (mo : MeshObj) (op : Op) :
    opNS (s.reg mo.region) mo.n op = opN (absMesh s mo) (op.withInplace false) := by cases op <;> rfl
theorem opBcS_eq (s : Store) (mo : MeshObj) (op : Op) :
    opBcS mo.bc op = opBc (absMesh s mo) (op.withInplace false) := by cases op <;> rfl

/-! ## histories of in-place steps on one mesh object -/

/-- **A whole history of in-place steps on one mesh object, in the store, is the value model's history
`runM`** (rejected steps skipped): for a good store with exclusive region objects and a mesh whose value
satisfies `SubInv`, after the session `[mesh.op₁(inplace), mesh.op₂(inplace), …]` the mesh object
is the same object holding the same Region objects, its value is `runM value ops` — so every history
theorem of the value model (`reachable_inv_mesh`, `history_forms_agree_mesh` of Props/C13, `runM_subInv` of
Props/C14, …) speaks about the store —, every other mesh object has its old value, every Region object outside the mesh's
footprint is unchanged and no object has been created.  (`Props/C13.lean` restates it as `inplace_history_in_store`.) -/
theorem inplace_history (s : Store) (hg : Good s) (he : RegExcl s) (mid : Nat) (mo : MeshObj) (hmo : s.meshes[mid]? = some mo)
    (hs : SubInv (absMesh s mo)) (ops : List Op) (hin : ∀ op ∈ ops, op.inplace = true) :
    ∃ mo', (run s (ops.map (Stmt.meshOp mid))).meshes[mid]? = some mo' ∧
      absMesh (run s (ops.map (Stmt.meshOp mid))) mo' = runM (absMesh s mo) ops ∧ footprint mo' = footprint mo ∧
      (∀ j moj, j ≠ mid → s.meshes[j]? = some moj →
        (run s (ops.map (Stmt.meshOp mid))).meshes[j]? = some moj ∧ absMesh (run s (ops.map (Stmt.meshOp mid))) moj = absMesh s moj) ∧
      (∀ i, i ∉ footprint mo → (run s (ops.map (Stmt.meshOp mid))).reg i = s.reg i) ∧
      (run s (ops.map (Stmt.meshOp mid))).regs.length = s.regs.length := by
  induction ops generalizing s mo with
  | nil => exact ⟨mo, hmo, rfl, rfl, fun j moj _ h => ⟨h, rfl⟩, fun _ _ => rfl, rfl⟩
  | cons op ops ih =>
    have hop : op.inplace = true := hin op (by simp)
    have hex : (exec s (.meshOp mid op)).1 = (meshInplace s mid op).1 := by simp only [exec, hop, if_true]
    simp only [List.map_cons, run, runM]
    rw [hex]
    have hm := (good_mesh s hg mo (List.mem_of_getElem? hmo)).2.1
    have hgood1 : Good (meshInplace s mid op).1 := hex ▸ exec_good s hg (.meshOp mid op)
    have hex1 : RegExcl (meshInplace s mid op).1 := hex ▸ exec_regExcl s hg he (.meshOp mid op)
    cases hst : stepM (absMesh s mo) op with
    | error e =>
      have hst' : stepM (absMesh s mo) (op.withInplace true) = .error e := by rw [withInplace_of_inplace op hop]; exact hst
      rw [meshInplace_err s hg mid mo op hmo e hst']
      exact ih s hg he mo hmo hs (fun o ho => hin o (List.mem_cons_of_mem _ ho))
    | ok p =>
      obtain ⟨T1, T⟩ := p
      have hst' : stepM (absMesh s mo) (op.withInplace true) = .ok (T1, T) := by rw [withInplace_of_inplace op hop]; exact hst
      obtain ⟨s1, mo1, e1, e2, e3, e4, e5, e6, e7⟩ := meshInplace_frame s hg he mid mo op hmo T1 T hst'
      rw [e1] at hgood1 hex1 ⊢
      simp only
      have hs1 : SubInv (absMesh s1 mo1) := by rw [e3]; exact (stepM_subInv' _ hm hs _ _ _ hst).2.1
      obtain ⟨mo', f1, f2, f3, f4, f5, f6⟩ := ih s1 hgood1 hex1 mo1 e2 hs1 (fun o ho => hin o (List.mem_cons_of_mem _ ho))
      refine ⟨mo', f1, by rw [f2, e3], f3.trans e4, ?_, ?_, f6.trans e7⟩
      · intro j moj hj hmj
        obtain ⟨g1, g2⟩ := e5 j moj hj hmj
        obtain ⟨g3, g4⟩ := f4 j moj hj g1
        exact ⟨g3, g4.trans g2⟩
      · intro i hi
        rw [f5 i (by rw [e4]; exact hi), e6 i hi]

end DFV.S
