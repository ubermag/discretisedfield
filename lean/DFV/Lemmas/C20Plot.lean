import DFV.Lemmas.C20Img
import DFV.Lemmas.C20Si
import DFV.Lemmas.Field
/-!
The plot functions of the value model (C20), each written once as the chain of steps it is (`X_eq_bind`) and
read once in both directions (`X_eq_ok_iff`); the auxiliary fields (`auxArr`), label lookups, arrow and colour
arrays; `mplLightness` as the final stage `lightCore` run on `lightDefault` and `lightHue` (`mplLightness_eq`).
-/
namespace DFV.C20
open DFV

/-! ## auxiliary fields and filters -/

/-- what `filter_field`, `color_field` and `lightness_field` go through alike: one component, a 2-d mesh,
then onto the cell counts of the plotted field (`filterKeep_eq`, `lightSrc_some_eq`, `colourOf_aux_eq`) -/
def auxArr (f g : Fld) : M (NDA (List Rat)) :=
  if g.nvdim ≠ 1 then .error .value
  else if g.mesh.region.ndim ≠ 2 then .error .value
  else auxOnMesh f g

theorem auxArr_map_ok_iff {β} (f g : Fld) (K : NDA (List Rat) → β) (y : β) :
    (auxArr f g).map K = .ok y ↔
      g.nvdim = 1 ∧ g.mesh.region.ndim = 2 ∧ ∃ a, auxOnMesh f g = .ok a ∧ K a = y := by
  unfold auxArr
  by_cases h1 : g.nvdim ≠ 1
  · rw [if_pos h1]; exact ⟨fun h => (nomatch h), fun h => absurd h.1 h1⟩
  rw [if_neg h1]
  by_cases h2 : g.mesh.region.ndim ≠ 2
  · rw [if_pos h2]; exact ⟨fun h => (nomatch h), fun h => absurd h.2.1 h2⟩
  rw [if_neg h2]
  cases auxOnMesh f g with
  | error e => exact ⟨fun h => (nomatch h), fun ⟨_, _, _, h, _⟩ => (nomatch h)⟩
  | ok a =>
    exact ⟨fun h => ⟨not_not.mp h1, not_not.mp h2, a, rfl, Except.ok.inj h⟩,
      fun ⟨_, _, _, h, hk⟩ => by obtain rfl := Except.ok.inj h; rw [← hk]; rfl⟩

/-- the three places in the model where `auxArr` is written out, each ending in its own use `K` of the array -/
theorem auxArr_map_eq {β} (f g : Fld) (K : NDA (List Rat) → β) :
    (if g.nvdim ≠ 1 then .error .value else if g.mesh.region.ndim ≠ 2 then .error .value
      else match auxOnMesh f g with
        | .error e => .error e
        | .ok a => .ok (K a)) = (auxArr f g).map K := by
  unfold auxArr
  split
  · rfl
  split
  · rfl
  cases auxOnMesh f g <;> rfl

theorem auxOnMesh_same (f g : Fld) (h : g.mesh.n = f.mesh.n) : auxOnMesh f g = .ok g.data := by
  unfold auxOnMesh
  rw [if_pos h]

theorem filterKeep_eq (f flt : Fld) :
    filterKeep f flt = (auxArr f flt).map fun a =>
      ⟨f.mesh.n, fun i => !decide ((a.get i).getD 0 0 = 0) && f.valid.get i⟩ :=
  auxArr_map_eq f flt _

theorem filterKeep_ok_inv (f flt : Fld) (keep : NDA Bool) (h : filterKeep f flt = .ok keep) :
    flt.nvdim = 1 ∧ flt.mesh.region.ndim = 2 ∧
    ∃ a, auxOnMesh f flt = .ok a ∧ keep.shape = f.mesh.n ∧
      ∀ i, keep.get i = (!decide ((a.get i).getD 0 0 = 0) && f.valid.get i) := by
  rw [filterKeep_eq, auxArr_map_ok_iff] at h
  obtain ⟨h1, h2, a, ha, rfl⟩ := h
  exact ⟨h1, h2, a, ha, rfl, fun _ => rfl⟩

theorem filterKeep_same (f flt : Fld) (h1 : flt.nvdim = 1) (h2 : flt.mesh.region.ndim = 2)
    (hn : flt.mesh.n = f.mesh.n) :
    ∃ keep, filterKeep f flt = .ok keep ∧
      ∀ i, keep.get i = (!decide ((flt.data.get i).getD 0 0 = 0) && f.valid.get i) :=
  ⟨_, by rw [filterKeep_eq, auxArr_map_ok_iff]; exact ⟨h1, h2, _, auxOnMesh_same f flt hn, rfl⟩, fun _ => rfl⟩

theorem filterKeep_valid (f : Fld) (h2 : f.mesh.region.ndim = 2) :
    ∃ keep, filterKeep f (validAsField f) = .ok keep ∧ ∀ i, keep.get i = f.valid.get i := by
  obtain ⟨keep, hk, hget⟩ := filterKeep_same f (validAsField f) rfl h2 rfl
  refine ⟨keep, hk, fun i => ?_⟩
  rw [hget i]
  simp only [validAsField]
  -- the data of `validAsField f` is 1 / 0 by validity, so "non-zero and valid" collapses to "valid"
  by_cases hv : f.valid.get i = true <;> simp [hv]

theorem filterOf_elim (f : Fld) (o : Opts) (P : Fld → Prop) (hv : P (validAsField f))
    (hg : ∀ g, o.filter = some g → P g) : P (filterOf f o) := by
  unfold filterOf
  cases h : o.filter with
  | none => exact hv
  | some g => exact hg g h

theorem filterOf_none (f : Fld) (o : Opts) (h : o.filter = none) : filterOf f o = validAsField f := by
  unfold filterOf
  rw [h]
  rfl

theorem filterOf_some (f g : Fld) (o : Opts) (h : o.filter = some g) : filterOf f o = g := by
  unfold filterOf
  rw [h]
  rfl

/-! ## labels -/

theorem axisLabels_eq_ok_iff (r : Region) (m : Rat) (lab : PlotCall) : axisLabels r m = .ok lab ↔
    ∃ pre, rsiPrefix? m = some pre ∧
      lab = .labels (r.dims.getD 0 "" ++ " (" ++ pre ++ r.units.getD 0 "" ++ ")")
                    (r.dims.getD 1 "" ++ " (" ++ pre ++ r.units.getD 1 "" ++ ")") := by
  unfold axisLabels
  cases rsiPrefix? m with
  | none => exact ⟨nofun, fun ⟨_, h, _⟩ => nomatch h⟩
  | some pre => simp only [Except.ok.injEq, Option.some.injEq, exists_eq_left', @eq_comm _ _ lab]

theorem axisLabels_pos (r : Region) (m : Rat) (lab : PlotCall) (h : axisLabels r m = .ok lab) : 0 < m := by
  obtain ⟨pre, hp, _⟩ := (axisLabels_eq_ok_iff r m lab).mp h
  exact rsiPrefix_pos m pre hp

theorem multOk_of_labels (f : Fld) (hinv : f.mesh.Inv) (mult : Option Rat) (m : Rat) (lab : PlotCall)
    (hm : setupMultiplier f mult = .ok m) (hl : axisLabels f.mesh.region m = .ok lab) : MultOk f mult := by
  obtain ⟨pre, hp, _⟩ := (axisLabels_eq_ok_iff _ m lab).mp hl
  exact (multOk_iff f hinv mult).mpr ⟨m, pre, hm, hp⟩

/-- the call list ends with the axis labels announcing the multiplier `m` -/
def EndsWithLabels (r : Region) (m : Rat) (calls : List PlotCall) : Prop :=
  ∃ pre, (pre, m) ∈ siTable ∧
    calls.getLast? = some (.labels (r.dims.getD 0 "" ++ " (" ++ pre ++ r.units.getD 0 "" ++ ")")
                                   (r.dims.getD 1 "" ++ " (" ++ pre ++ r.units.getD 1 "" ++ ")"))

theorem endsWithLabels_of (r : Region) (m : Rat) (lab : PlotCall) (pre : List PlotCall)
    (h : axisLabels r m = .ok lab) : EndsWithLabels r m (pre ++ [lab]) := by
  obtain ⟨p, hp, hl⟩ := (axisLabels_eq_ok_iff r m lab).mp h
  exact ⟨p, rsiPrefix_some m p hp, by rw [hl]; simp⟩

/-! ## the plot functions as chains of steps

Each plot function is a cascade `match step with | .error e => .error e | .ok v => …`.  `X_eq_bind` writes
it once as the chain of `bind`s it is (by cases on the steps, in order); `X_eq_ok_iff` reads off what a
successful call consists of — both directions at once. -/

/-- three steps and a value: the shape of `scalarCore`, of `mplContour` behind its guards and of the default plot -/
theorem bind3_ok_iff {α β γ δ} {x : M α} {y : α → M β} {z : α → β → M γ} {K : α → β → γ → δ} {r : δ} :
    (x.bind fun a => (y a).bind fun b => (z a b).bind fun c => .ok (K a b c)) = .ok r ↔
      ∃ a b c, x = .ok a ∧ y a = .ok b ∧ z a b = .ok c ∧ r = K a b c := by
  simp only [bind_ok_iff', Except.ok.injEq, @eq_comm _ _ r]
  exact ⟨fun ⟨a, ha, b, hb, c, hc, h⟩ => ⟨a, b, c, ha, hb, hc, h⟩,
    fun ⟨a, b, c, ha, hb, hc, h⟩ => ⟨a, ha, b, hb, c, hc, h⟩⟩

theorem scalarCore_eq_bind (f : Fld) (o : Opts) (m : Rat) :
    scalarCore f o m = (extent f.mesh.region m).bind fun ext =>
      (filterKeep f (filterOf f o)).bind fun keep => (axisLabels f.mesh.region m).bind fun lab =>
      .ok [.imshow (imgOf f.mesh.n keep fun i => (f.data.get i).getD 0 0) "lower" ext, lab] := by
  unfold scalarCore
  cases extent f.mesh.region m
  · rfl
  cases filterKeep f (filterOf f o)
  · rfl
  cases axisLabels f.mesh.region m <;> rfl

theorem scalarCore_eq_ok_iff (f : Fld) (o : Opts) (m : Rat) (calls : List PlotCall) :
    scalarCore f o m = .ok calls ↔
    ∃ ext keep lab, extent f.mesh.region m = .ok ext ∧ filterKeep f (filterOf f o) = .ok keep ∧
      axisLabels f.mesh.region m = .ok lab ∧
      calls = [.imshow (imgOf f.mesh.n keep fun i => (f.data.get i).getD 0 0) "lower" ext, lab] := by
  rw [scalarCore_eq_bind]
  exact bind3_ok_iff

theorem mplScalar_eq_bind (f : Fld) (o : Opts) :
    mplScalar f o = if f.mesh.region.ndim ≠ 2 then .error .runtime else if f.nvdim > 1 then .error .runtime
      else (setupMultiplier f o.mult).bind (scalarCore f o) := by
  unfold mplScalar
  refine ite_congr rfl (fun _ => rfl) fun _ => ?_
  refine ite_congr rfl (fun _ => rfl) fun _ => ?_
  cases setupMultiplier f o.mult <;> rfl

theorem mplScalar_eq_ok_iff (f : Fld) (o : Opts) (calls : List PlotCall) :
    mplScalar f o = .ok calls ↔ f.mesh.region.ndim = 2 ∧ f.nvdim ≤ 1 ∧
      ∃ m, setupMultiplier f o.mult = .ok m ∧ scalarCore f o m = .ok calls := by
  rw [mplScalar_eq_bind, guard_ok_iff, guard_ok_iff, bind_ok_iff', not_not, Nat.not_lt]

/-- **A successful scalar plot, taken apart**: the multiplier (positive, with a prefix), the kept cells,
and the one `imshow` call on the masked component 0 with the region in units of the multiplier -/
theorem mplScalar_inv (f : Fld) (o : Opts) (calls : List PlotCall) (hinv : f.mesh.Inv)
    (h : mplScalar f o = .ok calls) :
    f.mesh.region.ndim = 2 ∧ f.nvdim ≤ 1 ∧ ∃ m keep lab, 0 < m ∧ setupMultiplier f o.mult = .ok m ∧
      filterKeep f (filterOf f o) = .ok keep ∧ axisLabels f.mesh.region m = .ok lab ∧
      calls = [.imshow (imgOf f.mesh.n keep fun i => (f.data.get i).getD 0 0) "lower"
        (extentOf f.mesh.region m), lab] := by
  obtain ⟨h2, hnv, m, hm, hcore⟩ := (mplScalar_eq_ok_iff f o calls).mp h
  obtain ⟨ext, keep, lab, he, hk, hl, hc⟩ := (scalarCore_eq_ok_iff f o m calls).mp hcore
  have hpos := axisLabels_pos _ _ _ hl
  rw [extent_eq f.mesh.region hinv.1 h2 m hpos] at he
  obtain rfl := Except.ok.inj he
  exact ⟨h2, hnv, m, keep, lab, hpos, hm, hk, hl, hc⟩

/-- matplotlib's precondition on the assembled `contour` arguments: only the `(2, 2)` requirement can fail -/
theorem contourArgsOk_assembled (msh : Mesh) (h2 : msh.region.ndim = 2) (m : Rat) (keep : NDA Bool)
    (val : List Nat → Rat) :
    contourArgsOk (pointsAx msh 0 m) (pointsAx msh 1 m) (imgOf msh.n keep val) = true ↔
      2 ≤ msh.nAt 0 ∧ 2 ≤ msh.nAt 1 := by
  have hnd : msh.ndim = 2 := h2
  unfold contourArgsOk
  rw [imgOf_shape, pointsAx_length _ _ _ (by omega), pointsAx_length _ _ _ (by omega)]
  simp only [List.length_cons, List.length_nil, List.getD_cons_zero, List.getD_cons_succ,
    Bool.and_eq_true, decide_eq_true_eq, true_and]
  -- `msh.nAt a` is `msh.n.getD a 0` by definition
  exact ⟨fun h => ⟨h.1.1.2, h.1.1.1⟩, fun h => ⟨⟨⟨h.2, h.1⟩, rfl⟩, rfl⟩⟩

theorem mplContour_eq_bind (f : Fld) (o : Opts) :
    mplContour f o = if f.mesh.region.ndim ≠ 2 then .error .runtime else if f.nvdim ≠ 1 then .error .runtime
      else (setupMultiplier f o.mult).bind fun m => (filterKeep f (filterOf f o)).bind fun keep =>
        (axisLabels f.mesh.region m).bind fun lab =>
        .ok [.contour (pointsAx f.mesh 0 m) (pointsAx f.mesh 1 m)
               (imgOf f.mesh.n keep fun i => (f.data.get i).getD 0 0), lab] := by
  unfold mplContour
  refine ite_congr rfl (fun _ => rfl) fun _ => ?_
  refine ite_congr rfl (fun _ => rfl) fun _ => ?_
  cases setupMultiplier f o.mult
  · rfl
  dsimp only [Except.bind]
  cases filterKeep f (filterOf f o)
  · rfl
  cases axisLabels f.mesh.region _ <;> rfl

theorem mplContour_eq_ok_iff (f : Fld) (o : Opts) (calls : List PlotCall) :
    mplContour f o = .ok calls ↔ f.mesh.region.ndim = 2 ∧ f.nvdim = 1 ∧
    ∃ m keep lab, setupMultiplier f o.mult = .ok m ∧ filterKeep f (filterOf f o) = .ok keep ∧
      axisLabels f.mesh.region m = .ok lab ∧
      calls = [.contour (pointsAx f.mesh 0 m) (pointsAx f.mesh 1 m)
                 (imgOf f.mesh.n keep fun i => (f.data.get i).getD 0 0), lab] := by
  rw [mplContour_eq_bind, guard_ok_iff, guard_ok_iff, bind3_ok_iff, not_not, not_not]

theorem vectorCore_eq_bind (f : Fld) (o : Opts) (m : Rat) :
    vectorCore f o m = (filterKeep f (validAsField f)).bind fun keep => (vectorVdims f o).bind fun vd =>
      (arrowIdx f (vd.getD 0 none)).bind fun ax => (arrowIdx f (vd.getD 1 none)).bind fun ay =>
      if ax.isNone && ay.isNone then .error .value
      else (colourOf f o vd).bind fun c => (axisLabels f.mesh.region m).bind fun lab =>
        .ok [.quiver (pointsAx f.mesh 0 m) (pointsAx f.mesh 1 m) (arrowArr f keep ax)
               (arrowArr f keep ay) c, lab] := by
  unfold vectorCore
  cases filterKeep f (validAsField f)
  · rfl
  cases vectorVdims f o
  · rfl
  dsimp only [Except.bind]
  cases arrowIdx f _
  · rfl
  cases arrowIdx f _
  · rfl
  dsimp only [Except.bind]
  refine ite_congr rfl (fun _ => rfl) fun _ => ?_
  cases colourOf f o _
  · rfl
  cases axisLabels f.mesh.region m <;> rfl

theorem vectorCore_eq_ok_iff (f : Fld) (o : Opts) (m : Rat) (calls : List PlotCall) :
    vectorCore f o m = .ok calls ↔
    ∃ keep vd ax ay c lab, filterKeep f (validAsField f) = .ok keep ∧ vectorVdims f o = .ok vd ∧
      arrowIdx f (vd.getD 0 none) = .ok ax ∧ arrowIdx f (vd.getD 1 none) = .ok ay ∧
      (ax.isNone && ay.isNone) = false ∧ colourOf f o vd = .ok c ∧
      axisLabels f.mesh.region m = .ok lab ∧
      calls = [.quiver (pointsAx f.mesh 0 m) (pointsAx f.mesh 1 m) (arrowArr f keep ax)
                 (arrowArr f keep ay) c, lab] := by
  simp only [vectorCore_eq_bind, guard_ok_iff, bind_ok_iff', Bool.not_eq_true, Except.ok.injEq, @eq_comm _ _ calls]
  exact ⟨fun ⟨k, hk, vd, hvd, ax, hax, ay, hay, hnn, c, hc, lab, hl, h⟩ => ⟨k, vd, ax, ay, c, lab, hk, hvd, hax, hay, hnn, hc, hl, h⟩,
    fun ⟨k, vd, ax, ay, c, lab, hk, hvd, hax, hay, hnn, hc, hl, h⟩ => ⟨k, hk, vd, hvd, ax, hax, ay, hay, hnn, c, hc, lab, hl, h⟩⟩

theorem mplVector_eq_bind (f : Fld) (o : Opts) :
    mplVector f o = if f.mesh.region.ndim ≠ 2 then .error .runtime
      else if o.vdimsArg.isNone && f.vmap.isEmpty then .error .value
      else (setupMultiplier f o.mult).bind (vectorCore f o) := by
  unfold mplVector
  refine ite_congr rfl (fun _ => rfl) fun _ => ?_
  refine ite_congr rfl (fun _ => rfl) fun _ => ?_
  cases setupMultiplier f o.mult <;> rfl

theorem mplVector_eq_ok_iff (f : Fld) (o : Opts) (calls : List PlotCall) :
    mplVector f o = .ok calls ↔ f.mesh.region.ndim = 2 ∧ (o.vdimsArg.isNone && f.vmap.isEmpty) = false ∧
    ∃ m, setupMultiplier f o.mult = .ok m ∧ vectorCore f o m = .ok calls := by
  rw [mplVector_eq_bind, guard_ok_iff, guard_ok_iff, bind_ok_iff', not_not, Bool.not_eq_true]

/-! ## label lookups

`rDimLast f d` of `Model/C20.lean` is, by definition, the reversed mapping `f.rDim d` of `Model/Field.lean` (the LAST
entry of the mapping that points to the axis), so `Fld.rDim_last` and `Fld.rDim_none_iff` of `Lemmas/Field.lean` are
its characterisation and apply to it as they stand. -/

theorem vdimIndex_spec (f : Fld) (l : String) (k : Nat) (h : f.vdimIndex l = some k) :
    ∃ vs, f.vdims = some vs ∧ vs.getD k "" = l := by
  obtain ⟨vs, hvs, hi⟩ := (Fld.vdimIndex_eq_some_iff f l k).mp h
  exact ⟨vs, hvs, (indexOf?_some vs l k hi).2⟩

theorem rDimLast_mem (f : Fld) (d l : String) (h : rDimLast f d = some l) : (l, d) ∈ f.vmap := by
  obtain ⟨pre, post, hv, _⟩ := Fld.rDim_last f d l h
  rw [hv]
  exact List.mem_append_right _ List.mem_cons_self

/-- an arrow label Python treats as "no component in this direction" (`if vdims[k]` is false) -/
def NoLabel (l : Option String) : Prop := l = none ∨ l = some ""

/-- **`field.vdims.index(label) if label else None`, characterised**: no component for an absent or empty
label; otherwise the first position of the label among the component labels -/
theorem arrowIdx_eq_ok_iff (f : Fld) (l : Option String) (a : Option Nat) :
    arrowIdx f l = .ok a ↔
      (NoLabel l ∧ a = none) ∨
      ∃ s vs k, l = some s ∧ s ≠ "" ∧ f.vdims = some vs ∧ indexOf? vs s = some k ∧ a = some k := by
  constructor
  · intro h
    unfold arrowIdx at h
    cases l with
    | none => exact Or.inl ⟨Or.inl rfl, (Except.ok.inj h).symm⟩
    | some s =>
      dsimp only at h
      by_cases hs : s = ""
      · rw [if_pos hs] at h
        exact Or.inl ⟨Or.inr (hs ▸ rfl), (Except.ok.inj h).symm⟩
      · rw [if_neg hs] at h
        cases hv : f.vdims with
        | none => simp only [hv] at h; cases h
        | some vs =>
          simp only [hv] at h
          cases hi : indexOf? vs s with
          | none => simp only [hi] at h; cases h
          | some c =>
            simp only [hi] at h
            exact Or.inr ⟨s, vs, c, rfl, hs, rfl, hi, (Except.ok.inj h).symm⟩
  · rintro (⟨hno | hno, rfl⟩ | ⟨s, vs, k, rfl, hs, hvs, hi, rfl⟩)
    · rw [hno]; rfl
    · rw [hno]; rfl
    · unfold arrowIdx
      simp only [hs, if_false, hvs, hi]

theorem arrowIdx_some_inv (f : Fld) (l : Option String) (k : Nat) (h : arrowIdx f l = .ok (some k)) :
    ∃ s vs, l = some s ∧ s ≠ "" ∧ f.vdims = some vs ∧ k < vs.length ∧ vs.getD k "" = s := by
  rcases (arrowIdx_eq_ok_iff f l _).mp h with ⟨_, h⟩ | ⟨s, vs, k', hl, hs, hvs, hi, hk⟩
  · cases h
  · obtain rfl := Option.some.inj hk
    exact ⟨s, vs, hl, hs, hvs, indexOf?_some vs s k hi⟩

theorem arrowIdx_ok (f : Fld) (vs : List String) (hvs : f.vdims = some vs) (l : String) (hl : l ∈ vs)
    (hne : l ≠ "") : ∃ c, indexOf? vs l = some c ∧ arrowIdx f (some l) = .ok (some c) := by
  obtain ⟨c, hc⟩ := exists_indexOf?_of_mem vs l hl
  exact ⟨c, hc, (arrowIdx_eq_ok_iff f _ _).mpr (Or.inr ⟨l, vs, c, rfl, hne, hvs, hc, rfl⟩)⟩

/-! ## arrow / colour arrays -/

theorem arrowArr_shape (f : Fld) (keep : NDA Bool) (k : Option Nat) :
    (arrowArr f keep k).shape = [f.mesh.nAt 1, f.mesh.nAt 0] := by
  cases k with
  | none => exact imgOf_shape _ _ _  -- `f.mesh.nAt a` is `f.mesh.n.getD a 0` by definition
  | some c => exact imgOf_shape _ _ _

theorem arrowArr_some_get (f : Fld) (hn : f.mesh.n.length = 2) (keep : NDA Bool) (k r c : Nat) :
    (arrowArr f keep (some k)).get [r, c] =
      if keep.get [c, r] then some ((f.data.get [c, r]).getD k 0) else none := by
  simp only [arrowArr]
  rw [imgOf_get _ hn]

theorem arrowArr_none_get (f : Fld) (hn : f.mesh.n.length = 2) (keep : NDA Bool) (r c : Nat) :
    (arrowArr f keep none).get [r, c] = some 0 := by
  -- the mask of an absent direction is constantly `true`
  simp only [arrowArr]
  rw [imgOf_get _ hn]
  simp

/-- with the validity mask and not both directions absent, an arrow has a NaN component exactly in the
invalid cells: a component array is NaN there and nowhere else, an absent direction is `0` everywhere -/
theorem arrowArr_hidden (f : Fld) (hn : f.mesh.n.length = 2) (keep : NDA Bool)
    (hget : ∀ i, keep.get i = f.valid.get i) (ax ay : Option Nat) (hnn : (ax.isNone && ay.isNone) = false)
    (i j : Nat) :
    (((arrowArr f keep ax).get [j, i]).isNone ∨ ((arrowArr f keep ay).get [j, i]).isNone) ↔
      f.valid.get [i, j] = false := by
  cases ax with
  | none =>
    cases ay with
    | none => simp at hnn
    | some ky =>
      rw [arrowArr_none_get f hn, arrowArr_some_get f hn, hget]
      cases f.valid.get [i, j] <;> simp
  | some kx =>
    rw [arrowArr_some_get f hn, hget]
    cases ay with
    | none =>
      rw [arrowArr_none_get f hn]
      cases f.valid.get [i, j] <;> simp
    | some ky =>
      rw [arrowArr_some_get f hn, hget]
      cases f.valid.get [i, j] <;> simp

/-- an arrow array entry by entry: component `k` in valid cells and NaN in invalid ones, or zeros
when there is no component in that direction -/
def ArrowOf (f : Fld) (a : Option Nat) (A : NDA (Option Rat)) : Prop :=
  match a with
  | some k => ∀ r c, A.get [r, c] = if f.valid.get [c, r] then some ((f.data.get [c, r]).getD k 0) else none
  | none => ∀ r c, A.get [r, c] = some 0

/-- what an arrow array shows, by its label: the component with that (non-empty) label in the valid cells, or
zeros for an absent or empty label (the general form of the three statements on arrow components) -/
theorem arrowOf_label (f : Fld) (l : Option String) (ai : Option Nat) (A : NDA (Option Rat))
    (hai : arrowIdx f l = .ok ai) (hA : ArrowOf f ai A) :
    (∃ s k vs, l = some s ∧ s ≠ "" ∧ f.vdims = some vs ∧ vs.getD k "" = s ∧
      ∀ r c, A.get [r, c] = if f.valid.get [c, r] then some ((f.data.get [c, r]).getD k 0) else none) ∨
    (NoLabel l ∧ ∀ r c, A.get [r, c] = some 0) := by
  cases ai with
  | none =>
    exact Or.inr ⟨((arrowIdx_eq_ok_iff f l none).mp hai).elim (·.1) fun ⟨_, _, _, _, _, _, _, h⟩ => (nomatch h), hA⟩
  | some k =>
    obtain ⟨s, vs, hs, hne, hvs, _, hks⟩ := arrowIdx_some_inv f l k hai
    exact Or.inl ⟨s, k, vs, hs, hne, hvs, hks, hA⟩

/-- **A successful vector plot, taken apart**: the arrow labels, their component numbers (not both
absent), the colour argument, and the single `quiver` call whose `U`, `V` are the arrow arrays of
these components -/
theorem mplVector_inv (f : Fld) (o : Opts) (calls : List PlotCall) (hinv : f.mesh.Inv)
    (h : mplVector f o = .ok calls) :
    ∃ vd ax ay X Y U V C lab, vectorVdims f o = .ok vd ∧ arrowIdx f (vd.getD 0 none) = .ok ax ∧
      arrowIdx f (vd.getD 1 none) = .ok ay ∧ (ax.isNone && ay.isNone) = false ∧
      colourOf f o vd = .ok C ∧ calls = [.quiver X Y U V C, lab] ∧ ArrowOf f ax U ∧ ArrowOf f ay V := by
  obtain ⟨h2, _, m, _, hcore⟩ := (mplVector_eq_ok_iff f o calls).mp h
  obtain ⟨keep, vd, ax, ay, C, lab, hk, hvd, hax, hay, hnn, hcol, _, hc⟩ := (vectorCore_eq_ok_iff f o m calls).mp hcore
  have hn : f.mesh.n.length = 2 := mesh_n_two f.mesh hinv h2
  obtain ⟨keep', hk', hget⟩ := filterKeep_valid f h2
  obtain rfl := Except.ok.inj (hk'.symm.trans hk)
  have arrow : ∀ a, ArrowOf f a (arrowArr f keep' a) := by
    intro a
    cases a with
    | none => exact fun r c => arrowArr_none_get f hn keep' r c
    | some k => exact fun r c => by rw [arrowArr_some_get f hn, hget]
  exact ⟨vd, ax, ay, _, _, _, _, C, lab, hvd, hax, hay, hnn, hcol, hc, arrow ax, arrow ay⟩

/-! ## lightness -/

theorem lightSrc_none (f : Fld) (dflt : NDA Rat) : lightSrc f none dflt = .ok dflt := rfl

theorem lightSrc_some_eq (f g : Fld) (dflt : NDA Rat) :
    lightSrc f (some g) dflt = (auxArr f g).map fun a => ⟨f.mesh.n, fun i => (a.get i).getD 0 0⟩ :=
  auxArr_map_eq f g _

theorem lightSrc_some_inv (f g : Fld) (dflt l : NDA Rat) (h : lightSrc f (some g) dflt = .ok l) :
    g.nvdim = 1 ∧ g.mesh.region.ndim = 2 ∧
    ∃ a, auxOnMesh f g = .ok a ∧ ∀ i, l.get i = (a.get i).getD 0 0 := by
  rw [lightSrc_some_eq, auxArr_map_ok_iff] at h
  obtain ⟨h1, h2, a, ha, rfl⟩ := h
  exact ⟨h1, h2, a, ha, fun _ => rfl⟩

theorem lightCore_eq_bind (f : Fld) (o : Opts) (hue : List Nat → Hue) (dflt : NDA Rat) (flt : Fld) :
    lightCore f o hue dflt flt = (setupMultiplier f o.mult).bind fun m => (extent f.mesh.region m).bind fun ext =>
      (lightSrc f o.aux dflt).bind fun l => (filterKeep f flt).bind fun keep =>
      (axisLabels f.mesh.region m).bind fun lab =>
      .ok [.imshowHL (imgOf f.mesh.n keep fun i =>
                  (hue i, normalise (ndaMin ⟨f.mesh.n, l.get⟩) (ndaMax ⟨f.mesh.n, l.get⟩)
                            (o.clim.getD (0, 1)) (l.get i))) "lower" ext, lab] := by
  unfold lightCore
  cases setupMultiplier f o.mult
  · rfl
  dsimp only [Except.bind]
  cases extent f.mesh.region _
  · rfl
  cases lightSrc f o.aux dflt
  · rfl
  cases filterKeep f flt
  · rfl
  cases axisLabels f.mesh.region _ <;> rfl

theorem lightCore_eq_ok_iff (f : Fld) (o : Opts) (hue : List Nat → Hue) (dflt : NDA Rat) (flt : Fld)
    (calls : List PlotCall) : lightCore f o hue dflt flt = .ok calls ↔
    ∃ m ext l keep lab, setupMultiplier f o.mult = .ok m ∧ extent f.mesh.region m = .ok ext ∧
      lightSrc f o.aux dflt = .ok l ∧ filterKeep f flt = .ok keep ∧
      axisLabels f.mesh.region m = .ok lab ∧
      calls = [.imshowHL (imgOf f.mesh.n keep fun i =>
                  (hue i, normalise (ndaMin ⟨f.mesh.n, l.get⟩) (ndaMax ⟨f.mesh.n, l.get⟩)
                            (o.clim.getD (0, 1)) (l.get i))) "lower" ext, lab] := by
  simp only [lightCore_eq_bind, bind_ok_iff', Except.ok.injEq, @eq_comm _ _ calls]
  exact ⟨fun ⟨m, hm, e, he, l, hl, k, hk, lab, hlab, h⟩ => ⟨m, e, l, k, lab, hm, he, hl, hk, hlab, h⟩,
    fun ⟨m, e, l, k, lab, hm, he, hl, hk, hlab, h⟩ => ⟨m, hm, e, he, l, hl, k, hk, lab, hlab, h⟩⟩

/-- **A successful final lightness stage, taken apart**, with the region in units of the multiplier -/
theorem lightCore_inv (f : Fld) (o : Opts) (hue : List Nat → Hue) (dflt : NDA Rat) (flt : Fld)
    (calls : List PlotCall) (hinv : f.mesh.Inv) (h2 : f.mesh.region.ndim = 2)
    (h : lightCore f o hue dflt flt = .ok calls) :
    ∃ m l keep lab, 0 < m ∧ setupMultiplier f o.mult = .ok m ∧ lightSrc f o.aux dflt = .ok l ∧
      filterKeep f flt = .ok keep ∧ axisLabels f.mesh.region m = .ok lab ∧
      calls = [.imshowHL (imgOf f.mesh.n keep fun i =>
                  (hue i, normalise (ndaMin ⟨f.mesh.n, l.get⟩) (ndaMax ⟨f.mesh.n, l.get⟩)
                            (o.clim.getD (0, 1)) (l.get i))) "lower" (extentOf f.mesh.region m), lab] := by
  obtain ⟨m, ext, l, keep, lab, hm, he, hl, hk, hlab, hc⟩ := (lightCore_eq_ok_iff f o hue dflt flt calls).mp h
  have hpos := axisLabels_pos _ _ _ hlab
  rw [extent_eq f.mesh.region hinv.1 h2 m hpos] at he
  obtain rfl := Except.ok.inj he
  exact ⟨m, l, keep, lab, hpos, hm, hl, hk, hlab, hc⟩

theorem angleComps_eq_ok_iff (f : Fld) (cx cy : Nat) : angleComps f = .ok (cx, cy) ↔
    ∃ lx ly, rDimLast f (f.mesh.region.dims.getD 0 "") = some lx ∧
      rDimLast f (f.mesh.region.dims.getD 1 "") = some ly ∧
      f.vdimIndex lx = some cx ∧ f.vdimIndex ly = some cy := by
  unfold angleComps
  cases rDimLast f (f.mesh.region.dims.getD 0 "") with
  | none => cases rDimLast f (f.mesh.region.dims.getD 1 "") <;> exact ⟨nofun, fun ⟨_, _, h, _⟩ => nomatch h⟩
  | some lx =>
    cases rDimLast f (f.mesh.region.dims.getD 1 "") with
    | none => exact ⟨nofun, fun ⟨_, _, _, h, _⟩ => nomatch h⟩
    | some ly =>
      simp only [Option.some.injEq, exists_and_left, exists_eq_left']
      cases f.vdimIndex lx with
      | none => cases f.vdimIndex ly <;> exact ⟨nofun, fun h => nomatch h.1⟩
      | some a =>
        cases f.vdimIndex ly with
        | none => exact ⟨nofun, fun h => nomatch h.2⟩
        | some b => simp only [Except.ok.injEq, Prod.mk.injEq, Option.some.injEq]

/-! ## colour argument -/

/-- when exactly one label `l` is left over it is the one picked, whatever `pick` says: the component picked
is the one labelled `l`, and `l` is not one of the arrow labels -/
theorem thirdComp_single_inv (f : Fld) (vd : List (Option String)) (l : String) (pick c : Nat)
    (hleft : leftover f vd = [l]) (hc : thirdComp f vd pick = .ok c) :
    ∃ vs, f.vdims = some vs ∧ vs.getD c "" = l ∧ some l ∉ vd := by
  have hmem : l ∈ leftover f vd := by rw [hleft]; exact List.mem_singleton.mpr rfl
  unfold thirdComp at hc
  rw [hleft, List.length_singleton, Nat.mod_one] at hc
  change (match f.vdimIndex l with | none => _ | some c => _) = _ at hc
  cases hk : f.vdimIndex l with
  | none => rw [hk] at hc; cases hc
  | some k =>
    rw [hk] at hc
    obtain rfl := Except.ok.inj hc
    obtain ⟨vs, hvs, hks⟩ := vdimIndex_spec f l k hk
    unfold leftover at hmem
    exact ⟨vs, hvs, hks, by simpa using (List.mem_filter.mp hmem).2⟩

theorem colourOf_aux_eq (f g : Fld) (o : Opts) (vd : List (Option String)) (huse : o.useColor = true)
    (haux : o.aux = some g) :
    colourOf f o vd = (auxArr f g).map fun a => some (colourArr f.mesh.n a) := by
  unfold colourOf
  rw [huse, haux]
  exact auxArr_map_eq f g _

theorem colourOf_aux_inv (f g : Fld) (o : Opts) (vd : List (Option String)) (huse : o.useColor = true)
    (haux : o.aux = some g) (C : Option (NDA Rat)) (h : colourOf f o vd = .ok C) :
    g.nvdim = 1 ∧ g.mesh.region.ndim = 2 ∧
    ∃ a, auxOnMesh f g = .ok a ∧ C = some (colourArr f.mesh.n a) := by
  rw [colourOf_aux_eq f g o vd huse haux, auxArr_map_ok_iff] at h
  obtain ⟨h1, h2, a, ha, rfl⟩ := h
  exact ⟨h1, h2, a, ha, rfl⟩

theorem colourOf_third (f : Fld) (o : Opts) (vd : List (Option String)) (huse : o.useColor = true)
    (haux : o.aux = none) (h3 : f.nvdim = 3) :
    colourOf f o vd = match thirdComp f vd o.pick with
      | .error e => .error e
      | .ok c => .ok (some (colourArr f.mesh.n ⟨f.mesh.n, fun i => [(f.data.get i).getD c 0]⟩)) := by
  unfold colourOf
  rw [huse, haux]
  simp only [Bool.not_true, Bool.false_eq_true, if_false, h3, ne_eq, not_true_eq_false]
  rfl

theorem colourOf_off (f : Fld) (o : Opts) (vd : List (Option String)) (huse : o.useColor = false) :
    colourOf f o vd = .ok none := by
  unfold colourOf
  rw [huse]
  rfl

theorem colourOf_not_three (f : Fld) (o : Opts) (vd : List (Option String)) (huse : o.useColor = true)
    (haux : o.aux = none) (hn3 : f.nvdim ≠ 3) : colourOf f o vd = .ok none := by
  unfold colourOf
  rw [huse, haux]
  simp [hn3]

/-! ## success as a Boolean -/

/-- "the call is accepted", as a Boolean the closed `example`s can evaluate; the theorems state acceptance as
`∃ v, x = .ok v`, and the two lemmas below go from one form to the other -/
def okB {α} (x : M α) : Bool := match x with | .ok _ => true | .error _ => false

theorem ok_of_okB {α} (x : M α) (h : okB x = true) : ∃ v, x = .ok v := by
  cases x with
  | ok v => exact ⟨v, rfl⟩
  | error e => simp [okB] at h

theorem okB_of_ok {α} (x : M α) (h : ∃ v, x = .ok v) : okB x = true := by
  obtain ⟨v, rfl⟩ := h
  rfl

/-! ## default plot -/

/-- the part of the default plot that depends on the number of components: the calls before the labels -/
def defaultParts (f : Fld) (o : Opts) (m : Rat) : M (List PlotCall) :=
  if f.nvdim = 1 then mplScalar f { o with mult := some m, filter := some (filterOf f o) }
  else if f.nvdim = 2 then mplVector f { o with mult := some m }
  else if f.nvdim = 3 then
    (thirdComp f (inplaneVdims f) o.pick).bind fun c =>
    (mplScalar (compField f c) { o with mult := some m, filter := some (filterOf f o) }).bind fun cs =>
    (mplVector f { o with mult := some m }).bind fun cv => .ok (cs ++ cv)
  else .error .runtime

/-- the labels after one part (`labelsAfter_two`: two parts) of the default plot, about a VARIABLE `P`: in the
unfolded default plot the parts are long terms, which `exact labelsAfter_one _ _ m` matches instead of traversing -/
theorem labelsAfter_one (P : M (List PlotCall)) (r : Region) (m : Rat) :
    (match P with
      | .error e => .error e
      | .ok cs =>
        match axisLabels r m with
        | .error e => .error e
        | .ok lab => .ok (cs ++ [lab])) =
    P.bind fun parts => (axisLabels r m).bind fun lab => .ok (parts ++ [lab]) := by
  cases P
  · rfl
  cases axisLabels r m <;> rfl

theorem labelsAfter_two (S V : M (List PlotCall)) (r : Region) (m : Rat) :
    (match S with
      | .error e => .error e
      | .ok cs =>
        match V with
        | .error e => .error e
        | .ok cv =>
          match axisLabels r m with
          | .error e => .error e
          | .ok lab => .ok (cs ++ cv ++ [lab])) =
    (S.bind fun cs => V.bind fun cv => .ok (cs ++ cv)).bind fun parts =>
      (axisLabels r m).bind fun lab => .ok (parts ++ [lab]) := by
  cases S
  · rfl
  cases V
  · rfl
  cases axisLabels r m <;> rfl

theorem mplDefault_eq_bind (f : Fld) (o : Opts) :
    mplDefault f o = if f.mesh.region.ndim ≠ 2 then .error .runtime
      else (setupMultiplier f o.mult).bind fun m => (defaultParts f o m).bind fun parts =>
        (axisLabels f.mesh.region m).bind fun lab => .ok (parts ++ [lab]) := by
  unfold mplDefault
  refine ite_congr rfl (fun _ => rfl) fun _ => ?_
  cases setupMultiplier f o.mult with
  | error e => rfl
  | ok m =>
    dsimp only
    show _ = (defaultParts f o m).bind _
    unfold defaultParts
    by_cases h1 : f.nvdim = 1
    · rw [if_pos h1, if_pos h1]; exact labelsAfter_one _ _ m
    rw [if_neg h1, if_neg h1]
    by_cases hn2 : f.nvdim = 2
    · rw [if_pos hn2, if_pos hn2]; exact labelsAfter_one _ _ m
    rw [if_neg hn2, if_neg hn2]
    by_cases hn3 : f.nvdim = 3
    · rw [if_pos hn3, if_pos hn3]
      cases thirdComp f (inplaneVdims f) o.pick with
      | error e => rfl
      | ok c => exact labelsAfter_two _ _ _ m
    rw [if_neg hn3, if_neg hn3]
    rfl

theorem defaultParts_eq_ok_iff (f : Fld) (o : Opts) (m : Rat) (parts : List PlotCall) :
    defaultParts f o m = .ok parts ↔
      (f.nvdim = 1 ∧ mplScalar f { o with mult := some m, filter := some (filterOf f o) } = .ok parts) ∨
      (f.nvdim = 2 ∧ mplVector f { o with mult := some m } = .ok parts) ∨
      (f.nvdim = 3 ∧ ∃ c cs cv, thirdComp f (inplaneVdims f) o.pick = .ok c ∧
        mplScalar (compField f c) { o with mult := some m, filter := some (filterOf f o) } = .ok cs ∧
        mplVector f { o with mult := some m } = .ok cv ∧ parts = cs ++ cv) := by
  unfold defaultParts
  by_cases h1 : f.nvdim = 1
  · rw [if_pos h1]
    exact ⟨fun h => .inl ⟨h1, h⟩, fun h => by
      rcases h with h | h | h
      · exact h.2
      · exact absurd (h1.symm.trans h.1) (by decide)
      · exact absurd (h1.symm.trans h.1) (by decide)⟩
  rw [if_neg h1]
  by_cases hn2 : f.nvdim = 2
  · rw [if_pos hn2]
    exact ⟨fun h => .inr (.inl ⟨hn2, h⟩), fun h => by
      rcases h with h | h | h
      · exact absurd h.1 h1
      · exact h.2
      · exact absurd (hn2.symm.trans h.1) (by decide)⟩
  rw [if_neg hn2]
  by_cases hn3 : f.nvdim = 3
  · rw [if_pos hn3]
    simp only [bind_ok_iff', Except.ok.injEq, @eq_comm _ _ parts]
    exact ⟨fun ⟨c, hc, cs, hcs, cv, hcv, h⟩ => .inr (.inr ⟨hn3, c, cs, cv, hc, hcs, hcv, h⟩), fun h => by
      rcases h with h | h | ⟨_, c, cs, cv, hc, hcs, hcv, h⟩
      · exact absurd h.1 h1
      · exact absurd h.1 hn2
      · exact ⟨c, hc, cs, hcs, cv, hcv, h⟩⟩
  rw [if_neg hn3]
  exact ⟨nofun, fun h => by
    rcases h with h | h | h
    · exact absurd h.1 h1
    · exact absurd h.1 hn2
    · exact absurd h.1 hn3⟩

theorem mplDefault_eq_ok_iff (f : Fld) (o : Opts) (calls : List PlotCall) :
    mplDefault f o = .ok calls ↔ f.mesh.region.ndim = 2 ∧
      ∃ m parts lab, setupMultiplier f o.mult = .ok m ∧ defaultParts f o m = .ok parts ∧
        axisLabels f.mesh.region m = .ok lab ∧ calls = parts ++ [lab] := by
  rw [mplDefault_eq_bind, guard_ok_iff, bind3_ok_iff, not_not]

/-! ## lightness of 2- and 3-component fields -/

/-- `field.norm` of a 2-component field as the scalar field handed on as `lightness_field` -/
def normField (sqrtF : Rat → Rat) (f : Fld) : Fld :=
  { validAsField f with data := ⟨f.mesh.n, fun i => [sqrtF (normSq (f.data.get i))]⟩ }

/-- the in-plane angle token of every cell for the component numbers `cx`, `cy` -/
def angleHue (f : Fld) (cx cy : Nat) : List Nat → Hue :=
  fun i => .angle ((f.data.get i).getD cy 0) ((f.data.get i).getD cx 0)

/-- where the lightness of a 2- or 3-component field comes from -/
inductive LightSource (sqrtF : Rat → Rat) (f : Fld) (o : Opts) : Fld → Prop where
  /-- a `lightness_field` was given -/
  | given (g : Fld) (h : o.aux = some g) : LightSource sqrtF f o g
  /-- 2 components, nothing given: `field.norm` -/
  | norm (h : o.aux = none) (h2 : f.nvdim = 2) : LightSource sqrtF f o (normField sqrtF f)
  /-- 3 components, nothing given: the component not mapped to a plot axis -/
  | third (h : o.aux = none) (h3 : f.nvdim = 3) (hm : f.vmap.isEmpty = false) (c : Nat)
      (hc : thirdComp f (inplaneVdims f) o.pick = .ok c) : LightSource sqrtF f o (compField f c)

theorem lightCore_congr (f : Fld) (o o' : Opts) (hue : List Nat → Hue) (d d' : NDA Rat) (flt : Fld)
    (hm : o'.mult = o.mult) (hc : o'.clim = o.clim) (hs : lightSrc f o'.aux d' = lightSrc f o.aux d) :
    lightCore f o' hue d' flt = lightCore f o hue d flt := by
  unfold lightCore
  rw [hm, hc, hs]

/-- handing a derived default lightness field on as `lightness_field` is the same as using its
values as the default lightness -/
theorem lightSrc_default_field (f D : Fld) (aux : Option Fld) (d0 : NDA Rat) (hD1 : D.nvdim = 1)
    (hD2 : D.mesh = f.mesh) (h2 : f.mesh.region.ndim = 2) :
    lightSrc f (some (aux.getD D)) d0 = lightSrc f aux ⟨f.mesh.n, fun i => (D.data.get i).getD 0 0⟩ := by
  cases aux with
  | some g => rfl
  | none =>
    rw [Option.getD_none, lightSrc_some_eq]
    unfold auxArr
    rw [if_neg (not_not.mpr hD1), if_neg (by rw [hD2]; exact not_not.mpr h2), auxOnMesh_same f D (by rw [hD2])]
    rfl

/-- the hue token of every cell: the in-plane angle of the two mapped components (two and three
components), else the value itself -/
def lightHue (f : Fld) : M (List Nat → Hue) :=
  if f.nvdim = 2 ∨ f.nvdim = 3 then
    match angleComps f with
    | .error e => .error e
    | .ok xy => .ok (angleHue f xy.1 xy.2)
  else .ok fun i => .val ((f.data.get i).getD 0 0)

/-- the lightness of every cell when no `lightness_field` is given (`given = false`): the norm (two
components), the component not mapped to a plot axis (three), the absolute value (one) -/
def lightDefault (sqrtF : Rat → Rat) (f : Fld) (given : Bool) (pick : Nat) : M (List Nat → Rat) :=
  if f.nvdim = 2 then .ok fun i => sqrtF (normSq (f.data.get i))
  else if f.nvdim = 3 then
    if given then .ok fun _ => 0
    else if f.vmap.isEmpty then .error .value
    else
      match thirdComp f (inplaneVdims f) pick with
      | .error e => .error e
      | .ok c => .ok fun i => (f.data.get i).getD c 0
  else if f.nvdim > 3 then .error .runtime
  else .ok fun i => absR ((f.data.get i).getD 0 0)

/-- **`lightness` = default lightness, hue, then the final stage** with the options of the call: the
branches on the number of components only decide these two functions of the cell -/
theorem mplLightness_eq (sqrtF : Rat → Rat) (f : Fld) (o : Opts) :
    mplLightness sqrtF f o =
      if f.mesh.region.ndim ≠ 2 then .error .runtime
      else
        match lightDefault sqrtF f o.aux.isSome o.pick with
        | .error e => .error e
        | .ok d =>
          match lightHue f with
          | .error e => .error e
          | .ok hue => lightCore f o hue ⟨f.mesh.n, d⟩ (filterOf f o) := by
  unfold mplLightness lightDefault lightHue
  by_cases h2 : f.mesh.region.ndim ≠ 2
  · rw [if_pos h2, if_pos h2]
  rw [if_neg h2, if_neg h2]
  have h2' : f.mesh.region.ndim = 2 := not_not.mp h2
  by_cases hn2 : f.nvdim = 2
  · rw [if_pos hn2, if_pos hn2, if_pos (Or.inl hn2)]
    cases angleComps f with
    | error e => rfl
    | ok xy => exact lightCore_congr f o _ _ _ _ _ rfl rfl (lightSrc_default_field f (normField sqrtF f) _ _ rfl rfl h2')
  rw [if_neg hn2, if_neg hn2]
  by_cases hn3 : f.nvdim = 3
  · rw [if_pos hn3, if_pos hn3, if_pos (Or.inr hn3)]
    cases ha : o.aux with
    | some g =>
      cases angleComps f with
      | error e => rfl
      | ok xy =>
        -- a given lightness field makes the default irrelevant
        exact lightCore_congr f o o _ _ _ _ rfl rfl (by rw [ha])
    | none =>
      by_cases hm : f.vmap.isEmpty = true
      · rw [if_pos hm, if_neg (by simp), if_pos hm]
      rw [if_neg hm, if_neg (by simp), if_neg hm]
      cases thirdComp f (inplaneVdims f) o.pick with
      | error e => rfl
      | ok c =>
        cases angleComps f with
        | error e => rfl
        | ok xy =>
          have := lightSrc_default_field f (compField f c) o.aux ⟨f.mesh.n, fun _ => 0⟩ rfl rfl h2'
          rw [ha] at this
          exact lightCore_congr f o _ _ _ _ _ rfl rfl (by rw [ha]; exact this)
  rw [if_neg hn3, if_neg hn3, if_neg (show ¬ (f.nvdim = 2 ∨ f.nvdim = 3) from fun h => h.elim hn2 hn3)]
  by_cases hn4 : f.nvdim > 3
  · rw [if_pos hn4, if_pos hn4]
  rw [if_neg hn4, if_neg hn4]

/-- **A successful lightness plot, taken apart**: the default lightness and the hue of the cells, and the
final stage run on them -/
theorem mplLightness_inv (sqrtF : Rat → Rat) (f : Fld) (o : Opts) (calls : List PlotCall)
    (h : mplLightness sqrtF f o = .ok calls) :
    f.mesh.region.ndim = 2 ∧ ∃ d hue, lightDefault sqrtF f o.aux.isSome o.pick = .ok d ∧ lightHue f = .ok hue ∧
      lightCore f o hue ⟨f.mesh.n, d⟩ (filterOf f o) = .ok calls := by
  rw [mplLightness_eq] at h
  by_cases h2 : f.mesh.region.ndim ≠ 2
  · rw [if_pos h2] at h; cases h
  rw [if_neg h2] at h
  cases hd : lightDefault sqrtF f o.aux.isSome o.pick with
  | error e => rw [hd] at h; cases h
  | ok d =>
    cases hh : lightHue f with
    | error e => rw [hd, hh] at h; cases h
    | ok hue =>
      rw [hd, hh] at h
      exact ⟨not_not.mp h2, d, hue, rfl, rfl, h⟩

theorem lightHue_vec_inv (f : Fld) (hnv : f.nvdim = 2 ∨ f.nvdim = 3) (hue : List Nat → Hue)
    (h : lightHue f = .ok hue) : ∃ cx cy, angleComps f = .ok (cx, cy) ∧ hue = angleHue f cx cy := by
  unfold lightHue at h
  rw [if_pos hnv] at h
  cases hxy : angleComps f with
  | error e => rw [hxy] at h; cases h
  | ok xy =>
    rw [hxy] at h
    exact ⟨xy.1, xy.2, rfl, (Except.ok.inj h).symm⟩

theorem lightDefault_vec_inv (sqrtF : Rat → Rat) (f : Fld) (pick : Nat) (hnv : f.nvdim = 2 ∨ f.nvdim = 3)
    (d : List Nat → Rat) (h : lightDefault sqrtF f false pick = .ok d) :
    (f.nvdim = 2 ∧ d = fun i => sqrtF (normSq (f.data.get i))) ∨
    (f.nvdim = 3 ∧ ∃ c, thirdComp f (inplaneVdims f) pick = .ok c ∧ d = fun i => (f.data.get i).getD c 0) := by
  unfold lightDefault at h
  rcases hnv with hn | hn
  · rw [if_pos hn] at h
    exact Or.inl ⟨hn, (Except.ok.inj h).symm⟩
  · rw [if_neg (by omega), if_pos hn, if_neg (by simp)] at h
    by_cases hm : f.vmap.isEmpty = true
    · rw [if_pos hm] at h; cases h
    rw [if_neg hm] at h
    cases hc : thirdComp f (inplaneVdims f) pick with
    | error e => rw [hc] at h; cases h
    | ok c =>
      rw [hc] at h
      exact Or.inr ⟨hn, c, rfl, (Except.ok.inj h).symm⟩

theorem lightSource_same_n (sqrtF : Rat → Rat) (f : Fld) (o : Opts) (L : Fld)
    (hL : LightSource sqrtF f o L) (hnone : o.aux = none) :
    L.mesh = f.mesh ∧ L.nvdim = 1 := by
  cases hL with
  | given g h => rw [hnone] at h; cases h
  | norm _ _ => exact ⟨rfl, rfl⟩
  | third _ _ _ c _ => exact ⟨rfl, rfl⟩

end DFV.C20
