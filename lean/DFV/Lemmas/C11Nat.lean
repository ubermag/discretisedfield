import DFV.Lemmas.ListOps
import DFV.Model.C11
/-!
C11: the generic transform model is natural in its carrier.  For ANY map `φ : S → R` that
preserves `0 1 + *` (no ring law is needed on either side — `S` may be the driver's formal
`Poly`, which satisfies none structurally), running the code-shaped model over `S` and then
applying `φ` cell by cell is the same as running it over `R` on the `φ`-image of the input
with the `φ`-images of the root parameters — for the four transforms and for the
library-convention real inverse `irfftnNP`.  The unfolding equations of `dftN` / `idftN` are stated here
too, over `Zero One Add Mul`.  No Mathlib.
-/
namespace DFV.C11
open DFV

section hom
variable {S R : Type} [Zero S] [One S] [Add S] [Mul S] [Zero R] [One R] [Add R] [Mul R]

/-- `φ` preserves the four operations the model uses -/
structure IsHom (φ : S → R) : Prop where
  map_zero : φ 0 = 0
  map_one : φ 1 = 1
  map_add : ∀ x y, φ (x + y) = φ x + φ y
  map_mul : ∀ x y, φ (x * y) = φ x * φ y

/-- image of the per-axis parameters -/
def Root.map (φ : S → R) (ρ : Root S) : Root R := ⟨φ ρ.w, φ ρ.wi, φ ρ.ninv⟩

/-- cell-by-cell, component-by-component image of an array -/
def mapA (φ : S → R) (a : NDA (List S)) : NDA (List R) := ⟨a.shape, fun i => (a.get i).map φ⟩

/-- image of a field: same mesh, labels, mapping, unit; data mapped -/
def CF.map (φ : S → R) (f : CF S) : CF R :=
  { mesh := f.mesh, nvdim := f.nvdim, data := mapA φ f.data, vdims := f.vdims, vmap := f.vmap, unit := f.unit }

/-- image of a result-or-error -/
def mapM (φ : S → R) : M (CF S) → M (CF R)
  | .ok g => .ok (g.map φ)
  | .error e => .error e

/-- the library's `DFV.tab_map` under the name the correspondence checks cite (`C11.tab_map`) -/
theorem tab_map {α β} (n : Nat) (f : Nat → α) (g : α → β) : (tab n f).map g = tab n (fun i => g (f i)) :=
  DFV.tab_map n f g

variable {φ : S → R}

theorem IsHom.sumN (h : IsHom φ) (n : Nat) (f : Nat → S) : φ (sumN n f) = sumN n (fun i => φ (f i)) := by
  induction n with
  | zero => simp only [C11.sumN]; exact h.map_zero
  | succ n ih => simp only [C11.sumN]; rw [h.map_add, ih]

theorem IsHom.powN (h : IsHom φ) (x : S) (k : Nat) : φ (powN x k) = powN (φ x) k := by
  induction k with
  | zero => simp only [C11.powN]; exact h.map_one
  | succ k ih => simp only [C11.powN]; rw [h.map_mul, ih]

theorem IsHom.tw (h : IsHom φ) (w : S) (n m r : Nat) : φ (tw w n m r) = tw (φ w) n m r := by
  unfold C11.tw; exact h.powN _ _

theorem IsHom.headD (h : IsHom φ) (ρs : List (Root S)) :
    (ρs.map (Root.map φ)).headD ⟨1, 1, 1⟩ = Root.map φ (ρs.headD ⟨1, 1, 1⟩) := by
  cases ρs with
  | nil => simp only [List.map_nil, List.headD_nil, Root.map]; rw [h.map_one]
  | cons ρ ρs => simp

omit [Zero S] [One S] [Add S] [Mul S] [Zero R] [One R] [Add R] [Mul R] in
/-- `List.map_tail` read from right to left, for the root parameters; the correspondence checks cite it -/
theorem map_tail' (ρs : List (Root S)) : (ρs.map (Root.map φ)).tail = ρs.tail.map (Root.map φ) :=
  List.map_tail.symm

theorem dftN_nil (ρs : List (Root R)) (f : List Nat → R) (m : List Nat) : dftN ρs [] f m = f [] := rfl

theorem dftN_cons (ρs : List (Root R)) (n : Nat) (ns : List Nat) (f : List Nat → R) (m : List Nat) :
    dftN ρs (n :: ns) f m =
      C11.sumN n fun r => dftN ρs.tail ns (fun rs => f (r :: rs)) m.tail * C11.tw (ρs.headD ⟨1, 1, 1⟩).w n (m.headD 0) r :=
  rfl

theorem idftN_nil (ρs : List (Root R)) (F : List Nat → R) (j : List Nat) : idftN ρs [] F j = F [] := rfl

theorem idftN_cons (ρs : List (Root R)) (n : Nat) (ns : List Nat) (F : List Nat → R) (j : List Nat) :
    idftN ρs (n :: ns) F j =
      idftN ρs.tail ns (fun ms => (ρs.headD ⟨1, 1, 1⟩).ninv *
        C11.sumN n fun k => F (k :: ms) * C11.tw (ρs.headD ⟨1, 1, 1⟩).wi n (j.headD 0) k) j.tail :=
  rfl

theorem IsHom.dftN (h : IsHom φ) (ρs : List (Root S)) (ns : List Nat) (f : List Nat → S) (m : List Nat) :
    φ (dftN ρs ns f m) = dftN (ρs.map (Root.map φ)) ns (fun i => φ (f i)) m := by
  induction ns generalizing ρs f m with
  | nil => rw [dftN_nil, dftN_nil]
  | cons n ns ih =>
    rw [dftN_cons, dftN_cons, h.sumN]
    congr 1
    funext r
    rw [h.map_mul, ih, h.tw, h.headD, map_tail']
    rfl

theorem IsHom.idftN (h : IsHom φ) (ρs : List (Root S)) (ns : List Nat) (F : List Nat → S) (j : List Nat) :
    φ (idftN ρs ns F j) = idftN (ρs.map (Root.map φ)) ns (fun i => φ (F i)) j := by
  induction ns generalizing ρs F j with
  | nil => rw [idftN_nil, idftN_nil]
  | cons n ns ih =>
    rw [idftN_cons, idftN_cons, ih, h.headD, map_tail']
    congr 1
    funext ms
    rw [h.map_mul, h.sumN]
    congr 2
    funext k
    rw [h.map_mul, h.tw]
    rfl

omit [Zero S] [One S] [Add S] [Mul S] [Zero R] [One R] [Add R] [Mul R] in
theorem hermExt_map (cS : S → S) (cR : R → R) (hc : ∀ x, φ (cS x) = cR (φ x))
    (shape : List Nat) (G : List Nat → S) (k : List Nat) :
    φ (hermExt cS shape G k) = hermExt cR shape (fun i => φ (G i)) k := by
  unfold C11.hermExt
  split
  · rfl
  · rw [hc]

theorem compA_mapA (h : IsHom φ) (a : NDA (List S)) (c : Nat) (i : List Nat) :
    compA (mapA φ a) c i = φ (compA a c i) := by
  simp only [compA, mapA]; exact getD_map_of_eq h.map_zero _ _

theorem compA_mapA_fun (h : IsHom φ) (a : NDA (List S)) (c : Nat) :
    compA (mapA φ a) c = fun i => φ (compA a c i) := funext (compA_mapA h a c)

omit [Zero S] [One S] [Add S] [Mul S] [Zero R] [One R] [Add R] [Mul R] in
theorem mapA_tab (sh : List Nat) (nv : Nat) (F : List Nat → Nat → S) :
    mapA φ ⟨sh, fun m => tab nv fun c => F m c⟩ = ⟨sh, fun m => tab nv fun c => φ (F m c)⟩ := by
  simp only [mapA, tab_map]

theorem symPlanes_map (h : IsHom φ) (cS : S → S) (cR : R → R) (hc : ∀ x, φ (cS x) = cR (φ x)) (hS : S)
    (s : List Nat) (A : List Nat → S) (m : List Nat) :
    φ (symPlanes cS hS s A m) = symPlanes cR (φ hS) s (fun i => φ (A i)) m := by
  unfold symPlanes
  split
  · rw [h.map_mul, h.map_add, hc]
  · rfl

/-! Each array transform is a table of `dftN`/`idftN` values of the components: push `φ` through
the table, the contract and the component access. -/

theorem IsHom.fftnArr (h : IsHom φ) (ρs : List (Root S)) (nv : Nat) (a : NDA (List S)) :
    fftnArr (ρs.map (Root.map φ)) nv (mapA φ a) = mapA φ (fftnArr ρs nv a) := by
  simp only [C11.fftnArr, mapA_tab, h.dftN, compA_mapA_fun h]
  rfl

theorem IsHom.rfftnArr (h : IsHom φ) (ρs : List (Root S)) (nv : Nat) (a : NDA (List S)) :
    rfftnArr (ρs.map (Root.map φ)) nv (mapA φ a) = mapA φ (rfftnArr ρs nv a) := by
  simp only [C11.rfftnArr, mapA_tab, h.dftN, compA_mapA_fun h]
  rfl

theorem IsHom.ifftnArr (h : IsHom φ) (ρs : List (Root S)) (nv : Nat) (a : NDA (List S)) :
    ifftnArr (ρs.map (Root.map φ)) nv (mapA φ a) = mapA φ (ifftnArr ρs nv a) := by
  simp only [C11.ifftnArr, mapA_tab, h.idftN, compA_mapA h]
  rfl

theorem IsHom.irfftnArr (h : IsHom φ) (cS : S → S) (cR : R → R) (hc : ∀ x, φ (cS x) = cR (φ x))
    (ρs : List (Root S)) (nv : Nat) (s : List Nat) (a : NDA (List S)) :
    irfftnArr cR (ρs.map (Root.map φ)) nv s (mapA φ a) = mapA φ (irfftnArr cS ρs nv s a) := by
  simp only [C11.irfftnArr, mapA_tab, h.idftN, hermExt_map cS cR hc, compA_mapA h]
  rfl

theorem IsHom.symArr (h : IsHom φ) (cS : S → S) (cR : R → R) (hc : ∀ x, φ (cS x) = cR (φ x)) (hS : S)
    (nv : Nat) (s : List Nat) (a : NDA (List S)) :
    symArr cR (φ hS) nv s (mapA φ a) = mapA φ (symArr cS hS nv s a) := by
  simp only [C11.symArr, mapA_tab, symPlanes_map h cS cR hc, compA_mapA_fun h]
  rfl

theorem IsHom.irfftnArrNP (h : IsHom φ) (cS : S → S) (cR : R → R) (hc : ∀ x, φ (cS x) = cR (φ x)) (hS : S)
    (ρs : List (Root S)) (nv : Nat) (s : List Nat) (a : NDA (List S)) :
    irfftnArrNP cR (φ hS) (ρs.map (Root.map φ)) nv s (mapA φ a) = mapA φ (irfftnArrNP cS hS ρs nv s a) := by
  unfold C11.irfftnArrNP
  rw [h.symArr cS cR hc, h.irfftnArr cS cR hc]

omit [Zero S] [One S] [Add S] [Mul S] [Zero R] [One R] [Add R] [Mul R] in
/-- the constructor call commutes with `φ`.  Proved from the definition of `mkCF`: the characterisation
`mkCF_ok_iff` lives in `C11Field`, which needs Mathlib, and this file does without -/
theorem mkCF_map (mesh : Mesh) (nv : Nat) (data : NDA (List S)) (vd : Option (List String))
    (vm : Option (List (String × String))) (u : Option String) :
    mkCF mesh nv (mapA φ data) vd vm u = mapM φ (mkCF mesh nv data vd vm u) := by
  unfold mkCF
  by_cases h1 : nv < 1
  · rw [if_pos h1, if_pos h1]; rfl
  · rw [if_neg h1, if_neg h1]
    by_cases h2 : data.shape ≠ mesh.n
    · rw [if_pos h2, if_pos (show (mapA φ data).shape ≠ mesh.n from h2)]; rfl
    · rw [if_neg h2, if_neg (show ¬ (mapA φ data).shape ≠ mesh.n from h2)]
      cases vdimsSetter nv vd with
      | error e => rfl
      | ok v =>
        simp only
        cases vmapSetter nv mesh.region.dims v vm with
        | error e => rfl
        | ok mp => rfl

omit [Zero S] [One S] [Add S] [Mul S] [Zero R] [One R] [Add R] [Mul R] in
theorem finish_map (f : CF S) (mesh : Mesh) (data : NDA (List S)) (inverse : Bool) :
    finish (f.map φ) mesh (mapA φ data) inverse = mapM φ (finish f mesh data inverse) := by
  unfold finish
  show (match f.vdims with
    | none => mkCF mesh f.nvdim (mapA φ data) none none f.unit
    | some vs => _) = _
  cases f.vdims with
  | none => exact mkCF_map ..
  | some vs =>
    simp only
    cases inverse with
    | true => exact mkCF_map ..
    | false => exact mkCF_map ..

omit [Zero S] [One S] [Add S] [Mul S] [Zero R] [One R] [Add R] [Mul R] in
/-- every transform is `_fftn` applied to a mesh result and an array: if the arrays correspond,
so do the results -/
theorem finish_map_match (f : CF S) (r : M Mesh) (D : Mesh → NDA (List S)) (D' : Mesh → NDA (List R)) (inv : Bool)
    (hD : ∀ k, D' k = mapA φ (D k)) :
    (match r with
      | .error e => (.error e : M (CF R))
      | .ok k => finish (f.map φ) k (D' k) inv)
    = mapM φ (match r with
      | .error e => .error e
      | .ok k => finish f k (D k) inv) := by
  cases r with
  | error e => rfl
  | ok k => simp only; rw [hD, finish_map]

/-- **`Field.fftn` commutes with `φ`** -/
theorem IsHom.fftn (h : IsHom φ) (ρs : List (Root S)) (f : CF S) :
    fftn (ρs.map (Root.map φ)) (f.map φ) = mapM φ (fftn ρs f) :=
  finish_map_match f _ _ _ false fun _ => h.fftnArr ρs f.nvdim f.data

theorem IsHom.rfftn (h : IsHom φ) (ρs : List (Root S)) (f : CF S) :
    rfftn (ρs.map (Root.map φ)) (f.map φ) = mapM φ (rfftn ρs f) :=
  finish_map_match f _ _ _ false fun _ => h.rfftnArr ρs f.nvdim f.data

theorem IsHom.ifftn (h : IsHom φ) (ρs : List (Root S)) (f : CF S) :
    ifftn (ρs.map (Root.map φ)) (f.map φ) = mapM φ (ifftn ρs f) :=
  finish_map_match f _ _ _ true fun _ => h.ifftnArr ρs f.nvdim f.data

theorem IsHom.irfftn (h : IsHom φ) (cS : S → S) (cR : R → R) (hc : ∀ x, φ (cS x) = cR (φ x))
    (ρs : List (Root S)) (f : CF S) (shape : Option (List Nat)) :
    irfftn cR (ρs.map (Root.map φ)) (f.map φ) shape = mapM φ (irfftn cS ρs f shape) :=
  finish_map_match f _ _ _ true fun k => h.irfftnArr cS cR hc ρs f.nvdim k.n f.data

/-- **`Field.irfftn` (library convention) commutes with `φ`** -/
theorem IsHom.irfftnNP (h : IsHom φ) (cS : S → S) (cR : R → R) (hc : ∀ x, φ (cS x) = cR (φ x)) (hS : S)
    (ρs : List (Root S)) (f : CF S) (shape : Option (List Nat)) :
    irfftnNP cR (φ hS) (ρs.map (Root.map φ)) (f.map φ) shape = mapM φ (irfftnNP cS hS ρs f shape) :=
  finish_map_match f _ _ _ true fun k => h.irfftnArrNP cS cR hc hS ρs f.nvdim k.n f.data

end hom

end DFV.C11
