import DFV.Lemmas.C16Labels
import DFV.Lemmas.C16Reader

/-! Writing a field and reading it back.  `fromCells_written_iff` says exactly what `_from_vtk` makes of the grid
`to_vtk` builds after a value-wise rounding `rnd` of its floating numbers (`rnd = id`: the binary and XML forms),
for any distinct labels and any side-car; the round-trip and acceptance theorems of `Props/C16` are read off it.
Also: the side-car of a mesh whose subregions fit it, the legacy file of a well-formed field, and the field read
back as input of `to_vtk` again.  A `…c` in a name: stated for `WFc`. -/

namespace DFV.C16
open DFV DFV.Mesh

/-- `GetArray("field")` / `GetArray("valid")` of the grid, whatever the labels -/
theorem gridOf_arr_field (f : Fld) (nx ny nz : Nat) : (gridOf f nx ny nz).arr "field" = some (fieldVArr f) :=
  (find_eq_lastNamed _ _ (cellData_nodup f)).trans (cellData_field f)

theorem gridOf_arr_valid (f : Fld) (nx ny nz : Nat) : (gridOf f nx ny nz).arr "valid" = some (validVArr f) :=
  (find_eq_lastNamed _ _ (cellData_nodup f)).trans (cellData_valid f)

theorem arr_field (f : Fld) (nx ny nz : Nat) (h : WF f nx ny nz) (g : Grid) (hg : toVtk f = .ok g) :
    g.arr "field" = some (fieldVArr f) := by
  obtain rfl := toVtk_gridc f nx ny nz (wf_wfc f nx ny nz h) g hg
  exact gridOf_arr_field f nx ny nz

theorem arr_valid (f : Fld) (nx ny nz : Nat) (h : WF f nx ny nz) (g : Grid) (hg : toVtk f = .ok g) :
    g.arr "valid" = some (validVArr f) := by
  obtain rfl := toVtk_gridc f nx ny nz (wf_wfc f nx ny nz h) g hg
  exact gridOf_arr_valid f nx ny nz

/-- the scalar array called after label `l` holds component `vdims.index(l)` -/
theorem arr_comp (f : Fld) (nx ny nz : Nat) (h : WF f nx ny nz) (g : Grid) (hg : toVtk f = .ok g)
    (hnv : 1 < f.nvdim) (vs : List String) (hvs : f.vdims = some vs) (l : String) (hl : l ∈ vs) :
    g.arr l = some (compVArr f vs l) := by
  obtain ⟨vs', hvs', _, hok⟩ := h.labels hnv
  rw [hvs] at hvs'; cases hvs'
  obtain rfl := toVtk_gridc f nx ny nz (wf_wfc f nx ny nz h) g hg
  exact cellData_label f hnv vs hvs l hl (hok.ne_fixed hl).2.1 (hok.ne_fixed hl).2.2

theorem grid_geom (f : Fld) (nx ny nz : Nat) (h : WFc f nx ny nz) (rnd : Rat → Rat) :
    (mapGrid rnd (gridOf f nx ny nz)).n = [nx, ny, nz] ∧
    (mapGrid rnd (gridOf f nx ny nz)).p1 = (tab 3 fun a => rnd (f.mesh.region.lo a)) ∧
    (mapGrid rnd (gridOf f nx ny nz)).p2 = (tab 3 fun a => rnd (f.mesh.region.hi a)) := by
  obtain ⟨hnd, _, _, hax, _⟩ := mesh_axes f.mesh nx ny nz h.mesh h.n
  have hax' : ∀ a, a < 3 → (mapGrid rnd (gridOf f nx ny nz)).ax a = (f.mesh.vertices.getD a []).map rnd := by
    intro a ha
    simp only [Grid.ax, mapGrid, gridOf]
    rw [getD_map_lt _ _ _ _ [] (by simp; exact ha), getD_tab _ _ _ _ ha]
  refine ⟨rfl, tab_congr _ _ _ fun a ha => ?_, tab_congr _ _ _ fun a ha => ?_⟩
  · have hlen := C01.vertices_length f.mesh a (by omega : a < f.mesh.ndim)
    rw [hax' a ha, getD_map_lt _ _ _ _ 0 (by omega), (C01.vertices_ends f.mesh a (by omega) (hax a ha).1).1]
  · have hlen := C01.vertices_length f.mesh a (by omega : a < f.mesh.ndim)
    rw [hax' a ha, List.length_map, getD_map_lt _ _ _ _ 0 (by omega), (C01.vertices_ends f.mesh a (by omega) (hax a ha).1).2]

theorem fromCells_text_parts (f : Fld) (nx ny nz : Nat) (h : WFc f nx ny nz) (rnd : Rat → Rat)
    (sc : Option (List (String × Region))) :
    fromCells (mapGrid rnd (gridOf f nx ny nz)) sc =
      fromParts [nx, ny, nz] (tab 3 fun a => rnd (f.mesh.region.lo a)) (tab 3 fun a => rnd (f.mesh.region.hi a))
        (some (roundArr rnd (fieldVArr f))) (some (roundArr rnd (validVArr f))) (labelNames (cellData f)) sc := by
  obtain ⟨g1, g2, g3⟩ := grid_geom f nx ny nz h rnd
  rw [fromCells_eq, g1, g2, g3, mapGrid_cell, lastNamed_map_roundArr, lastNamed_map_roundArr, labelNames_map_roundArr]
  show fromParts _ _ _ ((lastNamed "field" (cellData f)).map _) ((lastNamed "valid" (cellData f)).map _) _ _ = _
  rw [cellData_field, cellData_valid]
  rfl

/-- the labels a field comes back with: none for one component (its label is not written), the labels themselves
when none of them is a fixed array name, the default labels otherwise -/
def readLabels (f : Fld) : Option (List String) :=
  if f.nvdim = 1 then none
  else if ∀ l ∈ f.vdims.getD [], isLabelName l = true then f.vdims else Fld.defaultVdims f.nvdim

theorem vdims_readc (f : Fld) (nx ny nz : Nat) (h : WFc f nx ny nz) :
    vdimsSet f.nvdim
      (if (labelNames (cellData f)).length ≠ f.nvdim then none else some (labelNames (cellData f))) =
      .ok (readLabels f) := by
  unfold readLabels
  rw [cellData_labels f nx ny nz h]
  by_cases hnv : 1 < f.nvdim
  · obtain ⟨vs, hvs, hlen, hd⟩ := h.labels hnv
    have hne1 : ¬ f.nvdim = 1 := by omega
    rw [if_pos hnv, if_neg hne1, hvs]
    simp only [Option.getD_some]
    by_cases hall : ∀ l ∈ vs, isLabelName l = true
    · have e : vs.filter isLabelName = vs := List.filter_eq_self.mpr hall
      rw [e, if_neg (not_not.mpr hlen), if_pos hall]
      cases vs with
      | nil => simp at hlen; omega
      | cons x l =>
        simp only [vdimsSet]
        rw [if_neg (not_not.mpr hlen), hd]
        simp
    · rw [if_neg hall]
      have hlt : (vs.filter isLabelName).length ≠ f.nvdim := by
        intro e
        apply hall
        have : (vs.filter isLabelName).length = vs.length := by rw [e, hlen]
        exact List.length_filter_eq_length_iff.mp this
      rw [if_pos hlt]
      rfl
  · have h1 : f.nvdim = 1 := by have := h.nv; omega
    rw [if_neg hnv, if_pos h1, h1]
    simp [vdimsSet, Fld.defaultVdims]

/-- **the reader on the written grid, exactly** (any distinct labels, ANY value-wise rounding `rnd`, any side-car):
it returns `f'` iff no edge collapses under the rounding and the side-car loads on the mesh with the rounded
(and re-ordered) corners, and `f'` is then assembled from the rounded `field` array, the `valid` array and the
labels by the rule `readLabels`.  The round-trip and acceptance theorems for the three file forms are read off this. -/
theorem fromCells_written_iff (f : Fld) (nx ny nz : Nat) (h : WFc f nx ny nz) (rnd : Rat → Rat)
    (sc : Option (List (String × Region))) (f' : Fld) :
    fromCells (mapGrid rnd (gridOf f nx ny nz)) sc = .ok f' ↔
      (∀ a, a < 3 → rnd (f.mesh.region.lo a) ≠ rnd (f.mesh.region.hi a)) ∧
      ∃ m, loadSubs (boundsMesh (tab 3 fun a => rnd (f.mesh.region.lo a)) (tab 3 fun a => rnd (f.mesh.region.hi a)) [nx, ny, nz])
          sc = .ok m ∧
        f' = readFld [nx, ny, nz] (roundArr rnd (fieldVArr f)) (some (roundArr rnd (validVArr f))) m (readLabels f) := by
  obtain ⟨hx, hy, hz⟩ := counts_pos f.mesh nx ny nz h.mesh h.n
  have hvd : vdimsSet (roundArr rnd (fieldVArr f)).ncomp
      (if (labelNames (cellData f)).length ≠ (roundArr rnd (fieldVArr f)).ncomp then none else some (labelNames (cellData f))) =
      .ok (readLabels f) := by rw [roundArr_ncomp]; exact vdims_readc f nx ny nz h
  have hmesh := fun m => meshOf_ok_iff (tab 3 fun a => rnd (f.mesh.region.lo a)) (tab 3 fun a => rnd (f.mesh.region.hi a))
    [nx, ny, nz] m (tab_length _ _) (tab_length _ _)
  have hne_iff : (∀ a, a < 3 → (tab 3 fun a => rnd (f.mesh.region.lo a)).getD a 0 ≠ (tab 3 fun a => rnd (f.mesh.region.hi a)).getD a 0) ↔
      ∀ a, a < 3 → rnd (f.mesh.region.lo a) ≠ rnd (f.mesh.region.hi a) :=
    forall₂_congr fun a ha => by rw [getD_tab _ _ _ _ ha, getD_tab _ _ _ _ ha]
  rw [fromCells_text_parts f nx ny nz h rnd sc, fromParts_eq_ok]
  constructor
  · rintro ⟨_, m0, m, vd, ha, _, _, hm0, hm, _, hvd', rfl⟩
    cases ha
    obtain ⟨hcond, rfl⟩ := (hmesh m0).mp hm0
    rw [hvd] at hvd'
    cases hvd'
    exact ⟨hne_iff.mp hcond.1, m, hm, rfl⟩
  · rintro ⟨hne, m, hm, rfl⟩
    exact ⟨_, _, m, _, rfl, by rw [roundArr_length, roundArr_ncomp]; exact fieldVArr_length f nx ny nz h.dshape,
      fun v hv => by rw [← Option.some.inj hv, roundArr_length]; exact validVArr_length f nx ny nz h.vshape,
      (hmesh _).mpr ⟨⟨hne_iff.mpr hne, rfl, counts_ne_zero nx ny nz hx hy hz⟩, rfl⟩, hm,
      by rw [roundArr_ncomp]; exact h.nv, hvd, rfl⟩

/-- `fromCells_written_iff` for a rounding that keeps `lo < hi` on every axis, with the parts of the field read spelt
out: every value comes back rounded, every flag exactly, the labels by the rule `readLabels` -/
theorem fromCells_written (f : Fld) (nx ny nz : Nat) (h : WFc f nx ny nz) (rnd : Rat → Rat)
    (hlt : ∀ a, a < 3 → rnd (f.mesh.region.lo a) < rnd (f.mesh.region.hi a))
    (sc : Option (List (String × Region))) (m1 : Mesh)
    (hsub : loadSubs (rebuiltMesh (tab 3 fun a => rnd (f.mesh.region.lo a)) (tab 3 fun a => rnd (f.mesh.region.hi a)) [nx, ny, nz])
      sc = .ok m1) :
    ∃ f', fromCells (mapGrid rnd (gridOf f nx ny nz)) sc = .ok f' ∧ f'.mesh = m1 ∧ f'.nvdim = f.nvdim ∧
      f'.vdims = readLabels f ∧
      f'.unit = none ∧ f'.data.shape = [nx, ny, nz] ∧ f'.valid.shape = [nx, ny, nz] ∧
      ∀ idx, inRange [nx, ny, nz] idx = true →
        f'.data.get idx = (tab f.nvdim fun c => rnd ((f.data.get idx).getD c 0)) ∧
        f'.valid.get idx = f.valid.get idx := by
  have hfl := fieldVArr_length f nx ny nz h.dshape
  have hb := boundsMesh_ordered (tab 3 fun a => rnd (f.mesh.region.lo a)) (tab 3 fun a => rnd (f.mesh.region.hi a)) [nx, ny, nz]
    (tab_length _ _) (tab_length _ _) (fun a ha => by rw [getD_tab _ _ _ _ ha, getD_tab _ _ _ _ ha]; exact hlt a ha)
  refine ⟨_, (fromCells_written_iff f nx ny nz h rnd sc _).mpr ⟨fun a ha => (hlt a ha).ne, m1, hb ▸ hsub, rfl⟩,
    rfl, roundArr_ncomp _ _, rfl, rfl, rfl, rfl, fun idx hi => ?_⟩
  obtain ⟨i, j, k, rfl, _, _, _⟩ := inRange3_cases nx ny nz idx hi
  constructor
  · rw [readFld_data, roundArr_tuple rnd _ rfl _ (by rw [hfl]; exact Nat.mul_le_mul_right _ (flatF_lt _ _ hi)),
      field_tuple f nx ny nz h.dshape _ hi]
    simp [tab]
  · rw [readFld_valid, roundArr_int rnd _ rfl, flagOf_some, validVArr_getD f nx ny nz h.vshape _ hi]
    cases f.valid.get [i, j, k] <;> simp

/-- the exact forms (`rnd = id`) -/
theorem fromCells_toVtkc (f : Fld) (nx ny nz : Nat) (h : WFc f nx ny nz)
    (sc : Option (List (String × Region))) (m1 : Mesh)
    (hsub : loadSubs (rebuiltMesh f.mesh.region.pmin f.mesh.region.pmax [nx, ny, nz]) sc = .ok m1) :
    ∃ f', fromCells (gridOf f nx ny nz) sc = .ok f' ∧ f'.mesh = m1 ∧ f'.nvdim = f.nvdim ∧
      f'.vdims = readLabels f ∧
      f'.unit = none ∧ f'.data.shape = [nx, ny, nz] ∧ f'.valid.shape = [nx, ny, nz] ∧
      ∀ idx, inRange [nx, ny, nz] idx = true →
        f'.data.get idx = (tab f.nvdim fun c => (f.data.get idx).getD c 0) ∧
        f'.valid.get idx = f.valid.get idx := by
  obtain ⟨_, _, _, hax, _⟩ := mesh_axes f.mesh nx ny nz h.mesh h.n
  obtain ⟨e1, e2⟩ := corners_fixed f.mesh nx ny nz h.mesh h.n id fun _ _ => ⟨rfl, rfl⟩
  have := fromCells_written f nx ny nz h id (fun a ha => (hax a ha).2) sc m1 (by rw [e1, e2]; exact hsub)
  rwa [mapGrid_id] at this

theorem labels_read_wf (f : Fld) (nx ny nz : Nat) (h : WF f nx ny nz) :
    readLabels f = (if f.nvdim = 1 then none else f.vdims) := by
  unfold readLabels
  by_cases h1 : f.nvdim = 1
  · rw [if_pos h1, if_pos h1]
  · obtain ⟨vs, hvs, _, hok⟩ := h.labels (by have := h.nv; omega)
    rw [if_neg h1, if_neg h1, if_pos]
    intro l hl
    rw [hvs] at hl
    obtain ⟨hn, hf, hv⟩ := hok.ne_fixed hl
    simp [isLabelName, hn, hf, hv]

/-! ## files -/

theorem toFile_wfc (f : Fld) (nx ny nz : Nat) (h : WFc f nx ny nz) (rep : String) (r : Rep) (hr : repOf rep = .ok r)
    (save : Bool) (rnd : Rat → Rat) :
    toFile f rep save rnd = .ok ⟨r, writtenGrid r (activeAttr f) rnd (gridOf f nx ny nz),
      if save && !f.mesh.subs.isEmpty then some f.mesh.subs else none⟩ :=
  (toFile_ok_iff ..).mpr ⟨r, _, hr, toVtk_okc f nx ny nz h, rfl⟩

theorem fromFile_written (f : Fld) (nx ny nz : Nat) (r : Rep) (rnd : Rat → Rat) (sc : Option (List (String × Region))) :
    fromFile ⟨r, writtenGrid r (activeAttr f) rnd (gridOf f nx ny nz), sc⟩ =
      fromCells (if r = .txt then mapGrid rnd (gridOf f nx ny nz) else gridOf f nx ny nz) sc := by
  show readVtk _ [] sc = _
  rw [readVtk_cells _ _ _ ((writtenGrid_isEmpty f r rnd _).trans (cellData_nonempty f)), fromCells_writtenGrid]

/-- a statement about every entry of the side-car `to_file` writes (asked for, and there are subregions) is the
statement about every subregion, when saving was asked for -/
theorem forall_car_iff {α : Type} (subs : List α) (save : Bool) (Q : α → Prop) :
    (∀ l, (if save && !subs.isEmpty then some subs else none) = some l → ∀ p ∈ l, Q p) ↔
      (save = true → ∀ p ∈ subs, Q p) := by
  cases save with
  | false => exact ⟨fun _ h => (nomatch h), fun _ l hl => (nomatch hl)⟩
  | true =>
    cases subs with
    | nil => exact ⟨fun _ _ p hp => (nomatch hp), fun _ l hl => (nomatch hl)⟩
    | cons x xs => exact ⟨fun h _ => h _ rfl, fun h l hl => Option.some.inj hl ▸ h rfl⟩

/-! ## the text form: when it is accepted -/

/-- **the text file is read back exactly when** no edge of the region collapses under the writer's
rounding and every subregion of the side-car passes the subregion setter's test on the mesh with
the ROUNDED corners -/
theorem text_read_ok_iff (f : Fld) (nx ny nz : Nat) (h : WFc f nx ny nz) (rnd : Rat → Rat)
    (sc : Option (List (String × Region))) (hinv : ∀ l, sc = some l → ∀ p ∈ l, p.2.Inv) :
    (∃ f', fromCells (mapGrid rnd (gridOf f nx ny nz)) sc = .ok f') ↔
      ((∀ a, a < 3 → rnd (f.mesh.region.lo a) ≠ rnd (f.mesh.region.hi a)) ∧
       ∀ l, sc = some l → ∀ p ∈ l,
         T.candOk (boundsMesh (tab 3 fun a => rnd (f.mesh.region.lo a)) (tab 3 fun a => rnd (f.mesh.region.hi a)) [nx, ny, nz])
           p.2 = true) := by
  simp only [fromCells_written_iff f nx ny nz h rnd sc, exists_comm (α := Fld), exists_and_left, exists_eq, and_true]
  refine and_congr_right fun _ => ?_
  cases sc with
  | none => exact ⟨fun _ _ hl => (nomatch hl), fun _ => ⟨_, rfl⟩⟩
  | some l =>
    simp only [loadSubs_some_ok_iff, exists_and_left, exists_eq, and_true, Option.some.injEq, forall_eq']
    exact ⟨fun hh p hp => (hh p hp).2, fun hh p hp => ⟨hinv l rfl p hp, hh p hp⟩⟩

/-- when the rounding keeps the two corners, the mesh rebuilt from the text grid is the mesh
rebuilt from the binary grid (`rebuiltMesh pmin pmax [nx, ny, nz]`, spelt out) -/
theorem boundsMesh_fixed (f : Fld) (nx ny nz : Nat) (h : WFc f nx ny nz) (rnd : Rat → Rat)
    (hfix : ∀ a, a < 3 → rnd (f.mesh.region.lo a) = f.mesh.region.lo a ∧ rnd (f.mesh.region.hi a) = f.mesh.region.hi a) :
    boundsMesh (tab 3 fun a => rnd (f.mesh.region.lo a)) (tab 3 fun a => rnd (f.mesh.region.hi a)) [nx, ny, nz] =
      { region := plainRegion f.mesh.region.pmin f.mesh.region.pmax, n := [nx, ny, nz], bc := "", subs := [] } := by
  obtain ⟨_, hl1, hl2, hax, _⟩ := mesh_axes f.mesh nx ny nz h.mesh h.n
  obtain ⟨e1, e2⟩ := corners_fixed f.mesh nx ny nz h.mesh h.n rnd hfix
  rw [e1, e2]
  exact boundsMesh_ordered _ _ _ hl1 hl2 fun a ha => (hax a ha).2

/-- a rounding with relative error `ε` keeps `lo < hi` when the edge exceeds `ε (|lo| + |hi|)`: the
hypothesis `hlt` of `fromCells_written` from an error bound -/
theorem rnd_keeps_order (rnd : Rat → Rat) (ε lo hi : Rat) (hε : ∀ x, |rnd x - x| ≤ ε * |x|)
    (hedge : ε * (|lo| + |hi|) < hi - lo) : rnd lo < rnd hi := by
  have hlo : rnd lo ≤ lo + ε * |lo| := by linarith [(abs_le.mp (hε lo)).2]
  have hhi : hi - ε * |hi| ≤ rnd hi := by linarith [(abs_le.mp (hε hi)).1]
  linarith [mul_add ε |lo| |hi|]

/-! ## the side-car of a mesh whose subregions fit it -/

theorem rebuiltMesh_inv (m : Mesh) (nx ny nz : Nat) (hinv : m.Inv) (hn : m.n = [nx, ny, nz]) :
    (rebuiltMesh m.region.pmin m.region.pmax [nx, ny, nz]).Inv := by
  obtain ⟨_, hl1, hl2, hax, _⟩ := mesh_axes m nx ny nz hinv hn
  obtain ⟨hx, hy, hz⟩ := counts_pos m nx ny nz hinv hn
  exact meshOf_inv _ _ _ _ (meshOf_plain _ _ _ hl1 hl2 rfl (fun a ha => (hax a ha).2) (counts_ne_zero nx ny nz hx hy hz))

theorem loadSubs_written (m : Mesh) (nx ny nz : Nat) (hinv : m.Inv) (hn : m.n = [nx, ny, nz]) (hsub : C14.SubInv m) (save : Bool) :
    loadSubs (rebuiltMesh m.region.pmin m.region.pmax [nx, ny, nz])
        (if save && !m.subs.isEmpty then some m.subs else none) =
      .ok { rebuiltMesh m.region.pmin m.region.pmax [nx, ny, nz] with
            subs := if save then m.subs.map
                (C14.restamp (plainRegion m.region.pmin m.region.pmax)) else [] } := by
  cases save with
  | false => rfl
  | true =>
    by_cases he : m.subs.isEmpty = true
    · have : m.subs = [] := List.isEmpty_iff.mp he
      simp only [this, List.isEmpty_nil, Bool.not_true, Bool.and_false, Bool.false_eq_true, if_false, if_true,
        List.map_nil]
      rfl
    · have he' : m.subs.isEmpty = false := by simpa using he
      simp only [he', Bool.not_false, Bool.and_true, if_true]
      exact (loadSubs_some_ok_iff ..).mpr ⟨fun p hp => ⟨C14.subOkE_regionInv m hinv p.2 (hsub p hp),
        C14.candOk_of_fits _ (rebuiltMesh_inv m nx ny nz hinv hn) p.2
          (C14.fitsE_of_corners m _ p.2 p.2 rfl rfl hn.symm rfl rfl (hsub p hp).2.2.2)⟩, rfl⟩

theorem mesh_eq_of (m : Mesh) (r : Region) (n : List Nat) (h1 : m.region = r) (h2 : m.n = n) (h3 : m.bc = "") :
    m = { region := r, n := n, bc := "", subs := m.subs } := by
  cases m
  simp_all

/-! ## the legacy file of a well-formed field -/

theorem filter_field_wf (f : Fld) (nx ny nz : Nat) (h : WF f nx ny nz) :
    ((normVArr f :: (comps f ++ [fieldVArr f, validVArr f])).filter fun a => a.name == "field") = [fieldVArr f] ∧
    ((normVArr f :: (comps f ++ [fieldVArr f, validVArr f])).filter fun a => !(a.name == "field")) =
      normVArr f :: (comps f ++ [validVArr f]) := by
  have hc1 : (comps f).filter (fun a => a.name == "field") = [] := by
    rw [List.filter_eq_nil_iff]
    intro a ha
    have := (comps_names f nx ny nz h a ha).2.1
    simpa using this
  have hc2 : (comps f).filter (fun a => !(a.name == "field")) = comps f := by
    rw [List.filter_eq_self]
    intro a ha
    have := (comps_names f nx ny nz h a ha).2.1
    simpa using this
  constructor
  · rw [List.filter_cons_of_neg (by simp [normVArr]), List.filter_append, hc1]
    simp [List.filter, fieldVArr, validVArr]
  · rw [List.filter_cons_of_pos (by simp [normVArr]), List.filter_append, hc2]
    simp [List.filter, fieldVArr, validVArr]

/-- the arrays in the order a VTK reader returns them for a legacy (`bin` / `txt`) file of a
well-formed field: `field` first when it is the active scalars / vectors array -/
theorem legacyOrder_wf (f : Fld) (nx ny nz : Nat) (h : WF f nx ny nz) :
    legacyOrder (activeAttr f) (normVArr f :: (comps f ++ [fieldVArr f, validVArr f])) =
      if f.nvdim = 3 ∨ f.nvdim = 1 then fieldVArr f :: normVArr f :: (comps f ++ [validVArr f])
      else normVArr f :: (comps f ++ [fieldVArr f, validVArr f]) := by
  rw [legacyOrder_active]
  obtain ⟨e1, e2⟩ := filter_field_wf f nx ny nz h
  split
  · rw [e1, e2]; rfl
  · rfl

/-- the `CELL_DATA` sections of that file -/
theorem legacySections_wf (f : Fld) (nx ny nz : Nat) (h : WF f nx ny nz) :
    legacySections (activeAttr f) (normVArr f :: (comps f ++ [fieldVArr f, validVArr f])) =
      if f.nvdim = 3 then [.vectors "field", .field ("norm" :: ((f.vdims.getD []) ++ ["valid"]))]
      else if f.nvdim = 1 then [.scalars "field", .field ["norm", "valid"]]
      else [.field ("norm" :: ((f.vdims.getD []) ++ ["field", "valid"]))] := by
  obtain ⟨e1, e2⟩ := filter_field_wf f nx ny nz h
  have hn := comps_names_list f
  rcases activeAttr_cases f with ⟨e, h3⟩ | ⟨e, h1⟩ | ⟨e, h3, h1⟩
  · rw [e, if_pos h3]
    have hnv : 1 < f.nvdim := by omega
    rw [if_pos hnv] at hn
    have e2' : (List.filter (fun a => !(some a.name == (none : Option String)) && !(some a.name == some "field"))
        (normVArr f :: (comps f ++ [fieldVArr f, validVArr f]))) = normVArr f :: (comps f ++ [validVArr f]) := by
      rw [← e2]; apply List.filter_congr; intro a _; simp
    simp only [legacySections, e1, e2', List.map_cons, List.map_nil, List.nil_append, List.map_append, hn]
    rfl
  · rw [e, if_neg (by omega), if_pos h1]
    have hnv : ¬ 1 < f.nvdim := by omega
    rw [if_neg hnv] at hn
    have hc : comps f = [] := by
      cases hcs : comps f with
      | nil => rfl
      | cons a l => rw [hcs] at hn; simp at hn
    simp only [legacySections, List.nil_append, hc]
    rfl
  · rw [e, if_neg h3, if_neg h1]
    have e2' : (List.filter (fun a => !(some a.name == (none : Option String)) && !(some a.name == (none : Option String)))
        (normVArr f :: (comps f ++ [fieldVArr f, validVArr f]))) = normVArr f :: (comps f ++ [fieldVArr f, validVArr f]) := by
      rw [List.filter_eq_self]; intro a _; simp
    simp only [legacySections, e2', List.map_cons, List.map_nil, List.nil_append, List.map_append, hn]
    have hnv : 1 < f.nvdim := by have := h.nv; omega
    rw [if_pos hnv]
    rfl

/-! ## the field read back -/

theorem read_loaded (f : Fld) (nx ny nz : Nat) (h : WFc f nx ny nz) (sc : Option (List (String × Region))) (f' : Fld)
    (hf' : fromCells (gridOf f nx ny nz) sc = .ok f') :
    loadSubs (rebuiltMesh f.mesh.region.pmin f.mesh.region.pmax [nx, ny, nz]) sc = .ok f'.mesh := by
  obtain ⟨_, hl1, hl2, hax, _⟩ := mesh_axes f.mesh nx ny nz h.mesh h.n
  rw [← mapGrid_id (gridOf f nx ny nz), fromCells_written_iff f nx ny nz h id sc] at hf'
  obtain ⟨_, m, hm, rfl⟩ := hf'
  obtain ⟨e1, e2⟩ := corners_fixed f.mesh nx ny nz h.mesh h.n id fun _ _ => ⟨rfl, rfl⟩
  rw [e1, e2, boundsMesh_ordered _ _ _ hl1 hl2 fun a ha => (hax a ha).2] at hm
  exact hm

/-- what `_from_vtk` returns for the grid of a well-formed field is well-formed -/
theorem roundtrip_wf (f : Fld) (nx ny nz : Nat) (h : WF f nx ny nz) (g : Grid) (hg : toVtk f = .ok g)
    (sc : Option (List (String × Region))) (f' : Fld) (hf' : fromCells g sc = .ok f') :
    WF f' nx ny nz ∧ f'.mesh.region.pmin = f.mesh.region.pmin ∧ f'.mesh.region.pmax = f.mesh.region.pmax ∧
    f'.nvdim = f.nvdim ∧ f'.vdims = (if f.nvdim = 1 then none else f.vdims) ∧
    ∀ idx, inRange [nx, ny, nz] idx = true →
      f'.data.get idx = (tab f.nvdim fun c => (f.data.get idx).getD c 0) ∧ f'.valid.get idx = f.valid.get idx := by
  have hc := wf_wfc f nx ny nz h
  obtain rfl := toVtk_gridc f nx ny nz hc g hg
  have hm1 := read_loaded f nx ny nz hc sc f' hf'
  obtain ⟨f'', h1, _, h3, h4, _, h6, h7, h8⟩ := fromCells_toVtkc f nx ny nz hc sc _ hm1
  rw [labels_read_wf f nx ny nz h] at h4
  obtain rfl := Except.ok.inj (hf'.symm.trans h1)
  obtain ⟨hr, hn, _⟩ := loadSubs_geom _ _ _ hm1
  refine ⟨⟨(rebuiltMesh_inv f.mesh nx ny nz h.mesh h.n).congr hr hn, hn, h6, h7, by rw [h3]; exact h.nv, ?_⟩,
    by rw [hr]; rfl, by rw [hr]; rfl, h3, h4, h8⟩
  intro hnv
  rw [h3] at hnv
  obtain ⟨vs, hvs, hl, hok⟩ := h.labels hnv
  refine ⟨vs, ?_, by rw [h3]; exact hl, hok⟩
  rw [h4, if_neg (by omega), hvs]

end DFV.C16
