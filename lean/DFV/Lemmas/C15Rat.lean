import Mathlib.Data.Rat.Lemmas
import Mathlib.Data.Nat.Sqrt
import DFV.Lemmas.C15
/-!
The executable rational square root `sqrtQ` (the driver's instantiation of the `sqrt`
parameter) is the exact non-negative root on every rational square, so the `SqrtAt`
hypothesis of the C15 theorems holds for every cell whose length is rational (all
scaled Pythagorean vectors of the exact-regime correspondence run).
-/
namespace DFV.C15

theorem sqrtQ_mul_self (q : Rat) : sqrtQ (q * q) = |q| := by
  unfold sqrtQ
  by_cases hq : q = 0
  · subst hq; simp
  · have hpos : 0 < q * q := mul_self_pos.mpr hq
    have h1 : ¬ (q * q ≤ 0) := not_le.mpr hpos
    have hn : (q * q).num.toNat = q.num.natAbs * q.num.natAbs := by
      rw [Rat.mul_self_num, ← Int.natAbs_mul_self, Int.toNat_natCast]
    have hd : (q * q).den = q.den * q.den := Rat.mul_self_den q
    simp only [h1, if_false, hn, hd, Nat.sqrt_eq, and_self, if_true]
    rw [Rat.abs_def, Rat.divInt_eq_div]
    congr 1

theorem sqrtQ_sqrtAt (q : Rat) : SqrtAt sqrtQ (q * q) := by
  refine ⟨?_, ?_⟩
  · rw [sqrtQ_mul_self]; exact abs_nonneg q
  · rw [sqrtQ_mul_self]; exact abs_mul_abs_self q

theorem sqrtQ_sqrtAt_of_isSquare {x : Rat} (h : ∃ q : Rat, x = q * q) : SqrtAt sqrtQ x := by
  obtain ⟨q, rfl⟩ := h
  exact sqrtQ_sqrtAt q

theorem sqrtQ_zero : SqrtAt sqrtQ 0 := by
  simpa using sqrtQ_sqrtAt 0

/-- the cell of the examples, `(3, 4)` with length 5 -/
theorem sqLen_three_four : sqLen ([3, 4] : List Rat) = 5 * 5 := by norm_num [sqLen]

theorem sqrtAt_three_four : SqrtAt sqrtQ (sqLen ([3, 4] : List Rat)) := by
  rw [sqLen_three_four]; exact sqrtQ_sqrtAt 5

end DFV.C15
