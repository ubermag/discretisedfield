import DFV.Lemmas.C17Import
/-! The geometry steps on evenly spaced coordinates.  `Spaced v v0 h n` says what the importer reads
off a coordinate: `n` values from `v0` with step `h` — an exact progression, or any values that pass
the spacing test, with their own mean step.  A DataArray whose geometric coordinates are `Spaced`
with positive steps, with any subset of `cell` / `pmin` / `pmax` present and saying what the coordinates say,
yields the mesh that reaches half a step beyond the outermost coordinates with one cell per
coordinate (`geometry_from_coords`).  From it: hand-built imports with their values and labels
(`import_of_geometry`, `import_from_coords`) and the attribute-free class exactly
(`bare_geometry_iff`). -/
namespace DFV.C17
open DFV

/-- coordinate values the importer reads as `n` values from `v0` with step `h`: they pass the
spacing test, begin at `v0`, end at `v0 + (n-1)·h`, and from two values on their mean step is `h` -/
structure Spaced (v : List Rat) (v0 h : Rat) (n : Nat) : Prop where
  even : EvenSpec v
  len : v.length = n
  first : v.getD 0 0 = v0
  last : v.getD (n - 1) 0 = v0 + ((n : Rat) - 1) * h
  mean : 2 ≤ n → meanDiff v = h

theorem Spaced.ap (v0 h : Rat) (n : Nat) (hn : 1 ≤ n) : Spaced (ap v0 h n) v0 h n :=
  ⟨(evenB_iff_spec _).mp (evenB_ap v0 h n), ap_length _ _ _, ap_first _ _ _ hn,
    by have := ap_last v0 h n hn; rwa [ap_length] at this, meanDiff_ap v0 h n⟩

theorem Spaced.of_even (v : List Rat) (h : EvenSpec v) (hn : 2 ≤ v.length) :
    Spaced v (v.getD 0 0) (meanDiff v) v.length :=
  ⟨h, rfl, rfl, by rw [← span_eq v hn, add_sub_cancel], fun _ => rfl⟩

section
variable {α : Type}

/-- **Geometry from evenly spaced coordinates, any DataArray, any subset of the geometric
attributes.**  The geometric axes carry `n` values from `v0` with step `h` (`Spaced`: exactly, or
within the tolerance of the test; `h > 0`, at least one value; two if `cell` is absent) under
distinct names, and each present attribute says what the coordinates say: the geometry steps
succeed, the mesh spans exactly half a step beyond the outermost coordinates with one cell per
coordinate. -/
theorem geometry_from_coords (xa : XA α) (d : Nat) (G : Nat → Axis) (hgeo : geo xa = tab d G) (hd : 0 < d)
    (v0 h : Nat → Rat) (n : Nat → Nat)
    (hval : ∀ a, a < d → Spaced (G a).values (v0 a) (h a) (n a))
    (hh : ∀ a, a < d → 0 < h a) (hn : ∀ a, a < d → 1 ≤ n a)
    (hnames : hasDup (tab d fun a => (G a).name) = false)
    (hatc : xa.attrs.cell = none ∨ xa.attrs.cell = some (tab d h))
    (hatp : xa.attrs.pmin = none ∨ xa.attrs.pmin = some (tab d fun a => v0 a - h a / 2))
    (hatq : xa.attrs.pmax = none ∨ xa.attrs.pmax = some (tab d fun a => v0 a + ((n a : Rat) - 1) * h a + h a / 2))
    (hinf : xa.attrs.cell = none → (∀ a, a < d → 2 ≤ n a) ∧ ∀ x ∈ xa.data.shape.dropLast, x ≠ 1) :
    geometryOf xa = .ok
      { region := { pmin := tab d fun a => v0 a - h a / 2,
                    pmax := tab d fun a => v0 a + ((n a : Rat) - 1) * h a + h a / 2,
                    dims := tab d fun a => (G a).name, units := unitsUsed xa,
                    tol := xa.attrs.tol.getD defaultTol },
        n := tab d n, bc := "", subs := [] } := by
  -- (1) `cellUsed`, `p1Used`, `p2Used` are the tabulated step and corners (`hc`, `hp1`, `hp2`);
  -- (2) `Region.mk?` accepts them (`T.mk?_ok_of_lt`); (3) `Mesh(region, cell)` returns `n`, because
  -- edge / n = h (`hcl`, `mkCellNow_ok`); (4) `geometryOf_eq_ok_iff` puts the steps together
  have hlen : (geo xa).length = d := by rw [hgeo, tab_length]
  have hne : ∀ q ∈ List.zip (geo xa) (cellUsed xa), q.1.values ≠ [] := by
    intro q hq he
    rw [hgeo] at hq
    obtain ⟨a, ha, hqa⟩ := (mem_tab _ _ _).mp (List.of_mem_zip hq).1
    have := (hval a ha).len
    rw [hqa, he, List.length_nil] at this
    have := hn a ha
    omega
  have hc : cellUsed xa = tab d h := by
    unfold cellUsed
    rcases hatc with hcell | hcell
    · rw [hcell, hgeo, tab_map]
      exact tab_congr _ _ _ fun a ha => (hval a ha).mean ((hinf hcell).1 a ha)
    · rw [hcell]
  have hp1 : p1Used xa = tab d fun a => v0 a - h a / 2 := by
    unfold p1Used
    rcases hatp with hp | hp
    · rw [hp, hc, hgeo, zipWith_tab]
      exact tab_congr _ _ _ fun a ha => by rw [(hval a ha).first]
    · rw [hp]
  have hp2 : p2Used xa = tab d fun a => v0 a + ((n a : Rat) - 1) * h a + h a / 2 := by
    unfold p2Used
    rcases hatq with hp | hp
    · rw [hp, hc, hgeo, zipWith_tab]
      exact tab_congr _ _ _ fun a ha => by rw [(hval a ha).len, (hval a ha).last]
    · rw [hp]
  have hlt : ∀ a, a < d → v0 a - h a / 2 < v0 a + ((n a : Rat) - 1) * h a + h a / 2 := by
    intro a ha
    have h2 : (1 : Rat) ≤ (n a : Rat) := by exact_mod_cast hn a ha
    exact lt_of_lt_of_le (sub_lt_self _ (half_pos (hh a ha)))
      (le_trans (le_add_of_nonneg_right (mul_nonneg (sub_nonneg.mpr h2) (hh a ha).le))
        (le_add_of_nonneg_right (half_pos (hh a ha)).le))
  -- the region `Region(p1, p2, dims, units)` returns, kept opaque so that rewriting does not unfold the record
  obtain ⟨r, hr⟩ : ∃ r : Region, r = ⟨tab d fun a => v0 a - h a / 2,
      tab d fun a => v0 a + ((n a : Rat) - 1) * h a + h a / 2, tab d fun a => (G a).name, unitsUsed xa, defaultTol⟩ :=
    ⟨_, rfl⟩
  have hreg : Region.mk? (p1Used xa) (p2Used xa) (some ((geo xa).map Axis.name)) (unitsOf xa) defaultTol = .ok r := by
    rw [hp1, hp2, hgeo, tab_map, hr]
    refine T.mk?_ok_of_lt _ _ _ _ _ _ _ (by rw [tab_length, tab_length]) (by rw [tab_length]; exact hd.ne')
      (T.dimsOk_some _ _ (by rw [tab_length, tab_length]) hnames) (by rw [tab_length]; exact unitsOk_unitsOf xa d hlen)
      fun a ha => ?_
    rw [tab_length] at ha
    rw [getD_tab _ _ _ _ ha, getD_tab _ _ _ _ ha]
    exact hlt a ha
  have hnd : r.ndim = d := by rw [hr]; exact tab_length _ _
  have hlo : ∀ a, a < d → r.lo a = v0 a - h a / 2 := fun a ha => by rw [hr]; exact getD_tab _ _ _ _ ha
  have hhi : ∀ a, a < d → r.hi a = v0 a + ((n a : Rat) - 1) * h a + h a / 2 :=
    fun a ha => by rw [hr]; exact getD_tab _ _ _ _ ha
  have hk := mkCellNow_ok r (tab d n) (by rw [tab_length, hnd])
    (fun a ha => by rw [hnd] at ha; rw [hlo a ha, hhi a ha]; exact hlt a ha)
    (fun a ha => by rw [hnd] at ha; rw [getD_tab _ _ _ _ ha]; exact hn a ha)
  have hcl : (tab r.ndim fun a => r.edge a / ((tab d n).getD a 0 : Rat)) = cellUsed xa := by
    rw [hnd, hc]
    refine tab_congr _ _ _ fun a ha => ?_
    have : (n a : Rat) ≠ 0 := by exact_mod_cast (Nat.pos_iff_ne_zero.mp (hn a ha))
    rw [getD_tab _ _ _ _ ha, Region.edge, hlo a ha, hhi a ha,
      show v0 a + ((n a : Rat) - 1) * h a + h a / 2 - (v0 a - h a / 2) = (n a : Rat) * h a by ring,
      mul_div_cancel_left₀ _ this]
  rw [hcl, mkCellNow_eq] at hk
  rw [geometryOf_eq_ok_iff]
  refine ⟨fun ax hax => ?_, fun hcell => ⟨(hinf hcell).2, fun ax hax => ?_⟩, fun _ => hne, fun _ => hne,
    r, _, hreg, hk, ?_⟩
  · rw [hgeo] at hax
    obtain ⟨a, ha, rfl⟩ := (mem_tab _ _ _).mp hax
    exact (hval a ha).even
  · rw [hgeo] at hax
    obtain ⟨a, ha, rfl⟩ := (mem_tab _ _ _).mp hax
    rw [(hval a ha).len]
    exact (hinf hcell).1 a ha
  · rw [setTol_eq, hr]

theorem shape_no_one (N : List Nat) (k : Nat) (shape : List Nat)
    (hshape : shape = N ++ (if 1 < k then [k] else [])) (hN : ∀ x ∈ N, 2 ≤ x) : ∀ x ∈ shape.dropLast, x ≠ 1 := by
  intro x hx
  rw [hshape] at hx
  have hx' : x ∈ N := by
    split at hx
    · rwa [List.dropLast_concat] at hx
    · rw [List.append_nil] at hx; exact (List.dropLast_sublist _).subset hx
  have := hN x hx'; omega

/-- **Import, given the geometry**: for any mesh the geometry steps return, data of shape `(*n)` / `(*n, k)` and
labels absent or `k` acceptable strings: every value at its own cell and component; no unit, all cells valid,
default component mapping.  Hand-built DataArrays (`import_from_coords`) and exports (`C17Export.fromXA_likeExport`)
are instances. -/
theorem import_of_geometry [FieldAttrs] (xa : XA α) (N : List Nat) (m : Mesh) (hm : geometryOf xa = .ok m)
    (hmn : m.n = N)
    (k : Nat) (hk : 1 ≤ k) (hnv : xa.attrs.nvdim = some (.int k)) (hvd : 1 < k → "vdims" ∈ xa.dims)
    (hshape : xa.data.shape = N ++ (if 1 < k then [k] else []))
    (hlab : ∀ l, xa.vdimsCoord = some l → l.length = k ∧ hasDup l = false ∧ l.any FieldAttrs.has = false) :
    ∃ g, fromXA xa = .ok g ∧ g.mesh = m ∧ g.nvdim = k ∧
      g.data.shape = N ++ [k] ∧
      (∀ i, inRange (N ++ [k]) i = true → g.data.get i = xa.data.get (if 1 < k then i else i.dropLast)) ∧
      g.dtype = xa.dtype ∧
      g.vdims = (match xa.vdimsCoord with | some l => some l | none => Fld.defaultVdims k) ∧
      g.unit = none ∧ g.valid = NDA.const m.n true ∧ g.vmap = defaultVmap k m.region.dims g.vdims := by
  subst hmn
  have hvs := valOf_shape xa m.n k hk hshape
  obtain ⟨dd, hag, hf⟩ := fieldOf_ok xa m k hvs _ (vdimsSet_of_labels k hk _ hlab)
  refine ⟨_, (fromXA_eq_ok_iff xa _).mpr ⟨k, m, (checkNvdim_eq_ok_iff _ _ _).mpr ⟨hk, hnv, hvd⟩, hm, hf⟩, rfl, rfl,
    hag.1.trans hvs, fun i hi => ?_, rfl, rfl, rfl, rfl, rfl⟩
  show dd.get i = _
  rw [hag.2 i (by rw [hag.1, hvs]; exact hi), valOf_get xa k hk]

/-- **Import of a hand-built DataArray with any subset of the geometric attributes, values
included**: `geometry_from_coords` and `import_of_geometry` together -/
theorem import_from_coords [FieldAttrs] (xa : XA α) (d : Nat) (G : Nat → Axis) (hgeo : geo xa = tab d G) (hd : 0 < d)
    (v0 h : Nat → Rat) (n : Nat → Nat)
    (hval : ∀ a, a < d → (G a).values = ap (v0 a) (h a) (n a))
    (hh : ∀ a, a < d → 0 < h a) (hn : ∀ a, a < d → 1 ≤ n a)
    (hnames : hasDup (tab d fun a => (G a).name) = false)
    (hcell : xa.attrs.cell = none ∨ xa.attrs.cell = some (tab d h))
    (hpmin : xa.attrs.pmin = none ∨ xa.attrs.pmin = some (tab d fun a => v0 a - h a / 2))
    (hpmax : xa.attrs.pmax = none ∨ xa.attrs.pmax = some (tab d fun a => v0 a + ((n a : Rat) - 1) * h a + h a / 2))
    (hinfer : xa.attrs.cell = none → ∀ a, a < d → 2 ≤ n a)
    (k : Nat) (hk : 1 ≤ k) (hnv : xa.attrs.nvdim = some (.int k)) (hvd : 1 < k → "vdims" ∈ xa.dims)
    (hshape : xa.data.shape = tab d n ++ (if 1 < k then [k] else []))
    (hlab : ∀ l, xa.vdimsCoord = some l → l.length = k ∧ hasDup l = false ∧ l.any FieldAttrs.has = false) :
    ∃ g, fromXA xa = .ok g ∧
      g.mesh.region.pmin = (tab d fun a => v0 a - h a / 2) ∧
      g.mesh.region.pmax = (tab d fun a => v0 a + ((n a : Rat) - 1) * h a + h a / 2) ∧
      g.mesh.n = tab d n ∧ g.mesh.region.dims = (tab d fun a => (G a).name) ∧ g.nvdim = k ∧
      g.data.shape = tab d n ++ [k] ∧
      (∀ i, inRange (tab d n ++ [k]) i = true → g.data.get i = xa.data.get (if 1 < k then i else i.dropLast)) ∧
      g.dtype = xa.dtype ∧
      g.vdims = (match xa.vdimsCoord with | some l => some l | none => Fld.defaultVdims k) := by
  have hg := geometry_from_coords xa d G hgeo hd v0 h n
    (fun a ha => hval a ha ▸ Spaced.ap _ _ _ (hn a ha)) hh hn hnames
    hcell hpmin hpmax fun hc => ⟨hinfer hc, shape_no_one _ k _ hshape fun x hx => by
      obtain ⟨a, ha, rfl⟩ := (mem_tab _ _ _).mp hx; exact hinfer hc a ha⟩
  obtain ⟨g, hg1, hgm, hgk, hs, hv, ht, hl, -⟩ := import_of_geometry xa (tab d n) _ hg rfl k hk hnv hvd hshape hlab
  exact ⟨g, hg1, by rw [hgm], by rw [hgm], by rw [hgm], by rw [hgm], hgk, hs, hv, ht, hl⟩

/-! ## the attribute-free class -/

def Bare (xa : XA α) : Prop := xa.attrs.cell = none ∧ xa.attrs.pmin = none ∧ xa.attrs.pmax = none

/-- the mesh the importer builds from coordinates alone: half a mean step beyond the outermost
coordinates, one cell per coordinate value -/
def bareMesh (xa : XA α) : Mesh :=
  { region := { pmin := (geo xa).map (fun a => a.values.getD 0 0 - meanDiff a.values / 2),
                pmax := (geo xa).map (fun a => a.values.getD (a.values.length - 1) 0 + meanDiff a.values / 2),
                dims := (geo xa).map Axis.name, units := unitsUsed xa,
                tol := xa.attrs.tol.getD defaultTol },
    n := (geo xa).map (fun a => a.values.length), bc := "", subs := [] }

/-- what the importer needs to rebuild the mesh from the coordinates alone: a geometric dimension,
distinct names, no 1 in `xa.values.shape[:-1]`, and on every axis at least two values that pass
the spacing test and ascend -/
def BareOk (xa : XA α) : Prop :=
  geo xa ≠ [] ∧ hasDup ((geo xa).map Axis.name) = false ∧ (∀ x ∈ xa.data.shape.dropLast, x ≠ 1) ∧
    ∀ ax ∈ geo xa, 2 ≤ ax.values.length ∧ EvenSpec ax.values ∧
      ax.values.getD 0 0 < ax.values.getD (ax.values.length - 1) 0

theorem bare_geometry (xa : XA α) (hb : Bare xa) (h : BareOk xa) : geometryOf xa = .ok (bareMesh xa) := by
  obtain ⟨h0, hdup, hsh, hax⟩ := h
  -- every coordinate is `Spaced` with its own first value, mean step and length (`Spaced.of_even`)
  have hG : geo xa = tab (geo xa).length fun a => (geo xa).getD a default := (tab_getD_self _ _).symm
  have hmem : ∀ a, a < (geo xa).length → (geo xa).getD a default ∈ geo xa := fun a ha => getD_mem _ _ _ ha
  have hmap : ∀ {β} (f : Axis → β), (geo xa).map f = tab (geo xa).length fun a => f ((geo xa).getD a default) :=
    fun f => by rw [← tab_map, ← hG]
  rw [geometry_from_coords xa _ _ hG (List.length_pos_iff.mpr h0)
    (fun a => ((geo xa).getD a default).values.getD 0 0) (fun a => meanDiff ((geo xa).getD a default).values)
    (fun a => ((geo xa).getD a default).values.length)
    (fun a ha => Spaced.of_even _ (hax _ (hmem a ha)).2.1 (hax _ (hmem a ha)).1)
    (fun a ha => ?_) (fun a ha => le_trans (by norm_num) (hax _ (hmem a ha)).1) (by rw [← hmap]; exact hdup)
    (Or.inl hb.1) (Or.inl hb.2.1) (Or.inl hb.2.2) fun _ => ⟨fun a ha => (hax _ (hmem a ha)).1, hsh⟩]
  · -- the mesh stated there is `bareMesh`: `first + (N − 1)·mean = last` (`span_eq`)
    unfold bareMesh
    rw [hmap, hmap (fun a => a.values.getD (a.values.length - 1) 0 + meanDiff a.values / 2), hmap Axis.name,
      hmap (fun a => a.values.length)]
    congr 3
    refine tab_congr _ _ _ fun a ha => ?_
    rw [← span_eq _ (hax _ (hmem a ha)).1, add_sub_cancel]
  · -- the mean step is positive because the coordinate ascends: `(N − 1)·mean = last − first > 0`
    obtain ⟨h2, -, hlt⟩ := hax _ (hmem a ha)
    have hN : (1 : Rat) ≤ (((geo xa).getD a default).values.length : Rat) := by exact_mod_cast (by omega : 1 ≤ _)
    exact pos_of_mul_pos_right (by rw [← span_eq _ h2]; exact sub_pos.mpr hlt) (sub_nonneg.mpr hN)

/-- the attribute-free class exactly (spelled out at `attribute_free_import_iff` in Props/C17): the
conditions follow from `geometryOf_eq_ok_iff_inputs`, the mesh from `bare_geometry` -/
theorem bare_geometry_iff (xa : XA α) (hb : Bare xa) (m : Mesh) :
    geometryOf xa = .ok m ↔ BareOk xa ∧ m = bareMesh xa := by
  constructor
  · intro h
    obtain ⟨hs, hinf, -, -, ⟨-, a2, hlen, a4, -⟩, ⟨-, b2, -⟩, -⟩ := (geometryOf_eq_ok_iff_inputs xa m).mp h
    obtain ⟨hi1, hi2⟩ := hinf hb.1
    have hcond : BareOk xa := by
      refine ⟨fun h0 => a2 (by rw [← hlen, h0]; rfl), a4, hi1, fun ax hax => ⟨hi2 ax hax, hs ax hax, ?_⟩⟩
      have hpos : 0 < meanDiff ax.values := b2 _ (by unfold cellUsed; rw [hb.1]; exact List.mem_map.mpr ⟨ax, hax, rfl⟩)
      have hN : (2 : Rat) ≤ (ax.values.length : Rat) := by exact_mod_cast hi2 ax hax
      rw [← sub_pos, span_eq _ (hi2 ax hax)]
      exact mul_pos (by linarith) hpos
    have := bare_geometry xa hb hcond
    rw [h] at this
    injection this with this
    exact ⟨hcond, this⟩
  · rintro ⟨hcond, rfl⟩
    exact bare_geometry xa hb hcond

end
end DFV.C17
