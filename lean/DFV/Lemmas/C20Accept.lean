import DFV.Lemmas.C20Keep
/-!
Acceptance and refusal (C20).  First part: input conditions under which the individual steps of
the plot functions (filter, auxiliary field lookup, label lookups, colour, final lightness stage)
succeed.  Then the exact conditions, each step's success as an equivalence.
-/
namespace DFV.C20
open DFV

/-! ## input conditions -/

/-- a field that exists as a `Field` object: well-formed mesh, labels and mapping the constructor
accepted -/
def FieldWf (g : Fld) : Prop := g.mesh.Inv ∧ C07.metaOk g = true

/-- an auxiliary (filter / colour / lightness) field the plot functions accept: one component,
2-d mesh, and either the cell counts of the plotted field or a well-formed mesh and metadata
the `Field` constructor accepts (needed by `resample`); the last alternative is `FieldWf g`, so an
`AuxOk f g` is `⟨h1, h2, hwf⟩` with `hwf : g.mesh.n = f.mesh.n ∨ FieldWf g` -/
def AuxOk (f g : Fld) : Prop :=
  g.nvdim = 1 ∧ g.mesh.region.ndim = 2 ∧ (g.mesh.n = f.mesh.n ∨ (g.mesh.Inv ∧ C07.metaOk g = true))

/-- labels and mapping of a vector field the vector / lightness / default plots accept:
labelled components, every mapped label is a non-empty component label, and both plot axes
are mapped to -/
def MappingOk (f : Fld) : Prop :=
  ∃ vs, f.vdims = some vs ∧ (∀ p ∈ f.vmap, p.1 ∈ vs ∧ p.1 ≠ "") ∧
    (∃ p ∈ f.vmap, p.2 = f.mesh.region.dims.getD 0 "") ∧
    (∃ p ∈ f.vmap, p.2 = f.mesh.region.dims.getD 1 "")

theorem isEmpty_false_of_mem {α} {l : List α} {x : α} (h : x ∈ l) : l.isEmpty = false := by
  cases l with
  | nil => cases h
  | cons _ _ => rfl

theorem auxGeom_of_wf (f g : Fld) (hinv : f.mesh.Inv) (h : g.mesh.n = f.mesh.n ∨ FieldWf g) : AuxGeom f g := by
  rcases h with h | h
  · exact Or.inl h
  · exact Or.inr ⟨h.1, hinv⟩

/-! ## auxiliary fields -/

theorem auxOnMesh_ok (f g : Fld) (hf : f.mesh.Inv) (h2 : f.mesh.region.ndim = 2) (h : AuxOk f g) :
    ∃ a, auxOnMesh f g = .ok a := by
  obtain ⟨_, hg2, hcase⟩ := h
  unfold auxOnMesh
  by_cases hn : g.mesh.n = f.mesh.n
  · rw [if_pos hn]; exact ⟨_, rfl⟩
  · rw [if_neg hn]
    rcases hcase with hcase | ⟨hg, hmeta⟩
    · exact absurd hcase hn
    · obtain ⟨r, hr⟩ := C07.resample_ok g hg hmeta (f.mesh.n.map Int.ofNat)
        (by rw [List.length_map, hf.2.1, h2]; exact hg2.symm) (by
        intro k hk
        obtain ⟨z, hz, rfl⟩ := List.mem_map.mp hk
        obtain ⟨a, ha, hka⟩ := exists_getD_of_mem f.mesh.n z 0 hz
        rw [← hka]
        exact Int.natCast_pos.mpr (hf.2.2 a (by unfold Mesh.ndim; rw [← hf.2.1]; exact ha)))
      rw [hr]
      exact ⟨_, rfl⟩

theorem auxArr_map_ok {β} (f g : Fld) (K : NDA (List Rat) → β) (hf : f.mesh.Inv)
    (h2 : f.mesh.region.ndim = 2) (h : AuxOk f g) : ∃ y, (auxArr f g).map K = .ok y := by
  obtain ⟨a, ha⟩ := auxOnMesh_ok f g hf h2 h
  exact ⟨K a, (auxArr_map_ok_iff f g K _).mpr ⟨h.1, h.2.1, a, ha, rfl⟩⟩

theorem filterKeep_ok (f : Fld) (o : Opts) (hf : f.mesh.Inv) (h2 : f.mesh.region.ndim = 2)
    (h : ∀ g, o.filter = some g → AuxOk f g) : ∃ keep, filterKeep f (filterOf f o) = .ok keep := by
  rw [filterKeep_eq]
  -- the default filter lives on the cell counts of `f`
  exact auxArr_map_ok f _ _ hf h2 (filterOf_elim f o (AuxOk f) ⟨rfl, h2, Or.inl rfl⟩ h)

theorem lightSrc_ok (f : Fld) (aux : Option Fld) (dflt : NDA Rat) (hf : f.mesh.Inv)
    (h2 : f.mesh.region.ndim = 2) (h : ∀ g, aux = some g → AuxOk f g) :
    ∃ l, lightSrc f aux dflt = .ok l := by
  cases aux with
  | none => exact ⟨_, rfl⟩
  | some g =>
    rw [lightSrc_some_eq]
    exact auxArr_map_ok f g _ hf h2 (h g rfl)

/-! ## label lookups -/

theorem rDimLast_some (f : Fld) (d : String) (h : ∃ p ∈ f.vmap, p.2 = d) :
    ∃ l, rDimLast f d = some l ∧ (l, d) ∈ f.vmap := by
  obtain ⟨p, hp, hpd⟩ := h
  cases hr : rDimLast f d with
  | none => exact absurd hpd ((Fld.rDim_none_iff f d).mp hr p hp)
  | some l => exact ⟨l, rfl, rDimLast_mem f d l hr⟩

theorem mappingOk_lookup (f : Fld) (h : MappingOk f) (a : Nat) (ha : a = 0 ∨ a = 1) :
    ∃ l c, rDimLast f (f.mesh.region.dims.getD a "") = some l ∧ l ≠ "" ∧
      f.vdimIndex l = some c ∧ arrowIdx f (some l) = .ok (some c) := by
  obtain ⟨vs, hvs, hall, h0, h1⟩ := h
  have hex : ∃ p ∈ f.vmap, p.2 = f.mesh.region.dims.getD a "" := by
    rcases ha with rfl | rfl
    · exact h0
    · exact h1
  obtain ⟨l, hl, hmem⟩ := rDimLast_some f _ hex
  obtain ⟨hin, hne⟩ := hall _ hmem
  obtain ⟨c, hc, hidx⟩ := arrowIdx_ok f vs hvs l hin hne
  exact ⟨l, c, hl, hne, (Fld.vdimIndex_of_some hvs l).trans hc, hidx⟩

theorem leftover_eq (f : Fld) (vs : List String) (hvs : f.vdims = some vs) (vd : List (Option String)) :
    leftover f vd = vs.filter fun v => !vd.contains (some v) := by
  unfold leftover; rw [hvs]; rfl

theorem leftover_ne_nil (f : Fld) (vs : List String) (hvs : f.vdims = some vs) (hnd : hasDup vs = false)
    (vd : List (Option String)) (hlt : vd.length < vs.length) : leftover f vd ≠ [] := by
  rw [leftover_eq f vs hvs]
  intro hnil
  -- otherwise the labels, pairwise distinct, would all occur among the arrow labels
  have hnd' : (vs.map some).Nodup :=
    List.Pairwise.map some (fun _ _ hab e => hab (Option.some.inj e)) ((hasDup_false_iff_nodup vs).mp hnd)
  have := hnd'.length_le_of_subset (l₂ := vd) fun x hx => by
    obtain ⟨v, hv, rfl⟩ := List.mem_map.mp hx
    simpa using List.filter_eq_nil_iff.mp hnil v hv
  rw [List.length_map] at this
  omega

theorem thirdComp_ok_iff (f : Fld) (vd : List (Option String)) (pick : Nat) :
    (∃ c, thirdComp f vd pick = .ok c) ↔ leftover f vd ≠ [] := by
  constructor
  · rintro ⟨c, hc⟩ hnil
    unfold thirdComp at hc
    rw [hnil] at hc
    cases hc
  · intro hne
    have hlt : pick % (leftover f vd).length < (leftover f vd).length :=
      Nat.mod_lt _ (List.length_pos_iff.mpr hne)
    unfold thirdComp
    rw [List.getElem?_eq_getElem hlt]
    cases hvs : f.vdims with
    | none => exact absurd (by unfold leftover; rw [hvs]; rfl) hne
    | some vs =>
      have hsub : ∀ l, l ∈ leftover f vd → l ∈ vs := fun l hl => by
        rw [leftover_eq f vs hvs] at hl
        exact (List.mem_filter.mp hl).1
      have hin := hsub _ (List.getElem_mem hlt)
      obtain ⟨c, hc⟩ := exists_indexOf?_of_mem vs _ hin
      have : f.vdimIndex (leftover f vd)[pick % (leftover f vd).length] = some c :=
        (Fld.vdimIndex_of_some hvs _).trans hc
      simp only [this]
      exact ⟨c, rfl⟩

theorem thirdComp_ok (f : Fld) (vs : List String) (hvs : f.vdims = some vs) (hnd : hasDup vs = false)
    (vd : List (Option String)) (hlt : vd.length < vs.length) (pick : Nat) :
    ∃ c, thirdComp f vd pick = .ok c :=
  (thirdComp_ok_iff f vd pick).mpr (leftover_ne_nil f vs hvs hnd vd hlt)

/-! ## colour and arrows -/

/-- colour request the vector plot accepts -/
def ColourOk (f : Fld) (o : Opts) : Prop :=
  o.useColor = false ∨ (∃ g, o.aux = some g ∧ AuxOk f g) ∨
  (o.aux = none ∧ (f.nvdim ≠ 3 ∨ ∃ vs, f.vdims = some vs ∧ vs.length = 3 ∧ hasDup vs = false))

theorem colourOf_ok (f : Fld) (o : Opts) (vd : List (Option String)) (hf : f.mesh.Inv)
    (h2 : f.mesh.region.ndim = 2) (hvd : vd.length = 2) (h : ColourOk f o) :
    ∃ C, colourOf f o vd = .ok C := by
  by_cases huse : o.useColor = false
  · exact ⟨none, colourOf_off f o vd huse⟩
  · have huse' : o.useColor = true := by simpa using huse
    rcases h with h | ⟨g, hg, hok⟩ | ⟨hnone, h3⟩
    · exact absurd h huse
    · rw [colourOf_aux_eq f g o vd huse' hg]
      exact auxArr_map_ok f g _ hf h2 hok
    · by_cases hn3 : f.nvdim = 3
      · rcases h3 with h3 | ⟨vs, hvs, hl, hnd⟩
        · exact absurd hn3 h3
        · obtain ⟨c, hc⟩ := thirdComp_ok f vs hvs hnd vd (by omega) o.pick
          rw [colourOf_third f o vd huse' hnone hn3, hc]
          exact ⟨_, rfl⟩
      · exact ⟨none, colourOf_not_three f o vd huse' hnone hn3⟩

/-- arrow labels the vector plot accepts: the mapping (no `vdims=`), or two non-empty component
labels -/
def ArrowsOk (f : Fld) (o : Opts) : Prop :=
  match o.vdimsArg with
  | none => MappingOk f
  | some l => ∃ lx ly vs, l = [some lx, some ly] ∧ f.vdims = some vs ∧ lx ∈ vs ∧ ly ∈ vs ∧
      lx ≠ "" ∧ ly ≠ ""

theorem arrows_ok (f : Fld) (o : Opts) (h : ArrowsOk f o) :
    (o.vdimsArg.isNone && f.vmap.isEmpty) = false ∧
    ∃ vd cx cy, vectorVdims f o = .ok vd ∧ vd.length = 2 ∧ arrowIdx f (vd.getD 0 none) = .ok (some cx) ∧
      arrowIdx f (vd.getD 1 none) = .ok (some cy) := by
  unfold ArrowsOk at h
  cases hv : o.vdimsArg with
  | none =>
    rw [hv] at h
    obtain ⟨lx, cx, hlx, _, _, hax⟩ := mappingOk_lookup f h 0 (Or.inl rfl)
    obtain ⟨ly, cy, hly, _, _, hay⟩ := mappingOk_lookup f h 1 (Or.inr rfl)
    obtain ⟨_, _, _, ⟨p, hp, _⟩, _⟩ := h
    refine ⟨?_, inplaneVdims f, cx, cy, by unfold vectorVdims; rw [hv], rfl, ?_, ?_⟩
    · rw [isEmpty_false_of_mem hp]
      rfl
    · show arrowIdx f (rDimLast f _) = _
      rw [hlx]; exact hax
    · show arrowIdx f (rDimLast f _) = _
      rw [hly]; exact hay
  | some l =>
    rw [hv] at h
    obtain ⟨lx, ly, vs, rfl, hvs, hx, hy, hnx, hny⟩ := h
    obtain ⟨cx, _, hcx⟩ := arrowIdx_ok f vs hvs lx hx hnx
    obtain ⟨cy, _, hcy⟩ := arrowIdx_ok f vs hvs ly hy hny
    exact ⟨by simp, [some lx, some ly], cx, cy, by unfold vectorVdims; rw [hv]; rfl, rfl, hcx, hcy⟩

theorem mplVector_ok_of (f : Fld) (o : Opts) (h2 : f.mesh.region.ndim = 2)
    (hne : (o.vdimsArg.isNone && f.vmap.isEmpty) = false) (m : Rat) (pre : String)
    (hm : setupMultiplier f o.mult = .ok m) (hp : rsiPrefix? m = some pre)
    (vd : List (Option String)) (hvd : vectorVdims f o = .ok vd) (ax ay : Option Nat)
    (hax : arrowIdx f (vd.getD 0 none) = .ok ax) (hay : arrowIdx f (vd.getD 1 none) = .ok ay)
    (hnn : (ax.isNone && ay.isNone) = false) (C : Option (NDA Rat)) (hC : colourOf f o vd = .ok C) :
    ∃ calls, mplVector f o = .ok calls := by
  obtain ⟨keep, hk, _⟩ := filterKeep_valid f h2
  exact ⟨_, (mplVector_eq_ok_iff f o _).mpr ⟨h2, hne, m, hm, (vectorCore_eq_ok_iff f o m _).mpr
    ⟨keep, vd, ax, ay, C, _, hk, hvd, hax, hay, hnn, hC, (axisLabels_eq_ok_iff _ m _).mpr ⟨pre, hp, rfl⟩, rfl⟩⟩⟩

theorem mplDefault_ok_of (f : Fld) (o : Opts) (h2 : f.mesh.region.ndim = 2) (m : Rat) (pre : String)
    (hm : setupMultiplier f o.mult = .ok m) (hp : rsiPrefix? m = some pre)
    (hparts :
      (f.nvdim = 1 ∧ ∃ cs, mplScalar f { o with mult := some m, filter := some (filterOf f o) } = .ok cs) ∨
      (f.nvdim = 2 ∧ ∃ cv, mplVector f { o with mult := some m } = .ok cv) ∨
      (f.nvdim = 3 ∧ ∃ c cs cv, thirdComp f (inplaneVdims f) o.pick = .ok c ∧
        mplScalar (compField f c) { o with mult := some m, filter := some (filterOf f o) } = .ok cs ∧
        mplVector f { o with mult := some m } = .ok cv)) :
    ∃ calls, mplDefault f o = .ok calls := by
  obtain ⟨parts, hparts⟩ : ∃ parts, defaultParts f o m = .ok parts := by
    rcases hparts with ⟨h1, cs, hcs⟩ | ⟨hn2, cv, hcv⟩ | ⟨h3, c, cs, cv, hc, hcs, hcv⟩
    · exact ⟨_, (defaultParts_eq_ok_iff f o m _).mpr (.inl ⟨h1, hcs⟩)⟩
    · exact ⟨_, (defaultParts_eq_ok_iff f o m _).mpr (.inr (.inl ⟨hn2, hcv⟩))⟩
    · exact ⟨_, (defaultParts_eq_ok_iff f o m _).mpr (.inr (.inr ⟨h3, c, cs, cv, hc, hcs, hcv, rfl⟩))⟩
  exact ⟨_, (mplDefault_eq_ok_iff f o _).mpr
    ⟨h2, m, parts, _, hm, hparts, (axisLabels_eq_ok_iff _ m _).mpr ⟨pre, hp, rfl⟩, rfl⟩⟩

/-! ## exact conditions -/

/-- an arrow label `field.vdims.index` can resolve: none, or a non-empty component label -/
def ArrowLabel (f : Fld) (l : Option String) : Prop :=
  NoLabel l ∨ ∃ s vs, l = some s ∧ s ≠ "" ∧ f.vdims = some vs ∧ s ∈ vs

theorem arrowIdx_ok_iff (f : Fld) (l : Option String) : (∃ a, arrowIdx f l = .ok a) ↔ ArrowLabel f l := by
  constructor
  · rintro ⟨a, ha⟩
    rcases (arrowIdx_eq_ok_iff f l a).mp ha with ⟨h, _⟩ | ⟨s, vs, k, hl, hs, hvs, hi, _⟩
    · exact Or.inl h
    · refine Or.inr ⟨s, vs, hl, hs, hvs, ?_⟩
      by_contra hmem
      rw [(indexOf?_eq_none_iff vs s).mpr hmem] at hi
      cases hi
  · rintro (h | ⟨s, vs, rfl, hs, hvs, hmem⟩)
    · exact ⟨none, (arrowIdx_eq_ok_iff f l _).mpr (Or.inl ⟨h, rfl⟩)⟩
    · obtain ⟨c, _, hc⟩ := arrowIdx_ok f vs hvs s hmem hs
      exact ⟨_, hc⟩

theorem arrowIdx_isNone_iff (f : Fld) (l : Option String) (a : Option Nat) (h : arrowIdx f l = .ok a) :
    a.isNone = true ↔ NoLabel l := by
  rcases (arrowIdx_eq_ok_iff f l a).mp h with ⟨hno, rfl⟩ | ⟨s, vs, k, rfl, hs, _, _, rfl⟩
  · exact ⟨fun _ => hno, fun _ => rfl⟩
  · refine ⟨fun h => (nomatch h), ?_⟩
    rintro (h' | h')
    · cases h'
    · exact absurd (Option.some.inj h') hs

/-- the two arrow labels can be used: both resolvable, not both absent -/
def ArrowsExact (f : Fld) (vd : List (Option String)) : Prop :=
  ArrowLabel f (vd.getD 0 none) ∧ ArrowLabel f (vd.getD 1 none) ∧
  ¬ (NoLabel (vd.getD 0 none) ∧ NoLabel (vd.getD 1 none))

/-- the colour request can be served: no colour, a one-component colour field on a 2-d mesh, a
field that does not have three components, or a component label left over for the colour -/
def ColourExact (f : Fld) (o : Opts) (vd : List (Option String)) : Prop :=
  o.useColor = false ∨ (∃ g, o.aux = some g ∧ g.nvdim = 1 ∧ g.mesh.region.ndim = 2) ∨
  (o.aux = none ∧ (f.nvdim ≠ 3 ∨ leftover f vd ≠ []))

theorem auxArr_map_ex_iff {β} (f g : Fld) (K : NDA (List Rat) → β) (hf : f.mesh.Inv)
    (h2 : f.mesh.region.ndim = 2) (hwf : g.mesh.n = f.mesh.n ∨ FieldWf g) :
    (∃ y, (auxArr f g).map K = .ok y) ↔ g.nvdim = 1 ∧ g.mesh.region.ndim = 2 :=
  ⟨fun ⟨y, h⟩ => ⟨((auxArr_map_ok_iff f g K y).mp h).1, ((auxArr_map_ok_iff f g K y).mp h).2.1⟩,
   fun h => auxArr_map_ok f g K hf h2 (⟨h.1, h.2, hwf⟩)⟩

theorem colourOf_ok_iff (f : Fld) (o : Opts) (vd : List (Option String)) (hf : f.mesh.Inv)
    (h2 : f.mesh.region.ndim = 2) (hwf : ∀ g, o.aux = some g → g.mesh.n = f.mesh.n ∨ FieldWf g) :
    (∃ C, colourOf f o vd = .ok C) ↔ ColourExact f o vd := by
  by_cases huse : o.useColor = false
  · exact ⟨fun _ => Or.inl huse, fun _ => ⟨none, colourOf_off f o vd huse⟩⟩
  · have huse' : o.useColor = true := by simpa using huse
    cases haux : o.aux with
    | some g =>
      rw [colourOf_aux_eq f g o vd huse' haux, auxArr_map_ex_iff f g _ hf h2 (hwf g haux)]
      refine ⟨fun h => Or.inr (Or.inl ⟨g, haux, h⟩), ?_⟩
      rintro (h | ⟨g', hg', h⟩ | ⟨h, _⟩)
      · exact absurd h huse
      · exact Option.some.inj (haux.symm.trans hg') ▸ h
      · rw [haux] at h; cases h
    | none =>
      by_cases hn3 : f.nvdim = 3
      · constructor
        · rintro ⟨C, hC⟩
          refine Or.inr (Or.inr ⟨haux, Or.inr ?_⟩)
          apply (thirdComp_ok_iff f vd o.pick).mp
          cases ht : thirdComp f vd o.pick with
          | ok c => exact ⟨c, rfl⟩
          | error e =>
            rw [colourOf_third f o vd huse' haux hn3, ht] at hC
            cases hC
        · rintro (h | ⟨g', hg', _⟩ | ⟨_, h | h⟩)
          · exact absurd h huse
          · rw [haux] at hg'; cases hg'
          · exact absurd hn3 h
          · obtain ⟨c, hc⟩ := (thirdComp_ok_iff f vd o.pick).mpr h
            rw [colourOf_third f o vd huse' haux hn3, hc]
            exact ⟨_, rfl⟩
      · constructor
        · intro _
          exact Or.inr (Or.inr ⟨haux, Or.inl hn3⟩)
        · intro _
          exact ⟨none, colourOf_not_three f o vd huse' haux hn3⟩

theorem filterOf_scalar2d_iff (f : Fld) (o : Opts) (h2 : f.mesh.region.ndim = 2) :
    (filterOf f o).nvdim = 1 ∧ (filterOf f o).mesh.region.ndim = 2 ↔
      ∀ g, o.filter = some g → g.nvdim = 1 ∧ g.mesh.region.ndim = 2 :=
  ⟨fun h g hg => filterOf_some f g o hg ▸ h,
   fun h => filterOf_elim f o (fun g => g.nvdim = 1 ∧ g.mesh.region.ndim = 2) ⟨rfl, h2⟩ h⟩

theorem filterKeep_ok_iff (f : Fld) (o : Opts) (hf : f.mesh.Inv) (h2 : f.mesh.region.ndim = 2)
    (hwf : ∀ g, o.filter = some g → g.mesh.n = f.mesh.n ∨ FieldWf g) :
    (∃ keep, filterKeep f (filterOf f o) = .ok keep) ↔
      ∀ g, o.filter = some g → g.nvdim = 1 ∧ g.mesh.region.ndim = 2 := by
  rw [filterKeep_eq, auxArr_map_ex_iff f _ _ hf h2
    (filterOf_elim f o (fun g => g.mesh.n = f.mesh.n ∨ FieldWf g) (Or.inl rfl) hwf)]
  exact filterOf_scalar2d_iff f o h2

/-- conditions of the vector plot on its label / colour arguments -/
def VectorCond (f : Fld) (o : Opts) : Prop :=
  (o.vdimsArg = none → f.vmap ≠ []) ∧ (∀ l, o.vdimsArg = some l → l.length = 2) ∧
  ArrowsExact f (o.vdimsArg.getD (inplaneVdims f)) ∧ ColourExact f o (o.vdimsArg.getD (inplaneVdims f))

theorem vectorVdims_ok_iff (f : Fld) (o : Opts) (vd : List (Option String)) :
    vectorVdims f o = .ok vd ↔ (∀ l, o.vdimsArg = some l → l.length = 2) ∧ vd = o.vdimsArg.getD (inplaneVdims f) := by
  unfold vectorVdims
  cases o.vdimsArg with
  | none =>
    simp only [Option.getD_none]
    constructor
    · intro h; injection h with h; exact ⟨fun l hl => (nomatch hl), h.symm⟩
    · rintro ⟨_, rfl⟩; rfl
  | some l =>
    simp only [Option.getD_some]
    by_cases hl : l.length = 2
    · rw [if_neg (by simpa using hl)]
      constructor
      · intro h; injection h with h
        exact ⟨fun l' hl' => by injection hl' with hl'; rw [← hl']; exact hl, h.symm⟩
      · rintro ⟨_, rfl⟩; rfl
    · rw [if_pos (by simpa using hl)]
      constructor
      · intro h; cases h
      · rintro ⟨h, _⟩; exact absurd (h l rfl) hl

/-! ## lightness -/

theorem lightCore_ok_iff (f : Fld) (o : Opts) (hue : List Nat → Hue) (dflt : NDA Rat) (flt : Fld)
    (hf : f.mesh.Inv) (h2 : f.mesh.region.ndim = 2)
    (hwf : ∀ g, o.aux = some g → g.mesh.n = f.mesh.n ∨ FieldWf g) :
    (∃ calls, lightCore f o hue dflt flt = .ok calls) ↔
      MultOk f o.mult ∧ (∀ g, o.aux = some g → g.nvdim = 1 ∧ g.mesh.region.ndim = 2) ∧
      ∃ keep, filterKeep f flt = .ok keep := by
  constructor
  · rintro ⟨calls, h⟩
    obtain ⟨m, ext, l, keep, lab, hm, _, hl, hk, hlab, _⟩ := (lightCore_eq_ok_iff f o hue dflt flt calls).mp h
    refine ⟨multOk_of_labels f hf o.mult m lab hm hlab, fun g hg => ?_, keep, hk⟩
    rw [hg] at hl
    obtain ⟨g1, g2, _⟩ := lightSrc_some_inv f g dflt l hl
    exact ⟨g1, g2⟩
  · rintro ⟨hm, haux, keep, hk⟩
    obtain ⟨m, pre, hm, hp⟩ := setupMultiplier_ok f hf o.mult hm
    obtain ⟨l, hl⟩ := lightSrc_ok f o.aux dflt hf h2
      fun g hg => ⟨(haux g hg).1, (haux g hg).2, hwf g hg⟩
    exact ⟨_, (lightCore_eq_ok_iff f o hue dflt flt _).mpr ⟨m, _, l, keep, _, hm,
      extent_eq f.mesh.region hf.1 h2 m (rsiPrefix_pos m pre hp), hl, hk, (axisLabels_eq_ok_iff _ m _).mpr ⟨pre, hp, rfl⟩, rfl⟩⟩

/-- both plot axes have a (last) label in the mapping and both labels are component labels -/
def AngleOk (f : Fld) : Prop :=
  ∃ lx ly cx cy, rDimLast f (f.mesh.region.dims.getD 0 "") = some lx ∧
    rDimLast f (f.mesh.region.dims.getD 1 "") = some ly ∧
    f.vdimIndex lx = some cx ∧ f.vdimIndex ly = some cy

theorem angleComps_ok_iff (f : Fld) : (∃ xy, angleComps f = .ok xy) ↔ AngleOk f :=
  ⟨fun ⟨(cx, cy), h⟩ => let ⟨lx, ly, h⟩ := (angleComps_eq_ok_iff f cx cy).mp h; ⟨lx, ly, cx, cy, h⟩,
   fun ⟨lx, ly, cx, cy, h⟩ => ⟨(cx, cy), (angleComps_eq_ok_iff f cx cy).mpr ⟨lx, ly, h⟩⟩⟩

theorem angleOk_of_mappingOk (f : Fld) (h : MappingOk f) : AngleOk f := by
  obtain ⟨lx, cx, hlx, _, hix, _⟩ := mappingOk_lookup f h 0 (Or.inl rfl)
  obtain ⟨ly, cy, hly, _, hiy, _⟩ := mappingOk_lookup f h 1 (Or.inr rfl)
  exact ⟨lx, ly, cx, cy, hlx, hly, hix, hiy⟩

theorem angleOk_vmap_ne (f : Fld) (h : AngleOk f) : f.vmap.isEmpty = false := by
  obtain ⟨lx, _, _, _, a, _⟩ := h
  exact isEmpty_false_of_mem (rDimLast_mem f _ lx a)

theorem lightHue_ok_iff (f : Fld) : (∃ hue, lightHue f = .ok hue) ↔ (f.nvdim = 2 ∨ f.nvdim = 3 → AngleOk f) := by
  unfold lightHue
  by_cases hnv : f.nvdim = 2 ∨ f.nvdim = 3
  · rw [if_pos hnv, ← angleComps_ok_iff]
    cases angleComps f with
    | error e => exact ⟨fun ⟨_, h⟩ => (nomatch h), fun h => by obtain ⟨_, h⟩ := h hnv; cases h⟩
    | ok xy => exact ⟨fun _ _ => ⟨xy, rfl⟩, fun _ => ⟨_, rfl⟩⟩
  · rw [if_neg hnv]
    exact ⟨fun _ h => absurd h hnv, fun _ => ⟨_, rfl⟩⟩

theorem lightDefault_ok_iff (sqrtF : Rat → Rat) (f : Fld) (given : Bool) (pick : Nat) :
    (∃ d, lightDefault sqrtF f given pick = .ok d) ↔
      f.nvdim ≤ 3 ∧ (f.nvdim = 3 → given = false → f.vmap.isEmpty = false ∧ leftover f (inplaneVdims f) ≠ []) := by
  unfold lightDefault
  by_cases hn2 : f.nvdim = 2
  · rw [if_pos hn2]
    exact ⟨fun _ => ⟨by omega, fun h => by omega⟩, fun _ => ⟨_, rfl⟩⟩
  rw [if_neg hn2]
  by_cases hn3 : f.nvdim = 3
  · rw [if_pos hn3]
    cases given with
    | true => exact ⟨fun _ => ⟨by omega, fun _ h => (nomatch h)⟩, fun _ => ⟨_, rfl⟩⟩
    | false =>
      rw [if_neg (by simp)]
      by_cases hm : f.vmap.isEmpty = true
      · rw [if_pos hm]
        exact ⟨fun ⟨_, h⟩ => (nomatch h), fun h => by rw [(h.2 hn3 rfl).1] at hm; cases hm⟩
      rw [if_neg hm, ← thirdComp_ok_iff f _ pick]
      cases thirdComp f (inplaneVdims f) pick with
      | error e => exact ⟨fun ⟨_, h⟩ => (nomatch h), fun h => by obtain ⟨_, h⟩ := (h.2 hn3 rfl).2; cases h⟩
      | ok c => exact ⟨fun _ => ⟨by omega, fun _ _ => ⟨by simpa using hm, c, rfl⟩⟩, fun _ => ⟨_, rfl⟩⟩
  rw [if_neg hn3]
  by_cases hn4 : f.nvdim > 3
  · rw [if_pos hn4]
    exact ⟨fun ⟨_, h⟩ => (nomatch h), fun h => by omega⟩
  rw [if_neg hn4]
  exact ⟨fun _ => ⟨by omega, fun h => by omega⟩, fun _ => ⟨_, rfl⟩⟩

end DFV.C20
