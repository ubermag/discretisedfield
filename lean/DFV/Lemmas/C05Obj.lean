import DFV.Lemmas.C05RotK
import DFV.Lemmas.C13StepM
/-! The shared object-level model of `Field.rotate90(ax1, ax2, k, reference_point, inplace)` (`T.rotate90F` of `Model/Transform.lean`: any
reference point, either form, meshes with subregions, turned and re-validated by the constructor) against C05's centre / copy-form /
no-subregion model `rot90FldK`: the two results cannot be told apart by the differential operators (`Sim`), because the edge lengths of a
turned region do not depend on the reference point, the turned `bc` is the same string, and both results are the same record
(`Kind.Is.rotate90F_iff`, `rot90FldK_eq`) on the two meshes; `Commutes.obj`. -/
namespace DFV.C05
open DFV DFV.C04

theorem stepM_rot_inv (m y m' : Mesh) (hm : m.Inv) (a b : Nat) (k : Int) (ref : Option (List Rat)) (hd : hasDup m.region.dims = false)
    (ha : a < m.region.dims.length) (hb : b < m.region.dims.length)
    (h : T.stepM m (.rotate90 (m.region.dims.getD a "") (m.region.dims.getD b "") k ref false) = .ok (y, m')) :
    m'.region = T.target m.region (T.rotCoord m.region.pmin (ref.getD m.region.center) a b k)
        (T.rotCoord m.region.pmax (ref.getD m.region.center) a b k) (T.rotUnits m.region.units a b k) ∧
    m'.n = T.rotN m.n a b k ∧
    m'.bc = (rotBcK m.bc (m.region.dims.getD a "") (m.region.dims.getD b "") k).toLower ∧ y = m := by
  obtain ⟨i1, i2, h1, h2, _, _, _, hreg, hn, hbc⟩ := T.stepM_rot_returns m hm _ _ k ref false y m' h
  rw [dim2index_getD _ a ha hd] at h1
  rw [dim2index_getD _ b hb hd] at h2
  obtain rfl := Except.ok.inj h1
  obtain rfl := Except.ok.inj h2
  exact ⟨hreg, hn, by rw [hbc, rotBc_eq]; rfl, (T.stepM_returns m hm _ y m' h).2.2.2.2⟩

/-- the mesh `Mesh.rotate90(k, reference_point)` returns (any reference point, subregions turned and
re-validated) and the mesh C05's centre / copy-form / no-subregion model returns cannot be told
apart by differentiation: same axis names, and axis by axis the cell count and edge length of one axis of the mesh
(`T.turned_axis`: the reference point plays no part), the same `bc` string -/
theorem meshSim_obj (f : Fld) (y m' m2 : Mesh) (a b : Nat) (k : Int) (ref : Option (List Rat)) (wf : MeshWf f)
    (ha : a < f.mesh.ndim) (hb : b < f.mesh.ndim) (hab : a ≠ b)
    (h : T.stepM f.mesh (.rotate90 (f.mesh.region.dims.getD a "") (f.mesh.region.dims.getD b "") k ref false) = .ok (y, m'))
    (h2 : rotMeshK { f.mesh with subs := [] } (f.mesh.region.dims.getD a "") (f.mesh.region.dims.getD b "") k = .ok m2) :
    MeshSim m' m2 ∧ m'.ndim = f.mesh.ndim ∧ m'.region.dims = f.mesh.region.dims := by
  have hda : a < f.mesh.region.dims.length := by rw [wf.dims.1]; exact ha
  have hdb : b < f.mesh.region.dims.length := by rw [wf.dims.1]; exact hb
  have inv := wf.meshInv (by omega)
  obtain ⟨r1, n1, b1, _⟩ := stepM_rot_inv f.mesh y m' inv a b k ref wf.dims.2 hda hdb h
  obtain ⟨r2, n2, b2⟩ := rotMeshK_inv { f.mesh with subs := [] } m2 a b k wf.dims.2 hda hdb h2
  have nd1 : m'.ndim = f.mesh.ndim := by unfold Mesh.ndim; rw [r1, T.target_ndim]
  have nd2 : m2.ndim = f.mesh.ndim := by unfold Mesh.ndim; rw [r2, T.target_ndim]
  have d1 : m'.region.dims = f.mesh.region.dims := by rw [r1]; rfl
  have d2 : m2.region.dims = f.mesh.region.dims := by rw [r2]; rfl
  refine ⟨⟨by rw [nd1, nd2], by rw [d1, d2], fun e he => ?_⟩, nd1, d1⟩
  rw [nd1] at he
  obtain ⟨s1, s2, _⟩ := T.turned_axis f.mesh m' inv a b hab ha hb k _ _ r1 n1 e he
  obtain ⟨t1, t2, _⟩ := T.turned_axis { f.mesh with subs := [] } m2 inv a b hab ha hb k _ _ r2 n2 e he
  exact ⟨s1.trans t1.symm, by unfold Mesh.cellAt; rw [s1, s2, t1, t2]; rfl, by unfold perM; rw [b1, b2, d1, d2]⟩

theorem meshWf_subs {f : Fld} (wf : MeshWf f) (s : List (String × Region)) :
    MeshWf { f with mesh := { f.mesh with subs := s } } :=
  ⟨wf.pmax_len, wf.n_len, wf.dims, wf.units_len, wf.pos, wf.bc_lower, wf.bc_ok, wf.data_shape⟩

theorem turnWf_subs {f : Fld} {a b : Nat} (tw : TurnWf f a b) (s : List (String × Region)) :
    TurnWf { f with mesh := { f.mesh with subs := s } } a b :=
  ⟨tw.turns, tw.bc_lower, tw.bc_ok⟩

theorem meshWf_strip {f : Fld} (wf : MeshWf f) : MeshWf (strip f) := meshWf_subs wf []

theorem turnWf_strip {f : Fld} {a b : Nat} (tw : TurnWf f a b) : TurnWf (strip f) a b := turnWf_subs tw []

theorem sim_strip (f : Fld) : Sim f (strip f) :=
  ⟨⟨rfl, rfl, fun _ _ => ⟨rfl, rfl, rfl⟩⟩, rfl, rfl, rfl, fun _ _ _ => rfl, fun _ _ => rfl⟩

theorem sim_symm {X Y : Fld} (h : Sim X Y) : Sim Y X := by
  obtain ⟨⟨m1, m2, m3⟩, h2, h3, h4, h5, h6⟩ := h
  refine ⟨⟨m1.symm, m2.symm, fun e he => ?_⟩, h2.symm, h3.symm, h4.symm, fun i hi c => ?_, fun i hi => ?_⟩
  · obtain ⟨x1, x2, x3⟩ := m3 e (by rw [m1]; exact he)
    exact ⟨x1.symm, x2.symm, x3.symm⟩
  · exact (h5 i (by rw [m1]; exact hi) c).symm
  · exact (h6 i (by rw [m1]; exact hi)).symm

theorem sameMeta_strip (f : Fld) : SameMeta (strip f) f := ⟨rfl, rfl, rfl, rfl, rfl⟩

theorem Kind.Is.strip {a b : Nat} {κ : Kind} {f : Fld} (h : κ.Is a b f) : κ.Is a b (strip f) := by
  cases κ with
  | scal => exact h
  | vec v1 v2 vs => exact ⟨h.hn, h.hv, h.hvl, h.hvd, h.hkeys, h.hmap, h.h1, h.h2, h.hv1, h.hv2, h.h12, h.hraw⟩

theorem Kind.Is.turnVal {a b : Nat} {κ : Kind} {X : Fld} (hκ : κ.Is a b X) (k : Int) :
    T.turnVal X (X.mesh.region.dims.getD a "") (X.mesh.region.dims.getD b "") k = κ.rotV k := by
  funext v
  cases κ with
  | scal => exact T.turnVal_scalar X _ _ k v (by rw [hκ.1])
  | vec v1 v2 vs =>
    exact T.turnVal_vector X _ _ k v v1 v2 hκ.hn (by rw [rDim_eq_rDimLast X _]; exact hκ.h1)
      (by rw [rDim_eq_rDimLast X _]; exact hκ.h2)

/-- **`Field.rotate90(ax1, ax2, k, reference_point, inplace)` of a field of either kind** (shared model
`T.rotate90F`: any reference point, either form, subregions): accepted exactly when the copying turn of the mesh is, and the
result is the record of `rot90FldK_eq` on that mesh -/
theorem Kind.Is.rotate90F_iff {a b : Nat} {κ : Kind} {X : Fld} (hκ : κ.Is a b X) (hd : DimsOk X)
    (ha : a < X.mesh.ndim) (hb : b < X.mesh.ndim) (k : Int) (ref : Option (List Rat)) (inpl : Bool) (x g : Fld) :
    T.rotate90F X (X.mesh.region.dims.getD a "") (X.mesh.region.dims.getD b "") k ref inpl = .ok (x, g) ↔
      ∃ y m', T.stepM X.mesh (.rotate90 (X.mesh.region.dims.getD a "") (X.mesh.region.dims.getD b "") k ref false) = .ok (y, m') ∧
        g = { X with mesh := m', data := (T.rot90 X.data a b k).map (κ.rotV k), valid := T.rot90 X.valid a b k } ∧
        x = if inpl then g else X := by
  have ia := dim2index_getD X.mesh.region a (by rw [hd.1]; exact ha) hd.2
  have ib := dim2index_getD X.mesh.region b (by rw [hd.1]; exact hb) hd.2
  rw [T.rotate90F_ok_iff]
  constructor
  · rintro ⟨y, m', i1, i2, hs, h1, h2, _, rfl, rfl⟩
    rw [ia] at h1; rw [ib] at h2
    injection h1 with h1; injection h2 with h2
    subst h1 h2
    exact ⟨y, m', hs, by unfold T.turnedFld; rw [hκ.turnVal], rfl⟩
  · rintro ⟨y, m', hs, rfl, rfl⟩
    refine ⟨y, m', a, b, hs, ia, ib, fun hn => ?_, by unfold T.turnedFld; rw [hκ.turnVal], rfl⟩
    cases κ with
    | scal => rw [hκ.1] at hn; omega
    | vec v1 v2 vs =>
      exact ⟨v1, v2, by rw [rDim_eq_rDimLast X _]; exact hκ.h1, by rw [rDim_eq_rDimLast X _]; exact hκ.h2⟩

/-- **The object-level turn cannot be told apart, by the differential operators, from the centre / copy-form turn `rot90FldK` of
the field without its subregion list** (the general form of `rotate90_obj_refines_scalar/_vector` of `Props/C05.lean`): the two results are
the same record on two meshes that `meshSim_obj` compares -/
theorem Kind.simObj {a b : Nat} {κ : Kind} (f x g : Fld) (k : Int) (ref : Option (List Rat)) (inpl : Bool) (wf : MeshWf f)
    (tw : TurnWf f a b) (hκ : κ.Is a b f) (ha : a < f.mesh.ndim) (hb : b < f.mesh.ndim) (hab : a ≠ b)
    (hg : T.rotate90F f (f.mesh.region.dims.getD a "") (f.mesh.region.dims.getD b "") k ref inpl = .ok (x, g)) :
    ∃ R', rot90FldK (strip f) (f.mesh.region.dims.getD a "") (f.mesh.region.dims.getD b "") k = .ok R' ∧ Sim g R' ∧
      SameMeta g f ∧ x = (if inpl then g else f) ∧ g.valid = T.rot90 f.valid a b k ∧
      ∃ y, T.stepM f.mesh (.rotate90 (f.mesh.region.dims.getD a "") (f.mesh.region.dims.getD b "") k ref false) = .ok (y, g.mesh) := by
  obtain ⟨y, m', hs, rfl, hx⟩ := (hκ.rotate90F_iff wf.dims ha hb k ref inpl x g).mp hg
  obtain ⟨m2, hm2⟩ := rotMeshK_succeeds (strip f) a b k (meshWf_strip wf) (turnWf_strip tw) rfl ha hb hab
  obtain ⟨ms, nd, dm⟩ := meshSim_obj f y m' m2 a b k ref wf ha hb hab hs hm2
  exact ⟨_, rot90FldK_eq (strip f) k m2 (meshWf_strip wf).dims hκ.strip ha hb hm2,
    ⟨ms, rfl, rfl, rfl, fun _ _ _ => rfl, fun _ _ => rfl⟩, ⟨rfl, nd, dm, rfl, rfl⟩, hx, rfl, y, hs⟩

theorem idxK_length (f : Fld) (a b : Nat) (k : Int) (i : List Nat) : (idxK f a b k i).length = i.length := by
  unfold idxK rotIdx
  split
  · rfl
  · split
    · simp [length_setAt]
    · split <;> simp [length_setAt]

theorem idxK_mesh (f g : Fld) (a b : Nat) (k : Int) (i : List Nat) (h : g.mesh.n = f.mesh.n) : idxK g a b k i = idxK f a b k i := by
  unfold idxK rotIdx Mesh.nAt; rw [h]

theorem Kind.Is.rotV_congr {a b m : Nat} {κ : Kind} {X Y : Fld} (hX : κ.Is a b X) (hY : κ.Is a b Y) (nX : X.nvdim = m)
    {i j : List Nat} (h : ∀ c, c < m → (X.data.get i).getD c 0 = (Y.data.get j).getD c 0) (k : Int) (c : Nat)
    (hc : c < m) : (κ.rotV k (X.data.get i)).getD c 0 = (κ.rotV k (Y.data.get j)).getD c 0 := by
  cases κ with
  | scal => exact h c hc
  | vec v1 v2 vs =>
    show (T.rotVec _ v1 v2 k).getD c 0 = (T.rotVec _ v1 v2 k).getD c 0
    rw [rotVec_getD_any _ v1 v2 k c (by rw [hX.hraw]; exact hX.hv1) (by rw [hX.hraw]; exact hX.hv2),
      rotVec_getD_any _ v1 v2 k c (by rw [hY.hraw]; exact hY.hv1) (by rw [hY.hraw]; exact hY.hv2),
      h v1 (nX ▸ hX.hv1), h v2 (nX ▸ hX.hv2), h c hc]

/-- the same turn (same reference point, either form) accepts a result `L` on the mesh of `f`, and the turned result agrees cell
by cell with the centre / copy-form turn of a result `L0` on the stripped field that agrees with `L` -/
theorem On.objRes {a b m : Nat} {κ : Kind} (f L L0 RL0 : Fld) (ym mm : Mesh) (k : Int) (ref : Option (List Rat)) (inpl : Bool)
    (wf : MeshWf f) (tw : TurnWf f a b) (ha : a < f.mesh.ndim) (hb : b < f.mesh.ndim) (hab : a ≠ b)
    (hL : On a b κ m f L) (hL0 : On a b κ m (strip f) L0)
    (hstep : T.stepM f.mesh (.rotate90 (f.mesh.region.dims.getD a "") (f.mesh.region.dims.getD b "") k ref false) = .ok (ym, mm))
    (hRL0 : rot90FldK L0 (f.mesh.region.dims.getD a "") (f.mesh.region.dims.getD b "") k = .ok RL0)
    (heq : ∀ j, j.length = f.mesh.ndim → ∀ c, c < m → (L.data.get j).getD c 0 = (L0.data.get j).getD c 0) :
    ∃ y RL, T.rotate90F L (f.mesh.region.dims.getD a "") (f.mesh.region.dims.getD b "") k ref inpl = .ok (y, RL) ∧
      RL.mesh = mm ∧ y = (if inpl then RL else L) ∧ RL.valid = T.rot90 L.valid a b k ∧
      ∀ i, i.length = f.mesh.ndim → ∀ c, c < m → (RL.data.get i).getD c 0 = (RL0.data.get i).getD c 0 := by
  obtain ⟨mL, sL, nL, kL⟩ := hL
  obtain ⟨mL0, sL0, nL0, kL0⟩ := hL0
  have hRL := (kL.rotate90F_iff (by unfold DimsOk; rw [mL]; exact wf.dims) (by rw [mL]; exact ha) (by rw [mL]; exact hb)
    k ref inpl _ _).mpr ⟨ym, mm, by rw [mL]; exact hstep, rfl, rfl⟩
  rw [mL] at hRL
  refine ⟨_, _, hRL, rfl, rfl, rfl, fun i hil c hc => ?_⟩
  obtain ⟨X', hX', _, _, _, _, h5, _⟩ := rot90FldK_data L0 k (meshWf_of_mesh (meshWf_strip wf) mL0 sL0)
    (turnWf_of_mesh (turnWf_strip tw) mL0) (by rw [mL0]; rfl) kL0 (by rw [mL0]; exact ha) (by rw [mL0]; exact hb) hab
  have hdims0 : L0.mesh.region.dims = f.mesh.region.dims := by rw [mL0]; rfl
  rw [hdims0] at hX'
  obtain rfl : X' = RL0 := ok_inj hX' hRL0
  rw [h5 i (by rw [mL0]; exact hil), idxK_mesh f L0 a b k i (by rw [mL0]; rfl)]
  show (κ.rotV k ((T.rot90 L.data a b k).get i)).getD c 0 = _
  rw [rot90_get_idxK f L.data a b k i (by rw [sL, mL]) wf.n_len hab hil hb]
  exact kL.rotV_congr kL0 nL (fun c hc => heq _ (by rw [idxK_length]; exact hil) c hc) k c hc

/-- validity flags of the turned result `RL = rotate90(L)` and of the result on the turned field
`LR = op(rotate90(f))` agree cell by cell: the operators keep the validity of their operand and
`np.rot90` moves the flags like the values -/
theorem objRes_valid (f L g RL LR : Fld) (a b : Nat) (k : Int) (wf : MeshWf f) (hvs : f.valid.shape = f.mesh.n)
    (hb : b < f.mesh.ndim) (hab : a ≠ b)
    (hL : Over f L) (gv : g.valid = T.rot90 f.valid a b k) (rv : RL.valid = T.rot90 L.valid a b k) (hLR : Over g LR) :
    ∀ i, i.length = f.mesh.ndim → RL.valid.get i = LR.valid.get i := by
  intro i hi
  rw [hLR.valid i, gv, rv, rot90_get_idxK f L.valid a b k i (by rw [hL.vshape, hvs]) wf.n_len hab hi hb,
    rot90_get_idxK f f.valid a b k i hvs wf.n_len hab hi hb, hL.valid]

/-! ### acceptance of the object-level turn on meshes without subregions, any reference point -/

theorem stepM_rot_accepts (f : Fld) (a b : Nat) (k : Int) (ref : Option (List Rat)) (wf : MeshWf f) (tw : TurnWf f a b)
    (hsub : f.mesh.subs = []) (ha : a < f.mesh.ndim) (hb : b < f.mesh.ndim) (hab : a ≠ b)
    (href : ∀ R, ref = some R → R.length = f.mesh.ndim) :
    ∃ y m', T.stepM f.mesh (.rotate90 (f.mesh.region.dims.getD a "") (f.mesh.region.dims.getD b "") k ref false) = .ok (y, m') := by
  have hda : a < f.mesh.region.dims.length := by rw [wf.dims.1]; exact ha
  have hdb : b < f.mesh.region.dims.length := by rw [wf.dims.1]; exact hb
  have hr := wf.regionInv (by omega)
  have hrl : (ref.getD f.mesh.region.center).length = f.mesh.region.ndim := by
    cases ref with
    | none => exact C01.center_length _
    | some R => exact href R rfl
  have hreg := (T.rotate90R_ok_iff f.mesh.region hr _ _ k ref false _ _).mpr
    ⟨dims_ne_of_ne f wf.dims a b ha hb hab, hrl, a, b, dim2index_getD _ a hda wf.dims.2, dim2index_getD _ b hdb wf.dims.2, rfl, rfl⟩
  obtain ⟨c1, c2, c3⟩ := turnedCtor_ok wf tw ha hb hab k _ (T.target_ndim _ _ _ _) rfl
  have hmk := (T.mkMesh?_ok_iff _ (T.opN f.mesh (.rotate90 (f.mesh.region.dims.getD a "") (f.mesh.region.dims.getD b "") k ref false))
    (T.opBc f.mesh (.rotate90 (f.mesh.region.dims.getD a "") (f.mesh.region.dims.getD b "") k ref false)) [] _).mpr
    ⟨by simpa only [T.opN, dim2index_getD _ a hda wf.dims.2, dim2index_getD _ b hdb wf.dims.2] using c1,
     by simpa only [T.opN, dim2index_getD _ a hda wf.dims.2, dim2index_getD _ b hdb wf.dims.2] using c2,
     by simpa only [T.opBc, rotBc_eq] using c3, fun _ hp => (List.not_mem_nil hp).elim, rfl⟩
  exact ⟨f.mesh, _, (T.stepM_ok_iff _ _ _ _).mpr ⟨_, _, [], hreg, by rw [hsub]; rfl, rfl, hmk⟩⟩

/-- **On a mesh without subregions `Field.rotate90(ax1, ax2, k, reference_point, inplace)` accepts every field of either kind,
for EVERY reference point of the right length and either form** (the general form of
`rotate90_obj_accepts_scalar/_vector` of `Props/C05.lean`) -/
theorem Kind.Is.rotate90F_accepts {a b : Nat} {κ : Kind} {f : Fld} (hκ : κ.Is a b f) (k : Int)
    (ref : Option (List Rat)) (inpl : Bool) (wf : MeshWf f) (tw : TurnWf f a b) (hsub : f.mesh.subs = []) (ha : a < f.mesh.ndim)
    (hb : b < f.mesh.ndim) (hab : a ≠ b) (href : ∀ R, ref = some R → R.length = f.mesh.ndim) :
    ∃ x g, T.rotate90F f (f.mesh.region.dims.getD a "") (f.mesh.region.dims.getD b "") k ref inpl = .ok (x, g) := by
  obtain ⟨y, m', hm⟩ := stepM_rot_accepts f a b k ref wf tw hsub ha hb hab href
  exact ⟨_, _, (hκ.rotate90F_iff wf.dims ha hb k ref inpl _ _).mpr ⟨y, m', hm, rfl, rfl⟩⟩

/-! ### the object-level turn for an operator with the interface `Commutes` -/

variable {a b m : Nat} {κ κ' : Kind} {E E' : Fld → Prop} {op : Fld → M Fld}

/-- **`Field.rotate90(ax1, ax2, k, reference_point, inplace)` at object level** (the general form of the five `*_rotate90_obj` of
`Props/C05.lean`), from the interface in the plane `(a, b)` and in the plane
named the other way round: whenever the shared model `T.rotate90F` accepts the turn of `f` (any integer `k`, any reference point, either
form, meshes with subregions included), the operator accepts `f` and the turned field `g`, the turn accepts the result `L` in either form,
receivers are as the forms say, both `op g` and the turned `op f` live on the mesh of `g`, and at every cell of `g` they have the same
validity flag and the same `m` components -/
theorem Commutes.obj (C : Commutes a b κ κ' m E op) (C' : Commutes b a κ.swap κ'.swap m E' op) (hE : ∀ {f}, E f → E' f)
    (hab : a ≠ b) {f x g : Fld} (k : Int) (ref : Option (List Rat)) (inpl inpl' : Bool) (wf : MeshWf f) (tw : TurnWf f a b)
    (hvs : f.valid.shape = f.mesh.n) (ha : a < f.mesh.ndim) (hb : b < f.mesh.ndim) (hκ : κ.Is a b f) (hext : E f)
    (hg : T.rotate90F f (f.mesh.region.dims.getD a "") (f.mesh.region.dims.getD b "") k ref inpl = .ok (x, g)) :
    ∃ L LR y RL, op f = .ok L ∧ op g = .ok LR ∧
      T.rotate90F L (f.mesh.region.dims.getD a "") (f.mesh.region.dims.getD b "") k ref inpl' = .ok (y, RL) ∧
      x = (if inpl then g else f) ∧ y = (if inpl' then RL else L) ∧ LR.mesh = g.mesh ∧ RL.mesh = g.mesh ∧
      ∀ i, InMesh g i → RL.valid.get i = LR.valid.get i ∧
        ∀ c, c < m → (LR.data.get i).getD c 0 = (RL.data.get i).getD c 0 := by
  obtain ⟨R', hR', hsim, mg, hx, gv, ym, hstep⟩ := Kind.simObj f x g k ref inpl wf tw hκ ha hb hab hg
  have es := C.transfer (sameMeta_strip f).symm hext
  obtain ⟨R0, L0, LR0, RL0, q1, q2, q3, q4, q5⟩ := C.all_k C' hE hab
    (f := strip f) ⟨⟨meshWf_strip wf, turnWf_strip tw, rfl, hvs, ha, hb, rfl, rfl⟩, hκ.strip, es⟩ k
  obtain rfl : R0 = R' := ok_inj q1 hR'
  obtain ⟨L, hL⟩ := C.accepts wf.dims ha hb hext
  obtain ⟨LR, hLR⟩ := C.accepts (mg.dimsOk wf.dims) (by rw [mg.ndim]; exact ha) (by rw [mg.ndim]; exact hb) (C.transfer mg.symm hext)
  have rL := C.result wf ha hb hκ hext hL
  obtain ⟨y, RL, hRL, rm, ry, rv, hres⟩ := On.objRes f L L0 RL0 ym g.mesh k ref inpl' wf tw ha hb hab rL
    (C.result (meshWf_strip wf) ha hb hκ.strip es q2) hstep q4
    (fun j hj c hc => C.sim (sim_strip f) (meshWf_strip wf).dims es hL q2 j hj c hc)
  refine ⟨L, LR, y, RL, hL, hLR, hRL, hx, ry, (C.over hLR).mesh, rm, fun i hi => ?_⟩
  have hil : i.length = f.mesh.ndim := by rw [← mg.ndim]; exact hi.1
  refine ⟨objRes_valid f L g RL LR a b k wf hvs hb hab (C.over hL) gv rv (C.over hLR) i hil, fun c hc => ?_⟩
  have mR := hsim.sameMeta.symm.trans mg
  rw [C.sim hsim (mR.dimsOk wf.dims) (C.transfer mR.symm hext) hLR q3 i hi.1 c hc, q5 i (inMesh_sim hsim i hi) c hc,
    hres i hil c hc]

end DFV.C05

