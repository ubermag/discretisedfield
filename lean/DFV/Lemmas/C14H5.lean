import DFV.Lemmas.C14Persist
import DFV.Lemmas.C10Accept
/-! C14: persistence of subregions through HDF5 — the bridge from C10's model of `io/hdf5.py` (`Lemmas/C10Roundtrip`,
`Lemmas/C10Accept`) to C14's terms: the untyped view `meshOfT` of a typed mesh, which reading leaves unchanged
(`meshOfT_loaded`), and the two models of the setter's three tests are one function (`subAccept_eq_subOk`). -/
namespace DFV.C14
open DFV DFV.T DFV.C10

/-- the untyped mesh (values only) of a mesh of the HDF5 model, whose corner arrays carry a dtype -/
def meshOfT (m : TMesh) : Mesh :=
  { region := m.region.toRegion, n := m.n, bc := m.bc, subs := m.subs.map fun p => (p.1, p.2.toRegion) }

/-- **The mesh the HDF5 reader returns has the same values**: `TMesh.loaded` (what
`DFV.C10.mesh_roundtrip` proves `meshLoad (meshSave m)` returns) differs from `m` only in the dtype
of the subregion corner arrays — region, counts, `bc`, names, order and every corner VALUE agree. -/
theorem meshOfT_loaded (m : TMesh) : meshOfT m.loaded = meshOfT m := by
  unfold meshOfT TMesh.loaded
  simp only [List.map_map]
  congr 1
  -- the dtype of the corner table never forces a float-to-integer cast on a stored corner array
  exact List.map_congr_left fun p hp => by
    simp only [Function.comp, castCorners_toRegion _ _ (tableKind_lossless m p hp)]

/-! ## the two models of the setter's tests agree -/

/-- C10's model of `Mesh.is_aligned` and the one of `Transform.lean` are the same function (on
meshes of equal dimension) -/
theorem isAligned_models_agree (m o : Mesh) (hd : o.ndim = m.ndim) :
    C10.isAligned m o = T.isAligned m o := by
  unfold C10.isAligned T.isAligned
  congr 1
  · congr 1
    unfold allcloseL
    have hl : m.cell.length = m.ndim := by unfold Mesh.cell; rw [tab_length]
    rw [hl]
    apply allLt_congr
    intro a ha
    rw [C01.cell_getD m a ha, C01.cell_getD o a (hd ▸ ha)]
    exact (C01.allcloseAx_eq_isclose _ _ _).symm

/-- **C10's model of the subregion setter's tests and C14's are the same function.** -/
theorem subAccept_eq_subOk (r : Region) (n : List Nat) (s : Region) :
    C10.subAccept r n s = T.subOk { region := r, n := n, bc := "", subs := [] } s := by
  unfold C10.subAccept T.subOk
  congr 1
  cases hmk : Mesh.mkCell? s (Mesh.cell { region := r, n := n, bc := "", subs := [] }) with
  | error e => rfl
  | ok sm =>
    obtain ⟨e2, rfl⟩ := mkCell?_ok _ _ _ hmk
    exact isAligned_models_agree _ _ (by show s.ndim = _; rw [← e2]; unfold Mesh.cell; rw [tab_length])

/-- `exM` as a mesh of the HDF5 model: integer region corners, subregion "a" with integer and "b"
with float corner arrays (so the corner table is float) -/
def exT : TMesh :=
  { region := ⟨.ints [0, 0, 0], .ints [8, 6, 2], ["x", "y", "z"], ["m", "s", "K"], .float (1/1000000000000)⟩,
    n := [4, 6, 1], bc := "x",
    subs := [("a", ⟨.ints [2, 1, 0], .ints [6, 3, 2], ["x", "y", "z"], ["m", "s", "K"], .float (1/1000000000000)⟩),
             ("b", ⟨.floats [6, 0, 0], .floats [8, 6, 2], ["x", "y", "z"], ["m", "s", "K"], .float (1/1000000000000)⟩)] }

theorem meshOfT_exT : meshOfT exT = exM := by decide +kernel

end DFV.C14
