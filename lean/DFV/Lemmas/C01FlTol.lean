import DFV.Lemmas.C01Fl
/-! The containment test of `Region.__contains__` evaluated in rounded arithmetic
(`Region.containsAxFl`) against the exact tolerance band: it accepts everything inside
`(1 − 4u)·band` and nothing outside `(1 + 5u)·band`. -/
namespace DFV.C01
open DFV DFV.Mesh

/-- inside up to the comparison tolerance scaled by `s` -/
def TolInsideS (r : Region) (s : Rat) (p : List Rat) : Prop :=
  p.length = r.ndim ∧ ∀ a, a < r.ndim →
    r.lo a - p.getD a 0 ≤ s * band r (p.getD a 0) ∧ p.getD a 0 - r.hi a ≤ s * band r (p.getD a 0)

theorem tolInsideS_one (r : Region) (p : List Rat) : TolInsideS r 1 p ↔ TolInside r p := by
  unfold TolInsideS TolInside; simp

theorem listMin_fl_bounds (R : Rounding) (n : Nat) (hn : 0 < n) (f : Nat → Rat) (hf : ∀ a, a < n → 0 < f a) :
    (1 - R.u) * listMin (tab n f) ≤ listMin (tab n fun a => R.fl (f a)) ∧
    listMin (tab n fun a => R.fl (f a)) ≤ (1 + R.u) * listMin (tab n f) := by
  have hu := R.u_nonneg
  have hu1 : R.u ≤ 1 := le_trans R.u_small (by norm_num)
  have hne : ∀ g : Nat → Rat, tab n g ≠ [] := fun g e => by simpa [hn.ne'] using congrArg List.length e
  constructor
  · obtain ⟨b, hb, e⟩ := (mem_tab _ _ _).mp (listMin_mem _ (hne fun a => R.fl (f a)))
    rw [← e]
    have h1 := (fl_bounds_nonneg R (f b) (hf b hb).le).1
    have h2 : listMin (tab n f) ≤ f b := by
      exact listMin_le_mem _ _ ((mem_tab _ _ _).mpr ⟨b, hb, rfl⟩)
    have : (1 - R.u) * listMin (tab n f) ≤ (1 - R.u) * f b := mul_le_mul_of_nonneg_left h2 R.one_sub_pos.le
    linarith
  · obtain ⟨b, hb, e⟩ := (mem_tab _ _ _).mp (listMin_mem _ (hne f))
    rw [← e]
    have h1 := (fl_bounds_nonneg R (f b) (hf b hb).le).2
    have h2 : listMin (tab n fun a => R.fl (f a)) ≤ R.fl (f b) := by
      exact listMin_le_mem _ _ ((mem_tab _ _ _).mpr ⟨b, hb, rfl⟩)
    linarith

section Reg
variable (R : Rounding) (r : Region)

/-- the computed threshold `fl(atol_fl + fl(rtol·|x|))` is within `(1 ± u)³` of the exact band -/
theorem thresholdFl_bounds (hr : r.Inv) (ht : 0 ≤ r.tol) (x : Rat) :
    (1 - R.u) * ((1 - R.u) * ((1 - R.u) * band r x)) ≤ R.fl (r.atolFl R.fl + R.fl (r.tol * absR x)) ∧
    R.fl (r.atolFl R.fl + R.fl (r.tol * absR x)) ≤ (1 + R.u) * ((1 + R.u) * ((1 + R.u) * band r x)) := by
  have hu := R.u_nonneg
  have hw : 0 ≤ 1 - R.u := R.one_sub_pos.le
  have hpos : ∀ a, a < r.ndim → 0 < r.hi a - r.lo a := fun a ha => sub_pos.mpr (hr.lo_lt_hi ha)
  obtain ⟨m1, m2⟩ := listMin_fl_bounds R r.ndim hr.1 (fun a => r.hi a - r.lo a) hpos
  have hat0 := atol_nonneg r hr ht
  have ht0 : 0 ≤ r.tol * |x| := mul_nonneg ht (abs_nonneg x)
  -- `atol_fl = fl(min(fl(edges))·tol)`, two roundings away from `atol`
  have ha : (1 - R.u) * ((1 - R.u) * r.atol) ≤ r.atolFl R.fl ∧
      r.atolFl R.fl ≤ (1 + R.u) * ((1 + R.u) * r.atol) :=
    fl_bounds_of_le R (mul_nonneg hw hat0)
      ((mul_assoc _ _ _).symm.trans_le (mul_le_mul_of_nonneg_right m1 ht))
      ((mul_le_mul_of_nonneg_right m2 ht).trans_eq (mul_assoc _ _ _))
  obtain ⟨b1, b2⟩ := fl_bounds_nonneg R _ ht0
  -- their sum, against `(1 ∓ u)²·band`
  have s1 : (1 - R.u) * ((1 - R.u) * band r x) ≤ r.atolFl R.fl + R.fl (r.tol * |x|) := by
    have := mul_le_mul_of_nonneg_left (mul_le_of_le_one_left ht0 (sub_le_self 1 R.u_nonneg)) hw
    unfold band; linarith only [ha.1, b1, this]
  have s2 : r.atolFl R.fl + R.fl (r.tol * |x|) ≤ (1 + R.u) * ((1 + R.u) * band r x) := by
    have := mul_le_mul_of_nonneg_left (le_mul_of_one_le_left ht0 (le_add_of_nonneg_right R.u_nonneg))
      R.one_add_pos.le
    unfold band; linarith only [ha.2, b2, this]
  rw [absR_eq_abs]
  exact fl_bounds_of_le R (mul_nonneg hw (mul_nonneg hw (band_nonneg r hr ht x))) s1 s2

/-- `np.isclose(face, x)` in rounded arithmetic, against the exact band, for a coordinate at
distance `d = |face − x|` from the face -/
theorem iscloseFl_sandwich (hr : r.Inv) (ht : 0 ≤ r.tol) (face x : Rat) :
    (|face - x| ≤ (1 - 4 * R.u) * band r x → Region.iscloseFl R.fl face x r.tol (r.atolFl R.fl) = true) ∧
    (Region.iscloseFl R.fl face x r.tol (r.atolFl R.fl) = true → |face - x| ≤ (1 + 5 * R.u) * band r x) := by
  have hu := R.u_nonneg
  have hu16 := R.u_small
  obtain ⟨t1, t2⟩ := thresholdFl_bounds R r hr ht x
  obtain ⟨d1, d2⟩ := fl_abs_bounds R (face - x)
  have hb := band_nonneg r hr ht x
  unfold Region.iscloseFl
  rw [absR_eq_abs, decide_eq_true_iff]
  constructor
  · -- `|fl(face − x)| ≤ (1 + u)·d ≤ (1 + u)(1 − 4u)·B ≤ (1 − u)³·B ≤ threshold`
    intro h
    have k1 := mul_le_mul_of_nonneg_left h R.one_add_pos.le
    have k2 := mul_le_mul_of_nonneg_right R.cube_ge hb
    linarith only [k1, k2, d2, t1]
  · -- `(1 − u)·d ≤ |fl(face − x)| ≤ threshold ≤ (1 + u)³·B ≤ (1 − u)(1 + 5u)·B`
    intro h
    have k2 := mul_le_mul_of_nonneg_right R.cube_le hb
    exact le_of_mul_le_mul_left (a := 1 - R.u) (by linarith only [k2, d1, t2, h]) (by linarith only [hu16])

/-- the containment test in rounded arithmetic: accepts every coordinate inside `(1 − 4u)`
times the exact tolerance band, and nothing outside `(1 + 5u)` times it -/
theorem containsAxFl_sandwich (hr : r.Inv) (ht : 0 ≤ r.tol) (a : Nat) (x : Rat) :
    ((r.lo a - x ≤ (1 - 4 * R.u) * band r x ∧ x - r.hi a ≤ (1 - 4 * R.u) * band r x) →
        r.containsAxFl R.fl a x = true) ∧
    (r.containsAxFl R.fl a x = true →
        r.lo a - x ≤ (1 + 5 * R.u) * band r x ∧ x - r.hi a ≤ (1 + 5 * R.u) * band r x) := by
  have hb := band_nonneg r hr ht x
  obtain ⟨l1, l2⟩ := iscloseFl_sandwich R r hr ht (r.lo a) x
  obtain ⟨h1, h2⟩ := iscloseFl_sandwich R r hr ht (r.hi a) x
  have hB4 : 0 ≤ (1 - 4 * R.u) * band r x := mul_nonneg (by linarith only [R.u_small]) hb
  have hB5 : 0 ≤ (1 + 5 * R.u) * band r x := mul_nonneg (by linarith only [R.u_nonneg]) hb
  unfold Region.containsAxFl
  simp only [Bool.and_eq_true, Bool.or_eq_true, decide_eq_true_eq]
  constructor
  · rintro ⟨a1, a2⟩
    exact ⟨((le_or_abs_le_iff hB4).mpr a1).imp_right l1,
      ((le_or_abs_le_iff hB4).mpr a2).imp_right fun h => h1 (by rwa [abs_sub_comm])⟩
  · rintro ⟨a1, a2⟩
    exact ⟨(le_or_abs_le_iff hB5).mp (a1.imp_right l2),
      (le_or_abs_le_iff hB5).mp (a2.imp_right fun h => by rw [abs_sub_comm]; exact h2 h)⟩

end Reg

end DFV.C01
