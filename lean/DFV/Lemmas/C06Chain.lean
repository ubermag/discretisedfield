import DFV.Lemmas.C06Mask
/-! Several directions (C06).  Direction-by-direction integration as a sequence of keep-masks: one step clears one mask
entry, multiplies by one cell length and sums one axis (`ChainInv`, `chain_cells`, from the field itself: `chain_start`); a chained integral depends on
the list of directions only as a multiset; `mean(d)` steps keep the same invariant with the factor divided by the
cell count of the averaged axis. -/
namespace DFV.C06
open DFV

/-- state of a direction-by-direction integration of `f`: the current field `G` lives on the
axes of `f` that the keep-mask `K` keeps, and its values are `C` × the sum over the others -/
structure ChainInv (f G : Fld) (K : List Bool) (C : Rat) : Prop where
  wf : WF G
  mask : K.length = f.mesh.n.length
  nvdim : G.nvdim = f.nvdim
  pos : 0 < C
  dims : G.mesh.region.dims = filterMask K f.mesh.region.dims
  pmin : G.mesh.region.pmin = filterMask K f.mesh.region.pmin
  pmax : G.mesh.region.pmax = filterMask K f.mesh.region.pmax
  n : G.mesh.n = filterMask K f.mesh.n
  val : ∀ i c, inRange G.mesh.n i = true → c < f.nvdim →
    cget G.data i c = C * maskSum f.mesh.n K (fun t => cget f.data t c) i

/-- a per-axis quantity of the original field, looked up at the position a direction has in a
partially reduced field, is the quantity at the position the direction has in the original -/
theorem chain_getD {α} (f G : Fld) (K : List Bool) (C : Rat) (hf : WF f) (hinv : ChainInv f G K C) (d : String)
    (a p : Nat) (ha : f.mesh.region.dim2index d = .ok a) (hp : G.mesh.region.dim2index d = .ok p)
    (xs : List α) (dflt : α) (hl : xs.length = f.mesh.ndim) :
    (filterMask K xs).getD p dflt = xs.getD a dflt := by
  have hdl : f.mesh.region.dims.length = f.mesh.ndim := hf.1.dims_length
  have hdK : d ∈ filterMask K f.mesh.region.dims := by rw [← hinv.dims]; exact dim2index_mem _ _ _ hp
  have hp_idx : p = idx (filterMask K f.mesh.region.dims) d := by
    rw [← hinv.dims]; exact dim2index_idx _ _ _ hp
  rw [hp_idx, dim2index_idx _ _ _ ha]
  exact getD_filterMask_idx K _ xs d dflt (hinv.mask.trans (hf.1.n_length.trans hdl.symm)) (hl.trans hdl.symm)
    ((hasDup_false_iff_nodup _).mp hf.1.1.dims_nodup) hdK

theorem chain_step_edge (f G : Fld) (K : List Bool) (C : Rat) (hf : WF f) (hinv : ChainInv f G K C) (d : String)
    (a p : Nat) (ha : f.mesh.region.dim2index d = .ok a) (hp : G.mesh.region.dim2index d = .ok p) :
    G.mesh.region.edge p = f.mesh.region.edge a := by
  unfold Region.edge Region.hi Region.lo
  rw [hinv.pmin, hinv.pmax, chain_getD f G K C hf hinv d a p ha hp _ 0 hf.1.1.pmax_length,
    chain_getD f G K C hf hinv d a p ha hp _ 0 rfl]

/-- **one step of a direction-by-direction integration**: integrating `G` along `d` clears the mask entry of `d`'s
axis in `f`, multiplies the factor by the cell length of that axis and sums the axis out.  The last equation - new
factor × cells summed so far = old factor × cells summed before × edge length of `d` - is what turns chained integrals
into means (`mean_step`, `mean_dirs_eq`). -/
theorem chain_step (f G G' : Fld) (K : List Bool) (C : Rat) (hf : WF f) (hinv : ChainInv f G K C) (d : String)
    (h : integrate G (.name d) false = .ok (.field G')) :
    ∃ a p, f.mesh.region.dim2index d = .ok a ∧ G.mesh.region.dim2index d = .ok p ∧
      sel G.mesh d = .ok G'.mesh ∧
      ChainInv f G' (setAt K a false) (C * f.mesh.cellAt a) ∧
      (C * f.mesh.cellAt a) * (dropProd (setAt K a false) f.mesh.n : Rat)
        = (C * (dropProd K f.mesh.n : Rat)) * f.mesh.region.edge a := by
  obtain ⟨p, hp, hsel, hr, hwG', hnv', hval'⟩ := integrate_dir_vals G hinv.wf d G' h
  have hplt := hr.lt
  -- `d` is a direction of `f`, at axis `a`; in `G` it sits at position `p = idx (kept names) d`
  have hdG : d ∈ G.mesh.region.dims := dim2index_mem _ _ _ hp
  have hdK : d ∈ filterMask K f.mesh.region.dims := by rw [← hinv.dims]; exact hdG
  have hdf : d ∈ f.mesh.region.dims := mem_filterMask _ _ _ hdK
  obtain ⟨a, ha⟩ := dim2index_of_mem _ _ hdf
  have ha_idx := dim2index_idx _ _ _ ha
  have hp_idx : p = idx (filterMask K f.mesh.region.dims) d := by
    rw [← hinv.dims]; exact dim2index_idx _ _ _ hp
  have hnd : f.mesh.region.dims.Nodup := (hasDup_false_iff_nodup _).mp hf.1.1.dims_nodup
  have hdl : f.mesh.region.dims.length = f.mesh.ndim := hf.1.dims_length
  have hnl : f.mesh.n.length = f.mesh.region.dims.length := hf.1.n_length.trans hdl.symm
  have hKd : K.length = f.mesh.region.dims.length := hinv.mask.trans hnl
  have hclear : clearNth K p = setAt K a false := by
    rw [hp_idx, ha_idx]; exact clearNth_idx K _ d hKd hnd hdK
  have hpK : p < (filterMask K f.mesh.region.dims).length := by
    rw [hp_idx]; exact idx_lt_of_mem _ _ hdK
  have hlen_n : (filterMask K f.mesh.n).length = (filterMask K f.mesh.region.dims).length :=
    filterMask_length_eq K _ _ hnl
  -- removing position `p` from the kept entries of any per-axis list of `f` is clearing entry `a` of the mask
  have hcut : ∀ {α} (xs : List α), xs.length = f.mesh.region.dims.length →
      removeAt (filterMask K xs) p = filterMask (setAt K a false) xs := fun xs hx => by
    rw [← hclear, filterMask_clearNth K xs p (hKd.trans hx.symm) (by rw [filterMask_length_eq K xs _ hx]; exact hpK)]
  have hGn : G.mesh.nAt p = (filterMask K f.mesh.n).getD p 0 := by unfold Mesh.nAt; rw [hinv.n]
  have hedge := chain_step_edge f G K C hf hinv d a p ha hp
  have hcell : G.mesh.cellAt p = f.mesh.cellAt a := by
    unfold Mesh.cellAt Mesh.nAt
    rw [hedge, hinv.n, chain_getD f G K C hf hinv d a p ha hp _ 0 hf.1.n_length]
  refine ⟨a, p, ha, hp, hsel, ?_, ?_⟩ <;> rw [← hcell]
  · refine ⟨hwG', by rw [length_setAt]; exact hinv.mask, by rw [hnv', hinv.nvdim], mul_pos hinv.pos (hinv.wf.1.cellAt_pos hplt),
      ?_, ?_, ?_, ?_, ?_⟩
    · rw [hr.dims, hinv.dims, hcut _ rfl]
    · rw [hr.pmin, hinv.pmin, hcut f.mesh.region.pmin hdl.symm]
    · rw [hr.pmax, hinv.pmax, hcut f.mesh.region.pmax (hf.1.1.pmax_length.trans hdl.symm)]
    · rw [hr.n, hinv.n, hcut f.mesh.n hnl]
    · intro i c hi hc
      rw [hr.n] at hi
      rw [hval' i c hi (by rw [hinv.nvdim]; exact hc), ← hclear]
      have hilen : i.length + 1 = (filterMask K f.mesh.n).length := by
        have := inRange_length _ _ hi
        rw [this, length_removeAt _ _ (by rw [hinv.n, hlen_n]; exact hpK), hinv.n]
        have : 0 < (filterMask K f.mesh.n).length := by rw [hlen_n]; omega
        omega
      rw [← maskSum_step f.mesh.n K _ i p hinv.mask (by rw [hlen_n]; exact hpK) hilen, ← hGn, ← sumTo_mul_left]
      rw [mul_comm C, mul_assoc, ← sumTo_mul_left, ← sumTo_mul_left]
      apply sumTo_congr
      intro j hj
      rw [hinv.val (insertAt i p j) c
        (inRange_insertAt G.mesh.n i p j (by rw [hinv.n, hlen_n]; exact hpK) hi (by unfold Mesh.nAt at hj; exact hj)) hc]
  · have hdp : dropProd (setAt K a false) f.mesh.n = G.mesh.nAt p * dropProd K f.mesh.n := by
      rw [← hclear, dropProd_clearNth K _ p hinv.mask (by rw [hlen_n]; exact hpK), hGn]
    rw [hdp, ← hedge, ← cells_cover G.mesh hinv.wf.1 p hplt]
    push_cast
    ring

/-- A chained integral keeps the invariant: the accumulated factor is the product of the cell
lengths of the integrated directions, the result lives on the iterated reduced mesh, and factor ×
number of summed cells is the product of the integrated edge lengths. -/
theorem chain_cells (f : Fld) (hf : WF f) (ds : List String) :
    ∀ (G : Fld) (K : List Bool) (C : Rat) (gi : Fld), ChainInv f G K C →
      integrateSeq G ds = .ok (.field gi) →
      ∃ axes, dimIndices f.mesh.region ds = .ok axes ∧ selMany G.mesh ds = .ok gi.mesh ∧
        ChainInv f gi (axes.foldl (fun K a => setAt K a false) K) (C * cellExtent f.mesh ds) ∧
        C * cellExtent f.mesh ds * (dropProd (axes.foldl (fun K a => setAt K a false) K) f.mesh.n : Rat)
          = C * (dropProd K f.mesh.n : Rat) * extent f.mesh.region ds := by
  induction ds with
  | nil =>
    intro G K C gi hinv h
    cases h
    exact ⟨[], rfl, rfl, by simpa [cellExtent] using hinv, by simp [extent, cellExtent]⟩
  | cons d ds ih =>
    intro G K C gi hinv h
    obtain ⟨_, _, _, hr⟩ | ⟨G1, hG1, h⟩ := (integrateSeq_cons_iff G d ds _).mp h
    · cases hr
    · obtain ⟨a, p, ha, hp, hsel, hinv1, hprod⟩ := chain_step f G G1 K C hf hinv d hG1
      obtain ⟨axes, hax, hselm, hinv', hprod'⟩ := ih G1 _ _ gi hinv1 h
      have hC : C * cellExtent f.mesh (d :: ds) = C * f.mesh.cellAt a * cellExtent f.mesh ds := by
        simp only [cellExtent, ha]; ring
      refine ⟨a :: axes, by simp only [dimIndices, ha, hax], by simp only [selMany, hsel, hselm], ?_, ?_⟩
      · rw [List.foldl_cons, hC]; exact hinv'
      · rw [List.foldl_cons, hC, hprod', hprod]
        simp only [extent, ha]
        ring

theorem chainInv_init (f : Fld) (hf : WF f) : ChainInv f f (List.replicate f.mesh.n.length true) 1 := by
  have hnl : f.mesh.n.length = f.mesh.ndim := hf.1.n_length
  refine ⟨hf, by simp, rfl, by norm_num, ?_, ?_, ?_, ?_, ?_⟩
  · rw [hnl, ← hf.1.dims_length, filterMask_allTrue]
  · rw [hnl]; exact (filterMask_allTrue _).symm
  · rw [hnl, show f.mesh.ndim = f.mesh.region.pmax.length from hf.1.1.pmax_length.symm, filterMask_allTrue]
  · rw [filterMask_allTrue]
  · intro i c hi _
    rw [maskSum_allTrue _ _ _ (inRange_length _ _ hi), one_mul]

/-- the chained integral of `f` itself: it lives on the axes that are not listed, its values are the product of the cell
lengths of the listed directions times the sum over the listed axes, and that product times the number of summed cells
is the product of the integrated edge lengths -/
theorem chain_start (f : Fld) (hf : WF f) (ds : List String) (g : Fld) (h : integrateSeq f ds = .ok (.field g)) :
    ∃ axes, dimIndices f.mesh.region ds = .ok axes ∧ selMany f.mesh ds = .ok g.mesh ∧
      ChainInv f g (keepMask f.mesh.n.length axes) (cellExtent f.mesh ds) ∧
      cellExtent f.mesh ds * (dropProd (keepMask f.mesh.n.length axes) f.mesh.n : Rat) = extent f.mesh.region ds := by
  obtain ⟨axes, hax, hselm, hinv, hprod⟩ := chain_cells f hf ds f _ 1 g (chainInv_init f hf) h
  rw [← keepMask_eq_foldl, one_mul] at hinv hprod
  rw [dropProd_allTrue, Nat.cast_one, one_mul, one_mul] at hprod
  exact ⟨axes, hax, hselm, hinv, hprod⟩

/-! ## lists of direction names -/

theorem dimIndices_ok_mem (r : Region) (ds : List String) (axes : List Nat) (h : dimIndices r ds = .ok axes) :
    ∀ d ∈ ds, d ∈ r.dims := by
  induction ds generalizing axes with
  | nil => intro d hd; simp at hd
  | cons x xs ih =>
    obtain ⟨a, t, ha, ht, _⟩ := (dimIndices_cons_iff r x xs axes).mp h
    intro d hd
    rcases List.mem_cons.mp hd with rfl | hd
    · exact dim2index_mem _ _ _ ha
    · exact ih t ht d hd

theorem length_lt_of_not_perm (ds dims : List String) (hnd : ds.Nodup) (hmem : ∀ d ∈ ds, d ∈ dims)
    (hnp : ¬ ds.Perm dims) : ds.length < dims.length := by
  have hsub : ds.Subperm dims := List.subperm_of_subset hnd hmem
  have hle := hsub.length_le
  by_contra hc
  exact hnp (hsub.perm_of_length_le (by omega))

/-! ## order independence -/

theorem dimIndices_perm (r : Region) (ds ds' : List String) (hp : ds.Perm ds') (axes : List Nat)
    (h : dimIndices r ds = .ok axes) : ∃ axes', dimIndices r ds' = .ok axes' ∧ axes.Perm axes' := by
  induction hp generalizing axes with
  | nil => exact ⟨axes, h, List.Perm.refl _⟩
  | @cons d l₁ l₂ _ ih =>
    obtain ⟨a, t, ha, ht, rfl⟩ := (dimIndices_cons_iff r d l₁ axes).mp h
    obtain ⟨t', ht', hpt⟩ := ih t ht
    exact ⟨a :: t', (dimIndices_cons_iff ..).mpr ⟨a, t', ha, ht', rfl⟩, List.Perm.cons a hpt⟩
  | swap d e l =>
    obtain ⟨a, t, ha, ht, rfl⟩ := (dimIndices_cons_iff r e (d :: l) axes).mp h
    obtain ⟨b, u, hb, hu, rfl⟩ := (dimIndices_cons_iff r d l t).mp ht
    exact ⟨b :: a :: u, (dimIndices_cons_iff ..).mpr ⟨b, _, hb, (dimIndices_cons_iff ..).mpr ⟨a, u, ha, hu, rfl⟩, rfl⟩,
      List.Perm.swap _ _ _⟩
  | trans _ _ ih1 ih2 =>
    obtain ⟨a1, h1, p1⟩ := ih1 axes h
    obtain ⟨a2, h2, p2⟩ := ih2 a1 h1
    exact ⟨a2, h2, p1.trans p2⟩

theorem keepMask_perm (n : Nat) (axes axes' : List Nat) (hp : axes.Perm axes') : keepMask n axes = keepMask n axes' := by
  unfold keepMask
  apply tab_congr
  intro k _
  have : axes.contains k = axes'.contains k := by
    rw [Bool.eq_iff_iff]
    simp only [List.contains_iff_mem]
    exact hp.mem_iff
  rw [this]

theorem cellExtent_perm (m : Mesh) (ds ds' : List String) (hp : ds.Perm ds') : cellExtent m ds = cellExtent m ds' := by
  induction hp with
  | nil => rfl
  | cons d _ ih => simp only [cellExtent, ih]
  | swap d e l => simp only [cellExtent]; ring
  | trans _ _ ih1 ih2 => rw [ih1, ih2]

/-- two chained integrals over permutations of the same directions agree: same axes left,
same corners, same cell counts, same values -/
theorem chain_perm (f : Fld) (hf : WF f) (ds ds' : List String) (hp : ds.Perm ds') (g g' : Fld)
    (h : integrateSeq f ds = .ok (.field g)) (h' : integrateSeq f ds' = .ok (.field g')) :
    g'.mesh.region.dims = g.mesh.region.dims ∧ g'.mesh.region.pmin = g.mesh.region.pmin ∧
    g'.mesh.region.pmax = g.mesh.region.pmax ∧ g'.mesh.n = g.mesh.n ∧ g'.data.shape = g.data.shape ∧
    g'.nvdim = g.nvdim ∧
    ∀ i c, inRange g.data.shape i = true → c < f.nvdim → cget g'.data i c = cget g.data i c := by
  obtain ⟨axes, hax, _, hinv, _⟩ := chain_start f hf ds g h
  obtain ⟨axes', hax', _, hinv', _⟩ := chain_start f hf ds' g' h'
  obtain ⟨axes'', hax'', hpa⟩ := dimIndices_perm _ _ _ hp axes hax
  cases hax'.symm.trans hax''
  rw [← keepMask_perm _ _ _ hpa, ← cellExtent_perm _ _ _ hp] at hinv'
  have hn : g'.mesh.n = g.mesh.n := hinv'.n.trans hinv.n.symm
  refine ⟨hinv'.dims.trans hinv.dims.symm, hinv'.pmin.trans hinv.pmin.symm, hinv'.pmax.trans hinv.pmax.symm, hn,
    by rw [hinv.wf.2, hinv'.wf.2, hn], hinv'.nvdim.trans hinv.nvdim.symm, fun i c hi hc => ?_⟩
  have hi' : inRange g.mesh.n i = true := by rw [← hinv.wf.2]; exact hi
  rw [hinv'.val i c (hn ▸ hi') hc, hinv.val i c hi' hc]

/-! ## direction-by-direction means -/

/-- `mean(d)` on `G` keeps `ChainInv` with `K[a] := false`, and the new factor times the number of
cells summed so far is the old factor times the number summed before -/
theorem mean_step (f G G' : Fld) (K : List Bool) (C : Rat) (hf : WF f) (hinv : ChainInv f G K C) (d : String)
    (h : mean G (.name d) = .ok (.field G')) :
    ∃ a C', f.mesh.region.dim2index d = .ok a ∧ sel G.mesh d = .ok G'.mesh ∧ ChainInv f G' (setAt K a false) C' ∧
      C' * (dropProd (setAt K a false) f.mesh.n : Rat) = C * (dropProd K f.mesh.n : Rat) := by
  have hwG : WF G := hinv.wf
  obtain ⟨p, m1, hp, hsel1, hshape1, hr⟩ := (mean_name_iff G d _).mp h
  injection hr with hr
  -- where `mean(d)` succeeds `integrate(d)` does, on the same reduced mesh: the step of the chained integral applies
  have h2 := (sel_reduced hwG.1 hp hsel1).two
  obtain ⟨G'', hG''⟩ : ∃ G'', integrate G (.name d) false = .ok (.field G'') :=
    ⟨_, (integrate_dir_iff G d _).mpr ⟨p, m1, hp, by omega, hsel1, hshape1, rfl⟩⟩
  obtain ⟨a, p1, ha, hp1, hsel, hinv1, hprod⟩ := chain_step f G G'' K C hf hinv d hG''
  obtain ⟨p2, _, hp2, hgm, hmesh, hshape, _, _, _, hval⟩ := mean_dir_div_edge G hwG d G'' _ hG'' h
  cases hgm
  cases hp.symm.trans hp1; cases hp.symm.trans hp2
  have hedge : 0 < G.mesh.region.edge p := hwG.1.1.edge_pos (hwG.1.dim2index_lt hp)
  have hm1 : G'.mesh = m1 := by rw [hr]
  refine ⟨a, C * f.mesh.cellAt a / G.mesh.region.edge p, ha, hmesh ▸ hsel, ?_, ?_⟩
  · refine ⟨⟨hmesh ▸ hinv1.wf.1, hshape.trans (hmesh ▸ hinv1.wf.2)⟩, hinv1.mask, by rw [hr]; exact hinv.nvdim,
      div_pos hinv1.pos hedge, hmesh ▸ hinv1.dims, hmesh ▸ hinv1.pmin, hmesh ▸ hinv1.pmax, hmesh ▸ hinv1.n, fun i c hi hc => ?_⟩
    rw [hval i c (by rw [← hwG.2, hshape1, ← hm1]; exact hi) (by rw [hinv.nvdim]; exact hc),
      hinv1.val i c (hmesh ▸ hi) hc]
    ring
  · rw [div_mul_eq_mul_div, hprod, ← chain_step_edge f G K C hf hinv d a p ha hp]
    field_simp

theorem mean_chain (f : Fld) (hf : WF f) (ds : List String) :
    ∀ (G : Fld) (K : List Bool) (C : Rat) (gm : Fld), ChainInv f G K C →
      meanSeq G ds = .ok (.field gm) →
      ∃ axes C', dimIndices f.mesh.region ds = .ok axes ∧ selMany G.mesh ds = .ok gm.mesh ∧
        ChainInv f gm (axes.foldl (fun K a => setAt K a false) K) C' ∧
        C' * (dropProd (axes.foldl (fun K a => setAt K a false) K) f.mesh.n : Rat)
          = C * (dropProd K f.mesh.n : Rat) := by
  induction ds with
  | nil =>
    intro G K C gm hinv h
    cases h
    exact ⟨[], C, rfl, rfl, hinv, rfl⟩
  | cons d ds ih =>
    intro G K C gm hinv h
    obtain ⟨G1, hG1, h⟩ := (meanSeq_cons_iff G d ds _).mp h
    obtain ⟨a, C1, ha, hsel', hinv1, hprod⟩ := mean_step f G G1 K C hf hinv d hG1
    obtain ⟨axes, C', hax, hselm, hinv', hprod'⟩ := ih G1 _ _ gm hinv1 h
    refine ⟨a :: axes, C', ?_, ?_, hinv', ?_⟩
    · simp only [dimIndices, ha, hax]
    · simp only [selMany, hsel', hselm]
    · simp only [List.foldl_cons]
      rw [hprod', hprod]

end DFV.C06
