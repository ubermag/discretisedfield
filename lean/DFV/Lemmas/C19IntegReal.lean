import Mathlib.Analysis.SpecialFunctions.Complex.Arg
import Mathlib.Analysis.SpecialFunctions.Trigonometric.Angle
import DFV.Lemmas.C19Integ
import DFV.Lemmas.C19Real
/-!
# C19 — Berg–Lüscher integrality with the REAL solid-angle formula

For unit vectors `a, b, c` the number whose argument `util.bergluescher_angle` takes,
`N(a,b,c) = 1 + a·b + b·c + c·a + i·a·(b×c)`, is — up to a positive factor — the product
`⟨a|b⟩⟨b|c⟩⟨c|a⟩` of spinor overlaps (`|a⟩⟨a| = (1 + a·σ)/2`).  Hence `arg N`, taken modulo `2π`, is the
coboundary of the antisymmetric link `θ(a,b) = arg⟨a|b⟩`, which is exactly the hypothesis of
`bl_closed_sum` for `φ : ℝ → ℝ/2πℤ`, `x ↦ 2πx`.
-/
namespace DFV.C19
open DFV Finset
open scoped ComplexConjugate

/-! ## spinors of rational unit vectors -/

/-- spinor of the unit vector `a` (first component), gauge fixed at the south pole -/
noncomputable def psi1 (a : V3) : ℂ := if a.z = -1 then 0 else (((1 + a.z : Rat) : ℝ) : ℂ)

noncomputable def psi2 (a : V3) : ℂ := if a.z = -1 then 1 else ⟨(a.x : ℝ), (a.y : ℝ)⟩

/-- `|a⟩⟨a| = lam a · (1 + a·σ)` -/
noncomputable def lam (a : V3) : ℝ := if a.z = -1 then 1 / 2 else ((1 + a.z : Rat) : ℝ)

theorem unit_z_range (a : V3) (h : a.normSq = 1) : -1 ≤ a.z ∧ a.z ≤ 1 := by
  simp only [V3.normSq, V3.dot] at h
  exact abs_le.mp (abs_le_one_iff_mul_self_le_one.mpr (by linarith [mul_self_nonneg a.x, mul_self_nonneg a.y]))

theorem unit_south (a : V3) (h : a.normSq = 1) (hz : a.z = -1) : a.x = 0 ∧ a.y = 0 := by
  simp only [V3.normSq, V3.dot, hz] at h
  have hx : a.x * a.x = 0 := by linarith [mul_self_nonneg a.x, mul_self_nonneg a.y]
  have hy : a.y * a.y = 0 := by linarith [mul_self_nonneg a.x, mul_self_nonneg a.y]
  exact ⟨mul_self_eq_zero.mp hx, mul_self_eq_zero.mp hy⟩

theorem lam_pos (a : V3) (h : a.normSq = 1) : 0 < lam a := by
  unfold lam
  split
  · norm_num
  · rename_i hz
    have := (unit_z_range a h).1
    have : (0 : Rat) < 1 + a.z := by
      rcases lt_or_eq_of_le this with h' | h'
      · linarith
      · exact absurd h'.symm hz
    exact_mod_cast this

theorem unit_real (a : V3) (h : a.normSq = 1) : (a.x : ℝ) * a.x + (a.y : ℝ) * a.y + (a.z : ℝ) * a.z = 1 := by
  simp only [V3.normSq, V3.dot] at h
  exact_mod_cast h

/-- `spin11` … `spin12`: the four products of spinor components.  Each is an identity between complex numbers built from literals;
`Complex.ext` splits it into real and imaginary part, `simp` evaluates `re` / `im` of the literals (at the south pole, the first
branch, with `x = y = 0`), and what is left is polynomial. -/
theorem spin11 (a : V3) : psi1 a * conj (psi1 a) = ((lam a * (1 + (a.z : ℝ)) : ℝ) : ℂ) := by
  unfold psi1 lam
  split
  · rename_i hz; simp [hz]
  · apply Complex.ext <;> simp

theorem spin22 (a : V3) (h : a.normSq = 1) : psi2 a * conj (psi2 a) = ((lam a * (1 - (a.z : ℝ)) : ℝ) : ℂ) := by
  unfold psi2 lam
  split
  · rename_i hz; simp [hz]; norm_num
  · have hr := unit_real a h
    apply Complex.ext
    · simp; linarith
    · simp; ring

theorem spin21 (a : V3) (h : a.normSq = 1) : psi2 a * conj (psi1 a) = ((lam a : ℝ) : ℂ) * ⟨(a.x : ℝ), (a.y : ℝ)⟩ := by
  unfold psi2 psi1 lam
  split
  · rename_i hz
    obtain ⟨hx, hy⟩ := unit_south a h hz
    apply Complex.ext <;> simp [hx, hy]
  · apply Complex.ext <;> simp <;> ring

theorem spin12 (a : V3) (h : a.normSq = 1) : psi1 a * conj (psi2 a) = ((lam a : ℝ) : ℂ) * ⟨(a.x : ℝ), -(a.y : ℝ)⟩ := by
  unfold psi2 psi1 lam
  split
  · rename_i hz
    obtain ⟨hx, hy⟩ := unit_south a h hz
    apply Complex.ext <;> simp [hx, hy]
  · apply Complex.ext <;> simp

/-- the overlap `⟨a|b⟩` -/
noncomputable def link (a b : V3) : ℂ := conj (psi1 a) * psi1 b + conj (psi2 a) * psi2 b

theorem link_conj (a b : V3) : link b a = conj (link a b) := by
  unfold link
  simp only [map_add, map_mul, Complex.conj_conj]
  ring

theorem link_self (a : V3) (h : a.normSq = 1) : link a a = ((2 * lam a : ℝ) : ℂ) := by
  unfold link
  rw [mul_comm (conj (psi1 a)), mul_comm (conj (psi2 a)), spin11 a, spin22 a h]
  push_cast; ring

/-- `⟨a|b⟩⟨b|a⟩ = 2 λ_a λ_b (1 + a·b)` -/
theorem link_norm (a b : V3) (ha : a.normSq = 1) (hb : b.normSq = 1) :
    link a b * link b a = ((2 * lam a * lam b * (1 + ((V3.dot a b : Rat) : ℝ)) : ℝ) : ℂ) := by
  have expand : link a b * link b a
      = (psi1 a * conj (psi1 a)) * (psi1 b * conj (psi1 b)) + (psi2 a * conj (psi1 a)) * (psi1 b * conj (psi2 b))
        + (psi1 a * conj (psi2 a)) * (psi2 b * conj (psi1 b)) + (psi2 a * conj (psi2 a)) * (psi2 b * conj (psi2 b)) := by
    unfold link; ring
  rw [expand, spin11 a, spin11 b, spin22 a ha, spin22 b hb, spin21 a ha, spin21 b hb, spin12 a ha, spin12 b hb]
  simp only [V3.dot]
  apply Complex.ext
  · simp; ring
  · simp; ring

/-- `⟨a|b⟩⟨b|c⟩⟨c|a⟩ = 2 λ_a λ_b λ_c · N(a, b, c)` -/
theorem link_triple (a b c : V3) (ha : a.normSq = 1) (hb : b.normSq = 1) (hc : c.normSq = 1) :
    link a b * link b c * link c a = ((2 * lam a * lam b * lam c : ℝ) : ℂ) * nC (triOf a b c) := by
  have expand : link a b * link b c * link c a
      = (psi1 a * conj (psi1 a)) * (psi1 b * conj (psi1 b)) * (psi1 c * conj (psi1 c))
        + (psi1 a * conj (psi1 a)) * (psi1 b * conj (psi2 b)) * (psi2 c * conj (psi1 c))
        + (psi1 a * conj (psi2 a)) * (psi2 b * conj (psi1 b)) * (psi1 c * conj (psi1 c))
        + (psi1 a * conj (psi2 a)) * (psi2 b * conj (psi2 b)) * (psi2 c * conj (psi1 c))
        + (psi2 a * conj (psi1 a)) * (psi1 b * conj (psi1 b)) * (psi1 c * conj (psi2 c))
        + (psi2 a * conj (psi1 a)) * (psi1 b * conj (psi2 b)) * (psi2 c * conj (psi2 c))
        + (psi2 a * conj (psi2 a)) * (psi2 b * conj (psi1 b)) * (psi1 c * conj (psi2 c))
        + (psi2 a * conj (psi2 a)) * (psi2 b * conj (psi2 b)) * (psi2 c * conj (psi2 c)) := by
    unfold link; ring
  rw [expand, spin11 a, spin11 b, spin11 c, spin22 a ha, spin22 b hb, spin22 c hc,
    spin21 a ha, spin21 b hb, spin21 c hc, spin12 a ha, spin12 b hb, spin12 c hc]
  simp only [nC, triOf, V3.dot, V3.cross]
  apply Complex.ext
  · simp; ring
  · simp; ring

/-! ## the link angle and the coboundary property of the real solid angle -/

/-- `θ(a, b) = arg⟨a|b⟩` modulo `2π` -/
noncomputable def linkAngle (a b : V3) : Real.Angle := ((Complex.arg (link a b) : ℝ) : Real.Angle)

theorem linkAngle_anti (a b : V3) : linkAngle b a = -linkAngle a b := by
  unfold linkAngle
  rw [link_conj a b, Complex.arg_conj_coe_angle]

theorem linkAngle_self (r : V3) (h : r.normSq = 1) : linkAngle r r = 0 := by
  unfold linkAngle
  rw [link_self r h, Complex.arg_ofReal_of_nonneg (by have := lam_pos r h; linarith)]
  rfl

/-- `x ↦ 2πx` modulo `2π`: its kernel is `ℤ` -/
noncomputable def turns : ℝ →+ Real.Angle := Real.Angle.coeHom.comp (AddMonoidHom.mulLeft (2 * Real.pi))

theorem turns_apply (x : ℝ) : turns x = ((2 * Real.pi * x : ℝ) : Real.Angle) := rfl

theorem turns_eq_zero (x : ℝ) (h : turns x = 0) : ∃ k : ℤ, x = k := by
  rw [turns_apply, Real.Angle.coe_eq_zero_iff] at h
  obtain ⟨n, hn⟩ := h
  refine ⟨n, ?_⟩
  have hp : (2 * Real.pi) ≠ 0 := by have := Real.pi_pos; positivity
  rw [zsmul_eq_mul] at hn
  have : (2 * Real.pi) * x = (2 * Real.pi) * n := by rw [← hn]; ring
  exact mul_left_cancel₀ hp this

theorem one_add_dot_pos (a b : V3) (ha : a.normSq = 1) (hb : b.normSq = 1) (h : 1 + V3.dot a b ≠ 0) :
    (0 : ℝ) < 1 + ((V3.dot a b : Rat) : ℝ) := by
  have := (dot_unit_range a b ha hb).1
  have : (0 : Rat) < 1 + V3.dot a b := by
    rcases lt_or_eq_of_le this with h' | h'
    · linarith
    · exfalso; apply h; rw [← h']; ring
  exact_mod_cast this

theorem link_ne_zero (a b : V3) (ha : a.normSq = 1) (hb : b.normSq = 1) (h : 1 + V3.dot a b ≠ 0) : link a b ≠ 0 := by
  intro h0
  have := link_norm a b ha hb
  rw [h0, zero_mul] at this
  have hp : (0 : ℝ) < 2 * lam a * lam b * (1 + ((V3.dot a b : Rat) : ℝ)) := by
    have := lam_pos a ha; have := lam_pos b hb; have := one_add_dot_pos a b ha hb h
    positivity
  have : ((2 * lam a * lam b * (1 + ((V3.dot a b : Rat) : ℝ)) : ℝ) : ℂ) = 0 := this.symm
  rw [Complex.ofReal_eq_zero] at this
  linarith

/-- `arg N(a,b,c) = θ(a,b) + θ(b,c) + θ(c,a)` modulo `2π` -/
theorem arg_nC_cob (a b c : V3) (h : GoodTri a b c) :
    ((Complex.arg (nC (triOf a b c)) : ℝ) : Real.Angle) = linkAngle a b + linkAngle b c + linkAngle c a := by
  obtain ⟨ha, hb, hc, hab, hbc, hca, _⟩ := h
  have n1 := link_ne_zero a b ha hb hab
  have n2 := link_ne_zero b c hb hc hbc
  have n3 := link_ne_zero c a hc ha hca
  have hp : (0 : ℝ) < 2 * lam a * lam b * lam c := by
    have := lam_pos a ha; have := lam_pos b hb; have := lam_pos c hc
    positivity
  unfold linkAngle
  rw [← Complex.arg_mul_coe_angle n1 n2, ← Complex.arg_mul_coe_angle (mul_ne_zero n1 n2) n3,
    link_triple a b c ha hb hc, Complex.arg_real_mul _ hp]

theorem goodTri_rho (a b c : V3) (h : GoodTri a b c) :
    0 < 2 * (1 + ((triOf a b c).d12 : ℝ)) * (1 + (triOf a b c).d23) * (1 + (triOf a b c).d31) := by
  obtain ⟨ha, hb, hc, hab, hbc, hca, _⟩ := h
  have p1 := one_add_dot_pos a b ha hb hab
  have p2 := one_add_dot_pos b c hb hc hbc
  have p3 := one_add_dot_pos c a hc ha hca
  simp only [triOf]
  positivity

/-- THE REAL SOLID ANGLE IS A COBOUNDARY MODULO THE FULL SPHERE: on a good triangle
`2π · bergluescher_angle(a, b, c) ≡ θ(a,b) + θ(b,c) + θ(c,a)  (mod 2π)` -/
theorem omegaR_cob (a b c : V3) (h : GoodTri a b c) : Cob turns omegaR linkAngle a b c := by
  unfold Cob
  rw [← arg_nC_cob a b c h]
  unfold blAngleK
  by_cases ht : (triOf a b c).t = 0
  · rw [if_pos ht, map_zero]
    have hre := h.2.2.2.2.2.2 ht
    have : nC (triOf a b c) = (((1 + V3.dot a b + V3.dot b c + V3.dot c a : Rat) : ℝ) : ℂ) := by
      apply Complex.ext
      · simp [nC, triOf]
      · simp only [nC, Complex.ofReal_im]; exact_mod_cast ht
    rw [this, Complex.arg_ofReal_of_nonneg (by exact_mod_cast hre.le)]
    rfl
  · rw [if_neg ht, turns_apply, omegaR_eq_arg _ (goodTri_rho a b c h)]
    congr 1
    have := Real.pi_pos
    field_simp
    ring

/-! ## integrality of the lattice charge with the real formula -/

/-- the Berg–Lüscher density value of cell `i` of `field` with the REAL solid-angle formula `omegaR`: the case `K = ℝ` of
`tcdBLAtK` -/
noncomputable def tcdBLReal (sq : Rat → Rat) (f : Fld) (i : List Nat) : ℝ :=
  tcdBLAtK omegaR (orientation sq f) (i.getD 0 0) (i.getD 1 0)

/-- the lattice (Berg–Lüscher) charge of `field` with the REAL solid-angle formula: the sum of the
density over all cells times the cell area -/
noncomputable def chargeBLReal (sq : Rat → Rat) (f : Fld) : ℝ :=
  ∑ i ∈ range (f.mesh.nAt 0), ∑ j ∈ range (f.mesh.nAt 1),
    tcdBLReal sq f [i, j] * (((f.mesh.cellAt 0 * f.mesh.cellAt 1 : Rat)) : ℝ)

/-- it is the lattice charge of the orientation field with the real leaf (`orientation` keeps the mesh, so both sums run over the same
cells with the same area) -/
theorem chargeBLReal_eq (sq : Rat → Rat) (f : Fld) : chargeBLReal sq f = latticeCharge omegaR (orientation sq f) := rfl

theorem squareCob_real (o : Fld) (r : V3) (hs : ClosedSheet o r) (i j : Nat) (hi : i + 1 < o.mesh.nAt 0)
    (hj : j + 1 < o.mesh.nAt 1) : SquareCob turns omegaR linkAngle o i j := by
  obtain ⟨g1, g2, g3, g4⟩ := hs.good i j hi hj
  exact ⟨omegaR_cob _ _ _ g1, omegaR_cob _ _ _ g2, omegaR_cob _ _ _ g3, omegaR_cob _ _ _ g4⟩

/-- a triangle covering less than a quarter of the sphere has `|Ω| < 1/4` (of the full sphere) -/
theorem blAngle_small (a b c : V3) (hg : GoodTri a b c) (h : SmallTri a b c) :
    |blAngleK omegaR (triOf a b c)| < 1 / 4 := by
  unfold blAngleK
  split
  · simp
  · rw [omegaR_eq_arg _ (goodTri_rho a b c hg)]
    have hre : 0 < (nC (triOf a b c)).re := by
      unfold SmallTri at h
      simp only [nC, triOf]
      exact_mod_cast h
    have := Complex.abs_arg_lt_pi_div_two_iff.mpr (Or.inl hre)
    have hp := Real.pi_pos
    rw [abs_div, abs_mul, abs_of_pos (by positivity : (0 : ℝ) < 4 * Real.pi), abs_of_pos (by norm_num : (0 : ℝ) < 2),
      div_lt_iff₀ (by positivity)]
    linarith

/-- four numbers below a quarter in absolute value whose alternating sum is an integer: the integer is `0` -/
theorem small_int_eq (x1 x2 x3 x4 : ℝ) (k : ℤ) (h1 : |x1| < 1 / 4) (h2 : |x2| < 1 / 4) (h3 : |x3| < 1 / 4) (h4 : |x4| < 1 / 4)
    (hk : x1 + x3 - (x2 + x4) = k) : x1 + x3 = x2 + x4 := by
  rw [abs_lt] at h1 h2 h3 h4
  have hk0 : k = 0 := by
    by_contra hne
    have h : (1 : ℝ) ≤ |(k : ℝ)| := by exact_mod_cast Int.one_le_abs hne
    rw [← hk, le_abs] at h
    rcases h with h | h <;> linarith
  rw [hk0, Int.cast_zero] at hk
  linarith

end DFV.C19
