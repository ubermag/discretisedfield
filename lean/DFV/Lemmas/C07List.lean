import DFV.Lemmas.ListOps
import DFV.Model.C07
/-! List plumbing for C07: `skip` (the axis map of `removeAt`), `insertAt`, `natsToInts`; `setAt` /
`removeAt` come from `Lemmas/ListOps`. -/
namespace DFV.C07
open DFV

/-- source axis of result axis `b` when axis `a` has been removed -/
def skip (a b : Nat) : Nat := if b < a then b else b + 1

/-- `DFV.getD_removeAt` with the axis map written as `skip` -/
theorem getD_removeAt {α} (l : List α) (a b : Nat) (d : α) :
    (removeAt l a).getD b d = l.getD (skip a b) d :=
  DFV.getD_removeAt l a b d

theorem skip_ne (a b : Nat) : skip a b ≠ a := by unfold skip; split <;> omega
/-- the position of axis `b` after axis `a ≠ b` has been removed is mapped back to `b` -/
theorem skip_pred {a b : Nat} (hab : a ≠ b) : skip a (if b < a then b else b - 1) = b := by
  unfold skip
  by_cases h : b < a
  · rw [if_pos h, if_pos h]
  · rw [if_neg h, if_neg (by omega)]; omega

theorem skip_lt (a b n : Nat) (ha : a < n) (hb : b < n - 1) : skip a b < n := by
  unfold skip; split <;> omega

theorem length_insertAt {α} (l : List α) (a : Nat) (x : α) : (insertAt l a x).length = l.length + 1 :=
  length_take_cons_drop l a x

theorem getD_insertAt_eq {α} (l : List α) (a : Nat) (x d : α) (ha : a ≤ l.length) :
    (insertAt l a x).getD a d = x :=
  getD_take_cons_drop_self l a x d ha

theorem getD_insertAt_skip {α} (l : List α) (a b : Nat) (x d : α) (ha : a ≤ l.length) :
    (insertAt l a x).getD (skip a b) d = l.getD b d :=
  getD_take_cons_drop_skip l a b x d ha

theorem getD_natsToInts (l : List Nat) (a : Nat) : (natsToInts l).getD a 0 = ((l.getD a 0 : Nat) : Int) :=
  getD_map_of_eq rfl l a

theorem length_natsToInts (l : List Nat) : (natsToInts l).length = l.length := by
  simp [natsToInts]

theorem eq_tab_self (j : List Nat) (n : Nat) (h : j.length = n) : j = tab n fun a => j.getD a 0 :=
  h ▸ (tab_getD_self j 0).symm

theorem insertAt_comm {α} (l : List α) (a b : Nat) (x y : α) (hab : a ≤ b) (hb : b ≤ l.length) :
    insertAt (insertAt l b y) a x = insertAt (insertAt l a x) (b + 1) y := by
  induction l generalizing a b with
  | nil =>
    have : b = 0 := by simpa using hb
    subst this
    have : a = 0 := by omega
    subst this
    simp [insertAt]
  | cons z zs ih =>
    cases a with
    | zero => simp [insertAt]
    | succ a =>
      cases b with
      | zero => omega
      | succ b =>
        have := ih a b (by omega) (by simpa using hb)
        simp only [insertAt, List.take_succ_cons, List.drop_succ_cons, List.cons_append] at this ⊢
        rw [this]

theorem removeAt_comm {α} (l : List α) {a b : Nat} (hab : a < b) :
    removeAt (removeAt l a) (b - 1) = removeAt (removeAt l b) a :=
  removeAt_removeAt l a b a (b - 1) (by rw [if_neg (by omega)]; omega) (if_pos hab)

end DFV.C07
