import DFV.Lemmas.C06Subs
import DFV.Lemmas.C06Spec
import DFV.Lemmas.C13StepM
import DFV.Model.C06Hist
/-! In-place histories (C06).  An in-place step applies one region operation to the region and, for a step on the mesh
object, to every subregion; on a box with positive extents the result is the image of the box under an axis-wise affine
map `x ↦ β + α·x`, `α ≠ 0`, corners sorted again (`stepImage`, `stepOp_target`: C14Step's `T.applyR_axMap`, for boxes of
which only `lo < hi` is known, as of stored subregions).  From this: the geometry after a step and after a history
(`hstepM_spec`, `runH_spec`), fitting subregions stay fitting (`C14.fitsE_axmap`), the spec values after a history. -/
namespace DFV.C06
open DFV DFV.T

/-! ## products of tabulated factors -/

theorem ratProd_tab_mul (k : Nat) (f g : Nat → Rat) :
    ratProd (tab k fun a => f a * g a) = ratProd (tab k f) * ratProd (tab k g) := by
  induction k with
  | zero => simp [tab, ratProd]
  | succ k ih =>
    rw [tab_succ, tab_succ, tab_succ, C01.ratProd_snoc, C01.ratProd_snoc, C01.ratProd_snoc, ih]
    ring

theorem ratProd_tab_one (k : Nat) : ratProd (tab k fun _ => (1 : Rat)) = 1 := by
  induction k with
  | zero => simp [tab, ratProd]
  | succ k ih => rw [tab_succ, C01.ratProd_snoc, ih]; ring

/-! ## one in-place step -/

/-- the region operation of an in-place step, a scaling's reference point fixed to the mesh's -/
def stepOp (m : Mesh) : HStep → Region → M (Region × Region)
  | .scaleMesh f ref, r => scaleR r f (subRef m ref) true
  | .scaleRegion f ref, r => scaleR r f (subRef m ref) true
  | .translateMesh v, r => translateR r v true
  | .translateRegion v, r => translateR r v true

/-- does the step transform the subregions too? -/
def HStep.onSubs : HStep → Bool
  | .scaleMesh _ _ => true
  | .translateMesh _ => true
  | _ => false

/-- slope `α` of the step's map on axis `a` -/
def stepSlope : HStep → Nat → Rat
  | .scaleMesh f _, a => f.at a
  | .scaleRegion f _, a => f.at a
  | _, _ => 1

/-- offset `β` of the step's map on axis `a` -/
def stepShift (m : Mesh) : HStep → Nat → Rat
  | .scaleMesh f ref, a => (ref.getD m.region.center).getD a 0 * (1 - f.at a)
  | .scaleRegion f ref, a => (ref.getD m.region.center).getD a 0 * (1 - f.at a)
  | .translateMesh v, a => v.getD a 0
  | .translateRegion v, a => v.getD a 0

theorem stepFac_eq (s : HStep) (a : Nat) : stepFac s a = |stepSlope s a| := by
  cases s with
  | scaleMesh f ref => exact absR_eq_abs _
  | scaleRegion f ref => exact absR_eq_abs _
  | translateMesh v => exact abs_one.symm
  | translateRegion v => exact abs_one.symm

/-- the image of a box under the axis-wise map `x ↦ β + α·x` of a step, corners sorted again -/
def stepImage (m : Mesh) (s : HStep) (r : Region) : Region :=
  target r (fun a => stepShift m s a + stepSlope s a * r.lo a) (fun a => stepShift m s a + stepSlope s a * r.hi a) r.units

/-- the step's region operation returns its receiver, and on a box with positive extents the receiver is the image
of the box under the step's map, whose slopes are not zero -/
theorem stepOp_target (m : Mesh) (s : HStep) (r r' ret : Region) (h : stepOp m s r = .ok (r', ret)) :
    ret = r' ∧ ((∀ a, a < r.ndim → r.lo a < r.hi a) →
      (∀ a, a < r.ndim → stepSlope s a ≠ 0) ∧ r' = stepImage m s r) := by
  have hscale : ∀ f ref, scaleR r f (subRef m ref) true = .ok (r', ret) →
      ret = r' ∧ (∀ a, a < r.ndim → f.at a ≠ 0) ∧
      r' = target r (fun a => (ref.getD m.region.center).getD a 0 * (1 - f.at a) + f.at a * r.lo a)
        (fun a => (ref.getD m.region.center).getD a 0 * (1 - f.at a) + f.at a * r.hi a) r.units := by
    intro f ref h
    obtain ⟨_, _, hne, rfl, hrecv⟩ := scaleR_inv r f _ true r' ret h
    rw [if_pos rfl] at hrecv
    subst hrecv
    refine ⟨rfl, fun a ha h0 => hne a ha (by rw [scaleLo_eq, scaleHi_eq, h0, zero_mul, zero_mul]), ?_⟩
    rw [subRef_getD]
    exact target_congr _ _ _ _ _ _ (fun a _ => by rw [scaleLo_eq]; ring) (fun a _ => by rw [scaleHi_eq]; ring)
  have htrans : ∀ v, translateR r v true = .ok (r', ret) →
      ret = r' ∧ ((∀ a, a < r.ndim → r.lo a < r.hi a) →
        r' = target r (fun a => v.getD a 0 + 1 * r.lo a) (fun a => v.getD a 0 + 1 * r.hi a) r.units) := by
    intro v h
    have e := translateR_recv r v true r' ret h
    rw [if_pos rfl] at e
    refine ⟨e.symm, fun hlt => ?_⟩
    rw [e, ((translateR_inplace_iff r hlt v r' ret).mp h).2.1]
    exact target_congr _ _ _ _ _ _ (fun a _ => by ring) (fun a _ => by ring)
  cases s with
  | scaleMesh f ref => exact ⟨(hscale f ref h).1, fun _ => (hscale f ref h).2⟩
  | scaleRegion f ref => exact ⟨(hscale f ref h).1, fun _ => (hscale f ref h).2⟩
  | translateMesh v => exact ⟨(htrans v h).1, fun hlt => ⟨fun _ _ => one_ne_zero, (htrans v h).2 hlt⟩⟩
  | translateRegion v => exact ⟨(htrans v h).1, fun hlt => ⟨fun _ _ => one_ne_zero, (htrans v h).2 hlt⟩⟩

/-- an accepted in-place `mesh.scale` / `mesh.translate` (no change of counts or `bc`): the region and every
subregion are replaced by the results of the region step -/
theorem stepM_inplace_unpack (m : Mesh) (op : Op) (hi : op.inplace = true) (hN : opN m op = m.n) (hB : opBc m op = m.bc)
    (recv ret : Mesh) (h : stepM m op = .ok (recv, ret)) :
    ∃ r' subs', stepR m.region op = .ok (r', r') ∧ recv = { m with region := r', subs := subs' } ∧
      mapSubs m.subs (fun s => stepR s (subOp m op)) = .ok subs' := by
  obtain ⟨x, r', subs', hr, hsubs, hcase⟩ := stepM_ok m op recv ret h
  rw [if_pos hi, hN, hB] at hcase
  obtain ⟨rfl, rfl⟩ := hcase
  have hx := stepR_recv _ _ _ _ hr
  rw [if_pos hi] at hx
  exact ⟨r', subs', hx ▸ hr, rfl, hsubs⟩

theorem hstepM_unpack (m : Mesh) (s : HStep) (m' : Mesh) (h : hstepM m s = .ok m') :
    ∃ r' subs', stepOp m s m.region = .ok (r', r') ∧ m' = { m with region := r', subs := subs' } ∧
      (if s.onSubs then mapSubs m.subs (stepOp m s) = .ok subs' else subs' = m.subs) := by
  -- steps on the mesh object go through `stepM`, steps on the region object call the region
  -- operation directly
  cases s with
  | scaleMesh _ _ | translateMesh _ =>
    simp only [hstepM] at h
    split at h
    · cases h
    · rename_i mm ret hstep
      cases h
      exact stepM_inplace_unpack m _ rfl rfl rfl _ _ hstep
  | scaleRegion f ref =>
    simp only [hstepM] at h
    split at h
    · cases h
    · rename_i r' ret hr
      injection h with h
      obtain rfl := (stepOp_target m (.scaleRegion f ref) m.region r' ret hr).1
      exact ⟨_, m.subs, hr, h.symm, rfl⟩
  | translateRegion v =>
    simp only [hstepM] at h
    split at h
    · cases h
    · rename_i r' ret hr
      injection h with h
      obtain rfl := (stepOp_target m (.translateRegion v) m.region r' ret hr).1
      exact ⟨_, m.subs, hr, h.symm, rfl⟩

theorem stepImage_region (m : Mesh) (s : HStep) (r : Region) (hr : r.Inv) (hα : ∀ a, a < r.ndim → stepSlope s a ≠ 0) :
    (stepImage m s r).Inv ∧ ∀ a, a < r.ndim → (stepImage m s r).edge a = stepFac s a * r.edge a := by
  refine ⟨target_inv r hr _ _ _ hr.units_length fun a ha h => (hr.lo_lt_hi ha).ne
    (mul_left_cancel₀ (hα a ha) (add_left_cancel h)), fun a ha => ?_⟩
  unfold Region.edge stepImage
  rw [target_lo _ _ _ _ _ ha, target_hi _ _ _ _ _ ha, max_sub_min_eq_abs, stepFac_eq, add_sub_add_left_eq_sub, ← mul_sub,
    abs_mul, abs_of_pos (sub_pos.mpr (hr.lo_lt_hi ha))]

/-- the mesh object after one in-place step: same cell counts and names, every edge (hence
every cell length) multiplied by the step's factor of that axis -/
theorem hstepM_spec (m : Mesh) (hm : m.Inv) (s : HStep) (m' : Mesh) (h : hstepM m s = .ok m') :
    m'.Inv ∧ m'.n = m.n ∧ m'.region.dims = m.region.dims ∧ m'.ndim = m.ndim ∧
    ∀ a, a < m.ndim → m'.cellAt a = stepFac s a * m.cellAt a := by
  obtain ⟨r', subs', hr, rfl, _⟩ := hstepM_unpack m s m' h
  obtain ⟨hα, rfl⟩ := (stepOp_target m s m.region r' r' hr).2 fun _ ha => hm.lo_lt_hi ha
  obtain ⟨hinv, he⟩ := stepImage_region m s m.region hm.1 hα
  have hl : (stepImage m s m.region).ndim = m.ndim := target_ndim _ _ _ _
  refine ⟨⟨hinv, hm.n_length.trans hl.symm, fun a ha => hm.nAt_pos (hl ▸ ha)⟩, rfl, rfl, hl, fun a ha => ?_⟩
  show (stepImage m s m.region).edge a / (m.nAt a : Rat) = _
  rw [he a ha, mul_div_assoc]
  rfl

/-- a property of the field that every accepted step preserves holds after the whole history (a rejected step
changes nothing) -/
theorem runH_induct {P : Fld → Prop} (steps : List HStep)
    (hP : ∀ s ∈ steps, ∀ (f : Fld) (m' : Mesh), P f → hstepM f.mesh s = .ok m' → P { f with mesh := m' }) :
    ∀ f, P f → P (runH f steps) := by
  induction steps with
  | nil => exact fun _ h => h
  | cons s rest ih =>
    intro f hf
    have ih' := ih fun s' hs' => hP s' (List.mem_cons_of_mem _ hs')
    cases hs : hstepM f.mesh s with
    | error e => simp only [runH, hstep, hs]; exact ih' f hf
    | ok m' => simp only [runH, hstep, hs]; exact ih' _ (hP s List.mem_cons_self f m' hf hs)

/-- `g` is `f` after the history `steps`: well formed, same arrays, same cell counts and names, every cell length
multiplied by the accumulated factor of its axis -/
structure AfterHist (f : Fld) (steps : List HStep) (g : Fld) : Prop where
  wf : WF g
  data : g.data = f.data
  nvdim : g.nvdim = f.nvdim
  n : g.mesh.n = f.mesh.n
  dims : g.mesh.region.dims = f.mesh.region.dims
  ndim : g.mesh.ndim = f.mesh.ndim
  cellAt : ∀ a, a < f.mesh.ndim → g.mesh.cellAt a = histFac f.mesh a steps * f.mesh.cellAt a

theorem runH_spec (steps : List HStep) : ∀ (f : Fld), WF f → AfterHist f steps (runH f steps) := by
  induction steps with
  | nil => exact fun f hf => ⟨hf, rfl, rfl, rfl, rfl, rfl, fun a _ => (one_mul _).symm⟩
  | cons s rest ih =>
    intro f hf
    show AfterHist f (s :: rest) (runH (hstep f s) rest)
    cases hs : hstepM f.mesh s with
    | error e =>
      have hstep : hstep f s = f := by simp only [hstep, hs]
      rw [hstep]
      have h := ih f hf
      exact ⟨h.wf, h.data, h.nvdim, h.n, h.dims, h.ndim, fun a ha => by rw [h.cellAt a ha]; simp only [histFac, hs]⟩
    | ok m' =>
      obtain ⟨hinv, hn, hd, hnd, hc⟩ := hstepM_spec f.mesh hf.1 s m' hs
      have hstep : hstep f s = { f with mesh := m' } := by simp only [hstep, hs]
      rw [hstep]
      have h := ih { f with mesh := m' } ⟨hinv, by show f.data.shape = m'.n; rw [hn]; exact hf.2⟩
      refine ⟨h.wf, h.data, h.nvdim, h.n.trans hn, h.dims.trans hd, h.ndim.trans hnd, fun a ha => ?_⟩
      rw [h.cellAt a (by show a < m'.ndim; rw [hnd]; exact ha)]
      show histFac m' a rest * m'.cellAt a = _
      rw [hc a ha]
      simp only [histFac, hs]
      ring

/-! ## spec values after a history: shapes and mean values do not change, the cell volume is
multiplied by `histVol`, a directional integral by the factor of its axis -/

theorem dV_runH (f : Fld) (hf : WF f) (steps : List HStep) :
    dV (runH f steps).mesh = histVol f.mesh steps * dV f.mesh := by
  have h := runH_spec steps f hf
  unfold dV histVol Mesh.cell
  rw [h.ndim, ← ratProd_tab_mul]
  congr 1
  exact tab_congr _ _ _ h.cellAt

theorem ival_runH_name (f : Fld) (hf : WF f) (steps : List HStep) (d : String) (ax : Nat)
    (hax : f.mesh.region.dim2index d = .ok ax) (cum : Bool) (i : List Nat) (c : Nat) :
    ival (runH f steps) (.name d) cum i c = histFac f.mesh ax steps * ival f (.name d) cum i c := by
  have h := runH_spec steps f hf
  have hnat : (runH f steps).mesh.nAt ax = f.mesh.nAt ax := by unfold Mesh.nAt; rw [h.n]
  simp only [ival, dim2index_congr _ _ h.dims, hax, h.data, h.cellAt ax (hf.1.dim2index_lt hax), hnat]
  cases cum with
  | true => simp only [if_true]; ring
  | false => simp only [Bool.false_eq_true, if_false]; ring

theorem ishape_runH (f : Fld) (hf : WF f) (steps : List HStep) (dir : Dir) (cum : Bool) :
    ishape (runH f steps) dir cum = ishape f dir cum := by
  have h := runH_spec steps f hf
  cases dir with
  | name d => simp only [ishape, dim2index_congr _ _ h.dims, h.n]
  | none => rfl
  | names ds => rfl
  | other => rfl

theorem mval_runH (f : Fld) (hf : WF f) (steps : List HStep) (dir : Dir) (i : List Nat) (c : Nat) :
    mval (runH f steps) dir i c = mval f dir i c :=
  mval_congr _ _ (runH_spec steps f hf).dims (runH_spec steps f hf).data dir i c

theorem mshape_runH (f : Fld) (hf : WF f) (steps : List HStep) (dir : Dir) :
    mshape (runH f steps) dir = mshape f dir :=
  mshape_congr _ _ (runH_spec steps f hf).dims (congrArg _ (runH_spec steps f hf).data) dir

theorem histFac_translations (steps : List HStep) (hall : ∀ s ∈ steps, ∀ a, stepFac s a = 1) :
    ∀ (m : Mesh) (a : Nat), histFac m a steps = 1 := by
  induction steps with
  | nil => intro m a; rfl
  | cons s rest ih =>
    intro m a
    have ih' := ih (fun s' hs' => hall s' (by simp [hs']))
    simp only [histFac]
    split
    · rw [hall s (by simp) a, ih']; ring
    · exact ih' m a

/-! ## subregions through in-place steps -/

/-- `mesh.scale(…, inplace=True)` / `mesh.translate(…, inplace=True)` keep the subregions
fitting the mesh: region and subregions go through the same axis-wise map (`C14.fitsE_axmap`) -/
theorem subsFit_hstepM_mesh (m : Mesh) (hm : m.Inv) (hfit : SubsFit m) (s : HStep) (m' : Mesh)
    (hs : (∃ f ref, s = .scaleMesh f ref) ∨ (∃ v, s = .translateMesh v)) (h : hstepM m s = .ok m') :
    SubsFit m' := by
  obtain ⟨r', subs', hr, rfl, hsubs⟩ := hstepM_unpack m s m' h
  obtain ⟨hα, rfl⟩ := (stepOp_target m s m.region r' r' hr).2 fun _ ha => hm.lo_lt_hi ha
  have hon : s.onSubs = true := by rcases hs with ⟨f, ref, rfl⟩ | ⟨v, rfl⟩ <;> rfl
  rw [if_pos hon] at hsubs
  intro q hq
  obtain ⟨p, hp, recv, hfp⟩ := (mapSubs_ok_mem m.subs subs' _ hsubs).2 q hq
  have hpf := hfit p hp
  obtain ⟨rfl, hqi⟩ := stepOp_target m s p.2 recv q.2 hfp
  obtain ⟨_, hq2⟩ := hqi fun a ha => subFits_lo_lt_hi m hm p.2 hpf a (hpf.1 ▸ ha)
  exact subFits_of_fitsE _ _ (C14.fitsE_axmap m _ hm p.2 q.2 id (stepShift m s) (stepSlope s) _ _ (fun _ ha => ha) hα rfl
    (fun _ _ => rfl) hq2 (fitsE_of_subFits m p.2 hpf))

theorem subsFit_runH (steps : List HStep)
    (hall : ∀ s ∈ steps, (∃ f ref, s = HStep.scaleMesh f ref) ∨ (∃ v, s = HStep.translateMesh v))
    (f : Fld) (hf : WF f) (hfit : SubsFit f.mesh) : SubsFit (runH f steps).mesh :=
  (runH_induct (P := fun f => WF f ∧ SubsFit f.mesh) steps (fun s hs f m' hP h =>
    have hsp := hstepM_spec f.mesh hP.1.1 s m' h
    ⟨⟨hsp.1, hP.1.2.trans hsp.2.1.symm⟩, subsFit_hstepM_mesh f.mesh hP.1.1 hP.2 s m' (hall s hs) h⟩) f ⟨hf, hfit⟩).2

theorem hstepM_subs_nil (m : Mesh) (hsubs : m.subs = []) (s : HStep) (m' : Mesh) (h : hstepM m s = .ok m') :
    m'.subs = [] := by
  obtain ⟨r', subs', _, rfl, hs'⟩ := hstepM_unpack m s m' h
  show subs' = []
  split at hs'
  · rw [hsubs] at hs'
    exact (Except.ok.inj hs').symm
  · rw [hs', hsubs]

theorem runH_subs_nil (steps : List HStep) : ∀ (f : Fld), f.mesh.subs = [] → (runH f steps).mesh.subs = [] :=
  runH_induct steps fun s _ f m' hsubs h => hstepM_subs_nil f.mesh hsubs s m' h

/-! ## moving a mesh together with its subregions -/

theorem subsFit_translate (t : List Rat) (f : Fld) (hf : f.mesh.Inv) (hfit : SubsFit f.mesh) :
    SubsFit (translate t f).mesh := by
  intro q hq
  have hq' : q ∈ f.mesh.subs.map fun p => (p.1, shiftRegion t p.2) := hq
  obtain ⟨p, hp, rfl⟩ := List.mem_map.mp hq'
  obtain ⟨h1, h2, h3⟩ := hfit p hp
  have hnd := translate_ndim t f
  refine ⟨?_, ?_, ?_⟩
  · show (shiftRegion t p.2).pmin.length = _
    rw [hnd]; simp [shiftRegion]; exact h1
  · show (shiftRegion t p.2).pmax.length = _
    rw [hnd]; simp [shiftRegion]; exact h2
  · intro a ha
    rw [hnd] at ha
    obtain ⟨z, w, hw, hzw, hlo, hhi⟩ := h3 a ha
    refine ⟨z, w, hw, hzw, ?_, ?_⟩
    · show (shiftRegion t p.2).lo a = (shiftRegion t f.mesh.region).lo a + _
      rw [shift_lo t _ a (by rw [h1]; exact ha), shift_lo t _ a ha, translate_cellAt t f hf a ha, hlo]
      ring
    · show (shiftRegion t p.2).hi a = (shiftRegion t p.2).lo a + _
      rw [shift_lo t _ a (by rw [h1]; exact ha), shift_hi t _ a (by rw [h2]; exact ha),
        translate_cellAt t f hf a ha, hhi]
      ring

end DFV.C06
