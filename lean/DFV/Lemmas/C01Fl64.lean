import DFV.Lemmas.C01Fl
import DFV.Lemmas.C15Fl64
/-! binary64 (round to nearest even, 53 bits, unbounded exponent: `C15.fl64`, the function the driver `Drv/C01.lean`
executes) is an instance of the abstract `Rounding` the `_fl` theorems quantify over.  A module of its own because it
is the only one of the family that imports the binary64 model of C15. -/
namespace DFV.C01
open DFV

def Rounding.binary64 : Rounding :=
  ⟨C15.fl64, 1 / 9007199254740992, by norm_num, by norm_num, C15.fl64_flOk.2⟩

/-- rewrite rules for stating results with `C15.fl64` and the literal `2^-53` -/
theorem binary64_fl : Rounding.binary64.fl = C15.fl64 := rfl
theorem binary64_u : Rounding.binary64.u = 1 / 9007199254740992 := rfl

end DFV.C01
