import Mathlib.Algebra.Order.Field.Basic
import Mathlib.Tactic.Ring
import Mathlib.Tactic.FieldSimp
import Mathlib.Tactic.Linarith
import DFV.Model.C15
/-!
Algebra of squared lengths over an arbitrary linearly ordered
field `K`, consequences of the `SqrtAt` hypothesis (uniqueness of the non-negative root), and
complex cells seen as real cells of twice the length (`flattenC`).  Everything here is generic
in `K`, so it applies verbatim to the rational model (`K = Rat`) and to real fields (`K = ℝ`).
-/
namespace DFV.C15

/-! ### cells as lists: what needs no order -/
section algebra
variable {K : Type} [Field K]

theorem zeros_zeros (v : List K) : zeros (zeros v) = zeros v := by simp [zeros]

theorem mem_zeros {v : List K} {x : K} (h : x ∈ zeros v) : x = 0 := by
  simp only [zeros, List.mem_map] at h
  obtain ⟨_, _, rfl⟩ := h; rfl

theorem eq_zeros_of_all_zero {v : List K} (h : ∀ x ∈ v, x = 0) : v = zeros v := by
  unfold zeros
  conv_lhs => rw [← List.map_id v]
  exact List.map_congr_left fun x hx => by simp [h x hx]

theorem sqLen_map_mul (v : List K) (c : K) : sqLen (v.map fun x => x * c) = sqLen v * (c * c) := by
  induction v with
  | nil => simp [sqLen]
  | cons x xs ih => simp only [List.map_cons, sqLen, ih]; ring

theorem sqLen_map_div (v : List K) (c : K) : sqLen (v.map fun x => x / c) = sqLen v / (c * c) := by
  have e : (fun x : K => x / c) = fun x => x * c⁻¹ := by funext x; exact div_eq_mul_inv x c
  rw [e, sqLen_map_mul, div_eq_mul_inv, mul_inv]

theorem sqLen_smul (c : K) (v : List K) : sqLen (smul c v) = c * c * sqLen v := by
  have e : (fun x : K => c * x) = fun x => x * c := by funext x; exact mul_comm c x
  unfold smul
  rw [e, sqLen_map_mul]; ring

theorem sqLen_append (a b : List K) : sqLen (a ++ b) = sqLen a + sqLen b := by
  induction a with
  | nil => simp [sqLen]
  | cons x xs ih => simp only [List.cons_append, sqLen, ih]; ring

/-- the kernel's two maps over a cell are scalar multiples -/
theorem map_div_eq_smul (v : List K) (n : K) : (v.map fun x => x / n) = smul n⁻¹ v := by
  unfold smul; exact List.map_congr_left fun x _ => by rw [div_eq_mul_inv, mul_comm]

theorem map_mul_eq_smul (v : List K) (t : K) : (v.map fun x => x * t) = smul t v := by
  unfold smul; exact List.map_congr_left fun x _ => mul_comm x t

theorem smul_getD (c : K) (v : List K) (a : Nat) : (smul c v).getD a 0 = c * v.getD a 0 := by
  unfold smul
  by_cases h : a < v.length <;> simp [List.getD_eq_getElem?_getD, h]

theorem smul_one (v : List K) : smul 1 v = v := by simp [smul]

theorem smul_smul (a b : K) (v : List K) : smul a (smul b v) = smul (a * b) v := by
  simp [smul, mul_assoc]

theorem map_zeros {g : K → K} (hg : g 0 = 0) (v : List K) : (zeros v).map g = zeros v := by
  unfold zeros
  rw [List.map_map]
  exact List.map_congr_left fun _ _ => hg

theorem map_mul_zeros (v : List K) (t : K) : (zeros v).map (fun x => x * t) = zeros v :=
  map_zeros (zero_mul t) v

theorem sqLen_flattenC (v : List (K × K)) : sqLen (flattenC v) = cSqLen v := by
  induction v with
  | nil => rfl
  | cons z zs ih => simp only [flattenC, sqLen, cSqLen, ih]; ring

omit [Field K] in
theorem flattenC_map (f : K → K) (v : List (K × K)) :
    flattenC (v.map fun z => (f z.1, f z.2)) = (flattenC v).map f := by
  induction v with
  | nil => rfl
  | cons z zs ih => simp only [List.map_cons, flattenC, ih]

theorem flattenC_zeros (v : List (K × K)) :
    flattenC (v.map fun _ => ((0 : K), (0 : K))) = zeros (flattenC v) := by
  have := flattenC_map (fun _ : K => (0 : K)) v
  simpa [zeros] using this

/-- the view of the complex divide-or-zero (setter and orientation) is the real one on the view -/
theorem flattenC_ite (c : Prop) [Decidable c] (n : K) (v : List (K × K)) :
    flattenC (if c then v.map fun _ => ((0 : K), (0 : K)) else v.map fun z => (z.1 / n, z.2 / n)) =
      if c then zeros (flattenC v) else (flattenC v).map fun x => x / n := by
  split
  · exact flattenC_zeros v
  · exact flattenC_map (fun x => x / n) v

theorem cmul_real (z : K × K) (t : K) : cmul z (t, 0) = (z.1 * t, z.2 * t) := by
  unfold cmul; simp

end algebra

/-! ### what needs the order only to decide `x = 0`, `x < 0` -/
section decide
variable {K : Type} [Field K] [LinearOrder K]

theorem divWhere_ne (v : List K) (n : K) (h : n ≠ 0) : divWhere v n = v.map fun x => x / n := by
  simp [divWhere, h]

theorem divWhere_zero (v : List K) : divWhere v 0 = zeros v := by simp [divWhere]

theorem divWhere_length (v : List K) (n : K) : (divWhere v n).length = v.length := by
  unfold divWhere zeros; split <;> simp

theorem orientCell_length (sqrt : K → K) (atol : K) (v : List K) :
    (orientCell sqrt atol v).length = v.length := by
  unfold orientCell zeros; split <;> simp

end decide

variable {K : Type} [Field K] [LinearOrder K] [IsStrictOrderedRing K]

-- `sqLen_nil`, `sqLen_cons`, `zeros_length`, `smul_length` are quoted with the ordered field of the
-- other theorems in the documents; their statements keep the (unused) order classes
set_option linter.unusedSectionVars false in
theorem sqLen_nil : sqLen ([] : List K) = 0 := rfl

set_option linter.unusedSectionVars false in
theorem sqLen_cons (x : K) (xs : List K) : sqLen (x :: xs) = x * x + sqLen xs := rfl

theorem sqLen_nonneg (v : List K) : 0 ≤ sqLen v := by
  induction v with
  | nil => simp [sqLen]
  | cons x xs ih => exact add_nonneg (mul_self_nonneg x) ih

/-- over an ordered field a sum of squares vanishes only if every term does: "the length
is zero" and "the vector is zero" are the same thing -/
theorem sqLen_eq_zero_iff (v : List K) : sqLen v = 0 ↔ ∀ x ∈ v, x = 0 := by
  induction v with
  | nil => simp [sqLen]
  | cons x xs ih =>
    simp only [sqLen, List.mem_cons, forall_eq_or_imp]
    constructor
    · intro h
      have h1 := mul_self_nonneg x
      have h2 := sqLen_nonneg xs
      have hx : x * x = 0 := by linarith
      have hs : sqLen xs = 0 := by linarith
      exact ⟨mul_self_eq_zero.mp hx, ih.mp hs⟩
    · rintro ⟨rfl, h⟩
      rw [ih.mpr h]; ring

set_option linter.unusedSectionVars false in
theorem zeros_length (v : List K) : (zeros v).length = v.length := by simp [zeros]

theorem sqLen_zeros (v : List K) : sqLen (zeros v) = 0 :=
  (sqLen_eq_zero_iff _).mpr fun _ hx => mem_zeros hx

set_option linter.unusedSectionVars false in
theorem smul_length (c : K) (v : List K) : (smul c v).length = v.length := by simp [smul]

theorem absK_eq_abs (x : K) : absK x = |x| := by
  unfold absK
  split
  · rename_i h; rw [abs_of_neg h]
  · rename_i h; rw [abs_of_nonneg (not_lt.mp h)]

theorem closeZero_eq (atol x : K) : closeZero atol x = decide (|x| ≤ atol) := by
  unfold closeZero; rw [absK_eq_abs]

theorem div_abs_mul {a : K} (ha : a ≠ 0) (t : K) : t / |a| * a = if 0 < a then t else -t := by
  split
  · rename_i hpos; rw [abs_of_pos hpos, div_mul_cancel₀ t ha]
  · rename_i hneg
    rw [abs_of_neg (lt_of_le_of_ne (not_lt.mp hneg) ha), div_neg, neg_mul, div_mul_cancel₀ t ha]

/-! ### consequences of `SqrtAt` -/

theorem SqrtAt.arg_nonneg {sqrt : K → K} {x : K} (h : SqrtAt sqrt x) : 0 ≤ x := by
  rw [← h.2]; exact mul_self_nonneg _

theorem SqrtAt.eq_zero_iff {sqrt : K → K} {x : K} (h : SqrtAt sqrt x) : sqrt x = 0 ↔ x = 0 := by
  constructor
  · intro e; rw [← h.2, e, mul_zero]
  · intro e; exact mul_self_eq_zero.mp (by rw [h.2, e])

theorem SqrtAt.pos {sqrt : K → K} {x : K} (h : SqrtAt sqrt x) (hx : x ≠ 0) : 0 < sqrt x :=
  lt_of_le_of_ne h.1 fun e => hx (h.eq_zero_iff.mp e.symm)

theorem SqrtAt.unique {sqrt : K → K} {x y : K} (h : SqrtAt sqrt x) (hy : 0 ≤ y) (hyy : y * y = x) :
    sqrt x = y :=
  (mul_self_inj h.1 hy).mp (by rw [h.2, hyy])

theorem SqrtAt.mul_self {sqrt : K → K} {t : K} (h : SqrtAt sqrt (t * t)) : sqrt (t * t) = |t| :=
  h.unique (abs_nonneg t) (abs_mul_abs_self t)

theorem SqrtAt.smul {sqrt : K → K} {c : K} {v : List K} (hc : 0 ≤ c) (hs : SqrtAt sqrt (sqLen v))
    (hs' : SqrtAt sqrt (sqLen (smul c v))) : sqrt (sqLen (smul c v)) = c * sqrt (sqLen v) :=
  hs'.unique (mul_nonneg hc hs.1) (by rw [sqLen_smul, mul_mul_mul_comm, hs.2])

theorem SqrtAt.zero {sqrt : K → K} (h : SqrtAt sqrt 0) : sqrt 0 = 0 := h.eq_zero_iff.mpr rfl

/-! ### the norm of a cell at which `sqrt` is the root -/

omit [IsStrictOrderedRing K] in
theorem normCell_nonneg {sqrt : K → K} {v : List K} (hs : SqrtAt sqrt (sqLen v)) : 0 ≤ normCell sqrt v := hs.1

omit [IsStrictOrderedRing K] in
theorem normCell_mul_self {sqrt : K → K} {v : List K} (hs : SqrtAt sqrt (sqLen v)) :
    normCell sqrt v * normCell sqrt v = sqLen v := hs.2

theorem normCell_of_sq {sqrt : K → K} {v : List K} {q : K} (h : sqLen v = q * q) (hs : SqrtAt sqrt (q * q)) :
    normCell sqrt v = |q| := by
  unfold normCell; rw [h]; exact hs.mul_self

theorem normCell_eq_zero {sqrt : K → K} {v : List K} (h0 : SqrtAt sqrt 0) (hz : sqLen v = 0) :
    normCell sqrt v = 0 := by
  unfold normCell; rw [hz]; exact h0.zero

/-- the threshold test on a non-negative root, squared: `isclose(√x, 0)` iff `x ≤ atol²` -/
theorem SqrtAt.closeZero_iff {sqrt : K → K} {x atol : K} (hs : SqrtAt sqrt x) (h0 : 0 ≤ atol) :
    closeZero atol (sqrt x) = true ↔ x ≤ atol * atol := by
  rw [closeZero_eq, decide_eq_true_iff, abs_of_nonneg hs.1, mul_self_le_mul_self_iff hs.1 h0, hs.2]

/-- the orientation's test `np.isclose(‖v‖, 0)` is `‖v‖ ≤ atol` -/
theorem closeZero_normCell {sqrt : K → K} {v : List K} (hs : SqrtAt sqrt (sqLen v)) (atol : K) :
    closeZero atol (normCell sqrt v) = true ↔ normCell sqrt v ≤ atol := by
  rw [closeZero_eq, decide_eq_true_iff, abs_of_nonneg (normCell_nonneg hs)]

theorem cSqLen_nonneg (v : List (K × K)) : 0 ≤ cSqLen v := by
  rw [← sqLen_flattenC]; exact sqLen_nonneg _

/-! ### the per-cell promise of the property, as a predicate -/

/-- What the property promises for one cell after the norm was set to the target `t`,
`v` being the old and `w` the new vector: same number of components; if `v ≠ 0` then `w`
has squared length `t²`, is parallel to `v` (all 2×2 cross terms vanish) and — for a
positive target — is a positive multiple of `v`; if `v = 0` then `w` is still `v`.
Proved for `setCell` in `Props/C15.lean` (`setCell_rescaled`) and from there for whole fields
(`setNorm_of_target_rescaled`). -/
def Rescaled (v w : List K) (t : K) : Prop :=
  w.length = v.length ∧
  (sqLen v ≠ 0 →
    sqLen w = t * t ∧
    (∀ a b : Nat, w.getD a 0 * v.getD b 0 = w.getD b 0 * v.getD a 0) ∧
    (0 < t → ∃ c : K, 0 < c ∧ w = smul c v)) ∧
  (sqLen v = 0 → w = v)

end DFV.C15
