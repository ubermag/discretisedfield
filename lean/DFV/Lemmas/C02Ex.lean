import DFV.Lemmas.C02Assign
/-! C02: the concrete meshes and the session used by the non-vacuity examples of `Props/C02.lean`. -/
namespace DFV.C02.Ex
open DFV DFV.Mesh DFV.C02

/-- a 2-d region with dimensions `x, y`; `1 / 1000000000000` is the default tolerance of `Region.mk?` -/
def reg (a b : List Rat) : Region := ⟨a, b, ["x", "y"], ["m", "m"], 1 / 1000000000000⟩
/-- `r1 = [0,2]×[0,2]` (cells 0–1 × 0–1), `r2 = [1,4]×[0,1]` (cells 1–3 × 0): they overlap in cell (1,0) -/
def m0 : Mesh := ⟨reg [0, 0] [4, 2], [4, 2], "", [("r1", reg [0, 0] [2, 2]), ("r2", reg [1, 0] [4, 1])]⟩
def k1 (p : String × Region) (a : Nat) : Nat := if p.1 = "r1" then 0 else if a = 0 then 1 else 0
def k2 (p : String × Region) (a : Nat) : Nat :=
  if p.1 = "r1" then 2 else if a = 0 then 4 else 1

theorem m0_inv : m0.Inv := C01.mesh_inv_of_invB m0 (by decide +kernel)

theorem m0_aligned : ∀ p ∈ m0.subs, AlignedSub m0 p.2 (k1 p) (k2 p) := by
  intro p hp
  simp only [m0, List.mem_cons, List.mem_nil_iff, or_false] at hp
  rcases hp with rfl | rfl <;> refine ⟨rfl, fun a ha => ?_⟩ <;> rcases lt_two a ha with rfl | rfl <;>
    decide +kernel

/-- the 4 × 2 mesh with other dimension names -/
def mD (d0 d1 : String) : Mesh := ⟨⟨[0, 0], [4, 2], [d0, d1], ["m", "m"], 1 / 1000000000000⟩, [4, 2], "", []⟩

theorem mD_axes (d0 d1 : String) (a : Nat) (ha : a < 2) :
    (mD d0 d1).region.lo a = 0 ∧ 0 < (mD d0 d1).region.hi a ∧ 0 < (mD d0 d1).nAt a := by
  rcases lt_two a ha with rfl | rfl
  · exact ⟨rfl, show (0 : Rat) < 4 by decide, show 0 < 4 by decide⟩
  · exact ⟨rfl, show (0 : Rat) < 2 by decide, show 0 < 2 by decide⟩

theorem mD_inv (d0 d1 : String) (h : d0 ≠ d1) : (mD d0 d1).Inv := by
  refine ⟨⟨Nat.zero_lt_two, rfl, rfl, rfl, ?_, fun a ha => ?_⟩, rfl, fun a ha => (mD_axes d0 d1 a ha).2.2⟩
  · simp [hasDup, mD]; exact fun e => h e
  · obtain ⟨h0, h1, _⟩ := mD_axes d0 d1 a ha
    rw [h0]; exact h1

theorem mD_corner0 (d0 d1 : String) : (mD d0 d1).region.containsExact [0, 0] :=
  ⟨rfl, fun a ha => by
    obtain ⟨h0, h1, _⟩ := mD_axes d0 d1 a ha
    rcases lt_two a ha with rfl | rfl <;> exact ⟨h0.le, h1.le⟩⟩

theorem mD_corner1 (d0 d1 : String) : (mD d0 d1).region.containsExact [4, 2] :=
  ⟨rfl, fun a ha => by
    obtain ⟨h0, h1, _⟩ := mD_axes d0 d1 a ha
    rcases lt_two a ha with rfl | rfl <;> exact ⟨h0 ▸ h1.le, le_refl _⟩⟩

/-- the 4 × 2 mesh with one subregion that covers it -/
def mAll : Mesh := ⟨reg [0, 0] [4, 2], [4, 2], "", [("all", reg [0, 0] [4, 2])]⟩
def kA1 (_ : String × Region) (_ : Nat) : Nat := 0
def kA2 (_ : String × Region) (a : Nat) : Nat := if a = 0 then 4 else 2

/-- `Mesh.Inv` does not look at the subregions, and `mAll` differs from `m0` only there -/
theorem mAll_inv : mAll.Inv := m0_inv

theorem mAll_aligned : ∀ p ∈ mAll.subs, AlignedSub mAll p.2 (kA1 p) (kA2 p) := by
  intro p hp
  simp only [mAll, List.mem_cons, List.mem_nil_iff, or_false] at hp
  subst hp
  refine ⟨rfl, fun a ha => ?_⟩
  rcases lt_two a ha with rfl | rfl <;> decide +kernel

theorem m0_sub_r1_inv : (subMeshOf m0 (reg [0, 0] [2, 2]) (k1 ("r1", reg [0, 0] [2, 2])) (k2 ("r1", reg [0, 0] [2, 2]))).Inv :=
  C01.mesh_inv_of_invB _ (by decide +kernel)

/-- a finer mesh over the region of `m0`: 8 × 4 cells of size 1/2 (every centre of `m0` lies on a
face of it: the tie case) -/
def mFine : Mesh := ⟨reg [0, 0] [4, 2], [8, 4], "", []⟩

theorem mFine_inv : mFine.Inv := C01.mesh_inv_of_invB mFine (by decide +kernel)

theorem listed_scalar {V : Type} (items : List (String × Leaf V)) (h : ∀ q ∈ items, ∃ v, q.2 = .scalar v)
    (name : String) (lf : Leaf V) (hl : lookupLeaf items name = some lf) : ∃ v, lf = .scalar v :=
  let ⟨q, hq, e⟩ := lookupLeaf_mem items name lf hl
  e ▸ h q hq

/-- `{"r2": 2, "r1": 1, "default": lambda p: p[0]}` on the mesh with the overlapping subregions `r1`, `r2` is
well formed (`dictWF`) -/
theorem ex_dictWF : dictWF (fun v : Rat => v == 0) [("r2", .scalar 2), ("r1", .scalar 1)]
    (some (.func fun p => [p.getD 0 0])) m0 1 k1 k2 := by
  refine ⟨trivial, fun p _ lf hl => ?_, fun i _ _ => rfl⟩
  obtain ⟨v, rfl⟩ := listed_scalar _ (by simp) _ lf hl
  exact Or.inl (Nat.le_refl 1)

/-- two scalar fields on `m0`, each with its own array, and a third array owned by the caller: separated -/
def st0 (a b c : NDA Rat) : Sess Rat := ⟨[a, b, c], [⟨m0, 1, none, 0⟩, ⟨m0, 1, none, 1⟩]⟩

theorem st0_sep (a b c : NDA Rat) : (st0 a b c).Sep := by
  constructor
  · intro i hi
    rcases lt_two i hi with rfl | rfl
    exacts [Nat.succ_pos 2, Nat.succ_lt_succ (Nat.succ_pos 1)]
  · intro i k hi hk hne
    rcases lt_two i hi with rfl | rfl <;> rcases lt_two k hk with rfl | rfl
    exacts [absurd rfl hne, Nat.zero_ne_one, Nat.one_ne_zero, absurd rfl hne]

end DFV.C02.Ex
