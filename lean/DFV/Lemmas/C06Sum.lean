import Mathlib.Tactic.Ring
import DFV.Lemmas.Index
import DFV.Model.C06
/-! Finite-sum algebra for C06: `sumTo`, `cumTo`, `lsum`, `nestSum` (list sums without
`Finset`): congruence, linearity, exchange of two sums, shift and reversal, splitting a sum over
`n·P` terms into a double sum (the mixed-radix step), the flat C-order sum as a nested sum. -/
namespace DFV.C06
open DFV

theorem sumTo_congr (n : Nat) (f g : Nat → Rat) (h : ∀ i, i < n → f i = g i) :
    sumTo n f = sumTo n g := by
  induction n with
  | zero => rfl
  | succ n ih =>
    simp only [sumTo]
    rw [ih (fun i hi => h i (by omega)), h n (by omega)]

theorem sumTo_zero (n : Nat) : sumTo n (fun _ => 0) = 0 := by
  induction n with
  | zero => rfl
  | succ n ih => simp only [sumTo, ih]; ring

theorem sumTo_add (n : Nat) (f g : Nat → Rat) :
    sumTo n (fun i => f i + g i) = sumTo n f + sumTo n g := by
  induction n with
  | zero => simp [sumTo]
  | succ n ih => simp only [sumTo, ih]; ring

theorem sumTo_mul_left (n : Nat) (c : Rat) (f : Nat → Rat) :
    sumTo n (fun i => c * f i) = c * sumTo n f := by
  induction n with
  | zero => simp [sumTo]
  | succ n ih => simp only [sumTo, ih]; ring

theorem sumTo_mul_right (n : Nat) (c : Rat) (f : Nat → Rat) :
    sumTo n (fun i => f i * c) = sumTo n f * c := by
  induction n with
  | zero => simp [sumTo]
  | succ n ih => simp only [sumTo, ih]; ring

theorem sumTo_div (n : Nat) (c : Rat) (f : Nat → Rat) :
    sumTo n (fun i => f i / c) = sumTo n f / c := by
  induction n with
  | zero => simp [sumTo]
  | succ n ih => simp only [sumTo, ih]; ring

theorem sumTo_lin (n : Nat) (a b : Rat) (f g : Nat → Rat) :
    sumTo n (fun i => a * f i + b * g i) = a * sumTo n f + b * sumTo n g := by
  rw [sumTo_add, sumTo_mul_left, sumTo_mul_left]

theorem sumTo_comm (n m : Nat) (f : Nat → Nat → Rat) :
    sumTo n (fun i => sumTo m (fun j => f i j)) = sumTo m (fun j => sumTo n (fun i => f i j)) := by
  induction n with
  | zero => simp only [sumTo]; rw [sumTo_zero]
  | succ n ih =>
    simp only [sumTo]
    rw [ih, ← sumTo_add]

theorem sumTo_append (a b : Nat) (f : Nat → Rat) :
    sumTo (a + b) f = sumTo a f + sumTo b (fun r => f (a + r)) := by
  induction b with
  | zero => simp [sumTo]
  | succ b ih =>
    rw [← Nat.add_assoc]
    simp only [sumTo, ih]; ring

theorem sumTo_prod (n P : Nat) (h : Nat → Nat → Rat) :
    sumTo (n * P) (fun k => h (k / P) (k % P)) = sumTo n fun i => sumTo P fun r => h i r := by
  induction n with
  | zero => simp [sumTo]
  | succ n ih =>
    rw [Nat.succ_mul, sumTo_append, ih]
    simp only [sumTo]
    congr 1
    apply sumTo_congr
    intro r hr
    have hP : 0 < P := by omega
    have h1 : (n * P + r) / P = n := by
      rw [Nat.add_comm, Nat.add_mul_div_right _ _ hP, Nat.div_eq_of_lt hr, Nat.zero_add]
    have h2 : (n * P + r) % P = r := by
      rw [Nat.add_comm, Nat.add_mul_mod_self_right, Nat.mod_eq_of_lt hr]
    rw [h1, h2]

theorem sumTo_shift (n : Nat) (F : Nat → Rat) : sumTo (n + 1) F = F 0 + sumTo n (fun t => F (t + 1)) := by
  have := sumTo_append 1 n F
  rw [Nat.add_comm] at this
  rw [this]
  simp only [sumTo]
  have e : (fun r => F (1 + r)) = fun t => F (t + 1) := by funext r; rw [Nat.add_comm]
  rw [e]; ring

theorem sumTo_reverse (n : Nat) (F : Nat → Rat) : sumTo n (fun t => F (n - 1 - t)) = sumTo n F := by
  induction n generalizing F with
  | zero => rfl
  | succ n ih =>
    rw [sumTo_shift (n) F]
    simp only [sumTo]
    have : sumTo n (fun t => F (n + 1 - 1 - t)) = sumTo n (fun t => F (t + 1)) := by
      rw [← ih (fun t => F (t + 1))]
      apply sumTo_congr
      intro t ht
      congr 1
      omega
    rw [this]
    simp
    ring

theorem sumTo_between (a b : Nat) (x : Nat → Rat) :
    sumTo (a + b + 1) x - sumTo a x = x a + sumTo b (fun t => x (a + 1 + t)) := by
  have h1 : a + b + 1 = (a + 1) + b := by omega
  rw [h1, sumTo_append (a + 1) b x]
  simp only [sumTo]
  ring

/-- `np.cumsum(x)[k] = x 0 + … + x k` -/
theorem cumTo_eq (x : Nat → Rat) (k : Nat) : cumTo x k = sumTo (k + 1) x := by
  induction k with
  | zero => simp [cumTo, sumTo]
  | succ k ih => simp only [cumTo, ih, sumTo]

theorem lsum_map_range (n : Nat) (f : Nat → Rat) : lsum ((List.range n).map f) = sumTo n f := by
  induction n with
  | zero => rfl
  | succ n ih =>
    rw [List.range_succ, List.map_append]
    have happ : ∀ (xs : List Rat) (y : Rat), lsum (xs ++ [y]) = lsum xs + y := by
      intro xs y
      induction xs with
      | nil => simp [lsum]
      | cons x xs ihx => simp only [List.cons_append, lsum, ihx]; ring
    simp only [List.map_cons, List.map_nil, happ, ih, sumTo]

theorem lsum_perm {l1 l2 : List Rat} (h : l1.Perm l2) : lsum l1 = lsum l2 := by
  induction h with
  | nil => rfl
  | cons x _ ih => simp only [lsum, ih]
  | swap x y l => simp only [lsum]; ring
  | trans _ _ ih1 ih2 => rw [ih1, ih2]

/-! ## nested sums over a shape -/

theorem nestSum_congr (ns : List Nat) (f g : List Nat → Rat)
    (h : ∀ i, inRange ns i = true → f i = g i) : nestSum ns f = nestSum ns g := by
  induction ns generalizing f g with
  | nil => simp only [nestSum]; exact h [] (by simp [inRange])
  | cons n ns ih =>
    simp only [nestSum]
    apply sumTo_congr
    intro x hx
    apply ih
    intro t ht
    exact h (x :: t) (by simp [inRange, hx, ht])

theorem nestSum_mul_left (ns : List Nat) (c : Rat) (g : List Nat → Rat) :
    nestSum ns (fun i => c * g i) = c * nestSum ns g := by
  induction ns generalizing g with
  | nil => simp [nestSum]
  | cons n ns ih =>
    simp only [nestSum]
    rw [← sumTo_mul_left]
    apply sumTo_congr
    intro x _
    exact ih _

theorem nestSum_add (ns : List Nat) (f g : List Nat → Rat) :
    nestSum ns (fun i => f i + g i) = nestSum ns f + nestSum ns g := by
  induction ns generalizing f g with
  | nil => simp [nestSum]
  | cons n ns ih =>
    simp only [nestSum]
    rw [← sumTo_add]
    apply sumTo_congr
    intro x _
    exact ih _ _

theorem nestSum_sumTo (ns : List Nat) (m : Nat) (h : Nat → List Nat → Rat) :
    nestSum ns (fun t => sumTo m fun j => h j t) = sumTo m fun j => nestSum ns (h j) := by
  induction ns generalizing h with
  | nil => simp [nestSum]
  | cons n ns ih =>
    simp only [nestSum]
    rw [sumTo_comm]
    apply sumTo_congr
    intro x _
    exact ih _

theorem sumTo_unflatC (ns : List Nat) (g : List Nat → Rat) :
    sumTo (natProd ns) (fun k => g (unflatC ns k)) = nestSum ns g := by
  induction ns generalizing g with
  | nil => simp [natProd, sumTo, nestSum, unflatC]
  | cons n ns ih =>
    simp only [natProd, nestSum, unflatC]
    rw [sumTo_prod n (natProd ns) (fun i r => g (i :: unflatC ns r))]
    apply sumTo_congr
    intro x _
    exact ih (fun t => g (x :: t))

/-- the sum of the flat C-order buffer is the nested sum over the shape (mixed radix) -/
theorem lsum_indicesC (ns : List Nat) (g : List Nat → Rat) :
    lsum ((indicesC ns).map g) = nestSum ns g := by
  unfold indicesC
  rw [List.map_map, lsum_map_range]
  exact sumTo_unflatC ns g

/-- `np.sum` over all cells, one component: the nested sum -/
theorem sumAll_eq (a : NDA (List Rat)) (c : Nat) : sumAll a c = nestSum a.shape fun t => cget a t c := by
  unfold sumAll NDA.toList
  rw [List.map_map, lsum_indicesC]
  rfl

end DFV.C06
