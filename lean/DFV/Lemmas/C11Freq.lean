import Mathlib.Tactic.Ring
import Mathlib.Data.List.Rotate
import DFV.Lemmas.C01
import DFV.Lemmas.ListOps
import DFV.Model.C11
/-!
C11: the frequency lists of `scipy.fft` over `Rat`.  A frequency list is a table of integer
frequency indices times the spacing `1/(n·d)`; minimum, maximum and `dfreq` of such a table are
read off the indices, which gives the closed forms for `fftfreq` / `rfftfreq` and the shifted list
`fftshift(fftfreq(n, d))`.  `fftshift` / `ifftshift` of a list as rotations (`ifftshiftL` is defined here; `fftshiftL` is the model's).
-/
namespace DFV.C11
open DFV

/-! ### tables of integer multiples of a spacing -/

/-- the minimum of `[k 0 · c, …, k (n-1) · c]`, `c ≥ 0`, sits where the integer `k` is least -/
theorem listMin_tab_mul (n : Nat) (k : Nat → Int) (c : Rat) (hc : 0 ≤ c) (j0 : Nat) (hj0 : j0 < n)
    (h : ∀ j, j < n → k j0 ≤ k j) : listMin (tab n fun j => (k j : Rat) * c) = (k j0 : Rat) * c := by
  apply C01.listMin_eq
  · exact (mem_tab _ _ _).mpr ⟨j0, hj0, rfl⟩
  · intro y hy
    obtain ⟨j, hj, rfl⟩ := (mem_tab _ _ _).mp hy
    exact mul_le_mul_of_nonneg_right (Int.cast_le.mpr (h j hj)) hc

theorem listMax_tab_mul (n : Nat) (k : Nat → Int) (c : Rat) (hc : 0 ≤ c) (j0 : Nat) (hj0 : j0 < n)
    (h : ∀ j, j < n → k j ≤ k j0) : listMax (tab n fun j => (k j : Rat) * c) = (k j0 : Rat) * c := by
  apply C01.listMax_eq
  · exact (mem_tab _ _ _).mpr ⟨j0, hj0, rfl⟩
  · intro y hy
    obtain ⟨j, hj, rfl⟩ := (mem_tab _ _ _).mp hy
    exact mul_le_mul_of_nonneg_right (Int.cast_le.mpr (h j hj)) hc

theorem dfreq_tab_mul (n : Nat) (k : Nat → Int) (c : Rat) (hc : 0 ≤ c) (hn : 2 ≤ n) (h : (k 1 - k 0).natAbs = 1) :
    dfreq (tab n fun j => (k j : Rat) * c) = c / 2 := by
  unfold dfreq
  rw [getD_tab _ _ _ _ (by omega), getD_tab _ _ _ _ (by omega), absR_eq_abs, ← sub_mul, abs_mul, abs_of_nonneg hc,
    ← Int.cast_sub, ← Int.cast_abs, Int.abs_eq_natAbs, h]
  simp

/-! ### the frequency lists -/

theorem inv_nd_pos (n : Nat) (d : Rat) (hn : 1 ≤ n) (hd : 0 < d) : (0 : Rat) < 1 / ((n : Rat) * d) := by
  have : (0 : Rat) < (n : Rat) := by exact_mod_cast hn
  positivity

/-- the signed frequency index of entry `j` of `fftfreq(n, ·)`: `0, 1, …, ⌈n/2⌉-1, -⌊n/2⌋, …, -1` -/
def fftIdx (n j : Nat) : Int := if j < (n - 1) / 2 + 1 then j else (j : Int) - n

/-- the signed frequency index is the centred index `0 … n-1` minus `⌊n/2⌋`, read through `ifftshift`:
`fftfreq(n) = ifftshift([-⌊n/2⌋, …, ⌈n/2⌉-1])` -/
theorem fftIdx_eq_mod (n j : Nat) (hj : j < n) : fftIdx n j = (((j + n / 2) % n : Nat) : Int) - ((n / 2 : Nat) : Int) := by
  unfold fftIdx
  split
  · rw [Nat.mod_eq_of_lt (by omega)]; omega
  · rw [Nat.mod_eq_sub_mod (by omega), Nat.mod_eq_of_lt (by omega)]; omega

theorem fftfreq_eq (n : Nat) (d : Rat) : fftfreq n d = tab n fun j => (fftIdx n j : Rat) * (1 / ((n : Rat) * d)) := by
  apply tab_congr
  intro j _
  unfold fftfreqAt fftIdx
  split <;> simp

theorem rfftfreq_eq (n : Nat) (d : Rat) :
    rfftfreq n d = tab (n / 2 + 1) fun j => (((j : Nat) : Int) : Rat) * (1 / ((n : Rat) * d)) := by
  apply tab_congr
  intro j _
  simp

theorem fftfreq_min (n : Nat) (d : Rat) (hn : 2 ≤ n) (hd : 0 < d) :
    listMin (fftfreq n d) = -((n / 2 : Nat) : Rat) * (1 / ((n : Rat) * d)) := by
  have h0 : fftIdx n (n - n / 2) = -((n / 2 : Nat) : Int) := by
    rw [fftIdx_eq_mod n _ (by omega), show n - n / 2 + n / 2 = n by omega, Nat.mod_self]; simp
  rw [fftfreq_eq, listMin_tab_mul n _ _ (inv_nd_pos n d (by omega) hd).le (n - n / 2) (by omega)
    (fun j hj => by rw [h0, fftIdx_eq_mod n j hj]; omega), h0, Int.cast_neg, Int.cast_natCast]

theorem fftfreq_max (n : Nat) (d : Rat) (hn : 2 ≤ n) (hd : 0 < d) :
    listMax (fftfreq n d) = (((n - 1) / 2 : Nat) : Rat) * (1 / ((n : Rat) * d)) := by
  have h0 : fftIdx n ((n - 1) / 2) = (((n - 1) / 2 : Nat) : Int) := by unfold fftIdx; split <;> omega
  rw [fftfreq_eq, listMax_tab_mul n _ _ (inv_nd_pos n d (by omega) hd).le ((n - 1) / 2) (by omega)
    (fun j hj => by rw [h0]; unfold fftIdx; split <;> omega), h0, Int.cast_natCast]

theorem fftfreq_dfreq (n : Nat) (d : Rat) (hn : 2 ≤ n) (hd : 0 < d) :
    dfreq (fftfreq n d) = 1 / (2 * ((n : Rat) * d)) := by
  rw [fftfreq_eq, dfreq_tab_mul n _ _ (inv_nd_pos n d (by omega) hd).le hn
    (by unfold fftIdx; split <;> split <;> omega)]
  ring

theorem rfftfreq_min (n : Nat) (d : Rat) (hn : 1 ≤ n) (hd : 0 < d) : listMin (rfftfreq n d) = 0 := by
  rw [rfftfreq_eq, listMin_tab_mul _ _ _ (inv_nd_pos n d hn hd).le 0 (by omega) (fun j _ => by omega)]
  simp

theorem rfftfreq_max (n : Nat) (d : Rat) (hn : 1 ≤ n) (hd : 0 < d) :
    listMax (rfftfreq n d) = ((n / 2 : Nat) : Rat) * (1 / ((n : Rat) * d)) := by
  rw [rfftfreq_eq, listMax_tab_mul _ _ _ (inv_nd_pos n d hn hd).le (n / 2) (by omega) (fun j _ => by omega),
    Int.cast_natCast]

theorem rfftfreq_dfreq (n : Nat) (d : Rat) (hn : 2 ≤ n) (hd : 0 < d) :
    dfreq (rfftfreq n d) = 1 / (2 * ((n : Rat) * d)) := by
  rw [rfftfreq_eq, dfreq_tab_mul _ _ _ (inv_nd_pos n d (by omega) hd).le (by omega) (by omega)]
  ring

/-- entry `j` of `fftshift(fftfreq(n, d))` has frequency index `j - ⌊n/2⌋` -/
theorem fftIdx_shift (n j : Nat) (hj : j < n) : fftIdx n ((j + (n - n / 2)) % n) = (j : Int) - ((n / 2 : Nat) : Int) := by
  rw [fftIdx_eq_mod n _ (Nat.mod_lt _ (by omega)), Nat.mod_add_mod, show j + (n - n / 2) + n / 2 = j + n by omega,
    Nat.add_mod_right, Nat.mod_eq_of_lt hj]

/-! ### `fftshift` / `ifftshift` of a list are rotations -/

def ifftshiftL (xs : List Rat) : List Rat :=
  tab xs.length fun j => xs.getD ((j + xs.length / 2) % xs.length) 0

theorem fftshiftL_length (xs : List Rat) : (fftshiftL xs).length = xs.length := by simp [fftshiftL]
theorem ifftshiftL_length (xs : List Rat) : (ifftshiftL xs).length = xs.length := by simp [ifftshiftL]

theorem tab_eq_rotate (xs : List Rat) (s : Nat) :
    tab xs.length (fun j => xs.getD ((j + s) % xs.length) 0) = xs.rotate s := by
  apply List.ext_getElem
  · simp
  · intro i h1 h2
    have hi : i < xs.length := by simpa using h1
    rw [getElem_tab, List.getElem_rotate]
    have hlt : (i + s) % xs.length < xs.length := Nat.mod_lt _ (by omega)
    rw [List.getD_eq_getElem?_getD, List.getElem?_eq_getElem hlt, Option.getD_some]

theorem fftshiftL_eq_rotate (xs : List Rat) : fftshiftL xs = xs.rotate (xs.length - xs.length / 2) :=
  tab_eq_rotate xs _

theorem ifftshiftL_eq_rotate (xs : List Rat) : ifftshiftL xs = xs.rotate (xs.length / 2) :=
  tab_eq_rotate xs _

theorem fftshiftL_perm (xs : List Rat) : (fftshiftL xs).Perm xs := by
  rw [fftshiftL_eq_rotate]; exact List.rotate_perm _ _

theorem ifftshiftL_fftshiftL (xs : List Rat) : ifftshiftL (fftshiftL xs) = xs := by
  rw [ifftshiftL_eq_rotate, fftshiftL_eq_rotate, List.length_rotate, List.rotate_rotate]
  have : xs.length - xs.length / 2 + xs.length / 2 = xs.length := by omega
  rw [this, List.rotate_length]

theorem fftshiftL_ifftshiftL (xs : List Rat) : fftshiftL (ifftshiftL xs) = xs := by
  rw [fftshiftL_eq_rotate, ifftshiftL_eq_rotate, List.length_rotate, List.rotate_rotate]
  have : xs.length / 2 + (xs.length - xs.length / 2) = xs.length := by omega
  rw [this, List.rotate_length]

end DFV.C11
