import DFV.Model.C07
import DFV.Lemmas.C08Set
/-! The object-level link to the C07 model.  The array calls of
`C07.selFld`, `C07.getItem`, `C07.padFld`, `C07.resample` (`NDA.take`, `NDA.slice`, `sliceBlock`,
`padNDA`, `resampleNDA`) are, entry by entry, the polymorphic array call `MapOp.apply` of the C08
model — for ANY entry type, hence for the value array and the validity array alike. -/
namespace DFV.C08
open DFV

/-! ## lists written as tables -/

theorem setAt_eq_tab (l : List Nat) (a x : Nat) :
    setAt l a x = tab l.length fun b => if b = a then x else l.getD b 0 := by
  refine eq_tab_of_getD _ _ _ 0 (length_setAt l a x) fun i hi => ?_
  by_cases c : i = a
  · subst c; rw [getD_setAt_eq _ _ _ _ hi]; simp
  · rw [getD_setAt_ne _ _ _ _ _ c]; simp [c]

theorem insert_eq_tab (j : List Nat) (a k L : Nat) (hl : j.length + 1 = L) (ha : a < L) :
    j.take a ++ k :: j.drop a = tab L fun b => if b < a then j.getD b 0 else if b = a then k else j.getD (b - 1) 0 := by
  have haj : a ≤ j.length := Nat.le_of_lt_succ (by rw [← hl] at ha; exact ha)
  refine eq_tab_of_getD _ _ _ 0 ((length_take_cons_drop j a k).trans hl) fun i _ => ?_
  split_ifs with c c2
  · simpa only [if_pos c] using getD_take_cons_drop_skip j a i k 0 haj
  · rw [c2]; exact getD_take_cons_drop_self j a k 0 haj
  · have := getD_take_cons_drop_skip j a (i - 1) k 0 haj
    rwa [if_neg (by omega), Nat.sub_add_cancel (by omega)] at this

/-! ## `sel` on a plane / a range, `field[region]` -/

/-- `a.take(k, axis)` = the mapping operation `take` -/
theorem take_link {α} (x : NDA α) (a k : Nat) (fill : α) (ha : a < x.shape.length) :
    (x.take a k).shape = ((MapOp.take a k).apply x fill).shape ∧
    ∀ j, j.length + 1 = x.shape.length → (x.take a k).get j = ((MapOp.take a k).apply x fill).get j := by
  refine ⟨?_, fun j hj => ?_⟩
  · show removeAt x.shape a = _
    rw [removeAt_eq_tab _ _ 0 ha]
    -- `MapOp.shape` has the `if` outside the read
    exact tab_congr _ _ _ fun b _ => by split_ifs <;> rfl
  · show x.get (j.take a ++ k :: j.drop a) = x.get _
    rw [insert_eq_tab j a k x.shape.length hj ha]

/-- `a[..., lo:hi, ...]` = the mapping operation `slice` -/
theorem slice_link {α} (x : NDA α) (a lo hi : Nat) (fill : α) :
    (x.slice a lo hi).shape = ((MapOp.slice a lo hi).apply x fill).shape ∧
    ∀ j, j.length = x.shape.length → (x.slice a lo hi).get j = ((MapOp.slice a lo hi).apply x fill).get j := by
  refine ⟨?_, fun j hj => ?_⟩
  · show setAt x.shape a (hi - lo) = _
    rw [setAt_eq_tab]; rfl
  · show x.get (setAt j a (j.getD a 0 + lo)) = x.get _
    rw [setAt_eq_tab, hj]
    congr 1
    apply tab_congr
    intro i _
    by_cases c : i = a
    · subst c; simp
    · simp [c]

/-- the array part of `Field.sel` is ONE mapping operation for every entry type -/
def selOp (a : Nat) : C07.SelIdx → MapOp
  | .plane _ k => .take a k
  | .range _ _ k1 k2 => .slice a k1 (k2 + 1)

theorem selData_link {α} (x : NDA α) (a : Nat) (idx : C07.SelIdx) (fill : α) (ha : a < x.shape.length) :
    (C07.selData x a idx).shape = ((selOp a idx).apply x fill).shape ∧
    ∀ j, inRange (C07.selData x a idx).shape j = true →
      (C07.selData x a idx).get j = ((selOp a idx).apply x fill).get j := by
  cases idx with
  | plane c k =>
    obtain ⟨h1, h2⟩ := take_link x a k fill ha
    refine ⟨h1, fun j hj => h2 j ?_⟩
    have := inRange_length _ _ hj
    have hl : (removeAt x.shape a).length = x.shape.length - 1 := length_removeAt _ _ ha
    have : j.length = (removeAt x.shape a).length := this
    omega
  | range c1 c2 k1 k2 =>
    obtain ⟨h1, h2⟩ := slice_link x a k1 (k2 + 1) fill
    refine ⟨h1, fun j hj => h2 j ?_⟩
    have := inRange_length _ _ hj
    have : j.length = (setAt x.shape a (k2 + 1 - k1)).length := this
    rw [length_setAt] at this
    exact this

/-- `a[lo₀:lo₀+n₀, …]` (with NumPy's clamping) = the mapping operation `crop`; the block fits -/
theorem sliceBlock_link {α} (x : NDA α) (lo n : List Nat) (fill : α)
    (hfit : ∀ b, b < x.shape.length → lo.getD b 0 + n.getD b 0 ≤ x.shape.getD b 0) :
    (C07.sliceBlock x lo n).shape
      = ((MapOp.crop lo (tab x.shape.length fun b => lo.getD b 0 + n.getD b 0)).apply x fill).shape ∧
    ∀ j, (C07.sliceBlock x lo n).get j
      = ((MapOp.crop lo (tab x.shape.length fun b => lo.getD b 0 + n.getD b 0)).apply x fill).get j := by
  refine ⟨tab_congr _ _ _ fun b hb => ?_, fun j => rfl⟩
  rw [getD_tab _ _ _ _ hb, Nat.min_eq_left (hfit b hb), Nat.min_eq_left (Nat.le_trans (Nat.le_add_right _ _) (hfit b hb))]

/-! ## padding -/

def padModeOf : C07.PadMode → PadMode
  | .constant => .constant
  | .edge => .edge
  | .wrap => .wrap
  | .symmetric => .symmetric
  | .reflect => .reflect

/-- `(j − lo) mod P` computed in ℤ is `(j + lo·(P−1)) mod P` computed in ℕ -/
theorem int_mod_shift (j lo P : Nat) (hP : 0 < P) :
    (((j : Int) - (lo : Int)) % (P : Int)) = (((j + lo * (P - 1)) % P : Nat) : Int) := by
  have h1 : ((j + lo * (P - 1) : Nat) : Int) = (j : Int) - lo + lo * P := by
    have : ((P - 1 : Nat) : Int) = (P : Int) - 1 := by omega
    push_cast [this]; ring
  rw [Int.natCast_mod, h1, Int.add_mul_emod_self_right]

/-- a remainder folded back at `n`, computed in ℤ and in ℕ -/
theorem fold_link (r n c : Nat) :
    (if (r : Int) < (n : Int) then some (r : Int).toNat else some ((c : Int) - (r : Int)).toNat)
      = some (if r < n then r else c - r) := by
  split_ifs with h1 h2 h2
  · rw [Int.toNat_natCast]
  · exact absurd (Int.ofNat_lt.mp h1) h2
  · exact absurd (Int.ofNat_lt.mpr h2) h1
  · rw [Int.toNat_sub]

theorem padSrc_link (mode : C07.PadMode) (n lo j : Nat) (hn : 0 < n) :
    C07.padSrc mode n lo j = padSrc (padModeOf mode) n lo j := by
  unfold C07.padSrc
  split
  · rename_i hin
    exact (padSrc_inside _ n lo j hin.1 hin.2).symm
  · rename_i hin
    cases mode with
    | constant => exact (if_neg hin).symm
    | edge =>
      simp only [padModeOf, padSrc]
      split
      · rfl
      · rw [if_neg (by omega)]
    | wrap =>
      simp only [padModeOf, padSrc]
      rw [int_mod_shift j lo n hn, Int.toNat_natCast]
    | symmetric =>
      simp only [padModeOf, padSrc]
      have h2n : 0 < 2 * n := Nat.mul_pos Nat.two_pos hn
      rw [show 2 * (n : Int) = ((2 * n : Nat) : Int) by push_cast; rfl, int_mod_shift j lo (2 * n) h2n,
        ← Nat.cast_pred h2n]
      exact fold_link _ n _
    | reflect =>
      simp only [padModeOf, padSrc]
      split
      · rfl
      · rw [show 2 * (n : Int) - 2 = ((2 * n - 2 : Nat) : Int) by omega, int_mod_shift j lo (2 * n - 2) (by omega),
          show 2 * n - 2 - 1 = 2 * n - 3 from rfl]
        exact fold_link _ n _

/-- the pad widths of `Field.pad` as the list `np.pad` receives -/
def padWidths (s : List Nat) (w : Nat → Int × Int) : List (Nat × Nat) :=
  tab s.length fun b => ((w b).1.toNat, (w b).2.toNat)

/-- `np.pad(x, widths, mode)` of the C07 model = the mapping operation `pad` -/
theorem padNDA_link {α} (mode : C07.PadMode) (w : Nat → Int × Int) (fill : α) (x : NDA α)
    (hpos : ∀ b, b < x.shape.length → 0 < x.shape.getD b 0) :
    (C07.padNDA mode w fill x).shape = ((MapOp.pad (padModeOf mode) (padWidths x.shape w)).apply x fill).shape ∧
    ∀ j, (C07.padNDA mode w fill x).get j = ((MapOp.pad (padModeOf mode) (padWidths x.shape w)).apply x fill).get j := by
  have hw : ∀ b, b < x.shape.length → (padWidths x.shape w).getD b (0, 0) = ((w b).1.toNat, (w b).2.toNat) :=
    fun b hb => getD_tab _ _ _ _ hb
  refine ⟨?_, fun j => ?_⟩
  · show tab _ _ = tab _ _
    apply tab_congr
    intro b hb
    rw [hw b hb]
  · show (match C07.padSrcIdx mode x.shape w j with
      | some i => x.get i
      | none => fill) = (match (MapOp.pad (padModeOf mode) (padWidths x.shape w)).src x.shape j with
      | some i => x.get i
      | none => fill)
    have hsrc : C07.padSrcIdx mode x.shape w j = (MapOp.pad (padModeOf mode) (padWidths x.shape w)).src x.shape j := by
      unfold C07.padSrcIdx MapOp.src
      have e1 : allLt x.shape.length (fun b => (C07.padSrc mode (x.shape.getD b 0) (w b).1.toNat (j.getD b 0)).isSome)
          = allLt x.shape.length (fun b => (padSrc (padModeOf mode) (x.shape.getD b 0)
              ((padWidths x.shape w).getD b (0, 0)).1 (j.getD b 0)).isSome) := by
        rw [Bool.eq_iff_iff, allLt_iff, allLt_iff]
        refine forall_congr' fun b => forall_congr' fun hb' => ?_
        rw [hw b hb', padSrc_link _ _ _ _ (hpos b hb')]
      have e2 : (tab x.shape.length fun b => (C07.padSrc mode (x.shape.getD b 0) (w b).1.toNat (j.getD b 0)).getD 0)
          = tab x.shape.length fun b => (padSrc (padModeOf mode) (x.shape.getD b 0)
              ((padWidths x.shape w).getD b (0, 0)).1 (j.getD b 0)).getD 0 := by
        apply tab_congr
        intro b hb
        rw [hw b hb, padSrc_link _ _ _ _ (hpos b hb)]
      rw [e1, e2]
    rw [hsrc]

/-! ## resampling -/

/-- `mesh.cells[a][k]` is the centre of cell `k`: `lo + (k + 1/2)·(E / n)` -/
theorem coord_affine (m : Mesh) (a k : Nat) (ha : a < m.ndim) (hk : k < m.nAt a) :
    C07.coord m a k = m.region.lo a + ((k : Rat) + 1 / 2) * (m.region.edge a / (m.nAt a : Rat)) :=
  (C01.cells_getD m a k ha hk).trans (C01.centreAx_natCast m a k)

/-- the lookup `to_xarray().sel(..., method="nearest")` of the C07 model = the mapping operation
`resample`, when source and target mesh cover the same region -/
theorem resampleNDA_link {α} (src tgt : Mesh) (x : NDA α) (fill : α) (hr : tgt.region = src.region)
    (hxs : x.shape = src.n) (hsl : src.n.length = src.ndim) (htl : tgt.n.length = tgt.ndim)
    (hspos : ∀ a, a < src.ndim → 0 < src.nAt a) (hE : ∀ a, a < src.ndim → 0 < src.region.edge a) :
    (C07.resampleNDA src tgt x).shape = ((MapOp.resample tgt.n).apply x fill).shape ∧
    ∀ j, inRange tgt.n j = true →
      (C07.resampleNDA src tgt x).get j = ((MapOp.resample tgt.n).apply x fill).get j := by
  refine ⟨rfl, fun j hj => ?_⟩
  show x.get _ = x.get (tab x.shape.length fun b => nearest (x.shape.getD b 0) (tgt.n.getD b 0) (j.getD b 0))
  congr 1
  rw [hxs, hsl]
  apply tab_congr
  intro a ha
  have hnd : tgt.ndim = src.ndim := by unfold Mesh.ndim; rw [hr]
  have hja : j.getD a 0 < tgt.n.getD a 0 := inRange_getD _ _ hj a (by rw [htl, hnd]; exact ha)
  unfold C07.nearestAx
  rw [coord_affine tgt a (j.getD a 0) (by rw [hnd]; exact ha) hja, hr,
    C07.nearestUpTo_congr (C07.coord src a)
      (fun k => src.region.lo a + ((k : Rat) + 1 / 2) * (src.region.edge a / (src.nAt a : Rat))) _ _
      (fun k hk => coord_affine src a k ha (by have := hspos a ha; omega)), nearestUpTo_link]
  exact nearest_affine (src.region.lo a) (src.region.edge a) (hE a ha) (src.nAt a) (tgt.nAt a) (j.getD a 0)

end DFV.C08
