import DFV.Lemmas.C06Rot
/-! Concrete instances for the non-vacuity examples (C06): three plain fields (2×3 with two components, 1-d, 2×2×3
with all cell sizes different), a mesh with two exactly fitting subregions, a mesh with a subregion the setter
accepts only thanks to its tolerances, and a vector field whose components are mapped to the directions (so that it
can be turned). -/
namespace DFV.C06
open DFV DFV.T

/-- a concrete anisotropic 2×3 field with two components (for non-vacuity examples):
region [0,2]×[1,4] named (x, y), cells 1 × 1, data `[i + 10 j, i·j]` -/
def exFld : Fld :=
  { mesh := { region := { pmin := [0, 1], pmax := [2, 4], dims := ["x", "y"], units := ["m", "m"],
                          tol := 1/1000000000000 },
              n := [2, 3], bc := "", subs := [] },
    nvdim := 2,
    data := ⟨[2, 3], fun i => [(i.getD 0 0 : Rat) + 10 * (i.getD 1 0 : Rat), (i.getD 0 0 : Rat) * (i.getD 1 0 : Rat)]⟩,
    valid := NDA.const [2, 3] true, vdims := some ["x", "y"], vmap := [], unit := none }

theorem exFld_wf : WF exFld := ⟨C01.mesh_inv_of_invB _ (by decide +kernel), rfl⟩

/-- a concrete 1-d field with 3 cells of length 1/2 -/
def exFld1 : Fld :=
  { mesh := { region := { pmin := [1], pmax := [5/2], dims := ["x"], units := ["m"], tol := 1/1000000000000 },
              n := [3], bc := "", subs := [] },
    nvdim := 1,
    data := ⟨[3], fun i => [(i.getD 0 0 : Rat) + 1]⟩,
    valid := NDA.const [3] true, vdims := none, vmap := [], unit := none }

theorem exFld1_wf : WF exFld1 := ⟨C01.mesh_inv_of_invB _ (by decide +kernel), rfl⟩

/-- a concrete 2×2×3 field with all cell sizes different (1, 1/2, 2) -/
def exFld3 : Fld :=
  { mesh := { region := { pmin := [0, 0, -1], pmax := [2, 1, 5], dims := ["x", "y", "z"],
                          units := ["m", "m", "m"], tol := 1/1000000000000 },
              n := [2, 2, 3], bc := "", subs := [] },
    nvdim := 1,
    data := ⟨[2, 2, 3], fun i => [(i.getD 0 0 : Rat) + 3 * (i.getD 1 0 : Rat) + 7 * (i.getD 2 0 : Rat)]⟩,
    valid := NDA.const [2, 2, 3] true, vdims := none, vmap := [], unit := some "T" }

theorem exFld3_wf : WF exFld3 := ⟨C01.mesh_inv_of_invB _ (by decide +kernel), rfl⟩

/-- `exFld` with two subregions: `r0` = [1,2]×[1,3] (one cell in, one cell wide along x; two
cells long along y) and `r1` = [0,1]×[3,4] -/
def exFldS : Fld :=
  { exFld with mesh := { exFld.mesh with subs :=
      [("r0", { pmin := [1, 1], pmax := [2, 3], dims := ["x", "y"], units := ["m", "m"], tol := 1/1000000000000 }),
       ("r1", { pmin := [0, 3], pmax := [1, 4], dims := ["x", "y"], units := ["m", "m"], tol := 1/1000000000000 })] } }

theorem exFldS_wf : WF exFldS := ⟨exFld_wf.1, exFld_wf.2⟩

theorem exFldS_fits : SubsFit exFldS.mesh := by
  intro p hp
  have hp' : p = ("r0", { pmin := [1, 1], pmax := [2, 3], dims := ["x", "y"], units := ["m", "m"], tol := 1/1000000000000 })
      ∨ p = ("r1", { pmin := [0, 3], pmax := [1, 4], dims := ["x", "y"], units := ["m", "m"], tol := 1/1000000000000 }) := by
    simpa [exFldS] using hp
  rcases hp' with rfl | rfl
  · refine ⟨rfl, rfl, ?_⟩
    intro a ha
    have : a = 0 ∨ a = 1 := by
      have : a < 2 := ha
      omega
    rcases this with rfl | rfl
    · exact ⟨1, 1, by decide, by decide, by decide +kernel, by decide +kernel⟩
    · exact ⟨0, 2, by decide, by decide, by decide +kernel, by decide +kernel⟩
  · refine ⟨rfl, rfl, ?_⟩
    intro a ha
    have : a = 0 ∨ a = 1 := by
      have : a < 2 := ha
      omega
    rcases this with rfl | rfl
    · exact ⟨0, 1, by decide, by decide, by decide +kernel, by decide +kernel⟩
    · exact ⟨2, 1, by decide, by decide, by decide +kernel, by decide +kernel⟩

/-- a box whose lower x face sits 1e-13 inside the cell face at x = 1 of `exFld`'s mesh -/
def exT0 : Region :=
  { pmin := [1 + 1/10000000000000, 1], pmax := [2, 3], dims := ["x", "y"], units := ["m", "m"], tol := 1/1000000000000 }

/-- `exFld` (2×3 cells of size 1×1 on [0,2]×[1,4]) with one subregion that does NOT fit the mesh
exactly -/
def exFldT : Fld := { exFld with mesh := { exFld.mesh with subs := [("t0", exT0)] } }

/-- the mesh `Mesh(region=t0, cell=mesh.cell)` the setter builds for it: 1 × 2 cells -/
def exO : Mesh := { region := canon exT0, n := [1, 2], bc := "", subs := [] }

theorem exFldT_wf : WF exFldT := ⟨exFld_wf.1, exFld_wf.2⟩

/-- the subregion passes the three checks of the setter … -/
theorem exFldT_acc : SubsAcc exFldT.mesh := by
  intro p hp
  have hp' : p = ("t0", exT0) := by simpa [exFldT] using hp
  subst hp'
  refine ⟨by decide +kernel, exO, by decide +kernel, by decide +kernel⟩

/-- … although it does not fit the mesh exactly -/
theorem exFldT_not_fit : ¬ SubsFit exFldT.mesh := by
  intro h
  obtain ⟨_, _, h3⟩ := h ("t0", exT0) (by simp [exFldT])
  obtain ⟨z, w, _, _, hlo, _⟩ := h3 0 (by decide)
  have hc : exFldT.mesh.cellAt 0 = 1 := by decide +kernel
  have hl : exFldT.mesh.region.lo 0 = 0 := by decide +kernel
  have ht : exT0.lo 0 = 1 + 1/10000000000000 := rfl
  rw [hc, hl] at hlo
  have hlo' : (1 + 1/10000000000000 : Rat) = (z : Rat) := by
    have : (("t0", exT0) : String × Region).2.lo 0 = 1 + 1/10000000000000 := ht
    rw [this] at hlo; linarith
  have h1 : (10000000000001 : Rat) = 10000000000000 * (z : Rat) := by rw [← hlo']; norm_num
  have h2 : (10000000000001 : Nat) = 10000000000000 * z := by exact_mod_cast h1
  omega

/-- `exFld` with its two components mapped to the two directions: a vector field that can be turned -/
def exFldV : Fld := { exFld with vmap := [("x", "x"), ("y", "y")] }

theorem exFldV_wf : WF exFldV := ⟨exFld_wf.1, exFld_wf.2⟩
theorem exFldV_cellLen : CellLen exFldV := fun _ _ => rfl
theorem exFldV_finv : FInv exFldV :=
  ⟨⟨exFld_wf.1, exFld_wf.2, rfl⟩, fun p hp => by simp [exFldV, exFld] at hp, bcWf_of_plain _ (Or.inl rfl)⟩

/-- every quarter turn of `exFldV` in the x-y plane about a 2-d reference point (or the centre) is accepted -/
theorem exFldV_turn_ok (k : Int) (ref : Option (List Rat)) (hr : (ref.getD exFldV.mesh.region.center).length = 2) (b : Bool) :
    ∃ x g, rotate90F exFldV "x" "y" k ref b = .ok (x, g) := by
  rw [rotate90F_accepted_iff exFldV exFldV_finv]
  rintro (h | ⟨_, h⟩)
  · rcases h with h | h | ⟨e, h⟩ | ⟨e, h⟩
    · exact absurd h (by decide)
    · exact h hr
    · have : exFldV.mesh.region.dim2index "x" = .ok 0 := by decide
      rw [this] at h; cases h
    · have : exFldV.mesh.region.dim2index "y" = .ok 1 := by decide
      rw [this] at h; cases h
  · rcases h with h | h <;> exact absurd h (by decide)

end DFV.C06
