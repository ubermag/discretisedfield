import DFV.Lemmas.C09Csv
/-! Instances showing that the hypotheses of the C09 theorems can be met: a lawful toy codec, number format and text
codec on `Nat`, a word-character class, a concrete field (with and without a subregion) and a foreign content. -/
namespace DFV.C09
open DFV

/-- a lawful toy codec on `Nat` tokens (every byte of a value is the value) -/
def toyCodec : Codec Nat where
  enc _ w x := List.replicate w x
  dec _ _ bs := bs.headD 0
  magic _ := 7
  zero := 0

theorem toyCodec_lawful : toyCodec.Lawful id := by
  constructor <;> simp [toyCodec]

/-- the driver's word class satisfies what the label theorems ask of `\w` -/
theorem isWordC_class : WordClass isWordC := by
  constructor
  · decide
  · decide
  · decide
  · decide
  · decide
  · intro c h
    cases hw : c.isWhitespace with
    | false => rfl
    | true =>
      exfalso
      simp only [Char.isWhitespace, Bool.or_eq_true, decide_eq_true_eq] at hw
      rcases hw with ((h1 | h1) | h1) | h1 <;> (subst h1; revert h; decide)

/-- a 2 x 1 x 3 mesh on [0,1] x [-1/2,0] x [2,5], three components labelled a_b, c, d -/
def exField : OField Nat :=
  { mesh := { region := { pmin := [0, -1/2, 2], pmax := [1, 0, 5], dims := ["x", "y", "z"],
                          units := ["nm", "nm", "nm"], tol := 1 / 1000000000000 },
              n := [2, 1, 3], bc := "", subs := [] },
    nvdim := 3,
    arr := ⟨[2, 1, 3, 3], fun i => 100 * i.getD 0 0 + 10 * i.getD 2 0 + i.getD 3 0⟩,
    vdims := some ["a_b", "c", "d"], unit := some "A/m" }

theorem exField_valid : Valid exField := by
  constructor
  · rfl
  · rfl
  · rfl
  · exact forall_lt3 (by decide +kernel) (by decide +kernel) (by decide +kernel)
  · exact forall_lt3 (by decide) (by decide) (by decide)
  · rfl
  · decide
  · rfl

theorem exField_labels : LabelsOk isWordC (fun s => s == "norm") exField := by
  refine ⟨by decide, ?_⟩
  show ["a_b", "c", "d"].length = 3 ∧ hasDup ["a_b", "c", "d"] = false ∧ _
  refine ⟨rfl, by decide, ?_⟩
  intro v hv
  simp only [List.mem_cons, List.mem_nil_iff, or_false] at hv
  rcases hv with rfl | rfl | rfl <;> exact ⟨⟨by decide, by decide⟩, by decide⟩

theorem exField_unit : UnitOk exField.unit := ⟨⟨by decide, by decide⟩, by decide⟩

/-- `exField` with one subregion: cells `0 ≤ ix < 1`, `0 ≤ iy < 1`, `1 ≤ iz < 3` -/
def exSub : Region :=
  { pmin := [0, -1/2, 3], pmax := [1/2, 0, 5], dims := ["x", "y", "z"], units := ["nm", "nm", "nm"],
    tol := 1 / 1000000000000 }

def exFieldS : OField Nat := { exField with mesh := { exField.mesh with subs := [("top_half", exSub)] } }

theorem exSub_of : SubOf exFieldS.mesh exSub (fun a => if a = 2 then 1 else 0) (fun a => if a = 2 then 3 else 1) := by
  refine ⟨rfl, rfl, ⟨rfl, by decide⟩, rfl, ?_, ?_, ?_⟩ <;>
    exact forall_lt3 (by decide +kernel) (by decide +kernel) (by decide +kernel)

theorem exFieldS_subs : ∀ p ∈ exFieldS.mesh.subs, ∃ i j, SubOf exFieldS.mesh p.2 i j := by
  intro p hp
  have : p = ("top_half", exSub) := by simpa [exFieldS] using hp
  subst this
  exact ⟨_, _, exSub_of⟩

theorem exFieldS_valid : Valid exFieldS := by
  have V := exField_valid
  exact ⟨V.pmin3, V.pmax3, V.n3, V.lt, V.npos, V.units, V.nv, V.shape⟩

theorem exFieldS_labels : LabelsOk isWordC (fun s => s == "norm") exFieldS := by
  have h := exField_labels
  exact h

/-- a toy number format: `|num|` letters `a`, a sign letter, `den` letters `a` -/
def toyNum : NumIO where
  fmt q := List.replicate q.num.natAbs 'a' ++ (if q.num < 0 then 'm' else 'p') :: List.replicate q.den 'a'
  pfloat cs :=
    match cs.dropWhile (· == 'a') with
    | [] => none
    | s :: d =>
      some (mkRat (if s == 'm' then -((cs.takeWhile (· == 'a')).length : Int) else (cs.takeWhile (· == 'a')).length)
        d.length)

theorem span_replicate_a (n : Nat) (s : Char) (hs : s ≠ 'a') (r : List Char) :
    (List.replicate n 'a' ++ s :: r).takeWhile (· == 'a') = List.replicate n 'a' ∧
    (List.replicate n 'a' ++ s :: r).dropWhile (· == 'a') = s :: r :=
  span_at _ _ _ (fun c hc => by simp [(List.mem_replicate.mp hc).2]) (fun c r e => by cases e; simpa using hs)

theorem toyNum_lawful : toyNum.Lawful := by
  constructor
  · intro q
    have hs : (if q.num < 0 then 'm' else 'p') ≠ 'a' := by split <;> decide
    show (match (List.replicate q.num.natAbs 'a' ++ (if q.num < 0 then 'm' else 'p') :: List.replicate q.den 'a').dropWhile
        (· == 'a') with
      | [] => none
      | s :: d => some (mkRat (if s == 'm' then
          -(((List.replicate q.num.natAbs 'a' ++ (if q.num < 0 then 'm' else 'p') :: List.replicate q.den 'a').takeWhile
            (· == 'a')).length : Int)
          else ((List.replicate q.num.natAbs 'a' ++ (if q.num < 0 then 'm' else 'p') :: List.replicate q.den 'a').takeWhile
            (· == 'a')).length) d.length)) = some q
    rw [(span_replicate_a _ _ hs _).2, (span_replicate_a _ _ hs _).1]
    simp only [List.length_replicate]
    congr 1
    by_cases hn : q.num < 0
    · simp only [hn, if_true, beq_self_eq_true]
      have : -(q.num.natAbs : Int) = q.num := by omega
      rw [this, Rat.mkRat_self]
    · simp only [hn, if_false]
      have h1 : ('p' == 'm') = false := by decide
      simp only [h1, Bool.false_eq_true, if_false]
      have : (q.num.natAbs : Int) = q.num := by omega
      rw [this, Rat.mkRat_self]
  · intro q ch hc
    simp only [toyNum, List.mem_append, List.mem_cons, List.mem_replicate] at hc
    rcases hc with ⟨_, rfl⟩ | h | ⟨_, rfl⟩
    · exact ⟨by decide, by decide⟩
    · subst h; split <;> exact ⟨by decide, by decide⟩
    · exact ⟨by decide, by decide⟩
  · intro q h
    simp [toyNum] at h

/-- pandas on an empty data section: no rows (the hypothesis `(tb []).1 = []` is satisfiable) -/
def toyText : List Byte → List (List Nat) × List String := fun _ => ([], [])

theorem exField_text : WrittenTextOk exField false := by
  refine ⟨textOk_of_B _ (by decide +kernel), ?_, ?_⟩
  · intro labels h
    have e : valueLabels exField false = .ok "field_a_b field_c field_d" := by decide +kernel
    rw [e] at h
    injection h with h
    subst h
    exact textOk_of_B _ (by decide +kernel)
  · have e : valueUnits exField false = "A/m A/m A/m" := by decide +kernel
    rw [e]
    exact textOk_of_B _ (by decide +kernel)

/-- a 1 x 2 x 1 OVF 1.0 content, mesh unit `m` -/
def exContent : Content Nat :=
  { base := [1/2, 1/4, 1], step := [1, 1/2, 2], nodes := [1, 2, 1], vd := 3, meshunit := "m",
    values := [1, 2, 3, 4, 5, 6] }

theorem exContent_step : ∀ a, a < 3 → 0 < exContent.step.getD a 0 :=
  forall_lt3 (by decide +kernel) (by decide +kernel) (by decide +kernel)

theorem exContent_nodes : ∀ a, a < 3 → 0 < exContent.nodes.getD a 0 :=
  forall_lt3 (by decide) (by decide) (by decide)

/-- decimal digits as the text of a natural number -/
def toyTextIO : TextIO Nat := ⟨fun n => (toString n).toList, fun cs => parseNat (String.ofList cs)⟩

theorem toyTextIO_lawful : toyTextIO.LawfulOn (fun _ => True) where
  parse_fmt x _ := by
    simp only [toyTextIO]
    rw [String.ofList_toList, parseNat_toString]
  clean x _ := by
    obtain ⟨hne, hdig, _⟩ := toString_digits x
    simp only [toyTextIO]
    refine ⟨hne, ?_⟩
    exact fun c hc => (isDigit_plain c (hdig c hc)).1

/-- the example field written as a text file, down to the bytes (597 of them; the rows end at 565) -/
def exTextBytes : List Byte :=
  match toOvfBytesT toyNum toyTextIO toyCodec exField "txt" false with
  | .ok b => b
  | .error _ => []

/-- the value of cell (1, 0, 2), component 2 after reading the first `t` bytes of the file -/
def exCutVal (t : Nat) : Option Nat :=
  match fromOvfBytesT toyNum toyTextIO toyCodec isWordC (fun _ => false) (exTextBytes.take t) none with
  | .ok g => some (g.arr.get [1, 0, 2, 2])
  | .error _ => none

theorem exCutVal_ok (t v : Nat) (h : exCutVal t = some v) :
    ∃ g, fromOvfBytesT toyNum toyTextIO toyCodec isWordC (fun _ => false) (exTextBytes.take t) none = .ok g ∧
      g.arr.get [1, 0, 2, 2] = v := by
  unfold exCutVal at h
  split at h
  · rename_i g hg
    injection h with h
    exact ⟨g, hg, h⟩
  · cases h

end DFV.C09
