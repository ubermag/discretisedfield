import DFV.Lemmas.C06Fld
/-! Keep-mask lemmas for C06 (means over several directions).  A direction `d` is cleared from a mask in two ways:
`integrate(d)` on a partially reduced field sees `d` at its position `p` among the axes that are still kept
(`clearNth K p`), the bookkeeping of a whole chain speaks of its axis `a` in the original mesh (`setAt K a false`).
`clearNth_idx` identifies the two; the rest is summing one more kept axis (`maskSum_step`) and looking entries up by
name in the reduced lists (`getD_filterMask_idx`). -/
namespace DFV.C06
open DFV

/-- clear the `p`-th `true` of a keep-mask -/
def clearNth : List Bool → Nat → List Bool
  | [], _ => []
  | false :: ks, p => false :: clearNth ks p
  | true :: ks, 0 => false :: ks
  | true :: ks, p + 1 => true :: clearNth ks p

theorem clearNth_length (K : List Bool) (p : Nat) : (clearNth K p).length = K.length := by
  induction K generalizing p with
  | nil => rfl
  | cons k ks ih =>
    cases k with
    | false => simp [clearNth, ih]
    | true => cases p <;> simp [clearNth, ih]

theorem filterMask_length_le {α} (K : List Bool) (xs : List α) : (filterMask K xs).length ≤ xs.length := by
  induction xs generalizing K with
  | nil => cases K <;> simp [filterMask]
  | cons x xs ih =>
    cases K with
    | nil => simp only [filterMask, List.length_cons]; have := ih []; omega
    | cons k ks =>
      cases k with
      | false => simp only [filterMask, List.length_cons]; have := ih ks; omega
      | true => simp only [filterMask, List.length_cons]; have := ih ks; omega

theorem filterMask_clearNth {α} (K : List Bool) (xs : List α) (p : Nat) (hl : K.length = xs.length)
    (hp : p < (filterMask K xs).length) :
    filterMask (clearNth K p) xs = removeAt (filterMask K xs) p := by
  induction xs generalizing K p with
  | nil => cases K <;> simp [filterMask] at hp
  | cons x xs ih =>
    cases K with
    | nil => simp at hl
    | cons k ks =>
      have hl' : ks.length = xs.length := by simpa using hl
      cases k with
      | false =>
        simp only [clearNth, filterMask] at hp ⊢
        exact ih ks p hl' hp
      | true =>
        cases p with
        | zero => simp [clearNth, filterMask, removeAt]
        | succ p =>
          simp only [clearNth, filterMask, removeAt] at hp ⊢
          rw [ih ks p hl' (by simpa using hp)]

theorem maskSum_step (shape : List Nat) (K : List Bool) (g : List Nat → Rat) (i : List Nat) (p : Nat)
    (hl : K.length = shape.length) (hp : p < (filterMask K shape).length)
    (hi : i.length + 1 = (filterMask K shape).length) :
    sumTo ((filterMask K shape).getD p 0) (fun j => maskSum shape K g (insertAt i p j))
      = maskSum shape (clearNth K p) g i := by
  induction shape generalizing K g i p with
  | nil => cases K <;> simp [filterMask] at hp
  | cons n ns ih =>
    cases K with
    | nil => simp at hl
    | cons k ks =>
      have hl' : ks.length = ns.length := by simpa using hl
      cases k with
      | false =>
        simp only [filterMask, clearNth, maskSum] at hp hi ⊢
        rw [sumTo_comm]
        apply sumTo_congr
        intro x _
        exact ih ks (fun t => g (x :: t)) i p hl' hp hi
      | true =>
        cases p with
        | zero =>
          simp only [filterMask, clearNth, maskSum, List.getD_cons_zero, insertAt_zero, List.headD_cons, List.tail_cons]
        | succ p =>
          cases i with
          | nil => simp only [filterMask, List.length_cons, List.length_nil] at hi hp; omega
          | cons x xs =>
            simp only [filterMask, clearNth, maskSum, List.getD_cons_succ, insertAt_cons_succ, List.headD_cons,
              List.tail_cons] at hp hi ⊢
            exact ih ks (fun t => g (x :: t)) xs p hl' (by simpa using hp) (by simpa using hi)

/-- position of the first occurrence of `x` (length of the list if absent) -/
def idx : List String → String → Nat
  | [], _ => 0
  | y :: ys, x => if y = x then 0 else idx ys x + 1

theorem indexOf?_idx (x : String) (xs : List String) (r : Nat) (h : indexOf? xs x = some r) : r = idx xs x := by
  induction xs generalizing r with
  | nil => cases h
  | cons y ys ih =>
    rw [indexOf?_cons] at h
    simp only [idx]
    split at h
    · rename_i hy
      rw [if_pos hy]; exact (Option.some.inj h).symm
    · rename_i hy
      rw [if_neg hy]
      obtain ⟨r', hr', rfl⟩ := Option.map_eq_some_iff.mp h
      rw [ih r' hr']

theorem dim2index_idx (r : Region) (d : String) (a : Nat) (h : r.dim2index d = .ok a) : a = idx r.dims d :=
  indexOf?_idx d r.dims a ((dim2index_eq_ok_iff r d a).mp h)

theorem mem_filterMask {α} (K : List Bool) (xs : List α) (x : α) (h : x ∈ filterMask K xs) : x ∈ xs := by
  induction xs generalizing K with
  | nil => cases K <;> simp [filterMask] at h
  | cons y ys ih =>
    cases K with
    | nil =>
      simp only [filterMask] at h
      rcases List.mem_cons.mp h with rfl | h
      · simp
      · exact List.mem_cons_of_mem _ (ih [] h)
    | cons k ks =>
      cases k with
      | false => simp only [filterMask] at h; exact List.mem_cons_of_mem _ (ih ks h)
      | true =>
        simp only [filterMask] at h
        rcases List.mem_cons.mp h with rfl | h
        · simp
        · exact List.mem_cons_of_mem _ (ih ks h)

theorem getD_filterMask_idx {α} (K : List Bool) (dims : List String) (xs : List α) (d : String) (dflt : α)
    (hl : K.length = dims.length) (hx : xs.length = dims.length) (hnd : dims.Nodup)
    (hd : d ∈ filterMask K dims) :
    (filterMask K xs).getD (idx (filterMask K dims) d) dflt = xs.getD (idx dims d) dflt := by
  induction dims generalizing K xs with
  | nil => cases K <;> simp [filterMask] at hd
  | cons y ys ih =>
    cases K with
    | nil => simp at hl
    | cons k ks =>
      cases xs with
      | nil => simp at hx
      | cons x xs =>
        have hl' : ks.length = ys.length := by simpa using hl
        have hx' : xs.length = ys.length := by simpa using hx
        obtain ⟨hy, hnd'⟩ := List.nodup_cons.mp hnd
        cases k with
        | true =>
          simp only [filterMask, idx] at hd ⊢
          by_cases hyd : y = d
          · simp [hyd]
          · simp only [hyd, if_false, List.getD_cons_succ]
            rcases List.mem_cons.mp hd with h | h
            · exact absurd h.symm hyd
            · exact ih ks xs hl' hx' hnd' h
        | false =>
          simp only [filterMask, idx] at hd ⊢
          have hdy : d ∈ ys := mem_filterMask ks ys d hd
          have hyd : ¬ y = d := by intro h; subst h; exact hy hdy
          simp only [hyd, if_false, List.getD_cons_succ]
          exact ih ks xs hl' hx' hnd' hd

theorem clearNth_idx (K : List Bool) (dims : List String) (d : String)
    (hl : K.length = dims.length) (hnd : dims.Nodup) (hd : d ∈ filterMask K dims) :
    clearNth K (idx (filterMask K dims) d) = setAt K (idx dims d) false := by
  induction dims generalizing K with
  | nil => cases K <;> simp [filterMask] at hd
  | cons y ys ih =>
    cases K with
    | nil => simp at hl
    | cons k ks =>
      have hl' : ks.length = ys.length := by simpa using hl
      obtain ⟨hy, hnd'⟩ := List.nodup_cons.mp hnd
      cases k with
      | true =>
        simp only [filterMask, idx] at hd ⊢
        by_cases hyd : y = d
        · simp [hyd, clearNth, setAt]
        · simp only [hyd, if_false, clearNth, setAt]
          rcases List.mem_cons.mp hd with h | h
          · exact absurd h.symm hyd
          · rw [ih ks hl' hnd' h]
      | false =>
        simp only [filterMask, idx] at hd ⊢
        have hdy : d ∈ ys := mem_filterMask ks ys d hd
        have hyd : ¬ y = d := by intro h; subst h; exact hy hdy
        simp only [hyd, if_false, clearNth, setAt]
        rw [ih ks hl' hnd' hd]

theorem idx_lt_of_mem (xs : List String) (x : String) (h : x ∈ xs) : idx xs x < xs.length := by
  induction xs with
  | nil => simp at h
  | cons y ys ih =>
    simp only [idx]
    by_cases hy : y = x
    · simp [hy]
    · simp only [hy, if_false, List.length_cons]
      rcases List.mem_cons.mp h with rfl | h
      · exact absurd rfl hy
      · have := ih h; omega

theorem dropProd_clearNth (K : List Bool) (shape : List Nat) (p : Nat) (hl : K.length = shape.length)
    (hp : p < (filterMask K shape).length) :
    dropProd (clearNth K p) shape = (filterMask K shape).getD p 0 * dropProd K shape := by
  induction shape generalizing K p with
  | nil => cases K <;> simp [filterMask] at hp
  | cons n ns ih =>
    cases K with
    | nil => simp at hl
    | cons k ks =>
      have hl' : ks.length = ns.length := by simpa using hl
      cases k with
      | false =>
        simp only [clearNth, filterMask, dropProd] at hp ⊢
        rw [ih ks p hl' hp]; ring
      | true =>
        cases p with
        | zero => simp [clearNth, filterMask, dropProd]
        | succ p =>
          simp only [clearNth, filterMask, dropProd, List.getD_cons_succ] at hp ⊢
          exact ih ks p hl' (by simpa using hp)

theorem filterMask_length_eq {α β} (K : List Bool) (xs : List α) (ys : List β) (h : xs.length = ys.length) :
    (filterMask K xs).length = (filterMask K ys).length := by
  induction xs generalizing K ys with
  | nil =>
    cases ys with
    | nil => cases K <;> simp [filterMask]
    | cons y ys => simp at h
  | cons x xs ih =>
    cases ys with
    | nil => simp at h
    | cons y ys =>
      have h' : xs.length = ys.length := by simpa using h
      cases K with
      | nil => simp only [filterMask, List.length_cons]; rw [ih [] ys h']
      | cons k ks =>
        cases k with
        | false => simp only [filterMask]; exact ih ks ys h'
        | true => simp only [filterMask, List.length_cons]; rw [ih ks ys h']

theorem filterMask_allTrue {α} (xs : List α) : filterMask (List.replicate xs.length true) xs = xs := by
  induction xs with
  | nil => simp [filterMask]
  | cons x xs ih => simp only [List.length_cons, List.replicate_succ, filterMask, ih]

theorem maskSum_allTrue (shape : List Nat) (g : List Nat → Rat) (i : List Nat) (hi : i.length = shape.length) :
    maskSum shape (List.replicate shape.length true) g i = g i := by
  induction shape generalizing g i with
  | nil =>
    have : i = [] := List.eq_nil_of_length_eq_zero (by simpa using hi)
    subst this; simp [maskSum]
  | cons n ns ih =>
    cases i with
    | nil => simp at hi
    | cons x xs =>
      simp only [List.length_cons, List.replicate_succ, maskSum, List.headD_cons, List.tail_cons]
      exact ih (fun t => g (x :: t)) xs (by simpa using hi)

theorem dropProd_allTrue (shape : List Nat) : dropProd (List.replicate shape.length true) shape = 1 := by
  induction shape with
  | nil => simp [dropProd]
  | cons n ns ih => simp only [List.length_cons, List.replicate_succ, dropProd, ih]

theorem foldl_setAt_false (axes : List Nat) (K : List Bool) :
    axes.foldl (fun K a => setAt K a false) K = tab K.length fun k => K.getD k true && !axes.contains k := by
  induction axes generalizing K with
  | nil =>
    simp only [List.foldl_nil, List.contains_nil, Bool.not_false, Bool.and_true]
    exact eq_tab_of_getD K K.length _ true rfl fun i _ => rfl
  | cons a as ih =>
    simp only [List.foldl_cons]
    rw [ih, length_setAt]
    apply tab_congr
    intro k hk
    rw [getD_setAt]
    simp only [List.contains_cons]
    by_cases hka : k = a
    · subst hka; simp [hk]
    · have : (k == a) = false := by simpa using hka
      simp [hka, this]

theorem keepMask_eq_foldl (n : Nat) (axes : List Nat) :
    keepMask n axes = axes.foldl (fun K a => setAt K a false) (List.replicate n true) := by
  rw [foldl_setAt_false]
  unfold keepMask
  simp only [List.length_replicate]
  apply tab_congr
  intro k hk
  simp [List.getD_eq_getElem?_getD, hk]

theorem dropProd_pos (K : List Bool) (shape : List Nat) (h : ∀ n ∈ shape, 0 < n) : 0 < dropProd K shape := by
  induction shape generalizing K with
  | nil => cases K with
    | nil => simp [dropProd]
    | cons k ks => cases k <;> simp [dropProd]
  | cons n ns ih =>
    cases K with
    | nil => simp [dropProd]
    | cons k ks =>
      cases k with
      | false =>
        simp only [dropProd]
        exact Nat.mul_pos (h n (by simp)) (ih ks fun m hm => h m (by simp [hm]))
      | true =>
        simp only [dropProd]
        exact ih ks fun m hm => h m (by simp [hm])

end DFV.C06
