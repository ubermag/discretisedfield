import DFV.Props.C01
import DFV.Lemmas.NDA
import DFV.Model.C17
/-! The constructor chain `from_xarray` runs, step by step, each with its acceptance condition and what an
accepted call returns: `Region(p1, p2, dims, units)` and `Mesh(region, cell)` as the importer calls them
(through the theorems of `Props/C01`), the component-count checks, `_as_array` (broadcasting), the
`vdims` setter with the default labels, and `Field(…)`. -/
namespace DFV.C17
open DFV

/-! ## `Region` -/

theorem unitsOk_none (n : Nat) : Region.unitsOk n none = .ok (List.replicate n "m") := rfl

theorem regionMk_eq (p1 p2 : List Rat) (d : List String) (units : Option (List String)) (tol : Rat) (r : Region)
    (h : Region.mk? p1 p2 (some d) units tol = .ok r) :
    ∃ u, Region.unitsOk p1.length units = .ok u ∧ r = T.normalised p1 p2 d u tol := by
  obtain ⟨-, -, d', hd, u, hu, -, rfl⟩ := (T.mk?_ok_iff _ _ _ _ _ _).mp h
  obtain ⟨-, -, rfl⟩ := T.dimsOk_some_inv _ _ _ hd
  exact ⟨u, hu, rfl⟩

theorem regionMk_inv (p1 p2 : List Rat) (d : List String) (units : Option (List String)) (tol : Rat) (r : Region)
    (h : Region.mk? p1 p2 (some d) units tol = .ok r) : r.Inv ∧ r.dims = d := by
  refine ⟨(C01.region_mk_normalises _ _ _ _ _ r h).1, ?_⟩
  obtain ⟨u, -, rfl⟩ := regionMk_eq _ _ _ _ _ _ h
  rfl

/-! ## `Mesh` -/

theorem any_tab_false {α} (n : Nat) (f : Nat → α) (p : α → Bool) (h : ∀ a, a < n → p (f a) = false) :
    (tab n f).any p = false := by
  rw [List.any_eq_false]
  intro x hx
  obtain ⟨a, ha, rfl⟩ := (mem_tab _ _ _).mp hx
  simp [h a ha]

/-- the constructor's final `n >= 1` test is the one the shared `Mesh.mkCell?` has already made -/
theorem mkCellNow_eq (r : Region) (cell : List Rat) : mkCellNow? r cell = Mesh.mkCell? r cell "" := by
  unfold mkCellNow?
  cases h : Mesh.mkCell? r cell "" with
  | error e => rfl
  | ok m =>
    obtain ⟨-, -, -, -, hn, -, rfl⟩ := (C01.mkCell_ok_iff' _ _ _ _).mp h
    have : (tab r.ndim fun a => (Mesh.roundHalfEven (r.edge a / cell.getD a 0)).toNat).any
        (fun k => decide (k < 1)) = false :=
      any_tab_false _ _ _ fun a ha => decide_eq_false (by have := hn a ha; omega)
    simp only [Except.bind, this, Bool.false_eq_true, if_false]

theorem mkCellNow_inv (r : Region) (hr : r.Inv) (cell : List Rat) (m : Mesh) (h : mkCellNow? r cell = .ok m) :
    m.Inv ∧ m.region = r ∧ m.bc = "" ∧ m.subs = [] := by
  rw [mkCellNow_eq] at h
  refine ⟨C01.mesh_inv_from_cell r hr cell "" m h, ?_⟩
  obtain ⟨-, -, -, -, -, -, rfl⟩ := (C01.mkCell_ok_iff' _ _ _ _).mp h
  exact ⟨rfl, C01.toLower_empty, rfl⟩

theorem mkCellNow_ok (r : Region) (n : List Nat) (hn : n.length = r.ndim)
    (hr : ∀ a, a < r.ndim → r.lo a < r.hi a) (hpos : ∀ a, a < r.ndim → 0 < n.getD a 0) :
    mkCellNow? r (tab r.ndim fun a => r.edge a / (n.getD a 0 : Rat))
      = .ok { region := r, n := n, bc := "", subs := [] } := by
  have hnpos : ∀ a, a < r.ndim → (0 : Rat) < (n.getD a 0 : Rat) := fun a ha => by exact_mod_cast hpos a ha
  have hedge : ∀ a, a < r.ndim → 0 < r.edge a := fun a ha => sub_pos.mpr (hr a ha)
  rw [mkCellNow_eq, C01.by_cell_exact r _ (fun a => n.getD a 0) (tab_length _ _) ?_ ?_ "" (C01.bcOk_empty_lower _),
    C01.toLower_empty, ← hn, tab_getD_self]
  · intro c hc
    obtain ⟨a, ha, rfl⟩ := (mem_tab _ _ _).mp hc
    exact div_pos (hedge a ha) (hnpos a ha)
  · intro a ha
    rw [getD_tab _ _ _ _ ha, mul_div_cancel₀ _ (hnpos a ha).ne']
    exact ⟨hpos a ha, rfl⟩

/-! ## component count -/

theorem checkNvdim_eq_ok_iff (nv : Option NvAttr) (dims : List String) (k : Nat) :
    checkNvdim nv dims = .ok k ↔ (1 ≤ k ∧ nv = some (.int k) ∧ (1 < k → "vdims" ∈ dims)) := by
  constructor
  · intro h
    unfold checkNvdim at h
    split at h
    · cases h
    · split at h <;> cases h
    · next i =>
      obtain ⟨h1, h⟩ := (guard_ok_iff _ _ _ _).mp h
      obtain ⟨h2, h⟩ := (guard_ok_iff _ _ _ _).mp h
      injection h with h
      subst h
      have hi : (i.toNat : Int) = i := Int.toNat_of_nonneg (by omega)
      refine ⟨by omega, by rw [hi], fun hk => ?_⟩
      exact List.contains_iff_mem.mp (Classical.not_not.mp fun hc => h2 ⟨by omega, hc⟩)
  · rintro ⟨hk, rfl, hvd⟩
    unfold checkNvdim
    have h1 : ¬ ((k : Int) < 1) := by omega
    have h2 : ¬ (1 < (k : Int) ∧ ¬ dims.contains "vdims" = true) := by
      rintro ⟨h3, h4⟩
      exact h4 (List.contains_iff_mem.mpr (hvd (by omega)))
    simp only [h1, h2, if_false, Int.toNat_natCast]

theorem checkNvdim_err_iff (nv : Option NvAttr) (dims : List String) :
    (checkNvdim nv dims = .error .key ↔ nv = none) ∧
    (checkNvdim nv dims = .error .type ↔ ∃ q, nv = some (.other q) ∧ 1 ≤ q) ∧
    (checkNvdim nv dims = .error .value ↔
      (∃ q, nv = some (.other q) ∧ q < 1) ∨
      (∃ k : Int, nv = some (.int k) ∧ (k < 1 ∨ (1 < k ∧ ¬ "vdims" ∈ dims)))) := by
  unfold checkNvdim
  -- per input class the result is one error; only its row of the table is true
  cases nv with
  | none => simp -- `KeyError`
  | some v =>
    cases v with
    | other q =>
      by_cases hq : q < 1
      · simp [hq] -- `ValueError`
      · simp [hq, not_lt.mp hq] -- `TypeError`
    | int k =>
      dsimp only
      by_cases hk : k < 1
      · -- `ValueError`, first disjunct of the `int` case
        rw [if_pos hk]
        refine ⟨by simp, by simp, ?_⟩
        simp only [true_iff]
        exact Or.inr ⟨k, rfl, Or.inl hk⟩
      · rw [if_neg hk]
        by_cases h2 : 1 < k ∧ ¬ dims.contains "vdims" = true
        · have h3 : ¬ "vdims" ∈ dims := by
            intro hm; exact h2.2 (List.contains_iff_mem.mpr hm)
          -- `ValueError`, second disjunct
          rw [if_pos h2]
          refine ⟨by simp, by simp, ?_⟩
          simp only [true_iff]
          exact Or.inr ⟨k, rfl, Or.inr ⟨h2.1, h3⟩⟩
        · -- accepted: no row is true
          rw [if_neg h2]
          refine ⟨by simp, by simp, ?_⟩
          simp only [reduceCtorEq, false_iff, not_or, not_exists, not_and]
          refine ⟨fun q h => (by cases h), fun k' h => ?_⟩
          injection h with h; injection h with h
          subst h
          exact ⟨hk, fun h1 hm => h2 ⟨h1, fun hc => hm (List.contains_iff_mem.mp hc)⟩⟩

/-! ## `_as_array` -/

def Agree {α} (a b : NDA α) : Prop :=
  a.shape = b.shape ∧ ∀ i, inRange a.shape i = true → a.get i = b.get i

theorem Agree.refl {α} (a : NDA α) : Agree a a := ⟨rfl, fun _ _ => rfl⟩

theorem Agree.trans {α} {a b c : NDA α} (h1 : Agree a b) (h2 : Agree b c) : Agree a c :=
  ⟨h1.1.trans h2.1, fun i hi => (h1.2 i hi).trans (h2.2 i (h1.1 ▸ hi))⟩

/-- numpy's broadcasting rule, index level: `src` has at most as many axes as `tgt` and, aligned
at the last axis, every length is 1 or the target's -/
def BcastSpec (src tgt : List Nat) : Prop :=
  src.length ≤ tgt.length ∧ ∀ a, a < src.length → src.getD a 0 = 1 ∨ src.getD a 0 = tgt.getD (a + (tgt.length - src.length)) 0

theorem bcastOk_iff (src tgt : List Nat) : bcastOk src tgt = true ↔ BcastSpec src tgt := by
  unfold bcastOk BcastSpec
  simp only [Bool.and_eq_true, allLt_iff, decide_eq_true_iff, Bool.or_eq_true, beq_iff_eq]

theorem bcastSpec_self (s : List Nat) : BcastSpec s s :=
  ⟨le_refl _, fun a _ => Or.inr (by rw [Nat.sub_self, Nat.add_zero])⟩

theorem bcastIx_self (s i : List Nat) (h : inRange s i = true) : bcastIx s s i = i := by
  unfold bcastIx
  symm
  apply eq_tab_of_getD _ _ _ 0 (inRange_length _ _ h)
  intro a ha
  simp only [Nat.sub_self, Nat.add_zero]
  split
  · next h1 =>
    have := inRange_getD _ _ h a ha
    omega
  · rfl

/-- the shapes `_as_array` accepts for a mesh with counts `n` and `k` components: the mesh's own
shape (scalar field), or last axis `k` and broadcastable to `(*n, k)` -/
def DataFits (shape n : List Nat) (k : Nat) : Prop :=
  (k = 1 ∧ shape = n) ∨ (shape.getLast? = some k ∧ BcastSpec shape (n ++ [k]))

section
variable {α : Type}

theorem asArray_eq_ok_iff (val : NDA α) (n : List Nat) (k : Nat) (d : NDA α) :
    asArray val n k = .ok d ↔ DataFits val.shape n k ∧
      d = ⟨n ++ [k], fun i =>
        if k = 1 ∧ val.shape = n then val.get i.dropLast else val.get (bcastIx val.shape (n ++ [k]) i)⟩ := by
  unfold asArray DataFits
  rw [← bcastOk_iff]
  by_cases h1 : k = 1 ∧ val.shape = n
  · obtain ⟨rfl, rfl⟩ := h1
    simp only [and_self, if_true, true_or, true_and, Except.ok.injEq]
    exact eq_comm
  · rw [if_neg h1]
    simp only [h1, false_or, if_false]
    by_cases h2 : val.shape.getLast? = some k
    · cases h3 : bcastOk val.shape (n ++ [k]) <;> simp [h2, eq_comm]
    · simp [h2]

theorem asArray_ok_iff (val : NDA α) (n : List Nat) (k : Nat) :
    (∃ d, asArray val n k = .ok d) ↔ DataFits val.shape n k :=
  ⟨fun ⟨d, h⟩ => ((asArray_eq_ok_iff val n k d).mp h).1, fun h => ⟨_, (asArray_eq_ok_iff val n k _).mpr ⟨h, rfl⟩⟩⟩

theorem asArray_inv (val : NDA α) (n : List Nat) (k : Nat) (d : NDA α) (h : asArray val n k = .ok d) :
    d.shape = n ++ [k] ∧
    ∀ i, d.get i = if k = 1 ∧ val.shape = n then val.get i.dropLast else val.get (bcastIx val.shape (n ++ [k]) i) := by
  obtain ⟨-, rfl⟩ := (asArray_eq_ok_iff val n k d).mp h
  exact ⟨rfl, fun _ => rfl⟩

theorem asArray_shape {α} (val : NDA α) (n : List Nat) (k : Nat) (d : NDA α) (h : asArray val n k = .ok d) :
    d.shape = n ++ [k] :=
  (asArray_inv val n k d h).1

theorem asArray_same (val : NDA α) (n : List Nat) (k : Nat) (hs : val.shape = n ++ [k]) :
    ∃ d, asArray val n k = .ok d ∧ Agree d val := by
  obtain ⟨d, hd⟩ := (asArray_ok_iff val n k).mpr (Or.inr (by rw [hs]; exact ⟨by simp, bcastSpec_self _⟩))
  obtain ⟨h1, h2⟩ := asArray_inv _ _ _ _ hd
  have hne : ¬ (k = 1 ∧ val.shape = n) := by
    rintro ⟨-, h⟩
    have := congrArg List.length (hs.symm.trans h)
    simp at this
  refine ⟨d, hd, h1.trans hs.symm, fun i hi => ?_⟩
  rw [h2, if_neg hne, hs, bcastIx_self _ _ (h1 ▸ hi)]

end

/-! ## `np.expand_dims(xa.values, -1)` for scalar fields -/

section
variable {α : Type}

theorem valOf_shape (xa : XA α) (n : List Nat) (k : Nat) (hk : 1 ≤ k)
    (hs : xa.data.shape = n ++ (if 1 < k then [k] else [])) : (valOf xa k).shape = n ++ [k] := by
  unfold valOf
  by_cases h1 : k = 1
  · subst h1
    rw [if_pos rfl]
    show xa.data.shape ++ [1] = _
    rw [hs, if_neg (by omega), List.append_nil]
  · rw [if_neg h1, hs, if_pos (by omega)]

theorem valOf_get (xa : XA α) (k : Nat) (hk : 1 ≤ k) (i : List Nat) :
    (valOf xa k).get i = xa.data.get (if 1 < k then i else i.dropLast) := by
  unfold valOf
  by_cases h1 : k = 1
  · subst h1; rfl
  · rw [if_neg h1, if_pos (by omega)]

end

/-! ## labels -/

theorem defaultVdims_ne_none (k : Nat) (hk : 1 < k) : Fld.defaultVdims k ≠ none :=
  fun h => absurd ((Fld.defaultVdims_eq_none_iff k).mp h) (by omega)

section
variable [FieldAttrs]

/-- the label coordinates the `vdims` setter accepts: none, an empty one, or `k` distinct strings
none of which names an attribute of `Field` -/
def LabelsOk (k : Nat) (vc : Option (List String)) : Prop :=
  ∀ l, vc = some l → l = [] ∨ (l.length = k ∧ hasDup l = false ∧ l.any FieldAttrs.has = false)

theorem vdimsSet_cons_eq_ok_iff (k : Nat) (x : String) (xs : List String) (vd : Option (List String)) :
    vdimsSet k (some (x :: xs)) = .ok vd ↔
      ((x :: xs).length = k ∧ hasDup (x :: xs) = false ∧ (x :: xs).any FieldAttrs.has = false) ∧ vd = some (x :: xs) := by
  have e : vdimsSet k (some (x :: xs)) =
      if (x :: xs).length ≠ k then .error .value
      else if hasDup (x :: xs) then .error .value
      else if (x :: xs).any FieldAttrs.has then .error .value
      else .ok (some (x :: xs)) := rfl
  rw [e]
  constructor
  · intro h
    obtain ⟨h1, h⟩ := (guard_ok_iff _ _ _ _).mp h
    obtain ⟨h2, h⟩ := (guard_ok_iff _ _ _ _).mp h
    obtain ⟨h3, h⟩ := (guard_ok_iff _ _ _ _).mp h
    injection h with h
    exact ⟨⟨not_not.mp h1, Bool.not_eq_true _ ▸ h2, Bool.not_eq_true _ ▸ h3⟩, h.symm⟩
  · rintro ⟨⟨h1, h2, h3⟩, rfl⟩
    rw [if_neg (not_not.mpr h1), h2, h3]
    rfl

theorem vdimsSet_ok_iff (k : Nat) (vc : Option (List String)) :
    (∃ vd, vdimsSet k vc = .ok vd) ↔ LabelsOk k vc := by
  unfold LabelsOk
  cases vc with
  | none => simp [vdimsSet]
  | some l =>
    cases l with
    | nil => simp [vdimsSet]
    | cons x xs => simp [vdimsSet_cons_eq_ok_iff]

/-- the labels a successful `vdims` setter leaves: `k` distinct strings, none the name of an
attribute (the defaults are not checked by the setter, hence `hdef`) -/
theorem vdimsSet_inv (k : Nat) (vc vd : Option (List String)) (h : vdimsSet k vc = .ok vd)
    (hdef : vc = none → ∀ k l, Fld.defaultVdims k = some l → l.any FieldAttrs.has = false) :
    ∀ l, vd = some l → l.length = k ∧ hasDup l = false ∧ l.any FieldAttrs.has = false := by
  rintro l rfl
  match vc, h with
  | none, h =>
    injection h with h
    exact ⟨(Fld.defaultVdims_ok k l h).1, (Fld.defaultVdims_ok k l h).2, hdef rfl k l h⟩
  | some [], h => cases h
  | some (x :: xs), h =>
    obtain ⟨hl, h⟩ := (vdimsSet_cons_eq_ok_iff k x xs _).mp h
    injection h with h
    rw [h]; exact hl

theorem vdimsSet_of_labels (k : Nat) (hk : 1 ≤ k) (vc : Option (List String))
    (hlab : ∀ l, vc = some l → l.length = k ∧ hasDup l = false ∧ l.any FieldAttrs.has = false) :
    vdimsSet k vc = .ok (match (generalizing := false) vc with | some l => some l | none => Fld.defaultVdims k) := by
  match vc, hlab with
  | none, _ => rfl
  | some [], hlab => have := (hlab [] rfl).1; simp at this; omega
  | some (x :: xs), hlab => exact (vdimsSet_cons_eq_ok_iff k x xs _).mpr ⟨hlab _ rfl, rfl⟩

/-! ## `Field(mesh, nvdim, value, vdims, dtype)` -/

variable {α : Type}

theorem fieldOf_eq_ok_iff (xa : XA α) (m : Mesh) (k : Nat) (g : XFld α) :
    fieldOf xa m k = .ok g ↔
      ∃ d1 d vd, asArray (valOf xa k) m.n k = .ok d1 ∧ asArray d1 m.n k = .ok d ∧ vdimsSet k xa.vdimsCoord = .ok vd ∧
        g = { mesh := m, nvdim := k, data := d, valid := NDA.const m.n true, vdims := vd,
              vmap := defaultVmap k m.region.dims vd, unit := none, dtype := xa.dtype } := by
  unfold fieldOf
  simp only [bind_ok_iff', Except.ok.injEq]
  exact ⟨fun ⟨d1, h1, d, h2, vd, h3, h⟩ => ⟨d1, d, vd, h1, h2, h3, h.symm⟩,
    fun ⟨d1, d, vd, h1, h2, h3, h⟩ => ⟨d1, h1, d, h2, vd, h3, h.symm⟩⟩

theorem fieldOf_ok_iff (xa : XA α) (m : Mesh) (k : Nat) :
    (∃ g, fieldOf xa m k = .ok g) ↔ DataFits (valOf xa k).shape m.n k ∧ LabelsOk k xa.vdimsCoord := by
  rw [← asArray_ok_iff, ← vdimsSet_ok_iff]
  constructor
  · rintro ⟨g, h⟩
    obtain ⟨d1, d, vd, h1, -, h3, -⟩ := (fieldOf_eq_ok_iff xa m k g).mp h
    exact ⟨⟨d1, h1⟩, ⟨vd, h3⟩⟩
  · rintro ⟨⟨d1, h1⟩, ⟨vd, h3⟩⟩
    obtain ⟨d, hd, -⟩ := asArray_same d1 m.n k (asArray_shape _ _ _ _ h1)
    exact ⟨_, (fieldOf_eq_ok_iff xa m k _).mpr ⟨d1, d, vd, h1, hd, h3, rfl⟩⟩

/-- what an accepted call returns: the mesh, `k`, the value array as `_as_array` reads it (the second
pass changes nothing), the setter's labels, all cells valid, no unit -/
theorem fieldOf_inv (xa : XA α) (m : Mesh) (k : Nat) (g : XFld α) (h : fieldOf xa m k = .ok g) :
    g.mesh = m ∧ g.nvdim = k ∧ g.dtype = xa.dtype ∧ g.unit = none ∧ g.valid = NDA.const m.n true ∧
    vdimsSet k xa.vdimsCoord = .ok g.vdims ∧ g.vmap = defaultVmap k m.region.dims g.vdims ∧
    ∃ d1, asArray (valOf xa k) m.n k = .ok d1 ∧ Agree g.data d1 := by
  obtain ⟨d1, d, vd, h1, h2, h3, rfl⟩ := (fieldOf_eq_ok_iff xa m k g).mp h
  obtain ⟨d', hd', ha⟩ := asArray_same d1 m.n k (asArray_shape _ _ _ _ h1)
  rw [h2] at hd'
  injection hd' with hd'
  subst hd'
  exact ⟨rfl, rfl, rfl, rfl, rfl, h3, rfl, d1, h1, ha⟩

theorem fieldOf_ok (xa : XA α) (m : Mesh) (k : Nat) (hs : (valOf xa k).shape = m.n ++ [k])
    (vd : Option (List String)) (hvs : vdimsSet k xa.vdimsCoord = .ok vd) :
    ∃ d, Agree d (valOf xa k) ∧
      fieldOf xa m k = .ok { mesh := m, nvdim := k, data := d, valid := NDA.const m.n true, vdims := vd,
                             vmap := defaultVmap k m.region.dims vd, unit := none, dtype := xa.dtype } := by
  obtain ⟨d1, hd1, ha1⟩ := asArray_same (valOf xa k) m.n k hs
  obtain ⟨d2, hd2, ha2⟩ := asArray_same d1 m.n k (ha1.1.trans hs)
  exact ⟨d2, ha2.trans ha1, (fieldOf_eq_ok_iff xa m k _).mpr ⟨d1, d2, vd, hd1, hd2, hvs, rfl⟩⟩

end

end DFV.C17
