import Mathlib.Tactic.Linarith
import DFV.Lemmas.Transform
import DFV.Lemmas.Index

/-! `np.rot90` through its index map `srcIdx`: the array in one equation (`rot90_eq`); the two in-plane
components of `srcIdx` as arithmetic on a pair (`srcIdx_pair`, `srcPair`), which in the centred coordinates `ctr` is
the quarter turn itself (`srcPair_ctr`) — whence composition (`srcPair_compose`, `srcIdx_compose`) — and, axis by
axis, the signed permutation `rotSrc`, `rotSign` that the point map `rotCoord` is (`srcIdx_ctr`); what a quarter turn
does to one axis of a mesh (`turned_axis`). -/
namespace DFV.T
open DFV

/-- index map of `np.rot90` on multi-indices -/
def srcIdx (sh : List Nat) (p q : Nat) (k : Int) (j : List Nat) : List Nat :=
  if k % 4 = 0 then j
  else if k % 4 = 2 then
    setAt (setAt j q (sh.getD q 0 - 1 - j.getD q 0)) p
      (sh.getD p 0 - 1 - (setAt j q (sh.getD q 0 - 1 - j.getD q 0)).getD p 0)
  else if k % 4 = 1 then setAt (swapAt j p q) q (sh.getD q 0 - 1 - (swapAt j p q).getD q 0)
  else swapAt (setAt j q ((swapAt sh p q).getD q 0 - 1 - j.getD q 0)) p q

/-- `np.rot90` in one equation: the shape is turned by `rotN`, entry `j` is entry `srcIdx j` of the source -/
theorem rot90_eq {α} (a : NDA α) (p q : Nat) (k : Int) :
    rot90 a p q k = ⟨rotN a.shape p q k, fun j => a.get (srcIdx a.shape p q k j)⟩ := by
  unfold rot90 rotN srcIdx
  -- each `rfl` computes what `rot90` returns for one residue
  rcases turn_cases k with ⟨h, ho, _⟩ | ⟨h, ho, _⟩ | ⟨h, ho, _⟩ | ⟨h, ho, _⟩ <;> rw [h, ho] <;> rfl

theorem rot90_get {α} (a : NDA α) (p q : Nat) (k : Int) (j : List Nat) :
    (rot90 a p q k).get j = a.get (srcIdx a.shape p q k j) := by rw [rot90_eq]

theorem rot90_shape {α} (a : NDA α) (p q : Nat) (k : Int) : (rot90 a p q k).shape = rotN a.shape p q k := by rw [rot90_eq]

theorem rot90_map {α β} (φ : α → β) (a : NDA α) (p q : Nat) (k : Int) : rot90 (a.map φ) p q k = (rot90 a p q k).map φ := by
  rw [rot90_eq, rot90_eq]; rfl

theorem rot90_mod4' {α} (a : NDA α) (p q : Nat) (k : Int) : rot90 a p q (k % 4) = rot90 a p q k := by
  unfold rot90; rw [Int.emod_emod_of_dvd k (by decide)]

theorem srcIdx_zero (sh : List Nat) (p q : Nat) (k : Int) (hk : k % 4 = 0) (j : List Nat) : srcIdx sh p q k j = j := by
  unfold srcIdx; rw [if_pos hk]

theorem srcIdx_length (sh j : List Nat) (p q : Nat) (k : Int) : (srcIdx sh p q k j).length = j.length := by
  unfold srcIdx
  split
  · rfl
  · split
    · rw [length_setAt, length_setAt]
    · split
      · rw [length_setAt, length_swapAt]
      · rw [length_swapAt, length_setAt]

/-- the two in-plane components of the `np.rot90` source index, as arithmetic on the pair -/
def srcPair (sp sq : Nat) (k : Int) (jp jq : Nat) : Nat × Nat :=
  if k % 4 = 0 then (jp, jq)
  else if k % 4 = 2 then (sp - 1 - jp, sq - 1 - jq)
  else if k % 4 = 1 then (jq, sq - 1 - jp)
  else (sp - 1 - jq, jp)

/-- `turn_cases` with the value of `srcPair` in each row -/
theorem srcPair_cases (sp sq : Nat) (k : Int) (jp jq : Nat) :
    (k % 4 = 0 ∧ isOdd k = false ∧ cosq k = 1 ∧ sinq k = 0 ∧ srcPair sp sq k jp jq = (jp, jq)) ∨
    (k % 4 = 1 ∧ isOdd k = true ∧ cosq k = 0 ∧ sinq k = 1 ∧ srcPair sp sq k jp jq = (jq, sq - 1 - jp)) ∨
    (k % 4 = 2 ∧ isOdd k = false ∧ cosq k = -1 ∧ sinq k = 0 ∧ srcPair sp sq k jp jq = (sp - 1 - jp, sq - 1 - jq)) ∨
    (k % 4 = 3 ∧ isOdd k = true ∧ cosq k = 0 ∧ sinq k = -1 ∧ srcPair sp sq k jp jq = (sp - 1 - jq, jp)) := by
  unfold srcPair
  rcases turn_cases k with ⟨h, r⟩ | ⟨h, r⟩ | ⟨h, r⟩ | ⟨h, r⟩ <;> rw [h]
  · exact Or.inl ⟨rfl, r.1, r.2.1, r.2.2, rfl⟩
  · exact Or.inr (Or.inl ⟨rfl, r.1, r.2.1, r.2.2, rfl⟩)
  · exact Or.inr (Or.inr (Or.inl ⟨rfl, r.1, r.2.1, r.2.2, rfl⟩))
  · exact Or.inr (Or.inr (Or.inr ⟨rfl, r.1, r.2.1, r.2.2, rfl⟩))

/-- **the source index of `np.rot90`**: its two in-plane entries are `srcPair` of the two in-plane entries of the
index, the others are kept -/
theorem srcIdx_pair (sh j : List Nat) (p q : Nat) (k : Int) (hpq : p ≠ q) (hp : p < j.length) (hq : q < j.length)
    (hsh : sh.length = j.length) :
    (srcIdx sh p q k j).getD p 0 = (srcPair (sh.getD p 0) (sh.getD q 0) k (j.getD p 0) (j.getD q 0)).1 ∧
    (srcIdx sh p q k j).getD q 0 = (srcPair (sh.getD p 0) (sh.getD q 0) k (j.getD p 0) (j.getD q 0)).2 ∧
    ∀ a, a ≠ p → a ≠ q → (srcIdx sh p q k j).getD a 0 = j.getD a 0 := by
  have dflt : (default : Nat) = 0 := rfl
  unfold srcIdx
  rcases srcPair_cases (sh.getD p 0) (sh.getD q 0) k (j.getD p 0) (j.getD q 0) with
    ⟨h, _, _, _, e⟩ | ⟨h, _, _, _, e⟩ | ⟨h, _, _, _, e⟩ | ⟨h, _, _, _, e⟩ <;> rw [e, h]
  · exact ⟨rfl, rfl, fun _ _ _ => rfl⟩
  all_goals simp only [↓reduceIte, Int.reduceEq]
  · -- `k ≡ 1`: swap the axes, then flip `q`
    refine ⟨?_, ?_, fun a ha1 ha2 => ?_⟩
    · exact (getD_setAt_ne _ _ _ _ _ hpq).trans ((getD_swapAt_left _ _ _ _ hpq hp).trans (by rw [dflt]))
    · rw [getD_setAt_eq _ _ _ _ (by rw [length_swapAt]; exact hq), getD_swapAt_right _ _ _ _ hq, dflt]
    · rw [getD_setAt_ne _ _ _ _ _ ha2, getD_swapAt_other _ _ _ _ _ ha1 ha2]
  · -- `k ≡ 2`: flip `q`, then `p`
    refine ⟨?_, ?_, fun a ha1 ha2 => ?_⟩
    · rw [getD_setAt_eq _ _ _ _ (by rw [length_setAt]; exact hp), getD_setAt_ne _ _ _ _ _ hpq]
    · rw [getD_setAt_ne _ _ _ _ _ hpq.symm, getD_setAt_eq _ _ _ _ hq]
    · rw [getD_setAt_ne _ _ _ _ _ ha1, getD_setAt_ne _ _ _ _ _ ha2]
  · -- `k ≡ 3`: flip `q` (whose length is `sh p` once the axes are swapped), then swap the axes
    have hq' : q < sh.length := hsh ▸ hq
    refine ⟨?_, ?_, fun a ha1 ha2 => ?_⟩
    · rw [getD_swapAt_left _ _ _ _ hpq (by rw [length_setAt]; exact hp), dflt, getD_setAt_eq _ _ _ _ hq,
        getD_swapAt_right _ _ _ _ hq', dflt]
    · rw [getD_swapAt_right _ _ _ _ (by rw [length_setAt]; exact hq), dflt, getD_setAt_ne _ _ _ _ _ hpq]
    · rw [getD_swapAt_other _ _ _ _ _ ha1 ha2, getD_setAt_ne _ _ _ _ _ ha2]

theorem srcPair_lt (sp sq : Nat) (k : Int) (jp jq : Nat)
    (hjp : jp < (if isOdd k then sq else sp)) (hjq : jq < (if isOdd k then sp else sq)) :
    (srcPair sp sq k jp jq).1 < sp ∧ (srcPair sp sq k jp jq).2 < sq := by
  have reflect : ∀ n j : Nat, j < n → n - 1 - j < n := fun n j h => by omega
  -- in each residue the two `if isOdd k` of the hypotheses are evaluated
  rcases srcPair_cases sp sq k jp jq with ⟨_, ho, _, _, e⟩ | ⟨_, ho, _, _, e⟩ | ⟨_, ho, _, _, e⟩ | ⟨_, ho, _, _, e⟩ <;>
    rw [ho] at hjp hjq <;> rw [e] <;> simp only [if_true, if_false, Bool.false_eq_true] at hjp hjq ⊢
  · exact ⟨hjp, hjq⟩
  · exact ⟨hjq, reflect _ _ hjp⟩
  · exact ⟨reflect _ _ hjp, reflect _ _ hjq⟩
  · exact ⟨reflect _ _ hjq, hjp⟩

/-- twice the offset of cell `j` from the middle of an axis of `n` cells -/
def ctr (n j : Nat) : Rat := 2 * j + 1 - n

theorem ctr_reflect (n j : Nat) (h : j < n) : ctr n (n - 1 - j) = - ctr n j := by
  unfold ctr
  have : n - 1 - j = n - (1 + j) := by omega
  rw [this, Nat.cast_sub (by omega)]; push_cast; ring

theorem ctr_inj (n a b : Nat) (h : ctr n a = ctr n b) : a = b := by
  unfold ctr at h
  have : (a : Rat) = b := by linarith
  exact_mod_cast this

/-- in the centred coordinates `ctr` the index map of a quarter turn is the quarter turn itself -/
theorem srcPair_ctr (sp sq : Nat) (k : Int) (jp jq : Nat)
    (hjp : jp < (if isOdd k then sq else sp)) (hjq : jq < (if isOdd k then sp else sq)) :
    ctr sp (srcPair sp sq k jp jq).1
      = cosq k * ctr (if isOdd k then sq else sp) jp + sinq k * ctr (if isOdd k then sp else sq) jq ∧
    ctr sq (srcPair sp sq k jp jq).2
      = cosq k * ctr (if isOdd k then sp else sq) jq - sinq k * ctr (if isOdd k then sq else sp) jp := by
  -- in each residue evaluate the `if isOdd k`, put in cosine and sine; a reflected index is minus the index (`ctr_reflect`)
  rcases srcPair_cases sp sq k jp jq with
    ⟨_, ho, hc, hs, e⟩ | ⟨_, ho, hc, hs, e⟩ | ⟨_, ho, hc, hs, e⟩ | ⟨_, ho, hc, hs, e⟩ <;>
    rw [ho] at hjp hjq <;> rw [e, ho, hc, hs] <;> simp only [if_true, if_false, Bool.false_eq_true] at hjp hjq ⊢
  · constructor <;> ring
  · rw [ctr_reflect sq jp hjp]; constructor <;> ring
  · rw [ctr_reflect sp jp hjp, ctr_reflect sq jq hjq]; constructor <;> ring
  · rw [ctr_reflect sp jq hjq]; constructor <;> ring

/-- composition of the pair maps: the inner map sees the shape already turned by `k`.  In centred
coordinates both sides are quarter turns, and the angles add. -/
theorem srcPair_compose (sp sq : Nat) (k l : Int) (jp jq : Nat)
    (hjp : jp < (if isOdd (k + l) then sq else sp)) (hjq : jq < (if isOdd (k + l) then sp else sq)) :
    srcPair sp sq k (srcPair (if isOdd k then sq else sp) (if isOdd k then sp else sq) l jp jq).1
        (srcPair (if isOdd k then sq else sp) (if isOdd k then sp else sq) l jp jq).2
      = srcPair sp sq (k + l) jp jq := by
  rw [← ite_isOdd_add sp sq k l] at hjp
  rw [← ite_isOdd_add sq sp k l] at hjq
  obtain ⟨b1, b2⟩ := srcPair_lt _ _ l jp jq hjp hjq
  obtain ⟨i1, i2⟩ := srcPair_ctr _ _ l jp jq hjp hjq
  obtain ⟨o1, o2⟩ := srcPair_ctr sp sq k _ _ b1 b2
  rw [ite_isOdd_add sp sq k l] at hjp i1 i2
  rw [ite_isOdd_add sq sp k l] at hjq i1 i2
  obtain ⟨s1, s2⟩ := srcPair_ctr sp sq (k + l) jp jq hjp hjq
  obtain ⟨hc, hs⟩ := quarter_add' k l
  refine Prod.ext (ctr_inj sp _ _ ?_) (ctr_inj sq _ _ ?_)
  · rw [o1, i1, i2, s1, hc, hs]; ring
  · rw [o2, i1, i2, s2, hc, hs]; ring

theorem rotN_pair (n : List Nat) (p q : Nat) (k : Int) (hpq : p ≠ q) (hp : p < n.length) (hq : q < n.length) :
    (rotN n p q k).getD p 0 = (if isOdd k then n.getD q 0 else n.getD p 0) ∧
    (rotN n p q k).getD q 0 = (if isOdd k then n.getD p 0 else n.getD q 0) := by
  rw [rotN_getD _ _ _ _ hpq hp hq, rotN_getD _ _ _ _ hpq hp hq]
  unfold rotSrc
  cases isOdd k
  · exact ⟨rfl, rfl⟩
  · simp only [if_true, if_neg hpq.symm, and_self]

theorem inRange_rotN_pair (sh j : List Nat) (p q : Nat) (k : Int) (hpq : p ≠ q) (hp : p < sh.length) (hq : q < sh.length)
    (hj : inRange (rotN sh p q k) j = true) :
    j.length = sh.length ∧ j.getD p 0 < (if isOdd k then sh.getD q 0 else sh.getD p 0) ∧
    j.getD q 0 < (if isOdd k then sh.getD p 0 else sh.getD q 0) := by
  obtain ⟨np, nq⟩ := rotN_pair sh p q k hpq hp hq
  have bp := inRange_getD _ _ hj p (by rw [rotN_length]; exact hp)
  have bq := inRange_getD _ _ hj q (by rw [rotN_length]; exact hq)
  rw [np] at bp; rw [nq] at bq
  exact ⟨by rw [inRange_length _ _ hj, rotN_length], bp, bq⟩

/-- **the index maps of `np.rot90` compose**: the inner map sees the shape already turned by `k`.  The general form
of `DFV.C12.rot90_compose`. -/
theorem srcIdx_compose (sh j : List Nat) (p q : Nat) (k l : Int) (hpq : p ≠ q) (hp : p < sh.length) (hq : q < sh.length)
    (hj : inRange (rotN sh p q (k + l)) j = true) :
    srcIdx sh p q k (srcIdx (rotN sh p q k) p q l j) = srcIdx sh p q (k + l) j := by
  obtain ⟨hjl, hjp, hjq⟩ := inRange_rotN_pair sh j p q (k + l) hpq hp hq hj
  obtain ⟨sp1, sq1⟩ := rotN_pair sh p q k hpq hp hq
  have hil : (srcIdx (rotN sh p q k) p q l j).length = j.length := srcIdx_length _ _ _ _ _
  obtain ⟨i_p, i_q, i_o⟩ := srcIdx_pair (rotN sh p q k) j p q l hpq (hjl ▸ hp) (hjl ▸ hq) (by rw [rotN_length, hjl])
  rw [sp1, sq1] at i_p i_q
  obtain ⟨o_p, o_q, o_o⟩ := srcIdx_pair sh (srcIdx (rotN sh p q k) p q l j) p q k hpq (hil ▸ hjl ▸ hp) (hil ▸ hjl ▸ hq)
    (by rw [hil, hjl])
  obtain ⟨s_p, s_q, s_o⟩ := srcIdx_pair sh j p q (k + l) hpq (hjl ▸ hp) (hjl ▸ hq) hjl.symm
  have hc := srcPair_compose (sh.getD p 0) (sh.getD q 0) k l (j.getD p 0) (j.getD q 0) hjp hjq
  apply list_eq_of_getD _ _ 0 (by rw [srcIdx_length, srcIdx_length, srcIdx_length])
  intro b _
  by_cases e1 : b = p
  · subst e1; rw [o_p, s_p, i_p, i_q, hc]
  · by_cases e2 : b = q
    · subst e2; rw [o_q, s_q, i_p, i_q, hc]
    · rw [o_o b e1 e2, s_o b e1 e2, i_o b e1 e2]

/-- the general form of `DFV.C12.rot90_source_in_range` -/
theorem srcIdx_inRange (sh j : List Nat) (p q : Nat) (k : Int) (hpq : p ≠ q) (hp : p < sh.length) (hq : q < sh.length)
    (hj : inRange (rotN sh p q k) j = true) : inRange sh (srcIdx sh p q k j) = true := by
  obtain ⟨hjl, bp, bq⟩ := inRange_rotN_pair sh j p q k hpq hp hq hj
  obtain ⟨i_p, i_q, i_o⟩ := srcIdx_pair sh j p q k hpq (hjl ▸ hp) (hjl ▸ hq) hjl.symm
  have hb := srcPair_lt (sh.getD p 0) (sh.getD q 0) k (j.getD p 0) (j.getD q 0) bp bq
  refine (inRange_iff _ _).mpr ⟨by rw [srcIdx_length, hjl], fun a ha => ?_⟩
  by_cases e1 : a = p
  · subst e1; rw [i_p]; exact hb.1
  · by_cases e2 : a = q
    · subst e2; rw [i_q]; exact hb.2
    · rw [i_o a e1 e2]
      have := inRange_getD _ _ hj a (by rw [rotN_length]; exact ha)
      rwa [rotN_getD _ _ _ _ hpq hp hq, rotSrc_other _ _ _ _ e1 e2] at this

theorem rot90_src_inRange {α} (a : NDA α) (p q : Nat) (k : Int) (hpq : p ≠ q) (hp : p < a.shape.length) (hq : q < a.shape.length)
    (j : List Nat) (hj : inRange (rot90 a p q k).shape j = true) : inRange a.shape (srcIdx a.shape p q k j) = true :=
  srcIdx_inRange a.shape j p q k hpq hp hq (by rw [← rot90_shape]; exact hj)

/-- **the index map of `np.rot90` is the signed permutation of the axes** that the point map `rotCoord` is
(`rotCoord_affine`), once cells are counted from the middle of their axis -/
theorem srcIdx_ctr (sh j : List Nat) (p q : Nat) (k : Int) (hpq : p ≠ q) (hp : p < sh.length) (hq : q < sh.length)
    (hj : inRange (rotN sh p q k) j = true) (b : Nat) :
    ctr (sh.getD b 0) ((srcIdx sh p q k j).getD b 0)
      = rotSign p q k (rotSrc p q k b) * ctr (sh.getD b 0) (j.getD (rotSrc p q k b) 0) := by
  obtain ⟨hjl, bp, bq⟩ := inRange_rotN_pair sh j p q k hpq hp hq hj
  obtain ⟨ip, iq, io⟩ := srcIdx_pair sh j p q k hpq (hjl ▸ hp) (hjl ▸ hq) hjl.symm
  obtain ⟨cp, cq⟩ := srcPair_ctr (sh.getD p 0) (sh.getD q 0) k (j.getD p 0) (j.getD q 0) bp bq
  unfold rotSign rotSrc
  -- on an in-plane axis one of cosine and sine vanishes, according to parity
  by_cases e1 : b = p
  · subst e1
    rw [ip, cp]
    rcases turn_parity k with ⟨ho, hz⟩ | ⟨ho, hz⟩ <;> rw [ho, hz] <;>
      simp only [if_true, if_false, Bool.false_eq_true, if_neg hpq.symm] <;> ring
  · by_cases e2 : b = q
    · subst e2
      rw [iq, cq]
      rcases turn_parity k with ⟨ho, hz⟩ | ⟨ho, hz⟩ <;> rw [ho, hz] <;>
        simp only [if_true, if_false, Bool.false_eq_true, if_neg e1] <;> ring
    · rw [io b e1 e2]
      simp only [if_neg e1, if_neg e2, ite_self, one_mul]

/-- the centre of cell `x`: the middle of the axis plus `ctr` half cells -/
theorem centreAx_ctr (m : Mesh) (a x : Nat) (hn : 0 < m.nAt a) :
    m.centreAx a (x : Int) = (m.region.lo a + m.region.hi a) / 2 + ctr (m.nAt a) x * (m.cellAt a / 2) := by
  have hc : (m.nAt a : Rat) * m.cellAt a = m.region.hi a - m.region.lo a :=
    mul_div_cancel₀ _ (by exact_mod_cast hn.ne')
  have hi : m.region.hi a = m.region.lo a + (m.nAt a : Rat) * m.cellAt a := by rw [hc]; ring
  unfold Mesh.centreAx ctr
  rw [hi]
  push_cast
  ring

/-- an interval carried along by `x ↦ A + ε x`, `ε = ±1`, and re-ordered: its middle is carried along, its
length is kept -/
theorem interval_pm (A ε L H : Rat) (hε : ε = 1 ∨ ε = -1) (h : L < H) :
    min (A + ε * L) (A + ε * H) + max (A + ε * L) (A + ε * H) = 2 * A + ε * (L + H) ∧
    max (A + ε * L) (A + ε * H) - min (A + ε * L) (A + ε * H) = H - L := by
  rcases hε with e | e <;> rw [e]
  · rw [min_eq_left (by linarith), max_eq_right (by linarith)]; constructor <;> ring
  · rw [min_eq_right (by linarith), max_eq_left (by linarith)]; constructor <;> ring

/-- axis `a` of the turned mesh is axis `rotSrc a` of the mesh: same count and edge length, the middle carried
along by the turn -/
theorem turned_axis (m m' : Mesh) (hm : m.Inv) (i1 i2 : Nat) (h12 : i1 ≠ i2) (h1 : i1 < m.ndim) (h2 : i2 < m.ndim)
    (k : Int) (R : List Rat) (units : List String)
    (hr' : m'.region = target m.region (rotCoord m.region.pmin R i1 i2 k) (rotCoord m.region.pmax R i1 i2 k) units)
    (hn' : m'.n = rotN m.n i1 i2 k) (a : Nat) (ha : a < m.ndim) :
    m'.nAt a = m.nAt (rotSrc i1 i2 k a) ∧ m'.region.edge a = m.region.edge (rotSrc i1 i2 k a) ∧
    m'.region.lo a + m'.region.hi a = 2 * rotOff R i1 i2 k a
      + rotSign i1 i2 k a * (m.region.lo (rotSrc i1 i2 k a) + m.region.hi (rotSrc i1 i2 k a)) := by
  have hnl := hm.n_length
  obtain ⟨s, d⟩ := interval_pm (rotOff R i1 i2 k a) _ _ _ (rotSign_pm i1 i2 k a)
    (hm.lo_lt_hi (rotSrc_lt i1 i2 k a _ h1 h2 ha))
  unfold Region.edge Mesh.nAt
  rw [hn', rotN_getD _ _ _ _ h12 (hnl ▸ h1) (hnl ▸ h2), hr', target_lo _ _ _ _ _ ha, target_hi _ _ _ _ _ ha,
    rotCoord_affine, rotCoord_affine]
  exact ⟨rfl, d, s⟩

end DFV.T
