import DFV.Lemmas.C11Complex
/-!
# C11 — field FFTs are the discrete Fourier transform at the k-mesh's frequencies

Property theorems only; helper lemmas and the spec-level definitions (`kMesh`, `rMesh`, `CFInv`, `relabel`, `phase`, `phaseR`,
`sumBox`, `IsRoot`, `IsHom`, `Ev`, `cRoot`, …) live in `DFV/Lemmas/C11*.lean`; `mirrorR`, `symPlanes`, `irfftnNP` are model definitions.

Part (a) is exact arithmetic over `Rat` about the model of `Mesh.fftn` / `Mesh.ifftn`
(`DFV/Model/C11.lean`), for every number of dimensions, every region, every mix of even, odd and
single-cell axes.  Part (b) is about the model of `Field.fftn / ifftn / rfftn / irfftn` over an
arbitrary commutative ring `R`; `exp(-2πi/n)` enters as a per-axis parameter `ρ : Root R` whose
properties (`IsRoot n ρ`: `w^n = 1`, `w·wi = 1`, `ninv·n = 1`, `Σ_j w^(jk) = 0` for `0<k<n`) are
explicit hypotheses — satisfied by `exp(-2πi/n) ∈ ℂ` for every `n ≥ 1` (`complex_roots_exist`).
Part (c) ties the driver to part (b): the driver runs the generic model over formal combinations
of root-of-unity monomials (`Poly`); evaluation `Ev.eval` of such combinations into any
commutative ring preserves `0 1 + *` for arbitrary `ζ_a`, respects `Poly.conj` and the printed
dense form once `ζ_a^(n_a) = 1`, and the whole code-shaped model commutes with it — so what the
harness computes from the driver's output is the value of the model over `R`, to which the
theorems of part (b) apply.

Parts (a) and (b) end with what the inverse methods require of inputs that did not come from a forward transform
(acceptance as equivalences), part (c) with the driver's `irfftn`.
-/
namespace DFV.C11
open DFV

/-! ## (a) the k-mesh -/

/-- The shifted DFT sample frequencies of `n` samples of spacing `d`: entry `j` of
`fftshift(fftfreq(n, d))` is `(j - ⌊n/2⌋)/(n·d)`, for every `n` (even, odd, 1). -/
theorem fftfreq_shifted (n : Nat) (d : Rat) (j : Nat) (hj : j < n) :
    (fftshiftL (fftfreq n d)).getD j 0 = ((j : Rat) - ((n / 2 : Nat) : Rat)) * (1 / ((n : Rat) * d)) := by
  have hlen : (fftfreq n d).length = n := by simp [fftfreq]
  unfold fftshiftL
  rw [hlen, getD_tab _ _ _ _ hj, fftfreq_eq, getD_tab _ _ _ _ (Nat.mod_lt _ (by omega)), fftIdx_shift n j hj,
    Int.cast_sub, Int.cast_natCast, Int.cast_natCast]

/-- `Mesh.fftn` succeeds on every valid mesh (any dimension, any counts, any position), for
both transform kinds, and returns a valid mesh without boundary conditions or subregions. -/
theorem fftn_mesh (m : Mesh) (rfft : Bool) (hm : m.Inv) :
    meshFftn m rfft = .ok (kMesh m rfft) ∧ (kMesh m rfft).Inv ∧ (kMesh m rfft).ndim = m.ndim ∧
      (kMesh m rfft).bc = "" ∧ (kMesh m rfft).subs = [] :=
  ⟨meshFftn_ok m rfft hm, kMesh_inv m rfft hm, kMesh_ndim m rfft, rfl, rfl⟩

/-- Reciprocal names and units: dimension `d` becomes `k_d`, unit `u` becomes `(u)$^{-1}$`; the
tolerance factor is kept. -/
theorem kmesh_names_units (m : Mesh) (rfft : Bool) (k : Mesh) (h : meshFftn m rfft = .ok k) (hm : m.Inv) :
    k.region.dims = m.region.dims.map (fun d => "k_" ++ d) ∧
    k.region.units = m.region.units.map (fun u => "(" ++ u ++ ")$^{-1}$") ∧
    k.region.tol = m.region.tol := by
  obtain rfl := meshFftn_eq hm h
  exact ⟨rfl, rfl, rfl⟩

/-- The k-cells have size `1/(n·cell)` on every axis, for both transform kinds. -/
theorem kcell_size (m : Mesh) (rfft : Bool) (k : Mesh) (h : meshFftn m rfft = .ok k) (hm : m.Inv)
    (a : Nat) (ha : a < m.ndim) : k.cellAt a = 1 / ((m.nAt a : Rat) * m.cellAt a) := by
  obtain rfl := meshFftn_eq hm h
  exact kMesh_cellAt m rfft hm a ha

/-- **k-cell centres, full transform.**  Along every axis — even, odd or single-cell — the
k-mesh has as many cells as the mesh, and the centre of k-cell `j` is exactly entry `j` of
`fftshift(fftfreq(n, cell))`. -/
theorem kcell_centres (m : Mesh) (k : Mesh) (h : meshFftn m false = .ok k) (hm : m.Inv)
    (a : Nat) (ha : a < m.ndim) :
    k.nAt a = m.nAt a ∧
    ∀ j, j < m.nAt a → k.centreAx a (j : Int) = (fftshiftL (fftfreq (m.nAt a) (m.cellAt a))).getD j 0 := by
  obtain rfl := meshFftn_eq hm h
  refine ⟨by rw [kMesh_nAt m false a ha, kN_full m false a (by simp)], ?_⟩
  intro j hj
  rw [fftfreq_shifted _ _ j hj, kcentre_full m false hm a ha (by simp)]
  simp only [Int.cast_natCast]

/-- The same as a closed formula, for every integer index: `(j - ⌊n/2⌋)/(n·cell)`; in
particular the zero frequency sits at index `⌊n/2⌋` and a single-cell axis is centred at 0. -/
theorem kcell_centres_formula (m : Mesh) (k : Mesh) (h : meshFftn m false = .ok k) (hm : m.Inv)
    (a : Nat) (ha : a < m.ndim) (j : Int) :
    k.centreAx a j = ((j : Rat) - ((m.nAt a / 2 : Nat) : Rat)) / ((m.nAt a : Rat) * m.cellAt a) := by
  obtain rfl := meshFftn_eq hm h
  rw [kcentre_full m false hm a ha (by simp)]
  ring

/-- single-cell axes are centred at frequency 0, not at `1/(2·cell)` as the cell `[0, 1/cell]` would be (defect D16 of the library) -/
theorem kcell_single_zero (m : Mesh) (k : Mesh) (h : meshFftn m false = .ok k) (hm : m.Inv)
    (a : Nat) (ha : a < m.ndim) (h1 : m.nAt a = 1) : k.nAt a = 1 ∧ k.centreAx a 0 = 0 := by
  refine ⟨by rw [(kcell_centres m k h hm a ha).1, h1], ?_⟩
  rw [kcell_centres_formula m k h hm a ha 0, h1]
  simp  -- ⌊1/2⌋ = 0

/-- the zero frequency is the centre of k-cell `⌊n/2⌋` on every axis -/
theorem kcell_zero_frequency (m : Mesh) (k : Mesh) (h : meshFftn m false = .ok k) (hm : m.Inv)
    (a : Nat) (ha : a < m.ndim) : k.centreAx a ((m.nAt a / 2 : Nat) : Int) = 0 := by
  rw [kcell_centres_formula m k h hm a ha]
  simp only [Int.cast_natCast, sub_self, zero_div]

/-- **k-cell centres, real transform.**  The last axis has `⌊n/2⌋ + 1` cells whose centres
are the non-negative frequencies `rfftfreq(n, cell)` (one cell centred at 0 when `n = 1`); all
other axes are as for the full transform. -/
theorem kcell_centres_rfft (m : Mesh) (k : Mesh) (h : meshFftn m true = .ok k) (hm : m.Inv) :
    k.nAt (m.ndim - 1) = m.nAt (m.ndim - 1) / 2 + 1 ∧
    (∀ j, j < m.nAt (m.ndim - 1) / 2 + 1 →
      k.centreAx (m.ndim - 1) (j : Int)
        = (rfftfreq (m.nAt (m.ndim - 1)) (m.cellAt (m.ndim - 1))).getD j 0) ∧
    (∀ a, a < m.ndim - 1 → k.nAt a = m.nAt a ∧
      ∀ j, j < m.nAt a → k.centreAx a (j : Int) = (fftshiftL (fftfreq (m.nAt a) (m.cellAt a))).getD j 0) := by
  obtain rfl := meshFftn_eq hm h
  have hl := ndim_pred_lt m hm
  refine ⟨by rw [kMesh_nAt m true _ hl, kN_half m true _ (isLast_self m)], ?_, ?_⟩
  · intro j hj
    rw [kcentre_half m true hm _ hl (isLast_self m), rfftfreq, getD_tab _ _ _ _ hj]
    simp only [Int.cast_natCast]
  · intro a ha
    refine ⟨by rw [kMesh_nAt m true a (by omega), kN_full m true a (isLast_of_lt m a ha)], ?_⟩
    intro j hj
    rw [fftfreq_shifted _ _ j hj, kcentre_full m true hm a (by omega) (isLast_of_lt m a ha)]
    simp only [Int.cast_natCast]

/-- The phase of the transform is `k·r`: the centre of k-cell `j` times the position `r·cell`
of real-space cell `r`, counted from the first cell, is `(j - ⌊n/2⌋)·r / n` — so that
`exp(-2πi k·r) = exp(-2πi/n)^((j - ⌊n/2⌋)·r)`, the factor `phase` of `fftn_is_dft`. -/
theorem phase_is_k_dot_r (m : Mesh) (k : Mesh) (h : meshFftn m false = .ok k) (hm : m.Inv)
    (a : Nat) (ha : a < m.ndim) (j r : Nat) :
    k.centreAx a (j : Int) * ((r : Rat) * m.cellAt a)
      = (((j : Rat) - ((m.nAt a / 2 : Nat) : Rat)) * (r : Rat)) / (m.nAt a : Rat) := by
  rw [kcell_centres_formula m k h hm a ha]
  have hn0 : (m.nAt a : Rat) ≠ 0 := ne_of_gt (Nat.cast_pos.mpr (hm.nAt_pos ha))
  have hd0 : m.cellAt a ≠ 0 := ne_of_gt (hm.cellAt_pos ha)
  simp only [Int.cast_natCast]
  generalize ((m.nAt a / 2 : Nat) : Rat) = H
  field_simp

/-- **Mesh-level round trip.**  `mesh.fftn().ifftn()` succeeds and is the mesh of the original
counts, cell sizes, dimension names and units, centred at the origin. -/
theorem ifftn_fftn_mesh (m : Mesh) (hm : m.Inv) :
    ∃ k b, meshFftn m false = .ok k ∧ meshIfftn k false none = .ok b ∧
      b.n = m.n ∧ b.region.dims = m.region.dims ∧ b.region.units = m.region.units ∧
      b.region.tol = m.region.tol ∧
      ∀ a, a < m.ndim → b.cellAt a = m.cellAt a ∧ b.region.lo a + b.region.hi a = 0 ∧
        b.region.hi a - b.region.lo a = m.region.edge a :=
  ⟨kMesh m false, originMesh m m.n, meshFftn_ok m false hm, mesh_roundtrip_full m hm, rfl, rfl, rfl, rfl,
    fun a ha => ⟨originMesh_cellAt m a ha, originMesh_centre m m.n a ha, originMesh_edge m m.n a ha⟩⟩

/-- The same for the real transform when the original counts are supplied:
`mesh.fftn(rfft=True).ifftn(rfft=True, shape=mesh.n)` recovers even and odd last counts alike. -/
theorem irfftn_rfftn_mesh (m : Mesh) (hm : m.Inv) :
    ∃ k b, meshFftn m true = .ok k ∧ meshIfftn k true (some m.n) = .ok b ∧
      b.n = m.n ∧ b.region.dims = m.region.dims ∧ b.region.units = m.region.units ∧
      ∀ a, a < m.ndim → b.cellAt a = m.cellAt a ∧ b.region.lo a + b.region.hi a = 0 :=
  ⟨kMesh m true, originMesh m m.n, meshFftn_ok m true hm, mesh_roundtrip_half_shape m hm, rfl, rfl, rfl,
    fun a ha => ⟨originMesh_cellAt m a ha, originMesh_centre m m.n a ha⟩⟩

/-- Without the counts the real inverse assumes an even last count: it recovers the mesh when
the last count is even or 1, and returns `n_last - 1` cells along the last axis when it is odd
and larger (which is why `shape` is needed to recover odd sizes); the extent is the original
one in every case. -/
theorem irfftn_mesh_default (m : Mesh) (hm : m.Inv) :
    ∃ k b, meshFftn m true = .ok k ∧ meshIfftn k true none = .ok b ∧
      b.n = (if m.nAt (m.ndim - 1) = 1 then m.n else setAt m.n (m.ndim - 1) (m.nAt (m.ndim - 1) / 2 * 2)) ∧
      (m.nAt (m.ndim - 1) % 2 = 0 → b.n = m.n) ∧
      ∀ a, a < m.ndim → b.region.lo a + b.region.hi a = 0 ∧ b.region.hi a - b.region.lo a = m.region.edge a := by
  refine ⟨kMesh m true, _, meshFftn_ok m true hm, mesh_roundtrip_half_none m hm, rfl, ?_, ?_⟩
  · intro heven
    show (if m.nAt (m.ndim - 1) = 1 then m.n else setAt m.n (m.ndim - 1) (m.nAt (m.ndim - 1) / 2 * 2)) = m.n
    have h1 : ¬ m.nAt (m.ndim - 1) = 1 := by omega
    rw [if_neg h1]
    have e : m.nAt (m.ndim - 1) / 2 * 2 = m.nAt (m.ndim - 1) := by omega
    rw [e]
    exact setAt_getD_self m.n (m.ndim - 1) 0
  · intro a ha
    exact ⟨originMesh_centre m _ a ha, originMesh_edge m _ a ha⟩

/-- Shapes that do not match the k-mesh are rejected: wrong number of entries, a leading
entry different from the k-mesh's count, or a last entry `s` with `s // 2 + 1 ≠ n_last`. -/
theorem ifftn_shape_checked (k : Mesh) (rfft : Bool) (s : List Nat)
    (h : s.length ≠ k.ndim ∨ (∃ a, a < k.ndim - 1 ∧ s.getD a 0 ≠ k.nAt a) ∨
         s.getD (k.ndim - 1) 0 / 2 + 1 ≠ k.nAt (k.ndim - 1)) :
    meshIfftn k rfft (some s) = .error .value :=
  meshIfftn_shape_error (ifftShape_rejects k rfft s h)

/-- **Extent of the k-mesh**: along every axis the full transform's k-mesh spans exactly one
sampling period `1/cell` (its `n` cells of size `1/(n·cell)`); the last axis of the real
transform spans `(⌊n/2⌋+1)/(n·cell)`. -/
theorem kmesh_extent (m : Mesh) (hm : m.Inv) (a : Nat) (ha : a < m.ndim) :
    (∀ k, meshFftn m false = .ok k → k.region.edge a = 1 / m.cellAt a) ∧
    (∀ k, meshFftn m true = .ok k → a = m.ndim - 1 →
      k.region.edge a = ((m.nAt a / 2 + 1 : Nat) : Rat) / ((m.nAt a : Rat) * m.cellAt a)) := by
  refine ⟨fun k h => ?_, fun k h hl => ?_⟩
  · obtain rfl := meshFftn_eq hm h
    have hn0 : (m.nAt a : Rat) ≠ 0 := (Nat.cast_pos.mpr (hm.nAt_pos ha)).ne'
    rw [kMesh_edge m false hm a ha, kN_full m false a (by simp), div_mul_cancel_left₀ hn0, one_div]
  · obtain rfl := meshFftn_eq hm h
    subst hl
    rw [kMesh_edge m true hm _ ha, kN_half m true _ (isLast_self m)]

/-! ### `Mesh.ifftn`: what it requires and what it returns, on ANY valid mesh -/

/-- **The `shape` argument of `Mesh.ifftn` is accepted iff** it has one entry per dimension,
its leading entries are the k-mesh's counts and its last entry `s` satisfies
`s // 2 + 1 = n_last` (for both values of `rfft`, as in the code); the counts used are then
`shape` itself. -/
theorem ifftn_shape_accepted_iff (k : Mesh) (rfft : Bool) (s s' : List Nat) :
    ifftShape k rfft (some s) = .ok s' ↔
      s' = s ∧ s.length = k.ndim ∧ (∀ a, a < k.ndim - 1 → s.getD a 0 = k.nAt a) ∧
        s.getD (k.ndim - 1) 0 / 2 + 1 = k.nAt (k.ndim - 1) :=
  ifftShape_some_ok_iff k rfft s s'

/-- **`Mesh.ifftn` on a valid mesh — acceptance as an equivalence, and the result.**  The call
succeeds iff the counts `s` derived from `shape` are accepted, every count is positive (a last
entry 0 passes the shape test when `n_last = 1` and is refused by `fftfreq`) and no two dimension
names coincide once the prefix `k_` is stripped.  The result then has the counts `s`, cell size
`1/(s_a·cell_a)`, is centred at the origin, has the stripped names and units, the tolerance factor
of the k-mesh, no boundary conditions and no subregions — whether or not the mesh came from
`Mesh.fftn`. -/
theorem ifftn_mesh_accepts_iff (k : Mesh) (hk : k.Inv) (rfft : Bool) (shape : Option (List Nat)) (b : Mesh) :
    meshIfftn k rfft shape = .ok b ↔
      ∃ s, ifftShape k rfft shape = .ok s ∧ (∀ a, a < k.ndim → 0 < s.getD a 0) ∧
        hasDup (k.region.dims.map (stripPre "k_")) = false ∧
        b.Inv ∧ b.n = s ∧ b.bc = "" ∧ b.subs = [] ∧ b.region.tol = k.region.tol ∧
        b.region.dims = k.region.dims.map (stripPre "k_") ∧ b.region.units = k.region.units.map stripUnit ∧
        b.region.pmin = tab k.ndim (fun a => -(1 / (2 * k.cellAt a))) ∧
        b.region.pmax = tab k.ndim (fun a => 1 / (2 * k.cellAt a)) ∧
        ∀ a, a < k.ndim → b.cellAt a = 1 / ((s.getD a 0 : Rat) * k.cellAt a) ∧
          b.region.lo a + b.region.hi a = 0 := by
  rw [meshIfftn_ok_iff k hk rfft shape b]
  constructor
  · rintro ⟨s, hs, hp, hd, rfl⟩
    have hl := ifftShape_length k rfft shape s hk.n_length hs
    refine ⟨s, hs, hp, hd, rMesh_inv k hk s hl hp hd, rfl, rfl, rfl, rfl, rfl, rfl, rfl, rfl, ?_⟩
    intro a ha
    refine ⟨rMesh_cellAt k s a ha, ?_⟩
    simp only [rMesh, Region.lo, Region.hi]
    rw [getD_tab _ _ _ _ ha, getD_tab _ _ _ _ ha]; ring
  · rintro ⟨s, hs, hp, hd, _, hn, hbc, hsub, htol, hdims, hunits, hmin, hmax, _⟩
    refine ⟨s, hs, hp, hd, ?_⟩
    obtain ⟨⟨pmin, pmax, dims, units, tol⟩, n, bc, subs⟩ := b
    simp only at hn hbc hsub htol hdims hunits hmin hmax
    subst hn hbc hsub htol hdims hunits hmin hmax
    rfl

/-- **Without a `shape` every valid mesh is accepted unless two names collide**: the default
counts (`n`, or `2(n_last - 1)` along the last axis of the real transform when `n_last ≠ 1`) are
always accepted and positive. -/
theorem ifftn_mesh_default_accepts_iff (k : Mesh) (hk : k.Inv) (rfft : Bool) :
    (∃ b, meshIfftn k rfft none = .ok b) ↔ hasDup (k.region.dims.map (stripPre "k_")) = false := by
  constructor
  · rintro ⟨b, h⟩
    obtain ⟨s, _, _, hd, _⟩ := (meshIfftn_ok_iff k hk rfft none b).mp h
    exact hd
  · intro hd
    have hs : ifftShape k rfft none = .ok _ := ifftShape_none k rfft
    exact ⟨_, (meshIfftn_ok_iff k hk rfft none _).mpr
      ⟨_, hs, fun a ha => ifftShape_none_pos k hk rfft _ hs a ha, hd, rfl⟩⟩

/-- **The k-mesh does not depend on where the mesh is**: two meshes with the same counts,
extents, names, units and tolerance factor have the same k-mesh (both kinds); in particular the
recentred mesh `Mesh.ifftn` returns transforms to the k-mesh of the original. -/
theorem kmesh_position_independent (m m' : Mesh) (rfft : Bool) (h1 : m'.ndim = m.ndim) (h2 : m'.n = m.n)
    (h3 : ∀ a, a < m.ndim → m'.region.edge a = m.region.edge a)
    (hd : m'.region.dims = m.region.dims) (hu : m'.region.units = m.region.units)
    (ht : m'.region.tol = m.region.tol) :
    kMesh m' rfft = kMesh m rfft ∧ kMesh (originMesh m m.n) rfft = kMesh m rfft :=
  ⟨kMesh_congr m m' rfft h1 h2 h3 hd hu ht, kMesh_originMesh m rfft⟩

/-- **`Mesh.fftn ∘ Mesh.ifftn` on a k-mesh that did not come from `Mesh.fftn`.**  On every valid
k-mesh whose stripped names are distinct both calls succeed; the result has the counts and cell
sizes of the k-mesh and its zero frequency in cell `⌊n/2⌋`; and it IS the k-mesh exactly when the
k-mesh is canonical (`KCanonical`: names `k_…`, units `(…)$^{-1}$`, cell `⌊n/2⌋` centred at 0, no
bc, no subregions) — as every result of `Mesh.fftn` is. -/
theorem fftn_ifftn_mesh (k : Mesh) (hk : k.Inv) (hd : hasDup (k.region.dims.map (stripPre "k_")) = false) :
    ∃ b k', meshIfftn k false none = .ok b ∧ meshFftn b false = .ok k' ∧
      (∀ a, a < k.ndim → k'.nAt a = k.nAt a ∧ k'.cellAt a = k.cellAt a ∧
        k'.centreAx a ((k.nAt a / 2 : Nat) : Int) = 0) ∧
      (KCanonical k → k' = k) ∧ (∀ m : Mesh, m.Inv → KCanonical (kMesh m false)) := by
  have hr := rMesh_inv k hk k.n hk.n_length (fun _ ha => hk.nAt_pos ha) hd
  have h1 : meshIfftn k false none = .ok (rMesh k k.n) :=
    (meshIfftn_ok_iff k hk false none _).mpr ⟨k.n, ifftShape_false_none k, (fun _ ha => hk.nAt_pos ha), hd, rfl⟩
  have h2 := meshFftn_ok (rMesh k k.n) false hr
  refine ⟨_, _, h1, h2, ?_, fun hc => kMesh_rMesh_of_canonical k hk hd hc, kMesh_canonical⟩
  intro a ha
  have := kMesh_rMesh_cell k hk hd a ha
  refine ⟨this.1, this.2, ?_⟩
  have hz := kcell_zero_frequency (rMesh k k.n) _ h2 hr a (by rw [rMesh_ndim]; exact ha)
  exact hz

/-! ## (b) the transforms -/

section ring
variable {R : Type} [CommRing R]

/-- `fftshift` and `ifftshift` (index rotations by `⌊n/2⌋` and `⌈n/2⌉`) are mutually inverse
on every index of every shape — in particular for odd counts, where they differ. -/
theorem shift_ishift_inverse (ns m : List Nat) (h : inRange ns m = true) :
    fshift ns (ishift ns m) = m ∧ ishift ns (fshift ns m) = m :=
  ⟨fshift_ishift ns m h, ishift_fshift ns m h⟩

/-- `Field.fftn` succeeds on every valid field; the result lives on `mesh.fftn()`, keeps the
component count and the unit, and holds `fftshift(fftn(array))`. -/
theorem fftn_total (ρs : List (Root R)) (f : CF R) (hf : CFInv f) :
    ∃ g, fftn ρs f = .ok g ∧ meshFftn f.mesh false = .ok g.mesh ∧ g.nvdim = f.nvdim ∧ g.unit = f.unit ∧
      g.data = fftnArr ρs f.nvdim f.data :=
  ⟨_, fftn_ok ρs f hf, meshFftn_ok f.mesh false hf.mesh, rfl, rfl, rfl⟩

/-- **The forward transform is the DFT at the k-cell's frequency.**  Every component of every
cell `m` of `Field.fftn` holds the sum over all real-space cells `r` of
`value(r) · Π_a w_a^(m_a·r_a) · wi_a^(⌊n_a/2⌋·r_a)`, i.e. `value(r)·exp(-2πi k·r)` with `k` the
centre of k-cell `m` and `r` counted from the first cell (`phase_is_k_dot_r`). -/
theorem fftn_is_dft (ρs : List (Root R)) (f g : CF R) (h : fftn ρs f = .ok g)
    (hρ : Roots f.data.shape ρs) (m : List Nat) (hm : inRange f.data.shape m = true)
    (c : Nat) (hc : c < f.nvdim) :
    compA g.data c m = sumBox f.data.shape fun r => compA f.data c r * phase ρs f.data.shape m r := by
  rw [fftn_data h, fftnArr_get _ _ _ _ _ hc, dftN_eq_sumBox]
  apply sumBox_congr
  intro r _
  rw [twProd_fshift ρs f.data.shape hρ m r hm]

/-- **The zero-frequency cell holds the plain sum of the field**: cell `(⌊n_a/2⌋)_a` of
`Field.fftn`, the one centred at `k = 0` (`kcell_zero_frequency`). -/
theorem dc_is_sum (ρs : List (Root R)) (f g : CF R) (h : fftn ρs f = .ok g)
    (hpos : ∀ n ∈ f.data.shape, 0 < n) (c : Nat) (hc : c < f.nvdim) :
    compA g.data c (f.data.shape.map (· / 2)) = sumBox f.data.shape (compA f.data c) := by
  rw [fftn_data h, fftnArr_get _ _ _ _ _ hc]
  exact dftN_zero ρs _ _ _ (fshift_centre f.data.shape hpos)

/-- the same for the real transform, where the zero frequency sits at index 0 of the last
(unshifted) axis and at `⌊n/2⌋` of the others -/
theorem dc_is_sum_rfft (ρs : List (Root R)) (nv : Nat) (a : NDA (List R)) (hpos : ∀ n ∈ a.shape, 0 < n)
    (c : Nat) (hc : c < nv) :
    compA (rfftnArr ρs nv a) c (zeroIdxR a.shape) = sumBox a.shape (compA a c) := by
  rw [rfftnArr_get _ _ _ _ _ hc]
  exact dftN_zero ρs _ _ _ (fshiftR_zeroIdxR a.shape hpos)

/-- `Field.rfftn` succeeds on every valid field; the result lives on `mesh.fftn(rfft=True)` -/
theorem rfftn_total (ρs : List (Root R)) (f : CF R) (hf : CFInv f) :
    ∃ g, rfftn ρs f = .ok g ∧ meshFftn f.mesh true = .ok g.mesh ∧ g.nvdim = f.nvdim ∧ g.unit = f.unit ∧
      g.data = rfftnArr ρs f.nvdim f.data ∧ g.data.shape = halfShape f.mesh.n :=
  ⟨_, rfftn_ok ρs f hf, meshFftn_ok f.mesh true hf.mesh, rfl, rfl, rfl, by
    show halfShape f.data.shape = halfShape f.mesh.n
    rw [hf.shape]⟩

/-- **Linearity**: the transform of `α·a + β·b` (cell by cell, component by component) is
`α·F(a) + β·F(b)`, for arrays of the same shape. -/
theorem fft_linear (ρs : List (Root R)) (nv : Nat) (a b ab : NDA (List R)) (α β : R)
    (hs : b.shape = a.shape) (hs' : ab.shape = a.shape)
    (hab : ∀ i c, compA ab c i = α * compA a c i + β * compA b c i)
    (m : List Nat) (c : Nat) (hc : c < nv) :
    compA (fftnArr ρs nv ab) c m = α * compA (fftnArr ρs nv a) c m + β * compA (fftnArr ρs nv b) c m := by
  rw [fftnArr_get _ _ _ _ _ hc, fftnArr_get _ _ _ _ _ hc, fftnArr_get _ _ _ _ _ hc, hs, hs',
    ← dftN_linear]
  congr 1
  funext i
  exact hab i c

/-- the inverse transform is linear too -/
theorem ifft_linear (ρs : List (Root R)) (ns : List Nat) (F G : List Nat → R) (α β : R) (j : List Nat) :
    idftN ρs ns (fun i => α * F i + β * G i) j = α * idftN ρs ns F j + β * idftN ρs ns G j := by
  simp only [idftN_eq_dftN, dftN_linear]
  ring

/-- **Transforms act per component**: component `c` of the transform of a `nv`-component array
is the transform of component `c` alone. -/
theorem fft_componentwise (ρs : List (Root R)) (nv : Nat) (a : NDA (List R)) (c : Nat) (hc : c < nv)
    (m : List Nat) :
    compA (fftnArr ρs nv a) c m = compA (fftnArr ρs 1 ⟨a.shape, fun i => [compA a c i]⟩) 0 m := by
  rw [fftnArr_get _ _ _ _ _ hc, fftnArr_get _ _ _ _ _ (by omega : 0 < 1)]
  rfl

/-- **Inverse ∘ forward = identity** for the full transform, from the orthogonality
hypothesis: on every valid field `f.fftn().ifftn()` succeeds, has the original counts, cell
size, names and units on the mesh centred at the origin, the original component count, unit,
labels and mapping, and the original value in every cell and component. -/
theorem ifftn_fftn (ρs : List (Root R)) (f : CF R) (hf : CFInv f) (hρ : Roots f.mesh.n ρs) :
    ∃ g h, fftn ρs f = .ok g ∧ ifftn ρs g = .ok h ∧
      h.mesh = originMesh f.mesh f.mesh.n ∧ h.nvdim = f.nvdim ∧ h.unit = f.unit ∧
      h.vdims = f.vdims ∧ h.vmap = f.vmap ∧
      ∀ j, inRange f.mesh.n j = true → ∀ c, c < f.nvdim → compA h.data c j = compA f.data c j := by
  refine ⟨_, _, fftn_ok ρs f hf, inverse_forward_ok f hf false none _
    (by rw [kMesh_n_full f.mesh hf.mesh]; exact hf.shape) (fun _ => ifftnArr ρs f.nvdim (fftnArr ρs f.nvdim f.data))
    (mesh_roundtrip_full f.mesh hf.mesh) hf.shape, rfl, rfl, rfl, rfl, rfl, ?_⟩
  intro j hj c hc
  rw [← hf.shape] at hj hρ
  exact ifftn_fftn_arr ρs f.nvdim f.data hρ j hj c hc

/-- **Real round trip**: on every valid field with conj-fixed ("real") data,
`f.rfftn().irfftn(shape=f.mesh.n)` succeeds and restores the same state and every value —
even and odd last counts alike, since the original last count is supplied. -/
theorem irfftn_rfftn (conj : R → R) (hc : IsConj conj) (ρs : List (Root R)) (f : CF R) (hf : CFInv f)
    (hρ : Roots f.mesh.n ρs) (hcr : ConjRoots conj f.mesh.n ρs)
    (hreal : ∀ i c, conj (compA f.data c i) = compA f.data c i) :
    ∃ g h, rfftn ρs f = .ok g ∧ irfftn conj ρs g (some f.mesh.n) = .ok h ∧
      meshFftn f.mesh true = .ok g.mesh ∧
      h.mesh = originMesh f.mesh f.mesh.n ∧ h.nvdim = f.nvdim ∧ h.unit = f.unit ∧
      h.vdims = f.vdims ∧ h.vmap = f.vmap ∧
      ∀ j, inRange f.mesh.n j = true → ∀ c, c < f.nvdim → compA h.data c j = compA f.data c j := by
  refine ⟨_, _, rfftn_ok ρs f hf, inverse_forward_ok f hf true (some f.mesh.n) _
    (by rw [kMesh_n_half f.mesh hf.mesh, ← hf.shape]; rfl)
    (fun k => irfftnArr conj ρs f.nvdim k.n (rfftnArr ρs f.nvdim f.data)) (mesh_roundtrip_half_shape f.mesh hf.mesh) rfl,
    meshFftn_ok f.mesh true hf.mesh, rfl, rfl, rfl, rfl, rfl, ?_⟩
  intro j hj c hcv
  show compA (irfftnArr conj ρs f.nvdim f.mesh.n (rfftnArr ρs f.nvdim f.data)) c j = _
  rw [← hf.shape] at hj hρ hcr ⊢
  exact irfftn_rfftn_arr conj hc ρs f.nvdim f.data hρ hcr hreal j hj c hcv

/-- without an explicit shape the real round trip still restores the field when the last count
is even or 1 (the default output count `2·(n_k - 1)`, or 1, is then the original one) -/
theorem irfftn_rfftn_default (conj : R → R) (hc : IsConj conj) (ρs : List (Root R)) (f : CF R) (hf : CFInv f)
    (hρ : Roots f.mesh.n ρs) (hcr : ConjRoots conj f.mesh.n ρs)
    (hreal : ∀ i c, conj (compA f.data c i) = compA f.data c i)
    (hlast : f.mesh.nAt (f.mesh.ndim - 1) % 2 = 0 ∨ f.mesh.nAt (f.mesh.ndim - 1) = 1) :
    ∃ g h, rfftn ρs f = .ok g ∧ irfftn conj ρs g none = .ok h ∧
      h.mesh = originMesh f.mesh f.mesh.n ∧ h.vdims = f.vdims ∧ h.vmap = f.vmap ∧
      ∀ j, inRange f.mesh.n j = true → ∀ c, c < f.nvdim → compA h.data c j = compA f.data c j := by
  refine ⟨_, _, rfftn_ok ρs f hf, inverse_forward_ok f hf true none _
    (by rw [kMesh_n_half f.mesh hf.mesh, ← hf.shape]; rfl)
    (fun k => irfftnArr conj ρs f.nvdim k.n (rfftnArr ρs f.nvdim f.data))
    (by rw [mesh_roundtrip_half_none f.mesh hf.mesh, half_none_counts f.mesh hlast]) rfl, rfl, rfl, rfl, ?_⟩
  intro j hj c hcv
  show compA (irfftnArr conj ρs f.nvdim f.mesh.n (rfftnArr ρs f.nvdim f.data)) c j = _
  rw [← hf.shape] at hj hρ hcr ⊢
  exact irfftn_rfftn_arr conj hc ρs f.nvdim f.data hρ hcr hreal j hj c hcv

/-- **The real transform is the matching half of the full one**: cell `m` of `rfftn` (last
index `j ≤ ⌊n/2⌋`, unshifted there) holds what `fftn` holds in the cell with the same leading
indices and last index `(j + ⌊n/2⌋) mod n` — the cell of the same DFT frequency. -/
theorem rfftn_half (ρs : List (Root R)) (f gr g : CF R) (hr : rfftn ρs f = .ok gr) (hg : fftn ρs f = .ok g)
    (hpos : ∀ n ∈ f.data.shape, 0 < n) (m : List Nat) (hm : inRange (halfShape f.data.shape) m = true)
    (c : Nat) (hc : c < f.nvdim) :
    compA gr.data c m = compA g.data c (lastShift f.data.shape m) := by
  rw [rfftn_data hr, fftn_data hg]
  exact rfftn_half_arr ρs f.nvdim f.data hpos m hm c hc

/-- **Labels and mapping, forward**: labels get the prefix `ft_`; label `ft_v` is mapped to
`k_d` exactly when `v` is mapped to `d` (for an arbitrary mapping); component count and unit
are kept.  The same holds for `rfftn` (same `_fftn`). -/
theorem fft_labels (ρs : List (Root R)) (f g : CF R) (h : fftn ρs f = .ok g) (vs : List String)
    (hv : f.vdims = some vs) (hne : vs ≠ []) :
    g.vdims = some (vs.map ("ft_" ++ ·)) ∧ g.nvdim = f.nvdim ∧ g.unit = f.unit ∧
    ∀ v ∈ vs, dictGet g.vmap ("ft_" ++ v) = (dictGet f.vmap v).map ("k_" ++ ·) := by
  obtain ⟨_, _, hnv, hu, hfin⟩ := fftn_inv h
  obtain ⟨h1, h2, _⟩ := finish_labels vs hv hne hfin
  refine ⟨h1, hnv, hu, ?_⟩
  intro v hvm
  rw [h2]
  exact renameMap_fwd f.vmap vs v hvm

omit [CommRing R] in
/-- **Labels and mapping, inverse of forward**: stripping undoes prefixing, for arbitrary
labels and an arbitrary mapping (labels that themselves start with `ft_` lose only the added
prefix). -/
theorem fft_labels_roundtrip (f : CF R) (mesh1 mesh2 : Mesh) (d1 d2 : NDA (List R)) (g h : CF R)
    (vs : List String) (hv : f.vdims = some vs) (hne : vs ≠ [])
    (h1 : finish f mesh1 d1 false = .ok g) (h2 : finish g mesh2 d2 true = .ok h) :
    h.vdims = some vs ∧ ∀ v ∈ vs, dictGet h.vmap v = dictGet f.vmap v := by
  obtain ⟨g1, g2, _⟩ := finish_labels vs hv hne h1
  obtain ⟨k1, k2, _⟩ := finish_labels (vs.map ("ft_" ++ ·)) g1 (by simpa using hne) h2
  refine ⟨k1.trans (congrArg some (labels_roundtrip vs)), ?_⟩
  intro v hvm
  rw [k2, g2]
  exact renameMap_roundtrip f.vmap vs v hvm

end ring

/-- the matching cells have the same centre: k-cell `j` of the last axis of the real transform
and k-cell `j + ⌊n/2⌋` of the full transform (an existing cell for `j < ⌈n/2⌉`; for even `n`
the remaining cell `j = n/2`, centred at `+1/(2·cell)`, matches the full transform's cell 0
at the aliased frequency `-1/(2·cell)`, one period `1/cell` lower) -/
theorem rfftn_half_centres (m : Mesh) (hm : m.Inv) (j : Nat) :
    (kMesh m true).centreAx (m.ndim - 1) (j : Int)
      = (kMesh m false).centreAx (m.ndim - 1) ((j + m.nAt (m.ndim - 1) / 2 : Nat) : Int) := by
  have hl := ndim_pred_lt m hm
  rw [kcentre_half m true hm _ hl (isLast_self m), kcentre_full m false hm _ hl (by simp)]
  simp only [Nat.cast_add, Int.cast_add, Int.cast_natCast]
  generalize ((m.nAt (m.ndim - 1) / 2 : Nat) : Rat) = H
  ring

/-- **The hypotheses are satisfiable for every shape**: in ℂ, `w = exp(-2πi/n)`,
`wi = exp(2πi/n)`, `ninv = 1/n` form a root in the sense of `IsRoot` for every `n ≥ 1`, and
complex conjugation is a ring endomorphism inverting every such root — so `fftn_is_dft`,
`ifftn_fftn`, `irfftn_rfftn` apply to complex-valued fields on every mesh. -/
theorem complex_roots_exist (ns : List Nat) (h : ∀ n ∈ ns, 0 < n) :
    Roots ns (ns.map cRoot) ∧ IsConj (starRingEnd ℂ) ∧ ConjRoots (starRingEnd ℂ) ns (ns.map cRoot) :=
  ⟨cRoots ns h, conj_isConj, cConjRoots ns⟩

/-! ### inverse transform, Parseval, Hermitian symmetry -/

section ring2
variable {R : Type} [CommRing R]

/-- **Forward ∘ inverse = identity**: `fftshift(fftn(ifftn(ifftshift(A))))` holds `A` again in every
cell and component, for every shape (orthogonality of the roots, summed over real space). -/
theorem fftn_ifftn_values (ρs : List (Root R)) (nv : Nat) (a : NDA (List R)) (hρ : Roots a.shape ρs)
    (m : List Nat) (hm : inRange a.shape m = true) (c : Nat) (hc : c < nv) :
    compA (fftnArr ρs nv (ifftnArr ρs nv a)) c m = compA a c m := by
  rw [fftnArr_get _ _ _ _ _ hc]
  have hs : (ifftnArr ρs nv a).shape = a.shape := rfl
  rw [hs, dftN_congr ρs a.shape _ (idftN ρs a.shape (fun m' => compA a c (ishift a.shape m'))) _
    (fun j _ => ifftnArr_get _ _ _ _ _ hc)]
  rw [dftN_idftN ρs a.shape hρ _ _ (fshift_inRange a.shape m hm), ishift_fshift a.shape m hm]

/-- **Real forward ∘ real inverse = identity**: `rfftn(irfftn(G, s))` holds the half spectrum `G`
(shape `halfShape s`) again in every cell and component, for even and odd last counts `s` —
the real forward transform reads back exactly the non-negative-frequency half the inverse was
built from. -/
theorem rfftn_irfftn_values (conj : R → R) (ρs : List (Root R)) (nv : Nat) (s : List Nat) (a : NDA (List R))
    (hs : a.shape = halfShape s) (hpos : ∀ n ∈ s, 0 < n) (hρ : Roots s ρs)
    (m : List Nat) (hm : inRange (halfShape s) m = true) (c : Nat) (hc : c < nv) :
    compA (rfftnArr ρs nv (irfftnArr conj ρs nv s a)) c m = compA a c m :=
  rfftn_irfftn_arr conj ρs nv s a hs hpos hρ m hm c hc

/-- **The real transform is the DFT at the k-cell's frequency.**  Every component of every cell
`m` of `Field.rfftn` holds the sum over all real-space cells `r` of `value(r)` times
`Π_{a<last} w_a^(m_a r_a)·wi_a^(⌊n_a/2⌋ r_a) · w_last^(m_last r_last)` — `exp(-2πi k·r)` with `k` the
centre of k-cell `m` of `mesh.fftn(rfft=True)` (last axis unshifted: `kcell_centres_rfft`). -/
theorem rfftn_is_dft (ρs : List (Root R)) (f g : CF R) (h : rfftn ρs f = .ok g)
    (hρ : Roots f.data.shape ρs) (m : List Nat) (hm : inRange (halfShape f.data.shape) m = true)
    (c : Nat) (hc : c < f.nvdim) :
    compA g.data c m = sumBox f.data.shape fun r => compA f.data c r * phaseR ρs f.data.shape m r := by
  rw [rfftn_data h]
  exact rfftnArr_is_dft ρs f.nvdim f.data hρ m hm c hc

/-- **`irfftn` returns real data.**  For every half spectrum that is conjugate-symmetric on its
self-mirror planes (unshifted last index 0 and, for an even output count, `n/2`) — the inputs
the real inverse is specified for — every cell and component of the model's `irfftn` is fixed by
the conjugation, for even and odd output counts. -/
theorem irfftn_returns_real (conj : R → R) (hc : IsConj conj) (hinv : ∀ x, conj (conj x) = x) (ρs : List (Root R))
    (nv : Nat) (s : List Nat) (a : NDA (List R)) (hρ : Roots s ρs) (hcr : ConjRoots conj s ρs)
    (c : Nat) (hcv : c < nv)
    (hcons : ∀ k, inRange s k = true → (k.getLastD 0 = 0 ∨ 2 * k.getLastD 0 = s.getLastD 0) →
      conj (compA a c (ishiftR a.shape k)) = compA a c (ishiftR a.shape (negIdx s k)))
    (j : List Nat) :
    conj (compA (irfftnArr conj ρs nv s a) c j) = compA (irfftnArr conj ρs nv s a) c j :=
  irfftnArr_real conj hc hinv ρs nv s a hρ hcr c hcv hcons j

/-- **What `rfftn` produces is such a half spectrum**: for conj-fixed data the half spectrum is
conjugate-symmetric under index negation on every plane, so `irfftn_returns_real` and the
round trip `irfftn_rfftn` are about the same class of inputs. -/
theorem rfftn_spectrum_consistent (conj : R → R) (hc : IsConj conj) (ρs : List (Root R)) (nv : Nat)
    (a : NDA (List R)) (hρ : Roots a.shape ρs) (hcr : ConjRoots conj a.shape ρs)
    (hreal : ∀ i c, conj (compA a c i) = compA a c i) (c : Nat) (hcv : c < nv)
    (k : List Nat) (hk : inRange a.shape k = true) :
    conj (compA (rfftnArr ρs nv a) c (ishiftR (rfftnArr ρs nv a).shape k))
      = compA (rfftnArr ρs nv a) c (ishiftR (rfftnArr ρs nv a).shape (negIdx a.shape k)) := by
  have hs : (rfftnArr ρs nv a).shape = halfShape a.shape := rfl
  have hnk := negIdx_inRange a.shape k hk
  rw [hs, rfftnArr_get _ _ _ _ _ hcv, rfftnArr_get _ _ _ _ _ hcv, ishiftR_half _ k (inRange_length _ _ hk),
    ishiftR_half _ _ (inRange_length _ _ hnk), fshiftR_ishiftR a.shape k (.of_inRange hk),
    fshiftR_ishiftR a.shape _ (.of_inRange hnk)]
  have := conj_dftN_neg conj hc ρs a.shape hρ hcr (compA a c) (fun i => hreal i c) _ hnk
  rw [negIdx_negIdx a.shape k hk] at this
  exact this

/-- **The inverse transform is the inverse DFT at the k-cells' frequencies.**  Every component
of every real-space cell `j` of `Field.ifftn` holds `Π_a(1/n_a)` times the sum over all k-cells
`m` of `value(m) · Π_a wi_a^(m_a·j_a) · w_a^(⌊n_a/2⌋·j_a)`, i.e. `value(m)·exp(+2πi k_m·r_j)` with
`k_m` the centre of k-cell `m` (`kcell_centres_formula`) — the code-shaped axis-by-axis inverse
after `ifftshift` equals the one-sum specification. -/
theorem ifftn_is_idft (ρs : List (Root R)) (f g : CF R) (h : ifftn ρs f = .ok g)
    (hρ : Roots f.data.shape ρs) (j : List Nat) (c : Nat) (hc : c < f.nvdim) :
    compA g.data c j = ninvProd ρs f.data.shape *
      sumBox f.data.shape fun m => compA f.data c m * phase (ρs.map Root.swap) f.data.shape m j := by
  rw [ifftn_data h]
  exact ifftnArr_is_idft ρs f.nvdim f.data hρ j c hc

/-- the inverse roots `(wi, w, 1/n)` satisfy the root hypotheses whenever `(w, wi, 1/n)` do, so
`phase (ρs.map Root.swap)` in `ifftn_is_idft` is the phase of the conjugate frequencies -/
theorem inverse_roots_are_roots (ns : List Nat) (ρs : List (Root R)) (h : Roots ns ρs) :
    Roots ns (ρs.map Root.swap) :=
  Roots.swap ns ρs h

/-- **Plancherel**: for two arrays of the same shape, `Σ_m F_a[m]·conj F_b[m] = N · Σ_r a[r]·conj b[r]`
per component, the sums running over all k-cells / all cells and `N` the number of cells. -/
theorem plancherel_fftn (conj : R → R) (hc : IsConj conj) (ρs : List (Root R)) (nv : Nat) (a b : NDA (List R))
    (hs : b.shape = a.shape) (hρ : Roots a.shape ρs) (hcr : ConjRoots conj a.shape ρs) (c : Nat) (hcv : c < nv) :
    sumBox a.shape (fun m => compA (fftnArr ρs nv a) c m * conj (compA (fftnArr ρs nv b) c m))
      = (natProd a.shape : R) * sumBox a.shape (fun r => compA a c r * conj (compA b c r)) := by
  rw [← parseval conj hc ρs a.shape hρ hcr]
  rw [← sumBox_fshift a.shape (fun k => dftN ρs a.shape (compA a c) k * conj (dftN ρs a.shape (compA b c) k))]
  apply sumBox_congr
  intro m _
  rw [fftnArr_get _ _ _ _ _ hcv, fftnArr_get _ _ _ _ _ hcv, hs]

/-- **Parseval** for `Field.fftn`: the summed squared modulus of every component of the spectrum
is `N` times that of the field. -/
theorem parseval_fftn (conj : R → R) (hc : IsConj conj) (ρs : List (Root R)) (f g : CF R) (h : fftn ρs f = .ok g)
    (hρ : Roots f.data.shape ρs) (hcr : ConjRoots conj f.data.shape ρs) (c : Nat) (hcv : c < f.nvdim) :
    sumBox f.data.shape (fun m => compA g.data c m * conj (compA g.data c m))
      = (natProd f.data.shape : R) * sumBox f.data.shape (fun r => compA f.data c r * conj (compA f.data c r)) := by
  rw [fftn_data h]
  exact plancherel_fftn conj hc ρs f.nvdim f.data f.data rfl hρ hcr c hcv

/-- **Hermitian symmetry of the spectrum of a real field**: for conj-fixed data, the k-cell of
the opposite frequency (`mirror`: unshift, negate mod the counts, shift back) holds the
conjugate value, in every component. -/
theorem spectrum_hermitian (conj : R → R) (hc : IsConj conj) (ρs : List (Root R)) (f g : CF R)
    (h : fftn ρs f = .ok g) (hρ : Roots f.data.shape ρs) (hcr : ConjRoots conj f.data.shape ρs)
    (hreal : ∀ i c, conj (compA f.data c i) = compA f.data c i)
    (m : List Nat) (hm : inRange f.data.shape m = true) (c : Nat) (hcv : c < f.nvdim) :
    inRange f.data.shape (mirror f.data.shape m) = true ∧
    conj (compA g.data c (mirror f.data.shape m)) = compA g.data c m := by
  rw [fftn_data h]
  exact ⟨mirror_inRange _ _ hm, fftnArr_hermitian conj hc ρs f.nvdim f.data hρ hcr hreal m hm c hcv⟩

/-- **Linearity of the real transform** -/
theorem rfft_linear (ρs : List (Root R)) (nv : Nat) (a b ab : NDA (List R)) (α β : R)
    (hs : b.shape = a.shape) (hs' : ab.shape = a.shape)
    (hab : ∀ i c, compA ab c i = α * compA a c i + β * compA b c i)
    (m : List Nat) (c : Nat) (hc : c < nv) :
    compA (rfftnArr ρs nv ab) c m = α * compA (rfftnArr ρs nv a) c m + β * compA (rfftnArr ρs nv b) c m := by
  rw [rfftnArr_get _ _ _ _ _ hc, rfftnArr_get _ _ _ _ _ hc, rfftnArr_get _ _ _ _ _ hc, hs, hs',
    ← dftN_linear]
  congr 1
  funext i
  exact hab i c

/-- **Linearity of `ifftn`** on arrays: the inverse of `α·A + β·B` is `α·ifftn(A) + β·ifftn(B)` -/
theorem ifftn_linear (ρs : List (Root R)) (nv : Nat) (a b ab : NDA (List R)) (α β : R)
    (hs : b.shape = a.shape) (hs' : ab.shape = a.shape)
    (hab : ∀ i c, compA ab c i = α * compA a c i + β * compA b c i)
    (j : List Nat) (c : Nat) (hc : c < nv) :
    compA (ifftnArr ρs nv ab) c j = α * compA (ifftnArr ρs nv a) c j + β * compA (ifftnArr ρs nv b) c j := by
  rw [ifftnArr_get _ _ _ _ _ hc, ifftnArr_get _ _ _ _ _ hc, ifftnArr_get _ _ _ _ _ hc, hs, hs',
    ← ifft_linear]
  congr 1
  funext i
  exact hab _ c

/-- **A field that is non-zero in a single cell** `r0` (value `v` in component `c`) transforms
to the pure phase `v · exp(-2πi k·r0)` in every k-cell; in particular a delta in the first cell
transforms to the constant `v`. -/
theorem fftn_delta (ρs : List (Root R)) (f g : CF R) (h : fftn ρs f = .ok g) (hρ : Roots f.data.shape ρs)
    (r0 : List Nat) (hr : inRange f.data.shape r0 = true) (c : Nat) (hc : c < f.nvdim)
    (hf : ∀ i, inRange f.data.shape i = true → i ≠ r0 → compA f.data c i = 0)
    (m : List Nat) (hm : inRange f.data.shape m = true) :
    compA g.data c m = compA f.data c r0 * phase ρs f.data.shape m r0 := by
  rw [fftn_is_dft ρs f g h hρ m hm c hc]
  rw [sumBox_single f.data.shape _ r0 hr (fun i hi hne => by rw [hf i hi hne, zero_mul])]

end ring2

/-- **The mirror cell has the opposite frequency.**  Per axis the mirror index of `j` is
`(2⌊n/2⌋ - j) mod n`; its k-cell centre is minus the centre of k-cell `j`, except for the
Nyquist cell `j = 0` of an even axis, which is its own mirror (frequencies `∓1/(2·cell)` are one
sampling period apart). -/
theorem mirror_opposite_frequency (m : Mesh) (k : Mesh) (h : meshFftn m false = .ok k) (hm : m.Inv)
    (j : List Nat) (hj : inRange m.n j = true) (a : Nat) (ha : a < m.ndim) :
    (mirror m.n j).getD a 0 = (2 * (m.nAt a / 2) - j.getD a 0) % m.nAt a ∧
    (¬ (j.getD a 0 = 0 ∧ m.nAt a % 2 = 0) →
      k.centreAx a (((mirror m.n j).getD a 0 : Nat) : Int) = - k.centreAx a ((j.getD a 0 : Nat) : Int)) ∧
    (j.getD a 0 = 0 ∧ m.nAt a % 2 = 0 → (mirror m.n j).getD a 0 = 0) := by
  have hal : a < m.n.length := by rw [hm.n_length]; exact ha
  have hmir : (mirror m.n j).getD a 0 = (2 * (m.nAt a / 2) - j.getD a 0) % m.nAt a :=
    mirror_getD m.n j hj a hal
  have hlt : j.getD a 0 < m.nAt a := inRange_getD m.n j hj a hal
  refine ⟨hmir, ?_, ?_⟩
  · intro hny
    have hlt2 : 2 * (m.nAt a / 2) - j.getD a 0 < m.nAt a := by omega
    rw [hmir, Nat.mod_eq_of_lt hlt2, kcell_centres_formula m k h hm a ha, kcell_centres_formula m k h hm a ha]
    have hle : j.getD a 0 ≤ 2 * (m.nAt a / 2) := by omega
    simp only [Int.cast_natCast]
    rw [Nat.cast_sub hle]
    push_cast
    ring
  · intro hny
    rw [hmir, hny.1]
    have : 2 * (m.nAt a / 2) - 0 = m.nAt a := by omega
    rw [this, Nat.mod_self]

/-! ### the shifts are permutations -/

/-- **`fftshift` of a list is a permutation of its entries, undone by `ifftshift`, for every
length** (even, odd, 0, 1): `fftshift` is the rotation by `⌈n/2⌉`, `ifftshift` the rotation by
`⌊n/2⌋`, and the two compose to the identity in both orders. -/
theorem fftshift_list_permutation (xs : List Rat) :
    (fftshiftL xs).Perm xs ∧ fftshiftL xs = xs.rotate (xs.length - xs.length / 2) ∧
    ifftshiftL xs = xs.rotate (xs.length / 2) ∧
    ifftshiftL (fftshiftL xs) = xs ∧ fftshiftL (ifftshiftL xs) = xs :=
  ⟨fftshiftL_perm xs, fftshiftL_eq_rotate xs, ifftshiftL_eq_rotate xs, ifftshiftL_fftshiftL xs,
    fftshiftL_ifftshiftL xs⟩

/-- **Along every axis the k-cell centres are a permutation of the DFT sample frequencies**
`fftfreq(n, cell)`: every sample frequency is the centre of exactly one k-cell (the list of the
centres is `fftshift(fftfreq(n, cell))`), for even, odd and single-cell axes. -/
theorem kcell_centres_permutation (m : Mesh) (k : Mesh) (h : meshFftn m false = .ok k) (hm : m.Inv)
    (a : Nat) (ha : a < m.ndim) :
    tab (m.nAt a) (fun j => k.centreAx a (j : Int)) = fftshiftL (fftfreq (m.nAt a) (m.cellAt a)) ∧
    (tab (m.nAt a) (fun j => k.centreAx a (j : Int))).Perm (fftfreq (m.nAt a) (m.cellAt a)) := by
  have e : tab (m.nAt a) (fun j => k.centreAx a (j : Int)) = fftshiftL (fftfreq (m.nAt a) (m.cellAt a)) := by
    symm
    apply eq_tab_of_getD _ _ _ 0 (by simp [fftshiftL, fftfreq])
    intro j hj
    exact ((kcell_centres m k h hm a ha).2 j hj).symm
  exact ⟨e, by rw [e]; exact fftshiftL_perm _⟩

/-- **`fftshift` and `ifftshift` over all axes are mutually inverse permutations of the index
box, for every shape**: both send the box into itself, each undoes the other, both are injective
on the box; entry `a` of the image is `(m_a + ⌈n_a/2⌉) mod n_a` resp. `(m_a + ⌊n_a/2⌋) mod n_a`. -/
theorem shift_permutation (ns m : List Nat) (h : inRange ns m = true) :
    inRange ns (fshift ns m) = true ∧ inRange ns (ishift ns m) = true ∧
    fshift ns (ishift ns m) = m ∧ ishift ns (fshift ns m) = m ∧
    (∀ m', inRange ns m' = true → fshift ns m' = fshift ns m → m' = m) ∧
    (∀ m', inRange ns m' = true → ishift ns m' = ishift ns m → m' = m) ∧
    ∀ a, a < ns.length →
      (fshift ns m).getD a 0 = (m.getD a 0 + (ns.getD a 0 - ns.getD a 0 / 2)) % ns.getD a 0 ∧
      (ishift ns m).getD a 0 = (m.getD a 0 + ns.getD a 0 / 2) % ns.getD a 0 := by
  refine ⟨fshift_inRange ns m h, ishift_inRange ns m h, fshift_ishift ns m h, ishift_fshift ns m h, ?_, ?_, ?_⟩
  · intro m' h' e
    rw [← ishift_fshift ns m' h', e, ishift_fshift ns m h]
  · intro m' h' e
    rw [← fshift_ishift ns m' h', e, fshift_ishift ns m h]
  · intro a ha
    exact ⟨fshift_getD ns m (inRange_length _ _ h) a ha, ishift_getD ns m (inRange_length _ _ h) a ha⟩

/-- **The partial shifts of the real transforms** (`axes[:-1]`: every axis but the last) are
mutually inverse permutations of the full box of counts `ns`, keep the last index, and restrict
to mutually inverse permutations of the half-spectrum box `halfShape ns`. -/
theorem shiftR_permutation (ns m : List Nat) (h : inRange ns m = true) :
    inRange ns (fshiftR ns m) = true ∧ inRange ns (ishiftR ns m) = true ∧
    fshiftR ns (ishiftR ns m) = m ∧ ishiftR ns (fshiftR ns m) = m ∧
    (fshiftR ns m).getLastD 0 = m.getLastD 0 ∧ (ishiftR ns m).getLastD 0 = m.getLastD 0 ∧
    ∀ m', inRange (halfShape ns) m' = true → ishiftR (halfShape ns) (fshiftR ns m') = m' :=
  ⟨fshiftR_inRange_full ns m h, ishiftR_inRange_full ns m h, fshiftR_ishiftR ns m (.of_inRange h),
    ishiftR_fshiftR ns m (.of_inRange h), fshiftR_last ns m, ishiftR_last ns m, fun m' h' => by
      rw [ishiftR_half ns _ (by rw [fshiftR_length]; exact (LeadIn.of_half h').1), ishiftR_fshiftR ns m' (.of_half h')]⟩

/-! ### inverse transforms of k-space fields that did not come from a forward transform -/

section ring3
variable {R : Type} [CommRing R]

/-- **`Field.ifftn` on a valid field — acceptance as an equivalence, and the result.**  For every
valid field (ANY k-space field, not only results of `fftn`): the call succeeds iff no two dimension
names coincide once `k_` is stripped and no two component labels coincide once `ft_` is stripped;
the result then lives on `mesh.ifftn()`, keeps component count and unit, strips `ft_` from every
label and renames the mapping entry by entry (`ft_` off the keys, `k_` off the values). -/
theorem ifftn_accepts_iff (ρs : List (Root R)) (f : CF R) (hf : CFInv f) (g : CF R) :
    ifftn ρs f = .ok g ↔
      hasDup (f.mesh.region.dims.map (stripPre "k_")) = false ∧
      (∀ vs, f.vdims = some vs → hasDup (vs.map (stripPre "ft_")) = false) ∧
      g = { mesh := rMesh f.mesh f.mesh.n, nvdim := f.nvdim, data := ifftnArr ρs f.nvdim f.data,
            vdims := f.vdims.map fun vs => vs.map (stripPre "ft_"),
            vmap := f.vmap.map fun p => (stripPre "ft_" p.1, stripPre "k_" p.2), unit := f.unit } := by
  have hD : ∀ s, ifftShape f.mesh false none = .ok s → (ifftnArr ρs f.nvdim f.data).shape = s := fun s hs => by
    rw [ifftShape_false_none] at hs
    exact hf.shape.trans (Except.ok.inj hs)
  have key := inverse_ok_iff f hf false none (fun _ => ifftnArr ρs f.nvdim f.data) hD g
  constructor
  · intro h
    obtain ⟨s, hs, _, hd, hl, rfl⟩ := key.mp h
    rw [ifftShape_false_none] at hs
    obtain rfl := Except.ok.inj hs
    exact ⟨hd, hl, rfl⟩
  · rintro ⟨hd, hl, rfl⟩
    exact key.mpr ⟨f.mesh.n, ifftShape_false_none f.mesh, (fun _ ha => hf.mesh.nAt_pos ha), hd, hl, rfl⟩

/-- **`Field.irfftn(shape)` on a valid field — acceptance as an equivalence** (the model the
driver runs, numpy's convention for inconsistent half spectra): the call succeeds iff the counts
`s` derived from `shape` are accepted and positive and names and labels stay distinct once
stripped; the result lives on `mesh.ifftn(rfft=True, shape)` and holds `irfftnArrNP` for the
counts `s`.  Acceptance never depends on the data. -/
theorem irfftn_accepts_iff (conj : R → R) (half : R) (ρs : List (Root R)) (f : CF R) (hf : CFInv f)
    (shape : Option (List Nat)) (g : CF R) :
    irfftnNP conj half ρs f shape = .ok g ↔
      ∃ s, ifftShape f.mesh true shape = .ok s ∧ (∀ a, a < f.mesh.ndim → 0 < s.getD a 0) ∧
        hasDup (f.mesh.region.dims.map (stripPre "k_")) = false ∧
        (∀ vs, f.vdims = some vs → hasDup (vs.map (stripPre "ft_")) = false) ∧
        g = { mesh := rMesh f.mesh s, nvdim := f.nvdim, data := irfftnArrNP conj half ρs f.nvdim s f.data,
              vdims := f.vdims.map fun vs => vs.map (stripPre "ft_"),
              vmap := f.vmap.map fun p => (stripPre "ft_" p.1, stripPre "k_" p.2), unit := f.unit } :=
  inverse_ok_iff f hf true shape (fun k => irfftnArrNP conj half ρs f.nvdim k.n f.data) (fun _ _ => rfl) g

/-- **Forward ∘ inverse = identity at field level**, for every valid k-space field with distinct
stripped names and labels (hypotheses on the INPUT only): `F.ifftn()` and `F.ifftn().fftn()` both
succeed; the result has the counts and cell sizes of `F`'s mesh with the zero frequency in cell
`⌊n/2⌋`, the component count, the unit, labels `ft_ + (label without ft_)` and the original value in
every cell and component; it lives on `F`'s own mesh whenever that mesh is canonical, and has `F`'s
own labels whenever they all start with `ft_`. -/
theorem fftn_ifftn (ρs : List (Root R)) (f : CF R) (hf : CFInv f) (hρ : Roots f.mesh.n ρs)
    (hd : hasDup (f.mesh.region.dims.map (stripPre "k_")) = false)
    (hlab : ∀ vs, f.vdims = some vs → hasDup (vs.map (stripPre "ft_")) = false) :
    ∃ h g, ifftn ρs f = .ok h ∧ fftn ρs h = .ok g ∧
      (∀ a, a < f.mesh.ndim → g.mesh.nAt a = f.mesh.nAt a ∧ g.mesh.cellAt a = f.mesh.cellAt a) ∧
      (KCanonical f.mesh → g.mesh = f.mesh) ∧
      g.nvdim = f.nvdim ∧ g.unit = f.unit ∧
      g.vdims = f.vdims.map (fun vs => vs.map fun v => "ft_" ++ stripPre "ft_" v) ∧
      g.vmap = f.vmap.map (fun p => ("ft_" ++ stripPre "ft_" p.1, "k_" ++ stripPre "k_" p.2)) ∧
      ((∀ vs, f.vdims = some vs → ∀ v ∈ vs, "ft_".toList.isPrefixOf v.toList = true) → g.vdims = f.vdims) ∧
      ∀ m, inRange f.mesh.n m = true → ∀ c, c < f.nvdim → compA g.data c m = compA f.data c m := by
  refine ⟨_, _, (ifftn_accepts_iff ρs f hf _).mpr ⟨hd, hlab, rfl⟩, fftn_ok ρs _ (hf.relabel true (rMesh_inv f.mesh hf.mesh f.mesh.n hf.mesh.n_length (fun _ ha => hf.mesh.nAt_pos ha) hd) hf.shape fun _ => hlab),
    fun a ha => kMesh_rMesh_cell f.mesh hf.mesh hd a ha,
    fun hc => kMesh_rMesh_of_canonical f.mesh hf.mesh hd hc, rfl, rfl, ?_, ?_, ?_, ?_⟩
  · exact (relabel_strip f _ _ _ _).1
  · exact (relabel_strip f _ _ _ _).2
  · intro hpre
    refine (relabel_strip f _ _ _ _).1.trans ?_
    cases hv : f.vdims with
    | none => rfl
    | some vs =>
      exact congrArg some ((List.map_congr_left fun v hvm => pre_strip "ft_" v (hpre vs hv v hvm)).trans (List.map_id vs))
  · intro m hm c hc
    rw [← hf.shape] at hm hρ
    exact fftn_ifftn_values ρs f.nvdim f.data hρ m hm c hc

/-! ### `irfftn` as one sum; numpy's convention on arbitrary half spectra -/

/-- **The real inverse transform is the inverse DFT of the Hermitian extension, as ONE sum.**
For the model of `irfftn` on Hermitian-consistent input (`irfftn`), every component of every
real-space cell `j` of the result holds `Π_a(1/s_a)` times the sum over ALL cells `m` of the
output box `s` (the counts `mesh.ifftn(rfft=True, shape)` returns — even or odd last count) of
`Ã[m] · Π_{a<last} wi_a^(m_a j_a) w_a^(⌊s_a/2⌋ j_a) · wi_last^(m_last j_last)`, i.e. `Ã[m]·exp(+2πi k_m·r_j)`,
where `Ã` is the array itself for last index `≤ ⌊s_last/2⌋` and the conjugate of the mirror cell
beyond (`hermExtS`, in the array's own coordinates: leading axes shifted, last axis not). -/
theorem irfftn_is_idft (conj : R → R) (ρs : List (Root R)) (f g : CF R) (hf : CFInv f) (shape : Option (List Nat))
    (h : irfftn conj ρs f shape = .ok g) (hρ : Roots g.mesh.n ρs) (j : List Nat) (c : Nat) (hc : c < f.nvdim) :
    compA g.data c j = ninvProd ρs g.mesh.n * sumBox g.mesh.n fun m =>
      hermExtS conj g.mesh.n (compA f.data c) m * phaseR (ρs.map Root.swap) g.mesh.n m j := by
  obtain ⟨s, hs, _, _, _, rfl⟩ := (irfftn_ok_iff conj ρs f hf shape g).mp h
  have hsh := hf.shape_half hs
  exact irfftnArr_is_idft conj ρs f.nvdim s f.data hsh hρ j c hc

/-- **What the library computes on ANY half spectrum, as one sum** (`irfftnNP`, numpy's
convention): the same inverse DFT of the Hermitian extension, after the two last-axis planes that
are their own mirror image (last index 0 and, for an even output count, `s_last/2`) were replaced
by their Hermitian part `(A[m] + conj A[mirror m])/2` — pocketfft ignores the imaginary part of
these entries once the leading axes are inverted. -/
theorem irfftn_np_is_idft (conj : R → R) (half : R) (ρs : List (Root R)) (f g : CF R) (hf : CFInv f)
    (shape : Option (List Nat)) (h : irfftnNP conj half ρs f shape = .ok g) (hρ : Roots g.mesh.n ρs)
    (j : List Nat) (c : Nat) (hc : c < f.nvdim) :
    compA g.data c j = ninvProd ρs g.mesh.n * sumBox g.mesh.n fun m =>
      hermExtS conj g.mesh.n (symPlanes conj half g.mesh.n (compA f.data c)) m *
        phaseR (ρs.map Root.swap) g.mesh.n m j := by
  obtain ⟨s, hs, _, _, _, rfl⟩ := (irfftn_accepts_iff conj half ρs f hf shape g).mp h
  have hsh := hf.shape_half hs
  exact irfftnArrNP_is_idft conj half ρs f.nvdim s f.data hsh hρ j c hc

/-- **On Hermitian-consistent half spectra the library's `irfftn` is the plain one**: if every
component of the array is conjugate-symmetric on its self-mirror planes (`HermPlanes`: what
`rfftn` of real data produces), `irfftnNP` and `irfftn` succeed together and agree in mesh,
labels, mapping, unit and every value — so every theorem about `irfftn` (`irfftn_rfftn`,
`irfftn_is_idft`, `irfftn_returns_real`, …) is a theorem about what the library computes. -/
theorem irfftn_np_eq_irfftn (conj : R → R) (half : R) (hh : half * 2 = 1) (ρs : List (Root R)) (f : CF R)
    (hf : CFInv f) (shape : Option (List Nat)) (g : CF R) (h : irfftnNP conj half ρs f shape = .ok g)
    (hcons : ∀ c, c < f.nvdim → HermPlanes conj g.mesh.n (compA f.data c)) :
    ∃ g', irfftn conj ρs f shape = .ok g' ∧ g'.mesh = g.mesh ∧ g'.nvdim = g.nvdim ∧ g'.vdims = g.vdims ∧
      g'.vmap = g.vmap ∧ g'.unit = g.unit ∧
      ∀ j c, c < f.nvdim → compA g'.data c j = compA g.data c j := by
  obtain ⟨s, hs, hp, hd, hl, rfl⟩ := (irfftn_accepts_iff conj half ρs f hf shape g).mp h
  have hsh := hf.shape_half hs
  refine ⟨_, (irfftn_ok_iff conj ρs f hf shape _).mpr ⟨s, hs, hp, hd, hl, rfl⟩, rfl, rfl, rfl, rfl, rfl, ?_⟩
  intro j c hc
  exact (irfftnArrNP_eq_of_consistent conj half hh ρs f.nvdim s f.data hsh c hc (hcons c hc) j).symm

/-- **The library's `irfftn` returns real data on EVERY half spectrum** (no consistency
hypothesis): every cell and component of `irfftnNP` is fixed by the conjugation, for even and odd
output counts. -/
theorem irfftn_np_returns_real (conj : R → R) (hc : IsConj conj) (hinv : ∀ x, conj (conj x) = x) (half : R)
    (hh : half * 2 = 1) (ρs : List (Root R)) (f g : CF R) (hf : CFInv f) (shape : Option (List Nat))
    (h : irfftnNP conj half ρs f shape = .ok g) (hρ : Roots g.mesh.n ρs) (hcr : ConjRoots conj g.mesh.n ρs)
    (j : List Nat) (c : Nat) (hcv : c < f.nvdim) :
    conj (compA g.data c j) = compA g.data c j := by
  obtain ⟨s, hs, _, _, _, rfl⟩ := (irfftn_accepts_iff conj half ρs f hf shape g).mp h
  have hsh := hf.shape_half hs
  exact irfftnArrNP_real conj hc hinv half hh ρs f.nvdim s f.data hsh hρ hcr c hcv j

/-- **Real forward ∘ real inverse at field level**, for every valid half-spectrum field with
distinct stripped names and labels and every accepted `shape`: `G.irfftn(shape)` and
`G.irfftn(shape).rfftn()` both succeed; the result has the counts and cell sizes of `G`'s mesh,
component count and unit, and holds in every cell the half spectrum with its self-mirror planes
replaced by their Hermitian part — `G` itself in every cell exactly where `G` is consistent
(`symPlanes_of_consistent`), in particular on every cell off the two planes. -/
theorem rfftn_irfftn (conj : R → R) (half : R) (ρs : List (Root R)) (f : CF R) (hf : CFInv f)
    (shape : Option (List Nat)) (s : List Nat) (hs : ifftShape f.mesh true shape = .ok s)
    (hp : ∀ a, a < f.mesh.ndim → 0 < s.getD a 0) (hρ : Roots s ρs)
    (hd : hasDup (f.mesh.region.dims.map (stripPre "k_")) = false)
    (hlab : ∀ vs, f.vdims = some vs → hasDup (vs.map (stripPre "ft_")) = false) :
    ∃ h g, irfftnNP conj half ρs f shape = .ok h ∧ rfftn ρs h = .ok g ∧ h.mesh.n = s ∧
      g.mesh.n = f.mesh.n ∧ (∀ a, a < f.mesh.ndim → g.mesh.cellAt a = f.mesh.cellAt a) ∧
      g.nvdim = f.nvdim ∧ g.unit = f.unit ∧
      g.vdims = f.vdims.map (fun vs => vs.map fun v => "ft_" ++ stripPre "ft_" v) ∧
      g.vmap = f.vmap.map (fun p => ("ft_" ++ stripPre "ft_" p.1, "k_" ++ stripPre "k_" p.2)) ∧
      (∀ m, inRange f.mesh.n m = true → ∀ c, c < f.nvdim →
        compA g.data c m = symPlanes conj half s (compA f.data c) m) ∧
      (∀ m, inRange f.mesh.n m = true → ∀ c, c < f.nvdim →
        ¬ (m.getLastD 0 = 0 ∨ 2 * m.getLastD 0 = s.getLastD 0) → compA g.data c m = compA f.data c m) := by
  have hl := ifftShape_length f.mesh true shape s hf.mesh.n_length hs
  have hhalf := ifftShape_half f.mesh hf.mesh shape s hs
  have hsh : f.data.shape = halfShape s := hf.shape_half hs
  have hpos : ∀ n ∈ s, 0 < n := (rMesh_inv f.mesh hf.mesh s hl hp hd).mem_n_pos
  have hcell := kMesh_rMesh_cell_half f.mesh hf.mesh hd s hl hp
  have hval : ∀ m, inRange f.mesh.n m = true → ∀ c, c < f.nvdim →
      compA (rfftnArr ρs f.nvdim (irfftnArrNP conj half ρs f.nvdim s f.data)) c m
        = symPlanes conj half s (compA f.data c) m := by
    intro m hm c hc
    rw [← hhalf] at hm
    exact rfftn_irfftnNP_arr conj half ρs f.nvdim s f.data hsh hpos hρ m hm c hc
  refine ⟨_, _, (irfftn_accepts_iff conj half ρs f hf shape _).mpr ⟨s, hs, hp, hd, hlab, rfl⟩,
    rfftn_ok ρs _ (hf.relabel true (rMesh_inv f.mesh hf.mesh s hl hp hd) rfl fun _ => hlab), rfl, by rw [← hhalf]; exact hcell.1, hcell.2, rfl, rfl,
    ?_, ?_, hval, ?_⟩
  · exact (relabel_strip f _ _ _ _).1
  · exact (relabel_strip f _ _ _ _).2
  intro m hm c hc hnp
  refine (hval m hm c hc).trans ?_
  unfold symPlanes
  rw [if_neg hnp]

end ring3

/-! ### shift theorem, linearity at field level -/

section ring4
variable {R : Type} [CommRing R]

/-- **Shift theorem.**  Let `f'` be the field `f` translated cyclically by whole cells,
`t = (t_a)` cells along axis `a` (same mesh, `f'[r] = f[(r - t) mod n]`).  Then in every k-cell `m`
and component, `Field.fftn` of `f'` holds the value for `f` times
`phase(m, t) = Π_a w_a^(m_a t_a) wi_a^(⌊n_a/2⌋ t_a) = exp(-2πi k_m·(t·cell))`, the phase of the
translation vector at that k-cell's frequency (`phase_is_k_dot_r`); same mesh, labels, unit. -/
theorem fftn_shift_theorem (ρs : List (Root R)) (f g g' : CF R) (t : List Nat) (ht : t.length = f.data.shape.length)
    (h : fftn ρs f = .ok g) (h' : fftn ρs { f with data := rollArr t f.data } = .ok g')
    (hρ : Roots f.data.shape ρs) (m : List Nat) (hm : inRange f.data.shape m = true) (c : Nat) (hc : c < f.nvdim) :
    g'.mesh = g.mesh ∧ compA g'.data c m = phase ρs f.data.shape m t * compA g.data c m := by
  obtain ⟨hk, hd, _⟩ := fftn_inv h
  obtain ⟨hk', hd', _⟩ := fftn_inv h'
  rw [hd, hd']
  exact ⟨Except.ok.inj (hk'.symm.trans hk), fftnArr_translate ρs f.nvdim f.data hρ t ht m hm c hc⟩

/-- the shift theorem for the real transform: the last axis contributes `w^(m_last t_last)`
(unshifted index) -/
theorem rfftn_shift_theorem (ρs : List (Root R)) (f g g' : CF R) (t : List Nat) (ht : t.length = f.data.shape.length)
    (h : rfftn ρs f = .ok g) (h' : rfftn ρs { f with data := rollArr t f.data } = .ok g')
    (hρ : Roots f.data.shape ρs) (m : List Nat) (hm : inRange (halfShape f.data.shape) m = true)
    (c : Nat) (hc : c < f.nvdim) :
    g'.mesh = g.mesh ∧ compA g'.data c m = phaseR ρs f.data.shape m t * compA g.data c m := by
  obtain ⟨hk, hd, _⟩ := rfftn_inv h
  obtain ⟨hk', hd', _⟩ := rfftn_inv h'
  rw [hd, hd']
  exact ⟨Except.ok.inj (hk'.symm.trans hk), rfftnArr_translate ρs f.nvdim f.data hρ t ht m hm c hc⟩

/-- a translation by zero cells, or by a whole period along every axis, is no translation -/
theorem roll_full_period (ns r : List Nat) (hr : inRange ns r = true) : rollIdx ns ns r = r ∧
    rollIdx ns (ns.map fun _ => 0) r = r := by
  induction ns generalizing r with
  | nil => cases r <;> simp_all [inRange, rollIdx]
  | cons n ns ih =>
    cases r with
    | nil => simp [inRange] at hr
    | cons r0 rs =>
      rw [inRange_cons] at hr
      simp only [rollIdx, List.map_cons, (ih rs hr.2).1, (ih rs hr.2).2, Nat.mod_self, Nat.zero_mod, Nat.sub_zero]
      have : (r0 + n) % n = r0 := by rw [Nat.add_mod_right, Nat.mod_eq_of_lt hr.1]
      rw [this]
      exact ⟨rfl, rfl⟩

/-- **Linearity at field level**: if three fields on one mesh with the same component count and
labels satisfy `f₃ = α·f₁ + β·f₂` cell by cell, then so do their `Field.fftn` (which all succeed
or fail together, on the same k-mesh) — and likewise `Field.rfftn` and `Field.ifftn`. -/
theorem fftn_linear_field (ρs : List (Root R)) (f1 f2 f3 g1 g2 g3 : CF R) (α β : R)
    (hm2 : f2.mesh = f1.mesh) (hm3 : f3.mesh = f1.mesh) (hn2 : f2.nvdim = f1.nvdim) (hn3 : f3.nvdim = f1.nvdim)
    (hs2 : f2.data.shape = f1.data.shape) (hs3 : f3.data.shape = f1.data.shape)
    (hab : ∀ i c, compA f3.data c i = α * compA f1.data c i + β * compA f2.data c i)
    (m : List Nat) (c : Nat) (hc : c < f1.nvdim) :
    (fftn ρs f1 = .ok g1 → fftn ρs f2 = .ok g2 → fftn ρs f3 = .ok g3 →
      g2.mesh = g1.mesh ∧ g3.mesh = g1.mesh ∧ compA g3.data c m = α * compA g1.data c m + β * compA g2.data c m) ∧
    (rfftn ρs f1 = .ok g1 → rfftn ρs f2 = .ok g2 → rfftn ρs f3 = .ok g3 →
      g2.mesh = g1.mesh ∧ g3.mesh = g1.mesh ∧ compA g3.data c m = α * compA g1.data c m + β * compA g2.data c m) ∧
    (ifftn ρs f1 = .ok g1 → ifftn ρs f2 = .ok g2 → ifftn ρs f3 = .ok g3 →
      g2.mesh = g1.mesh ∧ g3.mesh = g1.mesh ∧ compA g3.data c m = α * compA g1.data c m + β * compA g2.data c m) := by
  refine ⟨?_, ?_, ?_⟩
  · intro h1 h2 h3
    obtain ⟨k1, d1, _⟩ := fftn_inv h1
    obtain ⟨k2, d2, _⟩ := fftn_inv h2
    obtain ⟨k3, d3, _⟩ := fftn_inv h3
    rw [hm2] at k2; rw [hm3] at k3
    rw [d1, d2, d3, hn2, hn3]
    exact ⟨Except.ok.inj (k2.symm.trans k1), Except.ok.inj (k3.symm.trans k1),
      fft_linear ρs f1.nvdim f1.data f2.data f3.data α β hs2 hs3 hab m c hc⟩
  · intro h1 h2 h3
    obtain ⟨k1, d1, _⟩ := rfftn_inv h1
    obtain ⟨k2, d2, _⟩ := rfftn_inv h2
    obtain ⟨k3, d3, _⟩ := rfftn_inv h3
    rw [hm2] at k2; rw [hm3] at k3
    rw [d1, d2, d3, hn2, hn3]
    exact ⟨Except.ok.inj (k2.symm.trans k1), Except.ok.inj (k3.symm.trans k1),
      rfft_linear ρs f1.nvdim f1.data f2.data f3.data α β hs2 hs3 hab m c hc⟩
  · intro h1 h2 h3
    obtain ⟨k1, d1, _⟩ := ifftn_inv h1
    obtain ⟨k2, d2, _⟩ := ifftn_inv h2
    obtain ⟨k3, d3, _⟩ := ifftn_inv h3
    rw [hm2] at k2; rw [hm3] at k3
    rw [d1, d2, d3, hn2, hn3]
    exact ⟨Except.ok.inj (k2.symm.trans k1), Except.ok.inj (k3.symm.trans k1),
      ifftn_linear ρs f1.nvdim f1.data f2.data f3.data α β hs2 hs3 hab m c hc⟩

end ring4

/-! ### the value theorems over ℂ with the phase written as `exp(∓2πi k·r)` -/

/-- **The property statement, verbatim, for complex fields.**  On every valid field with complex
data `Field.fftn` (run with the roots `exp(-2πi/n_a)`) succeeds, and every component of every
k-cell `m` holds `Σ_r value(r) · exp(-2πi k·r)`: the sum over all real-space cells `r` with
`k·r = Σ_a k_a · (r_a · cell_a)`, `k_a` the coordinate of the centre of k-cell `m` of the k-mesh
`mesh.fftn()` and `r_a·cell_a` the position of cell `r` counted from the first cell. -/
theorem fftn_is_dft_exp (f : CF ℂ) (hf : CFInv f) :
    ∃ k g, meshFftn f.mesh false = .ok k ∧ fftn (f.mesh.n.map cRoot) f = .ok g ∧ g.mesh = k ∧
      ∀ m, inRange f.mesh.n m = true → ∀ c, c < f.nvdim →
        compA g.data c m = sumBox f.mesh.n fun r => compA f.data c r *
          Complex.exp (-(2 * Real.pi * Complex.I) *
            ((sumN f.mesh.ndim fun a => k.centreAx a ((m.getD a 0 : Nat) : Int) *
              ((r.getD a 0 : ℚ) * f.mesh.cellAt a) : ℚ) : ℂ)) := by
  have hk := meshFftn_ok f.mesh false hf.mesh
  have hg := fftn_ok (f.mesh.n.map cRoot) f hf
  refine ⟨_, _, hk, hg, rfl, ?_⟩
  intro m hm c hc
  have hpos := hf.mesh.mem_n_pos
  have hρ : Roots f.data.shape (f.mesh.n.map cRoot) := by rw [hf.shape]; exact cRoots f.mesh.n hpos
  rw [fftn_is_dft _ f _ hg hρ m (by rw [hf.shape]; exact hm) c hc, hf.shape]
  apply sumBox_congr
  intro r _
  rw [phase_complex f.mesh.n hpos m r, kr_eq_sumN, hf.mesh.n_length]
  congr 4
  apply sumN_congr
  intro a ha
  rw [phase_is_k_dot_r f.mesh _ hk hf.mesh a ha]
  rfl

/-- **The same for the inverse transform**: on every valid complex k-space field accepted by
`Field.ifftn`, every component of every real-space cell `j` holds
`(1/N) Σ_m value(m) · exp(+2πi κ_m·j)` with `κ_m·j = Σ_a (m_a - ⌊n_a/2⌋)·j_a / n_a` — the k-cell
centres of `mesh.ifftn().fftn()` times the cell positions of `mesh.ifftn()` (`kr_is_k_dot_r`). -/
theorem ifftn_is_idft_exp (f g : CF ℂ) (hf : CFInv f) (h : ifftn (f.mesh.n.map cRoot) f = .ok g)
    (j : List Nat) (c : Nat) (hc : c < f.nvdim) :
    compA g.data c j = ninvProd (f.mesh.n.map cRoot) f.mesh.n * sumBox f.mesh.n fun m =>
      compA f.data c m * Complex.exp ((2 * Real.pi * Complex.I) * ((kr f.mesh.n m j : ℚ) : ℂ)) := by
  have hpos := hf.mesh.mem_n_pos
  have hρ : Roots f.data.shape (f.mesh.n.map cRoot) := by rw [hf.shape]; exact cRoots f.mesh.n hpos
  rw [ifftn_is_idft _ f g h hρ j c hc, hf.shape]
  congr 1
  apply sumBox_congr
  intro m _
  rw [phase_swap_complex f.mesh.n hpos m j]

/-- `kr` is `k·r`: for the k-mesh of ANY valid mesh with the counts `ns`, `kr ns m r` is the dot
product of the centre of k-cell `m` with the position of cell `r` counted from the first cell -/
theorem kr_is_k_dot_r (msh k : Mesh) (hm : msh.Inv) (h : meshFftn msh false = .ok k) (m r : List Nat) :
    kr msh.n m r = sumN msh.ndim fun a => k.centreAx a ((m.getD a 0 : Nat) : Int) * ((r.getD a 0 : ℚ) * msh.cellAt a) := by
  rw [kr_eq_sumN, hm.n_length]
  apply sumN_congr
  intro a ha
  rw [phase_is_k_dot_r msh k h hm a ha]
  rfl

/-- **The real transform over ℂ**: every component of every cell `m` of `Field.rfftn` holds
`Σ_r value(r) · exp(-2πi κ·r)` with `κ·r = Σ_{a<last} (m_a - ⌊n_a/2⌋) r_a / n_a + m_last r_last / n_last`
(last axis unshifted: the centres of `mesh.fftn(rfft=True)`, `kcell_centres_rfft`). -/
theorem rfftn_is_dft_exp (f : CF ℂ) (hf : CFInv f) :
    ∃ g, rfftn (f.mesh.n.map cRoot) f = .ok g ∧ meshFftn f.mesh true = .ok g.mesh ∧
      ∀ m, inRange (halfShape f.mesh.n) m = true → ∀ c, c < f.nvdim →
        compA g.data c m = sumBox f.mesh.n fun r => compA f.data c r *
          Complex.exp (-(2 * Real.pi * Complex.I) * ((krR f.mesh.n m r : ℚ) : ℂ)) := by
  have hg := rfftn_ok (f.mesh.n.map cRoot) f hf
  refine ⟨_, hg, meshFftn_ok f.mesh true hf.mesh, ?_⟩
  intro m hm c hc
  have hpos := hf.mesh.mem_n_pos
  have hρ : Roots f.data.shape (f.mesh.n.map cRoot) := by rw [hf.shape]; exact cRoots f.mesh.n hpos
  rw [rfftn_is_dft _ f _ hg hρ m (by rw [hf.shape]; exact hm) c hc, hf.shape]
  apply sumBox_congr
  intro r _
  rw [phaseR_complex f.mesh.n hpos m r]

/-! ### the real round trip in the library's convention -/

section ring5
variable {R : Type} [CommRing R]

/-- **What `rfftn` produces is Hermitian on its self-mirror planes, in the array's own
coordinates** (`HermPlanes`, the hypothesis of `irfftn_np_eq_irfftn`) — on every plane in fact. -/
theorem rfftn_output_hermitian_planes (conj : R → R) (hc : IsConj conj) (ρs : List (Root R)) (nv : Nat)
    (a : NDA (List R)) (hρ : Roots a.shape ρs) (hcr : ConjRoots conj a.shape ρs)
    (hreal : ∀ i c, conj (compA a c i) = compA a c i) (c : Nat) (hcv : c < nv) :
    HermPlanes conj a.shape (compA (rfftnArr ρs nv a) c) := by
  intro m hm _
  have h := rfftn_spectrum_consistent conj hc ρs nv a hρ hcr hreal c hcv (fshiftR a.shape m)
    (fshiftR_inRange_full a.shape m hm)
  have hs : (rfftnArr ρs nv a).shape = halfShape a.shape := rfl
  rw [hs, ishiftR_half a.shape _ (by rw [fshiftR_length]; exact inRange_length _ _ hm),
    ishiftR_fshiftR a.shape m (.of_inRange hm),
    ishiftR_half a.shape _ (negIdx_length a.shape _ (fshiftR_inRange_full a.shape m hm))] at h
  exact h

/-- **Real round trip for what the library computes**: on every valid field with conj-fixed
("real") data, `f.rfftn().irfftn(shape=f.mesh.n)` in the library's convention (`irfftnNP`)
succeeds and restores mesh counts, extent, names, units (centred at the origin), component count,
unit, labels, mapping and every value — even and odd last counts alike. -/
theorem irfftn_np_rfftn (conj : R → R) (hc : IsConj conj) (half : R) (hh : half * 2 = 1) (ρs : List (Root R))
    (f : CF R) (hf : CFInv f) (hρ : Roots f.mesh.n ρs) (hcr : ConjRoots conj f.mesh.n ρs)
    (hreal : ∀ i c, conj (compA f.data c i) = compA f.data c i) :
    ∃ g h, rfftn ρs f = .ok g ∧ irfftnNP conj half ρs g (some f.mesh.n) = .ok h ∧
      h.mesh = originMesh f.mesh f.mesh.n ∧ h.nvdim = f.nvdim ∧ h.unit = f.unit ∧
      h.vdims = f.vdims ∧ h.vmap = f.vmap ∧
      ∀ j, inRange f.mesh.n j = true → ∀ c, c < f.nvdim → compA h.data c j = compA f.data c j := by
  obtain ⟨g, h0, hg, hh0, _, hm0, hn0, hu0, hv0, hp0, hval⟩ := irfftn_rfftn conj hc ρs f hf hρ hcr hreal
  have hgd : g = relabel false f (kMesh f.mesh true) (rfftnArr ρs f.nvdim f.data) := by
    rw [rfftn_ok ρs f hf] at hg; injection hg with hg; exact hg.symm
  have hshape : (rfftnArr ρs f.nvdim f.data).shape = (kMesh f.mesh true).n := by
    rw [kMesh_n_half f.mesh hf.mesh, ← hf.shape]; rfl
  have hginv : CFInv g := by
    rw [hgd]; exact hf.relabel false (kMesh_inv f.mesh true hf.mesh) hshape (.fwd f)
  obtain ⟨s, hs, hp, hd, hl, hres⟩ := (irfftn_ok_iff conj ρs g hginv (some f.mesh.n) h0).mp hh0
  have hsn : s = f.mesh.n := ((ifftShape_some_ok_iff g.mesh true f.mesh.n s).mp hs).1
  subst hsn
  refine ⟨g, _, hg, (irfftn_accepts_iff conj half ρs g hginv (some f.mesh.n) _).mpr ⟨_, hs, hp, hd, hl, rfl⟩, ?_, ?_, ?_, ?_, ?_, ?_⟩
  · rw [← hm0, hres]
  · rw [← hn0, hres]
  · rw [← hu0, hres]
  · rw [← hv0, hres]; rfl
  · rw [← hp0, hres]; rfl
  · intro j hj c hcv
    rw [← hval j hj c hcv, hres]
    have hcv' : c < g.nvdim := by rw [hgd]; exact hcv
    have hsh : g.data.shape = halfShape f.mesh.n := by rw [hgd, ← hf.shape]; rfl
    show compA (irfftnArrNP conj half ρs g.nvdim f.mesh.n g.data) c j = compA (irfftnArr conj ρs g.nvdim f.mesh.n g.data) c j
    apply irfftnArrNP_eq_of_consistent conj half hh ρs g.nvdim f.mesh.n g.data hsh c hcv'
    rw [hgd]
    rw [← hf.shape] at hρ hcr ⊢
    exact rfftn_output_hermitian_planes conj hc ρs f.nvdim f.data hρ hcr hreal c hcv

end ring5

/-! ### per component at field level; Hermitian spectra have real inverse transforms -/

section ring6
variable {R : Type} [CommRing R]

/-- **Transforms act per component, at field level**: whenever `Field.fftn` succeeds on a field,
it succeeds on the scalar field made of its component `c` alone (same mesh, no labels), on the
same k-mesh, and that transform is component `c` of the transform of the whole field. -/
theorem fftn_componentwise_field (ρs : List (Root R)) (f g : CF R) (h : fftn ρs f = .ok g) (c : Nat) (hc : c < f.nvdim) :
    ∃ gc, fftn ρs { mesh := f.mesh, nvdim := 1, data := ⟨f.data.shape, fun i => [compA f.data c i]⟩,
                    vdims := none, vmap := [], unit := f.unit } = .ok gc ∧
      gc.mesh = g.mesh ∧ gc.nvdim = 1 ∧ ∀ m, compA gc.data 0 m = compA g.data c m := by
  obtain ⟨hk, hd, _, _, hfin⟩ := fftn_inv h
  have hshape : (fftnArr ρs 1 ⟨f.data.shape, fun i => [compA f.data c i]⟩).shape = g.mesh.n := (finish_ok hfin).2.2.2.2
  -- the mesh step is the same; `_fftn` on an unlabelled scalar field is the plain constructor call
  refine ⟨_, (fftn_of_mesh ρs ⟨f.mesh, 1, ⟨f.data.shape, fun i => [compA f.data c i]⟩, none, [], f.unit⟩ hk).trans
    ((finish_eq _ _ _ _).trans (mkCF_scalar g.mesh _ f.unit hshape)), rfl, rfl, ?_⟩
  intro m
  rw [hd]
  exact (fft_componentwise ρs f.nvdim f.data c hc m).symm

/-- **A Hermitian spectrum has a real inverse transform** (the converse of `spectrum_hermitian`):
if in every k-cell the mirror cell holds the conjugate value, every cell and component of
`Field.ifftn` is fixed by the conjugation. -/
theorem ifftn_of_hermitian_is_real (conj : R → R) (hc : IsConj conj) (ρs : List (Root R)) (f g : CF R)
    (h : ifftn ρs f = .ok g) (hρ : Roots f.data.shape ρs) (hcr : ConjRoots conj f.data.shape ρs)
    (c : Nat) (hcv : c < f.nvdim)
    (hherm : ∀ m, inRange f.data.shape m = true → conj (compA f.data c (mirror f.data.shape m)) = compA f.data c m)
    (j : List Nat) : conj (compA g.data c j) = compA g.data c j := by
  rw [ifftn_data h, ifftnArr_get _ _ _ _ _ hcv]
  apply idftN_real conj hc ρs f.data.shape hρ hcr
  intro k hk
  have hnk := negIdx_inRange f.data.shape k hk
  have := hherm (ishift f.data.shape (negIdx f.data.shape k)) (ishift_inRange _ _ hnk)
  unfold mirror at this
  rw [fshift_ishift _ _ hnk, negIdx_negIdx _ _ hk] at this
  exact this

end ring6

/-! ### `irfftn` from the stored half spectrum only -/

section ring7
variable {R : Type} [CommRing R]

/-- **The real inverse transform as a sum over the STORED half spectrum** (the c2r form), in the
library's convention, for every accepted `shape` and every parity of the output count `n`: every
component of every real-space cell `j` holds `Π(1/s_a)` times the sum over the cells `m` of the
half-spectrum array of `Â[m]·e^{+2πi k_m·r_j}` plus, for the entries with last index
`0 < l < ⌈n/2⌉` only, `conj(A[m])·e^{-2πi k_m·r_j}` (the entry of the Hermitian extension they stand
for); `Â = A` except on the planes `l = 0` and `l = n/2` (even `n`), which enter through their
Hermitian part.  No entry outside the stored array is referenced. -/
theorem irfftn_half_sum (conj : R → R) (half : R) (ρs : List (Root R)) (f g : CF R) (hf : CFInv f)
    (shape : Option (List Nat)) (h : irfftnNP conj half ρs f shape = .ok g) (hρ : Roots g.mesh.n ρs)
    (j : List Nat) (c : Nat) (hc : c < f.nvdim) :
    halfShape g.mesh.n = f.mesh.n ∧
    compA g.data c j = ninvProd ρs g.mesh.n * sumBox f.mesh.n fun m =>
      symPlanes conj half g.mesh.n (compA f.data c) m * phaseR (ρs.map Root.swap) g.mesh.n m j +
        (if 1 ≤ m.getLastD 0 ∧ m.getLastD 0 < g.mesh.n.getLastD 0 - g.mesh.n.getLastD 0 / 2
         then conj (compA f.data c m) * phaseR ρs g.mesh.n m j else 0) := by
  obtain ⟨s, hs, hp, _, _, rfl⟩ := (irfftn_accepts_iff conj half ρs f hf shape g).mp h
  have hhalf := ifftShape_half f.mesh hf.mesh shape s hs
  have hsh : f.data.shape = halfShape s := hf.shape_half hs
  have hl := ifftShape_length f.mesh true shape s hf.mesh.n_length hs
  have hpos : 0 < s.getLastD 0 := by
    rw [getLastD_eq_getD, hl]
    exact hp _ (ndim_pred_lt f.mesh hf.mesh)
  refine ⟨hhalf, ?_⟩
  rw [← hhalf]
  exact irfftnArrNP_half_sum conj half ρs f.nvdim s f.data hsh hρ hpos j c hc

end ring7

/-- **The real inverse transform over ℂ, from the stored half spectrum**: for a valid complex
half-spectrum field accepted by `Field.irfftn(shape)` (library convention, `half = 1/2`, roots
`exp(-2πi/s_a)` of the output counts `s`), every component of every real-space cell `j` holds
`(1/N) Σ_m [ Â[m]·exp(+2πi κ_m·j) + (0 < m_last < ⌈n/2⌉ ? conj(A[m])·exp(-2πi κ_m·j) : 0) ]` over the
cells `m` of the stored array, `κ_m·j = Σ_{a<last}(m_a - ⌊s_a/2⌋) j_a/s_a + m_last j_last/s_last`. -/
theorem irfftn_half_sum_exp (f g : CF ℂ) (hf : CFInv f) (shape : Option (List Nat))
    (h : irfftnNP (starRingEnd ℂ) (1 / 2) (g.mesh.n.map cRoot) f shape = .ok g)
    (j : List Nat) (c : Nat) (hc : c < f.nvdim) :
    compA g.data c j = ninvProd (g.mesh.n.map cRoot) g.mesh.n * sumBox f.mesh.n fun m =>
      symPlanes (starRingEnd ℂ) (1 / 2) g.mesh.n (compA f.data c) m *
          Complex.exp ((2 * Real.pi * Complex.I) * ((krR g.mesh.n m j : ℚ) : ℂ)) +
        (if 1 ≤ m.getLastD 0 ∧ m.getLastD 0 < g.mesh.n.getLastD 0 - g.mesh.n.getLastD 0 / 2
         then (starRingEnd ℂ) (compA f.data c m) *
           Complex.exp (-(2 * Real.pi * Complex.I) * ((krR g.mesh.n m j : ℚ) : ℂ)) else 0) := by
  have hginv : g.mesh.Inv := by
    obtain ⟨s, hs, hp, hd, _, hg⟩ := (irfftn_accepts_iff _ _ _ f hf shape g).mp h
    rw [hg]
    exact rMesh_inv f.mesh hf.mesh s (ifftShape_length f.mesh true shape s hf.mesh.n_length hs) hp hd
  have hpos := hginv.mem_n_pos
  have := (irfftn_half_sum (starRingEnd ℂ) (1 / 2) (g.mesh.n.map cRoot) f g hf shape h
    (cRoots g.mesh.n hpos) j c hc).2
  rw [this]
  congr 1
  apply sumBox_congr
  intro m _
  rw [phaseR_swap_complex g.mesh.n hpos m j, phaseR_complex g.mesh.n hpos m j]


/-! ## (c) the driver's formal root-of-unity arithmetic -/

section eval
variable {R : Type} [CommRing R]

/-- **The formal arithmetic is sound.**  Evaluation of the driver's formal combinations
(`Poly`: sums = concatenation of term lists, products = added exponent vectors and multiplied
Gaussian-rational coefficients) into any commutative ring — rationals through a ring
homomorphism, the imaginary unit to an `I` with `I² = -1`, the formal root of axis `a` to an
ARBITRARY `ζ_a` — preserves `0`, `1`, `+` and `·`, sends constants to `q re + q im·I`, the
monomial `ζ_a^k` to `ζ_a^k` and scalar multiples to scalar multiples.  No hypothesis on the roots
is used by the arithmetic. -/
theorem poly_eval_hom (ev : Ev R) (d : Nat) :
    IsHom (ev.eval d) ∧ (∀ re im, ev.eval d (Poly.const re im) = ev.q re + ev.q im * ev.I) ∧
    (∀ a k, a < d → ev.eval d (Poly.mono a k) = ev.ζ a ^ k) ∧
    (∀ re im p, ev.eval d (Poly.const re im * p) = (ev.q re + ev.q im * ev.I) * ev.eval d p) :=
  ⟨ev.eval_isHom d, fun re im => ev.eval_const d re im, fun a k ha => ev.eval_mono d a k ha,
    fun re im p => by rw [ev.eval_mul, ev.eval_const]; rfl⟩

/-- **`Poly.conj` is conjugation** (exponents `e ↦ (n - e mod n) mod n`, `i ↦ -i`) for every
conjugation of `R` that fixes the rationals, negates `I` and inverts the `ζ_a`, once
`ζ_a^(n_a) = 1`. -/
theorem poly_conj_is_conj (ev : Ev R) (conj : R → R) (ns : List Nat) (hc : ev.ConjOK conj ns.length)
    (hpos : ∀ a, a < ns.length → 0 < ns.getD a 1) (hζ : ∀ a, a < ns.length → ev.ζ a ^ ns.getD a 1 = 1)
    (p : Poly) : ev.eval ns.length (Poly.conj ns p) = conj (ev.eval ns.length p) :=
  ev.eval_conj conj ns hc hpos hζ p

/-- **Exponent reduction and collection of like monomials keep the value.**  The table the
driver prints (`Poly.dense`: exponents reduced mod the counts, coefficients of equal monomials
added, indexed by the C-order flat exponent index) evaluates — `Σ_k c_k · Π_a ζ_a^(unflat(k)_a)`,
which is what the harness computes — to the value of the combination, once `ζ_a^(n_a) = 1`. -/
theorem poly_dense_value (ev : Ev R) (ns : List Nat) (hpos : ∀ a, a < ns.length → 0 < ns.getD a 1)
    (hζ : ∀ a, a < ns.length → ev.ζ a ^ ns.getD a 1 = 1) (p : Poly) :
    ev.evalDense ns (Poly.dense ns p) = ev.eval ns.length p :=
  ev.evalDense_dense ns hpos hζ p

/-- **The driver's formal roots evaluate to roots.**  If every `ζ_a` is a primitive `n_a`-th
root of unity (`ζ^n = 1`, `Σ_j ζ^(jk) = 0` for `0<k<n`), the images of `Poly.roots ns` —
`(ζ_a, ζ_a^(n_a-1), q(1/n_a))` — satisfy the hypotheses `Roots` of the value theorems, and a
conjugation as in `poly_conj_is_conj` inverts them (`ConjRoots`). -/
theorem poly_roots_are_roots (ev : Ev R) (ns : List Nat) (h : PrimRoots ev ns) :
    (Poly.roots ns).map (Root.map (ev.eval ns.length)) = ev.roots ns ∧ Roots ns (ev.roots ns) ∧
    ∀ conj, ev.ConjOK conj ns.length → ConjRoots conj ns (ev.roots ns) :=
  ⟨ev.eval_roots ns, ev.roots_Roots ns h, fun conj hc =>
    ev.roots_ConjRoots conj ns hc (fun a ha => (h a ha).1) (fun a ha => (h a ha).2.pow_n)⟩

end eval

section natural
variable {S R : Type} [Zero S] [One S] [Add S] [Mul S] [Zero R] [One R] [Add R] [Mul R]

/-- **The code-shaped model is natural in its carrier.**  For every map `φ` preserving
`0 1 + *` (no ring law needed on either side), `Field.fftn`, `Field.rfftn` and `Field.ifftn` of the
`φ`-image of a field, with the `φ`-images of the root parameters, are the `φ`-images of the
results (same mesh, labels, mapping, unit, error/success; data mapped cell by cell). -/
theorem transforms_commute_with_hom (φ : S → R) (h : IsHom φ) (ρs : List (Root S)) (f : CF S) :
    fftn (ρs.map (Root.map φ)) (f.map φ) = mapM φ (fftn ρs f) ∧
    rfftn (ρs.map (Root.map φ)) (f.map φ) = mapM φ (rfftn ρs f) ∧
    ifftn (ρs.map (Root.map φ)) (f.map φ) = mapM φ (ifftn ρs f) :=
  ⟨h.fftn ρs f, h.rfftn ρs f, h.ifftn ρs f⟩

/-- the same for `Field.irfftn`, for conjugations `cS`, `cR` that `φ` intertwines -/
theorem irfftn_commutes_with_hom (φ : S → R) (h : IsHom φ) (cS : S → S) (cR : R → R)
    (hc : ∀ x, φ (cS x) = cR (φ x)) (ρs : List (Root S)) (f : CF S) (shape : Option (List Nat)) :
    irfftn cR (ρs.map (Root.map φ)) (f.map φ) shape = mapM φ (irfftn cS ρs f shape) :=
  h.irfftn cS cR hc ρs f shape

end natural

section driver
variable {R : Type} [CommRing R]

/-- **What the driver computes, evaluated, is the model over `R`.**  For the three transforms
the driver runs as `T (Poly.roots shape) f`: evaluating every cell of the symbolic result is the
same as running the model over `R` with the evaluated roots on the evaluated input.  (No
hypothesis on the `ζ_a`.) -/
theorem driver_evaluates_to_model (ev : Ev R) (f : CF Poly) :
    mapM (ev.eval f.data.shape.length) (fftn (Poly.roots f.data.shape) f)
      = fftn (ev.roots f.data.shape) (f.map (ev.eval f.data.shape.length)) ∧
    mapM (ev.eval f.data.shape.length) (rfftn (Poly.roots f.data.shape) f)
      = rfftn (ev.roots f.data.shape) (f.map (ev.eval f.data.shape.length)) ∧
    mapM (ev.eval f.data.shape.length) (ifftn (Poly.roots f.data.shape) f)
      = ifftn (ev.roots f.data.shape) (f.map (ev.eval f.data.shape.length)) := by
  have hh := ev.eval_isHom f.data.shape.length
  refine ⟨?_, ?_, ?_⟩
  · rw [← hh.fftn, ev.eval_roots]
  · rw [← hh.rfftn, ev.eval_roots]
  · rw [← hh.ifftn, ev.eval_roots]

/-- the same for `irfftn`, which the driver runs as `irfftn (Poly.conj s) (Poly.roots s) f shape`
with `s` the output counts: needs `ζ_a^(s_a) = 1` (for `Poly.conj`) -/
theorem driver_irfftn_evaluates_to_model (ev : Ev R) (conj : R → R) (s : List Nat) (hc : ev.ConjOK conj s.length)
    (hpos : ∀ a, a < s.length → 0 < s.getD a 1) (hζ : ∀ a, a < s.length → ev.ζ a ^ s.getD a 1 = 1)
    (f : CF Poly) (shape : Option (List Nat)) :
    mapM (ev.eval s.length) (irfftn (Poly.conj s) (Poly.roots s) f shape)
      = irfftn conj (ev.roots s) (f.map (ev.eval s.length)) shape := by
  rw [← (ev.eval_isHom s.length).irfftn (Poly.conj s) conj (fun p => ev.eval_conj conj s hc hpos hζ p),
    ev.eval_roots]

/-- **The driver's printed spectrum is the DFT at the k-cell's frequency.**  End to end for
`Field.fftn`: take the symbolic result `g` of the driver's run on `f`, the printed dense table of
any component of any cell `m`, and evaluate it the harness's way with primitive roots `ζ_a`: the
value is the textbook sum `Σ_r value(r) · Π_a ζ_a^(m_a r_a) · ζ_a^(-⌊n_a/2⌋ r_a)` over all
real-space cells.  Everything between the driver's arithmetic and the specification is proved;
what remains trusted is the JSON glue and the floating-point evaluation of `exp`. -/
theorem driver_fftn_is_dft (ev : Ev R) (f g : CF Poly) (h : fftn (Poly.roots f.data.shape) f = .ok g)
    (hp : PrimRoots ev f.data.shape) (m : List Nat) (hm : inRange f.data.shape m = true)
    (c : Nat) (hc : c < f.nvdim) :
    ev.evalDense f.data.shape (Poly.dense f.data.shape (compA g.data c m))
      = sumBox f.data.shape fun r =>
          ev.eval f.data.shape.length (compA f.data c r) * phase (ev.roots f.data.shape) f.data.shape m r := by
  have h1 := (driver_evaluates_to_model ev f).1
  rw [h] at h1
  have h2 := fftn_is_dft (ev.roots f.data.shape) (f.map (ev.eval f.data.shape.length)) _ h1.symm
    (ev.roots_Roots _ hp) m hm c hc
  rw [show (f.map (ev.eval f.data.shape.length)).data = mapA (ev.eval f.data.shape.length) f.data from rfl,
    compA_mapA_fun (ev.eval_isHom _)] at h2
  rw [ev.evalDense_cell _ hp]
  exact h2

/-- the same end to end for `Field.rfftn` (last axis unshifted) -/
theorem driver_rfftn_is_dft (ev : Ev R) (f g : CF Poly) (h : rfftn (Poly.roots f.data.shape) f = .ok g)
    (hp : PrimRoots ev f.data.shape) (m : List Nat) (hm : inRange (halfShape f.data.shape) m = true)
    (c : Nat) (hc : c < f.nvdim) :
    ev.evalDense f.data.shape (Poly.dense f.data.shape (compA g.data c m))
      = sumBox f.data.shape fun r =>
          ev.eval f.data.shape.length (compA f.data c r) * phaseR (ev.roots f.data.shape) f.data.shape m r := by
  have h1 := (driver_evaluates_to_model ev f).2.1
  rw [h] at h1
  have h2 := rfftn_is_dft (ev.roots f.data.shape) (f.map (ev.eval f.data.shape.length)) _ h1.symm
    (ev.roots_Roots _ hp) m hm c hc
  rw [show (f.map (ev.eval f.data.shape.length)).data = mapA (ev.eval f.data.shape.length) f.data from rfl,
    compA_mapA_fun (ev.eval_isHom _)] at h2
  rw [ev.evalDense_cell _ hp]
  exact h2

/-- **The driver's printed inverse transform is the inverse DFT.**  The same end to end for
`Field.ifftn`: the printed table of any component of any real-space cell `j` of the symbolic
result evaluates to `Π_a q(1/n_a) · Σ_m value(m) · Π_a ζ_a^(-m_a j_a) · ζ_a^(⌊n_a/2⌋ j_a)` over all
k-cells `m`. -/
theorem driver_ifftn_is_idft (ev : Ev R) (f g : CF Poly) (h : ifftn (Poly.roots f.data.shape) f = .ok g)
    (hp : PrimRoots ev f.data.shape) (j : List Nat) (c : Nat) (hc : c < f.nvdim) :
    ev.evalDense f.data.shape (Poly.dense f.data.shape (compA g.data c j))
      = ninvProd (ev.roots f.data.shape) f.data.shape * sumBox f.data.shape fun m =>
          ev.eval f.data.shape.length (compA f.data c m) *
            phase ((ev.roots f.data.shape).map Root.swap) f.data.shape m j := by
  have h1 := (driver_evaluates_to_model ev f).2.2
  rw [h] at h1
  have h2 := ifftn_is_idft (ev.roots f.data.shape) (f.map (ev.eval f.data.shape.length)) _ h1.symm
    (ev.roots_Roots _ hp) j c hc
  rw [show (f.map (ev.eval f.data.shape.length)).data = mapA (ev.eval f.data.shape.length) f.data from rfl,
    compA_mapA_fun (ev.eval_isHom _)] at h2
  rw [ev.evalDense_cell _ hp]
  exact h2

/-- **The hypotheses of part (c) are satisfiable for every shape, by the harness's own
substitution**: rationals into ℂ, `I ↦ i`, `ζ_a ↦ exp(-2πi/n_a)` are primitive roots, complex
conjugation is a conjugation for them, and the driver's formal roots evaluate to exactly the
complex root structures of `complex_roots_exist`. -/
theorem driver_complex (ns : List Nat) (h : ∀ n ∈ ns, 0 < n) :
    PrimRoots (cEv ns) ns ∧ (cEv ns).ConjOK (starRingEnd ℂ) ns.length ∧ (cEv ns).roots ns = ns.map cRoot :=
  ⟨cEv_prim ns h, cEv_conj ns h, cEv_roots ns h⟩

end driver

/-! ### the driver runs the library-convention `irfftn` -/

section natural2
variable {S R : Type} [Zero S] [One S] [Add S] [Mul S] [Zero R] [One R] [Add R] [Mul R]

/-- `Field.irfftn` in the library's convention is natural in its carrier too: for every map `φ`
preserving `0 1 + *` that intertwines the conjugations, with the image of the constant `half` -/
theorem irfftn_np_commutes_with_hom (φ : S → R) (h : IsHom φ) (cS : S → S) (cR : R → R)
    (hc : ∀ x, φ (cS x) = cR (φ x)) (hS : S) (ρs : List (Root S)) (f : CF S) (shape : Option (List Nat)) :
    irfftnNP cR (φ hS) (ρs.map (Root.map φ)) (f.map φ) shape = mapM φ (irfftnNP cS hS ρs f shape) :=
  h.irfftnNP cS cR hc hS ρs f shape

end natural2

section driver2
variable {R : Type} [CommRing R]

/-- **What the driver computes for `irfftn`, evaluated, is the library-convention model over
`R`**: the driver runs `irfftnNP (Poly.conj s) Poly.half (Poly.roots s) f shape` with `s` the output
counts; evaluating every cell is the same as running `irfftnNP` over `R` with the evaluated roots,
the conjugation of `R` and the value of the constant `1/2`, which satisfies `half·2 = 1` — the
hypothesis of `irfftn_np_eq_irfftn` / `irfftn_np_returns_real`. -/
theorem driver_irfftn_np_evaluates_to_model (ev : Ev R) (conj : R → R) (s : List Nat) (hc : ev.ConjOK conj s.length)
    (hpos : ∀ a, a < s.length → 0 < s.getD a 1) (hζ : ∀ a, a < s.length → ev.ζ a ^ s.getD a 1 = 1)
    (f : CF Poly) (shape : Option (List Nat)) :
    mapM (ev.eval s.length) (irfftnNP (Poly.conj s) Poly.half (Poly.roots s) f shape)
      = irfftnNP conj (ev.eval s.length Poly.half) (ev.roots s) (f.map (ev.eval s.length)) shape ∧
    ev.eval s.length Poly.half * 2 = 1 := by
  refine ⟨?_, ?_⟩
  · rw [← (ev.eval_isHom s.length).irfftnNP (Poly.conj s) conj (fun p => ev.eval_conj conj s hc hpos hζ p),
      ev.eval_roots]
  · show ev.eval s.length (Poly.const (1 / 2) 0) * 2 = 1
    rw [ev.eval_const]
    simp only [Ev.coef, map_zero, zero_mul, add_zero]
    rw [← map_ofNat ev.q 2, ← map_mul]
    norm_num

end driver2

/-! ### end to end for the driver's `irfftn` -/

section driver3
variable {R : Type} [CommRing R]

/-- **The driver's printed real inverse transform is the one-sum inverse DFT of the symmetrised
Hermitian extension.**  End to end for `Field.irfftn` in the library's convention: take the
symbolic result `g` of the driver's run on a valid symbolic half-spectrum field `f` with output
counts `s`, the printed dense table of any component of any cell `j`, and evaluate it the harness's
way with primitive roots: the value is `Π(1/s_a) Σ_m Ã[m]·exp(+2πi k_m·r_j)` over all cells `m` of
the output box, `Ã` the Hermitian extension (array coordinates) of the evaluated input whose
self-mirror planes were replaced by their Hermitian part. -/
theorem driver_irfftn_is_idft (ev : Ev R) (conj : R → R) (s : List Nat) (hc : ev.ConjOK conj s.length)
    (hp : PrimRoots ev s) (f g : CF Poly) (hf : CFInv f) (shape : Option (List Nat))
    (h : irfftnNP (Poly.conj s) Poly.half (Poly.roots s) f shape = .ok g) (hs : g.mesh.n = s)
    (j : List Nat) (c : Nat) (hcv : c < f.nvdim) :
    ev.evalDense s (Poly.dense s (compA g.data c j))
      = ninvProd (ev.roots s) s * sumBox s fun m =>
          hermExtS conj s (symPlanes conj (ev.eval s.length Poly.half) s
            (fun i => ev.eval s.length (compA f.data c i))) m * phaseR ((ev.roots s).map Root.swap) s m j := by
  have h1 := (driver_irfftn_np_evaluates_to_model ev conj s hc (fun a ha => (hp a ha).1)
    (fun a ha => (hp a ha).2.pow_n) f shape).1
  rw [h] at h1
  have hf' : CFInv (f.map (ev.eval s.length)) := ⟨hf.mesh, hf.shape, hf.nv, hf.labels⟩
  have h2 := irfftn_np_is_idft conj (ev.eval s.length Poly.half) (ev.roots s) (f.map (ev.eval s.length)) _ hf' shape
    h1.symm (by show Roots g.mesh.n (ev.roots s); rw [hs]; exact ev.roots_Roots s hp) j c hcv
  rw [show (f.map (ev.eval s.length)).data = mapA (ev.eval s.length) f.data from rfl,
    compA_mapA_fun (ev.eval_isHom _), show (g.map (ev.eval s.length)).mesh = g.mesh from rfl, hs] at h2
  rw [ev.evalDense_cell _ hp]
  exact h2

end driver3

/-! ## Non-vacuity -/

/-- the mesh hypotheses of the geometry theorems hold for it, so `Mesh.fftn` succeeds on it for
both kinds and every theorem of part (a) applies -/
example : ∃ k, meshFftn exMesh true = .ok k ∧ k.nAt 2 = 2 ∧ k.nAt 0 = 3 := by
  refine ⟨kMesh exMesh true, (fftn_mesh exMesh true exMesh_inv).1, ?_, ?_⟩
  · exact (kcell_centres_rfft exMesh _ (fftn_mesh exMesh true exMesh_inv).1 exMesh_inv).1
  · exact ((kcell_centres_rfft exMesh _ (fftn_mesh exMesh true exMesh_inv).1 exMesh_inv).2.2 0 (by decide)).1

/-- a valid labelled 3-component field on that mesh: `CFInv` is satisfiable with a non-empty
mapping, so `fftn_total`, `ifftn_fftn`, `irfftn_rfftn` are not vacuous -/
example : CFInv ({ mesh := exMesh, nvdim := 3, data := ⟨[3, 1, 2], fun i => [(i.getD 0 0 : ℂ), 1, 2]⟩,
                   vdims := some ["a", "b", "c"], vmap := [("a", "x"), ("b", "y"), ("c", "z")],
                   unit := some "T" } : CF ℂ) :=
  ⟨exMesh_inv, rfl, by decide, Or.inr ⟨["a", "b", "c"], rfl, by simp, rfl, by decide +kernel, Or.inr rfl⟩⟩

/-- over ℚ, `-1` is a root for `n = 2` (and `1` for `n = 1`): `Roots` is satisfiable without ℂ -/
example : Roots [2, 1] [(⟨-1, -1, 1/2⟩ : Root ℚ), ⟨1, 1, 1⟩] := by
  refine ⟨⟨by norm_num, by norm_num, by norm_num, ?_⟩, ⟨by norm_num, by norm_num, by norm_num, ?_⟩, trivial⟩
  · intro k hk hk2
    have : k = 1 := by omega
    subst this
    simp [sumN]
  · intro k hk hk2; omega

/-- the evaluation hypotheses hold for the example shape with the harness's substitution, so
`driver_fftn_is_dft`, `poly_dense_value`, `poly_conj_is_conj` are not vacuous -/
example : PrimRoots (cEv [3, 1, 2]) [3, 1, 2] ∧ (cEv [3, 1, 2]).ConjOK (starRingEnd ℂ) 3 :=
  ⟨(driver_complex [3, 1, 2] (by decide)).1, (driver_complex [3, 1, 2] (by decide)).2.1⟩

/-- complex conjugation is an involution (hypothesis `hinv` of `irfftn_returns_real`); its
consistency hypothesis is met by every `rfftn` of real data (`rfftn_spectrum_consistent`) -/
example : ∀ x : ℂ, (starRingEnd ℂ) ((starRingEnd ℂ) x) = x := Complex.conj_conj

/-- a symbolic field as the driver builds it (Gaussian-rational constants) is a valid field, and
`fftn` over `Poly` succeeds on it: the hypothesis `fftn (Poly.roots shape) f = .ok g` of
`driver_fftn_is_dft` is satisfiable -/
example : ∃ g, fftn (Poly.roots [3, 1, 2])
    ({ mesh := exMesh, nvdim := 1,
       data := ⟨[3, 1, 2], fun i => [Poly.const (i.getD 0 0 : Rat) 1]⟩,
       vdims := none, vmap := [], unit := none } : CF Poly) = .ok g :=
  ⟨_, fftn_ok _ _ ⟨exMesh_inv, rfl, by decide, Or.inl ⟨rfl, rfl, rfl⟩⟩⟩

/-! ### non-vacuity for the acceptance equivalences, `HermPlanes`, the shift theorems -/

/-- the k-mesh of the example mesh is valid, canonical and has distinct stripped names: the
hypotheses of `ifftn_mesh_accepts_iff`, `fftn_ifftn_mesh` (incl. `KCanonical`) are satisfiable -/
example : (kMesh exMesh false).Inv ∧ KCanonical (kMesh exMesh false) ∧
    hasDup ((kMesh exMesh false).region.dims.map (stripPre "k_")) = false :=
  ⟨kMesh_inv exMesh false exMesh_inv, kMesh_canonical exMesh exMesh_inv, hasDup_strip_kDim exMesh false exMesh_inv⟩

/-- both sides of the acceptance equivalences are inhabited: a valid mesh with the names
`k_x`, `x` is REFUSED by `Mesh.ifftn` -/
example : exCollide.Inv ∧ ¬ ∃ b, meshIfftn exCollide false none = .ok b := by
  refine ⟨exCollide_inv, ?_⟩
  rw [ifftn_mesh_default_accepts_iff exCollide exCollide_inv false]
  decide +kernel

/-- a k-space field that did not come from `fftn` (off-centre mesh, mixed prefixes) meets every
hypothesis of `fftn_ifftn`, `ifftn_accepts_iff`, `irfftn_accepts_iff`, `rfftn_irfftn` -/
example : CFInv exK ∧ hasDup (exK.mesh.region.dims.map (stripPre "k_")) = false ∧
    (∀ vs, exK.vdims = some vs → hasDup (vs.map (stripPre "ft_")) = false) ∧
    Roots exK.mesh.n ([3, 1, 2].map cRoot) := by
  refine ⟨exK_inv, by decide +kernel, ?_, cRoots [3, 1, 2] (by decide)⟩
  intro vs h
  have : vs = ["ft_a", "b", "ft_ft_c"] := by simp [exK] at h; exact h.symm
  subst this
  decide +kernel

/-- `HermPlanes` is satisfiable by a non-constant half spectrum on a 3-d shape with an odd, a
single-cell and an even axis: the real transform of real data -/
example : HermPlanes (starRingEnd ℂ) [3, 1, 2]
    (compA (rfftnArr ([3, 1, 2].map cRoot) 1 ⟨[3, 1, 2], fun i => [((i.getD 0 0 : Nat) : ℂ)]⟩) 0) :=
  rfftn_output_hermitian_planes (starRingEnd ℂ) conj_isConj _ 1 ⟨[3, 1, 2], fun i => [((i.getD 0 0 : Nat) : ℂ)]⟩
    (cRoots [3, 1, 2] (by decide)) (cConjRoots [3, 1, 2])
    (by intro i c; simp only [compA]; cases c <;> simp) 0 (by decide)

/-- and it is a genuine restriction: on the constant half spectrum `i` of two cells numpy's
convention changes the zero-frequency entry (to 0), so `irfftnNP` and `irfftn` differ there;
`1/2 ∈ ℂ` meets the hypothesis `half * 2 = 1` -/
example : symPlanes (starRingEnd ℂ) (1 / 2) [2] (fun _ => Complex.I) [0] = 0 ∧ (1 / 2 : ℂ) * 2 = 1 := by
  refine ⟨by simp [symPlanes], by norm_num⟩

/-- a translation vector of the right length for the example shape (hypothesis of both shift
theorems); it moves every cell: cell `(0,0,0)` comes from cell `(2,0,1)` -/
example : [1, 0, 1].length = [3, 1, 2].length ∧ rollIdx [3, 1, 2] [1, 0, 1] [0, 0, 0] = [2, 0, 1] := by decide

end DFV.C11
