import DFV.Lemmas.C12Bc
import DFV.Lemmas.C12Val
import DFV.Lemmas.C13Reject
/-!
# C12 — quarter-turn rotations move values, vectors, validity and geometry together

Group laws of the exact quarter turns used by `Region/Mesh/Field.rotate90`, the corner
map, rotation of the mapped vector components, and refusal of unmapped vector fields —
for all integers `k` (negative included), all axis pairs, all dimensions; lifted to the model's
regions, meshes (subregions and the `bc` string included) and fields: `k` vs `k mod 4`, composition
of turns with acceptance of the follow-up calls, inverse and four turns, and how the periodic
directions turn with the axes (or, for multi-character axis names, do not: finding D57).
(In-place == copy for rotations is `DFV.C13.inplace_eq_copy` / `inplace_eq_copy_mesh_complete`.)
-/
namespace DFV.C12
open DFV DFV.T

/-! ## the exact quarter turns; points, components, arrays -/

/-- only `k mod 4` matters -/
theorem quarter_mod4 (k : Int) : cosq (k % 4) = cosq k ∧ sinq (k % 4) = sinq k :=
  ⟨cosq_mod4 k, sinq_mod4 k⟩

/-- angle addition for quarter turns -/
theorem quarter_add (k l : Int) :
    cosq (k + l) = cosq k * cosq l - sinq k * sinq l ∧ sinq (k + l) = sinq k * cosq l + cosq k * sinq l :=
  quarter_add' k l

/-- the turn by zero is the identity matrix -/
theorem quarter_zero : cosq 0 = 1 ∧ sinq 0 = 0 := by decide

/-- four quarter turns are the identity matrix -/
theorem quarter_four (k : Int) : cosq (k + 4) = cosq k ∧ sinq (k + 4) = sinq k := by
  rw [← cosq_mod4, ← sinq_mod4, Int.add_emod_right, cosq_mod4, sinq_mod4]; exact ⟨rfl, rfl⟩

/-- the reverse turn is the transpose -/
theorem quarter_neg (k : Int) : cosq (-k) = cosq k ∧ sinq (-k) = - sinq k := by
  have hn : (-k) % 4 = (4 - k % 4) % 4 := by omega
  -- in each residue of `k` that of `-k` is known, and both sides evaluate
  rcases turn_cases k with ⟨h, _, hc, hs⟩ | ⟨h, _, hc, hs⟩ | ⟨h, _, hc, hs⟩ | ⟨h, _, hc, hs⟩ <;>
    rw [hc, hs] <;> unfold cosq sinq <;> rw [hn, h] <;> decide

/-- a point rotated about `ref` in the plane of axes `i1`, `i2` -/
def rotPoint (p ref : List Rat) (i1 i2 : Nat) (k : Int) : List Rat := tab p.length (rotCoord p ref i1 i2 k)

/-- rotating by `k` and then by `l` about the same reference is rotating by `k + l`
(hence: k then −k, and four quarter turns, are the identity) -/
theorem rotPoint_compose (p ref : List Rat) (i1 i2 : Nat) (k l : Int) (h12 : i1 ≠ i2)
    (h1 : i1 < p.length) (h2 : i2 < p.length) :
    rotPoint (rotPoint p ref i1 i2 k) ref i1 i2 l = rotPoint p ref i1 i2 (k + l) := by
  unfold rotPoint
  rw [tab_length]
  exact tab_congr _ _ _ fun a ha => rotCoord_compose p ref i1 i2 k l h12 h1 h2 a ha

/-- the turn by zero leaves every coordinate where it is -/
theorem rotPoint_zero (p ref : List Rat) (i1 i2 : Nat) (a : Nat) (ha : a < p.length) :
    (rotPoint p ref i1 i2 0).getD a 0 = p.getD a 0 := by
  unfold rotPoint
  rw [getD_tab _ _ _ _ ha]
  exact rotCoord_zero p ref i1 i2 0 rfl a

/-- the same composition law for the two rotated vector components -/
theorem rotVec_compose (v : List Rat) (c1 c2 : Nat) (k l : Int) (h12 : c1 ≠ c2)
    (h1 : c1 < v.length) (h2 : c2 < v.length) :
    rotVec (rotVec v c1 c2 k) c1 c2 l = rotVec v c1 c2 (k + l) :=
  rotVec_compose' v c1 c2 k l h12 h1 h2

/-- unmapped components and all other components of a cell value are unchanged -/
theorem rotVec_other (v : List Rat) (c1 c2 : Nat) (k : Int) (c : Nat) (hc : c < v.length) (h1 : c ≠ c1) (h2 : c ≠ c2) :
    (rotVec v c1 c2 k).getD c 0 = v.getD c 0 := by
  rw [rotVec_getD _ _ _ _ _ hc, if_neg h1, if_neg h2]

/-- `np.rot90` only depends on `k mod 4` -/
theorem rot90_mod4 {α} (a : NDA α) (p q : Nat) (k : Int) : rot90 a p q (k % 4) = rot90 a p q k :=
  rot90_mod4' a p q k

/-- the cell counts of the two axes swap exactly for odd `k` (`rotUnits` swaps the units by the same test) -/
theorem rotN_odd (n : List Nat) (i1 i2 : Nat) (k : Int) : rotN n i1 i2 k = if k % 2 = 1 then swapAt n i1 i2 else n := by
  unfold rotN isOdd; simp

/-- A vector field without the component-to-axis mapping for one of the two axes is
refused (either form), whatever else holds. -/
theorem unmapped_refused (f : Fld) (a1 a2 : String) (k : Int) (ref : Option (List Rat)) (b : Bool)
    (hv : f.nvdim > 1) (hm : (f.rDim a1).bind f.vdimIndex = none ∨ (f.rDim a2).bind f.vdimIndex = none) :
    ∃ e, rotate90F f a1 a2 k ref b = .error e := by
  cases h : rotate90F f a1 a2 k ref b with
  | error e => exact ⟨e, rfl⟩
  | ok p =>
    obtain ⟨c1, c2, h1, h2⟩ := rotate90F_mapped f a1 a2 k ref b p.1 p.2 h hv
    rcases hm with hm | hm
    · rw [hm] at h1; cases h1
    · rw [hm] at h2; cases h2

/-- `np.rot90` moves values (data and validity alike): entry `j` of the result is entry
`srcIdx shape p q k j` of the source, for every integer `k`. -/
theorem rot90_moves {α} (a : NDA α) (p q : Nat) (k : Int) (j : List Nat) :
    (rot90 a p q k).get j = a.get (srcIdx a.shape p q k j) := rot90_get a p q k j

/-- **g(R + Q(p − R)) lives where Q f(p) is put.**  For every cell `j` of the rotated mesh and every
axis `a`, the centre of `j` is the exact quarter-turn image `R + Q(p − R)` of the centre `p` of
the source cell `srcIdx j` whose value `np.rot90` stores at `j` (`rot90_moves`) — all integer `k`,
all ordered axis pairs, any reference point, anisotropic counts and cell sizes, any dimension. -/
theorem rot90_geometry (m m' : Mesh) (hm : m.Inv) (i1 i2 : Nat) (h12 : i1 ≠ i2) (h1 : i1 < m.ndim) (h2 : i2 < m.ndim)
    (k : Int) (R : List Rat) (units : List String)
    (hr' : m'.region = target m.region (rotCoord m.region.pmin R i1 i2 k) (rotCoord m.region.pmax R i1 i2 k) units)
    (hn' : m'.n = rotN m.n i1 i2 k)
    (j : List Nat) (hj : inRange m'.n j = true) (a : Nat) (ha : a < m.ndim) :
    m'.centreAx a ((j.getD a 0 : Nat) : Int) = rotCoord (m.centre (srcIdx m.n i1 i2 k j)) R i1 i2 k a := by
  have hnl := hm.n_length
  have hb := rotSrc_lt i1 i2 k a _ h1 h2 ha
  obtain ⟨en, ee, em⟩ := turned_axis m m' hm i1 i2 h12 h1 h2 k R units hr' hn' a ha
  have hsrc := srcIdx_ctr m.n j i1 i2 k h12 (hnl ▸ h1) (hnl ▸ h2) (hn' ▸ hj) (rotSrc i1 i2 k a)
  rw [rotSrc_rotSrc] at hsrc
  have hc' : m'.cellAt a = m.cellAt (rotSrc i1 i2 k a) := by unfold Mesh.cellAt; rw [ee, en]
  -- both sides are "middle of the axis + `ctr` half cells"; on the right the sign of the turn occurs twice
  rw [rotCoord_affine, Mesh.centre, getD_tab _ _ _ _ hb,
    centreAx_ctr m' a _ (en ▸ hm.nAt_pos hb), centreAx_ctr m _ _ (hm.nAt_pos hb), em, hc', en]
  unfold Mesh.nAt
  rw [hsrc]
  rcases rotSign_pm i1 i2 k a with e | e <;> rw [e] <;> ring

/-- the rotated field's value at cell `j`: the two mapped components of the source cell's value
are turned by the same exact matrix, everything else is carried over -/
theorem rotate90F_value (f g recv : Fld) (a1 a2 : String) (k : Int) (ref : Option (List Rat)) (b : Bool)
    (h : rotate90F f a1 a2 k ref b = .ok (recv, g)) (j : List Nat) :
    ∃ i1 i2, f.mesh.region.dim2index a1 = .ok i1 ∧ f.mesh.region.dim2index a2 = .ok i2 ∧
      g.valid.get j = f.valid.get (srcIdx f.valid.shape i1 i2 k j) ∧
      (f.nvdim ≤ 1 → g.data.get j = f.data.get (srcIdx f.data.shape i1 i2 k j)) ∧
      (f.nvdim > 1 → ∃ c1 c2, (f.rDim a1).bind f.vdimIndex = some c1 ∧ (f.rDim a2).bind f.vdimIndex = some c2 ∧
          g.data.get j = rotVec (f.data.get (srcIdx f.data.shape i1 i2 k j)) c1 c2 k) := by
  obtain ⟨_, _, i1, i2, _, d1, d2, _, _, _, _, _, e6, e7, _⟩ := rotate90F_inv f a1 a2 k ref b recv g h
  refine ⟨i1, i2, d1, d2, by rw [e6, rot90_get], ?_, ?_⟩
  · rcases e7 with ⟨_, e⟩ | ⟨hgt, _⟩
    · intro _; rw [e, rot90_get]
    · intro hle; omega
  · rcases e7 with ⟨hle, _⟩ | ⟨_, c1, c2, hc1, hc2, e⟩
    · intro hgt; omega
    · intro _; exact ⟨c1, c2, hc1, hc2, by rw [e]; simp only [NDA.map]; rw [rot90_get]⟩

/-! ## object level: regions, meshes and fields -/
open DFV.C14

/-- **Rotation by `k` and by `k mod 4` is the same call** — on regions, meshes and fields, for
every integer `k` (negative included), any axes, reference point and form: not only equal results
but equal acceptance. -/
theorem rotate_mod4 (r : Region) (m : Mesh) (f : Fld) (a1 a2 : String) (k : Int) (ref : Option (List Rat)) (b : Bool) :
    rotate90R r a1 a2 (k % 4) ref b = rotate90R r a1 a2 k ref b ∧
    stepM m (.rotate90 a1 a2 (k % 4) ref b) = stepM m (.rotate90 a1 a2 k ref b) ∧
    rotate90F f a1 a2 (k % 4) ref b = rotate90F f a1 a2 k ref b :=
  ⟨rotate90R_mod4 r a1 a2 k ref b, stepM_rot_mod4 m a1 a2 k ref b, rotate90F_mod4 f a1 a2 k ref b⟩

/-- **Region: a turn by a multiple of four quarter turns is the identity** (corners, names, units,
tolerance; either form, any reference point). -/
theorem region_turn_zero (r : Region) (hr : r.Inv) (a1 a2 : String) (k : Int) (hk : k % 4 = 0) (ref : Option (List Rat))
    (b : Bool) (x ret : Region) (h : rotate90R r a1 a2 k ref b = .ok (x, ret)) : ret = r ∧ x = r :=
  rotate90R_zero r hr a1 a2 k hk ref b x ret h

/-- **Region: composition.**  A turn by `k` followed by a turn by `l` in the same plane about the
same reference point is the turn by `k + l`: the second turn is always accepted and both ways end
in the same region (corners re-ordered, units swapped for odd totals) — any mix of forms. -/
theorem region_compose (r : Region) (hr : r.Inv) (a1 a2 : String) (k l : Int) (R : List Rat) (b b' b'' : Bool)
    (x1 r1 : Region) (h : rotate90R r a1 a2 k (some R) b = .ok (x1, r1)) :
    ∃ r2, rotate90R r1 a1 a2 l (some R) b' = .ok (if b' then r2 else r1, r2) ∧
          rotate90R r a1 a2 (k + l) (some R) b'' = .ok (if b'' then r2 else r, r2) :=
  rotate90R_compose r hr a1 a2 k l R b b' b'' x1 r1 h

/-- **Region: a turn followed by its reverse is the identity.** -/
theorem region_inverse (r : Region) (hr : r.Inv) (a1 a2 : String) (k : Int) (R : List Rat) (b b' : Bool)
    (x1 r1 : Region) (h : rotate90R r a1 a2 k (some R) b = .ok (x1, r1)) :
    ∃ x2, rotate90R r1 a1 a2 (-k) (some R) b' = .ok (x2, r) := by
  obtain ⟨r2, h2, h12⟩ := rotate90R_compose r hr a1 a2 k (-k) R b b' false x1 r1 h
  have hz := turn_back k
  obtain ⟨e, _⟩ := rotate90R_zero r hr a1 a2 (k + -k) hz (some R) false _ r2 h12
  rw [e] at h2
  exact ⟨_, h2⟩

/-- **Region: four quarter turns about the same reference point give back the region.** -/
theorem region_four_turns (r : Region) (hr : r.Inv) (a1 a2 : String) (R : List Rat) (b : Bool) (x1 r1 : Region)
    (h : rotate90R r a1 a2 1 (some R) b = .ok (x1, r1)) :
    ∃ r2 r3, rotate90R r1 a1 a2 1 (some R) b = .ok (if b then r2 else r1, r2) ∧
             rotate90R r2 a1 a2 1 (some R) b = .ok (if b then r3 else r2, r3) ∧
             rotate90R r3 a1 a2 1 (some R) b = .ok (if b then r else r3, r) := by
  obtain ⟨r2, s2, t2⟩ := rotate90R_compose r hr a1 a2 1 1 R b b b x1 r1 h
  obtain ⟨r3, s3, t3⟩ := rotate90R_compose r hr a1 a2 (1 + 1) 1 R b b b _ r2 t2
  obtain ⟨r4, s4, t4⟩ := rotate90R_compose r hr a1 a2 (1 + 1 + 1) 1 R b b false _ r3 t3
  obtain ⟨e, _⟩ := rotate90R_zero r hr a1 a2 (1 + 1 + 1 + 1) (by decide) (some R) false _ r4 t4
  rw [e] at s4
  exact ⟨r2, r3, s2, s3, s4⟩

/-- **Mesh: a turn by a multiple of four quarter turns is the identity** — in place the mesh (region,
counts, bc, subregions) is unchanged; the copying form returns it with `bc` lower-cased by the
constructor. -/
theorem mesh_turn_zero (m : Mesh) (hm : m.Inv) (hs : SubInv m) (a1 a2 : String) (k : Int) (hk : k % 4 = 0)
    (ref : Option (List Rat)) (b : Bool) (recv ret : Mesh) (h : stepM m (.rotate90 a1 a2 k ref b) = .ok (recv, ret)) :
    ret = (if b then m else { m with bc := m.bc.toLower }) ∧ recv = m :=
  stepM_rot_zero m hm hs a1 a2 k hk ref b recv ret h

/-- **Mesh (in-place form): composition.**  A turn by `k` followed by a turn by `l` about the same
reference point is the turn by `k + l` on region, counts and every subregion; the second turn is
always accepted; `bc` has its letters swapped twice resp. once — and whenever `bc` passes the `bc`
setter's check (periodic conditions included: `rotBc_compose`) the two meshes are EQUAL. -/
theorem mesh_compose (m : Mesh) (hm : m.Inv) (hs : SubInv m) (a1 a2 : String) (k l : Int) (R : List Rat)
    (m1 m1' : Mesh) (h : stepM m (.rotate90 a1 a2 k (some R) true) = .ok (m1, m1')) :
    ∃ m2 m12, stepM m1' (.rotate90 a1 a2 l (some R) true) = .ok (m2, m2) ∧
      stepM m (.rotate90 a1 a2 (k + l) (some R) true) = .ok (m12, m12) ∧
      m2.region = m12.region ∧ m2.n = m12.n ∧ m2.subs = m12.subs ∧
      m2.bc = rotBc (rotBc m.bc a1 a2 k) a1 a2 l ∧ m12.bc = rotBc m.bc a1 a2 (k + l) ∧
      (Mesh.bcOk m.region.dims m.bc = true → m2 = m12) :=
  stepM_rot_compose m hm hs a1 a2 k l R m1 m1' h

/-- **Mesh: a turn followed by its reverse gives back region, counts and every subregion** — and
the WHOLE mesh whenever `bc` passes the `bc` setter's check, periodic conditions included (the
letter swap is an involution on strings with distinct letters). -/
theorem mesh_inverse (m : Mesh) (hm : m.Inv) (hs : SubInv m) (a1 a2 : String) (k : Int) (R : List Rat)
    (m1 m1' : Mesh) (h : stepM m (.rotate90 a1 a2 k (some R) true) = .ok (m1, m1')) :
    ∃ m2, stepM m1' (.rotate90 a1 a2 (-k) (some R) true) = .ok (m2, m2) ∧
      m2.region = m.region ∧ m2.n = m.n ∧ m2.subs = m.subs ∧ (Mesh.bcOk m.region.dims m.bc = true → m2 = m) := by
  obtain ⟨m2, m12, h2, h12, e1, e2, e3, _⟩ := stepM_rot_compose m hm hs a1 a2 k (-k) R m1 m1' h
  obtain ⟨e, _⟩ := stepM_rot_zero m hm hs a1 a2 (k + -k) (turn_back k) (some R) true _ m12 h12
  simp only [if_true] at e
  rw [e] at e1 e2 e3
  refine ⟨m2, h2, e1, e2, e3, fun hok => ?_⟩
  have h' := stepM_rot_inverse_bc m hm hs hok a1 a2 k R m1 m1' h
  rw [h2] at h'
  exact (Prod.mk.inj (Except.ok.inj h')).1

/-- **Mesh: four quarter turns about the same reference point give back the whole mesh** — region,
counts, `bc` (periodic conditions included), every subregion — each turn being accepted. -/
theorem mesh_four_turns (m : Mesh) (hm : m.Inv) (hs : SubInv m) (hok : Mesh.bcOk m.region.dims m.bc = true)
    (a1 a2 : String) (R : List Rat) (m1 m1' : Mesh) (h : stepM m (.rotate90 a1 a2 1 (some R) true) = .ok (m1, m1')) :
    ∃ m2 m3, stepM m1' (.rotate90 a1 a2 1 (some R) true) = .ok (m2, m2) ∧
      stepM m2 (.rotate90 a1 a2 1 (some R) true) = .ok (m3, m3) ∧
      stepM m3 (.rotate90 a1 a2 1 (some R) true) = .ok (m, m) := by
  obtain ⟨m2, s2, t2⟩ := stepM_rot_compose_bc m hm hs hok a1 a2 1 1 R m1 m1' h
  obtain ⟨m3, s3, t3⟩ := stepM_rot_compose_bc m hm hs hok a1 a2 (1 + 1) 1 R m2 m2 t2
  obtain ⟨m4, s4, t4⟩ := stepM_rot_compose_bc m hm hs hok a1 a2 (1 + 1 + 1) 1 R m3 m3 t3
  obtain ⟨e, _⟩ := stepM_rot_zero m hm hs a1 a2 (1 + 1 + 1 + 1) (by decide) (some R) true _ m4 t4
  simp only [if_true] at e
  rw [e] at s4
  exact ⟨m2, m3, s2, s3, s4⟩

/-- **Subregions move with the cells**: an accepted mesh rotation turns the region and every
subregion by the same corner map `rotCoord · R i1 i2 k` about the same reference point `R` (the
given one, else the centre of the mesh region), swaps the counts for odd `k`, keeps names and
order. -/
theorem subregions_turn_with_mesh (m : Mesh) (hd : ∀ p ∈ m.subs, p.2.dims = m.region.dims) (a1 a2 : String) (k : Int)
    (ref : Option (List Rat)) (b : Bool) (recv ret : Mesh) (h : stepM m (.rotate90 a1 a2 k ref b) = .ok (recv, ret)) :
    ∃ i1 i2, m.region.dim2index a1 = .ok i1 ∧ m.region.dim2index a2 = .ok i2 ∧
      ret.region = target m.region (rotCoord m.region.pmin (ref.getD m.region.center) i1 i2 k)
        (rotCoord m.region.pmax (ref.getD m.region.center) i1 i2 k) (rotUnits m.region.units i1 i2 k) ∧
      ret.n = rotN m.n i1 i2 k ∧
      List.Forall₂ (fun p q => q.1 = p.1 ∧
          q.2.pmin = (target p.2 (rotCoord p.2.pmin (ref.getD m.region.center) i1 i2 k)
            (rotCoord p.2.pmax (ref.getD m.region.center) i1 i2 k) (rotUnits p.2.units i1 i2 k)).pmin ∧
          q.2.pmax = (target p.2 (rotCoord p.2.pmin (ref.getD m.region.center) i1 i2 k)
            (rotCoord p.2.pmax (ref.getD m.region.center) i1 i2 k) (rotUnits p.2.units i1 i2 k)).pmax)
        m.subs ret.subs :=
  stepM_rot_subs m hd a1 a2 k ref b recv ret h

/-- **Region, mesh and field rotate consistently; names stay.**  The mesh of the rotated field is
what `Mesh.rotate90` (copying) returns for the field's mesh, its region is what `Region.rotate90`
returns for the mesh's region; dimension names, component names, the component-to-axis mapping,
the unit and the number of components are unchanged; validity is turned by the same `np.rot90` as
the values. -/
theorem rotate_consistent (f : Fld) (hf : FldInv f) (a1 a2 : String) (k : Int) (ref : Option (List Rat)) (b : Bool)
    (x g : Fld) (h : rotate90F f a1 a2 k ref b = .ok (x, g)) :
    (∃ y, stepM f.mesh (.rotate90 a1 a2 k ref false) = .ok (y, g.mesh)) ∧
    (∃ z, rotate90R f.mesh.region a1 a2 k ref false = .ok (z, g.mesh.region)) ∧
    g.mesh.region.dims = f.mesh.region.dims ∧ g.vdims = f.vdims ∧ g.vmap = f.vmap ∧ g.unit = f.unit ∧
    g.nvdim = f.nvdim ∧
    ∃ i1 i2, f.mesh.region.dim2index a1 = .ok i1 ∧ f.mesh.region.dim2index a2 = .ok i2 ∧
      g.mesh.n = rotN f.mesh.n i1 i2 k ∧ g.valid = rot90 f.valid i1 i2 k ∧ g.data.shape = (rot90 f.data i1 i2 k).shape ∧
      ∀ j, g.valid.get j = f.valid.get (srcIdx f.mesh.n i1 i2 k j) := by
  obtain ⟨y, i1, i2, hm', t, _⟩ := rotate90F_parts f hf a1 a2 k ref b x g h
  obtain ⟨_, _, hn, z, hz⟩ := stepM_keeps f.mesh hf.1 _ _ _ hm'
  obtain ⟨_, _, _, _, _, _, _, hr, _⟩ := stepM_rot_returns f.mesh hf.1 a1 a2 k ref false y g.mesh hm'
  refine ⟨⟨y, hm'⟩, ⟨z, hz⟩, by rw [hr]; rfl, t.vdims, t.vmap, t.unit, t.nvdim, i1, i2, t.ax1, t.ax2, ?_, t.valid, by rw [t.data]; rfl,
    fun j => by rw [t.valid, rot90_get, hf.valid_shape]⟩
  rw [hn]; simp only [opN, t.ax1, t.ax2]

/-- **`np.rot90` composes**: turning an array by `k` and then by `l` in the same plane gives the
array turned by `k + l` — same shape, same entry at every index of that shape (hence `k` then
`−k`, and four quarter turns, give back every entry). -/
theorem rot90_compose {α} (a : NDA α) (p q : Nat) (k l : Int) (hpq : p ≠ q) (hp : p < a.shape.length) (hq : q < a.shape.length) :
    (rot90 (rot90 a p q k) p q l).shape = (rot90 a p q (k + l)).shape ∧
    ∀ j, inRange (rot90 a p q (k + l)).shape j = true →
      (rot90 (rot90 a p q k) p q l).get j = (rot90 a p q (k + l)).get j :=
  rot90_compose' a p q k l hpq hp hq

/-- **Field: a turn by a multiple of four quarter turns is the identity** on values, validity,
labels and mesh (the mesh comes back through the constructor: `bc` lower-cased). -/
theorem field_turn_zero (f : Fld) (hf : FldInv f) (hs : SubInv f.mesh) (a1 a2 : String) (k : Int) (hk : k % 4 = 0)
    (ref : Option (List Rat)) (b : Bool) (x g : Fld) (h : rotate90F f a1 a2 k ref b = .ok (x, g)) :
    g = { f with mesh := { f.mesh with bc := f.mesh.bc.toLower } } := by
  obtain ⟨y, m', i1, i2, hm', _, _, _, rfl, _⟩ := (rotate90F_ok_iff f a1 a2 k ref b x g).mp h
  obtain ⟨em, _⟩ := stepM_rot_zero f.mesh hf.mesh_inv hs a1 a2 k hk ref false y m' hm'
  simp only [Bool.false_eq_true, if_false] at em
  unfold turnedFld
  rw [em, rot90_zero _ _ _ _ hk, rot90_zero _ _ _ _ hk, funext fun v => turnVal_zero f a1 a2 k hk v]
  rfl

/-- **Field arrays: composition.**  If a field is turned by `k`, the result by `l`, and the
original by `k + l` (any reference points, any forms), the two final fields have validity and
value arrays of the same shape with the same entries at every index: validity and scalar values
literally, vector values with the two mapped components turned by `Q^l Q^k` resp. `Q^(k+l)` of
the same source value (equal by `rotVec_compose`); labels, mapping and unit agree. -/
theorem field_compose_arrays (f : Fld) (hf : FldInv f) (a1 a2 : String) (k l : Int)
    (ref ref' ref'' : Option (List Rat)) (b b' b'' : Bool) (x1 g1 x2 g2 x12 g12 : Fld)
    (h1 : rotate90F f a1 a2 k ref b = .ok (x1, g1)) (h2 : rotate90F g1 a1 a2 l ref' b' = .ok (x2, g2))
    (h12 : rotate90F f a1 a2 (k + l) ref'' b'' = .ok (x12, g12)) :
    g2.valid.shape = g12.valid.shape ∧ g2.data.shape = g12.data.shape ∧
    (∀ j, inRange g12.valid.shape j = true → g2.valid.get j = g12.valid.get j) ∧
    (f.nvdim ≤ 1 → ∀ j, inRange g12.data.shape j = true → g2.data.get j = g12.data.get j) ∧
    (f.nvdim > 1 → ∃ i1 i2 c1 c2, f.mesh.region.dim2index a1 = .ok i1 ∧ f.mesh.region.dim2index a2 = .ok i2 ∧
        (f.rDim a1).bind f.vdimIndex = some c1 ∧ (f.rDim a2).bind f.vdimIndex = some c2 ∧
        ∀ j, inRange g12.data.shape j = true →
        g2.data.get j = rotVec (rotVec ((rot90 f.data i1 i2 (k + l)).get j) c1 c2 k) c1 c2 l ∧
        g12.data.get j = rotVec ((rot90 f.data i1 i2 (k + l)).get j) c1 c2 (k + l)) ∧
    g2.nvdim = g12.nvdim ∧ g2.vdims = g12.vdims ∧ g2.vmap = g12.vmap ∧ g2.unit = g12.unit := by
  obtain ⟨i1, i2, d1, d2, n2, v2, m2, u2, sv, sd, gv, gd⟩ := rotate90F_twice f hf a1 a2 k l ref ref' b b' x1 g1 x2 g2 h1 h2
  obtain ⟨_, t1, t2, _, t, _⟩ := rotate90F_parts f hf a1 a2 (k + l) ref'' b'' x12 g12 h12
  obtain ⟨rfl, rfl⟩ := t.unique d1 d2
  rw [t.valid, t.data]
  refine ⟨sv, sd, gv, ?_, ?_, n2.trans t.nvdim.symm, v2.trans t.vdims.symm, m2.trans t.vmap.symm, u2.trans t.unit.symm⟩
  · intro hle j hj
    rw [gd j hj, turnVal_scalar f a1 a2 l _ hle, turnVal_scalar f a1 a2 k _ hle]
    exact (turnVal_scalar f a1 a2 (k + l) _ hle).symm
  · intro hgt
    obtain ⟨c1, c2, hc1, hc2⟩ := rotate90F_mapped f a1 a2 k ref b x1 g1 h1 hgt
    refine ⟨i1, i2, c1, c2, d1, d2, hc1, hc2, fun j hj => ⟨?_, turnVal_vector f a1 a2 (k + l) _ c1 c2 hgt hc1 hc2⟩⟩
    rw [gd j hj, turnVal_vector f a1 a2 l _ c1 c2 hgt hc1 hc2, turnVal_vector f a1 a2 k _ c1 c2 hgt hc1 hc2]

/-- **Mesh (copying form): composition WITHOUT assuming acceptance.**  For a mesh satisfying the mesh
invariant, `SubInv` and `BcWf`: once the turn by `k` is accepted, the turn of its result by `l` and
the turn of the original by `k + l` about the same reference point are accepted too — each through
the constructor, the `bc` setter and the subregion setter (the rotated subregions fit exactly:
`DFV.C14.stepM_subInv`, `set_accepts_exact`) — and return the same mesh, which again satisfies the
three invariants. -/
theorem mesh_compose_copy_accepts (m : Mesh) (hm : m.Inv) (hs : SubInv m) (hb : BcWf m) (a1 a2 : String) (k l : Int)
    (R : List Rat) (y1 m1 : Mesh) (h1 : stepM m (.rotate90 a1 a2 k (some R) false) = .ok (y1, m1)) :
    m1.Inv ∧ SubInv m1 ∧ BcWf m1 ∧
    ∃ m2, stepM m1 (.rotate90 a1 a2 l (some R) false) = .ok (m1, m2) ∧
      stepM m (.rotate90 a1 a2 (k + l) (some R) false) = .ok (m, m2) ∧ m2.Inv ∧ SubInv m2 ∧ BcWf m2 := by
  have hM : MInv m := ⟨hm, hs, hb.1⟩
  obtain ⟨hw, rfl, _⟩ := (specM.ok_iff m hM _ y1 m1).mp h1
  have hM1 := specM.keeps m hM _ hw
  have hw1 := applyM_rot_wf m hm a1 a2 k l R false false hw
  have h2 := specM.accepts hM1 hw1
  rw [applyM_rot_compose_bc m hm hs hb.1.2 a1 a2 k l R false false false hw] at h2
  have hM2 := specM.keeps m hM (.rotate90 a1 a2 (k + l) (some R) false) hw
  exact ⟨hM1.1, hM1.2.1, applyM_bcWf m hm hb _ hw, _, h2, specM.accepts hM (op := .rotate90 a1 a2 (k + l) (some R) false) hw,
    hM2.1, hM2.2.1, applyM_bcWf m hm hb _ hw⟩

/-- **Mesh (copying form): composition.**  If the turn by `k`, the turn of its result by `l` and the
turn by `k + l` about the same reference point are all accepted by the constructor, the two final
meshes have the same region, counts and subregions — and are equal for every well-formed `bc`
(`BcWf`: periodic conditions included). -/
theorem mesh_compose_copy (m : Mesh) (hm : m.Inv) (hs : SubInv m) (a1 a2 : String) (k l : Int) (R : List Rat)
    (y1 m1 y2 m2 y12 m12 : Mesh)
    (h1 : stepM m (.rotate90 a1 a2 k (some R) false) = .ok (y1, m1))
    (h2 : stepM m1 (.rotate90 a1 a2 l (some R) false) = .ok (y2, m2))
    (h12 : stepM m (.rotate90 a1 a2 (k + l) (some R) false) = .ok (y12, m12)) :
    m2.region = m12.region ∧ m2.n = m12.n ∧ m2.subs = m12.subs ∧ (BcWf m → m2 = m12) := by
  -- both ends are, up to `bc`, what the in-place turn by `k + l` ends in
  obtain ⟨T, hT, q1, q2, q3⟩ := stepM_rot_twice_copy m hm hs a1 a2 k l R y1 m1 y2 m2 h1 h2
  obtain ⟨_, T', hT', e⟩ := stepM_copy_to_inplace m hm hs (.rotate90 a1 a2 (k + l) (some R) false) y12 m12 h12
  simp only [Op.withInplace] at hT'
  obtain rfl : T = T' := (Prod.mk.inj (Except.ok.inj (hT.symm.trans hT'))).1
  refine ⟨by rw [q1, e], by rw [q2, e], by rw [q3, e], ?_⟩
  intro hb
  obtain ⟨_, _, _, m2', c2, c12, _⟩ := mesh_compose_copy_accepts m hm hs hb a1 a2 k l R y1 m1 h1
  exact ((Prod.mk.inj (Except.ok.inj (h2.symm.trans c2))).2).trans (Prod.mk.inj (Except.ok.inj (h12.symm.trans c12))).2.symm

/-- **Field: a turn followed by its reverse gives back the field** (hence also four quarter turns,
by `rotate_mod4` and `field_compose_arrays`): mesh region, counts and subregions (the whole mesh
for every well-formed `bc`, periodic included), labels, mapping, unit; validity and values at every
cell — scalar values literally, vector values as `Q^(−k) Q^k v`, which is `v` whenever the two
mapped components are distinct positions inside the value (always, under the value invariant:
`field_inverse_values`). -/
theorem field_inverse (f : Fld) (hf : FldInv f) (hs : SubInv f.mesh) (a1 a2 : String) (k : Int) (R : List Rat)
    (b b' : Bool) (x1 g1 x2 g2 : Fld)
    (h1 : rotate90F f a1 a2 k (some R) b = .ok (x1, g1)) (h2 : rotate90F g1 a1 a2 (-k) (some R) b' = .ok (x2, g2)) :
    g2.mesh.region = f.mesh.region ∧ g2.mesh.n = f.mesh.n ∧ g2.mesh.subs = f.mesh.subs ∧
    (BcWf f.mesh → g2.mesh = f.mesh) ∧
    g2.nvdim = f.nvdim ∧ g2.vdims = f.vdims ∧ g2.vmap = f.vmap ∧ g2.unit = f.unit ∧
    g2.valid.shape = f.valid.shape ∧ g2.data.shape = f.data.shape ∧
    ∀ j, inRange f.mesh.n j = true →
      g2.valid.get j = f.valid.get j ∧
      (f.nvdim ≤ 1 → g2.data.get j = f.data.get j) ∧
      (f.nvdim > 1 → ∃ c1 c2, (f.rDim a1).bind f.vdimIndex = some c1 ∧ (f.rDim a2).bind f.vdimIndex = some c2 ∧
        g2.data.get j = rotVec (rotVec (f.data.get j) c1 c2 k) c1 c2 (-k) ∧
        (c1 ≠ c2 → c1 < (f.data.get j).length → c2 < (f.data.get j).length → g2.data.get j = f.data.get j)) := by
  obtain ⟨y1, _, _, hm1, t, _⟩ := rotate90F_parts f hf a1 a2 k (some R) b x1 g1 h1
  obtain ⟨y2, _, _, hm2, _⟩ := rotate90F_parts g1 t.inv a1 a2 (-k) (some R) b' x2 g2 h2
  obtain ⟨r1, r2, r3⟩ := stepM_rot_inverse_copy f.mesh hf.1 hs a1 a2 k R y1 g1.mesh y2 g2.mesh hm1 hm2
  obtain ⟨i1, i2, _, _, n2, v2, m2, u2, sv, sd, gv, gd⟩ :=
    rotate90F_twice f hf a1 a2 k (-k) (some R) (some R) b b' x1 g1 x2 g2 h1 h2
  have hz := turn_back k
  rw [rot90_zero _ _ _ _ hz] at sv sd gv gd
  refine ⟨r1, r2, r3, ?_, n2, v2, m2, u2, sv, sd, fun j hj => ⟨gv j (by rw [hf.valid_shape]; exact hj), ?_, ?_⟩⟩
  · intro hb
    obtain ⟨_, _, _, m2', c2, c12, _⟩ := mesh_compose_copy_accepts f.mesh hf.1 hs hb a1 a2 k (-k) R y1 g1.mesh hm1
    have hm2 := (Prod.mk.inj (Except.ok.inj (c2.symm.trans hm2))).2
    obtain ⟨ez, _⟩ := mesh_turn_zero f.mesh hf.1 hs a1 a2 (k + -k) hz (some R) false _ m2' c12
    simp only [Bool.false_eq_true, if_false] at ez
    rw [← hm2, ez, hb.1.1]
  · intro hle
    rw [gd j (by rw [hf.data_shape]; exact hj), turnVal_scalar f a1 a2 (-k) _ hle, turnVal_scalar f a1 a2 k _ hle]
  · intro hgt
    obtain ⟨c1, c2, hc1, hc2⟩ := rotate90F_mapped f a1 a2 k (some R) b x1 g1 h1 hgt
    have hval : g2.data.get j = rotVec (rotVec (f.data.get j) c1 c2 k) c1 c2 (-k) := by
      rw [gd j (by rw [hf.data_shape]; exact hj), turnVal_vector f a1 a2 (-k) _ c1 c2 hgt hc1 hc2,
        turnVal_vector f a1 a2 k _ c1 c2 hgt hc1 hc2]
    refine ⟨c1, c2, hc1, hc2, hval, fun hne l1 l2 => ?_⟩
    rw [hval, rotVec_compose' _ _ _ _ _ hne l1 l2, rotVec_zero _ _ _ _ hz]

/-- **Field: a turn followed by its reverse gives back every value and the mesh** under the value
invariant `FldVInv` (every cell value has `nvdim` components, `nvdim` labels, mapping keys unique —
what `Field.__init__` guarantees): the two mapped components are then distinct in-range positions
(`mapped_components_distinct`), so vector values come back exactly, like scalar ones. -/
theorem field_inverse_values (f : Fld) (hf : FldInv f) (hv : FldVInv f) (hs : SubInv f.mesh) (a1 a2 : String) (k : Int)
    (R : List Rat) (b b' : Bool) (x1 g1 x2 g2 : Fld)
    (h1 : rotate90F f a1 a2 k (some R) b = .ok (x1, g1)) (h2 : rotate90F g1 a1 a2 (-k) (some R) b' = .ok (x2, g2)) :
    g2.valid.shape = f.valid.shape ∧ g2.data.shape = f.data.shape ∧
    ∀ j, inRange f.mesh.n j = true → g2.valid.get j = f.valid.get j ∧ g2.data.get j = f.data.get j := by
  obtain ⟨_, _, _, _, t, _⟩ := rotate90F_parts f hf a1 a2 k (some R) b x1 g1 h1
  obtain ⟨i1, i2, _, _, _, _, _, _, sv, sd, gv, gd⟩ :=
    rotate90F_twice f hf a1 a2 k (-k) (some R) (some R) b b' x1 g1 x2 g2 h1 h2
  have hz := turn_back k
  rw [rot90_zero _ _ _ _ hz] at sv sd gv gd
  refine ⟨sv, sd, fun j hj => ⟨gv j (by rw [hf.valid_shape]; exact hj), ?_⟩⟩
  rw [gd j (by rw [hf.data_shape]; exact hj), turnVal_compose f hv a1 a2 t.names_ne k (-k) _ (hv.1 j hj), turnVal_zero f a1 a2 _ hz]

/-- the two components a quarter turn mixes are distinct in-range positions of every cell value:
labels of two different axes are different keys of the mapping, hence different positions of the
label list, which is as long as the values -/
theorem mapped_components_distinct (f : Fld) (hv : FldVInv f) (a1 a2 : String) (hne : a1 ≠ a2) (c1 c2 : Nat)
    (h1 : (f.rDim a1).bind f.vdimIndex = some c1) (h2 : (f.rDim a2).bind f.vdimIndex = some c2) :
    c1 ≠ c2 ∧ c1 < f.nvdim ∧ c2 < f.nvdim :=
  mapped_distinct f hv a1 a2 hne c1 c2 h1 h2

/-- the value invariant survives every accepted field step (translate, scale, quarter turn; either
form): rotated values keep their length, the source cell of every cell lies in the source shape -/
theorem value_invariant_kept (f : Fld) (hf : FldInv f) (hv : FldVInv f) (op : Op) (recv ret : Fld)
    (h : stepF f op = .ok (recv, ret)) : FldVInv recv ∧ FldVInv ret := by
  -- a step that only replaces the mesh, keeping the counts
  have key : ∀ (i : Bool) (m' : Mesh), m'.n = f.mesh.n →
      FldVInv (if i then { f with mesh := m' } else f) ∧ FldVInv { f with mesh := m' } := by
    intro i m' hn
    have : FldVInv { f with mesh := m' } := ⟨fun j hj => hv.1 j (by rw [← hn]; exact hj), hv.2.1, hv.2.2⟩
    cases i
    · exact ⟨hv, this⟩
    · exact ⟨this, this⟩
  cases op with
  | translate v i =>
    obtain ⟨_, m', hm', _, rfl, rfl⟩ := (stepF_ok_iff f _ recv ret).mp h
    exact key i m' (stepM_keeps f.mesh hf.1 _ _ _ hm').2.2.1
  | scale s ref i =>
    obtain ⟨_, m', hm', _, rfl, rfl⟩ := (stepF_ok_iff f _ recv ret).mp h
    exact key i m' (stepM_keeps f.mesh hf.1 _ _ _ hm').2.2.1
  | rotate90 a1 a2 k ref i =>
    simp only [stepF] at h
    obtain ⟨_, i1, i2, _, t, ex⟩ := rotate90F_parts f hf a1 a2 k ref i recv ret h
    have hret : FldVInv ret := by
      refine ⟨fun j hj => ?_, by rw [t.vdims, t.nvdim]; exact hv.2.1, by rw [t.vmap]; exact hv.2.2⟩
      rw [t.data_get, t.nvdim, turnVal_length]
      exact hv.1 _ (t.src_inRange hf j hj)
    rw [ex]
    cases i
    · exact ⟨hv, hret⟩
    · exact ⟨hret, hret⟩

/-- `np.rot90` reads inside the source: for every index `j` of the turned shape the source index
`srcIdx j` is an index of the source shape (all `k`, all axis pairs) -/
theorem rot90_source_in_range (sh j : List Nat) (p q : Nat) (k : Int) (hpq : p ≠ q) (hp : p < sh.length) (hq : q < sh.length)
    (hj : inRange (if isOdd k then swapAt sh p q else sh) j = true) : inRange sh (srcIdx sh p q k j) = true :=
  srcIdx_inRange sh j p q k hpq hp hq hj

/-- **Field: composition of turns, acceptance included.**  For a field satisfying the shape invariant
whose mesh satisfies `SubInv` and `BcWf`: once the turn by `k` about `R` is accepted (either form),
the turn of its result by `l` and the turn of the original by `k + l` about `R` are accepted too
(any forms) — no constructor call is assumed to succeed — and the two final fields have the same
mesh, labels, mapping, unit, and arrays of the same shape with the same validity and values at
every cell (scalar values literally; vector values as `Q^l Q^k v` resp. `Q^(k+l) v` of the same
source value `v`, equal by `field_compose_values`). -/
theorem field_compose (f : Fld) (hf : FldInv f) (hs : SubInv f.mesh) (hb : BcWf f.mesh) (a1 a2 : String) (k l : Int)
    (R : List Rat) (b b' b'' : Bool) (x1 g1 : Fld) (h1 : rotate90F f a1 a2 k (some R) b = .ok (x1, g1)) :
    ∃ g2 g12, rotate90F g1 a1 a2 l (some R) b' = .ok (if b' then g2 else g1, g2) ∧
      rotate90F f a1 a2 (k + l) (some R) b'' = .ok (if b'' then g12 else f, g12) ∧
      g2.mesh = g12.mesh ∧ g2.nvdim = g12.nvdim ∧ g2.vdims = g12.vdims ∧ g2.vmap = g12.vmap ∧ g2.unit = g12.unit ∧
      g2.valid.shape = g12.valid.shape ∧ g2.data.shape = g12.data.shape ∧
      (∀ j, inRange g12.valid.shape j = true → g2.valid.get j = g12.valid.get j) ∧
      (f.nvdim ≤ 1 → ∀ j, inRange g12.data.shape j = true → g2.data.get j = g12.data.get j) ∧
      (f.nvdim > 1 → ∃ i1 i2 c1 c2, f.mesh.region.dim2index a1 = .ok i1 ∧ f.mesh.region.dim2index a2 = .ok i2 ∧
        (f.rDim a1).bind f.vdimIndex = some c1 ∧ (f.rDim a2).bind f.vdimIndex = some c2 ∧
        ∀ j, inRange g12.data.shape j = true →
          g2.data.get j = rotVec (rotVec ((rot90 f.data i1 i2 (k + l)).get j) c1 c2 k) c1 c2 l ∧
          g12.data.get j = rotVec ((rot90 f.data i1 i2 (k + l)).get j) c1 c2 (k + l)) := by
  obtain ⟨y1, i1, i2, hm1, t, _⟩ := rotate90F_parts f hf a1 a2 k (some R) b x1 g1 h1
  obtain ⟨_, _, _, m2, c2, c12, _⟩ := mesh_compose_copy_accepts f.mesh hf.1 hs hb a1 a2 k l R y1 g1.mesh hm1
  have hmapf := rotate90F_mapped f a1 a2 k (some R) b x1 g1 h1
  have hmapg : g1.nvdim > 1 → ∃ c1 c2, (g1.rDim a1).bind g1.vdimIndex = some c1 ∧ (g1.rDim a2).bind g1.vdimIndex = some c2 := by
    rw [t.nvdim, mapped_congr f g1 t.vdims t.vmap, mapped_congr f g1 t.vdims t.vmap]; exact hmapf
  have hg2 := (rotate90F_ok_iff g1 a1 a2 l (some R) b' _ _).mpr ⟨g1.mesh, m2, i1, i2, c2, t.ax1', t.ax2', hmapg, rfl, rfl⟩
  have hg12 := (rotate90F_ok_iff f a1 a2 (k + l) (some R) b'' _ _).mpr ⟨f.mesh, m2, i1, i2, c12, t.ax1, t.ax2, hmapf, rfl, rfl⟩
  obtain ⟨t1, t2, t3, t4, t5, t6, t7, t8, t9⟩ := field_compose_arrays f hf a1 a2 k l (some R) (some R) (some R) b b' b''
    x1 g1 _ _ _ _ h1 hg2 hg12
  exact ⟨_, _, hg2, hg12, rfl, t6, t7, t8, t9, t1, t2, t3, t4, t5⟩

/-- **Field values under composed turns**: with the value invariant, the field turned by `k` then
`l` and the field turned by `k + l` (any reference points, any forms) carry the same value at every
cell — vector values included. -/
theorem field_compose_values (f : Fld) (hf : FldInv f) (hv : FldVInv f) (a1 a2 : String) (k l : Int)
    (ref ref' ref'' : Option (List Rat)) (b b' b'' : Bool) (x1 g1 x2 g2 x12 g12 : Fld)
    (h1 : rotate90F f a1 a2 k ref b = .ok (x1, g1)) (h2 : rotate90F g1 a1 a2 l ref' b' = .ok (x2, g2))
    (h12 : rotate90F f a1 a2 (k + l) ref'' b'' = .ok (x12, g12)) :
    g2.data.shape = g12.data.shape ∧ ∀ j, inRange g12.data.shape j = true → g2.data.get j = g12.data.get j := by
  obtain ⟨i1, i2, d1, d2, _, _, _, _, _, sd, _, gd⟩ := rotate90F_twice f hf a1 a2 k l ref ref' b b' x1 g1 x2 g2 h1 h2
  obtain ⟨_, t1, t2, _, t, _⟩ := rotate90F_parts f hf a1 a2 (k + l) ref'' b'' x12 g12 h12
  obtain ⟨rfl, rfl⟩ := t.unique d1 d2
  have es : g12.data.shape = (rot90 f.data i1 i2 (k + l)).shape := by rw [t.data]; rfl
  refine ⟨sd.trans es.symm, fun j hj => ?_⟩
  rw [gd j (es ▸ hj), t.data_get, rot90_get]
  exact turnVal_compose f hv a1 a2 t.names_ne k l _ (hv.1 _ (t.src_inRange hf j (t.inv.data_shape ▸ hj)))

/-! ## the `bc` letter swap -/

/-- **`rotBc` keeps the `bc` check**: if `bc` passes the `bc` setter's check (one of the words, or
distinct single letters that are dimension names) and the two axis names are dimension names, the
turned `bc` passes it too — for every `k`, whatever the lengths of the names. -/
theorem rotBc_keeps_bcOk (dims : List String) (bc a1 a2 : String) (k : Int) (hok : Mesh.bcOk dims bc = true)
    (m1 : a1 ∈ dims) (m2 : a2 ∈ dims) : Mesh.bcOk dims (rotBc bc a1 a2 k) = true :=
  rotBc_bcOk dims bc a1 a2 k hok m1 m2

/-- **`rotBc` and `str.lower` commute on lower-case input**: a lower-case `bc` stays lower-case when
the axis names — as far as they are single characters — are lower-case; so the `bc` setter
(in-place form) and the constructor (copying form) store exactly the swapped string. -/
theorem rotBc_lowercase (bc a1 a2 : String) (k : Int) (hl : bc.toLower = bc)
    (l1 : a1.length = 1 → a1.toLower = a1) (l2 : a2.length = 1 → a2.toLower = a2) :
    (rotBc bc a1 a2 k).toLower = rotBc bc a1 a2 k :=
  rotBc_lower bc a1 a2 k hl l1 l2

/-- **The letter swap composes like the turns**: `rotBc` by `k` then by `l` is `rotBc` by `k + l`
(for `bc` one of the words or with distinct letters — in particular whenever it passes the check);
hence it is the identity for even `k` and an involution for odd `k`. -/
theorem rotBc_group (bc a1 a2 : String) (k l : Int) (hd : PlainBc bc ∨ Distinct bc.toList) :
    rotBc (rotBc bc a1 a2 k) a1 a2 l = rotBc bc a1 a2 (k + l) ∧
    (isOdd k = false → rotBc bc a1 a2 k = bc) ∧
    (isOdd k = true → rotBc (rotBc bc a1 a2 k) a1 a2 k = bc) := by
  refine ⟨rotBc_compose bc a1 a2 k l hd, rotBc_even bc a1 a2 k, ?_⟩
  intro hk
  rw [rotBc_compose bc a1 a2 k k hd]
  exact rotBc_even _ _ _ _ (by rw [isOdd_add, hk]; rfl)

/-- what the check gives: one of the words, or distinct letters -/
theorem bcOk_distinct (dims : List String) (bc : String) (h : Mesh.bcOk dims bc = true) :
    PlainBc bc ∨ Distinct bc.toList := distinct_of_bcOk dims bc h

/-- **Periodic directions turn with the axes.**  For an odd quarter turn in the plane of two axes with
single-character lower-case names (the only names a `bc` string can mention: the `bc` setter
lower-cases it; `rotate90` leaves `bc` alone for any other name: repo commit be43fa9b), on a mesh whose `bc`
passes the check: the turned mesh (`bc` = `rotBc bc a1 a2 k`, either form) is periodic along `a2` iff the
original was along `a1`, along `a1` iff the original was along `a2`, and along every other axis iff the
original was. -/
theorem periodic_directions_turn (m m' : Mesh) (hok : Mesh.bcOk m.region.dims m.bc = true) (a1 a2 : String) (k : Int)
    (hk : isOdd k = true) (s1 : a1.length = 1) (s2 : a2.length = 1) (lo1 : a1.toLower = a1) (lo2 : a2.toLower = a2)
    (hbc : m'.bc = rotBc m.bc a1 a2 k) :
    (PeriodicAlong m' a2 ↔ PeriodicAlong m a1) ∧ (PeriodicAlong m' a1 ↔ PeriodicAlong m a2) ∧
    ∀ d, d ≠ a1 → d ≠ a2 → (PeriodicAlong m' d ↔ PeriodicAlong m d) := by
  obtain ⟨x, hx⟩ := single_of_length a1 s1
  obtain ⟨y, hy⟩ := single_of_length a2 s2
  have hpl : PlainBc m'.bc ↔ PlainBc m.bc := by rw [hbc]; exact rotBc_plain_iff _ _ _ _ (distinct_of_bcOk _ _ hok)
  by_cases hp : PlainBc m.bc
  · have hp' : PlainBc m'.bc := hpl.mpr hp
    refine ⟨⟨fun h => absurd hp' h.1, fun h => absurd hp h.1⟩, ⟨fun h => absurd hp' h.1, fun h => absurd hp h.1⟩, ?_⟩
    intro d _ _; exact ⟨fun h => absurd hp' h.1, fun h => absurd hp h.1⟩
  · have hl : m'.bc.toList = m.bc.toList.map (bcSwap a1 a2) := by
      rw [hbc, rotBc_odd _ _ _ _ hk hp s1 s2 lo1 lo2, String.toList_ofList]
    -- a letter is in the turned `bc` iff its swap was in `bc`
    have key : ∀ d c, d.toList = [c] → (PeriodicAlong m' d ↔ ¬ PlainBc m.bc ∧ bcSwap a1 a2 c ∈ m.bc.toList) := by
      intro d c hd
      rw [periodicAlong_single m' d c hd, hpl, hl, mem_map_bcSwap a1 a2 x y hx hy]
    have sx := bcSwap_left a1 a2 x y hx hy
    have sy := bcSwap_right a1 a2 x y hx hy
    refine ⟨?_, ?_, ?_⟩
    · rw [key a2 y hy, sy, periodicAlong_single m a1 x hx]
    · rw [key a1 x hx, sx, periodicAlong_single m a2 y hy]
    · intro d n1 n2
      by_cases hd : ∃ c, d.toList = [c]
      · obtain ⟨c, hc⟩ := hd
        have c1 : c ≠ x := fun e => n1 (by rw [← String.toList_inj, hc, hx, e])
        have c2 : c ≠ y := fun e => n2 (by rw [← String.toList_inj, hc, hy, e])
        have fix := bcSwap_other a1 a2 x y hx hy c c1 c2
        rw [key d c hc, fix, periodicAlong_single m d c hc]
      · constructor <;> rintro ⟨_, c, hc, _⟩ <;> exact absurd ⟨c, hc⟩ hd

/-- **Where this is NOT true — the exact condition (finding D57).**  `rotBc` swaps letters only
if BOTH axis names are single characters; if one of them has a multi-character name `bc` is
returned unchanged for every `k` (`rotBc_multichar`), and then a mesh periodic along the
single-character axis `a1` is still periodic along `a1` after the turn, never along `a2` (a
multi-character name cannot occur in `bc`): "periodic along `a1` after ⟺ periodic along `a2` before"
— which `periodic_directions_turn` proves for single-character names — fails. -/
theorem periodic_direction_lost_multichar (m m' : Mesh) (a1 a2 : String) (k : Int) (h2 : a2.length ≠ 1)
    (hbc : m'.bc = rotBc m.bc a1 a2 k) (hper : PeriodicAlong m a1) :
    m'.bc = m.bc ∧ PeriodicAlong m' a1 ∧ ¬ PeriodicAlong m a2 ∧ ¬ (PeriodicAlong m' a1 ↔ PeriodicAlong m a2) := by
  have e : m'.bc = m.bc := by rw [hbc]; exact rotBc_multichar _ _ _ _ (Or.inr h2)
  have hp' : PeriodicAlong m' a1 := by
    unfold PeriodicAlong at hper ⊢; rw [e]; exact hper
  have hn := not_periodic_multichar m a2 h2
  exact ⟨e, hp', hn, fun h => hn (h.mp hp')⟩

/-- negative witness (D57) on the model: the mesh of the finding — dims `x`, `yy`, n = (4, 3),
periodic along `x` — is well-formed, the quarter turn `x → yy` is accepted in both forms, the counts
are swapped (axis `x` now has the 3 cells that were `yy`'s) and `bc` is still `x`. -/
theorem d57_witness :
    exD57.Inv ∧ SubInv exD57 ∧ BcWf exD57 ∧ PeriodicAlong exD57 "x" ∧
    ∃ m', stepM exD57 (.rotate90 "x" "yy" 1 none true) = .ok (m', m') ∧
      stepM exD57 (.rotate90 "x" "yy" 1 none false) = .ok (exD57, m') ∧
      m'.n = [3, 4] ∧ m'.bc = "x" ∧ PeriodicAlong m' "x" ∧ ¬ PeriodicAlong exD57 "yy" := by
  have hper : PeriodicAlong exD57 "x" := ⟨by decide +kernel, 'x', by decide +kernel, by decide +kernel⟩
  have hi : exD57.Inv := mesh_inv_of_invB' exD57 (by decide +kernel)
  have hs : SubInv exD57 := fun p hp => by cases hp
  have hb : BcWf exD57 := bcWf_of_bcWfB exD57 (by decide +kernel)
  refine ⟨hi, hs, hb, hper, ?_⟩
  have hw : ¬ Malformed exD57.region (.rotate90 "x" "yy" 1 none true) := by
    have hx : exD57.region.dim2index "x" = .ok 0 := by decide +kernel
    have hy : exD57.region.dim2index "yy" = .ok 1 := by decide +kernel
    simp only [Malformed, not_or, not_exists]
    refine ⟨by decide, by decide +kernel, ?_, ?_⟩
    · intro e he; rw [hx] at he; cases he
    · intro e he; rw [hy] at he; cases he
  have h4 := stepM_assign exD57 hi (subsProper_of_subInv _ hi hs) (.rotate90 "x" "yy" 1 none true) hw
  -- the copying form ends in the mesh the in-place form assigns
  rcases stepM_forms_bc exD57 hi hs hb (.rotate90 "x" "yy" 1 none true) with ⟨T, _, _, _, _, _, h4', h5⟩ | ⟨⟨e, he⟩, _⟩
  · obtain rfl : T = applyM exD57 (.rotate90 "x" "yy" 1 none true) := (Prod.mk.inj (Except.ok.inj (h4'.symm.trans h4))).1
    obtain ⟨e, p1, p2, _⟩ := periodic_direction_lost_multichar exD57 (applyM exD57 (.rotate90 "x" "yy" 1 none true)) "x" "yy" 1
      (by decide) rfl hper
    exact ⟨_, h4, h5, by decide +kernel, by rw [e]; rfl, p1, p2⟩
  · rw [h4] at he; cases he

/-! ## non-vacuity of the object-level theorems -/

/-- non-vacuity of the object-level theorems: on the region of `exP`, the mesh `exP` (two
subregions) and the vector field `exF`, a quarter turn x→y about the point (1, 2, 3) is accepted
in both forms, and so are the follow-up turns the theorems speak about. -/
example : exP.Inv ∧ SubInv exP ∧ FldInv exF ∧ BcWf exP := ⟨exP_inv, exP_subInv, exF_inv, bcWf_of_plain _ (Or.inl rfl)⟩
/-- … and the periodic mesh `exM` (bc = "x") meets the hypotheses of the `BcWf` / `bcOk` theorems; `exF` meets `FldVInv` -/
example : exM.Inv ∧ SubInv exM ∧ BcWf exM ∧ Mesh.bcOk exM.region.dims exM.bc = true :=
  ⟨exM_inv, exM_subInv, bcWf_of_bcWfB exM (by decide +kernel), by decide +kernel⟩
example : FldVInv exF := ⟨fun _ _ => rfl, fun vs h => by cases h; rfl, by decide⟩
example : (match stepM exM (.rotate90 "x" "y" 1 (some [1, 2, 3]) false) with | .ok (_, m) => (m.n, m.bc) | .error _ => ([], "")) = ([6, 4, 1], "y") := by
  decide +kernel
example : (match rotate90R exP.region "x" "y" 1 (some [1, 2, 3]) true with | .ok (_, r) => r.pmin | .error _ => []) = [-3, 1, 0] := by
  decide +kernel
example : (match stepM exP (.rotate90 "x" "y" 1 (some [1, 2, 3]) true) with | .ok (_, m) => m.n | .error _ => []) = [6, 4, 1] := by
  decide +kernel
example : (match rotate90F exF "x" "y" (-3) (some [1, 2, 3]) false with
    | .ok (_, g) => (g.mesh.n, g.data.get [0, 0, 0]) | .error _ => ([], [])) = ([6, 4, 1], [-2, 1, 3]) := by
  decide +kernel
example : (match rotate90F exF "x" "y" (-3) (some [1, 2, 3]) false with
    | .ok (_, g) => (match rotate90F g "x" "y" 3 (some [1, 2, 3]) true with
        | .ok (_, g2) => (g2.mesh.n, g2.data.get [3, 5, 0]) | .error _ => ([], []))
    | .error _ => ([], [])) = ([4, 6, 1], [1, 2, 3]) := by
  decide +kernel

/-! ## four turns of a field, exactness of the component rotation, axis-name lookup,
non-injective mappings -/

/-- **Field: `k` then `−k` is the identity, whole statement** (mesh with periodic `bc`, labels, and every
validity and value entry) under `FInv` and the value invariant — `field_inverse` + `field_inverse_values`
in one, for every integer `k` and any forms. -/
theorem field_inverse_complete (f : Fld) (hf : FInv f) (hv : FldVInv f) (a1 a2 : String) (k : Int) (R : List Rat)
    (b b' : Bool) (x1 g1 x2 g2 : Fld)
    (h1 : rotate90F f a1 a2 k (some R) b = .ok (x1, g1)) (h2 : rotate90F g1 a1 a2 (-k) (some R) b' = .ok (x2, g2)) :
    g2.mesh = f.mesh ∧ g2.nvdim = f.nvdim ∧ g2.vdims = f.vdims ∧ g2.vmap = f.vmap ∧ g2.unit = f.unit ∧
    g2.valid.shape = f.valid.shape ∧ g2.data.shape = f.data.shape ∧
    ∀ j, inRange f.mesh.n j = true → g2.valid.get j = f.valid.get j ∧ g2.data.get j = f.data.get j := by
  obtain ⟨_, _, _, r4, r5, r6, r7, r8, _⟩ := field_inverse f hf.1 hf.2.1 a1 a2 k R b b' x1 g1 x2 g2 h1 h2
  obtain ⟨s1, s2, s3⟩ := field_inverse_values f hf.1 hv hf.2.1 a1 a2 k R b b' x1 g1 x2 g2 h1 h2
  exact ⟨r4 hf.2.2, r5, r6, r7, r8, s1, s2, s3⟩

/-- **Field: four successive quarter turns about the same point are the identity.**  For a field
satisfying `FInv` (shape invariant, `SubInv` and `BcWf` of its mesh — periodic `bc` included) and the
value invariant: once the first turn is accepted (any form), the three following ones are accepted
too (each in any form — no constructor call is assumed to succeed), and the fourth result has the
mesh, component labels, mapping and unit of the original, arrays of the same shapes, and at EVERY
cell the validity and the value of the original (vector values included). -/
theorem field_four_turns (f : Fld) (hf : FInv f) (hv : FldVInv f) (a1 a2 : String) (R : List Rat) (b1 b2 b3 b4 : Bool)
    (x1 g1 : Fld) (h1 : rotate90F f a1 a2 1 (some R) b1 = .ok (x1, g1)) :
    ∃ g2 g3 g4, rotate90F g1 a1 a2 1 (some R) b2 = .ok (if b2 then g2 else g1, g2) ∧
      rotate90F g2 a1 a2 1 (some R) b3 = .ok (if b3 then g3 else g2, g3) ∧
      rotate90F g3 a1 a2 1 (some R) b4 = .ok (if b4 then g4 else g3, g4) ∧
      g4.mesh = f.mesh ∧ g4.nvdim = f.nvdim ∧ g4.vdims = f.vdims ∧ g4.vmap = f.vmap ∧ g4.unit = f.unit ∧
      g4.valid.shape = f.valid.shape ∧ g4.data.shape = f.data.shape ∧
      ∀ j, inRange f.mesh.n j = true → g4.valid.get j = f.valid.get j ∧ g4.data.get j = f.data.get j := by
  have hf1 := (specF.inv hf (op := .rotate90 a1 a2 1 (some R) b1) h1).2
  have hv1 := (value_invariant_kept f hf.1 hv (.rotate90 a1 a2 1 (some R) b1) x1 g1 h1).2
  -- the second and third turns are accepted
  obtain ⟨g2, _, hg2, _⟩ := field_compose f hf.1 hf.2.1 hf.2.2 a1 a2 1 1 R b1 b2 false x1 g1 h1
  have hf2 := (specF.inv hf1 (op := .rotate90 a1 a2 1 (some R) b2) hg2).2
  have hv2 := (value_invariant_kept g1 hf1.1 hv1 (.rotate90 a1 a2 1 (some R) b2) _ g2 hg2).2
  obtain ⟨g3, _, hg3, _⟩ := field_compose g1 hf1.1 hf1.2.1 hf1.2.2 a1 a2 1 1 R b2 b3 false _ g2 hg2
  -- the fourth turn, compared with the half turn `h` of g2
  obtain ⟨g4, h, hg4, hh, a_mesh, a_nv, a_vd, a_vm, a_un, a_vs, a_ds, a_val, _, _⟩ :=
    field_compose g2 hf2.1 hf2.2.1 hf2.2.2 a1 a2 1 1 R b3 b4 false _ g3 hg3
  obtain ⟨_, a_dat⟩ := field_compose_values g2 hf2.1 hv2 a1 a2 1 1 (some R) (some R) (some R) b3 b4 false _ g3 _ g4 _ h hg3 hg4 hh
  -- the half turn of g2 compared with three quarter turns `u` of g1
  obtain ⟨h', u, hh', hu, b_mesh, b_nv, b_vd, b_vm, b_un, b_vs, b_ds, b_val, _, _⟩ :=
    field_compose g1 hf1.1 hf1.2.1 hf1.2.2 a1 a2 1 2 R b2 false false _ g2 hg2
  have e12 : ((1 : Int) + 1) = 2 := by decide
  have e123 : ((1 : Int) + 2) = -1 % 4 := by decide
  rw [e12] at hh
  obtain rfl := (Prod.mk.inj (Except.ok.inj (hh'.symm.trans hh))).2
  obtain ⟨_, b_dat⟩ := field_compose_values g1 hf1.1 hv1 a1 a2 1 2 (some R) (some R) (some R) b2 false false _ g2 _ h' _ u hg2 hh' hu
  -- three quarter turns are the reverse turn: back to f
  rw [e123, rotate90F_mod4] at hu
  obtain ⟨c_mesh, c_nv, c_vd, c_vm, c_un, c_vs, c_ds, c_val⟩ := field_inverse_complete f hf hv a1 a2 1 R b1 false x1 g1 _ u h1 hu
  refine ⟨g2, g3, g4, hg2, hg3, hg4, a_mesh.trans (b_mesh.trans c_mesh), a_nv.trans (b_nv.trans c_nv),
    a_vd.trans (b_vd.trans c_vd), a_vm.trans (b_vm.trans c_vm), a_un.trans (b_un.trans c_un),
    a_vs.trans (b_vs.trans c_vs), a_ds.trans (b_ds.trans c_ds), ?_⟩
  intro j hj
  have hju_v : inRange u.valid.shape j = true := by rw [c_vs, hf.1.valid_shape]; exact hj
  have hju_d : inRange u.data.shape j = true := by rw [c_ds, hf.1.data_shape]; exact hj
  have hjh_v : inRange h'.valid.shape j = true := by rw [b_vs]; exact hju_v
  have hjh_d : inRange h'.data.shape j = true := by rw [b_ds]; exact hju_d
  obtain ⟨cv, cd⟩ := c_val j hj
  exact ⟨(a_val j hjh_v).trans ((b_val j hju_v).trans cv), (a_dat j hjh_d).trans ((b_dat j hju_d).trans cd)⟩

/-- **Every component of a turned value is a component of the source value or its negative** — the
matrix entries are exactly 0, 1, −1 for every integer `k` (model and code, repo commit 1656fb93:
no `np.cos(k·π/2)` with its 6e-17), so no arithmetic beyond a sign change happens to the numbers.  The general form is
`rotVec_signed` (component `c` is `rotSign c` times component `rotSrc c`) with `rotSign_pm`; `field_rotation_closed` goes through it. -/
theorem rotVec_components_signed (v : List Rat) (c1 c2 : Nat) (k : Int) (c : Nat) (hc : c < v.length) :
    (rotVec v c1 c2 k).getD c 0 = v.getD c 0 ∨
    (rotVec v c1 c2 k).getD c 0 = v.getD c1 0 ∨ (rotVec v c1 c2 k).getD c 0 = - v.getD c1 0 ∨
    (rotVec v c1 c2 k).getD c 0 = v.getD c2 0 ∨ (rotVec v c1 c2 k).getD c 0 = - v.getD c2 0 := by
  rw [rotVec_getD _ _ _ _ _ hc]
  by_cases e1 : c = c1
  · subst e1
    rw [if_pos rfl]
    rcases quarter_cases' k with ⟨hcq, hsq⟩ | ⟨hcq, hsq⟩ | ⟨hcq, hsq⟩ | ⟨hcq, hsq⟩ <;> rw [hcq, hsq]
    · left; ring
    · right; right; right; right; ring
    · right; right; left; ring
    · right; right; right; left; ring
  · rw [if_neg e1]
    by_cases e2 : c = c2
    · subst e2
      rw [if_pos rfl]
      rcases quarter_cases' k with ⟨hcq, hsq⟩ | ⟨hcq, hsq⟩ | ⟨hcq, hsq⟩ | ⟨hcq, hsq⟩ <;> rw [hcq, hsq]
      · left; ring
      · right; left; ring
      · right; right; right; right; ring
      · right; right; left; ring
    · rw [if_neg e2]; left; rfl

/-- **Closure for every storage kind.**  Let `P` be any set of numbers closed under negation (the
integers of an integer dtype, the numbers representable in float32 / float64, …).  If every
component of every cell value of `f` is in `P`, so is every component of every cell value of the
turned field — every integer `k`, scalar and vector fields, any mapping (non-injective included),
either form.  Model and code (repo commit 1656fb93) are exact, so integer storage is
compared EXACTLY by the correspondence check (dtype kept). -/
theorem field_rotation_closed (P : Rat → Prop) (hneg : ∀ x, P x → P (-x)) (f : Fld) (hf : FldInv f) (hv : FldVInv f)
    (hP : ∀ j, inRange f.mesh.n j = true → ∀ c, c < f.nvdim → P ((f.data.get j).getD c 0))
    (a1 a2 : String) (k : Int) (ref : Option (List Rat)) (b : Bool) (x g : Fld)
    (h : rotate90F f a1 a2 k ref b = .ok (x, g)) :
    ∀ j, inRange g.mesh.n j = true → ∀ c, c < g.nvdim → P ((g.data.get j).getD c 0) := by
  obtain ⟨_, i1, i2, _, t, _⟩ := rotate90F_parts f hf a1 a2 k ref b x g h
  intro j hj c hc
  have hsrc := t.src_inRange hf j hj
  have hlen := hv.1 _ hsrc
  rw [t.nvdim] at hc
  rw [t.data_get]
  exact turnVal_closed P hneg f hv a1 a2 t.names_ne k _ hlen (fun c' hc' => hP _ hsrc c' (hlen ▸ hc')) c (by rw [hlen]; exact hc)

/-- … in particular **integer-valued fields stay integer-valued** under every quarter turn. -/
theorem field_rotation_keeps_integers (f : Fld) (hf : FldInv f) (hv : FldVInv f)
    (hP : ∀ j, inRange f.mesh.n j = true → ∀ c, c < f.nvdim → ∃ z : Int, (f.data.get j).getD c 0 = (z : Rat))
    (a1 a2 : String) (k : Int) (ref : Option (List Rat)) (b : Bool) (x g : Fld)
    (h : rotate90F f a1 a2 k ref b = .ok (x, g)) :
    ∀ j, inRange g.mesh.n j = true → ∀ c, c < g.nvdim → ∃ z : Int, (g.data.get j).getD c 0 = (z : Rat) :=
  field_rotation_closed (fun q => ∃ z : Int, q = (z : Rat)) (fun q ⟨z, hz⟩ => ⟨-z, by rw [hz]; push_cast; rfl⟩)
    f hf hv hP a1 a2 k ref b x g h

/-- **The axis-name lookup is exact, case-sensitive membership**: `_dim2index` finds a string iff it
IS one of the dimension names (string equality — `"X"` is not `"x"`). -/
theorem axis_lookup_exact (r : Region) (d : String) :
    ((∃ i, r.dim2index d = .ok i) ↔ d ∈ r.dims) ∧ ((∃ e, r.dim2index d = .error e) ↔ d ∉ r.dims) :=
  ⟨C01.dim2index_exists_iff r d, dim2index_error_iff r d⟩

/-- **A quarter turn is refused iff the two names are equal, a name is not EXACTLY one of the
dimension names, or the reference point has the wrong length** — as an iff, at region, mesh and
field level (there additionally: a vector field whose mapping misses one of the axes), in either
form `b`; the model's step then returns an error carrying no state (nothing changed). -/
theorem rotate_refused_iff (r : Region) (hr : r.Inv) (m : Mesh) (hm : m.Inv) (hs : SubInv m) (hbc : BcWf m)
    (f : Fld) (hf : FInv f) (a1 a2 : String) (k : Int) (ref : Option (List Rat)) (b : Bool) :
    ((∃ e, rotate90R r a1 a2 k ref b = .error e) ↔
      a1 = a2 ∨ (ref.getD r.center).length ≠ r.ndim ∨ a1 ∉ r.dims ∨ a2 ∉ r.dims) ∧
    ((∃ e, stepM m (.rotate90 a1 a2 k ref b) = .error e) ↔
      a1 = a2 ∨ (ref.getD m.region.center).length ≠ m.region.ndim ∨ a1 ∉ m.region.dims ∨ a2 ∉ m.region.dims) ∧
    ((∃ e, rotate90F f a1 a2 k ref b = .error e) ↔
      (a1 = a2 ∨ (ref.getD f.mesh.region.center).length ≠ f.mesh.region.ndim ∨
        a1 ∉ f.mesh.region.dims ∨ a2 ∉ f.mesh.region.dims) ∨
      (f.nvdim > 1 ∧ ((f.rDim a1).bind f.vdimIndex = none ∨ (f.rDim a2).bind f.vdimIndex = none))) := by
  refine ⟨?_, ?_, ?_⟩
  · rw [← malformed_rot_iff r a1 a2 k ref b]
    exact stepR_error_iff r hr (.rotate90 a1 a2 k ref b)
  · rw [← malformed_rot_iff m.region a1 a2 k ref b]
    exact stepM_error_iff m hm hs hbc (.rotate90 a1 a2 k ref b)
  · rw [← malformed_rot_iff f.mesh.region a1 a2 k ref b]
    exact stepF_error_iff f hf (.rotate90 a1 a2 k ref b)

/-- **A name in the wrong case is not an axis name**: a string that is not literally among the
dimension names — e.g. `"X"` on a region with dims `x, y, z` — is refused as first or second axis
at every level and in both forms, whatever else holds (no hypothesis on the objects). -/
theorem wrong_case_refused (r : Region) (m : Mesh) (f : Fld) (a1 a2 : String) (k : Int) (ref : Option (List Rat)) (b : Bool) :
    ((a1 ∉ r.dims ∨ a2 ∉ r.dims) → ∃ e, rotate90R r a1 a2 k ref b = .error e) ∧
    ((a1 ∉ m.region.dims ∨ a2 ∉ m.region.dims) → ∃ e, stepM m (.rotate90 a1 a2 k ref b) = .error e) ∧
    ((a1 ∉ f.mesh.region.dims ∨ a2 ∉ f.mesh.region.dims) → ∃ e, rotate90F f a1 a2 k ref b = .error e) := by
  refine ⟨fun h => ?_, fun h => ?_, fun h => ?_⟩
  · exact stepR_malformed r (.rotate90 a1 a2 k ref b) ((malformed_rot_iff r a1 a2 k ref b).mpr (Or.inr (Or.inr h)))
  · exact stepM_malformed m (.rotate90 a1 a2 k ref b) ((malformed_rot_iff m.region a1 a2 k ref b).mpr (Or.inr (Or.inr h)))
  · exact stepF_malformed f (.rotate90 a1 a2 k ref b)
      (Or.inl ((malformed_rot_iff f.mesh.region a1 a2 k ref b).mpr (Or.inr (Or.inr h))))

/-- **Non-injective mappings: the LAST label mapped onto an axis is the one that is turned.**  If the
reversed mapping gives label `l` for axis `a` (`_r_dim_mapping[a]`, a dict comprehension over
`vdim_mapping.items()`: later keys overwrite earlier ones), the mapping splits as
`pre ++ (l, a) :: post` with no entry of `post` mapped onto `a`; and an axis has no label iff no
entry is mapped onto it.  With the value invariant the two labels of two different axes are still
different components (`mapped_components_distinct` does not need injectivity), so `field_inverse_values`,
`field_compose_values` and `field_four_turns` hold for non-injective mappings as well: the labels that
share an axis with a later one are simply carried along unchanged (`rotVec_other`). -/
theorem turned_label_is_last (f : Fld) (a : String) :
    (∀ l, f.rDim a = some l → ∃ pre post, f.vmap = pre ++ (l, a) :: post ∧ ∀ q ∈ post, q.2 ≠ a) ∧
    (f.rDim a = none ↔ ∀ q ∈ f.vmap, q.2 ≠ a) :=
  ⟨Fld.rDim_last f a, Fld.rDim_none_iff f a⟩

/-- non-vacuity of the theorems above: `exF` meets `FInv` and the value invariant, its values are
integers; the mapping `[("x","x"), ("y","y"), ("z","x")]` is non-injective: axis `x` gets the LAST label `z`;
`"X"` is not a dimension name of `exP` -/
example : FInv exF ∧ FldVInv exF := ⟨⟨exF_inv, exP_subInv, bcWf_of_plain _ (Or.inl rfl)⟩, ⟨fun _ _ => rfl, fun vs h => by cases h; rfl, by decide⟩⟩
example : ({ exF with vmap := [("x", "x"), ("y", "y"), ("z", "x")] } : Fld).rDim "x" = some "z" := by decide
example : "X" ∉ exP.region.dims := by decide
example : (match rotate90F exF "X" "y" 1 none false with | .ok _ => true | .error _ => false) = false := by decide +kernel

/-! ## the constructor establishes the invariants -/

/-- **`Field.__init__` establishes the shape and the value invariant**: whatever
`mkFld?` — the constructor for an array value: array check of `update_field_values`, `valid` setter,
`vdims` setter, `vdim_mapping` setter, in the code's order — returns on a mesh satisfying the mesh
invariant satisfies `FldInv` (arrays of shape `n`) and `FldVInv` (every cell value has `nvdim`
components, `nvdim` labels when there are labels, mapping keys pairwise different), with mesh, arrays,
`nvdim` and unit as given.  Hypotheses on constructor INPUTS only (none on the mapping: keys that are
not a rearrangement of the labels are refused, which makes them pairwise different). -/
theorem constructor_establishes_invariants (mesh : Mesh) (hm : mesh.Inv) (nvdim : Nat) (value : NDA (List Rat))
    (valid : NDA Bool) (vdims : Option (List String)) (vmap : Option (List (String × Option String)))
    (unit : Option String) (f : Fld) (h : mkFld? mesh nvdim value valid vdims vmap unit = .ok f) :
    FldInv f ∧ FldVInv f ∧ f.mesh = mesh ∧ f.nvdim = nvdim ∧ f.data = value ∧ f.valid = valid ∧ f.unit = unit ∧ 1 ≤ nvdim := by
  obtain ⟨hn, hshape, hall, hvshape, vs, mp, hvs, hmp, rfl⟩ := (mkFld?_ok_iff mesh nvdim value valid vdims vmap unit f).mp h
  have hvd := vdimsSet_ok nvdim vdims vs hvs
  exact ⟨⟨hm, hshape, hvshape⟩,
    ⟨fun j hj => hall j ((mem_indicesC_iff mesh.n j).mpr hj), fun l hl => (hvd l hl).1,
      (mappedPairs_keys_sublist mp).nodup (vmapSet_keys mesh nvdim vs vmap mp (fun l hl => (hvd l hl).2) hmp)⟩,
    rfl, rfl, rfl, rfl, rfl, hn⟩

/-- **`k` then `−k`, and `k` then `l` vs `k + l`, on every constructed field** — `field_inverse_values` and
`field_compose_values` with hypotheses on the constructor inputs only: a mesh satisfying the mesh
invariant and `SubInv`, ANY value / validity arrays, labels and mapping (injective or not, partial or
not) the constructor accepts. -/
theorem constructed_field_turns (mesh : Mesh) (hm : mesh.Inv) (hs : SubInv mesh) (nvdim : Nat) (value : NDA (List Rat))
    (valid : NDA Bool) (vdims : Option (List String)) (vmap : Option (List (String × Option String)))
    (unit : Option String) (f : Fld) (h : mkFld? mesh nvdim value valid vdims vmap unit = .ok f)
    (a1 a2 : String) (k l : Int) (R : List Rat) (b b' b'' : Bool) (x1 g1 : Fld)
    (h1 : rotate90F f a1 a2 k (some R) b = .ok (x1, g1)) :
    (∀ x2 g2, rotate90F g1 a1 a2 (-k) (some R) b' = .ok (x2, g2) →
      ∀ j, inRange mesh.n j = true → g2.valid.get j = valid.get j ∧ g2.data.get j = value.get j) ∧
    (∀ x2 g2 x12 g12, rotate90F g1 a1 a2 l (some R) b' = .ok (x2, g2) → rotate90F f a1 a2 (k + l) (some R) b'' = .ok (x12, g12) →
      g2.data.shape = g12.data.shape ∧ ∀ j, inRange g12.data.shape j = true → g2.data.get j = g12.data.get j) := by
  obtain ⟨hf, hv, e1, _, e3, e4, _⟩ := constructor_establishes_invariants mesh hm nvdim value valid vdims vmap unit f h
  constructor
  · intro x2 g2 h2 j hj
    have := (field_inverse_values f hf hv (e1 ▸ hs) a1 a2 k R b b' x1 g1 x2 g2 h1 h2).2.2 j (e1 ▸ hj)
    rw [e3, e4] at this; exact this
  · intro x2 g2 x12 g12 h2 h12
    exact field_compose_values f hf hv a1 a2 k l (some R) (some R) (some R) b b' b'' x1 g1 x2 g2 x12 g12 h1 h2 h12

/-- non-vacuity: the constructor accepts a 3-component field on `exP` with a NON-INJECTIVE mapping given as
a dict with a `None` value; it refuses keys that are not the labels -/
example : (match mkFld? exP 3 (NDA.const [4, 6, 1] [1, 2, 3]) (NDA.const [4, 6, 1] true) (some ["a", "b", "c"])
    (some [("b", some "x"), ("a", none), ("c", some "x")]) none with
    | .ok f => (f.vmap, f.rDim "x") | .error _ => ([], none)) = ([("b", "x"), ("c", "x")], some "c") := by decide +kernel
example : (match mkFld? exP 3 (NDA.const [4, 6, 1] [1, 2, 3]) (NDA.const [4, 6, 1] true) (some ["a", "b", "c"])
    (some [("b", some "x"), ("q", none), ("c", some "x")]) none with
    | .ok _ => true | .error _ => false) = false := by decide +kernel

end DFV.C12
