import DFV.Lemmas.C01
import DFV.Lemmas.Rounding
import DFV.Lemmas.C01Tol
import DFV.Lemmas.C01Cell
import DFV.Lemmas.C01Ctor
import DFV.Lemmas.C01Iter
import DFV.Lemmas.C01Fl64
import DFV.Lemmas.C01FlTol
import DFV.Lemmas.C01FlLists
import DFV.Model.C01
/-!
# C01 — mesh cells tile the region; index ↔ coordinate maps are mutually inverse

The property theorems, with the specifications they need (`inCell`) and the concrete meshes of the
non-vacuity examples (`exMesh`, `exMesh4`, `exThird`, `Rounding.exact`); helper lemmas live in
`DFV/Lemmas`.  Statements are about the executable model `DFV.Mesh` / `DFV.Region` of
`DFV/Model/Basic.lean` and its rounded counterparts of `DFV/Model/C01.lean` (`point2indexFl`,
`cellsFl`, `dVFl`, … under an abstract `Rounding`), for every number of dimensions, every region,
every cell count, every index and every point.
-/
namespace DFV.C01
open DFV DFV.Mesh

/-- `n · cell = edge` on every axis: the cells cover the edge exactly. -/
theorem cells_cover_edges (m : Mesh) (a : Nat) (hn : 0 < m.nAt a) :
    (m.nAt a : Rat) * m.cellAt a = m.region.edge a :=
  cellAt_cover m a hn

/-- cells have positive size on every axis of a non-degenerate edge -/
theorem cell_pos (m : Mesh) (a : Nat) (hn : 0 < m.nAt a) (hr : m.region.lo a < m.region.hi a) :
    0 < m.cellAt a :=
  cellAt_pos m a hn hr

/-- The centre of cell `i` is `pmin + (i + ½)·cell` on every axis. -/
theorem centre_formula (m : Mesh) (idx : List Int) (p : List Rat) (h : m.index2point idx = .ok p)
    (a : Nat) (ha : a < m.ndim) :
    p.getD a 0 = m.region.lo a + ((idx.getD a 0 : Rat) + 1/2) * m.cellAt a := by
  obtain ⟨_, _, rfl⟩ := (index2point_ok_iff' m idx p).mp h
  rw [getD_tab _ _ _ _ ha]; rfl

/-- index → centre → index is the identity on every axis (exact arithmetic). -/
theorem roundtrip_axis (m : Mesh) (a : Nat) (i : Nat) (hi : i < m.nAt a)
    (hr : m.region.lo a < m.region.hi a) :
    m.indexAx a (m.centreAx a (i : Int)) = i :=
  indexAx_centreAx m a i hi (cell_pos m a (by omega) hr)

/-- A point of the closed edge `[lo, hi]` is mapped to an in-range index whose cell
contains it: lower face inclusive; upper face exclusive except for the last cell. -/
theorem index_contains_axis (m : Mesh) (a : Nat) (x : Rat) (hn : 0 < m.nAt a)
    (hr : m.region.lo a < m.region.hi a) (hlo : m.region.lo a ≤ x) (hhi : x ≤ m.region.hi a) :
    m.indexAx a x < m.nAt a ∧
    m.region.lo a + (m.indexAx a x : Rat) * m.cellAt a ≤ x ∧
    (x < m.region.lo a + ((m.indexAx a x : Rat) + 1) * m.cellAt a ∨
      (m.indexAx a x = m.nAt a - 1 ∧ x = m.region.hi a)) :=
  indexAx_contains m a x hn hr hlo hhi

/-- Cells are disjoint: a coordinate lies in at most one half-open cell. -/
theorem cell_unique (lo c x : Rat) (hc : 0 < c) (j k : Nat)
    (hj : lo + (j : Rat) * c ≤ x ∧ x < lo + ((j : Rat) + 1) * c)
    (hk : lo + (k : Rat) * c ≤ x ∧ x < lo + ((k : Rat) + 1) * c) : j = k := by
  have h1 : (j : Rat) < (k : Rat) + 1 := (face_lt hc _ _).mp (hj.1.trans_lt hk.2)
  have h2 : (k : Rat) < (j : Rat) + 1 := (face_lt hc _ _).mp (hk.1.trans_lt hj.2)
  have h1' : j < k + 1 := by exact_mod_cast h1
  have h2' : k < j + 1 := by exact_mod_cast h2
  omega

/-- the centre of an in-range cell lies in the closed region -/
theorem centre_in_region_axis (m : Mesh) (a : Nat) (i : Nat) (hi : i < m.nAt a)
    (hr : m.region.lo a < m.region.hi a) :
    m.region.lo a ≤ m.centreAx a (i : Int) ∧ m.centreAx a (i : Int) ≤ m.region.hi a :=
  (centreAx_mem m a i hi (cell_pos m a (by omega) hr)).imp le_of_lt le_of_lt

/-- index → centre → index is the identity (list level, every dimension) -/
theorem roundtrip (m : Mesh) (hm : m.Inv) (i : List Nat) (hi : inRange m.n i = true) :
    m.point2index (m.centre i) = .ok i :=
  point2index_centre m hm i hi

/-- the per-axis list of cell centres (`Mesh.cells`, built with linspace) is `pmin + (j+½)·cell` -/
theorem cells_eq_centres (m : Mesh) (a : Nat) (ha : a < m.ndim) (hn : 0 < m.nAt a) (j : Nat) (hj : j < m.nAt a) :
    ((m.cells).getD a []).getD j 0 = m.region.lo a + ((j : Rat) + 1/2) * m.cellAt a := by
  rw [cells_getD m a j ha hj, centreAx_natCast]

/-- the per-axis list of vertices (`Mesh.vertices`) is `pmin + j·cell`, `j = 0 … n` -/
theorem vertices_eq_faces (m : Mesh) (a : Nat) (ha : a < m.ndim) (hn : 0 < m.nAt a) (j : Nat) (hj : j ≤ m.nAt a) :
    ((m.vertices).getD a []).getD j 0 = m.region.lo a + (j : Rat) * m.cellAt a :=
  vertices_getD m a ha hn j hj

/-- the constructor does not depend on the order in which the two corners are given -/
theorem corner_order (p1 p2 : List Rat) (d u : Option (List String)) (tol : Rat) :
    Region.mk? p1 p2 d u tol = Region.mk? p2 p1 d u tol := by
  unfold Region.mk?
  by_cases hl : p1.length = p2.length
  · have hl' : p2.length = p1.length := hl.symm
    rw [if_neg (not_not.mpr hl), if_neg (not_not.mpr hl')]
    rw [← hl]
    by_cases h0 : p1.length = 0
    · rw [if_pos h0, if_pos h0]
    · rw [if_neg h0, if_neg h0]
      have hsym : allLt p1.length (fun a => decide (p1.getD a 0 ≠ p2.getD a 0))
          = allLt p1.length (fun a => decide (p2.getD a 0 ≠ p1.getD a 0)) := by
        congr 1; funext a; simp [ne_comm]
      have hmin : (tab p1.length fun a => min (p1.getD a 0) (p2.getD a 0))
          = tab p1.length fun a => min (p2.getD a 0) (p1.getD a 0) :=
        tab_congr _ _ _ fun a _ => min_comm _ _
      have hmax : (tab p1.length fun a => max (p1.getD a 0) (p2.getD a 0))
          = tab p1.length fun a => max (p2.getD a 0) (p1.getD a 0) :=
        tab_congr _ _ _ fun a _ => max_comm _ _
      rw [hsym, hmin, hmax]
  · have hl' : ¬ p2.length = p1.length := fun h => hl h.symm
    rw [if_pos hl, if_pos hl']

/-- out-of-range or wrong-length indices are rejected -/
theorem index_rejected (m : Mesh) (idx : List Int)
    (h : idx.length ≠ m.ndim ∨ ∃ a, a < m.ndim ∧ (idx.getD a 0 < 0 ∨ (m.nAt a : Int) ≤ idx.getD a 0)) :
    m.index2point idx = .error .index :=
  (index2point_error_iff m idx).mpr h

/-- a point with a coordinate outside the tolerance band of `Region.__contains__` is rejected -/
theorem point_rejected (m : Mesh) (p : List Rat)
    (h : p.length ≠ m.ndim ∨ ∃ a, a < m.ndim ∧ m.region.containsAx a (p.getD a 0) = false) :
    m.point2index p = .error .value :=
  (error_iff_not (point2index_cases m p) fun i =>
    (point2index_ok_iff_containsPt m p i).trans and_assoc.symm).mpr fun ⟨hl, hc⟩ =>
    h.elim (fun hne => hne hl) fun ⟨a, ha, hb⟩ => by
      rw [((containsPt_eq_true_iff _ _).mp hc).2 a ha] at hb
      cases hb

/-- … and below the lower face, beyond the band `atol + rtol·|x|`, the axis test indeed fails -/
theorem containsAx_below (r : Region) (a : Nat) (x : Rat) (hx : x < r.lo a)
    (hband : r.atol + r.tol * absR x < r.lo a - x) : r.containsAx a x = false :=
  containsAx_false_of_lt r a x hx hband

/-- every coordinate below `pmin` has index 0 (`clip`); that such a point is accepted when it lies
inside the tolerance band is `containsAx_iff` / `point2index_tol` -/
theorem band_clipped_to_first (m : Mesh) (a : Nat) (x : Rat) (hn : 0 < m.nAt a)
    (hr : m.region.lo a < m.region.hi a) (hx : x < m.region.lo a) : m.indexAx a x = 0 :=
  indexAx_of_le m a x hn hr hx.le

/-- A mesh requested by cell size exists whenever every edge is exactly a whole number
(≥ 1) of cells; its counts are those whole numbers, so `n · cell = edges` exactly. -/
theorem by_cell_exact (r : Region) (cell : List Rat) (k : Nat → Nat)
    (hlen : cell.length = r.ndim) (hpos : ∀ c ∈ cell, 0 < c)
    (hk : ∀ a, a < r.ndim → 0 < k a ∧ r.edge a = (k a : Rat) * cell.getD a 0)
    (bc : String) (hbc : bcOk r.dims bc.toLower = true) :
    Mesh.mkCell? r cell bc = .ok { region := r, n := tab r.ndim k, bc := bc.toLower, subs := [] } :=
  mkCell_of_exact r cell k bc hlen hpos hk hbc

/-- … and it is refused when some edge is clearly not a whole number of cells (remainder
strictly inside the 0.1 % band on both sides) -/
theorem by_cell_rejects (r : Region) (cell : List Rat) (a : Nat) (ha : a < r.ndim)
    (h : listMin cell / 1000 < remainder (r.edge a) (cell.getD a 0) ∧
         remainder (r.edge a) (cell.getD a 0) < cell.getD a 0 - listMin cell / 1000)
    (bc : String) : ∃ e, Mesh.mkCell? r cell bc = .error e := by
  cases hres : Mesh.mkCell? r cell bc with
  | error e => exact ⟨e, rfl⟩
  | ok m =>
    have := ((mkCell_ok_iff' r cell bc m).mp hres).2.2.2.1 a ha
    unfold notDivisible at this
    rw [decide_eq_true h.1, decide_eq_true h.2] at this
    cases this

/-- `Mesh.indices` enumerates every cell exactly once, first dimension fastest: it is the
list `unflatF n 0, unflatF n 1, …, unflatF n (Π n − 1)` (so cell `k` of the iteration has
first-index-fastest flat index `k`, and its length is the cell count). -/
theorem indices_refines (ns : List Nat) : indicesCode ns = indicesF ns := indicesCode_eq_indicesF ns

/-- … so `Mesh.indices` has `Π n = len(mesh)` entries -/
theorem indices_length (ns : List Nat) : (indicesCode ns).length = natProd ns := by
  rw [indices_refines, indicesF_length]

/-- entry `k` of the iteration is the multi-index whose first-index-fastest flat index is `k` -/
theorem indices_entry (ns : List Nat) (k : Nat) (hk : k < natProd ns) :
    flatF ns ((indicesCode ns).getD k []) = k := by
  rw [indices_refines, indicesF_getD_lt ns k hk]
  exact flatF_unflatF ns k hk

/-- **A mesh requested by cell size exists only when every edge is a whole number of cells**
(up to the 0.1 % tolerance of the constructor): if the constructor succeeds, the cell count of
every axis is a whole number `n_a ≥ 1` with `|edge_a − n_a·cell_a| ≤ min(cell)/1000`.  Together
with `by_cell_exact` (exact whole numbers are accepted) and `by_cell_rejects` (remainders clearly
inside the band are refused) this is the "exists exactly when" clause.  The positivity half was
false of the code before repo fix 5c501c0e (finding D101). -/
theorem by_cell_ok_near (r : Region) (hr : r.Inv) (cell : List Rat) (bc : String) (m : Mesh)
    (h : Mesh.mkCell? r cell bc = .ok m) (a : Nat) (ha : a < r.ndim) :
    m.region = r ∧ 1 ≤ m.nAt a ∧ |r.edge a - (m.nAt a : Rat) * cell.getD a 0| ≤ listMin cell / 1000 := by
  refine ⟨?_, mkCell_near r hr cell bc m h a ha⟩
  obtain ⟨_, _, _, _, _, _, rfl⟩ := (mkCell_ok_iff' r cell bc m).mp h
  rfl

/-- the far-offset witness of D101 is refused by the model as by the repaired code -/
example : (Mesh.mkCell? (Region.mk [1000000000000000] [1000000000000001] ["x"] ["m"] (1/1000000000000)) [1000]).toOption
    = none := by decide +kernel

/-! ## list level: tiling, iteration, coordinate field, volume -/

/-- the half-open cell `i` of the lattice, last cell closed (spec of "the cell contains the point") -/
def inCell (m : Mesh) (i : List Nat) (p : List Rat) : Prop :=
  ∀ a, a < m.ndim →
    m.region.lo a + (i.getD a 0 : Rat) * m.cellAt a ≤ p.getD a 0 ∧
    (p.getD a 0 < m.region.lo a + ((i.getD a 0 : Rat) + 1) * m.cellAt a ∨
      (i.getD a 0 = m.nAt a - 1 ∧ p.getD a 0 = m.region.hi a))

/-- **Any point of the region maps to an in-range index whose cell contains the point**
(every dimension; lower faces inclusive, the last cell also upper-inclusive). -/
theorem point_index_contains (m : Mesh) (hm : m.Inv) (p : List Rat) (hp : m.region.containsExact p) :
    ∃ i, m.point2index p = .ok i ∧ inRange m.n i = true ∧ inCell m i p := by
  have hax := fun a (ha : a < m.ndim) =>
    index_contains_axis m a _ (hm.nAt_pos ha) (hm.lo_lt_hi ha) (hp.2 a ha).1 (hp.2 a ha).2
  refine ⟨_, point2index_of_exact m p hp,
    hm.inRange_tab _ fun a ha => (hax a ha).1, fun a ha => ?_⟩
  rw [getD_tab _ _ _ _ ha]
  exact (hax a ha).2

/-- **The cells cover the region exactly once**: every point of the half-open box
`[pmin, pmax)` lies in exactly one half-open cell `[pmin + i·cell, pmin + (i+1)·cell)`. -/
theorem cover_exactly_once (m : Mesh) (hm : m.Inv) (p : List Rat) (hl : p.length = m.ndim)
    (hp : ∀ a, a < m.ndim → m.region.lo a ≤ p.getD a 0 ∧ p.getD a 0 < m.region.hi a) :
    ∃ i, (inRange m.n i = true ∧ ∀ a, a < m.ndim →
            m.region.lo a + (i.getD a 0 : Rat) * m.cellAt a ≤ p.getD a 0 ∧
            p.getD a 0 < m.region.lo a + ((i.getD a 0 : Rat) + 1) * m.cellAt a) ∧
      ∀ j, (inRange m.n j = true ∧ ∀ a, a < m.ndim →
            m.region.lo a + (j.getD a 0 : Rat) * m.cellAt a ≤ p.getD a 0 ∧
            p.getD a 0 < m.region.lo a + ((j.getD a 0 : Rat) + 1) * m.cellAt a) → j = i := by
  obtain ⟨i, _, hir, hic⟩ := point_index_contains m hm p ⟨hl, fun a ha => ⟨(hp a ha).1, (hp a ha).2.le⟩⟩
  have hcell : ∀ a, a < m.ndim →
      m.region.lo a + (i.getD a 0 : Rat) * m.cellAt a ≤ p.getD a 0 ∧
      p.getD a 0 < m.region.lo a + ((i.getD a 0 : Rat) + 1) * m.cellAt a := fun a ha =>
    ⟨(hic a ha).1, (hic a ha).2.resolve_right fun h => (hp a ha).2.ne h.2⟩
  refine ⟨i, ⟨hir, hcell⟩, fun j ⟨hjr, hjc⟩ => ?_⟩
  refine list_eq_of_getD j i 0 ((hm.length_eq hjr).trans (hm.length_eq hir).symm) fun a ha => ?_
  have ha' : a < m.ndim := lt_of_lt_of_eq ha (hm.length_eq hjr)
  exact cell_unique _ _ _ (cell_pos m a (hm.nAt_pos ha') (hm.lo_lt_hi ha')) _ _ (hjc a ha') (hcell a ha')

/-- distinct cells have distinct centres -/
theorem centre_injective (m : Mesh) (hm : m.Inv) (i j : List Nat) (hi : inRange m.n i = true)
    (hj : inRange m.n j = true) (h : m.centre i = m.centre j) : i = j := by
  have h1 := roundtrip m hm i hi
  have h2 := roundtrip m hm j hj
  rw [h] at h1
  rw [h1] at h2
  injection h2

/-- `index2point` of an in-range index is the centre used by the spec layer -/
theorem index2point_centre (m : Mesh) (hm : m.Inv) (i : List Nat) (hi : inRange m.n i = true) :
    m.index2point (i.map Int.ofNat) = .ok (m.centre i) :=
  index2point_ofNat m hm i hi

/-- `Mesh.__iter__` yields the cell centres in first-dimension-fastest order: the `k`-th point
is the centre of the cell whose flat index is `k`, and there are `len(mesh) = Π n` of them. -/
theorem iter_refines (m : Mesh) : m.iter = (List.range m.len).map fun k => m.centre (unflatF m.n k) := by
  unfold iter len
  rw [indices_refines]
  simp [indicesF, List.map_map, Function.comp_def]

/-- `Mesh.__iter__` yields `len(mesh)` points -/
theorem iter_length (m : Mesh) : m.iter.length = m.len := by
  rw [iter_refines]; simp

/-- per-axis lists have `n` centres and `n + 1` vertices -/
theorem cells_vertices_length (m : Mesh) (a : Nat) (ha : a < m.ndim) :
    (m.cells.getD a []).length = m.nAt a ∧ (m.vertices.getD a []).length = m.nAt a + 1 :=
  ⟨cells_length m a ha, vertices_length m a ha⟩

/-- every centre is the midpoint of its two neighbouring vertices, and consecutive vertices are
one cell apart: centres, vertices and `cell` describe one lattice -/
theorem centre_between_vertices (m : Mesh) (a : Nat) (ha : a < m.ndim) (hn : 0 < m.nAt a) (j : Nat) (hj : j < m.nAt a) :
    (m.cells.getD a []).getD j 0 = ((m.vertices.getD a []).getD j 0 + (m.vertices.getD a []).getD (j + 1) 0) / 2 ∧
    (m.vertices.getD a []).getD (j + 1) 0 - (m.vertices.getD a []).getD j 0 = m.cellAt a := by
  rw [cells_eq_centres m a ha hn j hj, vertices_eq_faces m a ha hn j (by omega),
    vertices_eq_faces m a ha hn (j + 1) (by omega)]
  push_cast
  constructor <;> ring

/-- **The coordinate field describes the same lattice**: its value in cell `idx` is the centre
of cell `idx` (`pmin + (idx + ½)·cell`), for every in-range index. -/
theorem coord_field_centre (m : Mesh) (hm : m.Inv) (idx : List Nat) (hi : inRange m.n idx = true) :
    m.coordField idx = m.centre idx :=
  tab_congr _ _ _ fun a ha => cells_getD m a _ ha (hm.getD_lt hi ha)

/-- **The cells fill the region's volume exactly**: `len(mesh) · dV = volume(region)`. -/
theorem volume_tiles (m : Mesh) (hm : m.Inv) : (m.len : Rat) * m.dV = m.region.volume := by
  have hnt : m.n = tab m.ndim m.nAt := eq_tab_of_getD m.n m.ndim m.nAt 0 hm.n_length (fun _ _ => rfl)
  unfold len dV Region.volume cell Region.edges
  rw [natProd_cast]
  conv_lhs => rw [hnt]
  unfold tab
  rw [List.map_map, ratProd_map_mul]
  congr 1
  apply List.map_congr_left
  intro a ha
  exact cells_cover_edges m a (hm.nAt_pos (List.mem_range.mp ha))

/-! non-vacuity: a concrete anisotropic 2-d mesh ([-1, 2] × [0, 1/2], n = (3, 2), cells 1 × 1/4)
meets `Inv`; the point (7/4, 1/2) lies on the closed upper face and is found in the last cell -/
def exMesh : Mesh :=
  { region := { pmin := [-1, 0], pmax := [2, 1/2], dims := ["x", "y"], units := ["m", "m"], tol := 1/1000000000000 },
    n := [3, 2], bc := "", subs := [] }

example : exMesh.Inv := mesh_inv_of_invB _ (by decide +kernel)
example : exMesh.point2index [7/4, 1/2] = .ok [2, 1] := by decide +kernel
example : exMesh.region.containsExact [7/4, 1/2] := by
  refine ⟨rfl, ?_⟩
  intro a ha
  have : a = 0 ∨ a = 1 := by
    have : a < 2 := ha
    omega
  rcases this with rfl | rfl <;> decide +kernel
example : exMesh.coordField [2, 1] = [3/2, 3/8] ∧ exMesh.centre [2, 1] = [3/2, 3/8] := by decide +kernel
example : (exMesh.len : Rat) * exMesh.dV = 3/2 ∧ exMesh.region.volume = 3/2 := by decide +kernel

/-! ## rounded arithmetic (section 4 of DESIGN.md), with an exact cell size `c`

`quotFl` / `centreFl` of `Lemmas/C01Fl.lean`; the sequence with the rounded cell size
(`Mesh.quotAxFl`, `Mesh.centreAxFl`) is treated from `quotient_fl_err` on. -/

/-- Round trip under rounding: if `10·u·(|pmin|/c + i + ½) < 1` then the computed quotient of the
computed centre of cell `i` still floors to `i`.  (For binary64, `u = 2^-53`, this covers cells up
to ~10^14 cells away from the origin; beyond that the real code indeed loses the round trip.) -/
theorem roundtrip_fl (R : Rounding) (pmin c : Rat) (hc : 0 < c) (i : Nat)
    (hsmall : 10 * R.u * (|pmin| / c + ((i : Rat) + 1/2)) < 1) :
    (quotFl R pmin c (centreFl R pmin c i)).floor = (i : Int) := by
  have hi0 : (0 : Rat) ≤ (i : Rat) := Nat.cast_nonneg i
  have key := fl_core R pmin c ((i : Rat) + 1 / 2) hc (add_nonneg hi0 (by norm_num)) hsmall
  rw [abs_lt] at key
  unfold quotFl centreFl
  exact rat_floor_eq _ _ (by push_cast; linarith only [key.1]) (by push_cast; linarith only [key.2])

/-- the hypotheses are satisfiable: exact arithmetic is a rounding with `u = 0` … -/
def Rounding.exact : Rounding := ⟨id, 0, le_refl _, by norm_num, by intro x; simp⟩

/-- … and then the theorem gives the exact round trip for every cell of every mesh -/
example (pmin c : Rat) (hc : 0 < c) (i : Nat) :
    (quotFl Rounding.exact pmin c (centreFl Rounding.exact pmin c i)).floor = (i : Int) :=
  roundtrip_fl Rounding.exact pmin c hc i (by simp [Rounding.exact])

/-- **Where rounding decides the floor.**  The index computed in rounded arithmetic,
`⌊fl(fl(x − pmin)/c)⌋`, equals the exact index `k` of the cell that contains `x` whenever `x` is
at least `3u·|q|` cells (`q = (x − pmin)/c`) away from both faces of that cell; closer to a face
the computed index may be the neighbour's - this is the band the boundary comparator of the
correspondence check grants. -/
theorem point2index_fl (R : Rounding) (pmin c x : Rat) (hc : 0 < c) (k : Int)
    (hlo : (k : Rat) + 3 * R.u * |(x - pmin) / c| ≤ (x - pmin) / c)
    (hhi : (x - pmin) / c + 3 * R.u * |(x - pmin) / c| < (k : Rat) + 1) :
    (quotFl R pmin c x).floor = k := by
  have h := quot_err R (x - pmin) c
  unfold quotFl
  rw [abs_le] at h
  exact rat_floor_eq _ _ (by linarith only [h.1, hlo]) (by linarith only [h.2, hhi])

/-- … and in any case the computed index is off by at most one cell when `3u·|q| < 1` -/
theorem point2index_fl_near (R : Rounding) (pmin c x : Rat) (hc : 0 < c)
    (hs : 3 * R.u * |(x - pmin) / c| < 1) :
    ((x - pmin) / c).floor - 1 ≤ (quotFl R pmin c x).floor ∧
    (quotFl R pmin c x).floor ≤ ((x - pmin) / c).floor + 1 := by
  have h := quot_err R (x - pmin) c
  unfold quotFl
  rw [abs_le] at h
  set q := (x - pmin) / c
  set q' := R.fl (R.fl (x - pmin) / c)
  have a1 := rat_floor_le q
  have a2 := rat_lt_floor_add_one q
  have b1 := rat_floor_le q'
  have b2 := rat_lt_floor_add_one q'
  constructor
  · have : ((q.floor - 1 : Int) : Rat) < (q'.floor : Rat) + 1 := by
      push_cast; linarith only [a1, b2, h.1, hs]
    have : q.floor - 1 < q'.floor + 1 := by exact_mod_cast this
    omega
  · have : (q'.floor : Rat) < ((q.floor + 1 : Int) : Rat) + 1 := by
      push_cast; linarith only [a2, b1, h.2, hs]
    have : q'.floor < q.floor + 1 + 1 := by exact_mod_cast this
    omega

example (pmin c x : Rat) (hc : 0 < c) (k : Int) (h1 : (k : Rat) ≤ (x - pmin) / c) (h2 : (x - pmin) / c < (k : Rat) + 1) :
    (quotFl Rounding.exact pmin c x).floor = k :=
  point2index_fl Rounding.exact pmin c x hc k (by simpa [Rounding.exact] using h1) (by simpa [Rounding.exact] using h2)

/-! ## equivalence forms -/

/-! ### indices and points: accepted ⇔ well-formed -/

/-- **`index2point` succeeds exactly for indices of the right length with every component in
`[0, n)`**, and then returns the centres. -/
theorem index2point_ok_iff (m : Mesh) (idx : List Int) (p : List Rat) :
    m.index2point idx = .ok p ↔
      idx.length = m.ndim ∧ (∀ a, a < m.ndim → 0 ≤ idx.getD a 0 ∧ idx.getD a 0 < (m.nAt a : Int)) ∧
      p = tab m.ndim fun a => m.centreAx a (idx.getD a 0) := index2point_ok_iff' m idx p

/-- **Indices outside the mesh are rejected, and only those**: `index2point` raises exactly when
the length is wrong or some component is negative or `≥ n` (converse of `index_rejected`). -/
theorem index2point_rejected_iff (m : Mesh) (idx : List Int) :
    m.index2point idx = .error .index ↔
      (idx.length ≠ m.ndim ∨ ∃ a, a < m.ndim ∧ (idx.getD a 0 < 0 ∨ (m.nAt a : Int) ≤ idx.getD a 0)) :=
  index2point_error_iff m idx

/-- **`point in region` is the inequality with the region's comparison tolerance**:
`pmin − (atol + rtol·|x|) ≤ x ≤ pmax + (atol + rtol·|x|)` on every axis, `rtol = tolerance_factor`,
`atol = min(edges)·tolerance_factor` (the expression `Region.__contains__` hands to `np.isclose`). -/
theorem contains_iff_tolerance (r : Region) (hr : r.Inv) (ht : 0 ≤ r.tol) (p : List Rat) :
    r.containsPt p = true ↔
      p.length = r.ndim ∧ ∀ a, a < r.ndim →
        r.lo a - (r.atol + r.tol * |p.getD a 0|) ≤ p.getD a 0 ∧
        p.getD a 0 ≤ r.hi a + (r.atol + r.tol * |p.getD a 0|) := by
  rw [containsPt_iff r hr ht]
  unfold TolInside band
  constructor
  · rintro ⟨h1, h2⟩
    refine ⟨h1, fun a ha => ?_⟩
    have := h2 a ha
    constructor <;> linarith
  · rintro ⟨h1, h2⟩
    refine ⟨h1, fun a ha => ?_⟩
    have := h2 a ha
    constructor <;> linarith

/-- **`point2index` succeeds exactly for points inside the region up to the tolerance**, and
then returns `clip(floor((p − pmin)/cell))` per axis. -/
theorem point2index_ok_iff (m : Mesh) (hm : m.Inv) (ht : 0 ≤ m.region.tol) (p : List Rat) (i : List Nat) :
    m.point2index p = .ok i ↔
      TolInside m.region p ∧ i = tab m.ndim fun a => m.indexAx a (p.getD a 0) :=
  point2index_ok_iff' m hm ht p i

/-- **Points outside the region by more than the tolerance are rejected, and only those**:
`point2index` raises exactly when the length is wrong or some coordinate lies more than
`atol + rtol·|x|` below `pmin` or above `pmax`. -/
theorem point2index_rejected_iff (m : Mesh) (hm : m.Inv) (ht : 0 ≤ m.region.tol) (p : List Rat) :
    m.point2index p = .error .value ↔
      (p.length ≠ m.ndim ∨ ∃ a, a < m.ndim ∧
        (band m.region (p.getD a 0) < m.region.lo a - p.getD a 0 ∨
         band m.region (p.getD a 0) < p.getD a 0 - m.region.hi a)) :=
  point2index_error_iff m hm ht p

/-- `clip` after `floor` is `floor` after moving the point onto the closed edge `[pmin, pmax]`
(what the clipping in `point2index` is for): for every coordinate, inside or outside. -/
theorem index_clip_is_clamp (m : Mesh) (hm : m.Inv) (a : Nat) (ha : a < m.ndim) (x : Rat) :
    m.indexAx a x = m.indexAx a (clampAx m.region a x) :=
  indexAx_clamp m a x (hm.nAt_pos ha) (hm.lo_lt_hi ha)

/-- **The tolerance clause**: every point inside the region *up to the region's comparison
tolerance* is accepted and mapped to an in-range index; the cell of that index contains the
point moved onto the region (the point itself when it is exactly inside), and the moved point
is within the tolerance `atol + rtol·|x|` of the original on every axis. -/
theorem point2index_tol (m : Mesh) (hm : m.Inv) (ht : 0 ≤ m.region.tol) (p : List Rat)
    (hp : TolInside m.region p) :
    ∃ i, m.point2index p = .ok i ∧ inRange m.n i = true ∧ inCell m i (clampPt m.region p) ∧
      (∀ a, a < m.ndim → |(clampPt m.region p).getD a 0 - p.getD a 0| ≤ band m.region (p.getD a 0)) ∧
      (m.region.containsExact p → clampPt m.region p = p) := by
  have hlohi : ∀ a, a < m.ndim → m.region.lo a < m.region.hi a := fun a ha => hm.lo_lt_hi ha
  obtain ⟨i, h1, h2, h3⟩ := point_index_contains m hm (clampPt m.region p) (clampPt_exact m.region hm.1 p)
  have hg : ∀ a, a < m.ndim → (clampPt m.region p).getD a 0 = clampAx m.region a (p.getD a 0) := by
    intro a ha; unfold clampPt; exact getD_tab _ _ _ _ ha
  have hi : i = tab m.ndim fun a => m.indexAx a (p.getD a 0) := by
    have := ((point2index_ok_iff m hm ht _ i).mp h1).2
    rw [this]
    apply tab_congr; intro a ha
    rw [hg a ha, ← index_clip_is_clamp m hm a ha]
  refine ⟨i, (point2index_ok_iff m hm ht p i).mpr ⟨hp, hi⟩, h2, h3, fun a ha => ?_, fun he => ?_⟩
  · rw [hg a ha]
    exact clampAx_near m.region a _ (hlohi a ha) (hp.2 a ha) (band_nonneg m.region hm.1 ht _)
  · apply list_eq_of_getD _ _ 0
    · rw [he.1]; simp [clampPt]
    · intro a ha
      have ha' : a < m.ndim := by
        have : a < m.region.ndim := by simpa [clampPt] using ha
        exact this
      rw [hg a ha']
      unfold clampAx
      rw [min_eq_right (he.2 a ha').2, max_eq_right (he.2 a ha').1]

/-! non-vacuity (tolerance clause, on the anisotropic 2-d mesh `exMesh`, cells 1 × 1/4, band
`atol + rtol·|x| = 5·10⁻¹³ + 10⁻¹²·|x|`): a point `10⁻¹³` below `pmin` is inside up to the tolerance and
goes to the first cell; a point `10⁻¹¹` below is refused; `exMesh` satisfies the hypotheses -/
example : exMesh.point2index [-1 - 1/10000000000000, 3/8] = .ok [0, 1] ∧
    exMesh.point2index [-1 - 1/100000000000, 3/8] = .error .value ∧
    exMesh.point2index [2 + 1/10000000000000, 1/2 + 1/10000000000000] = .ok [2, 1] := by decide +kernel
example : (0 : Rat) ≤ exMesh.region.tol := by decide +kernel
example : TolInside exMesh.region [-1 - 1/10000000000000, 3/8] := by
  refine ⟨rfl, ?_⟩
  intro a ha
  have : a = 0 ∨ a = 1 := by
    have : a < 2 := ha
    omega
  rcases this with rfl | rfl <;> (unfold band; constructor <;> decide +kernel)
example : clampPt exMesh.region [-1 - 1/10000000000000, 3/8] = [-1, 3/8] := by decide +kernel
example : exMesh.index2point [2, 1] = .ok [3/2, 3/8] ∧ exMesh.index2point [3, 1] = .error .index ∧
    exMesh.index2point [2, -1] = .error .index ∧ exMesh.index2point [2] = .error .index := by decide +kernel

/-! ### mesh by cell size: exists exactly when … -/

/-- **A mesh requested by cell size exists exactly when the edges are a whole number of cells.**
`Mesh(region, cell)` succeeds with mesh `m` if and only if: `cell` has one positive entry per
axis; no cell exceeds its edge by more than the region's comparison tolerance
(`cell − edge ≤ atol + rtol·|pmin + cell|`); every edge is within `min(cell)/1000` of a whole
number `k ≥ 1` of cells; `bc` is valid — and `m` is the mesh on that region whose count on
every axis is that (unique) whole number. -/
theorem by_cell_ok_iff (r : Region) (hr : r.Inv) (ht : 0 ≤ r.tol) (cell : List Rat) (bc : String) (m : Mesh) :
    Mesh.mkCell? r cell bc = .ok m ↔
      (cell.length = r.ndim ∧ (∀ c ∈ cell, 0 < c) ∧
       (∀ a, a < r.ndim → cell.getD a 0 - r.edge a ≤ band r (r.lo a + cell.getD a 0)) ∧
       bcOk r.dims bc.toLower = true) ∧
      m.region = r ∧ m.bc = bc.toLower ∧ m.subs = [] ∧ m.n.length = r.ndim ∧
      ∀ a, a < r.ndim → 1 ≤ m.nAt a ∧ |r.edge a - (m.nAt a : Rat) * cell.getD a 0| ≤ listMin cell / 1000 :=
  mkCell_ok_iff_near r hr ht cell bc m

/-- … in particular **a cell larger than its edge is refused** (by more than the comparison
tolerance; `edge = n·cell` with `n ≥ 1` is impossible then, and the constructor says so before
looking at divisibility). -/
theorem by_cell_rejects_large (r : Region) (hr : r.Inv) (ht : 0 ≤ r.tol) (cell : List Rat) (bc : String)
    (a : Nat) (ha : a < r.ndim) (hbig : band r (r.lo a + cell.getD a 0) < cell.getD a 0 - r.edge a) :
    ∃ e, Mesh.mkCell? r cell bc = .error e := by
  cases h : Mesh.mkCell? r cell bc with
  | error e => exact ⟨e, rfl⟩
  | ok m =>
    exfalso
    have := ((by_cell_ok_iff r hr ht cell bc m).mp h).1.2.2.1 a ha
    linarith

/-- … and the count is the only whole number that close: two meshes accepted for the same cell
size are the same mesh, whatever `k` a caller had in mind. -/
theorem by_cell_count_unique (r : Region) (hr : r.Inv) (cell : List Rat) (bc : String) (m : Mesh)
    (h : Mesh.mkCell? r cell bc = .ok m) (a : Nat) (ha : a < r.ndim) (k : Int)
    (hk : |r.edge a - (k : Rat) * cell.getD a 0| ≤ listMin cell / 1000) : (m.nAt a : Int) = k := by
  obtain ⟨hlen, hpos, _⟩ := (mkCell_ok_iff' r cell bc m).mp h
  obtain ⟨hc, _, htc⟩ := cellTol_bounds cell hpos a (hlen ▸ ha)
  exact multiple_unique (r.edge a) (cell.getD a 0) (listMin cell / 1000) hc htc _ _
    (by exact_mod_cast (mkCell_near r hr cell bc m h a ha).2) hk

/-! non-vacuity (by-cell clause, region of `exMesh`: edges 3 × 1/2): the commensurate cell `(1, 1/4)` gives
`exMesh`; a cell off by 5·10⁻⁵ (0.15 ‰ of the smallest cell over three cells: inside the 1 ‰ band) still
gives `n = (3, 2)`; off by 2·10⁻⁴ it is refused; the cell `(3 + 10⁻⁴, 1/2)` divides the edges within the band
(`k = 1`) but exceeds the edge by more than the comparison tolerance: refused (`by_cell_rejects_large`) -/
example : Mesh.mkCell? exMesh.region [1, 1/4] = .ok exMesh := by decide +kernel
example : (Mesh.mkCell? exMesh.region [1 + 1/20000, 1/4]).toOption.map (·.n) = some [3, 2] ∧
    (Mesh.mkCell? exMesh.region [1 + 1/5000, 1/4]).toOption = none ∧
    (Mesh.mkCell? exMesh.region [3 + 1/10000, 1/2]).toOption = none ∧
    (Mesh.mkCell? exMesh.region [3, 1/2]).toOption.map (·.n) = some [1, 1] := by decide +kernel
example : |exMesh.region.edge 0 - (1 : Nat) * (3 + 1/10000 : Rat)| ≤ listMin [3 + 1/10000, 1/2] / 1000 ∧
    band exMesh.region (exMesh.region.lo 0 + (3 + 1/10000)) < (3 + 1/10000) - exMesh.region.edge 0 := by
  unfold band; constructor <;> decide +kernel

/-! ### constructors: accepted ⇔ well-formed inputs; what they establish -/

/-- **`Region(p1, p2, dims, units)` exists exactly when** the two corner lists have the same
non-zero length and differ in every coordinate (no zero edge), and explicit `dims` / `units`
have that length (`dims` without repetition). -/
theorem region_mk_ok_iff (p1 p2 : List Rat) (dims units : Option (List String)) (tol : Rat) :
    (∃ r, Region.mk? p1 p2 dims units tol = .ok r) ↔
      p1.length = p2.length ∧ p1.length ≠ 0 ∧ DimsArgOk p1.length dims ∧ UnitsArgOk p1.length units ∧
      ∀ a, a < p1.length → p1.getD a 0 ≠ p2.getD a 0 := region_mk_ok_iff' p1 p2 dims units tol

/-- **Either corner order**: the region built from `p1`, `p2` has `pmin = min(p1, p2)`,
`pmax = max(p1, p2)` componentwise, strictly ordered, one name and one unit per axis, no
repeated name - i.e. it satisfies the invariant `Region.Inv` every other theorem assumes. -/
theorem region_mk_normalises (p1 p2 : List Rat) (dims units : Option (List String)) (tol : Rat) (r : Region)
    (h : Region.mk? p1 p2 dims units tol = .ok r) :
    r.Inv ∧ r.ndim = p1.length ∧ r.tol = tol ∧
    ∀ a, a < r.ndim → r.lo a = min (p1.getD a 0) (p2.getD a 0) ∧ r.hi a = max (p1.getD a 0) (p2.getD a 0) ∧
      r.lo a < r.hi a ∧ r.edge a = |p1.getD a 0 - p2.getD a 0| :=
  region_mk_corners p1 p2 dims units tol r h

/-- **`Mesh(region, n)` exists exactly when** `n` has one entry `≥ 1` per axis and `bc` is valid;
the mesh then stores exactly `region` and `n`. -/
theorem mesh_mk_ok_iff (r : Region) (n : List Nat) (bc : String) (m : Mesh) :
    Mesh.mkN? r n bc = .ok m ↔
      n.length = r.ndim ∧ (∀ a, a < r.ndim → 1 ≤ n.getD a 0) ∧ bcOk r.dims bc.toLower = true ∧
      m = { region := r, n := n, bc := bc.toLower, subs := [] } := mkN_ok_iff' r n bc m

/-- **From the inputs to the invariant**: whatever corners (in either order) and counts the two
constructors accept, the resulting mesh satisfies `Mesh.Inv` - so every theorem of this file
that assumes `m.Inv` holds for every mesh a user can build, with hypotheses on the inputs only. -/
theorem mesh_inv_from_inputs (p1 p2 : List Rat) (dims units : Option (List String)) (tol : Rat)
    (n : List Nat) (bc : String) (r : Region) (m : Mesh)
    (hr : Region.mk? p1 p2 dims units tol = .ok r) (hm : Mesh.mkN? r n bc = .ok m) :
    m.Inv ∧ m.region = r ∧ m.n = n :=
  mkN_inv_of_mk p1 p2 dims units tol n bc r m hr hm

/-- … and likewise for a mesh requested by cell size -/
theorem mesh_inv_from_cell (r : Region) (hr : r.Inv) (cell : List Rat) (bc : String) (m : Mesh)
    (h : Mesh.mkCell? r cell bc = .ok m) : m.Inv :=
  mkCell_inv r hr cell bc m h

/-- **End to end, from the inputs**: for all corner lists of equal non-zero length that differ in
every coordinate (either order) and all counts `≥ 1`, the constructors succeed, and on the mesh
they return: every in-range index goes to its centre and back to itself; every point of the
closed box is mapped to an in-range index whose cell contains it; the cells fill the volume. -/
theorem tiling_from_inputs (p1 p2 : List Rat) (n : List Nat)
    (hl : p1.length = p2.length) (h0 : p1.length ≠ 0) (hne : ∀ a, a < p1.length → p1.getD a 0 ≠ p2.getD a 0)
    (hn : n.length = p1.length) (hpos : ∀ a, a < p1.length → 1 ≤ n.getD a 0) :
    ∃ r m, Region.mk? p1 p2 none none = .ok r ∧ Mesh.mkN? r n = .ok m ∧ m.n = n ∧
      (∀ a, a < p1.length → r.lo a = min (p1.getD a 0) (p2.getD a 0) ∧ r.hi a = max (p1.getD a 0) (p2.getD a 0)) ∧
      (∀ i, inRange n i = true → m.point2index (m.centre i) = .ok i) ∧
      (∀ p, r.containsExact p → ∃ i, m.point2index p = .ok i ∧ inRange n i = true ∧ inCell m i p) ∧
      (m.len : Rat) * m.dV = r.volume := by
  obtain ⟨r, hr⟩ := (region_mk_ok_iff p1 p2 none none (1/1000000000000)).mpr
    ⟨hl, h0, (fun d e => by cases e), (fun u e => by cases e), hne⟩
  obtain ⟨hinv, hnd, _, hlh⟩ := region_mk_normalises p1 p2 none none _ r hr
  have hm : Mesh.mkN? r n = .ok { region := r, n := n, bc := "".toLower, subs := [] } := by
    rw [mesh_mk_ok_iff]
    exact ⟨by rw [hnd]; exact hn, fun a ha => hpos a (by rw [← hnd]; exact ha), bcOk_empty_lower _, rfl⟩
  obtain ⟨minv, mreg, mn⟩ := mkN_inv r hinv n "" _ hm
  refine ⟨r, _, hr, hm, rfl, fun a ha => ⟨(hlh a (by rw [hnd]; exact ha)).1, (hlh a (by rw [hnd]; exact ha)).2.1⟩,
    fun i hi => roundtrip _ minv i hi, fun p hp => point_index_contains _ minv p hp, volume_tiles _ minv⟩

/-! ### volume -/

/-- the volume of the region spanned by `p1`, `p2` is `Π |p1 − p2|`: the same for either corner order -/
theorem volume_closed_form (p1 p2 : List Rat) (dims units : Option (List String)) (tol : Rat) (r : Region)
    (h : Region.mk? p1 p2 dims units tol = .ok r) :
    r.volume = ratProd (tab p1.length fun a => |p1.getD a 0 - p2.getD a 0|) ∧ 0 < r.volume := by
  obtain ⟨hinv, hnd, _, hlh⟩ := region_mk_normalises p1 p2 dims units tol r h
  unfold Region.volume Region.edges
  constructor
  · rw [hnd]
    congr 1
    apply tab_congr; intro a ha
    exact (hlh a (by rw [hnd]; exact ha)).2.2.2
  · apply ratProd_pos
    intro x hx
    obtain ⟨a, ha, rfl⟩ := (mem_tab _ _ _).mp hx
    have := hinv.lo_lt_hi ha
    unfold Region.edge; linarith

/-- **Integer corner points** (repo fix 0ec4b24a: `math.prod` of Python integers): the volume of
a region whose corners are whole numbers is the *integer* product of its integer edge lengths,
exactly - no rounding and no wrap-around at any size. -/
theorem volume_int (r : Region) (zlo zhi : Nat → Int)
    (h : ∀ a, a < r.ndim → r.lo a = (zlo a : Rat) ∧ r.hi a = (zhi a : Rat)) :
    r.volume = ((intProd (tab r.ndim fun a => zhi a - zlo a) : Int) : Rat) := by
  rw [← ratProd_cast_int]
  unfold Region.volume Region.edges tab
  rw [List.map_map]
  congr 1
  apply List.map_congr_left
  intro a ha
  obtain ⟨e1, e2⟩ := h a (List.mem_range.mp ha)
  simp only [Function.comp, Region.edge, e1, e2]
  push_cast; ring

/-- cells have positive volume, and `len(mesh)` of them make up the region -/
theorem dV_pos (m : Mesh) (hm : m.Inv) : 0 < m.dV ∧ m.dV = m.region.volume / (m.len : Rat) := by
  have hlen : 0 < m.len := natProd_pos _ hm.mem_n_pos
  have hL : (0 : Rat) < (m.len : Rat) := by exact_mod_cast hlen
  have hv := volume_tiles m hm
  constructor
  · unfold dV
    apply ratProd_pos
    intro x hx
    obtain ⟨a, ha, rfl⟩ := (mem_tab _ _ _).mp hx
    exact cell_pos m a (hm.nAt_pos ha) (hm.lo_lt_hi ha)
  · rw [← hv]; field_simp

/-! non-vacuity (constructors from their inputs): corners given in mixed order produce the region of
`exMesh`; the hypotheses of `tiling_from_inputs` hold for them -/
example : Region.mk? [2, 0] [-1, 1/2] none none = .ok exMesh.region ∧
    Region.mk? [-1, 1/2] [2, 0] none none = .ok exMesh.region ∧
    Mesh.mkN? exMesh.region [3, 2] = .ok exMesh := by decide +kernel
example : ∀ a, a < [(2 : Rat), 0].length → [(2 : Rat), 0].getD a 0 ≠ [(-1 : Rat), 1/2].getD a 0 := by
  intro a ha
  have : a = 0 ∨ a = 1 := by
    have : a < 2 := ha
    omega
  rcases this with rfl | rfl <;> decide +kernel
/-- mixed-order corners, periodic boundary condition given in upper case: accepted by both constructors, stored
lower-case (the `bcOk` hypothesis of `by_cell_ok_iff` / `mesh_mk_ok_iff` on a non-trivial input) -/
example : (Mesh.mkCell? exMesh.region [1, 1/4] "YX").toOption.map (fun m => (m.n, m.bc)) = some ([3, 2], "yx") ∧
    (Mesh.mkN? exMesh.region [3, 2] "X").toOption.map (·.bc) = some "x" ∧
    (Mesh.mkN? exMesh.region [3, 2] "xz").toOption = none := by decide +kernel

/-- an integer-cornered region whose volume exceeds 2^63: exactly the integer product -/
example : (Region.mk [-3000000000, 0, 5] [4000000000, 6000000000, 1000000005] ["x", "y", "z"] ["m", "m", "m"] (1/1000000000000)).volume
    = ((7000000000 * 6000000000 * 1000000000 : Int) : Rat) := by decide +kernel

/-! ### iteration order for every number of dimensions -/

/-- **`Mesh.indices` lists exactly the in-range indices**: a multi-index occurs in it if and
only if it has one component in `[0, n)` per axis (any number of dimensions) … -/
theorem indices_complete (ns i : List Nat) : i ∈ indicesCode ns ↔ inRange ns i = true := by
  rw [indices_refines]; exact mem_indicesF_iff ns i

/-- … **each exactly once** … -/
theorem indices_nodup (ns : List Nat) : (indicesCode ns).Nodup := by
  rw [indices_refines]; exact indicesF_nodup ns

/-- … and **in odometer order, first dimension fastest**: the entry after `i` is `i` with its
first component advanced by one, or - when that wheel is at `n₀ − 1` - reset to 0 with the
carry passed to the next dimension (`succF`), for every number of dimensions. -/
theorem indices_odometer (ns : List Nat) (k : Nat) (hk : k + 1 < natProd ns) :
    (indicesCode ns).getD (k + 1) [] = succF ns ((indicesCode ns).getD k []) := by
  rw [indices_refines, indicesF_getD_lt ns _ hk, indicesF_getD_lt ns k (by omega)]
  exact unflatF_succ ns ((natProd_pos_iff ns).mp (by omega)) k

/-- the first entry of the iteration is the origin cell -/
theorem indices_first (ns : List Nat) (h : 0 < natProd ns) :
    (indicesCode ns).getD 0 [] = List.replicate ns.length 0 := by
  rw [indices_refines, indicesF_getD_lt ns 0 h]
  clear h
  induction ns with
  | nil => rfl
  | cons n ns ih => simp [unflatF, List.replicate_succ, ih]

/-- `Mesh.__iter__` is `map(self.index2point, self.indices)`: its `k`-th point is what
`index2point` returns for the `k`-th index (which it accepts) -/
theorem iter_is_index2point (m : Mesh) (hm : m.Inv) (k : Nat) (hk : k < m.len) :
    m.index2point (((indicesCode m.n).getD k []).map Int.ofNat) = .ok (m.iter.getD k []) := by
  have hlen : k < (indicesCode m.n).length := by rw [indices_length]; exact hk
  have hmem : (indicesCode m.n).getD k [] ∈ indicesCode m.n := getD_mem _ _ _ hlen
  rw [index2point_centre m hm _ ((indices_complete _ _).mp hmem)]
  congr 1
  unfold iter
  rw [List.getD_eq_getElem?_getD, List.getD_eq_getElem?_getD, List.getElem?_map]
  rw [List.getElem?_eq_getElem hlen]
  rfl

/-! ### coordinate field, code-shaped -/

/-- **`coordinate_field` as the code builds it** - component `i` is the list of centres of
axis `i`, reshaped to `(1, …, n_i, …, 1)` and broadcast over the other axes - holds in every
cell `idx` the centre `pmin + (idx + ½)·cell` of that cell (any number of dimensions). -/
theorem coord_field_refines (m : Mesh) (hm : m.Inv) (idx : List Nat) (hi : inRange m.n idx = true) :
    m.coordFieldCode idx = m.coordField idx ∧ m.coordFieldCode idx = m.centre idx := by
  have h1 : m.coordFieldCode idx = m.coordField idx := by
    unfold coordFieldCode coordField
    apply tab_congr; intro a ha
    rw [coord_position m idx a ha (inRange_getD m.n idx hi a (by rw [hm.2.1]; exact ha))]
  exact ⟨h1, by rw [h1]; exact coord_field_centre m hm idx hi⟩

/-! non-vacuity (iteration order, coordinate field): a 2-d and a 4-d shape -/
example : indicesCode [3, 2] = [[0, 0], [1, 0], [2, 0], [0, 1], [1, 1], [2, 1]] ∧
    succF [3, 2] [2, 0] = [0, 1] ∧ succF [3, 2] [1, 1] = [2, 1] := by decide
example : (indicesCode [2, 1, 3, 2]).length = 12 ∧ (indicesCode [2, 1, 3, 2]).getD 7 [] = [1, 0, 0, 1] ∧
    succF [2, 1, 3, 2] [1, 0, 2, 0] = [0, 0, 0, 1] := by decide

def exMesh4 : Mesh :=
  { region := { pmin := [0, -1, 1/2, 10], pmax := [2, 0, 2, 11], dims := ["x0", "x1", "x2", "x3"],
                units := ["m", "m", "m", "m"], tol := 1/1000000000000 },
    n := [2, 1, 3, 2], bc := "", subs := [] }

example : exMesh4.Inv := mesh_inv_of_invB _ (by decide +kernel)
example : exMesh4.coordShape 2 = [1, 1, 3, 1] ∧ coordBcast (exMesh4.coordShape 2) [1, 0, 2, 1] = [0, 0, 2, 0] ∧
    exMesh4.coordFieldCode [1, 0, 2, 1] = [3/2, -1/2, 7/4, 43/4] ∧
    exMesh4.centre [1, 0, 2, 1] = [3/2, -1/2, 7/4, 43/4] ∧
    exMesh4.point2index [3/2, -1/2, 7/4, 43/4] = .ok [1, 0, 2, 1] := by decide +kernel
example : exMesh.coordFieldCode [2, 1] = [3/2, 3/8] := by decide +kernel

/-! ### rounded arithmetic for the exact operation sequence of the code

`Mesh.cell = fl(fl(pmax − pmin)/n)` is itself a rounded quantity; `point2index` floors
`fl(fl(x − pmin)/cell)` and clips; `index2point` returns `fl(pmin + fl((i + ½)·cell))`;
`Region.__contains__` compares exactly and falls back on `np.isclose`.  `Mesh.point2indexFl`,
`Mesh.index2pointFl` (Model/C01.lean) follow this sequence with an arbitrary rounding function;
the theorems take a `Rounding` (standard model, relative error `u`), `Rounding.binary64`
(`u = 2^-53`, the function the driver `Drv/C01.lean` executes) is one. -/

/-- **Error of the quotient that `point2index` floors**, all four roundings included:
`|fl(fl(x − pmin)/fl(fl(pmax − pmin)/n)) − (x − pmin)/cell| ≤ 5u·|(x − pmin)/cell|`, for every
coordinate `x` (explicit constant `c = 5`, valid for every `u ≤ 1/16`). -/
theorem quotient_fl_err (R : Rounding) (m : Mesh) (hm : m.Inv) (a : Nat) (ha : a < m.ndim) (x : Rat) :
    |m.quotAxFl R.fl a x - (x - m.region.lo a) / m.cellAt a| ≤ 5 * R.u * |(x - m.region.lo a) / m.cellAt a| :=
  (quotAxFl_err R m a (hm.nAt_pos ha) (hm.lo_lt_hi ha) x).2

/-- **Away from the faces the rounded computation finds the cell that contains the point**
(list level, every dimension): for every point of the closed region whose distance from every
*interior* cell face `pmin + j·cell` (`0 < j < n`) exceeds `5u·(x − pmin)` on every axis - relative
distance more than `5u` - `point2index` with every operation rounded returns exactly what exact
arithmetic returns (the index of the cell that contains the point, `point_index_contains`).
The faces of the region itself need no margin.  (The hypothesis `5u·n < 1` is not used by the proof: clipping
makes it unnecessary.) -/
theorem point2index_fl_exact (R : Rounding) (m : Mesh) (hm : m.Inv) (p : List Rat)
    (hp : m.region.containsExact p)
    (hs : ∀ a, a < m.ndim → 5 * R.u * (m.nAt a : Rat) < 1)
    (haway : ∀ a, a < m.ndim → ∀ j : Nat, 0 < j → j < m.nAt a →
      5 * R.u * (p.getD a 0 - m.region.lo a) < |p.getD a 0 - (m.region.lo a + (j : Rat) * m.cellAt a)|) :
    m.point2indexFl R.fl p = m.point2index p := by
  rw [point2indexFl_of_exact R.fl m p hp,
    point2index_of_exact m p hp]
  congr 1
  apply tab_congr; intro a ha
  have hn := hm.nAt_pos ha
  have hr := hm.lo_lt_hi ha
  exact indexAxFl_eq R m a hn hr _ (hp.2 a ha).1 (hp.2 a ha).2 (haway a ha)

/-- **Within the band, one of the two adjacent cells** (list level): for *every* point of the
closed region the rounded `point2index` succeeds with an in-range index, and on each axis that
index is the exact one, or the point lies within `5u·(x − pmin)` of an interior face `j` and the
rounded and the exact index are the two cells `j − 1`, `j` sharing that face.  Requires `10u·n < 1`. -/
theorem point2index_fl_band (R : Rounding) (m : Mesh) (hm : m.Inv) (p : List Rat)
    (hp : m.region.containsExact p)
    (hs : ∀ a, a < m.ndim → 10 * R.u * (m.nAt a : Rat) < 1) :
    ∃ i k, m.point2indexFl R.fl p = .ok i ∧ m.point2index p = .ok k ∧ inRange m.n i = true ∧
      inRange m.n k = true ∧ inCell m k p ∧
      ∀ a, a < m.ndim → i.getD a 0 = k.getD a 0 ∨
        ∃ j : Nat, 0 < j ∧ j < m.nAt a ∧
          |p.getD a 0 - (m.region.lo a + (j : Rat) * m.cellAt a)| ≤ 5 * R.u * (p.getD a 0 - m.region.lo a) ∧
          (i.getD a 0 = j - 1 ∨ i.getD a 0 = j) ∧ (k.getD a 0 = j - 1 ∨ k.getD a 0 = j) := by
  obtain ⟨k, hk1, hk2, hk3⟩ := point_index_contains m hm p hp
  obtain ⟨_, _, rfl⟩ := (point2index_ok_iff_containsPt m p k).mp hk1
  refine ⟨_, _, point2indexFl_of_exact R.fl m p hp, hk1,
    hm.inRange_tab _ fun a ha => indexAxFl_lt m a R.fl (hm.nAt_pos ha) _, hk2, hk3, fun a ha => ?_⟩
  rw [getD_tab _ _ _ _ ha, getD_tab _ _ _ _ ha]
  exact (indexAxFl_band R m a (hm.nAt_pos ha) (hm.lo_lt_hi ha) _ (hs a ha)).imp_right fun h => h.2.2

/-- **index → centre → index with every operation rounded, for the operation sequence of the code**
(`cell = fl(fl(pmax − pmin)/n)`, `centre = fl(pmin + fl((i + ½)·cell))`, quotient
`fl(fl(centre − pmin)/cell)`, floor, clip): the identity on every cell when
`12u·(|pmin|/cell + n) < 1`. -/
theorem roundtrip_fl_axis (R : Rounding) (m : Mesh) (a : Nat) (hn : 0 < m.nAt a) (hr : m.region.lo a < m.region.hi a) (i : Nat) (hi : i < m.nAt a)
    (hs : 12 * R.u * (|m.region.lo a| / m.cellAt a + (m.nAt a : Rat)) < 1) :
    m.indexAxFl R.fl a (m.centreAxFl R.fl a (i : Int)) = i := by
  have hc := cell_pos m a hn hr
  have hge := cell_ge R _ _ hc (cellAtFl_err R m a hn hr)
  have hc' : 0 < m.cellAtFl R.fl a := (mul_pos (by norm_num) hc).trans_le hge
  have hi' : (i : Rat) + 1 ≤ (m.nAt a : Rat) := by exact_mod_cast hi
  -- `fl_core` with the computed cell size as `c`: `|pmin|/cell_fl ≤ 6/5·|pmin|/cell`
  have hL : |m.region.lo a| / m.cellAtFl R.fl a ≤ 6 / 5 * (|m.region.lo a| / m.cellAt a) := by
    have e : |m.region.lo a| / m.cellAt a * m.cellAt a = |m.region.lo a| := div_mul_cancel₀ _ hc.ne'
    have := mul_le_mul_of_nonneg_left hge (div_nonneg (abs_nonneg (m.region.lo a)) hc.le)
    rw [div_le_iff₀ hc']
    linarith only [e, this]
  have key := fl_core R (m.region.lo a) (m.cellAtFl R.fl a) ((i : Rat) + 1 / 2) hc' (by positivity) (by
    have h1 := mul_le_mul_of_nonneg_left hL R.u_nonneg
    have h2 := mul_le_mul_of_nonneg_left hi' R.u_nonneg
    have h3 : 0 ≤ R.u * (m.nAt a : Rat) := mul_nonneg R.u_nonneg (Nat.cast_nonneg _)
    linarith only [hs, h1, h2, h3, R.u_nonneg])
  rw [abs_lt] at key
  have e : (((i : Int) : Rat)) = (i : Rat) := Int.cast_natCast i
  have : clipIdx (m.quotAxFl R.fl a (m.centreAxFl R.fl a (i : Int))) (m.nAt a) = i := by
    refine (clipIdx_eq_iff _ hi).mpr ⟨Or.inr ?_, Or.inr ?_⟩ <;> unfold quotAxFl centreAxFl <;> rw [e]
    · linarith only [key.1]
    · linarith only [key.2]
  exact this

/-- **Round trip with every operation rounded, list level, through the containment test**:
`point2index(index2point(i)) = i` for every in-range index of every mesh (any dimension, either
boundary cell included) with `12u·(|pmin|/cell + n) < 1` on every axis, where both maps, the cell
size and the containment test are computed in rounded arithmetic exactly as the code does.  The
computed centre is shown to lie strictly inside the region, so the test accepts it by exact comparison. -/
theorem roundtrip_fl_code (R : Rounding) (m : Mesh) (hm : m.Inv) (i : List Nat) (hi : inRange m.n i = true)
    (hs : ∀ a, a < m.ndim → 12 * R.u * (|m.region.lo a| / m.cellAt a + (m.nAt a : Rat)) < 1) :
    ∃ p, m.index2pointFl R.fl (i.map Int.ofNat) = .ok p ∧ m.region.containsExact p ∧
      m.point2indexFl R.fl p = .ok i := by
  obtain ⟨h1, h2⟩ := hm.natIndex_ok hi
  have hex : m.region.containsExact (tab m.ndim fun a => m.centreAxFl R.fl a ((i.getD a 0 : Nat) : Int)) :=
    ⟨tab_length _ _, fun a (ha : a < m.ndim) => by
      rw [getD_tab _ _ _ _ ha]
      obtain ⟨l, u⟩ := centreAxFl_inside R m a (hm.nAt_pos ha) (hm.lo_lt_hi ha) _ (hm.getD_lt hi ha) (hs a ha)
      exact ⟨l.le, u.le⟩⟩
  refine ⟨_, (index2pointFl_ok_iff R.fl m _ _).mpr
    ⟨h1, h2, tab_congr _ _ _ fun a _ => by rw [getD_map_ofNat]⟩, hex, ?_⟩
  rw [point2indexFl_ok_iff]
  refine ⟨tab_length _ _, containsPtFl_of_exact R.fl _ _ hex,
    eq_tab_of_getD i m.ndim _ 0 (hm.length_eq hi) fun a ha => ?_⟩
  rw [getD_tab _ _ _ _ ha,
    roundtrip_fl_axis R m a (hm.nAt_pos ha) (hm.lo_lt_hi ha) _ (hm.getD_lt hi ha) (hs a ha)]

/-- **binary64**: `point2index_fl_band` for the round-to-nearest-even binary64 arithmetic that
the driver `Drv/C01.lean` (the executable run against /repo, DESIGN §3) executes (`C15.fl64`, `u = 2^-53`; exponent range not modelled): for every
mesh with at most `9·10^13` cells per axis the computed index of every point of the region is the
exact one or - within relative distance `5·2^-53` of an interior face - its neighbour across that face. -/
theorem point2index_binary64 (m : Mesh) (hm : m.Inv) (p : List Rat) (hp : m.region.containsExact p)
    (hn : ∀ a, a < m.ndim → m.nAt a ≤ 90000000000000) :
    ∃ i k, m.point2indexFl C15.fl64 p = .ok i ∧ m.point2index p = .ok k ∧ inRange m.n i = true ∧
      inRange m.n k = true ∧ inCell m k p ∧
      ∀ a, a < m.ndim → i.getD a 0 = k.getD a 0 ∨
        ∃ j : Nat, 0 < j ∧ j < m.nAt a ∧
          |p.getD a 0 - (m.region.lo a + (j : Rat) * m.cellAt a)|
            ≤ 5 / 9007199254740992 * (p.getD a 0 - m.region.lo a) ∧
          (i.getD a 0 = j - 1 ∨ i.getD a 0 = j) ∧ (k.getD a 0 = j - 1 ∨ k.getD a 0 = j) := by
  have := point2index_fl_band Rounding.binary64 m hm p hp (by
    intro a ha
    have h1 : (m.nAt a : Rat) ≤ 90000000000000 := by exact_mod_cast hn a ha
    rw [binary64_u]
    linarith)
  rw [binary64_fl, binary64_u] at this
  have e : 5 * (1 / 9007199254740992 : Rat) = 5 / 9007199254740992 := by norm_num
  rw [e] at this
  exact this

/-- … and the binary64 round trip: exact for every cell of every mesh with
`|pmin|/cell + n ≤ 7·10^14` on every axis -/
theorem roundtrip_binary64 (m : Mesh) (hm : m.Inv) (i : List Nat) (hi : inRange m.n i = true)
    (hs : ∀ a, a < m.ndim → |m.region.lo a| / m.cellAt a + (m.nAt a : Rat) ≤ 700000000000000) :
    ∃ p, m.index2pointFl C15.fl64 (i.map Int.ofNat) = .ok p ∧ m.region.containsExact p ∧
      m.point2indexFl C15.fl64 p = .ok i := by
  have := roundtrip_fl_code Rounding.binary64 m hm i hi (by
    intro a ha
    have := hs a ha
    rw [binary64_u]
    linarith)
  rw [binary64_fl] at this
  exact this

/-! non-vacuity (rounded arithmetic).  `[0, 1]` in three cells: the binary64 number just below 1/3
(`fl(1/3)`, relative distance `2^-54` from the face) lies in cell 0, but the computed cell size is that same
number, the computed quotient is exactly 1 and the code returns cell 1 - the adjacent cell across the face,
as `point2index_fl_band` allows (and `point2index_fl_exact` excludes further away).  On `exMesh` (dyadic)
rounded and exact results coincide. -/
def exThird : Mesh :=
  { region := { pmin := [0], pmax := [1], dims := ["x"], units := ["m"], tol := 1/1000000000000 },
    n := [3], bc := "", subs := [] }

example : exThird.Inv := mesh_inv_of_invB _ (by decide +kernel)
example : exThird.point2index [6004799503160661/18014398509481984] = .ok [0] ∧
    exThird.point2indexFl C15.fl64 [6004799503160661/18014398509481984] = .ok [1] ∧
    exThird.point2indexFl C15.fl64 [1/4] = .ok [0] ∧ exThird.point2indexFl C15.fl64 [1] = .ok [2] := by decide +kernel
example : |(6004799503160661/18014398509481984 : Rat) - (exThird.region.lo 0 + (1 : Nat) * exThird.cellAt 0)|
    ≤ 5 / 9007199254740992 * (6004799503160661/18014398509481984 - exThird.region.lo 0) := by decide +kernel
example : exMesh.point2indexFl C15.fl64 [7/4, 1/2] = .ok [2, 1] ∧
    exMesh.index2pointFl C15.fl64 [2, 1] = .ok [3/2, 3/8] ∧
    exThird.index2pointFl C15.fl64 [1] = .ok [1/2] ∧
    exThird.point2indexFl C15.fl64 [1/2] = .ok [1] := by decide +kernel
example : ∀ a, a < exThird.ndim → |exThird.region.lo a| / exThird.cellAt a + (exThird.nAt a : Rat) ≤ 700000000000000 := by
  intro a ha
  have : a = 0 := by
    have : a < 1 := ha
    omega
  subst this; decide +kernel

/-! ### the tolerance clause in rounded arithmetic -/

/-- **`point in region` in rounded arithmetic against the exact tolerance**: with every operation
of `Region.__contains__` rounded (edges, `atol = min(edges)·tolerance_factor`, `rtol·|x|`, their sum,
the difference handed to `np.isclose`), a point inside `(1 − 4u)` times the exact band
`atol + rtol·|x|` on every axis is accepted, and every accepted point is inside `(1 + 5u)` times it. -/
theorem contains_fl_sandwich (R : Rounding) (r : Region) (hr : r.Inv) (ht : 0 ≤ r.tol) (p : List Rat) :
    (TolInsideS r (1 - 4 * R.u) p → r.containsPtFl R.fl p = true) ∧
    (r.containsPtFl R.fl p = true → TolInsideS r (1 + 5 * R.u) p) := by
  unfold Region.containsPtFl TolInsideS
  simp only [Bool.and_eq_true, decide_eq_true_eq, allLt_iff]
  constructor
  · rintro ⟨h1, h2⟩
    exact ⟨h1, fun a ha => (containsAxFl_sandwich R r hr ht a _).1 (h2 a ha)⟩
  · rintro ⟨h1, h2⟩
    exact ⟨h1, fun a ha => (containsAxFl_sandwich R r hr ht a _).2 (h2 a ha)⟩

/-- **Points outside by more than `(1 + 5u)` times the tolerance are refused** by the rounded `point2index` -/
theorem point2index_fl_rejects (R : Rounding) (m : Mesh) (hm : m.Inv) (ht : 0 ≤ m.region.tol) (p : List Rat)
    (h : ¬ TolInsideS m.region (1 + 5 * R.u) p) : m.point2indexFl R.fl p = .error .value := by
  unfold point2indexFl
  split
  · rfl
  · have : m.region.containsPtFl R.fl p = false := by
      by_contra hc
      exact h ((contains_fl_sandwich R m.region hm.1 ht p).2 (by simpa using hc))
    rw [this]; rfl

/-- **The tolerance clause with every operation rounded** (list level): a point inside the region
up to `(1 − 4u)` times the comparison tolerance is accepted by the rounded `point2index` (and by
the exact one) with an in-range index; on every axis that index is the exact one - in particular
0 below `pmin` and `n − 1` above `pmax` - or, for a coordinate within `5u·(x − pmin)` of an interior
face `j`, one of the two cells `j − 1`, `j` sharing the face.  Requires `10u·n < 1`. -/
theorem point2index_fl_tol (R : Rounding) (m : Mesh) (hm : m.Inv) (ht : 0 ≤ m.region.tol) (p : List Rat)
    (hp : TolInsideS m.region (1 - 4 * R.u) p)
    (hs : ∀ a, a < m.ndim → 10 * R.u * (m.nAt a : Rat) < 1) :
    ∃ i k, m.point2indexFl R.fl p = .ok i ∧ m.point2index p = .ok k ∧ inRange m.n i = true ∧
      inRange m.n k = true ∧
      ∀ a, a < m.ndim → i.getD a 0 = k.getD a 0 ∨
        (m.region.lo a ≤ p.getD a 0 ∧ p.getD a 0 ≤ m.region.hi a ∧
         ∃ j : Nat, 0 < j ∧ j < m.nAt a ∧
          |p.getD a 0 - (m.region.lo a + (j : Rat) * m.cellAt a)| ≤ 5 * R.u * (p.getD a 0 - m.region.lo a) ∧
          (i.getD a 0 = j - 1 ∨ i.getD a 0 = j) ∧ (k.getD a 0 = j - 1 ∨ k.getD a 0 = j)) := by
  have hu := R.u_nonneg
  have hin : TolInside m.region p := ⟨hp.1, fun a ha => by
    have hb := band_nonneg m.region hm.1 ht (p.getD a 0)
    have := hp.2 a ha
    have := mul_nonneg hu hb
    constructor <;> linarith⟩
  obtain ⟨k, hk1, hk2, _⟩ := point2index_tol m hm ht p hin
  obtain ⟨_, rfl⟩ := (point2index_ok_iff m hm ht p k).mp hk1
  refine ⟨_, _, (point2indexFl_ok_iff R.fl m p _).mpr ⟨hp.1, (contains_fl_sandwich R m.region hm.1 ht p).1 hp, rfl⟩,
    hk1, hm.inRange_tab _ fun a ha => indexAxFl_lt m a R.fl (hm.nAt_pos ha) _, hk2, fun a ha => ?_⟩
  rw [getD_tab _ _ _ _ ha, getD_tab _ _ _ _ ha]
  exact indexAxFl_band R m a (hm.nAt_pos ha) (hm.lo_lt_hi ha) _ (hs a ha)

/-! ### one lattice: cell size of a mesh by cell, monotonicity, vertices as cell faces -/

/-- a mesh requested by cell size has that cell size: exactly when the edges are exact multiples,
and in general within `(min(cell)/1000)/n` on every axis -/
theorem by_cell_size (r : Region) (hr : r.Inv) (cell : List Rat) (bc : String) (m : Mesh)
    (h : Mesh.mkCell? r cell bc = .ok m) (a : Nat) (ha : a < r.ndim) :
    |m.cellAt a - cell.getD a 0| ≤ listMin cell / 1000 / (m.nAt a : Rat) ∧
    (r.edge a = (m.nAt a : Rat) * cell.getD a 0 → m.cellAt a = cell.getD a 0) := by
  obtain ⟨hreg, hn1, hnear⟩ := by_cell_ok_near r hr cell bc m h a ha
  have hN : (0 : Rat) < (m.nAt a : Rat) := by exact_mod_cast hn1
  have hcell : m.cellAt a = r.edge a / (m.nAt a : Rat) := by unfold cellAt; rw [hreg]
  constructor
  · have e : m.cellAt a - cell.getD a 0 = (r.edge a - (m.nAt a : Rat) * cell.getD a 0) / (m.nAt a : Rat) := by
      rw [hcell, div_sub' hN.ne']
    rw [e, abs_div, abs_of_pos hN, div_le_div_iff_of_pos_right hN]
    exact hnear
  · intro he
    rw [hcell, he, mul_div_cancel_left₀ _ hN.ne']

/-- `point2index` is monotone along every axis: a larger coordinate never gets a smaller index -/
theorem index_monotone (m : Mesh) (a : Nat) (hn : 0 < m.nAt a) (hr : m.region.lo a < m.region.hi a)
    (x y : Rat) (hxy : x ≤ y) : m.indexAx a x ≤ m.indexAx a y :=
  indexAx_mono m a hn (cell_pos m a hn hr) hxy

/-- **vertices are the cell faces that `point2index` uses**: for a coordinate of the half-open edge
`[pmin, pmax)`, the index is `j` exactly when the coordinate lies between the `j`-th and the
`(j+1)`-th entry of `Mesh.vertices` (lower inclusive, upper exclusive). -/
theorem index_iff_vertices (m : Mesh) (a : Nat) (ha : a < m.ndim) (hn : 0 < m.nAt a)
    (hr : m.region.lo a < m.region.hi a) (x : Rat) (hlo : m.region.lo a ≤ x) (hhi : x < m.region.hi a)
    (j : Nat) (hj : j < m.nAt a) :
    m.indexAx a x = j ↔
      (m.vertices.getD a []).getD j 0 ≤ x ∧ x < (m.vertices.getD a []).getD (j + 1) 0 := by
  rw [vertices_getD m a ha hn j (by omega), vertices_getD m a ha hn (j + 1) (by omega),
    indexAx_eq_iff m a (cell_pos m a hn hr) hj, Nat.cast_add_one]
  refine and_congr (or_iff_right_of_imp fun h => ?_) (or_iff_right_of_imp fun h => ?_)
  · rw [h]; simpa using hlo
  · have e : (j : Rat) + 1 = (m.nAt a : Rat) := by exact_mod_cast h
    rw [e, ← hi_eq m a hn]; exact hhi

/-! non-vacuity (tolerance in rounded arithmetic, binary64 on `exMesh`): 10⁻¹³ below `pmin` is inside
`(1 − 4u)` times the band and accepted, first cell; 10⁻¹¹ below is outside `(1 + 5u)` times the band and refused -/
example : exMesh.point2indexFl C15.fl64 [-1 - 1/10000000000000, 3/8] = .ok [0, 1] ∧
    exMesh.point2indexFl C15.fl64 [-1 - 1/100000000000, 3/8] = .error .value ∧
    exMesh.point2indexFl C15.fl64 [2 + 1/10000000000000, 1/2] = .ok [2, 1] := by decide +kernel
example : TolInsideS exMesh.region (1 - 4 * Rounding.binary64.u) [-1 - 1/10000000000000, 3/8] := by
  refine ⟨rfl, ?_⟩
  intro a ha
  have : a = 0 ∨ a = 1 := by
    have : a < 2 := ha
    omega
  rcases this with rfl | rfl <;> (unfold band; rw [binary64_u]; constructor <;> decide +kernel)
example : ¬ TolInsideS exMesh.region (1 + 5 * Rounding.binary64.u) [-1 - 1/100000000000, 3/8] := by
  rintro ⟨_, h⟩
  have := (h 0 (by decide)).1
  unfold band at this
  rw [binary64_u] at this
  revert this
  decide +kernel
example : exMesh.vertices = [[-1, 0, 1, 2], [0, 1/4, 1/2]] ∧ exMesh.indexAx 0 (3/4) = 1 ∧
    exMesh.indexAx 0 1 = 2 ∧ exMesh.cells = [[-1/2, 1/2, 3/2], [1/8, 3/8]] := by decide +kernel

/-! ### the per-axis lists in rounded arithmetic -/

/-- **`Mesh.vertices` as computed** (`np.linspace(pmin, pmax, n + 1)`: `fl(fl(j·fl(fl(pmax − pmin)/n)) + pmin)`,
last entry `pmax`): entry `j` is within `10u·M` of the face `pmin + j·cell`, `M ≥ |pmin|, |pmax|`;
first and last entry are `pmin` and `pmax` up to that bound, the last one exactly. -/
theorem vertices_fl_err (R : Rounding) (m : Mesh) (a : Nat) (ha : a < m.ndim) (hn : 0 < m.nAt a)
    (M : Rat) (hlo : |m.region.lo a| ≤ M) (hhi : |m.region.hi a| ≤ M) (j : Nat) (hj : j ≤ m.nAt a) :
    |((m.verticesFl R.fl).getD a []).getD j 0 - (m.region.lo a + (j : Rat) * m.cellAt a)| ≤ 10 * R.u * M ∧
    ((m.verticesFl R.fl).getD a []).getD (m.nAt a) 0 = m.region.hi a := by
  unfold verticesFl
  rw [getD_tab _ _ _ _ ha]
  refine ⟨linspaceFl_entry_err R _ _ M _ j hn hj hlo hhi, ?_⟩
  rw [linspaceFl_getD _ _ _ _ _ hn le_rfl, if_pos rfl]

/-- **`Mesh.cells` as computed** (`np.linspace(fl(pmin + fl(cell/2)), fl(pmax − fl(cell/2)), n)` with the
rounded cell size): entry `j` is within `20u·M` of the centre `pmin + (j + ½)·cell`, `M ≥ |pmin|, |pmax|`,
for every `n ≥ 1` (this is what the `2^-40` comparator of the correspondence check rests on). -/
theorem cells_fl_err (R : Rounding) (m : Mesh) (a : Nat) (ha : a < m.ndim) (hn : 0 < m.nAt a)
    (hr : m.region.lo a < m.region.hi a)
    (M : Rat) (hlo : |m.region.lo a| ≤ M) (hhi : |m.region.hi a| ≤ M) (j : Nat) (hj : j < m.nAt a) :
    |((m.cellsFl R.fl).getD a []).getD j 0 - (m.region.lo a + ((j : Rat) + 1/2) * m.cellAt a)| ≤ 20 * R.u * M := by
  have huM : 0 ≤ R.u * M := mul_nonneg R.u_nonneg ((abs_nonneg _).trans hlo)
  have hc := cell_pos m a hn hr
  have hcov := cellAt_cover m a hn
  obtain ⟨⟨hstart, hstop⟩, es, ee⟩ := cells_ends_err R _ _ _ _ M _ hc (by exact_mod_cast hn) hcov hlo hhi
    (cellAtFl_err R m a hn hr)
  unfold cellsFl
  rw [getD_tab _ _ _ _ ha]
  by_cases h1 : m.nAt a = 1
  · -- a single cell: the list is the computed start point
    obtain rfl : j = 0 := by omega
    have e : m.region.lo a + (((0 : Nat) : Rat) + 1 / 2) * m.cellAt a = m.region.lo a + m.cellAt a / 2 := by
      push_cast; ring
    rw [h1, e]
    exact es.trans (by linarith only [huM])
  · obtain ⟨N, hnN⟩ : ∃ N, m.nAt a = N + 1 := ⟨m.nAt a - 1, by omega⟩
    have hNq : (N : Rat) ≠ 0 := by exact_mod_cast (by omega : N ≠ 0)
    have k := linspaceFl_entry_perturbed R _ _ _ _ M (6 * R.u * M) N j (by omega) (by omega) hstart hstop es ee
    -- the exact entry is the centre `pmin + (j + ½)·cell`
    have e4 : m.region.lo a + m.cellAt a / 2 + (j : Rat) * m.cellAt a
        = m.region.lo a + ((j : Rat) + 1 / 2) * m.cellAt a := by ring
    rw [centres_span m a N hnN, mul_div_cancel_left₀ _ hNq, e4] at k
    rw [hnN]
    linarith only [k, huM, mul_le_mul_of_nonneg_right R.u_small huM]

/-! non-vacuity (per-axis lists in binary64): `[0, 1]` in three cells - the computed centres and vertices are not
the exact ones (1/6, 5/6, 1/3, 2/3 are no binary64 numbers) but lie within the proved bounds (`M = 1`) -/
example : exThird.cells = [[1/6, 1/2, 5/6]] ∧
    exThird.cellsFl C15.fl64 = [[6004799503160661/36028797018963968, 1/2, 7505999378950827/9007199254740992]] ∧
    exThird.verticesFl C15.fl64 = [[0, 6004799503160661/18014398509481984, 6004799503160661/9007199254740992, 1]] := by
  decide +kernel
example : |(7505999378950827/9007199254740992 : Rat) - 5/6| ≤ 20 * Rounding.binary64.u * 1 ∧
    |(6004799503160661/18014398509481984 : Rat) - 1/3| ≤ 10 * Rounding.binary64.u * 1 ∧
    (7505999378950827/9007199254740992 : Rat) ≠ 5/6 := by
  rw [binary64_u]; decide +kernel

/-- **The computed list of centres describes the same lattice as the computed `point2index`**: with
every operation rounded (cell size, `np.linspace` of `Mesh.cells`, quotient, floor, clip), entry `j`
of the list of centres of axis `a` lies in the closed edge and is mapped back to `j`, for every
`j < n`, provided `50u·(M/cell + n) < 1` with `M ≥ |pmin|, |pmax|`. -/
theorem cells_fl_roundtrip (R : Rounding) (m : Mesh) (a : Nat) (ha : a < m.ndim) (hn : 0 < m.nAt a)
    (hr : m.region.lo a < m.region.hi a)
    (M : Rat) (hlo : |m.region.lo a| ≤ M) (hhi : |m.region.hi a| ≤ M)
    (hs : 50 * R.u * (M / m.cellAt a + (m.nAt a : Rat)) < 1) (j : Nat) (hj : j < m.nAt a) :
    m.region.lo a ≤ ((m.cellsFl R.fl).getD a []).getD j 0 ∧
    ((m.cellsFl R.fl).getD a []).getD j 0 ≤ m.region.hi a ∧
    m.indexAxFl R.fl a (((m.cellsFl R.fl).getD a []).getD j 0) = j := by
  have hc := cell_pos m a hn hr
  have herr := cells_fl_err R m a ha hn hr M hlo hhi j hj
  refine indexAxFl_near_centre R m a hn hr _ (20 * R.u * M) j hj herr ?_
  -- `50u·(M/cell + n) < 1` in coordinates
  have h1 := mul_lt_mul_of_pos_right hs hc
  rw [mul_assoc (50 * R.u), add_mul, div_mul_cancel₀ _ hc.ne'] at h1
  have h2 := mul_nonneg R.u_nonneg ((abs_nonneg _).trans hlo)
  have h3 := mul_nonneg R.u_nonneg (mul_nonneg (Nat.cast_nonneg (m.nAt a)) hc.le)
  linarith only [h1, h2, h3]

/-- … e.g. in binary64 on `[0, 1]` in three cells: the computed centres go back to 0, 1, 2, and the hypothesis holds -/
example : (((exThird.cellsFl C15.fl64).getD 0 []).map fun x => exThird.indexAxFl C15.fl64 0 x) = [0, 1, 2] ∧
    50 * Rounding.binary64.u * (1 / exThird.cellAt 0 + (exThird.nAt 0 : Rat)) < 1 := by
  rw [binary64_u]; decide +kernel

/-! ### cell volume and region volume in rounded arithmetic, any number of dimensions -/

/-- **`Mesh.dV` as computed** (`np.prod` of the `d` rounded cell sizes, `d − 1` rounded
multiplications) lies within the factors `(1 ∓ g)·((1 ∓ g)(1 ∓ u))^(d−1)`, `g = 2u + u²`, of the
exact cell volume - a relative error of about `(3d − 1)·u`, for every number of dimensions `d`. -/
theorem dV_fl_err (R : Rounding) (m : Mesh) (hm : m.Inv) :
    (1 - (2 * R.u + R.u * R.u)) * ((1 - (2 * R.u + R.u * R.u)) * (1 - R.u)) ^ (m.ndim - 1) * m.dV ≤ m.dVFl R.fl ∧
    m.dVFl R.fl ≤ (1 + (2 * R.u + R.u * R.u)) * ((1 + (2 * R.u + R.u * R.u)) * (1 + R.u)) ^ (m.ndim - 1) * m.dV := by
  obtain ⟨d, hd⟩ : ∃ d, m.ndim = d + 1 := ⟨m.ndim - 1, by have := hm.1.ndim_pos; unfold Mesh.ndim; omega⟩
  unfold dVFl dV cell
  rw [hd]
  refine (prodFl_tab_bounds R _ (by linarith [R.two_le, R.u_small]) _ m.cellAt d fun a ha => ?_).2
  have ha' : a < m.ndim := hd ▸ ha
  have := cellAtFl_err R m a (hm.nAt_pos ha') (hm.lo_lt_hi ha')
  rw [abs_le] at this
  exact ⟨hm.cellAt_pos ha', by linarith only [this.1], by linarith only [this.2]⟩

/-- **`Region.volume` of a float-cornered region as computed** (`np.prod` of the `d` rounded edge
lengths): within the factors `(1 ∓ u)^(2d−1)` of the exact volume, for every number of dimensions. -/
theorem volume_fl_err (R : Rounding) (r : Region) (hr : r.Inv) :
    (1 - R.u) * ((1 - R.u) * (1 - R.u)) ^ (r.ndim - 1) * r.volume ≤ r.volumeFl R.fl ∧
    r.volumeFl R.fl ≤ (1 + R.u) * ((1 + R.u) * (1 + R.u)) ^ (r.ndim - 1) * r.volume := by
  obtain ⟨d, hd⟩ : ∃ d, r.ndim = d + 1 := ⟨r.ndim - 1, by have := hr.ndim_pos; omega⟩
  unfold Region.volumeFl Region.volume Region.edges
  rw [hd]
  refine (prodFl_tab_bounds R R.u (R.u_small.trans (by norm_num)) _ r.edge d fun a ha => ?_).2
  have hpos := hr.edge_pos (hd ▸ ha)
  exact ⟨hpos, fl_bounds_nonneg R _ hpos.le⟩

/-- **The cells fill the volume, in rounded arithmetic**: `len(mesh)·dV_fl` and `volume_fl` are both
within explicit factors of the exact volume `len·dV = volume` (`volume_tiles`), for every `d`. -/
theorem volume_tiles_fl (R : Rounding) (m : Mesh) (hm : m.Inv) :
    (1 - (2 * R.u + R.u * R.u)) * ((1 - (2 * R.u + R.u * R.u)) * (1 - R.u)) ^ (m.ndim - 1) * m.region.volume
        ≤ (m.len : Rat) * m.dVFl R.fl ∧
    (m.len : Rat) * m.dVFl R.fl
        ≤ (1 + (2 * R.u + R.u * R.u)) * ((1 + (2 * R.u + R.u * R.u)) * (1 + R.u)) ^ (m.ndim - 1) * m.region.volume := by
  obtain ⟨h1, h2⟩ := dV_fl_err R m hm
  have hv := volume_tiles m hm
  have hL : (0 : Rat) ≤ (m.len : Rat) := Nat.cast_nonneg _
  rw [← hv]
  constructor
  · have := mul_le_mul_of_nonneg_left h1 hL
    linarith [this]
  · have := mul_le_mul_of_nonneg_left h2 hL
    linarith [this]

/-- binary64, up to four dimensions: computed cell volume within `12·2^-53` relative of the exact one -/
theorem dV_binary64 (m : Mesh) (hm : m.Inv) (hd : m.ndim ≤ 4) :
    |m.dVFl C15.fl64 - m.dV| ≤ 12 / 9007199254740992 * m.dV := by
  obtain ⟨h1, h2⟩ := dV_fl_err Rounding.binary64 m hm
  rw [binary64_fl] at h1 h2
  have hpos := (dV_pos m hm).1
  have hk3 : m.ndim - 1 ≤ 3 := by omega
  generalize m.ndim - 1 = k at h1 h2 hk3
  generalize hu : Rounding.binary64.u = u at h1 h2
  -- the two factors of `dV_fl_err` for `d − 1 ≤ 3`, evaluated at `u = 2^-53`
  have hk : 1 - 12 * u ≤ (1 - (2 * u + u * u)) * ((1 - (2 * u + u * u)) * (1 - u)) ^ k ∧
      (1 + (2 * u + u * u)) * ((1 + (2 * u + u * u)) * (1 + u)) ^ k ≤ 1 + 12 * u := by
    rw [← hu, binary64_u]
    obtain rfl | rfl | rfl | rfl : k = 0 ∨ k = 1 ∨ k = 2 ∨ k = 3 := by omega
    all_goals norm_num
  have l := mul_le_mul_of_nonneg_right hk.1 hpos.le
  have r := mul_le_mul_of_nonneg_right hk.2 hpos.le
  rw [abs_le, show (12 / 9007199254740992 : Rat) = 12 * u by rw [← hu, binary64_u]; norm_num]
  constructor <;> linarith

/-- non-vacuity: on `[0, 1]` in three cells the computed cell volume is `fl(1/3) ≠ 1/3`; on the 4-d mesh
`exMesh4` (dyadic) computed and exact cell volume and region volume coincide -/
example : exThird.dVFl C15.fl64 = 6004799503160661/18014398509481984 ∧ exThird.dV = 1/3 ∧
    exMesh4.dVFl C15.fl64 = exMesh4.dV ∧ exMesh4.region.volumeFl C15.fl64 = exMesh4.region.volume ∧
    (exMesh4.len : Rat) * exMesh4.dV = 3 := by decide +kernel

end DFV.C01
