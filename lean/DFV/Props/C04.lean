import DFV.Lemmas.C04Shift
import DFV.Lemmas.C04Fld
/-!
# C04 — derivatives are exact on low-degree polynomials, linear, and blind across gaps

Property theorems about the model of `_1d_diff` / `_split_diff_combine` / periodic wrap and of `Field.diff`
itself (`DFV/Model/C04.lean`), and about the index-level descriptions, the call by direction name, the storage kind
and the field constructors of `DFV/Model/C04Ext.lean`.  Line length, run length, run position, mask, step and values
are universally quantified.
-/
namespace DFV.C04
open DFV

/-! ## Each maximal run is differentiated on its own -/

/-- Segment lemma: in a line `a ++ [✗] ++ run ++ [✗] ++ b` the output on `run` is exactly
`diffRun run`, the delimiting invalid cell yields 0, and what precedes / follows is what
the prefix / suffix yield on their own. -/
theorem sdc_segment (order : Nat) (h : Rat)
    (a : List (Rat × Bool)) (y : Rat) (r : List Rat) (z : Rat) (b : List (Rat × Bool)) :
    diffLine order h (a ++ (y, false) :: (r.map (·, true) ++ (z, false) :: b))
      = diffLine order h (a ++ [(y, false)]) ++ diffRun order h r ++ 0 :: diffLine order h b :=
  sdcGo_segment _ (diffRun_nil order h) a y r z b []

/-- the same for a run that starts the line … -/
theorem sdc_segment_head (order : Nat) (h : Rat) (r : List Rat) (z : Rat) (b : List (Rat × Bool)) :
    diffLine order h (r.map (·, true) ++ (z, false) :: b)
      = diffRun order h r ++ 0 :: diffLine order h b :=
  sdcGo_head _ r z b

/-- … and for a run that ends it. -/
theorem sdc_segment_tail (order : Nat) (h : Rat) (a : List (Rat × Bool)) (y : Rat) (r : List Rat) :
    diffLine order h (a ++ (y, false) :: r.map (·, true))
      = diffLine order h (a ++ [(y, false)]) ++ diffRun order h r :=
  sdcGo_tail _ (diffRun_nil order h) a y r []

/-- a fully valid line is one run -/
theorem all_valid_one_run (order : Nat) (h : Rat) (r : List Rat) :
    diffLine order h (r.map (·, true)) = diffRun order h r :=
  sdcGo_all_valid _ r

/-- Locality: changing values (or validity) anywhere before the run's left delimiter or
after its right delimiter does not change the run's output. -/
theorem locality (order : Nat) (h : Rat)
    (a a' : List (Rat × Bool)) (y y' : Rat) (r : List Rat) (z z' : Rat) (b b' : List (Rat × Bool))
    (hlen : a.length = a'.length) :
    ((diffLine order h (a ++ (y, false) :: (r.map (·, true) ++ (z, false) :: b))).drop (a.length + 1)).take r.length
      = ((diffLine order h (a' ++ (y', false) :: (r.map (·, true) ++ (z', false) :: b'))).drop (a'.length + 1)).take r.length :=
  (diffLine_on_run order h a y r z b).trans (diffLine_on_run order h a' y' r z' b').symm

/-- the output of the whole pass has the line's length (shape kept) -/
theorem diffLine_length (order : Nat) (h : Rat) (cells : List (Rat × Bool)) :
    (diffLine order h cells).length = cells.length :=
  diffLine_len order h cells

/-! ## Short runs give zero -/

theorem short_run_zero (order : Nat) (ho : order = 1 ∨ order = 2) (h : Rat) (xs : List Rat)
    (hs : xs.length ≤ order) (i : Nat) (hi : i < xs.length) :
    (diffRun order h xs).getD i 0 = 0 := by
  rw [diffRun_getD _ _ _ _ hi]
  exact dAt_short order ho h _ hs _ _

/-! ## Exactness on polynomials (any run position `x0`, any step `h ≠ 0`, any run length) -/

/-- first derivative, run of ≥ 3 cells: exact for every polynomial of degree ≤ 2, at the
first cell, the interior cells and the last cell -/
theorem d1_exact (a b c x0 h : Rat) (hh : h ≠ 0) (L : Nat) (hL : 3 ≤ L) (i : Nat) (hi : i < L) :
    d1At h L (fun k => a + b * (x0 + (k : Rat) * h) + c * (x0 + (k : Rat) * h) ^ 2) i
      = b + 2 * c * (x0 + (i : Rat) * h) :=
  d1At_exact a b c x0 h hh L hL i hi

/-- first derivative, two-cell run: exact for polynomials of degree ≤ 1 -/
theorem d1_exact_two (a b x0 h : Rat) (hh : h ≠ 0) (i : Nat) :
    d1At h 2 (fun k => a + b * (x0 + (k : Rat) * h)) i = b :=
  d1At_exact_two a b x0 h hh i

/-- second derivative, run of ≥ 4 cells: exact for every polynomial of degree ≤ 3 -/
theorem d2_exact (a b c d x0 h : Rat) (hh : h ≠ 0) (L : Nat) (hL : 4 ≤ L) (i : Nat) (hi : i < L) :
    d2At h L (fun k => a + b * (x0 + (k : Rat) * h) + c * (x0 + (k : Rat) * h) ^ 2
        + d * (x0 + (k : Rat) * h) ^ 3) i
      = 2 * c + 6 * d * (x0 + (i : Rat) * h) :=
  d2At_exact a b c d x0 h hh L hL i hi

/-- second derivative, three-cell run: exact for polynomials of degree ≤ 2 -/
theorem d2_exact_three (a b c x0 h : Rat) (hh : h ≠ 0) (i : Nat) :
    d2At h 3 (fun k => a + b * (x0 + (k : Rat) * h) + c * (x0 + (k : Rat) * h) ^ 2) i = 2 * c :=
  d2At_exact_three a b c x0 h hh i

/-! ## Linearity -/

/-- the stencils are linear in the values (same run length, same position) -/
theorem dAt_linear (order : Nat) (h : Rat) (L : Nat) (f g : Nat → Rat) (α β : Rat) (i : Nat) :
    dAt order h L (fun k => α * f k + β * g k) i = α * dAt order h L f i + β * dAt order h L g i :=
  dAt_comb order h L f g α β i

/-- the whole pass is linear for two lines with the same validity pattern -/
theorem sdc_linear (order : Nat) (h : Rat) (α β : Rat) (cells : List ((Rat × Rat) × Bool)) :
    ∀ (accF accG : List Rat), accF.length = accG.length →
    sdcGo (diffRun order h) (cells.map fun c => (α * c.1.1 + β * c.1.2, c.2))
        (List.zipWith (fun x y => α * x + β * y) accF accG)
      = List.zipWith (fun x y => α * x + β * y)
          (sdcGo (diffRun order h) (cells.map fun c => (c.1.1, c.2)) accF)
          (sdcGo (diffRun order h) (cells.map fun c => (c.1.2, c.2)) accG) := by
  induction cells with
  | nil =>
    intro accF accG hl
    simp only [List.map_nil, sdcGo]
    rw [List.reverse_zipWith hl, diffRun_zipWith _ _ _ _ _ _ (by simp [hl])]
  | cons c cs ih =>
    intro accF accG hl
    obtain ⟨⟨x, y⟩, v⟩ := c
    cases v
    · simp only [List.map_cons, sdcGo]
      rw [List.reverse_zipWith hl, diffRun_zipWith _ _ _ _ _ _ (by simp [hl])]
      have := ih [] [] rfl
      simp only [List.zipWith_nil_left] at this
      rw [this]
      rw [List.zipWith_append (by simp [diffRun_length, hl])]
      -- `zipWith` over `_ ++ 0 :: _`, and `α * 0 + β * 0 = 0`
      simp
    · simp only [List.map_cons, sdcGo]
      have := ih (x :: accF) (y :: accG) (by simp [hl])
      simpa using this

/-! ## Periodic direction: centred differences with wrap-around -/

/-- Periodic direction, every cell valid (or validity restriction off): the first
derivative is the centred difference with wrap-around, for every ring length `L ≥ 1`. -/
theorem ring_centred_d1 (h : Rat) (xs : List Rat) (j : Nat) (hj : j < xs.length) :
    (diffRing 1 h (xs.map (·, true))).getD j 0
      = (ringVal xs (j + 1) - ringVal xs (j + xs.length - 1)) / (2 * h) := by
  rw [diffRing_map_true_getD 1 h xs j hj, centred, if_pos rfl]
  rfl

/-- … and the second derivative is the centred second difference with wrap-around. -/
theorem ring_centred_d2 (h : Rat) (xs : List Rat) (j : Nat) (hj : j < xs.length) :
    (diffRing 2 h (xs.map (·, true))).getD j 0
      = (ringVal xs (j + 1) - 2 * ringVal xs j + ringVal xs (j + xs.length - 1)) / (h * h) := by
  rw [diffRing_map_true_getD 2 h xs j hj, centred, if_neg (by omega)]
  rfl

/-! ## masked rings: where the seam is not crossed the ring is an open line -/

/-- Periodic direction, masked ring whose FIRST cell is invalid: no run crosses the seam and the
result is exactly that of the open line. -/
theorem ring_open_if_first_invalid (order : Nat) (h : Rat) (y : Rat) (rest : List (Rat × Bool)) :
    diffRing order h ((y, false) :: rest) = diffLine order h ((y, false) :: rest) :=
  diffRing_eq_diffLine order h _ (Or.inl rfl)

/-- … and likewise when the LAST cell is invalid. -/
theorem ring_open_if_last_invalid (order : Nat) (h : Rat) (y : Rat) (rest : List (Rat × Bool)) :
    diffRing order h (rest ++ [(y, false)]) = diffLine order h (rest ++ [(y, false)]) := by
  refine diffRing_eq_diffLine order h _ (Or.inr ?_)
  rw [List.length_append, List.length_singleton, Nat.add_sub_cancel]
  exact okOf_append_right rest [(y, false)] 0

/-! ## `Field.diff` as a total function of its inputs: acceptance, refusal, what is kept -/

/-- **`Field.diff` succeeds exactly on well-formed requests, and then keeps everything but the array**:
the result is `g` iff the order is 1 or 2, the axis exists, and `g` is the operand with its array
replaced by `diffData` — same mesh (region, cells, `bc`, subregions), component count, labels,
`vdim_mapping`, unit and validity, for every axis, order and setting of `restrict2valid`. -/
theorem diff_ok_iff (f g : Fld) (ax order : Nat) (r : Bool) :
    diff f ax order r = .ok g ↔
      (order = 1 ∨ order = 2) ∧ ax < f.mesh.ndim ∧ g = { f with data := diffData f ax order r } := by
  rw [diff_eq, guard_ok_iff, guard_ok_iff, Except.ok.injEq, eq_comm (b := g)]
  exact and_congr ⟨fun h => by omega, fun h => by omega⟩ (and_congr_left' Nat.not_le)

/-- acceptance from the inputs alone -/
theorem diff_accepts_iff (f : Fld) (ax order : Nat) (r : Bool) :
    (∃ g, diff f ax order r = .ok g) ↔ (order = 1 ∨ order = 2) ∧ ax < f.mesh.ndim := by
  constructor
  · rintro ⟨g, hg⟩
    have := (diff_ok_iff f g ax order r).mp hg
    exact ⟨this.1, this.2.1⟩
  · rintro ⟨h1, h2⟩
    exact ⟨_, (diff_ok_iff f _ ax order r).mpr ⟨h1, h2, rfl⟩⟩

/-- **refusal ⇔ malformed, with the kind of refusal**: `NotImplementedError` exactly for an order other
than 1 and 2 (whatever the axis), `ValueError` exactly for an admissible order and an axis the mesh
does not have; nothing else is refused. -/
theorem diff_rejects_iff (f : Fld) (ax order : Nat) (r : Bool) (e : Err) :
    diff f ax order r = .error e ↔
      (e = .notImpl ∧ order ≠ 1 ∧ order ≠ 2) ∨ (e = .value ∧ (order = 1 ∨ order = 2) ∧ f.mesh.ndim ≤ ax) := by
  rw [diff_eq, guard_error_iff, guard_error_iff]
  constructor
  · rintro (⟨ho, rfl⟩ | ⟨ho, ⟨hax, rfl⟩ | ⟨-, h⟩⟩)
    · exact Or.inl ⟨rfl, ho⟩
    · exact Or.inr ⟨rfl, by omega, hax⟩
    · cases h
  · rintro (⟨rfl, ho⟩ | ⟨rfl, ho, hax⟩)
    · exact Or.inl ⟨ho, rfl⟩
    · exact Or.inr ⟨by omega, Or.inl ⟨hax, rfl⟩⟩

/-- `Field.diff` with the direction given by NAME: a known name is the call with its index -/
theorem diffDir_eq_diff (f : Fld) (dir : String) (ax order : Nat) (r : Bool)
    (h : indexOf? f.mesh.region.dims dir = some ax) : diffDir f dir order r = diff f ax order r :=
  diffDir_known f dir ax order r h

/-- **acceptance of `Field.diff(direction, order, …)` from the inputs**: it succeeds iff the order is 1
or 2 and the name is one of the mesh's axis names (for a mesh whose region has one name per axis) -/
theorem diffDir_accepts_iff (f : Fld) (dir : String) (order : Nat) (r : Bool)
    (hd : f.mesh.region.dims.length = f.mesh.ndim) :
    (∃ g, diffDir f dir order r = .ok g) ↔ (order = 1 ∨ order = 2) ∧ dir ∈ f.mesh.region.dims := by
  cases hi : indexOf? f.mesh.region.dims dir with
  | none =>
    rw [diffDir_unknown f dir order r hi]
    constructor
    · rintro ⟨g, hg⟩; split at hg <;> cases hg
    · exact fun h => absurd h.2 ((indexOf?_eq_none_iff _ _).mp hi)
  | some ax =>
    -- a known name: the call by index, whose axis exists
    rw [diffDir_eq_diff f dir ax order r hi, diff_accepts_iff, ← hd]
    exact and_congr_right' ⟨fun _ => indexOf?_mem _ _ _ hi, fun _ => (indexOf?_some _ _ _ hi).1⟩

/-- **refusal ⇔ malformed for the call by name**: `NotImplementedError` exactly for an order other than
1 and 2 — checked BEFORE the name, so also for an unknown name — and `ValueError` exactly for an
admissible order with an unknown name. -/
theorem diffDir_rejects_iff (f : Fld) (dir : String) (order : Nat) (r : Bool) (e : Err)
    (hd : f.mesh.region.dims.length = f.mesh.ndim) :
    diffDir f dir order r = .error e ↔
      (e = .notImpl ∧ order ≠ 1 ∧ order ≠ 2) ∨ (e = .value ∧ (order = 1 ∨ order = 2) ∧ dir ∉ f.mesh.region.dims) := by
  cases hi : indexOf? f.mesh.region.dims dir with
  | none =>
    rw [diffDir_unknown f dir order r hi, guard_error_iff]
    constructor
    · rintro (⟨ho, rfl⟩ | ⟨ho, h⟩)
      · exact Or.inl ⟨rfl, ho⟩
      · cases h; exact Or.inr ⟨rfl, by omega, (indexOf?_eq_none_iff _ _).mp hi⟩
    · rintro (⟨rfl, ho⟩ | ⟨rfl, ho, -⟩)
      · exact Or.inl ⟨ho, rfl⟩
      · exact Or.inr ⟨by omega, rfl⟩
  | some ax =>
    -- a known name: the call by index, whose axis exists, so that neither side has a `ValueError`
    rw [diffDir_eq_diff f dir ax order r hi, diff_rejects_iff, ← hd]
    exact or_congr_right (and_congr_right' (and_congr_right'
      ⟨fun h => absurd (indexOf?_some _ _ _ hi).1 (Nat.not_lt.mpr h), fun h => absurd (indexOf?_mem _ _ _ hi) h⟩))

/-! ## field level: per component, per grid line, metadata -/

/-- `Field.diff` keeps mesh, component count, labels, mapping, unit and validity, and the
array shape -/
theorem diff_keeps_meta (f g : Fld) (ax order : Nat) (restrict : Bool) (h : diff f ax order restrict = .ok g) :
    g.mesh = f.mesh ∧ g.nvdim = f.nvdim ∧ g.vdims = f.vdims ∧ g.vmap = f.vmap ∧ g.unit = f.unit ∧
    g.valid.shape = f.valid.shape ∧ g.valid.get = f.valid.get ∧ g.data.shape = f.data.shape := by
  obtain ⟨-, -, rfl⟩ := (diff_ok_iff f g ax order restrict).mp h
  exact ⟨rfl, rfl, rfl, rfl, rfl, rfl, rfl, rfl⟩

/-- orders other than 1 and 2 are refused -/
theorem diff_rejects_order (f : Fld) (ax order : Nat) (restrict : Bool) (ho : order ≠ 1 ∧ order ≠ 2) :
    diff f ax order restrict = .error .notImpl := by
  rw [diff_eq, if_pos ho]

/-- Per component and per grid line: the value of `diff` at cell `i`, component `c`, is entry
`i[ax]` of the 1-d derivative of the line through `i` — it depends on nothing else. -/
theorem diff_cell (f g : Fld) (ax order : Nat) (restrict : Bool) (h : diff f ax order restrict = .ok g)
    (i : List Nat) (c : Nat) (hc : c < f.nvdim) :
    (g.data.get i).getD c 0
      = (diffLine' (periodicBc f.mesh.bc (f.mesh.region.dims.getD ax ""))
          restrict order (f.mesh.cellAt ax) (lineCells f ax i c)).getD (i.getD ax 0) 0 := by
  obtain ⟨-, -, rfl⟩ := (diff_ok_iff f g ax order restrict).mp h
  exact diffData_getD f ax order restrict i c hc

/-- Hence two fields on the same mesh that agree (values of component `c` and validity) on the
grid line through `i` have the same derivative at `(i, c)`, whatever they hold elsewhere and in
other components. -/
theorem diff_linewise (f1 f2 g1 g2 : Fld) (ax order : Nat) (restrict : Bool)
    (h1 : diff f1 ax order restrict = .ok g1) (h2 : diff f2 ax order restrict = .ok g2)
    (hmesh : f1.mesh = f2.mesh) (i : List Nat) (c : Nat) (hc1 : c < f1.nvdim) (hc2 : c < f2.nvdim)
    (hline : lineCells f1 ax i c = lineCells f2 ax i c) :
    (g1.data.get i).getD c 0 = (g2.data.get i).getD c 0 := by
  rw [diff_cell f1 g1 ax order restrict h1 i c hc1, diff_cell f2 g2 ax order restrict h2 i c hc2, hmesh, hline]

/-- with the validity restriction switched off the whole line is treated as one run:
same result as for an all-true mask -/
theorem restrict_off (periodic : Bool) (order : Nat) (h : Rat) (cells : List (Rat × Bool)) :
    diffLine' periodic false order h cells = diffLine' periodic true order h (cells.map fun c => (c.1, true)) :=
  diffLine'_false periodic order h cells

/-- … and on an open line that is the plain stencil over the whole line -/
theorem restrict_off_open (order : Nat) (h : Rat) (cells : List (Rat × Bool)) :
    diffLine' false false order h cells = diffRun order h (cells.map (·.1)) := by
  unfold diffLine'
  simp only [Bool.false_eq_true, if_false]
  have : (cells.map fun c => (c.1, true)) = (cells.map (·.1)).map (·, true) := by simp
  rw [this, all_valid_one_run]

/-! ## Refinement: the accumulator walk computes the index-level spec -/

/-- **Refinement theorem.**  At every position of every open line — every length, every one of
the `2^L` masks, both orders, any step — the code-shaped pass (`_split_diff_combine`: walk the
line, collect the current run, flush it through `_1d_diff` at an invalid cell or at the end)
returns `diffSpec`: 0 at an invalid cell, otherwise the stencil of the cell's own maximal run of
valid cells (`runBefore` cells before it, `runFrom` cells from it on) at its position in that run. -/
theorem diffLine_refines_spec (o : Nat) (h : Rat) (cells : List (Rat × Bool)) (i : Nat) (hi : i < cells.length) :
    (diffLine o h cells).getD i 0 = diffSpec o h cells.length (valOf cells) (okOf cells) i :=
  diffLine_getD_spec o h cells i hi

/-- … and in a periodic direction the same spec applied to the line padded by one wrapped cell on
each side, read at position `j + 1` (that is all the periodic code path does) -/
theorem diffRing_refines_spec (o : Nat) (h : Rat) (cells : List (Rat × Bool)) (j : Nat) (hj : j < cells.length) :
    (diffRing o h cells).getD j 0
      = diffSpec o h (cells.length + 2) (valOf (wrap1 cells)) (okOf (wrap1 cells)) (j + 1) := by
  have hne : cells ≠ [] := by intro e; subst e; simp at hj
  rw [diffRing_getD o h cells j hj, diffLine_getD_spec o h (wrap1 cells) (j + 1) (by rw [wrap1_length _ hne]; omega),
    wrap1_length _ hne]

/-- an invalid cell yields zero (open line; every order) -/
theorem invalid_cell_zero (o : Nat) (h : Rat) (cells : List (Rat × Bool)) (i : Nat) (hi : i < cells.length)
    (hv : okOf cells i = false) : (diffLine o h cells).getD i 0 = 0 := by
  rw [diffLine_getD_spec o h cells i hi, diffSpec, hv]; rfl

/-- an invalid cell yields zero in a periodic direction too -/
theorem invalid_cell_zero_ring (o : Nat) (h : Rat) (cells : List (Rat × Bool)) (j : Nat) (hj : j < cells.length)
    (hv : okOf cells j = false) : (diffRing o h cells).getD j 0 = 0 := by
  rw [diffRing_getD_ringSpec o h cells j hj, ringSpec, hv]; rfl

/-- a cell whose maximal run is not longer than the derivative order yields zero -/
theorem short_run_zero_at (o : Nat) (ho : o = 1 ∨ o = 2) (h : Rat) (cells : List (Rat × Bool)) (i : Nat)
    (hi : i < cells.length)
    (hs : runBefore (okOf cells) i + runFrom (okOf cells) cells.length i ≤ o) :
    (diffLine o h cells).getD i 0 = 0 := by
  rw [diffLine_getD_spec o h cells i hi, diffSpec]
  split
  · exact dAt_short o ho h _ hs _ _
  · rfl

/-- **Locality, index form.**  Two lines of the same length and the same validity pattern whose
values agree on the maximal run of cell `i` have the same derivative at `i` — whatever they hold
outside that run. -/
theorem line_locality (o : Nat) (h : Rat) (c1 c2 : List (Rat × Bool)) (i : Nat) (hl : c1.length = c2.length)
    (hi : i < c1.length) (hv : ∀ j, j < c1.length → okOf c1 j = okOf c2 j)
    (hx : ∀ j, i - runBefore (okOf c1) i ≤ j → j < i + runFrom (okOf c1) c1.length i → valOf c1 j = valOf c2 j) :
    (diffLine o h c1).getD i 0 = (diffLine o h c2).getD i 0 := by
  rw [diffLine_getD_spec o h c1 i hi, diffLine_getD_spec o h c2 i (by omega), ← hl]
  exact diffSpec_local o h _ _ _ _ _ i hi hv hx

/-! ## Reversal -/

/-- **Reversal of an open line**, every mask: the derivative of the reversed line is the reversed
derivative, negated for order 1 (this is what a quarter turn does to a grid line, C05/C12). -/
theorem line_reverse (o : Nat) (h : Rat) (cells : List (Rat × Bool)) :
    diffLine o h cells.reverse = ((diffLine o h cells).map (revSign o * ·)).reverse :=
  diffLine_reverse o h cells

/-- **Reversal of a periodic line**, every mask — also for runs that cross the seam. -/
theorem ring_reverse (o : Nat) (h : Rat) (cells : List (Rat × Bool)) :
    diffRing o h cells.reverse = ((diffRing o h cells).map (revSign o * ·)).reverse :=
  diffRing_reverse o h cells

/-- the whole pass is homogeneous: scaling the values scales the derivative (every mask, open or
periodic, restricted or not) -/
theorem line_smul (p r : Bool) (o : Nat) (h s : Rat) (cells : List (Rat × Bool)) :
    diffLine' p r o h (cells.map fun c => (s * c.1, c.2)) = (diffLine' p r o h cells).map (s * ·) := by
  refine list_eq_of_getD _ _ (s * 0) (by rw [List.length_map, diffLine'_length, diffLine'_length, List.length_map])
    fun k _ => ?_
  -- both lines written as tables of their entries, the form `diffLine'_smul_tab` speaks about
  rw [getD_map, mul_zero, map_eq_tab cells _ (0, false)]
  conv_rhs => rw [← tab_getD_self cells (0, false)]
  exact diffLine'_smul_tab p r o h s cells.length (fun j => (cells.getD j (0, false)).1)
    (fun j => (cells.getD j (0, false)).2) k

/-! ## Masked rings: what the code computes, run by run (known finding D17) -/

/-- **A run strictly inside the ring** (delimited by invalid cells on both sides within the stored
line) is differentiated on its own, exactly as on an open line: it gets the ring-run value. -/
theorem ring_inner_run (o : Nat) (h : Rat) (a : List (Rat × Bool)) (y : Rat) (r : List Rat) (z : Rat)
    (b : List (Rat × Bool)) (k : Nat) (hk : k < r.length) :
    (diffRing o h (a ++ (y, false) :: (r.map (·, true) ++ (z, false) :: b))).getD (a.length + 1 + k) 0
      = (diffRun o h r).getD k 0 := by
  have hne : a ++ (y, false) :: (r.map (·, true) ++ (z, false) :: b) ≠ [] := by simp
  obtain ⟨f, hf⟩ : ∃ f, (a ++ (y, false) :: (r.map (·, true) ++ (z, false) :: b)).head? = some f := by
    cases a <;> exact ⟨_, rfl⟩
  obtain ⟨l, hl⟩ : ∃ l, (a ++ (y, false) :: (r.map (·, true) ++ (z, false) :: b)).getLast? = some l :=
    ⟨_, List.getLast?_eq_some_getLast hne⟩
  have e : l :: (a ++ (y, false) :: (r.map (·, true) ++ (z, false) :: b)) ++ [f]
      = (l :: a) ++ (y, false) :: (r.map (·, true) ++ (z, false) :: (b ++ [f])) := by simp
  rw [diffRing_getD _ _ _ _ (by simp; omega), wrap1_of _ f l hf hl, e,
    show a.length + 1 + k + 1 = (l :: a).length + 1 + k by rw [List.length_cons]; omega,
    diffLine_getD_after_invalid, sdc_segment_head, getD_append_left _ _ _ _ (by rw [diffRun_length]; exact hk)]

/-- **The run at the start of the stored line, when the last cell is valid too** (the ring run
crosses the seam): the code differentiates `last cell ++ head run` as if it were a whole run — the
head run sees exactly ONE cell from the other side of the seam, not the rest of its ring run.
This is known finding D17. -/
theorem ring_head_run_seam (o : Nat) (h : Rat) (x0 : Rat) (p : List Rat) (y : Rat) (rest : List (Rat × Bool)) (xl : Rat)
    (hl : (((x0 :: p).map (·, true)) ++ (y, false) :: rest).getLast? = some (xl, true)) (k : Nat) (hk : k < p.length + 1) :
    (diffRing o h (((x0 :: p).map (·, true)) ++ (y, false) :: rest)).getD k 0
      = (diffRun o h (xl :: x0 :: p)).getD (k + 1) 0 := by
  have e : (xl, true) :: (((x0 :: p).map (·, true)) ++ (y, false) :: rest) ++ [(x0, true)]
      = (xl :: x0 :: p).map (·, true) ++ (y, false) :: (rest ++ [(x0, true)]) := by simp
  rw [diffRing_getD _ _ _ _ (by simp; omega), wrap1_of _ (x0, true) (xl, true) rfl hl, e, sdc_segment_head,
    getD_append_left _ _ _ _ (by rw [diffRun_length]; simp; omega)]

/-- **The run at the end of the stored line, when the first cell is valid too**: likewise it is
differentiated together with exactly one cell (the first) from beyond the seam. -/
theorem ring_tail_run_seam (o : Nat) (h : Rat) (a : List (Rat × Bool)) (y : Rat) (q : List Rat) (x0 : Rat)
    (hf : (a ++ (y, false) :: q.map (·, true)).head? = some (x0, true)) (k : Nat) (hk : k < q.length) :
    (diffRing o h (a ++ (y, false) :: q.map (·, true))).getD (a.length + 1 + k) 0
      = (diffRun o h (q ++ [x0])).getD k 0 := by
  have hne : a ++ (y, false) :: q.map (·, true) ≠ [] := by simp
  obtain ⟨l, hl⟩ : ∃ l, (a ++ (y, false) :: q.map (·, true)).getLast? = some l :=
    ⟨_, List.getLast?_eq_some_getLast hne⟩
  have e : l :: (a ++ (y, false) :: q.map (·, true)) ++ [(x0, true)]
      = (l :: a) ++ (y, false) :: (q ++ [x0]).map (·, true) := by simp
  rw [diffRing_getD _ _ _ _ (by simp; omega), wrap1_of _ (x0, true) l hf hl, e,
    show a.length + 1 + k + 1 = (l :: a).length + 1 + k by rw [List.length_cons]; omega,
    diffLine_getD_after_invalid, all_valid_one_run]

/-- **Shift-equivariance for masked rings whenever no run crosses the seam**: storing the ring
rotated so that another invalid cell comes first rotates the derivative by the same amount. -/
theorem ring_shift_off_seam (o : Nat) (h : Rat) (y z : Rat) (A B : List (Rat × Bool)) :
    diffRing o h ((z, false) :: B ++ (y, false) :: A)
      = (diffRing o h ((y, false) :: A ++ (z, false) :: B)).drop (A.length + 1)
        ++ (diffRing o h ((y, false) :: A ++ (z, false) :: B)).take (A.length + 1) := by
  have e1 : (y, false) :: A ++ (z, false) :: B = (y, false) :: (A ++ (z, false) :: B) := by simp
  have e2 : (z, false) :: B ++ (y, false) :: A = (z, false) :: (B ++ (y, false) :: A) := by simp
  rw [e1, e2, ring_open_if_first_invalid, ring_open_if_first_invalid]
  unfold diffLine sdc
  simp only [sdcGo, List.reverse_nil, diffRun_nil, List.nil_append]
  rw [sdcGo_split_invalid, sdcGo_split_invalid]
  have lA : (sdcGo (diffRun o h) A []).length = A.length := by
    rw [sdcGo_length _ (diffRun_length o h)]; simp
  have : (0 :: (sdcGo (diffRun o h) A [] ++ 0 :: sdcGo (diffRun o h) B []))
      = (0 :: sdcGo (diffRun o h) A []) ++ (0 :: sdcGo (diffRun o h) B []) := by simp
  rw [this, List.drop_left' (by simp [lA]), List.take_left' (by simp [lA])]
  simp

/-- … and the one-cell rotation that moves an invalid last cell to the front -/
theorem ring_shift_off_seam_one (o : Nat) (h : Rat) (y : Rat) (A : List (Rat × Bool)) :
    diffRing o h ((y, false) :: A) = 0 :: (diffRing o h (A ++ [(y, false)])).take A.length := by
  rw [ring_open_if_first_invalid, ring_open_if_last_invalid]
  unfold diffLine sdc
  simp only [sdcGo, List.reverse_nil, diffRun_nil, List.nil_append]
  rw [sdcGo_append_invalid _ (diffRun_nil o h)]
  have lA : (sdcGo (diffRun o h) A []).length = A.length := by
    rw [sdcGo_length _ (diffRun_length o h)]; simp
  rw [List.take_left' lA]

/-- **Known finding D17 on the model: `ring_shift` is FALSE for masked rings.**  Ring of 5 cells,
mask `[1,1,1,0,1]`, values `[7,1,4,9,2]`, `h = 1/2`, first derivative.  The ring run of cell 4 is
`2,7,1,4` (cells 4,0,1,2) and its one-sided stencil gives 21 at cell 4 — which is also what the
code returns when the SAME ring is stored rolled by 4 (`[2,7,1,4,9]`, mask `[1,1,1,1,0]`, cell 4
at position 0).  Stored as given, the run crosses the seam, cell 4 sees only `2,7` and gets 10. -/
theorem ring_shift_masked_counterexample :
    (diffRing 1 (1/2) [(7, true), (1, true), (4, true), (9, false), (2, true)]).getD 4 0 = 10 ∧
    (diffRun 1 (1/2) [2, 7, 1, 4]).getD 0 0 = 21 ∧
    (diffRing 1 (1/2) [(2, true), (7, true), (1, true), (4, true), (9, false)]).getD 0 0 = 21 := by
  decide +kernel

/-- hence shift-equivariance cannot be extended from fully valid rings (`ring_shift`) to all masks (the rotated ring is
`rotCells cells s`, written out) -/
theorem ring_shift_not_for_all_masks :
    ¬ ∀ (cells : List (Rat × Bool)) (s j : Nat), j < cells.length →
      (diffRing 1 (1/2) (tab cells.length fun k => cells.getD ((k + s) % cells.length) (0, false))).getD j 0
        = (diffRing 1 (1/2) cells).getD ((j + s) % cells.length) 0 := fun hall =>
  absurd (hall [(7, true), (1, true), (4, true), (9, false), (2, true)] 4 0 (by decide)) (by decide +kernel)

/-! ## Periodic lines, every mask: the ring-level spec (known finding D17 stated exactly) -/

/-- **What `Field.diff` computes along a periodic line, for every mask — ONE statement that covers the
runs crossing the seam.**  At an invalid cell 0.  At a valid cell `j` the run stencil over the cells
`ringBefore` before `j` and `ringFrom` from `j` on, read off the ring cyclically, where these counts
are the valid cells around `j` INSIDE THE STORED LINE plus — when they reach the start (the end) of
the stored line — exactly ONE more cell from the other side of the seam if that cell is valid.  A
ring run that crosses the seam is therefore cut one cell beyond the seam (known finding D17); a run
that does not touch the seam, and a fully valid ring, are differentiated as the property says. -/
theorem diffRing_refines_ringSpec (o : Nat) (h : Rat) (cells : List (Rat × Bool)) (j : Nat) (hj : j < cells.length) :
    (diffRing o h cells).getD j 0 = ringSpec o h cells.length (valOf cells) (okOf cells) j :=
  diffRing_getD_ringSpec o h cells j hj

/-- **Every line as `Field.diff` differentiates it — open or periodic, restricted to valid cells or
not, every mask — computes `lineSpec`**: 0 at a cell that counts as invalid, otherwise the run stencil
over the window `winB` cells before and `winA` cells from the cell on (`runBefore`/`runFrom` on an open
line, `ringBefore`/`ringFrom` on a periodic one; with the restriction off every cell counts as valid). -/
theorem diffLine'_refines_lineSpec (p r : Bool) (o : Nat) (h : Rat) (cells : List (Rat × Bool)) (j : Nat)
    (hj : j < cells.length) :
    (diffLine' p r o h cells).getD j 0 = lineSpec p r o h cells.length (valOf cells) (okOf cells) j :=
  diffLine'_getD_lineSpec p r o h cells j hj

/-- **A cell whose run does not cross the seam is differentiated as on the open line**: if the valid
cells before `j` do not reach the start of the stored line or the last cell is invalid, and the valid
cells from `j` on do not reach its end or the first cell is invalid, periodic and open results agree
at `j` (generalises `ring_inner_run`, `ring_open_if_first_invalid`, `ring_open_if_last_invalid`). -/
theorem ring_cell_off_seam (o : Nat) (h : Rat) (cells : List (Rat × Bool)) (j : Nat) (hj : j < cells.length)
    (hb : runBefore (okOf cells) j < j ∨ okOf cells (cells.length - 1) = false)
    (ha : j + runFrom (okOf cells) cells.length j < cells.length ∨ okOf cells 0 = false) :
    (diffRing o h cells).getD j 0 = (diffLine o h cells).getD j 0 := by
  rw [diffRing_getD_ringSpec o h cells j hj, diffLine_getD_spec o h cells j hj]
  exact ringSpec_off_seam o h _ _ _ j hj hb ha

/-- **Short runs on a periodic line yield zero**: a cell whose differentiated run (its run in the
stored line plus at most one cell beyond the seam on each side) has at most `order` cells gets 0. -/
theorem ring_short_run_zero (o : Nat) (ho : o = 1 ∨ o = 2) (h : Rat) (cells : List (Rat × Bool)) (j : Nat)
    (hj : j < cells.length)
    (hs : ringBefore (okOf cells) cells.length j + ringFrom (okOf cells) cells.length j ≤ o) :
    (diffRing o h cells).getD j 0 = 0 := by
  rw [diffRing_getD_ringSpec o h cells j hj]
  unfold ringSpec
  split
  · exact dAt_short o ho h _ hs _ _
  · rfl

/-- **Locality on a periodic line, index form, every mask**: two rings of the same length with the same
validity whose values agree on the window of cell `j` (`ringBefore` cells before it, `ringFrom` from
it on, positions taken cyclically) have the same derivative at `j` — whatever they hold elsewhere. -/
theorem ring_locality (o : Nat) (h : Rat) (c1 c2 : List (Rat × Bool)) (j : Nat) (hl : c1.length = c2.length)
    (hj : j < c1.length) (hv : ∀ k, k < c1.length → okOf c1 k = okOf c2 k)
    (hx : ∀ k, k < ringBefore (okOf c1) c1.length j + ringFrom (okOf c1) c1.length j →
      valOf c1 ((j + c1.length - ringBefore (okOf c1) c1.length j + k) % c1.length)
        = valOf c2 ((j + c1.length - ringBefore (okOf c1) c1.length j + k) % c1.length)) :
    (diffRing o h c1).getD j 0 = (diffRing o h c2).getD j 0 := by
  rw [diffRing_getD_ringSpec o h c1 j hj, diffRing_getD_ringSpec o h c2 j (by omega), ← hl, ringSpec_eq_winSpec,
    ringSpec_eq_winSpec]
  exact winSpec_local true o h _ _ _ _ _ j hj hv hx

/-! ## Cyclic shifts: exactly which masks admit equivariance -/

/-- **On a fully valid ring the derivative of the rotated ring is the rotated derivative** (position
form of `ring_shift`: the ring stored from cell `s` on). -/
theorem ring_rot_all_valid (o : Nat) (h : Rat) (cells : List (Rat × Bool)) (s j : Nat) (hj : j < cells.length)
    (hall : ∀ k, k < cells.length → okOf cells k = true) :
    (diffRing o h (rotCells cells s)).getD j 0 = (diffRing o h cells).getD ((j + s) % cells.length) 0 := by
  have hL : 0 < cells.length := by omega
  rw [diffRing_rot_getD o h cells s j hj,
    ringSpec_allValid o h _ _ _ j hj (fun k _ => hall _ (Nat.mod_lt _ hL)), centred_rot o h _ (valOf cells) s j hL,
    diffRing_getD_ringSpec o h cells _ (Nat.mod_lt _ hL), ringSpec_allValid o h _ _ _ _ (Nat.mod_lt _ hL) hall]

/-- Hence on a fully valid ring the derivative commutes with cyclic shifts (`ho` is not needed). -/
theorem ring_shift (order : Nat) (ho : order = 1 ∨ order = 2) (h : Rat) (xs : List Rat) (s : Nat)
    (j : Nat) (hj : j < xs.length) :
    (diffRing order h ((roll xs s).map (·, true))).getD j 0
      = ringVal (tab xs.length fun k => (diffRing order h (xs.map (·, true))).getD k 0) (j + s) := by
  have hl : (xs.map (·, true)).length = xs.length := List.length_map _
  have e : (roll xs s).map (·, true) = rotCells (xs.map (·, true)) s := by
    rw [roll, tab_map, rotCells, hl]
    exact tab_congr _ _ _ fun k _ => Prod.ext (valOf_map_true xs _).symm
      ((decide_eq_true (Nat.mod_lt _ (by omega))).symm.trans (okOf_map_true xs _).symm)
  rw [e, ring_rot_all_valid order h _ s j (by rw [hl]; exact hj)
    (fun k hk => by rw [okOf_map_true]; exact decide_eq_true (by rw [← hl]; exact hk)), hl, ringVal_tab _ _ _ (by omega)]

/-- **… and on a ring without three cyclically consecutive valid cells** (every ring run has at most
two cells, wherever the seam is): every rotation commutes with the derivative, for every mask of
that kind, all data, both orders. -/
theorem ring_rot_no_three (o : Nat) (ho : o = 1 ∨ o = 2) (h : Rat) (cells : List (Rat × Bool)) (s j : Nat)
    (hj : j < cells.length) (h3 : noThree (okOf cells) cells.length) :
    (diffRing o h (rotCells cells s)).getD j 0 = (diffRing o h cells).getD ((j + s) % cells.length) 0 := by
  have hL : 0 < cells.length := by omega
  rw [diffRing_rot_getD o h cells s j hj,
    ringSpec_noThree o ho h _ _ _ j hj (noThree_rot (okOf cells) _ s h3), shortRing_rot o h _ (valOf cells) (okOf cells) s j hj,
    diffRing_getD_ringSpec o h cells _ (Nat.mod_lt _ hL), ringSpec_noThree o ho h _ _ _ _ (Nat.mod_lt _ hL) h3]

/-- **Shift-equivariance holds for EXACTLY these masks.**  For a mask `m` (any length), order 1 or 2
and step `h ≠ 0`: the periodic derivative commutes with every rotation of the stored ring for all
data with that validity pattern IF AND ONLY IF every cell is valid or the mask has no three
cyclically consecutive valid cells.  For every other mask (a ring run of three or more cells next to
an invalid cell) there are data and a rotation for which it fails — known finding D17, delimited
exactly. -/
theorem ring_shift_iff (o : Nat) (ho : o = 1 ∨ o = 2) (h : Rat) (hh : h ≠ 0) (m : List Bool) :
    (∀ (cells : List (Rat × Bool)), cells.map (·.2) = m → ∀ s j, j < m.length →
        (diffRing o h (rotCells cells s)).getD j 0 = (diffRing o h cells).getD ((j + s) % m.length) 0)
      ↔ ((∀ k, k < m.length → m.getD k false = true) ∨ noThree (fun k => m.getD k false) m.length) := by
  have hok : ∀ (cells : List (Rat × Bool)), cells.map (·.2) = m → ∀ k, okOf cells k = m.getD k false :=
    fun cells hm k => by rw [okOf_of_mask, hm]
  have hlen : ∀ (cells : List (Rat × Bool)), cells.map (·.2) = m → cells.length = m.length :=
    fun cells hm => by rw [← hm, List.length_map]
  constructor
  · intro H
    apply Classical.byContradiction
    intro hnot
    -- neither condition holds: an invalid cell and three consecutive valid cells
    obtain ⟨hnall, hn3⟩ := not_or.mp hnot
    obtain ⟨k0, hk⟩ := Classical.not_forall.mp hnall
    obtain ⟨hk0, hbad⟩ := Classical.not_imp.mp hk
    obtain ⟨c, hc'⟩ := Classical.not_forall.mp hn3
    obtain ⟨hc, h3⟩ := Classical.not_imp.mp hc'
    -- on such a mask some data have two storages that disagree at one cell; `H` says they agree
    obtain ⟨cells, e, hm, he, hne⟩ := exists_rot_mismatch o ho h hh m k0 hk0 ((Bool.not_eq_true _).mp hbad) c hc
      (Classical.not_not.mp h3)
    apply hne
    rw [H cells hm (e + 1) (m.length - 1) (by omega), H cells hm e 0 (by omega)]
    congr 1
    rw [show m.length - 1 + (e + 1) = e + m.length by omega, Nat.add_mod_right, Nat.zero_add]
  · rintro (hall | h3) cells hm s j hj
    · have hcl := hlen cells hm
      rw [← hcl]
      exact ring_rot_all_valid o h cells s j (by rw [hcl]; exact hj) (fun k hk => by rw [hok cells hm]; exact hall k (by rw [← hcl]; exact hk))
    · have hcl := hlen cells hm
      rw [← hcl]
      apply ring_rot_no_three o ho h cells s j (by rw [hcl]; exact hj)
      rw [hcl, show okOf cells = fun k => m.getD k false from funext (hok cells hm)]
      exact h3

/-! ## Line level, every kind of line: zeros on short runs, exactness on every window -/

/-- **Runs of length 1, and runs of length 2 for the second derivative, yield zero on every kind of line**
(open or periodic, restricted or not): a cell whose window has at most `order` cells gets 0. -/
theorem line_short_run_zero (p r : Bool) (o : Nat) (ho : o = 1 ∨ o = 2) (h : Rat) (cells : List (Rat × Bool)) (j : Nat)
    (hj : j < cells.length)
    (hs : winB p (effOk r (okOf cells)) cells.length j + winA p (effOk r (okOf cells)) cells.length j ≤ o) :
    (diffLine' p r o h cells).getD j 0 = 0 := by
  rw [diffLine'_getD_lineSpec p r o h cells j hj]
  unfold lineSpec winSpec
  split
  · exact dAt_short o ho h _ hs _ _
  · rfl

/-- **First derivative, window of ≥ 3 cells, every kind of line: exact for polynomials of degree ≤ 2** at
every position of the window (first cell, interior, last cell), any step `h ≠ 0`, any mask. -/
theorem line_exact_d1 (p r : Bool) (h : Rat) (hh : h ≠ 0) (cells : List (Rat × Bool)) (j : Nat) (hj : j < cells.length)
    (hv : effOk r (okOf cells) j = true)
    (hlen : 3 ≤ winB p (effOk r (okOf cells)) cells.length j + winA p (effOk r (okOf cells)) cells.length j)
    (a0 b0 c0 x0 : Rat)
    (hx : ∀ k, k < winB p (effOk r (okOf cells)) cells.length j + winA p (effOk r (okOf cells)) cells.length j →
      valOf cells (winIdx p (effOk r (okOf cells)) cells.length j k)
        = a0 + b0 * (x0 + (k : Rat) * h) + c0 * (x0 + (k : Rat) * h) ^ 2) :
    (diffLine' p r 1 h cells).getD j 0
      = b0 + 2 * c0 * (x0 + (winB p (effOk r (okOf cells)) cells.length j : Rat) * h) := by
  rw [diffLine'_getD_lineSpec p r 1 h cells j hj, lineSpec, winSpec, if_pos hv]
  exact dAt_one_exact h hh _ _ _ hlen (winB_lt_window p r cells j hj hv) a0 b0 c0 x0 hx

/-- **First derivative, window of exactly two cells: exact for polynomials of degree ≤ 1** -/
theorem line_exact_d1_two (p r : Bool) (h : Rat) (hh : h ≠ 0) (cells : List (Rat × Bool)) (j : Nat) (hj : j < cells.length)
    (hv : effOk r (okOf cells) j = true)
    (hlen : winB p (effOk r (okOf cells)) cells.length j + winA p (effOk r (okOf cells)) cells.length j = 2)
    (a0 b0 x0 : Rat)
    (hx : ∀ k, k < 2 → valOf cells (winIdx p (effOk r (okOf cells)) cells.length j k) = a0 + b0 * (x0 + (k : Rat) * h)) :
    (diffLine' p r 1 h cells).getD j 0 = b0 := by
  rw [diffLine'_getD_lineSpec p r 1 h cells j hj, lineSpec, winSpec, if_pos hv]
  exact dAt_one_exact_two h hh _ _ _ hlen (winB_lt_window p r cells j hj hv) a0 b0 x0 hx

/-- **Second derivative, window of ≥ 4 cells: exact for polynomials of degree ≤ 3** -/
theorem line_exact_d2 (p r : Bool) (h : Rat) (hh : h ≠ 0) (cells : List (Rat × Bool)) (j : Nat) (hj : j < cells.length)
    (hv : effOk r (okOf cells) j = true)
    (hlen : 4 ≤ winB p (effOk r (okOf cells)) cells.length j + winA p (effOk r (okOf cells)) cells.length j)
    (a0 b0 c0 d0 x0 : Rat)
    (hx : ∀ k, k < winB p (effOk r (okOf cells)) cells.length j + winA p (effOk r (okOf cells)) cells.length j →
      valOf cells (winIdx p (effOk r (okOf cells)) cells.length j k)
        = a0 + b0 * (x0 + (k : Rat) * h) + c0 * (x0 + (k : Rat) * h) ^ 2 + d0 * (x0 + (k : Rat) * h) ^ 3) :
    (diffLine' p r 2 h cells).getD j 0
      = 2 * c0 + 6 * d0 * (x0 + (winB p (effOk r (okOf cells)) cells.length j : Rat) * h) := by
  rw [diffLine'_getD_lineSpec p r 2 h cells j hj, lineSpec, winSpec, if_pos hv]
  exact dAt_two_exact h hh _ _ _ hlen (winB_lt_window p r cells j hj hv) a0 b0 c0 d0 x0 hx

/-- **Second derivative, window of exactly three cells: exact for polynomials of degree ≤ 2** -/
theorem line_exact_d2_three (p r : Bool) (h : Rat) (hh : h ≠ 0) (cells : List (Rat × Bool)) (j : Nat) (hj : j < cells.length)
    (hv : effOk r (okOf cells) j = true)
    (hlen : winB p (effOk r (okOf cells)) cells.length j + winA p (effOk r (okOf cells)) cells.length j = 3)
    (a0 b0 c0 x0 : Rat)
    (hx : ∀ k, k < 3 → valOf cells (winIdx p (effOk r (okOf cells)) cells.length j k)
        = a0 + b0 * (x0 + (k : Rat) * h) + c0 * (x0 + (k : Rat) * h) ^ 2) :
    (diffLine' p r 2 h cells).getD j 0 = 2 * c0 := by
  rw [diffLine'_getD_lineSpec p r 2 h cells j hj, lineSpec, winSpec, if_pos hv]
  exact dAt_two_exact_three h hh _ _ _ hlen (winB_lt_window p r cells j hj hv) a0 b0 c0 x0 hx

/-! ## n-d field level, EVERY kind of axis and both settings of `restrict2valid` -/

/-- **Field-level refinement for every axis, periodic or open, restricted to valid cells or not.**  For
every axis `ax` of an n-d mesh, every component `c` and every cell `i`, `Field.diff` stores
`lineSpec` of the grid line through `i`: 0 if the cell counts as invalid, otherwise the run stencil
over the cell's window along that line (open axis: its maximal run of valid cells; periodic axis: that
run inside the stored line plus at most one cell beyond the seam on each side; restriction off: every
cell counts as valid) — it reads nothing else of the field. -/
theorem diff_refines_lineSpec (f g : Fld) (ax order : Nat) (r : Bool) (h : diff f ax order r = .ok g)
    (i : List Nat) (c : Nat) (hc : c < f.nvdim) (hi : i.getD ax 0 < f.mesh.nAt ax) :
    (g.data.get i).getD c 0
      = lineSpec (periodicAx f ax) r order (f.mesh.cellAt ax) (f.mesh.nAt ax) (fun j => (f.data.line ax i j).getD c 0)
          (fun j => f.valid.line ax i j) (i.getD ax 0) :=
  (diff_cell f g ax order r h i c hc).trans (diffEntry f ax order r c i hi)

/-- the same in terms of the cell's window: `fldB` cells before it, `fldA` from it on, `fldWin k` the
value at the window's `k`-th cell -/
theorem diff_refines_window (f g : Fld) (ax order : Nat) (r : Bool) (h : diff f ax order r = .ok g)
    (i : List Nat) (c : Nat) (hc : c < f.nvdim) (hi : i.getD ax 0 < f.mesh.nAt ax) :
    (g.data.get i).getD c 0
      = if fldOk f r i then dAt order (f.mesh.cellAt ax) (fldB f ax r i + fldA f ax r i) (fldWin f ax r i c) (fldB f ax r i)
        else 0 := by
  rw [diff_refines_lineSpec f g ax order r h i c hc hi]
  unfold lineSpec winSpec fldB fldA fldWin
  rw [effOk_line_self]

/-- **Invalid cells yield zero** — every axis of either kind, both orders (`fldOk … = false` can only hold with the
restriction on). -/
theorem diff_invalid_zero_any (f g : Fld) (ax order : Nat) (r : Bool) (h : diff f ax order r = .ok g)
    (i : List Nat) (c : Nat) (hc : c < f.nvdim) (hi : i.getD ax 0 < f.mesh.nAt ax) (hv : fldOk f r i = false) :
    (g.data.get i).getD c 0 = 0 := by
  rw [diff_refines_window f g ax order r h i c hc hi, hv]; rfl

/-- **Runs not longer than the order yield zero — open AND periodic axes, restriction on or off**: a
cell whose window along `ax` has at most `order` cells gets 0 (on a periodic axis the window is the
run in the stored line plus at most one cell beyond the seam on each side). -/
theorem diff_short_run_zero_any (f g : Fld) (ax order : Nat) (r : Bool) (h : diff f ax order r = .ok g)
    (i : List Nat) (c : Nat) (hc : c < f.nvdim) (hi : i.getD ax 0 < f.mesh.nAt ax)
    (hs : fldB f ax r i + fldA f ax r i ≤ order) : (g.data.get i).getD c 0 = 0 := by
  have ho := diff_ok_order h
  rw [diff_refines_window f g ax order r h i c hc hi]
  split
  · exact dAt_short order ho _ _ hs _ _
  · rfl

/-- **n-d locality for every kind of axis and both settings of the restriction.**  Two fields on the
same mesh with the same validity along the grid line through `i` whose component `c` agrees on the
cells of `i`'s window along that line have the same derivative at `(i, c)` — whatever they hold
anywhere else: outside the window on the same line, on every other grid line, in every other component. -/
theorem diff_locality_any (f1 f2 g1 g2 : Fld) (ax order : Nat) (r : Bool)
    (h1 : diff f1 ax order r = .ok g1) (h2 : diff f2 ax order r = .ok g2) (hmesh : f1.mesh = f2.mesh)
    (i : List Nat) (c : Nat) (hc1 : c < f1.nvdim) (hc2 : c < f2.nvdim) (hi : i.getD ax 0 < f1.mesh.nAt ax)
    (hv : ∀ j, j < f1.mesh.nAt ax → f1.valid.line ax i j = f2.valid.line ax i j)
    (hx : ∀ k, k < fldB f1 ax r i + fldA f1 ax r i → fldWin f1 ax r i c k = fldWin f2 ax r i c k) :
    (g1.data.get i).getD c 0 = (g2.data.get i).getD c 0 := by
  have hp : periodicAx f2 ax = periodicAx f1 ax := periodicAx_congr hmesh.symm ax
  have he : ∀ j, j < f1.mesh.nAt ax →
      effOk r (fun j => f1.valid.line ax i j) j = effOk r (fun j => f2.valid.line ax i j) j := fun j hj => by
    unfold effOk; beta_reduce; rw [hv j hj]
  rw [diff_refines_lineSpec f1 g1 ax order r h1 i c hc1 hi,
    diff_refines_lineSpec f2 g2 ax order r h2 i c hc2 (by rw [← hmesh]; exact hi), hp, ← hmesh]
  refine winSpec_local _ _ _ _ _ _ _ _ _ hi he fun k hk => ?_
  -- the two fields have the same window, so `hx` compares the values at the same cells
  have := hx k hk
  unfold fldWin winIdx at this
  rwa [hp, ← hmesh, ← winB_congr _ _ _ _ _ hi he] at this

/-- **Exactness at field level for every kind of axis, first derivative, windows of ≥ 3 cells**: if
component `c` samples a polynomial of degree ≤ 2 of the position along the cell's window, the stored
derivative is the exact one — at the first cell of the window, in its interior and at its last cell. -/
theorem diff_exact_d1_any (f g : Fld) (ax : Nat) (r : Bool) (h : diff f ax 1 r = .ok g)
    (i : List Nat) (c : Nat) (hc : c < f.nvdim) (hi : i.getD ax 0 < f.mesh.nAt ax) (hv : fldOk f r i = true)
    (hh : f.mesh.cellAt ax ≠ 0) (hlen : 3 ≤ fldB f ax r i + fldA f ax r i) (a0 b0 c0 x0 : Rat)
    (hx : ∀ k, k < fldB f ax r i + fldA f ax r i →
        fldWin f ax r i c k = a0 + b0 * (x0 + (k : Rat) * f.mesh.cellAt ax) + c0 * (x0 + (k : Rat) * f.mesh.cellAt ax) ^ 2) :
    (g.data.get i).getD c 0 = b0 + 2 * c0 * (x0 + (fldB f ax r i : Rat) * f.mesh.cellAt ax) := by
  rw [diff_refines_window f g ax 1 r h i c hc hi, if_pos hv]
  exact dAt_one_exact _ hh _ _ _ hlen (fldB_lt_window f ax r i hi hv) a0 b0 c0 x0 hx

/-- … first derivative, windows of exactly two cells: exact for polynomials of degree ≤ 1 -/
theorem diff_exact_d1_two_any (f g : Fld) (ax : Nat) (r : Bool) (h : diff f ax 1 r = .ok g)
    (i : List Nat) (c : Nat) (hc : c < f.nvdim) (hi : i.getD ax 0 < f.mesh.nAt ax) (hv : fldOk f r i = true)
    (hh : f.mesh.cellAt ax ≠ 0) (hlen : fldB f ax r i + fldA f ax r i = 2) (a0 b0 x0 : Rat)
    (hx : ∀ k, k < 2 → fldWin f ax r i c k = a0 + b0 * (x0 + (k : Rat) * f.mesh.cellAt ax)) :
    (g.data.get i).getD c 0 = b0 := by
  rw [diff_refines_window f g ax 1 r h i c hc hi, if_pos hv]
  exact dAt_one_exact_two _ hh _ _ _ hlen (fldB_lt_window f ax r i hi hv) a0 b0 x0 hx

/-- … second derivative, windows of ≥ 4 cells: exact for polynomials of degree ≤ 3 -/
theorem diff_exact_d2_any (f g : Fld) (ax : Nat) (r : Bool) (h : diff f ax 2 r = .ok g)
    (i : List Nat) (c : Nat) (hc : c < f.nvdim) (hi : i.getD ax 0 < f.mesh.nAt ax) (hv : fldOk f r i = true)
    (hh : f.mesh.cellAt ax ≠ 0) (hlen : 4 ≤ fldB f ax r i + fldA f ax r i) (a0 b0 c0 d0 x0 : Rat)
    (hx : ∀ k, k < fldB f ax r i + fldA f ax r i →
        fldWin f ax r i c k = a0 + b0 * (x0 + (k : Rat) * f.mesh.cellAt ax) + c0 * (x0 + (k : Rat) * f.mesh.cellAt ax) ^ 2
          + d0 * (x0 + (k : Rat) * f.mesh.cellAt ax) ^ 3) :
    (g.data.get i).getD c 0 = 2 * c0 + 6 * d0 * (x0 + (fldB f ax r i : Rat) * f.mesh.cellAt ax) := by
  rw [diff_refines_window f g ax 2 r h i c hc hi, if_pos hv]
  exact dAt_two_exact _ hh _ _ _ hlen (fldB_lt_window f ax r i hi hv) a0 b0 c0 d0 x0 hx

/-- … second derivative, windows of exactly three cells: exact for polynomials of degree ≤ 2 -/
theorem diff_exact_d2_three_any (f g : Fld) (ax : Nat) (r : Bool) (h : diff f ax 2 r = .ok g)
    (i : List Nat) (c : Nat) (hc : c < f.nvdim) (hi : i.getD ax 0 < f.mesh.nAt ax) (hv : fldOk f r i = true)
    (hh : f.mesh.cellAt ax ≠ 0) (hlen : fldB f ax r i + fldA f ax r i = 3) (a0 b0 c0 x0 : Rat)
    (hx : ∀ k, k < 3 →
        fldWin f ax r i c k = a0 + b0 * (x0 + (k : Rat) * f.mesh.cellAt ax) + c0 * (x0 + (k : Rat) * f.mesh.cellAt ax) ^ 2) :
    (g.data.get i).getD c 0 = 2 * c0 := by
  rw [diff_refines_window f g ax 2 r h i c hc hi, if_pos hv]
  exact dAt_two_exact_three _ hh _ _ _ hlen (fldB_lt_window f ax r i hi hv) a0 b0 c0 x0 hx

/-! ## `restrict2valid = False`: the whole line is one run, at n-d level, both kinds of axis -/

/-- **With the validity restriction switched off `Field.diff` is `Field.diff` of the same field with every
cell valid, with the operand's validity put back** — as fields, for every axis (open or periodic),
every order, including the refusals. -/
theorem diff_restrict_off_nd (f : Fld) (ax order : Nat) :
    diff f ax order false = (diff (allValid f) ax order true).map fun g => { g with valid := f.valid } := by
  have hd : diffData f ax order false = diffData (allValid f) ax order true := by
    unfold diffData allValid
    simp only
    congr 1
    funext i
    apply tab_congr
    intro c _
    rw [restrict_off, tab_map]
    rfl
  exact diff_map (allValid f) f ax order true false _ rfl (by rw [hd]; rfl)

/-- **Open axis, restriction off: the whole grid line is ONE run** — the stored value is the run stencil
over all `n` cells of the line at the cell's position, whatever the validity pattern. -/
theorem diff_restrict_off_open_run (f g : Fld) (ax order : Nat) (h : diff f ax order false = .ok g)
    (hopen : periodicAx f ax = false) (i : List Nat) (c : Nat) (hc : c < f.nvdim) (hi : i.getD ax 0 < f.mesh.nAt ax) :
    (g.data.get i).getD c 0
      = dAt order (f.mesh.cellAt ax) (f.mesh.nAt ax) (fun j => (f.data.line ax i j).getD c 0) (i.getD ax 0) := by
  rw [diff_refines_lineSpec f g ax order false h i c hc hi, hopen]
  exact winSpec_allValid false _ _ _ _ _ _ hi fun _ _ => rfl

/-- **Periodic axis, restriction off or fully valid line: centred differences with wrap-around**, both
orders, every line length ≥ 1 (`centred`: `(x[j+1] − x[j−1]) / 2h` resp. `(x[j+1] − 2x[j] + x[j−1]) / h²`,
positions modulo `n`). -/
theorem diff_periodic_centred_any (f g : Fld) (ax order : Nat) (r : Bool) (h : diff f ax order r = .ok g)
    (hper : periodicAx f ax = true) (i : List Nat) (c : Nat) (hc : c < f.nvdim) (hi : i.getD ax 0 < f.mesh.nAt ax)
    (hv : r = false ∨ ∀ j, j < f.mesh.nAt ax → f.valid.line ax i j = true) :
    (g.data.get i).getD c 0
      = centred order (f.mesh.cellAt ax) (f.mesh.nAt ax) (fun j => (f.data.line ax i j).getD c 0) (i.getD ax 0) := by
  rw [diff_refines_lineSpec f g ax order r h i c hc hi, hper, lineSpec, winSpec_allValid _ _ _ _ _ _ _ hi]
  · rfl
  · intro k hk
    rcases hv with rfl | hv
    · rfl
    · rw [effOk, hv k hk, Bool.or_true]

/-! ## n-d field level, open axes with the restriction on: the cell's own maximal run of valid cells -/

/-- **Field-level refinement.**  For every axis `ax` of an n-d mesh that is not periodic, every
component `c` and every cell `i`, `Field.diff(ax, order)` stores the index-level spec of the grid
line through `i` along `ax`: 0 if the cell is invalid, otherwise the stencil of the cell's own
maximal run of valid cells along that line — it reads nothing else of the field. -/
theorem diff_refines_spec (f g : Fld) (ax order : Nat) (h : diff f ax order true = .ok g)
    (hopen : periodicAx f ax = false) (i : List Nat) (c : Nat) (hc : c < f.nvdim) (hi : i.getD ax 0 < f.mesh.nAt ax) :
    (g.data.get i).getD c 0
      = diffSpec order (f.mesh.cellAt ax) (f.mesh.nAt ax) (fun j => (f.data.line ax i j).getD c 0)
          (fun j => f.valid.line ax i j) (i.getD ax 0) := by
  rw [diff_refines_lineSpec f g ax order true h i c hc hi, hopen, diffSpec_eq_winSpec _ _ _ _ _ _ hi]
  rfl  -- `effOk true v j` reduces to `v j`

/-- **Invalid cells yield zero** — every axis (open or periodic), both orders, every component. -/
theorem diff_invalid_zero (f g : Fld) (ax order : Nat) (h : diff f ax order true = .ok g)
    (i : List Nat) (c : Nat) (hc : c < f.nvdim) (hi : i.getD ax 0 < f.mesh.nAt ax) (hv : f.valid.get i = false) :
    (g.data.get i).getD c 0 = 0 :=
  diff_invalid_zero_any f g ax order true h i c hc hi hv

/-- **Runs not longer than the order yield zero** at field level (open axis): a cell whose
maximal run of valid cells along `ax` has at most `order` cells gets 0. -/
theorem diff_short_run_zero (f g : Fld) (ax order : Nat) (h : diff f ax order true = .ok g)
    (hopen : periodicAx f ax = false) (i : List Nat) (c : Nat) (hc : c < f.nvdim) (hi : i.getD ax 0 < f.mesh.nAt ax)
    (hs : runBefore (fun j => f.valid.line ax i j) (i.getD ax 0)
        + runFrom (fun j => f.valid.line ax i j) (f.mesh.nAt ax) (i.getD ax 0) ≤ order) :
    (g.data.get i).getD c 0 = 0 := by
  have ho := diff_ok_order h
  rw [diff_refines_spec f g ax order h hopen i c hc hi, diffSpec]
  split
  · exact dAt_short order ho _ _ hs _ _
  · rfl

/-- **n-d locality.**  Take two fields on the same mesh, an open axis `ax`, a cell `i` and a
component `c`.  If the two fields have the same validity along the grid line through `i` and the
same values of component `c` on the cells of `i`'s own maximal run of valid cells along that
line, their derivatives at `(i, c)` coincide — whatever the fields hold anywhere else: outside the
run on the same line, on every other grid line, in every other component. -/
theorem diff_locality_nd (f1 f2 g1 g2 : Fld) (ax order : Nat)
    (h1 : diff f1 ax order true = .ok g1) (h2 : diff f2 ax order true = .ok g2)
    (hmesh : f1.mesh = f2.mesh) (hopen : periodicAx f1 ax = false)
    (i : List Nat) (c : Nat) (hc1 : c < f1.nvdim) (hc2 : c < f2.nvdim) (hi : i.getD ax 0 < f1.mesh.nAt ax)
    (hv : ∀ j, j < f1.mesh.nAt ax → f1.valid.line ax i j = f2.valid.line ax i j)
    (hx : ∀ j, i.getD ax 0 - runBefore (fun j => f1.valid.line ax i j) (i.getD ax 0) ≤ j →
        j < i.getD ax 0 + runFrom (fun j => f1.valid.line ax i j) (f1.mesh.nAt ax) (i.getD ax 0) →
        (f1.data.line ax i j).getD c 0 = (f2.data.line ax i j).getD c 0) :
    (g1.data.get i).getD c 0 = (g2.data.get i).getD c 0 := by
  have hopen2 : periodicAx f2 ax = false := (periodicAx_congr hmesh.symm ax).trans hopen
  rw [diff_refines_spec f1 g1 ax order h1 hopen i c hc1 hi,
    diff_refines_spec f2 g2 ax order h2 hopen2 i c hc2 (by rw [← hmesh]; exact hi), ← hmesh]
  exact diffSpec_local _ _ _ _ _ _ _ _ hi hv hx

/-- **Linearity of a whole line as `Field.diff` differentiates it** (open or periodic, restricted
or not, every mask): the derivative of `α·x + β·y` is `α·(derivative of x) + β·(derivative of y)`
entry by entry, for two lines with the same validity pattern. -/
theorem line_linear (p r : Bool) (o : Nat) (h α β : Rat) (cells : List ((Rat × Rat) × Bool)) (k : Nat) :
    (diffLine' p r o h (cells.map fun c => (α * c.1.1 + β * c.1.2, c.2))).getD k 0
      = α * (diffLine' p r o h (cells.map fun c => (c.1.1, c.2))).getD k 0
        + β * (diffLine' p r o h (cells.map fun c => (c.1.2, c.2))).getD k 0 := by
  rw [map_eq_tab cells _ ((0, 0), false), map_eq_tab cells _ ((0, 0), false), map_eq_tab cells _ ((0, 0), false)]
  exact diffLine'_comb_tab p r o h α β _ _ _ _ k

/-- **`Field.diff` is linear in the field values**, at n-d field level: for three fields on the
same mesh with the same validity, if every component of `f3` is `α·f1 + β·f2` cell by cell, then
every component of `diff f3` is `α·diff f1 + β·diff f2` cell by cell — every axis, open or
periodic, both orders, restricted to valid cells or not, every mask. -/
theorem diff_linear (f1 f2 f3 g1 g2 g3 : Fld) (ax order : Nat) (r : Bool) (α β : Rat)
    (h1 : diff f1 ax order r = .ok g1) (h2 : diff f2 ax order r = .ok g2) (h3 : diff f3 ax order r = .ok g3)
    (hm2 : f2.mesh = f1.mesh) (hm3 : f3.mesh = f1.mesh)
    (hv2 : ∀ j, f2.valid.get j = f1.valid.get j) (hv3 : ∀ j, f3.valid.get j = f1.valid.get j)
    (i : List Nat) (c : Nat) (hc1 : c < f1.nvdim) (hc2 : c < f2.nvdim) (hc3 : c < f3.nvdim)
    (hd : ∀ j, (f3.data.get j).getD c 0 = α * (f1.data.get j).getD c 0 + β * (f2.data.get j).getD c 0) :
    (g3.data.get i).getD c 0 = α * (g1.data.get i).getD c 0 + β * (g2.data.get i).getD c 0 := by
  rw [diff_cell f1 g1 ax order r h1 i c hc1, diff_cell f2 g2 ax order r h2 i c hc2, diff_cell f3 g3 ax order r h3 i c hc3]
  exact diffEntry_comb f1 f2 f3 ax order r α β i c hm2 hm3 hv2 hv3 hd

/-! ## n-d field level: exactness on every run of an open axis; fully valid periodic lines -/

/-- field-level refinement for a PERIODIC axis: the spec applied to the grid line padded by one
wrapped cell on each side, read one position further -/
theorem diff_refines_spec_periodic (f g : Fld) (ax order : Nat) (h : diff f ax order true = .ok g)
    (hper : periodicAx f ax = true) (i : List Nat) (c : Nat) (hc : c < f.nvdim) (hi : i.getD ax 0 < f.mesh.nAt ax) :
    (g.data.get i).getD c 0
      = diffSpec order (f.mesh.cellAt ax) (f.mesh.nAt ax + 2) (valOf (wrap1 (lineCells f ax i c)))
          (okOf (wrap1 (lineCells f ax i c))) (i.getD ax 0 + 1) := by
  rw [diff_cell f g ax order true h i c hc]
  unfold periodicAx at hper
  rw [hper]
  unfold diffLine'
  simp only [if_true]
  rw [diffRing_refines_spec _ _ _ _ (by rw [lineCells_length]; exact hi), lineCells_length]

/-- **Exactness at field level, first derivative, any mask**: at a valid cell whose own maximal run
of valid cells along an open axis has at least three cells, if component `c` samples a polynomial
of degree ≤ 2 of the position along that run (`a0 + b0·x + c0·x²`, `x = x0 + k·h` at the run's
`k`-th cell, `h` the cell size), the stored derivative is the exact one, `b0 + 2·c0·x`, at the
first cell of the run, in its interior and at its last cell — whatever the field holds elsewhere. -/
theorem diff_exact_run_d1 (f g : Fld) (ax : Nat) (h : diff f ax 1 true = .ok g)
    (hopen : periodicAx f ax = false) (i : List Nat) (c : Nat) (hc : c < f.nvdim) (hi : i.getD ax 0 < f.mesh.nAt ax)
    (hv : f.valid.line ax i (i.getD ax 0) = true) (hh : f.mesh.cellAt ax ≠ 0)
    (hlen : 3 ≤ runBefore (fun j => f.valid.line ax i j) (i.getD ax 0)
        + runFrom (fun j => f.valid.line ax i j) (f.mesh.nAt ax) (i.getD ax 0))
    (a0 b0 c0 x0 : Rat)
    (hx : ∀ k, k < runBefore (fun j => f.valid.line ax i j) (i.getD ax 0)
          + runFrom (fun j => f.valid.line ax i j) (f.mesh.nAt ax) (i.getD ax 0) →
        (f.data.line ax i (i.getD ax 0 - runBefore (fun j => f.valid.line ax i j) (i.getD ax 0) + k)).getD c 0
          = a0 + b0 * (x0 + (k : Rat) * f.mesh.cellAt ax) + c0 * (x0 + (k : Rat) * f.mesh.cellAt ax) ^ 2) :
    (g.data.get i).getD c 0
      = b0 + 2 * c0 * (x0 + (runBefore (fun j => f.valid.line ax i j) (i.getD ax 0) : Rat) * f.mesh.cellAt ax) := by
  rw [diff_refines_spec f g ax 1 h hopen i c hc hi, diffSpec, if_pos hv]
  exact dAt_one_exact _ hh _ _ _ hlen (Nat.lt_add_of_pos_right (runFrom_pos _ _ _ hi hv)) a0 b0 c0 x0 hx

/-- … second derivative on runs of at least four cells: exact for polynomials of degree ≤ 3 -/
theorem diff_exact_run_d2 (f g : Fld) (ax : Nat) (h : diff f ax 2 true = .ok g)
    (hopen : periodicAx f ax = false) (i : List Nat) (c : Nat) (hc : c < f.nvdim) (hi : i.getD ax 0 < f.mesh.nAt ax)
    (hv : f.valid.line ax i (i.getD ax 0) = true) (hh : f.mesh.cellAt ax ≠ 0)
    (hlen : 4 ≤ runBefore (fun j => f.valid.line ax i j) (i.getD ax 0)
        + runFrom (fun j => f.valid.line ax i j) (f.mesh.nAt ax) (i.getD ax 0))
    (a0 b0 c0 d0 x0 : Rat)
    (hx : ∀ k, k < runBefore (fun j => f.valid.line ax i j) (i.getD ax 0)
          + runFrom (fun j => f.valid.line ax i j) (f.mesh.nAt ax) (i.getD ax 0) →
        (f.data.line ax i (i.getD ax 0 - runBefore (fun j => f.valid.line ax i j) (i.getD ax 0) + k)).getD c 0
          = a0 + b0 * (x0 + (k : Rat) * f.mesh.cellAt ax) + c0 * (x0 + (k : Rat) * f.mesh.cellAt ax) ^ 2
            + d0 * (x0 + (k : Rat) * f.mesh.cellAt ax) ^ 3) :
    (g.data.get i).getD c 0
      = 2 * c0 + 6 * d0 * (x0 + (runBefore (fun j => f.valid.line ax i j) (i.getD ax 0) : Rat) * f.mesh.cellAt ax) := by
  rw [diff_refines_spec f g ax 2 h hopen i c hc hi, diffSpec, if_pos hv]
  exact dAt_two_exact _ hh _ _ _ hlen (Nat.lt_add_of_pos_right (runFrom_pos _ _ _ hi hv)) a0 b0 c0 d0 x0 hx

/-- **Periodic axis at field level**: when the whole grid line through `i` is valid, the stored
first derivative is the centred difference with wrap-around, for every line length ≥ 1 -/
theorem diff_periodic_centred_d1 (f g : Fld) (ax : Nat) (h : diff f ax 1 true = .ok g)
    (hper : periodicAx f ax = true) (i : List Nat) (c : Nat) (hc : c < f.nvdim) (hi : i.getD ax 0 < f.mesh.nAt ax)
    (hv : ∀ j, j < f.mesh.nAt ax → f.valid.line ax i j = true) :
    (g.data.get i).getD c 0
      = ((f.data.line ax i ((i.getD ax 0 + 1) % f.mesh.nAt ax)).getD c 0
          - (f.data.line ax i ((i.getD ax 0 + f.mesh.nAt ax - 1) % f.mesh.nAt ax)).getD c 0) / (2 * f.mesh.cellAt ax) := by
  rw [diff_periodic_centred_any f g ax 1 true h hper i c hc hi (Or.inr hv), centred, if_pos rfl]

/-- … first derivative on a run of exactly two cells: exact for polynomials of degree ≤ 1 -/
theorem diff_exact_run_d1_two (f g : Fld) (ax : Nat) (h : diff f ax 1 true = .ok g)
    (hopen : periodicAx f ax = false) (i : List Nat) (c : Nat) (hc : c < f.nvdim) (hi : i.getD ax 0 < f.mesh.nAt ax)
    (hv : f.valid.line ax i (i.getD ax 0) = true) (hh : f.mesh.cellAt ax ≠ 0)
    (hlen : runBefore (fun j => f.valid.line ax i j) (i.getD ax 0)
        + runFrom (fun j => f.valid.line ax i j) (f.mesh.nAt ax) (i.getD ax 0) = 2)
    (a0 b0 x0 : Rat)
    (hx : ∀ k, k < 2 →
        (f.data.line ax i (i.getD ax 0 - runBefore (fun j => f.valid.line ax i j) (i.getD ax 0) + k)).getD c 0
          = a0 + b0 * (x0 + (k : Rat) * f.mesh.cellAt ax)) :
    (g.data.get i).getD c 0 = b0 := by
  rw [diff_refines_spec f g ax 1 h hopen i c hc hi, diffSpec, if_pos hv]
  exact dAt_one_exact_two _ hh _ _ _ hlen (Nat.lt_add_of_pos_right (runFrom_pos _ _ _ hi hv)) a0 b0 x0 hx

/-- … second derivative on a run of exactly three cells: exact for polynomials of degree ≤ 2 -/
theorem diff_exact_run_d2_three (f g : Fld) (ax : Nat) (h : diff f ax 2 true = .ok g)
    (hopen : periodicAx f ax = false) (i : List Nat) (c : Nat) (hc : c < f.nvdim) (hi : i.getD ax 0 < f.mesh.nAt ax)
    (hv : f.valid.line ax i (i.getD ax 0) = true) (hh : f.mesh.cellAt ax ≠ 0)
    (hlen : runBefore (fun j => f.valid.line ax i j) (i.getD ax 0)
        + runFrom (fun j => f.valid.line ax i j) (f.mesh.nAt ax) (i.getD ax 0) = 3)
    (a0 b0 c0 x0 : Rat)
    (hx : ∀ k, k < 3 →
        (f.data.line ax i (i.getD ax 0 - runBefore (fun j => f.valid.line ax i j) (i.getD ax 0) + k)).getD c 0
          = a0 + b0 * (x0 + (k : Rat) * f.mesh.cellAt ax) + c0 * (x0 + (k : Rat) * f.mesh.cellAt ax) ^ 2) :
    (g.data.get i).getD c 0 = 2 * c0 := by
  rw [diff_refines_spec f g ax 2 h hopen i c hc hi, diffSpec, if_pos hv]
  exact dAt_two_exact_three _ hh _ _ _ hlen (Nat.lt_add_of_pos_right (runFrom_pos _ _ _ hi hv)) a0 b0 c0 x0 hx

/-- … and the second derivative along a fully valid periodic line is the centred second difference
with wrap-around -/
theorem diff_periodic_centred_d2 (f g : Fld) (ax : Nat) (h : diff f ax 2 true = .ok g)
    (hper : periodicAx f ax = true) (i : List Nat) (c : Nat) (hc : c < f.nvdim) (hi : i.getD ax 0 < f.mesh.nAt ax)
    (hv : ∀ j, j < f.mesh.nAt ax → f.valid.line ax i j = true) :
    (g.data.get i).getD c 0
      = ((f.data.line ax i ((i.getD ax 0 + 1) % f.mesh.nAt ax)).getD c 0
          - 2 * (f.data.line ax i (i.getD ax 0 % f.mesh.nAt ax)).getD c 0
          + (f.data.line ax i ((i.getD ax 0 + f.mesh.nAt ax - 1) % f.mesh.nAt ax)).getD c 0)
        / (f.mesh.cellAt ax * f.mesh.cellAt ax) := by
  rw [diff_periodic_centred_any f g ax 2 true h hper i c hc hi (Or.inr hv), centred, if_neg (by decide)]

/-! ## Which axes are periodic (repo fix 61bf94db)

`Field.diff` takes a direction as periodic only if `mesh.bc` is not one of the words `neumann` /
`dirichlet`, the direction's name is a single character and that character occurs in `bc`
(`periodicBc`).  Before the fix the test was the substring test `direction in mesh.bc`. -/

/-- **An axis is periodic exactly when `bc` is a list of axis letters that contains its name.** -/
theorem periodicAx_iff (f : Fld) (ax : Nat) :
    periodicAx f ax = true ↔ f.mesh.bc ≠ "neumann" ∧ f.mesh.bc ≠ "dirichlet" ∧
      ∃ ch ∈ f.mesh.bc.toList, f.mesh.region.dims.getD ax "" = String.singleton ch := by
  unfold periodicAx periodicBc
  simp only [Bool.and_eq_true, Bool.not_eq_true', Bool.or_eq_false_iff, beq_eq_false_iff_ne, ne_eq, List.any_eq_true, beq_iff_eq]
  constructor
  · rintro ⟨⟨w1, w2⟩, ch, hm, he⟩
    exact ⟨w1, w2, ch, hm, he.symm⟩
  · rintro ⟨w1, w2, ch, hm, he⟩
    exact ⟨⟨w1, w2⟩, ch, hm, he.symm⟩

/-- **On a `neumann` or `dirichlet` mesh every axis is open, whatever its name** (also `n`, `e`, `u`,
`ma`, … whose names are substrings of the word). -/
theorem periodicAx_word_open (f : Fld) (ax : Nat) (h : f.mesh.bc = "neumann" ∨ f.mesh.bc = "dirichlet") :
    periodicAx f ax = false :=
  periodicBc_word _ _ h

/-- **An axis whose name is not a single character is never periodic**, whatever `bc` is (also when
the name is a substring of `bc`, e.g. the axis `xy` of a mesh periodic along `x` and `y`). -/
theorem periodicAx_multichar_open (f : Fld) (ax : Nat) (h : (f.mesh.region.dims.getD ax "").toList.length ≠ 1) :
    periodicAx f ax = false := by
  cases hp : periodicAx f ax with
  | false => rfl
  | true =>
    obtain ⟨_, _, ch, _, he⟩ := (periodicAx_iff f ax).mp hp
    rw [he, String.toList_singleton] at h
    exact absurd rfl h

/-- Hence on a `neumann` / `dirichlet` mesh `Field.diff` along EVERY axis stores the open-line spec
(per-run one-sided / centred stencils, no wrap-around), whatever the axis is called. -/
theorem diff_refines_spec_word (f g : Fld) (ax order : Nat) (h : diff f ax order true = .ok g)
    (hw : f.mesh.bc = "neumann" ∨ f.mesh.bc = "dirichlet") (i : List Nat) (c : Nat) (hc : c < f.nvdim)
    (hi : i.getD ax 0 < f.mesh.nAt ax) :
    (g.data.get i).getD c 0
      = diffSpec order (f.mesh.cellAt ax) (f.mesh.nAt ax) (fun j => (f.data.line ax i j).getD c 0)
          (fun j => f.valid.line ax i j) (i.getD ax 0) :=
  diff_refines_spec f g ax order h (periodicAx_word_open f ax hw) i c hc hi

/-- … and likewise along every axis with a multi-character name on any mesh. -/
theorem diff_refines_spec_multichar (f g : Fld) (ax order : Nat) (h : diff f ax order true = .ok g)
    (hm : (f.mesh.region.dims.getD ax "").toList.length ≠ 1) (i : List Nat) (c : Nat) (hc : c < f.nvdim)
    (hi : i.getD ax 0 < f.mesh.nAt ax) :
    (g.data.get i).getD c 0
      = diffSpec order (f.mesh.cellAt ax) (f.mesh.nAt ax) (fun j => (f.data.line ax i j).getD c 0)
          (fun j => f.valid.line ax i j) (i.getD ax 0) :=
  diff_refines_spec f g ax order h (periodicAx_multichar_open f ax hm) i c hc hi

/-! ## Non-vacuity: concrete instances of the hypotheses -/

/-- a 2-d field (5×2 cells, two components, one invalid cell, all directions open) whose derivative
along both axes exists; axis 0 is not periodic; the cell (3,1) is invalid -/
example : (∃ g, diff exF 0 1 true = .ok g) ∧ (∃ g, diff exF 1 2 true = .ok g) ∧ periodicAx exF 0 = false ∧
    exF.valid.get [3, 1] = false ∧ [3, 1].getD 0 0 < exF.mesh.nAt 0 ∧ 1 < exF.nvdim :=
  ⟨⟨_, rfl⟩, ⟨_, rfl⟩, by decide, by decide, by decide, by decide⟩

/-- the hypothesis of `ring_head_run_seam` is met by the ring of finding D17 -/
example : (([(7 : Rat), 1, 4].map (·, true)) ++ (9, false) :: [((2 : Rat), true)]).getLast? = some (2, true) := by
  simp

/-- … and that of `ring_tail_run_seam` by the same ring -/
example : (([((7 : Rat), true), (1, true), (4, true)]) ++ (9, false) :: [(2 : Rat)].map (·, true)).head? = some (7, true) := by
  simp

/-- the run-length hypothesis of `short_run_zero_at` / `diff_short_run_zero`: in the mask
`[1,0,1,1,0]` cell 2 has no valid cell before it and a run of two from it on -/
example : runBefore (okOf [((1 : Rat), true), (2, false), (3, true), (4, true), (5, false)]) 2 = 0 ∧
    runFrom (okOf [((1 : Rat), true), (2, false), (3, true), (4, true), (5, false)]) 5 2 = 2 := by decide

/-- the hypotheses of `diff_exact_run_d1` are met by `exF` at cell (1,0) along axis 0 (run of five
valid cells, component 0 samples `x²` with `x = k·h`, `h = 1`): the stored derivative there is `2·x = 2` -/
example : ∃ g, diff exF 0 1 true = .ok g ∧ (g.data.get [1, 0]).getD 0 0 = 2 := by
  refine ⟨_, rfl, ?_⟩
  rw [diff_exact_run_d1 exF _ 0 rfl (by decide) [1, 0] 0 (by decide) (by decide) (by decide) (by decide +kernel)
    (by decide) 0 0 1 0 (by decide +kernel)]
  decide +kernel

/-- `periodicAx_word_open` / `diff_refines_spec_word`: on `exFN` (axes `n`, `y`, `bc = "neumann"`) the axis `n` is open
although `"n"` is a substring of `"neumann"`, and the derivative along it exists -/
example : exFN.mesh.bc = "neumann" ∧ exFN.mesh.region.dims = ["n", "y"] ∧ periodicAx exFN 0 = false ∧
    ∃ g, diff exFN 0 1 true = .ok g :=
  ⟨rfl, rfl, periodicAx_word_open exFN 0 (Or.inl rfl), ⟨_, rfl⟩⟩

/-- `periodicAx_multichar_open` / `periodicAx_iff`: on `exFXY` (axes `x`, `y`, `xy`, `bc = "xy"`) the axes `x` and `y` are
periodic, the axis `xy` is not -/
example : periodicAx exFXY 0 = true ∧ periodicAx exFXY 1 = true ∧ periodicAx exFXY 2 = false ∧
    (exFXY.mesh.region.dims.getD 2 "").toList.length ≠ 1 ∧ ∃ g, diff exFXY 2 1 true = .ok g :=
  ⟨by decide, by decide, periodicAx_multichar_open exFXY 2 (by decide), by decide, ⟨_, rfl⟩⟩

/-! ## Linearity, components, boundary-condition words: statements about whole fields -/

/-- **`Field.diff` is linear, as an identity between fields**: for `f1`, `f2` on the same mesh with the
same validity and component count, `diff (α·f1 + β·f2) = α·diff f1 + β·diff f2` — same mesh, labels,
unit and validity on both sides, every cell and component of the array — for every axis (open or
periodic), both orders, restricted to valid cells or not, every mask; both sides are refused together. -/
theorem diff_linFld (f1 f2 : Fld) (ax order : Nat) (r : Bool) (α β : Rat)
    (hm : f2.mesh = f1.mesh) (hn : f2.nvdim = f1.nvdim) (hv : f2.valid.get = f1.valid.get) :
    diff (linFld α β f1 f2) ax order r
      = (diff f1 ax order r).bind fun g1 => (diff f2 ax order r).bind fun g2 => .ok (linFld α β g1 g2) := by
  have hd : diffData (linFld α β f1 f2) ax order r
      = (linFld α β { f1 with data := diffData f1 ax order r } { f2 with data := diffData f2 ax order r }).data := by
    refine congrArg (NDA.mk f1.data.shape) (funext fun i => tab_congr _ _ _ fun c hc => ?_)
    show _ = α * ((diffData f1 ax order r).get i).getD c 0 + β * ((diffData f2 ax order r).get i).getD c 0
    rw [diffData_getD f1 ax order r i c hc, diffData_getD f2 ax order r i c (hn ▸ hc)]
    exact diffEntry_comb f1 f2 (linFld α β f1 f2) ax order r α β i c hm rfl (fun j => by rw [hv]) (fun _ => rfl)
      (fun j => getD_tab _ _ _ _ hc)
  -- both sides are `diff f1` mapped: `f2` has the axes of `f1`, so `diff f2` is accepted or refused with it
  rw [diff_map f1 (linFld α β f1 f2) ax order r r (fun g1 => linFld α β g1 { f2 with data := diffData f2 ax order r }) rfl
      (by rw [hd]; rfl),
    diff_map f1 f2 ax order r r (fun _ => { f2 with data := diffData f2 ax order r }) (by rw [hm]) rfl]
  cases diff f1 ax order r <;> rfl

/-- **Components are differentiated independently, as an identity between fields**: the derivative of
component `c` taken alone (a scalar field on the same mesh with the same validity) is component `c` of
the derivative of the whole field — every axis of either kind, both orders, restriction on or off. -/
theorem diff_compFld (f : Fld) (ax order : Nat) (r : Bool) (c : Nat) (hc : c < f.nvdim) :
    diff (compFld f c) ax order r = (diff f ax order r).map fun g => compFld g c := by
  have hd : diffData (compFld f c) ax order r
      = (compFld { f with data := diffData f ax order r } c).data := by
    unfold diffData compFld
    simp only
    congr 1
    funext i
    rw [tab_one, getD_tab _ _ _ _ hc]
    simp only [NDA.line, List.getD_cons_zero]
  exact diff_map f (compFld f c) ax order r r _ rfl (by rw [hd]; rfl)

/-- **The boundary-condition words change nothing in `Field.diff`**: on a mesh with `bc = "neumann"` or
`bc = "dirichlet"` the derivative along EVERY axis — whatever the axis is called — is the derivative
on the same mesh with `bc = ""` (every axis open, no padding of any kind), with the word put back. -/
theorem diff_word_bc (f : Fld) (ax order : Nat) (r : Bool) (hw : f.mesh.bc = "neumann" ∨ f.mesh.bc = "dirichlet") :
    diff f ax order r = (diff (withBc f "") ax order r).map fun g => withBc g f.mesh.bc := by
  have hd : diffData f ax order r = diffData (withBc f "") ax order r := by
    unfold diffData withBc
    simp only
    rw [periodicBc_word _ _ hw, periodicBc_empty]
    rfl
  exact diff_map (withBc f "") f ax order r r _ rfl (by rw [hd]; rfl)

/-- … and, more generally, the derivative along an axis does not depend on `bc` at all as long as the
axis is open under both boundary conditions (e.g. `bc` lists other axes only) -/
theorem diff_bc_irrelevant (f : Fld) (ax order : Nat) (r : Bool) (bc : String)
    (h1 : periodicAx f ax = false) (h2 : periodicAx (withBc f bc) ax = false) :
    diff (withBc f bc) ax order r = (diff f ax order r).map fun g => withBc g bc := by
  have hd : diffData (withBc f bc) ax order r = diffData f ax order r := by
    unfold periodicAx at h1 h2
    unfold diffData
    rw [h2, h1]
    rfl
  exact diff_map f (withBc f bc) ax order r r _ rfl (by rw [hd]; rfl)

/-! ## storage kind of the result (repo fix 5136d062) -/

/-- **The result is never stored as integers**: `np.result_type(dtype, float)` is binary64 for every
integer and real floating kind and complex128 for the complex kinds; the rule is idempotent and keeps
real / complex apart.  (The rule is a model definition.) -/
theorem resKind_rule (k : Kind) :
    (k.isComplex = false → resKind k = .f64) ∧ (k.isComplex = true → resKind k = .c128) ∧
    (resKind k).isInt = false ∧ (resKind k).isComplex = k.isComplex ∧ resKind (resKind k) = resKind k := by
  cases k <;> simp [resKind, Kind.isComplex, Kind.isInt]

/-! ## Non-vacuity: periodic axes, masks with holes, several cells -/

/-- `diffRing_refines_ringSpec` on the ring of finding D17 (`[7,1,4,9,2]`, mask `[1,1,1,0,1]`): the window of
cell 4 is the cell itself and ONE cell beyond the seam (so it gets the two-cell stencil, 10), the window of
cell 0 is one cell before the seam and three cells from it on -/
example : ringBefore (okOf exRing) 5 4 = 0 ∧ ringFrom (okOf exRing) 5 4 = 2 ∧
    ringBefore (okOf exRing) 5 0 = 1 ∧ ringFrom (okOf exRing) 5 0 = 3 ∧
    ringSpec 1 (1/2) 5 (valOf exRing) (okOf exRing) 4 = 10 := by
  refine ⟨by decide, by decide, by decide, by decide, ?_⟩
  have := diffRing_refines_ringSpec 1 (1/2) exRing 4 (by decide)
  rw [show exRing.length = 5 from rfl] at this
  rw [← this]
  exact ring_shift_masked_counterexample.1

/-- `ring_cell_off_seam`: in the ring `[1,0,1,1,1,0]` cell 3 sits in a run that touches neither end -/
example : runBefore (okOf [((1 : Rat), true), (2, false), (3, true), (5, true), (8, true), (13, false)]) 3 < 3 ∧
    3 + runFrom (okOf [((1 : Rat), true), (2, false), (3, true), (5, true), (8, true), (13, false)]) 6 3 < 6 := by decide

/-- `ring_shift_iff`, the good side: the mask `[1,1,0,1,0]` has no three cyclically consecutive valid cells
(its ring runs are `3,4→` … `[3]` and `[0,1]`), the mask `[1,1,1,1]` is fully valid -/
example : noThree (fun k => [true, true, false, true, false].getD k false) 5 ∧
    (∀ k, k < 4 → [true, true, true, true].getD k false = true) := by
  refine ⟨?_, by decide⟩
  unfold noThree; decide

/-- `ring_shift_iff`, the bad side: the mask of finding D17 satisfies neither condition, so for it the
derivative does NOT commute with all rotations (for some data) -/
example : ¬ ∀ (cells : List (Rat × Bool)), cells.map (·.2) = [true, true, true, false, true] → ∀ s j, j < 5 →
    (diffRing 1 (1/2) (rotCells cells s)).getD j 0 = (diffRing 1 (1/2) cells).getD ((j + s) % 5) 0 := by
  intro H
  have := (ring_shift_iff 1 (Or.inl rfl) (1/2) (by norm_num) [true, true, true, false, true]).mp H
  revert this
  unfold noThree
  decide

/-- `line_exact_d2_three` on a PERIODIC line with a hole: ring `[1,4,·,·,9,0]` with mask `[1,1,0,0,1,1]`,
restriction on; cell 0 has the window 5,0,1 (one cell beyond the seam, two from the cell on) holding `0,1,4`,
a quadratic: the second derivative there is exactly 2 -/
example : (diffLine' true true 2 1 [((1 : Rat), true), (4, true), (77, false), (78, false), (9, true), (0, true)]).getD 0 0 = 2 := by
  have := line_exact_d2_three true true 1 (by norm_num) [((1 : Rat), true), (4, true), (77, false), (78, false), (9, true), (0, true)]
    0 (by decide) (by decide) (by decide) 0 0 1 0 (by decide +kernel)
  simpa using this

/-- the periodic 2-d field `exP` (6×2 cells, `bc = "x"`, cell (3,0) invalid, two components): every request with
order 1 or 2 along an existing axis is accepted; axis 0 is periodic, axis 1 open; the window of cell (1,0)
along `x` is `5,0,1,2` (two cells before it — one of them beyond the seam — and two from it on), although its
ring run is `4,5,0,1,2`; cell (3,0) does not count as valid unless the restriction is off, and then its window
is the whole ring padded by one cell on each side -/
example : (∃ g, diff exP 0 1 true = .ok g) ∧ (∃ g, diff exP 1 2 false = .ok g) ∧
    periodicAx exP 0 = true ∧ periodicAx exP 1 = false ∧
    fldB exP 0 true [1, 0] = 2 ∧ fldA exP 0 true [1, 0] = 2 ∧ fldOk exP true [1, 0] = true ∧
    fldOk exP true [3, 0] = false ∧ fldOk exP false [3, 0] = true ∧
    fldB exP 0 false [3, 0] = 4 ∧ fldA exP 0 false [3, 0] = 4 :=
  ⟨(diff_accepts_iff exP 0 1 true).mpr ⟨Or.inl rfl, by decide⟩, (diff_accepts_iff exP 1 2 false).mpr ⟨Or.inr rfl, by decide⟩,
   by decide, by decide, by decide, by decide, by decide, by decide, by decide, by decide, by decide⟩

/-- the hypotheses of `diff_exact_d1_any` are met on the PERIODIC axis of `exP` at cell (1,0), whose window
crosses the seam: component 0 holds `0,1,4,9` along the window `5,0,1,2`, the stored derivative is `2·2 = 4` -/
example : ∃ g, diff exP 0 1 true = .ok g ∧ (g.data.get [1, 0]).getD 0 0 = 4 := by
  refine ⟨_, rfl, ?_⟩
  rw [diff_exact_d1_any exP _ 0 true rfl [1, 0] 0 (by decide) (by decide) (by decide) (by decide +kernel)
    (by decide) 0 0 1 0 (by decide +kernel)]
  decide +kernel

/-- `diffDir`: on `exF` (axes `x`, `y`) the name `y` is axis 1; an unknown name with an admissible order is a
`ValueError`; an inadmissible order is a `NotImplementedError` whatever the name -/
example : diffDir exF "y" 2 true = diff exF 1 2 true ∧ diffDir exF "q" 1 true = .error .value ∧
    diffDir exF "q" 3 true = .error .notImpl ∧ diffDir exF "x" 0 false = .error .notImpl :=
  ⟨diffDir_eq_diff exF "y" 1 2 true (by decide),
   (diffDir_rejects_iff exF "q" 1 true .value (by decide)).mpr (Or.inr ⟨rfl, Or.inl rfl, by decide⟩),
   (diffDir_rejects_iff exF "q" 3 true .notImpl (by decide)).mpr (Or.inl ⟨rfl, by decide⟩),
   (diffDir_rejects_iff exF "x" 0 false .notImpl (by decide)).mpr (Or.inl ⟨rfl, by decide⟩)⟩

/-- the hypotheses of `diff_linFld` (same mesh, component count, validity) are met by `exF`, `exG`; those of
`diff_compFld` by component 1 of `exP`; those of `diff_word_bc` by `exFN`; those of `diff_bc_irrelevant` by
axis `y` of `exP` with `bc = "x"` replaced by `""` -/
example : exG.mesh = exF.mesh ∧ exG.nvdim = exF.nvdim ∧ exG.valid.get = exF.valid.get ∧ 1 < exP.nvdim ∧
    (exFN.mesh.bc = "neumann" ∨ exFN.mesh.bc = "dirichlet") ∧
    periodicAx exP 1 = false ∧ periodicAx (withBc exP "") 1 = false :=
  ⟨rfl, rfl, rfl, by decide, Or.inl rfl, by decide, by decide⟩

/-! ## Periodic lines: centred differences wherever both neighbours are valid; the integer order -/

/-- **On a periodic line every cell whose two ring neighbours are valid gets the centred wrap-around
difference — for EVERY mask**, also next to the seam and inside runs that cross it: the one-cell wrap
padding always supplies the neighbour.  (The deviation of finding D17 is confined to the END cells of a
run that is cut at the seam.) -/
theorem ring_centred_at (o : Nat) (h : Rat) (cells : List (Rat × Bool)) (j : Nat) (hj : j < cells.length)
    (hv : okOf cells j = true) (hs : okOf cells ((j + 1) % cells.length) = true)
    (hp : okOf cells ((j + cells.length - 1) % cells.length) = true) :
    (diffRing o h cells).getD j 0 = centred o h cells.length (valOf cells) j := by
  rw [diffRing_getD_ringSpec o h cells j hj]
  exact ringSpec_centred o h _ _ _ j hj hv hs hp

/-- … and at n-d field level: along a periodic axis, whatever the mask and the setting of the restriction,
a cell that counts as valid together with its two ring neighbours along the axis gets the centred
wrap-around difference of its grid line (both orders, every line length ≥ 1). -/
theorem diff_periodic_centred_at (f g : Fld) (ax order : Nat) (r : Bool) (h : diff f ax order r = .ok g)
    (hper : periodicAx f ax = true) (i : List Nat) (c : Nat) (hc : c < f.nvdim) (hi : i.getD ax 0 < f.mesh.nAt ax)
    (hv : r = false ∨ (f.valid.line ax i (i.getD ax 0) = true ∧ f.valid.line ax i ((i.getD ax 0 + 1) % f.mesh.nAt ax) = true
      ∧ f.valid.line ax i ((i.getD ax 0 + f.mesh.nAt ax - 1) % f.mesh.nAt ax) = true)) :
    (g.data.get i).getD c 0
      = centred order (f.mesh.cellAt ax) (f.mesh.nAt ax) (fun j => (f.data.line ax i j).getD c 0) (i.getD ax 0) := by
  have he : ∀ k, (r = false ∨ f.valid.line ax i k = true) → effOk r (fun j => f.valid.line ax i j) k = true := by
    rintro k (rfl | hk)
    · rfl
    · simp [effOk, hk]
  rw [diff_refines_lineSpec f g ax order r h i c hc hi, hper, lineSpec, ← ringSpec_eq_winSpec]
  exact ringSpec_centred _ _ _ _ _ _ hi (he _ (hv.imp id (·.1))) (he _ (hv.imp id (·.2.1))) (he _ (hv.imp id (·.2.2)))

/-- the order as the Python caller passes it (any integer): 1 and 2 are the two admissible calls, every
other integer — negative ones too — is a `NotImplementedError` before the name is even looked at -/
theorem diffDirI_spec (f : Fld) (dir : String) (order : Int) (r : Bool) :
    diffDirI f dir order r
      = if order = 1 then diffDir f dir 1 r else if order = 2 then diffDir f dir 2 r else .error .notImpl := by
  unfold diffDirI
  by_cases h1 : order = 1
  · subst h1; simp
  · by_cases h2 : order = 2
    · subst h2; simp
    · rw [if_pos ⟨h1, h2⟩, if_neg h1, if_neg h2]

/-- `ring_centred_at` on the ring of finding D17 (`[7,1,4,9,2]`, mask `[1,1,1,0,1]`): cell 0 sits next to the
seam inside the run `4,0,1,2` that crosses it; both its ring neighbours (4 and 1) are valid -/
example : okOf exRing 0 = true ∧ okOf exRing ((0 + 1) % exRing.length) = true ∧
    okOf exRing ((0 + exRing.length - 1) % exRing.length) = true ∧
    centred 1 (1/2) exRing.length (valOf exRing) 0 = -1 := by
  refine ⟨by decide, by decide, by decide, ?_⟩
  simp [centred, exRing, valOf]
  norm_num

/-- `ring_short_run_zero` / `line_short_run_zero`: in the periodic line with mask `[1,0,1,1,0]` cell 0 is a run of its
own also across the seam (the last cell is invalid): its window has one cell -/
example : ringBefore (okOf [((3 : Rat), true), (1, false), (4, true), (1, true), (5, false)]) 5 0
    + ringFrom (okOf [((3 : Rat), true), (1, false), (4, true), (1, true), (5, false)]) 5 0 ≤ 1 := by decide

/-- `diff_short_run_zero_any` / `diff_invalid_zero_any` on `exF` (5×2 cells, cell (3,1) invalid): along `x` the cell (4,1) is
a run of one cell, and (3,1) does not count as valid when the restriction is on -/
example : fldB exF 0 true [4, 1] + fldA exF 0 true [4, 1] ≤ 1 ∧ fldOk exF true [3, 1] = false ∧
    [4, 1].getD 0 0 < exF.mesh.nAt 0 ∧ ∃ g, diff exF 0 1 true = .ok g :=
  ⟨by decide, by decide, by decide, (diff_accepts_iff exF 0 1 true).mpr ⟨Or.inl rfl, by decide⟩⟩

/-- `diff_periodic_centred_at` on `exP` (periodic along `x`, cell (3,0) invalid): the cell (0,0) next to the seam and its
two ring neighbours (5,0) and (1,0) are valid although the line has a hole -/
example : periodicAx exP 0 = true ∧ exP.valid.line 0 [0, 0] ([0, 0].getD 0 0) = true ∧
    exP.valid.line 0 [0, 0] (([0, 0].getD 0 0 + 1) % exP.mesh.nAt 0) = true ∧
    exP.valid.line 0 [0, 0] (([0, 0].getD 0 0 + exP.mesh.nAt 0 - 1) % exP.mesh.nAt 0) = true ∧
    exP.valid.line 0 [0, 0] 3 = false := by decide

/-- the mesh and validity hypotheses of `diff_locality_any` / `diff_linFld` are met by two DIFFERENT fields: `exF` and `exG`
share mesh and validity along every grid line and hold different values -/
example : exF.mesh = exG.mesh ∧ (∀ j, j < exF.mesh.nAt 1 → exF.valid.line 1 [0, 0] j = exG.valid.line 1 [0, 0] j) ∧
    exF.data.get [0, 1] ≠ exG.data.get [0, 1] := by
  refine ⟨rfl, fun j _ => rfl, ?_⟩
  simp [exF, exG]

/-! ## The window of the code against the ring run of the property text -/

/-- **Finding D17 in one line: the window `Field.diff` differentiates around a cell of a periodic line is the
cell's RING run (counted cyclically, wherever the seam is) cut ONE cell beyond the seam on each side** — for every
mask, every line length, every position. -/
theorem ring_window_is_cut_run (v : Nat → Bool) (L j : Nat) (hj : j < L) :
    ringBefore v L j = min (cycBefore v L j) (j + 1) ∧ ringFrom v L j = min (cycFrom v L j) (L - j + 1) :=
  ⟨ringBefore_eq_min v L j hj, ringFrom_eq_min v L j hj⟩

/-- **Where the seam does not cut the ring run of a cell** (the run extends at most one cell beyond the seam on
each side) **the code computes what the property asks for**: the run stencil over the cell's whole ring run
(`idealRingSpec`, a description that does not mention the stored line at all). -/
theorem ring_ideal_of_uncut (o : Nat) (h : Rat) (cells : List (Rat × Bool)) (j : Nat) (hj : j < cells.length)
    (hb : cycBefore (okOf cells) cells.length j ≤ j + 1) (ha : cycFrom (okOf cells) cells.length j ≤ cells.length - j + 1) :
    (diffRing o h cells).getD j 0 = idealRingSpec o h cells.length (valOf cells) (okOf cells) j := by
  rw [diffRing_getD_ringSpec o h cells j hj]
  exact ringSpec_eq_ideal o h _ _ _ j hj hb ha

/-- **Shift-equivariance cell by cell, every mask**: the derivative of the ring stored from cell `s` on agrees at
position `j` with the derivative of the ring as given at cell `(j + s) mod L` whenever the ring run of that cell
is cut by neither seam (it extends at most one cell beyond either).  (The valid cells of `ring_rot_no_three` and the
entries of `ring_shift_off_seam`, `ring_shift_off_seam_one` — which are proved on lists, as equations between whole
derivatives — satisfy the hypotheses; for the cells of a run that IS cut the statement fails, `ring_shift_iff`.) -/
theorem ring_rot_uncut (o : Nat) (h : Rat) (cells : List (Rat × Bool)) (s j : Nat) (hj : j < cells.length)
    (hb : cycBefore (okOf cells) cells.length ((j + s) % cells.length) ≤ min (j + 1) ((j + s) % cells.length + 1))
    (ha : cycFrom (okOf cells) cells.length ((j + s) % cells.length)
        ≤ min (cells.length - j + 1) (cells.length - (j + s) % cells.length + 1)) :
    (diffRing o h (rotCells cells s)).getD j 0 = (diffRing o h cells).getD ((j + s) % cells.length) 0 := by
  have hL : 0 < cells.length := by omega
  have hJ : (j + s) % cells.length < cells.length := Nat.mod_lt _ hL
  rw [Nat.le_min] at hb ha
  rw [diffRing_rot_getD o h cells s j hj,
    ringSpec_eq_ideal o h _ _ _ j hj (by rw [cycBefore_rot _ _ _ _ hL]; exact hb.1) (by rw [cycFrom_rot]; exact ha.1),
    idealRingSpec_rot o h _ (valOf cells) (okOf cells) s j hj (hb.2.trans hJ),
    diffRing_getD_ringSpec o h cells _ hJ, ringSpec_eq_ideal o h _ _ _ _ hJ hb.2 ha.2]

/-- on the ring of finding D17 (mask `[1,1,1,0,1]`) the ring run of cell 4 is `4,0,1,2`: nothing before it, four
cells from it on — more than the `5 - 4 + 1 = 2` the stored line lets through, so it IS cut; cell 1 of the same
run has two cells before it (`0` and, beyond the seam, `4`) and two from it on, and is not cut -/
example : cycBefore (okOf exRing) 5 4 = 0 ∧ cycFrom (okOf exRing) 5 4 = 4 ∧ ringFrom (okOf exRing) 5 4 = 2 ∧
    cycBefore (okOf exRing) 5 1 = 2 ∧ cycFrom (okOf exRing) 5 1 = 2 ∧
    cycBefore (okOf exRing) 5 1 ≤ 1 + 1 ∧ cycFrom (okOf exRing) 5 1 ≤ 5 - 1 + 1 := by decide

end DFV.C04
