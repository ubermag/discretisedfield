import DFV.Lemmas.C03Scalar
import DFV.Lemmas.C03Typing
import DFV.Lemmas.C03Inv
import DFV.Lemmas.C03Protocol
import DFV.Lemmas.RatFloor

/-!
# C03 — field algebra is cell-wise numpy algebra on one mesh; operands stay untouched

Property theorems about the model of `Field._apply_operator`, the reflected operators,
`dot`, `cross`, `angle`, `__lshift__`, the complex parts and `__array_ufunc__`
(`DFV/Model/C03.lean`).  The quantifier "for all programs" is the induction over the
inductive type `Expr` (`eval_cellwise`); meshes, cell counts, component counts, values
(Gaussian rationals), masks, labels, operands and the non-rational functions
`sq / acos / arg` are universally quantified.

`evalF` is the code-shaped evaluator (array level: NumPy broadcasting `bshape/bproj`,
`einsum`, `cross`, `stack`, the constructor with its `np.full` broadcast); `evalCell` /
`validCell` are the per-cell specification: the same expression on the component lists of
one cell.

The same topic comes back in several sections (commutativity in four, acceptance in four, refusals in three; the
headings name it): within a topic the later section has the sharper statement - whole trees instead of one step, no
success hypothesis, an equivalence instead of an implication.
-/
namespace DFV.C03
open DFV

/-! ## concrete objects for the non-vacuity examples -/

def exRegion : Region := { pmin := [0], pmax := [2], dims := ["x"], units := ["m"], tol := 1/1000000000000 }
def exRegion2 : Region := { pmin := [5], pmax := [7], dims := ["x"], units := ["m"], tol := 1/1000000000000 }
def exMesh : Mesh := { region := exRegion, n := [2], bc := "", subs := [] }
def exMesh2 : Mesh := { region := exRegion2, n := [2], bc := "", subs := [] }
def exData (a b c d : Rat) : NDA GQ := NDA.ofList [2, 2] [⟨a, 0⟩, ⟨b, 0⟩, ⟨c, 0⟩, ⟨d, 1⟩] GQ.zero
def exValid (p q : Bool) : NDA Bool := NDA.ofList [2] [p, q] false
/-- two-component field labelled `a, b`, second cell invalid -/
def exA : CF := { mesh := exMesh, nvdim := 2, data := exData 1 2 3 4, valid := exValid true false,
                  vdims := some ["a", "b"], vmap := [], unit := some "T", kind := .complex }
/-- two-component field labelled `p, q` on the same mesh -/
def exB : CF := { exA with data := exData 5 6 7 8, valid := exValid true true, vdims := some ["p", "q"] }
/-- a field with the same cell counts on a different mesh -/
def exC : CF := { exB with mesh := exMesh2 }
/-- scalar field -/
def exS : CF := { mesh := exMesh, nvdim := 1, data := NDA.ofList [2, 1] [⟨2, 0⟩, ⟨3, 0⟩] GQ.zero,
                  valid := exValid true true, vdims := none, vmap := [], unit := none, kind := .float }
def exEnv : Env := { fields := [exA, exB, exC, exS], sq := id, acos := id, arg := fun _ => 0 }
def exVec : Opd := .arr (NDA.ofList [2] [⟨1, 0⟩, ⟨-1, 0⟩] GQ.zero) .float false
def exNpVec : Opd := .arr (NDA.ofList [2] [⟨1, 0⟩, ⟨-1, 0⟩] GQ.zero) .float true
def evalOk (env : Env) (e : Expr) : Bool :=
  match evalF env e with
  | .ok (.fld _) => true
  | _ => false
def exTree : Expr :=
  .bin .sub (.opd exVec) (.bin .mul (.un .neg (.leaf 0)) (.bin .dot (.leaf 1) (.un .uconjugate (.leaf 0))))

example : ∀ f ∈ exEnv.fields, CFwf f ∧ f.mesh.n = [2] := by
  intro f hf
  simp only [exEnv, List.mem_cons, List.not_mem_nil, or_false] at hf
  rcases hf with rfl | rfl | rfl | rfl <;> exact ⟨⟨rfl, rfl, by decide⟩, rfl⟩

/-! ## programs: the field-level evaluator is the per-cell evaluator, cell by cell -/

/-- **Central theorem (induction over expression trees).**  For every environment of
well-formed fields with cell counts `n`, every expression tree `e` (any depth; unary
`+ - abs`, complex parts, unary / binary ufuncs, `+ - * / **` in forward, reflected and
NumPy-dispatched form, `dot`, `cross`, `<<`, `angle`, numbers, constant vectors and
per-cell arrays of any broadcastable shape): if the field-level evaluation succeeds with
a field `g`, then `g` is well-formed on a mesh with the same cell counts and the
components of **every cell** of `g` are the same expression evaluated on the component
lists of that cell under NumPy broadcasting. -/
theorem eval_cellwise (env : Env) (n : List Nat) (hwf : ∀ f ∈ env.fields, CFwf f ∧ f.mesh.n = n)
    (e : Expr) (hok : LiftOk n e) (g : CF) (h : evalF env e = .ok (.fld g)) :
    CFwf g ∧ g.mesh.n = n ∧
      ∀ i, inRange n i = true → cellOf g.data i g.nvdim = evalCell env e i := by
  obtain ⟨hc, _⟩ := eval_good env n hwf e (.fld g) hok h
  have hc' : Cells n g (evalCell env e) (validCell env e) := hc
  exact ⟨hc'.1, hc'.2.1, fun i hi => (hc'.2.2 i hi).1⟩

example : evalOk exEnv exTree = true := by decide +kernel
example : LiftOk [2] exTree := by simp [exTree, LiftOk]

/-- validity of every cell of the result is `validCell`: the AND of the operands' masks -/
theorem eval_valid (env : Env) (n : List Nat) (hwf : ∀ f ∈ env.fields, CFwf f ∧ f.mesh.n = n)
    (e : Expr) (hok : LiftOk n e) (g : CF) (h : evalF env e = .ok (.fld g)) :
    ∀ i, inRange n i = true → g.valid.get i = validCell env e i :=
  fun i hi => (eval_spec env n hwf e hok g h i hi).2

/-- validity of leaf `k` at cell `i` -/
def leafValid (env : Env) (i : List Nat) (k : Nat) : Bool :=
  match env.fields[k]? with
  | some f => f.valid.get i
  | none => true

/-- the validity of a cell of the result is the AND over **all field leaves** of the
expression (operators, reflected operators and ufuncs alike) -/
theorem valid_is_and_of_leaves (env : Env) (e : Expr) (i : List Nat) :
    validCell env e i = e.leaves.all (leafValid env i) := by
  induction e with
  | leaf k => cases hk : env.fields[k]? <;> simp [validCell, Expr.leaves, leafValid, hk]
  | opd o => simp [validCell, Expr.leaves]
  | un u e ih => simp only [validCell, Expr.leaves]; exact ih
  | bin b l r ihl ihr => simp only [validCell, Expr.leaves, List.all_append, ihl, ihr]

example : exTree.leaves = [0, 1, 0] := by decide

/-- **the result lives on the mesh of its operands**: the mesh of the result is the mesh of
the leftmost field leaf -/
theorem eval_mesh (env : Env) (n : List Nat) (hwf : ∀ f ∈ env.fields, CFwf f ∧ f.mesh.n = n)
    (e : Expr) (hok : LiftOk n e) (g : CF) (h : evalF env e = .ok (.fld g)) :
    ∃ k f, e.firstLeaf = some k ∧ env.fields[k]? = some f ∧ g.mesh = f.mesh :=
  (eval_good env n hwf e (.fld g) hok h).2 g rfl

/-- fields on one mesh `M` ⇒ every expression over them yields a field on `M` -/
theorem eval_one_mesh (env : Env) (M : Mesh) (hM : ∀ f ∈ env.fields, CFwf f ∧ f.mesh = M)
    (e : Expr) (hok : LiftOk M.n e) (g : CF) (h : evalF env e = .ok (.fld g)) : g.mesh = M := by
  obtain ⟨k, f, _, hf, hm⟩ := eval_mesh env M.n (fun f hf => ⟨(hM f hf).1, by rw [(hM f hf).2]⟩) e hok g h
  rw [hm]
  exact (hM f (List.mem_of_getElem? hf)).2

/-- a scalar field broadcasts over the components of a vector field: cell by cell, every
component is combined with the one value of the scalar field -/
theorem scalar_field_broadcasts (fn : GQ → GQ → GQ) (x : GQ) (ys : List GQ) :
    bz fn [x] ys = ys.map (fn x) := by
  rw [bz_swap fn [x] ys (Or.inl rfl), bz_scalar_right]

/-! ## `a ∘ b` and `b ∘ a` -/

/-- **values and validity commute** (`∘ ∈ {+, *}`): if both orders are accepted, every cell
of `a∘b` equals the cell of `b∘a`, and so does its validity — whichever of the forward,
reflected or `__array_ufunc__` paths the operand types select. -/
theorem comm_values (env : Env) (n : List Nat) (hwf : ∀ f ∈ env.fields, CFwf f ∧ f.mesh.n = n)
    (b : BinOp) (hb : b = .add ∨ b = .mul) (x y : Expr) (hx : LiftOk n x) (hy : LiftOk n y) (g1 g2 : CF)
    (h1 : evalF env (.bin b x y) = .ok (.fld g1)) (h2 : evalF env (.bin b y x) = .ok (.fld g2)) :
    ∀ i, inRange n i = true →
      cellOf g1.data i g1.nvdim = cellOf g2.data i g2.nvdim ∧ g1.valid.get i = g2.valid.get i := by
  have hok1 : LiftOk n (.bin b x y) := ⟨hx, hy, by rcases hb with rfl | rfl <;> simp⟩
  have hok2 : LiftOk n (.bin b y x) := ⟨hy, hx, by rcases hb with rfl | rfl <;> simp⟩
  -- component lists of the two operands can be broadcast
  obtain ⟨vx, vy, hex, hey, h1'⟩ := evalF_bin_ok h1
  obtain ⟨hcx, _⟩ := eval_good env n hwf x vx hx hex
  obtain ⟨hcy, _⟩ := eval_good env n hwf y vy hy hey
  have hcompat := applyBin_compat env b (Or.inl (by rcases hb with rfl | rfl <;> rfl)) n vx vy g1 _ _ _ _ hcx hcy h1'
  intro i hi
  obtain ⟨c1, v1⟩ := eval_spec env n hwf _ hok1 g1 h1 i hi
  obtain ⟨c2, v2⟩ := eval_spec env n hwf _ hok2 g2 h2 i hi
  refine ⟨?_, by rw [v1, v2]; exact Bool.and_comm _ _⟩
  rw [c1, c2]
  rcases hb with rfl | rfl
  · exact bz_comm GQ.add GQ.add_comm' _ _ (hcompat i hi)
  · exact bz_comm GQ.mul GQ.mul_comm' _ _ (hcompat i hi)

example : evalOk exEnv (.bin .add (.leaf 0) (.leaf 1)) = true ∧ evalOk exEnv (.bin .add (.leaf 1) (.leaf 0)) = true := by
  decide +kernel

/-- with a plain Python operand (number, list, tuple) on the left, `o ∘ f` **is** `f ∘ o`
(`__radd__`/`__rmul__` call the forward operator): the whole result — values, validity,
labels, mapping, unit, errors — is the same -/
theorem comm_reflected (env : Env) (b : BinOp) (hb : b = .add ∨ b = .mul) (o : Opd) (hnp : isNp o = false)
    (e : Expr) : evalF env (.bin b (.opd o) e) = evalF env (.bin b e (.opd o)) := by
  simp only [evalF]
  cases he : evalF env e with
  | error er => rfl
  | ok v =>
    cases v with
    | raw o2 => rcases hb with rfl | rfl <;> rfl
    | fld f =>
      show applyBin env b (.raw o) (.fld f) = applyBin env b (.fld f) (.raw o)
      rcases hb with rfl | rfl <;> rw [applyBin_reflected env rfl hnp, applyBin_forward env rfl] <;> rfl

example : isNp exVec = false := rfl

/-- **labels and mapping commute in the provable cases**: for two
fields, `self ∘ other` and `other ∘ self` (any elementwise operator) carry the same
labels, mapping and component count when one of them is a scalar field and the other a
vector field, or when both carry the same labels and mapping. -/
theorem comm_meta_partial (fn fn' : GQ → GQ → GQ) (pw : Bool) (f o g1 g2 : CF)
    (hf : CFwf f) (ho : CFwf o) (hn : f.mesh.n = o.mesh.n)
    (hcase : (f.nvdim = 1 ∧ 1 < o.nvdim) ∨ (o.nvdim = 1 ∧ 1 < f.nvdim) ∨ (f.vdims = o.vdims ∧ f.vmap = o.vmap))
    (h1 : applyOperator fn pw f (.fld o) = .ok g1) (h2 : applyOperator fn' pw o (.fld f) = .ok g2) :
    g1.nvdim = g2.nvdim ∧ g1.vdims = g2.vdims ∧ g1.vmap = g2.vmap := by
  obtain ⟨hb1, hvd1, hvm1, _⟩ := applyOperator_fld_meta fn pw f o g1 hf ho hn h1
  obtain ⟨hb2, hvd2, hvm2, _⟩ := applyOperator_fld_meta fn' pw o f g2 ho hf hn.symm h2
  have hnv : g1.nvdim = g2.nvdim := by
    rw [bdim_comm] at hb1
    rw [hb1] at hb2
    injection hb2
  rw [hnv] at hvd1 hvm1
  rw [vmapSet_some_mesh _ _ o.mesh.region.ndim _ _ o.mesh.region.dims] at hvm1
  -- `hcase` is needed for equal counts only
  have hsrc := metaSrc_comm hb1 hf.pos ho.pos fun hne => by
    rcases hcase with h | h | h
    · omega
    · omega
    · exact h
  rw [hsrc.1] at hvd1
  rw [hvd1] at hvd2
  injection hvd2 with hvd
  rw [hsrc.2, hvd] at hvm1
  rw [hvm1] at hvm2
  injection hvm2 with hvm
  exact ⟨hnv, hvd, hvm⟩

example : evalOk exEnv (.bin .mul (.leaf 3) (.leaf 0)) = true ∧ evalOk exEnv (.bin .mul (.leaf 0) (.leaf 3)) = true := by
  decide +kernel

/-- labels of the result of evaluating `e`, if it is a field -/
def labelsOf (env : Env) (e : Expr) : Option (Option (List String)) :=
  match evalF env e with
  | .ok (.fld g) => some g.vdims
  | _ => none

/-- **commutativity of labels fails in general** (`comm_meta_iff` gives the exact condition; open known
finding D10): two
two-component fields with different labels — `a + b` carries the labels of `a`, `b + a`
those of `b`. -/
theorem comm_meta_fails :
    labelsOf exEnv (.bin .add (.leaf 0) (.leaf 1)) = some (some ["a", "b"]) ∧
    labelsOf exEnv (.bin .add (.leaf 1) (.leaf 0)) = some (some ["p", "q"]) := by
  decide +kernel

/-! ## stacking the components of a vector field -/

/-- **`f.l₀ << f.l₁ << … << f.lₖ₋₁` reproduces `f`** for every number of components `k`,
every mesh and every data: the same values in every cell, the same validity, the same
mesh, `k` components.  The labels of the stack are the default labels and its mapping the
default mapping (component fields are unlabelled scalars). -/
theorem stack_components (n : List Nat) (f g : CF) (hw : CFwf f) (hn : f.mesh.n = n) (vd : List String)
    (hvd : f.vdims = some vd) (hlen : vd.length = f.nvdim) (hnd : hasDup vd = false)
    (h : stackComps f = .ok g) :
    g.mesh = f.mesh ∧ g.nvdim = f.nvdim ∧
    (∀ i, inRange n i = true →
      cellOf g.data i g.nvdim = cellOf f.data i f.nvdim ∧ g.valid.get i = f.valid.get i) ∧
    g.vdims = Fld.defaultVdims f.nvdim ∧
    vmapSet f.nvdim f.mesh.region.ndim (Fld.defaultVdims f.nvdim) f.mesh.region.dims none = .ok g.vmap := by
  have hf : Cells n f (fun i => cellOf f.data i f.nvdim) (fun i => f.valid.get i) :=
    ⟨hw, hn, fun _ _ => ⟨rfl, rfl⟩⟩
  obtain ⟨hc, hm, hnv, hvd', hvm'⟩ := stackComps_inv n f g _ _ hf vd hvd hlen hnd h
  refine ⟨hm, hnv, ?_, hvd', hvm'⟩
  intro i hi
  obtain ⟨h1, h2⟩ := hc.2.2 i hi
  refine ⟨?_, h2⟩
  rw [h1]
  show (cellOf f.data i f.nvdim).take f.nvdim = _
  rw [List.take_of_length_le (by rw [cellOf_length])]

def stackOk (f : CF) : Bool :=
  match stackComps f with
  | .ok _ => true
  | _ => false
example : stackOk exA = true ∧ hasDup ["a", "b"] = false := by decide +kernel

/-- if `f` carries the default labels and the default mapping, the stack also reproduces
labels and mapping -/
theorem stack_components_meta (n : List Nat) (f g : CF) (hw : CFwf f) (hn : f.mesh.n = n) (vd : List String)
    (hvd : f.vdims = some vd) (hlen : vd.length = f.nvdim) (hnd : hasDup vd = false)
    (hdef : f.vdims = Fld.defaultVdims f.nvdim)
    (hmap : vmapSet f.nvdim f.mesh.region.ndim (Fld.defaultVdims f.nvdim) f.mesh.region.dims none = .ok f.vmap)
    (h : stackComps f = .ok g) : g.vdims = f.vdims ∧ g.vmap = f.vmap := by
  obtain ⟨_, _, _, hvd', hvm'⟩ := stack_components n f g hw hn vd hvd hlen hnd h
  rw [hmap] at hvm'
  injection hvm' with hvm'
  exact ⟨by rw [hvd', hdef], hvm'.symm⟩

/-! ## refusals -/

/-- **fields on different meshes are refused** by every operator-path operation
(`+ - * / **`, `dot`, `cross`, `angle`): if `Mesh.allclose` does not hold (or the axis
names differ) the step is an error, whatever the data. -/
theorem mismatch_rejected_mesh (env : Env) (b : BinOp) (hu : isUfuncBin b = false) (hb : b ≠ .shl)
    (f o : CF) (hm : meshAllclose f.mesh o.mesh ≠ .ok true) :
    ∃ e, applyBin env b (.fld f) (.fld o) = .error e :=
  applyBin_unchecked env hu hb f o fun hc => hm (checkSame_ok_iff.mp hc).1

example : meshAllclose exA.mesh exC.mesh ≠ .ok true := by decide +kernel

/-- `<<` compares the meshes with `!=` -/
theorem shl_rejects_other_mesh (f o : CF) (hm : meshEq f.mesh o.mesh = false) :
    ∃ e, shlFF f o = .error e :=
  err_of_not_ok _ fun _ hg => Bool.noConfusion (hm.symm.trans (shlFF_ok_iff.mp hg).1)

/-- **incompatible component counts are refused**: `k ≠ l`, both above 1, under
`+ - * / **`; any `k ≠ l` under `dot`, `cross`, `angle` -/
theorem mismatch_rejected_nvdim (env : Env) (b : BinOp) (hu : isUfuncBin b = false) (hb : b ≠ .shl)
    (f o : CF) (hne : f.nvdim ≠ o.nvdim)
    (h1 : (b = .dot ∨ b = .cross ∨ b = .angle) ∨ (f.nvdim ≠ 1 ∧ o.nvdim ≠ 1)) :
    ∃ e, applyBin env b (.fld f) (.fld o) = .error e := by
  refine applyBin_unchecked env hu hb f o fun hc => ?_
  rcases (checkSame_ok_iff.mp hc).2 with ⟨hs, h⟩ | h
  · rcases h1 with (rfl | rfl | rfl) | ⟨h2, h3⟩
    · exact Bool.false_ne_true hs
    · exact Bool.false_ne_true hs
    · exact Bool.false_ne_true hs
    · exact h.elim h2 h3
  · exact hne h

/-- `cross` needs three components on both sides -/
theorem cross_needs_three (f o : CF) (h : f.nvdim ≠ 3 ∨ o.nvdim ≠ 3) : ∃ e, crossOp f (.fld o) = .error e :=
  err_of_not_ok _ fun _ hg =>
    have h3 := (crossOp_ok_iff.mp hg).2.1 o rfl
    h.elim (fun h => h h3.1) (fun h => h h3.2)

/-- **binary ufuncs refuse fields on different meshes too**:
`np.add(f, g)`, `np.maximum(f, g)`, … are an error when `Mesh.allclose` does not hold -/
theorem mismatch_rejected_mesh_ufunc (fn : GQ → GQ → GQ) (pw : Bool) (f o : CF)
    (hm : meshAllclose f.mesh o.mesh ≠ .ok true) : ∃ e, ufunc2 fn pw (.fld f) (.fld o) = .error e :=
  err_of_not_ok _ fun _ hg =>
    let ⟨_, ⟨hs, _, hr⟩, _⟩ := ufunc2_ok_iff.mp hg
    hm (Option.some.inj hs ▸ ufuncIn_fld.mp hr)

example : evalOk exEnv (.bin .uadd (.leaf 0) (.leaf 2)) = false ∧ evalOk exEnv (.bin .add (.leaf 0) (.leaf 2)) = false ∧
    evalOk exEnv (.bin .uadd (.leaf 0) (.leaf 1)) = true := by
  decide +kernel

example : evalOk exEnv (.bin .mul (.opd exNpVec) (.leaf 0)) = true := by decide +kernel

/-! ## labels, mapping and unit through the unary operations -/

/-- `-f`, `abs(f)`, `f.real`, `f.imag`, `f.conjugate`, `f.abs`, `f.phase` keep component
count, labels and mapping; `abs`, `real`, `imag`, `conjugate` also keep the unit -/
theorem unary_keeps_meta (fn : GQ → GQ) (rk : Kind → Kind) (keepUnit : Bool) (f g : CF) (hs : MetaStable f)
    (h : mapField fn rk keepUnit f = .ok g) :
    g.nvdim = f.nvdim ∧ g.vdims = f.vdims ∧ g.vmap = f.vmap ∧ g.mesh = f.mesh ∧
      g.unit = (if keepUnit then f.unit else none) := by
  have h := mapField_ok_iff.mp h
  obtain ⟨hm, hn, _⟩ := mkField_mesh h
  obtain ⟨hvd, hvm⟩ := mkField_meta h
  have hu := mkField_unit h
  rw [hs.1] at hvd
  injection hvd with hvd
  rw [← hvd, hs.2] at hvm
  injection hvm with hvm
  exact ⟨hn, hvd.symm, hvm.symm, hm, hu⟩

example : MetaStable exA := by
  constructor <;> decide +kernel

example : evalOk exEnv (.un .abs (.leaf 0)) = true := by decide +kernel

/-! ## well-formed inputs are accepted: totality on typed trees

`HasTy env M e t` (`Lemmas/C03Typing.lean`) is a static typing judgment: it predicts component
count, labels, mapping, unit and dtype kind of the value of `e` from the leaves alone.  `Good M f` =
array / mask of the mesh's shape + labels and mapping in constructor state + `f.mesh = M`;
`MeshOk M` = the region names all axes and `M.allclose(M)` holds. -/

/-- fields of the examples that live on one mesh -/
def exEnv1 : Env := { fields := [exA, exB, exS], sq := id, acos := id, arg := fun _ => 0 }

example : MeshOk exMesh := ⟨rfl, by decide +kernel⟩

example : ∀ f ∈ exEnv1.fields, Good exMesh f := by
  intro f hf
  simp only [exEnv1, List.mem_cons, List.not_mem_nil, or_false] at hf
  rcases hf with rfl | rfl | rfl
  · exact ⟨⟨rfl, rfl, by decide⟩, ⟨by decide +kernel, by decide +kernel⟩, rfl⟩
  · exact ⟨⟨rfl, rfl, by decide⟩, ⟨by decide +kernel, by decide +kernel⟩, rfl⟩
  · exact ⟨⟨rfl, rfl, by decide⟩, ⟨by decide +kernel, by decide +kernel⟩, rfl⟩

/-- the tree `exVec - (-a * (b · conj a))` is well-typed -/
example : ∃ t, HasTy exEnv1 exMesh exTree t :=
  ⟨_, .arithRF .sub exVec _ _ rfl
        (.arithFF .mul _ _ _ _ 2 rfl (.un .neg _ _ (.leaf 0 exA rfl))
          (.dotFF _ _ _ _ (.leaf 1 exB rfl) (.un .uconjugate _ _ (.leaf 0 exA rfl)) rfl) (by decide))
        (Or.inl rfl)⟩

/-- `Mesh.allclose` is reflexive for non-negative tolerances, so every mesh whose region
names all its axes is `MeshOk` -/
theorem mesh_ok_of_tolerances (M : Mesh) (hd : M.region.dims.length = M.region.ndim)
    (h1 : 0 ≤ M.region.tol) (h2 : 0 ≤ M.region.atol) : MeshOk M :=
  ⟨hd, meshAllclose_self M h1 h2⟩

example : (0 : Rat) ≤ exMesh.region.tol ∧ 0 ≤ exMesh.region.atol := by decide +kernel

/-- **Totality and full correctness on typed trees** (discharges the success hypothesis of
`eval_cellwise` / `eval_valid` / `eval_mesh`): every well-typed expression tree over
well-formed fields on one mesh `M` — leaves, all 14 unary operations, `+ - * /` between
fields with equal counts or a scalar field, with numbers, constant vectors of matching
length and per-cell arrays on either side (plain Python or NumPy), `**` with a number,
vector, array or field exponent (NumPy's integer-power rule permitting) and `NumPy number ** f`,
`dot`, `cross`, `<<` between fields and with numbers / constant vectors on either side, `angle`
with a field, number, vector or per-cell array, binary ufunc calls incl. `np.power` in both
operand positions and an unlabelled scalar field first — **is accepted**; the result is a
well-formed field **on `M`** with labels / mapping in constructor state, it carries exactly
the statically predicted component count, labels, mapping, unit and dtype kind, every cell holds the
same expression evaluated on that cell's component lists, and its validity is the AND of
the operands' masks. -/
theorem typed_total (env : Env) (M : Mesh) (hM : MeshOk M) (hgood : ∀ f ∈ env.fields, Good M f)
    (e : Expr) (t : Ty) (h : HasTy env M e t) :
    ∃ g, evalF env e = .ok (.fld g) ∧ g.mesh = M ∧ CFwf g ∧ MetaStable g ∧
      g.nvdim = t.nv ∧ g.vdims = t.vdims ∧ g.vmap = t.vmap ∧ g.unit = t.unit ∧ g.kind = t.kind ∧
      ∀ i, inRange M.n i = true →
        cellOf g.data i g.nvdim = evalCell env e i ∧ g.valid.get i = validCell env e i := by
  obtain ⟨g, hg, ⟨hwf, hst, hm⟩, h1, h2, h3, h4, h5⟩ := hasTy_sound env M hM hgood e t h
  have hok := hasTy_liftOk env M e t h
  exact ⟨g, hg, hm, hwf, hst, h1, h2, h3, h4, h5, eval_spec env M.n (fields_wf hgood) e hok g hg⟩

/-- **every field a constructor call returns has labels and mapping in constructor state**
(`MetaStable`): handing them to the constructor again changes nothing.  (Mesh whose region
names all its axes; labels argument not the explicitly empty list.) -/
theorem ctor_meta_stable (mesh : Mesh) (nv : Nat) (val : Value) (kind : Kind) (vd : Option (List String))
    (valid : Option (NDA Bool)) (vm : Option VMap) (unit : Option String) (g : CF)
    (hdims : mesh.region.dims.length = mesh.region.ndim) (hne : vd ≠ some [])
    (h : mkField mesh nv val kind vd valid vm unit = .ok g) : MetaStable g :=
  mkField_stable mesh nv val kind vd valid vm unit g hdims hne h

/-- **invariant over arbitrary programs** (induction over all expression trees, no typing
restriction, any mix of meshes): if every leaf has labels / mapping in constructor state on
a mesh that names its axes, so has the value of every accepted expression — operators,
reflected operators, `dot`, `cross`, `<<`, `angle`, complex parts and ufuncs preserve it. -/
theorem eval_meta_invariant (env : Env)
    (hleaf : ∀ f ∈ env.fields, MetaStable f ∧ f.mesh.region.dims.length = f.mesh.region.ndim)
    (e : Expr) (g : CF) (h : evalF env e = .ok (.fld g)) :
    MetaStable g ∧ g.mesh.region.dims.length = g.mesh.region.ndim :=
  evalF_inv env hleaf e g h

example : ∀ f ∈ exEnv.fields, MetaStable f ∧ f.mesh.region.dims.length = f.mesh.region.ndim := by
  intro f hf
  simp only [exEnv, List.mem_cons, List.not_mem_nil, or_false] at hf
  rcases hf with rfl | rfl | rfl | rfl <;> exact ⟨⟨by decide +kernel, by decide +kernel⟩, rfl⟩

/-! ## acceptance and metadata rule of every operator family -/

/-- **`self ∘ other` for two fields** (`∘` any of `+ - * / **` with its NumPy function `fn`):
accepted whenever the component counts are equal or one of them is 1 (and NumPy's
integer-power rule does not object); the result has the broadcast count, **the labels and
mapping of the vector operand** (of `self` when the counts agree; D10/D51), **no unit**, and the dtype kind NumPy's promotion gives (at least float). -/
theorem binary_fields_meta (fn : GQ → GQ → GQ) (pw : Bool) (M : Mesh) (hM : MeshOk M) (f o : CF)
    (hf : Good M f) (ho : Good M o) (d : Nat) (hd : bdim f.nvdim o.nvdim = some d)
    (hpw : negIntPow pw f.kind o.kind o.data = false) :
    ∃ g, applyOperator fn pw f (.fld o) = .ok g ∧ Good M g ∧ g.nvdim = d ∧
      g.vdims = (if f.nvdim = 1 ∧ 1 < o.nvdim then o.vdims else f.vdims) ∧
      g.vmap = (if f.nvdim = 1 ∧ 1 < o.nvdim then o.vmap else f.vmap) ∧ g.unit = none ∧
      g.kind = (f.kind.join o.kind).ctor := by
  obtain ⟨g, h, hg, h1, h2, h3, h4, h5⟩ := Accepts.conj <| applyOperator_fld_accepts fn pw M hM f o hf ho d hd hpw
  refine ⟨g, h, hg, h1, ?_, ?_, h4, h5⟩
  · rw [h2]; exact metaSrc_apply (·.vdims) f o
  · rw [h3]; exact metaSrc_apply (·.vmap) f o

example : bdim exS.nvdim exA.nvdim = some 2 ∧ negIntPow false exS.kind exA.kind exA.data = false := by
  decide +kernel

/-- **`self ∘ number / constant vector / per-cell array`**: accepted for a number, a vector of
length `nvdim` and an array of the field's own shape; component count, labels and mapping
of `self` are kept, the unit is dropped. -/
theorem binary_raw_meta (fn : GQ → GQ → GQ) (pw : Bool) (M : Mesh) (f : CF) (hf : Good M f)
    (od : Opd) (hfit : RawFits f.mesh.n f.nvdim od) (hpw : negIntPow pw f.kind (rawKind od) (rawArr od) = false) :
    ∃ g, applyOperator fn pw f (.raw od) = .ok g ∧ Good M g ∧ g.nvdim = f.nvdim ∧
      g.vdims = f.vdims ∧ g.vmap = f.vmap ∧ g.unit = none ∧ g.kind = (f.kind.join (rawKind od)).ctor :=
  (applyOperator_raw_accepts fn pw M f hf od (hf.mesh ▸ hfit) hpw).conj

example : RawFits exA.mesh.n exA.nvdim exVec := Or.inl rfl

/-- **all 14 unary operations are accepted**; component count, labels and mapping are kept;
the unit is kept by `+f`, `abs(f)`, `real`, `imag`, `conjugate` and dropped by `-f`,
`f.abs`, `f.phase` and the unary ufuncs; the dtype kind follows `unKind` (`+f` is `f`; `abs`,
`real`, `imag` give a real kind; `phase` float; everything is stored as at least float). -/
theorem unary_accepts_meta (env : Env) (u : UnOp) (M : Mesh) (hM : MeshOk M) (f : CF) (hf : Good M f) :
    ∃ g, applyUn env u f = .ok g ∧ Good M g ∧ g.nvdim = f.nvdim ∧ g.vdims = f.vdims ∧ g.vmap = f.vmap ∧
      g.unit = (if unKeepsUnit u then f.unit else none) ∧ g.kind = unKind u f.kind :=
  (applyUn_accepts env u M hM f hf).conj

/-- **`dot`**: two fields with equal counts, or a field with a constant vector / per-cell
array, are accepted; the result is an unlabelled scalar field without mapping and unit. -/
theorem dot_meta (M : Mesh) (hM : MeshOk M) (f : CF) (hf : Good M f) (v : Val)
    (hv : (∃ o, v = .fld o ∧ Good M o ∧ f.nvdim = o.nvdim) ∨
          (∃ a k np, v = .raw (.arr a k np) ∧ RawFits f.mesh.n f.nvdim (.arr a k np))) :
    ∃ g, dotOp f v = .ok g ∧ Good M g ∧ g.nvdim = 1 ∧ g.vdims = none ∧ g.vmap = [] ∧ g.unit = none := by
  rcases hv with ⟨o, rfl, ho, hn⟩ | ⟨a, k, np, rfl, hfit⟩
  · obtain ⟨g, h, hg, h1, h2, h3, h4, _⟩ := Accepts.conj <| dotOp_fld_accepts M hM f o hf ho hn
    exact ⟨g, h, hg, h1, h2, h3, h4⟩
  · obtain ⟨g, h, hg, h1, h2, h3, h4, _⟩ := Accepts.conj <| dotOp_raw_accepts M f hf a k np (hf.mesh ▸ hfit)
    exact ⟨g, h, hg, h1, h2, h3, h4⟩

/-- **`cross`**: two three-component fields, or such a field with a 3-vector / per-cell
array of 3-vectors, are accepted; the result keeps the labels of `self`, gets the default
mapping for these labels and no unit. -/
theorem cross_meta (M : Mesh) (hM : MeshOk M) (f : CF) (hf : Good M f) (h3 : f.nvdim = 3) (v : Val)
    (hv : (∃ o, v = .fld o ∧ Good M o ∧ o.nvdim = 3) ∨
          (∃ a k np, v = .raw (.arr a k np) ∧ RawFits f.mesh.n f.nvdim (.arr a k np))) :
    ∃ g, crossOp f v = .ok g ∧ Good M g ∧ g.nvdim = 3 ∧ g.vdims = f.vdims ∧
      vmapSet 3 M.region.ndim f.vdims M.region.dims none = .ok g.vmap ∧ g.unit = none := by
  rcases hv with ⟨o, rfl, ho, hn⟩ | ⟨a, k, np, rfl, hfit⟩
  · obtain ⟨g, h, hg, h1, h2, h3', h4, _⟩ := (crossOp_fld_accepts M hM f o hf ho h3 hn).conj
    exact ⟨g, h, hg, h1, h2, by rw [vmapSet_none_eq, h3'], h4⟩
  · obtain ⟨g, h, hg, h1, h2, h3', h4, _⟩ := (crossOp_raw_accepts M hM f hf h3 a k np (hf.mesh ▸ hfit)).conj
    exact ⟨g, h, hg, h1, h2, by rw [vmapSet_none_eq, h3'], h4⟩

/-- three-component field for the `cross` examples -/
def exV3 : CF := { mesh := exMesh, nvdim := 3,
                   data := NDA.ofList [2, 3] [⟨1, 0⟩, ⟨2, 0⟩, ⟨3, 0⟩, ⟨4, 0⟩, ⟨5, 0⟩, ⟨6, 1⟩] GQ.zero,
                   valid := exValid true true, vdims := some ["u", "v", "w"], vmap := [], unit := none,
                   kind := .complex }

example : Good exMesh exV3 ∧ exV3.nvdim = 3 :=
  ⟨⟨⟨rfl, rfl, by decide⟩, ⟨by decide +kernel, by decide +kernel⟩, rfl⟩, rfl⟩

/-- **binary ufunc calls** (`np.add(f, g)`, `np.maximum(f, 2)`, `np.float64(2) * f`,
`ndarray + f`, …): accepted for two fields when the result has `self`'s component count,
and for a number / NumPy vector of matching length / NumPy per-cell array in either
position; labels and mapping of `self` (the first field input) are kept, no unit. -/
theorem ufunc_meta (fn : GQ → GQ → GQ) (M : Mesh) (hM : MeshOk M) (f : CF) (hf : Good M f) :
    (∀ o, Good M o → bdim f.nvdim o.nvdim = some f.nvdim →
      ∃ g, ufunc2 fn false (.fld f) (.fld o) = .ok g ∧ Good M g ∧ g.nvdim = f.nvdim ∧ g.vdims = f.vdims ∧
        g.vmap = f.vmap ∧ g.unit = none) ∧
    (∀ od, RawFits f.mesh.n f.nvdim od → UfuncOpd od →
      (∃ g, ufunc2 fn false (.fld f) (.raw od) = .ok g ∧ Good M g ∧ g.nvdim = f.nvdim ∧ g.vdims = f.vdims ∧
        g.vmap = f.vmap ∧ g.unit = none) ∧
      (∃ g, ufunc2 fn false (.raw od) (.fld f) = .ok g ∧ Good M g ∧ g.nvdim = f.nvdim ∧ g.vdims = f.vdims ∧
        g.vmap = f.vmap ∧ g.unit = none)) := by
  refine ⟨fun o ho hd => ?_, fun od hfit hu => ⟨?_, ?_⟩⟩
  · obtain ⟨g, h, hg, h1, h2, h3, h4, _⟩ :=
      Accepts.conj <| ufunc2_ff_accepts fn false M hM f o hf ho hd (negIntPow_false _ _ _)
    exact ⟨g, h, hg, h1, h2, h3, h4⟩
  · obtain ⟨g, h, hg, h1, h2, h3, h4, _⟩ :=
      Accepts.conj <| ufunc2_fr_accepts fn false M hM f hf od (hf.mesh ▸ hfit) hu (negIntPow_false _ _ _)
    exact ⟨g, h, hg, h1, h2, h3, h4⟩
  · obtain ⟨g, h, hg, h1, h2, h3, h4, _⟩ :=
      Accepts.conj <| ufunc2_rf_accepts fn false M hM f hf od (hf.mesh ▸ hfit) hu (negIntPow_false _ _ _)
    exact ⟨g, h, hg, h1, h2, h3, h4⟩

example : RawFits exA.mesh.n exA.nvdim exNpVec ∧ UfuncOpd exNpVec := ⟨Or.inl rfl, rfl⟩

/-- **`norm` and `angle`**: `f.norm` is accepted and keeps the unit; `f.angle(g)` is accepted
for two fields with equal component counts; both are unlabelled scalar fields without
mapping, the angle has unit `rad`. -/
theorem norm_angle_meta (sq acos : Rat → Rat) (M : Mesh) (hM : MeshOk M) (f o : CF) (hf : Good M f) (ho : Good M o)
    (hn : f.nvdim = o.nvdim) :
    (∃ g, normOp sq f = .ok g ∧ Good M g ∧ g.nvdim = 1 ∧ g.vdims = none ∧ g.vmap = [] ∧ g.unit = f.unit ∧
      g.kind = f.kind.realOf.ctor) ∧
    (∃ g, angleOp sq acos f (.fld o) = .ok g ∧ Good M g ∧ g.nvdim = 1 ∧ g.vdims = none ∧ g.vmap = [] ∧
      g.unit = some "rad" ∧ g.kind = .float) :=
  ⟨(normOp_accepts sq M f hf).conj, (angleOp_fld_accepts sq acos M hM f o hf ho hn).conj⟩

/-- **`<<` between two fields on one mesh is always accepted** (any component counts `k`,
`l`).  The result has `k + l` components and no unit; **its labels are the concatenation
when both operands are labelled and no label repeats, the default labels otherwise; its
mapping is the merged dict when that covers all `k + l` components, the default mapping
otherwise** ("stacking keeps labels and mapping when unique"). -/
theorem shl_meta (M : Mesh) (hM : MeshOk M) (f o : CF) (hf : Good M f) (ho : Good M o) :
    ∃ g, shlFF f o = .ok g ∧ Good M g ∧ g.nvdim = f.nvdim + o.nvdim ∧ g.unit = none ∧
      g.vdims = shlLabels f.vdims o.vdims (f.nvdim + o.nvdim) ∧
      (if (dictUpdate f.vmap o.vmap).length = f.nvdim + o.nvdim then g.vmap = dictUpdate f.vmap o.vmap
       else vmapSet (f.nvdim + o.nvdim) M.region.ndim g.vdims M.region.dims none = .ok g.vmap) ∧
      g.kind = (f.kind.join o.kind).ctor := by
  obtain ⟨g, h, hg, ht⟩ := shlFF_accepts M hM f o hf ho
  have hd : g.vdims = shlLabels f.vdims o.vdims (f.nvdim + o.nvdim) := congrArg Ty.vdims ht
  have hv : g.vmap = shlMap M (tyOf f) (tyOf o) := congrArg Ty.vmap ht
  refine ⟨g, h, hg, congrArg Ty.nv ht, congrArg Ty.unit ht, hd, ?_, congrArg Ty.kind ht⟩
  by_cases hl : (dictUpdate f.vmap o.vmap).length = f.nvdim + o.nvdim
  · rw [if_pos hl, hv]; exact if_pos hl
  · rw [if_neg hl, hv, hd, vmapSet_none_eq]; exact congrArg Except.ok (if_neg hl).symm

/-- unique labels are kept by `<<`, and full mappings over disjoint labels are concatenated -/
theorem shl_keeps_unique (a b : List String) (nv : Nat) (hd : hasDup (a ++ b) = false) (m u : VMap)
    (hnd : (keys u).Nodup) (hdis : ∀ x ∈ keys u, x ∉ keys m) :
    shlLabels (some a) (some b) nv = some (a ++ b) ∧ dictUpdate m u = m ++ u :=
  ⟨shlLabels_unique a b nv hd, dictUpdate_disjoint u m hnd hdis⟩

example : hasDup (["a", "b"] ++ ["p", "q"]) = false := by decide

/-- **`f.label` is accepted for every label of `f`**: an unlabelled scalar field on the same
mesh, without mapping, with `f`'s unit -/
theorem component_accepts (M : Mesh) (f : CF) (hf : Good M f) (vd : List String) (hvd : f.vdims = some vd)
    (l : String) (hl : l ∈ vd) :
    ∃ c, getComp f l = .ok c ∧ Good M c ∧ c.nvdim = 1 ∧ c.vdims = none ∧ c.vmap = [] ∧ c.unit = f.unit :=
  let ⟨c, h, hc, h1, h2, h3, h4, _⟩ := (getComp_accepts M f hf vd hvd l hl).conj
  ⟨c, h, hc, h1, h2, h3, h4⟩

/-- **stacking the components of a labelled field is accepted and reproduces it** (no
success hypothesis): for every well-formed field `f` with labels on a mesh `M`,
`f.l₀ << … << f.lₖ₋₁` evaluates to a field on `M` with `k` components, the same values in
every cell and the same validity; its labels / mapping are the default ones. -/
theorem stack_components_total (M : Mesh) (hM : MeshOk M) (f : CF) (hf : Good M f) (vd : List String)
    (hvd : f.vdims = some vd) :
    ∃ g, stackComps f = .ok g ∧ Good M g ∧ g.nvdim = f.nvdim ∧
      (∀ i, inRange M.n i = true →
        cellOf g.data i g.nvdim = cellOf f.data i f.nvdim ∧ g.valid.get i = f.valid.get i) ∧
      g.vdims = Fld.defaultVdims f.nvdim ∧
      vmapSet f.nvdim M.region.ndim (Fld.defaultVdims f.nvdim) M.region.dims none = .ok g.vmap := by
  obtain ⟨g, hg, hgg⟩ := stackComps_accepts M hM f hf vd hvd
  obtain ⟨_, hlen, hnd⟩ := hf.2.1.labels hf.wf.pos vd hvd
  obtain ⟨_, hn, hc, h4, h5⟩ := stack_components M.n f g hf.1 (by rw [hf.mesh]) vd hvd hlen hnd hg
  rw [hf.mesh] at h5
  exact ⟨g, hg, hgg, hn, hc, h4, h5⟩

example : Good exMesh exA ∧ exA.vdims = some ["a", "b"] :=
  ⟨⟨⟨rfl, rfl, by decide⟩, ⟨by decide +kernel, by decide +kernel⟩, rfl⟩, rfl⟩

/-! ## `a ∘ b` and `b ∘ a` on whole trees -/

/-- **labels, mapping, count and unit of `x ∘ y` and `y ∘ x` agree for whole subtrees**
(`∘ ∈ {+, *}`; partial: the cases the code satisfies): for well-typed subexpressions `x`,
`y` whose values are a scalar field and a vector field (either order), or carry the same
labels and mapping, both orders are accepted and the two results have the same component
count, labels, mapping, unit and dtype kind.  Missing for the full claim: operands with
different labels and equal counts (D10, D51 — `comm_meta_fails`, `comm_meta_fails_scalar`). -/
theorem comm_meta_trees_partial (env : Env) (M : Mesh) (hM : MeshOk M) (hgood : ∀ f ∈ env.fields, Good M f)
    (b : BinOp) (hb : b = .add ∨ b = .mul) (x y : Expr) (tx ty : Ty)
    (hx : HasTy env M x tx) (hy : HasTy env M y ty) (d : Nat) (hd : bdim tx.nv ty.nv = some d)
    (hcase : (tx.nv = 1 ∧ 1 < ty.nv) ∨ (ty.nv = 1 ∧ 1 < tx.nv) ∨ (tx.vdims = ty.vdims ∧ tx.vmap = ty.vmap)) :
    ∃ g1 g2, evalF env (.bin b x y) = .ok (.fld g1) ∧ evalF env (.bin b y x) = .ok (.fld g2) ∧
      g1.nvdim = g2.nvdim ∧ g1.vdims = g2.vdims ∧ g1.vmap = g2.vmap ∧ g1.unit = g2.unit ∧ g1.kind = g2.kind := by
  obtain ⟨f, hf, hfg, f1, f2, f3, _⟩ := hasTy_sound env M hM hgood x tx hx
  obtain ⟨o, ho, hog, o1, o2, o3, _⟩ := hasTy_sound env M hM hgood y ty hy
  have hba : isArith b = true := by rcases hb with rfl | rfl <;> rfl
  have hd1 : bdim f.nvdim o.nvdim = some d := by rw [f1, o1]; exact hd
  have hd2 : bdim o.nvdim f.nvdim = some d := by rw [bdim_comm]; exact hd1
  have hpw := negIntPow_notpow b (isPow_arith hba)
  obtain ⟨g1, h1, _, n1, v1, m1, u1, k1⟩ := (applyOperator_fld_accepts (binFn b) _ M hM f o hfg hog d hd1 (hpw _ _ _)).conj
  obtain ⟨g2, h2, _, n2, v2, m2, u2, k2⟩ := (applyOperator_fld_accepts (binFn b) _ M hM o f hog hfg d hd2 (hpw _ _ _)).conj
  have hev := fun (f o g : CF) (h : applyOperator (binFn b) (isPow b) f (.fld o) = .ok g) =>
    show applyBin env b (.fld f) (.fld o) = .ok (.fld g) by rw [applyBin_operator env (Or.inl hba), h]; rfl
  have hsrc := metaSrc_comm hd1 hfg.wf.pos hog.wf.pos fun hne => by
    rw [f2, o2, f3, o3]
    rcases hcase with h | h | h
    · omega
    · omega
    · exact h
  exact ⟨g1, g2, by rw [evalF_bin env b x y _ _ hf ho, hev f o g1 h1], by rw [evalF_bin env b y x _ _ ho hf, hev o f g2 h2],
    by rw [n1, n2], by rw [v1, v2, hsrc.1], by rw [m1, m2, hsrc.2], by rw [u1, u2], by rw [k1, k2, Kind.join_comm]⟩

example : HasTy exEnv1 exMesh (.leaf 2) (tyOf exS) ∧ HasTy exEnv1 exMesh (.leaf 0) (tyOf exA) ∧
    bdim (tyOf exS).nv (tyOf exA).nv = some 2 :=
  ⟨.leaf 2 exS rfl, .leaf 0 exA rfl, by decide⟩

/-- **`x ∘ y` and `y ∘ x` are the same field** (`∘ ∈ {+, *}`; partial: the operand classes the
code satisfies, no success hypothesis): for well-typed subtrees whose values are a scalar
field and a vector field (either order) or carry the same labels and mapping, both orders
are accepted and the two results have the same mesh, component count, labels, mapping, unit,
dtype kind, the same values in every cell and the same validity.  Missing for the full claim: operands
with different labels and equal counts (D10, D51). -/
theorem comm_same_field_partial (env : Env) (M : Mesh) (hM : MeshOk M) (hgood : ∀ f ∈ env.fields, Good M f)
    (b : BinOp) (hb : b = .add ∨ b = .mul) (x y : Expr) (tx ty : Ty)
    (hx : HasTy env M x tx) (hy : HasTy env M y ty) (d : Nat) (hd : bdim tx.nv ty.nv = some d)
    (hcase : (tx.nv = 1 ∧ 1 < ty.nv) ∨ (ty.nv = 1 ∧ 1 < tx.nv) ∨ (tx.vdims = ty.vdims ∧ tx.vmap = ty.vmap)) :
    ∃ g1 g2, evalF env (.bin b x y) = .ok (.fld g1) ∧ evalF env (.bin b y x) = .ok (.fld g2) ∧
      g1.mesh = M ∧ g2.mesh = M ∧ g1.nvdim = g2.nvdim ∧ g1.vdims = g2.vdims ∧ g1.vmap = g2.vmap ∧
      g1.unit = g2.unit ∧ g1.kind = g2.kind ∧
      ∀ i, inRange M.n i = true →
        cellOf g1.data i g1.nvdim = cellOf g2.data i g2.nvdim ∧ g1.valid.get i = g2.valid.get i := by
  obtain ⟨g1, g2, h1, h2, a1, a2, a3, a4, a5⟩ :=
    comm_meta_trees_partial env M hM hgood b hb x y tx ty hx hy d hd hcase
  have hba : isArith b = true := by rcases hb with rfl | rfl <;> rfl
  obtain ⟨g1', h1', m1, _⟩ := typed_total env M hM hgood _ _ (HasTy.arithFF b x y tx ty d hba hx hy hd)
  obtain ⟨g2', h2', m2, _⟩ := typed_total env M hM hgood _ _
    (HasTy.arithFF b y x ty tx d hba hy hx (by rw [bdim_comm]; exact hd))
  rw [h1] at h1'; injection h1' with h1'; injection h1' with h1'; subst h1'
  rw [h2] at h2'; injection h2' with h2'; injection h2' with h2'; subst h2'
  exact ⟨g1, g2, h1, h2, m1, m2, a1, a2, a3, a4, a5,
    comm_values env M.n (fields_wf hgood) b hb x y (hasTy_liftOk env M x tx hx) (hasTy_liftOk env M y ty hy) g1 g2 h1 h2⟩

/-- **`x ∘ c` and `c ∘ x` carry the same metadata** (`∘ ∈ {+, *}`) for a well-typed subtree `x`
and a number, a constant vector of matching length or a per-cell array `c` — plain Python
(reflected method) or NumPy (`__array_ufunc__`): both orders are accepted and give the same
component count, labels, mapping, unit, dtype kind, values in every cell and validity: the
same field on the same mesh. -/
theorem comm_meta_raw (env : Env) (M : Mesh) (hM : MeshOk M) (hgood : ∀ f ∈ env.fields, Good M f)
    (b : BinOp) (hb : b = .add ∨ b = .mul) (x : Expr) (t : Ty) (hx : HasTy env M x t) (od : Opd)
    (hfit : RawFits M.n t.nv od) :
    ∃ g1 g2, evalF env (.bin b x (.opd od)) = .ok (.fld g1) ∧ evalF env (.bin b (.opd od) x) = .ok (.fld g2) ∧
      g1.mesh = M ∧ g2.mesh = M ∧ g1.nvdim = g2.nvdim ∧ g1.vdims = g2.vdims ∧ g1.vmap = g2.vmap ∧
      g1.unit = g2.unit ∧ g1.kind = g2.kind ∧
      ∀ i, inRange M.n i = true →
        cellOf g1.data i g1.nvdim = cellOf g2.data i g2.nvdim ∧ g1.valid.get i = g2.valid.get i := by
  have hba : isArith b = true := by rcases hb with rfl | rfl <;> rfl
  obtain ⟨g1, h1, ⟨_, _, m1⟩, a1, a2, a3, a4, a5⟩ :=
    hasTy_sound env M hM hgood _ _ (HasTy.arithFR b x od t (Or.inl hba) hx hfit)
  obtain ⟨g2, h2, ⟨_, _, m2⟩, b1, b2, b3, b4, b5⟩ :=
    hasTy_sound env M hM hgood _ _ (HasTy.arithRF b od x t hba hx hfit)
  exact ⟨g1, g2, h1, h2, m1, m2, by rw [a1, b1], by rw [a2, b2], by rw [a3, b3], by rw [a4, b4], by rw [a5, b5],
    comm_values env M.n (fields_wf hgood) b hb x (.opd od) (hasTy_liftOk env M x t hx) trivial g1 g2 h1 h2⟩

example : RawFits exMesh.n (tyOf exA).nv exNpVec := Or.inl rfl

/-- **`-(-x)` and `conj(conj(x))` reproduce `x`** in every cell and in validity (any subtree `x`) -/
theorem involution_values (env : Env) (n : List Nat) (hwf : ∀ f ∈ env.fields, CFwf f ∧ f.mesh.n = n)
    (u : UnOp) (hu : u = .neg ∨ u = .conj) (x : Expr) (hx : LiftOk n x) (f g : CF)
    (h0 : evalF env x = .ok (.fld f)) (h1 : evalF env (.un u (.un u x)) = .ok (.fld g)) :
    ∀ i, inRange n i = true →
      cellOf g.data i g.nvdim = cellOf f.data i f.nvdim ∧ g.valid.get i = f.valid.get i := by
  intro i hi
  obtain ⟨c0, v0⟩ := eval_spec env n hwf x hx f h0 i hi
  obtain ⟨c1, v1⟩ := eval_spec env n hwf _ (show LiftOk n (.un u (.un u x)) from hx) g h1 i hi
  refine ⟨?_, by rw [v1, v0]; rfl⟩
  rw [c1, c0]
  simp only [evalCell, List.map_map]
  have hid : (unFn env u ∘ unFn env u) = id := by
    funext z
    rcases hu with rfl | rfl
    · simp [unFn, GQ.neg]
    · simp [unFn, GQ.conj]
  rw [hid, List.map_id]

example : evalOk exEnv (.un .neg (.un .neg (.leaf 0))) = true := by decide +kernel

/-- two scalar fields with different explicit labels -/
def exS1 : CF := { exS with vdims := some ["s1"] }
def exS2 : CF := { exS with vdims := some ["t2"] }
def exEnvS : Env := { fields := [exS1, exS2], sq := id, acos := id, arg := fun _ => 0 }

/-- **the labels clause of `a∘b = b∘a` also fails for one-component fields** (open finding
D51): two scalar fields with different explicit labels — `a * b` is labelled like `a`,
`b * a` like `b`. -/
theorem comm_meta_fails_scalar :
    labelsOf exEnvS (.bin .mul (.leaf 0) (.leaf 1)) = some (some ["s1"]) ∧
    labelsOf exEnvS (.bin .mul (.leaf 1) (.leaf 0)) = some (some ["t2"]) := by
  decide +kernel

/-- a labelled scalar field and a NumPy array of two values per cell -/
def exNpRows : Opd := .arr (NDA.ofList [2, 2] [⟨1, 0⟩, ⟨1, 0⟩, ⟨1, 0⟩, ⟨1, 0⟩] GQ.zero) .float true

/-- **acceptance is not symmetric for a Field and a NumPy array** (open finding D52): for the
scalar field `s` labelled `s1` and `a = np.ones((2, 2))`, `s * a` is accepted
(`_apply_operator` drops the label) while `a * s` is refused (`__array_ufunc__` keeps
`self.vdims`, the constructor rejects one label for two components). -/
theorem comm_accept_fails :
    evalOk exEnvS (.bin .mul (.leaf 0) (.opd exNpRows)) = true ∧
    evalOk exEnvS (.bin .mul (.opd exNpRows) (.leaf 0)) = false := by
  decide +kernel

/-- **`dot` commutes** in values and validity: whenever `x.dot(y)` and `y.dot(x)` (`@`, also
with a list / tuple on either side) are both accepted, the two scalar fields agree in every
cell. -/
theorem dot_comm_values (env : Env) (n : List Nat) (hwf : ∀ f ∈ env.fields, CFwf f ∧ f.mesh.n = n)
    (x y : Expr) (hx : LiftOk n x) (hy : LiftOk n y) (g1 g2 : CF)
    (h1 : evalF env (.bin .dot x y) = .ok (.fld g1)) (h2 : evalF env (.bin .dot y x) = .ok (.fld g2)) :
    ∀ i, inRange n i = true →
      cellOf g1.data i g1.nvdim = cellOf g2.data i g2.nvdim ∧ g1.valid.get i = g2.valid.get i := by
  have hok1 : LiftOk n (.bin .dot x y) := ⟨hx, hy, by simp⟩
  have hok2 : LiftOk n (.bin .dot y x) := ⟨hy, hx, by simp⟩
  obtain ⟨vx, vy, hex, hey, h1'⟩ := evalF_bin_ok h1
  obtain ⟨hcx, _⟩ := eval_good env n hwf x vx hx hex
  obtain ⟨hcy, _⟩ := eval_good env n hwf y vy hy hey
  have hcompat := applyBin_compat env .dot (Or.inr rfl) n vx vy g1 _ _ _ _ hcx hcy h1'
  intro i hi
  obtain ⟨c1, v1⟩ := eval_spec env n hwf _ hok1 g1 h1 i hi
  obtain ⟨c2, v2⟩ := eval_spec env n hwf _ hok2 g2 h2 i hi
  refine ⟨?_, by rw [v1, v2]; exact Bool.and_comm _ _⟩
  rw [c1, c2]
  exact congrArg (fun x => [x]) (dotCell_comm _ _ (hcompat i hi))

example : evalOk exEnv (.bin .dot (.leaf 0) (.leaf 1)) = true ∧ evalOk exEnv (.bin .dot (.leaf 1) (.leaf 0)) = true := by
  decide +kernel

/-- **`cross` anticommutes**: whenever `x.cross(y)` and `y.cross(x)` (`&`) are both accepted,
every cell of the second is the negated cell of the first, and the validities agree. -/
theorem cross_anticomm_values (env : Env) (n : List Nat) (hwf : ∀ f ∈ env.fields, CFwf f ∧ f.mesh.n = n)
    (x y : Expr) (hx : LiftOk n x) (hy : LiftOk n y) (g1 g2 : CF)
    (h1 : evalF env (.bin .cross x y) = .ok (.fld g1)) (h2 : evalF env (.bin .cross y x) = .ok (.fld g2)) :
    ∀ i, inRange n i = true →
      cellOf g2.data i g2.nvdim = (cellOf g1.data i g1.nvdim).map GQ.neg ∧ g1.valid.get i = g2.valid.get i := by
  have hok1 : LiftOk n (.bin .cross x y) := ⟨hx, hy, by simp⟩
  have hok2 : LiftOk n (.bin .cross y x) := ⟨hy, hx, by simp⟩
  intro i hi
  obtain ⟨c1, v1⟩ := eval_spec env n hwf _ hok1 g1 h1 i hi
  obtain ⟨c2, v2⟩ := eval_spec env n hwf _ hok2 g2 h2 i hi
  refine ⟨?_, by rw [v1, v2]; exact Bool.and_comm _ _⟩
  rw [c1, c2]
  exact (crossCell_neg _ _).symm

def exEnv3 : Env := { fields := [exV3, { exV3 with vdims := some ["p", "q", "r"] }], sq := id, acos := id,
                      arg := fun _ => 0 }
example : evalOk exEnv3 (.bin .cross (.leaf 0) (.leaf 1)) = true ∧
    evalOk exEnv3 (.bin .cross (.leaf 1) (.leaf 0)) = true := by
  decide +kernel

/-! ## refusals of ufunc and array operands -/

/-- **binary ufuncs refuse incompatible component counts** (`k ≠ l`, both above 1):
`np.add(f, g)`, `np.maximum(f, g)`, … are an error, whatever the meshes and data -/
theorem mismatch_rejected_nvdim_ufunc (fn : GQ → GQ → GQ) (pw : Bool) (f o : CF) (hf : CFwf f) (ho : CFwf o)
    (hne : f.nvdim ≠ o.nvdim) (h1 : f.nvdim ≠ 1) (h2 : o.nvdim ≠ 1) :
    ∃ e, ufunc2 fn pw (.fld f) (.fld o) = .error e :=
  ufunc2_nvdim_rejected fn pw f o hf ho hne h1 h2

example : CFwf exA ∧ CFwf exV3 ∧ exA.nvdim ≠ exV3.nvdim := ⟨⟨rfl, rfl, by decide⟩, ⟨rfl, rfl, by decide⟩, by decide⟩

/-- **a constant vector of the wrong length is refused** by `+ - * / **` in either operand
order, for plain Python sequences (`TypeError` of `_apply_operator`, also through the
reflected methods) and NumPy vectors (broadcast error inside `__array_ufunc__`) alike. -/
theorem vector_length_rejected (env : Env) (b : BinOp) (hb : isArith b = true ∨ b = .pow) (f : CF) (hw : CFwf f)
    (a : NDA GQ) (k : Kind) (np : Bool) (m : Nat) (ha : a.shape = [m]) (hm : m ≠ f.nvdim)
    (h1 : f.nvdim ≠ 1) (hm1 : m ≠ 1) :
    (∃ e, applyBin env b (.fld f) (.raw (.arr a k np)) = .error e) ∧
    (∃ e, applyBin env b (.raw (.arr a k np)) (.fld f) = .error e) := by
  have hfw := applyOperator_vector_rejected (binFn b) (isPow b) f hw a k np m ha hm h1
  refine ⟨⟨.type, ?_⟩, ?_⟩
  · rw [applyBin_operator env hb, hfw]; rfl
  · cases np with
    | true =>
      obtain ⟨e, he⟩ := ufunc2_vector_rejected (binFn b) (isPow b) f hw a k m ha hm h1 hm1
      exact ⟨e, by rw [applyBin_np_left env hb rfl, he]; rfl⟩
    | false =>
      rw [applyBin_reflected env (isOperator_not_ufunc hb) rfl]
      refine liftFld_error (err_of_not_ok _ fun g hg => ?_)
      rcases reflectedOp_ok hg with ⟨fn, _, h⟩ | ⟨_, g0, h0, h⟩ | ⟨rfl, _⟩ | ⟨rfl, _⟩ | ⟨rfl, _⟩
      · exact nomatch (applyOperator_vector_rejected fn false f hw a k false m ha hm h1).symm.trans h
      · obtain ⟨hc0, _, hn0⟩ := mapField_cells GQ.neg id false f.mesh.n f g0 _ _ (Cells.self hw) h0
        exact nomatch (applyOperator_vector_rejected GQ.add false g0 hc0.1 a k false m ha (by rw [hn0]; exact hm)
          (by rw [hn0]; exact h1)).symm.trans h
      all_goals rcases hb with hb | hb <;> cases hb

example : (NDA.ofList [3] [⟨1, 0⟩, ⟨1, 0⟩, ⟨1, 0⟩] GQ.zero).shape = [3] ∧ 3 ≠ exA.nvdim ∧ exA.nvdim ≠ 1 := by
  decide

/-- **unsupported operand combinations are refused**: an operation without any field operand,
`number ** field` / `list ** field` (there is no `__rpow__`), `dot` / `cross` with a number,
`angle` with the field on the right. -/
theorem unsupported_rejected (env : Env) (b : BinOp) (o1 o2 : Opd) (f : CF) (z : GQ) (k : Kind) (np : Bool) :
    (∃ e, applyBin env b (.raw o1) (.raw o2) = .error e) ∧
    (isNp o1 = false → ∃ e, applyBin env .pow (.raw o1) (.fld f) = .error e) ∧
    dotOp f (.raw (.num z k np)) = .error .type ∧ crossOp f (.raw (.num z k np)) = .error .type ∧
    (∃ e, applyBin env .angle (.raw o1) (.fld f) = .error e) := by
  refine ⟨?_, ?_, rfl, rfl, ?_⟩
  · cases b <;> exact ⟨.type, rfl⟩
  · intro h
    exact ⟨.type, applyBin_reflected_error env rfl h rfl⟩
  · by_cases h : isNp o1 = true
    · exact ⟨.notImpl, applyBin_np_left_other env rfl (by rintro (h | h) <;> cases h) h f⟩
    · have h' : isNp o1 = false := by simpa using h
      exact ⟨.type, applyBin_reflected_error env rfl h' rfl⟩

/-- **rejection inside a program**: if the two operand subtrees of a binary node evaluate to
fields whose meshes are not `allclose`, the node is an error for every operation other than
`<<` (operators, `dot`, `cross`, `angle` **and** the binary ufunc calls); for `<<` when the
meshes are not equal. -/
theorem eval_mismatch_rejected (env : Env) (b : BinOp) (l r : Expr) (f o : CF)
    (hl : evalF env l = .ok (.fld f)) (hr : evalF env r = .ok (.fld o)) :
    (b ≠ .shl → meshAllclose f.mesh o.mesh ≠ .ok true → ∃ e, evalF env (.bin b l r) = .error e) ∧
    (b = .shl → meshEq f.mesh o.mesh = false → ∃ e, evalF env (.bin b l r) = .error e) := by
  rw [evalF_bin env b l r _ _ hl hr]
  refine ⟨fun hb hm => ?_, fun hb hm => ?_⟩
  · by_cases hu : isUfuncBin b = true
    · obtain ⟨e, he⟩ := mismatch_rejected_mesh_ufunc (binFn b) (isPow b) f o hm
      exact ⟨e, by rw [applyBin_ufunc env hu, he]; rfl⟩
    · exact mismatch_rejected_mesh env b (by simpa using hu) hb f o hm
  · subst hb
    obtain ⟨e, he⟩ := shl_rejects_other_mesh f o hm
    exact ⟨e, applyBin_forward_error env rfl he⟩

/-- **errors propagate** (evaluation is strict, as Python's): a unary node over a failing
subtree fails, a binary node with a failing left or right subtree fails — so a program
containing a rejected combination anywhere is rejected as a whole. -/
theorem eval_strict (env : Env) (u : UnOp) (b : BinOp) (e l r : Expr) (er : Err) :
    (evalF env e = .error er → evalF env (.un u e) = .error er) ∧
    (evalF env l = .error er → evalF env (.bin b l r) = .error er) ∧
    (evalF env r = .error er → ∃ er', evalF env (.bin b l r) = .error er') := by
  refine ⟨fun h => by simp only [evalF, h], fun h => by simp only [evalF, h], fun h => ?_⟩
  cases hl : evalF env l with
  | error e' => exact ⟨e', by simp only [evalF, hl]⟩
  | ok v => exact ⟨er, by simp only [evalF, hl, h]⟩

/-! ## the per-cell specification spelled out -/

/-- what a non-field operand contributes to cell `i` under NumPy broadcasting: a number its
one value; **a constant vector of length `k` its `k` entries, the same in every cell**; a
per-cell array of shape `n ++ [k]` its own row of cell `i`. -/
theorem rawCell_shapes (z : GQ) (a : NDA GQ) (kd : Kind) (np : Bool) (n : List Nat) (k : Nat) (i : List Nat) :
    rawCell (.num z kd np) i = [z] ∧
    (a.shape = [k] → rawCell (.arr a kd np) i = tab k (fun c => a.get [c])) ∧
    (a.shape = n ++ [k] → inRange n i = true → rawCell (.arr a kd np) i = cellOf a i k) :=
  ⟨rfl, fun h => opdCell_vector a k h i, fun h hi => opdCell_percell a n k h i hi⟩

/-- NumPy broadcasting of two component lists: equal lengths combine element by element, a
one-element list on either side is combined with every component of the other. -/
theorem bz_shapes (fn : GQ → GQ → GQ) (xs ys : List GQ) (x y : GQ) :
    (xs.length = ys.length → bz fn xs ys = List.zipWith fn xs ys) ∧
    bz fn xs [y] = xs.map (fun a => fn a y) ∧ bz fn [x] ys = ys.map (fn x) :=
  ⟨bz_zipWith fn xs ys, bz_scalar_right fn xs y, scalar_field_broadcasts fn x ys⟩

/-! ## ufuncs with two outputs: the tuple branch of `__array_ufunc__` (`np.divmod(f, g)`) -/

/-- **both results of a two-output ufunc call are cell-wise**: if `np.divmod(f, g)` (any pair of
elementwise functions `fn1`, `fn2`) is accepted for two well-formed fields with cell counts
`n`, the first result lives on `f`'s mesh, the second on `g`'s, every cell of result `j` is
`fn_j` applied with NumPy broadcasting to the component lists of that cell, and both are
valid exactly where both operands are. -/
theorem pair_cellwise (fn1 fn2 : GQ → GQ → GQ) (c : Bool) (n : List Nat) (f o g1 g2 : CF)
    (hf : CFwf f) (ho : CFwf o) (hnf : f.mesh.n = n) (hno : o.mesh.n = n)
    (h : ufunc2pair fn1 fn2 c (.fld f) (.fld o) = .ok (g1, g2)) :
    CFwf g1 ∧ CFwf g2 ∧ g1.mesh = f.mesh ∧ g2.mesh = o.mesh ∧
    ∀ i, inRange n i = true →
      cellOf g1.data i g1.nvdim = bz fn1 (cellOf f.data i f.nvdim) (cellOf o.data i o.nvdim) ∧
      cellOf g2.data i g2.nvdim = bz fn2 (cellOf f.data i f.nvdim) (cellOf o.data i o.nvdim) ∧
      g1.valid.get i = (f.valid.get i && o.valid.get i) ∧ g2.valid.get i = (f.valid.get i && o.valid.get i) := by
  have hcf : Cells n f (fun i => cellOf f.data i f.nvdim) (fun i => f.valid.get i) := ⟨hf, hnf, fun _ _ => ⟨rfl, rfl⟩⟩
  have hco : Cells n o (fun i => cellOf o.data i o.nvdim) (fun i => o.valid.get i) := ⟨ho, hno, fun _ _ => ⟨rfl, rfl⟩⟩
  obtain ⟨c1, c2, m1, m2⟩ := ufunc2pair_cells fn1 fn2 c n f o g1 g2 _ _ _ _ hcf hco h
  exact ⟨c1.1, c2.1, m1, m2, fun i hi => ⟨(c1.2.2 i hi).1, (c2.2.2 i hi).1, (c1.2.2 i hi).2, (c2.2.2 i hi).2⟩⟩

def pairOk (l r : Val) : Bool :=
  match ufunc2pair GQ.floorDiv GQ.pymod false l r with
  | .ok _ => true
  | _ => false
/-- real-valued fields for the `divmod` examples -/
def exRData : NDA GQ := NDA.ofList [2, 2] [⟨5, 0⟩, ⟨-7, 0⟩, ⟨3, 0⟩, ⟨4, 0⟩] GQ.zero
def exDData : NDA GQ := NDA.ofList [2, 2] [⟨2, 0⟩, ⟨2, 0⟩, ⟨-2, 0⟩, ⟨1/2, 0⟩] GQ.zero
def exR : CF := { exS with nvdim := 2, data := exRData, vdims := some ["a", "b"] }
def exD : CF := { exR with data := exDData, vdims := some ["p", "q"] }
example : pairOk (.fld exR) (.fld exD) = true ∧ pairOk (.fld exR) (.fld exS) = true := by decide +kernel

/-- **two-output calls on two fields are accepted** when the result has `self`'s component
count and the ufunc has a loop for the dtypes (`divmod`: no complex data); both results
carry `self`'s labels and mapping and no unit. -/
theorem pair_accepts_meta (fn1 fn2 : GQ → GQ → GQ) (c : Bool) (M : Mesh) (hM : MeshOk M) (f o : CF)
    (hf : Good M f) (ho : Good M o) (hd : bdim f.nvdim o.nvdim = some f.nvdim)
    (hk : c = true ∨ (f.kind ≠ .complex ∧ o.kind ≠ .complex)) :
    ∃ g1 g2, ufunc2pair fn1 fn2 c (.fld f) (.fld o) = .ok (g1, g2) ∧ Good M g1 ∧ Good M g2 ∧
      g1.nvdim = f.nvdim ∧ g2.nvdim = f.nvdim ∧ g1.vdims = f.vdims ∧ g2.vdims = f.vdims ∧
      g1.vmap = f.vmap ∧ g2.vmap = f.vmap ∧ g1.unit = none ∧ g2.unit = none := by
  have hshape : bshape f.data.shape o.data.shape = some (M.n ++ [f.nvdim]) := by
    rw [hf.wf.shape, ho.wf.shape, hf.mesh, ho.mesh]
    exact bshape_cells _ _ _ _ hd
  obtain ⟨r1, hr1, hs1⟩ := npBin_shape fn1 f.data o.data _ hshape
  obtain ⟨r2, hr2, hs2⟩ := npBin_shape fn2 f.data o.data _ hshape
  have hv : ∀ v, some (NDA.zipWith (fun x y => x && y) f.valid o.valid) = some v → v.shape = M.n :=
    mask_and (by rw [hf.wf.mask, hf.mesh])
  have hp := hf.wf.pos
  obtain ⟨g1, hg1, gd1, n1, v1, vm1, u1, _⟩ := Accepts.conj <|
    mkField_from_stable f hf.stable hp M r1 (f.kind.join o.kind) _ none hs1 hv
  obtain ⟨g2, hg2, gd2, n2, v2, vm2, u2, _⟩ := Accepts.conj <|
    mkField_from_stable f hf.stable hp M r2 (f.kind.join o.kind) _ none hs2 hv
  have hcond : ¬ (¬ c = true ∧ (f.kind = .complex ∨ o.kind = .complex)) := by
    rintro ⟨h1, h2⟩
    rcases hk with hk | ⟨k1, k2⟩
    · exact h1 hk
    · rcases h2 with h2 | h2
      · exact k1 h2
      · exact k2 h2
  have hin : UfuncIn f (.fld f) ∧ UfuncIn f (.fld o) :=
    ⟨ufuncIn_fld.mpr (by rw [hf.mesh]; exact hM.2), ufuncIn_fld.mpr (by rw [hf.mesh, ho.mesh]; exact hM.2)⟩
  refine ⟨g1, g2, ufunc2pair_ok_iff.mpr ⟨f, ⟨rfl, hin⟩, hcond, r1, r2, hr1, hr2, f, o, rfl, rfl, ?_, ?_⟩,
    gd1, gd2, n1, n2, v1, v2, vm1, vm2, u1, u2⟩
  · exact ufuncPairWrap_ok_iff.mpr (by rw [hs1, lastAx_concat, hf.mesh]; exact hg1)
  · exact ufuncPairWrap_ok_iff.mpr (by rw [hs2, lastAx_concat, ho.mesh]; exact hg2)

example : Good exMesh exR ∧ Good exMesh exD ∧ bdim exR.nvdim exD.nvdim = some exR.nvdim ∧
    exR.kind ≠ .complex ∧ exD.kind ≠ .complex :=
  ⟨⟨⟨rfl, rfl, by decide⟩, ⟨by decide +kernel, by decide +kernel⟩, rfl⟩,
   ⟨⟨rfl, rfl, by decide⟩, ⟨by decide +kernel, by decide +kernel⟩, rfl⟩, by decide, by decide, by decide⟩

/-- **refusals of two-output calls**: a non-field in either position (`np.divmod(f, 2)`,
`np.divmod(ndarray, f)`: two results, one mesh), fields on different meshes, incompatible
component counts, complex data for a ufunc without complex loop, and every unary two-output
ufunc (`np.modf(f)`, `np.frexp(f)`) are errors. -/
theorem pair_rejected (fn1 fn2 : GQ → GQ → GQ) (c : Bool) (f o : CF) (od : Opd) :
    (∃ e, ufunc2pair fn1 fn2 c (.fld f) (.raw od) = .error e) ∧
    (∃ e, ufunc2pair fn1 fn2 c (.raw od) (.fld f) = .error e) ∧
    (meshAllclose f.mesh o.mesh ≠ .ok true → ∃ e, ufunc2pair fn1 fn2 c (.fld f) (.fld o) = .error e) ∧
    (CFwf f → CFwf o → f.nvdim ≠ o.nvdim → f.nvdim ≠ 1 → o.nvdim ≠ 1 →
      ∃ e, ufunc2pair fn1 fn2 c (.fld f) (.fld o) = .error e) ∧
    (c = false → (f.kind = .complex ∨ o.kind = .complex) → ∃ e, ufunc2pair fn1 fn2 c (.fld f) (.fld o) = .error e) ∧
    (∃ e, ufunc1pair f = .error e) :=
  ⟨ufunc2pair_raw_rejected fn1 fn2 c _ _ (Or.inr ⟨od, rfl⟩),
   ufunc2pair_raw_rejected fn1 fn2 c _ _ (Or.inl ⟨od, rfl⟩),
   fun h => ufunc2pair_ff_rejected fn1 fn2 c f o (Or.inl h),
   fun h1 h2 h3 h4 h5 => ufunc2pair_ff_rejected fn1 fn2 c f o (Or.inr (Or.inl ⟨h1, h2, h3, h4, h5⟩)),
   fun h1 h2 => ufunc2pair_ff_rejected fn1 fn2 c f o (Or.inr (Or.inr ⟨h1, h2⟩)),
   ufunc1pair_rejected f⟩

/-- **`divmod` law** for the two elementwise functions of `np.divmod` on real values:
`a = b * (a // b) + (a % b)`, and the remainder lies between 0 and the divisor (sign of the
divisor), for every non-zero divisor. -/
theorem divmod_law (a b : GQ) :
    a.re = b.re * (GQ.floorDiv a b).re + (GQ.pymod a b).re ∧
    (0 < b.re → 0 ≤ (GQ.pymod a b).re ∧ (GQ.pymod a b).re < b.re) ∧
    (b.re < 0 → b.re < (GQ.pymod a b).re ∧ (GQ.pymod a b).re ≤ 0) := by
  -- `np.remainder` is the divisor times the fractional part of the quotient, which lies in `[0, 1)`
  have pymod_eq : b.re ≠ 0 → (GQ.pymod a b).re = b.re * (a.re / b.re - ((a.re / b.re).floor : Rat)) := fun hb => by
    simp only [GQ.pymod]
    rw [mul_sub, mul_div_cancel₀ _ hb]
  refine ⟨by simp only [GQ.floorDiv, GQ.pymod]; ring, fun hb => ?_, fun hb => ?_⟩
  · rw [pymod_eq (ne_of_gt hb)]
    exact ⟨mul_nonneg hb.le (sub_nonneg.mpr (rat_floor_le _)),
      mul_lt_of_lt_one_right hb (sub_lt_iff_lt_add'.mpr (rat_lt_floor_add_one _))⟩
  · rw [pymod_eq (ne_of_lt hb)]
    exact ⟨lt_mul_of_lt_one_right hb (sub_lt_iff_lt_add'.mpr (rat_lt_floor_add_one _)),
      mul_nonpos_of_nonpos_of_nonneg hb.le (sub_nonneg.mpr (rat_floor_le _))⟩

/-! ## entries, one metadata table, exact conditions, protocol forms, laws

### elementwise trees are the tree of scalars, entry by entry -/

/-- **Entry-level theorem for every nesting depth (induction over trees).**  For every tree `e`
built from the 14 unary operations, `+ - * / **` (forward, reflected, NumPy-dispatched) and
binary ufunc calls over fields, numbers, constant vectors and arrays of any broadcastable
shape: if the field-level evaluation is accepted with result `g`, then **every entry**
`g.array[i ++ [c]]` (`i` a cell, `c < g.nvdim`) is the same tree evaluated on *numbers* — each
field leaf and each array operand read at the NumPy-broadcast position `bproj shape (i ++ [c])`
of its own shape (scalar fields, vectors and `n ++ [1]` arrays repeat, numbers are constants).
No hypothesis on shapes beyond acceptance. -/
theorem eval_scalar_tree (env : Env) (n : List Nat) (hwf : ∀ f ∈ env.fields, CFwf f ∧ f.mesh.n = n)
    (e : Expr) (hel : e.elementwise = true) (g : CF) (h : evalF env e = .ok (.fld g)) :
    ∀ i, inRange n i = true → ∀ c, c < g.nvdim → g.data.get (i ++ [c]) = scalarAt env e (i ++ [c]) := by
  intro i hi c hc
  obtain ⟨hw, hn, hcell⟩ := eval_cellwise env n hwf e (liftOk_of_elementwise n e hel) g h
  have hwd := widthOk_of_eval env n hwf e (.fld g) hel h
  have hlen : (evalCell env e i).length = g.nvdim := by rw [← hcell i hi, cellOf_length]
  have hs := evalCell_scalar env n hwf i hi e hel hwd c (Or.inl (by rw [hlen]; exact hc))
  rw [← hs, ← hcell i hi]
  unfold compAt
  rw [cellOf_length]
  by_cases h1 : g.nvdim = 1
  · have hc0 : c = 0 := by omega
    subst hc0
    simp only [h1, if_true, cellOf]
    rw [getD_tab _ _ _ _ Nat.one_pos]
  · simp only [h1, if_false, cellOf]
    rw [getD_tab _ _ _ _ hc]

/-- a nested elementwise tree: `(2 * s) ** 2 + np.maximum(-a, conj(b)) / vec` -/
def exElemTree : Expr :=
  .bin .add (.bin .pow (.bin .mul (.opd (.num ⟨2, 0⟩ .int false)) (.leaf 3)) (.opd (.num ⟨2, 0⟩ .int false)))
    (.bin .div (.bin .umax (.un .neg (.leaf 0)) (.un .conj (.leaf 1))) (.opd exVec))

example : exElemTree.elementwise = true ∧ evalOk exEnv exElemTree = true := by decide +kernel

/-! ### one table for the metadata of every binary operation -/

/-- **The metadata table (`binTy`, `Lemmas/C03Typing.lean`) is exact for all 16 binary operations**
between two well-formed fields on one mesh: `self ∘ other` is accepted **iff** the table has an
entry (and NumPy's integer-power rule does not object); the accepted result is a well-formed
field on that mesh whose component count, labels, mapping, unit and dtype kind are *exactly*
the table's entry.  One row per family — `+ - * / **` (labels / mapping of the vector operand,
no unit), `dot`, `angle` (unlabelled scalars; `rad`), `cross` (labels of `self`, default
mapping), `<<` (concatenated labels / merged mapping when unique), ufunc calls (labels of the
first field; an unlabelled scalar first gives default labels, a labelled one is refused). -/
theorem binary_table (env : Env) (M : Mesh) (hM : MeshOk M) (f o : CF) (hf : Good M f) (ho : Good M o) (b : BinOp) :
    (∀ g, applyBin env b (.fld f) (.fld o) = .ok (.fld g) →
      Good M g ∧ binTy M b (tyOf f) (tyOf o) = some (tyOf g) ∧ negIntPow (isPow b) f.kind o.kind o.data = false) ∧
    (∀ t, binTy M b (tyOf f) (tyOf o) = some t → negIntPow (isPow b) f.kind o.kind o.data = false →
      ∃ g, applyBin env b (.fld f) (.fld o) = .ok (.fld g) ∧ Good M g ∧ tyOf g = t) := by
  have hacc : ∀ t, binTy M b (tyOf f) (tyOf o) = some t → negIntPow (isPow b) f.kind o.kind o.data = false →
      ∃ g, applyBin env b (.fld f) (.fld o) = .ok (.fld g) ∧ Good M g ∧ tyOf g = t := by
    intro t ht hpw
    exact binTy_accepts env M hM f o hf ho b hpw t ht
  refine ⟨fun g hg => ?_, hacc⟩
  cases hpw : negIntPow (isPow b) f.kind o.kind o.data with
  | true =>
    obtain ⟨e, he⟩ := binTy_rejects env M f o hf ho b (Or.inr hpw)
    rw [he] at hg; cases hg
  | false =>
    cases ht : binTy M b (tyOf f) (tyOf o) with
    | none =>
      obtain ⟨e, he⟩ := binTy_rejects env M f o hf ho b (Or.inl ht)
      rw [he] at hg; cases hg
    | some t =>
      obtain ⟨g', hg', hgood, hty⟩ := hacc t ht hpw
      rw [hg'] at hg
      injection hg with hg; injection hg with hg; subst hg
      exact ⟨hgood, by rw [hty], rfl⟩

/-- **rejected ⇔ malformed** for two fields on one mesh: the step is an error exactly when the
table has no entry for the two component counts / labels, or an integer field is raised to a
negative integer power. -/
theorem binary_rejected_iff (env : Env) (M : Mesh) (hM : MeshOk M) (f o : CF) (hf : Good M f) (ho : Good M o)
    (b : BinOp) :
    (∃ e, applyBin env b (.fld f) (.fld o) = .error e) ↔
      (binTy M b (tyOf f) (tyOf o) = none ∨ negIntPow (isPow b) f.kind o.kind o.data = true) := by
  constructor
  · rintro ⟨e, he⟩
    cases hpw : negIntPow (isPow b) f.kind o.kind o.data with
    | true => exact Or.inr rfl
    | false =>
      cases ht : binTy M b (tyOf f) (tyOf o) with
      | none => exact Or.inl rfl
      | some t =>
        obtain ⟨g, hg, _⟩ := (binary_table env M hM f o hf ho b).2 t ht hpw
        rw [hg] at he; cases he
  · exact binTy_rejects env M f o hf ho b

/-- the table on the example fields: `a + b` keeps `a`'s labels, `s * a` takes `a`'s (D8), `a @ b`
is an unlabelled scalar, `a & b` and `np.add(a, v3)` are refused, `np.add(s, a)` gets default labels -/
example :
    binTy exMesh .add (tyOf exA) (tyOf exB) = some ⟨2, some ["a", "b"], [], none, .complex⟩ ∧
    binTy exMesh .mul (tyOf exS) (tyOf exA) = some ⟨2, some ["a", "b"], [], none, .complex⟩ ∧
    binTy exMesh .dot (tyOf exA) (tyOf exB) = some ⟨1, none, [], none, .complex⟩ ∧
    binTy exMesh .cross (tyOf exA) (tyOf exB) = none ∧
    binTy exMesh .uadd (tyOf exA) (tyOf exV3) = none ∧
    binTy exMesh .uadd (tyOf exS) (tyOf exA) = some ⟨2, some ["x", "y"], [], none, .complex⟩ ∧
    binTy exMesh .shl (tyOf exS) (tyOf exA) = some ⟨3, some ["x", "y", "z"], [], none, .complex⟩ := by
  decide +kernel

/-- NumPy's integer-power rule, spelled out -/
theorem intpow_rule (pw : Bool) (kb ke : Kind) (e : NDA GQ) :
    negIntPow pw kb ke e = true ↔ (pw = true ∧ kb = .int ∧ ke = .int ∧ ∃ z ∈ e.toList, z.re < 0) :=
  negIntPow_eq_true_iff

/-! ### `a ∘ b = b ∘ a`: the exact condition for labels and mapping -/

/-- **`self ∘ other` and `other ∘ self` for two fields (`∘` any of `+ - * /` with functions `fn`,
`fn'`): both orders are accepted whenever the counts broadcast; both results are well-formed
fields on the one mesh; component count, unit and dtype kind always agree; labels and mapping agree _if and only if_ the counts differ (scalar
with vector) or both operands carry the same labels and the same mapping.**  The
exact complement — equal counts with different labels or mappings — is where the code
violates the "same field" clause: open findings D10 (several components) and D51 (one). -/
theorem comm_meta_iff (fn fn' : GQ → GQ → GQ) (M : Mesh) (hM : MeshOk M) (f o : CF) (hf : Good M f) (ho : Good M o)
    (d : Nat) (hd : bdim f.nvdim o.nvdim = some d) :
    ∃ g1 g2, applyOperator fn false f (.fld o) = .ok g1 ∧ applyOperator fn' false o (.fld f) = .ok g2 ∧
      Good M g1 ∧ Good M g2 ∧ g1.nvdim = g2.nvdim ∧ g1.unit = g2.unit ∧ g1.kind = g2.kind ∧
      ((g1.vdims = g2.vdims ∧ g1.vmap = g2.vmap) ↔
        (f.nvdim ≠ o.nvdim ∨ (f.vdims = o.vdims ∧ f.vmap = o.vmap))) := by
  obtain ⟨g1, h1, hg1, n1, v1, m1, u1, k1⟩ :=
    Accepts.conj <| applyOperator_fld_accepts fn false M hM f o hf ho d hd (negIntPow_false _ _ _)
  obtain ⟨g2, h2, hg2, n2, v2, m2, u2, k2⟩ :=
    Accepts.conj <| applyOperator_fld_accepts fn' false M hM o f ho hf d (by rw [bdim_comm]; exact hd) (negIntPow_false _ _ _)
  refine ⟨g1, g2, h1, h2, hg1, hg2, by rw [n1, n2], by rw [u1, u2], by rw [k1, k2, Kind.join_comm], ?_⟩
  rw [v1, v2, m1, m2]
  by_cases hne : f.nvdim = o.nvdim
  · rw [metaSrc_of_eq hne, metaSrc_of_eq hne.symm]
    exact ⟨Or.inr, fun h => h.resolve_left (not_not.mpr hne)⟩
  · rw [metaSrc_of_ne hd hf.wf.pos ho.wf.pos hne]
    exact ⟨fun _ => Or.inl hne, fun _ => ⟨rfl, rfl⟩⟩

example : bdim exA.nvdim exB.nvdim = some 2 ∧ exA.nvdim = exB.nvdim ∧ exA.vdims ≠ exB.vdims := by decide

/-- **`x ∘ y` and `y ∘ x` are the same field iff …, for whole subtrees** (`∘ ∈ {+, *}`, no success
hypothesis): for well-typed subtrees `x`, `y` whose counts broadcast, both orders are accepted,
both results live on `M`, agree in component count, unit, dtype kind, in **every cell** and in
validity; they agree in labels and mapping — i.e. are the same field — **iff** the counts differ
or `x` and `y` carry the same labels and mapping (complement: D10 / D51). -/
theorem comm_same_field_iff (env : Env) (M : Mesh) (hM : MeshOk M) (hgood : ∀ f ∈ env.fields, Good M f)
    (b : BinOp) (hb : b = .add ∨ b = .mul) (x y : Expr) (tx ty : Ty)
    (hx : HasTy env M x tx) (hy : HasTy env M y ty) (d : Nat) (hd : bdim tx.nv ty.nv = some d) :
    ∃ g1 g2, evalF env (.bin b x y) = .ok (.fld g1) ∧ evalF env (.bin b y x) = .ok (.fld g2) ∧
      g1.mesh = M ∧ g2.mesh = M ∧ g1.nvdim = g2.nvdim ∧ g1.unit = g2.unit ∧ g1.kind = g2.kind ∧
      (∀ i, inRange M.n i = true →
        cellOf g1.data i g1.nvdim = cellOf g2.data i g2.nvdim ∧ g1.valid.get i = g2.valid.get i) ∧
      ((g1.vdims = g2.vdims ∧ g1.vmap = g2.vmap) ↔ (tx.nv ≠ ty.nv ∨ (tx.vdims = ty.vdims ∧ tx.vmap = ty.vmap))) := by
  obtain ⟨f, hf, hfg, f1, f2, f3, _⟩ := hasTy_sound env M hM hgood x tx hx
  obtain ⟨o, ho, hog, o1, o2, o3, _⟩ := hasTy_sound env M hM hgood y ty hy
  have hd1 : bdim f.nvdim o.nvdim = some d := by rw [f1, o1]; exact hd
  obtain ⟨g1, g2, h1, h2, hg1, hg2, e2, e3, e4, e5⟩ := comm_meta_iff (binFn b) (binFn b) M hM f o hfg hog d hd1
  have hba : isArith b = true := by rcases hb with rfl | rfl <;> rfl
  have hpw : isPow b = false := by rcases hb with rfl | rfl <;> rfl
  have hev1 : evalF env (.bin b x y) = .ok (.fld g1) := by
    rw [evalF_bin env b x y _ _ hf ho, applyBin_operator env (Or.inl hba), hpw, h1]; rfl
  have hev2 : evalF env (.bin b y x) = .ok (.fld g2) := by
    rw [evalF_bin env b y x _ _ ho hf, applyBin_operator env (Or.inl hba), hpw, h2]; rfl
  refine ⟨g1, g2, hev1, hev2, hg1.mesh, hg2.mesh, e2, e3, e4,
    comm_values env M.n (fields_wf hgood) b hb x y (hasTy_liftOk env M x tx hx) (hasTy_liftOk env M y ty hy) g1 g2 hev1 hev2, ?_⟩
  rw [e5, f1, o1, f2, o2, f3, o3]

/-! ### number, vector and array operands of `**`, ufuncs and reflected operators: acceptance -/

/-- **`f << number`, `f << vector`, `number << f`, `list << f`**: a number or a constant vector of
`m ≥ 1` entries (not mesh-shaped) is lifted to an unlabelled field with default labels and
mapping on `f`'s mesh, and the stack is accepted in either operand order (a plain Python
operand on the left goes through `__rlshift__`); the result has `k + m` components, no unit,
and the labels / mapping `<<` gives for the field and the lifted operand (`shlTy`). -/
theorem shl_raw_meta (env : Env) (M : Mesh) (hM : MeshOk M) (f : CF) (hf : Good M f) (od : Opd)
    (hfit : LiftFits M.n od) :
    (∃ g, applyBin env .shl (.fld f) (.raw od) = .ok (.fld g) ∧ Good M g ∧
      tyOf g = shlTy M (tyOf f) (liftTy M od)) ∧
    (isNp od = false → ∃ g, applyBin env .shl (.raw od) (.fld f) = .ok (.fld g) ∧ Good M g ∧
      tyOf g = shlTy M (liftTy M od) (tyOf f)) := by
  exact ⟨(shlOp_lift_accepts M hM f hf od hfit).step (applyBin_forward env rfl f _),
    fun hnp => (reflectedOp_shl_accepts M hM f hf od hfit).step (applyBin_reflected env rfl hnp f)⟩

/-- a constant vector with three entries (the example mesh has two cells, so `exVec` is
mesh-shaped and stands for per-cell scalars under `<<` / `angle`) -/
def exVec3 : Opd := .arr (NDA.ofList [3] [⟨1, 0⟩, ⟨-1, 0⟩, ⟨2, 0⟩] GQ.zero) .float false

example : LiftFits exMesh.n exVec3 := ⟨3, by decide, rfl, by decide⟩

/-- **`f.angle(number)`, `f.angle(vector)`, `f.angle(per-cell array)`**: accepted for a number when
`f` is a scalar field, for a constant vector of `nvdim` entries and for a per-cell array of the
field's own shape (not mesh-shaped); an unlabelled scalar field without mapping, unit `rad`. -/
theorem angle_raw_meta (sq acos : Rat → Rat) (M : Mesh) (hM : MeshOk M) (f : CF) (hf : Good M f) (od : Opd)
    (hfit : AngleFits M.n f.nvdim od) :
    ∃ g, angleOp sq acos f (.raw od) = .ok g ∧ Good M g ∧ g.nvdim = 1 ∧ g.vdims = none ∧ g.vmap = [] ∧
      g.unit = some "rad" ∧ g.kind = .float :=
  (angleOp_raw_accepts sq acos M hM f hf od hfit).conj

example : AngleFits exMesh.n exV3.nvdim exVec3 := ⟨Or.inl rfl, by decide⟩

/-- **a scalar field first in a ufunc call, a vector field second** (`np.add(s, v)`, `np.power(s, v)`):
accepted **iff** the scalar field carries no label; the result then has the vector's count, the
*default* labels for that count (not the vector's), an empty mapping and no unit. -/
theorem ufunc_scalar_first (fn : GQ → GQ → GQ) (M : Mesh) (hM : MeshOk M) (f o : CF) (hf : Good M f) (ho : Good M o)
    (h1 : f.nvdim = 1) (h2 : 1 < o.nvdim) :
    ((∃ g, ufunc2 fn false (.fld f) (.fld o) = .ok g) ↔ f.vdims = none) ∧
    (f.vdims = none → ∃ g, ufunc2 fn false (.fld f) (.fld o) = .ok g ∧ Good M g ∧ g.nvdim = o.nvdim ∧
      g.vdims = Fld.defaultVdims o.nvdim ∧ g.vmap = [] ∧ g.unit = none ∧ g.kind = (f.kind.join o.kind).ctor) := by
  have hacc := fun hvd => (ufunc2_sf_accepts fn false M hM f o hf ho h1 hvd (negIntPow_false _ _ _)).conj
  refine ⟨⟨fun ⟨g, hg⟩ => ?_, fun hvd => ?_⟩, hacc⟩
  · cases hvd : f.vdims with
    | none => rfl
    | some l =>
      obtain ⟨e, he⟩ := ufunc2_sf_rejected fn false f o hf.1 hf.stable ho.1 (by rw [hf.mesh, ho.mesh]) h1 h2 l hvd
      rw [he] at hg; cases hg
  · obtain ⟨g, hg, _⟩ := hacc hvd
    exact ⟨g, hg⟩

example : Good exMesh exS ∧ exS.nvdim = 1 ∧ 1 < exA.nvdim ∧ exS.vdims = none :=
  ⟨⟨⟨rfl, rfl, by decide⟩, ⟨by decide +kernel, by decide +kernel⟩, rfl⟩, rfl, by decide, rfl⟩

/-- **`f ** g` for two fields and `f ** array`**: accepted exactly when the component counts
broadcast and NumPy's integer-power rule does not object (two integer dtypes with a negative
exponent entry); for a constant vector of matching length / per-cell array exponent likewise. -/
theorem pow_accepts_iff (M : Mesh) (hM : MeshOk M) (f o : CF) (hf : Good M f) (ho : Good M o) :
    ((∃ g, applyOperator GQ.pow true f (.fld o) = .ok g) ↔
      ((bdim f.nvdim o.nvdim).isSome = true ∧ negIntPow true f.kind o.kind o.data = false)) ∧
    (∀ od, RawFits f.mesh.n f.nvdim od →
      ((∃ g, applyOperator GQ.pow true f (.raw od) = .ok g) ↔ negIntPow true f.kind (rawKind od) (rawArr od) = false)) := by
  refine ⟨⟨fun ⟨g, hg⟩ => ?_, fun ⟨h1, h2⟩ => ?_⟩, fun od hfit => ⟨fun ⟨g, hg⟩ => (applyOperator_ok_iff.mp hg).2.1, fun h => ?_⟩⟩
  · obtain ⟨hc, hp, _⟩ := applyOperator_ok_iff.mp hg
    exact ⟨(checkSame_bdim_iff.mp hc).2, hp⟩
  · obtain ⟨d, hd⟩ := Option.isSome_iff_exists.mp h1
    obtain ⟨g, hg, _⟩ := applyOperator_fld_accepts GQ.pow true M hM f o hf ho d hd h2
    exact ⟨g, hg⟩
  · obtain ⟨g, hg, _⟩ := applyOperator_raw_accepts GQ.pow true M f hf od (hf.mesh ▸ hfit) h
    exact ⟨g, hg⟩

/-- a tree with `np.power` on a NumPy number, `**` between fields and `<<` with a list:
`np.power(2.0, s) * (a ** b) << [1, -1, 2]` -/
example : ∃ t, HasTy exEnv1 exMesh
    (.bin .shl (.bin .mul (.bin .upow (.opd (.num ⟨2, 0⟩ .float true)) (.leaf 2)) (.bin .pow (.leaf 0) (.leaf 1)))
      (.opd exVec3)) t :=
  ⟨_, .shlFR _ exVec3 _
        (.arithFF .mul _ _ _ _ 2 rfl
          (.upowRF _ _ _ (.leaf 2 exS rfl) trivial trivial (Or.inl (by decide)))
          (.powFF _ _ _ _ 2 (.leaf 0 exA rfl) (.leaf 1 exB rfl) (by decide) (Or.inl (by decide))) (by decide))
        ⟨3, by decide, rfl, by decide⟩⟩

/-- `np.add(s, a)` (unlabelled scalar first) and `v3.angle([1, -1, 2])` -/
example : (∃ t, HasTy exEnv1 exMesh (.bin .uadd (.leaf 2) (.leaf 0)) t) ∧
    (∃ t, HasTy exEnv3 exMesh (.bin .angle (.leaf 0) (.opd exVec3)) t) :=
  ⟨⟨_, .ufuncSF .uadd _ _ _ _ rfl (.leaf 2 exS rfl) (.leaf 0 exA rfl) rfl (by decide) rfl (by intro h; cases h)⟩,
   ⟨_, .angleFR _ exVec3 _ (.leaf 0 exV3 rfl) ⟨Or.inl rfl, by decide⟩⟩⟩

/-! ### validity through whole programs, no success hypothesis -/

/-- **validity of a typed program is the AND over its field leaves**: for every well-typed tree
(including `**` between fields, `np.power`, `<<` / `angle` with numbers and vectors) the
evaluation is accepted and a cell of the result is valid exactly when it is valid in every field
leaf of the tree — operator paths, reflected operators, `dot`/`cross`/`<<`/`angle` and ufunc
calls alike; numbers, vectors and arrays never invalidate a cell. -/
theorem typed_valid_leaves (env : Env) (M : Mesh) (hM : MeshOk M) (hgood : ∀ f ∈ env.fields, Good M f)
    (e : Expr) (t : Ty) (h : HasTy env M e t) :
    ∃ g, evalF env e = .ok (.fld g) ∧
      ∀ i, inRange M.n i = true → g.valid.get i = e.leaves.all (leafValid env i) := by
  obtain ⟨g, hg, _, _, _, _, _, _, _, _, hc⟩ := typed_total env M hM hgood e t h
  exact ⟨g, hg, fun i hi => by rw [(hc i hi).2, valid_is_and_of_leaves]⟩

/-! ### the other forms of the ufunc protocol: `reduce`, `accumulate`, `outer`, `out=` -/

/-- **Reductions: accepted ⇔ identity.**  `np.<ufunc>.reduce(f, axis=ax, keepdims=keep)` on a
well-formed field (any axis of the array — a mesh axis or the component axis) is accepted **iff**
`keepdims` is set and the reduced axis has length 1, and then the result has `f`'s values,
validity, labels and mapping: every call that actually reduces something — and every call
with `axis=None` or without `keepdims` — is refused. -/
theorem reduce_ok_iff (fn : GQ → GQ → GQ) (M : Mesh) (hM : MeshOk M) (f : CF) (hf : Good M f) (h0 : M.n ≠ [])
    (ax : Nat) (hax : ax < f.data.shape.length) (keep : Bool) :
    ((∃ g, ufuncReduce fn f (some ax) keep = .ok g) ↔ (keep = true ∧ f.data.shape.getD ax 0 = 1)) ∧
    (∀ g, ufuncReduce fn f (some ax) keep = .ok g →
      Good M g ∧ g.nvdim = f.nvdim ∧ g.vdims = f.vdims ∧ g.vmap = f.vmap ∧
      (∀ idx, inRange (M.n ++ [f.nvdim]) idx = true → g.data.get idx = f.data.get idx) ∧
      (∀ i, inRange M.n i = true → g.valid.get i = f.valid.get i)) ∧
    (∃ e, ufuncReduce fn f none keep = .error e) := by
  have h0' : f.mesh.n ≠ [] := by rw [hf.mesh]; exact h0
  have hiff : (∃ g, ufuncReduce fn f (some ax) keep = .ok g) ↔ (keep = true ∧ f.data.shape.getD ax 0 = 1) := by
    constructor
    · rintro ⟨g, hg⟩
      cases keep with
      | false =>
        obtain ⟨e, he⟩ := ufuncReduce_nokeep_rejected fn f hf.1 h0' ax hax
        rw [he] at hg; cases hg
      | true =>
        refine ⟨rfl, ?_⟩
        by_contra hne
        obtain ⟨e, he⟩ := ufuncReduce_keep_rejected fn f hf.1 hf.stable ax hax hne
        rw [he] at hg; cases hg
    · rintro ⟨rfl, hlen⟩
      obtain ⟨g, hg, _⟩ := ufuncReduce_keep_accepts fn M hM f hf ax hax hlen
      exact ⟨g, hg⟩
  refine ⟨hiff, fun g hg => ?_, ufuncReduce_none_rejected fn f keep h0'⟩
  obtain ⟨hk, hlen⟩ := hiff.mp ⟨g, hg⟩
  subst hk
  obtain ⟨g', hg', hgg, h1, h2, h3, _, _, hd, hv⟩ := ufuncReduce_keep_accepts fn M hM f hf ax hax hlen
  rw [hg] at hg'
  injection hg' with hg'
  subst hg'
  rw [hf.mesh] at hd hv
  exact ⟨hgg, h1, h2, h3, hd, hv⟩

def reduceOk (f : CF) (ax : Option Nat) (keep : Bool) : Bool :=
  match ufuncReduce GQ.add f ax keep with
  | .ok _ => true
  | _ => false
/-- `np.add.reduce(a)` and `np.add.reduce(a, axis=-1, keepdims=True)` are refused for the
two-component field; for the scalar field the latter is the (accepted) identity -/
example : reduceOk exA (some 0) false = false ∧ reduceOk exA (some 1) true = false ∧ reduceOk exA none false = false ∧
    reduceOk exS (some 1) true = true ∧ reduceOk exS (some 0) true = false := by decide +kernel

/-- **`np.<ufunc>.accumulate(f, axis)` is accepted for every axis** and is the running fold along
that axis: a well-formed field on the same mesh with `f`'s labels, mapping and validity; the
entries with index 0 along the axis are `f`'s own, and each further entry is `fn` of its
predecessor along the axis and `f`'s entry (recurrence law). -/
theorem accumulate_law (fn : GQ → GQ → GQ) (M : Mesh) (hM : MeshOk M) (f : CF) (hf : Good M f) (ax : Nat)
    (hax : ax < f.data.shape.length) :
    ∃ g, ufuncAccumulate fn f ax = .ok g ∧ Good M g ∧ g.nvdim = f.nvdim ∧ g.vdims = f.vdims ∧
      g.vmap = f.vmap ∧ g.unit = none ∧
      (∀ i, inRange M.n i = true → g.valid.get i = f.valid.get i) ∧
      (∀ idx, inRange (M.n ++ [f.nvdim]) idx = true → idx.getD ax 0 = 0 → g.data.get idx = f.data.get idx) ∧
      (∀ idx j, inRange (M.n ++ [f.nvdim]) idx = true → idx.getD ax 0 = j + 1 →
        inRange (M.n ++ [f.nvdim]) (setAt idx ax j) = true →
        g.data.get idx = fn (g.data.get (setAt idx ax j)) (f.data.get idx)) := by
  obtain ⟨g, hg, hgg, h1, h2, h3, h4, _, hd, hv⟩ := ufuncAccumulate_accepts fn M hM f hf ax hax
  rw [hf.mesh] at hd hv
  have hlen : ∀ idx, inRange (M.n ++ [f.nvdim]) idx = true → ax < idx.length := by
    intro idx hidx
    rw [inRange_length _ _ hidx, ← hf.mesh, ← hf.wf.shape]
    exact hax
  refine ⟨g, hg, hgg, h1, h2, h3, h4, hv, fun idx hidx h0 => ?_, fun idx j hidx hj hidx' => ?_⟩
  · rw [hd idx hidx, h0, foldAxis_one, ← h0, setAt_getD_self]
  · rw [hd idx hidx, hd _ hidx', hj, foldAxis_succ, getD_setAt_eq _ _ _ _ (hlen idx hidx), foldAxis_setAt,
      ← hj, setAt_getD_self]

/-- **`np.<ufunc>.outer(f, g)` is always refused** (the result has the axes of both arrays) -/
theorem outer_rejected (fn : GQ → GQ → GQ) (f o : CF) (hf : CFwf f) (ho : CFwf o) :
    ∃ e, ufuncOuter fn f o = .error e := by
  unfold ufuncOuter
  cases ufuncMeshOk f (.fld f) with
  | error e => exact ⟨e, rfl⟩
  | ok u =>
    simp only
    cases ufuncMeshOk f (.fld o) with
    | error e => exact ⟨e, rfl⟩
    | ok u' =>
      refine ⟨.notImpl, ?_⟩
      apply ufuncWrap_shape_rejected
      intro hc
      have hl := congrArg List.length hc
      simp only [List.length_dropLast, List.length_append] at hl
      rw [hf.1, ho.1] at hl
      simp at hl
      omega

/-- **`np.<ufunc>(l, r, out=h)`, entry by entry.**  If the call returns a field `g` (inputs
well-formed, `h` well-formed): some input is a field `self`, `g` lives on `self`'s mesh, which has
`h`'s cell counts; **every entry of `h`'s array is now `fn` of the inputs read at their
NumPy-broadcast positions, `g` holds the same entries**, `g` is valid where all field inputs are
— and `h` keeps its own mesh, validity, labels, mapping and unit (`out_state_kept`). -/
theorem out_entries (fn : GQ → GQ → GQ) (pw : Bool) (rk : Kind → Kind → Kind) (l r : Val) (out g : CF)
    (hwo : CFwf out) (hwl : ∀ f, l = .fld f → CFwf f) (hwr : ∀ f, r = .fld f → CFwf f)
    (h : (ufunc2out fn pw rk l r out).res = .ok g) :
    ∃ self a ka b kb, firstFld l r = some self ∧ ufuncInput l = .ok (a, ka) ∧ ufuncInput r = .ok (b, kb) ∧
      g.mesh = self.mesh ∧ self.mesh.n = out.mesh.n ∧ g.nvdim = out.nvdim ∧ CFwf g ∧ g.kind = out.kind.ctor ∧
      (∀ idx, (ufunc2out fn pw rk l r out).out.data.get idx =
        fn (a.get (bproj a.shape idx)) (b.get (bproj b.shape idx))) ∧
      (∀ idx, inRange (out.mesh.n ++ [out.nvdim]) idx = true →
        g.data.get idx = (ufunc2out fn pw rk l r out).out.data.get idx) ∧
      (∀ i, inRange out.mesh.n i = true → g.valid.get i = (ufuncValid self l r).get i) := by
  rcases ufunc2out_cases fn pw rk l r out with ⟨e, he⟩ | ⟨a, ka, b, kb, out', hl, hr, _, hw, he⟩
  · rw [he] at h; cases h
  · rw [he] at h ⊢
    obtain ⟨_, _, ho'⟩ := outWrite_ok_iff.mp hw
    cases hs : firstFld l r with
    | none => rw [hs] at h; cases h
    | some self =>
      rw [hs] at h
      obtain ⟨hdrop, hmk⟩ := ufuncWrap_ok_iff.mp h
      have hsh : out'.data.shape = out.mesh.n ++ [out.nvdim] := by rw [ho']; exact hwo.shape
      rw [hsh, List.dropLast_concat] at hdrop
      rw [hsh, lastAx_concat] at hmk
      obtain ⟨hm, hnv, hwf, _, hk, _, _, _, hdata, hvalid, _⟩ :=
        mkField_arr self.mesh out.nvdim out'.data _ _ (some (ufuncValid self l r)) _ _ g
          (not_meshShaped (by rw [hsh, ← hdrop]; simp)) (mask_some (ufuncValid_shape l r self hs hwl hwr)) hmk
      refine ⟨self, a, ka, b, kb, rfl, hl, hr, hm, hdrop.symm, hnv, hwf, hk, ?_, ?_, ?_⟩
      · intro idx; show out'.data.get idx = _; rw [ho']
      · intro idx hidx
        rw [hdrop] at hidx
        show g.data.get idx = out'.data.get idx
        rw [hdata idx hidx, hsh, hdrop, bproj_inRange _ _ hidx]
      · intro i hi
        rw [hdrop] at hi
        rw [hvalid i hi]; rfl

/-- **whatever the outcome, the `out` field keeps everything but its array** — in particular its
validity mask is *not* updated to the validity of the result — and its array is only touched
when every check before the NumPy call passed (input types, meshes of the inputs, power rule)
and NumPy could broadcast and cast into it. -/
theorem out_state_kept (fn : GQ → GQ → GQ) (pw : Bool) (rk : Kind → Kind → Kind) (l r : Val) (out : CF) :
    ((ufunc2out fn pw rk l r out).out.mesh = out.mesh ∧ (ufunc2out fn pw rk l r out).out.nvdim = out.nvdim ∧
      (ufunc2out fn pw rk l r out).out.valid = out.valid ∧ (ufunc2out fn pw rk l r out).out.vdims = out.vdims ∧
      (ufunc2out fn pw rk l r out).out.vmap = out.vmap ∧ (ufunc2out fn pw rk l r out).out.unit = out.unit ∧
      (ufunc2out fn pw rk l r out).out.kind = out.kind ∧
      (ufunc2out fn pw rk l r out).out.data.shape = out.data.shape) ∧
    ((ufunc2out fn pw rk l r out).out = out ∨
      ∃ a ka b kb out', ufuncInput l = .ok (a, ka) ∧ ufuncInput r = .ok (b, kb) ∧
        negIntPow pw ka kb b = false ∧ outWrite fn (rk ka kb) a b out = .ok out' ∧
        (ufunc2out fn pw rk l r out).out = out') := by
  rcases ufunc2out_cases fn pw rk l r out with ⟨e, h⟩ | ⟨a, ka, b, kb, out', hl, hr, hp, hw, h⟩
  · rw [h]; exact ⟨⟨rfl, rfl, rfl, rfl, rfl, rfl, rfl, rfl⟩, Or.inl rfl⟩
  · rw [h]
    refine ⟨?_, Or.inr ⟨a, ka, b, kb, out', hl, hr, hp, hw, rfl⟩⟩
    rw [(outWrite_ok_iff.mp hw).2.2]
    exact ⟨rfl, rfl, rfl, rfl, rfl, rfl, rfl, rfl⟩

/-- **`np.<ufunc>(f, o, out=h)` is accepted** for two fields on one mesh whose result has `f`'s
component count and a field `h` with the same cell counts and component count whose dtype the
result can be cast to — **whatever mesh `h` lives on** (the mesh of `out` is never compared):
the returned field is well-formed on the inputs' mesh, carries `f`'s labels and mapping, no unit
and `h`'s dtype kind. -/
theorem out_accepts_meta (fn : GQ → GQ → GQ) (pw : Bool) (rk : Kind → Kind → Kind) (M : Mesh) (hM : MeshOk M)
    (f o out : CF) (hf : Good M f) (ho : Good M o) (hwo : CFwf out) (hn : out.mesh.n = M.n)
    (hnv : out.nvdim = f.nvdim) (hd : bdim f.nvdim o.nvdim = some f.nvdim)
    (hk : (rk f.kind o.kind).castable out.kind = true) (hpw : negIntPow pw f.kind o.kind o.data = false) :
    ∃ g, (ufunc2out fn pw rk (.fld f) (.fld o) out).res = .ok g ∧ Good M g ∧ g.nvdim = f.nvdim ∧
      g.vdims = f.vdims ∧ g.vmap = f.vmap ∧ g.unit = none ∧ g.kind = out.kind.ctor := by
  have hshape : bshape f.data.shape o.data.shape = some (M.n ++ [f.nvdim]) := by
    rw [hf.wf.shape, ho.wf.shape, hf.mesh, ho.mesh]
    exact bshape_cells _ _ _ _ hd
  have hos : out.data.shape = M.n ++ [f.nvdim] := by rw [hwo.shape, hn, hnv]
  have hw : outWrite fn (rk f.kind o.kind) f.data o.data out = .ok
      { out with data := ⟨out.data.shape, fun idx =>
          fn (f.data.get (bproj f.data.shape idx)) (o.data.get (bproj o.data.shape idx))⟩ } :=
    outWrite_ok_iff.mpr ⟨⟨_, hshape, by rw [hos, bshape_self]⟩, hk, rfl⟩
  obtain ⟨g, hg, hrest⟩ := Accepts.conj <| ufuncWrap_accepts M f hf
    (⟨out.data.shape, fun idx => fn (f.data.get (bproj f.data.shape idx)) (o.data.get (bproj o.data.shape idx))⟩ : NDA GQ)
    out.kind (NDA.zipWith (fun x y => x && y) f.valid o.valid) (by rw [hf.mesh]; exact hos) hf.wf.mask
  refine ⟨g, ?_, hrest⟩
  simp only [ufunc2out, ufuncInput, firstFld, ufuncMeshOk, ufuncValid]
  rw [hf.mesh, ho.mesh, hM.2]
  simp only [hpw, Bool.false_eq_true, if_false]
  rw [hw]
  exact hg

/-- `h` on the other mesh `exMesh2`, same cell counts -/
example : Good exMesh exA ∧ Good exMesh exB ∧ CFwf exC ∧ exC.mesh.n = exMesh.n ∧ exC.mesh ≠ exMesh ∧
    (Kind.join exA.kind exB.kind).castable exC.kind = true :=
  ⟨⟨⟨rfl, rfl, by decide⟩, ⟨by decide +kernel, by decide +kernel⟩, rfl⟩,
   ⟨⟨rfl, rfl, by decide⟩, ⟨by decide +kernel, by decide +kernel⟩, rfl⟩,
   ⟨rfl, rfl, by decide⟩, rfl, by decide +kernel, by decide⟩

def outRefused (o : OutRes) : Bool :=
  match o.res with
  | .ok _ => false
  | .error _ => true

/-- **a call with `out=` can be refused after `out` was overwritten**: for
the scalar field `s` labelled `s1`, `np.add(s, s, out=a)` with the two-component field `a`
writes `s + s` into both components of `a` and then raises `NotImplementedError` (one label
for two components). -/
theorem out_written_then_refused :
    outRefused (ufunc2out GQ.add false Kind.join (.fld exS1) (.fld exS1) exA) = true ∧
    (ufunc2out GQ.add false Kind.join (.fld exS1) (.fld exS1) exA).out.data.get [0, 1] = ⟨4, 0⟩ ∧
    exA.data.get [0, 1] = ⟨2, 0⟩ := by
  decide +kernel

/-! ### rejected ⇔ malformed across meshes, and for arrays of arbitrary shape -/

/-- **`self ∘ other` for two fields on their own meshes (`+ - * / **`): accepted ⇔ well-formed
combination.**  For a well-formed field `f` on `M` and `o` on `M'`, `_apply_operator` accepts
**iff** `M.allclose(M')` holds, the component counts broadcast and NumPy's integer-power rule
does not object; the accepted result is a well-formed field on `M` (the mesh of `self`) with the
broadcast count.  So "fields on different meshes or with incompatible component counts are
rejected" is an equivalence on this path: nothing else is rejected, nothing of this is accepted. -/
theorem fields_ok_iff (fn : GQ → GQ → GQ) (pw : Bool) (M M' : Mesh) (f o : CF) (hf : Good M f) (ho : Good M' o) :
    ((∃ g, applyOperator fn pw f (.fld o) = .ok g) ↔
      (meshAllclose M M' = .ok true ∧ (bdim f.nvdim o.nvdim).isSome = true ∧
        negIntPow pw f.kind o.kind o.data = false)) ∧
    (∀ g, applyOperator fn pw f (.fld o) = .ok g → Good M g ∧ bdim f.nvdim o.nvdim = some g.nvdim) := by
  -- what an accepted call says about the operands
  have hfwd : ∀ g, applyOperator fn pw f (.fld o) = .ok g →
      meshAllclose M M' = .ok true ∧ (∃ d, bdim f.nvdim o.nvdim = some d) ∧
        negIntPow pw f.kind o.kind o.data = false := by
    intro g hg
    obtain ⟨hc, hp, _⟩ := applyOperator_ok_iff.mp hg
    obtain ⟨hm, hb⟩ := checkSame_bdim_iff.mp hc
    exact ⟨by rw [← hf.mesh, ← ho.mesh]; exact hm, Option.isSome_iff_exists.mp hb, hp⟩
  have hacc : ∀ d, meshAllclose M M' = .ok true → bdim f.nvdim o.nvdim = some d →
      negIntPow pw f.kind o.kind o.data = false → ∃ g, applyOperator fn pw f (.fld o) = .ok g ∧ Good M g ∧ g.nvdim = d :=
    fun d hc hd hp =>
      let ⟨g, hg, hgg, hn, _⟩ := (applyOperator_fld_accepts_close fn pw M M' f o hf ho hc d hd hp).conj
      ⟨g, hg, hgg, hn⟩
  refine ⟨⟨fun ⟨g, hg⟩ => ?_, fun ⟨h1, h2, h3⟩ => ?_⟩, fun g hg => ?_⟩
  · obtain ⟨h1, ⟨d, hd⟩, h3⟩ := hfwd g hg
    exact ⟨h1, by rw [hd]; rfl, h3⟩
  · obtain ⟨d, hd⟩ := Option.isSome_iff_exists.mp h2
    obtain ⟨g, hg, _⟩ := hacc d h1 hd h3
    exact ⟨g, hg⟩
  · obtain ⟨h1, ⟨d, hd⟩, h3⟩ := hfwd g hg
    obtain ⟨g', hg', hgg, hn⟩ := hacc d h1 hd h3
    cases Except.ok.inj (hg.symm.trans hg')
    exact ⟨hgg, by rw [hd, hn]⟩

/-- the same mesh under another object identity / with corners inside the tolerance is `allclose` -/
example : meshAllclose exMesh { exMesh with subs := [("r", exRegion)] } = .ok true := by decide +kernel

/-- binary ufuncs also accept two fields whose meshes are merely `allclose` (result on `self`'s mesh) -/
theorem ufunc_fields_close (fn : GQ → GQ → GQ) (M M' : Mesh) (hM : MeshOk M) (f o : CF) (hf : Good M f)
    (ho : Good M' o) (hclose : meshAllclose M M' = .ok true) (hd : bdim f.nvdim o.nvdim = some f.nvdim) :
    ∃ g, ufunc2 fn false (.fld f) (.fld o) = .ok g ∧ Good M g ∧ g.nvdim = f.nvdim ∧ g.vdims = f.vdims ∧
      g.vmap = f.vmap ∧ g.unit = none :=
  let ⟨g, h, hg, h1, h2, h3, h4, _⟩ :=
    (ufunc2_ff_accepts_close fn false M M' hM f o hf ho hclose hd (negIntPow_false _ _ _)).conj
  ⟨g, h, hg, h1, h2, h3, h4⟩

/-- **A field and an array of arbitrary shape: the exact acceptance conditions of both operand
orders (the precise extent of open finding D52).**  For a well-formed field `f` with `nvdim = k`
on a mesh with cell counts `n` and an array `a` of any shape:

* `f ∘ a` (`_apply_operator`, also `list ∘ f` through the reflected methods) is accepted **iff**
  `a` is not 0-d, passes the guard (`a.shape = n ++ [k]`, or `len(a) = k`, or `k = 1`), broadcasts
  with `f.array` to some `n ++ [m]` (`m ≥ 1`, the mesh's own cell counts), and `m = k` or `f`
  has no mapping;
* `a ∘ f` for a NumPy array (`__array_ufunc__`) is accepted **iff** `a` broadcasts with `f.array`
  to some `n ++ [m]` and `m = k` or `f` has no labels.

Hence the two orders differ exactly for 0-d arrays, arrays that fail the guard although they
broadcast (e.g. `n ++ [1]` for `k > 1`), and labelled scalar fields without mapping combined with
wider arrays. -/
theorem array_operand_ok_iff (fn fn' : GQ → GQ → GQ) (M : Mesh) (hM : MeshOk M) (f : CF) (hf : Good M f)
    (a : NDA GQ) (k : Kind) (np : Bool) :
    ((∃ g, applyOperator fn false f (.raw (.arr a k np)) = .ok g) ↔
      (a.shape ≠ [] ∧ (f.data.shape = a.shape ∨ f.nvdim = a.shape.headD 0 ∨ f.nvdim = 1) ∧
        ∃ m, 0 < m ∧ bshape (M.n ++ [f.nvdim]) a.shape = some (M.n ++ [m]) ∧ (m = f.nvdim ∨ f.vmap = []))) ∧
    ((∃ g, ufunc2 fn' false (.raw (.arr a k true)) (.fld f) = .ok g) ↔
      ∃ m, 0 < m ∧ bshape a.shape (M.n ++ [f.nvdim]) = some (M.n ++ [m]) ∧ (m = f.nvdim ∨ f.vdims = none)) := by
  obtain ⟨hwf, hst, hmf⟩ := hf
  have hp := hwf.pos
  have hds : f.data.shape = M.n ++ [f.nvdim] := by rw [hwf.shape, hmf]
  have hvs : ∀ v, some f.valid = some v → v.shape = f.mesh.n :=
    mask_some hwf.mask
  refine ⟨?_, ?_⟩
  · constructor
    · rintro ⟨g, hg⟩
      obtain ⟨⟨h0, hguard⟩, _, res, hnb, hg⟩ := applyOperator_ok_iff.mp hg
      have hnb : npBin fn f.data a = .ok res := hnb
      replace hg : mkField f.mesh (lastAx res.shape) (.arr res) (f.kind.join k) (fixVdims f.vdims (lastAx res.shape))
          (some f.valid) (some f.vmap) none = .ok g := hg
      have hbs := bshape_of_npBin hnb
      have hrl : f.mesh.n.length < res.shape.length := by
        rw [bshape_length _ _ _ hbs, hwf.shape]; simp
      obtain ⟨hgm, hgn, _, _, _, _, _, hfull, _, _, _⟩ :=
        mkField_arr f.mesh (lastAx res.shape) res _ _ (some f.valid) _ _ g (not_meshShaped hrl) hvs hg
      have hpos := (mkField_mesh hg).2.2
      obtain ⟨hvd, hvm⟩ := mkField_meta hg
      rw [hds] at hbs
      rw [hmf] at hfull
      have hres := bshape_back M.n f.nvdim a.shape res.shape hbs hfull
      refine ⟨h0, hguard, lastAx res.shape, hpos, by rw [← hres]; exact hbs, ?_⟩
      by_cases hm : lastAx res.shape = f.nvdim
      · exact Or.inl hm
      · right
        -- a count other than the field's: the field's last axis was stretched, so it is 1; the labels are dropped
        -- (`fixVdims`), the constructor sets the default ones, and keeps the mapping only if it is empty
        rw [hres] at hbs
        rw [eq_dropLast_append_lastAx h0] at hbs
        obtain ⟨d, r', hd, hr', _⟩ := bshape_last M.n (a.shape.dropLast) _ f.nvdim (lastAx a.shape) hbs
        have hdm : d = lastAx res.shape := by
          have := congrArg lastAx hr'
          rw [lastAx_concat, lastAx_concat] at this
          exact this.symm
        obtain ⟨hd1, _⟩ := bdim_some _ _ _ hd
        have h1 : f.nvdim = 1 := by
          by_contra hne
          rw [if_neg hne] at hd1
          exact hm (by rw [← hdm, hd1])
        rw [hst.fix_ne hp hm] at hvd
        simp only [vdimsSet] at hvd
        injection hvd with hvd
        rw [← hvd] at hvm
        exact (vmap_for_count f hst hp _ _ _ hm h1).mp ⟨_, hvm⟩
    · rintro ⟨h0, hguard, m, hm, hb, hc⟩
      rw [← hds] at hb
      obtain ⟨res, hres, hrs⟩ := npBin_shape fn f.data a _ hb
      have hlast : lastAx res.shape = m := by rw [hrs, lastAx_concat]
      have hrs' : res.shape = f.mesh.n ++ [m] := by rw [hrs, hmf]
      have hmk : ∃ g, mkField f.mesh m (.arr res) (f.kind.join k) (fixVdims f.vdims m) (some f.valid) (some f.vmap) none
          = .ok g := by
        by_cases hmn : m = f.nvdim
        · subst hmn
          rw [hst.fix hp]
          obtain ⟨g, hg, _⟩ := mkField_from_stable f hst hp f.mesh res (f.kind.join k) (some f.valid) none hrs' hvs
          exact ⟨g, hg⟩
        · rw [hst.fix_ne hp hmn, hc.resolve_left hmn]
          obtain ⟨g, hg, _⟩ := mkField_plain_accepts f.mesh m res (f.kind.join k) (some f.valid) none hm hrs' hvs
          exact ⟨g, hg⟩
      obtain ⟨g, hg⟩ := hmk
      exact ⟨g, applyOperator_ok_iff.mpr ⟨⟨h0, hguard⟩, rfl, res, hres, by rw [hlast]; exact hg⟩⟩
  · constructor
    · rintro ⟨g, hg⟩
      obtain ⟨self, ⟨hs, _, _⟩, _, res, hnb, hw⟩ := ufunc2_ok_iff.mp hg
      cases Option.some.inj hs
      obtain ⟨hdrop, hmk⟩ := ufuncWrap_ok_iff.mp hw
      have hnb : npBin fn' a f.data = .ok res := hnb
      have hbs := bshape_of_npBin hnb
      have hne : res.shape ≠ [] := by
        intro hc
        have := bshape_length _ _ _ hbs
        rw [hc, hwf.shape] at this
        simp at this
        omega
      have hres : res.shape = M.n ++ [lastAx res.shape] := by
        rw [← hmf, ← hdrop]; exact eq_dropLast_append_lastAx hne
      refine ⟨lastAx res.shape, (mkField_mesh hmk).2.2, by rw [← hres, ← hds]; exact hbs, ?_⟩
      by_cases hm : lastAx res.shape = f.nvdim
      · exact Or.inl hm
      · right
        cases hv : f.vdims with
        | none => rfl
        | some l => exact absurd (hv ▸ (mkField_meta hmk).1) (hst.labels_refused hp hv hm)
    · rintro ⟨m, hm, hb, hc⟩
      rw [← hds] at hb
      obtain ⟨res, hres, hrs⟩ := npBin_shape fn' a f.data _ hb
      have hrs' : res.shape = f.mesh.n ++ [m] := by rw [hrs, hmf]
      have hin : UfuncPre (.raw (.arr a k true)) (.fld f) f :=
        ⟨rfl, ufuncIn_raw.mpr rfl, ufuncIn_fld.mpr (by rw [hmf]; exact hM.2)⟩
      by_cases hmn : m = f.nvdim
      · subst hmn
        obtain ⟨g, hg, _⟩ := ufuncWrap_accepts M f ⟨hwf, hst, hmf⟩ res (k.join f.kind) f.valid hrs' hwf.mask
        exact ⟨g, ufunc2_ok_iff.mpr ⟨f, hin, rfl, res, hres, hg⟩⟩
      · have hv0 : f.vdims = none := hc.resolve_left hmn
        have hvm0 : f.vmap = [] := (hst.unlabelled hp hv0).2
        obtain ⟨g, hg, _⟩ := mkField_plain_accepts f.mesh m res (k.join f.kind) (some f.valid) none hm hrs' hvs
        refine ⟨g, ufunc2_ok_iff.mpr ⟨f, hin, rfl, res, hres, ufuncWrap_ok_iff.mpr ⟨by rw [hrs']; simp, ?_⟩⟩⟩
        rw [hrs', lastAx_concat, hv0, hvm0]
        exact hg

/-- the witness of `comm_accept_fails` in these terms: `np.ones((2, 2))` broadcasts with the labelled
scalar field `s1` to `n ++ [2]`; `s1` has no mapping (operator path accepts) but a label (ufunc path refuses) -/
example : bshape (exMesh.n ++ [exS1.nvdim]) [2, 2] = some (exMesh.n ++ [2]) ∧ exS1.vmap = [] ∧ exS1.vdims ≠ none := by
  decide

/-! ### stacking reproduces labels and mapping exactly for default-labelled fields -/

/-- **the stack `f.l₀ << … << f.lₖ₋₁` also reproduces the labels and the mapping of `f` iff `f`
carries the default labels for its count and the default mapping** (the component fields are
unlabelled scalars; custom labels and mappings do not survive the round trip — values,
validity, mesh and count always do, `stack_components_total`). -/
theorem stack_meta_iff (M : Mesh) (hM : MeshOk M) (f : CF) (hf : Good M f) (vd : List String)
    (hvd : f.vdims = some vd) :
    ∃ g, stackComps f = .ok g ∧
      ((g.vdims = f.vdims ∧ g.vmap = f.vmap) ↔
        (f.vdims = Fld.defaultVdims f.nvdim ∧
          f.vmap = vmapDefault f.nvdim M.region.ndim (Fld.defaultVdims f.nvdim) M.region.dims)) := by
  obtain ⟨g, hg, _, _, _, h4, h5⟩ := stack_components_total M hM f hf vd hvd
  rw [vmapSet_none_eq] at h5
  injection h5 with h5
  refine ⟨g, hg, ?_⟩
  rw [h4, ← h5]
  constructor
  · rintro ⟨a, b⟩; exact ⟨a.symm, b.symm⟩
  · rintro ⟨a, b⟩; exact ⟨a.symm, b.symm⟩

/-- **typed elementwise trees, entry by entry, without success hypothesis**: every well-typed tree
without `dot` / `cross` / `<<` / `angle` is accepted and every entry of the result is the tree of
scalars at that entry (`eval_scalar_tree` with the acceptance discharged by `typed_total`). -/
theorem typed_scalar_tree (env : Env) (M : Mesh) (hM : MeshOk M) (hgood : ∀ f ∈ env.fields, Good M f)
    (e : Expr) (t : Ty) (h : HasTy env M e t) (hel : e.elementwise = true) :
    ∃ g, evalF env e = .ok (.fld g) ∧ g.mesh = M ∧ g.nvdim = t.nv ∧
      ∀ i, inRange M.n i = true → ∀ c, c < t.nv → g.data.get (i ++ [c]) = scalarAt env e (i ++ [c]) := by
  obtain ⟨g, hg, hm, _, _, hn, _⟩ := typed_total env M hM hgood e t h
  exact ⟨g, hg, hm, hn, fun i hi c hc => eval_scalar_tree env M.n (fields_wf hgood) e hel g hg i hi c (by rw [hn]; exact hc)⟩

/-! ### commutativity and involution laws on typed trees, no success hypothesis -/

/-- **`x @ y = y @ x`, `x & y = -(y & x)` and `-(-x) = x`, `conj(conj x) = x` on typed trees, no success
hypothesis**: for well-typed subtrees with equal component counts both dot products are accepted
and agree in every cell and in validity; with three components each both cross products are
accepted and are each other's negative; the double negation / double conjugation of any
well-typed tree is accepted and has the values and validity of the tree itself. -/
theorem laws_typed (env : Env) (M : Mesh) (hM : MeshOk M) (hgood : ∀ f ∈ env.fields, Good M f)
    (x y : Expr) (tx ty : Ty) (hx : HasTy env M x tx) (hy : HasTy env M y ty) :
    (tx.nv = ty.nv → ∃ g1 g2, evalF env (.bin .dot x y) = .ok (.fld g1) ∧ evalF env (.bin .dot y x) = .ok (.fld g2) ∧
      ∀ i, inRange M.n i = true →
        cellOf g1.data i g1.nvdim = cellOf g2.data i g2.nvdim ∧ g1.valid.get i = g2.valid.get i) ∧
    (tx.nv = 3 → ty.nv = 3 →
      ∃ g1 g2, evalF env (.bin .cross x y) = .ok (.fld g1) ∧ evalF env (.bin .cross y x) = .ok (.fld g2) ∧
      ∀ i, inRange M.n i = true →
        cellOf g2.data i g2.nvdim = (cellOf g1.data i g1.nvdim).map GQ.neg ∧ g1.valid.get i = g2.valid.get i) ∧
    (∀ u, u = UnOp.neg ∨ u = UnOp.conj →
      ∃ f g, evalF env x = .ok (.fld f) ∧ evalF env (.un u (.un u x)) = .ok (.fld g) ∧
      ∀ i, inRange M.n i = true →
        cellOf g.data i g.nvdim = cellOf f.data i f.nvdim ∧ g.valid.get i = f.valid.get i) := by
  have lx := hasTy_liftOk env M x tx hx
  have ly := hasTy_liftOk env M y ty hy
  refine ⟨fun hn => ?_, fun h3 h3' => ?_, fun u hu => ?_⟩
  · obtain ⟨g1, h1, _⟩ := hasTy_sound env M hM hgood _ _ (HasTy.dotFF x y tx ty hx hy hn)
    obtain ⟨g2, h2, _⟩ := hasTy_sound env M hM hgood _ _ (HasTy.dotFF y x ty tx hy hx hn.symm)
    exact ⟨g1, g2, h1, h2, dot_comm_values env M.n (fields_wf hgood) x y lx ly g1 g2 h1 h2⟩
  · obtain ⟨g1, h1, _⟩ := hasTy_sound env M hM hgood _ _
      (HasTy.crossFF x y tx ty _ hx hy h3 h3' (vmapSet_none_eq _ _ _ _))
    obtain ⟨g2, h2, _⟩ := hasTy_sound env M hM hgood _ _
      (HasTy.crossFF y x ty tx _ hy hx h3' h3 (vmapSet_none_eq _ _ _ _))
    exact ⟨g1, g2, h1, h2, cross_anticomm_values env M.n (fields_wf hgood) x y lx ly g1 g2 h1 h2⟩
  · obtain ⟨f, h0, _⟩ := hasTy_sound env M hM hgood x tx hx
    obtain ⟨g, h1, _⟩ := hasTy_sound env M hM hgood _ _ (HasTy.un u _ _ (HasTy.un u x tx hx))
    exact ⟨f, g, h0, h1, involution_values env M.n (fields_wf hgood) u hu x lx f g h0 h1⟩

example : HasTy exEnv1 exMesh (.leaf 0) (tyOf exA) ∧ HasTy exEnv1 exMesh (.leaf 1) (tyOf exB) ∧
    (tyOf exA).nv = (tyOf exB).nv := ⟨.leaf 0 exA rfl, .leaf 1 exB rfl, rfl⟩

/-- **`np.divmod(f, g)` on two fields: accepted and cell-wise, in one statement** — `pair_cellwise`
with its success hypothesis discharged by `pair_accepts_meta`. -/
theorem pair_total (fn1 fn2 : GQ → GQ → GQ) (c : Bool) (M : Mesh) (hM : MeshOk M) (f o : CF)
    (hf : Good M f) (ho : Good M o) (hd : bdim f.nvdim o.nvdim = some f.nvdim)
    (hk : c = true ∨ (f.kind ≠ .complex ∧ o.kind ≠ .complex)) :
    ∃ g1 g2, ufunc2pair fn1 fn2 c (.fld f) (.fld o) = .ok (g1, g2) ∧ Good M g1 ∧ Good M g2 ∧
      ∀ i, inRange M.n i = true →
        cellOf g1.data i g1.nvdim = bz fn1 (cellOf f.data i f.nvdim) (cellOf o.data i o.nvdim) ∧
        cellOf g2.data i g2.nvdim = bz fn2 (cellOf f.data i f.nvdim) (cellOf o.data i o.nvdim) ∧
        g1.valid.get i = (f.valid.get i && o.valid.get i) ∧ g2.valid.get i = (f.valid.get i && o.valid.get i) := by
  obtain ⟨g1, g2, h, hg1, hg2, _⟩ := pair_accepts_meta fn1 fn2 c M hM f o hf ho hd hk
  obtain ⟨_, _, _, _, hc⟩ := pair_cellwise fn1 fn2 c M.n f o g1 g2 hf.1 ho.1 (by rw [hf.mesh]) (by rw [ho.mesh]) h
  exact ⟨g1, g2, h, hg1, hg2, hc⟩

/-! non-vacuity of the hypotheses of the ufunc-method theorems on the example fields -/

def accOk (f : CF) (ax : Nat) : Bool :=
  match ufuncAccumulate GQ.add f ax with
  | .ok _ => true
  | _ => false
def outOk (o : OutRes) : Bool := !outRefused o
/-- `np.add.accumulate(a, axis=0)` and `axis=-1`; `np.add(a, b, out=c)` with `c` on the other mesh;
`b` on `exMesh`, `c` on `exMesh2` are well-formed fields on their meshes -/
example : accOk exA 0 = true ∧ accOk exA 1 = true ∧ 1 < exA.data.shape.length ∧
    outOk (ufunc2out GQ.add false Kind.join (.fld exA) (.fld exB) exC) = true ∧
    Good exMesh exB ∧ Good exMesh2 exC ∧ meshAllclose exMesh exMesh2 ≠ .ok true :=
  ⟨by decide +kernel, by decide +kernel, by decide, by decide +kernel,
   ⟨⟨rfl, rfl, by decide⟩, ⟨by decide +kernel, by decide +kernel⟩, rfl⟩,
   ⟨⟨rfl, rfl, by decide⟩, ⟨by decide +kernel, by decide +kernel⟩, rfl⟩, by decide +kernel⟩

/-! ### algebraic laws for whole subtrees -/

/-- the imaginary unit as a plain Python `complex` operand -/
def exI : Opd := .num ⟨0, 1⟩ .complex false

/-- **Ring laws hold cell by cell for arbitrary elementwise subtrees `a`, `b`, `c` (any depth, any
broadcastable mix of scalar fields, vector fields, numbers, vectors and arrays):** whenever
both sides are accepted,
`a * (b + c) = a * b + a * c`, `(a + b) + c = a + (b + c)`, `(a * b) * c = a * (b * c)`,
`a - b = a + (-b)`, `a.real + 1j * a.imag = a`, `conj(a * b) = conj(a) * conj(b)` —
equal values in every cell and equal validity.  (Through `eval_scalar_tree`: both sides have the
same tree of scalars by the ring laws of the Gaussian rationals.) -/
theorem algebra_laws (env : Env) (n : List Nat) (hwf : ∀ f ∈ env.fields, CFwf f ∧ f.mesh.n = n)
    (a b c : Expr) (ha : a.elementwise = true) (hb : b.elementwise = true) (hc : c.elementwise = true) :
    let same := fun (e1 e2 : Expr) => ∀ g1 g2, evalF env e1 = .ok (.fld g1) → evalF env e2 = .ok (.fld g2) →
      ∀ i, inRange n i = true →
        cellOf g1.data i g1.nvdim = cellOf g2.data i g2.nvdim ∧ g1.valid.get i = g2.valid.get i
    same (.bin .mul a (.bin .add b c)) (.bin .add (.bin .mul a b) (.bin .mul a c)) ∧
    same (.bin .add (.bin .add a b) c) (.bin .add a (.bin .add b c)) ∧
    same (.bin .mul (.bin .mul a b) c) (.bin .mul a (.bin .mul b c)) ∧
    same (.bin .sub a b) (.bin .add a (.un .neg b)) ∧
    same (.bin .add (.un .real a) (.bin .mul (.opd exI) (.un .imag a))) a ∧
    same (.un .conj (.bin .mul a b)) (.bin .mul (.un .conj a) (.un .conj b)) := by
  intro same
  have key : ∀ e1 e2 : Expr, e1.elementwise = true → e2.elementwise = true →
      (∀ i, (evalCell env e1 i).length = (evalCell env e2 i).length) →
      (∀ idx, scalarAt env e1 idx = scalarAt env e2 idx) →
      (∀ i, validCell env e1 i = validCell env e2 i) → same e1 e2 :=
    fun e1 e2 h1 h2 hl hs hv => scalar_ext_same env n hwf e1 e2 h1 h2 hl hs hv
  -- each law yields the five premises of `scalar_ext_same`: both sides elementwise, equal lengths (`bl_*`), equal scalars
  -- (a ring law of `GQ`), equal validity
  refine ⟨key _ _ ?_ ?_ ?_ ?_ ?_, key _ _ ?_ ?_ ?_ ?_ ?_, key _ _ ?_ ?_ ?_ ?_ ?_, key _ _ ?_ ?_ ?_ ?_ ?_,
    key _ _ ?_ ?_ ?_ ?_ ?_, key _ _ ?_ ?_ ?_ ?_ ?_⟩
  -- distributivity
  · exact elementwise_bin rfl ha (elementwise_bin rfl hb hc)
  · exact elementwise_bin rfl (elementwise_bin rfl ha hb) (elementwise_bin rfl ha hc)
  · intro i; simp only [evalCell, binCell, bz_length]; exact bl_distrib _ _ _
  · intro idx; simp only [scalarAt, binFn]; exact GQ.mul_add' _ _ _
  · intro i; simp only [validCell]
    cases validCell env a i <;> cases validCell env b i <;> cases validCell env c i <;> rfl
  -- associativity of +
  · exact elementwise_bin rfl (elementwise_bin rfl ha hb) hc
  · exact elementwise_bin rfl ha (elementwise_bin rfl hb hc)
  · intro i; simp only [evalCell, binCell, bz_length]; exact bl_assoc _ _ _
  · intro idx; simp only [scalarAt, binFn]; exact GQ.add_assoc' _ _ _
  · intro i; simp only [validCell, Bool.and_assoc]
  -- associativity of *
  · exact elementwise_bin rfl (elementwise_bin rfl ha hb) hc
  · exact elementwise_bin rfl ha (elementwise_bin rfl hb hc)
  · intro i; simp only [evalCell, binCell, bz_length]; exact bl_assoc _ _ _
  · intro idx; simp only [scalarAt, binFn]; exact GQ.mul_assoc' _ _ _
  · intro i; simp only [validCell, Bool.and_assoc]
  -- a - b = a + (-b)
  · exact elementwise_bin rfl ha hb
  · exact elementwise_bin rfl ha hb
  · intro i; simp only [evalCell, binCell, bz_length, List.length_map]
  · intro idx; simp only [scalarAt, binFn, unFn]; exact GQ.sub_eq_add_neg' _ _
  · intro i; simp only [validCell]
  -- real + 1j * imag
  · exact elementwise_bin rfl ha (elementwise_bin rfl rfl ha)
  · exact ha
  · intro i
    simp only [evalCell, binCell, bz_length, List.length_map, exI, rawCell, List.length_cons, List.length_nil]
    unfold bl
    by_cases h1 : (evalCell env a i).length = 1 <;> simp [h1]
  · intro idx; simp only [scalarAt, binFn, unFn, exI]; exact GQ.re_im_recompose _
  · intro i; simp only [validCell, Bool.true_and, Bool.and_self]
  -- conj (a * b)
  · exact elementwise_bin rfl ha hb
  · exact elementwise_bin rfl ha hb
  · intro i; simp only [evalCell, binCell, bz_length, List.length_map]
  · intro idx; simp only [scalarAt, binFn, unFn]; exact GQ.conj_mul _ _
  · intro i; simp only [validCell]

/-- both sides of the distributive law and of the recomposition are accepted on the example fields -/
example : evalOk exEnv (.bin .mul (.leaf 3) (.bin .add (.leaf 0) (.opd exVec))) = true ∧
    evalOk exEnv (.bin .add (.bin .mul (.leaf 3) (.leaf 0)) (.bin .mul (.leaf 3) (.opd exVec))) = true ∧
    evalOk exEnv (.bin .add (.un .real (.leaf 0)) (.bin .mul (.opd exI) (.un .imag (.leaf 0)))) = true := by
  decide +kernel

end DFV.C03
