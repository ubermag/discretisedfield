import DFV.Lemmas.C18Examples2
import DFV.Lemmas.C18Rotate90
import DFV.Lemmas.C18Scale
/-!
# C18 — arbitrary rotations rotate the vectors and resample the positions consistently

Property theorems about the executable model `DFV/Model/C18.lean` of `FieldRotator`
(lemmas in `DFV/Lemmas/C18*.lean`).  Rotations are rational 3×3 matrices;
all statements hold for every field, every mesh size, every matrix / history / target
cell, in exact rational arithmetic.
-/
namespace DFV.C18
open DFV

/-! ## rotations -/

/-- Every non-zero rational quaternion yields a proper rotation with rational entries. -/
theorem quat_is_rotation (w x y z : Rat) (h : w*w + x*x + y*y + z*z ≠ 0) : (M3.ofQuat w x y z).IsRot :=
  M3.ofQuat_isRot w x y z h

example : (M3.ofQuat 2 1 (-2) 3).IsRot := quat_is_rotation _ _ _ _ (by norm_num)

/-- For a rotation the transpose (what the model uses for scipy's `Rotation.inv`) is the
two-sided inverse, and scalar products (lengths, angles) are preserved. -/
theorem transpose_is_inverse (Q : M3) (h : Q.IsRot) (u v : V3) :
    Q.apply (Q.tr.apply v) = v ∧ Q.tr.apply (Q.apply v) = v ∧ (Q.apply u).dot (Q.apply v) = u.dot v :=
  ⟨h.apply_tr_apply v, h.tr_apply_apply v, h.dot_apply u v⟩

/-- **modified Rodrigues parameters** (`from_mrp`): EVERY rational parameter vector gives a proper
rotation with rational entries (no exceptional vectors); `p = 0` is the identity and `−p` the
inverse rotation. -/
theorem mrp_is_rotation (p : V3) :
    (M3.ofMrp p).IsRot ∧ M3.ofMrp ⟨0, 0, 0⟩ = M3.one ∧ M3.ofMrp ⟨-p.x, -p.y, -p.z⟩ = (M3.ofMrp p).tr :=
  ⟨ofMrp_isRot p, ofMrp_zero, ofMrp_neg p⟩

/-- **vector alignment** (`rotate("align_vector", initial=i, final=f)`, with
`fixed = np.cross(i, f)`): for vectors of equal length that are not parallel the model's matrix
is a proper rotation that takes `initial` to `final` and keeps their cross product fixed — "the
cross product defines the rotation vector" — and swapping the two gives the inverse rotation. -/
theorem align_vector_spec (i f : V3) (hlen : i.dot i = f.dot f) (hv : i.cross f ≠ ⟨0, 0, 0⟩) :
    (M3.ofAlign i f).IsRot ∧ (M3.ofAlign i f).apply i = f ∧ (M3.ofAlign i f).apply (i.cross f) = i.cross f ∧
    M3.ofAlign f i = (M3.ofAlign i f).tr :=
  ⟨(ofAlign_spec i f hlen hv).1, (ofAlign_spec i f hlen hv).2.1, (ofAlign_spec i f hlen hv).2.2, ofAlign_swap i f hlen⟩

example : (⟨1, 2, 2⟩ : V3).dot ⟨1, 2, 2⟩ = (⟨3, 0, 0⟩ : V3).dot ⟨3, 0, 0⟩ ∧ (⟨1, 2, 2⟩ : V3).cross ⟨3, 0, 0⟩ ≠ ⟨0, 0, 0⟩ := by
  decide +kernel

/-- **Euler sequences of quarter-turn angles** (`from_euler` with angles `k·π/2`, any length, any
axes): always a proper rotation; an intrinsic (upper-case) sequence is the reversed extrinsic
(lower-case) one; and the extrinsic sequence is the ordered product — later rotations on the
left — that a history of `rotate` calls with the single axis rotations accumulates. -/
theorem euler_quarter_sequences (intr : Bool) (seq : List (Nat × Int)) :
    (eulerQ intr seq).IsRot ∧ eulerQ true seq = eulerQ false seq.reverse ∧
    eulerQ false seq = prodL (seq.map fun x => Raxis x.1 x.2) :=
  ⟨eulerQ_isRot intr seq, eulerQ_intrinsic_reverse seq, eulerQ_extrinsic_prodL seq⟩

/-- `from_euler("zyx", [π/2, π, −π/2])` vs `from_euler("ZYX", …)`: different rotations -/
example : eulerQ false [(2, 1), (1, 2), (0, -1)] ≠ eulerQ true [(2, 1), (1, 2), (0, -1)] := by decide +kernel

/-! ## the bounding box (`_calculate_new_region`) -/

/-- `centre + cornerRel` enumerates the eight corners of the original region. -/
theorem corner_of_region (m : Mesh) (s0 s1 s2 : Bool) (a : Nat) (ha : a < 3) :
    centreAt m a + (cornerRel m s0 s1 s2).get a
      = if (match a with | 0 => s0 | 1 => s1 | _ => s2) then m.region.hi a else m.region.lo a := by
  rcases a_cases a ha with e | e | e <;> subst e <;>
    simp only [cornerRel, V3.get, centreAt, Region.edge, sgn] <;> split <;> ring

/-- **bbox.** The region of the rotated field has the centre of the original region, contains
the eight corners of the original region rotated about that centre, and each of its six
faces contains one of them — it is the axis-aligned bounding box of the rotated region
(for any matrix, rotation or not). -/
theorem bbox (f : Fld) (R : M3) (reg : Region) (h : newRegion f R = .ok reg) :
    (∀ a, a < 3 → (reg.lo a + reg.hi a) / 2 = centreAt f.mesh a) ∧
    (∀ s0 s1 s2 a, a < 3 →
      reg.lo a ≤ centreAt f.mesh a + (R.apply (cornerRel f.mesh s0 s1 s2)).get a ∧
      centreAt f.mesh a + (R.apply (cornerRel f.mesh s0 s1 s2)).get a ≤ reg.hi a) ∧
    (∀ a, a < 3 → ∃ s0 s1 s2, centreAt f.mesh a + (R.apply (cornerRel f.mesh s0 s1 s2)).get a = reg.hi a) ∧
    (∀ a, a < 3 → ∃ s0 s1 s2, centreAt f.mesh a + (R.apply (cornerRel f.mesh s0 s1 s2)).get a = reg.lo a) := by
  obtain ⟨_, rfl⟩ := (newRegion_ok_iff f R reg).mp h
  refine ⟨?_, ?_, ?_, ?_⟩
  · intro a ha
    rw [boxRegion_lo f R a ha, boxRegion_hi f R a ha]; ring
  · exact fun s0 s1 s2 a ha => mem_box_of_abs_le f R a ha _ (corner_bound R f.mesh s0 s1 s2 a)
  · intro a ha
    refine ⟨decide (0 ≤ R.e a 0 * f.mesh.region.edge 0), decide (0 ≤ R.e a 1 * f.mesh.region.edge 1),
      decide (0 ≤ R.e a 2 * f.mesh.region.edge 2), ?_⟩
    rw [boxRegion_hi f R a ha, corner_attains R f.mesh a]
  · intro a ha
    refine ⟨!decide (0 ≤ R.e a 0 * f.mesh.region.edge 0), !decide (0 ≤ R.e a 1 * f.mesh.region.edge 1),
      !decide (0 ≤ R.e a 2 * f.mesh.region.edge 2), ?_⟩
    rw [boxRegion_lo f R a ha, corner_attains_neg R f.mesh a]; ring

/-- **bbox is the smallest box.** Any axis-aligned box that contains the eight rotated corners
contains the region of the rotated field. -/
theorem bbox_minimal (f : Fld) (R : M3) (reg : Region) (h : newRegion f R = .ok reg) (lo' hi' : Nat → Rat)
    (hbox : ∀ s0 s1 s2 a, a < 3 →
      lo' a ≤ centreAt f.mesh a + (R.apply (cornerRel f.mesh s0 s1 s2)).get a ∧
      centreAt f.mesh a + (R.apply (cornerRel f.mesh s0 s1 s2)).get a ≤ hi' a) :
    ∀ a, a < 3 → lo' a ≤ reg.lo a ∧ reg.hi a ≤ hi' a := by
  intro a ha
  obtain ⟨_, _, hhi, hlo⟩ := bbox f R reg h
  obtain ⟨s0, s1, s2, e1⟩ := hhi a ha
  obtain ⟨t0, t1, t2, e2⟩ := hlo a ha
  exact ⟨e2 ▸ (hbox t0 t1 t2 a ha).1, e1 ▸ (hbox s0 s1 s2 a ha).2⟩

/-- **the box contains the whole rotated region**, not only its corners: every point `x` of the
original region, rotated about the centre, lies in the region of the rotated field (for any
matrix). -/
theorem bbox_contains_region (f : Fld) (R : M3) (reg : Region) (h : newRegion f R = .ok reg) (x : V3)
    (hx : ∀ a, a < 3 → f.mesh.region.lo a ≤ x.get a ∧ x.get a ≤ f.mesh.region.hi a) (a : Nat) (ha : a < 3) :
    reg.lo a ≤ centreAt f.mesh a + (R.apply (x.sub (centreV f.mesh))).get a ∧
    centreAt f.mesh a + (R.apply (x.sub (centreV f.mesh))).get a ≤ reg.hi a := by
  have hd : ∀ j, j < 3 → |(x.sub (centreV f.mesh)).get j| ≤ f.mesh.region.edge j / 2 := by
    intro j hj
    rw [V3.get_sub, centreV, V3.get_ofFn _ _ hj, abs_le]
    obtain ⟨h1, h2⟩ := hx j hj
    rw [lo_eq_centre] at h1
    rw [hi_eq_centre] at h2
    constructor <;> linarith
  obtain ⟨_, rfl⟩ := (newRegion_ok_iff f R reg).mp h
  exact mem_box_of_abs_le f R a ha _ (apply_bound R f.mesh _ (hd 0 (by decide)) (hd 1 (by decide)) (hd 2 (by decide)) a)

example : ∀ a, a < 3 → exF.mesh.region.lo a ≤ (⟨1, 4, 3/2⟩ : V3).get a ∧ (⟨1, 4, 3/2⟩ : V3).get a ≤ exF.mesh.region.hi a := by
  decide +kernel

/-- **the bounding box always exists and is not smaller than the region.** For a well-formed
mesh and a proper rotation the `Region` constructor never refuses (no edge collapses), every
new edge is positive, and the volume of the box is at least the volume of the original region. -/
theorem bbox_accepted (f : Fld) (hm : Mesh3 f.mesh) (R : M3) (hR : R.IsRot) :
    ∃ reg, newRegion f R = .ok reg ∧ (∀ a, a < 3 → 0 < reg.edge a) ∧
      f.mesh.region.edge 0 * f.mesh.region.edge 1 * f.mesh.region.edge 2 ≤ reg.edge 0 * reg.edge 1 * reg.edge 2 := by
  have h := newRegion_accepts f hm hR
  obtain ⟨e0, e1, e2⟩ := edgesV_pos f.mesh hm
  have hE := boxRegion_edge f R
  refine ⟨_, h, fun a ha => by rw [hE a ha]; exact sumAbs_pos hR _ e0 e1 e2 a ha, ?_⟩
  rw [hE 0 (by decide), hE 1 (by decide), hE 2 (by decide)]
  exact prod_sumAbs_ge hR (edgesV f.mesh)

example : Mesh3 exF.mesh ∧ exR.IsRot := ⟨exWF.1, by decide +kernel⟩

/-- the bounding box has default axis names and units (the code builds a fresh `Region`) -/
theorem bbox_metadata (f : Fld) (R : M3) (reg : Region) (h : newRegion f R = .ok reg) :
    reg.ndim = 3 ∧ reg.dims = ["x", "y", "z"] ∧ reg.units = ["m", "m", "m"] := by
  obtain ⟨_, rfl⟩ := (newRegion_ok_iff f R reg).mp h
  exact ⟨boxRegion_ndim f R, rfl, rfl⟩

/-- non-vacuity: the 3-4-5 rotation about z of the box [0,4]×[0,4]×[0,3] has the bounding box
[−4/5, 24/5]² × [0, 3] -/
example : exR.IsRot ∧ newRegion exF exR = .ok exReg := ⟨by decide +kernel, exNewRegion⟩

/-! ## multilinear interpolation (`RegularGridInterpolator`, linear, fill value 0) -/

/-- **trilinear_affine.** On any strictly increasing node grids, interpolating samples of an
affine function of the node coordinates returns that function at every point inside the
grid. -/
theorem trilinear_affine (g0 g1 g2 : Nat → Rat) (m0 m1 m2 : Nat)
    (hs0 : ∀ j, j ≤ m0 → g0 j < g0 (j + 1)) (hs1 : ∀ j, j ≤ m1 → g1 j < g1 (j + 1))
    (hs2 : ∀ j, j ≤ m2 → g2 j < g2 (j + 1))
    (α β0 β1 β2 : Rat) (V : Nat → Nat → Nat → Rat)
    (hV : ∀ i j k, i ≤ m0 + 1 → j ≤ m1 + 1 → k ≤ m2 + 1 → V i j k = α + β0 * g0 i + β1 * g1 j + β2 * g2 k)
    (p : V3) (h0 : inBounds g0 m0 p.x = true) (h1 : inBounds g1 m1 p.y = true) (h2 : inBounds g2 m2 p.z = true) :
    trilin g0 g1 g2 m0 m1 m2 V p = α + β0 * p.x + β1 * p.y + β2 * p.z := by
  rw [trilin_inBounds _ _ _ _ _ _ V p h0 h1 h2]
  unfold frac
  have l0 := findIdx_le g0 p.x m0
  have l1 := findIdx_le g1 p.y m1
  have l2 := findIdx_le g2 p.z m2
  exact sum8_affine α β0 β1 β2 (fun e => g0 (findIdx g0 p.x m0 + e)) (fun e => g1 (findIdx g1 p.y m1 + e))
    (fun e => g2 (findIdx g2 p.z m2 + e)) p.x p.y p.z _ (sub_ne_zero.mpr (hs0 _ l0).ne') (sub_ne_zero.mpr (hs1 _ l1).ne')
    (sub_ne_zero.mpr (hs2 _ l2).ne') fun e0 e1 e2 he0 he1 he2 => hV _ _ _ (by omega) (by omega) (by omega)

/-- The eight weights sum to one: constant data is reproduced everywhere inside the grid. -/
theorem trilinear_const (g0 g1 g2 : Nat → Rat) (m0 m1 m2 : Nat) (c : Rat) (p : V3)
    (h0 : inBounds g0 m0 p.x = true) (h1 : inBounds g1 m1 p.y = true) (h2 : inBounds g2 m2 p.z = true) :
    trilin g0 g1 g2 m0 m1 m2 (fun _ _ _ => c) p = c := by
  rw [trilin_inBounds _ _ _ _ _ _ _ p h0 h1 h2]
  exact sum8_const _ _ _ c

/-- The interpolant is linear in the data (at every point, inside or outside). -/
theorem trilinear_linear (g0 g1 g2 : Nat → Rat) (m0 m1 m2 : Nat) (a b : Rat) (V W : Nat → Nat → Nat → Rat) (p : V3) :
    trilin g0 g1 g2 m0 m1 m2 (fun i j k => a * V i j k + b * W i j k) p
      = a * trilin g0 g1 g2 m0 m1 m2 V p + b * trilin g0 g1 g2 m0 m1 m2 W p := by
  unfold trilin
  exact interpAt_linear a b V W _

/-- A point outside the node grid on any axis gets the fill value 0. -/
theorem trilinear_outside_zero (g0 g1 g2 : Nat → Rat) (m0 m1 m2 : Nat) (V : Nat → Nat → Nat → Rat) (p : V3)
    (h : p.x < g0 0 ∨ g0 (m0 + 1) < p.x ∨ p.y < g1 0 ∨ g1 (m1 + 1) < p.y ∨ p.z < g2 0 ∨ g2 (m2 + 1) < p.z) :
    trilin g0 g1 g2 m0 m1 m2 V p = 0 := by
  unfold trilin
  rw [locate_none]
  · rfl
  · simp only [inBounds_false_iff]
    rcases h with h | h | h | h | h | h
    · exact Or.inl (Or.inl h)
    · exact Or.inl (Or.inr h)
    · exact Or.inr (Or.inl (Or.inl h))
    · exact Or.inr (Or.inl (Or.inr h))
    · exact Or.inr (Or.inr (Or.inl h))
    · exact Or.inr (Or.inr (Or.inr h))

/-- At a node the interpolant is the stored sample (so target centres that fall on source
centres copy values, as the lattice rotation of C12 does). -/
theorem trilinear_node (g0 g1 g2 : Nat → Rat) (m0 m1 m2 : Nat)
    (hs0 : ∀ j, j ≤ m0 → g0 j < g0 (j + 1)) (hs1 : ∀ j, j ≤ m1 → g1 j < g1 (j + 1))
    (hs2 : ∀ j, j ≤ m2 → g2 j < g2 (j + 1))
    (V : Nat → Nat → Nat → Rat) (i j k : Nat) (hi : i ≤ m0) (hj : j ≤ m1) (hk : k ≤ m2)
    (p : V3) (hx : p.x = g0 i) (hy : p.y = g1 j) (hz : p.z = g2 k) :
    trilin g0 g1 g2 m0 m1 m2 V p = V i j k := by
  rw [trilin_inBounds _ _ _ _ _ _ V p (by rw [hx]; exact inBounds_node g0 m0 hs0 i hi)
    (by rw [hy]; exact inBounds_node g1 m1 hs1 j hj) (by rw [hz]; exact inBounds_node g2 m2 hs2 k hk),
    hx, hy, hz, findIdx_at_node g0 m0 hs0 i hi, findIdx_at_node g1 m1 hs1 j hj, findIdx_at_node g2 m2 hs2 k hk,
    frac_node, frac_node, frac_node, sum8_zero]
  rfl

/-- non-vacuity: a strictly increasing grid with a padded layer, a point inside it -/
example : (∀ j, j ≤ 2 → (fun k : Nat => (k : Rat) * 3) j < (fun k : Nat => (k : Rat) * 3) (j + 1)) ∧
    inBounds (fun k : Nat => (k : Rat) * 3) 2 (7/2) = true := by
  constructor
  · intro j _; simp only; push_cast; linarith
  · exact (inBounds_iff _ _ _).mpr (by norm_num)

/-! ## the stored values (`_map_and_interpolate` + vector rotation) -/

/-- position handed to the interpolator for target cell `idx`, as an absolute coordinate -/
theorem backPos_spec (f : Fld) (R : M3) (hR : R.IsRot) (nm : Mesh) (idx : List Nat) :
    R.apply (backPos f R nm idx) = (V3.ofList (nm.centre idx)).sub (centreV f.mesh) := by
  unfold backPos
  exact hR.apply_tr_apply _

/-- **rot_general.** Every stored value is the rotation (through the component ↔ axis
permutation) applied to the multilinear interpolant of the ORIGINAL field at the back-rotated
cell centre: rotate-then-interpolate (the code) equals interpolate-then-rotate (the property). -/
theorem rot_general (f : Fld) (hf : WF f) (R : M3) (n? : Option (List Nat)) (g : Fld)
    (h : rotateOnce f R n? = .ok g) :
    ∃ ord, ordFor f = .ok ord ∧
      ∀ idx, g.data.get idx = rotVal f.nvdim R ord (origAt f (backPos f R g.mesh idx)) := by
  obtain ⟨_, _, _, ord, ho, rfl⟩ := (rotateOnce_ok_iff f R n? g).mp h
  exact ⟨ord, ho, rotated_get f hf R ord ho _⟩

/-- non-vacuity: a scalar field and a vector field with permuted mapping are rotated -/
example : WF exF ∧ rotateOnce exF exR (some [5, 5, 3]) = .ok (rotated exF exR [] exNM) := ⟨exWF, exRot⟩
example : WF exV ∧ rotateOnce exV exR (some [5, 5, 3]) = .ok (rotated exV exR [1, 0, 2] exNM) := ⟨exWFV, exRotV⟩

/-- **`ordered_idx` is a permutation.** For a 3-vector field with three labels on distinct axis
names and a mapping in which no label occurs twice, a successful component order lists three
distinct component positions — so the model's `invAt` is its inverse permutation (`invAt ord (ord[a]) = a`) and equals what
the code-shaped `argsort` (`argsortL`: indices sorted by key) returns. Holds for all six
mappings, cyclic ones included. -/
theorem ordered_idx_is_permutation (f : Fld) (ord : List Nat) (h : ordFor f = .ok ord) (h3 : f.nvdim = 3)
    (hl : (f.vdims.getD []).length = 3)
    (hdims : ∀ a b, a < 3 → b < 3 → a ≠ b → f.mesh.region.dims.getD a "" ≠ f.mesh.region.dims.getD b "")
    (hkey : ∀ x ∈ f.vmap, ∀ y ∈ f.vmap, x.1 = y.1 → x = y) :
    PermOrd ord ∧ (∀ a, a < 3 → invAt ord (ord.getD a 0) = a) ∧
    (ord.length = 3 → ∀ c, c < 3 → (argsortL ord).getD c 0 = invAt ord c) := by
  have hp := ordFor_perm f ord h h3 hl hdims hkey
  exact ⟨hp, fun a ha => invAt_ord hp a ha, fun hl3 c hc => argsort_eq_invAt hp hl3 c hc⟩

/-- the cyclic mapping `p ↦ y, q ↦ z, r ↦ x` gives the cyclic order `[2, 0, 1]` -/
example : ordFor { exV with vmap := [("p", "y"), ("q", "z"), ("r", "x")] } = .ok [2, 0, 1] := okIs_sound _ _ (by decide +kernel)

/-- **vectors go through the permutation and back.** For a 3-vector field (any one-to-one
mapping) the component of the stored value that belongs to spatial axis `a` — position `ord[a]` —
is component `a` of `R` applied to the interpolated original vector listed in spatial order
`(v[ord 0], v[ord 1], v[ord 2])`: forward permutation, rotation, inverse permutation. -/
theorem rot_vector_components (f : Fld) (hf : WF f) (h3 : f.nvdim = 3)
    (hdims : ∀ a b, a < 3 → b < 3 → a ≠ b → f.mesh.region.dims.getD a "" ≠ f.mesh.region.dims.getD b "")
    (hkey : ∀ x ∈ f.vmap, ∀ y ∈ f.vmap, x.1 = y.1 → x = y)
    (R : M3) (n? : Option (List Nat)) (g : Fld) (h : rotateOnce f R n? = .ok g) :
    ∃ ord, ordFor f = .ok ord ∧ PermOrd ord ∧ ∀ idx a, a < 3 →
      (g.data.get idx).getD (ord.getD a 0) 0 = (R.apply (spatial ord (origAt f (backPos f R g.mesh idx)))).get a := by
  obtain ⟨ord, ho, hv⟩ := rot_general f hf R n? g h
  have hl : (f.vdims.getD []).length = 3 := by rcases hf.2 with h1 | ⟨_, hl⟩ <;> [omega; exact hl]
  have hp := ordFor_perm f ord ho h3 hl hdims hkey
  refine ⟨ord, ho, hp, ?_⟩
  intro idx a ha
  rw [hv idx, h3]
  exact rotVal_spatial R hp _ a ha

/-- **algebra of the cell-value rotation** (any permutation `ord`): the identity leaves values
alone, a product rotates twice (later factor on the left acts last), the transpose of a rotation
undoes it, and the Euclidean scalar product — hence the length of every vector — is preserved. -/
theorem cell_value_rotation_laws (ord : List Nat) (hp : PermOrd ord) (v w : List Rat) (hv : v.length = 3) (A B : M3) :
    rotVal 3 M3.one ord v = v ∧ rotVal 3 (A.mul B) ord v = rotVal 3 A ord (rotVal 3 B ord v) ∧
    (A.IsRot → rotVal 3 A.tr ord (rotVal 3 A ord v) = v) ∧
    (A.IsRot → (spatial ord (rotVal 3 A ord v)).dot (spatial ord (rotVal 3 A ord w)) = (spatial ord v).dot (spatial ord w)) ∧
    (spatial ord v).dot (spatial ord v) = v.getD 0 0 * v.getD 0 0 + v.getD 1 0 * v.getD 1 0 + v.getD 2 0 * v.getD 2 0 :=
  ⟨rotVal_one hp v hv, rotVal_mul A B hp v, fun hA => rotVal_inverse hA hp v hv, fun hA => rotVal_dot hA hp v w,
   spatial_normsq hp v⟩

/-- **rot_general, interior form.** If the back-rotated centre lies between the centres of
cells `k` and `k+1` on every axis, the interpolant is the eight-cell trilinear formula with
weights from the normalised offsets — "the linear interpolation of the original at that
position". -/
theorem rot_interpolates_cells (f : Fld) (hf : WF f) (R : M3) (n? : Option (List Nat)) (g : Fld)
    (h : rotateOnce f R n? = .ok g) (idx : List Nat) (k0 k1 k2 : Nat)
    (h0 : Between f.mesh 0 k0 (backPos f R g.mesh idx).x) (h1 : Between f.mesh 1 k1 (backPos f R g.mesh idx).y)
    (h2 : Between f.mesh 2 k2 (backPos f R g.mesh idx).z) :
    ∃ ord, ordFor f = .ok ord ∧
      g.data.get idx = rotVal f.nvdim R ord (tab f.nvdim fun c =>
        cellInterp f c k0 k1 k2
          (((backPos f R g.mesh idx).x - centreRel f.mesh 0 k0) / f.mesh.cellAt 0)
          (((backPos f R g.mesh idx).y - centreRel f.mesh 1 k1) / f.mesh.cellAt 1)
          (((backPos f R g.mesh idx).z - centreRel f.mesh 2 k2) / f.mesh.cellAt 2)) := by
  obtain ⟨ord, ho, hv⟩ := rot_general f hf R n? g h
  exact ⟨ord, ho, by rw [hv idx, origAt_br f hf.1 _ k0 k1 k2 (br_of_between _ _ _ _ h0) (br_of_between _ _ _ _ h1)
    (br_of_between _ _ _ _ h2)]⟩

example : Between exF.mesh 0 1 (backPos exF exR exNM [2, 2, 1]).x ∧ Between exF.mesh 1 1 (backPos exF exR exNM [2, 2, 1]).y ∧
    Between exF.mesh 2 1 (backPos exF exR exNM [2, 2, 1]).z := by unfold Between; decide +kernel

/-- a back-rotated centre at least one cell inside the original region (the property's
hypothesis) lies between two neighbouring cell centres on that axis -/
theorem one_cell_inside_between (m : Mesh) (a : Nat) (h : AxOk m a) (x : Rat)
    (h1 : m.region.lo a + m.cellAt a ≤ x + centreAt m a) (h2 : x + centreAt m a ≤ m.region.hi a - m.cellAt a) :
    ∃ k, Between m a k x :=
  between_of_deep m a h x (deep_of_one_cell_inside m a h x h1 h2)

/-- **the property's central sentence.** A cell whose back-rotated centre lies at least one
cell inside the original region (on every axis) carries `Q` applied to the linear
interpolation of the original between the eight cell centres that surround that position. -/
theorem rot_inside_value (f : Fld) (hf : WF f) (R : M3) (n? : Option (List Nat)) (g : Fld)
    (h : rotateOnce f R n? = .ok g) (idx : List Nat)
    (hin : ∀ a, a < 3 →
      f.mesh.region.lo a + f.mesh.cellAt a ≤ (backPos f R g.mesh idx).get a + centreAt f.mesh a ∧
      (backPos f R g.mesh idx).get a + centreAt f.mesh a ≤ f.mesh.region.hi a - f.mesh.cellAt a) :
    ∃ ord k0 k1 k2, ordFor f = .ok ord ∧
      Between f.mesh 0 k0 (backPos f R g.mesh idx).x ∧ Between f.mesh 1 k1 (backPos f R g.mesh idx).y ∧
      Between f.mesh 2 k2 (backPos f R g.mesh idx).z ∧
      g.data.get idx = rotVal f.nvdim R ord (tab f.nvdim fun c =>
        cellInterp f c k0 k1 k2
          (((backPos f R g.mesh idx).x - centreRel f.mesh 0 k0) / f.mesh.cellAt 0)
          (((backPos f R g.mesh idx).y - centreRel f.mesh 1 k1) / f.mesh.cellAt 1)
          (((backPos f R g.mesh idx).z - centreRel f.mesh 2 k2) / f.mesh.cellAt 2)) := by
  obtain ⟨k0, b0⟩ := one_cell_inside_between f.mesh 0 (hf.1 0 (by decide)) _ (hin 0 (by decide)).1 (hin 0 (by decide)).2
  obtain ⟨k1, b1⟩ := one_cell_inside_between f.mesh 1 (hf.1 1 (by decide)) _ (hin 1 (by decide)).1 (hin 1 (by decide)).2
  obtain ⟨k2, b2⟩ := one_cell_inside_between f.mesh 2 (hf.1 2 (by decide)) _ (hin 2 (by decide)).1 (hin 2 (by decide)).2
  obtain ⟨ord, ho, hv⟩ := rot_interpolates_cells f hf R n? g h idx k0 k1 k2 b0 b1 b2
  exact ⟨ord, k0, k1, k2, ho, b0, b1, b2, hv⟩

/-- instance: the hypothesis holds for the central target cell of the example -/
example : ∀ a, a < 3 →
    exF.mesh.region.lo a + exF.mesh.cellAt a ≤ (backPos exF exR exNM [2, 2, 1]).get a + centreAt exF.mesh a ∧
    (backPos exF exR exNM [2, 2, 1]).get a + centreAt exF.mesh a ≤ exF.mesh.region.hi a - exF.mesh.cellAt a := by
  decide +kernel

/-- **rot_linear_scalar** (and its vector form). If component `c` of the original data is an
affine function of position, the interpolant of that component at a back-rotated centre at
least half a cell inside is that affine function of the back-rotated position; for a scalar
field this is the stored value: linear scalar fields are reproduced exactly. -/
theorem rot_linear_scalar (f : Fld) (hf : WF f) (h1 : f.nvdim = 1) (α β0 β1 β2 : Rat)
    (hdata : ∀ i j k, i < f.mesh.nAt 0 → j < f.mesh.nAt 1 → k < f.mesh.nAt 2 →
      f.data.get [i, j, k] = [α + β0 * centreAbs f.mesh 0 i + β1 * centreAbs f.mesh 1 j + β2 * centreAbs f.mesh 2 k])
    (R : M3) (n? : Option (List Nat)) (g : Fld) (h : rotateOnce f R n? = .ok g) (idx : List Nat)
    (d0 : Deep f.mesh 0 (backPos f R g.mesh idx).x) (d1 : Deep f.mesh 1 (backPos f R g.mesh idx).y)
    (d2 : Deep f.mesh 2 (backPos f R g.mesh idx).z) :
    g.data.get idx = [α + β0 * ((backPos f R g.mesh idx).x + centreAt f.mesh 0)
      + β1 * ((backPos f R g.mesh idx).y + centreAt f.mesh 1) + β2 * ((backPos f R g.mesh idx).z + centreAt f.mesh 2)] := by
  obtain ⟨ord, _, hv⟩ := rot_general f hf R n? g h
  -- the only component is `c = 0`
  have hd : ∀ c, c < f.nvdim → ∀ i j k, i < f.mesh.nAt 0 → j < f.mesh.nAt 1 → k < f.mesh.nAt 2 → (f.data.get [i, j, k]).getD c 0
      = α + β0 * centreAbs f.mesh 0 i + β1 * centreAbs f.mesh 1 j + β2 * centreAbs f.mesh 2 k := by
    intro c hc i j k hi hj hk
    obtain rfl : c = 0 := by omega
    rw [hdata i j k hi hj hk]; rfl
  rw [hv idx, origAt_affine f hf.1 (fun _ => α) (fun _ => β0) (fun _ => β1) (fun _ => β2) hd _ d0 d1 d2]
  rw [rotVal_scalar h1, h1]
  rfl

/-- instance: `1 + 2x − 3y + 5z` rotated about z; the target cell at the common centre reads
`1 + 2·2 − 3·2 + 5·3/2 = 13/2` -/
example : (rotated exF exR [] exNM).data.get [2, 2, 1] = [13/2] := by
  have h := rot_linear_scalar exF exWF rfl 1 2 (-3) 5 (by intro i j k _ _ _; rfl) exR (some [5, 5, 3]) _ exRot [2, 2, 1]
    (by unfold Deep; decide +kernel) (by unfold Deep; decide +kernel) (by unfold Deep; decide +kernel)
  rw [h]
  decide +kernel

/-- affine vector fields: the stored vector is the rotation of the affine function's value at
the back-rotated position (same hypotheses per component) -/
theorem rot_affine_vector (f : Fld) (hf : WF f) (α β0 β1 β2 : Nat → Rat)
    (hdata : ∀ c, c < f.nvdim → ∀ i j k, i < f.mesh.nAt 0 → j < f.mesh.nAt 1 → k < f.mesh.nAt 2 →
      (f.data.get [i, j, k]).getD c 0
        = α c + β0 c * centreAbs f.mesh 0 i + β1 c * centreAbs f.mesh 1 j + β2 c * centreAbs f.mesh 2 k)
    (R : M3) (n? : Option (List Nat)) (g : Fld) (h : rotateOnce f R n? = .ok g) (idx : List Nat)
    (d0 : Deep f.mesh 0 (backPos f R g.mesh idx).x) (d1 : Deep f.mesh 1 (backPos f R g.mesh idx).y)
    (d2 : Deep f.mesh 2 (backPos f R g.mesh idx).z) :
    ∃ ord, ordFor f = .ok ord ∧
      g.data.get idx = rotVal f.nvdim R ord (tab f.nvdim fun c =>
        α c + β0 c * ((backPos f R g.mesh idx).x + centreAt f.mesh 0)
          + β1 c * ((backPos f R g.mesh idx).y + centreAt f.mesh 1) + β2 c * ((backPos f R g.mesh idx).z + centreAt f.mesh 2)) := by
  obtain ⟨ord, ho, hv⟩ := rot_general f hf R n? g h
  exact ⟨ord, ho, by rw [hv idx, origAt_affine f hf.1 α β0 β1 β2 hdata _ d0 d1 d2]⟩

/-- **rot_uniform.** A uniform field `v` becomes the uniform field `Q·v` (through the
permutation) at every target cell whose back-rotated centre passes the bounds test — in
particular everywhere at least one cell inside. -/
theorem rot_uniform (f : Fld) (hf : WF f) (v : List Rat) (hvl : v.length = f.nvdim)
    (hdata : ∀ i j k, i < f.mesh.nAt 0 → j < f.mesh.nAt 1 → k < f.mesh.nAt 2 → f.data.get [i, j, k] = v)
    (R : M3) (n? : Option (List Nat)) (g : Fld) (h : rotateOnce f R n? = .ok g) (idx : List Nat)
    (hin : InPad f (backPos f R g.mesh idx)) :
    ∃ ord, ordFor f = .ok ord ∧ g.data.get idx = rotVal f.nvdim R ord v := by
  obtain ⟨ord, ho, hv⟩ := rot_general f hf R n? g h
  exact ⟨ord, ho, by rw [hv idx, origAt_uniform f hf.1 v hvl hdata _ hin]⟩

/-- instance: the uniform field `(7, −2, 3)` with labels mapped to `(y, x, z)` becomes `Q·v`
read through the same permutation -/
example : (rotated exV exR [1, 0, 2] exNM).data.get [2, 2, 1] = [13/5, -34/5, 3] := by
  obtain ⟨ord, ho, h⟩ := rot_uniform exV exWFV [7, -2, 3] rfl (by intro i j k _ _ _; rfl) exR (some [5, 5, 3]) _ exRotV [2, 2, 1]
    (by unfold InPad; decide +kernel)
  obtain rfl : [1, 0, 2] = ord := Except.ok.inj (exOrdV.symm.trans ho)
  rw [h]
  decide +kernel

/-- **rot_outside_zero.** A target cell whose back-rotated centre lies outside the original
region (by more than the `1e-9`-cell padding, on some axis) stores zero in every component. -/
theorem rot_outside_zero (f : Fld) (R : M3) (n? : Option (List Nat)) (g : Fld)
    (h : rotateOnce f R n? = .ok g) (idx : List Nat) (a : Nat) (ha : a < 3)
    (hout : (backPos f R g.mesh idx).get a + centreAt f.mesh a < f.mesh.region.lo a - f.mesh.cellAt a * tolI ∨
            f.mesh.region.hi a + f.mesh.cellAt a * tolI < (backPos f R g.mesh idx).get a + centreAt f.mesh a) :
    g.data.get idx = tab f.nvdim fun _ => 0 := by
  obtain ⟨_, _, _, ord, _, rfl⟩ := (rotateOnce_ok_iff f R n? g).mp h
  exact valuesAt_outside f R ord _ (outside_not_inPad f _ a ha hout)

/-- instance: the corner cell of the bounding box looks back at a point outside the original -/
example : (backPos exF exR exNM [0, 0, 0]).get 0 + centreAt exF.mesh 0 < exF.mesh.region.lo 0 - exF.mesh.cellAt 0 * tolI := by
  decide +kernel
example : (rotated exF exR [] exNM).data.get [0, 0, 0] = [0] :=
  rot_outside_zero exF exR (some [5, 5, 3]) _ exRot [0, 0, 0] 0 (by decide) (Or.inl (by decide +kernel))

/-- geometry and metadata of the stored field: bounding-box region, the requested cell
counts, everything valid, component count / labels / mapping of the original, no unit -/
theorem rot_metadata (f : Fld) (R : M3) (n : List Nat) (g : Fld) (h : rotateOnce f R (some n) = .ok g) :
    newRegion f R = .ok g.mesh.region ∧ g.mesh.n = n ∧ g.mesh.subs = [] ∧ g.data.shape = n ∧ g.valid.get = (fun _ => true) ∧
    g.nvdim = f.nvdim ∧ g.vdims = f.vdims ∧ g.vmap = f.vmap ∧ g.unit = none := by
  obtain ⟨hb, _, _, ord, _, rfl⟩ := (rotateOnce_ok_iff f R _ g).mp h
  exact ⟨newRegion_ok_of f R hb, rfl, rfl, rfl, rfl, rfl, rfl, rfl, rfl⟩

/-- **automatic cell counts.** Without `n` the stored field has the counts of
`_calculate_new_n` — the rounded cube roots of `E_i³·Πl / (l_i³·dV)` — and for every proper
rotation of a well-formed field each of them is at least one (the rounded quantity is ≥ 1: the
bounding box of the rotated cell is at least as large as the cell), so the `Mesh` constructor
cannot refuse them. -/
theorem rot_metadata_auto (f : Fld) (hm : Mesh3 f.mesh) (R : M3) (hR : R.IsRot) (g : Fld) (h : rotateOnce f R none = .ok g) :
    newRegion f R = .ok g.mesh.region ∧ g.mesh.n = autoN f R g.mesh.region ∧
    (∀ i, i < 3 → g.mesh.nAt i = roundCbrt (autoX3 f R g.mesh.region i) ∧ 1 ≤ autoX3 f R g.mesh.region i ∧ 1 ≤ g.mesh.nAt i) ∧
    g.valid.get = (fun _ => true) ∧ g.nvdim = f.nvdim ∧ g.vdims = f.vdims ∧ g.vmap = f.vmap ∧ g.unit = none := by
  obtain ⟨hb, _, _, ord, _, rfl⟩ := (rotateOnce_ok_iff f R none g).mp h
  refine ⟨newRegion_ok_of f R hb, rfl, fun i hi => ?_, rfl, rfl, rfl, rfl, rfl⟩
  have hx := autoX3_ge_one f hm hR i hi
  have hni : (boxMesh f R none).nAt i = roundCbrt (autoX3 f R (boxRegion f R) i) := getD_tab _ _ _ _ hi
  exact ⟨hni, hx, hni ▸ Nat.pos_of_ne_zero (roundCbrt_pos _ hx)⟩

example : isOk (rotateOnce exF exR none) = true :=
  isOk_rotateOnce exF exWF.1 (M3.ofQuat_isRot 2 0 0 1 (by norm_num)) [] rfl none (fun _ e => by cases e)

/-! ## quarter turns and the other lattice rotations coincide with the lattice rotation of C12 -/

/-- **quarter-turn matrices.** For every coordinate plane `(p, q)` and all integers `k`, `l`:
`Rq p q k` is a proper rotation; turning by `k` and then by `l` is `Rq p q (k + l)` (the later
turn multiplies from the left); only `k mod 4` matters; a multiple of four turns is the
identity; the reverse turn is the transpose. -/
theorem quarter_matrix_laws (p q : Nat) (hp : p < 3) (hq : q < 3) (hpq : p ≠ q) (k l : Int) :
    (Rq p q k).IsRot ∧ (Rq p q l).mul (Rq p q k) = Rq p q (k + l) ∧ Rq p q (k % 4) = Rq p q k ∧
    (k % 4 = 0 → Rq p q k = M3.one) ∧ Rq p q (-k) = (Rq p q k).tr :=
  ⟨Rq_isRot p q k hp hq hpq, Rq_mul p q hp hq hpq k l, Rq_mod4 p q k, Rq_four p q hp hq hpq k, Rq_neg p q hp hq hpq k⟩

/-- the quarter turn about the third axis, as a matrix -/
example : Rq 0 1 1 = Rz := by decide +kernel

/-- **C12's corner map is this matrix.** `Region.rotate90`'s coordinate map (`T.rotCoord`, model of
C12) about any reference point is `ref + Rq p q k · (P − ref)`. -/
theorem rotCoord_is_matrix_action (P ref : List Rat) (p q : Nat) (k : Int) (hp : p < 3) (hq : q < 3) (hpq : p ≠ q)
    (a : Nat) (ha : a < 3) :
    T.rotCoord P ref p q k a = ref.getD a 0 + ((Rq p q k).apply ((V3.ofList P).sub (V3.ofList ref))).get a :=
  rotCoord_eq_apply P ref p q k hp hq hpq a ha

/-- **all lattice rotations copy cells** (the 24 proper ones and their mirror images). If `R`
is a signed permutation matrix `e_j ↦ s_j e_{π j}` and `n` is left to the code or given as the
permuted cell counts, then — for ANY cell sizes — the automatic counts are the permuted counts,
the region is the original one with permuted edge lengths about the same centre, and every
target cell stores the rotated value of exactly one source cell: index `idx_{π j}` on axis `j`,
counted from the far end where `s_j = −1`. No interpolation error, no zero fill. -/
theorem rot_lattice_copies_cells (f : Fld) (hf : WF f) (hlen : ∀ idx, (f.data.get idx).length = f.nvdim)
    {R : M3} {π : Nat → Nat} {s : Nat → Rat} (hL : IsLat R π s) (n? : Option (List Nat))
    (hn : n? = none ∨ n? = some (tab 3 fun i => f.mesh.nAt (pinv π i))) (g : Fld) (h : rotateOnce f R n? = .ok g) :
    g.mesh.n = (tab 3 fun i => f.mesh.nAt (pinv π i)) ∧
    (∀ i, i < 3 → g.mesh.region.lo i = centreAt f.mesh i - f.mesh.region.edge (pinv π i) / 2 ∧
                  g.mesh.region.hi i = centreAt f.mesh i + f.mesh.region.edge (pinv π i) / 2) ∧
    ∃ ord, ordFor f = .ok ord ∧ ∀ idx, (∀ i, i < 3 → idx.getD i 0 < f.mesh.nAt (pinv π i)) →
      g.data.get idx = rotVal f.nvdim R ord
        (f.data.get [latSrc f.mesh.nAt π s idx 0, latSrc f.mesh.nAt π s idx 1, latSrc f.mesh.nAt π s idx 2]) :=
  lat_copies f hf hlen hL n? hn g h

/-- **rot_quarter_is_rot90** — every coordinate plane, every integer `k`, any cell sizes, `n`
automatic or given as the turned counts. The cell counts are C12's `rotN`, the region corners
are the ones `Region.rotate90` computes about the centre (`min`/`max` of the turned corners),
and the value stored at `[i, j, l]` is the quarter-turned vector of the cell that
`np.rot90(array, k, axes=(p, q))` — the array map of C12's `Field.rotate90` — puts there. -/
theorem rot_quarter_is_rot90 (f : Fld) (hf : WF f) (hs : f.data.shape = f.mesh.n) (hn3 : f.mesh.n.length = 3)
    (hnd : f.mesh.region.ndim = 3) (hlen : ∀ idx, (f.data.get idx).length = f.nvdim)
    (p q : Nat) (k : Int) (hp : p < 3) (hq : q < 3) (hpq : p ≠ q) (n? : Option (List Nat))
    (hn : n? = none ∨ n? = some (T.rotN f.mesh.n p q k)) (g : Fld) (h : rotateOnce f (Rq p q k) n? = .ok g) :
    g.mesh.n = T.rotN f.mesh.n p q k ∧
    (∀ a, a < 3 →
      g.mesh.region.lo a = min (T.rotCoord f.mesh.region.pmin f.mesh.region.center p q k a)
                               (T.rotCoord f.mesh.region.pmax f.mesh.region.center p q k a) ∧
      g.mesh.region.hi a = max (T.rotCoord f.mesh.region.pmin f.mesh.region.center p q k a)
                               (T.rotCoord f.mesh.region.pmax f.mesh.region.center p q k a)) ∧
    ∃ ord, ordFor f = .ok ord ∧
      ∀ i j l, i < (T.rotN f.mesh.n p q k).getD 0 0 → j < (T.rotN f.mesh.n p q k).getD 1 0 → l < (T.rotN f.mesh.n p q k).getD 2 0 →
        g.data.get [i, j, l] = rotVal f.nvdim (Rq p q k) ord ((T.rot90 f.data p q k).get [i, j, l]) := by
  have hL := Rq_isLat p q k hp hq hpq
  have hnt : T.rotN f.mesh.n p q k = tab 3 fun i => f.mesh.nAt (pinv (T.rotSrc p q k) i) := rotN_eq_tab f.mesh.n hn3 p q k hp hq hpq
  rw [hnt] at hn ⊢
  obtain ⟨c1, _, ord, ho, hv⟩ := rot_lattice_copies_cells f hf hlen hL n? hn g h
  refine ⟨c1, ?_, ord, ho, ?_⟩
  · intro a ha
    obtain ⟨hb, _, _, _, _, rfl⟩ := (rotateOnce_ok_iff f _ n? g).mp h
    exact quarter_region_c12 f hf.1 hnd p q k hp hq hpq _ (newRegion_ok_of f _ hb) a ha
  · intro i j l hi hj hl
    rw [getD_tab _ _ _ _ (by omega)] at hi hj hl
    have hidx : ∀ a, a < 3 → [i, j, l].getD a 0 < f.mesh.nAt (pinv (T.rotSrc p q k) a) :=
      getD3_lt i j l (fun a => f.mesh.nAt (pinv (T.rotSrc p q k) a)) hi hj hl
    rw [hv _ hidx, T.rot90_get, hs]
    have hsrc : [latSrc f.mesh.nAt (T.rotSrc p q k) (sgq p q k) [i, j, l] 0, latSrc f.mesh.nAt (T.rotSrc p q k) (sgq p q k) [i, j, l] 1,
        latSrc f.mesh.nAt (T.rotSrc p q k) (sgq p q k) [i, j, l] 2] = T.srcIdx f.mesh.n p q k [i, j, l] :=
      latSrc_eq_srcIdx f.mesh.n hn3 p q k hp hq hpq [i, j, l] rfl
    rw [hsrc]

/-- … and for a 3-vector field whose components are mapped one-to-one to the axes (`ord` any
of the six permutations, cyclic ones included) the rotation of a cell value by the quarter turn
`Rq p q k` is C12's `rotVec` with the same `k` on the two components mapped to the plane. -/
theorem quarter_vector_is_rotVec (p q : Nat) (k : Int) (hp : p < 3) (hq : q < 3) (hpq : p ≠ q)
    (ord : List Nat) (hperm : PermOrd ord) (v : List Rat) (hv : v.length = 3) :
    rotVal 3 (Rq p q k) ord v = T.rotVec v (ord.getD p 0) (ord.getD q 0) k :=
  rotVal_Rq p q k hp hq hpq hperm v hv

/-- **object level: FieldRotator's quarter turn IS C12's `Field.rotate90`.** Whenever the model
of `Field.rotate90(ax1, ax2, k)` (C12; about the centre, copying form) accepts a well-formed field
with a complete one-to-one mapping, `rotate` with the quarter-turn matrix of that plane — with
the turned cell counts or the automatic ones — is accepted too and produces the same region
corners, the same cell counts and the same value in every cell (validity, names and units are
NOT the same: the rotator starts a fresh all-valid field with default names — `rot_metadata`). -/
theorem rot_quarter_matches_rotate90 (f : Fld) (hf : WF f) (hF : T.FldInv f) (hnd : f.mesh.region.ndim = 3)
    (hlen : ∀ idx, (f.data.get idx).length = f.nvdim) (ord : List Nat) (ho : ordFor f = .ok ord)
    (hkey : ∀ x ∈ f.vmap, ∀ y ∈ f.vmap, x.1 = y.1 → x = y) (hval : ∀ x ∈ f.vmap, ∀ y ∈ f.vmap, x.2 = y.2 → x = y)
    (a1 a2 : String) (k : Int) (x g' : Fld) (h' : T.rotate90F f a1 a2 k none false = .ok (x, g')) :
    ∃ p q g, p < 3 ∧ q < 3 ∧ p ≠ q ∧ f.mesh.region.dim2index a1 = .ok p ∧ f.mesh.region.dim2index a2 = .ok q ∧
      rotateOnce f (Rq p q k) (some g'.mesh.n) = .ok g ∧ rotateOnce f (Rq p q k) none = .ok g ∧
      (∀ a, a < 3 → g.mesh.region.lo a = g'.mesh.region.lo a ∧ g.mesh.region.hi a = g'.mesh.region.hi a) ∧
      g.mesh.n = g'.mesh.n ∧
      ∀ i0 i1 i2, i0 < g'.mesh.nAt 0 → i1 < g'.mesh.nAt 1 → i2 < g'.mesh.nAt 2 →
        g.data.get [i0, i1, i2] = g'.data.get [i0, i1, i2] :=
  quarter_matches_rotate90F f hf hF hnd hlen ord ho hkey hval a1 a2 k x g' h'

/-- non-vacuity: the example fields (anisotropic: 4×4×3 cells) are quarter-turned in all three
planes, also with negative `k` and automatic `n`; C12's `Field.rotate90` accepts them; the vector
example's mapping `p ↦ y, q ↦ x, r ↦ z` is one-to-one and its `ordered_idx` is a permutation -/
example : isOk (rotateOnce exF (Rq 1 2 (-1)) none) = true ∧ isOk (rotateOnce exV (Rq 2 0 7) (some (T.rotN exV.mesh.n 2 0 7))) = true ∧
    isOk (rotateOnce exV (Rq 0 1 2) none) = true :=
  ⟨isOk_rotateOnce exF exWF.1 (Rq_isRot 1 2 (-1) (by omega) (by omega) (by omega)) [] rfl none (fun _ e => by cases e),
   isOk_rotateOnce exV exWFV.1 (Rq_isRot 2 0 7 (by omega) (by omega) (by omega)) _ exOrdV _
     (fun n e => by injection e with e; subst e; decide),
   isOk_rotateOnce exV exWFV.1 (Rq_isRot 0 1 2 (by decide) (by omega) (by omega)) _ exOrdV none (fun _ e => by cases e)⟩
example : isOk (T.rotate90F exV "z" "x" 3 none false) = true ∧ isOk (T.rotate90F exF "y" "z" (-1) none false) = true := by
  decide +kernel
example : T.FldInv exV ∧ exV.mesh.region.ndim = 3 ∧ PermOrd [1, 0, 2] ∧ PermOrd [1, 2, 0] := by
  unfold T.FldInv Mesh.Inv Region.Inv PermOrd; decide +kernel
example : (∀ x ∈ exV.vmap, ∀ y ∈ exV.vmap, x.1 = y.1 → x = y) ∧ (∀ x ∈ exV.vmap, ∀ y ∈ exV.vmap, x.2 = y.2 → x = y) := by
  decide +kernel
/-- the rotation about the body diagonal `(x, y, z) ↦ (z, x, y)` is a lattice rotation that is
not a quarter turn -/
example : IsLat (M3.ofQuat 1 1 1 1) (fun j => (j + 1) % 3) (fun _ => 1) := by
  refine ⟨fun j _ => Nat.mod_lt _ (by omega), fun i j hi hj e => by omega, fun _ _ => Or.inl rfl, ?_⟩
  intro i j hi hj
  rcases a_cases i hi with e1 | e1 | e1 <;> rcases a_cases j hj with e2 | e2 | e2 <;> subst e1 <;> subst e2 <;> decide +kernel

/-! ## the state machine: composition, clear -/

/-- **accumulated rotation.** After ANY history of `rotate` / `clear_rotation` calls (failed
calls included) the accumulated rotation is the ordered matrix product — later rotations on
the left — of the rotations issued since the last clear, and the original field is untouched. -/
theorem accumulated_rotation (f : Fld) (s0 : Rotator) (h0 : init? f = .ok s0) (ops : List Op) :
    (run s0 ops).rot = prodL (seg [] ops) ∧ (run s0 ops).orig = f := by
  have hs := ((init?_ok_iff f s0).mp h0).2
  subst hs
  exact ⟨run_rot _ [] rfl ops, run_orig _ ops⟩

/-- **rot_compose.** `rotate Q₁; rotate Q₂` gives the same accumulated rotation, the same
success/failure and (on success) the same field as the single call `rotate (Q₂·Q₁)` with the
same `n` — whatever the first call's `n` was and whether or not it succeeded: the second
rotation restarts from the original field. -/
theorem rot_compose (s : Rotator) (Q1 Q2 : M3) (n1 n : Option (List Nat)) :
    (step (step s (.rotate Q1 n1)).1 (.rotate Q2 n)).1.rot = (step s (.rotate (Q2.mul Q1) n)).1.rot ∧
    (step (step s (.rotate Q1 n1)).1 (.rotate Q2 n)).2 = (step s (.rotate (Q2.mul Q1) n)).2 ∧
    ((step s (.rotate (Q2.mul Q1) n)).2 = none →
      (step (step s (.rotate Q1 n1)).1 (.rotate Q2 n)).1.cur = (step s (.rotate (Q2.mul Q1) n)).1.cur) :=
  step_rotate_congr (step s (.rotate Q1 n1)).1 s Q2 (Q2.mul Q1) n (step_orig s _) (by rw [step_rotate_rot, M3.mul_assoc])

/-- **history = single rotation.** After any history `ops`, a further `rotate Q n` leaves the
rotator in the state a FRESH rotator reaches by the single rotation with the ordered product
`Q · (Q_k ⋯ Q_1)` of the rotations since the last clear, applied to the original field: same
accumulated matrix, same field on success; on failure the current field is kept. -/
theorem history_eq_single (f : Fld) (s0 : Rotator) (h0 : init? f = .ok s0) (ops : List Op) (Q : M3)
    (n? : Option (List Nat)) :
    (run s0 (ops ++ [.rotate Q n?])).rot = Q.mul (prodL (seg [] ops)) ∧
    (∀ g, rotateOnce f (Q.mul (prodL (seg [] ops))) n? = .ok g → (run s0 (ops ++ [.rotate Q n?])).cur = g) ∧
    (∀ e, rotateOnce f (Q.mul (prodL (seg [] ops))) n? = .error e →
      (run s0 (ops ++ [.rotate Q n?])).cur = (run s0 ops).cur) := by
  obtain ⟨hr, ho⟩ := accumulated_rotation f s0 h0 ops
  rw [run_snoc]
  refine ⟨by rw [step_rotate_rot, hr], ?_, ?_⟩
  · intro g hg
    rw [step_rotate_ok _ Q n? g (by rw [ho, hr]; exact hg)]
  · intro e he
    rw [step_rotate_err _ Q n? e (by rw [ho, hr]; exact he)]

/-- **rot_clear.** `clear_rotation` after any history restores the original field and the
identity rotation; a fresh rotator shows the original field. -/
theorem rot_clear (f : Fld) (s0 : Rotator) (h0 : init? f = .ok s0) (ops : List Op) :
    s0.cur = f ∧ (run s0 (ops ++ [.clear])).cur = f ∧ (run s0 (ops ++ [.clear])).rot = M3.one := by
  obtain ⟨_, ho⟩ := accumulated_rotation f s0 h0 ops
  have hs := ((init?_ok_iff f s0).mp h0).2
  rw [run_snoc]
  exact ⟨by rw [hs], ho, rfl⟩

/-- the accumulated matrix stays a proper rotation along any history of proper rotations -/
theorem accumulated_is_rotation (s : Rotator) (hs : s.rot.IsRot) (ops : List Op)
    (hops : ∀ Q n, Op.rotate Q n ∈ ops → Q.IsRot) : (run s ops).rot.IsRot := by
  -- start the product formula from the one-element segment `[s.rot]`
  rw [run_rot s [s.rot] (M3.one_mul _).symm ops]
  exact prodL_isRot _ (seg_mem [s.rot] ops M3.IsRot (fun Q h => List.mem_singleton.mp h ▸ hs) hops)

/-- instance: rotate, clear, rotate twice — the accumulated matrix is the product of the last two -/
example : ∃ s0, init? exF = .ok s0 ∧
    (run s0 [.rotate exR2 none, .clear, .rotate exR2 (some [3, 3, 3]), .rotate exR none]).rot = exR.mul exR2 := by
  obtain ⟨s0, h0⟩ := isOk_sound (init? exF) (by decide +kernel)
  refine ⟨s0, h0, ?_⟩
  rw [(accumulated_rotation exF s0 h0 _).1]
  decide +kernel

/-- **the accumulated rotation acts in call order.** The ordered product of the rotations
issued since the last clear maps a vector as the rotations do one after the other, first call
first; its inverse (used to resample the positions) undoes them last call first; and it is a
proper rotation whenever every factor is. -/
theorem accumulated_acts_in_call_order (Qs : List M3) (v : V3) :
    (prodL Qs).apply v = Qs.foldl (fun u Q => Q.apply u) v ∧
    (prodL Qs).tr.apply v = Qs.foldr (fun Q u => Q.tr.apply u) v ∧
    ((∀ Q ∈ Qs, Q.IsRot) → (prodL Qs).IsRot) :=
  ⟨prodL_apply Qs v, prodL_tr_apply Qs v, prodL_isRot Qs⟩

/-- **values after any history.** After ANY history `ops` (rotations, clears, refused calls)
followed by a successful `rotate Q n`, the current field is the single rotation of the ORIGINAL
field by the ordered product `Q·Q_k⋯Q_1` of the rotations since the last clear: every cell holds
that product applied (through the component permutation) to the multilinear interpolant of the
original at the cell centre taken back through `Q_1ᵀ(Q_2ᵀ(⋯Qᵀ(c − c₀)))` — no accumulation of
interpolation error, for any number of calls. -/
theorem history_values (f : Fld) (hf : WF f) (s0 : Rotator) (h0 : init? f = .ok s0) (ops : List Op) (Q : M3)
    (n? : Option (List Nat)) (g : Fld) (hg : rotateOnce f (Q.mul (prodL (seg [] ops))) n? = .ok g) :
    (run s0 (ops ++ [.rotate Q n?])).cur = g ∧ (run s0 (ops ++ [.rotate Q n?])).rot = prodL (seg [] ops ++ [Q]) ∧
    ∃ ord, ordFor f = .ok ord ∧ ∀ idx,
      g.data.get idx = rotVal f.nvdim (prodL (seg [] ops ++ [Q])) ord
        (origAt f (backPos f (prodL (seg [] ops ++ [Q])) g.mesh idx)) ∧
      backPos f (prodL (seg [] ops ++ [Q])) g.mesh idx
        = (seg [] ops ++ [Q]).foldr (fun A u => A.tr.apply u) ((V3.ofList (g.mesh.centre idx)).sub (centreV f.mesh)) := by
  obtain ⟨hr, hok, _⟩ := history_eq_single f s0 h0 ops Q n?
  rw [prodL_append]
  obtain ⟨ord, ho, hv⟩ := rot_general f hf _ n? g hg
  refine ⟨hok g hg, hr, ord, ho, fun idx => ⟨hv idx, ?_⟩⟩
  rw [← prodL_append]
  unfold backPos
  exact prodL_tr_apply _ _

/-- **any history of lattice rotations copies cells of the original.** Signed permutation
matrices are closed under products (`IsLat.mul`), every quarter turn `Rq p q k` is one
(`LatM.rq`): so after ANY history of quarter turns in any planes (clears and refused calls
interspersed) a further quarter turn with automatic `n` leaves a field whose accumulated
matrix is again a signed permutation `(π, s)`, whose cell counts are the original ones permuted
by `π`, and in which every cell holds the rotated value of exactly one cell of the ORIGINAL
field — no interpolation, for any number of calls and any cell sizes. -/
theorem lattice_history_copies_cells (f : Fld) (hf : WF f) (hlen : ∀ idx, (f.data.get idx).length = f.nvdim)
    (s0 : Rotator) (h0 : init? f = .ok s0) (ops : List Op) (hops : ∀ Q n, Op.rotate Q n ∈ ops → LatM Q)
    (Q : M3) (hQ : LatM Q) (g : Fld) (hg : rotateOnce f (Q.mul (prodL (seg [] ops))) none = .ok g) :
    (run s0 (ops ++ [.rotate Q none])).cur = g ∧
    ∃ π s, IsLat (Q.mul (prodL (seg [] ops))) π s ∧ g.mesh.n = (tab 3 fun i => f.mesh.nAt (pinv π i)) ∧
      ∃ ord, ordFor f = .ok ord ∧ ∀ idx, (∀ i, i < 3 → idx.getD i 0 < f.mesh.nAt (pinv π i)) →
        g.data.get idx = rotVal f.nvdim (Q.mul (prodL (seg [] ops))) ord
          (f.data.get [latSrc f.mesh.nAt π s idx 0, latSrc f.mesh.nAt π s idx 1, latSrc f.mesh.nAt π s idx 2]) := by
  obtain ⟨_, hok, _⟩ := history_eq_single f s0 h0 ops Q none
  have hP : LatM (prodL (seg [] ops)) := LatM.prodL _ (seg_mem [] ops LatM (fun _ h => by cases h) hops)
  obtain ⟨π, s, hL⟩ := hQ.mul hP
  obtain ⟨c1, _, ord, ho, hv⟩ := rot_lattice_copies_cells f hf hlen hL none (Or.inl rfl) g hg
  exact ⟨hok g hg, π, s, hL, c1, ord, ho, hv⟩

example : LatM (Rq 0 1 1) ∧ LatM (Rq 1 2 (-3)) ∧ LatM ((Rq 2 0 5).mul (Rq 0 1 1)) :=
  ⟨LatM.rq 0 1 1 (by decide) (by omega) (by omega), LatM.rq 1 2 (-3) (by omega) (by omega) (by omega),
   (LatM.rq 2 0 5 (by omega) (by omega) (by omega)).mul (LatM.rq 0 1 1 (by decide) (by omega) (by omega))⟩

/-- **a rotation that is undone restores the original.** If after any history the next rotation
brings the accumulated product back to the identity (for instance `rotate Q; rotate Qᵀ`), then
— with the original cell counts or the automatic ones — the current field has the original
region corners and cell counts and the ORIGINAL value in every cell, exactly. -/
theorem rotation_undone_restores (f : Fld) (hf : WF f) (hlen : ∀ idx, (f.data.get idx).length = f.nvdim)
    (hperm : f.nvdim = 3 → ∀ ord, ordFor f = .ok ord → PermOrd ord)
    (s0 : Rotator) (h0 : init? f = .ok s0) (ops : List Op) (Q : M3) (hQ : Q.mul (prodL (seg [] ops)) = M3.one)
    (n? : Option (List Nat)) (hn : n? = none ∨ n? = some [f.mesh.nAt 0, f.mesh.nAt 1, f.mesh.nAt 2])
    (g : Fld) (hg : rotateOnce f M3.one n? = .ok g) :
    (run s0 (ops ++ [.rotate Q n?])).rot = M3.one ∧ (run s0 (ops ++ [.rotate Q n?])).cur = g ∧
    (∀ a, a < 3 → g.mesh.region.lo a = f.mesh.region.lo a ∧ g.mesh.region.hi a = f.mesh.region.hi a ∧
                  g.mesh.nAt a = f.mesh.nAt a) ∧
    ∀ i j k, i < f.mesh.nAt 0 → j < f.mesh.nAt 1 → k < f.mesh.nAt 2 → g.data.get [i, j, k] = f.data.get [i, j, k] := by
  obtain ⟨hr, hok, _⟩ := history_eq_single f s0 h0 ops Q n?
  rw [hQ] at hr hok
  have hn' : n? = none ∨ n? = some (tab 3 fun i => f.mesh.nAt (pinv (fun j => j) i)) := hn
  obtain ⟨c1, c2, ord, ho, hv⟩ := rot_lattice_copies_cells f hf hlen one_isLat n? hn' g hg
  refine ⟨hr, hok g hg, ?_, ?_⟩
  · intro a ha
    obtain ⟨l1, l2⟩ := c2 a ha
    rw [pinv_id a ha] at l1 l2
    refine ⟨l1.trans (lo_eq_centre f.mesh a).symm, l2.trans (hi_eq_centre f.mesh a).symm, ?_⟩
    unfold Mesh.nAt at *
    rw [c1, getD_tab _ _ _ _ ha, pinv_id a ha]
  · intro i j k hi hj hk
    have hidx : ∀ a, a < 3 → [i, j, k].getD a 0 < f.mesh.nAt (pinv (fun j => j) a) := getD3_lt i j k _ hi hj hk
    rw [hv _ hidx, latSrc_id]
    rcases hf.2 with h1 | ⟨h3, _⟩
    · rw [rotVal_scalar h1]
    · rw [h3]
      exact rotVal_one (hperm h3 ord ho) _ (by rw [hlen, h3])

/-- `rotate Q; rotate Qᵀ`: the instance of `rotation_undone_restores` the property names -/
theorem rotate_then_inverse (Q : M3) (hQ : Q.IsRot) (n1 : Option (List Nat)) :
    Q.tr.mul (prodL (seg [] [.rotate Q n1])) = M3.one := by
  show Q.tr.mul (M3.one.mul Q) = M3.one
  rw [M3.one_mul]; exact hQ.1

example : isOk (rotateOnce exF M3.one none) = true ∧ isOk (rotateOnce exV M3.one (some [4, 4, 3])) = true ∧
    exR.tr.mul (prodL (seg [] [.rotate exR none])) = M3.one :=
  ⟨isOk_rotateOnce exF exWF.1 M3.isRot_one [] rfl none (fun _ e => by cases e),
   isOk_rotateOnce exV exWFV.1 M3.isRot_one _ exOrdV _ (fun n e => by injection e with e; subst e; decide),
   rotate_then_inverse exR (M3.ofQuat_isRot 2 0 0 1 (by norm_num)) none⟩

/-- **unknown method names are refused without a trace**: the call fails, nothing changes, and
any history reaches the same state as the history with those calls removed. -/
theorem unknown_method_refused (s : Rotator) (ops : List Op) :
    step s .unknown = (s, some .value) ∧ run s (ops.filter fun o => !o.isUnknown) = run s ops :=
  ⟨rfl, run_skip_unknown s ops⟩

/-! ## acceptance: well-formed calls are never refused -/

/-- **constructor.** Scalar and 3-vector fields on 3-d meshes whose labels are all mapped to
axes are accepted, with the identity rotation and the original field as state. -/
theorem constructor_accepts (f : Fld) (hv : f.nvdim = 1 ∨ f.nvdim = 3) (hnd : f.mesh.region.ndim = 3)
    (hmap : f.nvdim = 3 → ∀ v ∈ f.vdims.getD [], ∃ d, Fld.lookup f.vmap v = some d ∧ f.mesh.region.dims.contains d = true) :
    init? f = .ok ⟨f, M3.one, f⟩ :=
  init_accepts f ⟨hv, hnd, hmap⟩

/-- **complete mappings give a component order**: if every spatial axis is the image of some
mapped label and every mapped label is a component label, `ordered_idx` exists (scalar fields
need nothing). Together with `unmapped_axis_refused` this is exact. -/
theorem complete_mapping_accepted (f : Fld)
    (hsur : ∀ a, a < 3 → ∃ p ∈ f.vmap, p.2 = f.mesh.region.dims.getD a "")
    (hkeys : ∀ p ∈ f.vmap, ∃ k, f.vdimIndex p.1 = some k) : ∃ ord, ordFor f = .ok ord :=
  (ordFor_ok_iff f).mpr (Or.inr fun a ha => (ordAt_some_iff f hkeys a).mpr (hsur a ha))

/-- **`rotate` is never refused on well-formed input.** For a well-formed field with a component
order, after ANY history of proper rotations / clears / refused calls, a further proper rotation
with no `n` or with three positive counts succeeds, and the new field has the requested (or
automatic) counts on the bounding box. -/
theorem rotate_accepted (f : Fld) (hm : Mesh3 f.mesh) (ord : List Nat) (ho : ordFor f = .ok ord)
    (s0 : Rotator) (h0 : init? f = .ok s0) (ops : List Op) (hops : ∀ Q n, Op.rotate Q n ∈ ops → Q.IsRot)
    (Q : M3) (hQ : Q.IsRot) (n? : Option (List Nat)) (hn : ∀ n, n? = some n → n.length = 3 ∧ ∀ k ∈ n, k ≠ 0) :
    (step (run s0 ops) (.rotate Q n?)).2 = none ∧
    newRegion f (Q.mul (prodL (seg [] ops))) = .ok (step (run s0 ops) (.rotate Q n?)).1.cur.mesh.region ∧
    (step (run s0 ops) (.rotate Q n?)).1.cur.mesh.n
      = n?.getD (autoN f (Q.mul (prodL (seg [] ops))) (boxRegion f (Q.mul (prodL (seg [] ops))))) := by
  obtain ⟨hor, hr, hrot⟩ := run_fresh f s0 h0 ops hops
  have hR : (Q.mul (prodL (seg [] ops))).IsRot := by rw [← hr]; exact hQ.mul hrot
  have hacc := rotateOnce_accepts f hm hR ord ho n? hn
  have hstep := step_rotate_ok (run s0 ops) Q n? _ (by rw [hor, hr]; exact hacc)
  rw [hstep]
  exact ⟨rfl, newRegion_accepts f hm hR, rfl⟩

example : ∃ s0, init? exV = .ok s0 ∧ ordFor exV = .ok [1, 0, 2] ∧ exR.IsRot ∧ exR2.IsRot :=
  ⟨_, constructor_accepts exV (Or.inr rfl) rfl (by decide +kernel), exOrdV, by decide +kernel, by decide +kernel⟩

/-! ## refusals -/

/-- **rot_refusals.** The constructor refuses fields that are neither scalar nor 3-vector,
meshes that are not three-dimensional, and vector fields with a component label that has no
spatial axis (missing from the mapping, or mapped to something that is not an axis). -/
theorem rot_refusals (f : Fld) :
    (f.nvdim ≠ 1 → f.nvdim ≠ 3 → init? f = .error .value) ∧
    (f.mesh.region.ndim ≠ 3 → init? f = .error .value) ∧
    (f.nvdim = 3 → ∀ v, v ∈ f.vdims.getD [] →
      (Fld.lookup f.vmap v = none ∨ ∃ d, Fld.lookup f.vmap v = some d ∧ f.mesh.region.dims.contains d = false) →
      init? f = .error .value) :=
  ⟨fun h1 h3 => init_refuses f fun h => h.1.elim h1 h3,
   fun hn => init_refuses f fun h => hn h.2.1,
   fun h3 v hv hbad => init_refuses f fun h => by
     obtain ⟨d, hd, hc⟩ := h.2.2 h3 v hv
     rcases hbad with hb | ⟨d', hd', hc'⟩
     · rw [hb] at hd; cases hd
     · rw [hd'] at hd; injection hd with hd; rw [hd, hc] at hc'; cases hc'⟩

/-- **the constructor's acceptance, exactly.** `FieldRotator(field)` succeeds if and only if the
field is scalar or 3-vector, the mesh is three-dimensional and (for vectors) every component
label is mapped to an axis name of the mesh. -/
theorem constructor_iff (f : Fld) :
    (∃ s, init? f = .ok s) ↔
      ((f.nvdim = 1 ∨ f.nvdim = 3) ∧ f.mesh.region.ndim = 3 ∧
       (f.nvdim = 3 → ∀ v ∈ f.vdims.getD [], ∃ d, Fld.lookup f.vmap v = some d ∧ f.mesh.region.dims.contains d = true)) :=
  init_ok_iff f

/-- **malformed `n` is refused, but the rotation stays accumulated.** Cell counts of the wrong
length or with a zero entry make the call fail and leave the current field untouched; the
accumulated rotation has already been multiplied (as in the code, where `_rotation` is updated
before the mesh is built) — the next call continues from it. -/
theorem bad_n_refused (s : Rotator) (Q : M3) (n : List Nat) (hbad : n.length ≠ 3 ∨ 0 ∈ n) :
    (step s (.rotate Q (some n))).2 ≠ none ∧ (step s (.rotate Q (some n))).1.cur = s.cur ∧
    (step s (.rotate Q (some n))).1.rot = Q.mul s.rot := by
  refine step_rotate_refused s Q (some n) fun g hres => ?_
  obtain ⟨_, hl, hp, _⟩ := (rotateOnce_ok_iff _ _ _ g).mp hres
  exact hbad.elim (absurd hl) fun h => absurd rfl (hp 0 h)

example : ([2, 2] : List Nat).length ≠ 3 ∨ 0 ∈ ([2, 2] : List Nat) := Or.inl (by decide)
example : ([2, 0, 1] : List Nat).length ≠ 3 ∨ 0 ∈ ([2, 0, 1] : List Nat) := Or.inr (by decide)

/-- A vector field with a spatial axis no component is mapped to (e.g. a non-injective
mapping, which the constructor lets through) is refused by every `rotate`: the call fails,
the current field stays what it was. -/
theorem unmapped_axis_refused (s : Rotator) (Q : M3) (n? : Option (List Nat)) (h1 : s.orig.nvdim ≠ 1)
    (a : Nat) (ha : a < 3) (hu : ordAt s.orig a = none) :
    (step s (.rotate Q n?)).2 ≠ none ∧ (step s (.rotate Q n?)).1.cur = s.cur := by
  obtain ⟨e, c, _⟩ := step_rotate_refused s Q n? fun g hres => by
    obtain ⟨_, _, _, ord, ho, _⟩ := (rotateOnce_ok_iff _ _ _ g).mp hres
    have := ordFor_getD s.orig ord ho h1 a ha
    rw [hu] at this; cases this
  exact ⟨e, c⟩

/-- instances: a 2-component field is refused; with the non-injective mapping
`p ↦ x, q ↦ x, r ↦ z` no component belongs to the `y` axis -/
example : init? { exF with nvdim := 2 } = .error .value := (rot_refusals _).1 (by decide) (by decide)
example : ordAt { exV with vmap := [("p", "x"), ("q", "x"), ("r", "z")] } 1 = none := by decide +kernel
example : isOk (init? exV) = true ∧ isOk (init? { exV with vmap := [("p", "x"), ("q", "x"), ("r", "z")] }) = true := by
  decide +kernel

/-! ## automatic cell counts (`_calculate_new_n`) -/

/-- The integer the model returns for the rounded cube root is the
nearest integer to the real cube root: `(k − ½)³ ≤ q < (k + ½)³`, and it is the only one. -/
theorem roundCbrt_spec (q : Rat) (hq : 0 ≤ q) :
    ((1 ≤ roundCbrt q → cube ((roundCbrt q : Rat) - 1/2) ≤ q) ∧ q < cube ((roundCbrt q : Rat) + 1/2)) ∧
    (∀ k : Nat, (1 ≤ k → cube ((k : Rat) - 1/2) ≤ q) → q < cube ((k : Rat) + 1/2) → roundCbrt q = k) :=
  ⟨roundCbrt_bounds q hq, fun k h1 h2 => roundCbrt_unique q hq k h1 h2⟩

/-- perfect cubes are their own rounded cube roots (the fact behind `lat_autoN`; proved as
`roundCbrt_cube'` in C18Interp, which C18Lattice imports) -/
theorem roundCbrt_cube (k : Nat) : roundCbrt (cube (k : Rat)) = k :=
  roundCbrt_cube' k

example : roundCbrt (cube 4) = 4 := by
  have := roundCbrt_cube 4
  simpa using this

/-! ## rational rotations that are not quarter turns -/

/-- **plane rotations with rational cosine and sine** (`cos = 3/5, sin = 4/5`, …): for every
coordinate plane `(p, q)` and every rational point `(c, s)` of the unit circle `Rcs p q c s` is a
proper rotation; two of them in the same plane multiply by the angle-addition formulas (so they
commute); the opposite angle is the transpose; angle zero is the identity; and swapping the roles
of the two axes reverses the angle. -/
theorem plane_rotation_laws (p q : Nat) (hp : p < 3) (hq : q < 3) (hpq : p ≠ q) (c s c' s' : Rat)
    (h : c * c + s * s = 1) :
    (Rcs p q c s).IsRot ∧ (Rcs p q c s).mul (Rcs p q c' s') = Rcs p q (c * c' - s * s') (s * c' + c * s') ∧
    Rcs p q c (-s) = (Rcs p q c s).tr ∧ Rcs p q 1 0 = M3.one ∧ Rcs q p c s = Rcs p q c (-s) :=
  ⟨Rcs_isRot p q hp hq hpq c s h, Rcs_mul p q hp hq hpq c s c' s', Rcs_tr p q hp hq hpq c s, Rcs_one p q hp hq hpq,
   Rcs_swap p q hp hq hpq c s⟩

example : (3/5 : Rat) * (3/5) + (4/5) * (4/5) = 1 := by norm_num

/-- **all rational angles are Pythagorean.** For rationals `m, n` (not both zero) `pythC m n`,
`pythS m n` — `(m² − n², 2mn)/(m² + n²)` — is a rational point of the unit circle, every rational
point except `(−1, 0)` arises so, and the rotation about coordinate axis `a` by that angle is the
rotation of the half-angle quaternion `m + n·e_a` (the form in which the correspondence run hands
these rotations to the model). -/
theorem pythagorean_angles (m n : Rat) (h : m * m + n * n ≠ 0) :
    pythC m n * pythC m n + pythS m n * pythS m n = 1 ∧
    (∀ a, a < 3 → RaxisCS a (pythC m n) (pythS m n)
      = M3.ofQuat m (if a = 0 then n else 0) (if a = 1 then n else 0) (if a = 2 then n else 0)) ∧
    (∀ c s : Rat, c * c + s * s = 1 → c ≠ -1 → c = pythC (1 + c) s ∧ s = pythS (1 + c) s) :=
  ⟨pyth_unit m n h, fun a ha => RaxisCS_eq_ofQuat a ha m n h, fun c s hcs hc => pyth_complete c s hcs hc⟩

/-- `(m, n) = (2, 1)`: the 3-4-5 angle; `(3, 2)`: the 5-12-13 angle -/
example : pythC 2 1 = 3/5 ∧ pythS 2 1 = 4/5 ∧ pythC 3 2 = 5/13 ∧ pythS 3 2 = 12/13 := by
  unfold pythC pythS; norm_num

/-- **Euler sequences of rational angles** (`from_euler(seq, angles)` with every angle given by a
rational cosine and sine, any length, any axes — quarter turns are the special case `eulerQ`):
always a proper rotation; an intrinsic (upper-case) sequence is the reversed extrinsic one; the
extrinsic sequence is the ordered product — later rotations on the left — that a history of
single-axis `rotate` calls accumulates. -/
theorem euler_rational_sequences (intr : Bool) (seq : List (Nat × Rat × Rat)) (h : UnitCS seq) (qs : List (Nat × Int)) :
    (eulerCS intr seq).IsRot ∧ eulerCS true seq = eulerCS false seq.reverse ∧
    eulerCS false seq = prodL (seq.map fun x => RaxisCS x.1 x.2.1 x.2.2) ∧
    eulerQ intr qs = eulerCS intr (qs.map fun x => (x.1, T.cosq x.2, T.sinq x.2)) :=
  ⟨eulerCS_isRot intr seq h, eulerCS_intrinsic_reverse seq, eulerCS_extrinsic_prodL seq, eulerQ_eq_CS intr qs⟩

/-- `from_euler("zx", [atan2(4, 3), atan2(12, 5)])` and its intrinsic twin differ -/
example : UnitCS [(2, 3/5, 4/5), (0, 5/13, 12/13)] ∧
    eulerCS false [(2, 3/5, 4/5), (0, 5/13, 12/13)] ≠ eulerCS true [(2, 3/5, 4/5), (0, 5/13, 12/13)] := by
  unfold UnitCS; decide +kernel

/-- **rotation vectors with rational axis and rational angle** (`from_rotvec(θ·u)`, `u` a rational
unit vector such as `(1, 2, 2)/3`, `cos θ` and `sin θ` rational): Rodrigues' matrix is a proper
rotation that fixes `u`, has trace `1 + 2 cos θ`, is transposed by the opposite angle, unchanged by
reversing axis and angle together, adds angles about the same axis, and about a coordinate axis is
the plane rotation `RaxisCS`. -/
theorem axis_angle_spec (u : V3) (hu : u.dot u = 1) (c s c' s' : Rat) (h : c * c + s * s = 1) :
    (ofAxisAngle u c s).IsRot ∧ (ofAxisAngle u c s).apply u = u ∧
    (ofAxisAngle u c s).e 0 0 + (ofAxisAngle u c s).e 1 1 + (ofAxisAngle u c s).e 2 2 = 1 + 2 * c ∧
    ofAxisAngle u c (-s) = (ofAxisAngle u c s).tr ∧ ofAxisAngle ⟨-u.x, -u.y, -u.z⟩ c (-s) = ofAxisAngle u c s ∧
    (ofAxisAngle u c s).mul (ofAxisAngle u c' s') = ofAxisAngle u (c * c' - s * s') (s * c' + c * s') ∧
    (∀ a, a < 3 → ofAxisAngle ⟨if a = 0 then 1 else 0, if a = 1 then 1 else 0, if a = 2 then 1 else 0⟩ c s = RaxisCS a c s) :=
  ⟨ofAxisAngle_isRot u c s hu h, ofAxisAngle_axis u c s hu, ofAxisAngle_trace u c s hu, ofAxisAngle_neg u c s,
   ofAxisAngle_flip u c s, ofAxisAngle_mul u hu c s c' s', fun a ha => ofAxisAngle_coord a ha c s⟩

example : (⟨1/3, 2/3, 2/3⟩ : V3).dot ⟨1/3, 2/3, 2/3⟩ = 1 ∧ (ofAxisAngle ⟨1/3, 2/3, 2/3⟩ (3/5) (4/5)).IsRot := by
  decide +kernel

/-- **rotation vector = quaternion.** The rotation about the rational unit axis `u` by the
Pythagorean angle with half-angle tangent `n/m` (what `from_rotvec(θ·u)` builds) is the rotation
of the quaternion `m + n·u` (what `from_quat` builds): the two families the correspondence run
feeds to the real code meet in the same rational matrices. -/
theorem axis_angle_is_quaternion (u : V3) (hu : u.dot u = 1) (m n : Rat) (h : m * m + n * n ≠ 0) :
    ofAxisAngle u (pythC m n) (pythS m n) = M3.ofQuat m (n * u.x) (n * u.y) (n * u.z) :=
  ofAxisAngle_eq_ofQuat u hu m n h

/-! ## the resampling statement from hypotheses on the inputs only -/

/-- **every rational rotation resamples as the property says — from hypotheses on the inputs
alone.** For a well-formed field with a component order, EVERY proper rotation with rational entries
(3-4-5 rotations, their products in different planes, any rational quaternion …) and no `n` or
three positive counts: `rotate` succeeds; the new region is the bounding box; the counts are the
requested / automatic ones (all ≥ 1); a cell whose back-rotated centre is at least one cell inside
the original region holds `R` applied (through the component permutation) to the eight-cell
multilinear interpolant of the original there; a cell whose back-rotated centre is outside the
region by more than the `1e-9`-cell padding holds zero. -/
theorem rational_rotation_resamples (f : Fld) (hf : WF f) (ord : List Nat) (ho : ordFor f = .ok ord) (R : M3) (hR : R.IsRot)
    (n? : Option (List Nat)) (hn : ∀ n, n? = some n → n.length = 3 ∧ ∀ k ∈ n, k ≠ 0) :
    ∃ g, rotateOnce f R n? = .ok g ∧ g.mesh.region = boxRegion f R ∧
      g.mesh.n = n?.getD (autoN f R (boxRegion f R)) ∧ g.mesh.n.length = 3 ∧ (∀ k ∈ g.mesh.n, k ≠ 0) ∧
      ∀ idx,
        ((∀ a, a < 3 →
            f.mesh.region.lo a + f.mesh.cellAt a ≤ (backPos f R g.mesh idx).get a + centreAt f.mesh a ∧
            (backPos f R g.mesh idx).get a + centreAt f.mesh a ≤ f.mesh.region.hi a - f.mesh.cellAt a) →
          ∃ k0 k1 k2, Between f.mesh 0 k0 (backPos f R g.mesh idx).x ∧ Between f.mesh 1 k1 (backPos f R g.mesh idx).y ∧
            Between f.mesh 2 k2 (backPos f R g.mesh idx).z ∧
            g.data.get idx = rotVal f.nvdim R ord (tab f.nvdim fun c =>
              cellInterp f c k0 k1 k2
                (((backPos f R g.mesh idx).x - centreRel f.mesh 0 k0) / f.mesh.cellAt 0)
                (((backPos f R g.mesh idx).y - centreRel f.mesh 1 k1) / f.mesh.cellAt 1)
                (((backPos f R g.mesh idx).z - centreRel f.mesh 2 k2) / f.mesh.cellAt 2))) ∧
        ((∃ a, a < 3 ∧
            ((backPos f R g.mesh idx).get a + centreAt f.mesh a < f.mesh.region.lo a - f.mesh.cellAt a * tolI ∨
             f.mesh.region.hi a + f.mesh.cellAt a * tolI < (backPos f R g.mesh idx).get a + centreAt f.mesh a)) →
          g.data.get idx = tab f.nvdim fun _ => 0) := by
  have hacc := rotateOnce_accepts f hf.1 hR ord ho n? hn
  obtain ⟨_, hl, hp, _⟩ := (rotateOnce_ok_iff f R n? _).mp hacc
  refine ⟨_, hacc, rfl, rfl, hl, hp, ?_⟩
  · intro idx
    constructor
    · intro hin
      obtain ⟨ord', k0, k1, k2, ho', b0, b1, b2, hv⟩ := rot_inside_value f hf R n? _ hacc idx hin
      obtain rfl : ord = ord' := Except.ok.inj (ho.symm.trans ho')
      exact ⟨k0, k1, k2, b0, b1, b2, hv⟩
    · rintro ⟨a, ha, hout⟩
      exact rot_outside_zero f R n? _ hacc idx a ha hout

/-- non-vacuity: a product of a 5-12-13 rotation about x and a 3-4-5 rotation about z (not a
lattice rotation, not about a coordinate axis) on the 4×4×3 example fields -/
example : WF exV ∧ ordFor exV = .ok [1, 0, 2] ∧ exPyth.IsRot := ⟨exWFV, exOrdV, by decide +kernel⟩

/-! ## every cell: the complete case analysis, edge band included -/

/-- the bounds test of the interpolator in absolute coordinates: within the region enlarged by
`1e-9` cell on every side -/
theorem inPad_iff_padded_box (f : Fld) (p : V3) :
    InPad f p ↔ ∀ a, a < 3 →
      f.mesh.region.lo a - f.mesh.cellAt a * tolI ≤ p.get a + centreAt f.mesh a ∧
      p.get a + centreAt f.mesh a ≤ f.mesh.region.hi a + f.mesh.cellAt a * tolI :=
  inPad_iff f p

/-- **the value of EVERY target cell.** Either the back-rotated centre fails the bounds test
(outside the region enlarged by `1e-9` cell) and the cell holds zero in every component, or it
passes and the cell holds `R` applied to the eight-cell multilinear formula evaluated at the
back-rotated centre CLAMPED, per axis, to the box spanned by the first and last cell centres:
between a face and the nearest cell centre (and in the `1e-9`-cell sliver outside the face) the
boundary cell's value is continued unchanged (`np.pad(mode="edge")`), on an axis with a single
cell the result does not depend on that coordinate at all. No other case exists. -/
theorem rot_value_complete (f : Fld) (hf : WF f) (R : M3) (n? : Option (List Nat)) (g : Fld)
    (h : rotateOnce f R n? = .ok g) (idx : List Nat) :
    (¬ InPad f (backPos f R g.mesh idx) → g.data.get idx = tab f.nvdim fun _ => 0) ∧
    (InPad f (backPos f R g.mesh idx) → ∃ ord k0 k1 k2, ordFor f = .ok ord ∧
      Br f.mesh 0 k0 (clampV f.mesh (backPos f R g.mesh idx)).x ∧ Br f.mesh 1 k1 (clampV f.mesh (backPos f R g.mesh idx)).y ∧
      Br f.mesh 2 k2 (clampV f.mesh (backPos f R g.mesh idx)).z ∧
      g.data.get idx = rotVal f.nvdim R ord (tab f.nvdim fun c =>
        cellInterp f c k0 k1 k2
          (((clampV f.mesh (backPos f R g.mesh idx)).x - centreRel f.mesh 0 k0) / f.mesh.cellAt 0)
          (((clampV f.mesh (backPos f R g.mesh idx)).y - centreRel f.mesh 1 k1) / f.mesh.cellAt 1)
          (((clampV f.mesh (backPos f R g.mesh idx)).z - centreRel f.mesh 2 k2) / f.mesh.cellAt 2))) := by
  constructor
  · intro hout
    obtain ⟨_, _, _, ord, _, rfl⟩ := (rotateOnce_ok_iff f R n? g).mp h
    exact valuesAt_outside f R ord _ hout
  · intro hin
    obtain ⟨ord, ho, hv⟩ := rot_general f hf R n? g h
    have r0 := clampAx_range f.mesh 0 (hf.1 0 (by decide)) (backPos f R g.mesh idx).x
    have r1 := clampAx_range f.mesh 1 (hf.1 1 (by decide)) (backPos f R g.mesh idx).y
    have r2 := clampAx_range f.mesh 2 (hf.1 2 (by decide)) (backPos f R g.mesh idx).z
    obtain ⟨k0, b0⟩ := br_exists f.mesh 0 (hf.1 0 (by decide)) _ r0.1 r0.2
    obtain ⟨k1, b1⟩ := br_exists f.mesh 1 (hf.1 1 (by decide)) _ r1.1 r1.2
    obtain ⟨k2, b2⟩ := br_exists f.mesh 2 (hf.1 2 (by decide)) _ r2.1 r2.2
    refine ⟨ord, k0, k1, k2, ho, b0, b1, b2, ?_⟩
    rw [hv idx, ← origAt_clamp f hf.1 _ hin, origAt_br f hf.1 (clampV f.mesh (backPos f R g.mesh idx)) k0 k1 k2 b0 b1 b2]

/-- instance: the target cell `[3, 1, 1]` of the example looks back into the band between the
face `y = 0` and the first cell centres (it passes the bounds test but is less than half a cell
inside); its clamped position is in the brackets of cells `1, 0, 1` -/
example : InPad exF (backPos exF exR exNM [3, 1, 1]) ∧ (backPos exF exR exNM [3, 1, 1]).y < centreRel exF.mesh 1 0 ∧
    Br exF.mesh 0 1 (clampV exF.mesh (backPos exF exR exNM [3, 1, 1])).x ∧
    Br exF.mesh 1 0 (clampV exF.mesh (backPos exF exR exNM [3, 1, 1])).y ∧
    Br exF.mesh 2 1 (clampV exF.mesh (backPos exF exR exNM [3, 1, 1])).z := by
  unfold InPad Br; decide +kernel

/-! ## acceptance and refusal as equivalences -/

/-- **`rotate` succeeds exactly when …** For a field on a well-formed 3-d mesh and a proper
rotation: the call succeeds if and only if `n`, when given, has exactly three entries none of
which is zero, and the field is scalar or every spatial axis has a component mapped to it — no
other input (values, cell sizes, rotation) can make it fail. -/
theorem rotate_ok_iff (f : Fld) (hm : Mesh3 f.mesh) (R : M3) (hR : R.IsRot) (n? : Option (List Nat)) :
    (∃ g, rotateOnce f R n? = .ok g) ↔
      ((∀ n, n? = some n → n.length = 3 ∧ ∀ k ∈ n, k ≠ 0) ∧ (f.nvdim = 1 ∨ ∀ a, a < 3 → ∃ k, ordAt f a = some k)) := by
  constructor
  · rintro ⟨g, h⟩
    obtain ⟨_, hl, hp, ord, ho, _⟩ := (rotateOnce_ok_iff f R n? g).mp h
    exact ⟨fun n hn => by subst hn; exact ⟨hl, hp⟩, (ordFor_ok_iff f).mp ⟨ord, ho⟩⟩
  · rintro ⟨hn, ho⟩
    obtain ⟨ord, ho⟩ := (ordFor_ok_iff f).mpr ho
    exact ⟨_, rotateOnce_accepts f hm hR ord ho n? hn⟩

/-- **… and so after any history.** After ANY history of proper rotations, clears and refused
calls a further proper rotation is accepted under exactly the same condition; it is refused
exactly when `n` is malformed or the vector field has an axis without a component — and then the
current field is kept while the rotation stays accumulated (`bad_n_refused`,
`unmapped_axis_refused`). -/
theorem rotate_accepted_iff (f : Fld) (hm : Mesh3 f.mesh) (s0 : Rotator) (h0 : init? f = .ok s0) (ops : List Op)
    (hops : ∀ Q n, Op.rotate Q n ∈ ops → Q.IsRot) (Q : M3) (hQ : Q.IsRot) (n? : Option (List Nat)) :
    (step (run s0 ops) (.rotate Q n?)).2 = none ↔
      ((∀ n, n? = some n → n.length = 3 ∧ ∀ k ∈ n, k ≠ 0) ∧ (f.nvdim = 1 ∨ ∀ a, a < 3 → ∃ k, ordAt f a = some k)) := by
  obtain ⟨hor, _, hrot⟩ := run_fresh f s0 h0 ops hops
  have hR : (Q.mul (run s0 ops).rot).IsRot := hQ.mul hrot
  rw [← rotate_ok_iff f hm _ hR n?, step_rotate_none_iff, hor]

/-- **a complete component-to-axis mapping, exactly.** The component order of `rotate` exists
if and only if the field is scalar or every spatial axis has a component; and when every mapped
label is a component label this says: every axis name is the image of some label (for an axis
that several labels are mapped to, the LAST one counts — `_r_dim_mapping`). -/
theorem mapping_complete_iff (f : Fld) :
    ((∃ ord, ordFor f = .ok ord) ↔ (f.nvdim = 1 ∨ ∀ a, a < 3 → ∃ k, ordAt f a = some k)) ∧
    ((∀ p ∈ f.vmap, ∃ k, f.vdimIndex p.1 = some k) → ∀ a,
      ((∃ k, ordAt f a = some k) ↔ ∃ p ∈ f.vmap, p.2 = f.mesh.region.dims.getD a "")) :=
  ⟨ordFor_ok_iff f, fun hk a => ordAt_some_iff f hk a⟩

example : (∀ p ∈ exV.vmap, (exV.vdimIndex p.1).isSome = true) ∧ ∀ a, a < 3 → (ordAt exV a).isSome = true := by
  decide +kernel

/-- **periodic boundary conditions, subregions, the validity mask and the unit have no effect.**
The constructor's decision and every result of `rotate` are the same whatever the original's
`bc`, subregions, mask and unit are (the code only warns about a non-empty `bc`); the rotated
field has no boundary conditions, no subregions, no unit, and every cell valid. -/
theorem bc_mask_unit_no_effect (f : Fld) (R : M3) (n? : Option (List Nat)) (bc : String) (subs : List (String × Region))
    (valid : NDA Bool) (unit : Option String) :
    rotateOnce { f with mesh := { f.mesh with bc := bc, subs := subs }, valid := valid, unit := unit } R n? = rotateOnce f R n? ∧
    ((∃ s, init? { f with mesh := { f.mesh with bc := bc, subs := subs }, valid := valid, unit := unit } = .ok s) ↔
      ∃ s, init? f = .ok s) ∧
    (∀ g, rotateOnce f R n? = .ok g →
      g.mesh.bc = "" ∧ g.mesh.subs = [] ∧ g.unit = none ∧ g.valid.shape = g.mesh.n ∧ g.valid.get = fun _ => true) := by
  refine ⟨rotateOnce_ignores f R n? bc subs valid unit, init_ignores f bc subs valid unit, fun g h => ?_⟩
  obtain ⟨_, _, _, _, _, rfl⟩ := (rotateOnce_ok_iff f R n? g).mp h
  exact ⟨rfl, rfl, rfl, rfl, rfl⟩

/-- non-vacuity: the vector example with periodic `bc = "xy"`, a subregion, a mask with holes and
a unit is accepted by the constructor and rotated exactly as the plain one -/
example : isOk (init? exP) = true ∧ exP.mesh.bc = "xy" ∧ exP.valid.get [1, 2, 0] = false ∧
    rotateOnce exP exPyth none = rotateOnce exV exPyth none :=
  ⟨by decide +kernel, rfl, rfl, (bc_mask_unit_no_effect exV exPyth none "xy" [("a", exReg)] _ (some "A/m")).1⟩

/-! ## independence of the unit of length, of the origin and of the unit of the value -/

/-- **homogeneity of `rotate`.** Take any field on a 3-d mesh, measure its coordinates in another
unit of length (`× s`, `s > 0`), move the origin (`+ d`) and measure its values in another unit
(`× t`): for EVERY matrix and every `n` the call is refused in exactly the same cases, and when
it succeeds the result is the old result in the new units — region corners `s·x + d`, the same
cell counts (the automatic ones included), every stored component times `t`, labels and mapping
unchanged. Nothing in `rotate` depends on an absolute length, position or magnitude (the padding
of the interpolation grid is `1e-9` of a CELL). -/
theorem rot_homogeneous (s : Rat) (hs : 0 < s) (d : Nat → Rat) (t : Rat) (f : Fld) (h3 : Is3d f.mesh.region) (R : M3)
    (n? : Option (List Nat)) :
    rotateOnce (affFld s d t f) R n? = (rotateOnce f R n?).map (affFld s d t) :=
  rotateOnce_aff s d hs t f h3 R n?

/-- the same, cell by cell: the rescaled input is accepted when the original is, with the same
cell counts, corners `s·x + d` and `t` times every stored component -/
theorem rot_homogeneous_cells (s : Rat) (hs : 0 < s) (d : Nat → Rat) (t : Rat) (f : Fld) (h3 : Is3d f.mesh.region) (R : M3)
    (n? : Option (List Nat)) (g : Fld) (h : rotateOnce f R n? = .ok g) :
    ∃ g', rotateOnce (affFld s d t f) R n? = .ok g' ∧ g'.mesh.n = g.mesh.n ∧
      (∀ a, a < 3 → g'.mesh.region.lo a = s * g.mesh.region.lo a + d a ∧ g'.mesh.region.hi a = s * g.mesh.region.hi a + d a) ∧
      (∀ idx c, (g'.data.get idx).getD c 0 = t * (g.data.get idx).getD c 0) ∧
      g'.nvdim = g.nvdim ∧ g'.vdims = g.vdims ∧ g'.vmap = g.vmap := by
  refine ⟨affFld s d t g, by rw [rot_homogeneous s hs d t f h3 R n?, h]; rfl, rfl, ?_, ?_, rfl, rfl, rfl⟩
  · intro a ha
    obtain ⟨_, _, _, _, _, rfl⟩ := (rotateOnce_ok_iff f R n? g).mp h
    exact ⟨affReg_lo s d _ (boxRegion_is3d f R).1 a ha, affReg_hi s d _ (boxRegion_is3d f R).2 a ha⟩
  · intro idx c
    exact getD_map_of_eq (mul_zero t) _ c

/-- **homogeneity of whole histories.** The rotator of the rescaled field is accepted exactly when
the original's is, and after ANY history of calls (rotations with any `n`, clears, refused calls)
its state is the rescaled state of the original's rotator: same accumulated matrix, current field
in the new units. -/
theorem history_homogeneous (s : Rat) (hs : 0 < s) (d : Nat → Rat) (t : Rat) (f : Fld) (h3 : Is3d f.mesh.region)
    (s0 : Rotator) (h0 : init? f = .ok s0) (ops : List Op) :
    init? (affFld s d t f) = .ok (affRot s d t s0) ∧
    run (affRot s d t s0) ops = affRot s d t (run s0 ops) ∧
    (run (affRot s d t s0) ops).rot = (run s0 ops).rot ∧ (run (affRot s d t s0) ops).cur = affFld s d t (run s0 ops).cur := by
  have hs0 := ((init?_ok_iff f s0).mp h0).2
  have hrun := run_aff s d hs t s0 (by rw [hs0]; exact h3) ops
  refine ⟨by rw [init_aff, h0]; rfl, hrun, by rw [hrun]; rfl, by rw [hrun]; rfl⟩

/-- non-vacuity: nanometre-sized copy of the example (`s = 1e-9`), moved far from the origin,
values in units of `8e5` -/
example : (0 : Rat) < 1/1000000000 ∧ Is3d exF.mesh.region ∧ Is3d exV.mesh.region ∧ isOk (rotateOnce exNano exPyth none) = true := by
  refine ⟨by norm_num, by unfold Is3d; decide, by unfold Is3d; decide, ?_⟩
  exact isOk_rotateOnce exNano (by unfold Mesh3 AxOk; decide +kernel) (by decide +kernel : exPyth.IsRot) _ exOrdV none (fun _ e => by cases e)

/-! ## histories with the same ordered product -/

/-- **only the ordered product matters.** Two histories (of the same rotator) whose last calls
bring the accumulated products to the same matrix — e.g. one `from_euler` call and the sequence of
single-axis calls, four quarter turns and none, `rotate Q₁; rotate Q₂` and `rotate (Q₂Q₁)` — and
use the same `n` in the last call end with the same accumulated matrix, the same success or
failure, and on success the same current field: intermediate cell counts, intermediate failures,
clears before the last segment leave no trace. -/
theorem histories_same_product_agree (f : Fld) (s0 : Rotator) (h0 : init? f = .ok s0) (ops1 ops2 : List Op) (Q1 Q2 : M3)
    (hP : Q1.mul (prodL (seg [] ops1)) = Q2.mul (prodL (seg [] ops2))) (n? : Option (List Nat)) :
    (run s0 (ops1 ++ [.rotate Q1 n?])).rot = (run s0 (ops2 ++ [.rotate Q2 n?])).rot ∧
    (step (run s0 ops1) (.rotate Q1 n?)).2 = (step (run s0 ops2) (.rotate Q2 n?)).2 ∧
    ((step (run s0 ops1) (.rotate Q1 n?)).2 = none →
      (run s0 (ops1 ++ [.rotate Q1 n?])).cur = (run s0 (ops2 ++ [.rotate Q2 n?])).cur) := by
  obtain ⟨a1, o1⟩ := accumulated_rotation f s0 h0 ops1
  obtain ⟨a2, o2⟩ := accumulated_rotation f s0 h0 ops2
  obtain ⟨a, b, c⟩ := step_rotate_congr (run s0 ops2) (run s0 ops1) Q2 Q1 n? (by rw [o1, o2]) (by rw [a1, a2, hP])
  rw [run_snoc, run_snoc]
  exact ⟨a.symm, b.symm, fun h => (c h).symm⟩

/-- instance: two quarter turns followed by a half turn in the same plane, against no rotation at all -/
example : (Rq 0 1 2).mul (prodL (seg [] [.rotate (Rq 0 1 1) none, .rotate (Rq 0 1 1) (some [1, 1, 1])]))
    = M3.one.mul (prodL (seg [] [])) := by decide +kernel

/-- **one Euler call = the history of its single-axis calls.** `rotate("from_euler", seq, angles)`
with a lower-case (extrinsic) sequence of rational angles leaves the rotator — after any previous
history — in the state that the single-axis calls, issued one after the other in the order of the
sequence (with any intermediate `n`), leave it in: same accumulated matrix, same outcome, same
field. -/
theorem euler_call_eq_axis_calls (f : Fld) (s0 : Rotator) (h0 : init? f = .ok s0) (ops : List Op)
    (seq : List (Nat × Rat × Rat)) (a : Nat) (c s : Rat) (ns : List (Option (List Nat))) (n? : Option (List Nat))
    (hl : ns.length = seq.length) :
    (run s0 (ops ++ [.rotate (eulerCS false (seq ++ [(a, c, s)])) n?])).rot
      = (run s0 ((ops ++ (seq.zip ns).map fun x => Op.rotate (RaxisCS x.1.1 x.1.2.1 x.1.2.2) x.2) ++ [.rotate (RaxisCS a c s) n?])).rot ∧
    ((step (run s0 ops) (.rotate (eulerCS false (seq ++ [(a, c, s)])) n?)).2 = none →
      (run s0 (ops ++ [.rotate (eulerCS false (seq ++ [(a, c, s)])) n?])).cur
        = (run s0 ((ops ++ (seq.zip ns).map fun x => Op.rotate (RaxisCS x.1.1 x.1.2.1 x.1.2.2) x.2) ++ [.rotate (RaxisCS a c s) n?])).cur) := by
  have hzip : (seq.zip ns).map (fun x => RaxisCS x.1.1 x.1.2.1 x.1.2.2) = seq.map fun x => RaxisCS x.1 x.2.1 x.2.2 := by
    have : (seq.zip ns).map (fun x => x.1) = seq := List.map_fst_zip (by omega)
    conv_rhs => rw [← this]
    rw [List.map_map]; rfl
  have hP : (eulerCS false (seq ++ [(a, c, s)])).mul (prodL (seg [] ops))
      = (RaxisCS a c s).mul (prodL (seg [] (ops ++ (seq.zip ns).map fun x => Op.rotate (RaxisCS x.1.1 x.1.2.1 x.1.2.2) x.2))) := by
    rw [seg_append, seg_map_rotate _ (seq.zip ns) (fun x => RaxisCS x.1.1 x.1.2.1 x.1.2.2) (fun x => x.2), prodL_append_list,
      hzip, ← eulerCS_extrinsic_prodL, eulerCS_append]
    simp only [Bool.false_eq_true, if_false, eulerCS, M3.one_mul]
    rw [M3.mul_assoc]
  obtain ⟨e1, _, e3⟩ := histories_same_product_agree f s0 h0 ops _ _ _ hP n?
  exact ⟨e1, e3⟩

/-! ## cell volume of the automatic counts, no new extrema, superposition -/

/-- **"the cell volume is kept mostly constant" — exactly, before rounding.** For a proper
rotation of a well-formed field the three quantities whose cube roots `_calculate_new_n` rounds
multiply to the cube of (volume of the new region / volume of an original cell): un-rounded, the
new cells have exactly the old cell volume; and on each axis the un-rounded new cell edge
`E_i / x_i` is the extent `l_i` of the rotated original cell times the common factor
`(dV / l_0 l_1 l_2)^(1/3)` — the new cells have the aspect ratio of the bounding box of a rotated
old cell. -/
theorem auto_counts_keep_cell_volume (f : Fld) (hm : Mesh3 f.mesh) (R : M3) (hR : R.IsRot) (reg : Region) :
    autoX3 f R reg 0 * autoX3 f R reg 1 * autoX3 f R reg 2
      = cube (reg.edge 0 * reg.edge 1 * reg.edge 2 / (f.mesh.cellAt 0 * f.mesh.cellAt 1 * f.mesh.cellAt 2)) ∧
    ∀ i, i < 3 → cube (reg.edge i) = autoX3 f R reg i * (cube (sumAbs R (cellV f.mesh) i) *
      ((f.mesh.cellAt 0 * f.mesh.cellAt 1 * f.mesh.cellAt 2) /
        (sumAbs R (cellV f.mesh) 0 * sumAbs R (cellV f.mesh) 1 * sumAbs R (cellV f.mesh) 2))) := by
  obtain ⟨c0, c1, c2⟩ := cellV_pos f.mesh hm
  have hl : ∀ i, i < 3 → sumAbs R (cellV f.mesh) i ≠ 0 := fun i hi => (sumAbs_pos hR (cellV f.mesh) c0 c1 c2 i hi).ne'
  have l0 := hl 0 (by decide)
  have l1 := hl 1 (by decide)
  have l2 := hl 2 (by decide)
  have c0 : f.mesh.cellAt 0 ≠ 0 := c0.ne'
  have c1 : f.mesh.cellAt 1 ≠ 0 := c1.ne'
  have c2 : f.mesh.cellAt 2 ≠ 0 := c2.ne'
  constructor
  · unfold autoX3 cube
    field_simp
  · intro i hi
    have li := hl i hi
    unfold autoX3 cube
    field_simp

/-- **no new extrema (scalar fields).** If every cell value of a scalar field lies in `[lo, hi]`
with `lo ≤ 0 ≤ hi`, so does every cell value of the rotated field — for every matrix, every `n`:
inside, the stored value is a convex combination of at most eight original cell values (all
interpolation weights lie in `[0, 1]`), outside it is the fill value 0. -/
theorem rot_scalar_range (f : Fld) (hf : WF f) (h1 : f.nvdim = 1) (lo hi : Rat) (hlo : lo ≤ 0) (hhi : 0 ≤ hi)
    (hdata : ∀ i j k, i < f.mesh.nAt 0 → j < f.mesh.nAt 1 → k < f.mesh.nAt 2 →
      lo ≤ (f.data.get [i, j, k]).getD 0 0 ∧ (f.data.get [i, j, k]).getD 0 0 ≤ hi)
    (R : M3) (n? : Option (List Nat)) (g : Fld) (h : rotateOnce f R n? = .ok g) (idx : List Nat) :
    lo ≤ (g.data.get idx).getD 0 0 ∧ (g.data.get idx).getD 0 0 ≤ hi := by
  obtain ⟨ord, _, hv⟩ := rot_general f hf R n? g h
  rw [hv idx, rotVal_scalar h1]
  exact origAt_range f hf.1 0 (by omega) lo hi hlo hhi hdata _

/-- instance: the affine example data `1 + 2x − 3y + 5z` on `[0,4]×[0,4]×[0,3]` lies in `[−12, 25]` -/
example : ∀ i, i < exF.mesh.nAt 0 → ∀ j, j < exF.mesh.nAt 1 → ∀ k, k < exF.mesh.nAt 2 →
    (-12 : Rat) ≤ (exF.data.get [i, j, k]).getD 0 0 ∧ (exF.data.get [i, j, k]).getD 0 0 ≤ 25 := by
  decide +kernel

/-- **superposition.** `rotate` is additive in the data: for three fields on the same mesh with the
same component layout, the third holding cell by cell the sum of the other two, the same rotation
with the same `n` gives three fields on the same mesh, the third again holding the sum (together
with `rot_homogeneous` for `s = 1`, `d = 0`: `rotate` is linear in the values). -/
theorem rot_superposition (f1 f2 f3 : Fld) (hm1 : f1.mesh = f3.mesh) (hm2 : f2.mesh = f3.mesh)
    (hv1 : f1.nvdim = f3.nvdim) (hv2 : f2.nvdim = f3.nvdim) (hd1 : f1.vdims = f3.vdims) (hd2 : f2.vdims = f3.vdims)
    (hp1 : f1.vmap = f3.vmap) (hp2 : f2.vmap = f3.vmap)
    (hd : ∀ idx c, (f3.data.get idx).getD c 0 = (f1.data.get idx).getD c 0 + (f2.data.get idx).getD c 0)
    (R : M3) (n? : Option (List Nat)) (g1 g2 g3 : Fld)
    (h1 : rotateOnce f1 R n? = .ok g1) (h2 : rotateOnce f2 R n? = .ok g2) (h3 : rotateOnce f3 R n? = .ok g3) :
    g1.mesh = g3.mesh ∧ g2.mesh = g3.mesh ∧
    ∀ idx c, (g3.data.get idx).getD c 0 = (g1.data.get idx).getD c 0 + (g2.data.get idx).getD c 0 := by
  obtain ⟨_, _, _, o1, ho1, rfl⟩ := (rotateOnce_ok_iff f1 R n? g1).mp h1
  obtain ⟨_, _, _, o2, ho2, rfl⟩ := (rotateOnce_ok_iff f2 R n? g2).mp h2
  obtain ⟨_, _, _, o3, ho3, rfl⟩ := (rotateOnce_ok_iff f3 R n? g3).mp h3
  obtain rfl : o1 = o3 := Except.ok.inj (ho1.symm.trans ((ordFor_congr f1 f3 hv1 hd1 hp1 (by rw [hm1])).trans ho3))
  obtain rfl : o2 = o1 := Except.ok.inj (ho2.symm.trans ((ordFor_congr f2 f3 hv2 hd2 hp2 (by rw [hm2])).trans ho3))
  refine ⟨boxMesh_congr f1 f3 hm1 R n?, boxMesh_congr f2 f3 hm2 R n?, fun idx c => ?_⟩
  rw [rotated_data, rotated_data, rotated_data, boxMesh_congr f1 f3 hm1, boxMesh_congr f2 f3 hm2]
  rw [backPos_congr f1 f3 hm1, backPos_congr f2 f3 hm2]
  exact valuesAt_add f1 f2 f3 hm1 hm2 hv1 hv2 hd R o2 _ c

/-- instance: the example field, itself again, and twice the example field (`exDouble`) -/
example : ∀ idx c, ((exDouble.data.get idx).getD c 0 = (exF.data.get idx).getD c 0 + (exF.data.get idx).getD c 0) := by
  intro idx c
  show ((exF.data.get idx).map (2 * ·)).getD c 0 = _
  rw [getD_map_of_eq (mul_zero 2)]; ring
example : exDouble.mesh = exF.mesh ∧ isOk (rotateOnce exDouble exPyth none) = true ∧ isOk (rotateOnce exF exPyth none) = true :=
  ⟨rfl, isOk_rotateOnce exDouble exWF.1 (by decide +kernel : exPyth.IsRot) [] rfl none (fun _ e => by cases e),
   isOk_rotateOnce exF exWF.1 (by decide +kernel : exPyth.IsRot) [] rfl none (fun _ e => by cases e)⟩

/-! ## a sequence of C12's lattice rotations is one FieldRotator rotation (object level) -/

/-- **any sequence of `Field.rotate90` calls, in any planes, IS one rotation of the rotator.**
Take a field FieldRotator can rotate (well-formed, complete one-to-one mapping) and apply C12's model
of `Field.rotate90(ax1, ax2, k)` (about the centre, copying form) any number of times, each call on
the result of the previous one, in any planes and with any integers `k` (`turns`). If all calls
are accepted, then the ordered product `P` of the quarter-turn matrices `Rq p q k` (later calls on
the left) is a proper lattice rotation, `rotate` with `P` and automatic cell counts is accepted,
and its result has the same region corners, the same cell counts and the same value in EVERY cell
as the field the sequence of lattice rotations produced — for any cell sizes, scalar and vector
fields (all six component permutations). The same field is what a rotator shows after the history
of single `rotate` calls with these matrices (any intermediate `n`). (`hval`, "no two labels on one
axis", is not needed: the rotator and C12 read the same reverse mapping, `rDimLast_eq_rDim`.) -/
theorem rotate90_sequence_is_one_rotation (f : Fld) (hf : WF f) (hF : T.FldInv f) (hnd : f.mesh.region.ndim = 3)
    (hlen : ∀ idx, (f.data.get idx).length = f.nvdim) (ord : List Nat) (ho : ordFor f = .ok ord)
    (hkey : ∀ x ∈ f.vmap, ∀ y ∈ f.vmap, x.1 = y.1 → x = y) (hval : ∀ x ∈ f.vmap, ∀ y ∈ f.vmap, x.2 = y.2 → x = y)
    (seq : List (String × String × Int)) (g' : Fld) (h : turns f seq = some g') :
    (prodL (turnsM f seq)).IsRot ∧ LatM (prodL (turnsM f seq)) ∧
    ∃ g, rotateOnce f (prodL (turnsM f seq)) none = .ok g ∧
      (∀ a, a < 3 → g.mesh.region.lo a = g'.mesh.region.lo a ∧ g.mesh.region.hi a = g'.mesh.region.hi a) ∧
      g.mesh.n = g'.mesh.n ∧
      (∀ i0 i1 i2, i0 < g'.mesh.nAt 0 → i1 < g'.mesh.nAt 1 → i2 < g'.mesh.nAt 2 →
        g.data.get [i0, i1, i2] = g'.data.get [i0, i1, i2]) ∧
      (∀ s0, init? f = .ok s0 → ∀ (init : List M3) (Q : M3) (ns : List (Option (List Nat))), ns.length = init.length →
        turnsM f seq = init ++ [Q] →
        (run s0 ((init.zip ns).map (fun x => Op.rotate x.1 x.2) ++ [.rotate Q none])).cur = g) := by
  obtain ⟨hr, hl, g, hg, a1, a2, a3⟩ := turns_match_rotator f ord ⟨hf, hF, hnd, hlen, ho, hkey⟩ seq g' h
  refine ⟨hr, hl, g, hg, a1, a2, a3, ?_⟩
  intro s0 h0 init Q ns hns hsplit
  obtain ⟨_, hok, _⟩ := history_eq_single f s0 h0 ((init.zip ns).map fun x => Op.rotate x.1 x.2) Q none
  apply hok
  rw [seg_map_rotate [] (init.zip ns) (fun x => x.1) (fun x => x.2), List.nil_append, List.map_fst_zip (by omega), ← prodL_append,
    ← hsplit]
  exact hg

/-- non-vacuity: the anisotropic vector example (mapping `p ↦ y, q ↦ x, r ↦ z`) turned by C12's
model three times in three different planes (one of them by `−1`, one by `2`) -/
example : (turns exV [("x", "y", 1), ("y", "z", -1), ("z", "x", 2)]).isSome = true ∧
    turnsM exV [("x", "y", 1), ("y", "z", -1), ("z", "x", 2)] = [Rq 0 1 1, Rq 1 2 (-1), Rq 2 0 2] := by
  decide +kernel

end DFV.C18
