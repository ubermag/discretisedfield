import DFV.Lemmas.C15Fld
import DFV.Lemmas.C02Dict
import DFV.Lemmas.C15Rat
import DFV.Lemmas.C15Real
import DFV.Lemmas.C15Hist
import DFV.Lemmas.C15RoundCell
import DFV.Lemmas.C01Fl64
import DFV.Lemmas.C15Sqrt64
import DFV.Lemmas.Rounding
import DFV.Lemmas.C15Acc
/-!
# C15 — setting a norm rescales non-zero vectors only; orientation is the unit field

Theorems about the model of `Field.norm` (getter/setter), `Field.orientation`, the
constructor order values → norm → validity, `valid="norm"` and `update_field_values`
(`DFV/Model/C15.lean`).

Lengths are compared squared.  `sqrt` is a parameter; the hypothesis `SqrtAt sqrt x`
("`sqrt x` is the non-negative root of `x`") is carried explicitly, only at the arguments
actually used.  It is satisfiable: `sqrtQ` (the executable root the driver runs) satisfies
it at every rational square (`sqrtQ_sqrtAt`), and `Real.sqrt` at every non-negative real
(`real_sqrtAt`), so the cell-level theorems — stated over an arbitrary linearly ordered
field `K` — hold for real fields with no side condition.

Rounded arithmetic is a hypothesis too (`FlOk fl u`: one rounding after every operation;
`SqrtOk sq u` for a rounded root), met by the executable `fl64` / `sqrt64`; its theorems give the
bounds that justify the 16u / 4u / 8u comparators and the oracle's tolerances of the harness.

Cells, components, targets, thresholds, meshes, masks, specifications and histories are
universally quantified.
-/
namespace DFV.C15
open DFV
-- every statement of this file carries the ordered field of its section, also where it is not used
set_option linter.unusedSectionVars false

/-! ## One cell, any ordered field -/
section Cell
variable {K : Type} [Field K] [LinearOrder K] [IsStrictOrderedRing K]

/-- the setter keeps the number of components of every cell (array shape unchanged) -/
theorem setCell_length (sqrt : K → K) (v : List K) (t : K) : (setCell sqrt v t).length = v.length := by
  unfold setCell
  rw [List.length_map, divWhere_length]

/-- **Non-zero vectors are rescaled**: the code's divide-then-multiply is exactly `(t/‖v‖)·v` -/
theorem setCell_nonzero (sqrt : K → K) (v : List K) (t : K)
    (hs : SqrtAt sqrt (sqLen v)) (hnz : sqLen v ≠ 0) :
    setCell sqrt v t = smul (t / sqrt (sqLen v)) v := by
  unfold setCell normCell
  rw [divWhere_ne _ _ (hs.pos hnz).ne', map_div_eq_smul, map_mul_eq_smul, smul_smul, div_eq_mul_inv]

/-- … so the new vector has *exactly that length*: `‖v'‖² = t²` (any sign of `t`) -/
theorem setCell_sqLen (sqrt : K → K) (v : List K) (t : K)
    (hs : SqrtAt sqrt (sqLen v)) (hnz : sqLen v ≠ 0) :
    sqLen (setCell sqrt v t) = t * t := by
  have hne : sqrt (sqLen v) ≠ 0 := (hs.pos hnz).ne'   -- for `field_simp`
  rw [setCell_nonzero sqrt v t hs hnz, sqLen_smul]
  calc t / sqrt (sqLen v) * (t / sqrt (sqLen v)) * sqLen v
      = t / sqrt (sqLen v) * (t / sqrt (sqLen v)) * (sqrt (sqLen v) * sqrt (sqLen v)) := by rw [hs.2]
    _ = t * t := by field_simp

/-- … and an *unchanged direction*: for a positive target the new vector is a positive multiple of the old one -/
theorem setCell_direction (sqrt : K → K) (v : List K) (t : K)
    (hs : SqrtAt sqrt (sqLen v)) (hnz : sqLen v ≠ 0) (ht : 0 < t) :
    ∃ c : K, 0 < c ∧ setCell sqrt v t = smul c v :=
  ⟨t / sqrt (sqLen v), div_pos ht (hs.pos hnz), setCell_nonzero sqrt v t hs hnz⟩

/-- parallelism stated without division: all 2×2 cross terms between new and old vector vanish (any target, also negative or zero) -/
theorem setCell_cross (sqrt : K → K) (v : List K) (t : K)
    (hs : SqrtAt sqrt (sqLen v)) (hnz : sqLen v ≠ 0) (a b : Nat) :
    (setCell sqrt v t).getD a 0 * v.getD b 0 = (setCell sqrt v t).getD b 0 * v.getD a 0 := by
  rw [setCell_nonzero sqrt v t hs hnz, smul_getD, smul_getD]; ring

/-- **Zero cells stay zero**, whatever the target -/
theorem setCell_zero (sqrt : K → K) (v : List K) (t : K)
    (h0 : SqrtAt sqrt 0) (hz : ∀ x ∈ v, x = 0) : setCell sqrt v t = zeros v := by
  unfold setCell normCell
  rw [(sqLen_eq_zero_iff v).mpr hz, h0.zero, divWhere_zero, map_mul_zeros]

/-- **zero in places**: a zero target gives a zero vector, whatever the old vector (no hypothesis on `sqrt` at all) -/
theorem setCell_target_zero (sqrt : K → K) (v : List K) : setCell sqrt v 0 = zeros v := by
  have e : ∀ w : List K, w.map (fun x => x * 0) = List.replicate w.length 0 := by
    intro w; simp
  unfold setCell
  rw [e, divWhere_length]; simp [zeros]

/-- getter after setter: the norm read back from a rescaled non-zero cell is `|t|` -/
theorem normCell_setCell (sqrt : K → K) (v : List K) (t : K)
    (hs : SqrtAt sqrt (sqLen v)) (hnz : sqLen v ≠ 0) (ht : SqrtAt sqrt (t * t)) :
    normCell sqrt (setCell sqrt v t) = |t| :=
  normCell_of_sq (setCell_sqLen sqrt v t hs hnz) ht

/-- setting the same non-negative norm twice changes nothing the second time -/
theorem setCell_idem (sqrt : K → K) (v : List K) (t : K)
    (hs : SqrtAt sqrt (sqLen v)) (hnz : sqLen v ≠ 0) (ht : SqrtAt sqrt (t * t)) (h0 : 0 ≤ t) :
    setCell sqrt (setCell sqrt v t) t = setCell sqrt v t := by
  rcases eq_or_lt_of_le h0 with rfl | hpos
  · rw [setCell_target_zero, setCell_target_zero, zeros_zeros]
  · have hl : sqLen (setCell sqrt v t) = t * t := setCell_sqLen sqrt v t hs hnz
    have hne : t * t ≠ 0 := (mul_pos hpos hpos).ne'
    rw [setCell_nonzero sqrt (setCell sqrt v t) t (by rw [hl]; exact ht) (by rw [hl]; exact hne), hl,
      ht.mul_self, abs_of_pos hpos, div_self hpos.ne', smul_one]

/-- the setter forgets the old magnitude: a positive rescaling of the input does not change the result -/
theorem setCell_scale_invariant (sqrt : K → K) (v : List K) (c t : K) (hc : 0 < c)
    (hs : SqrtAt sqrt (sqLen v)) (hs' : SqrtAt sqrt (sqLen (smul c v))) (hnz : sqLen v ≠ 0) :
    setCell sqrt (smul c v) t = setCell sqrt v t := by
  have hnz' : sqLen (smul c v) ≠ 0 := by
    rw [sqLen_smul]; exact mul_ne_zero (mul_pos hc hc).ne' hnz
  have hroot := hs.smul hc.le hs'
  have hne : sqrt (sqLen v) ≠ 0 := (hs.pos hnz).ne'   -- for `field_simp`
  rw [setCell_nonzero sqrt _ t hs' hnz', setCell_nonzero sqrt v t hs hnz, hroot, smul_smul]
  congr 1
  field_simp

/-- above the threshold the orientation is `v/‖v‖` -/
theorem orientCell_far (sqrt : K → K) (atol : K) (v : List K) (hat : atol < normCell sqrt v) :
    orientCell sqrt atol v = v.map fun x => x / normCell sqrt v := by
  unfold orientCell
  have : closeZero atol (normCell sqrt v) = false := by
    rw [closeZero_eq, decide_eq_false_iff_not, not_le]
    exact lt_of_lt_of_le hat (le_abs_self _)
  simp [this]

/-- **orientation has unit length wherever the norm exceeds the absolute threshold** -/
theorem orientCell_unit (sqrt : K → K) (atol : K) (v : List K) (h0 : 0 ≤ atol)
    (hs : SqrtAt sqrt (sqLen v)) (hat : atol < normCell sqrt v) :
    sqLen (orientCell sqrt atol v) = 1 := by
  have hpos : 0 < normCell sqrt v := lt_of_le_of_lt h0 hat
  rw [orientCell_far sqrt atol v hat, sqLen_map_div, normCell_mul_self hs]
  exact div_self fun e => hpos.ne' (normCell_eq_zero (e ▸ hs) e)

/-- **… and is zero elsewhere** (code-level condition `|‖v‖| ≤ atol`, i.e. `np.isclose(‖v‖, 0)`) -/
theorem orientCell_zero (sqrt : K → K) (atol : K) (v : List K)
    (hle : |normCell sqrt v| ≤ atol) : orientCell sqrt atol v = zeros v := by
  unfold orientCell
  have : closeZero atol (normCell sqrt v) = true := by
    rw [closeZero_eq, decide_eq_true_iff]; exact hle
  simp [this]

/-- the same with the redundant absolute value removed (`‖v‖ ≥ 0`) -/
theorem orientCell_zero_le (sqrt : K → K) (atol : K) (v : List K) (hs : SqrtAt sqrt (sqLen v))
    (hle : normCell sqrt v ≤ atol) : orientCell sqrt atol v = zeros v :=
  orientCell_zero sqrt atol v (by rwa [abs_of_nonneg (normCell_nonneg hs)])

/-- every cell of the orientation is either zero (`‖v‖ ≤ atol`) or a unit vector (`‖v‖ > atol`) — nothing in between -/
theorem orientCell_dichotomy (sqrt : K → K) (atol : K) (v : List K) (h0 : 0 ≤ atol)
    (hs : SqrtAt sqrt (sqLen v)) :
    (normCell sqrt v ≤ atol ∧ orientCell sqrt atol v = zeros v) ∨
    (atol < normCell sqrt v ∧ sqLen (orientCell sqrt atol v) = 1) := by
  rcases le_or_gt (normCell sqrt v) atol with h | h
  · exact Or.inl ⟨h, orientCell_zero_le sqrt atol v hs h⟩
  · exact Or.inr ⟨h, orientCell_unit sqrt atol v h0 hs h⟩

/-- **orientation × norm reproduces the field** wherever `‖v‖ > atol` or `v = 0` (only the cells with `0 < ‖v‖ ≤ atol` are lost) -/
theorem orientCell_times_norm (sqrt : K → K) (atol : K) (v : List K) (h0 : 0 ≤ atol)
    (hz : SqrtAt sqrt 0) (h : atol < normCell sqrt v ∨ ∀ x ∈ v, x = 0) :
    (orientCell sqrt atol v).map (fun x => x * normCell sqrt v) = v := by
  rcases h with hat | hzero
  · have hne : normCell sqrt v ≠ 0 := (lt_of_le_of_lt h0 hat).ne'
    rw [orientCell_far sqrt atol v hat, map_div_eq_smul, map_mul_eq_smul, smul_smul, mul_inv_cancel₀ hne,
      smul_one]
  · have hn : normCell sqrt v = 0 := normCell_eq_zero hz ((sqLen_eq_zero_iff v).mpr hzero)
    rw [orientCell_zero sqrt atol v (by rw [hn, abs_zero]; exact h0), map_mul_zeros]
    exact (eq_zeros_of_all_zero hzero).symm

/-- above the threshold the orientation is what setting the norm to 1 gives -/
theorem orientCell_eq_setCell_one (sqrt : K → K) (atol : K) (v : List K) (h0 : 0 ≤ atol)
    (hat : atol < normCell sqrt v) : orientCell sqrt atol v = setCell sqrt v 1 := by
  have hne : normCell sqrt v ≠ 0 := (lt_of_le_of_lt h0 hat).ne'
  rw [orientCell_far sqrt atol v hat]
  unfold setCell
  rw [divWhere_ne _ _ hne, map_mul_eq_smul, smul_one]

/-- orientation does not depend on the magnitude (both vectors above the threshold) -/
theorem orientCell_scale_invariant (sqrt : K → K) (atol : K) (v : List K) (c : K) (hc : 0 < c)
    (h0 : 0 ≤ atol) (hs : SqrtAt sqrt (sqLen v)) (hs' : SqrtAt sqrt (sqLen (smul c v)))
    (hat : atol < normCell sqrt v) (hat' : atol < normCell sqrt (smul c v)) :
    orientCell sqrt atol (smul c v) = orientCell sqrt atol v := by
  -- the two quotients agree whatever the threshold: `h0` plays no part in the proof
  have _ := h0
  rw [orientCell_far sqrt atol _ hat', orientCell_far sqrt atol v hat, map_div_eq_smul, map_div_eq_smul,
    smul_smul]
  unfold normCell
  rw [hs.smul hc.le hs', mul_inv, mul_right_comm, inv_mul_cancel₀ hc.ne', one_mul]

/-- **unchanged direction, in the library's own vocabulary**: setting a norm above the
threshold does not change the orientation of a cell that was above the threshold -/
theorem orientCell_setCell (sqrt : K → K) (atol : K) (v : List K) (t : K) (h0 : 0 ≤ atol)
    (hs : SqrtAt sqrt (sqLen v)) (ht : SqrtAt sqrt (t * t))
    (hat : atol < normCell sqrt v) (htt : atol < t) :
    orientCell sqrt atol (setCell sqrt v t) = orientCell sqrt atol v := by
  have hpos : 0 < sqrt (sqLen v) := lt_of_le_of_lt h0 hat
  have hnz : sqLen v ≠ 0 := fun e => hpos.ne' (hs.eq_zero_iff.mpr e)
  have htpos : 0 < t := lt_of_le_of_lt h0 htt
  have hl : sqLen (setCell sqrt v t) = t * t := setCell_sqLen sqrt v t hs hnz
  have hn : normCell sqrt (setCell sqrt v t) = t := by
    rw [normCell_setCell sqrt v t hs hnz ht, abs_of_pos htpos]
  have e := setCell_nonzero sqrt v t hs hnz
  have hs' : SqrtAt sqrt (sqLen (smul (t / sqrt (sqLen v)) v)) := by rw [← e, hl]; exact ht
  rw [e]
  exact orientCell_scale_invariant sqrt atol v _ (div_pos htpos hpos) h0 hs hs' hat
    (by rw [← e, hn]; exact htt)

/-- **The property's sentence about the setter, for one cell**: whatever the old vector and
the target, the cell ends `Rescaled` — non-zero ⇒ squared length `t²`, parallel, same sense
for `t > 0`; zero ⇒ still zero. -/
theorem setCell_rescaled (sqrt : K → K) (v : List K) (t : K)
    (hs : SqrtAt sqrt (sqLen v)) (h0 : SqrtAt sqrt 0) : Rescaled v (setCell sqrt v t) t := by
  refine ⟨setCell_length sqrt v t, fun hnz => ⟨setCell_sqLen sqrt v t hs hnz,
    setCell_cross sqrt v t hs hnz, setCell_direction sqrt v t hs hnz⟩, fun hz => ?_⟩
  have hz' := (sqLen_eq_zero_iff v).mp hz
  rw [setCell_zero sqrt v t h0 hz']
  exact (eq_zeros_of_all_zero hz').symm

end Cell

/-! ### non-vacuity: the hypotheses are met by the executable root on concrete cells -/

example : SqrtAt sqrtQ (sqLen ([3, 4] : List Rat)) := sqrtAt_three_four
example : sqLen ([3, 4] : List Rat) ≠ 0 := by norm_num [sqLen]
example : SqrtAt sqrtQ (sqLen (smul (2 : Rat) [3, 4])) := by
  have h : sqLen (smul (2 : Rat) [3, 4]) = 10 * 10 := by norm_num [sqLen, smul]
  rw [h]; exact sqrtQ_sqrtAt 10
example : SqrtAt sqrtQ ((7 : Rat) * 7) := sqrtQ_sqrtAt 7
example : SqrtAt sqrtQ 0 := sqrtQ_zero

/-- the conclusion on that cell, computed: (3,4) set to norm 10 is (6,8) -/
example : setCell sqrtQ [3, 4] 10 = [6, 8] := by
  rw [setCell_nonzero sqrtQ _ _ sqrtAt_three_four (by norm_num [sqLen]), sqLen_three_four, sqrtQ_mul_self]
  norm_num [smul]
example : atolDefault < normCell sqrtQ [3, 4] := by
  unfold normCell; rw [sqLen_three_four, sqrtQ_mul_self]; norm_num [atolDefault]
example : normCell sqrtQ [0, 0] ≤ atolDefault := by
  have h : sqLen ([0, 0] : List Rat) = 0 * 0 := by norm_num [sqLen]
  unfold normCell; rw [h, sqrtQ_mul_self]; norm_num [atolDefault]

/-! ## One cell: which cells count as zero, scalars -/
section ZeroCells
variable {K : Type} [Field K] [LinearOrder K] [IsStrictOrderedRing K]

/-- **which cells count as zero for the orientation**, without a root: exactly those whose
*squared vector length* is at most `atol²` — the guard is on the length of the cell's
vector, not on its components -/
theorem orientCell_zero_iff (sqrt : K → K) (atol : K) (v : List K) (h0 : 0 ≤ atol)
    (hs : SqrtAt sqrt (sqLen v)) :
    closeZero atol (normCell sqrt v) = true ↔ sqLen v ≤ atol * atol :=
  hs.closeZero_iff h0

/-- **the zero guard is per cell, not per component**: whether a cell is normalised depends on
the length of its vector only — a cell whose vector is longer than the threshold is
normalised to unit length even if every single component is below the threshold (example
below: four components of 6e-9) -/
theorem orientCell_guard_per_cell (sqrt : K → K) (atol : K) (v : List K) (h0 : 0 ≤ atol)
    (hs : SqrtAt sqrt (sqLen v)) (hlen : atol * atol < sqLen v) :
    sqLen (orientCell sqrt atol v) = 1 ∧
    orientCell sqrt atol v = v.map fun x => x / normCell sqrt v := by
  have hat : atol < normCell sqrt v := by
    by_contra hc
    have := (orientCell_zero_iff sqrt atol v h0 hs).mp ((closeZero_normCell hs atol).mpr (not_lt.mp hc))
    exact absurd this (not_le.mpr hlen)
  exact ⟨orientCell_unit sqrt atol v h0 hs hat, orientCell_far sqrt atol v hat⟩

/-- **the setter has no threshold**: every cell with some non-zero component — however
small, also below the orientation's threshold — is rescaled to the target length, while the
orientation of the same cell is zero (the code guards the setter with `norm != 0.0` and
the orientation with `np.isclose(norm, 0)`) -/
theorem setCell_no_threshold (sqrt : K → K) (atol : K) (v : List K) (t : K) (h0 : 0 ≤ atol)
    (hs : SqrtAt sqrt (sqLen v)) (hex : ∃ x ∈ v, x ≠ 0) (hsmall : sqLen v ≤ atol * atol) :
    sqLen (setCell sqrt v t) = t * t ∧ orientCell sqrt atol v = zeros v := by
  obtain ⟨x, hx, hne⟩ := hex
  have hnz : sqLen v ≠ 0 := fun e => hne ((sqLen_eq_zero_iff v).mp e x hx)
  refine ⟨setCell_sqLen sqrt v t hs hnz, ?_⟩
  unfold orientCell
  rw [(orientCell_zero_iff sqrt atol v h0 hs).mpr hsmall]
  rfl

/-- **scalar fields**: the setter turns a non-zero scalar `a` into `±t` with the sign of `a` -/
theorem setCell_scalar (sqrt : K → K) (a t : K) (hs : SqrtAt sqrt (a * a)) (ha : a ≠ 0) :
    setCell sqrt [a] t = [if 0 < a then t else -t] := by
  have e : sqLen [a] = a * a := by simp [sqLen]
  have hs' : SqrtAt sqrt (sqLen [a]) := by rw [e]; exact hs
  have hnz : sqLen [a] ≠ 0 := by rw [e]; exact mul_self_ne_zero.mpr ha
  rw [setCell_nonzero sqrt [a] t hs' hnz, e, hs.mul_self, ← div_abs_mul ha t]
  rfl

/-- **scalar fields**: the orientation of a scalar is its sign above the threshold, zero at or
below it -/
theorem orientCell_scalar (sqrt : K → K) (atol a : K) (hs : SqrtAt sqrt (a * a)) (h0 : 0 ≤ atol) :
    orientCell sqrt atol [a] = [if |a| ≤ atol then 0 else if 0 < a then 1 else -1] := by
  have e : sqLen [a] = a * a := by simp [sqLen]
  have hn : normCell sqrt [a] = |a| := normCell_of_sq e hs
  by_cases hle : |a| ≤ atol
  · rw [if_pos hle, orientCell_zero sqrt atol [a] (by rw [hn, abs_abs]; exact hle)]
    rfl
  · have hat : atol < normCell sqrt [a] := by rw [hn]; exact not_le.mp hle
    rw [if_neg hle, orientCell_far sqrt atol [a] hat, hn]
    have ha : a ≠ 0 := abs_pos.mp (lt_of_le_of_lt h0 (not_le.mp hle))
    rw [← div_abs_mul ha 1, one_div_mul_eq_div]
    rfl

end ZeroCells

/-- four components of 6e-9 each: every component is below the threshold 1e-8, the vector
(length 1.2e-8) is above it -/
example : (∀ x ∈ ([6/1000000000, 6/1000000000, 6/1000000000, 6/1000000000] : List Rat), |x| ≤ atolDefault) ∧
    atolDefault * atolDefault < sqLen ([6/1000000000, 6/1000000000, 6/1000000000, 6/1000000000] : List Rat) ∧
    SqrtAt sqrtQ (sqLen ([6/1000000000, 6/1000000000, 6/1000000000, 6/1000000000] : List Rat)) := by
  refine ⟨?_, ?_, ?_⟩
  · intro x hx
    simp only [List.mem_cons, List.not_mem_nil, or_false, or_self] at hx
    subst hx
    rw [abs_of_pos (by norm_num)]; norm_num [atolDefault]
  · norm_num [sqLen, atolDefault]
  · have : sqLen ([6/1000000000, 6/1000000000, 6/1000000000, 6/1000000000] : List Rat) =
        (12/1000000000) * (12/1000000000) := by norm_num [sqLen]
    rw [this]; exact sqrtQ_sqrtAt _

/-- a non-zero scalar with a rational root of its square -/
example : SqrtAt sqrtQ ((-7 : Rat) * (-7)) ∧ (-7 : Rat) ≠ 0 := ⟨sqrtQ_sqrtAt (-7), by norm_num⟩

/-- a non-zero vector below the orientation's threshold (length 5e-9) -/
example : (∃ x ∈ ([3/1000000000, 4/1000000000] : List Rat), x ≠ 0) ∧
    sqLen ([3/1000000000, 4/1000000000] : List Rat) ≤ atolDefault * atolDefault := by
  refine ⟨⟨3/1000000000, by simp, by norm_num⟩, by norm_num [sqLen, atolDefault]⟩

/-! ## Whole fields (rational model run by the driver) -/
section Fields
variable (sqrt : Rat → Rat)

/-- **Norm getter**: a one-component field on the same mesh with the same unit and validity;
its value at every cell is the non-negative number whose square is `Σ_c v_c²`. -/
theorem norm_eq (f : Fld) :
    (norm sqrt f).mesh = f.mesh ∧ (norm sqrt f).nvdim = 1 ∧ (norm sqrt f).unit = f.unit ∧
    (norm sqrt f).data.shape = f.mesh.n ∧
    (∀ i, (norm sqrt f).valid.get i = f.valid.get i) ∧
    ∀ i, SqrtAt sqrt (sqLen (f.data.get i)) →
      ∃ x, (norm sqrt f).data.get i = [x] ∧ 0 ≤ x ∧ x * x = sqLen (f.data.get i) :=
  ⟨rfl, rfl, rfl, rfl, fun _ => rfl, fun _ h => ⟨_, rfl, h.1, h.2⟩⟩

/-- … and the absolute value for scalar fields -/
theorem norm_scalar (f : Fld) (i : List Nat) (a : Rat) (hv : f.data.get i = [a])
    (hs : SqrtAt sqrt (a * a)) : (norm sqrt f).data.get i = [|a|] := by
  show [normCell sqrt (f.data.get i)] = [|a|]
  rw [hv]
  rw [normCell_of_sq (by simp [sqLen]) hs]

/-- the setter touches the array only: mesh, component count, validity, unit, labels and
mapping are the receiver's; `None` is a no-op -/
theorem setNorm_frame (f g : Fld) (s : Option NSpec) (h : setNorm sqrt f s = .ok g) :
    g.mesh = f.mesh ∧ g.nvdim = f.nvdim ∧ g.valid = f.valid ∧ g.unit = f.unit ∧
    g.vdims = f.vdims ∧ g.vmap = f.vmap ∧ (s = none → g = f) := by
  cases s with
  | none =>
    rw [setNorm_none] at h
    simp only [Except.ok.injEq] at h
    subst h; exact ⟨rfl, rfl, rfl, rfl, rfl, rfl, fun _ => rfl⟩
  | some s =>
    obtain ⟨t, _, rfl⟩ := setNorm_some_ok h
    exact ⟨rfl, rfl, rfl, rfl, rfl, rfl, fun e => by cases e⟩

/-- **Setter, any specification**: if `_as_array(spec, nvdim=1)` evaluates to the per-cell
targets `t`, then every cell ends `Rescaled` to its own target `t i`. -/
theorem setNorm_rescaled (f g : Fld) (s : NSpec) (t : NDA Rat)
    (ht : asArray1 f.mesh s = .ok t) (h : setNorm sqrt f (some s) = .ok g) (i : List Nat)
    (hs : SqrtAt sqrt (sqLen (f.data.get i))) (h0 : SqrtAt sqrt 0) :
    Rescaled (f.data.get i) (g.data.get i) (t.get i) := by
  rw [setNorm_get ht h]
  exact setCell_rescaled sqrt _ _ hs h0

/-- the general form of the acceptance theorems below (constant, array, callable, field, dictionary):
whatever evaluates to the per-cell targets `t` is accepted, and every cell ends `Rescaled` to its target -/
theorem setNorm_of_target_rescaled (f : Fld) (s : NSpec) (t : NDA Rat) (ht : asArray1 f.mesh s = .ok t) :
    ∃ g, setNorm sqrt f (some s) = .ok g ∧
      ∀ i, SqrtAt sqrt (sqLen (f.data.get i)) → SqrtAt sqrt 0 →
        Rescaled (f.data.get i) (g.data.get i) (t.get i) :=
  ⟨_, setNorm_of_target ht, fun i hs h0 => setNorm_rescaled sqrt f _ s t ht (setNorm_of_target ht) i hs h0⟩

/-- explicit form on a non-zero cell: `(t_i/‖v‖)·v` -/
theorem setNorm_nonzero (f g : Fld) (s : NSpec) (t : NDA Rat)
    (ht : asArray1 f.mesh s = .ok t) (h : setNorm sqrt f (some s) = .ok g) (i : List Nat)
    (hs : SqrtAt sqrt (sqLen (f.data.get i))) (hnz : sqLen (f.data.get i) ≠ 0) :
    g.data.get i = smul (t.get i / sqrt (sqLen (f.data.get i))) (f.data.get i) := by
  rw [setNorm_get ht h]
  exact setCell_nonzero sqrt _ _ hs hnz

/-- a cell whose target is zero ends zero ("zero in places") -/
theorem setNorm_target_zero (f g : Fld) (s : NSpec) (t : NDA Rat)
    (ht : asArray1 f.mesh s = .ok t) (h : setNorm sqrt f (some s) = .ok g) (i : List Nat)
    (hz : t.get i = 0) : g.data.get i = zeros (f.data.get i) := by
  rw [setNorm_get ht h, hz]
  exact setCell_target_zero sqrt _

/-- **constant norm**: always accepted; every cell is rescaled to `c` -/
theorem setNorm_const (f : Fld) (c : Rat) :
    ∃ g, setNorm sqrt f (some (.const c)) = .ok g ∧
      ∀ i, SqrtAt sqrt (sqLen (f.data.get i)) → SqrtAt sqrt 0 →
        Rescaled (f.data.get i) (g.data.get i) c :=
  setNorm_of_target_rescaled sqrt f _ _ (asArray1_const f.mesh c)

/-- **per-cell array** of the mesh's shape: accepted; cell `i` is rescaled to `a[i]` -/
theorem setNorm_array (f : Fld) (a : NDA Rat) (hshape : a.shape = f.mesh.n) :
    ∃ g, setNorm sqrt f (some (.arr a)) = .ok g ∧
      ∀ i, SqrtAt sqrt (sqLen (f.data.get i)) → SqrtAt sqrt 0 →
        Rescaled (f.data.get i) (g.data.get i) (a.get i) :=
  setNorm_of_target_rescaled sqrt f (.arr a) ⟨f.mesh.n, a.get⟩ (asArray1_arr f.mesh a hshape)

/-- per-cell array with an explicit component axis, shape `(*mesh.n, 1)`: accepted; every
in-range cell `i` is rescaled to `a[i, 0]` -/
theorem setNorm_array_col (f : Fld) (a : NDA Rat) (hshape : a.shape = f.mesh.n ++ [1]) :
    ∃ g, setNorm sqrt f (some (.arr a)) = .ok g ∧
      ∀ i : List Nat, i.length = f.mesh.n.length →
        (∀ k, k < f.mesh.n.length → i.getD k 0 < f.mesh.n.getD k 0) →
        SqrtAt sqrt (sqLen (f.data.get i)) → SqrtAt sqrt 0 →
        Rescaled (f.data.get i) (g.data.get i) (a.get (i ++ [0])) := by
  obtain ⟨t, ht, _, hget⟩ := bcastArr_col f.mesh a hshape
  obtain ⟨g, hg, hr⟩ := setNorm_of_target_rescaled sqrt f (.arr a) t ht
  exact ⟨g, hg, fun i hl hi hs h0 => hget i hl hi ▸ hr i hs h0⟩

/-- **function of position**: accepted; cell `i` is rescaled to the function's value at the
centre of cell `i` -/
theorem setNorm_callable (f : Fld) (fn : List Rat → Rat) :
    ∃ g, setNorm sqrt f (some (.fn fn)) = .ok g ∧
      ∀ i, SqrtAt sqrt (sqLen (f.data.get i)) → SqrtAt sqrt 0 →
        Rescaled (f.data.get i) (g.data.get i) (fn (f.mesh.centre i)) :=
  setNorm_of_target_rescaled sqrt f _ _ (asArray1_fn f.mesh fn)

/-- an array-like whose last axis is not 1 (and which is not of the mesh's shape) is
rejected — it could only be meant as a vector -/
theorem setNorm_array_rejected (f : Fld) (a : NDA Rat) (h1 : a.shape ≠ f.mesh.n)
    (h2 : a.shape.getLast? ≠ some 1) : setNorm sqrt f (some (.arr a)) = .error .value := by
  simp [setNorm, asArray1, bcastArr, h1, h2]

/-- **getter after setter**: reading the norm back gives `|t_i|` on the cells that were
non-zero and 0 on the cells that were zero -/
theorem norm_setNorm (f g : Fld) (s : NSpec) (t : NDA Rat)
    (ht : asArray1 f.mesh s = .ok t) (h : setNorm sqrt f (some s) = .ok g) (i : List Nat)
    (hs : SqrtAt sqrt (sqLen (f.data.get i))) (h0 : SqrtAt sqrt 0)
    (htt : SqrtAt sqrt (t.get i * t.get i)) :
    (norm sqrt g).data.get i = [if sqLen (f.data.get i) = 0 then 0 else |t.get i|] := by
  show [normCell sqrt (g.data.get i)] = _
  rw [setNorm_get ht h]
  split
  · rename_i hz
    rw [setCell_zero sqrt _ _ h0 ((sqLen_eq_zero_iff _).mp hz), normCell_eq_zero h0 (sqLen_zeros _)]
  · rename_i hnz
    rw [normCell_setCell sqrt _ _ hs hnz htt]

/-! ### orientation -/

/-- orientation keeps mesh, component count, mapping and validity; it carries no unit; the labels
are kept if there are any (or the field is a scalar field) — a vector field without labels comes
back with the constructor's default labels, because the getter passes `vdims=None` on -/
theorem orientation_frame (atol : Rat) (f : Fld) :
    (orientation sqrt atol f).mesh = f.mesh ∧ (orientation sqrt atol f).nvdim = f.nvdim ∧
    (orientation sqrt atol f).vdims = orientVdims f ∧
    (f.vdims ≠ none ∨ f.nvdim = 1 → (orientation sqrt atol f).vdims = f.vdims) ∧
    (orientation sqrt atol f).vmap = f.vmap ∧
    (orientation sqrt atol f).unit = none ∧
    (∀ i, (orientation sqrt atol f).valid.get i = f.valid.get i) ∧
    ∀ i, ((orientation sqrt atol f).data.get i).length = (f.data.get i).length := by
  refine ⟨rfl, rfl, rfl, fun h => ?_, rfl, rfl, fun _ => rfl, fun i => ?_⟩
  · show orientVdims f = f.vdims
    cases hv : f.vdims with
    | some l => exact orientVdims_some hv
    | none =>
      rw [orientVdims_none hv]
      rcases h with h | h
      · exact absurd hv h
      · simp [Fld.defaultVdims, h]
  · exact orientCell_length sqrt atol _

/-- **unit length wherever the field is non-zero** (norm above the absolute threshold) -/
theorem orientation_unit (atol : Rat) (h0 : 0 ≤ atol) (f : Fld) (i : List Nat)
    (hs : SqrtAt sqrt (sqLen (f.data.get i))) (hat : atol < normCell sqrt (f.data.get i)) :
    sqLen ((orientation sqrt atol f).data.get i) = 1 :=
  orientCell_unit sqrt atol _ h0 hs hat

/-- **zero elsewhere**: lengths up to the threshold count as zero -/
theorem orientation_zero (atol : Rat) (f : Fld) (i : List Nat)
    (hs : SqrtAt sqrt (sqLen (f.data.get i))) (hle : normCell sqrt (f.data.get i) ≤ atol) :
    (orientation sqrt atol f).data.get i = zeros (f.data.get i) :=
  orientCell_zero_le sqrt atol _ hs hle

/-- **orientation times norm reproduces the field** (cell-wise product of the two arrays)
on every cell that is above the threshold or exactly zero -/
theorem orientation_times_norm (atol : Rat) (h0 : 0 ≤ atol) (hz : SqrtAt sqrt 0) (f : Fld)
    (i : List Nat)
    (h : atol < normCell sqrt (f.data.get i) ∨ ∀ x ∈ f.data.get i, x = 0) :
    ((orientation sqrt atol f).data.get i).map
        (fun x => x * ((norm sqrt f).data.get i).getD 0 0) = f.data.get i :=
  orientCell_times_norm sqrt atol _ h0 hz h

/-- above the threshold, orientation is the field with its norm set to 1 -/
theorem orientation_eq_setNorm_one (atol : Rat) (h0 : 0 ≤ atol) (f g : Fld)
    (h : setNorm sqrt f (some (.const 1)) = .ok g) (i : List Nat)
    (hat : atol < normCell sqrt (f.data.get i)) :
    (orientation sqrt atol f).data.get i = g.data.get i := by
  rw [setNorm_get (asArray1_const f.mesh 1) h]
  exact orientCell_eq_setCell_one sqrt atol _ h0 hat

/-- **unchanged direction** at field level: wherever the old length and the target both
exceed the threshold, the orientation field is the same before and after the assignment -/
theorem setNorm_keeps_orientation (atol : Rat) (h0 : 0 ≤ atol) (f g : Fld) (s : NSpec) (t : NDA Rat)
    (ht : asArray1 f.mesh s = .ok t) (h : setNorm sqrt f (some s) = .ok g) (i : List Nat)
    (hs : SqrtAt sqrt (sqLen (f.data.get i))) (htt : SqrtAt sqrt (t.get i * t.get i))
    (hat : atol < normCell sqrt (f.data.get i)) (hta : atol < t.get i) :
    (orientation sqrt atol g).data.get i = (orientation sqrt atol f).data.get i := by
  show orientCell sqrt atol (g.data.get i) = _
  rw [setNorm_get ht h]
  exact orientCell_setCell sqrt atol _ _ h0 hs htt hat hta

/-! ### constructor order, `valid="norm"`, later updates -/

/-- **Constructor order values → norm → validity**: the array of `Field(mesh, nvdim,
value, norm=s, valid=…)` is the value array rescaled cell by cell to the norm's targets,
and the validity is what the `valid` specification yields on that *final* array. -/
theorem mk_order (atol : Rat) (m : Mesh) (nvdim : Nat) (value : VSpec) (s : NSpec)
    (valid : ValidSpec) (unit : Option String) (g : Fld)
    (h : mk? sqrt atol m nvdim value (some s) valid unit = .ok g) :
    ∃ a t, valuesOf m nvdim value = .ok a ∧ asArray1 m s = .ok t ∧
      (∀ i, g.data.get i = setCell sqrt (a.get i) (t.get i)) ∧
      validOf sqrt atol g valid = .ok g.valid ∧
      g.mesh = m ∧ g.nvdim = nvdim ∧ g.unit = unit := by
  obtain ⟨_, a, ha, f1, h1, vd, hvd, rfl⟩ := mk_ok h
  obtain ⟨t, ht, rfl⟩ := setNorm_some_ok h1
  refine ⟨a, t, ha, ht, fun _ => rfl, ?_, rfl, rfl, rfl⟩
  cases valid <;> exact hvd

/-- without a norm the constructor stores the values as they are -/
theorem mk_no_norm (atol : Rat) (m : Mesh) (nvdim : Nat) (value : VSpec)
    (valid : ValidSpec) (unit : Option String) (g : Fld)
    (h : mk? sqrt atol m nvdim value none valid unit = .ok g) :
    ∃ a, valuesOf m nvdim value = .ok a ∧ ∀ i, g.data.get i = a.get i := by
  obtain ⟨_, a, ha, f1, h1, vd, hvd, rfl⟩ := mk_ok h
  rw [setNorm_none] at h1
  simp only [Except.ok.injEq] at h1
  subst h1
  exact ⟨a, ha, fun _ => rfl⟩

/-- **`valid="norm"` sees the array after the norm was applied**: a cell is valid iff its
value vector was non-zero *and* its target norm exceeds the threshold in absolute value. -/
theorem mk_valid_byNorm (atol : Rat) (h0 : 0 ≤ atol) (m : Mesh) (nvdim : Nat) (value : VSpec)
    (s : NSpec) (unit : Option String) (g : Fld) (a : NDA (List Rat)) (t : NDA Rat)
    (h : mk? sqrt atol m nvdim value (some s) .byNorm unit = .ok g)
    (ha : valuesOf m nvdim value = .ok a) (ht : asArray1 m s = .ok t) (i : List Nat)
    (hs : SqrtAt sqrt (sqLen (a.get i))) (hz : SqrtAt sqrt 0)
    (htt : SqrtAt sqrt (t.get i * t.get i)) :
    g.valid.get i = true ↔ sqLen (a.get i) ≠ 0 ∧ atol < |t.get i| := by
  obtain ⟨_, a', ha', f1, h1, vd, hvd, rfl⟩ := mk_ok h
  rw [ha] at ha'; cases ha'
  cases hvd
  show (!closeZero atol (normCell sqrt (f1.data.get i))) = true ↔ _
  rw [setNorm_get (f := { blank m nvdim unit with data := a }) ht h1 i, closeZero_eq]
  by_cases hnz : sqLen (a.get i) = 0
  · rw [setCell_zero sqrt _ _ hz ((sqLen_eq_zero_iff _).mp hnz), normCell_eq_zero hz (sqLen_zeros _)]
    simp [hnz, h0]
  · rw [normCell_setCell sqrt _ _ hs hnz htt]
    simp [hnz]

/-- **Later value updates do not re-apply an earlier norm**: after
`Field(…, norm=s)`, `update_field_values(v')` stores exactly the array `v'` evaluates to
(nothing is rescaled), and leaves the validity alone. -/
theorem update_forgets_norm (atol : Rat) (m : Mesh) (nvdim : Nat) (value value' : VSpec)
    (s : Option NSpec) (valid : ValidSpec) (unit : Option String) (g g' : Fld)
    (h : mk? sqrt atol m nvdim value s valid unit = .ok g)
    (hu : updateValues g value' = .ok g') :
    ∃ a', valuesOf m nvdim value' = .ok a' ∧ (∀ i, g'.data.get i = a'.get i) ∧
      g'.valid = g.valid ∧ g'.mesh = m := by
  obtain ⟨_, a, ha, f1, h1, vd, hvd, rfl⟩ := mk_ok h
  obtain ⟨a', ha', rfl⟩ := updateValues_ok hu
  obtain ⟨hm, hn, _⟩ := setNorm_frame sqrt _ f1 s h1
  refine ⟨a', ?_, fun _ => rfl, rfl, hm⟩
  have e1 : f1.mesh = m := hm
  have e2 : f1.nvdim = nvdim := hn
  simpa [e1, e2] using ha'

/-- … in particular the norm read after the update is the norm of the new values, not the
norm set earlier -/
theorem norm_after_update (atol : Rat) (m : Mesh) (nvdim : Nat) (value value' : VSpec)
    (s : Option NSpec) (valid : ValidSpec) (unit : Option String) (g g' : Fld) (a' : NDA (List Rat))
    (h : mk? sqrt atol m nvdim value s valid unit = .ok g)
    (hu : updateValues g value' = .ok g') (ha' : valuesOf m nvdim value' = .ok a') (i : List Nat) :
    (norm sqrt g').data.get i = [normCell sqrt (a'.get i)] := by
  obtain ⟨b, hb, hget, _, _⟩ := update_forgets_norm sqrt atol m nvdim value value' s valid unit g g' h hu
  rw [ha'] at hb; cases hb
  show [normCell sqrt (g'.data.get i)] = _
  rw [hget i]

end Fields

/-! ### non-vacuity of the field-level hypotheses: a concrete constructor call succeeds -/

example : ∃ g, mk? sqrtQ atolDefault
    { region := { pmin := [0], pmax := [2], dims := ["x"], units := ["m"], tol := 0 },
      n := [2], bc := "", subs := [] } 2 (.vec [3, 4]) (some (.const 10)) .byNorm none = .ok g :=
  ⟨_, rfl⟩

/-! ## Validity, the getter as a constructor call, fields as norm, histories, acceptance -/
section Histories
variable (sqrt : Rat → Rat)

/-- **validity does not enter the norm setter**: the array after `field.norm = s` is the same
whatever the validity mask of the receiver is — masked cells are rescaled like all others -/
theorem setNorm_ignores_valid (f g : Fld) (vd : NDA Bool) (s : NSpec)
    (h : setNorm sqrt f (some s) = .ok g) :
    ∃ g', setNorm sqrt { f with valid := vd } (some s) = .ok g' ∧ g'.data = g.data ∧ g'.valid = vd := by
  obtain ⟨t, ht, rfl⟩ := setNorm_some_ok h
  exact ⟨_, setNorm_of_target (f := { f with valid := vd }) ht, rfl, rfl⟩

/-- … in particular an *invalid* cell with a non-zero vector ends with squared length `t_i²` -/
theorem setNorm_rescales_invalid (f g : Fld) (s : NSpec) (t : NDA Rat)
    (ht : asArray1 f.mesh s = .ok t) (h : setNorm sqrt f (some s) = .ok g) (i : List Nat)
    (hinv : f.valid.get i = false) (hs : SqrtAt sqrt (sqLen (f.data.get i)))
    (hnz : sqLen (f.data.get i) ≠ 0) :
    sqLen (g.data.get i) = t.get i * t.get i ∧ g.valid.get i = false := by
  rw [setNorm_get ht h, (setNorm_frame sqrt f g _ h).2.2.1]
  exact ⟨setCell_sqLen sqrt _ _ hs hnz, hinv⟩

/-- **constructor: the validity argument does not influence the array** (`norm=` is applied
to every cell before `valid=` is looked at) -/
theorem mk_data_ignores_valid (atol : Rat) (m : Mesh) (nvdim : Nat) (value : VSpec) (s : Option NSpec)
    (valid valid' : ValidSpec) (unit : Option String) (g g' : Fld)
    (h : mk? sqrt atol m nvdim value s valid unit = .ok g)
    (h' : mk? sqrt atol m nvdim value s valid' unit = .ok g') : g'.data = g.data := by
  obtain ⟨_, a, ha, f1, h1, vd, _, rfl⟩ := mk_ok h
  obtain ⟨_, a', ha', f1', h1', vd', _, rfl⟩ := mk_ok h'
  rw [ha] at ha'; cases ha'
  rw [h1] at h1'; cases h1'
  rfl

/-- **the norm getter is a constructor call** (`Field(mesh, nvdim=1, value=res, unit=…,
valid=self.valid)` with `res` the per-cell lengths): on a field whose validity array has the
mesh's shape that call is accepted and returns exactly `norm` -/
theorem norm_is_ctor_call (atol : Rat) (f : Fld) (hv : f.valid.shape = f.mesh.n) :
    mk? sqrt atol f.mesh 1 (.arr ⟨f.mesh.n, fun i => [normCell sqrt (f.data.get i)]⟩) none
      (.arr f.valid) f.unit = .ok (norm sqrt f) := by
  rw [mk?_arrays sqrt atol f.mesh 1 le_rfl _ (fun _ _ => rfl) f.valid hv]
  simp [norm, Fld.defaultVdims, defaultVmap]

/-! ### a field as norm -/

/-- **norm given as a field**: if the assignment is accepted, cell `i` is rescaled to the value
of the norm field at the cell containing the centre of cell `i` (a centre on a face goes
to the cell above) -/
theorem setNorm_field (f g h : Fld) (hm : f.mesh.Inv) (hh : h.mesh.Inv)
    (hg : setNorm sqrt f (some (.field h)) = .ok g) (i : List Nat)
    (hi : ∀ a, a < f.mesh.ndim → i.getD a 0 < f.mesh.nAt a)
    (hs : SqrtAt sqrt (sqLen (f.data.get i))) (h0 : SqrtAt sqrt 0) :
    Rescaled (f.data.get i) (g.data.get i)
      ((h.data.get (tab f.mesh.ndim fun a => h.mesh.indexAx a ((f.mesh.centre i).getD a 0))).getD 0 0) := by
  -- the receiver's mesh need not be well-formed: `hm` plays no part in the proof
  have _ := hm
  obtain ⟨t, ht, _⟩ := setNorm_some_ok hg
  have ht' : fieldAsArray1 f.mesh h = .ok t := ht
  rw [← fieldAsArray1_get ht' hh i hi]
  exact setNorm_rescaled sqrt f g (.field h) t ht hg i hs h0

/-- a one-component field **on the receiver's own mesh** is always accepted; cell `i` is
rescaled to that field's value at cell `i` -/
theorem setNorm_field_same_mesh (f h : Fld) (hm : f.mesh.Inv) (hmesh : h.mesh = f.mesh)
    (hnv : h.nvdim = 1) :
    ∃ g, setNorm sqrt f (some (.field h)) = .ok g ∧
      ∀ i : List Nat, i.length = f.mesh.ndim → (∀ a, a < f.mesh.ndim → i.getD a 0 < f.mesh.nAt a) →
        SqrtAt sqrt (sqLen (f.data.get i)) → SqrtAt sqrt 0 →
        Rescaled (f.data.get i) (g.data.get i) ((h.data.get i).getD 0 0) := by
  obtain ⟨t, ht, _, hget⟩ := fieldAsArray1_same f.mesh h hm hmesh hnv
  obtain ⟨g, hg, hr⟩ := setNorm_of_target_rescaled sqrt f (.field h) t ht
  exact ⟨g, hg, fun i hl hi hs h0 => hget i hl hi ▸ hr i hs h0⟩

/-- **refusals**: a vector field, or a field whose region does not contain the receiver's,
is rejected as norm -/
theorem setNorm_field_rejected (f h : Fld)
    (hbad : h.nvdim ≠ 1 ∨ h.mesh.region.containsReg f.mesh.region = false) :
    setNorm sqrt f (some (.field h)) = .error .value := by
  simp only [setNorm, (asArray1_field_value_iff f.mesh h).mpr hbad.symm]

/-- **array-likes: complete acceptance rule** of `_as_array(·, nvdim=1)`: accepted iff the shape
is the mesh's, or the last axis has length 1 and the shape broadcasts to `(*mesh.n, 1)` -/
theorem asArray1_arr_ok_iff (m : Mesh) (a : NDA Rat) :
    (∃ t, asArray1 m (.arr a) = .ok t) ↔
      a.shape = m.n ∨ (a.shape.getLast? = some 1 ∧ bcastOk a.shape (m.n ++ [1]) = true) := by
  exact bcastArr_ok_iff m a

/-! ### histories -/

/-- **frame over histories**: whatever a program of norm assignments, value updates and
validity assignments does, mesh, component count, unit, labels and mapping stay -/
theorem run_frame (atol : Rat) (hist : List Step) (f g : Fld) (h : run sqrt atol f hist = .ok g) :
    g.mesh = f.mesh ∧ g.nvdim = f.nvdim ∧ g.unit = f.unit ∧ g.vdims = f.vdims ∧ g.vmap = f.vmap := by
  induction hist generalizing f with
  | nil =>
    cases h; exact ⟨rfl, rfl, rfl, rfl, rfl⟩
  | cons s rest ih =>
    obtain ⟨f1, h1, hr⟩ := run_cons_ok h
    obtain ⟨a1, a2, a3, a4, a5⟩ := step_frame h1
    obtain ⟨b1, b2, b3, b4, b5⟩ := ih f1 hr
    exact ⟨b1.trans a1, b2.trans a2, b3.trans a3, b4.trans a4, b5.trans a5⟩

/-- **later value updates do not re-apply an earlier norm, over every history**: after any
program — any number of norm assignments among them — `update_field_values(v)` stores
exactly the array `v` evaluates to on the field's mesh, and leaves the validity as the
history before it left it -/
theorem run_update_last (atol : Rat) (hist : List Step) (f g : Fld) (v : VSpec)
    (h : run sqrt atol f (hist ++ [.update v]) = .ok g) :
    ∃ a g0, valuesOf f.mesh f.nvdim v = .ok a ∧ g.data = a ∧
      run sqrt atol f hist = .ok g0 ∧ g.valid = g0.valid := by
  obtain ⟨g0, h0, h1⟩ := run_append_ok hist [.update v] h
  obtain ⟨g1, hs, hr⟩ := run_cons_ok h1
  cases hr
  obtain ⟨a, ha, rfl⟩ := updateValues_ok (show updateValues g0 v = .ok _ from hs)
  obtain ⟨e1, e2, _⟩ := run_frame sqrt atol hist f g0 h0
  exact ⟨a, g0, by rw [← e1, ← e2]; exact ha, rfl, h0, rfl⟩

/-- **validity never enters the array, over every history**: deleting all validity
assignments from a program and starting from any validity mask gives the same array -/
theorem run_ignores_valid (atol : Rat) (hist : List Step) (f g : Fld) (vd : NDA Bool)
    (h : run sqrt atol f hist = .ok g) :
    ∃ g', run sqrt atol { f with valid := vd } (hist.filter fun s => !isSetValid s) = .ok g' ∧
      g'.data = g.data ∧ g'.valid = vd := by
  obtain ⟨g', hg', hs, hv⟩ := run_sameArr hist (f := f) (f' := { f with valid := vd }) ⟨rfl, rfl, rfl⟩ h
  exact ⟨g', hg', hs.2.2.symm, hv⟩

/-- **the constructor is the three-statement history values → norm → validity** on the blank
field (then the default labels are attached): every theorem about histories speaks about
`Field(mesh, nvdim, value, norm=…, valid=…)` too -/
theorem mk_eq_run (atol : Rat) (m : Mesh) (nvdim : Nat) (hn : 1 ≤ nvdim) (value : VSpec)
    (nrm : Option NSpec) (valid : ValidSpec) (unit : Option String) :
    mk? sqrt atol m nvdim value nrm valid unit =
      match run sqrt atol (blank m nvdim unit) [.update value, .setNorm nrm, .setValid valid] with
      | .error e => .error e
      | .ok f2 => .ok { f2 with vdims := Fld.defaultVdims nvdim, vmap := defaultVmap nvdim m.region.dims } :=
  mk?_eq_run sqrt atol m nvdim hn value nrm valid unit

/-- **acceptance over histories**: on a well-formed mesh every program whose statements are
well-formed for that mesh and component count runs to the end (no hidden refusal) -/
theorem run_accepts (atol : Rat) (hist : List Step) (f : Fld) (hm : f.mesh.Inv)
    (hwf : ∀ s ∈ hist, s.WF f.mesh f.nvdim) : ∃ g, run sqrt atol f hist = .ok g :=
  (run_ok_iff sqrt atol hist f).mpr fun s hs => (hwf s hs).accepted hm

/-- **the constructor accepts every well-formed call**: `nvdim ≥ 1`, values, norm and validity
well-formed for the mesh -/
theorem mk_accepts (atol : Rat) (m : Mesh) (hm : m.Inv) (nvdim : Nat) (hn : 1 ≤ nvdim) (value : VSpec)
    (hv : value.WF m nvdim) (nrm : Option NSpec) (hs : ∀ s, nrm = some s → s.WF m)
    (valid : ValidSpec) (hvd : valid.WF m) (unit : Option String) :
    ∃ g, mk? sqrt atol m nvdim value nrm valid unit = .ok g :=
  (mk_ok_iff sqrt atol m nvdim value nrm valid unit).mpr
    ⟨hn, hv.accepted, fun s e => (hs s e).accepted hm, hvd.accepted⟩

/-- **refusals of the constructor**, in the order the code checks: `nvdim < 1`; else a value
vector of the wrong length (that is not a per-cell sequence on a 1-d scalar mesh); else — the
values being acceptable — a norm array whose shape is not the mesh's and whose last axis is
not 1, a vector field as norm, or a norm field on a region that does not contain the mesh's -/
theorem mk_rejected (atol : Rat) (m : Mesh) (nvdim : Nat) (value : VSpec)
    (nrm : Option NSpec) (valid : ValidSpec) (unit : Option String)
    (h : nvdim < 1 ∨
      (∃ v, value = .vec v ∧ v.length ≠ nvdim ∧ ¬(nvdim = 1 ∧ m.n = [v.length])) ∨
      ((∃ a, valuesOf m nvdim value = .ok a) ∧
        ((∃ a, nrm = some (.arr a) ∧ a.shape ≠ m.n ∧ a.shape.getLast? ≠ some 1) ∨
         (∃ hf, nrm = some (.field hf) ∧
            (hf.nvdim ≠ 1 ∨ hf.mesh.region.containsReg m.region = false))))) :
    ∃ e, mk? sqrt atol m nvdim value nrm valid unit = .error e := by
  -- each alternative contradicts one clause of the acceptance rule `mk_ok_iff`
  refine err_of_not_ok _ fun g hg => ?_
  obtain ⟨hn, hv, hs, _⟩ := (mk_ok_iff sqrt atol m nvdim value nrm valid unit).mp ⟨g, hg⟩
  rcases h with h | ⟨v, rfl, hl, hs'⟩ | ⟨_, ⟨b, rfl, h1, h2⟩ | ⟨hf, rfl, hbad⟩⟩
  · omega
  · exact hv.elim hs' hl
  · rcases hs _ rfl with e | ⟨e, _⟩
    · exact h1 e
    · exact h2 e
  · obtain ⟨hc, hnv, _⟩ := hs _ rfl
    rcases hbad with hb | hb
    · exact hb hnv
    · rw [hc] at hb; cases hb

end Histories

/-! ### non-vacuity of the history theorems: a well-formed program on a well-formed mesh -/

example : exMesh.Inv := exMesh_inv
example : ∀ s ∈ [Step.setNorm (some (.const 2)), .setValid .byNorm, .update (.vec [3, 4]),
      .setNorm (some (.arr ⟨[2], fun _ => 5⟩)), .setNorm none],
    s.WF exMesh 2 := by
  intro s hs
  simp only [List.mem_cons, List.not_mem_nil, or_false] at hs
  rcases hs with rfl | rfl | rfl | rfl | rfl
  · trivial
  · trivial
  · rfl
  · exact Or.inl rfl
  · trivial
example : ∃ g, run sqrtQ atolDefault (blank exMesh 2 none)
    [.update (.vec [3, 4]), .setNorm (some (.const 10)), .setValid .byNorm] = .ok g := ⟨_, rfl⟩

/-- a field on the same mesh is a well-formed norm -/
example : (NSpec.field (blank exMesh 1 none)).WF exMesh := ⟨rfl, rfl⟩

/-- a norm field on a coarser mesh over the same region is accepted (one cell of width 2
under two cells of width 1) -/
example : ∃ t, fieldAsArray1 exMesh
    (blank { exMesh with n := [1] } 1 none) = .ok t := ⟨_, rfl⟩
example : ({ exMesh with n := [1] } : Mesh).Inv := C01.mesh_inv_of_invB _ (by decide +kernel)

/-- a vector field as norm meets the refusal hypothesis -/
example : (blank exMesh 2 none).nvdim ≠ 1 ∨
    (blank exMesh 2 none).mesh.region.containsReg exMesh.region = false := Or.inl (by decide)
example : (blank exMesh 3 none).valid.shape = (blank exMesh 3 none).mesh.n := rfl
example : ∃ g, mk? sqrtQ atolDefault exMesh 2 (.vec [3, 4]) (some (.field (blank exMesh 1 none))) .byNorm none = .ok g :=
  mk_accepts sqrtQ atolDefault exMesh exMesh_inv 2 (by omega) (.vec [3, 4]) rfl _
    (fun s hs => by cases hs; exact ⟨rfl, rfl⟩) .byNorm trivial none

/-! ## The executable model itself (`sqrt := sqrtQ`, what the driver runs)

On every cell whose length is rational — all scaled Pythagorean vectors of the
correspondence run — the hypotheses about `sqrt` are theorems, not assumptions. -/
section Driver

/-- the model the driver runs rescales every rational-length cell as the property says,
for every kind of norm specification -/
theorem driver_setNorm_rescaled (f g : Fld) (s : NSpec) (t : NDA Rat)
    (ht : asArray1 f.mesh s = .ok t) (h : setNorm sqrtQ f (some s) = .ok g) (i : List Nat)
    (hr : ∃ q : Rat, sqLen (f.data.get i) = q * q) :
    Rescaled (f.data.get i) (g.data.get i) (t.get i) :=
  setNorm_rescaled sqrtQ f g s t ht h i (sqrtQ_sqrtAt_of_isSquare hr) sqrtQ_zero

/-- … its norm getter returns exactly the rational length `|q|` -/
theorem driver_norm_exact (f : Fld) (i : List Nat) (q : Rat) (hr : sqLen (f.data.get i) = q * q) :
    (norm sqrtQ f).data.get i = [|q|] := by
  show [normCell sqrtQ (f.data.get i)] = _
  rw [normCell_of_sq hr (sqrtQ_sqrtAt q)]

/-- … and its orientation is zero at or below the threshold, a unit vector above it -/
theorem driver_orientation_dichotomy (atol : Rat) (h0 : 0 ≤ atol) (f : Fld) (i : List Nat) (q : Rat)
    (hr : sqLen (f.data.get i) = q * q) :
    (|q| ≤ atol ∧ (orientation sqrtQ atol f).data.get i = zeros (f.data.get i)) ∨
    (atol < |q| ∧ sqLen ((orientation sqrtQ atol f).data.get i) = 1) := by
  have hn : normCell sqrtQ (f.data.get i) = |q| := normCell_of_sq hr (sqrtQ_sqrtAt q)
  have := orientCell_dichotomy sqrtQ atol (f.data.get i) h0 (sqrtQ_sqrtAt_of_isSquare ⟨q, hr⟩)
  rw [hn] at this
  exact this

end Driver

/-! ## Real fields: `Real.sqrt`, no side condition -/
section Real

/-- for real vectors the setter's promise holds unconditionally -/
theorem real_setCell_rescaled (v : List ℝ) (t : ℝ) : Rescaled v (setCell Real.sqrt v t) t :=
  setCell_rescaled Real.sqrt v t (real_sqrtAt_sqLen v) real_sqrtAt_zero

/-- real vectors: the norm read back after the setter is `|t|` on non-zero cells -/
theorem real_normCell_setCell (v : List ℝ) (t : ℝ) (hnz : sqLen v ≠ 0) :
    normCell Real.sqrt (setCell Real.sqrt v t) = |t| :=
  normCell_setCell Real.sqrt v t (real_sqrtAt_sqLen v) hnz (real_sqrtAt_mul_self t)

/-- real vectors: the orientation is zero up to the threshold and a unit vector above it -/
theorem real_orientCell_dichotomy (atol : ℝ) (h0 : 0 ≤ atol) (v : List ℝ) :
    (normCell Real.sqrt v ≤ atol ∧ orientCell Real.sqrt atol v = zeros v) ∨
    (atol < normCell Real.sqrt v ∧ sqLen (orientCell Real.sqrt atol v) = 1) :=
  orientCell_dichotomy Real.sqrt atol v h0 (real_sqrtAt_sqLen v)

/-- real vectors: orientation × norm reproduces the vector above the threshold and at zero -/
theorem real_orientCell_times_norm (atol : ℝ) (h0 : 0 ≤ atol) (v : List ℝ)
    (h : atol < normCell Real.sqrt v ∨ ∀ x ∈ v, x = 0) :
    (orientCell Real.sqrt atol v).map (fun x => x * normCell Real.sqrt v) = v :=
  orientCell_times_norm Real.sqrt atol v h0 real_sqrtAt_zero h

end Real

/-! ## Complex fields -/
section Complex
variable {K : Type} [Field K] [LinearOrder K] [IsStrictOrderedRing K]

/-- **complex fields are real fields with twice as many components**: the norm of a complex
cell is the norm of its `(re, im)` view, and the setter and the orientation commute with
the view — so every theorem above about `setCell`, `normCell`, `orientCell` speaks about
complex fields as well -/
theorem complex_view (sqrt : K → K) (atol : K) (v : List (K × K)) (t : K) :
    cNormCell sqrt v = normCell sqrt (flattenC v) ∧
    flattenC (cSetCell sqrt v t) = setCell sqrt (flattenC v) t ∧
    flattenC (cOrientCell sqrt atol v) = orientCell sqrt atol (flattenC v) := by
  have hn : cNormCell sqrt v = normCell sqrt (flattenC v) := by
    unfold cNormCell normCell; rw [sqLen_flattenC]
  refine ⟨hn, ?_, ?_⟩
  · unfold cSetCell setCell divWhere
    rw [← hn]
    have e : (fun z : K × K => cmul z (t, 0)) = fun z => ((fun x => x * t) z.1, (fun x => x * t) z.2) := by
      funext z; exact cmul_real z t
    rw [e, flattenC_map (fun x => x * t)]
    congr 1
    exact flattenC_ite _ _ v
  · unfold cOrientCell orientCell
    rw [← hn]
    exact flattenC_ite _ _ v

/-- **complex fields, the property's sentence**: a non-zero complex cell ends with
`Σ|z_c|² = t²`, every component multiplied by the same positive real factor `t/‖v‖`
(so the phase of every component and the direction are kept); a zero cell stays zero -/
theorem complex_setCell (sqrt : K → K) (v : List (K × K)) (t : K)
    (hs : SqrtAt sqrt (cSqLen v)) (h0 : SqrtAt sqrt 0) :
    (cSqLen v ≠ 0 → cSqLen (cSetCell sqrt v t) = t * t ∧
      cSetCell sqrt v t = v.map fun z => (t / sqrt (cSqLen v) * z.1, t / sqrt (cSqLen v) * z.2)) ∧
    (cSqLen v = 0 → cSetCell sqrt v t = v.map fun _ => (0, 0)) := by
  obtain ⟨_, hset, _⟩ := complex_view sqrt 0 v t
  constructor
  · intro hnz
    have hs' : SqrtAt sqrt (sqLen (flattenC v)) := by rw [sqLen_flattenC]; exact hs
    have hnz' : sqLen (flattenC v) ≠ 0 := by rw [sqLen_flattenC]; exact hnz
    refine ⟨?_, ?_⟩
    · rw [← sqLen_flattenC, hset]; exact setCell_sqLen sqrt _ t hs' hnz'
    · have hne : cNormCell sqrt v ≠ 0 := (hs.pos hnz).ne'
      unfold cSetCell
      rw [if_neg hne, List.map_map]
      apply List.map_congr_left
      intro z _
      simp only [Function.comp, cmul_real]
      unfold cNormCell
      have : sqrt (cSqLen v) ≠ 0 := hne
      rw [Prod.mk.injEq]; constructor <;> field_simp
  · intro hz
    have hn : cNormCell sqrt v = 0 := by unfold cNormCell; rw [hz]; exact h0.zero
    unfold cSetCell
    rw [if_pos hn, List.map_map]
    apply List.map_congr_left
    intro z _
    simp [cmul]

end Complex

/-- the complex cell (3+4i, 0) set to norm 10 is (6+8i, 0) -/
example : cSetCell sqrtQ [((3 : Rat), (4 : Rat)), (0, 0)] 10 = [(6, 8), (0, 0)] := by
  have hl : cSqLen [((3 : Rat), (4 : Rat)), (0, 0)] = 5 * 5 := by norm_num [cSqLen]
  have := (complex_setCell sqrtQ [((3 : Rat), (4 : Rat)), (0, 0)] 10 (by rw [hl]; exact sqrtQ_sqrtAt 5)
    sqrtQ_zero).1 (by rw [hl]; norm_num)
  rw [this.2, hl, sqrtQ_mul_self]
  norm_num

/-! ## Rounded arithmetic: the kernel as the code computes it -/
section Rounded
variable {K : Type} [Field K] [LinearOrder K] [IsStrictOrderedRing K]

/-- with `fl := id` the rounded kernel is the exact kernel the driver runs (norm, setter,
orientation), so the rounded definitions are a conservative extension of the model that
is tied to the code -/
theorem flKernel_id (sqrt : K → K) (atol : K) (v : List K) (t : K) :
    flNormCell id sqrt v = normCell sqrt v ∧ flSetCell id sqrt v t = setCell sqrt v t ∧
    flOrientCell id sqrt atol v = orientCell sqrt atol v := by
  have hn : flNormCell id sqrt v = normCell sqrt v := by
    unfold flNormCell normCell; rw [flSqLen_id]; rfl
  refine ⟨hn, ?_, ?_⟩
  · unfold flSetCell setCell divWhere
    rw [hn]; rfl
  · unfold flOrientCell orientCell
    rw [hn]; rfl

/-- **computed norm** (`np.linalg.norm`: rounded squares, rounded sums, rounded root): for
cells of at most four components it is within `15/4·u` of the length — below the `4u`
comparator of the correspondence run -/
theorem flNorm_rel_err (fl sqrt : K → K) (u : K) (h : FlOk fl u) (hu : u ≤ 1 / 1024) (v : List K)
    (hlen : v.length ≤ 4) (hs : SqrtAt sqrt (sqLen v)) (hs' : SqrtAt sqrt (flSqLen fl v)) :
    |flNormCell fl sqrt v - normCell sqrt v| ≤ 15 / 4 * u * normCell sqrt v := by
  have := ((flNormCell_rel h hu v hs hs').mono (show v.length + 3 ≤ 7 by omega)).le_lit h.1 hu (15 / 4)
    (by norm_num) (by norm_num)
  rwa [abs_of_nonneg (normCell_nonneg hs)] at this

/-- … and its square is within `8u` of `Σ_c v_c²` (the oracle's bound on the norm getter) -/
theorem flNorm_sq_err (fl sqrt : K → K) (u : K) (h : FlOk fl u) (hu : u ≤ 1 / 1024) (v : List K)
    (hlen : v.length ≤ 4) (hs : SqrtAt sqrt (sqLen v)) (hs' : SqrtAt sqrt (flSqLen fl v)) :
    |flNormCell fl sqrt v * flNormCell fl sqrt v - sqLen v| ≤ 8 * u * sqLen v := by
  have r := flNormCell_rel h hu v hs hs'
  have := ((r.mul r).mono (show v.length + 3 + (v.length + 3) ≤ 14 by omega)).le_lit h.1 hu 8
    (by norm_num) (by norm_num)
  rwa [normCell_mul_self hs, abs_of_nonneg (sqLen_nonneg v)] at this

/-- **the setter's zero guard survives rounding and is per cell**: the computed norm is zero
exactly when every component is zero, so a zero cell stays exactly zero and every other
cell — however small its components — goes through the division -/
theorem flSetCell_guard (fl sqrt : K → K) (u : K) (h : FlOk fl u) (hu : u ≤ 1 / 1024) (v : List K)
    (t : K) (hlen : v.length ≤ 4) (hs' : SqrtAt sqrt (flSqLen fl v)) :
    ((∀ x ∈ v, x = 0) → flSetCell fl sqrt v t = zeros v) ∧
    ((∃ x ∈ v, x ≠ 0) →
      flSetCell fl sqrt v t = v.map fun x => fl (fl (x / flNormCell fl sqrt v) * t)) := by
  -- the guard is exact for any number of components: `hlen` plays no part in the proof
  have _ := hlen
  have hz := flNormCell_eq_zero h hu v hs'
  exact ⟨fun hv => flSetCell_of_eq h t (hz.mpr ((sqLen_eq_zero_iff v).mpr hv)),
    fun ⟨x, hx, hne⟩ => flSetCell_of_ne t fun e => hne ((sqLen_eq_zero_iff v).mp (hz.mp e) x hx)⟩

/-- **computed setter, per component**: every component of a non-zero cell is within `6u` of
the exact `(t/‖v‖)·v_c` — below the `16u` comparator -/
theorem flSetCell_comp_err (fl sqrt : K → K) (u : K) (h : FlOk fl u) (hu : u ≤ 1 / 1024) (v : List K)
    (t : K) (hlen : v.length ≤ 4) (hs : SqrtAt sqrt (sqLen v)) (hs' : SqrtAt sqrt (flSqLen fl v))
    (hnz : sqLen v ≠ 0) :
    ∃ f : K → K, flSetCell fl sqrt v t = v.map f ∧
      ∀ x, |f x - t / normCell sqrt v * x| ≤ 6 * u * |t / normCell sqrt v * x| := by
  have hne : flNormCell fl sqrt v ≠ 0 := fun e => hnz ((flNormCell_eq_zero h hu v hs').mp e)
  exact ⟨_, flSetCell_of_ne t hne, fun x =>
    (((flSetCell_exact_rel h hu v t hs hs' hnz).1 x).mono (show v.length + 7 ≤ 11 by omega)).le_lit h.1 hu 6
      (by norm_num) (by norm_num)⟩

/-- **computed setter, length**: the squared length of the result is within `13u` of `t²`
(oracle bound `16u`) -/
theorem flSetCell_sqLen_err (fl sqrt : K → K) (u : K) (h : FlOk fl u) (hu : u ≤ 1 / 1024)
    (v : List K) (t : K) (hlen : v.length ≤ 4) (hs : SqrtAt sqrt (sqLen v))
    (hs' : SqrtAt sqrt (flSqLen fl v)) (hnz : sqLen v ≠ 0) :
    |sqLen (flSetCell fl sqrt v t) - t * t| ≤ 13 * u * (t * t) := by
  exact (flSetCell_four h hu v t hlen hs hs' hnz).1

/-- **computed setter, direction**: every 2×2 cross term between the result `w` and the old
vector satisfies `|w_a v_b − w_b v_a|·(1 − 6u) ≤ 12u·|w_a v_b|` (so it is below the oracle's
`16u·max(|w_a v_b|, |w_b v_a|)`) -/
theorem flSetCell_cross_err (fl sqrt : K → K) (u : K) (h : FlOk fl u) (hu : u ≤ 1 / 1024)
    (v : List K) (t : K) (hlen : v.length ≤ 4) (hs : SqrtAt sqrt (sqLen v))
    (hs' : SqrtAt sqrt (flSqLen fl v)) (hnz : sqLen v ≠ 0) (a b : Nat) (ha : a < v.length) :
    |(flSetCell fl sqrt v t).getD a 0 * v.getD b 0 - (flSetCell fl sqrt v t).getD b 0 * v.getD a 0|
        * (1 - 6 * u) ≤ 12 * u * |(flSetCell fl sqrt v t).getD a 0 * v.getD b 0| := by
  exact (flSetCell_four h hu v t hlen hs hs' hnz).2.1 a b ha

/-- **computed setter, sense**: for a positive target the result has a positive dot product
with the old vector -/
theorem flSetCell_dot_pos (fl sqrt : K → K) (u : K) (h : FlOk fl u) (hu : u ≤ 1 / 1024)
    (v : List K) (t : K) (hlen : v.length ≤ 4) (hs : SqrtAt sqrt (sqLen v))
    (hs' : SqrtAt sqrt (flSqLen fl v)) (hnz : sqLen v ≠ 0) (ht : 0 < t) :
    0 < dot (flSetCell fl sqrt v t) v := by
  exact (flSetCell_four h hu v t hlen hs hs' hnz).2.2 ht

/-- a zero target gives an exactly zero cell in rounded arithmetic too -/
theorem flSetCell_target_zero (fl sqrt : K → K) (u : K) (h : FlOk fl u) (v : List K) :
    flSetCell fl sqrt v 0 = zeros v := by
  have e : ∀ w : List K, w.map (fun x => fl (x * 0)) = List.replicate w.length 0 := by
    intro w; simp [h.zero]
  unfold flSetCell
  rw [e]
  split <;> simp [zeros]

/-- **computed orientation** above the threshold: every component within `39/8·u` of
`v_c/‖v‖` (comparator `8u`), squared length within `10u` of 1 (oracle `16u`), and
`orientation × computed norm` within **one** rounding of the field (oracle `8u`) -/
theorem flOrientCell_err (fl sqrt : K → K) (u atol : K) (h : FlOk fl u) (hu : u ≤ 1 / 1024)
    (v : List K) (hlen : v.length ≤ 4) (hs : SqrtAt sqrt (sqLen v))
    (hs' : SqrtAt sqrt (flSqLen fl v)) (h0 : 0 ≤ atol) (hat : atol < flNormCell fl sqrt v) :
    ∃ f : K → K, flOrientCell fl sqrt atol v = v.map f ∧
      (∀ x, |f x - x / normCell sqrt v| ≤ 39 / 8 * u * |x / normCell sqrt v|) ∧
      |sqLen (flOrientCell fl sqrt atol v) - 1| ≤ 10 * u ∧
      ∀ x, |f x * flNormCell fl sqrt v - x| ≤ u * |x| := by
  have hnpos : 0 < flNormCell fl sqrt v := lt_of_le_of_lt h0 hat
  have hnz : sqLen v ≠ 0 := fun e => hnpos.ne' ((flNormCell_eq_zero h hu v hs').mpr e)
  obtain ⟨hrel, hsq⟩ := flOrientCell_exact_rel h hu v hs hs' hnz
  have hsq := (hsq.mono (show 2 * (v.length + 5) ≤ 18 by omega)).le_lit h.1 hu 10 (by norm_num) (by norm_num)
  rw [abs_one, mul_one] at hsq
  rw [flOrientCell_of_lt hnpos.le hat]
  exact ⟨_, rfl, fun x => ((hrel x).mono (show v.length + 5 ≤ 9 by omega)).le_lit h.1 hu (39 / 8)
      (by norm_num) (by norm_num), hsq, fun x => times_err hnpos.ne' (h.2 _)⟩

/-- **the orientation's guard under rounding**: a cell whose length is at most
`atol/(1 + 15/4·u)` is zeroed, a cell whose length exceeds `atol/(1 − 15/4·u)` is
normalised; only lengths inside that band of relative width `≈ 7.5u` can go either way
(the harness leaves a band of `64u`) -/
theorem flOrientCell_band (fl sqrt : K → K) (u atol : K) (h : FlOk fl u) (hu : u ≤ 1 / 1024)
    (v : List K) (hlen : v.length ≤ 4) (hs : SqrtAt sqrt (sqLen v))
    (hs' : SqrtAt sqrt (flSqLen fl v)) :
    (normCell sqrt v * (1 + 15 / 4 * u) ≤ atol → flOrientCell fl sqrt atol v = zeros v) ∧
    (atol < normCell sqrt v * (1 - 15 / 4 * u) →
      flOrientCell fl sqrt atol v = v.map fun x => fl (x / flNormCell fl sqrt v)) := by
  exact flOrientCell_band_of (h.nonneg (le_trans hu (by norm_num)) hs'.1)
    (flNorm_rel_err fl sqrt u h hu v hlen hs hs')

end Rounded

/-! ### the rounded kernel over the reals (`Real.sqrt`, no side condition) and over `Rat`
with the shared `Rounding` package -/
section RoundedInst

/-- **real fields, any rounding that obeys the standard model with `u ≤ 2^-10`**: the setter's
result on a non-zero cell of at most four components has squared length within `13u` of
`t²`, every cross term with the old vector is relatively below `12u/(1−6u)`, and for a
positive target the dot product with the old vector is positive — no hypothesis on roots -/
theorem real_flSetCell (fl : ℝ → ℝ) (u : ℝ) (h : FlOk fl u) (hu : u ≤ 1 / 1024) (v : List ℝ) (t : ℝ)
    (hlen : v.length ≤ 4) (hnz : sqLen v ≠ 0) :
    |sqLen (flSetCell fl Real.sqrt v t) - t * t| ≤ 13 * u * (t * t) ∧
    (∀ a b : Nat, a < v.length →
      |(flSetCell fl Real.sqrt v t).getD a 0 * v.getD b 0 - (flSetCell fl Real.sqrt v t).getD b 0 * v.getD a 0|
        * (1 - 6 * u) ≤ 12 * u * |(flSetCell fl Real.sqrt v t).getD a 0 * v.getD b 0|) ∧
    (0 < t → 0 < dot (flSetCell fl Real.sqrt v t) v) := by
  exact flSetCell_four h hu v t hlen (real_sqrtAt_sqLen v) (real_sqrtAt_flSqLen h hu v) hnz

/-- real fields: the computed norm is within `15/4·u` of the Euclidean length and its square
within `8u` of the sum of squares -/
theorem real_flNorm (fl : ℝ → ℝ) (u : ℝ) (h : FlOk fl u) (hu : u ≤ 1 / 1024) (v : List ℝ)
    (hlen : v.length ≤ 4) :
    |flNormCell fl Real.sqrt v - Real.sqrt (sqLen v)| ≤ 15 / 4 * u * Real.sqrt (sqLen v) ∧
    |flNormCell fl Real.sqrt v * flNormCell fl Real.sqrt v - sqLen v| ≤ 8 * u * sqLen v := by
  have hs := real_sqrtAt_sqLen v
  have hs' := real_sqrtAt_flSqLen h hu v
  exact ⟨flNorm_rel_err fl _ u h hu v hlen hs hs', flNorm_sq_err fl _ u h hu v hlen hs hs'⟩

/-- real fields: the computed orientation above the threshold has squared length within `10u`
of 1 and, multiplied with the computed norm, reproduces every component within one rounding -/
theorem real_flOrientCell (fl : ℝ → ℝ) (u atol : ℝ) (h : FlOk fl u) (hu : u ≤ 1 / 1024) (v : List ℝ)
    (hlen : v.length ≤ 4) (h0 : 0 ≤ atol) (hat : atol < flNormCell fl Real.sqrt v) :
    |sqLen (flOrientCell fl Real.sqrt atol v) - 1| ≤ 10 * u ∧
    ∀ a : Nat, |(flOrientCell fl Real.sqrt atol v).getD a 0 * flNormCell fl Real.sqrt v - v.getD a 0| ≤
      u * |v.getD a 0| := by
  obtain ⟨f, hf, _, h2, h3⟩ :=
    flOrientCell_err fl _ u atol h hu v hlen (real_sqrtAt_sqLen v) (real_sqrtAt_flSqLen h hu v) h0 hat
  rw [hf]
  exact ⟨hf ▸ h2, getD_map_times f v _ u h3⟩

/-- the shared hypothesis package `C01.Rounding` (`Lemmas/Rounding.lean`) is an instance of
the standard model used here -/
theorem rounding_flOk (R : C01.Rounding) : FlOk R.fl R.u := ⟨R.u_nonneg, R.err⟩

/-- **rational model with a `Rounding`**: the bounds that justify the harness comparators —
computed norm within `15/4·u` (comparator `4u`), every component of the setter's result
within `6u` of the exact model's (comparator `16u`), squared length within `13u` of `t²`
(oracle `16u`) -/
theorem rounding_flSetCell (R : C01.Rounding) (hu : R.u ≤ 1 / 1024) (sqrt : Rat → Rat) (v : List Rat)
    (t : Rat) (hlen : v.length ≤ 4) (hs : SqrtAt sqrt (sqLen v)) (hs' : SqrtAt sqrt (flSqLen R.fl v))
    (hnz : sqLen v ≠ 0) :
    |flNormCell R.fl sqrt v - normCell sqrt v| ≤ 15 / 4 * R.u * normCell sqrt v ∧
    (∀ a : Nat, |(flSetCell R.fl sqrt v t).getD a 0 - (setCell sqrt v t).getD a 0| ≤
      6 * R.u * |(setCell sqrt v t).getD a 0|) ∧
    |sqLen (flSetCell R.fl sqrt v t) - t * t| ≤ 13 * R.u * (t * t) := by
  have h := rounding_flOk R
  refine ⟨flNorm_rel_err R.fl sqrt R.u h hu v hlen hs hs', fun a => ?_,
    flSetCell_sqLen_err R.fl sqrt R.u h hu v t hlen hs hs' hnz⟩
  obtain ⟨f, hf, herr⟩ := flSetCell_comp_err R.fl sqrt R.u h hu v t hlen hs hs' hnz
  rw [hf, setCell_nonzero sqrt v t hs hnz, smul_getD]
  exact getD_map_rel f v (fun w x => |w - t / sqrt (sqLen v) * x| ≤ 6 * R.u * |t / sqrt (sqLen v) * x|)
    (by simp) herr a

end RoundedInst

/-! non-vacuity: a rounding that is not the identity obeys the standard model over `ℝ`; the
identity rounding is a `Rounding` over `Rat` for which the root hypotheses hold on (3,4) -/
example : FlOk (fun x : ℝ => x * (1 + 1 / 2048)) (1 / 1024) := by
  refine ⟨by norm_num, fun x => ?_⟩
  have : x * (1 + 1 / 2048) - x = x * (1 / 2048) := by ring
  rw [this, abs_mul, abs_of_pos (by norm_num : (0 : ℝ) < 1 / 2048)]
  nlinarith [abs_nonneg x]
example : ∃ R : C01.Rounding, R.u ≤ 1 / 1024 ∧ SqrtAt sqrtQ (flSqLen R.fl ([3, 4] : List Rat)) ∧
    SqrtAt sqrtQ (sqLen ([3, 4] : List Rat)) ∧ sqLen ([3, 4] : List Rat) ≠ 0 := by
  refine ⟨⟨id, 0, le_rfl, by norm_num, fun x => by simp⟩, by norm_num, ?_, ?_, by norm_num [sqLen]⟩
  · rw [flSqLen_id]; exact sqrtAt_three_four
  · exact sqrtAt_three_four

/-! ## binary64: the rounding the driver runs and the harness compares bit for bit with NumPy -/
section Binary64

/-- **the rounding hypothesis is met by the executable binary64 rounding** `fl64` (round to
nearest even, 53 bits): `|fl64 x − x| ≤ 2^-53·|x|` for every rational `x` -/
theorem fl64_standard_model : FlOk fl64 (1 / 9007199254740992) := fl64_flOk

/-- … so the shared hypothesis package `Rounding` is inhabited by the function the
correspondence run checks against NumPy's arithmetic -/
theorem fl64_rounding : ∃ R : C01.Rounding, R.fl = fl64 ∧ R.u = 1 / 9007199254740992 ∧ R.u ≤ 1 / 1024 :=
  ⟨C01.Rounding.binary64, rfl, rfl, by rw [C01.binary64_u]; norm_num⟩

/-- **the bounds for the kernel the driver runs with binary64 rounding** (`fl_cells`, compared
bit for bit with `Field.norm` / the norm setter on arbitrary binary64 vectors): with an exact
root at the two radicands, computed norm within `15/4·2^-53`, every component of the setter's
result within `6·2^-53` of the exact model's, squared length within `13·2^-53` of `t²` -/
theorem fl64_setCell_bounds (sqrt : Rat → Rat) (v : List Rat) (t : Rat) (hlen : v.length ≤ 4)
    (hs : SqrtAt sqrt (sqLen v)) (hs' : SqrtAt sqrt (flSqLen fl64 v)) (hnz : sqLen v ≠ 0) :
    |flNormCell fl64 sqrt v - normCell sqrt v| ≤ 15 / 4 * (1 / 9007199254740992) * normCell sqrt v ∧
    (∀ a : Nat, |(flSetCell fl64 sqrt v t).getD a 0 - (setCell sqrt v t).getD a 0| ≤
      6 * (1 / 9007199254740992) * |(setCell sqrt v t).getD a 0|) ∧
    |sqLen (flSetCell fl64 sqrt v t) - t * t| ≤ 13 * (1 / 9007199254740992) * (t * t) :=
  rounding_flSetCell C01.Rounding.binary64 (by rw [C01.binary64_u]; norm_num) sqrt v t hlen hs hs' hnz

end Binary64

/-! non-vacuity: on (3,4) the binary64 kernel is exact, so both root hypotheses hold with `sqrtQ` -/
example : flSqLen fl64 ([3, 4] : List Rat) = 5 * 5 := by decide +kernel
example : SqrtAt sqrtQ (flSqLen fl64 ([3, 4] : List Rat)) := by
  have h : flSqLen fl64 ([3, 4] : List Rat) = 5 * 5 := by decide +kernel
  rw [h]; exact sqrtQ_sqrtAt 5
example : flSetCell fl64 sqrtQ ([3, 4] : List Rat) 10 = [6, 8] := by decide +kernel

/-- and it does round: 1/3 is not representable -/
example : fl64 (1 / 3) = 6004799503160661 / 18014398509481984 := by decide +kernel

/-! ## The kernel with a rounded root: nothing but the rounding contracts is assumed -/
section Exec
variable {K : Type} [Field K] [LinearOrder K] [IsStrictOrderedRing K]

/-- **computed norm with a rounded root** (`SqrtOk`: the root's square within `2u + 3u²` of the
radicand): non-negative, its square within `10u` of `Σ_c v_c²`, zero exactly on zero cells —
no exact root is assumed anywhere -/
theorem flNorm_exec (fl sq : K → K) (u : K) (h : FlOk fl u) (hq : SqrtOk sq u) (hu : u ≤ 1 / 1024)
    (v : List K) (hlen : v.length ≤ 4) :
    0 ≤ flNormCell fl sq v ∧
    |flNormCell fl sq v * flNormCell fl sq v - sqLen v| ≤ 10 * u * sqLen v ∧
    (flNormCell fl sq v = 0 ↔ ∀ x ∈ v, x = 0) := by
  obtain ⟨h1, h2⟩ := flNormCell_exec_rel h hq hu v
  have := (h2.mono (show 2 * (v.length + 5) ≤ 18 by omega)).le_lit h.1 hu 10 (by norm_num) (by norm_num)
  rw [abs_of_nonneg (sqLen_nonneg v)] at this
  exact ⟨h1, this, h2.sq_eq_zero_iff.trans (sqLen_eq_zero_iff v)⟩

/-- **computed setter with a rounded root**: a zero cell stays exactly zero; on every other
cell the squared length of the result is within `15u` of `t²` (oracle `16u`), every cross
term with the old vector is relatively below `17/4·u/(1 − 17/8·u)`, and for a positive
target the dot product with the old vector is positive -/
theorem flSetCell_exec (fl sq : K → K) (u : K) (h : FlOk fl u) (hq : SqrtOk sq u) (hu : u ≤ 1 / 1024)
    (v : List K) (t : K) (hlen : v.length ≤ 4) :
    ((∀ x ∈ v, x = 0) → flSetCell fl sq v t = zeros v) ∧
    (sqLen v ≠ 0 →
      |sqLen (flSetCell fl sq v t) - t * t| ≤ 15 * u * (t * t) ∧
      (∀ a b : Nat, a < v.length →
        |(flSetCell fl sq v t).getD a 0 * v.getD b 0 - (flSetCell fl sq v t).getD b 0 * v.getD a 0|
          * (1 - 17 / 8 * u) ≤ 17 / 4 * u * |(flSetCell fl sq v t).getD a 0 * v.getD b 0|) ∧
      (0 < t → 0 < dot (flSetCell fl sq v t) v)) := by
  obtain ⟨hz, W⟩ := flSetCell_exec_rel h hu v t (flNormCell_exec_rel h hq hu v)
  refine ⟨hz, fun hS => ?_⟩
  obtain ⟨r, c, d⟩ := W hS
  have := (r.mono (show 8 + 2 * (v.length + 5) ≤ 26 by omega)).le_lit h.1 hu 15 (by norm_num) (by norm_num)
  rw [abs_mul_self] at this
  exact ⟨this, c, d⟩

/-- **computed orientation with a rounded root**, above the threshold: squared length within
`13u` of 1 (oracle `16u`); times the computed norm it reproduces the field within one rounding -/
theorem flOrientCell_exec (fl sq : K → K) (u atol : K) (h : FlOk fl u) (hq : SqrtOk sq u)
    (hu : u ≤ 1 / 1024) (v : List K) (hlen : v.length ≤ 4) (h0 : 0 ≤ atol)
    (hat : atol < flNormCell fl sq v) :
    |sqLen (flOrientCell fl sq atol v) - 1| ≤ 13 * u ∧
    ∀ a : Nat, |(flOrientCell fl sq atol v).getD a 0 * flNormCell fl sq v - v.getD a 0| ≤ u * |v.getD a 0| := by
  obtain ⟨r, d⟩ := flOrientCell_exec_rel h hu v (flNormCell_exec_rel h hq hu v) h0 hat
  have := (r.mono (show 4 + 2 * (v.length + 5) ≤ 22 by omega)).le_lit h.1 hu 13 (by norm_num) (by norm_num)
  rw [abs_one, mul_one] at this
  exact ⟨this, d⟩

end Exec

/-! ### … instantiated with the executable `fl64` / `sqrt64`: theorems about the very function the
correspondence run compares bit for bit with NumPy, for every rational (so every binary64) input -/
section Exec64

/-- the executable correctly rounded root meets the root contract with `u = 2^-53` -/
theorem sqrt64_sqrtOk : SqrtOk sqrt64 (1 / 9007199254740992) :=
  ⟨fun x hx => sqrt64_sq_err x hx, sqrt64_nonpos⟩

/-- **end to end for the bit-exact kernel**: for every rational cell of at most four components
and every target, the numbers `fl_cells` computes (found bit-identical to NumPy's by the
correspondence run, which records this per case) satisfy the property's promise with explicit slack `u = 2^-53`:
zero cells stay zero; otherwise squared length within `15u` of `t²`, cross terms relatively
below `17/4·u/(1−17/8·u)`, positive dot product for `t > 0`; the norm getter's square is
within `10u` of `Σ v_c²` -/
theorem exec64_setCell (v : List Rat) (t : Rat) (hlen : v.length ≤ 4) :
    ((∀ x ∈ v, x = 0) → flSetCell fl64 sqrt64 v t = zeros v) ∧
    (sqLen v ≠ 0 →
      |sqLen (flSetCell fl64 sqrt64 v t) - t * t| ≤ 15 * (1 / 9007199254740992) * (t * t) ∧
      (∀ a b : Nat, a < v.length →
        |(flSetCell fl64 sqrt64 v t).getD a 0 * v.getD b 0 - (flSetCell fl64 sqrt64 v t).getD b 0 * v.getD a 0|
          * (1 - 17 / 8 * (1 / 9007199254740992)) ≤
          17 / 4 * (1 / 9007199254740992) * |(flSetCell fl64 sqrt64 v t).getD a 0 * v.getD b 0|) ∧
      (0 < t → 0 < dot (flSetCell fl64 sqrt64 v t) v)) ∧
    |flNormCell fl64 sqrt64 v * flNormCell fl64 sqrt64 v - sqLen v| ≤ 10 * (1 / 9007199254740992) * sqLen v := by
  obtain ⟨h1, h2⟩ := flSetCell_exec fl64 sqrt64 _ fl64_flOk sqrt64_sqrtOk (by norm_num) v t hlen
  exact ⟨h1, h2, (flNorm_exec fl64 sqrt64 _ fl64_flOk sqrt64_sqrtOk (by norm_num) v hlen).2.1⟩

/-- … and the orientation the bit-exact kernel computes above the threshold has squared length
within `13u` of 1 and reproduces the field, times the computed norm, within one rounding -/
theorem exec64_orientCell (atol : Rat) (v : List Rat) (hlen : v.length ≤ 4) (h0 : 0 ≤ atol)
    (hat : atol < flNormCell fl64 sqrt64 v) :
    |sqLen (flOrientCell fl64 sqrt64 atol v) - 1| ≤ 13 * (1 / 9007199254740992) ∧
    ∀ a : Nat, |(flOrientCell fl64 sqrt64 atol v).getD a 0 * flNormCell fl64 sqrt64 v - v.getD a 0| ≤
      1 / 9007199254740992 * |v.getD a 0| :=
  flOrientCell_exec fl64 sqrt64 _ atol fl64_flOk sqrt64_sqrtOk (by norm_num) v hlen h0 hat

end Exec64

example : atolDefault < flNormCell fl64 sqrt64 ([1, 1 / 3] : List Rat) := by decide +kernel

/-! ## Rounded arithmetic for ANY number of components -/
section RoundedAny
variable {K : Type} [Field K] [LinearOrder K] [IsStrictOrderedRing K]

/-- **computed norm, any number `n` of components** (exact root at the two radicands): under the
single hypothesis `(n+1)²·u ≤ 2^-10` it is within `(n/2 + 2)·u` of the length and its square
within `(n+4)·u` of `Σ_c v_c²` (for `n = 4`: `4u` and `8u`; `flNorm_rel_err` has `15/4·u`, `flNorm_sq_err` `8u`) -/
theorem flNorm_err_any (fl sqrt : K → K) (u : K) (h : FlOk fl u) (v : List K)
    (hn : ((v.length : K) + 1) * ((v.length : K) + 1) * u ≤ 1 / 1024)
    (hs : SqrtAt sqrt (sqLen v)) (hs' : SqrtAt sqrt (flSqLen fl v)) :
    |flNormCell fl sqrt v - normCell sqrt v| ≤ ((v.length : K) / 2 + 2) * u * normCell sqrt v ∧
    |flNormCell fl sqrt v * flNormCell fl sqrt v - sqLen v| ≤ ((v.length : K) + 4) * u * sqLen v := by
  have r := flNormCell_rel h (count_u h.1 le_rfl hn) v hs hs'
  have b1 := r.le_any h.1 le_rfl hn (by norm_num) 2 (by norm_num)
  have b2 := Rel.le_any_sq (j := 3) h.1 le_rfl hn ((r.mul r).mono (by omega)) (by norm_num) 4 (by norm_num)
  rw [abs_of_nonneg (normCell_nonneg hs)] at b1
  rw [normCell_mul_self hs, abs_of_nonneg (sqLen_nonneg v)] at b2
  exact ⟨b1, b2⟩

/-- **computed setter, any number of components** (exact root): the floating-point zero guard
is the exact per-cell guard; on a non-zero cell every component is within `(n/2 + 4)·u` of
`(t/‖v‖)·v_c`, the squared length within `(n+8)·u` of `t²`, every cross term with the old
vector relatively below `2ρ/(1−ρ)` with `ρ = (n/2+4)u`, and for `t > 0` the dot product with
the old vector is positive -/
theorem flSetCell_any (fl sqrt : K → K) (u : K) (h : FlOk fl u) (v : List K) (t : K)
    (hn : ((v.length : K) + 1) * ((v.length : K) + 1) * u ≤ 1 / 1024)
    (hs : SqrtAt sqrt (sqLen v)) (hs' : SqrtAt sqrt (flSqLen fl v)) :
    ((∀ x ∈ v, x = 0) → flSetCell fl sqrt v t = zeros v) ∧
    (sqLen v ≠ 0 →
      (∃ f : K → K, flSetCell fl sqrt v t = v.map f ∧
        ∀ x, |f x - t / normCell sqrt v * x| ≤ ((v.length : K) / 2 + 4) * u * |t / normCell sqrt v * x|) ∧
      |sqLen (flSetCell fl sqrt v t) - t * t| ≤ ((v.length : K) + 8) * u * (t * t) ∧
      (∀ a b : Nat, a < v.length →
        |(flSetCell fl sqrt v t).getD a 0 * v.getD b 0 - (flSetCell fl sqrt v t).getD b 0 * v.getD a 0|
          * (1 - ((v.length : K) / 2 + 4) * u) ≤
          2 * (((v.length : K) / 2 + 4) * u) * |(flSetCell fl sqrt v t).getD a 0 * v.getD b 0|) ∧
      (0 < t → 0 < dot (flSetCell fl sqrt v t) v)) := by
  have hu0 := h.1
  have hu := count_u hu0 le_rfl hn
  have hz := flNormCell_eq_zero h hu v hs'
  refine ⟨fun hv => flSetCell_of_eq h t (hz.mpr ((sqLen_eq_zero_iff v).mpr hv)), fun hnz => ?_⟩
  obtain ⟨hrel, hsq⟩ := flSetCell_exact_rel h hu v t hs hs' hnz
  have herr := fun x => (hrel x).le_any hu0 le_rfl hn (by norm_num) 4 (by norm_num)
  have hsq := hsq.le_any_sq hu0 le_rfl hn (by norm_num) 8 (by norm_num)
  have hρ : ((v.length : K) / 2 + 4) * u < 1 :=
    (count_any hu0 (le_add_of_nonneg_left (Nat.cast_nonneg _)) hn (by positivity) (by linarith)).2.1.trans_lt
      (by norm_num)
  rw [abs_mul_self] at hsq
  rw [flSetCell_of_ne t fun e => hnz (hz.mp e)]
  exact ⟨⟨_, rfl, herr⟩, hsq, direction_of_err _ v herr (by positivity) hρ le_rfl le_rfl (hs.pos hnz)
    (lt_of_le_of_ne (sqLen_nonneg v) (Ne.symm hnz))⟩

/-- **computed orientation, any number of components** (exact root), above the threshold:
every component within `(n/2 + 3)·u` of `v_c/‖v‖`, squared length within `(n+6)·u` of 1,
`orientation × computed norm` within one rounding of the field; and the threshold decision can
differ from the exact one only for lengths within the relative band `(n/2 + 2)·u` of `atol` -/
theorem flOrientCell_any (fl sqrt : K → K) (u atol : K) (h : FlOk fl u) (v : List K)
    (hn : ((v.length : K) + 1) * ((v.length : K) + 1) * u ≤ 1 / 1024)
    (hs : SqrtAt sqrt (sqLen v)) (hs' : SqrtAt sqrt (flSqLen fl v)) (h0 : 0 ≤ atol) :
    (atol < flNormCell fl sqrt v →
      ∃ f : K → K, flOrientCell fl sqrt atol v = v.map f ∧
        (∀ x, |f x - x / normCell sqrt v| ≤ ((v.length : K) / 2 + 3) * u * |x / normCell sqrt v|) ∧
        |sqLen (flOrientCell fl sqrt atol v) - 1| ≤ ((v.length : K) + 6) * u ∧
        ∀ x, |f x * flNormCell fl sqrt v - x| ≤ u * |x|) ∧
    (normCell sqrt v * (1 + ((v.length : K) / 2 + 2) * u) ≤ atol → flOrientCell fl sqrt atol v = zeros v) ∧
    (atol < normCell sqrt v * (1 - ((v.length : K) / 2 + 2) * u) →
      flOrientCell fl sqrt atol v = v.map fun x => fl (x / flNormCell fl sqrt v)) := by
  have hu0 := h.1
  have hu := count_u hu0 le_rfl hn
  have hn0 : 0 ≤ flNormCell fl sqrt v := h.nonneg (le_trans hu (by norm_num)) hs'.1
  refine ⟨fun hat => ?_, flOrientCell_band_of hn0 (flNorm_err_any fl sqrt u h v hn hs hs').1⟩
  have hnpos : 0 < flNormCell fl sqrt v := lt_of_le_of_lt h0 hat
  have hnz : sqLen v ≠ 0 := fun e => hnpos.ne' ((flNormCell_eq_zero h hu v hs').mpr e)
  obtain ⟨hrel, hsq⟩ := flOrientCell_exact_rel h hu v hs hs' hnz
  have hsq := hsq.le_any_sq hu0 le_rfl hn (by norm_num) 6 (by norm_num)
  rw [abs_one, mul_one] at hsq
  rw [flOrientCell_of_lt hn0 hat]
  exact ⟨_, rfl, fun x => (hrel x).le_any hu0 le_rfl hn (by norm_num) 3 (by norm_num), hsq,
    fun x => times_err hnpos.ne' (h.2 _)⟩

/-- **computed norm with a rounded root, any number of components** (`SqrtOk`: no exact root
assumed): non-negative, its square within `(n+6)·u` of `Σ_c v_c²`, zero exactly on zero cells -/
theorem flNorm_exec_any (fl sq : K → K) (u : K) (h : FlOk fl u) (hq : SqrtOk sq u) (v : List K)
    (hn : ((v.length : K) + 1) * ((v.length : K) + 1) * u ≤ 1 / 1024) :
    0 ≤ flNormCell fl sq v ∧
    |flNormCell fl sq v * flNormCell fl sq v - sqLen v| ≤ ((v.length : K) + 6) * u * sqLen v ∧
    (flNormCell fl sq v = 0 ↔ ∀ x ∈ v, x = 0) := by
  obtain ⟨h1, h2⟩ := flNormCell_exec_rel h hq (count_u h.1 le_rfl hn) v
  have := h2.le_any_sq h.1 le_rfl hn (by norm_num) 6 (by norm_num)
  rw [abs_of_nonneg (sqLen_nonneg v)] at this
  exact ⟨h1, this, h2.sq_eq_zero_iff.trans (sqLen_eq_zero_iff v)⟩

/-- **computed setter with a rounded root, any number of components**: a zero cell stays exactly
zero; on every other cell the squared length of the result is within `(n+10)·u` of `t²`, every
cross term with the old vector is relatively below `17/4·u/(1 − 17/8·u)`, and for a positive
target the dot product with the old vector is positive -/
theorem flSetCell_exec_any (fl sq : K → K) (u : K) (h : FlOk fl u) (hq : SqrtOk sq u) (v : List K) (t : K)
    (hn : ((v.length : K) + 1) * ((v.length : K) + 1) * u ≤ 1 / 1024) :
    ((∀ x ∈ v, x = 0) → flSetCell fl sq v t = zeros v) ∧
    (sqLen v ≠ 0 →
      |sqLen (flSetCell fl sq v t) - t * t| ≤ ((v.length : K) + 10) * u * (t * t) ∧
      (∀ a b : Nat, a < v.length →
        |(flSetCell fl sq v t).getD a 0 * v.getD b 0 - (flSetCell fl sq v t).getD b 0 * v.getD a 0|
          * (1 - 17 / 8 * u) ≤ 17 / 4 * u * |(flSetCell fl sq v t).getD a 0 * v.getD b 0|) ∧
      (0 < t → 0 < dot (flSetCell fl sq v t) v)) := by
  have hu := count_u h.1 le_rfl hn
  obtain ⟨hz, W⟩ := flSetCell_exec_rel h hu v t (flNormCell_exec_rel h hq hu v)
  refine ⟨hz, fun hS => ?_⟩
  obtain ⟨r, c, d⟩ := W hS
  have := Rel.le_any_sq (j := 9) h.1 le_rfl hn (r.mono (by omega)) (by norm_num) 10 (by norm_num)
  rw [abs_mul_self] at this
  exact ⟨this, c, d⟩

/-- **computed orientation with a rounded root, any number of components**, above the threshold:
squared length within `(n+8)·u` of 1; times the computed norm it reproduces the field within
one rounding -/
theorem flOrientCell_exec_any (fl sq : K → K) (u atol : K) (h : FlOk fl u) (hq : SqrtOk sq u) (v : List K)
    (hn : ((v.length : K) + 1) * ((v.length : K) + 1) * u ≤ 1 / 1024) (h0 : 0 ≤ atol)
    (hat : atol < flNormCell fl sq v) :
    |sqLen (flOrientCell fl sq atol v) - 1| ≤ ((v.length : K) + 8) * u ∧
    ∀ a : Nat, |(flOrientCell fl sq atol v).getD a 0 * flNormCell fl sq v - v.getD a 0| ≤ u * |v.getD a 0| := by
  have hu := count_u h.1 le_rfl hn
  obtain ⟨r, d⟩ := flOrientCell_exec_rel h hu v (flNormCell_exec_rel h hq hu v) h0 hat
  have := Rel.le_any_sq (j := 7) h.1 le_rfl hn (r.mono (by omega)) (by norm_num) 8 (by norm_num)
  rw [abs_one, mul_one] at this
  exact ⟨this, d⟩

end RoundedAny

/-! ## The complex kernel as NumPy computes it, any number of components -/
section CplxRounded
variable {K : Type} [Field K] [LinearOrder K] [IsStrictOrderedRing K]

/-- with `fl := id` the rounded complex kernel (fused or not) is the exact complex kernel of the
model, so — through `complex_view` — the real kernel on the `(re, im)` view -/
theorem cflKernel_id (sqrt : K → K) (atol : K) (fused : Bool) (v : List (K × K)) (t : K) :
    cflNormCell id sqrt fused v = cNormCell sqrt v ∧ cflSetCell id sqrt fused v t = cSetCell sqrt v t ∧
    cflOrientCell id sqrt fused atol v = cOrientCell sqrt atol v := by
  have hn : cflNormCell id sqrt fused v = cNormCell sqrt v := by
    unfold cflNormCell cNormCell; rw [cflSqLen_id]; rfl
  refine ⟨hn, ?_, ?_⟩
  · unfold cflSetCell cSetCell
    rw [hn, cflDivCell_id]
    apply List.map_congr_left
    intro z _
    simp [cmul_real]
  · unfold cflOrientCell cOrientCell
    rw [hn, cflDivCell_id]

/-- **computed norm of a complex cell** (`Σ|z_c|²` with or without a fused multiply-add, rounded
root), any number `n` of complex components with `(n+2)²·u ≤ 2^-10`: non-negative, its square
within `(n+7)·u` of `Σ|z_c|²`, zero exactly on the zero cell -/
theorem cflNorm_exec_any (fl sq : K → K) (u : K) (h : FlOk fl u) (hq : SqrtOk sq u) (fused : Bool)
    (v : List (K × K)) (hn : ((v.length : K) + 2) * ((v.length : K) + 2) * u ≤ 1 / 1024) :
    0 ≤ cflNormCell fl sq fused v ∧
    |cflNormCell fl sq fused v * cflNormCell fl sq fused v - cSqLen v| ≤ ((v.length : K) + 7) * u * cSqLen v ∧
    (cflNormCell fl sq fused v = 0 ↔ cSqLen v = 0) := by
  obtain ⟨h1, h2⟩ := cflNormCell_exec_rel h hq (count_u h.1 one_le_two hn) fused v
  have := h2.le_any_sq h.1 one_le_two hn (by norm_num) 7 (by norm_num)
  rw [abs_of_nonneg (cSqLen_nonneg v)] at this
  exact ⟨h1, this, h2.sq_eq_zero_iff⟩

/-- **computed norm setter on a complex cell** (division through the rounded reciprocal — two
roundings — then the product with the real target): a zero cell stays exactly zero; on every
other cell real and imaginary part of every component are multiplied by the same real factor
up to `49/16·u` (three roundings), `Σ|z_c|²` of the result is within `(n+13)·u` of `t²`, every
cross term of the `(re, im)` view with the old view is relatively below
`49/8·u/(1 − 49/16·u)` (direction **and phases** kept), and for `t > 0` the real dot product of
the views is positive -/
theorem cflSetCell_exec_any (fl sq : K → K) (u : K) (h : FlOk fl u) (hq : SqrtOk sq u) (fused : Bool)
    (v : List (K × K)) (t : K) (hn : ((v.length : K) + 2) * ((v.length : K) + 2) * u ≤ 1 / 1024) :
    (cSqLen v = 0 → flattenC (cflSetCell fl sq fused v t) = zeros (flattenC v)) ∧
    (cSqLen v ≠ 0 →
      (∃ f : K → K, flattenC (cflSetCell fl sq fused v t) = (flattenC v).map f ∧
        ∀ x, |f x - t / cflNormCell fl sq fused v * x| ≤
          49 / 16 * u * |t / cflNormCell fl sq fused v * x|) ∧
      |cSqLen (cflSetCell fl sq fused v t) - t * t| ≤ ((v.length : K) + 13) * u * (t * t) ∧
      (∀ a b : Nat, a < (flattenC v).length →
        |(flattenC (cflSetCell fl sq fused v t)).getD a 0 * (flattenC v).getD b 0 -
            (flattenC (cflSetCell fl sq fused v t)).getD b 0 * (flattenC v).getD a 0|
          * (1 - 49 / 16 * u) ≤
          49 / 8 * u * |(flattenC (cflSetCell fl sq fused v t)).getD a 0 * (flattenC v).getD b 0|) ∧
      (0 < t → 0 < dot (flattenC (cflSetCell fl sq fused v t)) (flattenC v))) := by
  have hu0 := h.1
  have hu := count_u hu0 one_le_two hn
  obtain ⟨hn0, hnsq⟩ := cflNormCell_exec_rel h hq hu fused v
  have hnz := hnsq.sq_eq_zero_iff
  refine ⟨fun hv => flattenC_cflSet_of_eq h t (hnz.mpr hv), fun hS => ?_⟩
  have hne : cflNormCell fl sq fused v ≠ 0 := fun e => hS (hnz.mp e)
  have hSpos : 0 < sqLen (flattenC v) := by
    rw [sqLen_flattenC]; exact lt_of_le_of_ne (cSqLen_nonneg v) (Ne.symm hS)
  rw [← sqLen_flattenC v] at hnsq
  rw [← sqLen_flattenC (cflSetCell fl sq fused v t), flattenC_cflSet_of_ne t hne]
  -- three roundings per component: six halves, twelve on the squared length
  have hrel := fun x => (recip_mul_rel h hu (cflNormCell fl sq fused v) x t).2
  have herr := fun x => (hrel x).le_lit hu0 hu (49 / 16) (by norm_num) (by norm_num)
  have hsq := Rel.le_any_sq (j := 12) hu0 one_le_two hn
    ((scaledMap_rel (base_unit h hu) _ (flattenC v) hSpos.ne' hnsq hrel).mono (by omega)) (by norm_num) 13 (by norm_num)
  have hρ := mul_lt_one_of_le (c := 49 / 16) hu (by norm_num) (by norm_num)
  rw [abs_mul_self] at hsq
  exact ⟨⟨_, rfl, herr⟩, hsq, direction_of_err _ _ herr (by positivity) hρ le_rfl (le_of_eq (by ring))
    (lt_of_le_of_ne hn0 (Ne.symm hne)) hSpos⟩

/-- **computed orientation of a complex cell**, above the threshold: `Σ|o_c|²` within `(n+11)·u`
of 1; real and imaginary parts times the computed norm reproduce the field within two
roundings (`33/16·u`; the reciprocal needs one more rounding than the real division) -/
theorem cflOrientCell_exec_any (fl sq : K → K) (u atol : K) (h : FlOk fl u) (hq : SqrtOk sq u)
    (fused : Bool) (v : List (K × K)) (hn : ((v.length : K) + 2) * ((v.length : K) + 2) * u ≤ 1 / 1024)
    (h0 : 0 ≤ atol) (hat : atol < cflNormCell fl sq fused v) :
    |cSqLen (cflOrientCell fl sq fused atol v) - 1| ≤ ((v.length : K) + 11) * u ∧
    ∀ a : Nat, |(flattenC (cflOrientCell fl sq fused atol v)).getD a 0 * cflNormCell fl sq fused v -
        (flattenC v).getD a 0| ≤ 33 / 16 * u * |(flattenC v).getD a 0| := by
  have hu0 := h.1
  have hu := count_u hu0 one_le_two hn
  obtain ⟨hn0, hnsq⟩ := cflNormCell_exec_rel h hq hu fused v
  have hnpos : 0 < cflNormCell fl sq fused v := lt_of_le_of_lt h0 hat
  rw [← sqLen_flattenC v] at hnsq
  have hS : sqLen (flattenC v) ≠ 0 := fun e => (mul_pos hnpos hnpos).ne' (hnsq.eq_zero_iff.mpr e)
  rw [← sqLen_flattenC (cflOrientCell fl sq fused atol v), flattenC_cflOrient_of_lt hn0 hat]
  -- two roundings per component: four halves, eight on the squared length
  have hrel := fun x => (recip_mul_rel h hu (cflNormCell fl sq fused v) x 1).1
  have hsq := scaledMap_rel (t := 1) (base_unit h hu) _ (flattenC v) hS hnsq
    fun x => by rw [one_div_mul_eq_div]; exact hrel x
  have hsq := Rel.le_any_sq (j := 10) hu0 one_le_two hn (hsq.mono (by omega)) (by norm_num) 11 (by norm_num)
  rw [mul_one, abs_one, mul_one] at hsq
  exact ⟨hsq, getD_map_times _ _ _ _ fun x =>
    times_err hnpos.ne' ((hrel x).le_lit hu0 hu (33 / 16) (by norm_num) (by norm_num))⟩

end CplxRounded

/-! ### … instantiated with the executable `fl64` / `sqrt64` -/
section Exec64Any

/-- **end to end for the bit-exact real kernel, any number of components** (fewer than two
million): for every rational cell and every target the numbers the executable kernel
`fl64`/`sqrt64` computes satisfy, with `u = 2^-53` and `n` the number of components: zero cells
stay zero; otherwise squared length within `(n+10)u` of `t²`, cross terms relatively below
`17/4·u/(1−17/8·u)`, positive dot product for `t > 0`; the norm's square within `(n+6)u` of
`Σ v_c²`; above the threshold the orientation's squared length within `(n+8)u` of 1 and
orientation × norm within one rounding of the field -/
theorem exec64_any (v : List Rat) (t atol : Rat) (hlen : v.length < 2000000) :
    ((∀ x ∈ v, x = 0) → flSetCell fl64 sqrt64 v t = zeros v) ∧
    (sqLen v ≠ 0 →
      |sqLen (flSetCell fl64 sqrt64 v t) - t * t| ≤ ((v.length : Rat) + 10) * (1 / 9007199254740992) * (t * t) ∧
      (∀ a b : Nat, a < v.length →
        |(flSetCell fl64 sqrt64 v t).getD a 0 * v.getD b 0 - (flSetCell fl64 sqrt64 v t).getD b 0 * v.getD a 0|
          * (1 - 17 / 8 * (1 / 9007199254740992)) ≤
          17 / 4 * (1 / 9007199254740992) * |(flSetCell fl64 sqrt64 v t).getD a 0 * v.getD b 0|) ∧
      (0 < t → 0 < dot (flSetCell fl64 sqrt64 v t) v)) ∧
    |flNormCell fl64 sqrt64 v * flNormCell fl64 sqrt64 v - sqLen v| ≤
      ((v.length : Rat) + 6) * (1 / 9007199254740992) * sqLen v ∧
    (0 ≤ atol → atol < flNormCell fl64 sqrt64 v →
      |sqLen (flOrientCell fl64 sqrt64 atol v) - 1| ≤ ((v.length : Rat) + 8) * (1 / 9007199254740992) ∧
      ∀ a : Nat, |(flOrientCell fl64 sqrt64 atol v).getD a 0 * flNormCell fl64 sqrt64 v - v.getD a 0| ≤
        1 / 9007199254740992 * |v.getD a 0|) := by
  have hn := count_ok v.length 1 (by omega) hlen
  simp only [Nat.cast_one] at hn
  obtain ⟨h1, h2⟩ := flSetCell_exec_any fl64 sqrt64 _ fl64_flOk sqrt64_sqrtOk v t hn
  exact ⟨h1, h2, (flNorm_exec_any fl64 sqrt64 _ fl64_flOk sqrt64_sqrtOk v hn).2.1,
    fun h0 hat => flOrientCell_exec_any fl64 sqrt64 _ atol fl64_flOk sqrt64_sqrtOk v hn h0 hat⟩

/-- **end to end for the bit-exact complex kernel** (what the correspondence run compares with
NumPy's arithmetic on `dtype=complex` fields, fused multiply-add or not): zero cells stay
zero; otherwise `Σ|z_c|²` of the result within `(n+13)u` of `t²`, cross terms of the `(re, im)`
views relatively below `49/8·u/(1−49/16·u)`, positive real dot product for `t > 0`; the norm's
square within `(n+7)u` of `Σ|z_c|²`; above the threshold the orientation has `Σ|o_c|²` within
`(n+11)u` of 1 -/
theorem exec64_complex (fused : Bool) (v : List (Rat × Rat)) (t atol : Rat) (hlen : v.length < 2000000) :
    (cSqLen v = 0 → flattenC (cflSetCell fl64 sqrt64 fused v t) = zeros (flattenC v)) ∧
    (cSqLen v ≠ 0 →
      |cSqLen (cflSetCell fl64 sqrt64 fused v t) - t * t| ≤
        ((v.length : Rat) + 13) * (1 / 9007199254740992) * (t * t) ∧
      (∀ a b : Nat, a < (flattenC v).length →
        |(flattenC (cflSetCell fl64 sqrt64 fused v t)).getD a 0 * (flattenC v).getD b 0 -
            (flattenC (cflSetCell fl64 sqrt64 fused v t)).getD b 0 * (flattenC v).getD a 0|
          * (1 - 49 / 16 * (1 / 9007199254740992)) ≤
          49 / 8 * (1 / 9007199254740992) *
            |(flattenC (cflSetCell fl64 sqrt64 fused v t)).getD a 0 * (flattenC v).getD b 0|) ∧
      (0 < t → 0 < dot (flattenC (cflSetCell fl64 sqrt64 fused v t)) (flattenC v))) ∧
    |cflNormCell fl64 sqrt64 fused v * cflNormCell fl64 sqrt64 fused v - cSqLen v| ≤
      ((v.length : Rat) + 7) * (1 / 9007199254740992) * cSqLen v ∧
    (0 ≤ atol → atol < cflNormCell fl64 sqrt64 fused v →
      |cSqLen (cflOrientCell fl64 sqrt64 fused atol v) - 1| ≤ ((v.length : Rat) + 11) * (1 / 9007199254740992)) := by
  have hn := count_ok v.length 2 (by omega) hlen
  simp only [Nat.cast_ofNat] at hn
  obtain ⟨h1, h2⟩ := cflSetCell_exec_any fl64 sqrt64 _ fl64_flOk sqrt64_sqrtOk fused v t hn
  refine ⟨h1, fun hS => ?_, (cflNorm_exec_any fl64 sqrt64 _ fl64_flOk sqrt64_sqrtOk fused v hn).2.1,
    fun h0 hat => (cflOrientCell_exec_any fl64 sqrt64 _ atol fl64_flOk sqrt64_sqrtOk fused v hn h0 hat).1⟩
  obtain ⟨_, a2, a3, a4⟩ := h2 hS
  exact ⟨a2, a3, a4⟩

end Exec64Any

/-! ### non-vacuity of the component-count-generic and complex rounding theorems -/

/-- seven components in binary64 meet the count hypothesis (as do two million) -/
example : (((([1, 2, 3, 4, 5, 6, 7] : List Rat).length : Rat) + 1) *
    ((([1, 2, 3, 4, 5, 6, 7] : List Rat).length : Rat) + 1) * (1 / 9007199254740992) ≤ 1 / 1024) := by
  norm_num

/-- the bit-exact kernel on nine components -/
example : flNormCell fl64 sqrt64 ([1, 1, 1, 1, 1, 1, 1, 1, 1] : List Rat) = 3 := by decide +kernel
example : sqLen ([1, 2, 3, 4, 5, 6, 7] : List Rat) ≠ 0 := by norm_num [sqLen]

/-- the complex kernel divides through the rounded reciprocal: `(3+4i, 0)` set to norm 10 is
`(6.000000000000001+8i, 0)`, not `(6+8i, 0)` — NumPy returns exactly this -/
example : flattenC (cflSetCell fl64 sqrt64 true [((3 : Rat), (4 : Rat)), (0, 0)] 10) =
    [6755399441055745 / 1125899906842624, 8, 0, 0] := by decide +kernel
example : cSqLen [((3 : Rat), (4 : Rat)), (0, 0)] ≠ 0 := by norm_num [cSqLen]
example : atolDefault < cflNormCell fl64 sqrt64 false [((3 : Rat), (4 : Rat)), (0, 0)] := by decide +kernel

/-! ## Laws of the setter and of the orientation (exact arithmetic, any ordered field) -/
section Laws
variable {K : Type} [Field K] [LinearOrder K] [IsStrictOrderedRing K]

/-- **setting the norm twice equals setting the last** (up to the sign of the first target):
after a positive first target the second assignment gives what it would have given on the
original vector; a negative first target flips the vector first; a zero first target is
irreversible (the cell is zero from then on).  Zero cells stay zero throughout. -/
theorem setCell_twice (sqrt : K → K) (v : List K) (t1 t2 : K) (hs : SqrtAt sqrt (sqLen v))
    (h0 : SqrtAt sqrt 0) (ht1 : SqrtAt sqrt (t1 * t1)) :
    setCell sqrt (setCell sqrt v t1) t2 =
      if t1 = 0 then zeros v else setCell sqrt v (if 0 < t1 then t2 else -t2) := by
  by_cases hz : sqLen v = 0
  · have hv := (sqLen_eq_zero_iff v).mp hz
    have e1 : ∀ t, setCell sqrt v t = zeros v := fun t => setCell_zero sqrt v t h0 hv
    rw [e1 t1, setCell_zero sqrt (zeros v) t2 h0 (fun x hx => mem_zeros hx), zeros_zeros]
    split
    · rfl
    · rw [e1]
  · by_cases h1 : t1 = 0
    · subst h1
      rw [if_pos rfl, setCell_target_zero,
        setCell_zero sqrt (zeros v) t2 h0 (fun x hx => mem_zeros hx), zeros_zeros]
    · rw [if_neg h1]
      have hl : sqLen (setCell sqrt v t1) = t1 * t1 := setCell_sqLen sqrt v t1 hs hz
      have hne : t1 * t1 ≠ 0 := mul_self_ne_zero.mpr h1
      rw [setCell_nonzero sqrt (setCell sqrt v t1) t2 (by rw [hl]; exact ht1) (by rw [hl]; exact hne), hl,
        ht1.mul_self, setCell_nonzero sqrt v t1 hs hz, smul_smul,
        setCell_nonzero sqrt v _ hs hz]
      congr 1
      rw [← div_abs_mul h1 t2, mul_div_assoc]

/-- … in particular for positive targets the last assignment wins -/
theorem setCell_setCell (sqrt : K → K) (v : List K) (t1 t2 : K) (hs : SqrtAt sqrt (sqLen v))
    (h0 : SqrtAt sqrt 0) (ht1 : SqrtAt sqrt (t1 * t1)) (hpos : 0 < t1) :
    setCell sqrt (setCell sqrt v t1) t2 = setCell sqrt v t2 := by
  rw [setCell_twice sqrt v t1 t2 hs h0 ht1, if_neg hpos.ne', if_pos hpos]

/-- **any number of assignments with positive targets equals the last one**, by induction over
the list of earlier targets -/
theorem setCell_foldl_last (sqrt : K → K) (ts : List K) (v : List K) (t : K)
    (hs : SqrtAt sqrt (sqLen v)) (h0 : SqrtAt sqrt 0)
    (hts : ∀ s ∈ ts, 0 < s ∧ SqrtAt sqrt (s * s)) :
    (ts ++ [t]).foldl (setCell sqrt) v = setCell sqrt v t := by
  induction ts generalizing v with
  | nil => rfl
  | cons s rest ih =>
    obtain ⟨hpos, hss⟩ := hts s List.mem_cons_self
    simp only [List.cons_append, List.foldl_cons]
    have hs' : SqrtAt sqrt (sqLen (setCell sqrt v s)) := by
      by_cases hz : sqLen v = 0
      · rw [setCell_zero sqrt v s h0 ((sqLen_eq_zero_iff v).mp hz), sqLen_zeros]; exact h0
      · rw [setCell_sqLen sqrt v s hs hz]; exact hss
    rw [ih (setCell sqrt v s) hs' fun x hx => hts x (List.mem_cons_of_mem _ hx)]
    exact setCell_setCell sqrt v s t hs h0 hss hpos

/-- the norm of the orientation: 1 above the threshold, 0 at or below it -/
theorem normCell_orientCell (sqrt : K → K) (atol : K) (v : List K) (h0 : 0 ≤ atol)
    (hs : SqrtAt sqrt (sqLen v)) (hs0 : SqrtAt sqrt 0) (hs1 : SqrtAt sqrt 1) :
    normCell sqrt (orientCell sqrt atol v) = if normCell sqrt v ≤ atol then 0 else 1 := by
  rcases orientCell_dichotomy sqrt atol v h0 hs with ⟨hle, hz⟩ | ⟨hgt, hu⟩
  · rw [if_pos hle, hz, normCell_eq_zero hs0 (sqLen_zeros _)]
  · rw [if_neg (not_le.mpr hgt)]; unfold normCell; rw [hu]
    exact hs1.unique zero_le_one (one_mul 1)

/-- **the orientation is idempotent** (threshold below 1): the orientation of the orientation is
the orientation -/
theorem orientCell_idem (sqrt : K → K) (atol : K) (v : List K) (h0 : 0 ≤ atol) (h1 : atol < 1)
    (hs : SqrtAt sqrt (sqLen v)) (hs0 : SqrtAt sqrt 0) (hs1 : SqrtAt sqrt 1) :
    orientCell sqrt atol (orientCell sqrt atol v) = orientCell sqrt atol v := by
  have hn := normCell_orientCell sqrt atol v h0 hs hs0 hs1
  rcases orientCell_dichotomy sqrt atol v h0 hs with ⟨hle, hz⟩ | ⟨hgt, hu⟩
  · rw [if_pos hle] at hn
    rw [orientCell_zero sqrt atol _ (by rw [hn, abs_zero]; exact h0), hz, zeros_zeros]
  · rw [if_neg (not_le.mpr hgt)] at hn
    rw [orientCell_far sqrt atol _ (by rw [hn]; exact h1), hn, map_div_eq_smul, inv_one, smul_one]

/-- **the threshold is inclusive**: `np.isclose(‖v‖, 0)` is `|‖v‖| ≤ atol`, so a cell whose length
is exactly `atol` has orientation zero, and every longer cell is normalised — there is no other
case (`closeZero` is decided by this comparison and nothing else) -/
theorem orientCell_threshold (sqrt : K → K) (atol : K) (v : List K) (h0 : 0 ≤ atol)
    (hs : SqrtAt sqrt (sqLen v)) :
    (closeZero atol (normCell sqrt v) = true ↔ normCell sqrt v ≤ atol) ∧
    (normCell sqrt v = atol → orientCell sqrt atol v = zeros v) ∧
    (atol < normCell sqrt v → sqLen (orientCell sqrt atol v) = 1) := by
  refine ⟨?_, fun he => orientCell_zero_le sqrt atol v hs (le_of_eq he),
    fun hgt => orientCell_unit sqrt atol v h0 hs hgt⟩
  exact closeZero_normCell hs atol

end Laws

/-- boundary cases with the library's `1e-8`: a vector of length exactly `1e-8` has orientation
zero, a vector longer by `1e-17` is normalised -/
example : orientCell sqrtQ atolDefault [1 / 100000000, 0] = [0, 0] := by
  have h : sqLen ([1 / 100000000, 0] : List Rat) = (1 / 100000000) * (1 / 100000000) := by norm_num [sqLen]
  rw [orientCell_zero_le sqrtQ atolDefault _ (by rw [h]; exact sqrtQ_sqrtAt _)
    (by unfold normCell; rw [h, sqrtQ_mul_self]; norm_num [atolDefault])]
  rfl
example : sqLen (orientCell sqrtQ atolDefault [1 / 100000000 + 1 / 100000000000000000, 0]) = 1 := by
  have h : sqLen ([1 / 100000000 + 1 / 100000000000000000, 0] : List Rat) =
      (1 / 100000000 + 1 / 100000000000000000) * (1 / 100000000 + 1 / 100000000000000000) := by
    norm_num [sqLen]
  exact orientCell_unit sqrtQ atolDefault _ (by norm_num [atolDefault]) (by rw [h]; exact sqrtQ_sqrtAt _)
    (by unfold normCell; rw [h, sqrtQ_mul_self]; norm_num [atolDefault])
example : SqrtAt sqrtQ (1 : Rat) := by simpa using sqrtQ_sqrtAt 1

/-- three assignments (2, 7, 1/2), then 10: the same as assigning 10 at once -/
example : (([2, 7, 1 / 2] : List Rat) ++ [10]).foldl (setCell sqrtQ) ([3, 4] : List Rat) = setCell sqrtQ [3, 4] 10 := by
  refine setCell_foldl_last sqrtQ _ _ _ sqrtAt_three_four sqrtQ_zero ?_
  intro s hs
  simp only [List.mem_cons, List.not_mem_nil, or_false] at hs
  rcases hs with rfl | rfl | rfl
  · exact ⟨by norm_num, sqrtQ_sqrtAt _⟩
  · exact ⟨by norm_num, sqrtQ_sqrtAt _⟩
  · exact ⟨by norm_num, sqrtQ_sqrtAt _⟩

/-! ## Acceptance as an equivalence; assignments composed; the orientation as a constructor call -/
section Acceptance
variable (sqrt : Rat → Rat)

/-- **the norm setter accepts exactly the well-shaped specifications**: `None`, any number, any
callable, an array-like of the mesh's shape or with last axis 1 that broadcasts to
`(*mesh.n, 1)`, a one-component field whose region contains the receiver's (same axis names);
everything else is refused — and nothing else is needed (no hypothesis on the receiver) -/
theorem setNorm_accepts_iff (f : Fld) (o : Option NSpec) :
    (∃ g, setNorm sqrt f o = .ok g) ↔ ∀ s, o = some s → s.Accepted f.mesh :=
  setNorm_ok_iff sqrt f o

/-- a refused norm field raises a `ValueError` exactly when its region does not contain the
receiver's or it has more than one component (the two checks of the code, in that order) -/
theorem setNorm_field_refused_iff (f h : Fld) :
    setNorm sqrt f (some (.field h)) = .error .value ↔
      h.mesh.region.containsReg f.mesh.region = false ∨ h.nvdim ≠ 1 := by
  rw [← asArray1_field_value_iff]
  simp only [setNorm]
  cases asArray1 f.mesh (.field h) with
  | error e => simp
  | ok t => simp

/-- **a whole history is accepted iff every statement is well-shaped for the initial mesh and
component count** (both are invariant): no hidden refusal and no hidden acceptance, with no
hypothesis on the field -/
theorem run_accepts_iff (atol : Rat) (hist : List Step) (f : Fld) :
    (∃ g, run sqrt atol f hist = .ok g) ↔ ∀ s ∈ hist, s.Accepted f.mesh f.nvdim :=
  run_ok_iff sqrt atol hist f

/-- **the constructor is accepted iff** `nvdim ≥ 1` and value, norm and validity are
well-shaped for the mesh -/
theorem mk_accepts_iff (atol : Rat) (m : Mesh) (nvdim : Nat) (value : VSpec) (nrm : Option NSpec)
    (valid : ValidSpec) (unit : Option String) :
    (∃ g, mk? sqrt atol m nvdim value nrm valid unit = .ok g) ↔
      1 ≤ nvdim ∧ value.Accepted m nvdim ∧ (∀ s, nrm = some s → s.Accepted m) ∧ valid.Accepted m :=
  mk_ok_iff sqrt atol m nvdim value nrm valid unit

/-- `Field(mesh, nvdim, value, norm, valid, unit)` is the full constructor with `vdims=None,
vdim_mapping=None` -/
theorem mk_eq_mkFull (atol : Rat) (m : Mesh) (nvdim : Nat) (value : VSpec) (nrm : Option NSpec)
    (valid : ValidSpec) (unit : Option String) :
    mk? sqrt atol m nvdim value nrm valid unit = mkFull? sqrt atol m nvdim value nrm valid none none unit := by
  rw [mkFull?_eq]
  cases h : mk? sqrt atol m nvdim value nrm valid unit with
  | error e => rfl
  | ok g =>
    -- `vdims=None, vdim_mapping=None` re-attach the defaults the plain constructor ends with
    obtain ⟨_, a, _, f1, _, vd, _, rfl⟩ := mk_ok h
    rfl

/-- **the full constructor is accepted iff** the plain one is, the labels are `None`, `[]` or as
many distinct labels as components, and the mapping is `None`, empty, a single entry on an
unlabelled scalar field (dropped), or keyed by exactly the labels -/
theorem mkFull_accepts_iff (atol : Rat) (m : Mesh) (nvdim : Nat) (value : VSpec) (nrm : Option NSpec)
    (valid : ValidSpec) (vdims : Option (List String)) (vmap : Option (List (String × String)))
    (unit : Option String) :
    (∃ g, mkFull? sqrt atol m nvdim value nrm valid vdims vmap unit = .ok g) ↔
      (∃ g, mk? sqrt atol m nvdim value nrm valid unit = .ok g) ∧
      ∃ ls, vdimsSet nvdim vdims = .ok ls ∧
        ∀ mp, vmap = some mp → (mp.length = 1 ∧ nvdim = 1 ∧ ls = none) ∨ mp = [] ∨
          ∃ l, ls = some l ∧ sameKeys (mp.map (·.1)) l = true := by
  simp only [mkFull?_ok_iff]
  constructor
  · rintro ⟨_, g0, ls, vm, h0, hls, hvm, -⟩
    exact ⟨⟨g0, h0⟩, ls, hls, (vmapSet_ok_iff nvdim ls m.region.dims vmap).mp ⟨vm, hvm⟩⟩
  · rintro ⟨⟨g0, h0⟩, ls, hls, hmp⟩
    obtain ⟨vm, hvm⟩ := (vmapSet_ok_iff nvdim ls m.region.dims vmap).mpr hmp
    exact ⟨_, g0, ls, vm, h0, hls, hvm, rfl⟩

/-- **`Field.orientation` is a constructor call** (`Field(mesh, nvdim=self.nvdim,
value=orientation_array, vdims=self.vdims, valid=self.valid, vdim_mapping=self.vdim_mapping)`):
on a field whose arrays have the mesh's shape, whose labels — if any — are as many distinct
labels as components and whose mapping is empty or keyed by the labels the result will have,
that call is accepted and returns exactly `orientation` (labels re-defaulted if there were none,
mapping kept, no unit) -/
theorem orientation_is_ctor_call (atol : Rat) (f : Fld) (hn : 1 ≤ f.nvdim)
    (hv : f.valid.shape = f.mesh.n)
    (hd : ∀ i ∈ indicesC f.mesh.n, (f.data.get i).length = f.nvdim)
    (hl : ∀ l, f.vdims = some l → l ≠ [] ∧ l.length = f.nvdim ∧ hasDup l = false)
    (hm : f.vmap = [] ∨ ∃ l, orientVdims f = some l ∧ sameKeys (f.vmap.map (·.1)) l = true) :
    orientation? sqrt atol f = .ok (orientation sqrt atol f) := by
  have hvm := vmapSet_some_ok f.nvdim (orientVdims f) f.mesh.region.dims f.vmap hm
  rw [orientation?_eq sqrt atol f hn hv hd]
  simp only [vdimsSet_live f hl, hvm]
  rfl

/-- … and the same getter is **refused** on a vector field whose labels were removed while its
mapping still carries keys (`f.vdims = []` after custom labels): the constructor re-applies
the default labels and then rejects the stale mapping — `Field.orientation` raises on such a
field -/
theorem orientation_refused_stale_mapping (atol : Rat) (f : Fld) (hn : 1 ≤ f.nvdim)
    (hv : f.valid.shape = f.mesh.n)
    (hd : ∀ i ∈ indicesC f.mesh.n, (f.data.get i).length = f.nvdim)
    (hnone : f.vdims = none) (hne : f.vmap ≠ [])
    (hbad : ∀ l, Fld.defaultVdims f.nvdim = some l → sameKeys (f.vmap.map (·.1)) l = false)
    (h1 : ¬(f.vmap.length = 1 ∧ f.nvdim = 1)) :
    ∃ e, orientation? sqrt atol f = .error e := by
  obtain ⟨e, he⟩ : ∃ e, vmapSet f.nvdim (Fld.defaultVdims f.nvdim) f.mesh.region.dims (some f.vmap) = .error e :=
    err_of_not_ok _ fun vm hvm => by
      rcases (vmapSet_ok_iff _ _ _ _).mp ⟨vm, hvm⟩ _ rfl with ⟨a, b, _⟩ | h | ⟨l, hl, hk⟩
      · exact h1 ⟨a, b⟩
      · exact hne h
      · rw [hbad l hl] at hk; cases hk
  refine ⟨e, ?_⟩
  rw [orientation?_eq sqrt atol f hn hv hd]
  simp only [hnone, vdimsSet, he]

end Acceptance

/-! ## Laws at field level: two assignments, the getter after the setter, the orientation twice and
after a rescaling -/
section FieldLaws
variable (sqrt : Rat → Rat)

/-- **setting the norm twice equals setting the last** (field level): if the first assignment
was accepted, the second one is accepted on the result iff it is accepted on the original
field, validity and frame agree, and on every cell whose first target was positive the two
arrays agree — the first assignment leaves no trace -/
theorem setNorm_twice (f g1 g2 : Fld) (s1 s2 : NSpec) (t1 : NDA Rat)
    (ht1 : asArray1 f.mesh s1 = .ok t1) (h1 : setNorm sqrt f (some s1) = .ok g1)
    (h2 : setNorm sqrt g1 (some s2) = .ok g2) :
    ∃ g2', setNorm sqrt f (some s2) = .ok g2' ∧ g2'.valid = g2.valid ∧ g2'.mesh = g2.mesh ∧
      ∀ i, SqrtAt sqrt (sqLen (f.data.get i)) → SqrtAt sqrt 0 →
        SqrtAt sqrt (t1.get i * t1.get i) → 0 < t1.get i → g2.data.get i = g2'.data.get i := by
  rw [setNorm_of_target ht1] at h1
  simp only [Except.ok.injEq] at h1
  subst h1
  obtain ⟨t2, ht2, rfl⟩ := setNorm_some_ok h2
  have ht2' : asArray1 f.mesh s2 = .ok t2 := ht2
  refine ⟨_, setNorm_of_target ht2', rfl, rfl, fun i hs h0 htt hpos => ?_⟩
  exact setCell_setCell sqrt (f.data.get i) (t1.get i) (t2.get i) hs h0 htt hpos

/-- **round trip, from the inputs alone**: a well-shaped specification is accepted, validity and
frame are untouched, and reading the norm back gives `|t_i|` on the cells that were non-zero
and 0 on the cells that were zero, `t` being what `_as_array(spec, nvdim=1)` evaluates to -/
theorem setNorm_roundtrip (f : Fld) (s : NSpec) (hacc : s.Accepted f.mesh) :
    ∃ g t, setNorm sqrt f (some s) = .ok g ∧ asArray1 f.mesh s = .ok t ∧
      g.valid = f.valid ∧ g.mesh = f.mesh ∧ g.unit = f.unit ∧
      ∀ i, SqrtAt sqrt (sqLen (f.data.get i)) → SqrtAt sqrt 0 → SqrtAt sqrt (t.get i * t.get i) →
        (norm sqrt g).data.get i = [if sqLen (f.data.get i) = 0 then 0 else |t.get i|] ∧
        Rescaled (f.data.get i) (g.data.get i) (t.get i) := by
  obtain ⟨t, ht⟩ := (asArray1_ok_iff f.mesh s).mpr hacc
  refine ⟨_, t, setNorm_of_target ht, ht, rfl, rfl, rfl, fun i hs h0 htt => ?_⟩
  exact ⟨norm_setNorm sqrt f _ s t ht (setNorm_of_target ht) i hs h0 htt,
    setNorm_rescaled sqrt f _ s t ht (setNorm_of_target ht) i hs h0⟩

/-- **the norm of the orientation field** is 1 wherever the field is above the threshold and
0 elsewhere -/
theorem norm_orientation (atol : Rat) (h0 : 0 ≤ atol) (f : Fld) (i : List Nat)
    (hs : SqrtAt sqrt (sqLen (f.data.get i))) (hs0 : SqrtAt sqrt 0) (hs1 : SqrtAt sqrt 1) :
    (norm sqrt (orientation sqrt atol f)).data.get i =
      [if normCell sqrt (f.data.get i) ≤ atol then 0 else 1] := by
  show [normCell sqrt (orientCell sqrt atol (f.data.get i))] = _
  rw [normCell_orientCell sqrt atol _ h0 hs hs0 hs1]

/-- **the orientation is idempotent** as a field operation (threshold below 1, as the library's
`1e-8`): array, validity, labels, mapping, unit — the whole field — are reproduced -/
theorem orientation_idem (atol : Rat) (h0 : 0 ≤ atol) (h1 : atol < 1) (f : Fld)
    (hs : ∀ i, SqrtAt sqrt (sqLen (f.data.get i))) (hs0 : SqrtAt sqrt 0) (hs1 : SqrtAt sqrt 1) :
    orientation sqrt atol (orientation sqrt atol f) = orientation sqrt atol f := by
  have hd : (fun i => orientCell sqrt atol (orientCell sqrt atol (f.data.get i))) =
      fun i => orientCell sqrt atol (f.data.get i) := by
    funext i; exact orientCell_idem sqrt atol _ h0 h1 (hs i) hs0 hs1
  have hv : orientVdims (orientation sqrt atol f) = orientVdims f := orientVdims_idem f _ rfl rfl
  unfold orientation
  simp only [hd]
  congr 1   -- the labels: `hv`, taken from the context

/-- **the orientation does not see a positive rescaling of the field**: wherever the vector
stays above the threshold before and after multiplying the whole field by `c > 0` -/
theorem orientation_scale_invariant (atol : Rat) (h0 : 0 ≤ atol) (c : Rat) (hc : 0 < c) (f : Fld)
    (i : List Nat) (hs : SqrtAt sqrt (sqLen (f.data.get i)))
    (hs' : SqrtAt sqrt (sqLen (smul c (f.data.get i))))
    (hat : atol < normCell sqrt (f.data.get i)) (hat' : atol < normCell sqrt (smul c (f.data.get i))) :
    (orientation sqrt atol (scaleF c f)).data.get i = (orientation sqrt atol f).data.get i :=
  orientCell_scale_invariant sqrt atol _ c hc h0 hs hs' hat hat'

end FieldLaws

/-! ### non-vacuity: the constructor with labels and mapping, the orientation as that call -/

/-- labels `a, b` both mapped onto the one axis of a 1-d mesh: accepted, since the keys of the
mapping are the labels; with a key `c` that is no label (next example) the call is refused -/
example : ∃ g, mkFull? sqrtQ atolDefault exMesh 2 (.vec [3, 4]) (some (.const 10)) .byNorm
    (some ["a", "b"]) (some [("a", "x"), ("b", "x")]) none = .ok g := ⟨_, rfl⟩
example : ∃ e, mkFull? sqrtQ atolDefault exMesh 2 (.vec [3, 4]) none .none
    (some ["a", "b"]) (some [("a", "x"), ("c", "x")]) none = .error e := ⟨_, rfl⟩
example : ∃ e, mkFull? sqrtQ atolDefault exMesh 2 (.vec [3, 4]) none .none
    (some ["a", "a"]) none none = .error e := ⟨_, rfl⟩

/-- a labelled field with a mapping (`exLabelled`, Lemmas/C15Hist) meets the hypotheses of
`orientation_is_ctor_call` -/
example : orientation? sqrtQ atolDefault exLabelled = .ok (orientation sqrtQ atolDefault exLabelled) :=
  orientation_is_ctor_call sqrtQ atolDefault exLabelled (by decide) rfl
    exLabelled_cells
    (by intro l hl; cases hl; exact ⟨by simp, rfl, by decide⟩)
    (Or.inr ⟨["a", "b"], rfl, by decide⟩)

/-- the same field after `f.vdims = []` (labels gone, mapping still keyed by them) meets the
hypotheses of `orientation_refused_stale_mapping` -/
example : ∃ e, orientation? sqrtQ atolDefault { exLabelled with vdims := none } = .error e :=
  orientation_refused_stale_mapping sqrtQ atolDefault { exLabelled with vdims := none } (by decide) rfl
    exLabelled_cells
    rfl (by simp [exLabelled])
    (by intro l hl
        have : l = ["x", "y"] := by
          have : Fld.defaultVdims 2 = some l := hl
          simpa [Fld.defaultVdims] using this.symm
        subst this; decide)
    (by rintro ⟨h, _⟩; simp [exLabelled] at h)

/-! ## The norm given as a dictionary over subregions (C02's model of `_as_array`) -/
section DictNorm
variable (sqrt : Rat → Rat)

/-- **norm given as a dictionary over the mesh's subregions** (or as anything else
`Field._as_array` takes): the per-cell targets are exactly the one-component array C02's model
of `_as_array` produces — for a dictionary: the value of the first listed subregion that
contains the cell, the default elsewhere (C02's theorems `asArray_dict_first_containing`,
`dict_cell_*`, `dict_default_*` speak about this very array) — the assignment is accepted iff
that conversion is, raises the same error otherwise, leaves validity and frame alone and
rescales every cell to its target -/
theorem setNorm_spec (f : Fld) (s : C02.Spec Rat) :
    (∀ e, C02.asArray (fun v => v == 0) s f.mesh 1 = .error e →
      setNorm sqrt f (some (.spec s)) = .error e) ∧
    (∀ a, C02.asArray (fun v => v == 0) s f.mesh 1 = .ok a →
      ∃ g, setNorm sqrt f (some (.spec s)) = .ok g ∧ g.valid = f.valid ∧ g.mesh = f.mesh ∧
        g.unit = f.unit ∧
        ∀ i, SqrtAt sqrt (sqLen (f.data.get i)) → SqrtAt sqrt 0 →
          Rescaled (f.data.get i) (g.data.get i) (a.get (i ++ [0]))) := by
  constructor
  · intro e he
    simp only [setNorm, asArray1, he]
  · intro a ha
    have ht : asArray1 f.mesh (.spec s) = .ok ⟨f.mesh.n, fun i => a.get (i ++ [0])⟩ := by
      simp only [asArray1, ha]
    exact ⟨_, setNorm_of_target ht, rfl, rfl, rfl, fun i hs h0 =>
      setNorm_rescaled sqrt f _ (.spec s) _ ht (setNorm_of_target ht) i hs h0⟩

/-- **the general path agrees with the special ones**: a number, an array of the mesh's shape,
and — on a mesh without subregions — a dictionary that only has a constant `"default"`, handed
to the setter through `_as_array`'s general model, give the targets of `const` / `arr` / `const` -/
theorem asArray1_spec_agrees (m : Mesh) (c : Rat) (a : NDA Rat) (items : List (String × C02.Leaf Rat)) :
    asArray1 m (.spec (.leaf (.scalar c))) = asArray1 m (.const c) ∧
    (a.shape = m.n → asArray1 m (.spec (.leaf (.arr a))) = asArray1 m (.arr a)) ∧
    (m.subs = [] →
      asArray1 m (.spec (.dict items (some (.val ⟨[], fun _ => c⟩)))) = asArray1 m (.const c)) := by
  refine ⟨?_, fun _ => asArray1_spec_arr m a, fun hsub => ?_⟩
  · simp only [asArray1, C02.asArray, C02.asLeaf_ok_of_wf _ (.scalar c) m 1 (Or.inl (Nat.le_refl 1))]
    rfl
  · have hany : C02.anyNone (C02.fillArr (some (.val ⟨[], fun _ => c⟩)) m 1) = false :=
      Bool.eq_false_iff.mpr fun h => by obtain ⟨j, _, hn⟩ := (C02.anyNone_iff _).mp h; cases hn
    have h : C02.asArray (fun v => v == 0) (.dict items (some (.val ⟨[], fun _ => c⟩))) m 1 = .ok _ :=
      (C02.asArray_dict_eq_ok_iff _ items _ m 1 _).mpr
        ⟨by simp [C02.dfltFillOk, C02.bcastOk, allLt], _, (by rw [hsub]; rfl), Or.inl ⟨hany, rfl⟩⟩
    simp only [asArray1, h]
    rfl

end DictNorm

/-- a dictionary norm on a mesh with one subregion is accepted by the executable model: the
cell in the subregion gets 10, the other one the default 5 -/
example : (match setNorm sqrtQ
    { mesh := { exMesh with subs := [("left", { exMesh.region with pmax := [1] })] }, nvdim := 2,
      data := ⟨[2], fun _ => [3, 4]⟩, valid := ⟨[2], fun _ => true⟩, vdims := none, vmap := [], unit := none }
    (some (.spec (.dict [("left", .scalar 10)] (some (.val ⟨[], fun _ => 5⟩))))) with
    | .ok g => decide (g.data.get [0] = [6, 8]) && decide (g.data.get [1] = [3, 4])
    | .error _ => false) = true := by decide +kernel

/-! ## The norm given as a field on another mesh, from the inputs alone -/
section FieldNorm
variable (sqrt : Rat → Rat)

/-- **norm given as a field on another mesh, from the inputs alone**: a one-component field whose
region contains the receiver's (same axis names) is accepted, and every cell `i` is rescaled
to the value of the norm field at the cell containing the centre of cell `i` (a centre on a face
goes to the cell above) — no hypothesis about the success of any intermediate step -/
theorem setNorm_field_accepted (f h : Fld) (hm : f.mesh.Inv) (hh : h.mesh.Inv)
    (hc : h.mesh.region.containsReg f.mesh.region = true) (hnv : h.nvdim = 1)
    (hd : h.mesh.region.dims = f.mesh.region.dims) :
    ∃ g, setNorm sqrt f (some (.field h)) = .ok g ∧ g.valid = f.valid ∧
      ∀ i : List Nat, (∀ a, a < f.mesh.ndim → i.getD a 0 < f.mesh.nAt a) →
        SqrtAt sqrt (sqLen (f.data.get i)) → SqrtAt sqrt 0 →
        Rescaled (f.data.get i) (g.data.get i)
          ((h.data.get (tab f.mesh.ndim fun a => h.mesh.indexAx a ((f.mesh.centre i).getD a 0))).getD 0 0) := by
  obtain ⟨g, hg⟩ := (setNorm_accepts_iff sqrt f (some (.field h))).mpr
    (fun s hs => by cases hs; exact ⟨hc, hnv, hd⟩)
  exact ⟨g, hg, (setNorm_frame sqrt f g _ hg).2.2.1, fun i hi hs h0 =>
    setNorm_field sqrt f g h hm hh hg i hi hs h0⟩

end FieldNorm

/-- the coarser norm field of the earlier example meets the three input conditions -/
example : (blank { exMesh with n := [1] } 1 none).mesh.region.containsReg exMesh.region = true ∧
    (blank { exMesh with n := [1] } 1 none).nvdim = 1 ∧
    (blank { exMesh with n := [1] } 1 none).mesh.region.dims = exMesh.region.dims :=
  ⟨by decide +kernel, rfl, rfl⟩

/-! ## The sum of squares in any order (`SqTree`) -/
section AnyOrder
variable {K : Type} [Field K] [LinearOrder K] [IsStrictOrderedRing K]

/-- **the bounds do not depend on the order in which the squares are added**: for ANY bracketing
`tr` of the sum (left to right as NumPy does up to seven components, pairwise as it does from
eight on, or any other), with `v` the components, `n` their number, a rounded root and
`(n+1)²·u ≤ 2^-10`: the computed norm `ν = fl(sq(Σ))` is non-negative, zero exactly on the zero
cell, `ν²` within `(n+6)·u` of `Σ v_c²`; the setter's arithmetic `fl(fl(x/ν)·t)` yields squared
length within `(n+10)·u` of `t²`, cross terms relatively below `17/4·u/(1−17/8·u)`, positive
dot product for `t > 0`; the orientation's arithmetic `fl(x/ν)` yields squared length within
`(n+8)·u` of 1 -/
theorem any_order_exec (fl sq : K → K) (u : K) (h : FlOk fl u) (hq : SqrtOk sq u) (tr : SqTree K) (t : K)
    (hn : ((tr.leaves.length : K) + 1) * ((tr.leaves.length : K) + 1) * u ≤ 1 / 1024) :
    0 ≤ fl (sq (tr.flSum fl)) ∧
    |fl (sq (tr.flSum fl)) * fl (sq (tr.flSum fl)) - sqLen tr.leaves| ≤
      ((tr.leaves.length : K) + 6) * u * sqLen tr.leaves ∧
    (fl (sq (tr.flSum fl)) = 0 ↔ ∀ x ∈ tr.leaves, x = 0) ∧
    (sqLen tr.leaves ≠ 0 →
      |sqLen (tr.leaves.map fun x => fl (fl (x / fl (sq (tr.flSum fl))) * t)) - t * t| ≤
        ((tr.leaves.length : K) + 10) * u * (t * t) ∧
      (∀ a b : Nat, a < tr.leaves.length →
        |(tr.leaves.map fun x => fl (fl (x / fl (sq (tr.flSum fl))) * t)).getD a 0 * tr.leaves.getD b 0 -
            (tr.leaves.map fun x => fl (fl (x / fl (sq (tr.flSum fl))) * t)).getD b 0 * tr.leaves.getD a 0|
          * (1 - 17 / 8 * u) ≤
          17 / 4 * u * |(tr.leaves.map fun x => fl (fl (x / fl (sq (tr.flSum fl))) * t)).getD a 0 * tr.leaves.getD b 0|) ∧
      (0 < t → 0 < dot (tr.leaves.map fun x => fl (fl (x / fl (sq (tr.flSum fl))) * t)) tr.leaves) ∧
      |sqLen (tr.leaves.map fun x => fl (x / fl (sq (tr.flSum fl)))) - 1| ≤ ((tr.leaves.length : K) + 8) * u) := by
  have hu0 := h.1
  have hu := count_u hu0 le_rfl hn
  have hS := sqLen_nonneg tr.leaves
  -- the radicand costs no more than left to right, whatever the bracketing (`SqTree.flSum_rel`)
  obtain ⟨h1, h2⟩ := norm_exec_rel h hq hu hS (tr.flSum_rel h hu)
  have h3 := h2.sq_eq_zero_iff
  have c1 := Rel.le_any_sq (j := 5) hu0 le_rfl hn (h2.mono (by omega)) (by norm_num) 6 (by norm_num)
  rw [abs_of_nonneg hS] at c1
  refine ⟨h1, c1, h3.trans (sqLen_eq_zero_iff _), fun hnz => ?_⟩
  have hnpos : 0 < fl (sq (tr.flSum fl)) := lt_of_le_of_ne h1 (fun e => hnz (h3.mp e.symm))
  have hSpos : 0 < sqLen tr.leaves := lt_of_le_of_ne hS (Ne.symm hnz)
  obtain ⟨a1, a2, a3⟩ := setMap_rel h hu tr.leaves t hnpos hSpos h2
  have a1 := Rel.le_any_sq (j := 9) hu0 le_rfl hn (a1.mono (by omega)) (by norm_num) 10 (by norm_num)
  have o1 := Rel.le_any_sq (j := 7) hu0 le_rfl hn ((orientMap_rel h hu tr.leaves hnz h2).mono (by omega)) (by norm_num) 8
    (by norm_num)
  rw [abs_mul_self] at a1
  rw [abs_one, mul_one] at o1
  exact ⟨a1, a2, a3, o1⟩

end AnyOrder

/-- … in particular for binary64 (`fl64`, `sqrt64`) and every bracketing of fewer than two million
rational squares: the computed norm's square is within `(n+6)·2^-53` of the sum of squares,
whatever the summation order -/
theorem exec64_any_order (tr : SqTree Rat) (hlen : tr.leaves.length < 2000000) :
    0 ≤ fl64 (sqrt64 (tr.flSum fl64)) ∧
    |fl64 (sqrt64 (tr.flSum fl64)) * fl64 (sqrt64 (tr.flSum fl64)) - sqLen tr.leaves| ≤
      ((tr.leaves.length : Rat) + 6) * (1 / 9007199254740992) * sqLen tr.leaves ∧
    (fl64 (sqrt64 (tr.flSum fl64)) = 0 ↔ ∀ x ∈ tr.leaves, x = 0) := by
  have hn := count_ok tr.leaves.length 1 (by omega) hlen
  simp only [Nat.cast_one] at hn
  obtain ⟨h1, h2, h3, _⟩ := any_order_exec fl64 sqrt64 _ fl64_flOk sqrt64_sqrtOk tr 1 hn
  exact ⟨h1, h2, h3⟩

/-- nine squares added pairwise (a balanced bracketing) in binary64 -/
example : ((SqTree.node (.node (.node (.leaf 1) (.leaf 2)) (.node (.leaf 3) (.leaf 4)))
      (.node (.node (.leaf 5) (.leaf 6)) (.node (.leaf 7) (.node (.leaf 8) (.leaf (9 : Rat)))))).leaves.length : Rat) = 9 := by
  norm_num [SqTree.leaves]

end DFV.C15
