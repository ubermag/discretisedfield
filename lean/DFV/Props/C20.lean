import DFV.Lemmas.C20Examples
/-!
# C20 — matplotlib plots draw the field's own numbers at their physical coordinates

Level: proof, partial.  The theorems are about the ARGUMENT ASSEMBLY model `DFV.C20`
(`Model/C20.lean`: what `field.mpl.scalar / vector / contour / lightness / field.mpl()` hand to
matplotlib) and hold for every 2-d mesh, every cell count, every field, mask, filter,
mapping and multiplier.  Rendering is matplotlib's; its placement contract is TRUSTED and
stated here as `PixelCovers` (imshow) and in the wording of `vector_at_centres` (quiver):

* `imshow(img, origin="lower", extent=(x0, x1, y0, y1))` with an `R×C` image: pixel
  `[r][c]` covers `x ∈ [x0 + c·(x1-x0)/C, x0 + (c+1)·(x1-x0)/C)` and
  `y ∈ [y0 + r·(y1-y0)/R, y0 + (r+1)·(y1-y0)/R)`, the last column / row closed at `x1` / `y1`;
* `quiver(X, Y, U, V, C)` draws arrow `(U[r][c], V[r][c])` with colour `C[r][c]` at `(X[c], Y[r])`;
* NaN pixels (`none`) and arrows with a NaN component are not drawn.

Property theorems and the contract `PixelCovers` only.  The notions the statements use are defined in
`DFV/Lemmas/C20*.lean`: `MultOk` (`Si`); `AxisCovers` (`Img`); `EndsWithLabels`, `ArrowOf`, `okB`,
`LightSource` (`Plot`); `keptBy`, `auxAt`, `srcIdx`, `AuxGeom` (`Keep`); the input conditions `AuxOk`,
`MappingOk`, `ArrowsOk`, `ColourOk` and the exact ones `FieldWf`, `VectorCond`, `ArrowsExact`, `ColourExact`,
`AngleOk` (`Accept`); `SFrame` (`Session`); `Frame`, `HFld.On`, `HReqOk` (`Heap`, `HeapRef`, `HeapSession`);
the closed examples `exS`, `exV`, `exOnes`, `exFine` (2×3 mesh on `[0,4]×[0,6]`, cell (0,2) invalid) and
their heaps (`Examples`).

Three models: `Model/C20.lean` (argument assembly on fields as VALUES), `Model/C20Session.lean`
(`MplField.__call__` on a store of keyword-dictionary OBJECTS; histories of calls) and
`Model/C20Heap.lean` (the plot functions on a HEAP of numpy buffers: copies, views, in-place
writes).
-/
namespace DFV.C20
open DFV

/-- matplotlib's imshow placement contract (trusted): pixel `[r][c]` of an `R×C` image with
`origin="lower"` and `extent = [x0, x1, y0, y1]` covers the point `(x, y)` -/
def PixelCovers (R C : Nat) (ext : List Rat) (r c : Nat) (x y : Rat) : Prop :=
  AxisCovers C (ext.getD 0 0) (ext.getD 1 0) c x ∧ AxisCovers R (ext.getD 2 0) (ext.getD 3 0) r y

/-! ## scalar plot: the value drawn at a physical point is the field value of its cell -/

/-- Generic positional statement behind scalar, contour and lightness images.  For a 2-d
mesh, a positive multiplier `m`, and any point `(x, y)` (in units of `m`) of the closed
region, let `(i, j)` be the cell `point2index` assigns to `(x·m, y·m)` (C01's `indexAx`).
Then, for the transposed masked image handed to matplotlib with the extent `region / m`:
the pixel `[j][i]` covers `(x, y)` under the imshow contract, it is the only pixel that
does, and it holds the value of cell `(i, j)` when that cell is kept by the filter and
NaN otherwise. -/
theorem image_at_position {α} (msh : Mesh) (hinv : msh.Inv) (h2 : msh.region.ndim = 2) (m : Rat)
    (hm : 0 < m) (keep : NDA Bool) (val : List Nat → α) (x y : Rat)
    (hx : msh.region.lo 0 ≤ x * m ∧ x * m ≤ msh.region.hi 0)
    (hy : msh.region.lo 1 ≤ y * m ∧ y * m ≤ msh.region.hi 1) :
    (imgOf msh.n keep val).shape = [msh.nAt 1, msh.nAt 0] ∧
    msh.indexAx 0 (x * m) < msh.nAt 0 ∧ msh.indexAx 1 (y * m) < msh.nAt 1 ∧
    PixelCovers (msh.nAt 1) (msh.nAt 0)
      [msh.region.lo 0 / m, msh.region.hi 0 / m, msh.region.lo 1 / m, msh.region.hi 1 / m]
      (msh.indexAx 1 (y * m)) (msh.indexAx 0 (x * m)) x y ∧
    (∀ r c, r < msh.nAt 1 → c < msh.nAt 0 →
      PixelCovers (msh.nAt 1) (msh.nAt 0)
        [msh.region.lo 0 / m, msh.region.hi 0 / m, msh.region.lo 1 / m, msh.region.hi 1 / m] r c x y →
      r = msh.indexAx 1 (y * m) ∧ c = msh.indexAx 0 (x * m)) ∧
    (imgOf msh.n keep val).get [msh.indexAx 1 (y * m), msh.indexAx 0 (x * m)] =
      if keep.get [msh.indexAx 0 (x * m), msh.indexAx 1 (y * m)]
      then some (val [msh.indexAx 0 (x * m), msh.indexAx 1 (y * m)]) else none := by
  obtain ⟨a, b, c, d⟩ := pixel_of_point msh hinv h2 m hm x y hx hy
  exact ⟨by rw [imgOf_shape]; rfl, a, b, c, d, imgOf_get _ (mesh_n_two msh hinv h2) _ _ _ _⟩

/-- **Central theorem (scalar plot).**  Whenever `field.mpl.scalar` succeeds on a well-formed
2-d mesh it makes exactly one `imshow` call followed by the axis labels; the image has
`origin="lower"`, shape `(n₁, n₀)`, extent `region / multiplier` (`multiplier > 0`), and for
EVERY physical point `(x, y)` of the region (in units of the multiplier) the unique pixel
covering it under the imshow contract shows the value of the cell that contains
`(x·multiplier, y·multiplier)` — if the filter in force keeps that cell — and NaN (nothing
drawn) otherwise. -/
theorem scalar_at_position (f : Fld) (o : Opts) (calls : List PlotCall) (hinv : f.mesh.Inv)
    (h : mplScalar f o = .ok calls) :
    ∃ m keep img lab, 0 < m ∧ setupMultiplier f o.mult = .ok m ∧
      filterKeep f (filterOf f o) = .ok keep ∧
      calls = [.imshow img "lower"
        [f.mesh.region.lo 0 / m, f.mesh.region.hi 0 / m, f.mesh.region.lo 1 / m, f.mesh.region.hi 1 / m],
        lab] ∧
      img.shape = [f.mesh.nAt 1, f.mesh.nAt 0] ∧
      ∀ x y, f.mesh.region.lo 0 ≤ x * m ∧ x * m ≤ f.mesh.region.hi 0 →
        f.mesh.region.lo 1 ≤ y * m ∧ y * m ≤ f.mesh.region.hi 1 →
        f.mesh.indexAx 0 (x * m) < f.mesh.nAt 0 ∧ f.mesh.indexAx 1 (y * m) < f.mesh.nAt 1 ∧
        PixelCovers (f.mesh.nAt 1) (f.mesh.nAt 0)
          [f.mesh.region.lo 0 / m, f.mesh.region.hi 0 / m, f.mesh.region.lo 1 / m, f.mesh.region.hi 1 / m]
          (f.mesh.indexAx 1 (y * m)) (f.mesh.indexAx 0 (x * m)) x y ∧
        (∀ r c, r < f.mesh.nAt 1 → c < f.mesh.nAt 0 →
          PixelCovers (f.mesh.nAt 1) (f.mesh.nAt 0)
            [f.mesh.region.lo 0 / m, f.mesh.region.hi 0 / m, f.mesh.region.lo 1 / m, f.mesh.region.hi 1 / m]
            r c x y →
          r = f.mesh.indexAx 1 (y * m) ∧ c = f.mesh.indexAx 0 (x * m)) ∧
        img.get [f.mesh.indexAx 1 (y * m), f.mesh.indexAx 0 (x * m)] =
          if keep.get [f.mesh.indexAx 0 (x * m), f.mesh.indexAx 1 (y * m)]
          then some ((f.data.get [f.mesh.indexAx 0 (x * m), f.mesh.indexAx 1 (y * m)]).getD 0 0)
          else none := by
  obtain ⟨h2, _, m, keep, lab, hpos, hm, hk, _, hc⟩ := mplScalar_inv f o calls hinv h
  refine ⟨m, keep, _, lab, hpos, hm, hk, hc, by rw [imgOf_shape]; rfl, fun x y hx hy => ?_⟩
  obtain ⟨a, b, c, d⟩ := pixel_of_point f.mesh hinv h2 m hpos x y hx hy
  exact ⟨a, b, c, d, imgOf_get _ (mesh_n_two f.mesh hinv h2) _ _ _ _⟩

/-- In-domain inputs are plotted: on a well-formed 2-d mesh, a field with one component,
a multiplier of the SI table and a usable filter always yield the `imshow` call. -/
theorem scalar_total (f : Fld) (o : Opts) (hinv : f.mesh.Inv) (h2 : f.mesh.region.ndim = 2)
    (hnv : f.nvdim ≤ 1) (m : Rat) (hm : setupMultiplier f o.mult = .ok m) (pre : String)
    (hp : rsiPrefix? m = some pre) (keep : NDA Bool) (hk : filterKeep f (filterOf f o) = .ok keep) :
    ∃ calls, mplScalar f o = .ok calls := by
  exact ⟨_, (mplScalar_eq_ok_iff f o _).mpr ⟨h2, hnv, m, hm, (scalarCore_eq_ok_iff f o m _).mpr
    ⟨_, keep, _, extent_eq f.mesh.region hinv.1 h2 m (rsiPrefix_pos m pre hp), hk,
      (axisLabels_eq_ok_iff _ m _).mpr ⟨pre, hp, rfl⟩, rfl⟩⟩⟩

/-- Non-vacuity of `scalar_at_position` / `scalar_total`: the 2×3 example field on
`[0,4]×[0,6]` is plotted with the default multiplier 1 and the default filter. -/
example : ∃ calls, mplScalar exS {} = .ok calls := by
  obtain ⟨keep, hk, _⟩ := filterKeep_valid exS rfl
  exact scalar_total exS {} exMesh_inv rfl (by decide) 1 (by decide +kernel) "" (by decide +kernel) keep hk

/-! ## hidden cells -/

/-- Default filter: with no `filter_field`, pixel `[j][i]` shows the value of cell `(i, j)`
exactly when that cell is valid; invalid cells are NaN (not drawn). -/
theorem scalar_default_hides_invalid (f : Fld) (o : Opts) (calls : List PlotCall) (hinv : f.mesh.Inv)
    (hnone : o.filter = none) (h : mplScalar f o = .ok calls) :
    ∃ img ext lab, calls = [.imshow img "lower" ext, lab] ∧
      ∀ i j, img.get [j, i] =
        if f.valid.get [i, j] then some ((f.data.get [i, j]).getD 0 0) else none := by
  obtain ⟨h2, _, m, keep, lab, _, _, hk, _, hc⟩ := mplScalar_inv f o calls hinv h
  obtain ⟨keep', hk', hget⟩ := filterKeep_valid f h2
  rw [filterOf_none f o hnone, hk'] at hk
  obtain rfl := Except.ok.inj hk
  exact ⟨_, _, lab, hc, fun i j => by rw [imgOf_get _ (mesh_n_two f.mesh hinv h2), hget]⟩

/-- **Hidden cells, explicit filter on the same cell counts.**  Pixel
`[j][i]` shows the value of cell `(i, j)` exactly when that cell is VALID and the filter
field is non-zero there; it is NaN (nothing drawn) when the cell is invalid or zero in the
filter field.  (`_filter_values` applies the validity mask whatever filter is given.) -/
theorem scalar_filter_hides_zero_and_invalid (f flt : Fld) (o : Opts) (calls : List PlotCall)
    (hinv : f.mesh.Inv) (hflt : o.filter = some flt) (hn : flt.mesh.n = f.mesh.n)
    (h : mplScalar f o = .ok calls) :
    ∃ img ext lab, calls = [.imshow img "lower" ext, lab] ∧
      ∀ i j, img.get [j, i] =
        if f.valid.get [i, j] = true ∧ (flt.data.get [i, j]).getD 0 0 ≠ 0
        then some ((f.data.get [i, j]).getD 0 0) else none := by
  obtain ⟨h2, _, m, keep, lab, _, _, hk, _, hc⟩ := mplScalar_inv f o calls hinv h
  rw [filterOf_some f flt o hflt] at hk
  obtain ⟨_, _, a, ha, _, hget⟩ := filterKeep_ok_inv f flt keep hk
  rw [auxOnMesh_same f flt hn] at ha
  obtain rfl := Except.ok.inj ha
  refine ⟨_, _, lab, hc, fun i j => ?_⟩
  rw [imgOf_get _ (mesh_n_two f.mesh hinv h2), hget]
  by_cases hv : f.valid.get [i, j] = true <;> simp [hv]

/-- **Invalid cells are never drawn**, whatever filter is in force (default, explicit, same or
another resolution): if the filter step succeeds, every invalid cell is dropped. -/
theorem invalid_never_kept (f flt : Fld) (keep : NDA Bool) (hk : filterKeep f flt = .ok keep)
    (i : List Nat) (hv : f.valid.get i = false) : keep.get i = false := by
  obtain ⟨_, _, a, _, _, hget⟩ := filterKeep_ok_inv f flt keep hk
  rw [hget i, hv, Bool.and_false]

/-- **Filter on another resolution.**  A `filter_field` whose cell counts differ from the
field's is resampled onto the field's cell counts over the FILTER's region: the value deciding
cell `i` is the value of the filter cell whose centre is nearest (per axis) to the centre of
cell `i` of that re-gridded region (C07's nearest-neighbour lookup); invalid cells are dropped
in any case. -/
theorem filter_other_resolution (f flt : Fld) (keep : NDA Bool) (hn : flt.mesh.n ≠ f.mesh.n)
    (hk : filterKeep f flt = .ok keep) :
    ∃ m : Mesh, m.region = flt.mesh.region ∧ m.n = f.mesh.n ∧
      ∀ i, keep.get i =
        (!decide ((flt.data.get (tab flt.mesh.ndim fun a =>
            C07.nearestAx flt.mesh a (C07.coord m a (i.getD a 0)))).getD 0 0 = 0) && f.valid.get i) := by
  obtain ⟨_, _, a, ha, _, hget⟩ := filterKeep_ok_inv f flt keep hk
  obtain ⟨_, _, rfl⟩ := auxOnMesh_other_inv f flt hn a ha
  exact ⟨C07.regrid flt.mesh f.mesh.n, rfl, rfl, fun i => hget i⟩

/-- Non-vacuity of `filter_other_resolution`: a 4 × 3 filter on the 2 × 3 example field. -/
example : okB (filterKeep exS exFine) = true ∧ exFine.mesh.n ≠ exS.mesh.n ∧
    okB (mplScalar exS { filter := some exFine }) = true := by
  decide +kernel

/-- Non-vacuity / regression for the defect D91 of DESIGN.md (an explicit filter drew the value of an
invalid cell): with an explicit filter that is
non-zero everywhere the invalid cell `(0, 2)` of the example field is NOT drawn, its valid
neighbour `(0, 1)` shows its value 2. -/
example : ∃ calls img ext lab, mplScalar exS { filter := some exOnes } = .ok calls ∧
    calls = [.imshow img "lower" ext, lab] ∧
    exS.valid.get [0, 2] = false ∧ img.get [2, 0] = none ∧ img.get [1, 0] = some 2 := by
  obtain ⟨keep, hk, _⟩ := filterKeep_same exS exOnes rfl rfl rfl
  obtain ⟨calls, hc⟩ := scalar_total exS { filter := some exOnes } exMesh_inv rfl (by decide) 1
    (by decide +kernel) "" (by decide +kernel) keep hk
  obtain ⟨img, ext, lab, hcalls, hpix⟩ :=
    scalar_filter_hides_zero_and_invalid exS exOnes { filter := some exOnes } calls exMesh_inv rfl rfl hc
  refine ⟨calls, img, ext, lab, hc, hcalls, by decide +kernel, ?_, ?_⟩
  · rw [hpix 0 2]; decide +kernel
  · rw [hpix 0 1]; decide +kernel

/-! ## vector plot -/

/-- **Arrows sit at cell centres / multiplier.**  Whenever `field.mpl.vector` succeeds it makes
one `quiver` call followed by the labels; `X` has one entry per cell along axis 0, `Y` one per
cell along axis 1, entry `c` being the centre of cell `c`, `pmin + (c + ½)·cell`, divided by the
(positive) multiplier; `U`, `V` have shape `(n₁, n₀)`, so that under the quiver contract the
arrow `[r][c]` is drawn at the centre of cell `(c, r)`. -/
theorem vector_at_centres (f : Fld) (o : Opts) (calls : List PlotCall)
    (h : mplVector f o = .ok calls) :
    ∃ m X Y U V C lab, 0 < m ∧ setupMultiplier f o.mult = .ok m ∧
      calls = [.quiver X Y U V C, lab] ∧
      X.length = f.mesh.nAt 0 ∧ Y.length = f.mesh.nAt 1 ∧
      (∀ c, c < f.mesh.nAt 0 →
        X.getD c 0 = (f.mesh.region.lo 0 + ((c : Rat) + 1/2) * f.mesh.cellAt 0) / m) ∧
      (∀ r, r < f.mesh.nAt 1 →
        Y.getD r 0 = (f.mesh.region.lo 1 + ((r : Rat) + 1/2) * f.mesh.cellAt 1) / m) ∧
      U.shape = [f.mesh.nAt 1, f.mesh.nAt 0] ∧ V.shape = [f.mesh.nAt 1, f.mesh.nAt 0] := by
  obtain ⟨h2, _, m, hm, hcore⟩ := (mplVector_eq_ok_iff f o calls).mp h
  obtain ⟨keep, vd, ax, ay, c, lab, _, _, _, _, _, _, hl, hc⟩ := (vectorCore_eq_ok_iff f o m calls).mp hcore
  have hnd : f.mesh.ndim = 2 := h2
  exact ⟨m, _, _, _, _, c, lab, axisLabels_pos _ _ _ hl, hm, hc, pointsAx_length _ _ _ (by omega),
    pointsAx_length _ _ _ (by omega), fun c hc' => pointsAx_getD _ _ _ _ (by omega) hc',
    fun r hr => pointsAx_getD _ _ _ _ (by omega) hr, arrowArr_shape _ _ _, arrowArr_shape _ _ _⟩

/-- **Arrow components are chosen through the component-to-axis mapping.**  With no explicit
`vdims=`, the horizontal arrow component `U[r][c]` is the component of cell `(c, r)` whose label
the mapping sends to the first spatial dimension (`(label, dims[0]) ∈ vdim_mapping`, and that
label is the `k`-th entry of `field.vdims`), `V` likewise for the second dimension; a direction
nothing is mapped to gets zeros.  Invalid cells carry NaN in every mapped component. -/
theorem vector_components_through_mapping (f : Fld) (o : Opts) (calls : List PlotCall)
    (hinv : f.mesh.Inv) (hvd : o.vdimsArg = none) (h : mplVector f o = .ok calls) :
    ∃ X Y U V C lab, calls = [.quiver X Y U V C, lab] ∧
      ((∃ l k vs, (l, f.mesh.region.dims.getD 0 "") ∈ f.vmap ∧ f.vdims = some vs ∧ vs.getD k "" = l ∧
          ∀ r c, U.get [r, c] =
            if f.valid.get [c, r] then some ((f.data.get [c, r]).getD k 0) else none) ∨
        (∀ r c, U.get [r, c] = some 0)) ∧
      ((∃ l k vs, (l, f.mesh.region.dims.getD 1 "") ∈ f.vmap ∧ f.vdims = some vs ∧ vs.getD k "" = l ∧
          ∀ r c, V.get [r, c] =
            if f.valid.get [c, r] then some ((f.data.get [c, r]).getD k 0) else none) ∨
        (∀ r c, V.get [r, c] = some 0)) := by
  obtain ⟨vd, ax, ay, X, Y, U, V, C, lab, hvds, hax, hay, _, _, hc, hU, hV⟩ := mplVector_inv f o calls hinv h
  obtain rfl : vd = inplaneVdims f := by rw [((vectorVdims_ok_iff f o vd).mp hvds).2, hvd]; rfl
  have side : ∀ (d : String) (ai : Option Nat) (A : NDA (Option Rat)),
      arrowIdx f (rDimLast f d) = .ok ai → ArrowOf f ai A →
      ((∃ l k vs, (l, d) ∈ f.vmap ∧ f.vdims = some vs ∧ vs.getD k "" = l ∧
          ∀ r c, A.get [r, c] =
            if f.valid.get [c, r] then some ((f.data.get [c, r]).getD k 0) else none) ∨
        (∀ r c, A.get [r, c] = some 0)) := by
    intro d ai A hai hA
    rcases arrowOf_label f _ ai A hai hA with ⟨l, k, vs, hs, _, hvs, hks, hA⟩ | ⟨_, hA⟩
    · exact Or.inl ⟨l, k, vs, rDimLast_mem f d l hs, hvs, hks, hA⟩
    · exact Or.inr hA
  exact ⟨X, Y, U, V, C, lab, hc, side _ ax U hax hU, side _ ay V hay hV⟩

/-- **Explicit labels.**  With `vdims=[lx, ly]` the arrow components are the components with
exactly these labels (zeros for `None`), NaN in invalid cells. -/
theorem vector_components_explicit (f : Fld) (o : Opts) (calls : List PlotCall) (hinv : f.mesh.Inv)
    (lx ly : Option String) (hvd : o.vdimsArg = some [lx, ly]) (h : mplVector f o = .ok calls) :
    ∃ X Y U V C lab, calls = [.quiver X Y U V C, lab] ∧
      ((∃ l k vs, lx = some l ∧ f.vdims = some vs ∧ vs.getD k "" = l ∧
          ∀ r c, U.get [r, c] =
            if f.valid.get [c, r] then some ((f.data.get [c, r]).getD k 0) else none) ∨
        ((lx = none ∨ lx = some "") ∧ ∀ r c, U.get [r, c] = some 0)) ∧
      ((∃ l k vs, ly = some l ∧ f.vdims = some vs ∧ vs.getD k "" = l ∧
          ∀ r c, V.get [r, c] =
            if f.valid.get [c, r] then some ((f.data.get [c, r]).getD k 0) else none) ∨
        ((ly = none ∨ ly = some "") ∧ ∀ r c, V.get [r, c] = some 0)) := by
  obtain ⟨vd, ax, ay, X, Y, U, V, C, lab, hvds, hax, hay, _, _, hc, hU, hV⟩ := mplVector_inv f o calls hinv h
  obtain rfl : vd = [lx, ly] := by rw [((vectorVdims_ok_iff f o vd).mp hvds).2, hvd]; rfl
  have side : ∀ (l : Option String) (ai : Option Nat) (A : NDA (Option Rat)),
      arrowIdx f l = .ok ai → ArrowOf f ai A →
      ((∃ s k vs, l = some s ∧ f.vdims = some vs ∧ vs.getD k "" = s ∧
          ∀ r c, A.get [r, c] =
            if f.valid.get [c, r] then some ((f.data.get [c, r]).getD k 0) else none) ∨
        ((l = none ∨ l = some "") ∧ ∀ r c, A.get [r, c] = some 0)) := by
    intro l ai A hai hA
    exact (arrowOf_label f l ai A hai hA).imp (fun ⟨s, k, vs, hs, _, hvs, hks, hA⟩ => ⟨s, k, vs, hs, hvs, hks, hA⟩) id
  exact ⟨X, Y, U, V, C, lab, hc, side lx ax U hax hU, side ly ay V hay hV⟩

/-- **Colour = the third component.**  For a 3-component field with `use_color=True` and no
`color_field`, when exactly one label `l` is left over after removing the two arrow labels,
`C[r][c]` is the component labelled `l` of cell `(c, r)`. -/
theorem vector_colour_third (f : Fld) (o : Opts) (vd : List (Option String)) (l : String)
    (hinv : f.mesh.Inv) (h2 : f.mesh.region.ndim = 2) (huse : o.useColor = true)
    (haux : o.aux = none) (h3 : f.nvdim = 3) (hleft : leftover f vd = [l]) (C : Option (NDA Rat))
    (h : colourOf f o vd = .ok C) :
    ∃ arr k vs, C = some arr ∧ f.vdims = some vs ∧ vs.getD k "" = l ∧ some l ∉ vd ∧
      arr.shape = [f.mesh.nAt 1, f.mesh.nAt 0] ∧
      ∀ r c, arr.get [r, c] = (f.data.get [c, r]).getD k 0 := by
  have hn : f.mesh.n.length = 2 := mesh_n_two f.mesh hinv h2
  rw [colourOf_third f o vd huse haux h3] at h
  cases hc : thirdComp f vd o.pick with
  | error e => rw [hc] at h; cases h
  | ok k =>
    rw [hc] at h
    obtain ⟨vs, hvs, hks, hnot⟩ := thirdComp_single_inv f vd l o.pick k hleft hc
    refine ⟨_, k, vs, (Except.ok.inj h).symm, hvs, hks, hnot, by rw [colourArr_shape]; rfl, fun r c => ?_⟩
    rw [colourArr_get _ hn]
    rfl

/-- **Colour = the colour field.**  With a scalar `color_field` on the same cell counts,
`C[r][c]` is the colour field's value in cell `(c, r)`. -/
theorem vector_colour_field (f g : Fld) (o : Opts) (vd : List (Option String)) (hinv : f.mesh.Inv)
    (h2 : f.mesh.region.ndim = 2) (huse : o.useColor = true) (haux : o.aux = some g)
    (hn : g.mesh.n = f.mesh.n) (C : Option (NDA Rat)) (h : colourOf f o vd = .ok C) :
    g.nvdim = 1 ∧ g.mesh.region.ndim = 2 ∧
    ∃ arr, C = some arr ∧ arr.shape = [f.mesh.nAt 1, f.mesh.nAt 0] ∧
      ∀ r c, arr.get [r, c] = (g.data.get [c, r]).getD 0 0 := by
  obtain ⟨g1, g2, a, ha, rfl⟩ := colourOf_aux_inv f g o vd huse haux C h
  rw [auxOnMesh_same f g hn] at ha
  obtain rfl := Except.ok.inj ha
  exact ⟨g1, g2, _, rfl, by rw [colourArr_shape]; rfl,
    fun r c => colourArr_get _ (mesh_n_two f.mesh hinv h2) _ r c⟩

/-! ## contour plot -/

/-- **Contour grid.**  Whenever `field.mpl.contour` succeeds it makes one `contour(X, Y, Z)` call
followed by the labels: `X`, `Y` are the cell centres divided by the (positive) multiplier and
`Z[r][c]` is the value of cell `(c, r)` if the filter in force keeps it and NaN otherwise. -/
theorem contour_grid (f : Fld) (o : Opts) (calls : List PlotCall) (hinv : f.mesh.Inv)
    (h : mplContour f o = .ok calls) :
    ∃ m keep X Y Z lab, 0 < m ∧ setupMultiplier f o.mult = .ok m ∧
      filterKeep f (filterOf f o) = .ok keep ∧ calls = [.contour X Y Z, lab] ∧
      X.length = f.mesh.nAt 0 ∧ Y.length = f.mesh.nAt 1 ∧
      (∀ c, c < f.mesh.nAt 0 →
        X.getD c 0 = (f.mesh.region.lo 0 + ((c : Rat) + 1/2) * f.mesh.cellAt 0) / m) ∧
      (∀ r, r < f.mesh.nAt 1 →
        Y.getD r 0 = (f.mesh.region.lo 1 + ((r : Rat) + 1/2) * f.mesh.cellAt 1) / m) ∧
      Z.shape = [f.mesh.nAt 1, f.mesh.nAt 0] ∧
      ∀ r c, Z.get [r, c] = if keep.get [c, r] then some ((f.data.get [c, r]).getD 0 0) else none := by
  obtain ⟨h2, _, m, keep, lab, hm, hk, hl, hc⟩ := (mplContour_eq_ok_iff f o calls).mp h
  have hnd : f.mesh.ndim = 2 := h2
  have hn : f.mesh.n.length = 2 := mesh_n_two f.mesh hinv h2
  exact ⟨m, keep, _, _, _, lab, axisLabels_pos _ _ _ hl, hm, hk, hc, pointsAx_length _ _ _ (by omega),
    pointsAx_length _ _ _ (by omega), fun c hc' => pointsAx_getD _ _ _ _ (by omega) hc',
    fun r hr => pointsAx_getD _ _ _ _ (by omega) hr, by rw [imgOf_shape]; rfl,
    fun r c => imgOf_get _ hn _ _ r c⟩

/-! ## lightness plot -/

/-- **Lightness pixels.**  The final stage every lightness plot goes through (`lightCore`): one
`imshow` call with `origin="lower"` and extent `region / multiplier`; pixel `[r][c]` is
transparent when the filter drops cell `(c, r)` and otherwise carries the hue token of that
cell and its lightness value normalised over the whole array; and the pixel that covers a
physical point under the imshow contract is the pixel of the cell containing the point. -/
theorem lightness_pixels (f : Fld) (o : Opts) (hue : List Nat → Hue) (dflt : NDA Rat) (flt : Fld)
    (calls : List PlotCall) (hinv : f.mesh.Inv) (h2 : f.mesh.region.ndim = 2)
    (h : lightCore f o hue dflt flt = .ok calls) :
    ∃ m l keep img lab, 0 < m ∧ setupMultiplier f o.mult = .ok m ∧ lightSrc f o.aux dflt = .ok l ∧
      filterKeep f flt = .ok keep ∧
      calls = [.imshowHL img "lower"
        [f.mesh.region.lo 0 / m, f.mesh.region.hi 0 / m, f.mesh.region.lo 1 / m, f.mesh.region.hi 1 / m],
        lab] ∧
      img.shape = [f.mesh.nAt 1, f.mesh.nAt 0] ∧
      (∀ r c, img.get [r, c] =
        if keep.get [c, r] then
          some (hue [c, r], normalise (ndaMin ⟨f.mesh.n, l.get⟩) (ndaMax ⟨f.mesh.n, l.get⟩)
                              (o.clim.getD (0, 1)) (l.get [c, r]))
        else none) ∧
      ∀ x y, f.mesh.region.lo 0 ≤ x * m ∧ x * m ≤ f.mesh.region.hi 0 →
        f.mesh.region.lo 1 ≤ y * m ∧ y * m ≤ f.mesh.region.hi 1 →
        PixelCovers (f.mesh.nAt 1) (f.mesh.nAt 0)
          [f.mesh.region.lo 0 / m, f.mesh.region.hi 0 / m, f.mesh.region.lo 1 / m, f.mesh.region.hi 1 / m]
          (f.mesh.indexAx 1 (y * m)) (f.mesh.indexAx 0 (x * m)) x y ∧
        (∀ r c, r < f.mesh.nAt 1 → c < f.mesh.nAt 0 →
          PixelCovers (f.mesh.nAt 1) (f.mesh.nAt 0)
            [f.mesh.region.lo 0 / m, f.mesh.region.hi 0 / m, f.mesh.region.lo 1 / m, f.mesh.region.hi 1 / m]
            r c x y →
          r = f.mesh.indexAx 1 (y * m) ∧ c = f.mesh.indexAx 0 (x * m)) := by
  obtain ⟨m, l, keep, lab, hpos, hm, hl, hk, _, hc⟩ := lightCore_inv f o hue dflt flt calls hinv h2 h
  exact ⟨m, l, keep, _, lab, hpos, hm, hl, hk, hc, by rw [imgOf_shape]; rfl,
    fun r c => imgOf_get _ (mesh_n_two f.mesh hinv h2) _ _ r c,
    fun x y hx hy => (pixel_of_point f.mesh hinv h2 m hpos x y hx hy).2.2⟩

/-- **Hue = in-plane angle through the mapping.**  For 2- and 3-component fields a successful
lightness plot is the final stage run with the hue token `angle(comp_y, comp_x)` of every cell,
where `comp_x` / `comp_y` are the components whose labels the mapping sends to the first /
second spatial dimension, and with the filter in force (`filter_field` or validity). -/
theorem lightness_hue_inplane (sqrtF : Rat → Rat) (f : Fld) (o : Opts) (calls : List PlotCall)
    (hnv : f.nvdim = 2 ∨ f.nvdim = 3) (h : mplLightness sqrtF f o = .ok calls) :
    ∃ cx cy lx ly vs o' dflt, (lx, f.mesh.region.dims.getD 0 "") ∈ f.vmap ∧
      (ly, f.mesh.region.dims.getD 1 "") ∈ f.vmap ∧ f.vdims = some vs ∧
      vs.getD cx "" = lx ∧ vs.getD cy "" = ly ∧ o'.mult = o.mult ∧ o'.clim = o.clim ∧
      lightCore f o'
        (fun i => .angle ((f.data.get i).getD cy 0) ((f.data.get i).getD cx 0)) dflt (filterOf f o)
        = .ok calls := by
  obtain ⟨_, d, hue, _, hhue, hc⟩ := mplLightness_inv sqrtF f o calls h
  obtain ⟨cx, cy, hxy, rfl⟩ := lightHue_vec_inv f hnv hue hhue
  obtain ⟨lx, ly, hx, hy, hix, hiy⟩ := (angleComps_eq_ok_iff f cx cy).mp hxy
  obtain ⟨vs, hvs, hvx⟩ := vdimIndex_spec f lx cx hix
  obtain ⟨vs', hvs', hvy⟩ := vdimIndex_spec f ly cy hiy
  obtain rfl : vs = vs' := Option.some.inj (hvs.symm.trans hvs')
  exact ⟨cx, cy, lx, ly, vs, o, _, rDimLast_mem f _ lx hx, rDimLast_mem f _ ly hy, hvs, hvx, hvy, rfl, rfl, hc⟩

/-- **Hue of a scalar field** is its own value (in radians), default lightness its absolute
value, and the filter in force is `filter_field` or the validity mask. -/
theorem lightness_scalar (sqrtF : Rat → Rat) (f : Fld) (o : Opts) (h2 : f.mesh.region.ndim = 2)
    (hnv : f.nvdim = 1) :
    mplLightness sqrtF f o =
      lightCore f o (fun i => .val ((f.data.get i).getD 0 0))
        ⟨f.mesh.n, fun i => absR ((f.data.get i).getD 0 0)⟩ (filterOf f o) := by
  unfold mplLightness
  rw [if_neg (not_not.mpr h2), if_neg (by omega), if_neg (by omega), if_neg (by omega)]

/-- `normalise_to_range` with the default range `(0, 1)`: the smallest entry maps to 0, the
largest to 1, everything in between stays in `[0, 1]`, order preserved. -/
theorem normalise_unit (lo hi v w : Rat) (hlt : lo < hi) (h1 : lo ≤ v) (h2 : v ≤ w) (h3 : w ≤ hi) :
    normalise lo hi (0, 1) lo = 0 ∧ normalise lo hi (0, 1) hi = 1 ∧
    0 ≤ normalise lo hi (0, 1) v ∧ normalise lo hi (0, 1) v ≤ normalise lo hi (0, 1) w ∧
    normalise lo hi (0, 1) w ≤ 1 := by
  have hd : 0 < hi - lo := sub_pos.mpr hlt
  have e : ∀ x, normalise lo hi (0, 1) x = (x - lo) / (hi - lo) := fun x => by
    unfold normalise
    rw [if_neg (ne_of_gt hd), sub_zero, mul_one, add_zero]
  rw [e, e, e, e]
  exact ⟨by rw [sub_self, zero_div], div_self (ne_of_gt hd), div_nonneg (sub_nonneg.mpr h1) hd.le,
    div_le_div_of_nonneg_right (sub_le_sub_right h2 lo) hd.le, (div_le_one hd).mpr (sub_le_sub_right h3 lo)⟩

/-! ## axis labels -/

/-- **Labels.**  Every successful plot of every kind — scalar, contour, vector, default, and
lightness of fields with ANY number of components (the 2- and 3-component branches hand the
multiplier of the call down to the final stage) — ends by setting the axis labels to
`"<dim> (<prefix><unit>)"` per axis, where `<prefix>` is the SI prefix whose table entry is
the multiplier in force (`EndsWithLabels`, in `Lemmas/C20Plot.lean`); in particular a plot can
only succeed with a multiplier of the SI table. -/
theorem labels_eq (sqrtF : Rat → Rat) (f : Fld) (o : Opts) (calls : List PlotCall) :
    (mplScalar f o = .ok calls → ∃ m, setupMultiplier f o.mult = .ok m ∧ EndsWithLabels f.mesh.region m calls) ∧
    (mplContour f o = .ok calls → ∃ m, setupMultiplier f o.mult = .ok m ∧ EndsWithLabels f.mesh.region m calls) ∧
    (mplVector f o = .ok calls → ∃ m, setupMultiplier f o.mult = .ok m ∧ EndsWithLabels f.mesh.region m calls) ∧
    (mplDefault f o = .ok calls → ∃ m, setupMultiplier f o.mult = .ok m ∧ EndsWithLabels f.mesh.region m calls) ∧
    (mplLightness sqrtF f o = .ok calls →
      ∃ m, setupMultiplier f o.mult = .ok m ∧ EndsWithLabels f.mesh.region m calls) := by
  refine ⟨?_, ?_, ?_, ?_, ?_⟩
  · intro h
    obtain ⟨_, _, m, hm, hcore⟩ := (mplScalar_eq_ok_iff f o calls).mp h
    obtain ⟨ext, keep, lab, _, _, hl, hc⟩ := (scalarCore_eq_ok_iff f o m calls).mp hcore
    exact ⟨m, hm, by rw [hc]; exact endsWithLabels_of _ m lab [_] hl⟩
  · intro h
    obtain ⟨_, _, m, keep, lab, hm, _, hl, hc⟩ := (mplContour_eq_ok_iff f o calls).mp h
    exact ⟨m, hm, by rw [hc]; exact endsWithLabels_of _ m lab [_] hl⟩
  · intro h
    obtain ⟨_, _, m, hm, hcore⟩ := (mplVector_eq_ok_iff f o calls).mp h
    obtain ⟨_, _, _, _, _, lab, _, _, _, _, _, _, hl, hc⟩ := (vectorCore_eq_ok_iff f o m calls).mp hcore
    exact ⟨m, hm, by rw [hc]; exact endsWithLabels_of _ m lab [_] hl⟩
  · intro h
    obtain ⟨_, m, parts, lab, hm, _, hl, hc⟩ := (mplDefault_eq_ok_iff f o calls).mp h
    exact ⟨m, hm, by rw [hc]; exact endsWithLabels_of _ m lab parts hl⟩
  · intro h
    obtain ⟨_, d, hue, _, _, hcore⟩ := mplLightness_inv sqrtF f o calls h
    obtain ⟨m, _, _, _, lab, hm, _, _, _, hl, hc⟩ := (lightCore_eq_ok_iff f o _ _ _ calls).mp hcore
    exact ⟨m, hm, by rw [hc]; exact endsWithLabels_of _ m lab [_] hl⟩

/-- Non-vacuity of `labels_eq`, `vector_*`, `contour_grid`, `lightness_*`: the example fields
are plotted by every kind. -/
example : okB (mplVector exV {}) = true ∧ okB (mplContour exS {}) = true ∧
    okB (mplLightness (fun q => q) exV {}) = true ∧ okB (mplLightness (fun q => q) exS {}) = true ∧
    okB (mplDefault exV { useColor := false }) = true ∧ okB (mplDefault exS {}) = true := by
  decide +kernel

/-! ## default plot `field.mpl()` -/

/-- **Default plot of a 3-component field** = scalar plot of the one component that is NOT
mapped to an in-plane axis (filtered by `filter_field` or validity) followed by the vector
plot of the field, with one common multiplier, followed by the labels; so
`scalar_at_position`, `vector_at_centres` and `vector_components_through_mapping` apply to
its two parts. -/
theorem default_plot_three (f : Fld) (o : Opts) (calls : List PlotCall) (h3 : f.nvdim = 3)
    (h : mplDefault f o = .ok calls) :
    ∃ m c cs cv lab, setupMultiplier f o.mult = .ok m ∧ thirdComp f (inplaneVdims f) o.pick = .ok c ∧
      mplScalar (compField f c) { o with mult := some m, filter := some (filterOf f o) } = .ok cs ∧
      mplVector f { o with mult := some m } = .ok cv ∧ calls = cs ++ cv ++ [lab] ∧
      (∀ l, leftover f (inplaneVdims f) = [l] → ∃ vs, f.vdims = some vs ∧ vs.getD c "" = l ∧
        some l ∉ inplaneVdims f) := by
  obtain ⟨_, m, parts, lab, hm, hparts, _, hcalls⟩ := (mplDefault_eq_ok_iff f o calls).mp h
  rcases (defaultParts_eq_ok_iff f o m parts).mp hparts with ⟨h1, _⟩ | ⟨h2, _⟩ | ⟨_, c, cs, cv, hc, hcs, hcv, rfl⟩
  · omega
  · omega
  · exact ⟨m, c, cs, cv, lab, hm, hc, hcs, hcv, hcalls,
      fun l hleft => thirdComp_single_inv f _ l o.pick c hleft hc⟩

/-! ## refusals -/

/-- **Wrong spatial dimension.**  Every plot kind refuses a field whose mesh is not 2-d. -/
theorem refuse_not_2d (sqrtF : Rat → Rat) (f : Fld) (o : Opts) (h : f.mesh.region.ndim ≠ 2) :
    mplScalar f o = .error .runtime ∧ mplContour f o = .error .runtime ∧
    mplVector f o = .error .runtime ∧ mplDefault f o = .error .runtime ∧
    mplLightness sqrtF f o = .error .runtime := by
  refine ⟨?_, ?_, ?_, ?_, ?_⟩
  · unfold mplScalar; rw [if_pos h]
  · unfold mplContour; rw [if_pos h]
  · unfold mplVector; rw [if_pos h]
  · unfold mplDefault; rw [if_pos h]
  · unfold mplLightness; rw [if_pos h]

/-- **Wrong component dimension.**  `scalar` refuses fields with more than one component,
`contour` anything but one component, `mpl()` and `lightness` more than three. -/
theorem refuse_wrong_nvdim (sqrtF : Rat → Rat) (f : Fld) (o : Opts) :
    (1 < f.nvdim → ∃ e, mplScalar f o = .error e) ∧
    (f.nvdim ≠ 1 → ∃ e, mplContour f o = .error e) ∧
    (3 < f.nvdim → (∃ e, mplDefault f o = .error e) ∧ ∃ e, mplLightness sqrtF f o = .error e) := by
  refine ⟨fun h => err_of_not_ok _ fun calls hc => ?_, fun h => err_of_not_ok _ fun calls hc => ?_,
    fun h => ⟨err_of_not_ok _ fun calls hc => ?_, err_of_not_ok _ fun calls hc => ?_⟩⟩
  · exact absurd ((mplScalar_eq_ok_iff f o calls).mp hc).2.1 (by omega)
  · exact h ((mplContour_eq_ok_iff f o calls).mp hc).2.1
  · obtain ⟨_, m, parts, _, _, hp, _⟩ := (mplDefault_eq_ok_iff f o calls).mp hc
    rcases (defaultParts_eq_ok_iff f o m parts).mp hp with h1 | h1 | h1 <;> exact absurd h1.1 (by omega)
  · obtain ⟨_, d, _, hd, _⟩ := mplLightness_inv sqrtF f o calls hc
    exact absurd ((lightDefault_ok_iff sqrtF f _ _).mp ⟨d, hd⟩).1 (by omega)

/-- **No mapping and no labels.**  `vector` refuses a field without component-to-axis mapping
unless `vdims=` is given; consequently `mpl()` refuses 2-component fields without a
mapping, and a scalar field (no labels, no mapping) cannot be drawn as arrows. -/
theorem refuse_vector_without_mapping (f : Fld) (o : Opts) (hv : o.vdimsArg = none) (hm : f.vmap = []) :
    (∃ e, mplVector f o = .error e) ∧ (f.nvdim = 2 → ∃ e, mplDefault f o = .error e) := by
  have hvec : ∀ (o' : Opts) (cv : List PlotCall), o'.vdimsArg = none → mplVector f o' ≠ .ok cv := by
    intro o' cv hv' hc
    have := ((mplVector_eq_ok_iff f o' cv).mp hc).2.1
    rw [hv', hm] at this
    cases this
  refine ⟨err_of_not_ok _ fun cv => hvec o cv hv, fun h2 => err_of_not_ok _ fun calls hc => ?_⟩
  obtain ⟨_, m, parts, _, _, hp, _⟩ := (mplDefault_eq_ok_iff f o calls).mp hc
  rcases (defaultParts_eq_ok_iff f o m parts).mp hp with h1 | h1 | h1
  · exact absurd h1.1 (by omega)
  · exact hvec { o with mult := some m } parts hv h1.2
  · exact absurd h1.1 (by omega)

/-- **Filter of the wrong dimension.**  A `filter_field` with more than one component, or
not defined on a 2-d mesh, makes `scalar` and `contour` fail; a multiplier outside the SI
table makes `scalar` fail. -/
theorem refuse_bad_filter_or_multiplier (f flt : Fld) (o : Opts) :
    (o.filter = some flt → (flt.nvdim ≠ 1 ∨ flt.mesh.region.ndim ≠ 2) →
      (∃ e, mplScalar f o = .error e) ∧ ∃ e, mplContour f o = .error e) ∧
    (∀ m, o.mult = some m → rsiPrefix? m = none → ∃ e, mplScalar f o = .error e) := by
  constructor
  · intro hflt hbad
    -- a successful filter step has checked the filter's component and mesh dimension
    have hk : ∀ keep, filterKeep f (filterOf f o) ≠ .ok keep := by
      intro keep hk
      rw [filterOf_some f flt o hflt] at hk
      obtain ⟨g1, g2, _⟩ := filterKeep_ok_inv f flt keep hk
      rcases hbad with hb | hb
      · exact hb g1
      · exact hb g2
    refine ⟨err_of_not_ok _ fun calls hc => ?_, err_of_not_ok _ fun calls hc => ?_⟩
    · obtain ⟨_, _, m, _, hcore⟩ := (mplScalar_eq_ok_iff f o calls).mp hc
      obtain ⟨_, keep, _, _, hk', _⟩ := (scalarCore_eq_ok_iff f o m calls).mp hcore
      exact hk keep hk'
    · obtain ⟨_, _, _, keep, _, _, hk', _⟩ := (mplContour_eq_ok_iff f o calls).mp hc
      exact hk keep hk'
  · intro m hm hp
    refine err_of_not_ok _ fun calls hc => ?_
    obtain ⟨_, _, m', hm', hcore⟩ := (mplScalar_eq_ok_iff f o calls).mp hc
    obtain ⟨_, _, lab, _, _, hl, _⟩ := (scalarCore_eq_ok_iff f o m' calls).mp hcore
    obtain ⟨pre, hpre, _⟩ := (axisLabels_eq_ok_iff _ m' lab).mp hl
    rw [hm] at hm'
    obtain rfl := Except.ok.inj hm'
    rw [hp] at hpre
    cases hpre

/-- Non-vacuity of the refusal theorems: a 3-d example mesh, and the example vector field
stripped of its mapping, are refused. -/
example : okB (mplScalar { exS with mesh := { exMesh with region := { exRegion with pmin := [0, 0, 0], pmax := [4, 6, 1] } } } {}) = false ∧
    okB (mplVector { exV with vmap := [] } {}) = false ∧ okB (mplScalar exV {}) = false ∧
    okB (mplScalar exS { mult := some (1/100000000) }) = false := by
  decide +kernel

/-! ## SI prefixes and the default multiplier -/

/-- The mirrored SI table is its own inverse: looking a table multiplier up in
`rsi_prefixes` returns the prefix it is stored under (17 entries, by evaluation). -/
theorem si_table_inverse (p : String) (m : Rat) (h : (p, m) ∈ siTable) : rsiPrefix? m = some p := by
  obtain ⟨k, hk, rfl⟩ := (mem_siTable p m).mp h
  exact rsiPrefix_table (p, k) hk

/-- Decades of the table are disjoint: at most one entry puts a value into `[1, 1000)`, so the
order in which `si_multiplier` scans the table does not matter. -/
theorem si_decade_unique (v : Rat) (p p' : String) (m m' : Rat) (h : (p, m) ∈ siTable)
    (h' : (p', m') ∈ siTable) (hd : inDecade v m = true) (hd' : inDecade v m' = true) :
    m = m' ∧ p = p' := by
  obtain ⟨k, hk, rfl⟩ := (mem_siTable p m).mp h
  obtain ⟨k', hk', rfl⟩ := (mem_siTable p' m').mp h'
  have := decade_unique (absR v) k k' ((inDecade_iff _ _).mp hd) ((inDecade_iff _ _).mp hd')
  subst this
  have e1 := rsiPrefix_table (p, k) hk
  have e2 := rsiPrefix_table (p', k) hk'
  rw [e1] at e2
  injection e2 with e2
  exact ⟨rfl, e2⟩

/-- `si_multiplier` of a non-zero value returns `m` exactly when `m` is the table entry with
`1 ≤ |value| / m < 1000`. -/
theorem si_multiplier_spec (v m : Rat) (hv : v ≠ 0) :
    siMultiplier v = some m ↔ ∃ p, (p, m) ∈ siTable ∧ 1 ≤ absR v / m ∧ absR v / m < 1000 := by
  constructor
  · intro h
    obtain ⟨p, k, hk, hm, hd⟩ := siMultiplier_sound v m hv h
    exact ⟨p, (mem_siTable p m).mpr ⟨k, hk, hm⟩, hd⟩
  · rintro ⟨p, hp, hd⟩
    obtain ⟨k, hk, rfl⟩ := (mem_siTable p m).mp hp
    exact siMultiplier_complete v hv p k hk hd

/-- `si_multiplier` succeeds for every magnitude from `1e-24` up to (excluding) `1e27`. -/
theorem si_multiplier_total (v : Rat) (hv : v ≠ 0) (h1 : p1000 (-8) ≤ absR v) (h2 : absR v < p1000 9) :
    ∃ p m, (p, m) ∈ siTable ∧ siMultiplier v = some m := by
  obtain ⟨p, k, hk, hs⟩ := siMultiplier_total v hv h1 h2
  exact ⟨p, p1000 k, (mem_siTable p _).mpr ⟨k, hk, rfl⟩, hs⟩

/-- **Default multiplier.**  When no multiplier is given, the one computed from the region
(`si_max_multiplier(edges)`) is a table entry — so it has a prefix and the labels can be
written — for which the longest edge measures between 1 and 1000 units and no edge reaches
1000 units. -/
theorem default_multiplier_decade (f : Fld) (hinv : f.mesh.Inv) (m : Rat)
    (h : setupMultiplier f none = .ok m) :
    (∃ pre, (pre, m) ∈ siTable ∧ rsiPrefix? m = some pre) ∧
    (∃ a, a < f.mesh.region.ndim ∧ 1 ≤ f.mesh.region.edge a / m ∧ f.mesh.region.edge a / m < 1000) ∧
    ∀ a, a < f.mesh.region.ndim → f.mesh.region.edge a / m < 1000 := by
  obtain ⟨⟨a, ha, hsm⟩, hall⟩ := setupMultiplier_none_inv f m h
  obtain ⟨p, k, hk, rfl, hd⟩ := siMultiplier_sound _ m (ne_of_gt (hinv.1.edge_pos ha)) hsm
  rw [absR_edge _ hinv.1 a ha] at hd
  refine ⟨⟨p, (mem_siTable p _).mpr ⟨k, hk, rfl⟩, rsiPrefix_table (p, k) hk⟩, ⟨a, ha, hd⟩, fun b hb => ?_⟩
  obtain ⟨m', hm', hle⟩ := hall b hb
  obtain ⟨_, k', _, rfl, _, hd2⟩ := siMultiplier_sound _ m' (ne_of_gt (hinv.1.edge_pos hb)) hm'
  rw [absR_edge _ hinv.1 b hb] at hd2
  exact lt_of_le_of_lt (div_le_div_of_nonneg_left (hinv.1.edge_pos hb).le (p1000_pos k') hle) hd2

/-- The default multiplier exists whenever every edge of the region lies in `[1e-24, 1e27)`. -/
theorem default_multiplier_exists (f : Fld) (hinv : f.mesh.Inv)
    (hr : ∀ a, a < f.mesh.region.ndim →
      p1000 (-8) ≤ f.mesh.region.edge a ∧ f.mesh.region.edge a < p1000 9) :
    ∃ m, setupMultiplier f none = .ok m := by
  obtain ⟨m, _, hm, _⟩ := setupMultiplier_none_ok f hinv hr
  exact ⟨m, hm⟩

/-- Non-vacuity: the example region `[0,4]×[0,6]` gets the multiplier 1 (no prefix); a region
of 40 nm × 60 nm gets `1e-9`, prefix `n`. -/
example : setupMultiplier exS none = .ok 1 ∧ rsiPrefix? 1 = some "" ∧
    siMaxMultiplier [4/100000000, 6/100000000] = .ok (1/1000000000) ∧
    rsiPrefix? (1/1000000000) = some "n" := by
  decide +kernel

/-! ## further non-vacuity checks -/

/-- the example vector field: arrows use `b` (mapped to `x`) and `a` (mapped to `y`), exactly
one label (`c`) is left over for the colour, and its hypotheses for `vector_colour_third` hold -/
example : inplaneVdims exV = [some "b", some "a"] ∧ leftover exV (inplaneVdims exV) = ["c"] ∧
    exV.nvdim = 3 ∧ exV.mesh.region.ndim = 2 ∧
    okB (colourOf exV {} (inplaneVdims exV)) = true ∧
    okB (colourOf exV { aux := some exOnes } (inplaneVdims exV)) = true := by
  decide +kernel

/-- `normalise_unit` on numbers, and the degenerate case `lo = hi` -/
example : normalise 2 10 (0, 1) 2 = 0 ∧ normalise 2 10 (0, 1) 10 = 1 ∧ normalise 2 10 (0, 1) 4 = 1/4 ∧
    normalise 3 3 (0, 1) 3 = 0 := by
  decide +kernel

/-- the hypothesis of `default_multiplier_exists` holds for the example field -/
example : ∀ a, a < exS.mesh.region.ndim →
    p1000 (-8) ≤ exS.mesh.region.edge a ∧ exS.mesh.region.edge a < p1000 9 :=
  exS_multOk


/-! ## hidden cells, every plot kind, every resolution of the filter

`keptBy f flt [i, j]` (in `Lemmas/C20Keep.lean`) is the property's own description of a drawn
cell: `f.valid[i, j]` and, when a `filter_field` `g` is given, `auxAt f g [i, j] ≠ 0`, where
`auxAt` is `g`'s value in the cell itself when `g` has the cell counts of `f`, and otherwise
`g`'s value in the cell `srcIdx g.mesh f.mesh [i, j] = [⌊(2i+1)·n'₀/(2n₀)⌋, ⌊(2j+1)·n'₁/(2n₁)⌋]`
(`n` cell counts of `f`, `n'` of `g`).  `AuxGeom f g` asks for nothing when the counts agree
and for well-formed meshes otherwise. -/

/-- **Scalar plot: exactly the invalid-or-filtered cells are hidden**, for the default filter,
an explicit filter on the same cell counts and an explicit filter on ANOTHER resolution alike:
pixel `[j][i]` shows the value of cell `(i, j)` when the cell is valid and non-zero in the
filter field (looked up in closed form, see above), and NaN otherwise.  Generalises
`scalar_default_hides_invalid` and `scalar_filter_hides_zero_and_invalid`. -/
theorem scalar_hides_exactly (f : Fld) (o : Opts) (calls : List PlotCall) (hinv : f.mesh.Inv)
    (hgeo : ∀ g, o.filter = some g → AuxGeom f g) (h : mplScalar f o = .ok calls) :
    ∃ img ext lab, calls = [.imshow img "lower" ext, lab] ∧
      ∀ i j, i < f.mesh.nAt 0 → j < f.mesh.nAt 1 →
        img.get [j, i] = if keptBy f o.filter [i, j] then some ((f.data.get [i, j]).getD 0 0) else none := by
  obtain ⟨h2, _, m, keep, lab, _, _, hk, _, hc⟩ := mplScalar_inv f o calls hinv h
  refine ⟨_, _, lab, hc, fun i j hi hj => ?_⟩
  rw [imgOf_get _ (mesh_n_two f.mesh hinv h2), filterKeep_keptBy f o h2 hgeo keep hk i j hi hj]

/-- **Contour plot: exactly the invalid-or-filtered cells are hidden** (same statement for
`Z[j][i]`), default filter, explicit filter, any resolution. -/
theorem contour_hides_exactly (f : Fld) (o : Opts) (calls : List PlotCall) (hinv : f.mesh.Inv)
    (hgeo : ∀ g, o.filter = some g → AuxGeom f g) (h : mplContour f o = .ok calls) :
    ∃ X Y Z lab, calls = [.contour X Y Z, lab] ∧
      ∀ i j, i < f.mesh.nAt 0 → j < f.mesh.nAt 1 →
        Z.get [j, i] = if keptBy f o.filter [i, j] then some ((f.data.get [i, j]).getD 0 0) else none := by
  obtain ⟨h2, _, m, keep, lab, _, hk, _, hc⟩ := (mplContour_eq_ok_iff f o calls).mp h
  have hn : f.mesh.n.length = 2 := mesh_n_two f.mesh hinv h2
  refine ⟨_, _, _, lab, hc, fun i j hi hj => ?_⟩
  rw [imgOf_get _ hn, filterKeep_keptBy f o h2 hgeo keep hk i j hi hj]

/-- **What "zero in the filter field" means on another resolution.**  When the filter `g` lives
on the same region as the plotted field `f` but has other cell counts, the value that decides
cell `(i, j)` of `f` is `g`'s value in the cell of `g`'s mesh that CONTAINS the centre of cell
`(i, j)` (C01's `indexAx` of the centre), and that centre lies inside `g`'s region.  (The same
lookup serves colour and lightness fields, see `vector_colour_object`,
`lightness_vector_values`.) -/
theorem filter_lookup_contains (f g : Fld) (hf : f.mesh.Inv) (hg : g.mesh.Inv)
    (hreg : f.mesh.region = g.mesh.region) (hn : g.mesh.n ≠ f.mesh.n) (h2 : f.mesh.region.ndim = 2)
    (i j : Nat) (hi : i < f.mesh.nAt 0) (hj : j < f.mesh.nAt 1) :
    auxAt f g [i, j] =
      (g.data.get [g.mesh.indexAx 0 (f.mesh.centreAx 0 (i : Int)),
                   g.mesh.indexAx 1 (f.mesh.centreAx 1 (j : Int))]).getD 0 0 ∧
    g.mesh.region.lo 0 ≤ f.mesh.centreAx 0 (i : Int) ∧ f.mesh.centreAx 0 (i : Int) ≤ g.mesh.region.hi 0 ∧
    g.mesh.region.lo 1 ≤ f.mesh.centreAx 1 (j : Int) ∧ f.mesh.centreAx 1 (j : Int) ≤ g.mesh.region.hi 1 := by
  have hg2 : g.mesh.ndim = 2 := by unfold Mesh.ndim; rw [← hreg]; exact h2
  have hf2 : f.mesh.ndim = 2 := h2
  refine ⟨?_, ?_⟩
  · unfold auxAt
    rw [if_neg hn, srcIdx_contains g.mesh f.mesh hg hf hreg [i, j] (by
      intro b hb
      rcases (by omega : b = 0 ∨ b = 1) with rfl | rfl
      · simpa using hi
      · simpa using hj), hg2]
    rfl
  · have c0 := C01.centreAx_mem f.mesh 0 i hi (C01.cellAt_pos _ _ (hf.2.2 0 (by omega)) (hf.lo_lt_hi (by omega)))
    have c1 := C01.centreAx_mem f.mesh 1 j hj (C01.cellAt_pos _ _ (hf.2.2 1 (by omega)) (hf.lo_lt_hi (by omega)))
    rw [hreg] at c0 c1
    exact ⟨c0.1.le, c0.2.le, c1.1.le, c1.2.le⟩

/-- Non-vacuity of the three theorems above: the 4 × 3 filter `exFine` on the 2 × 3 example
field satisfies `AuxGeom`, the plot succeeds, cell `(0, 0)` (valid, but the filter is zero in
the filter cells 0 and 1 along x) is hidden and cell `(1, 1)` is drawn. -/
example : AuxGeom exS exFine ∧ okB (mplScalar exS { filter := some exFine }) = true ∧
    okB (mplContour exS { filter := some exFine }) = true ∧
    keptBy exS (some exFine) [0, 0] = false ∧ keptBy exS (some exFine) [1, 1] = true ∧
    exS.valid.get [0, 0] = true ∧ srcIdx exFine.mesh exS.mesh [1, 1] = [3, 1] :=
  ⟨Or.inr ⟨exFine_mesh_inv, exMesh_inv⟩, by decide +kernel, by decide +kernel,
   by decide +kernel, by decide +kernel, by decide +kernel, by decide +kernel⟩

/-- **Arrows are hidden exactly in invalid cells**: the arrow of cell `(i, j)` has a NaN
component (is not drawn) if and only if the cell is invalid — whatever the mapping, the explicit
labels, the colour request. -/
theorem vector_hides_exactly_invalid (f : Fld) (o : Opts) (calls : List PlotCall) (hinv : f.mesh.Inv)
    (h : mplVector f o = .ok calls) :
    ∃ X Y U V C lab, calls = [.quiver X Y U V C, lab] ∧
      ∀ i j, ((U.get [j, i]).isNone ∨ (V.get [j, i]).isNone) ↔ f.valid.get [i, j] = false := by
  obtain ⟨h2, _, m, _, hcore⟩ := (mplVector_eq_ok_iff f o calls).mp h
  obtain ⟨keep, vd, ax, ay, C, lab, hk, _, _, _, hnn, _, _, hc⟩ := (vectorCore_eq_ok_iff f o m calls).mp hcore
  obtain ⟨keep', hk', hget⟩ := filterKeep_valid f h2
  obtain rfl := Except.ok.inj (hk'.symm.trans hk)
  exact ⟨_, _, _, _, C, lab, hc, arrowArr_hidden f (mesh_n_two f.mesh hinv h2) keep' hget ax ay hnn⟩

/-! ## lightness plot of every number of components, object level -/

/-- **Lightness plot, any number of components, default or explicit multiplier.**  Whenever
`field.mpl.lightness` succeeds — for a 1-, 2- or 3-component field alike — it makes one `imshow`
call with `origin="lower"` and extent `region / m` followed by the axis labels announcing the
SAME `m`, where `m` is the multiplier of the call (`multiplier=` if given, else the region's
default): the multiplier is handed down through the recursion of the 2- and 3-component
branches.  The image has shape `(n₁, n₀)`; pixel `[j][i]` is opaque exactly when cell `(i, j)`
is valid and non-zero in the filter in force (`keptBy`), transparent otherwise; and the pixel
covering any physical point of the region under the imshow contract is the pixel of the cell
containing that point. -/
theorem lightness_any_nvdim (sqrtF : Rat → Rat) (f : Fld) (o : Opts) (calls : List PlotCall)
    (hinv : f.mesh.Inv) (hgeo : ∀ g, o.filter = some g → AuxGeom f g)
    (h : mplLightness sqrtF f o = .ok calls) :
    ∃ m img lab, 0 < m ∧ setupMultiplier f o.mult = .ok m ∧
      calls = [.imshowHL img "lower"
        [f.mesh.region.lo 0 / m, f.mesh.region.hi 0 / m, f.mesh.region.lo 1 / m, f.mesh.region.hi 1 / m],
        lab] ∧
      EndsWithLabels f.mesh.region m calls ∧
      img.shape = [f.mesh.nAt 1, f.mesh.nAt 0] ∧
      (∀ i j, i < f.mesh.nAt 0 → j < f.mesh.nAt 1 →
        (img.get [j, i]).isSome = keptBy f o.filter [i, j]) ∧
      ∀ x y, f.mesh.region.lo 0 ≤ x * m ∧ x * m ≤ f.mesh.region.hi 0 →
        f.mesh.region.lo 1 ≤ y * m ∧ y * m ≤ f.mesh.region.hi 1 →
        PixelCovers (f.mesh.nAt 1) (f.mesh.nAt 0)
          [f.mesh.region.lo 0 / m, f.mesh.region.hi 0 / m, f.mesh.region.lo 1 / m, f.mesh.region.hi 1 / m]
          (f.mesh.indexAx 1 (y * m)) (f.mesh.indexAx 0 (x * m)) x y ∧
        (∀ r c, r < f.mesh.nAt 1 → c < f.mesh.nAt 0 →
          PixelCovers (f.mesh.nAt 1) (f.mesh.nAt 0)
            [f.mesh.region.lo 0 / m, f.mesh.region.hi 0 / m, f.mesh.region.lo 1 / m, f.mesh.region.hi 1 / m]
            r c x y →
          r = f.mesh.indexAx 1 (y * m) ∧ c = f.mesh.indexAx 0 (x * m)) := by
  obtain ⟨h2, d, hue, _, _, hcore⟩ := mplLightness_inv sqrtF f o calls h
  obtain ⟨m, l, keep, lab, hpos, hm, _, hk, hlab, rfl⟩ := lightCore_inv f o hue _ _ calls hinv h2 hcore
  refine ⟨m, _, lab, hpos, hm, rfl, endsWithLabels_of f.mesh.region m lab [_] hlab, by rw [imgOf_shape]; rfl,
    fun i j hi hj => ?_, fun x y hx hy => (pixel_of_point f.mesh hinv h2 m hpos x y hx hy).2.2⟩
  rw [imgOf_get _ (mesh_n_two f.mesh hinv h2), ← filterKeep_keptBy f o h2 hgeo keep hk i j hi hj]
  cases keep.get [i, j] <;> rfl

/-- **Lightness plot of 2- and 3-component fields: what every pixel carries.**  The hue token of
pixel `[j][i]` is `angle(comp_y, comp_x)` of cell `(i, j)`, `comp_x` / `comp_y` being the
components whose labels the mapping sends to the first / second spatial dimension; its
lightness is `normalise_to_range` (over the whole array, onto `clim` or `(0, 1)`) of the
lightness value `lv` of the cell, and `lv` is
* the given `lightness_field`'s value in the cell (same counts) or in the cell at the same
  relative position (`auxAt`, another resolution), if one was given;
* `sqrt(Σ comp²)` — `field.norm` — for 2 components with nothing given;
* the component that is NOT mapped to a plot axis for 3 components with nothing given.
Hidden pixels are exactly the invalid-or-filtered cells. -/
theorem lightness_vector_values (sqrtF : Rat → Rat) (f : Fld) (o : Opts) (calls : List PlotCall)
    (hinv : f.mesh.Inv) (hnv : f.nvdim = 2 ∨ f.nvdim = 3)
    (hgeoF : ∀ g, o.filter = some g → AuxGeom f g) (hgeoL : ∀ g, o.aux = some g → AuxGeom f g)
    (h : mplLightness sqrtF f o = .ok calls) :
    ∃ (cx cy : Nat) (lx ly : String) (vs : List String) (lv : List Nat → Rat) (img : NDA (Option (Hue × Rat))) (ext : List Rat) (lab : PlotCall),
      (lx, f.mesh.region.dims.getD 0 "") ∈ f.vmap ∧ (ly, f.mesh.region.dims.getD 1 "") ∈ f.vmap ∧
      f.vdims = some vs ∧ vs.getD cx "" = lx ∧ vs.getD cy "" = ly ∧
      calls = [.imshowHL img "lower" ext, lab] ∧
      ((∃ g, o.aux = some g ∧ g.nvdim = 1 ∧ g.mesh.region.ndim = 2 ∧
          ∀ i j, i < f.mesh.nAt 0 → j < f.mesh.nAt 1 → lv [i, j] = auxAt f g [i, j]) ∨
       (o.aux = none ∧ f.nvdim = 2 ∧ ∀ i j, lv [i, j] = sqrtF (normSq (f.data.get [i, j]))) ∨
       (o.aux = none ∧ f.nvdim = 3 ∧ ∃ c, thirdComp f (inplaneVdims f) o.pick = .ok c ∧
          (∀ l, leftover f (inplaneVdims f) = [l] → vs.getD c "" = l ∧ some l ∉ inplaneVdims f) ∧
          ∀ i j, lv [i, j] = (f.data.get [i, j]).getD c 0)) ∧
      ∀ i j, i < f.mesh.nAt 0 → j < f.mesh.nAt 1 →
        img.get [j, i] =
          if keptBy f o.filter [i, j] then
            some (.angle ((f.data.get [i, j]).getD cy 0) ((f.data.get [i, j]).getD cx 0),
                  normalise (ndaMin ⟨f.mesh.n, lv⟩) (ndaMax ⟨f.mesh.n, lv⟩) (o.clim.getD (0, 1)) (lv [i, j]))
          else none := by
  obtain ⟨h2, d, hue, hd, hhue, hcore⟩ := mplLightness_inv sqrtF f o calls h
  obtain ⟨cx, cy, hxy, rfl⟩ := lightHue_vec_inv f hnv hue hhue
  obtain ⟨lx, ly, hx, hy, hix, hiy⟩ := (angleComps_eq_ok_iff f cx cy).mp hxy
  obtain ⟨vs, hvs, hvx⟩ := vdimIndex_spec f lx cx hix
  obtain ⟨vs', hvs', hvy⟩ := vdimIndex_spec f ly cy hiy
  obtain rfl : vs = vs' := Option.some.inj (hvs.symm.trans hvs')
  obtain ⟨m, l, keep, img, lab, _, _, hl, hk, hc, _, hpix, _⟩ :=
    lightness_pixels f o _ _ _ calls hinv h2 hcore
  refine ⟨cx, cy, lx, ly, vs, l.get, img, _, lab, rDimLast_mem f _ lx hx, rDimLast_mem f _ ly hy, hvs, hvx, hvy,
    hc, ?_, ?_⟩
  · cases haux : o.aux with
    | some g =>
      rw [haux] at hl
      obtain ⟨g1, g2, a, ha, hla⟩ := lightSrc_some_inv f g _ l hl
      exact Or.inl ⟨g, rfl, g1, g2, fun i j hi hj => by
        rw [hla, auxOnMesh_at f g (hgeoL g haux) g2 a ha i j hi hj]⟩
    | none =>
      -- nothing given: the lightness is the default of the call
      rw [haux] at hl hd
      obtain rfl := Except.ok.inj hl
      right
      rcases lightDefault_vec_inv sqrtF f o.pick hnv d hd with ⟨hn2, rfl⟩ | ⟨hn3, c, hc', rfl⟩
      · exact Or.inl ⟨rfl, hn2, fun _ _ => rfl⟩
      · refine Or.inr ⟨rfl, hn3, c, hc', fun lb hleft => ?_, fun _ _ => rfl⟩
        obtain ⟨vs', hvs', hks, hnot⟩ := thirdComp_single_inv f _ lb o.pick c hleft hc'
        obtain rfl := Option.some.inj (hvs.symm.trans hvs')
        exact ⟨hks, hnot⟩
  · intro i j hi hj
    rw [hpix j i, filterKeep_keptBy f o h2 hgeoF keep hk i j hi hj]
    rfl

/-- Non-vacuity: the 3-component example field has its lightness plot with an explicit
multiplier (`k`), with a lightness field on another resolution, and the 2-component version of
it (labels `a`, `b`) with the default norm. -/
example : okB (mplLightness (fun q => q) exV { mult := some 1000 }) = true ∧
    okB (mplLightness (fun q => q) exV { aux := some exFine, filter := some exOnes }) = true ∧
    okB (mplLightness (fun q => q)
      { exV with nvdim := 2, vdims := some ["a", "b"], vmap := [("a", "y"), ("b", "x")] } {}) = true ∧
    AuxGeom exV exFine ∧ AuxGeom exV exOnes :=
  ⟨by decide +kernel, by decide +kernel, by decide +kernel,
   Or.inr ⟨exFine_mesh_inv, exMesh_inv⟩, Or.inl rfl⟩

/-! ## vector plot: the colour argument, object level -/

/-- **Colour of the arrows, stated on the `quiver` call itself.**  For a successful
`field.mpl.vector` with arrow labels `vd`: no colour array with `use_color=False`, and none for
fields that do not have three components when no colour field is given; with a `color_field`
`g` (one component, 2-d mesh) `C[j][i]` is `g`'s value in cell `(i, j)` — or, on another
resolution, in the cell at the same relative position (`auxAt`, physically the cell containing
the centre, `filter_lookup_contains`); for a 3-component field without colour field, `C[j][i]`
is the component of cell `(i, j)` whose label is the one left over after removing the two arrow
labels.  The colour array is never masked. -/
theorem vector_colour_object (f : Fld) (o : Opts) (calls : List PlotCall) (hinv : f.mesh.Inv)
    (hgeo : ∀ g, o.aux = some g → AuxGeom f g) (h : mplVector f o = .ok calls) :
    ∃ vd X Y U V C lab, vectorVdims f o = .ok vd ∧ calls = [.quiver X Y U V C, lab] ∧
      (o.useColor = false → C = none) ∧
      (o.useColor = true → o.aux = none → f.nvdim ≠ 3 → C = none) ∧
      (∀ g, o.useColor = true → o.aux = some g →
        g.nvdim = 1 ∧ g.mesh.region.ndim = 2 ∧
        ∃ arr, C = some arr ∧ arr.shape = [f.mesh.nAt 1, f.mesh.nAt 0] ∧
          ∀ i j, i < f.mesh.nAt 0 → j < f.mesh.nAt 1 → arr.get [j, i] = auxAt f g [i, j]) ∧
      (∀ l, o.useColor = true → o.aux = none → f.nvdim = 3 → leftover f vd = [l] →
        ∃ arr k vs, C = some arr ∧ f.vdims = some vs ∧ vs.getD k "" = l ∧ some l ∉ vd ∧
          arr.shape = [f.mesh.nAt 1, f.mesh.nAt 0] ∧
          ∀ i j, arr.get [j, i] = (f.data.get [i, j]).getD k 0) := by
  obtain ⟨h2, _, m, _, hcore⟩ := (mplVector_eq_ok_iff f o calls).mp h
  obtain ⟨keep, vd, ax, ay, C, lab, _, hvd, _, _, _, hcol, _, hc⟩ := (vectorCore_eq_ok_iff f o m calls).mp hcore
  have hn : f.mesh.n.length = 2 := mesh_n_two f.mesh hinv h2
  refine ⟨vd, _, _, _, _, C, lab, hvd, hc, ?_, ?_, ?_, ?_⟩
  · intro huse
    rw [colourOf_off f o vd huse] at hcol
    exact (Except.ok.inj hcol).symm
  · intro huse haux h3
    rw [colourOf_not_three f o vd huse haux h3] at hcol
    exact (Except.ok.inj hcol).symm
  · intro g huse haux
    obtain ⟨g1, g2, a, ha, hC⟩ := colourOf_aux_inv f g o vd huse haux C hcol
    refine ⟨g1, g2, _, hC, by rw [colourArr_shape]; rfl, fun i j hi hj => ?_⟩
    rw [colourArr_get _ hn, auxOnMesh_at f g (hgeo g haux) g2 a ha i j hi hj]
  · intro l huse haux h3 hleft
    obtain ⟨arr, k, vs, e1, e2, e3, e4, e5, e6⟩ :=
      vector_colour_third f o vd l hinv h2 huse haux h3 hleft C hcol
    exact ⟨arr, k, vs, e1, e2, e3, e4, e5, fun i j => e6 j i⟩

/-- **Component number 0 is a component like any other.**  When the label chosen for the
horizontal (vertical) arrow direction — through the mapping or through `vdims=` — is the FIRST
component label of the field, the arrows' horizontal (vertical) component is component number 0
of every valid cell, not zeros: the code tests the label (`if vdims[0]`), never the index. -/
theorem vector_component_zero (f : Fld) (o : Opts) (calls : List PlotCall) (hinv : f.mesh.Inv)
    (vd : List (Option String)) (l : String) (rest : List String) (hvd : vectorVdims f o = .ok vd)
    (hvs : f.vdims = some (l :: rest)) (hl : l ≠ "") (h : mplVector f o = .ok calls) :
    ∃ X Y U V C lab, calls = [.quiver X Y U V C, lab] ∧
      (vd.getD 0 none = some l → ∀ r c, U.get [r, c] =
        if f.valid.get [c, r] then some ((f.data.get [c, r]).getD 0 0) else none) ∧
      (vd.getD 1 none = some l → ∀ r c, V.get [r, c] =
        if f.valid.get [c, r] then some ((f.data.get [c, r]).getD 0 0) else none) := by
  obtain ⟨vd', ax, ay, X, Y, U, V, C, lab, hvd', hax, hay, _, _, hc, hU, hV⟩ := mplVector_inv f o calls hinv h
  obtain rfl := Except.ok.inj (hvd.symm.trans hvd')
  -- the first label is found at position 0
  have hidx : arrowIdx f (some l) = .ok (some 0) :=
    (arrowIdx_eq_ok_iff f _ _).mpr (Or.inr ⟨l, _, 0, rfl, hl, hvs, by rw [indexOf?_cons, if_pos rfl], rfl⟩)
  refine ⟨X, Y, U, V, C, lab, hc, fun h0 => ?_, fun h1 => ?_⟩
  · rw [h0, hidx] at hax
    obtain rfl := Except.ok.inj hax
    exact hU
  · rw [h1, hidx] at hay
    obtain rfl := Except.ok.inj hay
    exact hV

/-- Non-vacuity: the example vector field with the default colour (component `c`), with a colour
field on 4 × 3 cells, with explicit labels whose FIRST entry is component number 0 (`a`), and
with only a vertical component. -/
example : okB (mplVector exV {}) = true ∧ okB (mplVector exV { aux := some exFine }) = true ∧
    okB (mplVector exV { vdimsArg := some [some "a", some "c"] }) = true ∧
    okB (mplVector exV { vdimsArg := some [none, some "a"], useColor := false }) = true ∧
    arrowIdx exV (some "a") = .ok (some 0) := by
  decide +kernel

/-! ## default plot `field.mpl()`, object level -/

/-- **Default plot, every number of components.**  A successful `field.mpl()` uses ONE multiplier
`m` (the call's, else the region's default) for everything it draws and ends with the labels
announcing `m`.  For 1 component it is the scalar image of the field; for 3 components the scalar
image of the component `c` not mapped to a plot axis, followed by the vector plot; for 2
components the vector plot alone.  The scalar image has `origin="lower"`, extent `region / m`,
shape `(n₁, n₀)`, and pixel `[j][i]` shows component `c` of cell `(i, j)` when the cell is valid
and non-zero in the `filter_field` of `scalar_kw` (default: the field's own validity), NaN
otherwise; the vector part is `field.mpl.vector(multiplier=m, **vector_kw)`, to which
`vector_at_centres`, `vector_components_through_mapping`, `vector_hides_exactly_invalid` and
`vector_colour_object` apply. -/
theorem default_plot_object (f : Fld) (o : Opts) (calls : List PlotCall) (hinv : f.mesh.Inv)
    (hgeo : ∀ g, o.filter = some g → AuxGeom f g) (h : mplDefault f o = .ok calls) :
    ∃ m lab, 0 < m ∧ setupMultiplier f o.mult = .ok m ∧ EndsWithLabels f.mesh.region m calls ∧
      axisLabels f.mesh.region m = .ok lab ∧
      ((f.nvdim = 1 ∧ ∃ img lab', calls = [.imshow img "lower"
            [f.mesh.region.lo 0 / m, f.mesh.region.hi 0 / m, f.mesh.region.lo 1 / m, f.mesh.region.hi 1 / m],
            lab', lab] ∧ img.shape = [f.mesh.nAt 1, f.mesh.nAt 0] ∧
          ∀ i j, i < f.mesh.nAt 0 → j < f.mesh.nAt 1 →
            img.get [j, i] = if keptBy f o.filter [i, j] then some ((f.data.get [i, j]).getD 0 0) else none) ∨
       (f.nvdim = 2 ∧ ∃ cv, mplVector f { o with mult := some m } = .ok cv ∧ calls = cv ++ [lab]) ∨
       (f.nvdim = 3 ∧ ∃ c img lab' cv, thirdComp f (inplaneVdims f) o.pick = .ok c ∧
          mplVector f { o with mult := some m } = .ok cv ∧
          calls = [.imshow img "lower"
            [f.mesh.region.lo 0 / m, f.mesh.region.hi 0 / m, f.mesh.region.lo 1 / m, f.mesh.region.hi 1 / m],
            lab'] ++ cv ++ [lab] ∧ img.shape = [f.mesh.nAt 1, f.mesh.nAt 0] ∧
          ∀ i j, i < f.mesh.nAt 0 → j < f.mesh.nAt 1 →
            img.get [j, i] = if keptBy f o.filter [i, j] then some ((f.data.get [i, j]).getD c 0) else none)) := by
  obtain ⟨_, m, parts, lab, hm, hparts, hl, hc⟩ := (mplDefault_eq_ok_iff f o calls).mp h
  refine ⟨m, lab, axisLabels_pos _ _ _ hl, hm, by rw [hc]; exact endsWithLabels_of _ m lab parts hl, hl, ?_⟩
  rcases (defaultParts_eq_ok_iff f o m parts).mp hparts with ⟨h1, hcs⟩ | ⟨h2, hcv⟩ | ⟨h3, c, cs, cv, hthird, hcs, hcv, rfl⟩
  · left
    obtain ⟨_, img, lab', _, hcs', hshape, hpix⟩ :=
      default_scalar_image f f o m 0 parts hinv rfl rfl (fun _ => rfl) hgeo hcs
    exact ⟨h1, img, lab', by rw [hc, hcs']; rfl, hshape, hpix⟩
  · right; left
    exact ⟨h2, parts, hcv, hc⟩
  · right; right
    obtain ⟨_, img, lab', _, hcs', hshape, hpix⟩ :=
      default_scalar_image (compField f c) f o m c cs hinv rfl rfl (fun _ => rfl) hgeo hcs
    exact ⟨h3, c, img, lab', cv, hthird, hcv, by rw [hc, hcs']; rfl, hshape, hpix⟩

/-! ## acceptance: well-formed inputs are plotted

Input conditions (definitions in `Lemmas/C20Accept.lean`, `MultOk` in `Lemmas/C20Si.lean`; none of
them mentions the plot functions): `MultOk f mult` — an explicit multiplier is an entry of the SI table, the default
needs every edge in `[1e-24, 1e27)`; `AuxOk f g` — a filter / colour / lightness field has one
component, a 2-d mesh, and either the cell counts of `f` or a well-formed mesh and labels the
`Field` constructor accepts (`resample` builds a field); `MappingOk f` — the components are
labelled, every mapped label is a non-empty component label, both plot axes are mapped to;
`ArrowsOk f o` — `MappingOk`, or `vdims=[lx, ly]` with two non-empty component labels;
`ColourOk f o` — `use_color=False`, or an `AuxOk` colour field, or (no colour field) not three
components, or three pairwise different labels. -/

/-- **Scalar plot accepts** every field with at most one component on a well-formed 2-d mesh,
with the default or an SI multiplier and the default or any acceptable filter (same or another
resolution).  Discharges the success hypotheses of `scalar_total`. -/
theorem scalar_accepts (f : Fld) (o : Opts) (hinv : f.mesh.Inv) (h2 : f.mesh.region.ndim = 2)
    (hnv : f.nvdim ≤ 1) (hm : MultOk f o.mult) (hflt : ∀ g, o.filter = some g → AuxOk f g) :
    ∃ calls, mplScalar f o = .ok calls := by
  obtain ⟨m, pre, hm, hp⟩ := setupMultiplier_ok f hinv o.mult hm
  obtain ⟨keep, hk⟩ := filterKeep_ok f o hinv h2 hflt
  exact scalar_total f o hinv h2 hnv m hm pre hp keep hk

/-- **Contour plot accepts** every one-component field on a well-formed 2-d mesh under the same
conditions: the arguments are assembled and handed to `ax.contour` (matplotlib's own requirement of at
least 2 × 2 cells is `contourArgsOk`, see `contour_mpl_ok_iff`). -/
theorem contour_accepts (f : Fld) (o : Opts) (hinv : f.mesh.Inv) (h2 : f.mesh.region.ndim = 2)
    (hnv : f.nvdim = 1) (hm : MultOk f o.mult) (hflt : ∀ g, o.filter = some g → AuxOk f g) :
    ∃ calls, mplContour f o = .ok calls := by
  obtain ⟨m, pre, hm, hp⟩ := setupMultiplier_ok f hinv o.mult hm
  obtain ⟨keep, hk⟩ := filterKeep_ok f o hinv h2 hflt
  exact ⟨_, (mplContour_eq_ok_iff f o _).mpr
    ⟨h2, hnv, m, keep, _, hm, hk, (axisLabels_eq_ok_iff _ m _).mpr ⟨pre, hp, rfl⟩, rfl⟩⟩

/-- **Vector plot accepts** every field on a well-formed 2-d mesh whose arrow labels and colour
request are acceptable (`ArrowsOk`, `ColourOk`), with the default or an SI multiplier. -/
theorem vector_accepts (f : Fld) (o : Opts) (hinv : f.mesh.Inv) (h2 : f.mesh.region.ndim = 2)
    (hm : MultOk f o.mult) (harr : ArrowsOk f o) (hcol : ColourOk f o) :
    ∃ calls, mplVector f o = .ok calls := by
  obtain ⟨m, pre, hm, hp⟩ := setupMultiplier_ok f hinv o.mult hm
  obtain ⟨hne, vd, cx, cy, hvd, hlen, hax, hay⟩ := arrows_ok f o harr
  obtain ⟨C, hC⟩ := colourOf_ok f o vd hinv h2 hlen hcol
  exact mplVector_ok_of f o h2 hne m pre hm hp vd hvd _ _ hax hay rfl C hC

/-- **Default plot accepts** every field with one to three components on a well-formed 2-d mesh
under the conditions of its parts. -/
theorem default_accepts (f : Fld) (o : Opts) (hinv : f.mesh.Inv) (h2 : f.mesh.region.ndim = 2)
    (hnv : 1 ≤ f.nvdim ∧ f.nvdim ≤ 3) (hm : MultOk f o.mult)
    (hflt : ∀ g, o.filter = some g → AuxOk f g)
    (hvec : 2 ≤ f.nvdim → ArrowsOk f o ∧ ColourOk f o)
    (hthird : f.nvdim = 3 → ∃ vs, f.vdims = some vs ∧ vs.length = 3 ∧ hasDup vs = false) :
    ∃ calls, mplDefault f o = .ok calls := by
  obtain ⟨m, pre, hsm, hp⟩ := setupMultiplier_ok f hinv o.mult hm
  have hm' : MultOk f (some m) := ⟨pre, rsiPrefix_some m pre hp⟩
  have hfo : ∀ g, some (filterOf f o) = some g → AuxOk f g := fun g hg =>
    Option.some.inj hg ▸ filterOf_elim f o (AuxOk f) ⟨rfl, h2, Or.inl rfl⟩ hflt
  refine mplDefault_ok_of f o h2 m pre hsm hp ?_
  by_cases h1 : f.nvdim = 1
  · exact Or.inl ⟨h1, scalar_accepts f { o with mult := some m, filter := some (filterOf f o) } hinv h2
      (by omega) hm' hfo⟩
  obtain ⟨harr, hcol⟩ := hvec (by omega)
  obtain ⟨cv, hcv⟩ := vector_accepts f { o with mult := some m } hinv h2 hm' harr hcol
  by_cases hn2 : f.nvdim = 2
  · exact Or.inr (Or.inl ⟨hn2, cv, hcv⟩)
  obtain ⟨vs, hvs, hl, hnd⟩ := hthird (by omega)
  obtain ⟨c, hc⟩ := thirdComp_ok f vs hvs hnd (inplaneVdims f) (by rw [hl]; exact Nat.lt_succ_self 2) o.pick
  obtain ⟨cs, hcs⟩ := scalar_accepts (compField f c)
    { o with mult := some m, filter := some (filterOf f o) } hinv h2 (Nat.le_refl 1) hm' hfo
  exact Or.inr (Or.inr ⟨by omega, c, cs, cv, hc, hcs, hcv⟩)

/-- Non-vacuity of the acceptance theorems: the example fields meet the input conditions. -/
example : MultOk exS none ∧ MultOk exV (some (1/1000)) ∧ MappingOk exV ∧ ArrowsOk exV {} ∧
    ColourOk exV {} ∧ AuxOk exS exOnes ∧ AuxOk exS exFine ∧
    (∃ vs, exV.vdims = some vs ∧ vs.length = 3 ∧ hasDup vs = false) :=
  ⟨exS_multOk, ⟨"m", by decide +kernel⟩, exV_mappingOk, exV_mappingOk, exV_colourOk, ⟨rfl, rfl, Or.inl rfl⟩,
   exFine_auxOk, exV_labels⟩

/-! ## SI table, spelled out -/

/-- **The whole SI table in decimal** (kernel evaluation over all 17 entries): `y` = 10⁻²⁴ …
`n` = 10⁻⁹, `u` = 10⁻⁶, `m` = 10⁻³, no prefix = 1, `k` = 10³ … `Y` = 10²⁴, in this order. -/
theorem si_table_decimal :
    siTable = [("y", 1 / 10 ^ 24), ("z", 1 / 10 ^ 21), ("a", 1 / 10 ^ 18), ("f", 1 / 10 ^ 15),
      ("p", 1 / 10 ^ 12), ("n", 1 / 10 ^ 9), ("u", 1 / 10 ^ 6), ("m", 1 / 10 ^ 3), ("", 1),
      ("k", 10 ^ 3), ("M", 10 ^ 6), ("G", 10 ^ 9), ("T", 10 ^ 12), ("P", 10 ^ 15), ("E", 10 ^ 18),
      ("Z", 10 ^ 21), ("Y", 10 ^ 24)] := by
  decide +kernel

/-- The prefix lookup used for the axis labels succeeds exactly on the table: `rsi_prefixes[m]`
is `p` if and only if `(p, m)` is an entry; prefixes and multipliers are pairwise different
(strictly increasing multipliers), so the announced prefix determines the multiplier. -/
theorem si_prefix_lookup_iff (p : String) (m : Rat) :
    (rsiPrefix? m = some p ↔ (p, m) ∈ siTable) ∧
    siTable.Pairwise (fun a b => a.2 < b.2 ∧ a.1 ≠ b.1) := by
  refine ⟨⟨rsiPrefix_some m p, si_table_inverse p m⟩, ?_⟩
  unfold siTable
  rw [List.pairwise_map]
  exact siExps_sorted.imp fun h => ⟨p1000_lt' _ _ h.1, h.2⟩

/-! ## plotting is a pure function of its arguments: dictionaries, sessions, histories

`Model/C20Session.lean` models `MplField.__call__` on a STORE of dictionary objects: the caller's
`scalar_kw` / `vector_kw` are addresses, `{}` and `.copy()` allocate, `setdefault` writes in place.
`callMpl s r` returns the new store and what is handed to matplotlib; `runSession` serves a
history of requests on one store; `callSpec s r` is the specification: `mplDefault` of the field
with the options read from the caller's dictionaries as they are at the call. -/

/-- **One call is pure.**  `field.mpl(...)` writes only to dictionaries it allocated itself:
every dictionary that existed before the call reads the same afterwards (in particular the
caller's `scalar_kw` / `vector_kw` do not acquire `filter_field`, `use_color`, `colorbar`,
`colorbar_label`), and what is handed to matplotlib is `callSpec`: a function of the field, the
multiplier and the CONTENTS of the two dictionaries at the time of the call, with the defaults
`filter_field = field._valid_as_field` and `use_color = False` filled in per call. -/
theorem call_is_pure (s : Store) (r : Req) (hv : ∀ a, r.vkw = some a → a < s.length) :
    (∀ a, a < s.length → (callMpl s r).1.read a = s.read a) ∧ s.length ≤ (callMpl s r).1.length ∧
    (callMpl s r).2 = callSpec s r :=
  ⟨(callMpl_frame s r).2, (callMpl_frame s r).1, callMpl_spec s r hv⟩

/-- **Every call of a history is independent of the earlier calls** (induction over histories of
any length).  If the requests only refer to dictionaries the caller made before the session,
then the `k`-th answer of the session is what the `k`-th request gets on its own (`callSpec` on
the INITIAL store), there is one answer per request, and after the session all the caller's
dictionaries read as before. -/
theorem session_calls_independent (s : Store) (rs : List Req) (hv : ReqsValid s.length rs) :
    (runSession s rs).2 = rs.map (callSpec s) ∧
    (∀ a, a < s.length → (runSession s rs).1.read a = s.read a) := by
  obtain ⟨h1, _, h3⟩ := runSession_spec s rs hv s ⟨Nat.le_refl _, fun _ _ => rfl⟩
  exact ⟨h1, h3⟩

/-- **The default keyword arguments do not depend on history.**  A plain `field.mpl()` (no
dictionaries, any multiplier) issued after ANY history of earlier calls — on other fields, with
other filters, colour fields, `use_color` settings — hands over exactly the default plot of
THIS field: filtered by its own validity, arrows uncoloured. -/
theorem default_kwargs_per_call (s : Store) (hist : List Req) (f : Fld) (mult : Option Rat) (pick : Nat)
    (hv : ReqsValid s.length hist) :
    (runSession s (hist ++ [{ field := f, mult := mult, pick := pick }])).2.getLast? =
      some (mplDefault f { mult := mult, useColor := false, pick := pick }) := by
  have hv' : ReqsValid s.length (hist ++ [{ field := f, mult := mult, pick := pick }]) := by
    intro r hr
    rcases List.mem_append.mp hr with hr | hr
    · exact hv r hr
    · have : r = { field := f, mult := mult, pick := pick } := by simpa using hr
      subst this
      exact ⟨fun a ha => (nomatch ha), fun a ha => (nomatch ha)⟩
  rw [(session_calls_independent s _ hv').1, getLast?_map_concat]
  rfl

/-- **Two histories, same answer.**  The answer to a request does not depend on which (valid)
requests were served before it. -/
theorem session_history_irrelevant (s : Store) (h1 h2 : List Req) (r : Req)
    (hv1 : ReqsValid s.length (h1 ++ [r])) (hv2 : ReqsValid s.length (h2 ++ [r])) :
    (runSession s (h1 ++ [r])).2.getLast? = (runSession s (h2 ++ [r])).2.getLast? := by
  rw [(session_calls_independent s _ hv1).1, (session_calls_independent s _ hv2).1, getLast?_map_concat,
    getLast?_map_concat]

/-- Non-vacuity of the session theorems: a store with a `scalar_kw` holding a filter and a
`vector_kw` asking for colour, three requests sharing them; the requests are valid, every call
succeeds, and the caller's dictionaries keep their keys. -/
example : ReqsValid 2
      [{ field := exV, skw := some 0, vkw := some 1 }, { field := exS, skw := some 0 },
       { field := exV }] ∧
    (runSession [{ filter := some exOnes }, { useColor := some true }]
      [{ field := exV, skw := some 0, vkw := some 1 }, { field := exS, skw := some 0 },
       { field := exV }]).2.map okB = [true, true, true] ∧
    ((runSession [{ filter := some exOnes }, { useColor := some true }]
      [{ field := exV, skw := some 0, vkw := some 1 }, { field := exS, skw := some 0 },
       { field := exV }]).1.take 2).map Kw.keys = [["filter_field"], ["use_color"]] := by
  refine ⟨?_, by decide +kernel, by decide +kernel⟩
  intro r hr
  simp only [List.mem_cons, List.mem_nil_iff, or_false] at hr
  rcases hr with rfl | rfl | rfl <;> exact ⟨by intro a ha; cases ha <;> omega, by intro a ha; cases ha <;> omega⟩


/-! ## plotting never modifies the field: arrays as objects

`Model/C20Heap.lean` puts the arrays on a HEAP of buffers: the plotted field, the filter and the
colour field hold ADDRESSES (`HFld`), `array.copy()` and derived fields (`_valid_as_field`,
`resample`) allocate, the two NaN writes of `_filter_values` happen in place at the address of
`values`.  `scalarH` / `contourH` / `vectorH` return the heap after the call and what is handed
to matplotlib.  `Frame h h'` (in `Lemmas/C20Heap.lean`): `h'` is at least as long as `h` and every
buffer of `h` reads the same in `h'`; `HFld.On h g`: both arrays of `g` are buffers of `h`;
`HFld.abs h g`: the field `g` as a value, read from the heap `h`. -/

/-- **Plotting never modifies the field, its mesh or its validity** (`plot_pure`, for EVERY plot
kind: scalar, contour, vector, lightness — of fields with any number of components — and the
default plot `mpl()`, any filter / colour / lightness field, same or another resolution).  Every buffer that existed
before the call — the field's `array` and `valid`, those of the `filter_field`, of the
`color_field` / `lightness_field`, of any other field — holds the same entries after the call:
the in-place NaN writes of `_filter_values` and the in-place normalisation of the lightness
array land in buffers the call allocated itself (`values = array.copy()`, `lightness =
lightness_field.array.reshape(n).copy()`, `rgb`).  Consequently every field on the heap, read as a
value (mesh, components, array, validity, labels, mapping, unit), is the same before and after. -/
theorem plot_pure (sqrtF : Rat → Rat) (h : AHeap) (f : HFld) (o : HOpts) (clim : Option (Rat × Rat)) :
    Frame h (scalarH h f o).1 ∧ Frame h (contourH h f o).1 ∧ Frame h (vectorH h f o).1 ∧
    Frame h (lightnessH sqrtF h f o clim).1 ∧ Frame h (defaultH h f o).1 ∧
    ∀ g : HFld, g.On h →
      g.abs (scalarH h f o).1 = g.abs h ∧ g.abs (contourH h f o).1 = g.abs h ∧
      g.abs (vectorH h f o).1 = g.abs h ∧ g.abs (lightnessH sqrtF h f o clim).1 = g.abs h ∧
      g.abs (defaultH h f o).1 = g.abs h :=
  ⟨frame_scalarH h f o, frame_contourH h f o, frame_vectorH h f o, frame_lightnessH sqrtF h f o clim,
   frame_defaultH h f o,
   fun g hg => ⟨abs_frame _ _ g (frame_scalarH h f o) hg, abs_frame _ _ g (frame_contourH h f o) hg,
     abs_frame _ _ g (frame_vectorH h f o) hg, abs_frame _ _ g (frame_lightnessH sqrtF h f o clim) hg,
     abs_frame _ _ g (frame_defaultH h f o) hg⟩⟩

/-- **The plot functions with in-place writes refine the value model.**  For a field whose arrays
are on the heap and hold numbers (no NaN), on a well-formed mesh, with filter and colour /
lightness field on the heap: what `scalar` (one component), `contour`, `vector` (no more labels
than components) and `lightness` (any number of components; a given lightness field holds
numbers) hand to matplotlib AFTER copying, masking / normalising in place and taking views is
exactly what `mplScalar` / `mplContour` / `mplVector` / `mplLightness` compute from the field as a
value — success or the same error.  All theorems about the value model therefore speak about the
code-shaped heap functions. -/
theorem heap_plots_refine (sqrtF : Rat → Rat) (h : AHeap) (f : HFld) (o : HOpts) (clim : Option (Rat × Rat))
    (hinv : f.mesh.Inv) (hf : f.On h)
    (hnum : ∀ i, (h.buf f.arr i).isSome) (hflt : ∀ g, o.filter = some g → g.On h)
    (haux : ∀ g, o.aux = some g → g.On h) :
    (f.nvdim = 1 → (scalarH h f o).2 = mplScalar (f.abs h) (o.abs h)) ∧
    (contourH h f o).2 = mplContour (f.abs h) (o.abs h) ∧
    ((∀ vs, f.vdims = some vs → vs.length ≤ f.nvdim) →
      (vectorH h f o).2 = mplVector (f.abs h) (o.abs h)) ∧
    ((∀ g, o.aux = some g → ∀ i, (h.buf g.arr i).isSome) →
      (lightnessH sqrtF h f o clim).2 = mplLightness sqrtF (f.abs h) { o.abs h with clim := clim }) :=
  ⟨fun hnv => scalarH_refines h f o hinv hf hnum hflt (Nat.le_of_eq hnv.symm), contourH_refines h f o hinv hf hnum hflt,
   fun hlab => vectorH_refines h f o hinv hf hnum hflt haux hlab,
   fun hn => lightnessH_refines sqrtF h f o clim hinv hf hflt (fun g hg => ⟨haux g hg, hn g hg⟩)⟩

/-- Non-vacuity of `plot_pure` / `heap_plots_refine`: the example fields with their arrays on a
heap of two buffers; the calls succeed, allocate their own buffers (`values`, and the two arrays
of `_valid_as_field`) and leave the two input buffers alone. -/
example : exHS.On exHeap ∧ (∀ i, (exHeap.buf exHS.arr i).isSome) ∧ exHV.On exHeapV ∧
    (∀ i, (exHeapV.buf exHV.arr i).isSome) ∧ (∀ vs, exHV.vdims = some vs → vs.length ≤ exHV.nvdim) ∧
    okB (scalarH exHeap exHS {}).2 = true ∧ (scalarH exHeap exHS {}).1.length = 5 ∧
    okB (contourH exHeap exHS {}).2 = true ∧ okB (vectorH exHeapV exHV {}).2 = true ∧
    (vectorH exHeapV exHV {}).1.length = 5 ∧
    okB (lightnessH (fun q => q) exHeapV exHV {} none).2 = true ∧
    okB (lightnessH (fun q => q) exHeap exHS { aux := some exHS } none).2 = true ∧
    okB (defaultH exHeapV exHV { useColor := false }).2 = true ∧ okB (defaultH exHeap exHS {}).2 = true := by
  have onS : exHS.On exHeap := ⟨by decide, by decide⟩
  have onV : exHV.On exHeapV := ⟨by decide, by decide⟩
  have labV : ∀ vs, exHV.vdims = some vs → vs.length ≤ exHV.nvdim := fun vs hvs => by
    injection hvs with hvs
    subst hvs
    decide
  -- what the heap functions hand over is what the value model computes, and that accepts the examples
  have rS := heap_plots_refine (fun q => q) exHeap exHS {} none exMesh_inv onS (fun _ => rfl)
    (fun _ hg => (nomatch hg)) (fun _ hg => (nomatch hg))
  have rV := heap_plots_refine (fun q => q) exHeapV exHV {} none exMesh_inv onV (fun _ => rfl)
    (fun _ hg => (nomatch hg)) (fun _ hg => (nomatch hg))
  refine ⟨onS, fun _ => rfl, onV, fun _ => rfl, labV, ?_, by decide +kernel, ?_, ?_, by decide +kernel,
    by decide +kernel, by decide +kernel, ?_, ?_⟩
  · rw [rS.1 rfl]
    exact okB_of_ok _ (scalar_accepts _ _ exMesh_inv rfl (Nat.le_refl 1) exS_multOk (fun _ hg => (nomatch hg)))
  · rw [rS.2.1]
    exact okB_of_ok _ (contour_accepts _ _ exMesh_inv rfl rfl exS_multOk (fun _ hg => (nomatch hg)))
  · rw [rV.2.2.1 labV]
    exact okB_of_ok _ (vector_accepts _ _ exMesh_inv rfl exS_multOk exV_mappingOk exV_colourOk)
  · rw [defaultH_refines exHeapV exHV { useColor := false } exMesh_inv onV (fun _ => rfl)
      (fun _ hg => (nomatch hg)) (fun _ hg => (nomatch hg)) labV]
    exact okB_of_ok _ (default_accepts _ _ exMesh_inv rfl ⟨by decide, by decide⟩ exS_multOk
      (fun _ hg => (nomatch hg)) (fun _ => ⟨exV_mappingOk, Or.inl rfl⟩) (fun _ => exV_labels))
  · rw [defaultH_refines exHeap exHS {} exMesh_inv onS (fun _ => rfl) (fun _ hg => (nomatch hg))
      (fun _ hg => (nomatch hg)) (fun _ hvs => (nomatch hvs))]
    exact okB_of_ok _ (default_accepts _ _ exMesh_inv rfl ⟨by decide, by decide⟩ exS_multOk
      (fun _ hg => (nomatch hg)) (fun h => absurd h (by decide)) (fun h => absurd h (by decide)))


/-! ## the default multiplier as a decision over every region size -/

/-- **The default multiplier exists exactly for regions whose edges all lie in `[1e-24, 1e27)`**
(refusal as an equivalence, for EVERY region size — 1e-30 … 1e30 and beyond): if one edge is
shorter than `1e-24` or at least `1e27` long, `si_multiplier` answers `None` for it and
`max([... None ...])` raises, so every plot with `multiplier=None` is refused; otherwise the
multiplier is found. -/
theorem default_multiplier_ok_iff (f : Fld) (hinv : f.mesh.Inv) :
    (∃ m, setupMultiplier f none = .ok m) ↔
      ∀ a, a < f.mesh.region.ndim →
        p1000 (-8) ≤ f.mesh.region.edge a ∧ f.mesh.region.edge a < p1000 9 :=
  ⟨fun ⟨m, h⟩ b hb => setupMultiplier_none_range f hinv m h b hb, default_multiplier_exists f hinv⟩

/-- **The default multiplier, characterised** (`si_max_multiplier(region.edges)`; the
multiplier/prefix rule of the axis labels).  For a well-formed region, `m` is the default
multiplier if and only if no edge is shorter than `1e-24`, `m` is a power of 1000 of the SI table
(`m = 1000^k`, `-8 ≤ k ≤ 8`, so it has a prefix), the longest edge measures at least one unit
(`m ≤ edge` for some axis) and every edge measures less than 1000 units (`edge < 1000·m`).
In particular the default multiplier is unique and the scaled extent of the longest edge lies in
`[1, 1000)`. -/
theorem default_multiplier_iff (f : Fld) (hinv : f.mesh.Inv) (m : Rat) :
    setupMultiplier f none = .ok m ↔
      (∀ a, a < f.mesh.region.ndim → p1000 (-8) ≤ f.mesh.region.edge a) ∧
      (∃ k : Int, -8 ≤ k ∧ k ≤ 8 ∧ m = p1000 k) ∧
      (∃ a, a < f.mesh.region.ndim ∧ m ≤ f.mesh.region.edge a) ∧
      ∀ a, a < f.mesh.region.ndim → f.mesh.region.edge a < 1000 * m := by
  have fwd : ∀ m', setupMultiplier f none = .ok m' →
      (∃ k : Int, -8 ≤ k ∧ k ≤ 8 ∧ m' = p1000 k) ∧
      (∃ a, a < f.mesh.region.ndim ∧ m' ≤ f.mesh.region.edge a) ∧
      ∀ a, a < f.mesh.region.ndim → f.mesh.region.edge a < 1000 * m' := by
    intro m' h
    obtain ⟨⟨pre, hpre, _⟩, ⟨a, ha, hd⟩, hall⟩ := default_multiplier_decade f hinv m' h
    obtain ⟨k, hk, rfl⟩ := (mem_siTable pre m').mp hpre
    obtain ⟨k1, k2⟩ := (siExps_exp_iff k).mp ⟨pre, hk⟩
    exact ⟨⟨k, k1, k2, rfl⟩, ⟨a, ha, ((decade_iff _ _ (p1000_pos k)).mp hd).1⟩,
      fun b hb => (div_lt_iff₀ (p1000_pos k)).mp (hall b hb)⟩
  constructor
  · intro h
    exact ⟨fun a ha => (setupMultiplier_none_range f hinv m h a ha).1, fwd m h⟩
  · rintro ⟨hlo, ⟨k, k1, k2, rfl⟩, h1, h2⟩
    -- the edges lie in the range where the default exists, and its decade is that of `k`
    obtain ⟨m', hm'⟩ := default_multiplier_exists f hinv fun a ha =>
      ⟨hlo a ha, lt_of_lt_of_le (h2 a ha) (p1000_mul_le k 9 (by omega))⟩
    obtain ⟨⟨k', _, _, rfl⟩, h1', h2'⟩ := fwd m' hm'
    rw [longest_decade_unique f.mesh.region.ndim f.mesh.region.edge k k' h1 h2 h1' h2']
    exact hm'

/-- **Every successful plot uses a power of 1000 of the SI table**, explicit or default
multiplier alike, for every plot kind: `multiplier = 1000^k` with `-8 ≤ k ≤ 8`
(`1e-24 … 1e24`).  (A multiplier outside the table has no prefix for the axis labels.) -/
theorem plot_multiplier_power (sqrtF : Rat → Rat) (f : Fld) (o : Opts) (calls : List PlotCall)
    (h : mplScalar f o = .ok calls ∨ mplContour f o = .ok calls ∨ mplVector f o = .ok calls ∨
      mplDefault f o = .ok calls ∨ mplLightness sqrtF f o = .ok calls) :
    ∃ (m : Rat) (k : Int), setupMultiplier f o.mult = .ok m ∧ -8 ≤ k ∧ k ≤ 8 ∧ m = p1000 k ∧ 0 < m := by
  obtain ⟨l1, l2, l3, l4, l5⟩ := labels_eq sqrtF f o calls
  have fin : (∃ m, setupMultiplier f o.mult = .ok m ∧ EndsWithLabels f.mesh.region m calls) →
      ∃ (m : Rat) (k : Int), setupMultiplier f o.mult = .ok m ∧ -8 ≤ k ∧ k ≤ 8 ∧ m = p1000 k ∧ 0 < m := by
    rintro ⟨m, hm, pre, hpre, _⟩
    obtain ⟨k, hk, hmk⟩ := (mem_siTable pre m).mp hpre
    obtain ⟨k1, k2⟩ := (siExps_exp_iff k).mp ⟨pre, hk⟩
    exact ⟨m, k, hm, k1, k2, hmk, by rw [hmk]; exact p1000_pos k⟩
  rcases h with h | h | h | h | h
  · exact fin (l1 h)
  · exact fin (l2 h)
  · exact fin (l3 h)
  · exact fin (l4 h)
  · exact fin (l5 h)

/-- **Scaled extent of the default plot.**  With `multiplier=None` a successful scalar plot has
the extent `[x0, x1, y0, y1] = region / m` with `0 < x1 - x0 < 1000`, `0 < y1 - y0 < 1000` and
`1 ≤ x1 - x0` or `1 ≤ y1 - y0`: in the units announced by the axis labels the longest edge of the
region measures between 1 and 1000. -/
theorem default_extent_span (f : Fld) (o : Opts) (calls : List PlotCall) (hinv : f.mesh.Inv)
    (hm : o.mult = none) (h : mplScalar f o = .ok calls) :
    ∃ img x0 x1 y0 y1 lab, calls = [.imshow img "lower" [x0, x1, y0, y1], lab] ∧
      0 < x1 - x0 ∧ x1 - x0 < 1000 ∧ 0 < y1 - y0 ∧ y1 - y0 < 1000 ∧ (1 ≤ x1 - x0 ∨ 1 ≤ y1 - y0) := by
  obtain ⟨h2, _, m, keep, lab, hpos, hsm, _, _, hc⟩ := mplScalar_inv f o calls hinv h
  rw [hm] at hsm
  obtain ⟨_, _, ⟨a, ha, h1⟩, hall⟩ := (default_multiplier_iff f hinv m).mp hsm
  have e : ∀ b, f.mesh.region.hi b / m - f.mesh.region.lo b / m = f.mesh.region.edge b / m :=
    fun b => by unfold Region.edge; ring
  refine ⟨_, _, _, _, _, lab, hc, ?_, ?_, ?_, ?_, ?_⟩
  · rw [e]; exact div_pos (hinv.1.edge_pos (a := 0) (by omega)) hpos
  · rw [e, div_lt_iff₀ hpos]; exact hall 0 (by omega)
  · rw [e]; exact div_pos (hinv.1.edge_pos (a := 1) (by omega)) hpos
  · rw [e, div_lt_iff₀ hpos]; exact hall 1 (by omega)
  · rw [e, e, le_div_iff₀ hpos, le_div_iff₀ hpos, one_mul]
    rcases (by omega : a = 0 ∨ a = 1) with rfl | rfl
    · exact Or.inl h1
    · exact Or.inr h1

/-- Non-vacuity of the multiplier theorems: 40 nm × 60 nm gets `1000^-3` (prefix `n`), the region
`[0,4]×[0,6]` gets `1000^0`; a region 4 × 6e-27 is refused (`max` of `None` and a number), and so
is 4 × 1e27. -/
example : siMaxMultiplier [4/100000000, 6/100000000] = .ok (p1000 (-3)) ∧
    setupMultiplier exS none = .ok (p1000 0) ∧
    okB (siMaxMultiplier [4, 6 / 10 ^ 27]) = false ∧ okB (siMaxMultiplier [4, 10 ^ 27]) = false ∧
    okB (siMaxMultiplier [4 / 10 ^ 24, 10 ^ 26]) = true := by
  decide +kernel


/-! ## refusal as an equivalence: a plot is made if and only if its inputs are well-formed

`FieldWf g` (in `Lemmas/C20Accept.lean`): `g` is a field OBJECT — well-formed mesh, labels and mapping
the `Field` constructor accepted; an invariant of every field that exists, asked of the
filter / colour fields that live on other cell counts (they are resampled).  `MultOk`:
`Lemmas/C20Si.lean`.  `VectorCond f o`: `vdims=` absent needs a non-empty mapping; `vdims=`
given has two entries; each of the two arrow labels (`vdims=` or the LAST label the mapping sends
to the plot axis) is absent / empty or a component label, not both absent; the colour request is
`use_color=False`, or a one-component `color_field` on a 2-d mesh, or (none given) the field does
not have three components or a component label is left over. -/

/-- **`field.mpl.scalar` succeeds if and only if** the mesh is 2-d, the field has at most one
component, the multiplier is acceptable (an SI table entry, or by default every edge in
`[1e-24, 1e27)`) and the filter field, if given, has one component and lives on a 2-d mesh.
Every other input is refused. -/
theorem scalar_ok_iff (f : Fld) (o : Opts) (hinv : f.mesh.Inv)
    (hwf : ∀ g, o.filter = some g → g.mesh.n = f.mesh.n ∨ FieldWf g) :
    (∃ calls, mplScalar f o = .ok calls) ↔
      f.mesh.region.ndim = 2 ∧ f.nvdim ≤ 1 ∧ MultOk f o.mult ∧
      ∀ g, o.filter = some g → g.nvdim = 1 ∧ g.mesh.region.ndim = 2 := by
  constructor
  · rintro ⟨calls, h⟩
    obtain ⟨h2, hnv, m, keep, lab, _, hm, hk, hl, _⟩ := mplScalar_inv f o calls hinv h
    exact ⟨h2, hnv, multOk_of_labels f hinv o.mult m lab hm hl,
      (filterKeep_ok_iff f o hinv h2 hwf).mp ⟨keep, hk⟩⟩
  · rintro ⟨h2, hnv, hm, hflt⟩
    exact scalar_accepts f o hinv h2 hnv hm
      (fun g hg => ⟨(hflt g hg).1, (hflt g hg).2, hwf g hg⟩)

/-- **`field.mpl.contour` hands its arguments to matplotlib if and only if** the mesh is 2-d, the
field has exactly one component, multiplier and filter are acceptable. -/
theorem contour_ok_iff (f : Fld) (o : Opts) (hinv : f.mesh.Inv)
    (hwf : ∀ g, o.filter = some g → g.mesh.n = f.mesh.n ∨ FieldWf g) :
    (∃ calls, mplContour f o = .ok calls) ↔
      f.mesh.region.ndim = 2 ∧ f.nvdim = 1 ∧ MultOk f o.mult ∧
      ∀ g, o.filter = some g → g.nvdim = 1 ∧ g.mesh.region.ndim = 2 := by
  constructor
  · rintro ⟨calls, h⟩
    obtain ⟨h2, hnv, m, keep, lab, hm, hk, hl, _⟩ := (mplContour_eq_ok_iff f o calls).mp h
    exact ⟨h2, hnv, multOk_of_labels f hinv o.mult m lab hm hl,
      (filterKeep_ok_iff f o hinv h2 hwf).mp ⟨keep, hk⟩⟩
  · rintro ⟨h2, hnv, hm, hflt⟩
    exact contour_accepts f o hinv h2 hnv hm
      (fun g hg => ⟨(hflt g hg).1, (hflt g hg).2, hwf g hg⟩)

/-- **matplotlib's requirement on `contour(X, Y, Z)`** (`contourArgsOk`, the documented
precondition: `Z` at least `(2, 2)`, `len(X)` = columns of `Z`, `len(Y)` = rows of `Z`) **is met by
the arguments handed over if and only if the mesh has at least two cells along both axes.**  The
length conditions always hold; only the `(2, 2)` requirement can fail. -/
theorem contour_args_ok_iff (f : Fld) (o : Opts) (calls : List PlotCall) (hinv : f.mesh.Inv)
    (h : mplContour f o = .ok calls) :
    ∃ X Y Z lab, calls = [.contour X Y Z, lab] ∧
      X.length = Z.shape.getD 1 0 ∧ Y.length = Z.shape.getD 0 0 ∧ Z.shape.length = 2 ∧
      (contourArgsOk X Y Z = true ↔ 2 ≤ f.mesh.nAt 0 ∧ 2 ≤ f.mesh.nAt 1) ∧
      (callsAccepted calls = true ↔ 2 ≤ f.mesh.nAt 0 ∧ 2 ≤ f.mesh.nAt 1) := by
  obtain ⟨h2, _, m, keep, lab, _, _, hl, rfl⟩ := (mplContour_eq_ok_iff f o calls).mp h
  obtain ⟨pre, _, rfl⟩ := (axisLabels_eq_ok_iff _ m lab).mp hl
  have hnd : f.mesh.ndim = 2 := h2
  have hargs := contourArgsOk_assembled f.mesh h2 m keep fun i => (f.data.get i).getD 0 0
  refine ⟨_, _, _, _, rfl, ?_, ?_, ?_, hargs, ?_⟩
  · rw [imgOf_shape, pointsAx_length _ _ _ (by omega)]; rfl
  · rw [imgOf_shape, pointsAx_length _ _ _ (by omega)]; rfl
  · rw [imgOf_shape]; rfl
  · simp only [callsAccepted, Bool.and_true]
    exact hargs

/-- **`field.mpl.contour` as a whole — including matplotlib's refusal — succeeds if and only if**
the inputs are well-formed AND the mesh has at least two cells along both axes
(`mplContourMpl`: the arguments are assembled, then `ax.contour` raises `TypeError` when `Z` is
not at least `(2, 2)`). -/
theorem contour_mpl_ok_iff (f : Fld) (o : Opts) (hinv : f.mesh.Inv)
    (hwf : ∀ g, o.filter = some g → g.mesh.n = f.mesh.n ∨ FieldWf g) :
    (∃ calls, mplContourMpl f o = .ok calls) ↔
      f.mesh.region.ndim = 2 ∧ f.nvdim = 1 ∧ MultOk f o.mult ∧
      (∀ g, o.filter = some g → g.nvdim = 1 ∧ g.mesh.region.ndim = 2) ∧
      2 ≤ f.mesh.nAt 0 ∧ 2 ≤ f.mesh.nAt 1 := by
  unfold mplContourMpl
  constructor
  · rintro ⟨calls, h⟩
    cases hc : mplContour f o with
    | error e => rw [hc] at h; cases h
    | ok cs =>
      rw [hc] at h
      simp only [] at h
      obtain ⟨a, b, c, d⟩ := (contour_ok_iff f o hinv hwf).mp ⟨cs, hc⟩
      obtain ⟨_, _, _, _, _, _, _, _, _, hacc⟩ := contour_args_ok_iff f o cs hinv hc
      by_cases hac : callsAccepted cs = true
      · exact ⟨a, b, c, d, hacc.mp hac⟩
      · rw [if_neg hac] at h; cases h
  · rintro ⟨a, b, c, d, e⟩
    obtain ⟨cs, hc⟩ := (contour_ok_iff f o hinv hwf).mpr ⟨a, b, c, d⟩
    obtain ⟨_, _, _, _, _, _, _, _, _, hacc⟩ := contour_args_ok_iff f o cs hinv hc
    rw [hc]
    simp only []
    rw [if_pos (hacc.mpr e)]
    exact ⟨cs, rfl⟩

/-- **`field.mpl.vector` succeeds if and only if** the mesh is 2-d, the multiplier is acceptable
and the label / colour arguments satisfy `VectorCond` (see the section header): refusals are
exactly a non-2-d mesh, a field without mapping and without `vdims=`, `vdims=` of the wrong
length, a label that is not a component label, both directions absent, a colour field of the
wrong dimension, and three components with nothing left over for the colour. -/
theorem vector_ok_iff (f : Fld) (o : Opts) (hinv : f.mesh.Inv)
    (hwf : ∀ g, o.aux = some g → g.mesh.n = f.mesh.n ∨ FieldWf g) :
    (∃ calls, mplVector f o = .ok calls) ↔
      f.mesh.region.ndim = 2 ∧ MultOk f o.mult ∧ VectorCond f o := by
  constructor
  · rintro ⟨calls, h⟩
    obtain ⟨h2, hne, m, hm, hcore⟩ := (mplVector_eq_ok_iff f o calls).mp h
    obtain ⟨keep, vd, ax, ay, c, lab, _, hvd, hax, hay, hnn, hcol, hl, _⟩ := (vectorCore_eq_ok_iff f o m calls).mp hcore
    obtain ⟨hlen, rfl⟩ := (vectorVdims_ok_iff f o vd).mp hvd
    refine ⟨h2, multOk_of_labels f hinv o.mult m lab hm hl, ?_, hlen, ⟨?_, ?_, ?_⟩, ?_⟩
    · intro hnone hnil
      rw [hnone, hnil] at hne
      simp at hne
    · exact (arrowIdx_ok_iff f _).mp ⟨ax, hax⟩
    · exact (arrowIdx_ok_iff f _).mp ⟨ay, hay⟩
    · rintro ⟨n0, n1⟩
      rw [(arrowIdx_isNone_iff f _ ax hax).mpr n0, (arrowIdx_isNone_iff f _ ay hay).mpr n1] at hnn
      simp at hnn
    · exact (colourOf_ok_iff f o _ hinv h2 hwf).mp ⟨c, hcol⟩
  · rintro ⟨h2, hm, hne, hlen, ⟨hx, hy, hboth⟩, hcol⟩
    obtain ⟨m, pre, hm, hp⟩ := setupMultiplier_ok f hinv o.mult hm
    have hvd := (vectorVdims_ok_iff f o _).mpr ⟨hlen, rfl⟩
    obtain ⟨ax, hax⟩ := (arrowIdx_ok_iff f _).mpr hx
    obtain ⟨ay, hay⟩ := (arrowIdx_ok_iff f _).mpr hy
    obtain ⟨C, hC⟩ := (colourOf_ok_iff f o _ hinv h2 hwf).mpr hcol
    have hnn : (ax.isNone && ay.isNone) = false := by
      cases hb : (ax.isNone && ay.isNone) with
      | false => rfl
      | true =>
        simp only [Bool.and_eq_true] at hb
        exact absurd ⟨(arrowIdx_isNone_iff f _ ax hax).mp hb.1, (arrowIdx_isNone_iff f _ ay hay).mp hb.2⟩ hboth
    have hne' : (o.vdimsArg.isNone && f.vmap.isEmpty) = false := by
      cases hv : o.vdimsArg with
      | some l => rfl
      | none => simp [hne hv]
    exact mplVector_ok_of f o h2 hne' m pre hm hp _ hvd ax ay hax hay hnn C hC

/-- **`field.mpl()` succeeds if and only if** the mesh is 2-d, the multiplier is acceptable, the
field has one, two or three components, and: the filter of `scalar_kw` is acceptable (one and
three components), the vector conditions hold (two and three components), and for three
components a label is left over for the scalar image. -/
theorem default_ok_iff (f : Fld) (o : Opts) (hinv : f.mesh.Inv)
    (hwfF : ∀ g, o.filter = some g → g.mesh.n = f.mesh.n ∨ FieldWf g)
    (hwfA : ∀ g, o.aux = some g → g.mesh.n = f.mesh.n ∨ FieldWf g) :
    (∃ calls, mplDefault f o = .ok calls) ↔
      f.mesh.region.ndim = 2 ∧ MultOk f o.mult ∧ 1 ≤ f.nvdim ∧ f.nvdim ≤ 3 ∧
      (f.nvdim ≠ 2 → ∀ g, o.filter = some g → g.nvdim = 1 ∧ g.mesh.region.ndim = 2) ∧
      (2 ≤ f.nvdim → VectorCond f o) ∧
      (f.nvdim = 3 → leftover f (inplaneVdims f) ≠ []) := by
  have hfo : ∀ g, some (filterOf f o) = some g → g.mesh.n = f.mesh.n ∨ FieldWf g := fun g hg =>
    Option.some.inj hg ▸ filterOf_elim f o (fun g => g.mesh.n = f.mesh.n ∨ FieldWf g) (Or.inl rfl) hwfF
  have hfo2 : f.mesh.region.ndim = 2 → ((∀ g, some (filterOf f o) = some g → g.nvdim = 1 ∧ g.mesh.region.ndim = 2) ↔
      ∀ g, o.filter = some g → g.nvdim = 1 ∧ g.mesh.region.ndim = 2) := fun h2 =>
    ⟨fun h => (filterOf_scalar2d_iff f o h2).mp (h _ rfl),
     fun h g hg => Option.some.inj hg ▸ (filterOf_scalar2d_iff f o h2).mpr h⟩
  constructor
  · rintro ⟨calls, h⟩
    obtain ⟨h2, m, parts, lab, hm, hparts, hl, _⟩ := (mplDefault_eq_ok_iff f o calls).mp h
    have hmult := multOk_of_labels f hinv o.mult m lab hm hl
    rcases (defaultParts_eq_ok_iff f o m parts).mp hparts with ⟨h1, hcs⟩ | ⟨hn2, hcv⟩ | ⟨h3, c, cs, cv, hthird, hcs, hcv, _⟩
    · obtain ⟨_, _, _, hflt⟩ := (scalar_ok_iff f _ hinv hfo).mp ⟨parts, hcs⟩
      exact ⟨h2, hmult, by omega, by omega, fun _ => (hfo2 h2).mp hflt, fun hc => by omega, fun hc => by omega⟩
    · obtain ⟨_, _, hvc⟩ := (vector_ok_iff f { o with mult := some m } hinv hwfA).mp ⟨parts, hcv⟩
      exact ⟨h2, hmult, by omega, by omega, fun hc => absurd hn2 hc, fun _ => hvc, fun hc => by omega⟩
    · obtain ⟨_, _, _, hflt⟩ := (scalar_ok_iff (compField f c) _ hinv hfo).mp ⟨cs, hcs⟩
      obtain ⟨_, _, hvc⟩ := (vector_ok_iff f { o with mult := some m } hinv hwfA).mp ⟨cv, hcv⟩
      exact ⟨h2, hmult, by omega, by omega, fun _ => (hfo2 h2).mp hflt, fun _ => hvc,
        fun _ => (thirdComp_ok_iff f _ o.pick).mp ⟨c, hthird⟩⟩
  · rintro ⟨h2, hm, hn1, hn3, hflt, hvec, hleft⟩
    obtain ⟨m, pre, hsm, hp⟩ := setupMultiplier_ok f hinv o.mult hm
    have hm' : MultOk f (some m) := ⟨pre, rsiPrefix_some m pre hp⟩
    refine mplDefault_ok_of f o h2 m pre hsm hp ?_
    by_cases h1 : f.nvdim = 1
    · exact Or.inl ⟨h1, (scalar_ok_iff f { o with mult := some m, filter := some (filterOf f o) } hinv hfo).mpr
        ⟨h2, by omega, hm', (hfo2 h2).mpr (hflt (by omega))⟩⟩
    obtain ⟨cv, hcv⟩ := (vector_ok_iff f { o with mult := some m } hinv hwfA).mpr ⟨h2, hm', hvec (by omega)⟩
    by_cases hn2 : f.nvdim = 2
    · exact Or.inr (Or.inl ⟨hn2, cv, hcv⟩)
    obtain ⟨c, hc⟩ := (thirdComp_ok_iff f _ o.pick).mpr (hleft (by omega))
    obtain ⟨cs, hcs⟩ := (scalar_ok_iff (compField f c) { o with mult := some m, filter := some (filterOf f o) }
      hinv hfo).mpr ⟨h2, Nat.le_refl 1, hm', (hfo2 h2).mpr (hflt (by omega))⟩
    exact Or.inr (Or.inr ⟨by omega, c, cs, cv, hc, hcs, hcv⟩)


/-- **Which component drives the arrows when several labels point to one axis: the LAST.**
`Field._r_dim_mapping` inverts `vdim_mapping` with a dict comprehension, so of several labels
mapped to the same spatial dimension the one that comes last in the mapping wins.  With no
`vdims=`: the horizontal arrow component is the component labelled `l`, where `(l, dims[0])` is
the last entry of the mapping pointing to `dims[0]` (`vmap = pre ++ (l, dims[0]) :: post`, nothing
in `post` points to `dims[0]`), `l` non-empty; when nothing points to `dims[0]`, or the last such
label is empty, the horizontal components are zeros.  Likewise vertically with `dims[1]`. -/
theorem vector_components_last_label (f : Fld) (o : Opts) (calls : List PlotCall)
    (hinv : f.mesh.Inv) (hvd : o.vdimsArg = none) (h : mplVector f o = .ok calls) :
    ∃ X Y U V C lab, calls = [.quiver X Y U V C, lab] ∧
      ∀ (a : Nat) (A : NDA (Option Rat)), (a = 0 ∧ A = U) ∨ (a = 1 ∧ A = V) →
        (∃ l k vs pre post, f.vmap = pre ++ (l, f.mesh.region.dims.getD a "") :: post ∧
            (∀ p ∈ post, p.2 ≠ f.mesh.region.dims.getD a "") ∧ l ≠ "" ∧
            f.vdims = some vs ∧ vs.getD k "" = l ∧
            ∀ r c, A.get [r, c] =
              if f.valid.get [c, r] then some ((f.data.get [c, r]).getD k 0) else none) ∨
        (((∀ p ∈ f.vmap, p.2 ≠ f.mesh.region.dims.getD a "") ∨
            ∃ pre post, f.vmap = pre ++ ("", f.mesh.region.dims.getD a "") :: post ∧
              ∀ p ∈ post, p.2 ≠ f.mesh.region.dims.getD a "") ∧
          ∀ r c, A.get [r, c] = some 0) := by
  obtain ⟨vd, ax, ay, X, Y, U, V, C, lab, hvds, hax, hay, _, _, hc, hU, hV⟩ := mplVector_inv f o calls hinv h
  obtain rfl : vd = inplaneVdims f := by rw [((vectorVdims_ok_iff f o vd).mp hvds).2, hvd]; rfl
  have side : ∀ (d : String) (ai : Option Nat) (A : NDA (Option Rat)),
      arrowIdx f (rDimLast f d) = .ok ai → ArrowOf f ai A →
      (∃ l k vs pre post, f.vmap = pre ++ (l, d) :: post ∧ (∀ p ∈ post, p.2 ≠ d) ∧ l ≠ "" ∧
          f.vdims = some vs ∧ vs.getD k "" = l ∧
          ∀ r c, A.get [r, c] =
            if f.valid.get [c, r] then some ((f.data.get [c, r]).getD k 0) else none) ∨
      (((∀ p ∈ f.vmap, p.2 ≠ d) ∨ ∃ pre post, f.vmap = pre ++ ("", d) :: post ∧ ∀ p ∈ post, p.2 ≠ d) ∧
        ∀ r c, A.get [r, c] = some 0) := by
    intro d ai A hai hA
    rcases arrowOf_label f _ ai A hai hA with ⟨l, k, vs, hs, hne, hvs, hks, hA⟩ | ⟨hno, hA⟩
    · obtain ⟨pre, post, hv, hall⟩ := Fld.rDim_last f d l hs
      exact Or.inl ⟨l, k, vs, pre, post, hv, hall, hne, hvs, hks, hA⟩
    · exact Or.inr ⟨hno.imp (Fld.rDim_none_iff f d).mp (Fld.rDim_last f d ""), hA⟩
  refine ⟨X, Y, U, V, C, lab, hc, ?_⟩
  rintro a A (⟨rfl, rfl⟩ | ⟨rfl, rfl⟩)
  · exact side _ ax _ hax hU
  · exact side _ ay _ hay hV

/-- Non-vacuity of `vector_components_last_label`: with the mapping `a ↦ x, b ↦ x, c ↦ y` the
horizontal arrows use `b` (component 1), the last label pointing to `x`, not `a`. -/
example : rDimLast { exV with vmap := [("a", "x"), ("b", "x"), ("c", "y")] } "x" = some "b" ∧
    okB (mplVector { exV with vmap := [("a", "x"), ("b", "x"), ("c", "y")] } { useColor := false }) = true ∧
    arrowIdx { exV with vmap := [("a", "x"), ("b", "x"), ("c", "y")] } (some "b") = .ok (some 1) := by
  decide +kernel

/-! ## the default plot on the heap, sessions of direct calls -/

/-- **The default plot `mpl()` with in-place writes refines the value model** (the default plot,
which `heap_plots_refine` does not cover): `scalar` of the FRESH component field `getattr(field, label)`
(three components; of the field itself for one) with the default filter built from the plotted
field in `__call__`, followed by `vector` on the heap the scalar part left behind, hands over
exactly what `mplDefault` computes from the field as a value — success or the same error. -/
theorem heap_default_refines (h : AHeap) (f : HFld) (o : HOpts) (hinv : f.mesh.Inv) (hf : f.On h)
    (hnum : ∀ i, (h.buf f.arr i).isSome) (hflt : ∀ g, o.filter = some g → g.On h)
    (haux : ∀ g, o.aux = some g → g.On h) (hlab : ∀ vs, f.vdims = some vs → vs.length ≤ f.nvdim) :
    (defaultH h f o).2 = mplDefault (f.abs h) (o.abs h) :=
  defaultH_refines h f o hinv hf hnum hflt haux hlab

/-- **Sessions of direct method calls are independent of their history** (induction over histories
of any length; the analogue of `session_calls_independent` for `field.mpl.scalar(...)`,
`.contour(...)`, `.vector(...)`, `.lightness(...)` and `field.mpl(...)`, which share no
dictionaries but share the ARRAYS of the fields they are given).  If every request of the history
is well-formed on the initial heap (`HReqOk`: field objects on the heap holding numbers), then the
`k`-th answer of the session is what the `k`-th request gets from the value model on the fields as
they were BEFORE the session, there is one answer per request, every buffer that existed before
the session is unchanged after it, and every field reads the same. -/
theorem heap_session_independent (sqrtF : Rat → Rat) (h : AHeap) (rs : List HReq)
    (ok : ∀ r ∈ rs, HReqOk h r) :
    (runHeapSession sqrtF h rs).2 = rs.map (specH sqrtF h) ∧
    (runHeapSession sqrtF h rs).2.length = rs.length ∧
    Frame h (runHeapSession sqrtF h rs).1 ∧
    ∀ g : HFld, g.On h → g.abs (runHeapSession sqrtF h rs).1 = g.abs h := by
  obtain ⟨a, b⟩ := runHeapSession_spec sqrtF h rs ok h (Frame.refl h)
  exact ⟨a, runHeapSession_length sqrtF h rs, b, fun g hg => abs_frame _ _ g b hg⟩

/-- **Two histories of direct calls, same answer**: what a request gets does not depend on which
(well-formed) direct calls were served before it on the same arrays. -/
theorem heap_session_history_irrelevant (sqrtF : Rat → Rat) (h : AHeap) (h1 h2 : List HReq) (r : HReq)
    (ok1 : ∀ q ∈ h1 ++ [r], HReqOk h q) (ok2 : ∀ q ∈ h2 ++ [r], HReqOk h q) :
    (runHeapSession sqrtF h (h1 ++ [r])).2.getLast? = (runHeapSession sqrtF h (h2 ++ [r])).2.getLast? := by
  rw [(heap_session_independent sqrtF h _ ok1).1, (heap_session_independent sqrtF h _ ok2).1,
    getLast?_map_concat, getLast?_map_concat]

/-- Non-vacuity of the heap session theorems: five direct calls of all kinds on the example vector
field and a scalar field sharing one heap (the scalar field doubling as filter and lightness field
of later calls); the requests are well-formed, every call succeeds, the heap grows, and the four
input buffers are where they were. -/
example : (∀ r ∈ exHReqs, HReqOk exHeap2 r) ∧
    (runHeapSession (fun q => q) exHeap2 exHReqs).2.map okB = [true, true, true, true, true] ∧
    4 < (runHeapSession (fun q => q) exHeap2 exHReqs).1.length := by
  refine ⟨exHReqs_ok, by decide +kernel, by decide +kernel⟩


/-! ## the property from hypotheses on the INPUTS only

The positional theorems above take the success of the call as a hypothesis; composed with the
acceptance theorems they need hypotheses on the inputs only. -/

/-- **Scalar plot, from the inputs.**  For every field with at most one component on a well-formed
2-d mesh, acceptable multiplier and filter (`MultOk`, `AuxOk`; same or another resolution), the
call succeeds and: one `imshow` with `origin="lower"` and extent `region / m`, `m` a positive SI
table entry announced by the axis labels; image of shape `(n₁, n₀)`; pixel `[j][i]` shows the value
of cell `(i, j)` exactly when the cell is valid and non-zero in the filter (NaN otherwise); and for
EVERY physical point of the region the unique pixel covering it (imshow contract) is the pixel of
the cell containing the point. -/
theorem scalar_plot_from_inputs (f : Fld) (o : Opts) (hinv : f.mesh.Inv) (h2 : f.mesh.region.ndim = 2)
    (hnv : f.nvdim ≤ 1) (hm : MultOk f o.mult) (hflt : ∀ g, o.filter = some g → AuxOk f g) :
    ∃ calls m img lab, mplScalar f o = .ok calls ∧ 0 < m ∧ setupMultiplier f o.mult = .ok m ∧
      calls = [.imshow img "lower"
        [f.mesh.region.lo 0 / m, f.mesh.region.hi 0 / m, f.mesh.region.lo 1 / m, f.mesh.region.hi 1 / m],
        lab] ∧
      EndsWithLabels f.mesh.region m calls ∧ img.shape = [f.mesh.nAt 1, f.mesh.nAt 0] ∧
      (∀ i j, i < f.mesh.nAt 0 → j < f.mesh.nAt 1 →
        img.get [j, i] = if keptBy f o.filter [i, j] then some ((f.data.get [i, j]).getD 0 0) else none) ∧
      ∀ x y, f.mesh.region.lo 0 ≤ x * m ∧ x * m ≤ f.mesh.region.hi 0 →
        f.mesh.region.lo 1 ≤ y * m ∧ y * m ≤ f.mesh.region.hi 1 →
        f.mesh.indexAx 0 (x * m) < f.mesh.nAt 0 ∧ f.mesh.indexAx 1 (y * m) < f.mesh.nAt 1 ∧
        PixelCovers (f.mesh.nAt 1) (f.mesh.nAt 0)
          [f.mesh.region.lo 0 / m, f.mesh.region.hi 0 / m, f.mesh.region.lo 1 / m, f.mesh.region.hi 1 / m]
          (f.mesh.indexAx 1 (y * m)) (f.mesh.indexAx 0 (x * m)) x y ∧
        ∀ r c, r < f.mesh.nAt 1 → c < f.mesh.nAt 0 →
          PixelCovers (f.mesh.nAt 1) (f.mesh.nAt 0)
            [f.mesh.region.lo 0 / m, f.mesh.region.hi 0 / m, f.mesh.region.lo 1 / m, f.mesh.region.hi 1 / m]
            r c x y →
          r = f.mesh.indexAx 1 (y * m) ∧ c = f.mesh.indexAx 0 (x * m) := by
  obtain ⟨calls, hc⟩ := scalar_accepts f o hinv h2 hnv hm hflt
  obtain ⟨_, _, m, keep, lab, hpos, hsm, hk, hl, rfl⟩ := mplScalar_inv f o calls hinv hc
  exact ⟨_, m, _, lab, hc, hpos, hsm, rfl, endsWithLabels_of _ m lab [_] hl, by rw [imgOf_shape]; rfl,
    fun i j hi hj => by
      rw [imgOf_get _ (mesh_n_two f.mesh hinv h2),
        filterKeep_keptBy f o h2 (fun g hg => auxGeom_of_wf f g hinv (hflt g hg).2.2) keep hk i j hi hj],
    fun x y hx hy => pixel_of_point f.mesh hinv h2 m hpos x y hx hy⟩

/-- **Vector plot, from the inputs.**  For every field on a well-formed 2-d mesh with an
acceptable multiplier whose label / colour arguments satisfy `VectorCond` (colour fields on other
cell counts being field objects), the call succeeds and: one `quiver(X, Y, U, V[, C])`; `X`, `Y`
are the cell centres divided by the positive SI multiplier `m` announced by the axis labels;
`U`, `V` have shape `(n₁, n₀)`; and the arrow of cell `(i, j)` is hidden (a NaN component) if and
only if the cell is invalid. -/
theorem vector_plot_from_inputs (f : Fld) (o : Opts) (hinv : f.mesh.Inv) (h2 : f.mesh.region.ndim = 2)
    (hm : MultOk f o.mult) (hcond : VectorCond f o)
    (hwf : ∀ g, o.aux = some g → g.mesh.n = f.mesh.n ∨ FieldWf g) :
    ∃ calls m X Y U V C lab, mplVector f o = .ok calls ∧ 0 < m ∧ setupMultiplier f o.mult = .ok m ∧
      calls = [.quiver X Y U V C, lab] ∧ EndsWithLabels f.mesh.region m calls ∧
      X.length = f.mesh.nAt 0 ∧ Y.length = f.mesh.nAt 1 ∧
      (∀ c, c < f.mesh.nAt 0 →
        X.getD c 0 = (f.mesh.region.lo 0 + ((c : Rat) + 1/2) * f.mesh.cellAt 0) / m) ∧
      (∀ r, r < f.mesh.nAt 1 →
        Y.getD r 0 = (f.mesh.region.lo 1 + ((r : Rat) + 1/2) * f.mesh.cellAt 1) / m) ∧
      U.shape = [f.mesh.nAt 1, f.mesh.nAt 0] ∧ V.shape = [f.mesh.nAt 1, f.mesh.nAt 0] ∧
      ∀ i j, ((U.get [j, i]).isNone ∨ (V.get [j, i]).isNone) ↔ f.valid.get [i, j] = false := by
  obtain ⟨calls, hc⟩ := (vector_ok_iff f o hinv hwf).mpr ⟨h2, hm, hcond⟩
  obtain ⟨_, _, m, hsm, hcore⟩ := (mplVector_eq_ok_iff f o calls).mp hc
  obtain ⟨keep, vd, ax, ay, C, lab, hk, _, _, _, hnn, _, hl, rfl⟩ := (vectorCore_eq_ok_iff f o m calls).mp hcore
  obtain ⟨keep', hk', hget⟩ := filterKeep_valid f h2
  obtain rfl := Except.ok.inj (hk'.symm.trans hk)
  have hnd : f.mesh.ndim = 2 := h2
  exact ⟨_, m, _, _, _, _, C, lab, hc, axisLabels_pos _ _ _ hl, hsm, rfl, endsWithLabels_of _ m lab [_] hl,
    pointsAx_length _ _ _ (by omega), pointsAx_length _ _ _ (by omega),
    fun c hc' => pointsAx_getD _ _ _ _ (by omega) hc', fun r hr => pointsAx_getD _ _ _ _ (by omega) hr,
    arrowArr_shape _ _ _, arrowArr_shape _ _ _,
    arrowArr_hidden f (mesh_n_two f.mesh hinv h2) keep' hget ax ay hnn⟩

/-- **Contour plot, from the inputs**, matplotlib's precondition included.  For every
one-component field on a well-formed 2-d mesh with at least 2 × 2 cells, acceptable multiplier and
filter, the call as a whole succeeds (`mplContourMpl`) with one `contour(X, Y, Z)`: `X`, `Y` the
cell centres divided by the positive multiplier, `Z[j][i]` the value of cell `(i, j)` exactly when
the cell is valid and non-zero in the filter, NaN otherwise. -/
theorem contour_plot_from_inputs (f : Fld) (o : Opts) (hinv : f.mesh.Inv) (h2 : f.mesh.region.ndim = 2)
    (hnv : f.nvdim = 1) (hm : MultOk f o.mult) (hflt : ∀ g, o.filter = some g → AuxOk f g)
    (hn0 : 2 ≤ f.mesh.nAt 0) (hn1 : 2 ≤ f.mesh.nAt 1) :
    ∃ calls m X Y Z lab, mplContourMpl f o = .ok calls ∧ 0 < m ∧ setupMultiplier f o.mult = .ok m ∧
      calls = [.contour X Y Z, lab] ∧ contourArgsOk X Y Z = true ∧
      (∀ c, c < f.mesh.nAt 0 →
        X.getD c 0 = (f.mesh.region.lo 0 + ((c : Rat) + 1/2) * f.mesh.cellAt 0) / m) ∧
      (∀ r, r < f.mesh.nAt 1 →
        Y.getD r 0 = (f.mesh.region.lo 1 + ((r : Rat) + 1/2) * f.mesh.cellAt 1) / m) ∧
      ∀ i j, i < f.mesh.nAt 0 → j < f.mesh.nAt 1 →
        Z.get [j, i] = if keptBy f o.filter [i, j] then some ((f.data.get [i, j]).getD 0 0) else none := by
  obtain ⟨calls, hc⟩ := contour_accepts f o hinv h2 hnv hm hflt
  obtain ⟨_, _, m, keep, lab, hsm, hk, hl, rfl⟩ := (mplContour_eq_ok_iff f o calls).mp hc
  have hnd : f.mesh.ndim = 2 := h2
  have hargs := (contourArgsOk_assembled f.mesh h2 m keep fun i => (f.data.get i).getD 0 0).mpr ⟨hn0, hn1⟩
  refine ⟨_, m, _, _, _, lab, ?_, axisLabels_pos _ _ _ hl, hsm, rfl, hargs,
    fun c hc' => pointsAx_getD _ _ _ _ (by omega) hc', fun r hr => pointsAx_getD _ _ _ _ (by omega) hr,
    fun i j hi hj => ?_⟩
  · obtain ⟨_, _, rfl⟩ := (axisLabels_eq_ok_iff _ m lab).mp hl
    unfold mplContourMpl
    rw [hc]
    simp only [callsAccepted, Bool.and_true, hargs, if_true]
  · rw [imgOf_get _ (mesh_n_two f.mesh hinv h2),
      filterKeep_keptBy f o h2 (fun g hg => auxGeom_of_wf f g hinv (hflt g hg).2.2) keep hk i j hi hj]

/-- Non-vacuity of the three theorems above: the example fields meet their hypotheses (the scalar
example has 2 × 3 cells, a filter on 4 × 3 cells is acceptable; the vector example satisfies
`VectorCond` with its mapping and with explicit labels). -/
example : MultOk exS none ∧ AuxOk exS exFine ∧ 2 ≤ exS.mesh.nAt 0 ∧ 2 ≤ exS.mesh.nAt 1 ∧
    okB (mplContourMpl exS { filter := some exFine }) = true ∧
    okB (mplContourMpl { exS with mesh := { exMesh with n := [1, 3] } } {}) = false ∧
    okB (mplContour { exS with mesh := { exMesh with n := [1, 3] } } {}) = true :=
  ⟨exS_multOk, exFine_auxOk, by decide +kernel, by decide +kernel, by decide +kernel, by decide +kernel,
   by decide +kernel⟩


/-! ## lightness: exact conditions and acceptance -/

/-- **`field.mpl.lightness` succeeds if and only if** the mesh is 2-d, the field has at most three
components, multiplier, filter and lightness field are acceptable, for two and three components
both plot axes have a label in the mapping and these are component labels (`AngleOk`), and for
three components without a lightness field a component label is left over for the lightness. -/
theorem lightness_ok_iff (sqrtF : Rat → Rat) (f : Fld) (o : Opts) (hinv : f.mesh.Inv)
    (hwfF : ∀ g, o.filter = some g → g.mesh.n = f.mesh.n ∨ FieldWf g)
    (hwfA : ∀ g, o.aux = some g → g.mesh.n = f.mesh.n ∨ FieldWf g) :
    (∃ calls, mplLightness sqrtF f o = .ok calls) ↔
      f.mesh.region.ndim = 2 ∧ f.nvdim ≤ 3 ∧ MultOk f o.mult ∧
      (∀ g, o.filter = some g → g.nvdim = 1 ∧ g.mesh.region.ndim = 2) ∧
      (∀ g, o.aux = some g → g.nvdim = 1 ∧ g.mesh.region.ndim = 2) ∧
      (2 ≤ f.nvdim → AngleOk f) ∧
      (f.nvdim = 3 → o.aux = none → leftover f (inplaneVdims f) ≠ []) := by
  rw [mplLightness_eq]
  by_cases h2 : f.mesh.region.ndim = 2
  swap
  · rw [if_pos h2]
    exact ⟨fun ⟨_, h⟩ => (nomatch h), fun h => absurd h.1 h2⟩
  rw [if_neg (not_not.mpr h2)]
  -- default lightness, hue and final stage succeed independently of each other
  have dflt := lightDefault_ok_iff sqrtF f o.aux.isSome o.pick
  rw [show o.aux.isSome = false ↔ o.aux = none by cases o.aux <;> simp] at dflt
  have hue := lightHue_ok_iff f
  have core := fun (hu : List Nat → Hue) (d : List Nat → Rat) =>
    (lightCore_ok_iff f o hu ⟨f.mesh.n, d⟩ (filterOf f o) hinv h2 hwfA).trans
      (and_congr_right fun _ => and_congr_right fun _ => filterKeep_ok_iff f o hinv h2 hwfF)
  cases hd : lightDefault sqrtF f o.aux.isSome o.pick with
  | error e =>
    rw [hd] at dflt
    refine ⟨fun ⟨_, h⟩ => (nomatch h), fun ⟨_, a, _, _, _, b, c⟩ => ?_⟩
    obtain ⟨_, h⟩ := dflt.mpr ⟨a, fun h3 hn => ⟨angleOk_vmap_ne f (b (by omega)), c h3 hn⟩⟩
    cases h
  | ok d =>
    rw [hd] at dflt
    obtain ⟨a, c⟩ := dflt.mp ⟨d, rfl⟩
    cases hh : lightHue f with
    | error e =>
      rw [hh] at hue
      refine ⟨fun ⟨_, h⟩ => (nomatch h), fun ⟨_, _, _, _, _, b, _⟩ => ?_⟩
      obtain ⟨_, h⟩ := hue.mpr fun hnv => b (by omega)
      cases h
    | ok hu =>
      rw [hh] at hue
      have b := hue.mp ⟨hu, rfl⟩
      simp only []
      rw [core hu d]
      exact ⟨fun ⟨m, x, k⟩ => ⟨h2, a, m, k, x, fun h => b (by omega), fun h3 hn => (c h3 hn).2⟩,
        fun ⟨_, _, m, k, x, _⟩ => ⟨m, x, k⟩⟩

/-- Non-vacuity of `lightness_ok_iff`: the example vector field satisfies `AngleOk` and has a
label left over; stripped of the label `c` in its mapping nothing changes, stripped of the mapping
to `y` it is refused. -/
example : AngleOk exV ∧ leftover exV (inplaneVdims exV) ≠ [] ∧
    okB (mplLightness (fun q => q) exV {}) = true ∧
    okB (mplLightness (fun q => q) { exV with vmap := [("b", "x")] } {}) = false :=
  ⟨⟨"b", "a", 1, 0, by decide +kernel, by decide +kernel, by decide +kernel, by decide +kernel⟩,
   by decide +kernel, by decide +kernel, by decide +kernel⟩


/-- **Lightness plot accepts** every field with at most three components on a well-formed 2-d
mesh: acceptable multiplier, filter and lightness field; for two and three components an
acceptable mapping; for three components without lightness field three pairwise different
labels (so that exactly one is left over). -/
theorem lightness_accepts (sqrtF : Rat → Rat) (f : Fld) (o : Opts) (hinv : f.mesh.Inv)
    (h2 : f.mesh.region.ndim = 2) (hnv : f.nvdim ≤ 3) (hm : MultOk f o.mult)
    (hflt : ∀ g, o.filter = some g → AuxOk f g) (haux : ∀ g, o.aux = some g → AuxOk f g)
    (hmap : 2 ≤ f.nvdim → MappingOk f)
    (hthird : f.nvdim = 3 → o.aux = none → ∃ vs, f.vdims = some vs ∧ vs.length = 3 ∧ hasDup vs = false) :
    ∃ calls, mplLightness sqrtF f o = .ok calls :=
  (lightness_ok_iff sqrtF f o hinv (fun g hg => (hflt g hg).2.2) (fun g hg => (haux g hg).2.2)).mpr
    ⟨h2, hnv, hm, fun g hg => ⟨(hflt g hg).1, (hflt g hg).2.1⟩, fun g hg => ⟨(haux g hg).1, (haux g hg).2.1⟩,
     fun h => angleOk_of_mappingOk f (hmap h), fun h3 ha => by
       obtain ⟨vs, hvs, hl, hnd⟩ := hthird h3 ha
       exact leftover_ne_nil f vs hvs hnd _ (by rw [hl]; exact Nat.lt_succ_self 2)⟩

/-! ## drawn cells, stated on the buffers -/

/-- **Drawn cells = valid AND filter, stated on the buffers** (scalar and contour, the code-shaped
heap functions with their in-place NaN writes; filter on the cell counts of the field).  Whenever
`field.mpl.scalar` / `field.mpl.contour` succeeds on the heap, entry `[j][i]` of the image / of `Z`
handed to matplotlib is the entry `[i, j, 0]` of the field's own array buffer if the validity
buffer holds `1` at `[i, j]` and — when a `filter_field` is given — the filter's array buffer is
non-zero at `[i, j, 0]`; it is NaN otherwise.  (Composition of `heap_plots_refine` with
`scalar_hides_exactly` / `contour_hides_exactly`.) -/
theorem heap_drawn_cells (h : AHeap) (f : HFld) (o : HOpts) (calls : List PlotCall)
    (hinv : f.mesh.Inv) (hf : f.On h) (hnum : ∀ i, (h.buf f.arr i).isSome) (hnv : f.nvdim = 1)
    (hflt : ∀ g, o.filter = some g → g.On h ∧ g.mesh.n = f.mesh.n) :
    ((scalarH h f o).2 = .ok calls →
      ∃ img ext lab, calls = [.imshow img "lower" ext, lab] ∧
        ∀ i j, i < f.mesh.nAt 0 → j < f.mesh.nAt 1 →
          img.get [j, i] =
            if f.validAt h [i, j] = true ∧ ∀ g, o.filter = some g → (h.buf g.arr [i, j, 0]).getD 0 ≠ 0
            then h.buf f.arr [i, j, 0] else none) ∧
    ((contourH h f o).2 = .ok calls →
      ∃ X Y Z lab, calls = [.contour X Y Z, lab] ∧
        ∀ i j, i < f.mesh.nAt 0 → j < f.mesh.nAt 1 →
          Z.get [j, i] =
            if f.validAt h [i, j] = true ∧ ∀ g, o.filter = some g → (h.buf g.arr [i, j, 0]).getD 0 ≠ 0
            then h.buf f.arr [i, j, 0] else none) := by
  have hgeo : ∀ g, (o.abs h).filter = some g → AuxGeom (f.abs h) g := by
    intro g hg
    cases ho : o.filter with
    | none => simp [HOpts.abs, ho] at hg
    | some g' =>
      simp only [HOpts.abs, ho, Option.map_some, Option.some.injEq] at hg
      subst hg
      exact Or.inl (hflt g' ho).2
  -- the kept cells and the value drawn, on the buffers
  have kept : ∀ keep, filterKeep (f.abs h) (filterOf (f.abs h) (o.abs h)) = .ok keep → ∀ i j,
      (keptBy (f.abs h) (o.abs h).filter [i, j] = true ↔
        f.validAt h [i, j] = true ∧ ∀ g, o.filter = some g → (h.buf g.arr [i, j, 0]).getD 0 ≠ 0) := by
    intro keep hk i j
    unfold keptBy
    show (f.validAt h [i, j] && _) = true ↔ _
    cases ho : o.filter with
    | none => simp [HOpts.abs, ho]
    | some g =>
      rw [show filterOf (f.abs h) (o.abs h) = g.abs h by unfold filterOf HOpts.abs; rw [ho]; rfl] at hk
      obtain ⟨g1, _, _⟩ := filterKeep_ok_inv (f.abs h) (g.abs h) keep hk
      have e : auxAt (f.abs h) (g.abs h) [i, j] = (h.buf g.arr [i, j, 0]).getD 0 := by
        unfold auxAt
        rw [if_pos (show (g.abs h).mesh.n = (f.abs h).mesh.n from (hflt g ho).2),
          abs_data h g 0 (Nat.lt_of_lt_of_le Nat.one_pos (Nat.le_of_eq g1.symm)) [i, j]]
        rfl
      simp [HOpts.abs, ho, e]
  have hval : ∀ i j, some (((f.abs h).data.get [i, j]).getD 0 0) = h.buf f.arr [i, j, 0] := fun i j => by
    rw [abs_data h f 0 (by omega) [i, j]]
    exact some_getD_of_isSome _ (hnum [i, j, 0])
  constructor
  · intro hc
    rw [scalarH_refines h f o hinv hf hnum (fun g hg => (hflt g hg).1) (Nat.le_of_eq hnv.symm)] at hc
    obtain ⟨_, _, _, keep, _, _, _, hk, _⟩ := mplScalar_inv _ _ calls hinv hc
    obtain ⟨img, ext, lab, hcalls, hpix⟩ := scalar_hides_exactly (f.abs h) (o.abs h) calls hinv hgeo hc
    refine ⟨img, ext, lab, hcalls, fun i j hi hj => ?_⟩
    rw [hpix i j hi hj, hval]
    exact if_congr (kept keep hk i j) rfl rfl
  · intro hc
    rw [contourH_refines h f o hinv hf hnum (fun g hg => (hflt g hg).1)] at hc
    obtain ⟨_, _, m, keep, _, _, hk, _, _⟩ := (mplContour_eq_ok_iff _ _ calls).mp hc
    obtain ⟨X, Y, Z, lab, hcalls, hpix⟩ := contour_hides_exactly (f.abs h) (o.abs h) calls hinv hgeo hc
    refine ⟨X, Y, Z, lab, hcalls, fun i j hi hj => ?_⟩
    rw [hpix i j hi hj, hval]
    exact if_congr (kept keep hk i j) rfl rfl

/-- Non-vacuity of `heap_drawn_cells`: the scalar example on the two-field heap with ITSELF as
filter (its value 0 hides a valid cell). -/
example : exHS2.On exHeap2 ∧ exHS2.nvdim = 1 ∧
    okB (scalarH exHeap2 exHS2 { filter := some exHS2 }).2 = true ∧
    okB (contourH exHeap2 exHS2 { filter := some exHS2 }).2 = true := by
  refine ⟨⟨by decide, by decide⟩, rfl, by decide +kernel, by decide +kernel⟩


/-! ## non-vacuity on a non-trivial input

`Lemmas/C20Examples.lean`: a 30 nm × 40 ns region with dimensions `a`, `t` and units `m`, `s`, 3 × 4 cells,
periodic along `a`, with a subregion; a scalar field with two holes in its validity, a
2-component field with a swapped mapping and one hole, a filter on 6 × 2 cells. -/

/-- The hypotheses of `scalar_plot_from_inputs`, `contour_plot_from_inputs`, `scalar_ok_iff`,
`vector_plot_from_inputs` / `vector_ok_iff`, `lightness_ok_iff` and `default_multiplier_iff` hold
on the nanometre example; its default multiplier is `1000^-3`, the labels read `a (nm)` and
`t (ns)`, the filter on 6 × 2 cells hides the valid cell `(0, 0)` and keeps `(1, 0)`, the hole
`(0, 1)` is hidden, and the horizontal arrows of the vector field use component `q` (number 1),
the one mapped to `a`. -/
example : exNmS.mesh.Inv ∧ exNmS.mesh.region.ndim = 2 ∧ MultOk exNmS none ∧ AuxOk exNmS exNmFlt ∧
    FieldWf exNmFlt ∧ 2 ≤ exNmS.mesh.nAt 0 ∧ 2 ≤ exNmS.mesh.nAt 1 ∧
    setupMultiplier exNmS none = .ok (p1000 (-3)) ∧
    (match axisLabels exNmRegion (p1000 (-3)) with
      | .ok (.labels xl yl) => xl == "a (nm)" && yl == "t (ns)"
      | _ => false) = true ∧
    keptBy exNmS (some exNmFlt) [0, 0] = false ∧ keptBy exNmS (some exNmFlt) [1, 0] = true ∧
    keptBy exNmS (some exNmFlt) [0, 1] = false ∧ exNmS.valid.get [0, 0] = true ∧
    VectorCond exNmV {} ∧ AngleOk exNmV ∧ inplaneVdims exNmV = [some "q", some "p"] ∧
    arrowIdx exNmV (some "q") = .ok (some 1) ∧
    okB (mplScalar exNmS { filter := some exNmFlt }) = true ∧
    okB (mplContourMpl exNmS { filter := some exNmFlt }) = true ∧
    okB (mplVector exNmV {}) = true ∧ okB (mplLightness (fun q => q) exNmV {}) = true ∧
    okB (mplDefault exNmV { useColor := false }) = true := by
  have hflt : exNmFlt.mesh.Inv := C01.mesh_inv_of_invB _ (by decide +kernel)
  have hmult : MultOk exNmS none := by
    show ∀ a, a < exNmS.mesh.region.ndim → _
    decide +kernel
  have haux : AuxOk exNmS exNmFlt := ⟨rfl, rfl, Or.inr ⟨hflt, by decide +kernel⟩⟩
  have hauxs : ∀ g, some exNmFlt = some g → AuxOk exNmS g := fun g hg => Option.some.inj hg ▸ haux
  have harr : ArrowsExact exNmV (inplaneVdims exNmV) := by
    refine ⟨?_, ?_, ?_⟩
    · exact Or.inr ⟨"q", ["p", "q"], by decide +kernel, by decide, rfl, by decide⟩
    · exact Or.inr ⟨"p", ["p", "q"], by decide +kernel, by decide, rfl, by decide⟩
    · rintro ⟨h, _⟩
      rcases h with h | h
      · exact absurd h (by decide +kernel)
      · exact absurd h (by decide +kernel)
  have hvc : ∀ uc : Bool, VectorCond exNmV { useColor := uc } := fun uc =>
    ⟨fun _ => by decide, fun l hl => (nomatch hl), harr, Or.inr (Or.inr ⟨rfl, Or.inl (by decide)⟩)⟩
  have hang : AngleOk exNmV :=
    ⟨"q", "p", 1, 0, by decide +kernel, by decide +kernel, by decide +kernel, by decide +kernel⟩
  -- the calls succeed because the inputs meet the conditions of the equivalences
  obtain ⟨cc, _, _, _, _, _, hcc, _⟩ := contour_plot_from_inputs exNmS { filter := some exNmFlt } exNmMesh_inv
    rfl rfl hmult hauxs (by decide +kernel) (by decide +kernel)
  exact ⟨exNmMesh_inv, rfl, hmult, haux, ⟨hflt, by decide +kernel⟩,
    by decide +kernel, by decide +kernel, by decide +kernel, by decide +kernel, by decide +kernel,
    by decide +kernel, by decide +kernel, by decide +kernel, hvc true, hang, by decide +kernel, by decide +kernel,
    okB_of_ok _ (scalar_accepts exNmS _ exNmMesh_inv rfl (Nat.le_refl 1) hmult hauxs),
    okB_of_ok _ ⟨cc, hcc⟩,
    okB_of_ok _ ((vector_ok_iff exNmV {} exNmMesh_inv (fun _ hg => (nomatch hg))).mpr ⟨rfl, hmult, hvc true⟩),
    okB_of_ok _ ((lightness_ok_iff _ exNmV {} exNmMesh_inv (fun _ hg => (nomatch hg)) (fun _ hg => (nomatch hg))).mpr
      ⟨rfl, by decide, hmult, fun _ hg => (nomatch hg), fun _ hg => (nomatch hg), fun _ => hang,
       fun h3 => absurd h3 (by decide)⟩),
    okB_of_ok _ ((default_ok_iff exNmV { useColor := false } exNmMesh_inv (fun _ hg => (nomatch hg)) (fun _ hg => (nomatch hg))).mpr
      ⟨rfl, hmult, by decide, by decide, fun _ _ hg => (nomatch hg), fun _ => hvc false,
       fun h3 => absurd h3 (by decide)⟩)⟩


/-! ## from the inputs: lightness and default plot -/

/-- **Lightness plot, from the inputs.**  Under the exact input conditions of `lightness_ok_iff`
the call succeeds and everything `lightness_any_nvdim` says holds: one `imshow` with
`origin="lower"`, extent `region / m` for the positive SI multiplier `m` announced by the labels,
shape `(n₁, n₀)`, pixel `[j][i]` opaque exactly when cell `(i, j)` is valid and non-zero in the
filter, and the pixel covering any physical point is the pixel of the cell containing it. -/
theorem lightness_plot_from_inputs (sqrtF : Rat → Rat) (f : Fld) (o : Opts) (hinv : f.mesh.Inv)
    (hwfF : ∀ g, o.filter = some g → g.mesh.n = f.mesh.n ∨ FieldWf g)
    (hwfA : ∀ g, o.aux = some g → g.mesh.n = f.mesh.n ∨ FieldWf g)
    (h2 : f.mesh.region.ndim = 2) (hnv : f.nvdim ≤ 3) (hm : MultOk f o.mult)
    (hflt : ∀ g, o.filter = some g → g.nvdim = 1 ∧ g.mesh.region.ndim = 2)
    (haux : ∀ g, o.aux = some g → g.nvdim = 1 ∧ g.mesh.region.ndim = 2)
    (hang : 2 ≤ f.nvdim → AngleOk f)
    (hleft : f.nvdim = 3 → o.aux = none → leftover f (inplaneVdims f) ≠ []) :
    ∃ calls m img lab, mplLightness sqrtF f o = .ok calls ∧ 0 < m ∧ setupMultiplier f o.mult = .ok m ∧
      calls = [.imshowHL img "lower"
        [f.mesh.region.lo 0 / m, f.mesh.region.hi 0 / m, f.mesh.region.lo 1 / m, f.mesh.region.hi 1 / m],
        lab] ∧
      EndsWithLabels f.mesh.region m calls ∧ img.shape = [f.mesh.nAt 1, f.mesh.nAt 0] ∧
      (∀ i j, i < f.mesh.nAt 0 → j < f.mesh.nAt 1 →
        (img.get [j, i]).isSome = keptBy f o.filter [i, j]) ∧
      ∀ x y, f.mesh.region.lo 0 ≤ x * m ∧ x * m ≤ f.mesh.region.hi 0 →
        f.mesh.region.lo 1 ≤ y * m ∧ y * m ≤ f.mesh.region.hi 1 →
        PixelCovers (f.mesh.nAt 1) (f.mesh.nAt 0)
          [f.mesh.region.lo 0 / m, f.mesh.region.hi 0 / m, f.mesh.region.lo 1 / m, f.mesh.region.hi 1 / m]
          (f.mesh.indexAx 1 (y * m)) (f.mesh.indexAx 0 (x * m)) x y ∧
        (∀ r c, r < f.mesh.nAt 1 → c < f.mesh.nAt 0 →
          PixelCovers (f.mesh.nAt 1) (f.mesh.nAt 0)
            [f.mesh.region.lo 0 / m, f.mesh.region.hi 0 / m, f.mesh.region.lo 1 / m, f.mesh.region.hi 1 / m]
            r c x y →
          r = f.mesh.indexAx 1 (y * m) ∧ c = f.mesh.indexAx 0 (x * m)) := by
  obtain ⟨calls, hc⟩ := (lightness_ok_iff sqrtF f o hinv hwfF hwfA).mpr ⟨h2, hnv, hm, hflt, haux, hang, hleft⟩
  obtain ⟨m, img, lab, a, b, c, d, e, g, k⟩ := lightness_any_nvdim sqrtF f o calls hinv
    (fun g hg => auxGeom_of_wf f g hinv (hwfF g hg)) hc
  exact ⟨calls, m, img, lab, hc, a, b, c, d, e, g, k⟩

/-- **Default plot, from the inputs.**  Under the exact input conditions of `default_ok_iff`
`field.mpl()` succeeds and everything `default_plot_object` says holds: one multiplier for
everything drawn, the labels announcing it, the scalar image of the field (one component) or of
the component not mapped to a plot axis (three), hidden exactly in the invalid-or-filtered cells,
followed by the vector plot (two and three components). -/
theorem default_plot_from_inputs (f : Fld) (o : Opts) (hinv : f.mesh.Inv)
    (hwfF : ∀ g, o.filter = some g → g.mesh.n = f.mesh.n ∨ FieldWf g)
    (hwfA : ∀ g, o.aux = some g → g.mesh.n = f.mesh.n ∨ FieldWf g)
    (h2 : f.mesh.region.ndim = 2) (hm : MultOk f o.mult) (hn1 : 1 ≤ f.nvdim) (hn3 : f.nvdim ≤ 3)
    (hflt : f.nvdim ≠ 2 → ∀ g, o.filter = some g → g.nvdim = 1 ∧ g.mesh.region.ndim = 2)
    (hvec : 2 ≤ f.nvdim → VectorCond f o)
    (hleft : f.nvdim = 3 → leftover f (inplaneVdims f) ≠ []) :
    ∃ calls m lab, mplDefault f o = .ok calls ∧ 0 < m ∧ setupMultiplier f o.mult = .ok m ∧
      EndsWithLabels f.mesh.region m calls ∧ axisLabels f.mesh.region m = .ok lab ∧
      ((f.nvdim = 1 ∧ ∃ img lab', calls = [.imshow img "lower"
            [f.mesh.region.lo 0 / m, f.mesh.region.hi 0 / m, f.mesh.region.lo 1 / m, f.mesh.region.hi 1 / m],
            lab', lab] ∧ img.shape = [f.mesh.nAt 1, f.mesh.nAt 0] ∧
          ∀ i j, i < f.mesh.nAt 0 → j < f.mesh.nAt 1 →
            img.get [j, i] = if keptBy f o.filter [i, j] then some ((f.data.get [i, j]).getD 0 0) else none) ∨
       (f.nvdim = 2 ∧ ∃ cv, mplVector f { o with mult := some m } = .ok cv ∧ calls = cv ++ [lab]) ∨
       (f.nvdim = 3 ∧ ∃ c img lab' cv, thirdComp f (inplaneVdims f) o.pick = .ok c ∧
          mplVector f { o with mult := some m } = .ok cv ∧
          calls = [.imshow img "lower"
            [f.mesh.region.lo 0 / m, f.mesh.region.hi 0 / m, f.mesh.region.lo 1 / m, f.mesh.region.hi 1 / m],
            lab'] ++ cv ++ [lab] ∧ img.shape = [f.mesh.nAt 1, f.mesh.nAt 0] ∧
          ∀ i j, i < f.mesh.nAt 0 → j < f.mesh.nAt 1 →
            img.get [j, i] = if keptBy f o.filter [i, j] then some ((f.data.get [i, j]).getD c 0) else none)) := by
  obtain ⟨calls, hc⟩ := (default_ok_iff f o hinv hwfF hwfA).mpr ⟨h2, hm, hn1, hn3, hflt, hvec, hleft⟩
  obtain ⟨m, lab, a, b, c, d, e⟩ := default_plot_object f o calls hinv
    (fun g hg => auxGeom_of_wf f g hinv (hwfF g hg)) hc
  exact ⟨calls, m, lab, hc, a, b, c, d, e⟩

end DFV.C20
