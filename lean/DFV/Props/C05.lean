import DFV.Lemmas.C05ExamplesObj
/-!
# C05 — grad, div, curl and Laplacian are the textbook combinations of the derivatives

Property theorems about the model `DFV/Model/C05.lean` of `Field.grad / div / curl /
laplace` (composed from C04's `Field.diff` exactly as `field.py` does).  Mesh dimension,
cell counts, cell sizes, dims names, component labels, the component-to-axis mapping,
periodic directions, data and (where it matters) validity masks are universally quantified.
Sections 1–5, 6a and 9 are about the four operators themselves, sections 6 (two stencil facts of C04 restated), 7, 8, 10 and 11 about
their commutation with `Field.rotate90`.
-/
namespace DFV.C05
open DFV DFV.C04

/-! ## 1. The four operators are the textbook combinations of the directional derivatives

`D f ax order c i` is the value at cell `i` of the `order`-th derivative along axis `ax` of
stored component `c` (C04's `Field.diff`).  The theorems relate the code-shaped compositions
(`getattr`, `_r_dim_mapping`, `diff`, `-`, `<<`, `sum` with its reflected `0 + f`, every
intermediate field built through the constructor) to index-level formulas, for every mesh
dimension, every dims naming, every labels, every mapping. -/

/-- **Gradient.**  If `grad` accepts the field then the field is scalar, the result has one
component per mesh axis — in the order of `region.dims`, whatever the axes are called — and
component `a` at every cell is the first derivative along axis `a`; mesh and validity are
the operand's. -/
theorem grad_eq (f g : Fld) (hd : DimsOk f) (h : grad f = .ok g) :
    f.nvdim = 1 ∧ g.nvdim = f.mesh.ndim ∧ g.mesh = f.mesh ∧ (∀ i, g.valid.get i = f.valid.get i) ∧
    ∀ i a, a < f.mesh.ndim → (g.data.get i).getD a 0 = D f a 1 0 i := by
  obtain ⟨hn1, ds, hds, hst⟩ := grad_inv h
  have ov := grad_over h
  obtain ⟨l, e⟩ := mapE_getD hds
  have hk : ∀ k (hk : k < ds.length), ds[k].nvdim = 1 ∧ ∀ i, (ds[k].data.get i).getD 0 0 = D f k 1 0 i := by
    intro k hk
    obtain ⟨d1, d2⟩ := diffDim_val hd (by rw [← hd.1]; omega) (e k hk)
    exact ⟨d1.trans hn1, fun i => d2 i 0 (by omega)⟩
  obtain ⟨s1, s2⟩ := stack_val (List.forall_mem_iff_forall_getElem.mpr fun k hk' => (hk k hk').1) hst
  refine ⟨hn1, by rw [s1, l, hd.1], ov.mesh, ov.valid, fun i a ha => ?_⟩
  have ha' : a < ds.length := by rw [l, hd.1]; exact ha
  rw [s2 i a ha', (hk a ha').2 i]

/-- **Divergence.**  If `div` accepts the field then `nvdim = ndim`, and whenever stored
component `c` is mapped (by `vdim_mapping`, through its label — whatever the label's
spelling and wherever the component is stored) onto axis `σ c`, the value at every cell is
`Σ_c ∂(component c)/∂(axis σ c)`. -/
theorem div_eq (f g : Fld) (vs : List String) (σ : Nat → Nat) (hdims : DimsOk f)
    (hv : f.vdims = some vs) (hvl : vs.length = f.nvdim) (hvd : hasDup vs = false)
    (hσ : ∀ c, c < f.nvdim → σ c < f.mesh.ndim ∧
      Fld.lookup f.vmap (vs.getD c "") = some (f.mesh.region.dims.getD (σ c) ""))
    (h : div f = .ok g) :
    f.nvdim = f.mesh.ndim ∧ g.nvdim = 1 ∧ g.mesh = f.mesh ∧ (∀ i, g.valid.get i = f.valid.get i) ∧
    ∀ i, (g.data.get i).getD 0 0 = sumTo f.nvdim fun c => D f (σ c) 1 c i := by
  obtain ⟨hn, vs', ts, hv', _, hts, hsum⟩ := div_inv h
  rw [hv] at hv'; injection hv' with hv'; subst hv'
  have ov := div_over h
  obtain ⟨l, e⟩ := mapE_getD hts
  have ht : ∀ k (hk : k < ts.length), ts[k].nvdim = 1 ∧ ∀ i, (ts[k].data.get i).getD 0 0 = D f (σ k) 1 k i :=
    fun k hk => divTerm_ok hv hvd hdims (by omega) (hσ k (by omega)).1 (hσ k (by omega)).2 (e k hk)
  obtain ⟨s1, s2⟩ := sumF_val (List.forall_mem_iff_forall_getElem.mpr fun k hk' => (ht k hk').1) hsum
  exact ⟨hn, s1, ov.mesh, ov.valid, fun i => by rw [← hvl, ← l]; exact s2 i _ (fun k hk' => (ht k hk').2 i)⟩

/-- **Curl.**  If `curl` accepts the field then it is a 3-component field on a 3-d mesh,
and with `ρ d` the storage position of the component that the reversed mapping pairs with
axis `d`, the result (components in AXIS order) is the textbook curl. -/
theorem curl_eq (f g : Fld) (vs : List String) (ρ : Nat → Nat) (hdims : DimsOk f)
    (hv : f.vdims = some vs) (hvl : vs.length = f.nvdim) (hvd : hasDup vs = false)
    (hρ : ∀ d, d < 3 → ρ d < 3 ∧
      rDimLast f (f.mesh.region.dims.getD d "") = some (vs.getD (ρ d) ""))
    (h : curl f = .ok g) :
    f.nvdim = 3 ∧ f.mesh.ndim = 3 ∧ g.nvdim = 3 ∧ g.mesh = f.mesh ∧ (∀ i, g.valid.get i = f.valid.get i) ∧
    ∀ i, (g.data.get i).getD 0 0 = D f 1 1 (ρ 2) i - D f 2 1 (ρ 1) i ∧
         (g.data.get i).getD 1 0 = D f 2 1 (ρ 0) i - D f 0 1 (ρ 2) i ∧
         (g.data.get i).getD 2 0 = D f 0 1 (ρ 1) i - D f 1 1 (ρ 0) i := by
  obtain ⟨hn3, hd3, vs', x, y, z, cx, cy, cz, cxy, hv', _, hxyz, hcx, hcy, hcz, hcxy, hg⟩ := curl_inv h
  have ov := curl_over h
  obtain ⟨g0, g1, g2⟩ := getD3 hxyz
  subst g0 g1 g2
  have hl : ∀ d, d < 3 → ρ d < vs.length := fun d hd => by rw [hvl, hn3]; exact (hρ d hd).1
  obtain ⟨x1, x4⟩ := curlComp_ok hv hvd hdims (by omega) (by omega) (hl 2 (by omega)) (hl 1 (by omega))
    (hρ 2 (by omega)).2 (hρ 1 (by omega)).2 hcx
  obtain ⟨y1, y4⟩ := curlComp_ok hv hvd hdims (by omega) (by omega) (hl 0 (by omega)) (hl 2 (by omega))
    (hρ 0 (by omega)).2 (hρ 2 (by omega)).2 hcy
  obtain ⟨z1, z4⟩ := curlComp_ok hv hvd hdims (by omega) (by omega) (hl 1 (by omega)) (hl 0 (by omega))
    (hρ 1 (by omega)).2 (hρ 0 (by omega)).2 hcz
  have hg3 : g.nvdim = 3 := curl_nvdim h
  have hc : ∀ i, cellv g i = [(cx.data.get i).getD 0 0, (cy.data.get i).getD 0 0, (cz.data.get i).getD 0 0] := by
    intro i
    rw [cellv_lshift hg i, cellv_lshift hcxy i]
    simp [cellv, x1, y1, z1, tab]
  refine ⟨hn3, hd3, hg3, ov.mesh, ov.valid, fun i => ?_⟩
  rw [← cellv_getD g i 0 (by omega), ← cellv_getD g i 1 (by omega), ← cellv_getD g i 2 (by omega), hc i]
  exact ⟨x4 i, y4 i, z4 i⟩

/-- **Laplacian, scalar field**: `Σ_axes ∂²f/∂axis²` at every cell. -/
theorem laplace_eq_scalar (f g : Fld) (hdims : DimsOk f) (hn1 : f.nvdim = 1) (h : laplace f = .ok g) :
    g.nvdim = 1 ∧ g.mesh = f.mesh ∧ (∀ i, g.valid.get i = f.valid.get i) ∧
    ∀ i, (g.data.get i).getD 0 0 = sumTo f.mesh.ndim fun a => D f a 2 0 i := by
  obtain ⟨ts, hts, hsum⟩ := laplace_scalar_inv hn1 h
  have ov := laplace_over h
  obtain ⟨a, d⟩ := lapSum_ok hdims hn1 hts hsum
  exact ⟨a, ov.mesh, ov.valid, d⟩

/-- **Laplacian, vector field**: component `c` of the result is the Laplacian of stored
component `c` (no pairing with axes is involved in the values). -/
theorem laplace_eq_vector (f g : Fld) (vs : List String) (hdims : DimsOk f) (hn : f.nvdim ≠ 1)
    (hv : f.vdims = some vs) (hvl : vs.length = f.nvdim) (hvd : hasDup vs = false)
    (h : laplace f = .ok g) :
    g.nvdim = f.nvdim ∧ g.mesh = f.mesh ∧ (∀ i, g.valid.get i = f.valid.get i) ∧
    ∀ i c, c < f.nvdim → (g.data.get i).getD c 0 = sumTo f.mesh.ndim fun a => D f a 2 c i := by
  obtain ⟨vs', ds, r, r', hv', hds, hst, hsv, hsm⟩ := laplace_vector_inv hn h
  rw [hv] at hv'; injection hv' with hv'; subst hv'
  have ov := laplace_over h
  obtain ⟨l, e⟩ := mapE_getD hds
  have hk : ∀ k (hk : k < ds.length), ds[k].nvdim = 1 ∧
      ∀ i, (ds[k].data.get i).getD 0 0 = sumTo f.mesh.ndim fun a => D f a 2 k i :=
    fun k hk => lapComp_ok hv hvd hdims (by omega) (e k hk)
  obtain ⟨s1, s2⟩ := stack_val (List.forall_mem_iff_forall_getElem.mpr fun k hk' => (hk k hk').1) hst
  obtain ⟨_, a2, a3, _⟩ := setVdims_ok hsv
  obtain ⟨_, b2, b3, _⟩ := setVmap_ok hsm
  refine ⟨by rw [b2, a2, s1, l, hvl], ov.mesh, ov.valid, fun i c hc => ?_⟩
  have hc' : c < ds.length := by rw [l, hvl]; exact hc
  rw [b3, a3, s2 i c hc', (hk c hc').2 i]

/-- **The reversed mapping inverts the mapping.**  For a one-to-one `vdim_mapping`, the
component that `_r_dim_mapping` pairs with axis `d` (the `ρ` of `curl_eq`) is exactly the
component whose label `vdim_mapping` sends to `d` (the `σ` of `div_eq`). -/
theorem rdim_inverts_mapping (f : Fld) (l d : String)
    (hinj : ∀ p ∈ f.vmap, ∀ q ∈ f.vmap, p.2 = q.2 → p = q)
    (h : Fld.lookup f.vmap l = some d) : rDimLast f d = some l :=
  rDimLast_of_lookup f l d hinj h


/-! ## 2. Refusals, and their converses -/

/-- **Gradient is refused** for every field that is not scalar. -/
theorem grad_refusal (f : Fld) (h : f.nvdim ≠ 1) : grad f = .error .value := by
  unfold grad; simp [h]

/-- **Divergence is accepted only** when `nvdim = ndim` and every component label is mapped,
by `vdim_mapping`, onto a name that IS an axis of the mesh — otherwise it is refused. -/
theorem div_accepts_only (f g : Fld) (h : div f = .ok g) :
    f.nvdim = f.mesh.ndim ∧ ∃ vs, f.vdims = some vs ∧
      ∀ v ∈ vs, ∃ d, Fld.lookup f.vmap v = some d ∧ d ∈ f.mesh.region.dims := by
  obtain ⟨hn, vs, ts, hvs, hm, _, _⟩ := div_inv h
  exact ⟨hn, vs, hvs, allMapped_spec hm⟩

/-- **Curl is accepted only** for three components on a three-dimensional mesh, every
label mapped onto an axis and every axis paired (by the reversed mapping) with a component. -/
theorem curl_accepts_only (f g : Fld) (h : curl f = .ok g) :
    f.nvdim = 3 ∧ f.mesh.ndim = 3 ∧ ∃ vs, f.vdims = some vs ∧
      (∀ v ∈ vs, ∃ d, Fld.lookup f.vmap v = some d ∧ d ∈ f.mesh.region.dims) ∧
      ∀ d ∈ f.mesh.region.dims, ∃ l k, rDimLast f d = some l ∧ f.vdimIndex l = some k := by
  obtain ⟨hn, hnd, vs, x, y, z, cx, cy, cz, cxy, hvs, hm, hxyz, hcx, hcy, _, _, _⟩ := curl_inv h
  refine ⟨hn, hnd, vs, hvs, allMapped_spec hm, ?_⟩
  -- a successful `compOfDim` exhibits the paired component
  have key : ∀ d c, compOfDim f d = .ok c → ∃ l k, rDimLast f d = some l ∧ f.vdimIndex l = some k := by
    intro d c hc
    obtain ⟨l, k, hl, hk, _⟩ := compOfDim_inv hc
    exact ⟨l, k, hl, hk⟩
  obtain ⟨_, _, _, _, hz, _, hy, _, _⟩ := curlComp_inv hcx
  obtain ⟨_, _, _, _, hx, _⟩ := curlComp_inv hcy
  intro d hd
  rw [hxyz] at hd
  simp only [List.mem_cons, List.not_mem_nil, or_false] at hd
  rcases hd with rfl | rfl | rfl
  · exact key _ _ hx
  · exact key _ _ hy
  · exact key _ _ hz

/-- **Gradient accepts** every plain scalar field on a well-formed mesh (the converse of the
refusal): together with `grad_refusal`, `grad` is refused exactly for non-scalar fields. -/
theorem grad_accepts (f : Fld) (hp : Plain f) (hdims : DimsOk f) (hpos : 1 ≤ f.mesh.ndim) :
    ∃ g, grad f = .ok g := by
  obtain ⟨ds, hds⟩ := mapE_succeeds (fun d => diffDim f d 1) f.mesh.region.dims
    (fun d hd => diffDim_succeeds f d 1 (Or.inl rfl) hdims hd)
  obtain ⟨l, _⟩ := mapE_ok _ _ _ hds
  obtain ⟨g, hg⟩ := stack_over_succeeds (f := f) ds (by intro he; subst he; rw [hdims.1] at l; simp at l; omega)
    (mapE_all _ Plain (fun _ _ hy => diffDim_plain hp hy) _ _ hds)
    (mapE_all _ (Over f) (fun _ _ hy => diffDim_over hy) _ _ hds)
  exact ⟨g, grad_ok_of hp.1 hds hg⟩

/-- **Divergence accepts** every field with `nvdim = ndim` whose components are all mapped
onto axes of the mesh (any labels, any dims names, any assignment `σ` — bijective or not). -/
theorem div_accepts (f : Fld) (vs : List String) (σ : Nat → Nat) (hdims : DimsOk f)
    (hn : f.nvdim = f.mesh.ndim) (hpos : 1 ≤ f.nvdim)
    (hv : f.vdims = some vs) (hvl : vs.length = f.nvdim) (hvd : hasDup vs = false)
    (hσ : ∀ c, c < f.nvdim → σ c < f.mesh.ndim ∧
      Fld.lookup f.vmap (vs.getD c "") = some (f.mesh.region.dims.getD (σ c) "")) :
    ∃ g, div f = .ok g := by
  obtain ⟨ts, hts⟩ := mapE_succeeds (divTerm f) vs (fun v hvm => by
    obtain ⟨c, hc, rfl⟩ := exists_getD_of_mem vs v "" hvm
    exact divTerm_succeeds f vs hv hvd hdims c (σ c) hc (hσ c (by omega)).1 (hσ c (by omega)).2)
  obtain ⟨l, _⟩ := mapE_ok _ _ _ hts
  obtain ⟨g, hg⟩ := sumF_over_succeeds (f := f) ts (by intro he; subst he; simp at l; omega)
    (mapE_all _ Plain (fun _ _ hy => divTerm_plain hy) _ _ hts) (mapE_all _ (Over f) (fun _ _ hy => divTerm_over hy) _ _ hts)
  exact ⟨g, div_ok_of hn hv (allMapped_of f vs σ hdims (fun c hc => hσ c (by omega))) hts hg⟩

/-- **Curl accepts** every 3-component field on a 3-d mesh whose labels are all mapped onto
axes and whose every axis is paired with a component (`ρ`). -/
theorem curl_accepts (f : Fld) (vs : List String) (σ ρ : Nat → Nat) (hdims : DimsOk f)
    (hn : f.nvdim = 3) (hnd : f.mesh.ndim = 3)
    (hv : f.vdims = some vs) (hvl : vs.length = f.nvdim) (hvd : hasDup vs = false)
    (hσ : ∀ c, c < 3 → σ c < 3 ∧ Fld.lookup f.vmap (vs.getD c "") = some (f.mesh.region.dims.getD (σ c) ""))
    (hρ : ∀ d, d < 3 → ρ d < 3 ∧ rDimLast f (f.mesh.region.dims.getD d "") = some (vs.getD (ρ d) "")) :
    ∃ g, curl f = .ok g := by
  obtain ⟨x, y, z, hxyz, _, _, _⟩ := dims3 f hdims hnd
  obtain ⟨g0, g1, g2⟩ := getD3 hxyz
  have hl : ∀ d, d < 3 → ρ d < vs.length := fun d hd => by rw [hvl, hn]; exact (hρ d hd).1
  obtain ⟨cx, hcx⟩ := curlComp_succeeds f vs hv hvd hdims 2 1 1 2 (ρ 2) (ρ 1) (by omega) (by omega)
    (hl 2 (by omega)) (hl 1 (by omega)) (hρ 2 (by omega)).2 (hρ 1 (by omega)).2
  obtain ⟨cy, hcy⟩ := curlComp_succeeds f vs hv hvd hdims 0 2 2 0 (ρ 0) (ρ 2) (by omega) (by omega)
    (hl 0 (by omega)) (hl 2 (by omega)) (hρ 0 (by omega)).2 (hρ 2 (by omega)).2
  obtain ⟨cz, hcz⟩ := curlComp_succeeds f vs hv hvd hdims 1 0 0 1 (ρ 1) (ρ 0) (by omega) (by omega)
    (hl 1 (by omega)) (hl 0 (by omega)) (hρ 1 (by omega)).2 (hρ 0 (by omega)).2
  simp only [g0, g1, g2] at hcx hcy hcz
  have px := curlComp_plain hcx
  have py := curlComp_plain hcy
  have mx := (curlComp_over hcx).mesh
  obtain ⟨cxy, hcxy, _, a2⟩ := lshift_plain_succeeds cx cy py (by rw [mx, (curlComp_over hcy).mesh]) (by rw [px.2.2, px.1]; simp) (by rw [px.1])
  obtain ⟨m1, _, m2, _⟩ := lshift_ok hcxy
  obtain ⟨g, hg, _⟩ := lshift_plain_succeeds cxy cz (curlComp_plain hcz) (by rw [m1, mx, (curlComp_over hcz).mesh])
    (by rw [a2, m2, px.1, py.1]; exact posVmap_length _ _) (by rw [m2, px.1]; omega)
  exact ⟨g, curl_ok_of hn hnd hv (allMapped_of f vs σ hdims (fun c hc => by have := hσ c (by omega); exact ⟨by omega, this.2⟩))
    hxyz hcx hcy hcz hcxy hg⟩

/-- **Laplacian accepts** every plain scalar field and every vector field with well-formed
labels whose mapping is empty or has exactly the labels as keys (what the `vdim_mapping`
setter guarantees), on every well-formed mesh (no pairing with axes is needed). -/
theorem laplace_accepts (f : Fld) (hdims : DimsOk f) (hpos : 1 ≤ f.mesh.ndim)
    (hf : Plain f ∨ (1 < f.nvdim ∧ ∃ vs, f.vdims = some vs ∧ vs.length = f.nvdim ∧ hasDup vs = false ∧
      (f.vmap = [] ∨ (f.vmap.map (·.1)).isPerm vs = true))) :
    ∃ g, laplace f = .ok g := by
  rcases hf with hp | ⟨hn, vs, hv, hvl, hvd, hkeys⟩
  · obtain ⟨ts, g, hts, hg⟩ := lapSum_succeeds f hp hdims hpos
    exact ⟨g, laplace_scalar_ok_of hp.1 hts hg⟩
  · obtain ⟨ds, hds⟩ := mapE_succeeds (lapComp f) vs (fun v hvm => by
      obtain ⟨c, hc, rfl⟩ := exists_getD_of_mem vs v "" hvm
      exact lapComp_succeeds f vs hv hvd hdims hpos c hc)
    obtain ⟨l, _⟩ := mapE_ok _ _ _ hds
    have hpl : ∀ d ∈ ds, Plain d := mapE_all _ Plain (fun _ _ hy => lapComp_plain hy) _ _ hds
    have hov : ∀ d ∈ ds, Over f d := mapE_all _ (Over f) (fun _ _ hy => lapComp_over hy) _ _ hds
    obtain ⟨r, hr⟩ := stack_over_succeeds (f := f) ds (by intro he; subst he; simp at l; omega) hpl hov
    obtain ⟨m1, m2⟩ := stack_meta (by omega) hpl hr
    have hrn : r.nvdim = f.nvdim := by rw [(stack_val (fun d hd => (hpl d hd).1) hr).1, l, hvl]
    obtain ⟨r', g, e1, e2⟩ := lapTail_succeeds r vs f.vmap (by omega)
      (by rw [(stack_over hov hr).mesh]; exact hdims.1) m1 m2 (by rw [hrn]; exact hvl) hvd hkeys
    exact ⟨g, laplace_vector_ok_of (by omega) hv hds hr e1 e2⟩

/-- **Divergence is refused for every mismatch**: a component count different from the number of mesh
axes, no labels, a label without a mapping entry, or a label mapped onto a name that is no axis of the mesh. -/
theorem div_refusal (f : Fld)
    (h : f.nvdim ≠ f.mesh.ndim ∨ f.vdims = none ∨
      ∃ vs v, f.vdims = some vs ∧ v ∈ vs ∧ ∀ d, Fld.lookup f.vmap v = some d → d ∉ f.mesh.region.dims) :
    ∃ e, div f = .error e := by
  cases hd : div f with
  | error e => exact ⟨e, rfl⟩
  | ok g =>
    exfalso
    obtain ⟨h1, vs, h2, h3⟩ := div_accepts_only f g hd
    rcases h with h | h | ⟨vs', v, hv', hm, hno⟩
    · exact h h1
    · rw [h] at h2; cases h2
    · rw [hv'] at h2; injection h2 with h2; subst h2
      obtain ⟨d, hl, hdm⟩ := h3 v hm
      exact hno d hl hdm

/-- **Curl is refused for every mismatch**: a component count or a mesh dimension other than three, no
labels, a label not mapped onto an axis, or an axis that no component is mapped onto. -/
theorem curl_refusal (f : Fld)
    (h : f.nvdim ≠ 3 ∨ f.mesh.ndim ≠ 3 ∨ f.vdims = none ∨
      (∃ vs v, f.vdims = some vs ∧ v ∈ vs ∧ ∀ d, Fld.lookup f.vmap v = some d → d ∉ f.mesh.region.dims) ∨
      ∃ d, d ∈ f.mesh.region.dims ∧ rDimLast f d = none) :
    ∃ e, curl f = .error e := by
  cases hd : curl f with
  | error e => exact ⟨e, rfl⟩
  | ok g =>
    exfalso
    obtain ⟨h1, h1', vs, h2, h3, h4⟩ := curl_accepts_only f g hd
    rcases h with h | h | h | ⟨vs', v, hv', hm, hno⟩ | ⟨d, hdm, hno⟩
    · exact h h1
    · exact h h1'
    · rw [h] at h2; cases h2
    · rw [hv'] at h2; injection h2 with h2; subst h2
      obtain ⟨d, hl, hdm⟩ := h3 v hm
      exact hno d hl hdm
    · obtain ⟨l, k, hl, _⟩ := h4 d hdm
      rw [hno] at hl; cases hl

/-- **Divergence is accepted exactly when the dimensions fit and every component is mapped onto an axis**
(fields with well-formed labels on a mesh with well-formed axis names): the refusals of `div_refusal`
are the only ones. -/
theorem div_accepted_iff (f : Fld) (vs : List String) (hdims : DimsOk f) (hpos : 1 ≤ f.nvdim)
    (hv : f.vdims = some vs) (hvl : vs.length = f.nvdim) (hvd : hasDup vs = false) :
    (∃ g, div f = .ok g) ↔
      f.nvdim = f.mesh.ndim ∧ ∀ v ∈ vs, ∃ d, Fld.lookup f.vmap v = some d ∧ d ∈ f.mesh.region.dims := by
  constructor
  · rintro ⟨g, hg⟩
    obtain ⟨h1, vs', h2, h3⟩ := div_accepts_only f g hg
    rw [hv] at h2; injection h2 with h2; subst h2
    exact ⟨h1, h3⟩
  · rintro ⟨h1, h3⟩
    have hex : ∀ c, ∃ a, c < f.nvdim → a < f.mesh.ndim ∧
        Fld.lookup f.vmap (vs.getD c "") = some (f.mesh.region.dims.getD a "") := by
      intro c
      by_cases hc : c < f.nvdim
      · obtain ⟨d, hl, hdm⟩ := h3 _ (getD_mem vs c "" (by omega))
        obtain ⟨a, ha, rfl⟩ := exists_getD_of_mem f.mesh.region.dims d "" hdm
        exact ⟨a, fun _ => ⟨by rw [← hdims.1]; exact ha, hl⟩⟩
      · exact ⟨0, fun h => absurd h hc⟩
    exact div_accepts f vs (fun c => Classical.choose (hex c)) hdims h1 hpos hv hvl hvd
      (fun c hc => Classical.choose_spec (hex c) hc)

/-! ## 3. Mapping maintenance when labels change; what the results carry -/

/-- **Relabelling keeps the pairing.**  Assigning new component labels to a field that has a
mapping transports the mapping position by position: the new label of component `k` is
mapped to what the old label of component `k` was mapped to.  Nothing else changes. -/
theorem setVdims_keeps_map (f g : Fld) (old new : List String) (hold : f.vdims = some old)
    (hlen : old.length = f.nvdim) (hmap : 0 < f.vmap.length) (hne : new ≠ [])
    (h : setVdims f (some new) = .ok g) :
    g.vdims = some new ∧ new.length = f.nvdim ∧ g.mesh = f.mesh ∧ g.data = f.data ∧ g.valid = f.valid ∧
    g.nvdim = f.nvdim ∧
    ∀ k, k < f.nvdim → Fld.lookup g.vmap (new.getD k "") = Fld.lookup f.vmap (old.getD k "") := by
  obtain ⟨r2, r3, mp, hmp, rfl⟩ := setVdims_inv hold hmap hne h
  exact ⟨rfl, r2, rfl, rfl, rfl, rfl, fun k hk => transportMap_lookup f.vmap new old mp r3 (by omega) hmp k (by omega)⟩

/-- **Label spelling is irrelevant**: relabelling the components (the mapping is carried
along by `setVdims_keeps_map`) leaves the divergence unchanged at every cell. -/
theorem div_relabel (f f' g g' : Fld) (old new : List String) (σ : Nat → Nat) (hdims : DimsOk f)
    (hold : f.vdims = some old) (hlen : old.length = f.nvdim) (hod : hasDup old = false)
    (hmap : 0 < f.vmap.length) (hne : new ≠ [])
    (hσ : ∀ c, c < f.nvdim → σ c < f.mesh.ndim ∧
      Fld.lookup f.vmap (old.getD c "") = some (f.mesh.region.dims.getD (σ c) ""))
    (hset : setVdims f (some new) = .ok f') (h : div f = .ok g) (h' : div f' = .ok g') :
    ∀ i, (g'.data.get i).getD 0 0 = (g.data.get i).getD 0 0 := by
  obtain ⟨s1, s2, s3, s4, s5, s6, s7⟩ := setVdims_keeps_map f f' old new hold hlen hmap hne hset
  have hnd : hasDup new = false := (setVdims_inv hold hmap hne hset).2.1
  have hdims' : DimsOk f' := by unfold DimsOk; rw [s3]; exact hdims
  have hσ' := sigma_relabel s3 s6 s7 hσ
  obtain ⟨_, _, _, _, e⟩ := div_eq f g old σ hdims hold hlen hod hσ h
  obtain ⟨_, _, _, _, e'⟩ := div_eq f' g' new σ hdims' s1 (by rw [s2, s6]) hnd hσ' h'
  intro i
  rw [e i, e' i, s6]
  apply sumTo_congr
  intro c _
  exact D_congr_comp f f' (σ c) 1 c c i s3 (fun j => by rw [s5]) (fun j => by rw [s4])

/-- **The vector Laplacian keeps the operand's labels and mapping.**  By `laplace_eq_vector`
component `c` of the result is the Laplacian of STORED component `c`; the result carries the
operand's labels and its component-to-axis mapping, so the component of the result paired
with axis `d` is the Laplacian of the component of the operand paired with `d` — for every
mapping, positional or not (finding D55).  The hypothesis `hvl` is not used: the callers pass the list of `laplace_eq_vector` along. -/
theorem laplace_keeps_meta (f g : Fld) (vs : List String) (hn : f.nvdim ≠ 1)
    (hv : f.vdims = some vs) (hvl : vs.length = f.nvdim) (h : laplace f = .ok g) :
    g.vdims = f.vdims ∧ g.vmap = f.vmap ∧
    (∀ d, rDimLast g d = rDimLast f d) ∧ (∀ l, g.vdimIndex l = f.vdimIndex l) := by
  obtain ⟨vs', ds, r, r', hv', hds, hst, hsv, hsm⟩ := laplace_vector_inv hn h
  rw [hv] at hv'; injection hv' with hv'; subst hv'
  obtain ⟨l, _⟩ := mapE_ok _ _ _ hds
  have hne : vs ≠ [] := fun he => stack_ne_nil hst (List.length_eq_zero_iff.mp (by rw [l, he]; rfl))
  obtain ⟨_, _, _, _, t5, t6⟩ := lapTail_ok hne hsv hsm
  refine ⟨by rw [t5, hv], t6, ?_, ?_⟩
  · intro d; unfold rDimLast; rw [t6]
  · intro l'; rw [Fld.vdimIndex_of_some t5, Fld.vdimIndex_of_some hv]

/-- **Label spelling is irrelevant for the curl**: relabelling the components of a field whose mapping
pairs the three components one-to-one with the three axes (`σ` with inverse `ρ`) leaves the curl
unchanged, component by component at every cell. -/
theorem curl_relabel (f f' g g' : Fld) (old new : List String) (σ ρ : Nat → Nat) (hdims : DimsOk f)
    (hold : f.vdims = some old) (hlen : old.length = f.nvdim) (hod : hasDup old = false)
    (hne : new ≠ []) (hone : OneToOne f.vmap)
    (hσ : ∀ c, c < f.nvdim → σ c < f.mesh.ndim ∧
      Fld.lookup f.vmap (old.getD c "") = some (f.mesh.region.dims.getD (σ c) ""))
    (hinv : ∀ d, d < 3 → ρ d < 3 ∧ σ (ρ d) = d)
    (hset : setVdims f (some new) = .ok f') (h : curl f = .ok g) (h' : curl f' = .ok g') :
    ∀ i c, c < 3 → (g'.data.get i).getD c 0 = (g.data.get i).getD c 0 := by
  obtain ⟨hn3, hnd3, _⟩ := curl_accepts_only f g h
  have hmap : 0 < f.vmap.length := vmap_pos (hσ 0 (by omega)).2
  obtain ⟨s1, s2, s3, s4, s5, s6, s7⟩ := setVdims_keeps_map f f' old new hold hlen hmap hne hset
  obtain ⟨_, hnd, mp, hmp, e⟩ := setVdims_inv hold hmap hne hset
  have hdims' : DimsOk f' := by unfold DimsOk; rw [s3]; exact hdims
  -- the transported mapping is one-to-one
  have hone' : OneToOne f'.vmap := by
    rw [e]
    exact transportMap_oneToOne f.vmap new old mp hone hod hmp
  have hρ := rho_of_sigma hone hn3 hσ hinv
  have hρ' := rho_of_sigma hone' (s6.trans hn3) (sigma_relabel s3 s6 s7 hσ) hinv
  obtain ⟨_, _, _, _, _, e⟩ := curl_eq f g old ρ hdims hold hlen hod hρ h
  obtain ⟨_, _, _, _, _, e'⟩ := curl_eq f' g' new ρ hdims' s1 (by rw [s2, s6]) hnd hρ' h'
  have hD : ∀ ax c i, D f' ax 1 c i = D f ax 1 c i := by
    intro ax c i
    exact D_congr_comp f f' ax 1 c c i s3 (fun j => by rw [s5]) (fun j => by rw [s4])
  intro i c hc
  exact curl_comps_congr (e := fun x y => D f' x 1 (ρ y) i) (e' := fun x y => D f x 1 (ρ y) i) (e' i) (e i)
    (fun x y _ _ => hD x _ i) c hc

/-! ## 4. Exactness on polynomials of degree ≤ 2: at every valid cell whose runs of valid cells have at least three cells
(any mask), hence at every cell of a fully valid open mesh with n ≥ 3 per axis -/

/-- LINE-LEVEL EXACTNESS WITH A MASK: at a valid cell whose own run of valid cells along an open axis
has at least three cells, if the values ON THAT RUN are a quadratic in the offset from cell `i`,
the first and second derivative at `i` are `p1` and `p2` — whatever lies outside the run -/
theorem D_exact_line_masked (f : Fld) (ax c : Nat) (i : List Nat) (p0 p1 p2 : Rat)
    (hper : periodic f ax = false) (hh : f.mesh.cellAt ax ≠ 0) (hi : i.getD ax 0 < f.mesh.nAt ax)
    (hv : f.valid.line ax i (i.getD ax 0) = true)
    (hlen : 3 ≤ runBefore (fun j => f.valid.line ax i j) (i.getD ax 0)
        + runFrom (fun j => f.valid.line ax i j) (f.mesh.nAt ax) (i.getD ax 0))
    (hT : ∀ j, i.getD ax 0 - runBefore (fun j => f.valid.line ax i j) (i.getD ax 0) ≤ j →
        j < i.getD ax 0 + runFrom (fun j => f.valid.line ax i j) (f.mesh.nAt ax) (i.getD ax 0) →
        (f.data.line ax i j).getD c 0
        = p0 + p1 * (((j : Rat) - (i.getD ax 0 : Nat)) * f.mesh.cellAt ax)
          + p2 / 2 * (((j : Rat) - (i.getD ax 0 : Nat)) * f.mesh.cellAt ax) ^ 2) :
    D f ax 1 c i = p1 ∧ D f ax 2 c i = p2 := by
  have hb := runBefore_le (fun j => f.valid.line ax i j) (i.getD ax 0)
  have hpos := runFrom_pos (fun j => f.valid.line ax i j) _ _ hi hv
  generalize hrb : runBefore (fun j => f.valid.line ax i j) (i.getD ax 0) = rb at *
  generalize hrf : runFrom (fun j => f.valid.line ax i j) (f.mesh.nAt ax) (i.getD ax 0) = rf at *
  have hs : ∀ k, k < rb + rf → (f.data.line ax i (i.getD ax 0 - rb + k)).getD c 0
      = p0 + p1 * (-(rb : Rat) * f.mesh.cellAt ax + (k : Rat) * f.mesh.cellAt ax)
        + p2 / 2 * (-(rb : Rat) * f.mesh.cellAt ax + (k : Rat) * f.mesh.cellAt ax) ^ 2 := fun k hk => by
    rw [hT (i.getD ax 0 - rb + k) (by omega) (by omega),
      show ((i.getD ax 0 - rb + k : Nat) : Rat) - ((i.getD ax 0 : Nat) : Rat) = -(rb : Rat) + (k : Rat) by
        push_cast [Nat.cast_sub hb]; ring]
    ring
  have key : ∀ o, D f ax o c i = dAt o (f.mesh.cellAt ax) (rb + rf)
      (fun k => (f.data.line ax i (i.getD ax 0 - rb + k)).getD c 0) rb := fun o => by
    rw [D_eq_spec f ax o c i hper hi, diffSpec, if_pos hv, hrb, hrf]
  constructor
  · rw [key 1, dAt_one_exact _ hh _ _ _ hlen (by omega) p0 p1 (p2 / 2) _ hs]
    ring
  · rw [key 2]
    by_cases h4 : 4 ≤ rb + rf
    · rw [dAt_two_exact _ hh _ _ _ h4 (by omega) p0 p1 (p2 / 2) 0 (-(rb : Rat) * f.mesh.cellAt ax)
        fun k hk => by rw [hs k hk]; ring]
      ring
    · rw [dAt_two_exact_three _ hh _ _ _ (by omega) (by omega) p0 p1 (p2 / 2) _ fun k hk => hs k (by omega)]
      ring

/-- FIELD-LEVEL EXACTNESS of `diff` WITH A MASK: a component that samples a function which is
quadratic along axis `ax` is differentiated exactly (first and second derivative) at every valid
cell whose own run of valid cells along `ax` has at least three cells — any mask otherwise. -/
theorem D_exact_masked (f : Fld) (ax c : Nat) (i : List Nat) (P P1 P2 : (Nat → Rat) → Rat)
    (hs : SampledFrom f c P) (hq : QuadAlong P ax P1 P2)
    (hper : periodic f ax = false) (hh : f.mesh.cellAt ax ≠ 0)
    (hax : ax < i.length) (hi : i.getD ax 0 < f.mesh.nAt ax)
    (hv : f.valid.line ax i (i.getD ax 0) = true)
    (hlen : 3 ≤ runBefore (fun j => f.valid.line ax i j) (i.getD ax 0)
        + runFrom (fun j => f.valid.line ax i j) (f.mesh.nAt ax) (i.getD ax 0)) :
    D f ax 1 c i = P1 (coords f i) ∧ D f ax 2 c i = P2 (coords f i) := by
  apply D_exact_line_masked f ax c i (P (coords f i)) (P1 (coords f i)) (P2 (coords f i)) hper hh hi hv hlen
  intro j _ _
  unfold NDA.line
  rw [hs (setAt i ax j), coords_setAt f i ax j hax, hq]

/-- LINE-LEVEL EXACTNESS: if along the line through `i` the values are a quadratic in the
offset from cell `i` (`p0 + p1·s + p2/2·s²`, `s` = distance along the axis), the first and
second derivative at `i` are `p1` and `p2` — at the first cell, in the interior, at the last
cell of a fully valid open line of at least 3 cells -/
theorem D_exact_line (f : Fld) (ax c : Nat) (i : List Nat) (p0 p1 p2 : Rat)
    (hper : periodic f ax = false) (hn : 3 ≤ f.mesh.nAt ax) (hh : f.mesh.cellAt ax ≠ 0)
    (hi : i.getD ax 0 < f.mesh.nAt ax)
    (hv : ∀ j, j < f.mesh.nAt ax → f.valid.line ax i j = true)
    (hT : ∀ j, j < f.mesh.nAt ax → (f.data.line ax i j).getD c 0
        = p0 + p1 * (((j : Rat) - (i.getD ax 0 : Nat)) * f.mesh.cellAt ax)
          + p2 / 2 * (((j : Rat) - (i.getD ax 0 : Nat)) * f.mesh.cellAt ax) ^ 2) :
    D f ax 1 c i = p1 ∧ D f ax 2 c i = p2 := by
  have hr := runs_of_all_valid (fun j => f.valid.line ax i j) _ _ hi hv
  have hle := runFrom_le (fun j => f.valid.line ax i j) (f.mesh.nAt ax) (i.getD ax 0)
  exact D_exact_line_masked f ax c i p0 p1 p2 hper hh hi (hv _ hi) (by rw [hr]; exact hn) (fun j _ hj => hT j (by omega))

/-- FIELD-LEVEL EXACTNESS of `diff`: a component that samples a function which is quadratic
along axis `ax` is differentiated exactly (first and second derivative) at every cell of a
fully valid open mesh with at least three cells along `ax`. -/
theorem D_exact (f : Fld) (ax c : Nat) (i : List Nat) (P P1 P2 : (Nat → Rat) → Rat)
    (hs : SampledFrom f c P) (hq : QuadAlong P ax P1 P2) (hval : FullyValid f)
    (hper : periodic f ax = false) (hn : 3 ≤ f.mesh.nAt ax) (hh : f.mesh.cellAt ax ≠ 0)
    (hax : ax < i.length) (hi : i.getD ax 0 < f.mesh.nAt ax) :
    D f ax 1 c i = P1 (coords f i) ∧ D f ax 2 c i = P2 (coords f i) := by
  have hv : ∀ j, j < f.mesh.nAt ax → f.valid.line ax i j = true := fun j _ => hval _
  exact D_exact_masked f ax c i P P1 P2 hs hq hper hh hax hi (hv _ hi)
    (by rw [runs_of_all_valid (fun j => f.valid.line ax i j) _ _ hi hv]; exact hn)

/-- every polynomial of total degree ≤ 2 is quadratic along every axis, with the textbook
partial derivatives -/
theorem quadP_quadAlong (n : Nat) (c0 : Rat) (b : Nat → Rat) (q : Nat → Nat → Rat) (ax : Nat) (hax : ax < n) :
    QuadAlong (quadP n c0 b q) ax (quadP1 n b q ax) (fun _ => 2 * q ax ax) := by
  intro x s
  rw [upd_add]
  unfold quadP quadP1
  -- the quadratic part: shift the inner vector (`inner`), then the outer one, and sort the terms (`outer`)
  have inner : ∀ a, sumTo n (fun a' => q a a' * (x a + s * (if a = ax then (1 : Rat) else 0))
        * (x a' + s * (if a' = ax then (1 : Rat) else 0)))
      = (sumTo n (fun a' => q a a' * x a') + s * q a ax) * (x a + s * (if a = ax then (1 : Rat) else 0)) := by
    intro a
    rw [← sumTo_shift n ax hax (fun a' => q a a') x s, mul_comm (sumTo n _), ← sumTo_mul_left]
    exact sumTo_congr n _ _ fun a' _ => by ring
  have outer : ∀ a, (sumTo n (fun a' => q a a' * x a') + s * q a ax) * x a
      = sumTo n (fun a' => q a a' * x a * x a') + s * (q a ax * x a) := by
    intro a
    rw [add_mul, mul_comm (sumTo n _), ← sumTo_mul_left]
    congr 1
    · exact sumTo_congr n _ _ fun a' _ => by ring
    · ring
  rw [sumTo_shift n ax hax b x s, sumTo_congr n _ _ fun a _ => inner a,
    sumTo_shift n ax hax (fun a => sumTo n (fun a' => q a a' * x a') + s * q a ax) x s,
    sumTo_congr n _ _ fun a _ => outer a, sumTo_add, sumTo_mul_left,
    sumTo_congr n (fun a => (q ax a + q a ax) * x a) (fun a => q ax a * x a + q a ax * x a) fun a _ => by ring, sumTo_add]
  ring

/-! ### the four operators: with ANY mask at a cell with long enough runs, then on fully valid meshes -/

/-- **Gradient is exact at every cell with long enough runs** of a field with ANY mask: at a valid
cell whose runs along all axes have at least three cells, component `a` of `grad` is `∂P/∂x_a` -/
theorem grad_exact_quadratic_masked (f g : Fld) (P : (Nat → Rat) → Rat) (P1 P2 : Nat → (Nat → Rat) → Rat)
    (hdims : DimsOk f) (hs : SampledFrom f 0 P) (hq : ∀ a, a < f.mesh.ndim → QuadAlong P a (P1 a) (P2 a))
    (h : grad f = .ok g) (i : List Nat) (hi : InMesh f i) (hm : ExactAt f i) :
    ∀ a, a < f.mesh.ndim → (g.data.get i).getD a 0 = P1 a (coords f i) := by
  obtain ⟨_, _, _, _, g5⟩ := grad_eq f g hdims h
  intro a ha
  obtain ⟨hp, hh, hv, hl⟩ := hm a ha
  rw [g5 i a ha]
  exact (D_exact_masked f a 0 i P (P1 a) (P2 a) hs (hq a ha) hp hh (by rw [hi.1]; exact ha) (hi.2 a ha) hv hl).1

/-- **Divergence is exact at every cell with long enough runs**, any mask -/
theorem div_exact_quadratic_masked (f g : Fld) (vs : List String) (σ : Nat → Nat)
    (P : Nat → (Nat → Rat) → Rat) (P1 P2 : Nat → (Nat → Rat) → Rat)
    (hdims : DimsOk f) (hv : f.vdims = some vs) (hvl : vs.length = f.nvdim) (hvd : hasDup vs = false)
    (hσ : ∀ c, c < f.nvdim → σ c < f.mesh.ndim ∧
      Fld.lookup f.vmap (vs.getD c "") = some (f.mesh.region.dims.getD (σ c) ""))
    (hs : ∀ c, c < f.nvdim → SampledFrom f c (P c) ∧ QuadAlong (P c) (σ c) (P1 c) (P2 c))
    (h : div f = .ok g) (i : List Nat) (hi : InMesh f i) (hm : ExactAt f i) :
    (g.data.get i).getD 0 0 = sumTo f.nvdim fun c => P1 c (coords f i) := by
  obtain ⟨_, _, _, _, g5⟩ := div_eq f g vs σ hdims hv hvl hvd hσ h
  rw [g5 i]
  apply sumTo_congr
  intro c hc
  obtain ⟨hp, hh, hv', hl⟩ := hm (σ c) (hσ c hc).1
  exact (D_exact_masked f (σ c) c i (P c) (P1 c) (P2 c) (hs c hc).1 (hs c hc).2 hp hh
    (by rw [hi.1]; exact (hσ c hc).1) (hi.2 _ (hσ c hc).1) hv' hl).1

/-- **Curl is exact at every cell with long enough runs**, any mask -/
theorem curl_exact_quadratic_masked (f g : Fld) (vs : List String) (ρ : Nat → Nat)
    (P : Nat → (Nat → Rat) → Rat) (P1 P2 : Nat → Nat → (Nat → Rat) → Rat)
    (hdims : DimsOk f) (hv : f.vdims = some vs) (hvl : vs.length = f.nvdim) (hvd : hasDup vs = false)
    (hρ : ∀ d, d < 3 → ρ d < 3 ∧ rDimLast f (f.mesh.region.dims.getD d "") = some (vs.getD (ρ d) ""))
    (hs : ∀ c, c < 3 → SampledFrom f c (P c) ∧ ∀ a, a < 3 → QuadAlong (P c) a (P1 c a) (P2 c a))
    (h : curl f = .ok g) (i : List Nat) (hi : InMesh f i) (hm : ExactAt f i) :
      (g.data.get i).getD 0 0 = P1 (ρ 2) 1 (coords f i) - P1 (ρ 1) 2 (coords f i) ∧
      (g.data.get i).getD 1 0 = P1 (ρ 0) 2 (coords f i) - P1 (ρ 2) 0 (coords f i) ∧
      (g.data.get i).getD 2 0 = P1 (ρ 1) 0 (coords f i) - P1 (ρ 0) 1 (coords f i) := by
  obtain ⟨_, hnd, _, _, _, g6⟩ := curl_eq f g vs ρ hdims hv hvl hvd hρ h
  have ex : ∀ c a, c < 3 → a < 3 → D f a 1 c i = P1 c a (coords f i) := by
    intro c a hc ha
    obtain ⟨hp, hh, hv', hl⟩ := hm a (by omega)
    exact (D_exact_masked f a c i (P c) (P1 c a) (P2 c a) (hs c hc).1 ((hs c hc).2 a ha) hp hh
      (by rw [hi.1]; omega) (hi.2 a (by omega)) hv' hl).1
  obtain ⟨e0, e1, e2⟩ := g6 i
  have r0 := (hρ 0 (by omega)).1
  have r1 := (hρ 1 (by omega)).1
  have r2 := (hρ 2 (by omega)).1
  rw [e0, e1, e2, ex _ 1 r2 (by omega), ex _ 2 r1 (by omega), ex _ 2 r0 (by omega), ex _ 0 r2 (by omega),
    ex _ 0 r1 (by omega), ex _ 1 r0 (by omega)]
  exact ⟨rfl, rfl, rfl⟩

/-- **Laplacian is exact at every cell with long enough runs** (scalar field), any mask -/
theorem laplace_exact_quadratic_masked (f g : Fld) (P : (Nat → Rat) → Rat) (P1 P2 : Nat → (Nat → Rat) → Rat)
    (hdims : DimsOk f) (hn1 : f.nvdim = 1) (hs : SampledFrom f 0 P)
    (hq : ∀ a, a < f.mesh.ndim → QuadAlong P a (P1 a) (P2 a)) (h : laplace f = .ok g)
    (i : List Nat) (hi : InMesh f i) (hm : ExactAt f i) :
    (g.data.get i).getD 0 0 = sumTo f.mesh.ndim fun a => P2 a (coords f i) := by
  obtain ⟨_, _, _, g5⟩ := laplace_eq_scalar f g hdims hn1 h
  rw [g5 i]
  apply sumTo_congr
  intro a ha
  obtain ⟨hp, hh, hv, hl⟩ := hm a ha
  exact (D_exact_masked f a 0 i P (P1 a) (P2 a) hs (hq a ha) hp hh (by rw [hi.1]; exact ha) (hi.2 a ha) hv hl).2

/-- **Laplacian is exact at every cell with long enough runs** (vector field), any mask -/
theorem laplace_exact_quadratic_vector_masked (f g : Fld) (vs : List String)
    (P : Nat → (Nat → Rat) → Rat) (P1 P2 : Nat → Nat → (Nat → Rat) → Rat)
    (hdims : DimsOk f) (hn : f.nvdim ≠ 1) (hv : f.vdims = some vs) (hvl : vs.length = f.nvdim)
    (hvd : hasDup vs = false)
    (hs : ∀ c, c < f.nvdim → SampledFrom f c (P c) ∧ ∀ a, a < f.mesh.ndim → QuadAlong (P c) a (P1 c a) (P2 c a))
    (h : laplace f = .ok g) (i : List Nat) (hi : InMesh f i) (hm : ExactAt f i) :
    ∀ c, c < f.nvdim → (g.data.get i).getD c 0 = sumTo f.mesh.ndim fun a => P2 c a (coords f i) := by
  obtain ⟨_, _, _, g5⟩ := laplace_eq_vector f g vs hdims hn hv hvl hvd h
  intro c hc
  rw [g5 i c hc]
  apply sumTo_congr
  intro a ha
  obtain ⟨hp, hh, hv', hl⟩ := hm a ha
  exact (D_exact_masked f a c i (P c) (P1 c a) (P2 c a) (hs c hc).1 ((hs c hc).2 a ha) hp hh
    (by rw [hi.1]; exact ha) (hi.2 a ha) hv' hl).2

/-- **Gradient is exact** on fields that are polynomials of degree ≤ 2 along every axis (in
particular on every polynomial of total degree ≤ 2, `quadP_quadAlong`): component `a` of
the result is the analytic partial derivative `∂P/∂x_a` at every cell centre. -/
theorem grad_exact_quadratic (f g : Fld) (P : (Nat → Rat) → Rat) (P1 P2 : Nat → (Nat → Rat) → Rat)
    (hdims : DimsOk f) (hs : SampledFrom f 0 P)
    (hq : ∀ a, a < f.mesh.ndim → QuadAlong P a (P1 a) (P2 a)) (hm : ExactMesh f) (h : grad f = .ok g) :
    ∀ i, InMesh f i → ∀ a, a < f.mesh.ndim → (g.data.get i).getD a 0 = P1 a (coords f i) :=
  fun i hi => grad_exact_quadratic_masked f g P P1 P2 hdims hs hq h i hi (exactAt_of_exactMesh hm hi)

/-- **Divergence is exact**: with stored component `c` sampling `P c` and mapped onto axis
`σ c`, the result is `Σ_c ∂(P c)/∂x_{σ c}` at every cell centre. -/
theorem div_exact_quadratic (f g : Fld) (vs : List String) (σ : Nat → Nat)
    (P : Nat → (Nat → Rat) → Rat) (P1 P2 : Nat → (Nat → Rat) → Rat)
    (hdims : DimsOk f) (hv : f.vdims = some vs) (hvl : vs.length = f.nvdim) (hvd : hasDup vs = false)
    (hσ : ∀ c, c < f.nvdim → σ c < f.mesh.ndim ∧
      Fld.lookup f.vmap (vs.getD c "") = some (f.mesh.region.dims.getD (σ c) ""))
    (hs : ∀ c, c < f.nvdim → SampledFrom f c (P c) ∧ QuadAlong (P c) (σ c) (P1 c) (P2 c))
    (hm : ExactMesh f) (h : div f = .ok g) :
    ∀ i, InMesh f i → (g.data.get i).getD 0 0 = sumTo f.nvdim fun c => P1 c (coords f i) :=
  fun i hi => div_exact_quadratic_masked f g vs σ P P1 P2 hdims hv hvl hvd hσ hs h i hi (exactAt_of_exactMesh hm hi)

/-- **Curl is exact**: with `ρ a` the stored component paired with axis `a`, sampling
`P (ρ a)`, and `P1 c a = ∂(P c)/∂x_a`, the result is the analytic curl in axis order. -/
theorem curl_exact_quadratic (f g : Fld) (vs : List String) (ρ : Nat → Nat)
    (P : Nat → (Nat → Rat) → Rat) (P1 P2 : Nat → Nat → (Nat → Rat) → Rat)
    (hdims : DimsOk f) (hv : f.vdims = some vs) (hvl : vs.length = f.nvdim) (hvd : hasDup vs = false)
    (hρ : ∀ d, d < 3 → ρ d < 3 ∧ rDimLast f (f.mesh.region.dims.getD d "") = some (vs.getD (ρ d) ""))
    (hs : ∀ c, c < 3 → SampledFrom f c (P c) ∧ ∀ a, a < 3 → QuadAlong (P c) a (P1 c a) (P2 c a))
    (hm : ExactMesh f) (h : curl f = .ok g) :
    ∀ i, InMesh f i →
      (g.data.get i).getD 0 0 = P1 (ρ 2) 1 (coords f i) - P1 (ρ 1) 2 (coords f i) ∧
      (g.data.get i).getD 1 0 = P1 (ρ 0) 2 (coords f i) - P1 (ρ 2) 0 (coords f i) ∧
      (g.data.get i).getD 2 0 = P1 (ρ 1) 0 (coords f i) - P1 (ρ 0) 1 (coords f i) :=
  fun i hi => curl_exact_quadratic_masked f g vs ρ P P1 P2 hdims hv hvl hvd hρ hs h i hi (exactAt_of_exactMesh hm hi)

/-- **Laplacian is exact** (scalar field): `Σ_a ∂²P/∂x_a²` at every cell centre. -/
theorem laplace_exact_quadratic (f g : Fld) (P : (Nat → Rat) → Rat) (P1 P2 : Nat → (Nat → Rat) → Rat)
    (hdims : DimsOk f) (hn1 : f.nvdim = 1) (hs : SampledFrom f 0 P)
    (hq : ∀ a, a < f.mesh.ndim → QuadAlong P a (P1 a) (P2 a)) (hm : ExactMesh f) (h : laplace f = .ok g) :
    ∀ i, InMesh f i → (g.data.get i).getD 0 0 = sumTo f.mesh.ndim fun a => P2 a (coords f i) :=
  fun i hi => laplace_exact_quadratic_masked f g P P1 P2 hdims hn1 hs hq h i hi (exactAt_of_exactMesh hm hi)

/-- **Laplacian is exact** (vector field): component `c` is the Laplacian of `P c`. -/
theorem laplace_exact_quadratic_vector (f g : Fld) (vs : List String)
    (P : Nat → (Nat → Rat) → Rat) (P1 P2 : Nat → Nat → (Nat → Rat) → Rat)
    (hdims : DimsOk f) (hn : f.nvdim ≠ 1) (hv : f.vdims = some vs) (hvl : vs.length = f.nvdim)
    (hvd : hasDup vs = false)
    (hs : ∀ c, c < f.nvdim → SampledFrom f c (P c) ∧ ∀ a, a < f.mesh.ndim → QuadAlong (P c) a (P1 c a) (P2 c a))
    (hm : ExactMesh f) (h : laplace f = .ok g) :
    ∀ i, InMesh f i → ∀ c, c < f.nvdim →
      (g.data.get i).getD c 0 = sumTo f.mesh.ndim fun a => P2 c a (coords f i) :=
  fun i hi => laplace_exact_quadratic_vector_masked f g vs P P1 P2 hdims hn hv hvl hvd hs h i hi (exactAt_of_exactMesh hm hi)

/-! ## 5. Derivatives along different axes commute; curl grad = 0, div curl = 0 -/

/-- **Derivatives along different axes commute** on a fully valid mesh (any orders 1/2,
open or periodic directions, any cell sizes): `∂_a^{oa}(∂_b^{ob} f) = ∂_b^{ob}(∂_a^{oa} f)`
at every cell — they act on different index positions. -/
theorem diff_comm (f ga gb : Fld) (a b oa ob c : Nat) (i : List Nat) (hf : FullyValid f) (hab : a ≠ b)
    (ha : C04.diff f a oa true = .ok ga) (hb : C04.diff f b ob true = .ok gb) (hc : c < f.nvdim)
    (hia : i.getD a 0 < f.mesh.nAt a) (hib : i.getD b 0 < f.mesh.nAt b) :
    D gb a oa c i = D ga b ob c i := by
  obtain ⟨a1, _, a3, _⟩ := diff_ok ha
  obtain ⟨b1, _, b3, _⟩ := diff_ok hb
  have side : ∀ (g : Fld) (p q op oq : Nat), p ≠ q → g.mesh = f.mesh → g.valid = f.valid →
      (∀ i', (g.data.get i').getD c 0 = D f q oq c i') →
      i.getD p 0 < f.mesh.nAt p → i.getD q 0 < f.mesh.nAt q →
      D g p op c i = lineD (periodic f p) op (f.mesh.cellAt p) (f.mesh.nAt p)
        (fun k => lineD (periodic f q) oq (f.mesh.cellAt q) (f.mesh.nAt q)
          (fun l => (f.data.get (setAt (setAt i p k) q l)).getD c 0) (i.getD q 0)) (i.getD p 0) := by
    intro g p q op oq hpq hm hv hdata hip hiq
    rw [D_of_values f g p op c i _ (fun j => by rw [hv]; exact hf j) hm hdata hip]
    apply lineD_congr
    intro k
    rw [D_all_valid f q oq c _ (fun j _ => hf _)
      (by rw [getD_setAt_ne _ _ _ _ _ (Ne.symm hpq)]; exact hiq), getD_setAt_ne _ _ _ _ _ (Ne.symm hpq)]
    rfl
  rw [side gb a b oa ob hab b1 b3 (fun i' => diff_data hb i' c hc) hia hib,
      side ga b a ob oa (Ne.symm hab) a1 a3 (fun i' => diff_data ha i' c hc) hib hia,
      lineD_comm]
  apply lineD_congr
  intro l
  apply lineD_congr
  intro k
  rw [setAt_comm _ _ _ _ _ hab]

/-- **curl(grad f) = 0**, exactly, at every cell of every fully valid 3-d mesh — any cell
counts (also 1 or 2 per axis), any anisotropic cell sizes, open and periodic directions in
any combination: the two mixed second differences that make up each component are the
same number because stencils along different axes commute. -/
theorem curl_grad_zero (f g r : Fld) (hdims : DimsOk f) (hp : Plain f) (hnd : f.mesh.ndim = 3)
    (hval : FullyValid f) (hg : grad f = .ok g) (hr : curl g = .ok r) :
    ∀ i, InMesh f i → ∀ k, k < 3 → (r.data.get i).getD k 0 = 0 := by
  obtain ⟨_, g2, g3, g4, g5⟩ := grad_eq f g hdims hg
  obtain ⟨m1, m2⟩ := grad_meta f g hp (by rw [hdims.1, hnd]; omega) hg
  rw [g2, hnd] at m1 m2
  have hgd : DimsOk g := (grad_over hg).dimsOk hdims
  obtain ⟨p1, p2, _⟩ := positional3 g hgd (by rw [g3]; exact hnd) m1 m2
  obtain ⟨_, _, _, _, _, c6⟩ := curl_eq g r ["x", "y", "z"] (fun d => d) hgd p1 (by rw [g2, hnd]; rfl) (by decide) p2 hr
  have hgv : FullyValid g := fun i => by rw [g4 i]; exact hval i
  intro i hi k hk
  obtain ⟨_, hin⟩ := hi
  have i0 := hin 0 (by omega)
  have i1 := hin 1 (by omega)
  have i2 := hin 2 (by omega)
  have dd : ∀ a b, a < 3 → b < 3 → a ≠ b → i.getD a 0 < f.mesh.nAt a → i.getD b 0 < f.mesh.nAt b →
      D g a 1 b i = DD f a b 0 i := by
    intro a b _ hb hab ha' hb'
    exact D_of_D f g a b 0 b i hval hgv g3 (fun i' => g5 i' b (by omega)) hab ha' hb'
  obtain ⟨e0, e1, e2⟩ := c6 i
  match k, hk with
  | 0, _ => rw [e0, dd 1 2 (by omega) (by omega) (by omega) i1 i2, dd 2 1 (by omega) (by omega) (by omega) i2 i1,
              DD_comm f 1 2 0 i (by omega)]; ring
  | 1, _ => rw [e1, dd 2 0 (by omega) (by omega) (by omega) i2 i0, dd 0 2 (by omega) (by omega) (by omega) i0 i2,
              DD_comm f 2 0 0 i (by omega)]; ring
  | 2, _ => rw [e2, dd 0 1 (by omega) (by omega) (by omega) i0 i1, dd 1 0 (by omega) (by omega) (by omega) i1 i0,
              DD_comm f 0 1 0 i (by omega)]; ring

/-- `curl` accepts the gradient of every plain scalar field on a 3-d mesh with well-formed
axis names: the hypotheses `hg`, `hr` of `curl_grad_zero` are met by every such field. -/
theorem curl_grad_defined (f : Fld) (hdims : DimsOk f) (hp : Plain f) (hnd : f.mesh.ndim = 3) :
    ∃ g r, grad f = .ok g ∧ curl g = .ok r := by
  obtain ⟨g, hg⟩ := grad_accepts f hp hdims (by omega)
  obtain ⟨_, g2, g3, _, _⟩ := grad_eq f g hdims hg
  obtain ⟨m1, m2⟩ := grad_meta f g hp (by rw [hdims.1, hnd]; omega) hg
  rw [g2, hnd] at m1 m2
  have hgd : DimsOk g := (grad_over hg).dimsOk hdims
  obtain ⟨p1, p2, p3⟩ := positional3 g hgd (by rw [g3]; exact hnd) m1 m2
  obtain ⟨r, hr⟩ := curl_accepts g ["x", "y", "z"] (fun d => d) (fun d => d) hgd (by rw [g2, hnd]) (by rw [g3]; exact hnd)
    p1 (by rw [g2, hnd]; rfl) (by decide) p3 p2
  exact ⟨g, r, hg, hr⟩

/-- **div(curl v) = 0**, exactly, at every cell of every fully valid 3-d mesh, for every
one-to-one pairing of the three stored components with the three axes (`ρ`), open and
periodic directions alike. -/
theorem div_curl_zero (v c d : Fld) (vs : List String) (ρ : Nat → Nat) (hdims : DimsOk v)
    (hv : v.vdims = some vs) (hvl : vs.length = v.nvdim) (hvd : hasDup vs = false)
    (hρ : ∀ a, a < 3 → ρ a < 3 ∧ rDimLast v (v.mesh.region.dims.getD a "") = some (vs.getD (ρ a) ""))
    (hval : FullyValid v) (hc : curl v = .ok c) (hd : div c = .ok d) :
    ∀ i, InMesh v i → (d.data.get i).getD 0 0 = 0 := by
  obtain ⟨_, hnd, c3, c4, c5, c6⟩ := curl_eq v c vs ρ hdims hv hvl hvd hρ hc
  obtain ⟨m1, m2⟩ := curl_meta v c hc
  have hndc : c.mesh.ndim = 3 := by rw [c4]; exact hnd
  have hcd : DimsOk c := (curl_over hc).dimsOk hdims
  obtain ⟨p1, _, p3⟩ := positional3 c hcd hndc m1 (by rw [c4]; exact m2)
  obtain ⟨_, _, _, _, d5⟩ := div_eq c d ["x", "y", "z"] (fun k => k) hcd p1 (by rw [c3]; rfl) (by decide)
    (by intro k hk; rw [c3] at hk; rw [hndc]; exact p3 k hk) hd
  have hcv : FullyValid c := fun i => by rw [c5 i]; exact hval i
  intro i hi
  obtain ⟨_, hin⟩ := hi
  have i0 := hin 0 (by omega)
  have i1 := hin 1 (by omega)
  have i2 := hin 2 (by omega)
  rw [d5 i, c3]
  simp only [sumTo]
  rw [D_of_sub v c 0 1 (ρ 2) 2 (ρ 1) 0 i hval hcv c4 (fun i' => (c6 i').1) (by omega) (by omega) i0 i1 i2,
      D_of_sub v c 1 2 (ρ 0) 0 (ρ 2) 1 i hval hcv c4 (fun i' => (c6 i').2.1) (by omega) (by omega) i1 i2 i0,
      D_of_sub v c 2 0 (ρ 1) 1 (ρ 0) 2 i hval hcv c4 (fun i' => (c6 i').2.2) (by omega) (by omega) i2 i0 i1,
      DD_comm v 0 1 (ρ 2) i (by omega), DD_comm v 0 2 (ρ 1) i (by omega), DD_comm v 1 2 (ρ 0) i (by omega)]
  ring

/-- `div` accepts the curl of every field `curl` accepts -/
theorem div_curl_defined (v c : Fld) (hdims : DimsOk v) (hc : curl v = .ok c) : ∃ d, div c = .ok d := by
  obtain ⟨_, hnd, _⟩ := curl_accepts_only v c hc
  obtain ⟨m1, m2⟩ := curl_meta v c hc
  have c4 := (curl_over hc).mesh
  have c3 := curl_nvdim hc
  have hndc : c.mesh.ndim = 3 := by rw [c4]; exact hnd
  have hcd : DimsOk c := (curl_over hc).dimsOk hdims
  obtain ⟨p1, _, p3⟩ := positional3 c hcd hndc m1 (by rw [c4]; exact m2)
  exact div_accepts c ["x", "y", "z"] (fun k => k) hcd (by rw [c3, hndc]) (by rw [c3]; omega) p1 (by rw [c3]; rfl) (by decide)
    (by intro k hk; rw [c3] at hk; rw [hndc]; exact p3 k hk)

/-! ## 6. Reversal of a run (what quarter-turn rotations do to a line) -/

/-- reversing a run negates the first-derivative stencil (and mirrors the position) -/
theorem d1_reverse (h : Rat) (L : Nat) (g : Nat → Rat) (i : Nat) (hi : i < L) :
    d1At h L (fun k => g (L - 1 - k)) i = - d1At h L g (L - 1 - i) := d1At_reverse h L g i hi

/-- reversing a run mirrors the second-derivative stencil -/
theorem d2_reverse (h : Rat) (L : Nat) (g : Nat → Rat) (i : Nat) (hi : i < L) :
    d2At h L (fun k => g (L - 1 - k)) i = d2At h L g (L - 1 - i) := d2At_reverse h L g i hi

/-! ## 6a. What kind of field each operator hands back (used from section 7 on) -/

/-- the Laplacian of a plain scalar field is a plain scalar field on the same mesh with a mesh-shaped array -/
theorem laplace_scalar_result (f L : Fld) (wf : MeshWf f) (hp : Plain f) (hL : laplace f = .ok L) : ScalOn f L := by
  have ov := laplace_over hL
  exact ⟨ov.mesh, plain_of_laplace_scalar hp hL, by rw [ov.shape, ov.mesh]; exact wf.data_shape⟩

/-- the gradient of a plain scalar field on a mesh of any dimension ≥ 2 is a vector field on the same mesh with
the positional labels, mapped positionally: axis `x` is paired with stored component `x` -/
theorem grad_result (f G : Fld) (a b : Nat) (labels : List String) (wf : MeshWf f) (hp : Plain f)
    (ha : a < f.mesh.ndim) (hb : b < f.mesh.ndim) (hab : a ≠ b)
    (hlab : posVdims f.mesh.ndim = some labels) (hlen : labels.length = f.mesh.ndim) (hnd : hasDup labels = false)
    (hG : grad f = .ok G) : VecOn a b a b labels f G := by
  obtain ⟨_, g2, _, _, _⟩ := grad_eq f G wf.dims hG
  have hl2 : 2 ≤ f.mesh.region.dims.length := by rw [wf.dims.1]; omega
  obtain ⟨m1, m2⟩ := grad_meta f G hp hl2 hG
  exact vecOn_positional a b wf ha hb hab (grad_over hG) g2 hlab hlen hnd m1 m2 (grad_len hl2 hG)

/-- the divergence of a field is a plain scalar field on the same mesh with a mesh-shaped array (`hv`, `hvl`, `hvd`, `hσ`
are not used: the callers pass the hypotheses of `div_eq` along) -/
theorem div_result (f Dv : Fld) (vs : List String) (σ : Nat → Nat) (wf : MeshWf f)
    (hv : f.vdims = some vs) (hvl : vs.length = f.nvdim) (hvd : hasDup vs = false)
    (hσ : ∀ c, c < f.nvdim → σ c < f.mesh.ndim ∧
      Fld.lookup f.vmap (vs.getD c "") = some (f.mesh.region.dims.getD (σ c) ""))
    (hD : div f = .ok Dv) : ScalOn f Dv := by
  have ov := div_over hD
  exact ⟨ov.mesh, plain_of_div hD, by rw [ov.shape, ov.mesh]; exact wf.data_shape⟩

/-- the curl of a field is a 3-component field on the same mesh with the positional labels
`x, y, z` mapped positionally onto the axes -/
theorem curl_result (f C : Fld) (a b : Nat) (vs : List String) (ρ : Nat → Nat) (wf : MeshWf f)
    (ha : a < 3) (hb : b < 3) (hab : a ≠ b)
    (hv : f.vdims = some vs) (hvl : vs.length = f.nvdim) (hvd : hasDup vs = false)
    (hρ : ∀ d, d < 3 → ρ d < 3 ∧ rDimLast f (f.mesh.region.dims.getD d "") = some (vs.getD (ρ d) ""))
    (hC : curl f = .ok C) : VecOn a b a b ["x", "y", "z"] f C := by
  obtain ⟨_, hnd, c3, c4, _, _⟩ := curl_eq f C vs ρ wf.dims hv hvl hvd hρ hC
  obtain ⟨m1, m2⟩ := curl_meta f C hC
  exact vecOn_positional a b wf (by omega) (by omega) hab (curl_over hC) (by rw [c3, hnd]) (by rw [hnd]; rfl) (by rw [hnd]; rfl)
    (by decide) (by rw [c3]; exact m1) (by rw [c3, c4]; exact m2) (curl_len hC)

/-- the Laplacian of a vector field is a vector field on the same mesh with the operand's labels,
mapping and pairing -/
theorem laplace_vector_result (f L : Fld) (a b v1 v2 : Nat) (vs : List String) (wf : MeshWf f)
    (hf : VecMeta a b v1 v2 vs f) (hL : laplace f = .ok L) : VecOn a b v1 v2 vs f L := by
  have hn1 : f.nvdim ≠ 1 := by have := hf.hn; omega
  obtain ⟨l1, l2, _, _⟩ := laplace_eq_vector f L vs wf.dims hn1 hf.hv hf.hvl hf.hvd hL
  obtain ⟨k1, k2, k3, k4⟩ := laplace_keeps_meta f L vs hn1 hf.hv hf.hvl hL
  have ls := (laplace_over hL).shape
  have llen := laplace_vector_len (by have := hf.hn; omega) hf.hv hf.hvl hL
  have hidx : L.vdimIndex = f.vdimIndex := funext k4
  refine ⟨l2, by rw [ls, l2]; exact wf.data_shape, ?_⟩
  exact ⟨by rw [l1]; exact hf.hn, by rw [k1]; exact hf.hv, by rw [l1]; exact hf.hvl, hf.hvd, by rw [k2]; exact hf.hkeys,
    by rw [k2]; exact hf.hmap, by rw [l2, k3, hidx]; exact hf.h1, by rw [l2, k3, hidx]; exact hf.h2,
    by rw [l1]; exact hf.hv1, by rw [l1]; exact hf.hv2, hf.h12, llen⟩

/-! ## 7. Commutation with quarter turns of the field (`Field.rotate90`)

`rot90Fld` models `Field.rotate90(ax1, ax2)` about the region centre (mesh geometry through
`Region.rotate90` / `Mesh.rotate90` including the exchange of the two axis names in `bc`,
`np.rot90` of values and validity, exact quarter-turn matrix on the two in-plane components
found through `_r_dim_mapping`); it is tied to the code by the correspondence run like the
operators.  `*_rot90_quarter` are the theorems for ONE quarter turn; they hold for EVERY validity
mask (a quarter turn maps every grid line — values and validity flags — onto a grid line of the
turned field, reversed for one of the two axes of the plane, and `C04.line_reverse` /
`C04.ring_reverse` show that the per-run stencils commute with the reversal), every combination
of open and periodic axes in the plane (`TurnWf`: single-character axis names, or axes that are
periodic alike) and every mapping.  `*_rot90_iter` lift them to any number `n` of successive
quarter turns by induction over `n` (`Commutes.iter`; the hypotheses are preserved by a turn: `meshWf_rot`,
`turnWf_rot`, `Kind.Is.rot` on `vecMeta_turned`, bundled as `Kind.turn` in `Lemmas/C05Iter.lean`), and `*_rot90_all_k` to
`Field.rotate90(ax1, ax2, k)` for every integer `k` on the code-shaped one-go model `rot90FldK`
(`rotate90_k_refines_turns_scalar/vector`: the one-go turn cannot be told apart from 0, 1 or 2
quarter turns or one quarter turn in the plane named the other way round; `*_congr`: the operators
read nothing but the cells). -/

/-- **The scalar Laplacian commutes with a quarter turn** (one quarter turn about the region
centre; EVERY validity mask; any combination of open and periodic axes in the plane, `TurnWf`).
`laplace(rotate90(f)) = rotate90(laplace(f))` at every cell. -/
theorem laplace_rot90_quarter (f R L LR RL : Fld) (a b : Nat) (wf : MeshWf f) (hn : f.nvdim = 1)
    (hvs : f.valid.shape = f.mesh.n) (ha : a < f.mesh.ndim) (hb : b < f.mesh.ndim) (hab : a ≠ b)
    (tw : TurnWf f a b)
    (hR : rot90Fld f (f.mesh.region.dims.getD a "") (f.mesh.region.dims.getD b "") = .ok R)
    (hL : laplace f = .ok L) (hLR : laplace R = .ok LR)
    (hRL : rot90Fld L (L.mesh.region.dims.getD a "") (L.mesh.region.dims.getD b "") = .ok RL) :
    ∀ i, InMesh R i → (LR.data.get i).getD 0 0 = (RL.data.get i).getD 0 0 := by
  obtain ⟨hr, hRd, _⟩ := rot90Fld_scalar f R a b wf tw hn ha hb hab hR
  have hvalid := rot90Fld_valid f R a b wf.dims hvs ha hb hR
  obtain ⟨l1, l2, l3, l4⟩ := laplace_eq_scalar f L wf.dims hn hL
  obtain ⟨r1, r2, r3, r4⟩ := laplace_eq_scalar R LR (hr.dimsOk wf.dims) (by rw [hr.nvdim, hn]) hLR
  have hRLd := rot90Fld_scalar_data L RL a b (by unfold DimsOk; rw [l2]; exact wf.dims)
    (by rw [(laplace_over hL).shape, l2]; exact wf.data_shape) l1 (by rw [l2]; exact ha) (by rw [l2]; exact hb) hRL
  intro i hi
  rw [r4 i, hRLd i, rotIdx_congr f L a b i l2, l4, hr.ndim,
    ← sumTo_swap f.mesh.ndim a b ha hb (fun e => D f e 2 0 (rotIdx f a b i))]
  apply sumTo_congr
  intro e he
  rw [D_turned f R a b e 0 0 2 1 i hr hab ha hb he hi (fun i' => by rw [hRd i', one_mul]) hvalid,
    revSign_two, ite_self, one_mul, one_mul]

/-- **The gradient commutes with a quarter turn** (plain scalar field, EVERY mesh dimension ≥ 2, every
validity mask, any combination of open and periodic axes in the plane): turning the field and
differentiating gives, at every cell and for every component, the same number as differentiating
and then turning the vector field (whose in-plane components are exchanged with the sign of the
quarter turn). -/
theorem grad_rot90_quarter (f R G GR RG : Fld) (a b : Nat) (wf : MeshWf f) (hp : Plain f)
    (hvs : f.valid.shape = f.mesh.n) (ha : a < f.mesh.ndim) (hb : b < f.mesh.ndim) (hab : a ≠ b)
    (tw : TurnWf f a b)
    (hR : rot90Fld f (f.mesh.region.dims.getD a "") (f.mesh.region.dims.getD b "") = .ok R)
    (hG : grad f = .ok G) (hGR : grad R = .ok GR)
    (hRG : rot90Fld G (G.mesh.region.dims.getD a "") (G.mesh.region.dims.getD b "") = .ok RG) :
    ∀ i, InMesh R i → ∀ e, e < f.mesh.ndim → (GR.data.get i).getD e 0 = (RG.data.get i).getD e 0 := by
  obtain ⟨hr, hRd, _⟩ := rot90Fld_scalar f R a b wf tw hp.1 ha hb hab hR
  have hvalid := rot90Fld_valid f R a b wf.dims hvs ha hb hR
  obtain ⟨_, _, _, _, g5⟩ := grad_eq f G wf.dims hG
  obtain ⟨labels, hlab, hlen, hnd⟩ := posVdims_nodup f.mesh.ndim (by omega)
  have hGv := grad_result f G a b labels wf hp ha hb hab hlab hlen hnd hG
  obtain ⟨_, _, _, _, r5⟩ := grad_eq R GR (hr.dimsOk wf.dims) hGR
  intro i hi e he
  rw [r5 i e (by rw [hr.ndim]; exact he), (On.of_vecOn hGv rfl).turned_getD wf.dims ha hb hRG i e]
  show _ = (if e = a then -1 else 1) * (G.data.get (rotIdx f a b i)).getD (swp a b e) 0
  rw [g5 _ _ (swp_lt ha hb he),
    D_turned f R a b e 0 0 1 1 i hr hab ha hb he hi (fun i' => by rw [hRd i', one_mul]) hvalid, revSign_one, mul_one]

/-! The three vector theorems below follow one plan: labels, mapping and geometry of the turned field
(`rot90Fld_vector_meta`, `isRot90_of_ok`), the characterisation (`*_eq`) of the operator on the field and on the turned
field, how the result turns (`*_result`), and then cell by cell `D_turned_vec` under `sumTo_swap` (div, Laplacian) or
`curlOf_turn` (curl). -/

/-- **The divergence commutes with a quarter turn** (vector field with `nvdim = ndim` whose mapping
pairs the components one-to-one with the axes; every validity mask; any combination of open and
periodic axes in the plane).  `v1`, `v2` are the stored components paired with the axes `a`, `b`
of the plane; the turn replaces them by `(-v2, v1)`, and `div(rotate90(v)) = rotate90(div(v))` at
every cell. -/
theorem div_rot90_quarter (f R Dv DR RD : Fld) (a b v1 v2 : Nat) (vs : List String) (σ : Nat → Nat)
    (wf : MeshWf f) (hvs : f.valid.shape = f.mesh.n) (ha : a < f.mesh.ndim) (hb : b < f.mesh.ndim) (hab : a ≠ b)
    (tw : TurnWf f a b) (hn : 1 < f.nvdim)
    (hv : f.vdims = some vs) (hvl : vs.length = f.nvdim) (hvd : hasDup vs = false)
    (hraw : ∀ i, (f.data.get i).length = f.nvdim)
    (hσ : ∀ c, c < f.nvdim → σ c < f.mesh.ndim ∧
      Fld.lookup f.vmap (vs.getD c "") = some (f.mesh.region.dims.getD (σ c) ""))
    (h1 : (rDimLast f (f.mesh.region.dims.getD a "")).bind f.vdimIndex = some v1)
    (h2 : (rDimLast f (f.mesh.region.dims.getD b "")).bind f.vdimIndex = some v2)
    (hv1 : v1 < f.nvdim) (hv2 : v2 < f.nvdim) (hs1 : σ v1 = a) (hs2 : σ v2 = b)
    (hoth : ∀ c, c < f.nvdim → c ≠ v1 → c ≠ v2 → σ c ≠ a ∧ σ c ≠ b)
    (hR : rot90Fld f (f.mesh.region.dims.getD a "") (f.mesh.region.dims.getD b "") = .ok R)
    (hD : div f = .ok Dv) (hDR : div R = .ok DR)
    (hRD : rot90Fld Dv (Dv.mesh.region.dims.getD a "") (Dv.mesh.region.dims.getD b "") = .ok RD) :
    ∀ i, InMesh R i → (DR.data.get i).getD 0 0 = (RD.data.get i).getD 0 0 := by
  have h12 : v1 ≠ v2 := ne_of_sigma hab hs1 hs2
  obtain ⟨q1, q2, q3⟩ := rot90Fld_vector_meta f R a b vs wf.dims hn hv hvl ha hb hR
  have hr := isRot90_of_ok f R a b wf tw ha hb hab hR
  have hvalid := rot90Fld_valid f R a b wf.dims hvs ha hb hR
  have hRd := rot90Fld_vector_data f R a b v1 v2 wf.dims wf.data_shape hn ha hb h1 h2 hR
  obtain ⟨_, _, _, _, d5⟩ := div_eq f Dv vs σ wf.dims hv hvl hvd hσ hD
  have hσR := sigma_transfer (g := R) q3 hr.ndim q2 hr.dims hσ
  obtain ⟨_, _, _, _, r5⟩ := div_eq R DR vs σ (hr.dimsOk wf.dims) q1 (by rw [hvl, q3]) hvd hσR hDR
  intro i hi
  rw [r5 i, (On.of_scalOn (div_result f Dv vs σ wf hv hvl hvd hσ hD)).turned_getD (a := a) (b := b) wf.dims ha hb hRD i 0]
  show _ = 1 * (Dv.data.get (rotIdx f a b i)).getD 0 0
  rw [one_mul, d5, q3, ← sumTo_swap f.nvdim v1 v2 hv1 hv2 (fun c => D f (σ c) 1 c (rotIdx f a b i))]
  apply sumTo_congr
  intro c hc
  obtain ⟨e1, e2⟩ := swp_pair hab hs1 hs2 c (hoth c hc)
  rw [D_turned_vec f R a b v1 v2 (σ c) c 1 i hr hab ha hb (hσ c hc).1 hi h12 hv1 hv2 hraw hRd hvalid, e1, revSign_one]
  simp only [e2]
  split <;> ring

/-- **The curl commutes with a quarter turn** (field whose three stored components are paired
one-to-one with the three axes (`ρ`); every validity mask; any combination of open and periodic
axes in the plane).  `curl(rotate90(v)) = rotate90(curl(v))`, component by component at every
cell, for each of the six ordered pairs of axes.  The hypothesis `hmap` is not used: it is carried so that the callers
pass the same list to all the vector theorems. -/
theorem curl_rot90_quarter (f R C CR RC : Fld) (a b : Nat) (vs : List String) (ρ : Nat → Nat)
    (wf : MeshWf f) (hvs : f.valid.shape = f.mesh.n) (ha : a < 3) (hb : b < 3) (hab : a ≠ b)
    (tw : TurnWf f a b)
    (hv : f.vdims = some vs) (hvl : vs.length = f.nvdim) (hvd : hasDup vs = false)
    (hraw : ∀ i, (f.data.get i).length = f.nvdim) (hmap : 0 < f.vmap.length)
    (hρ : ∀ d, d < 3 → ρ d < 3 ∧ rDimLast f (f.mesh.region.dims.getD d "") = some (vs.getD (ρ d) ""))
    (hinj : ρ 0 ≠ ρ 1 ∧ ρ 0 ≠ ρ 2 ∧ ρ 1 ≠ ρ 2)
    (hR : rot90Fld f (f.mesh.region.dims.getD a "") (f.mesh.region.dims.getD b "") = .ok R)
    (hC : curl f = .ok C) (hCR : curl R = .ok CR)
    (hRC : rot90Fld C (C.mesh.region.dims.getD a "") (C.mesh.region.dims.getD b "") = .ok RC) :
    ∀ i, InMesh R i → ∀ k, k < 3 → (CR.data.get i).getD k 0 = (RC.data.get i).getD k 0 := by
  obtain ⟨hn3, hnd, _, _, _, c6⟩ := curl_eq f C vs ρ wf.dims hv hvl hvd hρ hC
  have ha' : a < f.mesh.ndim := by omega
  have hb' : b < f.mesh.ndim := by omega
  obtain ⟨q1, q2, q3⟩ := rot90Fld_vector_meta f R a b vs wf.dims (by omega) hv hvl ha' hb' hR
  have hr := isRot90_of_ok f R a b wf tw ha' hb' hab hR
  have hvalid := rot90Fld_valid f R a b wf.dims hvs ha' hb' hR
  have hRd := rot90Fld_vector_data f R a b (ρ a) (ρ b) wf.dims wf.data_shape (by omega) ha' hb'
    (pair_of_rho hv hvl hvd hn3 hρ a ha) (pair_of_rho hv hvl hvd hn3 hρ b hb) hR
  obtain ⟨_, _, _, _, _, r6⟩ := curl_eq R CR vs ρ (hr.dimsOk wf.dims) q1 (by rw [hvl, q3]) hvd (rho_transfer q2 hr.dims hρ) hCR
  have hCv := curl_result f C a b vs ρ wf ha hb hab hv hvl hvd hρ hC
  intro i hi k hk
  rw [curlOf_of_comps (e := fun x y => D R x 1 (ρ y) i) (r6 i) k hk, (On.of_vecOn hCv rfl).turned_getD wf.dims ha' hb' hRC i k]
  show _ = (if k = a then -1 else 1) * (C.data.get (rotIdx f a b i)).getD (swp a b k) 0
  rw [curlOf_of_comps (e := fun x y => D f x 1 (ρ y) (rotIdx f a b i)) (c6 _) _ (swp_lt ha hb hk)]
  -- the table of derivatives of the turned field is the turned table
  apply curlOf_turn _ _ a b ha hb hab _ k hk
  intro x y hx hy
  obtain ⟨e1, e2⟩ := swp_pair (rho_ne hinj ha hb hab) (σ := ρ) rfl rfl y
    (fun ya yb => ⟨rho_ne hinj hy ha ya, rho_ne hinj hy hb yb⟩)
  rw [D_turned_vec f R a b (ρ a) (ρ b) x (ρ y) 1 i hr hab ha' hb' (by omega) hi (rho_ne hinj ha hb hab)
    (by rw [hn3]; exact (hρ a ha).1) (by rw [hn3]; exact (hρ b hb).1) hraw hRd hvalid, e1, revSign_one, mul_assoc]
  simp only [e2]

/-- **The vector Laplacian commutes with a quarter turn** (field with at least two components
whose mapping pairs the axes `a`, `b` of the plane with the stored components `v1 ≠ v2`; any
mapping, positional or not — finding D55; every validity mask; any combination of
open and periodic axes in the plane — finding D56).  The hypothesis `hmap` is not used: it is carried so that the callers,
which have it, pass the same list to all the vector theorems. -/
theorem laplace_rot90_vector_quarter (f R L LR RL : Fld) (a b v1 v2 : Nat) (vs : List String)
    (wf : MeshWf f) (tw : TurnWf f a b) (hvs : f.valid.shape = f.mesh.n) (ha : a < f.mesh.ndim) (hb : b < f.mesh.ndim)
    (hab : a ≠ b) (hn : 1 < f.nvdim)
    (hv : f.vdims = some vs) (hvl : vs.length = f.nvdim) (hvd : hasDup vs = false)
    (hraw : ∀ i, (f.data.get i).length = f.nvdim) (hmap : 0 < f.vmap.length)
    (h1 : (rDimLast f (f.mesh.region.dims.getD a "")).bind f.vdimIndex = some v1)
    (h2 : (rDimLast f (f.mesh.region.dims.getD b "")).bind f.vdimIndex = some v2)
    (hv1 : v1 < f.nvdim) (hv2 : v2 < f.nvdim) (h12 : v1 ≠ v2)
    (hR : rot90Fld f (f.mesh.region.dims.getD a "") (f.mesh.region.dims.getD b "") = .ok R)
    (hL : laplace f = .ok L) (hLR : laplace R = .ok LR)
    (hRL : rot90Fld L (L.mesh.region.dims.getD a "") (L.mesh.region.dims.getD b "") = .ok RL) :
    ∀ i, InMesh R i → ∀ c, c < f.nvdim → (LR.data.get i).getD c 0 = (RL.data.get i).getD c 0 := by
  obtain ⟨q1, q2, q3⟩ := rot90Fld_vector_meta f R a b vs wf.dims hn hv hvl ha hb hR
  have hr := isRot90_of_ok f R a b wf tw ha hb hab hR
  have hvalid := rot90Fld_valid f R a b wf.dims hvs ha hb hR
  have hRd := rot90Fld_vector_data f R a b v1 v2 wf.dims wf.data_shape hn ha hb h1 h2 hR
  have hn1 : f.nvdim ≠ 1 := by omega
  obtain ⟨l1, l2, _, l4⟩ := laplace_eq_vector f L vs wf.dims hn1 hv hvl hvd hL
  obtain ⟨k1, k2, k3, k4⟩ := laplace_keeps_meta f L vs hn1 hv hvl hL
  obtain ⟨_, _, _, r4⟩ := laplace_eq_vector R LR vs (hr.dimsOk wf.dims) (by rw [q3]; exact hn1) q1 (by rw [hvl, q3]) hvd hLR
  have ls := (laplace_over hL).shape
  have llen := laplace_vector_len (by omega) hv hvl hL
  have hLd : DimsOk L := by unfold DimsOk; rw [l2]; exact wf.dims
  have hidx : L.vdimIndex = f.vdimIndex := funext k4
  have hRLd := rot90Fld_vector_data L RL a b v1 v2 hLd (by rw [ls, l2]; exact wf.data_shape) (by rw [l1]; exact hn)
    (by rw [l2]; exact ha) (by rw [l2]; exact hb) (by rw [l2, k3, hidx]; exact h1) (by rw [l2, k3, hidx]; exact h2) hRL
  intro i hi c hc
  rw [r4 i c (by rw [q3]; exact hc), hRLd i, rotIdx_congr f L a b i l2,
    turnVec_getD _ v1 v2 c h12 (by rw [llen, l1]; exact hv1) (by rw [llen, l1]; exact hv2), hr.ndim,
    l4 _ _ (swp_lt hv1 hv2 hc), ← sumTo_swap f.mesh.ndim a b ha hb (fun e => D f e 2 _ (rotIdx f a b i)), ← sumTo_mul_left]
  apply sumTo_congr
  intro e he
  rw [D_turned_vec f R a b v1 v2 e c 2 i hr hab ha hb he hi h12 hv1 hv2 hraw hRd hvalid, revSign_two, ite_self, one_mul]

/-- the four fields `laplace_rot90_quarter` speaks about exist for every plain scalar field on a
well-formed mesh without subregions -/
theorem laplace_rot90_defined (f : Fld) (a b : Nat) (wf : MeshWf f) (tw : TurnWf f a b) (hsub : f.mesh.subs = []) (hp : Plain f)
    (ha : a < f.mesh.ndim) (hb : b < f.mesh.ndim) (hab : a ≠ b) :
    ∃ R L LR RL, rot90Fld f (f.mesh.region.dims.getD a "") (f.mesh.region.dims.getD b "") = .ok R ∧
      laplace f = .ok L ∧ laplace R = .ok LR ∧
      rot90Fld L (L.mesh.region.dims.getD a "") (L.mesh.region.dims.getD b "") = .ok RL := by
  obtain ⟨R, hR⟩ := rot90_accepts_plain f a b wf tw hsub hp ha hb hab
  obtain ⟨L, hL⟩ := laplace_accepts f wf.dims (by omega) (Or.inl hp)
  obtain ⟨hr, _, _⟩ := rot90Fld_scalar f R a b wf tw hp.1 ha hb hab hR
  obtain ⟨LR, hLR⟩ := laplace_accepts R (hr.dimsOk wf.dims) (by rw [hr.ndim]; omega) (Or.inl (rot90_plain wf.dims ha hb hp hR))
  obtain ⟨RL, hRL⟩ := (On.of_scalOn (laplace_scalar_result f L wf hp hL)).accepts (a := a) (b := b) wf tw hsub ha hb hab
  exact ⟨R, L, LR, RL, hR, hL, hLR, hRL⟩

/-- … and likewise the four fields of `grad_rot90_quarter` -/
theorem grad_rot90_defined (f : Fld) (a b : Nat) (wf : MeshWf f) (tw : TurnWf f a b) (hsub : f.mesh.subs = []) (hp : Plain f)
    (ha : a < f.mesh.ndim) (hb : b < f.mesh.ndim) (hab : a ≠ b) :
    ∃ R G GR RG, rot90Fld f (f.mesh.region.dims.getD a "") (f.mesh.region.dims.getD b "") = .ok R ∧
      grad f = .ok G ∧ grad R = .ok GR ∧
      rot90Fld G (G.mesh.region.dims.getD a "") (G.mesh.region.dims.getD b "") = .ok RG := by
  obtain ⟨R, hR⟩ := rot90_accepts_plain f a b wf tw hsub hp ha hb hab
  obtain ⟨G, hG⟩ := grad_accepts f hp wf.dims (by omega)
  obtain ⟨hr, _, _⟩ := rot90Fld_scalar f R a b wf tw hp.1 ha hb hab hR
  obtain ⟨GR, hGR⟩ := grad_accepts R (rot90_plain wf.dims ha hb hp hR) (hr.dimsOk wf.dims) (by rw [hr.ndim]; omega)
  obtain ⟨labels, hlab, hlen, hnd⟩ := posVdims_nodup f.mesh.ndim (by omega)
  obtain ⟨RG, hRG⟩ := (On.of_vecOn (grad_result f G a b labels wf hp ha hb hab hlab hlen hnd hG) rfl).accepts wf tw hsub ha hb hab
  exact ⟨R, G, GR, RG, hR, hG, hGR, hRG⟩

/-- … and the four fields of `div_rot90_quarter`, for every well-formed vector field with
`nvdim = ndim` whose mapping has the labels as keys and pairs both axes of the plane -/
theorem div_rot90_defined (f : Fld) (a b v1 v2 : Nat) (vs : List String) (σ : Nat → Nat)
    (wf : MeshWf f) (tw : TurnWf f a b) (hsub : f.mesh.subs = []) (ha : a < f.mesh.ndim) (hb : b < f.mesh.ndim) (hab : a ≠ b)
    (hn : 1 < f.nvdim) (hnn : f.nvdim = f.mesh.ndim)
    (hv : f.vdims = some vs) (hvl : vs.length = f.nvdim) (hvd : hasDup vs = false)
    (hkeys : (f.vmap.map (·.1)).isPerm vs = true)
    (hσ : ∀ c, c < f.nvdim → σ c < f.mesh.ndim ∧
      Fld.lookup f.vmap (vs.getD c "") = some (f.mesh.region.dims.getD (σ c) ""))
    (h1 : (rDimLast f (f.mesh.region.dims.getD a "")).bind f.vdimIndex = some v1)
    (h2 : (rDimLast f (f.mesh.region.dims.getD b "")).bind f.vdimIndex = some v2) :
    ∃ R Dv DR RD, rot90Fld f (f.mesh.region.dims.getD a "") (f.mesh.region.dims.getD b "") = .ok R ∧
      div f = .ok Dv ∧ div R = .ok DR ∧
      rot90Fld Dv (Dv.mesh.region.dims.getD a "") (Dv.mesh.region.dims.getD b "") = .ok RD := by
  obtain ⟨R, hR⟩ := rot90_accepts_vector f a b v1 v2 vs wf tw hsub hn hv hvl hvd hkeys ha hb hab h1 h2
  obtain ⟨Dv, hD⟩ := div_accepts f vs σ wf.dims hnn (by omega) hv hvl hvd hσ
  obtain ⟨q1, q2, q3⟩ := rot90Fld_vector_meta f R a b vs wf.dims hn hv hvl ha hb hR
  have hr := isRot90_of_ok f R a b wf tw ha hb hab hR
  obtain ⟨DR, hDR⟩ := div_accepts R vs σ (hr.dimsOk wf.dims) (by rw [q3, hr.ndim]; exact hnn) (by rw [q3]; omega) q1
    (by rw [hvl, q3]) hvd (sigma_transfer q3 hr.ndim q2 hr.dims hσ)
  obtain ⟨RD, hRD⟩ := (On.of_scalOn (div_result f Dv vs σ wf hv hvl hvd hσ hD)).accepts (a := a) (b := b) wf tw hsub ha hb hab
  exact ⟨R, Dv, DR, RD, hR, hD, hDR, hRD⟩

/-- … and the four fields of `curl_rot90_quarter` -/
theorem curl_rot90_defined (f : Fld) (a b : Nat) (vs : List String) (σ ρ : Nat → Nat)
    (wf : MeshWf f) (tw : TurnWf f a b) (hsub : f.mesh.subs = []) (ha : a < 3) (hb : b < 3) (hab : a ≠ b)
    (hn : f.nvdim = 3) (hnd : f.mesh.ndim = 3)
    (hv : f.vdims = some vs) (hvl : vs.length = f.nvdim) (hvd : hasDup vs = false)
    (hkeys : (f.vmap.map (·.1)).isPerm vs = true)
    (hσ : ∀ c, c < 3 → σ c < 3 ∧ Fld.lookup f.vmap (vs.getD c "") = some (f.mesh.region.dims.getD (σ c) ""))
    (hρ : ∀ d, d < 3 → ρ d < 3 ∧ rDimLast f (f.mesh.region.dims.getD d "") = some (vs.getD (ρ d) "")) :
    ∃ R C CR RC, rot90Fld f (f.mesh.region.dims.getD a "") (f.mesh.region.dims.getD b "") = .ok R ∧
      curl f = .ok C ∧ curl R = .ok CR ∧
      rot90Fld C (C.mesh.region.dims.getD a "") (C.mesh.region.dims.getD b "") = .ok RC := by
  have ha' : a < f.mesh.ndim := by omega
  have hb' : b < f.mesh.ndim := by omega
  obtain ⟨R, hR⟩ := rot90_accepts_vector f a b (ρ a) (ρ b) vs wf tw hsub (by omega) hv hvl hvd hkeys ha' hb' hab
    (pair_of_rho hv hvl hvd hn hρ a ha) (pair_of_rho hv hvl hvd hn hρ b hb)
  obtain ⟨C, hC⟩ := curl_accepts f vs σ ρ wf.dims hn hnd hv hvl hvd hσ hρ
  obtain ⟨q1, q2, q3⟩ := rot90Fld_vector_meta f R a b vs wf.dims (by omega) hv hvl ha' hb' hR
  have hr := isRot90_of_ok f R a b wf tw ha' hb' hab hR
  obtain ⟨CR, hCR⟩ := curl_accepts R vs σ ρ (hr.dimsOk wf.dims) (by rw [q3, hn]) (by rw [hr.ndim, hnd]) q1 (by rw [hvl, q3]) hvd
    (sigma_transfer rfl rfl q2 hr.dims hσ) (rho_transfer q2 hr.dims hρ)
  obtain ⟨RC, hRC⟩ := (On.of_vecOn (curl_result f C a b vs ρ wf ha hb hab hv hvl hvd hρ hC) rfl).accepts wf tw hsub ha' hb' hab
  exact ⟨R, C, CR, RC, hR, hC, hCR, hRC⟩

/-- … and the four fields of `laplace_rot90_vector_quarter` exist (the hypothesis `hmap` is not used: it is carried so that the callers
pass the same list as to the quarter-turn theorem) -/
theorem laplace_rot90_vector_defined (f : Fld) (a b v1 v2 : Nat) (vs : List String)
    (wf : MeshWf f) (tw : TurnWf f a b) (hsub : f.mesh.subs = []) (ha : a < f.mesh.ndim) (hb : b < f.mesh.ndim)
    (hab : a ≠ b) (hn : 1 < f.nvdim)
    (hv : f.vdims = some vs) (hvl : vs.length = f.nvdim) (hvd : hasDup vs = false)
    (hkeys : (f.vmap.map (·.1)).isPerm vs = true) (hmap : 0 < f.vmap.length)
    (h1 : (rDimLast f (f.mesh.region.dims.getD a "")).bind f.vdimIndex = some v1)
    (h2 : (rDimLast f (f.mesh.region.dims.getD b "")).bind f.vdimIndex = some v2) :
    ∃ R L LR RL, rot90Fld f (f.mesh.region.dims.getD a "") (f.mesh.region.dims.getD b "") = .ok R ∧
      laplace f = .ok L ∧ laplace R = .ok LR ∧
      rot90Fld L (L.mesh.region.dims.getD a "") (L.mesh.region.dims.getD b "") = .ok RL := by
  have hn1 : f.nvdim ≠ 1 := by omega
  obtain ⟨R, hR⟩ := rot90_accepts_vector f a b v1 v2 vs wf tw hsub hn hv hvl hvd hkeys ha hb hab h1 h2
  obtain ⟨L, hL⟩ := laplace_accepts f wf.dims (by omega) (Or.inr ⟨hn, vs, hv, hvl, hvd, Or.inr hkeys⟩)
  obtain ⟨q1, q2, q3⟩ := rot90Fld_vector_meta f R a b vs wf.dims hn hv hvl ha hb hR
  have hr := isRot90_of_ok f R a b wf tw ha hb hab hR
  obtain ⟨LR, hLR⟩ := laplace_accepts R (hr.dimsOk wf.dims) (by rw [hr.ndim]; omega)
    (Or.inr ⟨by rw [q3]; exact hn, vs, q1, by rw [hvl, q3], hvd, Or.inr (by rw [q2]; exact hkeys)⟩)
  obtain ⟨l1, l2, _, _⟩ := laplace_eq_vector f L vs wf.dims hn1 hv hvl hvd hL
  obtain ⟨k1, k2, k3, k4⟩ := laplace_keeps_meta f L vs hn1 hv hvl hL
  have hidx : L.vdimIndex = f.vdimIndex := funext k4
  have wfL : MeshWf L := meshWf_of_mesh wf l2 (by rw [(laplace_over hL).shape, l2]; exact wf.data_shape)
  obtain ⟨RL, hRL⟩ := rot90_accepts_vector L a b v1 v2 vs wfL (turnWf_of_mesh tw l2) (by rw [l2]; exact hsub)
    (by rw [l1]; exact hn) (by rw [k1]; exact hv) (by rw [hvl, l1]) hvd (by rw [k2]; exact hkeys)
    (by rw [l2]; exact ha) (by rw [l2]; exact hb) hab (by rw [l2, k3, hidx]; exact h1) (by rw [l2, k3, hidx]; exact h2)
  exact ⟨R, L, LR, RL, hR, hL, hLR, hRL⟩

/-! ## 8. Any number of quarter turns, and `Field.rotate90(ax1, ax2, k)` for every integer `k` -/

/-! ### the operators read nothing but the cells (congruence under `Sim`) -/

/-- **The scalar Laplacian reads nothing but the cells**: on fields that differentiation cannot tell
apart (`Sim`: meshes alike, same values and validity at every well-formed multi-index) it gives the
same values -/
theorem laplace_congr (X Y LX LY : Fld) (h : Sim X Y) (hd : DimsOk Y) (hn : X.nvdim = 1)
    (hX : laplace X = .ok LX) (hY : laplace Y = .ok LY) (i : List Nat) (hi : i.length = X.mesh.ndim) :
    (LX.data.get i).getD 0 0 = (LY.data.get i).getD 0 0 := by
  obtain ⟨_, _, _, x4⟩ := laplace_eq_scalar X LX (h.sameMeta.dimsOk hd) hn hX
  obtain ⟨_, _, _, y4⟩ := laplace_eq_scalar Y LY hd (by rw [← h.nvdim]; exact hn) hY
  rw [x4 i, y4 i, ← h.mesh.1]
  exact sumTo_congr _ _ _ (fun a ha => D_sim h a 2 0 i ha hi)

/-- … and so does the gradient -/
theorem grad_congr (X Y GX GY : Fld) (h : Sim X Y) (hd : DimsOk Y)
    (hX : grad X = .ok GX) (hY : grad Y = .ok GY) (i : List Nat) (hi : i.length = X.mesh.ndim) (e : Nat) (he : e < X.mesh.ndim) :
    (GX.data.get i).getD e 0 = (GY.data.get i).getD e 0 := by
  obtain ⟨_, _, _, _, x5⟩ := grad_eq X GX (h.sameMeta.dimsOk hd) hX
  obtain ⟨_, _, _, _, y5⟩ := grad_eq Y GY hd hY
  rw [x5 i e he, y5 i e (by rw [← h.mesh.1]; exact he)]
  exact D_sim h e 1 0 i he hi

/-- … the divergence -/
theorem div_congr (X Y DX DY : Fld) (vs : List String) (σ : Nat → Nat) (h : Sim X Y) (hd : DimsOk Y)
    (hv : Y.vdims = some vs) (hvl : vs.length = Y.nvdim) (hvd : hasDup vs = false)
    (hσ : ∀ c, c < Y.nvdim → σ c < Y.mesh.ndim ∧
      Fld.lookup Y.vmap (vs.getD c "") = some (Y.mesh.region.dims.getD (σ c) ""))
    (hX : div X = .ok DX) (hY : div Y = .ok DY) (i : List Nat) (hi : i.length = X.mesh.ndim) :
    (DX.data.get i).getD 0 0 = (DY.data.get i).getD 0 0 := by
  obtain ⟨_, _, _, _, y5⟩ := div_eq Y DY vs σ hd hv hvl hvd hσ hY
  have hσX := sigma_transfer (g := X) h.nvdim h.mesh.1 h.vmap h.mesh.2.1 hσ
  obtain ⟨_, _, _, _, x5⟩ := div_eq X DX vs σ (h.sameMeta.dimsOk hd) (by rw [h.vdims]; exact hv) (by rw [h.nvdim]; exact hvl) hvd hσX hX
  rw [x5 i, y5 i, ← h.nvdim]
  exact sumTo_congr _ _ _ (fun c hc => D_sim h (σ c) 1 c i (hσX c hc).1 hi)

/-- … the curl -/
theorem curl_congr (X Y CX CY : Fld) (vs : List String) (ρ : Nat → Nat) (h : Sim X Y) (hd : DimsOk Y)
    (hv : Y.vdims = some vs) (hvl : vs.length = Y.nvdim) (hvd : hasDup vs = false)
    (hρ : ∀ d, d < 3 → ρ d < 3 ∧ rDimLast Y (Y.mesh.region.dims.getD d "") = some (vs.getD (ρ d) ""))
    (hX : curl X = .ok CX) (hY : curl Y = .ok CY) (i : List Nat) (hi : i.length = X.mesh.ndim) (c : Nat) (hc : c < 3) :
    (CX.data.get i).getD c 0 = (CY.data.get i).getD c 0 := by
  obtain ⟨_, _, _, _, _, y6⟩ := curl_eq Y CY vs ρ hd hv hvl hvd hρ hY
  obtain ⟨_, hnd, _, _, _, x6⟩ := curl_eq X CX vs ρ (h.sameMeta.dimsOk hd) (by rw [h.vdims]; exact hv) (by rw [h.nvdim]; exact hvl) hvd
    (rho_transfer h.vmap h.mesh.2.1 hρ) hX
  exact curl_comps_congr (e := fun x y => D X x 1 (ρ y) i) (e' := fun x y => D Y x 1 (ρ y) i) (x6 i) (y6 i)
    (fun x y hx _ => D_sim h x 1 _ i (by omega) hi) c hc

/-- … and the vector Laplacian -/
theorem laplace_vector_congr (X Y LX LY : Fld) (vs : List String) (h : Sim X Y) (hd : DimsOk Y) (hn : Y.nvdim ≠ 1)
    (hv : Y.vdims = some vs) (hvl : vs.length = Y.nvdim) (hvd : hasDup vs = false)
    (hX : laplace X = .ok LX) (hY : laplace Y = .ok LY) (i : List Nat) (hi : i.length = X.mesh.ndim) (c : Nat) (hc : c < Y.nvdim) :
    (LX.data.get i).getD c 0 = (LY.data.get i).getD c 0 := by
  obtain ⟨_, _, _, y4⟩ := laplace_eq_vector Y LY vs hd hn hv hvl hvd hY
  obtain ⟨_, _, _, x4⟩ := laplace_eq_vector X LX vs (h.sameMeta.dimsOk hd) (by rw [h.nvdim]; exact hn) (by rw [h.vdims]; exact hv)
    (by rw [h.nvdim]; exact hvl) hvd hX
  rw [x4 i c (by rw [h.nvdim]; exact hc), y4 i c hc, ← h.mesh.1]
  exact sumTo_congr _ _ _ (fun a ha => D_sim h a 2 c i ha hi)

/-! ### each operator with its four facts, bundled for `Commutes.iter`, `Commutes.all_k`, `Commutes.obj` -/

/-- the scalar Laplacian accepts plain scalars, hands back plain scalars, reads nothing but the cells and commutes with one
quarter turn: the general form of `laplace_rot90_iter`, `laplace_rot90_all_k`, `laplace_rotate90_obj` -/
theorem laplace_commutes (a b : Nat) (hab : a ≠ b) : Commutes a b .scal .scal 1 Plain laplace where
  transfer := SameMeta.plain
  accepts := fun hd ha _ hp => laplace_accepts _ hd (by omega) (Or.inl hp)
  over := laplace_over
  result := fun wf _ _ hp _ hL => .of_scalOn (laplace_scalar_result _ _ wf hp hL)
  sim := fun h hd hp hX hY i hi c hc => by
    obtain rfl : c = 0 := by omega
    exact laplace_congr _ _ _ _ h hd (h.nvdim.trans hp.1) hX hY i hi
  quarter := fun {da db f R L LR RL} hf hR hL hLR hRL i hi c hc => by
    obtain rfl : c = 0 := by omega
    have g := hf.rot
    exact laplace_rot90_quarter f R L LR RL a b g.wf hf.ext.1 g.vshape g.ha g.hb hab g.tw hR hL hLR
      hRL i hi

/-- the gradient on meshes with `N` axes (results: the positional labels, paired positionally): the general form of
`grad_rot90_iter`, `grad_rot90_all_k`, `grad_rotate90_obj` -/
theorem grad_commutes (a b N : Nat) (labels : List String) (hab : a ≠ b) (hlab : posVdims N = some labels)
    (hlen : labels.length = N) (hnd : hasDup labels = false) :
    Commutes a b .scal (.vec a b labels) N (fun f => Plain f ∧ f.mesh.ndim = N) grad where
  transfer := fun h e => ⟨h.plain e.1, h.ndim.symm.trans e.2⟩
  accepts := fun hd ha _ e => grad_accepts _ e.1 hd (by omega)
  over := grad_over
  result := fun {f G} wf ha hb _ e hG =>
    .of_vecOn (grad_result f G a b labels wf e.1 ha hb hab (by rw [e.2]; exact hlab) (by rw [e.2]; exact hlen) hnd hG)
      ((grad_eq f G wf.dims hG).2.1.trans e.2)
  sim := fun h hd e hX hY i hi c hc => grad_congr _ _ _ _ h hd hX hY i hi c (by rw [h.mesh.1, e.2]; exact hc)
  quarter := fun {da db f R G GR RG} hf hR hG hGR hRG i hi c hc => by
    have g := hf.rot
    exact grad_rot90_quarter f R G GR RG a b g.wf hf.ext.1 g.vshape g.ha g.hb hab g.tw hR hG hGR
      hRG i hi c (by rw [hf.ext.2]; exact hc)

/-- the divergence of a field whose mapping `σ` carries the stored components `v1`, `v2` onto the plane: the general form of
`div_rot90_iter`, `div_rot90_all_k`, `div_rotate90_obj` -/
theorem div_commutes (a b v1 v2 : Nat) (vs : List String) (σ : Nat → Nat) (hab : a ≠ b) :
    Commutes a b (.vec v1 v2 vs) .scal 1 (DivE a b v1 v2 vs σ) div where
  transfer := DivE.transfer
  accepts := fun hd ha _ e => div_accepts _ vs σ hd e.hnn (by rw [e.hnn]; omega) e.hv e.hvl e.hvd e.hσ
  over := div_over
  result := fun wf _ _ _ e hL => .of_scalOn (div_result _ _ vs σ wf e.hv e.hvl e.hvd e.hσ hL)
  sim := fun h hd e hX hY i hi c hc => by
    obtain rfl : c = 0 := by omega
    exact div_congr _ _ _ _ vs σ h hd e.hv e.hvl e.hvd e.hσ hX hY i hi
  quarter := fun {da db f R L LR RL} hf hR hL hLR hRL i hi c hc => by
    obtain rfl : c = 0 := by omega
    have g := hf.rot
    have v : VecMeta a b v1 v2 vs f := hf.kind
    have e := hf.ext
    exact div_rot90_quarter f R L LR RL a b v1 v2 vs σ g.wf g.vshape g.ha g.hb hab g.tw v.hn v.hv v.hvl v.hvd v.hraw e.hσ v.h1 v.h2
      v.hv1 v.hv2 e.hs1 e.hs2 e.hoth hR hL hLR
      hRL i hi

/-- the curl of a field whose reversed mapping `ρ` pairs the three axes one-to-one with the stored components (results: labels
`x, y, z`, paired positionally): the general form of `curl_rot90_iter`, `curl_rot90_all_k`, `curl_rotate90_obj` -/
theorem curl_commutes (a b : Nat) (vs : List String) (σ ρ : Nat → Nat) (ha : a < 3) (hb : b < 3) (hab : a ≠ b) :
    Commutes a b (.vec (ρ a) (ρ b) vs) (.vec a b ["x", "y", "z"]) 3 (CurlE vs σ ρ) curl where
  transfer := CurlE.transfer
  accepts := fun hd _ _ e => curl_accepts _ vs σ ρ hd e.hn e.hnd e.hv e.hvl e.hvd e.hσ e.hρ
  over := curl_over
  result := fun {f C} wf _ _ _ e hC => .of_vecOn (curl_result f C a b vs ρ wf ha hb hab e.hv e.hvl e.hvd e.hρ hC) (curl_nvdim hC)
  sim := fun h hd e hX hY i hi c hc => curl_congr _ _ _ _ vs ρ h hd e.hv e.hvl e.hvd e.hρ hX hY i hi c hc
  quarter := fun {da db f R C CR RC} hf hR hC hCR hRC i hi c hc => by
    have g := hf.rot
    have v : VecMeta a b (ρ a) (ρ b) vs f := hf.kind
    have e := hf.ext
    exact curl_rot90_quarter f R C CR RC a b vs ρ g.wf g.vshape ha hb hab g.tw v.hv v.hvl v.hvd v.hraw v.hmap e.hρ e.hinj
      hR hC hCR hRC i hi c hc

/-- the vector Laplacian of a field with `N` components of which `v1`, `v2` are paired with the plane (results: the operand's
labels, mapping and pairing): the general form of `laplace_rot90_vector_iter`, `laplace_rot90_vector_all_k`,
`laplace_vector_rotate90_obj` -/
theorem laplace_vector_commutes (a b v1 v2 N : Nat) (vs : List String) (hab : a ≠ b) :
    Commutes a b (.vec v1 v2 vs) (.vec v1 v2 vs) N (LapVE N vs) laplace where
  transfer := LapVE.transfer
  accepts := fun hd ha _ e => laplace_accepts _ hd (by omega) (Or.inr ⟨e.hn, vs, e.hv, e.hvl, e.hvd, Or.inr e.hkeys⟩)
  over := laplace_over
  result := fun {f L} wf _ _ hκ e hL => by
    have hn1 : f.nvdim ≠ 1 := by have := e.hn; omega
    exact .of_vecOn (laplace_vector_result f L a b v1 v2 vs wf hκ hL)
      ((laplace_eq_vector f L vs wf.dims hn1 e.hv e.hvl e.hvd hL).1.trans e.hN)
  sim := fun h hd e hX hY i hi c hc => laplace_vector_congr _ _ _ _ vs h hd (by have := e.hn; omega) e.hv e.hvl e.hvd hX hY i hi c
    (by rw [e.hN]; exact hc)
  quarter := fun {da db f R L LR RL} hf hR hL hLR hRL i hi c hc => by
    have g := hf.rot
    have v : VecMeta a b v1 v2 vs f := hf.kind
    exact laplace_rot90_vector_quarter f R L LR RL a b v1 v2 vs g.wf g.tw g.vshape g.ha g.hb hab v.hn v.hv v.hvl v.hvd v.hraw v.hmap
      v.h1 v.h2 v.hv1 v.hv2 v.h12 hR hL hLR
      hRL i hi c (by rw [hf.ext.hN]; exact hc)

/-- **The scalar Laplacian commutes with any number of quarter turns**: for every `n`, every mask,
every mesh dimension, every combination of open and periodic axes in the plane -/
theorem laplace_rot90_iter (f : Fld) (a b n : Nat) (wf : MeshWf f) (tw : TurnWf f a b) (hsub : f.mesh.subs = [])
    (hvs : f.valid.shape = f.mesh.n) (hp : Plain f) (ha : a < f.mesh.ndim) (hb : b < f.mesh.ndim) (hab : a ≠ b) :
    ∃ R L LR RL, rotIter (f.mesh.region.dims.getD a "") (f.mesh.region.dims.getD b "") n f = .ok R ∧ laplace f = .ok L ∧
      laplace R = .ok LR ∧ rotIter (f.mesh.region.dims.getD a "") (f.mesh.region.dims.getD b "") n L = .ok RL ∧
      ∀ i, InMesh R i → (LR.data.get i).getD 0 0 = (RL.data.get i).getD 0 0 := by
  obtain ⟨R, L, LR, RL, h1, h2, h3, h4, _, _, _, _, heq⟩ := (laplace_commutes a b hab).iter hab ⟨⟨wf, tw, hsub, hvs, ha, hb, rfl, rfl⟩, hp, hp⟩ n
  exact ⟨R, L, LR, RL, h1, h2, h3, h4, fun i hi => heq i hi 0 (by omega)⟩

/-- **The gradient commutes with any number of quarter turns** (every mesh dimension ≥ 2, every mask,
every combination of open and periodic axes in the plane): component by component at every cell -/
theorem grad_rot90_iter (f : Fld) (a b n : Nat) (wf : MeshWf f) (tw : TurnWf f a b) (hsub : f.mesh.subs = [])
    (hvs : f.valid.shape = f.mesh.n) (hp : Plain f) (ha : a < f.mesh.ndim) (hb : b < f.mesh.ndim) (hab : a ≠ b) :
    ∃ R G GR RG, rotIter (f.mesh.region.dims.getD a "") (f.mesh.region.dims.getD b "") n f = .ok R ∧ grad f = .ok G ∧
      grad R = .ok GR ∧ rotIter (f.mesh.region.dims.getD a "") (f.mesh.region.dims.getD b "") n G = .ok RG ∧
      ∀ i, InMesh R i → ∀ e, e < f.mesh.ndim → (GR.data.get i).getD e 0 = (RG.data.get i).getD e 0 := by
  obtain ⟨labels, hlab, hlen, hnd⟩ := posVdims_nodup f.mesh.ndim (by omega)
  obtain ⟨R, G, GR, RG, h1, h2, h3, h4, _, _, _, _, heq⟩ := (grad_commutes a b f.mesh.ndim labels hab hlab hlen hnd).iter hab
    ⟨⟨wf, tw, hsub, hvs, ha, hb, rfl, rfl⟩, hp, hp, rfl⟩ n
  exact ⟨R, G, GR, RG, h1, h2, h3, h4, heq⟩

/-- **The divergence commutes with any number of quarter turns** -/
theorem div_rot90_iter (f : Fld) (a b v1 v2 n : Nat) (vs : List String) (σ : Nat → Nat)
    (wf : MeshWf f) (tw : TurnWf f a b) (hsub : f.mesh.subs = []) (hvs : f.valid.shape = f.mesh.n)
    (ha : a < f.mesh.ndim) (hb : b < f.mesh.ndim) (hab : a ≠ b)
    (hn : 1 < f.nvdim) (hnn : f.nvdim = f.mesh.ndim)
    (hv : f.vdims = some vs) (hvl : vs.length = f.nvdim) (hvd : hasDup vs = false)
    (hkeys : (f.vmap.map (·.1)).isPerm vs = true)
    (hraw : ∀ i, (f.data.get i).length = f.nvdim)
    (hσ : ∀ c, c < f.nvdim → σ c < f.mesh.ndim ∧
      Fld.lookup f.vmap (vs.getD c "") = some (f.mesh.region.dims.getD (σ c) ""))
    (h1 : (rDimLast f (f.mesh.region.dims.getD a "")).bind f.vdimIndex = some v1)
    (h2 : (rDimLast f (f.mesh.region.dims.getD b "")).bind f.vdimIndex = some v2)
    (hv1 : v1 < f.nvdim) (hv2 : v2 < f.nvdim) (hs1 : σ v1 = a) (hs2 : σ v2 = b)
    (hoth : ∀ c, c < f.nvdim → c ≠ v1 → c ≠ v2 → σ c ≠ a ∧ σ c ≠ b) :
    ∃ R Dv DR RD, rotIter (f.mesh.region.dims.getD a "") (f.mesh.region.dims.getD b "") n f = .ok R ∧ div f = .ok Dv ∧
      div R = .ok DR ∧ rotIter (f.mesh.region.dims.getD a "") (f.mesh.region.dims.getD b "") n Dv = .ok RD ∧
      ∀ i, InMesh R i → (DR.data.get i).getD 0 0 = (RD.data.get i).getD 0 0 := by
  have h12 : v1 ≠ v2 := ne_of_sigma hab hs1 hs2
  obtain ⟨R, Dv, DR, RD, k1, k2, k3, k4, _, _, _, _, heq⟩ := (div_commutes a b v1 v2 vs σ hab).iter hab
    ⟨⟨wf, tw, hsub, hvs, ha, hb, rfl, rfl⟩, ⟨hn, hv, hvl, hvd, hkeys, vmap_pos (hσ v1 hv1).2, h1, h2, hv1, hv2, h12, hraw⟩, ⟨hnn, hv, hvl, hvd, hσ, hs1, hs2, hoth⟩⟩ n
  exact ⟨R, Dv, DR, RD, k1, k2, k3, k4, fun i hi => heq i hi 0 (by omega)⟩

/-- **The curl commutes with any number of quarter turns** -/
theorem curl_rot90_iter (f : Fld) (a b n : Nat) (vs : List String) (σ ρ : Nat → Nat)
    (wf : MeshWf f) (tw : TurnWf f a b) (hsub : f.mesh.subs = []) (hvs : f.valid.shape = f.mesh.n)
    (ha : a < 3) (hb : b < 3) (hab : a ≠ b) (hn : f.nvdim = 3) (hnd : f.mesh.ndim = 3)
    (hv : f.vdims = some vs) (hvl : vs.length = f.nvdim) (hvd : hasDup vs = false)
    (hkeys : (f.vmap.map (·.1)).isPerm vs = true)
    (hraw : ∀ i, (f.data.get i).length = f.nvdim)
    (hσ : ∀ c, c < 3 → σ c < 3 ∧ Fld.lookup f.vmap (vs.getD c "") = some (f.mesh.region.dims.getD (σ c) ""))
    (hρ : ∀ d, d < 3 → ρ d < 3 ∧ rDimLast f (f.mesh.region.dims.getD d "") = some (vs.getD (ρ d) ""))
    (hinj : ρ 0 ≠ ρ 1 ∧ ρ 0 ≠ ρ 2 ∧ ρ 1 ≠ ρ 2) :
    ∃ R C CR RC, rotIter (f.mesh.region.dims.getD a "") (f.mesh.region.dims.getD b "") n f = .ok R ∧ curl f = .ok C ∧
      curl R = .ok CR ∧ rotIter (f.mesh.region.dims.getD a "") (f.mesh.region.dims.getD b "") n C = .ok RC ∧
      ∀ i, InMesh R i → ∀ k, k < 3 → (CR.data.get i).getD k 0 = (RC.data.get i).getD k 0 := by
  have ha' : a < f.mesh.ndim := by omega
  have hb' : b < f.mesh.ndim := by omega
  have e : CurlE vs σ ρ f := ⟨hn, hnd, hv, hvl, hvd, hσ, hρ, hinj⟩
  obtain ⟨R, C, CR, RC, k1, k2, k3, k4, _, _, _, _, heq⟩ := (curl_commutes a b vs σ ρ ha hb hab).iter hab
    ⟨⟨wf, tw, hsub, hvs, ha', hb', rfl, rfl⟩, e.vecMeta hkeys hraw ha hb hab, e⟩ n
  exact ⟨R, C, CR, RC, k1, k2, k3, k4, heq⟩

/-- **The vector Laplacian commutes with any number of quarter turns** -/
theorem laplace_rot90_vector_iter (f : Fld) (a b v1 v2 n : Nat) (vs : List String)
    (wf : MeshWf f) (tw : TurnWf f a b) (hsub : f.mesh.subs = []) (hvs : f.valid.shape = f.mesh.n)
    (ha : a < f.mesh.ndim) (hb : b < f.mesh.ndim) (hab : a ≠ b) (hn : 1 < f.nvdim)
    (hv : f.vdims = some vs) (hvl : vs.length = f.nvdim) (hvd : hasDup vs = false)
    (hkeys : (f.vmap.map (·.1)).isPerm vs = true) (hmap : 0 < f.vmap.length)
    (hraw : ∀ i, (f.data.get i).length = f.nvdim)
    (h1 : (rDimLast f (f.mesh.region.dims.getD a "")).bind f.vdimIndex = some v1)
    (h2 : (rDimLast f (f.mesh.region.dims.getD b "")).bind f.vdimIndex = some v2)
    (hv1 : v1 < f.nvdim) (hv2 : v2 < f.nvdim) (h12 : v1 ≠ v2) :
    ∃ R L LR RL, rotIter (f.mesh.region.dims.getD a "") (f.mesh.region.dims.getD b "") n f = .ok R ∧ laplace f = .ok L ∧
      laplace R = .ok LR ∧ rotIter (f.mesh.region.dims.getD a "") (f.mesh.region.dims.getD b "") n L = .ok RL ∧
      ∀ i, InMesh R i → ∀ c, c < f.nvdim → (LR.data.get i).getD c 0 = (RL.data.get i).getD c 0 := by
  obtain ⟨R, L, LR, RL, k1, k2, k3, k4, _, _, _, _, heq⟩ := (laplace_vector_commutes a b v1 v2 f.nvdim vs hab).iter hab
    ⟨⟨wf, tw, hsub, hvs, ha, hb, rfl, rfl⟩, ⟨hn, hv, hvl, hvd, hkeys, hmap, h1, h2, hv1, hv2, h12, hraw⟩, ⟨rfl, hn, hv, hvl, hvd, hkeys⟩⟩ n
  exact ⟨R, L, LR, RL, k1, k2, k3, k4, heq⟩

/-! ### `Field.rotate90(ax1, ax2, k)` in one go, every integer `k` -/

/-- **Refinement of the one-go turn to quarter turns, scalar fields.**  For every integer `k`,
`Field.rotate90(ax1, ax2, k)` computed in one go (`rot90FldK`) is accepted and cannot be told apart
(`Sim`: meshes alike, same values and validity flags at every well-formed multi-index, same labels
and mapping) from its target: the field itself (`k ≡ 0`), one quarter turn (`k ≡ 1`), two successive
quarter turns (`k ≡ 2`), or one quarter turn in the plane named the other way round (`k ≡ 3 mod 4`); the left side of
`hT` is `targetK` (`Lemmas/C05RotK.lean`) written out. -/
theorem rotate90_k_refines_turns_scalar (f Tg : Fld) (a b : Nat) (k : Int) (wf : MeshWf f) (tw : TurnWf f a b)
    (hsub : f.mesh.subs = []) (hvs : f.valid.shape = f.mesh.n) (hp : Plain f) (ha : a < f.mesh.ndim) (hb : b < f.mesh.ndim)
    (hab : a ≠ b)
    (hT : (if k % 4 = 0 then .ok f
           else if k % 4 = 1 then rot90Fld f (f.mesh.region.dims.getD a "") (f.mesh.region.dims.getD b "")
           else if k % 4 = 2 then rotIter (f.mesh.region.dims.getD a "") (f.mesh.region.dims.getD b "") 2 f
           else rot90Fld f (f.mesh.region.dims.getD b "") (f.mesh.region.dims.getD a "")) = .ok Tg) :
    ∃ R', rot90FldK f (f.mesh.region.dims.getD a "") (f.mesh.region.dims.getD b "") k = .ok R' ∧ Plain R' ∧ Sim R' Tg := by
  obtain ⟨R', h1, h2, h3⟩ := Kind.simK (κ := .scal) f Tg k wf tw hsub hvs hp ha hb hab hT
  exact ⟨R', h1, h3.symm.plain hp, h2⟩

/-- **Refinement of the one-go turn to quarter turns, vector fields**: likewise, with the two
paired components multiplied by the matrix of `cos/sin(k·π/2)` in one go on one side and turned
quarter turn by quarter turn on the other. -/
theorem rotate90_k_refines_turns_vector (f Tg : Fld) (a b v1 v2 : Nat) (vs : List String) (k : Int) (wf : MeshWf f)
    (tw : TurnWf f a b) (hsub : f.mesh.subs = []) (hvs : f.valid.shape = f.mesh.n)
    (ha : a < f.mesh.ndim) (hb : b < f.mesh.ndim) (hab : a ≠ b) (hn : 1 < f.nvdim)
    (hv : f.vdims = some vs) (hvl : vs.length = f.nvdim) (hvd : hasDup vs = false)
    (hkeys : (f.vmap.map (·.1)).isPerm vs = true) (hmap : 0 < f.vmap.length)
    (hraw : ∀ i, (f.data.get i).length = f.nvdim)
    (h1 : (rDimLast f (f.mesh.region.dims.getD a "")).bind f.vdimIndex = some v1)
    (h2 : (rDimLast f (f.mesh.region.dims.getD b "")).bind f.vdimIndex = some v2)
    (hv1 : v1 < f.nvdim) (hv2 : v2 < f.nvdim) (h12 : v1 ≠ v2)
    (hT : (if k % 4 = 0 then .ok f
           else if k % 4 = 1 then rot90Fld f (f.mesh.region.dims.getD a "") (f.mesh.region.dims.getD b "")
           else if k % 4 = 2 then rotIter (f.mesh.region.dims.getD a "") (f.mesh.region.dims.getD b "") 2 f
           else rot90Fld f (f.mesh.region.dims.getD b "") (f.mesh.region.dims.getD a "")) = .ok Tg) :
    ∃ R', rot90FldK f (f.mesh.region.dims.getD a "") (f.mesh.region.dims.getD b "") k = .ok R' ∧ Sim R' Tg := by
  obtain ⟨R', k1, k2, _⟩ := Kind.simK (κ := .vec v1 v2 vs) f Tg k wf tw hsub hvs
    ⟨hn, hv, hvl, hvd, hkeys, hmap, h1, h2, hv1, hv2, h12, hraw⟩ ha hb hab hT
  exact ⟨R', k1, k2⟩

/-- **The scalar Laplacian commutes with `Field.rotate90(ax1, ax2, k)` for EVERY integer `k`**
(negative included) — on the code-shaped model `rot90FldK` that computes the turn in one go like
the code (`np.rot90(·, k)`, corners turned by the matrix of `cos/sin(k·π/2)`, counts / units / `bc`
exchanged for odd `k`): every validity mask, every mesh dimension, every plane of axes, every
combination of open and periodic axes in the plane.  All four fields exist and
`laplace(rotate90(f, k)) = rotate90(laplace(f), k)` at every cell. -/
theorem laplace_rot90_all_k (f : Fld) (a b : Nat) (k : Int) (wf : MeshWf f) (tw : TurnWf f a b) (hsub : f.mesh.subs = [])
    (hvs : f.valid.shape = f.mesh.n) (hp : Plain f) (ha : a < f.mesh.ndim) (hb : b < f.mesh.ndim) (hab : a ≠ b) :
    ∃ R L LR RL, rot90FldK f (f.mesh.region.dims.getD a "") (f.mesh.region.dims.getD b "") k = .ok R ∧ laplace f = .ok L ∧
      laplace R = .ok LR ∧ rot90FldK L (f.mesh.region.dims.getD a "") (f.mesh.region.dims.getD b "") k = .ok RL ∧
      ∀ i, InMesh R i → (LR.data.get i).getD 0 0 = (RL.data.get i).getD 0 0 := by
  obtain ⟨R, L, LR, RL, h1, h2, h3, h4, heq⟩ := (laplace_commutes a b hab).all_k (laplace_commutes b a hab.symm) id hab
    ⟨⟨wf, tw, hsub, hvs, ha, hb, rfl, rfl⟩, hp, hp⟩ k
  exact ⟨R, L, LR, RL, h1, h2, h3, h4, fun i hi => heq i hi 0 (by omega)⟩

/-- **The gradient commutes with `Field.rotate90(ax1, ax2, k)` for every integer `k`** (every mesh
dimension ≥ 2, every mask, open and periodic axes), component by component at every cell. -/
theorem grad_rot90_all_k (f : Fld) (a b : Nat) (k : Int) (wf : MeshWf f) (tw : TurnWf f a b) (hsub : f.mesh.subs = [])
    (hvs : f.valid.shape = f.mesh.n) (hp : Plain f) (ha : a < f.mesh.ndim) (hb : b < f.mesh.ndim) (hab : a ≠ b) :
    ∃ R G GR RG, rot90FldK f (f.mesh.region.dims.getD a "") (f.mesh.region.dims.getD b "") k = .ok R ∧ grad f = .ok G ∧
      grad R = .ok GR ∧ rot90FldK G (f.mesh.region.dims.getD a "") (f.mesh.region.dims.getD b "") k = .ok RG ∧
      ∀ i, InMesh R i → ∀ e, e < f.mesh.ndim → (GR.data.get i).getD e 0 = (RG.data.get i).getD e 0 := by
  obtain ⟨labels, hlab, hlen, hnd⟩ := posVdims_nodup f.mesh.ndim (by omega)
  exact (grad_commutes a b f.mesh.ndim labels hab hlab hlen hnd).all_k (grad_commutes b a f.mesh.ndim labels hab.symm hlab hlen hnd)
    id hab ⟨⟨wf, tw, hsub, hvs, ha, hb, rfl, rfl⟩, hp, hp, rfl⟩ k

/-- **The divergence commutes with `Field.rotate90(ax1, ax2, k)` for every integer `k`** (one-to-one
mapping of components onto axes, every mask, open and periodic axes). -/
theorem div_rot90_all_k (f : Fld) (a b v1 v2 : Nat) (k : Int) (vs : List String) (σ : Nat → Nat)
    (wf : MeshWf f) (tw : TurnWf f a b) (hsub : f.mesh.subs = []) (hvs : f.valid.shape = f.mesh.n)
    (ha : a < f.mesh.ndim) (hb : b < f.mesh.ndim) (hab : a ≠ b)
    (hn : 1 < f.nvdim) (hnn : f.nvdim = f.mesh.ndim)
    (hv : f.vdims = some vs) (hvl : vs.length = f.nvdim) (hvd : hasDup vs = false)
    (hkeys : (f.vmap.map (·.1)).isPerm vs = true)
    (hraw : ∀ i, (f.data.get i).length = f.nvdim)
    (hσ : ∀ c, c < f.nvdim → σ c < f.mesh.ndim ∧
      Fld.lookup f.vmap (vs.getD c "") = some (f.mesh.region.dims.getD (σ c) ""))
    (h1 : (rDimLast f (f.mesh.region.dims.getD a "")).bind f.vdimIndex = some v1)
    (h2 : (rDimLast f (f.mesh.region.dims.getD b "")).bind f.vdimIndex = some v2)
    (hv1 : v1 < f.nvdim) (hv2 : v2 < f.nvdim) (hs1 : σ v1 = a) (hs2 : σ v2 = b)
    (hoth : ∀ c, c < f.nvdim → c ≠ v1 → c ≠ v2 → σ c ≠ a ∧ σ c ≠ b) :
    ∃ R Dv DR RD, rot90FldK f (f.mesh.region.dims.getD a "") (f.mesh.region.dims.getD b "") k = .ok R ∧ div f = .ok Dv ∧
      div R = .ok DR ∧ rot90FldK Dv (f.mesh.region.dims.getD a "") (f.mesh.region.dims.getD b "") k = .ok RD ∧
      ∀ i, InMesh R i → (DR.data.get i).getD 0 0 = (RD.data.get i).getD 0 0 := by
  have h12 : v1 ≠ v2 := ne_of_sigma hab hs1 hs2
  obtain ⟨R, Dv, DR, RD, k1, k2, k3, k4, heq⟩ := (div_commutes a b v1 v2 vs σ hab).all_k (div_commutes b a v2 v1 vs σ hab.symm)
    DivE.symm hab ⟨⟨wf, tw, hsub, hvs, ha, hb, rfl, rfl⟩, ⟨hn, hv, hvl, hvd, hkeys, vmap_pos (hσ v1 hv1).2, h1, h2, hv1, hv2, h12, hraw⟩, ⟨hnn, hv, hvl, hvd, hσ, hs1, hs2, hoth⟩⟩ k
  exact ⟨R, Dv, DR, RD, k1, k2, k3, k4, fun i hi => heq i hi 0 (by omega)⟩

/-- **The curl commutes with `Field.rotate90(ax1, ax2, k)` for every integer `k`** (one-to-one
pairing of the three components with the three axes, every mask, open and periodic axes). -/
theorem curl_rot90_all_k (f : Fld) (a b : Nat) (k : Int) (vs : List String) (σ ρ : Nat → Nat)
    (wf : MeshWf f) (tw : TurnWf f a b) (hsub : f.mesh.subs = []) (hvs : f.valid.shape = f.mesh.n)
    (ha : a < 3) (hb : b < 3) (hab : a ≠ b) (hn : f.nvdim = 3) (hnd : f.mesh.ndim = 3)
    (hv : f.vdims = some vs) (hvl : vs.length = f.nvdim) (hvd : hasDup vs = false)
    (hkeys : (f.vmap.map (·.1)).isPerm vs = true)
    (hraw : ∀ i, (f.data.get i).length = f.nvdim)
    (hσ : ∀ c, c < 3 → σ c < 3 ∧ Fld.lookup f.vmap (vs.getD c "") = some (f.mesh.region.dims.getD (σ c) ""))
    (hρ : ∀ d, d < 3 → ρ d < 3 ∧ rDimLast f (f.mesh.region.dims.getD d "") = some (vs.getD (ρ d) ""))
    (hinj : ρ 0 ≠ ρ 1 ∧ ρ 0 ≠ ρ 2 ∧ ρ 1 ≠ ρ 2) :
    ∃ R C CR RC, rot90FldK f (f.mesh.region.dims.getD a "") (f.mesh.region.dims.getD b "") k = .ok R ∧ curl f = .ok C ∧
      curl R = .ok CR ∧ rot90FldK C (f.mesh.region.dims.getD a "") (f.mesh.region.dims.getD b "") k = .ok RC ∧
      ∀ i, InMesh R i → ∀ c, c < 3 → (CR.data.get i).getD c 0 = (RC.data.get i).getD c 0 := by
  have ha' : a < f.mesh.ndim := by omega
  have hb' : b < f.mesh.ndim := by omega
  have e : CurlE vs σ ρ f := ⟨hn, hnd, hv, hvl, hvd, hσ, hρ, hinj⟩
  exact (curl_commutes a b vs σ ρ ha hb hab).all_k (curl_commutes b a vs σ ρ hb ha hab.symm) id hab
    ⟨⟨wf, tw, hsub, hvs, ha', hb', rfl, rfl⟩, e.vecMeta hkeys hraw ha hb hab, e⟩ k

/-- **The vector Laplacian commutes with `Field.rotate90(ax1, ax2, k)` for every integer `k`** (any
mapping that pairs the two axes of the plane with two different components, every mask, open and
periodic axes). -/
theorem laplace_rot90_vector_all_k (f : Fld) (a b v1 v2 : Nat) (k : Int) (vs : List String)
    (wf : MeshWf f) (tw : TurnWf f a b) (hsub : f.mesh.subs = []) (hvs : f.valid.shape = f.mesh.n)
    (ha : a < f.mesh.ndim) (hb : b < f.mesh.ndim) (hab : a ≠ b) (hn : 1 < f.nvdim)
    (hv : f.vdims = some vs) (hvl : vs.length = f.nvdim) (hvd : hasDup vs = false)
    (hkeys : (f.vmap.map (·.1)).isPerm vs = true) (hmap : 0 < f.vmap.length)
    (hraw : ∀ i, (f.data.get i).length = f.nvdim)
    (h1 : (rDimLast f (f.mesh.region.dims.getD a "")).bind f.vdimIndex = some v1)
    (h2 : (rDimLast f (f.mesh.region.dims.getD b "")).bind f.vdimIndex = some v2)
    (hv1 : v1 < f.nvdim) (hv2 : v2 < f.nvdim) (h12 : v1 ≠ v2) :
    ∃ R L LR RL, rot90FldK f (f.mesh.region.dims.getD a "") (f.mesh.region.dims.getD b "") k = .ok R ∧ laplace f = .ok L ∧
      laplace R = .ok LR ∧ rot90FldK L (f.mesh.region.dims.getD a "") (f.mesh.region.dims.getD b "") k = .ok RL ∧
      ∀ i, InMesh R i → ∀ c, c < f.nvdim → (LR.data.get i).getD c 0 = (RL.data.get i).getD c 0 := by
  exact (laplace_vector_commutes a b v1 v2 f.nvdim vs hab).all_k (laplace_vector_commutes b a v2 v1 f.nvdim vs hab.symm) id hab
    ⟨⟨wf, tw, hsub, hvs, ha, hb, rfl, rfl⟩, ⟨hn, hv, hvl, hvd, hkeys, hmap, h1, h2, hv1, hv2, h12, hraw⟩, ⟨rfl, hn, hv, hvl, hvd, hkeys⟩⟩ k

/-! ## 9. Storage order is immaterial: `div` and `curl` are decided by the mapping -/

/-- **Divergence is invariant under permuting the storage order of the components together with
the mapping** (`div_perm`): if `g` stores the components of `f` in another order `π` (under any new
labels `ws`), and its mapping sends each relocated component to the axis `f`'s mapping sends the
original to, then `div g` is accepted whenever `div f` is and the two agree at every cell —
for every mask, every periodicity, every mesh dimension. -/
theorem div_perm (f g Df : Fld) (vs ws : List String) (σ π π' : Nat → Nat) (hdims : DimsOk f)
    (hmesh : g.mesh = f.mesh) (hnv : g.nvdim = f.nvdim) (hvalid : ∀ j, g.valid.get j = f.valid.get j)
    (hdata : ∀ j k, k < f.nvdim → (g.data.get j).getD k 0 = (f.data.get j).getD (π k) 0)
    (hπ : ∀ k, k < f.nvdim → π k < f.nvdim ∧ π' (π k) = k) (hπ' : ∀ c, c < f.nvdim → π' c < f.nvdim ∧ π (π' c) = c)
    (hv : f.vdims = some vs) (hvl : vs.length = f.nvdim) (hvd : hasDup vs = false)
    (hσ : ∀ c, c < f.nvdim → σ c < f.mesh.ndim ∧
      Fld.lookup f.vmap (vs.getD c "") = some (f.mesh.region.dims.getD (σ c) ""))
    (hw : g.vdims = some ws) (hwl : ws.length = g.nvdim) (hwd : hasDup ws = false)
    (hτ : ∀ k, k < f.nvdim → Fld.lookup g.vmap (ws.getD k "") = some (f.mesh.region.dims.getD (σ (π k)) ""))
    (hDf : div f = .ok Df) :
    ∃ Dg, div g = .ok Dg ∧ ∀ i, (Dg.data.get i).getD 0 0 = (Df.data.get i).getD 0 0 := by
  obtain ⟨hnn, _, _, _, d5⟩ := div_eq f Df vs σ hdims hv hvl hvd hσ hDf
  have hgd : DimsOk g := by unfold DimsOk; rw [hmesh]; exact hdims
  have hσg : ∀ k, k < g.nvdim → (fun k => σ (π k)) k < g.mesh.ndim ∧
      Fld.lookup g.vmap (ws.getD k "") = some (g.mesh.region.dims.getD ((fun k => σ (π k)) k) "") := by
    intro k hk
    rw [hnv] at hk
    rw [hmesh]
    exact ⟨(hσ (π k) (hπ k hk).1).1, hτ k hk⟩
  have hpos : 1 ≤ g.nvdim := by
    obtain ⟨_, vs', ts, hv', _, hts, hs⟩ := div_inv hDf
    rw [hv] at hv'
    injection hv' with hv'
    subst hv'
    have := List.length_pos_iff.mpr (sumF_ne_nil hs)
    rw [(mapE_ok _ _ _ hts).1, hvl] at this
    omega
  obtain ⟨Dg, hDg⟩ := div_accepts g ws (fun k => σ (π k)) hgd (by rw [hnv, hmesh]; exact hnn) hpos hw hwl hwd hσg
  obtain ⟨_, _, _, _, g5⟩ := div_eq g Dg ws (fun k => σ (π k)) hgd hw hwl hwd hσg hDg
  refine ⟨Dg, hDg, ?_⟩
  intro i
  rw [g5 i, d5 i, hnv, ← sumTo_perm f.nvdim π π' hπ hπ' (fun c => D f (σ c) 1 c i)]
  apply sumTo_congr
  intro k hk
  exact D_congr_comp f g _ 1 k (π k) i hmesh hvalid (fun j => hdata j k hk)

/-- **Curl is invariant under permuting the storage order of the components together with the
mapping** (`curl_perm`): if `g` stores the components of `f` in another order `π` under new labels
`ws`, every new label is mapped onto an axis, and the reversed mapping of `g` pairs each axis with
the relocated component that `f` pairs with it, then `curl g` is accepted whenever `curl f` is and
the two results — whose components are in AXIS order — are equal component by component at every
cell. -/
theorem curl_perm (f g Cf : Fld) (vs ws : List String) (ρ σg π π' : Nat → Nat) (hdims : DimsOk f)
    (hmesh : g.mesh = f.mesh) (hnv : g.nvdim = f.nvdim) (hvalid : ∀ j, g.valid.get j = f.valid.get j)
    (hdata : ∀ j k, k < f.nvdim → (g.data.get j).getD k 0 = (f.data.get j).getD (π k) 0)
    (hπ' : ∀ c, c < f.nvdim → π' c < f.nvdim ∧ π (π' c) = c)
    (hv : f.vdims = some vs) (hvl : vs.length = f.nvdim) (hvd : hasDup vs = false)
    (hρ : ∀ d, d < 3 → ρ d < 3 ∧ rDimLast f (f.mesh.region.dims.getD d "") = some (vs.getD (ρ d) ""))
    (hw : g.vdims = some ws) (hwl : ws.length = g.nvdim) (hwd : hasDup ws = false)
    (hσg : ∀ c, c < 3 → σg c < 3 ∧ Fld.lookup g.vmap (ws.getD c "") = some (f.mesh.region.dims.getD (σg c) ""))
    (hτ : ∀ d, d < 3 → rDimLast g (f.mesh.region.dims.getD d "") = some (ws.getD (π' (ρ d)) ""))
    (hCf : curl f = .ok Cf) :
    ∃ Cg, curl g = .ok Cg ∧ ∀ i c, c < 3 → (Cg.data.get i).getD c 0 = (Cf.data.get i).getD c 0 := by
  obtain ⟨hn3, hnd, _, _, _, c6⟩ := curl_eq f Cf vs ρ hdims hv hvl hvd hρ hCf
  have hgd : DimsOk g := by unfold DimsOk; rw [hmesh]; exact hdims
  have hρg : ∀ d, d < 3 → (fun d => π' (ρ d)) d < 3 ∧
      rDimLast g (g.mesh.region.dims.getD d "") = some (ws.getD ((fun d => π' (ρ d)) d) "") := by
    intro d hd
    rw [hmesh]
    have := (hπ' (ρ d) (by rw [hn3]; exact (hρ d hd).1)).1
    exact ⟨by rw [hn3] at this; exact this, hτ d hd⟩
  obtain ⟨Cg, hCg⟩ := curl_accepts g ws σg (fun d => π' (ρ d)) hgd (by rw [hnv, hn3]) (by rw [hmesh]; exact hnd) hw hwl hwd
    (by intro c hc; rw [hmesh]; exact hσg c hc) hρg
  obtain ⟨_, _, _, _, _, g6⟩ := curl_eq g Cg ws (fun d => π' (ρ d)) hgd hw hwl hwd hρg hCg
  refine ⟨Cg, hCg, ?_⟩
  have key : ∀ ax d, d < 3 → ∀ i, D g ax 1 (π' (ρ d)) i = D f ax 1 (ρ d) i := by
    intro ax d hd i
    have h1 := hπ' (ρ d) (by rw [hn3]; exact (hρ d hd).1)
    have := D_congr_comp f g ax 1 (π' (ρ d)) (π (π' (ρ d))) i hmesh hvalid (fun j => hdata j _ h1.1)
    rw [this, h1.2]
  intro i c hc
  exact curl_comps_congr (e := fun x y => D g x 1 (π' (ρ y)) i) (e' := fun x y => D f x 1 (ρ y) i) (g6 i) (c6 i)
    (fun x y _ hy => key x y hy i) c hc

/-! ## 10. `Field.rotate90(ax1, ax2, k, reference_point, inplace)` at object level: ANY reference point,
in place or copying, meshes WITH subregions

`T.rotate90F` (`Model/Transform.lean`) is the shared object-level model of `Field.rotate90` that C12 and
C13 tie to the code: the mesh is turned by `Mesh.rotate90` about the given reference point (default: the
region centre) through the constructors — subregions turned about the same point and re-validated —,
values and validity by `np.rot90`, the two paired components by the exact matrix; the in-place form
assigns, the copying form constructs.  The operators see nothing of the reference point (the edge lengths
of a turned region do not depend on it: `T.turned_axis`, used in `meshSim_obj`), of the form, or of the subregion list (they
keep the mesh of their operand): `rotate90_obj_refines_scalar/vector` show that the object-level turn
cannot be told apart (`Sim`) from C05's centre / copy-form turn `rot90FldK` of the field without its
subregion list, and the `*_rotate90_obj` theorems lift `*_rot90_all_k` accordingly.  Each of them takes
the acceptance of the turn of `f` as hypothesis (it depends on the subregion checks of the mesh
constructor) and proves: the operator accepts `f` and the turned field `g`, the SAME turn (same reference
point, either form) accepts the result, the receiver of an in-place call IS the returned field, both
results live on the same mesh — the turned mesh of `g`, subregions included —, and they agree in every
value and every validity flag at every cell.  Vector fields: the statements ask for a one-to-one mapping (`OneToOne`); the
shared model's `Fld.rDim` and C05's `rDimLast` read `_r_dim_mapping` alike (the LAST key mapped onto an axis, `rDim_eq_rDimLast`), so the
proofs do not draw on it. -/

/-- **Refinement of the object-level turn to the centre / copy-form turn, scalar fields.**  Whenever
`Field.rotate90(ax1, ax2, k, reference_point, inplace)` accepts a plain scalar field (any reference
point, either form, any subregions), `rot90FldK` accepts the field without its subregion list and the
two results cannot be told apart by differentiation (`Sim`: same axis names, cell counts, cell sizes,
periodic directions, labels, mapping, and the same values and validity flags at every well-formed
multi-index); the receiver of the call is the result (in place) or the untouched field (copying). -/
theorem rotate90_obj_refines_scalar (f x g : Fld) (a b : Nat) (k : Int) (ref : Option (List Rat)) (inpl : Bool) (wf : MeshWf f)
    (tw : TurnWf f a b) (hp : Plain f) (ha : a < f.mesh.ndim) (hb : b < f.mesh.ndim) (hab : a ≠ b)
    (hg : T.rotate90F f (f.mesh.region.dims.getD a "") (f.mesh.region.dims.getD b "") k ref inpl = .ok (x, g)) :
    ∃ R', rot90FldK (strip f) (f.mesh.region.dims.getD a "") (f.mesh.region.dims.getD b "") k = .ok R' ∧ Sim g R' ∧
      x = (if inpl then g else f) := by
  obtain ⟨R', h1, h2, _, h4, _⟩ := Kind.simObj (κ := .scal) f x g k ref inpl wf tw hp
    ha hb hab hg
  exact ⟨R', h1, h2, h4⟩

/-- **Refinement of the object-level turn to the centre / copy-form turn, vector fields** (one-to-one
mapping that pairs the two axes of the plane with the stored components `v1 ≠ v2`; the hypothesis `hone` is not used, see the head of
this section). -/
theorem rotate90_obj_refines_vector (f x g : Fld) (a b v1 v2 : Nat) (vs : List String) (k : Int) (ref : Option (List Rat))
    (inpl : Bool) (wf : MeshWf f) (tw : TurnWf f a b) (hone : OneToOne f.vmap)
    (ha : a < f.mesh.ndim) (hb : b < f.mesh.ndim) (hab : a ≠ b) (hn : 1 < f.nvdim)
    (hv : f.vdims = some vs) (hvl : vs.length = f.nvdim) (hvd : hasDup vs = false)
    (hkeys : (f.vmap.map (·.1)).isPerm vs = true) (hmap : 0 < f.vmap.length)
    (hraw : ∀ i, (f.data.get i).length = f.nvdim)
    (h1 : (rDimLast f (f.mesh.region.dims.getD a "")).bind f.vdimIndex = some v1)
    (h2 : (rDimLast f (f.mesh.region.dims.getD b "")).bind f.vdimIndex = some v2)
    (hv1 : v1 < f.nvdim) (hv2 : v2 < f.nvdim) (h12 : v1 ≠ v2)
    (hg : T.rotate90F f (f.mesh.region.dims.getD a "") (f.mesh.region.dims.getD b "") k ref inpl = .ok (x, g)) :
    ∃ R', rot90FldK (strip f) (f.mesh.region.dims.getD a "") (f.mesh.region.dims.getD b "") k = .ok R' ∧ Sim g R' ∧
      x = (if inpl then g else f) := by
  obtain ⟨R', k1, k2, _, k4, _⟩ := Kind.simObj (κ := .vec v1 v2 vs) f x g k ref inpl wf tw
    ⟨hn, hv, hvl, hvd, hkeys, hmap, h1, h2, hv1, hv2, h12, hraw⟩ ha hb hab hg
  exact ⟨R', k1, k2, k4⟩

/-- **In place == copy for `Field.rotate90`**: both forms are accepted on exactly the same inputs and
return the same field; the receiver is the returned field (in place) or untouched (copying) — no
hypothesis on the field.  Hence every `*_rotate90_obj` statement about the returned field is a
statement about the receiver of the in-place call. -/
theorem rotate90_inplace_eq_copy (f : Fld) (a1 a2 : String) (k : Int) (ref : Option (List Rat)) (b b' : Bool) (x g : Fld)
    (h : T.rotate90F f a1 a2 k ref b = .ok (x, g)) :
    T.rotate90F f a1 a2 k ref b' = .ok (if b' then g else f, g) ∧ x = if b then g else f := by
  obtain ⟨y, m', i1, i2, h1, h2, h3, h4, rfl, rfl⟩ := (T.rotate90F_ok_iff f a1 a2 k ref b x g).mp h
  exact ⟨(T.rotate90F_ok_iff f a1 a2 k ref b' _ _).mpr ⟨y, m', i1, i2, h1, h2, h3, h4, rfl, rfl⟩, rfl⟩

/-- **On a mesh without subregions the turn about ANY reference point is accepted** (plain scalar
fields; every integer `k`, either form, every reference point with one coordinate per axis — inside,
on or far outside the region): the acceptance hypothesis of the `*_rotate90_obj` theorems is then met,
so they hold unconditionally for every reference point. -/
theorem rotate90_obj_accepts_scalar (f : Fld) (a b : Nat) (k : Int) (ref : Option (List Rat)) (inpl : Bool) (wf : MeshWf f)
    (tw : TurnWf f a b) (hsub : f.mesh.subs = []) (hp : Plain f) (ha : a < f.mesh.ndim) (hb : b < f.mesh.ndim) (hab : a ≠ b)
    (href : ∀ R, ref = some R → R.length = f.mesh.ndim) :
    ∃ x g, T.rotate90F f (f.mesh.region.dims.getD a "") (f.mesh.region.dims.getD b "") k ref inpl = .ok (x, g) :=
  Kind.Is.rotate90F_accepts (κ := .scal) hp k ref inpl wf tw hsub ha hb hab href

/-- … and likewise for every vector field with a one-to-one mapping that pairs both axes of the plane (the hypothesis `hone` is not used,
see the head of this section). -/
theorem rotate90_obj_accepts_vector (f : Fld) (a b v1 v2 : Nat) (vs : List String) (k : Int) (ref : Option (List Rat))
    (inpl : Bool) (wf : MeshWf f) (tw : TurnWf f a b) (hsub : f.mesh.subs = []) (hone : OneToOne f.vmap)
    (ha : a < f.mesh.ndim) (hb : b < f.mesh.ndim) (hab : a ≠ b) (hn : 1 < f.nvdim)
    (hv : f.vdims = some vs) (hvl : vs.length = f.nvdim) (hvd : hasDup vs = false)
    (hkeys : (f.vmap.map (·.1)).isPerm vs = true) (hmap : 0 < f.vmap.length)
    (hraw : ∀ i, (f.data.get i).length = f.nvdim)
    (h1 : (rDimLast f (f.mesh.region.dims.getD a "")).bind f.vdimIndex = some v1)
    (h2 : (rDimLast f (f.mesh.region.dims.getD b "")).bind f.vdimIndex = some v2)
    (hv1 : v1 < f.nvdim) (hv2 : v2 < f.nvdim) (h12 : v1 ≠ v2)
    (href : ∀ R, ref = some R → R.length = f.mesh.ndim) :
    ∃ x g, T.rotate90F f (f.mesh.region.dims.getD a "") (f.mesh.region.dims.getD b "") k ref inpl = .ok (x, g) :=
  Kind.Is.rotate90F_accepts (κ := .vec v1 v2 vs) ⟨hn, hv, hvl, hvd, hkeys, hmap, h1, h2, hv1, hv2, h12, hraw⟩ k ref inpl wf tw hsub ha hb hab href

/-- **The scalar Laplacian commutes with `Field.rotate90(ax1, ax2, k, reference_point, inplace)`** —
ANY reference point, either form (`inpl` for the field, `inpl'` for the result), meshes WITH
subregions, every integer `k`, every validity mask, every mesh dimension, open and periodic axes. -/
theorem laplace_rotate90_obj (f x g : Fld) (a b : Nat) (k : Int) (ref : Option (List Rat)) (inpl inpl' : Bool) (wf : MeshWf f)
    (tw : TurnWf f a b) (hvs : f.valid.shape = f.mesh.n) (hp : Plain f) (ha : a < f.mesh.ndim) (hb : b < f.mesh.ndim) (hab : a ≠ b)
    (hg : T.rotate90F f (f.mesh.region.dims.getD a "") (f.mesh.region.dims.getD b "") k ref inpl = .ok (x, g)) :
    ∃ L LR y RL, laplace f = .ok L ∧ laplace g = .ok LR ∧
      T.rotate90F L (f.mesh.region.dims.getD a "") (f.mesh.region.dims.getD b "") k ref inpl' = .ok (y, RL) ∧
      x = (if inpl then g else f) ∧ y = (if inpl' then RL else L) ∧ LR.mesh = g.mesh ∧ RL.mesh = g.mesh ∧
      ∀ i, InMesh g i → RL.valid.get i = LR.valid.get i ∧ (LR.data.get i).getD 0 0 = (RL.data.get i).getD 0 0 := by
  obtain ⟨L, LR, y, RL, k1, k2, k3, k4, k5, k6, k7, k8⟩ := (laplace_commutes a b hab).obj (laplace_commutes b a hab.symm) id hab
    k ref inpl inpl' wf tw hvs ha hb (κ := .scal) hp hp hg
  exact ⟨L, LR, y, RL, k1, k2, k3, k4, k5, k6, k7, fun i hi => ⟨(k8 i hi).1, (k8 i hi).2 0 (by omega)⟩⟩

/-- **The gradient commutes with `Field.rotate90(ax1, ax2, k, reference_point, inplace)`** — any
reference point, either form, subregions, every `k`, every mask, EVERY mesh dimension ≥ 2. -/
theorem grad_rotate90_obj (f x g : Fld) (a b : Nat) (k : Int) (ref : Option (List Rat)) (inpl inpl' : Bool) (wf : MeshWf f)
    (tw : TurnWf f a b) (hvs : f.valid.shape = f.mesh.n) (hp : Plain f) (ha : a < f.mesh.ndim) (hb : b < f.mesh.ndim) (hab : a ≠ b)
    (hg : T.rotate90F f (f.mesh.region.dims.getD a "") (f.mesh.region.dims.getD b "") k ref inpl = .ok (x, g)) :
    ∃ G GR y RG, grad f = .ok G ∧ grad g = .ok GR ∧
      T.rotate90F G (f.mesh.region.dims.getD a "") (f.mesh.region.dims.getD b "") k ref inpl' = .ok (y, RG) ∧
      x = (if inpl then g else f) ∧ y = (if inpl' then RG else G) ∧ GR.mesh = g.mesh ∧ RG.mesh = g.mesh ∧
      ∀ i, InMesh g i → RG.valid.get i = GR.valid.get i ∧
        ∀ e, e < f.mesh.ndim → (GR.data.get i).getD e 0 = (RG.data.get i).getD e 0 := by
  obtain ⟨labels, hlab, hlen, hnd⟩ := posVdims_nodup f.mesh.ndim (by omega)
  exact (grad_commutes a b f.mesh.ndim labels hab hlab hlen hnd).obj (grad_commutes b a f.mesh.ndim labels hab.symm hlab hlen hnd)
    id hab k ref inpl inpl' wf tw hvs ha hb (κ := .scal) hp ⟨hp, rfl⟩ hg

/-- **The divergence commutes with `Field.rotate90(ax1, ax2, k, reference_point, inplace)`** — any
reference point, either form, subregions, every `k`, every mask (one-to-one mapping of the components
onto the axes; the hypothesis `hone` is not used, see the head of this section). -/
theorem div_rotate90_obj (f x g : Fld) (a b v1 v2 : Nat) (k : Int) (ref : Option (List Rat)) (inpl inpl' : Bool)
    (vs : List String) (σ : Nat → Nat)
    (wf : MeshWf f) (tw : TurnWf f a b) (hvs : f.valid.shape = f.mesh.n)
    (ha : a < f.mesh.ndim) (hb : b < f.mesh.ndim) (hab : a ≠ b)
    (hn : 1 < f.nvdim) (hnn : f.nvdim = f.mesh.ndim)
    (hv : f.vdims = some vs) (hvl : vs.length = f.nvdim) (hvd : hasDup vs = false)
    (hkeys : (f.vmap.map (·.1)).isPerm vs = true) (hone : OneToOne f.vmap)
    (hraw : ∀ i, (f.data.get i).length = f.nvdim)
    (hσ : ∀ c, c < f.nvdim → σ c < f.mesh.ndim ∧
      Fld.lookup f.vmap (vs.getD c "") = some (f.mesh.region.dims.getD (σ c) ""))
    (h1 : (rDimLast f (f.mesh.region.dims.getD a "")).bind f.vdimIndex = some v1)
    (h2 : (rDimLast f (f.mesh.region.dims.getD b "")).bind f.vdimIndex = some v2)
    (hv1 : v1 < f.nvdim) (hv2 : v2 < f.nvdim) (hs1 : σ v1 = a) (hs2 : σ v2 = b)
    (hoth : ∀ c, c < f.nvdim → c ≠ v1 → c ≠ v2 → σ c ≠ a ∧ σ c ≠ b)
    (hg : T.rotate90F f (f.mesh.region.dims.getD a "") (f.mesh.region.dims.getD b "") k ref inpl = .ok (x, g)) :
    ∃ Dv DR y RD, div f = .ok Dv ∧ div g = .ok DR ∧
      T.rotate90F Dv (f.mesh.region.dims.getD a "") (f.mesh.region.dims.getD b "") k ref inpl' = .ok (y, RD) ∧
      x = (if inpl then g else f) ∧ y = (if inpl' then RD else Dv) ∧ DR.mesh = g.mesh ∧ RD.mesh = g.mesh ∧
      ∀ i, InMesh g i → RD.valid.get i = DR.valid.get i ∧ (DR.data.get i).getD 0 0 = (RD.data.get i).getD 0 0 := by
  have h12 : v1 ≠ v2 := ne_of_sigma hab hs1 hs2
  obtain ⟨Dv, DR, y, RD, k1, k2, k3, k4, k5, k6, k7, k8⟩ := (div_commutes a b v1 v2 vs σ hab).obj
    (div_commutes b a v2 v1 vs σ hab.symm) DivE.symm hab k ref inpl inpl' wf tw hvs ha hb
    (κ := .vec v1 v2 vs) ⟨hn, hv, hvl, hvd, hkeys, vmap_pos (hσ v1 hv1).2, h1, h2, hv1, hv2, h12, hraw⟩ ⟨hnn, hv, hvl, hvd, hσ, hs1, hs2, hoth⟩ hg
  exact ⟨Dv, DR, y, RD, k1, k2, k3, k4, k5, k6, k7, fun i hi => ⟨(k8 i hi).1, (k8 i hi).2 0 (by omega)⟩⟩

/-- **The curl commutes with `Field.rotate90(ax1, ax2, k, reference_point, inplace)`** — any reference
point, either form, subregions, every `k`, every mask, each of the six ordered pairs of axes
(one-to-one pairing of the three components with the three axes; the hypothesis `hone` is not used, see the head of this section). -/
theorem curl_rotate90_obj (f x g : Fld) (a b : Nat) (k : Int) (ref : Option (List Rat)) (inpl inpl' : Bool)
    (vs : List String) (σ ρ : Nat → Nat)
    (wf : MeshWf f) (tw : TurnWf f a b) (hvs : f.valid.shape = f.mesh.n)
    (ha : a < 3) (hb : b < 3) (hab : a ≠ b) (hn : f.nvdim = 3) (hnd : f.mesh.ndim = 3)
    (hv : f.vdims = some vs) (hvl : vs.length = f.nvdim) (hvd : hasDup vs = false)
    (hkeys : (f.vmap.map (·.1)).isPerm vs = true) (hone : OneToOne f.vmap)
    (hraw : ∀ i, (f.data.get i).length = f.nvdim)
    (hσ : ∀ c, c < 3 → σ c < 3 ∧ Fld.lookup f.vmap (vs.getD c "") = some (f.mesh.region.dims.getD (σ c) ""))
    (hρ : ∀ d, d < 3 → ρ d < 3 ∧ rDimLast f (f.mesh.region.dims.getD d "") = some (vs.getD (ρ d) ""))
    (hinj : ρ 0 ≠ ρ 1 ∧ ρ 0 ≠ ρ 2 ∧ ρ 1 ≠ ρ 2)
    (hg : T.rotate90F f (f.mesh.region.dims.getD a "") (f.mesh.region.dims.getD b "") k ref inpl = .ok (x, g)) :
    ∃ C CR y RC, curl f = .ok C ∧ curl g = .ok CR ∧
      T.rotate90F C (f.mesh.region.dims.getD a "") (f.mesh.region.dims.getD b "") k ref inpl' = .ok (y, RC) ∧
      x = (if inpl then g else f) ∧ y = (if inpl' then RC else C) ∧ CR.mesh = g.mesh ∧ RC.mesh = g.mesh ∧
      ∀ i, InMesh g i → RC.valid.get i = CR.valid.get i ∧
        ∀ c, c < 3 → (CR.data.get i).getD c 0 = (RC.data.get i).getD c 0 := by
  have ha' : a < f.mesh.ndim := by omega
  have hb' : b < f.mesh.ndim := by omega
  have e : CurlE vs σ ρ f := ⟨hn, hnd, hv, hvl, hvd, hσ, hρ, hinj⟩
  exact (curl_commutes a b vs σ ρ ha hb hab).obj (curl_commutes b a vs σ ρ hb ha hab.symm) id hab k ref inpl inpl' wf tw hvs ha' hb'
    (κ := .vec (ρ a) (ρ b) vs) (e.vecMeta hkeys hraw ha hb hab) e hg

/-- **The vector Laplacian commutes with `Field.rotate90(ax1, ax2, k, reference_point, inplace)`** — any
reference point, either form, subregions, every `k`, every mask (one-to-one mapping that pairs the two
axes of the plane with two different components; the hypothesis `hone` is not used, see the head of this section). -/
theorem laplace_vector_rotate90_obj (f x g : Fld) (a b v1 v2 : Nat) (k : Int) (ref : Option (List Rat)) (inpl inpl' : Bool)
    (vs : List String)
    (wf : MeshWf f) (tw : TurnWf f a b) (hvs : f.valid.shape = f.mesh.n)
    (ha : a < f.mesh.ndim) (hb : b < f.mesh.ndim) (hab : a ≠ b) (hn : 1 < f.nvdim)
    (hv : f.vdims = some vs) (hvl : vs.length = f.nvdim) (hvd : hasDup vs = false)
    (hkeys : (f.vmap.map (·.1)).isPerm vs = true) (hmap : 0 < f.vmap.length) (hone : OneToOne f.vmap)
    (hraw : ∀ i, (f.data.get i).length = f.nvdim)
    (h1 : (rDimLast f (f.mesh.region.dims.getD a "")).bind f.vdimIndex = some v1)
    (h2 : (rDimLast f (f.mesh.region.dims.getD b "")).bind f.vdimIndex = some v2)
    (hv1 : v1 < f.nvdim) (hv2 : v2 < f.nvdim) (h12 : v1 ≠ v2)
    (hg : T.rotate90F f (f.mesh.region.dims.getD a "") (f.mesh.region.dims.getD b "") k ref inpl = .ok (x, g)) :
    ∃ L LR y RL, laplace f = .ok L ∧ laplace g = .ok LR ∧
      T.rotate90F L (f.mesh.region.dims.getD a "") (f.mesh.region.dims.getD b "") k ref inpl' = .ok (y, RL) ∧
      x = (if inpl then g else f) ∧ y = (if inpl' then RL else L) ∧ LR.mesh = g.mesh ∧ RL.mesh = g.mesh ∧
      ∀ i, InMesh g i → RL.valid.get i = LR.valid.get i ∧
        ∀ c, c < f.nvdim → (LR.data.get i).getD c 0 = (RL.data.get i).getD c 0 := by
  exact (laplace_vector_commutes a b v1 v2 f.nvdim vs hab).obj (laplace_vector_commutes b a v2 v1 f.nvdim vs hab.symm) id hab
    k ref inpl inpl' wf tw hvs ha hb (κ := .vec v1 v2 vs) ⟨hn, hv, hvl, hvd, hkeys, hmap, h1, h2, hv1, hv2, h12, hraw⟩ ⟨rfl, hn, hv, hvl, hvd, hkeys⟩ hg

/-! ## 11. When is `TurnWf` needed?  Only for planes with a periodic axis (finding D57) -/

/-- **`TurnWf` is only about periodic planes**: when neither axis of the plane is a periodic direction,
the hypothesis `TurnWf` of all commutation theorems holds — whatever the axis names (multi-character
names included: `Mesh.rotate90` then leaves `bc` alone, and nothing had to turn) and whatever `bc`
names otherwise. -/
theorem turnWf_of_open_plane (f : Fld) (a b : Nat) (wf : MeshWf f) (pa : periodic f a = false) (pb : periodic f b = false) :
    TurnWf f a b := by
  have e : rotBc1 f.mesh.bc (f.mesh.region.dims.getD a "") (f.mesh.region.dims.getD b "") = f.mesh.bc :=
    rotBc1_of_open_plane f a b pa pb
  exact ⟨Or.inr (pa.trans pb.symm), by rw [e]; exact wf.bc_lower, by rw [e]; exact wf.bc_ok⟩

/-- … in particular on every mesh without boundary conditions (`bc = ""`), for every plane -/
theorem turnWf_of_no_bc (f : Fld) (a b : Nat) (wf : MeshWf f) (h : f.mesh.bc = "") : TurnWf f a b := by
  have hp : ∀ x, periodic f x = false := by
    intro x; exact periodic_false_of_word f x (Or.inr (Or.inr h))
  exact turnWf_of_open_plane f a b wf (hp a) (hp b)

/-- **`TurnWf` cannot be dropped for a periodic plane with a multi-character axis name (open finding
D57, model-follows-code).**  On the 4×3 mesh with axes `x` (periodic) and `yy`, `Mesh.rotate90` leaves
`bc = "x"` with the NAME although the periodic direction is now `yy`; all other hypotheses of
`laplace_rot90_all_k` hold, all four fields exist, and the two sides differ (2 vs 10 at cell `[0, 0]`;
the real code returns the same two numbers). -/
theorem turnWf_needed :
    MeshWf exS57 ∧ Plain exS57 ∧ FullyValid exS57 ∧ ¬ BcTurns exS57 0 1 ∧
    ∃ R L LR RL, rot90FldK exS57 "x" "yy" 1 = .ok R ∧ laplace exS57 = .ok L ∧ laplace R = .ok LR ∧
      rot90FldK L "x" "yy" 1 = .ok RL ∧ R.mesh.bc = "x" ∧
      (LR.data.get [0, 0]).getD 0 0 = 2 ∧ (RL.data.get [0, 0]).getD 0 0 = 10 := by
  refine ⟨exS57_wf, ⟨rfl, rfl, rfl⟩, fun _ => rfl, ?_, ?_⟩
  · intro h
    rcases h with ⟨_, h2, _, _⟩ | h
    · revert h2; decide
    · revert h; decide
  · obtain ⟨R, L, LR, RL, hR, hL, hLR, hRL, h1, h2⟩ := chk_some chk57_val
    refine ⟨R, L, LR, RL, hR, hL, hLR, hRL, ?_, h1, h2⟩
    -- the mesh of `R` is the turned mesh, whose `bc` is the `bc` of `exS57`
    obtain ⟨m, hq⟩ := ok_of_toBool (r := rotMeshK exS57.mesh "x" "yy" 1) (by decide +kernel)
    obtain ⟨_, _, hb⟩ := rotMeshK_inv exS57.mesh m 0 1 1 (by decide) (by decide) (by decide) hq
    rw [← ok_inj (rot90FldK_eq (κ := .scal) exS57 1 m exS57_wf.dims ⟨rfl, rfl, rfl⟩ (a := 0) (b := 1) (by decide) (by decide) hq) hR]
    show m.bc = "x"
    rw [hb]
    decide +kernel

/-- **`TurnWf` is nothing more than `BcTurns`** on a well-formed mesh: the turned `bc` is always one the `Mesh`
constructor accepts unchanged (lower case, naming axes once each), because `Mesh.rotate90` exchanges names only when
both are lower-case single characters (repo fix be43fa9b).  With an upper-case single-character name (axes `x`, `Y`,
`bc = "x"`) the turn is accepted with `bc` left alone — the class of open finding D57 (`turnWf_needed_upper`).  The hypothesis `hab` is not
used: the turned `bc` is well formed also for `a = b`. -/
theorem turnWf_of_bcTurns (f : Fld) (a b : Nat) (wf : MeshWf f) (ha : a < f.mesh.ndim) (hb : b < f.mesh.ndim) (hab : a ≠ b)
    (h : BcTurns f a b) : TurnWf f a b :=
  ⟨h, (rotBc1_wf f a b wf ha hb).1, (rotBc1_wf f a b wf ha hb).2⟩

/-- **On a `neumann` or `dirichlet` mesh no axis is periodic, whatever its name**: `Field.diff` does not read the letters
of the word as axis names (repo fix 61bf94db), so an axis `n`, `e`, `u`, `m`, `a`, `ma`, … of a `neumann` mesh is
differentiated as an open direction. -/
theorem periodic_word_open (f : Fld) (ax : Nat) (h : f.mesh.bc = "neumann" ∨ f.mesh.bc = "dirichlet") :
    periodic f ax = false :=
  periodic_false_of_word f ax (by rcases h with h | h; exact Or.inl h; exact Or.inr (Or.inl h))

/-- **An axis with a multi-character name is never periodic** (also when its name is a substring of `bc`,
like the axis `xy` of a mesh periodic along `x` and `y`). -/
theorem periodic_multichar_open (f : Fld) (ax : Nat) (h : (f.mesh.region.dims.getD ax "").toList.length ≠ 1) :
    periodic f ax = false := by
  rw [periodic_eq_perL]
  have : perL f.mesh.bc (f.mesh.region.dims.getD ax "") = false := by
    unfold perL
    rw [List.any_eq_false]
    intro ch _
    simp only [decide_eq_true_eq]
    intro e
    rw [← e] at h
    exact h rfl
  rw [this]; simp

/-- **A periodic axis has a lower-case single-character name** (the mesh lower-cases `bc`): the lower-case
requirement of `BcTurns` only ever concerns the non-periodic axis of a mixed plane. -/
theorem periodic_name_lower (f : Fld) (ax : Nat) (wf : MeshWf f) (h : periodic f ax = true) :
    (f.mesh.region.dims.getD ax "").toList.length = 1 ∧
    (f.mesh.region.dims.getD ax "").toLower = f.mesh.region.dims.getD ax "" := by
  rw [periodic_eq_perL] at h
  simp only [Bool.and_eq_true] at h
  obtain ⟨_, hp⟩ := h
  unfold perL at hp
  rw [List.any_eq_true] at hp
  obtain ⟨ch, hm, he⟩ := hp
  have he' : [ch] = (f.mesh.region.dims.getD ax "").toList := by simpa using he
  refine ⟨by rw [← he']; rfl, ?_⟩
  rw [T.lower_iff, ← he']
  intro c hc
  have : c = ch := by simpa using hc
  rw [this]
  exact (T.lower_iff _).mp wf.bc_lower ch hm

/-- **On a `neumann` / `dirichlet` mesh every plane may be turned**: `TurnWf` holds for all axes, whatever
their names — all commutation theorems apply. -/
theorem turnWf_of_word_bc (f : Fld) (a b : Nat) (wf : MeshWf f) (h : f.mesh.bc = "neumann" ∨ f.mesh.bc = "dirichlet") :
    TurnWf f a b :=
  turnWf_of_open_plane f a b wf (periodic_word_open f a h) (periodic_word_open f b h)

/-- **The exactness theorems apply to every fully valid `neumann` / `dirichlet` mesh with at least three
cells per axis, whatever the axes are called**: `ExactMesh` (hypothesis of `*_exact_quadratic`) holds. -/
theorem exactMesh_of_word (f : Fld) (hv : FullyValid f) (h : f.mesh.bc = "neumann" ∨ f.mesh.bc = "dirichlet")
    (hn : ∀ a, a < f.mesh.ndim → 3 ≤ f.mesh.nAt a ∧ f.mesh.cellAt a ≠ 0) : ExactMesh f :=
  ⟨hv, fun a ha => ⟨periodic_word_open f a h, hn a ha⟩⟩

/-- **`TurnWf` cannot be dropped for a periodic plane whose other axis has an upper-case name either**
(same root as open finding D57: `bc` can only name lower-case single-character axes).  On the 4×3 mesh
with axes `x` (periodic) and `Y` the turn is accepted (repo fix be43fa9b), `bc = "x"` stays with the
name, and the two sides differ (2 vs 10 at cell `[0, 0]`; the real code returns the same two numbers). -/
theorem turnWf_needed_upper :
    MeshWf exS57U ∧ Plain exS57U ∧ FullyValid exS57U ∧ ¬ BcTurns exS57U 0 1 ∧
    ∃ R L LR RL, rot90FldK exS57U "x" "Y" 1 = .ok R ∧ laplace exS57U = .ok L ∧ laplace R = .ok LR ∧
      rot90FldK L "x" "Y" 1 = .ok RL ∧
      (LR.data.get [0, 0]).getD 0 0 = 2 ∧ (RL.data.get [0, 0]).getD 0 0 = 10 := by
  refine ⟨exS57U_wf, ⟨rfl, rfl, rfl⟩, fun _ => rfl, ?_, ?_⟩
  · intro h
    rcases h with ⟨_, _, _, h4⟩ | h
    · revert h4; decide +kernel
    · revert h; decide
  · exact chk_some chk57U_val

/-! ## Non-vacuity: concrete fields that meet the hypotheses

(`exS`, `exV`, `exMesh`, … are defined in `DFV/Lemmas/C05Examples.lean`) -/

example : DimsOk exS := ⟨rfl, by decide⟩

example : Plain exS := ⟨rfl, rfl, rfl⟩

example : FullyValid exS := fun _ => rfl

example : InMesh exS [1, 2, 4] := ⟨rfl, by decide⟩

example : SampledFrom exS 0 exP := fun _ => rfl

/-- all hypotheses of `grad_exact_quadratic` hold together: the gradient of `exS` exists and
its first component at cell (1,2,4) is `2·x₀ = 3` -/
example : ∃ g, grad exS = .ok g ∧ (g.data.get [1, 2, 4]).getD 0 0 = 3 := by
  obtain ⟨g, hg⟩ := grad_accepts exS ⟨rfl, rfl, rfl⟩ ⟨rfl, by decide⟩ (by decide)
  refine ⟨g, hg, ?_⟩
  have := grad_exact_quadratic exS g exP exP1 exP2 ⟨rfl, by decide⟩ (fun _ => rfl) exP_quad exMesh_exact hg
    [1, 2, 4] ⟨rfl, by decide⟩ 0 (by decide)
  rw [this]
  simp [exP1, coords, Mesh.centreAx, Mesh.cellAt, Mesh.nAt, exS, exMesh, Region.edge, Region.hi, Region.lo]
  norm_num

/-- `curl(grad exS)` is defined (so `curl_grad_zero` speaks about something) -/
example : ∃ g r, grad exS = .ok g ∧ curl g = .ok r :=
  curl_grad_defined exS ⟨rfl, by decide⟩ ⟨rfl, rfl, rfl⟩ rfl

example : ∃ g, div exV = .ok g :=
  div_accepts exV ["p", "q", "r"] exσ ⟨rfl, by decide⟩ rfl (by decide) rfl rfl (by decide) exV_σ

example : ∃ c d, curl exV = .ok c ∧ div c = .ok d := by
  obtain ⟨c, hc⟩ := curl_accepts exV ["p", "q", "r"] exσ exρ ⟨rfl, by decide⟩ rfl rfl rfl rfl (by decide)
    (fun c hc => exV_σ c hc) exV_ρ
  obtain ⟨d, hd⟩ := div_curl_defined exV c ⟨rfl, by decide⟩ hc
  exact ⟨c, d, hc, hd⟩

/-- the mapping of `exV` is one-to-one (hypothesis of `rdim_inverts_mapping`) -/
example : ∀ p ∈ exV.vmap, ∀ q ∈ exV.vmap, p.2 = q.2 → p = q := by decide

/-- relabelling `exV` is accepted, so `setVdims_keeps_map` / `div_relabel` are not vacuous -/
example : ∃ g, setVdims exV (some ["u", "v", "w"]) = .ok g := ⟨_, rfl⟩

/-- finding D55: the Laplacian of the permuted field `exV` exists and carries
`exV`'s own labels and mapping (`p ↦ c`, …), not the positional ones -/
example : ∃ g, laplace exV = .ok g ∧ g.vdims = some ["p", "q", "r"] ∧ g.vmap = [("q", "a"), ("p", "c"), ("r", "b")] := by
  obtain ⟨g, hg⟩ := laplace_accepts exV ⟨rfl, by decide⟩ (by decide)
    (Or.inr ⟨by decide, ["p", "q", "r"], rfl, rfl, by decide, Or.inr (by decide)⟩)
  obtain ⟨m1, m2, _, _⟩ := laplace_keeps_meta exV g ["p", "q", "r"] (by decide) rfl rfl hg
  exact ⟨g, hg, m1, m2⟩

/-- the hypotheses of `laplace_rot90_quarter` are met by `exSP` — periodic along axis 0 only —
turned in the MIXED plane of axes 0 (periodic) and 1 (open) (finding D56) -/
example : periodic exSP 0 = true ∧ periodic exSP 1 = false ∧ MeshWf exSP ∧ TurnWf exSP 0 1 ∧ FullyValid exSP ∧
    ∃ R L LR RL, rot90Fld exSP (exSP.mesh.region.dims.getD 0 "") (exSP.mesh.region.dims.getD 1 "") = .ok R ∧
      laplace exSP = .ok L ∧ laplace R = .ok LR ∧
      rot90Fld L (L.mesh.region.dims.getD 0 "") (L.mesh.region.dims.getD 1 "") = .ok RL :=
  ⟨by decide, by decide, exSP_wf, exSP_tw01, fun _ => rfl,
   laplace_rot90_defined exSP 0 1 exSP_wf exSP_tw01 rfl ⟨rfl, rfl, rfl⟩ (by decide) (by decide) (by decide)⟩

/-- … and those of `grad_rot90_quarter` (mixed plane of axes 0 and 2) -/
example : ∃ R G GR RG, rot90Fld exSP (exSP.mesh.region.dims.getD 0 "") (exSP.mesh.region.dims.getD 2 "") = .ok R ∧
      grad exSP = .ok G ∧ grad R = .ok GR ∧
      rot90Fld G (G.mesh.region.dims.getD 0 "") (G.mesh.region.dims.getD 2 "") = .ok RG :=
  grad_rot90_defined exSP 0 2 exSP_wf exSP_tw02 rfl ⟨rfl, rfl, rfl⟩ (by decide) (by decide) (by decide)

/-- … and those of `div_rot90_quarter` for the permuted field `exV` (plane of axes 0 and 1, which
`exV` pairs with its stored components 1 and 2) -/
example : (rDimLast exV (exV.mesh.region.dims.getD 0 "")).bind exV.vdimIndex = some 1 ∧
    (rDimLast exV (exV.mesh.region.dims.getD 1 "")).bind exV.vdimIndex = some 2 ∧ exσ 1 = 0 ∧ exσ 2 = 1 ∧
    (∀ c, c < exV.nvdim → c ≠ 1 → c ≠ 2 → exσ c ≠ 0 ∧ exσ c ≠ 1) ∧ (∀ i, (exV.data.get i).length = exV.nvdim) ∧
    ∃ R Dv DR RD, rot90Fld exV (exV.mesh.region.dims.getD 0 "") (exV.mesh.region.dims.getD 1 "") = .ok R ∧
      div exV = .ok Dv ∧ div R = .ok DR ∧
      rot90Fld Dv (Dv.mesh.region.dims.getD 0 "") (Dv.mesh.region.dims.getD 1 "") = .ok RD := by
  refine ⟨by decide, by decide, rfl, rfl, ?_, fun _ => rfl, ?_⟩
  · intro c hc h1 h2
    have : c = 0 := by unfold exV at hc; simp at hc; omega
    subst this; decide
  · exact div_rot90_defined exV 0 1 1 2 ["p", "q", "r"] exσ exV_wf (exV_tw 0 1) rfl (by decide) (by decide) (by decide)
      (by decide) rfl rfl rfl (by decide) (by decide) exV_σ (by decide) (by decide)

/-- … and those of `curl_rot90_quarter` for `exV` turned in the plane of axes 2, 0 -/
example : ∃ R C CR RC, rot90Fld exV (exV.mesh.region.dims.getD 2 "") (exV.mesh.region.dims.getD 0 "") = .ok R ∧
      curl exV = .ok C ∧ curl R = .ok CR ∧
      rot90Fld C (C.mesh.region.dims.getD 2 "") (C.mesh.region.dims.getD 0 "") = .ok RC :=
  curl_rot90_defined exV 2 0 ["p", "q", "r"] exσ exρ exV_wf (exV_tw 2 0) rfl (by decide) (by decide) (by decide) rfl rfl rfl rfl
    (by decide) (by decide) (fun c hc => exV_σ c hc) exV_ρ

/-- … and those of `laplace_rot90_vector_quarter` for `exV`, whose mapping is NOT positional -/
example : ∃ R L LR RL, rot90Fld exV (exV.mesh.region.dims.getD 0 "") (exV.mesh.region.dims.getD 1 "") = .ok R ∧
      laplace exV = .ok L ∧ laplace R = .ok LR ∧
      rot90Fld L (L.mesh.region.dims.getD 0 "") (L.mesh.region.dims.getD 1 "") = .ok RL :=
  laplace_rot90_vector_defined exV 0 1 1 2 ["p", "q", "r"] exV_wf (exV_tw 0 1) rfl (by decide) (by decide) (by decide)
    (by decide) rfl rfl (by decide) (by decide) (by decide) (by decide) (by decide)

/-- … `grad_rot90_iter` with `n = 7` quarter turns of `exSM` in the plane of axes 0 and 2 -/
example : ∃ R G GR RG, rotIter (exSM.mesh.region.dims.getD 0 "") (exSM.mesh.region.dims.getD 2 "") 7 exSM = .ok R ∧
    grad exSM = .ok G ∧ grad R = .ok GR ∧
    rotIter (exSM.mesh.region.dims.getD 0 "") (exSM.mesh.region.dims.getD 2 "") 7 G = .ok RG ∧
    ∀ i, InMesh R i → ∀ e, e < exSM.mesh.ndim → (GR.data.get i).getD e 0 = (RG.data.get i).getD e 0 :=
  grad_rot90_iter exSM 0 2 7 exSM_wf exSM_tw02 rfl rfl ⟨rfl, rfl, rfl⟩ (by decide) (by decide) (by decide)

/-- `div_perm` and `curl_perm` are not vacuous: `exVp` stores the components of `exV` in the order
`r, p, q` under the labels `u, v, w` with the mapping carried along -/
example : ∃ Df Dg, div exV = .ok Df ∧ div exVp = .ok Dg ∧ ∀ i, (Dg.data.get i).getD 0 0 = (Df.data.get i).getD 0 0 := by
  obtain ⟨Df, hDf⟩ := div_accepts exV ["p", "q", "r"] exσ ⟨rfl, by decide⟩ rfl (by decide) rfl rfl (by decide) exV_σ
  have h3 : ∀ k, k < exV.nvdim → k = 0 ∨ k = 1 ∨ k = 2 := by intro k hk; unfold exV at hk; simp at hk; omega
  obtain ⟨Dg, hDg, h⟩ := div_perm exV exVp Df ["p", "q", "r"] ["u", "v", "w"] exσ exπ exπ' ⟨rfl, by decide⟩ rfl rfl (fun _ => rfl)
    (by intro j k hk; rcases h3 k hk with rfl | rfl | rfl <;> rfl)
    (by intro k hk; rcases h3 k hk with rfl | rfl | rfl <;> decide)
    (by intro k hk; rcases h3 k hk with rfl | rfl | rfl <;> decide)
    rfl rfl (by decide) exV_σ rfl rfl (by decide)
    (by intro k hk; rcases h3 k hk with rfl | rfl | rfl <;> decide) hDf
  exact ⟨Df, Dg, hDf, hDg, h⟩

example : ∃ Cf Cg, curl exV = .ok Cf ∧ curl exVp = .ok Cg ∧
    ∀ i c, c < 3 → (Cg.data.get i).getD c 0 = (Cf.data.get i).getD c 0 := by
  obtain ⟨Cf, hCf⟩ := curl_accepts exV ["p", "q", "r"] exσ exρ ⟨rfl, by decide⟩ rfl rfl rfl rfl (by decide)
    (fun c hc => exV_σ c hc) exV_ρ
  have h3 : ∀ k, k < 3 → k = 0 ∨ k = 1 ∨ k = 2 := by intro k hk; omega
  obtain ⟨Cg, hCg, h⟩ := curl_perm exV exVp Cf ["p", "q", "r"] ["u", "v", "w"] exρ (fun k => exσ (exπ k)) exπ exπ' ⟨rfl, by decide⟩
    rfl rfl (fun _ => rfl)
    (by intro j k hk; rcases h3 k hk with rfl | rfl | rfl <;> rfl)
    (by intro k hk; rcases h3 k hk with rfl | rfl | rfl <;> decide)
    rfl rfl (by decide) exV_ρ rfl rfl (by decide)
    (by intro k hk; rcases h3 k hk with rfl | rfl | rfl <;> decide)
    (by intro k hk; rcases h3 k hk with rfl | rfl | rfl <;> decide) hCf
  exact ⟨Cf, Cg, hCf, hCg, h⟩

/-- `laplace_rot90_all_k` is not vacuous: the MASKED field `exSM` (one invalid cell, periodic along
axis 0) turned by `k = -3` in the mixed plane of axes 0 (periodic) and 1 (open) -/
example : exSM.valid.get [1, 1, 2] = false ∧ ∃ R L LR RL,
    rot90FldK exSM (exSM.mesh.region.dims.getD 0 "") (exSM.mesh.region.dims.getD 1 "") (-3) = .ok R ∧ laplace exSM = .ok L ∧
    laplace R = .ok LR ∧ rot90FldK L (exSM.mesh.region.dims.getD 0 "") (exSM.mesh.region.dims.getD 1 "") (-3) = .ok RL ∧
    ∀ i, InMesh R i → (LR.data.get i).getD 0 0 = (RL.data.get i).getD 0 0 :=
  ⟨by decide, laplace_rot90_all_k exSM 0 1 (-3) exSM_wf exSM_tw01 rfl rfl ⟨rfl, rfl, rfl⟩ (by decide) (by decide) (by decide)⟩


/-- … `div_rot90_all_k` for the masked, permuted field `exVM` and `k = 2` -/
example : ∃ R Dv DR RD, rot90FldK exVM (exVM.mesh.region.dims.getD 0 "") (exVM.mesh.region.dims.getD 1 "") 2 = .ok R ∧
    div exVM = .ok Dv ∧ div R = .ok DR ∧
    rot90FldK Dv (exVM.mesh.region.dims.getD 0 "") (exVM.mesh.region.dims.getD 1 "") 2 = .ok RD ∧
    ∀ i, InMesh R i → (DR.data.get i).getD 0 0 = (RD.data.get i).getD 0 0 :=
  div_rot90_all_k exVM 0 1 1 2 2 ["p", "q", "r"] exσ exVM_wf (exVM_tw 0 1) rfl rfl (by decide) (by decide) (by decide)
    (by decide) rfl rfl rfl (by decide) (by decide) (fun _ => rfl) exV_σ (by decide) (by decide) (by decide) (by decide) rfl rfl
    (by
      intro c hc h1 h2
      have : c = 0 := by unfold exVM exV at hc; simp at hc; omega
      subst this; decide)


/-- … `curl_rot90_all_k` for `exVM`, `k = -1`, plane of axes 2, 0 -/
example : ∃ R C CR RC, rot90FldK exVM (exVM.mesh.region.dims.getD 2 "") (exVM.mesh.region.dims.getD 0 "") (-1) = .ok R ∧
    curl exVM = .ok C ∧ curl R = .ok CR ∧
    rot90FldK C (exVM.mesh.region.dims.getD 2 "") (exVM.mesh.region.dims.getD 0 "") (-1) = .ok RC ∧
    ∀ i, InMesh R i → ∀ c, c < 3 → (CR.data.get i).getD c 0 = (RC.data.get i).getD c 0 :=
  curl_rot90_all_k exVM 2 0 (-1) ["p", "q", "r"] exσ exρ exVM_wf (exVM_tw 2 0) rfl rfl (by decide) (by decide) (by decide) rfl rfl
    rfl rfl (by decide) (by decide) (fun _ => rfl) (fun c hc => exV_σ c hc) exV_ρ (by decide)


/-- … `laplace_rot90_vector_all_k` for `exVM`, `k = 5` -/
example : ∃ R L LR RL, rot90FldK exVM (exVM.mesh.region.dims.getD 0 "") (exVM.mesh.region.dims.getD 1 "") 5 = .ok R ∧
    laplace exVM = .ok L ∧ laplace R = .ok LR ∧
    rot90FldK L (exVM.mesh.region.dims.getD 0 "") (exVM.mesh.region.dims.getD 1 "") 5 = .ok RL ∧
    ∀ i, InMesh R i → ∀ c, c < exVM.nvdim → (LR.data.get i).getD c 0 = (RL.data.get i).getD c 0 :=
  laplace_rot90_vector_all_k exVM 0 1 1 2 5 ["p", "q", "r"] exVM_wf (exVM_tw 0 1) rfl rfl (by decide) (by decide) (by decide)
    (by decide) rfl rfl (by decide) (by decide) (by decide) (fun _ => rfl) (by decide) (by decide) (by decide) (by decide) (by decide)

/-- `ExactAt` is not vacuous: in the masked open field `exSO` (cell (3,2,4) invalid) the cell (1,1,3) is
valid and its runs along the three axes have 4, 3 and 5 cells -/
example : exSO.valid.get [3, 2, 4] = false ∧ ExactAt exSO [1, 1, 3] := by
  unfold ExactAt
  exact ⟨by decide, by decide +kernel⟩

/-! ### non-vacuity of sections 10 and 11 (`exSub`, `exSMs`, `exVMs`, `exSmc`, `exS57` are defined in
`DFV/Lemmas/C05ExamplesObj.lean`) -/

/-- `laplace_rotate90_obj`: the masked scalar field `exSMs` — periodic along `a`, on a mesh WITH a
subregion — turned IN PLACE by `k = -3` in the plane of axes 0 and 2 about the reference point
`(1, 2, 3)`; the result of the Laplacian is turned in the copying form -/
example : exSMs.mesh.subs ≠ [] ∧ ∃ x g L LR y RL, T.rotate90F exSMs "a" "c" (-3) (some [1, 2, 3]) true = .ok (x, g) ∧
    laplace exSMs = .ok L ∧ laplace g = .ok LR ∧ T.rotate90F L "a" "c" (-3) (some [1, 2, 3]) false = .ok (y, RL) ∧
    x = g ∧ y = L ∧ LR.mesh = RL.mesh := by
  obtain ⟨x, g, h⟩ := exSMs_rot
  obtain ⟨L, LR, y, RL, h1, h2, h3, h4, h5, h6, h7, _⟩ := laplace_rotate90_obj exSMs x g 0 2 (-3) (some [1, 2, 3]) true false
    exSMs_wf exSMs_tw02 rfl ⟨rfl, rfl, rfl⟩ (by decide) (by decide) (by decide) h
  exact ⟨by decide, x, g, L, LR, y, RL, h, h1, h2, h3, by simpa using h4, by simpa using h5, by rw [h6, h7]⟩

/-- … `grad_rotate90_obj` for the same call -/
example : ∃ x g G GR y RG, T.rotate90F exSMs "a" "c" (-3) (some [1, 2, 3]) true = .ok (x, g) ∧
    grad exSMs = .ok G ∧ grad g = .ok GR ∧ T.rotate90F G "a" "c" (-3) (some [1, 2, 3]) true = .ok (y, RG) ∧ y = RG := by
  obtain ⟨x, g, h⟩ := exSMs_rot
  obtain ⟨G, GR, y, RG, h1, h2, h3, _, h5, _⟩ := grad_rotate90_obj exSMs x g 0 2 (-3) (some [1, 2, 3]) true true
    exSMs_wf exSMs_tw02 rfl ⟨rfl, rfl, rfl⟩ (by decide) (by decide) (by decide) h
  exact ⟨x, g, G, GR, y, RG, h, h1, h2, h3, by simpa using h5⟩

/-- … `curl_rotate90_obj` / `div_rotate90_obj` / `laplace_vector_rotate90_obj`: the masked, permuted vector field
`exVMs` on the mesh with a subregion, copying form, `k = 5`, plane of axes 2 and 0, reference point `(1/2, 2, -3)`
outside the region; the mapping of `exVMs` is one-to-one -/
example : OneToOne exVMs.vmap := by unfold OneToOne; decide

example : ∃ x g C CR y RC, T.rotate90F exVMs "c" "a" 5 (some [1/2, 2, -3]) false = .ok (x, g) ∧
    curl exVMs = .ok C ∧ curl g = .ok CR ∧ T.rotate90F C "c" "a" 5 (some [1/2, 2, -3]) false = .ok (y, RC) := by
  obtain ⟨x, g, h⟩ := exVMs_rot
  obtain ⟨C, CR, y, RC, h1, h2, h3, _⟩ := curl_rotate90_obj exVMs x g 2 0 5 (some [1/2, 2, -3]) false false ["p", "q", "r"] exσ exρ
    exVMs_wf (exVMs_tw 2 0) rfl (by decide) (by decide) (by decide) rfl rfl rfl rfl (by decide) (by decide) (by unfold OneToOne; decide)
    (fun _ => rfl) (fun c hc => exV_σ c hc) exV_ρ (by decide) h
  exact ⟨x, g, C, CR, y, RC, h, h1, h2, h3⟩

example : ∃ x g Dv DR y RD, T.rotate90F exVMs "c" "a" 5 (some [1/2, 2, -3]) false = .ok (x, g) ∧
    div exVMs = .ok Dv ∧ div g = .ok DR ∧ T.rotate90F Dv "c" "a" 5 (some [1/2, 2, -3]) true = .ok (y, RD) := by
  obtain ⟨x, g, h⟩ := exVMs_rot
  obtain ⟨Dv, DR, y, RD, h1, h2, h3, _⟩ := div_rotate90_obj exVMs x g 2 0 0 1 5 (some [1/2, 2, -3]) false true ["p", "q", "r"] exσ
    exVMs_wf (exVMs_tw 2 0) rfl (by decide) (by decide) (by decide) (by decide) rfl rfl rfl (by decide) (by decide)
    (by unfold OneToOne; decide) (fun _ => rfl) exV_σ (by decide) (by decide) (by decide) (by decide) rfl rfl
    (by
      intro c hc h1 h2
      have : c = 2 := by unfold exVMs exVM exV at hc; simp at hc; omega
      subst this; decide) h
  exact ⟨x, g, Dv, DR, y, RD, h, h1, h2, h3⟩

example : ∃ x g L LR y RL, T.rotate90F exVMs "c" "a" 5 (some [1/2, 2, -3]) false = .ok (x, g) ∧
    laplace exVMs = .ok L ∧ laplace g = .ok LR ∧ T.rotate90F L "c" "a" 5 (some [1/2, 2, -3]) false = .ok (y, RL) := by
  obtain ⟨x, g, h⟩ := exVMs_rot
  obtain ⟨L, LR, y, RL, h1, h2, h3, _⟩ := laplace_vector_rotate90_obj exVMs x g 2 0 0 1 5 (some [1/2, 2, -3]) false false ["p", "q", "r"]
    exVMs_wf (exVMs_tw 2 0) rfl (by decide) (by decide) (by decide) (by decide) rfl rfl (by decide) (by decide) (by decide)
    (by unfold OneToOne; decide) (fun _ => rfl) (by decide) (by decide) (by decide) (by decide) (by decide) h
  exact ⟨x, g, L, LR, y, RL, h, h1, h2, h3⟩

/-- `turnWf_of_open_plane`: on `exSmc` (axes `x`, `yy`, `zeta`, periodic along `x`) the plane of the two
multi-character axes is open, so every commutation theorem applies to it -/
example : periodic exSmc 0 = true ∧ TurnWf exSmc 1 2 ∧
    ∃ R G GR RG, rot90FldK exSmc (exSmc.mesh.region.dims.getD 1 "") (exSmc.mesh.region.dims.getD 2 "") 3 = .ok R ∧ grad exSmc = .ok G ∧
      grad R = .ok GR ∧ rot90FldK G (exSmc.mesh.region.dims.getD 1 "") (exSmc.mesh.region.dims.getD 2 "") 3 = .ok RG := by
  have tw := turnWf_of_open_plane exSmc 1 2 exSmc_wf (by decide) (by decide)
  obtain ⟨R, G, GR, RG, h1, h2, h3, h4, _⟩ := grad_rot90_all_k exSmc 1 2 3 exSmc_wf tw rfl rfl ⟨rfl, rfl, rfl⟩ (by decide) (by decide) (by decide)
  exact ⟨by decide, tw, R, G, GR, RG, h1, h2, h3, h4⟩

/-- `curl_relabel` / `div_accepted_iff` / `div_refusal` / `curl_refusal` are not vacuous: `exV` is relabelled
(`exσ` and `exρ` are mutually inverse), `div exV` is accepted, and the scalar field `exS` is refused by both -/
example : (∀ d, d < 3 → exρ d < 3 ∧ exσ (exρ d) = d) ∧ (∃ f', setVdims exV (some ["u", "v", "w"]) = .ok f') ∧
    (∃ e, div exS = .error e) ∧ (∃ e, curl exS = .error e) :=
  ⟨by decide, ⟨_, rfl⟩, div_refusal exS (Or.inl (by decide)), curl_refusal exS (Or.inl (by decide))⟩

/-- `rotate90_obj_accepts_scalar` + `grad_rotate90_obj`: on the subregion-free masked field `exSM` the turn by `k = 6`
about the far-away reference point `(100, -7, 1/3)` is accepted in place, and the gradient commutes with it -/
example : ∃ x g G GR y RG, T.rotate90F exSM "a" "c" 6 (some [100, -7, 1/3]) true = .ok (x, g) ∧ grad exSM = .ok G ∧
    grad g = .ok GR ∧ T.rotate90F G "a" "c" 6 (some [100, -7, 1/3]) true = .ok (y, RG) := by
  obtain ⟨x, g, h⟩ := rotate90_obj_accepts_scalar exSM 0 2 6 (some [100, -7, 1/3]) true exSM_wf exSM_tw02 rfl ⟨rfl, rfl, rfl⟩
    (by decide) (by decide) (by decide) (by intro R hR; injection hR with hR; subst hR; rfl)
  obtain ⟨G, GR, y, RG, h1, h2, h3, _⟩ := grad_rotate90_obj exSM x g 0 2 6 (some [100, -7, 1/3]) true true
    exSM_wf exSM_tw02 rfl ⟨rfl, rfl, rfl⟩ (by decide) (by decide) (by decide) h
  exact ⟨x, g, G, GR, y, RG, h, h1, h2, h3⟩

/-- `periodic_word_open` / `turnWf_of_word_bc` / `exactMesh_of_word`: on `exSN` (axes `n`, `y`, `bc = "neumann"`) the axis
`n` is open although `"n"` occurs in `"neumann"`, and the plane may be turned -/
example : exSN.mesh.bc = "neumann" ∧ exSN.mesh.region.dims = ["n", "y"] ∧ periodic exSN 0 = false ∧ TurnWf exSN 0 1 ∧
    ∃ R L LR RL, rot90FldK exSN (exSN.mesh.region.dims.getD 0 "") (exSN.mesh.region.dims.getD 1 "") 1 = .ok R ∧ laplace exSN = .ok L ∧
      laplace R = .ok LR ∧ rot90FldK L (exSN.mesh.region.dims.getD 0 "") (exSN.mesh.region.dims.getD 1 "") 1 = .ok RL := by
  have tw := turnWf_of_word_bc exSN 0 1 exSN_wf (Or.inl rfl)
  obtain ⟨R, L, LR, RL, h1, h2, h3, h4, _⟩ := laplace_rot90_all_k exSN 0 1 1 exSN_wf tw rfl rfl ⟨rfl, rfl, rfl⟩ (by decide) (by decide) (by decide)
  exact ⟨rfl, rfl, periodic_word_open exSN 0 (Or.inl rfl), tw, R, L, LR, RL, h1, h2, h3, h4⟩

/-- `periodic_multichar_open` / `periodic_name_lower`: on `exSXY` (axes `x`, `y`, `xy`, `bc = "xy"`) the axes `x`, `y` are
periodic, the axis `xy` is not -/
example : periodic exSXY 0 = true ∧ periodic exSXY 1 = true ∧ periodic exSXY 2 = false ∧
    (exSXY.mesh.region.dims.getD 2 "").toList.length ≠ 1 :=
  ⟨by decide, by decide, periodic_multichar_open exSXY 2 (by decide), by decide⟩

/-- `turnWf_of_bcTurns`: for `exSP` (periodic along `a`) the plane of axes 0 and 1 — both names single lower-case
characters — needs nothing but the well-formedness of the mesh -/
example : TurnWf exSP 0 1 :=
  turnWf_of_bcTurns exSP 0 1 exSP_wf (by decide) (by decide) (by decide) (Or.inl ⟨by decide, by decide, lower_a, lower_b⟩)

end DFV.C05
