import DFV.Lemmas.C02Kind
import DFV.Lemmas.C02Fast
import DFV.Lemmas.C02Line
import DFV.Lemmas.C02Labels
import DFV.Lemmas.C02Ex
/-!
# C02 — a field holds exactly the value its specification assigns to every cell

Property theorems only (helper lemmas live in `DFV/Lemmas/C02*.lean`).  All statements are
about the executable model `DFV/Model/C02.lean` of `Field._as_array`, the `array` setter,
`update_field_values`, the constructor (`nvdim` check, value conversion, `vdims` setter),
`Field.__call__`, `__getattr__`, `__iter__`, `Mesh.region2slices`, `Mesh.line`, `Field.line` and
the data frame built by `Line.__init__` (column names and column assignment), for every number of
dimensions, every mesh, every component count, every value type `V` (the model only moves values,
so int, float, complex and bool fields are all instances), every specification and every history
of accepted and rejected assignments.  An array entry is addressed by `i ++ [c]`: cell `i`,
component `c`; the array of a field on mesh `m` has shape `m.n ++ [nvdim]`, i.e. `(*n, nvdim)`.
-/
namespace DFV.C02
open DFV DFV.Mesh

variable {V : Type} [Inhabited V]

/-! ## constants, arrays, callables, source fields -/

/-- A scalar constant (for `nvdim = 1`, or the scalar zero for any `nvdim`) fills every entry
of an array of shape `(*n, nvdim)`. -/
theorem asArray_const (isZero : V → Bool) (v : V) (m : Mesh) (nv : Nat)
    (h : nv ≤ 1 ∨ isZero v = true) :
    ∃ a, asArray isZero (.leaf (.scalar v)) m nv = .ok a ∧ a.shape = m.n ++ [nv] ∧ ∀ j, a.get j = v :=
  ⟨_, asLeaf_ok_of_wf isZero (.scalar v) m nv h, rfl, fun _ => rfl⟩

/-- A non-zero scalar for a field with more than one component is rejected (wrong component
count). -/
theorem asArray_scalar_rejected (isZero : V → Bool) (v : V) (m : Mesh) (nv : Nat)
    (h1 : 1 < nv) (h2 : isZero v = false) :
    asArray isZero (.leaf (.scalar v)) m nv = .error .value :=
  asLeaf_of_not_wf isZero (.scalar v) m nv fun h => h.elim (Nat.not_le.mpr h1) (by rw [h2]; nofun)

/-- A vector of `nvdim` numbers is stored in every cell, in an array of shape `(*n, nvdim)`. -/
theorem asArray_vector (isZero : V → Bool) (a : NDA V) (m : Mesh) (nv : Nat)
    (hs : a.shape = [nv]) (hamb : ¬ (nv = 1 ∧ m.n = [1])) :
    ∃ b, asArray isZero (.leaf (.arr a)) m nv = .ok b ∧ b.shape = m.n ++ [nv] ∧
      ∀ i c, i.length = m.n.length → c < nv → b.get (i ++ [c]) = a.get [c] := by
  have h1 : ¬ (nv = 1 ∧ a.shape = m.n) := fun ⟨h1, h2⟩ => hamb ⟨h1, by rw [← h2, hs, h1]⟩
  refine ⟨_, asLeaf_ok_of_wf isZero (.arr a) m nv (Or.inr ⟨by rw [hs]; rfl, hs ▸ bcastOk_vec m.n nv⟩), ?_⟩
  rw [leafArr_arr_bcast a m nv h1]
  exact ⟨rfl, fun i c hi hc => by show a.get (bcastIdx _ a.shape _) = _; rw [hs, bcastIdx_vec m.n nv i c hi hc]⟩

/-- A per-cell array of shape `(*n, nvdim)` is stored entry by entry. -/
theorem asArray_array (isZero : V → Bool) (a : NDA V) (m : Mesh) (nv : Nat)
    (hs : a.shape = m.n ++ [nv]) :
    ∃ b, asArray isZero (.leaf (.arr a)) m nv = .ok b ∧ b.shape = m.n ++ [nv] ∧
      ∀ j, inRange (m.n ++ [nv]) j = true → b.get j = a.get j :=
  asLeaf_arr_full isZero a m nv hs

/-- For a scalar field an array of shape `n` (no component axis) gives cell `i` the entry `a[i]`. -/
theorem asArray_array_scalar (isZero : V → Bool) (a : NDA V) (m : Mesh) (hs : a.shape = m.n) :
    ∃ b, asArray isZero (.leaf (.arr a)) m 1 = .ok b ∧ b.shape = m.n ++ [1] ∧
      ∀ i, b.get (i ++ [0]) = a.get i := by
  refine ⟨_, asLeaf_ok_of_wf isZero (.arr a) m 1 (Or.inl ⟨rfl, hs⟩), ?_⟩
  rw [leafArr_arr_cells a m 1 ⟨rfl, hs⟩]
  exact ⟨rfl, fun i => congrArg a.get (List.dropLast_concat ..)⟩

/-- An array whose last axis is not `nvdim` (and which is not the cell-shaped array of a scalar
field) is rejected. -/
theorem asArray_wrong_count_rejected (isZero : V → Bool) (a : NDA V) (m : Mesh) (nv : Nat)
    (h1 : ¬ (nv = 1 ∧ a.shape = m.n)) (h2 : a.shape.getLast? ≠ some nv) :
    asArray isZero (.leaf (.arr a)) m nv = .error .value :=
  asLeaf_of_not_wf isZero (.arr a) m nv fun h => h.elim h1 fun h => h2 h.1

/-- An array that NumPy cannot broadcast to `(*n, nvdim)` is rejected (wrong shape). -/
theorem asArray_wrong_shape_rejected (isZero : V → Bool) (a : NDA V) (m : Mesh) (nv : Nat)
    (h1 : ¬ (nv = 1 ∧ a.shape = m.n)) (h2 : bcastOk (m.n ++ [nv]) a.shape = false) :
    asArray isZero (.leaf (.arr a)) m nv = .error .value :=
  asLeaf_of_not_wf isZero (.arr a) m nv fun h => h.elim h1 fun h => by rw [h2] at h; cases h.2

/-- A string, `None`, … is rejected (wrong type). -/
theorem asArray_wrong_type_rejected (isZero : V → Bool) (m : Mesh) (nv : Nat) :
    asArray isZero (.leaf (.bad : Leaf V)) m nv = .error .type := rfl

/-- Refinement of the callable loop: after `for index, point in zip(mesh.indices, mesh)` every
cell `i` holds the function's value at the centre of cell `i`, in an array of shape `(*n, nvdim)`. -/
theorem asArray_func (isZero : V → Bool) (f : List Rat → List V) (m : Mesh) (nv : Nat)
    (hlen : ∀ i, inRange m.n i = true → (f (m.centre i)).length = nv) :
    ∃ b, asArray isZero (.leaf (.func f)) m nv = .ok b ∧ b.shape = m.n ++ [nv] ∧
      ∀ i c, inRange m.n i = true → b.get (i ++ [c]) = (f (m.centre i)).getD c default :=
  ⟨_, asLeaf_ok_of_wf isZero (.func f) m nv hlen, leafArr_shape isZero (.func f) m nv hlen,
    fun i c hi => leafArr_func_get f m nv i hi c⟩

/-- A callable that returns the wrong number of components at some cell centre is rejected. -/
theorem asArray_func_rejected (isZero : V → Bool) (f : List Rat → List V) (m : Mesh) (nv : Nat)
    (i : List Nat) (hi : inRange m.n i = true) (hlen : (f (m.centre i)).length ≠ nv) :
    asArray isZero (.leaf (.func f)) m nv = .error .value :=
  asLeaf_of_not_wf isZero (.func f) m nv fun h => hlen (h i hi)

/-- A source field on another mesh: target cell `i` receives the value of the source cell whose
centre is nearest (per axis, ties to the larger index), that source cell exists and CONTAINS the
centre of cell `i`; the result has shape `(*n, nvdim)`. -/
theorem asArray_field (isZero : V → Bool) (src : VF V) (m : Mesh) (nv : Nat)
    (hm : m.Inv) (hs : src.mesh.Inv) (hnd : src.mesh.ndim = m.ndim)
    (hdims : m.region.dims = src.mesh.region.dims) (hnv : src.nvdim = nv)
    (hin : ∀ a, a < m.ndim → src.mesh.region.lo a ≤ m.region.lo a ∧ m.region.hi a ≤ src.mesh.region.hi a) :
    ∃ b, asArray isZero (.leaf (.field src)) m nv = .ok b ∧ b.shape = m.n ++ [nv] ∧
      ∀ i c, inRange m.n i = true →
        b.get (i ++ [c]) = src.data.get (nearestIdx src.mesh m i ++ [c]) ∧
        ∀ a, a < m.ndim →
          (nearestIdx src.mesh m i).getD a 0 < src.mesh.nAt a ∧
          src.mesh.region.lo a + ((nearestIdx src.mesh m i).getD a 0 : Rat) * src.mesh.cellAt a
            ≤ m.centreAx a (i.getD a 0 : Nat) ∧
          m.centreAx a (i.getD a 0 : Nat)
            ≤ src.mesh.region.lo a + (((nearestIdx src.mesh m i).getD a 0 : Rat) + 1) * src.mesh.cellAt a := by
  have hlt : ∀ a, a < m.ndim → m.region.lo a < m.region.hi a := fun a ha => hm.lo_lt_hi ha
  have hpmax : m.region.pmax.length = m.region.pmin.length := hm.1.pmax_length
  -- both corners of the target region are points of the source region
  have hc : src.mesh.region.containsReg m.region = true :=
    C01.containsReg_of_exact _ _ hnd.symm (hpmax.trans hnd.symm) fun a ha =>
      have ha' : a < m.ndim := hnd ▸ ha
      ⟨⟨(hin a ha').1, le_trans (hlt a ha').le (hin a ha').2⟩, ⟨le_trans (hin a ha').1 (hlt a ha').le, (hin a ha').2⟩⟩
  refine ⟨_, asLeaf_ok_of_wf isZero (.field src) m nv ⟨hc, hnv, hdims⟩, by rw [← hnv]; rfl,
    fun i c hi => ⟨?_, fun a ha => ?_⟩⟩
  · show src.data.get (nearestIdx src.mesh m (i ++ [c]).dropLast ++ [(i ++ [c]).getLastD 0]) = _
    rw [List.dropLast_concat, List.getLastD_concat]
  · have hcen := centre_in_source src.mesh m a _ (hm.getD_lt hi ha) (hlt a ha) (hin a ha)
    obtain ⟨j1, j2, j3⟩ := indexAx_bounds src.mesh a _ (hs.nAt_pos (hnd ▸ ha)) (hs.lo_lt_hi (hnd ▸ ha))
      hcen.1.le hcen.2
    rw [nearestIdx_eq_indexAx src.mesh m hm hs hnd i hi, getD_tab _ _ _ _ ha]
    exact ⟨j1, j2, j3.le⟩

/-- A source field whose region does not contain the target region is rejected. -/
theorem asArray_field_outside (isZero : V → Bool) (src : VF V) (m : Mesh) (nv : Nat)
    (h : src.mesh.region.containsReg m.region = false) :
    asArray isZero (.leaf (.field src)) m nv = .error .value := by
  have hn : ¬ src.mesh.region.containsReg m.region = true := by rw [h]; nofun
  rw [asArray, asLeaf_of_not_wf isZero (.field src) m nv fun hw => hn hw.1, leafErr, if_neg fun hw => hn hw.1]

/-- The `array` setter converts again what `update_field_values` produced ("re-validates every
assignment"): on an array of the right shape the second conversion is the identity, so the
two-pass constructor path stores exactly what the specification gives.  (The shape hypothesis `hs`
follows from `h`, `asArray_shape`; `update_stores_spec` is stated without it.) -/
theorem updateValues_eq (isZero : V → Bool) (s : Spec V) (m : Mesh) (nv : Nat) (a : NDA V)
    (h : asArray isZero s m nv = .ok a) (hs : a.shape = m.n ++ [nv]) :
    ∃ b, updateValues isZero s m nv = .ok b ∧ b.shape = m.n ++ [nv] ∧
      ∀ j, inRange (m.n ++ [nv]) j = true → b.get j = a.get j :=
  updateValues_of_ok isZero s m nv a h

/-- A source field with another number of components is rejected (wrong component count), by the
conversion itself — hence by the constructor, by `update_field_values` and by the `array` setter. -/
theorem asArray_field_wrong_nvdim_rejected (isZero : V → Bool) (src : VF V) (m : Mesh) (nv : Nat)
    (h1 : src.nvdim ≠ nv) : asArray isZero (.leaf (.field src)) m nv = .error .value := by
  rw [asArray, asLeaf_of_not_wf isZero (.field src) m nv fun h => h1 h.2.1, leafErr, if_neg fun h => h1 h.2]

/-! ## sampling, components, iteration -/

omit [Inhabited V] in
/-- Sampling is `array[point2index(p)]`: the `nvdim` stored values of the cell whose index
`point2index` returns; a point `point2index` rejects is rejected. -/
theorem call_eq (f : VF V) (p : List Rat) :
    (∀ i, f.mesh.point2index p = .ok i →
      f.call p = .ok (row f.data f.nvdim i) ∧ (row f.data f.nvdim i).length = f.nvdim ∧
      ∀ c d, c < f.nvdim → (row f.data f.nvdim i).getD c d = f.data.get (i ++ [c])) ∧
    (∀ e, f.mesh.point2index p = .error e → f.call p = .error e) := by
  constructor
  · intro i hi
    exact ⟨by simp [VF.call, hi], row_length _ _ _, fun c d hc => row_getD _ _ _ c d hc⟩
  · intro e he; simp [VF.call, he]

omit [Inhabited V] in
/-- Sampling at any point of the region returns the stored value of a cell that contains the
point: lower faces inclusive, upper faces exclusive except for the last cell of an axis. -/
theorem call_cell_contains (f : VF V) (hm : f.mesh.Inv) (p : List Rat) (hp : f.mesh.region.containsExact p) :
    ∃ i, f.call p = .ok (row f.data f.nvdim i) ∧ inRange f.mesh.n i = true ∧
      ∀ a, a < f.mesh.ndim →
        f.mesh.region.lo a + (i.getD a 0 : Rat) * f.mesh.cellAt a ≤ p.getD a 0 ∧
        (p.getD a 0 < f.mesh.region.lo a + ((i.getD a 0 : Rat) + 1) * f.mesh.cellAt a ∨
          (i.getD a 0 = f.mesh.nAt a - 1 ∧ p.getD a 0 = f.mesh.region.hi a)) := by
  obtain ⟨hl, hb⟩ := hp
  have h2i := C01.point2index_of_exact f.mesh p ⟨hl, hb⟩
  have hc : ∀ a, a < f.mesh.ndim → _ := fun a ha =>
    indexAx_contains f.mesh a (p.getD a 0) (hm.nAt_pos ha) (hm.lo_lt_hi ha) (hb a ha).1 (hb a ha).2
  refine ⟨_, ((call_eq f p).1 _ h2i).1, ?_, fun a ha => ?_⟩
  · exact hm.inRange_tab _ fun a ha => (hc a ha).1
  · rw [getD_tab _ _ _ _ ha]
    exact (hc a ha).2

omit [Inhabited V] in
/-- Sampling at the centre of cell `i` returns the values stored for cell `i`. -/
theorem call_centre (f : VF V) (hm : f.mesh.Inv) (i : List Nat) (hi : inRange f.mesh.n i = true) :
    f.call (f.mesh.centre i) = .ok (row f.data f.nvdim i) :=
  ((call_eq f _).1 i (C01.point2index_centre f.mesh hm i hi)).1

omit [Inhabited V] in
/-- A point outside the region (beyond its comparison tolerance) cannot be sampled. -/
theorem call_outside (f : VF V) (p : List Rat) (h : f.mesh.region.containsPt p = false) :
    f.call p = .error .value := by
  apply (call_eq f p).2
  refine (C01.point2index_cases f.mesh p).resolve_right fun ⟨i, hi⟩ => ?_
  rw [((C01.point2index_ok_iff_containsPt f.mesh p i).mp hi).2.1] at h
  cases h

/-- Component access returns the matching column: a scalar field on the same mesh whose cell `i`
holds component `k` of cell `i`, `k` being the position of the label in `vdims`. -/
theorem comp_eq (isZero : V → Bool) (f : VF V) (label : String) (g : VF V) (h : f.comp isZero label = .ok g) :
    g.mesh = f.mesh ∧ g.nvdim = 1 ∧ g.data.shape = f.mesh.n ++ [1] ∧
    ∃ vs k, f.vdims = some vs ∧ k < vs.length ∧ vs.getD k "" = label ∧
      ∀ i, inRange f.mesh.n i = true → g.data.get (i ++ [0]) = f.data.get (i ++ [k]) := by
  obtain ⟨vs, k, hvs, hk, h1, h2, h3, h4⟩ := comp_ok isZero f label g h
  obtain ⟨hk1, hk2⟩ := indexOf?_some vs label k hk
  exact ⟨h1, h2, h3, vs, k, hvs, hk1, hk2, h4⟩

/-- A label that is not among the component labels (or any label on a field without labels)
is rejected. -/
theorem comp_unknown_rejected (isZero : V → Bool) (f : VF V) (label : String)
    (h : ∀ vs, f.vdims = some vs → indexOf? vs label = none) : f.comp isZero label = .error .value := by
  unfold VF.comp
  split
  · rfl
  · rename_i vs hvs
    rw [h vs hvs]

omit [Inhabited V] in
/-- Iteration yields the cells in mesh order: the `k`-th item is the stored value of the `k`-th
index of `Mesh.indices`. -/
theorem iter_eq (f : VF V) (hm : f.mesh.Inv) :
    f.iter = (indicesCode f.mesh.n).map fun i => .ok (row f.data f.nvdim i) := by
  unfold VF.iter Mesh.iter
  rw [List.map_map]
  apply List.map_congr_left
  intro i hi
  exact call_centre f hm i ((mem_indicesCode _ _).mp hi)

/-! ## lines -/

omit [Inhabited V] in
/-- A line has the requested number of points, `point_j = p1 + j·(p2 − p1)/(n − 1)`. -/
theorem line_points (f : VF V) (p1 p2 : List Rat) (n : Nat) (o : LineOut V) (h : f.line p1 p2 n = .ok o) :
    o.points.length = n ∧ o.values.length = n ∧ o.r2.length = n ∧
    ∀ j a, j < n → a < f.mesh.ndim →
      (o.points.getD j []).getD a 0 = p1.getD a 0 + (j : Rat) * ((p2.getD a 0 - p1.getD a 0) / ((n : Rat) - 1)) := by
  obtain ⟨_, _, _, hpts, hv, hr⟩ := line_ok f p1 p2 n o h
  have hl : o.points.length = n := by rw [hpts]; simp
  refine ⟨hl, ?_, by rw [hr]; simp [hl], fun j a hj ha => ?_⟩
  · have := congrArg List.length hv
    simpa [hl] using this.symm
  · rw [hpts, getD_tab _ _ _ _ hj, getD_tab _ _ _ _ ha]

omit [Inhabited V] in
/-- The line runs from `p1` to `p2` inclusive. -/
theorem line_ends (f : VF V) (p1 p2 : List Rat) (n : Nat) (o : LineOut V) (h : f.line p1 p2 n = .ok o) :
    o.points.getD 0 [] = p1 ∧ o.points.getD (n - 1) [] = p2 := by
  obtain ⟨hc1, hc2, hn, hpts, _, _⟩ := line_ok f p1 p2 n o h
  have hl1 := containsPt_length _ _ hc1
  have hl2 := containsPt_length _ _ hc2
  have hne := (cast_pred_pos n hn).ne'
  rw [hpts, getD_tab _ _ _ _ (by omega), getD_tab _ _ _ _ (by omega)]
  constructor
  · exact (eq_tab_of_getD p1 _ _ 0 hl1 fun a _ => by rw [Nat.cast_zero, zero_mul, add_zero]).symm
  · exact (eq_tab_of_getD p2 _ _ 0 hl2 fun a _ => by
      rw [Nat.cast_pred (by omega), mul_div_cancel₀ _ hne, add_sub_cancel]).symm

omit [Inhabited V] in
/-- The points are equidistant: consecutive points differ by the same vector `(p2 − p1)/(n − 1)`. -/
theorem line_equidistant (f : VF V) (p1 p2 : List Rat) (n : Nat) (o : LineOut V) (h : f.line p1 p2 n = .ok o)
    (j a : Nat) (hj : j + 1 < n) (ha : a < f.mesh.ndim) :
    (o.points.getD (j + 1) []).getD a 0 - (o.points.getD j []).getD a 0
      = (p2.getD a 0 - p1.getD a 0) / ((n : Rat) - 1) := by
  obtain ⟨_, _, _, hp⟩ := line_points f p1 p2 n o h
  rw [hp (j + 1) a hj ha, hp j a (by omega) ha]
  push_cast; ring

omit [Inhabited V] in
/-- The distance column: `r_j² = j²·|p2 − p1|²/(n − 1)²`, i.e. `r_j = j·|p2 − p1|/(n − 1)`
(stated on squares; the data frame holds the square roots). -/
theorem line_r2 (f : VF V) (p1 p2 : List Rat) (n : Nat) (o : LineOut V) (h : f.line p1 p2 n = .ok o)
    (j : Nat) (hj : j < n) :
    o.r2.getD j 0 = ((j : Rat) * (j : Rat)) / (((n : Rat) - 1) * ((n : Rat) - 1)) * sqDist p2 p1 := by
  obtain ⟨_, hc2, hn, hpts, _, hr⟩ := line_ok f p1 p2 n o h
  have hl : o.points.length = n := by rw [hpts]; simp
  rw [hr]
  rw [getD_map_lt _ _ j 0 [] (by omega), hpts, getD_tab _ _ _ _ hj, getD_tab _ _ _ _ (by omega)]
  exact sqDist_line f.mesh.ndim n j p1 p2 (containsPt_length _ _ hc2) hn

omit [Inhabited V] in
/-- The values along the line are the field sampled at the line's points. -/
theorem line_values (f : VF V) (p1 p2 : List Rat) (n : Nat) (o : LineOut V) (h : f.line p1 p2 n = .ok o)
    (j : Nat) (hj : j < n) : f.call (o.points.getD j []) = .ok (o.values.getD j []) := by
  obtain ⟨hl, hvl, _, _⟩ := line_points f p1 p2 n o h
  obtain ⟨_, _, _, _, hv, _⟩ := line_ok f p1 p2 n o h
  rw [← getD_map_lt o.points f.call j (.error .value) [] (by omega), hv, getD_map_lt _ _ j _ [] (by omega)]

omit [Inhabited V] in
/-- A line with an end point outside the region is rejected. -/
theorem line_outside_rejected (f : VF V) (p1 p2 : List Rat) (n : Nat)
    (h : f.mesh.region.containsPt p1 = false ∨ f.mesh.region.containsPt p2 = false) :
    f.line p1 p2 n = .error .value := by
  unfold VF.line meshLine
  rcases h with h | h <;> simp [h]

/-! ## rejected assignments -/

/-- A rejected assignment — through the `array` setter or `update_field_values` — leaves the
field exactly as it was; an accepted one changes only the array. -/
theorem reject_leaves_unchanged (isZero : V → Bool) (f : VF V) :
    (∀ l e, f.setArray isZero l = .error e → f.after (f.setArray isZero l) = f) ∧
    (∀ s e, f.update isZero s = .error e → f.after (f.update isZero s) = f) ∧
    (∀ l g, f.setArray isZero l = .ok g → f.after (f.setArray isZero l) = g ∧
      g.mesh = f.mesh ∧ g.nvdim = f.nvdim ∧ g.vdims = f.vdims) ∧
    (∀ s g, f.update isZero s = .ok g → f.after (f.update isZero s) = g ∧
      g.mesh = f.mesh ∧ g.nvdim = f.nvdim ∧ g.vdims = f.vdims) := by
  refine ⟨fun l e h => by rw [h]; rfl, fun s e h => by rw [h]; rfl, fun l g h => ?_, fun s g h => ?_⟩
  · obtain ⟨a, _, rfl⟩ := withData_ok f g _ (setArray_eq isZero f l ▸ h)
    exact ⟨by rw [h]; rfl, rfl, rfl, rfl⟩
  · obtain ⟨a, _, rfl⟩ := withData_ok f g _ (update_eq isZero f s ▸ h)
    exact ⟨by rw [h]; rfl, rfl, rfl, rfl⟩

/-- Every kind of malformed value is rejected by `update_field_values`, so (`reject_leaves_unchanged`) the
field keeps its state: wrong type, non-zero scalar for several components, wrong last axis. -/
theorem update_malformed_rejected (isZero : V → Bool) (f : VF V) :
    (∃ e, f.update isZero (.leaf .bad) = .error e) ∧
    (∀ v, 1 < f.nvdim → isZero v = false → ∃ e, f.update isZero (.leaf (.scalar v)) = .error e) ∧
    (∀ a : NDA V, ¬ (f.nvdim = 1 ∧ a.shape = f.mesh.n) → a.shape.getLast? ≠ some f.nvdim →
      ∃ e, f.update isZero (.leaf (.arr a)) = .error e) := by
  -- a rejected conversion is a rejected update
  have hrej : ∀ s e, asArray isZero s f.mesh f.nvdim = .error e → ∃ e, f.update isZero s = .error e := fun s e he =>
    ⟨e, by rw [update_eq, updateValues_of_err isZero s f.mesh f.nvdim e he]; rfl⟩
  exact ⟨hrej _ _ (asArray_wrong_type_rejected isZero f.mesh f.nvdim),
    fun v h1 h2 => hrej _ _ (asArray_scalar_rejected isZero v f.mesh f.nvdim h1 h2),
    fun a h1 h2 => hrej _ _ (asArray_wrong_count_rejected isZero a f.mesh f.nvdim h1 h2)⟩

/-- The `array` setter rejects a source field with another number of components and keeps the
field as it was (D44). -/
theorem setArray_field_wrong_nvdim_rejected (isZero : V → Bool) (f : VF V) (src : VF V) (h : src.nvdim ≠ f.nvdim) :
    f.setArray isZero (.field src) = .error .value ∧ f.after (f.setArray isZero (.field src)) = f := by
  have e : f.setArray isZero (.field src) = .error .value := by
    rw [setArray_eq, show asLeaf isZero (.field src) f.mesh f.nvdim = .error .value from
      asArray_field_wrong_nvdim_rejected isZero src f.mesh f.nvdim h]
    rfl
  exact ⟨e, by rw [e]; rfl⟩

/-! ## dictionaries over subregions -/

/-- `Mesh.region2slices` of a subregion that is a union of cells is exactly its index box, and a
cell lies in that box iff the subregion contains the cell's centre. -/
theorem region2slices_cells (m : Mesh) (hm : m.Inv) (r : Region) (k1 k2 : Nat → Nat) (h : AlignedSub m r k1 k2) :
    region2slices m r = .ok (tab m.ndim k1, tab m.ndim k2) ∧
    ∀ i, inRange m.n i = true →
      (inBox (tab m.ndim k1) (tab m.ndim k2) i = true ↔
        ∀ a, a < m.ndim → r.lo a ≤ m.centreAx a (i.getD a 0 : Nat) ∧ m.centreAx a (i.getD a 0 : Nat) ≤ r.hi a) := by
  refine ⟨region2slices_spec m hm r k1 k2 h, fun i hi => ?_⟩
  have := inBox_iff_centre m hm r k1 k2 h i hi []
  rwa [List.append_nil] at this

/-- CENTREPIECE — refinement of the dictionary overload.  The code fills an array with the
default (or the NaN sentinel), walks `reversed(mesh.subregions)` assigning each listed
subregion's converted value to its slices, and finally calls a callable default on the cells
still holding the sentinel.  Entry `(i, c)` of the result is: what the FIRST LISTED subregion
that writes the entry writes there (`patchVal`), and otherwise the default's value for the cell. -/
theorem asArray_dict (isZero : V → Bool) (items : List (String × Leaf V)) (dflt : Option (Dflt V))
    (m : Mesh) (nv : Nat) (a : NDA V) (hlen : m.n.length = m.ndim)
    (h : asArray isZero (.dict items dflt) m nv = .ok a)
    (i : List Nat) (hi : inRange m.n i = true) (c : Nat) (hc : c < nv) :
    a.get (i ++ [c]) =
      match m.subs.findSome? (fun p => patchVal isZero items m nv p (i ++ [c])) with
      | some v => v
      | none => dfltVal dflt m nv i c := by
  obtain ⟨a1, hloop, e⟩ := asArray_dict_get isZero items dflt m nv a hlen h i hi c hc
  rw [e, (dictLoop_get isZero items m nv _ _ a1 hloop).2]
  cases m.subs.findSome? fun p => patchVal isZero items m nv p (i ++ [c]) with
  | some v => rfl
  | none =>
    -- no subregion writes the entry: a constant default is in the array already, any other comes with the default pass
    rw [Option.none_or]
    obtain ⟨_, ⟨arr, rfl, hget⟩ | ⟨_, hget⟩⟩ := fillArr_spec dflt m nv
    · rw [hget]; rfl
    · rw [hget]

/-- The same on a mesh whose subregions are unions of cells (which `Mesh` guarantees, C14): the
value of cell `i` comes from the first listed subregion that is a key of the dictionary and
contains the cell (`hits`; by `region2slices_cells`: contains its centre) — namely that key's
specification converted on the subregion's own mesh, read at the cell's index there — and
otherwise from the default. -/
theorem asArray_dict_first_listed (isZero : V → Bool) (items : List (String × Leaf V)) (dflt : Option (Dflt V))
    (m : Mesh) (hm : m.Inv) (nv : Nat) (a : NDA V) (k1 k2 : String × Region → Nat → Nat)
    (hal : ∀ p ∈ m.subs, AlignedSub m p.2 (k1 p) (k2 p))
    (h : asArray isZero (.dict items dflt) m nv = .ok a)
    (i : List Nat) (hi : inRange m.n i = true) (c : Nat) (hc : c < nv) :
    a.get (i ++ [c]) =
      match m.subs.find? (hits items m k1 k2 i) with
      | some p => cellOf isZero items m nv k1 k2 i c p
      | none => dfltVal dflt m nv i c := by
  rw [asArray_dict isZero items dflt m nv a hm.n_length h i hi c hc,
    findSome_patch isZero items m hm nv k1 k2 i (hm.length_eq hi) c hc m.subs hal]
  · cases m.subs.find? (hits items m k1 k2 i) <;> rfl
  · -- the loop ran through, so every listed leaf is well formed on its submesh
    exact (dict_wf_of_ok isZero items dflt m hm nv (by omega) k1 k2 hal a h).2.1

/-- What a listed subregion assigns to a cell it contains: a constant gives the constant, … -/
theorem dict_cell_const (isZero : V → Bool) (items : List (String × Leaf V)) (m : Mesh) (nv : Nat)
    (k1 k2 : String × Region → Nat → Nat) (i : List Nat) (c : Nat) (p : String × Region) (v : V)
    (hl : lookupLeaf items p.1 = some (.scalar v)) (hv : nv ≤ 1 ∨ isZero v = true) :
    cellOf isZero items m nv k1 k2 i c p = v := by
  obtain ⟨a, ha, _, hg⟩ := asArray_const isZero v (subMeshOf m p.2 (k1 p) (k2 p)) nv hv
  rw [cellOf_of_ok isZero items m nv k1 k2 i c p _ hl a ha, hg]

/-- … a callable gives its value at the centre of the MESH cell (the submesh's cell centres are
the mesh's), … -/
theorem dict_cell_func (isZero : V → Bool) (items : List (String × Leaf V)) (m : Mesh) (hm : m.Inv) (nv : Nat)
    (k1 k2 : String × Region → Nat → Nat) (i : List Nat) (hi : inRange m.n i = true) (c : Nat)
    (p : String × Region) (f : List Rat → List V)
    (hal : AlignedSub m p.2 (k1 p) (k2 p)) (hit : hits items m k1 k2 i p = true)
    (hl : lookupLeaf items p.1 = some (.func f))
    (hlen : ∀ il, inRange (subMeshOf m p.2 (k1 p) (k2 p)).n il = true →
      (f ((subMeshOf m p.2 (k1 p) (k2 p)).centre il)).length = nv) :
    cellOf isZero items m nv k1 k2 i c p = (f (m.centre i)).getD c default := by
  have hil : i.length = m.ndim := hm.length_eq hi
  have hb := hits_inBox items m k1 k2 i p hit
  obtain ⟨b, hb1, _, hg⟩ := asArray_func isZero f (subMeshOf m p.2 (k1 p) (k2 p)) nv hlen
  rw [cellOf_of_ok isZero items m nv k1 k2 i c p _ hl b hb1, hg _ c (subIdx_inRange m (k1 p) (k2 p) i hil [] hb),
    subMesh_centre m p.2 (k1 p) (k2 p) hal i hil [] hb]

/-- … a per-cell array of the subregion's shape gives its entry at the cell's index within the
subregion. -/
theorem dict_cell_array (isZero : V → Bool) (items : List (String × Leaf V)) (m : Mesh) (hm : m.Inv) (nv : Nat)
    (k1 k2 : String × Region → Nat → Nat) (i : List Nat) (hi : inRange m.n i = true) (c : Nat) (hc : c < nv)
    (p : String × Region) (arr : NDA V) (hit : hits items m k1 k2 i p = true)
    (hl : lookupLeaf items p.1 = some (.arr arr))
    (hs : arr.shape = (subMeshOf m p.2 (k1 p) (k2 p)).n ++ [nv]) :
    cellOf isZero items m nv k1 k2 i c p = arr.get (subIdx m (k1 p) i ++ [c]) := by
  have hil : i.length = m.ndim := hm.length_eq hi
  have hb := hits_inBox items m k1 k2 i p hit
  obtain ⟨b, hb1, _, hg⟩ := asArray_array isZero arr (subMeshOf m p.2 (k1 p) (k2 p)) nv hs
  have hr := subIdx_inRange m (k1 p) (k2 p) i hil [] hb
  rw [cellOf_of_ok isZero items m nv k1 k2 i c p _ hl b hb1]
  apply hg
  show inRange ((tab m.ndim fun a => k2 p a - k1 p a) ++ [nv]) (subIdx m (k1 p) i ++ [c]) = true
  exact inRange_snoc_of hr hc

/-- No `default` and some cell that no listed subregion covers: rejected. -/
theorem asArray_dict_missing_default (isZero : V → Bool) (items : List (String × Leaf V)) (m : Mesh) (nv : Nat)
    (i : List Nat) (hi : inRange m.n i = true) (c : Nat) (hc : c < nv)
    (hun : (m.subs.findSome? fun p => patchVal isZero items m nv p (i ++ [c])) = none) :
    ∃ e, asArray isZero (.dict items none) m nv = .error e := by
  rw [err_iff_not_ok, asArray_dict_accepted_iff]
  rintro ⟨_, a1, hloop, hd⟩
  obtain ⟨_, h, _⟩ := hd (dictLoop_unset isZero items m nv _ _ a1 hloop (i ++ [c]) (inRange_snoc_of hi hc) rfl hun).2
  cases h

/-- Well-formed dictionaries are accepted: subregions that are unions of cells, every listed
value convertible on its submesh, a default NumPy can broadcast — the conversion succeeds with
an array of shape `(*n, nvdim)` (so the hypotheses of the theorems above are satisfiable on
meshes with overlapping subregions). -/
theorem asArray_dict_accepts (isZero : V → Bool) (items : List (String × Leaf V)) (d : NDA V)
    (m : Mesh) (hm : m.Inv) (nv : Nat) (k1 k2 : String × Region → Nat → Nat)
    (hal : ∀ p ∈ m.subs, AlignedSub m p.2 (k1 p) (k2 p))
    (hok : ∀ p ∈ m.subs, ∀ lf, lookupLeaf items p.1 = some lf →
      ∃ sub, asLeaf isZero lf (subMeshOf m p.2 (k1 p) (k2 p)) nv = .ok sub ∧
        sub.shape = (subMeshOf m p.2 (k1 p) (k2 p)).n ++ [nv])
    (hd : bcastOk (m.n ++ [nv]) d.shape = true) :
    ∃ a, asArray isZero (.dict items (some (.val d))) m nv = .ok a ∧ a.shape = m.n ++ [nv] := by
  obtain ⟨a, ha⟩ := dict_ok_of_wf isZero items (some (.val d)) m hm nv k1 k2 hal
    -- `hok` gives the `Leaf.WF` clause of `dictWF`; a constant default serves every cell
    ⟨hd, fun p hp lf hl => (hok p hp lf hl).elim fun sub h => wf_of_asLeaf_ok isZero lf _ nv sub h.1,
      fun _ _ _ => trivial⟩
  exact ⟨a, ha, asArray_shape_any isZero _ m nv a ha⟩

/-- The default is applied for EVERY value type, int and bool fields included (D41): a cell that no listed subregion writes receives the callable default's value
at the cell centre, … -/
theorem dict_default_callable (isZero : V → Bool) (items : List (String × Leaf V)) (f : List Rat → List V)
    (m : Mesh) (nv : Nat) (a : NDA V) (hlen : m.n.length = m.ndim)
    (h : asArray isZero (.dict items (some (.func f))) m nv = .ok a)
    (i : List Nat) (hi : inRange m.n i = true) (c : Nat) (hc : c < nv)
    (hun : (m.subs.findSome? fun p => patchVal isZero items m nv p (i ++ [c])) = none) :
    a.get (i ++ [c]) = (f (m.centre i)).getD c default := by
  rw [asArray_dict isZero items _ m nv a hlen h i hi c hc, hun]; rfl

/-- … a constant default's value, … -/
theorem dict_default_const (isZero : V → Bool) (items : List (String × Leaf V)) (d : NDA V)
    (m : Mesh) (nv : Nat) (a : NDA V) (hlen : m.n.length = m.ndim)
    (h : asArray isZero (.dict items (some (.val d))) m nv = .ok a)
    (i : List Nat) (hi : inRange m.n i = true) (c : Nat) (hc : c < nv)
    (hun : (m.subs.findSome? fun p => patchVal isZero items m nv p (i ++ [c])) = none) :
    a.get (i ++ [c]) = d.get (bcastIdx (m.n ++ [nv]) d.shape (i ++ [c])) := by
  rw [asArray_dict isZero items _ m nv a hlen h i hi c hc, hun]; rfl

/-- … and a field default's sample at the cell centre, which (with `call_cell_contains`) is the
value of a source cell containing that centre. -/
theorem dict_default_field (isZero : V → Bool) (items : List (String × Leaf V)) (src : VF V)
    (m : Mesh) (nv : Nat) (a : NDA V) (hlen : m.n.length = m.ndim)
    (h : asArray isZero (.dict items (some (.field src))) m nv = .ok a)
    (i : List Nat) (hi : inRange m.n i = true) (c : Nat) (hc : c < nv)
    (hun : (m.subs.findSome? fun p => patchVal isZero items m nv p (i ++ [c])) = none)
    (vs : List V) (hvs : src.call (m.centre i) = .ok vs) :
    a.get (i ++ [c]) = vs.getD c default := by
  rw [asArray_dict isZero items _ m nv a hlen h i hi c hc, hun]
  simp [dfltVal, hvs]

/-! ## acceptance (the hypotheses `… = .ok _` above are satisfiable) -/

omit [Inhabited V] in
/-- Two points of the region and `n ≥ 2` give a line on every mesh, one-dimensional ones included
(D43): all its points lie in the region, so all can be sampled. -/
theorem line_accepts (f : VF V) (p1 p2 : List Rat) (n : Nat) (hn : 2 ≤ n)
    (h1 : f.mesh.region.containsExact p1) (h2 : f.mesh.region.containsExact p2) :
    ∃ o, f.line p1 p2 n = .ok o := by
  refine line_accepts_of f p1 p2 n (C01.containsPt_of_exact _ p1 h1) (C01.containsPt_of_exact _ p2 h2) hn
    fun j hj => ⟨_, ((call_eq f _).1 _ (C01.point2index_of_exact f.mesh _ ⟨tab_length _ _, fun a ha => ?_⟩)).1⟩
  rw [getD_tab _ _ _ _ ha]
  exact segment_in _ _ _ _ j n hn hj (h1.2 a ha) (h2.2 a ha)

/-- A label of the field is accepted by component access. -/
theorem comp_accepts (isZero : V → Bool) (f : VF V) (label : String) (vs : List String) (k : Nat)
    (hv : f.vdims = some vs) (hk : indexOf? vs label = some k) : ∃ g, f.comp isZero label = .ok g := by
  obtain ⟨b, hb, _⟩ := mk?_col isZero f k
  exact ⟨_, (comp_eq_ok_iff isZero f label _).mpr ⟨vs, hv, k, hk, hb⟩⟩

/-! ## every specification: shape, and what `update_field_values` / the constructor store -/

/-- Whatever the kind of specification (constant, array, callable, dictionary, field): an accepted
conversion yields an array of shape `(*n, nvdim)`. -/
theorem asArray_shape (isZero : V → Bool) (s : Spec V) (m : Mesh) (nv : Nat) (a : NDA V)
    (h : asArray isZero s m nv = .ok a) : a.shape = m.n ++ [nv] :=
  asArray_shape_any isZero s m nv a h

/-- `update_field_values` on an existing field, for EVERY specification (no shape hypothesis, cf.
`updateValues_eq`): it is accepted exactly when the conversion is; then the field holds the
conversion's result in every entry (the setter's second conversion changes nothing) and mesh,
`nvdim` and labels are kept; when the conversion is rejected the field keeps its state. -/
theorem update_stores_spec (isZero : V → Bool) (f : VF V) (s : Spec V) :
    (∀ a, asArray isZero s f.mesh f.nvdim = .ok a →
      ∃ g, f.update isZero s = .ok g ∧ f.after (f.update isZero s) = g ∧
        g.mesh = f.mesh ∧ g.nvdim = f.nvdim ∧ g.vdims = f.vdims ∧
        g.data.shape = f.mesh.n ++ [f.nvdim] ∧
        ∀ j, inRange (f.mesh.n ++ [f.nvdim]) j = true → g.data.get j = a.get j) ∧
    (∀ e, asArray isZero s f.mesh f.nvdim = .error e →
      f.update isZero s = .error e ∧ f.after (f.update isZero s) = f) := by
  constructor
  · intro a ha
    obtain ⟨b, hb, hs, hg⟩ := updateValues_of_ok isZero s f.mesh f.nvdim a ha
    have e : f.update isZero s = .ok { f with data := b } := by rw [update_eq, hb]; rfl
    exact ⟨_, e, by rw [e]; rfl, rfl, rfl, rfl, hs, hg⟩
  · intro e he
    have e' : f.update isZero s = .error e := by
      rw [update_eq, updateValues_of_err isZero s f.mesh f.nvdim e he]; rfl
    exact ⟨e', by rw [e']; rfl⟩

/-- The `array` setter with an array of the field's own shape `(*n, nvdim)` stores it entry by
entry (in particular `f.array = f.array` changes nothing). -/
theorem setArray_array_stores (isZero : V → Bool) (f : VF V) (a : NDA V) (hs : a.shape = f.mesh.n ++ [f.nvdim]) :
    ∃ g, f.setArray isZero (.arr a) = .ok g ∧ g.mesh = f.mesh ∧ g.nvdim = f.nvdim ∧ g.vdims = f.vdims ∧
      g.data.shape = f.mesh.n ++ [f.nvdim] ∧
      ∀ j, inRange (f.mesh.n ++ [f.nvdim]) j = true → g.data.get j = a.get j := by
  obtain ⟨b, hb, hshape, hget⟩ := asArray_array isZero a f.mesh f.nvdim hs
  exact ⟨{ f with data := b }, by rw [setArray_eq, show asLeaf isZero (.arr a) f.mesh f.nvdim = .ok b from hb]; rfl,
    rfl, rfl, rfl, hshape, hget⟩

/-! ## source fields: initialisation = sampling the source at the target's cell centres -/

/-- A source field on ANY mesh whose region contains the target's (other origin, other resolution,
coarser or finer): for every target cell `i` the stored row is exactly what sampling the source
at the centre of cell `i` returns, `src(mesh.index2point(i))` — the xarray nearest-centre
selection (ties to the larger index) and `point2index` of the source pick the same source cell. -/
theorem asArray_field_samples_source (isZero : V → Bool) (src : VF V) (m : Mesh) (nv : Nat)
    (hm : m.Inv) (hs : src.mesh.Inv) (hnd : src.mesh.ndim = m.ndim)
    (hdims : m.region.dims = src.mesh.region.dims) (hnv : src.nvdim = nv)
    (hin : ∀ a, a < m.ndim → src.mesh.region.lo a ≤ m.region.lo a ∧ m.region.hi a ≤ src.mesh.region.hi a) :
    ∃ b, asArray isZero (.leaf (.field src)) m nv = .ok b ∧ b.shape = m.n ++ [nv] ∧
      ∀ i, inRange m.n i = true → src.call (m.centre i) = .ok (row b nv i) := by
  obtain ⟨b, hb, hshape, hget⟩ := asArray_field isZero src m nv hm hs hnd hdims hnv hin
  refine ⟨b, hb, hshape, fun i hi => ?_⟩
  have hp := nearestIdx_eq_point2index src.mesh m hm hs hnd hin i hi
  rw [((call_eq src (m.centre i)).1 _ hp).1, hnv]
  congr 1
  unfold row
  apply tab_congr
  intro c _
  exact ((hget i c hi).1).symm

/-- A source field on the same mesh is copied cell by cell. -/
theorem asArray_field_same_mesh (isZero : V → Bool) (src : VF V) (hs : src.mesh.Inv) :
    ∃ b, asArray isZero (.leaf (.field src)) src.mesh src.nvdim = .ok b ∧
      b.shape = src.mesh.n ++ [src.nvdim] ∧
      ∀ i c, inRange src.mesh.n i = true → c < src.nvdim → b.get (i ++ [c]) = src.data.get (i ++ [c]) := by
  obtain ⟨b, hb, hshape, hget⟩ := asArray_field_samples_source isZero src src.mesh src.nvdim hs hs rfl rfl rfl
    (fun a _ => ⟨le_refl _, le_refl _⟩)
  refine ⟨b, hb, hshape, fun i c hi hc => ?_⟩
  have h1 := hget i hi
  rw [call_centre src hs i hi] at h1
  injection h1 with h1
  have := congrArg (fun l => l.getD c default) h1
  rw [row_getD _ _ _ c _ hc, row_getD _ _ _ c _ hc] at this
  exact this.symm

/-- Round trip: `field.update_field_values(field)` (a field as its own source) is accepted and
changes no entry. -/
theorem update_with_self (isZero : V → Bool) (f : VF V) (hm : f.mesh.Inv) :
    ∃ g, f.update isZero (.leaf (.field f)) = .ok g ∧ g.data.shape = f.mesh.n ++ [f.nvdim] ∧
      ∀ i c, inRange f.mesh.n i = true → c < f.nvdim → g.data.get (i ++ [c]) = f.data.get (i ++ [c]) := by
  obtain ⟨b, hb, _, hbg⟩ := asArray_field_same_mesh isZero f hm
  obtain ⟨g, hg, _, _, _, _, hs, hgg⟩ := (update_stores_spec isZero f (.leaf (.field f))).1 b hb
  refine ⟨g, hg, hs, fun i c hi hc => ?_⟩
  rw [hgg _ (inRange_snoc_of hi hc), hbg i c hi hc]

/-! ## iteration order -/

omit [Inhabited V] in
/-- Iteration yields the cells with the FIRST index running fastest: there are `∏ n` items, item `k`
is the stored row of the cell with mixed-radix digits `k = i₀ + n₀·(i₁ + n₁·(…))`, and cell `i` is
item number `flatF n i`. -/
theorem iter_first_index_fastest (f : VF V) (hm : f.mesh.Inv) :
    f.iter.length = natProd f.mesh.n ∧
    (∀ k, k < natProd f.mesh.n →
      f.iter.getD k (.error .index) = .ok (row f.data f.nvdim (unflatF f.mesh.n k))) ∧
    (∀ i, inRange f.mesh.n i = true →
      f.iter.getD (flatF f.mesh.n i) (.error .index) = .ok (row f.data f.nvdim i)) := by
  have e := iter_eq f hm
  rw [indicesCode_eq_indicesF] at e
  have hget : ∀ k, k < natProd f.mesh.n →
      f.iter.getD k (.error .index) = .ok (row f.data f.nvdim ((indicesF f.mesh.n).getD k [])) := fun k hk => by
    rw [e, getD_map_lt _ _ k _ [] (by rw [indicesF_length]; exact hk)]
  exact ⟨by rw [e, List.length_map, indicesF_length], fun k hk => by rw [hget k hk, indicesF_getD_lt _ k hk],
    fun i hi => by rw [hget _ (flatF_lt _ _ hi), indicesF_getD _ i hi]⟩

/-! ## component labels -/

/-- Component access by label, for every component count and every duplicate-free label list (the
only ones the `vdims` setter lets through, `new_labels`): the `k`-th label returns the `k`-th
column, as a scalar field on the same mesh. -/
theorem comp_kth (isZero : V → Bool) (f : VF V) (vs : List String) (k : Nat)
    (hv : f.vdims = some vs) (hnd : hasDup vs = false) (hk : k < vs.length) :
    ∃ g, f.comp isZero (vs.getD k "") = .ok g ∧ g.mesh = f.mesh ∧ g.nvdim = 1 ∧
      g.data.shape = f.mesh.n ++ [1] ∧
      ∀ i, inRange f.mesh.n i = true → g.data.get (i ++ [0]) = f.data.get (i ++ [k]) := by
  have hidx := indexOf?_getD vs k hk hnd
  obtain ⟨g, hg⟩ := comp_accepts isZero f _ vs k hv hidx
  obtain ⟨vs', k', hv', hk', h1, h2, h3, h4⟩ := comp_ok isZero f _ g hg
  rw [hv] at hv'; injection hv' with hv'; subst hv'
  rw [hidx] at hk'; injection hk' with hk'; subst hk'
  exact ⟨g, hg, h1, h2, h3, h4⟩

/-- The constructor `Field(mesh, nvdim, value, vdims)`: `nvdim < 1` is rejected; otherwise it is
accepted exactly when the value conversion and the label check are; the new field then lives on
the given mesh with the given `nvdim`, holds the conversion's result in every entry of an array
of shape `(*n, nvdim)`, and its labels are what the `vdims` setter returns. -/
theorem new_stores_spec (isZero : V → Bool) (reserved : List String) (m : Mesh) (nv : Nat) (s : Spec V)
    (vdims : Option (List String)) :
    (nv < 1 → VF.new? isZero reserved m nv s vdims = .error .value) ∧
    (∀ a vd, 1 ≤ nv → asArray isZero s m nv = .ok a → vdimsSet reserved nv vdims = .ok vd →
      ∃ g, VF.new? isZero reserved m nv s vdims = .ok g ∧ g.mesh = m ∧ g.nvdim = nv ∧ g.vdims = vd ∧
        g.data.shape = m.n ++ [nv] ∧ ∀ j, inRange (m.n ++ [nv]) j = true → g.data.get j = a.get j) ∧
    (∀ e, 1 ≤ nv → asArray isZero s m nv = .error e → VF.new? isZero reserved m nv s vdims = .error e) ∧
    (∀ a e, 1 ≤ nv → asArray isZero s m nv = .ok a → vdimsSet reserved nv vdims = .error e →
      VF.new? isZero reserved m nv s vdims = .error e) := by
  refine ⟨fun h => by simp [VF.new?, h], fun a vd h1 ha hvd => ?_, fun e h1 he => ?_, fun a e h1 ha he => ?_⟩
  · obtain ⟨b, hb, hs, hg⟩ := updateValues_of_ok isZero s m nv a ha
    exact ⟨_, (new?_eq_ok_iff isZero reserved m nv s vdims _).mpr ⟨h1, b, hb, vd, hvd, rfl⟩, rfl, rfl, rfl, hs, hg⟩
  · have : ¬ nv < 1 := by omega
    simp [VF.new?, this, updateValues_of_err isZero s m nv e he]
  · obtain ⟨b, hb, _, _⟩ := updateValues_of_ok isZero s m nv a ha
    have : ¬ nv < 1 := by omega
    simp [VF.new?, this, hb, he]

/-- Labels of a new field: none given → `x, y(, z)` for 2 or 3 components, `v0, v1, …` for more,
none for a scalar field; an empty list removes the labels; a given list must have `nvdim`
pairwise different entries, none of them the name of an attribute — everything else is rejected. -/
theorem new_labels (reserved : List String) (nv : Nat) :
    vdimsSet reserved nv none = .ok (defaultLabels nv) ∧
    vdimsSet reserved nv (some []) = .ok none ∧
    (∀ vs r, vdimsSet reserved nv (some vs) = .ok r → vs ≠ [] →
      r = some vs ∧ vs.length = nv ∧ hasDup vs = false ∧ ∀ c ∈ vs, c ∉ reserved) ∧
    (∀ vs, vs ≠ [] → vs.length = nv → hasDup vs = false → (∀ c ∈ vs, c ∉ reserved) →
      vdimsSet reserved nv (some vs) = .ok (some vs)) ∧
    (∀ vs, vs ≠ [] → (vs.length ≠ nv ∨ hasDup vs = true) → vdimsSet reserved nv (some vs) = .error .value) := by
  refine ⟨rfl, rfl, fun vs r h hne => ?_, fun vs hne hl hd hr => ?_, fun vs hne h => ?_⟩
  · obtain ⟨_, h1, h2, h3, h4⟩ := ((vdimsSet_some_ok_iff reserved nv vs r).mp h).resolve_left fun h => hne h.1
    exact ⟨h4, h1, h2, h3⟩
  · exact (vdimsSet_some_ok_iff reserved nv vs _).mpr (Or.inr ⟨hne, hl, hd, hr, rfl⟩)
  · have h0 : ¬ vs.length = 0 := fun e => hne (List.eq_nil_of_length_eq_zero e)
    rcases h with h | h
    · simp [vdimsSet, h0, h]
    · by_cases hl : vs.length = nv
      · subst hl; simp [vdimsSet, h0, h]
      · simp [vdimsSet, h0, hl]

/-- A vector field created without labels: `.x`, `.y` (and `.z`) are columns 0, 1 (and 2). -/
theorem new_default_labels_comp (isZero : V → Bool) (reserved : List String) (m : Mesh) (nv : Nat) (s : Spec V)
    (g : VF V) (hnv : nv = 2 ∨ nv = 3) (h : VF.new? isZero reserved m nv s none = .ok g) (k : Nat) (hk : k < nv) :
    ∃ c, g.comp isZero (["x", "y", "z"].getD k "") = .ok c ∧ c.nvdim = 1 ∧ c.mesh = m ∧
      ∀ i, inRange m.n i = true → c.data.get (i ++ [0]) = g.data.get (i ++ [k]) := by
  obtain ⟨_, _, vd, _, hvd, hgm, _, hgv, _, _⟩ := new?_ok isZero reserved m nv s none g h
  injection hvd with hvd
  rw [← hvd] at hgv
  rcases hnv with rfl | rfl
  · rw [(defaultLabels_spec 2).1 rfl] at hgv
    obtain ⟨c, hc, h1, h2, _, h4⟩ := comp_kth isZero g ["x", "y"] k hgv (by decide) hk
    refine ⟨c, ?_, h2, h1.trans hgm, fun i hi => h4 i (by rw [hgm]; exact hi)⟩
    have : (["x", "y"] : List String).getD k "" = ["x", "y", "z"].getD k "" := by
      rcases lt_two k hk with rfl | rfl <;> rfl
    rw [← this]; exact hc
  · rw [(defaultLabels_spec 3).2.1 rfl] at hgv
    obtain ⟨c, hc, h1, h2, _, h4⟩ := comp_kth isZero g ["x", "y", "z"] k hgv (by decide) hk
    exact ⟨c, hc, h2, h1.trans hgm, fun i hi => h4 i (by rw [hgm]; exact hi)⟩

/-! ## end to end: construct, then sample -/

/-- A field constructed from a function of position, sampled at ANY point of the region, returns
the function's value at the centre of a cell that contains the point. -/
theorem construct_func_call (isZero : V → Bool) (reserved : List String) (m : Mesh) (hm : m.Inv) (nv : Nat)
    (fn : List Rat → List V) (vdims : Option (List String)) (g : VF V)
    (hlen : ∀ i, inRange m.n i = true → (fn (m.centre i)).length = nv)
    (h : VF.new? isZero reserved m nv (.leaf (.func fn)) vdims = .ok g)
    (p : List Rat) (hp : m.region.containsExact p) :
    ∃ i, inRange m.n i = true ∧ g.call p = .ok (fn (m.centre i)) ∧
      ∀ a, a < m.ndim →
        m.region.lo a + (i.getD a 0 : Rat) * m.cellAt a ≤ p.getD a 0 ∧
        (p.getD a 0 < m.region.lo a + ((i.getD a 0 : Rat) + 1) * m.cellAt a ∨
          (i.getD a 0 = m.nAt a - 1 ∧ p.getD a 0 = m.region.hi a)) := by
  obtain ⟨a, ha, _, hag⟩ := asArray_func isZero fn m nv hlen
  obtain ⟨_, a', _, ha', _, hgm, hgn, _, _, hgg⟩ := new?_ok isZero reserved m nv _ vdims g h
  rw [ha] at ha'; injection ha' with ha'; subst ha'
  obtain ⟨i, hcall, hir, hbox⟩ := call_cell_contains g (by rw [hgm]; exact hm) p (by rw [hgm]; exact hp)
  rw [hgm] at hir hbox
  refine ⟨i, hir, ?_, hbox⟩
  rw [hcall, hgn]
  refine congrArg _ (eq_tab_of_getD _ nv _ default (hlen i hir) fun c hc => ?_).symm
  rw [hgg _ (inRange_snoc_of hir hc), hag i c hir]

/-! ## the data frame of a line: column names -/

/-- POSITIVE statement for non-clashing names.  When `r`, the mesh dimension names and the value
column names (`v<label>`; without labels `v`, or `v0, v1, …` for a vector field) are pairwise different, the data frame of `Field.line` has
exactly the columns `r, *dims, *value columns` in this order; column `r` holds the (squared)
distances, the column of dimension `a` the `a`-th coordinate of every point, the `c`-th value
column the `c`-th component of every sampled value.  There are `nvdim` value columns, one for
every component, whenever the labels have passed the `vdims` setter (`valueColumns_complete`). -/
theorem lineData_columns (f : VF V) (p1 p2 : List Rat) (n : Nat) (fr : List (String × Col V))
    (h : f.lineData p1 p2 n = .ok fr)
    (hnd : ("r" :: (f.mesh.region.dims ++ (valueColumns f.vdims f.nvdim).take f.nvdim)).Nodup) :
    ∃ o, f.line p1 p2 n = .ok o ∧
      colNames fr = "r" :: (f.mesh.region.dims ++ (valueColumns f.vdims f.nvdim).take f.nvdim) ∧
      colOf fr "r" = some (.dist2 o.r2) ∧
      (∀ a, a < f.mesh.region.dims.length →
        colOf fr (f.mesh.region.dims.getD a "") = some (.num (o.points.map fun p => p.getD a 0))) ∧
      (∀ c, c < f.nvdim → c < (valueColumns f.vdims f.nvdim).length →
        colOf fr ((valueColumns f.vdims f.nvdim).getD c "") = some (.val (o.values.map fun v => v.getD c default))) := by
  obtain ⟨o, ho, rfl⟩ := (lineData_eq_ok_iff f p1 p2 n fr).mp h
  have hnames := colNames_frameAssigns f.mesh.region.dims (valueColumns f.vdims f.nvdim) f.nvdim o
  have hfr := lineFrame_eq_frameAssigns f.mesh.region.dims (valueColumns f.vdims f.nvdim) f.nvdim o hnd
  have hnd' : (colNames (frameAssigns f.mesh.region.dims (valueColumns f.vdims f.nvdim) f.nvdim o)).Nodup := by
    rw [hnames]; exact hnd
  refine ⟨o, ho, by rw [hfr, hnames], ?_, fun a ha => ?_, fun c hc hc' => ?_⟩
  · rw [hfr]
    exact colOf_of_nodup _ hnd' ("r", Col.dist2 o.r2) (by rw [frameAssigns_eq]; simp)
  · rw [hfr]
    exact colOf_of_nodup _ hnd' (_, _) (by
      rw [frameAssigns_eq]
      exact List.mem_cons_of_mem _ (List.mem_append_left _ (mem_dimAssigns _ o a ha)))
  · rw [hfr]
    exact colOf_of_nodup _ hnd' (_, _) (by
      rw [frameAssigns_eq]
      exact List.mem_cons_of_mem _ (List.mem_append_right _ (mem_valAssigns _ _ o c hc hc')))

/-- Two points of the region and `n ≥ 2` give a data frame (on every mesh, with any names). -/
theorem lineData_accepts (f : VF V) (p1 p2 : List Rat) (n : Nat) (hn : 2 ≤ n)
    (h1 : f.mesh.region.containsExact p1) (h2 : f.mesh.region.containsExact p2) :
    ∃ fr, f.lineData p1 p2 n = .ok fr := by
  obtain ⟨o, ho⟩ := line_accepts f p1 p2 n hn h1 h2
  exact ⟨_, (lineData_eq_ok_iff f p1 p2 n _).mpr ⟨o, ho, rfl⟩⟩

/-- A field whose labels passed the `vdims` setter (`nvdim` different labels) on a mesh whose
dimension names are different from `r` and from every `v<label>`: the hypothesis of
`lineData_columns` holds and all `nvdim` value columns are there. -/
theorem lineData_noclash_of_labels (dims vs : List String) (nv : Nat) (hl : vs.length = nv)
    (hd : dims.Nodup) (hv : vs.Nodup) (hr : "r" ∉ dims) (hrv : ∀ l ∈ vs, "v" ++ l ≠ "r")
    (hdv : ∀ l ∈ vs, "v" ++ l ∉ dims) :
    ("r" :: (dims ++ (valueColumns (some vs) nv).take nv)).Nodup := by
  have htake : (valueColumns (some vs) nv).take nv = vs.map fun d => "v" ++ d := by
    simp only [valueColumns]
    rw [List.take_of_length_le (by simp [hl])]
  rw [htake]
  have hinj : (vs.map fun d => "v" ++ d).Nodup := by
    rw [List.Nodup, List.pairwise_map]
    exact List.Pairwise.imp (fun h e => h ((String.append_right_inj "v").mp e)) hv
  rw [List.nodup_cons, List.nodup_append]
  refine ⟨?_, hd, hinj, ?_⟩
  · rw [List.mem_append]
    rintro (h | h)
    · exact hr h
    · obtain ⟨l, hl', e⟩ := List.mem_map.mp h
      exact hrv l hl' e
  · intro a ha b hb e
    obtain ⟨l, hl', e'⟩ := List.mem_map.mp hb
    exact hdv l hl' (by rw [e', ← e]; exact ha)

/-- Name clash with a value column (D42).  If a mesh dimension carries the name of
the `c`-th value column (`v<label>`, or `v` for an unlabelled scalar field), then in the data
frame of `Field.line` the column of that name holds the `c`-th COMPONENT of the sampled values:
the coordinate column has been overwritten, the points of the line are not in the frame. -/
theorem lineData_clash_value_column (f : VF V) (p1 p2 : List Rat) (n : Nat) (fr : List (String × Col V))
    (h : f.lineData p1 p2 n = .ok fr) (a c : Nat) (ha : a < f.mesh.region.dims.length)
    (hc : c < f.nvdim) (hc' : c < (valueColumns f.vdims f.nvdim).length)
    (hvn : ((valueColumns f.vdims f.nvdim).take f.nvdim).Nodup)
    (hclash : f.mesh.region.dims.getD a "" = (valueColumns f.vdims f.nvdim).getD c "") :
    ∃ o, f.line p1 p2 n = .ok o ∧
      colOf fr (f.mesh.region.dims.getD a "") = some (.val (o.values.map fun v => v.getD c default)) ∧
      fr.length ≤ f.mesh.region.dims.length + min f.nvdim (valueColumns f.vdims f.nvdim).length := by
  obtain ⟨o, ho, rfl⟩ := (lineData_eq_ok_iff f p1 p2 n fr).mp h
  refine ⟨o, ho, ?_, ?_⟩
  · unfold lineFrame
    rw [colOf_applyAssigns, frameAssigns_eq, List.reverse_cons, List.reverse_append, List.append_assoc,
      List.find?_append, hclash]
    have := find_rev_of_nodup (valAssigns (valueColumns f.vdims f.nvdim) f.nvdim o)
      (by rw [colNames_valAssigns]; exact hvn) _ (mem_valAssigns _ _ o c hc hc')
    simp only at this
    rw [this]; rfl
  · -- one name is assigned twice: at most 1 + ndim + nvalues - 1 columns
    have hlen : (frameAssigns f.mesh.region.dims (valueColumns f.vdims f.nvdim) f.nvdim o).length
        = 1 + f.mesh.region.dims.length + min f.nvdim (valueColumns f.vdims f.nvdim).length := by
      rw [frameAssigns_eq, List.length_cons, List.length_append, dimAssigns, valAssigns, tab_length, tab_length]
      omega
    have hmem : (valueColumns f.vdims f.nvdim).getD c "" ∈ (valueColumns f.vdims f.nvdim).take f.nvdim := by
      have := getD_mem ((valueColumns f.vdims f.nvdim).take f.nvdim) c "" (by rw [List.length_take]; omega)
      rwa [List.getD_eq_getElem?_getD, List.getElem?_take_of_lt hc, ← List.getD_eq_getElem?_getD] at this
    have := length_applyAssigns_lt [] (frameAssigns f.mesh.region.dims (valueColumns f.vdims f.nvdim) f.nvdim o)
      List.nodup_nil fun hn => by
        rw [colNames_frameAssigns] at hn
        exact (List.nodup_append.mp (List.nodup_cons.mp hn).2).2.2 _ (getD_mem _ a "" ha) _ hmem hclash
    rw [hlen, List.length_nil] at this
    unfold lineFrame
    omega

/-- Name clash with the distance column (D42).  If a mesh dimension is called `r` (and
no value column is), the column `r` of the data frame holds that COORDINATE of the points: the
distances from `p1` are not in the frame. -/
theorem lineData_clash_r (f : VF V) (p1 p2 : List Rat) (n : Nat) (fr : List (String × Col V))
    (h : f.lineData p1 p2 n = .ok fr) (a : Nat) (ha : a < f.mesh.region.dims.length)
    (hdn : f.mesh.region.dims.Nodup) (hr : f.mesh.region.dims.getD a "" = "r")
    (hv : "r" ∉ (valueColumns f.vdims f.nvdim).take f.nvdim) :
    ∃ o, f.line p1 p2 n = .ok o ∧ colOf fr "r" = some (.num (o.points.map fun p => p.getD a 0)) := by
  obtain ⟨o, ho, rfl⟩ := (lineData_eq_ok_iff f p1 p2 n fr).mp h
  refine ⟨o, ho, ?_⟩
  unfold lineFrame
  rw [colOf_applyAssigns, frameAssigns_eq, List.reverse_cons, List.reverse_append, List.append_assoc,
    List.find?_append, List.find?_append]
  have h1 : (valAssigns (valueColumns f.vdims f.nvdim) f.nvdim o).reverse.find? (fun p => p.1 == "r") = none := by
    apply find_none_of_not_mem
    rw [colNames_reverse, List.mem_reverse, colNames_valAssigns]; exact hv
  have h2 := find_rev_of_nodup (dimAssigns f.mesh.region.dims o)
    (by rw [colNames_dimAssigns]; exact hdn) _ (mem_dimAssigns _ o a ha)
  simp only [hr] at h2
  rw [h1, h2]; rfl

/-- Every component has its own value column: for labels that passed the `vdims` setter (`nvdim` of
them), for an unlabelled scalar field (`v`) and for an unlabelled vector field (`v0 … v{nvdim-1}`)
there are exactly `nvdim` value column names, so `zip(range(nvdim), value_columns)` drops nothing. -/
theorem valueColumns_complete (vdims : Option (List String)) (nv : Nat)
    (h : vdims = none ∨ ∃ vs, vdims = some vs ∧ vs.length = nv) :
    (valueColumns vdims nv).length = nv ∧ (valueColumns vdims nv).take nv = valueColumns vdims nv ∧
    (vdims = none → 1 < nv → ∀ c, c < nv → (valueColumns vdims nv).getD c "" = s!"v{c}") ∧
    (vdims = none → nv = 1 → valueColumns vdims nv = ["v"]) ∧
    (∀ vs, vdims = some vs → ∀ c, c < nv → (valueColumns vdims nv).getD c "" = "v" ++ vs.getD c "") := by
  have hlen : (valueColumns vdims nv).length = nv := by
    rcases h with rfl | ⟨vs, rfl, hl⟩
    · unfold valueColumns
      by_cases h1 : nv = 1
      · simp [h1]
      · simp [h1]
    · simp [valueColumns, hl]
  refine ⟨hlen, List.take_of_length_le (by omega), fun hv h1 c hc => ?_, fun hv h1 => ?_, fun vs hv c hc => ?_⟩
  · subst hv
    have : ¬ nv = 1 := by omega
    simp [valueColumns, this, List.getD_eq_getElem?_getD, hc]
  · subst hv; simp [valueColumns, h1]
  · subst hv
    rcases h with h | ⟨vs', h', hl⟩
    · cases h
    · injection h' with h'; subst h'
      simp [valueColumns, List.getD_eq_getElem?_getD, hl, hc]

/-- The frame of an unlabelled vector field (`vdims=[]` removes the labels; D45) has the columns `r, *dims, v0, …, v{nvdim-1}`, and column `v{c}` holds
component `c` of every sampled value, for EVERY `c < nvdim`. -/
theorem lineData_unlabelled_vector (f : VF V) (p1 p2 : List Rat) (n : Nat) (fr : List (String × Col V))
    (hv : f.vdims = none) (hnv : 1 < f.nvdim) (h : f.lineData p1 p2 n = .ok fr)
    (hnd : ("r" :: (f.mesh.region.dims ++ (List.range f.nvdim).map fun i => s!"v{i}")).Nodup) :
    ∃ o, f.line p1 p2 n = .ok o ∧
      colNames fr = "r" :: (f.mesh.region.dims ++ (List.range f.nvdim).map fun i => s!"v{i}") ∧
      ∀ c, c < f.nvdim → colOf fr s!"v{c}" = some (.val (o.values.map fun v => v.getD c default)) := by
  obtain ⟨hlen, htake, hget, _, _⟩ := valueColumns_complete f.vdims f.nvdim (Or.inl hv)
  have hvc : valueColumns f.vdims f.nvdim = (List.range f.nvdim).map fun i => s!"v{i}" := by
    have : ¬ f.nvdim = 1 := by omega
    simp [hv, valueColumns, this]
  obtain ⟨o, ho, hnames, _, _, hvals⟩ := lineData_columns f p1 p2 n fr h (by rw [htake, hvc]; exact hnd)
  refine ⟨o, ho, by rw [hnames, htake, hvc], fun c hc => ?_⟩
  have := hvals c hc (by omega)
  rw [hget hv hnv c hc] at this
  exact this

omit [Inhabited V] in
/-- The values along a line between two points of the region are stored values: value `j` is the
row of a cell that contains point `j` of the line (composition of `line_values` and
`call_cell_contains`; every point of the segment lies in the region). -/
theorem line_values_cell (f : VF V) (hm : f.mesh.Inv) (p1 p2 : List Rat) (n : Nat) (o : LineOut V)
    (h : f.line p1 p2 n = .ok o)
    (h1 : f.mesh.region.containsExact p1) (h2 : f.mesh.region.containsExact p2) (j : Nat) (hj : j < n) :
    ∃ i, inRange f.mesh.n i = true ∧ o.values.getD j [] = row f.data f.nvdim i ∧
      ∀ a, a < f.mesh.ndim →
        f.mesh.region.lo a + (i.getD a 0 : Rat) * f.mesh.cellAt a ≤ (o.points.getD j []).getD a 0 ∧
        ((o.points.getD j []).getD a 0 < f.mesh.region.lo a + ((i.getD a 0 : Rat) + 1) * f.mesh.cellAt a ∨
          (i.getD a 0 = f.mesh.nAt a - 1 ∧ (o.points.getD j []).getD a 0 = f.mesh.region.hi a)) := by
  obtain ⟨_, _, hn, hpts, _, _⟩ := line_ok f p1 p2 n o h
  have hin : f.mesh.region.containsExact (o.points.getD j []) := by
    rw [hpts, getD_tab _ _ _ _ hj]
    refine ⟨by simp; rfl, fun a ha => ?_⟩
    have ha' : a < f.mesh.ndim := ha
    rw [getD_tab _ _ _ _ ha']
    exact segment_in _ _ _ _ j n hn hj (h1.2 a ha) (h2.2 a ha)
  obtain ⟨i, hcall, hir, hbox⟩ := call_cell_contains f hm _ hin
  have hv := line_values f p1 p2 n o h j hj
  rw [hcall] at hv
  injection hv with hv
  exact ⟨i, hir, hv.symm, hbox⟩

omit [Inhabited V] in
/-- Fewer than two points are rejected. -/
theorem line_short_rejected (f : VF V) (p1 p2 : List Rat) (n : Nat) (hn : n < 2) :
    ∃ e, f.line p1 p2 n = .error e := by
  refine (err_iff_not_ok _).mpr fun ⟨o, h⟩ => ?_
  have := (line_ok f p1 p2 n o h).2.2.1
  omega

/-- THE PROPERTY'S WORDING for dictionaries, literally: the value stored for cell `i` is supplied by
the FIRST LISTED subregion (order of `mesh.subregions`) that is a key of the dictionary and whose
region CONTAINS THE CENTRE of cell `i` — that key's specification converted on the subregion's own
mesh and read at the cell — and otherwise by the default. -/
theorem asArray_dict_first_containing (isZero : V → Bool) (items : List (String × Leaf V)) (dflt : Option (Dflt V))
    (m : Mesh) (hm : m.Inv) (nv : Nat) (a : NDA V) (k1 k2 : String × Region → Nat → Nat)
    (hal : ∀ p ∈ m.subs, AlignedSub m p.2 (k1 p) (k2 p))
    (h : asArray isZero (.dict items dflt) m nv = .ok a)
    (i : List Nat) (hi : inRange m.n i = true) (c : Nat) (hc : c < nv) :
    a.get (i ++ [c]) =
      match m.subs.find? (listedContains items m i) with
      | some p => cellOf isZero items m nv k1 k2 i c p
      | none => dfltVal dflt m nv i c := by
  rw [asArray_dict_first_listed isZero items dflt m hm nv a k1 k2 hal h i hi c hc,
    find?_congr m.subs _ _ fun p hp => hits_eq_listedContains items m hm k1 k2 p (hal p hp) i hi]

/-! ## dictionaries: the remaining leaf kinds, acceptance with callable / without default, rejections -/

/-- What a listed subregion assigns to a cell it contains: a vector of `nvdim` numbers gives that
vector, … -/
theorem dict_cell_vector (isZero : V → Bool) (items : List (String × Leaf V)) (m : Mesh) (nv : Nat)
    (k1 k2 : String × Region → Nat → Nat) (i : List Nat) (c : Nat) (hc : c < nv)
    (p : String × Region) (arr : NDA V)
    (hl : lookupLeaf items p.1 = some (.arr arr)) (hs : arr.shape = [nv])
    (hamb : ¬ (nv = 1 ∧ (subMeshOf m p.2 (k1 p) (k2 p)).n = [1])) :
    cellOf isZero items m nv k1 k2 i c p = arr.get [c] := by
  obtain ⟨b, hb1, _, hg⟩ := asArray_vector isZero arr (subMeshOf m p.2 (k1 p) (k2 p)) nv hs hamb
  rw [cellOf_of_ok isZero items m nv k1 k2 i c p _ hl b hb1]
  exact hg _ c (by simp [subIdx, subMeshOf]) hc

/-- What a listed subregion assigns to a cell it contains: a source field gives its sample at the
centre of the MESH cell, i.e. (with
`call_cell_contains`) the value of a source cell containing that centre. -/
theorem dict_cell_field (isZero : V → Bool) (items : List (String × Leaf V)) (m : Mesh) (hm : m.Inv) (nv : Nat)
    (k1 k2 : String × Region → Nat → Nat) (i : List Nat) (hi : inRange m.n i = true) (c : Nat) (hc : c < nv)
    (p : String × Region) (src : VF V)
    (hal : AlignedSub m p.2 (k1 p) (k2 p)) (hit : hits items m k1 k2 i p = true)
    (hl : lookupLeaf items p.1 = some (.field src))
    (hsm : (subMeshOf m p.2 (k1 p) (k2 p)).Inv) (hs : src.mesh.Inv) (hnd : src.mesh.ndim = m.ndim)
    (hdims : p.2.dims = src.mesh.region.dims) (hnv : src.nvdim = nv)
    (hin : ∀ a, a < m.ndim → src.mesh.region.lo a ≤ p.2.lo a ∧ p.2.hi a ≤ src.mesh.region.hi a) :
    ∃ vs, src.call (m.centre i) = .ok vs ∧ cellOf isZero items m nv k1 k2 i c p = vs.getD c default := by
  have hil : i.length = m.ndim := hm.length_eq hi
  have hb := hits_inBox items m k1 k2 i p hit
  have hsnd : (subMeshOf m p.2 (k1 p) (k2 p)).ndim = m.ndim := hal.ndim
  obtain ⟨b, hb1, _, hg⟩ := asArray_field_samples_source isZero src (subMeshOf m p.2 (k1 p) (k2 p)) nv hsm hs
    (by rw [hnd, hsnd]) hdims hnv (by rw [hsnd]; exact hin)
  have hcall := hg _ (subIdx_inRange m (k1 p) (k2 p) i hil [] hb)
  rw [subMesh_centre m p.2 (k1 p) (k2 p) hal i hil [] hb] at hcall
  refine ⟨_, hcall, ?_⟩
  rw [cellOf_of_ok isZero items m nv k1 k2 i c p _ hl b hb1, row_getD _ _ _ c _ hc]

/-- A listed subregion whose value cannot be converted on its submesh (wrong shape, component
count or type) makes the whole dictionary rejected — also when the subregion is completely hidden
behind earlier ones. -/
theorem asArray_dict_leaf_rejected (isZero : V → Bool) (items : List (String × Leaf V)) (dflt : Option (Dflt V))
    (m : Mesh) (hm : m.Inv) (nv : Nat) (k1 k2 : Nat → Nat) (p : String × Region) (hp : p ∈ m.subs)
    (hal : AlignedSub m p.2 k1 k2) (lf : Leaf V) (hl : lookupLeaf items p.1 = some lf) (e : Err)
    (herr : asLeaf isZero lf (subMeshOf m p.2 k1 k2) nv = .error e) :
    ∃ e', asArray isZero (.dict items dflt) m nv = .error e' := by
  rw [err_iff_not_ok, asArray_dict_accepted_iff]
  rintro ⟨_, a1, hloop, _⟩
  -- the loop ran through, so the body prepared a patch for `p`: its leaf is well formed on the submesh
  have hwf := (patchOf_aligned_ok_iff isZero items m hm nv p k1 k2 hal).mp
    ((dictLoop_ok_iff isZero items m nv _ _).mp ⟨a1, hloop⟩ p (List.mem_reverse.mpr hp)) lf hl
  rw [asLeaf_ok_of_wf isZero lf _ nv hwf] at herr
  cases herr

/-- A `default` of the wrong type, or one NumPy cannot broadcast to `(*n, nvdim)` (e.g. a vector of
another length), is rejected. -/
theorem asArray_dict_bad_default_rejected (isZero : V → Bool) (items : List (String × Leaf V)) (m : Mesh) (nv : Nat) :
    asArray isZero (.dict items (some .bad)) m nv = .error .value ∧
    ∀ d : NDA V, bcastOk (m.n ++ [nv]) d.shape = false →
      asArray isZero (.dict items (some (.val d))) m nv = .error .value := by
  refine ⟨rfl, fun d hd => ?_⟩
  simp [asArray, fillOf, bcast, hd]

/-- Well-formed dictionaries with a CALLABLE default (a function, or a field — fields are called
like functions) are accepted: subregions that are unions of cells, every listed value convertible
on its submesh, the default returning `nvdim` values at every cell centre. -/
theorem asArray_dict_accepts_callable (isZero : V → Bool) (items : List (String × Leaf V)) (d : Dflt V)
    (m : Mesh) (hm : m.Inv) (nv : Nat) (k1 k2 : String × Region → Nat → Nat)
    (hal : ∀ p ∈ m.subs, AlignedSub m p.2 (k1 p) (k2 p))
    (hok : ∀ p ∈ m.subs, ∀ lf, lookupLeaf items p.1 = some lf →
      ∃ sub, asLeaf isZero lf (subMeshOf m p.2 (k1 p) (k2 p)) nv = .ok sub ∧
        sub.shape = (subMeshOf m p.2 (k1 p) (k2 p)).n ++ [nv])
    (hd : (∃ fn, d = .func fn ∧ ∀ i, inRange m.n i = true → (fn (m.centre i)).length = nv) ∨
          (∃ src : VF V, d = .field src ∧ src.nvdim = nv ∧
            ∀ i, inRange m.n i = true → ∃ j, src.mesh.point2index (m.centre i) = .ok j)) :
    ∃ a, asArray isZero (.dict items (some d)) m nv = .ok a ∧ a.shape = m.n ++ [nv] := by
  obtain ⟨a, ha⟩ := dict_ok_of_wf isZero items (some d) m hm nv k1 k2 hal
    ⟨by rcases hd with ⟨fn, rfl, _⟩ | ⟨src, rfl, _⟩ <;> trivial,
      fun p hp lf hl => (hok p hp lf hl).elim fun sub h => wf_of_asLeaf_ok isZero lf _ nv sub h.1,
      fun i hi _ => by
        rcases hd with ⟨fn, rfl, hfn⟩ | ⟨src, rfl, hsn, hsp⟩
        · exact hfn i hi
        · exact ⟨hsn, hsp i hi⟩⟩
  exact ⟨a, ha, asArray_shape_any isZero _ m nv a ha⟩

/-- A dictionary WITHOUT default whose listed subregions cover every cell is accepted. -/
theorem asArray_dict_accepts_covered (isZero : V → Bool) (items : List (String × Leaf V))
    (m : Mesh) (hm : m.Inv) (nv : Nat) (k1 k2 : String × Region → Nat → Nat)
    (hal : ∀ p ∈ m.subs, AlignedSub m p.2 (k1 p) (k2 p))
    (hok : ∀ p ∈ m.subs, ∀ lf, lookupLeaf items p.1 = some lf →
      ∃ sub, asLeaf isZero lf (subMeshOf m p.2 (k1 p) (k2 p)) nv = .ok sub ∧
        sub.shape = (subMeshOf m p.2 (k1 p) (k2 p)).n ++ [nv])
    (hcov : ∀ i, inRange m.n i = true → ∃ p ∈ m.subs, hits items m k1 k2 i p = true) :
    ∃ a, asArray isZero (.dict items none) m nv = .ok a ∧ a.shape = m.n ++ [nv] := by
  obtain ⟨a, ha⟩ := dict_ok_of_wf isZero items none m hm nv k1 k2 hal
    ⟨trivial, fun p hp lf hl => (hok p hp lf hl).elim fun sub h => wf_of_asLeaf_ok isZero lf _ nv sub h.1,
      fun i hi hno => by
        obtain ⟨p, hp, hhit⟩ := hcov i hi
        rw [hno p hp] at hhit; cases hhit⟩
  exact ⟨a, ha, asArray_shape_any isZero _ m nv a ha⟩

/-- A callable default that returns another number of components at the centre of a cell no listed
subregion covers is rejected (wrong component count). -/
theorem asArray_dict_default_count_rejected (isZero : V → Bool) (items : List (String × Leaf V))
    (fn : List Rat → List V) (m : Mesh) (nv : Nat) (hlen : m.n.length = m.ndim) (hnv : 0 < nv)
    (i : List Nat) (hi : inRange m.n i = true)
    (hun : (m.subs.findSome? fun p => patchVal isZero items m nv p (i ++ [0])) = none)
    (hbad : (fn (m.centre i)).length ≠ nv) :
    ∃ e, asArray isZero (.dict items (some (.func fn))) m nv = .error e := by
  rw [err_iff_not_ok, asArray_dict_accepted_iff]
  rintro ⟨_, a1, hloop, hd⟩
  obtain ⟨n0, hany⟩ := dictLoop_unset isZero items m nv _ _ a1 hloop (i ++ [0]) (inRange_snoc_of hi hnv) rfl hun
  -- the default pass is asked for cell `i`
  obtain ⟨_, hd, a2, hdl⟩ := hd hany
  cases hd
  exact hbad ((dfltCell_ok_iff (.func fn) nofun m hlen nv i hi).mp
    ((dfltLoop_ok_iff _ m nv _ a1).mp ⟨a2, hdl⟩ i ((mem_nanCells m a1 i).mpr ⟨hi, n0⟩)))

/-! ## histories: any sequence of accepted and rejected assignments -/

/-- INVARIANT over histories.  After ANY sequence of assignments through the `array` setter and
`update_field_values` — each one accepted or rejected — the field still lives on its mesh with
its `nvdim` and labels, and its array still has shape `(*n, nvdim)`. -/
theorem history_invariant (isZero : V → Bool) (f : VF V) (ops : List (Assign V))
    (hs : f.data.shape = f.mesh.n ++ [f.nvdim]) :
    (f.run isZero ops).mesh = f.mesh ∧ (f.run isZero ops).nvdim = f.nvdim ∧
    (f.run isZero ops).vdims = f.vdims ∧
    (f.run isZero ops).data.shape = f.mesh.n ++ [f.nvdim] := by
  have h := run_withData isZero f none ops
  simp only [withData] at h
  rw [h]
  cases hl : lastResult isZero f.mesh f.nvdim none ops with
  | none => exact ⟨rfl, rfl, rfl, hs⟩
  | some a =>
    exact ⟨rfl, rfl, rfl, lastResult_shape isZero f.mesh f.nvdim none ops (fun _ h => by cases h) a hl⟩

/-- The state after a history is determined by its LAST ACCEPTED assignment: whatever was assigned
(or rejected) before, and however many assignments were rejected afterwards, the field holds
exactly the array that assignment produces; if every assignment was rejected the field is
unchanged. -/
theorem history_last_accepted (isZero : V → Bool) (f : VF V) :
    (∀ ops : List (Assign V), (∀ q ∈ ops, ∃ e, Assign.result isZero f.mesh f.nvdim q = .error e) →
      f.run isZero ops = f) ∧
    (∀ (pre post : List (Assign V)) (op : Assign V) (a : NDA V),
      Assign.result isZero f.mesh f.nvdim op = .ok a →
      (∀ q ∈ post, ∃ e, Assign.result isZero f.mesh f.nvdim q = .error e) →
      f.run isZero (pre ++ op :: post) = { f with data := a }) := by
  constructor
  · intro ops hrej
    have h := run_withData isZero f none ops
    simp only [withData] at h
    rw [h]
    have : lastResult isZero f.mesh f.nvdim none ops = none := by
      clear h
      induction ops with
      | nil => rfl
      | cons q rest ih =>
        obtain ⟨e, he⟩ := hrej q (by simp)
        simp only [lastResult, List.foldl_cons, he] at ih ⊢
        exact ih fun q' hq' => hrej q' (by simp [hq'])
    rw [this]
  · intro pre post op a hop hpost
    have h := run_withData isZero f none (pre ++ op :: post)
    simp only [withData] at h
    rw [h, lastResult_append_ok isZero f.mesh f.nvdim none pre post op a hop hpost]

/-- … and that array is the specification's: after a history whose last accepted step is
`update_field_values(s)`, sampling at the centre of any cell returns the row the conversion of
`s` assigns to that cell. -/
theorem history_then_call (isZero : V → Bool) (f : VF V) (hm : f.mesh.Inv) (pre post : List (Assign V))
    (s : Spec V) (a : NDA V) (ha : asArray isZero s f.mesh f.nvdim = .ok a)
    (hpost : ∀ q ∈ post, ∃ e, Assign.result isZero f.mesh f.nvdim q = .error e)
    (i : List Nat) (hi : inRange f.mesh.n i = true) :
    (f.run isZero (pre ++ .upd s :: post)).call (f.mesh.centre i) = .ok (row a f.nvdim i) := by
  obtain ⟨b, hb, _, hbg⟩ := updateValues_of_ok isZero s f.mesh f.nvdim a ha
  rw [(history_last_accepted isZero f).2 pre post (.upd s) b hb hpost]
  have := call_centre ({ f with data := b } : VF V) hm i hi
  rw [this]
  congr 1
  apply tab_congr
  intro c hc
  exact hbg _ (inRange_snoc_of hi hc)

/-! ## acceptance as an equivalence (rejected ⇔ malformed) -/

/-- A specification that is not a dictionary is accepted EXACTLY when it is well formed
(`Leaf.WF`, a statement about the input alone): a number for a scalar field or the number zero; an
array of the cells' shape (scalar field) or one with last axis `nvdim` that NumPy broadcasts to
`(*n, nvdim)`; a function returning `nvdim` numbers at EVERY cell centre; a field with `nvdim`
components and the mesh's dimension names whose region contains the mesh's.  Everything else —
wrong type, wrong component count, wrong shape — is rejected. -/
theorem asLeaf_ok_iff (isZero : V → Bool) (l : Leaf V) (m : Mesh) (nv : Nat) :
    ((∃ a, asArray isZero (.leaf l) m nv = .ok a) ↔ Leaf.WF isZero l m nv) ∧
    ((∃ e, asArray isZero (.leaf l) m nv = .error e) ↔ ¬ Leaf.WF isZero l m nv) := by
  have h1 : (∃ a, asArray isZero (.leaf l) m nv = .ok a) ↔ Leaf.WF isZero l m nv :=
    ⟨fun ⟨a, h⟩ => wf_of_asLeaf_ok isZero l m nv a h, fun h => ⟨_, asLeaf_ok_of_wf isZero l m nv h⟩⟩
  exact ⟨h1, (err_iff_not_ok _).trans (not_congr h1)⟩

/-- A dictionary over subregions (on a mesh whose subregions are unions of cells, any number of them,
overlapping in any pattern; `nvdim ≥ 1`) is accepted EXACTLY when it is well formed (`dictWF`, on
the inputs alone): a constant default can be broadcast to `(*n, nvdim)`; the value of EVERY listed
subregion is well formed on the subregion's own mesh — also of a subregion completely hidden behind
earlier ones; and every cell that no listed subregion covers is served by the default (a constant;
a function returning `nvdim` numbers at that cell's centre; a field with `nvdim` components defined
there) — in particular a missing default is accepted iff the listed subregions cover the mesh. -/
theorem asArray_dict_ok_iff (isZero : V → Bool) (items : List (String × Leaf V)) (dflt : Option (Dflt V))
    (m : Mesh) (hm : m.Inv) (nv : Nat) (hnv : 0 < nv) (k1 k2 : String × Region → Nat → Nat)
    (hal : ∀ p ∈ m.subs, AlignedSub m p.2 (k1 p) (k2 p)) :
    ((∃ a, asArray isZero (.dict items dflt) m nv = .ok a) ↔ dictWF isZero items dflt m nv k1 k2) ∧
    ((∃ e, asArray isZero (.dict items dflt) m nv = .error e) ↔ ¬ dictWF isZero items dflt m nv k1 k2) := by
  have h1 := spec_ok_iff isZero (.dict items dflt) m hm nv hnv k1 k2 hal
  simp only [Spec.WF] at h1
  exact ⟨h1, (err_iff_not_ok _).trans (not_congr h1)⟩

/-! ## the three ways of assigning a value agree -/

/-- `field.array = value`, `field.update_field_values(value)` and `Field(mesh, nvdim, value=value)`
— for EVERY specification (constant, array, function, dictionary, field): they are refused for
exactly the same specifications, with the same error, namely when the conversion `_as_array` refuses
(the constructor, in addition, when the labels are refused); and when accepted all three hold the
same array of shape `(*n, nvdim)`: the conversion's result, entry by entry (the second conversion
of the two-pass paths changes nothing). -/
theorem assign_paths_agree (isZero : V → Bool) (reserved : List String) (f : VF V) (s : Spec V)
    (vdims : Option (List String)) (hnv : 1 ≤ f.nvdim) :
    (∀ e, asArray isZero s f.mesh f.nvdim = .error e →
      f.setSpec isZero s = .error e ∧ f.update isZero s = .error e ∧
      VF.new? isZero reserved f.mesh f.nvdim s vdims = .error e) ∧
    (∀ a, asArray isZero s f.mesh f.nvdim = .ok a →
      ∃ g1 g2, f.setSpec isZero s = .ok g1 ∧ f.update isZero s = .ok g2 ∧
        g1.data.shape = f.mesh.n ++ [f.nvdim] ∧ g2.data.shape = f.mesh.n ++ [f.nvdim] ∧
        (∀ j, inRange (f.mesh.n ++ [f.nvdim]) j = true → g1.data.get j = a.get j ∧ g2.data.get j = a.get j) ∧
        (∀ vd, vdimsSet reserved f.nvdim vdims = .ok vd →
          ∃ g3, VF.new? isZero reserved f.mesh f.nvdim s vdims = .ok g3 ∧ g3.mesh = f.mesh ∧ g3.nvdim = f.nvdim ∧
            g3.data.shape = f.mesh.n ++ [f.nvdim] ∧
            ∀ j, inRange (f.mesh.n ++ [f.nvdim]) j = true → g3.data.get j = a.get j) ∧
        (∀ e, vdimsSet reserved f.nvdim vdims = .error e →
          VF.new? isZero reserved f.mesh f.nvdim s vdims = .error e)) ∧
    (((∃ e, f.setSpec isZero s = .error e) ↔ (∃ e, f.update isZero s = .error e)) ∧
     ((∃ vd, vdimsSet reserved f.nvdim vdims = .ok vd) →
       ((∃ e, f.update isZero s = .error e) ↔ ∃ e, VF.new? isZero reserved f.mesh f.nvdim s vdims = .error e))) := by
  have hN := new_stores_spec isZero reserved f.mesh f.nvdim s vdims
  have hU := update_stores_spec isZero f s
  have part1 : ∀ e, asArray isZero s f.mesh f.nvdim = .error e →
      f.setSpec isZero s = .error e ∧ f.update isZero s = .error e ∧
      VF.new? isZero reserved f.mesh f.nvdim s vdims = .error e := fun e he =>
    ⟨by rw [setSpec_eq, he]; rfl, (hU.2 e he).1, hN.2.2.1 e hnv he⟩
  refine ⟨part1, fun a ha => ?_, ?_, fun ⟨vd, hvd⟩ => ?_⟩
  · obtain ⟨g2, hg2, _, _, _, _, hs2, hget2⟩ := hU.1 a ha
    refine ⟨{ f with data := a }, g2, by rw [setSpec_eq, ha]; rfl, hg2, asArray_shape isZero s _ _ a ha, hs2,
      fun j hj => ⟨rfl, hget2 j hj⟩, fun vd hvd => ?_, fun e he => hN.2.2.2 a e hnv ha he⟩
    obtain ⟨g3, hg3, h1, h2, _, h4, h5⟩ := hN.2.1 a vd hnv ha hvd
    exact ⟨g3, hg3, h1, h2, h4, h5⟩
  · cases ha : asArray isZero s f.mesh f.nvdim with
    | error e =>
      obtain ⟨h1, h2, _⟩ := part1 e ha
      exact ⟨fun _ => ⟨e, h2⟩, fun _ => ⟨e, h1⟩⟩
    | ok a =>
      obtain ⟨g2, hg2, _⟩ := hU.1 a ha
      constructor
      · rintro ⟨e, he⟩; rw [setSpec_eq, ha] at he; cases he
      · rintro ⟨e, he⟩; rw [hg2] at he; cases he
  · cases ha : asArray isZero s f.mesh f.nvdim with
    | error e =>
      obtain ⟨_, h2, h3⟩ := part1 e ha
      exact ⟨fun _ => ⟨e, h3⟩, fun _ => ⟨e, h2⟩⟩
    | ok a =>
      obtain ⟨g2, hg2, _⟩ := hU.1 a ha
      obtain ⟨g3, hg3, _⟩ := hN.2.1 a vd hnv ha hvd
      constructor
      · rintro ⟨e, he⟩; rw [hg2] at he; cases he
      · rintro ⟨e, he⟩; rw [hg3] at he; cases he

/-- REJECTED ⇔ MALFORMED for all three paths at once: on a mesh whose subregions are unions of
cells, the setter, `update_field_values` and the constructor (with acceptable labels) refuse a
specification exactly when it is not well formed (`Spec.WF`: wrong type, component count or shape
somewhere — whole value, a listed subregion's entry, the default), and then the field is unchanged. -/
theorem assign_rejected_iff_malformed (isZero : V → Bool) (reserved : List String) (f : VF V) (hm : f.mesh.Inv)
    (s : Spec V) (vdims : Option (List String)) (hnv : 1 ≤ f.nvdim) (k1 k2 : String × Region → Nat → Nat)
    (hal : ∀ p ∈ f.mesh.subs, AlignedSub f.mesh p.2 (k1 p) (k2 p))
    (hvd : ∃ vd, vdimsSet reserved f.nvdim vdims = .ok vd) :
    ((∃ e, f.setSpec isZero s = .error e) ↔ ¬ Spec.WF isZero s f.mesh f.nvdim k1 k2) ∧
    ((∃ e, f.update isZero s = .error e) ↔ ¬ Spec.WF isZero s f.mesh f.nvdim k1 k2) ∧
    ((∃ e, VF.new? isZero reserved f.mesh f.nvdim s vdims = .error e) ↔ ¬ Spec.WF isZero s f.mesh f.nvdim k1 k2) ∧
    (¬ Spec.WF isZero s f.mesh f.nvdim k1 k2 →
      f.after (f.setSpec isZero s) = f ∧ f.after (f.update isZero s) = f) := by
  have hiff := spec_ok_iff isZero s f.mesh hm f.nvdim hnv k1 k2 hal
  obtain ⟨p1, p2, p3, p4⟩ := assign_paths_agree isZero reserved f s vdims hnv
  have hset : (∃ e, f.setSpec isZero s = .error e) ↔ ¬ Spec.WF isZero s f.mesh f.nvdim k1 k2 := by
    refine Iff.trans ⟨fun ⟨e, he⟩ => ?_, fun ⟨e, he⟩ => ⟨e, (p1 e he).1⟩⟩
      ((err_iff_not_ok _).trans (not_congr hiff))
    cases ha : asArray isZero s f.mesh f.nvdim with
    | error e' => exact ⟨e', rfl⟩
    | ok a =>
      obtain ⟨g1, _, hg1, _⟩ := p2 a ha
      rw [hg1] at he; cases he
  refine ⟨hset, p3.symm.trans hset, (p4 hvd).symm.trans (p3.symm.trans hset), fun hbad => ?_⟩
  obtain ⟨e, he⟩ := hset.mpr hbad
  obtain ⟨e', he'⟩ := p3.mp ⟨e, he⟩
  exact ⟨by rw [he]; rfl, by rw [he']; rfl⟩

/-! ## a field as value — exactly which source cell is read -/

/-- CLOSED FORM of the source cell.  A source field on any mesh whose region contains the target's:
target cell `i` receives, component by component, the value of the source cell whose index along
every axis `a` is `floor((centre_a(i) − src.pmin_a) / src.cell_a)` clipped to the source's cell
range (`Mesh.indexAx`) — xarray's nearest-centre selection with ties to the larger index computes
exactly this index. -/
theorem asArray_field_reads_floor_cell (isZero : V → Bool) (src : VF V) (m : Mesh) (nv : Nat)
    (hm : m.Inv) (hs : src.mesh.Inv) (hnd : src.mesh.ndim = m.ndim)
    (hdims : m.region.dims = src.mesh.region.dims) (hnv : src.nvdim = nv)
    (hin : ∀ a, a < m.ndim → src.mesh.region.lo a ≤ m.region.lo a ∧ m.region.hi a ≤ src.mesh.region.hi a) :
    ∃ b, asArray isZero (.leaf (.field src)) m nv = .ok b ∧ b.shape = m.n ++ [nv] ∧
      ∀ i c, inRange m.n i = true →
        b.get (i ++ [c]) =
          src.data.get ((tab m.ndim fun a => src.mesh.indexAx a (m.centreAx a (i.getD a 0 : Nat))) ++ [c]) := by
  obtain ⟨b, hb, hshape, hget⟩ := asArray_field isZero src m nv hm hs hnd hdims hnv hin
  refine ⟨b, hb, hshape, fun i c hi => ?_⟩
  rw [(hget i c hi).1, nearestIdx_eq_indexAx src.mesh m hm hs hnd i hi]

/-- TIES.  If along axis `a` the centre of target cell `i` lies exactly on the face between the
source cells `k − 1` and `k`, the UPPER cell `k` is read (both are "a source cell containing that
centre", the code always takes this one). -/
theorem asArray_field_tie_upper (isZero : V → Bool) (src : VF V) (m : Mesh) (nv : Nat)
    (hm : m.Inv) (hs : src.mesh.Inv) (hnd : src.mesh.ndim = m.ndim)
    (hdims : m.region.dims = src.mesh.region.dims) (hnv : src.nvdim = nv)
    (hin : ∀ a, a < m.ndim → src.mesh.region.lo a ≤ m.region.lo a ∧ m.region.hi a ≤ src.mesh.region.hi a)
    (i : List Nat) (hi : inRange m.n i = true) (a : Nat) (ha : a < m.ndim) (k : Nat) (hk : k < src.mesh.nAt a)
    (hface : m.centreAx a (i.getD a 0 : Nat) = src.mesh.region.lo a + (k : Rat) * src.mesh.cellAt a) :
    ∃ b, asArray isZero (.leaf (.field src)) m nv = .ok b ∧
      ∃ js, js.getD a 0 = k ∧ ∀ c, b.get (i ++ [c]) = src.data.get (js ++ [c]) := by
  obtain ⟨b, hb, _, hget⟩ := asArray_field_reads_floor_cell isZero src m nv hm hs hnd hdims hnv hin
  refine ⟨b, hb, _, ?_, fun c => hget i c hi⟩
  rw [getD_tab _ _ _ _ ha, hface]
  exact indexAx_face src.mesh a k hk (hs.lo_lt_hi (by rw [hnd]; exact ha))

/-- COARSER / FINER / SHIFTED source meshes, axis by axis.  Let `js` be the index of the source cell
that target cell `i` reads.  Along an axis where source and target have the same edge and the source
has `r` times FEWER cells, `js_a = i_a / r`; where it has `r` times MORE cells, `js_a = r·i_a + r/2`
(odd `r`: the middle one of the `r` source cells inside the target cell; even `r`: the target centre
is on a source face and the upper neighbour is read); where the cell sizes agree and the target's
lower corner lies `s` source cells above the source's, `js_a = s + i_a`. -/
theorem asArray_field_closed_forms (isZero : V → Bool) (src : VF V) (m : Mesh) (nv : Nat)
    (hm : m.Inv) (hs : src.mesh.Inv) (hnd : src.mesh.ndim = m.ndim)
    (hdims : m.region.dims = src.mesh.region.dims) (hnv : src.nvdim = nv)
    (hin : ∀ a, a < m.ndim → src.mesh.region.lo a ≤ m.region.lo a ∧ m.region.hi a ≤ src.mesh.region.hi a)
    (i : List Nat) (hi : inRange m.n i = true) :
    ∃ b js, asArray isZero (.leaf (.field src)) m nv = .ok b ∧ (∀ c, b.get (i ++ [c]) = src.data.get (js ++ [c])) ∧
      js.length = m.ndim ∧
      (∀ a r, a < m.ndim → 0 < r → src.mesh.region.lo a = m.region.lo a → src.mesh.region.hi a = m.region.hi a →
        m.nAt a = r * src.mesh.nAt a → js.getD a 0 = i.getD a 0 / r) ∧
      (∀ a r, a < m.ndim → 0 < r → src.mesh.region.lo a = m.region.lo a → src.mesh.region.hi a = m.region.hi a →
        src.mesh.nAt a = r * m.nAt a → js.getD a 0 = r * i.getD a 0 + r / 2) ∧
      (∀ (a s : Nat), a < m.ndim → src.mesh.cellAt a = m.cellAt a →
        m.region.lo a = src.mesh.region.lo a + (s : Rat) * src.mesh.cellAt a → s + i.getD a 0 < src.mesh.nAt a →
        js.getD a 0 = s + i.getD a 0) := by
  obtain ⟨b, hb, _, hget⟩ := asArray_field_reads_floor_cell isZero src m nv hm hs hnd hdims hnv hin
  have hia : ∀ a, a < m.ndim → i.getD a 0 < m.nAt a := fun a ha => hm.getD_lt hi ha
  refine ⟨b, _, hb, fun c => hget i c hi, by simp, fun a r ha hr h1 h2 h3 => ?_, fun a r ha hr h1 h2 h3 => ?_,
    fun a s ha h1 h2 h3 => ?_⟩
  · rw [getD_tab _ _ _ _ ha]
    exact indexAx_coarser src.mesh m a r _ hr h1 h2 h3 (hia a ha) (hm.lo_lt_hi ha)
  · rw [getD_tab _ _ _ _ ha]
    exact indexAx_finer src.mesh m a r _ hr h1 h2 h3 (hia a ha) (hm.lo_lt_hi ha)
  · rw [getD_tab _ _ _ _ ha]
    exact indexAx_shifted src.mesh m a s _ h1 h2 h3 (hs.lo_lt_hi (by rw [hnd]; exact ha))

/-! ## the stored array is a NEW array (ownership) -/

/-- NO ALIASING, for every history.  In a session of field objects and arrays in which different
objects hold different arrays (`Sess.Sep`; true of freshly created fields), after ANY sequence of
assignments through the setter / `update_field_values` / the constructor — with another field of the
session, an array of the session or any other value as the source — and in-place writes: different
objects still hold different arrays, so an in-place write through one object (`f.array[j] = v`)
changes that object's array and no other object's. -/
theorem no_aliasing_ever (isZero : V → Bool) (st : Sess V) (h : st.Sep) (prog : List (Stmt V)) :
    (st.run isZero prog).Sep ∧
    ∀ i k j v, i < (st.run isZero prog).objs.length → k < (st.run isZero prog).objs.length → i ≠ k →
      (((st.run isZero prog).step isZero (.poke ((st.run isZero prog).obj i).addr j v)).1.field k
        = (st.run isZero prog).field k) ∧
      (((st.run isZero prog).step isZero (.poke ((st.run isZero prog).obj i).addr j v)).1.field i
        = { (st.run isZero prog).field i with data := pokeNDA ((st.run isZero prog).field i).data j v }) := by
  have hsep := run_sep isZero st prog h
  refine ⟨hsep, fun i k j v hi hk hne => ?_⟩
  have hb := hsep.1 i hi
  have e : ((st.run isZero prog).step isZero (.poke ((st.run isZero prog).obj i).addr j v)).1
      = written (st.run isZero prog) ((st.run isZero prog).obj i).addr
          (pokeNDA ((st.run isZero prog).buf ((st.run isZero prog).obj i).addr) j v) := by
    simp only [Sess.step, hb, if_true]; rfl
  rw [e]
  obtain ⟨w1, w2, _⟩ := written_fields (st.run isZero prog) _
    (pokeNDA ((st.run isZero prog).buf ((st.run isZero prog).obj i).addr) j v) hb
  exact ⟨w1 k (hsep.2 k i hk hi (fun e => hne e.symm)), w2 i rfl⟩

/-- A FIELD AS VALUE IS COPIED.  After `objs[i].array = objs[j]` (or `update_field_values`), object
`i` holds the array the conversion assigns — for a source on the same mesh: the source's values
cell by cell (`asArray_field_same_mesh`) — in a buffer that did not exist before; and whatever is
done afterwards to the SOURCE, to any other object and to any other array (in-place writes,
assignments, new fields: any history not assigning to `i` or writing into `i`'s own array) leaves
object `i`'s array exactly as assigned. -/
theorem field_value_is_copied (isZero : V → Bool) (st : Sess V) (h : st.Sep) (i : Nat) (src : Src V) (upd : Bool)
    (hacc : (st.step isZero (if upd then .upd i src else .set i src)).2 = true) :
    ∃ a, (if upd then updateValues isZero (st.spec src) (st.obj i).mesh (st.obj i).nvdim
          else asArray isZero (st.spec src) (st.obj i).mesh (st.obj i).nvdim) = .ok a ∧
      i < st.objs.length ∧
      (st.step isZero (if upd then .upd i src else .set i src)).1 = assigned st i a ∧
      (assigned st i a).field i = { st.field i with data := a } ∧
      ((assigned st i a).obj i).addr = st.store.length ∧
      (∀ k, k < st.objs.length → k ≠ i → (assigned st i a).field k = st.field k) ∧
      ∀ prog : List (Stmt V),
        (∀ c ∈ prog, c.assigns i = false ∧ c.writes st.store.length = false) →
        ((assigned st i a).run isZero prog).field i = { st.field i with data := a } := by
  obtain ⟨hi, a, ha, hstep⟩ := (step_assign_iff isZero st i src upd).mp hacc
  obtain ⟨f1, f2, _, f4⟩ := assigned_fields st i a hi h
  refine ⟨a, ha, hi, hstep, f1, f4, f2, fun prog hprog => ?_⟩
  have hsep' := assigned_sep st i a h
  have := run_keeps isZero (assigned st i a) prog hsep' i (by simpa [assigned] using hi)
    (fun c hc => by rw [f4]; exact hprog c hc)
  rw [this, f1]

/-! ## dictionaries — total statement, overlap patterns, key order -/

/-- THE DICTIONARY CLAUSE WITH HYPOTHESES ON THE INPUTS ONLY.  On a mesh whose subregions are unions
of cells (any number, any overlap pattern), a well-formed dictionary (`dictWF`; default absent,
constant, function or field) is accepted, the result has shape `(*n, nvdim)`, and EVERY cell holds
what the FIRST LISTED subregion that is a key and contains the cell's centre assigns to it, and
otherwise what the default assigns. -/
theorem asArray_dict_total (isZero : V → Bool) (items : List (String × Leaf V)) (dflt : Option (Dflt V))
    (m : Mesh) (hm : m.Inv) (nv : Nat) (hnv : 0 < nv) (k1 k2 : String × Region → Nat → Nat)
    (hal : ∀ p ∈ m.subs, AlignedSub m p.2 (k1 p) (k2 p))
    (hwf : dictWF isZero items dflt m nv k1 k2) :
    ∃ a, asArray isZero (.dict items dflt) m nv = .ok a ∧ a.shape = m.n ++ [nv] ∧
      ∀ i c, inRange m.n i = true → c < nv →
        a.get (i ++ [c]) =
          match m.subs.find? (listedContains items m i) with
          | some p => cellOf isZero items m nv k1 k2 i c p
          | none => dfltVal dflt m nv i c := by
  obtain ⟨a, ha⟩ := dict_ok_of_wf isZero items dflt m hm nv k1 k2 hal hwf
  exact ⟨a, ha, asArray_shape isZero _ m nv a ha, fun i c hi hc =>
    asArray_dict_first_containing isZero items dflt m hm nv a k1 k2 hal ha i hi c hc⟩

/-- EVERY OVERLAP PATTERN.  Split the list of subregions anywhere: `pre ++ p :: post`.  If `p` is a
key of the dictionary and contains the centre of cell `i`, and no subregion of `pre` does, then cell
`i` holds what `p`'s entry assigns — whatever subregions follow in `post`, however many of them also
contain the cell, and whatever their entries are. -/
theorem dict_overlap_first_wins (isZero : V → Bool) (items : List (String × Leaf V)) (dflt : Option (Dflt V))
    (m : Mesh) (hm : m.Inv) (nv : Nat) (a : NDA V) (k1 k2 : String × Region → Nat → Nat)
    (hal : ∀ p ∈ m.subs, AlignedSub m p.2 (k1 p) (k2 p))
    (h : asArray isZero (.dict items dflt) m nv = .ok a)
    (pre post : List (String × Region)) (p : String × Region) (hsplit : m.subs = pre ++ p :: post)
    (i : List Nat) (hi : inRange m.n i = true) (c : Nat) (hc : c < nv)
    (hpre : ∀ q ∈ pre, listedContains items m i q = false) (hp : listedContains items m i p = true) :
    a.get (i ++ [c]) = cellOf isZero items m nv k1 k2 i c p := by
  rw [asArray_dict_first_containing isZero items dflt m hm nv a k1 k2 hal h i hi c hc, hsplit,
    List.find?_append]
  have : pre.find? (listedContains items m i) = none := by
    rw [List.find?_eq_none]; intro q hq; simp [hpre q hq]
  rw [this]
  simp [hp]

/-- A cell that no listed subregion contains holds the default's value, for every kind of
default: the constant (broadcast), the function's value at the cell centre, the field's sample at
the cell centre. -/
theorem dict_uncovered_default (isZero : V → Bool) (items : List (String × Leaf V)) (dflt : Option (Dflt V))
    (m : Mesh) (hm : m.Inv) (nv : Nat) (a : NDA V) (k1 k2 : String × Region → Nat → Nat)
    (hal : ∀ p ∈ m.subs, AlignedSub m p.2 (k1 p) (k2 p))
    (h : asArray isZero (.dict items dflt) m nv = .ok a)
    (i : List Nat) (hi : inRange m.n i = true) (c : Nat) (hc : c < nv)
    (hun : ∀ q ∈ m.subs, listedContains items m i q = false) :
    a.get (i ++ [c]) = dfltVal dflt m nv i c ∧
    (∀ d, dflt = some (.val d) → a.get (i ++ [c]) = d.get (bcastIdx (m.n ++ [nv]) d.shape (i ++ [c]))) ∧
    (∀ fn, dflt = some (.func fn) → a.get (i ++ [c]) = (fn (m.centre i)).getD c default) ∧
    (∀ src vs, dflt = some (.field src) → src.call (m.centre i) = .ok vs → a.get (i ++ [c]) = vs.getD c default) := by
  have e : a.get (i ++ [c]) = dfltVal dflt m nv i c := by
    rw [asArray_dict_first_containing isZero items dflt m hm nv a k1 k2 hal h i hi c hc]
    have : m.subs.find? (listedContains items m i) = none := by
      rw [List.find?_eq_none]; intro q hq; simp [hun q hq]
    rw [this]
  refine ⟨e, fun d hd => ?_, fun fn hd => ?_, fun src vs hd hvs => ?_⟩
  · rw [e, hd]; rfl
  · rw [e, hd]; rfl
  · rw [e, hd]; simp [dfltVal, hvs]

/-- THE ORDER OF THE KEYS of the value dictionary is irrelevant (only the order of
`mesh.subregions` decides): two dictionaries with the same entries in another insertion order
(keys pairwise different, as in every Python dictionary) are converted to the same result —
accepted or rejected alike. -/
theorem dict_key_order_irrelevant (isZero : V → Bool) (items items' : List (String × Leaf V))
    (dflt : Option (Dflt V)) (m : Mesh) (nv : Nat) (hp : items.Perm items') (hnd : (items.map (·.1)).Nodup) :
    asArray isZero (.dict items dflt) m nv = asArray isZero (.dict items' dflt) m nv :=
  asArray_dict_congr isZero items items' dflt m nv (lookupLeaf_perm items items' hp hnd)

/-! ## lines — acceptance as an equivalence, and the whole data frame from the inputs -/

omit [Inhabited V] in
/-- A point can be sampled EXACTLY when the region contains it (with the region's tolerance). -/
theorem call_ok_iff (f : VF V) (p : List Rat) :
    (∃ vs, f.call p = .ok vs) ↔ f.mesh.region.containsPt p = true := by
  constructor
  · rintro ⟨vs, h⟩
    cases hc : f.mesh.region.containsPt p with
    | true => rfl
    | false => rw [call_outside f p hc] at h; cases h
  · intro hc
    exact ⟨_, ((call_eq f p).1 _ (point2index_of_contains _ p hc)).1⟩

omit [Inhabited V] in
/-- A line is accepted EXACTLY when both end points are in the region (with the region's
tolerance), at least two points are requested and every point of the line can be sampled. -/
theorem line_ok_iff (f : VF V) (p1 p2 : List Rat) (n : Nat) :
    (∃ o, f.line p1 p2 n = .ok o) ↔
      f.mesh.region.containsPt p1 = true ∧ f.mesh.region.containsPt p2 = true ∧ 2 ≤ n ∧
      ∀ j, j < n → f.mesh.region.containsPt (tab f.mesh.ndim fun a =>
        p1.getD a 0 + (j : Rat) * ((p2.getD a 0 - p1.getD a 0) / ((n : Rat) - 1))) = true := by
  constructor
  · rintro ⟨o, h⟩
    obtain ⟨hc1, hc2, hn, hpts, hv, _⟩ := line_ok f p1 p2 n o h
    refine ⟨hc1, hc2, hn, fun j hj => ?_⟩
    have hmem : f.call (tab f.mesh.ndim fun a =>
        p1.getD a 0 + (j : Rat) * ((p2.getD a 0 - p1.getD a 0) / ((n : Rat) - 1))) ∈ o.points.map f.call := by
      rw [hpts]
      exact List.mem_map.mpr ⟨_, (mem_tab _ _ _).mpr ⟨j, hj, rfl⟩, rfl⟩
    rw [hv] at hmem
    obtain ⟨vs, _, hvs⟩ := List.mem_map.mp hmem
    exact (call_ok_iff f _).mp ⟨vs, hvs.symm⟩
  · rintro ⟨hc1, hc2, hn, hall⟩
    exact line_accepts_of f p1 p2 n hc1 hc2 hn fun j hj => (call_ok_iff f _).mpr (hall j hj)

/-- THE LINE CLAUSE WITH HYPOTHESES ON THE INPUTS ONLY, for every number of mesh dimensions and every
component count.  Two points of the region, `n ≥ 2`, and column names `r`, the mesh dimensions, the
value columns pairwise different: `Field.line(p1, p2, n).data` exists, its columns are
`r, *dims, *value columns` in this order; column `r` has `n` entries `r_j² = j²·|p2 − p1|²/(n − 1)²`
(held squared); the column of dimension `a` has the `n` equally spaced coordinates
`p1_a + j·(p2_a − p1_a)/(n − 1)` — first `p1_a`, last `p2_a`; the `c`-th value column has `n` entries,
entry `j` being component `c` of the stored value of a cell that contains point `j`. -/
theorem lineData_total (f : VF V) (hm : f.mesh.Inv) (p1 p2 : List Rat) (n : Nat) (hn : 2 ≤ n)
    (h1 : f.mesh.region.containsExact p1) (h2 : f.mesh.region.containsExact p2)
    (hnd : ("r" :: (f.mesh.region.dims ++ (valueColumns f.vdims f.nvdim).take f.nvdim)).Nodup) :
    ∃ fr, f.lineData p1 p2 n = .ok fr ∧
      colNames fr = "r" :: (f.mesh.region.dims ++ (valueColumns f.vdims f.nvdim).take f.nvdim) ∧
      (∃ rs, colOf fr "r" = some (.dist2 rs) ∧ rs.length = n ∧
        ∀ j, j < n → rs.getD j 0 = ((j : Rat) * (j : Rat)) / (((n : Rat) - 1) * ((n : Rat) - 1)) * sqDist p2 p1) ∧
      (∀ a, a < f.mesh.region.dims.length →
        ∃ xs, colOf fr (f.mesh.region.dims.getD a "") = some (.num xs) ∧ xs.length = n ∧
          xs.getD 0 0 = p1.getD a 0 ∧ xs.getD (n - 1) 0 = p2.getD a 0 ∧
          ∀ j, j < n → xs.getD j 0 = p1.getD a 0 + (j : Rat) * ((p2.getD a 0 - p1.getD a 0) / ((n : Rat) - 1))) ∧
      (∀ c, c < f.nvdim → c < (valueColumns f.vdims f.nvdim).length →
        ∃ vs, colOf fr ((valueColumns f.vdims f.nvdim).getD c "") = some (.val vs) ∧ vs.length = n ∧
          ∀ j, j < n → ∃ i, inRange f.mesh.n i = true ∧ vs.getD j default = f.data.get (i ++ [c]) ∧
            ∀ a, a < f.mesh.ndim →
              f.mesh.region.lo a + (i.getD a 0 : Rat) * f.mesh.cellAt a
                ≤ p1.getD a 0 + (j : Rat) * ((p2.getD a 0 - p1.getD a 0) / ((n : Rat) - 1)) ∧
              (p1.getD a 0 + (j : Rat) * ((p2.getD a 0 - p1.getD a 0) / ((n : Rat) - 1))
                  < f.mesh.region.lo a + ((i.getD a 0 : Rat) + 1) * f.mesh.cellAt a ∨
                (i.getD a 0 = f.mesh.nAt a - 1 ∧
                  p1.getD a 0 + (j : Rat) * ((p2.getD a 0 - p1.getD a 0) / ((n : Rat) - 1)) = f.mesh.region.hi a))) := by
  obtain ⟨fr, hfr⟩ := lineData_accepts f p1 p2 n hn h1 h2
  obtain ⟨o, ho, hnames, hr, hdimc, hvalc⟩ := lineData_columns f p1 p2 n fr hfr hnd
  obtain ⟨hpl, hvl, hrl, hpts⟩ := line_points f p1 p2 n o ho
  obtain ⟨he1, he2⟩ := line_ends f p1 p2 n o ho
  have hdl : f.mesh.region.dims.length = f.mesh.ndim := hm.dims_length
  have hmapget : ∀ (g : List Rat → Rat) j, j < n → (o.points.map g).getD j 0 = g (o.points.getD j []) :=
    fun g j hj => getD_map_lt _ g j 0 [] (by omega)
  refine ⟨fr, hfr, hnames, ⟨o.r2, hr, hrl, fun j hj => line_r2 f p1 p2 n o ho j hj⟩, fun a ha => ?_, fun c hc hc' => ?_⟩
  · have ha' : a < f.mesh.ndim := by rw [← hdl]; exact ha
    refine ⟨_, hdimc a ha, by rw [List.length_map, hpl], ?_, ?_, fun j hj => ?_⟩
    · rw [hmapget _ 0 (by omega), he1]
    · rw [hmapget _ (n - 1) (by omega), he2]
    · rw [hmapget _ j hj, hpts j a hj ha']
  · refine ⟨_, hvalc c hc hc', by rw [List.length_map, hvl], fun j hj => ?_⟩
    obtain ⟨i, hir, hval, hbox⟩ := line_values_cell f hm p1 p2 n o ho h1 h2 j hj
    refine ⟨i, hir, ?_, fun a ha => ?_⟩
    · rw [getD_map_lt _ _ j default [] (by omega), hval, row_getD _ _ _ c _ hc]
    · have := hbox a ha
      rw [hpts j a hj ha] at this
      exact this

/-! ## value types — which kind of array is stored -/

/-- REQUESTED dtype: whatever the form of the specification (number, array, function, dictionary,
field) and whatever the kind of the values, the setter, `update_field_values` and the constructor
store an array of the requested kind. -/
theorem kind_requested (k vk : Kind) (s : Spec V) (m : Mesh) (nv : Nat) :
    specKind (some k) vk s m nv = k ∧ updKind (some k) vk s m nv = k := by
  constructor
  · cases s with
    | dict items dflt => rfl
    | leaf l =>
      cases l with
      | arr a => simp only [specKind, leafKind]; split <;> rfl
      | _ => rfl
  · simp only [updKind, leafKind]; split <;> rfl

/-- NO dtype requested, `update_field_values` / constructor (two conversions): the stored array is
float or complex, never bool or int — `max(kind of the first conversion, float64)` — and it is
complex exactly when a COMPLEX number, array or source field is given; functions and dictionaries
always give float (complex values need `dtype=`). -/
theorem kind_not_requested_update (vk : Kind) (s : Spec V) (m : Mesh) (nv : Nat) :
    updKind none vk s m nv = Kind.pmax (specKind none vk s m nv) .float ∧
    (updKind none vk s m nv = .float ∨ updKind none vk s m nv = .complex) ∧
    (updKind none vk s m nv = .complex ↔
      vk = .complex ∧ ((∃ v, s = .leaf (.scalar v)) ∨ (∃ a, s = .leaf (.arr a)) ∨ ∃ src, s = .leaf (.field src))) := by
  rw [updKind_none]
  obtain ⟨h1, h2, _⟩ := Kind.pmax_float (specKind none vk s m nv)
  exact ⟨rfl, h1, h2.trans ((specKind_none_complex vk s m nv).trans (and_congr_right fun _ => Spec.hasKind_iff s))⟩

/-- NO dtype requested, the `array` setter (one conversion): the stored kind is below float — the
field silently becomes a bool or int field — in exactly two situations: a bool/int array of the
cells' shape `n` assigned to a scalar field (the `np.array(val, dtype=None)` shortcut), and a source
field whose array is bool/int.  The setter and the two-pass paths therefore store the SAME kind
exactly when a dtype was requested or the single conversion already yields float or complex. -/
theorem kind_setter_vs_update (dtype : Option Kind) (vk : Kind) (s : Spec V) (m : Mesh) (nv : Nat) :
    ((specKind none vk s m nv).rank < Kind.float.rank ↔
      vk.rank < Kind.float.rank ∧
        ((∃ a, s = .leaf (.arr a) ∧ nv = 1 ∧ a.shape = m.n) ∨ ∃ src, s = .leaf (.field src))) ∧
    (specKind dtype vk s m nv = updKind dtype vk s m nv ↔
      dtype.isSome = true ∨ Kind.float.rank ≤ (specKind none vk s m nv).rank) := by
  refine ⟨specKind_none_low vk s m nv, ?_⟩
  cases dtype with
  | some k =>
    obtain ⟨h1, h2⟩ := kind_requested k vk s m nv
    exact ⟨fun _ => Or.inl rfl, fun _ => h1.trans h2.symm⟩
  | none =>
    rw [updKind_none]
    exact (Kind.pmax_float (specKind none vk s m nv)).2.2.1.trans
      ⟨Or.inr, fun h => h.resolve_left Bool.false_ne_true⟩

/-! ## points let through by the region's tolerance; component access and the constructor, acceptance as an equivalence -/

omit [Inhabited V] in
/-- Sampling at EVERY point the region accepts — also one that lies outside by less than the region's
comparison tolerance: the stored row of a cell is returned whose index along each axis is 0 when the
coordinate is at or below the lower face, the last index when it is at or above the upper face, and
otherwise the index of the cell containing the coordinate (`call_cell_contains`). -/
theorem call_tolerance_clips (f : VF V) (hm : f.mesh.Inv) (p : List Rat) (hc : f.mesh.region.containsPt p = true) :
    ∃ i, f.call p = .ok (row f.data f.nvdim i) ∧ inRange f.mesh.n i = true ∧
      ∀ a, a < f.mesh.ndim →
        (p.getD a 0 ≤ f.mesh.region.lo a → i.getD a 0 = 0) ∧
        (f.mesh.region.hi a ≤ p.getD a 0 → i.getD a 0 = f.mesh.nAt a - 1) ∧
        (f.mesh.region.lo a ≤ p.getD a 0 → p.getD a 0 ≤ f.mesh.region.hi a →
          f.mesh.region.lo a + (i.getD a 0 : Rat) * f.mesh.cellAt a ≤ p.getD a 0 ∧
          (p.getD a 0 < f.mesh.region.lo a + ((i.getD a 0 : Rat) + 1) * f.mesh.cellAt a ∨
            (i.getD a 0 = f.mesh.nAt a - 1 ∧ p.getD a 0 = f.mesh.region.hi a))) := by
  have hpi := point2index_of_contains f.mesh p hc
  refine ⟨_, ((call_eq f p).1 _ hpi).1, ?_, fun a ha => ?_⟩
  · exact hm.inRange_tab _ fun a ha => C01.indexAx_lt f.mesh a (hm.nAt_pos ha) _
  · rw [getD_tab _ _ _ _ ha]
    have hn := hm.nAt_pos ha
    have hr := hm.lo_lt_hi ha
    exact ⟨fun h => C01.indexAx_of_le f.mesh a _ hn hr h, fun h => C01.indexAx_of_ge f.mesh a _ hn hr h,
      fun h1 h2 => (indexAx_contains f.mesh a _ hn hr h1 h2).2⟩

/-- Component access is accepted EXACTLY for the labels of the field. -/
theorem comp_ok_iff (isZero : V → Bool) (f : VF V) (label : String) :
    (∃ g, f.comp isZero label = .ok g) ↔ ∃ vs, f.vdims = some vs ∧ label ∈ vs := by
  constructor
  · rintro ⟨g, hg⟩
    obtain ⟨_, _, _, vs, k, hvs, hk, hget, _⟩ := comp_eq isZero f label g hg
    refine ⟨vs, hvs, ?_⟩
    rw [← hget]
    exact getD_mem vs k "" hk
  · rintro ⟨vs, hvs, hmem⟩
    cases hidx : indexOf? vs label with
    | some k => exact comp_accepts isZero f label vs k hvs hidx
    | none => exact absurd hmem ((indexOf?_eq_none_iff vs label).mp hidx)

/-- The constructor is accepted EXACTLY for at least one component, a well-formed value
(`Spec.WF`) and acceptable labels. -/
theorem new_ok_iff (isZero : V → Bool) (reserved : List String) (m : Mesh) (hm : m.Inv) (nv : Nat) (s : Spec V)
    (vdims : Option (List String)) (k1 k2 : String × Region → Nat → Nat)
    (hal : ∀ p ∈ m.subs, AlignedSub m p.2 (k1 p) (k2 p)) :
    (∃ g, VF.new? isZero reserved m nv s vdims = .ok g) ↔
      1 ≤ nv ∧ Spec.WF isZero s m nv k1 k2 ∧ ∃ vd, vdimsSet reserved nv vdims = .ok vd := by
  constructor
  · rintro ⟨g, hg⟩
    obtain ⟨hnv, a, vd, ha, hvd, _⟩ := new?_ok isZero reserved m nv s vdims g hg
    exact ⟨hnv, (spec_ok_iff isZero s m hm nv hnv k1 k2 hal).mp ⟨a, ha⟩, vd, hvd⟩
  · rintro ⟨hnv, hwf, vd, hvd⟩
    obtain ⟨a, ha⟩ := (spec_ok_iff isZero s m hm nv hnv k1 k2 hal).mpr hwf
    obtain ⟨g, hg, _⟩ := (new_stores_spec isZero reserved m nv s vdims).2.1 a vd hnv ha hvd
    exact ⟨g, hg⟩

/-! ## the driver's fast conversion of a source field is the code-shaped one -/

/-- VERIFIED OPTIMISATION.  Whenever both meshes satisfy the mesh invariant and the source region
contains the target region exactly (`fieldFastOk`, a decidable test the driver runs), converting a
source field with the closed formula of the source cell (`asLeafFieldFast`: per axis
`floor((centre − src.pmin)/src.cell)`, clipped) gives the same outcome as the code-shaped conversion
with its nearest-centre scan: rejected with the same error, or accepted with the same shape and the
same entries.  (The driver uses the fast form for source fields with thousands of cells.) -/
theorem field_fast_path_equal (isZero : V → Bool) (src : VF V) (m : Mesh) (nv : Nat) (h : fieldFastOk src m = true) :
    (∀ e, asArray isZero (.leaf (.field src)) m nv = .error e ↔ asLeafFieldFast src m nv = .error e) ∧
    (∀ a, asArray isZero (.leaf (.field src)) m nv = .ok a →
      ∃ b, asLeafFieldFast src m nv = .ok b ∧ b.shape = a.shape ∧
        ∀ j, inRange (m.n ++ [nv]) j = true → b.get j = a.get j) :=
  asLeafFieldFast_eq isZero src m nv h

/-! ## end to end — dictionary, then sample; same-mesh source in a session -/

/-- A field constructed from a well-formed DICTIONARY over subregions (any overlap pattern, any kind of
default), sampled at ANY point of the region, returns — component by component — what the FIRST LISTED
subregion that is a key and contains the centre of the cell containing the point assigns to that cell,
otherwise the default's value for that cell. -/
theorem construct_dict_call (isZero : V → Bool) (reserved : List String) (m : Mesh) (hm : m.Inv) (nv : Nat)
    (items : List (String × Leaf V)) (dflt : Option (Dflt V)) (k1 k2 : String × Region → Nat → Nat)
    (hal : ∀ p ∈ m.subs, AlignedSub m p.2 (k1 p) (k2 p))
    (vdims : Option (List String)) (g : VF V)
    (h : VF.new? isZero reserved m nv (.dict items dflt) vdims = .ok g)
    (p : List Rat) (hp : m.region.containsExact p) :
    ∃ i vs, inRange m.n i = true ∧ g.call p = .ok vs ∧ vs.length = nv ∧
      (∀ c, c < nv → vs.getD c default =
        match m.subs.find? (listedContains items m i) with
        | some q => cellOf isZero items m nv k1 k2 i c q
        | none => dfltVal dflt m nv i c) ∧
      ∀ a, a < m.ndim →
        m.region.lo a + (i.getD a 0 : Rat) * m.cellAt a ≤ p.getD a 0 ∧
        (p.getD a 0 < m.region.lo a + ((i.getD a 0 : Rat) + 1) * m.cellAt a ∨
          (i.getD a 0 = m.nAt a - 1 ∧ p.getD a 0 = m.region.hi a)) := by
  obtain ⟨_, a, _, ha, _, hgm, hgn, _, _, hgg⟩ := new?_ok isZero reserved m nv _ vdims g h
  obtain ⟨i, hcall, hir, hbox⟩ := call_cell_contains g (by rw [hgm]; exact hm) p (by rw [hgm]; exact hp)
  rw [hgm] at hir hbox
  refine ⟨i, _, hir, hcall, by rw [row_length, hgn], fun c hc => ?_, hbox⟩
  rw [hgn, row_getD _ _ _ c _ hc, hgg _ (inRange_snoc_of hir hc)]
  exact asArray_dict_first_containing isZero items dflt m hm nv a k1 k2 hal ha i hir c hc

/-- SAME-MESH SOURCE IN A SESSION: `objs[i].array = objs[j]` (or `update_field_values`) where both
objects live on the same mesh with the same number of components is accepted; afterwards object `i`
holds object `j`'s values cell by cell, in an array of its own: whatever is then written in place into
the SOURCE's array (or done to any other object) leaves object `i` as assigned. -/
theorem session_same_mesh_copy (isZero : V → Bool) (st : Sess V) (h : st.Sep) (i j : Nat) (upd : Bool)
    (hi : i < st.objs.length) (hmesh : (st.obj i).mesh = (st.obj j).mesh) (hnv : (st.obj i).nvdim = (st.obj j).nvdim)
    (hm : (st.obj j).mesh.Inv) :
    ∃ a, (st.step isZero (if upd then .upd i (.obj j) else .set i (.obj j))).1 = assigned st i a ∧
      (st.step isZero (if upd then .upd i (.obj j) else .set i (.obj j))).2 = true ∧
      a.shape = (st.obj j).mesh.n ++ [(st.obj j).nvdim] ∧
      (∀ k c, inRange (st.obj j).mesh.n k = true → c < (st.obj j).nvdim →
        a.get (k ++ [c]) = (st.field j).data.get (k ++ [c])) ∧
      ∀ prog : List (Stmt V),
        (∀ c ∈ prog, c.assigns i = false ∧ c.writes st.store.length = false) →
        ((assigned st i a).run isZero prog).field i = { st.field i with data := a } := by
  obtain ⟨b, hb, hbs, hbg⟩ := asArray_field_same_mesh isZero (st.field j) hm
  have hb' : asArray isZero (st.spec (.obj j)) (st.obj i).mesh (st.obj i).nvdim = .ok b := by
    rw [hmesh, hnv]; exact hb
  -- either path stores the conversion's result
  obtain ⟨a, ha, has, hag⟩ : ∃ a, (if upd then updateValues isZero (st.spec (.obj j)) (st.obj i).mesh (st.obj i).nvdim
      else asArray isZero (st.spec (.obj j)) (st.obj i).mesh (st.obj i).nvdim) = .ok a ∧
      a.shape = (st.obj i).mesh.n ++ [(st.obj i).nvdim] ∧
      ∀ t, inRange ((st.obj i).mesh.n ++ [(st.obj i).nvdim]) t = true → a.get t = b.get t := by
    cases upd with
    | true => exact updateValues_of_ok isZero _ _ _ b hb'
    | false => exact ⟨b, hb', by rw [hbs, hmesh, hnv]; rfl, fun _ _ => rfl⟩
  have hacc : (st.step isZero (if upd then .upd i (.obj j) else .set i (.obj j))).2 = true := by
    rw [step_assign_eq, if_pos hi, ha]
  obtain ⟨a', ha', _, hstep, _, _, _, hkeep⟩ := field_value_is_copied isZero st h i (.obj j) upd hacc
  cases ha.symm.trans ha'
  rw [hmesh, hnv] at has hag
  exact ⟨a, hstep, hacc, has, fun k c hk hc => (hag _ (inRange_snoc_of hk hc)).trans (hbg k c hk hc), hkeep⟩

/-! ## non-vacuity: a 2-d mesh, 4 × 2 cells of size 1, two overlapping subregions -/

section Ex
open Ex

/-- hypotheses of `asArray_dict`, `asArray_dict_first_listed`, `region2slices_cells` hold here:
`{"r2": 2, "r1": 1, "default": 0}` on the mesh with overlapping `r1`, `r2` is accepted -/
example : ∃ a, asArray (fun v : Rat => v == 0)
    (.dict [("r2", .scalar 2), ("r1", .scalar 1)] (some (.val (NDA.const [] 0)))) m0 1 = .ok a ∧
    a.shape = [4, 2, 1] := by
  apply asArray_dict_accepts _ _ _ m0 m0_inv 1 k1 k2 m0_aligned
  · intro p _ lf hl
    obtain ⟨v, rfl⟩ := listed_scalar _ (by simp) _ lf hl
    exact ⟨_, asLeaf_ok_of_wf _ (.scalar v) _ 1 (Or.inl (Nat.le_refl 1)), rfl⟩
  · decide

/-- in that field cell (1,0), which lies in both subregions, is a hit of the first listed one -/
example : (m0.subs.find? (hits [("r2", Leaf.scalar (2 : Rat)), ("r1", .scalar 1)] m0 k1 k2 [1, 0])).map (·.1)
    = some "r1" := by decide

/-- and cell (3,1) is covered by no subregion -/
example : (m0.subs.find? (hits [("r2", Leaf.scalar (2 : Rat)), ("r1", .scalar 1)] m0 k1 k2 [3, 1])).map (·.1)
    = none := by decide

/-- hypotheses of `asArray_field`: a source field on the coarser mesh 2 × 1 over the same region -/
example : ∃ sm : Mesh, sm.Inv ∧ sm.ndim = m0.ndim ∧ m0.region.dims = sm.region.dims ∧
    ∀ a, a < m0.ndim → sm.region.lo a ≤ m0.region.lo a ∧ m0.region.hi a ≤ sm.region.hi a := by
  refine ⟨⟨reg [0, 0] [4, 2], [2, 1], "", []⟩, ⟨⟨by decide, rfl, rfl, rfl, by decide, fun a ha => ?_⟩, rfl,
    fun a ha => ?_⟩, rfl, rfl, fun a ha => ?_⟩
  · rcases lt_two a ha with rfl | rfl <;> decide
  · rcases lt_two a ha with rfl | rfl <;> decide
  · rcases lt_two a ha with rfl | rfl <;> decide

/-- hypotheses of the line theorems: the diagonal of the mesh with 3 points is a line -/
example (data : NDA Rat) : ∃ o, (VF.mk m0 1 data none).line [0, 0] [4, 2] 3 = .ok o :=
  line_accepts _ _ _ _ (by omega)
    -- `(mD "x" "y").region` is `m0.region` by `rfl`
    (mD_corner0 "x" "y") (mD_corner1 "x" "y")

/-- … and so is a segment of a ONE-dimensional mesh (6 cells on [0, 6]) -/
example (data : NDA Rat) :
    ∃ o, (VF.mk ⟨⟨[0], [6], ["x"], ["m"], 1 / 1000000000000⟩, [6], "", []⟩ 1 data none).line [1] [5] 3
      = .ok o :=
  line_accepts _ _ _ _ (by omega)
    (show Region.containsExact ⟨[0], [6], ["x"], ["m"], 1 / 1000000000000⟩ [1] from
      ⟨rfl, fun a ha => by have h0 : a = 0 := Nat.lt_one_iff.mp ha
                           subst h0; decide⟩)
    (show Region.containsExact ⟨[0], [6], ["x"], ["m"], 1 / 1000000000000⟩ [5] from
      ⟨rfl, fun a ha => by have h0 : a = 0 := Nat.lt_one_iff.mp ha
                           subst h0; decide⟩)

/-- hypothesis of `asArray_func`: `p ↦ (p_x, p_y, 1)` returns 3 values everywhere -/
example : ∀ i, inRange m0.n i = true → ((fun p : List Rat => [p.getD 0 0, p.getD 1 0, 1]) (m0.centre i)).length = 3 :=
  fun _ _ => rfl

/-- hypothesis of `comp_eq`: label `"y"` of a field with labels `x, y` -/
example (data : NDA Rat) : ∃ g, (VF.mk m0 2 data (some ["x", "y"])).comp (fun v => v == 0) "y" = .ok g :=
  comp_accepts _ _ "y" ["x", "y"] 1 rfl (by decide)

/-- `lineData_columns` / `lineData_noclash_of_labels`: labels `x, y` on the mesh with dimensions `x, y` -/
example : ("r" :: ((m0.region.dims) ++ (valueColumns (some ["x", "y"]) 2).take 2)).Nodup :=
  lineData_noclash_of_labels ["x", "y"] ["x", "y"] 2 rfl (by decide) (by decide) (by decide) (by decide) (by decide)

/-- … and the frame exists -/
example (data : NDA Rat) : ∃ fr, (VF.mk m0 2 data (some ["x", "y"])).lineData [0, 0] [4, 2] 3 = .ok fr := by
  obtain ⟨o, ho⟩ := line_accepts (VF.mk m0 2 data (some ["x", "y"])) [0, 0] [4, 2] 3 (by omega)
    (mD_corner0 "x" "y") (mD_corner1 "x" "y")
  exact ⟨_, (lineData_eq_ok_iff _ _ _ _ _).mpr ⟨o, ho, rfl⟩⟩

/-- Witness of the name clash D42 (`lineData_clash_value_column`): dimensions named `vx, y`, labels `x, y`:
the frame exists, its column `vx` holds component 0 of the values, and it has at most 4 columns
(not 5). -/
example (data : NDA Rat) : ∃ o fr, (VF.mk (mD "vx" "y") 2 data (some ["x", "y"])).line [0, 0] [4, 2] 3 = .ok o ∧
    (VF.mk (mD "vx" "y") 2 data (some ["x", "y"])).lineData [0, 0] [4, 2] 3 = .ok fr ∧
    colOf fr "vx" = some (.val (o.values.map fun v => v.getD 0 default)) ∧ fr.length ≤ 4 := by
  obtain ⟨o, ho⟩ := line_accepts (VF.mk (mD "vx" "y") 2 data (some ["x", "y"])) [0, 0] [4, 2] 3 (by omega)
    (mD_corner0 _ _) (mD_corner1 _ _)
  have hfr := (lineData_eq_ok_iff _ _ _ _ _).mpr ⟨o, ho, rfl⟩
  obtain ⟨o', ho', h1, h2⟩ := lineData_clash_value_column _ _ _ _ _ hfr 0 0 (show 0 < 2 by decide) (show 0 < 2 by decide)
    (show 0 < 2 by decide) (show (["vx", "vy"] : List String).Nodup by decide) rfl
  rw [ho] at ho'
  injection ho' with ho'; subst ho'
  exact ⟨o, _, ho, hfr, h1, h2⟩

/-- Witness of the name clash D42 (`lineData_clash_r`): a dimension named `r` -/
example (data : NDA Rat) : ∃ o fr, (VF.mk (mD "r" "y") 1 data none).line [0, 0] [4, 2] 3 = .ok o ∧
    (VF.mk (mD "r" "y") 1 data none).lineData [0, 0] [4, 2] 3 = .ok fr ∧
    colOf fr "r" = some (.num (o.points.map fun p => p.getD 0 0)) := by
  obtain ⟨o, ho⟩ := line_accepts (VF.mk (mD "r" "y") 1 data none) [0, 0] [4, 2] 3 (by omega)
    (mD_corner0 _ _) (mD_corner1 _ _)
  have hfr := (lineData_eq_ok_iff _ _ _ _ _).mpr ⟨o, ho, rfl⟩
  obtain ⟨o', ho', h1⟩ := lineData_clash_r _ _ _ _ _ hfr 0 (show 0 < 2 by decide)
    (show (["r", "y"] : List String).Nodup by decide) rfl (show "r" ∉ (["v"] : List String) by decide)
  rw [ho] at ho'
  injection ho' with ho'; subst ho'
  exact ⟨o, _, ho, hfr, h1⟩

/-- hypotheses of `lineData_unlabelled_vector`: 3 components, no
labels, dimensions `x, y`: the names `r, x, y, v0, v1, v2` are pairwise different and the frame exists -/
example (data : NDA Rat) : ("r" :: (m0.region.dims ++ (List.range 3).map fun i => s!"v{i}")).Nodup ∧
    ∃ fr, (VF.mk m0 3 data none).lineData [0, 0] [4, 2] 3 = .ok fr := by
  refine ⟨by decide, ?_⟩
  obtain ⟨o, ho⟩ := line_accepts (VF.mk m0 3 data none) [0, 0] [4, 2] 3 (by omega)
    (mD_corner0 "x" "y") (mD_corner1 "x" "y")
  exact ⟨_, (lineData_eq_ok_iff _ _ _ _ _).mpr ⟨o, ho, rfl⟩⟩

/-- hypotheses of `dict_cell_field`: the field leaf of `r1` is a source field on the mesh itself -/
example : (subMeshOf m0 (reg [0, 0] [2, 2]) (k1 ("r1", reg [0, 0] [2, 2])) (k2 ("r1", reg [0, 0] [2, 2]))).Inv ∧
    m0.Inv ∧ (reg [0, 0] [2, 2]).dims = m0.region.dims ∧
    ∀ a, a < m0.ndim → m0.region.lo a ≤ (reg [0, 0] [2, 2]).lo a ∧ (reg [0, 0] [2, 2]).hi a ≤ m0.region.hi a :=
  ⟨m0_sub_r1_inv, m0_inv, rfl, fun a ha => by rcases lt_two a ha with rfl | rfl <;> decide⟩

/-- `asArray_dict_accepts_callable`: `{"r1": 1, "default": lambda p: p[0]}` on the mesh with overlapping subregions -/
example : ∃ a, asArray (fun v : Rat => v == 0)
    (.dict [("r1", .scalar 1)] (some (.func fun p => [p.getD 0 0]))) m0 1 = .ok a ∧ a.shape = [4, 2, 1] := by
  apply asArray_dict_accepts_callable _ _ _ m0 m0_inv 1 k1 k2 m0_aligned
  · intro p _ lf hl
    obtain ⟨v, rfl⟩ := listed_scalar _ (by simp) _ lf hl
    exact ⟨_, asLeaf_ok_of_wf _ (.scalar v) _ 1 (Or.inl (Nat.le_refl 1)), rfl⟩
  · exact Or.inl ⟨_, rfl, fun _ _ => rfl⟩

/-- `asArray_dict_accepts_covered`: `{"all": 7}` without default where `all` is the whole mesh -/
example : ∃ a, asArray (fun v : Rat => v == 0) (.dict [("all", .scalar 7)] none) mAll 1 = .ok a ∧
    a.shape = [4, 2, 1] := by
  apply asArray_dict_accepts_covered _ _ mAll mAll_inv 1 kA1 kA2 mAll_aligned
  · intro p _ lf hl
    obtain ⟨v, rfl⟩ := listed_scalar _ (by simp) _ lf hl
    exact ⟨_, asLeaf_ok_of_wf _ (.scalar v) _ 1 (Or.inl (Nat.le_refl 1)), rfl⟩
  · intro i hi
    obtain ⟨_, hb⟩ := (inRange_iff mAll.n i).mp hi
    refine ⟨("all", reg [0, 0] [4, 2]), List.mem_singleton.mpr rfl, ?_⟩
    have : inBox (tab mAll.ndim (kA1 ("all", reg [0, 0] [4, 2]))) (tab mAll.ndim (kA2 ("all", reg [0, 0] [4, 2]))) i
        = true :=
      (inBox_tab _ _ _ _).mpr fun a ha =>
        ⟨Nat.zero_le _, by rcases lt_two a ha with rfl | rfl <;> exact hb _ (by decide)⟩
    rw [hits, this]; rfl

/-- `asArray_dict_leaf_rejected`: `{"r1": "abc", "default": 0}` -/
example : ∃ e, asArray (fun v : Rat => v == 0) (.dict [("r1", .bad)] (some (.val (NDA.const [] 0)))) m0 1 = .error e :=
  asArray_dict_leaf_rejected _ _ _ m0 m0_inv 1 _ _ ("r1", reg [0, 0] [2, 2]) (by simp [m0])
    (m0_aligned _ (by simp [m0])) .bad rfl .type rfl

/-- `asArray_dict_default_count_rejected`: `{"default": lambda p: (1, 2)}` for a scalar field -/
example : ∃ e, asArray (fun v : Rat => v == 0) (.dict [] (some (.func fun _ => [1, 2]))) m0 1 = .error e :=
  asArray_dict_default_count_rejected _ _ _ m0 1 rfl (by decide) [3, 1] (by decide)
    (by
      rw [List.findSome?_eq_none_iff]
      intro p _
      exact patchVal_unlisted _ _ _ _ p _ rfl)
    (by decide)

/-- `comp_kth` / `new_labels`: the labels `mx, my, mz` have no duplicates and are accepted -/
example : hasDup ["mx", "my", "mz"] = false ∧
    vdimsSet ["mesh", "array"] 3 (some ["mx", "my", "mz"]) = .ok (some ["mx", "my", "mz"]) := by decide

/-- `new_default_labels_comp`, `construct_func_call`: the constructor accepts `p ↦ (p_x, p_y)` without labels -/
example : ∃ g, VF.new? (fun v : Rat => v == 0) [] m0 2 (.leaf (.func fun p => [p.getD 0 0, p.getD 1 0])) none = .ok g := by
  obtain ⟨a, ha, _, _⟩ := asArray_func (fun v : Rat => v == 0) (fun p => [p.getD 0 0, p.getD 1 0]) m0 2 (fun _ _ => rfl)
  obtain ⟨g, hg, _⟩ := (new_stores_spec (fun v : Rat => v == 0) [] m0 2 (.leaf (.func fun p => [p.getD 0 0, p.getD 1 0])) none).2.1
    a _ (by omega) ha rfl
  exact ⟨g, hg⟩

/-- `setArray_array_stores`: an array of shape `(4, 2, 3)` for a 3-component field on the 4 × 2 mesh -/
example : (NDA.const [4, 2, 3] (0 : Rat)).shape = m0.n ++ [3] := rfl

/-- hypotheses of `history_last_accepted` / `history_then_call`: on every field `update_field_values(0)` is
accepted and `field.array = "abc"` is rejected -/
example (f : VF Rat) : (∃ a, Assign.result (fun v : Rat => v == 0) f.mesh f.nvdim (.upd (.leaf (.scalar 0))) = .ok a) ∧
    ∃ e, Assign.result (fun v : Rat => v == 0) f.mesh f.nvdim (.set .bad) = .error e := by
  obtain ⟨a, ha, _, _⟩ := asArray_const (fun v : Rat => v == 0) 0 f.mesh f.nvdim (Or.inr rfl)
  obtain ⟨b, hb, _, _⟩ := updateValues_of_ok _ _ f.mesh f.nvdim a ha
  exact ⟨⟨b, hb⟩, .type, rfl⟩

/-- `asArray_dict_total`: the dictionary of `ex_dictWF` on `m0` is accepted -/
example : ∃ a, asArray (fun v : Rat => v == 0) (.dict [("r2", .scalar 2), ("r1", .scalar 1)]
    (some (.func fun p => [p.getD 0 0]))) m0 1 = .ok a ∧ a.shape = [4, 2, 1] := by
  obtain ⟨a, h1, h2, _⟩ := asArray_dict_total _ _ _ m0 m0_inv 1 (by decide) k1 k2 m0_aligned ex_dictWF
  exact ⟨a, h1, h2⟩

/-- `asArray_dict_ok_iff`: `{"r1": 1}` without default is NOT well formed (cell (3,1) is uncovered): rejected -/
example : ∃ e, asArray (fun v : Rat => v == 0) (.dict [("r1", .scalar 1)] none) m0 1 = .error e := by
  apply (asArray_dict_ok_iff _ _ _ m0 m0_inv 1 (by decide) k1 k2 m0_aligned).2.mpr
  rintro ⟨_, _, h3⟩
  exact h3 [3, 1] (by decide) (by decide)

/-- `dict_overlap_first_wins`: cell (1,0) lies in `r1` and in `r2`; `r1` is listed first -/
example : m0.subs = [] ++ ("r1", reg [0, 0] [2, 2]) :: [("r2", reg [1, 0] [4, 1])] ∧
    listedContains [("r2", Leaf.scalar (2 : Rat)), ("r1", .scalar 1)] m0 [1, 0] ("r1", reg [0, 0] [2, 2]) = true ∧
    listedContains [("r2", Leaf.scalar (2 : Rat)), ("r1", .scalar 1)] m0 [1, 0] ("r2", reg [1, 0] [4, 1]) = true := by
  refine ⟨rfl, ?_, ?_⟩
  · rw [← hits_eq_listedContains _ m0 m0_inv k1 k2 _ (m0_aligned _ (by simp [m0])) [1, 0] (by decide)]; decide
  · rw [← hits_eq_listedContains _ m0 m0_inv k1 k2 _ (m0_aligned _ (by simp [m0])) [1, 0] (by decide)]; decide

/-- `dict_uncovered_default`: cell (3,1) lies in no subregion -/
example : ∀ q ∈ m0.subs, listedContains [("r2", Leaf.scalar (2 : Rat)), ("r1", .scalar 1)] m0 [3, 1] q = false := by
  intro q hq
  rw [← hits_eq_listedContains _ m0 m0_inv k1 k2 q (m0_aligned q hq) [3, 1] (by decide)]
  simp only [m0, List.mem_cons, List.mem_nil_iff, or_false] at hq
  rcases hq with rfl | rfl <;> decide

/-- `dict_key_order_irrelevant` -/
example : ([("r2", Leaf.scalar (2 : Rat)), ("r1", .scalar 1)]).Perm [("r1", .scalar 1), ("r2", .scalar 2)] ∧
    (([("r2", Leaf.scalar (2 : Rat)), ("r1", .scalar 1)]).map (·.1)).Nodup :=
  ⟨List.Perm.swap _ _ _, by decide⟩

/-- `assign_rejected_iff_malformed`: a scalar field on `m0` without labels; the malformed value `"abc"` -/
example (data : NDA Rat) : (∃ vd, vdimsSet [] (VF.mk m0 1 data none).nvdim none = .ok vd) ∧
    ¬ Spec.WF (fun v : Rat => v == 0) (.leaf .bad) m0 1 k1 k2 ∧
    Spec.WF (fun v : Rat => v == 0) (.leaf (.scalar 3)) m0 1 k1 k2 :=
  ⟨⟨_, rfl⟩, id, Or.inl (Nat.le_refl 1)⟩

/-- `asArray_field_reads_floor_cell`, `asArray_field_closed_forms` (finer source, `r = 2`, both axes)
and `asArray_field_tie_upper`: the source lives on the 8 × 4 mesh; the centre 1/2 of target cell 0
lies on the face between the source cells 0 and 1 -/
example : mFine.Inv ∧ mFine.ndim = m0.ndim ∧ m0.region.dims = mFine.region.dims ∧
    (∀ a, a < m0.ndim → mFine.region.lo a ≤ m0.region.lo a ∧ m0.region.hi a ≤ mFine.region.hi a) ∧
    (∀ a, a < m0.ndim → mFine.nAt a = 2 * m0.nAt a) ∧
    m0.centreAx 0 (([0, 0] : List Nat).getD 0 0 : Nat) = mFine.region.lo 0 + ((1 : Nat) : Rat) * mFine.cellAt 0 := by
  refine ⟨mFine_inv, rfl, rfl, fun a ha => ?_, fun a ha => ?_, by decide +kernel⟩
  · rcases lt_two a ha with rfl | rfl <;> decide
  · rcases lt_two a ha with rfl | rfl <;> decide

/-- … coarser (`m0` as the source of a field on `mFine`, `r = 2`) and shifted (`r1`'s own mesh inside `m0`,
`s = 0`; the subregion `r2` starts `s = 1` cells above `m0`'s corner along `x`) -/
example : (∀ a, a < mFine.ndim → mFine.nAt a = 2 * m0.nAt a) ∧
    (reg [1, 0] [4, 1]).lo 0 = m0.region.lo 0 + ((1 : Nat) : Rat) * m0.cellAt 0 := by
  refine ⟨fun a ha => ?_, by decide +kernel⟩
  rcases lt_two a ha with rfl | rfl <;> decide

/-- hypothesis `hacc` of `field_value_is_copied` (with `upd = false`): in `st0`, `objs[0].array = objs[1]` is accepted -/
example (a b c : NDA Rat) : ((st0 a b c).step (fun v : Rat => v == 0) (if false then .upd 0 (.obj 1) else .set 0 (.obj 1))).2 = true := by
  have hc : m0.region.containsReg m0.region = true := by decide
  simp [Sess.step, st0, Sess.spec, Sess.field, Sess.obj, asArray, asLeaf, hc]

/-- `lineData_total`: labels `x, y`, dimensions `x, y`, the diagonal with 3 points -/
example : m0.Inv ∧ 2 ≤ 3 ∧ m0.region.containsExact [0, 0] ∧ m0.region.containsExact [4, 2] ∧
    ("r" :: (m0.region.dims ++ (valueColumns (some ["x", "y"]) 2).take 2)).Nodup :=
  ⟨m0_inv, by omega, mD_corner0 "x" "y", mD_corner1 "x" "y", by decide⟩

/-- `line_ok_iff`: the right-hand side holds for the diagonal of `m0` -/
example (data : NDA Rat) : m0.region.containsPt [0, 0] = true ∧ m0.region.containsPt [4, 2] = true ∧
    ∃ o, (VF.mk m0 1 data none).line [0, 0] [4, 2] 3 = .ok o := by
  obtain ⟨o, ho⟩ := line_accepts (VF.mk m0 1 data none) [0, 0] [4, 2] 3 (by omega)
    (mD_corner0 "x" "y") (mD_corner1 "x" "y")
  obtain ⟨h1, h2, _, _⟩ := (line_ok_iff (VF.mk m0 1 data none) [0, 0] [4, 2] 3).mp ⟨o, ho⟩
  exact ⟨h1, h2, o, ho⟩

/-- kinds: an int array of the cells' shape assigned to a scalar float field without requested dtype:
the setter stores int, `update_field_values` float; with `dtype=float` both store float -/
example (a : NDA Rat) (h : a.shape = m0.n) :
    specKind none .int (.leaf (.arr a)) m0 1 = .int ∧ updKind none .int (.leaf (.arr a)) m0 1 = .float ∧
    specKind (some .float) .int (.leaf (.arr a)) m0 1 = .float := by
  refine ⟨by simp [specKind, leafKind, h], ?_, (kind_requested .float .int _ m0 1).1⟩
  rw [(kind_not_requested_update .int (.leaf (.arr a)) m0 1).1]
  simp [specKind, leafKind, h, Kind.pmax, Kind.rank]

/-- `field_fast_path_equal`: the test holds for a source on the finer mesh `mFine` and the target `m0` -/
example (data : NDA Rat) : fieldFastOk (VF.mk mFine 1 data none) m0 = true := by
  show fieldFastOk (VF.mk mFine 1 (NDA.const [] (0 : Rat)) none) m0 = true
  decide +kernel

/-- `call_tolerance_clips`: the point (−10⁻¹³, 1) lies outside `m0` but within its tolerance -/
example : m0.region.containsPt [-(1 / 10000000000000), 1] = true := by
  decide +kernel

/-- `new_ok_iff`: one component, the constant 3, default labels -/
example : 1 ≤ 1 ∧ Spec.WF (fun v : Rat => v == 0) (.leaf (.scalar 3)) m0 1 k1 k2 ∧ ∃ vd, vdimsSet [] 1 none = .ok vd :=
  ⟨Nat.le_refl 1, Or.inl (Nat.le_refl 1), _, rfl⟩

/-- `construct_dict_call`: the constructor accepts the well-formed dictionary of `ex_dictWF` on `m0` -/
example : ∃ g, VF.new? (fun v : Rat => v == 0) [] m0 1 (.dict [("r2", .scalar 2), ("r1", .scalar 1)]
    (some (.func fun p => [p.getD 0 0]))) none = .ok g :=
  (new_ok_iff _ [] m0 m0_inv 1 _ none k1 k2 m0_aligned).mpr ⟨Nat.le_refl 1, ex_dictWF, _, rfl⟩

/-- `session_same_mesh_copy`: the two objects of `st0` live on the same mesh `m0` with one component -/
example (a b c : NDA Rat) : (st0 a b c).Sep ∧ 0 < (st0 a b c).objs.length ∧
    ((st0 a b c).obj 0).mesh = ((st0 a b c).obj 1).mesh ∧ ((st0 a b c).obj 0).nvdim = ((st0 a b c).obj 1).nvdim ∧
    ((st0 a b c).obj 1).mesh.Inv :=
  ⟨st0_sep a b c, by simp [st0], rfl, rfl, m0_inv⟩

end Ex

end DFV.C02
