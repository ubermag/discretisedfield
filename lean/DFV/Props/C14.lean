import DFV.Lemmas.C13StoreSim
import DFV.Lemmas.C14H5
import DFV.Lemmas.C14Tol
/-!
# C14 — subregions stay inside, aligned with and measured in cells of their mesh

`SubInv`: every subregion carries the mesh region's names, units and tolerance factor and fits the mesh exactly (`FitsE`: whole
cells, on the lattice, inside).  The setter establishes it for exactly fitting candidates; steps, histories, selections, the
JSON side-car and HDF5 keep it.  The tolerant tests the code runs (`is_aligned`, the whole-cell test, `in`) are related to it in
exact rational arithmetic (findings D18, D132).
-/
namespace DFV.C14
open DFV DFV.T

/-- attaching subregions that are not all acceptable (`candOk`: the three tests on the candidate
re-created with the mesh region's names, units and tolerance factor — repo fix 5591fed0) is rejected
(and, the model being functional, the previous subregions are kept) -/
theorem set_rejects (m : Mesh) (subs : List (String × Region)) (p : String × Region) (hp : p ∈ subs)
    (hbad : candOk m p.2 = false) : setSubs m subs = .error .value :=
  (setSubs_error_iff m subs _).mpr ⟨rfl, p, hp, hbad⟩

/-- accepted subregions carry the mesh's dimension names, units and tolerance, keep
their corners, names and order — and every STORED subregion passes the three tests (inside, whole
cells, aligned) as it is stored, with the mesh's tolerance factor (what repo fix 5591fed0 guarantees:
the candidate's own tolerance has no say) -/
theorem set_accepts (m m' : Mesh) (subs : List (String × Region)) (h : setSubs m subs = .ok m') :
    (∀ p ∈ subs, candOk m p.2 = true) ∧
    m'.subs.map (·.1) = subs.map (·.1) ∧
    (∀ q ∈ m'.subs, q.2.dims = m.region.dims ∧ q.2.units = m.region.units ∧ q.2.tol = m.region.tol) ∧
    m'.subs.map (fun q => (q.2.pmin, q.2.pmax)) = subs.map (fun q => (q.2.pmin, q.2.pmax)) ∧
    m'.region = m.region ∧ m'.n = m.n ∧ (∀ q ∈ m'.subs, subOk m q.2 = true) := by
  obtain ⟨rfl, hall⟩ := setSubs_ok_eq m m' subs h
  refine ⟨hall, ?_, ?_, ?_, rfl, rfl, ?_⟩
  · show (subs.map (restamp m.region)).map (·.1) = _
    rw [List.map_map]; rfl
  · intro q hq
    obtain ⟨p, _, rfl⟩ := List.mem_map.mp hq
    exact ⟨rfl, rfl, rfl⟩
  · show (subs.map (restamp m.region)).map _ = _
    rw [List.map_map]; rfl
  · intro q hq
    obtain ⟨p, hp, rfl⟩ := List.mem_map.mp hq
    exact (candOk_eq m p.2 (candOk_ndim m p.2 (hall p hp))).symm.trans (hall p hp)

/-! ## `is_aligned`: the remainder test -/

/-- Exact arithmetic, tolerance 0: an offset passes the remainder test iff it is a whole
number of cells. -/
theorem aligned_exact_iff (d c : Rat) (hc : 0 < c) :
    misalignedAx d c 0 = false ↔ ∃ z : Int, absR d = (z : Rat) * c := by
  rw [misalignedAx_eq, remTest_false_iff _ _ _ hc]
  constructor
  · rintro ⟨z, hz⟩
    exact ⟨z, sub_eq_zero.mp (abs_nonpos_iff.mp hz)⟩
  · rintro ⟨z, hz⟩
    exact ⟨z, by rw [hz, sub_self, abs_zero]⟩

/-- With tolerance `t ≥ 0`: an offset that is exactly a whole number of cells always passes. -/
theorem aligned_of_whole (d c t : Rat) (hc : 0 < c) (ht : 0 ≤ t) (z : Int) (hz : absR d = (z : Rat) * c) :
    misalignedAx d c t = false :=
  aligned_of_whole' d c t hc ht z hz

/-- With tolerance `t`: an offset that passes is within `t` of a whole number of cells. -/
theorem aligned_tol_sound (d c t : Rat) (hc : 0 < c) (h : misalignedAx d c t = false) :
    ∃ z : Int, absR (absR d - (z : Rat) * c) ≤ t := by
  obtain ⟨z, hz⟩ := (remTest_false_iff (absR d) c t hc).mp h
  exact ⟨z, by rw [absR_eq_abs]; exact hz⟩

/-- Mesh level: if cell sizes agree exactly and both corner offsets are whole numbers of
cells, the meshes are reported aligned for every tolerance `t ≥ 0`. -/
theorem isAligned_of_exact (m o : Mesh) (t : Rat) (ht : 0 ≤ t)
    (h : ∀ a, a < m.ndim → m.cellAt a = o.cellAt a ∧ 0 < m.cellAt a ∧
      (∃ z : Int, absR (m.region.lo a - o.region.lo a) = (z : Rat) * m.cellAt a) ∧
      (∃ z : Int, absR (m.region.hi a - o.region.hi a) = (z : Rat) * m.cellAt a)) :
    isAligned m o t = true :=
  isAligned_of_exact' m o t ht h

/-- Mesh level, converse: meshes reported aligned with tolerance `t` have, on every axis,
cell sizes within `t + 1e-5·|cell|` of each other and both corner offsets within `t` of a
whole number of cells (so with `t = 0`: whole cells exactly, by `aligned_exact_iff`). -/
theorem isAligned_sound (m o : Mesh) (t : Rat) (h : isAligned m o t = true) (a : Nat) (ha : a < m.ndim)
    (hc : 0 < m.cellAt a) :
    absR (m.cellAt a - o.cellAt a) ≤ t + absR (o.cellAt a) / 100000 ∧
    (∃ z : Int, absR (absR (m.region.lo a - o.region.lo a) - (z : Rat) * m.cellAt a) ≤ t) ∧
    (∃ z : Int, absR (absR (m.region.hi a - o.region.hi a) - (z : Rat) * m.cellAt a) ≤ t) := by
  obtain ⟨g1, g2, g3⟩ := (isAligned_iff m o t).mp h a ha
  exact ⟨of_decide_eq_true g1, aligned_tol_sound _ _ _ hc g2, aligned_tol_sound _ _ _ hc g3⟩

/-! ## subregions stay on the lattice under the affine maps -/

/-- Scalar heart of "subregions stay on the lattice under scaling": an interval `[l,h]`
sitting `z` cells into `[L,H]` (cell `c = (H-L)/n`) and `w` cells long is mapped by
`x ↦ R + s(x-R)`, `s ≠ 0`, to an interval sitting a whole number of (new) cells into the
image of `[L,H]` and again `w` cells long — for either sign of `s`, any `R`. -/
theorem scale_keeps_lattice_axis (L H l h R s : Rat) (n z w : Int) (hn : 0 < n) (hLH : L < H) (hs : s ≠ 0)
    (hz : l - L = (z : Rat) * ((H - L) / n)) (hw : h - l = (w : Rat) * ((H - L) / n)) (hw0 : 0 < w) :
    ∃ z' : Int,
      min (R + s * (l - R)) (R + s * (h - R)) - min (R + s * (L - R)) (R + s * (H - R))
        = (z' : Rat) * ((max (R + s * (L - R)) (R + s * (H - R)) - min (R + s * (L - R)) (R + s * (H - R))) / n) ∧
      max (R + s * (l - R)) (R + s * (h - R)) - min (R + s * (l - R)) (R + s * (h - R))
        = (w : Rat) * ((max (R + s * (L - R)) (R + s * (H - R)) - min (R + s * (L - R)) (R + s * (H - R))) / n) := by
  have e : ∀ x : Rat, R + s * (x - R) = (R - s * R) + s * x := fun x => by ring
  simp only [e]
  rcases lt_or_gt_of_ne hs with hneg | hpos
  · exact ⟨n - z - w, affine_lattice_neg L H l h _ s n z w hn hLH hneg hw0 hz hw⟩
  · exact ⟨z, affine_lattice_pos L H l h _ s n z w hn hLH hpos hw0 hz hw⟩

/-- … and under translation (both intervals move by the same vector) -/
theorem translate_keeps_lattice_axis (L H l h v c : Rat) (z w : Int)
    (hz : l - L = (z : Rat) * c) (hw : h - l = (w : Rat) * c) :
    (l + v) - (L + v) = (z : Rat) * c ∧ (h + v) - (l + v) = (w : Rat) * c ∧ ((H + v) - (L + v)) = H - L := by
  exact ⟨by rw [add_sub_add_right_eq_sub, hz], by rw [add_sub_add_right_eq_sub, hw], add_sub_add_right_eq_sub _ _ _⟩

/-- Reflection `x ↦ A − x` (what a quarter turn does to one of the two rotated axes) keeps an
interval a whole number of cells into, and a whole number of cells long within, the image. -/
theorem reflect_keeps_lattice_axis (L H l h A : Rat) (n z w : Int) (hn : 0 < n) (hLH : L < H)
    (hz : l - L = (z : Rat) * ((H - L) / n)) (hw : h - l = (w : Rat) * ((H - L) / n)) (hw0 : 0 < w) :
    ∃ z' : Int,
      min (A - l) (A - h) - min (A - L) (A - H) = (z' : Rat) * ((max (A - L) (A - H) - min (A - L) (A - H)) / n) ∧
      max (A - l) (A - h) - min (A - l) (A - h) = (w : Rat) * ((max (A - L) (A - H) - min (A - L) (A - H)) / n) := by
  have := affine_lattice_neg L H l h A (-1) n z w hn hLH (by norm_num) hw0 hz hw
  exact ⟨n - z - w, by simpa only [neg_one_mul, ← sub_eq_add_neg] using this⟩

/-- the translation part `x ↦ A + x` of a quarter turn likewise -/
theorem shift_keeps_lattice_axis (L H l h A : Rat) (n z w : Int) (hLH : L < H)
    (hz : l - L = (z : Rat) * ((H - L) / n)) (hw : h - l = (w : Rat) * ((H - L) / n)) (hw0 : 0 < w) (hn : 0 < n) :
    min (A + l) (A + h) - min (A + L) (A + H) = (z : Rat) * ((max (A + L) (A + H) - min (A + L) (A + H)) / n) ∧
    max (A + l) (A + h) - min (A + l) (A + h) = (w : Rat) * ((max (A + L) (A + H) - min (A + L) (A + H)) / n) := by
  simpa only [one_mul] using affine_lattice_pos L H l h A 1 n z w hn hLH one_pos hw0 hz hw

/-! ## selections and `mesh[name]`: which names are kept (no invariant assumed) -/

/-- Plane selection keeps exactly the subregions whose closed extent along the removed axis
contains the centre of the selected cell (names, in order) — without any invariant on `m`; the full
statement under `m.Inv ∧ SubInv m` is `sel_plane_spec`. -/
theorem sel_plane_keeps (m m' : Mesh) (ax : Nat) (x : Option Rat) (h : selPlane m ax x = .ok m') :
    ∃ c i, selConvert m ax (x.getD (m.region.center.getD ax 0)) = .ok (c, i) ∧
      m'.subs.map (·.1) = (m.subs.filter fun p => !(decide (p.2.hi ax < c) || decide (c < p.2.lo ax))).map (·.1) := by
  unfold selPlane at h
  split at h
  · cases h
  · split at h
    · cases h
    · rename_i c i hconv
      split at h
      · cases h
      · split at h
        · cases h
        · rename_i r' _ m0 _
          obtain ⟨_, hnames, _, _, _, _⟩ := set_accepts m0 m' _ h
          refine ⟨c, i, hconv, ?_⟩
          -- the dropped / clipped copy keeps the name
          rw [hnames, List.map_map]
          rfl

/-- Range selection keeps exactly the subregions overlapping the kept slab by more than half a
cell (subregions consist of whole cells, so: by at least one cell) — without any invariant on `m`; the
full statement under `m.Inv ∧ SubInv m` is `sel_range_spec`. -/
theorem sel_range_keeps (m m' : Mesh) (ax : Nat) (a b : Rat) (h : selRange m ax a b = .ok m') :
    ∃ c0 i0 c1 i1, selConvert m ax (min a b) = .ok (c0, i0) ∧ selConvert m ax (max a b) = .ok (c1, i1) ∧
      m'.subs.map (·.1) = (m.subs.filter fun p =>
        !(decide (c1 + m.cellAt ax / 2 - m.cellAt ax / 2 ≤ p.2.lo ax) ||
          decide (p.2.hi ax - m.cellAt ax / 2 ≤ c0 - m.cellAt ax / 2))).map (·.1) := by
  unfold selRange at h
  split at h
  · cases h
  · split at h
    · cases h
    · cases h
    · rename_i c0 i0 c1 i1 h0 h1
      split at h
      · cases h
      · split at h
        · cases h
        · rename_i r' _ m0 _
          obtain ⟨_, hnames, _, _, _, _⟩ := set_accepts m0 m' _ h
          refine ⟨c0, i0, c1, i1, h0, h1, ?_⟩
          -- the dropped / clipped copy keeps the name
          rw [hnames, List.map_map]
          rfl

/-- the mesh extracted for a named subregion has exactly that subregion as its region -/
theorem getName_region (m g : Mesh) (name : String) (h : getName m name = .ok g) :
    ∃ p, m.subs.find? (fun p => p.1 == name) = some p ∧ g.region = p.2 := by
  unfold getName at h
  split at h
  · cases h
  · rename_i p hp
    exact ⟨p, hp, by rw [(mkCell?_ok _ _ _ h).2]⟩

/-! ## the subregion invariant `SubInv` (exact-arithmetic reading) -/

/-- What `SubInv` says, read as inequalities: an exactly fitting subregion lies inside the region
(`pmin ≤ s.pmin < s.pmax ≤ pmax` on every axis) and is itself a proper region carrying the mesh's
dimension names and units. -/
theorem subInv_inside (m : Mesh) (hm : m.Inv) (hs : SubInv m) (p : String × Region) (hp : p ∈ m.subs) :
    p.2.Inv ∧ p.2.dims = m.region.dims ∧ p.2.units = m.region.units ∧
    ∀ a, a < m.ndim → m.region.lo a ≤ p.2.lo a ∧ p.2.lo a < p.2.hi a ∧ p.2.hi a ≤ m.region.hi a :=
  ⟨subOkE_regionInv m hm p.2 (hs p hp), (hs p hp).1, (hs p hp).2.1, fits_bounds m hm p.2 (hs p hp).fits⟩

/-- **Completeness of the setter.**  Every candidate set of boxes that fit the mesh exactly (inside,
whole cells, on the lattice — whatever names, units or tolerance the candidates carry) is accepted
by `setSubs` (all three tolerant tests pass), the result holds exactly the re-created candidates
and satisfies `SubInv`.  Together with `set_rejects`/`set_accepts` this pins the setter from both
sides in exact arithmetic. -/
theorem set_accepts_exact (m : Mesh) (hm : m.Inv) (subs : List (String × Region)) (h : ∀ p ∈ subs, FitsE m p.2) :
    setSubs m subs = .ok { m with subs := subs.map (restamp m.region) } ∧
    SubInv { m with subs := subs.map (restamp m.region) } :=
  setSubs_of_fits m hm subs h

/-- **"This stays true after translating, scaling, rotating" — one step.**  For a mesh satisfying
the mesh invariant and `SubInv`, EVERY accepted `stepM` (translate; scale by any non-zero factor(s)
of either sign about any reference point; quarter turn by any integer `k` in any plane about any
reference point; in-place or copying form) leaves receiver and returned mesh with `SubInv`: every
subregion again carries the (new) mesh's names and units and sits a whole number of (new) cells
into the (new) region, a whole number of cells long, inside — and names and order are kept.
The copying form re-validates the images with the tolerant tests of the setter; those tests only
gate (they can reject, never alter), so the statement needs no tolerance reading: whatever is
returned fits exactly. -/
theorem stepM_subInv (m : Mesh) (hm : m.Inv) (hs : SubInv m) (op : Op) (recv ret : Mesh)
    (h : stepM m op = .ok (recv, ret)) :
    SubInv recv ∧ SubInv ret ∧ ret.subs.map (·.1) = m.subs.map (·.1) :=
  stepM_subInv' m hm hs op recv ret h

/-- **… and after ANY finite history of transformation calls** (rejected steps skipped, every mix
of in-place and copying steps): the mesh invariant and `SubInv` hold, and the subregion names are
the original ones in the original order — by induction over the history. -/
theorem runM_subInv (m : Mesh) (hm : m.Inv) (hs : SubInv m) (ops : List Op) :
    (runM m ops).Inv ∧ SubInv (runM m ops) ∧ (runM m ops).subs.map (·.1) = m.subs.map (·.1) :=
  runM_follows.induct (P := fun g => g.Inv ∧ SubInv g ∧ g.subs.map (·.1) = m.subs.map (·.1)) ops
    (fun g ⟨hg, hsg, hn⟩ op _ x y h => ⟨(stepM_keeps g hg op x y h).2.1, (stepM_subInv' g hg hsg op x y h).2.1,
      (stepM_subInv' g hg hsg op x y h).2.2.trans hn⟩) m ⟨hm, hs, rfl⟩

/-- **The mesh extracted for a named subregion** of a mesh satisfying `SubInv`: the extraction
succeeds, the result has exactly that subregion as its region, exactly the parent's cell size on
every axis, as many cells as the subregion is long (`n·cell = extent`), and no subregions. -/
theorem getName_spec (m : Mesh) (hm : m.Inv) (hs : SubInv m) (name : String) (p : String × Region)
    (hp : m.subs.find? (fun p => p.1 == name) = some p) :
    ∃ g, getName m name = .ok g ∧ g.region = p.2 ∧ g.subs = [] ∧
      ∀ a, a < m.ndim → g.cellAt a = m.cellAt a ∧ 0 < g.nAt a ∧ (g.nAt a : Rat) * m.cellAt a = p.2.edge a := by
  have hmem : p ∈ m.subs := List.mem_of_find?_eq_some hp
  obtain ⟨g, hg, h1, h2, h3⟩ := mkCell_of_fits m hm p.2 (hs p hmem).fits
  refine ⟨g, ?_, h1, h2, h3⟩
  unfold getName; rw [hp]; exact hg

/-- an unknown name is refused -/
theorem getName_unknown (m : Mesh) (name : String) (h : m.subs.find? (fun p => p.1 == name) = none) :
    getName m name = .error .key := by
  unfold getName; rw [h]

/-- non-vacuity of `stepM_subInv` / `runM_subInv` / `getName_spec`: the 3-d mesh `exM` (anisotropic
counts and cells, two touching subregions, periodic in x) satisfies the mesh invariant and `SubInv`;
the history `exOps` (in-place scale by (−2, ½, 3) about a far reference point, copying quarter turn
with k = −3, in-place translation) is accepted step by step and ends with the counts permuted. -/
example : exM.Inv ∧ SubInv exM := ⟨exM_inv, exM_subInv⟩
example : (runM exM exOps).n = [6, 4, 1] ∧ (runM exM exOps).bc = "y" ∧ (runM exM exOps).subs.length = 2 := by decide +kernel
example : SubInv (runM exM exOps) := (runM_subInv exM exM_inv exM_subInv exOps).2.1
example : exM.subs.find? (fun p => p.1 == "b") = some ("b", ⟨[6, 0, 0], [8, 6, 2], ["x", "y", "z"], ["m", "s", "K"], 1/1000000000000⟩) := by
  decide +kernel

/-- non-vacuity of `set_accepts_exact`: a candidate with other names/units that fits `exM` exactly -/
example : FitsE exM ⟨[0, 2, 0], [4, 5, 2], ["p", "q", "r"], ["a", "b", "c"], 0⟩ := exM_fits

/-! ## selections: which subregions are kept, how, and `SubInv` of the result -/

/-- **Range selection, full statement.**  For a mesh satisfying the mesh invariant and `SubInv`, a
successful `selRange m ax a b` keeps the cells `i0 … i1` containing the two bounds (`i0 ≤ i1 < n`):
the region is cut to the slab `[pmin + i0·cell, pmin + (i1+1)·cell]` along `ax`, the count there is
`i1 − i0 + 1`, and the subregions of the result are EXACTLY those whose open extent along `ax`
meets the open slab (`s.pmin < slab.hi ∧ slab.lo < s.pmax` — both directions: every such subregion
is kept, no other is; this includes bounds that fall exactly on a subregion face), each clipped
to the slab (`clipSub`, the intersection by `clip_is_intersection`) and re-created with the result's
metadata, in the original order.  The result satisfies the mesh invariant and `SubInv`. -/
theorem sel_range_spec (m m' : Mesh) (hm : m.Inv) (hs : SubInv m) (ax : Nat) (a b : Rat)
    (h : selRange m ax a b = .ok m') :
    m'.Inv ∧ SubInv m' ∧ ax < m.ndim ∧
    ∃ i0 i1, i0 ≤ i1 ∧ i1 < m.nAt ax ∧ i0 = m.indexAx ax (min a b) ∧ i1 = m.indexAx ax (max a b) ∧
      m'.region = { m.region with pmin := setAt m.region.pmin ax (loSlab m ax i0),
                                  pmax := setAt m.region.pmax ax (hiSlab m ax i1) } ∧
      m'.n = setAt m.n ax (i1 - i0 + 1) ∧
      m'.subs = (m.subs.filter fun p => decide (p.2.lo ax < hiSlab m ax i1) && decide (loSlab m ax i0 < p.2.hi ax)).map
        fun p => restamp m'.region (p.1, clipSub m ax i0 i1 p.2) := by
  obtain ⟨hax, h01, h1n, rfl⟩ := selRange_eq m m' hm hs ax a b h
  obtain ⟨hi, hsi⟩ := rangeMesh_inv m hm hs ax _ _ hax h01
  exact ⟨hi, hsi, hax, _, _, h01, h1n, rfl, rfl, rfl, rfl, rfl⟩

/-- "clipped to it": the clipped subregion is, as a closed box, exactly the intersection of the
subregion with the kept slab -/
theorem clip_is_intersection (m : Mesh) (ax i0 i1 : Nat) (s : Region) (hax : ax < s.ndim)
    (hl : s.pmax.length = s.pmin.length) (p : List Rat) :
    (clipSub m ax i0 i1 s).containsExact p ↔
      s.containsExact p ∧ loSlab m ax i0 ≤ p.getD ax 0 ∧ p.getD ax 0 ≤ hiSlab m ax i1 := by
  have hax' : ax < s.pmax.length := hl ▸ hax
  rw [clipSub_eq]
  unfold Region.containsExact
  rw [setAx_ndim]
  constructor
  · rintro ⟨h1, h2⟩
    have hx := h2 ax hax
    rw [setAx_lo_self _ _ _ _ hax, setAx_hi_self _ _ _ _ hax'] at hx
    refine ⟨⟨h1, ?_⟩, le_trans (le_max_left _ _) hx.1, le_trans hx.2 (min_le_left _ _)⟩
    intro a ha
    by_cases e : a = ax
    · subst e; exact ⟨le_trans (le_max_right _ _) hx.1, le_trans hx.2 (min_le_right _ _)⟩
    · have := h2 a ha; rwa [setAx_lo_ne _ _ _ _ _ e, setAx_hi_ne _ _ _ _ _ e] at this
  · rintro ⟨⟨h1, h2⟩, h3, h4⟩
    refine ⟨h1, ?_⟩
    intro a ha
    by_cases e : a = ax
    · subst e
      rw [setAx_lo_self _ _ _ _ hax, setAx_hi_self _ _ _ _ hax']
      exact ⟨max_le h3 (h2 a ha).1, le_min h4 (h2 a ha).2⟩
    · rw [setAx_lo_ne _ _ _ _ _ e, setAx_hi_ne _ _ _ _ _ e]; exact h2 a ha

/-- **Plane selection, full statement.**  For a mesh satisfying the mesh invariant and `SubInv`, a
successful `selPlane m ax x` removes axis `ax` (corners, names, units, count) and its subregions
are EXACTLY those whose closed extent along `ax` contains the centre of the selected cell, with
that axis removed (`dropSub`) and re-created with the result's metadata, in the original order.
The result satisfies the mesh invariant and `SubInv`. -/
theorem sel_plane_spec (m m' : Mesh) (hm : m.Inv) (hs : SubInv m) (ax : Nat) (x : Option Rat)
    (h : selPlane m ax x = .ok m') :
    m'.Inv ∧ SubInv m' ∧ ax < m.ndim ∧ 1 < m.ndim ∧
      m'.region = { pmin := removeAt m.region.pmin ax, pmax := removeAt m.region.pmax ax,
                    dims := removeAt m.region.dims ax, units := removeAt m.region.units ax, tol := m.region.tol } ∧
      m'.n = removeAt m.n ax ∧
      m'.subs = (m.subs.filter fun p =>
          !(decide (p.2.hi ax < m.centreAx ax (m.indexAx ax (x.getD (m.region.center.getD ax 0)) : Nat)) ||
            decide (m.centreAx ax (m.indexAx ax (x.getD (m.region.center.getD ax 0)) : Nat) < p.2.lo ax))).map
        fun p => restamp m'.region (p.1, dropSub ax p.2) := by
  obtain ⟨hax, h1, hdup, rfl⟩ := selPlane_eq m m' hm ax x h
  obtain ⟨hi, hsi⟩ := planeMesh_inv m hm hs ax _ hax h1 hdup
  exact ⟨hi, hsi, hax, h1, rfl, rfl, rfl⟩

/-- non-vacuity of `sel_range_spec` / `sel_plane_spec`: on `exM` the range x ∈ [3, 5] keeps the cells
[2,4], [4,6]; the slab ends exactly on the face x = 6 shared by the two subregions: "a" is kept, "b" —
which only touches the slab — is dropped; the plane y = 2.2 keeps both. -/
example : (match selRange exM 0 3 5 with | .ok g => g.subs.map (fun q => (q.1, q.2.pmin, q.2.pmax)) | .error _ => [])
    = [("a", [2, 1, 0], [6, 3, 2])] := by decide +kernel
example : (match selPlane exM 1 (some (11/5)) with | .ok g => g.subs.map (fun q => (q.1, q.2.pmin, q.2.pmax)) | .error _ => [])
    = [("a", [2, 0], [6, 2]), ("b", [6, 0], [8, 2])] := by decide +kernel

/-! ## persistence: the JSON side-car -/

/-- decode ∘ encode on one region: `Region(**region.to_dict())` (through the `pmin < pmax` keyword
path and the ordinary constructor) gives back every proper region unchanged -/
theorem region_json_roundtrip (r : Region) (hr : r.Inv) : regionOfJV (regionToJV r) = .ok r :=
  regionOfJV_toJV r hr

/-- **load(save(m)).subs = m.subs.**  The side-car written by `save_subregions` for a mesh
satisfying the mesh invariant and `SubInv`, loaded with `load_subregions` into any mesh `m0` of the
same geometry (same region and counts — e.g. the mesh a field file describes, which carries no
subregions yet, whatever subregions `m0` held before), is decoded entry by entry, accepted by the
setter, and re-attaches exactly the saved subregions: names, order, corners, dimension names,
units, tolerance. -/
theorem load_save_roundtrip (m m0 : Mesh) (hm : m.Inv) (hs : SubInv m) (hr : m0.region = m.region) (hn : m0.n = m.n) :
    loadSubs m0 (saveSubs m) = .ok { m0 with subs := m.subs } := by
  unfold loadSubs
  rw [subsOfJV_save m (fun p hp => subOkE_regionInv m hm p.2 (hs p hp))]
  have hm0 := hm.congr hr hn
  have hfit : ∀ p ∈ m.subs, FitsE m0 p.2 := fun p hp => fitsE_congr m m0 p.2 p.2 hr hn rfl rfl (hs p hp).fits
  show setSubs m0 m.subs = _
  rw [(setSubs_of_fits m0 hm0 m.subs hfit).1]
  rw [map_restamp_of_subInv m hs m0.region (by rw [hr]) (by rw [hr]) (by rw [hr])]

/-- **Loading re-attaches through the setter.**  A successful `load_subregions` decoded the file
into a dictionary of regions and that dictionary passed the `subregions` setter of the receiving
mesh: every attached subregion passed the inside / whole-cell / lattice tests of THIS mesh and
carries its names, units and tolerance; region and counts of the mesh are untouched. -/
theorem load_through_setter (m m' : Mesh) (j : JV) (h : loadSubs m j = .ok m') :
    ∃ subs, subsOfJV j = .ok subs ∧ setSubs m subs = .ok m' ∧ (∀ p ∈ subs, candOk m p.2 = true) ∧
      m'.subs = subs.map (restamp m.region) ∧ m'.region = m.region ∧ m'.n = m.n := by
  unfold loadSubs at h
  split at h
  case h_2 => cases h
  rename_i subs h1
  obtain ⟨e, hall⟩ := setSubs_ok_eq m m' subs h
  exact ⟨subs, h1, h, hall, by rw [e], by rw [e], by rw [e]⟩

/-- … so a side-car that does not fit the mesh (some decoded box fails one of the three tests) is
rejected — and, the model being functional, the mesh keeps its previous subregions. -/
theorem load_rejects_misfit (m : Mesh) (j : JV) (subs : List (String × Region)) (p : String × Region)
    (hd : subsOfJV j = .ok subs) (hp : p ∈ subs) (hbad : candOk m p.2 = false) :
    loadSubs m j = .error .value := by
  unfold loadSubs; rw [hd]; exact set_rejects m subs p hp hbad

/-- non-vacuity of the persistence theorems: `exM` meets the hypotheses of `load_save_roundtrip`
(with `m0` = the same geometry without subregions); the same side-car offered to a mesh shifted by
a third of a cell is rejected. -/
example : loadSubs { exM with subs := [] } (saveSubs exM) = .ok exM :=
  load_save_roundtrip exM { exM with subs := [] } exM_inv exM_subInv rfl rfl
example : (match loadSubs { exM with region := { exM.region with pmin := [2/3, 0, 0], pmax := [26/3, 6, 2] }, subs := [] } (saveSubs exM) with
    | .ok _ => true | .error _ => false) = false := by decide +kernel

/-- **… and the re-attached subregions satisfy `SubInv` on the receiving mesh**: the mesh
`load_subregions` produces from the side-car of a mesh satisfying `SubInv` (VTK / OVF: the field
file carries the geometry, the side-car the subregions) satisfies the mesh invariant and `SubInv`. -/
theorem sidecar_roundtrip_subInv (m m0 : Mesh) (hm : m.Inv) (hs : SubInv m) (hr : m0.region = m.region) (hn : m0.n = m.n) :
    ∃ g, loadSubs m0 (saveSubs m) = .ok g ∧ g.Inv ∧ SubInv g ∧ g.subs = m.subs ∧ g.region = m0.region ∧ g.n = m0.n :=
  ⟨_, load_save_roundtrip m m0 hm hs hr hn, hm.congr hr hn, subInv_congr m _ hr hn rfl hs, rfl, rfl, rfl⟩

/-! ## persistence: HDF5 (C10's model of `io/hdf5.py`) -/

/-- **The mesh the HDF5 reader returns has the same values.**  `TMesh.loaded` — the mesh
`DFV.C10.mesh_roundtrip` proves `meshLoad (meshSave m)` returns for every well-formed `m` — differs
from `m` only in the dtype of the subregion corner arrays (they arrive in the dtype of the corner
table, which is integer only if every stored corner array is: never a float-to-integer cast);
region, counts, `bc`, subregion names, order and every corner VALUE are those of `m`. -/
theorem hdf5_loaded_same_values (m : C10.TMesh) : meshOfT m.loaded = meshOfT m := meshOfT_loaded m

/-- **Subregions read back from an HDF5 file satisfy `SubInv` on the loaded mesh**, with the same
names in the same order and the same corners, region and counts. -/
theorem hdf5_loaded_subInv (m : C10.TMesh) (hs : SubInv (meshOfT m)) :
    SubInv (meshOfT m.loaded) ∧ (meshOfT m.loaded).subs = (meshOfT m).subs ∧
    (meshOfT m.loaded).region = (meshOfT m).region ∧ (meshOfT m.loaded).n = (meshOfT m).n := by
  rw [meshOfT_loaded]; exact ⟨hs, rfl, rfl, rfl⟩

/-- **Whatever an HDF5 file contains, loaded subregions went through the setter** of the mesh the
reader builds: every candidate row passed the setter's check (the inside / whole-cell / lattice tests on
the candidate re-created with the mesh's metadata: repo fix 5591fed0), every stored subregion is the
candidate re-created with the mesh's dimension names, units and tolerance (corners ordered, names kept),
and every STORED subregion passes the three tests of that mesh as it is stored — so a table that does not
fit the stored geometry makes the load fail instead of attaching misfitting subregions. -/
theorem hdf5_load_through_setter (h : C10.H5Mesh) (g : C10.TMesh) (hg : C10.meshLoad h = .ok g) :
    ∃ cands : List (String × C10.TReg), C10.setSubs g.region g.n cands = .ok g.subs ∧
      (∀ c ∈ cands, C10.candOk g.region g.n c.2 = true) ∧
      List.Forall₂ (fun c p => p.1 = c.1 ∧ p.2.dims = g.region.dims ∧ p.2.units = g.region.units ∧
          p.2.tol = g.region.tol ∧ p.2.pmin = C10.NumArr.minimum c.2.pmin c.2.pmax ∧
          p.2.pmax = C10.NumArr.maximum c.2.pmin c.2.pmax) cands g.subs ∧
      (∀ p ∈ g.subs, C10.subAccept g.region.toRegion g.n p.2.toRegion = true) := by
  have hinv := C10.meshLoad_inv h g hg
  obtain ⟨r, ss, hr, hss, hm⟩ := C10.meshLoad_eq_ok.mp hg
  obtain ⟨_, _, _, ss', hset, rfl⟩ := C10.TMesh.init_eq_ok.mp hm
  have hc := (C10.subsLoad_cands_inv _ _ _ hss).2
  obtain ⟨hacc, rfl⟩ := (C10.setSubs_eq_ok r (C10.regionLoad_inv hr) _ ss ss' hc).mp hset
  refine ⟨ss, hset, hacc, ?_, fun p hp => ((C10.subInv_iff_weak _ _ _).mp (((C10.TMesh.inv_iff _).mp hinv).2.2.2.2.2.2 p hp)).2⟩
  -- the candidates the reader builds are valid regions: corners ordered and of one dtype, so `np.minimum` / `np.maximum`
  -- return them as they are and the stored subregion is the candidate re-stamped
  rw [List.forall₂_map_right_iff]
  exact List.forall₂_same.mpr fun c hcm =>
    ⟨rfl, rfl, rfl, rfl, (C10.inv_min_max c.2 (hc c hcm)).1.symm, (C10.inv_min_max c.2 (hc c hcm)).2.symm⟩

/-- **C10's model of the subregion setter's tests and C14's are the same function**: inside the
region, `Mesh(region=candidate, cell=mesh.cell)` exists, `is_aligned` with the absolute 1e-12 /
relative 1e-5 tolerances — written independently for the two properties from the same code. -/
theorem setter_models_agree (r : Region) (n : List Nat) (s : Region) :
    C10.subAccept r n s = T.subOk { region := r, n := n, bc := "", subs := [] } s :=
  subAccept_eq_subOk r n s

/-- … so every subregion an HDF5 load attaches passes — as it is stored — exactly the three tests `subOk`
of the loaded mesh that `set_accepts` / `set_rejects` / `set_accepts_exact` are about. -/
theorem hdf5_load_passed_subOk (h : C10.H5Mesh) (g : C10.TMesh) (hg : C10.meshLoad h = .ok g) :
    ∃ cands : List (String × C10.TReg), C10.setSubs g.region g.n cands = .ok g.subs ∧
      ∀ p ∈ g.subs, T.subOk (meshOfT g) p.2.toRegion = true := by
  obtain ⟨cands, h1, _, _, h4⟩ := hdf5_load_through_setter h g hg
  refine ⟨cands, h1, fun p hp => ?_⟩
  rw [← h4 p hp, subAccept_eq_subOk]
  exact subOk_congr _ _ _ rfl rfl

/-- non-vacuity of the HDF5 theorems: `exT` is `exM` with integer region corners, one subregion with
integer and one with float corner arrays; its values are `exM`, so `SubInv` holds; the corner table
is float, so loading changes the dtype of subregion "a" (`loaded ≠ self`) but no value. -/
example : exT.n = [4, 6, 1] := rfl
example : meshOfT exT = exM := meshOfT_exT
example : SubInv (meshOfT exT) := meshOfT_exT ▸ exM_subInv
example : exT.loaded ≠ exT := by decide +kernel
example : ∃ g, loadSubs { exM with subs := [] } (saveSubs exM) = .ok g ∧ SubInv g :=
  let ⟨g, h1, _, h3, _⟩ := sidecar_roundtrip_subInv exM { exM with subs := [] } exM_inv exM_subInv rfl rfl
  ⟨g, h1, h3⟩

/-- non-vacuity: two concrete meshes offset by two cells are aligned; offset by half a cell they are not -/
example : isAligned ⟨⟨[0, 0], [4, 2], ["x", "y"], ["m", "m"], 0⟩, [4, 2], "", []⟩
                    ⟨⟨[2, 1], [5, 2], ["x", "y"], ["m", "m"], 0⟩, [3, 1], "", []⟩ = true := by decide +kernel
example : isAligned ⟨⟨[0, 0], [4, 2], ["x", "y"], ["m", "m"], 0⟩, [4, 2], "", []⟩
                    ⟨⟨[1/2, 1], [7/2, 2], ["x", "y"], ["m", "m"], 0⟩, [3, 1], "", []⟩ = false := by decide +kernel

/-! ## the tolerant tests as the code evaluates them, in exact rational arithmetic -/

/-- **`is_aligned`, one corner offset, as an iff**: the remainder test accepts the offset `d` iff `d` is
within the tolerance `t` of a whole number of cells — both directions,
every `t`, every cell size. -/
theorem aligned_tol_iff (d c t : Rat) (hc : 0 < c) :
    misalignedAx d c t = false ↔ ∃ z : Int, |d - (z : Rat) * c| ≤ t :=
  misalignedAx_false_iff d c t hc

/-- **the whole-cell test of `Mesh(region = candidate, cell = mesh.cell)`, one axis, as an iff**: an edge `e`
passes iff it is within `t` of a whole number of cells, where the code takes `t = min(cell)/1000` -/
theorem divisible_tol_iff (e c t : Rat) (hc : 0 < c) :
    Mesh.notDivisible e c t = false ↔ ∃ z : Int, |e - (z : Rat) * c| ≤ t :=
  C01.notDivisible_false_iff e c t hc

/-- **`subregion in region` with its absolute + relative tolerance**: both corners of the candidate must
satisfy `pmin − (atol + rtol·|x|) ≤ x ≤ pmax + (atol + rtol·|x|)` per axis, `rtol` = the REGION's
`tolerance_factor`, `atol = min(edges)·tolerance_factor` — the region version of
`DFV.C01.contains_iff_tolerance`.  The candidate's own tolerance factor does not occur. -/
theorem inside_iff_tolerance (r : Region) (hr : r.Inv) (ht : 0 ≤ r.tol) (s : Region) :
    r.containsReg s = true ↔
      s.pmin.length = r.ndim ∧ s.pmax.length = r.ndim ∧ ∀ a, a < r.ndim →
        (r.lo a - band r (s.lo a) ≤ s.lo a ∧ s.lo a ≤ r.hi a + band r (s.lo a)) ∧
        (r.lo a - band r (s.hi a) ≤ s.hi a ∧ s.hi a ≤ r.hi a + band r (s.hi a)) := by
  rw [C01.containsReg_eq_true_iff, C01.containsPt_iff r hr ht, C01.containsPt_iff r hr ht]
  -- `TolInside` is the same pair of inequalities with the tolerance on the other side
  exact ⟨fun ⟨⟨h1, h2⟩, h3, h4⟩ => ⟨h1, h3, fun a ha =>
      ⟨⟨sub_le_comm.mp (h2 a ha).1, sub_le_iff_le_add'.mp (h2 a ha).2⟩, sub_le_comm.mp (h4 a ha).1, sub_le_iff_le_add'.mp (h4 a ha).2⟩⟩,
    fun ⟨h1, h3, h⟩ => ⟨⟨h1, fun a ha => ⟨sub_le_comm.mpr (h a ha).1.1, sub_le_iff_le_add'.mpr (h a ha).1.2⟩⟩,
      h3, fun a ha => ⟨sub_le_comm.mpr (h a ha).2.1, sub_le_iff_le_add'.mpr (h a ha).2.2⟩⟩⟩

/-- **D18 as an iff, first half — an aligned box is rejected**: a corner offset that is a whole number
of cells up to an error `ε` with `|ε| ≤ c/2` (the rounding error of a far-away or rotated coordinate)
fails the alignment test iff `|ε| > t`; `t` is the ABSOLUTE `1e-12` of the code, so the verdict does
not look at the size of `ε` relative to the cell or to the coordinates. -/
theorem d18_aligned_rejected_iff (z : Int) (c ε t : Rat) (hc : 0 < c) (hε : |ε| ≤ c / 2) :
    misalignedAx ((z : Rat) * c + ε) c t = true ↔ t < |ε| := by
  rw [← not_iff_not, Bool.not_eq_true, misalignedAx_false_iff _ _ _ hc, near_multiple_iff z c ε t hc hε, not_lt]

/-- **D18 as an iff, second half — a misaligned box is accepted**: a corner offset by HALF a cell from
the lattice passes the alignment test iff `c ≤ 2t` (cells of at most `2e-12` with the default). -/
theorem d18_half_cell_accepted_iff (z : Int) (c t : Rat) (hc : 0 < c) :
    misalignedAx (((z : Rat) + 1 / 2) * c) c t = false ↔ c ≤ 2 * t := by
  have e : ((z : Rat) + 1 / 2) * c = (z : Rat) * c + c / 2 := by ring
  have habs : |c / 2| = c / 2 := abs_of_pos (half_pos hc)
  rw [e, misalignedAx_false_iff _ _ _ hc, near_multiple_iff z c (c / 2) t hc (by rw [habs]), habs]
  exact div_le_iff₀' two_pos

/-- **`is_aligned` is not scale invariant — the exact law**: with both meshes scaled by `s > 0` and the
same absolute tolerance `t`, the answer is the answer at the original scale with tolerance `t / s`
(cell-size comparison and both corner tests).  The whole-cell test, whose tolerance is a fraction of
the cell, IS invariant. -/
theorem is_aligned_scale_law (s : Rat) (hs : 0 < s) (m o : Mesh) (t e c t' : Rat) :
    isAligned (scaleMesh s m) (scaleMesh s o) t = isAligned m o (t / s) ∧
    Mesh.notDivisible (s * e) (s * c) (s * t') = Mesh.notDivisible e c t' :=
  ⟨isAligned_scale s hs m o t, notDivisible_scale s e c t' hs⟩

/-- **An exact fit is accepted at every length scale**: if a box fits a mesh exactly (`FitsE`), then for
every `σ > 0` the box scaled by `σ` passes all three tolerant tests of the mesh scaled by `σ` — as given and as
the setter tests it (re-created with the mesh's metadata) — the absolute tolerance of `is_aligned` can only hurt boxes whose stored corners are NOT exactly
on the lattice (`d18_aligned_rejected_iff`). -/
theorem exact_fit_accepted_at_every_scale (m : Mesh) (hm : m.Inv) (s : Region) (h : FitsE m s) (σ : Rat) (hσ : 0 < σ) :
    subOk (scaleMesh σ m) (scaleReg σ s) = true ∧ candOk (scaleMesh σ m) (scaleReg σ s) = true :=
  ⟨subOk_of_fits _ (scaleMesh_inv σ hσ m hm) _ (fitsE_scale σ m s h),
   candOk_of_fits _ (scaleMesh_inv σ hσ m hm) _ (fitsE_scale σ m s h)⟩

/-- **The setter's outcome does not depend on the candidates' dimension names, units or tolerance
factors** — true of the code since repo fix 5591fed0 (finding D132): every candidate of the mesh's
dimension is first re-created with the mesh region's names, units and tolerance factor and the three
tests are made on that copy, which is also what is stored (`set_accepts`).  Replacing the metadata of
every candidate by anything gives the same result: the same error or the same mesh. -/
theorem setter_ignores_candidate_metadata (m : Mesh) (subs : List (String × Region)) (d u : String × Region → List String)
    (t : String × Region → Rat) :
    setSubs m (subs.map fun p => (p.1, { p.2 with dims := d p, units := u p, tol := t p })) = setSubs m subs := by
  unfold setSubs
  have h1 : (subs.map fun p => (p.1, ({ p.2 with dims := d p, units := u p, tol := t p } : Region))).all (fun p => candOk m p.2)
      = subs.all (fun p => candOk m p.2) := by
    rw [List.all_map]
    apply List.all_congr rfl
    intro p
    exact candOk_indep m p.2 (d p) (u p) (t p)
  rw [h1, List.map_map]
  rfl

/-- … for one candidate: its own tolerance factor has no say (before the fix it had: `candidate_tolerance_decides_witness`) -/
theorem setter_ignores_candidate_tol (m : Mesh) (s : Region) (t' : Rat) : candOk m { s with tol := t' } = candOk m s :=
  candOk_indep m s s.dims s.units t'

/-- **Why the re-creation matters (witness of finding D132).**  Mesh `[0, 0.002]`, two cells; candidate
`[0, 0.001 − 1e-13]` — shorter than one cell by `1e-10` cells.  The three tests made on the candidate AS
GIVEN (what the setter did before repo fix 5591fed0) refuse it when it carries the default tolerance
factor `1e-12` but pass it when it carries `1e-3`: the test `Region(pmin, pmin + cell) in candidate` of
`Mesh(region = candidate, cell = mesh.cell)` runs with the tolerance of the region it is given.  The
setter's check `candOk` re-creates the candidate with the mesh's `1e-12` first and refuses both. -/
theorem candidate_tolerance_decides_witness :
    subOk ⟨⟨[0], [2/1000], ["x"], ["m"], 1/1000000000000⟩, [2], "", []⟩
      ⟨[0], [1/1000 - 1/10000000000000], ["x"], ["m"], 1/1000000000000⟩ = false ∧
    subOk ⟨⟨[0], [2/1000], ["x"], ["m"], 1/1000000000000⟩, [2], "", []⟩
      ⟨[0], [1/1000 - 1/10000000000000], ["x"], ["m"], 1/1000⟩ = true ∧
    candOk ⟨⟨[0], [2/1000], ["x"], ["m"], 1/1000000000000⟩, [2], "", []⟩
      ⟨[0], [1/1000 - 1/10000000000000], ["x"], ["m"], 1/1000000000000⟩ = false ∧
    candOk ⟨⟨[0], [2/1000], ["x"], ["m"], 1/1000000000000⟩, [2], "", []⟩
      ⟨[0], [1/1000 - 1/10000000000000], ["x"], ["m"], 1/1000⟩ = false := by
  decide +kernel

/-- **The copying form of translate / scale / rotate90 is the constructor applied to the in-place
result** — for ANY mesh satisfying the mesh invariant whose subregions are proper regions (they need
not fit exactly: tolerance-accepted boxes, boxes moved by inexact arithmetic): with `T` the result of
the in-place form, the copying form evaluates `Mesh(region=T.region, n=T.n, bc=T.bc,
subregions=T.subregions)`, returning that mesh with the receiver untouched or failing with it; and a
step rejected in place is rejected by the copying form. -/
theorem copy_form_is_constructor_of_inplace (m : Mesh) (hm : m.Inv) (hp : ∀ p ∈ m.subs, p.2.Inv) (op : Op) :
    (∀ T1 T2, stepM m (op.withInplace true) = .ok (T1, T2) →
      T1 = T2 ∧ stepM m (op.withInplace false) =
        match mkMesh? T2.region T2.n T2.bc T2.subs with
        | .error e => .error e
        | .ok m' => .ok (m, m')) ∧
    ((∃ e, stepM m (op.withInplace true) = .error e) → ∃ e, stepM m (op.withInplace false) = .error e) := by
  constructor
  · intro T1 T2 h
    obtain ⟨x, r', subs', hreg, hsub, hcase⟩ := stepM_ok m _ T1 T2 h
    rw [inplace_withInplace, if_pos rfl] at hcase
    obtain ⟨rfl, rfl⟩ := hcase
    obtain ⟨g1, g2⟩ := stepMU_parts_flag m hm hp op true false x r' subs' hreg hsub
    refine ⟨rfl, ?_⟩
    rw [stepM_of_parts m _ _ r' subs' g1 g2, inplace_withInplace, if_neg Bool.false_ne_true]
    simp only [opN_withInplace, opBc_withInplace]
    rfl
  · rintro ⟨e, he⟩
    refine err_of_not_ok _ fun q hF => ?_
    obtain ⟨x, r', subs', hreg, hsub, _⟩ := stepM_ok m _ q.1 q.2 hF
    obtain ⟨g1, g2⟩ := stepMU_parts_flag m hm hp op false true x r' subs' hreg hsub
    rw [stepM_of_parts m _ _ r' subs' g1 g2, inplace_withInplace, if_pos rfl] at he
    cases he

/-- **In-place == copying holds exactly when the in-place result passes the setter's tests** (finding
D18 delimited): same hypotheses, `T` the in-place result.  The copying form is accepted
IFF `T.bc` passes the `bc` check and every subregion of `T` passes the setter's check against `T` (the inside
test, the 0.1 % whole-cell test and the absolute-`1e-12` alignment test, made on the subregion with `T`'s
metadata); when it is, it returns `T` with `bc` lower-cased
and the subregions re-created with `T`'s names, units and tolerance.  For exactly fitting subregions
(`SubInv`) the condition always holds (`DFV.C13.inplace_eq_copy_mesh_complete`); it fails only for
subregions whose corners are off the lattice by more than the tolerances (`d18_aligned_rejected_iff`). -/
theorem copy_accepted_iff_inplace_passes (m : Mesh) (hm : m.Inv) (hp : ∀ p ∈ m.subs, p.2.Inv) (op : Op) (T1 T : Mesh)
    (hT : stepM m (op.withInplace true) = .ok (T1, T)) :
    ((∃ y m', stepM m (op.withInplace false) = .ok (y, m')) ↔
      (Mesh.bcOk T.region.dims T.bc.toLower = true ∧ ∀ p ∈ T.subs, candOk T p.2 = true)) ∧
    (∀ y m', stepM m (op.withInplace false) = .ok (y, m') →
      y = m ∧ m' = { T with bc := T.bc.toLower, subs := T.subs.map (restamp T.region) }) := by
  obtain ⟨_, hcopy⟩ := (copy_form_is_constructor_of_inplace m hm hp op).1 T1 T hT
  obtain ⟨_, hTi, _, _⟩ := stepM_keeps m hm _ _ _ hT
  -- the copying form is accepted iff the constructor is, and returns what it returns
  have key : ∀ y m', stepM m (op.withInplace false) = .ok (y, m') ↔ y = m ∧ mkMesh? T.region T.n T.bc T.subs = .ok m' := by
    intro y m'
    rw [hcopy]
    cases mkMesh? T.region T.n T.bc T.subs with
    | error e => exact ⟨fun h => (nomatch h), fun h => (nomatch h.2)⟩
    | ok g => exact ⟨fun h => by cases h; exact ⟨rfl, rfl⟩, fun ⟨h1, h2⟩ => by cases h1; cases h2; rfl⟩
  have hc : ∀ p : String × Region, candOk { region := T.region, n := T.n, bc := T.bc.toLower, subs := [] } p.2 = candOk T p.2 :=
    fun p => candOk_congr T _ p.2 rfl rfl
  simp only [key, mkMesh?_ok_iff, hc]
  constructor
  · exact ⟨fun ⟨_, _, _, _, _, hbc, hall, _⟩ => ⟨hbc, hall⟩,
      fun ⟨hbc, hall⟩ => ⟨m, _, rfl, hTi.2.1, fun a ha => hTi.2.2 a ha, hbc, hall, rfl⟩⟩
  · rintro y m' ⟨rfl, _, _, _, _, rfl⟩
    exact ⟨rfl, rfl⟩

/-- non-vacuity of `copy_form_is_constructor_of_inplace` / `copy_accepted_iff_inplace_passes` / the D18 iffs: a mesh whose subregion is OFF the lattice by 1/3 of a cell is a
legitimate subject of `copy_form_is_constructor_of_inplace` (mesh invariant, proper subregion, no exact
fit): its in-place translation is accepted, the copying one is refused by the constructor; the D18 iffs
have instances on both sides at `t = 1e-12`. -/
example : (⟨⟨[0, 0], [4, 2], ["x", "y"], ["m", "m"], 1/1000000000000⟩, [4, 2], "",
    [("a", ⟨[1/3, 0], [4/3, 1], ["x", "y"], ["m", "m"], 1/1000000000000⟩)]⟩ : Mesh).invB = true := by decide +kernel
example : (match stepM ⟨⟨[0, 0], [4, 2], ["x", "y"], ["m", "m"], 1/1000000000000⟩, [4, 2], "",
      [("a", ⟨[1/3, 0], [4/3, 1], ["x", "y"], ["m", "m"], 1/1000000000000⟩)]⟩ (.translate [1, 1] true) with
    | .ok _ => true | .error _ => false) = true ∧
  (match stepM ⟨⟨[0, 0], [4, 2], ["x", "y"], ["m", "m"], 1/1000000000000⟩, [4, 2], "",
      [("a", ⟨[1/3, 0], [4/3, 1], ["x", "y"], ["m", "m"], 1/1000000000000⟩)]⟩ (.translate [1, 1] false) with
    | .ok _ => true | .error _ => false) = false := by decide +kernel
example : misalignedAx (3 * 1000 + 1/100000000000) 1000 (1/1000000000000) = true ∧
    misalignedAx ((3 + 1/2) * (1/1000000000000)) (1/1000000000000) (1/1000000000000) = false := by decide +kernel
example : FitsE exM ⟨[0, 2, 0], [4, 5, 2], ["p", "q", "r"], ["a", "b", "c"], 0⟩ ∧ (0 : Rat) < 1000000 :=
  ⟨exM_fits, by norm_num⟩

/-! ## the store model (`DFV/Model/C13Store.lean`) — region and subregions are the mesh's own copies -/
open DFV.S in
/-- **The setter and the constructor store COPIES; no subregion object is shared** — after ANY session
(any statements, any aliasing: the same candidate objects for several meshes, one object under two
names, a mesh's own region or another mesh's subregions as candidates): the ids of all subregion
objects of all meshes are pairwise different, every subregion object of a mesh was created after the
mesh's region object (so it is none of the caller's candidates, nor the region), and carries the
dimension names of the mesh region. -/
theorem subregions_are_own_copies (sts : List Stmt) :
    (subIds (run Store.empty sts)).Nodup ∧
    ∀ mo ∈ (run Store.empty sts).meshes, ∀ p ∈ mo.subs,
      mo.region < p.2 ∧ p.2 < (run Store.empty sts).regs.length ∧
      ((run Store.empty sts).reg p.2).dims = ((run Store.empty sts).reg mo.region).dims := by
  have hg := run_good Store.empty empty_good sts
  refine ⟨hg.2.1, fun mo hmo p hp => ?_⟩
  obtain ⟨_, v2, _, _, _, v6⟩ := hg.2.2 mo hmo
  exact ⟨(v2 p hp).1, (v2 p hp).2, v6 p hp⟩

open DFV.S in
/-- **"This stays true after translating, scaling, rotating" — in the store**: a mesh object whose value
satisfies `SubInv` and `BcWf`, in a good store with exclusive region objects (every store reached by a session:
`DFV.C13.store_invariant_after_any_session`), moved by ANY history of
in-place steps, still holds the same Region objects, and its value satisfies the mesh invariant and
`SubInv` with the subregion names in the original order; the other meshes keep their values (hence
their `SubInv`). -/
theorem subInv_after_inplace_history_in_store (s : Store) (hg : Good s) (he : RegExcl s) (mid : Nat) (mo : MeshObj)
    (hmo : s.meshes[mid]? = some mo) (hs : SubInv (absMesh s mo)) (hb : BcWf (absMesh s mo)) (ops : List Op)
    (hin : ∀ op ∈ ops, op.inplace = true) :
    ∃ mo', (run s (ops.map (Stmt.meshOp mid))).meshes[mid]? = some mo' ∧ footprint mo' = footprint mo ∧
      (absMesh (run s (ops.map (Stmt.meshOp mid))) mo').Inv ∧ SubInv (absMesh (run s (ops.map (Stmt.meshOp mid))) mo') ∧
      (absMesh (run s (ops.map (Stmt.meshOp mid))) mo').subs.map (·.1) = (absMesh s mo).subs.map (·.1) ∧
      ∀ j moj, j ≠ mid → s.meshes[j]? = some moj →
        absMesh (run s (ops.map (Stmt.meshOp mid))) moj = absMesh s moj := by
  obtain ⟨mo', f1, f2, f3, f4, _, _⟩ := inplace_history s hg he mid mo hmo hs ops hin
  have hm := (good_mesh s hg mo (List.mem_of_getElem? hmo)).2.1
  obtain ⟨r1, r2, r3⟩ := runM_subInv (absMesh s mo) hm hs ops
  exact ⟨mo', f1, f3, by rw [f2]; exact r1, by rw [f2]; exact r2, by rw [f2]; exact r3, fun j moj hj hmj => (f4 j moj hj hmj).2⟩

end DFV.C14
