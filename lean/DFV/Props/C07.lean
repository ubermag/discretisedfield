import DFV.Lemmas.C07Ex
import DFV.Lemmas.C07Blocks
import DFV.Lemmas.C07Ext
/-!
# C07 — sub-selection, padding and resampling keep every value at its physical position

Property theorems about the code-shaped model `DFV/Model/C07.lean` of `Mesh.sel`,
`Field.sel`, `Mesh.__getitem__`, `Field.__getitem__`, `Mesh.region2slices`, `Mesh.pad`,
`Field.pad` and `Field.resample`.  Values are only moved, never computed: every statement
about values is an equation between `get`s of the result and of the source, so it holds
verbatim for any value type.  Dimension count, cell counts, selection coordinates, boxes,
pad widths and target resolutions are universally quantified.  Arithmetic is exact (`Rat`).

Per operation: which source cell every result cell holds, the shape of the result mesh, acceptance and refusal (as
equivalences in "Refusals as equivalences").  Across operations: what the constructor call at the end of every operation
does with component count, unit, labels and mapping, invariants by induction over histories of operations, subregions
and boundary condition of the result mesh, composition laws and round trips — also on inputs only (`…_total`:
acceptance of every intermediate step is part of the conclusion) — and requests at non-finite coordinates (`ExtRat`).

The results that are blocks of whole cells of their source (range selections, `field[region]`, the
source inside a padded field) are handled through `MeshBlock` (`Lemmas/C07Sel.lean`) / `FldBlock`
(`Lemmas/C07Blocks.lean`):
composition of two extractions is `FldBlock.trans`, "same cells, same field" is `FldBlock.unique`.
-/
namespace DFV.C07
open DFV DFV.Mesh

/-! ## Argument normalisation (`_sel_convert_input`) -/

/-- A coordinate inside the region is accepted and normalised to the cell that contains it:
the returned index `k` is the index of that cell, the returned coordinate its centre, and
`lo + k·cell ≤ x < lo + (k+1)·cell` (the last cell is closed at the region's upper face). -/
theorem selConvert_point (m : Mesh) (hm : m.Inv) (dim : String) (a : Nat)
    (hd : m.region.dim2index dim = .ok a) (x : Rat)
    (h1 : m.region.lo a ≤ x) (h2 : x ≤ m.region.hi a) :
    selConvert m dim (.point x)
      = .ok (a, .plane (m.centreAx a ((m.indexAx a x : Nat) : Int)) (m.indexAx a x)) ∧
    m.indexAx a x < m.nAt a ∧
    m.region.lo a + (m.indexAx a x : Rat) * m.cellAt a ≤ x ∧
    (x < m.region.lo a + ((m.indexAx a x : Rat) + 1) * m.cellAt a ∨
      (m.indexAx a x = m.nAt a - 1 ∧ x = m.region.hi a)) := by
  have ha := hm.dim2index_lt hd
  exact ⟨(selConvert_point_ok_iff m hm dim x a _).mpr ⟨hd, h1, h2, rfl⟩, C01.indexAx_lt m a (hm.nAt_pos ha) x,
    index_contains m a x (hm.nAt_pos ha) (hm.lo_lt_hi ha) h1 h2⟩

/-- Without a coordinate the selection goes through the cell containing the region's centre. -/
theorem selConvert_centre (m : Mesh) (hm : m.Inv) (dim : String) (a : Nat)
    (hd : m.region.dim2index dim = .ok a) :
    selConvert m dim .centre
      = selConvert m dim (.point ((m.region.lo a + m.region.hi a) / 2)) := by
  have ha := hm.dim2index_lt hd
  have hlt := hm.lo_lt_hi ha
  rw [(selConvert_point m hm dim a hd _ (by linarith) (by linarith)).1]
  exact (selConvert_centre_ok_iff m hm dim a _).mpr ⟨hd, rfl⟩

/-- A range inside the region is normalised to the cells containing its lower and its upper
bound (inclusive index range `k₁ … k₂`, `k₁ ≤ k₂`). -/
theorem selConvert_range (m : Mesh) (hm : m.Inv) (dim : String) (a : Nat)
    (hd : m.region.dim2index dim = .ok a) (x y : Rat)
    (h1 : m.region.lo a ≤ min x y) (h2 : max x y ≤ m.region.hi a) :
    selConvert m dim (.range x y)
      = .ok (a, .range (m.centreAx a ((m.indexAx a (min x y) : Nat) : Int))
                 (m.centreAx a ((m.indexAx a (max x y) : Nat) : Int))
                 (m.indexAx a (min x y)) (m.indexAx a (max x y))) ∧
    m.indexAx a (min x y) ≤ m.indexAx a (max x y) ∧ m.indexAx a (max x y) < m.nAt a := by
  have ha := hm.dim2index_lt hd
  exact ⟨(selConvert_range_ok_iff m hm dim x y a _).mpr ⟨hd, h1, h2, rfl⟩,
    C01.indexAx_mono m a (hm.nAt_pos ha) (hm.cellAt_pos ha) min_le_max, C01.indexAx_lt m a (hm.nAt_pos ha) _⟩

/-- The two bounds of a range may be given in either order. -/
theorem sel_range_comm (f : Fld) (dim : String) (x y : Rat) :
    selConvert f.mesh dim (.range x y) = selConvert f.mesh dim (.range y x) ∧
    selMesh f.mesh dim (.range x y) = selMesh f.mesh dim (.range y x) ∧
    selFld f dim (.range x y) = selFld f dim (.range y x) := by
  have h : selConvert f.mesh dim (.range x y) = selConvert f.mesh dim (.range y x) := by
    unfold selConvert
    cases f.mesh.region.dim2index dim with
    | error e => rfl
    | ok a => simp only; rw [min_comm x y, max_comm x y]
  have h2 : selMesh f.mesh dim (.range x y) = selMesh f.mesh dim (.range y x) := by
    unfold selMesh; rw [h]
  exact ⟨h, h2, by unfold selFld; rw [h, h2]⟩

/-- Requests outside the region are rejected: a coordinate below `pmin` or above `pmax`, a
range with a bound outside, an unknown axis name, a malformed value — by `_sel_convert_input`,
`Mesh.sel` and `Field.sel` alike. -/
theorem sel_outside_rejected (f : Fld) (dim : String) (arg : SelArg)
    (hout : (∀ a, f.mesh.region.dim2index dim ≠ .ok a) ∨ arg = .bad ∨
      (∃ a x, f.mesh.region.dim2index dim = .ok a ∧ arg = .point x ∧
        (x < f.mesh.region.lo a ∨ f.mesh.region.hi a < x)) ∨
      (∃ a x y, f.mesh.region.dim2index dim = .ok a ∧ arg = .range x y ∧
        (min x y < f.mesh.region.lo a ∨ f.mesh.region.hi a < max x y))) :
    (∃ e, selConvert f.mesh dim arg = .error e) ∧ (∃ e, selMesh f.mesh dim arg = .error e) ∧
    (∃ e, selFld f dim arg = .error e) := by
  have key : ∃ e, selConvert f.mesh dim arg = .error e := err_of_not_ok _ fun ⟨a', s⟩ hr => by
    have hd' := selConvert_dim hr
    rcases hout with h | rfl | ⟨a, x, hd, rfl, hx⟩ | ⟨a, x, y, hd, rfl, hxy⟩
    · exact h _ hd'
    · exact selConvert_bad _ _ _ hr
    · obtain ⟨_, ck, hd2, hck, _⟩ := (selConvert_point_iff _ _ _ _).mp hr
      cases hd.symm.trans hd2
      rw [selOne_err _ a x hx] at hck; cases hck
    · obtain ⟨_, ck1, ck2, hd2, c1, c2, _⟩ := (selConvert_range_iff _ _ _ _ _).mp hr
      cases hd.symm.trans hd2
      rcases hxy with h | h
      · rw [selOne_err _ a _ (Or.inl h)] at c1; cases c1
      · rw [selOne_err _ a _ (Or.inr h)] at c2; cases c2
  obtain ⟨e, he⟩ := key
  exact ⟨⟨e, he⟩, ⟨e, selMesh_error he⟩, ⟨e, selFld_error he⟩⟩

/-! ## Plane selection -/

/-- `Mesh.sel` with a coordinate (or none): the result has exactly axis `a` removed — its
name and unit are gone, every other axis keeps corners, cell count and cell size — and it is
again a well-formed mesh.  (Cell-aligned: kept axes are identical to the source's.) -/
theorem sel_plane_shape (m : Mesh) (hm : m.Inv) (dim : String) (arg : SelArg) (a : Nat) (c : Rat) (k : Nat)
    (hconv : selConvert m dim arg = .ok (a, .plane c k)) (g : Mesh) (h : selMesh m dim arg = .ok g) :
    g.ndim = m.ndim - 1 ∧ 2 ≤ m.ndim ∧
    g.region.dims = removeAt m.region.dims a ∧ g.region.units = removeAt m.region.units a ∧
    g.region.tol = m.region.tol ∧
    (∀ b, b < g.ndim →
      g.region.lo b = m.region.lo (skip a b) ∧ g.region.hi b = m.region.hi (skip a b) ∧
      g.nAt b = m.nAt (skip a b) ∧ g.cellAt b = m.cellAt (skip a b)) ∧
    g.Inv := by
  have ha := hm.dim2index_lt (selConvert_dim hconv)
  rw [selMesh_of_convert hconv] at h
  obtain ⟨h2, hr, hn⟩ := selPlaneMesh_eq m hm a ha c g h
  obtain ⟨pinv, pnd, pax⟩ := planeOf_inv m hm a ha h2
  -- every notion in the statement reads only region and cell counts of `g`: those of `planeOf m a`
  cases g; cases hr; cases hn
  exact ⟨pnd, h2, rfl, rfl, rfl, fun b hb => pax b (pnd ▸ hb), pinv⟩

/-- `Field.sel` with a coordinate `x`: for every cell `j` of the result, the point with the
result cell's centre on the kept axes and `x` on the removed axis lies in the source region,
in the source cell `insertAt j a k` (`k` = index of the layer containing `x`), and the result
holds exactly that cell's value and validity. -/
theorem sel_plane_pointwise (f : Fld) (hf : f.mesh.Inv) (dim : String) (x : Rat) (g : Fld)
    (h : selFld f dim (.point x) = .ok (.field g)) :
    ∃ a, f.mesh.region.dim2index dim = .ok a ∧
      f.mesh.region.lo a ≤ x ∧ x ≤ f.mesh.region.hi a ∧
      ∀ j, inRange g.mesh.n j = true →
        f.mesh.point2index (insertAt (g.mesh.centre j) a x)
          = .ok (insertAt j a (f.mesh.indexAx a x)) ∧
        g.data.get j = f.data.get (insertAt j a (f.mesh.indexAx a x)) ∧
        g.valid.get j = f.valid.get (insertAt j a (f.mesh.indexAx a x)) := by
  obtain ⟨a, hd, h1, h2, hnd, hr, hn, hv, hw⟩ := selFld_plane f hf dim x g h
  have ha := hf.dim2index_lt hd
  obtain ⟨pinv, pnd, pax⟩ := planeOf_inv f.mesh hf a ha hnd
  -- `take` reads the source at the index with the layer inserted, by definition
  refine ⟨a, hd, h1, h2, fun j hj => ⟨?_, by rw [hv]; rfl, by rw [hw]; rfl⟩⟩
  obtain ⟨gm, _, _, _, _, _, _⟩ := g
  cases gm; cases hr; cases hn
  exact plane_point2index f.mesh _ hf a ha x h1 h2 pnd (pinv.2.1.trans pnd)
    (fun b hb => ⟨(pax b hb).1, (pax b hb).2.1, (pax b hb).2.2.1⟩) j hj

/-- The same for the central plane (no coordinate given): the inserted coordinate is the
region's centre along the removed axis. -/
theorem sel_centre_pointwise (f : Fld) (hf : f.mesh.Inv) (dim : String) (g : Fld)
    (h : selFld f dim .centre = .ok (.field g)) :
    ∃ a, f.mesh.region.dim2index dim = .ok a ∧
      ∀ j, inRange g.mesh.n j = true →
        f.mesh.point2index (insertAt (g.mesh.centre j) a ((f.mesh.region.lo a + f.mesh.region.hi a) / 2))
          = .ok (insertAt j a (f.mesh.indexAx a ((f.mesh.region.lo a + f.mesh.region.hi a) / 2))) ∧
        g.data.get j = f.data.get (insertAt j a (f.mesh.indexAx a ((f.mesh.region.lo a + f.mesh.region.hi a) / 2))) ∧
        g.valid.get j = f.valid.get (insertAt j a (f.mesh.indexAx a ((f.mesh.region.lo a + f.mesh.region.hi a) / 2))) := by
  obtain ⟨⟨a, s⟩, hr⟩ := selConvert_ok_of_selFld h
  have hd := selConvert_dim hr
  -- the selection without a coordinate is the selection at the region's centre
  have e : selFld f dim .centre = selFld f dim (.point ((f.mesh.region.lo a + f.mesh.region.hi a) / 2)) := by
    unfold selFld selMesh; rw [selConvert_centre f.mesh hf dim a hd]
  rw [e] at h
  obtain ⟨a', hd', _, _, hpt⟩ := sel_plane_pointwise f hf dim _ g h
  cases hd.symm.trans hd'
  exact ⟨a, hd, hpt⟩

/-! ## Range selection -/

/-- `Mesh.sel` with a range: along the chosen axis exactly the cells from the one containing
the lower bound (`k₁`) to the one containing the upper bound (`k₂`) are kept — the new corners
are faces of the source mesh, `n = k₂ - k₁ + 1`, the cell size is unchanged; every other axis,
names, units and tolerance are kept; the result is a well-formed mesh. -/
theorem sel_range_shape (m : Mesh) (hm : m.Inv) (dim : String) (x y : Rat) (g : Mesh)
    (h : selMesh m dim (.range x y) = .ok g) :
    ∃ a, m.region.dim2index dim = .ok a ∧ m.region.lo a ≤ min x y ∧ max x y ≤ m.region.hi a ∧
      g.ndim = m.ndim ∧ g.region.dims = m.region.dims ∧ g.region.units = m.region.units ∧
      g.region.tol = m.region.tol ∧
      g.region.lo a = m.region.lo a + (m.indexAx a (min x y) : Rat) * m.cellAt a ∧
      g.region.hi a = m.region.lo a + ((m.indexAx a (max x y) : Rat) + 1) * m.cellAt a ∧
      g.nAt a = m.indexAx a (max x y) - m.indexAx a (min x y) + 1 ∧ g.cellAt a = m.cellAt a ∧
      (∀ b, b < m.ndim → b ≠ a →
        g.region.lo b = m.region.lo b ∧ g.region.hi b = m.region.hi b ∧ g.nAt b = m.nAt b ∧
        g.cellAt b = m.cellAt b) ∧
      g.Inv := by
  obtain ⟨a, hd, h1, h2, hk, blk⟩ := selMesh_range_block m hm dim x y g h
  have ba := blk.axis a (hm.dim2index_lt hd)
  rw [rangeOff_self, rangeCnt_self] at ba
  refine ⟨a, hd, h1, h2, blk.ndim, blk.dims, blk.units, blk.tol, ba.lo, ?_, ba.n, ba.cell, ?_, blk.inv hm⟩
  · rw [block_hi ba (Nat.succ_pos _), Nat.cast_add_one, Nat.cast_sub hk]; ring
  · intro b hb hba
    have bb := blk.axis b hb
    rw [rangeOff_of_ne hba, rangeCnt_of_ne m hba] at bb
    exact ⟨(bb.whole (hm.nAt_pos hb)).1, (bb.whole (hm.nAt_pos hb)).2, bb.n, bb.cell⟩

/-- The overlap test of `Mesh.sel` for subregions (half a cell of margin on both sides): for a
subregion made of whole cells `s₁ … s₂-1` and a selection keeping cells `k₁ … k₂`, the subregion
is dropped exactly when the two share no whole cell (the negation of `half_cell_overlap_iff`). -/
theorem range_sub_dropped_iff (L c : Rat) (hc : 0 < c) (k1 k2 s1 s2 : Nat) :
    ((L + ((k2 : Rat) + 1) * c) - c / 2 ≤ L + (s1 : Rat) * c ∨ (L + (s2 : Rat) * c) - c / 2 ≤ L + (k1 : Rat) * c)
      ↔ (k2 + 1 ≤ s1 ∨ s2 ≤ k1) := by
  rw [← not_iff_not, not_or, not_or, not_le, not_le, not_le, not_le]
  exact half_cell_overlap_iff hc k1 k2 s1 s2

/-- `Field.sel` with a range: the centre of every result cell `j` lies in the source region, in
the source cell obtained by shifting `j` by `k₁` along the chosen axis, and the result holds
exactly that cell's value and validity. -/
theorem sel_range_pointwise (f : Fld) (hf : f.mesh.Inv) (dim : String) (x y : Rat) (g : Fld)
    (h : selFld f dim (.range x y) = .ok (.field g)) :
    ∃ a, f.mesh.region.dim2index dim = .ok a ∧
      ∀ j, inRange g.mesh.n j = true →
        f.mesh.point2index (g.mesh.centre j)
          = .ok (setAt j a (j.getD a 0 + f.mesh.indexAx a (min x y))) ∧
        g.data.get j = f.data.get (setAt j a (j.getD a 0 + f.mesh.indexAx a (min x y))) ∧
        g.valid.get j = f.valid.get (setAt j a (j.getD a 0 + f.mesh.indexAx a (min x y))) := by
  obtain ⟨a, hd, _, _, _, _, blk⟩ := selFld_range_block f hf dim x y g h
  refine ⟨a, hd, fun j hj => ?_⟩
  rw [← tab_rangeOff j _ a _ (by rw [inRange_length _ _ hj, blk.mesh.nlen]) (hf.dim2index_lt hd)]
  exact ⟨blk.mesh.point2index hf j hj, blk.cells j hj⟩

/-! ## Extraction by region / by name, `region2slices` -/

/-- `mesh[region]` returns the smallest block of whole source cells containing the box: on
every axis the block is cells `i₁ … i₂` of the source (corners on source faces, same cell
size, `n = i₂ - i₁ + 1`), it contains `[item.lo, item.hi]`, and dropping its first or its last
layer of cells would uncover part of the box. -/
theorem getRegion_smallest (m : Mesh) (hm : m.Inv) (item : Region) (hbox : BoxIn m item) (g : Mesh)
    (h : getRegion m item = .ok g) :
    g.ndim = m.ndim ∧ g.region.dims = m.region.dims ∧ g.region.units = m.region.units ∧
    ∀ a, a < m.ndim →
      ∃ i1 i2 : Nat, i1 ≤ i2 ∧ i2 < m.nAt a ∧
        g.region.lo a = m.region.lo a + (i1 : Rat) * m.cellAt a ∧
        g.region.hi a = m.region.lo a + ((i2 : Rat) + 1) * m.cellAt a ∧
        g.nAt a = i2 - i1 + 1 ∧ g.cellAt a = m.cellAt a ∧
        g.region.lo a ≤ item.lo a ∧ item.hi a ≤ g.region.hi a ∧
        item.lo a < g.region.lo a + m.cellAt a ∧ g.region.hi a - m.cellAt a < item.hi a := by
  obtain ⟨bg, _, _, e9⟩ := getRegion_inv m hm item hbox g h
  refine ⟨bg.ndim, bg.dims, bg.units, ?_⟩
  intro a ha
  obtain ⟨hle, hlt, hU⟩ := e9 a ha
  have blk := bg.axis a ha
  obtain ⟨b1, b2, b3⟩ := hbox.2 a ha
  have hc := hm.cellAt_pos ha
  have hn := hm.nAt_pos ha
  have hhi := block_hi blk (by omega)
  have hcast : ((blockHi m item a - blockLo m item a + 1 : Nat) : Rat)
      = (blockHi m item a : Rat) - (blockLo m item a : Rat) + 1 := by
    push_cast [Nat.cast_sub hle]; ring
  have hcont := index_contains m a (item.lo a) hn (hm.lo_lt_hi ha) b1 (by linarith)
  have hub := upperIdx_bounds m a (item.hi a) hc
  have hUr : (upperIdx m a (item.hi a) : Rat) = (blockHi m item a : Rat) := by
    rw [hU]; push_cast; rfl
  rw [hUr] at hub
  have hhi' : g.region.hi a = m.region.lo a + ((blockHi m item a : Rat) + 1) * m.cellAt a := by
    rw [hhi, hcast]; ring
  refine ⟨blockLo m item a, blockHi m item a, hle, hlt, blk.lo, hhi', blk.n, blk.cell, ?_, ?_, ?_, ?_⟩
  · rw [blk.lo]; exact hcont.1
  · rw [hhi']; exact hub.2
  · rw [blk.lo]
    rcases hcont.2 with h2 | ⟨_, h2⟩
    · unfold blockLo; linarith
    · linarith
  · rw [hhi']; linarith [hub.1]

/-- For a vertex-aligned box the block is exactly the box. -/
theorem getRegion_aligned_exact (m : Mesh) (hm : m.Inv) (item : Region) (k1 k2 : Nat → Nat)
    (hal : SubAligned m item k1 k2) (g : Mesh) (h : getRegion m item = .ok g) :
    ∀ a, a < m.ndim → g.region.lo a = item.lo a ∧ g.region.hi a = item.hi a ∧ g.nAt a = k2 a - k1 a := by
  obtain ⟨bg, _⟩ := getRegion_inv m hm item (boxIn_of_aligned m hm item k1 k2 hal) g h
  intro a ha
  have blk := bg.axis a ha
  obtain ⟨t1, _, t3, t4⟩ := hal.2.2 a ha
  rw [blockLo_aligned m hm item k1 k2 hal a ha, blockHi_aligned m hm item k1 k2 hal a ha,
    show k2 a - 1 - k1 a + 1 = k2 a - k1 a by omega] at blk
  refine ⟨by rw [blk.lo, t3], ?_, blk.n⟩
  rw [block_hi blk (by omega), t4, Nat.cast_sub t1.le]; ring

/-- `field[region]`: the centre of every result cell lies in the source region, in the source
cell `i₁ + j`, and the result holds exactly that cell's value and validity. -/
theorem getitem_region_pointwise (f : Fld) (hf : FldWF f) (item : Region) (hbox : BoxIn f.mesh item)
    (g : Fld) (h : getItem f (.region item) = .ok g) :
    getRegion f.mesh item = .ok g.mesh ∧
    ∀ j, inRange g.mesh.n j = true →
      f.mesh.point2index (g.mesh.centre j)
        = .ok (tab f.mesh.ndim fun b => blockLo f.mesh item b + j.getD b 0) ∧
      g.data.get j = f.data.get (tab f.mesh.ndim fun b => blockLo f.mesh item b + j.getD b 0) ∧
      g.valid.get j = f.valid.get (tab f.mesh.ndim fun b => blockLo f.mesh item b + j.getD b 0) := by
  obtain ⟨hgm, blk⟩ := getItem_region_block f hf item hbox g h
  exact ⟨hgm, fun j hj => ⟨blk.mesh.point2index hf.1 j hj, blk.cells j hj⟩⟩

/-- `field[name]` for a subregion made of whole cells `k₁ … k₂-1`: the result mesh is the
subregion itself, and every result cell `j` holds value and validity of source cell `k₁ + j`,
the cell containing the result cell's centre. -/
theorem getitem_name_pointwise (f : Fld) (hf : FldWF f) (name : String) (s : Region)
    (hfind : findSub f.mesh.subs name = some s) (k1 k2 : Nat → Nat) (hal : SubAligned f.mesh s k1 k2)
    (g : Fld) (h : getItem f (.name name) = .ok g) :
    g.mesh.region = s ∧
    ∀ j, inRange g.mesh.n j = true →
      f.mesh.point2index (g.mesh.centre j) = .ok (tab f.mesh.ndim fun b => k1 b + j.getD b 0) ∧
      g.data.get j = f.data.get (tab f.mesh.ndim fun b => k1 b + j.getD b 0) ∧
      g.valid.get j = f.valid.get (tab f.mesh.ndim fun b => k1 b + j.getD b 0) := by
  obtain ⟨sm, _, _, hsm, _⟩ := (getItem_ok_iff f _ g).mp h
  have hsm' : getName f.mesh name = .ok sm := hsm
  obtain ⟨e0, e1, e2, e3⟩ := getName_inv f.mesh hf.1 name s hfind k1 k2 hal sm hsm'
  obtain ⟨r1, r2⟩ := getItem_block f hf (.name name) sm hsm e1 e2 k1 (fun b => k2 b - k1 b)
    (fun b hb => by have := (hal.2.2 b hb).1; omega) e3 g h
  exact ⟨by rw [r1]; exact e0, r2⟩

/-- A missing subregion name and a box that is not inside the region (beyond the region's
tolerance) are rejected. -/
theorem getitem_outside_rejected (f : Fld) (item : Item)
    (hout : (∃ n, item = .name n ∧ findSub f.mesh.subs n = none) ∨
      (∃ r, item = .region r ∧ f.mesh.region.containsReg r = false)) :
    (∃ e, getMesh f.mesh item = .error e) ∧ (∃ e, getItem f item = .error e) := by
  have key : ∃ e, getMesh f.mesh item = .error e := by
    rcases hout with ⟨n, hi, hn⟩ | ⟨r, hi, hr⟩
    · subst hi; exact ⟨.key, by show getName f.mesh n = _; unfold getName; rw [hn]⟩
    · subst hi; exact ⟨.value, by show getRegion f.mesh r = _; unfold getRegion; rw [hr]; rfl⟩
  obtain ⟨e, he⟩ := key
  exact ⟨⟨e, he⟩, ⟨e, getItem_error he⟩⟩

/-- `region2slices` of a sub-box made of whole cells `k₁ … k₂-1`: the slices are `k₁ : k₂`, and
these are exactly the cells whose centre lies in the box. -/
theorem region2slices_spec (m : Mesh) (hm : m.Inv) (r : Region) (k1 k2 : Nat → Nat)
    (hal : SubAligned m r k1 k2) :
    region2slices m r = .ok (tab m.ndim fun a => (k1 a, k2 a)) ∧
    ∀ a, a < m.ndim → ∀ i : Nat,
      (k1 a ≤ i ∧ i < k2 a) ↔ (r.lo a ≤ m.centreAx a (i : Int) ∧ m.centreAx a (i : Int) ≤ r.hi a) := by
  obtain ⟨s1, _, s3⟩ := hal
  constructor
  · -- the two test points are the centres of the cells `k₁` and `k₂ - 1`
    have e1 : (tab m.ndim fun a => r.lo a + m.cellAt a / 2) = tab m.ndim fun a => m.centreAx a ((k1 a : Nat) : Int) :=
      tab_congr _ _ _ fun a ha => by rw [(s3 a ha).2.2.1, C01.centreAx_natCast]; ring
    have e2 : (tab m.ndim fun a => r.hi a - m.cellAt a / 2)
        = tab m.ndim fun a => m.centreAx a ((k2 a - 1 : Nat) : Int) :=
      tab_congr _ _ _ fun a ha => by
        obtain ⟨t1, _, _, t4⟩ := s3 a ha
        rw [t4, C01.centreAx_natCast, Nat.cast_sub (by omega), Nat.cast_one]; ring
    unfold region2slices
    rw [if_neg (not_not.mpr s1), e1, e2,
      C01.point2index_centres m hm k1 (fun a ha => by have := s3 a ha; omega),
      C01.point2index_centres m hm _ (fun a ha => by have := s3 a ha; omega)]
    exact congrArg _ (tab_congr _ _ _ fun a ha => by
      rw [getD_tab _ _ _ _ ha, getD_tab _ _ _ _ ha, Nat.sub_add_cancel (by have := s3 a ha; omega)])
  · intro a ha i
    obtain ⟨_, _, t3, t4⟩ := s3 a ha
    rw [C01.centreAx_natCast, t3, t4]
    exact (centre_between_faces (hm.cellAt_pos ha) i (k1 a) (k2 a)).symm

/-! ## Padding -/

/-- `Mesh.pad` adds exactly the requested number of cells per side: `n' = n + L + H` on every
axis (`L`, `H` the widths requested for that axis, 0 if not named), the corners move by whole
cells, the cell size, names, units and tolerance are kept, the boundary condition is kept. -/
theorem pad_counts (m : Mesh) (hm : m.Inv) (pw : List PadW)
    (hL : ∀ b, b < m.ndim → 0 ≤ sumW m (·.lo) pw b) (hH : ∀ b, b < m.ndim → 0 ≤ sumW m (·.hi) pw b)
    (g : Mesh) (h : padMesh m pw = .ok g) :
    g.ndim = m.ndim ∧ g.region.dims = m.region.dims ∧ g.region.units = m.region.units ∧
    g.region.tol = m.region.tol ∧ g.bc = m.bc.toLower ∧
    ∀ b, b < m.ndim →
      g.nAt b = m.nAt b + (sumW m (·.lo) pw b).toNat + (sumW m (·.hi) pw b).toNat ∧
      g.region.lo b = m.region.lo b - ((sumW m (·.lo) pw b).toNat : Rat) * m.cellAt b ∧
      g.region.hi b = m.region.hi b + ((sumW m (·.hi) pw b).toNat : Rat) * m.cellAt b ∧
      g.cellAt b = m.cellAt b := by
  have pg := padMesh_inv m hm pw hL hH g h
  exact ⟨pg.ndim, pg.dims, pg.units, pg.tol, pg.bc, fun b hb =>
    ⟨pg.nAt b hb, pg.lo b hb, pg.hi b hb, (pg.source b hb).cell.symm⟩⟩

/-- `Field.pad` pads data and validity by the same widths as the mesh, with the index map of
the chosen mode; cells that hit the constant fill get zeros / `False`. -/
theorem pad_rule (f : Fld) (hf : FldWF f) (pw : List PadW) (hnd : (pw.map (·.dim)).Nodup)
    (mode : PadMode) (g : Fld) (h : padFld f pw mode = .ok g) (j : List Nat) :
    padMesh f.mesh pw = .ok g.mesh ∧
    g.data.get j = (match padSrcIdx mode f.mesh.n
        (fun b => (sumW f.mesh (·.lo) pw b, sumW f.mesh (·.hi) pw b)) j with
      | some i => f.data.get i
      | none => List.replicate f.nvdim 0) ∧
    g.valid.get j = (match padSrcIdx mode f.mesh.n
        (fun b => (sumW f.mesh (·.lo) pw b, sumW f.mesh (·.hi) pw b)) j with
      | some i => f.valid.get i
      | none => false) :=
  ⟨(padFld_inv f pw hnd mode g h).1, pad_get f hf pw hnd mode g h j⟩

/-- Cells of the padded field whose centre lies inside the source: the centre of result cell
`j` is the centre of source cell `j - L`, and the result holds that cell's value and validity —
whatever the mode. -/
theorem pad_inside_pointwise (f : Fld) (hf : FldWF f) (pw : List PadW) (hnd : (pw.map (·.dim)).Nodup)
    (mode : PadMode) (g : Fld) (h : padFld f pw mode = .ok g) (j : List Nat)
    (hin : ∀ b, b < f.mesh.ndim →
      (sumW f.mesh (·.lo) pw b).toNat ≤ j.getD b 0 ∧
      j.getD b 0 < (sumW f.mesh (·.lo) pw b).toNat + f.mesh.nAt b) :
    f.mesh.point2index (g.mesh.centre j)
      = .ok (tab f.mesh.ndim fun b => j.getD b 0 - (sumW f.mesh (·.lo) pw b).toNat) ∧
    g.data.get j = f.data.get (tab f.mesh.ndim fun b => j.getD b 0 - (sumW f.mesh (·.lo) pw b).toNat) ∧
    g.valid.get j = f.valid.get (tab f.mesh.ndim fun b => j.getD b 0 - (sumW f.mesh (·.lo) pw b).toNat) := by
  obtain ⟨p1, p2, _, _⟩ := padFld_inv f pw hnd mode g h
  have pg := padMesh_inv f.mesh hf.1 pw (fun b _ => (p2 b).1) (fun b _ => (p2 b).2) g.mesh p1
  refine ⟨?_, pad_pointwise_axes f hf pw hnd mode g h j _ fun b hb =>
    padSrc_inside mode _ _ _ (hin b hb).1 (hin b hb).2⟩
  -- the centre of padded cell `j` is the centre of source cell `j - L`
  have hcen : g.mesh.centre j = tab f.mesh.ndim fun b =>
      f.mesh.centreAx b ((j.getD b 0 - (sumW f.mesh (·.lo) pw b).toNat : Nat) : Int) := by
    unfold Mesh.centre
    rw [pg.ndim]
    exact tab_congr _ _ _ fun b hb => by
      rw [block_centre (pg.source b hb) (j.getD b 0 - (sumW f.mesh (·.lo) pw b).toNat),
        Nat.add_sub_cancel' (hin b hb).1]
  rw [hcen]
  exact C01.point2index_centres f.mesh hf.1 _ fun b hb => by have := hin b hb; omega

/-- mode `constant`: a position outside the source takes the fill value -/
theorem padSrc_constant (n lo j : Nat) (hout : ¬ (lo ≤ j ∧ j < lo + n)) :
    padSrc .constant n lo j = none := by
  unfold padSrc; rw [if_neg hout]

/-- mode `edge`: a position outside the source takes the nearest source cell -/
theorem padSrc_edge (n lo j : Nat) (hout : ¬ (lo ≤ j ∧ j < lo + n)) :
    padSrc .edge n lo j = some (if j < lo then 0 else n - 1) := by
  unfold padSrc; rw [if_neg hout]
  simp only
  split <;> rfl

/-- mode `wrap` is the periodic continuation: the source cell `i` used at position `j` differs
from `j - lo` by a whole number of periods `n` — in physical terms the two cell centres are a
whole number of edge lengths apart. -/
theorem padSrc_wrap (n lo j : Nat) (hn : 0 < n) :
    ∃ i, padSrc .wrap n lo j = some i ∧ i < n ∧ ∃ k : Int, (j : Int) - (lo : Int) = (i : Int) + k * (n : Int) := by
  by_cases hin : lo ≤ j ∧ j < lo + n
  · exact ⟨j - lo, padSrc_inside _ _ _ _ hin.1 hin.2, by omega, 0, by omega⟩
  · obtain ⟨h0, h1, hd⟩ := emod_rep ((j : Int) - (lo : Int)) (n : Int) (by omega)
    exact ⟨_, by unfold padSrc; rw [if_neg hin], by omega, _, by rw [Int.toNat_of_nonneg h0]; exact hd⟩

/-- mode `symmetric` is the mirror continuation about the boundary faces: position `j` shows
source cell `i` where either `j - lo = i` modulo `2n` (even image) or `j - lo = -1 - i` modulo
`2n` (mirror image: the two cell centres are symmetric about a face `lo + K·n`). -/
theorem padSrc_symmetric (n lo j : Nat) (hn : 0 < n) :
    ∃ i, padSrc .symmetric n lo j = some i ∧ i < n ∧
      ∃ k : Int, (j : Int) - (lo : Int) = (i : Int) + k * (2 * (n : Int)) ∨
                 (j : Int) - (lo : Int) = -1 - (i : Int) + k * (2 * (n : Int)) := by
  by_cases hin : lo ≤ j ∧ j < lo + n
  · exact ⟨j - lo, padSrc_inside _ _ _ _ hin.1 hin.2, by omega, 0, Or.inl (by omega)⟩
  · obtain ⟨h0, h1, hd⟩ := emod_rep ((j : Int) - (lo : Int)) (2 * (n : Int)) (by omega)
    by_cases hlt : (((j : Int) - (lo : Int)) % (2 * (n : Int))) < (n : Int)
    · exact ⟨_, by unfold padSrc; rw [if_neg hin]; simp only; rw [if_pos hlt], by omega, _,
        Or.inl (by rw [Int.toNat_of_nonneg h0]; exact hd)⟩
    · exact ⟨_, by unfold padSrc; rw [if_neg hin]; simp only; rw [if_neg hlt], by omega,
        ((j : Int) - (lo : Int)) / (2 * (n : Int)) + 1, Or.inr (by rw [Int.toNat_of_nonneg (by omega)]; linarith only [hd])⟩

/-- mode `reflect` is the mirror continuation about the centres of the boundary cells: period
`2n - 2`, `j - lo = ± i` modulo the period (for a single-cell axis numpy repeats the cell). -/
theorem padSrc_reflect (n lo j : Nat) (hn : 2 ≤ n) :
    ∃ i, padSrc .reflect n lo j = some i ∧ i < n ∧
      ∃ k : Int, (j : Int) - (lo : Int) = (i : Int) + k * (2 * (n : Int) - 2) ∨
                 (j : Int) - (lo : Int) = -(i : Int) + k * (2 * (n : Int) - 2) := by
  by_cases hin : lo ≤ j ∧ j < lo + n
  · exact ⟨j - lo, padSrc_inside _ _ _ _ hin.1 hin.2, by omega, 0, Or.inl (by omega)⟩
  · obtain ⟨h0, h1, hd⟩ := emod_rep ((j : Int) - (lo : Int)) (2 * (n : Int) - 2) (by omega)
    have hn1 : ¬ n = 1 := by omega
    by_cases hlt : (((j : Int) - (lo : Int)) % (2 * (n : Int) - 2)) < (n : Int)
    · exact ⟨_, by unfold padSrc; rw [if_neg hin]; simp only; rw [if_neg hn1, if_pos hlt], by omega, _,
        Or.inl (by rw [Int.toNat_of_nonneg h0]; exact hd)⟩
    · exact ⟨_, by unfold padSrc; rw [if_neg hin]; simp only; rw [if_neg hn1, if_neg hlt], by omega,
        ((j : Int) - (lo : Int)) / (2 * (n : Int) - 2) + 1, Or.inr (by rw [Int.toNat_of_nonneg (by omega)]; linarith only [hd])⟩

/-- The index statement of `padSrc_wrap` in physical terms: if source cell `i` is shown at
position `j` of an axis padded by `L` cells in front, with `j - L = i + k·n`, then the two cell
centres are exactly `k` edge lengths apart. -/
theorem pad_wrap_physical (f g : Mesh) (b L : Nat) (hn : 0 < f.nAt b)
    (blk : AxisBlock f g b b L (f.nAt b)) (i j : Nat) (k : Int)
    (hk : (j : Int) - (L : Int) = (i : Int) + k * (f.nAt b : Int)) :
    g.centreAx b (j : Int) = f.centreAx b (i : Int) + (k : Rat) * (f.region.hi b - f.region.lo b) := by
  have hj : (j : Rat) = (L : Rat) + (i : Rat) + (k : Rat) * (f.nAt b : Rat) := by
    have : (j : Int) = (L : Int) + (i : Int) + k * (f.nAt b : Int) := by omega
    exact_mod_cast this
  rw [← C01.cellAt_cover f b hn, C01.centreAx_natCast, C01.centreAx_natCast, blk.lo, ← blk.cell, hj]; ring

/-! ## Resampling -/

/-- `Field.resample n` keeps the region (corners, names, units, tolerance) and has exactly the
requested cell counts. -/
theorem resample_region (f : Fld) (n : List Int) (g : Fld) (h : resample f n = .ok g) :
    g.mesh.region = f.mesh.region ∧ g.mesh.n = n.map Int.toNat ∧ n.length = f.mesh.ndim ∧
    (∀ k, k ∈ n → 0 < k) := by
  obtain ⟨h1, h2, _, _, rfl⟩ := (resample_ok_iff' f n g).mp h
  exact ⟨rfl, rfl, h1, h2⟩

/-- Nearest-cell resampling is point sampling: the centre of every result cell lies in the
source region, and the result holds value and validity of the source cell containing that
centre (the lookup of the nearest source centre finds exactly that cell). -/
theorem resample_pointwise (f : Fld) (hf : FldWF f) (n : List Int) (g : Fld) (h : resample f n = .ok g) :
    ∀ j, inRange g.mesh.n j = true →
      f.mesh.point2index (g.mesh.centre j)
        = .ok (tab f.mesh.ndim fun b => f.mesh.indexAx b (g.mesh.centreAx b ((j.getD b 0 : Nat) : Int))) ∧
      g.data.get j = f.data.get
        (tab f.mesh.ndim fun b => f.mesh.indexAx b (g.mesh.centreAx b ((j.getD b 0 : Nat) : Int))) ∧
      g.valid.get j = f.valid.get
        (tab f.mesh.ndim fun b => f.mesh.indexAx b (g.mesh.centreAx b ((j.getD b 0 : Nat) : Int))) := by
  obtain ⟨gwf, mg, sg⟩ := resample_shows f hf n g h
  intro j hj
  have hp := regrid_point2index f.mesh g.mesh hf.1 gwf.1 (by rw [mg]; rfl) j hj
  -- `point2index` returns the indices of the coordinates of the centre: they are `rsIdx`
  obtain ⟨_, _, hi⟩ := (C01.point2index_ok_iff_containsPt f.mesh _ _).mp hp
  have hgn : g.mesh.ndim = f.mesh.ndim := by rw [mg]; rfl
  rw [show (tab f.mesh.ndim fun b => f.mesh.indexAx b (g.mesh.centreAx b ((j.getD b 0 : Nat) : Int)))
      = rsIdx f.mesh g.mesh j from (tab_congr _ _ _ fun b hb => by rw [C01.centre_getD g.mesh b j (hgn ▸ hb)]).symm.trans hi.symm]
  exact ⟨hp, (sg j hj).2⟩

/-- Resampling to the same cell counts returns the same field: same region, same counts, and
every cell keeps its value and validity. -/
theorem resample_id (f : Fld) (hf : FldWF f) (g : Fld)
    (h : resample f (f.mesh.n.map Int.ofNat) = .ok g) :
    g.mesh.region = f.mesh.region ∧ g.mesh.n = f.mesh.n ∧
    ∀ j, inRange f.mesh.n j = true → g.data.get j = f.data.get j ∧ g.valid.get j = f.valid.get j := by
  obtain ⟨_, mg, sg⟩ := resample_shows f hf _ g h
  have hn : g.mesh.n = f.mesh.n := by
    rw [mg]; show (f.mesh.n.map Int.ofNat).map Int.toNat = _
    rw [List.map_map]; exact (List.map_congr_left fun k _ => Int.toNat_natCast k).trans (List.map_id _)
  refine ⟨by rw [mg]; rfl, hn, fun j hj => ?_⟩
  obtain ⟨_, p2, p3⟩ := sg j (hn ▸ hj)
  -- on equal counts the source cell of `j` is `j`
  have hidx : rsIdx f.mesh g.mesh j = j :=
    (eq_tab_of_getD _ _ _ 0 (by rw [inRange_length _ _ hj, hf.1.n_length]) fun b hb => by
      show _ = ((2 * j.getD b 0 + 1) * f.mesh.nAt b) / (2 * g.mesh.nAt b)
      have hnb : g.mesh.nAt b = f.mesh.nAt b := by rw [nAt_def, nAt_def, hn]
      have := refine_div (j.getD b 0) _ 1 Nat.one_pos (hf.1.nAt_pos hb)
      rw [Nat.one_mul, Nat.div_one] at this
      rw [hnb, this]).symm
  rw [hidx] at p2 p3
  exact ⟨p2, p3⟩

/-- Malformed target resolutions (wrong number of entries, a zero or negative count) are rejected. -/
theorem resample_rejects (f : Fld) (n : List Int)
    (hbad : n.length ≠ f.mesh.ndim ∨ ∃ k, k ∈ n ∧ k ≤ 0) : ∃ e, resample f n = .error e :=
  err_of_not_ok _ fun g hg => by
    obtain ⟨h1, h2, _⟩ := (resample_ok_iff' f n g).mp hg
    rcases hbad with h | ⟨k, hk, hk0⟩
    · exact h h1
    · exact absurd (h2 k hk) (by omega)

/-! ## In-region requests are accepted (exact arithmetic, meshes without subregions) -/

/-- Every coordinate inside the region selects a plane: `Mesh.sel` returns the mesh with the
axis removed and `Field.sel` returns a field on it. -/
theorem sel_plane_accepts (f : Fld) (hf : FldWF f) (hmeta : metaOk f = true) (hs : f.mesh.subs = [])
    (h2 : 2 ≤ f.mesh.ndim) (dim : String) (a : Nat) (hd : f.mesh.region.dim2index dim = .ok a) (x : Rat)
    (h1 : f.mesh.region.lo a ≤ x) (hx2 : x ≤ f.mesh.region.hi a) :
    selMesh f.mesh dim (.point x) = .ok (planeOf f.mesh a) ∧
    ∃ g, selFld f dim (.point x) = .ok (.field g) := by
  obtain ⟨hinv, hds, hvs⟩ := hf
  have hconv := (selConvert_point f.mesh hinv dim a hd x h1 hx2).1
  have hmesh : selMesh f.mesh dim (.point x) = .ok (planeOf f.mesh a) := by
    rw [selMesh_of_convert hconv]; exact selPlaneMesh_ok f.mesh hinv hs a (hinv.dim2index_lt hd) h2 _
  exact ⟨hmesh, selFld_ok f dim _ a _ _ hconv hmesh (congrArg (removeAt · a) hds)
    (congrArg (removeAt · a) hvs) hmeta⟩

/-- In-region plane selections are accepted on meshes WITH subregions too, as long as the
subregions consist of whole cells (which the subregion setter of the mesh enforces): `Mesh.sel`
and `Field.sel` succeed for every coordinate inside the region — the re-built mesh passes the
subregion setter's three tests (inside the region, cell size divides, faces aligned) for every
surviving subregion. -/
theorem sel_plane_accepts_subs (f : Fld) (hf : FldWF f) (hmeta : metaOk f = true)
    (hsubs : ∀ p, p ∈ f.mesh.subs → ∃ k1 k2, SubAligned f.mesh p.2 k1 k2) (h2 : 2 ≤ f.mesh.ndim)
    (dim : String) (a : Nat) (hd : f.mesh.region.dim2index dim = .ok a) (x : Rat)
    (h1 : f.mesh.region.lo a ≤ x) (hx2 : x ≤ f.mesh.region.hi a) :
    (∃ g, selMesh f.mesh dim (.point x) = .ok g) ∧ ∃ g, selFld f dim (.point x) = .ok (.field g) := by
  obtain ⟨hinv, hds, hvs⟩ := hf
  have hconv := (selConvert_point f.mesh hinv dim a hd x h1 hx2).1
  have hmesh : selMesh f.mesh dim (.point x)
      = selPlaneMesh f.mesh a (f.mesh.centreAx a ((f.mesh.indexAx a x : Nat) : Int)) :=
    selMesh_of_convert hconv
  rw [selPlaneMesh_ok_subs f.mesh hinv a (hinv.dim2index_lt hd) h2 _ hsubs] at hmesh
  exact ⟨⟨_, hmesh⟩, selFld_ok f dim _ a _ _ hconv hmesh (congrArg (removeAt · a) hds)
    (congrArg (removeAt · a) hvs) hmeta⟩

/-- In-region range selections are accepted on meshes with subregions made of whole cells. -/
theorem sel_range_accepts_subs (f : Fld) (hf : FldWF f) (hmeta : metaOk f = true)
    (hsubs : ∀ p, p ∈ f.mesh.subs → ∃ k1 k2, SubAligned f.mesh p.2 k1 k2)
    (dim : String) (a : Nat) (hd : f.mesh.region.dim2index dim = .ok a) (x y : Rat)
    (h1 : f.mesh.region.lo a ≤ min x y) (h2 : max x y ≤ f.mesh.region.hi a) :
    (∃ g, selMesh f.mesh dim (.range x y) = .ok g) ∧ ∃ g, selFld f dim (.range x y) = .ok (.field g) := by
  obtain ⟨hinv, hds, hvs⟩ := hf
  obtain ⟨hconv, hk, hk2⟩ := selConvert_range f.mesh hinv dim a hd x y h1 h2
  obtain ⟨gm, hgm, hgn⟩ := selRangeMesh_ok_subs f.mesh hinv a (hinv.dim2index_lt hd) _ _ hk hk2 hsubs
  have hmesh : selMesh f.mesh dim (.range x y) = .ok gm := by
    rw [selMesh_of_convert hconv]; exact hgm
  have hsh : f.mesh.indexAx a (max x y) + 1 - f.mesh.indexAx a (min x y)
      = f.mesh.indexAx a (max x y) - f.mesh.indexAx a (min x y) + 1 := by omega
  exact ⟨⟨gm, hmesh⟩, selFld_ok f dim _ a _ gm hconv hmesh
    (by show setAt f.data.shape a _ = gm.n; rw [hgn, hds, hsh])
    (by show setAt f.valid.shape a _ = gm.n; rw [hgn, hvs, hsh]) hmeta⟩

/-- Every range inside the region (bounds in either order) is accepted by `Mesh.sel` and
`Field.sel`. -/
theorem sel_range_accepts (f : Fld) (hf : FldWF f) (hmeta : metaOk f = true) (hs : f.mesh.subs = [])
    (dim : String) (a : Nat) (hd : f.mesh.region.dim2index dim = .ok a) (x y : Rat)
    (h1 : f.mesh.region.lo a ≤ min x y) (h2 : max x y ≤ f.mesh.region.hi a) :
    (∃ g, selMesh f.mesh dim (.range x y) = .ok g) ∧ ∃ g, selFld f dim (.range x y) = .ok (.field g) :=
  sel_range_accepts_subs f hf hmeta (fun p hp => by rw [hs] at hp; cases hp) dim a hd x y h1 h2

/-- Every box inside the region is accepted by `mesh[region]` and `field[region]`. -/
theorem getitem_region_accepts (f : Fld) (hf : FldWF f) (hmeta : metaOk f = true) (item : Region)
    (hbox : BoxIn f.mesh item) (hpm : item.pmax.length = f.mesh.ndim) :
    (∃ g, getRegion f.mesh item = .ok g) ∧ ∃ g, getItem f (.region item) = .ok g := by
  obtain ⟨sm, hsm, hsn⟩ := getRegion_ok f.mesh hf.1 item hbox hpm
  obtain ⟨bg, _⟩ := getRegion_inv f.mesh hf.1 item hbox sm hsm
  exact ⟨⟨sm, hsm⟩, getItem_ok_of_block f hf (.region item) sm hsm bg.ndim (blockLo f.mesh item)
    (fun b => blockHi f.mesh item b - blockLo f.mesh item b + 1) bg.pos bg.axis hsn hmeta⟩

/-- Every subregion made of whole cells is accepted by `mesh[name]` and `field[name]`. -/
theorem getitem_name_accepts (f : Fld) (hf : FldWF f) (hmeta : metaOk f = true) (name : String) (s : Region)
    (hfind : findSub f.mesh.subs name = some s) (k1 k2 : Nat → Nat) (hal : SubAligned f.mesh s k1 k2) :
    (∃ g, getName f.mesh name = .ok g) ∧ ∃ g, getItem f (.name name) = .ok g := by
  obtain ⟨sm, hsm, hsn⟩ := getName_ok f.mesh hf.1 name s hfind k1 k2 hal
  obtain ⟨_, e1, _, e3⟩ := getName_inv f.mesh hf.1 name s hfind k1 k2 hal sm hsm
  exact ⟨⟨sm, hsm⟩, getItem_ok_of_block f hf (.name name) sm hsm e1 k1 (fun b => k2 b - k1 b)
    (fun b hb => by have := (hal.2.2 b hb).1; omega) e3 hsn hmeta⟩

/-- Non-negative pad widths on existing axes are accepted by `Mesh.pad` and `Field.pad`, in
every mode. -/
theorem pad_accepts (f : Fld) (hf : FldWF f) (hmeta : metaOk f = true) (pw : List PadW)
    (hnd : (pw.map (·.dim)).Nodup)
    (hdims : ∀ w, w ∈ pw → ∃ a, f.mesh.region.dim2index w.dim = .ok a)
    (hpos : ∀ w, w ∈ pw → 0 ≤ w.lo ∧ 0 ≤ w.hi)
    (hbc : Mesh.bcOk f.mesh.region.dims f.mesh.bc.toLower = true) (mode : PadMode) :
    (∃ g, padMesh f.mesh pw = .ok g) ∧ ∃ g, padFld f pw mode = .ok g := by
  obtain ⟨hinv, hds, hvs⟩ := hf
  obtain ⟨gm, hgm, hgn⟩ := padMesh_ok f.mesh hinv pw hdims
    (fun b _ => sumW_nonneg _ _ _ (fun w hw => (hpos w hw).1) b) (fun b _ => sumW_nonneg _ _ _ (fun w hw => (hpos w hw).2) b) hbc
  obtain ⟨d, hd, hmem⟩ := padAxes_ok f.mesh pw hdims
  have hw : widthOf d = fun b => (sumW f.mesh (·.lo) pw b, sumW f.mesh (·.hi) pw b) :=
    funext (widthOf_eq_sumW f.mesh pw d hnd hd)
  have hneg : (d.any fun e => decide (e.2.1 < 0) || decide (e.2.2 < 0)) = false :=
    List.any_eq_false.mpr fun e he => by
      obtain ⟨w, hw', e'⟩ := hmem e he
      have := hpos w hw'
      simp [e']; omega
  -- the padded arrays have the shape of the padded mesh
  have hsh : ∀ (sh : List Nat), sh = f.mesh.n →
      (tab sh.length fun b => sh.getD b 0 + ((widthOf d) b).1.toNat + ((widthOf d) b).2.toNat) = gm.n := fun sh hsh => by
    rw [hgn, hsh, hw, hinv.n_length]; rfl
  obtain ⟨g, hg⟩ := mkFld_ok gm f (padNDA mode (widthOf d) (List.replicate f.nvdim 0) f.data)
    (padNDA mode (widthOf d) false f.valid) (hsh _ hds) (hsh _ hvs) hmeta
  exact ⟨⟨gm, hgm⟩, g, (padFld_ok_iff f pw mode g).mpr ⟨d, gm, hd, hneg, hgm, hg⟩⟩

/-- Every list of positive cell counts of the right length is accepted by `Field.resample`. -/
theorem resample_accepts (f : Fld) (hf : f.mesh.Inv) (hmeta : metaOk f = true) (n : List Int)
    (hl : n.length = f.mesh.ndim)
    (hpos : ∀ k, k ∈ n → 0 < k) : ∃ g, resample f n = .ok g :=
  resample_ok f hf hmeta n hl hpos

/-! ## Metadata, well-formedness, subregions/boundary condition of the result mesh, histories -/

/-- Metadata rule of every field operation of the property (`Field.sel` with a plane, the
centre or a range, `field[region]`, `field[name]`, `Field.pad`, `Field.resample`): the result
lives on exactly the mesh the mesh-level operation returns (`Mesh.sel`, `mesh[item]`, `Mesh.pad`,
`Mesh(region, n)`); component count and unit are those of the source; labels and mapping are
what the two constructor setters make of the source's labels and mapping; value array and
validity mask have the shape of the result mesh. -/
theorem op_meta (f : Fld) (op : FOp) (g : Fld) (h : applyOp f op = .ok g) :
    applyMeshOp f.mesh op = .ok g.mesh ∧
    g.nvdim = f.nvdim ∧ g.unit = f.unit ∧ ctorMeta f = .ok (g.vdims, g.vmap) ∧
    g.data.shape = g.mesh.n ∧ g.valid.shape = g.mesh.n := by
  obtain ⟨m, d, v, hm, hc⟩ := applyOp_ctor f op g h
  obtain ⟨q1, q2, q3, q4, q5, q6, q7, q8⟩ := mkFld_inv _ _ _ _ _ hc
  exact ⟨by rw [q1]; exact hm, q6, q7, q8, by rw [q2, q1]; exact q4, by rw [q3, q1]; exact q5⟩

/-- The setters spelled out.  Labels: a labelled source hands its labels through; a source
without labels gets the default labels of its component count (none for a scalar field, `x y z`
up to three components, `v0 v1 …` beyond).  Mapping: handed through as it is — after a plane
selection it still names the removed axis — except that the one-entry mapping of an unlabelled
scalar field is dropped; a non-empty mapping is only accepted if its keys are exactly the labels. -/
theorem op_labels_rule (f : Fld) (op : FOp) (g : Fld) (h : applyOp f op = .ok g) :
    ((f.vdims = none ∧ g.vdims = Fld.defaultVdims f.nvdim) ∨ (f.vdims = some [] ∧ g.vdims = none) ∨
      (∃ x l, f.vdims = some (x :: l) ∧ g.vdims = f.vdims ∧ (x :: l).length = f.nvdim ∧
        hasDup (x :: l) = false)) ∧
    ((f.vmap.length = 1 ∧ f.nvdim = 1 ∧ g.vdims = none ∧ g.vmap = []) ∨
      (g.vmap = f.vmap ∧ (f.vmap = [] ∨ ∃ l, g.vdims = some l ∧ (f.vmap.map (·.1)).isPerm l = true))) := by
  obtain ⟨_, _, _, hmeta, _, _⟩ := op_meta f op g h
  obtain ⟨h1, h2⟩ := (ctorMeta_ok_iff f _ _).mp hmeta
  exact ⟨ctorVdims_rule _ _ _ h1, ctorVmap_rule _ _ _ _ h2⟩

/-- For a field in constructor state (labels and mapping as `Field(...)` leaves them) every
operation hands labels and mapping through unchanged, and the result is again in constructor
state. -/
theorem op_meta_passthrough (f : Fld) (hf : MetaInv f) (op : FOp) (g : Fld) (h : applyOp f op = .ok g) :
    g.vdims = f.vdims ∧ g.vmap = f.vmap ∧ MetaInv g := by
  obtain ⟨_, hn, _, hmeta, _, _⟩ := op_meta f op g h
  unfold MetaInv at hf
  rw [hf] at hmeta
  injection hmeta with hmeta
  injection hmeta with h1 h2
  refine ⟨h1.symm, h2.symm, ?_⟩
  unfold MetaInv ctorMeta
  rw [hn, ← h1, ← h2]
  exact hf

/-- A field whose labels / mapping the constructor setters refuse (e.g. the state left by
`field.vdims = []` on a labelled vector field with a mapping: no labels, mapping keys are the
old labels) is refused by every operation, whatever the request. -/
theorem op_rejects_bad_meta (f : Fld) (hbad : metaOk f = false) (op : FOp) :
    ∃ e, applyOp f op = .error e := by
  cases h : applyOp f op with
  | error e => exact ⟨e, rfl⟩
  | ok g =>
    obtain ⟨_, _, _, hmeta, _, _⟩ := op_meta f op g h
    rw [(metaOk_of_eq f _ hmeta).1] at hbad
    cases hbad

/-- Invariant over histories: after any sequence of operations on a field in constructor state,
component count, unit, labels and mapping are those of the original field, the field is again in
constructor state, and its arrays have the shape of its mesh (given that of the start field). -/
theorem history_meta (ops : List FOp) (f : Fld) (hf : MetaInv f)
    (hs : f.data.shape = f.mesh.n ∧ f.valid.shape = f.mesh.n) (g : Fld) (h : runOps f ops = .ok g) :
    g.nvdim = f.nvdim ∧ g.unit = f.unit ∧ g.vdims = f.vdims ∧ g.vmap = f.vmap ∧ MetaInv g ∧
    g.data.shape = g.mesh.n ∧ g.valid.shape = g.mesh.n := by
  induction ops generalizing f with
  | nil =>
    unfold runOps at h
    injection h with h
    subst h
    exact ⟨rfl, rfl, rfl, rfl, hf, hs.1, hs.2⟩
  | cons op rest ih =>
    obtain ⟨g1, hg1, h⟩ := (runOps_cons f op rest g).mp h
    obtain ⟨_, a1, a2, _, a5, a6⟩ := op_meta f op g1 hg1
    obtain ⟨b1, b2, b3⟩ := op_meta_passthrough f hf op g1 hg1
    obtain ⟨c1, c2, c3, c4, c5, c6, c7⟩ := ih g1 b3 ⟨a5, a6⟩ h
    exact ⟨by rw [c1, a1], by rw [c2, a2], by rw [c3, b1], by rw [c4, b2], c5, c6, c7⟩

/-- Without the constructor-state assumption on the start field: one operation puts the field
in constructor state (for a field with at least one component and no empty label list), so after
any non-empty history labels and mapping are what the setters made of the original ones. -/
theorem history_meta_first (op : FOp) (ops : List FOp) (f : Fld) (hk : f.nvdim ≠ 0)
    (hne : f.vdims ≠ some []) (g : Fld) (h : runOps f (op :: ops) = .ok g) :
    g.nvdim = f.nvdim ∧ g.unit = f.unit ∧ ctorMeta f = .ok (g.vdims, g.vmap) ∧ MetaInv g ∧
    g.data.shape = g.mesh.n ∧ g.valid.shape = g.mesh.n := by
  obtain ⟨g1, hg1, h⟩ := (runOps_cons f op ops g).mp h
  obtain ⟨_, a1, a2, a3, a5, a6⟩ := op_meta f op g1 hg1
  have hinv : MetaInv g1 := ctorMeta_idem f g1 hk hne a3 a1
  obtain ⟨c1, c2, c3, c4, c5, c6, c7⟩ := history_meta ops g1 hinv ⟨a5, a6⟩ g h
  exact ⟨by rw [c1, a1], by rw [c2, a2], by rw [c3, c4]; exact a3, c5, c6, c7⟩

/-- Element type of the result's value array: `sel`, `__getitem__` and `pad` never return a
boolean or integer array (they promote to `float64`, complex stays complex); `resample` keeps
the kind; applying an operation of the same family again does not change the kind any more. -/
theorem result_kind (op : OpFam) (k : DKind) :
    resultKind op (resultKind op k) = resultKind op k ∧
    (op ≠ .resample → resultKind op k ≠ .bool ∧ resultKind op k ≠ .int ∧
      (k = .complex ↔ resultKind op k = .complex)) ∧
    (op = .resample → resultKind op k = k) := by
  -- finite check: 4 × 4 cases by evaluation
  cases op <;> cases k <;> simp [resultKind, asArrayKind]

/-- What the operations do with subregions and boundary condition of the mesh (following the
code): `field[item]`, `pad` and `resample` return a field on a mesh WITHOUT subregions; the
boundary condition survives only `pad`; `sel` keeps (clipped) subregions — see `sel_plane_subs`,
`sel_range_subs` — but drops the boundary condition. -/
theorem op_subs_bc (f : Fld) (op : FOp) (g : Fld) (h : applyOp f op = .ok g) :
    (∀ item, op = .get item → g.mesh.subs = [] ∧ g.mesh.bc = "") ∧
    (∀ pw mode, op = .pad pw mode → g.mesh.subs = [] ∧ g.mesh.bc = f.mesh.bc.toLower) ∧
    (∀ n, op = .resample n → g.mesh.subs = [] ∧ g.mesh.bc = "") ∧
    (∀ dim arg, op = .sel dim arg → g.mesh.bc = "") := by
  obtain ⟨hm, _⟩ := op_meta f op g h
  refine ⟨?_, ?_, ?_, ?_⟩
  · intro item ho; subst ho
    exact getMesh_bare f.mesh item g.mesh hm
  · intro pw mode ho; subst ho
    exact padMesh_bare f.mesh pw g.mesh hm
  · intro n ho; subst ho
    obtain ⟨_, _, _, e⟩ := (C01.mkN_ok_iff' _ _ _ _).mp hm
    rw [e]; exact ⟨rfl, C01.toLower_empty⟩
  · intro dim arg ho; subst ho
    exact selMesh_bc f.mesh dim arg g.mesh hm

/-- Every operation returns a well-formed field: its mesh satisfies the mesh invariant (positive
dimension, ordered corners, names/units/counts of matching length, at least one cell per axis)
and value array and mask have the shape of that mesh — so the pointwise theorems of this file
chain along histories. -/
theorem op_wf (f : Fld) (hf : FldWF f) (op : FOp) (hside : OpSide f op) (g : Fld)
    (h : applyOp f op = .ok g) : FldWF g := by
  obtain ⟨hm, _, _, _, s1, s2⟩ := op_meta f op g h
  refine ⟨?_, s1, s2⟩
  cases op with
  | sel dim arg =>
    have hm' : selMesh f.mesh dim arg = .ok g.mesh := hm
    obtain ⟨⟨a, s⟩, hconv⟩ := selConvert_ok_of_selMesh hm'
    rcases selConvert_kind f.mesh hf.1 dim arg a s hconv with ⟨c, k, hs, _⟩ | ⟨x, y, harg⟩
    · subst hs
      exact (sel_plane_shape f.mesh hf.1 dim arg a c k hconv g.mesh hm').2.2.2.2.2.2
    · subst harg
      obtain ⟨_, _, _, _, _, blk⟩ := selMesh_range_block f.mesh hf.1 dim x y g.mesh hm'
      exact blk.inv hf.1
  | get item =>
    cases item with
    | region r => exact (getRegion_inv f.mesh hf.1 r hside g.mesh hm).1.inv hf.1
    | name s =>
      obtain ⟨r, k1, k2, hfind, hal, hdims, hunits⟩ := hside
      obtain ⟨e0, e1, e2, e3⟩ := getName_inv f.mesh hf.1 s r hfind k1 k2 hal g.mesh hm
      exact inv_of_blocks f.mesh g.mesh hf.1 e1 e2 (by rw [e0]; exact hdims) (by rw [e0]; exact hunits)
        (by rw [e0]; exact hal.2.1) k1 (fun b => k2 b - k1 b)
        (fun b hb => by have := (hal.2.2 b hb).1; omega) e3
  | pad pw mode =>
    obtain ⟨p1, p2, _, _⟩ := padFld_inv f pw hside mode g h
    exact padMesh_meshInv f.mesh hf.1 pw (fun b _ => (p2 b).1) (fun b _ => (p2 b).2) g.mesh p1
  | resample n => exact (C01.mkN_inv _ hf.1.1 _ _ _ hm).1

/-! ## Subregions of a selection -/

/-- Subregions of a plane selection (`Mesh.sel` with a coordinate or none): the result carries,
in the original order and under the original names, exactly the subregions whose extent along the
removed axis contains the centre `c` of the selected layer; each has the removed axis taken out
of its corners (every other axis keeps its extent) and is stored with the names, units and
tolerance of the result region. -/
theorem sel_plane_subs (m : Mesh) (hm : m.Inv) (hsub : SubsWF m) (dim : String) (arg : SelArg) (a : Nat)
    (c : Rat) (k : Nat) (hconv : selConvert m dim arg = .ok (a, .plane c k)) (ha : a < m.ndim)
    (g : Mesh) (h : selMesh m dim arg = .ok g) :
    List.Forall₂ (fun q p => q.1 = p.1 ∧ q.2.dims = g.region.dims ∧ q.2.units = g.region.units ∧
        q.2.tol = g.region.tol ∧ q.2.ndim = m.ndim - 1 ∧ q.2.pmax.length = m.ndim - 1 ∧
        ∀ b, b < m.ndim - 1 → q.2.lo b = p.2.lo (skip a b) ∧ q.2.hi b = p.2.hi (skip a b))
      g.subs (m.subs.filter fun p => decide (p.2.lo a ≤ c ∧ c ≤ p.2.hi a)) := by
  have _ := hm  -- not needed: the loop over the subregions reads their corners only
  obtain ⟨subs, m0, hsubs, hm0, hgs⟩ := selPlaneMesh_subs m a c g ((selMesh_of_convert hconv).symm.trans h)
  rw [hgs, List.forall₂_map_left_iff]
  apply forall2_imp_mem (planeSubs_spec a c m.subs subs hsubs)
  intro q p hp' ⟨hq1, hq2⟩
  obtain ⟨s1, s2, s3⟩ := hsub p (List.mem_filter.mp hp').1
  obtain ⟨l1, l2, hc⟩ := regionMk_none_corners _ _ _ _ hq2
  rw [length_removeAt _ _ (by rw [s1]; exact ha), s1] at l1 l2 hc
  refine ⟨hq1, by show m0.region.dims = _; rw [hm0], by show m0.region.units = _; rw [hm0],
    by show m0.region.tol = _; rw [hm0], l1, l2, fun b hb => ?_⟩
  have cb := hc b hb (by rw [getD_removeAt, getD_removeAt]; exact s3 _ (skip_lt a b m.ndim ha hb))
  rwa [getD_removeAt, getD_removeAt] at cb

/-- In cells: a subregion made of the whole cells `s₁ … s₂-1` along the removed axis contains
the centre of the selected layer `k` exactly when `s₁ ≤ k < s₂` (`centre_between_faces`). -/
theorem plane_sub_kept_iff (L c : Rat) (hc : 0 < c) (k s1 s2 : Nat) :
    (L + (s1 : Rat) * c ≤ L + ((k : Rat) + 1 / 2) * c ∧ L + ((k : Rat) + 1 / 2) * c ≤ L + (s2 : Rat) * c)
      ↔ (s1 ≤ k ∧ k < s2) :=
  centre_between_faces hc k s1 s2

/-- Subregions of a range selection: the result carries, in the original order and under the
original names, exactly the subregions that overlap the kept slab `[g.lo a, g.hi a]` by more
than half a cell (subregions consist of whole cells: a smaller overlap is a rounding artefact at
a shared face); each is clipped to the slab along the selection axis — `[max(lo, s.lo),
min(hi, s.hi)]` — keeps its extent on every other axis, and is stored with the names, units and
tolerance of the result region. -/
theorem sel_range_subs (m : Mesh) (hm : m.Inv) (hsub : SubsWF m) (dim : String) (x y : Rat) (g : Mesh)
    (h : selMesh m dim (.range x y) = .ok g) :
    ∃ a, m.region.dim2index dim = .ok a ∧
      List.Forall₂ (fun q p => q.1 = p.1 ∧ q.2.dims = g.region.dims ∧ q.2.units = g.region.units ∧
          q.2.tol = g.region.tol ∧ q.2.ndim = m.ndim ∧ q.2.pmax.length = m.ndim ∧
          q.2.lo a = max (g.region.lo a) (p.2.lo a) ∧ q.2.hi a = min (g.region.hi a) (p.2.hi a) ∧
          ∀ b, b < m.ndim → b ≠ a → q.2.lo b = p.2.lo b ∧ q.2.hi b = p.2.hi b)
        g.subs (m.subs.filter fun p => decide (p.2.lo a < g.region.hi a - m.cellAt a / 2 ∧
          g.region.lo a < p.2.hi a - m.cellAt a / 2)) := by
  obtain ⟨a, hd, b1, b2, gnd, _, _, _, glo, ghi, _, _, _, ginv⟩ := sel_range_shape m hm dim x y g h
  refine ⟨a, hd, ?_⟩
  have ha := hm.dim2index_lt hd
  -- the slab handed to the loop over the subregions is `[g.lo a, g.hi a]`
  rw [selMesh_of_convert (selConvert_range m hm dim a hd x y b1 b2).1] at h
  obtain ⟨subs, m0, hsubs, hm0, hgs⟩ := selRangeMesh_subs m a _ _ g h
  rw [centre_sub_half, centre_add_half, ← glo, ← ghi] at hsubs
  rw [hgs, List.forall₂_map_left_iff]
  apply forall2_imp_mem (rangeSubs_spec a _ _ _ m.subs subs hsubs)
  intro q p hp' ⟨hq1, hq2⟩
  obtain ⟨hmem, hkeep⟩ := List.mem_filter.mp hp'
  rw [decide_eq_true_iff] at hkeep
  obtain ⟨s1, s2, s3⟩ := hsub p hmem
  obtain ⟨l1, l2, hc⟩ := regionMk_none_corners _ _ _ _ hq2
  rw [length_setAt, s1] at l1 l2 hc
  have hord : max (g.region.lo a) (p.2.lo a) ≤ min (g.region.hi a) (p.2.hi a) := by
    have := s3 a ha
    have := hm.cellAt_pos ha
    have := ginv.lo_lt_hi (show a < g.ndim from gnd ▸ ha)
    apply max_le <;> apply le_min <;> linarith
  have ca := hc a ha (by
    rw [getD_setAt_eq _ _ _ _ (by rw [s1]; exact ha), getD_setAt_eq _ _ _ _ (by rw [s2]; exact ha)]; exact hord)
  rw [getD_setAt_eq _ _ _ _ (by rw [s1]; exact ha), getD_setAt_eq _ _ _ _ (by rw [s2]; exact ha)] at ca
  refine ⟨hq1, by show m0.region.dims = _; rw [hm0], by show m0.region.units = _; rw [hm0],
    by show m0.region.tol = _; rw [hm0], l1, l2, ca.1, ca.2, fun b hb hba => ?_⟩
  have cb := hc b hb (by rw [getD_setAt_ne _ _ _ _ _ hba, getD_setAt_ne _ _ _ _ _ hba]; exact s3 b hb)
  rwa [getD_setAt_ne _ _ _ _ _ hba, getD_setAt_ne _ _ _ _ _ hba] at cb

/-- In cells: for a subregion made of the whole cells `s₁ … s₂-1` and a selection keeping cells
`k₁ … k₂`, the clipped extent is the common cells `max(k₁,s₁) … min(k₂+1,s₂)-1`. -/
theorem range_sub_clip_cells (L c : Rat) (hc : 0 < c) (k1 k2 s1 s2 : Nat) :
    max (L + (k1 : Rat) * c) (L + (s1 : Rat) * c) = L + ((max k1 s1 : Nat) : Rat) * c ∧
    min (L + ((k2 : Rat) + 1) * c) (L + (s2 : Rat) * c) = L + ((min (k2 + 1) s2 : Nat) : Rat) * c := by
  rw [C01.face_max hc, C01.face_min hc, Nat.cast_max, Nat.cast_min, Nat.cast_add_one]
  exact ⟨rfl, rfl⟩

/-! ## Composition laws and round trips -/

/-- `field[region]` for a box made of whole cells `k₁ … k₂-1` of the field's mesh: the result
mesh is exactly the box (same corners, `k₂ - k₁` cells per axis, names, units and tolerance of
the source, no boundary condition, no subregions) and result cell `j` holds value and validity
of source cell `k₁ + j`. -/
theorem getitem_aligned_pointwise (f : Fld) (hf : FldWF f) (item : Region) (k1 k2 : Nat → Nat)
    (hal : SubAligned f.mesh item k1 k2) (g : Fld) (h : getItem f (.region item) = .ok g) :
    (∀ a, a < f.mesh.ndim → g.mesh.region.lo a = item.lo a ∧ g.mesh.region.hi a = item.hi a ∧
      g.mesh.nAt a = k2 a - k1 a) ∧
    g.mesh.ndim = f.mesh.ndim ∧ g.mesh.n.length = f.mesh.ndim ∧
    g.mesh.region.pmax.length = f.mesh.ndim ∧
    g.mesh.region.dims = f.mesh.region.dims ∧ g.mesh.region.units = f.mesh.region.units ∧
    g.mesh.region.tol = f.mesh.region.tol ∧ g.mesh.bc = "" ∧ g.mesh.subs = [] ∧
    ∀ j, inRange g.mesh.n j = true →
      g.data.get j = f.data.get (tab f.mesh.ndim fun b => k1 b + j.getD b 0) ∧
      g.valid.get j = f.valid.get (tab f.mesh.ndim fun b => k1 b + j.getD b 0) := by
  have hbox := boxIn_of_aligned f.mesh hf.1 item k1 k2 hal
  obtain ⟨hgm, hpt⟩ := getitem_region_pointwise f hf item hbox g h
  obtain ⟨bg, e7, e8, _⟩ := getRegion_inv f.mesh hf.1 item hbox g.mesh hgm
  refine ⟨getRegion_aligned_exact f.mesh hf.1 item k1 k2 hal g.mesh hgm, bg.ndim, bg.nlen, bg.pmax, bg.dims, bg.units,
    bg.tol, e7, e8, ?_⟩
  intro j hj
  obtain ⟨_, p2, p3⟩ := hpt j hj
  have hidx : (tab f.mesh.ndim fun b => blockLo f.mesh item b + j.getD b 0)
      = tab f.mesh.ndim fun b => k1 b + j.getD b 0 :=
    tab_congr _ _ _ (fun b hb => by rw [blockLo_aligned f.mesh hf.1 item k1 k2 hal b hb])
  rw [hidx] at p2 p3
  exact ⟨p2, p3⟩

/-- Extracting the whole region is the identity on geometry and content: `field[field.mesh.region]`
has the same region (corners, names, units, tolerance) and cell counts, and every cell keeps its
value and validity.  (The boundary condition and the subregions of the mesh are not carried over:
`Mesh.__getitem__` builds a bare mesh.) -/
theorem getitem_whole_id (f : Fld) (hf : FldWF f) (g : Fld)
    (h : getItem f (.region f.mesh.region) = .ok g) :
    g.mesh.region = f.mesh.region ∧ g.mesh.n = f.mesh.n ∧ g.mesh.bc = "" ∧ g.mesh.subs = [] ∧
    ∀ j, inRange f.mesh.n j = true → g.data.get j = f.data.get j ∧ g.valid.get j = f.valid.get j := by
  obtain ⟨r1, r2, r3⟩ := (FldBlock.refl hf).crop hf g h
  obtain ⟨s, b⟩ := (op_subs_bc f (.get (.region f.mesh.region)) g h).1 _ rfl
  exact ⟨r1, r2, b, s, fun j hj => r3 j (r2 ▸ hj)⟩

/-- Pad / crop round trip, for every padding mode: padding a field and then extracting the
original region gives back the original field — same region (corners, names, units, tolerance),
same cell counts, and every cell has its original value and validity.  (As with every
`__getitem__`, boundary condition and subregions are not carried over.) -/
theorem pad_crop_roundtrip (f : Fld) (hf : FldWF f) (pw : List PadW) (hnd : (pw.map (·.dim)).Nodup)
    (mode : PadMode) (g : Fld) (hg : padFld f pw mode = .ok g) (h : Fld)
    (hh : getItem g (.region f.mesh.region) = .ok h) :
    h.mesh.region = f.mesh.region ∧ h.mesh.n = f.mesh.n ∧ h.mesh.bc = "" ∧ h.mesh.subs = [] ∧
    ∀ j, inRange f.mesh.n j = true → h.data.get j = f.data.get j ∧ h.valid.get j = f.valid.get j := by
  obtain ⟨r1, r2, r3⟩ := (padFld_source_block f hf pw hnd mode g hg).crop
    (op_wf f hf (.pad pw mode) hnd g hg) h hh
  obtain ⟨s, b⟩ := (op_subs_bc g (.get (.region f.mesh.region)) h hh).1 _ rfl
  exact ⟨r1, r2, b, s, fun j hj => r3 j (r2 ▸ hj)⟩

/-- Closed form of nearest-cell resampling for ALL target resolutions (finer, coarser, coprime):
target cell `j` takes value and validity of the source cell with index
`⌊(2·j+1)·n / (2·n')⌋` on every axis (`n` source, `n'` target cell count) — the cell containing
the target cell's centre, written in integer arithmetic. -/
theorem resample_source_cell (f : Fld) (hf : FldWF f) (n : List Int) (g : Fld) (h : resample f n = .ok g) :
    ∀ j, inRange g.mesh.n j = true →
      g.data.get j = f.data.get
        (tab f.mesh.ndim fun b => ((2 * j.getD b 0 + 1) * f.mesh.nAt b) / (2 * g.mesh.nAt b)) ∧
      g.valid.get j = f.valid.get
        (tab f.mesh.ndim fun b => ((2 * j.getD b 0 + 1) * f.mesh.nAt b) / (2 * g.mesh.nAt b)) := fun j hj => ((resample_shows f hf n g h).2.2 j hj).2

/-- Refinement by integer factors `r b ≥ 1` per axis: target cell `j` is a copy of source cell
`j / r` (every source cell is repeated `r` times along each axis). -/
theorem resample_refine (f : Fld) (hf : FldWF f) (n : List Int) (g : Fld) (h : resample f n = .ok g)
    (r : Nat → Nat) (hr : ∀ b, b < f.mesh.ndim → 0 < r b ∧ g.mesh.nAt b = r b * f.mesh.nAt b) :
    ∀ j, inRange g.mesh.n j = true →
      g.data.get j = f.data.get (tab f.mesh.ndim fun b => j.getD b 0 / r b) ∧
      g.valid.get j = f.valid.get (tab f.mesh.ndim fun b => j.getD b 0 / r b) := by
  intro j hj
  obtain ⟨p2, p3⟩ := resample_source_cell f hf n g h j hj
  have hidx : (tab f.mesh.ndim fun b => ((2 * j.getD b 0 + 1) * f.mesh.nAt b) / (2 * g.mesh.nAt b))
      = tab f.mesh.ndim fun b => j.getD b 0 / r b :=
    tab_congr _ _ _ (fun b hb => by
      rw [(hr b hb).2]; exact refine_div _ _ _ (hr b hb).1 (hf.1.nAt_pos hb))
  rw [hidx] at p2 p3
  exact ⟨p2, p3⟩

/-- Coarsening by integer factors `r b ≥ 1` per axis: target cell `j` takes the source cell
`r·j + r/2` — the middle one of the `r` source cells it covers for odd `r`, the upper middle one
for even `r` (the target centre then lies on a source face, which belongs to the upper cell). -/
theorem resample_coarsen (f : Fld) (hf : FldWF f) (n : List Int) (g : Fld) (h : resample f n = .ok g)
    (r : Nat → Nat) (hr : ∀ b, b < f.mesh.ndim → f.mesh.nAt b = r b * g.mesh.nAt b) :
    ∀ j, inRange g.mesh.n j = true →
      g.data.get j = f.data.get (tab f.mesh.ndim fun b => r b * j.getD b 0 + r b / 2) ∧
      g.valid.get j = f.valid.get (tab f.mesh.ndim fun b => r b * j.getD b 0 + r b / 2) := by
  intro j hj
  obtain ⟨p2, p3⟩ := resample_source_cell f hf n g h j hj
  obtain ⟨gwf, mg, _⟩ := resample_shows f hf n g h
  have hgn : g.mesh.ndim = f.mesh.ndim := by rw [mg]; rfl
  have hidx : (tab f.mesh.ndim fun b => ((2 * j.getD b 0 + 1) * f.mesh.nAt b) / (2 * g.mesh.nAt b))
      = tab f.mesh.ndim fun b => r b * j.getD b 0 + r b / 2 :=
    tab_congr _ _ _ (fun b hb => by
      rw [hr b hb]; exact coarsen_div _ _ _ (gwf.1.nAt_pos (hgn ▸ hb)))
  rw [hidx] at p2 p3
  exact ⟨p2, p3⟩

/-- Selecting a range and then a sub-range along the same axis equals selecting the sub-range
directly: same region (corners, names, units, tolerance), same cell counts, and every cell has
the same value and validity.  The one exception the code makes is excluded by `hup`: an upper
bound exactly on the upper face of the first selection belongs to the last kept cell there, but to
the next cell of the original mesh (a face belongs to the cell above it, except at the region
boundary). -/
theorem sel_range_range (f : Fld) (hf : FldWF f) (dim : String) (x y x' y' : Rat) (g h h' : Fld)
    (hg : selFld f dim (.range x y) = .ok (.field g))
    (hh : selFld g dim (.range x' y') = .ok (.field h))
    (hh' : selFld f dim (.range x' y') = .ok (.field h'))
    (a : Nat) (hd : f.mesh.region.dim2index dim = .ok a)
    (hup : max x' y' < g.mesh.region.hi a ∨ g.mesh.region.hi a = f.mesh.region.hi a) :
    h.mesh.region = h'.mesh.region ∧ h.mesh.n = h'.mesh.n ∧
    ∀ j, inRange h.mesh.n j = true →
      h.data.get j = h'.data.get j ∧ h.valid.get j = h'.valid.get j := by
  have hinv := hf.1
  have ha := hinv.dim2index_lt hd
  obtain ⟨a1, hd1, _, _, _, _, bg⟩ := selFld_range_block f hinv dim x y g hg
  cases hd.symm.trans hd1
  have ginv := bg.mesh.inv hinv
  have hdg : g.mesh.region.dim2index dim = .ok a := by rw [T.dim2index_congr _ _ bg.mesh.dims]; exact hd
  obtain ⟨a2, hd2, c1, c2, _, _, bh⟩ := selFld_range_block g ginv dim x' y' h hh
  cases hdg.symm.trans hd2
  obtain ⟨a3, hd3, _, _, _, _, bh'⟩ := selFld_range_block f hinv dim x' y' h' hh'
  cases hd.symm.trans hd3
  -- the cells of the sub-range have the same indices in `f` as in `g`, up to the offset of `g`
  have blk := bg.mesh.axis a ha
  rw [rangeOff_self, rangeCnt_self] at blk
  have hmm : min x' y' ≤ max x' y' := min_le_max
  have i1 := indexAx_block blk (Nat.succ_pos _) (hinv.cellAt_pos ha) _ c1
    (hup.imp_left (lt_of_le_of_lt hmm))
  have i2 := indexAx_block blk (Nat.succ_pos _) (hinv.cellAt_pos ha) _ (le_trans c1 hmm) hup
  refine ((bg.trans ginv bh).congr fun b hb => ?_).unique bh'
  by_cases hba : b = a
  · subst hba
    rw [rangeOff_self, rangeOff_self, rangeOff_self, rangeCnt_self, rangeCnt_self, i1, i2]
    omega
  · rw [rangeOff_of_ne hba, rangeOff_of_ne hba, rangeOff_of_ne hba, rangeCnt_of_ne _ hba, rangeCnt_of_ne _ hba,
      (bg.mesh.axis b hb).n, rangeCnt_of_ne _ hba]
    exact ⟨rfl, rfl⟩

/-- The pad / crop round trip is always possible: after any accepted `pad` of a well-formed field
in constructor state, extracting the original region is accepted (for every mode). -/
theorem pad_crop_accepts (f : Fld) (hf : FldWF f) (hmeta : MetaInv f) (pw : List PadW)
    (hnd : (pw.map (·.dim)).Nodup) (mode : PadMode) (g : Fld) (hg : padFld f pw mode = .ok g) :
    ∃ h, getItem g (.region f.mesh.region) = .ok h := by
  have hgwf := op_wf f hf (.pad pw mode) hnd g hg
  have hal := (padFld_source_block f hf pw hnd mode g hg).mesh.aligned
  exact (getitem_region_accepts g hgwf (metaInv_ok g (op_meta_passthrough f hmeta (.pad pw mode) g hg).2.2).1
    f.mesh.region (boxIn_of_aligned g.mesh hgwf.1 _ _ _ hal) hal.2.1).2

/-- One plane selection, everything at once (for the commutation law `sel_plane_comm`): the result is a
well-formed field on the mesh with the axis removed (names, units, tolerance, per-axis corners,
counts and cell sizes of the kept axes), and result cell `j` is source cell `insertAt j α k`,
an in-range cell of the source. -/
theorem sel_plane_facts (F : Fld) (hF : FldWF F) (d : String) (α : Nat) (hd : F.mesh.region.dim2index d = .ok α)
    (ξ : Rat) (G : Fld) (e : selFld F d (.point ξ) = .ok (.field G)) :
    FldWF G ∧ G.mesh.ndim = F.mesh.ndim - 1 ∧ 2 ≤ F.mesh.ndim ∧
    G.mesh.region.dims = removeAt F.mesh.region.dims α ∧ G.mesh.region.units = removeAt F.mesh.region.units α ∧
    G.mesh.region.tol = F.mesh.region.tol ∧
    (∀ b, b < G.mesh.ndim →
      G.mesh.region.lo b = F.mesh.region.lo (skip α b) ∧ G.mesh.region.hi b = F.mesh.region.hi (skip α b) ∧
      G.mesh.nAt b = F.mesh.nAt (skip α b) ∧ G.mesh.cellAt b = F.mesh.cellAt (skip α b)) ∧
    ∀ j, inRange G.mesh.n j = true →
      inRange F.mesh.n (insertAt j α (F.mesh.indexAx α ξ)) = true ∧
      G.data.get j = F.data.get (insertAt j α (F.mesh.indexAx α ξ)) ∧
      G.valid.get j = F.valid.get (insertAt j α (F.mesh.indexAx α ξ)) := by
  obtain ⟨α', hd', hpt⟩ := sel_plane_pointwise F hF.1 d ξ G e
  cases hd.symm.trans hd'
  obtain ⟨_, hd'', _, _, h2, hr, hn, hv, hw⟩ := selFld_plane F hF.1 d ξ G e
  cases hd.symm.trans hd''
  obtain ⟨pinv, pnd, pax⟩ := planeOf_inv F.mesh hF.1 α (hF.1.dim2index_lt hd) h2
  have hsh : G.data.shape = G.mesh.n ∧ G.valid.shape = G.mesh.n := by
    rw [hv, hw, hn]; exact ⟨congrArg (removeAt · α) hF.2.1, congrArg (removeAt · α) hF.2.2⟩
  -- the source cell is the one `point2index` returns, hence in range
  have hin : ∀ j, inRange G.mesh.n j = true → inRange F.mesh.n (insertAt j α (F.mesh.indexAx α ξ)) = true :=
    fun j hj => by
      obtain ⟨_, _, hi⟩ := (C01.point2index_ok_iff_containsPt F.mesh _ _).mp (hpt.2.2 j hj).1
      rw [hi]
      rw [← hF.1.n_length]
      exact DFV.inRange_tab _ _ fun b hb => C01.indexAx_lt F.mesh b (hF.1.nAt_pos (hF.1.n_length ▸ hb)) _
  obtain ⟨gm, _, _, _, _, _, _⟩ := G
  cases gm; cases hr; cases hn
  exact ⟨⟨pinv, hsh⟩, pnd, h2, rfl, rfl, rfl, fun b hb => pax b (pnd ▸ hb),
    fun j hj => ⟨hin j hj, (hpt.2.2 j hj).2⟩⟩

/-- The commutation law for `a < b` (the general case, `sel_plane_comm`, follows by symmetry): after removing axis
`a` the second axis has position `b - 1`, after removing `b` the first keeps position `a`. -/
theorem sel_plane_comm_lt (f : Fld) (hf : FldWF f) (da db : String) (a b : Nat) (hab : a < b)
    (hda : f.mesh.region.dim2index da = .ok a) (hdb : f.mesh.region.dim2index db = .ok b) (x y : Rat)
    (g1 h1 g2 h2 : Fld)
    (e1 : selFld f da (.point x) = .ok (.field g1)) (e2 : selFld g1 db (.point y) = .ok (.field h1))
    (e3 : selFld f db (.point y) = .ok (.field g2)) (e4 : selFld g2 da (.point x) = .ok (.field h2)) :
    h1.mesh.region = h2.mesh.region ∧ h1.mesh.n = h2.mesh.n ∧
    ∀ j, inRange h1.mesh.n j = true →
      h1.data.get j = h2.data.get j ∧ h1.valid.get j = h2.valid.get j := by
  have hm := hf.1
  have hb := hm.dim2index_lt hdb
  have hdl := hm.dims_length
  obtain ⟨_, d1, _, _, _, r1, n1, v1, w1⟩ := selFld_plane f hm da x g1 e1
  cases hda.symm.trans d1
  obtain ⟨_, d3, _, _, _, r3, n3, v3, w3⟩ := selFld_plane f hm db y g2 e3
  cases hdb.symm.trans d3
  have i1 := inv_geom r1 n1 (planeOf_inv f.mesh hm a (by omega) (by omega)).1
  have i3 := inv_geom r3 n3 (planeOf_inv f.mesh hm b hb (by omega)).1
  -- position of the other axis name after the first selection
  have hdb1 : g1.mesh.region.dim2index db = .ok (b - 1) := by
    have := dim2index_removeAt f.mesh.region g1.mesh.region db a b hdb (by omega) (by omega) (congrArg Region.dims r1)
    rwa [if_neg (by omega)] at this
  have hda2 : g2.mesh.region.dim2index da = .ok a := by
    have := dim2index_removeAt f.mesh.region g2.mesh.region da b a hda (by omega) (by omega) (congrArg Region.dims r3)
    rwa [if_pos hab] at this
  obtain ⟨_, d2, _, _, _, r2, n2, v2, w2⟩ := selFld_plane g1 i1 db y h1 e2
  cases hdb1.symm.trans d2
  obtain ⟨_, d4, _, _, _, r4, n4, v4, w4⟩ := selFld_plane g2 i3 da x h2 e4
  cases hda2.symm.trans d4
  -- both results live on `f.mesh` with the two axes removed
  have P : planeOf g1.mesh (b - 1) = planeOf g2.mesh a := by
    rw [planeOf_geom r1 n1, planeOf_geom r3 n3, planeOf_comm f.mesh hab]
  -- the two layers have the same index whether looked up before or after the other selection
  have k1 : g1.mesh.indexAx (b - 1) y = f.mesh.indexAx b y := by
    rw [indexAx_geom r1 n1, indexAx_planeOf, show skip a (b - 1) = b by unfold skip; split <;> omega]
  have k2 : g2.mesh.indexAx a x = f.mesh.indexAx a x := by
    rw [indexAx_geom r3 n3, indexAx_planeOf, show skip b a = a by unfold skip; split <;> omega]
  refine ⟨by rw [r2, r4, P], by rw [n2, n4, P], fun j hj => ?_⟩
  have hjl : b ≤ j.length + 1 := by
    rw [inRange_length _ _ hj, n2]
    show b ≤ (removeAt g1.mesh.n (b - 1)).length + 1
    rw [n1]
    show b ≤ (removeAt (removeAt f.mesh.n a) (b - 1)).length + 1
    rw [length_removeAt _ _ (by rw [length_removeAt _ _ (by rw [hm.n_length]; omega), hm.n_length]; omega),
      length_removeAt _ _ (by rw [hm.n_length]; omega), hm.n_length]
    omega
  rw [v2, v1, v4, v3, w2, w1, w4, w3, k1, k2]
  exact ⟨take_take_get _ _ _ hab j hjl, take_take_get _ _ _ hab j hjl⟩

/-- Plane selections along different axes commute: selecting the plane `da = x` and then
`db = y` gives the same field as `db = y` first and `da = x` second — same region (corners,
names, units, tolerance), same cell counts, every cell the same value and validity. -/
theorem sel_plane_comm (f : Fld) (hf : FldWF f) (da db : String) (a b : Nat) (hab : a ≠ b)
    (hda : f.mesh.region.dim2index da = .ok a) (hdb : f.mesh.region.dim2index db = .ok b) (x y : Rat)
    (g1 h1 g2 h2 : Fld)
    (e1 : selFld f da (.point x) = .ok (.field g1)) (e2 : selFld g1 db (.point y) = .ok (.field h1))
    (e3 : selFld f db (.point y) = .ok (.field g2)) (e4 : selFld g2 da (.point x) = .ok (.field h2)) :
    h1.mesh.region = h2.mesh.region ∧ h1.mesh.n = h2.mesh.n ∧
    ∀ j, inRange h1.mesh.n j = true →
      h1.data.get j = h2.data.get j ∧ h1.valid.get j = h2.valid.get j := by
  rcases Nat.lt_or_gt_of_ne hab with hlt | hgt
  · exact sel_plane_comm_lt f hf da db a b hlt hda hdb x y g1 h1 g2 h2 e1 e2 e3 e4
  · obtain ⟨r1, r2, r3⟩ := sel_plane_comm_lt f hf db da b a hgt hdb hda y x g2 h2 g1 h1 e3 e4 e1 e2
    refine ⟨r1.symm, r2.symm, ?_⟩
    intro j hj
    obtain ⟨q1, q2⟩ := r3 j (by rw [r2]; exact hj)
    exact ⟨q1.symm, q2.symm⟩

/-- Selecting the whole extent of an axis as a range is the identity on geometry and content:
`field.sel(d=(pmin_d, pmax_d))` has the same region and cell counts, and every cell keeps its value
and validity.  (The boundary condition is dropped by `Mesh.sel`.) -/
theorem sel_range_whole_id (f : Fld) (hf : FldWF f) (dim : String) (a : Nat)
    (hd : f.mesh.region.dim2index dim = .ok a) (g : Fld)
    (h : selFld f dim (.range (f.mesh.region.lo a) (f.mesh.region.hi a)) = .ok (.field g)) :
    g.mesh.region = f.mesh.region ∧ g.mesh.n = f.mesh.n ∧
    ∀ j, inRange f.mesh.n j = true → g.data.get j = f.data.get j ∧ g.valid.get j = f.valid.get j := by
  have hinv := hf.1
  have ha := hinv.dim2index_lt hd
  have hlt := hinv.lo_lt_hi ha
  have hc := hinv.cellAt_pos ha
  have hn := hinv.nAt_pos ha
  obtain ⟨a', hd', _, _, _, _, bg⟩ := selFld_range_block f hinv dim _ _ g h
  cases hd.symm.trans hd'
  -- the bounds are in the first and the last cell: all cells are kept
  rw [min_eq_left hlt.le, max_eq_right hlt.le, indexAx_hi f.mesh a hn hc,
    indexAx_eq_of_bounds f.mesh a _ 0 hn hc (by simp) (by push_cast; linarith)] at bg
  obtain ⟨r1, r2, r3⟩ := (bg.congr fun b hb => by
    by_cases hba : b = a
    · subst hba; rw [rangeOff_self, rangeCnt_self]; exact ⟨rfl, by omega⟩
    · rw [rangeOff_of_ne hba, rangeCnt_of_ne _ hba]; exact ⟨rfl, rfl⟩).unique (FldBlock.refl hf)
  exact ⟨r1, r2, fun j hj => r3 j (r2 ▸ hj)⟩

/-- Padding by nothing (an empty dictionary, or zero widths on every named axis) is the identity
on geometry and content, in every mode: same region, same cell counts, every cell keeps value and
validity. -/
theorem pad_zero_id (f : Fld) (hf : FldWF f) (pw : List PadW) (hnd : (pw.map (·.dim)).Nodup)
    (hz : ∀ b, sumW f.mesh (·.lo) pw b = 0 ∧ sumW f.mesh (·.hi) pw b = 0)
    (mode : PadMode) (g : Fld) (h : padFld f pw mode = .ok g) :
    g.mesh.region = f.mesh.region ∧ g.mesh.n = f.mesh.n ∧
    ∀ j, inRange f.mesh.n j = true → g.data.get j = f.data.get j ∧ g.valid.get j = f.valid.get j := by
  -- the source is the block of all cells of the padded field
  have hgwf := op_wf f hf (.pad pw mode) hnd g h
  obtain ⟨p1, p2, _, _⟩ := padFld_inv f pw hnd mode g h
  have pg := padMesh_inv f.mesh hf.1 pw (fun b _ => (p2 b).1) (fun b _ => (p2 b).2) g.mesh p1
  obtain ⟨r1, r2, r3⟩ := ((padFld_source_block f hf pw hnd mode g h).congr fun b hb => by
    rw [pg.nAt b (pg.ndim ▸ hb), (hz b).1, (hz b).2]; exact ⟨rfl, rfl⟩).unique (FldBlock.refl hgwf)
  exact ⟨r1.symm, r2.symm, fun j hj => ⟨(r3 j hj).1.symm, (r3 j hj).2.symm⟩⟩

/-- Extracting a region and then a sub-region equals extracting the sub-region directly:
`field[r1][r2]` and `field[r2]` have the same region (corners, names, units, tolerance), the same
cell counts, and the same value and validity in every cell — for every box `r2` inside the block
returned for `r1` (no exception at the faces: lower bounds use `floor`, upper bounds `ceil - 1`,
and both shift with the block's offset). -/
theorem getitem_getitem (f : Fld) (hf : FldWF f) (r1 r2 : Region) (hb1 : BoxIn f.mesh r1)
    (g h h' : Fld) (hg : getItem f (.region r1) = .ok g) (hb2 : BoxIn g.mesh r2)
    (hh : getItem g (.region r2) = .ok h) (hh' : getItem f (.region r2) = .ok h') :
    h.mesh.region = h'.mesh.region ∧ h.mesh.n = h'.mesh.n ∧
    ∀ j, inRange h.mesh.n j = true →
      h.data.get j = h'.data.get j ∧ h.valid.get j = h'.valid.get j := by
  obtain ⟨_, bg⟩ := getItem_region_block f hf r1 hb1 g hg
  have ginv := bg.mesh.inv hf.1
  have gwf : FldWF g := op_wf f hf (.get (.region r1)) hb1 g hg
  have e1 := bg.mesh.ndim
  -- `r2` is inside `f`'s region as well
  have hb2' : BoxIn f.mesh r2 := ⟨hb2.1.trans e1, fun b hb => by
    obtain ⟨c1, c2, c3⟩ := hb2.2 b (e1 ▸ hb)
    obtain ⟨d1, _, d3⟩ := (boxIn_of_aligned f.mesh hf.1 _ _ _ bg.mesh.aligned).2 b hb
    exact ⟨d1.trans c1, c2, c3.trans d3⟩⟩
  obtain ⟨_, bh⟩ := getItem_region_block g gwf r2 hb2 h hh
  obtain ⟨_, bh'⟩ := getItem_region_block f hf r2 hb2' h' hh'
  -- lower and upper index of `r2` shift with the offset of the first block (no exception at faces)
  refine ((bg.trans ginv bh).congr fun b hb => ?_).unique bh'
  obtain ⟨c1, c2, c3⟩ := hb2.2 b (e1 ▸ hb)
  have hlo : blockLo f.mesh r2 b = blockLo f.mesh r1 b + blockLo g.mesh r2 b :=
    indexAx_block (bg.mesh.axis b hb) (Nat.succ_pos _) (hf.1.cellAt_pos hb) _ c1
      (Or.inl (lt_of_lt_of_le c2 c3))
  have hhi : blockHi f.mesh r2 b = blockLo f.mesh r1 b + blockHi g.mesh r2 b := by
    have u := upperIdx_block (bg.mesh.axis b hb) (hf.1.cellAt_pos hb) (r2.hi b)
    rw [← blockHi_cast f.mesh hf.1 r2 hb2' b hb, ← blockHi_cast g.mesh ginv r2 hb2 b (e1 ▸ hb)] at u
    exact_mod_cast u
  exact ⟨hlo.symm, by rw [hlo, hhi]; omega⟩

/-! ## Further refusals; plane selection of a 1-d field -/

/-- Malformed padding requests are refused: an axis name the region does not have is refused by
`Mesh.pad` and `Field.pad`; a negative width is refused by `Field.pad` (numpy refuses it), in
every mode. -/
theorem pad_rejects (f : Fld) (pw : List PadW) (mode : PadMode) :
    ((∃ w, w ∈ pw ∧ ∀ a, f.mesh.region.dim2index w.dim ≠ .ok a) →
      (∃ e, padMesh f.mesh pw = .error e) ∧ ∃ e, padFld f pw mode = .error e) ∧
    ((∃ w, w ∈ pw ∧ (w.lo < 0 ∨ w.hi < 0)) → ∃ e, padFld f pw mode = .error e) := by
  refine ⟨fun hbad => ⟨?_, ?_⟩, fun ⟨w, hw, hneg⟩ => err_of_not_ok _ fun g hg => ?_⟩
  · obtain ⟨e, he⟩ := padCorners_unknown f.mesh pw f.mesh.region.pmin f.mesh.region.pmax hbad
    exact ⟨e, padMesh_error he⟩
  · obtain ⟨e, he⟩ := padAxes_unknown f.mesh pw hbad
    exact ⟨e, padFld_error he⟩
  · -- an accepted `pad` has a dictionary without negative entries, and `w` is one of its entries
    obtain ⟨d, _, hd, hnn, _⟩ := (padFld_ok_iff f pw mode g).mp hg
    obtain ⟨a, ha⟩ := padAxes_mem f.mesh pw d hd w hw
    have := List.any_eq_false.mp hnn _ ha
    rcases hneg with h | h <;> simp [h] at this

/-- A box of the wrong dimension, or one that sticks out of the region on some axis by more than
the region's comparison tolerance (`atol + rtol·|x|` of `Region.__contains__`), is refused by
`mesh[region]` and `field[region]`; `region2slices` refuses a box of the wrong dimension. -/
theorem getitem_region_rejected (f : Fld) (item : Region)
    (hbad : item.ndim ≠ f.mesh.ndim ∨
      (∃ a, a < f.mesh.ndim ∧ item.lo a < f.mesh.region.lo a ∧
        f.mesh.region.atol + f.mesh.region.tol * absR (item.lo a) < f.mesh.region.lo a - item.lo a) ∨
      (∃ a, a < f.mesh.ndim ∧ f.mesh.region.hi a < item.hi a ∧
        f.mesh.region.atol + f.mesh.region.tol * absR (item.hi a) < item.hi a - f.mesh.region.hi a)) :
    (∃ e, getMesh f.mesh (.region item) = .error e) ∧ (∃ e, getItem f (.region item) = .error e) ∧
    (item.ndim ≠ f.mesh.ndim → ∃ e, region2slices f.mesh item = .error e) := by
  have hc : f.mesh.region.containsReg item = false := by
    rcases hbad with h | ⟨a, ha, h1, h2⟩ | ⟨a, ha, h1, h2⟩
    · exact C01.containsReg_false_of_length _ _ (Or.inl h)
    · refine Bool.eq_false_iff.mpr fun hc => ?_
      have := ((C01.containsReg_eq_true_iff _ _).mp hc).1
      rw [C01.containsPt_false_of_axis _ _ ha (C01.containsAx_false_of_lt _ a _ h1 h2)] at this
      cases this
    · refine Bool.eq_false_iff.mpr fun hc => ?_
      have := ((C01.containsReg_eq_true_iff _ _).mp hc).2
      rw [C01.containsPt_false_of_axis _ _ ha (C01.containsAx_false_of_gt _ a _ h1 h2)] at this
      cases this
  obtain ⟨r1, r2⟩ := getitem_outside_rejected f (.region item) (Or.inr ⟨item, rfl, hc⟩)
  refine ⟨r1, r2, ?_⟩
  intro hnd
  exact ⟨_, by unfold region2slices; rw [if_pos hnd]⟩

/-- Plane selection on a 1-d field returns the bare value of the cell containing the
coordinate (there is no 0-dimensional mesh to put a field on). -/
theorem sel_plane_1d_value (f : Fld) (hf : f.mesh.Inv) (h1 : f.mesh.ndim = 1) (dim : String) (a : Nat)
    (hd : f.mesh.region.dim2index dim = .ok a) (x : Rat)
    (hx1 : f.mesh.region.lo a ≤ x) (hx2 : x ≤ f.mesh.region.hi a) :
    a = 0 ∧ selFld f dim (.point x) = .ok (.values (f.data.get [f.mesh.indexAx 0 x])) := by
  have ha := hf.dim2index_lt hd
  have ha0 : a = 0 := by omega
  subst ha0
  refine ⟨rfl, ?_⟩
  have hconv := (selConvert_point f.mesh hf dim 0 hd x hx1 hx2).1
  -- `Mesh.sel` refuses: there is no axis left
  obtain ⟨e, he⟩ : ∃ e, selMesh f.mesh dim (.point x) = .error e := err_of_not_ok _ fun g hg => by
    rw [selMesh_of_convert hconv] at hg
    have := ((selPlaneMesh_iff f.mesh hf 0 ha _ g).mp hg).1
    omega
  unfold selFld
  rw [hconv, he]
  simp only
  rw [if_pos h1]
  rfl

/-- A plane selection of a subregion-free field in constructor state, in closed form: it is
accepted for every coordinate of the closed edge, the result lives on exactly the mesh with the
axis removed (`planeOf`), and is again a well-formed field in constructor state — so plane
selections can be iterated. -/
theorem sel_plane_result (f : Fld) (hf : FldWF f) (hmi : MetaInv f) (hs : f.mesh.subs = []) (h2 : 2 ≤ f.mesh.ndim)
    (dim : String) (a : Nat) (hd : f.mesh.region.dim2index dim = .ok a) (x : Rat)
    (h1 : f.mesh.region.lo a ≤ x) (hx2 : x ≤ f.mesh.region.hi a) :
    ∃ g, selFld f dim (.point x) = .ok (.field g) ∧ g.mesh = planeOf f.mesh a ∧ FldWF g ∧ MetaInv g := by
  obtain ⟨hm, g, hg⟩ := sel_plane_accepts f hf (metaInv_ok f hmi).1 hs h2 dim a hd x h1 hx2
  have happ : applyOp f (.sel dim (.point x)) = .ok g := applyOp_sel hg
  obtain ⟨hmesh, _⟩ := op_meta f _ g happ
  have hmesh' : selMesh f.mesh dim (.point x) = .ok g.mesh := hmesh
  rw [hm] at hmesh'
  injection hmesh' with hmesh'
  exact ⟨g, hg, hmesh'.symm, op_wf f hf (.sel dim (.point x)) trivial g happ,
    (op_meta_passthrough f hmi _ g happ).2.2⟩

/-! ## Non-vacuity: every hypothesis used above is met by a concrete field

`Ex.f0`: 4 × 2 cells of size 1 × 1 over `[0,4] × [0,2]`, tokens `10·i + j`, a chequered mask;
`Ex.f1`: the same with the subregion `a = [1,3] × [0,1]`. -/
section NonVacuity
open Ex

/-- hypotheses of `selConvert_point`, `sel_plane_accepts` (and so of `sel_plane_shape`,
`sel_plane_pointwise`): the plane `x = 5/2` of `f0` -/
example : ∃ g, selFld f0 "x" (.point (5/2)) = .ok (.field g) :=
  (sel_plane_accepts f0 f0_wf rfl rfl (by decide) "x" 0 (by decide) (5/2)
    (show (0 : Rat) ≤ _ by norm_num) (show _ ≤ (4 : Rat) by norm_num)).2

/-- … and it is not trivial: the selected layer is cell 2, not cell 0 -/
example : f0.mesh.indexAx 0 (5/2) = 2 :=
  ex_idx (5/2) 2 (by decide) (by norm_num) (by norm_num)

/-- hypothesis of `sel_centre_pointwise`: the central plane along `y` -/
example : ∃ g, selFld f0 "y" .centre = .ok (.field g) := by
  rw [show selFld f0 "y" .centre = selFld f0 "y" (.point 1) from by
    unfold selFld selMesh
    rw [selConvert_centre f0.mesh f0_wf.1 "y" 1 (by decide)]
    norm_num [f0, m0, reg, Region.lo, Region.hi]]
  exact (sel_plane_accepts f0 f0_wf rfl rfl (by decide) "y" 1 (by decide) 1
    (show (0 : Rat) ≤ _ by norm_num) (show _ ≤ (4 : Rat) by norm_num)).2

/-- hypotheses of `selConvert_range`, `sel_range_shape`, `sel_range_pointwise`: bounds given
in descending order -/
example : (∃ g, selMesh f0.mesh "x" (.range (7/2) (1/2)) = .ok g) ∧
    ∃ g, selFld f0 "x" (.range (7/2) (1/2)) = .ok (.field g) :=
  sel_range_accepts f0 f0_wf rfl rfl "x" 0 (by decide) (7/2) (1/2)
    (show (0 : Rat) ≤ _ by norm_num) (show _ ≤ (4 : Rat) by norm_num)

/-- hypothesis of `sel_outside_rejected`: `x = 9/2` is outside `[0, 4]` -/
example : ∃ e, selFld f0 "x" (.point (9/2)) = .error e :=
  (sel_outside_rejected f0 "x" (.point (9/2)) (Or.inr (Or.inr (Or.inl ⟨0, 9/2, by decide, rfl,
    Or.inr (show (4 : Rat) < _ by norm_num)⟩)))).2.2

/-- hypotheses of `getRegion_smallest`, `getitem_region_pointwise`: an arbitrary box -/
example : BoxIn f0.mesh box ∧ (∃ g, getRegion f0.mesh box = .ok g) ∧ ∃ g, getItem f0 (.region box) = .ok g :=
  ⟨box_in, getitem_region_accepts f0 f0_wf rfl box box_in rfl⟩

/-- hypotheses of `getRegion_aligned_exact`, `region2slices_spec`, `getitem_name_pointwise`:
the subregion `a` consists of whole cells -/
example : SubAligned f1.mesh s0 k1 k2 ∧ findSub f1.mesh.subs "a" = some s0 ∧
    ∃ g, getItem f1 (.name "a") = .ok g :=
  ⟨s0_aligned, rfl, (getitem_name_accepts f1 f1_wf rfl "a" s0 rfl k1 k2 s0_aligned).2⟩

/-- … and the slices of that subregion are `1:3`, `0:1` -/
example : region2slices m1 s0 = .ok [(1, 3), (0, 1)] :=
  (region2slices_spec m1 m1_inv s0 k1 k2 s0_aligned).1

/-- hypothesis of `getitem_outside_rejected` -/
example : ∃ e, getItem f1 (.name "b") = .error e :=
  (getitem_outside_rejected f1 (.name "b") (Or.inl ⟨"b", rfl, by decide⟩)).2

/-- hypotheses of `pad_counts`, `pad_rule`, `pad_inside_pointwise`: pad x by (1, 2), y by (0, 1) -/
example (mode : PadMode) : (pw0.map (·.dim)).Nodup ∧ (∃ g, padMesh f0.mesh pw0 = .ok g) ∧
    ∃ g, padFld f0 pw0 mode = .ok g :=
  ⟨by decide, pad_accepts f0 f0_wf rfl pw0 (by decide)
    (fun w hw => (pw0_ok w hw).1) (fun w hw => (pw0_ok w hw).2) f0_bcOk mode⟩

/-- the five modes at one position: axis of 4 cells padded by 3 in front, position 0
(three cells before the source) -/
example : padSrc .constant 4 3 0 = none ∧ padSrc .edge 4 3 0 = some 0 ∧ padSrc .wrap 4 3 0 = some 1 ∧
    padSrc .symmetric 4 3 0 = some 2 ∧ padSrc .reflect 4 3 0 = some 3 := by decide

/-- hypotheses of `resample_region`, `resample_pointwise`: 4 × 2 → 2 × 3 -/
example : ∃ g, resample f0 [2, 3] = .ok g :=
  resample_accepts f0 f0_wf.1 rfl [2, 3] rfl (by decide)

/-- hypothesis of `resample_id` -/
example : ∃ g, resample f0 (f0.mesh.n.map Int.ofNat) = .ok g :=
  resample_accepts f0 f0_wf.1 rfl _ rfl (by decide)

/-- hypothesis of `resample_rejects` -/
example : ∃ e, resample f0 [2, 0] = .error e :=
  resample_rejects f0 [2, 0] (Or.inr ⟨0, by decide, by decide⟩)

/-! ### metadata, subregions, composition laws, further refusals -/

/-- hypotheses of `op_meta`, `op_labels_rule`, `op_meta_passthrough`, `op_wf`, `op_subs_bc`: `f0` is
in constructor state and e.g. `resample` applies to it -/
example : MetaInv f0 ∧ OpSide f0 (.resample [2, 3]) ∧ ∃ g, applyOp f0 (.resample [2, 3]) = .ok g :=
  ⟨rfl, trivial, resample_accepts f0 f0_wf.1 rfl [2, 3] rfl (by decide)⟩

/-- hypotheses of `history_meta`, `history_meta_first`: a two-step history on `f0` -/
example : ∃ g, runOps f0 [.resample [2, 3], .resample [4, 2]] = .ok g := by
  obtain ⟨g1, hg1⟩ := resample_accepts f0 f0_wf.1 rfl [2, 3] rfl (by decide)
  have hwf := op_wf f0 f0_wf (.resample [2, 3]) trivial g1 hg1
  obtain ⟨_, _, hmi⟩ := op_meta_passthrough f0 rfl (.resample [2, 3]) g1 hg1
  obtain ⟨r1, _, _, _⟩ := resample_region f0 _ g1 hg1
  obtain ⟨g2, hg2⟩ := resample_accepts g1 hwf.1 (metaInv_ok g1 hmi).1 [4, 2]
    (by show 2 = g1.mesh.region.ndim; rw [r1]; rfl) (by decide)
  exact ⟨g2, (runOps_cons _ _ _ _).mpr ⟨g1, hg1, (runOps_cons _ _ _ _).mpr ⟨g2, hg2, rfl⟩⟩⟩

/-- the default-label rule of `op_labels_rule` is not vacuous: three components without labels
get `x y z` -/
example : ctorMeta { f0 with nvdim := 3 } = .ok (some ["x", "y", "z"], []) := rfl

/-- hypothesis of `op_rejects_bad_meta`: the state left by `field.vdims = []` on a labelled vector
field — no labels, mapping keyed by the old labels — is refused by the setters … -/
example : metaOk fstale = false := rfl

/-- … while the scalar variant has its one-entry mapping silently dropped -/
example : ctorMeta { f0 with vmap := [("s", "x")] } = .ok (none, []) := rfl

/-- hypotheses of `sel_plane_accepts_subs`, `sel_range_accepts_subs`, and through them of
`sel_plane_subs` / `sel_range_subs`: the mesh `m1` with its subregion of whole cells -/
example : SubsWF m1 ∧ (∃ g, selMesh m1 "x" (.point (3/2)) = .ok g) ∧
    (∃ g, selMesh m1 "x" (.range (1/2) (3/2)) = .ok g) ∧
    ∃ g, selFld f1 "x" (.range (1/2) (3/2)) = .ok (.field g) := by
  refine ⟨?_, ?_, ?_, ?_⟩
  · intro p hp
    obtain ⟨k1, k2, hal⟩ := m1_subs_aligned p hp
    obtain ⟨a1, a2, a3⟩ := aligned_wf m1 m1_inv p.2 k1 k2 hal
    exact ⟨a1, a2, fun b hb => (a3 b hb).le⟩
  · exact (sel_plane_accepts_subs f1 f1_wf rfl m1_subs_aligned (by decide) "x" 0 (by decide) (3/2)
      (show (0 : Rat) ≤ _ by norm_num) (show _ ≤ (4 : Rat) by norm_num)).1
  · exact (sel_range_accepts_subs f1 f1_wf rfl m1_subs_aligned "x" 0 (by decide) (1/2) (3/2)
      (show (0 : Rat) ≤ _ by norm_num) (show _ ≤ (4 : Rat) by norm_num)).1
  · exact (sel_range_accepts_subs f1 f1_wf rfl m1_subs_aligned "x" 0 (by decide) (1/2) (3/2)
      (show (0 : Rat) ≤ _ by norm_num) (show _ ≤ (4 : Rat) by norm_num)).2

/-- hypotheses of `getitem_aligned_pointwise`: the aligned box `s0` of `f1` -/
example : SubAligned f1.mesh s0 k1 k2 ∧ ∃ g, getItem f1 (.region s0) = .ok g :=
  ⟨s0_aligned, (getitem_region_accepts f1 f1_wf rfl s0 (boxIn_of_aligned m1 m1_inv s0 k1 k2 s0_aligned) rfl).2⟩

/-- hypothesis of `getitem_whole_id` -/
example : ∃ g, getItem f0 (.region f0.mesh.region) = .ok g :=
  (getitem_region_accepts f0 f0_wf rfl _ (boxIn_of_aligned m0 m0_inv _ _ _ (whole_aligned m0 m0_inv)) rfl).2

/-- hypotheses of `pad_crop_roundtrip` / `pad_crop_accepts`, in every mode -/
example (mode : PadMode) : ∃ g h, padFld f0 pw0 mode = .ok g ∧ getItem g (.region f0.mesh.region) = .ok h := by
  obtain ⟨g, hg⟩ := (pad_accepts f0 f0_wf rfl pw0 (by decide)
    (fun w hw => (pw0_ok w hw).1) (fun w hw => (pw0_ok w hw).2) f0_bcOk mode).2
  obtain ⟨h, hh⟩ := pad_crop_accepts f0 f0_wf rfl pw0 (by decide) mode g hg
  exact ⟨g, h, hg, hh⟩

/-- hypotheses of `resample_refine` (4 × 2 → 8 × 2, factors 2 and 1) and of
`resample_refine_back_id` (back to 4 × 2) -/
example : ∃ g k, resample f0 [8, 2] = .ok g ∧
    (∀ b, b < f0.mesh.ndim → 0 < (fun b => if b = 0 then 2 else 1) b ∧
      g.mesh.nAt b = (fun b => if b = 0 then 2 else 1) b * f0.mesh.nAt b) ∧
    resample g (f0.mesh.n.map Int.ofNat) = .ok k := by
  obtain ⟨g, hg⟩ := resample_accepts f0 f0_wf.1 rfl [8, 2] rfl (by decide)
  have hwf := op_wf f0 f0_wf (.resample [8, 2]) trivial g hg
  obtain ⟨_, _, hmi⟩ := op_meta_passthrough f0 rfl (.resample [8, 2]) g hg
  obtain ⟨r1, r2, _, _⟩ := resample_region f0 _ g hg
  obtain ⟨k, hk⟩ := resample_accepts g hwf.1 (metaInv_ok g hmi).1 (f0.mesh.n.map Int.ofNat)
    (by show 2 = g.mesh.region.ndim; rw [r1]; rfl) (by decide)
  refine ⟨g, k, hg, ?_, hk⟩
  intro b hb
  rcases lt_two b hb with rfl | rfl
  · exact ⟨by decide, by rw [nAt_def, r2]; rfl⟩
  · exact ⟨by decide, by rw [nAt_def, r2]; rfl⟩

/-- hypotheses of `resample_coarsen` (4 × 2 → 2 × 1, factors 2 and 2) -/
example : ∃ g, resample f0 [2, 1] = .ok g ∧
    ∀ b, b < f0.mesh.ndim → f0.mesh.nAt b = (fun _ => 2) b * g.mesh.nAt b := by
  obtain ⟨g, hg⟩ := resample_accepts f0 f0_wf.1 rfl [2, 1] rfl (by decide)
  obtain ⟨_, r2, _, _⟩ := resample_region f0 _ g hg
  refine ⟨g, hg, ?_⟩
  intro b hb
  rcases lt_two b hb with rfl | rfl
  · rw [nAt_def g.mesh, r2]; rfl
  · rw [nAt_def g.mesh, r2]; rfl

/-- hypotheses of `pad_rejects`: an axis name the region does not have; a negative width -/
example : (∃ w, w ∈ [(⟨"q", 1, 1⟩ : PadW)] ∧ ∀ a, f0.mesh.region.dim2index w.dim ≠ .ok a) ∧
    (∃ w, w ∈ [(⟨"x", -1, 1⟩ : PadW)] ∧ (w.lo < 0 ∨ w.hi < 0)) :=
  ⟨⟨⟨"q", 1, 1⟩, List.mem_cons_self .., fun a h => by
      have : f0.mesh.region.dim2index "q" = .error .value := by decide
      rw [this] at h; cases h⟩,
   ⟨⟨"x", -1, 1⟩, List.mem_cons_self .., Or.inl (by decide)⟩⟩

/-- hypothesis of `getitem_region_rejected`: a 1-d box asked of a 2-d mesh -/
example : (reg1 [1] [2]).ndim ≠ f0.mesh.ndim := by decide

/-- hypotheses of `sel_plane_1d_value`: the 1-d field `f2` -/
example : f2.mesh.Inv ∧ f2.mesh.ndim = 1 ∧ f2.mesh.region.dim2index "x" = .ok 0 ∧
    f2.mesh.region.lo 0 ≤ 5/2 ∧ (5/2 : Rat) ≤ f2.mesh.region.hi 0 :=
  ⟨m2_inv, rfl, by decide, show (0 : Rat) ≤ _ by norm_num, show _ ≤ (4 : Rat) by norm_num⟩

/-- hypotheses of `sel_range_range`: cells 1..2 of `f0` along x, then the sub-range
`[5/4, 7/4]` of that, against the sub-range taken directly -/
example : ∃ g h h', selFld f0 "x" (.range (3/2) (5/2)) = .ok (.field g) ∧
    selFld g "x" (.range (5/4) (7/4)) = .ok (.field h) ∧
    selFld f0 "x" (.range (5/4) (7/4)) = .ok (.field h') ∧
    f0.mesh.region.dim2index "x" = .ok 0 ∧ max (5/4 : Rat) (7/4) < g.mesh.region.hi 0 := by
  have hd : f0.mesh.region.dim2index "x" = .ok 0 := by decide
  obtain ⟨g, hg⟩ := (sel_range_accepts f0 f0_wf rfl rfl "x" 0 hd (3/2) (5/2)
    (show (0 : Rat) ≤ _ by norm_num) (show _ ≤ (4 : Rat) by norm_num)).2
  obtain ⟨h', hh'⟩ := (sel_range_accepts f0 f0_wf rfl rfl "x" 0 hd (5/4) (7/4)
    (show (0 : Rat) ≤ _ by norm_num) (show _ ≤ (4 : Rat) by norm_num)).2
  have happ : applyOp f0 (.sel "x" (.range (3/2) (5/2))) = .ok g := applyOp_sel hg
  have hwf := op_wf f0 f0_wf (.sel "x" (.range (3/2) (5/2))) trivial g happ
  obtain ⟨hmesh, _⟩ := op_meta f0 _ g happ
  have hmesh' : selMesh f0.mesh "x" (.range (3/2) (5/2)) = .ok g.mesh := hmesh
  obtain ⟨_, _, hmi⟩ := op_meta_passthrough f0 rfl _ g happ
  obtain ⟨a, hda, _, _, _, gd, _, _, glo, ghi, _⟩ := sel_range_shape f0.mesh f0_wf.1 "x" _ _ g.mesh hmesh'
  cases hd.symm.trans hda
  have hmin : min (3/2 : Rat) (5/2) = 3/2 := by norm_num
  have hmax : max (3/2 : Rat) (5/2) = 5/2 := by norm_num
  rw [hmin, ex_idx (3/2) 1 (by decide) (by norm_num) (by norm_num)] at glo
  rw [hmax, ex_idx (5/2) 2 (by decide) (by norm_num) (by norm_num)] at ghi
  have hlo : g.mesh.region.lo 0 = 1 := by
    rw [glo, f0_face]; norm_num
  have hhi : g.mesh.region.hi 0 = 3 := by
    rw [ghi, f0_face]; norm_num
  have hsubs : g.mesh.subs = [] := selMesh_nosubs f0.mesh rfl _ _ g.mesh hmesh'
  have hdg : g.mesh.region.dim2index "x" = .ok 0 := by rw [T.dim2index_congr _ _ gd]; exact hd
  obtain ⟨h, hh⟩ := (sel_range_accepts g hwf (metaInv_ok g hmi).1 hsubs "x" 0 hdg (5/4) (7/4)
    (by rw [hlo]; norm_num) (by rw [hhi]; norm_num)).2
  exact ⟨g, h, h', hg, hh, hh', hd, by rw [hhi]; norm_num⟩

/-- hypothesis of `sel_range_whole_id`: the whole extent of `x` as a range -/
example : ∃ g, selFld f0 "x" (.range (f0.mesh.region.lo 0) (f0.mesh.region.hi 0)) = .ok (.field g) :=
  (sel_range_accepts f0 f0_wf rfl rfl "x" 0 (by decide) _ _
    (by norm_num [f0, m0, reg, Region.lo, Region.hi]) (by norm_num [f0, m0, reg, Region.lo, Region.hi])).2

/-- hypotheses of `pad_zero_id`: the empty dictionary -/
example (mode : PadMode) : (∀ b, sumW f0.mesh (·.lo) [] b = 0 ∧ sumW f0.mesh (·.hi) [] b = 0) ∧
    ∃ g, padFld f0 [] mode = .ok g :=
  ⟨fun _ => ⟨rfl, rfl⟩, (pad_accepts f0 f0_wf rfl [] (by decide) (fun w hw => by cases hw)
    (fun w hw => by cases hw) f0_bcOk mode).2⟩

/-- hypotheses of `getitem_getitem`: the box `box` of `f0`, then the same box of the result -/
example : ∃ g h h', BoxIn f0.mesh box ∧ getItem f0 (.region box) = .ok g ∧ BoxIn g.mesh box ∧
    getItem g (.region box) = .ok h ∧ getItem f0 (.region box) = .ok h' := by
  obtain ⟨g, hg⟩ := (getitem_region_accepts f0 f0_wf rfl box box_in rfl).2
  have gwf := op_wf f0 f0_wf (.get (.region box)) box_in g hg
  obtain ⟨_, _, hmi⟩ := op_meta_passthrough f0 rfl (.get (.region box)) g hg
  obtain ⟨hgm, _⟩ := getitem_region_pointwise f0 f0_wf box box_in g hg
  obtain ⟨e1, _, _, hax⟩ := getRegion_smallest f0.mesh f0_wf.1 box box_in g.mesh hgm
  have hb2 : BoxIn g.mesh box := by
    refine ⟨by rw [e1]; exact box_in.1, ?_⟩
    intro a ha
    rw [e1] at ha
    obtain ⟨_, _, _, _, _, _, _, _, q5, q6, _, _⟩ := hax a ha
    exact ⟨q5, (box_in.2 a ha).2.1, q6⟩
  obtain ⟨h, hh⟩ := (getitem_region_accepts g gwf (metaInv_ok g hmi).1 box hb2 (by rw [e1]; rfl)).2
  exact ⟨g, h, g, box_in, hg, hb2, hh, hg⟩

end NonVacuity

/-! ## Refusals as equivalences -/

/-- Plane selection is accepted EXACTLY for the coordinates of the closed edge (rejected ⇔ outside or
unknown axis), on every well-formed field whose subregions consist of whole cells: by the
normalisation, by `Field.sel` (on a 1-d field the answer is the bare value) and — when there is an
axis left — by `Mesh.sel`. -/
theorem sel_plane_ok_iff (f : Fld) (hf : FldWF f) (hmeta : metaOk f = true)
    (hsubs : ∀ p, p ∈ f.mesh.subs → ∃ k1 k2, SubAligned f.mesh p.2 k1 k2)
    (dim : String) (x : Rat) :
    ((∃ r, selConvert f.mesh dim (.point x) = .ok r) ↔
      ∃ a, f.mesh.region.dim2index dim = .ok a ∧ f.mesh.region.lo a ≤ x ∧ x ≤ f.mesh.region.hi a) ∧
    ((∃ out, selFld f dim (.point x) = .ok out) ↔
      ∃ a, f.mesh.region.dim2index dim = .ok a ∧ f.mesh.region.lo a ≤ x ∧ x ≤ f.mesh.region.hi a) ∧
    (2 ≤ f.mesh.ndim → ((∃ g, selMesh f.mesh dim (.point x) = .ok g) ↔
      ∃ a, f.mesh.region.dim2index dim = .ok a ∧ f.mesh.region.lo a ≤ x ∧ x ≤ f.mesh.region.hi a)) := by
  have hconv : (∃ r, selConvert f.mesh dim (.point x) = .ok r) ↔
      ∃ a, f.mesh.region.dim2index dim = .ok a ∧ f.mesh.region.lo a ≤ x ∧ x ≤ f.mesh.region.hi a := by
    constructor
    · rintro ⟨⟨a, s⟩, hr⟩
      obtain ⟨hd, h1, h2, _⟩ := (selConvert_point_ok_iff f.mesh hf.1 dim x a s).mp hr
      exact ⟨a, hd, h1, h2⟩
    · rintro ⟨a, hd, h1, h2⟩
      exact ⟨_, (selConvert_point_ok_iff f.mesh hf.1 dim x a _).mpr ⟨hd, h1, h2, rfl⟩⟩
  refine ⟨hconv, ?_, ?_⟩
  · rw [← hconv]
    constructor
    · rintro ⟨out, ho⟩
      exact selConvert_ok_of_selFld ho
    · intro hr
      obtain ⟨a, hd, h1, h2⟩ := hconv.mp hr
      by_cases hnd : 2 ≤ f.mesh.ndim
      · obtain ⟨g, hg⟩ := (sel_plane_accepts_subs f hf hmeta hsubs hnd dim a hd x h1 h2).2
        exact ⟨_, hg⟩
      · have h1d : f.mesh.ndim = 1 := by have := hf.1.ndim_pos; omega
        exact ⟨_, (sel_plane_1d_value f hf.1 h1d dim a hd x h1 h2).2⟩
  · intro hnd
    rw [← hconv]
    constructor
    · rintro ⟨g, hg⟩
      exact selConvert_ok_of_selMesh hg
    · intro hr
      obtain ⟨a, hd, h1, h2⟩ := hconv.mp hr
      exact (sel_plane_accepts_subs f hf hmeta hsubs hnd dim a hd x h1 h2).1

/-- Range selection is accepted EXACTLY when both bounds lie in the closed edge of a known axis
(bounds in either order) — by the normalisation, `Mesh.sel` and `Field.sel` alike. -/
theorem sel_range_ok_iff (f : Fld) (hf : FldWF f) (hmeta : metaOk f = true)
    (hsubs : ∀ p, p ∈ f.mesh.subs → ∃ k1 k2, SubAligned f.mesh p.2 k1 k2)
    (dim : String) (x y : Rat) :
    ((∃ r, selConvert f.mesh dim (.range x y) = .ok r) ↔
      ∃ a, f.mesh.region.dim2index dim = .ok a ∧ f.mesh.region.lo a ≤ min x y ∧ max x y ≤ f.mesh.region.hi a) ∧
    ((∃ g, selMesh f.mesh dim (.range x y) = .ok g) ↔
      ∃ a, f.mesh.region.dim2index dim = .ok a ∧ f.mesh.region.lo a ≤ min x y ∧ max x y ≤ f.mesh.region.hi a) ∧
    ((∃ g, selFld f dim (.range x y) = .ok (.field g)) ↔
      ∃ a, f.mesh.region.dim2index dim = .ok a ∧ f.mesh.region.lo a ≤ min x y ∧ max x y ≤ f.mesh.region.hi a) := by
  have hconv : (∃ r, selConvert f.mesh dim (.range x y) = .ok r) ↔
      ∃ a, f.mesh.region.dim2index dim = .ok a ∧ f.mesh.region.lo a ≤ min x y ∧ max x y ≤ f.mesh.region.hi a := by
    constructor
    · rintro ⟨⟨a, s⟩, hr⟩
      obtain ⟨hd, h1, h2, _⟩ := (selConvert_range_ok_iff f.mesh hf.1 dim x y a s).mp hr
      exact ⟨a, hd, h1, h2⟩
    · rintro ⟨a, hd, h1, h2⟩
      exact ⟨_, (selConvert_range_ok_iff f.mesh hf.1 dim x y a _).mpr ⟨hd, h1, h2, rfl⟩⟩
  refine ⟨hconv, ?_, ?_⟩
  · rw [← hconv]
    constructor
    · rintro ⟨g, hg⟩
      exact selConvert_ok_of_selMesh hg
    · intro hr
      obtain ⟨a, hd, h1, h2⟩ := hconv.mp hr
      exact (sel_range_accepts_subs f hf hmeta hsubs dim a hd x y h1 h2).1
  · rw [← hconv]
    constructor
    · rintro ⟨g, hg⟩
      exact selConvert_ok_of_selFld hg
    · intro hr
      obtain ⟨a, hd, h1, h2⟩ := hconv.mp hr
      exact (sel_range_accepts_subs f hf hmeta hsubs dim a hd x y h1 h2).2

/-- `Field.resample n` is accepted EXACTLY for one positive count per axis. -/
theorem resample_ok_iff (f : Fld) (hf : f.mesh.Inv) (hmeta : metaOk f = true) (n : List Int) :
    (∃ g, resample f n = .ok g) ↔ (n.length = f.mesh.ndim ∧ ∀ k, k ∈ n → 0 < k) := by
  constructor
  · rintro ⟨g, hg⟩
    obtain ⟨_, _, h3, h4⟩ := resample_region f n g hg
    exact ⟨h3, h4⟩
  · rintro ⟨h1, h2⟩
    exact resample_accepts f hf hmeta n h1 h2

/-- `Field.pad` is accepted EXACTLY when every named axis exists and every width is non-negative
(any mode). -/
theorem pad_ok_iff (f : Fld) (hf : FldWF f) (hmeta : metaOk f = true) (pw : List PadW)
    (hnd : (pw.map (·.dim)).Nodup)
    (hbc : Mesh.bcOk f.mesh.region.dims f.mesh.bc.toLower = true) (mode : PadMode) :
    (∃ g, padFld f pw mode = .ok g) ↔
      ∀ w, w ∈ pw → (∃ a, f.mesh.region.dim2index w.dim = .ok a) ∧ 0 ≤ w.lo ∧ 0 ≤ w.hi := by
  constructor
  · rintro ⟨g, hg⟩ w hw
    obtain ⟨r1, r2⟩ := pad_rejects f pw mode
    refine ⟨?_, ?_, ?_⟩
    · by_contra hcon
      obtain ⟨_, e, he⟩ := r1 ⟨w, hw, fun a ha => hcon ⟨a, ha⟩⟩
      rw [hg] at he; cases he
    · by_contra hcon
      obtain ⟨e, he⟩ := r2 ⟨w, hw, Or.inl (by omega)⟩
      rw [hg] at he; cases he
    · by_contra hcon
      obtain ⟨e, he⟩ := r2 ⟨w, hw, Or.inr (by omega)⟩
      rw [hg] at he; cases he
  · intro h
    exact (pad_accepts f hf hmeta pw hnd (fun w hw => (h w hw).1) (fun w hw => (h w hw).2) hbc mode).2

/-- `mesh[name]` / `field[name]` are accepted EXACTLY for the names of subregions. -/
theorem getitem_name_ok_iff (f : Fld) (hf : FldWF f) (hmeta : metaOk f = true)
    (hsubs : ∀ p, p ∈ f.mesh.subs → ∃ k1 k2, SubAligned f.mesh p.2 k1 k2) (name : String) :
    ((∃ g, getName f.mesh name = .ok g) ↔ ∃ s, findSub f.mesh.subs name = some s) ∧
    ((∃ g, getItem f (.name name) = .ok g) ↔ ∃ s, findSub f.mesh.subs name = some s) := by
  have hmem : ∀ s, findSub f.mesh.subs name = some s → ∃ k1 k2, SubAligned f.mesh s k1 k2 := by
    intro s hs
    unfold findSub at hs
    cases hfd : f.mesh.subs.find? (fun p => p.1 == name) with
    | none => rw [hfd] at hs; cases hs
    | some p =>
      rw [hfd] at hs
      simp only [Option.map_some, Option.some.injEq] at hs
      subst hs
      exact hsubs p (List.mem_of_find?_eq_some hfd)
  constructor
  · constructor
    · rintro ⟨g, hg⟩
      cases hfd : findSub f.mesh.subs name with
      | none =>
        obtain ⟨⟨e, he⟩, _⟩ := getitem_outside_rejected f (.name name) (Or.inl ⟨name, rfl, hfd⟩)
        have : getName f.mesh name = .error e := he
        rw [hg] at this; cases this
      | some s => exact ⟨s, rfl⟩
    · rintro ⟨s, hs⟩
      obtain ⟨k1, k2, hal⟩ := hmem s hs
      exact (getitem_name_accepts f hf hmeta name s hs k1 k2 hal).1
  · constructor
    · rintro ⟨g, hg⟩
      cases hfd : findSub f.mesh.subs name with
      | none =>
        obtain ⟨_, e, he⟩ := getitem_outside_rejected f (.name name) (Or.inl ⟨name, rfl, hfd⟩)
        rw [hg] at he; cases he
      | some s => exact ⟨s, rfl⟩
    · rintro ⟨s, hs⟩
      obtain ⟨k1, k2, hal⟩ := hmem s hs
      exact (getitem_name_accepts f hf hmeta name s hs k1 k2 hal).2

/-! ## Composition laws and round trips on inputs only -/

/-- Every accepted operation on a field in constructor state keeps component count, unit, labels
and mapping, and returns a field in constructor state (`op_meta` and `op_meta_passthrough` in one). -/
theorem op_meta_kept (f : Fld) (hmi : MetaInv f) (op : FOp) (g : Fld) (h : applyOp f op = .ok g) :
    g.nvdim = f.nvdim ∧ g.unit = f.unit ∧ g.vdims = f.vdims ∧ g.vmap = f.vmap ∧ MetaInv g := by
  obtain ⟨_, a1, a2, _⟩ := op_meta f op g h
  obtain ⟨b1, b2, b3⟩ := op_meta_passthrough f hmi op g h
  exact ⟨a1, a2, b1, b2, b3⟩

/-- Invariant: subregions made of whole cells stay subregions made of whole cells (of the result
mesh) under a plane selection — so acceptance chains along histories of selections. -/
theorem sel_plane_subs_aligned (m : Mesh) (hm : m.Inv) (hsubs : SubsAligned m) (dim : String) (arg : SelArg)
    (a : Nat) (c : Rat) (k : Nat) (hconv : selConvert m dim arg = .ok (a, .plane c k))
    (g : Mesh) (h : selMesh m dim arg = .ok g) : SubsAligned g := by
  obtain ⟨s1, s2, _, _, _, sax, _⟩ := sel_plane_shape m hm dim arg a c k hconv g h
  have ha := hm.dim2index_lt (selConvert_dim hconv)
  have hF := sel_plane_subs m hm (subsAligned_wf m hm hsubs) dim arg a c k hconv ha g h
  intro q hq
  obtain ⟨p, hp, _, _, _, _, q5, q6, q7⟩ := forall2_mem_left hF q hq
  obtain ⟨k1, k2, hal⟩ := hsubs p (List.mem_filter.mp hp).1
  refine ⟨fun b => k1 (skip a b), fun b => k2 (skip a b), ?_, ?_, ?_⟩
  · rw [q5, s1]
  · rw [q6, s1]
  · intro b hb
    rw [s1] at hb
    obtain ⟨e1, e2, e3, e4⟩ := sax b (by rw [s1]; exact hb)
    obtain ⟨t1, t2, t3, t4⟩ := hal.2.2 (skip a b) (skip_lt a b m.ndim ha hb)
    obtain ⟨u1, u2⟩ := q7 b hb
    exact ⟨t1, by rw [e3]; exact t2, by rw [u1, t3, e1, e4], by rw [u2, t4, e1, e4]⟩

/-- … and under a range selection: every surviving (clipped) subregion consists of whole cells of the
result mesh. -/
theorem sel_range_subs_aligned (m : Mesh) (hm : m.Inv) (hsubs : SubsAligned m) (dim : String) (x y : Rat)
    (g : Mesh) (h : selMesh m dim (.range x y) = .ok g) : SubsAligned g := by
  obtain ⟨a, hd, b1, b2, hk, blk⟩ := selMesh_range_block m hm dim x y g h
  have ha := hm.dim2index_lt hd
  have hc := hm.cellAt_pos ha
  have hkr : (m.indexAx a (min x y) : Rat) ≤ (m.indexAx a (max x y) : Rat) := by exact_mod_cast hk
  -- the subregions of `g`: the kept ones, clipped to the slab of the selected cells and stored
  rw [selMesh_of_convert (selConvert_range m hm dim a hd x y b1 b2).1] at h
  obtain ⟨subs, m0, hs, _, hgs⟩ := selRangeMesh_subs m a _ _ g h
  rw [centre_sub_half, centre_add_half,
    rangeSubs_ok a _ _ _ ((C01.face_lt hc _ _).mpr (by linarith)) (by linarith) m.ndim ha m.subs (fun p hp => by
      obtain ⟨k1, k2, hal⟩ := hsubs p hp
      exact aligned_wf m hm p.2 k1 k2 hal)] at hs
  injection hs with hs
  intro q hq
  rw [hgs, ← hs] at hq
  obtain ⟨_, hx, rfl⟩ := List.mem_map.mp hq
  obtain ⟨p, hp, rfl⟩ := List.mem_map.mp hx
  obtain ⟨hmem, hkeep⟩ := List.mem_filter.mp hp
  rw [decide_eq_true_iff] at hkeep
  obtain ⟨k1, k2, hal⟩ := hsubs p hmem
  obtain ⟨_, _, t3, t4⟩ := hal.2.2 a ha
  rw [t3, t4] at hkeep
  have ba := blk.axis a ha
  rw [rangeOff_self, rangeCnt_self] at ba
  exact rangeSub_aligned m g hm (blk.inv hm) a ha _ _ hk blk.ndim ba
    (fun b hb hba => by have := blk.axis b hb; rwa [rangeOff_of_ne hba, rangeCnt_of_ne _ hba] at this)
    p.2 k1 k2 hal ((half_cell_overlap_iff hc _ _ (k1 a) (k2 a)).mp hkeep)

/-- Range then sub-range equals the sub-range, on inputs only and without exception: for a range
inside the region and a sub-range inside that range (bounds of both in either order), the three
selections are accepted — also on meshes with subregions — and `f.sel(d=(x,y)).sel(d=(x',y'))` is
`f.sel(d=(x',y'))`: region, counts, metadata, values, validity.  (The face exception of
`sel_range_range` cannot occur: an upper bound on the upper face of the first selection would have
to exceed the first range.) -/
theorem sel_range_range_total (f : Fld) (hf : FldWF f) (hmi : MetaInv f) (hsubs : SubsAligned f.mesh)
    (dim : String) (a : Nat) (hd : f.mesh.region.dim2index dim = .ok a) (x y x' y' : Rat)
    (h1 : f.mesh.region.lo a ≤ min x y) (h2 : max x y ≤ f.mesh.region.hi a)
    (h3 : min x y ≤ min x' y') (h4 : max x' y' ≤ max x y) :
    ∃ g h h', selFld f dim (.range x y) = .ok (.field g) ∧ selFld g dim (.range x' y') = .ok (.field h) ∧
      selFld f dim (.range x' y') = .ok (.field h') ∧
      h.mesh.region = h'.mesh.region ∧ h.mesh.n = h'.mesh.n ∧
      h.nvdim = h'.nvdim ∧ h.unit = h'.unit ∧ h.vdims = h'.vdims ∧ h.vmap = h'.vmap ∧
      ∀ j, inRange h.mesh.n j = true → h.data.get j = h'.data.get j ∧ h.valid.get j = h'.valid.get j := by
  have hinv := hf.1
  have ha := hinv.dim2index_lt hd
  have hn := hinv.nAt_pos ha
  have hmm : min x y ≤ max x y := min_le_max
  obtain ⟨g, hg⟩ := (sel_range_accepts_subs f hf (metaInv_ok f hmi).1 hsubs dim a hd x y h1 h2).2
  obtain ⟨h', hh'⟩ := (sel_range_accepts_subs f hf (metaInv_ok f hmi).1 hsubs dim a hd x' y'
    (le_trans h1 h3) (le_trans h4 h2)).2
  have happ : applyOp f (.sel dim (.range x y)) = .ok g := applyOp_sel hg
  have happ' : applyOp f (.sel dim (.range x' y')) = .ok h' := applyOp_sel hh'
  have gwf := op_wf f hf (.sel dim (.range x y)) trivial g happ
  obtain ⟨hgm, _⟩ := op_meta f _ g happ
  have hgm' : selMesh f.mesh dim (.range x y) = .ok g.mesh := hgm
  obtain ⟨m1, m2, m3, m4, gmi⟩ := op_meta_kept f hmi _ g happ
  obtain ⟨m1', m2', m3', m4', _⟩ := op_meta_kept f hmi _ h' happ'
  obtain ⟨a', hda, _, _, g1, g2, _, _, g5, g6, _, g8, _, _⟩ := sel_range_shape f.mesh hinv dim x y g.mesh hgm'
  cases hd.symm.trans hda
  have hdg : g.mesh.region.dim2index dim = .ok a := by rw [T.dim2index_congr _ _ g2]; exact hd
  have gsubs := sel_range_subs_aligned f.mesh hinv hsubs dim x y g.mesh hgm'
  obtain ⟨c1, _⟩ := index_contains f.mesh a (min x y) hn (hinv.lo_lt_hi ha) h1 (le_trans hmm h2)
  obtain ⟨_, c2⟩ := index_contains f.mesh a (max x y) hn (hinv.lo_lt_hi ha) (le_trans h1 hmm) h2
  have hglo : g.mesh.region.lo a ≤ min x' y' := by rw [g5]; linarith
  have hghi : max x' y' ≤ g.mesh.region.hi a ∧
      (max x' y' < g.mesh.region.hi a ∨ g.mesh.region.hi a = f.mesh.region.hi a) := by
    rw [g6]
    rcases c2 with c2 | ⟨c2, c3⟩
    · exact ⟨by linarith, Or.inl (by linarith)⟩
    · have hcast : ((f.mesh.nAt a - 1 : Nat) : Rat) = (f.mesh.nAt a : Rat) - 1 := by
        push_cast [Nat.cast_sub (by omega : 1 ≤ f.mesh.nAt a)]; ring
      have : f.mesh.region.lo a + ((f.mesh.indexAx a (max x y) : Rat) + 1) * f.mesh.cellAt a = f.mesh.region.hi a := by
        rw [c2, hcast, C01.hi_eq f.mesh a hn]; ring
      rw [this]
      exact ⟨le_trans h4 h2, Or.inr rfl⟩
  obtain ⟨h, hh⟩ := (sel_range_accepts_subs g gwf (metaInv_ok g gmi).1 gsubs dim a hdg x' y' hglo hghi.1).2
  have happ2 : applyOp g (.sel dim (.range x' y')) = .ok h := applyOp_sel hh
  obtain ⟨n1, n2, n3, n4, _⟩ := op_meta_kept g gmi _ h happ2
  obtain ⟨r1, r2, r3⟩ := sel_range_range f hf dim x y x' y' g h h' hg hh hh' a hd hghi.2
  exact ⟨g, h, h', hg, hh, hh', r1, r2, by rw [n1, m1, m1'], by rw [n2, m2, m2'], by rw [n3, m3, m3'],
    by rw [n4, m4, m4'], r3⟩

/-- The exception of `sel_range_range`, exactly: a sub-range whose upper bound lies ON the upper face
of the first selection (and that face is inside the region).  After the first selection the face
belongs to the last kept cell; in the original mesh it belongs to the next cell.  Hence the direct
selection has exactly one more layer on top — same lower corner, one more cell, upper corner one
cell higher, every other axis identical — and agrees with the two-step selection on all cells of
the latter. -/
theorem sel_range_range_face (f : Fld) (hf : FldWF f) (hmi : MetaInv f) (hsubs : SubsAligned f.mesh)
    (dim : String) (a : Nat) (hd : f.mesh.region.dim2index dim = .ok a) (x y x' y' : Rat)
    (h1 : f.mesh.region.lo a ≤ min x y) (h2 : max x y ≤ f.mesh.region.hi a)
    (h3 : f.mesh.region.lo a + (f.mesh.indexAx a (min x y) : Rat) * f.mesh.cellAt a ≤ min x' y')
    (h4 : min x' y' < max x' y')
    (hU : max x' y' = f.mesh.region.lo a + ((f.mesh.indexAx a (max x y) : Rat) + 1) * f.mesh.cellAt a)
    (hUlt : max x' y' < f.mesh.region.hi a) :
    ∃ g h h', selFld f dim (.range x y) = .ok (.field g) ∧ selFld g dim (.range x' y') = .ok (.field h) ∧
      selFld f dim (.range x' y') = .ok (.field h') ∧
      h'.mesh.ndim = h.mesh.ndim ∧
      h'.mesh.region.lo a = h.mesh.region.lo a ∧
      h'.mesh.region.hi a = h.mesh.region.hi a + f.mesh.cellAt a ∧
      h'.mesh.nAt a = h.mesh.nAt a + 1 ∧
      (∀ b, b < f.mesh.ndim → b ≠ a → h'.mesh.region.lo b = h.mesh.region.lo b ∧
        h'.mesh.region.hi b = h.mesh.region.hi b ∧ h'.mesh.nAt b = h.mesh.nAt b) ∧
      ∀ j, inRange h.mesh.n j = true →
        inRange h'.mesh.n j = true ∧ h.data.get j = h'.data.get j ∧ h.valid.get j = h'.valid.get j := by
  have hinv := hf.1
  have ha := hinv.dim2index_lt hd
  have hc := hinv.cellAt_pos ha
  have hn := hinv.nAt_pos ha
  have hmo := (metaInv_ok f hmi).1
  have hflo : f.mesh.region.lo a ≤ min x' y' :=
    le_trans (le_add_of_nonneg_right (mul_nonneg (Nat.cast_nonneg _) hc.le)) h3
  -- the three selections are accepted
  obtain ⟨g, hg⟩ := (sel_range_accepts_subs f hf hmo hsubs dim a hd x y h1 h2).2
  obtain ⟨h', hh'⟩ := (sel_range_accepts_subs f hf hmo hsubs dim a hd x' y' hflo hUlt.le).2
  obtain ⟨a1, hd1, _, _, hk, hgm, bg⟩ := selFld_range_block f hinv dim x y g hg
  cases hd.symm.trans hd1
  have ginv := bg.mesh.inv hinv
  have hdg : g.mesh.region.dim2index dim = .ok a := by rw [T.dim2index_congr _ _ bg.mesh.dims]; exact hd
  have blk := bg.mesh.axis a ha
  rw [rangeOff_self, rangeCnt_self] at blk
  have hghi : max x' y' = g.mesh.region.hi a := by
    rw [hU, block_hi blk (Nat.succ_pos _), Nat.cast_add_one, Nat.cast_sub hk]; ring
  have happ : applyOp f (.sel dim (.range x y)) = .ok g := applyOp_sel hg
  obtain ⟨h, hh⟩ := (sel_range_accepts_subs g (op_wf f hf (.sel dim (.range x y)) trivial g happ)
    (metaInv_ok g (op_meta_kept f hmi _ g happ).2.2.2.2).1
    (sel_range_subs_aligned f.mesh hinv hsubs dim x y g.mesh hgm) dim a hdg x' y'
    (by rw [blk.lo]; exact h3) hghi.le).2
  refine ⟨g, h, h', hg, hh, hh', ?_⟩
  obtain ⟨a2, hd2, c1, c2, _, _, bh⟩ := selFld_range_block g ginv dim x' y' h hh
  cases hdg.symm.trans hd2
  obtain ⟨a3, hd3, _, _, hk', _, bh'⟩ := selFld_range_block f hinv dim x' y' h' hh'
  cases hd.symm.trans hd3
  -- the lower bound has the same cell in `g` and `f`; the upper bound is the last cell of `g` but the
  -- cell after it in `f`
  have hgn : 0 < g.mesh.nAt a := by rw [blk.n]; exact Nat.succ_pos _
  have hgc : 0 < g.mesh.cellAt a := by rw [blk.cell]; exact hc
  have i1 := indexAx_block blk (Nat.succ_pos _) hc _ c1 (Or.inl (hghi ▸ h4))
  have i2g : g.mesh.indexAx a (max x' y') = f.mesh.indexAx a (max x y) - f.mesh.indexAx a (min x y) := by
    rw [hghi, indexAx_hi g.mesh a hgn hgc, blk.n]; omega
  have hK2n : f.mesh.indexAx a (max x y) + 1 < f.mesh.nAt a := by
    rw [hU, C01.hi_eq f.mesh a hn, C01.face_lt hc] at hUlt
    exact_mod_cast hUlt
  have i2f : f.mesh.indexAx a (max x' y') = f.mesh.indexAx a (max x y) + 1 := by
    rw [hU, ← Nat.cast_add_one]
    exact indexAx_grid f.mesh a _ hK2n hc _ le_rfl (lt_add_one _)
  -- both results as blocks of `f` from the same first cell; the direct one has one more layer
  have bhf : FldBlock h f (rangeOff a (f.mesh.indexAx a (min x' y')))
      (rangeCnt f.mesh a (f.mesh.indexAx a (min x' y')) (f.mesh.indexAx a (max x y))) :=
    (bg.trans ginv bh).congr fun b hb => by
      by_cases hba : b = a
      · subst hba
        rw [rangeOff_self, rangeOff_self, rangeOff_self, rangeCnt_self, rangeCnt_self, i1, i2g]
        exact ⟨rfl, by omega⟩
      · rw [rangeOff_of_ne hba, rangeOff_of_ne hba, rangeOff_of_ne hba, rangeCnt_of_ne _ hba,
          rangeCnt_of_ne _ hba, (bg.mesh.axis b hb).n, rangeCnt_of_ne _ hba]
        exact ⟨rfl, rfl⟩
  rw [i2f] at bh'
  have ba := bhf.mesh.axis a ha
  have ba' := bh'.mesh.axis a ha
  rw [rangeOff_self, rangeCnt_self] at ba ba'
  refine ⟨bh'.mesh.ndim.trans bhf.mesh.ndim.symm, by rw [ba.lo, ba'.lo], ?_, by rw [ba.n, ba'.n]; omega,
    fun b hb hba => ?_, bhf.cells_of_le bh' fun b _ => by unfold rangeCnt; split <;> omega⟩
  · rw [block_hi ba (Nat.succ_pos _), block_hi ba' (Nat.succ_pos _),
      show f.mesh.indexAx a (max x y) + 1 - f.mesh.indexAx a (min x' y') + 1
        = f.mesh.indexAx a (max x y) - f.mesh.indexAx a (min x' y') + 1 + 1 by omega]
    push_cast; ring
  · have bb := bhf.mesh.axis b hb
    have bb' := bh'.mesh.axis b hb
    rw [rangeOff_of_ne hba, rangeCnt_of_ne _ hba] at bb bb'
    exact bb'.ext bb (hinv.nAt_pos hb)

/-- For `sel_plane_comm_total`: one accepted plane selection on a mesh with subregions of
whole cells, with everything needed to go on: the result is a well-formed field in constructor state whose subregions again consist of
whole cells, with the source's metadata, on the mesh with the axis removed. -/
theorem sel_plane_result_subs (F : Fld) (hF : FldWF F) (hmi : MetaInv F) (hsubs : SubsAligned F.mesh)
    (h2 : 2 ≤ F.mesh.ndim) (d : String) (α : Nat) (hd : F.mesh.region.dim2index d = .ok α) (ξ : Rat)
    (h1 : F.mesh.region.lo α ≤ ξ) (hx2 : ξ ≤ F.mesh.region.hi α) :
    ∃ G, selFld F d (.point ξ) = .ok (.field G) ∧ FldWF G ∧ MetaInv G ∧ SubsAligned G.mesh ∧
      G.nvdim = F.nvdim ∧ G.unit = F.unit ∧ G.vdims = F.vdims ∧ G.vmap = F.vmap ∧
      G.mesh.ndim = F.mesh.ndim - 1 ∧ G.mesh.region.dims = removeAt F.mesh.region.dims α ∧
      ∀ b, b < G.mesh.ndim →
        G.mesh.region.lo b = F.mesh.region.lo (skip α b) ∧ G.mesh.region.hi b = F.mesh.region.hi (skip α b) := by
  obtain ⟨G, hG⟩ := (sel_plane_accepts_subs F hF (metaInv_ok F hmi).1 hsubs h2 d α hd ξ h1 hx2).2
  have happ : applyOp F (.sel d (.point ξ)) = .ok G := applyOp_sel hG
  obtain ⟨m1, m2, m3, m4, gmi⟩ := op_meta_kept F hmi _ G happ
  obtain ⟨hgm, _⟩ := op_meta F _ G happ
  have hgm' : selMesh F.mesh d (.point ξ) = .ok G.mesh := hgm
  have hconv := (selConvert_point F.mesh hF.1 d α hd ξ h1 hx2).1
  have gs := sel_plane_subs_aligned F.mesh hF.1 hsubs d _ α _ _ hconv G.mesh hgm'
  obtain ⟨w, n1, _, d1, _, _, ax, _⟩ := sel_plane_facts F hF d α hd ξ G hG
  exact ⟨G, hG, w, gmi, gs, m1, m2, m3, m4, n1, d1, fun b hb => ⟨(ax b hb).1, (ax b hb).2.1⟩⟩

/-- Plane selections along different axes commute, on inputs only: for a field of at least three
dimensions (with subregions of whole cells), two different axes and coordinates inside their edges,
all four selections are accepted and both orders give the same region, counts, metadata, values and
validity. -/
theorem sel_plane_comm_total (f : Fld) (hf : FldWF f) (hmi : MetaInv f) (hsubs : SubsAligned f.mesh)
    (h3 : 3 ≤ f.mesh.ndim) (da db : String) (a b : Nat) (hab : a ≠ b)
    (hda : f.mesh.region.dim2index da = .ok a) (hdb : f.mesh.region.dim2index db = .ok b) (x y : Rat)
    (hx : f.mesh.region.lo a ≤ x ∧ x ≤ f.mesh.region.hi a)
    (hy : f.mesh.region.lo b ≤ y ∧ y ≤ f.mesh.region.hi b) :
    ∃ g1 h1 g2 h2, selFld f da (.point x) = .ok (.field g1) ∧ selFld g1 db (.point y) = .ok (.field h1) ∧
      selFld f db (.point y) = .ok (.field g2) ∧ selFld g2 da (.point x) = .ok (.field h2) ∧
      h1.mesh.region = h2.mesh.region ∧ h1.mesh.n = h2.mesh.n ∧
      h1.nvdim = h2.nvdim ∧ h1.unit = h2.unit ∧ h1.vdims = h2.vdims ∧ h1.vmap = h2.vmap ∧
      ∀ j, inRange h1.mesh.n j = true → h1.data.get j = h2.data.get j ∧ h1.valid.get j = h2.valid.get j := by
  have ha := hf.1.dim2index_lt hda
  have hb := hf.1.dim2index_lt hdb
  have hdl := hf.1.dims_length
  obtain ⟨g1, e1, w1, i1, s1, p1, p2, p3, p4, n1, d1, ax1⟩ :=
    sel_plane_result_subs f hf hmi hsubs (by omega) da a hda x hx.1 hx.2
  obtain ⟨g2, e3, w2, i2, s2, q1, q2, q3, q4, n2, d2, ax2⟩ :=
    sel_plane_result_subs f hf hmi hsubs (by omega) db b hdb y hy.1 hy.2
  -- the other axis in each intermediate field
  have hdb1 := dim2index_removeAt f.mesh.region g1.mesh.region db a b hdb hab (by omega) d1
  have hda2 := dim2index_removeAt f.mesh.region g2.mesh.region da b a hda (Ne.symm hab) (by omega) d2
  have hlt1 : (if b < a then b else b - 1) < g1.mesh.ndim := by split <;> omega
  have hlt2 : (if a < b then a else a - 1) < g2.mesh.ndim := by split <;> omega
  obtain ⟨l1, l2⟩ := ax1 _ hlt1
  obtain ⟨l3, l4⟩ := ax2 _ hlt2
  rw [skip_pred hab] at l1 l2
  rw [skip_pred hab.symm] at l3 l4
  obtain ⟨h1, e2, _, _, _, r1, r2, r3, r4, _⟩ :=
    sel_plane_result_subs g1 w1 i1 s1 (by omega) db _ hdb1 y (by rw [l1]; exact hy.1) (by rw [l2]; exact hy.2)
  obtain ⟨h2, e4, _, _, _, t1, t2, t3, t4, _⟩ :=
    sel_plane_result_subs g2 w2 i2 s2 (by omega) da _ hda2 x (by rw [l3]; exact hx.1) (by rw [l4]; exact hx.2)
  obtain ⟨c1, c2, c3⟩ := sel_plane_comm f hf da db a b hab hda hdb x y g1 h1 g2 h2 e1 e2 e3 e4
  exact ⟨g1, h1, g2, h2, e1, e2, e3, e4, c1, c2, by rw [r1, p1, t1, q1], by rw [r2, p2, t2, q2],
    by rw [r3, p3, t3, q3], by rw [r4, p4, t4, q4], c3⟩

/-- `field[r1][r2] = field[r2]` on inputs only: for a box `r1` inside the region and a box `r2` inside
`r1`, the three extractions are accepted and the two routes give the same object. -/
theorem getitem_getitem_total (f : Fld) (hf : FldWF f) (hmi : MetaInv f) (r1 r2 : Region)
    (hb1 : BoxIn f.mesh r1) (hp1 : r1.pmax.length = f.mesh.ndim)
    (hn2 : r2.ndim = f.mesh.ndim) (hp2 : r2.pmax.length = f.mesh.ndim)
    (hin : ∀ a, a < f.mesh.ndim → r1.lo a ≤ r2.lo a ∧ r2.lo a < r2.hi a ∧ r2.hi a ≤ r1.hi a) :
    ∃ g h h', getItem f (.region r1) = .ok g ∧ getItem g (.region r2) = .ok h ∧
      getItem f (.region r2) = .ok h' ∧
      h.mesh.region = h'.mesh.region ∧ h.mesh.n = h'.mesh.n ∧ h.mesh.bc = h'.mesh.bc ∧ h.mesh.subs = h'.mesh.subs ∧
      h.nvdim = h'.nvdim ∧ h.unit = h'.unit ∧ h.vdims = h'.vdims ∧ h.vmap = h'.vmap ∧
      ∀ j, inRange h.mesh.n j = true → h.data.get j = h'.data.get j ∧ h.valid.get j = h'.valid.get j := by
  have hmo := (metaInv_ok f hmi).1
  obtain ⟨g, hg⟩ := (getitem_region_accepts f hf hmo r1 hb1 hp1).2
  have hb2' : BoxIn f.mesh r2 := by
    refine ⟨hn2, ?_⟩
    intro a ha
    obtain ⟨c1, c2, c3⟩ := hin a ha
    obtain ⟨d1, d2, d3⟩ := hb1.2 a ha
    exact ⟨by linarith, c2, by linarith⟩
  obtain ⟨h', hh'⟩ := (getitem_region_accepts f hf hmo r2 hb2' hp2).2
  have gwf := op_wf f hf (.get (.region r1)) hb1 g hg
  obtain ⟨m1, m2, m3, m4, gmi⟩ := op_meta_kept f hmi (.get (.region r1)) g hg
  obtain ⟨m1', m2', m3', m4', _⟩ := op_meta_kept f hmi (.get (.region r2)) h' hh'
  obtain ⟨hgm, _⟩ := getitem_region_pointwise f hf r1 hb1 g hg
  obtain ⟨e1, _, _, hax⟩ := getRegion_smallest f.mesh hf.1 r1 hb1 g.mesh hgm
  have hb2 : BoxIn g.mesh r2 := by
    refine ⟨by rw [e1]; exact hn2, ?_⟩
    intro a ha
    rw [e1] at ha
    obtain ⟨_, _, _, _, _, _, _, _, q5, q6, _, _⟩ := hax a ha
    obtain ⟨c1, c2, c3⟩ := hin a ha
    exact ⟨by linarith, c2, by linarith⟩
  obtain ⟨h, hh⟩ := (getitem_region_accepts g gwf (metaInv_ok g gmi).1 r2 hb2 (by rw [e1]; exact hp2)).2
  obtain ⟨n1, n2, n3, n4, _⟩ := op_meta_kept g gmi (.get (.region r2)) h hh
  obtain ⟨r1', r2', r3'⟩ := getitem_getitem f hf r1 r2 hb1 g h h' hg hb2 hh hh'
  obtain ⟨u1, _⟩ := op_subs_bc g (.get (.region r2)) h hh
  obtain ⟨u1', _⟩ := op_subs_bc f (.get (.region r2)) h' hh'
  obtain ⟨v1, v2⟩ := u1 _ rfl
  obtain ⟨v1', v2'⟩ := u1' _ rfl
  exact ⟨g, h, h', hg, hh, hh', r1', r2', by rw [v2, v2'], by rw [v1, v1'],
    by rw [n1, m1, m1'], by rw [n2, m2, m2'], by rw [n3, m3, m3'], by rw [n4, m4, m4'], r3'⟩

/-- Pad / crop round trip on inputs only: for a well-formed field in constructor state, existing axes
and non-negative widths, in every mode, `pad` is accepted, extracting the original region from the
result is accepted, and the outcome is the original field — region (corners, names, units,
tolerance), cell counts, component count, unit, labels, mapping, every value and every validity bit;
the mesh of the outcome has no boundary condition and no subregions (as after every `__getitem__`). -/
theorem pad_crop_total (f : Fld) (hf : FldWF f) (hmi : MetaInv f) (pw : List PadW)
    (hnd : (pw.map (·.dim)).Nodup)
    (hdims : ∀ w, w ∈ pw → ∃ a, f.mesh.region.dim2index w.dim = .ok a)
    (hpos : ∀ w, w ∈ pw → 0 ≤ w.lo ∧ 0 ≤ w.hi)
    (hbc : Mesh.bcOk f.mesh.region.dims f.mesh.bc.toLower = true) (mode : PadMode) :
    ∃ g h, padFld f pw mode = .ok g ∧ getItem g (.region f.mesh.region) = .ok h ∧
      h.mesh.region = f.mesh.region ∧ h.mesh.n = f.mesh.n ∧ h.mesh.bc = "" ∧ h.mesh.subs = [] ∧
      h.nvdim = f.nvdim ∧ h.unit = f.unit ∧ h.vdims = f.vdims ∧ h.vmap = f.vmap ∧
      ∀ j, inRange f.mesh.n j = true → h.data.get j = f.data.get j ∧ h.valid.get j = f.valid.get j := by
  obtain ⟨g, hg⟩ := (pad_accepts f hf (metaInv_ok f hmi).1 pw hnd hdims hpos hbc mode).2
  obtain ⟨h, hh⟩ := pad_crop_accepts f hf hmi pw hnd mode g hg
  obtain ⟨r1, r2, r3, r4, r5⟩ := pad_crop_roundtrip f hf pw hnd mode g hg h hh
  obtain ⟨a1, a2, a3, a4, a5⟩ := op_meta_kept f hmi (.pad pw mode) g hg
  obtain ⟨b1, b2, b3, b4, _⟩ := op_meta_kept g a5 (.get (.region f.mesh.region)) h hh
  exact ⟨g, h, hg, hh, r1, r2, r3, r4, by rw [b1, a1], by rw [b2, a2], by rw [b3, a3], by rw [b4, a4], r5⟩

/-- Resampling to the field's own cell counts is always accepted and is the identity (on a mesh
without boundary condition and subregions). -/
theorem resample_id_total (f : Fld) (hf : FldWF f) (hmi : MetaInv f) :
    ∃ g, resample f (f.mesh.n.map Int.ofNat) = .ok g ∧
      g.mesh.region = f.mesh.region ∧ g.mesh.n = f.mesh.n ∧ g.mesh.bc = "" ∧ g.mesh.subs = [] ∧
      g.nvdim = f.nvdim ∧ g.unit = f.unit ∧ g.vdims = f.vdims ∧ g.vmap = f.vmap ∧
      ∀ j, inRange f.mesh.n j = true → g.data.get j = f.data.get j ∧ g.valid.get j = f.valid.get j := by
  obtain ⟨g, hg⟩ := resample_accepts f hf.1 (metaInv_ok f hmi).1 (f.mesh.n.map Int.ofNat)
    (by rw [List.length_map]; exact hf.1.n_length)
    (by
      intro k hk
      obtain ⟨z, hz, rfl⟩ := List.mem_map.mp hk
      obtain ⟨a, ha, rfl⟩ := exists_getD_of_mem f.mesh.n z 0 hz
      have := hf.1.nAt_pos (show a < f.mesh.ndim by rw [← hf.1.n_length]; exact ha)
      show (0 : Int) < ((f.mesh.n.getD a 0 : Nat) : Int)
      exact_mod_cast this)
  obtain ⟨r1, r2, r3⟩ := resample_id f hf g hg
  obtain ⟨a1, a2, a3, a4, _⟩ := op_meta_kept f hmi (.resample _) g hg
  obtain ⟨_, _, s3, _⟩ := op_subs_bc f (.resample _) g hg
  obtain ⟨s3a, s3b⟩ := s3 _ rfl
  exact ⟨g, hg, r1, r2, s3b, s3a, a1, a2, a3, a4, r3⟩

/-- Refining first never changes a later resampling: if `g` is `f` refined by integer factors, then
resampling `g` to ANY counts `n2` gives the same field as resampling `f` to `n2` — same region, same
counts, same value and validity in every cell (`⌊⌊x·r⌋/r⌋ = ⌊x⌋`; `resample_refine_back_id` is the
case `n2 = n`). -/
theorem resample_via_refinement (f : Fld) (hf : FldWF f) (n : List Int) (g : Fld)
    (hg : resample f n = .ok g) (r : Nat → Nat)
    (hr : ∀ b, b < f.mesh.ndim → 0 < r b ∧ g.mesh.nAt b = r b * f.mesh.nAt b)
    (n2 : List Int) (k k' : Fld) (hk : resample g n2 = .ok k) (hk' : resample f n2 = .ok k') :
    k.mesh.region = k'.mesh.region ∧ k.mesh.n = k'.mesh.n ∧
    ∀ j, inRange k.mesh.n j = true → k.data.get j = k'.data.get j ∧ k.valid.get j = k'.valid.get j := by
  obtain ⟨gwf, mg, sg⟩ := resample_shows f hf n g hg
  obtain ⟨_, mk, sk⟩ := resample_shows g gwf n2 k hk
  obtain ⟨_, mk', sk'⟩ := resample_shows f hf n2 k' hk'
  have hn : k.mesh.n = k'.mesh.n := by rw [mk, mk']; rfl
  refine ⟨by rw [mk, mk', mg]; rfl, hn, ((sg.trans sk).congr fun j _ => ?_).agree sk' hn⟩
  have hkk : rsIdx f.mesh k.mesh j = rsIdx f.mesh k'.mesh j := by unfold rsIdx nAt; rw [hn]
  rw [← hkk]
  exact rsIdx_refine _ _ _ r (by rw [mg]; rfl) (fun b hb => ⟨(hr b hb).1, hf.1.nAt_pos hb, (hr b hb).2⟩) j

/-- Refining by integer factors and resampling back to the original cell counts is the identity:
same region, same counts, every cell keeps value and validity. -/
theorem resample_refine_back_id (f : Fld) (hf : FldWF f) (n : List Int) (g : Fld)
    (hg : resample f n = .ok g) (r : Nat → Nat)
    (hr : ∀ b, b < f.mesh.ndim → 0 < r b ∧ g.mesh.nAt b = r b * f.mesh.nAt b)
    (k : Fld) (hk : resample g (f.mesh.n.map Int.ofNat) = .ok k) :
    k.mesh.region = f.mesh.region ∧ k.mesh.n = f.mesh.n ∧
    ∀ j, inRange f.mesh.n j = true → k.data.get j = f.data.get j ∧ k.valid.get j = f.valid.get j := by
  -- resampling `f` to its own counts is accepted as well, and is the identity; refining first does not matter
  obtain ⟨_, _, hc, hmeta, _⟩ := (resample_ok_iff' f n g).mp hg
  obtain ⟨k', hk'⟩ : ∃ k', resample f (f.mesh.n.map Int.ofNat) = .ok k' :=
    ⟨_, (resample_ok_iff' f _ _).mpr ⟨by rw [List.length_map]; exact hf.1.n_length, fun z hz => by
      obtain ⟨q, hq, rfl⟩ := List.mem_map.mp hz
      exact Int.natCast_pos.mpr (hf.1.mem_n_pos q hq), hc, hmeta, rfl⟩⟩
  obtain ⟨a1, a2, a3⟩ := resample_via_refinement f hf n g hg r hr _ k k' hk hk'
  obtain ⟨b1, b2, b3⟩ := resample_id f hf k' hk'
  exact ⟨a1.trans b1, a2.trans b2, fun j hj =>
    ⟨(a3 j (by rw [a2, b2]; exact hj)).1.trans (b3 j hj).1, (a3 j (by rw [a2, b2]; exact hj)).2.trans (b3 j hj).2⟩⟩

/-- The same on inputs only: for every well-formed field in constructor state, all positive refinement
factors and all positive target counts, the three resamplings are accepted and the two routes give
the same object (mesh, metadata, values, validity). -/
theorem resample_via_refinement_total (f : Fld) (hf : FldWF f) (hmi : MetaInv f) (r : Nat → Nat)
    (hr : ∀ b, b < f.mesh.ndim → 0 < r b) (n2 : List Int) (hl : n2.length = f.mesh.ndim)
    (hpos : ∀ k, k ∈ n2 → 0 < k) :
    ∃ g k k', resample f (tab f.mesh.ndim fun b => ((r b * f.mesh.nAt b : Nat) : Int)) = .ok g ∧
      resample g n2 = .ok k ∧ resample f n2 = .ok k' ∧
      k.mesh = k'.mesh ∧ k.nvdim = k'.nvdim ∧ k.unit = k'.unit ∧ k.vdims = k'.vdims ∧ k.vmap = k'.vmap ∧
      ∀ j, inRange k.mesh.n j = true → k.data.get j = k'.data.get j ∧ k.valid.get j = k'.valid.get j := by
  have hmo := (metaInv_ok f hmi).1
  obtain ⟨g, hg⟩ := resample_accepts f hf.1 hmo (tab f.mesh.ndim fun b => ((r b * f.mesh.nAt b : Nat) : Int))
    (by rw [tab_length])
    (by
      intro k hk
      obtain ⟨b, hb, rfl⟩ := exists_getD_of_mem _ k 0 hk
      rw [tab_length] at hb
      rw [getD_tab _ _ _ _ hb]
      have := Nat.mul_pos (hr b hb) (hf.1.nAt_pos hb)
      exact_mod_cast this)
  have gwf := op_wf f hf (.resample _) trivial g hg
  obtain ⟨m1, m2, m3, m4, gmi⟩ := op_meta_kept f hmi (.resample _) g hg
  obtain ⟨r1, r2, _, _⟩ := resample_region f _ g hg
  have hgn : g.mesh.ndim = f.mesh.ndim := by unfold Mesh.ndim; rw [r1]
  obtain ⟨k, hk⟩ := resample_accepts g gwf.1 (metaInv_ok g gmi).1 n2 (by rw [hl, hgn]) hpos
  obtain ⟨k', hk'⟩ := resample_accepts f hf.1 hmo n2 hl hpos
  obtain ⟨n1, n2', n3, n4, _⟩ := op_meta_kept g gmi (.resample n2) k hk
  obtain ⟨m1', m2', m3', m4', _⟩ := op_meta_kept f hmi (.resample n2) k' hk'
  have hrr : ∀ b, b < f.mesh.ndim → 0 < r b ∧ g.mesh.nAt b = r b * f.mesh.nAt b := by
    intro b hb
    refine ⟨hr b hb, ?_⟩
    rw [nAt_def, r2, List.getD_eq_getElem?_getD, List.getElem?_map]
    have : (tab f.mesh.ndim fun b => ((r b * f.mesh.nAt b : Nat) : Int))[b]? = some ((r b * f.mesh.nAt b : Nat) : Int) := by
      unfold tab
      rw [List.getElem?_map, List.getElem?_range hb]; rfl
    rw [this]
    simp only [Option.map_some, Option.getD_some]
    exact Int.toNat_natCast _
  obtain ⟨q1, q2, q3⟩ := resample_via_refinement f hf _ g hg r hrr n2 k k' hk hk'
  obtain ⟨_, _, s3, _⟩ := op_subs_bc g (.resample n2) k hk
  obtain ⟨_, _, s3', _⟩ := op_subs_bc f (.resample n2) k' hk'
  obtain ⟨u1, u2⟩ := s3 _ rfl
  obtain ⟨u1', u2'⟩ := s3' _ rfl
  have hmesh : k.mesh = k'.mesh := T.mesh_ext _ _ q1 q2 (by rw [u2, u2']) (by rw [u1, u1'])
  exact ⟨g, k, k', hg, hk, hk', hmesh, by rw [n1, m1, m1'], by rw [n2', m2, m2'], by rw [n3, m3, m3'],
    by rw [n4, m4, m4'], q3⟩

/-! ## Padding modes at object level -/

/-- Mode `wrap` at object level, every width (also wider than the axis): every cell of the padded field
holds value and validity of a source cell whose centre is a whole number of edge lengths away along
every axis. -/
theorem pad_wrap_pointwise (f : Fld) (hf : FldWF f) (pw : List PadW) (hnd : (pw.map (·.dim)).Nodup)
    (g : Fld) (h : padFld f pw .wrap = .ok g) (j : List Nat) :
    ∃ i, inRange f.mesh.n i = true ∧
      (∀ b, b < f.mesh.ndim → ∃ k : Int,
        g.mesh.centreAx b ((j.getD b 0 : Nat) : Int)
          = f.mesh.centreAx b ((i.getD b 0 : Nat) : Int) + (k : Rat) * (f.mesh.region.hi b - f.mesh.region.lo b)) ∧
      g.data.get j = f.data.get i ∧ g.valid.get j = f.valid.get i := by
  refine pad_pointwise_gen f hf pw hnd .wrap g h j (fun b i0 => ∃ k : Int,
    g.mesh.centreAx b ((j.getD b 0 : Nat) : Int)
      = f.mesh.centreAx b ((i0 : Nat) : Int) + (k : Rat) * (f.mesh.region.hi b - f.mesh.region.lo b)) ?_
  intro b hb
  obtain ⟨i0, h0, h1, k, hk⟩ := padSrc_wrap (f.mesh.nAt b) (sumW f.mesh (·.lo) pw b).toNat (j.getD b 0)
    (hf.1.nAt_pos hb)
  refine ⟨i0, h0, h1, k, ?_⟩
  rw [pad_centre f hf pw hnd .wrap g h b hb, C01.centreAx_natCast, ← C01.cellAt_cover f.mesh b (hf.1.nAt_pos hb)]
  have hj : ((j.getD b 0 : Nat) : Rat) - (((sumW f.mesh (·.lo) pw b).toNat : Nat) : Rat)
      = (i0 : Rat) + (k : Rat) * (f.mesh.nAt b : Rat) := by exact_mod_cast hk
  rw [hj]; ring

/-- Mode `symmetric` at object level, every width: along every axis the source cell's centre is the
padded cell's centre shifted by an even number of edge lengths, or its mirror image about a
(periodically repeated) boundary face `lo + k·edge`. -/
theorem pad_symmetric_pointwise (f : Fld) (hf : FldWF f) (pw : List PadW) (hnd : (pw.map (·.dim)).Nodup)
    (g : Fld) (h : padFld f pw .symmetric = .ok g) (j : List Nat) :
    ∃ i, inRange f.mesh.n i = true ∧
      (∀ b, b < f.mesh.ndim → ∃ k : Int,
        g.mesh.centreAx b ((j.getD b 0 : Nat) : Int)
          = f.mesh.centreAx b ((i.getD b 0 : Nat) : Int)
            + 2 * (k : Rat) * (f.mesh.region.hi b - f.mesh.region.lo b) ∨
        g.mesh.centreAx b ((j.getD b 0 : Nat) : Int)
          = 2 * (f.mesh.region.lo b + (k : Rat) * (f.mesh.region.hi b - f.mesh.region.lo b))
            - f.mesh.centreAx b ((i.getD b 0 : Nat) : Int)) ∧
      g.data.get j = f.data.get i ∧ g.valid.get j = f.valid.get i := by
  refine pad_pointwise_gen f hf pw hnd .symmetric g h j (fun b i0 => ∃ k : Int,
    g.mesh.centreAx b ((j.getD b 0 : Nat) : Int)
      = f.mesh.centreAx b ((i0 : Nat) : Int) + 2 * (k : Rat) * (f.mesh.region.hi b - f.mesh.region.lo b) ∨
    g.mesh.centreAx b ((j.getD b 0 : Nat) : Int)
      = 2 * (f.mesh.region.lo b + (k : Rat) * (f.mesh.region.hi b - f.mesh.region.lo b))
        - f.mesh.centreAx b ((i0 : Nat) : Int)) ?_
  intro b hb
  obtain ⟨i0, h0, h1, k, hk⟩ := padSrc_symmetric (f.mesh.nAt b) (sumW f.mesh (·.lo) pw b).toNat (j.getD b 0)
    (hf.1.nAt_pos hb)
  refine ⟨i0, h0, h1, k, ?_⟩
  rw [pad_centre f hf pw hnd .symmetric g h b hb, C01.centreAx_natCast, ← C01.cellAt_cover f.mesh b (hf.1.nAt_pos hb)]
  rcases hk with hk | hk
  · left
    have hj : ((j.getD b 0 : Nat) : Rat) - (((sumW f.mesh (·.lo) pw b).toNat : Nat) : Rat)
        = (i0 : Rat) + (k : Rat) * (2 * (f.mesh.nAt b : Rat)) := by exact_mod_cast hk
    rw [hj]; ring
  · right
    have hj : ((j.getD b 0 : Nat) : Rat) - (((sumW f.mesh (·.lo) pw b).toNat : Nat) : Rat)
        = -1 - (i0 : Rat) + (k : Rat) * (2 * (f.mesh.nAt b : Rat)) := by exact_mod_cast hk
    rw [hj]; ring

/-- Mode `reflect` at object level, every width (axes of at least two cells): along every axis the
source cell's centre is the padded cell's centre shifted by a multiple of `2(n-1)` cells, or its
mirror image about the centre of a (periodically repeated) boundary cell `k(n-1)`. -/
theorem pad_reflect_pointwise (f : Fld) (hf : FldWF f) (pw : List PadW) (hnd : (pw.map (·.dim)).Nodup)
    (hn2 : ∀ b, b < f.mesh.ndim → 2 ≤ f.mesh.nAt b)
    (g : Fld) (h : padFld f pw .reflect = .ok g) (j : List Nat) :
    ∃ i, inRange f.mesh.n i = true ∧
      (∀ b, b < f.mesh.ndim → ∃ k : Int,
        g.mesh.centreAx b ((j.getD b 0 : Nat) : Int)
          = f.mesh.centreAx b ((i.getD b 0 : Nat) : Int)
            + 2 * (k : Rat) * ((f.mesh.nAt b : Rat) - 1) * f.mesh.cellAt b ∨
        g.mesh.centreAx b ((j.getD b 0 : Nat) : Int)
          = 2 * (f.mesh.region.lo b + ((k : Rat) * ((f.mesh.nAt b : Rat) - 1) + 1 / 2) * f.mesh.cellAt b)
            - f.mesh.centreAx b ((i.getD b 0 : Nat) : Int)) ∧
      g.data.get j = f.data.get i ∧ g.valid.get j = f.valid.get i := by
  refine pad_pointwise_gen f hf pw hnd .reflect g h j (fun b i0 => ∃ k : Int,
    g.mesh.centreAx b ((j.getD b 0 : Nat) : Int)
      = f.mesh.centreAx b ((i0 : Nat) : Int) + 2 * (k : Rat) * ((f.mesh.nAt b : Rat) - 1) * f.mesh.cellAt b ∨
    g.mesh.centreAx b ((j.getD b 0 : Nat) : Int)
      = 2 * (f.mesh.region.lo b + ((k : Rat) * ((f.mesh.nAt b : Rat) - 1) + 1 / 2) * f.mesh.cellAt b)
        - f.mesh.centreAx b ((i0 : Nat) : Int)) ?_
  intro b hb
  obtain ⟨i0, h0, h1, k, hk⟩ := padSrc_reflect (f.mesh.nAt b) (sumW f.mesh (·.lo) pw b).toNat (j.getD b 0)
    (hn2 b hb)
  refine ⟨i0, h0, h1, k, ?_⟩
  rw [pad_centre f hf pw hnd .reflect g h b hb, C01.centreAx_natCast]
  rcases hk with hk | hk
  · left
    have hj : ((j.getD b 0 : Nat) : Rat) - (((sumW f.mesh (·.lo) pw b).toNat : Nat) : Rat)
        = (i0 : Rat) + (k : Rat) * (2 * (f.mesh.nAt b : Rat) - 2) := by exact_mod_cast hk
    rw [hj]; ring
  · right
    have hj : ((j.getD b 0 : Nat) : Rat) - (((sumW f.mesh (·.lo) pw b).toNat : Nat) : Rat)
        = -(i0 : Rat) + (k : Rat) * (2 * (f.mesh.nAt b : Rat) - 2) := by exact_mod_cast hk
    rw [hj]; ring

/-- Mode `edge` at object level: every padded cell holds the source cell nearest to it — index 0 in
front of the source, `n-1` behind it, `j - L` inside, on every axis. -/
theorem pad_edge_pointwise (f : Fld) (hf : FldWF f) (pw : List PadW) (hnd : (pw.map (·.dim)).Nodup)
    (g : Fld) (h : padFld f pw .edge = .ok g) (j : List Nat) :
    ∃ i, inRange f.mesh.n i = true ∧
      (∀ b, b < f.mesh.ndim →
        (j.getD b 0 < (sumW f.mesh (·.lo) pw b).toNat → i.getD b 0 = 0) ∧
        ((sumW f.mesh (·.lo) pw b).toNat + f.mesh.nAt b ≤ j.getD b 0 → i.getD b 0 = f.mesh.nAt b - 1) ∧
        ((sumW f.mesh (·.lo) pw b).toNat ≤ j.getD b 0 → j.getD b 0 < (sumW f.mesh (·.lo) pw b).toNat + f.mesh.nAt b →
          i.getD b 0 = j.getD b 0 - (sumW f.mesh (·.lo) pw b).toNat)) ∧
      g.data.get j = f.data.get i ∧ g.valid.get j = f.valid.get i := by
  refine pad_pointwise_gen f hf pw hnd .edge g h j (fun b i0 =>
    (j.getD b 0 < (sumW f.mesh (·.lo) pw b).toNat → i0 = 0) ∧
    ((sumW f.mesh (·.lo) pw b).toNat + f.mesh.nAt b ≤ j.getD b 0 → i0 = f.mesh.nAt b - 1) ∧
    ((sumW f.mesh (·.lo) pw b).toNat ≤ j.getD b 0 → j.getD b 0 < (sumW f.mesh (·.lo) pw b).toNat + f.mesh.nAt b →
      i0 = j.getD b 0 - (sumW f.mesh (·.lo) pw b).toNat)) ?_
  intro b hb
  have hn := hf.1.nAt_pos hb
  by_cases hin : (sumW f.mesh (·.lo) pw b).toNat ≤ j.getD b 0 ∧ j.getD b 0 < (sumW f.mesh (·.lo) pw b).toNat + f.mesh.nAt b
  · refine ⟨_, padSrc_inside .edge _ _ _ hin.1 hin.2, by omega, fun h => by omega, fun h => by omega, fun _ _ => rfl⟩
  · rw [padSrc_edge _ _ _ hin]
    by_cases hlt : j.getD b 0 < (sumW f.mesh (·.lo) pw b).toNat
    · rw [if_pos hlt]
      exact ⟨0, rfl, hn, fun _ => rfl, fun h => by omega, fun h1 h2 => by omega⟩
    · rw [if_neg hlt]
      exact ⟨_, rfl, by omega, fun h => absurd h hlt, fun _ => rfl, fun h1 h2 => absurd ⟨h1, h2⟩ hin⟩

/-- Mode `constant` at object level: a cell outside the source along some axis holds zeros and is
invalid. -/
theorem pad_constant_pointwise (f : Fld) (hf : FldWF f) (pw : List PadW) (hnd : (pw.map (·.dim)).Nodup)
    (g : Fld) (h : padFld f pw .constant = .ok g) (j : List Nat) (b : Nat) (hb : b < f.mesh.ndim)
    (hout : ¬ ((sumW f.mesh (·.lo) pw b).toNat ≤ j.getD b 0 ∧
      j.getD b 0 < (sumW f.mesh (·.lo) pw b).toNat + f.mesh.nAt b)) :
    g.data.get j = List.replicate f.nvdim 0 ∧ g.valid.get j = false :=
  pad_fill_axis f hf pw hnd .constant g h j b hb (padSrc_constant _ _ _ hout)

/-- Paddings of one field are restrictions of one continuation, in every mode and for all widths: if the
total widths of `pw'` do not exceed those of `pw` on any side, then extracting the region of the
smaller padding from the larger padded field is accepted and returns the smaller padding — same
region, same cell counts, every value and validity bit.  (`pad_crop_roundtrip` is the case of no
padding at all.) -/
theorem pad_crop_smaller (f : Fld) (hf : FldWF f) (pw pw' : List PadW)
    (hnd : (pw.map (·.dim)).Nodup) (hnd' : (pw'.map (·.dim)).Nodup) (mode : PadMode) (g g' : Fld)
    (hg : padFld f pw mode = .ok g) (hg' : padFld f pw' mode = .ok g')
    (hle : ∀ b, b < f.mesh.ndim → sumW f.mesh (·.lo) pw' b ≤ sumW f.mesh (·.lo) pw b ∧
      sumW f.mesh (·.hi) pw' b ≤ sumW f.mesh (·.hi) pw b)
    (hmi : MetaInv f) :
    ∃ h, getItem g (.region g'.mesh.region) = .ok h ∧
      h.mesh.region = g'.mesh.region ∧ h.mesh.n = g'.mesh.n ∧
      ∀ j, inRange g'.mesh.n j = true → h.data.get j = g'.data.get j ∧ h.valid.get j = g'.valid.get j := by
  have hgwf := op_wf f hf (.pad pw mode) hnd g hg
  -- the smaller padding is a block of the larger one, so cropping to its region returns it
  have blk := padFld_block f hf pw pw' hnd hnd' mode g g' hg hg' hle
  have hal := blk.mesh.aligned
  obtain ⟨h, hh⟩ := (getitem_region_accepts g hgwf
    (metaInv_ok g (op_meta_passthrough f hmi (.pad pw mode) g hg).2.2).1 g'.mesh.region
    (boxIn_of_aligned g.mesh hgwf.1 _ _ _ hal) hal.2.1).2
  obtain ⟨r1, r2, r3⟩ := blk.crop hgwf h hh
  exact ⟨h, hh, r1, r2, fun j hj => r3 j (r2 ▸ hj)⟩

/-! ## Extraction by name, index slices -/

/-- Extraction by subregion name is extraction by that subregion's region: for a stored subregion
of whole cells (names, units, tolerance of the mesh region, as the setter stores it) `mesh[name] =
mesh[mesh.subregions[name]]` and `field[name] = field[field.mesh.subregions[name]]`, as objects. -/
theorem getitem_name_eq_region (f : Fld) (hf : FldWF f) (name : String) (s : Region)
    (hfind : findSub f.mesh.subs name = some s) (k1 k2 : Nat → Nat) (hal : SubAligned f.mesh s k1 k2)
    (hd : s.dims = f.mesh.region.dims) (hu : s.units = f.mesh.region.units) (ht : s.tol = f.mesh.region.tol) :
    getMesh f.mesh (.name name) = getMesh f.mesh (.region s) ∧
    getItem f (.name name) = getItem f (.region s) := by
  have hinv := hf.1
  have key : getMesh f.mesh (.name name) = getMesh f.mesh (.region s) := by
    obtain ⟨g1, hg1, hn1⟩ := getName_ok f.mesh hinv name s hfind k1 k2 hal
    have hbox := boxIn_of_aligned f.mesh hinv s k1 k2 hal
    obtain ⟨g2, hg2, hn2⟩ := getRegion_ok f.mesh hinv s hbox hal.2.1
    show getName f.mesh name = getRegion f.mesh s
    rw [hg1, hg2]
    congr 1
    obtain ⟨a1, _, _, _⟩ := getName_inv f.mesh hinv name s hfind k1 k2 hal g1 hg1
    obtain ⟨b1, b2⟩ := getMesh_bare f.mesh (.name name) g1 hg1
    obtain ⟨c1, c2⟩ := getMesh_bare f.mesh (.region s) g2 hg2
    obtain ⟨bg, _⟩ := getRegion_inv f.mesh hinv s hbox g2 hg2
    have hax := getRegion_aligned_exact f.mesh hinv s k1 k2 hal g2 hg2
    have hreg : g2.region = s := by
      apply region_ext s g2.region (by show g2.ndim = s.ndim; rw [bg.ndim, hal.1]) (by rw [hal.2.1]; exact hal.1.symm)
        (by rw [bg.pmax]; exact hal.1.symm)
        (fun a ha => (hax a (by rw [← hal.1]; exact ha)).1)
        (fun a ha => (hax a (by rw [← hal.1]; exact ha)).2.1)
        (by rw [bg.dims, hd]) (by rw [bg.units, hu]) (by rw [bg.tol, ht])
    have hn : g1.n = g2.n := by
      rw [hn1, hn2]
      apply tab_congr
      intro a ha
      have h3 := (hax a ha).2.2
      rw [nAt_def, hn2, getD_tab _ _ _ _ ha] at h3
      exact h3.symm
    exact T.mesh_ext _ _ (by rw [a1, hreg]) hn (by rw [b2, c2]) (by rw [b1, c1])
  refine ⟨key, ?_⟩
  unfold getItem
  rw [key]

/-- The index slices of the mesh's own region are the full slices `0 : n`. -/
theorem region2slices_whole (m : Mesh) (hm : m.Inv) :
    region2slices m m.region = .ok (tab m.ndim fun a => (0, m.nAt a)) :=
  (region2slices_spec m hm m.region _ _ (whole_aligned m hm)).1

/-- Index slices are monotone in the region: a box inside another box (any boxes, aligned or not) gets
slices inside the other's slices on every axis. -/
theorem region2slices_mono (m : Mesh) (hm : m.Inv) (r1 r2 : Region) (s1 s2 : List (Nat × Nat))
    (h1 : region2slices m r1 = .ok s1) (h2 : region2slices m r2 = .ok s2)
    (hin : ∀ a, a < m.ndim → r2.lo a ≤ r1.lo a ∧ r1.hi a ≤ r2.hi a) :
    ∀ a, a < m.ndim → (s2.getD a (0, 0)).1 ≤ (s1.getD a (0, 0)).1 ∧ (s1.getD a (0, 0)).2 ≤ (s2.getD a (0, 0)).2 := by
  intro a ha
  rw [region2slices_inv m r1 s1 h1, region2slices_inv m r2 s2 h2, getD_tab _ _ _ _ ha, getD_tab _ _ _ _ ha]
  have hc := hm.cellAt_pos ha
  obtain ⟨c1, c2⟩ := hin a ha
  exact ⟨C01.indexAx_mono m a (hm.nAt_pos ha) hc (by linarith), Nat.succ_le_succ (C01.indexAx_mono m a (hm.nAt_pos ha) hc (by linarith))⟩

/-- Index slices of an ARBITRARY box (test points `lo + cell/2`, `hi - cell/2` inside the edge): along
each axis the slice consists exactly of the cells whose centre lies in `(lo, hi]` — a cell centre
exactly on the lower face of the box is left out, one on the upper face is taken. -/
theorem region2slices_cells (m : Mesh) (hm : m.Inv) (r : Region) (s : List (Nat × Nat))
    (h : region2slices m r = .ok s) (a : Nat) (ha : a < m.ndim)
    (hlo : m.region.lo a ≤ r.lo a + m.cellAt a / 2 ∧ r.lo a + m.cellAt a / 2 < m.region.hi a)
    (hhi : m.region.lo a ≤ r.hi a - m.cellAt a / 2 ∧ r.hi a - m.cellAt a / 2 ≤ m.region.hi a)
    (i : Nat) (hi : i < m.nAt a) :
    ((s.getD a (0, 0)).1 ≤ i ∧ i < (s.getD a (0, 0)).2) ↔
      (r.lo a < m.centreAx a (i : Int) ∧ m.centreAx a (i : Int) ≤ r.hi a) := by
  rw [region2slices_inv m r s h, getD_tab _ _ _ _ ha, C01.centreAx_natCast]
  have hc := hm.cellAt_pos ha
  have e : m.region.lo a + ((i : Rat) + 1) * m.cellAt a
      = m.region.lo a + ((i : Rat) + 1 / 2) * m.cellAt a + m.cellAt a / 2 := by ring
  -- the lower test point is below the upper face of cell `i`; the upper one at or above its lower face
  refine and_congr ?_ ?_
  · rw [indexAx_le_iff m a _ i hc hi hlo.1 hlo.2, e, add_lt_add_iff_right]
  · rw [Nat.lt_succ_iff, le_indexAx_iff m a _ _ hc hi hhi.1, le_sub_iff_add_le,
      show m.region.lo a + (i : Rat) * m.cellAt a + m.cellAt a / 2
        = m.region.lo a + ((i : Rat) + 1 / 2) * m.cellAt a by ring]

/-! ## Requests at non-finite coordinates -/

/-- The extended model (coordinates may be `±inf` / `nan`, IEEE comparisons) refines the rational one:
on finite values `_sel_convert_input`, `Mesh.sel` and `Field.sel` are unchanged. -/
theorem sel_ext_refines (f : Fld) (dim : String) (arg : SelArg) :
    selConvertE f.mesh dim arg.toE = selConvert f.mesh dim arg ∧
    selMeshE f.mesh dim arg.toE = selMesh f.mesh dim arg ∧
    selFldE f dim arg.toE = selFld f dim arg :=
  ⟨selConvertE_fin _ _ _, selMeshE_fin _ _ _, selFldE_fin _ _ _⟩

/-- A selection at a non-finite coordinate — a point at `+inf`, `-inf` or `nan`, a range with such a
bound in either position — is refused by `_sel_convert_input`, `Mesh.sel` and `Field.sel`: `±inf`
fail the range test; `nan` passes it (both comparisons are false) and is refused by the containment
test of `point2index`; `sorted` leaves a pair with a `nan` in the given order. -/
theorem sel_nonfinite_rejected (f : Fld) (hf : f.mesh.Inv) (dim : String) (arg : SelArgE)
    (h : arg.NonFinite) :
    (∃ e, selConvertE f.mesh dim arg = .error e) ∧ (∃ e, selMeshE f.mesh dim arg = .error e) ∧
    (∃ e, selFldE f dim arg = .error e) := by
  obtain ⟨e, he⟩ := selConvertE_nonfin f.mesh hf dim arg h
  exact ⟨⟨e, he⟩, ⟨e, selMeshE_error he⟩, ⟨e, selFldE_error he⟩⟩

/-- Accepted ⇔ finite and accepted by the rational model (for all three levels). -/
theorem sel_ext_ok_iff (f : Fld) (hf : f.mesh.Inv) (dim : String) (arg : SelArgE) :
    ((∃ r, selConvertE f.mesh dim arg = .ok r) ↔
      ∃ a : SelArg, arg = a.toE ∧ ∃ r, selConvert f.mesh dim a = .ok r) ∧
    ((∃ g, selMeshE f.mesh dim arg = .ok g) ↔
      ∃ a : SelArg, arg = a.toE ∧ ∃ g, selMesh f.mesh dim a = .ok g) ∧
    ((∃ o, selFldE f dim arg = .ok o) ↔
      ∃ a : SelArg, arg = a.toE ∧ ∃ o, selFld f dim a = .ok o) := by
  rcases selArgE_cases arg with ⟨a, rfl⟩ | hn
  · have inj := toE_inj a
    refine ⟨?_, ?_, ?_⟩
    · rw [selConvertE_fin]
      exact ⟨fun h => ⟨a, rfl, h⟩, fun ⟨a', ha', h⟩ => by rw [inj a' ha']; exact h⟩
    · rw [selMeshE_fin]
      exact ⟨fun h => ⟨a, rfl, h⟩, fun ⟨a', ha', h⟩ => by rw [inj a' ha']; exact h⟩
    · rw [selFldE_fin]
      exact ⟨fun h => ⟨a, rfl, h⟩, fun ⟨a', ha', h⟩ => by rw [inj a' ha']; exact h⟩
  · obtain ⟨⟨e1, h1⟩, ⟨e2, h2⟩, ⟨e3, h3⟩⟩ := sel_nonfinite_rejected f hf dim arg hn
    refine ⟨?_, ?_, ?_⟩
    · constructor
      · rintro ⟨r, hr⟩; rw [h1] at hr; cases hr
      · rintro ⟨a, rfl, _⟩; exact absurd hn (toE_not_nonfinite a)
    · constructor
      · rintro ⟨r, hr⟩; rw [h2] at hr; cases hr
      · rintro ⟨a, rfl, _⟩; exact absurd hn (toE_not_nonfinite a)
    · constructor
      · rintro ⟨r, hr⟩; rw [h3] at hr; cases hr
      · rintro ⟨a, rfl, _⟩; exact absurd hn (toE_not_nonfinite a)

/-- `Mesh.point2index` on points that may have non-finite coordinates: on finite points it is the
rational lookup; it answers exactly on the finite points the rational lookup answers on; a
non-finite coordinate on any axis of the mesh is refused. -/
theorem point2index_ext (m : Mesh) :
    (∀ p : List Rat, point2indexE m (p.map .fin) = m.point2index p) ∧
    (∀ (p : List ExtRat) (i : List Nat),
      point2indexE m p = .ok i ↔ ∃ q : List Rat, p = q.map .fin ∧ m.point2index q = .ok i) ∧
    (∀ (p : List ExtRat) (a : Nat), a < m.ndim → (∀ q, p.getD a (.fin 0) ≠ .fin q) →
      ∃ e, point2indexE m p = .error e) :=
  ⟨point2indexE_fin m, point2indexE_ok_iff m, fun p a _ hx => point2indexE_nonfin m p a hx⟩

/-- On finite corners `mesh[region]`, `field[region]` and `region2slices` of the extended model are
those of the rational model. -/
theorem getitem_ext_refines (f : Fld) (pmin pmax : List Rat) :
    getRegionE f.mesh (pmin.map .fin) (pmax.map .fin) = getRegion f.mesh (boxRegion pmin pmax) ∧
    getItemE f (pmin.map .fin) (pmax.map .fin) = getItem f (.region (boxRegion pmin pmax)) ∧
    region2slicesE f.mesh (pmin.map .fin) (pmax.map .fin) = region2slices f.mesh (boxRegion pmin pmax) :=
  ⟨getRegionE_fin _ _ _, getItemE_fin _ _ _, region2slicesE_fin _ _ _⟩

/-- A region built from corner points with a non-finite coordinate (`Region(p1, p2)` accepts it: the
edge is not zero) is refused by `mesh[region]`, `field[region]` and — on an axis of the mesh — by
`region2slices`. -/
theorem getitem_nonfinite_rejected (f : Fld) (p1 p2 : List ExtRat) (a : Nat) (ha : a < p1.length)
    (hx : (∀ q, p1.getD a (.fin 0) ≠ .fin q) ∨ (∀ q, p2.getD a (.fin 0) ≠ .fin q))
    (pmin pmax : List ExtRat) (hbox : boxMkE? p1 p2 = .ok (pmin, pmax)) :
    (∃ e, getRegionE f.mesh pmin pmax = .error e) ∧ (∃ e, getItemE f pmin pmax = .error e) ∧
    (a < f.mesh.ndim → ∃ e, region2slicesE f.mesh pmin pmax = .error e) := by
  obtain ⟨l1, l2, hnf⟩ := boxMkE_nonfin p1 p2 pmin pmax hbox a ha hx
  have hnot : ¬ ((∃ l : List Rat, pmin = l.map .fin) ∧ ∃ l : List Rat, pmax = l.map .fin) := by
    rintro ⟨⟨u, hu⟩, ⟨v, hv⟩⟩
    rcases hnf with h | h
    · rw [hu] at h; exact h _ (getD_map_fin u a)
    · rw [hv] at h; exact h _ (getD_map_fin v a)
  obtain ⟨e, he⟩ := getRegionE_nonfin f.mesh pmin pmax hnot
  exact ⟨⟨e, he⟩, ⟨e, getItemE_error he⟩, fun ha' => region2slicesE_nonfin f.mesh pmin pmax a ha' hnf⟩

/-! ## Any point of a cell; ties and closed form of resampling -/

/-- Ties as the code resolves them: a target cell whose centre lies exactly ON the face between source
cells `i-1` and `i` along some axis takes, along that axis, the upper cell `i` (the nearest-coordinate
lookup finds two equally near source centres and returns the one with the larger index). -/
theorem resample_tie (f : Fld) (hf : FldWF f) (n : List Int) (g : Fld) (h : resample f n = .ok g)
    (j : List Nat) (hj : inRange g.mesh.n j = true) (b : Nat) (hb : b < f.mesh.ndim) (i : Nat)
    (hi : i < f.mesh.nAt b)
    (hface : g.mesh.centreAx b ((j.getD b 0 : Nat) : Int) = f.mesh.region.lo b + (i : Rat) * f.mesh.cellAt b) :
    ∃ s, g.data.get j = f.data.get s ∧ g.valid.get j = f.valid.get s ∧ s.getD b 0 = i ∧
      absR (f.mesh.centreAx b ((i : Nat) : Int) - g.mesh.centreAx b ((j.getD b 0 : Nat) : Int)) = f.mesh.cellAt b / 2 ∧
      (0 < i → absR (f.mesh.centreAx b ((i - 1 : Nat) : Int) - g.mesh.centreAx b ((j.getD b 0 : Nat) : Int))
        = f.mesh.cellAt b / 2) := by
  obtain ⟨_, p2, p3⟩ := resample_pointwise f hf n g h j hj
  have hc := hf.1.cellAt_pos hb
  refine ⟨_, p2, p3, ?_, ?_, ?_⟩
  · rw [getD_tab _ _ _ _ hb, hface]
    exact indexAx_grid f.mesh b i hi hc _ le_rfl (lt_add_one _)
  · rw [hface, C01.centreAx_natCast, absR_eq_abs]
    have : f.mesh.region.lo b + ((i : Rat) + 1 / 2) * f.mesh.cellAt b - (f.mesh.region.lo b + (i : Rat) * f.mesh.cellAt b)
        = f.mesh.cellAt b / 2 := by ring
    rw [this, abs_of_pos (by linarith)]
  · intro hi0
    rw [hface, C01.centreAx_natCast, absR_eq_abs]
    have hcast : ((i - 1 : Nat) : Rat) = (i : Rat) - 1 := by
      push_cast [Nat.cast_sub (by omega : 1 ≤ i)]; ring
    have : f.mesh.region.lo b + (((i - 1 : Nat) : Rat) + 1 / 2) * f.mesh.cellAt b - (f.mesh.region.lo b + (i : Rat) * f.mesh.cellAt b)
        = -(f.mesh.cellAt b / 2) := by rw [hcast]; ring
    rw [this, abs_neg, abs_of_pos (by linarith)]

/-- "At ANY point", not only at cell centres: every point `p` of the half-open box of result cell `j` of
`field[region]` is looked up by the result in cell `j` and by the source in a cell `i` holding the
same value and validity — so `result(p) = source(p)` for every point of the result region except
its upper faces (which the result attributes to its last cells, the source to the next ones). -/
theorem getitem_region_anypoint (f : Fld) (hf : FldWF f) (item : Region) (hbox : BoxIn f.mesh item)
    (g : Fld) (h : getItem f (.region item) = .ok g) (j : List Nat) (hj : inRange g.mesh.n j = true)
    (p : List Rat) (hp : p.length = f.mesh.ndim)
    (hin : ∀ b, b < f.mesh.ndim →
      g.mesh.region.lo b + (j.getD b 0 : Rat) * g.mesh.cellAt b ≤ p.getD b 0 ∧
      p.getD b 0 < g.mesh.region.lo b + ((j.getD b 0 : Rat) + 1) * g.mesh.cellAt b) :
    ∃ i, g.mesh.point2index p = .ok j ∧ f.mesh.point2index p = .ok i ∧
      g.data.get j = f.data.get i ∧ g.valid.get j = f.valid.get i := by
  obtain ⟨_, bg⟩ := getItem_region_block f hf item hbox g h
  obtain ⟨r1, r2⟩ := aligned_any_point f.mesh g.mesh hf.1 bg.mesh.ndim bg.mesh.nlen _ _ bg.mesh.axis j hj p hp hin
  exact ⟨_, r1, r2, bg.cells j hj⟩

/-- The same for a range selection: `f.sel(d=(x, y))(p) = f(p)` for every point of every half-open
result cell. -/
theorem sel_range_anypoint (f : Fld) (hf : f.mesh.Inv) (dim : String) (x y : Rat) (g : Fld)
    (h : selFld f dim (.range x y) = .ok (.field g)) (j : List Nat) (hj : inRange g.mesh.n j = true)
    (p : List Rat) (hp : p.length = f.mesh.ndim)
    (hin : ∀ b, b < f.mesh.ndim →
      g.mesh.region.lo b + (j.getD b 0 : Rat) * g.mesh.cellAt b ≤ p.getD b 0 ∧
      p.getD b 0 < g.mesh.region.lo b + ((j.getD b 0 : Rat) + 1) * g.mesh.cellAt b) :
    ∃ i, g.mesh.point2index p = .ok j ∧ f.mesh.point2index p = .ok i ∧
      g.data.get j = f.data.get i ∧ g.valid.get j = f.valid.get i := by
  obtain ⟨a, _, _, _, _, _, bg⟩ := selFld_range_block f hf dim x y g h
  obtain ⟨r1, r2⟩ := aligned_any_point f.mesh g.mesh hf bg.mesh.ndim bg.mesh.nlen _ _ bg.mesh.axis j hj p hp hin
  exact ⟨_, r1, r2, bg.cells j hj⟩

/-- The closed-form resampling the driver uses for axes of thousands of cells is the nearest-coordinate
lookup: `resampleFast` is accepted exactly when `resample` is, and the two results have the same mesh,
metadata, array shapes and the same value and validity in every cell. -/
theorem resample_fast_refines (f : Fld) (hf : FldWF f) (n : List Int) :
    ((∃ g, resample f n = .ok g) ↔ ∃ g', resampleFast f n = .ok g') ∧
    ∀ g g', resample f n = .ok g → resampleFast f n = .ok g' →
      g'.mesh = g.mesh ∧ g'.nvdim = g.nvdim ∧ g'.unit = g.unit ∧ g'.vdims = g.vdims ∧ g'.vmap = g.vmap ∧
      g'.data.shape = g.data.shape ∧ g'.valid.shape = g.valid.shape ∧
      ∀ j, inRange g.mesh.n j = true → g'.data.get j = g.data.get j ∧ g'.valid.get j = g.valid.get j := by
  have e1 := resample_ok_iff' f n
  have e2 := resampleWith_ok_iff @resampleNDAFast resampleNDAFast_shape f n
  refine ⟨⟨fun ⟨g, h⟩ => ⟨_, (e2 _).mpr (((e1 g).mp h).imp_right fun x => x.imp_right fun x => x.imp_right fun x => ⟨x.1, rfl⟩)⟩,
    fun ⟨g, h⟩ => ⟨_, (e1 _).mpr (((e2 g).mp h).imp_right fun x => x.imp_right fun x => x.imp_right fun x => ⟨x.1, rfl⟩)⟩⟩, ?_⟩
  intro g g' hg hg'
  obtain ⟨gwf, _, _⟩ := resample_shows f hf n g hg
  obtain ⟨_, _, _, _, rfl⟩ := (e1 g).mp hg
  obtain ⟨_, _, _, _, rfl⟩ := (e2 g').mp hg'
  refine ⟨rfl, rfl, rfl, rfl, rfl, rfl, rfl, fun j hj => ?_⟩
  have hjb := fun b (hb : b < f.mesh.ndim) => inRange_getD _ _ hj b (by rw [gwf.1.n_length]; exact hb)
  exact ⟨(resampleNDA_get _ _ hf.1 gwf.1 rfl _ j hjb).symm, (resampleNDA_get _ _ hf.1 gwf.1 rfl _ j hjb).symm⟩

/-! ## Non-vacuity: equivalences, laws on inputs, padding modes, non-finite requests -/
section NonVacuity2
open Ex

/-- hypotheses shared by the equivalences and the laws on inputs: `f1` — a subregion, a chequered
mask — is well formed, in constructor state, and its subregions consist of whole cells -/
example : FldWF f1 ∧ metaOk f1 = true ∧ MetaInv f1 ∧ SubsAligned f1.mesh :=
  ⟨f1_wf, rfl, rfl, m1_subs_aligned⟩

/-- both sides of `sel_plane_ok_iff` / `sel_range_ok_iff` occur on `f1`: `x = 5/2` is accepted,
`x = 9/2` refused; the range `[7/2, 1/2]` accepted -/
example : (∃ o, selFld f1 "x" (.point (5/2)) = .ok o) ∧ (¬ ∃ o, selFld f1 "x" (.point (9/2)) = .ok o) ∧
    ∃ g, selFld f1 "x" (.range (7/2) (1/2)) = .ok (.field g) := by
  have hd : f1.mesh.region.dim2index "x" = .ok 0 := by decide
  refine ⟨(sel_plane_ok_iff f1 f1_wf rfl m1_subs_aligned "x" (5/2)).2.1.mpr ⟨0, hd,
      show (0 : Rat) ≤ _ by norm_num, show _ ≤ (4 : Rat) by norm_num⟩, ?_,
    (sel_range_ok_iff f1 f1_wf rfl m1_subs_aligned "x" (7/2) (1/2)).2.2.mpr ⟨0, hd,
      show (0 : Rat) ≤ _ by norm_num, show _ ≤ (4 : Rat) by norm_num⟩⟩
  intro hc
  obtain ⟨a, hda, _, h2⟩ := (sel_plane_ok_iff f1 f1_wf rfl m1_subs_aligned "x" (9/2)).2.1.mp hc
  cases hd.symm.trans hda
  norm_num [f1, f0, m1, m0, reg, Region.hi] at h2

/-- both sides of `resample_ok_iff`, `pad_ok_iff`, `getitem_name_ok_iff` occur -/
example : (∃ g, resample f1 [2, 3] = .ok g) ∧ (¬ ∃ g, resample f1 [2, 0] = .ok g) ∧
    (∃ g, getItem f1 (.name "a") = .ok g) ∧ (¬ ∃ g, getItem f1 (.name "b") = .ok g) ∧
    (∃ g, padFld f0 pw0 .reflect = .ok g) ∧ ¬ ∃ g, padFld f0 [⟨"x", -1, 1⟩] .reflect = .ok g := by
  have hbc := f0_bcOk
  refine ⟨(resample_ok_iff f1 f1_wf.1 rfl [2, 3]).mpr ⟨rfl, by decide⟩, ?_,
    (getitem_name_ok_iff f1 f1_wf rfl m1_subs_aligned "a").2.mpr ⟨s0, rfl⟩, ?_,
    (pad_ok_iff f0 f0_wf rfl pw0 (by decide) hbc .reflect).mpr pw0_ok, ?_⟩
  · intro hc
    obtain ⟨_, h⟩ := (resample_ok_iff f1 f1_wf.1 rfl [2, 0]).mp hc
    exact absurd (h 0 (by decide)) (by decide)
  · intro hc
    obtain ⟨s, hs⟩ := (getitem_name_ok_iff f1 f1_wf rfl m1_subs_aligned "b").2.mp hc
    have : findSub f1.mesh.subs "b" = none := by decide
    rw [this] at hs; cases hs
  · intro hc
    have := ((pad_ok_iff f0 f0_wf rfl [⟨"x", -1, 1⟩] (by decide) hbc .reflect).mp hc) ⟨"x", -1, 1⟩
      (List.mem_cons_self ..)
    exact absurd this.2.1 (by decide)

/-- hypotheses of `sel_plane_comm` (and `sel_plane_facts`, `sel_plane_comm_lt`): the planes
`x = 1/2` and `y = 3/2` of the 2 × 2 × 2 field `f3`, in both orders -/
example : ∃ g1 h1 g2 h2, selFld f3 "x" (.point (1/2)) = .ok (.field g1) ∧
    selFld g1 "y" (.point (3/2)) = .ok (.field h1) ∧
    selFld f3 "y" (.point (3/2)) = .ok (.field g2) ∧
    selFld g2 "x" (.point (1/2)) = .ok (.field h2) ∧
    f3.mesh.region.dim2index "x" = .ok 0 ∧ f3.mesh.region.dim2index "y" = .ok 1 := by
  obtain ⟨g1, h1, g2, h2, e1, e2, e3, e4, _⟩ := sel_plane_comm_total f3 f3_wf rfl (by intro p hp; cases hp)
    (by decide) "x" "y" 0 1 (by decide) (by decide) (by decide) (1/2) (3/2)
    ⟨show (0 : Rat) ≤ _ by norm_num, show _ ≤ (2 : Rat) by norm_num⟩
    ⟨show (0 : Rat) ≤ _ by norm_num, show _ ≤ (2 : Rat) by norm_num⟩
  exact ⟨g1, h1, g2, h2, e1, e2, e3, e4, by decide, by decide⟩

/-- hypotheses of `sel_range_range_total` on `f1` (with its subregion): the range `[1/2, 7/2]`, then
the sub-range `[5/2, 3/2]` given in descending order -/
example : ∃ g h h', selFld f1 "x" (.range (1/2) (7/2)) = .ok (.field g) ∧
    selFld g "x" (.range (5/2) (3/2)) = .ok (.field h) ∧ selFld f1 "x" (.range (5/2) (3/2)) = .ok (.field h') := by
  obtain ⟨g, h, h', r1, r2, r3, _⟩ := sel_range_range_total f1 f1_wf rfl m1_subs_aligned "x" 0 (by decide)
    (1/2) (7/2) (5/2) (3/2) (show (0 : Rat) ≤ _ by norm_num)
    (show _ ≤ (4 : Rat) by norm_num) (by norm_num) (by norm_num)
  exact ⟨g, h, h', r1, r2, r3⟩

/-- hypotheses of `sel_range_range_face` on `f0`: cells 0..1 first, then `[1, 2]` whose upper bound is
the upper face `x = 2` of the first selection -/
example : ∃ g h h', selFld f0 "x" (.range (1/2) (3/2)) = .ok (.field g) ∧
    selFld g "x" (.range 1 2) = .ok (.field h) ∧ selFld f0 "x" (.range 1 2) = .ok (.field h') ∧
    h'.mesh.nAt 0 = h.mesh.nAt 0 + 1 := by
  have e1 : f0.mesh.indexAx 0 (min (1/2 : Rat) (3/2)) = 0 := by
    rw [show min (1/2 : Rat) (3/2) = 1/2 by norm_num]
    exact ex_idx _ 0 (by decide) (by norm_num) (by norm_num)
  have e2 : f0.mesh.indexAx 0 (max (1/2 : Rat) (3/2)) = 1 := by
    rw [show max (1/2 : Rat) (3/2) = 3/2 by norm_num]
    exact ex_idx _ 1 (by decide) (by norm_num) (by norm_num)
  obtain ⟨g, h, h', r1, r2, r3, _, _, _, r7, _⟩ := sel_range_range_face f0 f0_wf rfl (by intro p hp; cases hp)
    "x" 0 (by decide) (1/2) (3/2) 1 2 (show (0 : Rat) ≤ _ by norm_num)
    (show _ ≤ (4 : Rat) by norm_num)
    (by rw [e1, f0_face]; norm_num)
    (by norm_num)
    (by rw [e2, f0_face]; norm_num)
    (show _ < (4 : Rat) by norm_num)
  exact ⟨g, h, h', r1, r2, r3, r7⟩

/-- hypotheses of `sel_plane_comm_total` (and `sel_plane_result_subs`): the 2 × 2 × 2 field `f3` -/
example : ∃ g1 h1 g2 h2, selFld f3 "x" (.point (1/2)) = .ok (.field g1) ∧
    selFld g1 "y" (.point (3/2)) = .ok (.field h1) ∧ selFld f3 "y" (.point (3/2)) = .ok (.field g2) ∧
    selFld g2 "x" (.point (1/2)) = .ok (.field h2) := by
  obtain ⟨g1, h1, g2, h2, e1, e2, e3, e4, _⟩ := sel_plane_comm_total f3 f3_wf rfl (by intro p hp; cases hp)
    (by decide) "x" "y" 0 1 (by decide) (by decide) (by decide) (1/2) (3/2)
    ⟨show (0 : Rat) ≤ _ by norm_num, show _ ≤ (2 : Rat) by norm_num⟩
    ⟨show (0 : Rat) ≤ _ by norm_num, show _ ≤ (2 : Rat) by norm_num⟩
  exact ⟨g1, h1, g2, h2, e1, e2, e3, e4⟩

/-- hypotheses of `getitem_getitem_total`: the box `box` of `f0` and the box `[1,2] × [1/2,1]` inside it -/
example : ∃ g h h', getItem f0 (.region box) = .ok g ∧ getItem g (.region (reg [1, 1/2] [2, 1])) = .ok h ∧
    getItem f0 (.region (reg [1, 1/2] [2, 1])) = .ok h' := by
  obtain ⟨g, h, h', r1, r2, r3, _⟩ := getitem_getitem_total f0 f0_wf rfl box (reg [1, 1/2] [2, 1]) box_in rfl rfl rfl
    (by
      intro a ha
      rcases lt_two a ha with rfl | rfl <;> norm_num [box, reg, Region.lo, Region.hi])
  exact ⟨g, h, h', r1, r2, r3⟩

/-- hypotheses of `pad_crop_total`, in every mode -/
example (mode : PadMode) : ∃ g h, padFld f0 pw0 mode = .ok g ∧ getItem g (.region f0.mesh.region) = .ok h := by
  obtain ⟨g, h, r1, r2, _⟩ := pad_crop_total f0 f0_wf rfl pw0 (by decide)
    (fun w hw => (pw0_ok w hw).1) (fun w hw => (pw0_ok w hw).2) f0_bcOk mode
  exact ⟨g, h, r1, r2⟩

/-- hypotheses of `resample_via_refinement_total` / `resample_id_total`: refine 4 × 2 by 2 × 2, then go to
the coprime counts 3 × 1 -/
example : ∃ g k k', resample f0 (tab f0.mesh.ndim fun b => (((fun _ => 2) b * f0.mesh.nAt b : Nat) : Int)) = .ok g ∧
    resample g [3, 1] = .ok k ∧ resample f0 [3, 1] = .ok k' := by
  obtain ⟨g, k, k', r1, r2, r3, _⟩ := resample_via_refinement_total f0 f0_wf rfl (fun _ => 2) (fun _ _ => by decide)
    [3, 1] rfl (by decide)
  exact ⟨g, k, k', r1, r2, r3⟩

/-- hypothesis of `pad_reflect_pointwise`: every axis of `f0` has at least two cells; of
`pad_constant_pointwise`: cell `[0, 0]` of the padded field lies in front of the source along `x` -/
example : (∀ b, b < f0.mesh.ndim → 2 ≤ f0.mesh.nAt b) ∧
    ¬ ((sumW f0.mesh (·.lo) pw0 0).toNat ≤ [0, 0].getD 0 0 ∧
      [0, 0].getD 0 0 < (sumW f0.mesh (·.lo) pw0 0).toNat + f0.mesh.nAt 0) :=
  ⟨fun b hb => by rcases lt_two b hb with rfl | rfl <;> decide, by decide⟩

/-- hypotheses of `getitem_name_eq_region`: the stored subregion `a` of `f1` -/
example : getItem f1 (.name "a") = getItem f1 (.region s0) :=
  (getitem_name_eq_region f1 f1_wf "a" s0 rfl k1 k2 s0_aligned rfl rfl rfl).2

/-- hypotheses of `region2slices_mono` and `region2slices_cells`: the subregion `s0` inside the whole region -/
example : (∃ s1 s2, region2slices m1 s0 = .ok s1 ∧ region2slices m1 m1.region = .ok s2 ∧
      ∀ a, a < m1.ndim → m1.region.lo a ≤ s0.lo a ∧ s0.hi a ≤ m1.region.hi a) ∧
    (m1.region.lo 0 ≤ s0.lo 0 + m1.cellAt 0 / 2 ∧ s0.lo 0 + m1.cellAt 0 / 2 < m1.region.hi 0) ∧
    (m1.region.lo 0 ≤ s0.hi 0 - m1.cellAt 0 / 2 ∧ s0.hi 0 - m1.cellAt 0 / 2 ≤ m1.region.hi 0) := by
  refine ⟨⟨_, _, (region2slices_spec m1 m1_inv s0 k1 k2 s0_aligned).1, region2slices_whole m1 m1_inv, ?_⟩, ?_, ?_⟩
  · intro a ha
    rcases lt_two a ha with rfl | rfl <;> norm_num [m1, m0, s0, reg, Region.lo, Region.hi]
  · norm_num [m1, m0, s0, reg, Region.lo, Region.hi, Mesh.cellAt, Mesh.nAt, Region.edge]
  · norm_num [m1, m0, s0, reg, Region.lo, Region.hi, Mesh.cellAt, Mesh.nAt, Region.edge]

/-- hypotheses of `sel_nonfinite_rejected`: a point at `nan`, a range ending at `+inf` -/
example : (SelArgE.point .nan).NonFinite ∧ (SelArgE.range (.fin 1) .posInf).NonFinite :=
  ⟨fun _ h => ExtRat.noConfusion h, Or.inr (fun _ h => ExtRat.noConfusion h)⟩

/-- hypotheses of `getitem_nonfinite_rejected`: `Region(p1=(0, 0), p2=(inf, 1))` is built … -/
example : boxMkE? [.fin 0, .fin 0] [.posInf, .fin 1] = .ok ([.fin 0, .fin 0], [.posInf, .fin 1]) := by
  decide

/-- … the extended model is not trivial on finite values: `sorted` puts the bounds in order -/
example : sort2 (.fin 3) (.fin (1/2)) = (.fin (1/2), .fin 3) := by
  rw [sort2_fin, show min (3 : Rat) (1/2) = 1/2 by norm_num, show max (3 : Rat) (1/2) = 3 by norm_num]

/-- the hypothesis on `p` of `getitem_region_anypoint` / `sel_range_anypoint` is met by every cell centre
(and by the whole half-open cell around it) -/
example (g : Mesh) (hg : g.Inv) (j : List Nat) (b : Nat) (hb : b < g.ndim) :
    g.region.lo b + (j.getD b 0 : Rat) * g.cellAt b ≤ (g.centre j).getD b 0 ∧
    (g.centre j).getD b 0 < g.region.lo b + ((j.getD b 0 : Rat) + 1) * g.cellAt b := by
  rw [C01.centre_getD g b j hb, C01.centreAx_natCast, C01.face_le (hg.cellAt_pos hb), C01.face_lt (hg.cellAt_pos hb)]
  constructor <;> linarith

/-- both sides of `resample_fast_refines` are inhabited: 4 × 2 -> 3 × 5 -/
example : (∃ g, resample f0 [3, 5] = .ok g) ∧ ∃ g', resampleFast f0 [3, 5] = .ok g' := by
  have h := resample_accepts f0 f0_wf.1 rfl [3, 5] rfl (by decide)
  exact ⟨h, (resample_fast_refines f0 f0_wf [3, 5]).1.mp h⟩

/-- hypotheses of `pad_crop_smaller`: `pw0` pads x by (1, 2) and y by (0, 1); the smaller padding pads x by (1, 0) -/
example (mode : PadMode) : ∃ g g', padFld f0 pw0 mode = .ok g ∧ padFld f0 [⟨"x", 1, 0⟩] mode = .ok g' ∧
    ∀ b, b < f0.mesh.ndim → sumW f0.mesh (·.lo) [⟨"x", 1, 0⟩] b ≤ sumW f0.mesh (·.lo) pw0 b ∧
      sumW f0.mesh (·.hi) [⟨"x", 1, 0⟩] b ≤ sumW f0.mesh (·.hi) pw0 b := by
  have hbc := f0_bcOk
  obtain ⟨g, hg⟩ := (pad_ok_iff f0 f0_wf rfl pw0 (by decide) hbc mode).mpr pw0_ok
  obtain ⟨g', hg'⟩ := (pad_ok_iff f0 f0_wf rfl [⟨"x", 1, 0⟩] (by decide) hbc mode).mpr (by
    intro w hw
    simp only [List.mem_cons, List.mem_nil_iff, or_false] at hw
    subst hw
    exact ⟨⟨0, by decide⟩, by decide, by decide⟩)
  refine ⟨g, g', hg, hg', ?_⟩
  intro b hb
  rcases lt_two b hb with rfl | rfl <;> decide

/-- hypotheses of `resample_tie`: 4 × 2 -> 2 × 1, the centre `x = 1` of target cell 0 is the face between
source cells 0 and 1 -/
example : ∃ g, resample f0 [2, 1] = .ok g ∧
    g.mesh.centreAx 0 ((([0, 0] : List Nat).getD 0 0 : Nat) : Int)
      = f0.mesh.region.lo 0 + ((1 : Nat) : Rat) * f0.mesh.cellAt 0 := by
  obtain ⟨g, hg⟩ := resample_accepts f0 f0_wf.1 rfl [2, 1] rfl (by decide)
  obtain ⟨r1, r2, _, _⟩ := resample_region f0 _ g hg
  refine ⟨g, hg, ?_⟩
  unfold Mesh.centreAx Mesh.cellAt Mesh.nAt Region.edge
  rw [r1, r2]
  have e : List.map Int.toNat [2, 1] = [2, 1] := rfl
  rw [e]
  norm_num [f0, m0, reg, Region.lo, Region.hi]

end NonVacuity2

end DFV.C07
