import DFV.Lemmas.C08Ex
import DFV.Lemmas.C08Ex2
import DFV.Lemmas.C08Compound
import DFV.Lemmas.C08Sess
import DFV.Lemmas.C08Dict
import DFV.Lemmas.C08LinkC03
import DFV.Lemmas.C08Links
import DFV.Lemmas.C08LinkC07
import DFV.Lemmas.C07Ops
import DFV.Lemmas.C06Fld
/-!
# C08 — validity masks follow the data through every operation that keeps or maps cells

Property theorems about the validity model of `DFV/Model/C08.lean`.  Programs (compositions of
public `Field` operations), input masks, shapes, indices, pad widths, turn counts and setter
arguments are universally quantified; nothing is bounded.

`eval` is the code-shaped evaluator (every node transforms the whole mask array the way
`field.py` does and stores a new buffer through the validity setter), `spec` the index-level
reading, `evalS` the same evaluation over an abstract store of buffers (ownership), `wf` the
acceptance check on shapes, `gradProg` … `ufuncProg` the compound operations as `field.py`
composes them, `Sess` / `Stmt` sessions of statements with in-place changes (every statement reads
its operands' masks from the store), `Prog.subst` inlining.

`SessM` = sessions with MESH OBJECTS (what a result shares with its operand and what
it owns); the setter as one total function of every argument kind, dictionaries over subregions
included; the OBJECT-LEVEL LINK — the validity array of the results of the field-level operations
of the C03, C05, C07, C12 (shared rotation), C06, C11 and C15 models is what the theorems of the first half
say, stated on those models' own definitions.
-/
namespace DFV.C08
open DFV

/-! ## Programs: the code-shaped evaluation is the index-level reading -/

/-- **Refinement, all programs.**  Whenever a composition of operations is accepted, the mask
it produces has the predicted shape and, at every cell of the result, the value obtained by
pulling the cell back through the index maps of the operations to the input fields and
AND-ing (`spec`).  By induction over programs; every index map is shown to read inside its
source array. -/
theorem valid_program (env : Nat → Mask) (p : Prog) (m : Mask) (h : eval env p = .ok m) :
    m.shape = shapeOf env p ∧ ∀ j, inRange m.shape j = true → m.get j = spec env p j :=
  eval_spec env p m h

example : run (.map (.rot 0 1 1) (.binF (.leaf 0) (.un (.leaf 1))))
    = some ([3, 2], [false, false, false, false, true, true]) := by decide +kernel

/-- **AND of the leaves.**  For a composition without a setter step, a result cell is valid
exactly when every input-field cell it depends on (`deps`: the cells reached through the index
maps) is valid; a cell created by constant padding is invalid. -/
theorem valid_leaf_and (env : Nat → Mask) (p : Prog) (hp : setterFree p = true) (m : Mask)
    (h : eval env p = .ok m) (j : List Nat) (hj : inRange m.shape j = true) :
    m.get j = match deps env p j with
      | some l => l.all fun kj => (env kj.1).get kj.2
      | none => false := by
  rw [(eval_spec env p m h).2 j hj]
  exact spec_deps env p hp j

example : deps exEnv (.map (.rot 0 1 1) (.binF (.leaf 0) (.un (.leaf 1)))) [2, 1] = some [(0, [1, 0]), (1, [1, 0])] := by
  decide +kernel

/-! ## Unary and binary operations -/

/-- **Pass-through.**  `-f`, `abs(f)`, `f.norm`, `f.orientation`, component access, `real`,
`imag`, `conjugate`, `phase`, `abs`, `diff` (hence every component of `grad`) return the
operand's validity: same shape, same value at every cell. -/
theorem valid_unary (env : Nat → Mask) (p : Prog) (m : Mask) (h : eval env (.un p) = .ok m) :
    ∃ m0, eval env p = .ok m0 ∧ m.shape = m0.shape ∧ ∀ j, inRange m0.shape j = true → m.get j = m0.get j := by
  obtain ⟨m0, hm0, rfl⟩ := eval_un_ok.mp h
  exact ⟨m0, hm0, own_shape m0, own_get m0⟩

example : run (.un (.leaf 0)) = some ([2, 3], [true, false, true, true, true, false]) := by decide +kernel

/-- **Binary, field with field.**  Every operator, `dot`, `cross`, `angle` and `<<` between two
fields returns the cell-wise AND of both validities (and is rejected when the shapes differ). -/
theorem valid_binary_fields (env : Nat → Mask) (p q : Prog) (m : Mask) (h : eval env (.binF p q) = .ok m) :
    ∃ a b, eval env p = .ok a ∧ eval env q = .ok b ∧ a.shape = b.shape ∧ m.shape = a.shape ∧
      ∀ j, inRange a.shape j = true → m.get j = (a.get j && b.get j) := by
  obtain ⟨a, b, ha, hb, hab, rfl⟩ := eval_binF_ok.mp h
  exact ⟨a, b, ha, hb, hab, own_shape _, own_get (NDA.zipWith and a b)⟩

example : run (.binF (.leaf 0) (.leaf 1)) = some ([2, 3], [true, false, false, true, false, false]) := by decide +kernel
example : run (.binF (.leaf 0) (.map (.take 0 0) (.leaf 1))) = none := by decide +kernel

/-- **Binary, field with a number / vector / array.**  The result has the field's own validity. -/
theorem valid_binary_other (env : Nat → Mask) (p : Prog) (m : Mask) (h : eval env (.binC p) = .ok m) :
    ∃ m0, eval env p = .ok m0 ∧ m.shape = m0.shape ∧ ∀ j, inRange m0.shape j = true → m.get j = m0.get j := by
  obtain ⟨m0, hm0, rfl⟩ := eval_binC_ok.mp h
  exact ⟨m0, hm0, own_shape m0, own_get m0⟩

/-- **Both orders.**  `a ∘ b` and `b ∘ a` (e.g. scalar field with vector field and vector field
with scalar field) carry the same validity. -/
theorem valid_binary_comm (env : Nat → Mask) (p q : Prog) (m : Mask) (h : eval env (.binF p q) = .ok m) :
    ∃ m', eval env (.binF q p) = .ok m' ∧ m'.shape = m.shape ∧
      ∀ j, inRange m.shape j = true → m'.get j = m.get j := by
  obtain ⟨a, b, ha, hb, hab, hm, hg⟩ := valid_binary_fields env p q m h
  refine ⟨_, eval_binF_ok.mpr ⟨b, a, hb, ha, hab.symm, rfl⟩, (own_shape _).trans (hab.symm.trans hm.symm), fun j hj => ?_⟩
  rw [hm] at hj
  rw [own_get (NDA.zipWith and b a) j (hab ▸ hj), hg j hj]
  exact Bool.and_comm _ _

/-- **Self-combination.**  Combining results derived from ONE field (divergence, curl,
Laplacian, `grad`: sums and stacks of derivatives of components) gives that field's validity. -/
theorem valid_binary_idem (env : Nat → Mask) (p : Prog) (m : Mask) (h : eval env (.binF p p) = .ok m) :
    ∃ m0, eval env p = .ok m0 ∧ m.shape = m0.shape ∧ ∀ j, inRange m0.shape j = true → m.get j = m0.get j := by
  obtain ⟨a, b, ha, hb, _, hm, hg⟩ := valid_binary_fields env p p m h
  cases ha.symm.trans hb
  exact ⟨a, ha, hm, fun j hj => by rw [hg j hj, Bool.and_self]⟩

/-! ## Selection, extraction, padding, resampling, quarter turns -/

/-- **Mapped.**  `sel`, `field[region]`, `pad`, `resample`, `rotate90`: the validity of result
cell `j` is the validity of the source cell `op.src j` — a cell INSIDE the source array — or
`False` where constant padding created the cell. -/
theorem valid_mapped (env : Nat → Mask) (op : MapOp) (p : Prog) (m : Mask) (h : eval env (.map op p) = .ok m) :
    ∃ m0, eval env p = .ok m0 ∧ op.ok m0.shape = true ∧ m.shape = op.shape m0.shape ∧
      ∀ j, inRange m.shape j = true →
        match op.src m0.shape j with
        | some i => inRange m0.shape i = true ∧ m.get j = m0.get i
        | none => m.get j = false := by
  obtain ⟨m0, hm0, hok, rfl⟩ := eval_map_ok.mp h
  have hsh := (own_shape _).trans (apply_shape op m0 false)
  exact ⟨m0, hm0, hok, hsh, fun j hj => own_apply_get op m0 hok j (hsh ▸ hj)⟩

example : run (.map (.pad .reflect [(1, 0), (0, 2)]) (.leaf 0))
    = some ([3, 5], [true, true, false, true, true, true, false, true, false, true, true, true, false, true, true]) := by
  decide +kernel
example : run (.map (.resample [4, 2]) (.leaf 0)) = some ([4, 2], [true, true, true, true, true, false, true, false]) := by
  decide +kernel

/-- **Exactly as the data.**  The array call of each mapping operation is one function for any
entry type: applied to the array of (value, validity) pairs it returns, at every cell, the pair
of what it returns on the values and on the validities — the validity stays attached to the
value it belongs to. -/
theorem mapped_with_data {τ : Type} (op : MapOp) (data : NDA τ) (valid : Mask) (fd : τ)
    (hsh : valid.shape = data.shape) (hok : op.ok data.shape = true) (j : List Nat)
    (hj : inRange (op.shape data.shape) j = true) :
    (op.apply (NDA.zipWith Prod.mk data valid) (fd, false)).get j =
      ((op.apply data fd).get j, (op.apply valid false).get j) := by
  rw [apply_get op (NDA.zipWith Prod.mk data valid) (fd, false) hok j hj,
      apply_get op data fd hok j hj,
      apply_get op valid false (by rw [hsh]; exact hok) j (by rw [hsh]; exact hj)]
  rw [zip_shape, hsh]
  cases op.src data.shape j with
  | none => rfl
  | some i => rfl

/-- **Quarter turns.**  NumPy's `rot90` (flips and an axis swap) moves entries by the explicit
index map `rotSrc`, for every turn count and axis pair. -/
theorem rot90_moves_mask {α : Type} (x : NDA α) (p q : Nat) (k : Int) (hpq : p ≠ q) (hp : p < x.shape.length)
    (hq : q < x.shape.length) (j : List Nat) (hj : j.length = x.shape.length) :
    (T.rot90 x p q k).get j = x.get (rotSrc x.shape p q k j) := by
  rw [T.rot90_get, srcIdx_eq_rotSrc _ _ _ _ _ hpq hp hq hj]

/-- **Padding keeps the original cells.**  In every mode the cells of the unpadded field keep
their validity (result cell `j` inside the original block reads source cell `j − front width`). -/
theorem pad_keeps_inside (mode : PadMode) (w : List (Nat × Nat)) (s j : List Nat) (hj : j.length = s.length)
    (hin : ∀ b, b < s.length → (w.getD b (0, 0)).1 ≤ j.getD b 0 ∧ j.getD b 0 < (w.getD b (0, 0)).1 + s.getD b 0) :
    (MapOp.pad mode w).src s j = some (tab s.length fun b => j.getD b 0 - (w.getD b (0, 0)).1) :=
  pad_src_inside mode w s j hin

example : (MapOp.pad .wrap [(2, 1)]).src [3] [4] = some [2] ∧ (MapOp.pad .wrap [(2, 1)]).src [3] [0] = some [1] ∧
    (MapOp.pad .constant [(2, 1)]).src [3] [0] = none := by decide +kernel

/-- **Resampling is geometry-free.**  The nearest source cell computed on the real cell-centre
coordinates of any edge `[lo, lo+E]` (`E > 0`) is the one computed on the unit interval. -/
theorem resample_geometry_free (lo E : Rat) (hE : 0 < E) (n n' j : Nat) :
    nearestUpTo (fun k => lo + ((k : Rat) + 1 / 2) * (E / (n : Rat))) (lo + ((j : Rat) + 1 / 2) * (E / (n' : Rat))) (n - 1)
      = nearest n n' j :=
  nearest_affine lo E hE n n' j

example : nearest 2 3 1 = 1 := by decide +kernel  -- tie between both source cells: the larger index

/-! ## File round trips -/

/-- **VTK / HDF5.**  Writing a field and reading it back returns the same validity (VTK: integers
in first-index-fastest order, cast back to Booleans; HDF5: a Boolean dataset). -/
theorem valid_file_roundtrip (m : Mask) (i : List Nat) (h : inRange m.shape i = true) :
    (vtkRead m.shape (vtkWrite m)).get i = m.get i ∧ (h5Read m.shape (h5Write m)).get i = m.get i :=
  ⟨vtk_roundtrip_get m i h, h5_roundtrip_get m i h⟩

example : (match eval exEnv3 (.vtk (.leaf 0)) with
    | .ok m => some m.toList
    | .error _ => none) = some [true, false, false, true] := by decide +kernel
example : vtkWrite (exEnv3 0) = [1, 0, 0, 1] := by decide +kernel
example : run (.vtk (.leaf 0)) = none := by decide +kernel  -- only 3-d fields can be written to VTK

/-! ## The setter -/

/-- **Boolean array of the mesh shape.**  Whatever is assigned (`None`, a number, an array, a
callable, `'norm'`), if the setter accepts it the stored mask has shape `n` (entries are `Bool`
by type) and holds, at every cell, the value the specification assigns (`specMask`). -/
theorem setter_shape_bool (n : List Nat) (s : MSpec) (m : Mask) (h : setMask n s = .ok m) :
    m.shape = n ∧ ∀ j, inRange n j = true → m.get j = specMask n s j :=
  setMask_spec n s m h

/-- an array of the mesh shape (bool, int or float entries): valid where the entry is non-zero -/
theorem setter_array (n : List Nat) (a : NDA Rat) (ha : a.shape = n) :
    ∃ m, setMask n (.arr a) = .ok m ∧ m.shape = n ∧
      ∀ j, inRange n j = true → (m.get j = true ↔ a.get j ≠ 0) := by
  refine ⟨_, setMask_arr_same ha, rfl, fun j hj => ?_⟩
  rw [own_get ⟨n, fun j => decide (a.get j ≠ 0)⟩ j hj]
  simp

/-- an array with a trailing axis of length 1 that broadcasts to the mesh: accepted, and every
cell reads an entry inside the given array -/
theorem setter_broadcast (n : List Nat) (a : NDA Rat) (h1 : a.shape ≠ n) (h2 : a.shape.getLast? = some 1)
    (h3 : bcastOk a.shape (n ++ [1]) = true) :
    ∃ m, setMask n (.arr a) = .ok m ∧ m.shape = n ∧
      ∀ j, inRange n j = true →
        inRange a.shape (bcastIdx a.shape (n ++ [1]) (j ++ [0])) = true ∧
        (m.get j = true ↔ a.get (bcastIdx a.shape (n ++ [1]) (j ++ [0])) ≠ 0) := by
  refine ⟨own ⟨n, fun j => decide (a.get (bcastIdx a.shape (n ++ [1]) (j ++ [0])) ≠ 0)⟩, ?_, rfl,
    fun j hj => ⟨?_, ?_⟩⟩
  · simp only [setMask]
    rw [if_neg h1, if_neg (by rw [h2]; simp), if_neg (by rw [h3]; simp)]
  · exact bcastIdx_inRange _ _ _ h3 (inRange_snoc_one n j hj)
  · rw [own_get ⟨n, fun j => decide (a.get (bcastIdx a.shape (n ++ [1]) (j ++ [0])) ≠ 0)⟩ j hj]
    simp

example : bcastOk [3, 1, 1] ([2, 3, 4] ++ [1]) = true := by decide +kernel
example : bcastIdx [3, 1, 1] ([2, 3, 4] ++ [1]) ([1, 2, 3] ++ [0]) = [2, 0, 0] := by decide +kernel

/-- wrong shapes and unsupported arguments are rejected (nothing is stored) -/
theorem setter_rejects (n : List Nat) (a : NDA Rat) (h1 : a.shape ≠ n)
    (h2 : a.shape.getLast? ≠ some 1 ∨ bcastOk a.shape (n ++ [1]) = false) :
    setMask n (.arr a) = .error .value ∧ setMask n .bad = .error .type := by
  refine ⟨?_, rfl⟩
  simp only [setMask, if_neg h1]
  rcases h2 with h2 | h2
  · rw [if_pos h2]
  · split
    · rfl
    · simp [h2]

example : (NDA.const [2, 2] (1 : Rat)).shape ≠ [2, 3] ∧ (NDA.const [2, 2] (1 : Rat)).shape.getLast? ≠ some 1 := by decide +kernel
example : (NDA.const [5, 1] (1 : Rat)).shape.getLast? = some 1 ∧ bcastOk [5, 1] ([2, 3] ++ [1]) = false := by decide +kernel

/-- **`'norm'`.**  Exactly the cells whose stored value has squared length above `atol² = 1e-16`
are valid — a cell whose components are each below the threshold is valid when their
combined length exceeds it. -/
theorem setter_norm (f g : Fld) (h : setValid f .norm = .ok g) (j : List Nat) (hj : inRange f.mesh.n j = true) :
    (g.valid.get j = true ↔ atol * atol < sumSq (f.data.get j)) := by
  obtain ⟨m, hm, rfl⟩ := setValid_ok.mp h
  have := (setMask_spec _ _ m hm).2 j hj
  show m.get j = true ↔ _
  rw [this]
  simp [specMask, toMSpec]

/-- the threshold on the length itself: for a length `r ≥ 0` (any relative tolerance, since the
comparison value is 0), `~np.isclose(r, 0)` holds exactly when `r² > atol²` -/
theorem norm_threshold (r rtol : Rat) (hr : 0 ≤ r) :
    (!Region.isclose r 0 rtol atol) = decide (atol * atol < r * r) := by
  rw [Bool.eq_iff_iff, Bool.not_eq_true', ← Bool.not_eq_true, C01.isclose_iff_absR, sub_zero, absR_of_nonneg hr, absR_zero,
    mul_zero, add_zero, not_le, decide_eq_true_eq]
  exact mul_self_lt_mul_self_iff atol_pos.le hr

example : (match setValid exFld .norm with
    | .ok g => some g.valid.toList
    | .error _ => none) = some [false, true] := by decide +kernel
example : sumSq [6 / 1000000000, 9 / 1000000000] > atol * atol ∧ (9 : Rat) / 1000000000 ≤ atol := by
  simp only [sumSq, atol]; norm_num

/-- **Stored values untouched.**  An accepted assignment changes nothing but the mask: values,
mesh, component count, labels, mapping and unit are the operand's; the new mask has the mesh
shape. -/
theorem setValid_keeps_data (f g : Fld) (s : VSpec) (h : setValid f s = .ok g) :
    g.data = f.data ∧ g.mesh = f.mesh ∧ g.nvdim = f.nvdim ∧ g.vdims = f.vdims ∧ g.vmap = f.vmap ∧
      g.unit = f.unit ∧ g.valid.shape = f.mesh.n := by
  obtain ⟨m, hm, rfl⟩ := setValid_ok.mp h
  exact ⟨rfl, rfl, rfl, rfl, rfl, rfl, (setMask_spec _ _ m hm).1⟩

/-- a callable is asked at the CENTRE of every cell; the truth value of its answer is stored -/
theorem setValid_func_centres (f g : Fld) (fn : List Rat → Bool) (h : setValid f (.func fn) = .ok g)
    (j : List Nat) (hj : inRange f.mesh.n j = true) : g.valid.get j = fn (f.mesh.centre j) := by
  obtain ⟨m, hm, rfl⟩ := setValid_ok.mp h
  exact (setMask_spec _ _ m hm).2 j hj

example : (match setValid exFld (.func fun p => decide (p.getD 0 0 < 1)) with
    | .ok g => some g.valid.toList
    | .error _ => none) = some [true, false] := by decide +kernel

/-- assigning validity to a result forgets the result's previous mask: only its shape matters -/
theorem setter_forgets (env : Nat → Mask) (s : MSpec) (p q : Prog) (a b : Mask) (ha : eval env p = .ok a)
    (hb : eval env q = .ok b) (hs : a.shape = b.shape) : eval env (.setv s p) = eval env (.setv s q) := by
  simp only [eval, ha, hb, hs]

/-! ## Ownership (modelled requirement; observed on the code with `np.shares_memory` and
write-through probes) -/

/-- **A result's validity is its own.**  In the store model every operation that builds a field
allocates the buffer of its mask: unless the program is the input field itself (`aliasOf`: only
unary plus returns its operand, known finding D7), the result's buffer is one allocated during
the evaluation — none of the buffers that existed before — and the old buffers are still there,
unchanged, as a prefix of the store. -/
theorem result_owns_validity (env : Nat → Mask) (addr : Nat → Nat) (p : Prog) (st st' : Store) (a : Nat)
    (h : evalS env addr p st = .ok (a, st')) (hp : aliasOf p = none) :
    st.length ≤ a ∧ a < st'.length ∧ ∃ ext, st' = st ++ ext := by
  obtain ⟨ext, m, _, rfl, rfl⟩ := (evalS_ok env addr p st a st' h).2 hp
  exact ⟨by simp, by simp, ext ++ [m.toList], List.append_assoc _ _ _⟩

/-- the buffer the result owns holds exactly the mask the evaluator computes (C order) -/
theorem result_buffer_holds_mask (env : Nat → Mask) (addr : Nat → Nat) (p : Prog) (st st' : Store) (a : Nat)
    (h : evalS env addr p st = .ok (a, st')) (hp : aliasOf p = none) :
    ∃ m, eval env p = .ok m ∧ st'.getD a [] = m.toList := by
  obtain ⟨ext, m, hm, rfl, rfl⟩ := (evalS_ok env addr p st a st' h).2 hp
  exact ⟨m, hm, getD_concat_length _ _ _⟩

/-- **Write-through probe.**  Changing an entry of the result's mask afterwards leaves every
buffer that existed before the evaluation — in particular every operand's mask — as it was. -/
theorem write_leaves_operands (env : Nat → Mask) (addr : Nat → Nat) (p : Prog) (st st' : Store) (a : Nat)
    (h : evalS env addr p st = .ok (a, st')) (hp : aliasOf p = none) (k : Nat) (v : Bool) (b : Nat)
    (hb : b < st.length) : (write st' a k v).getD b [] = st.getD b [] := by
  obtain ⟨h1, h2, ⟨ext, rfl⟩⟩ := result_owns_validity env addr p st st' a h hp
  rw [write_other _ _ _ _ _ (Nat.ne_of_lt (Nat.lt_of_lt_of_le hb h1))]
  exact getD_append_left _ _ _ _ hb

/-- **Unary plus (code as it stands, D7).**  `+f` is `f`: the result's mask IS the operand's
buffer, so a write through the result changes the operand. -/
theorem unary_plus_aliases (env : Nat → Mask) (addr : Nat → Nat) (k : Nat) (st : Store) :
    evalS env addr (.pos (.leaf k)) st = .ok (addr k, st) := rfl

example : (match evalS exEnv id (.binF (.un (.leaf 0)) (.pos (.leaf 1))) [(exEnv 0).toList, (exEnv 1).toList] with
    | .ok r => some (r.1, r.2.length)
    | .error _ => none) = some (3, 4) := by decide +kernel
example : (write [[true, false]] 0 1 true).getD 0 [] = [true, true] := by decide +kernel
example : aliasOf (.un (.pos (.leaf 0))) = none ∧ aliasOf (.pos (.pos (.leaf 3))) = some 3 := by decide +kernel

/-! ## Acceptance: well-formed programs are accepted, and only those -/

/-- **Accepted = well formed.**  A composition of operations is accepted exactly when it is well
formed (`wf`, a check on shapes alone: combined fields have the same cells, every mapping
operation is applicable to the shape it receives, VTK only in three dimensions, setter arguments
of an acceptable shape and type). -/
theorem program_accepted_iff (env : Nat → Mask) (p : Prog) : (∃ m, eval env p = .ok m) ↔ wf env p = true :=
  eval_ok_iff env p

/-- **Refinement without the success hypothesis.**  Every well-formed program evaluates, and its
mask is the index-level reading on every cell of the predicted shape. -/
theorem valid_program_total (env : Nat → Mask) (p : Prog) (h : wf env p = true) :
    ∃ m, eval env p = .ok m ∧ m.shape = shapeOf env p ∧
      ∀ j, inRange (shapeOf env p) j = true → m.get j = spec env p j :=
  eval_of_wf env p h

example : wf exEnv (.map (.rot 0 1 1) (.binF (.leaf 0) (.un (.leaf 1)))) = true := by decide +kernel
example : wf exEnv (.binF (.leaf 0) (.map (.take 0 0) (.leaf 1))) = false := by decide +kernel

/-! ## Results on a new cell set -/

/-- **`mean` / `integrate` / FFT family / temporary fields.**  A field built without `valid=`
(directional mean and integral, cumulative integral, `fftn`, `ifftn`, `rfftn`, the
`Field(mesh, value=3)` inside `f << 3`) is valid in every cell of its own shape, whatever the
operand's mask was. -/
theorem valid_fresh (env : Nat → Mask) (k : FreshOp) (p : Prog) (m : Mask) (h : eval env (.fresh k p) = .ok m) :
    ∃ m0, eval env p = .ok m0 ∧ k.ok m0.shape = true ∧ m.shape = k.shape m0.shape ∧
      ∀ j, inRange m.shape j = true → m.get j = true := by
  obtain ⟨m0, hm0, hok, rfl⟩ := eval_fresh_ok.mp h
  refine ⟨m0, hm0, hok, own_shape _, fun j hj => ?_⟩
  rw [own_shape] at hj
  exact own_get (NDA.const _ true) j hj

example : run (.fresh (.reduce [0]) (.leaf 0)) = some ([3], [true, true, true]) := by decide +kernel
example : run (.fresh .rfft (.leaf 0)) = some ([2, 2], [true, true, true, true]) := by decide +kernel
example : run (.fresh (.reduce [0, 1]) (.leaf 0)) = none := by decide +kernel  -- mean over every direction is not a field

/-! ## Several field operands; compound operations -/

/-- **n-ary AND.**  A chain `((a ∘ x₀) ∘ x₁) ∘ …` of field-with-field combinations (Python's `sum`,
stacking with `<<`, a ufunc with several field inputs) is valid exactly where `a` and every `xᵢ`
are valid; all operands have the same cells. -/
theorem valid_nary_and (env : Nat → Mask) (acc : Prog) (xs : List Prog) (m : Mask)
    (h : eval env (chainF acc xs) = .ok m) :
    ∃ a, eval env acc = .ok a ∧ m.shape = a.shape ∧
      (∀ x ∈ xs, ∃ b, eval env x = .ok b ∧ b.shape = a.shape) ∧
      ∀ j, inRange a.shape j = true →
        (m.get j = true ↔ a.get j = true ∧ ∀ x ∈ xs, ∃ b, eval env x = .ok b ∧ b.get j = true) := by
  have hw := (eval_ok_iff env _).mp ⟨m, h⟩
  rw [chainF_wf, Bool.and_eq_true, List.all_eq_true] at hw
  obtain ⟨a, ha, h3, h4⟩ := eval_of_wf env acc hw.1
  obtain ⟨h1, h2⟩ := eval_spec env _ m h
  have hs : m.shape = a.shape := by rw [h1, chainF_shapeOf, h3]
  have each : ∀ x ∈ xs, ∃ b, eval env x = .ok b ∧ b.shape = a.shape ∧
      ∀ j, inRange a.shape j = true → b.get j = spec env x j := by
    intro x hx
    have := hw.2 x hx
    simp only [Bool.and_eq_true, decide_eq_true_eq] at this
    obtain ⟨b, hb, h5, h6⟩ := eval_of_wf env x this.1
    exact ⟨b, hb, by rw [h5, h3, this.2], fun j hj => h6 j (by rw [← this.2, ← h3]; exact hj)⟩
  refine ⟨a, ha, hs, fun x hx => (each x hx).imp fun b hb => ⟨hb.1, hb.2.1⟩, fun j hj => ?_⟩
  rw [h2 j (by rw [hs]; exact hj), chainF_spec, Bool.and_eq_true, List.all_eq_true, h4 j (h3 ▸ hj)]
  constructor
  · rintro ⟨e1, e2⟩
    refine ⟨e1, fun x hx => ?_⟩
    obtain ⟨b, hb, _, hg⟩ := each x hx
    exact ⟨b, hb, by rw [hg j hj]; exact e2 x hx⟩
  · rintro ⟨e1, e2⟩
    refine ⟨e1, fun x hx => ?_⟩
    obtain ⟨b, hb, hbg⟩ := e2 x hx
    obtain ⟨b', hb', _, hg⟩ := each x hx
    rw [hb] at hb'; simp only [Except.ok.injEq] at hb'; subst hb'
    rw [← hg j hj]; exact hbg

example : run (chainF (.leaf 0) [.leaf 1, .un (.leaf 0), .leaf 1]) = some ([2, 3], [true, false, false, true, false, false]) := by
  decide +kernel

/-- **ufuncs.**  `np.add(f, g)`, `np.divmod(f, g)`, `np.float64(2) * f`, …: the result of a NumPy
ufunc is valid exactly where ALL its field inputs are valid (`np.logical_and.reduce`), for any
number of field inputs. -/
theorem valid_ufunc (env : Nat → Mask) (x : Prog) (xs : List Prog) (m : Mask)
    (h : eval env (ufuncProg (x :: xs)) = .ok m) (j : List Nat) (hj : inRange m.shape j = true) :
    m.get j = (x :: xs).all fun y => spec env y j := by
  rw [(eval_spec env _ m h).2 j hj]
  simp only [ufuncProg]
  rw [chainF_spec]; rfl

/-- **`sum`.**  Python's `sum` of fields (`0 + x₀ + x₁ + …`, the form `div` and `laplace` use) is
valid exactly where every summand is. -/
theorem valid_sum (env : Nat → Mask) (x : Prog) (xs : List Prog) (m : Mask)
    (h : eval env (sumProg (x :: xs)) = .ok m) (j : List Nat) (hj : inRange m.shape j = true) :
    m.get j = (x :: xs).all fun y => spec env y j := by
  rw [(eval_spec env _ m h).2 j hj]
  simp only [sumProg]
  rw [chainF_spec]; rfl

example : run (ufuncProg [.leaf 0, .leaf 1, .leaf 0]) = run (.binF (.leaf 0) (.leaf 1)) := by decide +kernel

/-- **`grad`, any number of directions.**  The gradient of a scalar field on a mesh with `nd ≥ 1`
directions (derivatives stacked with `<<`) has the operand's validity — and is accepted whenever
the operand is. -/
theorem valid_grad (env : Nat → Mask) (nd : Nat) (hn : 0 < nd) (p : Prog) :
    (wf env (gradProg nd p) = wf env p) ∧ ∀ m, eval env (gradProg nd p) = .ok m →
      ∃ m0, eval env p = .ok m0 ∧ m.shape = m0.shape ∧ ∀ j, inRange m0.shape j = true → m.get j = m0.get j :=
  ⟨(gradProg_same env nd p hn).wf, (gradProg_same env nd p hn).mask⟩

/-- **`div`, any number of components.**  The divergence (sum over the `nv ≥ 1` components of the
derivative of each component) has the operand's validity. -/
theorem valid_div (env : Nat → Mask) (nv : Nat) (hn : 0 < nv) (p : Prog) :
    (wf env (divProg nv p) = wf env p) ∧ ∀ m, eval env (divProg nv p) = .ok m →
      ∃ m0, eval env p = .ok m0 ∧ m.shape = m0.shape ∧ ∀ j, inRange m0.shape j = true → m.get j = m0.get j :=
  ⟨(divProg_same env nv p hn).wf, (divProg_same env nv p hn).mask⟩

/-- **`curl`.**  Three differences of derivatives of components, stacked: the operand's validity. -/
theorem valid_curl (env : Nat → Mask) (p : Prog) :
    (wf env (curlProg p) = wf env p) ∧ ∀ m, eval env (curlProg p) = .ok m →
      ∃ m0, eval env p = .ok m0 ∧ m.shape = m0.shape ∧ ∀ j, inRange m0.shape j = true → m.get j = m0.get j :=
  ⟨(curlProg_same env p).wf, (curlProg_same env p).mask⟩

/-- **`laplace`, any number of directions and components.**  Per component the sum of the second
derivatives over all `nd ≥ 1` directions, the `nv ≥ 1` results stacked: the operand's validity. -/
theorem valid_laplace (env : Nat → Mask) (nd nv : Nat) (hd : 0 < nd) (hv : 0 < nv) (p : Prog) :
    (wf env (laplaceProg nd nv p) = wf env p) ∧ ∀ m, eval env (laplaceProg nd nv p) = .ok m →
      ∃ m0, eval env p = .ok m0 ∧ m.shape = m0.shape ∧ ∀ j, inRange m0.shape j = true → m.get j = m0.get j :=
  ⟨(laplaceProg_same env nd nv p hd hv).wf, (laplaceProg_same env nd nv p hd hv).mask⟩

example : run (gradProg 2 (.leaf 0)) = run (.un (.leaf 0)) ∧ run (divProg 2 (.leaf 0)) = run (.un (.leaf 0)) ∧
    run (curlProg (.leaf 0)) = run (.un (.leaf 0)) ∧ run (laplaceProg 2 3 (.leaf 0)) = run (.un (.leaf 0)) ∧
    run (laplaceProg 2 1 (.leaf 0)) = run (.un (.leaf 0)) := by decide +kernel

/-- **Number operands that become fields, reflected operators.**  `f << 3` and `3 << f` (the
number is first turned into an all-valid field on the same mesh and then combined), `other - f`
(`-f + other`) and `other & f` (`-(f & other)`) carry `f`'s validity. -/
theorem valid_reflected (env : Nat → Mask) (p : Prog) (P : Prog)
    (hP : P = lshiftConstProg p ∨ P = rlshiftConstProg p ∨ P = rsubProg p ∨ P = rcrossProg p) (m : Mask)
    (h : eval env P = .ok m) :
    ∃ m0, eval env p = .ok m0 ∧ m.shape = m0.shape ∧ ∀ j, inRange m0.shape j = true → m.get j = m0.get j := by
  rcases hP with rfl | rfl | rfl | rfl
  · exact (SameReading.lshift p).1.mask m h
  · exact (SameReading.lshift p).2.mask m h
  · exact (SameReading.refl p).un.binC.mask m h
  · exact (SameReading.refl p).binC.un.mask m h

example : run (lshiftConstProg (.leaf 0)) = run (.un (.leaf 0)) ∧ run (rlshiftConstProg (.leaf 1)) = run (.un (.leaf 1)) := by
  decide +kernel

/-- **The constructor route.**  Every operation ends in `Field(..., valid=<Boolean array>)`, i.e. in
the setter with an array of the mesh shape: what is stored is a copy (`own`) of exactly that
array — `True` where it was `True`, `False` where it was `False`. -/
theorem ctor_route_stores_copy (m : Mask) : setMask m.shape (.arr (asArr m)) = .ok (own m) :=
  setMask_asArr m

/-- **Re-assigning a mask changes nothing.**  `g.valid = f.valid` for a mask the setter produced:
same shape, same value in every cell (`f.valid = f.valid` is the identity on validity). -/
theorem setter_idempotent (n : List Nat) (s : MSpec) (m : Mask) (h : setMask n s = .ok m) :
    ∃ m', setMask n (.arr (asArr m)) = .ok m' ∧ m'.shape = n ∧ ∀ j, inRange n j = true → m'.get j = m.get j := by
  have hs := (setMask_spec n s m h).1
  refine ⟨own m, by rw [← hs]; exact setMask_asArr m, hs, fun j hj => own_get m j (by rw [hs]; exact hj)⟩

example : setMask [2, 3] (.arr (asArr (exEnv 0))) = .ok (own (exEnv 0)) := ctor_route_stores_copy (exEnv 0)

/-- **`'norm'` on empty cells.**  A cell whose stored value is the zero vector (any number of
components) is invalid after `valid = 'norm'`. -/
theorem setter_norm_zero (f g : Fld) (h : setValid f .norm = .ok g) (j : List Nat) (hj : inRange f.mesh.n j = true)
    (hz : ∀ c ∈ f.data.get j, c = 0) : g.valid.get j = false := by
  have hsq : sumSq (f.data.get j) = 0 := by rw [sumSq_eq_sqLen]; exact (C15.sqLen_eq_zero_iff _).mpr hz
  have := (setter_norm f g h j hj).not
  rw [hsq] at this
  simpa using this.mpr (not_lt.mpr (mul_self_nonneg atol))

/-! ## Sessions: ownership over whole histories with in-place changes

A session is a history of statements over numbered variables: `x_new = <expression>`,
`x_i.valid = spec`, `x_i.rotate90(..., inplace=True)`, `x_i.valid[idx] = v`.  Every statement
reads its operands' masks from the store as it is at that moment. -/

/-- **Invariant, all histories.**  After any history from any input fields: every variable names
an object, every object's mask buffer lies in the store, and two variables read the same buffer
exactly when they are names of ONE object (which only `y = +x` creates). -/
theorem session_invariant (leaves : List Mask) (h : List Stmt) (st : Sess) (hr : (Sess.init leaves).run h = .ok st) :
    (∀ i, i < st.vars.length → st.objOf i < st.objs.length ∧ st.addrOf i < st.store.length) ∧
    ∀ i j, i < st.vars.length → j < st.vars.length → (st.addrOf i = st.addrOf j ↔ st.objOf i = st.objOf j) := by
  have hI := Sess.init_run_inv hr
  refine ⟨fun i hi => ⟨hI.vars_lt i hi, hI.addr_lt _ (hI.vars_lt i hi)⟩, fun i j hi hj => ⟨fun he => ?_, fun he => ?_⟩⟩
  · exact hI.addr_inj _ _ (hI.vars_lt i hi) (hI.vars_lt j hj) he
  · unfold Sess.addrOf; rw [he]

/-- **Write-through, at any point of any history.**  `x_i.valid[idx] = v` leaves the mask of every
variable that is not a name of the same object exactly as it was. -/
theorem session_write_isolated (leaves : List Mask) (h : List Stmt) (st st' : Sess)
    (hr : (Sess.init leaves).run h = .ok st) (i pos : Nat) (v : Bool) (hs : st.step (.poke i pos v) = .ok st')
    (j : Nat) (hj : j < st.vars.length) (hne : st.objOf j ≠ st.objOf i) : st'.mask j = st.mask j :=
  Sess.poke_other st st' (Sess.init_run_inv hr) i pos v hs j hj hne

/-- **Assigning validity in place.**  `x_i.valid = spec` at any point of any history: the argument
is judged against the shape of `x_i`; afterwards every name of that object reads the new mask,
every other variable reads what it read before, and the old buffer is still in the store,
untouched (the store only grew). -/
theorem session_assign (leaves : List Mask) (h : List Stmt) (st st' : Sess)
    (hr : (Sess.init leaves).run h = .ok st) (i : Nat) (s : MSpec) (hs : st.step (.assign i s) = .ok st') :
    ∃ m, setMask (st.shapeOfVar i) s = .ok m ∧
      (∀ j, j < st.vars.length → st.objOf j ≠ st.objOf i → st'.mask j = st.mask j) ∧
      (∀ j, st.objOf j = st.objOf i → st'.mask j = m.force false) ∧
      st'.store = st.store ++ [m.toList] :=
  (Sess.assign_effect st st' (Sess.init_run_inv hr) i s hs).imp
    fun _ hm => ⟨hm.1, hm.2.1, hm.2.2.1, hm.2.2.2.1⟩

/-- **In-place quarter turn.**  `x_i.rotate90(ax1, ax2, k, inplace=True)` stores the turned mask
(the same `rot90` as for the values) in a new buffer of the same object; no other object's mask
changes. -/
theorem session_rotate_inplace (leaves : List Mask) (h : List Stmt) (st st' : Sess)
    (hr : (Sess.init leaves).run h = .ok st) (i a b : Nat) (k : Int) (hs : st.step (.rotI i a b k) = .ok st') :
    (∀ j, j < st.vars.length → st.objOf j ≠ st.objOf i → st'.mask j = st.mask j) ∧
    (∀ j, st.objOf j = st.objOf i → st'.mask j = (own ((MapOp.rot a b k).apply (st.mask i) false)).force false) :=
  let e := Sess.rotI_effect st st' (Sess.init_run_inv hr) i a b k hs
  ⟨e.2.1, e.2.2.1⟩

/-- **Building a field.**  `x_new = <expression over the variables>` evaluates the expression on
the masks the variables have NOW, changes no existing variable, and — unless the expression is a
variable itself behind unary plus — the new variable is a new object whose buffer was not in the
store before. -/
theorem session_build (leaves : List Mask) (h : List Stmt) (st st' : Sess)
    (hr : (Sess.init leaves).run h = .ok st) (p : Prog) (hs : st.step (.build p) = .ok st') :
    ∃ m, eval st.mask p = .ok m ∧
      (∀ j, j < st.vars.length → st'.mask j = st.mask j) ∧
      (aliasOf p = none → st'.mask st.vars.length = m.force false ∧ st'.objOf st.vars.length = st.objs.length ∧
        st'.addrOf st.vars.length = st.store.length) := by
  obtain ⟨m, h1, h2, _, h4, _⟩ := Sess.build_effect st st' (Sess.init_run_inv hr) p hs
  exact ⟨m, h1, fun j hj => (h2 j hj).1, h4⟩

/-- **Without unary plus every variable is its own object**, after any history. -/
theorem session_distinct_without_plus (leaves : List Mask) (h : List Stmt) (st : Sess)
    (hr : (Sess.init leaves).run h = .ok st) (ha : (h.all fun s => !s.aliases) = true) (i j : Nat)
    (hi : i < st.vars.length) (hj : j < st.vars.length) (he : st.objOf i = st.objOf j) : i = j :=
  Sess.run_distinct h _ st (Sess.init_inv leaves) (Sess.init_distinct leaves) ha hr i j hi hj he

/-- **A result's validity is its own — over whole histories.**  Take any history without unary
plus, any variable `j` that exists at some point of it, and ANY continuation in which no
statement is an in-place change of `j` itself: builds of new fields from `j`, assignments,
in-place rotations and element writes on every other variable (operands and results alike).
At the end `j` reads exactly the mask it read at that point. -/
theorem session_ownership (leaves : List Mask) (h1 h2 : List Stmt) (st st' : Sess)
    (hr1 : (Sess.init leaves).run h1 = .ok st) (ha1 : (h1.all fun s => !s.aliases) = true) (j : Nat)
    (hj : j < st.vars.length) (ha2 : (h2.all fun s => !s.aliases && decide (s.target ≠ some j)) = true)
    (hr2 : st.run h2 = .ok st') : st'.mask j = st.mask j :=
  Sess.run_keeps h2 j st st' (Sess.init_run_inv hr1)
    (Sess.run_distinct h1 _ st (Sess.init_inv leaves) (Sess.init_distinct leaves) ha1 hr1) hj ha2 hr2

/-- **Unary plus (code as it stands, D7).**  `y = +x_i` gives a second name to the object of
`x_i`: a later write through `y` is a write into `x_i`'s buffer. -/
theorem session_unary_plus_shares (st st1 st2 : Sess) (i pos : Nat) (v : Bool)
    (h1 : st.step (.build (.pos (.leaf i))) = .ok st1) (h2 : st1.step (.poke st.vars.length pos v) = .ok st2) :
    st1.objOf st.vars.length = st.objOf i ∧
    st2.store.getD (st2.addrOf i) [] = (st1.store.getD (st1.addrOf i) []).set pos v := by
  obtain ⟨hl, _, _, e1⟩ := Sess.step_build.mp h1
  change st1 = st.share i at e1
  subst e1
  have ho : (st.share i).objOf st.vars.length = st.objOf i := getD_concat_length _ _ _
  have ho' : (st.share i).objOf i = st.objOf i := getD_append_left _ _ _ _ (of_decide_eq_true hl)
  exact ⟨ho, (Sess.poke_same _ st2 _ pos v h2 i (by rw [ho', ho])).2⟩

example : (match (Sess.init [exEnv 0, exEnv 1]).run
      [.build (.binF (.leaf 0) (.leaf 1)), .poke 2 0 false, .assign 0 (.const 0), .rotI 1 0 1 1, .build (.un (.leaf 2))] with
    | .ok st => some (st.vars, (st.mask 0).toList, (st.mask 1).shape, (st.mask 2).toList, (st.mask 3).toList)
    | .error _ => none)
    = some ([0, 1, 2, 3], [false, false, false, false, false, false], [3, 2],
            [false, false, false, true, false, false], [false, false, false, true, false, false]) := by decide +kernel
example : (match (Sess.init [exEnv 0]).run [.build (.pos (.leaf 0)), .poke 1 1 true] with
    | .ok st => some (st.vars, (st.mask 0).toList)
    | .error _ => none) = some ([0, 0], [true, true, true, true, true, false]) := by decide +kernel

/-! ## A field as validity; laws of the mapping operations -/

/-- **A Boolean field as validity.**  `valid = <scalar field of Booleans on a mesh whose region
contains this one>` (what `resample` hands to the constructor) is accepted, gives the mesh shape,
and every cell reads the field's cell whose centre is nearest to its own, axis by axis — a cell
INSIDE the field's array. -/
theorem setter_field_lookup (n : List Nat) (src : Mask) (cs xs : Nat → Nat → Rat) (hl : src.shape.length = n.length)
    (hpos : ∀ b, b < src.shape.length → 0 < src.shape.getD b 0) :
    ∃ m, setMask n (.lookup src true cs xs) = .ok m ∧ m.shape = n ∧
      ∀ j, inRange n j = true → inRange src.shape (lookupIdx src.shape cs xs j) = true ∧
        m.get j = src.get (lookupIdx src.shape cs xs j) := by
  obtain ⟨m, hm⟩ := (setMask_ok_iff n (.lookup src true cs xs)).mpr (by simp [MSpec.ok, hl])
  obtain ⟨h1, h2⟩ := setMask_spec _ _ _ hm
  exact ⟨m, hm, h1, fun j hj => ⟨lookupIdx_inRange _ _ _ _ hpos, h2 j hj⟩⟩

/-- **`resample` IS the setter with a field.**  `field.py` resamples the validity by handing
`Field(self.mesh, nvdim=1, value=self.valid, dtype=bool)` as `valid=` to the constructor on the new
mesh; with both meshes on the same region (any corner `lo`, any edge lengths `E > 0`) the stored
mask is exactly the mapping operation `resample` applied to the mask, for all shapes. -/
theorem resample_is_field_setter (m : Mask) (n' : List Nat) (hl : m.shape.length = n'.length) (lo E : Nat → Rat)
    (hE : ∀ b, 0 < E b) :
    setMask n' (.lookup m true (fun b k => lo b + ((k : Rat) + 1 / 2) * (E b / (m.shape.getD b 0 : Rat)))
        (fun b k => lo b + ((k : Rat) + 1 / 2) * (E b / (n'.getD b 0 : Rat))))
      = .ok (own ((MapOp.resample n').apply m false)) := by
  simp only [setMask, Bool.not_true, Bool.false_eq_true, if_false, hl, ne_eq, not_true_eq_false]
  congr 2
  show (⟨n', _⟩ : Mask) = ⟨n', _⟩
  congr 1
  funext j
  rw [lookupIdx_same_region m.shape n' lo E hE j]
  rfl

example : (match setMask [4, 2] (.lookup (exEnv 0) true (fun _ k => ((k : Rat) + 1 / 2) * (1 / ([2, 3].getD 0 0 : Rat)))
      (fun b k => ((k : Rat) + 1 / 2) * (1 / ([4, 2].getD b 0 : Rat)))) with
    | .ok m => some m.shape
    | .error _ => none) = some [4, 2] := by decide +kernel
example : (match setMask [4, 2] (.lookup (exEnv 0) false (fun _ _ => 0) (fun _ _ => 0)) with
    | .ok _ => true
    | .error _ => false) = false := by decide +kernel

/-- **Padding and taking the original block back.**  For every pad mode and all widths,
`f.pad(w, mode)[region of f]` (also the `out[slices]` step of `diff` on a periodic mesh) has
exactly `f`'s validity; it is accepted whenever `f` is, has one width pair per axis and no empty
axis. -/
theorem pad_then_crop_back (env : Nat → Mask) (mode : PadMode) (w : List (Nat × Nat)) (p : Prog) :
    (wf env p = true → w.length = (shapeOf env p).length →
      (∀ b, b < (shapeOf env p).length → 0 < (shapeOf env p).getD b 0) →
      wf env (.map (unpad w (shapeOf env p)) (.map (.pad mode w) p)) = true) ∧
    ∀ m, eval env (.map (unpad w (shapeOf env p)) (.map (.pad mode w) p)) = .ok m →
      ∃ m0, eval env p = .ok m0 ∧ m.shape = m0.shape ∧ ∀ j, inRange m0.shape j = true → m.get j = m0.get j := by
  obtain ⟨h1, h2, h3, h4⟩ := unpad_pad_facts env mode w p
  exact ⟨h4, same_mask_of_spec_in env _ p h1 h2 h3⟩

example : run (.map (unpad [(2, 1), (0, 3)] [2, 3]) (.map (.pad .symmetric [(2, 1), (0, 3)]) (.leaf 0))) = run (.un (.leaf 0)) := by
  decide +kernel

/-- **Well-formed arguments are accepted.**  `None`, `'norm'`, any number, any callable and any
array of the mesh shape are accepted by the setter on EVERY field (no hypothesis on the field). -/
theorem setValid_accepts (f : Fld) (s : VSpec)
    (hs : s = .none ∨ s = .norm ∨ (∃ v, s = .const v) ∨ (∃ fn, s = .func fn) ∨ ∃ a, s = .arr a ∧ a.shape = f.mesh.n) :
    ∃ g, setValid f s = .ok g := by
  rcases hs with rfl | rfl | ⟨v, rfl⟩ | ⟨fn, rfl⟩ | ⟨a, rfl, ha⟩
  · exact ⟨_, rfl⟩
  · exact ⟨_, rfl⟩
  · exact ⟨_, rfl⟩
  · exact ⟨_, rfl⟩
  · exact ⟨_, setValid_ok.mpr ⟨_, setMask_arr_same ha, rfl⟩⟩

example : ∃ g, setValid exFld .norm = .ok g := setValid_accepts exFld .norm (Or.inr (Or.inl rfl))

/-! ## Step by step = inlined -/

/-- **Compositions: step-by-step evaluation is evaluation of the inlined expression.**  Let the
inputs of `p` be results of earlier programs `σ k` that evaluate to the masks `vals k`.  Then
running `p` on those stored results and running the single inlined expression `p.subst σ` on the
original input fields accept exactly the same programs and produce the same shape and the same
validity in every cell — for all programs, by induction (the index-level reading commutes with
substitution, and evaluation depends only on shapes and in-range entries of its inputs). -/
theorem stepwise_is_inlined (env vals : Nat → Mask) (σ : Nat → Prog) (hσ : ∀ k, eval env (σ k) = .ok (vals k))
    (p : Prog) :
    ((∃ m, eval env (p.subst σ) = .ok m) ↔ ∃ m', eval vals p = .ok m') ∧
    ∀ m m', eval env (p.subst σ) = .ok m → eval vals p = .ok m' →
      m.shape = m'.shape ∧ ∀ j, inRange m'.shape j = true → m.get j = m'.get j := by
  have hF : Feeds env σ vals := fun k =>
    ⟨(eval_ok_iff env (σ k)).mp ⟨_, hσ k⟩, (eval_spec env _ _ (hσ k)).1.symm,
      fun j hj => ((eval_spec env _ _ (hσ k)).2 j hj).symm⟩
  refine ⟨by rw [eval_ok_iff, eval_ok_iff, subst_wf hF], fun m m' h h' => ?_⟩
  obtain ⟨h1, h2⟩ := eval_spec env _ m h
  obtain ⟨h3, h4⟩ := eval_spec vals p m' h'
  have hs : m.shape = m'.shape := by rw [h1, h3, subst_shapeOf hF]
  exact ⟨hs, fun j hj => by
    rw [h2 j (hs ▸ hj), h4 j hj]
    exact subst_spec hF p ((eval_ok_iff vals p).mp ⟨m', h'⟩) j (h3 ▸ hj)⟩

example : ∀ k, eval exEnv ((fun k => Prog.un (.leaf k)) k) = .ok ((fun k => own (exEnv k)) k) := fun _ => rfl
example : (Prog.binF (.leaf 0) (.map (.rot 0 1 2) (.leaf 1))).subst (fun k => .un (.leaf k))
    = .binF (.un (.leaf 0)) (.map (.rot 0 1 2) (.un (.leaf 1))) := rfl

/-! ## Sessions with mesh objects: what a result shares with its operand, and what it owns

`field.py` hands `self.mesh` to the constructor in every operation that keeps the cells: the result
holds a reference to the SAME `Mesh` object as its operand, but a validity buffer of its own.
`SessM` adds the mesh objects to the sessions: object ↦ mesh object ↦ cells per axis. -/

/-- **The masks are those of the plain session.**  Running a history with the mesh bookkeeping is
running it without (so every session theorem above applies to `st'.base`), and the bookkeeping never
refuses a statement the plain session accepts. -/
theorem session_mesh_conservative (leaves : List Mask) (h : List Stmt) :
    (∀ st', (SessM.init leaves).run h = .ok st' → (Sess.init leaves).run h = .ok st'.base) ∧
    ∀ (st : SessM) (s : Stmt) (b : Sess), st.base.step s = .ok b → ∃ st', st.step s = .ok st' ∧ st'.base = b :=
  ⟨fun st' hr => SessM.run_base h _ st' hr, fun st s b hb => SessM.step_total st s b hb⟩

/-- **`x.valid.shape == x.mesh.n`, all histories.**  After any history of builds, assignments,
element writes and in-place quarter turns — on fields that share their `Mesh` object with operands
and results alike — every variable's validity has exactly the cells of the mesh object it holds
(repo fix d0059dba: the turned field gets a NEW mesh object). -/
theorem session_mesh_consistent (leaves : List Mask) (h : List Stmt) (st : SessM)
    (hr : (SessM.init leaves).run h = .ok st) (i : Nat) (hi : i < st.base.vars.length) :
    st.meshObj i < st.meshN.length ∧ (st.base.mask i).shape = st.meshNOf i := by
  have hI := SessM.init_run_inv hr
  have ho := hI.base.vars_lt i hi
  exact ⟨hI.lt _ ho, (hI.shape _ ho).symm⟩

/-- **Mesh objects are never mutated.**  Whatever a continuation does (in-place quarter turns of
fields that share the mesh included), a mesh object that exists keeps its cells per axis: the table
of mesh objects only grows. -/
theorem session_mesh_immutable (st st' : SessM) (h : List Stmt) (hr : st.run h = .ok st') (o : Nat)
    (ho : o < st.meshN.length) : st'.meshN.getD o [] = st.meshN.getD o [] := by
  obtain ⟨ext, he⟩ := SessM.run_meshN h st st' hr
  rw [he]; exact getD_append_left _ _ _ _ ho

/-- **What a built field shares.**  `x_new = <expression>` at any point of any history: every
existing variable keeps its mesh object; the new field holds the mesh object of the variable
`meshOf` names (unary / derived / binary operations, the left operand's) — while its validity
buffer is new (`session_build`) — or, for cell-mapping operations, file round trips, directional
means and the FFT family, a mesh object that did not exist before. -/
theorem session_build_shares_mesh (leaves : List Mask) (h : List Stmt) (st st' : SessM)
    (hr : (SessM.init leaves).run h = .ok st) (p : Prog) (hs : st.step (.build p) = .ok st') :
    (∀ j, j < st.base.vars.length → st'.meshObj j = st.meshObj j) ∧
    (∀ k, meshOf p = some k → st'.meshObj st.base.vars.length = st.meshObj k) ∧
    (meshOf p = none → st'.meshObj st.base.vars.length = st.meshN.length) :=
  SessM.build_mesh st st' (SessM.init_run_inv hr) p hs

/-- **An in-place quarter turn un-shares the mesh.**  `x_i.rotate90(..., inplace=True)` at any point of
any history: the names of the turned object get a mesh object that did not exist before; every
other variable — also one that shared the mesh object with `x_i` — keeps its mesh object, whose
cells are unchanged, and its mask. -/
theorem session_rotate_unshares_mesh (leaves : List Mask) (h : List Stmt) (st st' : SessM)
    (hr : (SessM.init leaves).run h = .ok st) (i a b : Nat) (k : Int) (hs : st.step (.rotI i a b k) = .ok st') :
    (∀ j, st.base.objOf j = st.base.objOf i → st'.meshObj j = st.meshN.length) ∧
    (∀ j, j < st.base.vars.length → st.base.objOf j ≠ st.base.objOf i →
      st'.meshObj j = st.meshObj j ∧ st'.meshNOf j = st.meshNOf j ∧ st'.base.mask j = st.base.mask j) := by
  have hI := SessM.init_run_inv hr
  obtain ⟨h1, h2⟩ := SessM.rotI_mesh st st' hI i a b k hs
  refine ⟨h2, fun j hj hne => ⟨h1 j hj hne, ?_, ?_⟩⟩
  · unfold SessM.meshNOf
    rw [h1 j hj hne]
    exact session_mesh_immutable st st' [.rotI i a b k] (by simp only [SessM.run, hs]) _ (hI.lt _ (hI.base.vars_lt j hj))
  · exact (Sess.rotI_effect st.base st'.base hI.base i a b k (SessM.step_base st st' _ hs)).2.1 j hj hne

/-- assignments `x.valid = spec` and element writes `x.valid[idx] = v` leave every mesh reference and
every mesh object alone -/
theorem session_assign_poke_keep_mesh (st st' : SessM) (s : Stmt)
    (hs : (∃ i sp, s = .assign i sp) ∨ ∃ i pos v, s = .poke i pos v) (h : st.step s = .ok st') :
    st'.meshes = st.meshes ∧ st'.meshN = st.meshN ∧ ∀ j, st'.meshObj j = st.meshObj j := by
  obtain ⟨_, hb, rfl⟩ := SessM.step_ok.mp h
  rcases hs with ⟨i, sp, rfl⟩ | ⟨i, pos, v, rfl⟩
  · obtain ⟨_, m, _, rfl⟩ := Sess.step_assign.mp hb
    exact ⟨rfl, rfl, fun _ => rfl⟩
  · obtain ⟨_, rfl⟩ := Sess.step_poke.mp hb
    exact ⟨rfl, rfl, fun _ => rfl⟩

/-- `g = -f; g.rotate90('x', 'y', inplace=True)`: afterwards `f` and `g` hold different mesh objects, `f` still
2 × 3 cells, `g` 3 × 2 -/
example : (match (SessM.init [exEnv 0]).run [.build (.un (.leaf 0)), .rotI 1 0 1 1] with
    | .ok st => some (st.meshObj 0, st.meshObj 1, st.meshNOf 0, st.meshNOf 1)
    | .error _ => none) = some (0, 1, [2, 3], [3, 2]) := by decide +kernel
example : (match (SessM.init [exEnv 0]).run [.build (.un (.leaf 0)), .rotI 1 0 1 1] with
    | .ok st => some ((st.base.mask 0).shape, (st.base.mask 1).shape)
    | .error _ => none) = some ([2, 3], [3, 2]) := by decide +kernel
/-- before the turn both held mesh object 0; a sum and a slice: the sum shares, the slice does not -/
example : (match (SessM.init [exEnv 0, exEnv 1]).run [.build (.binF (.leaf 1) (.leaf 0)), .build (.map (.slice 1 0 2) (.leaf 2))] with
    | .ok st => some (st.meshObj 2, st.meshObj 3, st.meshNOf 3)
    | .error _ => none) = some (1, 2, [2, 2]) := by decide +kernel
/-- contrast — the behaviour before the fix (`rotIOld` turns the shared mesh object): `f`'s validity
keeps 2 × 3 cells on a mesh that now says 3 × 2 -/
example : (match (SessM.init [exEnv 0]).step (.build (.un (.leaf 0))) with
    | .ok st => (match st.rotIOld 1 0 1 1 with
      | .ok st' => some (st'.meshNOf 0, (st'.base.mask 0).shape)
      | .error _ => none)
    | .error _ => none) = some ([3, 2], [2, 3]) := by decide +kernel

/-- **Shared mesh, own validity.**  A field built by an operation that keeps the cells (`meshOf p =
some k`, the expression is not just a variable behind unary plus) at any point of any history holds
the SAME mesh object as variable `k` — and a validity buffer that no existing variable reads: its
address is new, so writing through it (`session_write_isolated`) or re-assigning it reaches nobody
else, while an in-place quarter turn of either field gives that field a mesh of its own
(`session_rotate_unshares_mesh`). -/
theorem session_result_shares_mesh_not_validity (leaves : List Mask) (h : List Stmt) (st st' : SessM)
    (hr : (SessM.init leaves).run h = .ok st) (p : Prog) (k : Nat) (hs : st.step (.build p) = .ok st')
    (hm : meshOf p = some k) (ha : aliasOf p = none) :
    st'.meshObj st.base.vars.length = st'.meshObj k ∧
    ∀ j, j < st.base.vars.length → st'.base.addrOf st.base.vars.length ≠ st'.base.addrOf j := by
  have hI := SessM.init_run_inv hr
  obtain ⟨m1, m2, _⟩ := SessM.build_mesh st st' hI p hs
  have hb := SessM.step_base st st' _ hs
  obtain ⟨hl, _⟩ := Sess.step_build.mp hb
  have hk : k < st.base.vars.length := meshOf_lt _ p k hm hl
  refine ⟨by rw [m2 k hm, m1 k hk], fun j hj => ?_⟩
  have hI' := SessM.step_inv st st' _ hI hs
  obtain ⟨_, _, e2, e3, e4, _⟩ := Sess.build_effect st.base st'.base hI.base p hb
  have hnew : st'.base.objOf st.base.vars.length = st.base.objs.length := (e4 ha).2.1
  have hold : st'.base.objOf j = st.base.objOf j := (e2 j hj).2
  -- the new variable names object number `objs.length`, an old one a smaller number: equal addresses
  -- would contradict `addr_inj`
  intro he
  have := hI'.base.addr_inj _ _ (hI'.base.vars_lt _ (e3 ▸ Nat.lt_succ_self _)) (hI'.base.vars_lt j (e3 ▸ Nat.lt_succ_of_lt hj)) he
  have hlt := hI.base.vars_lt j hj
  unfold Sess.objOf at hnew hold this
  rw [hnew, hold] at this
  omega

/-- **A statement is accepted iff it is well formed** in the state it meets: a build when the
variables it names exist and the expression is well formed on the masks they have NOW
(`program_accepted_iff`), an assignment when the argument fits the target's cells
(`setter_accepted_iff`), an in-place quarter turn when it names two different axes of the target,
an element write when the target exists — for every state, hence at every point of every history. -/
theorem session_step_accepted_iff (st : Sess) (s : Stmt) : (∃ st', st.step s = .ok st') ↔ stmtOk st s = true := by
  cases s with
  | build p =>
    simp only [Sess.step_build, stmtOk, Bool.and_eq_true, ← eval_ok_iff]
    exact ⟨fun ⟨_, hl, m, hm, _⟩ => ⟨hl, m, hm⟩, fun ⟨hl, m, hm⟩ => ⟨_, hl, m, hm, rfl⟩⟩
  | assign i sp =>
    simp only [Sess.step_assign, stmtOk, Bool.and_eq_true, decide_eq_true_eq, ← setMask_ok_iff]
    exact ⟨fun ⟨_, hi, m, hm, _⟩ => ⟨hi, m, hm⟩, fun ⟨hi, m, hm⟩ => ⟨_, hi, m, hm, rfl⟩⟩
  | rotI i a b k =>
    simp only [Sess.step_rotI, stmtOk, Bool.and_eq_true, decide_eq_true_eq]
    exact ⟨fun ⟨_, hi, hok, _⟩ => ⟨hi, hok⟩, fun ⟨hi, hok⟩ => ⟨_, hi, hok, rfl⟩⟩
  | poke i pos v =>
    simp only [Sess.step_poke, stmtOk, decide_eq_true_eq]
    exact ⟨fun ⟨_, hi, _⟩ => hi, fun hi => ⟨_, hi, rfl⟩⟩

example : stmtOk (Sess.init [exEnv 0, exEnv 1]) (.build (.binF (.leaf 0) (.map (.rot 0 1 1) (.leaf 1)))) = false ∧
    stmtOk (Sess.init [exEnv 0, exEnv 1]) (.build (.binF (.leaf 0) (.map (.rot 0 1 2) (.leaf 1)))) = true ∧
    stmtOk (Sess.init [exEnv 0]) (.assign 0 (.arr (NDA.const [3, 1] 1))) = true ∧
    stmtOk (Sess.init [exEnv 0]) (.assign 0 (.arr (NDA.const [3, 2] 1))) = false ∧
    stmtOk (Sess.init [exEnv 0]) (.rotI 0 1 1 1) = false ∧ stmtOk (Sess.init [exEnv 0]) (.poke 1 0 true) = false := by decide +kernel

/-! ## The setter as one total function: refusal iff malformed -/

/-- **Accepted iff well formed (every argument kind of the property's list).**  `None`, a number,
an array (shape `n`, or a trailing axis 1 that broadcasts), a callable, `'norm'`, a Boolean field on
a containing region: the setter accepts the argument exactly when `MSpec.ok` holds — anything else
(other shapes, other strings, other objects, a field that does not contain the region) is refused,
and nothing is stored. -/
theorem setter_accepted_iff (n : List Nat) (s : MSpec) : (∃ m, setMask n s = .ok m) ↔ s.ok n = true :=
  setMask_ok_iff n s

/-- the same at field level, for every field: `field.valid = spec` is accepted iff the argument is
well formed for the field's mesh -/
theorem setValid_accepted_iff (f : Fld) (s : VSpec) :
    (∃ g, setValid f s = .ok g) ↔ (toMSpec f s).ok f.mesh.n = true := by
  rw [← setMask_ok_iff]
  exact ⟨fun ⟨_, hg⟩ => let ⟨m, hm, _⟩ := setValid_ok.mp hg; ⟨m, hm⟩, fun ⟨m, hm⟩ => ⟨_, setValid_ok.mpr ⟨m, hm, rfl⟩⟩⟩

example : (toMSpec exFld (.arr (NDA.const [2, 1, 1] 1))).ok exFld.mesh.n = true ∧
    (toMSpec exFld (.arr (NDA.const [1, 2] 1))).ok exFld.mesh.n = false ∧ (toMSpec exFld .bad).ok exFld.mesh.n = false := by
  decide +kernel

/-- **A dictionary over the subregions, cell by cell.**  `valid = {name: value, …, "default": …}` (the
`dict` branch of `_as_array`, which paints the subregions in REVERSED order): if accepted, the mask
has the mesh shape and every cell holds what the FIRST subregion (in the order of the mesh) that
is a key and contains the cell assigns to it — read inside that subregion's own block — and the
default where no such subregion exists. -/
theorem dict_setter_first_wins (n : List Nat) (d : DictSpec) (m : Mask) (h : setMaskDict n d = .ok m) :
    m.shape = n ∧ ∀ j, inRange n j = true → m.get j = dictCell d.dflt d.subs j :=
  setMaskDict_spec n d m h

/-- **The setter, every argument kind, dictionaries included: accepted iff well formed.**  A
dictionary is well formed when every value is acceptable on the block of its own subregion and
either every cell lies in a subregion that is a key or a default is given. -/
theorem setter_any_accepted_iff (n : List Nat) (a : SetArg) : (∃ m, setMaskAny n a = .ok m) ↔ a.ok n = true := by
  cases a with
  | plain s => exact setMask_ok_iff n s
  | dict d => exact setMaskDict_ok_iff n d

/-- overlapping subregions, the first wins; a callable default on the uncovered cells -/
example : (match setMaskDict [4, 2]
      { dflt := .func fun j => j.getD 1 0 == 1,
        subs := [⟨[1, 0], [3, 1], some (.const 1)⟩, ⟨[2, 0], [4, 2], some (.const 0)⟩] } with
    | .ok m => some m.toList
    | .error _ => none) = some [false, true, true, true, true, false, false, false] := by decide +kernel
example : DictSpec.ok [4, 2] { dflt := .none, subs := [⟨[1, 0], [3, 1], some (.const 1)⟩] } = false ∧
    DictSpec.ok [4, 2] { dflt := .none, subs := [⟨[0, 0], [4, 2], none⟩, ⟨[0, 0], [4, 2], some (.cells fun _ => true)⟩] } = true ∧
    DictSpec.ok [4, 2] { dflt := .const 1, subs := [⟨[1, 0], [3, 1], some (.arr (NDA.const [2, 2] 1))⟩] } = false := by
  decide +kernel

/-- **The dictionary at field level** (`mesh[name]` and `region2slices` are the C07 model's): an
accepted assignment changes nothing but the mask, which has the mesh shape. -/
theorem setValidDict_keeps_data (f g : Fld) (dflt : DDef) (val : List (String × DVal))
    (h : setValidDict f dflt val = .ok g) :
    g.data = f.data ∧ g.mesh = f.mesh ∧ g.nvdim = f.nvdim ∧ g.vdims = f.vdims ∧ g.vmap = f.vmap ∧ g.unit = f.unit ∧
      g.valid.shape = f.mesh.n := by
  unfold setValidDict at h
  split at h
  · cases h
  · split at h
    · cases h
    · rename_i es _ m hm
      simp only [Except.ok.injEq] at h; subst h
      exact ⟨rfl, rfl, rfl, rfl, rfl, rfl, (setMaskDict_spec _ _ _ hm).1⟩

example : validOf (setValidDict exF (.func fun p => decide (p.getD 1 0 < 1)) [("b", .const 0), ("a", .const 1)])
    = some ([4, 2], [true, false, true, false, true, false, false, false]) := by decide +kernel
example : isOk (setValidDict exF .none [("a", .const 1)]) = false ∧ isOk (setValidDict exF (.const 0) [("a", .bad)]) = false := by
  decide +kernel

/-! ## The object-level link: the field-level models hand exactly these arrays to the constructor -/

/-- a mapping operation applied to one input field, in terms of the evaluator: the stored mask is
the copy of `op.apply` of the operand's mask -/
theorem eval_map_leaf (env : Nat → Mask) (op : MapOp) (k : Nat) (hok : op.ok (env k).shape = true) :
    eval env (.map op (.leaf k)) = .ok (own (op.apply (env k) false)) := by
  simp only [eval, hok, if_true]

/-- **C03 (field algebra), every expression.**  Take any expression of the C03 model — operators in
forward and reflected form, NumPy ufuncs, `dot`, `cross`, `angle`, `<<`, unary operations, numbers /
arrays / NumPy objects as operands, in any nesting — over fields whose validity has their mesh's
shape.  If the C03 model (the operator paths of `field.py`) evaluates it to a field `g`, then the
C08 evaluator accepts the translated validity program `progOf e` on the fields' masks, and its
mask IS `g.valid`: same shape, same entry in every cell; and `g.valid` has the shape of `g`'s mesh. -/
theorem link_c03_expression (env : C03.Env) (henv : ∀ (k : Nat) (f : C03.CF), env.fields[k]? = some f → f.valid.shape = f.mesh.n)
    (e : C03.Expr) (g : C03.CF) (h : C03.evalF env e = .ok (.fld g)) :
    g.valid.shape = g.mesh.n ∧ ∃ m, eval (maskEnv env) (progOf e) = .ok m ∧ m.shape = g.valid.shape ∧
      ∀ j, inRange m.shape j = true → m.get j = g.valid.get j := by
  obtain ⟨_, hinv, ht⟩ := expr_link env henv e g h
  exact ⟨hinv, ht.eval⟩

/-- **C03, operation by operation (what is STORED).**  The constructor of the C03 model stores `own V`
— the `own` of this model — for the mask `V` it is handed: the operand's mask for unary operations,
`norm`, component access and unary ufuncs; for every operator / `dot` / `cross` / `<<` between two
fields the cell-wise AND of both, on the left operand's mesh, and both operands have the same
number of cells. -/
theorem link_c03_operations (self : C03.CF) (hs : self.valid.shape = self.mesh.n) :
    (∀ fn pw o g, C03.applyOperator fn pw self (.fld o) = .ok g →
      g.valid = own (NDA.zipWith and self.valid o.valid) ∧ g.mesh = self.mesh ∧ self.mesh.n = o.mesh.n) ∧
    (∀ fn pw od g, C03.applyOperator fn pw self (.raw od) = .ok g → g.valid = own self.valid ∧ g.mesh = self.mesh) ∧
    (∀ fn rk ku g, C03.mapField fn rk ku self = .ok g → g.valid = own self.valid ∧ g.mesh = self.mesh) ∧
    (∀ o g, C03.dotOp self (.fld o) = .ok g → g.valid = own (NDA.zipWith and self.valid o.valid)) ∧
    (∀ o g, C03.crossOp self (.fld o) = .ok g → g.valid = own (NDA.zipWith and self.valid o.valid)) ∧
    (∀ o g, C03.shlFF self o = .ok g → g.valid = own (NDA.zipWith and self.valid o.valid)) ∧
    (∀ sq g, C03.normOp sq self = .ok g → g.valid = own self.valid) ∧
    (∀ l g, C03.getComp self l = .ok g → g.valid = own self.valid) ∧
    (∀ fn rk g, C03.ufunc1 fn rk self = .ok g → g.valid = own self.valid) :=
  ⟨fun _ _ _ _ h => let r := (c03_applyOperator h hs).and; ⟨r.hvalid, r.hmesh, r.hsame⟩,
   fun _ _ _ _ h => let r := (c03_applyOperator h hs).same; ⟨r.hvalid, r.hmesh⟩,
   fun _ _ _ _ h => let r := c03_mapField h hs; ⟨r.hvalid, r.hmesh⟩,
   fun _ _ h => (c03_dotOp h hs).and.hvalid, fun _ _ h => (c03_crossOp h hs).and.hvalid,
   fun _ _ h => (c03_shlFF h hs).and.hvalid, fun _ _ h => (c03_normOp h hs).hvalid,
   fun _ _ h => (c03_getComp h hs).hvalid, fun _ _ _ h => (c03_ufunc1 h hs).hvalid⟩

/-- `2.5 - (f0 * f1)` and `np.float64(2) * f0 << f1`-style nestings evaluate in the C03 model; the masks differ -/
example : (match C03.evalF exC03 (.bin .sub (.opd (.num ⟨5 / 2, 0⟩ .float false)) (.bin .mul (.leaf 0) (.leaf 1))) with
    | .ok (.fld g) => some g.valid.toList
    | _ => none) = some [true, false, false, false, true, false, false, false] := by decide +kernel
example : progOf (.bin .sub (.opd (.num ⟨5 / 2, 0⟩ .float false)) (.bin .mul (.leaf 0) (.leaf 1)))
    = rsubProg (.binF (.leaf 0) (.leaf 1)) := rfl
example : ∀ (k : Nat) (f : C03.CF), exC03.fields[k]? = some f → f.valid.shape = f.mesh.n := by
  intro k f h
  match k with
  | 0 => cases h; rfl
  | 1 => cases h; rfl
  | k + 2 => cases h

/-- **C05 (`grad`, `div`, `curl`, `laplace`; `diff` underneath).**  Whenever the C05 model returns a
field, its validity array has the operand's shape and the operand's entry at every index — and that is
what the C08 evaluator computes for the composition `field.py` builds (`gradProg` … `laplaceProg`
with the mesh's number of directions and the field's number of components) on the operand's mask. -/
theorem link_c05_derivatives (f g : Fld) :
    (C05.grad f = .ok g → (g.valid.shape = f.valid.shape ∧ ∀ j, g.valid.get j = f.valid.get j) ∧
      ∃ m, eval (fun _ => f.valid) (gradProg f.mesh.region.dims.length (.leaf 0)) = .ok m ∧ m.shape = g.valid.shape ∧
        ∀ j, inRange m.shape j = true → m.get j = g.valid.get j) ∧
    (C05.div f = .ok g → (g.valid.shape = f.valid.shape ∧ ∀ j, g.valid.get j = f.valid.get j) ∧
      ∃ vs, f.vdims = some vs ∧
      ∃ m, eval (fun _ => f.valid) (divProg vs.length (.leaf 0)) = .ok m ∧ m.shape = g.valid.shape ∧
        ∀ j, inRange m.shape j = true → m.get j = g.valid.get j) ∧
    (C05.curl f = .ok g → (g.valid.shape = f.valid.shape ∧ ∀ j, g.valid.get j = f.valid.get j) ∧
      ∃ m, eval (fun _ => f.valid) (curlProg (.leaf 0)) = .ok m ∧ m.shape = g.valid.shape ∧
        ∀ j, inRange m.shape j = true → m.get j = g.valid.get j) ∧
    (C05.laplace f = .ok g → (g.valid.shape = f.valid.shape ∧ ∀ j, g.valid.get j = f.valid.get j) ∧
      ∃ nv, 0 < nv ∧
      ∃ m, eval (fun _ => f.valid) (laplaceProg f.mesh.region.dims.length nv (.leaf 0)) = .ok m ∧ m.shape = g.valid.shape ∧
        ∀ j, inRange m.shape j = true → m.get j = g.valid.get j) := by
  -- the evaluator side: a compound program that reads as its one leaf returns the leaf's mask
  have side : ∀ {P : Prog}, SameReading (fun _ => f.valid) P (.leaf 0) → g.valid.shape = f.valid.shape →
      (∀ j, g.valid.get j = f.valid.get j) →
      ∃ m, eval (fun _ => f.valid) P = .ok m ∧ m.shape = g.valid.shape ∧ ∀ j, inRange m.shape j = true → m.get j = g.valid.get j := by
    intro P hP hs hg
    obtain ⟨m, hm⟩ := (eval_ok_iff _ P).mpr hP.wf
    obtain ⟨_, hm0, h1, h2⟩ := hP.mask m hm
    cases hm0
    exact ⟨m, hm, h1.trans hs.symm, fun j hj => (h2 j (h1 ▸ hj)).trans (hg j).symm⟩
  refine ⟨fun h => ?_, fun h => ?_, fun h => ?_, fun h => ?_⟩
  · obtain ⟨⟨hs, hg⟩, hpos⟩ := c05_grad_valid f g h
    exact ⟨⟨hs, hg⟩, side (gradProg_same _ _ _ hpos) hs hg⟩
  · obtain ⟨⟨hs, hg⟩, vs, hvs, hpos⟩ := c05_div_valid f g h
    exact ⟨⟨hs, hg⟩, vs, hvs, side (divProg_same _ _ _ hpos) hs hg⟩
  · obtain ⟨hs, hg⟩ := c05_curl_valid f g h
    exact ⟨⟨hs, hg⟩, side (curlProg_same _ _) hs hg⟩
  · obtain ⟨⟨hs, hg⟩, hpos, _⟩ := c05_laplace_valid f g h
    exact ⟨⟨hs, hg⟩, 1, Nat.one_pos, side (laplaceProg_same _ _ 1 _ hpos Nat.one_pos) hs hg⟩

example : validOf (C05.grad exF) = some ([4, 2], [true, true, false, false, true, true, false, false]) ∧
    validOf (C05.laplace exF) = validOf (C05.grad exF) := by decide +kernel
example : validOf (C05.div exV) = some ([4, 2], [true, true, false, true, true, true, true, true]) := by decide +kernel

/-- **C04 / C05 `diff`.**  The derivative of the C04 model (`Field.diff`, any direction, order 1 or 2,
`restrict2valid` on or off — the flag only decides which cells the STENCIL reads) and `C05.diffDim`
return exactly the operand's validity array, on the operand's mesh. -/
theorem link_c04_diff (f g : Fld) :
    (∀ ax o r, C04.diff f ax o r = .ok g → g.valid = f.valid ∧ g.mesh = f.mesh) ∧
    (∀ d o, C05.diffDim f d o = .ok g → g.valid = f.valid) :=
  ⟨fun _ _ _ h => ⟨(C05.diff_ok h).2.2.1, (C05.diff_ok h).1⟩, fun _ _ h => c05_diffDim_valid h⟩

example : validOf (C04.diff exF 0 1 false) = some ([4, 2], exF.valid.toList) ∧
    validOf (C04.diff exF 1 2 true) = some ([4, 2], exF.valid.toList) ∧ isOk (C04.diff exF 2 1 true) = false := by
  decide +kernel

/-- **C07 `sel`.**  A plane or range selection of the C07 model hands to the constructor a value
array and a validity array that are ONE mapping operation (`take` / `slice` at the index the point was
located in) applied to the operand's value array and validity array. -/
theorem link_c07_sel (f g : Fld) (dim : String) (arg : C07.SelArg) (h : C07.selFld f dim arg = .ok (.field g))
    (hv : f.valid.shape.length = f.mesh.region.dims.length) (hd : f.data.shape.length = f.mesh.region.dims.length) :
    ∃ op : MapOp,
      g.valid.shape = (op.apply f.valid false).shape ∧ g.data.shape = (op.apply f.data []).shape ∧
      ∀ j, (inRange g.valid.shape j = true → g.valid.get j = (op.apply f.valid false).get j) ∧
           (inRange g.data.shape j = true → g.data.get j = (op.apply f.data []).get j) := by
  obtain ⟨a, s, m, hconv, _, hmk⟩ := (C07.selFld_field_iff f dim arg g).mp h
  obtain ⟨_, _, _, rfl⟩ := (C07.mkFld_ok_iff _ _ _ _ _).mp hmk
  have ha := T.dim2index_lt _ _ _ (C07.selConvert_dim hconv)
  obtain ⟨s1, g1⟩ := selData_link f.valid a s false (hv ▸ ha)
  obtain ⟨s2, g2⟩ := selData_link f.data a s [] (hd ▸ ha)
  exact ⟨selOp a s, s1, s2, fun j => ⟨g1 j, g2 j⟩⟩

/-- **C07 `field[region]` / `field["name"]`.**  The block of cells `crop lo (lo + n')` with `n'` the cells
of the sub-mesh, for values and validity alike. -/
theorem link_c07_getitem (f g : Fld) (item : C07.Item) (h : C07.getItem f item = .ok g) :
    ∃ lo : List Nat,
      g.valid.shape = ((MapOp.crop lo (tab f.valid.shape.length fun b => lo.getD b 0 + g.mesh.n.getD b 0)).apply f.valid false).shape ∧
      g.data.shape = ((MapOp.crop lo (tab f.data.shape.length fun b => lo.getD b 0 + g.mesh.n.getD b 0)).apply f.data []).shape ∧
      ∀ j, g.valid.get j = ((MapOp.crop lo (tab f.valid.shape.length fun b => lo.getD b 0 + g.mesh.n.getD b 0)).apply f.valid false).get j ∧
           g.data.get j = ((MapOp.crop lo (tab f.data.shape.length fun b => lo.getD b 0 + g.mesh.n.getD b 0)).apply f.data []).get j := by
  obtain ⟨sm, _, imin, _, _, _, hmk⟩ := (C07.getItem_ok_iff f item g).mp h
  obtain ⟨e5, e4, _, rfl⟩ := (C07.mkFld_ok_iff _ _ _ _ _).mp hmk
  -- the block has the sub-mesh's cells, so cropping up to `imin + sm.n` returns that shape (`sliceBlock_link` would need
  -- the block to fit, `imin + sm.n ≤ shape`, which an empty axis of the sub-mesh does not give)
  have shape_eq : ∀ {α} (x : NDA α) (fill : α), (C07.sliceBlock x imin sm.n).shape = sm.n →
      (C07.sliceBlock x imin sm.n).shape
        = ((MapOp.crop imin (tab x.shape.length fun b => imin.getD b 0 + sm.n.getD b 0)).apply x fill).shape := by
    intro α x fill hs
    have hl : sm.n.length = x.shape.length := by
      rw [← hs]; exact tab_length _ _
    rw [hs]
    show sm.n = tab x.shape.length fun b => (tab x.shape.length fun b => imin.getD b 0 + sm.n.getD b 0).getD b 0 - imin.getD b 0
    refine eq_tab_of_getD _ _ _ 0 hl fun i hi => ?_
    rw [getD_tab _ _ _ _ hi]; omega
  exact ⟨imin, shape_eq f.valid false e4, shape_eq f.data [] e5, fun j => ⟨rfl, rfl⟩⟩

/-- **C07 `pad`.**  `np.pad` as the C07 model has it (index arithmetic in ℤ, all five modes) IS the
mapping operation `pad` of this model, with one width pair per axis, for values (fill: the zero
vector) and validity (fill: `False`) alike. -/
theorem link_c07_pad (f g : Fld) (pw : List C07.PadW) (mode : C07.PadMode) (h : C07.padFld f pw mode = .ok g)
    (hs : f.data.shape = f.valid.shape) (hpos : ∀ b, b < f.valid.shape.length → 0 < f.valid.shape.getD b 0) :
    ∃ w : List (Nat × Nat), w.length = f.valid.shape.length ∧
      g.valid.shape = ((MapOp.pad (padModeOf mode) w).apply f.valid false).shape ∧
      g.data.shape = ((MapOp.pad (padModeOf mode) w).apply f.data (List.replicate f.nvdim 0)).shape ∧
      ∀ j, g.valid.get j = ((MapOp.pad (padModeOf mode) w).apply f.valid false).get j ∧
           g.data.get j = ((MapOp.pad (padModeOf mode) w).apply f.data (List.replicate f.nvdim 0)).get j := by
  obtain ⟨d, m, _, _, _, hmk⟩ := (C07.padFld_ok_iff f pw mode g).mp h
  obtain ⟨_, _, _, rfl⟩ := (C07.mkFld_ok_iff _ _ _ _ _).mp hmk
  obtain ⟨s1, g1⟩ := padNDA_link mode (C07.widthOf d) false f.valid hpos
  obtain ⟨s2, g2⟩ := padNDA_link mode (C07.widthOf d) (List.replicate f.nvdim 0) f.data (hs ▸ hpos)
  exact ⟨padWidths f.valid.shape (C07.widthOf d), tab_length _ _, s1, hs ▸ s2, fun j => ⟨g1 j, hs ▸ g2 j⟩⟩

/-- **C07 `resample`.**  The coordinate lookup of the C07 model (`mesh.cells`, nearest centre, ties to
the larger index) on the REAL cell-centre coordinates is the mapping operation `resample` — the
nearest-cell map on the unit interval — for values and validity alike, on every mesh with at least
one cell per axis and positive edge lengths. -/
theorem link_c07_resample (f g : Fld) (n : List Int) (h : C07.resample f n = .ok g)
    (hv : f.valid.shape = f.mesh.n) (hd : f.data.shape = f.mesh.n) (hl : f.mesh.n.length = f.mesh.ndim)
    (hpos : ∀ a, a < f.mesh.ndim → 0 < f.mesh.nAt a) (hE : ∀ a, a < f.mesh.ndim → 0 < f.mesh.region.edge a) :
    g.mesh.n = n.map Int.toNat ∧
    g.valid.shape = ((MapOp.resample g.mesh.n).apply f.valid false).shape ∧
    g.data.shape = ((MapOp.resample g.mesh.n).apply f.data []).shape ∧
    ∀ j, inRange g.mesh.n j = true →
      g.valid.get j = ((MapOp.resample g.mesh.n).apply f.valid false).get j ∧
      g.data.get j = ((MapOp.resample g.mesh.n).apply f.data []).get j := by
  obtain ⟨hn, _, _, _, rfl⟩ := (C07.resample_ok_iff' f n g).mp h
  have hnl : (C07.regrid f.mesh (n.map Int.toNat)).n.length = (C07.regrid f.mesh (n.map Int.toNat)).ndim :=
    (List.length_map _).trans hn
  obtain ⟨s1, g1⟩ := resampleNDA_link f.mesh (C07.regrid f.mesh (n.map Int.toNat)) f.valid false rfl hv hl hnl hpos hE
  obtain ⟨s2, g2⟩ := resampleNDA_link f.mesh (C07.regrid f.mesh (n.map Int.toNat)) f.data [] rfl hd hl hnl hpos hE
  exact ⟨rfl, s1, s2, fun j hj => ⟨g1 j hj, g2 j hj⟩⟩

/-- **C12 `rotate90`, copy and in place.**  In the shared rotation model the validity of the result
is literally the mapping operation `rot` (`np.rot90`) applied to the operand's validity; the values
are the same `rot90` of the value array, followed by the turn of the two in-plane components. -/
theorem link_c12_rotate90 (f r g : Fld) (a1 a2 : String) (k : Int) (ref : Option (List Rat)) (inplace : Bool)
    (h : T.rotate90F f a1 a2 k ref inplace = .ok (r, g)) :
    ∃ i1 i2 : Nat, f.mesh.region.dim2index a1 = .ok i1 ∧ f.mesh.region.dim2index a2 = .ok i2 ∧
      g.valid = (MapOp.rot i1 i2 k).apply f.valid false ∧
      (∃ turn : List Rat → List Rat, g.data = ((MapOp.rot i1 i2 k).apply f.data []).map turn) ∧
      (inplace = true → r = g) ∧ (inplace = false → r = f) := by
  obtain ⟨_, _, i1, i2, _, h1, h2, _, _, _, _, _, hv, hd, rfl⟩ := T.rotate90F_inv f a1 a2 k ref inplace r g h
  refine ⟨i1, i2, h1, h2, hv, ?_, fun hi => if_pos hi, fun hi => if_neg (hi ▸ Bool.false_ne_true)⟩
  rcases hd with ⟨_, hd⟩ | ⟨_, c1, c2, _, _, hd⟩
  · exact ⟨id, hd⟩
  · exact ⟨_, hd⟩

example : isField (C07.selFld exF "x" (.point (5 / 2))) = true ∧ isField (C07.selFld exF "y" (.range (1 / 4) (7 / 4))) = true ∧
    isOk (C07.getItem exF (.name "a")) = true ∧ isOk (C07.padFld exF [⟨"x", 1, 2⟩] .reflect) = true ∧
    isOk (C07.resample exF [2, 3]) = true ∧ isOk (T.rotate90F exF "x" "y" 1 none true) = true := by decide +kernel
example : validOf (C07.padFld exF [⟨"x", 1, 2⟩] .reflect)
    = some ([7, 2], [false, false, true, true, false, false, true, true, false, false, true, true, false, false]) := by
  decide +kernel
example : exF.valid.shape = exF.mesh.n ∧ exF.data.shape = exF.mesh.n ∧ exF.mesh.n.length = exF.mesh.ndim ∧
    (∀ a, a < exF.mesh.ndim → 0 < exF.mesh.nAt a) := by
  refine ⟨rfl, rfl, rfl, fun a ha => ?_⟩
  have : a = 0 ∨ a = 1 := by have : exF.mesh.ndim = 2 := rfl; omega
  rcases this with rfl | rfl <;> decide +kernel

/-! ## Results on a new cell set, tied to the C06 and C11 models -/

/-- **C06 `mean(direction)` / `integrate(direction)` / cumulative integral.**  Every field these
operations of the C06 model return is valid in every cell of its own mesh, whatever the operand's
validity was — the array the C08 evaluator stores for a `fresh` node (a copy of all-`True` on the
new shape). -/
theorem link_c06_fresh (f g : Fld) :
    (∀ dir cum, C06.integrate f dir cum = .ok (.field g) → g.valid = NDA.const g.mesh.n true) ∧
    (∀ dir, C06.mean f dir = .ok (.field g) → g.valid = NDA.const g.mesh.n true) ∧
    ∀ (env : Nat → Mask) (k : FreshOp) (p : Prog) (m0 : Mask), eval env p = .ok m0 → k.ok m0.shape = true →
      eval env (.fresh k p) = .ok (own (NDA.const (k.shape m0.shape) true)) :=
  ⟨fun dir cum h => (C06.integrate_field_meta f g dir cum h).2.2.2.2, fun dir h => (C06.mean_field_meta f g dir h).2.2.2.2,
   fun _ _ _ m0 h0 hok => eval_fresh_ok.mpr ⟨m0, h0, hok, rfl⟩⟩

/-- **C11: the k-mesh.**  The meshes the FFT family of the C11 model builds have exactly the cells the
`fresh` nodes name: `mesh.fftn()` the same counts (`spectrum`), `mesh.fftn(rfft=True)` half of the
last axis plus one (`rfft`); `mesh.ifftn(rfft=True, shape)` is accepted only for the shapes `irfft`
accepts, and then has the last count the shape names — or `(n_last − 1)·2` without a shape. -/
theorem link_c11_kmesh (m k : Mesh) (hl : m.n.length = m.ndim) :
    (∀ rfft, C11.meshFftn m rfft = .ok k → k.n = (if rfft then FreshOp.rfft else FreshOp.spectrum).shape m.n) ∧
    (∀ shape, C11.meshIfftn m true shape = .ok k → 0 < m.ndim →
      (FreshOp.irfft (shape.map fun s => s.getD (m.ndim - 1) 0)).ok m.n = true ∧
      k.n = (FreshOp.irfft (shape.map fun s => s.getD (m.ndim - 1) 0)).shape m.n) := by
  refine ⟨fun rfft h => ?_, fun shape h hnd => ?_⟩
  · rw [C11.meshFftn_n h]
    cases rfft with
    | false => exact C11.kN_tab_full m hl
    | true => exact C11.kN_tab_half m hl  -- `FreshOp.rfft.shape` is `C11.halfShape`, the same table
  · obtain ⟨s, hs, hz, _, hkn⟩ := C11.meshIfftn_inv m true shape k hl h
    have hpos : ∀ x ∈ s, x ≠ 0 := fun x hx h0 => by
      rw [List.any_eq_false] at hz
      exact hz x hx (decide_eq_true h0)
    rw [hkn]
    exact c11_ifftShape_irfft m shape s hs hpos hl hnd

example : run (.fresh (.irfft none) (.fresh .rfft (.leaf 0))) = some ([2, 2], [true, true, true, true]) ∧
    run (.fresh (.irfft (some 3)) (.fresh .rfft (.leaf 0))) = some ([2, 3], [true, true, true, true, true, true]) ∧
    run (.fresh (.irfft (some 4)) (.fresh .rfft (.leaf 0))) = none ∧
    run (.fresh (.irfft (some 5)) (.leaf 0)) = some ([2, 5], List.replicate 10 true) := by decide +kernel
example : (match C11.meshFftn exMesh true with
    | .ok k => some k.n
    | .error _ => none) = some [4, 2] ∧ (match C11.meshIfftn exMesh true (some [4, 3]) with
    | .ok k => some k.n
    | .error _ => none) = some [4, 3] := by decide +kernel

/-! ## Norm, orientation, zero vectors (C15) -/

/-- **Setting the norm leaves validity alone — over whole histories.**  Any history of
`field.norm = …` (number, array, callable, field, `None`) and `field.update_field_values(…)` of the C15
model on a field with invalid cells, zero vectors included: the validity array and the mesh are
exactly what they were.  (Only `field.valid = …` changes validity.) -/
theorem norm_history_keeps_validity (sqrt : Rat → Rat) (atol' : Rat) (steps : List C15.Step) (f g : Fld)
    (h : C15.run sqrt atol' f steps = .ok g) (hs : steps.all notSetValid = true) :
    g.valid = f.valid ∧ g.mesh = f.mesh := by
  induction steps generalizing f with
  | nil => cases h; exact ⟨rfl, rfl⟩
  | cons s rest ih =>
    simp only [List.all_cons, Bool.and_eq_true] at hs
    obtain ⟨f1, hf1, h⟩ := C15.run_cons_ok h
    -- a statement that is no validity assignment replaces the array and nothing else (`C15.step_cases`)
    rcases C15.step_cases hf1 with ⟨hv, _⟩ | ⟨_, d, rfl, _⟩
    · rw [notSetValid_eq, hv] at hs; exact nomatch hs.1
    · exact ih { f with data := d } h hs.2

/-- `Field.norm` and `Field.orientation` of the C15 model return the operand's validity, cell by
cell, on the operand's mesh shape — also in the cells whose vector is zero (which `orientation` maps
to the zero vector): the values never decide the validity. -/
theorem norm_orientation_keep_validity (sqrt : Rat → Rat) (atol' : Rat) (f : Fld) (j : List Nat) :
    (C15.norm sqrt f).valid.get j = f.valid.get j ∧ (C15.orientation sqrt atol' f).valid.get j = f.valid.get j ∧
    (C15.norm sqrt f).valid.shape = f.mesh.n ∧ (C15.orientation sqrt atol' f).valid.shape = f.mesh.n :=
  ⟨rfl, rfl, rfl, rfl⟩

/-- **`valid='norm'` in both models.**  The C15 model marks a cell valid when `~isclose(norm, 0)` with
the norm computed through a square root; this model compares the squared length with `atol²`.  For
every cell where `sqrt` is the non-negative root of the squared length (`C15.SqrtAt`) the two
coincide — so after `field.norm = t` the cells `'norm'` marks are decided by the NEW values alone. -/
theorem norm_mask_agrees_c15 (sqrt : Rat → Rat) (f g : Fld) (m : NDA Bool) (h : setValid f .norm = .ok g)
    (hm : C15.validOf sqrt atol f .byNorm = .ok m) (j : List Nat) (hj : inRange f.mesh.n j = true)
    (hs : C15.SqrtAt sqrt (C15.sqLen (f.data.get j))) : g.valid.get j = m.get j := by
  cases hm
  show g.valid.get j = !C15.closeZero atol (sqrt (C15.sqLen (f.data.get j)))
  rw [Bool.eq_iff_iff, Bool.not_eq_true', ← Bool.not_eq_true, hs.closeZero_iff atol_pos.le, not_le, ← sumSq_eq_sqLen]
  exact setter_norm f g h j hj

example : C15.SqrtAt (fun x => if x = 25 / 1000000000000000000 then 5 / 1000000000 else 0)
    (C15.sqLen (exFld.data.get [0, 0])) := by
  constructor
  · show (0 : Rat) ≤ if C15.sqLen (exFld.data.get [0, 0]) = 25 / 1000000000000000000 then 5 / 1000000000 else 0
    split <;> norm_num
  · have : C15.sqLen (exFld.data.get [0, 0]) = 25 / 1000000000000000000 := by decide +kernel
    simp only [this, if_true]; norm_num
example : (match C15.run (fun x => x) (1 / 100000000) exF [.setNorm (some (.const 3)), .update (.scalar 0), .setNorm none] with
    | .ok g => some g.valid.toList
    | .error _ => none) = some exF.valid.toList := by decide +kernel

/-! ## The nearest-cell map in closed form -/

/-- **Closed form of the source cell of `resample`.**  On a uniform axis the nearest cell centre is the
centre of the cell that CONTAINS the point, and a point on the border of two cells goes to the upper
one: the source cell of target cell `j` when `n` cells are resampled to `n'` is
`⌊(2j+1)·n / (2n')⌋` (capped at the last cell) — for all `n, n' ≥ 1` and all `j`, by induction over the
search. -/
theorem nearest_closed_form (n n' j : Nat) (hn : 0 < n) (hn' : 0 < n') :
    nearest n n' j = min (n - 1) (((2 * j + 1) * n) / (2 * n')) :=
  nearest_eq_fast n n' j hn hn'

/-- **`resample` through the closed form.**  The array the driver computes for large cases
(`resampleFast`, one integer division per cell and axis) is the mapping operation `resample` of the
model, entry by entry, for every entry type, whenever the operation is applicable. -/
theorem resample_fast_is_resample {α : Type} (x : NDA α) (n' : List Nat) (fill : α)
    (hok : (MapOp.resample n').ok x.shape = true) :
    (resampleFast x n').shape = ((MapOp.resample n').apply x fill).shape ∧
    ∀ j, (resampleFast x n').get j = ((MapOp.resample n').apply x fill).get j :=
  ⟨rfl, fun _ => congrArg x.get (tab_congr _ _ _ fun b hb =>
    (nearest_eq_fast _ _ _ ((resample_ok.mp hok).2 b hb).2 ((resample_ok.mp hok).2 b hb).1).symm)⟩

example : (resampleFast (exEnv 0) [4, 2]).toList = ((MapOp.resample [4, 2]).apply (exEnv 0) false).toList ∧
    nearestFast 2 3 1 = 1 ∧ nearestFast 4000 8192 8191 = 3999 ∧ nearestFast 6 3 1 = 3 := by decide +kernel

end DFV.C08
