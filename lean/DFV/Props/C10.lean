import DFV.Lemmas.C10Raw
import DFV.Lemmas.C10Instances
/-!
# C10 — HDF5 files preserve the complete state of a field

Property theorems about the model of `io/hdf5.py` (`DFV/Model/C10.lean`): the typed store
written by `h5Save` (and the code-shaped writer `toHdf5`), the reader `h5Load` with the whole
constructor chain it runs, the time-series helpers (`saveStructure` / `saveData` /
`fieldLoadAt` with a location), the legacy reader with its side-car, and the suffix dispatch.
Dimension, cell counts, number / names / order / overlap of subregions, dtype kinds of region
corners, subregion corners, tolerance factor and data, labels, unit, values — as binary64 bit
patterns, NaN / inf / −0 included, under valid and invalid cells alike — and masks are
universally quantified.

`f.Inv` is what the constructors `Region.__init__`, `Mesh.__init__` (incl. the `subregions`
setter) and `Field.__init__` guarantee for EVERY field they return (`mesh_constructor_inv`,
`field_constructor_inv`) and the readers for every file (`any_file_reader_returns_inv`).  The
setter (repo 5591fed0, finding D132) tests each candidate as it is
going to be stored — with the mesh region's names, units and tolerance factor
(`setter_test_is_on_stored_copy`) — so every stored subregion passes the tests again when the
reader presents it, and every constructor-built field round-trips (`constructor_field_roundtrips`).
`InvW` is `Inv` without the acceptance clause; for ARBITRARY states `h5_reread_accepts_iff` says
when the reader accepts the writer's file.  The harness evaluates the same (decidable) predicates
on the states of the real fields it writes.

Further: the three exceptions as equivalences (`h5_roundtrip_items_iff`,
`h5_roundtrip_exact_iff`), acceptance of versioned and legacy files characterised from their
content (`versioned_accepted_iff`, `legacy_read_iff`, `legacy_sidecar_accepted_iff`), the file as
h5py shows it with entries missing / foreign / retyped (`written_entries_all_read`,
`missing_entry_refused`, `missing_subregion_datasets`, `extra_entries_ignored`,
`retyped_entry_refused`, `ndim_never_inspected`), element widths (`raw_roundtrip_widths`,
`narrow_int_values_roundtrip`) and overwriting (`overwrite_last_wins`).
-/
namespace DFV.C10
open DFV

/-! ## Writing then reading -/

/-- **The writer, code-shaped, leaves the store `h5Save f`.**  `Field._to_hdf5` creates an empty
dataset of the array's dtype and shape `(*n, nvdim)` and assigns the array at `slice(None)`;
the result is the store whose `array` dataset *is* the field's array — every entry, whatever the
validity mask says about its cell, whatever bit pattern it holds. -/
theorem toHdf5_eq_h5Save (f : TFld) (hf : f.Inv) : toHdf5 f = .ok (h5Save f) :=
  toHdf5_eq f ((TFld.inv_iff f).mp hf).2.2.1

/-- **Round trip, every field, as the code stands.**  For every field the constructors can
return — no exception — reading the file `to_file` writes succeeds and yields `reread f`:
`loaded f` with the unit passed through `str(unit)` / `"None"` and the labels through
`"None"` / the constructor default. -/
theorem h5_roundtrip_reread (f : TFld) (hf : f.Inv) : h5Load (h5Save f) = .ok (reread f) :=
  h5Load_h5Save_gen f hf

/-- **Round trip, every field.**  For every field the constructors can return, reading the
file `to_file` writes succeeds and yields `loaded f` — the same state except for three
things, none of which touches a value: subregion corner arrays carry the dtype of the
corner table, integer data arrive as floats, the unsaved component-to-axis mapping is the
default one — and except for the unit string `"None"`, which collides with the encoding of
"no unit" (`unit_None_is_lost`), and for absent labels on more than one component, which
collide with the constructor's default (`labels_none_are_lost`). -/
theorem h5_roundtrip_loaded (f : TFld) (hf : f.Inv) (hu : f.unit ≠ some "None") (hv : f.vdims = none → f.nvdim = 1) :
    h5Load (h5Save f) = .ok (loaded f) := by
  rw [h5_roundtrip_reread f hf, reread_eq_loaded f hu hv]

/-- **Round trip, item by item** (the sentence of the property): the field read back has
identical region corners *including their int/float dtype*, dimension names, units,
tolerance factor, cell counts, boundary conditions, subregions (names, order, corner
numbers, names/units/tolerance), component count, labels or none, unit or none, array shape,
every value as a bit pattern (finite numbers, −0, ±inf, NaN with sign and payload — under
valid and invalid cells alike), real data real and complex data complex, validity, and the
default component-to-axis mapping.

`_partial`: the property promises this for every field; three hypotheses exclude inputs for
which the statement is false of the code, each with a theorem proving the negation:
`hu` the unit string `"None"` (`unit_None_is_lost`, D32), `hv` absent labels on more than
one component (`labels_none_are_lost`, D34), `hi` integer data with more than 53 significant
bits (`int_values_roundtrip_iff`, `int_beyond_2p53_is_rounded`, D33). -/
theorem h5_roundtrip_partial (f : TFld) (hf : f.Inv) (hu : f.unit ≠ some "None") (hv : f.vdims = none → f.nvdim = 1)
    (hi : f.data.buf.IntSafe) :
    ∃ g, h5Load (h5Save f) = .ok g ∧
      g.mesh.region = f.mesh.region ∧ g.mesh.n = f.mesh.n ∧ g.mesh.bc = f.mesh.bc ∧
      g.mesh.subs.map (fun p => (p.1, p.2.pmin.vals, p.2.pmax.vals, p.2.dims, p.2.units, p.2.tol))
        = f.mesh.subs.map (fun p => (p.1, p.2.pmin.vals, p.2.pmax.vals, p.2.dims, p.2.units, p.2.tol)) ∧
      g.nvdim = f.nvdim ∧ g.vdims = f.vdims ∧ g.unit = f.unit ∧
      g.data.shape = f.data.shape ∧ g.data.buf.vals = f.data.buf.vals ∧
      (g.data.buf.kind = .complex ↔ f.data.buf.kind = .complex) ∧
      g.valid = f.valid ∧ g.vmap = defaultVmap f.nvdim f.mesh.region.dims f.vdims := by
  exact ⟨loaded f, h5_roundtrip_loaded f hf hu hv, rfl, rfl, rfl, loaded_subs_items f.mesh, rfl, rfl, rfl, rfl,
    DBuf.upcast_vals _ hi, DBuf.upcast_complex_iff _, rfl, rfl⟩

/-- **Values are bit-identical, mask or no mask.**  For float and complex data the array read
back *is* the array written — the same typed buffer, entry for entry: finite numbers, −0, ±inf
and NaNs with their sign and payload, in valid cells and in invalid ones (nothing on the path
looks at the mask) — and the mask itself is unchanged.  No hypothesis on unit or labels. -/
theorem values_bit_identical (f : TFld) (hf : f.Inv) (hk : f.data.buf.kind ≠ .int) :
    ∃ g, h5Load (h5Save f) = .ok g ∧ g.data = f.data ∧ g.valid = f.valid := by
  refine ⟨reread f, h5_roundtrip_reread f hf, ?_, rfl⟩
  show ({ f.data with buf := f.data.buf.upcast } : DArr) = f.data
  rw [DBuf.upcast_of_not_int _ hk]

/-- **Integer data: exactly the 53-bit integers survive.**  Integer data are converted to
binary64 by the reader; every value comes back as the same number iff every integer survives
the C cast `int64 → double` (`IntSafe`; `int_safe_iff_53_bits` says which those are). -/
theorem int_values_roundtrip_iff (f : TFld) (hf : f.Inv) :
    (∃ g, h5Load (h5Save f) = .ok g ∧ g.data.buf.vals = f.data.buf.vals) ↔ f.data.buf.IntSafe :=
  (read_back_iff f hf _).trans (DBuf.upcast_vals_iff _)

/-- which integers survive the C cast `int64 → double`: exactly those with at most 53
significant bits (every |i| ≤ 2^53 in particular, and e.g. 2^60) -/
theorem int_safe_iff_53_bits (i : Int) (hi : i.natAbs < 2 ^ 64) :
    rne53 i = i ↔ ∃ m e : Nat, m ≤ 2 ^ 53 ∧ i.natAbs = m * 2 ^ e := by
  constructor
  · exact representable_of_rne53 i hi
  · rintro ⟨m, e, hm, h⟩
    rcases Nat.lt_or_ge m (2 ^ 53) with hlt | hge
    · exact rne53_of_representable i m e hlt h
    · -- `2 ^ 53` itself has one significant bit: `2 ^ 52 * 2 ^ (e + 1)`
      have : m = 2 ^ 53 := by omega
      subst this
      exact rne53_of_representable i (2 ^ 52) (e + 1) (by decide) (by rw [h, Nat.pow_succ]; ring)

/-- … and the negative statement on whole fields (D33): integer data holding 2^53 + 1 somewhere
come back with 2^53 there. -/
theorem int_beyond_2p53_is_rounded (f : TFld) (hf : f.Inv) (v : List Int) (hd : f.data.buf = .ints v) (k : Nat)
    (hk : k < v.length) (hv : v[k] = 2 ^ 53 + 1) :
    ∃ g, h5Load (h5Save f) = .ok g ∧ g.data.buf.vals[k]? = some (FV.fin (2 ^ 53), FV.fin 0) ∧
      f.data.buf.vals[k]? = some (FV.fin (2 ^ 53 + 1), FV.fin 0) := by
  refine ⟨reread f, h5_roundtrip_reread f hf, ?_, ?_⟩
  · show f.data.buf.upcast.vals[k]? = _
    rw [hd]
    simp only [DBuf.upcast, DBuf.vals, List.getElem?_map, List.getElem?_eq_getElem hk, Option.map_some, hv,
      rne53_2p53_succ]
    norm_num
  · rw [hd]
    simp only [DBuf.vals, List.getElem?_map, List.getElem?_eq_getElem hk, Option.map_some, hv]
    norm_num

/-- **Exact round trip.**  If the subregion corner arrays already have the dtype of the
table (e.g. everything float, or everything int), the data are not integers and the
component-to-axis mapping is the default one, the field read back *is* the field written. -/
theorem h5_roundtrip (f : TFld) (hf : f.Inv) (hu : f.unit ≠ some "None") (hv : f.vdims = none → f.nvdim = 1)
    (hsub : ∀ p ∈ f.mesh.subs, p.2.pmin.kind = tableKind f.mesh ∧ p.2.pmax.kind = tableKind f.mesh)
    (hdata : f.data.buf.kind ≠ .int)
    (hmap : f.vmap = defaultVmap f.nvdim f.mesh.region.dims f.vdims) :
    h5Load (h5Save f) = .ok f := by
  rw [h5_roundtrip_loaded f hf hu hv, loaded_eq_self f hsub hdata hmap]

/-- the state read back again satisfies what the constructors guarantee (so every theorem
here applies to it in turn) -/
theorem roundtrip_preserves_inv (f : TFld) (hf : f.Inv) : (loaded f).Inv :=
  hf.loaded f.vdims ((TFld.inv_iff f).mp hf).2.2.2.2.2.2 _ _

/-- **Second generation is exact.**  Whatever was read from a file is a fixed point: writing
it again and reading it back returns exactly the same state (all dtypes included). -/
theorem h5_roundtrip_fixed_point (f : TFld) (hf : f.Inv) (hu : f.unit ≠ some "None") (hv : f.vdims = none → f.nvdim = 1) :
    h5Load (h5Save (loaded f)) = .ok (loaded f) := by
  rw [← reread_eq_loaded f hu hv]
  exact h5Load_h5Save_reread f hf

/-- after reading, every subregion's corner arrays carry the dtype of the corner table -/
theorem subregion_dtype_after_read (f : TFld) (p : String × TReg) (hp : p ∈ (loaded f).mesh.subs) :
    p.2.pmin.kind = tableKind f.mesh ∧ p.2.pmax.kind = tableKind f.mesh := by
  simp only [loaded, TMesh.loaded, List.mem_map] at hp
  obtain ⟨q, _, rfl⟩ := hp
  exact ⟨NumArr.cast_kind _ _, NumArr.cast_kind _ _⟩

/-! ## What the reader returns is constructor-grade -/

/-- **The reader returns constructor-grade fields only.**  Whatever `Field.from_file` returns for
a file of the versioned layout — any content, tampered or not — satisfies `Inv` (the datasets
`array` and `valid` having as many entries as their shapes say, as every HDF5 dataset has). -/
theorem reader_returns_inv (v t : String) (fld : H5Field) (g : TFld) (hawf : fld.array.buf.length = natProd fld.array.shape)
    (hvwf : fld.valid.buf.length = natProd fld.valid.shape) (h : h5Load (.versioned v t fld) = .ok g) : g.Inv :=
  fieldLoadAt_inv fld .all g hawf hvwf (h5Load_versioned_eq_ok.mp h).2.2

/-- … hence **every field that came out of a file round-trips**: whatever `from_file` returned for
any versioned file can be written and read again, with the result `reread g`. -/
theorem file_field_roundtrips (v t : String) (fld : H5Field) (g : TFld) (hawf : fld.array.buf.length = natProd fld.array.shape)
    (hvwf : fld.valid.buf.length = natProd fld.valid.shape) (h : h5Load (.versioned v t fld) = .ok g) :
    h5Load (h5Save g) = .ok (reread g) :=
  h5_roundtrip_reread g (reader_returns_inv v t fld g hawf hvwf h)

/-! ## The corner table (where integer- and float-typed corners meet) -/

/-- **Every combination of int/float corners.**  Each row of the corner table holds the two
corners of its subregion exactly — no matter which of the region's, this subregion's or any
other subregion's corner arrays are integer- or float-typed. -/
theorem corner_table_exact (m : TMesh) (p : String × TReg) (hp : p ∈ m.subs) :
    (subRow (tableKind m) p.2).vals = p.2.pmin.vals ++ p.2.pmax.vals := by
  unfold subRow
  rw [NumArr.cast_vals _ _ ((tableKind_lossless m p hp).imp_right fun h => ?_), NumArr.append_vals]
  rw [NumArr.append_kind, h.1, h.2]
  rfl

/-- the table is integer-typed only if the region's and every subregion's corners are -/
theorem corner_table_int_iff (m : TMesh) :
    tableKind m = .int ↔
      m.region.pmin.kind = .int ∧ ∀ p ∈ m.subs, p.2.pmin.kind = .int ∧ p.2.pmax.kind = .int :=
  tableKind_eq_int m

/-- layout of the two subregion datasets: absent iff there are no subregions; otherwise the
names in dict order, one row per subregion, each row `2·ndim` long, all of the table's dtype -/
theorem subregion_datasets (m : TMesh) (hm : m.Inv) :
    (subsSave m = none ↔ m.subs = []) ∧
    ∀ s, subsSave m = some s →
      s.names = m.subs.map (fun p => p.1) ∧ s.rows.length = m.subs.length ∧
      ∀ r ∈ s.rows, r.kind = s.kind ∧ r.length = 2 * m.region.ndim := by
  obtain ⟨_, _, _, _, _, _, hsub⟩ := (TMesh.inv_iff m).mp hm
  refine ⟨subsSave_eq_none m, fun s hs => ?_⟩
  obtain ⟨_, rfl⟩ := (subsSave_eq_some m s).mp hs
  refine ⟨rfl, List.length_map _, fun r hr => ?_⟩
  obtain ⟨p, hp, rfl⟩ := List.mem_map.mp hr
  obtain ⟨hl1, hl2, _⟩ := (subInvW_iff _ _).mp ((subInv_iff_weak _ _ _).mp (hsub p hp)).1
  exact ⟨NumArr.cast_kind _ _, by rw [subRow_length, hl1, hl2, Nat.two_mul]⟩

/-- **the mesh group round-trips** (`_MeshIO_HDF5`): region, counts, boundary conditions, and the
subregions with their names in order and their corners in the dtype of the table -/
theorem mesh_roundtrip (m : TMesh) (hm : m.Inv) : meshLoad (meshSave m) = .ok m.loaded := by
  obtain ⟨hw, hrr⟩ := (TMesh.inv_iff_weak m).mp hm
  rw [meshLoad_meshSave_eq m hw, if_pos hrr]

/-- how the reader pairs `subregion_names` with the rows of the table (a dict comprehension): the
names it keeps are distinct, and under a name stored more than once the LAST row wins -/
theorem subregion_dict_semantics {α : Type} (ps : List (String × α)) :
    hasDup ((dictOf ps).map fun p => p.1) = false ∧ ∀ k, dictGet (dictOf ps) k = dictGet ps.reverse k :=
  ⟨hasDup_keys_dictOf ps, dictGet_dictOf ps⟩

/-! ## Unit and labels -/

/-- the unit survives its encoding as a string exactly when it is not the string `"None"` -/
theorem unit_roundtrip_iff (u : Option String) : decUnit (encUnit u) = u ↔ u ≠ some "None" :=
  decUnit_encUnit u

/-- no unit comes back as no unit -/
theorem unit_none_roundtrip : decUnit (encUnit none) = none := by
  simp [decUnit, encUnit]

/-- … and the one exception, on whole fields (D32): a field whose unit is the string `"None"` is
read back without unit. -/
theorem unit_None_is_lost (f : TFld) (hf : f.Inv) (hu : f.unit = some "None") :
    ∃ g, h5Load (h5Save f) = .ok g ∧ g.unit = none ∧ g.unit ≠ f.unit := by
  refine ⟨reread f, h5_roundtrip_reread f hf, ?_, ?_⟩
  · simp [reread, hu, decUnit, encUnit]
  · simp [reread, hu, decUnit, encUnit]

/-- component labels — absent, or any list of strings, even a label spelt `"None"` —
survive their encoding as an attribute -/
theorem vdims_roundtrip (v : Option (List String)) : decVdims (encVdims v) = .ok v :=
  decVdims_encVdims v

/-- … but absent labels do not survive the constructor the reader calls (D34): a field with
more than one component and no labels (`vdims=[]`) is read back with the default labels
`x, y, z` / `v0, v1, …` — labels it did not have. -/
theorem labels_none_are_lost (f : TFld) (hf : f.Inv) (hv : f.vdims = none) (hn : f.nvdim ≠ 1) :
    ∃ g, h5Load (h5Save f) = .ok g ∧ g.vdims = Fld.defaultVdims f.nvdim ∧ g.vdims ≠ f.vdims := by
  refine ⟨reread f, h5_roundtrip_reread f hf, ?_, ?_⟩
  · show rereadVdims f = _
    simp only [rereadVdims, hv, recodeVdims]
  · exact fun h => hn ((rereadVdims_eq_iff f).mp h hv)

/-- labels that are present always survive, and so do absent labels of a one-component field -/
theorem labels_roundtrip_iff (f : TFld) (hf : f.Inv) :
    (∃ g, h5Load (h5Save f) = .ok g ∧ g.vdims = f.vdims) ↔ (f.vdims = none → f.nvdim = 1) :=
  (read_back_iff f hf _).trans (rereadVdims_eq_iff f)

/-! ## What the reader refuses -/

/-- a file whose `type` attribute is not `discretisedfield.Field` is rejected -/
theorem wrong_type_rejected (v t : String) (fld : H5Field) (h : t ≠ "discretisedfield.Field") :
    h5Load (.versioned v t fld) = .error .value := by
  simp [h5Load, h]

/-- a file of another layout version is rejected -/
theorem wrong_version_rejected (v : String) (fld : H5Field) (h : v ≠ "0.1") :
    ∃ e, h5Load (.versioned v "discretisedfield.Field" fld) = .error e := by
  exact ⟨.runtime, by simp [h5Load, h]⟩

/-- … so whatever versioned file is read successfully is a `discretisedfield.Field` file of
layout version 0.1 -/
theorem accepted_only_field_v01 (v t : String) (fld : H5Field) (g : TFld) (h : h5Load (.versioned v t fld) = .ok g) :
    t = "discretisedfield.Field" ∧ v = "0.1" :=
  ⟨(h5Load_versioned_eq_ok.mp h).1, (h5Load_versioned_eq_ok.mp h).2.1⟩

/-- `pmin`/`pmax` keyword construction: region attributes whose corners are not strictly
ordered in some component are rejected (the region is never silently re-ordered) -/
theorem pminmax_unordered_rejected (h : H5Region) (a : Nat) (ha : a < h.pmin.length)
    (hge : ¬ h.pmin.vals.getD a 0 < h.pmax.vals.getD a 0) :
    regionLoad h = .error .value := by
  unfold regionLoad TReg.initKw
  split
  · rfl
  · rw [allLt_false_of _ _ a ha (decide_eq_false hge)]
    rfl

/-- … and ordered corners of one dtype are taken as they are (`np.minimum`/`np.maximum`
change nothing), names, units and tolerance included -/
theorem region_roundtrip (r : TReg) (h : r.Inv) : regionLoad (regionSave r) = .ok r :=
  regionLoad_regionSave r h

/-! ## Time series: several fields in one dataset (`data_shape`, `location`) -/

/-- **Read over write.**  Writing an array into slot `t` of a dataset (`dataset[t] = array`,
`t` in `[-T, T)`) keeps shape, dtype and size of the dataset; afterwards slot `t` holds the array
(converted to the dataset's dtype) and every other slot what it held before. -/
theorem slot_read_over_write (ds ds' a : DArr) (T : Nat) (rest : List Nat) (t : Int) (hsh : ds.shape = T :: rest)
    (hwf : ds.buf.length = natProd ds.shape) (hawf : a.buf.length = natProd a.shape)
    (h : writeLoc ds (.idx t) a = .ok ds') :
    ds'.shape = ds.shape ∧ ds'.buf.kind = ds.buf.kind ∧ ds'.buf.length = natProd ds'.shape ∧
    ∃ b, a.buf.castTo ds.buf.kind = .ok b ∧
      ∀ k, k < T → readLoc ds' (.idx (k : Int)) =
        if slotOf T t = k then .ok { shape := rest, buf := b } else readLoc ds (.idx (k : Int)) := by
  obtain ⟨h1, h2, h3, b, hb, _, hsl⟩ := writeLoc_step ds ds' a T rest t hsh hwf hawf h
  refine ⟨by rw [h1, hsh], h2, h3, b, hb, ?_⟩
  intro k hk
  rw [readLoc_idx ds' T rest k h1 hk, hsl k hk, readLoc_idx ds T rest k hsh hk]
  split <;> rfl

/-- a slot write is accepted iff the index is in `[-T, T)`, the array has the slot's shape and
its dtype has a conversion path into the dataset's (real ↔ real, complex ↔ complex) -/
theorem slot_write_accepted_iff (ds a : DArr) (T : Nat) (rest : List Nat) (t : Int) (hsh : ds.shape = T :: rest) :
    (∃ ds', writeLoc ds (.idx t) a = .ok ds') ↔
      ((-(T : Int) ≤ t ∧ t < T) ∧ a.shape = rest ∧ (ds.buf.kind = .complex ↔ a.buf.kind = .complex)) := by
  constructor
  · rintro ⟨ds', h⟩
    obtain ⟨ht, hs, b, hb, _⟩ := (writeLoc_idx_eq_ok ds ds' a T rest t hsh).mp h
    exact ⟨ht, hs, (DBuf.castTo_ok_iff _ _).mp ⟨b, hb⟩⟩
  · rintro ⟨ht, hs, hk⟩
    exact writeLoc_idx_accepts ds a T rest t hsh ht hs hk

/-- negative indices address slots from the end; indices outside `[-T, T)` are refused -/
theorem slot_index_range (ds : DArr) (T : Nat) (rest : List Nat) (hsh : ds.shape = T :: rest) :
    (∀ k, k < T → readLoc ds (.idx ((k : Int) - T)) = readLoc ds (.idx (k : Int))) ∧
    (∀ t : Int, (t < -(T : Int) ∨ (T : Int) ≤ t) → readLoc ds (.idx t) = .error .index) := by
  refine ⟨fun k hk => ?_, fun t ht => by rw [readLoc_idx_eq ds T rest t hsh, if_pos ht]⟩
  rw [readLoc_idx ds T rest k hsh hk, readLoc_idx_eq ds T rest _ hsh, if_neg (by omega), slotOf_neg T k hk]

/-- **Time series, by induction over the history of writes.**  A group created by
`_h5_save_structure(f0, (T, *n, nvdim))`, then ANY history of successful
`_h5_save_data(dataset, t)` calls (fields on meshes with `f0`'s cell counts and component
count, any order, rewrites, negative indices, int/float dtypes mixed):
`_h5_load_field(group, k)` returns, for every slot `k < T`, the field `reread (slotField …)`:
`f0`'s structure (mesh with subregions, labels, unit, validity — as the single-field reader
returns them) and as data the array written to slot `k` last, converted to the dataset's dtype —
zeros if nothing was written there (`slot_content_*` say what `slotAfter` is). -/
theorem series_roundtrip (f0 : TFld) (hf : f0.Inv) (T : Nat) (ws : List (Int × TFld)) (hws : ∀ w ∈ ws, w.2.Inv)
    (h : H5Field) (hrun : saveAll (saveStructure f0 (T :: (f0.mesh.n ++ [f0.nvdim]))) ws = .ok h) (k : Nat) (hk : k < T) :
    fieldLoadAt h (.idx (k : Int)) = .ok (reread (slotField f0 T k ws)) := by
  have hwf : DArr.wf (saveStructure f0 (T :: (f0.mesh.n ++ [f0.nvdim]))).array := DBuf.zeros_length _ _
  obtain ⟨hlen, hrd⟩ := fieldLoadAt_saveAll _ h T _ ws rfl hwf (fun w hw => data_wf_of_inv _ (hws w hw)) hrun k hk
  -- a fresh dataset holds zeros of the field's dtype in every slot
  have hz : (saveStructure f0 (T :: (f0.mesh.n ++ [f0.nvdim]))).array.buf.slice
      (k * natProd (f0.mesh.n ++ [f0.nvdim])) (natProd (f0.mesh.n ++ [f0.nvdim]))
      = DBuf.zeros f0.data.buf.kind (natProd (f0.mesh.n ++ [f0.nvdim])) :=
    DBuf.slice_zeros _ _ _ _ (slot_bound T k _ hk)
  have hkind : (saveStructure f0 (T :: (f0.mesh.n ++ [f0.nvdim]))).array.buf.kind = f0.data.buf.kind :=
    DBuf.zeros_kind _ _
  rw [hrd, hz, hkind]
  -- the single-field group holding that slot is the store of the field with that data
  obtain ⟨hm, hnv, _, _, hvs, hvl, hvd⟩ := (TFld.inv_iff f0).mp hf
  have hinv : (slotField f0 T k ws).Inv :=
    (TFld.inv_iff _).mpr ⟨hm, hnv, rfl, slotAfter_length T _ k _ _ _ (DBuf.zeros_length _ _) fun w hw => by
      obtain ⟨w', hw', rfl⟩ := List.mem_map.mp hw
      exact hlen w' hw', hvs, hvl, hvd⟩
  exact fieldLoad_fieldSave_gen _ hinv

/-- **a series accepts every well-formed history**: indices in `[-T, T)`, fields with `f0`'s array
shape and a dtype on `f0`'s side of the real/complex divide — then every `_h5_save_data` call
succeeds (the success hypothesis of `series_roundtrip` discharged) -/
theorem series_accepts (f0 : TFld) (T : Nat) (ws : List (Int × TFld))
    (hw : ∀ w ∈ ws, (-(T : Int) ≤ w.1 ∧ w.1 < T) ∧ w.2.Inv ∧ w.2.data.shape = f0.mesh.n ++ [f0.nvdim] ∧
      (f0.data.buf.kind = .complex ↔ w.2.data.buf.kind = .complex)) :
    ∃ h, saveAll (saveStructure f0 (T :: (f0.mesh.n ++ [f0.nvdim]))) ws = .ok h := by
  have hwf : DArr.wf (saveStructure f0 (T :: (f0.mesh.n ++ [f0.nvdim]))).array := by
    unfold DArr.wf saveStructure
    simp only [DBuf.zeros_length]
  obtain ⟨a, ha⟩ := writeAll_accepts (ws.map fun w => (w.1, w.2.data)) _ T (f0.mesh.n ++ [f0.nvdim]) rfl hwf (by
    intro w hw'
    obtain ⟨w', hw'', rfl⟩ := List.mem_map.mp hw'
    obtain ⟨ht, hinv, hs, hk⟩ := hw w' hw''
    refine ⟨ht, hs, data_wf_of_inv _ hinv, ?_⟩
    show (DBuf.zeros f0.data.buf.kind _).kind = .complex ↔ _
    rw [DBuf.zeros_kind]; exact hk)
  exact ⟨_, (saveAll_eq_ok ws _ _).mpr ⟨a, ha, rfl⟩⟩

/-- what a slot holds: a later write to the slot replaces its content (converted), a write to
another slot does not touch it … -/
theorem slot_content_append (T : Nat) (kind : DK) (k : Nat) (init : DBuf) (ws : List (Int × DArr)) (w : Int × DArr) :
    slotAfter T kind k init (ws ++ [w]) =
      if slotOf T w.1 = k then castOr kind w.2.buf (slotAfter T kind k init ws) else slotAfter T kind k init ws := by
  simp [slotAfter, List.foldl_append]

/-- … and a slot no write addressed holds what it held (zeros in a fresh dataset) -/
theorem slot_content_untouched (T : Nat) (kind : DK) (k : Nat) (init : DBuf) (ws : List (Int × DArr))
    (h : ∀ w ∈ ws, slotOf T w.1 ≠ k) : slotAfter T kind k init ws = init := by
  induction ws generalizing init with
  | nil => rfl
  | cons w ws ih =>
    simp only [slotAfter, List.foldl_cons]
    rw [if_neg (h w (by simp))]
    exact ih init fun w' hw' => h w' (by simp [hw'])

/-- a series whose last write to slot `k` was the field `g` of the dataset's dtype: slot `k`
reads back as `reread` of `f0`'s structure with **`g`'s array, bit for bit** -/
theorem series_last_write (f0 : TFld) (hf : f0.Inv) (T : Nat) (ws : List (Int × TFld)) (t : Int) (g : TFld)
    (hws : ∀ w ∈ ws ++ [(t, g)], w.2.Inv) (hkind : g.data.buf.kind = f0.data.buf.kind)
    (hshape : g.data.shape = f0.mesh.n ++ [f0.nvdim])
    (h : H5Field) (hrun : saveAll (saveStructure f0 (T :: (f0.mesh.n ++ [f0.nvdim]))) (ws ++ [(t, g)]) = .ok h)
    (hT : 0 < T) :
    fieldLoadAt h (.idx (slotOf T t : Int)) = .ok (reread { f0 with data := g.data }) := by
  have hk := slotOf_lt T t hT
  rw [series_roundtrip f0 hf T _ hws h hrun _ hk]
  congr 2
  unfold slotField
  congr 1
  rw [← hshape]
  congr 1
  rw [List.map_append, List.map_cons, List.map_nil, slot_content_append]
  simp only [if_true, castOr, hkind ▸ DBuf.castTo_self g.data.buf]

/-! ## Legacy layout -/

/-- **Legacy files are still read.**  The reader reads every well-formed legacy file —
corners `p1`, `p2` in any order and of any dtype, any counts, any component count,
real/complex/int data — to the documented field `legacyField l` (see `legacy_field_items`). -/
theorem legacy_read (l : Legacy) (h0 : 0 < l.p1.length) (hl : l.p2.length = l.p1.length)
    (hne : ∀ a, a < l.p1.length → l.p1.vals.getD a 0 ≠ l.p2.vals.getD a 0)
    (hn : l.n.length = l.p1.length) (hpos : ∀ k ∈ l.n, 0 < k) (hdim : 1 ≤ l.dim)
    (hs : l.array.shape = l.n.map Int.toNat ++ [l.dim.toNat])
    (hb : l.array.buf.length = natProd (l.n.map Int.toNat ++ [l.dim.toNat]))
    (hsc : l.sidecar = none) :
    h5Load (.unversioned l) = .ok (legacyField l) :=
  legacyLoad_ok_gen l (legacyField l).mesh h0 hl hne hn hpos hdim hs hb (by rw [hsc]; rfl)

/-- **Any corner order.**  Legacy files keep `p1`, `p2` as the user gave them.  Two legacy files
that differ only in which of the two datasets holds the smaller coordinate — axis by axis, in
any combination, the dtypes joining to the same dtype — are read to the same result (same field
or same refusal): the reader normalises the corners. -/
theorem legacy_corner_order (l l' : Legacy) (hl : l.p2.length = l.p1.length) (hl1 : l'.p1.length = l.p1.length)
    (hl2 : l'.p2.length = l.p1.length)
    (hk : NK.join l'.p1.kind l'.p2.kind = NK.join l.p1.kind l.p2.kind)
    (hsw : ∀ a, a < l.p1.length →
      (l'.p1.vals.getD a 0 = l.p1.vals.getD a 0 ∧ l'.p2.vals.getD a 0 = l.p2.vals.getD a 0) ∨
      (l'.p1.vals.getD a 0 = l.p2.vals.getD a 0 ∧ l'.p2.vals.getD a 0 = l.p1.vals.getD a 0))
    (h0 : 0 < l.p1.length)
    (hne : ∀ a, a < l.p1.length → l.p1.vals.getD a 0 ≠ l.p2.vals.getD a 0)
    (hn : l.n.length = l.p1.length) (hpos : ∀ k ∈ l.n, 0 < k) (hdim : 1 ≤ l.dim)
    (hs : l.array.shape = l.n.map Int.toNat ++ [l.dim.toNat])
    (hb : l.array.buf.length = natProd (l.n.map Int.toNat ++ [l.dim.toNat]))
    (hsc : l.sidecar = none)
    (hn' : l'.n = l.n) (hd' : l'.dim = l.dim) (ha' : l'.array = l.array) (hsc' : l'.sidecar = none) :
    h5Load (.unversioned l') = h5Load (.unversioned l) := by
  have hne' : ∀ a, a < l'.p1.length → l'.p1.vals.getD a 0 ≠ l'.p2.vals.getD a 0 := by
    intro a ha
    rw [hl1] at ha
    rcases hsw a ha with ⟨e1, e2⟩ | ⟨e1, e2⟩
    · rw [e1, e2]; exact hne a ha
    · rw [e1, e2]; exact (hne a ha).symm
  rw [legacy_read l h0 hl hne hn hpos hdim hs hb hsc,
    legacy_read l' (by rw [hl1]; exact h0) (by rw [hl1, hl2]) hne' (by rw [hn', hl1]; exact hn)
      (by rw [hn']; exact hpos) (by rw [hd']; exact hdim) (by rw [ha', hn', hd']; exact hs)
      (by rw [ha', hn', hd']; exact hb) hsc',
    legacyField_corner_order l l' hl hl1 hl2 hk hsw hn' hd' ha']

/-- … and with a `.subregions.json` side-car: whenever the side-car's subregions are accepted
by the mesh (`sidecarLoad` succeeds with mesh `m'`), the file is read to the same field on
that mesh; the side-car changes nothing but the subregions. -/
theorem legacy_read_sidecar (l : Legacy) (m' : TMesh) (h0 : 0 < l.p1.length) (hl : l.p2.length = l.p1.length)
    (hne : ∀ a, a < l.p1.length → l.p1.vals.getD a 0 ≠ l.p2.vals.getD a 0)
    (hn : l.n.length = l.p1.length) (hpos : ∀ k ∈ l.n, 0 < k) (hdim : 1 ≤ l.dim)
    (hs : l.array.shape = l.n.map Int.toNat ++ [l.dim.toNat])
    (hb : l.array.buf.length = natProd (l.n.map Int.toNat ++ [l.dim.toNat]))
    (hsc : sidecarLoad (legacyField l).mesh l.sidecar = .ok m') :
    h5Load (.unversioned l) = .ok { legacyField l with mesh := m' } ∧
      m'.region = (legacyField l).mesh.region ∧ m'.n = (legacyField l).mesh.n :=
  ⟨legacyLoad_ok_gen l m' h0 hl hne hn hpos hdim hs hb hsc,
   (sidecarLoad_keeps _ _ _ hsc).1, (sidecarLoad_keeps _ _ _ hsc).2.1⟩

/-- **A fitting side-car is accepted** (the acceptance hypothesis of `legacy_read_sidecar`
discharged with C14's completeness of the `subregions` setter).  If every box of the side-car
fits the legacy file's mesh exactly — inside, a whole number of cells long, on the cell lattice
(`C14.FitsE`) — and carries `ndim` distinct dimension names and `ndim` units, the file is read to
`legacyField l` with exactly these subregions attached: names in dict order, the corner numbers
of the side-car (int/float lists joined to one dtype), the mesh's names, units and tolerance. -/
theorem legacy_read_sidecar_fits (l : Legacy) (sc : List (String × H5Region)) (h0 : 0 < l.p1.length)
    (hl : l.p2.length = l.p1.length)
    (hne : ∀ a, a < l.p1.length → l.p1.vals.getD a 0 ≠ l.p2.vals.getD a 0)
    (hn : l.n.length = l.p1.length) (hpos : ∀ k ∈ l.n, 0 < k) (hdim : 1 ≤ l.dim)
    (hs : l.array.shape = l.n.map Int.toNat ++ [l.dim.toNat])
    (hb : l.array.buf.length = natProd (l.n.map Int.toNat ++ [l.dim.toNat]))
    (hsc : l.sidecar = some sc)
    (hwf : ∀ p ∈ sc, p.2.dims.length = l.p1.length ∧ hasDup p.2.dims = false ∧ p.2.units.length = l.p1.length)
    (hfit : ∀ p ∈ sc, C14.FitsE (legacyField l).mesh.toMesh p.2.toRegion) :
    h5Load (.unversioned l) =
      .ok { legacyField l with
            mesh := { (legacyField l).mesh with
                      subs := (dictOf (sc.map fun p => (p.1, p.2.region))).map (stampSub (legacyField l).mesh.region) } } := by
  have hminv := legacy_mesh_inv l h0 hl hne hn hpos
  have hnd : (legacyField l).mesh.region.ndim = l.p1.length := NumArr.minimum_length _ _ hl
  have := sidecarLoad_fits (legacyField l).mesh hminv sc (fun p hp => by rw [hnd]; exact hwf p hp) hfit
  exact legacyLoad_ok_gen l _ h0 hl hne hn hpos hdim hs hb (by rw [hsc]; exact this)

/-- what `legacyField` is, in numbers: the region spans the element-wise minimum and maximum
of `p1`, `p2`; the values are the stored values (integer data converted as by `rne53`: unchanged
when they have at most 53 significant bits); real stays real, complex complex; all cells valid;
no unit; no subregions -/
theorem legacy_field_items (l : Legacy) :
    (legacyField l).mesh.region.pmin.vals = List.zipWith min l.p1.vals l.p2.vals ∧
    (legacyField l).mesh.region.pmax.vals = List.zipWith max l.p1.vals l.p2.vals ∧
    (l.array.buf.IntSafe → (legacyField l).data.buf.vals = l.array.buf.vals) ∧
    (l.array.buf.kind ≠ .int → (legacyField l).data.buf = l.array.buf) ∧
    ((legacyField l).data.buf.kind = .complex ↔ l.array.buf.kind = .complex) ∧
    (∀ b ∈ (legacyField l).valid.buf, b = true) ∧ (legacyField l).unit = none ∧ (legacyField l).mesh.subs = [] := by
  refine ⟨NumArr.minimum_vals _ _, NumArr.maximum_vals _ _, DBuf.upcast_vals _, DBuf.upcast_of_not_int _,
    DBuf.upcast_complex_iff _, ?_, rfl, rfl⟩
  intro b hb
  simp only [legacyField, List.mem_replicate] at hb
  exact hb.2

/-- **The legacy reader returns a constructor-grade field** (`Inv`), … -/
theorem legacy_field_inv (l : Legacy) (h0 : 0 < l.p1.length) (hl : l.p2.length = l.p1.length)
    (hne : ∀ a, a < l.p1.length → l.p1.vals.getD a 0 ≠ l.p2.vals.getD a 0)
    (hn : l.n.length = l.p1.length) (hpos : ∀ k ∈ l.n, 0 < k) (hdim : 1 ≤ l.dim)
    (hb : l.array.buf.length = natProd (l.n.map Int.toNat ++ [l.dim.toNat])) : (legacyField l).Inv := by
  have hk : 1 ≤ l.dim.toNat := by omega
  exact (TFld.inv_iff _).mpr ⟨legacy_mesh_inv l h0 hl hne hn hpos, hk, rfl, (DBuf.upcast_length _).trans hb, rfl,
    List.length_replicate, vdimsOk_defaultVdims l.dim.toNat hk⟩

/-- … so **a legacy file converts**: the field read from a legacy file, written in the current
layout and read again, is exactly the same field (every item, dtypes included). -/
theorem legacy_resave_roundtrip (l : Legacy) (h0 : 0 < l.p1.length) (hl : l.p2.length = l.p1.length)
    (hne : ∀ a, a < l.p1.length → l.p1.vals.getD a 0 ≠ l.p2.vals.getD a 0)
    (hn : l.n.length = l.p1.length) (hpos : ∀ k ∈ l.n, 0 < k) (hdim : 1 ≤ l.dim)
    (hb : l.array.buf.length = natProd (l.n.map Int.toNat ++ [l.dim.toNat])) :
    h5Load (h5Save (legacyField l)) = .ok (legacyField l) := by
  apply h5_roundtrip (legacyField l) (legacy_field_inv l h0 hl hne hn hpos hdim hb)
  · simp [legacyField]
  · intro hv
    exact (Fld.defaultVdims_eq_none_iff _).mp hv
  · intro p hp
    simp [legacyField] at hp
  · show l.array.buf.upcast.kind ≠ .int
    cases l.array.buf <;> simp [DBuf.upcast, DBuf.kind]
  · rfl

/-- The field `legacy_read_sidecar_fits` returns is constructor-grade too (`Inv`): every theorem above applies to it, e.g.
it can be saved in the current layout and read again (`h5_roundtrip_reread`). -/
theorem legacy_sidecar_field_inv (l : Legacy) (sc : List (String × H5Region)) (h0 : 0 < l.p1.length)
    (hl : l.p2.length = l.p1.length)
    (hne : ∀ a, a < l.p1.length → l.p1.vals.getD a 0 ≠ l.p2.vals.getD a 0)
    (hn : l.n.length = l.p1.length) (hpos : ∀ k ∈ l.n, 0 < k) (hdim : 1 ≤ l.dim)
    (hb : l.array.buf.length = natProd (l.n.map Int.toNat ++ [l.dim.toNat]))
    (hfit : ∀ p ∈ sc, C14.FitsE (legacyField l).mesh.toMesh p.2.toRegion) :
    ({ legacyField l with
       mesh := { (legacyField l).mesh with
                 subs := (dictOf (sc.map fun p => (p.1, p.2.region))).map (stampSub (legacyField l).mesh.region) } } : TFld).Inv := by
  exact (legacy_field_inv l h0 hl hne hn hpos hdim hb).with_mesh _
    (sidecar_mesh_inv _ (legacy_mesh_inv l h0 hl hne hn hpos) sc hfit) rfl

/-! ## Suffix dispatch -/

/-- whatever suffix `to_file` accepts, `from_file` reads in the same format -/
theorem suffix_consistent (s : String) (fmt : Fmt) (h : writeFmt s = .ok fmt) : readFmt s = .ok fmt := by
  unfold writeFmt at h
  unfold readFmt
  by_cases h1 : s = ".omf" ∨ s = ".ovf" ∨ s = ".ohf"
  · rw [if_pos h1] at h
    rw [if_pos (h1.imp_right (Or.imp_right Or.inl))]
    exact h
  · rw [if_neg h1] at h
    -- `.oef` is neither `.vtk` nor an HDF5 suffix
    have h2 : ¬ (s = ".omf" ∨ s = ".ovf" ∨ s = ".ohf" ∨ s = ".oef") := by
      rintro (e | e | e | rfl)
      · exact h1 (Or.inl e)
      · exact h1 (Or.inr (Or.inl e))
      · exact h1 (Or.inr (Or.inr e))
      · simp only [String.reduceEq, or_self, if_false] at h
        cases h
    rw [if_neg h2]
    exact h

/-- HDF5 is chosen for exactly `.hdf5` and `.h5`, by both -/
theorem hdf5_suffixes (s : String) :
    (writeFmt s = .ok .hdf5 ↔ (s = ".hdf5" ∨ s = ".h5")) ∧ (readFmt s = .ok .hdf5 ↔ (s = ".hdf5" ∨ s = ".h5")) := by
  -- an HDF5 suffix is none of the suffixes tested before it
  have hn : (s = ".hdf5" ∨ s = ".h5") → ¬ (s = ".omf" ∨ s = ".ovf" ∨ s = ".ohf" ∨ s = ".oef") ∧ ¬ s = ".vtk" := by
    rintro (rfl | rfl) <;> simp only [String.reduceEq, or_self, not_false_eq_true, and_self]
  -- the two dispatchers differ in their list `A` of OVF suffixes only
  have key : ∀ (A : Prop) [Decidable A], ((s = ".hdf5" ∨ s = ".h5") → ¬ A) →
      ((if A then .ok .ovf else if s = ".vtk" then .ok .vtk else if s = ".hdf5" ∨ s = ".h5" then .ok .hdf5 else .error .value : M Fmt)
        = .ok .hdf5 ↔ (s = ".hdf5" ∨ s = ".h5")) := by
    intro A _ hA
    by_cases h : s = ".hdf5" ∨ s = ".h5"
    · rw [if_neg (hA h), if_neg (hn h).2, if_pos h]
      exact iff_of_true rfl h
    · refine iff_of_false (fun h' => ?_) h
      rw [if_neg h] at h'
      split at h'
      · cases h'
      · split at h' <;> cases h'
  exact ⟨key _ fun h h' => (hn h).1 (h'.imp_right (Or.imp_right Or.inl)), key _ fun h => (hn h).1⟩

/-! ## The three exceptions, exactly -/

/-- **The item list of the property holds iff none of the three exceptions applies.**  For every
constructor-grade field: the field read back agrees with the field written in every item the
property lists (as in `h5_roundtrip_partial`) **if and only if** the unit is not the string
`"None"` (D32), labels are present or the field has a single component (D34), and integer data
have at most 53 significant bits (D33).  `h5_roundtrip_partial` is the "if" direction. -/
theorem h5_roundtrip_items_iff (f : TFld) (hf : f.Inv) :
    (∃ g, h5Load (h5Save f) = .ok g ∧
      g.mesh.region = f.mesh.region ∧ g.mesh.n = f.mesh.n ∧ g.mesh.bc = f.mesh.bc ∧
      g.mesh.subs.map (fun p => (p.1, p.2.pmin.vals, p.2.pmax.vals, p.2.dims, p.2.units, p.2.tol))
        = f.mesh.subs.map (fun p => (p.1, p.2.pmin.vals, p.2.pmax.vals, p.2.dims, p.2.units, p.2.tol)) ∧
      g.nvdim = f.nvdim ∧ g.vdims = f.vdims ∧ g.unit = f.unit ∧
      g.data.shape = f.data.shape ∧ g.data.buf.vals = f.data.buf.vals ∧
      (g.data.buf.kind = .complex ↔ f.data.buf.kind = .complex) ∧
      g.valid = f.valid ∧ g.vmap = defaultVmap f.nvdim f.mesh.region.dims f.vdims) ↔
    (f.unit ≠ some "None" ∧ (f.vdims = none → f.nvdim = 1) ∧ f.data.buf.IntSafe) := by
  constructor
  · intro h
    obtain ⟨_, _, _, _, _, hvd, hun, _, hvals, _, _, _⟩ := (read_back_iff f hf _).mp h
    exact ⟨(decUnit_encUnit _).mp hun, (rereadVdims_eq_iff f).mp hvd, (DBuf.upcast_vals_iff _).mp hvals⟩
  · rintro ⟨hu, hv, hi⟩
    exact h5_roundtrip_partial f hf hu hv hi

/-- the unit, on whole fields: it comes back iff it is not the string `"None"` (D32, as an
equivalence; `unit_None_is_lost` is the negative direction) -/
theorem unit_field_roundtrip_iff (f : TFld) (hf : f.Inv) :
    (∃ g, h5Load (h5Save f) = .ok g ∧ g.unit = f.unit) ↔ f.unit ≠ some "None" :=
  (read_back_iff f hf _).trans (decUnit_encUnit _)

/-- **The exact round trip, as an equivalence.**  The field read back IS the field written —
every dtype included — iff: unit not `"None"`, labels present or one component, every subregion
corner array already in the dtype of the corner table, data not integer-typed, and the
component-to-axis mapping the default one.  (`h5_roundtrip` is the "if" direction.) -/
theorem h5_roundtrip_exact_iff (f : TFld) (hf : f.Inv) :
    h5Load (h5Save f) = .ok f ↔
      (f.unit ≠ some "None" ∧ (f.vdims = none → f.nvdim = 1) ∧
       (∀ p ∈ f.mesh.subs, p.2.pmin.kind = tableKind f.mesh ∧ p.2.pmax.kind = tableKind f.mesh) ∧
       f.data.buf.kind ≠ .int ∧ f.vmap = defaultVmap f.nvdim f.mesh.region.dims f.vdims) := by
  rw [h5_roundtrip_reread f hf, ← reread_eq_self_iff]
  constructor
  · intro h; injection h
  · intro h; rw [h]

/-! ## What the constructors guarantee for every input, and when the reader accepts the writer's file -/

/-- **The setter tests what it stores** (repo 5591fed0, finding D132).  For a valid mesh region and a
valid candidate region, the `subregions` setter's test `candOk` — rebuild the candidate with the
mesh region's names, units and tolerance factor, then: inside the region, an aggregate of cells,
aligned — is the three tests on the candidate's corner pair with the MESH's tolerance factor; the
candidate's own names, units and tolerance factor have no say; and the subregion that is stored
(`restampT`) passes the very same tests. -/
theorem setter_test_is_on_stored_copy (r : TReg) (hr : r.Inv) (n : List Nat) (s : TReg) (hs : s.Inv) (nm : String) :
    candOk r n s = subAccept r.toRegion n { s.toRegion with tol := r.tol.val } ∧
    candOk r n s = subAccept r.toRegion n (restampT r (nm, s)).2.toRegion ∧
    ∀ d u t, candOk r n { s with dims := d, units := u, tol := t } = candOk r n s := by
  refine ⟨candOk_eq r hr n s hs, candOk_eq_stampC r hr n s hs, ?_⟩
  intro d u t
  by_cases hnd : s.ndim = r.ndim
  · -- the copy the setter rebuilds takes the corners only
    have hnd' : ({ s with dims := d, units := u, tol := t } : TReg).ndim = r.ndim := hnd
    unfold candOk
    rw [if_pos hnd, if_pos hnd']
  · rw [candOk_of_ndim_ne r n s hnd]
    exact candOk_of_ndim_ne r n _ hnd

/-- **`Mesh.__init__` establishes the invariant `Inv`** for any region that has the region
invariant, any counts and boundary condition it accepts, and ANY dict of candidate subregions
(distinct names: dict keys), whatever names, units and tolerance factor the candidates carry:
counts positive, boundary condition lower-cased and legal, every stored subregion re-stamped with
the mesh's names, units and tolerance, corners ordered and of one dtype, and passing the setter's
three tests as it is stored. -/
theorem mesh_constructor_inv (r : TReg) (hr : r.Inv) (n : List Int) (bc : String) (subs : List (String × TReg))
    (hinv : ∀ p ∈ subs, p.2.Inv) (hnd : hasDup (subs.map fun p => p.1) = false) (m : TMesh)
    (h : TMesh.init r n bc subs = .ok m) : m.Inv :=
  TMesh.init_inv r hr n bc subs hinv hnd m h

/-- … what it stores: the region, counts, lower-cased boundary condition, and the candidates
re-stamped, in dict order -/
theorem mesh_constructor_items (r : TReg) (hr : r.Inv) (n : List Int) (bc : String) (subs : List (String × TReg))
    (hinv : ∀ p ∈ subs, p.2.Inv) (m : TMesh) (h : TMesh.init r n bc subs = .ok m) :
    m.region = r ∧ m.n = n.map Int.toNat ∧ m.bc = bc.toLower ∧ m.subs = subs.map (restampT r) ∧
    ∀ p ∈ subs, candOk r (n.map Int.toNat) p.2 = true := by
  obtain ⟨_, _, _, ss, hset, rfl⟩ := TMesh.init_eq_ok.mp h
  obtain ⟨hacc, rfl⟩ := (setSubs_eq_ok r hr _ subs ss hinv).mp hset
  exact ⟨rfl, rfl, rfl, rfl, hacc⟩

/-- … and `Field.__init__` on such a mesh (any value array with as many entries as its shape
says, any labels / unit / validity it accepts) -/
theorem field_constructor_inv (m : TMesh) (hm : m.Inv) (nvdim : Option Int) (value : DArr) (vdims : Option (List String))
    (unit : Option String) (valid : Option VArr) (hwf : value.buf.length = natProd value.shape)
    (hvwf : ∀ w, valid = some w → w.buf.length = natProd w.shape) (f : TFld)
    (h : TFld.init m nvdim value vdims unit valid = .ok f) : f.Inv :=
  init_inv m hm nvdim value vdims unit valid hwf hvwf f h

/-- **Every constructor-built field round-trips** (the positive counterpart of finding
D132): for ANY valid region — with any tolerance factor of its own —, any counts, boundary
condition, dict of candidate subregions carrying any tolerance factors, and any value / labels /
unit / validity the constructors accept, `from_file(to_file(f))` succeeds and returns `reread f`
(then `h5_roundtrip_items_iff` says which items agree). -/
theorem constructor_field_roundtrips (r : TReg) (hr : r.Inv) (n : List Int) (bc : String) (subs : List (String × TReg))
    (hinv : ∀ p ∈ subs, p.2.Inv) (hnd : hasDup (subs.map fun p => p.1) = false) (m : TMesh)
    (hm : TMesh.init r n bc subs = .ok m) (nvdim : Option Int) (value : DArr) (vdims : Option (List String))
    (unit : Option String) (valid : Option VArr) (hwf : value.buf.length = natProd value.shape)
    (hvwf : ∀ w, valid = some w → w.buf.length = natProd w.shape) (f : TFld)
    (hf : TFld.init m nvdim value vdims unit valid = .ok f) :
    h5Load (h5Save f) = .ok (reread f) :=
  h5_roundtrip_reread f (init_inv m (TMesh.init_inv r hr n bc subs hinv hnd m hm) nvdim value vdims unit valid hwf hvwf f hf)

/-- `Inv` is `InvW` (everything but the acceptance clause) plus: every stored subregion passes
the setter's three tests as it is stored -/
theorem inv_iff_invW_rereadable (f : TFld) : f.Inv ↔ f.InvW ∧ f.mesh.rereadableB = true :=
  TFld.inv_iff_weak f

/-- **For an arbitrary state: the reader accepts the file the writer leaves iff the stored
subregions pass the setter's tests.**  For every state with `InvW` (well-formed, but not
necessarily built by the constructor — e.g. a mesh pickled by a version whose setter tested the candidate as given):
`from_file(to_file(f))` succeeds — with the result `reread f` — **iff** every stored subregion
passes the three tests with the mesh's tolerance; otherwise `from_file` RAISES on the file
`to_file` wrote.  A setter that tests the candidate with the candidate's own tolerance factor (the code
before repo 5591fed0) builds such states (`tolerant_candidate_refused`). -/
theorem h5_reread_accepts_iff (f : TFld) (hf : f.InvW) :
    (∃ g, h5Load (h5Save f) = .ok g) ↔ f.mesh.rereadableB = true := by
  rw [h5Load_h5Save_eq f hf]
  split
  · exact iff_of_true ⟨_, rfl⟩ ‹_›
  · exact iff_of_false (fun ⟨_, h⟩ => by cases h) ‹_›

/-- … in which case the result is `reread f` -/
theorem h5_reread_of_rereadable (f : TFld) (hf : f.InvW) (h : f.mesh.rereadableB = true) :
    h5Load (h5Save f) = .ok (reread f) := by
  rw [h5Load_h5Save_eq f hf, if_pos h]

/-- **The witness of finding D132.**  Region (0)–(10 nm) in 10 cells; candidate subregion
(0)–(0.9995 nm) carrying `tolerance_factor=1e-2`.  (1) On a mesh with the default tolerance the
constructor REFUSES it (a setter testing it with its own tolerance accepts it, and the file cannot be read back:
the state `exTolField` has `InvW`, is not re-readable, and the reader refuses its file).  (2) On a
mesh whose REGION carries `tolerance_factor=1e-2` the candidate is accepted — whatever tolerance
it carries itself —, stored with the mesh's tolerance, the file keeps the region's tolerance
factor, and the reader — presenting the corner pair with the default tolerance, which the setter
replaces by the mesh's — accepts it: the field round-trips. -/
theorem tolerant_candidate_refused :
    (∃ e, TMesh.init exTolRegion [10] "" [("a", exTolCand)] = .error e) ∧
    (exTolField.InvW ∧ ∃ e, h5Load (h5Save exTolField) = .error e) ∧
    TMesh.init exTolRegionLoose [10] "" [("a", exTolCand)] = .ok exTolMeshLoose ∧
    TMesh.init exTolRegionLoose [10] "" [("a", { exTolCand with tol := TReg.defaultTol })] = .ok exTolMeshLoose ∧
    h5Load (h5Save exTolFieldLoose) = .ok (reread exTolFieldLoose) := by
  refine ⟨⟨.value, by decide +kernel⟩,
    ⟨exTolField_invW, .value, by rw [h5Load_h5Save_eq _ exTolField_invW, exTolField_unreadable]; rfl⟩,
    by decide +kernel, by decide +kernel, h5_roundtrip_reread _ exTolFieldLoose_inv⟩

/-! ## Legacy layout: acceptance from the stored items alone -/

/-- **The legacy reader, as an equivalence, for every legacy file.**  A file of the old layout
(datasets `p1`, `p2`, `n`, `dim`, `array` with as many entries as its shape says, optional
side-car) is read to `g` **iff** its stored items are well formed — at least one axis, `p1`/`p2`
equally long and different in every component (ANY order per axis, any dtypes), one positive count
per axis, `dim ≥ 1`, an array shape `_as_array` accepts: the field's shape `(*n, dim)`, the mesh's
shape `n` when `dim = 1`, or anything with last axis `dim` that broadcasts — and the side-car (if
any) is accepted by `load_subregions`; and then `g` is `legacyFieldOn`: region spanning the
element-wise min/max of `p1`, `p2` with default names, units, tolerance, the stored counts, the
array broadcast to `(*n, dim)` with integers converted to binary64, every cell valid, default
labels, no unit, the side-car's subregions. -/
theorem legacy_read_iff (l : Legacy) (hwf : l.array.buf.length = natProd l.array.shape) (g : TFld) :
    h5Load (.unversioned l) = .ok g ↔
      l.WellFormed ∧ ∃ m', sidecarLoad (legacyField l).mesh l.sidecar = .ok m' ∧ g = legacyFieldOn l m' :=
  legacyLoad_iff l hwf g

/-- … without side-car: **accepted iff well formed** (the refusal direction of `legacy_read`) -/
theorem legacy_accepted_iff (l : Legacy) (hwf : l.array.buf.length = natProd l.array.shape) (hsc : l.sidecar = none) :
    (∃ g, h5Load (.unversioned l) = .ok g) ↔ l.WellFormed := by
  constructor
  · rintro ⟨g, hg⟩
    exact ((legacyLoad_iff l hwf g).mp hg).1
  · intro h
    exact ⟨_, (legacyLoad_iff l hwf _).mpr ⟨h, (legacyField l).mesh, by rw [hsc]; rfl, rfl⟩⟩

/-- what the two `_as_array` passes make of the stored array: an array of the field's shape is
taken entry for entry (integers converted to binary64), a mesh-shaped array of a one-component
field likewise, any other accepted array is broadcast (`bcastIdx`) — and the result always has the
field's shape and as many entries -/
theorem legacy_array_conversion (val : DArr) (n : List Nat) (k : Nat) (hwf : val.buf.length = natProd val.shape) :
    (val.shape = n ++ [k] → arrAcceptB val.shape n k = true ∧ arrConv val n k = { shape := n ++ [k], buf := val.buf.upcast }) ∧
    (k = 1 → val.shape = n → arrAcceptB val.shape n k = true ∧ arrConv val n k = { shape := n ++ [1], buf := val.buf.upcast }) ∧
    (arrAcceptB val.shape n k = true →
      (arrConv val n k).shape = n ++ [k] ∧ (arrConv val n k).buf.length = natProd (n ++ [k])) := by
  refine ⟨?_, ?_, ?_⟩
  · intro hs
    exact ⟨by rw [hs]; exact arrAccept_shaped n k, arrConv_shaped val n k hs hwf⟩
  · intro hk hs
    subst hk
    refine ⟨by simp [arrAcceptB, hs], ?_⟩
    unfold arrConv
    rw [if_pos ⟨rfl, hs⟩]
  · intro hacc
    exact ⟨rfl, arrConv_wf val n k hwf hacc⟩

/-- **Side-cars accepted within tolerance.**  `mesh.load_subregions` succeeds **iff** every entry
of the side-car is a valid `Region(pmin=…, pmax=…, dims=…, units=…, tolerance_factor=…)`
(`sidecarRegions`: ordered corners, fitting names and units) and every region that remains after
dict insertion (a repeated name keeps its first position and the last value) passes the setter's
test `candOk` — the three TOLERANT tests (inside the mesh region within the region's tolerance, an
aggregate of cells within 0.1 %, aligned within 1e-12; C14's `subOk`, `C14.setter_models_agree`)
on the entry's corner pair with the MESH's tolerance factor (`setter_test_is_on_stored_copy`): the
`tolerance_factor`, names and units a side-car entry carries are immaterial — and then the mesh
carries exactly these boxes, names in dict order, corners in their common dtype, re-stamped with
the mesh's names, units and tolerance.  (`legacy_read_sidecar_fits` is the special case of boxes
that fit exactly.) -/
theorem legacy_sidecar_accepted_iff (m : TMesh) (hm : m.InvW) (sc : List (String × H5Region)) (m' : TMesh) :
    sidecarLoad m (some sc) = .ok m' ↔
      ∃ ss, sidecarRegions sc = .ok ss ∧
        (∀ p ∈ dictOf ss, candOk m.region m.n p.2 = true) ∧
        m' = { m with subs := (dictOf ss).map (stampSub m.region) } :=
  sidecarLoad_ok_iff m hm sc m'

/-- **The legacy reader returns constructor-grade fields** (`Inv`) — for EVERY legacy file it
accepts: any side-car, boxes accepted only within tolerance included, any accepted array shape. -/
theorem legacy_reader_returns_inv (l : Legacy) (hwf : l.array.buf.length = natProd l.array.shape) (g : TFld)
    (h : h5Load (.unversioned l) = .ok g) : g.Inv :=
  legacyLoad_inv l hwf g h

/-- … so **every legacy file converts**: the field of any legacy file the reader accepts can be
written in the current layout and read again, with the result `reread g` -/
theorem legacy_convert (l : Legacy) (hwf : l.array.buf.length = natProd l.array.shape) (g : TFld)
    (h : h5Load (.unversioned l) = .ok g) : h5Load (h5Save g) = .ok (reread g) :=
  h5_roundtrip_reread g (legacyLoad_inv l hwf g h)

/-! ## The file as h5py shows it: entries missing, foreign, retyped -/

/-- **Every entry the writer emits is read back, and nothing else is needed.**  The reader's
accesses (`RawFile.parse`: names looked up, presence tests, order) on the raw view of any typed
store give back that store: `rawLoad (toRaw h) = h5Load h` — whatever foreign entries `ex` the
file holds besides. -/
theorem written_entries_all_read (w : W) (ex : List String) (h : H5File) : rawLoad (h.toRaw w ex) = h5Load h := by
  cases h with
  | unversioned l => rfl
  | versioned v t fld =>
    rw [rawLoad, parse_toRaw_versioned]
    by_cases ht : t ≠ "discretisedfield.Field"
    · simp only [h5Load, if_pos ht, bind_err]
    · by_cases hv : v ≠ "0.1"
      · simp only [h5Load, if_neg ht, if_pos hv, bind_err]
      · simp only [h5Load, if_neg ht, if_neg hv, bind_ok]

/-- **Round trip on the raw file, with element widths.**  For every constructor-grade field with
a value array of any element width (float16/32/64, complex64/128, int8…int64): the dataset
`array` is created with the array's width, and `from_file` returns `reread f` with width
`widen kind w` — integer and real data come back as 64-bit floats, complex data keep their width
(complex64 stays complex64). -/
theorem raw_roundtrip_widths (x : WFld) (hf : x.f.Inv) :
    (∃ fld, (rawSave x).field = some fld ∧ fld.array = some (x.w, x.f.data)) ∧
    rawLoadW (rawSave x) = .ok { f := reread x.f, w := widen x.f.data.buf.kind x.w } ∧
    (x.f.data.buf.kind = .complex → widen x.f.data.buf.kind x.w = x.w) ∧
    (x.f.data.buf.kind ≠ .complex → widen x.f.data.buf.kind x.w = .b64) := by
  refine ⟨⟨_, rfl, rfl⟩, rawLoadW_rawSave x hf, ?_, ?_⟩
  · intro h; rw [h]; rfl
  · intro h
    cases hk : x.f.data.buf.kind with
    | complex => exact absurd hk h
    | int => rfl
    | float => rfl

/-- **Narrow integers always survive** (the D33 exception cannot occur below 64 bits): integer
data of a dtype narrower than int64 whose entries lie in the dtype's range come back with every
value unchanged. -/
theorem narrow_int_values_roundtrip (x : WFld) (hf : x.f.Inv) (hw : x.w ≠ .b64) (hx : x.exactB = true) :
    ∃ g, rawLoadW (rawSave x) = .ok g ∧ g.f.data.buf.vals = x.f.data.buf.vals ∧ g.w = widen x.f.data.buf.kind x.w := by
  refine ⟨_, rawLoadW_rawSave x hf, ?_, rfl⟩
  exact DBuf.upcast_vals _ (narrow_int_safe x.w hw _ hx)

/-- second generation: the width read back is stable -/
theorem width_fixed_point (k : DK) (w : W) : widen k (widen k w) = widen k w := by
  cases k <;> rfl

/-- **Foreign entries are ignored**: the reader's result does not depend on anything it does not
look up — the writer's own two stamps (`discretisedfield.__version__`, `file-creation-time-UTC`)
included, which may be removed. -/
theorem extra_entries_ignored (r : RawFile) (ex : List String) :
    rawLoadW { r with extras := ex } = rawLoadW r ∧
    ∀ x : WFld, ∀ name ∈ writerExtras, rawLoadW ((rawSave x).del name) = rawLoadW (rawSave x) := by
  refine ⟨rfl, ?_⟩
  intro x name hn
  simp only [writerExtras, List.mem_cons, List.not_mem_nil, or_false] at hn
  rcases hn with rfl | rfl <;>
    exact rawLoadW_del_foreign _ _
      (by simp only [requiredNames, List.mem_cons, List.not_mem_nil, String.reduceEq, or_self, not_false_eq_true])
      (by simp only [ne_eq, String.reduceEq, not_false_eq_true, and_self])

/-- **Every entry the reader needs is needed**: removing any one of the 18 names of
`requiredNames` (file attributes `ubermag-hdf5-file-version`, `type`; group `field` with `nvdim`,
`vdims`, `unit`, `array`, `valid`; group `mesh` with `n`, `bc`; group `region` with `pmin`,
`pmax`, `dims`, `ndim`, `units`, `tolerance_factor`) from the file of ANY field makes `from_file`
fail. -/
theorem missing_entry_refused (x : WFld) (name : String) (h : name ∈ requiredNames) :
    ∃ e, rawLoadW ((rawSave x).del name) = .error e :=
  rawLoadW_error (RawFile.parse_del_error (rawSave x) rfl name h)

/-- **The two subregion datasets, exactly as the code treats them.**  Without the corner table
`subregions` (whether or not `subregion_names` is still there) the file is read as the same field
WITHOUT subregions (the reader only tests `"subregions" in h5_mesh`); without `subregion_names`
alone the reader fails iff the field has subregions (a field without subregions has neither
dataset). -/
theorem missing_subregion_datasets (x : WFld) (hf : x.f.Inv) :
    rawLoadW ((rawSave x).del "field/mesh/subregions") =
      .ok { f := reread { x.f with mesh := { x.f.mesh with subs := [] } }, w := widen x.f.data.buf.kind x.w } ∧
    ((∃ e, rawLoadW ((rawSave x).del "field/mesh/subregion_names") = .error e) ↔ x.f.mesh.subs ≠ []) := by
  constructor
  · -- what is left is the file of the same field without subregions
    exact (rawLoadW_congr ((del_table_eq x).trans
      (parse_rawSave { f := { x.f with mesh := { x.f.mesh with subs := [] } }, w := x.w }).symm)).trans
      (rawLoadW_rawSave _ (inv_drop_subs x.f hf))
  · by_cases hs : x.f.mesh.subs = []
    · rw [rawLoadW_congr ((del_names_eq x).trans (if_pos hs)), rawLoadW_rawSave x hf]
      exact ⟨fun ⟨_, he⟩ => (by cases he), fun h => absurd hs h⟩
    · exact ⟨fun _ => hs, fun _ => rawLoadW_error ⟨_, (del_names_eq x).trans (if_neg hs)⟩⟩

/-- **Retyped entries are refused**: in a file with a version attribute, if any entry the reader
looks up — except `ndim` — holds a value of another type class (a number for a string or a list of
strings, a string for a number or a numeric array, a float for an integer), `from_file` fails. -/
theorem retyped_entry_refused (r : RawFile) (hv : r.version ≠ .absent)
    (h : r.version = .other ∨ r.type = .other ∨ ∃ f, r.field = some f ∧
      (f.nvdim = .other ∨ f.vdims = .other ∨ f.unit = .other ∨ ∃ m, f.mesh = some m ∧
        (m.n = .other ∨ m.bc = .other ∨ ∃ g, m.region = some g ∧
          (g.pmin = .other ∨ g.pmax = .other ∨ g.dims = .other ∨ g.units = .other ∨ g.tol = .other)))) :
    ∃ e, rawLoadW r = .error e :=
  rawLoadW_error (RawFile.parse_other r hv h)

/-- … while `ndim` is only looked up: present with any content (another number, a string) the
region is built the same way; the typed reader never inspects it. -/
theorem ndim_never_inspected :
    (∀ (r : RawRegion) (a : AV Nat), a ≠ .absent →
      ({ r with ndim := a } : RawRegion).parse.bind regionLoad = ({ r with ndim := .ok 0 } : RawRegion).parse.bind regionLoad) ∧
    (∀ (v t : String) (fld : H5Field) (k : Nat),
      h5Load (.versioned v t { fld with mesh := { fld.mesh with region := { fld.mesh.region with ndim := k } } }) =
        h5Load (.versioned v t fld)) := by
  refine ⟨fun r a ha => ?_, fun _ _ _ _ => rfl⟩
  have hp : needPresent a = .ok () := by cases a <;> first | rfl | exact absurd rfl ha
  -- `regionLoad` does not look at `ndim`: pushed inside the parse, the two sides are the same term
  unfold RawRegion.parse
  rw [hp]
  simp only [bind_bind, bind_ok, regionLoad]
  rfl

/-! ## Which files of the versioned layout are accepted -/

/-- **Acceptance of a versioned file, from its content alone (iff).**  `from_file` accepts a file
with a version attribute **iff** `type` is `discretisedfield.Field`, the version is `0.1`, and the
group `field` is `Accepted`:
* the region attributes are well formed (`H5Region.okB`: `pmin`, `pmax` equally long, at least one
  axis, `pmin < pmax` in EVERY component — never re-ordered —, as many distinct `dims` and as many
  `units`);
* every row of the corner table splits into two halves of the region's dimension that differ in
  every component (`subsLoad` succeeds: `subsLoad_ok_iff`), and every region left after dict
  insertion of the names passes the setter's test `candOk` (the three tolerant tests with the
  stored region's tolerance factor);
* one positive count per axis; the boundary condition, lower-cased, is legal for the stored names;
* `nvdim ≥ 1`; `vdims` is a list the setter accepts (empty, or `nvdim` distinct names) or the
  string `"None"` (any other plain string is refused);
* `array` has a shape `_as_array` accepts (`(*n, nvdim)`, `n` when `nvdim = 1`, or broadcastable
  with last axis `nvdim`) and `valid` one the validity setter accepts (`n`, or broadcastable to
  `(*n, 1)` with last axis 1).
Everything else is refused.  (`reader_returns_inv` says what is returned when accepted.) -/
theorem versioned_accepted_iff (v t : String) (fld : H5Field) (hawf : fld.array.buf.length = natProd fld.array.shape) :
    (∃ g, h5Load (.versioned v t fld) = .ok g) ↔ (t = "discretisedfield.Field" ∧ v = "0.1" ∧ fld.Accepted) := by
  simp only [h5Load_versioned_eq_ok, exists_and_left, fieldLoad_ok_iff fld hawf]

/-- the pieces of `Accepted`, each an equivalence on its own: the region attributes, the corner
table, the validity shape, the labels -/
theorem accepted_pieces (h : H5Region) (r : TReg) (ndim : Nat) (s : H5Subs) (vl : VArr) (n : List Nat) (k : Nat)
    (vd : Option (List String)) :
    (regionLoad h = .ok r ↔ h.okB = true ∧ r = h.region) ∧
    ((∃ ss, subsLoad ndim (some s) = .ok ss) ↔ ∀ p ∈ List.zip s.names s.rows, rowOkB ndim p.2 = true) ∧
    ((∃ v', asValid (some vl) n = .ok v') ↔ validAcceptB vl.shape n = true) ∧
    ((∃ v', vdimsSet k vd = .ok v') ↔ vdimsAcceptB k vd = true) :=
  ⟨regionLoad_ok_iff h r, subsLoad_ok_iff ndim s, asValid_ok_iff vl n, vdimsSet_ok_iff k vd⟩

/-- … and of the mesh constructor: for a valid region and valid candidate regions, `Mesh(region,
n, bc, subregions)` succeeds iff there is one positive count per axis, the lower-cased boundary
condition is legal, and every candidate passes the setter's test (`setter_test_is_on_stored_copy`) -/
theorem mesh_constructor_accepts_iff (r : TReg) (hr : r.Inv) (n : List Int) (bc : String) (subs : List (String × TReg))
    (hinv : ∀ p ∈ subs, p.2.Inv) :
    (∃ m, TMesh.init r n bc subs = .ok m) ↔
      n.length = r.ndim ∧ (∀ k ∈ n, 0 < k) ∧ Mesh.bcOk r.dims bc.toLower = true ∧
      ∀ p ∈ subs, candOk r (n.map Int.toNat) p.2 = true :=
  meshInit_ok_iff r hr n bc subs hinv

/-- **Whatever `from_file` returns for ANY HDF5 file is constructor-grade** (`Inv`): either
layout, entries missing, foreign or retyped, any side-car — provided only that every dataset has
as many entries as its shape says (`RawFile.WF`, true of every HDF5 dataset).  Hence it can be
written and read again (`h5_roundtrip_reread`). -/
theorem any_file_reader_returns_inv (r : RawFile) (hwf : r.WF) (g : WFld) (h : rawLoadW r = .ok g) : g.f.Inv := by
  obtain ⟨wh, hp, h⟩ := bind_ok_iff'.mp h
  obtain ⟨g', hg', h⟩ := bind_ok_iff'.mp h
  cases h
  rcases RawFile.parse_ok hp with ⟨_, wl, hl, rfl⟩ | ⟨_, _, rf, wh', hf, hrf, rfl⟩
  · exact legacyLoad_inv _ (hwf.2 _ hl) _ hg'
  · obtain ⟨_, _, _, _, ha, hv⟩ := RawField.parse_ok hrf
    exact reader_returns_inv _ _ _ g' ((hwf.1 _ hf).1 _ ha) ((hwf.1 _ hf).2 _ hv) hg'

/-! ## Overwriting -/

/-- **`to_file` replaces the file as a whole: the last write wins.**  Start from ANY directory
(paths holding larger files with subregions, legacy files, damaged files) and perform ANY history
of `to_file` calls; then `from_file(path)` returns, for a path written at least once, `reread` of
the field written there LAST (with the width `widen` gives) — nothing of what the path held before
shows through — and for a path never written what it returned before. -/
theorem overwrite_last_wins (fs : List (String × RawFile)) (ws : List (String × WFld)) (p : String) :
    (∀ x, lastWrite ws p = some x → x.f.Inv →
      fsRead (fsRun fs ws) p = .ok { f := reread x.f, w := widen x.f.data.buf.kind x.w }) ∧
    (lastWrite ws p = none → fsRead (fsRun fs ws) p = fsRead fs p) := by
  constructor
  · intro x hx hf
    unfold fsRead
    rw [fsGet_fsRun, hx]
    exact rawLoadW_rawSave x hf
  · intro hn
    unfold fsRead
    rw [fsGet_fsRun, hn]

/-- what `lastWrite` is: a later write to the same path replaces an earlier one, writes to other
paths do not matter -/
theorem lastWrite_append (ws : List (String × WFld)) (w : String × WFld) (p : String) :
    lastWrite (ws ++ [w]) p = if w.1 = p then some w.2 else lastWrite ws p := by
  induction ws with
  | nil => simp [lastWrite]
  | cons a t ih =>
    simp only [List.cons_append, lastWrite, ih]
    by_cases h : w.1 = p
    · simp [h]
    · simp [h]

/-! ## Non-vacuity: concrete instances of the hypotheses, and what the casts do -/

example : exField.Inv := exField_inv
example : exField.unit ≠ some "None" := by decide
example : exField.vdims = none → exField.nvdim = 1 := by decide
example : exField.data.buf.IntSafe := by unfold DBuf.IntSafe; decide
/-- the table is float (mixed corners) … -/
example : tableKind exField.mesh = .float := by decide
/-- … so the integer subregion comes back float-typed with the same numbers, and the exact
theorem's hypothesis fails while the item-wise one applies -/
example : loaded exField ≠ exField := by decide +kernel
example : h5Load (h5Save exField) = .ok (loaded exField) := h5_roundtrip_loaded exField exField_inv (by decide) (by decide)
example : toHdf5 exField = .ok (h5Save exField) := toHdf5_eq_h5Save exField exField_inv
/-- the NaN / inf / −0 patterns under the invalid cells come back -/
example : (loaded exField).data = exField.data ∧ exField.valid.buf.getD 1 true = false ∧
    exField.data.buf.vals.getD 2 default = (FV.nan true 7, FV.inf false) := by decide +kernel

/-- the D13 mechanism: a table typed after an integer region truncates fractional corners
(½,0,3/2,1) to (0,0,1,1); the table's own dtype keeps them -/
example : (subRow .int { pmin := .floats [1/2, 0], pmax := .floats [3/2, 1], dims := [], units := [], tol := .int 0 }).vals
    = [0, 0, 1, 1] := by decide +kernel
example : truncR (-3/2) = -1 ∧ truncR (3/2) = 1 := by decide +kernel

example : exFloat.Inv := exFloat_inv
example : (∀ p ∈ exFloat.mesh.subs, p.2.pmin.kind = tableKind exFloat.mesh ∧ p.2.pmax.kind = tableKind exFloat.mesh) := by
  decide
example : exFloat.data.buf.kind ≠ .int ∧ exFloat.vmap = defaultVmap exFloat.nvdim exFloat.mesh.region.dims exFloat.vdims := by
  decide
example : h5Load (h5Save exFloat) = .ok exFloat :=
  h5_roundtrip exFloat exFloat_inv (by decide) (by decide) (by decide) (by decide) (by decide)

/-- D34: three components, no labels — written and read: labelled x, y, z -/
example : exNoLabels.Inv ∧ exNoLabels.vdims = none ∧ exNoLabels.nvdim ≠ 1 := by
  refine ⟨exNoLabels_inv, rfl, by decide⟩
example : (h5Load (h5Save exNoLabels)).toOption.map (·.vdims) = some (some ["x", "y", "z"]) := by
  rw [h5_roundtrip_reread exNoLabels exNoLabels_inv]
  decide +kernel

/-- D33: the entry 2^53 + 1 comes back as 2^53 -/
example : exBigInt.Inv ∧ ¬ exBigInt.data.buf.IntSafe := by
  refine ⟨exBigInt_inv, by unfold DBuf.IntSafe; decide +kernel⟩
example : (h5Load (h5Save exBigInt)).toOption.map (·.data.buf) = some (.floats [.fin 5, .fin (2 ^ 53), .fin (-7)]) := by
  rw [h5_roundtrip_reread exBigInt exBigInt_inv]
  decide +kernel
example : rne53 (2 ^ 60) = 2 ^ 60 ∧ rne53 (-(2 ^ 53 + 3)) = -(2 ^ 53 + 4) ∧ rne53 (2 ^ 62 + 2 ^ 8) = 2 ^ 62 := by decide +kernel

example : h5Load (.unversioned exLegacy) = .ok (legacyField exLegacy) := by decide +kernel
example : (legacyField exLegacy).mesh.region.pmin = .floats [0, 0] ∧
    (legacyField exLegacy).data.buf = .floats [.fin 1, .fin 2, .fin 3, .fin 4, .fin 5, .fin 6] := by
  decide +kernel
/-- corner order: first axis exchanged, other dtype — same field -/
example : h5Load (.unversioned exLegacySwapped) = h5Load (.unversioned exLegacy) := by decide +kernel
/-- a side-car that fits: the hypotheses of `legacy_read_sidecar_fits` (one cell of the 2×1 mesh) … -/
example : C14.FitsE (legacyField exLegacySide).mesh.toMesh
    (H5Region.toRegion { pmin := .ints [0, 0], pmax := .floats [1, 1], dims := ["u", "v"], units := ["nm", "nm"], ndim := 2,
                         tol := .float (1/1000) }) := by
  refine ⟨rfl, rfl, ?_⟩
  intro a ha
  have : a = 0 ∨ a = 1 := by
    have : a < 2 := ha
    omega
  rcases this with rfl | rfl
  · exact ⟨0, 1, by decide, by decide, by decide, by decide +kernel, by decide +kernel⟩
  · exact ⟨0, 1, by decide, by decide, by decide, by decide +kernel, by decide +kernel⟩
/-- … and what the reader makes of it -/
example : (h5Load (.unversioned exLegacySide)).toOption.map (·.mesh.subs) =
    some [("left", { pmin := .floats [0, 0], pmax := .floats [1, 1], dims := ["x", "y"], units := ["m", "m"],
                     tol := TReg.defaultTol })] := by decide +kernel

/-- a series: three slots for `exFloat`, writes to slot 1, slot −1, slot 1 again (integers into
the float dataset); slot 0 reads zeros, slot 1 the last write, slot 2 the −0 / −inf patterns -/
example : ∃ h, saveAll (saveStructure exFloat [3, 3, 1]) exWrites = .ok h ∧
    (fieldLoadAt h (.idx 0)).toOption.map (·.data.buf) = some (.floats [.fin 0, .fin 0, .fin 0]) ∧
    (fieldLoadAt h (.idx 1)).toOption.map (·.data.buf) = some (.floats [.fin 4, .fin 5, .fin 6]) ∧
    (fieldLoadAt h (.idx 2)).toOption.map (·.data.buf) = some (.floats [.negZero, .inf true, .fin 9]) ∧
    (fieldLoadAt h (.idx (-3))).toOption.map (·.data.buf) = some (.floats [.fin 0, .fin 0, .fin 0]) ∧
    (fieldLoadAt h (.idx 3)).toOption = none := by
  refine ⟨_, rfl, ?_⟩
  decide +kernel
example : ∀ w ∈ exWrites, w.2.Inv := by unfold TFld.Inv; decide +kernel

/-- unordered stored corners -/
example : regionLoad { pmin := .floats [0, 1], pmax := .floats [1, 1], dims := ["x", "y"], units := ["m", "m"], ndim := 2,
                       tol := TReg.defaultTol } = .error .value := by decide +kernel

/-- a tampered file the reader accepts (subregion names with a duplicate: the dict keeps the last
row under the first name) — `reader_returns_inv` applies to its result -/
example : (h5Load (.versioned "0.1" "discretisedfield.Field"
    { fieldSave exFloat with mesh := { (fieldSave exFloat).mesh with
        subs := some { names := ["a", "a"], kind := .float, rows := [.floats [1/4, 3/4], .floats [-1/4, 1/4]] } } })).toOption.map
      (fun g => (g.mesh.subs.map (·.1), g.invB)) = some (["a"], true) := by decide +kernel


/-! ### the equivalences, the weak invariant, legacy files, the raw file -/

/-- the hypotheses of `h5_roundtrip_items_iff` / `h5_roundtrip_exact_iff` on a field with two
overlapping subregions (mixed int/float corners), a hole in the mask and NaN/inf data: the item
list holds, the exact round trip does not (the integer subregion comes back float-typed) -/
example : exField.Inv ∧ (exField.unit ≠ some "None" ∧ (exField.vdims = none → exField.nvdim = 1) ∧ exField.data.buf.IntSafe) ∧
    ¬ (∀ p ∈ exField.mesh.subs, p.2.pmin.kind = tableKind exField.mesh ∧ p.2.pmax.kind = tableKind exField.mesh) := by
  refine ⟨exField_inv, ⟨by decide, by decide, by unfold DBuf.IntSafe; decide⟩, by decide⟩

/-- `InvW` without `Inv`: the state a setter testing the candidate as given builds (hypothesis `hf` of
`h5_reread_accepts_iff` with the right-hand side false) -/
example : exTolField.InvW ∧ exTolField.mesh.rereadableB = false ∧ ¬ exTolField.Inv := by
  have hr := exTolField_unreadable
  exact ⟨exTolField_invW, hr, fun h => by rw [((inv_iff_invW_rereadable _).mp h).2] at hr; cases hr⟩
/-- … and `Inv` on a mesh with two overlapping subregions, and on the mesh with a loose REGION tolerance -/
example : exField.InvW ∧ exField.mesh.rereadableB = true ∧ exTolFieldLoose.Inv :=
  ⟨((inv_iff_invW_rereadable _).mp exField_inv).1, ((inv_iff_invW_rereadable _).mp exField_inv).2, exTolFieldLoose_inv⟩
/-- the hypotheses of `mesh_constructor_inv` / `setter_test_is_on_stored_copy` on the tolerant candidate -/
example : exTolRegion.Inv ∧ exTolRegionLoose.Inv ∧ (∀ p ∈ [("a", exTolCand)], p.2.Inv) := by
  refine ⟨by unfold TReg.Inv; decide +kernel, by unfold TReg.Inv; decide +kernel, ?_⟩
  intro p hp
  simp only [List.mem_cons, List.not_mem_nil, or_false] at hp
  subst hp
  unfold TReg.Inv; decide +kernel
/-- the candidate's own tolerance has no say: refused on the default-tolerance mesh whatever it
carries (1e-2, 5, 1e-12), accepted on the loose mesh whatever it carries; a candidate exactly one
cell long is accepted on both -/
example : candOk exTolRegion [10] exTolCand = false ∧ candOk exTolRegion [10] { exTolCand with tol := .float 5 } = false ∧
    candOk exTolRegion [10] { exTolCand with tol := TReg.defaultTol } = false ∧
    candOk exTolRegionLoose [10] { exTolCand with tol := TReg.defaultTol } = true ∧
    candOk exTolRegion [10] { exTolCand with pmax := .floats [1/1000000000] } = true := by decide +kernel

/-- legacy files: a mesh-shaped scalar array, an array broadcast along the first axis (with −0 and
a NaN payload), unordered corners — all `WellFormed`, and what the reader returns -/
example : exLegacyScalar.WellFormed ∧ exLegacyBcast.WellFormed ∧ exLegacy.WellFormed := by
  refine ⟨⟨by decide, rfl, ?_, rfl, by decide, by decide, by decide +kernel⟩,
    ⟨by decide, rfl, ?_, rfl, by decide, by decide, by decide +kernel⟩,
    ⟨by decide, rfl, ?_, rfl, by decide, by decide, by decide +kernel⟩⟩ <;>
  · intro a ha
    have : a = 0 ∨ a = 1 := by
      have : a < 2 := ha
      omega
    rcases this with rfl | rfl <;> decide +kernel
example : (h5Load (.unversioned exLegacyScalar)).toOption.map (·.data) =
    some { shape := [2, 1, 1], buf := .floats [.fin 7, .fin (-3)] } := by decide +kernel
example : (h5Load (.unversioned exLegacyBcast)).toOption.map (·.data.buf) =
    some (.floats [.fin 1, .negZero, .nan true 5, .fin 1, .negZero, .nan true 5]) := by decide +kernel
/-- refusal: equal corner components, a zero count, an array that does not broadcast -/
example : (h5Load (.unversioned { exLegacy with p2 := .floats [2, 1] })).toOption = none ∧
    (h5Load (.unversioned { exLegacy with n := [2, 0] })).toOption = none ∧
    (h5Load (.unversioned { exLegacy with array := { shape := [3, 1, 3], buf := .ints (List.replicate 9 0) } })).toOption = none := by
  decide +kernel
/-- a side-car box that fits only within a loose tolerance (nm regime): the `tolerance_factor` the
side-car entry carries has no say, the legacy mesh has the default tolerance — refused -/
example : (h5Load (.unversioned exLegacyTolSide)).toOption = none := by decide +kernel
/-- … while the exactly fitting side-car of `exLegacySide` is re-readable -/
example : (h5Load (.unversioned exLegacySide)).toOption.map (fun g => (g.invB, g.mesh.rereadableB)) = some (true, true) := by
  decide +kernel

/-- the raw file of `exField` (two subregions, mask with a hole): its 22 entries; without `unit`
it is refused; without the corner table it is read without subregions; with foreign entries and
without the writer's stamps it is read as before; with `nvdim` a float it is refused; with `ndim`
a string it is read as before -/
example : (rawSave { f := exField, w := .b64 }).entryNames.length = 22 := by decide +kernel
example : "field@unit" ∈ requiredNames ∧ "field/mesh/region@ndim" ∈ requiredNames := by
  simp only [requiredNames, List.mem_cons, true_or, or_true, and_self]
example : (rawLoadW ((rawSave { f := exField, w := .b64 }).del "field@unit")).toOption = none := by
  obtain ⟨e, he⟩ := missing_entry_refused { f := exField, w := .b64 } "field@unit"
    (by simp only [requiredNames, List.mem_cons, true_or, or_true])
  rw [he]
  rfl
example : (rawLoadW ((rawSave { f := exField, w := .b64 }).del "field/mesh/subregions")).toOption.map (fun g => g.f.mesh.subs.length) = some 0 ∧
    (rawLoadW (rawSave { f := exField, w := .b64 })).toOption.map (fun g => g.f.mesh.subs.length) = some 2 ∧
    (rawLoadW ((rawSave { f := exField, w := .b64 }).del "field/mesh/subregion_names")).toOption = none := by
  obtain ⟨h1, h2⟩ := missing_subregion_datasets { f := exField, w := .b64 } exField_inv
  obtain ⟨e, he⟩ := h2.mpr (by decide)
  rw [h1, rawLoadW_rawSave { f := exField, w := .b64 } exField_inv, he]
  exact ⟨rfl, rfl, rfl⟩
example : rawLoadW { (rawSave { f := exField, w := .b64 }) with extras := ["@foo", "other", "field/mesh/grp"] } =
    rawLoadW (rawSave { f := exField, w := .b64 }) := rfl
example : (rawLoadW ({ (rawSave { f := exField, w := .b64 }) with
    field := (rawSave { f := exField, w := .b64 }).field.map fun fl => { fl with nvdim := .other } })).toOption = none := by decide +kernel


/-- `versioned_accepted_iff` on the file of `exField` (accepted) and on tampered ones: a region
with an unordered component, a label list of the wrong length, an array with one component more,
a validity mask that does not broadcast, an upper-case boundary condition (accepted: lower-cased) -/
example : (fieldSave exField).Accepted := by
  have : ∃ g, h5Load (h5Save exField) = .ok g := ⟨loaded exField, h5_roundtrip_loaded exField exField_inv (by decide) (by decide)⟩
  exact ((versioned_accepted_iff _ _ _ (by decide +kernel)).mp this).2.2
example : ({ (fieldSave exField).mesh.region with pmax := .ints [2, 0] } : H5Region).okB = false ∧
    vdimsAttrAcceptB 2 (.list ["a"]) = false ∧ vdimsAttrAcceptB 2 (.str "none") = false ∧ vdimsAttrAcceptB 2 (.str "None") = true ∧
    vdimsAttrAcceptB 2 (.list []) = true ∧ arrAcceptB [4, 2, 3] [4, 2] 2 = false ∧ arrAcceptB [1, 1, 2] [4, 2] 2 = true ∧
    arrAcceptB [4, 2] [4, 2] 1 = true ∧ validAcceptB [4, 1] [4, 2] = false ∧ validAcceptB [4, 1, 1] [4, 2] = true := by
  decide +kernel

/-- widths: a complex64 field comes back complex64, a float32 / int16 field as float64; what the
exactness predicate says (2^24 + 1 is not a float32, 1/3 no binary number, the float32 nearest to
0.1 is; 65504 is the largest float16) -/
example : widen .complex .b32 = .b32 ∧ widen .float .b32 = .b64 ∧ widen .int .b16 = .b64 := by decide
example : (FFmt.ofW .b32).repQ 16777217 = false ∧ (FFmt.ofW .b32).repQ 16777216 = true ∧ (FFmt.ofW .b32).repQ (1/3) = false ∧
    (FFmt.ofW .b32).repQ (13421773/134217728) = true ∧ (FFmt.ofW .b16).repQ 65504 = true ∧ (FFmt.ofW .b16).repQ 65520 = false ∧
    (FFmt.ofW .b32).repQ (1 / 2 ^ 149) = true ∧ (FFmt.ofW .b32).repQ (1 / 2 ^ 150) = false := by decide +kernel
/-- the hypotheses of `narrow_int_values_roundtrip`: int16 data with the extremes of the type -/
example : ({ f := { exFloat with data := { shape := [3, 1], buf := .ints [-32768, 32767, 5] } }, w := .b16 } : WFld).exactB = true ∧
    ({ f := { exFloat with data := { shape := [3, 1], buf := .ints [-32769, 0, 5] } }, w := .b16 } : WFld).exactB = false := by
  decide +kernel

/-- `RawFile.WF` for the file of `exField`, and for that file with the corner table removed -/
example : (rawSave { f := exField, w := .b64 }).WF := by
  refine ⟨?_, fun wl h => by cases h⟩
  intro f hf
  cases hf
  exact ⟨fun wa h => by cases h; unfold DArr.wf; decide +kernel, fun v h => by cases h; decide +kernel⟩

/-- overwriting: `b` written once, `a` three times (first a field with two subregions, last one
without); the directory held a damaged file under `a` and a foreign one under `c` -/
example : lastWrite [("a", { f := exField, w := .b64 }), ("b", { f := exFloat, w := .b32 }), ("a", { f := exNoLabels, w := .b64 }),
      ("a", { f := exFloat, w := .b64 })] "a" = some { f := exFloat, w := .b64 } := by decide +kernel
example : (fsRead (fsRun [("a", default), ("c", default)]
      [("a", { f := exField, w := .b64 }), ("b", { f := exFloat, w := .b32 }), ("a", { f := exFloat, w := .b64 })]) "a").toOption.map
        (fun g => (g.f.mesh.subs.length, g.w)) = some (exFloat.mesh.subs.length, .b64) ∧
    (fsRead (fsRun [("a", default), ("c", default)] [("a", { f := exField, w := .b64 })]) "c").toOption = none := by decide +kernel

end DFV.C10
