import DFV.Lemmas.C19Tcd
import DFV.Lemmas.C19Mesh
import DFV.Lemmas.C19Demag
import DFV.Lemmas.C19Conv
import DFV.Lemmas.C19Real
import DFV.Lemmas.C19Examples
import DFV.Lemmas.C19Quarter
import DFV.Lemmas.C19Fourier
import DFV.Lemmas.C19Bps
import DFV.Lemmas.C19Angle
import DFV.Lemmas.C19Cuboid
import DFV.Lemmas.C19ConvThm
import DFV.Lemmas.C19IntegReal
import DFV.Lemmas.C19Rotate90
import DFV.Lemmas.C19Parity
import DFV.Lemmas.C19Aff
import DFV.Props.C07
/-!
# C19 — topological and demagnetisation tools obey their physical invariances

Property theorems about the model of `discretisedfield/tools/tools.py` (`DFV/Model/C19.lean`).
Meshes, cell sizes, cell counts, validity masks, vectors, rotation matrices, scale factors and
leaf functions (`sq` = square root, `Om` = Berg–Lüscher angle, `acos`, `asinh/atan/sqrt` of the
Newell functions) are universally quantified; what a theorem needs of a leaf function is an
explicit hypothesis, instantiated for the real functions in `Lemmas/C19Real.lean`.

Level "proof, partial": of the hedgehog count the counting half is proved (a unit step of the rounded flux is counted as
exactly one Bloch point, `single_step_is_one_bloch_point`; arithmetic of the counts: `count_bps_arithmetic`), that a
discretised hedgehog's flux is such a step is left to the correspondence oracle; Berg–Lüscher integrality
is proved for closed sheets of exact unit vectors with the real solid-angle formula (`bl_charge_half_integer`: `2Q ∈ ℤ`,
`bl_charge_integer`: `Q ∈ ℤ` on smooth sheets; the exact hypothesis on an abstract leaf: `bl_charge_coboundary`).
Proved in addition to the invariances: the quarter turn of the sample (`charge_quarter_turn`, tied to C12's
`Field.rotate90` model by `charge_rotate90` and, for periodic meshes, `charge_rotate90_periodic`), the trace in Fourier
space through C11's transform model (`demag_trace_fourier`), the convolution theorem and the code-shaped `demag_field`
(`convolution_theorem`, `demag_field_fft_is_convolution`), the reversal law and the mesh / length invariances of
`count_bps`, the sum rule through `demag_field` and the Newell tensor (`demag_field_cuboid_sum`, `demag_field_cube_third`;
real leaves: `cuboid_sum_rule_real`, `cube_third_rule_real`), the parities of the tensor (`demag_tensor_parity`),
acceptance of every tool as an equivalence (`tcd_ok_iff`, …), the densities of plane selections of 3-d fields
(`tcd_plane_selection`), the emergent field under rescaling (`emergent_scaling`), and the lattice density with the real
solid-angle formula (`bl_real_invariances`).
-/
namespace DFV.C19
open DFV

/-! ## Vector algebra under rotations -/

/-- `Qa · Qb = a · b` for every orthogonal `Q` (`QᵀQ = 1`). -/
theorem dot_rot (q : M3) (h : q.IsOrth) (a b : V3) : V3.dot (q.mulVec a) (q.mulVec b) = V3.dot a b :=
  dot_mulVec q h a b

/-- `Qa × Qb = Q(a × b)` for every proper rotation. -/
theorem cross_rot (q : M3) (h : q.IsRot) (a b : V3) :
    V3.cross (q.mulVec a) (q.mulVec b) = q.mulVec (V3.cross a b) :=
  congrArg V3.of18 (((M3.isRot_iff q).mp h).cross_apply a.to18 b.to18)

/-- the triple product of three transformed vectors is `det Q` times the original one -/
theorem triple_det (q : M3) (a b c : V3) :
    V3.triple (q.mulVec a) (q.mulVec b) (q.mulVec c) = q.det * V3.triple a b c :=
  triple_mulVec q a b c

/-- The triple product is unchanged by a proper rotation (`det Q = 1` in `triple_det`). -/
theorem triple_rot (q : M3) (h : q.IsRot) (a b c : V3) :
    V3.triple (q.mulVec a) (q.mulVec b) (q.mulVec c) = V3.triple a b c := by
  rw [triple_mulVec, h.2]; ring

/-- The triple product changes sign when all three vectors are reversed, while dot products do not. -/
theorem triple_reversal (a b c : V3) :
    V3.triple a.neg b.neg c.neg = -V3.triple a b c ∧ V3.dot a.neg b.neg = V3.dot a b := by
  simp only [V3.triple, V3.dot, V3.cross, V3.neg]
  constructor <;> ring

/-- a proper rotation with rational entries that is not a permutation matrix -/
example : M3.IsRot ⟨2/3, -1/3, 2/3, 2/3, 2/3, -1/3, -1/3, 2/3, 2/3⟩ := by
  unfold M3.IsRot M3.IsOrth M3.det; norm_num
/-- the quarter turn about `z` used by the `QTurn` example -/
example : M3.IsRot ⟨0, -1, 0, 1, 0, 0, 0, 0, 1⟩ := by
  unfold M3.IsRot M3.IsOrth M3.det; norm_num

/-! ## Orientation field -/

/-- The orientation field of the rotated field is the rotated orientation field. -/
theorem orientation_rot (sq : Rat → Rat) (q : M3) (h : q.IsOrth) (f : Fld) :
    orientation sq (rotF q f) = rotF q (orientation sq f) :=
  orientation_rotF sq q h f

/-- Rescaling every vector by its own factor `s i ≠ 0` leaves the orientation field unchanged,
for a square root that is positively homogeneous on the squared norms that occur
(`√(s²x) = s√x`, true of the real square root for `s > 0`) and as long as no vector crosses
the zero-norm threshold `1e-8` of `Field.orientation`. -/
theorem orientation_scale (sq : Rat → Rat) (s : List Nat → Rat) (f : Fld)
    (hs : ∀ i, s i ≠ 0)
    (hsq : ∀ i, sq (s i * s i * (cellV f i).normSq) = s i * sq (cellV f i).normSq)
    (hz : ∀ i, isZeroNorm (s i * sq (cellV f i).normSq) = isZeroNorm (sq (cellV f i).normSq)) :
    orientation sq (scaleF s f) = orientation sq f :=
  orientation_scaleF sq s f (orient_smul_cells sq s f hs hsq hz)

/-- Every cell of the orientation field whose vector is not negligibly short holds a unit vector. -/
theorem orientation_unit (sq : Rat → Rat) (f : Fld) (i : List Nat)
    (hsq : sq (cellV f i).normSq * sq (cellV f i).normSq = (cellV f i).normSq)
    (hz : isZeroNorm (sq (cellV f i).normSq) = false) :
    (cellV (orientation sq f) i).normSq = 1 := by
  rw [cellV_orientation]; exact orient_unit sq _ hsq hz

example : sqEx (2 * 2 * (V3.mk 3 4 0).normSq) = 2 * sqEx (V3.mk 3 4 0).normSq ∧
    isZeroNorm (2 * sqEx (V3.mk 3 4 0).normSq) = isZeroNorm (sqEx (V3.mk 3 4 0).normSq) ∧
    sqEx (V3.mk 3 4 0).normSq * sqEx (V3.mk 3 4 0).normSq = (V3.mk 3 4 0).normSq ∧
    orient sqEx (V3.mk 3 4 0) = ⟨3/5, 4/5, 0⟩ := by
  simp only [V3.normSq, V3.dot, sqEx, isZeroNorm, absR, orient, V3.sdiv, V3.zero]
  norm_num

/-- the hypotheses of `orientation_scale` / `tcd_scale_invariant` on a concrete field (`(3,4,0)` everywhere, factor 2) -/
example : (∀ i, (fun _ : List Nat => (2 : Rat)) i ≠ 0) ∧
    (∀ i, sqEx (2 * 2 * (cellV fEx i).normSq) = 2 * sqEx (cellV fEx i).normSq) ∧
    (∀ i, isZeroNorm (2 * sqEx (cellV fEx i).normSq) = isZeroNorm (sqEx (cellV fEx i).normSq)) := by
  refine ⟨fun _ => by norm_num, fun i => ?_, fun i => ?_⟩ <;>
  · simp only [cellV, fEx, NDA.const, V3.ofList, V3.normSq, V3.dot, sqEx, isZeroNorm, absR]
    norm_num

/-! ## Topological charge density — both methods -/

/-- Both methods are unchanged by a global proper rotation of all vectors: same result
(mesh, validity, every value) or the same refusal. -/
theorem tcd_rot_invariant (sq : Rat → Rat) (pi : Rat) (Om : Tri → Rat) (q : M3) (hq : q.IsRot) (f : Fld)
    (m : Method) : tcd sq pi Om (rotF q f) m = tcd sq pi Om f m :=
  tcd_congr sq pi Om m rfl rfl rfl rfl (tcdVal_rotF sq pi Om q hq f m)

/-- Both methods change sign when all vectors are reversed (same mesh, same validity).  For
the lattice method this needs the leaf to be odd in the triple product,
`Ω(d₁₂,d₂₃,d₃₁,−t) = −Ω(d₁₂,d₂₃,d₃₁,t)` for `t ≠ 0` — true of `2·Im log((1+Σd + i t)/ρ)/(4π)`
(`Lemmas/C19Real.omegaR_flip`). -/
theorem tcd_reversal (sq : Rat → Rat) (pi : Rat) (Om : Tri → Rat)
    (hOm : ∀ tr, tr.t ≠ 0 → Om (flipT tr) = -Om tr) (f q : Fld) (m : Method)
    (h : tcd sq pi Om f m = .ok q) :
    ∃ q', tcd sq pi Om (negF f) m = .ok q' ∧ q'.mesh = q.mesh ∧ q'.valid = q.valid ∧
      q'.data.shape = q.data.shape ∧ ∀ i, (q'.data.get i).getD 0 0 = -(q.data.get i).getD 0 0 := by
  obtain ⟨h3, h2, hm, rfl⟩ := tcd_ok sq pi Om f q m h
  exact ⟨_, tcd_succeeds sq pi Om (negF f) m h3 h2 hm, Eq.refl f.mesh, Eq.refl f.valid, Eq.refl f.data.shape,
    fun i => tcdVal_negF sq pi Om hOm f m i⟩

/-- the oddness hypothesis is satisfiable (and true of the real formula, `bl_angle_real`) -/
example : ∀ tr : Tri, tr.t ≠ 0 → (fun t : Tri => t.t * (1 + t.d12)) (flipT tr) = -(fun t : Tri => t.t * (1 + t.d12)) tr := by
  intro tr _; simp [flipT]

/-- Both methods vanish identically on a uniform field — for every validity mask, every
cell size, periodic or open directions. -/
theorem tcd_uniform_zero (sq : Rat → Rat) (pi : Rat) (Om : Tri → Rat) (f q : Fld) (v : V3) (hu : uniformF f v)
    (m : Method) (h : tcd sq pi Om f m = .ok q) : ∀ i, q.data.get i = [0] := by
  obtain ⟨_, _, _, rfl⟩ := tcd_ok sq pi Om f q m h
  intro i
  show [tcdVal sq pi Om f m i] = [0]
  rw [tcdVal_uniform sq pi Om f v hu]

/-- a uniform field -/
example : uniformF fEx ⟨3, 4, 0⟩ := by intro i; simp [fEx, NDA.const, V3.ofList]

/-- Both methods are unchanged by rescaling the vector lengths, cell by cell (hypotheses as in
`orientation_scale`). -/
theorem tcd_scale_invariant (sq : Rat → Rat) (pi : Rat) (Om : Tri → Rat) (s : List Nat → Rat) (f : Fld)
    (hs : ∀ i, s i ≠ 0)
    (hsq : ∀ i, sq (s i * s i * (cellV f i).normSq) = s i * sq (cellV f i).normSq)
    (hz : ∀ i, isZeroNorm (s i * sq (cellV f i).normSq) = isZeroNorm (sq (cellV f i).normSq))
    (m : Method) (h3 : f.nvdim = 3) (h2 : f.mesh.ndim = 2) (hm : m ≠ .other) :
    tcd sq pi Om (scaleF s f) m = tcd sq pi Om f m :=
  tcd_congr sq pi Om m rfl rfl rfl rfl
    (tcdVal_scaleF sq pi Om s f (orient_smul_cells sq s f hs hsq hz) m)

/-- Scaling the mesh by `lam` and translating it by `t` divides both densities by `lam²`
(`lam = 1`: a translation changes nothing). -/
theorem tcd_mesh_scaling (sq : Rat → Rat) (pi : Rat) (Om : Tri → Rat) (lam : Rat) (t : List Rat) (f q : Fld)
    (m : Method) (h : tcd sq pi Om f m = .ok q) :
    ∃ q', tcd sq pi Om (affF lam t f) m = .ok q' ∧ q'.valid = q.valid ∧ q'.data.shape = q.data.shape ∧
      q'.mesh = affMesh lam t q.mesh ∧
      ∀ i, (q'.data.get i).getD 0 0 = (q.data.get i).getD 0 0 / (lam * lam) := by
  obtain ⟨h3, h2, hm, rfl⟩ := tcd_ok sq pi Om f q m h
  exact ⟨_, tcd_succeeds sq pi Om (affF lam t f) m h3 ((affMesh_ndim lam t f.mesh).trans h2) hm, Eq.refl f.valid,
    Eq.refl f.data.shape, Eq.refl (affMesh lam t f.mesh), fun i => tcdVal_affF sq pi Om lam t f h2 m i⟩

/-! ## Topological charge -/

/-- The charge (absolute or not, either method) is unchanged by a global proper rotation. -/
theorem charge_rot_invariant (sq : Rat → Rat) (pi : Rat) (Om : Tri → Rat) (q : M3) (hq : q.IsRot) (f : Fld)
    (m : Method) (a : Bool) : charge sq pi Om (rotF q f) m a = charge sq pi Om f m a := by
  rw [charge_closed, charge_closed, tcd_rot_invariant sq pi Om q hq f m]

/-- Reversing all vectors negates the charge and keeps the absolute charge. -/
theorem charge_reversal (sq : Rat → Rat) (pi : Rat) (Om : Tri → Rat)
    (hOm : ∀ tr, tr.t ≠ 0 → Om (flipT tr) = -Om tr) (f : Fld) (m : Method) (c ca : Rat)
    (h : charge sq pi Om f m false = .ok c) (ha : charge sq pi Om f m true = .ok ca) :
    charge sq pi Om (negF f) m false = .ok (-c) ∧ charge sq pi Om (negF f) m true = .ok ca := by
  obtain ⟨q, hq, rfl⟩ := charge_ok_inv sq pi Om f m false c h
  obtain ⟨q2, hq2, rfl⟩ := charge_ok_inv sq pi Om f m true ca ha
  rw [hq] at hq2
  injection hq2 with hq2
  subst hq2
  obtain ⟨q', hq', hm, _, hs, hv⟩ := tcd_reversal sq pi Om hOm f q m hq
  obtain ⟨e1, e2⟩ := integrateAll_neg q q' hs hv hm
  rw [charge_of_tcd sq pi Om (negF f) q' m false hq', charge_of_tcd sq pi Om (negF f) q' m true hq', e1, e2]
  exact ⟨rfl, rfl⟩

/-- A uniform field has zero charge and zero absolute charge. -/
theorem charge_uniform_zero (sq : Rat → Rat) (pi : Rat) (Om : Tri → Rat) (f : Fld) (v : V3) (hu : uniformF f v)
    (m : Method) (a : Bool) (c : Rat) (h : charge sq pi Om f m a = .ok c) : c = 0 := by
  obtain ⟨q, hq, rfl⟩ := charge_ok_inv sq pi Om f m a c h
  apply integrateAll_zero
  intro i
  rw [tcd_uniform_zero sq pi Om f q v hu m hq i]
  rfl

/-- The charge is unchanged by translating the mesh and by scaling it with any `lam ≠ 0`:
the density scales by `1/lam²`, the cell area by `lam²`. -/
theorem charge_mesh_invariant (sq : Rat → Rat) (pi : Rat) (Om : Tri → Rat) (lam : Rat) (hl : lam ≠ 0)
    (t : List Rat) (f : Fld) (m : Method) (a : Bool) :
    charge sq pi Om (affF lam t f) m a = charge sq pi Om f m a := by
  have hd : (affF lam t f).mesh.ndim = f.mesh.ndim := affMesh_ndim lam t f.mesh
  by_cases hc : TcdAcc f m
  · have hq := tcd_succeeds sq pi Om f m hc.1 hc.2.1 hc.2.2
    obtain ⟨q', hq', _, hs, hm, hv⟩ := tcd_mesh_scaling sq pi Om lam t f _ m hq
    rw [charge_of_tcd sq pi Om f _ m a hq, charge_of_tcd sq pi Om _ q' m a hq']
    congr 1
    exact integrateAll_aff a _ q' lam hl hs hv (by rw [hm]; exact affMesh_ratProd lam t f.mesh hc.2.1)
  · rw [charge_err sq pi Om f m a hc, charge_err sq pi Om (affF lam t f) m a (by unfold TcdAcc; rw [hd]; exact hc)]

/-- The charge is unchanged by rescaling the vector lengths. -/
theorem charge_scale_invariant (sq : Rat → Rat) (pi : Rat) (Om : Tri → Rat) (s : List Nat → Rat) (f : Fld)
    (hs : ∀ i, s i ≠ 0)
    (hsq : ∀ i, sq (s i * s i * (cellV f i).normSq) = s i * sq (cellV f i).normSq)
    (hz : ∀ i, isZeroNorm (s i * sq (cellV f i).normSq) = isZeroNorm (sq (cellV f i).normSq))
    (m : Method) (a : Bool) (h3 : f.nvdim = 3) (h2 : f.mesh.ndim = 2) (hm : m ≠ .other) :
    charge sq pi Om (scaleF s f) m a = charge sq pi Om f m a := by
  rw [charge_closed, charge_closed, tcd_scale_invariant sq pi Om s f hs hsq hz m h3 h2 hm]

/-! ## Emergent magnetic field -/

/-- `F_kl = m·(∂_k m × ∂_l m)` is unchanged by a global proper rotation of the vectors. -/
theorem emergent_rot_invariant (q : M3) (hq : q.IsRot) (f : Fld) (h3 : f.nvdim = 3) (hd : f.mesh.ndim = 3) :
    emergent (rotF q f) = emergent f := by
  rw [emergent_eq f h3 hd, emergent_eq (rotF q f) h3 hd,
    emFld_congr (f := f) (g := rotF q f) rfl rfl rfl fun k l i => emSpec_rotF q hq f k l i]

/-- It changes sign under reversal (it is cubic in the field) and vanishes for uniform fields. -/
theorem emergent_reversal_uniform (f : Fld) (k l : Nat) (i : List Nat) :
    emSpec (negF f) k l i = -emSpec f k l i ∧ (∀ v, uniformF f v → emSpec f k l i = 0) :=
  ⟨emSpec_negF f k l i, fun v hu => emSpec_uniform f v hu k l i⟩

/-! ## Neighbouring-cell angles -/

/-- The value stored at cell `i` is `acos` of the (clipped) dot product of the unit vectors of
cell `i` and of its neighbour one step further along the direction. -/
theorem angle_is_angle (sq acos deg : Rat → Rat) (f g : Fld) (dir : String)
    (h : neighbourAngle sq acos deg f dir "rad" = .ok g) :
    ∃ ax, indexOf? f.mesh.region.dims dir = some ax ∧
      ∀ i, g.data.get i = [acos (clip1 (V3.dot (orient sq (cellV f i)) (orient sq (cellV f (stepAx i ax)))))] := by
  obtain ⟨_, _, ax, hax, _, _, _, _, hd⟩ := neighbourAngle_inv sq acos deg f g dir "rad" h
  exact ⟨ax, hax, fun i => by rw [hd i, angVal_rad]; rfl⟩

/-- For unit vectors the clip is the identity (`|û·v̂| ≤ 1`): it only guards against rounding. -/
theorem angle_unit_vectors (a b : V3) (ha : a.normSq = 1) (hb : b.normSq = 1) :
    clip1 (V3.dot a b) = V3.dot a b :=
  clip1_id _ (dot_unit_range a b ha hb).1 (dot_unit_range a b ha hb).2

/-- Every angle lies in `[0, π]`, for any `acos` mapping `[-1, 1]` into `[0, π]`
(`Real.arccos_nonneg`, `Real.arccos_le_pi`). -/
theorem angle_range (sq acos deg : Rat → Rat) (pi : Rat)
    (hacos : ∀ x, -1 ≤ x → x ≤ 1 → 0 ≤ acos x ∧ acos x ≤ pi) (f g : Fld) (dir : String)
    (h : neighbourAngle sq acos deg f dir "rad" = .ok g) (i : List Nat) :
    0 ≤ (g.data.get i).getD 0 0 ∧ (g.data.get i).getD 0 0 ≤ pi := by
  obtain ⟨ax, _, hv⟩ := angle_is_angle sq acos deg f g dir h
  rw [hv i]
  exact hacos _ (clip1_range _).1 (clip1_range _).2

/-- an `acos` with the required range -/
example : ∀ x : Rat, -1 ≤ x → x ≤ 1 → 0 ≤ (fun y : Rat => (1 - y) / 2 * 3) x ∧ (fun y : Rat => (1 - y) / 2 * 3) x ≤ 3 := by
  intro x h1 h2; constructor <;> simp only <;> linarith

/-- The angles live on a mesh one cell shorter in the direction, shifted by half a cell,
with the same cell size — and a single cell along the direction is refused. -/
theorem angle_mesh (m : Mesh) (hm : m.Inv) (ax : Nat) (hax : ax < m.ndim) :
    (2 ≤ m.nAt ax → ∃ m', angleMesh m ax = .ok m' ∧ m'.n = setAt m.n ax (m.nAt ax - 1) ∧ m'.ndim = m.ndim ∧
      ∀ a, a < m.ndim → m'.region.lo a = m.region.lo a + (if a = ax then m.cellAt a / 2 else 0) ∧
        m'.region.hi a = m.region.hi a - (if a = ax then m.cellAt a / 2 else 0) ∧ m'.cellAt a = m.cellAt a) ∧
    (m.nAt ax = 1 → ∃ e, angleMesh m ax = .error e) := by
  constructor
  · intro h2
    obtain ⟨m', hm', _, hgeo, _, hnd⟩ := angleMesh_ok m hm ax hax h2
    exact ⟨m', hm', angleMesh_n m hm ax hax h2 m' hm', hnd, hgeo⟩
  · exact angleMesh_single m hm ax hax

/-- a well-formed mesh (4 × 3 cells) -/
example : mEx.Inv := mesh_inv_of_invB _ (by decide +kernel)

/-- The angles do not change under a global rotation (or reflection) of the vectors. -/
theorem angle_rot_invariant (sq acos deg : Rat → Rat) (q : M3) (hq : q.IsOrth) (f : Fld) (dir units : String) :
    neighbourAngle sq acos deg (rotF q f) dir units = neighbourAngle sq acos deg f dir units :=
  neighbourAngle_congr sq acos deg (f := f) (g := rotF q f) rfl rfl (nbDot_rotF sq q hq f) dir units

/-! ## Demagnetisation tensor -/

/-- The two tensor builders evaluate the same function at the same points: cell `j` of the
`2n−1` mesh has its centre exactly at `(j − n + 1)·cell`, where `linspace` puts its point. -/
theorem demag_two_builders_agree (pi : Rat) (m tm : Mesh) (hm : m.Inv) (h3 : m.ndim = 3)
    (h : tensorMesh m = .ok tm) (j : List Nat) (hj : ∀ a, a < 3 → j.getD a 0 < 2 * m.nAt a - 1) :
    tensorFld pi tm j = tensorArr pi m j ∧
    ∀ a, a < 3 → arrPoint m a (j.getD a 0) = ((j.getD a 0 : Nat) - (m.nAt a : Rat) + 1) * m.cellAt a := by
  refine ⟨tensor_builders_agree pi m tm hm h3 h j hj, ?_⟩
  intro a ha
  exact (tensor_points_agree m tm hm h a (by omega) (j.getD a 0) (hj a ha)).2

/-- Pointwise trace of the Newell function, for ARBITRARY leaf functions: in
`f(x,y,z) + f(y,z,x) + f(z,x,y)` the arcsinh and the square-root terms cancel pairwise and
only `−|xyz|` times the three arctangent leaves survives. -/
theorem newell_trace_pointwise (asinh atan sqrt : Rat → Rat) (x y z : Rat) :
    evalTerms asinh atan sqrt (newellF x y z) + evalTerms asinh atan sqrt (newellF y z x)
        + evalTerms asinh atan sqrt (newellF z x y)
      = -absR (x * y * z) *
          (evalLeaf asinh atan sqrt (.atan (absR (y * z)) (absR x) (x ^ 2 + y ^ 2 + z ^ 2)) +
           evalLeaf asinh atan sqrt (.atan (absR (z * x)) (absR y) (x ^ 2 + y ^ 2 + z ^ 2)) +
           evalLeaf asinh atan sqrt (.atan (absR (x * y)) (absR z) (x ^ 2 + y ^ 2 + z ^ 2))) := by
  have := newellF_trace (K := Rat) (evalLeaf asinh atan sqrt) x y z
  simp only [evalK_rat, Rat.cast_id] at this
  exact this

/-- Real-space trace of the tensor: `N_xx + N_yy + N_zz = −δ` at every cell of the displacement
mesh (displacement `(i·c0, j·c1, k·c2)`, any cell edges, the cell sizes permuted with the
coordinates as the code does).  The one analytic ingredient,
`atan(bc/(aR)) + atan(ca/(bR)) + atan(ab/(cR)) = π/2` for `a,b,c > 0`, `R = √(a²+b²+c²)`, is a
hypothesis on the abstract leaves (proved for the real functions in `Lemmas/C19Real`). -/
theorem demag_trace_real_space (asinh atan sqrt : Rat → Rat) (pi c0 c1 c2 : Rat) (hpi : pi ≠ 0)
    (h0 : 0 < c0) (h1 : 0 < c1) (h2 : 0 < c2)
    (hat : ∀ a b c : Rat, 0 < a → 0 < b → 0 < c →
      atan (b * c / (a * sqrt (a ^ 2 + b ^ 2 + c ^ 2))) + atan (c * a / (b * sqrt (a ^ 2 + b ^ 2 + c ^ 2)))
        + atan (a * b / (c * sqrt (a ^ 2 + b ^ 2 + c ^ 2))) = pi / 2) (i j k : Int) :
    evalTerms asinh atan sqrt ((nAll pi c0 c1 c2 (i * c0) (j * c1) (k * c2)).getD 0 [])
      + evalTerms asinh atan sqrt ((nAll pi c0 c1 c2 (i * c0) (j * c1) (k * c2)).getD 1 [])
      + evalTerms asinh atan sqrt ((nAll pi c0 c1 c2 (i * c0) (j * c1) (k * c2)).getD 2 [])
      = if i = 0 ∧ j = 0 ∧ k = 0 then -1 else 0 := by
  have := trace_grid (K := Rat) (evalLeaf asinh atan sqrt) (pi / 2) pi c0 c1 c2 hpi h0 h1 h2
    (evalLeaf_atan_sum asinh atan sqrt pi hat) i j k
  unfold traceK at this
  simp only [evalK_rat, Rat.cast_id] at this
  rw [this]
  have : -(2 * (pi / 2) / pi) = -1 := by field_simp
  rw [this]

/-- the arctangent hypothesis of `demag_trace_real_space` is satisfiable (`atan ≡ 1/2`, `pi = 3`) -/
example : ∀ a b c : Rat, 0 < a → 0 < b → 0 < c →
    (fun _ : Rat => (1 : Rat) / 2) (b * c / (a * (fun x : Rat => x) (a ^ 2 + b ^ 2 + c ^ 2)))
      + (fun _ : Rat => (1 : Rat) / 2) (c * a / (b * (fun x : Rat => x) (a ^ 2 + b ^ 2 + c ^ 2)))
      + (fun _ : Rat => (1 : Rat) / 2) (a * b / (c * (fun x : Rat => x) (a ^ 2 + b ^ 2 + c ^ 2))) = (3 : Rat) / 2 := by
  intros; norm_num

/-! ## Demagnetising field -/

/-- `demag_field`: what the zero-padded FFT product computes (circular convolution on the
`2n−1` grid, cropped at `n−1`) is the linear convolution `H_a(q) = Σ_b Σ_{q'} N_ab(q−q') m_b(q')`
at every cell of the mesh. -/
theorem demag_field_linear_convolution (T : NDA (List Rat)) (f g : Fld) (h : demagField T f = .ok g)
    (a : Nat) (ha : a < 3) (q0 q1 q2 : Nat)
    (h0 : q0 < f.mesh.nAt 0) (h1 : q1 < f.mesh.nAt 1) (h2 : q2 < f.mesh.nAt 2) :
    (g.data.get [q0, q1, q2]).getD a 0 = linConv T f a [q0, q1, q2] :=
  ((demagField_eq_ok_iff T f g).mp h).2 ▸ demagFld_comp T f a ha q0 q1 q2 h0 h1 h2

/-- Sum rule for a uniformly magnetised cuboid: if the real-space tensor has trace `−δ`
(centre cell `n−1` of the `2n−1` grid), then at EVERY cell the three demagnetising field
components obtained by magnetising along x, y, z add up to `−M`; hence so do their means.  The form that asks for
the trace on the cells of the grid only, as `tensorArr` needs it, is `cuboid_sum_rule_grid`. -/
theorem cuboid_sum_rule (T : NDA (List Rat)) (m : Mesh) (M : Rat)
    (hT : ∀ j0 j1 j2, (T.get [j0, j1, j2]).getD 0 0 + (T.get [j0, j1, j2]).getD 1 0 + (T.get [j0, j1, j2]).getD 2 0
      = if j0 = m.nAt 0 - 1 ∧ j1 = m.nAt 1 - 1 ∧ j2 = m.nAt 2 - 1 then -1 else 0)
    (q0 q1 q2 : Nat) (h0 : q0 < m.nAt 0) (h1 : q1 < m.nAt 1) (h2 : q2 < m.nAt 2) :
    linConv T (uniF m M 0) 0 [q0, q1, q2] + linConv T (uniF m M 1) 1 [q0, q1, q2]
      + linConv T (uniF m M 2) 2 [q0, q1, q2] = -M :=
  cuboid_sum_inrange T m M (fun j0 j1 j2 _ _ _ => hT j0 j1 j2) q0 q1 q2 h0 h1 h2

/-- For a cube (equal counts; a tensor with the cyclic symmetry `N_yy(j₀,j₁,j₂) = N_xx(j₁,j₂,j₀)`,
`N_zz(j₀,j₁,j₂) = N_xx(j₂,j₀,j₁)`, which `_N` has for cubic cells, see `demag_cubic_symmetry`)
each of the three summed (hence mean) demagnetising field components is one third of the total:
`Σ_cells H_a = −M·n³/3`, i.e. mean `−M/3` each. -/
theorem cube_each_third (T : NDA (List Rat)) (m : Mesh) (M : Rat) (n : Nat)
    (hn0 : m.nAt 0 = n) (hn1 : m.nAt 1 = n) (hn2 : m.nAt 2 = n)
    (hT : ∀ j0 j1 j2, (T.get [j0, j1, j2]).getD 0 0 + (T.get [j0, j1, j2]).getD 1 0 + (T.get [j0, j1, j2]).getD 2 0
      = if j0 = m.nAt 0 - 1 ∧ j1 = m.nAt 1 - 1 ∧ j2 = m.nAt 2 - 1 then -1 else 0)
    (hsym : ∀ j0 j1 j2, (T.get [j0, j1, j2]).getD 1 0 = (T.get [j1, j2, j0]).getD 0 0 ∧
      (T.get [j0, j1, j2]).getD 2 0 = (T.get [j2, j0, j1]).getD 0 0)
    (a : Nat) (ha : a < 3) :
    sum3 n n n (fun q0 q1 q2 => linConv T (uniF m M a) a [q0, q1, q2]) = -M * (n : Rat) ^ 3 / 3 :=
  cube_third_inrange T m M n hn0 hn1 hn2 (fun j0 j1 j2 _ _ _ => by simpa only [hn0, hn1, hn2] using hT j0 j1 j2)
    (fun j0 j1 j2 _ _ _ => hsym j0 j1 j2) a ha

/-- a tensor with trace `−δ` and the cyclic symmetry (one cell) -/
example : (∀ j0 j1 j2, (tEx.get [j0, j1, j2]).getD 0 0 + (tEx.get [j0, j1, j2]).getD 1 0 + (tEx.get [j0, j1, j2]).getD 2 0
      = if j0 = m1.nAt 0 - 1 ∧ j1 = m1.nAt 1 - 1 ∧ j2 = m1.nAt 2 - 1 then -1 else 0) ∧
    (∀ j0 j1 j2, (tEx.get [j0, j1, j2]).getD 1 0 = (tEx.get [j1, j2, j0]).getD 0 0 ∧
      (tEx.get [j0, j1, j2]).getD 2 0 = (tEx.get [j2, j0, j1]).getD 0 0) := by
  constructor
  · intro j0 j1 j2
    simp only [tEx, m1, Mesh.nAt, List.getD_cons_zero, List.getD_cons_succ]
    by_cases h : j0 = 0 ∧ j1 = 0 ∧ j2 = 0
    · obtain ⟨rfl, rfl, rfl⟩ := h; norm_num
    · have : ¬ ([j0, j1, j2] = [0, 0, 0]) := by simpa using h
      simp [this, h]
  · intro j0 j1 j2
    simp only [tEx]
    by_cases h : j0 = 0 ∧ j1 = 0 ∧ j2 = 0
    · obtain ⟨rfl, rfl, rfl⟩ := h; simp
    · have a : ¬ ([j0, j1, j2] = [0, 0, 0]) := by simpa using h
      have b : ¬ ([j1, j2, j0] = [0, 0, 0]) := by simp; omega
      have c : ¬ ([j2, j0, j1] = [0, 0, 0]) := by simp; omega
      simp [a, b, c]

/-- `_N` has that cyclic symmetry when the three cell edges are equal (by construction: the yy and
zz components are the xx formula at cyclically permuted coordinates and cell edges). -/
theorem demag_cubic_symmetry (pi c x y z : Rat) :
    (nAll pi c c c x y z).getD 1 [] = (nAll pi c c c y z x).getD 0 [] ∧
    (nAll pi c c c x y z).getD 2 [] = (nAll pi c c c z x y).getD 0 [] :=
  ⟨rfl, rfl⟩

/-! ## Refusals -/

/-- Fields of the wrong component or spatial dimension, unknown directions and unknown methods
are refused by every tool. -/
theorem refusals (sq acos deg : Rat → Rat) (pi : Rat) (Om : Tri → Rat) (f : Fld) :
    ((f.nvdim ≠ 3 ∨ f.mesh.ndim ≠ 2) → ∀ m a, (∃ e, tcd sq pi Om f m = .error e) ∧ ∃ e, charge sq pi Om f m a = .error e) ∧
    (∃ e, tcd sq pi Om f .other = .error e) ∧
    ((f.nvdim ≠ 3 ∨ f.mesh.ndim ≠ 3) → (∃ e, emergent f = .error e) ∧ ∀ d, ∃ e, countBps sq pi f d = .error e) ∧
    (∀ d u, (f.nvdim ≠ 3 ∨ indexOf? f.mesh.region.dims d = none ∨ (u ≠ "rad" ∧ u ≠ "deg")) →
      ∃ e, neighbourAngle sq acos deg f d u = .error e) ∧
    (∀ d, indexOf? f.mesh.region.dims d = none → ∃ e, countBps sq pi f d = .error e) := by
  refine ⟨?_, ⟨_, rfl⟩, ?_, ?_, ?_⟩
  · intro hc m a
    have hn : ¬ TcdAcc f m := fun h => hc.elim (fun c => c h.1) (fun c => c h.2.1)
    exact ⟨⟨_, tcd_err sq pi Om f m hn⟩, ⟨_, charge_err sq pi Om f m a hn⟩⟩
  · intro hc
    refine ⟨err_of_not_ok _ fun e he => ?_, fun d => err_of_not_ok _ fun r h => ?_⟩
    · exact hc.elim (fun c => c (emergent_ok he).1) (fun c => c (emergent_ok he).2.1)
    · obtain ⟨hd, h3, _⟩ := (countBps_accepts_iff sq pi f d).mp ⟨r, h⟩
      exact hc.elim (fun c => c h3) (fun c => c hd)
  · intro d u hc
    refine err_of_not_ok _ fun g hg => ?_
    obtain ⟨h3, hu, ax, hax, _⟩ := neighbourAngle_inv sq acos deg f g d u hg
    rcases hc with hc | hc | hc
    · exact hc h3
    · rw [hc] at hax; cases hax
    · exact hu.elim hc.1 hc.2
  · intro d hd
    refine err_of_not_ok _ fun r h => ?_
    obtain ⟨_, _, ax, hax, _⟩ := (countBps_accepts_iff sq pi f d).mp ⟨r, h⟩
    rw [hd] at hax; cases hax

/-! ## The leaf hypotheses hold for the real functions; the trace with the real functions -/

/-- REAL-SPACE TRACE `N_xx + N_yy + N_zz = −δ` WITH THE REAL `arcsinh`, `arctan`, `sqrt` (no
hypothesis on leaves): at displacement `(i·c0, j·c1, k·c2)` the three diagonal components of
`_N` — symbolic Newell terms of the model evaluated in ℝ by `lvR` — add up to `−π/pi` at the
origin and to `0` elsewhere, `pi` being the rational the code uses for `np.pi`
(`|π/pi − 1| < 2⁻⁵²`).  Valid for all positive rational cell edges: the cell sizes are permuted
together with the coordinates (finding D20). -/
theorem demag_trace (pi c0 c1 c2 : Rat) (hpi : pi ≠ 0) (h0 : 0 < c0) (h1 : 0 < c1) (h2 : 0 < c2) (i j k : Int) :
    traceK lvR pi c0 c1 c2 ((i : Rat) * c0) ((j : Rat) * c1) ((k : Rat) * c2)
      = if i = 0 ∧ j = 0 ∧ k = 0 then -(Real.pi / (pi : ℝ)) else 0 := by
  rw [trace_grid lvR (Real.pi / 2) pi c0 c1 c2 hpi h0 h1 h2 lvR_atan_sum i j k]
  congr 1
  ring

/-- the analytic ingredient: `atan(bc/(aR)) + atan(ca/(bR)) + atan(ab/(cR)) = π/2` for the real arctangent -/
theorem arctan_sum_identity (a b c : ℝ) (ha : 0 < a) (hb : 0 < b) (hc : 0 < c) :
    Real.arctan (b * c / (a * √(a ^ 2 + b ^ 2 + c ^ 2))) + Real.arctan (c * a / (b * √(a ^ 2 + b ^ 2 + c ^ 2)))
      + Real.arctan (a * b / (c * √(a ^ 2 + b ^ 2 + c ^ 2))) = Real.pi / 2 :=
  arctan_sum a b c ha hb hc

/-- The Berg–Lüscher angle of `util.bergluescher_angle`, `2·Im log((1+d₁₂+d₂₃+d₃₁ + i·t)/ρ)/(4π)`
over ℝ/ℂ, is odd in the triple product (the hypothesis `hOm` of `tcd_reversal`), and for `ρ > 0`
it is `2·arg(1+d₁₂+d₂₃+d₃₁ + i·t)/(4π)` (what the harness evaluates with `atan2`). -/
theorem bl_angle_real (tr : Tri) :
    (tr.t ≠ 0 → omegaR (flipT tr) = -omegaR tr) ∧
    (0 < 2 * (1 + (tr.d12 : ℝ)) * (1 + tr.d23) * (1 + tr.d31) →
      omegaR tr = 2 * Complex.arg (⟨1 + (tr.d12 : ℝ) + tr.d23 + tr.d31, (tr.t : ℝ)⟩ : ℂ) / (4 * Real.pi)) :=
  ⟨omegaR_flip tr, omegaR_eq_arg tr⟩

/-- The hypotheses on `acos` (`angle_range`) and on `sq` (`orientation_scale`, `orientation_unit`)
hold for the real arccosine and square root. -/
theorem leaf_hypotheses_real (x s : ℝ) (hs : 0 ≤ s) (hx : 0 ≤ x) :
    (0 ≤ Real.arccos x ∧ Real.arccos x ≤ Real.pi) ∧ √(s * s * x) = s * √x ∧ √x * √x = x :=
  ⟨arccos_range x, sqrt_homogeneous s x hs, Real.mul_self_sqrt hx⟩

/-! ## Quarter turn of the sample -/

/-- `Field.diff` along the axes of a quarter-turned sample (`SpTurn f g`: cell `[i, j]` of `g` holds
cell `[j, n₁−1−i]` of `f`): `∂₀' = −∂₁` and `∂₁' = ∂₀` at the source cell — every validity mask, open
or periodic directions, restricted to valid cells or not. -/
theorem diff_quarter_turn {f g : Fld} (h : SpTurn f g) (r : Bool) (i j : Nat) (hi : i < f.mesh.nAt 1) (hj : j < f.mesh.nAt 0) :
    Dv g 0 1 r [i, j] = (Dv f 1 1 r [j, f.mesh.nAt 1 - 1 - i]).neg ∧
    Dv g 1 1 r [i, j] = Dv f 0 1 r [j, f.mesh.nAt 1 - 1 - i] :=
  ⟨Dv_turn0 h r i j hi hj, Dv_turn1 h r i j hi⟩

/-- Lattice method, the triangle sum: the neighbours `(E, N, W, S)` of a cell of the turned sample are
the neighbours `(S, E, N, W)` of the source cell, so its list of Berg–Lüscher triangles is the source
cell's list `[t₁, t₂, t₃, t₄]` (those that exist) rotated to `[t₄, t₁, t₂, t₃]` — every mask. -/
theorem bl_triangles_quarter_turn {o g : Fld} (h : SpTurn o g) (i j : Nat) (hi : i < o.mesh.nAt 1) (hj : j < o.mesh.nAt 0) :
    triangles g i j
      = tri? (cellV o [j, o.mesh.nAt 1 - 1 - i]) (nbS o j (o.mesh.nAt 1 - 1 - i)) (nbE o j (o.mesh.nAt 1 - 1 - i)) ++
        (tri? (cellV o [j, o.mesh.nAt 1 - 1 - i]) (nbE o j (o.mesh.nAt 1 - 1 - i)) (nbN o j (o.mesh.nAt 1 - 1 - i)) ++
         tri? (cellV o [j, o.mesh.nAt 1 - 1 - i]) (nbN o j (o.mesh.nAt 1 - 1 - i)) (nbW o j (o.mesh.nAt 1 - 1 - i)) ++
         tri? (cellV o [j, o.mesh.nAt 1 - 1 - i]) (nbW o j (o.mesh.nAt 1 - 1 - i)) (nbS o j (o.mesh.nAt 1 - 1 - i))) :=
  triangles_turn h i j hi hj

/-- Both density methods under a quarter turn of the sample (`QTurn Q f g`: sample turned, vectors
rotated by the proper rotation `Q`): the density field of `g` holds at `[i, j]` the value and the
validity the density field of `f` holds at `[j, n₁−1−i]` — all masks, all cell sizes, open or periodic. -/
theorem tcd_quarter_turn (sq : Rat → Rat) (pi : Rat) (Om : Tri → Rat) (Q : M3) (hQ : Q.IsRot) {f g : Fld} (h : QTurn Q f g)
    (hf3 : f.nvdim = 3) (hg3 : g.nvdim = 3) (hf2 : f.mesh.ndim = 2) (hg2 : g.mesh.ndim = 2) (m : Method) (hm : m ≠ .other) :
    ∃ q q', tcd sq pi Om f m = .ok q ∧ tcd sq pi Om g m = .ok q' ∧
      ∀ i j, i < f.mesh.nAt 1 → j < f.mesh.nAt 0 →
        (q'.data.get [i, j]).getD 0 0 = (q.data.get [j, f.mesh.nAt 1 - 1 - i]).getD 0 0 ∧
        q'.valid.get [i, j] = q.valid.get [j, f.mesh.nAt 1 - 1 - i] := by
  refine ⟨_, _, tcd_succeeds sq pi Om f m hf3 hf2 hm, tcd_succeeds sq pi Om g m hg3 hg2 hm, ?_⟩
  intro i j hi hj
  exact ⟨tcdVal_turn sq pi Om Q hQ h m i j hi hj, h.ok i j hi hj⟩

/-- THE CHARGE IS UNCHANGED BY A QUARTER TURN OF THE SAMPLE — both methods, absolute or not, every
validity mask, anisotropic cells, open or periodic directions (flags turned with the sample). -/
theorem charge_quarter_turn (sq : Rat → Rat) (pi : Rat) (Om : Tri → Rat) (Q : M3) (hQ : Q.IsRot) {f g : Fld} (h : QTurn Q f g)
    (hf3 : f.nvdim = 3) (hg3 : g.nvdim = 3) (hf2 : f.mesh.ndim = 2) (hg2 : g.mesh.ndim = 2)
    (hfs : f.data.shape = [f.mesh.nAt 0, f.mesh.nAt 1]) (hgs : g.data.shape = [g.mesh.nAt 0, g.mesh.nAt 1])
    (m : Method) (a : Bool) : charge sq pi Om g m a = charge sq pi Om f m a :=
  charge_turn sq pi Om Q hQ h hf3 hg3 hf2 hg2 hfs hgs m a

/-- a quarter-turned pair: `fQ` (cell `(i,j)` holds `(i, j+1, 2)` on 4 × 3 cells of size 1 × 2) and the
field on 3 × 4 cells of size 2 × 1 holding `(−(j'+1), i', 2)` at the turned position -/
example : QTurn ⟨0, -1, 0, 1, 0, 0, 0, 0, 1⟩ fQ
    { mesh := { region := { pmin := [0, 0], pmax := [6, 4], dims := ["x", "y"], units := ["m", "m"], tol := 1 / 1000000000000 },
                n := [3, 4], bc := "", subs := [] },
      nvdim := 3, data := ⟨[3, 4], fun i => [-(((3 - 1 - i.getD 0 0 : Nat) : Rat) + 1), (i.getD 1 0 : Rat), 2]⟩,
      valid := NDA.const [3, 4] true, vdims := some ["x", "y", "z"], vmap := [("x", "x"), ("y", "y")], unit := none } := by
  refine ⟨rfl, rfl, by decide +kernel, by decide +kernel, rfl, rfl, ?_, ?_⟩
  · intro i j _ _
    simp [cellV, rotF, fQ, mEx, Mesh.nAt, V3.ofList, M3.mulVec, V3.toList, NDA.map]
  · intro i j _ _
    rfl

/-- EVERY QUARTER TURN OF THE SAMPLE.  `Field.rotate90` (C12's model `T.rotate90F`) by any odd `k`
(positive or negative) in the plane of the two axes — named in either order — of a 2-d three-component
field (open boundaries; the two axes mapped to two different components) leaves the topological
charge unchanged: both methods, absolute or not, every validity mask, anisotropic cells, any
reference point, copying or in-place form. -/
theorem charge_rotate90 (sq : Rat → Rat) (pi : Rat) (Om : Tri → Rat) (f recv g : Fld) (a1 a2 : String) (k : Int)
    (ref : Option (List Rat)) (b : Bool)
    (hf : T.FldInv f) (h2 : f.mesh.ndim = 2) (h3 : f.nvdim = 3) (hlen : ∀ i, (f.data.get i).length = 3)
    (hbc : f.mesh.bc = "") (i1 i2 : Nat)
    (hi1 : f.mesh.region.dim2index a1 = .ok i1) (hi2 : f.mesh.region.dim2index a2 = .ok i2)
    (hord : (i1 = 0 ∧ i2 = 1) ∨ (i1 = 1 ∧ i2 = 0)) (hk : k % 2 = 1)
    (hvd : ∀ vs, f.vdims = some vs → vs.length = 3)
    (hc : (f.rDim a1).bind f.vdimIndex ≠ (f.rDim a2).bind f.vdimIndex)
    (h : T.rotate90F f a1 a2 k ref b = .ok (recv, g)) (m : Method) (a : Bool) :
    charge sq pi Om g m a = charge sq pi Om f m a := by
  obtain ⟨g3, g2, gs, hcase⟩ := rotate90F_quarter ⟨hf, h2, h3, hlen, hi1, hi2, hord, hk, hvd, hc⟩ hbc h
  exact charge_turn_either sq pi Om hcase h3 g3 h2 g2 (by rw [hf.2.1]; exact n_eq2 f.mesh hf.1 h2) gs m a

/-- the hypotheses of `charge_rotate90` on the concrete field `fQ`: `rotate90('x', 'y', k=1)` and
`rotate90('y', 'x', k=-1)` are accepted -/
example : T.FldInv fQ ∧ fQ.mesh.ndim = 2 ∧ fQ.nvdim = 3 ∧ (∀ i, (fQ.data.get i).length = 3) ∧ fQ.mesh.bc = "" ∧
    fQ.mesh.region.dim2index "x" = .ok 0 ∧ fQ.mesh.region.dim2index "y" = .ok 1 ∧ (1 : Int) % 2 = 1 ∧ (-1 : Int) % 2 = 1 ∧
    (∀ vs, fQ.vdims = some vs → vs.length = 3) ∧
    (fQ.rDim "x").bind fQ.vdimIndex ≠ (fQ.rDim "y").bind fQ.vdimIndex ∧
    (match T.rotate90F fQ "x" "y" 1 none false with | .ok _ => true | .error _ => false) = true ∧
    (match T.rotate90F fQ "y" "x" (-1) none false with | .ok _ => true | .error _ => false) = true := by
  refine ⟨⟨mesh_inv_of_invB _ (by decide +kernel), rfl, rfl⟩, rfl, rfl, fun _ => rfl, rfl, by decide +kernel, by decide +kernel,
    by decide, by decide, ?_, by decide +kernel, by decide +kernel, by decide +kernel⟩
  intro vs hvs
  simp only [fQ] at hvs
  injection hvs with hvs
  rw [← hvs]; rfl

/-! ## The trace of the demagnetisation tensor in Fourier space -/

/-- A tensor field whose real-space trace is `t·δ_{r0}` (first three components add up to `t` in
cell `r0`, to `0` elsewhere) has Fourier-space trace `t·exp(−2πi k·r0)` in EVERY k-cell, for
`Field.fftn` as modelled in C11 over any commutative ring with roots of unity: the trace is linear,
and the transform of a one-cell field is a pure phase (`C11.fftn_is_dft`). -/
theorem fourier_trace_of_real_space_trace {R : Type} [CommRing R] (ρs : List (C11.Root R)) (f g : C11.CF R)
    (h : C11.fftn ρs f = .ok g) (hρ : C11.Roots f.data.shape ρs) (hnv : 3 ≤ f.nvdim) (r0 : List Nat)
    (hr : inRange f.data.shape r0 = true) (t : R)
    (hT : ∀ i, inRange f.data.shape i = true →
      C11.compA f.data 0 i + C11.compA f.data 1 i + C11.compA f.data 2 i = if i = r0 then t else 0)
    (m : List Nat) (hm : inRange f.data.shape m = true) :
    C11.compA g.data 0 m + C11.compA g.data 1 m + C11.compA g.data 2 m = t * C11.phase ρs f.data.shape m r0 :=
  fourier_trace_of_delta ρs f g h hρ hnv r0 hr t hT m hm

/-- TRACE −1 AT EVERY FREQUENCY.  The model's real-space tensor of `demag_tensor(mesh)` (symbolic
Newell terms at the `linspace` points, evaluated with the real `arcsinh`, `arctan`, `sqrt`),
transformed by C11's `Field.fftn` with the complex roots of unity, has in every k-cell the trace
`−(π/pi)·exp(−2πi k·r_c)` (`r_c` = the central cell of the `2n−1` grid, `pi` the rational the code
uses for `np.pi`): a pure phase of modulus `π/|pi|` — all positive rational cell edges, all counts.
The tensor mesh exists and the transform is accepted (first two parts). -/
theorem demag_trace_fourier (pi : Rat) (hpi : pi ≠ 0) (m : Mesh) (hm : m.Inv) (h3 : m.ndim = 3) :
    ∃ tm, tensorMesh m = .ok tm ∧
    (∃ g, C11.fftn ((tensorShape m).map C11.cRoot) (tensorC pi m tm) = .ok g) ∧
    ∀ g, C11.fftn ((tensorShape m).map C11.cRoot) (tensorC pi m tm) = .ok g →
      ∀ k, inRange (tensorShape m) k = true →
        C11.compA g.data 0 k + C11.compA g.data 1 k + C11.compA g.data 2 k
          = -(((Real.pi / (pi : ℝ) : ℝ)) : ℂ) * C11.phase ((tensorShape m).map C11.cRoot) (tensorShape m) k (centreCell m) ∧
        ‖C11.compA g.data 0 k + C11.compA g.data 1 k + C11.compA g.data 2 k‖ = Real.pi / |(pi : ℝ)| := by
  obtain ⟨tm, htm, _, _⟩ := tensorMesh_ok m hm
  refine ⟨tm, htm, ?_, ?_⟩
  · obtain ⟨g, hg, _⟩ := C11.fftn_total ((tensorShape m).map C11.cRoot) (tensorC pi m tm) (tensorC_inv pi m tm hm h3 htm)
    exact ⟨g, hg⟩
  · intro g hg k hk
    exact tensorC_fourier_trace pi hpi m tm hm h3 g hg k hk

/-- the real-space trace of that tensor field, cell by cell of the displacement grid -/
theorem demag_trace_grid (pi : Rat) (hpi : pi ≠ 0) (m tm : Mesh) (hm : m.Inv) (h3 : m.ndim = 3)
    (i : List Nat) (hi : inRange (tensorShape m) i = true) :
    C11.compA (tensorC pi m tm).data 0 i + C11.compA (tensorC pi m tm).data 1 i + C11.compA (tensorC pi m tm).data 2 i
      = if i = centreCell m then -(((Real.pi / (pi : ℝ) : ℝ)) : ℂ) else 0 :=
  tensorC_trace pi hpi m tm hm h3 i hi

/-- a well-formed 3-d mesh (2 × 1 × 2 cells, edges 1, 2, 1/2) -/
example : m3.Inv ∧ m3.ndim = 3 := ⟨mesh_inv_of_invB _ (by decide +kernel), rfl⟩

/-! ## Validity handling -/

/-- Both densities vanish in every invalid cell (every mesh, every neighbourhood): the continuous
one because `Field.diff(restrict2valid=True)` stores zeros there (C04), the lattice one by its
explicit test. -/
theorem tcd_invalid_zero (sq : Rat → Rat) (pi : Rat) (Om : Tri → Rat) (f q : Fld) (m : Method)
    (h : tcd sq pi Om f m = .ok q) (i0 i1 : Nat) (h0 : i0 < f.mesh.nAt 0) (hv : f.valid.get [i0, i1] = false) :
    q.data.get [i0, i1] = [0] := by
  obtain ⟨h3, h2, _, rfl⟩ := tcd_ok sq pi Om f q m h
  show [tcdVal sq pi Om f m [i0, i1]] = [0]
  congr 1
  cases m with
  | continuous =>
    show tcdCSpec sq pi f [i0, i1] = 0
    unfold tcdCSpec
    rw [Dv_invalid_zero (orientation sq f) 0 [i0, i1] hv]
    simp [V3.dot, V3.cross, V3.zero]
  | bergLuescher =>
    show tcdBLAt Om (orientation sq f) i0 i1 = 0
    unfold tcdBLAt
    have : (orientation sq f).valid.get [i0, i1] = false := hv
    rw [this]; rfl
  | other => rfl

/-- The real Berg–Lüscher angle of one triangle lies in `(−1/2, 1/2]` (one triangle covers at most
half the sphere) whenever `ρ > 0`. -/
theorem bl_angle_real_range (tr : Tri) (hρ : 0 < 2 * (1 + (tr.d12 : ℝ)) * (1 + tr.d23) * (1 + tr.d31)) :
    -(1 / 2 : ℝ) < omegaR tr ∧ omegaR tr ≤ 1 / 2 := by
  rw [omegaR_eq_arg tr hρ]
  have h1 := Complex.neg_pi_lt_arg (nC tr)
  have h2 := Complex.arg_le_pi (nC tr)
  have hp := Real.pi_pos
  constructor
  · rw [lt_div_iff₀ (by positivity)]; linarith
  · rw [div_le_iff₀ (by positivity)]; linarith

/-- a triangle with `ρ > 0` -/
example : 0 < 2 * (1 + ((⟨0, 0, 0, 1⟩ : Tri).d12 : ℝ)) * (1 + (⟨0, 0, 0, 1⟩ : Tri).d23) * (1 + (⟨0, 0, 0, 1⟩ : Tri).d31) := by
  norm_num

/-! ## Emergent field and Bloch-point count at object level -/

/-- Reversing all vectors negates the emergent field (same mesh, same validity), and the emergent
field of a uniform field vanishes identically. -/
theorem emergent_reversal (f e : Fld) (h : emergent f = .ok e) :
    (∃ e', emergent (negF f) = .ok e' ∧ e'.mesh = e.mesh ∧ e'.valid = e.valid ∧ e'.data.shape = e.data.shape ∧
      ∀ i c, c < 3 → (e'.data.get i).getD c 0 = -(e.data.get i).getD c 0) ∧
    (∀ v, uniformF f v → ∀ i, e.data.get i = [0, 0, 0]) := by
  obtain ⟨h3, hd, rfl⟩ := emergent_ok h
  constructor
  · refine ⟨negF (emFld f), by rw [emergent_eq (negF f) h3 hd, emFld_negF], rfl, rfl, rfl, ?_⟩
    intro i c hc
    rw [(negF_compRel (emFld f)).comp i c hc, neg_one_mul]
  · intro v hu i
    show [emSpec f 1 2 i, emSpec f 2 0 i, emSpec f 0 1 i] = [0, 0, 0]
    rw [emSpec_uniform f v hu, emSpec_uniform f v hu, emSpec_uniform f v hu]

/-- `emergent_magnetic_field` accepts a concrete non-uniform field -/
example : (match emergent f3 with | .ok _ => true | .error _ => false) = true := by decide +kernel

/-- `count_bps` is unchanged by a global proper rotation of all vectors: the same result (cumulative
flux, local numbers, total, head-to-head / tail-to-tail counts, pattern) or the same refusal —
every direction, every mask, anisotropic cells. -/
theorem count_bps_rot_invariant (sq : Rat → Rat) (pi : Rat) (q : M3) (hq : q.IsRot) (f : Fld) (dir : String) :
    countBps sq pi (rotF q f) dir = countBps sq pi f dir :=
  countBps_congr sq pi dir rfl rfl rfl (fun _ => rfl) fun _ ax _ => fluxOf_rotF sq q hq f ax

/-- REVERSAL: when all vectors are reversed `count_bps` (every direction) negates the cumulative
flux and the local Bloch-point numbers (`np.round` is odd), keeps the total number, and swaps the
head-to-head and tail-to-tail counts — a tail-to-tail hedgehog becomes head-to-head. -/
theorem count_bps_reversal (sq : Rat → Rat) (pi : Rat) (f : Fld) (dir : String) (r : BpResult)
    (h : countBps sq pi f dir = .ok r) :
    ∃ r', countBps sq pi (negF f) dir = .ok r' ∧ r'.fint = r.fint.map (-·) ∧ r'.number = r.number.map (-·) ∧
      r'.total = r.total ∧ r'.hh = r.tt ∧ r'.tt = r.hh ∧ r'.pattern = r.pattern.map fun p => (-p.1, p.2) := by
  obtain ⟨hd, h3, ax, hax, hn, rfl⟩ := (countBps_eq_ok_iff sq pi f dir r).mp h
  refine ⟨_, (countBps_eq_ok_iff sq pi (negF f) dir _).mpr ⟨hd, h3, ax, hax, hn, rfl⟩, ?_⟩
  rw [fluxOf_negF]
  exact bpOf_neg _ pi

/-- `count_bps` accepts a concrete non-uniform field along `x` -/
example : (match countBps ratSqrt 3 f3 "x" with | .ok _ => true | .error _ => false) = true := by
  decide +kernel

/-- Counting from the rounded cumulative flux alone: negating the flux negates the numbers, keeps
the total and swaps head-to-head with tail-to-tail (any list, any `pi`). -/
theorem bp_count_reversal (fint : List Rat) (pi : Rat) :
    (bpOf (fint.map (-·)) pi).number = (bpOf fint pi).number.map (-·) ∧
    (bpOf (fint.map (-·)) pi).total = (bpOf fint pi).total ∧
    (bpOf (fint.map (-·)) pi).hh = (bpOf fint pi).tt ∧
    (bpOf (fint.map (-·)) pi).tt = (bpOf fint pi).hh :=
  ⟨(bpOf_neg fint pi).2.1, (bpOf_neg fint pi).2.2.1, (bpOf_neg fint pi).2.2.2.1, (bpOf_neg fint pi).2.2.2.2.1⟩

/-- ONE STEP = ONE BLOCH POINT.  The counting stage of `count_bps` (differences of the rounded
cumulative flux `F_int/(4π)`): if the rounded flux is `0` on the first `a ≥ 1` cells along the direction
and `+1` on the remaining `b ≥ 1` cells — what a single tail-to-tail hedgehog produces — exactly one
Bloch point is reported, tail-to-tail, none head-to-head, pattern `[[0, a], [1, b]]`; if it steps to
`−1` instead (the reversed hedgehog) exactly one, head-to-head.  (That a discretised hedgehog's
rounded flux IS such a step is the part left to the oracle.) -/
theorem single_step_is_one_bloch_point (fint : List Rat) (pi : Rat) (a b : Nat) (ha : 0 < a) (hb : 0 < b) :
    ((fint.map fun x => Mesh.roundHalfEven (x / (4 * pi))) = List.replicate a 0 ++ List.replicate b 1 →
      (bpOf fint pi).total = 1 ∧ (bpOf fint pi).tt = 1 ∧ (bpOf fint pi).hh = 0 ∧ (bpOf fint pi).pattern = [(0, a), (1, b)]) ∧
    ((fint.map fun x => Mesh.roundHalfEven (x / (4 * pi))) = List.replicate a 0 ++ List.replicate b (-1) →
      (bpOf fint pi).total = 1 ∧ (bpOf fint pi).hh = 1 ∧ (bpOf fint pi).tt = 0) := by
  constructor
  · exact bpOf_unit_step fint pi a b ha hb
  · -- the negated flux has the negated numbers (`bpOf_neg`), a step to `+1`: apply the first half and swap `hh` and `tt` back
    intro h
    obtain ⟨_, nn, n3, n4, n5, _⟩ := bpOf_neg fint pi
    have hg : ((fint.map (-·)).map fun x => Mesh.roundHalfEven (x / (4 * pi))) = List.replicate a 0 ++ List.replicate b 1 := by
      refine (nn.trans (congrArg (List.map (-·)) h)).trans ?_
      simp
    obtain ⟨t1, t2, t3, _⟩ := bpOf_unit_step (fint.map (-·)) pi a b ha hb hg
    exact ⟨by rw [← n3, t1], by rw [← n5, t2], by rw [← n4, t3]⟩

/-- a flux that rounds to one unit step (`4π·(0, 0, 1, 1)` with `pi = 1`) -/
example : (([0, 0, 4, 4] : List Rat).map fun x => Mesh.roundHalfEven (x / (4 * 1))) = List.replicate 2 0 ++ List.replicate 2 1 := by
  decide +kernel

/-! ## Neighbouring-cell angles at object level -/

/-- ACCEPTANCE and RESULT: a 3-component field on a well-formed mesh with at least two cells along
the named direction is accepted in either unit; the result is a scalar field, valid everywhere,
on the mesh built by `df.Mesh(p1 = pmin + δ, p2 = pmax − δ, cell = mesh.cell)`, with one cell less
along the direction, holding `acos(clip(û·v̂))` (`units = "rad"`) or `deg` of it. -/
theorem angle_accepted (sq acos deg : Rat → Rat) (f : Fld) (dir units : String) (ax : Nat)
    (h3 : f.nvdim = 3) (hm : f.mesh.Inv) (hax : indexOf? f.mesh.region.dims dir = some ax)
    (hu : units = "rad" ∨ units = "deg") (h2 : 2 ≤ f.mesh.nAt ax) :
    ∃ g m', neighbourAngle sq acos deg f dir units = .ok g ∧ angleMesh f.mesh ax = .ok m' ∧ g.mesh = m' ∧
      g.nvdim = 1 ∧ g.data.shape = setAt f.mesh.n ax (f.mesh.nAt ax - 1) ∧ m'.n = setAt f.mesh.n ax (f.mesh.nAt ax - 1) ∧
      (∀ i, g.valid.get i = true) ∧
      ∀ i, g.data.get i = [if units = "deg" then deg (acos (nbDot sq f ax i)) else acos (nbDot sq f ax i)] :=
  neighbourAngle_ok sq acos deg f dir units ax h3 hm hax hu h2

/-- the hypotheses of `angle_accepted` on the concrete field `fQ`; both angle tools accept it -/
example : fQ.nvdim = 3 ∧ fQ.mesh.Inv ∧ indexOf? fQ.mesh.region.dims "x" = some 0 ∧ 2 ≤ fQ.mesh.nAt 0 ∧
    (match neighbourAngle ratSqrt id id fQ "x" "deg" with | .ok _ => true | .error _ => false) = true ∧
    (match maxNeighbourAngle ratSqrt id id fQ "rad" with | .ok _ => true | .error _ => false) = true :=
  ⟨rfl, mesh_inv_of_invB _ (by decide +kernel), by decide +kernel, by decide +kernel, by decide +kernel, by decide +kernel⟩

/-- THE ANGLES LIVE ON A MESH ONE CELL SHORTER: whenever `neighbouring_cell_angle` succeeds on a
well-formed mesh, the direction had at least two cells and the result mesh has one cell less along
it, the same cell size on every axis, and its region is the original one shrunk by half a cell at
both ends in that direction (unchanged on the other axes). -/
theorem angle_result_mesh (sq acos deg : Rat → Rat) (f g : Fld) (dir units : String) (hm : f.mesh.Inv)
    (h : neighbourAngle sq acos deg f dir units = .ok g) :
    ∃ ax, indexOf? f.mesh.region.dims dir = some ax ∧ ax < f.mesh.ndim ∧ 2 ≤ f.mesh.nAt ax ∧
      g.mesh.n = setAt f.mesh.n ax (f.mesh.nAt ax - 1) ∧ g.data.shape = g.mesh.n ∧ g.mesh.ndim = f.mesh.ndim ∧
      ∀ a, a < f.mesh.ndim →
        g.mesh.region.lo a = f.mesh.region.lo a + (if a = ax then f.mesh.cellAt a / 2 else 0) ∧
        g.mesh.region.hi a = f.mesh.region.hi a - (if a = ax then f.mesh.cellAt a / 2 else 0) ∧
        g.mesh.cellAt a = f.mesh.cellAt a := by
  obtain ⟨_, _, ax, hax, hmesh, hn, hs, _, _⟩ := neighbourAngle_inv sq acos deg f g dir units h
  have hl : ax < f.mesh.ndim := indexOf_lt_ndim hm hax
  have h2 : 2 ≤ f.mesh.nAt ax := angleMesh_two_le f.mesh _ hm ax hl hmesh
  obtain ⟨m', hm', _, hgeo, _, hnd⟩ := angleMesh_ok f.mesh hm ax hl h2
  rw [hmesh] at hm'
  injection hm' with hm'
  subst hm'
  exact ⟨ax, hax, hl, h2, hn, by rw [hs, hn], hnd, hgeo⟩

/-- The angles are unchanged when all vectors are reversed, and when every vector is rescaled by its
own non-zero factor (hypotheses as in `orientation_scale`); for a uniform field of non-negligible
vectors every clipped dot product is exactly `1` (angle `acos 1 = 0`). -/
theorem angle_invariances (sq acos deg : Rat → Rat) (f : Fld) (dir units : String) :
    neighbourAngle sq acos deg (negF f) dir units = neighbourAngle sq acos deg f dir units ∧
    (∀ s : List Nat → Rat, (∀ i, s i ≠ 0) →
      (∀ i, sq (s i * s i * (cellV f i).normSq) = s i * sq (cellV f i).normSq) →
      (∀ i, isZeroNorm (s i * sq (cellV f i).normSq) = isZeroNorm (sq (cellV f i).normSq)) →
      neighbourAngle sq acos deg (scaleF s f) dir units = neighbourAngle sq acos deg f dir units) ∧
    (∀ v, uniformF f v → sq v.normSq * sq v.normSq = v.normSq → isZeroNorm (sq v.normSq) = false →
      ∀ ax i, nbDot sq f ax i = 1) := by
  exact ⟨neighbourAngle_congr sq acos deg (f := f) (g := negF f) rfl rfl (nbDot_negF sq f) dir units,
    fun s hs hsq hz => neighbourAngle_congr sq acos deg (f := f) (g := scaleF s f) rfl rfl
      (nbDot_scaleF sq s f (orient_smul_cells sq s f hs hsq hz)) dir units,
    fun v hu hsq hz ax i => nbDot_uniform sq f v hu hsq hz ax i⟩

/-- `max_neighbouring_cell_angle`: the value of a cell lies in `[0, π]`, dominates the angle to the
next and to the previous cell along every axis, and is attained (it is `0` or one of those angles);
the result lives on the field's own mesh, valid everywhere. -/
theorem max_angle_spec (sq acos deg : Rat → Rat) (pi : Rat) (hpi : 0 ≤ pi)
    (hacos : ∀ x, 0 ≤ acos x ∧ acos x ≤ pi) (f g : Fld)
    (h : maxNeighbourAngle sq acos deg f "rad" = .ok g) (i : List Nat) :
    g.mesh = f.mesh ∧ g.valid.get i = true ∧
    0 ≤ (g.data.get i).getD 0 0 ∧ (g.data.get i).getD 0 0 ≤ pi ∧
    (∀ a, a < f.mesh.ndim → i.getD a 0 + 1 < f.mesh.nAt a → acos (nbDot sq f a i) ≤ (g.data.get i).getD 0 0) ∧
    (∀ a, a < f.mesh.ndim → 1 ≤ i.getD a 0 →
      acos (nbDot sq f a (setAt i a (i.getD a 0 - 1))) ≤ (g.data.get i).getD 0 0) ∧
    ((g.data.get i).getD 0 0 = 0 ∨ ∃ d, some d ∈ nbDots sq f i ∧ (g.data.get i).getD 0 0 = acos d) := by
  obtain ⟨hmesh, _, _, hv, hd⟩ := maxNeighbourAngle_inv sq acos deg f g "rad" h
  have e : angVal acos deg "rad" = acos := funext (angVal_rad acos deg)
  rw [hd i, e]
  simp only [List.getD_cons_zero]
  refine ⟨hmesh, hv i, (maxOpt_range acos pi hpi hacos _).1, (maxOpt_range acos pi hpi hacos _).2, ?_, ?_, ?_⟩
  · intro a ha hi
    exact maxOpt_ge acos _ _ (nbDots_fwd sq f i a ha hi)
  · intro a ha hi
    exact maxOpt_ge acos _ _ (nbDots_bwd sq f i a ha hi)
  · exact maxOpt_attained acos _

/-- The maximum angle is unchanged by a global rotation or reflection of the vectors and by reversal. -/
theorem max_angle_invariant (sq acos deg : Rat → Rat) (q : M3) (hq : q.IsOrth) (f : Fld) (units : String) :
    maxNeighbourAngle sq acos deg (rotF q f) units = maxNeighbourAngle sq acos deg f units ∧
    maxNeighbourAngle sq acos deg (negF f) units = maxNeighbourAngle sq acos deg f units :=
  ⟨maxNeighbourAngle_congr sq acos deg (f := f) (g := rotF q f) rfl rfl (nbDot_rotF sq q hq f) units,
    maxNeighbourAngle_congr sq acos deg (f := f) (g := negF f) rfl rfl (nbDot_negF sq f) units⟩

/-! ## The leaf functions instantiated with the real functions -/

/-- The model's Berg–Lüscher density is the rational case of the density with a leaf valued in an
arbitrary field of characteristic 0 (`tcdBLAtK`). -/
theorem bl_density_is_rational_case (Om : Tri → Rat) (o : Fld) (i j : Nat) :
    tcdBLAt Om o i j = tcdBLAtK (K := Rat) Om o i j :=
  tcdBLAt_eq_K Om o i j

/-- THE LATTICE DENSITY WITH THE REAL SOLID-ANGLE FORMULA (`2·Im log((1+d₁₂+d₂₃+d₃₁ + i·t)/ρ)/(4π)` over
ℝ/ℂ, no hypothesis on a leaf): unchanged by a global proper rotation, negated by reversal, zero on
uniform fields, divided by `λ²` under mesh scaling/translation — every mask, every cell. -/
theorem bl_real_invariances (sq : Rat → Rat) (f : Fld) (i : List Nat) :
    (∀ q : M3, q.IsRot → tcdBLReal sq (rotF q f) i = tcdBLReal sq f i) ∧
    tcdBLReal sq (negF f) i = -tcdBLReal sq f i ∧
    (∀ v, uniformF f v → tcdBLReal sq f i = 0) ∧
    (∀ (lam : Rat) (t : List Rat), f.mesh.ndim = 2 →
      tcdBLReal sq (affF lam t f) i = tcdBLReal sq f i / ((lam : ℝ) * (lam : ℝ))) := by
  unfold tcdBLReal
  refine ⟨fun q hq => ?_, ?_, fun v hu => ?_, fun lam t h2 => ?_⟩
  · rw [orientation_rotF sq q hq.1, tcdBLAtK_rotF omegaR q hq]
  · rw [orientation_negF, tcdBLAtK_negF omegaR omegaR_flip]
  · exact tcdBLAtK_uniform omegaR _ (orient sq v) (orientation_uniform_cell sq f v hu) _ _
  · rw [orientation_affF, tcdBLAtK_affF omegaR lam t _ (by exact h2)]

/-- Under a quarter turn of the sample the real lattice density takes the source cell's value. -/
theorem bl_real_quarter_turn (sq : Rat → Rat) (Q : M3) (hQ : Q.IsRot) {f g : Fld} (h : QTurn Q f g) (i j : Nat)
    (hi : i < f.mesh.nAt 1) (hj : j < f.mesh.nAt 0) :
    tcdBLReal sq g [i, j] = tcdBLReal sq f [j, f.mesh.nAt 1 - 1 - i] := by
  show tcdBLAtK omegaR (orientation sq g) i j = tcdBLAtK omegaR (orientation sq f) j (f.mesh.nAt 1 - 1 - i)
  rw [tcdBLAtK_turn omegaR (h.orientation sq) i j hi hj, orientation_rotF sq Q hQ.1, tcdBLAtK_rotF omegaR Q hQ]
  rfl

/-- The angle with the real arccosine: for every field, direction and cell, `arccos` of the model's
clipped dot product lies in `[0, π]`. -/
theorem angle_range_real (sq : Rat → Rat) (f : Fld) (ax : Nat) (i : List Nat) :
    0 ≤ Real.arccos ((nbDot sq f ax i : Rat) : ℝ) ∧ Real.arccos ((nbDot sq f ax i : Rat) : ℝ) ≤ Real.pi :=
  arccos_range _

/-- The homogeneity hypothesis `√(s²x) = s·√x` of the rescaling theorems follows from `sq` being a
non-negative square root at the two arguments (as the real square root is): the rescaling
invariance of both densities for positive factors and an exact square root on the occurring norms. -/
theorem tcd_scale_invariant_exact_sqrt (sq : Rat → Rat) (pi : Rat) (Om : Tri → Rat) (s : List Nat → Rat) (f : Fld)
    (hs : ∀ i, 0 < s i)
    (h1 : ∀ i, 0 ≤ sq (cellV f i).normSq ∧ sq (cellV f i).normSq * sq (cellV f i).normSq = (cellV f i).normSq)
    (h2 : ∀ i, 0 ≤ sq (s i * s i * (cellV f i).normSq) ∧
      sq (s i * s i * (cellV f i).normSq) * sq (s i * s i * (cellV f i).normSq) = s i * s i * (cellV f i).normSq)
    (hz : ∀ i, isZeroNorm (s i * sq (cellV f i).normSq) = isZeroNorm (sq (cellV f i).normSq))
    (m : Method) (h3 : f.nvdim = 3) (hd : f.mesh.ndim = 2) (hm : m ≠ .other) :
    tcd sq pi Om (scaleF s f) m = tcd sq pi Om f m :=
  tcd_scale_invariant sq pi Om s f (fun i => (hs i).ne')
    (fun i => sq_homogeneous_of_exact sq (s i) _ (hs i) (h1 i).1 (h1 i).2 (h2 i).1 (h2 i).2) hz m h3 hd hm

/-- the hypotheses of `tcd_scale_invariant_exact_sqrt` on `fEx` (`(3,4,0)` everywhere), factor 2, with
the exact square-root table `sqEx` -/
example : (∀ i, (0 : Rat) < (fun _ : List Nat => (2 : Rat)) i) ∧
    (∀ i, 0 ≤ sqEx (cellV fEx i).normSq ∧ sqEx (cellV fEx i).normSq * sqEx (cellV fEx i).normSq = (cellV fEx i).normSq) ∧
    (∀ i, 0 ≤ sqEx (2 * 2 * (cellV fEx i).normSq) ∧
      sqEx (2 * 2 * (cellV fEx i).normSq) * sqEx (2 * 2 * (cellV fEx i).normSq) = 2 * 2 * (cellV fEx i).normSq) := by
  refine ⟨fun _ => by norm_num, fun i => ?_, fun i => ?_⟩ <;>
  · simp only [cellV, fEx, NDA.const, V3.ofList, V3.normSq, V3.dot, sqEx]
    norm_num

/-! ## The cuboid sum rule, composed -/

/-- Sum rule with the trace hypothesis only where the tensor is defined (the cells of the `2n−1`
displacement grid). -/
theorem cuboid_sum_rule_grid (T : NDA (List Rat)) (m : Mesh) (M : Rat)
    (hT : ∀ j0 j1 j2, j0 < 2 * m.nAt 0 - 1 → j1 < 2 * m.nAt 1 - 1 → j2 < 2 * m.nAt 2 - 1 →
      (T.get [j0, j1, j2]).getD 0 0 + (T.get [j0, j1, j2]).getD 1 0 + (T.get [j0, j1, j2]).getD 2 0
      = if j0 = m.nAt 0 - 1 ∧ j1 = m.nAt 1 - 1 ∧ j2 = m.nAt 2 - 1 then -1 else 0)
    (q0 q1 q2 : Nat) (h0 : q0 < m.nAt 0) (h1 : q1 < m.nAt 1) (h2 : q2 < m.nAt 2) :
    linConv T (uniF m M 0) 0 [q0, q1, q2] + linConv T (uniF m M 1) 1 [q0, q1, q2]
      + linConv T (uniF m M 2) 2 [q0, q1, q2] = -M :=
  cuboid_sum_inrange T m M hT q0 q1 q2 h0 h1 h2

/-- THE SUM RULE THROUGH `demag_field` AND THE NEWELL TENSOR.  For the model's tensor of
`demag_tensor(mesh)` evaluated with any rational leaf functions satisfying the arctangent identity
(`tensorQ`), `demag_field` accepts the three uniformly magnetised fields (`M` along x, y, z) of a
well-formed 3-d mesh with axes `x, y, z`, and at EVERY cell the three field components along the
respective magnetisation add up to `−M`; hence so do their sums over all cells, i.e. the three mean
demagnetising field components sum to `−M` — all cuboid aspect ratios, all cell edges. -/
theorem demag_field_cuboid_sum (asinh atan sqrt : Rat → Rat) (pi : Rat) (hpi : pi ≠ 0) (m : Mesh) (hm : m.Inv)
    (h3 : m.ndim = 3) (hdims : m.region.dims = ["x", "y", "z"]) (M : Rat)
    (hat : ∀ a b c : Rat, 0 < a → 0 < b → 0 < c →
      atan (b * c / (a * sqrt (a ^ 2 + b ^ 2 + c ^ 2))) + atan (c * a / (b * sqrt (a ^ 2 + b ^ 2 + c ^ 2)))
        + atan (a * b / (c * sqrt (a ^ 2 + b ^ 2 + c ^ 2))) = pi / 2) :
    ∃ gx gy gz, demagField (tensorQ asinh atan sqrt pi m) (uniF m M 0) = .ok gx ∧
      demagField (tensorQ asinh atan sqrt pi m) (uniF m M 1) = .ok gy ∧
      demagField (tensorQ asinh atan sqrt pi m) (uniF m M 2) = .ok gz ∧
      (∀ q0 q1 q2, q0 < m.nAt 0 → q1 < m.nAt 1 → q2 < m.nAt 2 →
        (gx.data.get [q0, q1, q2]).getD 0 0 + (gy.data.get [q0, q1, q2]).getD 1 0 + (gz.data.get [q0, q1, q2]).getD 2 0 = -M) ∧
      sum3 (m.nAt 0) (m.nAt 1) (m.nAt 2) (fun q0 q1 q2 => (gx.data.get [q0, q1, q2]).getD 0 0)
        + sum3 (m.nAt 0) (m.nAt 1) (m.nAt 2) (fun q0 q1 q2 => (gy.data.get [q0, q1, q2]).getD 1 0)
        + sum3 (m.nAt 0) (m.nAt 1) (m.nAt 2) (fun q0 q1 q2 => (gz.data.get [q0, q1, q2]).getD 2 0)
        = -M * ((m.nAt 0 : Rat) * ((m.nAt 1 : Rat) * (m.nAt 2 : Rat))) := by
  obtain ⟨gx, hx, _, _, vx⟩ := demagField_uniF (tensorQ asinh atan sqrt pi m) m M 0 h3 hdims rfl
  obtain ⟨gy, hy, _, _, vy⟩ := demagField_uniF (tensorQ asinh atan sqrt pi m) m M 1 h3 hdims rfl
  obtain ⟨gz, hz, _, _, vz⟩ := demagField_uniF (tensorQ asinh atan sqrt pi m) m M 2 h3 hdims rfl
  have cell : ∀ q0 q1 q2, q0 < m.nAt 0 → q1 < m.nAt 1 → q2 < m.nAt 2 →
      (gx.data.get [q0, q1, q2]).getD 0 0 + (gy.data.get [q0, q1, q2]).getD 1 0 + (gz.data.get [q0, q1, q2]).getD 2 0 = -M := by
    intro q0 q1 q2 h0 h1 h2
    rw [vx 0 (by omega) q0 q1 q2 h0 h1 h2, vy 1 (by omega) q0 q1 q2 h0 h1 h2, vz 2 (by omega) q0 q1 q2 h0 h1 h2]
    exact cuboid_sum_inrange _ m M (fun j0 j1 j2 b0 b1 b2 => tensorQ_trace asinh atan sqrt pi hpi m hm h3 hat j0 j1 j2 b0 b1 b2)
      q0 q1 q2 h0 h1 h2
  refine ⟨gx, gy, gz, hx, hy, hz, cell, ?_⟩
  rw [← sum3_add, ← sum3_add, sum3_congr _ _ _ _ (fun _ _ _ => -M) (fun q0 q1 q2 h0 h1 h2 => cell q0 q1 q2 h0 h1 h2),
    sum3_const]
  ring

/-- −M/3 EACH FOR A CUBE, THROUGH `demag_field` AND THE NEWELL TENSOR.  For a well-formed mesh with
equal counts `n` and equal cell edges along x, y, z, the model's tensor (`tensorQ`, any rational
leaves with the arctangent identity) has the cyclic symmetry `N_yy(j₀,j₁,j₂) = N_xx(j₁,j₂,j₀)`,
`N_zz(j₀,j₁,j₂) = N_xx(j₂,j₀,j₁)`, and for each axis `a` the demagnetising field component along
the magnetisation, summed over all `n³` cells, is `−M·n³/3`: mean `−M/3` each. -/
theorem demag_field_cube_third (asinh atan sqrt : Rat → Rat) (pi : Rat) (hpi : pi ≠ 0) (m : Mesh) (hm : m.Inv)
    (h3 : m.ndim = 3) (hdims : m.region.dims = ["x", "y", "z"]) (M : Rat) (n : Nat)
    (hn0 : m.nAt 0 = n) (hn1 : m.nAt 1 = n) (hn2 : m.nAt 2 = n)
    (hc1 : m.cellAt 1 = m.cellAt 0) (hc2 : m.cellAt 2 = m.cellAt 0)
    (hat : ∀ a b c : Rat, 0 < a → 0 < b → 0 < c →
      atan (b * c / (a * sqrt (a ^ 2 + b ^ 2 + c ^ 2))) + atan (c * a / (b * sqrt (a ^ 2 + b ^ 2 + c ^ 2)))
        + atan (a * b / (c * sqrt (a ^ 2 + b ^ 2 + c ^ 2))) = pi / 2)
    (a : Nat) (ha : a < 3) :
    ∃ g, demagField (tensorQ asinh atan sqrt pi m) (uniF m M a) = .ok g ∧
      sum3 n n n (fun q0 q1 q2 => (g.data.get [q0, q1, q2]).getD a 0) = -M * (n : Rat) ^ 3 / 3 := by
  obtain ⟨g, hg, _, _, vg⟩ := demagField_uniF (tensorQ asinh atan sqrt pi m) m M a h3 hdims rfl
  refine ⟨g, hg, ?_⟩
  rw [sum3_congr n n n _ (fun q0 q1 q2 => linConv (tensorQ asinh atan sqrt pi m) (uniF m M a) a [q0, q1, q2])
    (fun q0 q1 q2 h0 h1 h2 => vg a ha q0 q1 q2 (by omega) (by omega) (by omega))]
  apply cube_third_inrange _ m M n hn0 hn1 hn2 _ _ a ha
  · intro j0 j1 j2 b0 b1 b2
    have := tensorQ_trace asinh atan sqrt pi hpi m hm h3 hat j0 j1 j2 (by omega) (by omega) (by omega)
    rw [hn0, hn1, hn2] at this
    exact this
  · intro j0 j1 j2 _ _ _
    exact tensorQ_cubic asinh atan sqrt pi m n hn0 hn1 hn2 hc1 hc2 j0 j1 j2

/-- a cube: one cell, edges 1 (the hypotheses of `demag_field_cube_third` on the mesh) -/
example : m1.Inv ∧ m1.ndim = 3 ∧ m1.region.dims = ["x", "y", "z"] ∧ m1.nAt 0 = 1 ∧ m1.nAt 1 = 1 ∧ m1.nAt 2 = 1 ∧
    m1.cellAt 1 = m1.cellAt 0 ∧ m1.cellAt 2 = m1.cellAt 0 :=
  ⟨mesh_inv_of_invB _ (by decide +kernel), rfl, rfl, rfl, rfl, rfl, by decide +kernel, by decide +kernel⟩

/-- leaf functions with the arctangent identity exist (`atan ≡ 1/2`, `pi = 3`) -/
example : ∀ a b c : Rat, 0 < a → 0 < b → 0 < c →
    (fun _ : Rat => (1 : Rat) / 2) (b * c / (a * (fun x : Rat => x) (a ^ 2 + b ^ 2 + c ^ 2)))
      + (fun _ : Rat => (1 : Rat) / 2) (c * a / (b * (fun x : Rat => x) (a ^ 2 + b ^ 2 + c ^ 2)))
      + (fun _ : Rat => (1 : Rat) / 2) (a * b / (c * (fun x : Rat => x) (a ^ 2 + b ^ 2 + c ^ 2))) = (3 : Rat) / 2 := by
  intros; norm_num

/-! ## `demag_field` through the transforms: the convolution theorem -/

/-- THE CONVOLUTION THEOREM for C11's model of `scipy.fft.fftn / ifftn` (the n-dimensional DFT over any
commutative ring with roots of unity): the transform of a circular convolution over the box is the
product of the transforms, and `ifftn(fftn(a)·fftn(b))` is the circular convolution — any number
of axes, any counts. -/
theorem convolution_theorem {R : Type} [CommRing R] (ρs : List (C11.Root R)) (ns : List Nat) (hρ : C11.Roots ns ρs)
    (a b : List Nat → R) :
    (∀ m, C11.dftN ρs ns (cconvN ns a b) m = C11.dftN ρs ns a m * C11.dftN ρs ns b m) ∧
    ∀ j, inRange ns j = true →
      C11.idftN ρs ns (fun k => C11.dftN ρs ns a k * C11.dftN ρs ns b k) j = cconvN ns a b j :=
  ⟨fun m => dftN_cconvN ρs ns hρ a b m, fun j hj => idftN_mul_dftN ρs ns hρ a b j hj⟩

/-- `demag_field` AS THE CODE COMPUTES IT IS THE CONVOLUTION.  The code-shaped model `demagFieldFFT`
(zero-pad the magnetisation, C11's `fftn` with its shifts, the nine products with the tensor spectrum,
C11's `ifftn`, crop at `n−1`; tied to `discretisedfield.tools.demag_field` by the correspondence
run) over any commutative ring with roots of unity of the orders `2n−1` and any ring embedding `ι` of
the rationals: it accepts exactly when `demagField` (the circular-convolution model) accepts, and
then every component of every cell is `ι` of `demagField`'s value — which is the linear convolution
(`demag_field_linear_convolution`). -/
theorem demag_field_fft_is_convolution {R : Type} [CommRing R] (ι : ℚ →+* R) (ρs : List (C11.Root R))
    (T : NDA (List Rat)) (f : Fld)
    (hρ : C11.Roots [2 * f.mesh.nAt 0 - 1, 2 * f.mesh.nAt 1 - 1, 2 * f.mesh.nAt 2 - 1] ρs) :
    (∀ g, demagField T f = .ok g →
      ∃ arr, demagFieldFFT (⇑ι) ρs (tensorSpectrum (⇑ι) ρs T) f = .ok (f.mesh, arr) ∧ arr.shape = g.data.shape ∧
        ∀ a, a < 3 → ∀ q0 q1 q2, q0 < f.mesh.nAt 0 → q1 < f.mesh.nAt 1 → q2 < f.mesh.nAt 2 →
          C11.compA arr a [q0, q1, q2] = ι ((g.data.get [q0, q1, q2]).getD a 0)) ∧
    (∀ e, demagField T f = .error e → ∃ e', demagFieldFFT (⇑ι) ρs (tensorSpectrum (⇑ι) ρs T) f = .error e') := by
  -- both models test the same four things (`demagField_closed`, `demagFieldFFT_closed`; the spectrum has the tensor's shape);
  -- in the accepting branch the claim is `demagFFTArr_get`
  rw [demagField_closed, demagFieldFFT_closed]
  by_cases hacc : DemagAcc T.shape f
  · rw [if_pos hacc, if_pos (show DemagAcc (tensorSpectrum (⇑ι) ρs T).shape f from hacc)]
    refine ⟨fun g hg => ?_, fun e he => (by cases he)⟩
    rw [← Except.ok.inj hg]
    refine ⟨_, rfl, rfl, fun a ha q0 q1 q2 h0 h1 h2 => ?_⟩
    show C11.compA (demagFFTArr ρs (tensorSpectrum (⇑ι) ρs T) (padArr (⇑ι) f)) a
        [q0 + (f.mesh.nAt 0 - 1), q1 + (f.mesh.nAt 1 - 1), q2 + (f.mesh.nAt 2 - 1)]
      = ι ((tab 3 fun a => circConv T f a
          [q0 + (f.mesh.nAt 0 - 1), q1 + (f.mesh.nAt 1 - 1), q2 + (f.mesh.nAt 2 - 1)]).getD a 0)
    rw [getD_tab _ _ _ _ ha]
    exact demagFFTArr_get ι ρs T f hacc.2.2.2 hρ a ha _ _ _ (by omega) (by omega) (by omega)
  · rw [if_neg hacc, if_neg (show ¬ DemagAcc (tensorSpectrum (⇑ι) ρs T).shape f from hacc)]
    exact ⟨fun g hg => (by cases hg), fun e _ => ⟨_, rfl⟩⟩

/-- roots of unity of the required orders exist (ℂ), for every mesh with positive counts -/
example (f : Fld) (h0 : 0 < f.mesh.nAt 0) (h1 : 0 < f.mesh.nAt 1) (h2 : 0 < f.mesh.nAt 2) :
    C11.Roots [2 * f.mesh.nAt 0 - 1, 2 * f.mesh.nAt 1 - 1, 2 * f.mesh.nAt 2 - 1]
      ([2 * f.mesh.nAt 0 - 1, 2 * f.mesh.nAt 1 - 1, 2 * f.mesh.nAt 2 - 1].map C11.cRoot) :=
  C11.cRoots _ (by intro n hn; simp only [List.mem_cons, List.not_mem_nil, or_false] at hn; omega)

/-! ## Acceptance and further refusals -/

/-- Every 3-component field on a 2-d mesh is accepted by both density methods and by
`topological_charge`; every well-formed 3-d mesh is accepted by both tensor builders, which return
the same tensor mesh. -/
theorem tools_accept (sq : Rat → Rat) (pi : Rat) (Om : Tri → Rat) :
    (∀ (f : Fld) (m : Method), f.nvdim = 3 → f.mesh.ndim = 2 → m ≠ .other →
      (∃ q, tcd sq pi Om f m = .ok q ∧ q.mesh = f.mesh ∧ q.valid = f.valid ∧ q.nvdim = 1) ∧
      ∀ a, ∃ c, charge sq pi Om f m a = .ok c) ∧
    (∀ (m : Mesh) (fb : Bool), m.Inv → m.ndim = 3 →
      ∃ tm g, demagTensor fb pi m = .ok (tm, g) ∧ tensorMesh m = .ok tm ∧ tm.n = tensorShape m ∧ tm.Inv) := by
  constructor
  · intro f m h3 h2 hm
    have ht := tcd_succeeds sq pi Om f m h3 h2 hm
    refine ⟨⟨_, ht, rfl, rfl, rfl⟩, fun a => ⟨_, charge_of_tcd sq pi Om f _ m a ht⟩⟩
  · intro m fb hm h3
    obtain ⟨tm, htm, _, _⟩ := tensorMesh_ok m hm
    obtain ⟨hi, hn⟩ := tensorMesh_inv m tm hm h3 htm
    exact ⟨tm, _, demagTensor_ok fb pi h3 htm, htm, hn, hi⟩

/-- The demagnetisation tools refuse what they cannot handle: a mesh that is not 3-d (both tensor
builders); for `demag_field` a magnetisation on a mesh that is not 3-d, with other than 3
components, with axes not named `x, y, z`, or a tensor of the wrong shape. -/
theorem demag_refusals (pi : Rat) (T : NDA (List Rat)) (f : Fld) :
    (∀ (m : Mesh) (fb : Bool), m.ndim ≠ 3 → ∃ e, demagTensor fb pi m = .error e) ∧
    ((f.mesh.ndim ≠ 3 ∨ f.nvdim ≠ 3 ∨ f.mesh.region.dims ≠ ["x", "y", "z"] ∨
      T.shape ≠ [2 * f.mesh.nAt 0 - 1, 2 * f.mesh.nAt 1 - 1, 2 * f.mesh.nAt 2 - 1]) →
      ∃ e, demagField T f = .error e) := by
  constructor
  · exact fun m fb hm => ⟨_, demagTensor_err fb pi m hm⟩
  · intro hc
    refine err_of_not_ok _ fun g h => ?_
    obtain ⟨a, b, c, d⟩ := (demagField_accepts_iff T f).mp ⟨g, h⟩
    rcases hc with hc | hc | hc | hc <;> contradiction

/-! ## Accepted ⇔ well-formed, tool by tool -/

/-- `topological_charge_density` and `topological_charge` (absolute or not) accept a field IF AND ONLY IF it has
three components, lives on a 2-d mesh and the method is one of the two known ones — nothing else about the field
(mask, boundary conditions, zero vectors, labels) can make either method refuse; both methods refuse exactly the
same fields. -/
theorem tcd_ok_iff (sq : Rat → Rat) (pi : Rat) (Om : Tri → Rat) (f : Fld) (m : Method) (a : Bool) :
    ((∃ q, tcd sq pi Om f m = .ok q) ↔ (f.nvdim = 3 ∧ f.mesh.ndim = 2 ∧ m ≠ .other)) ∧
    ((∃ c, charge sq pi Om f m a = .ok c) ↔ (f.nvdim = 3 ∧ f.mesh.ndim = 2 ∧ m ≠ .other)) ∧
    ((∃ q, tcd sq pi Om f .continuous = .ok q) ↔ (∃ q, tcd sq pi Om f .bergLuescher = .ok q)) := by
  refine ⟨tcd_accepts_iff sq pi Om f m, charge_accepts_iff sq pi Om f m a, ?_⟩
  rw [tcd_accepts_iff, tcd_accepts_iff]
  -- both sides: `nvdim = 3 ∧ ndim = 2 ∧ True`
  simp

/-- `emergent_magnetic_field` accepts exactly the three-component fields on 3-d meshes; `count_bps` exactly those
of them whose named direction exists and has at least two cells (the cumulative integral along a single cell is
refused by `Field.integrate(cumulative=True)`'s result being a single number). -/
theorem emergent_count_ok_iff (sq : Rat → Rat) (pi : Rat) (f : Fld) (dir : String) :
    ((∃ e, emergent f = .ok e) ↔ (f.nvdim = 3 ∧ f.mesh.ndim = 3)) ∧
    ((∃ r, countBps sq pi f dir = .ok r) ↔
      (f.mesh.ndim = 3 ∧ f.nvdim = 3 ∧ ∃ ax, indexOf? f.mesh.region.dims dir = some ax ∧ 2 ≤ f.mesh.nAt ax)) :=
  ⟨⟨fun ⟨_, he⟩ => ⟨(emergent_ok he).1, (emergent_ok he).2.1⟩, fun ⟨h3, hd⟩ => ⟨_, emergent_eq f h3 hd⟩⟩,
    countBps_accepts_iff sq pi f dir⟩

/-- `neighbouring_cell_angle` on a well-formed mesh (any number of dimensions) accepts exactly: three components,
units `rad` or `deg`, an existing direction with at least two cells. -/
theorem angle_ok_iff (sq acos deg : Rat → Rat) (f : Fld) (dir units : String) (hm : f.mesh.Inv) :
    (∃ g, neighbourAngle sq acos deg f dir units = .ok g) ↔
      (f.nvdim = 3 ∧ (units = "rad" ∨ units = "deg") ∧
        ∃ ax, indexOf? f.mesh.region.dims dir = some ax ∧ 2 ≤ f.mesh.nAt ax) := by
  constructor
  · rintro ⟨g, hg⟩
    obtain ⟨h3, hu, ax, hax, hmesh, _⟩ := neighbourAngle_inv sq acos deg f g dir units hg
    exact ⟨h3, hu, ax, hax, angleMesh_two_le f.mesh _ hm ax (indexOf_lt_ndim hm hax) hmesh⟩
  · rintro ⟨h3, hu, ax, hax, h2⟩
    obtain ⟨g, _, hg, _⟩ := neighbourAngle_ok sq acos deg f dir units ax h3 hm hax hu h2
    exact ⟨g, hg⟩

/-- both tensor builders accept a well-formed mesh iff it is 3-d; `demag_field` accepts iff the magnetisation has
three components on a 3-d mesh with axes `x, y, z` and the tensor has the shape of the `2n−1` grid. -/
theorem demag_ok_iff (pi : Rat) (T : NDA (List Rat)) (f : Fld) (m : Mesh) (hm : m.Inv) (fb : Bool) :
    ((∃ r, demagTensor fb pi m = .ok r) ↔ m.ndim = 3) ∧
    ((∃ g, demagField T f = .ok g) ↔
      (f.mesh.ndim = 3 ∧ f.nvdim = 3 ∧ f.mesh.region.dims = ["x", "y", "z"] ∧
        T.shape = [2 * f.mesh.nAt 0 - 1, 2 * f.mesh.nAt 1 - 1, 2 * f.mesh.nAt 2 - 1])) := by
  refine ⟨⟨fun ⟨r, hr⟩ => ?_, fun h3 => ?_⟩, demagField_accepts_iff T f⟩
  · by_contra h
    rw [demagTensor_err fb pi m h] at hr
    cases hr
  · obtain ⟨tm, htm, _⟩ := tensorMesh_ok m hm
    exact ⟨_, demagTensor_ok fb pi h3 htm⟩

/-! ## Reversal without hypotheses on intermediate results -/

/-- REVERSAL, TOTAL FORM: for every field (accepted or not), method and leaf that is odd in the triple product,
`topological_charge` of the reversed field is the negated charge — or the same refusal — and the absolute charge is
literally the same result. -/
theorem charge_reversal_total (sq : Rat → Rat) (pi : Rat) (Om : Tri → Rat)
    (hOm : ∀ tr, tr.t ≠ 0 → Om (flipT tr) = -Om tr) (f : Fld) (m : Method) :
    charge sq pi Om (negF f) m false = (charge sq pi Om f m false).map (fun c => -c) ∧
    charge sq pi Om (negF f) m true = charge sq pi Om f m true := by
  by_cases hacc : TcdAcc f m
  · obtain ⟨c, hc⟩ := (charge_accepts_iff sq pi Om f m false).mpr hacc
    obtain ⟨ca, hca⟩ := (charge_accepts_iff sq pi Om f m true).mpr hacc
    obtain ⟨r1, r2⟩ := charge_reversal sq pi Om hOm f m c ca hc hca
    rw [r1, r2, hc, hca]
    exact ⟨rfl, rfl⟩
  · rw [charge_err sq pi Om f m false hacc, charge_err sq pi Om f m true hacc, charge_err sq pi Om (negF f) m false hacc,
      charge_err sq pi Om (negF f) m true hacc]
    exact ⟨rfl, rfl⟩

/-! ## The cuboid sum rule with the real tensor -/

/-- THE SUM RULE WITH THE REAL NEWELL TENSOR (no hypothesis on a leaf).  `demagUniformR pi m M a q` is component `a`
at cell `q` of the linear convolution — what `demag_field` computes, `demag_field_fft_is_convolution` — of the
model's tensor of `demag_tensor(mesh)`, evaluated with the real `arcsinh`, `arctan`, `sqrt`, with the uniform
magnetisation `M e_a`.  At EVERY cell of EVERY well-formed 3-d mesh (all aspect ratios, all cell edges) the three
components along the respective magnetisation add up to `−M·π/pi` (`pi` the rational the code uses for `np.pi`:
`−M` up to its rounding); hence so do the three mean demagnetising field components. -/
theorem cuboid_sum_rule_real (pi : Rat) (hpi : pi ≠ 0) (m : Mesh) (hm : m.Inv) (h3 : m.ndim = 3) (M : ℝ) (q0 q1 q2 : Nat)
    (h0 : q0 < m.nAt 0) (h1 : q1 < m.nAt 1) (h2 : q2 < m.nAt 2) :
    demagUniformR pi m M 0 q0 q1 q2 + demagUniformR pi m M 1 q0 q1 q2 + demagUniformR pi m M 2 q0 q1 q2
      = -M * (Real.pi / (pi : ℝ)) := by
  have h := uniConv_sum (fun j0 j1 j2 c => tensorR pi m [j0, j1, j2] c) (m.nAt 0) (m.nAt 1) (m.nAt 2)
    (-(Real.pi / (pi : ℝ))) M (tensorR_trace pi hpi m hm h3) q0 q1 q2 h0 h1 h2
  rw [neg_mul, mul_comm] at h
  rw [neg_mul]
  exact h

/-- −M/3 EACH FOR A CUBE, WITH THE REAL TENSOR: for a well-formed mesh with equal counts `n` and equal cell edges the
real tensor has the cyclic symmetry `N_yy(j₀,j₁,j₂) = N_xx(j₁,j₂,j₀)`, `N_zz(j₀,j₁,j₂) = N_xx(j₂,j₀,j₁)`, and each of the
three demagnetising field components along the magnetisation, summed over all `n³` cells, is `−M·(π/pi)·n³/3`:
mean `−M/3` each (up to the rounding of `np.pi`). -/
theorem cube_third_rule_real (pi : Rat) (hpi : pi ≠ 0) (m : Mesh) (hm : m.Inv) (h3 : m.ndim = 3) (M : ℝ) (n : Nat)
    (hn0 : m.nAt 0 = n) (hn1 : m.nAt 1 = n) (hn2 : m.nAt 2 = n)
    (hc1 : m.cellAt 1 = m.cellAt 0) (hc2 : m.cellAt 2 = m.cellAt 0) (a : Nat) (ha : a < 3) :
    ∑ q0 ∈ Finset.range n, ∑ q1 ∈ Finset.range n, ∑ q2 ∈ Finset.range n, demagUniformR pi m M a q0 q1 q2
      = -M * (Real.pi / (pi : ℝ)) * (n : ℝ) ^ 3 / 3 := by
  have h := uniConv_cube_third (fun j0 j1 j2 c => tensorR pi m [j0, j1, j2] c) n (-(Real.pi / (pi : ℝ))) M
    (by have := tensorR_trace pi hpi m hm h3; rwa [hn0, hn1, hn2] at this)
    (fun j0 j1 j2 _ _ _ => tensorR_cubic pi m n hn0 hn1 hn2 hc1 hc2 j0 j1 j2) a ha
  unfold demagUniformR
  rw [hn0, hn1, hn2, show -M * (Real.pi / (pi : ℝ)) = -(Real.pi / (pi : ℝ)) * M by ring]
  exact h

/-- the real-space trace of the real tensor, cell by cell of the displacement grid (real-valued form of `demag_trace_grid`) -/
theorem demag_trace_grid_real (pi : Rat) (hpi : pi ≠ 0) (m : Mesh) (hm : m.Inv) (h3 : m.ndim = 3) (i0 i1 i2 : Nat)
    (b0 : i0 < 2 * m.nAt 0 - 1) (b1 : i1 < 2 * m.nAt 1 - 1) (b2 : i2 < 2 * m.nAt 2 - 1) :
    tensorR pi m [i0, i1, i2] 0 + tensorR pi m [i0, i1, i2] 1 + tensorR pi m [i0, i1, i2] 2
      = if i0 = m.nAt 0 - 1 ∧ i1 = m.nAt 1 - 1 ∧ i2 = m.nAt 2 - 1 then -(Real.pi / (pi : ℝ)) else 0 :=
  tensorR_trace pi hpi m hm h3 i0 i1 i2 b0 b1 b2

/-! ## 2-d slices of 3-d fields -/

/-- "THE FIELD MUST BE SLICED USING `Field.sel`".  A three-component field on a 3-d mesh (constructor state, no
subregions) is refused by both density methods; every plane selection `field.sel(dim = x)` with `x` on the closed
edge is accepted by `Field.sel` (C07's model) and then by both methods; the density lives on the mesh with the
axis removed, with the validity of the slice, and the slice holds in cell `j` the vector and the validity of the
source cell `insertAt j a k`, `k = indexAx a x` the layer containing `x` — so the density of the slice is the
density of that layer of the 3-d field. -/
theorem tcd_plane_selection (sq : Rat → Rat) (pi : Rat) (Om : Tri → Rat) (f : Fld) (hf : C07.FldWF f) (hmi : C07.MetaInv f)
    (hs : f.mesh.subs = []) (h3d : f.mesh.ndim = 3) (hnv : f.nvdim = 3) (dim : String) (a : Nat)
    (hd : f.mesh.region.dim2index dim = .ok a) (x : Rat) (h1 : f.mesh.region.lo a ≤ x) (h2 : x ≤ f.mesh.region.hi a)
    (m : Method) (hm : m ≠ .other) :
    (∃ e, tcd sq pi Om f m = .error e) ∧
    ∃ g q, C07.selFld f dim (.point x) = .ok (.field g) ∧ tcd sq pi Om g m = .ok q ∧
      q.mesh = C07.planeOf f.mesh a ∧ q.mesh.ndim = 2 ∧ q.valid = g.valid ∧
      ∀ j, inRange g.mesh.n j = true →
        cellV g j = cellV f (C07.insertAt j a (f.mesh.indexAx a x)) ∧
        g.valid.get j = f.valid.get (C07.insertAt j a (f.mesh.indexAx a x)) := by
  constructor
  · cases ht : tcd sq pi Om f m with
    | error e => exact ⟨e, rfl⟩
    | ok q =>
      obtain ⟨_, hq2, _⟩ := tcd_ok sq pi Om f q m ht
      omega
  · obtain ⟨g, hg, hmesh, hwf, _⟩ := C07.sel_plane_result f hf hmi hs (by omega) dim a hd x h1 h2
    obtain ⟨a', hd', _, _, hpt⟩ := C07.sel_plane_pointwise f hf.1 dim x g hg
    rw [hd] at hd'
    injection hd' with hd'
    subst hd'
    have ha : a < f.mesh.ndim := C07.dim2index_ndim hf.1 hd
    have hg2 : g.mesh.ndim = 2 := by
      rw [hmesh, (C07.planeOf_inv f.mesh hf.1 a ha (by omega)).2.1, h3d]
    have hg3 : g.nvdim = 3 := by
      obtain ⟨m', d, v, _, hmk⟩ := C07.selFld_ctor f dim (.point x) g hg
      rw [(C07.mkFld_inv m' f d v g hmk).2.2.2.2.2.1, hnv]
    refine ⟨g, _, hg, tcd_succeeds sq pi Om g m hg3 hg2 hm, hmesh, hg2, rfl, ?_⟩
    intro j hj
    obtain ⟨_, hdat, hval⟩ := hpt j hj
    exact ⟨by unfold cellV; rw [hdat], hval⟩

/-- the hypotheses on the 3-d field `f3` (2 × 1 × 2 cells): the plane `z = 3/4` -/
example : C07.FldWF f3 ∧ C07.MetaInv f3 ∧ f3.mesh.subs = [] ∧ f3.mesh.ndim = 3 ∧ f3.nvdim = 3 ∧
    f3.mesh.region.dim2index "z" = .ok 2 ∧ f3.mesh.region.lo 2 ≤ (3 : Rat) / 4 ∧ (3 : Rat) / 4 ≤ f3.mesh.region.hi 2 :=
  ⟨⟨mesh_inv_of_invB _ (by decide +kernel), rfl, rfl⟩, by unfold C07.MetaInv; rfl, rfl, rfl, rfl, by decide +kernel,
    by decide +kernel, by decide +kernel⟩

/-! ## Emergent field and Bloch-point count under rescaling of the mesh and of the vectors -/

/-- `emergent_magnetic_field` under translation and scaling of the mesh by `λ`: accepted alike, the result lives on
the translated and scaled mesh with the same validity and holds `F/λ²` (two derivatives); and multiplying every
vector by `s` multiplies it by `s³` (the tool does not normalise) — every mask, periodic or open directions. -/
theorem emergent_scaling (lam s : Rat) (t : List Rat) (f e : Fld) (h : emergent f = .ok e) :
    (∃ e', emergent (affF lam t f) = .ok e' ∧ e'.mesh = affMesh lam t e.mesh ∧ e'.valid = e.valid ∧
      e'.data.shape = e.data.shape ∧ e'.nvdim = 3 ∧
      ∀ i c, c < 3 → (e'.data.get i).getD c 0 = (e.data.get i).getD c 0 / (lam * lam)) ∧
    (∃ e', emergent (scaleF (fun _ => s) f) = .ok e' ∧ e'.mesh = e.mesh ∧ e'.valid = e.valid ∧
      e'.data.shape = e.data.shape ∧
      ∀ i c, c < 3 → (e'.data.get i).getD c 0 = s * s * s * (e.data.get i).getD c 0) := by
  obtain ⟨h3, hd, rfl⟩ := emergent_ok h
  constructor
  · refine ⟨_, emergent_eq (affF lam t f) h3 ((affMesh_ndim lam t f.mesh).trans hd), emFld_mesh (affF lam t f),
      emFld_valid (affF lam t f), emFld_shape (affF lam t f), rfl, ?_⟩
    intro i c hc
    rw [emFld_comp _ i c hc, emFld_comp _ i c hc, emSpec_affF lam t f _ _ (by omega) (by omega)]
  · -- multiplying every vector by `s` is the linear map `s·1`, of determinant `s³`
    refine ⟨_, emergent_eq (scaleF (fun _ => s) f) h3 hd, emFld_mesh (scaleF (fun _ => s) f), emFld_valid (scaleF (fun _ => s) f),
      emFld_shape (scaleF (fun _ => s) f), ?_⟩
    intro i c hc
    rw [emFld_comp _ i c hc, emFld_comp _ i c hc, scaleF_const_eq_rotF, emSpec_lin, M3.diag_det]

/-- `count_bps` IS UNCHANGED BY TRANSLATING AND RESCALING THE MESH by any `λ ≠ 0`: the emergent field of the
orientation field scales by `1/λ²`, its divergence by `1/λ³`, the two plane integrals by `λ²`, the cumulative
integral by `λ` — the cumulative flux, the local numbers, both counts and the pattern are literally the same, and
so is a refusal.  Every direction, every mask, anisotropic cells. -/
theorem count_bps_mesh_invariant (sq : Rat → Rat) (pi : Rat) (lam : Rat) (hl : lam ≠ 0) (t : List Rat) (f : Fld) (dir : String)
    (hdl : f.mesh.region.dims.length = f.mesh.ndim) :
    countBps sq pi (affF lam t f) dir = countBps sq pi f dir := by
  refine countBps_congr sq pi dir (affMesh_ndim lam t f.mesh) rfl rfl (fun _ => rfl) fun hd ax hax => ?_
  have haxl : ax < 3 := by
    have := (indexOf?_some f.mesh.region.dims dir ax hax).1
    omega
  refine fluxE_aff lam hl t ax haxl (forceF (emFld (forceF (orientation sq f)))) _ hd (compRel_force_div lam t _ _ rfl rfl ?_)
  unfold emFld
  show (⟨(forceF (orientation sq f)).data.shape, _⟩ : NDA (List Rat)) = ⟨(forceF (orientation sq f)).data.shape, _⟩
  congr 1
  funext i
  have e2 : forceF (orientation sq (affF lam t f)) = affF lam t (forceF (orientation sq f)) := rfl
  have o1 : (forceF (orientation sq f)).mesh.ndim = 3 := hd
  rw [e2, emSpec_affF lam t _ 1 2 (by omega) (by omega), emSpec_affF lam t _ 2 0 (by omega) (by omega),
    emSpec_affF lam t _ 0 1 (by omega) (by omega)]
  rfl

/-- `count_bps` IS UNCHANGED BY RESCALING THE VECTOR LENGTHS cell by cell (hypotheses as in `orientation_scale`):
it only looks at the orientation field. -/
theorem count_bps_scale_invariant (sq : Rat → Rat) (pi : Rat) (s : List Nat → Rat) (f : Fld) (dir : String)
    (hs : ∀ i, s i ≠ 0)
    (hsq : ∀ i, sq (s i * s i * (cellV f i).normSq) = s i * sq (cellV f i).normSq)
    (hz : ∀ i, isZeroNorm (s i * sq (cellV f i).normSq) = isZeroNorm (sq (cellV f i).normSq)) :
    countBps sq pi (scaleF s f) dir = countBps sq pi f dir :=
  countBps_congr sq pi dir rfl rfl rfl (fun _ => rfl) fun _ ax _ => by
    unfold fluxOf
    rw [orientation_scaleF sq s f (orient_smul_cells sq s f hs hsq hz)]
    rfl

/-- the hypotheses on the concrete 3-d field `f3` (2 × 1 × 2 cells, edges 1, 2, 1/2): well-formed names, accepted along `x` -/
example : f3.mesh.region.dims.length = f3.mesh.ndim ∧ (2 : Rat) ≠ 0 ∧
    (match countBps ratSqrt 3 (affF 2 [1, 0, -1] f3) "x" with | .ok _ => true | .error _ => false) = true :=
  ⟨rfl, by norm_num, by decide +kernel⟩

/-! ## Arithmetic of the Bloch-point count -/

/-- `bp_number_hh + bp_number_tt = bp_number`; `bp_number_tt − bp_number_hh` is the local Bloch-point number
(rounded cumulative flux) at the last cell minus the one at the first — the differences telescope; both counts
are non-negative, there is one local number per cell along the direction, and the run-length pattern
`bp_pattern` decodes to exactly that list.  Any cumulative flux, any `pi`. -/
theorem count_bps_arithmetic (fint : List Rat) (pi : Rat) :
    (bpOf fint pi).hh + (bpOf fint pi).tt = (bpOf fint pi).total ∧
    (bpOf fint pi).tt - (bpOf fint pi).hh
      = (bpOf fint pi).number.getD ((bpOf fint pi).number.length - 1) 0 - (bpOf fint pi).number.getD 0 0 ∧
    0 ≤ (bpOf fint pi).hh ∧ 0 ≤ (bpOf fint pi).tt ∧ (bpOf fint pi).number.length = fint.length ∧
    (bpOf fint pi).pattern.flatMap (fun p => List.replicate p.2 p.1) = (bpOf fint pi).number := by
  unfold bpOf
  simp only [isum_eq_sum]
  obtain ⟨s1, s2⟩ := sum_split (diffs (fint.map fun x => Mesh.roundHalfEven (x / (4 * pi))))
  have hneg := sum_filter_neg_nonpos (diffs (fint.map fun x => Mesh.roundHalfEven (x / (4 * pi))))
  have hpos := sum_filter_pos_nonneg (diffs (fint.map fun x => Mesh.roundHalfEven (x / (4 * pi))))
  have ht := sum_diffs (fint.map fun x => Mesh.roundHalfEven (x / (4 * pi)))
  have habs : (Int.ofNat ((diffs (fint.map fun x => Mesh.roundHalfEven (x / (4 * pi)))).filter (· < 0)).sum.natAbs : Int)
      = -((diffs (fint.map fun x => Mesh.roundHalfEven (x / (4 * pi)))).filter (· < 0)).sum := by
    simp only [Int.ofNat_eq_natCast]
    omega
  rw [habs]
  refine ⟨by omega, by omega, by omega, hpos, by simp, rle_decode _⟩

/-- a flux with one step up and one step down: one tail-to-tail and one head-to-head Bloch point, pattern `0,1,1,0` -/
example : (bpOf [0, 4, 4, 0] 1).tt = 1 ∧ (bpOf [0, 4, 4, 0] 1).hh = 1 ∧ (bpOf [0, 4, 4, 0] 1).total = 2 ∧
    (bpOf [0, 4, 4, 0] 1).pattern = [(0, 1), (1, 2), (0, 1)] := by decide +kernel

/-! ## Symmetry and parities of the demagnetisation tensor -/

/-- `N_ab = N_ba`: the tensor is stored by its six components `xx, yy, zz, xy, xz, yz`, and `demag_field` reads
component `(a, b)` and `(b, a)` from the same slot (`tensor.ft_xy * m_fft.ft_x` in `hy`, `tensor.ft_xy * m_fft.ft_y` in `hx`). -/
theorem demag_tensor_symmetric (a b : Nat) (ha : a < 3) (hb : b < 3) : symIdx a b = symIdx b a ∧ symIdx a b < 6 := by
  have h1 : a = 0 ∨ a = 1 ∨ a = 2 := by omega
  have h2 : b = 0 ∨ b = 1 ∨ b = 2 := by omega
  rcases h1 with rfl | rfl | rfl <;> rcases h2 with rfl | rfl | rfl <;> decide

/-- PARITIES OF THE NEWELL TENSOR: `N_ab(…, −r_e, …) = (−1)^{δ_ae + δ_be} N_ab(…, r_e, …)`.  For every displacement,
all cell edges and every evaluation of the leaves in which `arcsinh` and `arctan` are odd (`OddLeaves`), reflecting
coordinate `e` multiplies component `c` of `_N` (symbolic Newell functions, 64-point stencil, normalisation) by
`paritySign e c`: `+1` for the diagonal components, `−1` for an off-diagonal component that carries the index `e`,
`+1` for the one that does not. -/
theorem demag_tensor_parity {K : Type} [Field K] [CharZero K] (lv : Leaf → K) (h : OddLeaves lv)
    (pi c0 c1 c2 x y z : Rat) (e c : Nat) (he : e < 3) (hc : c < 6) :
    evalK lv ((nAll pi c0 c1 c2 (reflectAt e x y z).1 (reflectAt e x y z).2.1 (reflectAt e x y z).2.2).getD c [])
      = ((paritySign e c : Int) : K) * evalK lv ((nAll pi c0 c1 c2 x y z).getD c []) :=
  nAll_parity lv h pi c0 c1 c2 x y z e c he hc

/-- PARITIES ON THE GRID OF `demag_tensor(mesh)`, WITH THE REAL LEAVES: reflecting index `e` of a cell of the `2n−1`
displacement grid about the central cell (`j_e ↦ 2n_e − 2 − j_e`) multiplies component `c` of the tensor, evaluated
with the real `arcsinh`, `arctan`, `sqrt`, by `paritySign e c` — every well-formed 3-d mesh, every cell. -/
theorem demag_tensor_grid_parity (pi : Rat) (m : Mesh) (hm : m.Inv) (h3 : m.ndim = 3)
    (j0 j1 j2 : Nat) (h0 : j0 < 2 * m.nAt 0 - 1) (h1 : j1 < 2 * m.nAt 1 - 1) (h2 : j2 < 2 * m.nAt 2 - 1)
    (e c : Nat) (he : e < 3) (hc : c < 6) :
    evalK lvR ((tensorArr pi m (reflectIdx m e [j0, j1, j2])).getD c [])
      = ((paritySign e c : Int) : ℝ) * evalK lvR ((tensorArr pi m [j0, j1, j2]).getD c []) :=
  tensorArr_parity lvR lvR_odd pi m hm h3 j0 j1 j2 h0 h1 h2 e c he hc

/-- the parities on the grid with any odd rational leaf functions (the model's `evalTerms`) -/
theorem demag_tensor_grid_parity_rat (asinh atan sqrt : Rat → Rat) (ho1 : ∀ x, asinh (-x) = -asinh x)
    (ho2 : ∀ x, atan (-x) = -atan x) (pi : Rat) (m : Mesh) (hm : m.Inv) (h3 : m.ndim = 3)
    (j0 j1 j2 : Nat) (h0 : j0 < 2 * m.nAt 0 - 1) (h1 : j1 < 2 * m.nAt 1 - 1) (h2 : j2 < 2 * m.nAt 2 - 1)
    (e c : Nat) (he : e < 3) (hc : c < 6) :
    evalTerms asinh atan sqrt ((tensorArr pi m (reflectIdx m e [j0, j1, j2])).getD c [])
      = (paritySign e c : Rat) * evalTerms asinh atan sqrt ((tensorArr pi m [j0, j1, j2]).getD c []) := by
  have := tensorArr_parity (K := Rat) (evalLeaf asinh atan sqrt) (evalLeaf_odd asinh atan sqrt ho1 ho2) pi m hm h3
    j0 j1 j2 h0 h1 h2 e c he hc
  rw [evalK_rat, evalK_rat] at this
  exact this

/-- odd rational leaf functions exist (the identity), and the signs: `N_xy` is odd in `x`, even in `z` -/
example : (∀ x : Rat, id (-x) = -id x) ∧ paritySign 0 3 = -1 ∧ paritySign 2 3 = 1 ∧ paritySign 1 0 = 1 ∧
    reflectIdx m3 0 [0, 0, 1] = [2, 0, 1] := ⟨fun _ => rfl, rfl, rfl, rfl, by decide⟩

/-! ## Quarter turn of a sample with periodic boundary conditions -/

/-- THE PERIODIC DIRECTIONS TURN WITH THE MESH.  After `Mesh.rotate90(a1, a2, k)` with odd `k` in the plane of the two
axes of a 2-d mesh (either order) — `bc` rewritten by the exchange of the two single lower-case axis names
(repo fix be43fa9b) and lower-cased by the constructor — axis 0 of the result is periodic for `Field.diff` iff
axis 1 of the original is, and vice versa, provided the `bc` is what the `bc` setter guarantees (lower case,
accepted) and the plane can turn: both names single lower-case characters, or both axes periodic alike
(`C05.BcTurns`; otherwise the library leaves `bc` with the name, open finding D57). -/
theorem periodic_flags_turn (f g : Fld) (a1 a2 : String) (k : Int) (i1 i2 : Nat)
    (hd : f.mesh.region.dims.length = f.mesh.ndim) (hdup : hasDup f.mesh.region.dims = false) (h2 : f.mesh.ndim = 2)
    (hbl : f.mesh.bc.toLower = f.mesh.bc) (hbok : Mesh.bcOk f.mesh.region.dims f.mesh.bc = true)
    (hi1 : f.mesh.region.dim2index a1 = .ok i1) (hi2 : f.mesh.region.dim2index a2 = .ok i2)
    (hord : (i1 = 0 ∧ i2 = 1) ∨ (i1 = 1 ∧ i2 = 0)) (hk : k % 2 = 1) (ht : C05.BcTurns f 0 1)
    (hdims : g.mesh.region.dims = f.mesh.region.dims) (hbc : g.mesh.bc = (T.rotBc f.mesh.bc a1 a2 k).toLower) :
    periodic g 0 = periodic f 1 ∧ periodic g 1 = periodic f 0 :=
  periodic_after_turn f g a1 a2 k i1 i2 hd hdup h2 hbl hbok hi1 hi2 hord hk ht hdims hbc

/-- EVERY QUARTER TURN OF THE SAMPLE, ANY BOUNDARY CONDITIONS.  `charge_rotate90` without the restriction to open
boundaries: `Field.rotate90` (C12's model `T.rotate90F`) by any odd `k` in the plane of the two axes — named in
either order — of a 2-d three-component field on a mesh with ANY `bc` the setter accepts (periodic along one or
both axes, `neumann`, `dirichlet`, open), whose plane can turn (`C05.BcTurns`), leaves the topological charge
unchanged: both methods (the continuous one differentiates across the periodic seam), absolute or not, every
validity mask, anisotropic cells, any reference point, copying or in-place form. -/
theorem charge_rotate90_periodic (sq : Rat → Rat) (pi : Rat) (Om : Tri → Rat) (f recv g : Fld) (a1 a2 : String) (k : Int)
    (ref : Option (List Rat)) (b : Bool)
    (hf : T.FldInv f) (h2 : f.mesh.ndim = 2) (h3 : f.nvdim = 3) (hlen : ∀ i, (f.data.get i).length = 3)
    (hbl : f.mesh.bc.toLower = f.mesh.bc) (hbok : Mesh.bcOk f.mesh.region.dims f.mesh.bc = true)
    (ht : C05.BcTurns f 0 1) (i1 i2 : Nat)
    (hi1 : f.mesh.region.dim2index a1 = .ok i1) (hi2 : f.mesh.region.dim2index a2 = .ok i2)
    (hord : (i1 = 0 ∧ i2 = 1) ∨ (i1 = 1 ∧ i2 = 0)) (hk : k % 2 = 1)
    (hvd : ∀ vs, f.vdims = some vs → vs.length = 3)
    (hc : (f.rDim a1).bind f.vdimIndex ≠ (f.rDim a2).bind f.vdimIndex)
    (h : T.rotate90F f a1 a2 k ref b = .ok (recv, g)) (m : Method) (a : Bool) :
    charge sq pi Om g m a = charge sq pi Om f m a := by
  obtain ⟨g3, g2, gs, hcase⟩ := rotate90F_quarter_bc ⟨hf, h2, h3, hlen, hi1, hi2, hord, hk, hvd, hc⟩ hbl hbok ht h
  exact charge_turn_either sq pi Om hcase h3 g3 h2 g2 (by rw [hf.2.1]; exact n_eq2 f.mesh hf.1 h2) gs m a

/-- the hypotheses of `charge_rotate90_periodic` on `fQp` (the field `fQ` on the mesh periodic along `x`):
the turn is accepted, and the result is periodic along its second axis -/
example : T.FldInv fQp ∧ fQp.mesh.ndim = 2 ∧ fQp.nvdim = 3 ∧ (∀ i, (fQp.data.get i).length = 3) ∧
    fQp.mesh.bc.toLower = fQp.mesh.bc ∧ Mesh.bcOk fQp.mesh.region.dims fQp.mesh.bc = true ∧ C05.BcTurns fQp 0 1 ∧
    periodic fQp 0 = true ∧ periodic fQp 1 = false ∧
    fQp.mesh.region.dim2index "x" = .ok 0 ∧ fQp.mesh.region.dim2index "y" = .ok 1 ∧
    (∀ vs, fQp.vdims = some vs → vs.length = 3) ∧
    (fQp.rDim "x").bind fQp.vdimIndex ≠ (fQp.rDim "y").bind fQp.vdimIndex ∧
    (match T.rotate90F fQp "x" "y" 1 none false with
      | .ok (_, g) => periodic g 0 == false && periodic g 1 == true | .error _ => false) = true := by
  refine ⟨⟨mesh_inv_of_invB _ (by decide +kernel), rfl, rfl⟩, rfl, rfl, fun _ => rfl, by decide +kernel, by decide +kernel,
    Or.inl ⟨by decide +kernel, by decide +kernel, by decide +kernel, by decide +kernel⟩, by decide +kernel, by decide +kernel,
    by decide +kernel, by decide +kernel, ?_, by decide +kernel, by decide +kernel⟩
  intro vs hvs
  simp only [fQp, fQ] at hvs
  injection hvs with hvs
  rw [← hvs]; rfl

/-! ## Berg–Lüscher integrality -/

/-- DISCRETE STOKES THEOREM on the lattice (any abelian group): the circulations `h(i,j) + v(i+1,j) − h(i,j+1) − v(i,j)`
of all squares of an `m × n` block add up to the circulation around the block — by induction over the rows
and over the squares of a row. -/
theorem lattice_stokes {G : Type} [AddCommGroup G] (h v : Nat → Nat → G) (m n : Nat) :
    ∑ j ∈ Finset.range n, ∑ i ∈ Finset.range m, plaq h v i j
      = ∑ i ∈ Finset.range m, h i 0 + ∑ j ∈ Finset.range n, v m j - ∑ i ∈ Finset.range m, h i n - ∑ j ∈ Finset.range n, v 0 j :=
  plaq_block h v m n

/-- THE LATTICE CHARGE IS THE MEAN OF THE TWO TRIANGULATIONS OF THE SHEET.  For a fully valid field whose
outermost cells all hold the same vector, twice the lattice charge `Σ_cells q·c₀c₁` (leaf valued in any field of
characteristic 0) is the plain sum of the four right triangles `(SW,SE,NW)`, `(SE,NE,SW)`, `(NE,NW,SE)`,
`(NW,SW,NE)` of every lattice square: the weights `1/(area·count)` of `topological_charge_density` are `1/2` per
triangle at inner cells, and at the rim every triangle contains the rim vector twice. -/
theorem bl_charge_two_triangulations {K : Type} [Field K] [CharZero K] (Om : Tri → K) (o : Fld) (r : V3)
    (hv : AllValid o) (hr : UniformRim o r) (hc0 : o.mesh.cellAt 0 ≠ 0) (hc1 : o.mesh.cellAt 1 ≠ 0) :
    2 * ∑ i ∈ Finset.range (o.mesh.nAt 0), ∑ j ∈ Finset.range (o.mesh.nAt 1),
        tcdBLAtK Om o i j * (((o.mesh.cellAt 0 * o.mesh.cellAt 1 : Rat)) : K)
      = ∑ i ∈ Finset.range (o.mesh.nAt 0 - 1), ∑ j ∈ Finset.range (o.mesh.nAt 1 - 1),
          (blAngleK Om (tNE o i j) + blAngleK Om (tNW o (i + 1) j) + blAngleK Om (tSW o (i + 1) (j + 1))
            + blAngleK Om (tSE o i (j + 1))) :=
  charge_as_squares Om o r hv hr hc0 hc1

/-- THE EXACT HYPOTHESIS ON THE SOLID-ANGLE FUNCTION under which the model's
`topological_charge(method="berg-luescher")` is "integral": the leaf `Ω` is, after a homomorphism `φ : ℚ → G`
into an abelian group (for the real formula `ℝ → ℝ/ℤ`), the COBOUNDARY `θ(a,b) + θ(b,c) + θ(c,a)` of an
antisymmetric link function `θ` on the four right triangles of every lattice square (`SquareCob`), and
`θ(r,r) = 0` for the rim vector.  Then on a fully valid sheet with uniform rim `φ(2Q) = 0`, and `φ(Q) = 0` when
the two triangulations of every square give the same angle. -/
theorem bl_charge_coboundary {G : Type} [AddCommGroup G] (φ : Rat →+ G) (sq : Rat → Rat) (pi : Rat) (Om : Tri → Rat)
    (θ : V3 → V3 → G) (f : Fld) (r : V3) (c : Rat) (hs : f.data.shape = [f.mesh.nAt 0, f.mesh.nAt 1])
    (hv : AllValid (orientation sq f)) (hr : UniformRim (orientation sq f) r)
    (hc0 : f.mesh.cellAt 0 ≠ 0) (hc1 : f.mesh.cellAt 1 ≠ 0)
    (hanti : ∀ x y, θ y x = -θ x y) (hrr : θ r r = 0)
    (hcob : ∀ i j, i + 1 < f.mesh.nAt 0 → j + 1 < f.mesh.nAt 1 → SquareCob φ Om θ (orientation sq f) i j)
    (h : charge sq pi Om f .bergLuescher false = .ok c) :
    φ (2 * c) = 0 ∧
    ((∀ i j, i + 1 < f.mesh.nAt 0 → j + 1 < f.mesh.nAt 1 →
      blAngle Om (tNE (orientation sq f) i j) + blAngle Om (tSW (orientation sq f) (i + 1) (j + 1))
        = blAngle Om (tNW (orientation sq f) (i + 1) j) + blAngle Om (tSE (orientation sq f) i (j + 1))) → φ c = 0) := by
  rw [charge_bl_sum sq pi Om f c hs h]
  exact ⟨bl_closed_sum φ Om θ (orientation sq f) r hv hr hc0 hc1 hanti hrr hcob,
    fun hAB => bl_closed_sum_one φ Om θ (orientation sq f) r hv hr hc0 hc1 hanti hrr hcob hAB⟩

/-- the hypotheses of `bl_charge_coboundary` on the skyrmion-like field `fSk` (defined in `Lemmas/C19Examples`; 4 × 4 cells of
size 1 × 2) with the trivial leaf -/
example : fSk.data.shape = [fSk.mesh.nAt 0, fSk.mesh.nAt 1] ∧ AllValid (orientation ratSqrt fSk) ∧
    UniformRim (orientation ratSqrt fSk) ⟨0, 0, 1⟩ ∧ fSk.mesh.cellAt 0 ≠ 0 ∧ fSk.mesh.cellAt 1 ≠ 0 ∧
    (∀ i j, SquareCob (AddMonoidHom.id Rat) (fun _ => 0) (fun _ _ => (0 : Rat)) (orientation ratSqrt fSk) i j) ∧
    (match charge ratSqrt 3 (fun _ => 0) fSk .bergLuescher false with | .ok _ => true | .error _ => false) = true :=
  ⟨rfl, fSk_closed.valid, fSk_closed.rim, fSk_closed.c0, fSk_closed.c1,
    fun _ _ => by unfold SquareCob Cob blAngleK; simp, by decide +kernel⟩

/-- THE REAL SOLID ANGLE IS SUCH A COBOUNDARY.  For unit vectors `a, b, c`, no two antipodal, not in the
exceptional coplanar configuration (`GoodTri`): `2π·bergluescher_angle(a,b,c) ≡ θ(a,b) + θ(b,c) + θ(c,a) (mod 2π)`
with the link angle `θ(a,b) = arg⟨a|b⟩` of the spinor overlap, because
`⟨a|b⟩⟨b|c⟩⟨c|a⟩ = 2λ_aλ_bλ_c · (1 + a·b + b·c + c·a + i·a·(b×c))` with positive `λ`s; the link angle is
antisymmetric and vanishes on `(r, r)`. -/
theorem bl_angle_is_coboundary (a b c : V3) (h : GoodTri a b c) :
    Cob turns omegaR linkAngle a b c ∧ (∀ x y, linkAngle y x = -linkAngle x y) ∧ linkAngle a a = 0 ∧
    link a b * link b c * link c a = ((2 * lam a * lam b * lam c : ℝ) : ℂ) * nC (triOf a b c) ∧
    0 < lam a ∧ 0 < lam b ∧ 0 < lam c :=
  ⟨omegaR_cob a b c h, linkAngle_anti, linkAngle_self a h.1, link_triple a b c h.1 h.2.1 h.2.2.1,
    lam_pos a h.1, lam_pos b h.2.1, lam_pos c h.2.2.1⟩

/-- HALF-INTEGRALITY OF THE LATTICE CHARGE (real formula, no hypothesis on a leaf).  On a closed sheet — all
cells valid, the outermost cells all equal to a unit vector, every cell of the orientation field a unit vector,
no two neighbouring (edge or diagonal) vectors antipodal, no exceptional triangle — twice the Berg–Lüscher
charge `Σ_cells q·c₀c₁` is an integer: `Q = (deg_A + deg_B)/2`, the mean of the degrees of the two
triangulations.  All mesh sizes, all cell edges.  (That `2Q` can be odd is not an artefact of the proof: the real
code returns `±1/2` on the 4 × 4 mesh whose four inner cells hold the corners of a regular tetrahedron.) -/
theorem bl_charge_half_integer (sq : Rat → Rat) (f : Fld) (r : V3) (hs : ClosedSheet (orientation sq f) r) :
    ∃ k : ℤ, 2 * chargeBLReal sq f = k := by
  apply turns_eq_zero
  rw [chargeBLReal_eq]
  exact bl_closed_sum turns omegaR linkAngle (orientation sq f) r hs.valid hs.rim hs.c0 hs.c1 linkAngle_anti
    (linkAngle_self r hs.runit) (fun i j hi hj => squareCob_real _ r hs i j hi hj)

/-- INTEGRALITY OF THE LATTICE CHARGE (real formula).  On a closed sheet that is smooth — every lattice
triangle covers less than a quarter of the sphere, `1 + a·b + b·c + c·a > 0` — the two triangulations of every
square agree and the Berg–Lüscher charge is an integer. -/
theorem bl_charge_integer (sq : Rat → Rat) (f : Fld) (r : V3) (hs : ClosedSheet (orientation sq f) r)
    (hsm : SmoothSheet (orientation sq f)) : ∃ k : ℤ, chargeBLReal sq f = k := by
  apply turns_eq_zero
  rw [chargeBLReal_eq]
  apply bl_closed_sum_one turns omegaR linkAngle (orientation sq f) r hs.valid hs.rim hs.c0 hs.c1 linkAngle_anti
    (linkAngle_self r hs.runit) (fun i j hi hj => squareCob_real _ r hs i j hi hj)
  intro i j hi hj
  -- both triangulations of the square have the circulation of the links as their angle mod 1 …
  obtain ⟨s1, s2⟩ := square_cob turns omegaR linkAngle (orientation sq f) linkAngle_anti i j (squareCob_real _ r hs i j hi hj)
  have hz : turns ((blAngleK omegaR (tNE (orientation sq f) i j) + blAngleK omegaR (tSW (orientation sq f) (i + 1) (j + 1)))
      - (blAngleK omegaR (tNW (orientation sq f) (i + 1) j) + blAngleK omegaR (tSE (orientation sq f) i (j + 1)))) = 0 := by
    rw [map_sub, s1, s2, sub_self]
  obtain ⟨k, hk⟩ := turns_eq_zero _ hz
  -- … and each of the four angles is smaller than a quarter
  obtain ⟨g1, g2, g3, g4⟩ := hs.good i j hi hj
  obtain ⟨m1, m2, m3, m4⟩ := hsm i j hi hj
  have b1 := blAngle_small _ _ _ g1 m1
  have b2 := blAngle_small _ _ _ g2 m2
  have b3 := blAngle_small _ _ _ g3 m3
  have b4 := blAngle_small _ _ _ g4 m4
  rw [← tNW_succ] at b2; rw [← tSW_succ] at b3; rw [← tSE_succ] at b4
  exact small_int_eq _ _ _ _ k b1 b2 b3 b4 hk

/-- the skyrmion-like field `fSk` (4 × 4 cells of size 1 × 2, rim `(0,0,5)`, inner cells `(±2,±2,−1)`, normalised
by `Field.orientation` with the model's square root) is a closed smooth sheet (the real code returns `−1.0`) -/
example : ClosedSheet (orientation ratSqrt fSk) ⟨0, 0, 1⟩ ∧ SmoothSheet (orientation ratSqrt fSk) :=
  ⟨fSk_closed, fSk_smooth⟩

end DFV.C19
