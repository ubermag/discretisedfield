import DFV.Lemmas.C06Line
import DFV.Lemmas.C06CumComp
import DFV.Lemmas.C06Obj
import DFV.Lemmas.C06Ex
/-!
# C06 — integrals and means are cell sums times cell measure, consistent across axes

Property theorems about the model of `Field.integrate`, `Field.mean`, `Mesh.sel(dim)` and
`Mesh.dV` (`DFV/Model/C06.lean`).  Number of dimensions, shape, cell sizes, position of the
mesh, number of components, data, direction and order of directions are universally
quantified.  `WF f` = the mesh satisfies `Mesh.Inv` and the value array has the mesh's shape.
`cget a i c` is component `c` of cell `i`; `sumTo n x = x 0 + … + x (n-1)`;
`nestSum shape g` is the sum of `g` over all multi-indices of the shape.
-/
namespace DFV.C06
open DFV

/-! ## The integral over all directions -/

/-- `integrate()` is, per component, the cell volume times the sum of all cell values
(the model sums NumPy's flat buffer; the theorem turns it into the sum over all
multi-indices, for every shape). -/
theorem integrate_all (f : Fld) :
    integrate f .none false
      = .ok (.vals (tab f.nvdim fun c => dV f.mesh * nestSum f.data.shape fun i => cget f.data i c)) :=
  integrate_none f

/-- the cell volume is the product over the axes of edge length / cell count -/
theorem dV_eq (m : Mesh) : dV m = ratProd (tab m.ndim fun a => m.region.edge a / (m.nAt a : Rat)) := rfl

/-- cell volume × number of cells = volume of the region -/
theorem dV_times_cells (m : Mesh) (hm : m.Inv) :
    dV m * (natProd m.n : Rat) = ratProd m.region.edges := dV_mul_count m hm

/-! ## Directional integrals live on the mesh with that axis removed -/

/-- `integrate(d)` (more than one dimension): the result lives on the mesh with the axis of
`d` removed — corners, dims, units and cell counts of the remaining axes unchanged — keeps
labels and mapping, drops the unit, is valid everywhere, and its value at the reduced index
`i` is the cell length of that axis times the sum along that axis. -/
theorem integrate_dir (f : Fld) (hf : WF f) (d : String) (g : Fld)
    (h : integrate f (.name d) false = .ok (.field g)) :
    ∃ ax, f.mesh.region.dim2index d = .ok ax ∧ ax < f.mesh.ndim ∧
      g.mesh.region.pmin = removeAt f.mesh.region.pmin ax ∧
      g.mesh.region.pmax = removeAt f.mesh.region.pmax ax ∧
      g.mesh.region.dims = removeAt f.mesh.region.dims ax ∧
      g.mesh.region.units = removeAt f.mesh.region.units ax ∧
      g.mesh.n = removeAt f.mesh.n ax ∧ g.data.shape = removeAt f.mesh.n ax ∧
      g.nvdim = f.nvdim ∧ g.vdims = f.vdims ∧ g.vmap = f.vmap ∧ g.unit = none ∧
      (∀ i, g.valid.get i = true) ∧
      ∀ i c, inRange (removeAt f.mesh.n ax) i = true → c < f.nvdim →
        cget g.data i c = f.mesh.cellAt ax * sumTo (f.mesh.nAt ax) fun j => cget f.data (insertAt i ax j) c := by
  obtain ⟨ax, hax, _, hr, hwg, _, hv⟩ := integrate_dir_vals f hf d g h
  obtain ⟨h1, h2, h3, h4, hvalid⟩ := integrate_field_meta f g _ _ h
  exact ⟨ax, hax, hr.lt, hr.pmin, hr.pmax, hr.dims, hr.units, hr.n, hwg.2.trans hr.n, h1, h2, h3, h4,
    fun i => by rw [hvalid]; rfl, hv⟩

/-- on a 1-d mesh `integrate(d)` returns the bare array: cell length × sum of the cells -/
theorem integrate_dir_1d (f : Fld) (hf : WF f) (d : String) (v : List Rat)
    (h : integrate f (.name d) false = .ok (.vals v)) :
    f.mesh.ndim = 1 ∧ f.mesh.region.dim2index d = .ok 0 ∧
    v = tab f.nvdim fun c => f.mesh.cellAt 0 * sumTo (f.mesh.nAt 0) fun j => cget f.data [j] c :=
  integrate_dir_1d_spec f hf d v h

/-- The cell measure is consistent across axis removal: the reduced mesh `integrate(d)` /
`mean(d)` / `Mesh.sel(d)` return has the cell lengths of the remaining axes (`skip ax a` is the
original position of the reduced mesh's axis `a`), and the cell volume of the original mesh is
the cell length of the removed axis times the cell volume of the reduced mesh. -/
theorem reduced_mesh_cells (m : Mesh) (hm : m.Inv) (d : String) (m' : Mesh) (h : sel m d = .ok m') :
    ∃ ax, m.region.dim2index d = .ok ax ∧ (∀ a, m'.cellAt a = m.cellAt (skip ax a)) ∧
      dV m = m.cellAt ax * dV m' ∧ m'.Inv := by
  obtain ⟨ax, _, _, _, _, _, hax, _⟩ := sel_unpack m d m' h
  have hr := sel_reduced hm hax h
  exact ⟨ax, hax, hr.cellAt, hr.dV, sel_inv m d m' h⟩

/-! ## Fubini: any order of directions gives the volume integral -/

/-- Integrating direction by direction, in ANY order `ds` of all the directions (each step on
the mesh the previous step returned, the last step on a 1-d mesh returning the bare array),
gives exactly `integrate()`.  Induction over the list of directions; each step removes one
axis of the nested sum and one factor of the cell volume. -/
theorem fubini (f : Fld) (hf : WF f) (ds : List String) (hlen : ds.length = f.mesh.ndim) (r : Res)
    (h : integrateSeq f ds = .ok r) : integrate f .none false = .ok r := by
  induction ds generalizing f with
  | nil =>
    have := ndim_pos hf.1
    simp at hlen; omega
  | cons d ds ih =>
    obtain ⟨v, hv, _, rfl⟩ | ⟨g, hg, h⟩ := (integrateSeq_cons_iff f d ds r).mp h
    · obtain ⟨h1, hax0, hvv⟩ := integrate_dir_1d f hf d v hv
      rw [integrate_all, hvv]
      refine vals_tab_congr fun c _ => ?_
      have hcell : f.mesh.cell = [f.mesh.cellAt 0] := by
        unfold Mesh.cell; rw [h1]; rfl
      unfold dV
      rw [hcell, hf.2, n_of_ndim_one hf.1 h1]
      simp [nestSum, ratProd]
    · obtain ⟨ax, hax, _, hr, hwf, hnv, hval⟩ := integrate_dir_vals f hf d g hg
      have := ih g hwf (by have := hr.ndim; have := hr.two; rw [List.length_cons] at hlen; omega) h
      rw [← this, integrate_all, integrate_all, hnv]
      refine vals_tab_congr fun c hc => ?_
      rw [hwf.2, hr.n, hr.dV]
      rw [nestSum_congr _ _ _ (fun i hi => hval i c hi hc), nestSum_mul_left, hf.2,
        ← nestSum_removeAt f.mesh.n ax (by rw [hf.1.n_length]; exact hr.lt)]
      unfold Mesh.nAt
      ring

/-! ## The cumulative integral -/

/-- `integrate(d, cumulative=True)`: same mesh, and the entry at cell `i` is the cell length
times (the sum of the cells before it along the axis plus half its own value). -/
theorem cumulative_formula (f : Fld) (d : String) (r : Res)
    (h : integrate f (.name d) true = .ok r) :
    ∃ ax g, f.mesh.region.dim2index d = .ok ax ∧ r = .field g ∧ g.mesh = f.mesh ∧
      g.data.shape = f.data.shape ∧ g.nvdim = f.nvdim ∧ g.unit = none ∧
      ∀ i c, inRange f.data.shape i = true → c < f.nvdim →
        cget g.data i c = f.mesh.cellAt ax *
          (sumTo (i.getD ax 0) (fun l => cget f.data (setAt i ax l) c) + cget f.data i c / 2) := by
  obtain ⟨ax, hax, _, rfl⟩ := (integrate_cum_iff f d r).mp h
  obtain ⟨ax', hax', hm, hs, _, hnv, hv⟩ := cum_spec f d _ h
  rw [hax] at hax'; cases hax'
  exact ⟨ax, _, hax, rfl, hm, hs, hnv, rfl, hv⟩

/-- The first cumulative entry along the axis is half the first cell times the cell length. -/
theorem cumulative_first (f : Fld) (d : String) (g : Fld) (h : integrate f (.name d) true = .ok (.field g)) :
    ∃ ax, f.mesh.region.dim2index d = .ok ax ∧
      ∀ i c, inRange f.data.shape i = true → i.getD ax 0 = 0 → c < f.nvdim →
        cget g.data i c = f.mesh.cellAt ax * (cget f.data i c / 2) := by
  obtain ⟨ax, g', hax, hr, _, _, _, _, hcum⟩ := cumulative_formula f d _ h
  injection hr with hr; subst hr
  refine ⟨ax, hax, ?_⟩
  intro i c hi h0 hc
  rw [hcum i c hi hc, h0]
  simp only [sumTo]
  ring

/-- Trapezoid rule between ANY two cells of a line: the cumulative entries at positions `a` and
`a + b + 1` along the axis differ by the cell length times (half the first cell + the cells
strictly between + half the last cell). -/
theorem cumulative_between (f : Fld) (d : String) (g : Fld) (h : integrate f (.name d) true = .ok (.field g)) :
    ∃ ax, f.mesh.region.dim2index d = .ok ax ∧
      ∀ i c (b : Nat), inRange f.data.shape i = true → i.getD ax 0 + b + 1 < f.data.shape.getD ax 0 → c < f.nvdim →
        cget g.data (setAt i ax (i.getD ax 0 + b + 1)) c - cget g.data i c
          = f.mesh.cellAt ax * (cget f.data i c / 2
              + sumTo b (fun t => cget f.data (setAt i ax (i.getD ax 0 + 1 + t)) c)
              + cget f.data (setAt i ax (i.getD ax 0 + b + 1)) c / 2) := by
  obtain ⟨ax, g', hax, hr, _, _, _, _, hcum⟩ := cumulative_formula f d _ h
  injection hr with hr; subst hr
  refine ⟨ax, hax, ?_⟩
  intro i c b hi hlt hc
  have haxs : ax < f.data.shape.length := lt_length_of_getD_pos _ _ (by omega)
  have haxi : ax < i.length := by rw [inRange_length _ _ hi]; exact haxs
  have hi' : inRange f.data.shape (setAt i ax (i.getD ax 0 + b + 1)) = true := inRange_setAt _ _ _ _ hi hlt
  rw [hcum _ c hi' hc, hcum i c hi hc, getD_setAt_eq i ax _ 0 haxi]
  simp only [setAt_setAt_same]
  have hb := sumTo_between (i.getD ax 0) b (fun l => cget f.data (setAt i ax l) c)
  simp only [setAt_getD_self] at hb
  have : sumTo (i.getD ax 0 + b + 1) (fun l => cget f.data (setAt i ax l) c)
      = sumTo (i.getD ax 0) (fun l => cget f.data (setAt i ax l) c) + cget f.data i c
        + sumTo b (fun t => cget f.data (setAt i ax (i.getD ax 0 + 1 + t)) c) := by linarith
  rw [this]; ring

/-- Trapezoid rule: consecutive cumulative entries along the axis differ by the cell length
times the average of the two cell values — the cumulative integral is the discrete
antiderivative that puts half of every cell on either side of its centre. -/
theorem cumulative_step (f : Fld) (d : String) (g : Fld) (h : integrate f (.name d) true = .ok (.field g)) :
    ∃ ax, f.mesh.region.dim2index d = .ok ax ∧
      ∀ i c, inRange f.data.shape i = true → i.getD ax 0 + 1 < f.data.shape.getD ax 0 → c < f.nvdim →
        cget g.data (setAt i ax (i.getD ax 0 + 1)) c - cget g.data i c
          = f.mesh.cellAt ax * ((cget f.data i c + cget f.data (setAt i ax (i.getD ax 0 + 1)) c) / 2) := by
  obtain ⟨ax, hax, hb⟩ := cumulative_between f d g h
  refine ⟨ax, hax, fun i c hi hlt hc => ?_⟩
  have := hb i c 0 hi hlt hc
  simp only [sumTo, Nat.add_zero] at this
  rw [this]
  ring

/-- The last cumulative entry plus half the last cell is the directional integral. -/
theorem cumulative_last (f : Fld) (hf : WF f) (d : String) (gc gd : Fld)
    (hc : integrate f (.name d) true = .ok (.field gc))
    (hd : integrate f (.name d) false = .ok (.field gd)) :
    ∃ ax, f.mesh.region.dim2index d = .ok ax ∧
      ∀ i c, inRange f.mesh.n i = true → i.getD ax 0 = f.mesh.nAt ax - 1 → c < f.nvdim →
        cget gc.data i c + f.mesh.cellAt ax * (cget f.data i c / 2) = cget gd.data (removeAt i ax) c :=
  cum_last f hf d gc _ hc hd

/-- 1-d form: the bare array returned by `integrate(d)` is the last cumulative entry plus
half the last cell. -/
theorem cumulative_last_1d (f : Fld) (hf : WF f) (d : String) (gc : Fld) (v : List Rat)
    (hc : integrate f (.name d) true = .ok (.field gc))
    (hd : integrate f (.name d) false = .ok (.vals v)) (c : Nat) (hcn : c < f.nvdim) :
    cget gc.data [f.mesh.nAt 0 - 1] c + f.mesh.cellAt 0 * (cget f.data [f.mesh.nAt 0 - 1] c / 2) = v.getD c 0 := by
  obtain ⟨h1, hax0, _⟩ := integrate_dir_1d f hf d v hd
  obtain ⟨ax, hax, hrel⟩ := cum_last f hf d gc _ hc hd
  cases hax0.symm.trans hax
  have hnpos : 0 < f.mesh.nAt 0 := hf.1.nAt_pos (a := 0) (by omega)
  exact hrel [f.mesh.nAt 0 - 1] c (by rw [n_of_ndim_one hf.1 h1]; simp [inRange]; omega) rfl hcn

/-! ## Means are integrals divided by the integrated extent -/

/-- `mean()` is the integral over all directions divided by the volume of the region. -/
theorem mean_all_eq (f : Fld) (hf : WF f) :
    mean f .none = .ok (.vals (tab f.nvdim fun c =>
      (dV f.mesh * nestSum f.data.shape fun i => cget f.data i c) / ratProd f.mesh.region.edges)) := by
  rw [mean_none]
  refine vals_tab_congr fun c _ => ?_
  rw [← dV_mul_count f.mesh hf.1, hf.2]
  have hd := dV_pos f.mesh hf.1
  have hn : (0 : Rat) < (natProd f.mesh.n : Rat) := by
    exact Nat.cast_pos.mpr (natProd_pos _ (Mesh.Inv.mem_n_pos hf.1))
  field_simp

/-- `mean(d)` is `integrate(d)` divided by the edge length along `d`, on the same reduced
mesh; the unit is kept. -/
theorem mean_dir_eq (f : Fld) (hf : WF f) (d : String) (gi : Fld) (r : Res)
    (hi : integrate f (.name d) false = .ok (.field gi)) (hm : mean f (.name d) = .ok r) :
    ∃ ax gm, f.mesh.region.dim2index d = .ok ax ∧ r = .field gm ∧ gm.mesh = gi.mesh ∧
      gm.data.shape = gi.data.shape ∧ gm.unit = f.unit ∧ gm.vdims = f.vdims ∧ gm.vmap = f.vmap ∧
      ∀ i c, inRange (removeAt f.mesh.n ax) i = true → c < f.nvdim →
        cget gm.data i c = cget gi.data i c / f.mesh.region.edge ax :=
  mean_dir_div_edge f hf d gi r hi hm

/-- `sorted(a) == sorted(b)` holds exactly for permutations -/
theorem sameMultiset_iff_perm (a b : List String) : sameMultiset a b = true ↔ a.Perm b := by
  unfold sameMultiset
  rw [List.perm_iff_count]
  simp only [Bool.and_eq_true, List.all_eq_true, beq_iff_eq]
  constructor
  · intro ⟨h1, h2⟩ x
    by_cases hxa : x ∈ a
    · exact h1 x hxa
    · by_cases hxb : x ∈ b
      · exact h2 x hxb
      · rw [List.count_eq_zero_of_not_mem hxa, List.count_eq_zero_of_not_mem hxb]
  · intro h
    exact ⟨fun x _ => h x, fun x _ => h x⟩

/-- Listing all directions, in any order, is the mean over everything: the integral over all
directions divided by the volume of the region. -/
theorem mean_all_named (f : Fld) (hf : WF f) (ds : List String) (hp : ds.Perm f.mesh.region.dims) :
    mean f (.names ds) = mean f .none := by
  have hnd : ds.Nodup := hp.nodup_iff.mpr ((hasDup_false_iff_nodup _).mp hf.1.1.dims_nodup)
  exact (mean_names_iff f ds _).mpr ⟨(hasDup_false_iff_nodup ds).mpr hnd, Or.inl ⟨(sameMultiset_iff_perm _ _).mpr hp, rfl⟩⟩

/-- `mean(list of directions)` (a proper subset, in any order) is the result of integrating
over those directions one after the other — in that order — divided by the product of their
edge lengths; both live on the same reduced mesh. -/
theorem mean_dirs_eq (f : Fld) (hf : WF f) (ds : List String) (gm gi : Fld)
    (hm : mean f (.names ds) = .ok (.field gm)) (hi : integrateSeq f ds = .ok (.field gi)) :
    gm.mesh = gi.mesh ∧ gm.data.shape = gi.data.shape ∧ gm.nvdim = f.nvdim ∧ gm.unit = f.unit ∧
    ∀ i c, inRange gi.data.shape i = true → c < f.nvdim →
      cget gm.data i c = cget gi.data i c / extent f.mesh.region ds := by
  obtain ⟨_, m', axes, hselm, hax, hshape, hgm⟩ := mean_names_unpack f ds gm hm
  obtain ⟨axes', hax', hselm', hinv, hprod⟩ := chain_start f hf ds gi hi
  cases hax.symm.trans hax'
  rw [hselm] at hselm'; injection hselm' with hselm'
  have hgish : gi.data.shape = gi.mesh.n := hinv.wf.2
  have hCpos := hinv.pos
  subst hgm
  refine ⟨hselm', ?_, rfl, rfl, ?_⟩
  · show (meanAxes f.nvdim f.data axes).shape = _
    rw [hshape, hselm', hgish]
  · intro i c hin hc
    have hin' : inRange (meanAxes f.nvdim f.data axes).shape i = true := by
      rw [hshape, hselm', ← hgish]; exact hin
    simp only
    rw [cget_force _ _ _ hin', cget_meanAxes _ _ _ _ _ hc, hinv.val i c (by rw [← hgish]; exact hin) hc, hf.2]
    have hD : (0 : Rat) < (dropProd (keepMask f.mesh.n.length axes) f.mesh.n : Rat) := by
      exact Nat.cast_pos.mpr (dropProd_pos _ _ (Mesh.Inv.mem_n_pos hf.1))
    rw [← hprod]
    field_simp

/-! ## Every form at once; linear, per component, independent of the mesh position -/

/-- every successful `integrate` returns the spec values on the spec shape -/
theorem integrate_vals (f : Fld) (hf : WF f) (dir : Dir) (cum : Bool) (r : Res)
    (h : integrate f dir cum = .ok r) :
    r.nv = f.nvdim ∧ r.shape = ishape f dir cum ∧
    ∀ i c, inRange r.shape i = true → c < f.nvdim → r.cval i c = ival f dir cum i c :=
  integrate_cval f hf dir cum r h

/-- whether `integrate` succeeds, and on which mesh the result lives, depends only on the
mesh and the shape of the value array -/
theorem integrate_frame (f f' : Fld) (hm : f'.mesh = f.mesh) (hs : f'.data.shape = f.data.shape)
    (dir : Dir) (cum : Bool) (r : Res) (h : integrate f dir cum = .ok r) :
    ∃ r', integrate f' dir cum = .ok r' ∧ r'.mesh? = r.mesh? := by
  -- `mesh?` of both results is given in its `some` / `none` form: a bare `rfl` would first try to
  -- identify the two value arrays
  cases dir with
  | none =>
    cases cum with
    | true => cases h
    | false =>
      rw [integrate_all] at h
      cases h
      exact ⟨_, integrate_all f', (rfl : none = none)⟩
  | name d =>
    cases cum with
    | true =>
      obtain ⟨ax, hax, hshape, rfl⟩ := (integrate_cum_iff f d r).mp h
      exact ⟨_, (integrate_cum_iff f' d _).mpr ⟨ax, by rw [hm]; exact hax, by rw [hs, hm, hshape], rfl⟩, congrArg some hm⟩
    | false =>
      cases r with
      | vals v =>
        obtain ⟨ax, hax, h1, _⟩ := (integrate_1d_iff f d v).mp h
        exact ⟨_, (integrate_1d_iff f' d _).mpr ⟨ax, by rw [hm]; exact hax, by rw [hm]; exact h1, rfl⟩, (rfl : none = none)⟩
      | field g =>
        obtain ⟨ax, m', hax, hne1, hsel, hshape, rfl⟩ := (integrate_dir_iff f d g).mp h
        exact ⟨_, (integrate_dir_iff f' d _).mpr ⟨ax, m', by rw [hm]; exact hax, by rw [hm]; exact hne1,
          by rw [hm]; exact hsel, by rw [hs]; exact hshape, rfl⟩, (rfl : some m' = some m')⟩
  | names ds => cases h
  | other => cases h

/-- All forms of `integrate` are linear in the field: for two fields on the same mesh the
integral of `α·f + β·g` exists whenever those of `f` and `g` do, lives on the same mesh and
equals `α·∫f + β·∫g` entry by entry. -/
theorem integrate_linear (α β : Rat) (f g : Fld) (hf : WF f) (hm : g.mesh = f.mesh)
    (hn : g.nvdim = f.nvdim) (hs : g.data.shape = f.data.shape) (dir : Dir) (cum : Bool) (rf rg : Res)
    (h1 : integrate f dir cum = .ok rf) (h2 : integrate g dir cum = .ok rg) :
    ∃ r, integrate (lin α f β g) dir cum = .ok r ∧ r.mesh? = rf.mesh? ∧ r.shape = rf.shape ∧
      ∀ i c, inRange r.shape i = true → c < f.nvdim →
        r.cval i c = α * rf.cval i c + β * rg.cval i c := by
  obtain ⟨r, hr, hmesh⟩ := integrate_frame f (lin α f β g) rfl rfl dir cum rf h1
  have hwg : WF g := hf.congr hm hs
  obtain ⟨hss, hvl⟩ := integrate_pair f (lin α f β g) hf (hf.congr rfl rfl) dir cum rfl rf r h1 hr
  obtain ⟨_, hvg⟩ := integrate_pair f g hf hwg dir cum (by unfold ishape; rw [hm]) rf rg h1 h2
  refine ⟨r, hr, hmesh, hss, fun i c hi hc => ?_⟩
  rw [hss] at hi
  rw [(hvl i hi).2 c hc, (hvl i hi).1 c hc, (hvg i hi).2 c (hn ▸ hc)]
  exact ival_lin α β f g hf.1 hm hs dir cum i c hc

/-- All forms of `integrate` act per component: integrating the scalar field of component
`c` gives component `c` of the integral, on the same mesh. -/
theorem integrate_componentwise (f : Fld) (hf : WF f) (c : Nat) (hc : c < f.nvdim) (dir : Dir) (cum : Bool)
    (rf : Res) (h : integrate f dir cum = .ok rf) :
    ∃ r, integrate (compFld f c) dir cum = .ok r ∧ r.mesh? = rf.mesh? ∧ r.shape = rf.shape ∧ r.nv = 1 ∧
      ∀ i, inRange r.shape i = true → r.cval i 0 = rf.cval i c := by
  obtain ⟨r, hr, hmesh⟩ := integrate_frame f (compFld f c) rfl rfl dir cum rf h
  obtain ⟨hss, hv⟩ := integrate_pair f (compFld f c) hf (hf.congr rfl rfl) dir cum rfl rf r h hr
  refine ⟨r, hr, hmesh, hss, (integrate_cval (compFld f c) (hf.congr rfl rfl) dir cum r hr).1, fun i hi => ?_⟩
  rw [hss] at hi
  rw [(hv i hi).2 0 Nat.one_pos, (hv i hi).1 c hc]
  exact ival_comp f c dir cum i

/-- The values of every form of `integrate` do not depend on where the mesh sits: moving the
region (and its subregions) by any vector `t` leaves shape and values unchanged. -/
theorem integrate_translation_invariant (t : List Rat) (f : Fld) (hf : WF f) (dir : Dir) (cum : Bool)
    (r r' : Res) (h : integrate f dir cum = .ok r) (h' : integrate (translate t f) dir cum = .ok r') :
    r'.shape = r.shape ∧
    ∀ i c, inRange r.shape i = true → c < f.nvdim → r'.cval i c = r.cval i c := by
  obtain ⟨hss, hv⟩ := integrate_pair f _ hf (translate_wf t f hf) dir cum rfl r r' h h'
  refine ⟨hss, fun i c hi hc => ?_⟩
  rw [(hv i hi).2 c hc, (hv i hi).1 c hc]
  exact ival_translate t f hf.1 dir cum i c

/-- … and the integral over all directions of the moved field is literally the same. -/
theorem integrate_all_translation_invariant (t : List Rat) (f : Fld) (hf : WF f) :
    integrate (translate t f) .none false = integrate f .none false := by
  rw [integrate_all, integrate_all]
  have : dV (translate t f).mesh = dV f.mesh := translate_dV t f hf.1
  rw [this]
  rfl

/-- `mean()` is linear in the field (two fields on one mesh). -/
theorem mean_all_linear (α β : Rat) (f g : Fld) (hf : WF f) (hm : g.mesh = f.mesh)
    (hn : g.nvdim = f.nvdim) (hs : g.data.shape = f.data.shape) :
    ∃ vf vg, mean f .none = .ok (.vals vf) ∧ mean g .none = .ok (.vals vg) ∧
      mean (lin α f β g) .none = .ok (.vals (tab f.nvdim fun c => α * vf.getD c 0 + β * vg.getD c 0)) := by
  have hwl : WF (lin α f β g) := (hf.congr rfl rfl)
  have hwg : WF g := hf.congr hm hs
  refine ⟨_, _, mean_all_eq f hf, mean_all_eq g hwg, ?_⟩
  rw [mean_all_eq _ hwl]
  refine vals_tab_congr fun c hc => ?_
  have hc : c < f.nvdim := hc
  rw [getD_tab f.nvdim _ c 0 hc, getD_tab g.nvdim _ c 0 (by rw [hn]; exact hc), hm, hs]
  show dV f.mesh * nestSum f.data.shape (fun i => cget (lin α f β g).data i c) / ratProd f.mesh.region.edges = _
  rw [nestSum_congr _ _ _ (fun i _ => cget_lin α β f g i c hc), nestSum_add, nestSum_mul_left, nestSum_mul_left]
  ring

/-- `mean()` does not look at the mesh position at all. -/
theorem mean_all_translation_invariant (t : List Rat) (f : Fld) :
    mean (translate t f) .none = mean f .none := rfl

/-- every successful `mean` (no direction, one direction, a list in any order) returns, on the
spec shape, the sum over the averaged axes divided by the number of summed cells -/
theorem mean_vals (f : Fld) (dir : Dir) (r : Res) (h : mean f dir = .ok r) :
    r.nv = f.nvdim ∧ r.shape = mshape f dir ∧
    ∀ i c, inRange r.shape i = true → c < f.nvdim → r.cval i c = mval f dir i c :=
  mean_cval f dir r h

/-- whether `mean` succeeds, and on which mesh and with which shape the result lives, depends
only on the mesh and the shape of the value array -/
theorem mean_frame (f f' : Fld) (hm : f'.mesh = f.mesh) (hs : f'.data.shape = f.data.shape)
    (dir : Dir) (r : Res) (h : mean f dir = .ok r) :
    ∃ r', mean f' dir = .ok r' ∧ r'.mesh? = r.mesh? ∧ r'.shape = r.shape := by
  cases dir with
  | none =>
    rw [mean_none] at h
    cases h
    exact ⟨_, mean_none f', rfl, rfl⟩
  | name d =>
    obtain ⟨ax, m', hax, hsel, hshape, rfl⟩ := (mean_name_iff f d r).mp h
    exact ⟨_, (mean_name_iff f' d _).mpr ⟨ax, m', by rw [hm]; exact hax, by rw [hm]; exact hsel, by rw [hs]; exact hshape, rfl⟩,
      (rfl : some m' = some m'), (congrArg (removeAt · ax) hs :)⟩
  | names ds =>
    obtain ⟨hdup, hcase⟩ := (mean_names_iff f ds r).mp h
    rcases hcase with ⟨hsame, rfl⟩ | ⟨hsame, m', axes, hselm, haxes, hshape, rfl⟩
    · exact ⟨_, (mean_names_iff f' ds _).mpr ⟨hdup, Or.inl ⟨by rw [hm]; exact hsame, rfl⟩⟩, rfl, rfl⟩
    · have hsh : (meanAxes f'.nvdim f'.data axes).shape = (meanAxes f.nvdim f.data axes).shape := by
        show filterMask (keepMask f'.data.shape.length axes) f'.data.shape = _
        rw [hs]; rfl
      exact ⟨_, (mean_names_iff f' ds _).mpr ⟨hdup, Or.inr ⟨by rw [hm]; exact hsame, m', axes, by rw [hm]; exact hselm,
        by rw [hm]; exact haxes, hsh.trans hshape, rfl⟩⟩, (rfl : some m' = some m'), hsh⟩
  | other => cases h

/-- All forms of `mean` — `mean()`, `mean(d)`, `mean(list)` in any order — are linear in the
field: for two fields on the same mesh the mean of `α·f + β·g` exists whenever that of `f`
does, lives on the same mesh and equals `α·mean f + β·mean g` entry by entry. -/
theorem mean_linear (α β : Rat) (f g : Fld) (hm : g.mesh = f.mesh) (hn : g.nvdim = f.nvdim)
    (hs : g.data.shape = f.data.shape) (dir : Dir) (rf rg : Res)
    (h1 : mean f dir = .ok rf) (h2 : mean g dir = .ok rg) :
    ∃ r, mean (lin α f β g) dir = .ok r ∧ r.mesh? = rf.mesh? ∧ r.shape = rf.shape ∧
      ∀ i c, inRange r.shape i = true → c < f.nvdim →
        r.cval i c = α * rf.cval i c + β * rg.cval i c := by
  obtain ⟨r, hr, hmesh, _⟩ := mean_frame f (lin α f β g) rfl rfl dir rf h1
  obtain ⟨hss, hvl⟩ := mean_pair f (lin α f β g) dir rfl rf r h1 hr
  obtain ⟨_, hvg⟩ := mean_pair f g dir (mshape_congr f g (by rw [hm]) hs dir) rf rg h1 h2
  refine ⟨r, hr, hmesh, hss, fun i c hi hc => ?_⟩
  rw [hss] at hi
  rw [(hvl i hi).2 c hc, (hvl i hi).1 c hc, (hvg i hi).2 c (hn ▸ hc)]
  exact mval_lin α β f g hm hs dir i c hc

/-- All forms of `mean` act per component: the mean of the scalar field of component `c` is
component `c` of the mean, on the same mesh. -/
theorem mean_componentwise (f : Fld) (c : Nat) (hc : c < f.nvdim) (dir : Dir) (rf : Res)
    (h : mean f dir = .ok rf) :
    ∃ r, mean (compFld f c) dir = .ok r ∧ r.mesh? = rf.mesh? ∧ r.shape = rf.shape ∧ r.nv = 1 ∧
      ∀ i, inRange r.shape i = true → r.cval i 0 = rf.cval i c := by
  obtain ⟨r, hr, hmesh, _⟩ := mean_frame f (compFld f c) rfl rfl dir rf h
  obtain ⟨hss, hv⟩ := mean_pair f (compFld f c) dir rfl rf r h hr
  refine ⟨r, hr, hmesh, hss, (mean_cval _ dir r hr).1, fun i hi => ?_⟩
  rw [hss] at hi
  rw [(hv i hi).2 0 (by show 0 < 1; omega), (hv i hi).1 c hc]
  exact mval_comp f c dir i

/-- The values of every form of `mean` do not depend on where the mesh sits: moving the region
(and its subregions) by any vector `t` leaves shape and values unchanged. -/
theorem mean_translation_invariant (t : List Rat) (f : Fld) (dir : Dir) (r r' : Res)
    (h : mean f dir = .ok r) (h' : mean (translate t f) dir = .ok r') :
    r'.shape = r.shape ∧ r'.nv = r.nv ∧
    ∀ i c, inRange r.shape i = true → c < f.nvdim → r'.cval i c = r.cval i c := by
  obtain ⟨hss, hv⟩ := mean_pair f (translate t f) dir (mshape_congr f (translate t f) rfl rfl dir) r r' h h'
  refine ⟨hss, by rw [(mean_cval f dir r h).1, (mean_cval _ dir r' h').1]; rfl, fun i c hi hc => ?_⟩
  rw [(hv i hi).2 c hc, (hv i hi).1 c hc]
  exact mval_congr f (translate t f) rfl rfl dir i c

/-! ## The successful branches are reached (total correctness; subregions allowed: `SubsAcc`,
defined in `DFV/Lemmas/C06Subs.lean`, says every stored subregion passes the three checks of the
`subregions` setter when offered again as a plain box; subregions that fit the mesh exactly,
`SubsFit`, are the special case `exact_fit_accepted`) -/

/-- `integrate(d)` succeeds for every direction of a well-formed field whose subregions passed
the setter (the reduced mesh's subregion setter accepts the inherited subregions again):
a field on the reduced mesh for two or more dimensions, the bare array in 1-d. -/
theorem integrate_dir_ok (f : Fld) (hf : WF f) (hsubs : SubsAcc f.mesh) (d : String)
    (hd : d ∈ f.mesh.region.dims) :
    (2 ≤ f.mesh.ndim → ∃ g, integrate f (.name d) false = .ok (.field g) ∧ SubsAcc g.mesh) ∧
    (f.mesh.ndim = 1 → ∃ v, integrate f (.name d) false = .ok (.vals v)) := by
  obtain ⟨ax, hax⟩ := dim2index_of_mem _ _ hd
  constructor
  · intro h2
    obtain ⟨g, hg, _, hms, _⟩ := integrate_step_ok f hf hsubs h2 d hd
    exact ⟨g, hg, hms⟩
  · intro h1
    exact ⟨_, (integrate_1d_iff f d _).mpr ⟨ax, hax, h1, rfl⟩⟩

/-- one step of a direction-by-direction integration succeeds and keeps everything needed
for the next step -/
theorem step_ok (f : Fld) (hf : WF f) (hsubs : SubsAcc f.mesh) (h2 : 2 ≤ f.mesh.ndim) (d : String)
    (hd : d ∈ f.mesh.region.dims) :
    ∃ g, integrate f (.name d) false = .ok (.field g) ∧ WF g ∧ SubsAcc g.mesh ∧
      g.mesh.ndim + 1 = f.mesh.ndim ∧
      ∀ d' ∈ f.mesh.region.dims, d' ≠ d → d' ∈ g.mesh.region.dims :=
  integrate_step_ok f hf hsubs h2 d hd

/-- Integrating direction by direction succeeds for every ordering `ds` of the directions
(no repetition, every entry a direction of the mesh, all directions used) of a well-formed
field whose subregions passed the setter — and then gives `integrate()` (theorem `fubini`). -/
theorem fubini_total (f : Fld) (hf : WF f) (hsubs : SubsAcc f.mesh) (ds : List String)
    (hnd : ds.Nodup) (hmem : ∀ d ∈ ds, d ∈ f.mesh.region.dims) (hlen : ds.length = f.mesh.ndim) :
    integrateSeq f ds = integrate f .none false := by
  suffices hok : ∃ r, integrateSeq f ds = .ok r by
    obtain ⟨r, hr⟩ := hok
    rw [hr, fubini f hf ds hlen r hr]
  induction ds generalizing f with
  | nil =>
    have := ndim_pos hf.1
    simp at hlen; omega
  | cons d ds ih =>
    have hd := hmem d (by simp)
    obtain ⟨hA, hB⟩ := integrate_dir_ok f hf hsubs d hd
    by_cases h1 : f.mesh.ndim = 1
    · obtain ⟨v, hv⟩ := hB h1
      have hds : ds = [] := by
        have : ds.length = 0 := by simp at hlen; omega
        exact List.eq_nil_of_length_eq_zero this
      exact ⟨_, (integrateSeq_cons_iff ..).mpr (Or.inl ⟨v, hv, hds, rfl⟩)⟩
    · obtain ⟨g, hg, hwf, hgs, hgnd, hgmem⟩ := step_ok f hf hsubs (two_le_ndim hf.1 h1) d hd
      obtain ⟨hdn, hnd'⟩ := List.nodup_cons.mp hnd
      obtain ⟨r, hr⟩ := ih g hwf hgs hnd'
        (fun d' hd' => hgmem d' (hmem d' (List.mem_cons_of_mem _ hd')) fun h => hdn (h ▸ hd'))
        (by rw [List.length_cons] at hlen; omega)
      exact ⟨r, (integrateSeq_cons_iff ..).mpr (Or.inr ⟨g, hg, hr⟩)⟩

/-- the cumulative integral succeeds for every direction of a well-formed field (any
number of dimensions, subregions or not) -/
theorem integrate_cum_ok (f : Fld) (hf : WF f) (d : String) (hd : d ∈ f.mesh.region.dims) :
    ∃ g, integrate f (.name d) true = .ok (.field g) := by
  obtain ⟨ax, hax⟩ := dim2index_of_mem _ _ hd
  exact ⟨_, (integrate_cum_iff f d _).mpr ⟨ax, hax, hf.2, rfl⟩⟩

/-- Total form of the cumulative/total relation, two or more dimensions: for every direction
of a well-formed field (subregions accepted by the setter) both integrals exist and the last cumulative entry
along the axis plus half the last cell is the directional integral. -/
theorem cumulative_last_total (f : Fld) (hf : WF f) (hsubs : SubsAcc f.mesh) (h2 : 2 ≤ f.mesh.ndim) (d : String)
    (hd : d ∈ f.mesh.region.dims) :
    ∃ ax gc gd, f.mesh.region.dim2index d = .ok ax ∧ integrate f (.name d) true = .ok (.field gc) ∧
      integrate f (.name d) false = .ok (.field gd) ∧
      ∀ i c, inRange f.mesh.n i = true → i.getD ax 0 = f.mesh.nAt ax - 1 → c < f.nvdim →
        cget gc.data i c + f.mesh.cellAt ax * (cget f.data i c / 2) = cget gd.data (removeAt i ax) c := by
  obtain ⟨gc, hgc⟩ := integrate_cum_ok f hf d hd
  obtain ⟨gd, hgd, _⟩ := (integrate_dir_ok f hf hsubs d hd).1 h2
  obtain ⟨ax, hax, hrel⟩ := cumulative_last f hf d gc gd hgc hgd
  exact ⟨ax, gc, gd, hax, hgc, hgd, hrel⟩

/-- Total form on a 1-d mesh: both integrals exist and the bare array returned by
`integrate(d)` is the last cumulative entry plus half the last cell. -/
theorem cumulative_last_1d_total (f : Fld) (hf : WF f) (h1 : f.mesh.ndim = 1) (d : String)
    (hd : d ∈ f.mesh.region.dims) :
    ∃ gc v, integrate f (.name d) true = .ok (.field gc) ∧ integrate f (.name d) false = .ok (.vals v) ∧
      ∀ c, c < f.nvdim →
        cget gc.data [f.mesh.nAt 0 - 1] c + f.mesh.cellAt 0 * (cget f.data [f.mesh.nAt 0 - 1] c / 2) = v.getD c 0 := by
  obtain ⟨gc, hgc⟩ := integrate_cum_ok f hf d hd
  obtain ⟨ax, hax⟩ := dim2index_of_mem _ _ hd
  have hv := (integrate_1d_iff f d _).mpr ⟨ax, hax, h1, rfl⟩
  exact ⟨gc, _, hgc, hv, fun c hc => cumulative_last_1d f hf d gc _ hgc hv c hc⟩

/-- `mean(d)` succeeds for every direction of a well-formed field, subregions accepted by the
setter, that has at least two dimensions -/
theorem mean_dir_ok (f : Fld) (hf : WF f) (hsubs : SubsAcc f.mesh) (h2 : 2 ≤ f.mesh.ndim) (d : String)
    (hd : d ∈ f.mesh.region.dims) : ∃ g, mean f (.name d) = .ok (.field g) := by
  obtain ⟨g, hg, _⟩ := mean_step_ok f hf hsubs h2 d hd
  exact ⟨g, hg⟩

/-- Integrating over some (not all) of the directions one after the other succeeds, for every
order, on a well-formed field whose subregions passed the setter. -/
theorem integrateSeq_ok (f : Fld) (hf : WF f) (hsubs : SubsAcc f.mesh) (ds : List String)
    (hnd : ds.Nodup) (hmem : ∀ d ∈ ds, d ∈ f.mesh.region.dims) (hlen : ds.length < f.mesh.ndim) :
    ∃ gi, integrateSeq f ds = .ok (.field gi) := by
  induction ds generalizing f with
  | nil => exact ⟨f, rfl⟩
  | cons d ds ih =>
    have hlen' : ds.length + 1 < f.mesh.ndim := by simpa using hlen
    obtain ⟨g, hg, hwf, hgs, hgnd, hgmem⟩ := step_ok f hf hsubs (by omega) d (hmem d (by simp))
    obtain ⟨hdn, hnd'⟩ := List.nodup_cons.mp hnd
    obtain ⟨gi, hgi⟩ := ih g hwf hgs hnd'
      (fun d' hd' => hgmem d' (hmem d' (by simp [hd'])) (fun h => hdn (h ▸ hd'))) (by omega)
    exact ⟨gi, (integrateSeq_cons_iff ..).mpr (Or.inr ⟨g, hg, hgi⟩)⟩

/-- `mean(list)` over some (not all) of the directions succeeds, for every order, on a
well-formed field whose subregions passed the setter. -/
theorem mean_dirs_ok (f : Fld) (hf : WF f) (hsubs : SubsAcc f.mesh) (ds : List String)
    (hnd : ds.Nodup) (hmem : ∀ d ∈ ds, d ∈ f.mesh.region.dims) (hlen : ds.length < f.mesh.ndim) :
    ∃ gm, mean f (.names ds) = .ok (.field gm) := by
  obtain ⟨gi, hgi⟩ := integrateSeq_ok f hf hsubs ds hnd hmem hlen
  obtain ⟨axes, hax, hselm, hinv, _⟩ := chain_start f hf ds gi hgi
  have hn := hinv.n
  have hdup : hasDup ds = false := (hasDup_false_iff_nodup ds).mpr hnd
  have hnot : sameMultiset ds f.mesh.region.dims = false := by
    cases h : sameMultiset ds f.mesh.region.dims with
    | false => rfl
    | true =>
      have := ((sameMultiset_iff_perm _ _).mp h).length_eq
      have hdl : f.mesh.region.dims.length = f.mesh.ndim := hf.1.dims_length
      omega
  have hshape : (meanAxes f.nvdim f.data axes).shape = gi.mesh.n := by
    show filterMask (keepMask f.data.shape.length axes) f.data.shape = _
    rw [hf.2, hn]
  exact ⟨_, (mean_names_iff f ds _).mpr ⟨hdup, Or.inr ⟨hnot, _, axes, hselm, hax, hshape, rfl⟩⟩⟩

/-- on a 1-d mesh `mean(d)` with a bare direction name is rejected (there is no 0-dimensional
mesh to return a field on; `mean([d])` and `mean()` return the array) -/
theorem mean_dir_1d_rejected (f : Fld) (hf : WF f) (h1 : f.mesh.ndim = 1) (d : String) (r : Res) :
    mean f (.name d) ≠ .ok r := by
  intro h
  obtain ⟨ax, m', hax, hsel, _, _⟩ := (mean_name_iff f d r).mp h
  have := (sel_reduced hf.1 hax hsel).two
  omega

/-- Total forms of "mean = integral / extent": for every direction (two or more dimensions),
and for every list of distinct directions shorter than the number of dimensions, in any order,
on a well-formed field whose subregions passed the setter, both sides exist and `mean` is the (chained)
integral divided by the integrated extent on the same reduced mesh. -/
theorem mean_eq_total (f : Fld) (hf : WF f) (hsubs : SubsAcc f.mesh) :
    (∀ d, 2 ≤ f.mesh.ndim → d ∈ f.mesh.region.dims →
      ∃ ax gi gm, f.mesh.region.dim2index d = .ok ax ∧ integrate f (.name d) false = .ok (.field gi) ∧
        mean f (.name d) = .ok (.field gm) ∧ gm.mesh = gi.mesh ∧
        ∀ i c, inRange (removeAt f.mesh.n ax) i = true → c < f.nvdim →
          cget gm.data i c = cget gi.data i c / f.mesh.region.edge ax) ∧
    (∀ ds : List String, ds.Nodup → (∀ d ∈ ds, d ∈ f.mesh.region.dims) → ds.length < f.mesh.ndim →
      ∃ gi gm, integrateSeq f ds = .ok (.field gi) ∧ mean f (.names ds) = .ok (.field gm) ∧
        gm.mesh = gi.mesh ∧
        ∀ i c, inRange gi.data.shape i = true → c < f.nvdim →
          cget gm.data i c = cget gi.data i c / extent f.mesh.region ds) := by
  constructor
  · intro d h2 hd
    obtain ⟨gi, hgi, _⟩ := (integrate_dir_ok f hf hsubs d hd).1 h2
    obtain ⟨gm, hgm⟩ := mean_dir_ok f hf hsubs h2 d hd
    obtain ⟨ax, gm', hax, hr, hmesh, _, _, _, _, hv⟩ := mean_dir_eq f hf d gi _ hgi hgm
    injection hr with hr; subst hr
    exact ⟨ax, gi, gm, hax, hgi, hgm, hmesh, hv⟩
  · intro ds hnd hmem hlen
    obtain ⟨gi, hgi⟩ := integrateSeq_ok f hf hsubs ds hnd hmem hlen
    obtain ⟨gm, hgm⟩ := mean_dirs_ok f hf hsubs ds hnd hmem hlen
    obtain ⟨hmesh, _, _, _, hv⟩ := mean_dirs_eq f hf ds gm gi hgm hgi
    exact ⟨gi, gm, hgi, hgm, hmesh, hv⟩

/-! ## Order independence for every permutation, and the value of a chained integral -/

/-- Fubini, permutation form: for EVERY permutation `ds` of the mesh's directions, integrating
direction by direction in that order succeeds (well-formed field, subregions accepted by the setter) and gives
exactly `integrate()`. -/
theorem fubini_perm (f : Fld) (hf : WF f) (hsubs : SubsAcc f.mesh) (ds : List String)
    (hp : ds.Perm f.mesh.region.dims) : integrateSeq f ds = integrate f .none false := by
  have hnd : ds.Nodup := hp.nodup_iff.mpr ((hasDup_false_iff_nodup _).mp hf.1.1.dims_nodup)
  have hdl : f.mesh.region.dims.length = f.mesh.ndim := hf.1.dims_length
  exact fubini_total f hf hsubs ds hnd (fun d hd => hp.mem_iff.mp hd) (by rw [hp.length_eq, hdl])

/-- The chained integral over several (not all) directions, in any order: the result has the
axes that are not listed, and its value at the reduced index `i` is the product of the cell
lengths of the listed directions times the sum over the listed axes (as a set: `maskSum` sums
exactly the axes whose keep-flag is false).  The several-direction form of `integrate_dir`. -/
theorem integrateSeq_vals (f : Fld) (hf : WF f) (ds : List String) (g : Fld)
    (h : integrateSeq f ds = .ok (.field g)) :
    ∃ axes, dimIndices f.mesh.region ds = .ok axes ∧
      g.mesh.region.dims = filterMask (keepMask f.mesh.n.length axes) f.mesh.region.dims ∧
      g.mesh.region.pmin = filterMask (keepMask f.mesh.n.length axes) f.mesh.region.pmin ∧
      g.mesh.region.pmax = filterMask (keepMask f.mesh.n.length axes) f.mesh.region.pmax ∧
      g.mesh.n = filterMask (keepMask f.mesh.n.length axes) f.mesh.n ∧
      g.data.shape = g.mesh.n ∧ g.nvdim = f.nvdim ∧
      ∀ i c, inRange g.mesh.n i = true → c < f.nvdim →
        cget g.data i c = cellExtent f.mesh ds *
          maskSum f.mesh.n (keepMask f.mesh.n.length axes) (fun t => cget f.data t c) i := by
  obtain ⟨axes, hax, _, hinv, _⟩ := chain_start f hf ds g h
  exact ⟨axes, hax, hinv.dims, hinv.pmin, hinv.pmax, hinv.n, hinv.wf.2, hinv.nvdim, hinv.val⟩

/-- Partial Fubini: two chained integrals over permutations of the same directions (not
necessarily all of them) agree — same remaining axes, corners and cell counts, same values. -/
theorem integrateSeq_perm (f : Fld) (hf : WF f) (ds ds' : List String) (hp : ds.Perm ds') (g g' : Fld)
    (h : integrateSeq f ds = .ok (.field g)) (h' : integrateSeq f ds' = .ok (.field g')) :
    g'.mesh.region.dims = g.mesh.region.dims ∧ g'.mesh.region.pmin = g.mesh.region.pmin ∧
    g'.mesh.region.pmax = g.mesh.region.pmax ∧ g'.mesh.n = g.mesh.n ∧ g'.data.shape = g.data.shape ∧
    g'.nvdim = g.nvdim ∧
    ∀ i c, inRange g.data.shape i = true → c < f.nvdim → cget g'.data i c = cget g.data i c :=
  chain_perm f hf ds ds' hp g g' h h'

/-- … and both exist: for every list `ds` of distinct directions (fewer than all) and every
permutation `ds'` of it, both chained integrals succeed and agree. -/
theorem integrateSeq_perm_total (f : Fld) (hf : WF f) (hsubs : SubsAcc f.mesh) (ds ds' : List String)
    (hnd : ds.Nodup) (hmem : ∀ d ∈ ds, d ∈ f.mesh.region.dims) (hlen : ds.length < f.mesh.ndim)
    (hp : ds.Perm ds') :
    ∃ g g', integrateSeq f ds = .ok (.field g) ∧ integrateSeq f ds' = .ok (.field g') ∧
      g'.mesh.n = g.mesh.n ∧ g'.data.shape = g.data.shape ∧
      ∀ i c, inRange g.data.shape i = true → c < f.nvdim → cget g'.data i c = cget g.data i c := by
  obtain ⟨g, hg⟩ := integrateSeq_ok f hf hsubs ds hnd hmem hlen
  obtain ⟨g', hg'⟩ := integrateSeq_ok f hf hsubs ds' (hp.nodup_iff.mp hnd)
    (fun d hd => hmem d (hp.mem_iff.mpr hd)) (by rw [← hp.length_eq]; exact hlen)
  obtain ⟨_, _, _, hn, hs, _, hv⟩ := integrateSeq_perm f hf ds ds' hp g g' hg hg'
  exact ⟨g, g', hg, hg', hn, hs, hv⟩

/-- Means are consistent across axes too: averaging direction by direction (bare names, each
step on the reduced mesh the previous step returned), in any order of a proper subset `ds` of
the directions, gives exactly `mean(ds)` — the same reduced mesh (subregions included) and the
same values. -/
theorem meanSeq_eq_mean_list (f : Fld) (hf : WF f) (ds : List String) (gs gm : Fld)
    (hs : meanSeq f ds = .ok (.field gs)) (hm : mean f (.names ds) = .ok (.field gm)) :
    gs.mesh = gm.mesh ∧ gs.data.shape = gm.data.shape ∧ gs.nvdim = gm.nvdim ∧
    ∀ i c, inRange gm.data.shape i = true → c < f.nvdim → cget gs.data i c = cget gm.data i c := by
  obtain ⟨_, m', axes, hselm, hax, hshape, hgm⟩ := mean_names_unpack f ds gm hm
  obtain ⟨axes', C', hax', hselm', hinv, hprod⟩ := mean_chain f hf ds f _ 1 gs (chainInv_init f hf) hs
  rw [hax] at hax'; injection hax' with hax'; subst hax'
  rw [hselm] at hselm'; injection hselm' with hselm'
  rw [← keepMask_eq_foldl, dropProd_allTrue] at hprod
  rw [← keepMask_eq_foldl] at hinv
  subst hgm
  have hshape' : gs.data.shape = (meanAxes f.nvdim f.data axes).shape := by
    rw [hinv.wf.2, ← hselm', hshape]
  refine ⟨hselm'.symm, hshape', hinv.nvdim, ?_⟩
  intro i c hin hc
  have hin' : inRange (meanAxes f.nvdim f.data axes).shape i = true := hin
  simp only
  rw [cget_force (meanAxes f.nvdim f.data axes) i c hin', cget_meanAxes _ _ _ _ _ hc,
    hinv.val i c (by rw [← hinv.wf.2, hshape']; exact hin') hc, hf.2]
  have hD : (0 : Rat) < (dropProd (keepMask f.mesh.n.length axes) f.mesh.n : Rat) := by
    exact Nat.cast_pos.mpr (dropProd_pos _ _ (Mesh.Inv.mem_n_pos hf.1))
  have hC : C' = 1 / (dropProd (keepMask f.mesh.n.length axes) f.mesh.n : Rat) := by
    field_simp
    rw [hprod]; ring
  rw [hC]; ring

/-! ## Axis removal with subregions

`SubsFit m` (`DFV/Lemmas/C06Subs.lean`): every subregion of `m` starts a whole number of cells
into the region and is a whole number (≥ 1) of cells long on every axis (what the subregion
setter checks, read with tolerance 0). -/

/-- `Mesh.sel(d)` on a well-formed mesh (two or more dimensions) whose subregions fit it, for
every direction `d` of the mesh: it SUCCEEDS — the subregion setter of the reduced mesh accepts
every inherited subregion (inside the region, whole cells, aligned) — and returns the reduced
mesh of the same mesh without subregions, carrying exactly the subregions whose closed extent
along the removed axis contains the centre of cell ⌊n/2⌋ of that axis, each with that axis
removed and the reduced mesh's dims / units / tolerance; these fit the reduced mesh again. -/
theorem sel_subregions (m : Mesh) (hm : m.Inv) (hfit : SubsFit m) (h2 : 2 ≤ m.ndim) (d : String)
    (hd : d ∈ m.region.dims) :
    ∃ ax mc m', m.region.dim2index d = .ok ax ∧ sel { m with subs := [] } d = .ok mc ∧ sel m d = .ok m' ∧
      m'.region = mc.region ∧ m'.n = mc.n ∧ m'.bc = "" ∧
      m'.subs = (keepSubs ax (m.region.lo ax + (((m.nAt ax / 2 : Nat) : Rat) + 1/2) * m.cellAt ax) m.subs).map
        (fun p => (p.1, restamp mc (projReg ax p.2))) ∧
      SubsFit m' := by
  obtain ⟨ax, hax⟩ := dim2index_of_mem _ _ hd
  have hacc := subsAcc_of_fit m hm hfit
  exact ⟨ax, _, _, hax, sel_eq_selF { m with subs := [] } hm (subsAcc_nil _ rfl) h2 d ax hax, sel_eq_selF m hm hacc h2 d ax hax,
    rfl, rfl, rfl, rfl, selF_fit m hfit h2 ax (hm.dim2index_lt hax)⟩

/-- which subregions survive: a subregion of the mesh is inherited by the reduced mesh iff
the centre of cell ⌊n/2⌋ along the removed axis lies in its closed extent along that axis -/
theorem keepSubs_mem (ax : Nat) (s : Rat) (subs : List (String × Region)) (p : String × Region) :
    p ∈ keepSubs ax s subs ↔ p ∈ subs ∧ p.2.lo ax ≤ s ∧ s ≤ p.2.hi ax := by
  unfold keepSubs
  rw [List.mem_filter]
  simp only [Bool.not_eq_true', Bool.or_eq_false_iff, decide_eq_false_iff_not, not_lt]
  constructor
  · rintro ⟨h, h1, h2⟩; exact ⟨h, h2, h1⟩
  · rintro ⟨h, h1, h2⟩; exact ⟨h, h2, h1⟩

/-- `integrate(d)` and `mean(d)` live on exactly the mesh `Mesh.sel(d)` returns (theorems
`sel_subregions`, `sel_subregions_acc`), subregions included. -/
theorem integrate_mean_dir_mesh (f : Fld) (d : String) (g : Fld) :
    (integrate f (.name d) false = .ok (.field g) → sel f.mesh d = .ok g.mesh) ∧
    (mean f (.name d) = .ok (.field g) → sel f.mesh d = .ok g.mesh) := by
  constructor
  · intro h
    obtain ⟨_, m', _, _, hsel, _, hg⟩ := (integrate_dir_iff f d g).mp h
    rw [hsel, hg]
  · intro h
    obtain ⟨_, m', _, hsel, _, hg⟩ := (mean_name_iff f d _).mp h
    injection hg with hg
    rw [hsel, hg]

/-- … and both exist: for every list of distinct directions shorter than the number of
dimensions, in any order, on a well-formed field whose subregions passed the setter, the
direction-by-direction mean and `mean(list)` both succeed and agree (mesh and values). -/
theorem meanSeq_total (f : Fld) (hf : WF f) (hsubs : SubsAcc f.mesh) (ds : List String)
    (hnd : ds.Nodup) (hmem : ∀ d ∈ ds, d ∈ f.mesh.region.dims) (hlen : ds.length < f.mesh.ndim) :
    ∃ gs gm, meanSeq f ds = .ok (.field gs) ∧ mean f (.names ds) = .ok (.field gm) ∧ gs.mesh = gm.mesh ∧
      ∀ i c, inRange gm.data.shape i = true → c < f.nvdim → cget gs.data i c = cget gm.data i c := by
  have hex : ∃ gs, meanSeq f ds = .ok (.field gs) := by
    induction ds generalizing f with
    | nil => exact ⟨f, rfl⟩
    | cons d ds ih =>
      have hlen' : ds.length + 1 < f.mesh.ndim := by simpa using hlen
      obtain ⟨g1, hg1, hwf1, hgs, hgnd, hgmem⟩ := mean_step_ok f hf hsubs (by omega) d (hmem d (by simp))
      obtain ⟨hdn, hnd'⟩ := List.nodup_cons.mp hnd
      obtain ⟨gs, hgs'⟩ := ih g1 hwf1 hgs hnd'
        (fun d' hd' => hgmem d' (hmem d' (by simp [hd'])) (fun h => hdn (h ▸ hd'))) (by omega)
      exact ⟨gs, (meanSeq_cons_iff ..).mpr ⟨g1, hg1, hgs'⟩⟩
  obtain ⟨gs, hgs⟩ := hex
  obtain ⟨gm, hgm⟩ := mean_dirs_ok f hf hsubs ds hnd hmem hlen
  obtain ⟨hmesh, _, _, hv⟩ := meanSeq_eq_mean_list f hf ds gs gm hgs hgm
  exact ⟨gs, gm, hgs, hgm, hmesh, hv⟩

/-! ## In-place histories: cell volume and integrals follow the mesh

`runH f steps` is the field after the mesh object it refers to has been transformed in place
by `steps` (`mesh.scale`, `mesh.region.scale`, `mesh.translate`, `mesh.region.translate`, each
with `inplace=True`; a rejected step changes nothing).  `histFac m a steps` is the product of
the absolute scale factors of axis `a` over the accepted steps, `histVol` the product of these
over the axes. -/

/-- One in-place step keeps the mesh well formed, keeps cell counts and names, and multiplies
the cell length of every axis by the absolute value of that axis's scale factor (by 1 for a
translation). -/
theorem hstep_geometry (m : Mesh) (hm : m.Inv) (s : HStep) (m' : Mesh) (h : hstepM m s = .ok m') :
    m'.Inv ∧ m'.n = m.n ∧ m'.region.dims = m.region.dims ∧ m'.ndim = m.ndim ∧
    ∀ a, a < m.ndim → m'.cellAt a = stepFac s a * m.cellAt a :=
  hstepM_spec m hm s m' h

/-- In-place steps are accepted: on every well-formed mesh, `mesh.region.translate` by a vector
of the right length and `mesh.region.scale` by non-zero factors (a number or one per axis,
reference point absent or of the right length) succeed; if the subregions fit the mesh the same
holds for `mesh.translate` / `mesh.scale`, which also transform every subregion. -/
theorem hstep_accepted (m : Mesh) (hm : m.Inv) :
    (∀ v : List Rat, v.length = m.ndim → ∃ m', hstepM m (.translateRegion v) = .ok m') ∧
    (∀ (f : T.Factor) (ref : Option (List Rat)), f.okFor m.ndim = true →
      (ref.getD m.region.center).length = m.ndim → (∀ a, a < m.ndim → f.at a ≠ 0) →
      ∃ m', hstepM m (.scaleRegion f ref) = .ok m') ∧
    (SubsFit m →
      (∀ v : List Rat, v.length = m.ndim → ∃ m', hstepM m (.translateMesh v) = .ok m') ∧
      (∀ (f : T.Factor) (ref : Option (List Rat)), f.okFor m.ndim = true →
        (ref.getD m.region.center).length = m.ndim → (∀ a, a < m.ndim → f.at a ≠ 0) →
        ∃ m', hstepM m (.scaleMesh f ref) = .ok m')) := by
  -- the in-place region operations need ordered corners only (`T.translateR_inplace_iff`, `T.scaleR_inplace_iff`):
  -- the region has them, a fitting subregion has them
  have hlt : ∀ a, a < m.region.ndim → m.region.lo a < m.region.hi a := fun _ ha => hm.lo_lt_hi ha
  have htr := fun (v : List Rat) (hv : v.length = m.ndim) =>
    (T.translateR_inplace_iff m.region hlt v _ _).mpr ⟨hv, rfl, rfl⟩
  have hsc := fun (f : T.Factor) (ref : Option (List Rat)) (hf : f.okFor m.ndim = true)
      (href : (ref.getD m.region.center).length = m.ndim) (hnz : ∀ a, a < m.ndim → f.at a ≠ 0) =>
    (T.scaleR_inplace_iff m.region hlt f ref _ _).mpr ⟨hf, href, hnz, rfl, rfl⟩
  refine ⟨fun v hv => ⟨_, by rw [hstepM, htr v hv]⟩,
    fun f ref hf href hnz => ⟨_, by rw [hstepM, hsc f ref hf href hnz]⟩, fun hfit => ?_⟩
  have hsub : ∀ p ∈ m.subs, p.2.ndim = m.ndim ∧ ∀ a, a < p.2.ndim → p.2.lo a < p.2.hi a := fun p hp =>
    ⟨(hfit p hp).1, fun a ha => subFits_lo_lt_hi m hm p.2 (hfit p hp) a ((hfit p hp).1 ▸ ha)⟩
  constructor
  · intro v hv
    obtain ⟨subs', hs'⟩ := T.mapSubs_ok_of_all m.subs (fun s => T.translateR s v true) fun p hp =>
      ⟨_, _, (T.translateR_inplace_iff p.2 (hsub p hp).2 v _ _).mpr ⟨hv.trans (hsub p hp).1.symm, rfl, rfl⟩⟩
    exact ⟨_, by simp only [hstepM, T.stepM, htr v hv, hs', if_true]; rfl⟩
  · intro f ref hf href hnz
    obtain ⟨subs', hs'⟩ := T.mapSubs_ok_of_all m.subs (fun s => T.scaleR s f (T.subRef m ref) true) fun p hp =>
      ⟨_, _, (T.scaleR_inplace_iff p.2 (hsub p hp).2 f _ _ _).mpr
        ⟨(hsub p hp).1 ▸ hf, (T.subRef_getD m ref _).symm ▸ (hsub p hp).1 ▸ href, (hsub p hp).1 ▸ hnz, rfl, rfl⟩⟩
    exact ⟨_, by simp only [hstepM, T.stepM, hsc f ref hf href hnz, hs', if_true]; rfl⟩

/-- After ANY history of in-place steps the field is still well formed, carries the same
arrays, and the cell volume of its mesh is the accumulated volume factor times the original
cell volume: `dV` follows the mesh (induction over the history). -/
theorem dV_history (f : Fld) (hf : WF f) (steps : List HStep) :
    WF (runH f steps) ∧ (runH f steps).data = f.data ∧
    dV (runH f steps).mesh = histVol f.mesh steps * dV f.mesh ∧
    ∀ a, a < f.mesh.ndim → (runH f steps).mesh.cellAt a = histFac f.mesh a steps * f.mesh.cellAt a := by
  have h := runH_spec steps f hf
  exact ⟨h.wf, h.data, dV_runH f hf steps, h.cellAt⟩

/-- `integrate()` after any history of in-place steps is the accumulated volume factor times
`integrate()` before — the current cell volume times the sum of the cells. -/
theorem integrate_all_history (f : Fld) (hf : WF f) (steps : List HStep) :
    integrate (runH f steps) .none false
      = .ok (.vals (tab f.nvdim fun c =>
          histVol f.mesh steps * (dV f.mesh * nestSum f.data.shape fun i => cget f.data i c))) := by
  have h := runH_spec steps f hf
  rw [integrate_all, h.nvdim, dV_runH f hf steps, h.data]
  refine vals_tab_congr fun c _ => ?_
  ring

/-- `integrate(d)` and `integrate(d, cumulative=True)` after any history of in-place steps:
same shape, and every entry is the accumulated factor of THAT axis times the entry before. -/
theorem integrate_dir_history (f : Fld) (hf : WF f) (steps : List HStep) (d : String) (cum : Bool) (r r' : Res)
    (h : integrate f (.name d) cum = .ok r) (h' : integrate (runH f steps) (.name d) cum = .ok r') :
    ∃ ax, f.mesh.region.dim2index d = .ok ax ∧ r'.shape = r.shape ∧
      ∀ i c, inRange r.shape i = true → c < f.nvdim →
        r'.cval i c = histFac f.mesh ax steps * r.cval i c := by
  have hh := runH_spec steps f hf
  obtain ⟨hss, hv⟩ := integrate_pair f _ hf hh.wf (.name d) cum (ishape_runH f hf steps _ _) r r' h h'
  obtain ⟨ax, hax⟩ := integrate_name_ax h
  refine ⟨ax, hax, hss, fun i c hi hc => ?_⟩
  rw [(hv i hi).2 c (hh.nvdim ▸ hc), (hv i hi).1 c hc]
  exact ival_runH_name f hf steps d ax hax cum i c

/-- Every form of `mean` is unchanged by any history of in-place rescalings / translations of
the mesh: `mean()` literally, the other forms in shape and values. -/
theorem mean_history_invariant (f : Fld) (hf : WF f) (steps : List HStep) :
    mean (runH f steps) .none = mean f .none ∧
    ∀ dir r r', mean f dir = .ok r → mean (runH f steps) dir = .ok r' →
      r'.shape = r.shape ∧ ∀ i c, inRange r.shape i = true → c < f.nvdim → r'.cval i c = r.cval i c := by
  have hh := runH_spec steps f hf
  constructor
  · rw [mean_none, mean_none, hh.data, hh.nvdim]
  · intro dir r r' h h'
    obtain ⟨hss, hv⟩ := mean_pair f _ dir (mshape_runH f hf steps dir) r r' h h'
    refine ⟨hss, fun i c hi hc => ?_⟩
    rw [(hv i hi).2 c (by rw [hh.nvdim]; exact hc), (hv i hi).1 c hc]
    exact mval_runH f hf steps dir i c

/-- A history of in-place translations only leaves `integrate()` literally unchanged. -/
theorem integrate_all_translation_history (f : Fld) (hf : WF f) (steps : List HStep)
    (hall : ∀ s ∈ steps, ∀ a, stepFac s a = 1) :
    integrate (runH f steps) .none false = integrate f .none false := by
  rw [integrate_all_history f hf steps, integrate_all]
  refine vals_tab_congr fun c _ => ?_
  unfold histVol
  rw [tab_congr _ _ (fun _ => (1 : Rat)) (fun a _ => histFac_translations steps hall f.mesh a), ratProd_tab_one]
  ring

/-! ## Order and absolute value -/

/-- All forms of `integrate` are monotone in the field: if `f ≤ g` cell by cell in component
`c` (two fields on one mesh) then every entry of the integral of `f` is at most the
corresponding entry of the integral of `g` (cell lengths and cell volume are positive). -/
theorem integrate_monotone (f g : Fld) (hf : WF f) (hm : g.mesh = f.mesh) (hn : g.nvdim = f.nvdim)
    (hs : g.data.shape = f.data.shape) (c : Nat) (hc : c < f.nvdim)
    (hle : ∀ t, cget f.data t c ≤ cget g.data t c) (dir : Dir) (cum : Bool) (rf rg : Res)
    (h1 : integrate f dir cum = .ok rf) (h2 : integrate g dir cum = .ok rg) :
    rg.shape = rf.shape ∧ ∀ i, inRange rf.shape i = true → rf.cval i c ≤ rg.cval i c := by
  have hwg : WF g := hf.congr hm hs
  obtain ⟨hss, hv⟩ := integrate_pair f g hf hwg dir cum (by unfold ishape; rw [hm]) rf rg h1 h2
  refine ⟨hss, fun i hi => ?_⟩
  rw [(hv i hi).1 c hc, (hv i hi).2 c (hn ▸ hc)]
  exact ival_mono f g hf hm hs c hle dir cum i

/-- The integral of `abs(f)` — every form: all directions, one direction, cumulative — exists
whenever that of `f` does, lives on the same mesh, and bounds the absolute value of the
integral of `f` entry by entry (triangle inequality); in particular it is non-negative. -/
theorem integrate_abs_triangle (f : Fld) (hf : WF f) (dir : Dir) (cum : Bool) (r : Res)
    (h : integrate f dir cum = .ok r) :
    ∃ ra, integrate (absF f) dir cum = .ok ra ∧ ra.mesh? = r.mesh? ∧ ra.shape = r.shape ∧
      ∀ i c, inRange r.shape i = true → c < f.nvdim → |r.cval i c| ≤ ra.cval i c ∧ 0 ≤ ra.cval i c := by
  obtain ⟨ra, hra, hmesh⟩ := integrate_frame f (absF f) rfl rfl dir cum r h
  obtain ⟨hss, hv⟩ := integrate_pair f (absF f) hf (hf.congr rfl rfl) dir cum rfl r ra h hra
  refine ⟨ra, hra, hmesh, hss, fun i c hi hc => ?_⟩
  rw [(hv i hi).2 c hc, (hv i hi).1 c hc]
  have := ival_abs f hf c hc dir cum i
  exact ⟨this, le_trans (abs_nonneg _) this⟩

/-- Bookkeeping of every field result: number of components, component labels and mapping are
kept, every cell of the result is valid; `integrate` drops the unit, `mean` keeps it. -/
theorem result_meta (f : Fld) (g : Fld) :
    (∀ dir cum, integrate f dir cum = .ok (.field g) →
      g.nvdim = f.nvdim ∧ g.vdims = f.vdims ∧ g.vmap = f.vmap ∧ g.unit = none ∧ ∀ i, g.valid.get i = true) ∧
    (∀ dir, mean f dir = .ok (.field g) →
      g.nvdim = f.nvdim ∧ g.vdims = f.vdims ∧ g.vmap = f.vmap ∧ g.unit = f.unit ∧ ∀ i, g.valid.get i = true) := by
  refine ⟨fun dir cum h => ?_, fun dir h => ?_⟩
  · obtain ⟨h1, h2, h3, h4, hv⟩ := integrate_field_meta f g dir cum h
    exact ⟨h1, h2, h3, h4, fun i => by rw [hv]; rfl⟩
  · obtain ⟨h1, h2, h3, h4, hv⟩ := mean_field_meta f g dir h
    exact ⟨h1, h2, h3, h4, fun i => by rw [hv]; rfl⟩

/-! ## Exactly which calls succeed -/

/-- Acceptance of `integrate`, characterised: on a well-formed field whose subregions passed the
setter, `integrate(direction, cumulative)` returns a result EXACTLY when either no direction is
given and `cumulative` is false, or the direction is one name of the mesh (any number of
dimensions, cumulative or not). -/
theorem integrate_ok_iff (f : Fld) (hf : WF f) (hsubs : SubsAcc f.mesh) (dir : Dir) (cum : Bool) :
    (∃ r, integrate f dir cum = .ok r) ↔
      (match dir with
       | .none => cum = false
       | .name d => d ∈ f.mesh.region.dims
       | _ => False) := by
  cases dir with
  | none =>
    cases cum with
    | true => simp [(integrate_refused f [] true).1]
    | false => simp only [iff_true]; exact ⟨_, integrate_all f⟩
  | name d =>
    simp only
    constructor
    · rintro ⟨r, h⟩
      obtain ⟨ax, hd⟩ := integrate_name_ax h
      exact dim2index_mem _ _ _ hd
    · intro hd
      cases cum with
      | true =>
        obtain ⟨g, hg⟩ := integrate_cum_ok f hf d hd
        exact ⟨_, hg⟩
      | false =>
        by_cases h1 : f.mesh.ndim = 1
        · obtain ⟨v, hv⟩ := (integrate_dir_ok f hf hsubs d hd).2 h1
          exact ⟨_, hv⟩
        · have h2 := two_le_ndim hf.1 h1
          obtain ⟨g, hg, _⟩ := (integrate_dir_ok f hf hsubs d hd).1 h2
          exact ⟨_, hg⟩
  | names ds => simp [(integrate_refused f ds cum).2.1]
  | other => simp [(integrate_refused f [] cum).2.2]

/-- Moving the mesh never turns a successful integral into a failure: whenever `integrate`
succeeds on a well-formed field with fitting subregions it succeeds on the moved field too,
with the same shape and the same values. -/
theorem integrate_translation_total (t : List Rat) (f : Fld) (hf : WF f) (hsubs : SubsFit f.mesh) (dir : Dir)
    (cum : Bool) (r : Res) (h : integrate f dir cum = .ok r) :
    ∃ r', integrate (translate t f) dir cum = .ok r' ∧ r'.shape = r.shape ∧
      ∀ i c, inRange r.shape i = true → c < f.nvdim → r'.cval i c = r.cval i c := by
  have hwt := translate_wf t f hf
  have hacc := subsAcc_of_fit _ hwt.1 (subsFit_translate t f hf.1 hsubs)
  obtain ⟨r', hr'⟩ := (integrate_ok_iff _ hwt hacc dir cum).mpr
    ((integrate_ok_iff f hf (subsAcc_of_fit _ hf.1 hsubs) dir cum).mp ⟨r, h⟩)
  obtain ⟨hs, hv⟩ := integrate_translation_invariant t f hf dir cum r r' h hr'
  exact ⟨r', hr', hs, hv⟩

/-- Acceptance of `mean`, characterised: on a well-formed field whose subregions passed the setter,
`mean(direction)` returns a result EXACTLY when no direction is given, or the direction is one
name of a mesh with at least two dimensions, or it is a list of distinct names of the mesh (in
any order; all of them, some of them or none). -/
theorem mean_ok_iff (f : Fld) (hf : WF f) (hsubs : SubsAcc f.mesh) (dir : Dir) :
    (∃ r, mean f dir = .ok r) ↔
      (match dir with
       | .none => True
       | .name d => d ∈ f.mesh.region.dims ∧ 2 ≤ f.mesh.ndim
       | .names ds => ds.Nodup ∧ ∀ d ∈ ds, d ∈ f.mesh.region.dims
       | .other => False) := by
  cases dir with
  | none => simp only [iff_true]; exact ⟨_, rfl⟩
  | name d =>
    simp only
    constructor
    · rintro ⟨r, h⟩
      obtain ⟨ax, m', hax, hsel, _, _⟩ := (mean_name_iff f d r).mp h
      exact ⟨dim2index_mem _ _ _ hax, (sel_reduced hf.1 hax hsel).two⟩
    · rintro ⟨hd, h2⟩
      obtain ⟨g, hg⟩ := mean_dir_ok f hf hsubs h2 d hd
      exact ⟨_, hg⟩
  | names ds =>
    simp only
    constructor
    · rintro ⟨r, h⟩
      obtain ⟨hdup, hcase⟩ := (mean_names_iff f ds r).mp h
      refine ⟨(hasDup_false_iff_nodup _).mp hdup, ?_⟩
      rcases hcase with ⟨hsame, _⟩ | ⟨_, m', axes, _, haxes, _, _⟩
      · intro d hd
        exact ((sameMultiset_iff_perm _ _).mp hsame).mem_iff.mp hd
      · exact dimIndices_ok_mem _ _ _ haxes
    · rintro ⟨hnd, hmem⟩
      by_cases hp : ds.Perm f.mesh.region.dims
      · exact ⟨_, by rw [mean_all_named f hf ds hp]; rfl⟩
      · have hdl : f.mesh.region.dims.length = f.mesh.ndim := hf.1.dims_length
        have hlt := length_lt_of_not_perm ds _ hnd hmem hp
        obtain ⟨g, hg⟩ := mean_dirs_ok f hf hsubs ds hnd hmem (by rw [← hdl]; exact hlt)
        exact ⟨_, hg⟩
  | other => simp [mean_other]

/-- Invariant over histories: after ANY history of `mesh.scale` / `mesh.translate` in-place
steps (which transform the region and every subregion alike; negative factors reflect) the
subregions still fit the mesh; on a mesh without subregions the same holds for ANY history,
region-level steps included.  So every directional integral, every cumulative integral and
every mean that existed before still exists (acceptance theorems `integrate_ok_iff`,
`mean_ok_iff` apply to the current state). -/
theorem subregions_fit_after_history (f : Fld) (hf : WF f) (hsubs : SubsFit f.mesh) (steps : List HStep)
    (hall : (∀ s ∈ steps, (∃ fac ref, s = HStep.scaleMesh fac ref) ∨ (∃ v, s = HStep.translateMesh v)) ∨
      f.mesh.subs = []) :
    WF (runH f steps) ∧ SubsFit (runH f steps).mesh ∧
    ∀ d, d ∈ f.mesh.region.dims → ∀ cum, ∃ r, integrate (runH f steps) (.name d) cum = .ok r := by
  have hh := runH_spec steps f hf
  have hfit : SubsFit (runH f steps).mesh := by
    rcases hall with hall | hnil
    · exact subsFit_runH steps hall f hf hsubs
    · exact subsFit_nil _ (runH_subs_nil steps f hnil)
  refine ⟨hh.wf, hfit, ?_⟩
  intro d hd cum
  exact (integrate_ok_iff _ hh.wf (subsAcc_of_fit _ hh.wf.1 hfit) (.name d) cum).mpr (by rw [hh.dims]; exact hd)

/-! ## Refusals -/

/-- a cumulative integral over all directions is rejected -/
theorem cumulative_all_dirs_rejected (f : Fld) : integrate f .none true = .error .value := rfl

/-- `integrate` accepts only a single direction name -/
theorem integrate_rejects_non_string (f : Fld) (ds : List String) (cum : Bool) :
    integrate f (.names ds) cum = .error .type ∧ integrate f .other cum = .error .type := ⟨rfl, rfl⟩

/-- an unknown direction is rejected by `integrate` and `mean` -/
theorem unknown_direction_rejected (f : Fld) (d : String) (cum : Bool) (e : Err)
    (h : f.mesh.region.dim2index d = .error e) :
    integrate f (.name d) cum = .error e ∧ mean f (.name d) = .error e :=
  ⟨integrate_name_error f d cum e h, mean_name_error f d e h⟩

/-- duplicate directions are rejected by `mean`; so is a direction that is neither a name
nor a list of names -/
theorem mean_rejects (f : Fld) (ds : List String) (h : hasDup ds = true) :
    mean f (.names ds) = .error .value ∧ mean f .other = .error .value :=
  ⟨mean_names_dup f ds h, rfl⟩

/-! ## Subregions the setter accepts only thanks to its tolerances

`SubOk m r`: the three checks of the `subregions` setter on one candidate (inside the region up
to the region's `atol`; `Mesh(region=r, cell=mesh.cell)` can be built: 0.1 % divisibility, at
least one cell; that mesh is aligned to 1e-12).  `SubAcc m s`: a STORED subregion passes these
checks when offered again as the plain box `df.Region(p1, p2)` - which is what `Mesh.sel` does
with the subregions it keeps.  `SubsAcc m`: every stored subregion does.  The success theorems
above (`…_ok`, `fubini_total`, `fubini_perm`, `integrate_ok_iff`, `mean_ok_iff`, …) only assume
`SubsAcc`; an exact fit (`SubsFit`) is the special case `exact_fit_accepted`. -/

/-- The remainder test shared by the 0.1 % divisibility check of `Mesh(region, cell)` and by
`Mesh.is_aligned` (C14's `aligned_tol_sound`, here with its converse): a length `e` passes
`¬ (t < e mod c < c - t)` EXACTLY when it is within `t` of a whole number of cells. -/
theorem remainder_test_iff (e c t : Rat) (hc : 0 < c) :
    (decide (t < Mesh.remainder e c) && decide (Mesh.remainder e c < c - t)) = false ↔
      ∃ z : Int, absR (e - (z : Rat) * c) ≤ t := by
  simp only [absR_eq_abs]
  exact C14.remTest_false_iff e c t hc

/-- The `subregions` setter accepts a dictionary EXACTLY when every entry passes the three checks,
and then stores each entry with the mesh's dims, units and tolerance. -/
theorem setter_accepts_iff (m : Mesh) (subs : List (String × Region)) :
    ((∃ t, setSubs m subs = .ok t) ↔ ∀ p ∈ subs, SubOk m p.2) ∧
    ∀ t, setSubs m subs = .ok t → t = subs.map fun p => (p.1, restamp m p.2) :=
  ⟨⟨fun ⟨t, h⟩ => ((setSubs_ok_iff m subs t).mp h).1, fun h => ⟨_, (setSubs_ok_iff m subs _).mpr ⟨h, rfl⟩⟩⟩,
    fun t h => ((setSubs_ok_iff m subs t).mp h).2⟩

/-- What the tolerances let through, on every axis: an accepted box has a positive extent; its
faces lie inside the mesh region or within the region's tolerance of the region's faces; its
extent is within 0.1 % of the smallest cell of a whole number of cells and rounds to `k ≥ 1`
cells whose length agrees with the mesh's cell length to `1e-12 + 1e-5·`; and both faces sit
within `1e-12` of a whole number of cells from the corresponding faces of the region. -/
theorem setter_accepts_per_axis (m : Mesh) (hm : m.Inv) (r : Region) (h : SubOk m r) (a : Nat) (ha : a < m.ndim) :
    r.lo a < r.hi a ∧
    (m.region.lo a ≤ r.lo a ∨ absR (m.region.lo a - r.lo a) ≤ m.region.atol + m.region.tol * absR (r.lo a)) ∧
    (r.hi a ≤ m.region.hi a ∨ absR (m.region.hi a - r.hi a) ≤ m.region.atol + m.region.tol * absR (r.hi a)) ∧
    (∃ z : Int, absR (r.edge a - (z : Rat) * m.cellAt a) ≤ listMin m.cell / 1000) ∧
    (∃ k : Nat, 1 ≤ k ∧ (k : Int) = Mesh.roundHalfEven (r.edge a / m.cellAt a) ∧
      absR (m.cellAt a - r.edge a / (k : Rat)) ≤ 1/1000000000000 + (1/100000) * absR (r.edge a / (k : Rat))) ∧
    (∃ z : Int, absR (absR (m.region.lo a - r.lo a) - (z : Rat) * m.cellAt a) ≤ 1/1000000000000) ∧
    (∃ z : Int, absR (absR (m.region.hi a - r.hi a) - (z : Rat) * m.cellAt a) ≤ 1/1000000000000) := by
  obtain ⟨hl1, hl2, hpos⟩ := subOk_basic m hm r h
  obtain ⟨hc, o, ho, hal⟩ := h
  have hcp := hm.cellAt_pos ha
  have har : a < r.ndim := by show a < r.pmin.length; rw [hl1]; exact ha
  obtain ⟨hc1, hc2⟩ := (C01.containsReg_eq_true_iff _ _).mp hc
  have g1 := ((C01.containsPt_eq_true_iff _ _).mp hc1).2 a ha
  have g2 := ((C01.containsPt_eq_true_iff _ _).mp hc2).2 a ha
  rw [C01.containsAx_eq_true_iff, C01.isclose_iff_absR, C01.isclose_iff_absR] at g1 g2
  obtain ⟨_, _, _, h4, h5⟩ := (mkCell_iff r m.cell).mp ⟨o, ho⟩
  have h4a := h4 a har
  have h5a := h5 a har
  rw [C01.cell_getD m a ha] at h4a h5a
  have ho' := mkCell_ok _ _ _ ho
  have hon : o.nAt a = (Mesh.roundHalfEven (r.edge a / m.cellAt a)).toNat := by
    unfold Mesh.nAt; rw [ho']; simp only
    rw [getD_tab _ _ _ _ har, C01.cell_getD m a ha]
  have hoc : o.cellAt a = r.edge a / ((Mesh.roundHalfEven (r.edge a / m.cellAt a)).toNat : Rat) := by
    have hor0 : o.region = r := by rw [ho']
    show o.region.edge a / (o.nAt a : Rat) = _
    rw [hon, hor0]
  unfold aligned at hal
  simp only [Bool.and_eq_true] at hal
  obtain ⟨⟨a1, a2⟩, a3⟩ := hal
  have b1 := (allLt_iff _ _).mp a1 a ha
  have b2 := (allLt_iff _ _).mp a2 a ha
  have b3 := (allLt_iff _ _).mp a3 a ha
  simp only [Bool.not_eq_true'] at b2 b3
  rw [C01.isclose_iff_absR, hoc] at b1
  have hor : o.region = r := by rw [ho']
  rw [hor] at b2 b3
  refine ⟨hpos a ha, g1.1, ?_, ?_, ?_, ?_, ?_⟩
  · exact g2.2
  · unfold Mesh.notDivisible at h4a
    exact (remainder_test_iff _ _ _ hcp).mp h4a
  · refine ⟨(Mesh.roundHalfEven (r.edge a / m.cellAt a)).toNat, h5a, ?_, b1⟩
    have : 0 ≤ Mesh.roundHalfEven (r.edge a / m.cellAt a) := by omega
    exact Int.toNat_of_nonneg this
  · exact (remainder_test_iff _ _ _ hcp).mp b2
  · exact (remainder_test_iff _ _ _ hcp).mp b3

/-- The exact fit is the tolerance-free special case: subregions that start a whole number of
cells into the region and are a whole number ≥ 1 of cells long pass all three checks. -/
theorem exact_fit_accepted (m : Mesh) (hm : m.Inv) (h : SubsFit m) : SubsAcc m := subsAcc_of_fit m hm h

/-- **Acceptance is inherited by axis removal.**  A stored subregion that passes the setter's
checks of the mesh passes, with one axis removed, the setter's checks of the reduced mesh: every
check is per axis except three tolerances taken from a minimum over the axes (the region's
`atol`, the box's own `atol`, 0.1 % of the smallest cell), and a minimum over fewer axes is not
smaller.  There is NO exception: whatever the setter let through, `Mesh.sel(d)` lets through. -/
theorem accepted_subregion_inherited (m : Mesh) (hm : m.Inv) (d : String) (ax : Nat)
    (hax : m.region.dim2index d = .ok ax) (mc : Mesh) (hsel : sel { m with subs := [] } d = .ok mc)
    (s : Region) (hs : SubAcc m s) : SubOk mc (projReg ax s) :=
  subOk_proj hm (sel_reduced (m := { m with subs := [] }) hm hax hsel).of_nosubs s hs

/-- `Mesh.sel(d)` on a well-formed mesh (two or more dimensions) whose subregions passed the
setter - exactly fitting or only within the tolerances -, for every direction `d`: it SUCCEEDS
and returns the reduced mesh of the same mesh without subregions, carrying exactly the
subregions whose closed extent along the removed axis contains the centre of cell ⌊n/2⌋ of that
axis, each with that axis removed and the reduced mesh's dims / units / tolerance; these pass the
checks of the reduced mesh again (so the next `sel` / `integrate` / `mean` succeeds too). -/
theorem sel_subregions_acc (m : Mesh) (hm : m.Inv) (hacc : SubsAcc m) (h2 : 2 ≤ m.ndim) (d : String)
    (hd : d ∈ m.region.dims) :
    ∃ ax mc m', m.region.dim2index d = .ok ax ∧ sel { m with subs := [] } d = .ok mc ∧ sel m d = .ok m' ∧
      m'.region = mc.region ∧ m'.n = mc.n ∧ m'.bc = "" ∧
      m'.subs = (keepSubs ax (m.region.lo ax + (((m.nAt ax / 2 : Nat) : Rat) + 1/2) * m.cellAt ax) m.subs).map
        (fun p => (p.1, restamp mc (projReg ax p.2))) ∧
      SubsAcc m' := by
  obtain ⟨ax, hax⟩ := dim2index_of_mem _ _ hd
  exact ⟨ax, _, _, hax, sel_eq_selF { m with subs := [] } hm (subsAcc_nil _ rfl) h2 d ax hax, sel_eq_selF m hm hacc h2 d ax hax,
    rfl, rfl, rfl, rfl, selF_acc m hm hacc h2 ax (hm.dim2index_lt hax)⟩

/-! ## Quarter turns: `Field.rotate90` permutes the cells and trades the cell lengths

`rotate90F` is the shared exact model of `Field.rotate90` (`DFV/Model/Transform.lean`, property
C12): the copying rotation of the mesh, `np.rot90` on values and validity, the two mapped
components turned by the exact matrix (`cosq`, `sinq` ∈ {0, ±1}).  `srcIdx sh p q k j` is the
index `np.rot90` reads entry `j` from; `rotSrc i1 i2 k a` is the axis that ends up on axis `a`
(the other one of the pair for odd `k`); `csum f c` is the sum of component `c` over all cells. -/

/-- **The sum over all cells is invariant under `np.rot90`**, for every integer `k`, every pair
of distinct axes and every shape: the source indices of the turned shape are a permutation of
the indices of the shape. -/
theorem rot90_sum_invariant (sh : List Nat) (p q : Nat) (k : Int) (hpq : p ≠ q) (hp : p < sh.length) (hq : q < sh.length)
    (hpos : ∀ n ∈ sh, 0 < n) (G : List Nat → Rat) :
    nestSum (T.rotN sh p q k) (fun j => G (T.srcIdx sh p q k j)) = nestSum sh G :=
  nestSum_rot sh p q k hpq hp hq hpos G

/-- **What an accepted `Field.rotate90` does, exactly** (either form, every integer `k`, any
reference point, any number of dimensions): the result is a well-formed field on the turned mesh
- same direction names, cell counts / edge lengths / cell lengths of the two axes traded for odd
`k` and kept for even `k`, the SAME cell volume -, its cells are those of the field permuted by
`np.rot90`, and for a vector field the two mapped components of every cell are turned by the
exact quarter-turn matrix. -/
theorem rotate90_cells (f : Fld) (hf : WF f) (a1 a2 : String) (k : Int) (ref : Option (List Rat)) (b : Bool)
    (x g : Fld) (h : T.rotate90F f a1 a2 k ref b = .ok (x, g)) :
    ∃ i1 i2, f.mesh.region.dim2index a1 = .ok i1 ∧ f.mesh.region.dim2index a2 = .ok i2 ∧ i1 ≠ i2 ∧
      i1 < f.mesh.ndim ∧ i2 < f.mesh.ndim ∧ WF g ∧ g.nvdim = f.nvdim ∧ g.mesh.ndim = f.mesh.ndim ∧
      g.mesh.region.dims = f.mesh.region.dims ∧ g.mesh.n = T.rotN f.mesh.n i1 i2 k ∧
      g.data.shape = T.rotN f.data.shape i1 i2 k ∧
      (∀ a, a < f.mesh.ndim → g.mesh.cellAt a = f.mesh.cellAt (T.rotSrc i1 i2 k a)) ∧
      (∀ a, a < f.mesh.ndim → g.mesh.region.edge a = f.mesh.region.edge (T.rotSrc i1 i2 k a)) ∧
      dV g.mesh = dV f.mesh ∧ g.vdims = f.vdims ∧ g.vmap = f.vmap ∧ g.unit = f.unit ∧ (x = if b then g else f) ∧
      ((f.nvdim ≤ 1 ∧ ∀ j, g.data.get j = f.data.get (T.srcIdx f.data.shape i1 i2 k j)) ∨
       (f.nvdim > 1 ∧ ∃ c1 c2, (f.rDim a1).bind f.vdimIndex = some c1 ∧ (f.rDim a2).bind f.vdimIndex = some c2 ∧
          ∀ j, g.data.get j = T.rotVec (f.data.get (T.srcIdx f.data.shape i1 i2 k j)) c1 c2 k)) := by
  obtain ⟨_, _, i1, i2, _, d1, d2, _, _, e3, e4, e5, _, e7, ex⟩ := T.rotate90F_inv f a1 a2 k ref b x g h
  obtain ⟨j1, j2, t⟩ := rotate90F_turned f hf a1 a2 k ref b x g h
  obtain ⟨rfl, rfl⟩ := t.idx_eq d1 d2
  refine ⟨_, _, d1, d2, t.ne, t.lt1, t.lt2, t.wf, t.nvdim, t.ndim, t.dims, t.n, t.shape, t.cellAt, t.edge, t.dV,
    e3, e4, e5, ex, ?_⟩
  rcases e7 with ⟨hv, e⟩ | ⟨hv, c1, c2, hc1, hc2, e⟩
  · exact Or.inl ⟨hv, fun j => by rw [e, T.rot90_get]⟩
  · exact Or.inr ⟨hv, c1, c2, hc1, hc2, fun j => by rw [e]; exact congrArg (T.rotVec · c1 c2 k) (T.rot90_get _ _ _ _ j)⟩

/-- A quarter turn of a field is accepted EXACTLY when its arguments are well formed (C13's
characterisation, restated for the histories of this property): two different direction names of
the mesh, a reference point with one coordinate per direction, and - for a vector field - both
directions mapped to a component.  `T.FInv`: mesh and array shapes consistent, subregions on the
cell lattice, well-formed `bc`. -/
theorem rotate90_accepted_iff (f : Fld) (hf : T.FInv f) (a1 a2 : String) (k : Int) (ref : Option (List Rat)) (b : Bool) :
    (∃ x g, T.rotate90F f a1 a2 k ref b = .ok (x, g)) ↔ ¬ T.MalformedF f (.rotate90 a1 a2 k ref b) :=
  rotate90F_accepted_iff f hf a1 a2 k ref b

/-- **`integrate()` under a quarter turn**: the volume integral of the turned field is the volume
integral of the field with the two mapped components turned by the quarter-turn matrix
(`turnVals`; a scalar field: literally the same number) - the permutation of the cells does not
change the sum, the trade of the cell lengths does not change the cell volume. -/
theorem rotate90_integrate_all (f : Fld) (hf : WF f) (hl : CellLen f) (a1 a2 : String) (k : Int)
    (ref : Option (List Rat)) (b : Bool) (x g : Fld) (h : T.rotate90F f a1 a2 k ref b = .ok (x, g)) :
    ∃ v, integrate f .none false = .ok (.vals v) ∧ integrate g .none false = .ok (.vals (turnVals f a1 a2 k v)) ∧
      (f.nvdim ≤ 1 → integrate g .none false = integrate f .none false) := by
  refine ⟨_, integrate_all_csum f, integrate_all_rot f hf hl a1 a2 k ref b x g h, ?_⟩
  intro h1
  rw [integrate_all_rot f hf hl a1 a2 k ref b x g h, integrate_all_csum f]
  unfold turnVals
  rw [if_neg (by omega)]

/-- **Directional integrals follow the axes under a quarter turn.**  For every direction `d` of
the mesh (in or out of the plane of rotation), `integrate(d)` of the turned field at the reduced
cell `i` is `integrate(d')` of the field at the source cell of `i` (axis `d'` removed), where `d'`
is the direction that was turned onto `d` (`d` itself unless `k` is odd and `d` is one of the two
axes) - with the two mapped components of a vector field turned by the quarter-turn matrix.  The
cell length used is that of `d'`, the sum runs along `d'` (forwards or backwards): a wrong axis or a
cell length taken from the wrong direction after a turn would contradict this. -/
theorem rotate90_integrate_dir (f : Fld) (hf : WF f) (hl : CellLen f) (a1 a2 : String) (k : Int)
    (ref : Option (List Rat)) (b : Bool) (x g : Fld) (h : T.rotate90F f a1 a2 k ref b = .ok (x, g)) (d : String) (r : Res)
    (hr : integrate g (.name d) false = .ok r) :
    ∃ i1 i2 a, f.mesh.region.dim2index a1 = .ok i1 ∧ f.mesh.region.dim2index a2 = .ok i2 ∧
      f.mesh.region.dim2index d = .ok a ∧ r.shape = removeAt (T.rotN f.mesh.n i1 i2 k) a ∧
      ∀ i c, inRange (removeAt (T.rotN f.mesh.n i1 i2 k) a) i = true → c < f.nvdim →
        inRange (removeAt f.mesh.n (T.rotSrc i1 i2 k a))
          (removeAt (T.srcIdx f.mesh.n i1 i2 k (insertAt i a 0)) (T.rotSrc i1 i2 k a)) = true ∧
        r.cval i c = (turnVals f a1 a2 k (tab f.nvdim fun c' =>
          ival f (.name (f.mesh.region.dims.getD (T.rotSrc i1 i2 k a) "")) false
            (removeAt (T.srcIdx f.mesh.n i1 i2 k (insertAt i a 0)) (T.rotSrc i1 i2 k a)) c')).getD c 0 := by
  obtain ⟨i1, i2, a, d1, d2, hax, haxlt, hsrc, hrs, hval⟩ := rot_dir_vals f hf hl a1 a2 k ref b x g h d r hr
  refine ⟨i1, i2, a, d1, d2, hax, hrs, ?_⟩
  intro i c hi hc
  obtain ⟨hJ, hv⟩ := hval i c hi hc
  refine ⟨inRange_removeAt _ _ _ hJ, ?_⟩
  rw [hv]
  congr 2
  apply tab_congr
  intro c' _
  have hdl : f.mesh.region.dims.length = f.mesh.ndim := hf.1.dims_length
  have hd' := dim2index_getD f.mesh.region (T.rotSrc i1 i2 k a) (by rw [hdl]; exact hsrc) hf.1.1.dims_nodup
  simp only [ival, hd', Bool.false_eq_true, if_false]
  congr 1
  apply sumTo_congr
  intro u _
  rw [insertAt_removeAt _ _ _ (by rw [inRange_length _ _ hJ, hf.1.n_length]; exact hsrc)]

/-- **Directional means follow the axes too**: `mean(d)` of the turned field at the reduced cell
`i` is the turned directional integral of `rotate90_integrate_dir` divided by the edge length of
the direction `d'` that was turned onto `d` (the integrated extent follows the axis, like the
cell length). -/
theorem rotate90_mean_dir (f : Fld) (hf : WF f) (hl : CellLen f) (a1 a2 : String) (k : Int)
    (ref : Option (List Rat)) (b : Bool) (x g : Fld) (h : T.rotate90F f a1 a2 k ref b = .ok (x, g)) (d : String) (gi : Fld)
    (r : Res) (hi : integrate g (.name d) false = .ok (.field gi)) (hr : mean g (.name d) = .ok r) :
    ∃ i1 i2 a, f.mesh.region.dim2index a1 = .ok i1 ∧ f.mesh.region.dim2index a2 = .ok i2 ∧
      f.mesh.region.dim2index d = .ok a ∧ r.shape = removeAt (T.rotN f.mesh.n i1 i2 k) a ∧
      ∀ i c, inRange (removeAt (T.rotN f.mesh.n i1 i2 k) a) i = true → c < f.nvdim →
        r.cval i c = (turnVals f a1 a2 k (tab f.nvdim fun c' =>
          ival f (.name (f.mesh.region.dims.getD (T.rotSrc i1 i2 k a) "")) false
            (removeAt (T.srcIdx f.mesh.n i1 i2 k (insertAt i a 0)) (T.rotSrc i1 i2 k a)) c')).getD c 0
          / f.mesh.region.edge (T.rotSrc i1 i2 k a) := by
  obtain ⟨j1, j2, t⟩ := rotate90F_turned f hf a1 a2 k ref b x g h
  obtain ⟨i1, i2, a, d1, d2, hax, hrs, hval⟩ := rotate90_integrate_dir f hf hl a1 a2 k ref b x g h d (.field gi) hi
  obtain ⟨rfl, rfl⟩ := t.idx_eq d1 d2
  obtain ⟨a', gm, hax', hrm, _, hshape, _, _, _, hmv⟩ := mean_dir_eq g t.wf d gi r hi hr
  rw [T.dim2index_congr f.mesh.region g.mesh.region t.dims d, hax] at hax'
  injection hax' with hax'; subst hax'
  subst hrm
  have haxlt : a < f.mesh.ndim := hf.1.dim2index_lt hax
  refine ⟨_, _, a, d1, d2, hax, ?_, ?_⟩
  · show gm.data.shape = _
    rw [hshape]; exact hrs
  · intro i c hi' hc
    rw [t.n] at hmv
    show cget gm.data i c = _
    rw [hmv i c hi' (by rw [t.nvdim]; exact hc), t.edge a haxlt]
    have := (hval i c hi' hc).2
    simp only [Res.cval] at this
    rw [this]

/-- **`mean()` under a quarter turn** likewise: the mean of the turned field is the mean of the
field with the two mapped components turned; a scalar field's mean is unchanged. -/
theorem rotate90_mean_all (f : Fld) (hf : WF f) (hl : CellLen f) (a1 a2 : String) (k : Int)
    (ref : Option (List Rat)) (b : Bool) (x g : Fld) (h : T.rotate90F f a1 a2 k ref b = .ok (x, g)) :
    ∃ v, mean f .none = .ok (.vals v) ∧ mean g .none = .ok (.vals (turnVals f a1 a2 k v)) ∧
      (f.nvdim ≤ 1 → mean g .none = mean f .none) := by
  refine ⟨_, mean_all_csum f, mean_all_rot f hf hl a1 a2 k ref b x g h, ?_⟩
  intro h1
  rw [mean_all_rot f hf hl a1 a2 k ref b x g h, mean_all_csum f]
  unfold turnVals
  rw [if_neg (by omega)]

/-- After an accepted quarter turn of a well-formed field on a mesh without subregions every
directional integral, cumulative integral and accepted mean exists again (the turned field is well
formed and has no subregions), and integrating it direction by direction in any order gives its
`integrate()` - which is the turned `integrate()` of the field (`rotate90_integrate_all`). -/
theorem rotate90_then_integrate_ok (f : Fld) (hf : WF f) (hs : f.mesh.subs = []) (a1 a2 : String) (k : Int)
    (ref : Option (List Rat)) (b : Bool) (x g : Fld) (h : T.rotate90F f a1 a2 k ref b = .ok (x, g)) :
    WF g ∧ SubsAcc g.mesh ∧
    (∀ d, d ∈ f.mesh.region.dims → ∀ cum, ∃ r, integrate g (.name d) cum = .ok r) ∧
    (∀ ds : List String, ds.Perm f.mesh.region.dims → integrateSeq g ds = integrate g .none false) := by
  obtain ⟨_, _, t⟩ := rotate90F_turned f hf a1 a2 k ref b x g h
  have hacc : SubsAcc g.mesh := subsAcc_nil _ (rotate90F_subs_nil f hs a1 a2 k ref b x g h)
  refine ⟨t.wf, hacc, ?_, ?_⟩
  · intro d hd cum
    exact (integrate_ok_iff g t.wf hacc (.name d) cum).mpr (by rw [t.dims]; exact hd)
  · intro ds hp
    exact fubini_perm g t.wf hacc ds (by rw [t.dims]; exact hp)

/-- **Histories with quarter turns** (`runFS`: in-place steps on the mesh / region object AND
`field.rotate90(…, inplace=True)`, in any order and number; a rejected step changes nothing): the
field stays well formed with `nvdim` components per cell; the cell volume is the accumulated
volume factor (`fhistVol`: the scale steps only - a quarter turn contributes 1) times the original
one; `integrate()` is the current cell volume times the per-component cell sums turned by the
accepted turns of the history (`fhistTurn`), `mean()` those sums divided by the number of cells. -/
theorem turns_history (f : Fld) (hf : WF f) (hl : CellLen f) (steps : List FStep) :
    WF (runFS f steps) ∧ CellLen (runFS f steps) ∧ (runFS f steps).nvdim = f.nvdim ∧
    dV (runFS f steps).mesh = fhistVol f steps * dV f.mesh ∧
    integrate (runFS f steps) .none false = .ok (.vals (tab f.nvdim fun c =>
      fhistVol f steps * dV f.mesh * (fhistTurn f steps (tab f.nvdim (csum f))).getD c 0)) ∧
    mean (runFS f steps) .none = .ok (.vals (tab f.nvdim fun c =>
      (fhistTurn f steps (tab f.nvdim (csum f))).getD c 0 / (natProd f.data.shape : Rat))) := by
  have h := runFS_spec steps f hf hl
  refine ⟨h.wf, h.cellLen, h.nvdim, h.dV, ?_, ?_⟩
  · rw [integrate_all_csum, h.nvdim, h.dV]
    exact vals_tab_congr fun c hc => by rw [← h.totals, getD_tab _ _ _ _ hc]
  · rw [mean_all_csum, h.nvdim, h.natProd]
    exact vals_tab_congr fun c hc => by rw [← h.totals, getD_tab _ _ _ _ hc]

/-- … for a scalar field the turns do not show at all: `integrate()` after any such history is
the accumulated volume factor times `integrate()` before, `mean()` is literally unchanged; and
after a history of quarter turns only, cell volume and `integrate()` are literally unchanged. -/
theorem turns_history_scalar (f : Fld) (hf : WF f) (hl : CellLen f) (h1 : f.nvdim ≤ 1) (steps : List FStep) :
    integrate (runFS f steps) .none false
      = .ok (.vals (tab f.nvdim fun c => fhistVol f steps * (dV f.mesh * csum f c))) ∧
    mean (runFS f steps) .none = mean f .none ∧
    ((∀ s ∈ steps, ∃ a1 a2 k ref, s = FStep.rot a1 a2 k ref) →
      dV (runFS f steps).mesh = dV f.mesh ∧ integrate (runFS f steps) .none false = integrate f .none false) := by
  obtain ⟨_, _, _, hdv, hint, hmean⟩ := turns_history f hf hl steps
  have ht := fhistTurn_scalar steps f hf hl h1 (tab f.nvdim (csum f))
  have e1 : integrate (runFS f steps) .none false
      = .ok (.vals (tab f.nvdim fun c => fhistVol f steps * (dV f.mesh * csum f c))) := by
    rw [hint, ht]
    refine vals_tab_congr fun c hc => ?_
    rw [getD_tab _ _ _ _ hc]; ring
  refine ⟨e1, ?_, ?_⟩
  · rw [hmean, ht, mean_all_csum]
    refine vals_tab_congr fun c hc => ?_
    rw [getD_tab _ _ _ _ hc]
  · intro hall
    have hv := fhistVol_turns steps hall f
    refine ⟨by rw [hdv, hv]; ring, ?_⟩
    rw [e1, hv, integrate_all_csum]
    refine vals_tab_congr fun c _ => ?_
    ring

/-! ## The cumulative integral, composed with further `integrate` calls -/

/-- The cumulative integral integrated once more along the SAME direction (any number of
dimensions; the bare array in 1-d): every cell counts with the distance from its centre to the
upper face of the mesh, `∫F = cell² · Σ_l (n - l - 1/2)·x_l` - the discrete form of Cauchy's
formula `∫_a^b ∫_a^x f = ∫_a^b (b - x) f(x) dx`. -/
theorem cumulative_then_integrate_same (f : Fld) (hf : WF f) (d : String) (gc : Fld) (r : Res)
    (hc : integrate f (.name d) true = .ok (.field gc)) (hr : integrate gc (.name d) false = .ok r) :
    ∃ ax, f.mesh.region.dim2index d = .ok ax ∧ r.shape = removeAt f.mesh.n ax ∧ r.nv = f.nvdim ∧
      ∀ i c, inRange (removeAt f.mesh.n ax) i = true → c < f.nvdim →
        r.cval i c = f.mesh.cellAt ax * f.mesh.cellAt ax *
          sumTo (f.mesh.nAt ax) (fun l => ((f.mesh.nAt ax : Rat) - (l : Rat) - 1/2) * cget f.data (insertAt i ax l) c) := by
  obtain ⟨ax, hax, hm, hs, _, hnv, hcum⟩ := cum_spec f d gc hc
  have hwg := cum_wf f hf d gc hc
  obtain ⟨ax', hax', haxlt, hrs, hrnv, hval⟩ := dir_cval gc hwg d r hr
  rw [hm, hax] at hax'; injection hax' with hax'; subst hax'
  rw [hm] at haxlt hrs hval
  refine ⟨ax, hax, hrs, by rw [hrnv, hnv], ?_⟩
  intro i c hi hcn
  rw [hval i c hi (by rw [hnv]; exact hcn), ← sumTo_cum_weights, mul_assoc]
  congr 1
  rw [← sumTo_mul_left]
  apply sumTo_congr
  intro j hj
  have haxn : ax < f.mesh.n.length := by rw [hf.1.n_length]; exact haxlt
  have hrl := length_removeAt f.mesh.n ax haxn
  have hil := inRange_length _ _ hi
  have hilen : i.length + 1 = f.mesh.n.length := by omega
  have haxi : ax ≤ i.length := by omega
  have hin : inRange f.data.shape (insertAt i ax j) = true := by
    rw [hf.2]
    exact inRange_insertAt f.mesh.n i ax j (by rw [hf.1.n_length]; exact haxlt) hi hj
  rw [hcum _ c hin hcn, getD_insertAt_self i ax j haxi]
  congr 2
  apply sumTo_congr
  intro l _
  rw [setAt_insertAt_self i ax j l haxi]

/-- The cumulative integral along `d` and the integral along ANOTHER direction `d'` commute: on a
well-formed field (two or more dimensions, subregions accepted by the setter) all four
integrals exist, and integrating the cumulative integral along `d'` gives the same field - same
reduced mesh (subregions included), same values - as the cumulative integral along `d` of the
integral along `d'`. -/
theorem cumulative_then_integrate_other (f : Fld) (hf : WF f) (hsubs : SubsAcc f.mesh) (h2 : 2 ≤ f.mesh.ndim)
    (d d' : String) (hd : d ∈ f.mesh.region.dims) (hd' : d' ∈ f.mesh.region.dims) (hne : d ≠ d') :
    ∃ gc g1 h g2, integrate f (.name d) true = .ok (.field gc) ∧ integrate gc (.name d') false = .ok (.field g1) ∧
      integrate f (.name d') false = .ok (.field h) ∧ integrate h (.name d) true = .ok (.field g2) ∧
      g1.mesh = g2.mesh ∧ g1.data.shape = g2.data.shape ∧
      ∀ i c, inRange g1.data.shape i = true → c < f.nvdim → cget g1.data i c = cget g2.data i c := by
  obtain ⟨gc, hgc⟩ := integrate_cum_ok f hf d hd
  have hm := cum_mesh hgc
  have hwg := cum_wf f hf d gc hgc
  obtain ⟨g1, hg1, _⟩ := (integrate_dir_ok gc hwg (by rw [hm]; exact hsubs) d' (by rw [hm]; exact hd')).1 (by rw [hm]; exact h2)
  obtain ⟨h, hh, hwh, _, _, hmem⟩ := step_ok f hf hsubs h2 d' hd'
  obtain ⟨g2, hg2⟩ := integrate_cum_ok h hwh d (hmem d hd hne)
  obtain ⟨e1, e2, _, e4⟩ := cum_then_other f hf d d' gc g1 h g2 hgc hg1 hh hg2
  exact ⟨gc, g1, h, g2, hgc, hg1, hh, hg2, e1, e2, e4⟩

/-- Two cumulative integrals along different directions commute: on every well-formed field all
four exist (any number of dimensions, subregions or not) and `integrate(d, cumulative=True)`
followed by `integrate(d', cumulative=True)` is the same field as the other order. -/
theorem cumulative_cumulative_commute (f : Fld) (hf : WF f) (d d' : String) (hd : d ∈ f.mesh.region.dims)
    (hd' : d' ∈ f.mesh.region.dims) (hne : d ≠ d') :
    ∃ g1 g12 g2 g21, integrate f (.name d) true = .ok (.field g1) ∧ integrate g1 (.name d') true = .ok (.field g12) ∧
      integrate f (.name d') true = .ok (.field g2) ∧ integrate g2 (.name d) true = .ok (.field g21) ∧
      g12.mesh = g21.mesh ∧ g12.data.shape = g21.data.shape ∧
      ∀ i c, inRange f.data.shape i = true → c < f.nvdim → cget g12.data i c = cget g21.data i c := by
  obtain ⟨g1, hg1⟩ := integrate_cum_ok f hf d hd
  obtain ⟨g2, hg2⟩ := integrate_cum_ok f hf d' hd'
  have hm1 := cum_mesh hg1
  have hm2 := cum_mesh hg2
  obtain ⟨g12, hg12⟩ := integrate_cum_ok g1 (cum_wf f hf d g1 hg1) d' (by rw [hm1]; exact hd')
  obtain ⟨g21, hg21⟩ := integrate_cum_ok g2 (cum_wf f hf d' g2 hg2) d (by rw [hm2]; exact hd)
  obtain ⟨e1, e2, _, e4⟩ := cum_cum_comm f d d' hne g1 g12 g2 g21 hg1 hg12 hg2 hg21
  exact ⟨g1, g12, g2, g21, hg1, hg12, hg2, hg21, e1, e2, e4⟩

/-- The same two commutation laws for the chained call `integrateChain` (the form the
correspondence check exercises: `f.integrate(d, cumulative=True).integrate(d')` …): for two
different directions of a well-formed field (two or more dimensions, subregions accepted by the
setter) the chains in both orders succeed and agree in mesh and values - a cumulative step with a
plain step, and two cumulative steps. -/
theorem integrateChain_commute (f : Fld) (hf : WF f) (hsubs : SubsAcc f.mesh) (h2 : 2 ≤ f.mesh.ndim)
    (d d' : String) (hd : d ∈ f.mesh.region.dims) (hd' : d' ∈ f.mesh.region.dims) (hne : d ≠ d') :
    (∃ g1 g2, integrateChain f [(d, true), (d', false)] = .ok (.field g1) ∧
      integrateChain f [(d', false), (d, true)] = .ok (.field g2) ∧ g1.mesh = g2.mesh ∧ g1.data.shape = g2.data.shape ∧
      ∀ i c, inRange g1.data.shape i = true → c < f.nvdim → cget g1.data i c = cget g2.data i c) ∧
    (∃ g12 g21, integrateChain f [(d, true), (d', true)] = .ok (.field g12) ∧
      integrateChain f [(d', true), (d, true)] = .ok (.field g21) ∧ g12.mesh = g21.mesh ∧ g12.data.shape = g21.data.shape ∧
      ∀ i c, inRange f.data.shape i = true → c < f.nvdim → cget g12.data i c = cget g21.data i c) := by
  obtain ⟨gc, g1, h, g2, a1, a2, a3, a4, e1, e2, e3⟩ := cumulative_then_integrate_other f hf hsubs h2 d d' hd hd' hne
  obtain ⟨k1, k12, k2, k21, b1, b2, b3, b4, e4, e5, e6⟩ := cumulative_cumulative_commute f hf d d' hd hd' hne
  refine ⟨⟨g1, g2, ?_, ?_, e1, e2, e3⟩, ⟨k12, k21, ?_, ?_, e4, e5, e6⟩⟩
  · simp only [integrateChain, a1, a2]
  · simp only [integrateChain, a3, a4]
  · simp only [integrateChain, b1, b2]
  · simp only [integrateChain, b3, b4]

/-! ## Several directions in any order: the same OBJECT

`selF m ax` is the closed form of `Mesh.sel(d)` (`DFV/Lemmas/C06Subs.lean`; commutation in `C06Obj.lean`): axis `ax` removed from
corners, names, units and counts, same tolerance, no boundary conditions, and the subregions whose
closed extent along the axis contains the centre of cell ⌊n/2⌋ (`selCoord`), each with the axis
removed and stamped with the reduced region's names, units and tolerance. -/

/-- `Mesh.sel(d)` in closed form (refinement of the code-shaped `sel`: centre lookup through
`point2index` / `index2point`, `Region(...)` and `Mesh(region, cell=...)` constructors, subregion
projection and setter) on every well-formed mesh with two or more dimensions whose subregions
passed the setter. -/
theorem sel_closed_form (m : Mesh) (hm : m.Inv) (hacc : SubsAcc m) (h2 : 2 ≤ m.ndim) (d : String) (ax : Nat)
    (hax : m.region.dim2index d = .ok ax) : sel m d = .ok (selF m ax) :=
  sel_eq_selF m hm hacc h2 d ax hax

/-- Removing two directions commutes: `mesh.sel(d1).sel(d2)` and `mesh.sel(d2).sel(d1)` both
succeed (three or more dimensions) and return the same mesh - region with names, units and
tolerance, cell counts, and subregions (the same ones survive, in the same order, with the same
corners); the result is well formed, its subregions pass its setter, and every other direction is
still a direction. -/
theorem sel_commute (m : Mesh) (hm : m.Inv) (hacc : SubsAcc m) (h3 : 3 ≤ m.ndim) (d1 d2 : String)
    (hd1 : d1 ∈ m.region.dims) (hd2 : d2 ∈ m.region.dims) (hne : d1 ≠ d2) :
    ∃ m1 m2 m12, sel m d1 = .ok m1 ∧ sel m1 d2 = .ok m12 ∧ sel m d2 = .ok m2 ∧ sel m2 d1 = .ok m12 ∧
      m12.Inv ∧ SubsAcc m12 ∧ m12.ndim + 2 = m.ndim ∧
      ∀ d' ∈ m.region.dims, d' ≠ d1 → d' ≠ d2 → d' ∈ m12.region.dims :=
  sel_sel_comm m hm hacc h3 d1 d2 hd1 hd2 hne

/-- The reduced mesh of ANY chain of removals depends only on the SET of directions: for every
list of distinct directions (fewer than all) and every permutation of it the two chains of
`Mesh.sel` return the same result (induction over the permutation; adjacent transpositions by
`sel_commute`). -/
theorem selMany_order_independent (m : Mesh) (hm : m.Inv) (hacc : SubsAcc m) (ds ds' : List String) (hp : ds.Perm ds')
    (hnd : ds.Nodup) (hmem : ∀ d ∈ ds, d ∈ m.region.dims) (hlen : ds.length < m.ndim) :
    selMany m ds = selMany m ds' :=
  selMany_perm ds ds' hp m hm hacc hnd hmem hlen

/-- **`mean` over a list / tuple of directions in any order is literally the same result** - for
every list of distinct directions of the mesh (all of them, some, or none) and every permutation
of it: the same reduced mesh (region with names, units, tolerance; counts; subregions), the same
labels, mapping, unit, validity and values; with `meanSeq_eq_mean_list` also the
direction-by-direction mean in any order. -/
theorem mean_list_any_order (f : Fld) (hf : WF f) (hacc : SubsAcc f.mesh) (ds ds' : List String) (hp : ds.Perm ds')
    (hnd : ds.Nodup) (hmem : ∀ d ∈ ds, d ∈ f.mesh.region.dims) :
    mean f (.names ds) = mean f (.names ds') := by
  have hnd' : ds'.Nodup := hp.nodup_iff.mp hnd
  have hmem' : ∀ d ∈ ds', d ∈ f.mesh.region.dims := fun d hd => hmem d (hp.mem_iff.mpr hd)
  by_cases hall : ds.Perm f.mesh.region.dims
  · rw [mean_all_named f hf ds hall, mean_all_named f hf ds' (hp.symm.trans hall)]
  · -- both are fields: the same reduced mesh (`selMany_perm`), the same averaged axes in another order
    have hlen : ds.length < f.mesh.ndim := hf.1.dims_length ▸ length_lt_of_not_perm ds _ hnd hmem hall
    obtain ⟨gm, hgm⟩ := mean_dirs_ok f hf hacc ds hnd hmem hlen
    obtain ⟨gm', hgm'⟩ := mean_dirs_ok f hf hacc ds' hnd' hmem' (hp.length_eq ▸ hlen)
    obtain ⟨_, m, axes, hsel, hax, _, rfl⟩ := mean_names_unpack f ds gm hgm
    obtain ⟨_, m', axes', hsel', hax', _, rfl⟩ := mean_names_unpack f ds' gm' hgm'
    obtain ⟨axes'', hax'', hpa⟩ := dimIndices_perm _ _ _ hp axes hax
    cases hax'.symm.trans hax''
    cases (selMany_perm ds ds' hp f.mesh hf.1 hacc hnd hmem hlen ▸ hsel).symm.trans hsel'
    rw [hgm, hgm']
    unfold meanAxes
    rw [keepMask_perm _ _ _ hpa]

/-- **Fubini at object level.**  Integrating direction by direction over ANY list of distinct
directions of the mesh, in any order, is literally the same result as for any permutation of the
list: the bare array `integrate()` when all directions are listed (`fubini_perm`), otherwise the
SAME FIELD - reduced mesh with names, units, tolerance and subregions, labels, mapping, unit,
validity and stored values - and both chains succeed. -/
theorem integrateSeq_any_order (f : Fld) (hf : WF f) (hacc : SubsAcc f.mesh) (ds ds' : List String) (hp : ds.Perm ds')
    (hnd : ds.Nodup) (hmem : ∀ d ∈ ds, d ∈ f.mesh.region.dims) :
    integrateSeq f ds = integrateSeq f ds' ∧ ∃ r, integrateSeq f ds = .ok r := by
  have hdl : f.mesh.region.dims.length = f.mesh.ndim := hf.1.dims_length
  by_cases hall : ds.Perm f.mesh.region.dims
  · rw [fubini_perm f hf hacc ds hall, fubini_perm f hf hacc ds' (hp.symm.trans hall)]
    exact ⟨rfl, _, integrate_all f⟩
  · have hlen : ds.length < f.mesh.ndim := by rw [← hdl]; exact length_lt_of_not_perm ds _ hnd hmem hall
    obtain ⟨g, hg⟩ := integrateSeq_ok f hf hacc ds hnd hmem hlen
    obtain ⟨g', hg'⟩ := integrateSeq_ok f hf hacc ds' (hp.nodup_iff.mp hnd)
      (fun d hd => hmem d (hp.mem_iff.mpr hd)) (by rw [← hp.length_eq]; exact hlen)
    have := integrateSeq_perm_obj f hf hacc ds ds' hp hnd hmem hlen g g' hg hg'
    rw [hg, hg', this]
    exact ⟨rfl, _, rfl⟩

/-! ## Linearity and per-component action, from hypotheses on the inputs only -/

/-- `integrate` of a linear combination, total form: for two fields on the same mesh (well formed,
subregions accepted by the setter), every call that the acceptance theorem allows - no direction
without `cumulative`, or any direction of the mesh, cumulative or not - succeeds on `f`, on `g`
and on `α·f + β·g`, on the same mesh, and the third result is `α·` the first `+ β·` the second,
entry by entry. -/
theorem integrate_linear_total (α β : Rat) (f g : Fld) (hf : WF f) (hsubs : SubsAcc f.mesh) (hm : g.mesh = f.mesh)
    (hn : g.nvdim = f.nvdim) (hs : g.data.shape = f.data.shape) (dir : Dir) (cum : Bool)
    (hok : match dir with | .none => cum = false | .name d => d ∈ f.mesh.region.dims | _ => False) :
    ∃ rf rg r, integrate f dir cum = .ok rf ∧ integrate g dir cum = .ok rg ∧ integrate (lin α f β g) dir cum = .ok r ∧
      r.mesh? = rf.mesh? ∧ r.shape = rf.shape ∧
      ∀ i c, inRange r.shape i = true → c < f.nvdim → r.cval i c = α * rf.cval i c + β * rg.cval i c := by
  have hwg : WF g := hf.congr hm hs
  obtain ⟨rf, hrf⟩ := (integrate_ok_iff f hf hsubs dir cum).mpr hok
  obtain ⟨rg, hrg⟩ := (integrate_ok_iff g hwg (by rw [hm]; exact hsubs) dir cum).mpr (by rw [hm]; exact hok)
  obtain ⟨r, hr, h1, h2, h3⟩ := integrate_linear α β f g hf hm hn hs dir cum rf rg hrf hrg
  exact ⟨rf, rg, r, hrf, hrg, hr, h1, h2, h3⟩

/-- `mean` of a linear combination, total form: every accepted call (no direction; one direction
of a mesh with two or more dimensions; a list of distinct directions in any order) succeeds on
`f`, `g` and `α·f + β·g`, on the same mesh, and the means combine linearly entry by entry. -/
theorem mean_linear_total (α β : Rat) (f g : Fld) (hf : WF f) (hsubs : SubsAcc f.mesh) (hm : g.mesh = f.mesh)
    (hn : g.nvdim = f.nvdim) (hs : g.data.shape = f.data.shape) (dir : Dir)
    (hok : match dir with
           | .none => True
           | .name d => d ∈ f.mesh.region.dims ∧ 2 ≤ f.mesh.ndim
           | .names ds => ds.Nodup ∧ ∀ d ∈ ds, d ∈ f.mesh.region.dims
           | .other => False) :
    ∃ rf rg r, mean f dir = .ok rf ∧ mean g dir = .ok rg ∧ mean (lin α f β g) dir = .ok r ∧
      r.mesh? = rf.mesh? ∧ r.shape = rf.shape ∧
      ∀ i c, inRange r.shape i = true → c < f.nvdim → r.cval i c = α * rf.cval i c + β * rg.cval i c := by
  have hwg : WF g := hf.congr hm hs
  obtain ⟨rf, hrf⟩ := (mean_ok_iff f hf hsubs dir).mpr hok
  obtain ⟨rg, hrg⟩ := (mean_ok_iff g hwg (by rw [hm]; exact hsubs) dir).mpr (by rw [hm]; exact hok)
  obtain ⟨r, hr, h1, h2, h3⟩ := mean_linear α β f g hm hn hs dir rf rg hrf hrg
  exact ⟨rf, rg, r, hrf, hrg, hr, h1, h2, h3⟩

/-- `integrate` and `mean` act per component, total form: every accepted call succeeds on the field
and on the scalar field of its component `c`, on the same mesh, and the latter's single component
is component `c` of the former. -/
theorem componentwise_total (f : Fld) (hf : WF f) (hsubs : SubsAcc f.mesh) (c : Nat) (hc : c < f.nvdim) :
    (∀ dir cum, (match dir with | Dir.none => cum = false | .name d => d ∈ f.mesh.region.dims | _ => False) →
      ∃ rf r, integrate f dir cum = .ok rf ∧ integrate (compFld f c) dir cum = .ok r ∧ r.mesh? = rf.mesh? ∧
        r.shape = rf.shape ∧ r.nv = 1 ∧ ∀ i, inRange r.shape i = true → r.cval i 0 = rf.cval i c) ∧
    (∀ dir, (match dir with
             | Dir.none => True
             | .name d => d ∈ f.mesh.region.dims ∧ 2 ≤ f.mesh.ndim
             | .names ds => ds.Nodup ∧ ∀ d ∈ ds, d ∈ f.mesh.region.dims
             | .other => False) →
      ∃ rf r, mean f dir = .ok rf ∧ mean (compFld f c) dir = .ok r ∧ r.mesh? = rf.mesh? ∧
        r.shape = rf.shape ∧ r.nv = 1 ∧ ∀ i, inRange r.shape i = true → r.cval i 0 = rf.cval i c) := by
  constructor
  · intro dir cum hok
    obtain ⟨rf, hrf⟩ := (integrate_ok_iff f hf hsubs dir cum).mpr hok
    obtain ⟨r, hr, h1, h2, h3, h4⟩ := integrate_componentwise f hf c hc dir cum rf hrf
    exact ⟨rf, r, hrf, hr, h1, h2, h3, h4⟩
  · intro dir hok
    obtain ⟨rf, hrf⟩ := (mean_ok_iff f hf hsubs dir).mpr hok
    obtain ⟨r, hr, h1, h2, h3, h4⟩ := mean_componentwise f c hc dir rf hrf
    exact ⟨rf, r, hrf, hr, h1, h2, h3, h4⟩

/-! ## Refusals, as equivalences -/

/-- `integrate` is refused EXACTLY for the malformed calls (well-formed field, subregions accepted
by the setter): no direction together with `cumulative=True`, a direction name the mesh does
not have, or a direction that is not a single string (a list / tuple of names, a number, …).
Nothing else is ever refused - in particular no direction of the mesh, cumulative or not. -/
theorem integrate_rejected_iff (f : Fld) (hf : WF f) (hsubs : SubsAcc f.mesh) (dir : Dir) (cum : Bool) :
    (∃ e, integrate f dir cum = .error e) ↔
      (match dir with
       | .none => cum = true
       | .name d => d ∉ f.mesh.region.dims
       | _ => True) := by
  have hiff := integrate_ok_iff f hf hsubs dir cum
  rw [err_iff_not_ok, hiff]
  -- the negation of the match of `integrate_ok_iff`, case by case
  cases dir with
  | none => cases cum <;> simp
  | name d => simp
  | names ds => simp
  | other => simp

/-- … and the kind of refusal: a `TypeError` exactly for a direction that is not a single string,
a `ValueError` exactly for `cumulative=True` without direction and for an unknown name. -/
theorem integrate_refusal_kind (f : Fld) (hf : WF f) (hsubs : SubsAcc f.mesh) (dir : Dir) (cum : Bool) (e : Err)
    (h : integrate f dir cum = .error e) :
    (match dir with
     | .none => e = .value
     | .name _ => e = .value
     | _ => e = .type) := by
  cases dir with
  | none =>
    cases cum with
    | true => rw [cumulative_all_dirs_rejected] at h; cases h; rfl
    | false => rw [integrate_all] at h; cases h
  | name d =>
    simp only
    cases hd : f.mesh.region.dim2index d with
    | error e' =>
      obtain ⟨h1, _⟩ := unknown_direction_rejected f d cum e' hd
      rw [h1] at h; injection h with h
      unfold Region.dim2index at hd
      split at hd
      · cases hd
      · injection hd with hd; rw [← h, ← hd]
    | ok ax =>
      have := (integrate_ok_iff f hf hsubs (.name d) cum).mpr (dim2index_mem _ _ _ hd)
      obtain ⟨r, hr⟩ := this
      rw [hr] at h; cases h
  | names ds => rw [(integrate_rejects_non_string f ds cum).1] at h; cases h; rfl
  | other => rw [(integrate_rejects_non_string f [] cum).2] at h; cases h; rfl

/-- `mean` is refused EXACTLY for the malformed calls (well-formed field, subregions accepted by
the setter): a single direction name the mesh does not have, a single direction name on a 1-d
mesh (there is no 0-dimensional mesh to return a field on), a list with a repeated name or with
a name the mesh does not have, or a direction that is neither a name nor a list of names. -/
theorem mean_rejected_iff (f : Fld) (hf : WF f) (hsubs : SubsAcc f.mesh) (dir : Dir) :
    (∃ e, mean f dir = .error e) ↔
      (match dir with
       | .none => False
       | .name d => d ∉ f.mesh.region.dims ∨ f.mesh.ndim < 2
       | .names ds => ¬ ds.Nodup ∨ ∃ d ∈ ds, d ∉ f.mesh.region.dims
       | .other => True) := by
  have hiff := mean_ok_iff f hf hsubs dir
  rw [err_iff_not_ok, hiff]
  -- the negation of the match of `mean_ok_iff`, case by case
  cases dir with
  | none => simp
  | name d =>
    simp only [not_and_or, not_le]
  | names ds =>
    simp only [not_and_or, not_forall, exists_prop]
  | other => simp

/-! ## Non-vacuity: the hypotheses of the theorems above are met by concrete fields
(`exFld`: 2×3 cells, two components; `exFld1`: 1-d, cells of length 1/2; `exFld3`: 2×2×3 cells
of sizes 1, 1/2, 2; `exFldS`: `exFld` with two subregions — all in `DFV/Lemmas/C06Ex.lean`),
and by every well-formed field whose subregions fit the mesh
(theorems `…_ok`, `integrate_ok_iff`, `mean_ok_iff`). -/

example : WF exFld ∧ WF exFld1 ∧ WF exFld3 := ⟨exFld_wf, exFld1_wf, exFld3_wf⟩

/-- hypotheses of `integrate_dir`, `cumulative_formula`, `cumulative_last`, `mean_dir_eq` -/
example : (∃ g, integrate exFld3 (.name "y") false = .ok (.field g)) ∧
    (∃ g, integrate exFld3 (.name "y") true = .ok (.field g)) ∧
    (∃ g, mean exFld3 (.name "y") = .ok (.field g)) :=
  ⟨by obtain ⟨g, h, _⟩ := (integrate_dir_ok exFld3 exFld3_wf (subsAcc_nil _ rfl) "y" (by decide)).1 (by decide); exact ⟨g, h⟩,
   integrate_cum_ok exFld3 exFld3_wf "y" (by decide),
   mean_dir_ok exFld3 exFld3_wf (subsAcc_nil _ rfl) (by decide) "y" (by decide)⟩

/-- hypotheses of `integrate_dir_1d`, `cumulative_last_1d` -/
example : (∃ v, integrate exFld1 (.name "x") false = .ok (.vals v)) ∧
    (∃ g, integrate exFld1 (.name "x") true = .ok (.field g)) :=
  ⟨(integrate_dir_ok exFld1 exFld1_wf (subsAcc_nil _ rfl) "x" (by decide)).2 rfl, integrate_cum_ok exFld1 exFld1_wf "x" (by decide)⟩

/-- `fubini` / `fubini_total`: all six orders of three directions -/
example : ∀ ds ∈ [["x", "y", "z"], ["x", "z", "y"], ["y", "x", "z"], ["y", "z", "x"], ["z", "x", "y"], ["z", "y", "x"]],
    integrateSeq exFld3 ds = integrate exFld3 .none false := by
  intro ds hds
  simp only [List.mem_cons, List.mem_nil_iff, or_false] at hds
  rcases hds with rfl | rfl | rfl | rfl | rfl | rfl <;>
    exact fubini_total exFld3 exFld3_wf (subsAcc_nil _ rfl) _ (by decide) (by decide) rfl

/-- hypotheses of `mean_dirs_eq`: a proper subset of the directions, in an order that is not
the storage order -/
example : (∃ gm, mean exFld3 (.names ["z", "x"]) = .ok (.field gm)) ∧
    (∃ gi, integrateSeq exFld3 ["z", "x"] = .ok (.field gi)) :=
  ⟨mean_dirs_ok exFld3 exFld3_wf (subsAcc_nil _ rfl) _ (by decide) (by decide) (by decide),
   integrateSeq_ok exFld3 exFld3_wf (subsAcc_nil _ rfl) _ (by decide) (by decide) (by decide)⟩

/-- `mean_all_named`: a permutation of the directions -/
example : mean exFld (.names ["y", "x"]) = mean exFld .none :=
  mean_all_named exFld exFld_wf _ (List.Perm.swap "x" "y" [])

/-- hypotheses of `integrate_linear` (two fields on one mesh), `integrate_componentwise`,
`integrate_translation_invariant` (the moved field is well formed and its integrals exist) -/
example : ∃ rf rg r', integrate exFld (.name "x") false = .ok rf ∧
    integrate (lin 2 exFld (-3) exFld) (.name "x") false = .ok rg ∧
    integrate (translate [5, -7/2] exFld) (.name "x") false = .ok r' := by
  obtain ⟨g1, h1, _⟩ := (integrate_dir_ok exFld exFld_wf (subsAcc_nil _ rfl) "x" (by decide)).1 (by decide)
  obtain ⟨g2, h2, _⟩ := (integrate_dir_ok (lin 2 exFld (-3) exFld) ⟨exFld_wf.1, exFld_wf.2⟩ (subsAcc_nil _ rfl) "x" (by decide)).1 (by decide)
  obtain ⟨g3, h3, _⟩ := (integrate_dir_ok (translate [5, -7/2] exFld) (translate_wf _ _ exFld_wf) (subsAcc_nil _ rfl) "x" (by decide)).1 (by decide)
  exact ⟨_, _, _, h1, h2, h3⟩

/-- `SubsFit` is met by a concrete mesh with two subregions (`exFldS`: `r0` = [1,2]×[1,3],
`r1` = [0,1]×[3,4] on the 2×3 mesh), so `sel_subregions`, the `…_ok` theorems, `fubini_perm`,
`integrate_ok_iff`, `mean_ok_iff` apply to meshes that really carry subregions -/
example : WF exFldS ∧ SubsFit exFldS.mesh ∧ SubsAcc exFldS.mesh ∧ exFldS.mesh.subs.length = 2 ∧
    (∃ g, integrate exFldS (.name "x") false = .ok (.field g) ∧ SubsAcc g.mesh) ∧
    integrateSeq exFldS ["y", "x"] = integrate exFldS .none false :=
  ⟨exFldS_wf, exFldS_fits, subsAcc_of_fit _ exFldS_wf.1 exFldS_fits, rfl,
   (integrate_dir_ok exFldS exFldS_wf (subsAcc_of_fit _ exFldS_wf.1 exFldS_fits) "x" (by decide)).1 (by decide),
   fubini_perm exFldS exFldS_wf (subsAcc_of_fit _ exFldS_wf.1 exFldS_fits) _ (List.Perm.swap "x" "y" [])⟩

/-- hypotheses of `mean_linear`, `mean_componentwise`, `mean_translation_invariant`: the means
exist for a direction, for a list, and on the moved field -/
example : (∃ r, mean exFld3 (.name "y") = .ok r) ∧ (∃ r, mean exFld3 (.names ["z", "x"]) = .ok r) ∧
    (∃ r, mean (translate [1, 2, 3] exFld3) (.names ["z", "x"]) = .ok r) :=
  ⟨(mean_ok_iff exFld3 exFld3_wf (subsAcc_nil _ rfl) (.name "y")).mpr ⟨by decide, by decide⟩,
   (mean_ok_iff exFld3 exFld3_wf (subsAcc_nil _ rfl) (.names ["z", "x"])).mpr ⟨by decide, by decide⟩,
   (mean_ok_iff _ (translate_wf _ _ exFld3_wf) (subsAcc_nil _ rfl) (.names ["z", "x"])).mpr ⟨by decide, by decide⟩⟩

/-- hypotheses of `integrateSeq_perm` / `integrateSeq_vals`: two orders of a proper subset -/
example : ∃ g g', integrateSeq exFld3 ["z", "x"] = .ok (.field g) ∧ integrateSeq exFld3 ["x", "z"] = .ok (.field g') := by
  obtain ⟨g, g', h, h', _⟩ := integrateSeq_perm_total exFld3 exFld3_wf (subsAcc_nil _ rfl) ["z", "x"] ["x", "z"]
    (by decide) (by decide) (by decide) (List.Perm.swap "x" "z" [])
  exact ⟨g, g', h, h'⟩

/-- hypotheses of `cumulative_step` / `cumulative_first`: an index with a successor along the
axis, and one at the start of the axis -/
example : inRange exFld3.data.shape [1, 0, 0] = true ∧ ([1, 0, 0] : List Nat).getD 2 0 + 1 < exFld3.data.shape.getD 2 0 ∧
    ([1, 0, 0] : List Nat).getD 2 0 = 0 := ⟨by decide, by decide, by decide⟩

/-- hypotheses of `hstep_geometry` and the history theorems: an accepted in-place scaling with a
negative factor and an accepted translation -/
example : (∃ m', hstepM exFld.mesh (.scaleRegion (.vec [-2, 1/2]) none) = .ok m') ∧
    (∃ m', hstepM exFld.mesh (.translateRegion [3, -1/2]) = .ok m') ∧
    (∀ a, stepFac (.translateMesh [3, -1/2]) a = 1) :=
  ⟨(hstep_accepted exFld.mesh exFld_wf.1).2.1 (.vec [-2, 1/2]) none rfl rfl (by
      intro a ha
      have : a = 0 ∨ a = 1 := by
        have : a < 2 := ha
        omega
      rcases this with rfl | rfl <;> norm_num [T.Factor.at]),
   (hstep_accepted exFld.mesh exFld_wf.1).1 [3, -1/2] rfl, fun _ => rfl⟩

/-- hypothesis of `integrate_monotone`: `f ≤ abs f` cell by cell -/
example : ∀ t, cget exFld.data t 0 ≤ cget (absF exFld).data t 0 := by
  intro t
  rw [cget_absF exFld t 0 (by decide)]
  exact le_abs_self _

/-- hypotheses of `meanSeq_eq_mean_list`: a direction-by-direction mean and the list mean exist
for an order that is not the storage order -/
example : ∃ gs gm, meanSeq exFld3 ["z", "x"] = .ok (.field gs) ∧ mean exFld3 (.names ["z", "x"]) = .ok (.field gm) := by
  obtain ⟨gs, gm, h1, h2, _⟩ := meanSeq_total exFld3 exFld3_wf (subsAcc_nil _ rfl) ["z", "x"]
    (by decide) (by decide) (by decide)
  exact ⟨gs, gm, h1, h2⟩

/-- refusals are reached: an unknown name, a duplicate -/
example : exFld.mesh.region.dim2index "q" = .error .value ∧ hasDup ["x", "y", "x"] = true := ⟨by decide, by decide⟩

/-! ### subregions accepted only within the tolerances, quarter turns, composed integrals -/

/-- `SubsAcc` is met by a mesh whose subregion does NOT fit exactly (`exFldT`: the lower x face of
`t0` sits 1e-13 inside a cell face): the setter accepts it (`setter_accepts_iff`), and the
success theorems apply - `integrate(d)`, `mean(d)`, Fubini - although `SubsFit` fails -/
example : WF exFldT ∧ SubsAcc exFldT.mesh ∧ ¬ SubsFit exFldT.mesh ∧
    (∃ t, setSubs exFldT.mesh [("t0", canon exT0)] = .ok t) ∧
    (∃ g, integrate exFldT (.name "y") false = .ok (.field g) ∧ SubsAcc g.mesh) ∧
    (∃ g, mean exFldT (.name "x") = .ok (.field g)) ∧
    integrateSeq exFldT ["y", "x"] = integrate exFldT .none false :=
  ⟨exFldT_wf, exFldT_acc, exFldT_not_fit,
   ((setter_accepts_iff exFldT.mesh _).1).mpr (fun p hp => by
      have : p = ("t0", canon exT0) := by simpa using hp
      subst this; exact exFldT_acc ("t0", exT0) (by simp [exFldT])),
   (integrate_dir_ok exFldT exFldT_wf exFldT_acc "y" (by decide)).1 (by decide),
   mean_dir_ok exFldT exFldT_wf exFldT_acc (by decide) "x" (by decide),
   fubini_perm exFldT exFldT_wf exFldT_acc _ (List.Perm.swap "x" "y" [])⟩

/-- hypotheses of `setter_accepts_per_axis`, `accepted_subregion_inherited`, `sel_subregions_acc` -/
example : SubOk exFldT.mesh (canon exT0) ∧ (∃ mc, sel { exFldT.mesh with subs := [] } "y" = .ok mc) := by
  refine ⟨exFldT_acc ("t0", exT0) (by simp [exFldT]), ?_⟩
  obtain ⟨_, mc, _, _, h, _⟩ := sel_subregions_acc exFldT.mesh exFldT_wf.1 exFldT_acc (by decide) "y" (by decide)
  exact ⟨mc, h⟩

/-- hypotheses of `rotate90_cells`, `rotate90_integrate_all`, `rotate90_mean_all`: a vector field
(two mapped components, 2×3 cells) is turned by an odd, a negative and a large number of quarter
turns, about its centre and about a far reference point, in place and copying -/
example : WF exFldV ∧ CellLen exFldV ∧ T.FInv exFldV ∧
    (∃ x g, T.rotate90F exFldV "x" "y" 1 none true = .ok (x, g)) ∧
    (∃ x g, T.rotate90F exFldV "x" "y" (-3) (some [7, -5/2]) false = .ok (x, g)) ∧
    (∃ x g, T.rotate90F exFldV "x" "y" 1002 none true = .ok (x, g)) :=
  ⟨exFldV_wf, exFldV_cellLen, exFldV_finv, exFldV_turn_ok 1 none rfl true,
   exFldV_turn_ok (-3) (some [7, -5/2]) rfl false, exFldV_turn_ok 1002 none rfl true⟩

/-- `turns_history` on a history that mixes a negative-factor scaling, a quarter turn and a
translation; the turn really happens (the first step of `[rot]` is accepted) -/
example : ∃ x g, T.rotate90F exFldV "x" "y" 3 none true = .ok (x, g) ∧ fstep exFldV (.rot "x" "y" 3 none) = x := by
  obtain ⟨x, g, h⟩ := exFldV_turn_ok 3 none rfl true
  exact ⟨x, g, h, by simp only [fstep, h]⟩

/-- hypotheses of `cumulative_between`: two cells of a line with one cell strictly between -/
example : inRange exFld3.data.shape [1, 0, 0] = true ∧
    ([1, 0, 0] : List Nat).getD 2 0 + 1 + 1 < exFld3.data.shape.getD 2 0 := ⟨by decide, by decide⟩

/-- `cumulative_then_integrate_same` / `…_other` / `cumulative_cumulative_commute`: the integrals
exist on the 3-d example (cells 1, 1/2, 2), for two different directions in non-storage order -/
example : (∃ gc r, integrate exFld3 (.name "z") true = .ok (.field gc) ∧ integrate gc (.name "z") false = .ok r) ∧
    (∃ gc g1 h g2, integrate exFld3 (.name "z") true = .ok (.field gc) ∧
      integrate gc (.name "x") false = .ok (.field g1) ∧ integrate exFld3 (.name "x") false = .ok (.field h) ∧
      integrate h (.name "z") true = .ok (.field g2)) := by
  constructor
  · obtain ⟨gc, hgc⟩ := integrate_cum_ok exFld3 exFld3_wf "z" (by decide)
    have hm := cum_mesh hgc
    obtain ⟨g, hg, _⟩ := (integrate_dir_ok gc (cum_wf exFld3 exFld3_wf "z" gc hgc) (by rw [hm]; exact subsAcc_nil _ rfl) "z"
      (by rw [hm]; decide)).1 (by rw [hm]; decide)
    exact ⟨gc, _, hgc, hg⟩
  · obtain ⟨gc, g1, h, g2, a, b, c, d, _⟩ := cumulative_then_integrate_other exFld3 exFld3_wf (subsAcc_nil _ rfl)
      (by decide) "z" "x" (by decide) (by decide) (by decide)
    exact ⟨gc, g1, h, g2, a, b, c, d⟩

/-- both sides of the refusal equivalences are inhabited: malformed calls exist and are refused -/
example : (∃ e, integrate exFld (.name "q") false = .error e) ∧ (∃ e, integrate exFld .none true = .error e) ∧
    (∃ e, mean exFld1 (.name "x") = .error e) ∧ (∃ e, mean exFld (.names ["x", "q"]) = .error e) :=
  ⟨(integrate_rejected_iff exFld exFld_wf (subsAcc_nil _ rfl) (.name "q") false).mpr (by decide),
   (integrate_rejected_iff exFld exFld_wf (subsAcc_nil _ rfl) .none true).mpr rfl,
   (mean_rejected_iff exFld1 exFld1_wf (subsAcc_nil _ rfl) (.name "x")).mpr (Or.inr (by decide)),
   (mean_rejected_iff exFld exFld_wf (subsAcc_nil _ rfl) (.names ["x", "q"])).mpr (Or.inr ⟨"q", by decide, by decide⟩)⟩

/-- `sel_commute`, `selMany_order_independent`, `mean_list_any_order`, `integrateSeq_any_order` on
meshes that really carry subregions (`exFldS`: two exactly fitting ones; `exFldT`: one accepted only
within the tolerances) and on the 3-d example, for orders that are not the storage order -/
example : mean exFldS (.names ["y", "x"]) = mean exFldS (.names ["x", "y"]) ∧
    mean exFld3 (.names ["z", "x"]) = mean exFld3 (.names ["x", "z"]) ∧
    integrateSeq exFld3 ["z", "x"] = integrateSeq exFld3 ["x", "z"] ∧
    integrateSeq exFldT ["y", "x"] = integrateSeq exFldT ["x", "y"] ∧
    (∃ m1 m2 m12, sel exFld3.mesh "z" = .ok m1 ∧ sel m1 "x" = .ok m12 ∧ sel exFld3.mesh "x" = .ok m2 ∧ sel m2 "z" = .ok m12) := by
  refine ⟨mean_list_any_order exFldS exFldS_wf (subsAcc_of_fit _ exFldS_wf.1 exFldS_fits) _ _ (List.Perm.swap "x" "y" []) (by decide) (by decide),
    mean_list_any_order exFld3 exFld3_wf (subsAcc_nil _ rfl) _ _ (List.Perm.swap "x" "z" []) (by decide) (by decide),
    (integrateSeq_any_order exFld3 exFld3_wf (subsAcc_nil _ rfl) _ _ (List.Perm.swap "x" "z" []) (by decide) (by decide)).1,
    (integrateSeq_any_order exFldT exFldT_wf exFldT_acc _ _ (List.Perm.swap "x" "y" []) (by decide) (by decide)).1, ?_⟩
  obtain ⟨m1, m2, m12, a, b, c, d, _⟩ := sel_commute exFld3.mesh exFld3_wf.1 (subsAcc_nil _ rfl) (by decide) "z" "x" (by decide) (by decide) (by decide)
  exact ⟨m1, m2, m12, a, b, c, d⟩

/-- hypotheses of `rotate90_integrate_dir` / `rotate90_mean_dir`: the directional integral and
mean of a TURNED vector field exist (odd turn about a far point), so the theorems speak about
something; and of the total forms of linearity on a 3-d field -/
example : ∃ x g gi r, T.rotate90F exFldV "x" "y" 3 (some [7, -5/2]) true = .ok (x, g) ∧
    integrate g (.name "y") false = .ok (.field gi) ∧ mean g (.name "y") = .ok r := by
  obtain ⟨x, g, h⟩ := exFldV_turn_ok 3 (some [7, -5/2]) rfl true
  obtain ⟨hwg, hacc, _, _⟩ := rotate90_then_integrate_ok exFldV exFldV_wf rfl "x" "y" 3 _ true x g h
  obtain ⟨_, _, t⟩ := rotate90F_turned exFldV exFldV_wf "x" "y" 3 _ true x g h
  have hd : "y" ∈ g.mesh.region.dims := by rw [t.dims]; decide
  have h2 : 2 ≤ g.mesh.ndim := by rw [t.ndim]; decide
  obtain ⟨gi, hgi, _⟩ := (integrate_dir_ok g hwg hacc "y" hd).1 h2
  obtain ⟨gm, hgm⟩ := mean_dir_ok g hwg hacc h2 "y" hd
  exact ⟨x, g, gi, _, h, hgi, hgm⟩

/-- conclusion of `integrate_linear_total` on the 3-d example, cumulative along "z" -/
example : ∃ rf rg r, integrate exFld3 (.name "z") true = .ok rf ∧ integrate exFld3 (.name "z") true = .ok rg ∧
    integrate (lin 2 exFld3 (-3) exFld3) (.name "z") true = .ok r := by
  obtain ⟨rf, rg, r, a, b, c, _⟩ := integrate_linear_total 2 (-3) exFld3 exFld3 exFld3_wf (subsAcc_nil _ rfl) rfl rfl rfl
    (.name "z") true (by decide)
  exact ⟨rf, rg, r, a, b, c⟩

end DFV.C06
