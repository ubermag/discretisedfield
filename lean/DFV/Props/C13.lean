import DFV.Lemmas.C13StoreSim
import DFV.Lemmas.C06Rot
/-!
# C13 — geometric invariants and in-place == copy after any transformation sequence

Theorems about the transformation model `DFV/Model/Transform.lean` at region, mesh and field
level: the copying form goes through the constructors (and the `bc` and subregion setters), the
in-place form assigns directly; that the two agree — periodic boundary conditions included —, that
the invariants survive every history, and that a step is rejected exactly for the malformed-argument
classes (in both forms, producing no state) are proved here, for all regions / meshes / fields (any
dimension), all argument values and all finite histories.
-/
namespace DFV.C13
open DFV DFV.T

/-- Master lemma: for a region satisfying the invariant and ANY step, either both forms
accept and end in the same state `T` (which satisfies the invariant; the in-place form
returns the receiver, the copying form leaves it untouched), or both forms reject. -/
theorem step_forms (r : Region) (hr : r.Inv) (op : Op) :
    (∃ T : Region, T.Inv ∧ T.ndim = r.ndim ∧ T.dims = r.dims ∧ stepR r (op.withInplace true) = .ok (T, T) ∧
        stepR r (op.withInplace false) = .ok (r, T)) ∨
    ((∃ e, stepR r (op.withInplace true) = .error e) ∧ (∃ e, stepR r (op.withInplace false) = .error e)) :=
  (specR.forms hr op).imp (fun ⟨T, ⟨_, e, hm⟩, e1, e2⟩ =>
    have ⟨h1, h2, h3, _⟩ := applyR_inv r hr op hm
    ⟨T, e ▸ h1, e ▸ h2, e ▸ h3, e1, e2⟩) id

/-- setting the flag a call has leaves the call as it is (= `Op.withInplace_inplace`) -/
theorem withInplace_self (op : Op) : op.withInplace op.inplace = op := op.withInplace_inplace

/-- Every accepted step preserves the invariant — of the returned object and of the receiver. -/
theorem step_inv (r : Region) (hr : r.Inv) (op : Op) (recv ret : Region)
    (h : stepR r op = .ok (recv, ret)) : recv.Inv ∧ ret.Inv :=
  specR.inv hr h

/-- In-place == copy: whenever the in-place form accepts, it returns the receiver itself
(`recv = ret`) in exactly the state the copying form returns, and the copying form leaves
the receiver untouched; whenever one form rejects so does the other. -/
theorem inplace_eq_copy (r : Region) (hr : r.Inv) (op : Op) :
    (∀ recv ret, stepR r (op.withInplace true) = .ok (recv, ret) →
        recv = ret ∧ stepR r (op.withInplace false) = .ok (r, ret)) ∧
    (∀ recv ret, stepR r (op.withInplace false) = .ok (recv, ret) →
        recv = r ∧ stepR r (op.withInplace true) = .ok (ret, ret)) ∧
    ((∃ e, stepR r (op.withInplace true) = .error e) ↔ (∃ e, stepR r (op.withInplace false) = .error e)) :=
  (specR.forms hr op).eq_copy

/-- The invariant holds after ANY finite history of transformation calls (rejected steps
are skipped; the current object is whatever the previous call returned). -/
theorem reachable_inv (r : Region) (hr : r.Inv) (ops : List Op) : (runR r ops).Inv :=
  specR.reachable runR_follows hr ops

/-- Two histories that differ only in the in-place flags of their steps end with equal
objects. -/
theorem history_forms_agree (r : Region) (hr : r.Inv) (ops : List Op) (flags : List Bool)
    (hl : flags.length = ops.length) :
    runR r (List.zipWith Op.withInplace ops flags) = runR r ops :=
  specR.forms_agree runR_follows hr ops flags hl

/-! ## mesh level -/

/-- a region step keeps the number of dimensions and the dimension names -/
theorem stepR_ndim (r : Region) (hr : r.Inv) (op : Op) (recv ret : Region) (h : stepR r op = .ok (recv, ret)) :
    ret.Inv ∧ ret.ndim = r.ndim ∧ ret.dims = r.dims :=
  have ⟨a, b, c, _⟩ := stepR_keeps r hr op recv ret h
  ⟨a, b, c⟩

/-- assembling a mesh invariant from its parts -/
theorem mesh_inv_of (m : Mesh) (hr : m.region.Inv) (hl : m.n.length = m.region.ndim) (hp : ∀ k ∈ m.n, 0 < k) : m.Inv :=
  meshInv_of_parts m hr hl hp

/-- Mesh level: every accepted step (either form) leaves receiver and result with
`pmin < pmax`, unique names, and positive counts, one per direction; translation and
scaling keep `n`, a quarter turn swaps the two counts exactly for odd `k`. -/
theorem stepM_inv (m : Mesh) (hm : m.Inv) (op : Op) (recv ret : Mesh) (h : stepM m op = .ok (recv, ret)) :
    recv.Inv ∧ ret.Inv ∧
    (match op with
     | .rotate90 a1 a2 k _ _ => ∃ i1 i2, m.region.dim2index a1 = .ok i1 ∧ m.region.dim2index a2 = .ok i2 ∧ ret.n = rotN m.n i1 i2 k
     | _ => ret.n = m.n) := by
  obtain ⟨h1, h2, hn, x, hx⟩ := stepM_keeps m hm op recv ret h
  refine ⟨h1, h2, ?_⟩
  cases op with
  | translate | scale => exact hn
  | rotate90 a1 a2 k ref i =>
    obtain ⟨_, _, i1, i2, d1, d2, _⟩ := rotate90R_inv _ _ _ _ _ _ _ _ hx
    refine ⟨i1, i2, d1, d2, hn.trans ?_⟩
    simp only [opN, d1, d2]

/-- the mesh invariant holds after ANY finite history of mesh transformations -/
theorem reachable_inv_mesh (m : Mesh) (hm : m.Inv) (ops : List Op) : (runM m ops).Inv :=
  runM_follows.induct ops (fun m hm op _ x y h => (stepM_keeps m hm op x y h).2.1) m hm

/-! ## field level -/

/-- Field level: every accepted step keeps the mesh invariant and keeps the value and
validity arrays in the shape of the (possibly permuted) cell counts.  (= `T.stepF_fldInv`) -/
theorem stepF_inv (f : Fld) (hf : FldInv f) (op : Op) (recv ret : Fld) (h : stepF f op = .ok (recv, ret)) :
    FldInv recv ∧ FldInv ret :=
  stepF_fldInv f hf op recv ret h

/-! ## each step realises its documented affine map

Every accepted step returns `target r lo' hi' units` for the new corners `lo'`, `hi'` of its method (`translateR_ok_iff`,
`scaleR_inv`; `applyR` says it for all three at once); `target_lo`, `target_hi` read the corners off. -/

/-- translation adds the vector to both corners (either form) -/
theorem translate_affine (r : Region) (hr : r.Inv) (v : List Rat) (b : Bool) (recv ret : Region)
    (h : translateR r v b = .ok (recv, ret)) (a : Nat) (ha : a < r.ndim) :
    ret.lo a = r.lo a + v.getD a 0 ∧ ret.hi a = r.hi a + v.getD a 0 := by
  obtain ⟨_, e, _⟩ := (translateR_ok_iff r hr v b recv ret).mp h
  have hlt : r.lo a + v.getD a 0 < r.hi a + v.getD a 0 := by have := hr.lo_lt_hi ha; linarith
  rw [e, target_lo _ _ _ _ _ ha, target_hi _ _ _ _ _ ha, min_eq_left hlt.le, max_eq_right hlt.le]
  exact ⟨rfl, rfl⟩

/-- scaling maps the corner set `{x}` to `{R + s·(x − R)}` per axis (so for a negative
factor the corners swap roles), for any reference point -/
theorem scale_affine (r : Region) (hr : r.Inv) (f : Factor) (ref : Option (List Rat)) (b : Bool)
    (recv ret : Region) (h : scaleR r f ref b = .ok (recv, ret)) (a : Nat) (ha : a < r.ndim) :
    ret.lo a = min ((ref.getD r.center).getD a 0 + f.at a * (r.lo a - (ref.getD r.center).getD a 0))
                   ((ref.getD r.center).getD a 0 + f.at a * (r.hi a - (ref.getD r.center).getD a 0)) ∧
    ret.hi a = max ((ref.getD r.center).getD a 0 + f.at a * (r.lo a - (ref.getD r.center).getD a 0))
                   ((ref.getD r.center).getD a 0 + f.at a * (r.hi a - (ref.getD r.center).getD a 0)) := by
  obtain ⟨_, _, _, e, _⟩ := scaleR_inv r f ref b recv ret h
  rw [e, target_lo _ _ _ _ _ ha, target_hi _ _ _ _ _ ha, scaleLo_eq, scaleHi_eq]
  exact ⟨rfl, rfl⟩

/-- **translation keeps every edge length** (either form) -/
theorem translate_keeps_edges (r : Region) (hr : r.Inv) (v : List Rat) (b : Bool) (recv ret : Region)
    (h : translateR r v b = .ok (recv, ret)) (a : Nat) (ha : a < r.ndim) :
    ret.edge a = r.edge a := by
  obtain ⟨h1, h2⟩ := translate_affine r hr v b recv ret h a ha
  unfold Region.edge; rw [h1, h2]; ring

/-- **scaling multiplies every edge length by `|s|`** — for negative factors too (the corners swap
roles, the edge stays positive), for any reference point, in either form -/
theorem scale_edges (r : Region) (hr : r.Inv) (f : Factor) (ref : Option (List Rat)) (b : Bool)
    (recv ret : Region) (h : scaleR r f ref b = .ok (recv, ret)) (a : Nat) (ha : a < r.ndim) :
    ret.edge a = |f.at a| * r.edge a := by
  obtain ⟨h1, h2⟩ := scale_affine r hr f ref b recv ret h a ha
  unfold Region.edge; rw [h1, h2, max_sub_min_eq_abs']
  have : r.lo a < r.hi a := hr.lo_lt_hi ha
  rw [show ∀ R s l u : Rat, R + s * (l - R) - (R + s * (u - R)) = s * (l - u) from by intros; ring,
    abs_mul, abs_sub_comm, abs_of_pos (by linarith : (0:Rat) < r.hi a - r.lo a)]

/-- **the midpoint follows the affine map**: the centre of the scaled region is `R + s·(c − R)` for
the old centre `c`, whatever the sign of `s` and wherever `R` lies -/
theorem scale_midpoint (r : Region) (hr : r.Inv) (f : Factor) (ref : Option (List Rat)) (b : Bool)
    (recv ret : Region) (h : scaleR r f ref b = .ok (recv, ret)) (a : Nat) (ha : a < r.ndim) :
    (ret.lo a + ret.hi a) / 2 = (ref.getD r.center).getD a 0
        + f.at a * ((r.lo a + r.hi a) / 2 - (ref.getD r.center).getD a 0) := by
  obtain ⟨h1, h2⟩ := scale_affine r hr f ref b recv ret h a ha
  rw [h1, h2, min_add_max]; ring

/-- **without a reference point the region is scaled about its own centre**: the centre stays where
it is, for every factor (negative ones included), in either form -/
theorem scale_default_ref_keeps_centre (r : Region) (hr : r.Inv) (f : Factor) (b : Bool)
    (recv ret : Region) (h : scaleR r f none b = .ok (recv, ret)) (a : Nat) (ha : a < r.ndim) :
    (ret.lo a + ret.hi a) / 2 = (r.lo a + r.hi a) / 2 := by
  have hm := scale_midpoint r hr f none b recv ret h a ha
  have hc : r.center.getD a 0 = (r.lo a + r.hi a) / 2 := C01.center_getD r a ha
  simp only [Option.getD_none] at hm
  rw [hm, hc]; ring

/-- non-vacuity (a test, not a theorem): a negative and a fractional factor about a far-away
reference point are accepted in place and give edges 3·4 and ½·8 -/
example : (match scaleR ⟨[-1, 0], [3, 8], ["x", "y"], ["m", "m"], 1/1000000000000⟩
      (.vec [-3, 1/2]) (some [100, -7]) true with
    | .ok (_, t) => decide (t.lo 0 = 391 ∧ t.hi 0 = 403 ∧ t.lo 1 = -7/2 ∧ t.hi 1 = 1/2)
    | .error _ => false) = true := by decide +kernel

/-- **any history of translations keeps dimension and every edge length**: rejected steps are skipped,
in-place and copying steps mixed freely -/
theorem translations_keep_edges (r : Region) (hr : r.Inv) (ops : List Op)
    (hall : ∀ op ∈ ops, ∃ v b, op = .translate v b) (a : Nat) (ha : a < r.ndim) :
    (runR r ops).ndim = r.ndim ∧ (runR r ops).edge a = r.edge a :=
  (runR_follows.induct (P := fun r' => r'.Inv ∧ r'.ndim = r.ndim ∧ r'.edge a = r.edge a) ops
    (fun r' ⟨hi, hn, he⟩ op hop x y h => by
      obtain ⟨v, b, rfl⟩ := hall op hop
      obtain ⟨yi, yn, _⟩ := stepR_ndim r' hi _ x y h
      exact ⟨yi, yn.trans hn, (translate_keeps_edges r' hi v b x y h a (lt_of_lt_of_eq ha hn.symm)).trans he⟩)
    r ⟨hr, rfl, rfl⟩).2

/-- **scaling back restores the region**: a scaling followed by the scaling with the reciprocal
factors about the same reference point gives the original corners on every axis — negative factors
included (the corners swap twice), either form at either step -/
theorem scale_inverse (r : Region) (hr : r.Inv) (f g : Factor) (R : List Rat) (b b' : Bool)
    (x1 r1 x2 r2 : Region) (h1 : scaleR r f (some R) b = .ok (x1, r1))
    (h2 : scaleR r1 g (some R) b' = .ok (x2, r2)) (a : Nat) (ha : a < r.ndim)
    (hfg : g.at a * f.at a = 1) : r2.lo a = r.lo a ∧ r2.hi a = r.hi a := by
  -- midpoint and edge length determine the corners; both come back
  obtain ⟨hi1, hn1, _⟩ := stepR_ndim r hr (.scale f (some R) b) x1 r1 h1
  have ha1 : a < r1.ndim := lt_of_lt_of_eq ha hn1.symm
  have m1 := scale_midpoint r hr f (some R) b x1 r1 h1 a ha
  have m2 := scale_midpoint r1 hi1 g (some R) b' x2 r2 h2 a ha1
  have d1 := scale_edges r hr f (some R) b x1 r1 h1 a ha
  have d2 := scale_edges r1 hi1 g (some R) b' x2 r2 h2 a ha1
  rw [Option.getD_some] at m1 m2
  have hmid : (r2.lo a + r2.hi a) / 2 = (r.lo a + r.hi a) / 2 := by
    have : ∀ c M : Rat, c + g.at a * (c + f.at a * (M - c) - c) = c + g.at a * f.at a * (M - c) := by intros; ring
    rw [m2, m1, this, hfg]; ring
  have hedge : r2.edge a = r.edge a := by rw [d2, d1, ← mul_assoc, ← abs_mul, hfg, abs_one, one_mul]
  -- an interval is determined by its midpoint and its length
  unfold Region.edge at hedge
  constructor
  · calc r2.lo a = (r2.lo a + r2.hi a) / 2 - (r2.hi a - r2.lo a) / 2 := by ring
      _ = r.lo a := by rw [hmid, hedge]; ring
  · calc r2.hi a = (r2.lo a + r2.hi a) / 2 + (r2.hi a - r2.lo a) / 2 := by ring
      _ = r.hi a := by rw [hmid, hedge]; ring

/-- **translations add up**: two translations in a row move both corners by the sum of the vectors
(either form at either step); with `w = -v` the region is back where it was -/
theorem translate_compose (r : Region) (hr : r.Inv) (v w : List Rat) (b b' : Bool)
    (x1 r1 x2 r2 : Region) (h1 : translateR r v b = .ok (x1, r1))
    (h2 : translateR r1 w b' = .ok (x2, r2)) (a : Nat) (ha : a < r.ndim) :
    r2.lo a = r.lo a + (v.getD a 0 + w.getD a 0) ∧ r2.hi a = r.hi a + (v.getD a 0 + w.getD a 0) := by
  obtain ⟨hi1, hn1, _⟩ := stepR_ndim r hr (.translate v b) x1 r1 h1
  obtain ⟨e1, e2⟩ := translate_affine r hr v b x1 r1 h1 a ha
  obtain ⟨e3, e4⟩ := translate_affine r1 hi1 w b' x2 r2 h2 a (by rw [hn1]; exact ha)
  rw [e3, e4, e1, e2]; constructor <;> ring

/-- translating back restores the corners -/
theorem translate_inverse (r : Region) (hr : r.Inv) (v w : List Rat) (b b' : Bool)
    (x1 r1 x2 r2 : Region) (h1 : translateR r v b = .ok (x1, r1))
    (h2 : translateR r1 w b' = .ok (x2, r2)) (a : Nat) (ha : a < r.ndim)
    (hw : w.getD a 0 = - v.getD a 0) : r2.lo a = r.lo a ∧ r2.hi a = r.hi a := by
  obtain ⟨e1, e2⟩ := translate_compose r hr v w b b' x1 r1 x2 r2 h1 h2 a ha
  rw [e1, e2, hw]; constructor <;> ring

/-- a factor 1 on an axis leaves that axis' corners where they are, a factor −1 mirrors them about
the reference point (wherever it lies), in either form -/
theorem scale_unit_factors (r : Region) (hr : r.Inv) (f : Factor) (ref : Option (List Rat)) (b : Bool)
    (recv ret : Region) (h : scaleR r f ref b = .ok (recv, ret)) (a : Nat) (ha : a < r.ndim) :
    (f.at a = 1 → ret.lo a = r.lo a ∧ ret.hi a = r.hi a) ∧
    (f.at a = -1 → ret.lo a = 2 * (ref.getD r.center).getD a 0 - r.hi a ∧
                   ret.hi a = 2 * (ref.getD r.center).getD a 0 - r.lo a) := by
  obtain ⟨h1, h2⟩ := scale_affine r hr f ref b recv ret h a ha
  have hlt : r.lo a < r.hi a := hr.lo_lt_hi ha
  generalize (ref.getD r.center).getD a 0 = R at h1 h2 ⊢
  constructor
  · intro hf
    have e : ∀ x : Rat, R + 1 * (x - R) = x := fun x => by ring
    rw [hf, e, e] at h1 h2
    exact ⟨h1.trans (min_eq_left hlt.le), h2.trans (max_eq_right hlt.le)⟩
  · intro hf
    have e : ∀ x : Rat, R + -1 * (x - R) = 2 * R - x := fun x => by ring
    rw [hf, e, e] at h1 h2
    exact ⟨h1.trans (min_eq_right (sub_le_sub_left hlt.le _)), h2.trans (max_eq_left (sub_le_sub_left hlt.le _))⟩

/-- a zero factor on any axis is rejected by both forms -/
theorem zero_factor_rejected (r : Region) (f : Factor) (ref : Option (List Rat)) (a : Nat) (ha : a < r.ndim)
    (hz : f.at a = 0) : (∃ e, scaleR r f ref true = .error e) ∧ (∃ e, scaleR r f ref false = .error e) :=
  ⟨stepR_malformed r (.scale f ref true) (Or.inr (Or.inr ⟨a, ha, hz⟩)),
   stepR_malformed r (.scale f ref false) (Or.inr (Or.inr ⟨a, ha, hz⟩))⟩

/-! ## mesh level: the step refined, in-place == copying, rejections -/
open DFV.C14

/-- **Refinement of the mesh step.**  `stepM` (written op by op, as mesh.py is) equals the uniform
description `stepMU`: apply the region step to the region and the SAME step — reference point fixed
to the mesh's (`subOp`: the given point, else the region centre) — to every subregion in order;
counts `opN` (swapped for odd `k`) and `bc` `opBc` (axis letters swapped for odd `k`); then either
assign (in place: receiver = result) or go through the constructor with the subregion setter
(copying: receiver untouched).  All mesh-level theorems below are proved from this form.  (= `T.stepM_eq_stepMU`) -/
theorem stepM_refines (m : Mesh) (op : Op) : stepM m op = stepMU m op := stepM_eq_stepMU m op

/-- every accepted mesh step: receiver and result keep the mesh invariant, the counts are `opN`
(so translation and scaling keep `n`), and the new region is what the region step returns (= `T.stepM_keeps`) -/
theorem stepM_region_n (m : Mesh) (hm : m.Inv) (op : Op) (recv ret : Mesh) (h : stepM m op = .ok (recv, ret)) :
    recv.Inv ∧ ret.Inv ∧ ret.n = opN m op ∧ ∃ x, stepR m.region op = .ok (x, ret.region) :=
  stepM_keeps m hm op recv ret h

/-- "scaling keeps n" (either form, any factors, any reference point) -/
theorem scale_keeps_n (m : Mesh) (hm : m.Inv) (f : Factor) (ref : Option (List Rat)) (b : Bool) (recv ret : Mesh)
    (h : stepM m (.scale f ref b) = .ok (recv, ret)) : ret.n = m.n :=
  (stepM_keeps m hm _ recv ret h).2.2.1

/-- **scaling a mesh scales its cells by `|s|`** (counts kept, see `scale_keeps_n`): either form,
any factors (negative included), any reference point -/
theorem scale_cells (m : Mesh) (hm : m.Inv) (f : Factor) (ref : Option (List Rat)) (b : Bool) (recv ret : Mesh)
    (h : stepM m (.scale f ref b) = .ok (recv, ret)) (a : Nat) (ha : a < m.region.ndim) :
    ret.cellAt a = |f.at a| * m.cellAt a := by
  obtain ⟨_, _, _, x, hx⟩ := stepM_region_n m hm _ recv ret h
  have hn' : ret.n = m.n := scale_keeps_n m hm f ref b recv ret h
  have he := scale_edges m.region hm.1 f ref b x ret.region hx a ha
  unfold Mesh.cellAt Mesh.nAt; rw [he, hn']; ring

/-- **translating a mesh keeps counts and cells** (either form) -/
theorem translate_keeps_cells (m : Mesh) (hm : m.Inv) (v : List Rat) (b : Bool) (recv ret : Mesh)
    (h : stepM m (.translate v b) = .ok (recv, ret)) (a : Nat) (ha : a < m.region.ndim) :
    ret.n = m.n ∧ ret.cellAt a = m.cellAt a := by
  obtain ⟨_, _, hn, x, hx⟩ := stepM_region_n m hm _ recv ret h
  have hn' : ret.n = m.n := hn
  have he := translate_keeps_edges m.region hm.1 v b x ret.region hx a ha
  refine ⟨hn', ?_⟩
  unfold Mesh.cellAt Mesh.nAt; rw [he, hn']

/-- `true` for the two steps that do not turn the object -/
def Op.noTurn : Op → Bool
  | .rotate90 .. => false
  | _ => true

/-- **any history without rotations keeps the cell counts**: translations and scalings (any factors,
any reference points, in place or copying, rejected steps skipped) never change `n` -/
theorem unturned_history_keeps_n (m : Mesh) (hm : m.Inv) (ops : List Op)
    (hall : ∀ op ∈ ops, Op.noTurn op = true) : (runM m ops).n = m.n :=
  (runM_follows.induct (P := fun m' => m'.Inv ∧ m'.n = m.n) ops
    (fun m' ⟨hi, hn⟩ op hop x y h => by
      obtain ⟨_, yi, yn, _⟩ := stepM_region_n m' hi op x y h
      refine ⟨yi, yn.trans (Eq.trans ?_ hn)⟩
      have := hall op hop
      cases op with
      | rotate90 => cases this
      | _ => rfl)
    m ⟨hm, rfl⟩).2

/-- one accepted mesh step keeps the total number of cells -/
theorem stepM_keeps_len (m : Mesh) (hm : m.Inv) (op : Op) (recv ret : Mesh) (h : stepM m op = .ok (recv, ret)) :
    ret.len = m.len := by
  obtain ⟨_, _, hn, x, hx⟩ := stepM_region_n m hm op recv ret h
  unfold Mesh.len; rw [hn]
  cases op with
  | translate v b => rfl
  | scale f ref b => rfl
  | rotate90 a1 a2 k ref b =>
    -- the accepted region turn has found two different axes
    obtain ⟨_, _, i1, i2, d1, d2, h12, l1, l2, _⟩ := rotate90R_inv _ _ _ _ _ _ _ _ hx
    have hlen : m.n.length = m.region.dims.length := hm.n_length.trans hm.dims_length.symm
    simp only [opN, d1, d2]
    exact C06.natProd_rotN _ _ _ _ h12 (hlen ▸ l1) (hlen ▸ l2) hm.mem_n_pos

/-- **every history keeps the total number of cells**: translations, scalings and quarter turns, in
place or copying, rejected steps skipped -/
theorem history_keeps_len (m : Mesh) (hm : m.Inv) (ops : List Op) : (runM m ops).len = m.len :=
  (runM_follows.induct (P := fun m' => m'.Inv ∧ m'.len = m.len) ops
    (fun m' ⟨hi, hn⟩ op _ x y h => ⟨(stepM_region_n m' hi op x y h).2.1, (stepM_keeps_len m' hi op x y h).trans hn⟩)
    m ⟨hm, rfl⟩).2

/-- a name-preserving pairing has the same list of names -/
theorem forall2_names (subs subs' : List (String × Region)) (P : String × Region → String × Region → Prop)
    (h : List.Forall₂ (fun p p' => p'.1 = p.1 ∧ P p p') subs subs') : subs'.map Prod.fst = subs.map Prod.fst := by
  induction h with
  | nil => rfl
  | cons hp _ ih => simp [hp.1, ih]

/-- **every accepted mesh step keeps the subregion names, in order** (either form) -/
theorem stepM_keeps_names (m : Mesh) (op : Op) (recv ret : Mesh) (h : stepM m op = .ok (recv, ret)) :
    ret.subs.map Prod.fst = m.subs.map Prod.fst := by
  obtain ⟨x, r', subs', _, hsub, hcase⟩ := stepM_ok m op recv ret h
  have hn := forall2_names _ _ _ (mapSubs_inv _ _ _ hsub)
  split at hcase
  · obtain ⟨rfl, _⟩ := hcase
    exact hn
  · rw [(mkMesh_inv _ _ _ _ _ hcase.2).2.2.2.1, List.map_map]; exact hn

/-- **every history keeps the subregion names, in order**: no step adds, drops, renames or reorders a
subregion (rejected steps skipped, in-place and copying steps mixed) -/
theorem history_keeps_names (m : Mesh) (ops : List Op) : (runM m ops).subs.map Prod.fst = m.subs.map Prod.fst :=
  runM_follows.induct (P := fun m' => m'.subs.map Prod.fst = m.subs.map Prod.fst) ops
    (fun m' hn op _ x y h => (stepM_keeps_names m' op x y h).trans hn) m rfl

/-- **"cell·n equals the region edges" after every history**: for every mesh reached by any
finite history, on every axis the count is positive and `n · cell = pmax − pmin` exactly -/
theorem cells_tile_after_history (m : Mesh) (hm : m.Inv) (ops : List Op) (a : Nat) (ha : a < (runM m ops).ndim) :
    0 < (runM m ops).nAt a ∧
    ((runM m ops).nAt a : Rat) * (runM m ops).cellAt a = (runM m ops).region.hi a - (runM m ops).region.lo a :=
  ⟨(reachable_inv_mesh m hm ops).2.2 a ha, C01.cellAt_cover _ _ ((reachable_inv_mesh m hm ops).2.2 a ha)⟩

/-- **In-place == copying at mesh level.**  For a mesh satisfying the mesh invariant and `SubInv`:
(1) if the in-place form accepts, it returns the receiver itself (`T1 = T2`), and the copying form
returns exactly that state with `bc` lower-cased by the constructor when that `bc` is valid — and
is rejected when it is not; (2) if the copying form accepts, the receiver is untouched, the
in-place form accepts too and the returned mesh is the in-place state (bc lower-cased); (3) hence
a step rejected in place is rejected by the copying form as well.  The constructor's tolerant
re-validation of the subregions never rejects here, because the images fit exactly
(`DFV.C14.stepM_subInv`, `set_accepts_exact`).  This form needs NO hypothesis on `bc`; for well-formed
`bc` the conditional disappears: `inplace_eq_copy_mesh_complete`. -/
theorem inplace_eq_copy_mesh (m : Mesh) (hm : m.Inv) (hs : SubInv m) (op : Op) :
    (∀ T1 T2, stepM m (op.withInplace true) = .ok (T1, T2) →
        T1 = T2 ∧ stepM m (op.withInplace false) =
          if Mesh.bcOk T2.region.dims T2.bc.toLower then .ok (m, { T2 with bc := T2.bc.toLower }) else .error .value) ∧
    (∀ recv ret, stepM m (op.withInplace false) = .ok (recv, ret) →
        recv = m ∧ ∃ T, stepM m (op.withInplace true) = .ok (T, T) ∧ ret = { T with bc := T.bc.toLower }) ∧
    ((∃ e, stepM m (op.withInplace true) = .error e) → ∃ e, stepM m (op.withInplace false) = .error e) := by
  refine ⟨fun T1 T2 h => by
    have hp := subsProper_of_subInv m hm hs
    obtain ⟨hmal, h2⟩ := (stepM_spec m hm hp _ _ _).mp h
    rw [inplace_withInplace, if_pos rfl, applyM_withInplace] at h2
    obtain ⟨rfl, rfl⟩ := h2
    rw [malformed_withInplace] at hmal
    refine ⟨rfl, ?_⟩
    rw [stepM_eq m hm hp, specR.accepts hm.1 (mt (malformed_withInplace _ op false).mp hmal), inplace_withInplace,
      applyM_withInplace, remake_eq _ (applyM_inv m hm op hmal) (applyM_subInv m hm hs op hmal)]
    simp only [Bool.false_eq_true, if_false]
    cases Mesh.bcOk (applyM m op).region.dims (applyM m op).bc.toLower <;> rfl,
          fun recv ret h => stepM_copy_to_inplace m hm hs op recv ret h, ?_⟩
  rintro ⟨e, he⟩
  cases hF : stepM m (op.withInplace false) with
  | error e' => exact ⟨e', rfl⟩
  | ok p =>
    obtain ⟨recv, ret⟩ := p
    obtain ⟨_, T, hT, _⟩ := stepM_copy_to_inplace m hm hs op recv ret hF
    rw [he] at hT; cases hT

/-- Mesh level master lemma — **periodic boundary conditions included**.  For a mesh satisfying the
mesh invariant, `SubInv` and `BcWf` (what the `bc` setter guarantees: lower-cased, letters distinct
dimension names; for periodic `bc` the single-character dimension names are lower-case — every
non-periodic `bc` qualifies, `bc_wellformed_of_nonperiodic`) and ANY step: either both forms accept
and end in the same state `T` (satisfying the three invariants again; a non-periodic `bc` is
unchanged; in-place returns the receiver, copying leaves it untouched), or both forms reject —
"rejected in both forms on exactly the same inputs".  The letter swap of a quarter turn keeps the
`bc` check and lower-casing (`DFV.C12.rotBc_keeps_bcOk`, `rotBc_lowercase`), so the constructor of
the copying form never rejects what the in-place form assigned. -/
theorem step_forms_mesh (m : Mesh) (hm : m.Inv) (hs : SubInv m) (hbc : BcWf m) (op : Op) :
    (∃ T : Mesh, T.Inv ∧ SubInv T ∧ BcWf T ∧ (PlainBc m.bc → T.bc = m.bc) ∧ stepM m (op.withInplace true) = .ok (T, T) ∧
        stepM m (op.withInplace false) = .ok (m, T)) ∨
    ((∃ e, stepM m (op.withInplace true) = .error e) ∧ (∃ e, stepM m (op.withInplace false) = .error e)) := by
  rcases stepM_forms_bc m hm hs hbc op with ⟨T, h1, h2, h3, h4, _, h5, h6⟩ | h
  · exact Or.inl ⟨T, h1, h2, h3, h4, h5, h6⟩
  · exact Or.inr h

/-- every non-periodic boundary condition (`""`, `neumann`, `dirichlet`) is well-formed, whatever
the dimension names — so the theorems stated with `BcWf` cover all of them (= `T.bcWf_of_plain`) -/
theorem bc_wellformed_of_nonperiodic (m : Mesh) (h : PlainBc m.bc) : BcWf m := bcWf_of_plain m h

/-- every accepted mesh step (either form) keeps the boundary condition well-formed, and leaves a
non-periodic one unchanged -/
theorem step_keeps_bc_wellformed (m : Mesh) (hm : m.Inv) (hs : SubInv m) (hbc : BcWf m) (op : Op) (recv ret : Mesh)
    (h : stepM m op = .ok (recv, ret)) : BcWf recv ∧ BcWf ret ∧ (PlainBc m.bc → ret.bc = m.bc) := by
  obtain ⟨hmal, rfl, rfl⟩ := (specM.ok_iff m ⟨hm, hs, hbc.1⟩ op recv ret).mp h
  have := applyM_bcWf m hm hbc op hmal
  exact ⟨by split <;> assumption, this, plainBc_op m op⟩

/-- after ANY finite history: mesh invariant, `SubInv` and well-formed `bc` together -/
theorem reachable_bc_wellformed (m : Mesh) (hm : m.Inv) (hs : SubInv m) (hbc : BcWf m) (ops : List Op) :
    (runM m ops).Inv ∧ SubInv (runM m ops) ∧ BcWf (runM m ops) :=
  runM_follows.induct (P := fun m => m.Inv ∧ SubInv m ∧ BcWf m) ops
    (fun m ⟨hm, hs, hbc⟩ op _ x y h => ⟨(specM.inv ⟨hm, hs, hbc.1⟩ h).2.1, (specM.inv ⟨hm, hs, hbc.1⟩ h).2.2.1,
      (step_keeps_bc_wellformed m hm hs hbc op x y h).2.1⟩) m ⟨hm, hs, hbc⟩

/-- Two mesh histories that differ only in the in-place flags of their steps end with equal meshes
(region, counts, bc, subregions) — periodic boundary conditions included. -/
theorem history_forms_agree_mesh (m : Mesh) (hm : m.Inv) (hs : SubInv m) (hbc : BcWf m)
    (ops : List Op) (flags : List Bool) (hl : flags.length = ops.length) :
    runM m (List.zipWith Op.withInplace ops flags) = runM m ops :=
  runM_forms_agree_bc m hm hs hbc.1 ops flags hl

/-! ## field level: histories, in-place == copying -/

/-- The shape invariant — array of shape `(*n, nvdim)` (an `n`-shaped array of cell values), Boolean
validity of shape `n`, mesh invariant — holds after ANY finite history of field transformations. -/
theorem reachable_inv_field (f : Fld) (hf : FldInv f) (ops : List Op) : FldInv (runF f ops) :=
  runF_follows.induct ops (fun f hf op _ x y h => (stepF_inv f hf op x y h).2) f hf

/-- the field rotation: both forms are accepted on exactly the same inputs and return the same
field; they differ only in the receiver (the result itself in place, untouched when copying) —
no hypothesis on the field -/
theorem rotate90F_forms (f : Fld) (a1 a2 : String) (k : Int) (ref : Option (List Rat)) (b b' : Bool) (x g : Fld)
    (h : rotate90F f a1 a2 k ref b = .ok (x, g)) :
    rotate90F f a1 a2 k ref b' = .ok (if b' then g else f, g) ∧ x = if b then g else f := by
  obtain ⟨y, m', i1, i2, h1, d1, d2, hc, e1, e2⟩ := (rotate90F_ok_iff f a1 a2 k ref b x g).mp h
  exact ⟨(rotate90F_ok_iff f a1 a2 k ref b' _ _).mpr ⟨y, m', i1, i2, h1, d1, d2, hc, e1, rfl⟩, e2⟩

/-- Field level master lemma: for a field satisfying `FInv` (shape invariant, `SubInv` and `BcWf` of
its mesh — periodic boundary conditions included) and ANY step, either both forms accept and end in
the same state `T` (again satisfying `FInv`; the in-place form returns the receiver, the copying
form leaves it untouched), or both forms reject. -/
theorem stepF_forms (f : Fld) (hf : FInv f) (op : Op) :
    (∃ T : Fld, FInv T ∧ stepF f (op.withInplace true) = .ok (T, T) ∧ stepF f (op.withInplace false) = .ok (f, T)) ∨
    ((∃ e, stepF f (op.withInplace true) = .error e) ∧ (∃ e, stepF f (op.withInplace false) = .error e)) :=
  (specF.forms hf op).mono fun _ h => h.1

/-- Two field histories that differ only in the in-place flags of their steps end with equal fields
(mesh, values, validity, labels) — periodic boundary conditions included. -/
theorem history_forms_agree_field (f : Fld) (hf : FInv f) (ops : List Op) (flags : List Bool)
    (hl : flags.length = ops.length) :
    runF f (List.zipWith Op.withInplace ops flags) = runF f ops :=
  specF.forms_agree runF_follows hf ops flags hl

/-- **In-place == copying at mesh level, complete** (periodic `bc` included): for a mesh satisfying
the mesh invariant, `SubInv` and `BcWf`, whenever the in-place form accepts it returns the receiver
itself in exactly the state the copying form returns, the copying form leaves the receiver
untouched, and one form rejects iff the other does — the mesh-level mirror of `inplace_eq_copy`. -/
theorem inplace_eq_copy_mesh_complete (m : Mesh) (hm : m.Inv) (hs : SubInv m) (hbc : BcWf m) (op : Op) :
    (∀ recv ret, stepM m (op.withInplace true) = .ok (recv, ret) →
        recv = ret ∧ stepM m (op.withInplace false) = .ok (m, ret)) ∧
    (∀ recv ret, stepM m (op.withInplace false) = .ok (recv, ret) →
        recv = m ∧ stepM m (op.withInplace true) = .ok (ret, ret)) ∧
    ((∃ e, stepM m (op.withInplace true) = .error e) ↔ (∃ e, stepM m (op.withInplace false) = .error e)) :=
  (specM.forms ⟨hm, hs, hbc.1⟩ op).eq_copy

/-- **In-place == copying at field level, complete** (periodic `bc` included). -/
theorem inplace_eq_copy_field (f : Fld) (hf : FInv f) (op : Op) :
    (∀ recv ret, stepF f (op.withInplace true) = .ok (recv, ret) →
        recv = ret ∧ stepF f (op.withInplace false) = .ok (f, ret)) ∧
    (∀ recv ret, stepF f (op.withInplace false) = .ok (recv, ret) →
        recv = f ∧ stepF f (op.withInplace true) = .ok (ret, ret)) ∧
    ((∃ e, stepF f (op.withInplace true) = .error e) ↔ (∃ e, stepF f (op.withInplace false) = .error e)) :=
  Forms.eq_copy (step := stepF f) (P := FInv) (stepF_forms f hf op)

/-! ## rejected steps: exactly the malformed-argument classes, in both forms -/

/-- **A malformed call is rejected in both forms and produces no new state** — on regions, meshes
and fields alike, with NO hypothesis on the object.  The classes (`Malformed`): a translation
vector of the wrong length; a factor list of the wrong length, a reference point of the wrong
length, a zero factor (scalar or any entry of the list); equal axes, a reference point of the wrong
length, an unknown axis name (first or second); and for fields additionally (`MalformedF`) a quarter
turn of a vector field whose component-to-axis mapping misses one of the two axes.  The model's
step returns `Except`: an error carries no receiver and no result. -/
theorem malformed_rejected_both_forms (r : Region) (m : Mesh) (f : Fld) (op : Op) (b : Bool) :
    (Malformed r op → ∃ e, stepR r (op.withInplace b) = .error e) ∧
    (Malformed m.region op → ∃ e, stepM m (op.withInplace b) = .error e) ∧
    (MalformedF f op → ∃ e, stepF f (op.withInplace b) = .error e) :=
  ⟨fun h => stepR_malformed r _ ((malformed_withInplace r op b).mpr h),
   fun h => stepM_malformed m _ ((malformed_withInplace m.region op b).mpr h),
   fun h => stepF_malformed f _ ((malformedF_withInplace f op b).mpr h)⟩

/-- **Region: a step is rejected exactly for the malformed-argument classes** (either form): nothing
else is ever refused, and the flag plays no role. -/
theorem rejected_iff_malformed_region (r : Region) (hr : r.Inv) (op : Op) (b : Bool) :
    (∃ e, stepR r (op.withInplace b) = .error e) ↔ Malformed r op := by
  rw [stepR_error_iff r hr, malformed_withInplace]

/-- **Mesh: a step is rejected exactly for the malformed-argument classes** (either form; mesh
invariant, `SubInv`, well-formed `bc`): neither the steps applied to the subregions, nor the `bc`
letter swap, nor the constructor and subregion setter of the copying form ever add a rejection. -/
theorem rejected_iff_malformed_mesh (m : Mesh) (hm : m.Inv) (hs : SubInv m) (hbc : BcWf m) (op : Op) (b : Bool) :
    (∃ e, stepM m (op.withInplace b) = .error e) ↔ Malformed m.region op := by
  rw [stepM_error_iff m hm hs hbc, malformed_withInplace]

/-- **Field: a step is rejected exactly for the malformed-argument classes** (either form), the
unmapped vector field included. -/
theorem rejected_iff_malformed_field (f : Fld) (hf : FInv f) (op : Op) (b : Bool) :
    (∃ e, stepF f (op.withInplace b) = .error e) ↔ MalformedF f op := by
  rw [stepF_error_iff f hf, malformedF_withInplace]

/-- **A rejected step leaves the object as it was**, in a history: following `op :: ops` from an
object on which `op` is malformed is following `ops` from the unchanged object — region, mesh, field. -/
theorem rejected_step_skipped (r : Region) (m : Mesh) (f : Fld) (op : Op) (ops : List Op) :
    (Malformed r op → runR r (op :: ops) = runR r ops) ∧
    (Malformed m.region op → runM m (op :: ops) = runM m ops) ∧
    (MalformedF f op → runF f (op :: ops) = runF f ops) := by
  refine ⟨fun h => ?_, fun h => ?_, fun h => ?_⟩
  · obtain ⟨e, he⟩ := stepR_malformed r op h
    simp only [runR, he]
  · obtain ⟨e, he⟩ := stepM_malformed m op h
    simp only [runM, he]
  · obtain ⟨e, he⟩ := stepF_malformed f op h
    simp only [runF, he]

/-- non-vacuity of the mesh- and field-level theorems: `exP` (3-d, anisotropic, two touching
subregions, default bc) and `exM` (the same, PERIODIC in x) satisfy mesh invariant, `SubInv` and
`BcWf`; the fields `exF` and `{ exF with mesh := exM }` on them satisfy `FInv`; the history `exOps` (negative-factor in-place
scale about a far point, copying odd quarter turn, in-place translation) is accepted step by step,
permutes the counts and moves the periodic direction from x to y. -/
example : exP.Inv ∧ SubInv exP ∧ BcWf exP := ⟨exP_inv, exP_subInv, bcWf_of_plain _ (Or.inl rfl)⟩
example : exM.Inv ∧ SubInv exM ∧ BcWf exM ∧ ¬ PlainBc exM.bc :=
  ⟨exM_inv, exM_subInv, bcWf_of_bcWfB exM (by decide +kernel), by unfold PlainBc; decide +kernel⟩
example : FInv exF := ⟨exF_inv, exP_subInv, bcWf_of_plain _ (Or.inl rfl)⟩
example : FInv { exF with mesh := exM } := ⟨⟨exM_inv, rfl, rfl⟩, exM_subInv, bcWf_of_bcWfB exM (by decide +kernel)⟩
example : (runM exP exOps).n = [6, 4, 1] := by decide +kernel
example : (runM exM exOps).n = [6, 4, 1] ∧ (runM exM exOps).bc = "y" := by decide +kernel
example : (runF exF exOps).mesh.n = [6, 4, 1] ∧ (runF exF exOps).data.shape = [6, 4, 1] := by decide +kernel
/-- non-vacuity of the rejection theorems: each malformed class has an instance on `exM` -/
example : Malformed exM.region (.translate [1, 2] true) ∧ Malformed exM.region (.scale (.vec [1, 0, 2]) none false) ∧
    Malformed exM.region (.scale (.scalar 2) (some [0, 0]) true) ∧ Malformed exM.region (.rotate90 "x" "x" 1 none true) ∧
    Malformed exM.region (.rotate90 "x" "w" 1 none false) ∧ ¬ Malformed exM.region (.rotate90 "x" "y" 1 none false) := by
  have hx : exM.region.dim2index "x" = .ok 0 := by decide +kernel
  have hy : exM.region.dim2index "y" = .ok 1 := by decide +kernel
  refine ⟨(by decide : [1, 2].length ≠ exM.region.ndim), Or.inr (Or.inr ⟨1, by decide, by decide +kernel⟩),
    Or.inr (Or.inl (by decide)), Or.inl rfl, Or.inr (Or.inr (Or.inr ⟨.value, by decide +kernel⟩)), ?_⟩
  simp only [Malformed, not_or, not_exists]
  refine ⟨by decide, by decide +kernel, ?_, ?_⟩
  · intro e he; rw [hx] at he; cases he
  · intro e he; rw [hy] at he; cases he

/-- non-vacuity: a concrete 3-d region satisfies the invariant. -/
example : (⟨[0, 0, 0], [10, 8, 6], ["x", "y", "z"], ["a", "b", "c"], 1/1000000000000⟩ : Region).invB = true := by
  decide +kernel

/-! ## the store model — who holds which Region object

`DFV/Model/C13Store.lean` models Region and Mesh OBJECTS: the constructor stores a COPY of the Region
object it is given as `region=` (mesh.py after repo fix 12c808de, finding D134: the object is not kept by
reference) and COPIES of the subregion candidates (as the setter does); the in-place forms call the
in-place method of the mesh's own Region objects one after the other.  The
theorems below say that the value model used everywhere else (`stepM`, `mkMesh?`, `setSubs`) is a sound
abstraction of it, which objects a statement can change, and what holds after every session. -/
open DFV.S

/-- **After ANY session** — any finite list of statements from the empty store: Region objects
created, meshes built on any Region objects (the same one for several meshes included), subregions
assigned, in-place and copying steps on meshes and on ANY Region object (also objects a mesh holds),
accepted, rejected or raising half-way — the store is good: every Region object is a proper region;
every mesh object has a region object, positive counts one per direction, a lower-cased checked `bc`,
and subregion objects that were created after its region object, carry its dimension names and are
pairwise different objects; NO Region object is the subregion of two meshes or twice of one; and the
region object of a mesh is held by no other mesh (`RegExcl`).  (Induction over the session;
`exec_good` / `exec_regExcl` are the steps.) -/
theorem store_invariant_after_any_session (sts : List Stmt) : Good (run Store.empty sts) ∧ RegExcl (run Store.empty sts) :=
  ⟨run_good Store.empty empty_good sts,
   run_regExcl Store.empty empty_good empty_regExcl sts⟩

/-- what "good" gives for one mesh object: its Region objects are its own in the sense of `MeshOk`
(ids valid, subregion objects pairwise different and different from the region object), and its VALUE
satisfies the mesh invariant, has proper subregions with the mesh's dimension names, and a checked `bc` (= `S.good_mesh`) -/
theorem good_store_mesh (s : Store) (hg : Good s) (mo : MeshObj) (hmem : mo ∈ s.meshes) :
    MeshOk s mo ∧ (absMesh s mo).Inv ∧ SubsProper (absMesh s mo) ∧ BcInv (absMesh s mo) :=
  good_mesh s hg mo hmem

/-- **Exclusive ownership after ANY session — no discipline of the caller is needed.**  The constructor
gives every mesh a region object of its own (repo fix 12c808de), as the setter does
for the subregions; so after any session whatsoever (the same Region object as `region=` of many meshes,
the same candidate objects for many meshes, a mesh's own region or subregions as candidates or as the
`region=` of another mesh, in-place steps on anything) no Region object is reachable from two meshes,
nor twice from one: the footprints (region object + subregion objects) of different mesh objects are
disjoint and each footprint lists pairwise different objects.  What the caller can still do is move a
mesh's OWN objects through handles obtained from the mesh (`mesh.region`, `mesh.subregions[name]`):
that changes that one object and the value of that one mesh only (`region_step_frame`). -/
theorem exclusive_ownership_after_any_session (sts : List Stmt)
    (i j : Nat) (mo mo' : MeshObj) (hi : (run Store.empty sts).meshes[i]? = some mo) (hj : (run Store.empty sts).meshes[j]? = some mo') :
    (footprint mo).Nodup ∧ (i ≠ j → ∀ a, a ∈ footprint mo → a ∉ footprint mo') :=
  footprints_disjoint _ (run_good _ empty_good sts)
    (run_regExcl _ empty_good empty_regExcl sts) i j mo mo' hi hj

/-- **Two meshes built on ONE Region object do not share it** (the session of finding D134,
as a positive statement): after `R = Region(...); m1 = Mesh(region=R, …); m2 = Mesh(region=R, …);
m1.translate((1, 1), inplace=True)` the two meshes hold two different region objects (ids 1 and 2,
neither is `R` = id 0), `m1`'s has moved, `m2`'s and the caller's `R` have not. -/
theorem region_not_shared_witness :
    (run Store.empty [.newRegion ⟨[0, 0], [4, 2], ["x", "y"], ["m", "m"], 1/1000000000000⟩,
        .newMesh 0 [4, 2] "" [], .newMesh 0 [4, 2] "" [], .meshOp 0 (.translate [1, 1] true)]).meshes.map (·.region) = [1, 2] ∧
    (run Store.empty [.newRegion ⟨[0, 0], [4, 2], ["x", "y"], ["m", "m"], 1/1000000000000⟩,
        .newMesh 0 [4, 2] "" [], .newMesh 0 [4, 2] "" [], .meshOp 0 (.translate [1, 1] true)]).regs.map (·.pmin)
      = [[0, 0], [1, 1], [0, 0]] := by
  decide +kernel

/-- **A step on one Region object through a handle changes that object only** (good store): after
`obj.translate / scale / rotate90` in either form, accepted or not, on Region object `rid` — the caller's,
or a mesh's own obtained as `mesh.region` / `mesh.subregions[name]` — the mesh objects are the same,
every other Region object keeps its value, every mesh that does not hold `rid` keeps its value; the
copying form changes no existing object and no mesh at all. -/
theorem region_step_frame (s : Store) (hg : Good s) (rid : Nat) (op : Op) :
    (exec s (.regionOp rid op)).1.meshes = s.meshes ∧
    (∀ i, i < s.regs.length → (i ≠ rid ∨ op.inplace = false) → (exec s (.regionOp rid op)).1.reg i = s.reg i) ∧
    (∀ mo, mo ∈ s.meshes → (rid ∉ footprint mo ∨ op.inplace = false) →
      absMesh (exec s (.regionOp rid op)).1 mo = absMesh s mo) := by
  have key : ∀ s' : Store, s'.meshes = s.meshes →
      (∀ i, i < s.regs.length → (i ≠ rid ∨ op.inplace = false) → s'.reg i = s.reg i) →
      s'.meshes = s.meshes ∧ (∀ i, i < s.regs.length → (i ≠ rid ∨ op.inplace = false) → s'.reg i = s.reg i) ∧
      (∀ mo, mo ∈ s.meshes → (rid ∉ footprint mo ∨ op.inplace = false) → absMesh s' mo = absMesh s mo) := by
    intro s' hm hr
    refine ⟨hm, hr, ?_⟩
    intro mo hmo hcase
    obtain ⟨i, hi⟩ := mem_meshes_getElem? s mo hmo
    exact absMesh_congr s s' mo fun a ha => hr a (footprint_lt s hg i mo hi a ha) (hcase.imp (fun h e => h (e ▸ ha)) id)
  simp only [exec]
  by_cases hrid : s.regs.length ≤ rid
  · rw [if_pos hrid]; exact key s rfl (fun _ _ _ => rfl)
  · rw [if_neg hrid]
    by_cases hi : op.inplace = true
    · rw [if_pos hi]
      cases hu : updReg s rid op with
      | error e => exact key s rfl (fun _ _ _ => rfl)
      | ok s' =>
        obtain ⟨r', _, e⟩ := (updReg_ok_iff s s' rid op).mp hu
        subst e
        apply key (s.setReg rid r') rfl
        intro i _ hcase
        rcases hcase with h | h
        · exact reg_setReg_ne _ _ _ _ h
        · rw [hi] at h; cases h
    · rw [if_neg hi]
      cases hst : stepR (s.reg rid) (op.withInplace false) with
      | error e => exact key s rfl (fun _ _ _ => rfl)
      | ok xr =>
        obtain ⟨x, ret⟩ := xr
        exact key (s.allocs [ret]) rfl (fun i hi' _ => reg_allocs_lt _ _ _ hi')

/-- **An accepted in-place mesh step, in the store** (good store, the mesh's `bc` well-formed): the
statement evaluates to the mesh object ITSELF, creates no object, leaves the mesh object holding the
same Region objects, and the mesh's value afterwards is EXACTLY the receiver state of the value model
`stepM` — although the store moves the Region objects one after the other, `scale` takes the default
reference point before and `rotate90` reads `self.region.centre` after the region object has been
turned (a region turned about its own centre keeps its centre), and `rotate90` assigns `bc` through the
setter (lower-casing and check, which cannot fail here). -/
theorem inplace_mesh_step_in_store (s : Store) (hg : Good s) (mid : Nat) (mo : MeshObj) (op : Op)
    (hmo : s.meshes[mid]? = some mo) (hb : BcWf (absMesh s mo)) (T1 T : Mesh)
    (h : stepM (absMesh s mo) (op.withInplace true) = .ok (T1, T)) :
    ∃ s' mo', meshInplace s mid op = (s', some (.mesh mid)) ∧ s'.regs.length = s.regs.length ∧
      (∀ i, i ∉ footprint mo → s'.reg i = s.reg i) ∧
      s'.meshes = setAt s.meshes mid mo' ∧ mo'.region = mo.region ∧ mo'.subs = mo.subs ∧ absMesh s' mo' = T := by
  obtain ⟨hok, hm, hp, hbi⟩ := good_mesh s hg mo (List.mem_of_getElem? hmo)
  exact meshInplace_ok s mid mo op hmo hok hm hp hbi T1 T h

/-- **A rejected in-place mesh step changes NOTHING in the store** (good store) — proved in the store
model, where an exception half-way WOULD leave objects moved: the value model rejects only when the
call on the region object raises, which happens before the first assignment; the subregion objects
accept whatever the region accepted.  (= `S.meshInplace_err`) -/
theorem rejected_inplace_mesh_step_changes_nothing (s : Store) (hg : Good s) (mid : Nat) (mo : MeshObj) (op : Op)
    (hmo : s.meshes[mid]? = some mo) (e : Err) (h : stepM (absMesh s mo) (op.withInplace true) = .error e) :
    meshInplace s mid op = (s, none) :=
  meshInplace_err s hg mid mo op hmo e h

/-- **An in-place step on one mesh changes no other mesh and none of the caller's Region objects**
(good store, region objects exclusive — both hold after any session, `store_invariant_after_any_session`): every other mesh object
is still there with the SAME value, every Region object outside the mesh's footprint is unchanged,
no object is created.  (= `S.meshInplace_frame`) -/
theorem inplace_step_frame (s : Store) (hg : Good s) (he : RegExcl s) (mid : Nat) (mo : MeshObj) (op : Op)
    (hmo : s.meshes[mid]? = some mo) (hb : BcWf (absMesh s mo)) (T1 T : Mesh)
    (h : stepM (absMesh s mo) (op.withInplace true) = .ok (T1, T)) :
    ∃ s' mo', meshInplace s mid op = (s', some (.mesh mid)) ∧ s'.meshes[mid]? = some mo' ∧ absMesh s' mo' = T ∧
      footprint mo' = footprint mo ∧
      (∀ j moj, j ≠ mid → s.meshes[j]? = some moj → s'.meshes[j]? = some moj ∧ absMesh s' moj = absMesh s moj) ∧
      (∀ i, i ∉ footprint mo → s'.reg i = s.reg i) ∧ s'.regs.length = s.regs.length :=
  meshInplace_frame s hg he mid mo op hmo T1 T h

/-- **The copying mesh step in the store**: accepted exactly when the value model accepts it; then ONE
mesh object is appended, its value is what `stepM` returns, it is built entirely from NEW Region
objects (nothing shared with the receiver or anybody else), and no existing object changes; a rejected
copying step changes nothing. -/
theorem copy_mesh_step_in_store (s : Store) (mid : Nat) (mo : MeshObj) (op : Op) (hmo : s.meshes[mid]? = some mo) :
    (∀ y T, stepM (absMesh s mo) (op.withInplace false) = .ok (y, T) →
      ∃ s' mo', meshCopy s mid op = (s', some (.mesh s.meshes.length)) ∧ s'.meshes = s.meshes ++ [mo'] ∧ absMesh s' mo' = T ∧
        (∀ a, a ∈ footprint mo' → s.regs.length ≤ a) ∧ (∀ j, j < s.regs.length → s'.reg j = s.reg j)) ∧
    (∀ e, stepM (absMesh s mo) (op.withInplace false) = .error e → meshCopy s mid op = (s, none)) := by
  rw [stepM_eq_stepMU]
  unfold stepMU meshCopy
  rw [hmo]
  simp only [inplace_withInplace, Bool.false_eq_true, if_false]
  rw [subOpCopy_eq, opNS_eq, opBcS_eq]
  have hreg : (absMesh s mo).region = s.reg mo.region := rfl
  have hsubs : (absMesh s mo).subs = valsOf s mo.subs := rfl
  rw [hreg, hsubs]
  cases hr : stepR (s.reg mo.region) (op.withInplace false) with
  | error e => exact ⟨fun y T h => (by cases h), fun e' _ => rfl⟩
  | ok xr =>
    obtain ⟨x, r'⟩ := xr
    cases hsub : mapSubs (valsOf s mo.subs) (fun c => stepR c (subOp (absMesh s mo) (op.withInplace false))) with
    | error e => exact ⟨fun y T h => (by cases h), fun e' _ => rfl⟩
    | ok subs' =>
      simp only
      have hlen1 : (s.allocs (r' :: subs'.map (·.2))).regs.length = s.regs.length + 1 + subs'.length := by
        rw [allocs_length]; simp; omega
      have hreg1 : (s.allocs (r' :: subs'.map (·.2))).reg s.regs.length = r' := reg_allocs_head s r' _
      have hvals1 : valsOf (s.allocs (r' :: subs'.map (·.2))) (freshIds (s.regs.length + 1) subs') = subs' := by
        have := valsOf_freshIds (s.allocs (r' :: subs'.map (·.2))) subs' id (s.regs ++ [r']) (List.append_cons _ _ _)
        rw [List.length_append] at this
        exact this.trans (List.map_id'' (fun _ => rfl) subs')
      -- the constructor is given the new objects: it is the constructor of the value model on `r'`, `subs'`
      rw [mkMeshS_eq _ _ _ _ _ (by omega) (fun p hp => by have := freshIds_mem _ _ _ hp; omega), hreg1, hvals1]
      cases hmk : mkMesh? r' (opN (absMesh s mo) (op.withInplace false)) (opBc (absMesh s mo) (op.withInplace false)) subs' with
      | error e0 => exact ⟨fun y T h => (by cases h), fun e _ => rfl⟩
      | ok m' =>
        refine ⟨fun y T h => ?_, fun e h => (by cases h)⟩
        cases h
        refine ⟨_, _, rfl, rfl, absMesh_built _ _ _ _ _ m' (by rw [hreg1, hvals1]; exact hmk), fun a ha => ?_,
          fun j hj => (reg_allocs_lt _ _ j (by omega)).trans (reg_allocs_lt _ _ _ hj)⟩
        -- the constructor has copied the region object once more: all ids of the new mesh lie behind the first copies
        rcases List.mem_cons.mp ha with e | e
        · rw [e]; show s.regs.length ≤ (s.allocs (r' :: subs'.map (·.2))).regs.length; omega
        · obtain ⟨p, hp, e'⟩ := List.mem_map.mp e
          have := (freshIds_mem _ _ _ hp).1
          omega

/-- **Constructor and setter in the store**: `Mesh(region=<rid>, …, subregions={name: <id>})` and
`mesh.subregions = {name: <id>}` are accepted exactly when the value model (`mkMesh?` / `setSubs`) accepts
the VALUES of the named objects; a new mesh holds a NEW region object (with the value of the given one:
repo fix 12c808de) and NEW Region objects as subregions, whose values are what the value model stores (the
mesh region's names, units, tolerance); no existing Region object — the given region and the candidates
included — is changed. -/
theorem constructor_and_setter_in_store (s : Store) (rid : Nat) (n : List Nat) (bc : String) (subs : List (String × Nat))
    (hrid : rid < s.regs.length) (hids : ∀ p ∈ subs, p.2 < s.regs.length) (mid : Nat) (mo : MeshObj)
    (hmo : s.meshes[mid]? = some mo) (hmr : mo.region < s.regs.length) :
    ((∀ m', mkMesh? (s.reg rid) n bc (valsOf s subs) = .ok m' →
      ∃ s' mo', mkMeshS s rid n bc subs = .ok s' ∧ s'.meshes = s.meshes ++ [mo'] ∧ absMesh s' mo' = m' ∧
        mo'.region = s.regs.length ∧ (∀ p ∈ mo'.subs, s.regs.length < p.2) ∧ (∀ j, j < s.regs.length → s'.reg j = s.reg j)) ∧
     (∀ e, mkMesh? (s.reg rid) n bc (valsOf s subs) = .error e → ∃ e', mkMeshS s rid n bc subs = .error e')) ∧
    ((∀ m', T.setSubs (absMesh s mo) (valsOf s subs) = .ok m' →
      ∃ s' mo', exec s (.setSubs mid subs) = (s', some (.mesh mid)) ∧ s'.meshes = setAt s.meshes mid mo' ∧
        absMesh s' mo' = m' ∧ mo'.region = mo.region ∧ (∀ p ∈ mo'.subs, s.regs.length ≤ p.2) ∧
        (∀ j, j < s.regs.length → s'.reg j = s.reg j)) ∧
     (∀ e, T.setSubs (absMesh s mo) (valsOf s subs) = .error e → exec s (.setSubs mid subs) = (s, none))) := by
  constructor
  · rw [mkMeshS_eq s rid n bc subs hrid hids]
    refine ⟨fun m' h => ?_, fun e h => ⟨e, by rw [h]⟩⟩
    rw [h]
    exact ⟨_, _, rfl, rfl, absMesh_built s rid n bc subs m' h, rfl,
      fun p hp => by have := (freshIds_mem _ _ _ hp).1; omega, fun j hj => reg_allocs_lt s _ j hj⟩
  · simp only [exec, hmo, (idsOk_iff s subs).mpr hids, Bool.not_true, Bool.false_eq_true, if_false, attach_eq]
    refine ⟨fun m' h => ?_, fun e h => by rw [h]⟩
    rw [h]
    obtain ⟨_, rfl⟩ := (setSubs_ok_iff _ _ _).mp h
    refine ⟨_, ⟨mo.region, mo.n, mo.bc, freshIds s.regs.length subs⟩, rfl, rfl, ?_, rfl,
      fun p hp => (freshIds_mem _ _ _ hp).1, fun j hj => reg_allocs_lt _ _ _ hj⟩
    refine (absMesh_mk _ _ _ _ _ _ _ (reg_allocs_lt _ _ _ hmr)
      (valsOf_fresh_allocs s subs fun i => stamp (s.reg mo.region) (s.reg i))).trans ?_
    simp only [valsOf, List.map_map]; rfl

/-- **A whole history of in-place steps in the store IS the value model's history.**  Good store, region
objects exclusive, mesh object `mid` with a value satisfying `SubInv` and `BcWf`; `ops` any list of
in-place steps (rejected ones included).  After the session `[mesh.op₁(inplace=True), …]` the mesh object
is the same object holding the same Region objects and its VALUE is `runM value ops` — so
`reachable_inv_mesh`, `cells_tile_after_history`, `reachable_bc_wellformed`, `history_forms_agree_mesh`,
`DFV.C14.runM_subInv` are statements about the store; every other mesh object has its old value, every
Region object outside the mesh's footprint (the caller's objects) is unchanged, nothing was created.
(= `S.inplace_history`, which `Props/C14.lean` uses too.) -/
theorem inplace_history_in_store (s : Store) (hg : Good s) (he : RegExcl s) (mid : Nat) (mo : MeshObj)
    (hmo : s.meshes[mid]? = some mo) (hs : SubInv (absMesh s mo)) (hb : BcWf (absMesh s mo)) (ops : List Op)
    (hin : ∀ op ∈ ops, op.inplace = true) :
    ∃ mo', (run s (ops.map (Stmt.meshOp mid))).meshes[mid]? = some mo' ∧
      absMesh (run s (ops.map (Stmt.meshOp mid))) mo' = runM (absMesh s mo) ops ∧ footprint mo' = footprint mo ∧
      (∀ j moj, j ≠ mid → s.meshes[j]? = some moj →
        (run s (ops.map (Stmt.meshOp mid))).meshes[j]? = some moj ∧ absMesh (run s (ops.map (Stmt.meshOp mid))) moj = absMesh s moj) ∧
      (∀ i, i ∉ footprint mo → (run s (ops.map (Stmt.meshOp mid))).reg i = s.reg i) ∧
      (run s (ops.map (Stmt.meshOp mid))).regs.length = s.regs.length :=
  inplace_history s hg he mid mo hmo hs ops hin

/-- non-vacuity of the store theorems: the session — two caller-made Region objects, a mesh built on the
first with the second as candidate under two names, an in-place quarter turn, a copying scale — is
accepted statement by statement: the mesh holds a copy of the region (id 2) and two different copies of
the candidate (ids 3, 4), the caller's objects (ids 0, 1) are where they were, the copy holds three new
objects. -/
example : (run Store.empty [.newRegion ⟨[0, 0], [4, 2], ["x", "y"], ["m", "s"], 1/1000000000000⟩,
    .newRegion ⟨[1, 0], [3, 1], ["x", "y"], ["m", "m"], 1/1000⟩,
    .newMesh 0 [4, 2] "x" [("a", 1), ("b", 1)], .meshOp 0 (.rotate90 "x" "y" 1 none true),
    .meshOp 0 (.scale (.scalar 2) none false)]).meshes.map (fun mo => (mo.region, mo.n, mo.bc, mo.subs))
    = [(2, [2, 4], "y", [("a", 3), ("b", 4)]), (8, [2, 4], "y", [("a", 9), ("b", 10)])] := by decide +kernel

/-- the session used by the two examples below (non-vacuity of `inplace_step_frame` / `inplace_history_in_store` /
`DFV.C14.subInv_after_inplace_history_in_store`): the session that builds `exM` (periodic, two touching subregions) from three caller-made Region objects ends in a
good store with exclusive region objects whose mesh object 0 has the value `exM` (which satisfies `SubInv`
and `BcWf`), held in the copies 3 (region), 4 and 5 -/
def exSession : List Stmt :=
  [.newRegion exM.region, .newRegion ⟨[2, 1, 0], [6, 3, 2], ["x", "y", "z"], ["m", "m", "m"], 1/1000⟩,
   .newRegion ⟨[6, 0, 0], [8, 6, 2], ["p", "q", "r"], ["m", "s", "K"], 1/1000000000000⟩,
   .newMesh 0 [4, 6, 1] "x" [("a", 1), ("b", 2)]]
example : Good (run Store.empty exSession) ∧ RegExcl (run Store.empty exSession) := store_invariant_after_any_session _
example : (run Store.empty exSession).meshes = [⟨3, [4, 6, 1], "x", [("a", 4), ("b", 5)]⟩] ∧
    absMesh (run Store.empty exSession) ⟨3, [4, 6, 1], "x", [("a", 4), ("b", 5)]⟩ = exM := by decide +kernel

end DFV.C13
