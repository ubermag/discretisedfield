import DFV.Props.C01
import DFV.Lemmas.C16Examples
import DFV.Lemmas.C16Round
import DFV.Lemmas.C16Legacy
import DFV.Lemmas.C16Dir
/-!
# C16 — VTK output puts each value in the grid cell a VTK reader finds at that position

Property theorems about the model of `Field.to_vtk`, `_to_vtk`, `_from_vtk`,
`_from_vtk_legacy` and the subregion side-car (`DFV/Model/C16.lean`).  Helper lemmas live in
`DFV/Lemmas/C16*.lean`.  Everything is for all shapes, all regions, all values, all masks, all labels
that meet the stated hypotheses, all probe points.

`WF f nx ny nz` is "a 3-d field as the constructor leaves it" (mesh invariant, array and mask
of the mesh's shape, labels present, distinct and different from the fixed array names
`norm` / `field` / `valid` when the field has more than one component).  `WFc f nx ny nz`
drops the last condition: labels present and distinct, nothing else — the theorems
stated with it hold for ANY label set and make the label findings exact conditions.
`D61`–`D64` are the ids of the findings about labels (`field` as a label, a scalar field's label),
the text form with a side-car, and stale side-cars in DESIGN.md.
-/
namespace DFV.C16
open DFV DFV.Mesh

/-! ## flattening order -/

/-- **Key index fact, every rank and shape.**  Reversing all axes and flattening in C order
(last index fastest) is the first-index-fastest (Fortran) flattening:
`flatC (reversed shape) (reversed index) = i₀ + n₀·(i₁ + n₁·(i₂ + …))`. -/
theorem flatten_reversed_axes (ns is : List Nat) (hl : is.length = ns.length) :
    flatC ns.reverse is.reverse = flatF ns is :=
  flatC_reverse ns is hl

/-- The same with a trailing component axis of length `m` that keeps its place (the
`(2,1,0,3)` transpose followed by `reshape(-1, nvdim)`): tuple `flatF ns is`, component `c`. -/
theorem flatten_reversed_axes_comp (ns is : List Nat) (m c : Nat) (hl : is.length = ns.length) :
    flatC (ns.reverse ++ [m]) (is.reverse ++ [c]) = flatF ns is * m + c :=
  flatC_reverse_comp ns is m c hl

/-- Inverse direction, every rank and shape: position `k` of the C-order flattening of the
axis-reversed array holds the entry whose first-index-fastest multi-index is `unflatF ns k`. -/
theorem unflatten_reversed_axes (ns : List Nat) (k : Nat) (hk : k < natProd ns) :
    unflatC ns.reverse k = (unflatF ns k).reverse :=
  unflatC_reverse ns k hk

/-- `a.transpose((2,1,0)).reshape(-1)` (code-shaped: NumPy transpose + C-order flattening)
lists a 3-d array in VTK's structured-cell order: entry `t` is `a[unflatF n t]`. -/
theorem vtk_flat_order {α} (a : NDA α) (nx ny nz : Nat) (hs : a.shape = [nx, ny, nz]) :
    flat3 a = tab (natProd [nx, ny, nz]) fun t => a.get (unflatF [nx, ny, nz] t) :=
  flat3_eq a nx ny nz hs

/-- `a.transpose((2,1,0,3)).reshape(-1, nv)`: tuple `t` is cell `unflatF n t`, component `c`
of it at flat position `t·nv + c`. -/
theorem vtk_flat_order_comp {α} (a : NDA α) (nx ny nz nv : Nat) (hs : a.shape = [nx, ny, nz, nv]) :
    flat4 a = tab (natProd [nx, ny, nz] * nv) fun q => a.get (unflatF [nx, ny, nz] (q / nv) ++ [q % nv]) :=
  flat4_eq a nx ny nz nv hs

/-- VTK's structured cell id `i + nx·(j + ny·k)` of a grid with `n + 1` points per axis is the
first-index-fastest flat index of `(i, j, k)`. -/
theorem cell_id_is_flatF (nx ny nz i j k : Nat) :
    cellId [nx + 1, ny + 1, nz + 1] i j k = flatF [nx, ny, nz] [i, j, k] :=
  cellId_eq_flatF nx ny nz i j k

/-! ## the grid -/

/-- Only 3-d fields are converted. -/
theorem vtk_3d_only (f : Fld) (h : f.mesh.region.ndim ≠ 3) : toVtk f = .error .runtime := by
  unfold toVtk; rw [if_pos h]

/-- A field with more than one component needs labels. -/
theorem vtk_needs_labels (f : Fld) (h3 : f.mesh.region.ndim = 3) (hnv : 1 < f.nvdim) (hv : f.vdims = none) :
    toVtk f = .error .value := by
  unfold toVtk; rw [if_neg (not_not.mpr h3), if_pos ⟨hnv, hv⟩]

/-- A well-formed 3-d field is converted; the grid has `n + 1` points per axis and the arrays
`norm`, one scalar per label (none for a scalar field), `field`, `valid`, in this order. -/
theorem vtk_grid (f : Fld) (nx ny nz : Nat) (h : WF f nx ny nz) :
    ∃ g, toVtk f = .ok g ∧ g.dims = [nx + 1, ny + 1, nz + 1] ∧
      g.cell.map (fun a => a.name) = "norm" :: ((if 1 < f.nvdim then f.vdims.getD [] else []) ++ ["field", "valid"]) := by
  refine ⟨_, toVtk_ok f nx ny nz h, rfl, ?_⟩
  simp only [List.map_cons, List.map_append, List.map_nil, comps_names_list]
  rfl

/-- The coordinate arrays of the grid are the mesh vertices: `n + 1` values per axis,
`pmin + j·cell`, `j = 0 … n`. -/
theorem grid_coordinates (f : Fld) (nx ny nz : Nat) (h : WF f nx ny nz) (g : Grid) (hg : toVtk f = .ok g)
    (a : Nat) (ha : a < 3) :
    (g.ax a).length = f.mesh.nAt a + 1 ∧
    ∀ j, j ≤ f.mesh.nAt a → (g.ax a).getD j 0 = f.mesh.region.lo a + (j : Rat) * f.mesh.cellAt a := by
  obtain ⟨hnd, _, _, hax, _⟩ := mesh_axes f.mesh nx ny nz h.mesh h.n
  obtain rfl := toVtk_grid f nx ny nz h g hg
  simp only [Grid.ax]
  rw [getD_tab _ _ _ _ ha]
  exact ⟨C01.vertices_length f.mesh a (by omega),
    fun j hj => C01.vertices_getD f.mesh a (by omega) (hax a ha).1 j hj⟩

/-! ## cell lookup -/

/-- Soundness of the lookup contract on any grid: the located cell's box contains the point
(lower faces inclusive; the upper face only for the last cell of an axis). -/
theorem locate_sound (g : Grid) (p : List Rat) (id : Nat) (h : locate g p = some id) :
    ∃ i j k, id = cellId g.dims i j k ∧
      (g.ax 0).getD i 0 ≤ p.getD 0 0 ∧ p.getD 0 0 ≤ (g.ax 0).getD (i + 1) 0 ∧
      (g.ax 1).getD j 0 ≤ p.getD 1 0 ∧ p.getD 1 0 ≤ (g.ax 1).getD (j + 1) 0 ∧
      (g.ax 2).getD k 0 ≤ p.getD 2 0 ∧ p.getD 2 0 ≤ (g.ax 2).getD (k + 1) 0 := by
  obtain ⟨i, j, k, hi, hj, hk, hid⟩ := locate_some g p id h
  obtain ⟨_, a1, a2, _⟩ := findInterval_sound _ _ _ hi
  obtain ⟨_, b1, b2, _⟩ := findInterval_sound _ _ _ hj
  obtain ⟨_, c1, c2, _⟩ := findInterval_sound _ _ _ hk
  exact ⟨i, j, k, hid, a1, a2, b1, b2, c1, c2⟩

/-- **`vtk_lookup`, geometry.**  For every point of the (closed) region the grid lookup finds
the cell whose structured id is the first-index-fastest flat index of the mesh cell that
`point2index` assigns to the point (floor of `(p − pmin)/cell`, the top face clipped). -/
theorem lookup_is_point2index (f : Fld) (nx ny nz : Nat) (h : WF f nx ny nz) (g : Grid) (hg : toVtk f = .ok g)
    (p : List Rat) (hp : f.mesh.region.containsExact p) :
    inRange [nx, ny, nz] (tab 3 fun a => f.mesh.indexAx a (p.getD a 0)) = true ∧
    locate g p = some (flatF [nx, ny, nz] (tab 3 fun a => f.mesh.indexAx a (p.getD a 0))) := by
  obtain ⟨hnd, _⟩ := mesh_axes f.mesh nx ny nz h.mesh h.n
  have hp3 := fun a (ha : a < 3) => hp.2 a (by rw [show f.mesh.region.ndim = 3 from hnd]; exact ha)
  obtain rfl := toVtk_grid f nx ny nz h g hg
  exact ⟨indexAx_inRange f.mesh nx ny nz h.mesh h.n p hp3, (locate_vertices_iff f.mesh nx ny nz h.mesh h.n _ p _).mpr ⟨hp3, rfl⟩⟩

/-- **`vtk_lookup`, values.**  In the cell with the structured id of mesh cell `idx` (any
in-range `idx`: in particular the one the lookup returns, and either neighbour when a consumer
breaks a tie on a shared face differently) the grid carries: in `field` the cell's vector, in
`norm` its squared length (the model stores the square), in `valid` 1 or 0 as the cell is
valid or not. -/
theorem cell_carries_value (f : Fld) (nx ny nz : Nat) (h : WF f nx ny nz) (g : Grid) (hg : toVtk f = .ok g)
    (idx : List Nat) (hi : inRange [nx, ny, nz] idx = true) :
    (∃ a, g.arr "field" = some a ∧ a.ncomp = f.nvdim ∧
        a.tuple (flatF [nx, ny, nz] idx) = tab f.nvdim fun c => (f.data.get idx).getD c 0) ∧
    (∃ a, g.arr "norm" = some a ∧ a.tuple (flatF [nx, ny, nz] idx) = [sumSq (f.data.get idx) f.nvdim]) ∧
    (∃ a, g.arr "valid" = some a ∧ a.int = true ∧
        a.tuple (flatF [nx, ny, nz] idx) = [if f.valid.get idx then 1 else 0]) :=
  ⟨⟨_, arr_field f nx ny nz h g hg, rfl, field_tuple f nx ny nz h.dshape idx hi⟩,
   ⟨_, arr_norm f nx ny nz h g hg, norm_tuple f nx ny nz h.dshape idx hi⟩,
   ⟨_, arr_valid f nx ny nz h g hg, rfl, valid_tuple f nx ny nz h.vshape idx hi⟩⟩

/-- The per-component scalars: the array named after label number `c` carries component `c`
of the cell. -/
theorem cell_carries_component (f : Fld) (nx ny nz : Nat) (h : WF f nx ny nz) (g : Grid) (hg : toVtk f = .ok g)
    (hnv : 1 < f.nvdim) (vs : List String) (hvs : f.vdims = some vs) (c : Nat) (hc : c < vs.length)
    (idx : List Nat) (hi : inRange [nx, ny, nz] idx = true) :
    ∃ a, g.arr (vs.getD c "") = some a ∧ a.ncomp = 1 ∧
      a.tuple (flatF [nx, ny, nz] idx) = [(f.data.get idx).getD c 0] := by
  obtain ⟨vs', hvs', _, hd, _⟩ := h.labels hnv
  rw [hvs] at hvs'; cases hvs'
  have hl : vs.getD c "" ∈ vs := getD_mem vs c "" hc
  refine ⟨_, arr_comp f nx ny nz h g hg hnv vs hvs _ hl, rfl, ?_⟩
  rw [comp_tuple f nx ny nz h.dshape vs _ idx hi, indexOf?_getD vs c hc hd]
  rfl

/-- **`vtk_lookup`.**  At every point `p` of the region a rectilinear-grid lookup in the
grid built from the field finds a cell, and that cell carries the vector, the squared norm and
the validity flag of the mesh cell containing `p`. -/
theorem vtk_lookup (f : Fld) (nx ny nz : Nat) (h : WF f nx ny nz) (g : Grid) (hg : toVtk f = .ok g)
    (p : List Rat) (hp : f.mesh.region.containsExact p) :
    ∃ id idx, locate g p = some id ∧ idx = (tab 3 fun a => f.mesh.indexAx a (p.getD a 0)) ∧
      (∃ a, g.arr "field" = some a ∧ a.tuple id = tab f.nvdim fun c => (f.data.get idx).getD c 0) ∧
      (∃ a, g.arr "norm" = some a ∧ a.tuple id = [sumSq (f.data.get idx) f.nvdim]) ∧
      (∃ a, g.arr "valid" = some a ∧ a.tuple id = [if f.valid.get idx then 1 else 0]) := by
  obtain ⟨hr, hl⟩ := lookup_is_point2index f nx ny nz h g hg p hp
  obtain ⟨⟨a, ha, _, ha'⟩, ⟨b, hb, hb'⟩, ⟨c, hc, _, hc'⟩⟩ := cell_carries_value f nx ny nz h g hg _ hr
  exact ⟨_, _, hl, rfl, ⟨a, ha, ha'⟩, ⟨b, hb, hb'⟩, ⟨c, hc, hc'⟩⟩

/-- The mesh's own `point2index` agrees with the per-axis index used above whenever it accepts
the point, so the lookup statement is about `f(p)`. -/
theorem point2index_axes (m : Mesh) (p : List Rat) (idx : List Nat) (h : m.point2index p = .ok idx) :
    idx = tab m.ndim fun a => m.indexAx a (p.getD a 0) :=
  ((C01.point2index_ok_iff_containsPt m p idx).mp h).2.2

/-! ## reading back -/

/-- **`vtk_roundtrip` (grid level).**  `_from_vtk` applied to the grid of a well-formed field
returns a field with the same corners, cell counts, values, validity (Boolean) and labels; the
subregions are whatever the side-car loader yields on the rebuilt mesh (`roundtrip_mesh_plain`, `roundtrip_subregions`).  A
scalar field comes back unlabelled. -/
theorem vtk_roundtrip (f : Fld) (nx ny nz : Nat) (h : WF f nx ny nz) (g : Grid) (hg : toVtk f = .ok g)
    (sidecar : Option (List (String × Region))) (m1 : Mesh)
    (hsub : loadSubs { region := plainRegion f.mesh.region.pmin f.mesh.region.pmax, n := [nx, ny, nz],
                       bc := "", subs := [] } sidecar = .ok m1) :
    ∃ f', fromCells g sidecar = .ok f' ∧ f'.mesh = m1 ∧ f'.nvdim = f.nvdim ∧
      f'.vdims = (if f.nvdim = 1 then none else f.vdims) ∧ f'.unit = none ∧
      f'.data.shape = [nx, ny, nz] ∧ f'.valid.shape = [nx, ny, nz] ∧
      ∀ idx, inRange [nx, ny, nz] idx = true →
        f'.data.get idx = (tab f.nvdim fun c => (f.data.get idx).getD c 0) ∧
        f'.valid.get idx = f.valid.get idx := by
  obtain rfl := toVtk_gridc f nx ny nz (wf_wfc f nx ny nz h) g hg
  have := fromCells_toVtkc f nx ny nz (wf_wfc f nx ny nz h) sidecar m1 hsub
  rwa [labels_read_wf f nx ny nz h] at this

/-- Without a side-car the rebuilt mesh has the field's corners and counts and no subregions. -/
theorem roundtrip_mesh_plain (r : Region) (n : List Nat) :
    loadSubs { region := r, n := n, bc := "", subs := [] } none = .ok { region := r, n := n, bc := "", subs := [] } :=
  rfl

/-- With a side-car of well-formed regions that the subregion setter accepts on the rebuilt
mesh, the loader returns the mesh with the same names, in the same order, with the same
corners (dims, units and tolerance are the rebuilt mesh's: VTK files do not carry them). -/
theorem roundtrip_subregions (m : Mesh) (l : List (String × Region)) (hinv : ∀ p ∈ l, p.2.Inv)
    (hok : ∀ p ∈ l, T.candOk m p.2 = true) :
    ∃ m1, loadSubs m (some l) = .ok m1 ∧ m1.region = m.region ∧ m1.n = m.n ∧
      m1.subs.map (fun p => (p.1, p.2.pmin, p.2.pmax)) = l.map (fun p => (p.1, p.2.pmin, p.2.pmax)) := by
  exact ⟨_, (loadSubs_some_ok_iff ..).mpr ⟨fun p hp => ⟨hinv p hp, hok p hp⟩, rfl⟩, rfl, rfl, restamp_corners m.region l true⟩

/-- A candidate the setter rejects makes the whole read fail (nothing is silently dropped). -/
theorem sidecar_rejected (m : Mesh) (l : List (String × Region)) (hinv : ∀ p ∈ l, p.2.Inv)
    (p : String × Region) (hp : p ∈ l) (hbad : T.candOk m p.2 = false) :
    loadSubs m (some l) = .error .value := by
  rw [loadSubs_some_eq m l hinv]
  exact (T.setSubs_error_iff m l _).mpr ⟨rfl, p, hp, hbad⟩

/-! ## files -/

/-- Writer selection: exactly `xml`, `bin`, `bin8`, `txt` are accepted (`bin8` = `bin`). -/
theorem representation_accepted (s : String) :
    (∃ r, repOf s = .ok r) ↔ (s = "xml" ∨ s = "bin" ∨ s = "bin8" ∨ s = "txt") := by
  rcases repOf_cases s with ⟨h, e⟩ | ⟨h, e⟩ | ⟨h, e⟩ | ⟨h1, h2, h3, h4, e⟩
  · exact ⟨fun _ => Or.inl h, fun _ => ⟨_, e⟩⟩
  · exact ⟨fun _ => by rcases h with h | h <;> simp [h], fun _ => ⟨_, e⟩⟩
  · exact ⟨fun _ => by simp [h], fun _ => ⟨_, e⟩⟩
  · constructor
    · rintro ⟨r, hr⟩; rw [e] at hr; cases hr
    · rintro (h | h | h | h) <;> contradiction

/-- An unknown representation, a field that is not 3-d or an unlabelled vector field is
rejected before anything is written; the side-car is written exactly when asked for and the
mesh has subregions. -/
theorem file_written (f : Fld) (rep : String) (save : Bool) (rnd : Rat → Rat) (v : VFile)
    (h : toFile f rep save rnd = .ok v) :
    (∃ r, repOf rep = .ok r ∧ v.rep = r) ∧ (∃ g, toVtk f = .ok g) ∧
    (v.sidecar = if save && !f.mesh.subs.isEmpty then some f.mesh.subs else none) := by
  obtain ⟨r, g, hr, hg, rfl⟩ := (toFile_ok_iff ..).mp h
  exact ⟨⟨r, hr, rfl⟩, ⟨g, hg⟩, rfl⟩

/-- **`vtk_roundtrip` (binary and XML files).**  Writing a well-formed field in `bin`, `bin8`
or `xml` form and reading the file back gives the same corners, counts, values, validity and
labels, exactly; with `save_subregions` and subregions the setter accepts, the same
subregions (names, order, corners). -/
theorem file_roundtrip_exact (f : Fld) (nx ny nz : Nat) (h : WF f nx ny nz) (rep : String)
    (hrep : rep = "xml" ∨ rep = "bin" ∨ rep = "bin8") (save : Bool) (rnd : Rat → Rat) (m1 : Mesh)
    (hsub : loadSubs { region := plainRegion f.mesh.region.pmin f.mesh.region.pmax, n := [nx, ny, nz],
                       bc := "", subs := [] }
              (if save && !f.mesh.subs.isEmpty then some f.mesh.subs else none) = .ok m1) :
    ∃ v f', toFile f rep save rnd = .ok v ∧ fromFile v = .ok f' ∧ f'.mesh = m1 ∧ f'.nvdim = f.nvdim ∧
      f'.vdims = (if f.nvdim = 1 then none else f.vdims) ∧
      ∀ idx, inRange [nx, ny, nz] idx = true →
        f'.data.get idx = (tab f.nvdim fun c => (f.data.get idx).getD c 0) ∧
        f'.valid.get idx = f.valid.get idx := by
  have hc := wf_wfc f nx ny nz h
  obtain ⟨f', h1, h2, h3, h4, _, _, _, h8⟩ := vtk_roundtrip f nx ny nz h _ (toVtk_okc f nx ny nz hc) _ m1 hsub
  obtain ⟨r, hr1, hr2⟩ := repOf_exact rep hrep
  exact ⟨_, f', toFile_wfc f nx ny nz hc rep r hr1 save rnd, by rw [fromFile_written, if_neg hr2]; exact h1, h2, h3, h4, h8⟩

/-- **Text files.**  The text writer rounds every floating number (`rnd`, ten significant
digits in VTK); integers — the validity flags — are written exactly.  If the rounding fixes the
coordinates and the values of the field (they have at most ten significant digits), the text
file reads back exactly like the binary one. -/
theorem file_roundtrip_text_exact (f : Fld) (nx ny nz : Nat) (h : WF f nx ny nz) (save : Bool)
    (rnd : Rat → Rat) (m1 : Mesh)
    (hfix : ∀ g, toVtk f = .ok g →
      (∀ X ∈ g.coords, ∀ x ∈ X, rnd x = x) ∧ (∀ a ∈ g.cell, a.int = false → ∀ x ∈ a.vals, rnd x = x))
    (hsub : loadSubs { region := plainRegion f.mesh.region.pmin f.mesh.region.pmax, n := [nx, ny, nz],
                       bc := "", subs := [] }
              (if save && !f.mesh.subs.isEmpty then some f.mesh.subs else none) = .ok m1) :
    ∃ v f', toFile f "txt" save rnd = .ok v ∧ v.rep = .txt ∧ fromFile v = .ok f' ∧ f'.mesh = m1 ∧
      f'.nvdim = f.nvdim ∧ f'.vdims = (if f.nvdim = 1 then none else f.vdims) ∧
      ∀ idx, inRange [nx, ny, nz] idx = true →
        f'.data.get idx = (tab f.nvdim fun c => (f.data.get idx).getD c 0) ∧
        f'.valid.get idx = f.valid.get idx := by
  have hc := wf_wfc f nx ny nz h
  have hg := toVtk_okc f nx ny nz hc
  obtain ⟨hco, ha⟩ := hfix _ hg
  obtain ⟨f', h1, h2, h3, h4, _, _, _, h8⟩ := vtk_roundtrip f nx ny nz h _ hg _ m1 hsub
  exact ⟨_, f', toFile_wfc f nx ny nz hc "txt" .txt (by decide) save rnd, rfl,
    by rw [fromFile_written, if_pos rfl, mapGrid_fixed rnd _ hco ha]; exact h1, h2, h3, h4, h8⟩

/-- **Text files, any rounding.**  Whatever the writer's rounding `rnd` does (as long as it does
not collapse an edge of the region), the text file reads back as: corners `rnd pmin`,
`rnd pmax`, the same cell counts and labels, in every cell the value-wise rounding of the
field's vector — so each value keeps the digits the writer keeps — and the **unrounded**
validity flags. -/
theorem file_roundtrip_text (f : Fld) (nx ny nz : Nat) (h : WF f nx ny nz) (save : Bool) (rnd : Rat → Rat)
    (hlt : ∀ a, a < 3 → rnd (f.mesh.region.lo a) < rnd (f.mesh.region.hi a)) (m1 : Mesh)
    (hsub : loadSubs { region := plainRegion (tab 3 fun a => rnd (f.mesh.region.lo a)) (tab 3 fun a => rnd (f.mesh.region.hi a)),
                       n := [nx, ny, nz], bc := "", subs := [] }
              (if save && !f.mesh.subs.isEmpty then some f.mesh.subs else none) = .ok m1) :
    ∃ v f', toFile f "txt" save rnd = .ok v ∧ fromFile v = .ok f' ∧ f'.mesh = m1 ∧ f'.nvdim = f.nvdim ∧
      f'.vdims = (if f.nvdim = 1 then none else f.vdims) ∧
      ∀ idx, inRange [nx, ny, nz] idx = true →
        f'.data.get idx = (tab f.nvdim fun c => rnd ((f.data.get idx).getD c 0)) ∧
        f'.valid.get idx = f.valid.get idx := by
  have hc := wf_wfc f nx ny nz h
  obtain ⟨f', h1, h2, h3, h4, _, _, _, h5⟩ := fromCells_written f nx ny nz hc rnd hlt _ m1 hsub
  exact ⟨_, f', toFile_wfc f nx ny nz hc "txt" .txt (by decide) save rnd, by rw [fromFile_written, if_pos rfl]; exact h1,
    h2, h3, by rw [h4, labels_read_wf f nx ny nz h], h5⟩

/-- the rounding hypothesis is met by the example field with a rounding to multiples of 1/8 -/
example : ∀ a, a < 3 → (fun q : Rat => ((q * 8 + 1/2).floor : Rat) / 8) (exField.mesh.region.lo a) <
    (fun q : Rat => ((q * 8 + 1/2).floor : Rat) / 8) (exField.mesh.region.hi a) := by
  intro a ha
  have : a = 0 ∨ a = 1 ∨ a = 2 := by omega
  rcases this with rfl | rfl | rfl <;> decide +kernel

/-- In a text file the validity flags are never rounded: the `valid` array of the written grid
is the one `to_vtk` built, whatever the rounding does to floating numbers. -/
theorem text_keeps_flags (rnd : Rat → Rat) (g : Grid) (a : VArr) (ha : a ∈ g.cell) (hi : a.int = true) :
    a ∈ (mapGrid rnd g).cell := by
  rw [mapGrid_cell]
  exact List.mem_map.mpr ⟨a, ha, roundArr_int rnd a hi⟩

/-- Every floating entry of the text grid is the rounding of the corresponding entry of the
binary grid (coordinates and arrays, position by position). -/
theorem text_rounds_valuewise (rnd : Rat → Rat) (g : Grid) (ax : Nat) (j : Nat)
    (hax : ax < g.coords.length) (hj : j < (g.coords.getD ax []).length) :
    ((mapGrid rnd g).coords.getD ax []).getD j 0 = rnd ((g.coords.getD ax []).getD j 0) := by
  show ((g.coords.map fun X => X.map rnd).getD ax []).getD j 0 = _
  rw [getD_map_lt _ _ _ _ [] hax, getD_map_lt _ _ _ _ 0 hj]

/-! ## the lookup at full strength -/

/-- **No cell outside the region.**  At a point with a coordinate below `pmin` or above `pmax`
the lookup in the grid of a well-formed field finds nothing. -/
theorem lookup_outside (f : Fld) (nx ny nz : Nat) (h : WF f nx ny nz) (g : Grid) (hg : toVtk f = .ok g)
    (p : List Rat) (a : Nat) (ha : a < 3)
    (hout : p.getD a 0 < f.mesh.region.lo a ∨ f.mesh.region.hi a < p.getD a 0) : locate g p = none := by
  obtain rfl := toVtk_grid f nx ny nz h g hg
  refine Option.eq_none_iff_forall_ne_some.mpr fun id hid => ?_
  have hall := ((locate_vertices_iff f.mesh nx ny nz h.mesh h.n _ p id).mp hid).1 a ha
  exact hout.elim (not_lt.mpr hall.1) (not_lt.mpr hall.2)

/-- **The lookup succeeds exactly on the closed region** (with `lookup_is_point2index` and `lookup_outside`: a cell is
found at `p` iff `pmin ≤ p ≤ pmax` on the three axes). -/
theorem lookup_iff_inside (f : Fld) (nx ny nz : Nat) (h : WF f nx ny nz) (g : Grid) (hg : toVtk f = .ok g)
    (p : List Rat) (hl : p.length = 3) :
    (∃ id, locate g p = some id) ↔ f.mesh.region.containsExact p := by
  obtain ⟨hnd, _⟩ := mesh_axes f.mesh nx ny nz h.mesh h.n
  have hnd' : f.mesh.region.ndim = 3 := hnd
  obtain rfl := toVtk_grid f nx ny nz h g hg
  simp only [locate_vertices_iff f.mesh nx ny nz h.mesh h.n, exists_and_left, exists_eq, and_true,
    Region.containsExact, hnd', hl, true_and]

/-- **The box of the located cell, in mesh terms.**  Whatever the lookup returns at `p` is the
structured id of an in-range mesh cell `(i, j, k)` whose closed box
`[pmin + i·cell, pmin + (i+1)·cell]` contains `p` on every axis. -/
theorem located_cell_box (f : Fld) (nx ny nz : Nat) (h : WF f nx ny nz) (g : Grid) (hg : toVtk f = .ok g)
    (p : List Rat) (id : Nat) (hid : locate g p = some id) :
    ∃ idx, inRange [nx, ny, nz] idx = true ∧ id = flatF [nx, ny, nz] idx ∧
      ∀ a, a < 3 → f.mesh.region.lo a + (idx.getD a 0 : Rat) * f.mesh.cellAt a ≤ p.getD a 0 ∧
        p.getD a 0 ≤ f.mesh.region.lo a + ((idx.getD a 0 : Rat) + 1) * f.mesh.cellAt a := by
  obtain ⟨_, _, _, hax, _⟩ := mesh_axes f.mesh nx ny nz h.mesh h.n
  obtain rfl := toVtk_grid f nx ny nz h g hg
  obtain ⟨hin, rfl⟩ := (locate_vertices_iff f.mesh nx ny nz h.mesh h.n _ p id).mp hid
  refine ⟨_, indexAx_inRange f.mesh nx ny nz h.mesh h.n p hin, rfl, fun a ha => ?_⟩
  rw [getD_tab _ _ _ _ ha]
  exact (C01.indexAx_box f.mesh a _ (hax a ha).1 (hax a ha).2 (hin a ha).1 (hin a ha).2).2

/-- **`vtk_lookup`, object level, every clause.**  For every point `p` of the closed region:
`mesh.point2index` accepts `p` and returns an in-range cell `idx` that contains `p`; the grid
lookup finds the cell with the structured id of `idx`; and at that id the grid carries the
cell's vector (`field`), its squared norm (`norm`), its validity flag (`valid`, integer-typed)
and, for a field with more than one component, in the scalar array named after label `c` the
component `c` of the cell. -/
theorem vtk_lookup_full (f : Fld) (nx ny nz : Nat) (h : WF f nx ny nz) (g : Grid) (hg : toVtk f = .ok g)
    (p : List Rat) (hp : f.mesh.region.containsExact p) :
    ∃ idx, f.mesh.point2index p = .ok idx ∧ inRange [nx, ny, nz] idx = true ∧ C01.inCell f.mesh idx p ∧
      locate g p = some (flatF [nx, ny, nz] idx) ∧
      (∃ a, g.arr "field" = some a ∧ a.ncomp = f.nvdim ∧
        a.tuple (flatF [nx, ny, nz] idx) = tab f.nvdim fun c => (f.data.get idx).getD c 0) ∧
      (∃ a, g.arr "norm" = some a ∧ a.ncomp = 1 ∧
        a.tuple (flatF [nx, ny, nz] idx) = [sumSq (f.data.get idx) f.nvdim]) ∧
      (∃ a, g.arr "valid" = some a ∧ a.int = true ∧
        a.tuple (flatF [nx, ny, nz] idx) = [if f.valid.get idx then 1 else 0]) ∧
      (1 < f.nvdim → ∀ vs, f.vdims = some vs → ∀ c, c < vs.length →
        ∃ a, g.arr (vs.getD c "") = some a ∧ a.ncomp = 1 ∧
          a.tuple (flatF [nx, ny, nz] idx) = [(f.data.get idx).getD c 0]) := by
  obtain ⟨idx, hpi, hir, hic⟩ := C01.point_index_contains f.mesh h.mesh p hp
  rw [h.n] at hir
  have hl : locate g p = some (flatF [nx, ny, nz] idx) := by
    rw [toVtk_grid f nx ny nz h g hg]
    exact lookup_point f.mesh nx ny nz h.mesh h.n _ p hp idx hpi
  obtain ⟨⟨a, ha, ha1, ha2⟩, ⟨b, hb, hb2⟩, ⟨c, hc, hc1, hc2⟩⟩ := cell_carries_value f nx ny nz h g hg idx hir
  refine ⟨idx, hpi, hir, hic, hl, ⟨a, ha, ha1, ha2⟩, ⟨b, hb, ?_, hb2⟩, ⟨c, hc, hc1, hc2⟩, ?_⟩
  · rw [arr_norm f nx ny nz h g hg] at hb
    injection hb with hb
    rw [← hb]; rfl
  · intro hnv vs hvs c hc
    exact cell_carries_component f nx ny nz h g hg hnv vs hvs c hc idx hir

/-! ## the norm array -/

/-- The `norm` entry of a cell is non-negative and vanishes exactly when every component of
the cell does (the model stores the square; the square root is the harness's). -/
theorem norm_entry (v : List Rat) (nv : Nat) : 0 ≤ sumSq v nv ∧ (sumSq v nv = 0 ↔ ∀ c, c < nv → v.getD c 0 = 0) :=
  ⟨sumSq_nonneg v nv, sumSq_eq_zero v nv⟩

/-- **The norm of a scalar field is the absolute value.**  For a one-component field the
`norm` array holds, at the id of cell `idx`, the number whose non-negative root is `|f(idx)|`:
any `r ≥ 0` with `r² =` that entry equals the absolute value of the cell's value — not the raw
(possibly negative) value. -/
theorem norm_of_scalar_is_abs (f : Fld) (nx ny nz : Nat) (h : WF f nx ny nz) (g : Grid) (hg : toVtk f = .ok g)
    (h1 : f.nvdim = 1) (idx : List Nat) (hi : inRange [nx, ny, nz] idx = true) (r : Rat) (hr : 0 ≤ r)
    (a : VArr) (ha : g.arr "norm" = some a) (hrr : [r * r] = a.tuple (flatF [nx, ny, nz] idx)) :
    r = |(f.data.get idx).getD 0 0| := by
  rw [arr_norm f nx ny nz h g hg] at ha
  injection ha with ha
  rw [← ha, norm_tuple f nx ny nz h.dshape idx hi, h1] at hrr
  injection hrr with hrr
  exact root_sumSq_one _ r hr hrr

/-- Two non-negative numbers with the same square are equal: the `norm` array is determined by
the squares the model computes. -/
theorem norm_determined (r s q : Rat) (hr : 0 ≤ r) (hs : 0 ≤ s) (h1 : r * r = q) (h2 : s * s = q) : r = s :=
  (mul_self_inj_of_nonneg hr hs).mp (h1.trans h2.symm)

/-! ## the consumer's direction: cell ids -/

/-- Every array of the grid of a well-formed field has exactly one tuple per grid cell:
`nx·ny·nz · ncomp` values. -/
theorem grid_arrays_sized (f : Fld) (nx ny nz : Nat) (h : WF f nx ny nz) (g : Grid) (hg : toVtk f = .ok g)
    (a : VArr) (ha : a ∈ g.cell) : a.vals.length = natProd [nx, ny, nz] * a.ncomp := by
  obtain rfl := toVtk_grid f nx ny nz h g hg
  exact cellData_sizes f nx ny nz h a ha

/-- **Every grid cell is exactly one mesh cell.**  For every cell id `t < nx·ny·nz`, the
multi-index `unflatF n t = (t mod nx, t/nx mod ny, t/(nx·ny))` is the only in-range mesh cell
with structured id `t`, and tuple `t` of `field` / `norm` / `valid` is that cell's vector /
squared norm / validity flag. -/
theorem cell_id_is_mesh_cell (f : Fld) (nx ny nz : Nat) (h : WF f nx ny nz) (g : Grid) (hg : toVtk f = .ok g)
    (t : Nat) (ht : t < natProd [nx, ny, nz]) :
    inRange [nx, ny, nz] (unflatF [nx, ny, nz] t) = true ∧ flatF [nx, ny, nz] (unflatF [nx, ny, nz] t) = t ∧
    (∀ idx, inRange [nx, ny, nz] idx = true → flatF [nx, ny, nz] idx = t → idx = unflatF [nx, ny, nz] t) ∧
    (∃ a, g.arr "field" = some a ∧ a.tuple t = tab f.nvdim fun c => (f.data.get (unflatF [nx, ny, nz] t)).getD c 0) ∧
    (∃ a, g.arr "norm" = some a ∧ a.tuple t = [sumSq (f.data.get (unflatF [nx, ny, nz] t)) f.nvdim]) ∧
    (∃ a, g.arr "valid" = some a ∧ a.tuple t = [if f.valid.get (unflatF [nx, ny, nz] t) then 1 else 0]) := by
  obtain ⟨hx, hy, hz⟩ := counts_pos f.mesh nx ny nz h.mesh h.n
  have hir := unflatF3_inRange nx ny nz t hx hy hz
  have hfl := flatF_unflatF [nx, ny, nz] t ht
  obtain ⟨⟨a, ha, _, ha2⟩, ⟨b, hb, hb2⟩, ⟨c, hc, _, hc2⟩⟩ := cell_carries_value f nx ny nz h g hg _ hir
  rw [hfl] at ha2 hb2 hc2
  refine ⟨hir, hfl, ?_, ⟨a, ha, ha2⟩, ⟨b, hb, hb2⟩, ⟨c, hc, hc2⟩⟩
  intro idx hi he
  exact flatF_inj _ _ _ hi hir (by rw [he, hfl])

/-! ## subregions through the side-car, without assuming that the loader succeeds -/

/-- **The side-car `to_file` writes is accepted by `from_file`.**  For a mesh whose subregions
fit it exactly (`C14.SubInv`: the invariant the subregion setter establishes and every
transformation keeps) the loader succeeds on the mesh rebuilt from bounds and dimensions, and
stores the same names in the same order with the same corners (re-stamped with the rebuilt
mesh's default names, units and tolerance); without `save_subregions`, or without subregions,
the rebuilt mesh has none. -/
theorem sidecar_accepted (f : Fld) (nx ny nz : Nat) (h : WF f nx ny nz) (hsub : C14.SubInv f.mesh) (save : Bool) :
    ∃ m1, loadSubs { region := plainRegion f.mesh.region.pmin f.mesh.region.pmax, n := [nx, ny, nz], bc := "", subs := [] }
        (if save && !f.mesh.subs.isEmpty then some f.mesh.subs else none) = .ok m1 ∧
      m1.region = plainRegion f.mesh.region.pmin f.mesh.region.pmax ∧ m1.n = [nx, ny, nz] ∧ m1.bc = "" ∧
      m1.subs.map (fun p => (p.1, p.2.pmin, p.2.pmax)) =
        (if save then f.mesh.subs else []).map (fun p => (p.1, p.2.pmin, p.2.pmax)) := by
  exact ⟨_, loadSubs_written f.mesh nx ny nz h.mesh h.n hsub save, rfl, rfl, rfl, restamp_corners _ _ save⟩

/-- the subregion hypothesis is met by the example field -/
example : C14.SubInv exField.mesh := exField_subinv

/-- **`vtk_roundtrip` (binary and XML files), no loader hypothesis.**  For every well-formed
3-d field whose subregions fit its mesh, every representation `xml` / `bin` / `bin8`, with or
without `save_subregions`: the write succeeds, the read succeeds, and the field read back has
the same corners, cell counts, number of components, labels, values and validity, and (when
saved) the same subregions — names, order, corners. -/
theorem file_roundtrip_exact_subs (f : Fld) (nx ny nz : Nat) (h : WF f nx ny nz) (hsub : C14.SubInv f.mesh)
    (rep : String) (hrep : rep = "xml" ∨ rep = "bin" ∨ rep = "bin8") (save : Bool) (rnd : Rat → Rat) :
    ∃ v f', toFile f rep save rnd = .ok v ∧ fromFile v = .ok f' ∧
      f'.mesh.region.pmin = f.mesh.region.pmin ∧ f'.mesh.region.pmax = f.mesh.region.pmax ∧
      f'.mesh.n = f.mesh.n ∧ f'.nvdim = f.nvdim ∧ f'.vdims = (if f.nvdim = 1 then none else f.vdims) ∧
      f'.mesh.subs.map (fun p => (p.1, p.2.pmin, p.2.pmax)) =
        (if save then f.mesh.subs else []).map (fun p => (p.1, p.2.pmin, p.2.pmax)) ∧
      ∀ idx, inRange [nx, ny, nz] idx = true →
        f'.data.get idx = (tab f.nvdim fun c => (f.data.get idx).getD c 0) ∧
        f'.valid.get idx = f.valid.get idx := by
  obtain ⟨m1, hm1, hr, hn, _, hs⟩ := sidecar_accepted f nx ny nz h hsub save
  obtain ⟨v, f', h1, h2, h3, h4, h5, h6⟩ := file_roundtrip_exact f nx ny nz h rep hrep save rnd m1 hm1
  refine ⟨v, f', h1, h2, ?_, ?_, ?_, h4, h5, ?_, h6⟩
  · rw [h3, hr]; rfl
  · rw [h3, hr]; rfl
  · rw [h3, hn, h.n]
  · rw [h3]; exact hs

/-- **The round trip is the identity on what a VTK file can carry.**  If moreover the region
has the default names, units and tolerance, the mesh has no boundary condition, the
subregions are saved and every cell vector has `nvdim` entries, then the mesh read back **is**
the mesh written (region, counts, subregions with all their attributes) and every cell holds
the same vector and flag. -/
theorem file_roundtrip_identity (f : Fld) (nx ny nz : Nat) (h : WF f nx ny nz) (hsub : C14.SubInv f.mesh)
    (hreg : f.mesh.region = plainRegion f.mesh.region.pmin f.mesh.region.pmax) (hbc : f.mesh.bc = "")
    (hlen : ∀ idx, inRange [nx, ny, nz] idx = true → (f.data.get idx).length = f.nvdim)
    (rep : String) (hrep : rep = "xml" ∨ rep = "bin" ∨ rep = "bin8") (rnd : Rat → Rat) :
    ∃ v f', toFile f rep true rnd = .ok v ∧ fromFile v = .ok f' ∧ f'.mesh = f.mesh ∧ f'.nvdim = f.nvdim ∧
      f'.vdims = (if f.nvdim = 1 then none else f.vdims) ∧
      ∀ idx, inRange [nx, ny, nz] idx = true → f'.data.get idx = f.data.get idx ∧ f'.valid.get idx = f.valid.get idx := by
  have hm1 := loadSubs_written f.mesh nx ny nz h.mesh h.n hsub true
  obtain ⟨v, f', h1, h2, h3, h4, h5, h6⟩ := file_roundtrip_exact f nx ny nz h rep hrep true rnd _ hm1
  refine ⟨v, f', h1, h2, ?_, h4, h5, ?_⟩
  · rw [h3]
    simp only [if_true]
    rw [C14.map_restamp_of_subInv f.mesh hsub _ (congrArg Region.dims hreg).symm (congrArg Region.units hreg).symm
      (congrArg Region.tol hreg).symm]
    exact (mesh_eq_of f.mesh _ _ hreg h.n hbc).symm
  · intro idx hi
    obtain ⟨a, b⟩ := h6 idx hi
    refine ⟨?_, b⟩
    rw [a]
    exact (eq_tab_of_getD _ _ _ 0 (hlen idx hi) (fun _ _ => rfl)).symm

/-- the extra hypotheses of `file_roundtrip_identity` are met by the example field -/
example : exField.mesh.region = plainRegion exField.mesh.region.pmin exField.mesh.region.pmax ∧ exField.mesh.bc = "" ∧
    ∀ idx, inRange [2, 1, 2] idx = true → (exField.data.get idx).length = exField.nvdim := by
  refine ⟨rfl, rfl, ?_⟩
  intro idx hi
  obtain ⟨i, j, k, rfl, h1, h2, h3⟩ := inRange3_cases 2 1 2 idx hi
  have : (i = 0 ∨ i = 1) ∧ j = 0 ∧ (k = 0 ∨ k = 1) := by omega
  obtain ⟨rfl | rfl, rfl, rfl | rfl⟩ := this <;> decide +kernel

/-- **Text files keep the digits the writer keeps.**  If the text writer's rounding has
relative error at most `ε` (VTK: ten significant digits), every value read back from a text
file is within `ε·|value|` of the value written, and both corners are within `ε·|corner|`;
the validity flags are exact. -/
theorem text_keeps_digits (f : Fld) (nx ny nz : Nat) (h : WF f nx ny nz) (save : Bool) (rnd : Rat → Rat) (ε : Rat)
    (hε : ∀ x, |rnd x - x| ≤ ε * |x|)
    (hlt : ∀ a, a < 3 → rnd (f.mesh.region.lo a) < rnd (f.mesh.region.hi a)) (m1 : Mesh)
    (hsub : loadSubs { region := plainRegion (tab 3 fun a => rnd (f.mesh.region.lo a)) (tab 3 fun a => rnd (f.mesh.region.hi a)),
                       n := [nx, ny, nz], bc := "", subs := [] }
              (if save && !f.mesh.subs.isEmpty then some f.mesh.subs else none) = .ok m1) :
    ∃ v f', toFile f "txt" save rnd = .ok v ∧ fromFile v = .ok f' ∧ f'.mesh.n = [nx, ny, nz] ∧
      (∀ a, a < 3 → |f'.mesh.region.lo a - f.mesh.region.lo a| ≤ ε * |f.mesh.region.lo a| ∧
                    |f'.mesh.region.hi a - f.mesh.region.hi a| ≤ ε * |f.mesh.region.hi a|) ∧
      ∀ idx, inRange [nx, ny, nz] idx = true →
        (∀ c, c < f.nvdim → |(f'.data.get idx).getD c 0 - (f.data.get idx).getD c 0| ≤ ε * |(f.data.get idx).getD c 0|) ∧
        f'.valid.get idx = f.valid.get idx := by
  obtain ⟨v, f', h1, h2, h3, _, _, h6⟩ := file_roundtrip_text f nx ny nz h save rnd hlt m1 hsub
  obtain ⟨hr, hn, _⟩ := loadSubs_geom _ _ _ hsub
  refine ⟨v, f', h1, h2, by rw [h3, hn], ?_, ?_⟩
  · intro a ha
    rw [h3]
    unfold Region.lo Region.hi
    rw [hr]
    simp only [plainRegion]
    rw [getD_tab _ _ _ _ ha, getD_tab _ _ _ _ ha]
    exact ⟨hε _, hε _⟩
  · intro idx hi
    obtain ⟨a, b⟩ := h6 idx hi
    refine ⟨?_, b⟩
    intro c hc
    rw [a, getD_tab _ _ _ _ hc]
    exact hε _

/-- the error bound of `text_keeps_digits` is met by an exact writer with `ε = 0` -/
example : ∀ x : Rat, |id x - x| ≤ 0 * |x| := by intro x; simp

/-! ## acceptance, uniqueness off the faces, file → field → file -/

/-- **Acceptance, exactly.**  `to_file` succeeds if and only if the representation is one of
`xml`, `bin`, `bin8`, `txt`, the region is three-dimensional and a field with more than one
component has labels — nothing else about the field (values, mask, subregions, labels that
collide) can make the write fail. -/
theorem write_accepted_iff (f : Fld) (rep : String) (save : Bool) (rnd : Rat → Rat) :
    (∃ v, toFile f rep save rnd = .ok v) ↔
      ((rep = "xml" ∨ rep = "bin" ∨ rep = "bin8" ∨ rep = "txt") ∧ f.mesh.region.ndim = 3 ∧
        ¬ (1 < f.nvdim ∧ f.vdims = none)) := by
  simp only [toFile_ok_iff, toVtk_ok_iff, ← representation_accepted]
  exact ⟨fun ⟨_, r, _, hr, ⟨h3, hl, _⟩, _⟩ => ⟨⟨r, hr⟩, h3, hl⟩, fun ⟨⟨r, hr⟩, h3, hl⟩ => ⟨_, r, _, hr, ⟨h3, hl, rfl⟩, rfl⟩⟩

/-- The active attributes: a viewer's default arrows come from `field` exactly for three
components, its default colouring from `field` exactly for one. -/
theorem active_attributes (f : Fld) :
    ((activeAttr f).2 = some "field" ↔ f.nvdim = 3) ∧ ((activeAttr f).1 = some "field" ↔ f.nvdim = 1) := by
  unfold activeAttr
  constructor
  · by_cases h3 : f.nvdim = 3
    · simp [h3]
    · by_cases h1 : f.nvdim = 1 <;> simp [h3, h1]
  · by_cases h3 : f.nvdim = 3
    · simp [h3]
    · by_cases h1 : f.nvdim = 1 <;> simp [h3, h1]

/-- **Off the faces the cell is unique**, so it does not matter how a consumer breaks ties: if
`p` lies strictly inside the box of mesh cell `idx` on every axis, every in-range cell whose
closed box contains `p` is `idx` (with `located_cell_box`: any lookup contract that returns a
cell containing `p` returns the id of `idx`). -/
theorem lookup_unique_off_faces (f : Fld) (nx ny nz : Nat) (h : WF f nx ny nz) (p : List Rat) (idx idx' : List Nat)
    (hi : inRange [nx, ny, nz] idx = true) (hi' : inRange [nx, ny, nz] idx' = true)
    (hstrict : ∀ a, a < 3 → f.mesh.region.lo a + (idx.getD a 0 : Rat) * f.mesh.cellAt a < p.getD a 0 ∧
      p.getD a 0 < f.mesh.region.lo a + ((idx.getD a 0 : Rat) + 1) * f.mesh.cellAt a)
    (hclosed : ∀ a, a < 3 → f.mesh.region.lo a + (idx'.getD a 0 : Rat) * f.mesh.cellAt a ≤ p.getD a 0 ∧
      p.getD a 0 ≤ f.mesh.region.lo a + ((idx'.getD a 0 : Rat) + 1) * f.mesh.cellAt a) :
    idx' = idx := by
  obtain ⟨_, _, _, hax, _, _, _⟩ := mesh_axes f.mesh nx ny nz h.mesh h.n
  obtain ⟨i, j, k, rfl, _, _, _⟩ := inRange3_cases nx ny nz idx hi
  obtain ⟨i', j', k', rfl, _, _, _⟩ := inRange3_cases nx ny nz idx' hi'
  have key : ∀ a, a < 3 → [i', j', k'].getD a 0 = [i, j, k].getD a 0 := fun a ha =>
    interval_unique _ _ _ (C01.cellAt_pos f.mesh a (hax a ha).1 (hax a ha).2) _ _
      (hstrict a ha).1 (hstrict a ha).2 (hclosed a ha).1 (hclosed a ha).2
  have e0 := key 0 (by omega)
  have e1 := key 1 (by omega)
  have e2 := key 2 (by omega)
  simp only [List.getD_cons_zero, List.getD_cons_succ] at e0 e1 e2
  rw [e0, e1, e2]

/-- **What is read back is a well-formed field again** (closure): `_from_vtk` applied to the
grid of a well-formed field — with any side-car it accepts — returns a field that satisfies `WF`
with the same counts, so every theorem of this file applies to it in turn. -/
theorem read_back_well_formed (f : Fld) (nx ny nz : Nat) (h : WF f nx ny nz) (g : Grid) (hg : toVtk f = .ok g)
    (sc : Option (List (String × Region))) (f' : Fld) (hf' : fromCells g sc = .ok f') : WF f' nx ny nz :=
  (roundtrip_wf f nx ny nz h g hg sc f' hf').1

/-- **File → field → file is the identity.**  Converting the field that was read back from the
grid of a well-formed field gives exactly that grid again: same dimensions, same coordinate
arrays, the same arrays in the same order with the same values — so re-saving a file that was
loaded writes the same data. -/
theorem reread_rewrite_identity (f : Fld) (nx ny nz : Nat) (h : WF f nx ny nz) (g : Grid) (hg : toVtk f = .ok g)
    (sc : Option (List (String × Region))) (f' : Fld) (hf' : fromCells g sc = .ok f') : toVtk f' = .ok g := by
  obtain ⟨hwf, hp1, hp2, hnv, hvd, hd⟩ := roundtrip_wf f nx ny nz h g hg sc f' hf'
  rw [← hg]
  apply toVtk_congr f f' nx ny nz h hwf hp1 hp2 hnv
  · intro h1
    rw [hvd, if_neg (by omega)]
  · intro idx hi c hc
    rw [(hd idx hi).1, getD_tab _ _ _ _ hc]
  · intro idx hi
    exact (hd idx hi).2

/-- the same for the example, through a binary file and back, twice -/
example : (((toFile exField "bin" true id).bind fromFile).bind fun f' => toVtk f') = toVtk exField := by
  have hc := wf_wfc exField 2 1 2 exField_wf
  obtain ⟨f', hf', _⟩ := fromCells_toVtkc exField 2 1 2 hc _ _
    (loadSubs_written exField.mesh 2 1 2 exField_wf.mesh rfl exField_subinv true)
  rw [toFile_wfc exField 2 1 2 hc "bin" .bin (by decide) true id, toVtk_okc exField 2 1 2 hc]
  show (fromFile _).bind _ = _
  rw [fromFile_written, if_neg (by decide), hf']
  exact reread_rewrite_identity exField 2 1 2 exField_wf _ (toVtk_okc exField 2 1 2 hc) _ f' hf'

/-! ## histories — the same file name written and read again -/

/-- **The read result is a function of the file content only**: `from_file(name)` depends on
the directory through `<name>` and `<name>.subregions.json` alone (no reader state survives a
call: the model is a function of these two files). -/
theorem read_depends_on_files_only (d d' : Dir) (name : String) (h1 : look d'.vtk name = look d.vtk name)
    (h2 : look d'.json name = look d.json name) : d'.read name = d.read name := by
  unfold Dir.read
  rw [h1, h2]

/-- A rejected `to_file` (unknown representation, not 3-d, unlabelled vector field) leaves the
directory exactly as it was: neither the file nor the side-car is created or changed. -/
theorem rejected_write_writes_nothing (rnd : Rat → Rat) (d : Dir) (name : String) (f : Fld) (rep : String)
    (save : Bool) (e : Err) (h : toFile f rep save rnd = .error e) :
    (d.step rnd (.write name f rep save)).1 = d ∧ (d.step rnd (.write name f rep save)).2 = .error e := by
  simp [Dir.step, Dir.write, h]

/-- Calls on other file names (reads, writes, rejected writes — any session) change neither of
the two files of `name`. -/
theorem other_names_untouched (rnd : Rat → Rat) (d : Dir) (ops : List DOp) (name : String)
    (h : ∀ o ∈ ops, o.name ≠ name) : (Dir.after rnd d ops).read name = d.read name := by
  obtain ⟨h1, h2⟩ := after_other rnd d ops name h
  exact read_depends_on_files_only _ _ _ h1 h2

/-- **Reading after any history** (induction over sessions).  Take any directory, any session
`before`, then a successful `to_file(name)`, then any session `after` on other file names, then
`from_file(name)`: the result is the reader applied to the grid written **last** under that
name, with the side-car that call wrote — or, when that call wrote none, whatever side-car of
that name the earlier history left behind. -/
theorem read_after_history (rnd : Rat → Rat) (d : Dir) (before after : List DOp) (name : String) (f : Fld)
    (rep : String) (save : Bool) (v : VFile) (hv : toFile f rep save rnd = .ok v)
    (hafter : ∀ o ∈ after, o.name ≠ name) :
    (Dir.run rnd d (before ++ .write name f rep save :: (after ++ [.read name]))).getLast? =
      some ((readVtk v.grid [] (match v.sidecar with
                                | some s => some s
                                | none => look (Dir.after rnd d before).json name)).map some) := by
  have e : before ++ .write name f rep save :: (after ++ [.read name]) =
      (before ++ .write name f rep save :: after) ++ [.read name] := by simp
  rw [e, run_append_read, List.getLast?_append]
  simp only [List.getLast?_singleton, Option.some_or]
  congr 2
  rw [after_append]
  simp only [Dir.after]
  obtain ⟨d', hw, hr⟩ := write_of_toFile (Dir.after rnd d before) name f rep save rnd v hv
  have hs : ((Dir.after rnd d before).step rnd (.write name f rep save)).1 = d' := by
    simp only [Dir.step, hw]
  rw [hs, other_names_untouched rnd d' after name hafter]
  exact hr

/-- **Round trip after any history.**  Whatever was written and read in the directory before
(other fields under the same name, in any representation), and whatever happens to other file
names afterwards: reading the name returns the field written to it **last** — same corners,
counts, components, labels, values, validity, subregions — provided this last call wrote its
side-car or no side-car of that name was left behind by the earlier history. -/
theorem history_roundtrip (f : Fld) (nx ny nz : Nat) (h : WF f nx ny nz) (hsub : C14.SubInv f.mesh)
    (rep : String) (hrep : rep = "xml" ∨ rep = "bin" ∨ rep = "bin8") (save : Bool) (rnd : Rat → Rat)
    (d : Dir) (before after : List DOp) (name : String) (hafter : ∀ o ∈ after, o.name ≠ name)
    (hfresh : (save = true ∧ f.mesh.subs.isEmpty = false) ∨ look (Dir.after rnd d before).json name = none) :
    ∃ f', (Dir.run rnd d (before ++ .write name f rep save :: (after ++ [.read name]))).getLast? = some (.ok (some f')) ∧
      f'.mesh.region.pmin = f.mesh.region.pmin ∧ f'.mesh.region.pmax = f.mesh.region.pmax ∧
      f'.mesh.n = f.mesh.n ∧ f'.nvdim = f.nvdim ∧ f'.vdims = (if f.nvdim = 1 then none else f.vdims) ∧
      f'.mesh.subs.map (fun p => (p.1, p.2.pmin, p.2.pmax)) =
        (if save then f.mesh.subs else []).map (fun p => (p.1, p.2.pmin, p.2.pmax)) ∧
      ∀ idx, inRange [nx, ny, nz] idx = true →
        f'.data.get idx = (tab f.nvdim fun c => (f.data.get idx).getD c 0) ∧
        f'.valid.get idx = f.valid.get idx := by
  obtain ⟨v, f', h1, h2, h3⟩ := file_roundtrip_exact_subs f nx ny nz h hsub rep hrep save rnd
  refine ⟨f', ?_, h3⟩
  rw [read_after_history rnd d before after name f rep save v h1 hafter]
  have hsc := (file_written f rep save rnd v h1).2.2
  -- this call wrote its side-car, or none was left behind
  have : (match v.sidecar with
          | some s => some s
          | none => look (Dir.after rnd d before).json name) = v.sidecar := by
    rcases hfresh with ⟨hs, he⟩ | hn
    · rw [hsc, hs, he]; rfl
    · rw [hn]; cases v.sidecar <;> rfl
  rw [this]
  have : readVtk v.grid [] v.sidecar = .ok f' := h2
  rw [this]
  rfl

/-- **Finding (stale side-car, D64).**  A `to_file` that writes no side-car (no subregions, or
`save_subregions=False`) leaves an existing `<name>.subregions.json` in place, and the next
`from_file(name)` applies **that** side-car to the new field: it returns subregions the field
written last does not have, or fails when they do not fit the new mesh. -/
theorem stale_sidecar (rnd : Rat → Rat) (d : Dir) (name : String) (f : Fld) (rep : String) (save : Bool) (v : VFile)
    (sc : List (String × Region)) (hv : toFile f rep save rnd = .ok v) (hnone : v.sidecar = none)
    (hold : look d.json name = some sc) :
    ∃ d', d.write name f rep save rnd = .ok d' ∧ d'.read name = readVtk v.grid [] (some sc) := by
  obtain ⟨d', hw, hr⟩ := write_of_toFile d name f rep save rnd v hv
  rw [hnone, hold] at hr
  exact ⟨d', hw, hr⟩

/-- the witness of D64 in the model: the example field (one subregion `s`) is written, then
the same field **without** subregions under the same name; the read returns `s`; a third field
on a mesh that `s` does not fit cannot be read back at all -/
theorem stale_sidecar_witness :
    ((Dir.run id ⟨[], []⟩ [.write "a.vtk" exField "bin" true,
        .write "a.vtk" { exField with mesh := { exField.mesh with subs := [] } } "bin" true,
        .read "a.vtk"]).map fun r => r.toOption.map fun o => o.map fun f => f.mesh.subs.map fun p => p.1) =
      [some none, some none, some (some ["s"])] ∧
    ((Dir.run id ⟨[], []⟩ [.write "a.vtk" exField "bin" true,
        .write "a.vtk" { exField with mesh := { region := { exField.mesh.region with pmin := [9, 0, 1/2], pmax := [11, 3, 3/2] },
                                                n := [2, 1, 2], bc := "", subs := [] } } "xml" true,
        .read "a.vtk"]).map fun r => r.toOption.map fun o => o.map fun f => f.mesh.subs.map fun p => p.1) =
      [some none, some none, none] := by
  constructor <;> decide +kernel

/-- the hypotheses of `history_roundtrip` are met: the example field with its subregion, after
an earlier write of another field under the same name and a later write to another name -/
example : ((Dir.run id ⟨[], []⟩ ([.write "a.vtk" { exField with mesh := { exField.mesh with subs := [] } } "xml" false] ++
      .write "a.vtk" exField "bin8" true :: ([.write "b.vtk" exField "bin" false] ++ [.read "a.vtk"]))).getLast?.map
        fun r => r.toOption.map fun o => o.map fun f => (f.data.toList, f.mesh.subs.map fun p => p.1)) =
    some (some (some ([[3, 4], [0, -1], [5, 12], [7, 1/2]], ["s"]))) := by decide +kernel

/-! ## legacy point-data files -/

/-- **`legacy_points`, split coordinate blocks, side-car.**  The legacy reader only looks at the
**first** line after each `*_COORDINATES` header.  So a point-data file whose coordinate blocks
run over several lines (as VTK's own text writer produces: nine numbers per line) is read like
the one-line form as long as that first line holds the first coordinate and — on an axis with
more than one point — the second: `N a` cells per axis centred on the points, one value per
cell in x-fastest order, all valid, default labels `x y z` for vector files; with any side-car
the loader accepts on that mesh, the subregions it yields. -/
theorem legacy_points_split (pre mid post : List LLine) (N : Nat → Nat) (o c : Nat → Rat) (first : Nat → List Rat)
    (cont : Nat → List LLine) (vec : Bool) (rows : List (List Rat))
    (sidecar : Option (List (String × Region))) (m1 : Mesh)
    (hpre : Quiet pre) (hmid : Quiet mid) (hcont : ∀ a, a < 3 → Quiet (cont a))
    (hpost : ∀ x ∈ post, ∀ k, x ≠ .coords k)
    (hsc : vec = false → (∀ x ∈ pre ++ (cont 0 ++ (cont 1 ++ (cont 2 ++ mid))), x ≠ .scalars) ∧ ∀ x ∈ post, x ≠ .vectors)
    (hN : ∀ a, a < 3 → 1 ≤ N a) (hc : ∀ a, a < 3 → 0 < c a)
    (hfirst : ∀ a, a < 3 → 1 ≤ (first a).length ∧ (first a).getD 0 0 = o a ∧
      (1 < N a → 1 < (first a).length ∧ (first a).getD 1 0 = o a + c a) ∧ (N a = 1 → (first a).length = 1))
    (hrows : rows.length = natProd [N 0, N 1, N 2]) (hrow : ∀ r ∈ rows, r.length = if vec then 3 else 1)
    (hsub : loadSubs { region := plainRegion (tab 3 (fun a => o a - legCe N c a * (1/2)))
                                  (tab 3 (fun a => o a - legCe N c a * (1/2) + (N a : Rat) * legCe N c a)),
                       n := [N 0, N 1, N 2], bc := "", subs := [] } sidecar = .ok m1) :
    ∃ f', legacyRead (legacyFileSplit pre mid post N first cont vec rows) sidecar = .ok f' ∧
      f'.mesh.n = [N 0, N 1, N 2] ∧ f'.mesh.subs = m1.subs ∧ f'.nvdim = (if vec then 3 else 1) ∧
      f'.vdims = (if vec then some ["x", "y", "z"] else none) ∧
      (∀ a, a < 3 → ∀ j : Nat, f'.mesh.centreAx a (j : Int) = o a + (j : Rat) * legCe N c a) ∧
      (∀ idx, inRange [N 0, N 1, N 2] idx = true →
        f'.data.get idx = rows.getD (flatF [N 0, N 1, N 2] idx) [] ∧ f'.valid.get idx = true) := by
  have hbody : ∀ x ∈ rows.map LLine.nums ++ post, (∀ k, x ≠ .coords k) ∧ (x = .vectors → x ∈ post) := by
    intro x hx
    rcases List.mem_append.mp hx with hx | hx
    · obtain ⟨r, _, rfl⟩ := List.mem_map.mp hx
      exact ⟨fun _ => nofun, nofun⟩  -- a `nums` line is neither a header nor `VECTORS`
    · exact ⟨hpost x hx, fun _ => hx⟩
  -- one well-shaped numeric line per cell: the data loop accepts, and cell `t` gets row `t`
  have hcnt : (indicesF [N 0, N 1, N 2]).length = rows.length := (DFV.indicesF_length _).trans hrows.symm
  obtain ⟨res, hfill⟩ := (fill_ok_iff (if vec then 3 else 1) (indicesF [N 0, N 1, N 2]) (rows.map .nums ++ post)
    (NDA.const [N 0, N 1, N 2] (List.replicate (if vec then 3 else 1) 0))).mpr (dataOk_rows _ _ rows post hcnt.le hrow)
  obtain ⟨_, hval, _⟩ := fill_spec _ _ _ _ _ (DFV.indicesF_nodup _) hfill
  have hread := (legacyRead_body pre mid _ N o c first cont vec sidecar m1 hpre hmid hcont (fun x hx => (hbody x hx).1)
    (fun hv => ⟨(hsc hv).1, fun x hx e => (hsc hv).2 x ((hbody x hx).2 e) e⟩) hN hc hfirst hsub _).mpr ⟨res, hfill, rfl⟩
  obtain ⟨hr, hn, _⟩ := loadSubs_geom _ _ _ hsub
  refine ⟨_, hread, hn, rfl, rfl, rfl, ?_, ?_⟩
  · intro a ha j
    apply legacy_centre m1 a (N a) (o a) (legCe N c a) (hN a ha)
    · have : a = 0 ∨ a = 1 ∨ a = 2 := by omega
      rcases this with rfl | rfl | rfl <;> simp [Mesh.nAt, hn]
    · unfold Region.lo; rw [hr]; exact getD_tab _ _ _ _ ha
    · unfold Region.hi; rw [hr]; exact getD_tab _ _ _ _ ha
  · intro idx hi
    have ht : flatF [N 0, N 1, N 2] idx < (indicesF [N 0, N 1, N 2]).length := DFV.indicesF_length _ ▸ flatF_lt _ _ hi
    have := hval _ ht
    rw [DFV.indicesF_getD _ _ hi, cellAfter_rows _ rows post _ _ (hcnt ▸ ht) hrow] at this
    exact ⟨this, rfl⟩

/-- the hypotheses of `legacy_points_split` are met by a scalar file with 3 × 2 × 1 points whose
x block runs over two lines, with a side-car holding the whole region -/
example : ((legacyRead (legacyFileSplit [.alpha, .alpha] [.alpha] [] (fun a => [3, 2, 1].getD a 0)
      (fun a => [[0, 1/2], [5, 6], [-1]].getD a []) (fun a => [[LLine.nums [1]], [], []].getD a []) false
      [[1], [2], [3], [4], [5], [6]])
      (some [("w", { pmin := [-1/4, 9/2, -1 - nm1 / 2], pmax := [5/4, 13/2, -1 + nm1 / 2], dims := ["x", "y", "z"],
                     units := ["m", "m", "m"], tol := 1/1000000000000 })])).toOption.map
        fun f => (f.mesh.n, f.mesh.region.pmin, f.data.get [2, 1, 0], f.mesh.subs.map fun p => p.1)) =
    some ([3, 2, 1], [-1/4, 9/2, -1 - nm1 / 2], [6], ["w"]) := by decide +kernel

/-- **`legacy_points`.**  A file of the old layout — header, three coordinate blocks with
`N a` points `o a + j·c a` on axis `a`, anything without coordinate headers or a `VECTORS`
line in between, the data marker, one line per point — is read as a field with `N a` cells
per axis, each **centred on a point** (`o a + j·ce`; `ce` is the spacing, or the 1 nm default
on an axis with a single point), no subregions, everything valid, and **one value per cell**:
cell `(i, j, k)` holds data line `i + N₀·(j + N₁·k)`. -/
theorem legacy_points (pre mid post : List LLine) (N : Nat → Nat) (o c : Nat → Rat) (vec : Bool)
    (rows : List (List Rat))
    (hpre : Quiet pre) (hmid : Quiet mid) (hpost : ∀ x ∈ post, ∀ k, x ≠ .coords k)
    (hsc : vec = false → (∀ x ∈ pre ++ mid, x ≠ .scalars) ∧ ∀ x ∈ post, x ≠ .vectors)
    (hN : ∀ a, a < 3 → 1 ≤ N a) (hc : ∀ a, a < 3 → 0 < c a)
    (hrows : rows.length = natProd [N 0, N 1, N 2]) (hrow : ∀ r ∈ rows, r.length = if vec then 3 else 1) :
    ∃ f', legacyRead (legacyFile pre mid post N (fun a => tab (N a) fun j => o a + (j : Rat) * c a) vec rows) none = .ok f' ∧
      f'.mesh.n = [N 0, N 1, N 2] ∧ f'.mesh.subs = [] ∧ f'.nvdim = (if vec then 3 else 1) ∧
      (∀ a, a < 3 → ∀ j : Nat, f'.mesh.centreAx a (j : Int) = o a + (j : Rat) * legCe N c a) ∧
      (∀ idx, inRange [N 0, N 1, N 2] idx = true →
        f'.data.get idx = rows.getD (flatF [N 0, N 1, N 2] idx) [] ∧ f'.valid.get idx = true) := by
  obtain ⟨f', h1, h2, h3, h4, _, h6, h7⟩ := legacy_points_split pre mid post N o c
    (fun a => tab (N a) fun j => o a + (j : Rat) * c a) (fun _ => []) vec rows none _ hpre hmid
    (fun _ _ _ hx => nomatch hx) hpost hsc hN hc
    (fun a ha => ⟨by rw [tab_length]; exact hN a ha, by rw [getD_tab _ _ _ _ (hN a ha)]; simp,
      fun h1 => ⟨by rw [tab_length]; exact h1, by rw [getD_tab _ _ _ _ h1]; simp⟩,
      fun h1 => by rw [tab_length]; exact h1⟩)
    hrows hrow rfl
  exact ⟨f', h1, h2, h3, h4, h6, h7⟩

/-- `Quiet` is satisfiable, also by lists holding `SCALARS` and number lines -/
example : Quiet [LLine.alpha, .alpha, .alpha, .alpha, .alpha] ∧
    Quiet [LLine.alpha, .scalars, .alpha, .nums [1], .nums [2]] := by
  constructor <;> intro x hx <;> simp at hx <;> rcases hx with rfl | rfl | rfl | rfl | rfl <;> simp

/-- the hypotheses of `legacy_points` are met by a concrete vector file (3 × 1 × 2 points) -/
example : ((legacyRead (legacyFile [.alpha, .alpha] [.alpha] [] (fun a => [3, 1, 2].getD a 0)
      (fun a => tab ([3, 1, 2].getD a 0) fun j => ([0, 5, -1].getD a 0 : Rat) + (j : Rat) * [1/2, 1, 2].getD a 0) true
      [[1, 0, 0], [2, 0, 0], [3, 0, 0], [4, 0, 0], [5, 0, 0], [6, 0, 0]]) none).toOption.map
        fun f => (f.mesh.n, f.mesh.region.pmin, f.data.get [2, 0, 1], f.vdims)) =
    some ([3, 1, 2], [-1/4, 5 - nm1 / 2, -2], [6, 0, 0], some ["x", "y", "z"]) := by decide +kernel

/-- **Refusal: no data marker.**  A point-data file without a line starting with `VECTORS` or
`SCALARS` is not read (whatever else it holds, with or without side-car). -/
theorem legacy_needs_marker (lines : List LLine) (sc : Option (List (String × Region)))
    (h : ∀ x ∈ lines, x ≠ .vectors ∧ x ≠ .scalars) : ∃ e, legacyRead lines sc = .error e := by
  have hv : lines.contains .vectors = false := by
    cases hc : lines.contains .vectors with
    | false => rfl
    | true => exact absurd rfl (h _ (List.contains_iff_mem.mp hc)).1
  refine err_of_not_ok _ fun f hf => ?_
  obtain ⟨_, _, _, _, _, _, _, _, _, _, hm, _⟩ := (legacyRead_eq_ok lines sc f).mp hf
  rw [hv, afterMarker_none false lines (by intro x hx; simp [(h x hx).2])] at hm
  cases hm

/-- **Refusal: no `field` array.**  A cell-data file without an array called `field` is not
read, whatever other arrays it has. -/
theorem read_needs_field_array (g : Grid) (sc : Option (List (String × Region)))
    (h : ∀ a ∈ g.cell, a.name ≠ "field") : fromCells g sc = .error .runtime := by
  rw [fromCells_eq, lastNamed_none_of_not_mem "field" g.cell fun hm => by
    obtain ⟨a, ha, e⟩ := List.mem_map.mp hm
    exact h a ha e]
  rfl

/-- **The reader, on any grid with cell data** (index-level spec of `_from_vtk`, also for files
`to_file` did not write: reordered, extra or missing side arrays).  Whenever the read succeeds,
everything comes from the grid alone: the values from the **last** array called `field`
(wherever it stands), cell `(i, j, k)` taking tuple `i + nx·(j + ny·k)`; the cell counts from
the dimensions (all positive); the corners from the bounds; the validity from the array called
`valid` as "entry ≠ 0" (`True` everywhere when there is none) — a Boolean whatever integers the
file holds; the labels from the names of all arrays other than `field` / `valid` / `norm`, in
file order, when their number is the number of components (default labels otherwise). -/
theorem reader_spec (g : Grid) (sc : Option (List (String × Region))) (f' : Fld) (nx ny nz : Nat)
    (hn : g.n = [nx, ny, nz]) (h : fromCells g sc = .ok f') :
    ∃ fi, fi < g.cell.length ∧ (g.cell.getD fi default).name = "field" ∧
      (∀ q, fi < q → q < g.cell.length → (g.cell.getD q default).name ≠ "field") ∧
      f'.mesh.n = [nx, ny, nz] ∧ 0 < nx ∧ 0 < ny ∧ 0 < nz ∧
      f'.mesh.region.pmin = (tab 3 fun a => min (g.p1.getD a 0) (g.p2.getD a 0)) ∧
      f'.mesh.region.pmax = (tab 3 fun a => max (g.p1.getD a 0) (g.p2.getD a 0)) ∧
      f'.nvdim = (g.cell.getD fi default).ncomp ∧ 1 ≤ f'.nvdim ∧
      (∀ i j k c, c < f'.nvdim → (f'.data.get [i, j, k]).getD c 0 =
        (g.cell.getD fi default).vals.getD (flatF [nx, ny, nz] [i, j, k] * f'.nvdim + c) 0) ∧
      (∀ i j k, f'.valid.get [i, j, k] =
        readFlag g (scan g.cell 0 ⟨none, none, []⟩).validIdx (flatF [nx, ny, nz] [i, j, k])) ∧
      vdimsSet f'.nvdim
        (if ((g.cell.filter isLabel).map fun a => a.name).length ≠ f'.nvdim then none
         else some ((g.cell.filter isLabel).map fun a => a.name)) = .ok f'.vdims := by
  obtain ⟨fi, h1, h2, h3, h4, h5, h6, h7, h8, h9, h10, h11, h12, h13, h14⟩ := fromCells_spec g sc f' nx ny nz hn h
  refine ⟨fi, h1, h2, h3, h4, h5, h6, h7, h8, h9, h10, h11, fun i j k c hc => ?_, h13, h14⟩
  rw [h12, h10]
  exact getD_tab _ _ _ _ (h10 ▸ hc)

/-- the reader spec is not vacuous: a grid with the arrays in another order, an extra array
and flags other than 0/1 is read; values come from `field`, labels from the other names -/
example : ((fromCells (Grid.mk [3, 2, 2] [[0, 1, 2], [0, 1], [5, 7]]
      [⟨"field", 2, false, [1, 2, 3, 4]⟩, ⟨"valid", 1, true, [7, 0]⟩, ⟨"q", 1, false, [0, 0]⟩,
       ⟨"norm", 1, false, [0, 0]⟩, ⟨"p", 1, false, [0, 0]⟩]) none).toOption.map
      fun f => (f.data.get [1, 0, 0], f.valid.toList, f.vdims, f.mesh.region.pmax)) =
    some ([3, 4], [true, false], some ["q", "p"], [2, 1, 7]) := by decide +kernel

/-- A grid without cell data goes to the legacy reader, every other grid to `_from_vtk`'s own
path; the tokenised text is not looked at in the second case. -/
theorem read_dispatch (g : Grid) (lines lines' : List LLine) (sc : Option (List (String × Region))) :
    (g.cell = [] → readVtk g lines sc = legacyRead lines sc) ∧
    (g.cell ≠ [] → readVtk g lines sc = readVtk g lines' sc) := by
  constructor
  · intro h; simp [readVtk, h]
  · intro h
    have : g.cell.isEmpty = false := by
      cases hc : g.cell with
      | nil => exact absurd hc h
      | cons a l => rfl
    rw [readVtk_cells _ _ _ this, readVtk_cells _ _ _ this]

/-! ## Non-vacuity and the label findings -/

/-- the grid of the example: x-fastest order of the four cells `(0,0,0), (1,0,0), (0,0,1), (1,0,1)` -/
example : (toVtk exField).toOption.map (fun g => (g.dims, g.coords, g.cell.map fun a => (a.name, a.vals))) =
    some ([3, 2, 3], [[-1, 0, 1], [0, 3], [1/2, 1, 3/2]],
      [("norm", [25, 169, 1, 197/4]), ("a", [3, 5, 0, 7]), ("b", [4, 12, -1, 1/2]),
       ("field", [3, 4, 5, 12, 0, -1, 7, 1/2]), ("valid", [1, 1, 0, 1])]) := by decide +kernel

/-- a point of the example region, and the top corner (last cells own their upper faces) -/
example : exField.mesh.region.containsExact [1/2, 3, 5/4] := by
  refine ⟨rfl, ?_⟩
  intro a ha
  have : a = 0 ∨ a = 1 ∨ a = 2 := by
    have : a < 3 := ha
    omega
  rcases this with rfl | rfl | rfl <;> decide +kernel

example : (toVtk exField).toOption.bind (fun g => locate g [1/2, 3, 5/4]) = some 3 := by decide +kernel
example : (toVtk exField).toOption.bind (fun g => locate g [0, 0, 1]) = some 3 := by decide +kernel
example : (toVtk exField).toOption.bind (fun g => locate g [-1/2, 1, 3/4]) = some 0 := by decide +kernel
example : (toVtk exField).toOption.bind (fun g => locate g [3/2, 1, 3/4]) = none := by decide +kernel

/-- the side-car of the example is accepted on the rebuilt mesh (hypotheses of
`roundtrip_subregions` / `file_roundtrip_exact`) -/
example : T.candOk (Mesh.mk (plainRegion exField.mesh.region.pmin exField.mesh.region.pmax) [2, 1, 2] "" [])
    (exField.mesh.subs.getD 0 default).2 = true := by decide +kernel

/-- the whole file round trip of the example (XML writer; text writer with an identity rounding) -/
example : ((toFile exField "xml" true id).bind fromFile).toOption.map
      (fun f => (f.mesh.region.pmin, f.mesh.region.pmax, f.mesh.n, f.data.toList)) =
    some ([-1, 0, 1/2], [1, 3, 3/2], [2, 1, 2], [[3, 4], [0, -1], [5, 12], [7, 1/2]]) := by decide +kernel
example : ((toFile exField "txt" true id).bind fromFile).toOption.map
      (fun f => (f.valid.toList, f.vdims)) =
    some ([true, false, true, true], some ["a", "b"]) := by decide +kernel
example : ((toFile exField "bin8" true id).bind fromFile).toOption.map
      (fun f => (f.mesh.subs.map fun p => (p.1, p.2.pmin, p.2.pmax))) =
    some ([("s", [0, 0, 1/2], [1, 3, 1])]) := by decide +kernel

/-- **Finding (labels).**  A scalar field's label is not written, so it is lost: the field
`nvdim = 1, vdims = ["s"]` comes back with `vdims = none`. -/
theorem scalar_label_lost :
    ((toFile { exField with nvdim := 1, vdims := some ["s"] } "bin" false id).bind fromFile).toOption.map
      (fun f => (f.nvdim, f.vdims)) = some (1, none) := by decide +kernel

/-- **Finding (labels).**  A component called `field` is overwritten by the vector array of the
same name (`AddArray` replaces by name); the reader then finds one label for two components
and falls back to the defaults: `["field", "b"]` comes back as `["x", "y"]`. -/
theorem field_label_lost :
    ((toFile { exField with vdims := some ["field", "b"] } "bin" false id).bind fromFile).toOption.map
      (fun f => (f.nvdim, f.vdims)) = some (2, some ["x", "y"]) := by decide +kernel

/-- **Finding (text form + side-car, D63).**  When the text writer's rounding moves the grid
coordinates, the exact side-car corners no longer fit the mesh rebuilt from the rounded bounds
and the whole read fails: the field `exThird` (x edge 2/3, subregion of one cell) under a
rounding to multiples of 1/8 is read back from the binary file with its subregion, is read back
from the text file **without** side-car (rounded corner 5/8, values kept), and cannot be read
back from the text file with side-car. -/
theorem text_sidecar_rejected_witness :
    (((toFile exThird "bin" true rnd8).bind fromFile).toOption.map fun f => f.mesh.subs.map fun p => p.1) = some ["s"] ∧
    (((toFile exThird "txt" false rnd8).bind fromFile).toOption.map fun f => (f.mesh.region.pmax, f.data.get [1, 0, 1])) =
      some ([5/8, 3, 1], [7, 1/2]) ∧
    (((toFile exThird "txt" true rnd8).bind fromFile).toOption.map fun f => f.mesh.subs.map fun p => p.1) = none := by
  refine ⟨?_, ?_, ?_⟩ <;> decide +kernel

/-! ## acceptance as equivalences, the legacy writer's layout, any labels (D61 / D62 exactly),
the text form and stale side-cars exactly (D63 / D64), malformed legacy files -/

/-- **`to_vtk` is accepted exactly for** three-dimensional fields that are labelled when they have
more than one component; a field that is not 3-d is refused with `RuntimeError` (before the
labels are looked at), an unlabelled 3-d vector field with the labels error — whatever the
number of components, the values, the mask, the subregions. -/
theorem to_vtk_accepted_iff (f : Fld) :
    ((∃ g, toVtk f = .ok g) ↔ (f.mesh.region.ndim = 3 ∧ ¬ (1 < f.nvdim ∧ f.vdims = none))) ∧
    (f.mesh.region.ndim ≠ 3 → toVtk f = .error .runtime) ∧
    (f.mesh.region.ndim = 3 → 1 < f.nvdim → f.vdims = none → toVtk f = .error .value) :=
  ⟨by simp only [toVtk_ok_iff, exists_and_left, exists_eq, and_true], vtk_3d_only f, vtk_needs_labels f⟩

/-- **The reader depends on the file only through three things**: the LAST array called `field`,
the LAST array called `valid`, and the names of the other arrays except `norm` in file order
(besides dimensions and coordinates).  Two grids that agree on these read the same — whatever
the order of the arrays, whatever else they hold. -/
theorem reader_depends_on_parts (g g' : Grid) (sc : Option (List (String × Region)))
    (hd : g'.dims = g.dims) (hc : g'.coords = g.coords)
    (hf : lastNamed "field" g'.cell = lastNamed "field" g.cell)
    (hv : lastNamed "valid" g'.cell = lastNamed "valid" g.cell)
    (hl : labelNames g'.cell = labelNames g.cell) : fromCells g' sc = fromCells g sc := by
  rw [fromCells_eq, fromCells_eq, hf, hv, hl]
  have e1 : g'.n = g.n := by unfold Grid.n; rw [hd]
  have e2 : g'.p1 = g.p1 := by unfold Grid.p1 Grid.ax; rw [hc]
  have e3 : g'.p2 = g.p2 := by unfold Grid.p2 Grid.ax; rw [hc]
  rw [e1, e2, e3]

/-- **The cell-data reader accepts exactly the well-formed files** (refused ⇔ malformed), for any
grid and any side-car: there is an array called `field` with at least one component and one tuple
per cell; the array called `valid`, if any, has one entry per cell; there are three dimensions,
each at least 2 points; on no axis the first and the last coordinate coincide; the names of the
label arrays, when they are as many as components, are distinct; and the side-car (if any) loads
on the mesh built from bounds and dimensions. -/
theorem reader_accepts_iff (g : Grid) (sc : Option (List (String × Region))) :
    (∃ f', fromCells g sc = .ok f') ↔
      ∃ a, lastNamed "field" g.cell = some a ∧ 1 ≤ a.ncomp ∧ a.vals.length = natProd g.n * a.ncomp ∧
        (∀ v, lastNamed "valid" g.cell = some v → v.vals.length = natProd g.n) ∧
        g.dims.length = 3 ∧ (∀ k ∈ g.dims, 2 ≤ k) ∧
        (∀ ax, ax < 3 → (g.ax ax).getD 0 0 ≠ (g.ax ax).getD ((g.ax ax).length - 1) 0) ∧
        ((labelNames g.cell).length = a.ncomp → hasDup (labelNames g.cell) = false) ∧
        ∃ m, loadSubs (boundsMesh g.p1 g.p2 g.n) sc = .ok m := by
  rw [fromCells_eq, fromParts_ok_iff]
  have hmesh := fun m => meshOf_ok_iff g.p1 g.p2 g.n m (tab_length _ _) (tab_length _ _)
  have hgeo := g.geom_iff
  constructor
  · rintro ⟨a, ha, h1, h2, ⟨m0, m, hm0, hm⟩, h3, h4⟩
    obtain ⟨hc0, rfl⟩ := (hmesh m0).mp hm0
    have hcond := hgeo.mp hc0
    exact ⟨a, ha, h3, h1, h2, hcond.1, hcond.2.1, hcond.2.2, h4, m, hm⟩
  · rintro ⟨a, ha, h3, h1, h2, c1, c2, c3, h4, m, hm⟩
    have hm0 := (hmesh _).mpr ⟨hgeo.mpr ⟨c1, c2, c3⟩, rfl⟩
    exact ⟨a, ha, h1, h2, ⟨_, m, hm0, hm⟩, h3, h4⟩

/-- the acceptance conditions are met by a grid with reordered arrays, an extra array and two
arrays called `field` (the last one counts) -/
example : ((fromCells (Grid.mk [3, 2, 2] [[0, 1, 2], [0, 1], [5, 7]]
      [⟨"field", 1, false, [9, 9]⟩, ⟨"q", 1, false, [0, 0]⟩, ⟨"field", 2, false, [1, 2, 3, 4]⟩,
       ⟨"norm", 1, false, [0, 0]⟩, ⟨"p", 1, false, [0, 0]⟩]) none).toOption.map fun f => (f.data.get [1, 0, 0], f.vdims)) =
    some ([3, 4], some ["q", "p"]) := by decide +kernel

/-- **The side-car loads exactly when every entry passes the subregion setter's test** on the
mesh it is loaded on (entries that are regions: ordered corners, matching lengths): one failing
entry refuses the whole read, nothing is dropped silently. -/
theorem sidecar_loads_iff (m : Mesh) (l : List (String × Region)) (hinv : ∀ p ∈ l, p.2.Inv) :
    (∃ m1, loadSubs m (some l) = .ok m1) ↔ ∀ p ∈ l, T.candOk m p.2 = true := by
  simp only [loadSubs_some_ok_iff, exists_and_left, exists_eq, and_true]
  exact ⟨fun h p hp => (h p hp).2, fun h p hp => ⟨hinv p hp, h p hp⟩⟩

/-! ### what the code hands to the writers, and what the writers make of it -/

/-- **Every array, value by value** (array level, every shape, every number of components).  In
the grid of a well-formed field the flat buffer of `field` holds at position `q` component
`q mod nvdim` of mesh cell `unflatF n (q div nvdim)` (cells x-fastest, components of a cell
adjacent); `norm` holds at `t` the squared length of cell `unflatF n t`; `valid` (integer-typed)
1 or 0; and the scalar array named after label number `c` holds at `t` component `c` of that cell. -/
theorem cell_arrays_explicit (f : Fld) (nx ny nz : Nat) (h : WF f nx ny nz) (g : Grid) (hg : toVtk f = .ok g) :
    (∃ a, g.arr "field" = some a ∧ a.ncomp = f.nvdim ∧ a.int = false ∧
      a.vals = tab (natProd [nx, ny, nz] * f.nvdim) fun q =>
        (f.data.get (unflatF [nx, ny, nz] (q / f.nvdim))).getD (q % f.nvdim) 0) ∧
    (∃ a, g.arr "norm" = some a ∧ a.ncomp = 1 ∧ a.int = false ∧
      a.vals = tab (natProd [nx, ny, nz]) fun t => sumSq (f.data.get (unflatF [nx, ny, nz] t)) f.nvdim) ∧
    (∃ a, g.arr "valid" = some a ∧ a.ncomp = 1 ∧ a.int = true ∧
      a.vals = tab (natProd [nx, ny, nz]) fun t => if f.valid.get (unflatF [nx, ny, nz] t) then 1 else 0) ∧
    (1 < f.nvdim → ∀ vs, f.vdims = some vs → ∀ c, c < vs.length →
      ∃ a, g.arr (vs.getD c "") = some a ∧ a.ncomp = 1 ∧ a.int = false ∧
        a.vals = tab (natProd [nx, ny, nz]) fun t => (f.data.get (unflatF [nx, ny, nz] t)).getD c 0) := by
  refine ⟨⟨_, arr_field f nx ny nz h g hg, rfl, rfl, fieldVArr_vals f nx ny nz h.dshape⟩,
    ⟨_, arr_norm f nx ny nz h g hg, rfl, rfl, normVArr_vals f nx ny nz h.dshape⟩,
    ⟨_, arr_valid f nx ny nz h g hg, rfl, rfl, validVArr_vals f nx ny nz h.vshape⟩, ?_⟩
  intro hnv vs hvs c hc
  obtain ⟨vs', hvs', _, hd, _⟩ := h.labels hnv
  rw [hvs] at hvs'; cases hvs'
  have hl : vs.getD c "" ∈ vs := getD_mem vs c "" hc
  refine ⟨_, arr_comp f nx ny nz h g hg hnv vs hvs _ hl, rfl, rfl, ?_⟩
  rw [compVArr_vals f nx ny nz h.dshape vs, indexOf?_getD vs c hc hd]
  rfl

/-- **The legacy (`bin` / `bin8` / `txt`) file of a well-formed field, section by section.**
With three components the file has `VECTORS field` followed by a `FIELD` block holding `norm`,
one scalar per label, `valid`; with one component `SCALARS field` (+ lookup table) followed by a
`FIELD` block with `norm`, `valid`; otherwise a single `FIELD` block with `norm`, the label
scalars, `field`, `valid`.  A VTK reader returns the arrays in this file order: `field` first
exactly when the field has one or three components. -/
theorem legacy_file_layout (f : Fld) (nx ny nz : Nat) (h : WF f nx ny nz) (g : Grid) (hg : toVtk f = .ok g) :
    legacySections (activeAttr f) g.cell =
      (if f.nvdim = 3 then [.vectors "field", .field ("norm" :: ((f.vdims.getD []) ++ ["valid"]))]
       else if f.nvdim = 1 then [.scalars "field", .field ["norm", "valid"]]
       else [.field ("norm" :: ((f.vdims.getD []) ++ ["field", "valid"]))]) ∧
    (writtenGrid .bin (activeAttr f) id g).cell.map (fun a => a.name) =
      (if f.nvdim = 3 then "field" :: "norm" :: ((f.vdims.getD []) ++ ["valid"])
       else if f.nvdim = 1 then ["field", "norm", "valid"]
       else "norm" :: ((f.vdims.getD []) ++ ["field", "valid"])) ∧
    (writtenGrid .xml (activeAttr f) id g).cell = g.cell := by
  obtain rfl := toVtk_grid f nx ny nz h g hg
  refine ⟨legacySections_wf f nx ny nz h, ?_, rfl⟩
  simp only [writtenGrid]
  rw [legacyOrder_wf f nx ny nz h]
  have hn := comps_names_list f
  by_cases h3 : f.nvdim = 3
  · have hnv : 1 < f.nvdim := by omega
    rw [if_pos hnv] at hn
    rw [if_pos (Or.inl h3), if_pos h3]
    simp only [List.map_cons, List.map_append, List.map_nil, hn]
    rfl
  · by_cases h1 : f.nvdim = 1
    · have hnv : ¬ 1 < f.nvdim := by omega
      rw [if_neg hnv] at hn
      rw [if_pos (Or.inr h1), if_neg h3, if_pos h1]
      simp only [List.map_cons, List.map_append, List.map_nil, hn]
      rfl
    · have hnv : 1 < f.nvdim := by have := h.nv; omega
      rw [if_pos hnv] at hn
      rw [if_neg (by omega), if_neg h3, if_neg h1]
      simp only [List.map_cons, List.map_append, List.map_nil, hn]
      rfl

/-- the layout of the example (two components: one `FIELD` block, order kept) and of its
three-component and one-component variants -/
example : (toVtk exField).toOption.map (fun g => (legacySections (activeAttr exField) g.cell,
      (writtenGrid .bin (activeAttr exField) id g).cell.map fun a => a.name)) =
    some ([.field ["norm", "a", "b", "field", "valid"]], ["norm", "a", "b", "field", "valid"]) := by decide +kernel
example : (toVtk { exField with nvdim := 1 }).toOption.map (fun g => (legacySections (activeAttr { exField with nvdim := 1 }) g.cell,
      (writtenGrid .txt (activeAttr { exField with nvdim := 1 }) id g).cell.map fun a => a.name)) =
    some ([.scalars "field", .field ["norm", "valid"]], ["field", "norm", "valid"]) := by decide +kernel

/-- **The legacy writer's reordering never matters to the reader**: for any grid (not only those
`to_vtk` builds), any rounding, any side-car, reading the grid a VTK reader returns for the
written file gives what reading the grid itself (value-wise rounded, in the text form) gives. -/
theorem reader_ignores_file_order (f : Fld) (r : Rep) (rnd : Rat → Rat) (g : Grid) (lines : List LLine)
    (sc : Option (List (String × Region))) :
    readVtk (writtenGrid r (activeAttr f) rnd g) lines sc = readVtk (if r = .txt then mapGrid rnd g else g) lines sc :=
  readVtk_writtenGrid f r rnd g lines sc

/-! ### cell positions -/

/-- **VTK cell `t` is mesh cell `unflatF n t`, box and content** (all cell counts, anisotropic
cells, any offset).  For every cell id `t < nx·ny·nz` with `(i₀, i₁, i₂) = unflatF n t`: on every
axis `a` the two grid coordinates that bound VTK cell `t` — entries `i_a` and `i_a + 1` of the
coordinate array — are the faces `pmin + i_a·cell` and `pmin + (i_a+1)·cell` of that mesh cell,
their midpoint is the mesh's cell centre, and tuple `t` of `field` / `valid` is the cell's vector /
flag. -/
theorem vtk_cell_is_mesh_cell (f : Fld) (nx ny nz : Nat) (h : WF f nx ny nz) (g : Grid) (hg : toVtk f = .ok g)
    (t : Nat) (ht : t < natProd [nx, ny, nz]) :
    (∀ a, a < 3 →
      (unflatF [nx, ny, nz] t).getD a 0 < f.mesh.nAt a ∧
      (g.ax a).getD ((unflatF [nx, ny, nz] t).getD a 0) 0 =
        f.mesh.region.lo a + ((unflatF [nx, ny, nz] t).getD a 0 : Rat) * f.mesh.cellAt a ∧
      (g.ax a).getD ((unflatF [nx, ny, nz] t).getD a 0 + 1) 0 =
        f.mesh.region.lo a + (((unflatF [nx, ny, nz] t).getD a 0 : Rat) + 1) * f.mesh.cellAt a ∧
      ((g.ax a).getD ((unflatF [nx, ny, nz] t).getD a 0) 0 + (g.ax a).getD ((unflatF [nx, ny, nz] t).getD a 0 + 1) 0) / 2 =
        f.mesh.centreAx a ((unflatF [nx, ny, nz] t).getD a 0 : Int)) ∧
    (∃ a, g.arr "field" = some a ∧ a.tuple t = tab f.nvdim fun c => (f.data.get (unflatF [nx, ny, nz] t)).getD c 0) ∧
    (∃ a, g.arr "valid" = some a ∧ a.tuple t = [if f.valid.get (unflatF [nx, ny, nz] t) then 1 else 0]) := by
  obtain ⟨hir, _, _, hf, _, hv⟩ := cell_id_is_mesh_cell f nx ny nz h g hg t ht
  obtain ⟨hnd, _⟩ := mesh_axes f.mesh nx ny nz h.mesh h.n
  refine ⟨?_, hf, hv⟩
  intro a ha
  have hlt : (unflatF [nx, ny, nz] t).getD a 0 < f.mesh.nAt a :=
    h.mesh.getD_lt (by rw [h.n]; exact hir) (by omega)
  obtain ⟨_, hco⟩ := grid_coordinates f nx ny nz h g hg a ha
  have c1 := hco _ (le_of_lt hlt)
  have c2 := hco ((unflatF [nx, ny, nz] t).getD a 0 + 1) (by omega)
  refine ⟨hlt, c1, by rw [c2]; push_cast; ring, ?_⟩
  rw [c1, c2, C01.centreAx_natCast]
  push_cast
  ring

/-- the example: VTK cell 3 is mesh cell (1, 0, 1) -/
example : unflatF [2, 1, 2] 3 = [1, 0, 1] := by decide

/-! ### any labels: D61 and D62 as exact conditions -/

/-- **`to_vtk` for any distinct labels.**  Nothing about the labels beyond what every field
satisfies (as many as components, distinct) is needed for the conversion to succeed and for the
`field` and `valid` arrays to be right: `GetArray("field")` is always the vector array (also when
a component is called `field` — its scalar array is then replaced, finding D61) and
`GetArray("valid")` the flags, so the lookup theorems for values and validity hold for every label set. -/
theorem grid_any_labels (f : Fld) (nx ny nz : Nat) (h : WFc f nx ny nz) :
    ∃ g, toVtk f = .ok g ∧ g.dims = [nx + 1, ny + 1, nz + 1] ∧
      g.arr "field" = some (fieldVArr f) ∧ g.arr "valid" = some (validVArr f) ∧
      ∀ idx, inRange [nx, ny, nz] idx = true →
        (fieldVArr f).tuple (flatF [nx, ny, nz] idx) = (tab f.nvdim fun c => (f.data.get idx).getD c 0) ∧
        (validVArr f).tuple (flatF [nx, ny, nz] idx) = [if f.valid.get idx then 1 else 0] := by
  refine ⟨_, toVtk_okc f nx ny nz h, rfl, ?_, ?_, ?_⟩
  · exact gridOf_arr_field f nx ny nz
  · exact gridOf_arr_valid f nx ny nz
  · intro idx hi
    exact ⟨field_tuple f nx ny nz h.dshape idx hi, valid_tuple f nx ny nz h.vshape idx hi⟩

/-- **Round trip for any distinct labels** (binary and XML files, no loader hypothesis).  For every
3-d field as the constructor leaves it — whatever its labels — whose subregions fit its mesh:
the write and the read succeed; corners, counts, number of components, values, validity and
(saved) subregions come back exactly; and the labels come back as
* `None` for a one-component field (its label, if any, is not written: finding D62),
* the labels themselves when none of them is `field`, `valid` or `norm`,
* the DEFAULT labels (`x y z` / `v0 v1 …`) otherwise (finding D61). -/
theorem roundtrip_any_labels (f : Fld) (nx ny nz : Nat) (h : WFc f nx ny nz) (hsub : C14.SubInv f.mesh)
    (rep : String) (hrep : rep = "xml" ∨ rep = "bin" ∨ rep = "bin8") (save : Bool) (rnd : Rat → Rat) :
    ∃ v f', toFile f rep save rnd = .ok v ∧ fromFile v = .ok f' ∧
      f'.mesh.region.pmin = f.mesh.region.pmin ∧ f'.mesh.region.pmax = f.mesh.region.pmax ∧
      f'.mesh.n = f.mesh.n ∧ f'.nvdim = f.nvdim ∧
      f'.vdims = (if f.nvdim = 1 then none
                  else if ∀ l ∈ f.vdims.getD [], isLabelName l = true then f.vdims else Fld.defaultVdims f.nvdim) ∧
      f'.mesh.subs.map (fun p => (p.1, p.2.pmin, p.2.pmax)) =
        (if save then f.mesh.subs else []).map (fun p => (p.1, p.2.pmin, p.2.pmax)) ∧
      ∀ idx, inRange [nx, ny, nz] idx = true →
        f'.data.get idx = (tab f.nvdim fun c => (f.data.get idx).getD c 0) ∧
        f'.valid.get idx = f.valid.get idx := by
  have hm1 := loadSubs_written f.mesh nx ny nz h.mesh h.n hsub save
  obtain ⟨f', h1, h2, h3, h4, _, _, _, h6⟩ := fromCells_toVtkc f nx ny nz h _ _ hm1
  obtain ⟨r, hr1, hr2⟩ := repOf_exact rep hrep
  refine ⟨_, f', toFile_wfc f nx ny nz h rep r hr1 save rnd, by rw [fromFile_written, if_neg hr2]; exact h1,
    ?_, ?_, ?_, h3, h4, ?_, h6⟩
  · rw [h2]; rfl
  · rw [h2]; rfl
  · rw [h2, h.n]; rfl
  · rw [h2]; exact restamp_corners _ _ save

/-- **D61 and D62 as one exact condition.**  Under the hypotheses of `roundtrip_any_labels`, the
labels read back are the labels written **if and only if** a one-component field is unlabelled
and a field with several components has no component called `field`, `valid` or `norm` (the
`vdims` setter already refuses `valid` and `norm`, which are attributes of `Field`; so for real
fields: iff no component is called `field`).  In every other case the labels are lost — and only
the labels: values, validity, geometry and subregions still come back exactly. -/
theorem labels_preserved_iff (f : Fld) (nx ny nz : Nat) (h : WFc f nx ny nz) (f' : Fld)
    (hread : f'.vdims = (if f.nvdim = 1 then none
                  else if ∀ l ∈ f.vdims.getD [], isLabelName l = true then f.vdims else Fld.defaultVdims f.nvdim)) :
    f'.vdims = f.vdims ↔
      ((f.nvdim = 1 → f.vdims = none) ∧ (1 < f.nvdim → ∀ l ∈ f.vdims.getD [], l ≠ "field" ∧ l ≠ "valid" ∧ l ≠ "norm")) := by
  rw [hread]
  by_cases h1 : f.nvdim = 1
  · rw [if_pos h1]
    constructor
    · intro e; exact ⟨fun _ => e.symm, fun hh => by omega⟩
    · intro hh; exact (hh.1 h1).symm
  · have hnv : 1 < f.nvdim := by have := h.nv; omega
    obtain ⟨vs, hvs, hlen, _⟩ := h.labels hnv
    rw [if_neg h1, hvs]
    simp only [Option.getD_some]
    have hiff : ∀ l : String, isLabelName l = true ↔ (l ≠ "field" ∧ l ≠ "valid" ∧ l ≠ "norm") := by
      intro l
      simp [isLabelName, and_assoc]
    by_cases hall : ∀ l ∈ vs, isLabelName l = true
    · rw [if_pos hall]
      exact ⟨fun _ => ⟨fun hh => absurd hh h1, fun _ l hl => (hiff l).mp (hall l hl)⟩, fun _ => rfl⟩
    · rw [if_neg hall]
      constructor
      · intro e
        exfalso
        apply hall
        exact default_labels_plain f.nvdim vs e
      · rintro ⟨_, hh⟩
        exfalso
        apply hall
        intro l hl
        exact (hiff l).mpr (hh hnv l hl)

/-- the weak well-formedness is met by the example relabelled `["field", "b"]` (the D61 class; its
round trip: `field_label_lost`) -/
example : WFc { exField with vdims := some ["field", "b"] } 2 1 2 :=
  ⟨exField_wf.mesh, rfl, rfl, rfl, by decide, fun _ => ⟨["field", "b"], rfl, rfl, by decide⟩⟩

/-! ### the text form and the side-car, exactly (D63) -/

/-- **D63 as an equivalence.**  For every 3-d field (any labels), any rounding `rnd` of the text
writer, with or without `save_subregions`: the text file `to_file` writes is read back by
`from_file` **if and only if** no edge of the region collapses under the rounding and — when a
side-car was written — every subregion passes the subregion setter's test on the mesh with the
ROUNDED corners.  (The side-car holds the exact corners; so with saved subregions and geometry
that ten digits do not hold the read fails, and only then.) -/
theorem text_file_accepted_iff (f : Fld) (nx ny nz : Nat) (h : WFc f nx ny nz) (hinv : ∀ p ∈ f.mesh.subs, p.2.Inv)
    (save : Bool) (rnd : Rat → Rat) :
    (∃ f', (toFile f "txt" save rnd).bind fromFile = .ok f') ↔
      ((∀ a, a < 3 → rnd (f.mesh.region.lo a) ≠ rnd (f.mesh.region.hi a)) ∧
       (save = true → ∀ p ∈ f.mesh.subs,
         T.candOk (boundsMesh (tab 3 fun a => rnd (f.mesh.region.lo a)) (tab 3 fun a => rnd (f.mesh.region.hi a)) [nx, ny, nz])
           p.2 = true)) := by
  rw [toFile_wfc f nx ny nz h "txt" .txt (by decide) save rnd]
  show (∃ f', fromFile _ = .ok f') ↔ _
  rw [fromFile_written, if_pos rfl, text_read_ok_iff f nx ny nz h rnd _ ((forall_car_iff _ save _).mpr fun _ => hinv),
    forall_car_iff]

/-- the two text-form reads of `text_sidecar_rejected_witness` as acceptance: `exThird` under the
rounding to multiples of 1/8 is read back without side-car and is not read back with it -/
example : (((toFile exThird "txt" false rnd8).bind fromFile).toOption.isSome,
    ((toFile exThird "txt" true rnd8).bind fromFile).toOption.isSome) = (true, false) := by
  obtain ⟨_, h2, h3⟩ := text_sidecar_rejected_witness
  cases hX : ((toFile exThird "txt" false rnd8).bind fromFile).toOption with
  | none => rw [hX] at h2; cases h2
  | some _ =>
    cases hY : ((toFile exThird "txt" true rnd8).bind fromFile).toOption with
    | none => rfl
    | some _ => rw [hY] at h3; cases h3

/-- **Text form, corners that the writer keeps: no loader hypothesis.**  If the text writer's
rounding fixes the six corner coordinates of the region (they have at most ten significant
digits), then for every well-formed field whose subregions fit its mesh the text file is read
back with the same corners, counts, labels and subregions (names, order, corners), every value
rounded value-wise, every flag exact — whatever the rounding does to the inner grid coordinates. -/
theorem text_roundtrip_fixed_corners (f : Fld) (nx ny nz : Nat) (h : WF f nx ny nz) (hsub : C14.SubInv f.mesh)
    (save : Bool) (rnd : Rat → Rat)
    (hfix : ∀ a, a < 3 → rnd (f.mesh.region.lo a) = f.mesh.region.lo a ∧ rnd (f.mesh.region.hi a) = f.mesh.region.hi a) :
    ∃ v f', toFile f "txt" save rnd = .ok v ∧ fromFile v = .ok f' ∧
      f'.mesh.region.pmin = f.mesh.region.pmin ∧ f'.mesh.region.pmax = f.mesh.region.pmax ∧ f'.mesh.n = [nx, ny, nz] ∧
      f'.nvdim = f.nvdim ∧ f'.vdims = (if f.nvdim = 1 then none else f.vdims) ∧
      f'.mesh.subs.map (fun p => (p.1, p.2.pmin, p.2.pmax)) =
        (if save then f.mesh.subs else []).map (fun p => (p.1, p.2.pmin, p.2.pmax)) ∧
      ∀ idx, inRange [nx, ny, nz] idx = true →
        f'.data.get idx = (tab f.nvdim fun c => rnd ((f.data.get idx).getD c 0)) ∧
        f'.valid.get idx = f.valid.get idx := by
  obtain ⟨_, _, _, hax, _⟩ := mesh_axes f.mesh nx ny nz h.mesh h.n
  obtain ⟨e1, e2⟩ := corners_fixed f.mesh nx ny nz h.mesh h.n rnd hfix
  have hm1 := loadSubs_written f.mesh nx ny nz h.mesh h.n hsub save
  obtain ⟨v, f', a1, a2, a3, a4, a5, a6⟩ := file_roundtrip_text f nx ny nz h save rnd
    (fun a ha => by rw [(hfix a ha).1, (hfix a ha).2]; exact (hax a ha).2) _ (by rw [e1, e2]; exact hm1)
  refine ⟨v, f', a1, a2, by rw [a3]; rfl, by rw [a3]; rfl, by rw [a3]; rfl, a4, a5, ?_, a6⟩
  rw [a3]
  exact restamp_corners _ _ save

/-- the hypothesis is met by the example field and the rounding to multiples of 1/8 (its corners
are multiples of 1/2) -/
example : ∀ a, a < 3 → rnd8 (exField.mesh.region.lo a) = exField.mesh.region.lo a ∧
    rnd8 (exField.mesh.region.hi a) = exField.mesh.region.hi a := by
  intro a ha
  have : a = 0 ∨ a = 1 ∨ a = 2 := by omega
  rcases this with rfl | rfl | rfl <;> decide +kernel

/-! ### stale side-cars, exactly (D64) -/

/-- **Invariant over histories**: side-car files are never empty and never removed.  Starting
from a directory whose side-cars each hold at least one subregion (in particular the empty
directory), after ANY session every side-car still does; and a side-car of a given name is
absent after the session exactly when it was absent before and no call of the session was a
successful `to_file` under that name with `save_subregions` on a mesh that has subregions. -/
theorem sidecars_over_histories (rnd : Rat → Rat) (d : Dir) (ops : List DOp) (name : String) :
    (CarsNonempty d → CarsNonempty (Dir.after rnd d ops)) ∧
    (look (Dir.after rnd d ops).json name = none ↔ (look d.json name = none ∧ ∀ o ∈ ops, ¬ o.writesCar rnd name)) :=
  ⟨cars_after rnd d ops, after_json_none_iff rnd d ops name⟩

/-- **D64 as an equivalence.**  Take the empty directory, any session `before`, then a `to_file`
of a well-formed field (subregions fitting, `xml` / `bin` / `bin8`) under `name`, then
`from_file(name)`.  The read returns the subregions this call was asked to save (names, order,
corners; none without `save_subregions`) **if and only if** this call wrote its side-car (saved,
and the mesh has subregions) or no earlier call of the session wrote a side-car under that name.
In the remaining case — an old side-car, no new one — the read fails or returns subregions of an
earlier field. -/
theorem stale_sidecar_iff (f : Fld) (nx ny nz : Nat) (h : WF f nx ny nz) (hsub : C14.SubInv f.mesh)
    (rep : String) (hrep : rep = "xml" ∨ rep = "bin" ∨ rep = "bin8") (save : Bool) (rnd : Rat → Rat)
    (before : List DOp) (name : String) :
    (∃ f', (Dir.run rnd ⟨[], []⟩ (before ++ [.write name f rep save, .read name])).getLast? = some (.ok (some f')) ∧
        f'.mesh.subs.map (fun p => (p.1, p.2.pmin, p.2.pmax)) =
          (if save then f.mesh.subs else []).map (fun p => (p.1, p.2.pmin, p.2.pmax))) ↔
      ((save = true ∧ f.mesh.subs.isEmpty = false) ∨ ∀ o ∈ before, ¬ o.writesCar rnd name) := by
  have hcars : CarsNonempty (Dir.after rnd ⟨[], []⟩ before) := cars_after rnd _ before (by intro p hp; cases hp)
  have hnone := after_json_none_iff rnd ⟨[], []⟩ before name
  obtain ⟨v, _, hv, _⟩ := file_roundtrip_exact_subs f nx ny nz h hsub rep hrep save rnd
  have hlast := read_after_history rnd ⟨[], []⟩ before [] name f rep save v hv (by intro o ho; cases ho)
  simp only [List.nil_append] at hlast
  rw [hlast]
  constructor
  · rintro ⟨f', hf', hs⟩
    -- otherwise this call wrote no side-car (`hsc`) and an old `sc` is there (`hold`), non-empty by
    -- `CarsNonempty` (`hscne`); the read returns `sc.length` subregions, the expected list is empty (`hexp`)
    by_contra hcon
    rw [not_or] at hcon
    obtain ⟨c1, c2⟩ := hcon
    have hsc : v.sidecar = none := by
      rw [(file_written f rep save rnd v hv).2.2]
      rw [if_neg]
      intro hc
      apply c1
      simpa using hc
    have hold : look (Dir.after rnd ⟨[], []⟩ before).json name ≠ none := by
      intro hn
      exact c2 (hnone.mp hn).2
    cases hlk : look (Dir.after rnd ⟨[], []⟩ before).json name with
    | none => exact hold hlk
    | some sc =>
      obtain ⟨p, hp, hp2⟩ := look_mem _ _ _ hlk
      have hscne : sc ≠ [] := by rw [← hp2]; exact hcars p hp
      rw [hsc, hlk] at hf'
      simp only at hf'
      injection hf' with hf'
      have hgrid : v.grid.cell.isEmpty = false := by
        obtain ⟨r, g, _, hg, rfl⟩ := (toFile_ok_iff ..).mp hv
        obtain ⟨_, _, rfl⟩ := (toVtk_ok_iff f g).mp hg
        exact (writtenGrid_isEmpty f r rnd _).trans (cellData_nonempty f)
      have hread : fromCells v.grid (some sc) = .ok f' := readVtk_cells _ _ _ hgrid ▸ of_map_some_ok hf'
      have hlen := fromCells_subs_length _ _ _ hread
      have hexp : (if save then f.mesh.subs else []).map (fun p => (p.1, p.2.pmin, p.2.pmax)) = [] := by
        cases save with
        | false => rfl
        | true =>
          have : f.mesh.subs.isEmpty = true := by
            cases hb : f.mesh.subs.isEmpty with
            | true => rfl
            | false => exact absurd ⟨rfl, hb⟩ c1
          simp [List.isEmpty_iff.mp this]
      rw [hexp] at hs
      have : f'.mesh.subs.length = 0 := by
        have := congrArg List.length hs
        simpa using this
      rw [hlen] at this
      exact hscne (List.length_eq_zero_iff.mp this)
  · intro hcond
    obtain ⟨f', hf', _, _, _, _, _, hs, _⟩ := history_roundtrip f nx ny nz h hsub rep hrep save rnd ⟨[], []⟩ before [] name
      (by intro o ho; cases ho)
      (by
        rcases hcond with hc | hc
        · exact Or.inl hc
        · exact Or.inr (hnone.mpr ⟨rfl, hc⟩))
    simp only [List.nil_append] at hf'
    rw [hlast] at hf'
    exact ⟨f', hf', hs⟩

/-- the first write of `stale_sidecar_witness` is a `writesCar` call, so the right-hand side of
`stale_sidecar_iff` can fail (the two outcomes of the read are evaluated in `stale_sidecar_witness`) -/
example : DOp.writesCar id "a.vtk" (.write "a.vtk" exField "bin" true) :=
  ⟨rfl, rfl, rfl, (write_accepted_iff exField "bin" true id).mpr ⟨by simp, by decide, by decide⟩⟩

/-! ### legacy point-data files: malformed and truncated sections -/

/-- **The coordinate blocks are refused exactly when a header has no numbers after it**: the scan
over the `X_/Y_/Z_COORDINATES` lines of ANY file succeeds iff every such line is followed by a
numeric line (the header on the last line, or followed by a blank / alphabetic line, raises). -/
theorem legacy_coord_blocks_iff (lines : List LLine) :
    (∃ es, coordEntries lines = .ok es) ↔
      ∀ i c, lines[i]? = some (.coords c) → ∃ xs, lines[i + 1]? = some (.nums xs) := by
  induction lines with
  | nil => exact ⟨fun _ i c h => (nomatch h), fun _ => ⟨[], rfl⟩⟩
  | cons x t ih =>
    -- the condition on `x :: t`: on the head, and on the tail
    have shift : (∀ i c, (x :: t)[i]? = some (.coords c) → ∃ xs, (x :: t)[i + 1]? = some (.nums xs)) ↔
        ((∀ c, x = .coords c → ∃ xs, t[0]? = some (.nums xs)) ∧
         ∀ i c, t[i]? = some (.coords c) → ∃ xs, t[i + 1]? = some (.nums xs)) :=
      ⟨fun h => ⟨fun c hc => h 0 c (congrArg some hc), fun i c hi => h (i + 1) c hi⟩,
        fun ⟨h0, h1⟩ i c hi => match i with
          | 0 => h0 c (Option.some.inj hi)
          | i + 1 => h1 i c hi⟩
    rw [shift, ← ih]
    by_cases hx : ∃ c, x = .coords c
    · obtain ⟨c, rfl⟩ := hx
      by_cases ht : ∃ xs, t[0]? = some (.nums xs)
      · obtain ⟨xs, hxs⟩ := ht
        obtain ⟨t', rfl⟩ : ∃ t', t = .nums xs :: t' := by
          cases t with
          | nil => cases hxs
          | cons y t' => exact ⟨t', by rw [Option.some.inj hxs]⟩
        rw [coordEntries_coords_nums, coordEntries_cons_quiet (.nums xs) t' (fun _ => nofun)]
        cases coordEntries t' with
        | error e => exact ⟨fun ⟨_, h⟩ => (nomatch h), fun ⟨_, _, h⟩ => (nomatch h)⟩
        | ok es => exact ⟨fun _ => ⟨fun _ _ => ⟨xs, rfl⟩, es, rfl⟩, fun _ => ⟨_, rfl⟩⟩
      · rw [coordEntries_coords_bad c t fun xs h => ht ⟨xs, h⟩]
        exact ⟨fun ⟨_, h⟩ => (nomatch h), fun ⟨h, _⟩ => absurd (h c rfl) ht⟩
    · rw [coordEntries_cons_quiet x t fun c hc => hx ⟨c, hc⟩]
      exact ⟨fun h => ⟨fun c hc => absurd ⟨c, hc⟩ hx, h⟩, fun h => h.2⟩

/-- a file with a broken coordinate block is refused as a whole, whatever else it holds -/
theorem legacy_refused_on_bad_coord_block (lines : List LLine) (sc : Option (List (String × Region))) (i c : Nat)
    (hi : lines[i]? = some (.coords c)) (hbad : ∀ xs, lines[i + 1]? ≠ some (.nums xs)) :
    ∃ e, legacyRead lines sc = .error e := by
  refine err_of_not_ok _ fun f hf => ?_
  obtain ⟨es, hce, _⟩ := (legacyRead_eq_ok lines sc f).mp hf
  obtain ⟨xs, hxs⟩ := (legacy_coord_blocks_iff lines).mp ⟨es, hce⟩ i c hi
  exact hbad xs hxs

/-- **`legacy_points` with ANY data section: refused iff malformed.**  Take a file of the old
layout (header, coordinate blocks possibly over several lines, anything quiet in between, the data
marker) followed by arbitrary lines `body`, with any side-car that loads.  The reader looks at
the first `N₀·N₁·N₂` lines of `body` only (fewer if the file ends earlier) and accepts the file
**if and only if** none of them is empty / non-numeric-non-alphabetic and every numeric one holds
as many numbers as the field has components, or one.  Too few lines, lines starting with a letter
and anything after the last cell's line never make the read fail. -/
theorem legacy_data_accepted_iff (pre mid body : List LLine) (N : Nat → Nat) (o c : Nat → Rat) (first : Nat → List Rat)
    (cont : Nat → List LLine) (vec : Bool) (sidecar : Option (List (String × Region))) (m1 : Mesh)
    (hpre : Quiet pre) (hmid : Quiet mid) (hcont : ∀ a, a < 3 → Quiet (cont a))
    (hbody : ∀ x ∈ body, ∀ k, x ≠ .coords k)
    (hsc : vec = false → (∀ x ∈ pre ++ (cont 0 ++ (cont 1 ++ (cont 2 ++ mid))), x ≠ .scalars) ∧ ∀ x ∈ body, x ≠ .vectors)
    (hN : ∀ a, a < 3 → 1 ≤ N a) (hc : ∀ a, a < 3 → 0 < c a)
    (hfirst : ∀ a, a < 3 → 1 ≤ (first a).length ∧ (first a).getD 0 0 = o a ∧
      (1 < N a → 1 < (first a).length ∧ (first a).getD 1 0 = o a + c a) ∧ (N a = 1 → (first a).length = 1))
    (hsub : loadSubs { region := plainRegion (tab 3 (fun a => o a - legCe N c a * (1/2)))
                                  (tab 3 (fun a => o a - legCe N c a * (1/2) + (N a : Rat) * legCe N c a)),
                       n := [N 0, N 1, N 2], bc := "", subs := [] } sidecar = .ok m1) :
    (∃ f', legacyRead (legacyFileBody pre mid N first cont vec body) sidecar = .ok f') ↔
      DataOk (if vec then 3 else 1) (natProd [N 0, N 1, N 2]) body := by
  simp only [legacyRead_body pre mid body N o c first cont vec sidecar m1 hpre hmid hcont hbody hsc hN hc hfirst hsub,
    exists_comm (α := Fld), exists_and_left, exists_eq, and_true]
  rw [← DFV.indicesF_length [N 0, N 1, N 2]]
  exact fill_ok_iff _ _ _ _

/-- **What an accepted legacy file leaves in every cell**, truncated and padded sections included.
Whenever the read of such a file succeeds: `N` cells per axis, the side-car's subregions, all
valid, and cell `(i, j, k)` — line number `t = i + N₀·(j + N₁·k)` of the data section — holds the
numbers of that line; a single number is broadcast to all components; a line starting with a
letter is SKIPPED BUT COUNTED (the cell keeps its zeros and the following lines are NOT shifted);
cells beyond the end of a truncated section keep their zeros. -/
theorem legacy_data_values (pre mid body : List LLine) (N : Nat → Nat) (o c : Nat → Rat) (first : Nat → List Rat)
    (cont : Nat → List LLine) (vec : Bool) (sidecar : Option (List (String × Region))) (m1 : Mesh)
    (hpre : Quiet pre) (hmid : Quiet mid) (hcont : ∀ a, a < 3 → Quiet (cont a))
    (hbody : ∀ x ∈ body, ∀ k, x ≠ .coords k)
    (hsc : vec = false → (∀ x ∈ pre ++ (cont 0 ++ (cont 1 ++ (cont 2 ++ mid))), x ≠ .scalars) ∧ ∀ x ∈ body, x ≠ .vectors)
    (hN : ∀ a, a < 3 → 1 ≤ N a) (hc : ∀ a, a < 3 → 0 < c a)
    (hfirst : ∀ a, a < 3 → 1 ≤ (first a).length ∧ (first a).getD 0 0 = o a ∧
      (1 < N a → 1 < (first a).length ∧ (first a).getD 1 0 = o a + c a) ∧ (N a = 1 → (first a).length = 1))
    (hsub : loadSubs { region := plainRegion (tab 3 (fun a => o a - legCe N c a * (1/2)))
                                  (tab 3 (fun a => o a - legCe N c a * (1/2) + (N a : Rat) * legCe N c a)),
                       n := [N 0, N 1, N 2], bc := "", subs := [] } sidecar = .ok m1)
    (f' : Fld) (hf' : legacyRead (legacyFileBody pre mid N first cont vec body) sidecar = .ok f') :
    f'.mesh = m1 ∧ f'.mesh.n = [N 0, N 1, N 2] ∧ f'.nvdim = (if vec then 3 else 1) ∧
    f'.vdims = (if vec then some ["x", "y", "z"] else none) ∧
    ∀ idx, inRange [N 0, N 1, N 2] idx = true →
      f'.data.get idx = cellAfter (if vec then 3 else 1) body (flatF [N 0, N 1, N 2] idx)
        (List.replicate (if vec then 3 else 1) 0) ∧
      f'.valid.get idx = true := by
  obtain ⟨d, hfill, rfl⟩ :=
    (legacyRead_body pre mid body N o c first cont vec sidecar m1 hpre hmid hcont hbody hsc hN hc hfirst hsub f').mp hf'
  obtain ⟨_, hn, _⟩ := loadSubs_geom _ _ _ hsub
  obtain ⟨_, s2, _⟩ := fill_spec _ _ _ _ _ (DFV.indicesF_nodup _) hfill
  refine ⟨rfl, hn, rfl, rfl, fun idx hi => ⟨?_, rfl⟩⟩
  have := s2 (flatF [N 0, N 1, N 2] idx) (DFV.indicesF_length _ ▸ flatF_lt _ _ hi)
  rw [DFV.indicesF_getD _ _ hi] at this
  rw [show (legacyBlank m1 vec N d).data = d from rfl, this]
  rfl

/-- a truncated vector file (3 × 1 × 2 points, four data lines, one of them a stray keyword line):
accepted; the keyword line is counted, the last two cells keep their zeros -/
example : ((legacyRead (legacyFileBody [.alpha, .alpha] [.alpha] (fun a => [3, 1, 2].getD a 0)
      (fun a => [[0, 1/2, 1], [5], [-1, 1]].getD a []) (fun _ => []) true
      [.nums [1, 0, 0], .alpha, .nums [7], .nums [4, 5, 6]]) none).toOption.map
        fun f => (f.mesh.n, [f.data.get [0, 0, 0], f.data.get [1, 0, 0], f.data.get [2, 0, 0], f.data.get [0, 0, 1],
                  f.data.get [1, 0, 1]])) =
    some ([3, 1, 2], [[1, 0, 0], [0, 0, 0], [7, 7, 7], [4, 5, 6], [0, 0, 0]]) := by decide +kernel

/-- the same file with a blank line, or a two-number line, among the first six lines is refused -/
example : (legacyRead (legacyFileBody [.alpha, .alpha] [.alpha] (fun a => [3, 1, 2].getD a 0)
      (fun a => [[0, 1/2, 1], [5], [-1, 1]].getD a []) (fun _ => []) true
      [.nums [1, 0, 0], .junk, .nums [7], .nums [4, 5, 6]]) none).toOption = none ∧
    (legacyRead (legacyFileBody [.alpha, .alpha] [.alpha] (fun a => [3, 1, 2].getD a 0)
      (fun a => [[0, 1/2, 1], [5], [-1, 1]].getD a []) (fun _ => []) true
      [.nums [1, 0, 0], .nums [1, 2], .nums [7], .nums [4, 5, 6]]) none).toOption = none := by
  constructor <;> decide +kernel

/-! ### lookups for any labels, side-cars with arbitrary entries, text form without side-car from
an error bound -/

/-- **The per-label scalar arrays for any distinct labels (D61 at grid level, exactly).**  For a
field with several components and ANY distinct labels, `GetArray(l)` of the grid is the scalar
array of the component labelled `l` **if and only if** `l` is neither `field` nor `valid` (for
those names it is the vector array / the flags: the component's scalar array has been replaced);
and whenever it is, it carries at the id of every cell that component of the cell. -/
theorem component_arrays_any_labels (f : Fld) (nx ny nz : Nat) (h : WFc f nx ny nz) (hnv : 1 < f.nvdim)
    (vs : List String) (hvs : f.vdims = some vs) (c : Nat) (hc : c < vs.length) :
    ∃ g, toVtk f = .ok g ∧
      (g.arr (vs.getD c "") = some (compVArr f vs (vs.getD c "")) ↔ (vs.getD c "" ≠ "field" ∧ vs.getD c "" ≠ "valid")) ∧
      ∀ idx, inRange [nx, ny, nz] idx = true →
        (compVArr f vs (vs.getD c "")).tuple (flatF [nx, ny, nz] idx) = [(f.data.get idx).getD c 0] := by
  obtain ⟨vs', hvs', _, hd⟩ := h.labels hnv
  rw [hvs] at hvs'; cases hvs'
  have hl : vs.getD c "" ∈ vs := getD_mem vs c "" hc
  obtain ⟨g, hg, _, hgf, hgv, _⟩ := grid_any_labels f nx ny nz h
  refine ⟨g, hg, ?_, ?_⟩
  · constructor
    · intro he
      constructor
      · intro e
        rw [e, hgf] at he
        injection he with he
        have : (fieldVArr f).ncomp = (compVArr f vs "field").ncomp := by rw [he]
        have h1 : (fieldVArr f).ncomp = f.nvdim := rfl
        have h2 : (compVArr f vs "field").ncomp = 1 := rfl
        omega
      · intro e
        rw [e, hgv] at he
        injection he with he
        have : (validVArr f).int = (compVArr f vs "valid").int := by rw [he]
        cases this
    · rintro ⟨h1, h2⟩
      obtain rfl := toVtk_gridc f nx ny nz h g hg
      exact cellData_label f hnv vs hvs _ hl h1 h2
  · intro idx hi
    rw [comp_tuple f nx ny nz h.dshape vs _ idx hi, indexOf?_getD vs c hc hd]
    rfl

/-- **`vtk_lookup` for any distinct labels.**  Nothing about the labels is needed for the
position ↔ value association: for every 3-d field as the constructor leaves it and every point
`p` of the closed region, `point2index` accepts `p`, the grid lookup finds the cell with the
structured id of that mesh cell, and there `field` holds the cell's vector and `valid` its flag. -/
theorem vtk_lookup_any_labels (f : Fld) (nx ny nz : Nat) (h : WFc f nx ny nz) (p : List Rat)
    (hp : f.mesh.region.containsExact p) :
    ∃ g idx, toVtk f = .ok g ∧ f.mesh.point2index p = .ok idx ∧ inRange [nx, ny, nz] idx = true ∧
      C01.inCell f.mesh idx p ∧ locate g p = some (flatF [nx, ny, nz] idx) ∧
      (∃ a, g.arr "field" = some a ∧ a.ncomp = f.nvdim ∧
        a.tuple (flatF [nx, ny, nz] idx) = tab f.nvdim fun c => (f.data.get idx).getD c 0) ∧
      (∃ a, g.arr "valid" = some a ∧ a.int = true ∧
        a.tuple (flatF [nx, ny, nz] idx) = [if f.valid.get idx then 1 else 0]) := by
  obtain ⟨idx, hpi, hir, hic⟩ := C01.point_index_contains f.mesh h.mesh p hp
  rw [h.n] at hir
  have hl := lookup_point f.mesh nx ny nz h.mesh h.n (cellData f) p hp idx hpi
  obtain ⟨g, hg, _, hgf, hgv, hval⟩ := grid_any_labels f nx ny nz h
  obtain rfl := toVtk_gridc f nx ny nz h g hg
  exact ⟨_, idx, hg, hpi, hir, hic, hl, ⟨_, hgf, rfl, (hval idx hir).1⟩, ⟨_, hgv, rfl, (hval idx hir).2⟩⟩

/-- the hypotheses are met by the D61 example (labels `["field", "b"]`) at a point of its region:
the cell found at `(1/2, 3, 5/4)` is cell 3 and `field` holds `(7, 1/2)` there -/
example : ((toVtk { exField with vdims := some ["field", "b"] }).toOption.bind fun g =>
      (locate g [1/2, 3, 5/4]).bind fun id => (g.arr "field").map fun a => (id, a.tuple id, g.cell.map fun a => a.name)) =
    some (3, [7, 1/2], ["norm", "field", "b", "valid"]) := by decide +kernel

/-- **The side-car loads exactly when every entry is a well-formed region that passes the
setter's test** — for ANY entries (no assumption): an entry with unordered or missing corners,
mismatching lengths or duplicate axis names refuses the whole read, as does one that does not fit
the mesh. -/
theorem sidecar_loads_iff_any (m : Mesh) (l : List (String × Region)) :
    (∃ m1, loadSubs m (some l) = .ok m1) ↔ ∀ p ∈ l, p.2.Inv ∧ T.candOk m p.2 = true := by
  simp only [loadSubs_some_ok_iff, exists_and_left, exists_eq, and_true]

/-- **Text form without side-car: acceptance from the inputs.**  If the text writer's rounding has
relative error at most `ε` and on every axis the edge is longer than `ε·(|pmin| + |pmax|)` (ten
significant digits: regions whose edges are not ten orders of magnitude smaller than their
offset), then for every well-formed field the text file written with `save_subregions=False` is
read back: same counts, no subregions, corners and every value within `ε` relative, flags exact.
No hypothesis on the result of any intermediate step. -/
theorem text_roundtrip_no_sidecar (f : Fld) (nx ny nz : Nat) (h : WF f nx ny nz) (rnd : Rat → Rat) (ε : Rat)
    (hε : ∀ x, |rnd x - x| ≤ ε * |x|)
    (hedge : ∀ a, a < 3 → ε * (|f.mesh.region.lo a| + |f.mesh.region.hi a|) < f.mesh.region.hi a - f.mesh.region.lo a) :
    ∃ v f', toFile f "txt" false rnd = .ok v ∧ fromFile v = .ok f' ∧ f'.mesh.n = [nx, ny, nz] ∧ f'.mesh.subs = [] ∧
      (∀ a, a < 3 → |f'.mesh.region.lo a - f.mesh.region.lo a| ≤ ε * |f.mesh.region.lo a| ∧
                    |f'.mesh.region.hi a - f.mesh.region.hi a| ≤ ε * |f.mesh.region.hi a|) ∧
      ∀ idx, inRange [nx, ny, nz] idx = true →
        (∀ c, c < f.nvdim → |(f'.data.get idx).getD c 0 - (f.data.get idx).getD c 0| ≤ ε * |(f.data.get idx).getD c 0|) ∧
        f'.valid.get idx = f.valid.get idx := by
  have hlt : ∀ a, a < 3 → rnd (f.mesh.region.lo a) < rnd (f.mesh.region.hi a) :=
    fun a ha => rnd_keeps_order rnd ε _ _ hε (hedge a ha)
  obtain ⟨v, f', a1, a2, a3, a4, a5⟩ := text_keeps_digits f nx ny nz h false rnd ε hε hlt _ rfl
  refine ⟨v, f', a1, a2, a3, ?_, a4, a5⟩
  obtain ⟨v', f'', c1, c2, c3, _⟩ := file_roundtrip_text f nx ny nz h false rnd hlt _ rfl
  rw [a1] at c1
  injection c1 with c1
  subst c1
  rw [a2] at c2
  injection c2 with c2
  subst c2
  rw [c3]

/-- the bound is met by the example field with an exact writer (`ε = 0`) -/
example : ∀ a, a < 3 → (0 : Rat) * (|exField.mesh.region.lo a| + |exField.mesh.region.hi a|) <
    exField.mesh.region.hi a - exField.mesh.region.lo a := by
  intro a ha
  have : a = 0 ∨ a = 1 ∨ a = 2 := by omega
  rcases this with rfl | rfl | rfl <;> decide +kernel

end DFV.C16
