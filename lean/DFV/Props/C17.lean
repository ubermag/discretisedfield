import DFV.Lemmas.C17Examples2
import DFV.Lemmas.C17Fast
import DFV.Lemmas.C17Export
import DFV.Lemmas.C17Hist
/-!
# C17 — xarray export/import is lossless and uses cell centres as coordinates

Property theorems about the model of `Field.to_xarray` / `Field.from_xarray`
(`DFV/Model/C17.lean`).  Number of dimensions, corners, cell counts, dimension names, units,
tolerance factor, component count, labels, dtype tag and the values themselves (any type `α`:
the code only moves them) are universally quantified; so is the set of attribute names of
`Field` the `vdims` setter tests labels against (`[FieldAttrs]`), and the history of in-place
`field.mesh.translate/scale` calls before an export (`MeshOp` lists, by induction).  `f.WF` is
what the constructors of `Region`, `Mesh`, `Field` guarantee (plus: no spatial dimension is
called `vdims`): proved of constructor-built fields (`wf_of_constructors`), of everything the
importer returns (`import_wf`) and kept by every in-place history (`inplace_history_wf`); the
driver evaluates the same predicate on every real field of the correspondence run.
-/
namespace DFV.C17
open DFV

section
variable [FieldAttrs] {α : Type}

/-! ## Export -/

/-- **Coordinates are the cell centres, with the region's units.**  Axis `a` of the exported
DataArray is called like the region's dimension `a`, has one coordinate per cell, coordinate
`j` is the centre `pmin + (j+½)·cell` of cell `j` (the `centreAx` of C01), and its `units`
attribute is the region's unit on that axis. -/
theorem export_coords (f : XFld α) (hf : f.WF) (nm : String) (u : PyArg) (hu : u ≠ .other) :
    ∃ xa, toXarray f (.str nm) u = .ok xa ∧
      ∀ a, a < f.mesh.ndim →
        xa.axes.getD a default =
          { name := f.mesh.region.dims.getD a "", size := f.mesh.nAt a,
            coord := some { vals := tab (f.mesh.nAt a) fun j => f.mesh.centreAx a (j : Int),
                            units := some (f.mesh.region.units.getD a "") } } := by
  exact ⟨exported f nm u, toXarray_ok f nm u hu, fun a ha => exported_axis f hf nm u a ha⟩

omit [FieldAttrs] in
/-- **Every coordinate lies strictly inside its own cell** and the mesh maps it back to the
index it came from (`Mesh.point2index` per axis, C01): the exported coordinates select
exactly the cells they label. -/
theorem export_coords_index (m : Mesh) (hm : m.Inv) (a : Nat) (ha : a < m.ndim) (j : Nat) (hj : j < m.nAt a) :
    m.region.lo a + (j : Rat) * m.cellAt a < m.centreAx a (j : Int) ∧
    m.centreAx a (j : Int) < m.region.lo a + ((j : Rat) + 1) * m.cellAt a ∧
    m.indexAx a (m.centreAx a (j : Int)) = j := by
  have hc := hm.cellAt_pos ha
  exact ⟨(C01.centreAx_between m a j hc).1, (C01.centreAx_between m a j hc).2, C01.indexAx_centreAx m a j hj hc⟩

/-- **Layout of the export**: dimensions = the region's (plus `vdims` exactly for vector
fields), the label coordinate lists the component labels, the attributes carry unit, cell
size, corners, component count (a Python int) and tolerance factor, the data are the field
array (component axis squeezed for scalar fields), name and dtype as given. -/
theorem export_layout (f : XFld α) (hf : f.WF) (nm : String) (u : PyArg) :
    (exported f nm u).dims = f.mesh.region.dims ++ (if 1 < f.nvdim then ["vdims"] else []) ∧
    (exported f nm u).vdimsCoord = (if 1 < f.nvdim then f.vdims else none) ∧
    (exported f nm u).attrs = { units := exportUnit u f.unit, cell := some f.mesh.cell,
                                pmin := some f.mesh.region.pmin, pmax := some f.mesh.region.pmax,
                                nvdim := some (.int f.nvdim), tol := some f.mesh.region.tol } ∧
    (1 < f.nvdim → (exported f nm u).data = f.data) ∧
    (f.nvdim = 1 → (exported f nm u).data.shape = f.mesh.n ∧
      ∀ i, (exported f nm u).data.get i = f.data.get (i ++ [0])) ∧
    (exported f nm u).name = nm ∧ (exported f nm u).dtype = f.dtype := by
  refine ⟨?_, rfl, rfl, ?_, ?_, rfl, rfl⟩
  · unfold XA.dims exported exportAxes
    simp only [List.map_append, tab_map]
    congr 1
    · exact tab_getD_self _ _
    · split <;> rfl
  · intro h; unfold exported exportData; simp only [h, if_true]
  · intro h
    have h1 : ¬ (1 < f.nvdim) := by omega
    have e : (exported f nm u).data = ⟨f.data.shape.dropLast, fun i => f.data.get (i ++ [0])⟩ := by
      show exportData f = _
      unfold exportData; rw [if_neg h1]
    rw [e]
    exact ⟨by show f.data.shape.dropLast = _; rw [hf.shape, List.dropLast_concat], fun _ => rfl⟩

omit [FieldAttrs] in
/-- the attribute `units` is the `unit` argument if it is a non-empty string, else the field's -/
theorem export_unit (s : String) (fu : Option String) :
    exportUnit (.str s) fu = (if s = "" then fu else some s) ∧ exportUnit .none fu = fu := ⟨rfl, rfl⟩

omit [FieldAttrs] in
/-- non-string `name` (also `None`) or non-string `unit` → `TypeError` -/
theorem export_rejects_bad_args (f : XFld α) (name unit : PyArg) (h : (∀ s, name ≠ .str s) ∨ unit = .other) :
    toXarray f name unit = .error .type := by
  unfold toXarray
  cases name with
  | str s => rcases h with h | h
             · exact absurd rfl (h s)
             · simp [h]
  | none => rfl
  | other => rfl

omit [FieldAttrs] in
/-- **The export succeeds exactly on string arguments**: `to_xarray(name, unit)` returns a
DataArray iff `name` is a string and `unit` is a string or `None` — whatever the field. -/
theorem export_ok_iff (f : XFld α) (name unit : PyArg) :
    (∃ xa, toXarray f name unit = .ok xa) ↔ (∃ s, name = .str s) ∧ unit ≠ .other := by
  constructor
  · rintro ⟨xa, h⟩
    cases name with
    | none => cases h
    | other => cases h
    | str s =>
      refine ⟨⟨s, rfl⟩, ?_⟩
      intro hu
      rw [export_rejects_bad_args f (.str s) unit (Or.inr hu)] at h
      cases h
  · rintro ⟨⟨s, rfl⟩, hu⟩
    exact ⟨exported f s unit, toXarray_ok f s unit hu⟩

/-! ## Import of an export -/

/-- **Round trip.**  For every well-formed field, any name and unit argument: exporting and
importing succeeds and returns a field on the same region (corners, dimension names, units,
tolerance factor) with the same cell counts, component count, array shape, the same value at
every cell and component (hence the same flattened content), the same dtype tag — and the
same labels, provided the field is a labelled vector field or an unlabelled scalar field
(`LabelsStd`; see `xa_roundtrip_labels_iff`). -/
theorem xa_roundtrip (f : XFld α) (hf : f.WF) (nm : String) (u : PyArg) (hu : u ≠ .other) :
    ∃ xa g, toXarray f (.str nm) u = .ok xa ∧ fromXarray (.dataArray xa) = .ok g ∧
      g.mesh.region = f.mesh.region ∧ g.mesh.n = f.mesh.n ∧ g.nvdim = f.nvdim ∧
      g.data.shape = f.data.shape ∧ (∀ i, inRange f.data.shape i = true → g.data.get i = f.data.get i) ∧
      g.data.toList = f.data.toList ∧ g.dtype = f.dtype ∧ (LabelsStd f → g.vdims = f.vdims) := by
  obtain ⟨g, hg, h⟩ := fromXA_exported hf nm u
  refine ⟨exported f nm u, g, toXarray_ok f nm u hu, hg, by rw [h.mesh], by rw [h.mesh], h.nvdim, h.values.1,
    h.values.2, NDA.toList_congr h.data.1 h.data.2, h.dtype, h.labels hf⟩

/-- **Exactly which labels survive.**  The imported field has the labels of the original if
and only if the original is a vector field with labels or a scalar field without: a vector
field WITHOUT labels comes back with the default labels, a scalar field WITH a label comes
back without (the exporter writes the label coordinate only for `nvdim > 1`, the importer
applies the constructor's defaults). -/
theorem xa_roundtrip_labels_iff (f : XFld α) (hf : f.WF) (nm : String) (u : PyArg) (g : XFld α)
    (hg : fromXarray (.dataArray (exported f nm u)) = .ok g) : g.vdims = f.vdims ↔ LabelsStd f := by
  rw [(fromXA_exported_of hf nm u g hg).vdims]
  exact vdimsAfter_eq_iff hf

/-- the unlabelled vector field, explicitly: it comes back labelled `x,y(,z)` / `v0,v1,…` -/
theorem xa_roundtrip_unlabelled (f : XFld α) (hf : f.WF) (nm : String) (u : PyArg) (h1 : 1 < f.nvdim)
    (hn : f.vdims = none) :
    ∃ g, fromXarray (.dataArray (exported f nm u)) = .ok g ∧ g.vdims = Fld.defaultVdims f.nvdim ∧ g.vdims ≠ f.vdims := by
  obtain ⟨g, hg, h⟩ := fromXA_exported hf nm u
  refine ⟨g, hg, ?_, ?_⟩
  · rw [h.vdims]; unfold vdimsAfter; simp only [h1, if_true, hn]
  · rw [h.vdims, hn]
    exact vdimsAfter_ne_none h1

/-- what `from_xarray` does not restore (none of it is in the property's list): the imported
field has no unit, every cell valid, the default component-to-axis mapping, no boundary
conditions and no subregions — whatever the exported field had. -/
theorem xa_not_restored (f : XFld α) (hf : f.WF) (nm : String) (u : PyArg) (g : XFld α)
    (hg : fromXarray (.dataArray (exported f nm u)) = .ok g) :
    g.unit = none ∧ g.valid = NDA.const f.mesh.n true ∧ g.mesh.bc = "" ∧ g.mesh.subs = [] ∧
    g.vmap = defaultVmap f.nvdim f.mesh.region.dims g.vdims := by
  have h := fromXA_exported_of hf nm u g hg
  exact ⟨h.unit, h.valid, by rw [h.mesh], by rw [h.mesh], by rw [h.vmap, h.vdims]⟩

/-! ## Import without the geometric attributes -/

/-- **Rebuild from the coordinates.**  Remove ANY subset of `cell` / `pmin` / `pmax` from an
exported DataArray (`c p q` say which).  If `cell` is removed, every axis must have at least
two cells.  Then the importer rebuilds exactly the original region (in ℚ: outermost centre
∓ half the mean spacing = the original corners) and cell counts, and values, labels and dtype
tag are as in `xa_roundtrip`. -/
theorem xa_rebuild (f : XFld α) (hf : f.WF) (nm : String) (u : PyArg) (c p q : Bool)
    (hc : c = true → ∀ a, a < f.mesh.ndim → 2 ≤ f.mesh.nAt a) :
    ∃ g, fromXarray (.dataArray (eraseGeom c p q (exported f nm u))) = .ok g ∧
      g.mesh.region = f.mesh.region ∧ g.mesh.n = f.mesh.n ∧ g.nvdim = f.nvdim ∧
      g.data.shape = f.data.shape ∧ (∀ i, inRange f.data.shape i = true → g.data.get i = f.data.get i) ∧
      g.dtype = f.dtype ∧ (LabelsStd f → g.vdims = f.vdims) := by
  obtain ⟨g, hg, h⟩ := fromXA_likeExport hf ((likeExport_exported hf nm u).eraseGeom c p q)
    (fun hn => hc (by cases c; cases hn; rfl))
  have hm := h.mesh.trans (meshBack_exported hf nm u c p q)
  exact ⟨g, hg, by rw [hm], by rw [hm], h.nvdim, h.values.1, h.values.2, h.dtype, h.labels hf⟩

/-- **Defaults for the remaining attributes.**  With `tolerance_factor` removed as well the
region gets the default factor (the binary64 `1e-12`); with the `units` attribute removed
from the coordinate of at least one axis (`sel` picks the dimensions) every axis gets the
default unit `m`; corners, names and cell counts are rebuilt as before. -/
theorem xa_rebuild_defaults (f : XFld α) (hf : f.WF) (nm : String) (u : PyArg) (c p q : Bool)
    (hc : c = true → ∀ a, a < f.mesh.ndim → 2 ≤ f.mesh.nAt a) (sel : String → Bool) :
    ∃ g, fromXarray (.dataArray (eraseUnits sel (eraseTol (eraseGeom c p q (exported f nm u))))) = .ok g ∧
      g.mesh.region.pmin = f.mesh.region.pmin ∧ g.mesh.region.pmax = f.mesh.region.pmax ∧
      g.mesh.region.dims = f.mesh.region.dims ∧ g.mesh.n = f.mesh.n ∧ g.mesh.region.tol = defaultTol ∧
      ((∃ a, a < f.mesh.ndim ∧ sel (f.mesh.region.dims.getD a "") = true) →
        g.mesh.region.units = List.replicate f.mesh.ndim "m") ∧
      ((∀ a, a < f.mesh.ndim → sel (f.mesh.region.dims.getD a "") = false) →
        g.mesh.region.units = f.mesh.region.units) := by
  obtain ⟨g, hg, h⟩ := fromXA_likeExport hf ((((likeExport_exported hf nm u).eraseGeom c p q).eraseTol).eraseUnits sel)
    (fun hn => hc (by cases c; cases hn; rfl))
  have hgeo : geo (eraseTol (eraseGeom c p q (exported f nm u))) = tab f.mesh.ndim (exportAxis f.mesh) :=
    (geo_eraseTol _).trans ((geo_eraseGeom c p q _).trans (geo_exported hf nm u))
  obtain ⟨e1, e2, e3, e4, hu, e6⟩ := h.geometry
  refine ⟨g, hg, e1, e2, e3, e4, e6, ?_, ?_⟩
  · rintro ⟨a, ha, hs⟩
    rw [hu, unitsUsed_eraseUnits_sel sel _ (exportAxis f.mesh a) (by rw [hgeo]; exact (mem_tab _ _ _).mpr ⟨a, ha, rfl⟩) hs,
      hgeo, tab_length]
  · intro hs
    rw [hu, unitsUsed_eraseUnits_none sel _ fun ax hax => by
      rw [hgeo] at hax; obtain ⟨a, ha, rfl⟩ := (mem_tab _ _ _).mp hax; exact hs a ha]
    exact unitsUsed_exported hf nm u

omit [FieldAttrs] in
/-- **Rebuild from coordinates, ANY DataArray** (hand-built, not necessarily exported): if the
geometric axes have distinct names and evenly spaced coordinates `v0, v0+h, …` with `h > 0`
and at least two coordinates each, and `cell`, `pmin`, `pmax` are all absent, the geometry
steps of the importer succeed and the mesh reaches exactly half a step beyond the outermost
coordinates, with one cell per coordinate, the axes' names, and the tolerance factor of the
attribute (default `1e-12`). -/
theorem rebuild_from_coords (xa : XA α) (d : Nat) (G : Nat → Axis) (hgeo : geo xa = tab d G) (hd : 0 < d)
    (v0 h : Nat → Rat) (n : Nat → Nat)
    (hval : ∀ a, a < d → (G a).values = tab (n a) fun j => v0 a + (j : Rat) * h a)
    (hh : ∀ a, a < d → 0 < h a) (hn : ∀ a, a < d → 2 ≤ n a)
    (hnames : hasDup (tab d fun a => (G a).name) = false)
    (hcell : xa.attrs.cell = none) (hpmin : xa.attrs.pmin = none) (hpmax : xa.attrs.pmax = none)
    (hshape : ∀ x ∈ xa.data.shape.dropLast, x ≠ 1) :
    ∃ m, geometryOf xa = .ok m ∧
      m.region.pmin = (tab d fun a => v0 a - h a / 2) ∧
      m.region.pmax = (tab d fun a => v0 a + ((n a : Rat) - 1) * h a + h a / 2) ∧
      m.n = tab d n ∧ m.region.dims = (tab d fun a => (G a).name) ∧
      m.region.tol = xa.attrs.tol.getD defaultTol :=
  ⟨_, geometry_from_coords xa d G hgeo hd v0 h n
    (fun a ha => hval a ha ▸ Spaced.ap _ _ _ (le_of_lt (hn a ha))) hh (fun a ha => le_of_lt (hn a ha)) hnames
    (Or.inl hcell) (Or.inl hpmin) (Or.inl hpmax) fun _ => ⟨hn, hshape⟩, rfl, rfl, rfl, rfl, rfl⟩

/-- **Import of a hand-built DataArray, values included.**  Evenly spaced coordinates on
distinctly named axes (at least two each), none of `cell`/`pmin`/`pmax`, an integer `nvdim = k
≥ 1`, data of shape `(*n)` (scalar) or `(*n, k)` with the `vdims` axis last, labels absent or
`k` distinct strings: the import succeeds, the mesh spans half a step beyond the outermost
coordinates with one cell per coordinate, every value sits at its own cell and component, the
dtype tag is kept, the labels are the coordinate's or the defaults. -/
theorem import_hand_built (xa : XA α) (d : Nat) (G : Nat → Axis) (hgeo : geo xa = tab d G) (hd : 0 < d)
    (v0 h : Nat → Rat) (n : Nat → Nat)
    (hval : ∀ a, a < d → (G a).values = tab (n a) fun j => v0 a + (j : Rat) * h a)
    (hh : ∀ a, a < d → 0 < h a) (hn : ∀ a, a < d → 2 ≤ n a)
    (hnames : hasDup (tab d fun a => (G a).name) = false)
    (hcell : xa.attrs.cell = none) (hpmin : xa.attrs.pmin = none) (hpmax : xa.attrs.pmax = none)
    (k : Nat) (hk : 1 ≤ k) (hnv : xa.attrs.nvdim = some (.int k)) (hvd : 1 < k → "vdims" ∈ xa.dims)
    (hshape : xa.data.shape = tab d n ++ (if 1 < k then [k] else []))
    (hlab : ∀ l, xa.vdimsCoord = some l → l.length = k ∧ hasDup l = false ∧ l.any FieldAttrs.has = false) :
    ∃ g, fromXarray (.dataArray xa) = .ok g ∧
      g.mesh.region.pmin = (tab d fun a => v0 a - h a / 2) ∧
      g.mesh.region.pmax = (tab d fun a => v0 a + ((n a : Rat) - 1) * h a + h a / 2) ∧
      g.mesh.n = tab d n ∧ g.mesh.region.dims = (tab d fun a => (G a).name) ∧ g.nvdim = k ∧
      g.data.shape = tab d n ++ [k] ∧
      (∀ i, inRange (tab d n ++ [k]) i = true → g.data.get i = xa.data.get (if 1 < k then i else i.dropLast)) ∧
      g.dtype = xa.dtype ∧
      g.vdims = (match xa.vdimsCoord with | some l => some l | none => Fld.defaultVdims k) :=
  import_from_coords xa d G hgeo hd v0 h n hval hh (fun a ha => le_of_lt (hn a ha)) hnames
    (Or.inl hcell) (Or.inl hpmin) (Or.inl hpmax) (fun _ => hn) k hk hnv hvd hshape hlab

/-- the importer is: component-count checks, then these geometry steps, then `Field(…)` -/
theorem import_factors (xa : XA α) :
    fromXarray (.dataArray xa) =
      (checkNvdim xa.attrs.nvdim xa.dims).bind fun k => (geometryOf xa).bind fun m => fieldOf xa m k :=
  fromXA_eq xa

/-! ## Rejections -/

/-- **A single-cell axis needs the `cell` attribute** — for every DataArray: no `cell`
attribute and a geometric axis with fewer than two coordinates ⇒ error. -/
theorem xa_single_cell_needs_cell (xa : XA α) (hc : xa.attrs.cell = none) (ax : Axis) (hax : ax ∈ geo xa)
    (hl : ax.values.length ≤ 1) : ∃ e, fromXarray (.dataArray xa) = .error e :=
  fromXA_single_no_cell xa hc ax hax hl

/-- For exports in particular: a field with a single-cell axis, `cell` removed (whatever
else is removed) is rejected, while keeping `cell` is enough (`xa_rebuild` with `c = false`
has no condition on the cell counts). -/
theorem xa_export_single_cell_rejected (f : XFld α) (hf : f.WF) (nm : String) (u : PyArg) (p q : Bool)
    (a : Nat) (ha : a < f.mesh.ndim) (h1 : f.mesh.nAt a = 1) :
    ∃ e, fromXarray (.dataArray (eraseGeom true p q (exported f nm u))) = .error e := by
  apply fromXA_single_no_cell _ rfl (exportAxis f.mesh a)
  · rw [geo_eraseGeom, geo_exported hf nm u]
    exact (mem_tab _ _ _).mpr ⟨a, ha, rfl⟩
  · rw [show (exportAxis f.mesh a).values = f.mesh.cells.getD a [] from rfl, cells_eq_ap _ a ha, ap_length, h1]

/-- not a DataArray → `TypeError` -/
theorem rejects_non_dataarray : fromXarray (PyObj.other : PyObj α) = .error .type := rfl

/-- missing component count → `KeyError` -/
theorem rejects_missing_nvdim (xa : XA α) (h : xa.attrs.nvdim = none) :
    fromXarray (.dataArray xa) = .error .key :=
  fromXA_of_checkNvdim_error xa _ ((checkNvdim_err_iff _ _).1.mpr h)

/-- component count below one → `ValueError` -/
theorem rejects_nvdim_lt_one (xa : XA α) (k : Int) (h : xa.attrs.nvdim = some (.int k)) (hk : k < 1) :
    fromXarray (.dataArray xa) = .error .value :=
  fromXA_of_checkNvdim_error xa _ ((checkNvdim_err_iff _ _).2.2.mpr (Or.inr ⟨k, h, Or.inl hk⟩))

/-- component count that is not a Python int (a float, a numpy integer) → error -/
theorem rejects_nvdim_not_int (xa : XA α) (q : Rat) (h : xa.attrs.nvdim = some (.other q)) :
    ∃ e, fromXarray (.dataArray xa) = .error e := by
  rcases lt_or_ge q 1 with hq | hq
  · exact ⟨_, fromXA_of_checkNvdim_error xa _ ((checkNvdim_err_iff _ _).2.2.mpr (Or.inl ⟨q, h, hq⟩))⟩
  · exact ⟨_, fromXA_of_checkNvdim_error xa _ ((checkNvdim_err_iff _ _).2.1.mpr ⟨q, h, hq⟩)⟩

/-- vector field without a `vdims` dimension → `ValueError` -/
theorem rejects_vector_without_vdims (xa : XA α) (k : Int) (h : xa.attrs.nvdim = some (.int k)) (hk : 1 < k)
    (hd : ¬ "vdims" ∈ xa.dims) : fromXarray (.dataArray xa) = .error .value :=
  fromXA_vector_no_vdims xa k h hk hd

omit [FieldAttrs] in
/-- **The component-count checks, exactly**: `from_xarray` gets past its first block of checks
with component count `k` iff the attribute `nvdim` is the Python int `k`, `k ≥ 1`, and — for
`k > 1` — the DataArray has a dimension called `vdims`.  (Missing attribute, non-int, `< 1`,
vector without component axis: each is an error, see `rejects_*`.) -/
theorem component_count_accepted_iff (nv : Option NvAttr) (dims : List String) (k : Nat) :
    checkNvdim nv dims = .ok k ↔ (1 ≤ k ∧ nv = some (.int k) ∧ (1 < k → "vdims" ∈ dims)) :=
  checkNvdim_eq_ok_iff nv dims k

/-- **A label that names an attribute of `Field` is rejected** (the `hasattr` test of the
`vdims` setter), for every DataArray and whatever the set of attribute names is. -/
theorem rejects_reserved_label (xa : XA α) (l : List String) (hv : xa.vdimsCoord = some l) (c : String)
    (hc : c ∈ l) (hr : FieldAttrs.has c = true) : ∃ e, fromXarray (.dataArray xa) = .error e := by
  refine err_of_not_ok _ fun g hg => ?_
  obtain ⟨k, m, -, -, h3⟩ := (fromXA_eq_ok_iff xa g).mp hg
  rcases ((fieldOf_ok_iff xa m k).mp ⟨g, h3⟩).2 l hv with rfl | ⟨-, -, h⟩
  · cases hc
  · exact List.any_eq_false.mp h c hc hr

/-- **Unevenly spaced coordinates are rejected, at every length scale**: if on some geometric
axis one spacing deviates from the mean spacing by more than `1e-5·|mean|` (a purely relative
threshold), the import fails, whatever attributes are present. -/
theorem rejects_uneven (xa : XA α) (ax : Axis) (hax : ax ∈ geo xa) (j : Nat) (hj : j + 1 < ax.values.length)
    (hdev : 1/100000 * absR (meanDiff ax.values)
              < absR ((ax.values.getD (j + 1) 0 - ax.values.getD j 0) - meanDiff ax.values)) :
    ∃ e, fromXarray (.dataArray xa) = .error e :=
  fromXA_uneven xa ax hax (evenB_false_of_dev _ j hj hdev)

omit [FieldAttrs] in
/-- **The spacing test is scale-invariant**: multiplying all coordinates by any positive
factor (metres → nanometres), or shifting them, does not change whether they count as evenly
spaced … -/
theorem spacing_test_scale_invariant (s t : Rat) (hs : 0 < s) (v : List Rat) :
    evenB (v.map (s * ·)) = evenB v ∧ evenB (v.map (· + t)) = evenB v :=
  ⟨evenB_scale_ne s hs.ne' v, evenB_shift t v⟩

omit [FieldAttrs] in
/-- The importer's spacing verdict on a DataArray is the same after a change of
length unit of its coordinates (so there is no absolute threshold below which spacings go untested: the nanometre
witness `exNm` is rejected like its metre-scale copy `exM`). -/
theorem spacing_check_scale_invariant (s : Rat) (hs : 0 < s) (xa : XA α) :
    checkSpacing (scaleCoords s xa) = checkSpacing xa :=
  checkSpacing_scale_ne s hs.ne' xa

/-! ## The spacing test against its specification -/

omit [FieldAttrs] in
/-- **The spacing test is its specification**: the code-shaped test (`size > 1 and not
np.allclose(np.diff(v), np.diff(v).mean(), atol=0)`, negated) accepts a coordinate exactly when
every step `v[j+1] - v[j]` lies within `1e-5·|mean step|` of the mean step — a condition on the
steps relative to the step, in which neither the position nor an absolute scale occurs. -/
theorem spacing_test_spec (v : List Rat) :
    evenB v = true ↔
      ∀ j, j + 1 < v.length →
        absR ((v.getD (j + 1) 0 - v.getD j 0) - meanDiff v) ≤ 1/100000 * absR (meanDiff v) :=
  evenB_iff_spec v

omit [FieldAttrs] in
/-- the mean step the test compares with is `(last - first)/(size - 1)` (telescoping sum) -/
theorem mean_step_formula (v : List Rat) :
    meanDiff v = (v.getD (v.length - 1) 0 - v.getD 0 0) / ((v.length - 1 : Nat) : Rat) :=
  meanDiff_eq v

omit [FieldAttrs] in
/-- **Acceptance of the spacing loop, exactly**: `from_xarray` gets past the spacing loop iff
every geometric coordinate meets the specification; otherwise it raises `ValueError`. -/
theorem spacing_accept_iff (xa : XA α) :
    (checkSpacing xa = .ok () ↔
      ∀ ax ∈ geo xa, ∀ j, j + 1 < ax.values.length →
        absR ((ax.values.getD (j + 1) 0 - ax.values.getD j 0) - meanDiff ax.values)
          ≤ 1/100000 * absR (meanDiff ax.values)) ∧
    (checkSpacing xa = .ok () ∨ checkSpacing xa = .error .value) :=
  ⟨checkSpacing_iff xa, checkSpacing_ok_or_value xa⟩

omit [FieldAttrs] in
/-- **The verdict depends on the steps only**: two coordinates of the same size with the same
steps get the same verdict, wherever they lie. -/
theorem spacing_depends_on_steps_only (v w : List Rat) (hl : v.length = w.length)
    (hs : ∀ j, j + 1 < v.length → v.getD (j + 1) 0 - v.getD j 0 = w.getD (j + 1) 0 - w.getD j 0) :
    evenB v = evenB w :=
  evenB_congr_steps v w hl hs

omit [FieldAttrs] in
/-- **Translation invariance of the acceptance test on the DataArray**: moving the coordinate of
every dimension `d` by its own offset `t d` — arbitrarily far from the origin — does not change
the verdict of the spacing loop; nor does a positive affine map `x ↦ s·x + t` of one coordinate. -/
theorem spacing_check_shift_invariant (t : String → Rat) (xa : XA α) :
    checkSpacing (shiftCoords t xa) = checkSpacing xa ∧
    ∀ (s t' : Rat), 0 < s → ∀ v : List Rat, evenB (v.map fun x => s * x + t') = evenB v :=
  ⟨checkSpacing_shift t xa, fun s t' hs v => evenB_map_affine s t' hs.ne' v⟩

omit [FieldAttrs] in
/-- **Evenly spaced coordinates are accepted**: if every geometric coordinate is an arithmetic
progression `v0, v0+h, …` — any origin, any step (also negative or zero), any length — the
spacing loop passes. -/
theorem accepts_even (xa : XA α) (v0 h : Axis → Rat) (n : Axis → Nat)
    (hap : ∀ ax ∈ geo xa, ax.values = tab (n ax) fun j => v0 ax + (j : Rat) * h ax) :
    checkSpacing xa = .ok () := by
  rw [checkSpacing_iff]
  intro ax hax
  rw [← evenB_iff_spec, hap ax hax]
  exact evenB_ap _ _ _

/-- **Uneven coordinates are rejected wherever they lie**: if a geometric coordinate is a copy,
moved by ANY offset `t`, of values `w` one of whose steps deviates from the mean step by more
than `1e-5·|mean|`, the import fails — the offset does not enter the condition. -/
theorem rejects_uneven_translated (xa : XA α) (ax : Axis) (hax : ax ∈ geo xa) (w : List Rat) (t : Rat)
    (hv : ax.values = w.map (· + t)) (j : Nat) (hj : j + 1 < w.length)
    (hdev : 1/100000 * absR (meanDiff w) < absR ((w.getD (j + 1) 0 - w.getD j 0) - meanDiff w)) :
    ∃ e, fromXarray (.dataArray xa) = .error e := by
  apply fromXA_uneven xa ax hax
  rw [hv, evenB_shift]
  exact evenB_false_of_dev _ j hj hdev

/-- **Exact threshold for one displaced coordinate**: evenly spaced coordinates (any origin `v0`,
any step `h`) whose interior coordinate `k` is displaced by `e` pass the spacing test iff
`|e| ≤ 1e-5·|h|`; so a DataArray with such a coordinate and `|e| > 1e-5·|h|` is rejected at
every distance from the origin and every length scale. -/
theorem displaced_coordinate_threshold (v0 h : Rat) (n k : Nat) (e : Rat) (hk0 : 0 < k) (hk : k + 1 < n) :
    (evenB (tab n fun j => v0 + (j : Rat) * h + (if j = k then e else 0)) = true ↔ absR e ≤ 1/100000 * absR h) ∧
    ∀ (xa : XA α) (ax : Axis), ax ∈ geo xa →
      ax.values = (tab n fun j => v0 + (j : Rat) * h + (if j = k then e else 0)) →
      1/100000 * absR h < absR e → ∃ err, fromXarray (.dataArray xa) = .error err := by
  refine ⟨evenB_apMoved v0 h n k e hk0 hk, ?_⟩
  intro xa ax hax hv hbig
  apply fromXA_uneven xa ax hax
  rw [hv, ← Bool.not_eq_true]
  exact fun hb => absurd ((evenB_apMoved v0 h n k e hk0 hk).mp hb) (not_le.mpr hbig)

omit [FieldAttrs] in
/-- **Exact threshold for a displaced END coordinate** (the mean step moves with it): evenly
spaced coordinates (any origin, any step `h`, `n ≥ 3`) whose last — or first — coordinate is
displaced by `e` pass iff `|e|·(n-2)/(n-1) ≤ 1e-5·|h ± e/(n-1)|` (`+` for the last, `-` for the
first); again no dependence on the origin.  Together with `displaced_coordinate_threshold` this
settles every position of the displaced coordinate. -/
theorem displaced_end_coordinate_threshold (v0 h : Rat) (n : Nat) (e : Rat) (hn : 3 ≤ n) :
    (evenB (tab n fun j => v0 + (j : Rat) * h + (if j = n - 1 then e else 0)) = true ↔
      absR (e * ((n : Rat) - 2) / ((n : Rat) - 1)) ≤ 1/100000 * absR (h + e / ((n : Rat) - 1))) ∧
    (evenB (tab n fun j => v0 + (j : Rat) * h + (if j = 0 then e else 0)) = true ↔
      absR (e * ((n : Rat) - 2) / ((n : Rat) - 1)) ≤ 1/100000 * absR (h - e / ((n : Rat) - 1))) :=
  ⟨evenB_apMoved_last v0 h n e hn, evenB_apMoved_first v0 h n e hn⟩

/-! ## Rebuild with any subset of the geometric attributes, any DataArray -/

omit [FieldAttrs] in
/-- **Rebuild from coordinates with ANY subset of `cell`/`pmin`/`pmax` present** (hand-built
DataArray, any number of dimensions): the geometric axes have distinct names and evenly spaced
coordinates `v0, v0+h, …` (`h > 0`, at least ONE coordinate); each of the three attributes is
either absent or says what the coordinates say; if `cell` is absent every axis has at least two
coordinates.  Then the geometry steps succeed and the mesh reaches exactly half a step beyond
the outermost coordinates with one cell per coordinate — in particular for single-cell axes
whenever `cell` is present (where the code can infer nothing from the coordinates). -/
theorem rebuild_from_coords_any_subset (xa : XA α) (d : Nat) (G : Nat → Axis) (hgeo : geo xa = tab d G) (hd : 0 < d)
    (v0 h : Nat → Rat) (n : Nat → Nat)
    (hval : ∀ a, a < d → (G a).values = tab (n a) fun j => v0 a + (j : Rat) * h a)
    (hh : ∀ a, a < d → 0 < h a) (hn : ∀ a, a < d → 1 ≤ n a)
    (hnames : hasDup (tab d fun a => (G a).name) = false)
    (hcell : xa.attrs.cell = none ∨ xa.attrs.cell = some (tab d h))
    (hpmin : xa.attrs.pmin = none ∨ xa.attrs.pmin = some (tab d fun a => v0 a - h a / 2))
    (hpmax : xa.attrs.pmax = none ∨ xa.attrs.pmax = some (tab d fun a => v0 a + ((n a : Rat) - 1) * h a + h a / 2))
    (hinfer : xa.attrs.cell = none → (∀ a, a < d → 2 ≤ n a) ∧ ∀ x ∈ xa.data.shape.dropLast, x ≠ 1) :
    ∃ m, geometryOf xa = .ok m ∧
      m.region.pmin = (tab d fun a => v0 a - h a / 2) ∧
      m.region.pmax = (tab d fun a => v0 a + ((n a : Rat) - 1) * h a + h a / 2) ∧
      m.n = tab d n ∧ m.region.dims = (tab d fun a => (G a).name) ∧
      m.region.tol = xa.attrs.tol.getD defaultTol :=
  ⟨_, geometry_from_coords xa d G hgeo hd v0 h n (fun a ha => hval a ha ▸ Spaced.ap _ _ _ (hn a ha)) hh hn hnames
    hcell hpmin hpmax hinfer, rfl, rfl, rfl, rfl, rfl⟩

/-- **Import of a hand-built DataArray with any subset of the geometric attributes, values
included**: as `rebuild_from_coords_any_subset`, plus an integer `nvdim = k ≥ 1`, data of shape
`(*n)` / `(*n, k)`, labels absent or `k` distinct strings.  The import succeeds; the mesh is as
stated; every value sits at its own cell and component; dtype tag and labels are kept. -/
theorem import_hand_built_any_subset (xa : XA α) (d : Nat) (G : Nat → Axis) (hgeo : geo xa = tab d G) (hd : 0 < d)
    (v0 h : Nat → Rat) (n : Nat → Nat)
    (hval : ∀ a, a < d → (G a).values = tab (n a) fun j => v0 a + (j : Rat) * h a)
    (hh : ∀ a, a < d → 0 < h a) (hn : ∀ a, a < d → 1 ≤ n a)
    (hnames : hasDup (tab d fun a => (G a).name) = false)
    (hcell : xa.attrs.cell = none ∨ xa.attrs.cell = some (tab d h))
    (hpmin : xa.attrs.pmin = none ∨ xa.attrs.pmin = some (tab d fun a => v0 a - h a / 2))
    (hpmax : xa.attrs.pmax = none ∨ xa.attrs.pmax = some (tab d fun a => v0 a + ((n a : Rat) - 1) * h a + h a / 2))
    (hinfer : xa.attrs.cell = none → ∀ a, a < d → 2 ≤ n a)
    (k : Nat) (hk : 1 ≤ k) (hnv : xa.attrs.nvdim = some (.int k)) (hvd : 1 < k → "vdims" ∈ xa.dims)
    (hshape : xa.data.shape = tab d n ++ (if 1 < k then [k] else []))
    (hlab : ∀ l, xa.vdimsCoord = some l → l.length = k ∧ hasDup l = false ∧ l.any FieldAttrs.has = false) :
    ∃ g, fromXarray (.dataArray xa) = .ok g ∧
      g.mesh.region.pmin = (tab d fun a => v0 a - h a / 2) ∧
      g.mesh.region.pmax = (tab d fun a => v0 a + ((n a : Rat) - 1) * h a + h a / 2) ∧
      g.mesh.n = tab d n ∧ g.mesh.region.dims = (tab d fun a => (G a).name) ∧ g.nvdim = k ∧
      g.data.shape = tab d n ++ [k] ∧
      (∀ i, inRange (tab d n ++ [k]) i = true → g.data.get i = xa.data.get (if 1 < k then i else i.dropLast)) ∧
      g.dtype = xa.dtype ∧
      g.vdims = (match xa.vdimsCoord with | some l => some l | none => Fld.defaultVdims k) :=
  import_from_coords xa d G hgeo hd v0 h n hval hh hn hnames hcell hpmin hpmax hinfer k hk hnv hvd hshape hlab

/-- **Coordinates that do not ascend cannot be rebuilt from**: without the `cell` attribute, a
geometric axis whose last coordinate is not larger than its first (descending coordinates, or a
single one) is rejected — the inferred cell size would not be positive. -/
theorem rejects_descending_without_cell (xa : XA α) (hc : xa.attrs.cell = none) (ax : Axis) (hax : ax ∈ geo xa)
    (hd : ax.values.getD (ax.values.length - 1) 0 ≤ ax.values.getD 0 0) :
    ∃ e, fromXarray (.dataArray xa) = .error e := by
  refine fromXA_of_geometry_error xa (err_of_not_ok _ fun m hm => ?_)
  obtain ⟨-, -, -, -, -, ⟨-, hpos, -⟩, -⟩ := (geometryOf_eq_ok_iff_inputs xa m).mp hm
  have hmem : meanDiff ax.values ∈ cellUsed xa := by
    unfold cellUsed; rw [hc]; exact List.mem_map.mpr ⟨ax, hax, rfl⟩
  have hmean : meanDiff ax.values ≤ 0 := by
    rw [meanDiff_eq]
    exact div_nonpos_of_nonpos_of_nonneg (by linarith) (by exact_mod_cast Nat.zero_le _)
  exact absurd (hpos _ hmem) (not_lt.mpr hmean)

/-- **With `cell`, `pmin` and `pmax` all present the coordinate values are only spacing-tested,
never used**: replacing them by ANY other values that pass the spacing test (reversed, shifted,
rescaled) gives the identical result — same mesh from the attributes, same values at the same
indices.  In particular a DataArray with descending coordinates and complete attributes is
accepted and its data are NOT reordered (observation; such arrays are never produced by
`to_xarray`). -/
theorem attrs_override_coordinates (vals : String → List Rat) (xa : XA α) (c p q : List Rat)
    (hc : xa.attrs.cell = some c) (hp : xa.attrs.pmin = some p) (hq : xa.attrs.pmax = some q)
    (h1 : checkSpacing xa = .ok ()) (h2 : checkSpacing (setCoordVals vals xa) = .ok ()) :
    fromXarray (.dataArray (setCoordVals vals xa)) = fromXarray (.dataArray xa) := by
  have hd : (setCoordVals vals xa).dims = xa.dims := by
    show (xa.axes.map _).map Axis.name = xa.axes.map Axis.name
    rw [List.map_map]
    rfl
  have hc' : (setCoordVals vals xa).attrs.cell = some c := hc
  have hcell : cellOf (setCoordVals vals xa) = .ok c := by rw [cellOf_eq, hc']
  have hcell' : cellOf xa = .ok c := by rw [cellOf_eq, hc]
  show fromXA (setCoordVals vals xa) = fromXA xa
  unfold fromXA
  rw [hd, h1, h2, hcell, hcell']
  show (checkNvdim xa.attrs.nvdim xa.dims).bind _ = _
  cases checkNvdim xa.attrs.nvdim xa.dims with
  | error e => rfl
  | ok k =>
    simp only [Except.bind]
    rw [meshOf_setCoordVals vals xa c p q hp hq]
    cases meshOf xa c <;> rfl

/-- **Exactly when an export can be rebuilt**: with any subset `c p q` of `cell`/`pmin`/`pmax`
removed from the export of a well-formed field, the import succeeds if and only if `cell` was
kept or every axis has at least two cells — the code can infer the cell size from the
coordinates of an axis iff that axis has two of them. -/
theorem xa_rebuild_iff (f : XFld α) (hf : f.WF) (nm : String) (u : PyArg) (c p q : Bool) :
    (∃ g, fromXarray (.dataArray (eraseGeom c p q (exported f nm u))) = .ok g) ↔
      (c = true → ∀ a, a < f.mesh.ndim → 2 ≤ f.mesh.nAt a) := by
  constructor
  · rintro ⟨g, hg⟩ hc a ha
    subst hc
    by_contra hlt
    have h1 : f.mesh.nAt a = 1 := by have := hf.mesh.2.2 a ha; omega
    obtain ⟨e, he⟩ := xa_export_single_cell_rejected f hf nm u p q a ha h1
    rw [he] at hg; cases hg
  · intro hc
    obtain ⟨g, hg, -⟩ := xa_rebuild f hf nm u c p q hc
    exact ⟨g, hg⟩

/-! ## The export follows the mesh as it is at export time (in-place changes before the export) -/

/-- **A history of in-place changes of the mesh keeps the field well-formed**: after any
sequence of `field.mesh.translate(…, inplace=True)` / `field.mesh.scale(…, inplace=True)` calls
with ARBITRARY arguments (rejected calls change nothing) the field is well-formed, on a mesh
with the same cell counts, names, units and tolerance, with the same array, labels, unit, dtype. -/
theorem inplace_history_wf (f : XFld α) (hf : f.WF) (ops : List MeshOp) :
    (f.run ops).WF ∧ (f.run ops).mesh.n = f.mesh.n ∧ (f.run ops).mesh.region.dims = f.mesh.region.dims ∧
    (f.run ops).mesh.region.units = f.mesh.region.units ∧ (f.run ops).mesh.region.tol = f.mesh.region.tol ∧
    (f.run ops).data = f.data ∧ (f.run ops).nvdim = f.nvdim ∧ (f.run ops).vdims = f.vdims ∧
    (f.run ops).unit = f.unit ∧ (f.run ops).dtype = f.dtype := by
  have h := run_same f hf ops
  exact ⟨h.wf hf, h.frame.n, h.frame.dims, h.frame.units, h.frame.tol, h.data, h.nvdim, h.vdims, h.unit, h.dtype⟩

/-- **The exported coordinates are the cell centres of the mesh as it is at the time of the
export**: after any history of in-place changes, `to_xarray` succeeds and coordinate `j` of axis
`a` is `pmin + (j+½)·cell` of the CURRENT mesh (a function of the current geometry only), with
the region's units; the geometric attributes are the current ones; the data are untouched. -/
theorem export_after_history (f : XFld α) (hf : f.WF) (ops : List MeshOp) (nm : String) (u : PyArg) (hu : u ≠ .other) :
    ∃ xa, exportAfter f ops (.str nm) u = .ok xa ∧
      (∀ a, a < f.mesh.ndim →
        xa.axes.getD a default =
          { name := f.mesh.region.dims.getD a "", size := f.mesh.nAt a,
            coord := some { vals := tab (f.mesh.nAt a) fun j => (f.run ops).mesh.centreAx a (j : Int),
                            units := some (f.mesh.region.units.getD a "") } }) ∧
      xa.attrs.cell = some (f.run ops).mesh.cell ∧ xa.attrs.pmin = some (f.run ops).mesh.region.pmin ∧
      xa.attrs.pmax = some (f.run ops).mesh.region.pmax ∧ xa.data = exportData f ∧
      xa.vdimsCoord = (if 1 < f.nvdim then f.vdims else none) := by
  have h := run_same f hf ops
  exact ⟨exported (f.run ops) nm u, toXarray_ok _ nm u hu, fun a ha => exported_axis_same hf h nm u a ha, rfl, rfl, rfl,
    (exported_data_same h nm u).1, (exported_data_same h nm u).2⟩

/-- **Export commutes with an in-place translation**: if `field.mesh.translate(v, inplace=True)`
is accepted, every exported coordinate of axis `a` moves by `v[a]`; names, sizes and units stay. -/
theorem export_translate_commutes (f : XFld α) (hf : f.WF) (v : List Rat) (m' ret : Mesh)
    (h : T.stepM f.mesh (.translate v true) = .ok (m', ret)) (nm : String) (u : PyArg)
    (a : Nat) (ha : a < f.mesh.ndim) :
    ((exported (f.meshStep (.translate v)) nm u).axes.getD a default).name = ((exported f nm u).axes.getD a default).name ∧
    ((exported (f.meshStep (.translate v)) nm u).axes.getD a default).units = ((exported f nm u).axes.getD a default).units ∧
    ((exported (f.meshStep (.translate v)) nm u).axes.getD a default).values.length = f.mesh.nAt a ∧
    ∀ j, j < f.mesh.nAt a →
      ((exported (f.meshStep (.translate v)) nm u).axes.getD a default).values.getD j 0
        = ((exported f nm u).axes.getD a default).values.getD j 0 + v.getD a 0 := by
  have hs := meshStep_same f hf (.translate v)
  obtain ⟨hn, hu, hl, hv⟩ := exported_fields_same hf hs nm u a ha
  obtain ⟨hn0, hu0, -, hv0⟩ := exported_fields_same hf (SameField.refl f hf.mesh) nm u a ha
  refine ⟨hn.trans hn0.symm, hu.trans hu0.symm, hl, fun j hj => ?_⟩
  rw [hv j hj, hv0 j hj, meshStep_ok f (.translate v) m' ret h]
  exact centre_translate f.mesh v m' ret h a ha hf.mesh _

/-- **Export commutes with an in-place scaling**: if `field.mesh.scale(factor, reference_point,
inplace=True)` is accepted, exported coordinate `c` of axis `a` becomes `ref + s·(c - ref)` for a
positive factor `s` on that axis (`ref` = the reference point, default the region's centre); for
a negative factor the same holds with the order of the cells along the axis reversed. -/
theorem export_scale_commutes (f : XFld α) (hf : f.WF) (s : T.Factor) (ref : Option (List Rat)) (m' ret : Mesh)
    (h : T.stepM f.mesh (.scale s ref true) = .ok (m', ret)) (nm : String) (u : PyArg)
    (a : Nat) (ha : a < f.mesh.ndim) :
    ((exported (f.meshStep (.scale s ref)) nm u).axes.getD a default).values.length = f.mesh.nAt a ∧
    (0 < s.at a → ∀ j, j < f.mesh.nAt a →
      ((exported (f.meshStep (.scale s ref)) nm u).axes.getD a default).values.getD j 0
        = (refOf f.mesh.region ref).getD a 0 + s.at a *
            (((exported f nm u).axes.getD a default).values.getD j 0 - (refOf f.mesh.region ref).getD a 0)) ∧
    (s.at a < 0 → ∀ j, j < f.mesh.nAt a →
      ((exported (f.meshStep (.scale s ref)) nm u).axes.getD a default).values.getD j 0
        = (refOf f.mesh.region ref).getD a 0 + s.at a *
            (((exported f nm u).axes.getD a default).values.getD (f.mesh.nAt a - 1 - j) 0
              - (refOf f.mesh.region ref).getD a 0)) := by
  have hs := meshStep_same f hf (.scale s ref)
  obtain ⟨-, -, hl, hv⟩ := exported_fields_same hf hs nm u a ha
  obtain ⟨-, -, -, hv0⟩ := exported_fields_same hf (SameField.refl f hf.mesh) nm u a ha
  refine ⟨hl, fun hpos j hj => ?_, fun hneg j hj => ?_⟩
  · rw [hv j hj, hv0 j hj, meshStep_ok f (.scale s ref) m' ret h]
    exact centre_scale_pos f.mesh s ref m' ret h a ha hf.mesh hpos _
  · rw [hv j hj, hv0 _ (by omega : f.mesh.nAt a - 1 - j < f.mesh.nAt a), meshStep_ok f (.scale s ref) m' ret h,
      centre_scale_neg f.mesh s ref m' ret h a ha hf.mesh hneg (j : Int),
      show ((f.mesh.nAt a - 1 - j : Nat) : Int) = (f.mesh.nAt a : Int) - 1 - (j : Int) by omega]

/-- **In-place calls on a mesh without subregions are accepted** (so the two theorems above are
not vacuous and the history really moves the mesh): a translation by a vector of the right
length, and a scaling by non-zero factors about a reference point of the right length. -/
theorem inplace_accepted (f : XFld α) (hf : f.WF) (hsub : f.mesh.subs = []) :
    (∀ v : List Rat, v.length = f.mesh.ndim → ∃ m', T.stepM f.mesh (.translate v true) = .ok (m', m')) ∧
    (∀ (s : T.Factor) (ref : Option (List Rat)), s.okFor f.mesh.ndim = true →
      (refOf f.mesh.region ref).length = f.mesh.ndim → (∀ a, a < f.mesh.ndim → s.at a ≠ 0) →
      ∃ m', T.stepM f.mesh (.scale s ref true) = .ok (m', m')) :=
  ⟨fun v hv => translate_accepted f.mesh hf.mesh hsub v hv,
   fun s ref h1 h2 h3 => scale_accepted f.mesh hf.mesh hsub s ref h1 h2 h3⟩

/-- **Round trip after a history**: export after any sequence of in-place changes of the mesh,
then import: the region is the CURRENT one (corners, names, units, tolerance), cell counts,
component count, every value, dtype tag and (for `LabelsStd` fields) labels are the field's. -/
theorem xa_roundtrip_after_history (f : XFld α) (hf : f.WF) (ops : List MeshOp) (nm : String) (u : PyArg) (hu : u ≠ .other) :
    ∃ xa g, exportAfter f ops (.str nm) u = .ok xa ∧ fromXarray (.dataArray xa) = .ok g ∧
      g.mesh.region = (f.run ops).mesh.region ∧ g.mesh.n = f.mesh.n ∧ g.nvdim = f.nvdim ∧
      g.data.shape = f.data.shape ∧ (∀ i, inRange f.data.shape i = true → g.data.get i = f.data.get i) ∧
      g.dtype = f.dtype ∧ (LabelsStd f → g.vdims = f.vdims) := by
  have h := run_same f hf ops
  obtain ⟨xa, g, h1, h2, h3, h4, h5, h6, h7, -, h9, h10⟩ := xa_roundtrip (f.run ops) (h.wf hf) nm u hu
  refine ⟨xa, g, h1, h2, h3, by rw [h4, h.frame.n], by rw [h5, h.nvdim], by rw [h6, h.data], ?_, by rw [h9, h.dtype], ?_⟩
  · intro i hi
    have := h7 i (by rw [h.data]; exact hi)
    rw [this, h.data]
  · intro hl
    have hl' : LabelsStd (f.run ops) := by
      unfold LabelsStd at hl ⊢
      rw [h.nvdim, h.vdims]; exact hl
    rw [h10 hl', h.vdims]

/-! ## What the importer returns is well-formed; import ∘ export is the identity on it -/

/-- **Every field `from_xarray` returns is well-formed** — for EVERY DataArray (no hypothesis on
coordinates or attributes): a well-formed region named after the geometric dimensions (none of
them `vdims`), positive cell counts, array of shape `(*n, nvdim)`, `nvdim ≥ 1` equal to the
attribute, labels absent or `nvdim` distinct strings none of which names an attribute of `Field`;
no boundary conditions, subregions or unit, every cell valid, the DataArray's dtype.  Hence the
hypothesis `WF` of the export theorems is discharged for imported fields.  (`hdef`: when the
DataArray has no label coordinate the constructor's default labels `x, y, z, v0, …` are used
unchecked; they are not attributes of `Field` — verified on the real class by the harness.) -/
theorem import_wf (xa : XA α) (g : XFld α) (h : fromXarray (.dataArray xa) = .ok g)
    (hdef : xa.vdimsCoord = none → ∀ k l, Fld.defaultVdims k = some l → l.any FieldAttrs.has = false) :
    g.WF ∧ g.mesh.region.dims = (geo xa).map Axis.name ∧ g.mesh.bc = "" ∧ g.mesh.subs = [] ∧
    xa.attrs.nvdim = some (.int g.nvdim) ∧ g.dtype = xa.dtype ∧ g.unit = none ∧
    g.valid = NDA.const g.mesh.n true := by
  obtain ⟨k, m, h1, h2, h3⟩ := (fromXA_eq_ok_iff xa g).mp h
  obtain ⟨hk, hnv, -⟩ := (checkNvdim_eq_ok_iff _ _ _).mp h1
  obtain ⟨hm, hd, hbc, hsub⟩ := geometryOf_inv xa m h2
  obtain ⟨f1, f2, f4, f5, f6, f7, -, d1, hd1, ha⟩ := fieldOf_inv xa m k g h3
  rw [f1, f2]
  refine ⟨⟨by rw [f1]; exact hm, by rw [f2]; exact hk, ?_, ?_, by rw [f2]; exact vdimsSet_inv k _ _ f7 hdef⟩,
    hd, hbc, hsub, hnv, f4, f5, f6⟩
  · rw [ha.1, asArray_shape _ _ _ _ hd1, f1, f2]
  · rw [f1, hd]
    exact geo_names_novd xa

/-- **Import ∘ export is the identity on imported fields**: for every DataArray the importer
accepts, exporting the result and importing again returns the same mesh (exactly: region, cell
counts, no bc, no subregions), component count, values, dtype tag, unit, validity and — when the
imported field is a labelled vector or an unlabelled scalar field — labels and mapping. -/
theorem import_export_import (xa : XA α) (g : XFld α) (h : fromXarray (.dataArray xa) = .ok g)
    (hdef : xa.vdimsCoord = none → ∀ k l, Fld.defaultVdims k = some l → l.any FieldAttrs.has = false)
    (nm : String) (u : PyArg) :
    ∃ g', fromXarray (.dataArray (exported g nm u)) = .ok g' ∧ g'.mesh = g.mesh ∧ g'.nvdim = g.nvdim ∧
      g'.data.shape = g.data.shape ∧ (∀ i, inRange g.data.shape i = true → g'.data.get i = g.data.get i) ∧
      g'.dtype = g.dtype ∧ g'.unit = g.unit ∧ g'.valid = g.valid ∧
      (LabelsStd g → g'.vdims = g.vdims ∧ g'.vmap = defaultVmap g.nvdim g.mesh.region.dims g.vdims) := by
  obtain ⟨hw, -, hbc, hsub, -, -, hun, hva⟩ := import_wf xa g h hdef
  obtain ⟨g', hg', h'⟩ := fromXA_exported hw nm u
  refine ⟨g', hg', ?_, h'.nvdim, h'.values.1, h'.values.2, h'.dtype, by rw [h'.unit, hun], by rw [h'.valid, hva], ?_⟩
  · rw [h'.mesh]
    cases hgm : g.mesh with
    | mk r n bc subs =>
      rw [hgm] at hbc hsub
      simp only at hbc hsub
      rw [hbc, hsub]
  · intro hl
    have := (vdimsAfter_eq_iff hw).mpr hl
    exact ⟨by rw [h'.vdims, this], by rw [h'.vmap, this]⟩

/-- **Constructor-built fields are well-formed** (the hypothesis `WF` of the export theorems,
discharged): `Region(p1, p2, dims, units)`, `Mesh(region, n, bc)`, an array accepted by
`_as_array`, labels accepted by the `vdims` setter, `nvdim ≥ 1`, no dimension called `vdims`. -/
theorem wf_of_constructors (p1 p2 : List Rat) (d : List String) (units : Option (List String)) (tol : Rat)
    (r : Region) (hr : Region.mk? p1 p2 (some d) units tol = .ok r) (n : List Nat) (bc : String) (m : Mesh)
    (hm : Mesh.mkN? r n bc = .ok m) (k : Nat) (hk : 1 ≤ k) (val dat : NDA α) (hd : asArray val m.n k = .ok dat)
    (vc vd : Option (List String)) (hv : vdimsSet k vc = .ok vd) (hnovd : ¬ "vdims" ∈ d)
    (hdef : vc = none → ∀ k l, Fld.defaultVdims k = some l → l.any FieldAttrs.has = false)
    (valid : NDA Bool) (vmap : List (String × String)) (unit : Option String) (dtype : String) :
    ({ mesh := m, nvdim := k, data := dat, valid := valid, vdims := vd, vmap := vmap, unit := unit, dtype := dtype }
      : XFld α).WF := by
  obtain ⟨-, hrd⟩ := regionMk_inv _ _ _ _ _ _ hr
  obtain ⟨hmi, hmr, -⟩ := C01.mesh_inv_from_inputs _ _ _ _ _ n bc r m hr hm
  exact { mesh := hmi, nvdim := hk, shape := asArray_shape _ _ _ _ hd,
          novd := by show ¬ "vdims" ∈ m.region.dims; rw [hmr, hrd]; exact hnovd,
          labels := vdimsSet_inv k vc vd hv hdef }

/-! ## Exact acceptance of each step; further invariances of the spacing test -/

/-! ### what the correspondence run executes -/

/-- **The linear-time forms the driver runs are the functions the theorems are about**: the
one-pass `np.diff`, its mean and the spacing test built from them equal the pointwise
definitions for every coordinate, and the importer that uses them equals `fromXarray` on every
argument — so DataArrays with axes of thousands of cells are compared against the very model
these theorems describe. -/
theorem fast_import_eq (o : PyObj α) (v : List Rat) :
    fromXarrayFast o = fromXarray o ∧
    diffsL v = diffs v ∧ meanDiffL v = meanDiff v ∧ evenFast v = evenB v :=
  ⟨fromXarrayFast_eq o, diffsL_eq v, meanDiffL_eq v, evenFast_eq v⟩

/-! ### the spacing test -/

omit [FieldAttrs] in
/-- **Invariance under ANY non-zero factor** — also a negative one (the same axis pointing the
other way): the verdict on `s·v` is the verdict on `v`, for one coordinate and for the spacing loop
over a DataArray; the factor `0` (all coordinates collapsed onto one point) always passes. -/
theorem spacing_test_any_factor (s : Rat) (v : List Rat) (xa : XA α) :
    (s ≠ 0 → evenB (v.map (s * ·)) = evenB v) ∧
    (s ≠ 0 → checkSpacing (scaleCoords s xa) = checkSpacing xa) ∧
    evenB (v.map ((0 : Rat) * ·)) = true := by
  refine ⟨fun hs => evenB_scale_ne s hs v, fun hs => checkSpacing_scale_ne s hs xa, ?_⟩
  rw [evenB_iff_spec]
  intro j _
  have := meanDiff_map_affine 0 0 v
  simp only [add_zero] at this
  rw [this, getD_map_of_eq (mul_zero 0), getD_map_of_eq (mul_zero 0)]
  -- both sides are `0`
  simp [absR]

omit [FieldAttrs] in
/-- **Reversal invariance**: a coordinate read backwards gets the same verdict (descending
coordinates are "evenly spaced" exactly when their ascending copy is). -/
theorem spacing_test_reversal_invariant (v : List Rat) : evenB v.reverse = evenB v := evenB_reverse v

omit [FieldAttrs] in
/-- **What accepted coordinates look like.**  If a coordinate passes the spacing test then, with
`m` its mean step: every step `d` satisfies `(1 − 1e-5)·m² ≤ d·m ≤ (1 + 1e-5)·m²` (i.e. `d/m` lies
in `[1 − 1e-5, 1 + 1e-5]`); hence the coordinate is constant (`m = 0`), strictly increasing
(`m > 0`) or strictly decreasing (`m < 0`) — never a mixture. -/
theorem spacing_accepted_monotone (v : List Rat) (h : evenB v = true) :
    (∀ j, j + 1 < v.length →
      (1 - 1/100000) * (meanDiff v * meanDiff v) ≤ (v.getD (j + 1) 0 - v.getD j 0) * meanDiff v ∧
      (v.getD (j + 1) 0 - v.getD j 0) * meanDiff v ≤ (1 + 1/100000) * (meanDiff v * meanDiff v)) ∧
    (meanDiff v = 0 → ∀ j, j + 1 < v.length → v.getD (j + 1) 0 = v.getD j 0) ∧
    (0 < meanDiff v → ∀ j, j + 1 < v.length → v.getD j 0 < v.getD (j + 1) 0) ∧
    (meanDiff v < 0 → ∀ j, j + 1 < v.length → v.getD (j + 1) 0 < v.getD j 0) := by
  have hs := (evenB_iff_spec v).mp h
  -- a step of the sign opposite to the mean step would make `d·m ≤ 0 < (1 − 1e-5)·m²`
  refine ⟨fun j hj => evenSpec_step_bounds v hs j hj, fun hm j hj => ?_, fun hm j hj => ?_, fun hm j hj => ?_⟩
  · have := hs j hj
    rw [hm, absR_zero, mul_zero, sub_zero, absR_eq_abs] at this
    exact sub_eq_zero.mp (abs_nonpos_iff.mp this)
  · have h1 := (evenSpec_step_bounds v hs j hj).1
    have : 0 < (1 - 1/100000 : Rat) * (meanDiff v * meanDiff v) := mul_pos (by norm_num) (mul_pos hm hm)
    exact sub_pos.mp (pos_of_mul_pos_left (lt_of_lt_of_le this h1) hm.le)
  · have h1 := (evenSpec_step_bounds v hs j hj).1
    have : 0 < (1 - 1/100000 : Rat) * (meanDiff v * meanDiff v) :=
      mul_pos (by norm_num) (mul_pos_of_neg_of_neg hm hm)
    exact sub_neg.mp (neg_of_mul_pos_left (lt_of_lt_of_le this h1) hm.le)

omit [FieldAttrs] in
/-- any two coordinates pass the spacing test (their single step is the mean step) — equal or
descending ones too; what happens to those is decided later, by `Region` and `Mesh` -/
theorem spacing_two_coordinates (a b : Rat) : evenB [a, b] = true := by
  have : [a, b] = ap a (b - a) 2 := by simp [ap, tab, List.range_succ]
  rw [this]
  exact evenB_ap _ _ _

/-! ### exact acceptance of each step, with the refusal classes -/

omit [FieldAttrs] in
/-- **The component-count checks, refusal classes**: `KeyError` iff the attribute is absent;
`TypeError` iff it is a non-int number `≥ 1`; `ValueError` iff it is a number `< 1` (int or not) or
an int `> 1` without a `vdims` dimension.  (Acceptance: `component_count_accepted_iff`.) -/
theorem component_count_refusal_iff (nv : Option NvAttr) (dims : List String) :
    (checkNvdim nv dims = .error .key ↔ nv = none) ∧
    (checkNvdim nv dims = .error .type ↔ ∃ q, nv = some (.other q) ∧ 1 ≤ q) ∧
    (checkNvdim nv dims = .error .value ↔
      (∃ q, nv = some (.other q) ∧ q < 1) ∨
      (∃ k : Int, nv = some (.int k) ∧ (k < 1 ∨ (1 < k ∧ ¬ "vdims" ∈ dims)))) :=
  checkNvdim_err_iff nv dims

omit [FieldAttrs] in
/-- **Cell sizes: taken or inferred, exactly.**  The step succeeds iff the `cell` attribute is
present, or `xa.values.shape[:-1]` contains no 1 and every geometric coordinate has at least two
values; the result is the attribute, else the mean step of every coordinate (`cellUsed`).
Refusals: `KeyError` iff `cell` is absent and `xa.values.shape[:-1]` contains a 1 (for a scalar
field that slice does NOT include the last geometric axis); `ValueError` iff `cell` is absent,
there is no such 1, and some coordinate has fewer than two values (the NaN cell `Mesh` refuses).
So a single-cell axis always requires the attribute. -/
theorem cell_inference_iff (xa : XA α) (c : List Rat) :
    (cellOf xa = .ok c ↔
      (xa.attrs.cell = none → (∀ x ∈ xa.data.shape.dropLast, x ≠ 1) ∧ ∀ ax ∈ geo xa, 2 ≤ ax.values.length) ∧
      c = cellUsed xa) ∧
    (cellOf xa = .error .key ↔ xa.attrs.cell = none ∧ 1 ∈ xa.data.shape.dropLast) ∧
    (cellOf xa = .error .value ↔ xa.attrs.cell = none ∧ ¬ 1 ∈ xa.data.shape.dropLast ∧
      ∃ ax ∈ geo xa, ax.values.length ≤ 1) :=
  ⟨cellOf_eq_ok_iff xa c, (cellOf_err_iff xa).1, (cellOf_err_iff xa).2⟩

omit [FieldAttrs] in
/-- **Corners: taken or inferred, exactly.**  Each corner is the attribute if present (whatever
the coordinates say), else first coordinate − half a cell (`pmin`) / last coordinate + half a cell
(`pmax`), axis by axis over `zip(dims, cell)`; inferring fails (`IndexError`) iff some paired
coordinate has no value at all. -/
theorem corner_inference_iff (xa : XA α) (p : List Rat) :
    (p1Of xa (cellUsed xa) = .ok p ↔
      (xa.attrs.pmin = none → ∀ q ∈ List.zip (geo xa) (cellUsed xa), q.1.values ≠ []) ∧ p = p1Used xa) ∧
    (p2Of xa (cellUsed xa) = .ok p ↔
      (xa.attrs.pmax = none → ∀ q ∈ List.zip (geo xa) (cellUsed xa), q.1.values ≠ []) ∧ p = p2Used xa) ∧
    (∀ e, p1Of xa (cellUsed xa) = .error e → e = .index) ∧
    (xa.attrs.pmin = none → p1Used xa = List.zipWith (fun a c => a.values.getD 0 0 - c / 2) (geo xa) (cellUsed xa)) ∧
    (xa.attrs.pmax = none →
      p2Used xa = List.zipWith (fun a c => a.values.getD (a.values.length - 1) 0 + c / 2) (geo xa) (cellUsed xa)) ∧
    (∀ q, xa.attrs.pmin = some q → p1Used xa = q) ∧ (∀ q, xa.attrs.pmax = some q → p2Used xa = q) := by
  refine ⟨p1Of_eq_ok_iff xa p, p2Of_eq_ok_iff xa p, fun e h => p1Of_err xa e h, ?_, ?_, ?_, ?_⟩
  · intro h; unfold p1Used; rw [h]
  · intro h; unfold p2Used; rw [h]
  · intro q h; unfold p1Used; rw [h]
  · intro q h; unfold p2Used; rw [h]

omit [FieldAttrs] in
/-- **The geometry steps of `from_xarray`, from the inputs alone — acceptance and result.**
For EVERY DataArray (hand-built, attributes complete, partly or wholly absent, consistent with the
coordinates or not, any number of dimensions, single-cell axes included) the geometry steps build
mesh `m` if and only if
* every geometric coordinate meets the spacing specification;
* `cell` is present, or it can be inferred (no 1 in `xa.values.shape[:-1]`, two values per coordinate);
* `pmin`, `pmax` are present or every coordinate has a value;
* the corners used (`p1Used`, `p2Used`: attribute, else outermost coordinate ∓ half a cell) have
  the same non-zero length, one entry per geometric dimension, the dimension names are distinct
  and the corners differ on every axis — the acceptance condition of `Region` (C01);
* the cell sizes used (`cellUsed`: attribute, else mean steps) are one positive number per axis,
  none exceeds its edge by more than the comparison tolerance, every edge is within
  `min(cell)/1000` of a whole number `≥ 1` of cells — the acceptance condition of `Mesh` (C01);
and `m` is the mesh on `regionUsed` (componentwise min / max of the corners used, the dimension
names, the coordinates' units if ALL have them else `m`, tolerance factor = attribute or `1e-12`)
whose counts are those whole numbers, without boundary conditions or subregions.  Attributes that
are present override the coordinates; no hypothesis on any intermediate result. -/
theorem import_geometry_ok_iff (xa : XA α) (m : Mesh) :
    geometryOf xa = .ok m ↔
      (∀ ax ∈ geo xa, ∀ j, j + 1 < ax.values.length →
        absR ((ax.values.getD (j + 1) 0 - ax.values.getD j 0) - meanDiff ax.values)
          ≤ 1/100000 * absR (meanDiff ax.values)) ∧
      (xa.attrs.cell = none → (∀ x ∈ xa.data.shape.dropLast, x ≠ 1) ∧ ∀ ax ∈ geo xa, 2 ≤ ax.values.length) ∧
      (xa.attrs.pmin = none → ∀ q ∈ List.zip (geo xa) (cellUsed xa), q.1.values ≠ []) ∧
      (xa.attrs.pmax = none → ∀ q ∈ List.zip (geo xa) (cellUsed xa), q.1.values ≠ []) ∧
      ((p1Used xa).length = (p2Used xa).length ∧ (p1Used xa).length ≠ 0 ∧ (geo xa).length = (p1Used xa).length ∧
        hasDup ((geo xa).map Axis.name) = false ∧
        ∀ a, a < (p1Used xa).length → (p1Used xa).getD a 0 ≠ (p2Used xa).getD a 0) ∧
      ((cellUsed xa).length = (p1Used xa).length ∧ (∀ c ∈ cellUsed xa, 0 < c) ∧
        ∀ a, a < (p1Used xa).length → (cellUsed xa).getD a 0 - (regionUsed xa).edge a
          ≤ C01.band (regionUsed xa) ((regionUsed xa).lo a + (cellUsed xa).getD a 0)) ∧
      m.region = { regionUsed xa with tol := xa.attrs.tol.getD defaultTol } ∧ m.bc = "" ∧ m.subs = [] ∧
      m.n.length = (p1Used xa).length ∧
      ∀ a, a < (p1Used xa).length → 1 ≤ m.nAt a ∧
        |(regionUsed xa).edge a - (m.nAt a : Rat) * (cellUsed xa).getD a 0| ≤ listMin (cellUsed xa) / 1000 :=
  geometryOf_eq_ok_iff_inputs xa m

omit [FieldAttrs] in
/-- the region of `import_geometry_ok_iff`, spelled out: corners = componentwise min / max of the
corners used, names = the geometric dimensions, units = the coordinates' if every geometric
coordinate has a `units` attribute and `m` on every axis otherwise, default tolerance factor -/
theorem import_region_formula (xa : XA α) :
    (regionUsed xa).pmin = (tab (p1Used xa).length fun a => min ((p1Used xa).getD a 0) ((p2Used xa).getD a 0)) ∧
    (regionUsed xa).pmax = (tab (p1Used xa).length fun a => max ((p1Used xa).getD a 0) ((p2Used xa).getD a 0)) ∧
    (regionUsed xa).dims = (geo xa).map Axis.name ∧ (regionUsed xa).tol = defaultTol ∧
    ((∀ ax ∈ geo xa, ax.units ≠ none) → (regionUsed xa).units = (geo xa).map fun a => a.units.getD "") ∧
    ((∃ ax ∈ geo xa, ax.units = none) → (regionUsed xa).units = List.replicate (geo xa).length "m") :=
  ⟨rfl, rfl, rfl, rfl, unitsUsed_of_all xa, unitsUsed_of_none xa⟩

/-- **Exact acceptance of `from_xarray`**: a DataArray is imported iff for some `k` and `m` the
component-count checks pass with `k` (`component_count_accepted_iff`), the geometry steps build `m`
(`import_geometry_ok_iff`), the data fit: they have the mesh's shape (scalar field) or last axis
`k` and broadcast to `(*m.n, k)` by numpy's rule (`DataFits`), and the label coordinate is absent,
empty, or `k` distinct strings none of which names an attribute of `Field` (`LabelsOk`).  Every
condition is on the input. -/
theorem import_ok_iff (xa : XA α) :
    (∃ g, fromXarray (.dataArray xa) = .ok g) ↔
      ∃ (k : Nat) (m : Mesh), (1 ≤ k ∧ xa.attrs.nvdim = some (.int (k : Int)) ∧ (1 < k → "vdims" ∈ xa.dims)) ∧
        geometryOf xa = .ok m ∧ DataFits (valOf xa k).shape m.n k ∧ LabelsOk k xa.vdimsCoord := by
  show (∃ g, fromXA xa = .ok g) ↔ _
  simp only [fromXA_eq_ok_iff, ← checkNvdim_eq_ok_iff, ← fieldOf_ok_iff]
  exact ⟨fun ⟨g, k, m, h1, h2, h3⟩ => ⟨k, m, h1, h2, g, h3⟩, fun ⟨k, m, h1, h2, g, h3⟩ => ⟨g, k, m, h1, h2, h3⟩⟩

omit [FieldAttrs] in
/-- the two conditions of `import_ok_iff` on data and labels are the acceptance conditions of
`_as_array` and of the `vdims` setter, index level: shapes broadcast iff aligned at the last axis
every source length is 1 or the target's -/
theorem data_fits_iff (val : NDA α) (n : List Nat) (k : Nat) :
    ((∃ d, asArray val n k = .ok d) ↔
      (k = 1 ∧ val.shape = n) ∨
      (val.shape.getLast? = some k ∧ val.shape.length ≤ (n ++ [k]).length ∧
        ∀ a, a < val.shape.length →
          val.shape.getD a 0 = 1 ∨ val.shape.getD a 0 = (n ++ [k]).getD (a + ((n ++ [k]).length - val.shape.length)) 0)) :=
  asArray_ok_iff val n k

/-- The labels: the `vdims` setter accepts a label coordinate iff it is absent, empty, or
`k` distinct strings none of which names an attribute of `Field` -/
theorem labels_ok_iff (k : Nat) (vc : Option (List String)) :
    (∃ vd, vdimsSet k vc = .ok vd) ↔
      ∀ l, vc = some l → l = [] ∨ (l.length = k ∧ hasDup l = false ∧ l.any FieldAttrs.has = false) :=
  vdimsSet_ok_iff k vc

/-- **The mesh and the values of EVERY accepted DataArray.**  Whenever `from_xarray` returns a
field `g`: its region is `regionUsed` with the tolerance factor of the attribute (default
`1e-12`), its counts are the whole numbers of cells the edges hold, `nvdim` is the attribute; and
if the data have the mesh's shape (no broadcasting) every value sits at its own cell and component —
whatever the attributes say about the geometry and wherever the coordinates lie. -/
theorem import_result_formula (xa : XA α) (g : XFld α) (h : fromXarray (.dataArray xa) = .ok g) :
    g.mesh.region = { regionUsed xa with tol := xa.attrs.tol.getD defaultTol } ∧
    g.mesh.n.length = (p1Used xa).length ∧
    (∀ a, a < (p1Used xa).length → 1 ≤ g.mesh.nAt a ∧
      |(regionUsed xa).edge a - (g.mesh.nAt a : Rat) * (cellUsed xa).getD a 0| ≤ listMin (cellUsed xa) / 1000) ∧
    xa.attrs.nvdim = some (.int g.nvdim) ∧
    (xa.data.shape = g.mesh.n ++ (if 1 < g.nvdim then [g.nvdim] else []) →
      g.data.shape = g.mesh.n ++ [g.nvdim] ∧
      ∀ i, inRange (g.mesh.n ++ [g.nvdim]) i = true →
        g.data.get i = xa.data.get (if 1 < g.nvdim then i else i.dropLast)) := by
  obtain ⟨k, m, h1, h2, h3⟩ := (fromXA_eq_ok_iff xa g).mp h
  obtain ⟨hk, hnv, -⟩ := (checkNvdim_eq_ok_iff _ _ _).mp h1
  obtain ⟨f1, f2, -, -, -, -, -, d1, hd1, ha⟩ := fieldOf_inv xa m k g h3
  obtain ⟨-, -, -, -, -, -, c1, -, -, c4, c5⟩ := (geometryOf_eq_ok_iff_inputs xa m).mp h2
  rw [f1, f2]
  refine ⟨c1, c4, c5, hnv, fun hshape => ?_⟩
  -- data of the mesh's shape pass `_as_array` unchanged
  have hvs := valOf_shape xa m.n k hk hshape
  obtain ⟨d1', hd1', ha1⟩ := asArray_same (valOf xa k) m.n k hvs
  rw [hd1] at hd1'
  injection hd1' with e
  subst e
  have hag := ha.trans ha1
  refine ⟨hag.1.trans hvs, fun i hi => ?_⟩
  rw [hag.2 i (by rw [hag.1, hvs]; exact hi), valOf_get xa k hk]

/-- **The values of EVERY accepted DataArray, broadcasting included.**  Entry `i` of the imported
array is the entry of `np.expand_dims(xa.values, -1)` (scalar) / `xa.values` (vector) that numpy's
broadcasting into `(*n, nvdim)` reads: aligned at the last axis, the entry with the same index on
every source axis of the target's length and index 0 on every source axis of length 1 (attributes
that contradict the data shape are accepted when this is possible: one value fills n cells); a
scalar array that has exactly the mesh's shape after the expansion is taken as it is. -/
theorem import_values_formula (xa : XA α) (g : XFld α) (h : fromXarray (.dataArray xa) = .ok g) :
    g.data.shape = g.mesh.n ++ [g.nvdim] ∧
    ∀ i, inRange (g.mesh.n ++ [g.nvdim]) i = true →
      g.data.get i =
        if g.nvdim = 1 ∧ (valOf xa g.nvdim).shape = g.mesh.n then (valOf xa g.nvdim).get i.dropLast
        else (valOf xa g.nvdim).get
          (tab (valOf xa g.nvdim).shape.length fun a =>
            if (valOf xa g.nvdim).shape.getD a 0 = 1 then 0
            else i.getD (a + ((g.mesh.n ++ [g.nvdim]).length - (valOf xa g.nvdim).shape.length)) 0) := by
  obtain ⟨k, m, -, -, h3⟩ := (fromXA_eq_ok_iff xa g).mp h
  obtain ⟨f1, f2, -, -, -, -, -, d1, hd1, ha⟩ := fieldOf_inv xa m k g h3
  obtain ⟨hs1, hg1⟩ := asArray_inv _ _ _ _ hd1
  rw [f1, f2]
  refine ⟨ha.1.trans hs1, fun i hi => ?_⟩
  rw [ha.2 i (by rw [ha.1, hs1]; exact hi), hg1]
  rfl

omit [FieldAttrs] in
/-- **The attribute-free class, exactly** ("importing a DataArray that lacks the geometric
attributes rebuilds the mesh from its evenly spaced coordinates, half a cell beyond the outermost
centres").  A DataArray with none of `cell`, `pmin`, `pmax` — hand-built or not, any number of
dimensions — gets through the geometry steps iff it has at least one geometric dimension, the
dimension names are distinct, `xa.values.shape[:-1]` contains no 1, and every geometric coordinate
has at least two values, meets the spacing specification and ascends (first < last).  The mesh is
then `bareMesh`: exactly one cell per coordinate value, from `first − mean/2` to `last + mean/2`
on every axis, for ANY accepted coordinates — evenly spaced within the tolerance of the test, not
only exact progressions (the mean step is `(last − first)/(N − 1)`, so the edge `last − first +
mean` is exactly `N` mean steps and the count is `N` whatever the individual steps are). -/
theorem attribute_free_import_iff (xa : XA α) (hc : xa.attrs.cell = none) (hp : xa.attrs.pmin = none)
    (hq : xa.attrs.pmax = none) (m : Mesh) :
    geometryOf xa = .ok m ↔
      (geo xa ≠ [] ∧ hasDup ((geo xa).map Axis.name) = false ∧ (∀ x ∈ xa.data.shape.dropLast, x ≠ 1) ∧
        ∀ ax ∈ geo xa, 2 ≤ ax.values.length ∧
          (∀ j, j + 1 < ax.values.length →
            absR ((ax.values.getD (j + 1) 0 - ax.values.getD j 0) - meanDiff ax.values)
              ≤ 1/100000 * absR (meanDiff ax.values)) ∧
          ax.values.getD 0 0 < ax.values.getD (ax.values.length - 1) 0) ∧
      m = bareMesh xa :=
  bare_geometry_iff xa ⟨hc, hp, hq⟩ m

omit [FieldAttrs] in
/-- `bareMesh`, field by field: corners half a mean step beyond the outermost coordinates, one
cell per coordinate value, the dimensions' names, units as in `import_region_formula`, tolerance
factor = attribute or default, no boundary conditions, no subregions -/
theorem attribute_free_mesh (xa : XA α) :
    (bareMesh xa).region.pmin = ((geo xa).map fun a => a.values.getD 0 0 - meanDiff a.values / 2) ∧
    (bareMesh xa).region.pmax = ((geo xa).map fun a => a.values.getD (a.values.length - 1) 0 + meanDiff a.values / 2) ∧
    (bareMesh xa).n = ((geo xa).map fun a => a.values.length) ∧
    (bareMesh xa).region.dims = (geo xa).map Axis.name ∧ (bareMesh xa).region.units = unitsUsed xa ∧
    (bareMesh xa).region.tol = xa.attrs.tol.getD defaultTol ∧ (bareMesh xa).bc = "" ∧ (bareMesh xa).subs = [] :=
  ⟨rfl, rfl, rfl, rfl, rfl, rfl, rfl, rfl⟩

/-! ### the export as input of the inference; idempotence -/

/-- **What the importer's inference finds in an export**: for every well-formed field the
exported coordinates pass the spacing loop; on every axis the first coordinate minus half a cell is
`pmin`, the last plus half a cell is `pmax`, and from two cells on the mean step IS the cell size —
the three facts the attribute-free reconstruction rests on. -/
theorem export_feeds_inference (f : XFld α) (hf : f.WF) (nm : String) (u : PyArg) :
    checkSpacing (exported f nm u) = .ok () ∧
    ∀ a, a < f.mesh.ndim →
      ((exported f nm u).axes.getD a default).values.getD 0 0 - f.mesh.cellAt a / 2 = f.mesh.region.lo a ∧
      ((exported f nm u).axes.getD a default).values.getD
          (((exported f nm u).axes.getD a default).values.length - 1) 0 + f.mesh.cellAt a / 2 = f.mesh.region.hi a ∧
      (2 ≤ f.mesh.nAt a → meanDiff ((exported f nm u).axes.getD a default).values = f.mesh.cellAt a) := by
  refine ⟨?_, fun a ha => ?_⟩
  · -- the import of the export succeeds, so its first step did
    obtain ⟨g, hg, -⟩ := fromXA_exported hf nm u
    obtain ⟨k, m, -, h2, -⟩ := (fromXA_eq_ok_iff _ g).mp hg
    exact (checkSpacing_iff _).mpr ((geometryOf_eq_ok_iff _ m).mp h2).1
  have hn := hf.mesh.2.2 a ha
  rw [exported_values_ap f hf nm u a ha]
  refine ⟨?_, ?_, fun h2 => meanDiff_ap _ _ _ h2⟩
  · rw [ap_first _ _ _ hn, add_sub_cancel_right]
  · rw [ap_last _ _ _ hn, hi_from_centres f.mesh hf.mesh a ha]

/-- **Export ∘ import ∘ export = export, up to the `units` attribute**: import the export of a
well-formed field and export the result with any name / unit arguments: same axes (names, sizes,
every coordinate value, coordinate units), same geometric attributes, component count and
tolerance factor, same data at every index, same dtype tag; the label coordinate is the original's
exactly for `LabelsStd` fields (else the defaults the importer assigned); only the attribute
`units` is lost (`from_xarray` does not restore the field's unit) unless given again. -/
theorem export_import_export_idem (f : XFld α) (hf : f.WF) (nm : String) (u : PyArg) (nm' : String) (u' : PyArg) :
    ∃ g, fromXarray (.dataArray (exported f nm u)) = .ok g ∧
      (exported g nm' u').axes = (exported f nm u).axes ∧
      (exported g nm' u').attrs = { (exported f nm u).attrs with units := exportUnit u' none } ∧
      (LabelsStd f → (exported g nm' u').vdimsCoord = (exported f nm u).vdimsCoord) ∧
      (exported g nm' u').data.shape = (exported f nm u).data.shape ∧
      (∀ i, inRange (exported f nm u).data.shape i = true →
        (exported g nm' u').data.get i = (exported f nm u).data.get i) ∧
      (exported g nm' u').dtype = (exported f nm u).dtype ∧ (exported g nm' u').name = nm' := by
  obtain ⟨g, hg, h⟩ := fromXA_exported hf nm u
  have hr : g.mesh.region = f.mesh.region := by rw [h.mesh]
  have hn : g.mesh.n = f.mesh.n := by rw [h.mesh]
  have hd := exportData_agree h.nvdim h.data hf.shape hf.nvdim
  refine ⟨g, hg, exportAxes_congr hr hn h.nvdim, ?_, fun hl => ?_, hd.1, fun i hi => hd.2 i (hd.1 ▸ hi), h.dtype, rfl⟩
  · show exportAttrs g u' = _
    unfold exportAttrs exported exportAttrs
    simp only
    rw [h.unit, h.nvdim, hr]
    have : g.mesh.cell = f.mesh.cell := by
      unfold Mesh.cell Mesh.ndim Mesh.cellAt Mesh.nAt
      rw [hr, hn]
    rw [this]
  · show (if 1 < g.nvdim then g.vdims else none) = if 1 < f.nvdim then f.vdims else none
    rw [h.nvdim, h.labels hf hl]

/-- **The round trip succeeds exactly when no spatial dimension is called `vdims`**: for a field
that meets every other clause of well-formedness (mesh invariant, `nvdim ≥ 1`, array shape, legal
labels), `from_xarray(to_xarray(f))` returns a field iff `vdims` is not among the region's
dimension names — the importer takes every dimension of that name for the component axis and
`Region` then finds fewer names than corner entries.  So `WF`'s clause `novd` is sharp. -/
theorem roundtrip_iff_no_vdims_dim (f : XFld α) (hm : f.mesh.Inv) (hk : 1 ≤ f.nvdim)
    (hs : f.data.shape = f.mesh.n ++ [f.nvdim])
    (hl : ∀ l, f.vdims = some l → l.length = f.nvdim ∧ hasDup l = false ∧ l.any FieldAttrs.has = false)
    (nm : String) (u : PyArg) :
    (∃ g, fromXarray (.dataArray (exported f nm u)) = .ok g) ↔ ¬ "vdims" ∈ f.mesh.region.dims := by
  constructor
  · rintro ⟨g, hg⟩ hv
    obtain ⟨k, m, -, h2, -⟩ := (fromXA_eq_ok_iff _ g).mp hg
    exact vdims_dim_not_importable f hm hv nm u m h2
  · intro hv
    have hf : f.WF := { mesh := hm, nvdim := hk, shape := hs, novd := hv, labels := hl }
    obtain ⟨g, hg, -⟩ := fromXA_exported hf nm u
    exact ⟨g, hg⟩

omit [FieldAttrs] in
/-- **Exactly which in-place calls are accepted** on a mesh without subregions (the hypothesis
`h` of `export_translate_commutes` / `export_scale_commutes`, from the inputs): a translation iff the
vector has one entry per axis; a scaling iff the factor is a number or one per axis, the reference
point (default: the centre) has one entry per axis, and no factor is zero. -/
theorem inplace_accepted_iff (m : Mesh) (hm : m.Inv) (hsub : m.subs = []) :
    (∀ v : List Rat, (∃ m' ret, T.stepM m (.translate v true) = .ok (m', ret)) ↔ v.length = m.ndim) ∧
    (∀ (s : T.Factor) (ref : Option (List Rat)), (∃ m' ret, T.stepM m (.scale s ref true) = .ok (m', ret)) ↔
      (s.okFor m.ndim = true ∧ (refOf m.region ref).length = m.ndim ∧ ∀ a, a < m.ndim → s.at a ≠ 0)) :=
  ⟨fun v => ⟨fun ⟨m', ret, h⟩ => (stepM_translate_inv m hm v m' ret h).1,
      fun hv => (translate_accepted m hm hsub v hv).imp fun m' h => ⟨m', h⟩⟩,
   fun s ref => ⟨fun ⟨m', ret, h⟩ => (stepM_scale_inv m hm s ref m' ret h).1,
      fun ⟨h1, h2, h3⟩ => (scale_accepted m hm hsub s ref h1 h2 h3).imp fun m' h => ⟨m', h⟩⟩⟩

end

/-! ## Non-vacuity and witnesses -/

section
attribute [local instance] exAttrs

example : exF.WF := exF_wf
example : exS.WF := exS_wf
example : LabelsStd exF ∧ LabelsStd exS := by unfold LabelsStd; decide
/-- the exported coordinates of the 3-d example: x has 3 centres, the single-cell axis y one -/
example : ((exported exF "field" .none).axes.map Axis.values) = [[-1/2, 1/2, 3/2], [1/4], [5/8, 7/8], [0, 1]] := by
  decide +kernel
example : (exported exF "field" .none).dims = ["x", "y", "z", "vdims"] := by decide +kernel
/-- round trip of the 3-d example: same mesh apart from bc -/
example : (fromXarray (.dataArray (exported exF "field" .none))).toOption.map (fun g => (g.mesh, g.vdims, g.data.toList))
    = some ({ exF.mesh with bc := "" }, some ["a", "b"], exF.data.toList) := by decide +kernel
/-- `exS` meets the hypothesis of `xa_rebuild` with everything removed … -/
example : ∀ a, a < exS.mesh.ndim → 2 ≤ exS.mesh.nAt a := by decide
example : (fromXarray (.dataArray (eraseGeom true true true (exported exS "s" .none)))).toOption.map (fun g => g.mesh)
    = some exS.mesh := by decide +kernel
/-- `exF` has a single-cell axis: rejected without `cell`, rebuilt with it -/
example : (fromXarray (.dataArray (eraseGeom true false false (exported exF "f" .none)))).toOption.map (fun g => g.mesh)
    = none := by decide +kernel
example : (fromXarray (.dataArray (eraseGeom false true true (exported exF "f" .none)))).toOption.map (fun g => g.mesh)
    = some { exF.mesh with bc := "" } := by decide +kernel
/-- `import_hand_built` applies to `exHand` (default index 0,1,2 on x; t = 10, 10.5; two
components): mesh from (-½, 9¾) to (2½, 10¾), 3×2 cells -/
example : ∃ g, fromXarray (.dataArray exHand) = .ok g ∧ g.mesh.region.pmin = [-1/2, 39/4] ∧
    g.mesh.region.pmax = [5/2, 43/4] ∧ g.mesh.n = [3, 2] ∧ g.vdims = some ["x", "y"] := by
  obtain ⟨g, hg, h1, h2, h3, -, -, -, -, -, h4⟩ :=
    import_hand_built exHand 2 (fun a => (geo exHand).getD a default) (by decide +kernel) (by decide)
      (fun a => [0, 10].getD a 0) (fun a => [1, 1/2].getD a 0) (fun a => [3, 2].getD a 0)
      (by decide +kernel) (by decide +kernel) (by decide) (by decide +kernel) rfl rfl rfl 2 (by decide) rfl
      (fun _ => by decide) (by decide) (fun l h => by cases h)
  refine ⟨g, hg, ?_, ?_, ?_, ?_⟩
  · rw [h1]; decide +kernel
  · rw [h2]; decide +kernel
  · rw [h3]; decide
  · rw [h4]; decide

/-- coordinates 0, 1 nm, 5 nm are rejected exactly like the
same coordinates in metres, of which they are a rescaling -/
example : (fromXarray (.dataArray exNm)).toOption.map (fun g => g.mesh.n) = none := by decide +kernel
example : (fromXarray (.dataArray exM)).toOption.map (fun g => g.mesh.n) = none := by decide +kernel
example : (scaleCoords (1/1000000000) exM).axes = exNm.axes := by decide +kernel
/-- hypotheses of `rejects_uneven` on the nanometre witness (spacings 1 nm and 4 nm, mean 2.5 nm) -/
example : (1 : Rat)/100000 * absR (meanDiff [0, 1/1000000000, 5/1000000000])
    < absR ((1/1000000000 - 0) - meanDiff [0, 1/1000000000, 5/1000000000]) := by
  decide +kernel
/-- an unlabelled vector field and a labelled scalar field are not `LabelsStd` -/
example : ¬ LabelsStd { exF with vdims := none } := by unfold LabelsStd; decide
example : ¬ LabelsStd { exS with vdims := some ["s"] } := by unfold LabelsStd; decide

/-! ### non-vacuity of the theorems on spacing, subsets, histories, the importer's range -/

/-- `import_hand_built_any_subset` on `exOne`: single-cell axis x = [3] with `cell = (2, ½)`,
`pmax` present, `pmin` absent: mesh from (2, 9¾) to (4, 10¾), 1×2 cells -/
example : ∃ g, fromXarray (.dataArray exOne) = .ok g ∧ g.mesh.region.pmin = [2, 39/4] ∧
    g.mesh.region.pmax = [4, 43/4] ∧ g.mesh.n = [1, 2] := by
  obtain ⟨g, hg, h1, h2, h3, -⟩ :=
    import_hand_built_any_subset exOne 2 (fun a => (geo exOne).getD a default) (by decide +kernel) (by decide)
      (fun a => [3, 10].getD a 0) (fun a => [2, 1/2].getD a 0) (fun a => [1, 2].getD a 0)
      (by decide +kernel) (by decide +kernel) (by decide) (by decide +kernel)
      (Or.inr (by decide +kernel)) (Or.inl rfl) (Or.inr (by decide +kernel)) (fun h => by cases h)
      1 (by decide) rfl (fun h => by omega) (by decide) (fun l h => by cases h)
  refine ⟨g, hg, ?_, ?_, ?_⟩
  · rw [h1]; decide +kernel
  · rw [h2]; decide +kernel
  · rw [h3]; decide

/-- a far-away copy of the uneven witness: offset 10^12 -/
example : (1 : Rat)/100000 * absR (meanDiff [0, 1, 5]) < absR (([0, 1, 5].getD (0 + 1) 0 - [0, 1, 5].getD 0 0) - meanDiff [0, 1, 5]) := by
  decide +kernel
example : ([0, 1, 5] : List Rat).map (· + 1000000000000) = [1000000000000, 1000000000001, 1000000000005] := by decide +kernel

/-- displaced interior coordinate: threshold exactly at 1e-5 of the step -/
example : evenB (tab 5 fun j => (7 : Rat) + (j : Rat) * (1/4) + (if j = 2 then 1/400000 else 0)) = true := by decide +kernel
example : evenB (tab 5 fun j => (7 : Rat) + (j : Rat) * (1/4) + (if j = 2 then 1/399999 else 0)) = false := by decide +kernel

example : (exportAfter exS exOps).toOption.map (fun xa => (xa.axes.map Axis.values, xa.attrs.pmin, xa.attrs.pmax, xa.attrs.cell))
    = some ([[-3/4, 1/4, 5/4], [99/8, 101/8]], some [-5/4, 49/4], some [7/4, 51/4], some [1, 1/4]) := by decide +kernel

example : ∃ m', T.stepM exS.mesh (.translate [1, 2] true) = .ok (m', m') := (inplace_accepted exS exS_wf rfl).1 _ rfl
example : ∃ m', T.stepM exS.mesh (.scale (.vec [-2, 1/2]) none true) = .ok (m', m') :=
  (inplace_accepted exS exS_wf rfl).2 _ _ rfl rfl (by decide +kernel)

/-- the constructor's final test is reachable: a cell larger than the region, 1e16 from the origin
(`Mesh.mkCell?` makes the `n >= 1` test itself, `mkCellNow_eq`) -/
example : (Mesh.mkCell? { pmin := [10000000000000000], pmax := [10000000000000002], dims := ["x"], units := ["m"], tol := defaultTol } [10000]).toOption.map (·.n) = none := by decide +kernel
example : (mkCellNow? { pmin := [10000000000000000], pmax := [10000000000000002], dims := ["x"], units := ["m"], tol := defaultTol } [10000]).toOption.map (·.n) = none := by decide +kernel

example : Region.mk? [0, 3] [1, 1] (some ["x", "t"]) none (1/10) = .ok { pmin := [0, 1], pmax := [1, 3], dims := ["x", "t"], units := ["m", "m"], tol := 1/10 } := by decide +kernel
example : Mesh.mkN? { pmin := [0, 1], pmax := [1, 3], dims := ["x", "t"], units := ["m", "m"], tol := 1/10 } [2, 3] "" = .ok { region := { pmin := [0, 1], pmax := [1, 3], dims := ["x", "t"], units := ["m", "m"], tol := 1/10 }, n := [2, 3], bc := "", subs := [] } := by decide +kernel

/-- the importer accepts `exHand` (hypothesis of `import_wf` / `import_export_import`) -/
example : (fromXarray (.dataArray exHand)).toOption.isSome = true := by decide +kernel

/-- the hypothesis `hdef` of `import_wf` / `import_export_import` / `wf_of_constructors` holds
for the sample attribute set, whose attribute names do occur as labels in `exReserved` -/
example : ∀ k l, Fld.defaultVdims k = some l → l.any FieldAttrs.has = false := exAttrs_defaults
example : FieldAttrs.has "mesh" = true ∧ (fromXarray (.dataArray exReserved)).toOption.isSome = false := by decide +kernel
example : ∃ g, fromXarray (.dataArray exHand) = .ok g ∧ g.WF := by
  have hs : (fromXarray (.dataArray exHand)).toOption.isSome = true := by decide +kernel
  cases h : fromXarray (.dataArray exHand) with
  | error e => rw [h] at hs; cases hs
  | ok g => exact ⟨g, rfl, (import_wf exHand g h (fun _ => exAttrs_defaults)).1⟩

/-- descending coordinates: rejected without `cell` (`exDesc` minus its attributes), accepted
unreordered with complete attributes — the result is the one for the ascending coordinates -/
example : (fromXarray (.dataArray (eraseGeom true true true exDesc))).toOption.isSome = false := by decide +kernel
example : checkSpacing exDesc = .ok () ∧ checkSpacing (setCoordVals (fun _ => [1, 2, 3]) exDesc) = .ok () := by decide +kernel
example : (fromXarray (.dataArray exDesc)).toOption.map (fun g => (g.mesh.region.pmin, g.mesh.n, g.data.toList))
    = some ([1/2], [3], [0, 10, 20]) := by decide +kernel

/-- displaced last coordinate, `n = 3`, step 1: `e = 2/99999` is exactly on the threshold
(`|e|/2 = 1e-5·(1 + e/2)`), a slightly larger displacement is rejected -/
example : evenB (tab 3 fun j => (100 : Rat) + (j : Rat) * 1 + (if j = 3 - 1 then 2/99999 else 0)) = true := by decide +kernel
example : evenB (tab 3 fun j => (100 : Rat) + (j : Rat) * 1 + (if j = 3 - 1 then 2/99998 else 0)) = false := by decide +kernel

/-! ### 4-d arrays with single-cell axes, contradicting attributes, refusal classes, long coordinates -/

/-- `import_ok_iff` / `import_geometry_ok_iff` / `import_result_formula` on `ex4` (4-d, single-cell
axes `y` and `w`, three labelled components, only `cell` present): corners = outermost coordinate ∓
half the cell ATTRIBUTE, units from the coordinates, tolerance factor from the attribute, every
value at its place -/
example : (fromXarray (.dataArray ex4)).toOption.map (fun g => (g.mesh.region.pmin, g.mesh.region.pmax, g.mesh.n))
    = some ([0, 3, -5/4, 2], [4, 7, 1/4, 12], [2, 1, 3, 1]) := by decide +kernel
example : (fromXarray (.dataArray ex4)).toOption.map (fun g => (g.mesh.region.units, g.mesh.region.tol, g.vdims, g.data.toList))
    = some (["nm", "nm", "", "s"], 1/1000, some ["a", "b", "c"], List.range 18) := by decide +kernel
example : (cellUsed ex4, p1Used ex4, p2Used ex4) = ([2, 4, 1/2, 10], [0, 3, -5/4, 2], [4, 7, 1/4, 12]) := by decide +kernel
example : (geometryOf ex4).toOption.map (·.n) = some [2, 1, 3, 1] := by decide +kernel
/-- the same array without `cell`: `KeyError` (a 1 among `shape[:-1]`), by `cell_inference_iff` -/
example : ex4NoCell.attrs.cell = none ∧ 1 ∈ ex4NoCell.data.shape.dropLast := by decide
example : (cellOf ex4NoCell).toOption = none ∧ (fromXarray (.dataArray ex4NoCell)).toOption.isSome = false := by decide +kernel
/-- the two refusal classes of the cell inference: single FIRST axis → `KeyError`; single LAST axis
of a scalar field (not in `shape[:-1]`) → `ValueError` -/
example : cellOf exFirstSingle = .error .key ∧ cellOf exLastSingle = .error .value := by
  constructor
  · exact (cell_inference_iff exFirstSingle []).2.1.mpr (by decide)
  · refine (cell_inference_iff exLastSingle []).2.2.mpr ⟨rfl, by decide, ?_⟩
    exact ⟨_, List.mem_cons_of_mem _ (List.mem_singleton.mpr rfl), by decide⟩
/-- attributes that contradict the coordinates win: coordinates 0, 1, 2 but `cell = 2`, `pmin = 10`,
`pmax = 16` → 3 cells of size 2 from 10 to 16, the data unmoved -/
example : (fromXarray (.dataArray exContra)).toOption.map (fun g => (g.mesh.region.pmin, g.mesh.region.pmax, g.mesh.n, g.data.toList))
    = some ([10], [16], [3], [7, 8, 9]) := by decide +kernel
/-- Attributes must agree with the data shape: `cell = 1` gives a mesh of 6 cells (the geometry steps
succeed), into which the 3 values do not broadcast (`DataFits` fails) -/
example : (geometryOf exContraShape).toOption.map (·.n) = some [6] ∧
    (fromXarray (.dataArray exContraShape)).toOption.isSome = false := by decide +kernel

/-- component-count refusal classes -/
example : (checkNvdim none ["x"]).toOption = none ∧ (checkNvdim (some (.int 3)) ["x", "vdims"]).toOption = some 3 := by decide
example : checkNvdim (some (.other (3/2))) ["x"] = .error .type :=
  (component_count_refusal_iff _ _).2.1.mpr ⟨3/2, rfl, by decide +kernel⟩
example : checkNvdim (some (.int 2)) ["x", "y"] = .error .value :=
  (component_count_refusal_iff _ _).2.2.mpr (Or.inr ⟨2, rfl, Or.inr ⟨by decide, by decide⟩⟩)

/-- the linear-time forms on a coordinate of 1000 values: evenly spaced, mean step ¼ -/
example : evenFast exLong = true ∧ meanDiffL exLong = 1/4 := by
  have h : exLong = ap 7 (1/4) 1000 := tab_congr _ _ _ fun j _ => by ring
  rw [evenFast_eq, meanDiffL_eq, h]
  exact ⟨evenB_ap _ _ _, meanDiff_ap _ _ _ (by decide)⟩
example : (fromXarrayFast (.dataArray ex4)).toOption.map (·.mesh) = (fromXarray (.dataArray ex4)).toOption.map (·.mesh) := by
  rw [(fast_import_eq (.dataArray ex4) []).1]

/-- spacing test: reversal and a negative factor keep the verdict (accepted and rejected) -/
example : evenB [3, 2, 1] = true ∧ evenB [5, 1, 0] = false ∧ evenB ([0, 1, 5].map ((-2 : Rat) * ·)) = false ∧
    evenB ([1, 2, 3].map ((-2 : Rat) * ·)) = true ∧ evenB [4, 4] = true ∧ evenB [9, -9] = true := by decide +kernel
/-- hypothesis of `spacing_accepted_monotone` on a slightly uneven accepted coordinate (steps 1 and
1 + 1/200000, mean 1 + 1/400000): strictly increasing -/
example : evenB [0, 1, 2 + 1/200000] = true ∧ 0 < meanDiff [0, 1, 2 + 1/200000] := by decide +kernel

/-- export ∘ import ∘ export on the 3-d example: the second export (other name, unit given again)
has the axes, label coordinate and data of the first -/
example : (fromXarray (.dataArray (exported exF "field" .none))).toOption.map
      (fun g => (decide ((exported g "again" (.str "T")).axes = (exported exF "field" .none).axes),
                 (exported g "again" (.str "T")).vdimsCoord, (exported g "again" (.str "T")).data.toList))
    = some (true, some ["a", "b"], (exported exF "field" .none).data.toList) := by
  decide +kernel
example : (fromXarray (.dataArray (exported exF "field" .none))).toOption.map
      (fun g => ((exported g "again" (.str "T")).attrs.units, (exported g "again" (.str "T")).attrs.cell))
    = some (some "T", some [1, 1/2, 1/4]) := by
  decide +kernel
/-- the exported coordinates of `exF` feed the inference: first − cell/2 = pmin, mean step = cell on `x` -/
example : ((exported exF "f" .none).axes.getD 0 default).values.getD 0 0 - exF.mesh.cellAt 0 / 2 = exF.mesh.region.lo 0 ∧
    meanDiff ((exported exF "f" .none).axes.getD 0 default).values = exF.mesh.cellAt 0 := by decide +kernel

/-- in-place calls `inplace_accepted_iff` refuses on `exS` (2-d, no subregions): wrong length, factor 0 -/
example : (T.stepM exS.mesh (.translate [1] true)).toOption.isSome = false ∧
    (T.stepM exS.mesh (.scale (.scalar 0) none true)).toOption.isSome = false ∧
    (T.stepM exS.mesh (.scale (.vec [2, -1/2]) (some [0, 0]) true)).toOption.isSome = true := by decide +kernel

/-- `roundtrip_iff_no_vdims_dim`: `exS` with its second dimension renamed `vdims` is exported but not imported -/
example : (fromXarray (.dataArray (exported { exS with mesh := { exS.mesh with region := { exS.mesh.region with dims := ["u", "vdims"] } } } "s" .none))).toOption.isSome = false := by
  decide +kernel

/-- `import_values_formula` with real broadcasting: ONE data value on a coordinate of one point, attributes that say
"3 cells from 10 to 16": accepted, the value fills the three cells -/
example : (fromXarray (.dataArray { exContra with axes := [{ name := "x", size := 1, coord := some { vals := [0], units := none } }],
                                                    data := ⟨[1], fun _ => 42⟩ })).toOption.map (fun g => (g.mesh.n, g.data.toList))
    = some ([3], [42, 42, 42]) := by decide +kernel

/-- `attribute_free_import_iff` on coordinates that are evenly spaced only WITHIN the tolerance
(steps 1 and 1 + 1/200000): accepted, three cells, corners half a MEAN step (1 + 1/400000) beyond -/
example : (geometryOf ({ exM with axes := [{ name := "x", size := 3, coord := some { vals := [0, 1, 2 + 1/200000], units := none } }] } : XA Nat)).toOption.map
      (fun m => (m.n, m.region.pmin, m.region.pmax))
    = some ([3], [-(1 + 1/400000)/2], [2 + 1/200000 + (1 + 1/400000)/2]) := by decide +kernel
/-- `exHand` (no attributes, default index on `x`) is the mesh `bareMesh` describes -/
example : (geometryOf exHand).toOption = some (bareMesh exHand) := by decide +kernel

end

end DFV.C17
