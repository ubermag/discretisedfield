import DFV.Model.Basic
import DFV.Model.Field
import DFV.Lemmas.NDA
import DFV.Json
import DFV.JsonField
import DFV.DrvLoop
import DFV.Drv.C01
import DFV.Props.C01
import DFV.Drv.C02
import DFV.Props.C02
import DFV.Drv.C03
import DFV.Props.C03
import DFV.Drv.C04
import DFV.Props.C04
import DFV.Drv.C05
import DFV.Props.C05
import DFV.Drv.C06
import DFV.Props.C06
import DFV.Drv.C07
import DFV.Props.C07
import DFV.Drv.C08
import DFV.Props.C08
import DFV.Drv.C09
import DFV.Props.C09
import DFV.Drv.C10
import DFV.Props.C10
import DFV.Drv.C11
import DFV.Props.C11
import DFV.Drv.C12
import DFV.Props.C12
import DFV.Drv.C13
import DFV.Props.C13
import DFV.Drv.C14
import DFV.Props.C14
import DFV.Drv.C15
import DFV.Props.C15
import DFV.Drv.C16
import DFV.Props.C16
import DFV.Drv.C17
import DFV.Props.C17
import DFV.Drv.C18
import DFV.Props.C18
import DFV.Drv.C19
import DFV.Props.C19
import DFV.Drv.C20
import DFV.Props.C20
